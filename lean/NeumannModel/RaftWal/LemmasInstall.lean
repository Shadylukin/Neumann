import NeumannModel.RaftWal.LemmasFail
/-
  C10, a crash INSIDE a snapshot install, judged by the order the install carries out and not by the
  records it happens to write.

  `microG` (Model.lean) ends the obligation about an acknowledged entry at the WAL record that starts to
  drop it, so the theorems built on it are blind to a handler that writes such a record without being
  ordered to: an install that begins with `LogTruncate{1}` "releases" every acknowledged entry by its
  own first record.  Here the licence comes from the snapshot alone: an acknowledged entry that the
  snapshot REPEATS (`a ∈ mkEntries 0 ents`) must be recoverable from every prefix of the install's
  records.  `Keeps a r`: replaying record `r` cannot remove `a` from the recovered map.
-/
namespace Neumann.RaftWal

/-- replaying `r` leaves `(a.index, encEntry a)` in the recovered map -/
def Keeps (a : LogEntry) : WalEntry → Prop
  | .logTruncate f => a.index < f
  | .logEntryFull i _ d => i ≠ a.index ∨ d = encEntry a
  | _ => True

theorem mem_mapInsert_self (k : Nat) (v : List Nat) (m : List (Nat × List Nat)) : (k, v) ∈ mapInsert k v m := by
  induction m with
  | nil => simp [mapInsert]
  | cons x r ih =>
    obtain ⟨k', v'⟩ := x
    simp only [mapInsert]
    split
    · simp
    · split
      · simp
      · exact List.mem_cons_of_mem _ ih

theorem mem_mapInsert_other {k i : Nat} {v d : List Nat} {m : List (Nat × List Nat)} (h : (k, v) ∈ m)
    (hne : i ≠ k) : (k, v) ∈ mapInsert i d m := by
  induction m with
  | nil => simp at h
  | cons x r ih =>
    obtain ⟨k', v'⟩ := x
    simp only [mapInsert]
    split
    · exact List.mem_cons_of_mem _ h
    · split
      · next heq =>
        rcases List.mem_cons.mp h with hx | hr
        · simp only [Prod.mk.injEq] at hx; omega
        · exact List.mem_cons_of_mem _ hr
      · rcases List.mem_cons.mp h with hx | hr
        · rw [hx]; exact List.mem_cons_self
        · exact List.mem_cons_of_mem _ (ih hr)

theorem keeps_applyEntry {a : LogEntry} {s : RState} {r : WalEntry} (h : entKV a ∈ s.logMap) (hk : Keeps a r) :
    entKV a ∈ (applyEntry s r).logMap := by
  rw [applyEntry_logMap]
  cases r with
  | logTruncate f => exact List.mem_filter.mpr ⟨h, decide_eq_true hk⟩
  | logEntryFull i t d =>
    rcases hk with hne | heq
    · exact mem_mapInsert_other h hne
    · by_cases hi : i = a.index
      · subst hi; rw [heq]; exact mem_mapInsert_self _ _ _
      · exact mem_mapInsert_other h hi
  | _ => exact h

theorem keeps_applyAll {a : LogEntry} {s : RState} {rs : List WalEntry} (h : entKV a ∈ s.logMap)
    (hk : ∀ r ∈ rs, Keeps a r) : entKV a ∈ (applyAll s rs).logMap := by
  induction rs generalizing s with
  | nil => exact h
  | cons r rs ih =>
    simp only [applyAll, List.foldl_cons]
    exact ih (keeps_applyEntry h (hk r List.mem_cons_self)) (fun r' hr' => hk r' (List.mem_cons_of_mem _ hr'))

/-- an entry of the recovered map is an entry of the restarted node's log (no `Shape` needed) -/
theorem mem_restart_log {a : LogEntry} {s : RState} (id : Nat) (h : entKV a ∈ s.logMap) : a ∈ (restart id s).log := by
  simp only [restart, recoveredLog, List.mem_filterMap, List.mem_map]
  exact ⟨encEntry a, ⟨entKV a, h, rfl⟩, decEntry_encEntry a⟩

theorem mem_recs {r : WalEntry} {ms : List Micro} : r ∈ recs ms ↔ Micro.wal r ∈ ms := by
  simp only [recs, List.mem_filterMap]
  constructor
  · rintro ⟨μ, hμ, hr⟩
    cases μ <;> simp at hr
    subst hr; exact hμ
  · intro h; exact ⟨_, h, rfl⟩

theorem wf_index_inj {b : Nat} {l : List LogEntry} (h : WFfrom b l) {e a : LogEntry} (he : e ∈ l) (ha : a ∈ l)
    (hi : e.index = a.index) : e = a := by
  induction l generalizing b with
  | nil => simp at he
  | cons x r ih =>
    simp only [WFfrom] at h
    rcases List.mem_cons.mp he with rfl | her <;> rcases List.mem_cons.mp ha with rfl | har
    · rfl
    · have := wf_index h.2 har; omega
    · have := wf_index h.2 her; omega
    · exact ih h.2 her har

/-- **Every record `install_snapshot` writes keeps every entry the snapshot repeats** — the code as it
    is: `TermAndVote` (log untouched), `LogEntryFull` per snapshot entry (the one of `a`'s index carries
    `a` itself), `LogTruncate{last+1}` (beyond `a`). -/
theorem install_records_keep (n : Node) (li lt : Nat) (ents : List (Nat × Nat)) {a : LogEntry}
    (ha : a ∈ mkEntries 0 ents) : ∀ r ∈ recs (step n (.installSnapshot li lt ents)).micros, Keeps a r := by
  intro r hr
  rw [mem_recs] at hr
  have hwf := mkEntries_wf 0 ents
  dsimp only [step] at hr
  split at hr
  · simp at hr
  · next last hlast =>
    split at hr
    · simp at hr
    · split at hr
      · simp at hr
      · simp only [List.mem_append, List.mem_map, List.mem_cons, List.not_mem_nil, or_false] at hr
        rcases hr with (hpre | ⟨w, ⟨e, he, rfl⟩, hw⟩) | hlt | hx | hx
        · simp only [preHigher] at hpre
          split at hpre
          · simp only [List.mem_cons, List.not_mem_nil, or_false, Micro.wal.injEq] at hpre
            subst hpre; trivial
          · simp at hpre
        · simp only [Micro.wal.injEq] at hw
          subst hw
          by_cases hi : e.index = a.index
          · right; rw [wf_index_inj hwf he ha hi]
          · left; exact hi
        · simp only [Micro.wal.injEq] at hlt
          subst hlt
          have h1 := wf_getLast hwf hlast
          have h2 := wf_index hwf ha
          simp only [Keeps]; omega
        · simp at hx
        · simp at hx

/-- record level: whatever prefix of the install's records survives, the recovered map still holds every
    acknowledged entry the snapshot repeats -/
theorem install_prefix_keeps (σ : Sys) (hinv : Inv σ) (li lt : Nat) (ents : List (Nat × Nat)) (j : Nat)
    {a : LogEntry} (hack : a ∈ σ.ghost.acked) (ha : a ∈ mkEntries 0 ents) :
    entKV a ∈ (fromEntries (σ.dur ++ (recs (step σ.node (.installSnapshot li lt ents)).micros).take j)).logMap := by
  rw [fromEntries_append]
  refine keeps_applyAll (hinv.2.2.2.2 a hack) (fun r hr => ?_)
  exact install_records_keep σ.node li lt ents ha r (List.mem_of_mem_take hr)

end Neumann.RaftWal
