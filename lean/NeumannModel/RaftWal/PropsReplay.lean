import NeumannModel.RaftWal.LemmasReplay
import NeumannModel.RaftWal.Props
/-
  C10 — the write side, `open` and the read side of the Raft WAL accept the same records.

  `RaftWal::append` has no per-record size limit (only `max_size_bytes` of the whole file, which the
  node's WAL sets to `u64::MAX`), `complete_frames_len` (`open`) keeps every complete frame whatever
  its length, and `replay_with_validation` reads every complete frame whatever its length: every
  record whose append was acknowledged is replayed, whatever its size (a `LogEntryFull` whose block
  carries megabytes of transaction data arrives through AppendEntries, `propose` and snapshot
  installs alike), and so is every record written after it.  The theorems of `Props.lean` already
  hold for EVERY `ser`, i.e. for every assignment of payload lengths; here the agreement is stated on
  its own — at the level of frames, of one append, and of a restart — together with the contrast: a
  replay that refuses frames longer than some cap (`recoverBytesCapped`, NOT the code) agrees with
  `recoverBytes` exactly as long as every record is short — which is why ordinary logs of empty
  blocks never show the difference — and from the first longer record on hides every later record:
  acknowledged entries, term records and votes alike, so that the restarted node comes back in an
  older term and grants a second candidate the vote of a term in which it had already voted
  (`capped_replay_forgets_entry_term_and_vote_witness`).
-/
namespace Neumann.RaftWal.PropsReplay
open Neumann.RaftWal Neumann.FramedLog Neumann.RaftWal.Props

variable (crc : List Nat → Nat) (ser : WalEntry → List Nat) (deser : List Nat → Option WalEntry)

/-! ### frames -/

/-- **`open` and replay accept the frame `append` writes for a payload of ANY length.**  The only
    conditions on the payload are the ones the writer guarantees: its length fits the 4-byte length
    field, the checksum is a `u32`, bitcode decodes it.  `complete_frames_len` steps over the frame
    and replay returns its payload; whatever follows the frame is then read exactly as if the frame
    were not there: a long record never ends the replay and never shortens what `open` keeps. -/
theorem open_and_replay_accept_frames_of_any_length (p rest : List Nat)
    (hlen : p.length < U32) (hcrc : crc p < U32) (hdec : (deser p).isSome = true) :
    parse crc (fun q => (deser q).isSome) (encodeRec crc p ++ rest)
        = (p :: (parse crc (fun q => (deser q).isSome) rest).1, (parse crc (fun q => (deser q).isSome) rest).2)
    ∧ validPrefixLen (encodeRec crc p ++ rest) = (8 + p.length) + validPrefixLen rest := by
  refine ⟨parse_cons crc _ p rest ⟨hlen, hcrc, hdec⟩, ?_⟩
  rw [validPrefixLen_cons crc p rest hlen, encodeRec_length]

-- non-vacuity: the 2 MiB payload satisfies the hypotheses (with the constant checksum 0 and a
-- decoder that accepts payloads of exactly that length)
example : bigPayload.length < U32 ∧ (fun _ : List Nat => 0) bigPayload < U32
    ∧ ((fun q : List Nat => if q.length = 2097152 then some (WalEntry.logTruncate 0) else none) bigPayload).isSome = true := by
  refine ⟨by rw [bigPayload_length]; decide, by decide, ?_⟩
  show (if bigPayload.length = 2097152 then some (WalEntry.logTruncate 0) else none).isSome = true
  rw [if_pos bigPayload_length]; rfl

/-! ### one append -/

/-- **The write side refuses a record only because of the size of the FILE.**  `append` answers
    `SizeLimitExceeded` exactly when `auto_rotate` is off and the live file plus the record's frame
    would exceed `max_size_bytes`; there is no other, per-record, limit.  An accepted record's frame
    is in the live file afterwards (appended to it, or — rotation — alone in a fresh one). -/
theorem append_refuses_only_by_file_size (c : WalCfg) (w : WalFiles) (p : List Nat) :
    (walAppend crc c w p = none ↔ c.autoRotate = false ∧ c.maxSize < w.cur.length + (8 + p.length))
    ∧ (∀ w', walAppend crc c w p = some w' →
          w'.cur = w.cur ++ encodeRec crc p ∨ w'.cur = encodeRec crc p) := by
  unfold walAppend
  simp only [encodeRec_length]
  by_cases hfit : w.cur.length + (8 + p.length) > c.maxSize
  · cases hrot : c.autoRotate
    · simp [hfit]
    · simp [hfit]
  · simp only [hfit, if_false]
    refine ⟨by simp, fun w' h => ?_⟩
    left; simp only [Option.some.injEq] at h; rw [← h]

/-- **Every append the node's WAL acknowledged is kept by `open` and replayed, whatever the record's
    size.**  With the configuration of `RaftNode::with_wal` (no rotation, limit `u64::MAX`): if the
    live file holds the records `d` and stays below 2^64 bytes with the new record `r`, `append`
    accepts `r` — however long its payload —, reopening leaves the file as it is, and recovery returns
    all of `d ++ [r]`.  (Apply the statement again for the next append: the new file is again the
    encoding of its log; so a record written AFTER the longest one the file has ever seen is
    replayed as well.) -/
theorem node_append_is_recovered_whatever_its_size (old : List (List Nat)) (d : List WalEntry) (r : WalEntry)
    (h : CodecOK crc ser deser (d ++ [r]))
    (hfile : (fileOf crc ser (d ++ [r])).length ≤ nodeWalCfg.maxSize) :
    walAppend crc nodeWalCfg { cur := fileOf crc ser d, rotated := old } (ser r)
        = some { cur := fileOf crc ser (d ++ [r]), rotated := old }
    ∧ openRepair (fileOf crc ser (d ++ [r])) = fileOf crc ser (d ++ [r])
    ∧ recoverBytes crc deser (fileOf crc ser (d ++ [r])) = .ok (fromEntries (d ++ [r])) (d.length + 1) .clean := by
  refine ⟨?_, openRepair_fileOf crc ser deser _ h, ?_⟩
  · rw [fileOf_snoc] at hfile ⊢
    rw [walAppend_fits crc nodeWalCfg _ _ (by rw [List.length_append] at hfile; exact hfile)]
  · have := recover_fileOf crc ser deser _ h
    rw [List.length_append] at this
    exact this

/-! ### a restart -/

/-- "after any history — handlers, periods of failing WAL appends, crashes —, with any serializer of
    the records (any payload lengths), a restart from the complete WAL file as `open` leaves it and
    `recover` reads it satisfies the three obligations" — for a recovery function `recover` -/
def RestartKeepsObligations
    (recover : (List Nat → Nat) → (List Nat → Option WalEntry) → List Nat → Recovered) : Prop :=
  ∀ (crc : List Nat → Nat) (ser : WalEntry → List Nat) (deser : List Nat → Option WalEntry)
    (id : Nat) (acts : List ActF),
    CodecOK crc ser deser (execF true (initSys id) acts).dur →
    ∃ s n e, recover crc deser (openRepair (fileOf crc ser (execF true (initSys id) acts).dur)) = .ok s n e
      ∧ (execF true (initSys id) acts).ghost.actedTerm ≤ (restart id s).term
      ∧ (∀ v ∈ (execF true (initSys id) acts).ghost.votes,
            v.1 < (restart id s).term ∨ (v.1 = (restart id s).term ∧ (restart id s).votedFor = some v.2))
      ∧ (∀ a ∈ (execF true (initSys id) acts).ghost.acked, a ∈ (restart id s).log)

/-- **A restart sees every record, whatever the record sizes.**  In every state reachable by any
    history, with ANY serialization of the records: `open` leaves the complete file as it is,
    recovery reads ALL its records and ends cleanly, and the restarted node has exactly the term, vote
    and (whole) log of the running one.  Histories contain restarts (`crash e 0` is a restart between
    two handler calls), so this holds again after further protocol steps and further restarts — the
    records written after a restart land behind the long ones and are read all the same. -/
theorem restart_sees_every_record_whatever_the_record_sizes (id : Nat) (acts : List ActF)
    (h : CodecOK crc ser deser (execF true (initSys id) acts).dur) :
    openRepair (fileOf crc ser (execF true (initSys id) acts).dur) = fileOf crc ser (execF true (initSys id) acts).dur
    ∧ recoverBytes crc deser (openRepair (fileOf crc ser (execF true (initSys id) acts).dur))
        = .ok (fromEntries (execF true (initSys id) acts).dur) (execF true (initSys id) acts).dur.length .clean
    ∧ (restart id (fromEntries (execF true (initSys id) acts).dur)).term = (execF true (initSys id) acts).node.term
    ∧ (restart id (fromEntries (execF true (initSys id) acts).dur)).votedFor = (execF true (initSys id) acts).node.votedFor
    ∧ (restart id (fromEntries (execF true (initSys id) acts).dur)).log = (execF true (initSys id) acts).node.log := by
  have hobl := all_obligations_survive_wal_failures id acts
  refine ⟨openRepair_fileOf crc ser deser _ h, ?_, hobl.2.2.2.1.symm, hobl.2.2.2.2.1.symm, hobl.2.2.2.2.2.symm⟩
  rw [openRepair_fileOf crc ser deser _ h]
  exact recover_fileOf crc ser deser _ h

/-- **The three obligations survive a restart whatever the record sizes** (the code as it is). -/
theorem restart_keeps_obligations_whatever_the_record_sizes : RestartKeepsObligations recoverBytes := by
  intro crc ser deser id acts h
  have hobl := all_obligations_survive_wal_failures id acts
  exact ⟨_, _, _, (restart_sees_every_record_whatever_the_record_sizes crc ser deser id acts h).2.1,
    hobl.1, hobl.2.1, hobl.2.2.1⟩

/-! ### the contrast: a replay that caps the frame length -/

/-- **A read-side cap is invisible while every record is short.**  On a log whose payloads are all
    at most `cap` bytes the capped recovery returns what `recoverBytes` returns: the state of the whole
    log.  (The records of empty blocks have a few hundred bytes; no run over such logs can tell the
    two apart.) -/
theorem recoverCapped_agrees_while_records_are_short (cap : Nat) (d : List WalEntry)
    (h : CodecOK crc ser deser d) (hs : ∀ r ∈ d, (ser r).length ≤ cap) :
    recoverBytesCapped cap crc deser (fileOf crc ser d) = recoverBytes crc deser (fileOf crc ser d) := by
  have hall : d.all (fun r => decide ((ser r).length ≤ cap)) = true :=
    List.all_eq_true.mpr (fun r hr => decide_eq_true (hs r hr))
  have hp : shortPrefix ser cap d = d := takeWhile_all _ _ (fun r hr => decide_eq_true (hs r hr))
  rw [recoverCapped_fileOf crc ser deser cap d h, recover_fileOf crc ser deser d h, hp, hall]
  rfl

/-- **A read-side cap hides everything from the first longer record on.**  If the log is
    `A ++ w :: B` with the records of `A` at most `cap` bytes and `w` longer — a record `append`
    wrote and acknowledged like any other, and `open` keeps — then recovery returns the state of all
    of it and the capped recovery the state of `A` only: `w` and every record of `B`, whatever it
    says (a later entry, a higher term, a vote), is invisible to the restarted node.  Whatever the
    cap, such a log exists as soon as some record `append` can write is longer. -/
theorem recoverCapped_stops_at_first_long_record (cap : Nat) (A B : List WalEntry) (w : WalEntry)
    (h : CodecOK crc ser deser (A ++ w :: B)) (hA : ∀ r ∈ A, (ser r).length ≤ cap)
    (hw : cap < (ser w).length) :
    recoverBytes crc deser (openRepair (fileOf crc ser (A ++ w :: B)))
        = .ok (fromEntries (A ++ w :: B)) (A ++ w :: B).length .clean
    ∧ recoverBytesCapped cap crc deser (openRepair (fileOf crc ser (A ++ w :: B)))
        = .ok (fromEntries A) A.length .torn := by
  rw [openRepair_fileOf crc ser deser _ h]
  refine ⟨recover_fileOf crc ser deser _ h, ?_⟩
  have hnw : ¬ (ser w).length ≤ cap := by omega
  have hp : shortPrefix ser cap (A ++ w :: B) = A := by
    unfold shortPrefix
    rw [List.takeWhile_append_of_pos (fun r hr => decide_eq_true (hA r hr))]
    simp [hnw]
  have hall : (A ++ w :: B).all (fun r => decide ((ser r).length ≤ cap)) = false := by
    simp only [List.all_append, List.all_cons, decide_eq_false hnw, Bool.false_and, Bool.and_false]
  rw [recoverCapped_fileOf crc ser deser cap _ h, hp, hall]
  rfl

/-! ### the witness -/

/-- a toy serializer in which the size of a log entry's record depends on its command: commands from
    1000 on stand for blocks with a large payload (4 more bytes on the toy scale, as > 1 MiB on the
    real one) -/
def szSer : WalEntry → List Nat
  | .logEntryFull i t d =>
    7 :: i :: t :: d ++ List.replicate (match d with | [_, _, c] => if c ≥ 1000 then 4 else 0 | _ => 0) 0
  | r => toySer r
def szDeser : List Nat → Option WalEntry
  | 7 :: i :: t :: a :: b :: c :: _ => some (.logEntryFull i t [a, b, c])
  | p => toyDeser p

/-- the harness' directed case `large.append_entries`: a follower acknowledges entry 1, the LARGE
    entry 2 and entry 3 to the leader of term 1, then grants candidate 2 its vote of term 2 -/
def bigDemo : List ActF :=
  [.ev (.appendEntries 1 1 0 0 [(1, 11)]), .ev (.appendEntries 1 1 1 1 [(1, 2000)]),
   .ev (.appendEntries 1 1 2 1 [(1, 13)]), .ev (.requestVote 2 2 3 1)]

-- non-vacuity of the theorems above on that history: six records with payloads of 2, 6, 10, 6, 2
-- and 3 bytes, well-formed; all three entries acknowledged, the vote announced
example : (execF true (initSys 0) bigDemo).dur
      = [.termAndVote 1 none, .logEntryFull 1 1 [1, 1, 11], .logEntryFull 2 1 [2, 1, 2000],
         .logEntryFull 3 1 [3, 1, 13], .termAndVote 2 none, .termAndVote 2 (some 2)]
    ∧ (execF true (initSys 0) bigDemo).dur.map (fun r => (szSer r).length) = [2, 6, 10, 6, 2, 3]
    ∧ CodecOK wcrc szSer szDeser (execF true (initSys 0) bigDemo).dur
    ∧ (execF true (initSys 0) bigDemo).ghost.actedTerm = 2
    ∧ (execF true (initSys 0) bigDemo).ghost.votes = [(2, 2)]
    ∧ (⟨2, 1, 2000⟩ : LogEntry) ∈ (execF true (initSys 0) bigDemo).ghost.acked
    ∧ (⟨3, 1, 13⟩ : LogEntry) ∈ (execF true (initSys 0) bigDemo).ghost.acked := by decide +kernel

/-- **With a read-side cap the restarted node forgets an acknowledged entry, a term and a vote.**
    The statement `RestartKeepsObligations` is false of the capped recovery (cap 8 on the toy codec,
    as 1 MiB on the real one): after `bigDemo` the file holds six records, the third — the large
    entry — longer than the cap; `open` keeps all of them; the capped replay returns the first two. -/
theorem capped_replay_forgets_entry_term_and_vote_witness :
    ¬ RestartKeepsObligations (recoverBytesCapped 8) := by
  intro hall
  have hc : CodecOK wcrc szSer szDeser (execF true (initSys 0) bigDemo).dur := by decide +kernel
  obtain ⟨s, n, e, hrec, hterm, _, _⟩ := hall wcrc szSer szDeser 0 bigDemo hc
  rw [openRepair_fileOf wcrc szSer szDeser _ hc, recoverCapped_fileOf wcrc szSer szDeser 8 _ hc] at hrec
  rw [← (Recovered.ok.inj hrec).1] at hterm
  revert hterm
  decide +kernel

/-- the records of the second vote of term 2 (the step-down record is not written again: the node
    restarted by the capped variant is in term 1 and adopts term 2 first) -/
def secondVote : List WalEntry := [.termAndVote 2 none, .termAndVote 2 (some 3)]

/-- what exactly happens in that history.  The code: the restart has term 2, the vote for candidate 2
    and all three entries, and refuses candidate 3 in term 2.  The capped variant: the restart has term
    1, no vote and entry 1 only — the acknowledged entries 2 and 3 are gone — and GRANTS candidate 3
    the vote of term 2, which the node had already given to candidate 2; the record of that second
    vote lands behind the long frame as well, so the next restart has forgotten it too. -/
theorem capped_replay_double_vote_witness :
    -- the code
    recoverBytes wcrc szDeser (openRepair (fileOf wcrc szSer (execF true (initSys 0) bigDemo).dur))
        = .ok (fromEntries (execF true (initSys 0) bigDemo).dur) 6 .clean
    ∧ (restart 0 (fromEntries (execF true (initSys 0) bigDemo).dur)).term = 2
    ∧ (restart 0 (fromEntries (execF true (initSys 0) bigDemo).dur)).votedFor = some 2
    ∧ (restart 0 (fromEntries (execF true (initSys 0) bigDemo).dur)).log = [⟨1, 1, 11⟩, ⟨2, 1, 2000⟩, ⟨3, 1, 13⟩]
    ∧ (step (restart 0 (fromEntries (execF true (initSys 0) bigDemo).dur)) (.requestVote 2 3 9 9)).reply = .vote 2 false
    -- the capped variant
    ∧ recoverBytesCapped 8 wcrc szDeser (openRepair (fileOf wcrc szSer (execF true (initSys 0) bigDemo).dur))
        = .ok (fromEntries ((execF true (initSys 0) bigDemo).dur.take 2)) 2 .torn
    ∧ (restart 0 (fromEntries ((execF true (initSys 0) bigDemo).dur.take 2))).term = 1
    ∧ (restart 0 (fromEntries ((execF true (initSys 0) bigDemo).dur.take 2))).votedFor = none
    ∧ (restart 0 (fromEntries ((execF true (initSys 0) bigDemo).dur.take 2))).log = [⟨1, 1, 11⟩]
    ∧ (step (restart 0 (fromEntries ((execF true (initSys 0) bigDemo).dur.take 2))) (.requestVote 2 3 9 9)).reply
        = .vote 2 true
    -- … and the second restart of the capped variant, after that second vote was written
    ∧ recoverBytesCapped 8 wcrc szDeser (openRepair (fileOf wcrc szSer
          ((execF true (initSys 0) bigDemo).dur ++ secondVote)))
        = .ok (fromEntries ((execF true (initSys 0) bigDemo).dur.take 2)) 2 .torn := by
  have hc : CodecOK wcrc szSer szDeser (execF true (initSys 0) bigDemo).dur := by decide
  have hc2 : CodecOK wcrc szSer szDeser
      ((execF true (initSys 0) bigDemo).dur ++ secondVote) := by decide
  refine ⟨?_, by decide, by decide, by decide, by decide, ?_, by decide, by decide, by decide, by decide, ?_⟩
  · rw [openRepair_fileOf wcrc szSer szDeser _ hc]; exact recover_fileOf wcrc szSer szDeser _ hc
  · rw [openRepair_fileOf wcrc szSer szDeser _ hc, recoverCapped_fileOf wcrc szSer szDeser 8 _ hc]
    have h1 : shortPrefix szSer 8 (execF true (initSys 0) bigDemo).dur = (execF true (initSys 0) bigDemo).dur.take 2 := by
      decide
    have h2 : (execF true (initSys 0) bigDemo).dur.all (fun r => decide ((szSer r).length ≤ 8)) = false := by decide
    rw [h1, h2]; rfl
  · rw [openRepair_fileOf wcrc szSer szDeser _ hc2, recoverCapped_fileOf wcrc szSer szDeser 8 _ hc2]
    have h1 : shortPrefix szSer 8 ((execF true (initSys 0) bigDemo).dur ++ secondVote)
        = (execF true (initSys 0) bigDemo).dur.take 2 := by decide
    have h2 : ((execF true (initSys 0) bigDemo).dur ++ secondVote).all
        (fun r => decide ((szSer r).length ≤ 8)) = false := by decide
    rw [h1, h2]; rfl

-- the same hiding evaluated directly on the bytes of the file (the capped loop is structural), with
-- the cap just below and exactly at the long record's 10 bytes: the boundary is `len > cap`
example : (parseCapped 9 wcrc (fun p => (szDeser p).isSome) (fileOf wcrc szSer (execF true (initSys 0) bigDemo).dur)).1.length = 2
    ∧ (parseCapped 10 wcrc (fun p => (szDeser p).isSome) (fileOf wcrc szSer (execF true (initSys 0) bigDemo).dur)).1.length = 6 := by
  decide +kernel

end Neumann.RaftWal.PropsReplay
