import NeumannModel.RaftWal.Lemmas
/-
  C10, histories in which the WAL rejects appends for a while (`ActF`, `stepFail`, `stepFailOld`).
  The term/vote invariant `TVInv` does not need memory and WAL to agree on the LOG, which
  `append_leader_entries` before fix 54033160 (`stepFailOld`) did not keep once an append had failed; it
  holds for both versions of the code.  The full invariant `Inv` holds for the code as it is (`stepFail`).
-/
namespace Neumann.RaftWal

def TVSync (n : Node) (s : RState) : Prop := n.term = s.term ∧ n.votedFor = s.votedFor

def TVSat (s : RState) (g : Ghost) : Prop := g.actedTerm ≤ s.term ∧ ∀ v ∈ g.votes, VoteOk s v

/-- `TVSat` before the first micro step and after every one of them -/
def TVChain (s : RState) (g : Ghost) : List Micro → Prop
  | [] => TVSat s g
  | μ :: ms => TVSat s g ∧ TVChain (microS s μ) (microG g μ) ms

theorem tvchain_head {s g ms} (h : TVChain s g ms) : TVSat s g := by
  cases ms with
  | nil => exact h
  | cons μ ms => exact h.1

theorem tvchain_take {s g ms} (h : TVChain s g ms) (k : Nat) :
    TVSat (microAllS s (ms.take k)) (microAllG g (ms.take k)) := by
  induction ms generalizing s g k with
  | nil => simpa [microAllS, microAllG, TVChain] using h
  | cons μ ms ih =>
    cases k with
    | zero => simpa [microAllS, microAllG] using h.1
    | succ k =>
      simp only [List.take_succ_cons, microAllS, microAllG, List.foldl_cons]
      exact ih h.2 k

theorem tvchain_end {s g ms} (h : TVChain s g ms) : TVSat (microAllS s ms) (microAllG g ms) := by
  have := tvchain_take h ms.length
  simpa using this

def VotesFn (vs : List (Nat × Nat)) : Prop := ∀ v ∈ vs, ∀ w ∈ vs, v.1 = w.1 → v.2 = w.2

/-- every acknowledgement of a micro list is covered by what is durable when it is sent -/
def AcksOk (s : RState) : List Micro → Prop
  | [] => True
  | .ackTerm t :: ms => t ≤ s.term ∧ AcksOk s ms
  | .ackVote t c :: ms => (t = s.term ∧ s.votedFor = some c) ∧ AcksOk s ms
  | .ackLog _ :: ms => AcksOk s ms
  | .wal r :: ms => AcksOk (applyEntry s r) ms

theorem tvsat_micro {s : RState} {g : Ghost} (μ : Micro) {ms : List Micro} (hs : TVSat s g)
    (ha : AcksOk s (μ :: ms)) :
    TVSat (microS s μ) (microG g μ) ∧ AcksOk (microS s μ) ms
      ∧ (VotesFn g.votes → VotesFn (microG g μ).votes) := by
  cases μ with
  | wal r => exact ⟨sat_wal_tv r hs.1 hs.2, ha, by rw [(microG_wal_tv g r).2]; exact id⟩
  | ackTerm t => exact ⟨⟨Nat.max_le.mpr ⟨hs.1, ha.1⟩, hs.2⟩, ha.2, id⟩
  | ackLog es => exact ⟨hs, ha, id⟩
  | ackVote t c =>
    obtain ⟨⟨ht, hc⟩, ha'⟩ := ha
    -- an older vote of term `t` is still honoured by the durable state, so it names `c` too
    have old : ∀ x ∈ g.votes, x.1 = t → x.2 = c := by
      intro x hx hxt
      rcases hs.2 x hx with h | ⟨_, h⟩
      · omega
      · rw [hc] at h; exact (Option.some.inj h).symm
    refine ⟨⟨hs.1, fun v hv => ?_⟩, ha', fun hf v hv w hw hvw => ?_⟩
    · rcases List.mem_cons.mp hv with rfl | hv
      · exact Or.inr ⟨ht, hc⟩
      · exact hs.2 v hv
    · rcases List.mem_cons.mp hv with rfl | hv <;> rcases List.mem_cons.mp hw with rfl | hw
      · rfl
      · exact (old w hw hvw.symm).symm
      · exact old v hv hvw
      · exact hf v hv w hw hvw

theorem tvchain_of_acksOk {s : RState} {g : Ghost} {ms : List Micro} (hs : TVSat s g) (ha : AcksOk s ms) :
    TVChain s g ms := by
  induction ms generalizing s g with
  | nil => exact hs
  | cons μ ms ih =>
    obtain ⟨h1, h2, _⟩ := tvsat_micro μ hs ha
    exact ⟨hs, ih h1 h2⟩

theorem votesFn_of_acksOk {s : RState} {g : Ghost} {ms : List Micro} (hs : TVSat s g) (ha : AcksOk s ms)
    (hf : VotesFn g.votes) : VotesFn (microAllG g ms).votes := by
  induction ms generalizing s g with
  | nil => exact hf
  | cons μ ms ih =>
    obtain ⟨h1, h2, h3⟩ := tvsat_micro μ hs ha
    exact ih h1 h2 (h3 hf)

theorem acksOk_take {s : RState} {ms : List Micro} (h : AcksOk s ms) (k : Nat) : AcksOk s (ms.take k) := by
  induction ms generalizing s k with
  | nil => rw [List.take_nil]; exact h
  | cons μ ms ih =>
    cases k with
    | zero => trivial
    | succ k =>
      cases μ with
      | wal r => exact ih h k
      | ackLog es => exact ih h k
      | ackTerm t => exact ⟨h.1, ih h.2 k⟩
      | ackVote t c => exact ⟨h.1, ih h.2 k⟩

theorem acksOk_append (s : RState) (a b : List Micro) :
    AcksOk s (a ++ b) ↔ AcksOk s a ∧ AcksOk (microAllS s a) b := by
  induction a generalizing s with
  | nil => simp [AcksOk, microAllS]
  | cons μ a ih =>
    cases μ <;> simp only [List.cons_append, AcksOk, microAllS, List.foldl_cons, microS] <;>
      (rw [ih]; simp only [microAllS, and_assoc])

theorem acksOk_wals (s : RState) (rs : List WalEntry) : AcksOk s (rs.map Micro.wal) := by
  induction rs generalizing s with
  | nil => trivial
  | cons r rs ih => exact ih _

structure TVStepOk (s : RState) (o : StepOut) : Prop where
  acks : AcksOk s o.micros
  sync : TVSync o.node (microAllS s o.micros)

theorem preHigher_tv (n : Node) (s : RState) (t : Nat) (r : Role) (hS : TVSync n s) :
    AcksOk s (preHigher n t r).1 ∧ TVSync (preHigher n t r).2 (microAllS s (preHigher n t r).1) := by
  unfold preHigher
  split
  · next h =>
    refine ⟨trivial, ?_⟩
    show TVSync _ (applyEntry s (.termAndVote t none))
    rw [apply_tv_higher s t none (by rw [← hS.1]; exact h)]
    exact ⟨rfl, rfl⟩
  · exact ⟨trivial, hS⟩

theorem tv_voteRec {n' : Node} {s : RState} {t c : Nat} {rp : Reply}
    (hrec : applyEntry s (.termAndVote t (some c)) = { s with term := t, votedFor := some c })
    (ht : n'.term = t) (hv : n'.votedFor = some c) :
    TVStepOk s ⟨[.wal (.termAndVote t (some c)), .ackTerm t, .ackVote t c], n', rp⟩ := by
  refine ⟨?_, ?_⟩
  · show AcksOk (applyEntry s (.termAndVote t (some c))) [.ackTerm t, .ackVote t c]
    rw [hrec]; exact ⟨Nat.le_refl _, ⟨rfl, rfl⟩, trivial⟩
  · show TVSync n' (applyEntry s (.termAndVote t (some c)))
    rw [hrec]; exact ⟨ht, hv⟩

theorem form_tv {n : Node} {o : StepOut} (hf : Form n o) : ∀ s : RState, TVSync n s → TVStepOk s o := by
  induction hf with
  | quiet h => intro s hS; exact ⟨trivial, h.term.trans hS.1, h.votedFor.trans hS.2⟩
  | ack h =>
    intro s hS
    exact ⟨⟨Nat.le_of_eq hS.1, trivial⟩, h.term.trans hS.1, h.votedFor.trans hS.2⟩
  | @elect n n' h =>
    intro s hS
    exact tv_voteRec
      (apply_tv_higher s (n'.term + 1) (some n'.id) (by rw [h.term, hS.1]; exact Nat.lt_succ_self _)) rfl rfl
  | @stepDown n n' t h ht =>
    intro s hS
    have hs1 := apply_tv_higher s t none (by rw [← hS.1]; exact ht)
    refine ⟨?_, ?_⟩
    · show AcksOk (applyEntry s (.termAndVote t none)) [.ackTerm t]
      rw [hs1]; exact ⟨Nat.le_refl _, trivial⟩
    · show TVSync _ (applyEntry s (.termAndVote t none))
      rw [hs1]; exact ⟨rfl, rfl⟩
  | grant hv =>
    intro s hS
    exact tv_voteRec (by rw [hS.1]; exact apply_tv_grant s _ (hS.2 ▸ hv)) rfl rfl
  | @logWrite n n' rs log' acked rp hlog ht hv _ _ _ =>
    intro s hS
    obtain ⟨htm, hvt⟩ := microAllS_logrecs_tv s rs hlog
    refine ⟨(acksOk_append _ _ _).mpr ⟨acksOk_wals _ _, Nat.le_of_eq (hS.1.trans htm.symm), trivial⟩, ?_⟩
    show TVSync n' (microAllS s (rs.map .wal ++ [.ackTerm n.term, .ackLog acked]))
    rw [microAllS_append]
    exact ⟨ht.trans (hS.1.trans htm.symm), hv.trans (hS.2.trans hvt.symm)⟩
  | @pre n t r ms n' rp _ ih =>
    intro s hS
    obtain ⟨ha1, hS1⟩ := preHigher_tv n s t r hS
    have o := ih _ hS1
    refine ⟨(acksOk_append _ _ _).mpr ⟨ha1, o.acks⟩, ?_⟩
    show TVSync n' (microAllS s ((preHigher n t r).1 ++ ms))
    rw [microAllS_append]; exact o.sync

theorem tvstep_ok (n : Node) (s : RState) (e : Event) (hS : TVSync n s) : TVStepOk s (step n e) :=
  form_tv (step_form n e) s hS

theorem stepFail_form (n : Node) (e : Event) : Form n (stepFail n e) := by
  have same : Same n n := ⟨rfl, rfl, rfl⟩
  cases e with
  | appendEntries t leader prevIdx prevTerm ents =>
    dsimp only [stepFail]
    split
    · exact .ack same
    · split
      · split
        · split
          · exact .logWrite (rs := []) (fun _ h => nomatch h) rfl rfl rfl
              (fun a ha => List.mem_of_mem_drop (List.mem_filter.mp ha).1) (fun s g h => .nil h)
          · exact .ack ⟨rfl, rfl, rfl⟩
        · exact .ack ⟨rfl, rfl, rfl⟩
      · exact .ack same
  | requestVote t c li lt => exact .ack same
  | propose c => dsimp only [stepFail, stepFailOld]; split <;> exact .quiet same
  | startElection => exact .quiet same
  | voteResponse frm t granted =>
    dsimp only [stepFail, stepFailOld]
    split
    · exact .quiet same
    · exact step_form n _
  | startPreVote => exact step_form n .startPreVote
  | compact i => exact step_form n (.compact i)
  | preVote t c li lt => exact step_form n (.preVote t c li lt)
  | preVoteResponse frm t granted =>
    dsimp only [stepFail, stepFailOld]
    split
    · exact .quiet same
    · split
      · exact .quiet same
      · split
        · split <;> exact .quiet ⟨rfl, rfl, rfl⟩
        · exact .quiet same
  | timeoutNow frm t lid => exact .quiet same
  | becomeLeader => exact .quiet ⟨rfl, rfl, rfl⟩
  | appendResponse t => exact .quiet same
  | installSnapshot a b c => exact .quiet same

theorem tvstepFail_ok (n : Node) (s : RState) (e : Event) (hS : TVSync n s) : TVStepOk s (stepFail n e) :=
  form_tv (stepFail_form n e) s hS

theorem stepFail_eq (n : Node) (e : Event) (h : ∀ t l pi pt es, e ≠ .appendEntries t l pi pt es) :
    stepFail n e = stepFailOld n e := by
  cases e <;> first | rfl | exact absurd rfl (h _ _ _ _ _)

theorem tvstepFailOld_ok (n : Node) (s : RState) (e : Event) (hS : TVSync n s) : TVStepOk s (stepFailOld n e) := by
  cases e with
  | appendEntries t leader prevIdx prevTerm ents =>
    dsimp only [stepFailOld]
    (repeat' split) <;> exact ⟨⟨Nat.le_of_eq hS.1, trivial⟩, hS⟩
  | _ => (rw [← stepFail_eq n _ (by intros; simp)]; exact tvstepFail_ok n s _ hS)

theorem tvstepM_ok (fixed fail : Bool) (n : Node) (s : RState) (e : Event) (hS : TVSync n s) :
    TVStepOk s (stepM fixed fail n e) := by
  cases fail
  · exact tvstep_ok n s e hS
  · cases fixed
    · exact tvstepFailOld_ok n s e hS
    · exact tvstepFail_ok n s e hS

structure TVInv (σ : Sys) : Prop where
  sync : TVSync σ.node (fromEntries σ.dur)
  sat : TVSat (fromEntries σ.dur) σ.ghost
  votes : VotesFn σ.ghost.votes

theorem tvinv_init (id : Nat) : TVInv (initSys id) :=
  ⟨⟨rfl, rfl⟩, ⟨Nat.le_refl _, fun _ hv => nomatch hv⟩, fun _ hv => nomatch hv⟩

theorem tvinv_applyOut (σ : Sys) (o : StepOut) (h : TVInv σ) (ho : TVStepOk (fromEntries σ.dur) o) :
    TVInv (applyOut σ o) := by
  refine ⟨?_, ?_, votesFn_of_acksOk h.sat ho.acks h.votes⟩
  · simp only [applyOut, fromEntries_recs]; exact ho.sync
  · simp only [applyOut, fromEntries_recs]; exact tvchain_end (tvchain_of_acksOk h.sat ho.acks)

theorem tvinv_crash (σ : Sys) (o : StepOut) (k : Nat) (h : TVInv σ) (ho : TVStepOk (fromEntries σ.dur) o) :
    TVInv { dur := σ.dur ++ recs (o.micros.take k),
            node := restart σ.node.id (fromEntries (σ.dur ++ recs (o.micros.take k))),
            ghost := microAllG σ.ghost (o.micros.take k) } := by
  refine ⟨⟨rfl, rfl⟩, ?_, votesFn_of_acksOk h.sat (acksOk_take ho.acks k) h.votes⟩
  simp only [fromEntries_recs]
  exact tvchain_take (tvchain_of_acksOk h.sat ho.acks) k

theorem tvinv_execActF (fixed : Bool) (σ : Sys) (a : ActF) (h : TVInv σ) : TVInv (execActF fixed σ a) := by
  cases a with
  | ev e => exact tvinv_applyOut σ _ h (tvstepM_ok fixed false σ.node _ e h.sync)
  | evFail e => exact tvinv_applyOut σ _ h (tvstepM_ok fixed true σ.node _ e h.sync)
  | crash e k => exact tvinv_crash σ _ k h (tvstepM_ok fixed false σ.node _ e h.sync)
  | crashFail e k => exact tvinv_crash σ _ k h (tvstepM_ok fixed true σ.node _ e h.sync)

theorem tvinv_execF (fixed : Bool) (σ : Sys) (as : List ActF) (h : TVInv σ) : TVInv (execF fixed σ as) := by
  induction as generalizing σ with
  | nil => exact h
  | cons a as ih =>
    simp only [execF, List.foldl_cons]
    exact ih _ (tvinv_execActF fixed σ a h)

theorem inv_execActF_fixed (σ : Sys) (a : ActF) (h : Inv σ) : Inv (execActF true σ a) := by
  obtain ⟨hS, hwf, hsat⟩ := h
  have ok := step_ok σ.node (fromEntries σ.dur) σ.ghost
  have okF := fun e => form_ok (stepFail_form σ.node e) (fromEntries σ.dur) σ.ghost
  cases a with
  | ev e => exact inv_applyOut σ _ (ok e hS hwf hsat)
  | evFail e => exact inv_applyOut σ _ (okF e hS hwf hsat)
  | crash e k => exact inv_crashOut σ _ k (ok e hS hwf hsat)
  | crashFail e k => exact inv_crashOut σ _ k (okF e hS hwf hsat)

theorem inv_execF_fixed (σ : Sys) (as : List ActF) (h : Inv σ) : Inv (execF true σ as) := by
  induction as generalizing σ with
  | nil => exact h
  | cons a as ih =>
    simp only [execF, List.foldl_cons]
    exact ih _ (inv_execActF_fixed σ a h)

/-- failure-free histories are the old ones -/
theorem execF_ofAct (fixed : Bool) (σ : Sys) (as : List Act) :
    execF fixed σ (as.map ActF.ofAct) = exec σ as := by
  induction as generalizing σ with
  | nil => rfl
  | cons a as ih =>
    simp only [List.map_cons, execF, exec, List.foldl_cons]
    have : execActF fixed σ (ActF.ofAct a) = execAct σ a := by
      cases a <;> simp [ActF.ofAct, execActF, execAct, stepM, applyOut]
    rw [this]
    exact ih _

end Neumann.RaftWal
