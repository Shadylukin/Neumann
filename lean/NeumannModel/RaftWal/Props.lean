import NeumannModel.RaftWal.LemmasRot
import NeumannModel.RaftWal.LemmasFail
import NeumannModel.RaftWal.LemmasInstall
/-
  C10 — Raft node restart never forgets a vote, a term or an acknowledged entry.

  Setting of every theorem below (the quantifier of the property):
    * `acts`  : ANY history of handler calls and crashes — `Act.ev e` runs handler `e` to the end,
                `Act.crash e k` kills the process after `k` micro steps of handler `e` (a micro step is
                one fsynced WAL append or one acknowledgement sent) and restarts the node from its WAL.
                The list is arbitrary, so the number of crashes is unbounded.
    * then handler `e` starts and the machine dies leaving ANY byte prefix `n` of the WAL file that
      still contains the part synced before `e` started (appends are fsynced one after the other, so a
      crash can only tear the record being written);
    * `ghost` is what the node had told the outside world at that moment: the highest term it acted in,
      the votes it granted, the entries it acknowledged to a leader or accepted as leader
      (`microAllG σ.ghost (ms.take k)` for every `k` consistent with the records found on disk).
  `restart` is `RaftNode::with_wal`; `recoverBytes` is `RaftWal::open` + `replay` + `from_entries`.
  Events are ALL handlers of the model, `install_snapshot` included (code after fix 73e56b11: the
  snapshot's entries are written as `LogEntryFull` records, then `LogTruncate{last+1}`, before the
  in-memory switch).  When an obligation about an acknowledged entry ends is fixed by `microG`
  (Model.lean): at the WAL record by which a later leader's order starts to drop the entry — a conflict
  truncation at or below its index, or a snapshot entry of the same index and different content.
  What is NOT claimed (outside C10's three obligations): the install is not atomic in the WAL; a crash
  after `k` of its `n` `LogEntryFull` records restarts the node with the log
  `snapshot[1..k] ++ old[k+1..]`, a log it never held in memory (`snapshot_install_not_atomic_witness`).
  Every obligation still in force holds for that log (the theorems below), its log-matching with the
  leader is a matter for C01.
  Because `microG` reads the end of an obligation off the records the handler writes, the section
  "a crash inside a snapshot install, judged by the ORDER" states the install's crash safety a second time
  with the licence taken from the snapshot alone (`snapshot_install_cut_keeps_acknowledged_entries`), and
  shows that the order of the install's two WAL steps is what it rests on
  (`truncate_first_install_loses_acknowledged_entries_witness`).
-/
namespace Neumann.RaftWal.Props
open Neumann.RaftWal Neumann.FramedLog

variable (crc : List Nat → Nat) (ser : WalEntry → List Nat) (deser : List Nat → Option WalEntry)

/-- the file cut at byte `n` while handler `e` was running on the system reached by `acts` -/
def crashFile (id : Nat) (acts : List Act) (e : Event) (n : Nat) : List Nat :=
  let σ := exec (initSys id) acts
  (fileOf crc ser (σ.dur ++ recs (step σ.node e).micros)).take n

/-- obligations in force when `k` micro steps of `e` were done -/
def ghostAt (id : Nat) (acts : List Act) (e : Event) (k : Nat) : Ghost :=
  let σ := exec (initSys id) acts
  microAllG σ.ghost ((step σ.node e).micros.take k)

/-- Core statement: a byte-level crash is a record-level crash, the restarted system satisfies the
    invariant again (so the argument repeats for any further crash), and the repaired file is the
    exact encoding of the surviving records. -/
theorem byte_crash_refines_record_crash (h : GoodSer crc ser deser) (id : Nat) (acts : List Act) (e : Event)
    (n : Nat)
    (hn : (fileOf crc ser (exec (initSys id) acts).dur).length ≤ n) :
    ∃ s cnt en, recoverBytes crc deser (crashFile crc ser id acts e n) = .ok s cnt en ∧
      ∀ k, (exec (initSys id) acts).dur.length + (recs ((step (exec (initSys id) acts).node e).micros.take k)).length = cnt →
        let σ' := execAct (exec (initSys id) acts) (.crash e k)
        s = fromEntries σ'.dur ∧ openRepair (crashFile crc ser id acts e n) = fileOf crc ser σ'.dur ∧ Inv σ' := by
  obtain ⟨s, cnt, en, hrec, hall⟩ := byte_cut_micros crc ser deser h (exec (initSys id) acts).dur
    (step (exec (initSys id) acts).node e).micros n hn
  exact ⟨s, cnt, en, hrec, fun k hk =>
    ⟨(hall k hk).1, (hall k hk).2, inv_execAct _ _ (inv_exec _ _ (inv_init id))⟩⟩

/-- **Term.** The restarted node's term is at least every term it had acted in. -/
theorem recovered_term_ge_acted (h : GoodSer crc ser deser) (id : Nat) (acts : List Act) (e : Event)
    (n : Nat)
    (hn : (fileOf crc ser (exec (initSys id) acts).dur).length ≤ n) :
    ∃ s cnt en, recoverBytes crc deser (crashFile crc ser id acts e n) = .ok s cnt en ∧
      ∀ k, (exec (initSys id) acts).dur.length + (recs ((step (exec (initSys id) acts).node e).micros.take k)).length = cnt →
        (ghostAt id acts e k).actedTerm ≤ (restart id s).term := by
  obtain ⟨s, cnt, en, hrec, hall⟩ := byte_crash_refines_record_crash crc ser deser h id acts e n hn
  refine ⟨s, cnt, en, hrec, fun k hk => ?_⟩
  obtain ⟨hs, _, hinv⟩ := hall k hk
  rw [hs]; exact (inv_restart hinv id).1

/-- **Vote.** For every vote `(t, c)` the node had granted: after restart it is past term `t`, or still
    in term `t` with `votedFor = c`. -/
theorem recovered_vote_eq_cast (h : GoodSer crc ser deser) (id : Nat) (acts : List Act) (e : Event)
    (n : Nat)
    (hn : (fileOf crc ser (exec (initSys id) acts).dur).length ≤ n) :
    ∃ s cnt en, recoverBytes crc deser (crashFile crc ser id acts e n) = .ok s cnt en ∧
      ∀ k, (exec (initSys id) acts).dur.length + (recs ((step (exec (initSys id) acts).node e).micros.take k)).length = cnt →
        ∀ v ∈ (ghostAt id acts e k).votes,
          v.1 < (restart id s).term ∨ (v.1 = (restart id s).term ∧ (restart id s).votedFor = some v.2) := by
  obtain ⟨s, cnt, en, hrec, hall⟩ := byte_crash_refines_record_crash crc ser deser h id acts e n hn
  refine ⟨s, cnt, en, hrec, fun k hk => ?_⟩
  obtain ⟨hs, _, hinv⟩ := hall k hk
  rw [hs]; exact (inv_restart hinv id).2.1

/-- **Log.** Every entry the node had acknowledged to a leader, accepted as leader or installed from a
    snapshot (and that no conflict truncation / snapshot overwrite ordered by a later leader had begun
    to remove, see `microG`) is in the restarted node's log. -/
theorem recovered_log_contains_acked (h : GoodSer crc ser deser) (id : Nat) (acts : List Act) (e : Event)
    (n : Nat)
    (hn : (fileOf crc ser (exec (initSys id) acts).dur).length ≤ n) :
    ∃ s cnt en, recoverBytes crc deser (crashFile crc ser id acts e n) = .ok s cnt en ∧
      ∀ k, (exec (initSys id) acts).dur.length + (recs ((step (exec (initSys id) acts).node e).micros.take k)).length = cnt →
        ∀ a ∈ (ghostAt id acts e k).acked, a ∈ (restart id s).log := by
  obtain ⟨s, cnt, en, hrec, hall⟩ := byte_crash_refines_record_crash crc ser deser h id acts e n hn
  refine ⟨s, cnt, en, hrec, fun k hk => ?_⟩
  obtain ⟨hs, _, hinv⟩ := hall k hk
  rw [hs]; exact (inv_restart hinv id).2.2.1

/-- The same three facts for a node that is simply running (or was restarted any number of times):
    its memory equals what a restart would recover, and the obligations hold. -/
theorem running_node_matches_its_log (id : Nat) (acts : List Act) :
    let σ := exec (initSys id) acts
    σ.node.term = (fromEntries σ.dur).term ∧ σ.node.votedFor = (fromEntries σ.dur).votedFor
      ∧ σ.node.log = (restart id (fromEntries σ.dur)).log
      ∧ σ.ghost.actedTerm ≤ σ.node.term
      ∧ (∀ a ∈ σ.ghost.acked, a ∈ σ.node.log) := by
  have hinv := inv_exec (initSys id) acts (inv_init id)
  have h := inv_restart hinv id
  exact ⟨h.2.2.2.1, h.2.2.2.2.1, h.2.2.2.2.2, by rw [hinv.1.1]; exact hinv.2.2.1,
    fun a ha => h.2.2.2.2.2 ▸ h.2.2.1 a ha⟩

/-- **Corollary: no double vote across restarts.** Whatever the history — any handler calls, any
    number of crashes, each at any micro step (equivalently, by `byte_crash_refines_record_crash`, at
    any byte of the record being written) — the node never announces votes for two different
    candidates in one term. -/
theorem no_double_vote_across_restarts (id : Nat) (acts : List Act)
    (t c1 c2 : Nat) (h1 : (t, c1) ∈ (exec (initSys id) acts).ghost.votes)
    (h2 : (t, c2) ∈ (exec (initSys id) acts).ghost.votes) : c1 = c2 := by
  have hf := (tvinv_execF true (initSys id) (acts.map ActF.ofAct) (tvinv_init id)).votes
  rw [execF_ofAct] at hf
  exact hf (t, c1) h1 (t, c2) h2 rfl

/-- **Snapshot install is durable, local suffix included.** Whatever the node held before (entries
    conflicting with the snapshot, a suffix beyond the snapshot's last index, …): once
    `install_snapshot` has returned `Ok`, a restart recovers exactly the snapshot's entries. -/
theorem installed_snapshot_is_the_recovered_log (id : Nat) (acts : List Act) (li lt : Nat) (ents : List (Nat × Nat))
    (hok : (step (exec (initSys id) acts).node (.installSnapshot li lt ents)).reply = .snapshot true) :
    let σ := exec (initSys id) (acts ++ [.ev (.installSnapshot li lt ents)])
    (restart id (fromEntries σ.dur)).log = mkEntries 0 ents ∧ σ.node.log = mkEntries 0 ents := by
  have hrun := running_node_matches_its_log id (acts ++ [.ev (.installSnapshot li lt ents)])
  have hlog : (exec (initSys id) (acts ++ [.ev (.installSnapshot li lt ents)])).node.log = mkEntries 0 ents := by
    simp only [exec, List.foldl_append, List.foldl_cons, List.foldl_nil, execAct]
    simp only [exec] at hok
    generalize (List.foldl execAct (initSys id) acts).node = n at *
    dsimp only [step] at hok ⊢
    split at hok
    · simp at hok
    · split at hok
      · simp at hok
      · split at hok
        · simp at hok
        · next h1 h2 h3 => simp only [h2, h3]; simp
  exact ⟨by rw [← hrun.2.2.1]; exact hlog, hlog⟩

/-- The statement for the code BEFORE fix 73e56b11 (`installSnapshotOld`: the in-memory log is replaced
    by the snapshot's entries and nothing about it is logged): an old-style install somewhere in the
    history.  False — `snapshot_install_not_durable_witness`. -/
def recovered_log_contains_acked_old_install : Prop :=
  ∀ (id : Nat) (pre post : List Act) (lt : Nat) (ents : List (Nat × Nat)),
    let σ0 := exec (initSys id) pre
    let σ := exec (applyOut σ0 (installSnapshotOld σ0.node lt ents)) post
    ∀ a ∈ σ.ghost.acked, a ∈ (restart id (fromEntries σ.dur)).log

/-- follower holds [1,2]; a snapshot with entries 1..4 is installed the old way; the leader's next
    AppendEntries (prev = 4) is acknowledged with match_index 5; after a restart entries 3 and 4 are gone. -/
theorem snapshot_install_not_durable_witness : ¬ recovered_log_contains_acked_old_install := by
  intro hall
  have := hall 0
    [.ev (.appendEntries 1 1 0 0 [(1, 10), (1, 11)])]
    [.ev (.appendEntries 1 1 4 1 [(1, 14)])]
    1 [(1, 10), (1, 11), (1, 12), (1, 13)]
    ⟨3, 1, 12⟩ (by decide)
  revert this
  decide +kernel

/-- **Pre-fix `open` (append position = physical end of file).** A record torn by a crash, then a
    restart that appends an acknowledged record behind the torn bytes: the next replay stops with a
    checksum error and returns nothing — the acknowledged record is lost.  With the repaired `open`
    the same bytes replay to exactly the acknowledged record. -/
def wcrc (p : List Nat) : Nat := p.sum + 1

theorem append_after_torn_tail_witness :
    parse wcrc (fun _ => true) (openOld ((encodeAll wcrc [[9]]).take 8) ++ encodeAll wcrc [[7]]) = ([], .badCrc)
    ∧ parse wcrc (fun _ => true) (openRepair ((encodeAll wcrc [[9]]).take 8) ++ encodeAll wcrc [[7]]) = ([[7]], .clean) := by
  constructor
  · rw [parse]; simp [openOld, encodeAll, encodeRec, le32, de32, wcrc]
  · have := reopen_append_replay wcrc (fun _ => true) [[9]] [[7]] 8
      (by simp [GoodRec, wcrc, U32]) (by simp [GoodRec, wcrc, U32])
    simpa [wholeWithin, encodeRec, le32] using this

/-! ### non-vacuity: the hypotheses are satisfiable by non-trivial executions -/

/-- a concrete history with an election, a granted vote, appends, a conflict truncation, a proposal, a
    snapshot install over a conflicting log with a local suffix beyond the snapshot index, a crash in
    the middle of a second install and two more crashes -/
def demoActs : List Act :=
  [.ev (.requestVote 1 2 0 0),
   .ev (.appendEntries 1 2 0 0 [(1, 10), (1, 11), (1, 12)]),
   .crash (.appendEntries 2 3 1 1 [(2, 20), (2, 21)]) 2,
   .ev (.appendEntries 2 3 1 1 [(2, 20), (2, 21)]),
   .ev .startElection, .ev .becomeLeader, .ev (.propose 30),
   .ev (.installSnapshot 2 4 [(1, 10), (4, 40)]),
   .ev (.appendEntries 4 1 2 4 [(4, 41)]),
   .crash (.installSnapshot 3 5 [(1, 10), (5, 50), (5, 51)]) 3,
   .crash (.requestVote 9 4 9 9) 1]

example : (exec (initSys 0) demoActs).ghost.votes = [(3, 0), (1, 2)] := by decide +kernel
/-- the vote of term 1 really is re-requested by another candidate after the restart and refused -/
example : (step (exec (initSys 0) [.ev (.requestVote 1 2 0 0), .crash (.requestVote 1 2 0 0) 0]).node
    (.requestVote 1 3 5 5)).reply = .vote 1 false := by decide +kernel
/-- before the first install: log [1:1:10, 2:2:20, 3:2:21, 4:3:30], all four acknowledged -/
example : (exec (initSys 0) (demoActs.take 7)).node.log = [⟨1, 1, 10⟩, ⟨2, 2, 20⟩, ⟨3, 2, 21⟩, ⟨4, 3, 30⟩] := by decide +kernel
/-- the install writes TV4, F1, F2, LT3; entries 2 (conflicting) and 3, 4 (beyond the snapshot) leave the
    log and the obligations; memory and a restart agree on the snapshot -/
example : recs (step (exec (initSys 0) (demoActs.take 7)).node (.installSnapshot 2 4 [(1, 10), (4, 40)])).micros
    = [.termAndVote 4 none, .logEntryFull 1 1 [1, 1, 10], .logEntryFull 2 4 [2, 4, 40], .logTruncate 3] := by decide +kernel
example : (exec (initSys 0) (demoActs.take 8)).node.log = [⟨1, 1, 10⟩, ⟨2, 4, 40⟩]
    ∧ (restart 0 (fromEntries (exec (initSys 0) (demoActs.take 8)).dur)).log = [⟨1, 1, 10⟩, ⟨2, 4, 40⟩]
    ∧ (⟨2, 2, 20⟩ : LogEntry) ∉ (exec (initSys 0) (demoActs.take 8)).ghost.acked
    ∧ (⟨4, 3, 30⟩ : LogEntry) ∉ (exec (initSys 0) (demoActs.take 8)).ghost.acked
    ∧ (⟨2, 4, 40⟩ : LogEntry) ∈ (exec (initSys 0) (demoActs.take 8)).ghost.acked := by decide +kernel
/-- the hypothesis of `installed_snapshot_is_the_recovered_log` holds there -/
example : (step (exec (initSys 0) (demoActs.take 7)).node (.installSnapshot 2 4 [(1, 10), (4, 40)])).reply
    = .snapshot true := by decide +kernel
/-- a stale snapshot (not newer than the installed one) and one whose metadata disagree with its last
    entry are refused without writing anything -/
example : (step (exec (initSys 0) (demoActs.take 8)).node (.installSnapshot 2 4 [(1, 10), (4, 40)])).micros = []
    ∧ (step (exec (initSys 0) (demoActs.take 8)).node (.installSnapshot 3 4 [(1, 10), (4, 40)])).micros = [] := by decide +kernel
/-- The second install dies after 3 micro steps (TV5, F1, F2 durable; F3 and LT4 not): the node restarts
    with the snapshot's first two entries and its own third one — a log it never held in memory.  The
    acknowledged entry 2:4:40 was released by the overwrite, 1:1:10 and 3:4:41 are still owed and there. -/
theorem snapshot_install_not_atomic_witness :
    (exec (initSys 0) (demoActs.take 10)).node.log = [⟨1, 1, 10⟩, ⟨2, 5, 50⟩, ⟨3, 4, 41⟩]
    ∧ (exec (initSys 0) (demoActs.take 10)).node.term = 5
    ∧ (exec (initSys 0) (demoActs.take 10)).ghost.acked.all
        (fun a => a ∈ (exec (initSys 0) (demoActs.take 10)).node.log) = true
    ∧ ⟨3, 4, 41⟩ ∈ (exec (initSys 0) (demoActs.take 10)).ghost.acked := by decide +kernel
example : (exec (initSys 0) demoActs).node.term = 9 ∧ (exec (initSys 0) demoActs).node.votedFor = none := by decide +kernel
/-- `GoodSer` is satisfiable: a toy injective serializer -/
def toySer : WalEntry → List Nat
  | .termChange t => [0, t]
  | .voteCast t c => [1, t, c]
  | .termAndVote t none => [2, t]
  | .termAndVote t (some c) => [3, t, c]
  | .logAppend i t => [4, i, t]
  | .logTruncate f => [5, f]
  | .snapshotTaken i t => [6, i, t]
  | .logEntryFull i t d => 7 :: i :: t :: d
def toyDeser : List Nat → Option WalEntry
  | [0, t] => some (.termChange t)
  | [1, t, c] => some (.voteCast t c)
  | [2, t] => some (.termAndVote t none)
  | [3, t, c] => some (.termAndVote t (some c))
  | [4, i, t] => some (.logAppend i t)
  | [5, f] => some (.logTruncate f)
  | [6, i, t] => some (.snapshotTaken i t)
  | 7 :: i :: t :: d => some (.logEntryFull i t d)
  | _ => none
example : ∀ r, toyDeser (toySer r) = some r := by
  intro r; cases r <;> try rfl
  case termAndVote t v => cases v <;> rfl

/-! ### size limit and rotation of the WAL

  Every theorem above speaks about `fileOf … dur`, ONE file holding every record the node ever wrote.
  `RaftWal::append` keeps it that way while the file stays within `max_size_bytes`
  (`no_rotation_within_size_limit`).  What happens at the limit depends on `auto_rotate`:
    * `RaftNode::with_wal` opens its WAL with `auto_rotate = false` (and the limit at `u64::MAX`) since
      fix c45da25c: an append is then either refused — an ordinary failed append, covered by the
      theorems of the next section — or extends the live file; nothing is ever moved away
      (`node_wal_is_never_rotated_away`);
    * with `auto_rotate` (the `WalConfig` default, which `with_wal` used before that fix) the append that
      crosses the limit renames the file to `<wal>.1` and starts an empty one, and neither `replay` nor
      `with_wal` ever reads `<wal>.k`: whatever the history was, a restart then sees exactly the records
      written since (`rotation_recovers_only_the_new_record`) and the property failed
      (`rotation_forgets_term_vote_log_witness`; nothing in raft.rs truncates or compacts the WAL, so every
      node whose WAL had grown to 1 GiB was in this situation). -/

/-- **Within the size limit there is no rotation**: appending the records `rs` of any history to a live
    file that holds `d` leaves the single file `fileOf (d ++ rs)` the theorems above are about — as long
    as that file is at most `max_size_bytes` long. -/
theorem no_rotation_within_size_limit (c : WalCfg) (old : List (List Nat)) (d rs : List WalEntry)
    (h : (fileOf crc ser (d ++ rs)).length ≤ c.maxSize) :
    walAppendAll crc c { cur := fileOf crc ser d, rotated := old } (rs.map ser)
      = { cur := fileOf crc ser (d ++ rs), rotated := old } :=
  walAppendAll_fits crc ser c old d rs h

/-- **The node's WAL is never rotated away** (configuration of `RaftNode::with_wal`): whatever is
    appended, in whatever amount, the live file afterwards is what it held followed by the encoding of the
    accepted records (a sublist, in order, of the submitted ones — a refused append writes nothing and is
    reported to the handler as a failure), and no file is renamed. -/
theorem node_wal_is_never_rotated_away (w : WalFiles) (ps : List (List Nat)) :
    ∃ acc : List (List Nat), acc.Sublist ps
      ∧ walAppendAll crc nodeWalCfg w ps = { cur := w.cur ++ encodeAll crc acc, rotated := w.rotated } :=
  walAppendAll_noRotate crc nodeWalCfg rfl w ps

/-- **With `auto_rotate`, the append that crosses the limit makes a restart forget everything before
    it**: whatever the live file held, afterwards it holds the new record only, recovery returns
    `from_entries [r]`, and the old content sits in `<wal>.1`, which nothing reads. -/
theorem rotation_recovers_only_the_new_record (h : GoodSer crc ser deser) (c : WalCfg) (ha : c.autoRotate = true)
    (w : WalFiles) (r : WalEntry) (hrot : w.cur.length + (encodeRec crc (ser r)).length > c.maxSize) :
    ∃ w', walAppend crc c w (ser r) = some w'
      ∧ w'.cur = fileOf crc ser [r]
      ∧ recoverBytes crc deser w'.cur = .ok (fromEntries [r]) 1 .clean
      ∧ w'.rotated.head? = some w.cur := by
  have hcur : encodeRec crc (ser r) = fileOf crc ser [r] := by simp [fileOf, encodeAll]
  refine ⟨_, walAppend_rotates crc c w (ser r) ha hrot, hcur, ?_, ?_⟩
  · show recoverBytes crc deser (encodeRec crc (ser r)) = _
    rw [hcur]
    exact recover_fileOf crc ser deser [r] (fun r _ => ⟨h.rt r, h.len r, h.crcb _⟩)
  · have : max c.maxRot 1 = (max c.maxRot 1 - 1) + 1 := by omega
    rw [this, List.take_succ_cons]; rfl

/-- C10 for a node whose WAL rotates (`with_wal` BEFORE fix c45da25c; the limit scaled down): after any
    crash-free history, what a restart recovers from the live file satisfies the three obligations.
    False — `rotation_forgets_term_vote_log_witness`. -/
def restart_keeps_obligations_with_rotation : Prop :=
  ∀ (maxSize id : Nat) (evs : List Event),
    let σ := exec (initSys id) (evs.map Act.ev)
    let w := walAppendAll wcrc { oldNodeWalCfg with maxSize := maxSize } {} (σ.dur.map toySer)
    ∀ s n e, recoverBytes wcrc toyDeser w.cur = .ok s n e → SatB s σ.ghost = true

/-- the history of the harness' directed regression case `rot.node`: vote for n2 in term 5, entries 1 and
    2 acknowledged, then entry 3 — whose record crosses the limit — acknowledged.  The restart came back
    with term 0, no vote and the log [3]. -/
def rotDemo : List Event :=
  [.requestVote 5 2 0 0, .appendEntries 5 2 0 0 [(5, 11), (5, 12)], .appendEntries 5 2 2 5 [(5, 13)]]

theorem rotation_forgets_term_vote_log_witness : ¬ restart_keeps_obligations_with_rotation := by
  intro hall
  have hw : walAppendAll wcrc { oldNodeWalCfg with maxSize := 50 } {}
        ((exec (initSys 0) (rotDemo.map Act.ev)).dur.map toySer)
      = { cur := encodeRec wcrc (toySer (.logEntryFull 3 5 [3, 5, 13])) ++ [],
          rotated := [encodeAll wcrc [[2, 5], [3, 5, 2], [7, 1, 5, 1, 5, 11], [7, 2, 5, 2, 5, 12]]] } := by
    decide +kernel
  have hg : GoodRec wcrc (fun p => (toyDeser p).isSome) (toySer (.logEntryFull 3 5 [3, 5, 13])) := by
    refine ⟨by decide, by decide, by decide⟩
  have hp := parse_cons wcrc (fun p => (toyDeser p).isSome) _ [] hg
  rw [parse_nil] at hp
  have := hall 50 0 rotDemo (fromEntries [.logEntryFull 3 5 [3, 5, 13]]) 1 .clean (by
    rw [hw]
    simp only [recoverBytes, hp]
    rfl)
  revert this
  decide +kernel

/-- what exactly was lost in that history: the node had acted in term 5, voted for n2 and acknowledged
    entries 1..3; the restart had term 0, no vote, and entry 3 only -/
example : (exec (initSys 0) (rotDemo.map Act.ev)).ghost.actedTerm = 5
    ∧ (exec (initSys 0) (rotDemo.map Act.ev)).ghost.votes = [(5, 2)]
    ∧ (⟨1, 5, 11⟩ : LogEntry) ∈ (exec (initSys 0) (rotDemo.map Act.ev)).ghost.acked
    ∧ (⟨2, 5, 12⟩ : LogEntry) ∈ (exec (initSys 0) (rotDemo.map Act.ev)).ghost.acked
    ∧ (restart 0 (fromEntries [.logEntryFull 3 5 [3, 5, 13]])).term = 0
    ∧ (restart 0 (fromEntries [.logEntryFull 3 5 [3, 5, 13]])).votedFor = none
    ∧ (restart 0 (fromEntries [.logEntryFull 3 5 [3, 5, 13]])).log = [⟨3, 5, 13⟩] := by decide +kernel
/-- … and so it granted n3 the vote of term 5 it had already given to n2 -/
example : (step (restart 0 (fromEntries [.logEntryFull 3 5 [3, 5, 13]])) (.requestVote 5 3 9 9)).reply
    = .vote 5 true := by decide +kernel
/-- the hypothesis of `no_rotation_within_size_limit` is satisfiable with a non-trivial history, and the
    one of `rotation_recovers_only_the_new_record` by the next record of the same history -/
example : (fileOf wcrc toySer ((exec (initSys 0) ((rotDemo.take 2).map Act.ev)).dur)).length = 49 := by decide +kernel
example : (fileOf wcrc toySer ((exec (initSys 0) ((rotDemo.take 2).map Act.ev)).dur)).length
    + (encodeRec wcrc (toySer (.logEntryFull 3 5 [3, 5, 13]))).length > 50 := by decide +kernel
/-- with the node's configuration scaled down the same way (limit 50, no rotation) the crossing append is
    refused and the live file keeps the first four records -/
example : walAppendAll wcrc { nodeWalCfg with maxSize := 50 } {}
      ((exec (initSys 0) (rotDemo.map Act.ev)).dur.map toySer)
    = { cur := encodeAll wcrc [[2, 5], [3, 5, 2], [7, 1, 5, 1, 5, 11], [7, 2, 5, 2, 5, 12]], rotated := [] } := by
  decide +kernel

/-! ### histories in which the WAL rejects appends for a while (disk-space check, I/O error, size limit)

  `ActF`: besides `ev e` / `crash e k` as above, `evFail e` runs handler `e` while EVERY `RaftWal::append`
  returns `Err` without writing (what `check_space` does when less than `min_free_space_bytes` is left),
  and `crashFail e k` kills the process `k` micro steps into such a handler.  `execF true` is the code
  as it is; `execF false` is the code before fix 54033160, where `append_leader_entries` pushed a new
  entry into memory BEFORE `persist_log_entry`, left it there when the append failed, and ignored a
  failed `LogTruncate`: the leader's retry then found the entry "already held", wrote nothing and
  acknowledged it — an acknowledged entry that no restart would ever see
  (`acked_entry_lost_before_fix_witness`).  The term/vote theorems hold for both (their invariant does
  not need memory and WAL to agree on the log). -/

/-- **All three obligations survive any mix of WAL failures and crashes.**  After any history — handlers
    with a working WAL, handlers whose appends all fail, crashes at any micro step of either kind — a
    restart has a term at least the highest the node acted in, holds every vote it announced (or is past
    that term), has every acknowledged entry, and memory equals what a restart recovers. -/
theorem all_obligations_survive_wal_failures (id : Nat) (acts : List ActF) :
    let σ := execF true (initSys id) acts
    let r := restart id (fromEntries σ.dur)
    σ.ghost.actedTerm ≤ r.term
      ∧ (∀ v ∈ σ.ghost.votes, v.1 < r.term ∨ (v.1 = r.term ∧ r.votedFor = some v.2))
      ∧ (∀ a ∈ σ.ghost.acked, a ∈ r.log)
      ∧ σ.node.term = r.term ∧ σ.node.votedFor = r.votedFor ∧ σ.node.log = r.log :=
  inv_restart (inv_execF_fixed (initSys id) acts (inv_init id)) id

/-- the file cut at byte `n` while handler `e` (WAL working again) runs after a history with failures -/
def crashFileF (id : Nat) (acts : List ActF) (e : Event) (n : Nat) : List Nat :=
  let σ := execF true (initSys id) acts
  (fileOf crc ser (σ.dur ++ recs (step σ.node e).micros)).take n

/-- **Byte-granular crash after a history with WAL failures**: the cut file recovers without error to
    the record-level crash state, is repaired to its exact encoding, and the restarted node satisfies the
    three obligations in force at that micro step. -/
theorem byte_crash_with_wal_failures (h : GoodSer crc ser deser) (id : Nat) (acts : List ActF) (e : Event)
    (n : Nat) (hn : (fileOf crc ser (execF true (initSys id) acts).dur).length ≤ n) :
    ∃ s cnt en, recoverBytes crc deser (crashFileF crc ser id acts e n) = .ok s cnt en ∧
      ∀ k, (execF true (initSys id) acts).dur.length
            + (recs ((step (execF true (initSys id) acts).node e).micros.take k)).length = cnt →
        let σ' := execActF true (execF true (initSys id) acts) (.crash e k)
        s = fromEntries σ'.dur ∧ openRepair (crashFileF crc ser id acts e n) = fileOf crc ser σ'.dur
          ∧ σ'.ghost.actedTerm ≤ (restart id s).term
          ∧ (∀ v ∈ σ'.ghost.votes, v.1 < (restart id s).term
                ∨ (v.1 = (restart id s).term ∧ (restart id s).votedFor = some v.2))
          ∧ (∀ a ∈ σ'.ghost.acked, a ∈ (restart id s).log) := by
  obtain ⟨s, cnt, en, hrec, hall⟩ := byte_cut_micros crc ser deser h (execF true (initSys id) acts).dur
    (step (execF true (initSys id) acts).node e).micros n hn
  refine ⟨s, cnt, en, hrec, fun k hk => ?_⟩
  obtain ⟨hs, hrep⟩ := hall k hk
  have hr := inv_restart
    (inv_execActF_fixed _ (.crash e k) (inv_execF_fixed (initSys id) acts (inv_init id))) id
  subst hs
  exact ⟨rfl, hrep, hr.1, hr.2.1, hr.2.2.1⟩

/-- **No double vote, WAL failures included.** -/
theorem no_double_vote_with_wal_failures (id : Nat) (acts : List ActF)
    (t c1 c2 : Nat) (h1 : (t, c1) ∈ (execF true (initSys id) acts).ghost.votes)
    (h2 : (t, c2) ∈ (execF true (initSys id) acts).ghost.votes) : c1 = c2 :=
  (tvinv_execF true (initSys id) acts (tvinv_init id)).votes (t, c1) h1 (t, c2) h2 rfl

/-- **Term and vote do not depend on memory and WAL agreeing on the log**: for the code as it is
    (`fixed = true`) and as it was before fix 54033160 (`false`) alike. -/
theorem term_and_vote_survive_wal_failures (fixed : Bool) (id : Nat) (acts : List ActF) :
    let σ := execF fixed (initSys id) acts
    let r := restart id (fromEntries σ.dur)
    σ.ghost.actedTerm ≤ r.term
      ∧ (∀ v ∈ σ.ghost.votes, v.1 < r.term ∨ (v.1 = r.term ∧ r.votedFor = some v.2))
      ∧ σ.node.term = r.term ∧ σ.node.votedFor = r.votedFor := by
  have h := tvinv_execF fixed (initSys id) acts (tvinv_init id)
  exact ⟨h.sat.1, h.sat.2, h.sync.1, h.sync.2⟩

/-- the log obligation in histories with WAL failures for the code BEFORE fix 54033160.  False —
    `acked_entry_lost_before_fix_witness`. -/
def acked_entries_survive_wal_failures_before_fix : Prop :=
  ∀ (id : Nat) (acts : List ActF),
    let σ := execF false (initSys id) acts
    ∀ a ∈ σ.ghost.acked, a ∈ (restart id (fromEntries σ.dur)).log

/-- entry 1 acknowledged; AppendEntries(entry 2) while the WAL rejects appends: answered `success = false`;
    the leader repeats the request with the WAL working again.  (Directed regression case of the harness.) -/
def failDemo : List ActF :=
  [.ev (.appendEntries 1 2 0 0 [(1, 11)]),
   .evFail (.appendEntries 1 2 1 1 [(1, 12)]),
   .ev (.appendEntries 1 2 1 1 [(1, 12)])]

theorem acked_entry_lost_before_fix_witness : ¬ acked_entries_survive_wal_failures_before_fix := by
  intro hall
  have := hall 0 failDemo ⟨2, 1, 12⟩ (by decide)
  revert this
  decide +kernel

/-- the three steps of `failDemo` before the fix: entry 2 stayed in memory, the retry found it "already
    held", wrote nothing and answered `success = true, match_index = 2`; a restart had entry 1 only … -/
example : (stepFailOld (execF false (initSys 0) (failDemo.take 1)).node (.appendEntries 1 2 1 1 [(1, 12)])).reply
      = .append 1 false 2
    ∧ (execF false (initSys 0) (failDemo.take 2)).node.log = [⟨1, 1, 11⟩, ⟨2, 1, 12⟩]
    ∧ (execF false (initSys 0) (failDemo.take 2)).dur = (execF false (initSys 0) (failDemo.take 1)).dur
    ∧ (step (execF false (initSys 0) (failDemo.take 2)).node (.appendEntries 1 2 1 1 [(1, 12)])).reply
      = .append 1 true 2
    ∧ recs (step (execF false (initSys 0) (failDemo.take 2)).node (.appendEntries 1 2 1 1 [(1, 12)])).micros = []
    ∧ (restart 0 (fromEntries (execF false (initSys 0) failDemo).dur)).log = [⟨1, 1, 11⟩] := by decide +kernel
/-- … and as the code is: the failing call leaves memory alone, the retry writes the record -/
example : (execF true (initSys 0) (failDemo.take 2)).node.log = [⟨1, 1, 11⟩]
    ∧ (restart 0 (fromEntries (execF true (initSys 0) failDemo).dur)).log = [⟨1, 1, 11⟩, ⟨2, 1, 12⟩] := by decide +kernel
/-- a history with every kind of act: failing election, failing vote request of a higher term (answered
    with the old term), a granted vote, a conflicting entry refused while the WAL fails, crashes of both
    kinds, a pre-vote quorum that cannot start its election, one that can, votes making the node leader -/
def failActs : List ActF :=
  [.evFail .startElection, .evFail (.requestVote 3 2 0 0), .ev (.requestVote 3 2 0 0),
   .ev (.appendEntries 3 2 0 0 [(3, 11), (3, 12)]), .ev (.appendEntries 4 1 0 0 []),
   .evFail (.appendEntries 4 1 1 3 [(4, 22)]), .crashFail (.appendEntries 4 1 1 3 [(4, 22)]) 1,
   .evFail (.propose 5), .crash (.requestVote 9 4 9 9) 1,
   .ev .startPreVote, .evFail (.preVoteResponse 1 9 true), .evFail (.preVoteResponse 2 9 true),
   .ev .startPreVote, .ev (.preVoteResponse 1 9 true), .ev (.preVoteResponse 2 9 true),
   .ev (.voteResponse 1 10 true), .evFail (.voteResponse 2 10 true), .ev (.propose 77)]
example : (execF true (initSys 0) (failActs.take 2)).node.term = 0
    ∧ (stepFail (initSys 0).node (.requestVote 3 2 0 0)).reply = .vote 0 false
    ∧ (execF true (initSys 0) (failActs.take 3)).ghost.votes = [(3, 2)]
    ∧ (execF true (initSys 0) (failActs.take 6)).node.log = [⟨1, 3, 11⟩, ⟨2, 3, 12⟩]
    ∧ (execF false (initSys 0) (failActs.take 6)).node.log = [⟨1, 3, 11⟩, ⟨2, 4, 22⟩]
    ∧ (execF true (initSys 0) (failActs.take 9)).node.term = 9
    ∧ (execF true (initSys 0) (failActs.take 12)).node.term = 9
    ∧ (execF true (initSys 0) (failActs.take 12)).node.inPreVote = false
    ∧ (execF true (initSys 0) (failActs.take 15)).node.term = 10
    ∧ (execF true (initSys 0) (failActs.take 15)).node.role = .candidate
    ∧ (execF true (initSys 0) (failActs.take 17)).node.role = .leader
    ∧ (execF true (initSys 0) failActs).ghost.votes = [(10, 0), (3, 2)]
    ∧ (⟨3, 10, 77⟩ : LogEntry) ∈ (execF true (initSys 0) failActs).ghost.acked := by decide +kernel

/-! ### a crash inside a snapshot install, judged by the ORDER and not by the records written

  The theorems above release the obligation about an acknowledged entry at the WAL record that starts to
  drop it (`microG`): right for the code as it is, where such a record is only ever written on a leader's
  order — but blind to a handler that writes one unasked.  `install_snapshot_entries` with its two WAL
  steps swapped (one `LogTruncate{first.index}` up front, then the entries: `installSnapshotTruncateFirst`)
  satisfies every `microG`-based statement, because its own first record "releases" all it had
  acknowledged, and recovers the identical log after a complete install; yet a crash between the
  truncation record and the last re-written entry restarts the node without entries it had acknowledged
  and that the snapshot itself REPEATS.  The statements below take the licence from the snapshot alone:
  an acknowledged entry `a ∈ mkEntries 0 ents` (same index, term and payload in the snapshot) is dropped
  or replaced by no part of the order, so it must be in the log recovered from EVERY prefix of what the
  install writes.  (Entries beyond the snapshot's last index and entries the snapshot contradicts are the
  ones the order does remove; for them the `microG` statements say until which record they stay.) -/

/-- "wherever a crash cuts the records of a snapshot install, every entry the node had acknowledged before
    and the snapshot repeats is still recovered" — for an install handler `install`, after any history
    (handlers, periods of failing WAL appends, crashes of both kinds), any snapshot, any number `j` of
    surviving records -/
def InstallCutKeepsAcked (install : Node → Nat → Nat → List (Nat × Nat) → StepOut) : Prop :=
  ∀ (id : Nat) (acts : List ActF) (li lt : Nat) (ents : List (Nat × Nat)) (j : Nat),
    let σ := execF true (initSys id) acts
    ∀ a ∈ σ.ghost.acked, a ∈ mkEntries 0 ents →
      a ∈ (restart id (fromEntries (σ.dur ++ (recs (install σ.node li lt ents).micros).take j))).log

/-- **Record level.** The code as it is (`LogEntryFull` per snapshot entry first, `LogTruncate{last+1}`
    last) keeps them at every record cut. -/
theorem snapshot_install_record_cut_keeps_acknowledged_entries :
    InstallCutKeepsAcked (fun n li lt ents => step n (.installSnapshot li lt ents)) := by
  intro id acts li lt ents j σ a hack ha
  exact mem_restart_log id
    (install_prefix_keeps σ (inv_execF_fixed (initSys id) acts (inv_init id)) li lt ents j hack ha)

/-- **Byte level: a crash at ANY byte inside a snapshot install keeps every acknowledged entry the
    snapshot repeats.**  After any history `acts` (handlers, WAL-failure periods, crashes), for any snapshot
    `(li, lt, ents)` — accepted or refused, reaching beyond the node's log, ending below it with a local
    suffix beyond its index, contradicting it — and any cut `n` of the WAL file that keeps the part synced
    before the install started: recovery succeeds, and every entry the node had acknowledged before the
    install that occurs in the snapshot is in the restarted node's log. -/
theorem snapshot_install_cut_keeps_acknowledged_entries (h : GoodSer crc ser deser) (id : Nat) (acts : List ActF)
    (li lt : Nat) (ents : List (Nat × Nat)) (n : Nat)
    (hn : (fileOf crc ser (execF true (initSys id) acts).dur).length ≤ n) :
    ∃ s cnt en, recoverBytes crc deser (crashFileF crc ser id acts (.installSnapshot li lt ents) n) = .ok s cnt en ∧
      ∀ a ∈ (execF true (initSys id) acts).ghost.acked, a ∈ mkEntries 0 ents → a ∈ (restart id s).log := by
  obtain ⟨j, _, ⟨en, hrec⟩, _⟩ := byte_cut crc ser deser h (execF true (initSys id) acts).dur
    (recs (step (execF true (initSys id) acts).node (.installSnapshot li lt ents)).micros) n hn
  exact ⟨_, _, en, hrec, fun a hack ha =>
    snapshot_install_record_cut_keeps_acknowledged_entries id acts li lt ents j a hack ha⟩

/-- The same statement for the truncate-first order is false: the follower acknowledges entries 1..5
    (`match_index = 5`), then installs the snapshot 1..8 of the same leader; with only the install's first
    record on disk (`LogTruncate{1}`) the restarted node has an empty log.  (The harness' directed case
    `install.cut` / `snapshot_beyond_acked`; on the real node 725 of the install's 1172 byte cuts.) -/
theorem truncate_first_install_loses_acknowledged_entries_witness :
    ¬ InstallCutKeepsAcked installSnapshotTruncateFirst := by
  intro hall
  have := hall 0 [.ev (.appendEntries 1 1 0 0 [(1, 101), (1, 102), (1, 103), (1, 104), (1, 105)])] 8 1
    [(1, 101), (1, 102), (1, 103), (1, 104), (1, 105), (1, 106), (1, 107), (1, 108)] 1
    ⟨5, 1, 105⟩ (by decide) (by decide)
  revert this
  decide +kernel

/-- the history of the witness -/
def installDemo : List ActF := [.ev (.appendEntries 1 1 0 0 [(1, 101), (1, 102), (1, 103), (1, 104), (1, 105)])]
def installDemoSnap : List (Nat × Nat) :=
  [(1, 101), (1, 102), (1, 103), (1, 104), (1, 105), (1, 106), (1, 107), (1, 108)]

/-- non-vacuity of the three statements: all five entries are acknowledged and repeated by the snapshot,
    the install is accepted and writes 9 records (8 `LogEntryFull`, `LogTruncate{9}`) -/
example : (execF true (initSys 0) installDemo).ghost.acked.length = 5
    ∧ (∀ a ∈ (execF true (initSys 0) installDemo).ghost.acked, a ∈ mkEntries 0 installDemoSnap)
    ∧ (step (execF true (initSys 0) installDemo).node (.installSnapshot 8 1 installDemoSnap)).reply = .snapshot true
    ∧ (recs (step (execF true (initSys 0) installDemo).node (.installSnapshot 8 1 installDemoSnap)).micros).length = 9
    ∧ (recs (step (execF true (initSys 0) installDemo).node (.installSnapshot 8 1 installDemoSnap)).micros).getLast?
        = some (.logTruncate 9) := by decide +kernel
/-- the truncate-first order after 1, 3 and 6 of its 9 records: log empty, [1, 2], [1 … 5]; complete: the
    same log as the real order — no crash-free run tells the two apart -/
example :
    let σ := execF true (initSys 0) installDemo
    let rs := recs (installSnapshotTruncateFirst σ.node 8 1 installDemoSnap).micros
    rs.head? = some (.logTruncate 1) ∧ rs.length = 9
    ∧ (restart 0 (fromEntries (σ.dur ++ rs.take 1))).log = []
    ∧ (restart 0 (fromEntries (σ.dur ++ rs.take 3))).log = [⟨1, 1, 101⟩, ⟨2, 1, 102⟩]
    ∧ (restart 0 (fromEntries (σ.dur ++ rs.take 6))).log.length = 5
    ∧ (restart 0 (fromEntries (σ.dur ++ rs))).log
        = (restart 0 (fromEntries (σ.dur ++ recs (step σ.node (.installSnapshot 8 1 installDemoSnap)).micros))).log
    ∧ (installSnapshotTruncateFirst σ.node 8 1 installDemoSnap).node
        = (step σ.node (.installSnapshot 8 1 installDemoSnap)).node := by decide +kernel
/-- why the `microG`-based theorems cannot see it: the variant's first record releases every obligation
    about the log, so "every entry still owed is recovered" holds trivially at that cut -/
example :
    let σ := execF true (initSys 0) installDemo
    (microAllG σ.ghost ((installSnapshotTruncateFirst σ.node 8 1 installDemoSnap).micros.take 1)).acked = [] := by
  decide +kernel
/-- what the order does remove (and the real install removes only with its last record): a snapshot 1..3
    over the acknowledged 1..5 keeps 4 and 5 through every proper prefix and drops them at `LogTruncate{4}`;
    entries 1..3 — the ones the theorem speaks about — are there throughout -/
example :
    let σ := execF true (initSys 0) installDemo
    let rs := recs (step σ.node (.installSnapshot 3 1 (installDemoSnap.take 3))).micros
    rs.length = 4
    ∧ (restart 0 (fromEntries (σ.dur ++ rs.take 3))).log.length = 5
    ∧ (restart 0 (fromEntries (σ.dur ++ rs))).log = [⟨1, 1, 101⟩, ⟨2, 1, 102⟩, ⟨3, 1, 103⟩] := by decide +kernel
/-- a snapshot that contradicts the log and leaves a conflicting local suffix beyond its index (entries 1, 2
    repeated, 3 replaced, 4 and 5 beyond): 1 and 2 survive every cut, here after TV2, F1, F2, F3 -/
example :
    let σ := execF true (initSys 0) installDemo
    let rs := recs (step σ.node (.installSnapshot 3 2 [(1, 101), (1, 102), (2, 203)])).micros
    rs.length = 5
    ∧ (restart 0 (fromEntries (σ.dur ++ rs.take 4))).log
        = [⟨1, 1, 101⟩, ⟨2, 1, 102⟩, ⟨3, 2, 203⟩, ⟨4, 1, 104⟩, ⟨5, 1, 105⟩] := by decide +kernel

/-! ### log compaction (`truncate_log`, `log_base_index`)

  Compaction (a leader's `tick` → `try_auto_compact` → `perform_compaction` → `truncate_log`, or
  `with_store`'s re-truncation) drains the head of the IN-MEMORY log and moves `log_base_index`; it writes
  nothing to the WAL.  In the model `Node.log` stays the whole log and the node's `persistent.log` is
  `log.drop base`; `compact` is an event of `step` (so every theorem above quantifies over histories with
  compactions anywhere), handlers skip entries at or below `base` and treat a compacted `prev_log_index`
  as consistent, as the code does. -/

/-- **Compaction never costs a restart anything**: after any history with compactions, failures and
    crashes, the log a restart recovers is the whole log, of which the node's in-memory log is the part
    beyond `log_base_index`; and compaction itself appends no record. -/
theorem compacted_node_restarts_with_its_whole_log (id : Nat) (acts : List ActF) :
    let σ := execF true (initSys id) acts
    let r := restart id (fromEntries σ.dur)
    r.log = σ.node.log ∧ (σ.node.log.drop σ.node.base) <:+ r.log ∧ r.base = 0
      ∧ ∀ i, recs (step σ.node (.compact i)).micros = [] := by
  have h := all_obligations_survive_wal_failures id acts
  refine ⟨h.2.2.2.2.2.symm, ?_, rfl, fun i => rfl⟩
  rw [← h.2.2.2.2.2]
  exact List.drop_suffix _ _

/-- a follower with entries 1..5, trailing = 1: compaction at snapshot index 4 drains 3 entries from memory
    (base 3); a heartbeat whose prev (2) is compacted is accepted, an entry at a compacted index (3) is
    skipped even though its term differs, entry 6 is appended and logged; a restart has all six -/
def compactDemo : List ActF :=
  [.ev (.appendEntries 1 2 0 0 [(1, 11), (1, 12), (1, 13), (1, 14), (1, 15)]),
   .ev (.compact 4),
   .ev (.appendEntries 2 3 2 9 [(2, 99)]),
   .ev (.appendEntries 2 3 5 1 [(2, 16)])]
example : (execF true { node := { id := 0, trailing := 1 } } (compactDemo.take 2)).node.base = 3
    ∧ ((execF true { node := { id := 0, trailing := 1 } } (compactDemo.take 2)).node.log.drop 3).length = 2
    ∧ (step (execF true { node := { id := 0, trailing := 1 } } (compactDemo.take 2)).node
          (.appendEntries 2 3 2 9 [(2, 99)])).reply = .append 2 true 3
    ∧ recs (step (execF true { node := { id := 0, trailing := 1 } } (compactDemo.take 2)).node
          (.appendEntries 2 3 2 9 [(2, 99)])).micros = [.termAndVote 2 none]
    ∧ (execF true { node := { id := 0, trailing := 1 } } compactDemo).node.log.length = 6
    ∧ (restart 0 (fromEntries (execF true { node := { id := 0, trailing := 1 } } compactDemo).dur)).log.length = 6 := by
  decide +kernel
/-- with the default `snapshot_trailing_logs` (100) the same compaction drains nothing -/
example : (execF true (initSys 0) (compactDemo.take 2)).node.base = 0 := by decide +kernel

/-! ### elections started by messages

  `start_election` is also reached from `handle_pre_vote_response` (a quorum of pre-votes) and from
  `handle_timeout_now` (leadership transfer), and `become_leader` from `handle_request_vote_response` (a
  quorum of votes).  These are events of `step`, so every theorem above covers them; the examples show the
  paths are taken. -/

def electDemo : List Act :=
  [.ev .startPreVote, .ev (.preVoteResponse 1 0 true), .ev (.preVoteResponse 1 0 true),
   .ev (.preVoteResponse 2 0 true),
   .ev (.voteResponse 1 1 true), .ev (.voteResponse 2 1 true), .ev (.propose 7),
   .ev (.appendEntries 2 3 0 0 []), .crash (.timeoutNow 3 2 3) 1, .ev (.timeoutNow 3 2 3),
   .ev (.appendEntries 2 3 0 0 []), .ev (.timeoutNow 4 2 3)]
/-- two distinct pre-votes plus its own make the quorum of 3 (a repeated one is not counted): the election
    writes TV(1, self) before anything is announced -/
example : (exec (initSys 0) (electDemo.take 3)).node.term = 0
    ∧ recs (step (exec (initSys 0) (electDemo.take 3)).node (.preVoteResponse 2 0 true)).micros
        = [.termAndVote 1 (some 0)]
    ∧ (exec (initSys 0) (electDemo.take 4)).node.role = .candidate
    ∧ (exec (initSys 0) (electDemo.take 6)).node.role = .leader
    ∧ (exec (initSys 0) (electDemo.take 7)).node.log = [⟨1, 1, 7⟩] := by decide +kernel
/-- TimeoutNow from the believed leader: a crash after the record but before the announcement restarts the
    node in term 3 with its own vote; a TimeoutNow of a stale term (the node is now in term 3) is ignored;
    after a new heartbeat from leader 3 in term 3 … the last one names leader 3 and is honoured -/
example : (exec (initSys 0) (electDemo.take 9)).node.term = 3
    ∧ (exec (initSys 0) (electDemo.take 9)).node.votedFor = some 0
    ∧ (exec (initSys 0) (electDemo.take 9)).ghost.votes = [(1, 0)]
    ∧ (exec (initSys 0) (electDemo.take 10)).node.term = 3
    ∧ (exec (initSys 0) electDemo).node.term = 3 := by decide +kernel

end Neumann.RaftWal.Props
