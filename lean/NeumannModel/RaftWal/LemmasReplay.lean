import NeumannModel.RaftWal.LemmasRot
/-
  C10, helper lemmas for `PropsReplay.lean`: recovery of a whole well-formed file (records of any
  length), and the frame-length-capped replay variant (`parseCapped`, NOT the code), which reads a
  well-formed file up to — and not including — its first record whose payload is longer than the cap.
-/
namespace Neumann.RaftWal
open FramedLog

section replay
variable (crc : List Nat → Nat) (ser : WalEntry → List Nat) (deser : List Nat → Option WalEntry)

/-- what the writer guarantees about the records of ONE log: bitcode decodes what it encoded, the
    payload length fits the 4-byte length field, the checksum is a `u32`.  No other bound on the
    payload lengths.  (`GoodSer` is the same for every record there is.) -/
def CodecOK (d : List WalEntry) : Prop :=
  ∀ r ∈ d, deser (ser r) = some r ∧ (ser r).length < U32 ∧ crc (ser r) < U32

instance (d : List WalEntry) : Decidable (CodecOK crc ser deser d) :=
  inferInstanceAs (Decidable (∀ r ∈ d, deser (ser r) = some r ∧ (ser r).length < U32 ∧ crc (ser r) < U32))

theorem codecOK_of_goodSer (h : GoodSer crc ser deser) (d : List WalEntry) : CodecOK crc ser deser d :=
  fun r _ => ⟨h.rt r, h.len r, h.crcb _⟩

theorem codecOK_append (d e : List WalEntry) :
    CodecOK crc ser deser (d ++ e) ↔ CodecOK crc ser deser d ∧ CodecOK crc ser deser e := by
  unfold CodecOK
  constructor
  · intro h; exact ⟨fun r hr => h r (by simp [hr]), fun r hr => h r (by simp [hr])⟩
  · intro ⟨h1, h2⟩ r hr
    rcases List.mem_append.mp hr with h | h
    · exact h1 r h
    · exact h2 r h

theorem openRepair_fileOf (d : List WalEntry) (h : CodecOK crc ser deser d) :
    openRepair (fileOf crc ser d) = fileOf crc ser d := by
  have hlen : ∀ p ∈ d.map ser, p.length < U32 := fun p hp => (goodrec_of crc ser deser d h p hp).1
  have := openRepair_take crc (d.map ser) (fileOf crc ser d).length hlen
  unfold fileOf at this ⊢
  rw [List.take_length] at this
  rw [this]
  have hw : wholeWithin crc (d.map ser) (encodeAll crc (d.map ser)).length = (d.map ser).length := by
    have h1 := wholeWithin_ge crc (d.map ser) (d.map ser).length (encodeAll crc (d.map ser)).length
      (Nat.le_refl _) (by rw [List.take_length]; exact Nat.le_refl _)
    have h2 := wholeWithin_le crc (d.map ser) (encodeAll crc (d.map ser)).length
    omega
  rw [hw, List.take_length]

end replay

section capped
variable (crc : List Nat → Nat) (dec : List Nat → Bool)

theorem parseCappedAux_cons (cap fuel : Nat) (p rest : List Nat) (hp : GoodRec crc dec p) :
    parseCappedAux cap crc dec (fuel + 1) (encodeRec crc p ++ rest)
      = if cap < p.length then ([], PEnd.torn)
        else (p :: (parseCappedAux cap crc dec fuel rest).1, (parseCappedAux cap crc dec fuel rest).2) := by
  obtain ⟨h1, h2, h3⟩ := hp
  rw [parseCappedAux]
  have hl : ¬ (encodeRec crc p ++ rest).length < 8 := by simp [encodeRec, le32]
  have e1 : (encodeRec crc p ++ rest).take 4 = le32 p.length := by simp [encodeRec, le32]
  have e2 : ((encodeRec crc p ++ rest).drop 4).take 4 = le32 (crc p) := by simp [encodeRec, le32]
  have e3 : (encodeRec crc p ++ rest).drop 8 = p ++ rest := by simp [encodeRec, le32]
  simp only [hl, if_false, e1, e2, e3, le32_rt _ h1, le32_rt _ h2]
  by_cases hc : cap < p.length
  · simp [hc]
  · simp [hc, h3]

/-- the capped loop over a whole well-formed file: the records before the first long one; it ends
    cleanly iff there is no long one -/
theorem parseCappedAux_encodeAll (cap : Nat) (ps : List (List Nat)) (h : ∀ p ∈ ps, GoodRec crc dec p)
    (fuel : Nat) (hf : (encodeAll crc ps).length < fuel) :
    (parseCappedAux cap crc dec fuel (encodeAll crc ps)).1 = ps.takeWhile (fun p => decide (p.length ≤ cap))
    ∧ (parseCappedAux cap crc dec fuel (encodeAll crc ps)).2
        = if ps.all (fun p => decide (p.length ≤ cap)) then PEnd.clean else PEnd.torn := by
  induction ps generalizing fuel with
  | nil =>
    cases fuel with
    | zero => simp [encodeAll, parseCappedAux]
    | succ f => simp [encodeAll, parseCappedAux]
  | cons p ps ih =>
    have henc : encodeAll crc (p :: ps) = encodeRec crc p ++ encodeAll crc ps := by simp [encodeAll]
    cases fuel with
    | zero => omega
    | succ f =>
      rw [henc] at hf ⊢
      rw [parseCappedAux_cons crc dec cap f p _ (h p (by simp))]
      have hf' : (encodeAll crc ps).length < f := by
        simp only [List.length_append, encodeRec_length] at hf; omega
      obtain ⟨i1, i2⟩ := ih (fun q hq => h q (by simp [hq])) f hf'
      by_cases hc : cap < p.length
      · have : ¬ p.length ≤ cap := by omega
        simp [hc, this]
      · have : p.length ≤ cap := by omega
        simp [hc, this, i1, i2]

theorem parseCapped_encodeAll (cap : Nat) (ps : List (List Nat)) (h : ∀ p ∈ ps, GoodRec crc dec p) :
    (parseCapped cap crc dec (encodeAll crc ps)).1 = ps.takeWhile (fun p => decide (p.length ≤ cap))
    ∧ (parseCapped cap crc dec (encodeAll crc ps)).2
        = if ps.all (fun p => decide (p.length ≤ cap)) then PEnd.clean else PEnd.torn :=
  parseCappedAux_encodeAll crc dec cap ps h _ (Nat.lt_succ_self _)

end capped

section cappedRecover
variable (crc : List Nat → Nat) (ser : WalEntry → List Nat) (deser : List Nat → Option WalEntry)

theorem takeWhile_all {α : Type} (q : α → Bool) (l : List α) (h : ∀ a ∈ l, q a = true) : l.takeWhile q = l := by
  induction l with
  | nil => rfl
  | cons b l ih =>
    rw [List.takeWhile_cons, h b List.mem_cons_self, if_pos rfl, ih (fun a ha => h a (List.mem_cons_of_mem _ ha))]

def shortPrefix (cap : Nat) (d : List WalEntry) : List WalEntry :=
  d.takeWhile (fun r => decide ((ser r).length ≤ cap))

/-- **The capped recovery of a well-formed file** is the recovery state of the records before the
    first one whose payload is longer than the cap — and nothing after it. -/
theorem recoverCapped_fileOf (cap : Nat) (d : List WalEntry) (h : CodecOK crc ser deser d) :
    recoverBytesCapped cap crc deser (fileOf crc ser d)
      = .ok (fromEntries (shortPrefix ser cap d)) (shortPrefix ser cap d).length
          (if d.all (fun r => decide ((ser r).length ≤ cap)) then .clean else .torn) := by
  obtain ⟨h1, h2⟩ := parseCapped_encodeAll crc (fun p => (deser p).isSome) cap (d.map ser)
    (goodrec_of crc ser deser d h)
  have hall : (d.map ser).all (fun p => decide (p.length ≤ cap)) = d.all (fun r => decide ((ser r).length ≤ cap)) := by
    rw [List.all_map]; rfl
  have htw : (d.map ser).takeWhile (fun p => decide (p.length ≤ cap)) = (shortPrefix ser cap d).map ser := by
    unfold shortPrefix; rw [List.takeWhile_map]; rfl
  have hsub : CodecOK crc ser deser (shortPrefix ser cap d) :=
    fun r hr => h r ((List.takeWhile_prefix _).subset hr)
  unfold recoverBytesCapped fileOf
  simp only [h1, h2, hall, htw, filterMap_deser ser deser _ (fun r hr => (hsub r hr).1), List.length_map]
  cases d.all (fun r => decide ((ser r).length ≤ cap)) <;> rfl

end cappedRecover

/-- a payload of 2 MiB (what the block of one log entry with a large `Put` serializes to); used by the
    non-vacuity example of `open_and_replay_accept_frames_of_any_length` -/
def bigPayload : List Nat := List.replicate 2097152 7
theorem bigPayload_length : bigPayload.length = 2097152 := List.length_replicate ..

end Neumann.RaftWal
