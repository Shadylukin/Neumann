import NeumannModel.RaftWal.Model
import NeumannModel.Common.FramedLogLemmas
/-
  C10.  First pure facts about `applyEntry` (they hold for ARBITRARY records, whoever wrote them): the
  recovered term never decreases and a vote, once recovered for a term, is never replaced by a
  different one.
-/
namespace Neumann.RaftWal

/-- the vote obligation: the node is past term `t`, or still in it with the same vote -/
def VoteOk (s : RState) (v : Nat × Nat) : Prop :=
  v.1 < s.term ∨ (v.1 = s.term ∧ s.votedFor = some v.2)

theorem applyEntry_tv (s : RState) (r : WalEntry) :
    s.term < (applyEntry s r).term
    ∨ ((applyEntry s r).term = s.term ∧ ((applyEntry s r).votedFor = s.votedFor ∨ s.votedFor = none)) := by
  cases r <;> dsimp only [applyEntry] <;> (repeat' split) <;> simp_all

theorem applyEntry_term_mono (s : RState) (r : WalEntry) : s.term ≤ (applyEntry s r).term := by
  rcases applyEntry_tv s r with h | ⟨h, _⟩ <;> omega

theorem applyAll_term_mono (s : RState) (rs : List WalEntry) : s.term ≤ (applyAll s rs).term := by
  induction rs generalizing s with
  | nil => exact Nat.le_refl _
  | cons r rs ih => exact Nat.le_trans (applyEntry_term_mono s r) (ih (applyEntry s r))

theorem applyEntry_voteOk (s : RState) (r : WalEntry) (v : Nat × Nat) (h : VoteOk s v) :
    VoteOk (applyEntry s r) v := by
  unfold VoteOk at *
  rcases applyEntry_tv s r with hlt | ⟨ht, hv | hn⟩
  · exact Or.inl (by omega)
  · rw [ht, hv]; exact h
  · rcases h with h | ⟨_, h⟩
    · exact Or.inl (by omega)
    · rw [hn] at h; cases h

theorem applyAll_voteOk (s : RState) (rs : List WalEntry) (v : Nat × Nat) (h : VoteOk s v) :
    VoteOk (applyAll s rs) v := by
  induction rs generalizing s with
  | nil => exact h
  | cons r rs ih => exact ih _ (applyEntry_voteOk s r v h)

end Neumann.RaftWal

/-! The in-memory log and the recovered map stay equal (persist-and-act in lock step). -/
namespace Neumann.RaftWal

def entKV (e : LogEntry) : Nat × List Nat := (e.index, encEntry e)

/-- entries are numbered `b+1, b+2, …` -/
def WFfrom (b : Nat) : List LogEntry → Prop
  | [] => True
  | e :: r => e.index = b + 1 ∧ WFfrom (b + 1) r

def WF (log : List LogEntry) : Prop := WFfrom 0 log

def Sync (n : Node) (s : RState) : Prop :=
  n.term = s.term ∧ n.votedFor = s.votedFor ∧ s.logMap = n.log.map entKV

def Shape (s : RState) : Prop := ∃ log, WF log ∧ s.logMap = log.map entKV

def Sat (s : RState) (g : Ghost) : Prop :=
  g.actedTerm ≤ s.term ∧ (∀ v ∈ g.votes, VoteOk s v) ∧ (∀ e ∈ g.acked, entKV e ∈ s.logMap)

def P (s : RState) (g : Ghost) : Prop := Sat s g ∧ Shape s

def microS (s : RState) : Micro → RState
  | .wal r => applyEntry s r
  | _ => s

def microAllS (s : RState) (ms : List Micro) : RState := ms.foldl microS s

/-- `P` holds before the first micro step and after every one of them -/
def Chain (s : RState) (g : Ghost) : List Micro → Prop
  | [] => P s g
  | μ :: ms => P s g ∧ Chain (microS s μ) (microG g μ) ms

theorem chain_head {s g ms} (h : Chain s g ms) : P s g := by
  cases ms with
  | nil => exact h
  | cons μ ms => exact h.1

theorem chain_append {s g} (a b : List Micro) :
    Chain s g (a ++ b) ↔ Chain s g a ∧ Chain (microAllS s a) (microAllG g a) b := by
  induction a generalizing s g with
  | nil =>
    simp only [List.nil_append, Chain, microAllS, microAllG, List.foldl_nil]
    exact ⟨fun h => ⟨chain_head h, h⟩, fun h => h.2⟩
  | cons μ a ih =>
    simp only [List.cons_append, Chain, microAllS, microAllG, List.foldl_cons]
    rw [ih]
    simp only [microAllS, microAllG]
    exact ⟨fun h => ⟨⟨h.1, h.2.1⟩, h.2.2⟩, fun h => ⟨h.1.1, h.1.2, h.2⟩⟩

theorem chain_take {s g ms} (h : Chain s g ms) (k : Nat) :
    P (microAllS s (ms.take k)) (microAllG g (ms.take k)) := by
  induction ms generalizing s g k with
  | nil => simpa [microAllS, microAllG, Chain] using h
  | cons μ ms ih =>
    cases k with
    | zero => simpa [microAllS, microAllG] using h.1
    | succ k =>
      simp only [List.take_succ_cons, microAllS, microAllG, List.foldl_cons]
      exact ih h.2 k

theorem chain_end {s g ms} (h : Chain s g ms) : P (microAllS s ms) (microAllG g ms) := by
  have := chain_take h ms.length
  simpa using this

theorem microAllS_recs (s : RState) (ms : List Micro) : microAllS s ms = applyAll s (recs ms) := by
  induction ms generalizing s with
  | nil => rfl
  | cons μ ms ih => cases μ <;> exact ih _

theorem fromEntries_append (d rs : List WalEntry) : fromEntries (d ++ rs) = applyAll (fromEntries d) rs := by
  simp [fromEntries, applyAll, List.foldl_append]

theorem wf_take {b : Nat} {log : List LogEntry} (h : WFfrom b log) (k : Nat) : WFfrom b (log.take k) := by
  induction log generalizing b k with
  | nil => simp [WFfrom]
  | cons x r ih =>
    cases k with
    | zero => simp [WFfrom]
    | succ k => simp only [List.take_succ_cons, WFfrom] at *; exact ⟨h.1, ih h.2 k⟩

theorem wf_index {b : Nat} {log : List LogEntry} (h : WFfrom b log) {e : LogEntry} (he : e ∈ log) :
    b < e.index ∧ e.index ≤ b + log.length := by
  induction log generalizing b with
  | nil => simp at he
  | cons x r ih =>
    simp only [WFfrom] at h
    rcases List.mem_cons.mp he with rfl | hr
    · simp only [List.length_cons]; omega
    · have := ih h.2 hr
      simp only [List.length_cons]; omega

theorem mapRemoveFrom_take {b : Nat} {log : List LogEntry} (h : WFfrom b log) (f : Nat) :
    mapRemoveFrom f (log.map entKV) = (log.take (f - 1 - b)).map entKV := by
  induction log generalizing b with
  | nil => simp [mapRemoveFrom]
  | cons x r ih =>
    simp only [WFfrom] at h
    have ih' := ih h.2
    simp only [mapRemoveFrom] at ih' ⊢
    show List.filter (fun kv => decide (kv.1 < f)) ((x.index, encEntry x) :: r.map entKV) = _
    by_cases hlt : x.index < f
    · have : f - 1 - b = (f - 1 - (b + 1)) + 1 := by omega
      rw [this, List.take_succ_cons]
      simp only [List.filter_cons, hlt, decide_true, if_true, List.map_cons]
      rw [ih']; rfl
    · have h0 : f - 1 - b = 0 := by omega
      have h1 : f - 1 - (b + 1) = 0 := by omega
      rw [h0]
      simp only [List.filter_cons, hlt, decide_false, List.take_zero, List.map_nil]
      rw [ih', h1]; simp

theorem decEntry_encEntry (e : LogEntry) : decEntry (encEntry e) = some e := by
  cases e; rfl

theorem filterMap_dec (log : List LogEntry) :
    ((log.map entKV).map (·.2)).filterMap decEntry = log := by
  induction log with
  | nil => rfl
  | cons x r ih =>
    simp only [List.map_cons, List.filterMap_cons, entKV, decEntry_encEntry]
    congr 1

theorem entKV_inj {a b : LogEntry} (h : entKV a = entKV b) : a = b := by
  cases a; cases b
  simp only [entKV, encEntry, Prod.mk.injEq, List.cons.injEq] at h
  obtain ⟨h1, _, h2, h3, _⟩ := h
  subst h1; subst h2; subst h3; rfl

theorem mem_map_entKV {a : LogEntry} {log : List LogEntry} : entKV a ∈ log.map entKV ↔ a ∈ log := by
  constructor
  · intro h
    obtain ⟨b, hb, hbe⟩ := List.mem_map.mp h
    rw [← entKV_inj hbe]; exact hb
  · exact List.mem_map_of_mem

theorem wf_overwrite {b j : Nat} {log : List LogEntry} {e : LogEntry} (h : WFfrom b log)
    (hj : j ≤ log.length) (he : e.index = b + j + 1) : WFfrom b (log.take j ++ e :: log.drop (j + 1)) := by
  induction log generalizing b j with
  | nil =>
    have : j = 0 := by simpa using hj
    subst this
    simp only [List.take_nil, List.drop_nil, List.nil_append, WFfrom]
    exact ⟨by omega, trivial⟩
  | cons x r ih =>
    simp only [WFfrom] at h
    cases j with
    | zero =>
      simp only [List.take_zero, List.nil_append, Nat.zero_add, List.drop_succ_cons, List.drop_zero, WFfrom]
      exact ⟨by omega, h.2⟩
    | succ j =>
      simp only [List.take_succ_cons, List.drop_succ_cons, List.cons_append, WFfrom]
      exact ⟨h.1, ih h.2 (by simpa using hj) (by omega)⟩

theorem mapInsert_overwrite {b j : Nat} {log : List LogEntry} (h : WFfrom b log) (e : LogEntry)
    (hj : j ≤ log.length) (he : e.index = b + j + 1) :
    mapInsert e.index (encEntry e) (log.map entKV) = (log.take j ++ e :: log.drop (j + 1)).map entKV := by
  induction log generalizing b j with
  | nil =>
    have : j = 0 := by simpa using hj
    subst this
    simp [mapInsert, entKV]
  | cons x r ih =>
    simp only [WFfrom] at h
    show mapInsert e.index (encEntry e) ((x.index, encEntry x) :: r.map entKV) = _
    cases j with
    | zero =>
      have hx : x.index = e.index := by omega
      simp [mapInsert, hx, entKV]
    | succ j =>
      have h1 : ¬ e.index < x.index := by omega
      have h2 : ¬ e.index = x.index := by omega
      simp only [mapInsert, h1, h2, if_false, List.take_succ_cons, List.drop_succ_cons, List.cons_append,
        List.map_cons]
      rw [ih h.2 (by simpa using hj) (by omega)]
      rfl

theorem mem_overwrite {b j : Nat} {log : List LogEntry} (h : WFfrom b log) {a : LogEntry} (e : LogEntry)
    (ha : a ∈ log) (hne : a.index ≠ b + j + 1) : a ∈ log.take j ++ e :: log.drop (j + 1) := by
  induction log generalizing b j with
  | nil => simp at ha
  | cons x r ih =>
    simp only [WFfrom] at h
    cases j with
    | zero =>
      rcases List.mem_cons.mp ha with rfl | hr
      · omega
      · simp [hr]
    | succ j =>
      simp only [List.take_succ_cons, List.drop_succ_cons, List.cons_append, List.mem_cons]
      rcases List.mem_cons.mp ha with rfl | hr
      · exact Or.inl rfl
      · exact Or.inr (ih h.2 hr (by omega))

theorem overwrite_at_end (log : List LogEntry) (e : LogEntry) :
    log.take log.length ++ e :: log.drop (log.length + 1) = log ++ [e] := by
  rw [List.take_length, List.drop_eq_nil_of_le (Nat.le_succ _)]

theorem wf_append {b : Nat} {log : List LogEntry} {e : LogEntry} (h : WFfrom b log)
    (he : e.index = b + log.length + 1) : WFfrom b (log ++ [e]) := by
  have := wf_overwrite h (Nat.le_refl _) he
  rwa [overwrite_at_end] at this

theorem mapInsert_append {b : Nat} {log : List LogEntry} (h : WFfrom b log) (e : LogEntry)
    (he : e.index = b + log.length + 1) :
    mapInsert e.index (encEntry e) (log.map entKV) = (log ++ [e]).map entKV := by
  rw [mapInsert_overwrite h e (Nat.le_refl _) he, overwrite_at_end]

theorem restart_sync (id : Nat) (s : RState) (h : Shape s) :
    Sync (restart id s) s ∧ WF (restart id s).log := by
  obtain ⟨log, hwf, hm⟩ := h
  have hl : (restart id s).log = log := by
    simp only [restart, recoveredLog, hm]
    exact filterMap_dec log
  refine ⟨⟨rfl, rfl, ?_⟩, ?_⟩
  · rw [hl]; exact hm
  · rw [hl]; exact hwf

end Neumann.RaftWal

namespace Neumann.RaftWal

theorem shape_of_log {s : RState} {log : List LogEntry} (hwf : WF log) (hm : s.logMap = log.map entKV) :
    Shape s := ⟨log, hwf, hm⟩

theorem apply_tv_higher (s : RState) (t : Nat) (v : Option Nat) (h : t > s.term) :
    applyEntry s (.termAndVote t v) = { s with term := t, votedFor := v } := by
  simp [applyEntry, h]

theorem apply_tv_same_none (s : RState) (v : Option Nat) (h : s.votedFor = none) :
    applyEntry s (.termAndVote s.term v) = { s with votedFor := v } := by
  simp [applyEntry, h]

theorem apply_tv_same_some (s : RState) (c : Nat) (h : s.votedFor = some c) :
    applyEntry s (.termAndVote s.term (some c)) = s := by
  simp [applyEntry, h]

theorem apply_tv_grant (s : RState) (c : Nat) (h : s.votedFor = none ∨ s.votedFor = some c) :
    applyEntry s (.termAndVote s.term (some c)) = { s with votedFor := some c } := by
  rcases h with h | h
  · exact apply_tv_same_none s _ h
  · rw [apply_tv_same_some s c h]; cases s; cases h; rfl

theorem P_nonlog (s : RState) (g : Ghost) (r : WalEntry) (hP : P s g)
    (hl : (applyEntry s r).logMap = s.logMap) : P (applyEntry s r) g := by
  obtain ⟨⟨h1, h2, h3⟩, log, hwf, hm⟩ := hP
  refine ⟨⟨?_, ?_, ?_⟩, log, hwf, by rw [hl]; exact hm⟩
  · have := applyEntry_term_mono s r; omega
  · intro v hv; exact applyEntry_voteOk s r v (h2 v hv)
  · intro e he; rw [hl]; exact h3 e he

theorem applyEntry_logMap (s : RState) (r : WalEntry) :
    (applyEntry s r).logMap = match r with
      | .logEntryFull i _ d => mapInsert i d s.logMap
      | .logTruncate f => mapRemoveFrom f s.logMap
      | _ => s.logMap := by
  cases r <;> dsimp only [applyEntry] <;> (repeat' split) <;> rfl

theorem P_ackTerm (s : RState) (g : Ghost) (t : Nat) (hP : P s g) (ht : t ≤ s.term) :
    P s (microG g (.ackTerm t)) := by
  obtain ⟨⟨h1, h2, h3⟩, hs⟩ := hP
  refine ⟨⟨?_, h2, h3⟩, hs⟩
  simp only [microG]; omega

theorem P_ackVote (s : RState) (g : Ghost) (t c : Nat) (hP : P s g) (hv : VoteOk s (t, c)) :
    P s (microG g (.ackVote t c)) := by
  obtain ⟨⟨h1, h2, h3⟩, hs⟩ := hP
  refine ⟨⟨h1, ?_, h3⟩, hs⟩
  intro v hv'
  simp only [microG, List.mem_cons] at hv'
  rcases hv' with rfl | h
  · exact hv
  · exact h2 v h

theorem P_ackLog (s : RState) (g : Ghost) (es : List LogEntry) (hP : P s g)
    (he : ∀ e ∈ es, entKV e ∈ s.logMap) : P s (microG g (.ackLog es)) := by
  obtain ⟨⟨h1, h2, h3⟩, hs⟩ := hP
  refine ⟨⟨h1, h2, ?_⟩, hs⟩
  intro e hm
  simp only [microG, List.mem_append] at hm
  rcases hm with h | h
  · exact he e h
  · exact h3 e h

/-- the loop invariant of `append_leader_entries` -/
def LoopInv (log : List LogEntry) (s : RState) (g : Ghost) : Prop :=
  WF log ∧ s.logMap = log.map entKV ∧ Sat s g

theorem loopInv_P {log s g} (h : LoopInv log s g) : P s g := ⟨h.2.2, log, h.1, h.2.1⟩

theorem microG_wal_tv (g : Ghost) (r : WalEntry) :
    (microG g (.wal r)).actedTerm = g.actedTerm ∧ (microG g (.wal r)).votes = g.votes := by
  cases r <;> exact ⟨rfl, rfl⟩

/-- ANY record keeps the term and vote obligations: recovery is monotone, and no record touches them -/
theorem sat_wal_tv {s : RState} {g : Ghost} (r : WalEntry) (h1 : g.actedTerm ≤ s.term)
    (h2 : ∀ v ∈ g.votes, VoteOk s v) :
    (microG g (.wal r)).actedTerm ≤ (applyEntry s r).term
      ∧ ∀ v ∈ (microG g (.wal r)).votes, VoteOk (applyEntry s r) v := by
  obtain ⟨e1, e2⟩ := microG_wal_tv g r
  rw [e1, e2]
  exact ⟨Nat.le_trans h1 (applyEntry_term_mono s r), fun v hv => applyEntry_voteOk s r v (h2 v hv)⟩

/-- `persist_log_entry` of an entry with index `j+1 ≤ len+1`: position `j` is overwritten (or the
    entry appended); acknowledged entries it replaces leave the obligations -/
theorem overwrite_step {log : List LogEntry} {s : RState} {g : Ghost} (h : LoopInv log s g) (e : LogEntry)
    (j : Nat) (hj : j ≤ log.length) (he : e.index = j + 1) :
    LoopInv (log.take j ++ e :: log.drop (j + 1)) (applyEntry s (.logEntryFull e.index e.term (encEntry e)))
      (microG g (.wal (.logEntryFull e.index e.term (encEntry e)))) := by
  obtain ⟨hwf, hm, h1, h2, h3⟩ := h
  have hins : mapInsert e.index (encEntry e) s.logMap = (log.take j ++ e :: log.drop (j + 1)).map entKV := by
    rw [hm]; exact mapInsert_overwrite hwf e hj (by omega)
  refine ⟨wf_overwrite hwf hj (by omega), hins, (sat_wal_tv _ h1 h2).1, (sat_wal_tv _ h1 h2).2, ?_⟩
  · intro a ha
    simp only [microG, List.mem_filter, Bool.or_eq_true, decide_eq_true_eq] at ha
    have hin := h3 a ha.1
    rw [hm] at hin
    have hal : a ∈ log := mem_map_entKV.mp hin
    simp only [applyEntry, hins]
    apply mem_map_entKV.mpr
    by_cases hidx : a.index = e.index
    · have hae : a = e := by
        rcases ha.2 with hne | henc
        · exact absurd hidx hne
        · exact entKV_inj (by simp only [entKV, hidx, henc])
      rw [hae]; simp
    · exact mem_overwrite hwf e hal (by omega)

theorem truncate_step {log : List LogEntry} {s : RState} {g : Ghost} (h : LoopInv log s g) (f : Nat) :
    LoopInv (log.take (f - 1)) (applyEntry s (.logTruncate f)) (microG g (.wal (.logTruncate f))) := by
  obtain ⟨hwf, hm, h1, h2, h3⟩ := h
  have hrm : mapRemoveFrom f s.logMap = (log.take (f - 1)).map entKV := by
    rw [hm]; have := mapRemoveFrom_take hwf f; simpa using this
  refine ⟨wf_take hwf _, hrm, (sat_wal_tv _ h1 h2).1, (sat_wal_tv _ h1 h2).2, ?_⟩
  · intro a ha
    simp only [microG, List.mem_filter, decide_eq_true_eq] at ha
    have hin := h3 a ha.1
    simp only [applyEntry, mapRemoveFrom, List.mem_filter, decide_eq_true_eq]
    exact ⟨hin, by simpa [entKV] using ha.2⟩

theorem microG_tv (g : Ghost) (t : Nat) (v : Option Nat) : microG g (.wal (.termAndVote t v)) = g := rfl

def IsLogRec : WalEntry → Prop
  | .logEntryFull _ _ _ => True
  | .logTruncate _ => True
  | _ => False

theorem microAllS_append (s : RState) (a b : List Micro) :
    microAllS s (a ++ b) = microAllS (microAllS s a) b := List.foldl_append ..

theorem microAllG_append (g : Ghost) (a b : List Micro) :
    microAllG g (a ++ b) = microAllG (microAllG g a) b := List.foldl_append ..

theorem microAllS_logrecs_tv (s : RState) (rs : List WalEntry) (h : ∀ r ∈ rs, IsLogRec r) :
    (microAllS s (rs.map Micro.wal)).term = s.term ∧ (microAllS s (rs.map Micro.wal)).votedFor = s.votedFor := by
  induction rs generalizing s with
  | nil => exact ⟨rfl, rfl⟩
  | cons r rs ih =>
    have h1 : (applyEntry s r).term = s.term ∧ (applyEntry s r).votedFor = s.votedFor := by
      have := h r List.mem_cons_self
      cases r <;> first | exact ⟨rfl, rfl⟩ | exact this.elim
    have h2 := ih (applyEntry s r) (fun q hq => h q (List.mem_cons_of_mem _ hq))
    exact ⟨h2.1.trans h1.1, h2.2.trans h1.2⟩

structure LoopOut (s : RState) (g : Ghost) (rs : List WalEntry) (log' : List LogEntry) : Prop where
  chain : Chain s g (rs.map Micro.wal)
  inv : LoopInv log' (microAllS s (rs.map Micro.wal)) (microAllG g (rs.map Micro.wal))

theorem LoopOut.nil {log : List LogEntry} {s : RState} {g : Ghost} (h : LoopInv log s g) : LoopOut s g [] log :=
  ⟨loopInv_P h, h⟩

theorem LoopOut.one {log log' : List LogEntry} {s : RState} {g : Ghost} {r : WalEntry} (h : LoopInv log s g)
    (h' : LoopInv log' (applyEntry s r) (microG g (.wal r))) : LoopOut s g [r] log' :=
  ⟨⟨loopInv_P h, loopInv_P h'⟩, h'⟩

theorem LoopOut.append {s : RState} {g : Ghost} {a b : List WalEntry} {log1 log2 : List LogEntry}
    (h1 : LoopOut s g a log1)
    (h2 : LoopOut (microAllS s (a.map Micro.wal)) (microAllG g (a.map Micro.wal)) b log2) :
    LoopOut s g (a ++ b) log2 := by
  refine ⟨?_, ?_⟩
  · rw [List.map_append]; exact (chain_append _ _).mpr ⟨h1.chain, h2.chain⟩
  · rw [List.map_append, microAllS_append, microAllG_append]; exact h2.inv

theorem push_out {log : List LogEntry} {s : RState} {g : Ghost} (h : LoopInv log s g) (e : LogEntry)
    (he : e.index = log.length + 1) :
    LoopOut s g [.logEntryFull e.index e.term (encEntry e)] (log ++ [e]) :=
  LoopOut.one h (overwrite_at_end log e ▸ overwrite_step h e log.length (Nat.le_refl _) he)

theorem appendOne_ok {log : List LogEntry} {s : RState} {g : Ghost} (base : Nat) (h : LoopInv log s g) (e : LogEntry)
    (hle : e.index ≤ log.length + 1) :
    LoopOut s g (appendOne base log e).1 (appendOne base log e).2 ∧ e.index ≤ (appendOne base log e).2.length := by
  unfold appendOne
  by_cases hgt : e.index > log.length
  · simp only [hgt, if_true]
    exact ⟨push_out h e (by omega), by rw [List.length_append, List.length_singleton]; omega⟩
  · simp only [hgt, if_false]
    by_cases h0 : e.index ≤ base
    · simp only [h0, if_true]; exact ⟨.nil h, by omega⟩
    · simp only [h0, if_false]
      cases hget : log[e.index - 1]? with
      | none => dsimp only; exact ⟨.nil h, by omega⟩
      | some old =>
        dsimp only
        by_cases hc : old.term ≠ e.term
        · rw [if_pos hc]
          have ht := truncate_step h e.index
          have hlen : (log.take (e.index - 1)).length = e.index - 1 := by
            rw [List.length_take]; omega
          exact ⟨(LoopOut.one h ht).append (push_out ht e (by omega)),
            by rw [List.length_append, hlen, List.length_singleton]; omega⟩
        · rw [if_neg hc]; exact ⟨.nil h, by dsimp only; omega⟩

theorem appendLoop_ok {log : List LogEntry} {s : RState} {g : Ghost} (base : Nat) (h : LoopInv log s g)
    (es : List LogEntry) (b : Nat) (hes : WFfrom b es) (hb : b ≤ log.length) :
    LoopOut s g (appendLoop base log es).1 (appendLoop base log es).2 := by
  induction es generalizing log s g b with
  | nil => exact .nil h
  | cons e es ih =>
    obtain ⟨he1, hes'⟩ := hes
    obtain ⟨o1, hlen⟩ := appendOne_ok base h e (by omega)
    exact o1.append (ih o1.inv (b + 1) hes' (by omega))

theorem appendOne_logonly (base : Nat) (log : List LogEntry) (e : LogEntry) :
    ∀ r ∈ (appendOne base log e).1, IsLogRec r := by
  intro r hr
  unfold appendOne at hr
  split at hr
  · simp at hr; subst hr; trivial
  · split at hr
    · simp at hr
    · split at hr
      · split at hr
        · simp at hr; rcases hr with rfl | rfl <;> trivial
        · simp at hr
      · simp at hr

theorem appendLoop_logonly (base : Nat) (log : List LogEntry) (es : List LogEntry) :
    ∀ r ∈ (appendLoop base log es).1, IsLogRec r := by
  induction es generalizing log with
  | nil => intro r hr; simp [appendLoop] at hr
  | cons e es ih =>
    intro r hr
    simp only [appendLoop, List.mem_append] at hr
    rcases hr with h | h
    · exact appendOne_logonly base log e r h
    · exact ih _ r h

/-- the log after writing the entries `es` over it one by one (the `for entry in &entries
    { persist_log_entry }` loop of `install_snapshot_entries`, seen from the recovered map) -/
def overwriteAll (log : List LogEntry) : List LogEntry → List LogEntry
  | [] => log
  | e :: es => overwriteAll (log.take (e.index - 1) ++ e :: log.drop e.index) es

theorem snapLoop_ok {log : List LogEntry} {s : RState} {g : Ghost} (h : LoopInv log s g)
    (es : List LogEntry) (b : Nat) (hes : WFfrom b es) (hb : b ≤ log.length) :
    LoopOut s g (es.map fun e => WalEntry.logEntryFull e.index e.term (encEntry e)) (overwriteAll log es)
    ∧ (overwriteAll log es).take (b + es.length) = log.take b ++ es := by
  induction es generalizing log s g b with
  | nil => exact ⟨.nil h, by simp [overwriteAll]⟩
  | cons e es ih =>
    obtain ⟨he1, hes'⟩ := hes
    have o1 := overwrite_step h e b hb he1
    have hL : overwriteAll log (e :: es) = overwriteAll (log.take b ++ e :: log.drop (b + 1)) es := by
      simp only [overwriteAll, he1, Nat.add_sub_cancel]
    have hlen : b + 1 ≤ (log.take b ++ e :: log.drop (b + 1)).length := by
      simp only [List.length_append, List.length_take, List.length_cons, List.length_drop]; omega
    obtain ⟨o2, htk⟩ := ih o1 (b + 1) hes' hlen
    rw [hL]
    refine ⟨(LoopOut.one h o1).append o2, ?_⟩
    have e1 : b + (e :: es).length = b + 1 + es.length := by simp only [List.length_cons]; omega
    have e2 : (log.take b ++ e :: log.drop (b + 1)).take (b + 1) = log.take b ++ [e] := by
      have hl : (log.take b).length = b := by simp only [List.length_take]; omega
      have h3 : (log.take b).take (b + 1) = log.take b := List.take_of_length_le (by omega)
      rw [List.take_append, hl, h3]
      simp
    rw [e1, htk, e2]; simp

theorem wf_getLast {b : Nat} {es : List LogEntry} (h : WFfrom b es) {l : LogEntry}
    (hl : es.getLast? = some l) : l.index = b + es.length := by
  induction es generalizing b with
  | nil => simp at hl
  | cons x r ih =>
    simp only [WFfrom] at h
    cases r with
    | nil =>
      simp only [List.getLast?_singleton, Option.some.injEq] at hl
      subst hl; simp only [List.length_cons, List.length_nil]; omega
    | cons y r' =>
      rw [List.getLast?_cons_cons] at hl
      have := ih h.2 hl
      simp only [List.length_cons] at this ⊢; omega

theorem installRecs_ok {log : List LogEntry} {s : RState} {g : Ghost} (h : LoopInv log s g)
    (snap : List LogEntry) (hwf : WFfrom 0 snap) {last : LogEntry} (hlast : snap.getLast? = some last) :
    LoopOut s g ((snap.map fun e => WalEntry.logEntryFull e.index e.term (encEntry e))
      ++ [.logTruncate (last.index + 1)]) snap := by
  obtain ⟨o, htk⟩ := snapLoop_ok h snap 0 hwf (Nat.zero_le _)
  have ht := truncate_step o.inv (last.index + 1)
  have hcut : (overwriteAll log snap).take (last.index + 1 - 1) = snap := by
    rw [wf_getLast hwf hlast, Nat.add_sub_cancel, htk, List.take_zero, List.nil_append]
  rw [hcut] at ht
  exact o.append (LoopOut.one o.inv ht)

theorem installRecs_logonly (snap : List LogEntry) (f : Nat) :
    ∀ r ∈ (snap.map fun e => WalEntry.logEntryFull e.index e.term (encEntry e)) ++ [.logTruncate f],
      IsLogRec r := by
  intro r hr
  simp only [List.mem_append, List.mem_map, List.mem_singleton] at hr
  rcases hr with ⟨e, _, rfl⟩ | rfl <;> trivial

theorem mkEntries_wf (b : Nat) (ents : List (Nat × Nat)) : WFfrom b (mkEntries b ents) := by
  induction ents generalizing b with
  | nil => simp [mkEntries, WFfrom]
  | cons x r ih => obtain ⟨t, c⟩ := x; simp only [mkEntries, WFfrom]; exact ⟨trivial, ih (b + 1)⟩

theorem logOk_bound {base : Nat} {log : List LogEntry} {pi pt : Nat} (h : logOk base log pi pt = true) :
    pi ≤ log.length := by
  unfold logOk at h
  by_cases h0 : pi = 0
  · omega
  · simp only [h0, if_false] at h
    by_cases h1 : pi ≤ log.length
    · exact h1
    · simp [h1] at h

end Neumann.RaftWal

namespace Neumann.RaftWal

structure StepOk (s : RState) (g : Ghost) (o : StepOut) : Prop where
  chain : Chain s g o.micros
  sync : Sync o.node (microAllS s o.micros)
  wf : WF o.node.log

theorem P_tv (s : RState) (g : Ghost) (t : Nat) (v : Option Nat) (hP : P s g) :
    P (applyEntry s (.termAndVote t v)) g := P_nonlog s g _ hP (applyEntry_logMap s _)

theorem P_of_sync {n : Node} {s : RState} {g : Ghost} (hS : Sync n s) (hwf : WF n.log) (hsat : Sat s g) :
    P s g := ⟨hsat, n.log, hwf, hS.2.2⟩

theorem preHigher_ok (n : Node) (s : RState) (g : Ghost) (t : Nat) (r : Role)
    (hS : Sync n s) (hwf : WF n.log) (hsat : Sat s g) :
    Chain s g (preHigher n t r).1
    ∧ microAllG g (preHigher n t r).1 = g
    ∧ Sync (preHigher n t r).2 (microAllS s (preHigher n t r).1)
    ∧ Sat (microAllS s (preHigher n t r).1) g
    ∧ (preHigher n t r).2.log = n.log := by
  have hP := P_of_sync hS hwf hsat
  unfold preHigher
  split
  · next h =>
    have hgt : t > s.term := by rw [← hS.1]; exact h
    have hP1 := P_tv s g t none hP
    have hs1 := apply_tv_higher s t none hgt
    refine ⟨⟨hP, hP1⟩, rfl, ?_, hP1.1, rfl⟩
    show Sync _ (applyEntry s (.termAndVote t none))
    rw [hs1]; exact ⟨rfl, rfl, hS.2.2⟩
  · exact ⟨hP, rfl, hS, hsat, rfl⟩

theorem chain_ackTerm_end {s : RState} {g : Ghost} {t : Nat} (hP : P s g) (ht : t ≤ s.term) :
    Chain s g [.ackTerm t] := ⟨hP, P_ackTerm s g t hP ht⟩

theorem noop_ok (n n' : Node) (s : RState) (g : Ghost) (rp : Reply)
    (hS : Sync n s) (hwf : WF n.log) (hsat : Sat s g)
    (h1 : n'.term = n.term) (h2 : n'.votedFor = n.votedFor) (h3 : n'.log = n.log) :
    StepOk s g { micros := [], node := n', reply := rp } :=
  ⟨P_of_sync hS hwf hsat, ⟨h1.trans hS.1, h2.trans hS.2.1, by rw [h3]; exact hS.2.2⟩, by rw [h3]; exact hwf⟩

theorem voteRec_ok {n n' : Node} {s : RState} {g : Ghost} {t c : Nat} {rp : Reply}
    (hS : Sync n s) (hwf : WF n.log) (hsat : Sat s g)
    (hrec : applyEntry s (.termAndVote t (some c)) = { s with term := t, votedFor := some c })
    (ht : n'.term = t) (hv : n'.votedFor = some c) (hl : n'.log = n.log) :
    StepOk s g ⟨[.wal (.termAndVote t (some c)), .ackTerm t, .ackVote t c], n', rp⟩ := by
  have hP := P_of_sync hS hwf hsat
  have hP1 := P_tv s g t (some c) hP
  have hP2 := P_ackTerm _ g t hP1 (by rw [hrec]; exact Nat.le_refl _)
  have hvo : VoteOk (applyEntry s (.termAndVote t (some c))) (t, c) := by rw [hrec]; exact Or.inr ⟨rfl, rfl⟩
  refine ⟨⟨hP, hP1, hP2, P_ackVote _ _ _ _ hP2 hvo⟩, ?_, by rw [hl]; exact hwf⟩
  show Sync n' (applyEntry s (.termAndVote t (some c)))
  rw [hrec]; exact ⟨ht, hv, by rw [hl]; exact hS.2.2⟩

theorem logWrite_ok {n n' : Node} {s : RState} {g : Ghost} {rs : List WalEntry} {log' acked : List LogEntry}
    {rp : Reply} (hS : Sync n s) (hlog : ∀ r ∈ rs, IsLogRec r) (ht : n'.term = n.term)
    (hv : n'.votedFor = n.votedFor) (hl : n'.log = log') (hack : ∀ a ∈ acked, a ∈ log')
    (o : LoopOut s g rs log') :
    StepOk s g ⟨rs.map .wal ++ [.ackTerm n.term, .ackLog acked], n', rp⟩ := by
  obtain ⟨htm, hvt⟩ := microAllS_logrecs_tv s rs hlog
  have hP2 := loopInv_P o.inv
  have hP3 := P_ackTerm _ _ n.term hP2 (by rw [htm, hS.1]; exact Nat.le_refl _)
  have hP4 := P_ackLog _ _ acked hP3
    (fun a ha => by rw [o.inv.2.1]; exact List.mem_map_of_mem (hack a ha))
  refine ⟨(chain_append _ _).mpr ⟨o.chain, hP2, hP3, hP4⟩, ?_, by rw [hl]; exact o.inv.1⟩
  show Sync n' (microAllS s (rs.map .wal ++ [.ackTerm n.term, .ackLog acked]))
  rw [microAllS_append]
  show Sync n' (microAllS s (rs.map .wal))
  exact ⟨ht.trans (hS.1.trans htm.symm), hv.trans (hS.2.1.trans hvt.symm), by rw [hl]; exact o.inv.2.1⟩

structure Same (n' n : Node) : Prop where
  term : n'.term = n.term
  votedFor : n'.votedFor = n.votedFor
  log : n'.log = n.log

theorem Same.sync {n' n : Node} {s : RState} (h : Same n' n) (hS : Sync n s) : Sync n' s :=
  ⟨h.term.trans hS.1, h.votedFor.trans hS.2.1, by rw [h.log]; exact hS.2.2⟩

/-- The forms a handler's outcome takes, as far as the WAL discipline goes; `pre` puts any of them
    behind the "higher term seen" prefix. -/
inductive Form : Node → StepOut → Prop
  | quiet {n n' rp} : Same n' n → Form n ⟨[], n', rp⟩
  | ack {n n' rp} : Same n' n → Form n ⟨[.ackTerm n.term], n', rp⟩
  | elect {n n'} : Same n' n → Form n (electOut n')
  | stepDown {n n' t} : Same n' n → t > n.term → Form n (stepDownOut n' t)
  | grant {n cand rp} : (n.votedFor = none ∨ n.votedFor = some cand) →
      Form n ⟨[.wal (.termAndVote n.term (some cand)), .ackTerm n.term, .ackVote n.term cand],
        { n with votedFor := some cand }, rp⟩
  | logWrite {n n' rs log' acked rp} : (∀ r ∈ rs, IsLogRec r) → n'.term = n.term →
      n'.votedFor = n.votedFor → n'.log = log' → (∀ a ∈ acked, a ∈ log') →
      (∀ s g, LoopInv n.log s g → LoopOut s g rs log') →
      Form n ⟨rs.map .wal ++ [.ackTerm n.term, .ackLog acked], n', rp⟩
  | pre {n t r ms n' rp} : Form (preHigher n t r).2 ⟨ms, n', rp⟩ →
      Form n ⟨(preHigher n t r).1 ++ ms, n', rp⟩

theorem form_ok {n : Node} {o : StepOut} (hf : Form n o) :
    ∀ (s : RState) (g : Ghost), Sync n s → WF n.log → Sat s g → StepOk s g o := by
  induction hf with
  | quiet h => intro s g hS hwf hsat; exact noop_ok _ _ s g _ hS hwf hsat h.term h.votedFor h.log
  | ack h =>
    intro s g hS hwf hsat
    exact ⟨chain_ackTerm_end (P_of_sync hS hwf hsat) (by rw [hS.1]; exact Nat.le_refl _), h.sync hS,
      by rw [h.log]; exact hwf⟩
  | @elect n n' h =>
    intro s g hS hwf hsat
    exact voteRec_ok hS hwf hsat
      (apply_tv_higher s (n'.term + 1) (some n'.id) (by rw [h.term, hS.1]; exact Nat.lt_succ_self _))
      rfl rfl h.log
  | @stepDown n n' t h ht =>
    intro s g hS hwf hsat
    have hP := P_of_sync hS hwf hsat
    have hs1 := apply_tv_higher s t none (by rw [← hS.1]; exact ht)
    have hP1 := P_tv s g t none hP
    have hle : t ≤ (applyEntry s (.termAndVote t none)).term := by rw [hs1]; exact Nat.le_refl _
    refine ⟨⟨hP, chain_ackTerm_end hP1 hle⟩, ?_, h.log ▸ hwf⟩
    show Sync _ (applyEntry s (.termAndVote t none))
    rw [hs1]; exact ⟨rfl, rfl, h.log ▸ hS.2.2⟩
  | grant hv =>
    intro s g hS hwf hsat
    exact voteRec_ok hS hwf hsat (by rw [hS.1]; exact apply_tv_grant s _ (hS.2.1 ▸ hv)) rfl rfl rfl
  | logWrite hlog ht hv hl hack ho =>
    intro s g hS hwf hsat
    exact logWrite_ok hS hlog ht hv hl hack (ho s g ⟨hwf, hS.2.2, hsat⟩)
  | @pre n t r ms n' rp _ ih =>
    intro s g hS hwf hsat
    obtain ⟨hc1, hg1, hS1, hsat1, hlog1⟩ := preHigher_ok n s g t r hS hwf hsat
    have o := ih _ g hS1 (by rw [hlog1]; exact hwf) hsat1
    refine ⟨(chain_append _ _).mpr ⟨hc1, by rw [hg1]; exact o.chain⟩, ?_, o.wf⟩
    show Sync n' (microAllS s ((preHigher n t r).1 ++ ms))
    rw [microAllS_append]; exact o.sync

theorem map_wal_snoc (rs : List WalEntry) (r : WalEntry) (tl : List Micro) :
    rs.map Micro.wal ++ Micro.wal r :: tl = (rs ++ [r]).map Micro.wal ++ tl := by
  rw [List.map_append, List.append_assoc]; rfl

theorem step_form (n : Node) (e : Event) : Form n (step n e) := by
  have same : Same n n := ⟨rfl, rfl, rfl⟩
  cases e with
  | startElection => exact .elect same
  | startPreVote => exact .quiet ⟨rfl, rfl, rfl⟩
  | becomeLeader => exact .quiet ⟨rfl, rfl, rfl⟩
  | compact i => exact .quiet ⟨rfl, rfl, rfl⟩
  | preVote t c li lt => exact .ack same
  | voteResponse frm t granted =>
    dsimp only [step]
    split
    · exact .quiet same
    · split
      · next h => exact .stepDown same h
      · split
        · split <;> exact .quiet ⟨rfl, rfl, rfl⟩
        · exact .quiet same
  | preVoteResponse frm t granted =>
    dsimp only [step]
    split
    · exact .quiet same
    · split
      · next h => exact .stepDown ⟨rfl, rfl, rfl⟩ h
      · split
        · split
          · exact .elect ⟨rfl, rfl, rfl⟩
          · exact .quiet ⟨rfl, rfl, rfl⟩
        · exact .quiet same
  | timeoutNow frm t lid =>
    dsimp only [step]
    split
    · exact .quiet same
    · split
      · exact .quiet same
      · exact .elect same
  | appendResponse t =>
    dsimp only [step]
    split
    · next h => exact .stepDown same h.2
    · exact .quiet same
  | propose cmd =>
    dsimp only [step]
    split
    · exact .logWrite (rs := [.logEntryFull (n.log.length + 1) n.term (encEntry ⟨n.log.length + 1, n.term, cmd⟩)])
        (fun r hr => by rw [List.mem_singleton.mp hr]; trivial) rfl rfl rfl
        (fun a ha => by rw [List.mem_singleton.mp ha]; exact List.mem_append_right _ (List.mem_singleton_self _))
        (fun s g h => push_out h ⟨n.log.length + 1, n.term, cmd⟩ rfl)
    · exact .quiet same
  | requestVote t cand li lt =>
    dsimp only [step]
    split
    · split
      · next hgrant => exact .pre (.grant hgrant.1)
      · exact .pre (.ack ⟨rfl, rfl, rfl⟩)
    · exact .pre (.ack ⟨rfl, rfl, rfl⟩)
  | appendEntries t leader prevIdx prevTerm ents =>
    dsimp only [step]
    split
    · split
      · next hok =>
        rw [List.append_assoc]
        exact .pre (.logWrite (appendLoop_logonly _ _ _) rfl rfl rfl
          (fun a ha => List.mem_of_mem_drop (List.mem_filter.mp ha).1)
          (fun s g h => appendLoop_ok _ h _ prevIdx (mkEntries_wf _ _) (logOk_bound hok)))
      · exact .pre (.ack ⟨rfl, rfl, rfl⟩)
    · exact .pre (.ack ⟨rfl, rfl, rfl⟩)
  | installSnapshot li lt ents =>
    dsimp only [step]
    split
    · exact .quiet same
    · next last hlast =>
      split
      · exact .quiet same
      · split
        · exact .quiet same
        · rw [List.append_assoc, map_wal_snoc]
          exact .pre (.logWrite (installRecs_logonly _ _) rfl rfl rfl (fun _ ha => ha)
            (fun s g h => installRecs_ok h _ (mkEntries_wf 0 ents) hlast))

theorem step_ok (n : Node) (s : RState) (g : Ghost) (e : Event)
    (hS : Sync n s) (hwf : WF n.log) (hsat : Sat s g) : StepOk s g (step n e) :=
  form_ok (step_form n e) s g hS hwf hsat

end Neumann.RaftWal

namespace Neumann.RaftWal

/-- the invariant of a running (or just restarted) node -/
def Inv (σ : Sys) : Prop :=
  Sync σ.node (fromEntries σ.dur) ∧ WF σ.node.log ∧ Sat (fromEntries σ.dur) σ.ghost

theorem fromEntries_recs (d : List WalEntry) (ms : List Micro) :
    fromEntries (d ++ recs ms) = microAllS (fromEntries d) ms := by
  rw [fromEntries_append, microAllS_recs]

theorem inv_init (id : Nat) : Inv (initSys id) := by
  refine ⟨⟨rfl, rfl, rfl⟩, trivial, Nat.le_refl _, ?_, ?_⟩ <;> exact fun _ h => nomatch h

theorem inv_applyOut (σ : Sys) (o : StepOut) (ho : StepOk (fromEntries σ.dur) σ.ghost o) : Inv (applyOut σ o) := by
  simp only [applyOut, Inv, fromEntries_recs]
  exact ⟨ho.sync, ho.wf, (chain_end ho.chain).1⟩

theorem inv_crashOut (σ : Sys) (o : StepOut) (k : Nat) (ho : StepOk (fromEntries σ.dur) σ.ghost o) :
    Inv { dur := σ.dur ++ recs (o.micros.take k),
          node := restart σ.node.id (fromEntries (σ.dur ++ recs (o.micros.take k))),
          ghost := microAllG σ.ghost (o.micros.take k) } := by
  have hp := chain_take ho.chain k
  simp only [Inv, fromEntries_recs]
  have hr := restart_sync σ.node.id _ hp.2
  exact ⟨hr.1, hr.2, hp.1⟩

theorem inv_execAct (σ : Sys) (a : Act) (h : Inv σ) : Inv (execAct σ a) := by
  obtain ⟨hS, hwf, hsat⟩ := h
  cases a with
  | ev e => exact inv_applyOut σ _ (step_ok σ.node _ σ.ghost e hS hwf hsat)
  | crash e k => exact inv_crashOut σ _ k (step_ok σ.node _ σ.ghost e hS hwf hsat)

theorem inv_exec (σ : Sys) (as : List Act) (h : Inv σ) : Inv (exec σ as) := by
  induction as generalizing σ with
  | nil => exact h
  | cons a as ih => exact ih _ (inv_execAct σ a h)

theorem inv_restart {σ : Sys} (h : Inv σ) (id : Nat) :
    let r := restart id (fromEntries σ.dur)
    σ.ghost.actedTerm ≤ r.term
      ∧ (∀ v ∈ σ.ghost.votes, v.1 < r.term ∨ (v.1 = r.term ∧ r.votedFor = some v.2))
      ∧ (∀ a ∈ σ.ghost.acked, a ∈ r.log)
      ∧ σ.node.term = r.term ∧ σ.node.votedFor = r.votedFor ∧ σ.node.log = r.log := by
  obtain ⟨hS, hwf, hsat⟩ := h
  have hlog : (restart id (fromEntries σ.dur)).log = σ.node.log := by
    simp only [restart, recoveredLog, hS.2.2]
    exact filterMap_dec _
  refine ⟨hsat.1, hsat.2.1, fun a ha => ?_, hS.1, hS.2.1, hlog.symm⟩
  have hmem := hsat.2.2 a ha
  rw [hS.2.2] at hmem
  rw [hlog]
  exact mem_map_entKV.mp hmem

/-- the records of a micro prefix are a prefix of the records -/
theorem recs_take (ms : List Micro) (k : Nat) :
    recs (ms.take k) = (recs ms).take (recs (ms.take k)).length :=
  List.prefix_iff_eq_take.mp ((List.take_prefix k ms).filterMap _)

/-! the framed-log facts needed beyond Common/FramedLogLemmas: how replay of a cut log ENDS -/
namespace FL
open FramedLog
variable (crc : List Nat → Nat) (dec : List Nat → Bool)

theorem parse_torn_end (p : List Nat) (m : Nat) (hp : p.length < U32)
    (hm : m < (encodeRec crc p).length) :
    (parse crc dec ((encodeRec crc p).take m)).2 ≠ .badCrc := by
  rw [encodeRec_length] at hm
  rw [parse]
  by_cases h8 : ((encodeRec crc p).take m).length < 8
  · rw [dif_pos h8]; dsimp only; split <;> simp
  · rw [dif_neg h8]
    have hm8 : 8 ≤ m := by
      simp only [List.length_take, encodeRec_length] at h8; omega
    have e1 : ((encodeRec crc p).take m).take 4 = le32 p.length := by
      rw [List.take_take]
      have : min 4 m = 4 := by omega
      rw [this]; simp [encodeRec, le32]
    have e3 : (((encodeRec crc p).take m).drop 8).length = m - 8 := by
      simp only [List.length_drop, List.length_take, encodeRec_length]; omega
    simp only [e1, le32_rt _ hp, e3]
    have : m - 8 < p.length := by omega
    simp [this]

theorem parse_take_end (ps : List (List Nat)) (n : Nat) (h : ∀ p ∈ ps, GoodRec crc dec p) :
    (parse crc dec ((encodeAll crc ps).take n)).2 ≠ .badCrc := by
  induction ps generalizing n with
  | nil => simp [encodeAll, parse_nil]
  | cons p ps ih =>
    have hp := h p (by simp)
    have henc : encodeAll crc (p :: ps) = encodeRec crc p ++ encodeAll crc ps := by simp [encodeAll]
    rw [henc, List.take_append]
    by_cases hle : (encodeRec crc p).length ≤ n
    · rw [List.take_of_length_le hle, parse_cons crc dec p _ hp]
      exact ih _ (fun q hq => h q (by simp [hq]))
    · have hz : n - (encodeRec crc p).length = 0 := by omega
      rw [hz, List.take_zero, List.append_nil]
      exact parse_torn_end crc dec p n hp.1 (by omega)

end FL

open FramedLog

section bytes
variable (crc : List Nat → Nat) (ser : WalEntry → List Nat) (deser : List Nat → Option WalEntry)

/-- what is assumed of the opaque serializer and of record sizes -/
structure GoodSer : Prop where
  rt : ∀ r, deser (ser r) = some r
  len : ∀ r, (ser r).length < U32
  crcb : ∀ p, crc p < U32

def fileOf (d : List WalEntry) : List Nat := encodeAll crc (d.map ser)

theorem goodrec_of (d : List WalEntry)
    (h : ∀ r ∈ d, deser (ser r) = some r ∧ (ser r).length < U32 ∧ crc (ser r) < U32) :
    ∀ p ∈ d.map ser, GoodRec crc (fun p => (deser p).isSome) p := by
  intro p hp
  obtain ⟨r, hr, rfl⟩ := List.mem_map.mp hp
  obtain ⟨h1, h2, h3⟩ := h r hr
  exact ⟨h2, h3, by show (deser (ser r)).isSome = true; rw [h1]; rfl⟩

theorem filterMap_deser (d : List WalEntry) (h : ∀ r ∈ d, deser (ser r) = some r) :
    (d.map ser).filterMap deser = d := by
  induction d with
  | nil => rfl
  | cons r d ih =>
    rw [List.map_cons, List.filterMap_cons, h r List.mem_cons_self,
      ih (fun q hq => h q (List.mem_cons_of_mem _ hq))]

theorem recover_fileOf (d : List WalEntry)
    (h : ∀ r ∈ d, deser (ser r) = some r ∧ (ser r).length < U32 ∧ crc (ser r) < U32) :
    recoverBytes crc deser (fileOf crc ser d) = .ok (fromEntries d) d.length .clean := by
  have hp := parse_encodeAll crc (fun p => (deser p).isSome) (d.map ser) (goodrec_of crc ser deser d h)
  simp only [recoverBytes, fileOf, hp, filterMap_deser ser deser d (fun r hr => (h r hr).1), List.length_map]

/-- A crash that leaves any byte prefix of the file which still contains the already-synced part
    `d` is a record-level crash: `recoverBytes` sees `d` plus the first `j` in-flight records,
    never a checksum error, and the repaired file is again the encoding of exactly those records. -/
theorem byte_cut (h : GoodSer crc ser deser) (d rs : List WalEntry) (n : Nat)
    (hn : (fileOf crc ser d).length ≤ n) :
    ∃ j, j ≤ rs.length ∧
      (∃ e, recoverBytes crc deser ((fileOf crc ser (d ++ rs)).take n)
            = .ok (fromEntries (d ++ rs.take j)) (d.length + j) e)
      ∧ openRepair ((fileOf crc ser (d ++ rs)).take n) = fileOf crc ser (d ++ rs.take j) := by
  have hg := goodrec_of crc ser deser (d ++ rs) (fun r _ => ⟨h.rt r, h.len r, h.crcb _⟩)
  let ps := (d ++ rs).map ser
  let w := wholeWithin crc ps n
  have hw1 : d.length ≤ w := by
    apply wholeWithin_ge crc ps d.length n (by simp [ps])
    have : ps.take d.length = d.map ser := by simp [ps]
    rw [this]; exact hn
  have hw2 : w ≤ ps.length := wholeWithin_le crc ps n
  have htake : ps.take w = (d ++ rs.take (w - d.length)).map ser := by
    simp only [ps, List.map_append, List.take_append, List.length_map, List.map_take]
    congr 1
    exact List.take_of_length_le (by simp; omega)
  refine ⟨w - d.length, by simp [ps] at hw2; omega, ?_, ?_⟩
  · have hp := parse_take crc (fun p => (deser p).isSome) ps n hg
    have hend := FL.parse_take_end crc (fun p => (deser p).isSome) ps n hg
    have ok : ∀ e, Recovered.ok (fromEntries ((ps.take w).filterMap deser)) (ps.take w).length e
        = .ok (fromEntries (d ++ rs.take (w - d.length))) (d.length + (w - d.length)) e := by
      intro e
      rw [htake, filterMap_deser ser deser _ (fun r _ => h.rt r), ← htake, List.length_take,
        Nat.min_eq_left hw2, Nat.add_sub_cancel' hw1]
    simp only [recoverBytes, fileOf]
    generalize hpr : parse crc (fun p => (deser p).isSome) ((encodeAll crc ps).take n) = pr at *
    obtain ⟨p1, p2⟩ := pr
    simp only at hp hend
    subst hp
    cases p2 with
    | badCrc => exact absurd rfl hend
    | clean => exact ⟨_, ok _⟩
    | torn => exact ⟨_, ok _⟩
    | undecodable => exact ⟨_, ok _⟩
  · have := openRepair_take crc ps n (fun p hp => (hg p hp).1)
    simp only [fileOf]
    rw [this, htake]

theorem byte_cut_micros (h : GoodSer crc ser deser) (d : List WalEntry) (ms : List Micro) (n : Nat)
    (hn : (fileOf crc ser d).length ≤ n) :
    ∃ s cnt en, recoverBytes crc deser ((fileOf crc ser (d ++ recs ms)).take n) = .ok s cnt en ∧
      ∀ k, d.length + (recs (ms.take k)).length = cnt →
        s = fromEntries (d ++ recs (ms.take k))
        ∧ openRepair ((fileOf crc ser (d ++ recs ms)).take n) = fileOf crc ser (d ++ recs (ms.take k)) := by
  obtain ⟨j, _, ⟨en, hrec⟩, hrep⟩ := byte_cut crc ser deser h d (recs ms) n hn
  refine ⟨_, _, en, hrec, fun k hk => ?_⟩
  have hj : (recs (ms.take k)).length = j := by omega
  rw [recs_take ms k, hj]
  exact ⟨rfl, hrep⟩

end bytes

end Neumann.RaftWal
