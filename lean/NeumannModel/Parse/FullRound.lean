import NeumannModel.Parse.FullLemmas
/-
  C15 — the round-trip machinery for the complete expression grammar model (`Parse/Full.lean`):
  a frame that finds `printWith extra e ++ X` needs exactly `framesWith extra e` frames (`GE`).
  Core Lean only (no Mathlib).
-/
namespace Neumann.Parse.Full

def startTok : Tok → Bool
  | .lit _ | .null | .ident _ | .kw _ | .agg _ | .op .mul | .op .sub | .lparen | .lbracket
  | .notKw | .tilde | .caseKw => true
  | _ => false

theorem wrap_true (ts X : List Tok) : wrap true ts ++ X = Tok.lparen :: (ts ++ Tok.rparen :: X) := by
  simp [wrap]
theorem wrap_false (ts : List Tok) : wrap false ts = ts := rfl

theorem wrap_head {b : Bool} {ts : List Tok} (h : ∃ t r, ts = t :: r ∧ startTok t = true) :
    ∃ t r, wrap b ts = t :: r ∧ startTok t = true := by
  cases b with
  | false => exact h
  | true => exact ⟨.lparen, ts ++ [.rparen], by simp [wrap], rfl⟩

theorem append_head {ts Y : List Tok} (h : ∃ t r, ts = t :: r ∧ startTok t = true) :
    ∃ t r, ts ++ Y = t :: r ∧ startTok t = true := by
  obtain ⟨t, r, e, hs⟩ := h
  exact ⟨t, r ++ Y, by rw [e]; rfl, hs⟩

theorem print_head (extra : E → Bool) : ∀ e : E, ∃ t r, printWith extra e = t :: r ∧ startTok t = true
  | .lit _ | .null | .ident _ | .kwIdent _ | .wildcard | .unit | .tuple _ _ _ | .array _
  | .case _ _ _ _ _ => ⟨_, _, rfl, rfl⟩
  | .un u _ => ⟨unTok u, _, rfl, by cases u <;> rfl⟩
  | .qualWild kw _ => ⟨identTok kw _, _, rfl, by cases kw <;> rfl⟩
  | .call f _ _ => ⟨calleeTok f, _, rfl, by cases f <;> rfl⟩
  -- the forms that begin with their left operand / subject
  | .bin x _ _ | .isNull x _ | .inList x _ _ | .between x _ _ _ | .like x _ _ | .qual x _ => by
      simp only [printWith]
      exact append_head (wrap_head (print_head extra x))

theorem wprint_head_ne (extra : E → Bool) (b : Bool) (e : E) (Y : List Tok) {t : Tok}
    (ht : startTok t = false) : (wrap b (printWith extra e) ++ Y).head? ≠ some t := by
  obtain ⟨t', r, h1, h2⟩ := append_head (Y := Y) (wrap_head (b := b) (print_head extra e))
  rw [h1]
  intro h
  cases h
  rw [h2] at ht
  cases ht

/-! The `start` steps are stated for an abstract `ts` so that `ts.length` stays put. -/

section
variable {mode : Mode} {m s n : Nat} {S : List Frame} {ts r : List Tok} {t : Tok} {e lhs l subj lo c c0 r0 : E}
  {u : UnOp} {o : BinOp} {f : Callee} {d neg kw : Bool} {lk : LK} {acc : EL} {operand : OE} {whens rest : WL}

theorem start_atom (hts : ts = t :: r) (hd : S.length + 1 ≤ MAX_DEPTH) (ha : prefixArm t = .atom e) :
    step mode ⟨.start m, S, ts⟩ = ⟨.loop m ts.length e, S, r⟩ := by
  subst hts
  show stepStart mode m S _ = _
  unfold stepStart
  rw [if_neg (Nat.not_lt.2 hd)]
  simp only [ha]

theorem start_wildcard (hts : ts = .op .mul :: r) (hd : S.length + 1 ≤ MAX_DEPTH) :
    step mode ⟨.start m, S, ts⟩ = ⟨.loop m ts.length .wildcard, S, r⟩ := by
  subst hts
  show stepStart mode m S _ = _
  unfold stepStart
  exact if_neg (Nat.not_lt.2 hd)

theorem start_ident (hts : ts = .ident n :: r) (hd : S.length + 1 ≤ MAX_DEPTH) (hr : r.head? ≠ some .lparen) :
    step mode ⟨.start m, S, ts⟩ = ⟨.loop m ts.length (.ident n), S, r⟩ := by
  subst hts
  show stepStart mode m S _ = _
  unfold stepStart
  rw [if_neg (Nat.not_lt.2 hd)]
  exact if_neg hr

theorem start_unit (hts : ts = .lparen :: .rparen :: r) (hd : S.length + 1 ≤ MAX_DEPTH) :
    step mode ⟨.start m, S, ts⟩ = ⟨.loop m ts.length .unit, S, r⟩ := by
  subst hts
  show stepStart mode m S _ = _
  unfold stepStart
  exact if_neg (Nat.not_lt.2 hd)

theorem start_paren (hts : ts = .lparen :: r) (hd : S.length + 1 ≤ MAX_DEPTH) (hr : r.head? ≠ some .rparen) :
    step mode ⟨.start m, S, ts⟩ = ⟨.start 0, ⟨.paren, m, ts.length⟩ :: S, r⟩ := by
  subst hts
  show stepStart mode m S _ = _
  unfold stepStart
  rw [if_neg (Nat.not_lt.2 hd)]
  exact if_neg hr

theorem start_unary (hts : ts = unTok u :: r) (hd : S.length + 1 ≤ MAX_DEPTH) :
    step mode ⟨.start m, S, ts⟩ = ⟨.start PREFIX_BP, ⟨.unary u, m, ts.length⟩ :: S, r⟩ := by
  subst hts
  show stepStart mode m S _ = _
  unfold stepStart
  rw [if_neg (Nat.not_lt.2 hd)]
  cases u <;> rfl

theorem start_array_nil (hts : ts = .lbracket :: .rbracket :: r) (hd : S.length + 1 ≤ MAX_DEPTH) :
    step mode ⟨.start m, S, ts⟩ = ⟨.loop m ts.length (.array .nil), S, r⟩ := by
  subst hts
  show stepStart mode m S _ = _
  unfold stepStart
  exact if_neg (Nat.not_lt.2 hd)

theorem start_array (hts : ts = .lbracket :: r) (hd : S.length + 1 ≤ MAX_DEPTH) (hr : r.head? ≠ some .rbracket) :
    step mode ⟨.start m, S, ts⟩ = ⟨.start 0, ⟨.list .arr .nil, m, ts.length⟩ :: S, r⟩ := by
  subst hts
  show stepStart mode m S _ = _
  unfold stepStart
  rw [if_neg (Nat.not_lt.2 hd)]
  exact if_neg hr

/-- `parse_function_call` from `(` on: `DISTINCT` is eaten iff it is there -/
theorem callFrom_print (hr : r.head? ≠ some .distinctKw) :
    callFrom f m s S (.lparen :: (distinctToks d ++ r))
      = if r.head? = some .rparen then ⟨.loop m s (.call f d .nil), S, r.tail⟩
        else ⟨.start 0, ⟨.list (.args f d) .nil, m, s⟩ :: S, r⟩ := by
  have he : eat .distinctKw (distinctToks d ++ r) = (d, r) := by
    cases d with
    | true => rfl
    | false =>
      cases r with
      | nil => rfl
      | cons t r => exact if_neg fun h => hr (congrArg some h)
  simp only [callFrom, expect, if_true, he]

theorem start_callee (hts : ts = calleeTok f :: .lparen :: r) (hd : S.length + 1 ≤ MAX_DEPTH) :
    step mode ⟨.start m, S, ts⟩ = callFrom f m ts.length S (.lparen :: r) := by
  subst hts
  show stepStart mode m S _ = _
  unfold stepStart
  rw [if_neg (Nat.not_lt.2 hd)]
  cases f <;> rfl

theorem start_call_nil (hts : ts = calleeTok f :: .lparen :: (distinctToks d ++ .rparen :: r)) (hd : S.length + 1 ≤ MAX_DEPTH) :
    step mode ⟨.start m, S, ts⟩ = ⟨.loop m ts.length (.call f d .nil), S, r⟩ := by
  rw [start_callee hts hd, callFrom_print (by simp)]
  rfl

theorem start_call (hts : ts = calleeTok f :: .lparen :: (distinctToks d ++ r)) (hd : S.length + 1 ≤ MAX_DEPTH)
    (hr : r.head? ≠ some .rparen) (hr2 : r.head? ≠ some .distinctKw) :
    step mode ⟨.start m, S, ts⟩ = ⟨.start 0, ⟨.list (.args f d) .nil, m, ts.length⟩ :: S, r⟩ := by
  rw [start_callee hts hd, callFrom_print hr2]
  exact if_neg hr

theorem start_case_when (hts : ts = .caseKw :: .whenKw :: r) (hd : S.length + 1 ≤ MAX_DEPTH) :
    step mode ⟨.start m, S, ts⟩ = ⟨.start 0, ⟨.caseCond .none .nil, m, ts.length⟩ :: S, r⟩ := by
  subst hts
  show stepStart mode m S _ = _
  unfold stepStart
  exact if_neg (Nat.not_lt.2 hd)

theorem start_case_operand (hts : ts = .caseKw :: r) (hd : S.length + 1 ≤ MAX_DEPTH) (hr : r.head? ≠ some .whenKw) :
    step mode ⟨.start m, S, ts⟩ = ⟨.start 0, ⟨.caseOperand, m, ts.length⟩ :: S, r⟩ := by
  subst hts
  show stepStart mode m S _ = _
  unfold stepStart
  rw [if_neg (Nat.not_lt.2 hd)]
  exact if_neg hr

theorem ret_list_close :
    step mode ⟨.ret e, ⟨.list lk acc, m, s⟩ :: S, lk.close :: r⟩
      = ⟨.loop m s (lk.build (acc.snoc e)), S, r⟩ := by
  cases lk <;> rfl

theorem loop_is :
    step mode ⟨.loop m s lhs, S, .isKw :: (negToks neg ++ .null :: r)⟩
      = ⟨.loop m s (.isNull lhs neg), S, r⟩ := by
  cases neg <;> rfl

theorem loop_in_nil :
    step mode ⟨.loop m s lhs, S, negToks neg ++ .inKw :: .lparen :: .rparen :: r⟩
      = ⟨.loop m s (.inList lhs neg .nil), S, r⟩ := by
  cases neg <;> cases mode <;> rfl

theorem loop_in (hr : r.head? ≠ some .rparen) (hr2 : r.head? ≠ some .selectKw) :
    step mode ⟨.loop m s lhs, S, negToks neg ++ .inKw :: .lparen :: r⟩
      = ⟨.start 0, ⟨.list (.inl lhs neg) .nil, m, s⟩ :: S, r⟩ := by
  cases neg <;> cases mode <;> simp [step, stepLoop, loopArm, expect, negToks, hr, hr2]

theorem loop_between :
    step mode ⟨.loop m s lhs, S, negToks neg ++ .betweenKw :: r⟩
      = ⟨.start PREFIX_BP, ⟨.betLo lhs neg, m, s⟩ :: S, r⟩ := by
  cases neg <;> rfl

theorem loop_like :
    step mode ⟨.loop m s lhs, S, negToks neg ++ .likeKw :: r⟩
      = ⟨.start PREFIX_BP, ⟨.likeP lhs neg, m, s⟩ :: S, r⟩ := by
  cases neg <;> rfl

theorem loop_dot_star :
    step mode ⟨.loop m s (if kw then .kwIdent n else .ident n), S, .dot :: .op .mul :: r⟩
      = ⟨.loop m s (.qualWild kw n), S, r⟩ := by
  cases kw <;> rfl

theorem ret_caseRes_else (hacc : whens.snoc c e = .cons c0 r0 rest) :
    step mode ⟨.ret e, ⟨.caseRes operand whens c, m, s⟩ :: S, .elseKw :: r⟩
      = ⟨.start 0, ⟨.caseElse operand c0 r0 rest, m, s⟩ :: S, r⟩ := by
  simp only [step, stepRet, caseNext, hacc]
  rfl

theorem ret_caseRes_end (hacc : whens.snoc c e = .cons c0 r0 rest) :
    step mode ⟨.ret e, ⟨.caseRes operand whens c, m, s⟩ :: S, .endKw :: r⟩
      = ⟨.loop m s (.case operand c0 r0 rest .none), S, r⟩ := by
  simp only [step, stepRet, caseNext, hacc]
  rfl

end

/-- what must follow a printed expression for the frame that parsed its last operand to stop
    there (and, for an identifier, for it not to become a call) -/
def StopAbove : E → List Tok → Prop
  | .bin _ o _, X => headStops (rbp o) X
  | .un _ _, X => headStops PREFIX_BP X
  | .between _ _ _ _, X => headStops PREFIX_BP X
  | .like _ _ _, X => headStops PREFIX_BP X
  | .ident _, X => X.head? ≠ some .lparen
  | _, _ => True

theorem stopAbove_nil (e : E) : StopAbove e [] := by
  cases e <;> simp [StopAbove, headStops_nil]

/-- after an operand parsed without parentheses at `min_bp = k`, and (`k = lbp o + 1`) for a left
    operand before the operator `o` -/
theorem stopAbove_of_stops {x : E} {k : Nat} {X : List Tok} (hk : k ≤ topBp x + 1) (hk19 : k ≤ PREFIX_BP)
    (h : headStops k X) : StopAbove x X := by
  cases x <;> simp only [StopAbove] <;> first | trivial | exact headStops_mono hk19 h | exact h.2 | skip
  next l o r =>
    rw [rbp_eq]
    exact headStops_mono hk h

theorem stopAbove_of_stops0 {x : E} {Y : List Tok} (h : headStops 0 Y) : StopAbove x Y :=
  stopAbove_of_stops (Nat.zero_le _) (Nat.zero_le _) h

theorem stopAbove_subject {x : E} {Y : List Tok} (h : openEnd x = false) (hY : Y.head? ≠ some .lparen) :
    StopAbove x Y := by
  cases x <;> simp only [StopAbove] <;> first | trivial | exact hY | simp [openEnd] at h

theorem topBp_of_closed {x : E} (h : openEnd x = false) : topBp x = 100 := by
  cases x <;> first | rfl | simp [openEnd] at h

theorem or_dec_cases (c : Bool) (n k : Nat) : (c || decide (n < k)) = true ∨ k ≤ n := by
  by_cases h : n < k
  · left; simp [h]
  · right; omega

theorem or_dec_false {c : Bool} {n k : Nat} (h : (c || decide (n < k)) = false) : k ≤ n := by
  simp only [Bool.or_eq_false_iff, decide_eq_false_iff_not] at h
  omega

theorem wf_ge (b : Bool) (n : Nat) : n ≤ wf b n := by cases b <;> simp [wf]

theorem frames_pos (extra : E → Bool) : ∀ e : E, 1 ≤ framesWith extra e
  | .lit _ | .null | .ident _ | .kwIdent _ | .wildcard | .unit | .qualWild _ _ => Nat.le_refl 1
  | .tuple _ _ _ | .un _ _ | .call _ _ _ | .array _ | .case _ _ _ _ _ => by
      rw [framesWith]; exact Nat.le_add_right 1 _
  | .bin _ _ _ | .inList _ _ _ | .between _ _ _ _ | .like _ _ _ => by
      rw [framesWith]; exact Nat.le_trans (Nat.le_add_right 1 _) (Nat.le_max_right ..)
  | .isNull x _ | .qual x _ => by
      rw [framesWith]; exact Nat.le_trans (frames_pos extra x) (wf_ge ..)

/-- the tokens that close or separate the parts of a node -/
def closer : Tok → Bool
  | .rparen | .rbracket | .comma | .whenKw | .thenKw | .elseKw | .endKw => true
  | _ => false

theorem closer_stops (t : Tok) {X : List Tok} (h : closer t = true := by rfl) : headStops 0 (t :: X) := by
  cases t <;> simp only [closer, reduceCtorEq] at h <;> simp [headStops, loopArm]

theorem headStops0_rbracket (X : List Tok) : headStops 0 (.rbracket :: X) := closer_stops _

theorem headStops0_close (lk : LK) (X : List Tok) : headStops 0 (lk.close :: X) := by
  cases lk <;> exact closer_stops _

theorem tail_stops (extra : E → Bool) (l : EL) (lk : LK) (X : List Tok) :
    headStops 0 (printTail extra l ++ lk.close :: X) := by
  cases l with
  | nil => exact headStops0_close lk X
  | cons a l => exact closer_stops .comma

theorem whens_stop (extra : E → Bool) (l : WL) (els : OE) (X : List Tok) :
    headStops 0 (printWhens extra l ++ (printElse extra els ++ .endKw :: X)) := by
  cases l with
  | cons c r l => exact closer_stops .whenKw
  | nil =>
    cases els with
    | none => exact closer_stops .endKw
    | some e => exact closer_stops .elseKw

def TD (mode : Mode) (st : St) : Prop := ∃ k, Reach mode st (fail (.tooDeep k))

/-- A stretch of the run during which up to `d` frames are active: within the depth limit it leads
    from `a` to `b`; beyond it the run from `a` ends with `TooDeep`. -/
def Goes (mode : Mode) (d : Nat) (a b : St) : Prop :=
  (d ≤ MAX_DEPTH → Reach mode a b) ∧ (MAX_DEPTH < d → TD mode a)

namespace Goes
variable {mode : Mode} {d d' n d₁ d₂ : Nat} {a b c : St}

theorem of_reach (h : Reach mode a b) (hd : d ≤ MAX_DEPTH) : Goes mode d a b :=
  ⟨fun _ => h, fun hlt => absurd hd (Nat.not_le.2 hlt)⟩

theorem cast (g : Goes mode d a b) (h : d = d') : Goes mode d' a b := h ▸ g

theorem tail (g : Goes mode d a b) (h : step mode b = c) : Goes mode d a c :=
  ⟨fun hd => (g.1 hd).trans (Reach.one h), g.2⟩

theorem head (h : step mode a = b) (g : Goes mode d b c) : Goes mode d a c :=
  ⟨fun hd => Reach.head h (g.1 hd), fun hd => (g.2 hd).imp fun _ r => Reach.head h r⟩

/-- the second stretch is run only if the first stayed within the limit -/
theorem seq (g₁ : Goes mode (n + d₁) a b)
    (g₂ : n + d₁ ≤ MAX_DEPTH → Goes mode (n + d₂) b c) : Goes mode (n + max d₁ d₂) a c := by
  refine ⟨fun hd => ?_, fun hd => ?_⟩
  · obtain ⟨h₁, h₂⟩ := add_max_le.1 hd
    exact (g₁.1 h₁).trans ((g₂ h₁).1 h₂)
  · by_cases h₁ : n + d₁ ≤ MAX_DEPTH
    · have h₂ : MAX_DEPTH < n + d₂ := Nat.lt_of_not_le fun h₂ => Nat.not_le.2 hd (add_max_le.2 ⟨h₁, h₂⟩)
      exact ((g₂ h₁).2 h₂).imp fun _ r => (g₁.1 h₁).trans r
    · exact g₁.2 (Nat.lt_of_not_le h₁)

theorem nest (g : Goes mode (n + 1 + d) a b) : Goes mode (n + (1 + d)) a b :=
  g.cast (Nat.add_assoc ..)

theorem start {m : Nat} {S : List Frame} {ts : List Tok}
    (h : S.length + 1 ≤ MAX_DEPTH → step mode ⟨.start m, S, ts⟩ = b) :
    Goes mode (S.length + 1) ⟨.start m, S, ts⟩ b :=
  ⟨fun hd => Reach.one (h hd), fun hd => ⟨ts.length, Reach.one (if_pos hd)⟩⟩

theorem enter {m : Nat} {S : List Frame} {ts : List Tok}
    (h : S.length + 1 ≤ MAX_DEPTH → step mode ⟨.start m, S, ts⟩ = b)
    (g : S.length + 1 ≤ MAX_DEPTH → Goes mode (S.length + 1 + d) b c) :
    Goes mode (S.length + (1 + d)) ⟨.start m, S, ts⟩ c :=
  ((seq (d₁ := 0) (start h) g).cast (by rw [Nat.zero_max])).nest

end Goes

/-- The statement proved by induction on the expression: a frame entered at depth `S.length` with
    `min_bp = m` that finds `print e ++ X` needs `framesWith extra e` frames, itself included, to
    build `e` and arrive at the top of its loop with `X` left. -/
def GProp (mode : Mode) (extra : E → Bool) (e : E) : Prop :=
  ∀ (m : Nat) (S : List Frame) (X ts : List Tok), ts = printWith extra e ++ X →
    m ≤ topBp e → StopAbove e X →
    Goes mode (S.length + framesWith extra e) ⟨.start m, S, ts⟩ ⟨.loop m ts.length e, S, X⟩

section
variable {mode : Mode} {extra : E → Bool}

/-- built inside the CURRENT frame (left operand, subject of a postfix form), parenthesised iff `b` -/
theorem subjectG {x : E} (ih : GProp mode extra x) (b : Bool) (m : Nat)
    (S : List Frame) (X ts : List Tok) (hts : ts = wrap b (printWith extra x) ++ X)
    (hb : b = true ∨ m ≤ topBp x) (hsa : b = false → StopAbove x X) :
    Goes mode (S.length + wf b (framesWith extra x)) ⟨.start m, S, ts⟩ ⟨.loop m ts.length x, S, X⟩ := by
  cases b with
  | false => exact ih m S X ts hts (hb.resolve_left Bool.false_ne_true) (hsa rfl)
  | true =>
    rw [wrap_true] at hts
    exact .enter (fun hd => start_paren hts hd (wprint_head_ne extra false x _ rfl)) fun _ =>
      ((ih 0 (⟨.paren, m, ts.length⟩ :: S) (.rparen :: X) _ rfl (Nat.zero_le _)
        (stopAbove_of_stops0 (closer_stops .rparen))).tail (loop_stops (closer_stops .rparen))).tail rfl

theorem operandG {x : E} (ih : GProp mode extra x) (b : Bool) (m' : Nat)
    (S : List Frame) (X ts : List Tok) (hts : ts = wrap b (printWith extra x) ++ X)
    (hb : b = true ∨ m' ≤ topBp x) (hsa : b = false → StopAbove x X) (hstop : headStops m' X) :
    Goes mode (S.length + wf b (framesWith extra x)) ⟨.start m', S, ts⟩ ⟨.ret x, S, X⟩ :=
  (subjectG ih b m' S X ts hts hb hsa).tail (loop_stops hstop)

theorem itemG {x : E} (ih : GProp mode extra x) (b : Bool)
    (S : List Frame) (X ts : List Tok) (hts : ts = wrap b (printWith extra x) ++ X) (hstop : headStops 0 X) :
    Goes mode (S.length + wf b (framesWith extra x)) ⟨.start 0, S, ts⟩ ⟨.ret x, S, X⟩ :=
  operandG ih b 0 S X ts hts (Or.inr (Nat.zero_le _)) (fun _ => stopAbove_of_stops0 hstop) hstop

theorem operandBpG {x : E} (ih : GProp mode extra x) (bp : Nat)
    (S : List Frame) (X ts : List Tok)
    (hts : ts = wrap (extra x || decide (topBp x < bp)) (printWith extra x) ++ X)
    (hbp : bp ≤ PREFIX_BP) (hstop : headStops bp X) :
    Goes mode (S.length + wf (extra x || decide (topBp x < bp)) (framesWith extra x))
      ⟨.start bp, S, ts⟩ ⟨.ret x, S, X⟩ :=
  operandG ih _ bp S X ts hts (or_dec_cases _ _ _)
    (fun hb => stopAbove_of_stops (Nat.le_succ_of_le (or_dec_false hb)) hbp hstop) hstop

theorem postfixG {x : E} (ih : GProp mode extra x) (m : Nat)
    (S : List Frame) (Y ts : List Tok)
    (hts : ts = wrap (extra x || openEnd x) (printWith extra x) ++ Y)
    (hm : m ≤ 100) (hY : Y.head? ≠ some .lparen) :
    Goes mode (S.length + wf (extra x || openEnd x) (framesWith extra x))
      ⟨.start m, S, ts⟩ ⟨.loop m ts.length x, S, Y⟩ := by
  refine subjectG ih _ m S Y ts hts ?_ fun hb => stopAbove_subject (Bool.or_eq_false_iff.1 hb).2 hY
  cases hb : (extra x || openEnd x) with
  | true => exact Or.inl rfl
  | false => exact Or.inr (topBp_of_closed (Bool.or_eq_false_iff.1 hb).2 ▸ hm)

/-- what `parse_case` builds from the clauses it has read (`acc` is never empty when it gets here) -/
def caseOf (operand : OE) : WL → OE → E
  | .nil, _ => .null
  | .cons c r rest, els => .case operand c r rest els

theorem snoc_ne_nil (acc : WL) (c r : E) : ∃ c0 r0 rest, acc.snoc c r = .cons c0 r0 rest := by
  cases acc with
  | nil => exact ⟨c, r, .nil, rfl⟩
  | cons c0 r0 l => exact ⟨c0, r0, l.snoc c r, rfl⟩

theorem tailG : ∀ {l : EL}, l.All (GProp mode extra) →
    ∀ (lk : LK) (acc : EL) (e : E) (m s : Nat) (S : List Frame) (X ts : List Tok),
      ts = printTail extra l ++ lk.close :: X → S.length + 1 ≤ MAX_DEPTH →
      Goes mode (S.length + 1 + framesItems extra l) ⟨.ret e, ⟨.list lk acc, m, s⟩ :: S, ts⟩
        ⟨.loop m s (lk.build ((acc.snoc e).append l)), S, X⟩
  | .nil, _, lk, acc, e, m, s, S, X, ts, hts, hS => by
      subst hts
      rw [EL.append_nil]
      exact .of_reach (Reach.one ret_list_close) hS
  | .cons a l, ⟨ha, hl⟩, lk, acc, e, m, s, S, X, ts, hts, hS => by
      simp only [printTail, List.cons_append, List.append_assoc] at hts
      subst hts
      rw [← EL.snoc_append]
      exact .head rfl (.seq
        (itemG ha (extra a) (⟨.list lk (acc.snoc e), m, s⟩ :: S) _ _ rfl (tail_stops extra l lk X))
        fun _ => tailG hl lk (acc.snoc e) a m s S X _ rfl hS)

theorem itemsG (lk : LK) {a : E} {l : EL} (m s : Nat)
    (S : List Frame) (X ts : List Tok) (ha : GProp mode extra a) (hl : l.All (GProp mode extra))
    (hts : ts = wrap (extra a) (printWith extra a) ++ (printTail extra l ++ lk.close :: X))
    (hS : S.length + 1 ≤ MAX_DEPTH) :
    Goes mode (S.length + 1 + framesItems extra (.cons a l))
      ⟨.start 0, ⟨.list lk .nil, m, s⟩ :: S, ts⟩ ⟨.loop m s (lk.build (.cons a l)), S, X⟩ :=
  .seq (itemG ha (extra a) (⟨.list lk .nil, m, s⟩ :: S) _ ts hts (tail_stops extra l lk X)) fun _ =>
    tailG hl lk .nil a m s S X _ rfl hS

theorem whensG {els : OE} (hels : els.All (GProp mode extra)) :
    ∀ {l : WL}, l.All (GProp mode extra) →
    ∀ (operand : OE) (acc : WL) (c r : E) (m s : Nat) (S : List Frame) (X ts : List Tok),
      ts = printWhens extra l ++ (printElse extra els ++ .endKw :: X) → S.length + 1 ≤ MAX_DEPTH →
      Goes mode (S.length + 1 + max (framesWhens extra l) (framesOpt extra els))
        ⟨.ret r, ⟨.caseRes operand acc c, m, s⟩ :: S, ts⟩
        ⟨.loop m s (caseOf operand ((acc.snoc c r).append l) els), S, X⟩
  | .nil, _, operand, acc, c, r, m, s, S, X, ts, hts, hS => by
      obtain ⟨c0, r0, rest, hacc⟩ := snoc_ne_nil acc c r
      rw [WL.append_nil, hacc]
      cases els with
      | none =>
        subst hts
        exact .of_reach (Reach.one (ret_caseRes_end hacc)) hS
      | some e =>
        simp only [printWhens, printElse, List.nil_append, List.cons_append] at hts
        subst hts
        rw [framesWhens, Nat.zero_max]
        exact .head (ret_caseRes_else hacc) ((itemG hels (extra e) (⟨.caseElse operand c0 r0 rest, m, s⟩ :: S)
          (.endKw :: X) _ rfl (closer_stops .endKw)).tail rfl)
  | .cons c' r' l, ⟨hc, hr, hl⟩, operand, acc, c, r, m, s, S, X, ts, hts, hS => by
      simp only [printWhens, List.cons_append, List.append_assoc] at hts
      subst hts
      rw [← WL.snoc_append, framesWhens, Nat.max_assoc, Nat.max_assoc]
      exact .head rfl (.seq
        (itemG hc (extra c') (⟨.caseCond operand (acc.snoc c r), m, s⟩ :: S) _ _ rfl (closer_stops .thenKw))
        fun _ => .head rfl (.seq
          (itemG hr (extra r') (⟨.caseRes operand (acc.snoc c r) c', m, s⟩ :: S) _ _ rfl (whens_stop extra l els X))
          fun _ => whensG hels hl operand (acc.snoc c r) c' r' m s S X _ rfl hS))

theorem caseG (operand : OE) {c r : E} {rest : WL} {els : OE}
    (m s : Nat) (S : List Frame) (X ts : List Tok)
    (hc : GProp mode extra c) (hr : GProp mode extra r) (hrest : rest.All (GProp mode extra))
    (hels : els.All (GProp mode extra))
    (hts : ts = wrap (extra c) (printWith extra c) ++ (.thenKw :: (wrap (extra r) (printWith extra r)
      ++ (printWhens extra rest ++ (printElse extra els ++ .endKw :: X)))))
    (hS : S.length + 1 ≤ MAX_DEPTH) :
    Goes mode (S.length + 1 + max (wf (extra c) (framesWith extra c)) (max (wf (extra r) (framesWith extra r))
        (max (framesWhens extra rest) (framesOpt extra els))))
      ⟨.start 0, ⟨.caseCond operand .nil, m, s⟩ :: S, ts⟩ ⟨.loop m s (.case operand c r rest els), S, X⟩ :=
  .seq (itemG hc (extra c) (⟨.caseCond operand .nil, m, s⟩ :: S) _ ts hts (closer_stops .thenKw)) fun _ =>
    .head rfl (.seq
      (itemG hr (extra r) (⟨.caseRes operand .nil c, m, s⟩ :: S) _ _ rfl (whens_stop extra rest els X))
      fun _ => whensG hels hrest operand .nil c r m s S X _ rfl hS)

/-! One lemma per constructor.  Each follows the arm of the machine that reads the node: `enter` for
the depth check and the `start_*` step, `seq` for the operands in the order they are parsed, `nest`
above a frame the node has pushed; the frames of the composite are then the defining equation of
`framesWith`, and no arithmetic is left. -/

theorem GE_atom : ∀ e : E, isCompound e = false → GProp mode extra e
  | .lit _, _ | .null, _ | .kwIdent _, _ => fun m S X ts hts _ _ => .start fun hd => start_atom hts hd rfl
  | .ident _, _ => fun m S X ts hts _ hsa => .start fun hd => start_ident hts hd hsa
  | .wildcard, _ => fun m S X ts hts _ _ => .start fun hd => start_wildcard hts hd
  | .unit, _ => fun m S X ts hts _ _ => .start fun hd => start_unit hts hd
  | .qualWild kw n, _ => fun m S X ts hts _ _ => by
      refine (Goes.start (b := ⟨.loop m ts.length (if kw then .kwIdent n else .ident n), S, .dot :: .op .mul :: X⟩)
        fun hd => ?_).tail loop_dot_star
      cases kw
      · exact start_ident hts hd (by simp)
      · exact start_atom hts hd rfl

theorem GE_un (u : UnOp) {x : E} (ih : GProp mode extra x) :
    GProp mode extra (.un u x) := by
  intro m S X ts hts _ hsa
  simp only [printWith, List.cons_append] at hts
  rw [framesWith]
  exact .enter (fun hd => start_unary hts hd) fun _ =>
    (operandBpG ih PREFIX_BP (⟨.unary u, m, ts.length⟩ :: S) X _ rfl (Nat.le_refl _) hsa).tail rfl

theorem GE_bin {l : E} (o : BinOp) {r : E} (ihl : GProp mode extra l)
    (ihr : GProp mode extra r) : GProp mode extra (.bin l o r) := by
  intro m S X ts hts hm hsa
  simp only [topBp] at hm
  simp only [printWith, List.append_assoc, List.cons_append] at hts
  rw [framesWith]
  have g1 := subjectG ihl (extra l || decide (topBp l < lbp o)) m S _ ts hts
    ((or_dec_cases (extra l) (topBp l) (lbp o)).imp_right (Nat.le_trans hm))
    (fun hb => stopAbove_of_stops (Nat.succ_le_succ (or_dec_false hb)) (lbp_lt_prefix o)
      (headStops_op (Nat.lt_succ_self _)))
  exact .seq (g1.tail (if_neg (Nat.not_lt.2 hm))) fun _ => .nest
    ((operandBpG ihr (rbp o) (⟨.binR l o, m, ts.length⟩ :: S) X _ rfl (rbp_eq o ▸ lbp_lt_prefix o) hsa).tail rfl)

theorem GE_isNull {x : E} (neg : Bool) (ih : GProp mode extra x) :
    GProp mode extra (.isNull x neg) := by
  intro m S X ts hts hm _
  simp only [printWith, List.append_assoc, List.cons_append] at hts
  exact (postfixG ih m S _ ts hts hm (by simp)).tail loop_is

theorem GE_qual {x : E} (n : Nat) (ih : GProp mode extra x) :
    GProp mode extra (.qual x n) := by
  intro m S X ts hts hm _
  simp only [printWith, List.append_assoc, List.cons_append, List.nil_append] at hts
  exact (postfixG ih m S _ ts hts hm (by simp)).tail rfl

theorem negToks_head (neg : Bool) (t : Tok) (ht : t ≠ .lparen) (Y : List Tok) :
    (negToks neg ++ t :: Y).head? ≠ some .lparen := by
  cases neg <;> simp [negToks, ht]

theorem GE_like {x : E} (neg : Bool) {p : E} (ihx : GProp mode extra x)
    (ihp : GProp mode extra p) : GProp mode extra (.like x neg p) := by
  intro m S X ts hts hm hsa
  simp only [printWith, List.append_assoc, List.cons_append] at hts
  rw [framesWith]
  exact .seq ((postfixG ihx m S _ ts hts hm (negToks_head neg _ (by decide) _)).tail loop_like) fun _ => .nest
    ((operandBpG ihp PREFIX_BP (⟨.likeP x neg, m, ts.length⟩ :: S) X _ rfl (Nat.le_refl _) hsa).tail rfl)

theorem GE_between {x : E} (neg : Bool) {lo hi : E}
    (ihx : GProp mode extra x) (ihlo : GProp mode extra lo) (ihhi : GProp mode extra hi) :
    GProp mode extra (.between x neg lo hi) := by
  intro m S X ts hts hm hsa
  simp only [printWith, List.append_assoc, List.cons_append] at hts
  rw [framesWith]
  exact .seq ((postfixG ihx m S _ ts hts hm (negToks_head neg _ (by decide) _)).tail loop_between) fun _ => .nest
    (.seq
      ((operandBpG ihlo PREFIX_BP (⟨.betLo x neg, m, ts.length⟩ :: S) _ _ rfl (Nat.le_refl _)
        (headStops_op (by decide))).tail rfl)
      fun _ => (operandBpG ihhi PREFIX_BP (⟨.betHi x neg lo, m, ts.length⟩ :: S) X _ rfl (Nat.le_refl _) hsa).tail
        rfl)

theorem GE_inList {x : E} (neg : Bool) {items : EL}
    (ihx : GProp mode extra x) (ihl : items.All (GProp mode extra)) : GProp mode extra (.inList x neg items) := by
  intro m S X ts hts hm _
  have hpos := frames_pos extra x
  have hw := wf_ge (extra x || openEnd x) (framesWith extra x)
  rw [framesWith]
  cases items with
  | nil =>
    simp only [printWith, printItems, List.append_assoc, List.cons_append, List.nil_append] at hts
    exact ((postfixG ihx m S _ ts hts hm (negToks_head neg _ (by decide) _)).tail loop_in_nil).cast
      (by rw [framesItems]; omega)
  | cons a l =>
    simp only [printWith, printItems, List.append_assoc, List.cons_append] at hts
    exact .seq ((postfixG ihx m S _ ts hts hm (negToks_head neg _ (by decide) _)).tail
        (loop_in (wprint_head_ne extra _ a _ rfl) (wprint_head_ne extra _ a _ rfl)))
      fun h1 => .nest (itemsG (.inl x neg) m ts.length S X _ ihl.1 ihl.2 rfl (by omega))

theorem GE_call (f : Callee) (d : Bool) {args : EL}
    (ihl : args.All (GProp mode extra)) : GProp mode extra (.call f d args) := by
  intro m S X ts hts _ _
  rw [framesWith]
  cases args with
  | nil =>
    simp only [printWith, printItems, List.nil_append, List.cons_append, List.append_assoc] at hts
    exact .start fun hd => start_call_nil hts hd
  | cons a l =>
    simp only [printWith, printItems, List.nil_append, List.cons_append, List.append_assoc] at hts
    exact .enter (fun hd => start_call hts hd (wprint_head_ne extra _ a _ rfl) (wprint_head_ne extra _ a _ rfl))
      fun hd => itemsG (.args f d) m ts.length S X _ ihl.1 ihl.2 rfl hd

theorem GE_array {items : EL} (ihl : items.All (GProp mode extra)) :
    GProp mode extra (.array items) := by
  intro m S X ts hts _ _
  rw [framesWith]
  cases items with
  | nil => exact .start fun hd => start_array_nil hts hd
  | cons a l =>
    simp only [printWith, printItems, List.append_assoc, List.cons_append] at hts
    exact .enter (fun hd => start_array hts hd (wprint_head_ne extra _ a _ rfl))
      fun hd => itemsG .arr m ts.length S X _ ihl.1 ihl.2 rfl hd

theorem GE_tuple {a b : E} {rest : EL} (iha : GProp mode extra a)
    (ihb : GProp mode extra b) (ihl : rest.All (GProp mode extra)) : GProp mode extra (.tuple a b rest) := by
  intro m S X ts hts _ _
  simp only [printWith, List.append_assoc, List.cons_append, List.nil_append] at hts
  rw [framesWith]
  exact .enter (fun hd => start_paren hts hd (wprint_head_ne extra _ a _ rfl)) fun hd => .seq
    ((itemG iha (extra a) (⟨.paren, m, ts.length⟩ :: S) _ _ rfl (closer_stops .comma)).tail rfl)
    fun _ => .seq
      (itemG ihb (extra b) (⟨.list .tup (.cons a .nil), m, ts.length⟩ :: S) _ _ rfl (tail_stops extra rest .tup X))
      fun _ => tailG ihl .tup (.cons a .nil) b m ts.length S X _ rfl hd

theorem GE_case {operand : OE} {c r : E} {rest : WL} {els : OE}
    (ihop : operand.All (GProp mode extra)) (ihc : GProp mode extra c) (ihr : GProp mode extra r)
    (ihrest : rest.All (GProp mode extra)) (ihels : els.All (GProp mode extra)) :
    GProp mode extra (.case operand c r rest els) := by
  intro m S X ts hts _ _
  rw [framesWith]
  cases operand with
  | none =>
    simp only [printWith, printOpt, List.append_assoc, List.cons_append, List.nil_append] at hts
    rw [framesOpt, Nat.zero_max]
    exact .enter (fun hd => start_case_when hts hd) fun hd =>
      caseG .none m ts.length S X _ ihc ihr ihrest ihels rfl hd
  | some e0 =>
    simp only [printWith, printOpt, List.append_assoc, List.cons_append] at hts
    exact .enter (fun hd => start_case_operand hts hd (wprint_head_ne extra _ e0 _ rfl)) fun hd => .seq
      ((itemG ihop (extra e0) (⟨.caseOperand, m, ts.length⟩ :: S) _ _ rfl (closer_stops .whenKw)).tail rfl)
      fun _ => caseG (.some e0) m ts.length S X _ ihc ihr ihrest ihels rfl hd

end

theorem GE (mode : Mode) (extra : E → Bool) : ∀ e : E, GProp mode extra e :=
  E.ind GE_atom (fun _ _ _ => GE_tuple) (fun u _ => GE_un u) (fun _ o _ => GE_bin o) (fun _ neg => GE_isNull neg)
    (fun _ neg _ => GE_inList neg) (fun _ neg _ _ => GE_between neg) (fun _ neg _ => GE_like neg)
    (fun _ n => GE_qual n) (fun f d _ => GE_call f d) (fun _ => GE_array) (fun _ _ _ _ _ => GE_case)

theorem print_goes (mode : Mode) (extra : E → Bool) (e : E) :
    Goes mode (framesWith extra e) (init (printWith extra e)) ⟨.loop 0 (printWith extra e).length e, [], []⟩ :=
  (GE mode extra e 0 [] [] _ (List.append_nil _).symm (Nat.zero_le _) (stopAbove_nil e)).cast (Nat.zero_add _)

def KProp (mode : Mode) (extra : E → Bool) (e : E) : Prop :=
  ∀ (m : Nat) (S : List Frame) (X ts : List Tok), ts = printWith extra e ++ X →
    m ≤ topBp e → StopAbove e X → S.length + framesWith extra e ≤ MAX_DEPTH →
    Reach mode ⟨.start m, S, ts⟩ ⟨.loop m ts.length e, S, X⟩

theorem KE (mode : Mode) (extra : E → Bool) (e : E) : KProp mode extra e :=
  fun m S X ts hts hm hsa hd => (GE mode extra e m S X ts hts hm hsa).1 hd

def TailProp (mode : Mode) (extra : E → Bool) (l : EL) : Prop :=
  ∀ (lk : LK) (acc : EL) (e : E) (m s : Nat) (S : List Frame) (X ts : List Tok),
    ts = printTail extra l ++ lk.close :: X →
    (S.length + 1) + framesItems extra l ≤ MAX_DEPTH →
    Reach mode ⟨.ret e, ⟨.list lk acc, m, s⟩ :: S, ts⟩ ⟨.loop m s (lk.build ((acc.snoc e).append l)), S, X⟩

def WhensProp (mode : Mode) (extra : E → Bool) (l : WL) : Prop :=
  ∀ (operand : OE) (acc : WL) (c r : E) (els : OE) (m s : Nat) (S : List Frame) (X ts : List Tok),
    (∀ e, els = .some e → KProp mode extra e) →
    ts = printWhens extra l ++ (printElse extra els ++ .endKw :: X) →
    (S.length + 1) + max (framesWhens extra l) (framesOpt extra els) ≤ MAX_DEPTH →
    Reach mode ⟨.ret r, ⟨.caseRes operand acc c, m, s⟩ :: S, ts⟩
      ⟨.loop m s (caseOf operand ((acc.snoc c r).append l) els), S, X⟩

theorem KTail (mode : Mode) (extra : E → Bool) : ∀ l : EL, TailProp mode extra l :=
  fun l lk acc e m s S X ts hts hd =>
    (tailG (EL.all_of (GE mode extra) l) lk acc e m s S X ts hts (by omega)).1 hd

theorem KWhens (mode : Mode) (extra : E → Bool) : ∀ l : WL, WhensProp mode extra l :=
  fun l operand acc c r els m s S X ts _ hts hd =>
    (whensG (OE.all_of (GE mode extra) els) (WL.all_of (GE mode extra) l) operand acc c r m s S X ts hts
      (by omega)).1 hd

/-- an operand parsed by a NEW frame at `min_bp = m'`, parenthesised iff `b`: the frame returns it
    (the hypothesis `ih` holds of every tree, `KE`) -/
theorem operand {mode : Mode} {extra : E → Bool} {x : E} (ih : KProp mode extra x) (b : Bool) (m' : Nat)
    (S : List Frame) (X ts : List Tok) (hts : ts = wrap b (printWith extra x) ++ X)
    (hb : b = true ∨ m' ≤ topBp x) (hsa : b = false → StopAbove x X)
    (hd : S.length + wf b (framesWith extra x) ≤ MAX_DEPTH) (hstop : headStops m' X) :
    Reach mode ⟨.start m', S, ts⟩ ⟨.ret x, S, X⟩ :=
  (operandG (GE mode extra x) b m' S X ts hts hb hsa hstop).1 hd

theorem subject {mode : Mode} {extra : E → Bool} {x : E} (ih : KProp mode extra x) (m : Nat)
    (S : List Frame) (Y ts : List Tok)
    (hts : ts = wrap (extra x || openEnd x) (printWith extra x) ++ Y)
    (hm : m ≤ 100) (hY : Y.head? ≠ some .lparen)
    (hd : S.length + wf (extra x || openEnd x) (framesWith extra x) ≤ MAX_DEPTH) :
    Reach mode ⟨.start m, S, ts⟩ ⟨.loop m ts.length x, S, Y⟩ :=
  (postfixG (GE mode extra x) m S Y ts hts hm hY).1 hd

end Neumann.Parse.Full
