import NeumannModel.Parse.NestLemmas
import NeumannModel.Parse.NestEmbed
import NeumannModel.Parse.Props
/-
  C15 — property theorems for the expression × subquery model (`Parse/Nest.lean`): the statement
  parser of `neumann_parser/src/parser.rs` on the fragment in which expression nesting
  (`parse_expr_bp`, counter `depth`, `MAX_DEPTH = 64`) and subquery nesting (`parse_select_body`,
  counter `select_depth`, `MAX_SELECT_DEPTH = 64`) interleave:
      SELECT expr [FROM t | FROM ( SELECT … )] [WHERE expr]
  with `EXISTS ( SELECT … )` and `lhs [NOT] IN ( SELECT … )` inside expressions.
  ONLY property statements and their non-vacuity examples live here.

  The point: `parse_select_body` leaves `depth` alone, so `MAX_DEPTH` is ONE budget for the whole
  statement.  A subquery reached from inside an expression is parsed with that expression's frames
  still counted; k levels of subqueries with m operators each use k·(m+1) frames, not m+1.
  All statements are for ALL token lists over the alphabet; inputs that leave the fragment are
  answered `Res.outside` by the model and no theorem says anything about the real parser there.
-/
namespace Neumann.Parse.NestProps
open Neumann.Parse Neumann.Parse.Nest
open Neumann.Parse.Sel (Res SErr MAX_SELECT_DEPTH NF NF_bind bind_eq_ok bind_ok bind_error)

/-- Totality / fuel adequacy: the fuel `3·|ts| + 3` is never exhausted — every token list yields a
    tree, a genuine parse error, or `outside`. -/
theorem nest_total (ts : List NTok) : parseStmt ts ≠ .error .fuel := by
  unfold parseStmt parseStmtWith
  split
  · next r =>
    have h := ((Nest.adequate MAX_SELECT_DEPTH MAX_DEPTH (Nest.fuelFor (.select :: r))).2.2.2 0 0 r).2
      (by simp [Nest.fuelFor]; omega)
    exact NF_bind h fun p _ => by simp [NF]
  · simp

/-- Determinism beyond "it is a function": the answer does not depend on how much fuel (≥ the
    adequate amount) the recursion is given. -/
theorem nest_fuel_independent (ts : List NTok) (f : Nat) (h : Nest.fuelFor ts ≤ f) :
    parseStmtWith MAX_SELECT_DEPTH MAX_DEPTH f ts = parseStmt ts := by
  unfold parseStmt parseStmtWith
  split
  · next r =>
    have hnf := ((Nest.adequate MAX_SELECT_DEPTH MAX_DEPTH (Nest.fuelFor (.select :: r))).2.2.2 0 0 r).2
      (by simp [Nest.fuelFor]; omega)
    rw [Sel.FuelLe.of_le (F := fun f => bodyN MAX_SELECT_DEPTH MAX_DEPTH f 0 0 r)
      (fun f => (Nest.mono MAX_SELECT_DEPTH MAX_DEPTH f).2.2.2 0 0 r) h hnf]
  · rfl

example : Nest.fuelFor [.select, .num 1] ≤ 9 := by decide +kernel

/-- THE BOUND IS STATEMENT-WIDE.  Whatever token list is accepted, the tree it produced needs at
    most `MAX_DEPTH` simultaneously active `parse_expr_bp` frames, counted ACROSS subquery
    boundaries (`Q.frames`: the expressions of an `EXISTS` / `IN` subquery are counted on top of
    the frames of the expression that contains it, those of a FROM subquery on top of whatever
    encloses the body), and at most `MAX_SELECT_DEPTH` nested `parse_select_body` frames.  Since
    the parser is total (`nest_total`), an input whose combined nesting exceeds either limit is
    therefore answered with an error, never accepted. -/
theorem nest_ok_fits_depth (ts : List NTok) (q : Q) (h : parseStmt ts = .ok q) :
    q.frames ≤ MAX_DEPTH ∧ q.sdepth ≤ MAX_SELECT_DEPTH := by
  unfold parseStmt parseStmtWith at h
  split at h
  · next r =>
    simp only [bind_eq_ok] at h
    obtain ⟨⟨q', r'⟩, hb, hq⟩ := h
    simp only [Res.ok.injEq] at hq
    subst hq
    have := (Nest.fits MAX_SELECT_DEPTH MAX_DEPTH _).2.2.2 _ _ _ _ hb
    dsimp only at this
    omega
  · simp at h

/-- The same in terms of the parser's own counters, at every recursion level and for every fuel:
    a body entered with `d` expression frames and `sd` bodies already active (a subquery reached
    from inside an expression) is accepted only if all of its expressions — its own subqueries'
    included — fit the REMAINING budget `MAX_DEPTH - d`, and its bodies `MAX_SELECT_DEPTH - sd`.
    No SELECT body gets a budget of its own. -/
theorem subquery_gets_remaining_budget (fuel sd d : Nat) (ts r : List NTok) (q : Q)
    (h : bodyN MAX_SELECT_DEPTH MAX_DEPTH fuel sd d ts = .ok (q, r)) :
    d + q.frames ≤ MAX_DEPTH ∧ sd + q.sdepth ≤ MAX_SELECT_DEPTH :=
  (Nest.fits MAX_SELECT_DEPTH MAX_DEPTH fuel).2.2.2 sd d ts (q, r) h

/-- …and likewise every expression entered with `d` frames active. -/
theorem expression_gets_remaining_budget (fuel sd d m : Nat) (ts r : List NTok) (e : E)
    (h : exprN MAX_SELECT_DEPTH MAX_DEPTH fuel sd d m ts = .ok (e, r)) :
    d + e.frames ≤ MAX_DEPTH :=
  ((Nest.fits MAX_SELECT_DEPTH MAX_DEPTH fuel).1 sd d m ts (e, r) h).1

-- a body entered with 61 frames active has 3 left: `! ! 1` needs exactly 3; entered with 62 it is
-- rejected at the operand (the same text, the same body — only the enclosing expression differs)
example : bodyN MAX_SELECT_DEPTH MAX_DEPTH 20 1 61 [.bang, .bang, .num 1]
    = .ok (.mk (.un .not (.un .not (.num 1))) .none .none, []) := by decide +kernel
example : bodyN MAX_SELECT_DEPTH MAX_DEPTH 20 1 62 [.bang, .bang, .num 1] = .error (.tooDeep 1) := by decide +kernel
example : exprN MAX_SELECT_DEPTH MAX_DEPTH 20 1 62 0 [.tilde, .num 1, .rparen] = .ok (.un .bitNot (.num 1), [.rparen]) := by
  decide +kernel

/-- `SELECT ! c1 IN ( SELECT - 2 FROM ( SELECT * ) WHERE EXISTS ( SELECT ( 3 ) ) )`:
    frames 1 (`!`'s frame) + 1 (operand `c1 IN …`) + subquery: `- 2` needs 2, the EXISTS body 1 + 2 -/
def sample : Q :=
  .mk (.un .not (.inSub (.col 1) false
        (.mk (.un .neg (.num 2)) (.sub (.mk .wildcard .none .none))
          (.cond (.exists (.mk (.num 3) .none .none))))))
    .none .none

def sampleText : List NTok :=
  [.select, .bang, .id 1, .inKw, .lparen, .select, .op .sub, .num 2, .fromKw, .lparen, .select,
   .op .mul, .rparen, .whereKw, .existsKw, .lparen, .select, .lparen, .num 3, .rparen, .rparen, .rparen]

example : parseStmt sampleText = .ok sample := by decide +kernel
example : sample.frames = 4 ∧ sample.sdepth = 3 := by decide +kernel
-- genuine errors with positions, and the explicit domain boundary
example : parseStmt [.select, .num 1, .inKw, .select] = .error (.unexpected .lparen 1) := by decide +kernel
example : parseStmt [.select, .num 1, .inKw, .lparen, .select, .num 2] = .error (.eof .rparen) := by decide +kernel
example : parseStmt [.select, .existsKw, .lparen, .num 1] = .error (.unexpected .select 1) := by decide +kernel
example : parseStmt [.select, .num 1, .notKw, .inKw, .lparen, .rparen, .op .add, .lparen, .rparen]
    = .ok (.mk (.bin (.inNil (.num 1) true) .add .unit) .none .none) := by decide +kernel
example : parseStmt [.select, .id 1, .lparen, .rparen] = .outside := by decide +kernel
example : parseStmt [.select, .num 1, .id 2] = .outside := by decide +kernel

/-- Exact position of the limit on linear chains of frame openers, in EVERY mixture of prefix
    operators, parentheses, `<n> [NOT] IN ( SELECT` and `EXISTS ( SELECT`: once `MAX_DEPTH` openers
    have been consumed — however they are distributed over subquery levels — `TooDeep` is raised at
    the first token after them, whatever that token is (also at end of input; except that `()`
    directly after a final `(` is the empty tuple), whatever follows, and independently of how much
    deeper the chain would go.  `rem` counts the tokens from that position to the end. -/
theorem nest_chain_too_deep (l : List Opener) (rest : List NTok) (h : MAX_DEPTH ≤ l.length)
    (hr : rest.head? ≠ some .rparen) :
    parseStmt (.select :: (opens l ++ rest)) =
      .error (.tooDeep ((opens (l.drop MAX_DEPTH)).length + rest.length)) := by
  have hX := opens_head (l.drop MAX_DEPTH) rest hr
  have hk := Nest.chain_td MAX_SELECT_DEPTH MAX_DEPTH Nest.limits_ordered (l.take MAX_DEPTH) _ 1 0 0
    (opens (l.drop MAX_DEPTH) ++ rest) (by omega) (by simp only [List.length_take]; omega) (Nat.le_refl _) hX
  rw [← List.append_assoc, ← opens_append, List.take_append_drop] at hk
  have hb : bodyN MAX_SELECT_DEPTH MAX_DEPTH (3 * (l.take MAX_DEPTH).length + 1 + 1) 0 0 (opens l ++ rest) =
      .error (.tooDeep (opens (l.drop MAX_DEPTH) ++ rest).length) := by
    rw [bodyN_succ, if_neg (by decide), hk]
    rfl
  have hb := body_fuel (g := Nest.fuelFor (.select :: (opens l ++ rest))) hb (by simp [NF])
    (by simp only [Nest.fuelFor, List.length_cons]; omega)
  unfold parseStmt parseStmtWith
  simp only [hb, bind_error, List.length_append]

example : MAX_DEPTH ≤ (bangLevels 2 40).length := by decide +kernel
example : (NTok.num 1 :: List.replicate 2 NTok.rparen).head? ≠ some .rparen := by decide +kernel
example : (bangText 2 40).length = 92 := by rw [bangText_length]
-- two levels × 40 operators: no level exceeds the limit, the statement does — TooDeep, at the
-- operator that would open frame 65 (token 68 of 92)
set_option maxRecDepth 20000 in
example : parseStmt (bangText 2 40) = .error (.tooDeep 24) := by decide +kernel
-- the boundary is exact and statement-wide: 2 × (30 + 1) = 62 openers (63 frames) parse,
-- 2 × (31 + 1) = 64 openers do not — TooDeep at the innermost `1`
set_option maxRecDepth 20000 in
example : accepted (parseStmt (bangText 2 30)) = true := by decide +kernel
set_option maxRecDepth 20000 in
example : parseStmt (bangText 2 31) = .error (.tooDeep 3) := by decide +kernel
-- 60 levels × 60 operators (the input that overflowed a 2 MiB stack when every SELECT body had a
-- budget of its own): TooDeep after 64 openers, in the second level
set_option maxRecDepth 100000 in
example : (bangText 60 60).length = 3902 := by rw [bangText_length]
set_option maxRecDepth 100000 in
example : parseStmt (bangText 60 60) = .error (.tooDeep 3834) := by
  -- by `nest_chain_too_deep`: the first 64 openers are 67 of the 3840 tokens of the openers
  have h := nest_chain_too_deep (bangLevels 60 60) (.num 1 :: List.replicate 60 .rparen)
    (by rw [bangLevels_length]; decide) (by decide)
  have t : (opens ((bangLevels 60 60).take MAX_DEPTH)).length = 67 := by decide +kernel
  have a := congrArg List.length
    (opens_append ((bangLevels 60 60).take MAX_DEPTH) ((bangLevels 60 60).drop MAX_DEPTH))
  rw [List.take_append_drop, List.length_append, t, opens_bangLevels_length] at a
  have e : (opens ((bangLevels 60 60).drop MAX_DEPTH)).length = 3773 := by omega
  rw [e] at h
  exact h
-- mixed sites: EXISTS and NOT IN levels, parentheses and all four prefix spellings
def mixedOpeners : List Opener :=
  (List.replicate 4 [Opener.pre .neg false, .paren, .pre .not false, .exSel, .pre .bitNot false, .paren,
    .pre .not true, .inSel 3 true]).flatten
example : mixedOpeners.length = 32 := by decide +kernel
set_option maxRecDepth 20000 in
example : parseStmt (.select :: (opens (mixedOpeners ++ mixedOpeners) ++ [.num 1]))
    = .error (.tooDeep 1) := by decide +kernel

/-! ### the expression loop of a statement is the Pratt model

`Parse/Props.lean` proves precedence / associativity / parenthesis invariance for `parse`; the
theorems below carry them to the statement parser's select item (and, by
`Nest.embeds`, to every expression position of the fragment at every depth). -/

/-- For EVERY token list of the Pratt alphabet: `SELECT <tokens>` is answered by the statement
    model exactly as the Pratt model answers `<tokens>` — same tree, same error at the same token —
    except that a statement does not look at what follows its select item. -/
theorem nest_extends_pratt (ts : List Tok) :
    parseStmt (.select :: ts.map embTok) =
      match parseBpN MAX_DEPTH (Parse.fuelFor ts) 0 0 ts with
      | .ok (e, _) => .ok (.mk (embExpr e) .none .none)
      | .error err => .error (embErr err) := by
  unfold parseStmt parseStmtWith
  have hf : Nest.fuelFor (.select :: ts.map embTok) = (3 * ts.length + 5) + 1 := by
    simp [Nest.fuelFor]; omega
  simp only [hf]
  rw [body_emb MAX_SELECT_DEPTH MAX_DEPTH _ 0 0 ts (by decide)]
  rw [Parse.mono_bp (show Parse.fuelFor ts ≤ 3 * ts.length + 5 by simp [Parse.fuelFor]; omega)
    ((Parse.no_fuel MAX_DEPTH (Parse.fuelFor ts)).1 0 0 ts (Nat.le_refl _)) rfl]
  cases hp : parseBpN MAX_DEPTH (Parse.fuelFor ts) 0 0 ts with
  | error e => rfl
  | ok p => obtain ⟨e, rest⟩ := p; rfl

/-- What `parse_expr` accepts, the statement parser accepts as a select item, with the same tree. -/
theorem nest_accepts_parse (ts : List Tok) (e : Expr) (h : parse ts = .ok e) :
    parseStmt (.select :: ts.map embTok) = .ok (.mk (embExpr e) .none .none) := by
  rw [nest_extends_pratt, finish_eq_ok.1 h]

/-- Precedence / associativity / parenthesis invariance at statement level: every print of an
    expression tree — minimal or with any redundant parentheses — that fits the depth limit is
    parsed by the statement parser to that tree. -/
theorem nest_printWith (extra : Expr → Bool) (e : Expr) (h : framesWith extra e ≤ MAX_DEPTH) :
    parseStmt (.select :: (printWith extra e).map embTok) = .ok (.mk (embExpr e) .none .none) :=
  nest_accepts_parse _ e (Props.parse_printWith extra e h)

example : framesWith (fun _ => true) Props.sample ≤ MAX_DEPTH := by decide +kernel
example : parseStmt (.select :: (printFull Props.sample).map embTok)
    = .ok (.mk (embExpr Props.sample) .none .none) := by decide +kernel

end Neumann.Parse.NestProps
