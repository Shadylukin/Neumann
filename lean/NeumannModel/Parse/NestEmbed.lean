import NeumannModel.Parse.Lemmas
import NeumannModel.Parse.NestLemmas
/-
  C15 — the Pratt model of `Parse/Model.lean` (the one the round-trip / precedence theorems of
  `Parse/Props.lean` are about) is exactly the expression loop of the expression × subquery model
  (`Parse/Nest.lean`) on the shared alphabet.  Core Lean only.
-/
namespace Neumann.Parse.Nest
open Neumann.Parse.Sel (Res SErr SExpect bind_ok bind_error)

/-- the Pratt alphabet inside the statement alphabet (`atom n` = the integer literal `n`) -/
def embTok : Tok → NTok
  | .atom n => .num n
  | .op o => .op o
  | .lparen => .lparen
  | .rparen => .rparen
  | .notKw => .notKw
  | .bang => .bang
  | .tilde => .tilde
  | .other => .other

def embExpr : Expr → E
  | .atom n => .num n
  | .wildcard => .wildcard
  | .unit => .unit
  | .un u e => .un u (embExpr e)
  | .bin l o r => .bin (embExpr l) o (embExpr r)

/-- (`endOfExpr` is raised by the free function `parse_expr` only, never inside the loop) -/
def embExpect : Expect → SExpect
  | .expression => .expression
  | .rparen => .rparen
  | .endOfExpr => .expression

def embErr : PErr → SErr
  | .tooDeep k => .tooDeep k
  | .eof x => .eof (embExpect x)
  | .unexpected x k => .unexpected (embExpect x) k
  | .fuel => .fuel

def embRes : PRes → Res (E × List NTok)
  | .ok (e, r) => .ok (embExpr e, r.map embTok)
  | .error e => .error (embErr e)

def embArm : PrefixArm → Arm
  | .atom n => .num n
  | .wildcard => .wildcard
  | .paren => .paren
  | .unary u => .unary u
  | .unexpected => .unexpected

theorem prefixArm_emb (t : Tok) : Nest.prefixArm (embTok t) = embArm (Parse.prefixArm t) := by
  cases t with
  | op o => cases o <;> rfl
  | _ => rfl

theorem loopArm_emb (t : Tok) (rest : List Tok) :
    loopArm ((t :: rest).map embTok) =
      match binaryOf t with
      | some o => .binary o (rest.map embTok)
      | none => .stop := by
  cases t with
  | notKw =>
    cases rest with
    | nil => rfl
    | cons t' r' => cases t' <;> rfl
  | _ => rfl

theorem head_emb (rest : List Tok) :
    ((rest.map embTok).head? = some NTok.rparen) = (rest.head? = some Tok.rparen) := by
  cases rest with
  | nil => simp
  | cons t r => cases t <;> simp [embTok]

theorem embRes_bind (r : PRes) {k : Expr × List Tok → PRes} {k' : E × List NTok → Res (E × List NTok)}
    (h : ∀ e rest, k' (embExpr e, rest.map embTok) = embRes (k (e, rest))) :
    (embRes r).bind k' = embRes (r.bind k) := by
  cases r with
  | error e => rfl
  | ok p => exact h p.1 p.2

theorem expectRParen_emb (e : Expr) (r : List Tok) :
    ((expect .rparen .rparen (r.map embTok)).bind fun r' => Res.ok (embExpr e, r')) = embRes (expectRParen e r) := by
  cases r with
  | nil => rfl
  | cons t r => cases t <;> simp [expect, expectRParen, embTok, embRes, embErr, embExpect]

/-- On the Pratt alphabet the statement parser's expression loop IS `parseBpN`, for every fuel,
    depth, binding power and select depth: same tree, same rest, same error at the same token. -/
theorem embeds (maxS M : Nat) : ∀ f,
    (∀ sd d m ts, exprN maxS M f sd d m (ts.map embTok) = embRes (parseBpN M f d m ts)) ∧
    (∀ sd d ts, prefixN maxS M f sd d (ts.map embTok) = embRes (parsePrefixN M f d ts)) ∧
    (∀ sd d m lhs ts, loopN maxS M f sd d m (embExpr lhs) (ts.map embTok) = embRes (ploopN M f d m lhs ts)) := by
  intro f
  induction f with
  | zero => exact ⟨fun _ _ _ _ => rfl, fun _ _ _ => rfl, fun _ _ _ _ _ => rfl⟩
  | succ f ih =>
    obtain ⟨ihE, ihP, ihL⟩ := ih
    refine ⟨?_, ?_, ?_⟩
    · intro sd d m ts
      rw [parseBpN_succ]
      simp only [exprN, List.length_map, ihP]
      split
      · rfl
      · exact embRes_bind _ fun e rest => ihL _ _ _ _ _
    · intro sd d ts
      cases ts with
      | nil => rfl
      | cons t rest =>
        rw [parsePrefixN_cons]
        simp only [List.map_cons, prefixN, prefixArm_emb]
        cases Parse.prefixArm t with
        | atom n => rfl
        | wildcard => rfl
        | unexpected => simp [embArm, embRes, embErr, embExpect]
        | paren =>
          simp only [embArm, head_emb, ihE]
          split
          · simp [embRes, embExpr]
          · exact embRes_bind _ fun e rest' => expectRParen_emb e rest'
        | unary u =>
          simp only [embArm, ihE]
          exact embRes_bind _ fun e rest' => rfl
    · intro sd d m lhs ts
      cases ts with
      | nil => rfl
      | cons t rest =>
        rw [ploopN_cons, loopN_succ, loopArm_emb]
        cases binaryOf t with
        | none => rfl
        | some o =>
          simp only [ihE]
          split
          · rfl
          · exact embRes_bind _ fun e rest' => ihL _ _ _ (.bin lhs o e) _

/-- a body whose text is a Pratt-alphabet expression: the select item, nothing else (no token of
    the Pratt alphabet is an alias, FROM or WHERE) -/
theorem body_emb (maxS M f sd d : Nat) (ts : List Tok) (hs : sd + 1 ≤ maxS) :
    bodyN maxS M (f+1) sd d (ts.map embTok) =
      match parseBpN M f d 0 ts with
      | .ok (e, rest) => .ok (.mk (embExpr e) .none .none, rest.map embTok)
      | .error err => .error (embErr err) := by
  have hn : ¬ (sd + 1 > maxS) := by omega
  rw [bodyN_succ, if_neg hn, (embeds maxS M f).1]
  cases hp : parseBpN M f d 0 ts with
  | error e => rfl
  | ok p =>
    obtain ⟨e, rest⟩ := p
    simp only [embRes, bind_ok]
    cases rest with
    | nil => rfl
    | cons t r => cases t <;> rfl

end Neumann.Parse.Nest
