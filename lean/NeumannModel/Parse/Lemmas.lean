import NeumannModel.Parse.Model
/- C15 — lemmas for the Pratt model (`Parse/Model.lean`). Core Lean only. -/
namespace Neumann.Parse

theorem rbp_eq (o : BinOp) : rbp o = lbp o + 1 := by cases o <;> rfl
theorem lbp_lt_prefix (o : BinOp) : lbp o < PREFIX_BP := by cases o <;> decide
theorem lbp_pos (o : BinOp) : 1 ≤ lbp o := by cases o <;> decide
theorem rbp_le (o : BinOp) : rbp o ≤ 100 := by cases o <;> decide
theorem lbp_le (o : BinOp) : lbp o ≤ 100 := by cases o <;> decide

theorem parseBpN_succ (M f d m : Nat) (ts : List Tok) :
    parseBpN M (f+1) d m ts =
      if d + 1 > M then .error (.tooDeep ts.length) else
      (parsePrefixN M f (d+1) ts).bind fun p => ploopN M f (d+1) m p.1 p.2 := by
  rw [parseBpN]
  split
  · rfl
  · cases parsePrefixN M f (d+1) ts <;> rfl

theorem parseBpN_step {M f d m : Nat} {ts : List Tok} (h : d + 1 ≤ M) :
    parseBpN M (f+1) d m ts = (parsePrefixN M f (d+1) ts).bind fun p => ploopN M f (d+1) m p.1 p.2 := by
  rw [parseBpN_succ, if_neg (Nat.not_lt.2 h)]

theorem parseBpN_deep {M f d m : Nat} {ts : List Tok} (h : M ≤ d) :
    parseBpN M (f+1) d m ts = .error (.tooDeep ts.length) := by
  rw [parseBpN_succ, if_pos (Nat.lt_succ_of_le h)]

theorem parsePrefixN_cons (M f d : Nat) (t : Tok) (rest : List Tok) :
    parsePrefixN M (f+1) d (t :: rest) =
      match prefixArm t with
      | .atom n => .ok (.atom n, rest)
      | .wildcard => .ok (.wildcard, rest)
      | .paren =>
        if rest.head? = some .rparen then .ok (.unit, rest.tail) else
        (parseBpN M f d 0 rest).bind fun p => expectRParen p.1 p.2
      | .unary u => (parseBpN M f d PREFIX_BP rest).bind fun p => .ok (.un u p.1, p.2)
      | .unexpected => .error (.unexpected .expression (t :: rest).length) := by
  rw [parsePrefixN]
  cases prefixArm t with
  | paren =>
    simp only
    split
    · rfl
    · cases parseBpN M f d 0 rest <;> rfl
  | unary u => simp only; cases parseBpN M f d PREFIX_BP rest <;> rfl
  | _ => rfl

theorem ploopN_cons (M f d m : Nat) (lhs : Expr) (t : Tok) (rest : List Tok) :
    ploopN M (f+1) d m lhs (t :: rest) =
      match binaryOf t with
      | none => .ok (lhs, t :: rest)
      | some o =>
        if lbp o < m then .ok (lhs, t :: rest) else
        (parseBpN M f d (rbp o) rest).bind fun p => ploopN M f d m (.bin lhs o p.1) p.2 := by
  rw [ploopN]
  cases binaryOf t with
  | none => rfl
  | some o =>
    simp only
    split
    · rfl
    · cases parseBpN M f d (rbp o) rest <;> rfl

/-- the two errors that come from a resource running out rather than from the input -/
def PErr.isFuel : PErr → Prop
  | .fuel => True
  | _ => False

def PErr.isDeep : PErr → Prop
  | .tooDeep _ => True
  | _ => False

section
variable {α β : Type} {C : PErr → Prop}

def Avoids (C : PErr → Prop) (r : Except PErr α) : Prop := ∀ e, r = .error e → ¬ C e

theorem Avoids.ok {a : α} : Avoids C (.ok a) := nofun

theorem Avoids.error {e : PErr} (h : ¬ C e) :
    Avoids C (.error e : Except PErr α) := fun _ he => Except.error.inj he ▸ h

theorem Avoids.bind {r : Except PErr α} {k : α → Except PErr β}
    (hr : Avoids C r) (hk : ∀ a, r = .ok a → Avoids C (k a)) : Avoids C (r.bind k) := by
  cases r with
  | ok a => exact hk a rfl
  | error e => exact Avoids.error (hr e rfl)

/-- how the answer with more of a resource (fuel, depth limit) relates to the answer with less -/
def Upto (C : PErr → Prop) (r r' : Except PErr α) : Prop := Avoids C r → r' = r

theorem Upto.refl (r : Except PErr α) : Upto C r r := fun _ => rfl

theorem Upto.bad {e : PErr} {r' : Except PErr α} (h : C e) :
    Upto C (.error e) r' := fun ha => absurd h (ha e rfl)

theorem Upto.bind {r r' : Except PErr α} {k k' : α → Except PErr β}
    (hr : Upto C r r') (hk : ∀ a, Upto C (k a) (k' a)) : Upto C (r.bind k) (r'.bind k') := by
  intro h
  cases r with
  | ok a => rw [hr Avoids.ok]; exact hk a h
  | error e => rw [hr (Avoids.error (h e rfl))]; rfl

theorem Upto.of_le {F : Nat → Except PErr α}
    (step : ∀ f, Upto C (F f) (F (f+1))) {f g : Nat} (hfg : f ≤ g) : Upto C (F f) (F g) := by
  intro h
  induction hfg with
  | refl => rfl
  | step _ ih => rw [step _ (ih ▸ h), ih]

theorem bind_ok_iff {r : Except PErr α} {k : α → Except PErr β} {b : β} :
    r.bind k = .ok b ↔ ∃ a, r = .ok a ∧ k a = .ok b := by
  cases r <;> simp [Except.bind]

end

/-- More of a resource changes only the errors that come from that resource. -/
theorem more_resources {C : PErr → Prop} {M M' : Nat} (hM : M ≤ M')
    (hD : M < M' → ∀ k, C (.tooDeep k)) (j : Nat) (hF : 0 < j → C .fuel) : ∀ f,
    (∀ d m ts, Upto C (parseBpN M f d m ts) (parseBpN M' (f+j) d m ts)) ∧
    (∀ d ts, Upto C (parsePrefixN M f d ts) (parsePrefixN M' (f+j) d ts)) ∧
    (∀ d m l ts, Upto C (ploopN M f d m l ts) (ploopN M' (f+j) d m l ts)) := by
  intro f
  induction f with
  | zero =>
    cases j with
    | zero => exact ⟨fun _ _ _ => .refl _, fun _ _ => .refl _, fun _ _ _ _ => .refl _⟩
    | succ j =>
      have := hF (Nat.succ_pos j)
      exact ⟨fun _ _ _ => .bad this, fun _ _ => .bad this, fun _ _ _ _ => .bad this⟩
  | succ f ih =>
    obtain ⟨ih1, ih2, ih3⟩ := ih
    refine ⟨?_, ?_, ?_⟩
    · intro d m ts
      rw [Nat.add_right_comm, parseBpN_succ, parseBpN_succ]
      by_cases hd : d + 1 > M
      · rw [if_pos hd]
        by_cases hd' : d + 1 > M'
        · rw [if_pos hd']
          exact .refl _
        · exact .bad (hD (Nat.lt_of_lt_of_le hd (Nat.le_of_not_gt hd')) _)
      · rw [if_neg hd, if_neg fun h => hd (Nat.lt_of_le_of_lt hM h)]
        exact (ih2 _ _).bind fun p => ih3 _ _ _ _
    · intro d ts
      rw [Nat.add_right_comm]
      cases ts with
      | nil => exact .refl _
      | cons t rest =>
        rw [parsePrefixN_cons, parsePrefixN_cons]
        cases prefixArm t with
        | paren =>
          simp only
          split
          · exact .refl _
          · exact (ih1 _ _ _).bind fun p => .refl _
        | unary u => exact (ih1 _ _ _).bind fun p => .refl _
        | _ => exact .refl _
    · intro d m l ts
      rw [Nat.add_right_comm]
      cases ts with
      | nil => exact .refl _
      | cons t rest =>
        rw [ploopN_cons, ploopN_cons]
        cases binaryOf t with
        | none => exact .refl _
        | some o =>
          simp only
          split
          · exact .refl _
          · exact (ih1 _ _ _).bind fun p => ih3 _ _ _ _

theorem mono (M : Nat) : ∀ f,
    (∀ d m ts, Upto PErr.isFuel (parseBpN M f d m ts) (parseBpN M (f+1) d m ts)) ∧
    (∀ d ts, Upto PErr.isFuel (parsePrefixN M f d ts) (parsePrefixN M (f+1) d ts)) ∧
    (∀ d m l ts, Upto PErr.isFuel (ploopN M f d m l ts) (ploopN M (f+1) d m l ts)) :=
  more_resources (Nat.le_refl M) (fun h => absurd h (Nat.lt_irrefl M)) 1 fun _ => trivial

theorem mono_bp {M f g d m ts res} (h : f ≤ g) (hn : Avoids PErr.isFuel res)
    (e : parseBpN M f d m ts = res) : parseBpN M g d m ts = res := by
  rw [Upto.of_le (F := fun f => parseBpN M f d m ts) (fun f => (mono M f).1 d m ts) h (e ▸ hn), e]
theorem mono_prefix {M f g d ts res} (h : f ≤ g) (hn : Avoids PErr.isFuel res)
    (e : parsePrefixN M f d ts = res) : parsePrefixN M g d ts = res := by
  rw [Upto.of_le (F := fun f => parsePrefixN M f d ts) (fun f => (mono M f).2.1 d ts) h (e ▸ hn), e]
theorem mono_loop {M f g d m l ts res} (h : f ≤ g) (hn : Avoids PErr.isFuel res)
    (e : ploopN M f d m l ts = res) : ploopN M g d m l ts = res := by
  rw [Upto.of_le (F := fun f => ploopN M f d m l ts) (fun f => (mono M f).2.2 d m l ts) h (e ▸ hn), e]

/-- an error position lies inside an input of `n` tokens (`rem = 0` is the end-of-input point) -/
def PErr.posOk (n : Nat) : PErr → Prop
  | .tooDeep rem => rem ≤ n
  | .unexpected _ rem => 1 ≤ rem ∧ rem ≤ n
  | _ => True

/-- result is sane w.r.t. an input of `n` tokens: the remaining input is shorter (strictly if
    `strict`), an error position is inside the input -/
def ResOk (strict : Bool) (n : Nat) : PRes → Prop
  | .ok (_, r) => if strict then r.length < n else r.length ≤ n
  | .error e => e.posOk n

theorem posOk_mono {e : PErr} {n n' : Nat} (h : e.posOk n) (hn : n ≤ n') : e.posOk n' := by
  cases e <;> simp only [PErr.posOk] at * <;> omega

theorem ResOk.mono {b b' : Bool} {k n : Nat} {r : PRes} (h : ResOk b' k r) (hk : k < n) :
    ResOk b n r := by
  cases r with
  | error e => exact posOk_mono h (Nat.le_of_lt hk)
  | ok p => cases b <;> cases b' <;> simp only [ResOk] at * <;> simp at * <;> omega

theorem ResOk.lt {n : Nat} {r : PRes} {p : Expr × List Tok} (h : ResOk true n r) (hp : r = .ok p) :
    p.2.length < n := by
  subst hp
  exact h

theorem ResOk.bind {b b' : Bool} {k n : Nat} {r : PRes} {g : Expr × List Tok → PRes}
    (hr : ResOk true k r) (hg : ∀ p, ResOk b' p.2.length (g p)) (hkn : k ≤ n) :
    ResOk b n (r.bind g) := by
  cases r with
  | error e => exact posOk_mono hr hkn
  | ok p => exact (hg p).mono (Nat.lt_of_lt_of_le hr hkn)

theorem expectRParen_ok (e : Expr) (ts : List Tok) : ResOk false ts.length (expectRParen e ts) := by
  cases ts with
  | nil => trivial
  | cons t r =>
    simp only [expectRParen]
    split
    · exact Nat.le_succ _
    · exact ⟨Nat.succ_pos _, Nat.le_refl _⟩

theorem bounds (M : Nat) : ∀ f,
    (∀ d m ts, ResOk true ts.length (parseBpN M f d m ts)) ∧
    (∀ d ts, ResOk true ts.length (parsePrefixN M f d ts)) ∧
    (∀ d m l ts, ResOk false ts.length (ploopN M f d m l ts)) := by
  intro f
  induction f with
  | zero => exact ⟨fun _ _ _ => trivial, fun _ _ => trivial, fun _ _ _ _ => trivial⟩
  | succ f ih =>
    obtain ⟨ih1, ih2, ih3⟩ := ih
    refine ⟨?_, ?_, ?_⟩
    · intro d m ts
      rw [parseBpN_succ]
      split
      · exact Nat.le_refl _
      · exact (ih2 _ _).bind (fun p => ih3 _ _ _ _) (Nat.le_refl _)
    · intro d ts
      cases ts with
      | nil => trivial
      | cons t rest =>
        rw [parsePrefixN_cons]
        cases prefixArm t with
        | atom n | wildcard => exact Nat.lt_succ_self _
        | unexpected => exact ⟨Nat.succ_pos _, Nat.le_refl _⟩
        | paren =>
          simp only
          split
          · simp only [ResOk, if_true, List.length_tail, List.length_cons]; omega
          · exact (ih1 _ _ _).bind (fun p => expectRParen_ok _ _) (Nat.le_succ _)
        | unary u => exact (ih1 _ _ _).bind (b' := false) (fun p => Nat.le_refl _) (Nat.le_succ _)
    · intro d m l ts
      cases ts with
      | nil => exact Nat.le_refl _
      | cons t rest =>
        rw [ploopN_cons]
        cases binaryOf t with
        | none => exact Nat.le_refl _
        | some o =>
          simp only
          split
          · exact Nat.le_refl _
          · exact (ih1 _ _ _).bind (fun p => ih3 _ _ _ _) (Nat.le_succ _)

theorem expectRParen_avoids {C : PErr → Prop} (h1 : ¬ C (.eof .rparen))
    (h2 : ∀ k, ¬ C (.unexpected .rparen k)) (e : Expr) (ts : List Tok) :
    Avoids C (expectRParen e ts) := by
  cases ts with
  | nil => exact .error h1
  | cons t r =>
    simp only [expectRParen]
    split
    · exact .ok
    · exact .error (h2 _)

theorem no_fuel (M : Nat) : ∀ f,
    (∀ d m ts, 2 * ts.length + 2 ≤ f → Avoids PErr.isFuel (parseBpN M f d m ts)) ∧
    (∀ d ts, 2 * ts.length + 1 ≤ f → Avoids PErr.isFuel (parsePrefixN M f d ts)) ∧
    (∀ d m l ts, 2 * ts.length + 1 ≤ f → Avoids PErr.isFuel (ploopN M f d m l ts)) := by
  intro f
  induction f with
  | zero => exact ⟨fun _ _ _ h => by omega, fun _ _ h => by omega, fun _ _ _ _ h => by omega⟩
  | succ f ih =>
    obtain ⟨ih1, ih2, ih3⟩ := ih
    obtain ⟨b1, b2, -⟩ := bounds M f
    refine ⟨?_, ?_, ?_⟩
    · intro d m ts hf
      rw [parseBpN_succ]
      split
      · exact .error id
      · exact (ih2 _ _ (by omega)).bind fun p hp => ih3 _ _ _ _ (by have := (b2 _ _).lt hp; omega)
    · intro d ts hf
      cases ts with
      | nil => exact .error id
      | cons t rest =>
        simp only [List.length_cons] at hf
        rw [parsePrefixN_cons]
        cases prefixArm t with
        | atom n | wildcard => exact .ok
        | unexpected => exact .error id
        | paren =>
          simp only
          split
          · exact .ok
          · exact (ih1 _ _ _ (by omega)).bind fun p _ => expectRParen_avoids id (fun _ => id) _ _
        | unary u => exact (ih1 _ _ _ (by omega)).bind fun p _ => .ok
    · intro d m l ts hf
      cases ts with
      | nil => exact .ok
      | cons t rest =>
        simp only [List.length_cons] at hf
        rw [ploopN_cons]
        cases binaryOf t with
        | none => exact .ok
        | some o =>
          simp only
          split
          · exact .ok
          · exact (ih1 _ _ _ (by omega)).bind fun p hp =>
              ih3 _ _ _ _ (by have := (b1 _ _ _).lt hp; omega)

theorem finish_eq_ok {r : PRes} {e : Expr} : finish r = .ok e ↔ r = .ok (e, []) := by
  cases r with
  | error x => simp [finish]
  | ok p => obtain ⟨x, l⟩ := p; cases l <;> simp [finish]

theorem finish_avoids {C : PErr → Prop} (hC : ∀ k, ¬ C (.unexpected .endOfExpr k)) {r : PRes}
    (h : Avoids C r) : Avoids C (finish r) := by
  cases r with
  | error x => exact .error (h x rfl)
  | ok p =>
    obtain ⟨x, l⟩ := p
    cases l with
    | nil => exact .ok
    | cons t l => exact .error (hC _)

theorem at_fuelFor (M : Nat) {f d m : Nat} {ts : List Tok} {r : PRes}
    (h : parseBpN M f d m ts = r) (hr : Avoids PErr.isFuel r) :
    parseBpN M (fuelFor ts) d m ts = r := by
  have hF := (no_fuel M (fuelFor ts)).1 d m ts (Nat.le_refl _)
  rw [← mono_bp (Nat.le_max_right f (fuelFor ts)) hF rfl, mono_bp (Nat.le_max_left f (fuelFor ts)) hr h]

/-! ### the round-trip machinery (DESIGN.md A.5, with prefix operators, `()`/`*` atoms and depth)

The `…R` forms speak of any outcome (a tree or an error) other than "out of fuel". -/

def Parses (M d m : Nat) (ts : List Tok) (r : Expr × List Tok) : Prop := ∃ f, parseBpN M f d m ts = .ok r
def PrefixP (M d : Nat) (ts : List Tok) (r : Expr × List Tok) : Prop := ∃ f, parsePrefixN M f d ts = .ok r
def Loops (M d m : Nat) (l : Expr) (ts : List Tok) (r : Expr × List Tok) : Prop :=
  ∃ f, ploopN M f d m l ts = .ok r

def ParsesR (M d m : Nat) (ts : List Tok) (res : PRes) : Prop :=
  Avoids PErr.isFuel res ∧ ∃ f, parseBpN M f d m ts = res
def PrefixR (M d : Nat) (ts : List Tok) (res : PRes) : Prop :=
  Avoids PErr.isFuel res ∧ ∃ f, parsePrefixN M f d ts = res
def LoopsR (M d m : Nat) (l : Expr) (ts : List Tok) (res : PRes) : Prop :=
  Avoids PErr.isFuel res ∧ ∃ f, ploopN M f d m l ts = res

theorem avoids_fuel {α : Type} {r : Except PErr α} (h : r ≠ .error .fuel) : Avoids PErr.isFuel r := by
  intro e he hf
  cases e <;> first | exact hf | exact h he

theorem res_mono_bp {M f g d m ts res} (h : f ≤ g) (hn : res ≠ .error .fuel)
    (e : parseBpN M f d m ts = res) : parseBpN M g d m ts = res :=
  mono_bp h (avoids_fuel hn) e

theorem parsesR_of {M d m ts lhs rest res} (hd : d + 1 ≤ M) (hp : PrefixP M (d+1) ts (lhs, rest))
    (hl : LoopsR M (d+1) m lhs rest res) : ParsesR M d m ts res := by
  obtain ⟨f1, h1⟩ := hp
  obtain ⟨hn, f2, h2⟩ := hl
  refine ⟨hn, max f1 f2 + 1, ?_⟩
  rw [parseBpN_step hd, mono_prefix (Nat.le_max_left f1 f2) .ok h1]
  exact mono_loop (Nat.le_max_right f1 f2) hn h2

theorem parses_of {M d m ts lhs rest r} (hd : d + 1 ≤ M) (hp : PrefixP M (d+1) ts (lhs, rest))
    (hl : Loops M (d+1) m lhs rest r) : Parses M d m ts r :=
  (parsesR_of hd hp ⟨.ok, hl⟩).2

theorem parsesR_prefix_err {M d m ts e} (hd : d + 1 ≤ M) (hp : PrefixR M (d+1) ts (.error e)) :
    ParsesR M d m ts (.error e) := by
  obtain ⟨hn, f, h⟩ := hp
  refine ⟨hn, f + 1, ?_⟩
  rw [parseBpN_step hd, h]
  rfl

theorem parsesR_deep {M d m ts} (h : M ≤ d) : ParsesR M d m ts (.error (.tooDeep ts.length)) :=
  ⟨.error id, 1, parseBpN_deep h⟩

theorem loopsR_op {M d m o lhs rhs rest rest' res} (hk : ¬ lbp o < m)
    (hp : Parses M d (rbp o) rest (rhs, rest')) (hl : LoopsR M d m (.bin lhs o rhs) rest' res) :
    LoopsR M d m lhs (Tok.op o :: rest) res := by
  obtain ⟨f1, h1⟩ := hp
  obtain ⟨hn, f2, h2⟩ := hl
  refine ⟨hn, max f1 f2 + 1, ?_⟩
  simp only [ploopN_cons, binaryOf, hk, if_false]
  rw [mono_bp (Nat.le_max_left f1 f2) .ok h1]
  exact mono_loop (Nat.le_max_right f1 f2) hn h2

theorem loops_op {M d m o lhs rhs rest rest' r} (hk : ¬ lbp o < m)
    (hp : Parses M d (rbp o) rest (rhs, rest')) (hl : Loops M d m (.bin lhs o rhs) rest' r) :
    Loops M d m lhs (Tok.op o :: rest) r :=
  (loopsR_op hk hp ⟨.ok, hl⟩).2

theorem loopsR_op_err {M d m o lhs rest e} (hk : ¬ lbp o < m)
    (hp : ParsesR M d (rbp o) rest (.error e)) : LoopsR M d m lhs (Tok.op o :: rest) (.error e) := by
  obtain ⟨hn, f, h⟩ := hp
  refine ⟨hn, f + 1, ?_⟩
  simp only [ploopN_cons, binaryOf, hk, if_false, h]
  rfl

/-- the head of the remaining input makes a frame running at `min_bp = b` stop -/
def headStops (b : Nat) : List Tok → Prop
  | Tok.op o :: _ => lbp o < b
  | _ => True

theorem loops_stop {M d m e X} (h : headStops m X) : Loops M d m e X (e, X) := by
  refine ⟨1, ?_⟩
  cases X with
  | nil => rfl
  | cons t ts =>
    rw [ploopN_cons]
    cases t with
    | op o => exact if_pos h
    | _ => rfl

theorem headStops_mono {a b X} (h : a ≤ b) (hs : headStops a X) : headStops b X := by
  cases X with
  | nil => trivial
  | cons t ts => cases t <;> simp only [headStops] at * ; omega

theorem headStops_prefix (X : List Tok) : headStops PREFIX_BP X := by
  cases X with
  | nil => trivial
  | cons t ts =>
    cases t <;> simp only [headStops]
    exact lbp_lt_prefix _

theorem prefixR_paren {M d rest res} (hh : rest.head? ≠ some Tok.rparen) (h : ParsesR M d 0 rest res) :
    PrefixR M d (Tok.lparen :: rest) (res.bind fun p => expectRParen p.1 p.2) := by
  obtain ⟨hn, f, hf⟩ := h
  exact ⟨hn.bind fun p _ => expectRParen_avoids id (fun _ => id) _ _, f+1,
    by simp only [parsePrefixN_cons, prefixArm, hh, if_false, hf]⟩

theorem prefixArm_unTok (u : UnOp) : prefixArm (unTok u) = .unary u := by cases u <;> rfl

theorem prefixR_unary {M d u rest res} (h : ParsesR M d PREFIX_BP rest res) :
    PrefixR M d (unTok u :: rest) (res.bind fun p => .ok (.un u p.1, p.2)) := by
  obtain ⟨hn, f, hf⟩ := h
  exact ⟨hn.bind fun p _ => .ok, f+1, by simp only [parsePrefixN_cons, prefixArm_unTok, hf]⟩

/-- what must follow a printed expression for the frame that parsed its top node to stop -/
def StopAbove : Expr → List Tok → Prop
  | .bin _ o _, X => headStops (rbp o) X
  | _, _ => True

theorem stopAbove_of {x : Expr} {k : Nat} {X : List Tok} (hk : k ≤ topBp x) (hst : headStops (k+1) X) :
    StopAbove x X := by
  cases x with
  | bin a o b => exact headStops_mono (by simp only [topBp] at hk; have := rbp_eq o; omega) hst
  | _ => trivial

theorem wrap_true (ts X : List Tok) : wrap true ts ++ X = Tok.lparen :: (ts ++ Tok.rparen :: X) := by
  simp [wrap]
theorem wrap_false (ts : List Tok) : wrap false ts = ts := rfl

theorem print_head (extra : Expr → Bool) (e : Expr) :
    ∃ t ts, printWith extra e = t :: ts ∧ t ≠ Tok.rparen := by
  induction e with
  | atom n | wildcard | unit => exact ⟨_, _, rfl, by simp⟩
  | un u x _ => exact ⟨unTok u, _, rfl, by cases u <;> simp [unTok]⟩
  | bin l o r ihl _ =>
    simp only [printWith]
    cases hb : (extra l || decide (topBp l < lbp o)) with
    | true =>
      exact ⟨Tok.lparen, (printWith extra l ++ [Tok.rparen]) ++ Tok.op o ::
        wrap (extra r || decide (topBp r < rbp o)) (printWith extra r), by simp [wrap], by simp⟩
    | false =>
      obtain ⟨t, ts, h1, h2⟩ := ihl
      exact ⟨t, ts ++ Tok.op o :: wrap (extra r || decide (topBp r < rbp o)) (printWith extra r),
        by simp [wrap, h1], h2⟩

theorem print_head_ne (extra : Expr → Bool) (e : Expr) (Y : List Tok) :
    (printWith extra e ++ Y).head? ≠ some Tok.rparen := by
  obtain ⟨t, ts, h1, h2⟩ := print_head extra e
  rw [h1]; simp [h2]

/-- frames needed by `x` printed as an operand of a frame running at `min_bp = k`: one more when it
    is parenthesised -/
def operandFrames (extra : Expr → Bool) (k : Nat) (x : Expr) : Nat :=
  if (extra x || decide (topBp x < k)) then 1 + framesWith extra x else framesWith extra x

theorem framesWith_un (extra : Expr → Bool) (u : UnOp) (x : Expr) :
    framesWith extra (.un u x) = 1 + operandFrames extra PREFIX_BP x := rfl

theorem framesWith_bin (extra : Expr → Bool) (l : Expr) (o : BinOp) (r : Expr) :
    framesWith extra (.bin l o r) =
      max (operandFrames extra (lbp o) l) (1 + operandFrames extra (rbp o) r) := rfl

theorem frames_pos (extra : Expr → Bool) (e : Expr) : 1 ≤ framesWith extra e := by
  cases e <;> simp only [framesWith] <;> omega

theorem operandFrames_pos (extra : Expr → Bool) (k : Nat) (x : Expr) : 1 ≤ operandFrames extra k x := by
  have := frames_pos extra x
  unfold operandFrames
  split <;> omega

/-- The statement proved by induction on the expression: a frame entered at depth `d` with
    `min_bp = m` that finds `print e ++ X` parses `e` and then behaves exactly like its own loop
    started with `lhs = e` on `X` — whatever that loop's outcome `res` is (a tree or an error). -/
def KPropR (extra : Expr → Bool) (M : Nat) (e : Expr) : Prop :=
  ∀ d m X res, m ≤ topBp e → StopAbove e X → d + framesWith extra e ≤ M →
    LoopsR M (d+1) m e X res → ParsesR M d m (printWith extra e ++ X) res

theorem operandR {extra M x} (ih : KPropR extra M x) (k d' m' : Nat) (X : List Tok) (res : PRes)
    (hm : m' ≤ k) (hst : headStops (k+1) X) (hd : d' + operandFrames extra k x ≤ M)
    (hl : LoopsR M (d'+1) m' x X res) :
    ParsesR M d' m' (wrap (extra x || decide (topBp x < k)) (printWith extra x) ++ X) res := by
  have hpos := frames_pos extra x
  unfold operandFrames at hd
  cases hb : (extra x || decide (topBp x < k)) with
  | true =>
    simp only [hb, if_true] at hd
    rw [wrap_true]
    have hin : Parses M (d'+1) 0 (printWith extra x ++ Tok.rparen :: X) (x, Tok.rparen :: X) :=
      (ih (d'+1) 0 (Tok.rparen :: X) (.ok (x, Tok.rparen :: X)) (Nat.zero_le _)
        (stopAbove_of (k := 0) (Nat.zero_le _) trivial) (by omega) ⟨.ok, loops_stop trivial⟩).2
    exact parsesR_of (by omega) (prefixR_paren (print_head_ne extra x _) ⟨.ok, hin⟩).2 hl
  | false =>
    simp only [hb, Bool.false_eq_true, if_false] at hd
    simp only [Bool.or_eq_false_iff, decide_eq_false_iff_not] at hb
    exact ih d' m' X res (by omega) (stopAbove_of (by omega) hst) hd hl

theorem KR (extra : Expr → Bool) (M : Nat) (e : Expr) : KPropR extra M e := by
  induction e with
  | atom n | wildcard | unit => exact fun d m X res _ _ hd hl => parsesR_of hd ⟨1, rfl⟩ hl
  | un u x ihx =>
    intro d m X res _ _ hd hl
    rw [framesWith_un] at hd
    have := operandFrames_pos extra PREFIX_BP x
    have hO := (operandR ihx PREFIX_BP (d+1) PREFIX_BP X (.ok (x, X)) (Nat.le_refl _)
      (headStops_mono (Nat.le_succ _) (headStops_prefix X)) (by omega)
      ⟨.ok, loops_stop (headStops_prefix X)⟩).2
    exact parsesR_of (by omega) (prefixR_unary ⟨.ok, hO⟩).2 hl
  | bin l o r0 ihl ihr =>
    intro d m X res hm hs hd hl
    simp only [topBp] at hm
    simp only [StopAbove] at hs
    rw [framesWith_bin] at hd
    have hdl := Nat.le_trans (Nat.add_le_add_left (Nat.le_max_left _ _) d) hd
    have hdr := Nat.le_trans (Nat.add_le_add_left (Nat.le_max_right _ _) d) hd
    clear hd
    have hR := (operandR ihr (rbp o) (d+1) (rbp o) X (.ok (r0, X)) (Nat.le_refl _)
      (headStops_mono (Nat.le_succ _) hs) (by omega) ⟨.ok, loops_stop hs⟩).2
    have := operandR ihl (lbp o) d m _ res hm (Nat.lt_succ_self _) (by omega)
      (loopsR_op (by omega) hR hl)
    simpa [printWith, List.append_assoc] using this

/-- the success instance used by the round-trip theorems -/
def KProp (extra : Expr → Bool) (M : Nat) (e : Expr) : Prop :=
  ∀ d m X r, m ≤ topBp e → StopAbove e X → d + framesWith extra e ≤ M →
    Loops M (d+1) m e X r → Parses M d m (printWith extra e ++ X) r

theorem K (extra : Expr → Bool) (M : Nat) (e : Expr) : KProp extra M e :=
  fun d m X r hm hs hd hl => (KR extra M e d m X (.ok r) hm hs hd ⟨.ok, hl⟩).2

theorem K_top (extra : Expr → Bool) (M : Nat) (e : Expr) (h : framesWith extra e ≤ M) :
    ∃ f, parseBpN M f 0 0 (printWith extra e) = .ok (e, []) := by
  have := K extra M e 0 0 [] (e, []) (Nat.zero_le _) (stopAbove_of (k := 0) (Nat.zero_le _) trivial)
    (by omega) (loops_stop trivial)
  rwa [List.append_nil] at this

/-! ### exactness of the depth accounting: one frame too many is `TooDeep` -/

def TDProp (extra : Expr → Bool) (M : Nat) (e : Expr) : Prop :=
  ∀ d m X, m ≤ topBp e → d ≤ M → M < d + framesWith extra e →
    ∃ k, ParsesR M d m (printWith extra e ++ X) (.error (.tooDeep k))

theorem operand_td {extra M x} (ih : TDProp extra M x) (k d' m' : Nat) (X : List Tok) (hm : m' ≤ k)
    (hd : d' ≤ M) (hM : M < d' + operandFrames extra k x) :
    ∃ j, ParsesR M d' m' (wrap (extra x || decide (topBp x < k)) (printWith extra x) ++ X)
      (.error (.tooDeep j)) := by
  unfold operandFrames at hM
  cases hb : (extra x || decide (topBp x < k)) with
  | true =>
    simp only [hb, if_true] at hM
    rw [wrap_true]
    by_cases hdM : d' = M
    · exact ⟨_, parsesR_deep (by omega)⟩
    · obtain ⟨j, hj⟩ := ih (d'+1) 0 (Tok.rparen :: X) (Nat.zero_le _) (by omega) (by omega)
      exact ⟨j, parsesR_prefix_err (by omega) (prefixR_paren (print_head_ne extra x _) hj)⟩
  | false =>
    simp only [hb, Bool.false_eq_true, if_false] at hM
    simp only [Bool.or_eq_false_iff, decide_eq_false_iff_not] at hb
    exact ih d' m' X (by omega) hd hM

theorem TD (extra : Expr → Bool) (M : Nat) (e : Expr) : TDProp extra M e := by
  induction e with
  | atom n | wildcard | unit => exact fun d m X _ hd hM => ⟨_, parsesR_deep (Nat.le_of_lt_succ hM)⟩
  | un u x ihx =>
    intro d m X _ hd hM
    rw [framesWith_un] at hM
    by_cases hdM : d = M
    · exact ⟨_, parsesR_deep (by omega)⟩
    · obtain ⟨j, hj⟩ := operand_td ihx PREFIX_BP (d+1) PREFIX_BP X (Nat.le_refl _) (by omega) (by omega)
      exact ⟨j, parsesR_prefix_err (by omega) (prefixR_unary hj)⟩
  | bin l o r0 ihl ihr =>
    intro d m X hm hd hM
    simp only [topBp] at hm
    rw [framesWith_bin] at hM
    by_cases hdM : d = M
    · exact ⟨_, parsesR_deep (by omega)⟩
    · have hsplit : printWith extra (.bin l o r0) ++ X =
          wrap (extra l || decide (topBp l < lbp o)) (printWith extra l) ++
            (Tok.op o :: (wrap (extra r0 || decide (topBp r0 < rbp o)) (printWith extra r0) ++ X)) := by
        simp [printWith, List.append_assoc]
      rw [hsplit]
      by_cases hL : M < d + operandFrames extra (lbp o) l
      · -- the left operand alone is already too deep
        exact operand_td ihl (lbp o) d m _ hm hd hL
      · -- the left operand parses; the right operand's frame is too deep
        obtain ⟨j, hj⟩ := operand_td ihr (rbp o) (d+1) (rbp o) X (Nat.le_refl _) (by omega) (by omega)
        exact ⟨j, operandR (KR extra M l) (lbp o) d m _ _ hm (Nat.lt_succ_self _) (by omega)
          (loopsR_op_err (by omega) hj)⟩

theorem operandFrames_min_le {extra : Expr → Bool} {x : Expr} (k : Nat)
    (h : framesWith (fun _ => false) x ≤ framesWith extra x) :
    operandFrames (fun _ => false) k x ≤ operandFrames extra k x := by
  unfold operandFrames
  by_cases hc : topBp x < k
  · simp only [hc, decide_true, Bool.or_true, if_true]; omega
  · cases extra x <;> simp [hc] <;> omega

theorem frames_min_le (extra : Expr → Bool) (e : Expr) :
    framesWith (fun _ => false) e ≤ framesWith extra e := by
  induction e with
  | atom n | wildcard | unit => exact Nat.le_refl _
  | un u x ih =>
    rw [framesWith_un, framesWith_un]
    have := operandFrames_min_le PREFIX_BP ih
    omega
  | bin l o r ihl ihr =>
    rw [framesWith_bin, framesWith_bin]
    have := operandFrames_min_le (lbp o) ihl
    have := operandFrames_min_le (rbp o) ihr
    omega

theorem operandFrames_le_length {extra : Expr → Bool} {x : Expr} (k : Nat)
    (h : framesWith extra x ≤ (printWith extra x).length) :
    operandFrames extra k x ≤ (wrap (extra x || decide (topBp x < k)) (printWith extra x)).length := by
  unfold operandFrames
  cases (extra x || decide (topBp x < k)) with
  | true => simp only [if_true, wrap, List.length_cons, List.length_append, List.length_nil]; omega
  | false => exact h

theorem frames_le_length (extra : Expr → Bool) (e : Expr) :
    framesWith extra e ≤ (printWith extra e).length := by
  induction e with
  | atom n | wildcard => exact Nat.le_refl _
  | unit => exact Nat.le_succ _
  | un u x ih =>
    have := operandFrames_le_length PREFIX_BP ih
    simp only [framesWith_un, printWith, List.length_cons]
    omega
  | bin l o r ihl ihr =>
    have := operandFrames_le_length (lbp o) ihl
    have := operandFrames_le_length (rbp o) ihr
    simp only [framesWith_bin, printWith, List.length_append, List.length_cons]
    omega

/-- tokens after which `parse_prefix` opens a new `parse_expr_bp` frame: `(`, `-`, `NOT`, `!`, `~` -/
def isNester (t : Tok) : Bool :=
  match prefixArm t with
  | .paren => true
  | .unary _ => true
  | _ => false

theorem nesters_head {p rest : List Tok} (hn : ∀ t ∈ p, isNester t = true)
    (hr : rest.head? ≠ some Tok.rparen) : (p ++ rest).head? ≠ some Tok.rparen := by
  cases p with
  | nil => exact hr
  | cons t p =>
    intro h
    have := hn t (List.mem_cons_self ..)
    simp only [List.cons_append, List.head?_cons, Option.some.injEq] at h
    rw [h] at this
    cases this

/-- (`)` directly after a final `(` is the empty tuple, hence the condition on `X`) -/
theorem nester_chain (M : Nat) : ∀ (pre X : List Tok), (∀ t ∈ pre, isNester t = true) →
    X.head? ≠ some Tok.rparen → ∀ d m, d + pre.length = M →
    ∃ f, parseBpN M f d m (pre ++ X) = .error (.tooDeep X.length) := by
  intro pre
  induction pre with
  | nil =>
    intro X _ _ d m hd
    exact ⟨1, parseBpN_deep (Nat.le_of_eq (Eq.symm hd))⟩
  | cons t p ih =>
    intro X hn hr d m hd
    simp only [List.length_cons] at hd
    have hnp : ∀ t ∈ p, isNester t = true := fun t ht => hn t (List.mem_cons_of_mem _ ht)
    have hh := nesters_head hnp hr
    have ht := hn t (List.mem_cons_self ..)
    simp only [isNester] at ht
    have h1 : d + 1 ≤ M := by omega
    have hd' : d + 1 + p.length = M := by omega
    cases ha : prefixArm t with
    | paren =>
      obtain ⟨f, hf⟩ := ih X hnp hr (d+1) 0 hd'
      refine ⟨f + 2, ?_⟩
      rw [parseBpN_step h1]
      simp only [List.cons_append, parsePrefixN_cons, ha, hh, if_false, hf]
      rfl
    | unary u =>
      obtain ⟨f, hf⟩ := ih X hnp hr (d+1) PREFIX_BP hd'
      refine ⟨f + 2, ?_⟩
      rw [parseBpN_step h1]
      simp only [List.cons_append, parsePrefixN_cons, ha, hf]
      rfl
    | _ => rw [ha] at ht; cases ht

/-! ### every accepted input yields a tree whose minimal print fits the depth limit -/

/-- frames needed by the minimal print of `e` standing as the operand of a frame running at
    `min_bp = m` (that frame included): one more when `e` must be parenthesised -/
def need (m : Nat) (e : Expr) : Nat := if topBp e < m then 1 + framesMin e else framesMin e

theorem need_le (m : Nat) (e : Expr) : need m e ≤ 1 + framesMin e := by
  unfold need; split <;> omega

theorem need_of_le {m : Nat} {e : Expr} (h : m ≤ topBp e) : need m e = framesMin e :=
  if_neg (Nat.not_lt.2 h)

theorem framesMin_un (u : UnOp) (x : Expr) : framesMin (.un u x) = 1 + need PREFIX_BP x := by
  simp only [framesMin, framesWith, need, Bool.false_or, decide_eq_true_eq]

theorem framesMin_bin (l : Expr) (o : BinOp) (r : Expr) :
    framesMin (.bin l o r) = max (need (lbp o) l) (1 + need (rbp o) r) := by
  simp only [framesMin, framesWith, need, Bool.false_or, decide_eq_true_eq]

theorem headStops_nonop {m : Nat} {t : Tok} {rest : List Tok} (h : binaryOf t = none) :
    headStops m (t :: rest) := by
  cases t <;> simp [binaryOf] at h <;> trivial

theorem expectRParen_eq {e p : Expr} {ts rest : List Tok} (h : expectRParen e ts = .ok (p, rest)) : p = e := by
  cases ts with
  | nil => cases h
  | cons t r =>
    simp only [expectRParen] at h
    split at h
    · cases h; rfl
    · cases h

theorem depth_used (M : Nat) : ∀ f,
    (∀ d m ts e rest, m ≤ 100 → parseBpN M f d m ts = .ok (e, rest) →
        d + need m e ≤ M ∧ headStops m rest) ∧
    (∀ d ts p rest, d + 1 ≤ M → parsePrefixN M f (d+1) ts = .ok (p, rest) →
        ∀ m', m' ≤ 100 → d + need m' p ≤ M) ∧
    (∀ d m lhs ts e rest bnd, m ≤ bnd → bnd ≤ 100 → (∀ m'', m'' ≤ bnd → d + need m'' lhs ≤ M) →
        headStops (bnd+1) ts → ploopN M f (d+1) m lhs ts = .ok (e, rest) →
        d + need m e ≤ M ∧ headStops m rest) := by
  intro f
  induction f with
  | zero => exact ⟨fun _ _ _ _ _ _ h => (nomatch h), fun _ _ _ _ _ h => (nomatch h),
      fun _ _ _ _ _ _ _ _ _ _ _ h => (nomatch h)⟩
  | succ f ih =>
    obtain ⟨ih1, ih2, ih3⟩ := ih
    refine ⟨?_, ?_, ?_⟩
    · intro d m ts e rest hm h
      rw [parseBpN_succ] at h
      split at h
      · cases h
      · obtain ⟨⟨lhs, rest0⟩, hp, hl⟩ := bind_ok_iff.1 h
        exact ih3 d m lhs rest0 e rest 100 hm (Nat.le_refl _) (ih2 d ts lhs rest0 (by omega) hp)
          (headStops_mono (by decide) (headStops_prefix rest0)) hl
    · intro d ts p rest hd h m' hm'
      -- a leaf is never parenthesised and needs one frame
      have leaf : ∀ x : Expr, topBp x = 100 → framesMin x = 1 → d + need m' x ≤ M :=
        fun x h1 h2 => by rw [need_of_le (by omega), h2]; omega
      cases ts with
      | nil => cases h
      | cons t rest1 =>
        rw [parsePrefixN_cons] at h
        revert h
        cases prefixArm t with
        | atom n | wildcard => intro h; cases h; exact leaf _ rfl rfl
        | unexpected => intro h; cases h
        | paren =>
          simp only
          split
          · intro h; cases h; exact leaf _ rfl rfl
          · intro h
            obtain ⟨⟨e, rest'⟩, hp, hx⟩ := bind_ok_iff.1 h
            have he := expectRParen_eq hx
            subst he
            have h1 := (ih1 (d+1) 0 rest1 p rest' (Nat.zero_le _) hp).1
            rw [need_of_le (Nat.zero_le _)] at h1
            have := need_le m' p
            omega
        | unary u =>
          intro h
          obtain ⟨⟨x, rest'⟩, hp, hx⟩ := bind_ok_iff.1 h
          cases hx
          have h1 := (ih1 (d+1) PREFIX_BP rest1 x rest' (by decide) hp).1
          rw [need_of_le (show m' ≤ topBp (.un u x) from hm'), framesMin_un]
          omega
    · intro d m lhs ts e rest bnd hmb hb100 hJ hst h
      cases ts with
      | nil => cases h; exact ⟨hJ m hmb, trivial⟩
      | cons t rest1 =>
        rw [ploopN_cons] at h
        revert h
        cases hbo : binaryOf t with
        | none => intro h; cases h; exact ⟨hJ m hmb, headStops_nonop hbo⟩
        | some o =>
          have ht : t = Tok.op o := by
            cases t <;> simp [binaryOf] at hbo
            rw [hbo]
          subst ht
          simp only
          split
          · next hl => intro h; cases h; exact ⟨hJ m hmb, hl⟩
          · intro h
            obtain ⟨⟨rhs, rest'⟩, hp, h'⟩ := bind_ok_iff.1 h
            obtain ⟨hr1, hr2⟩ := ih1 (d+1) (rbp o) rest1 rhs rest' (rbp_le o) hp
            have hlo : lbp o ≤ bnd := by simp only [headStops] at hst; omega
            refine ih3 d m (.bin lhs o rhs) rest' e rest (lbp o) (by omega) (lbp_le o) ?_
              (rbp_eq o ▸ hr2) h'
            intro m'' hm''
            rw [need_of_le (show m'' ≤ topBp (.bin lhs o rhs) from hm''), framesMin_bin]
            have := hJ (lbp o) hlo
            omega

/-! ### `!` is a spelling of `NOT` -/

/-- replace every `!` token by `NOT` -/
def normBang : Tok → Tok
  | .bang => .notKw
  | t => t

def mapRest (r : PRes) : PRes :=
  match r with
  | .ok (e, rest) => .ok (e, rest.map normBang)
  | .error e => .error e

theorem mapRest_bind (r : PRes) {k k' : Expr × List Tok → PRes}
    (h : ∀ e rest, k' (e, rest.map normBang) = mapRest (k (e, rest))) :
    (mapRest r).bind k' = mapRest (r.bind k) := by
  cases r with
  | error e => rfl
  | ok p => exact h p.1 p.2

theorem prefixArm_normBang (t : Tok) : prefixArm (normBang t) = prefixArm t := by
  cases t <;> rfl
theorem binaryOf_normBang (t : Tok) : binaryOf (normBang t) = binaryOf t := by
  cases t <;> rfl
theorem normBang_rparen (t : Tok) : normBang t = Tok.rparen ↔ t = Tok.rparen := by
  cases t <;> simp [normBang]

theorem head_normBang (rest : List Tok) :
    ((rest.map normBang).head? = some Tok.rparen) ↔ (rest.head? = some Tok.rparen) := by
  cases rest with
  | nil => simp
  | cons t r => simp [normBang_rparen]

theorem expectRParen_normBang (e : Expr) (rest : List Tok) :
    expectRParen e (rest.map normBang) = mapRest (expectRParen e rest) := by
  cases rest with
  | nil => rfl
  | cons t r =>
    simp only [List.map_cons, expectRParen, normBang_rparen, List.length_cons, List.length_map]
    by_cases h : t = Tok.rparen <;> simp [h, mapRest]

theorem bang_eq_not (M : Nat) : ∀ f,
    (∀ d m ts, parseBpN M f d m (ts.map normBang) = mapRest (parseBpN M f d m ts)) ∧
    (∀ d ts, parsePrefixN M f d (ts.map normBang) = mapRest (parsePrefixN M f d ts)) ∧
    (∀ d m l ts, ploopN M f d m l (ts.map normBang) = mapRest (ploopN M f d m l ts)) := by
  intro f
  induction f with
  | zero => exact ⟨fun _ _ _ => rfl, fun _ _ => rfl, fun _ _ _ _ => rfl⟩
  | succ f ih =>
    obtain ⟨ih1, ih2, ih3⟩ := ih
    refine ⟨?_, ?_, ?_⟩
    · intro d m ts
      rw [parseBpN_succ, parseBpN_succ, List.length_map, ih2]
      split
      · rfl
      · exact mapRest_bind _ fun e rest => ih3 _ _ _ _
    · intro d ts
      cases ts with
      | nil => rfl
      | cons t rest =>
        rw [List.map_cons, parsePrefixN_cons, parsePrefixN_cons, prefixArm_normBang]
        cases prefixArm t with
        | atom n | wildcard => rfl
        | unexpected => simp [mapRest]
        | paren =>
          simp only [head_normBang, ih1]
          split
          · simp [mapRest]
          · exact mapRest_bind _ fun e rest' => expectRParen_normBang e rest'
        | unary u =>
          simp only [ih1]
          exact mapRest_bind _ fun e rest' => rfl
    · intro d m l ts
      cases ts with
      | nil => rfl
      | cons t rest =>
        rw [List.map_cons, ploopN_cons, ploopN_cons, binaryOf_normBang]
        cases binaryOf t with
        | none => rfl
        | some o =>
          simp only [ih1]
          split
          · rfl
          · exact mapRest_bind _ fun e rest' => ih3 _ _ _ _

/-! ### the depth limit: it produces `TooDeep` and nothing else -/

/-- Raising the limit never changes an answer other than `TooDeep` (same fuel on both sides). -/
theorem limit_mono {M M' : Nat} (hM : M ≤ M') : ∀ f,
    (∀ d m ts, Upto PErr.isDeep (parseBpN M f d m ts) (parseBpN M' f d m ts)) ∧
    (∀ d ts, Upto PErr.isDeep (parsePrefixN M f d ts) (parsePrefixN M' f d ts)) ∧
    (∀ d m l ts, Upto PErr.isDeep (ploopN M f d m l ts) (ploopN M' f d m l ts)) :=
  more_resources hM (fun _ _ => trivial) 0 fun h => absurd h (Nat.lt_irrefl 0)

/-- Every frame consumes a token before it opens the next one, so a limit with more room than
    tokens left is never reached. -/
theorem room_no_too_deep (M : Nat) : ∀ f,
    (∀ d m ts, d + ts.length < M → Avoids PErr.isDeep (parseBpN M f d m ts)) ∧
    (∀ d ts, d + ts.length ≤ M → Avoids PErr.isDeep (parsePrefixN M f d ts)) ∧
    (∀ d m l ts, d + ts.length ≤ M → Avoids PErr.isDeep (ploopN M f d m l ts)) := by
  intro f
  induction f with
  | zero => exact ⟨fun _ _ _ _ => .error id, fun _ _ _ => .error id, fun _ _ _ _ _ => .error id⟩
  | succ f ih =>
    obtain ⟨ih1, ih2, ih3⟩ := ih
    obtain ⟨b1, b2, -⟩ := bounds M f
    refine ⟨?_, ?_, ?_⟩
    · intro d m ts h
      rw [parseBpN_step (Nat.succ_le_of_lt (Nat.lt_of_le_of_lt (Nat.le_add_right d _) h))]
      exact (ih2 _ _ (by omega)).bind fun p hp => ih3 _ _ _ _ (by have := (b2 _ _).lt hp; omega)
    · intro d ts h
      cases ts with
      | nil => exact .error id
      | cons t rest =>
        simp only [List.length_cons] at h
        rw [parsePrefixN_cons]
        cases prefixArm t with
        | atom n | wildcard => exact .ok
        | unexpected => exact .error id
        | paren =>
          simp only
          split
          · exact .ok
          · exact (ih1 _ _ _ (by omega)).bind fun p _ => expectRParen_avoids id (fun _ => id) _ _
        | unary u => exact (ih1 _ _ _ (by omega)).bind fun p _ => .ok
    · intro d m l ts h
      cases ts with
      | nil => exact .ok
      | cons t rest =>
        simp only [List.length_cons] at h
        rw [ploopN_cons]
        cases binaryOf t with
        | none => exact .ok
        | some o =>
          simp only
          split
          · exact .ok
          · exact (ih1 _ _ _ (by omega)).bind fun p hp =>
              ih3 _ _ _ _ (by have := (b1 _ _ _).lt hp; omega)

end Neumann.Parse
