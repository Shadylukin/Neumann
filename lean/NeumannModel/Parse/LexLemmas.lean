import NeumannModel.Parse.Lex
/-
  C15 — helper lemmas for the lexer model (`Parse/Lex.lean`).  Core Lean only (no Mathlib).
-/
namespace Neumann.Parse.Lex

theorem len_pos (c : Ch) : 1 ≤ c.len := by
  fun_cases Ch.len c <;> decide

theorem bytes_append (a b : List Ch) : bytes (a ++ b) = bytes a + bytes b := by
  induction a with
  | nil => simp [bytes]
  | cons c a ih => simp only [List.cons_append, bytes, ih]; omega

/-- scanning from `(p, cs)` to `(q, rest)` consumes a prefix of `cs` and advances the position by
    exactly its length in bytes -/
def Adv (p : Nat) (cs : List Ch) (q : Nat) (rest : List Ch) : Prop :=
  ∃ taken, cs = taken ++ rest ∧ q = p + bytes taken

theorem Adv.refl (p : Nat) (cs : List Ch) : Adv p cs p cs := ⟨[], rfl, by simp [bytes]⟩

theorem Adv.cons {p q : Nat} {c : Ch} {r rest : List Ch} (h : Adv (p + c.len) r q rest) :
    Adv p (c :: r) q rest := by
  obtain ⟨t, e1, e2⟩ := h
  exact ⟨c :: t, by rw [e1]; rfl, by simp only [bytes]; omega⟩

theorem Adv.cons2 {p q : Nat} {c d : Ch} {r rest : List Ch} (h : Adv (p + c.len + d.len) r q rest) :
    Adv p (c :: d :: r) q rest := Adv.cons (Adv.cons h)

theorem Adv.trans {p q s : Nat} {cs mid rest : List Ch} (h1 : Adv p cs q mid) (h2 : Adv q mid s rest) :
    Adv p cs s rest := by
  obtain ⟨t1, e1, e2⟩ := h1
  obtain ⟨t2, e3, e4⟩ := h2
  exact ⟨t1 ++ t2, by rw [e1, e3, List.append_assoc], by rw [bytes_append]; omega⟩

theorem Adv.le {p q : Nat} {cs rest : List Ch} (h : Adv p cs q rest) : p ≤ q := by
  obtain ⟨t, _, e⟩ := h; omega

theorem Adv.length_le {p q : Nat} {cs rest : List Ch} (h : Adv p cs q rest) : rest.length ≤ cs.length := by
  obtain ⟨t, e, _⟩ := h; rw [e]; simp

theorem skip_adv : ∀ (mode : Mode) (p : Nat) (cs : List Ch), Adv p cs (skip mode p cs).1 (skip mode p cs).2 := by
  intro mode p cs
  fun_induction skip mode p cs <;>
    first
    | exact Adv.refl _ _
    | exact Adv.cons (by assumption)
    | exact Adv.cons2 (by assumption)
    | exact Adv.cons (Adv.refl _ _)

theorem takeW_adv (f : Ch → Bool) : ∀ (p : Nat) (cs : List Ch), Adv p cs (takeW f p cs).1 (takeW f p cs).2 := by
  intro p cs
  induction cs generalizing p with
  | nil => exact Adv.refl _ _
  | cons c r ih =>
    simp only [takeW]
    split
    · exact Adv.cons (ih _)
    · exact Adv.refl _ _

theorem scanStr_adv (q : Nat) : ∀ (acc : List Nat) (p : Nat) (cs : List Ch),
    Adv p cs (scanStr q acc p cs).2.1 (scanStr q acc p cs).2.2 := by
  intro acc p cs
  fun_induction scanStr q acc p cs <;>
    first
    | exact Adv.refl _ _
    | exact Adv.cons (by assumption)
    | exact Adv.cons2 (by assumption)
    | exact Adv.cons (Adv.refl _ _)

theorem scanFrac_adv (p : Nat) (cs : List Ch) : Adv p cs (scanFrac p cs).2.1 (scanFrac p cs).2.2 := by
  fun_cases scanFrac p cs
  · exact Adv.cons (takeW_adv isDigit _ _)
  all_goals exact Adv.refl _ _

theorem scanSign_adv (p : Nat) (cs : List Ch) : Adv p cs (scanSign p cs).1 (scanSign p cs).2 := by
  fun_cases scanSign p cs
  · exact Adv.cons (Adv.refl _ _)
  all_goals exact Adv.refl _ _

theorem scanExp_adv (p : Nat) (cs : List Ch) : Adv p cs (scanExp p cs).2.2.1 (scanExp p cs).2.2.2 := by
  fun_cases scanExp p cs
  · exact Adv.cons ((scanSign_adv _ _).trans (takeW_adv isDigit _ _))
  all_goals exact Adv.refl _ _

theorem scanNumber_adv (c0 : Ch) (p : Nat) (r : List Ch) :
    Adv p r (scanNumber c0 p r).2.1 (scanNumber c0 p r).2.2 := by
  unfold scanNumber
  exact ((takeW_adv isDigit p r).trans (scanFrac_adv _ _)).trans (scanExp_adv _ _)

def wordKind (text : List Ch) : Kind :=
  match keywordOf text with
  | some v => .name v
  | none => .ident

def strKind : Option (List Nat) → Kind
  | some v => .str v
  | none => .errUnterminated

/-- the operator arm of `next_token` -/
def punctTok (p : Nat) (c : Ch) (r : List Ch) : Token × Nat × List Ch :=
  match punct c.cp (r.head?.map Ch.cp) with
  | some (v, two) =>
    if two then
      (match r with
       | d :: r' => (⟨.name v, p, p + c.len + d.len⟩, p + c.len + d.len, r')
       | [] => (⟨.name v, p, p + c.len⟩, p + c.len, []))
    else (⟨.name v, p, p + c.len⟩, p + c.len, r)
  | none => (⟨.errChar, p, p + c.len⟩, p + c.len, r)

section
variable (p : Nat) {c : Ch} (r : List Ch)

theorem scanToken_word (h : isIdentStart c = true) : scanToken p c r =
    (⟨wordKind (c :: takenW isIdentCont r), p, (takeW isIdentCont (p + c.len) r).1⟩, takeW isIdentCont (p + c.len) r) := by
  unfold scanToken; exact if_pos h

theorem scanToken_number (h1 : ¬ isIdentStart c = true) (h2 : isDigit c = true) : scanToken p c r =
    (⟨(scanNumber c (p + c.len) r).1, p, (scanNumber c (p + c.len) r).2.1⟩, (scanNumber c (p + c.len) r).2) := by
  unfold scanToken; exact (if_neg h1).trans (if_pos h2)

theorem scanToken_string (h1 : ¬ isIdentStart c = true) (h2 : ¬ isDigit c = true) (h3 : c.cp = 39 ∨ c.cp = 34) :
    scanToken p c r =
    (⟨strKind (scanStr c.cp [] (p + c.len) r).1, p, (scanStr c.cp [] (p + c.len) r).2.1⟩, (scanStr c.cp [] (p + c.len) r).2) := by
  unfold scanToken; exact (if_neg h1).trans ((if_neg h2).trans (if_pos h3))

theorem scanToken_punct (h1 : ¬ isIdentStart c = true) (h2 : ¬ isDigit c = true) (h3 : ¬ (c.cp = 39 ∨ c.cp = 34)) :
    scanToken p c r = punctTok p c r := by
  unfold scanToken; exact (if_neg h1).trans ((if_neg h2).trans (if_neg h3))

end

theorem scanNumber_kind (c0 : Ch) (p : Nat) (r : List Ch) :
    (scanNumber c0 p r).1 ≠ .eof ∧ (scanNumber c0 p r).1 ≠ .fuel := by
  simp only [scanNumber]
  split <;> split <;> exact ⟨nofun, nofun⟩

/-- what `scanToken` returns: a token that starts where the scan started and ends where it
    stopped, at least the first character consumed, and never `Eof` -/
theorem scanToken_spec (p : Nat) (c : Ch) (r : List Ch) :
    (scanToken p c r).1.lo = p ∧ (scanToken p c r).1.hi = (scanToken p c r).2.1 ∧
    Adv (p + c.len) r (scanToken p c r).2.1 (scanToken p c r).2.2 ∧
    (scanToken p c r).1.kind ≠ .eof ∧ (scanToken p c r).1.kind ≠ .fuel := by
  fun_cases scanToken p c r
  · exact ⟨rfl, rfl, takeW_adv _ _ _, by split <;> exact ⟨nofun, nofun⟩⟩
  · exact ⟨rfl, rfl, scanNumber_adv c _ _, scanNumber_kind c _ _⟩
  · exact ⟨rfl, rfl, scanStr_adv _ _ _ _, by split <;> exact ⟨nofun, nofun⟩⟩
  · exact ⟨rfl, rfl, Adv.cons (Adv.refl _ _), nofun, nofun⟩
  all_goals exact ⟨rfl, rfl, Adv.refl _ _, nofun, nofun⟩

theorem lexN_step_lt {p q : Nat} {cs : List Ch} {c : Ch} {r : List Ch} (h : skip .normal p cs = (q, c :: r)) :
    (scanToken q c r).2.2.length < cs.length := by
  have hs := (skip_adv .normal p cs).length_le
  rw [h] at hs
  exact Nat.lt_of_lt_of_le (Nat.lt_succ_of_le (scanToken_spec q c r).2.2.1.length_le) hs

/-- `p` is the byte offset of the suffix `cs` of the source -/
def At (src : List Ch) (p : Nat) (cs : List Ch) : Prop := ∃ pre, src = pre ++ cs ∧ bytes pre = p

/-- `k` is the byte offset of a character boundary of the source (what `&source[a..b]` needs) -/
def Boundary (src : List Ch) (k : Nat) : Prop := ∃ pre post, src = pre ++ post ∧ bytes pre = k

theorem At.adv {src : List Ch} {p q : Nat} {cs rest : List Ch} (h : At src p cs) (a : Adv p cs q rest) :
    At src q rest := by
  obtain ⟨pre, e1, e2⟩ := h
  obtain ⟨t, e3, e4⟩ := a
  exact ⟨pre ++ t, by rw [e1, e3, List.append_assoc], by rw [bytes_append]; omega⟩

theorem At.boundary {src : List Ch} {p : Nat} {cs : List Ch} (h : At src p cs) : Boundary src p := by
  obtain ⟨pre, e1, e2⟩ := h
  exact ⟨pre, cs, e1, e2⟩

theorem At.nil {src : List Ch} {p : Nat} (h : At src p []) : p = bytes src := by
  obtain ⟨pre, e1, e2⟩ := h
  rw [e1, List.append_nil, e2]

theorem Boundary.le {src : List Ch} {k : Nat} (h : Boundary src k) : k ≤ bytes src := by
  obtain ⟨pre, post, e1, e2⟩ := h
  rw [e1, bytes_append]; omega

/-- The shape of a token stream over `src`, read from byte offset `start`: every token but the last
    is a non-empty piece of the source lying on character boundaries, at or after the end of its
    predecessor, and is neither `Eof` nor the fuel marker; the last one is `Eof` at the very end. -/
def WellSpanned (src : List Ch) : Nat → List Token → Prop
  | _, [] => False
  | start, [t] => t.kind = .eof ∧ start ≤ t.lo ∧ t.lo = bytes src ∧ t.hi = bytes src
  | start, t :: t2 :: rest =>
    t.kind ≠ .eof ∧ t.kind ≠ .fuel ∧ start ≤ t.lo ∧ t.lo < t.hi ∧ Boundary src t.lo ∧ Boundary src t.hi ∧
      WellSpanned src t.hi (t2 :: rest)

theorem lexN_ne_nil (fuel p : Nat) (cs : List Ch) : lexN fuel p cs ≠ [] := by
  cases fuel with
  | zero => simp [lexN]
  | succ f =>
    simp only [lexN]
    split <;> simp

theorem lexN_ok (src : List Ch) : ∀ (fuel p : Nat) (cs : List Ch), cs.length < fuel → At src p cs →
    WellSpanned src p (lexN fuel p cs) := by
  intro fuel
  induction fuel with
  | zero => intro p cs h; exact absurd h (Nat.not_lt_zero _)
  | succ f ih =>
    intro p cs hl hat
    have hs := skip_adv .normal p cs
    simp only [lexN]
    split
    · next q hq =>
      rw [hq] at hs
      have := (hat.adv hs).nil
      exact ⟨rfl, hs.le, this, this⟩
    · next q c r hq =>
      rw [hq] at hs
      have hat2 := hat.adv hs
      obtain ⟨h1, h2, h3, h4, h5⟩ := scanToken_spec q c r
      have hadv : Adv q (c :: r) (scanToken q c r).2.1 (scanToken q c r).2.2 := Adv.cons h3
      have hat3 := hat2.adv hadv
      have hrec := ih _ _ (Nat.lt_of_lt_of_le (lexN_step_lt hq) (Nat.le_of_lt_succ hl)) hat3
      have hlt : q < (scanToken q c r).2.1 := by have := h3.le; have := len_pos c; omega
      obtain ⟨t2, rest, hne⟩ := List.exists_cons_of_ne_nil (lexN_ne_nil f (scanToken q c r).2.1 (scanToken q c r).2.2)
      rw [hne] at hrec ⊢
      refine ⟨h4, h5, ?_, ?_, ?_, ?_, ?_⟩
      · rw [h1]; exact hs.le
      · rw [h1, h2]; exact hlt
      · rw [h1]; exact hat2.boundary
      · rw [h2]; exact hat3.boundary
      · rw [h2]; exact hrec

theorem ws_mem {src : List Ch} : ∀ (toks : List Token) (start : Nat), WellSpanned src start toks →
    ∀ t ∈ toks, t.kind ≠ .fuel ∧ start ≤ t.lo ∧ t.lo ≤ t.hi ∧ t.hi ≤ bytes src ∧
      Boundary src t.lo ∧ Boundary src t.hi
  | [], _, h => h.elim
  | [t], start, ⟨h1, h2, h3, h4⟩ => by
      intro t' ht'
      cases List.mem_singleton.1 ht'
      have hb : Boundary src (bytes src) := ⟨src, [], (List.append_nil _).symm, rfl⟩
      exact ⟨by rw [h1]; nofun, h2, Nat.le_of_eq (h3.trans h4.symm), Nat.le_of_eq h4, h3 ▸ hb, h4 ▸ hb⟩
  | t :: t2 :: rest, start, ⟨_, h2, h3, h4, h5, h6, h7⟩ => by
      intro t' ht'
      rcases List.mem_cons.1 ht' with rfl | e
      · exact ⟨h2, h3, Nat.le_of_lt h4, h6.le, h5, h6⟩
      · obtain ⟨a, b, c⟩ := ws_mem (t2 :: rest) _ h7 t' e
        exact ⟨a, Nat.le_trans (Nat.le_trans h3 (Nat.le_of_lt h4)) b, c⟩

theorem ws_pairwise {src : List Ch} : ∀ (toks : List Token) (start : Nat), WellSpanned src start toks →
    toks.Pairwise (fun a b => a.hi ≤ b.lo)
  | [], _, h => by simp [WellSpanned] at h
  | [t], _, _ => by simp
  | t :: t2 :: rest, start, h => by
      obtain ⟨_, _, _, _, _, _, h7⟩ := h
      refine List.pairwise_cons.2 ⟨?_, ws_pairwise (t2 :: rest) _ h7⟩
      intro b hb
      exact (ws_mem (t2 :: rest) _ h7 b hb).2.1

theorem ws_last {src : List Ch} : ∀ (toks : List Token) (start : Nat), WellSpanned src start toks →
    ∃ init, toks = init ++ [⟨.eof, bytes src, bytes src⟩] ∧ ∀ t ∈ init, t.kind ≠ .eof ∧ t.lo < t.hi
  | [], _, h => by simp [WellSpanned] at h
  | [t], _, h => by
      obtain ⟨h1, _, h3, h4⟩ := h
      refine ⟨[], ?_, by simp⟩
      obtain ⟨k, lo, hi⟩ := t
      simp only at h1 h3 h4
      subst h1 h3 h4
      rfl
  | t :: t2 :: rest, start, h => by
      obtain ⟨h1, _, _, h4, _, _, h7⟩ := h
      obtain ⟨init, e, hi⟩ := ws_last (t2 :: rest) _ h7
      refine ⟨t :: init, by rw [e]; rfl, ?_⟩
      intro t' ht'
      rcases List.mem_cons.1 ht' with e' | e'
      · subst e'; exact ⟨h1, h4⟩
      · exact hi t' e'


/-! ### block comments are trivia

  `Closes k cs` is the block-comment loop of `skip` written as a relation: read from inside a block comment
  with `k` enclosing comments still open besides the current one, `cs` is exactly the text up to and including
  the `*/` that closes the outermost.  Its four rules are the four arms of the loop (a `/*` opens, a `*/`
  closes — both recognised by look-ahead and consumed as a pair — every other character is skipped alone).
  `WellNested c`: `c` is `/*` followed by such a text (the `/` must not be whitespace in the Unicode table the
  text comes with: `skip` asks `is_whitespace` first).  `closesB` decides it; `closes_run`, `closes_plain`,
  `closes_append`, `closes_wellNested` are the grammar view: a run of any length of one character before that
  character (stars before a `*`, slashes before a `/`), any other characters, comments inside
  comments to any depth. -/

/-- well-nestedness as the model's scanner recognises it (see above) -/
inductive Closes : Nat → List Ch → Prop
  | close (c d : Ch) : c.cp = 42 → d.cp = 47 → Closes 0 [c, d]
  | closeInner (k : Nat) (c d : Ch) (r : List Ch) : c.cp = 42 → d.cp = 47 → Closes k r → Closes (k + 1) (c :: d :: r)
  | openInner (k : Nat) (c d : Ch) (r : List Ch) : c.cp = 47 → d.cp = 42 → Closes (k + 1) r → Closes k (c :: d :: r)
  | other (k : Nat) (c d : Ch) (r : List Ch) : ¬(c.cp = 47 ∧ d.cp = 42) → ¬(c.cp = 42 ∧ d.cp = 47) →
      Closes k (d :: r) → Closes k (c :: d :: r)

/-- a properly terminated block comment: `/*`, then a text that the loop reads to its end exactly -/
def WellNested : List Ch → Prop
  | o :: s :: body => o.cp = 47 ∧ o.ws = false ∧ s.cp = 42 ∧ Closes 0 body
  | _ => False

theorem skip_block_cons2 (k p : Nat) (c d : Ch) (r : List Ch) :
    skip (.block k) p (c :: d :: r) =
      if c.cp = 47 ∧ d.cp = 42 then skip (.block (k + 1)) (p + c.len + d.len) r
      else if c.cp = 42 ∧ d.cp = 47 then
        (match k with
         | 0 => skip .normal (p + c.len + d.len) r
         | k' + 1 => skip (.block k') (p + c.len + d.len) r)
      else skip (.block k) (p + c.len) (d :: r) := by
  cases k <;> rfl

theorem skip_block_closes {k : Nat} {cs : List Ch} (h : Closes k cs) :
    ∀ (p : Nat) (v : List Ch), skip (.block k) p (cs ++ v) = skip .normal (p + bytes cs) v := by
  induction h with
  | close c d hc hd =>
    intro p v
    have h1 : ¬(c.cp = 47 ∧ d.cp = 42) := by omega
    rw [show [c, d] ++ v = c :: d :: v from rfl, skip_block_cons2, if_neg h1, if_pos ⟨hc, hd⟩]
    simp only [bytes, Nat.add_assoc, Nat.add_zero]
  | closeInner k c d r hc hd _ ih =>
    intro p v
    have h1 : ¬(c.cp = 47 ∧ d.cp = 42) := by omega
    rw [show (c :: d :: r) ++ v = c :: d :: (r ++ v) from rfl, skip_block_cons2, if_neg h1, if_pos ⟨hc, hd⟩]
    simp only [ih, bytes, Nat.add_assoc]
  | openInner k c d r hc hd _ ih =>
    intro p v
    rw [show (c :: d :: r) ++ v = c :: d :: (r ++ v) from rfl, skip_block_cons2, if_pos ⟨hc, hd⟩, ih]
    simp only [bytes, Nat.add_assoc]
  | other k c d r h1 h2 _ ih =>
    intro p v
    rw [show (c :: d :: r) ++ v = c :: d :: (r ++ v) from rfl, skip_block_cons2, if_neg h1, if_neg h2]
    rw [show d :: (r ++ v) = (d :: r) ++ v from rfl, ih]
    simp only [bytes, Nat.add_assoc]

theorem closes_ne_nil {k : Nat} {cs : List Ch} (h : Closes k cs) : ∃ d r, cs = d :: r := by
  cases h <;> exact ⟨_, _, rfl⟩

/-- THE CORE: the skipping loop that meets the `/*` of a well-nested comment `c` resumes, in normal mode,
    exactly at the end of `c` — whatever follows -/
theorem skip_wellNested {c : List Ch} (h : WellNested c) (p : Nat) (v : List Ch) :
    skip .normal p (c ++ v) = skip .normal (p + bytes c) v := by
  match c, h with
  | o :: s :: body, ⟨ho, hw, hs, hb⟩ =>
    obtain ⟨d, r, e⟩ := closes_ne_nil hb
    have hw' : ¬(o.ws = true) := by rw [hw]; simp
    have h1 : ¬(o.cp = 45 ∧ s.cp = 45) := by omega
    rw [show (o :: s :: body) ++ v = o :: s :: (body ++ v) from rfl, skip, if_neg hw', if_neg h1, if_pos ⟨ho, hs⟩,
      skip_block_closes hb]
    simp only [bytes, Nat.add_assoc]

theorem skip_ws {s : Ch} (h : s.ws = true) (p : Nat) (v : List Ch) :
    skip .normal p (s :: v) = skip .normal (p + s.len) v := by
  cases v with
  | nil => simp only [skip, h, if_true]
  | cons d r => rw [skip, if_pos h]


theorem skip_shift (k : Nat) : ∀ (mode : Mode) (p : Nat) (cs : List Ch),
    skip mode (k + p) cs = (k + (skip mode p cs).1, (skip mode p cs).2) := by
  intro mode p cs
  fun_induction skip mode p cs <;>
    simp only [skip, *, Nat.add_assoc k, ↓reduceIte, Bool.false_eq_true, Nat.reduceEqDiff, and_self]


def Token.shift (k : Nat) (t : Token) : Token := ⟨t.kind, k + t.lo, k + t.hi⟩

theorem takeW_shift (f : Ch → Bool) (k : Nat) : ∀ (p : Nat) (cs : List Ch),
    takeW f (k + p) cs = (k + (takeW f p cs).1, (takeW f p cs).2) := by
  intro p cs
  induction cs generalizing p with
  | nil => rfl
  | cons c r ih =>
    simp only [takeW]
    split
    · rw [Nat.add_assoc, ih]
    · rfl

theorem scanStr_shift (q k : Nat) : ∀ (acc : List Nat) (p : Nat) (cs : List Ch),
    scanStr q acc (k + p) cs = ((scanStr q acc p cs).1, k + (scanStr q acc p cs).2.1, (scanStr q acc p cs).2.2) := by
  intro acc p cs
  fun_induction scanStr q acc p cs <;> (try simp_all [scanStr, Nat.add_assoc]) <;>
    (rw [scanStr.eq_def]; simp_all [Nat.add_assoc])

theorem scanFrac_shift (k p : Nat) (cs : List Ch) :
    scanFrac (k + p) cs = ((scanFrac p cs).1, k + (scanFrac p cs).2.1, (scanFrac p cs).2.2) := by
  unfold scanFrac
  split
  · split
    · simp only [Nat.add_assoc, takeW_shift]
    · rfl
  · rfl

theorem scanSign_shift (k p : Nat) (cs : List Ch) :
    scanSign (k + p) cs = (k + (scanSign p cs).1, (scanSign p cs).2) := by
  unfold scanSign
  split
  · split
    · simp only [Nat.add_assoc]
    · rfl
  · rfl

theorem scanExp_shift (k p : Nat) (cs : List Ch) :
    scanExp (k + p) cs = ((scanExp p cs).1, (scanExp p cs).2.1, k + (scanExp p cs).2.2.1, (scanExp p cs).2.2.2) := by
  unfold scanExp
  split
  · split
    · simp only [Nat.add_assoc, scanSign_shift, takeW_shift]
    · rfl
  · rfl

theorem scanNumber_shift (c0 : Ch) (k p : Nat) (r : List Ch) :
    scanNumber c0 (k + p) r = ((scanNumber c0 p r).1, k + (scanNumber c0 p r).2.1, (scanNumber c0 p r).2.2) := by
  simp only [scanNumber, takeW_shift, scanFrac_shift, scanExp_shift]

theorem punctTok_shift (k p : Nat) (c : Ch) (r : List Ch) :
    punctTok (k + p) c r = ((punctTok p c r).1.shift k, k + (punctTok p c r).2.1, (punctTok p c r).2.2) := by
  unfold punctTok
  split
  · split
    · cases r <;> simp only [Token.shift, Nat.add_assoc]
    · simp only [Token.shift, Nat.add_assoc]
  · simp only [Token.shift, Nat.add_assoc]

theorem scanToken_shift (k p : Nat) (c : Ch) (r : List Ch) :
    scanToken (k + p) c r = ((scanToken p c r).1.shift k, k + (scanToken p c r).2.1, (scanToken p c r).2.2) := by
  by_cases h1 : isIdentStart c = true
  · rw [scanToken_word _ _ h1, scanToken_word _ _ h1, Nat.add_assoc, takeW_shift]; rfl
  · by_cases h2 : isDigit c = true
    · rw [scanToken_number _ _ h1 h2, scanToken_number _ _ h1 h2, Nat.add_assoc, scanNumber_shift]; rfl
    · by_cases h3 : c.cp = 39 ∨ c.cp = 34
      · rw [scanToken_string _ _ h1 h2 h3, scanToken_string _ _ h1 h2 h3, Nat.add_assoc, scanStr_shift]; rfl
      · rw [scanToken_punct _ _ h1 h2 h3, scanToken_punct _ _ h1 h2 h3]; exact punctTok_shift k p c r

theorem lexN_shift (k : Nat) : ∀ (fuel p : Nat) (cs : List Ch),
    lexN fuel (k + p) cs = (lexN fuel p cs).map (Token.shift k) := by
  intro fuel
  induction fuel with
  | zero => intro p cs; rfl
  | succ f ih =>
    intro p cs
    simp only [lexN, skip_shift]
    cases h : (skip .normal p cs) with
    | mk q rest =>
      cases rest with
      | nil => rfl
      | cons c r =>
        simp only [scanToken_shift, ih, List.map_cons]


theorem lexN_fuel_indep : ∀ (f f' p : Nat) (cs : List Ch), cs.length < f → cs.length < f' →
    lexN f p cs = lexN f' p cs := by
  intro f
  induction f with
  | zero => intro f' p cs h; exact absurd h (Nat.not_lt_zero _)
  | succ f ih =>
    intro f' p cs h h'
    cases f' with
    | zero => exact absurd h' (Nat.not_lt_zero _)
    | succ f'' =>
      simp only [lexN]
      split
      · rfl
      · next q c r hq =>
        have := lexN_step_lt hq
        rw [ih f'' _ _ (by omega) (by omega)]

/-- a text `t` that the skipping loop passes over in front of `v`: the tokens of `v`, moved by the length of `t` -/
theorem lexN_skipped {t v : List Ch} (h : ∀ p, skip .normal p (t ++ v) = skip .normal (p + bytes t) v) (fuel p : Nat) :
    lexN (fuel + 1) p (t ++ v) = (lexN (fuel + 1) p v).map (Token.shift (bytes t)) := by
  rw [← lexN_shift]
  simp only [lexN, h, Nat.add_comm (bytes t) p]

theorem lex_skipped {t v : List Ch} (h : ∀ p, skip .normal p (t ++ v) = skip .normal (p + bytes t) v) :
    lex (t ++ v) = (lex v).map (Token.shift (bytes t)) := by
  unfold lex
  rw [lexN_skipped h, lexN_fuel_indep ((t ++ v).length + 1) (v.length + 1) 0 v
    (by simp only [List.length_append]; omega) (by omega)]

/-- the scanner's rule as a decision procedure (for the concrete examples) -/
def closesB : Nat → List Ch → Bool
  | _, [] => false
  | _, [_] => false
  | k, c :: d :: r =>
    if c.cp = 47 ∧ d.cp = 42 then closesB (k + 1) r
    else if c.cp = 42 ∧ d.cp = 47 then
      (match k with
       | 0 => r.isEmpty
       | k' + 1 => closesB k' r)
    else closesB k (d :: r)

theorem closesB_cons2 (k : Nat) (c d : Ch) (r : List Ch) :
    closesB k (c :: d :: r) =
      if c.cp = 47 ∧ d.cp = 42 then closesB (k + 1) r
      else if c.cp = 42 ∧ d.cp = 47 then
        (match k with
         | 0 => r.isEmpty
         | k' + 1 => closesB k' r)
      else closesB k (d :: r) := by
  cases k <;> rfl

theorem closesB_sound : ∀ (k : Nat) (cs : List Ch), closesB k cs = true → Closes k cs := by
  intro k cs
  fun_induction closesB k cs with
  | case1 => intro h; cases h
  | case2 => intro h; cases h
  | case3 k c d r h ih => exact fun e => Closes.openInner k c d r h.1 h.2 (ih e)
  | case4 c d r h1 h2 =>
    intro e
    have : r = [] := by cases r <;> simp_all
    subst this
    exact Closes.close c d h2.1 h2.2
  | case5 c d r h1 h2 k' ih => exact fun e => Closes.closeInner k' c d r h2.1 h2.2 (ih e)
  | case6 k c d r h1 h2 ih => exact fun e => Closes.other k c d r h1 h2 (ih e)

theorem closesB_complete {k : Nat} {cs : List Ch} (h : Closes k cs) : closesB k cs = true := by
  induction h with
  | close c d hc hd =>
    have h1 : ¬(c.cp = 47 ∧ d.cp = 42) := by omega
    rw [closesB_cons2, if_neg h1, if_pos ⟨hc, hd⟩]; rfl
  | closeInner k c d r hc hd _ ih =>
    have h1 : ¬(c.cp = 47 ∧ d.cp = 42) := by omega
    rw [closesB_cons2, if_neg h1, if_pos ⟨hc, hd⟩]; exact ih
  | openInner k c d r hc hd _ ih => rw [closesB_cons2, if_pos ⟨hc, hd⟩]; exact ih
  | other k c d r h1 h2 _ ih => rw [closesB_cons2, if_neg h1, if_neg h2]; exact ih

instance (k : Nat) (cs : List Ch) : Decidable (Closes k cs) :=
  decidable_of_iff (closesB k cs = true) ⟨closesB_sound k cs, closesB_complete⟩

instance : (c : List Ch) → Decidable (WellNested c)
  | [] => isFalse (fun h => h)
  | [_] => isFalse (fun h => h)
  | o :: s :: body => inferInstanceAs (Decidable (o.cp = 47 ∧ o.ws = false ∧ s.cp = 42 ∧ Closes 0 body))

/-- a run of ANY length of one character directly before that character is skipped: two equal characters are
    neither `/*` nor `*/` (star runs before a closing `*/`, slash runs before a nested `/*`) -/
theorem closes_run {k : Nat} {x : Ch} {r : List Ch} (h : Closes k (x :: r)) :
    ∀ (run : List Ch), (∀ c ∈ run, c.cp = x.cp) → Closes k (run ++ x :: r) := by
  intro run
  induction run with
  | nil => intro _; exact h
  | cons c run ih =>
    intro hs
    have ih' := ih (fun c' hc' => hs c' (List.mem_cons_of_mem _ hc'))
    have hc := hs c (List.mem_cons_self ..)
    obtain ⟨d, r', e, hd⟩ : ∃ d r', run ++ x :: r = d :: r' ∧ d.cp = x.cp := by
      cases run with
      | nil => exact ⟨x, r, rfl, rfl⟩
      | cons c2 run2 => exact ⟨c2, _, rfl, hs c2 (List.mem_cons_of_mem _ (List.mem_cons_self ..))⟩
    rw [List.cons_append, e]
    rw [e] at ih'
    exact Closes.other k c d r' (by omega) (by omega) ih'

theorem closes_plain {k : Nat} {cs : List Ch} (h : Closes k cs) :
    ∀ (pl : List Ch), (∀ c ∈ pl, c.cp ≠ 42 ∧ c.cp ≠ 47) → Closes k (pl ++ cs) := by
  intro pl
  induction pl with
  | nil => intro _; exact h
  | cons c pl ih =>
    intro hs
    have ih' := ih (fun c' hc' => hs c' (List.mem_cons_of_mem _ hc'))
    have hc := hs c (List.mem_cons_self ..)
    obtain ⟨d, r, e⟩ := closes_ne_nil ih'
    rw [List.cons_append, e]
    rw [e] at ih'
    exact Closes.other k c d r (by omega) (by omega) ih'

theorem closes_append {j : Nat} {a : List Ch} (ha : Closes j a) :
    ∀ {k : Nat} {b : List Ch}, Closes k b → Closes (j + k + 1) (a ++ b) := by
  induction ha with
  | close c d hc hd =>
    intro k b hb
    rw [Nat.zero_add]
    exact Closes.closeInner k c d b hc hd hb
  | closeInner j c d r hc hd _ ih =>
    intro k b hb
    have := ih hb
    rw [show j + 1 + k + 1 = (j + k + 1) + 1 by omega]
    exact Closes.closeInner _ c d (r ++ b) hc hd this
  | openInner j c d r hc hd _ ih =>
    intro k b hb
    have := ih hb
    rw [show j + 1 + k + 1 = (j + k + 1) + 1 by omega] at this
    exact Closes.openInner _ c d (r ++ b) hc hd this
  | other j c d r h1 h2 _ ih =>
    intro k b hb
    exact Closes.other _ c d (r ++ b) h1 h2 (ih hb)

theorem closes_wellNested {c : List Ch} (h : WellNested c) {k : Nat} {b : List Ch} (hb : Closes k b) :
    Closes k (c ++ b) := by
  match c, h with
  | o :: s :: body, ⟨ho, _, hs, hbody⟩ =>
    have := closes_append hbody hb
    rw [Nat.zero_add] at this
    exact Closes.openInner k o s (body ++ b) ho hs this

end Neumann.Parse.Lex
