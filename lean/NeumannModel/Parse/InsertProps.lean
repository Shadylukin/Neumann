import NeumannModel.Parse.InsertLemmas
/-
  C15, third clause — property theorems for `INSERT … VALUES` with several tuples (`Parse/Insert.lean`).
  "Same effect as the equivalent direct engine calls": the statement performs one `RelationalEngine::insert`
  per tuple, and the row of a tuple is a function of the target column list and of THAT tuple — the first
  min(|columns|, |tuple|) columns carry the tuple's values, every other column has no entry (NULL in the
  table) — whatever tuples stand before or after it in the statement.
  ONLY property statements and their non-vacuity examples live here.
-/
namespace Neumann.Parse.Insert.Props

set_option linter.unusedSectionVars false

variable {C V : Type} [DecidableEq C]

/-! ### the property -/

/-- The rows of one statement are independent: whatever tuples stand before and after it, a tuple contributes
    exactly the row built from the target column list and itself, at its own position — the statement is the
    sequence of direct calls `insert(table, rowOf target tuple)`, one per tuple, in order. -/
theorem insert_rows_are_independent (schema : List C) (cols : Option (List C)) (pre post : List (List V)) (t : List V) :
    execInsert schema cols (pre ++ t :: post)
      = execInsert schema cols pre ++ rowOf (targetCols schema cols) t :: execInsert schema cols post := by
  unfold execInsert
  rw [execLoop_append]; rfl

/-- … in particular the row at the tuple's position does not depend on the other tuples -/
theorem insert_row_at_position (schema : List C) (cols : Option (List C)) (pre post : List (List V)) (t : List V) :
    (execInsert schema cols (pre ++ t :: post))[pre.length]? = some (rowOf (targetCols schema cols) t) := by
  rw [insert_rows_are_independent]
  have : (execInsert schema cols pre).length = pre.length := execLoop_length _ _
  rw [← this, List.getElem?_append_right (Nat.le_refl _)]; simp

/-- one engine call per tuple -/
theorem insert_one_row_per_tuple (schema : List C) (cols : Option (List C)) (tuples : List (List V)) :
    (execInsert schema cols tuples).length = tuples.length := execLoop_length _ _

/-- A column has an entry in a tuple's row exactly when the tuple supplies a value for it: the columns behind the
    tuple's length (trailing columns the tuple omits) and the columns outside the list are absent (NULL). -/
theorem insert_omitted_columns_are_absent (target : List C) (t : List V) (c : C) :
    get (rowOf target t) c = none ↔ c ∉ target.take t.length := by
  constructor
  · intro h hm
    have := get_fill_isSome_of_mem ([] : RowMap C V) target t c hm
    rw [rowOf] at h; rw [h] at this; simp at this
  · intro h
    rw [rowOf, get_fill_of_not_mem _ _ _ _ h]; rfl

/-- The i-th value of the tuple is the cell of the i-th target column (column lists without duplicates). -/
theorem insert_supplied_columns_carry_the_tuple_values (target : List C) (t : List V) (hn : target.Nodup)
    (i : Nat) (hc : i < target.length) (hv : i < t.length) : get (rowOf target t) target[i] = some t[i] :=
  get_fill_at [] target t hn i hc hv

/-- no column list: the values go to the table's columns in schema order; with a list: to the listed columns -/
theorem insert_target_columns (schema cs : List C) :
    targetCols schema none = schema ∧ targetCols schema (some cs) = cs := ⟨rfl, rfl⟩

-- non-vacuity: columns 0 1 2 = a b name; the second tuple omits two columns, the third one
example : (execInsert [0, 1, 2] none [[1, 10, 7], [2], [3, 30]]).map (cells [0, 1, 2])
    = [[(0, 1), (1, 10), (2, 7)], [(0, 2)], [(0, 3), (1, 30)]] := by decide +kernel
example : (execInsert [0, 1, 2] (some [0, 2, 1]) [[7, 5, 70], [8, 6]]).map (cells [0, 1, 2])
    = [[(0, 7), (1, 70), (2, 5)], [(0, 8), (2, 6)]] := by decide +kernel

/-- The variant that creates the map once and never clears it violates independence: in
    `INSERT INTO t VALUES (1, 10, 7), (2)` the second row inherits `b = 10, name = 7` of the first tuple. -/
theorem insert_rows_are_independent_fails_for_RowMapNotCleared_witness :
    (execInsertRowMapNotCleared [0, 1, 2] none [[1, 10, 7], [2]])[1]? ≠ some (rowOf [0, 1, 2] [2])
    ∧ ((execInsertRowMapNotCleared [0, 1, 2] none [[1, 10, 7], [2]]).map (cells [0, 1, 2])
        = [[(0, 1), (1, 10), (2, 7)], [(0, 2), (1, 10), (2, 7)]])
    ∧ ((execInsert [0, 1, 2] none [[1, 10, 7], [2]]).map (cells [0, 1, 2]) = [[(0, 1), (1, 10), (2, 7)], [(0, 2)]]) := by
  decide +kernel

/-- … with an explicit, permuted column list: `(a, name, b) VALUES (7, 5, 70), (8, 6)` -/
theorem insert_omitted_columns_are_absent_fails_for_RowMapNotCleared_witness :
    ∃ m, (execInsertRowMapNotCleared [0, 1, 2] (some [0, 2, 1]) [[7, 5, 70], [8, 6]])[1]? = some m
      ∧ (1 : Nat) ∉ [0, 2, 1].take [8, 6].length ∧ get m 1 = some 70 := by
  exact ⟨_, rfl, by decide +kernel, by decide +kernel⟩

end Neumann.Parse.Insert.Props
