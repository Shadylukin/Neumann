import NeumannModel.Parse.LexLemmas
/-
  C15 — helper lemmas for `LexProps.block_comment_is_trivia`: TOKEN LOCALITY at a cut.  Core Lean only.

  The lexer looks at most two characters ahead (`peek`, `peek2`).  If the text `w ++ " " ++ v` is lexed up to a
  point at or before the blank, nothing the lexer did depended on the blank beyond its being a character that
  ends every token and starts none — and the `/` of a comment opener is such a character too.  `*_stop`: a word
  or number scanned in front of a character it cannot go on with depends on nothing behind it; `*_local`:
  `scanStr`, the operator arm, `scanToken` and `skip` give the same answer on `w ++ " " ++ v` and on
  `w ++ "/" ++ y` whenever the scan of the first ends at or
  before the cut.  `Run` = the lexer from token boundary to token boundary; `run_transfer` moves a run from
  one text to the other; `Trivia` = what the skipping loop passes over in normal mode; `TokenBoundary`; and
  `lex_comment_at_boundary`, the statement behind the theorem.
-/
namespace Neumann.Parse.Lex

/-- what is known about the two characters that may stand at the cut: a blank and the `/` of a comment opener -/
structure CutChars (s o : Ch) : Prop where
  s_cp : s.cp = 32
  s_alnum : s.alnum = false
  o_cp : o.cp = 47
  o_alnum : o.alnum = false

/-- a character no part of a number goes on with: what a number scanned in front of it is does not depend on
    it, nor on what follows it -/
structure NumStop (x : Ch) : Prop where
  digit : isDigit x = false
  dot : x.cp ≠ 46
  plus : x.cp ≠ 43
  minus : x.cp ≠ 45
  e : x.cp ≠ 101
  E : x.cp ≠ 69

section
variable {s o : Ch} (hc : CutChars s o)
include hc

theorem CutChars.s_ne {k : Nat} (e : s.cp = k) (hk : k ≠ 32 := by decide) : False := hk (e.symm.trans hc.s_cp)
theorem CutChars.o_ne {k : Nat} (e : o.cp = k) (hk : k ≠ 47 := by decide) : False := hk (e.symm.trans hc.o_cp)
theorem CutChars.digit_s : isDigit s = false := by simp [isDigit, hc.s_cp]
theorem CutChars.digit_o : isDigit o = false := by simp [isDigit, hc.o_cp]
theorem CutChars.cont_s : isIdentCont s = false := by simp [isIdentCont, hc.s_cp, hc.s_alnum]
theorem CutChars.cont_o : isIdentCont o = false := by simp [isIdentCont, hc.o_cp, hc.o_alnum]

theorem CutChars.stop_s : NumStop s :=
  ⟨hc.digit_s, fun e => hc.s_ne e, fun e => hc.s_ne e, fun e => hc.s_ne e, fun e => hc.s_ne e, fun e => hc.s_ne e⟩
theorem CutChars.stop_o : NumStop o :=
  ⟨hc.digit_o, fun e => hc.o_ne e, fun e => hc.o_ne e, fun e => hc.o_ne e, fun e => hc.o_ne e, fun e => hc.o_ne e⟩

end

theorem takeW_stop (f : Ch → Bool) : ∀ (w : List Ch) (p : Nat), ∃ q w', ∀ x X, f x = false →
    takeW f p (w ++ x :: X) = (q, w' ++ x :: X) := by
  intro w
  induction w with
  | nil => intro p; exact ⟨p, [], fun x X hx => by simp [takeW, hx]⟩
  | cons a w ih =>
    intro p
    cases h : f a with
    | true =>
      obtain ⟨q, w', e⟩ := ih (p + a.len)
      exact ⟨q, w', fun x X hx => by simp [takeW, h, e x X hx]⟩
    | false => exact ⟨p, a :: w, fun x X _ => by simp [takeW, h]⟩

theorem takenW_stop (f : Ch → Bool) {x : Ch} (hx : f x = false) (X : List Ch) :
    ∀ (w : List Ch), takenW f (w ++ x :: X) = takenW f w := by
  intro w
  induction w with
  | nil => simp [takenW, hx]
  | cons a w ih => simp [takenW, ih]

theorem scanFrac_stop : ∀ (w : List Ch) (p : Nat), ∃ b q w', ∀ x X, NumStop x →
    scanFrac p (w ++ x :: X) = (b, q, w' ++ x :: X) := by
  intro w p
  match w with
  | [] => exact ⟨false, p, [], fun x X hx => by cases X <;> simp [scanFrac, hx.dot]⟩
  | [a] => exact ⟨false, p, [a], fun x X hx => by simp [scanFrac, hx.digit]⟩
  | a :: b :: w₂ =>
    by_cases h : a.cp = 46 ∧ isDigit b = true
    · obtain ⟨q, w', e⟩ := takeW_stop isDigit (b :: w₂) (p + a.len)
      exact ⟨true, q, w', fun x X hx => by have := e x X hx.digit; simp only [List.cons_append] at this ⊢; simp [scanFrac, h, this]⟩
    · exact ⟨false, p, a :: b :: w₂, fun x X _ => by simp [scanFrac, h]⟩

theorem scanSign_stop : ∀ (w : List Ch) (p : Nat), ∃ q w', ∀ x X, NumStop x →
    scanSign p (w ++ x :: X) = (q, w' ++ x :: X) := by
  intro w p
  match w with
  | [] => exact ⟨p, [], fun x X hx => by simp [scanSign, hx.plus, hx.minus]⟩
  | a :: w₂ =>
    by_cases h : a.cp = 43 ∨ a.cp = 45
    · exact ⟨p + a.len, w₂, fun x X _ => by simp [scanSign, h]⟩
    · exact ⟨p, a :: w₂, fun x X _ => by simp [scanSign, h]⟩

theorem scanExp_stop : ∀ (w : List Ch) (p : Nat), ∃ b ds q w', ∀ x X, NumStop x →
    scanExp p (w ++ x :: X) = (b, ds, q, w' ++ x :: X) := by
  intro w p
  match w with
  | [] => exact ⟨false, [], p, [], fun x X hx => by simp [scanExp, hx.e, hx.E]⟩
  | a :: w₂ =>
    by_cases h : a.cp = 101 ∨ a.cp = 69
    · obtain ⟨q1, w1, e1⟩ := scanSign_stop w₂ (p + a.len)
      obtain ⟨q2, w2, e2⟩ := takeW_stop isDigit w1 q1
      exact ⟨true, takenW isDigit w1, q2, w2, fun x X hx => by
        simp [scanExp, h, e1 x X hx, e2 x X hx.digit, takenW_stop isDigit hx.digit X w1]⟩
    · exact ⟨false, [], p, a :: w₂, fun x X _ => by simp [scanExp, h]⟩

/-- `scan_number`: the token and where it ends depend only on the characters before a stopper -/
theorem scanNumber_stop (c0 : Ch) (w : List Ch) (p : Nat) : ∃ k q w', ∀ x X, NumStop x →
    scanNumber c0 p (w ++ x :: X) = (k, q, w' ++ x :: X) := by
  obtain ⟨q1, w1, e1⟩ := takeW_stop isDigit w p
  obtain ⟨b, q2, w2, e2⟩ := scanFrac_stop w1 q1
  obtain ⟨b', ds, q3, w3, e3⟩ := scanExp_stop w2 q2
  refine ⟨if b = true ∨ b' = true then (if b' = true ∧ ds = [] then .errFloat else .float)
    else if digitsVal 0 (c0 :: takenW isDigit w) ≤ I64_MAX then .integer (digitsVal 0 (c0 :: takenW isDigit w))
    else .errInteger, q3, w3, fun x X hx => ?_⟩
  simp only [scanNumber, e1 x X hx.digit, e2 x X hx, e3 x X hx, takenW_stop isDigit hx.digit X w]

section
variable {s o : Ch} (hc : CutChars s o)
include hc

omit hc in
theorem adv_absurd {p q : Nat} {cs rest X : List Ch} (h : Adv p cs q rest) (hl : X.length ≤ rest.length)
    (hc' : cs.length < X.length) : False := by
  have := h.length_le; omega

omit hc in
theorem scanStr_cons2 (qt : Nat) (acc : List Nat) (p : Nat) (c d : Ch) (r' : List Ch) :
    scanStr qt acc p (c :: d :: r') =
      if c.cp = qt then
        (if d.cp = qt then scanStr qt (qt :: acc) (p + c.len + d.len) r' else (some acc.reverse, p + c.len, d :: r'))
      else if c.cp = 92 then scanStr qt ((escape d.cp).reverse ++ acc) (p + c.len + d.len) r'
      else if c.cp = 10 then (none, p, c :: d :: r')
      else scanStr qt (c.cp :: acc) (p + c.len) (d :: r') := rfl

/-- `scan_string`: if the scan of `w ++ " " ++ v` ends at or before the cut, the scan of `w ++ "/…"` is the same -/
theorem scanStr_local {qt : Nat} (hq : qt = 39 ∨ qt = 34) (v y : List Ch) : ∀ (n : Nat) (w : List Ch), w.length ≤ n →
    ∀ (acc : List Nat) (p : Nat) (res : Option (List Nat)) (q : Nat) (rest : List Ch),
    scanStr qt acc p (w ++ s :: v) = (res, q, rest) → (s :: v).length ≤ rest.length →
    ∃ w', rest = w' ++ s :: v ∧ scanStr qt acc p (w ++ o :: y) = (res, q, w' ++ o :: y) := by
  have h1 : ¬ s.cp = qt := by rcases hq with rfl | rfl <;> exact fun e => hc.s_ne e
  have h1' : ¬ o.cp = qt := by rcases hq with rfl | rfl <;> exact fun e => hc.o_ne e
  have h2 : ¬ s.cp = 92 := fun e => hc.s_ne e
  have h3 : ¬ s.cp = 10 := fun e => hc.s_ne e
  intro n
  induction n with
  | zero =>
    intro w hw acc p res q rest e hl
    have : w = [] := by cases w <;> simp_all
    subst this
    rw [List.nil_append] at e
    have a : Adv (p + s.len) v q rest := by
      cases v with
      | nil =>
        rw [scanStr.eq_def] at e
        simp only [h1, h2, h3, if_false] at e
        have a := scanStr_adv qt (s.cp :: acc) (p + s.len) []
        rw [e] at a; exact a
      | cons d r' =>
        rw [scanStr_cons2, if_neg h1, if_neg h2, if_neg h3] at e
        have a := scanStr_adv qt (s.cp :: acc) (p + s.len) (d :: r')
        rw [e] at a; exact a
    exact (adv_absurd a hl (by simp)).elim
  | succ n ih =>
    intro w hw acc p res q rest e hl
    match w, hw with
    | [], _ => exact ih [] (by simp) acc p res q rest e hl
    | [a], _ =>
      simp only [List.cons_append, List.nil_append] at e ⊢
      rw [scanStr_cons2] at e
      rw [scanStr_cons2]
      by_cases c1 : a.cp = qt
      · rw [if_pos c1, if_neg h1] at e
        rw [if_pos c1, if_neg h1']
        obtain ⟨rfl, rfl, rfl⟩ := e
        exact ⟨[], rfl, rfl⟩
      · by_cases c2 : a.cp = 92
        · rw [if_neg c1, if_pos c2] at e
          have a' := scanStr_adv qt ((escape s.cp).reverse ++ acc) (p + a.len + s.len) v
          rw [e] at a'
          exact (adv_absurd a' hl (by simp)).elim
        · by_cases c3 : a.cp = 10
          · rw [if_neg c1, if_neg c2, if_pos c3] at e
            rw [if_neg c1, if_neg c2, if_pos c3]
            obtain ⟨rfl, rfl, rfl⟩ := e
            exact ⟨[a], rfl, rfl⟩
          · rw [if_neg c1, if_neg c2, if_neg c3] at e
            rw [if_neg c1, if_neg c2, if_neg c3]
            exact ih [] (by simp) _ _ _ _ _ e hl
    | a :: b :: w₂, hw =>
      simp only [List.cons_append] at e ⊢
      rw [scanStr_cons2] at e
      rw [scanStr_cons2]
      simp only [List.length_cons] at hw
      by_cases c1 : a.cp = qt
      · by_cases d1 : b.cp = qt
        · rw [if_pos c1, if_pos d1] at e
          rw [if_pos c1, if_pos d1]
          exact ih w₂ (by omega) _ _ _ _ _ e hl
        · rw [if_pos c1, if_neg d1] at e
          rw [if_pos c1, if_neg d1]
          obtain ⟨rfl, rfl, rfl⟩ := e
          exact ⟨b :: w₂, rfl, rfl⟩
      · by_cases c2 : a.cp = 92
        · rw [if_neg c1, if_pos c2] at e
          rw [if_neg c1, if_pos c2]
          exact ih w₂ (by omega) _ _ _ _ _ e hl
        · by_cases c3 : a.cp = 10
          · rw [if_neg c1, if_neg c2, if_pos c3] at e
            rw [if_neg c1, if_neg c2, if_pos c3]
            obtain ⟨rfl, rfl, rfl⟩ := e
            exact ⟨a :: b :: w₂, rfl, rfl⟩
          · rw [if_neg c1, if_neg c2, if_neg c3] at e
            rw [if_neg c1, if_neg c2, if_neg c3]
            exact ih (b :: w₂) (by simp only [List.length_cons]; omega) _ _ _ _ _ e hl

def twoOf : Option (String × Bool) → Bool
  | some (_, t) => t
  | none => false

omit hc in
theorem punct_cut (c : Nat) : punct c (some 32) = punct c (some 47) ∧ twoOf (punct c (some 32)) = false := by
  unfold punct
  simp only [Option.some.injEq, Nat.reduceEqDiff, if_false]
  refine ⟨trivial, ?_⟩
  simp only [apply_ite twoOf]
  simp only [twoOf, ite_self]

theorem punctTok_local (v y : List Ch) (c : Ch) (w : List Ch) (p : Nat) (tok : Token) (q : Nat) (rest : List Ch)
    (e : punctTok p c (w ++ s :: v) = (tok, q, rest)) :
    ∃ w', rest = w' ++ s :: v ∧ punctTok p c (w ++ o :: y) = (tok, q, w' ++ o :: y) := by
  unfold punctTok at e ⊢
  cases w with
  | nil =>
    have hp := punct_cut c.cp
    simp only [List.nil_append, List.head?_cons, Option.map_some, hc.s_cp, hc.o_cp] at e ⊢
    rw [← hp.1]
    cases hpu : punct c.cp (some 32) with
    | none =>
      rw [hpu] at e
      obtain ⟨rfl, rfl, rfl⟩ := e
      exact ⟨[], rfl, rfl⟩
    | some pr =>
      obtain ⟨nm, two⟩ := pr
      have h2 := hp.2
      rw [hpu] at h2 e
      cases (h2 : two = false)
      obtain ⟨rfl, rfl, rfl⟩ := e
      exact ⟨[], rfl, rfl⟩
  | cons a w₂ =>
    simp only [List.cons_append, List.head?_cons, Option.map_some] at e ⊢
    cases hpu : punct c.cp (some a.cp) with
    | none =>
      rw [hpu] at e
      obtain ⟨rfl, rfl, rfl⟩ := e
      exact ⟨a :: w₂, rfl, rfl⟩
    | some pr =>
      obtain ⟨nm, two⟩ := pr
      rw [hpu] at e
      cases two with
      | false =>
        obtain ⟨rfl, rfl, rfl⟩ := e
        exact ⟨a :: w₂, rfl, rfl⟩
      | true =>
        obtain ⟨rfl, rfl, rfl⟩ := e
        exact ⟨w₂, rfl, rfl⟩

/-- `next_token` after the skipping: a token that ends at or before the cut does not depend on what stands at the cut -/
theorem scanToken_local (v y : List Ch) (c : Ch) (w : List Ch) (p : Nat) (tok : Token) (q : Nat) (rest : List Ch)
    (e : scanToken p c (w ++ s :: v) = (tok, q, rest)) (hl : (s :: v).length ≤ rest.length) :
    ∃ w', rest = w' ++ s :: v ∧ scanToken p c (w ++ o :: y) = (tok, q, w' ++ o :: y) := by
  by_cases c1 : isIdentStart c = true
  · obtain ⟨q1, w1, e1⟩ := takeW_stop isIdentCont w (p + c.len)
    rw [scanToken_word _ _ c1, e1 s v hc.cont_s, takenW_stop isIdentCont hc.cont_s] at e
    rw [scanToken_word _ _ c1, e1 o y hc.cont_o, takenW_stop isIdentCont hc.cont_o]
    obtain ⟨rfl, rfl, rfl⟩ := e
    exact ⟨w1, rfl, rfl⟩
  · by_cases c2 : isDigit c = true
    · obtain ⟨k, q1, w1, e1⟩ := scanNumber_stop c w (p + c.len)
      rw [scanToken_number _ _ c1 c2, e1 s v hc.stop_s] at e
      rw [scanToken_number _ _ c1 c2, e1 o y hc.stop_o]
      obtain ⟨rfl, rfl, rfl⟩ := e
      exact ⟨w1, rfl, rfl⟩
    · by_cases c3 : c.cp = 39 ∨ c.cp = 34
      · rw [scanToken_string _ _ c1 c2 c3] at e
        rw [scanToken_string _ _ c1 c2 c3]
        generalize hstr : scanStr c.cp [] (p + c.len) (w ++ s :: v) = sr at e
        obtain ⟨res, q1, rest1⟩ := sr
        obtain ⟨rfl, rfl, rfl⟩ := e
        obtain ⟨w', e1, e2⟩ := scanStr_local hc c3 v y w.length w (Nat.le_refl _) [] _ _ _ _ hstr hl
        rw [e2]
        exact ⟨w', e1, rfl⟩
      · rw [scanToken_punct _ _ c1 c2 c3] at e
        rw [scanToken_punct _ _ c1 c2 c3]
        exact punctTok_local hc v y c w p tok q rest e

/-- `skip_whitespace_and_comments`: if the loop on `w ++ " " ++ v` stops before the cut (at a character of `w`),
    the loop on `w ++ "/…"` stops at the same place -/
theorem skip_local (v y : List Ch) : ∀ (n : Nat) (w : List Ch), w.length ≤ n →
    ∀ (mode : Mode) (p q : Nat) (rest : List Ch),
    skip mode p (w ++ s :: v) = (q, rest) → (s :: v).length < rest.length →
    ∃ w', rest = w' ++ s :: v ∧ skip mode p (w ++ o :: y) = (q, w' ++ o :: y) := by
  have hs := hc.s_cp
  have ho := hc.o_cp
  have base : ∀ (mode : Mode) (p q : Nat) (rest : List Ch), skip mode p (s :: v) = (q, rest) →
      (s :: v).length < rest.length → False := by
    intro mode p q rest e hl
    have a := skip_adv mode p (s :: v)
    rw [e] at a
    have := a.length_le
    simp only at this
    omega
  intro n
  induction n with
  | zero =>
    intro w hw mode p q rest e hl
    have : w = [] := by cases w <;> simp_all
    subst this
    exact (base mode p q rest e hl).elim
  | succ n ih =>
    intro w hw mode p q rest e hl
    match w, hw with
    | [], _ => exact (base mode p q rest e hl).elim
    | [a], _ =>
      simp only [List.cons_append, List.nil_append] at e ⊢
      match mode with
      | .normal =>
        rw [skip] at e
        rw [skip]
        by_cases c1 : a.ws = true
        · rw [if_pos c1] at e
          exact (base _ _ _ _ e hl).elim
        · rw [if_neg c1, if_neg fun h => hc.s_ne h.2, if_neg fun h => hc.s_ne h.2] at e
          rw [if_neg c1, if_neg fun h => hc.o_ne h.2, if_neg fun h => hc.o_ne h.2]
          obtain ⟨rfl, rfl⟩ := e
          exact ⟨[a], rfl, rfl⟩
      | .line =>
        rw [skip] at e
        rw [skip]
        by_cases c1 : a.cp = 10
        · by_cases c2 : a.ws = true
          · rw [if_pos c1, if_pos c2] at e
            exact (base _ _ _ _ e hl).elim
          · rw [if_pos c1, if_neg c2] at e
            rw [if_pos c1, if_neg c2]
            obtain ⟨rfl, rfl⟩ := e
            exact ⟨[a], rfl, rfl⟩
        · rw [if_neg c1] at e
          exact (base _ _ _ _ e hl).elim
      | .block k =>
        rw [skip_block_cons2, if_neg fun h => hc.s_ne h.2, if_neg fun h => hc.s_ne h.2] at e
        exact (base _ _ _ _ e hl).elim
    | a :: b :: w₂, hw =>
      simp only [List.cons_append] at e ⊢
      simp only [List.length_cons] at hw
      have l1 : w₂.length ≤ n := by omega
      have l2 : (b :: w₂).length ≤ n := by simp only [List.length_cons]; omega
      match mode with
      | .normal =>
        rw [skip] at e
        rw [skip]
        by_cases c1 : a.ws = true
        · rw [if_pos c1] at e
          rw [if_pos c1]
          exact ih (b :: w₂) l2 _ _ _ _ e hl
        · by_cases c2 : a.cp = 45 ∧ b.cp = 45
          · rw [if_neg c1, if_pos c2] at e
            rw [if_neg c1, if_pos c2]
            exact ih w₂ l1 _ _ _ _ e hl
          · by_cases c3 : a.cp = 47 ∧ b.cp = 42
            · rw [if_neg c1, if_neg c2, if_pos c3] at e
              rw [if_neg c1, if_neg c2, if_pos c3]
              exact ih w₂ l1 _ _ _ _ e hl
            · rw [if_neg c1, if_neg c2, if_neg c3] at e
              rw [if_neg c1, if_neg c2, if_neg c3]
              obtain ⟨rfl, rfl⟩ := e
              exact ⟨a :: b :: w₂, rfl, rfl⟩
      | .line =>
        rw [skip] at e
        rw [skip]
        by_cases c1 : a.cp = 10
        · by_cases c2 : a.ws = true
          · rw [if_pos c1, if_pos c2] at e
            rw [if_pos c1, if_pos c2]
            exact ih (b :: w₂) l2 _ _ _ _ e hl
          · rw [if_pos c1, if_neg c2] at e
            rw [if_pos c1, if_neg c2]
            obtain ⟨rfl, rfl⟩ := e
            exact ⟨a :: b :: w₂, rfl, rfl⟩
        · rw [if_neg c1] at e
          rw [if_neg c1]
          exact ih (b :: w₂) l2 _ _ _ _ e hl
      | .block k =>
        rw [skip_block_cons2] at e
        rw [skip_block_cons2]
        by_cases c2 : a.cp = 47 ∧ b.cp = 42
        · rw [if_pos c2] at e
          rw [if_pos c2]
          exact ih w₂ l1 _ _ _ _ e hl
        · by_cases c3 : a.cp = 42 ∧ b.cp = 47
          · rw [if_neg c2, if_pos c3] at e
            rw [if_neg c2, if_pos c3]
            cases k with
            | zero => exact ih w₂ l1 _ _ _ _ e hl
            | succ k' => exact ih w₂ l1 _ _ _ _ e hl
          · rw [if_neg c2, if_neg c3] at e
            rw [if_neg c2, if_neg c3]
            exact ih (b :: w₂) l2 _ _ _ _ e hl

end

/-- what the skipping loop passes over and comes out of in normal mode: whitespace characters, well-nested
    block comments, `--` line comments ended by their newline -/
inductive Trivia : List Ch → Prop
  | nil : Trivia []
  | ws (a : Ch) (t : List Ch) : a.ws = true → Trivia t → Trivia (a :: t)
  | block (c t : List Ch) : WellNested c → Trivia t → Trivia (c ++ t)
  | line (a b : Ch) (body : List Ch) (nl : Ch) (t : List Ch) : a.ws = false → a.cp = 45 → b.cp = 45 →
      (∀ x ∈ body, x.cp ≠ 10) → nl.cp = 10 → nl.ws = true → Trivia t → Trivia (a :: b :: body ++ nl :: t)

theorem skip_line_body {nl : Ch} (h1 : nl.cp = 10) (h2 : nl.ws = true) (rest : List Ch) :
    ∀ (body : List Ch) (p : Nat), (∀ x ∈ body, x.cp ≠ 10) →
      skip .line p (body ++ nl :: rest) = skip .normal (p + bytes body + nl.len) rest := by
  intro body
  induction body with
  | nil => intro p _; rw [List.nil_append, skip, if_pos h1, if_pos h2]; simp [bytes]
  | cons x body ih =>
    intro p hb
    have hx := hb x (List.mem_cons_self ..)
    rw [List.cons_append, skip, if_neg hx, ih _ (fun z hz => hb z (List.mem_cons_of_mem _ hz))]
    simp only [bytes, Nat.add_assoc]

theorem skip_trivia {t : List Ch} (h : Trivia t) : ∀ (p : Nat) (X : List Ch),
    skip .normal p (t ++ X) = skip .normal (p + bytes t) X := by
  induction h with
  | nil => intro p X; simp [bytes]
  | ws a t ha _ ih =>
    intro p X
    rw [List.cons_append, skip_ws ha, ih]
    simp only [bytes, Nat.add_assoc]
  | block c t hc _ ih =>
    intro p X
    rw [List.append_assoc, skip_wellNested hc, ih, bytes_append, Nat.add_assoc]
  | line a b body nl t ha h1 h2 hb h3 h4 _ ih =>
    intro p X
    have c1 : ¬(a.ws = true) := by rw [ha]; simp
    rw [show (a :: b :: body ++ nl :: t) ++ X = a :: b :: (body ++ nl :: (t ++ X)) by simp, skip, if_neg c1,
      if_pos ⟨h1, h2⟩, skip_line_body h3 h4 _ _ _ hb, ih]
    simp only [bytes, bytes_append, Nat.add_assoc]

/-- `Run p cs ts q rest`: from the token boundary `(p, cs)` the lexer returns the tokens `ts` and is then at
    the token boundary `(q, rest)` (about to skip whitespace and comments again) -/
inductive Run : Nat → List Ch → List Token → Nat → List Ch → Prop
  | refl (p : Nat) (cs : List Ch) : Run p cs [] p cs
  | step {p : Nat} {cs : List Ch} {q : Nat} {c : Ch} {r : List Ch} {tok : Token} {q1 : Nat} {rest1 : List Ch}
      {ts : List Token} {q' : Nat} {rest : List Ch} :
      skip .normal p cs = (q, c :: r) → scanToken q c r = (tok, q1, rest1) → Run q1 rest1 ts q' rest →
      Run p cs (tok :: ts) q' rest

theorem run_suffix {p q : Nat} {cs rest : List Ch} {ts : List Token} (h : Run p cs ts q rest) :
    ∃ b, cs = b ++ rest ∧ ts.length ≤ b.length := by
  induction h with
  | refl p cs => exact ⟨[], rfl, Nat.le_refl _⟩
  | @step p cs q c r tok q1 rest1 ts q' rest h1 h2 _ ih =>
    obtain ⟨b, e, hl⟩ := ih
    have a1 := skip_adv .normal p cs
    rw [h1] at a1
    obtain ⟨t1, e1, _⟩ := a1
    have a2 := (scanToken_spec q c r).2.2.1
    rw [h2] at a2
    obtain ⟨t2, e2, _⟩ := a2
    refine ⟨t1 ++ c :: t2 ++ b, ?_, ?_⟩
    · rw [e1]; simp only at e2; rw [e2, e]; simp
    · simp only [List.length_append, List.length_cons]; omega

theorem run_lexN {p q : Nat} {cs rest : List Ch} {ts : List Token} (h : Run p cs ts q rest) :
    ∀ (f : Nat), lexN (f + ts.length) p cs = ts ++ lexN f q rest := by
  induction h with
  | refl p cs => intro f; rfl
  | step h1 h2 _ ih =>
    intro f
    rw [List.length_cons, ← Nat.add_assoc, lexN, h1]
    simp only [h2, ih, List.cons_append]

/-- token locality: a run that ends at or before the cut does not depend on whether a blank or a `/` stands there -/
theorem run_transfer {s o : Ch} (hc : CutChars s o) (v y : List Ch) {p q : Nat} {cs rest : List Ch} {ts : List Token}
    (h : Run p cs ts q rest) : ∀ (w t : List Ch), cs = w ++ s :: v → rest = t ++ s :: v →
    Run p (w ++ o :: y) ts q (t ++ o :: y) := by
  induction h with
  | refl p cs =>
    intro w t e1 e2
    have : w = t := List.append_cancel_right (e1.symm.trans e2)
    subst this
    exact Run.refl _ _
  | @step p cs q c r tok q1 rest1 ts q' rest h1 h2 hrun ih =>
    intro w t e1 e2
    subst e1 e2
    obtain ⟨b, eb, _⟩ := run_suffix hrun
    have a2 := (scanToken_spec q c r).2.2.1
    rw [h2] at a2
    obtain ⟨t2, e2, _⟩ := a2
    simp only at e2
    -- the skipping loop stopped before the cut
    have hl1 : (s :: v).length < (c :: r).length := by
      rw [e2, eb]; simp only [List.length_cons, List.length_append]; omega
    obtain ⟨w', ew, hs⟩ := skip_local hc v y w.length w (Nat.le_refl _) .normal p q (c :: r) h1 hl1
    match w', ew with
    | [], ew =>
      rw [List.nil_append] at ew
      rw [ew] at hl1
      exact absurd hl1 (Nat.lt_irrefl _)
    | c' :: w'', ew =>
      rw [List.cons_append] at ew
      obtain ⟨rfl, er⟩ := List.cons.inj ew
      subst er
      -- the token ended at or before the cut
      have hl2 : (s :: v).length ≤ rest1.length := by
        rw [eb]; simp only [List.length_cons, List.length_append]; omega
      obtain ⟨w₁, e₁, ht⟩ := scanToken_local hc v y c w'' q tok q1 rest1 h2 hl2
      exact Run.step hs ht (ih w₁ t e₁ rfl)

/-- `u` ends at a token boundary of `u ++ X`: after the tokens `ts` the lexer is in its skipping loop, in
    normal mode, at the end of `u` — the last token ended at `u₀`, and what follows it in `u` is trivia -/
def TokenBoundary (u X : List Ch) (ts : List Token) : Prop :=
  ∃ u₀ t, u = u₀ ++ t ∧ Trivia t ∧ Run 0 (u ++ X) ts (bytes u₀) (t ++ X)

theorem lexN_skip_congr {p p' : Nat} {cs cs' : List Ch} (h : skip .normal p cs = skip .normal p' cs') (f : Nat) :
    lexN (f + 1) p cs = lexN (f + 1) p' cs' := by
  simp only [lexN, h]

theorem lex_at_boundary {u X : List Ch} {ts : List Token} (h : TokenBoundary u X ts) :
    lex (u ++ X) = ts ++ lexN (X.length + 1) (bytes u) X := by
  obtain ⟨u₀, t, eu, ht, hrun⟩ := h
  obtain ⟨b, eb, hl⟩ := run_suffix hrun
  have hb : b = u₀ := by
    rw [eu, List.append_assoc] at eb
    exact (List.append_cancel_right eb).symm
  subst hb
  unfold lex
  have hlen : (u ++ X).length + 1 = (t.length + X.length + (b.length - ts.length)) + 1 + ts.length := by
    rw [eu]; simp only [List.length_append]; omega
  rw [hlen, run_lexN hrun, lexN_skip_congr (skip_trivia ht (bytes b) X),
    lexN_fuel_indep _ (X.length + 1) _ X (by omega) (by omega), eu, bytes_append]

theorem lexN_as_lex (f p : Nat) (v : List Ch) (hf : v.length < f) : lexN f p v = (lex v).map (Token.shift p) := by
  have := lexN_shift p f 0 v
  rw [Nat.add_zero] at this
  rw [this, lex, lexN_fuel_indep f (v.length + 1) 0 v hf (by omega)]

theorem lex_comment_at_boundary {o s : Ch} {c' : List Ch} (h : WellNested (o :: c')) (ho : o.alnum = false)
    (hs : s.ws = true) (hs32 : s.cp = 32) (hsa : s.alnum = false) {u v : List Ch} {ts : List Token}
    (hb : TokenBoundary u (s :: v) ts) :
    lex (u ++ (o :: c') ++ v) = ts ++ (lex v).map (Token.shift (bytes u + bytes (o :: c'))) ∧
    lex (u ++ s :: v) = ts ++ (lex v).map (Token.shift (bytes u + s.len)) := by
  have ho47 : o.cp = 47 := by
    cases c' with
    | nil => exact h.elim
    | cons st body => exact h.1
  have hc : CutChars s o := ⟨hs32, hsa, ho47, ho⟩
  constructor
  · have hb' : TokenBoundary u ((o :: c') ++ v) ts := by
      obtain ⟨u₀, t, eu, ht, hrun⟩ := hb
      exact ⟨u₀, t, eu, ht, run_transfer hc v (c' ++ v) hrun u t rfl rfl⟩
    rw [List.append_assoc, lex_at_boundary hb',
      lexN_skip_congr (skip_wellNested h (bytes u) v), lexN_as_lex _ _ _ (by simp only [List.length_append, List.length_cons]; omega)]
  · rw [lex_at_boundary hb, lexN_skip_congr (skip_ws hs (bytes u) v),
      lexN_as_lex _ _ _ (by simp only [List.length_cons]; omega)]

/-- the first `n` tokens and the token boundary after them (`none` when the text ends before): decides `Run` -/
def runN : Nat → Nat → List Ch → Option (List Token × Nat × List Ch)
  | 0, p, cs => some ([], p, cs)
  | n + 1, p, cs =>
    match skip .normal p cs with
    | (_, []) => none
    | (q, c :: r) =>
      match runN n (scanToken q c r).2.1 (scanToken q c r).2.2 with
      | some (ts, q', rest) => some ((scanToken q c r).1 :: ts, q', rest)
      | none => none

theorem runN_sound : ∀ (n p : Nat) (cs : List Ch) (ts : List Token) (q : Nat) (rest : List Ch),
    runN n p cs = some (ts, q, rest) → Run p cs ts q rest := by
  intro n
  induction n with
  | zero =>
    intro p cs ts q rest h
    simp only [runN, Option.some.injEq, Prod.mk.injEq] at h
    obtain ⟨rfl, rfl, rfl⟩ := h
    exact Run.refl _ _
  | succ n ih =>
    intro p cs ts q rest h
    rw [runN] at h
    split at h
    · cases h
    · next q0 c r hs =>
      split at h
      · next ts' q' rest' hr =>
        simp only [Option.some.injEq, Prod.mk.injEq] at h
        obtain ⟨rfl, rfl, rfl⟩ := h
        exact Run.step hs rfl (ih _ _ _ _ _ hr)
      · cases h

end Neumann.Parse.Lex
