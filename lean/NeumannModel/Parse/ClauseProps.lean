import NeumannModel.Parse.ClauseRound
/-
  C15 — property theorems for the clause-level grammar model of SELECT (`Parse/Clause.lean`):
  `neumann_parser::parse` on `SELECT` statements with DISTINCT / ALL, aliased select items, FROM with
  table aliases, all join spellings with ON / USING, subqueries in FROM and JOIN, WHERE, GROUP BY,
  HAVING, ORDER BY … ASC / DESC … NULLS FIRST / LAST, LIMIT, OFFSET; expressions are single tokens
  (their grammar is the subject of `FullProps.lean`).
  ONLY property statements and their non-vacuity examples live here.
-/
namespace Neumann.Parse.Clause.Props

/-- Totality / fuel adequacy: `3·|ts| + 3` machine steps always finish — every token list yields a
    statement tree, a genuine parse error, or `outside`. -/
theorem clause_total (ts : List Tok) : parse ts ≠ .error .fuel := by
  intro h
  have := parse_resOk ts
  rwa [h] at this

/-- The answer does not depend on how many steps (≥ the adequate number) the machine is given. -/
theorem clause_fuel_independent (ts : List Tok) (f : Nat) (h : fuelFor ts ≤ f) :
    parseWith f ts = parse ts := by
  unfold parse parseWith
  rw [run_done_unique (run_finished ts h) (run_finished ts (Nat.le_refl _))]

/-- An error carries a position inside the input (`rem` tokens from the end, `rem ≤ |ts|`,
    "unexpected token" always at a token). -/
theorem clause_error_position_in_input (ts : List Tok) (e : Err) (h : parse ts = .error e) :
    e.posOk ts.length := by
  have := parse_resOk ts
  rwa [h] at this

/-- No stack exhaustion through subqueries: at every moment of every run at most
    `MAX_SELECT_DEPTH = 64` `parse_select_body` frames are active (the stack holds the enclosing
    ones; the body being parsed is one more). -/
theorem clause_select_depth_bounded (ts : List Tok) (k : Nat) :
    (run k (init ts)).stk.length ≤ MAX_SELECT_DEPTH :=
  (run_inv k _ (inv_init ts)).2.1

/-- ROUND TRIP for the clause structure of every SELECT statement and every spelling the grammar
    leaves open (`AS` or not, `ALL` or not, `INNER JOIN` / `JOIN`, `LEFT OUTER JOIN` / `LEFT JOIN`,
    explicit `ASC` or not, a trailing `;` or not, any number of leading `;`): the printed statement
    parses back to exactly the tree, provided its subqueries nest at most 64 deep.  In particular the
    clauses are recognised in their fixed order whichever of them are present, an identifier after
    a select item or a table is its alias and nothing else is, `NULLS FIRST / LAST` and `DESC` attach
    to their own ORDER BY item, and a join's condition attaches to that join. -/
theorem clause_round_trip (sty : Style) (semi : Bool) (lead : Nat) (q : Q) (hwf : q.WF)
    (hd : q.sdepth ≤ MAX_SELECT_DEPTH) :
    parse (List.replicate lead .semicolon ++ printStmt sty semi q) = .ok q := by
  have hX : StopsFrom 7 (if semi then [Tok.semicolon] else []) := by cases semi <;> simp [StopsFrom, lvl]
  have hk := KQ sty q [] _ hX hwf (by simpa using hd)
  have h2 : Reach ⟨.bodyRet q, [], if semi then [Tok.semicolon] else []⟩ (halt (.ok q)) := Reach.one rfl
  obtain ⟨n, hn⟩ := hk.trans h2
  have hinit : init (List.replicate lead .semicolon ++ printStmt sty semi q)
      = ⟨.body, [], printQ sty q ++ (if semi then [Tok.semicolon] else [])⟩ := by
    unfold init
    have : dropSemis (List.replicate lead Tok.semicolon ++ printStmt sty semi q) = printStmt sty semi q := by
      induction lead with
      | zero => simp [printStmt, dropSemis]
      | succ k ih => simpa [List.replicate_succ, dropSemis] using ih
    rw [this]
    rfl
  have hdone : isDone (run n (init (List.replicate lead .semicolon ++ printStmt sty semi q))) := by
    rw [hinit, hn]; exact ⟨_, rfl⟩
  unfold parse parseWith
  rw [← run_done_unique hdone (run_finished _ (Nat.le_refl _)), hinit, hn]
  rfl

/-- `SELECT DISTINCT e1 AS c2, * FROM c5 c6 LEFT OUTER JOIN (SELECT c3) c8 ON e9 NATURAL JOIN c10 USING (c1, c2)
     WHERE e1 GROUP BY e2, c3 HAVING e4 ORDER BY e5 DESC NULLS FIRST, c6 LIMIT e7 OFFSET e8` -/
def sample : Q :=
  .mk true [⟨.opaque 1, some 2⟩, ⟨.wildcard, none⟩]
    (.from (.tbl 5 (some 6))
      (.cons .left (.sub (.mk false [⟨.col 3, none⟩] .none ⟨none, [], none, [], none, none⟩) (some 8)) (.on (.opaque 9))
        (.cons .natural (.tbl 10 none) (.usingC 1 [2]) .nil)))
    ⟨some (.opaque 1), [.opaque 2, .col 3], some (.opaque 4),
     [⟨.opaque 5, true, some true⟩, ⟨.col 6, false, none⟩], some (.opaque 7), some (.opaque 8)⟩

example : sample.WF := by simp [sample, Q.WF, Src.WF, TRef.WF, JL.WF]
example : sample.sdepth = 2 := by decide
example : printStmt ⟨false, false, false, false, false⟩ false sample ≠ printStmt ⟨true, true, true, true, true⟩ true sample := by
  decide
set_option maxRecDepth 40000 in
example : parse (printStmt ⟨false, false, false, false, false⟩ false sample) = .ok sample := by decide +kernel
set_option maxRecDepth 40000 in
example : parse (printStmt ⟨true, true, true, true, true⟩ true sample) = .ok sample := by decide +kernel
-- genuine errors with positions, and the explicit domain boundary
example : parse [.select, .expr 1, .from, .ident 1, .cross, .ident 2] = .error (.unexpected .join 1) := by decide
example : parse [.select, .expr 1, .order, .expr 2] = .error (.unexpected .byKw 1) := by decide
example : parse [.select, .expr 1, .from, .lparen, .select, .star] = .error (.eof .rparen) := by decide
example : parse [.select, .ident 1, .lparen, .expr 2, .rparen] = .outside := by decide
example : parse [.other, .select, .star] = .outside := by decide

end Neumann.Parse.Clause.Props
