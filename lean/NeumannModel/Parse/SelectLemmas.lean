import NeumannModel.Parse.Select
/-
  C15 — helper lemmas for the SELECT-skeleton model (`Parse/Select.lean`).
  Core Lean only (no Mathlib).
-/
namespace Neumann.Parse.Sel

/-- the select limit does not exceed the expression limit (both are 64 in the code) -/
theorem limits_ordered : MAX_SELECT_DEPTH ≤ MAX_DEPTH := by decide

/-! ### `Res.bind` -/

@[simp] theorem bind_ok {α β : Type} (a : α) (f : α → Res β) : (Res.ok a).bind f = f a := rfl
@[simp] theorem bind_error {α β : Type} (e : SErr) (f : α → Res β) :
    (Res.error e : Res α).bind f = .error e := rfl
@[simp] theorem bind_outside {α β : Type} (f : α → Res β) : (Res.outside : Res α).bind f = .outside := rfl

section
variable {α β : Type}

theorem bind_eq_ok {r : Res α} {f : α → Res β} {b : β} :
    r.bind f = .ok b ↔ ∃ a, r = .ok a ∧ f a = .ok b := by
  cases r <;> simp [Res.bind]

/-- "is not the model's own out-of-fuel answer" -/
def NF (r : Res α) : Prop := r ≠ .error .fuel

theorem NF_bind {r : Res α} {f : α → Res β} (h : NF r)
    (hf : ∀ a, r = .ok a → NF (f a)) : NF (r.bind f) := by
  cases r with
  | ok a => exact hf a rfl
  | error e => simpa [NF, Res.bind] using h
  | outside => simp [NF, Res.bind]

def OkP (P : α → Prop) (r : Res α) : Prop := ∀ a, r = .ok a → P a

theorem OkP.ok {P : α → Prop} {a : α} (h : P a) : OkP P (.ok a) :=
  fun _ e => Res.ok.inj e ▸ h
theorem OkP.error {P : α → Prop} {e : SErr} : OkP P (.error e) := nofun
theorem OkP.outside {P : α → Prop} : OkP P .outside := nofun

theorem OkP.bind {P' : α → Prop} {P : β → Prop} {r : Res α} {k : α → Res β}
    (hr : OkP P' r) (hk : ∀ a, P' a → OkP P (k a)) : OkP P (r.bind k) := by
  cases r with
  | ok a => exact hk a (hr a rfl)
  | error e => exact OkP.error
  | outside => exact OkP.outside

theorem OkP.imp {P Q : α → Prop} {r : Res α} (h : OkP P r) (hPQ : ∀ a, P a → Q a) :
    OkP Q r := fun a e => hPQ a (h a e)

/-- how the answer with more fuel relates to the answer with less -/
def FuelLe (r r' : Res α) : Prop := NF r → r' = r

theorem FuelLe.refl (r : Res α) : FuelLe r r := fun _ => rfl
theorem FuelLe.fuel {r' : Res α} : FuelLe (.error .fuel) r' := fun h => absurd rfl h

theorem FuelLe.bind {r r' : Res α} {k k' : α → Res β} (hr : FuelLe r r')
    (hk : ∀ a, FuelLe (k a) (k' a)) : FuelLe (r.bind k) (r'.bind k') := by
  intro h
  cases r with
  | ok a => rw [hr (by simp [NF])]; exact hk a h
  | error e => rw [hr (by simpa [NF, Res.bind] using h)]; rfl
  | outside => rw [hr (by simp [NF])]; rfl

theorem FuelLe.of_le {F : Nat → Res α} (step : ∀ f, FuelLe (F f) (F (f+1))) {f g : Nat}
    (hfg : f ≤ g) : FuelLe (F f) (F g) := by
  intro h
  induction hfg with
  | refl => rfl
  | step _ ih => rw [step _ (ih ▸ h), ih]

theorem fuel_transfer {F : Nat → Res α} (step : ∀ f, FuelLe (F f) (F (f+1))) {f g : Nat}
    {r : Res α} (h : F f = r) (hr : NF r) (hg : NF (F g)) : F g = r := by
  rw [← FuelLe.of_le step (Nat.le_max_right f g) hg, FuelLe.of_le step (Nat.le_max_left f g) (h ▸ hr), h]

variable {a δ δ' n n' c c' g k : Nat} {len : α → Nat} {r : Res α}

/-- `r` answers an input of `n` tokens with fuel `g`: what a success leaves (`len`) is at least `δ`
    tokens shorter, and `a` units of fuel per token plus `c` are enough not to run out -/
def Adq (a : Nat) (len : α → Nat) (δ n c g : Nat) (r : Res α) : Prop :=
  OkP (fun b => len b + δ ≤ n) r ∧ (a * n + c ≤ g → NF r)

theorem Adq.ok {b : α} (h : len b + δ ≤ n) : Adq a len δ n c g (.ok b) := ⟨.ok h, fun _ => nofun⟩
theorem Adq.ret {b : α} (h : len b ≤ n) : Adq a len 0 n 0 g (.ok b) := .ok h
theorem Adq.outside : Adq a len δ n c g .outside := ⟨.outside, fun _ => nofun⟩
theorem Adq.error {e : SErr} (he : e ≠ .fuel) : Adq a len δ n c g (.error e) :=
  ⟨.error, fun _ h => he (Res.error.inj h)⟩
theorem Adq.fuel (hc : 0 < c) : Adq a len δ n c 0 (.error .fuel) :=
  ⟨.error, fun h => absurd h (by omega)⟩

theorem Adq.weaken (h : Adq a len δ' n c' g r) (hδ : δ ≤ δ' := by decide) (hc : c' ≤ c := by decide) :
    Adq a len δ n c g r :=
  ⟨h.1.imp fun _ hb => by omega, fun hg => h.2 (by omega)⟩

theorem Adq.step (h : Adq a len δ' n c' g r) (hδ : δ ≤ δ' := by decide) (hc : c' + 1 ≤ c := by decide) :
    Adq a len δ n c (g+1) r :=
  ⟨h.1.imp fun _ hb => by omega, fun hg => h.2 (by omega)⟩

theorem Adq.shift (h : Adq a len δ n' c g r) (hn : n' + k ≤ n) : Adq a len (δ + k) n (c - a * k) g r := by
  have := Nat.mul_le_mul_left a hn
  rw [Nat.mul_add] at this
  exact ⟨h.1.imp fun _ hb => by omega, fun hg => h.2 (by omega)⟩

theorem Adq.ite {p : Prop} [Decidable p] {x y : Res α} (hx : Adq a len δ n c g x)
    (hy : Adq a len δ n c g y) : Adq a len δ n c g (if p then x else y) := by
  split
  · exact hx
  · exact hy

theorem Adq.bind {len' : β → Nat} {k : α → Res β} {δ₂ c₂ : Nat} (hr : Adq a len δ n c g r)
    (hk : ∀ b, Adq a len' δ₂ (len b) c₂ g (k b)) :
    Adq a len' (δ + δ₂) n (max c (c₂ - a * δ)) g (r.bind k) := by
  refine ⟨hr.1.bind fun b hb => (hk b).1.imp fun q hq => by omega, fun hg => ?_⟩
  refine NF_bind (hr.2 (by omega)) fun b hb => (hk b).2 ?_
  have := Nat.mul_le_mul_left a (hr.1 b hb)
  rw [Nat.mul_add] at this
  omega

end

theorem expect_ok (t : STok) (x : SExpect) (ts : List STok) :
    OkP (fun r => ts = t :: r) (expect t x ts) := by
  cases ts with
  | nil => exact OkP.error
  | cons c r' =>
    simp only [expect]
    split
    · next hc => exact OkP.ok (by rw [hc])
    · exact OkP.error

@[simp] theorem expect_self (t : STok) (x : SExpect) (r : List STok) : expect t x (t :: r) = .ok r := by
  simp [expect]

theorem expectIdent_ok (ts : List STok) : OkP (fun p => ts = .tbl p.1 :: p.2) (expectIdent ts) := by
  cases ts with
  | nil => exact OkP.error
  | cons c r => cases c <;> first | exact OkP.ok rfl | exact OkP.error

theorem item_ok (maxE ed : Nat) (ts : List STok) : OkP (fun r => ts = .star :: r) (item maxE ed ts) := by
  unfold item
  split
  · exact OkP.error
  · cases ts with
    | nil => exact OkP.error
    | cons t r =>
      cases t <;> simp only [prefixArm] <;> first | exact OkP.error | exact OkP.outside | skip
      split
      · exact OkP.outside
      · exact OkP.ok rfl

theorem item_star {maxE ed : Nat} {r : List STok} (he : ed + 1 ≤ maxE) (h1 : headIsStar r = false)
    (h2 : headIsTbl r = false) : item maxE ed (.star :: r) = .ok r := by
  have : ¬ (ed + 1 > maxE) := by omega
  simp [item, prefixArm, this, h1, h2]

theorem afterTref_ok (s : Src) (r : List STok) : OkP (fun p => p = (s, r)) (afterTref s r) := by
  unfold afterTref
  split
  · exact OkP.outside
  · exact OkP.ok rfl

theorem afterTref_pass {s : Src} {r : List STok} (h : headIsTbl r = false) :
    afterTref s r = .ok (s, r) := by
  simp [afterTref, h]

theorem body_eq {maxS maxE f sd ed : Nat} {ts : List STok} (h : sd + 1 ≤ maxS) :
    bodyN maxS maxE (f+1) sd ed ts =
      (item maxE ed ts).bind fun r1 =>
      (srcN maxS maxE f (sd+1) ed r1).bind fun p =>
      (condN maxS maxE f (sd+1) ed p.2).bind fun p' => .ok (build p.1 p'.1, p'.2) := by
  have : ¬ (sd + 1 > maxS) := by omega
  rw [bodyN]
  simp only [this, if_false]

theorem body_deep {maxS maxE f sd ed : Nat} {ts : List STok} (h : maxS < sd + 1) :
    bodyN maxS maxE (f+1) sd ed ts = .error (.tooDeep ts.length) := by
  rw [bodyN]
  simp only [gt_iff_lt, h, if_true]

theorem src_none {maxS maxE f sd ed : Nat} {ts : List STok} (h : ts.head? ≠ some .fromKw) :
    srcN maxS maxE (f+1) sd ed ts = .ok (.plain none, ts) := by
  rw [srcN]
  intro r hr
  subst hr
  simp at h

theorem src_sub_eq {maxS maxE f sd ed : Nat} {ts : List STok} :
    srcN maxS maxE (f+1) sd ed (.fromKw :: .lparen :: .select :: ts) =
      (bodyN maxS maxE f sd ed ts).bind fun p =>
      (expect .rparen .rparen p.2).bind fun r3 => afterTref (.sub p.1) r3 := by
  rw [srcN]
  simp

theorem cond_none {maxS maxE f sd ed : Nat} {ts : List STok} (h : ts.head? ≠ some .whereKw) :
    condN maxS maxE (f+1) sd ed ts = .ok (none, ts) := by
  rw [condN]
  intro r hr
  subst hr
  simp at h

theorem cond_sub_eq {maxS maxE f sd ed : Nat} {ts : List STok} (he : ed + 1 ≤ maxE) :
    condN maxS maxE (f+1) sd ed (.whereKw :: .existsKw :: .lparen :: .select :: ts) =
      (bodyN maxS maxE f sd (ed+1) ts).bind fun p =>
      (expect .rparen .rparen p.2).bind fun r4 =>
      if headIsStar r4 then .outside else .ok (some p.1, r4) := by
  have : ¬ (ed + 1 > maxE) := by omega
  rw [condN]
  simp [this, prefixArm]

/-! ### what a successful parse consumed: exactly the print of its tree -/

def printS : Src → List STok
  | .plain o => printSrc o
  | .sub s => .fromKw :: .lparen :: .select :: (print s ++ [.rparen])

def printW : Option Q → List STok
  | none => []
  | some w => .whereKw :: .existsKw :: .lparen :: .select :: (print w ++ [.rparen])

def depS : Src → Nat
  | .plain _ => 0
  | .sub s => sdepth s

def depW : Option Q → Nat
  | none => 0
  | some w => sdepth w

theorem print_build (s : Src) (w : Option Q) : print (build s w) = .star :: (printS s ++ printW w) := by
  cases s <;> cases w <;> simp [build, print, printS, printW]

theorem sdepth_build (s : Src) (w : Option Q) : sdepth (build s w) = 1 + max (depS s) (depW w) := by
  cases s <;> cases w <;> simp [build, sdepth, depS, depW]

theorem build_induct {P : Q → Prop}
    (h : ∀ s w, (∀ q, s = .sub q → P q) → (∀ q, w = some q → P q) → P (build s w)) : ∀ q, P q := by
  intro q
  induction q with
  | leaf o => exact h (.plain o) none nofun nofun
  | fromSub s ih => exact h (.sub s) none (fun _ e => Src.sub.inj e ▸ ih) nofun
  | whereSub o w ih => exact h (.plain o) (some w) nofun (fun _ e => Option.some.inj e ▸ ih)
  | both s w ihs ihw =>
    exact h (.sub s) (some w) (fun _ e => Src.sub.inj e ▸ ihs) (fun _ e => Option.some.inj e ▸ ihw)

/-- Soundness of acceptance: an accepted body is the print of the returned tree followed by the
    returned rest, and the tree fits the select-depth limit. -/
theorem sound (maxS maxE : Nat) : ∀ fuel,
    (∀ sd ed ts, OkP (fun p => ts = print p.1 ++ p.2 ∧ sd + sdepth p.1 ≤ maxS)
        (bodyN maxS maxE fuel sd ed ts)) ∧
    (∀ sd ed ts, OkP (fun p => ts = printS p.1 ++ p.2 ∧ (depS p.1 = 0 ∨ sd + depS p.1 ≤ maxS))
        (srcN maxS maxE fuel sd ed ts)) ∧
    (∀ sd ed ts, OkP (fun p => ts = printW p.1 ++ p.2 ∧ (depW p.1 = 0 ∨ sd + depW p.1 ≤ maxS))
        (condN maxS maxE fuel sd ed ts)) := by
  intro fuel
  induction fuel with
  | zero => exact ⟨fun _ _ _ => OkP.error, fun _ _ _ => OkP.error, fun _ _ _ => OkP.error⟩
  | succ f ih =>
    obtain ⟨ihB, ihS, ihC⟩ := ih
    refine ⟨?_, ?_, ?_⟩
    · intro sd ed ts
      by_cases hd : sd + 1 ≤ maxS
      · rw [body_eq hd]
        refine (item_ok _ _ _).bind fun r1 e1 => (ihS _ _ _).bind fun p e2 => (ihC _ _ _).bind
          fun p' e3 => OkP.ok ⟨?_, ?_⟩
        · rw [e1, e2.1, e3.1, print_build]; simp
        · rw [sdepth_build]; have := e2.2; have := e3.2; omega
      · rw [body_deep (by omega)]
        exact OkP.error
    · intro sd ed ts
      rw [srcN.eq_def]
      simp only
      split
      · split
        · next r0 hl =>
          obtain ⟨r, rfl⟩ := List.head?_eq_some_iff.1 hl
          refine (expect_ok _ _ _).bind fun r1 e1 => (ihB _ _ _).bind fun p e2 => (expect_ok _ _ _).bind
            fun r3 e3 => (afterTref_ok _ _).imp fun q e4 => ?_
          simp only [List.tail_cons] at e1
          rw [e4, e1, e2.1, e3]
          exact ⟨by simp [printS], Or.inr e2.2⟩
        · refine (expectIdent_ok _).bind fun p e1 => (afterTref_ok _ _).imp fun q e4 => ?_
          rw [e4, e1]
          exact ⟨by simp [printS, printSrc], Or.inl rfl⟩
      · exact OkP.ok ⟨rfl, Or.inl rfl⟩
    · intro sd ed ts
      rw [condN.eq_def]
      simp only
      split
      · split
        · exact OkP.error
        · split
          · exact OkP.error
          · next p r1 =>
            cases p <;> simp only [prefixArm] <;> first | exact OkP.error | exact OkP.outside | skip
            refine (expect_ok _ _ _).bind fun r2 e2 => (expect_ok _ _ _).bind fun r3 e3 => (ihB _ _ _).bind
              fun q e4 => (expect_ok _ _ _).bind fun r5 e5 => ?_
            split
            · exact OkP.outside
            · rw [e2, e3, e4.1, e5]
              exact OkP.ok ⟨by simp [printW], Or.inr e4.2⟩
      · exact OkP.ok ⟨rfl, Or.inl rfl⟩

theorem tail_le {α : Type} (l : List α) : l.tail.length + 0 ≤ l.length := by
  simp only [List.length_tail]; omega

theorem expect_adq {a g : Nat} (t : STok) (x : SExpect) (ts : List STok) :
    Adq a List.length 1 ts.length 0 g (expect t x ts) := by
  cases ts with
  | nil => exact .error nofun
  | cons c r =>
    simp only [expect]
    exact .ite (.ok (Nat.le_refl _)) (.error nofun)

theorem expectIdent_adq {a g : Nat} (ts : List STok) :
    Adq a (·.2.length) 1 ts.length 0 g (expectIdent ts) := by
  cases ts with
  | nil => exact .error nofun
  | cons c r => cases c <;> first | exact .ok (Nat.le_refl _) | exact .error nofun

theorem item_adq {a g : Nat} (maxE ed : Nat) (ts : List STok) :
    Adq a List.length 1 ts.length 0 g (item maxE ed ts) := by
  unfold item
  split
  · exact .error nofun
  · cases ts with
    | nil => exact .error nofun
    | cons t r =>
      cases t <;> simp only [prefixArm] <;> first | exact .error nofun | exact .outside | skip
      exact .ite .outside (.ok (Nat.le_refl _))

theorem afterTref_adq {a g : Nat} (s : Src) (r : List STok) :
    Adq a (·.2.length) 0 r.length 0 g (afterTref s r) :=
  .ite .outside (.ok (Nat.le_refl _))

theorem adequate (maxS maxE : Nat) : ∀ fuel,
    (∀ sd ed ts, Adq 1 (·.2.length) 1 ts.length 1 fuel (bodyN maxS maxE fuel sd ed ts)) ∧
    (∀ sd ed ts, Adq 1 (·.2.length) 0 ts.length 1 fuel (srcN maxS maxE fuel sd ed ts)) ∧
    (∀ sd ed ts, Adq 1 (·.2.length) 0 ts.length 1 fuel (condN maxS maxE fuel sd ed ts)) := by
  intro fuel
  induction fuel with
  | zero => exact ⟨fun _ _ _ => .fuel (by decide), fun _ _ _ => .fuel (by decide),
      fun _ _ _ => .fuel (by decide)⟩
  | succ f ih =>
    obtain ⟨ihB, ihS, ihC⟩ := ih
    refine ⟨?_, ?_, ?_⟩
    · intro sd ed ts
      by_cases hd : sd + 1 ≤ maxS
      · rw [body_eq hd]
        exact .step ((item_adq _ _ _).bind fun r1 => (ihS _ _ _).bind fun p => (ihC _ _ _).bind fun p' =>
          .ret (Nat.le_refl _))
      · rw [body_deep (by omega)]
        exact .error nofun
    · intro sd ed ts
      rw [srcN.eq_def]
      simp only
      split
      · next r0 =>
        split
        · exact .step (((expect_adq _ _ r0.tail).shift (k := 1) (Nat.succ_le_succ (tail_le r0))).bind
            fun r1 => (ihB _ _ _).bind fun p => (expect_adq _ _ _).bind fun r3 => afterTref_adq _ _)
        · exact .step (((expectIdent_adq r0).shift (k := 1) (Nat.le_refl _)).bind fun p =>
            afterTref_adq _ _)
      · exact .ok (Nat.le_refl _)
    · intro sd ed ts
      rw [condN.eq_def]
      simp only
      split
      · next r0 =>
        split
        · exact .error nofun
        · split
          · exact .error nofun
          · next p r1 =>
            cases p <;> simp only [prefixArm] <;> first | exact .error nofun | exact .outside | skip
            exact .step (((expect_adq _ _ r1).shift (k := 2) (Nat.le_refl (r1.length + 2))).bind fun r2 =>
              (expect_adq _ _ _).bind fun r3 => (ihB _ _ _).bind fun q => (expect_adq _ _ _).bind fun r5 =>
              .ite .outside (.ret (Nat.le_refl _)))
      · exact .ok (Nat.le_refl _)
/-! ### the continuation after a body -/

/-- tokens that stop a body without leaving the fragment: everything except `*` (binary operator
    after the item / the EXISTS expression), an identifier (implicit alias), FROM and WHERE -/
def stops : List STok → Bool
  | .star :: _ => false
  | .tbl _ :: _ => false
  | .fromKw :: _ => false
  | .whereKw :: _ => false
  | _ => true

theorem stops_facts {r : List STok} (h : stops r = true) :
    headIsStar r = false ∧ headIsTbl r = false ∧ r.head? ≠ some .fromKw ∧ r.head? ≠ some .whereKw := by
  cases r with
  | nil => simp [headIsStar, headIsTbl]
  | cons t r => cases t <;> simp [stops, headIsStar, headIsTbl] at h ⊢

@[simp] theorem stops_nil : stops [] = true := rfl
@[simp] theorem stops_rparen (r : List STok) : stops (.rparen :: r) = true := rfl

/-! ### round trip, clause by clause; fuel is counted by nesting depth (two units per level) -/

theorem printS_sub_append (q : Q) (X : List STok) :
    printS (.sub q) ++ X = .fromKw :: .lparen :: .select :: (print q ++ .rparen :: X) := by
  simp [printS]

theorem printW_some_append (q : Q) (X : List STok) :
    printW (some q) ++ X = .whereKw :: .existsKw :: .lparen :: .select :: (print q ++ .rparen :: X) := by
  simp [printW]

theorem printS_head (s : Src) {X : List STok} (h1 : headIsStar X = false) (h2 : headIsTbl X = false) :
    headIsStar (printS s ++ X) = false ∧ headIsTbl (printS s ++ X) = false := by
  cases s with
  | plain o =>
    cases o with
    | none => exact ⟨h1, h2⟩
    | some n => exact ⟨rfl, rfl⟩
  | sub q => exact ⟨rfl, rfl⟩

theorem printW_head (w : Option Q) {rest : List STok} (hs : stops rest = true) :
    headIsStar (printW w ++ rest) = false ∧ headIsTbl (printW w ++ rest) = false ∧
      (printW w ++ rest).head? ≠ some .fromKw := by
  obtain ⟨s1, s2, s3, -⟩ := stops_facts hs
  cases w with
  | none => exact ⟨s1, s2, s3⟩
  | some q => exact ⟨rfl, rfl, by simp [printW]⟩

theorem src_plain {maxS maxE f sd ed : Nat} (o : Option Nat) {X : List STok} (h1 : headIsTbl X = false)
    (h2 : X.head? ≠ some .fromKw) :
    srcN maxS maxE (f+1) sd ed (printSrc o ++ X) = .ok (.plain o, X) := by
  cases o with
  | none => exact src_none h2
  | some n =>
    show srcN maxS maxE (f+1) sd ed (.fromKw :: .tbl n :: X) = _
    rw [srcN]
    simp [expectIdent, afterTref, h1]

def KP (maxS maxE : Nat) (q : Q) : Prop :=
  ∀ fuel sd ed rest, stops rest = true → sd + sdepth q ≤ maxS → ed ≤ sd → 2 * sdepth q ≤ fuel →
    bodyN maxS maxE fuel sd ed (print q ++ rest) = .ok (q, rest)

theorem K_src {maxS maxE : Nat} {s : Src} (ih : ∀ q, s = .sub q → KP maxS maxE q) {f sd ed : Nat}
    {X : List STok} (h1 : headIsTbl X = false) (h2 : X.head? ≠ some .fromKw) (hd : sd + depS s ≤ maxS)
    (he : ed ≤ sd) (hf : 2 * depS s ≤ f) :
    srcN maxS maxE (f+1) sd ed (printS s ++ X) = .ok (s, X) := by
  cases s with
  | plain o => exact src_plain o h1 h2
  | sub q =>
    rw [printS_sub_append, src_sub_eq, ih q rfl f sd ed _ rfl hd he hf]
    simp [afterTref, h1]

theorem K_cond {maxS maxE : Nat} (hSE : maxS ≤ maxE) {w : Option Q} (ih : ∀ q, w = some q → KP maxS maxE q)
    {f sd ed : Nat} {X : List STok} (h1 : headIsStar X = false) (h2 : X.head? ≠ some .whereKw)
    (hd : sd + depW w ≤ maxS) (he : ed + 1 ≤ sd) (hf : 2 * depW w ≤ f) :
    condN maxS maxE (f+1) sd ed (printW w ++ X) = .ok (w, X) := by
  cases w with
  | none => exact cond_none h2
  | some q =>
    rw [printW_some_append, cond_sub_eq (by omega), ih q rfl f sd (ed+1) _ rfl hd he hf]
    simp [h1]

theorem depS_lt (s : Src) (w : Option Q) : depS s < sdepth (build s w) := by
  rw [sdepth_build]; omega

theorem depW_lt (s : Src) (w : Option Q) : depW w < sdepth (build s w) := by
  rw [sdepth_build]; omega

theorem K_build {maxS maxE : Nat} (hSE : maxS ≤ maxE) (s : Src) (w : Option Q)
    (ihs : ∀ q, s = .sub q → KP maxS maxE q) (ihw : ∀ q, w = some q → KP maxS maxE q) :
    KP maxS maxE (build s w) := by
  intro fuel sd ed rest hs hd he hf
  obtain ⟨-, -, -, s4⟩ := stops_facts hs
  obtain ⟨w1, w2, w3⟩ := printW_head w hs
  obtain ⟨i1, i2⟩ := printS_head s w1 w2
  have a := depS_lt s w
  have b := depW_lt s w
  obtain ⟨f, rfl⟩ : ∃ f, fuel = f + 2 := ⟨fuel - 2, by omega⟩
  rw [print_build, List.cons_append, List.append_assoc, body_eq (by omega), item_star (by omega) i1 i2,
    bind_ok, K_src ihs w2 w3 (by omega) (by omega) (by omega), bind_ok,
    K_cond hSE ihw (stops_facts hs).1 s4 (by omega) (by omega) (by omega), bind_ok]

theorem K (maxS maxE : Nat) (hSE : maxS ≤ maxE) : ∀ q, KP maxS maxE q :=
  build_induct (K_build hSE)

/-! ### beyond the limit -/

theorem body_from_err {maxS maxE f sd ed : Nat} {X : List STok} {e : SErr} (h1 : sd + 1 ≤ maxS)
    (h2 : ed + 1 ≤ maxE) (hb : bodyN maxS maxE f (sd+1) ed X = .error e) :
    bodyN maxS maxE (f+2) sd ed (.star :: .fromKw :: .lparen :: .select :: X) = .error e := by
  rw [body_eq h1, item_star h2 rfl rfl, bind_ok, src_sub_eq, hb]
  rfl

theorem body_exists_err {maxS maxE f sd ed : Nat} {s : Src} {X : List STok} {e : SErr} (h1 : sd + 1 ≤ maxS)
    (h2 : ed + 1 ≤ maxE)
    (hs : srcN maxS maxE (f+1) (sd+1) ed (printS s ++ .whereKw :: .existsKw :: .lparen :: .select :: X) =
      .ok (s, .whereKw :: .existsKw :: .lparen :: .select :: X))
    (hb : bodyN maxS maxE f (sd+1) (ed+1) X = .error e) :
    bodyN maxS maxE (f+2) sd ed (.star :: (printS s ++ .whereKw :: .existsKw :: .lparen :: .select :: X)) =
      .error e := by
  obtain ⟨i1, i2⟩ := printS_head s (X := .whereKw :: .existsKw :: .lparen :: .select :: X) rfl rfl
  rw [body_eq h1, item_star h2 i1 i2, bind_ok, hs, bind_ok]
  simp only
  rw [cond_sub_eq h2, hb]
  rfl

def TDP (maxS maxE : Nat) (q : Q) : Prop :=
  ∀ fuel sd ed rest, maxS < sd + sdepth q → ed ≤ sd → 2 * sdepth q ≤ fuel →
    ∃ k, bodyN maxS maxE fuel sd ed (print q ++ rest) = .error (.tooDeep k)

theorem TD_build {maxS maxE : Nat} (hSE : maxS ≤ maxE) (s : Src) (w : Option Q)
    (ihs : ∀ q, s = .sub q → TDP maxS maxE q) (ihw : ∀ q, w = some q → TDP maxS maxE q) :
    TDP maxS maxE (build s w) := by
  intro fuel sd ed rest hd he hf
  have a := depS_lt s w
  have b := depW_lt s w
  obtain ⟨f, rfl⟩ : ∃ f, fuel = f + 2 := ⟨fuel - 2, by omega⟩
  by_cases h1 : sd + 1 ≤ maxS
  · rw [print_build, List.cons_append, List.append_assoc]
    by_cases h2 : sd + 1 + depS s ≤ maxS
    · -- the FROM clause fits, so the EXISTS subquery is the one that is too deep
      have hw : maxS < sd + 1 + depW w := by rw [sdepth_build] at hd; omega
      clear hd
      cases w with
      | none => exact absurd hw (Nat.not_lt.2 h1)
      | some q =>
        simp only [depW] at hw b
        obtain ⟨k, hk⟩ := ihw q rfl f (sd+1) (ed+1) (.rparen :: rest) hw (by omega) (by omega)
        rw [printW_some_append]
        exact ⟨k, body_exists_err h1 (by omega)
          (K_src (fun q _ => K maxS maxE hSE q) rfl (by simp) h2 (by omega) (by omega)) hk⟩
    · clear hd
      cases s with
      | plain o => exact absurd h1 h2
      | sub q =>
        simp only [depS] at h2 a
        obtain ⟨k, hk⟩ := ihs q rfl f (sd+1) ed (.rparen :: (printW w ++ rest)) (by omega) (by omega)
          (by omega)
        rw [printS_sub_append]
        exact ⟨k, body_from_err h1 (by omega) hk⟩
  · exact ⟨_, body_deep (by omega)⟩

theorem TD (maxS maxE : Nat) (hSE : maxS ≤ maxE) : ∀ q, TDP maxS maxE q :=
  build_induct (TD_build hSE)

/-! ### linear chains: the exact position of `TooDeep` -/

theorem openers_append (a b : List Site) : openers (a ++ b) = openers a ++ openers b := by
  induction a with
  | nil => rfl
  | cons s a ih => simp only [List.cons_append, openers, ih, List.append_assoc]

theorem chain_td (maxS maxE : Nat) (hSE : maxS ≤ maxE) : ∀ (l : List Site) (fuel sd ed : Nat)
    (X : List STok), sd + l.length = maxS → ed ≤ sd → 2 * l.length + 1 ≤ fuel →
    bodyN maxS maxE fuel sd ed (openers l ++ X) = .error (.tooDeep X.length) := by
  intro l
  induction l with
  | nil =>
    intro fuel sd ed X h he hf
    obtain ⟨f, rfl⟩ : ∃ f, fuel = f + 1 := ⟨fuel - 1, by omega⟩
    have h : sd = maxS := h
    exact body_deep (by omega)
  | cons s l ih =>
    intro fuel sd ed X h he hf
    simp only [List.length_cons] at h hf
    obtain ⟨f, rfl⟩ : ∃ f, fuel = f + 2 := ⟨fuel - 2, by omega⟩
    have h1 : sd + 1 ≤ maxS := h ▸ Nat.add_le_add_left (Nat.le_add_left 1 l.length) sd
    have h2 : ed + 1 ≤ maxE := Nat.le_trans (Nat.succ_le_succ he) (Nat.le_trans h1 hSE)
    have hd' : sd + 1 + l.length = maxS := (Nat.add_right_comm sd 1 l.length).trans h
    have hf' : 2 * l.length + 1 ≤ f := Nat.le_of_succ_le_succ (Nat.le_of_succ_le_succ hf)
    cases s with
    | frm => exact body_from_err h1 h2 (ih f (sd+1) ed X hd' (Nat.le_succ_of_le he) hf')
    | exi o =>
      have hb := ih f (sd+1) (ed+1) X hd' (Nat.succ_le_succ he) hf'
      have := body_exists_err (s := .plain o) h1 h2 (src_plain o rfl (by simp)) hb
      simpa [openers, opener, printS] using this

theorem print_chain (inner : Q) (l : List Site) :
    print (chain inner l) = openers l ++ print inner ++ List.replicate l.length .rparen := by
  induction l with
  | nil => simp [chain, openers]
  | cons s l ih =>
    cases s with
    | frm =>
      simp only [chain, print, ih, openers, opener, List.length_cons, List.replicate_succ']
      simp
    | exi o =>
      simp only [chain, print, ih, openers, opener, List.length_cons, List.replicate_succ']
      simp

theorem sdepth_chain (inner : Q) (l : List Site) : sdepth (chain inner l) = l.length + sdepth inner := by
  induction l with
  | nil => simp [chain]
  | cons s l ih => cases s <;> simp only [chain, sdepth, ih, List.length_cons] <;> omega

/-! ### the expression counter never decides -/

theorem ed_irrelevant (maxS maxE maxE' : Nat) (h1 : maxS ≤ maxE) (h2 : maxS ≤ maxE') : ∀ fuel,
    (∀ sd ed ts, ed ≤ sd →
        bodyN maxS maxE fuel sd ed ts = bodyN maxS maxE' fuel sd ed ts) ∧
    (∀ sd ed ts, ed ≤ sd →
        srcN maxS maxE fuel sd ed ts = srcN maxS maxE' fuel sd ed ts) ∧
    (∀ sd ed ts, ed + 1 ≤ sd → sd ≤ maxS →
        condN maxS maxE fuel sd ed ts = condN maxS maxE' fuel sd ed ts) := by
  intro fuel
  induction fuel with
  | zero => exact ⟨fun _ _ _ _ => rfl, fun _ _ _ _ => rfl, fun _ _ _ _ _ => rfl⟩
  | succ f ih =>
    obtain ⟨ihB, ihS, ihC⟩ := ih
    refine ⟨?_, ?_, ?_⟩
    · intro sd ed ts he
      by_cases hd : sd + 1 ≤ maxS
      · have n1 : ¬ (ed + 1 > maxE) := by omega
        have n2 : ¬ (ed + 1 > maxE') := by omega
        have eS : ∀ r, srcN maxS maxE f (sd+1) ed r = srcN maxS maxE' f (sd+1) ed r :=
          fun r => ihS _ _ r (by omega)
        have eC : ∀ r, condN maxS maxE f (sd+1) ed r = condN maxS maxE' f (sd+1) ed r :=
          fun r => ihC _ _ r (by omega) hd
        rw [body_eq hd, body_eq hd]
        simp only [item, n1, n2, if_false, eS, eC]
      · rw [body_deep (by omega), body_deep (by omega)]
    · intro sd ed ts he
      have eB : ∀ r, bodyN maxS maxE f sd ed r = bodyN maxS maxE' f sd ed r := fun r => ihB _ _ r he
      rw [srcN.eq_def, srcN.eq_def]
      simp only [eB]
    · intro sd ed ts he hs
      have eB : ∀ r, bodyN maxS maxE f sd (ed+1) r = bodyN maxS maxE' f sd (ed+1) r :=
        fun r => ihB _ _ r he
      have n1 : ¬ (ed + 1 > maxE) := by omega
      have n2 : ¬ (ed + 1 > maxE') := by omega
      rw [condN.eq_def, condN.eq_def]
      simp only [eB, n1, n2, if_false]

theorem mono (maxS maxE : Nat) : ∀ fuel,
    (∀ sd ed ts, FuelLe (bodyN maxS maxE fuel sd ed ts) (bodyN maxS maxE (fuel+1) sd ed ts)) ∧
    (∀ sd ed ts, FuelLe (srcN maxS maxE fuel sd ed ts) (srcN maxS maxE (fuel+1) sd ed ts)) ∧
    (∀ sd ed ts, FuelLe (condN maxS maxE fuel sd ed ts) (condN maxS maxE (fuel+1) sd ed ts)) := by
  intro fuel
  induction fuel with
  | zero => exact ⟨fun _ _ _ => .fuel, fun _ _ _ => .fuel, fun _ _ _ => .fuel⟩
  | succ g ih =>
    obtain ⟨ihB, ihS, ihC⟩ := ih
    refine ⟨?_, ?_, ?_⟩
    · intro sd ed ts
      by_cases hd : sd + 1 ≤ maxS
      · rw [body_eq hd, body_eq hd]
        exact (FuelLe.refl _).bind fun r1 => (ihS _ _ _).bind fun p => (ihC _ _ _).bind fun p' => .refl _
      · rw [body_deep (by omega), body_deep (by omega)]
        exact .refl _
    · intro sd ed ts
      by_cases h : ts.head? = some .fromKw
      · obtain ⟨r, rfl⟩ := List.head?_eq_some_iff.1 h
        simp only [srcN]
        split
        · exact (FuelLe.refl _).bind fun r1 => (ihB _ _ _).bind fun p => .refl _
        · exact .refl _
      · rw [src_none h, src_none h]
        exact .refl _
    · intro sd ed ts
      by_cases h : ts.head? = some .whereKw
      · obtain ⟨r, rfl⟩ := List.head?_eq_some_iff.1 h
        simp only [condN]
        split
        · exact .refl _
        · cases r with
          | nil => exact .refl _
          | cons p r0 =>
            cases p <;> simp only [prefixArm] <;> first | exact .refl _ | skip
            exact (FuelLe.refl _).bind fun r1 => (FuelLe.refl _).bind fun r2 => (ihB _ _ _).bind
              fun q => .refl _
      · rw [cond_none h, cond_none h]
        exact .refl _

theorem body_fuel {maxS maxE f g sd ed : Nat} {ts : List STok} {r : Res (Q × List STok)}
    (h : bodyN maxS maxE f sd ed ts = r) (hr : NF r) (hg : ts.length < g) :
    bodyN maxS maxE g sd ed ts = r :=
  fuel_transfer (F := fun f => bodyN maxS maxE f sd ed ts) (fun f => (mono maxS maxE f).1 sd ed ts) h hr
    (((adequate maxS maxE g).1 sd ed ts).2 (by omega))

theorem parseStmt_select {f : Nat} {ts : List STok} {r : Res (Q × List STok)}
    (h : bodyN MAX_SELECT_DEPTH MAX_DEPTH f 0 0 ts = r) (hr : NF r) :
    parseStmt (.select :: ts) = r.bind fun p => .ok p.1 := by
  rw [← body_fuel (g := fuelFor (.select :: ts)) h hr (Nat.lt_succ_of_lt (Nat.lt_succ_self _))]
  rfl

end Neumann.Parse.Sel
