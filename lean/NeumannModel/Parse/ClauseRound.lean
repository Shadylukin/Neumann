import NeumannModel.Parse.ClauseLemmas
/-
  C15 — the round trip of the clause-level grammar model of SELECT (`Parse/Clause.lean`): a body
  that finds `printQ sty q ++ X` builds exactly `q` and returns with `X` left, whatever spelling
  `sty` chooses.  Core Lean only (no Mathlib).
-/
namespace Neumann.Parse.Clause

/-- position of a token in the order of the clauses after FROM (0 = none of them), `)` and `;` last -/
def lvl : Tok → Nat
  | .whereKw => 1 | .group => 2 | .having => 3 | .order => 4 | .limit => 5 | .offset => 6
  | .rparen => 7 | .semicolon => 7
  | _ => 0

/-- the rest starts with a clause keyword of position at least `k`, a closer, or is empty -/
def StopsFrom (k : Nat) (Y : List Tok) : Prop :=
  match Y with
  | [] => True
  | t :: _ => k ≤ lvl t

theorem StopsFrom.mono {k k' : Nat} {Y : List Tok} (h : StopsFrom k Y) (hk : k' ≤ k) : StopsFrom k' Y := by
  cases Y with
  | nil => trivial
  | cons t r => exact Nat.le_trans hk h

theorem StopsFrom.head_ne {k : Nat} {Y : List Tok} (h : StopsFrom k Y) {t : Tok} (ht : lvl t < k) :
    Y.head? ≠ some t := by
  cases Y with
  | nil => exact nofun
  | cons c r =>
    intro e
    cases Option.some.inj e
    exact Nat.lt_irrefl _ (Nat.lt_of_lt_of_le ht h)

/-- the tokens that go on with an item, an alias, a table reference, a join condition or an ORDER BY item -/
def continues : Tok → Bool
  | .comma | .asKw | .ident _ | .star | .lparen | .on | .using | .from | .desc | .asc | .nulls => true
  | _ => false

def Safe (Y : List Tok) : Prop := ∀ t, Y.head? = some t → continues t = false

theorem Safe.ne {Y : List Tok} (h : Safe Y) {t : Tok} (ht : continues t = true := by rfl) : Y.head? ≠ some t :=
  fun e => by rw [h t e] at ht; cases ht

theorem StopsFrom.safe {Y : List Tok} (h : StopsFrom 1 Y) : Safe Y := by
  intro t e
  cases Y with
  | nil => cases e
  | cons c r =>
    cases Option.some.inj e
    revert h
    -- a token of level 0 that continues something contradicts `1 ≤ lvl c`
    cases t <;> first | exact fun _ => rfl | exact fun h => absurd h (Nat.not_succ_le_zero 0)

theorem parseX_print (e : XE) (Y : List Tok) (h1 : Y.head? ≠ some .star) (h2 : Y.head? ≠ some .lparen) :
    parseX (printX e :: Y) = .ok (e, Y) := by
  cases e <;> simp [parseX, printX, h1, h2]

theorem parseAlias_print (sty : Style) (a : Option Nat) (Y : List Tok) (h1 : Y.head? ≠ some .asKw)
    (h2 : ∀ n, Y.head? ≠ some (.ident n)) : parseAlias (printAlias sty a ++ Y) = .ok (a, Y) := by
  cases a with
  | some n =>
    show parseAlias ((if sty.useAs then [Tok.asKw, Tok.ident n] else [Tok.ident n]) ++ Y) = _
    split <;> rfl
  | none => fun_cases parseAlias Y <;> first | rfl | exact absurd rfl h1 | exact absurd rfl (h2 _)

theorem head_cons_ne {t c : Tok} {r : List Tok} (h : c ≠ t) : (c :: r).head? ≠ some t :=
  fun e => h (Option.some.inj e)

theorem parseX_cons (e : XE) (t : Tok) (r : List Tok) (h1 : t ≠ .star) (h2 : t ≠ .lparen) :
    parseX (printX e :: t :: r) = .ok (e, t :: r) :=
  parseX_print e _ (head_cons_ne h1) (head_cons_ne h2)

theorem alias_head (sty : Style) (a : Option Nat) (Y : List Tok) {t : Tok} (ht : t = .star ∨ t = .lparen)
    (h : Y.head? ≠ some t) : (printAlias sty a ++ Y).head? ≠ some t := by
  cases a with
  | none => exact h
  | some n =>
    show ((if sty.useAs then [Tok.asKw, Tok.ident n] else [Tok.ident n]) ++ Y).head? ≠ _
    rcases ht with rfl | rfl <;> split <;> exact head_cons_ne nofun

/-! `printTail sty tail ++ X`, clause by clause from the right: each suffix starts with its own keyword or with
  what a later suffix starts with. -/

theorem stops_opt {k : Nat} {Y : List Tok} (kw : Tok) (o : Option XE) (hk : k ≤ lvl kw) (hY : StopsFrom k Y) :
    StopsFrom k (printOpt kw o ++ Y) := by
  cases o with
  | none => exact hY
  | some e => exact hk

section
variable (sty : Style) (grp : List XE) (hav : Option XE) (ord : List OItem) (lim off : Option XE) (X : List Tok)

def tailL : List Tok := printOpt .limit lim ++ (printOpt .offset off ++ X)
def tailO : List Tok := (if ord = [] then [] else .order :: .byKw :: printOItems sty ord) ++ tailL lim off X
def tailH : List Tok := printOpt .having hav ++ tailO sty ord lim off X
def tailG : List Tok := (if grp = [] then [] else .group :: .byKw :: printXs grp) ++ tailH sty hav ord lim off X

theorem printTail_eq (whr : Option XE) :
    printTail sty ⟨whr, grp, hav, ord, lim, off⟩ ++ X = printOpt .whereKw whr ++ tailG sty grp hav ord lim off X := by
  simp only [printTail, tailG, tailH, tailO, tailL, List.append_assoc]

variable {X} (hX : StopsFrom 7 X)
include hX

theorem stops_L : StopsFrom 5 (tailL lim off X) :=
  stops_opt _ _ (by decide) (stops_opt _ _ (by decide) (hX.mono (by decide)))

theorem stops_O : StopsFrom 4 (tailO sty ord lim off X) := by
  unfold tailO
  split
  · exact (stops_L lim off hX).mono (by decide)
  · exact (by decide : 4 ≤ lvl .order)

theorem stops_H : StopsFrom 3 (tailH sty hav ord lim off X) :=
  stops_opt _ _ (by decide) ((stops_O sty ord lim off hX).mono (by decide))

theorem stops_G : StopsFrom 2 (tailG sty grp hav ord lim off X) := by
  unfold tailG
  split
  · exact (stops_H sty hav ord lim off hX).mono (by decide)
  · exact (by decide : 2 ≤ lvl .group)

theorem tail_stops (tail : Tail) : StopsFrom 1 (printTail sty tail ++ X) := by
  obtain ⟨whr, grp, hav, ord, lim, off⟩ := tail
  rw [printTail_eq]
  exact stops_opt _ _ (by decide) ((stops_G sty grp hav ord lim off hX).mono (by decide))

variable {grp hav ord lim off} {h : Head} {whr : Option XE} {S : List Frame}

theorem offsetC_print : offsetC h whr grp hav S ord lim (printOpt .offset off ++ X)
    = ⟨.bodyRet (.mk h.distinct h.items h.src ⟨whr, grp, hav, ord, lim, off⟩), S, X⟩ := by
  cases off with
  | none => exact if_neg (hX.head_ne (by decide))
  | some o =>
    show orHalt (parseX (printX o :: X)) _ = _
    rw [parseX_print o X (hX.head_ne (by decide)) (hX.head_ne (by decide))]
    rfl

theorem limitOffset_print : limitOffset h whr grp hav ord S (tailL lim off X)
    = ⟨.bodyRet (.mk h.distinct h.items h.src ⟨whr, grp, hav, ord, lim, off⟩), S, X⟩ := by
  have hs : StopsFrom 6 (printOpt .offset off ++ X) := stops_opt _ _ (by decide) (hX.mono (by decide))
  rw [limitOffset_eq]
  cases lim with
  | none =>
    have : (tailL none off X).head? ≠ some .limit := hs.head_ne (by decide)
    rw [if_neg this]
    exact offsetC_print hX
  | some l =>
    show orHalt (parseX (printX l :: (printOpt .offset off ++ X))) _ = _
    rw [parseX_print l _ (hs.head_ne (by decide)) (hs.head_ne (by decide))]
    exact offsetC_print hX

end

def dirToks (sty : Style) (d : Bool) : List Tok := if d then [.desc] else if sty.ascKw then [.asc] else []

def nullsToks : Option Bool → List Tok
  | none => []
  | some true => [.nulls, .first]
  | some false => [.nulls, .last]

theorem printOItem_eq (sty : Style) (o : OItem) :
    printOItem sty o = printX o.e :: (dirToks sty o.desc ++ nullsToks o.nulls) := rfl

theorem orderDir_print (sty : Style) (d : Bool) (Z : List Tok) (z1 : Z.head? ≠ some .desc) (z2 : Z.head? ≠ some .asc) :
    orderDir (dirToks sty d ++ Z) = (d, Z) := by
  unfold dirToks
  cases d with
  | true => rfl
  | false =>
    cases sty.ascKw with
    | true => rfl
    | false => exact (if_neg z1).trans (if_neg z2)

theorem orderNulls_print (h : Head) (whr : Option XE) (grp : List XE) (hav : Option XE) (S : List Frame)
    (acc : List OItem) (e : XE) (d : Bool) (nl : Option Bool) (Y : List Tok) (y : Y.head? ≠ some .nulls) :
    orderNulls h whr grp hav S acc e d (nullsToks nl ++ Y) = orderFin h whr grp hav S acc ⟨e, d, nl⟩ Y := by
  match nl with
  | none => exact if_neg y
  | some true => rfl
  | some false => rfl

theorem nulls_head (nl : Option Bool) (Y : List Tok) {t : Tok} (hY : Y.head? ≠ some t) (ht : t ≠ .nulls) :
    (nullsToks nl ++ Y).head? ≠ some t := by
  match nl with
  | none => exact hY
  | some true => exact head_cons_ne (Ne.symm ht)
  | some false => exact head_cons_ne (Ne.symm ht)

theorem dir_nulls_head (sty : Style) (d : Bool) (nl : Option Bool) (Y : List Tok) {t : Tok}
    (hY : Y.head? ≠ some t) (h1 : t ≠ .desc) (h2 : t ≠ .asc) (h3 : t ≠ .nulls) :
    (dirToks sty d ++ (nullsToks nl ++ Y)).head? ≠ some t := by
  unfold dirToks
  cases d with
  | true => exact head_cons_ne (Ne.symm h1)
  | false =>
    cases sty.ascKw with
    | true => exact head_cons_ne (Ne.symm h2)
    | false => exact nulls_head nl Y hY h3

theorem orderItem_step (sty : Style) (h : Head) (whr : Option XE) (grp : List XE) (hav : Option XE)
    (acc : List OItem) (o : OItem) (S : List Frame) (Y : List Tok)
    (y1 : Y.head? ≠ some .desc) (y2 : Y.head? ≠ some .asc) (y3 : Y.head? ≠ some .nulls)
    (y4 : Y.head? ≠ some .star) (y5 : Y.head? ≠ some .lparen) :
    step ⟨.orderL h whr grp hav acc, S, printOItem sty o ++ Y⟩ = orderFin h whr grp hav S acc o Y := by
  obtain ⟨e, d, nl⟩ := o
  rw [step_orderL, printOItem_eq, List.cons_append, List.append_assoc,
    parseX_print e _ (dir_nulls_head sty d nl Y y4 (by decide) (by decide) (by decide)) (dir_nulls_head sty d nl Y y5 (by decide) (by decide) (by decide))]
  show orderNulls h whr grp hav S acc e (orderDir _).1 (orderDir _).2 = _
  rw [orderDir_print sty d _ (nulls_head nl Y y1 (by decide)) (nulls_head nl Y y2 (by decide))]
  exact orderNulls_print h whr grp hav S acc e d nl Y y3

theorem order_reach (sty : Style) (h : Head) (whr : Option XE) (grp : List XE) (hav : Option XE)
    (S : List Frame) : ∀ (ord : List OItem), ord ≠ [] → ∀ (acc : List OItem) (Y : List Tok), Safe Y →
    Reach ⟨.orderL h whr grp hav acc, S, printOItems sty ord ++ Y⟩ (limitOffset h whr grp hav (acc ++ ord) S Y)
  | [], hne, _, _, _ => absurd rfl hne
  | [o], _, acc, Y, hY => by
      refine Reach.one ?_
      rw [printOItems, orderItem_step sty h whr grp hav acc o S Y hY.ne hY.ne hY.ne hY.ne hY.ne]
      exact if_neg hY.ne
  | o :: o2 :: rest, _, acc, Y, hY => by
      have ih := order_reach sty h whr grp hav S (o2 :: rest) (List.cons_ne_nil _ _) (acc ++ [o]) Y hY
      rw [List.append_assoc] at ih
      refine Reach.head ?_ ih
      show step ⟨_, S, (printOItem sty o ++ Tok.comma :: printOItems sty (o2 :: rest)) ++ Y⟩ = _
      rw [List.append_assoc, List.cons_append,
        orderItem_step sty h whr grp hav acc o S _ (head_cons_ne (by decide)) (head_cons_ne (by decide))
          (head_cons_ne (by decide)) (head_cons_ne (by decide)) (head_cons_ne (by decide))]
      rfl

theorem group_reach (h : Head) (whr : Option XE) (S : List Frame) :
    ∀ (grp : List XE), grp ≠ [] → ∀ (acc : List XE) (Y : List Tok), Safe Y →
    Reach ⟨.groupL h whr acc, S, printXs grp ++ Y⟩ (havingC h whr (acc ++ grp) S Y)
  | [], hne, _, _, _ => absurd rfl hne
  | [e], _, acc, Y, hY => by
      refine Reach.one ?_
      rw [printXs, List.cons_append, List.nil_append, step_groupL, parseX_print e Y hY.ne hY.ne]
      exact if_neg hY.ne
  | e :: e2 :: rest, _, acc, Y, hY => by
      have ih := group_reach h whr S (e2 :: rest) (List.cons_ne_nil _ _) (acc ++ [e]) Y hY
      rw [List.append_assoc] at ih
      refine Reach.head ?_ ih
      show step ⟨_, S, printX e :: Tok.comma :: (printXs (e2 :: rest) ++ Y)⟩ = _
      rw [step_groupL, parseX_cons e _ _ (by decide) (by decide)]
      rfl

section
variable {sty : Style} {h : Head} {whr : Option XE} {grp : List XE} {S : List Frame} {hav : Option XE}
  {ord : List OItem} {lim off : Option XE} {X : List Tok} (hX : StopsFrom 7 X)
include hX

theorem orderBy_print : Reach (orderBy h whr grp hav S (tailO sty ord lim off X))
    ⟨.bodyRet (.mk h.distinct h.items h.src ⟨whr, grp, hav, ord, lim, off⟩), S, X⟩ := by
  by_cases ho : ord = []
  · subst ho
    show Reach (orderBy h whr grp hav S (tailL lim off X)) _
    rw [orderBy, if_neg ((stops_L lim off hX).head_ne (by decide)), limitOffset_print hX]
    exact Reach.refl _
  · have := order_reach sty h whr grp hav S ord ho [] _ ((stops_L lim off hX).mono (by decide)).safe
    rw [List.nil_append, limitOffset_print hX] at this
    rw [tailO, if_neg ho]
    exact this

theorem havingC_print : Reach (havingC h whr grp S (tailH sty hav ord lim off X))
    ⟨.bodyRet (.mk h.distinct h.items h.src ⟨whr, grp, hav, ord, lim, off⟩), S, X⟩ := by
  have hs := stops_O sty ord lim off hX
  cases hav with
  | none =>
    show Reach (havingC h whr grp S (tailO sty ord lim off X)) _
    rw [havingC, if_neg (hs.head_ne (by decide))]
    exact orderBy_print hX
  | some e =>
    show Reach (orHalt (parseX (printX e :: tailO sty ord lim off X)) _) _
    rw [parseX_print e _ (hs.head_ne (by decide)) (hs.head_ne (by decide))]
    exact orderBy_print hX

theorem groupBy_print : Reach (groupBy h whr S (tailG sty grp hav ord lim off X))
    ⟨.bodyRet (.mk h.distinct h.items h.src ⟨whr, grp, hav, ord, lim, off⟩), S, X⟩ := by
  have hs := stops_H sty hav ord lim off hX
  by_cases hg : grp = []
  · subst hg
    show Reach (groupBy h whr S (tailH sty hav ord lim off X)) _
    rw [groupBy, if_neg (hs.head_ne (by decide))]
    exact havingC_print hX
  · have := group_reach h whr S grp hg [] _ (hs.mono (by decide)).safe
    rw [List.nil_append] at this
    rw [tailG, if_neg hg]
    exact this.trans (havingC_print hX)

theorem tail_reach {tail : Tail} :
    Reach (whereC h S (printTail sty tail ++ X)) ⟨.bodyRet (.mk h.distinct h.items h.src tail), S, X⟩ := by
  obtain ⟨whr, grp, hav, ord, lim, off⟩ := tail
  have hs := stops_G sty grp hav ord lim off hX
  rw [printTail_eq]
  cases whr with
  | none =>
    show Reach (whereC h S (tailG sty grp hav ord lim off X)) _
    rw [whereC, if_neg (hs.head_ne (by decide))]
    exact groupBy_print hX
  | some e =>
    show Reach (orHalt (parseX (printX e :: tailG sty grp hav ord lim off X)) _) _
    rw [parseX_print e _ (hs.head_ne (by decide)) (hs.head_ne (by decide))]
    exact groupBy_print hX

end

theorem item_step (sty : Style) (d : Bool) (acc : List Item) (it : Item) (S : List Frame) (Z : List Tok)
    (z1 : Z.head? ≠ some .star) (z2 : Z.head? ≠ some .lparen) (z3 : Z.head? ≠ some .asKw)
    (z4 : ∀ n, Z.head? ≠ some (.ident n)) :
    step ⟨.items d acc, S, printItem sty it ++ Z⟩
      = (if Z.head? = some .comma then ⟨.items d (acc ++ [it]), S, Z.tail⟩ else afterItems d (acc ++ [it]) S Z) := by
  obtain ⟨e, a⟩ := it
  rw [step_items, printItem, List.cons_append,
    parseX_print e _ (alias_head sty a Z (Or.inl rfl) z1) (alias_head sty a Z (Or.inr rfl) z2)]
  show orHalt (parseAlias (printAlias sty a ++ Z)) _ = _
  rw [parseAlias_print sty a Z z3 z4]
  rfl

theorem items_reach (sty : Style) (d : Bool) (S : List Frame) :
    ∀ (items : List Item), items ≠ [] → ∀ (acc : List Item) (Y : List Tok),
    Y.head? ≠ some .star → Y.head? ≠ some .lparen → Y.head? ≠ some .asKw → (∀ n, Y.head? ≠ some (.ident n)) →
    Y.head? ≠ some .comma →
    Reach ⟨.items d acc, S, printItems sty items ++ Y⟩ (afterItems d (acc ++ items) S Y)
  | [], hne, _, _, _, _, _, _, _ => absurd rfl hne
  | [it], _, acc, Y, y1, y2, y3, y4, y5 => by
      refine Reach.one ?_
      rw [printItems, item_step sty d acc it S Y y1 y2 y3 y4]
      exact if_neg y5
  | it :: it2 :: rest, _, acc, Y, y1, y2, y3, y4, y5 => by
      have ih := items_reach sty d S (it2 :: rest) (List.cons_ne_nil _ _) (acc ++ [it]) Y y1 y2 y3 y4 y5
      rw [List.append_assoc] at ih
      refine Reach.head ?_ ih
      show step ⟨_, S, (printItem sty it ++ Tok.comma :: printItems sty (it2 :: rest)) ++ Y⟩ = _
      rw [List.append_assoc, List.cons_append, item_step sty d acc it S _ (head_cons_ne (by decide)) (head_cons_ne (by decide))
        (head_cons_ne (by decide)) (fun n => head_cons_ne (by exact nofun))]
      rfl

theorem using_reach (d : Bool) (its : List Item) (t0 : TRef) (jacc : JL) (k : JK) (t : TRef) (c : Nat)
    (S : List Frame) (Y : List Tok) : ∀ (cols acc : List Nat),
    Reach ⟨.usingL d its t0 jacc k t c acc, S, printIdents cols ++ .rparen :: Y⟩
      ⟨.joins d its t0 (jacc.snoc k t (.usingC c (acc ++ cols))), S, Y⟩
  | [], acc => by rw [List.append_nil]; exact Reach.one rfl
  | n :: rest, acc => by
      have ih := using_reach d its t0 jacc k t c S Y rest (acc ++ [n])
      rw [List.append_assoc] at ih
      exact Reach.head rfl ih

theorem joinKind_print (sty : Style) (k : JK) (Z : List Tok) : joinKind (printJK sty k ++ Z) = .ok (some (k, Z)) := by
  obtain ⟨_, _, ik, ok, _⟩ := sty
  cases k <;> cases ik <;> cases ok <;> rfl

theorem joinKind_stops {Y : List Tok} (h : StopsFrom 1 Y) : joinKind Y = .ok none := by
  rw [joinKind_eq]
  split
  · rfl
  · split <;> first | rfl | exact absurd h (Nat.not_succ_le_zero 0)

theorem jk_safe (sty : Style) (k : JK) (Z : List Tok) : Safe (printJK sty k ++ Z) := by
  obtain ⟨_, _, ik, ok, _⟩ := sty
  intro t e
  cases k <;> cases ik <;> cases ok <;> cases Option.some.inj e <;> rfl

theorem JL.snoc_append : ∀ (a : JL) (k : JK) (t : TRef) (c : JCond) (l : JL),
    (a.snoc k t c).append l = a.append (.cons k t c l)
  | .nil, _, _, _, _ => rfl
  | .cons k0 t0 c0 a, k, t, c, l => by simp only [JL.snoc, JL.append, JL.snoc_append a k t c l]

theorem JL.append_nil : ∀ a : JL, a.append .nil = a
  | .nil => rfl
  | .cons k t c a => by simp only [JL.append, JL.append_nil a]

def KQProp (sty : Style) (q : Q) : Prop :=
  ∀ (S : List Frame) (X : List Tok), StopsFrom 7 X → q.WF → S.length + q.sdepth ≤ MAX_SELECT_DEPTH →
    Reach ⟨.body, S, printQ sty q ++ X⟩ ⟨.bodyRet q, S, X⟩

def KTProp (sty : Style) (t : TRef) : Prop :=
  ∀ (fr : Frame) (S : List Frame) (Y : List Tok), Y.head? ≠ some .asKw → (∀ n, Y.head? ≠ some (.ident n)) →
    t.WF → S.length + 1 + t.sdepth ≤ MAX_SELECT_DEPTH →
    Reach ⟨.tref fr, S, printT sty t ++ Y⟩ (afterTref fr t S Y)

def KJProp (sty : Style) (jl : JL) : Prop :=
  ∀ (d : Bool) (its : List Item) (t0 : TRef) (acc : JL) (S : List Frame) (tail : Tail) (X : List Tok),
    StopsFrom 7 X → jl.WF → S.length + 1 + jl.sdepth ≤ MAX_SELECT_DEPTH →
    Reach ⟨.joins d its t0 acc, S, printJL sty jl ++ (printTail sty tail ++ X)⟩
      ⟨.bodyRet (.mk d its (.from t0 (acc.append jl)) tail), S, X⟩

theorem jl_safe (sty : Style) (jl : JL) (Y : List Tok) (hY : Safe Y) : Safe (printJL sty jl ++ Y) := by
  cases jl with
  | nil => exact hY
  | cons k t c rest => rw [printJL, List.append_assoc]; exact jk_safe sty k _

theorem body_step (sty : Style) (d : Bool) (S : List Frame) (e : XE) (Z : List Tok) (hd : S.length + 1 ≤ MAX_SELECT_DEPTH) :
    step ⟨.body, S, (if d then [.distinct] else if sty.useAll then [.all] else []) ++ printX e :: Z⟩
      = ⟨.items d [], S, printX e :: Z⟩ := by
  rw [step_body, if_neg (Nat.not_lt_of_le hd)]
  cases d with
  | true => rfl
  | false =>
    cases sty.useAll with
    | true => rfl
    | false => cases e <;> rfl

theorem items_head (sty : Style) (items : List Item) (hne : items ≠ []) (Y : List Tok) :
    ∃ e r, printItems sty items ++ Y = printX e :: r := by
  match items, hne with
  | [it], _ => exact ⟨it.e, _, rfl⟩
  | it :: it2 :: rest, _ => exact ⟨it.e, _, rfl⟩

theorem head_reach (sty : Style) (d : Bool) (items : List Item) (hne : items ≠ []) (S : List Frame) (Y : List Tok)
    (hd : S.length + 1 ≤ MAX_SELECT_DEPTH) (y1 : Y.head? ≠ some .star) (y2 : Y.head? ≠ some .lparen)
    (y3 : Y.head? ≠ some .asKw) (y4 : ∀ n, Y.head? ≠ some (.ident n)) (y5 : Y.head? ≠ some .comma) :
    Reach ⟨.body, S, (if d then [.distinct] else if sty.useAll then [.all] else []) ++ (printItems sty items ++ Y)⟩
      (afterItems d items S Y) := by
  obtain ⟨e, r, he⟩ := items_head sty items hne Y
  have h2 := items_reach sty d S items hne [] Y y1 y2 y3 y4 y5
  rw [he] at h2 ⊢
  exact Reach.head (body_step sty d S e r hd) h2

theorem depth_parts {a x y m : Nat} (h : a + (1 + max x y) ≤ m) : a + 1 ≤ m ∧ a + 1 + x ≤ m ∧ a + 1 + y ≤ m := by
  omega

mutual
theorem KQ (sty : Style) : ∀ q : Q, KQProp sty q
  | .mk d items .none tail => by
      intro S X hX hwf hd
      have hts := tail_stops sty hX tail
      have h1 := head_reach sty d items hwf.1 S _ hd (hts.head_ne (by decide)) (hts.head_ne (by decide))
        (hts.head_ne (by decide)) (fun n => hts.head_ne Nat.zero_lt_one) (hts.head_ne (by decide))
      rw [afterItems, if_neg (hts.head_ne (by decide))] at h1
      simp only [printQ, printSrc, List.nil_append, List.append_assoc]
      exact h1.trans (tail_reach hX)
  | .mk d items (.from t joins) tail => by
      intro S X hX hwf hd
      obtain ⟨hd1, hd2, hd3⟩ := depth_parts (x := t.sdepth) (y := joins.sdepth) hd
      have h1 := head_reach sty d items hwf.1 S
        (Tok.from :: (printT sty t ++ (printJL sty joins ++ (printTail sty tail ++ X)))) hd1
        (head_cons_ne (by decide)) (head_cons_ne (by decide)) (head_cons_ne (by decide))
        (fun n => head_cons_ne (by exact nofun)) (head_cons_ne (by decide))
      have hs := jl_safe sty joins _ (tail_stops sty hX tail).safe
      have h3 := KT sty t ⟨d, items, .fromT⟩ S (printJL sty joins ++ (printTail sty tail ++ X))
        hs.ne (fun n => hs.ne) hwf.2.1 hd2
      have h4 := KJ sty joins d items t .nil S tail X hX hwf.2.2 hd3
      simp only [printQ, printSrc, List.cons_append, List.append_assoc]
      exact h1.trans (h3.trans h4)
theorem KT (sty : Style) : ∀ t : TRef, KTProp sty t
  | .tbl n a => by
      intro fr S Y y1 y2 _ _
      refine Reach.one ?_
      show orHalt (parseAlias (printAlias sty a ++ Y)) _ = _
      rw [parseAlias_print sty a Y y1 y2]
      rfl
  | .sub q a => by
      intro fr S Y y1 y2 hwf hd
      have hd : S.length + 1 + q.sdepth ≤ MAX_SELECT_DEPTH := hd
      have h2 := KQ sty q (fr :: S) (Tok.rparen :: (printAlias sty a ++ Y)) (by decide : 7 ≤ lvl .rparen) hwf hd
      have h3 : step ⟨.bodyRet q, fr :: S, Tok.rparen :: (printAlias sty a ++ Y)⟩ = afterTref fr (.sub q a) S Y := by
        show orHalt (parseAlias (printAlias sty a ++ Y)) _ = _
        rw [parseAlias_print sty a Y y1 y2]
        rfl
      rw [printT, List.cons_append, List.cons_append, List.append_assoc]
      exact Reach.head rfl (h2.trans (Reach.one h3))
theorem KJ (sty : Style) : ∀ jl : JL, KJProp sty jl
  | .nil => by
      intro d its t0 acc S tail X hX _ _
      have h1 : step ⟨.joins d its t0 acc, S, printTail sty tail ++ X⟩ = whereC ⟨d, its, .from t0 acc⟩ S (printTail sty tail ++ X) := by
        rw [step_joins, joinKind_stops (tail_stops sty hX tail)]; rfl
      rw [JL.append_nil]
      exact Reach.head h1 (tail_reach hX)
  | .cons k t c rest => by
      intro d its t0 acc S tail X hX hwf hd
      have hd : S.length + 1 + max t.sdepth rest.sdepth ≤ MAX_SELECT_DEPTH := hd
      have hs := jl_safe sty rest _ (tail_stops sty hX tail).safe
      have hrest := KJ sty rest d its t0 (acc.snoc k t c) S tail X hX hwf.2
        (Nat.le_trans (Nat.add_le_add_left (Nat.le_max_right ..) _) hd)
      rw [JL.snoc_append] at hrest
      have hT := fun Y y1 y2 => KT sty t ⟨d, its, .joinT t0 acc k⟩ S Y y1 y2 hwf.1
        (Nat.le_trans (Nat.add_le_add_left (Nat.le_max_left ..) _) hd)
      simp only [printJL, List.append_assoc]
      refine Reach.head (b := ⟨.tref ⟨d, its, .joinT t0 acc k⟩, S, _⟩) (by rw [step_joins, joinKind_print]; rfl) ?_
      generalize printJL sty rest ++ (printTail sty tail ++ X) = R at hs hrest ⊢
      cases c with
      | none =>
        refine (hT _ hs.ne (fun n => hs.ne)).trans ?_
        rw [afterTref_joinT, if_neg (hs.ne (t := .on)), if_neg (hs.ne (t := .using))]
        exact hrest
      | on e =>
        refine (hT (Tok.on :: printX e :: R) (head_cons_ne (by decide)) (fun n => head_cons_ne (by exact nofun))).trans ?_
        show Reach (orHalt (parseX (printX e :: R)) _) _
        rw [parseX_print e _ hs.ne hs.ne]
        exact hrest
      | usingC c0 cols =>
        simp only [printCond, List.cons_append, List.append_assoc, List.nil_append]
        exact (hT _ (head_cons_ne (by decide)) (fun n => head_cons_ne (by exact nofun))).trans
          ((using_reach d its t0 acc k t c0 S R cols []).trans hrest)
end

end Neumann.Parse.Clause
