import NeumannModel.Parse.FullRound
import NeumannModel.Parse.FullTotal
import NeumannModel.Parse.FullDeep
import NeumannModel.Parse.FullFits
/-
  C15 — property theorems for the COMPLETE expression grammar model (`Parse/Full.lean`): the Pratt
  loop together with the postfix level (`IS [NOT] NULL`, `[NOT] IN (…)`, `[NOT] BETWEEN … AND …`,
  `[NOT] LIKE …`, `a.b`, `a.*`) and every primary (calls, aggregates, `DISTINCT`, tuples, arrays,
  `CASE`, contextual keywords) — level 11 of the documented precedence table and everything the
  older `Props.lean` treats as an opaque atom.  `parse Mode.expr` is `neumann_parser::parse_expr`
  (`expr.rs`), `parse Mode.stmt` an expression position of the statement parser (`parser.rs`).
  ONLY property statements and their non-vacuity examples live here.

  All statements are for ALL expression trees / token lists and BOTH copies of the code; the only
  hypothesis is the depth limit the code itself imposes.
-/
namespace Neumann.Parse.Full.Props
open Neumann.Parse (MAX_DEPTH)

/-- Totality / fuel adequacy: `4·|ts| + 3` machine steps always finish the run — every token list
    yields a tree, a genuine parse error, or (statement mode only) `outside`. -/
theorem full_total (mode : Mode) (ts : List Tok) : parse mode ts ≠ .error .fuel :=
  fun h => (h ▸ parse_posOk mode ts : Res.posOk ts.length (.error .fuel))

/-- Determinism beyond "it is a function": the answer does not depend on how many steps (≥ the
    adequate number) the machine is given. -/
theorem full_fuel_independent (mode : Mode) (ts : List Tok) (f : Nat) (h : fuelFor ts ≤ f) :
    parseWith mode f ts = parse mode ts := by
  unfold parse parseWith
  rw [run_done_unique mode (run_reaches_done mode f (init ts) (Nat.lt_of_lt_of_le (mu_init ts) h))
    (run_finished mode ts)]

/-- An error carries a position inside the input: `TooDeep`, "unexpected token" and the three
    `InvalidSyntax` errors point at one of the `|ts|` tokens or at the end of input (`rem` tokens
    from the end, `rem ≤ |ts|`; "unexpected token" always at a token, `1 ≤ rem`). -/
theorem full_error_position_in_input (mode : Mode) (ts : List Tok) (e : Err)
    (h : parse mode ts = .error e) : e.posOk ts.length :=
  (h ▸ parse_posOk mode ts : Res.posOk ts.length (.error e))

example : parse .expr [.ident 1, .dot, .lit 2] = .error (.unexpected .identifier 1) := by decide +kernel
example : parse .expr [.lit 1, .op .add, .lparen, .lit 2, .rparen, .dot, .op .mul]
    = .error (.invalid .qualWild 5) := by decide +kernel
example : parse .expr [.caseKw, .ident 1, .endKw] = .error (.invalid .caseNoWhen 1) := by decide +kernel

/-- No stack exhaustion: at every moment of every run, on whatever input, at most `MAX_DEPTH = 64`
    `parse_expr_bp` frames are active (the machine's stack IS the recursion of the Rust code: one
    entry per active frame). -/
theorem full_depth_bounded (mode : Mode) (ts : List Tok) (k : Nat) :
    (run mode k (init ts)).stk.length ≤ MAX_DEPTH :=
  (run_inv mode k _ (inv_init ts)).2.2.1

/-- ROUND TRIP for the complete expression grammar and every parenthesisation policy: print `e`
    with the parentheses the binding powers and the postfix rules require plus arbitrary redundant
    ones (`extra`), and the parser — either copy — returns exactly `e`, provided the print needs at
    most `MAX_DEPTH` nested frames (the limit the code imposes).  In particular a postfix form
    binds tighter than every prefix and binary operator, a BETWEEN bound / LIKE pattern extends
    over prefix operators and postfix forms only, `NOT` before IN / BETWEEN / LIKE negates the
    postfix form and is a prefix operator everywhere else, and the `AND` of a BETWEEN is not the
    conjunction. -/
theorem full_round_trip (mode : Mode) (extra : E → Bool) (e : E)
    (h : framesWith extra e ≤ MAX_DEPTH) : parse mode (printWith extra e) = .ok e := by
  have hk := (print_goes mode extra e).1 h
  refine parse_of_reach (hk.trans (Reach.head (loop_stops (headStops_nil 0)) (Reach.one ?_)))
  cases mode <;> rfl

/-- The depth hypothesis is exact: a print that needs more than `MAX_DEPTH` nested frames is
    rejected with `TooDeep` — never mis-parsed, never another error — whichever construct the
    nesting goes through (parentheses, prefix operators, right operands, BETWEEN bounds, LIKE
    patterns, argument / array / tuple / IN lists, CASE parts, in any mixture). -/
theorem full_too_deep (mode : Mode) (extra : E → Bool) (e : E) (h : MAX_DEPTH < framesWith extra e) :
    ∃ k, parse mode (printWith extra e) = .error (.tooDeep k) := by
  obtain ⟨k, hk⟩ := (print_goes mode extra e).2 h
  exact ⟨k, parse_of_reach hk⟩

/-- …so the round trip holds exactly when the print fits the depth limit. -/
theorem full_round_trip_iff (mode : Mode) (extra : E → Bool) (e : E) :
    parse mode (printWith extra e) = .ok e ↔ framesWith extra e ≤ MAX_DEPTH := by
  constructor
  · intro h
    apply Nat.le_of_not_lt
    intro hlt
    obtain ⟨k, hk⟩ := full_too_deep mode extra e hlt
    rw [hk] at h
    cases h
  · exact full_round_trip mode extra e

/-- Precedence / associativity / postfix correctness: minimal parenthesisation parses back. -/
theorem full_printMin (mode : Mode) (e : E) (h : framesMin e ≤ MAX_DEPTH) :
    parse mode (printMin e) = .ok e :=
  full_round_trip mode _ e h

/-- Parenthesising an expression the way the rules dictate — or more — never changes its parse:
    every print that fits the depth limit parses exactly as the minimal print does. -/
theorem full_paren_invariance (mode : Mode) (extra : E → Bool) (e : E) (h : framesWith extra e ≤ MAX_DEPTH) :
    parse mode (printWith extra e) = parse mode (printMin e) := by
  rw [full_round_trip mode extra e h]
  exact (full_printMin mode e (Nat.le_trans (frames_min_le extra e) h)).symm

/-- Whatever text was accepted, the tree it produced fits the depth limit when printed minimally:
    redundant parentheses only ever cost depth, they never buy any — for every construct of the
    grammar (an invariant of the run bounds the frames the minimal print of every partial tree
    needs by the frames actually active). -/
theorem full_ok_fits_depth (mode : Mode) (ts : List Tok) (e : E) (h : parse mode ts = .ok e) :
    framesMin e ≤ MAX_DEPTH := by
  have hinv := (run_dinv mode (fuelFor ts) _ (dinv_init ts)).2
  unfold CtlInv at hinv
  rw [parse_done, h] at hinv
  exact hinv

/-- NORMAL FORM: every accepted token list means the same as the minimal print of its own parse —
    `parse ∘ printMin ∘ parse = parse`.  Together with `full_round_trip` this says that two texts
    with the same tree are interchangeable and that the tree is the meaning: query text means one
    thing. -/
theorem full_normal_form (mode : Mode) (ts : List Tok) (e : E) (h : parse mode ts = .ok e) :
    parse mode (printMin e) = .ok e :=
  full_printMin mode e (full_ok_fits_depth mode ts e h)

-- redundant parentheses, `!`, a parenthesised subject: canonical text out, same tree
example : parse .expr [.lparen, .lparen, .ident 1, .rparen, .isKw, .null, .rparen, .op .and, .bang, .lparen, .lit 3, .rparen]
    = .ok (.bin (.isNull (.ident 1) false) .and (.un .not (.lit 3))) := by decide +kernel
example : printMin (.bin (.isNull (.ident 1) false) .and (.un .not (.lit 3)))
    = [.ident 1, .isKw, .null, .op .and, .notKw, .lit 3] := by decide +kernel

/-- The two copies of the expression grammar (`expr.rs` and `parser.rs`) group every printed
    expression the same way. -/
theorem full_copies_agree (extra : E → Bool) (e : E) (h : framesWith extra e ≤ MAX_DEPTH) :
    parse .expr (printWith extra e) = parse .stmt (printWith extra e) := by
  rw [full_round_trip .expr extra e h, full_round_trip .stmt extra e h]

/-- a concrete non-trivial instance:
    `NOT c1 NOT BETWEEN - f2(DISTINCT 3, [4]) AND (5 + 6) IS NULL OR CASE WHEN status.* THEN (7, 8) END . c9 LIKE ~ 10 * 11` -/
def sample : E :=
  .bin
    (.un .not (.between (.ident 1) true
      (.un .neg (.call (.fn 2) true (.cons (.lit 3) (.cons (.array (.cons (.lit 4) .nil)) .nil))))
      (.isNull (.bin (.lit 5) .add (.lit 6)) false)))
    .or
    (.bin
      (.like (.qual (.case .none (.qualWild true 0) (.tuple (.lit 7) (.lit 8) .nil) .nil .none) 9) false
        (.un .bitNot (.lit 10)))
      .mul (.lit 11))

example : printMin sample =
    [.notKw, .ident 1, .notKw, .betweenKw, .op .sub, .ident 2, .lparen, .distinctKw, .lit 3, .comma,
     .lbracket, .lit 4, .rbracket, .rparen, .op .and, .lparen, .lit 5, .op .add, .lit 6, .rparen, .isKw, .null,
     .op .or, .caseKw, .whenKw, .kw 0, .dot, .op .mul, .thenKw, .lparen, .lit 7, .comma, .lit 8, .rparen, .endKw,
     .dot, .ident 9, .likeKw, .tilde, .lit 10, .op .mul, .lit 11] := by rfl
example : framesWith (fun _ => true) sample ≤ MAX_DEPTH := by decide +kernel
example : framesMin sample = 6 := by decide +kernel
example : printMin sample ≠ printFull sample := by decide +kernel
set_option maxRecDepth 20000 in
example : parse .expr (printMin sample) = .ok sample := by decide +kernel
set_option maxRecDepth 20000 in
example : parse .stmt (printAll sample) = .ok sample := by decide +kernel
-- 64 nested arrays need 65 frames: the hypothesis of `full_too_deep` is satisfiable, and the limit is
-- exact for a mixture of constructs (`[ f( CASE WHEN - … `)
def nestArr : Nat → E
  | 0 => .lit 0
  | n + 1 => .array (.cons (nestArr n) .nil)
set_option maxRecDepth 20000 in
example : MAX_DEPTH < framesMin (nestArr 64) := by decide +kernel
set_option maxRecDepth 20000 in
example : framesMin (nestArr 63) ≤ MAX_DEPTH := by decide +kernel
def nestMix : Nat → E
  | 0 => .lit 0
  | n + 1 => .array (.cons (.call (.fn 1) false (.cons
      (.case .none (.un .neg (nestMix n)) (.lit 2) .nil .none) .nil)) .nil)
set_option maxRecDepth 20000 in
example : framesMin (nestMix 16) = 65 ∧ framesMin (nestMix 15) = 61 := by decide +kernel

-- the postfix level in unparenthesised input: IS NULL attaches to the nearest operand, a BETWEEN
-- bound stops at `*`, NOT before LIKE negates the LIKE, NOT elsewhere is the prefix operator
example : parse .expr [.lit 1, .op .mul, .lit 2, .isKw, .notKw, .null] =
    .ok (.bin (.lit 1) .mul (.isNull (.lit 2) true)) := by decide +kernel
example : parse .expr [.ident 1, .betweenKw, .lit 1, .op .and, .lit 2, .op .mul, .lit 3, .op .and, .ident 2] =
    .ok (.bin (.bin (.between (.ident 1) false (.lit 1) (.lit 2)) .mul (.lit 3)) .and (.ident 2)) := by decide +kernel
example : parse .expr [.notKw, .ident 1, .notKw, .likeKw, .op .sub, .lit 2, .op .concat, .lit 3] =
    .ok (.bin (.un .not (.like (.ident 1) true (.un .neg (.lit 2)))) .concat (.lit 3)) := by decide +kernel
example : parse .expr [.op .sub, .ident 1, .dot, .ident 2, .isKw, .null] =
    .ok (.un .neg (.isNull (.qual (.ident 1) 2) false)) := by decide +kernel

end Neumann.Parse.Full.Props
