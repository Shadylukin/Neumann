import NeumannModel.Parse.Clause
/-
  C15 — helper lemmas for the clause-level grammar model of SELECT (`Parse/Clause.lean`): `step` control by
  control, and one sweep over the machine for totality (a measure) and for positions / select depth (an invariant).
-/
namespace Neumann.Parse.Clause

theorem step_done (r : Res Q) (S : List Frame) (ts : List Tok) : step ⟨.done r, S, ts⟩ = ⟨.done r, S, ts⟩ := rfl

theorem run_done (n : Nat) (r : Res Q) (S : List Frame) (ts : List Tok) :
    run n ⟨.done r, S, ts⟩ = ⟨.done r, S, ts⟩ := by
  induction n with
  | zero => rfl
  | succ n ih => simp only [run, step_done, ih]

theorem run_add (a b : Nat) (st : St) : run (a + b) st = run b (run a st) := by
  induction a generalizing st with
  | zero => simp [run]
  | succ a ih => rw [Nat.succ_add]; simp only [run]; exact ih _

def Reach (a b : St) : Prop := ∃ n, run n a = b

theorem Reach.refl (a : St) : Reach a a := ⟨0, rfl⟩
theorem Reach.trans {a b c : St} (h1 : Reach a b) (h2 : Reach b c) : Reach a c := by
  obtain ⟨n1, e1⟩ := h1
  obtain ⟨n2, e2⟩ := h2
  exact ⟨n1 + n2, by rw [run_add, e1, e2]⟩
theorem Reach.one {a b : St} (h : step a = b) : Reach a b := ⟨1, by simp [run, h]⟩
theorem Reach.head {a b c : St} (h : step a = b) (h2 : Reach b c) : Reach a c := (Reach.one h).trans h2

def isDone (st : St) : Prop := ∃ r, st.ctl = .done r

theorem run_isDone {st : St} (h : isDone st) (n : Nat) : run n st = st := by
  obtain ⟨ctl, S, ts⟩ := st
  obtain ⟨r, hr⟩ := h
  simp only at hr
  subst hr
  exact run_done n r S ts

theorem run_done_unique {st : St} {a b : Nat} (ha : isDone (run a st)) (hb : isDone (run b st)) :
    run a st = run b st := by
  have h1 : run (a + b) st = run a st := by rw [run_add, run_isDone ha]
  have h2 : run (a + b) st = run b st := by rw [Nat.add_comm, run_add, run_isDone hb]
  rw [← h1, h2]

/-! The continuations that `limitOffset`, `joinKind` and the ORDER BY arm of `step` bind with `let` get names
  here, so that lemmas can be stated about them. -/

section
variable (h : Head) (whr : Option XE) (grp : List XE) (hav : Option XE) (S : List Frame)

/-- `limitOffset` after LIMIT: `if self.eat(&Offset) { … }`, then the body returns -/
def offsetC (ord : List OItem) (lim : Option XE) (r : List Tok) : St :=
  if r.head? = some .offset then
    orHalt (parseX r.tail) fun p => ⟨.bodyRet (.mk h.distinct h.items h.src ⟨whr, grp, hav, ord, lim, some p.1⟩), S, p.2⟩
  else ⟨.bodyRet (.mk h.distinct h.items h.src ⟨whr, grp, hav, ord, lim, none⟩), S, r⟩

theorem limitOffset_eq (ord : List OItem) (ts : List Tok) : limitOffset h whr grp hav ord S ts =
    if ts.head? = some .limit then orHalt (parseX ts.tail) fun p => offsetC h whr grp hav S ord (some p.1) p.2
    else offsetC h whr grp hav S ord none ts := rfl

def orderFin (acc : List OItem) (o : OItem) (r : List Tok) : St :=
  if r.head? = some .comma then ⟨.orderL h whr grp hav (acc ++ [o]), S, r.tail⟩
  else limitOffset h whr grp hav (acc ++ [o]) S r

/-- `if eat(Nulls) { if eat(First) { First } else { expect(Last); Last } }` of an ORDER BY item -/
def orderNulls (acc : List OItem) (e : XE) (d : Bool) (r : List Tok) : St :=
  if r.head? = some .nulls then
    (if r.tail.head? = some .first then orderFin h whr grp hav S acc ⟨e, d, some true⟩ r.tail.tail
     else expect .last .last r.tail fun r' => orderFin h whr grp hav S acc ⟨e, d, some false⟩ r')
  else orderFin h whr grp hav S acc ⟨e, d, none⟩ r

end

/-- `if eat(Desc) { Desc } else { eat(Asc); Asc }` of an ORDER BY item -/
def orderDir (r : List Tok) : Bool × List Tok :=
  if r.head? = some .desc then (true, r.tail) else if r.head? = some .asc then (false, r.tail) else (false, r)

def afterItems (d : Bool) (acc : List Item) (S : List Frame) (Y : List Tok) : St :=
  if Y.head? = some .from then ⟨.tref ⟨d, acc, .fromT⟩, S, Y.tail⟩ else whereC ⟨d, acc, .none⟩ S Y

section
variable (S : List Frame) (ts : List Tok)

theorem step_body : step ⟨.body, S, ts⟩ =
    if S.length + 1 > MAX_SELECT_DEPTH then fail (.tooDeep ts.length) else
    if ts.head? = some .distinct then ⟨.items true [], S, ts.tail⟩
    else if ts.head? = some .all then ⟨.items false [], S, ts.tail⟩
    else ⟨.items false [], S, ts⟩ := rfl

theorem step_items (d : Bool) (acc : List Item) : step ⟨.items d acc, S, ts⟩ =
    orHalt (parseX ts) fun p => orHalt (parseAlias p.2) fun a =>
      if a.2.head? = some .comma then ⟨.items d (acc ++ [⟨p.1, a.1⟩]), S, a.2.tail⟩
      else afterItems d (acc ++ [⟨p.1, a.1⟩]) S a.2 := rfl

theorem step_tref (fr : Frame) : step ⟨.tref fr, S, ts⟩ =
    if ts.head? = some .lparen then expect .select .select ts.tail fun r => ⟨.body, fr :: S, r⟩
    else orHalt (expectIdent ts) fun p => orHalt (parseAlias p.2) fun a => afterTref fr (.tbl p.1 a.1) S a.2 := rfl

theorem step_usingL (d : Bool) (its : List Item) (t0 : TRef) (jacc : JL) (k : JK) (t : TRef) (c : Nat)
    (acc : List Nat) : step ⟨.usingL d its t0 jacc k t c acc, S, ts⟩ =
    if ts.head? = some .comma then
      orHalt (expectIdent ts.tail) fun p => ⟨.usingL d its t0 jacc k t c (acc ++ [p.1]), S, p.2⟩
    else expect .rparen .rparen ts fun r => ⟨.joins d its t0 (jacc.snoc k t (.usingC c acc)), S, r⟩ := rfl

theorem step_joins (d : Bool) (its : List Item) (t0 : TRef) (acc : JL) : step ⟨.joins d its t0 acc, S, ts⟩ =
    orHalt (joinKind ts) fun j =>
      match j with
      | some (k, r) => ⟨.tref ⟨d, its, .joinT t0 acc k⟩, S, r⟩
      | none => whereC ⟨d, its, .from t0 acc⟩ S ts := rfl

theorem step_groupL (h : Head) (whr : Option XE) (acc : List XE) : step ⟨.groupL h whr acc, S, ts⟩ =
    orHalt (parseX ts) fun p =>
      if p.2.head? = some .comma then ⟨.groupL h whr (acc ++ [p.1]), S, p.2.tail⟩
      else havingC h whr (acc ++ [p.1]) S p.2 := rfl

theorem step_orderL (h : Head) (whr : Option XE) (grp : List XE) (hav : Option XE) (acc : List OItem) :
    step ⟨.orderL h whr grp hav acc, S, ts⟩ =
    orHalt (parseX ts) fun p => orderNulls h whr grp hav S acc p.1 (orderDir p.2).1 (orderDir p.2).2 := rfl

theorem afterTref_joinT (d : Bool) (its : List Item) (t0 : TRef) (acc : JL) (k : JK) (t : TRef) :
    afterTref ⟨d, its, .joinT t0 acc k⟩ t S ts =
    if ts.head? = some .on then
      orHalt (parseX ts.tail) fun p => ⟨.joins d its t0 (acc.snoc k t (.on p.1)), S, p.2⟩
    else if ts.head? = some .using then
      expect .lparen .lparen ts.tail fun r => orHalt (expectIdent r) fun p => ⟨.usingL d its t0 acc k t p.1 [], S, p.2⟩
    else ⟨.joins d its t0 (acc.snoc k t .none), S, ts⟩ := rfl

theorem step_bodyRet_nil (q : Q) : step ⟨.bodyRet q, [], ts⟩ = halt (.ok q) := rfl

theorem step_bodyRet_cons (q : Q) (fr : Frame) : step ⟨.bodyRet q, fr :: S, ts⟩ =
    expect .rparen .rparen ts fun r => orHalt (parseAlias r) fun a => afterTref fr (.sub q a.1) S a.2 := rfl

end

def Err.posOk (n : Nat) : Err → Prop
  | .tooDeep rem => rem ≤ n
  | .unexpected _ rem => 1 ≤ rem ∧ rem ≤ n
  | .eof _ => True
  | .fuel => False

def resOk {α : Type} (n : Nat) : Res α → Prop
  | .error e => e.posOk n
  | _ => True

theorem posOk_mono {e : Err} {n n' : Nat} (h : e.posOk n) (hn : n ≤ n') : e.posOk n' := by
  cases e <;> simp only [Err.posOk] at * <;> omega

def subOk {α : Type} (n : Nat) (P : α → Prop) : Res α → Prop
  | .ok a => P a
  | .error e => e.posOk n
  | .outside => True

theorem subOk_unexpected {α : Type} (P : α → Prop) (x : Expect) (t : Tok) (r : List Tok) :
    subOk (t :: r).length P (.error (.unexpected x (t :: r).length)) :=
  ⟨Nat.le_add_left _ _, Nat.le_refl _⟩

theorem parseX_spec (ts : List Tok) : subOk ts.length (fun p => p.2.length < ts.length) (parseX ts) := by
  fun_cases parseX ts <;> first | trivial | exact Nat.lt_succ_self _ | exact subOk_unexpected ..

theorem expectIdent_spec (ts : List Tok) : subOk ts.length (fun p => p.2.length < ts.length) (expectIdent ts) := by
  fun_cases expectIdent ts <;> first | trivial | exact Nat.lt_succ_self _ | exact subOk_unexpected ..

theorem parseAlias_spec (ts : List Tok) : subOk ts.length (fun p => p.2.length ≤ ts.length) (parseAlias ts) := by
  fun_cases parseAlias ts
  case case2 r n r' h =>
    have : r'.length < r.length := by have := expectIdent_spec r; rwa [h] at this
    exact Nat.le_of_lt (Nat.lt_succ_of_lt this)
  case case3 r e h =>
    have : e.posOk r.length := by have := expectIdent_spec r; rwa [h] at this
    exact posOk_mono this (Nat.le_succ _)
  all_goals first | trivial | exact Nat.le_refl _ | exact Nat.le_succ _

/-- the `expect(&Join)` that ends the keyword prefix of a join -/
def needJoin (k : JK) (r : List Tok) : Res (Option (JK × List Tok)) :=
  match r with
  | [] => .error (.eof .join)
  | c :: r' => if c = .join then .ok (some (k, r')) else .error (.unexpected .join (c :: r').length)

def eatOuter (r : List Tok) : List Tok := if r.head? = some .outer then r.tail else r

theorem joinKind_eq (ts : List Tok) : joinKind ts =
    match ts with
    | [] => .ok none
    | t :: r =>
      match t with
      | .cross => needJoin .cross r
      | .natural => needJoin .natural r
      | .inner => needJoin .inner r
      | .left => needJoin .left (eatOuter r)
      | .right => needJoin .right (eatOuter r)
      | .full => needJoin .full (eatOuter r)
      | .join => .ok (some (.inner, r))
      | _ => .ok none := rfl

def Shorter (n : Nat) : Option (JK × List Tok) → Prop
  | some (_, r) => r.length < n
  | none => True

theorem needJoin_spec (k : JK) {r : List Tok} {n : Nat} (h : r.length < n) : subOk n (Shorter n) (needJoin k r) := by
  fun_cases needJoin k r
  · trivial
  · exact Nat.lt_of_succ_lt h
  · exact ⟨Nat.le_add_left _ _, Nat.le_of_lt h⟩

theorem eatOuter_len (r : List Tok) : (eatOuter r).length ≤ r.length := by
  unfold eatOuter; split
  · exact List.length_tail ▸ Nat.sub_le _ _
  · exact Nat.le_refl _

theorem joinKind_spec (ts : List Tok) : subOk ts.length (Shorter ts.length) (joinKind ts) := by
  rw [joinKind_eq]
  split
  · trivial
  · split
    all_goals first
      | exact needJoin_spec _ (Nat.lt_succ_self _)
      | exact needJoin_spec _ (Nat.lt_succ_of_le (eatOuter_len _))
      | trivial
      | exact Nat.lt_succ_self _

theorem tail_lt {t : Tok} {ts : List Tok} (h : ts.head? = some t) : ts.tail.length < ts.length := by
  cases ts with
  | nil => cases h
  | cons c r => exact Nat.lt_succ_self _

def rank : Ctl → Nat
  | .body => 2
  | .items _ _ => 1
  | .joins _ _ _ _ => 1
  | _ => 0

/-- every step lowers it -/
def mu (st : St) : Nat :=
  match st.ctl with
  | .done _ => 0
  | c => 3 * st.ts.length + 2 * st.stk.length + rank c

def Good (b : Nat) (st : St) : Prop := isDone st ∨ mu st < b

/-- the states inside a body: `stk.length + 1` bodies are active -/
def ctlOk (n d : Nat) : Ctl → Prop
  | .done r => resOk n r
  | .body => True
  | .bodyRet _ => True
  | _ => d < MAX_SELECT_DEPTH

def Inv (n : Nat) (st : St) : Prop :=
  st.ts.length ≤ n ∧ st.stk.length ≤ MAX_SELECT_DEPTH ∧ ctlOk n st.stk.length st.ctl

def Fine (n b : Nat) (st : St) : Prop := Inv n st ∧ Good b st

/-- a state with `r` left, stack `S` and a rank below `k` has measure below `b`; the arithmetic of the sweep
    is in the lemmas about this -/
def Fits (n b : Nat) (S : List Frame) (k : Nat) (r : List Tok) : Prop :=
  r.length ≤ n ∧ 3 * r.length + 2 * S.length + k ≤ b

section
variable {n b k : Nat} {S : List Frame} {r r' : List Tok}

theorem Fits.le (h : Fits n b S k r) (hr : r'.length ≤ r.length) : Fits n b S k r' := by
  unfold Fits at *; omega

theorem Fits.lt (h : Fits n b S k r) (hr : r'.length < r.length) : Fits n b S k r' := h.le (Nat.le_of_lt hr)

/-- a token consumed pays for any rank -/
theorem Fits.shorter (h : Fits n b S k r) (hr : r'.length < r.length) : Fits n b S (k + 3) r' := by
  unfold Fits at *; omega

theorem Fits.mono {k' : Nat} (h : Fits n b S k r) (hk : k' ≤ k) : Fits n b S k' r := by
  unfold Fits at *; omega

theorem Fits.push (h : Fits n b S (k + 2) r) (fr : Frame) : Fits n b (fr :: S) k r := by
  unfold Fits at *; simp only [List.length_cons]; omega

theorem Fits.pop {fr : Frame} (h : Fits n b (fr :: S) k r) : Fits n b S (k + 2) r := by
  unfold Fits at *; simp only [List.length_cons] at h; omega

theorem fine_halt {r : Res Q} (h : resOk n r) : Fine n b (halt r) :=
  ⟨⟨Nat.zero_le _, Nat.zero_le _, h⟩, Or.inl ⟨r, rfl⟩⟩

theorem fine_fail {e : Err} (h : e.posOk n) : Fine n b (fail e) := fine_halt h

/-- `hk` compares the rank of a concrete control with a numeral and is found by evaluation (`decide` refuses
    the free variables inside `c`) -/
theorem fine_mk {c : Ctl} (hf : Fits n b S k r) (h2 : S.length ≤ MAX_SELECT_DEPTH) (h3 : ctlOk n S.length c)
    (hk : rank c < k := by exact Nat.le_of_ble_eq_true rfl) : Fine n b ⟨c, S, r⟩ := by
  refine ⟨⟨hf.1, h2, h3⟩, ?_⟩
  cases c <;> first | exact Or.inl ⟨_, rfl⟩ | exact Or.inr (Nat.lt_of_lt_of_le (Nat.add_lt_add_left hk _) hf.2)

theorem orHalt_fine {α : Type} {P : α → Prop} {res : Res α} {f : α → St} (hs : subOk r.length P res)
    (hf : Fits n b S k r) (hk : ∀ a, P a → Fine n b (f a)) : Fine n b (orHalt res f) := by
  cases res with
  | ok a => exact hk a hs
  | error e => exact fine_fail (posOk_mono hs hf.1)
  | outside => exact fine_halt trivial

theorem expect_fine {t : Tok} {x : Expect} {f : List Tok → St} (hf : Fits n b S k r)
    (hk : ∀ r', r'.length < r.length → Fine n b (f r')) : Fine n b (expect t x r f) := by
  cases r with
  | nil => exact fine_fail trivial
  | cons c r =>
    simp only [expect]
    split
    · exact hk r (Nat.lt_succ_self _)
    · exact fine_fail ⟨Nat.le_add_left _ _, hf.1⟩

end

section
variable {n b : Nat} {S : List Frame} (hS : S.length < MAX_SELECT_DEPTH) {ts : List Tok}
  {h : Head} {whr : Option XE} {grp : List XE} {hav : Option XE}
include hS

theorem offsetC_fine {ord : List OItem} {lim : Option XE} (hf : Fits n b S 1 ts) : Fine n b (offsetC h whr grp hav S ord lim ts) := by
  unfold offsetC
  split
  · next hh =>
    have hf := hf.lt (tail_lt hh)
    exact orHalt_fine (parseX_spec _) hf fun p hp => fine_mk (hf.lt hp) (Nat.le_of_lt hS) trivial
  · exact fine_mk hf (Nat.le_of_lt hS) trivial

theorem limitOffset_fine {ord : List OItem} (hf : Fits n b S 1 ts) : Fine n b (limitOffset h whr grp hav ord S ts) := by
  rw [limitOffset_eq]
  split
  · next hh =>
    have hf := hf.lt (tail_lt hh)
    exact orHalt_fine (parseX_spec _) hf fun p hp => offsetC_fine hS (hf.lt hp)
  · exact offsetC_fine hS hf

theorem orderBy_fine (hf : Fits n b S 1 ts) :
    Fine n b (orderBy h whr grp hav S ts) := by
  unfold orderBy
  split
  · next hh =>
    have hf := hf.lt (tail_lt hh)
    exact expect_fine hf fun r hr => fine_mk (hf.lt hr) (Nat.le_of_lt hS) hS
  · exact limitOffset_fine hS hf

theorem havingC_fine (hf : Fits n b S 1 ts) :
    Fine n b (havingC h whr grp S ts) := by
  unfold havingC
  split
  · next hh =>
    have hf := hf.lt (tail_lt hh)
    exact orHalt_fine (parseX_spec _) hf fun p hp => orderBy_fine hS (hf.lt hp)
  · exact orderBy_fine hS hf

theorem groupBy_fine (hf : Fits n b S 1 ts) : Fine n b (groupBy h whr S ts) := by
  unfold groupBy
  split
  · next hh =>
    have hf := hf.lt (tail_lt hh)
    exact expect_fine hf fun r hr => fine_mk (hf.lt hr) (Nat.le_of_lt hS) hS
  · exact havingC_fine hS hf

theorem whereC_fine (hf : Fits n b S 1 ts) : Fine n b (whereC h S ts) := by
  unfold whereC
  split
  · next hh =>
    have hf := hf.lt (tail_lt hh)
    exact orHalt_fine (parseX_spec _) hf fun p hp => groupBy_fine hS (hf.lt hp)
  · exact groupBy_fine hS hf

theorem afterItems_fine {d : Bool} {acc : List Item} (hf : Fits n b S 1 ts) : Fine n b (afterItems d acc S ts) := by
  unfold afterItems
  split
  · next hh => exact fine_mk (hf.lt (tail_lt hh)) (Nat.le_of_lt hS) hS
  · exact whereC_fine hS hf

theorem orderFin_fine {acc : List OItem} {o : OItem} (hf : Fits n b S 1 ts) : Fine n b (orderFin h whr grp hav S acc o ts) := by
  unfold orderFin
  split
  · next hh => exact fine_mk (hf.lt (tail_lt hh)) (Nat.le_of_lt hS) hS
  · exact limitOffset_fine hS hf

theorem orderNulls_fine {acc : List OItem} {e : XE} {d : Bool} (hf : Fits n b S 1 ts) : Fine n b (orderNulls h whr grp hav S acc e d ts) := by
  unfold orderNulls
  split
  · next hn =>
    have hf := hf.lt (tail_lt hn)
    split
    · next hfst => exact orderFin_fine hS (hf.lt (tail_lt hfst))
    · exact expect_fine hf fun r hr => orderFin_fine hS (hf.lt hr)
  · exact orderFin_fine hS hf

theorem afterTref_fine {fr : Frame} {t : TRef} (hf : Fits n b S 2 ts) : Fine n b (afterTref fr t S ts) := by
  unfold afterTref
  split
  · exact fine_mk hf (Nat.le_of_lt hS) hS
  · split
    · next hh =>
      have hf := hf.lt (tail_lt hh)
      exact orHalt_fine (parseX_spec _) hf fun p hp => fine_mk (hf.lt hp) (Nat.le_of_lt hS) hS
    · split
      · next hh =>
        have hf := hf.lt (tail_lt hh)
        refine expect_fine hf fun r hr => ?_
        have hf := hf.lt hr
        exact orHalt_fine (expectIdent_spec _) hf fun p hp => fine_mk (hf.lt hp) (Nat.le_of_lt hS) hS
      · exact fine_mk hf (Nat.le_of_lt hS) hS

end

theorem orderDir_len (r : List Tok) : (orderDir r).2.length ≤ r.length := by
  unfold orderDir
  split
  · exact List.length_tail ▸ Nat.sub_le _ _
  · split
    · exact List.length_tail ▸ Nat.sub_le _ _
    · exact Nat.le_refl _

theorem step_fine {n : Nat} {st : St} (h : Inv n st) (hd : ¬ isDone st) : Fine n (mu st) (step st) := by
  obtain ⟨ctl, S, ts⟩ := st
  obtain ⟨h1, h2, h3⟩ := h
  cases ctl with
  | done r => exact absurd ⟨r, rfl⟩ hd
  | body =>
    have hf : Fits n (mu ⟨.body, S, ts⟩) S 2 ts := ⟨h1, Nat.le_refl _⟩
    rw [step_body]
    split
    · exact fine_fail h1
    · next hS =>
      have hS : S.length < MAX_SELECT_DEPTH := Nat.lt_of_succ_le (Nat.le_of_not_gt hS)
      split
      · next hh => exact fine_mk (hf.shorter (tail_lt hh)) h2 hS
      · split
        · next hh => exact fine_mk (hf.shorter (tail_lt hh)) h2 hS
        · exact fine_mk hf h2 hS
  | items d acc =>
    have hf : Fits n (mu ⟨.items d acc, S, ts⟩) S 1 ts := ⟨h1, Nat.le_refl _⟩
    rw [step_items]
    refine orHalt_fine (parseX_spec _) hf fun p hp => ?_
    have hf := hf.shorter hp
    refine orHalt_fine (parseAlias_spec _) hf fun a ha => ?_
    have hf := hf.le ha
    split
    · next hh => exact fine_mk (hf.lt (tail_lt hh)) h2 h3
    · exact afterItems_fine h3 (hf.mono (by decide))
  | tref fr =>
    have hf : Fits n (mu ⟨.tref fr, S, ts⟩) S 0 ts := ⟨h1, Nat.le_refl _⟩
    rw [step_tref]
    split
    · next hh =>
      have hf := hf.shorter (tail_lt hh)
      refine expect_fine hf fun r hr => ?_
      exact fine_mk (((hf.shorter hr).mono (k' := 3 + 2) (by decide)).push fr) h3 trivial
    · refine orHalt_fine (expectIdent_spec _) hf fun p hp => ?_
      have hf := hf.shorter hp
      exact orHalt_fine (parseAlias_spec _) hf fun a ha => afterTref_fine h3 ((hf.le ha).mono (by decide))
  | usingL d its t0 jacc k t c acc =>
    have hf : Fits n (mu ⟨.usingL d its t0 jacc k t c acc, S, ts⟩) S 0 ts := ⟨h1, Nat.le_refl _⟩
    rw [step_usingL]
    split
    · next hh =>
      have hf := hf.shorter (tail_lt hh)
      exact orHalt_fine (expectIdent_spec _) hf fun p hp => fine_mk (hf.lt hp) h2 h3
    · exact expect_fine hf fun r hr => fine_mk (hf.shorter hr) h2 h3
  | joins d its t0 acc =>
    have hf : Fits n (mu ⟨.joins d its t0 acc, S, ts⟩) S 1 ts := ⟨h1, Nat.le_refl _⟩
    rw [step_joins]
    refine orHalt_fine (joinKind_spec ts) hf fun j hj => ?_
    match j, hj with
    | none, _ => exact whereC_fine h3 hf
    | some (k, r), hj => exact fine_mk (hf.shorter hj) h2 h3
  | groupL h whr acc =>
    have hf : Fits n (mu ⟨.groupL h whr acc, S, ts⟩) S 0 ts := ⟨h1, Nat.le_refl _⟩
    rw [step_groupL]
    refine orHalt_fine (parseX_spec _) hf fun p hp => ?_
    have hf := hf.shorter hp
    split
    · next hh => exact fine_mk (hf.lt (tail_lt hh)) h2 h3
    · exact havingC_fine h3 (hf.mono (by decide))
  | orderL h whr grp hav acc =>
    have hf : Fits n (mu ⟨.orderL h whr grp hav acc, S, ts⟩) S 0 ts := ⟨h1, Nat.le_refl _⟩
    rw [step_orderL]
    refine orHalt_fine (parseX_spec _) hf fun p hp => ?_
    exact orderNulls_fine h3 (((hf.shorter hp).le (orderDir_len p.2)).mono (by decide))
  | bodyRet q =>
    cases S with
    | nil => exact fine_halt trivial
    | cons fr S =>
      have hf : Fits n (mu ⟨.bodyRet q, fr :: S, ts⟩) (fr :: S) 0 ts := ⟨h1, Nat.le_refl _⟩
      rw [step_bodyRet_cons]
      have hS : S.length < MAX_SELECT_DEPTH := Nat.lt_of_succ_le h2
      refine expect_fine hf fun r hr => ?_
      have hf := (hf.lt hr).pop
      exact orHalt_fine (parseAlias_spec _) hf fun a ha => afterTref_fine hS (hf.le ha)

theorem step_inv {n : Nat} (st : St) (h : Inv n st) : Inv n (step st) := by
  by_cases hd : isDone st
  · rw [show step st = run 1 st from rfl, run_isDone hd]; exact h
  · exact (step_fine h hd).1

theorem run_inv {n : Nat} : ∀ (k : Nat) (st : St), Inv n st → Inv n (run k st) := by
  intro k
  induction k with
  | zero => intro st h; exact h
  | succ k ih => intro st h; exact ih _ (step_inv st h)

theorem run_reaches_done {n : Nat} : ∀ (k : Nat) (st : St), Inv n st → mu st < k → isDone (run k st) := by
  intro k
  induction k with
  | zero => intro st _ h; omega
  | succ k ih =>
    intro st hi h
    by_cases hd : isDone st
    · rw [run_isDone hd]; exact hd
    · obtain ⟨hi', h2 | h2⟩ := step_fine hi hd
      · exact run_isDone h2 k ▸ h2
      · exact ih _ hi' (by omega)

theorem dropSemis_len (ts : List Tok) : (dropSemis ts).length ≤ ts.length := by
  fun_induction dropSemis ts with
  | case1 r ih => exact Nat.le_succ_of_le ih
  | case2 => exact Nat.le_refl _

theorem init_fine (ts : List Tok) : Fine ts.length (fuelFor ts) (init ts) := by
  have hl := dropSemis_len ts
  unfold init
  split
  · next r hr =>
    rw [hr] at hl
    exact fine_mk (k := 3) ⟨Nat.le_of_lt hl, by simp only [fuelFor, List.length_nil, List.length_cons] at hl ⊢; omega⟩
      (Nat.zero_le _) trivial
  · exact fine_halt trivial

theorem inv_init (ts : List Tok) : Inv ts.length (init ts) := (init_fine ts).1

theorem run_finished (ts : List Tok) {f : Nat} (hf : fuelFor ts ≤ f) : isDone (run f (init ts)) := by
  rcases (init_fine ts).2 with h | h
  · rw [run_isDone h]; exact h
  · exact run_reaches_done f _ (inv_init ts) (by omega)

theorem parse_resOk (ts : List Tok) : resOk ts.length (parse ts) := by
  obtain ⟨r, hr⟩ := run_finished ts (Nat.le_refl _)
  have h3 := (run_inv (fuelFor ts) _ (inv_init ts)).2.2
  unfold parse parseWith result
  rw [hr] at h3 ⊢
  exact h3

end Neumann.Parse.Clause
