import NeumannModel.Parse.FullTotal
import NeumannModel.Parse.FullRound
/-
  C15 — every accepted input yields a tree whose MINIMAL print fits the depth limit (complete
  expression grammar model, `Parse/Full.lean`): an invariant of the run that bounds, for every
  partial tree held in a frame, the frames its minimal print needs by the frames actually active.
  Core Lean only (no Mathlib).
-/
namespace Neumann.Parse.Full

/-- frames needed by the minimal print of `e` standing as an operand of a frame running at
    `min_bp = m` (that frame included): one more when `e` must be parenthesised -/
def need (m : Nat) (e : E) : Nat := if topBp e < m then 1 + framesMin e else framesMin e

def needP (e : E) : Nat := if openEnd e then 1 + framesMin e else framesMin e

def FI (l : EL) : Nat := framesItems (fun _ => false) l
def FW (l : WL) : Nat := framesWhens (fun _ => false) l
def FO (o : OE) : Nat := framesOpt (fun _ => false) o

theorem need_le (m : Nat) (e : E) : need m e ≤ 1 + framesMin e := by unfold need; split <;> omega
theorem need_ge (m : Nat) (e : E) : framesMin e ≤ need m e := by unfold need; split <;> omega
theorem needP_le (e : E) : needP e ≤ 1 + framesMin e := by unfold needP; split <;> omega
theorem needP_ge (e : E) : framesMin e ≤ needP e := by unfold needP; split <;> omega
theorem need_zero (e : E) : need 0 e = framesMin e := by simp [need]
theorem need_of_le {m : Nat} {e : E} (h : m ≤ topBp e) : need m e = framesMin e :=
  if_neg (Nat.not_lt.2 h)
theorem needP_closed {e : E} (h : openEnd e = false) : needP e = framesMin e := by simp [needP, h]
theorem framesMin_pos (e : E) : 1 ≤ framesMin e := frames_pos _ e

theorem F_un (u : UnOp) (x : E) : framesMin (.un u x) = 1 + need PREFIX_BP x := by
  simp [framesMin, framesWith, need, wf]
theorem F_bin (l : E) (o : BinOp) (r : E) :
    framesMin (.bin l o r) = max (need (lbp o) l) (1 + need (rbp o) r) := by
  simp [framesMin, framesWith, need, wf]
theorem F_isNull (x : E) (n : Bool) : framesMin (.isNull x n) = needP x := by
  simp [framesMin, framesWith, needP, wf]
theorem F_qual (x : E) (n : Nat) : framesMin (.qual x n) = needP x := by
  simp [framesMin, framesWith, needP, wf]
theorem F_inList (x : E) (n : Bool) (l : EL) : framesMin (.inList x n l) = max (needP x) (1 + FI l) := by
  simp [framesMin, framesWith, needP, wf, FI]
theorem F_between (x : E) (n : Bool) (lo hi : E) :
    framesMin (.between x n lo hi) = max (needP x) (1 + max (need PREFIX_BP lo) (need PREFIX_BP hi)) := by
  simp [framesMin, framesWith, needP, need, wf]
theorem F_like (x : E) (n : Bool) (p : E) : framesMin (.like x n p) = max (needP x) (1 + need PREFIX_BP p) := by
  simp [framesMin, framesWith, needP, need, wf]
theorem F_call (f : Callee) (d : Bool) (l : EL) : framesMin (.call f d l) = 1 + FI l := by
  simp [framesMin, framesWith, FI]
theorem F_array (l : EL) : framesMin (.array l) = 1 + FI l := by simp [framesMin, framesWith, FI]
theorem F_tuple (a b : E) (l : EL) : framesMin (.tuple a b l) = 1 + max (framesMin a) (max (framesMin b) (FI l)) := by
  simp [framesMin, framesWith, FI, wf]
theorem F_case (op : OE) (c r : E) (l : WL) (el : OE) :
    framesMin (.case op c r l el) = 1 + max (FO op) (max (framesMin c) (max (framesMin r) (max (FW l) (FO el)))) := by
  simp [framesMin, framesWith, FO, FW, wf]
theorem FI_nil : FI .nil = 0 := rfl
theorem FI_cons (e : E) (l : EL) : FI (.cons e l) = max (framesMin e) (FI l) := by
  simp [FI, framesItems, framesMin, wf]
theorem FW_nil : FW .nil = 0 := rfl
theorem FW_cons (c r : E) (l : WL) : FW (.cons c r l) = max (framesMin c) (max (framesMin r) (FW l)) := by
  simp [FW, framesWhens, framesMin, wf]
theorem FO_none : FO .none = 0 := rfl
theorem FO_some (e : E) : FO (.some e) = framesMin e := by simp [FO, framesOpt, framesMin, wf]

theorem FI_snoc : ∀ (l : EL) (e : E), FI (l.snoc e) = max (FI l) (framesMin e)
  | .nil, e => by rw [EL.snoc, FI_cons, FI_nil, Nat.max_zero, Nat.zero_max]
  | .cons x l, e => by rw [EL.snoc, FI_cons, FI_cons, FI_snoc l e, Nat.max_assoc]

theorem FW_snoc : ∀ (l : WL) (c r : E), FW (l.snoc c r) = max (FW l) (max (framesMin c) (framesMin r))
  | .nil, c, r => by rw [WL.snoc, FW_cons, FW_nil, Nat.max_zero, Nat.zero_max]
  | .cons c0 r0 l, c, r => by rw [WL.snoc, FW_cons, FW_cons, FW_snoc l c r, Nat.max_assoc, Nat.max_assoc]

theorem max_mono {a a' b b' : Nat} (ha : a ≤ a') (hb : b ≤ b') : max a b ≤ max a' b' :=
  Nat.max_le.2 ⟨Nat.le_trans ha (Nat.le_max_left ..), Nat.le_trans hb (Nat.le_max_right ..)⟩

theorem wf_mono {b b' : Bool} {a c : Nat} (hb : b = true → b' = true) (h : a ≤ c) : wf b a ≤ wf b' c := by
  cases b <;> cases b' <;> simp [wf] at * <;> omega

theorem or_mono {p q : Bool} (h : p = true → q = true) (c : Bool) : (p || c) = true → (q || c) = true := by
  cases p <;> cases c <;> simp_all

section
variable {ex₁ ex₂ : E → Bool} (h : ∀ x, ex₁ x = true → ex₂ x = true)
include h

theorem items_mono : ∀ {l : EL}, l.All (fun e => framesWith ex₁ e ≤ framesWith ex₂ e) →
    framesItems ex₁ l ≤ framesItems ex₂ l
  | .nil, _ => Nat.le_refl _
  | .cons e l, ⟨he, hl⟩ => by
      simp only [framesItems]
      exact max_mono (wf_mono (h e) he) (items_mono hl)

theorem whens_mono : ∀ {l : WL}, l.All (fun e => framesWith ex₁ e ≤ framesWith ex₂ e) →
    framesWhens ex₁ l ≤ framesWhens ex₂ l
  | .nil, _ => Nat.le_refl _
  | .cons c r l, ⟨hc, hr, hl⟩ => by
      simp only [framesWhens]
      exact max_mono (wf_mono (h c) hc) (max_mono (wf_mono (h r) hr) (whens_mono hl))

theorem opt_mono : ∀ {o : OE}, o.All (fun e => framesWith ex₁ e ≤ framesWith ex₂ e) →
    framesOpt ex₁ o ≤ framesOpt ex₂ o
  | .none, _ => Nat.le_refl _
  | .some e, he => by
      simp only [framesOpt]
      exact wf_mono (h e) he

/-- redundant parentheses only add frames: every node is built from `+`, `max` and `wf` -/
theorem frames_mono : ∀ e : E, framesWith ex₁ e ≤ framesWith ex₂ e := by
  refine E.ind ?_ ?_ ?_ ?_ ?_ ?_ ?_ ?_ ?_ ?_ ?_ ?_
  · intro e he
    cases e <;> first | exact Nat.le_refl 1 | cases he
  · intro a b rest ha hb hl
    simp only [framesWith]
    exact Nat.add_le_add_left (max_mono (wf_mono (h a) ha) (max_mono (wf_mono (h b) hb) (items_mono h hl))) 1
  · intro u x hx
    simp only [framesWith]
    exact Nat.add_le_add_left (wf_mono (or_mono (h x) _) hx) 1
  · intro l o r hl hr
    simp only [framesWith]
    exact max_mono (wf_mono (or_mono (h l) _) hl) (Nat.add_le_add_left (wf_mono (or_mono (h r) _) hr) 1)
  · intro x neg hx
    simp only [framesWith]
    exact wf_mono (or_mono (h x) _) hx
  · intro x neg items hx hl
    simp only [framesWith]
    exact max_mono (wf_mono (or_mono (h x) _) hx) (Nat.add_le_add_left (items_mono h hl) 1)
  · intro x neg lo hi hx hlo hhi
    simp only [framesWith]
    exact max_mono (wf_mono (or_mono (h x) _) hx) (Nat.add_le_add_left
      (max_mono (wf_mono (or_mono (h lo) _) hlo) (wf_mono (or_mono (h hi) _) hhi)) 1)
  · intro x neg p hx hp
    simp only [framesWith]
    exact max_mono (wf_mono (or_mono (h x) _) hx) (Nat.add_le_add_left (wf_mono (or_mono (h p) _) hp) 1)
  · intro x n hx
    simp only [framesWith]
    exact wf_mono (or_mono (h x) _) hx
  · intro f d args hl
    simp only [framesWith]
    exact Nat.add_le_add_left (items_mono h hl) 1
  · intro items hl
    simp only [framesWith]
    exact Nat.add_le_add_left (items_mono h hl) 1
  · intro operand c r rest els hop hc hr hrest hels
    simp only [framesWith]
    exact Nat.add_le_add_left (max_mono (opt_mono h hop) (max_mono (wf_mono (h c) hc)
      (max_mono (wf_mono (h r) hr) (max_mono (whens_mono h hrest) (opt_mono h hels))))) 1

end

theorem frames_min_le (extra : E → Bool) : ∀ e : E, framesMin e ≤ framesWith extra e :=
  frames_mono fun _ hf => nomatch hf

theorem items_min_le (extra : E → Bool) : ∀ l : EL, framesItems (fun _ => false) l ≤ framesItems extra l :=
  fun l => items_mono (ex₁ := fun _ => false) (fun _ hf => nomatch hf) (EL.all_of (frames_min_le extra) l)

theorem whens_min_le (extra : E → Bool) : ∀ l : WL, framesWhens (fun _ => false) l ≤ framesWhens extra l :=
  fun l => whens_mono (ex₁ := fun _ => false) (fun _ hf => nomatch hf) (WL.all_of (frames_min_le extra) l)

theorem opt_min_le (extra : E → Bool) : ∀ o : OE, framesOpt (fun _ => false) o ≤ framesOpt extra o :=
  fun o => opt_mono (ex₁ := fun _ => false) (fun _ hf => nomatch hf) (OE.all_of (frames_min_le extra) o)

/-- the `min_bp` with which the frame called from site `k` runs -/
def retBp : K → Nat
  | .unary _ => PREFIX_BP
  | .binR _ o => rbp o
  | .betLo _ _ => PREFIX_BP
  | .betHi _ _ _ => PREFIX_BP
  | .likeP _ _ => PREFIX_BP
  | _ => 0

def topM : List Frame → Nat
  | [] => 0
  | f :: _ => retBp f.k

theorem retBp_le (k : K) : retBp k ≤ 100 := by
  cases k <;> simp only [retBp] <;> first | decide | exact rbp_le _
theorem topM_le (S : List Frame) : topM S ≤ 100 := by
  cases S with
  | nil => simp [topM]
  | cons f S => exact retBp_le _

/-- what the partial trees held at call site `k` of a frame with `d` frames below it satisfy -/
def KInv (d m : Nat) : K → Prop
  | .unary _ => True
  | .paren => True
  | .list lk acc =>
    d + 1 + FI acc ≤ MAX_DEPTH ∧
      (match lk with
       | .inl subj _ => d + needP subj ≤ MAX_DEPTH
       | _ => True)
  | .binR l o => d + need (lbp o) l ≤ MAX_DEPTH ∧ m ≤ lbp o
  | .betLo subj _ => d + needP subj ≤ MAX_DEPTH
  | .betHi subj _ lo => d + needP subj ≤ MAX_DEPTH ∧ d + 1 + need PREFIX_BP lo ≤ MAX_DEPTH
  | .likeP subj _ => d + needP subj ≤ MAX_DEPTH
  | .caseOperand => True
  | .caseCond operand acc => d + 1 + FO operand ≤ MAX_DEPTH ∧ d + 1 + FW acc ≤ MAX_DEPTH
  | .caseRes operand acc c =>
    d + 1 + FO operand ≤ MAX_DEPTH ∧ d + 1 + FW acc ≤ MAX_DEPTH ∧ d + 1 + framesMin c ≤ MAX_DEPTH
  | .caseElse operand c r rest =>
    d + 1 + FO operand ≤ MAX_DEPTH ∧ d + 1 + framesMin c ≤ MAX_DEPTH ∧ d + 1 + framesMin r ≤ MAX_DEPTH ∧
      d + 1 + FW rest ≤ MAX_DEPTH

def StackInv : List Frame → Prop
  | [] => True
  | f :: S => f.m = topM S ∧ KInv S.length f.m f.k ∧ StackInv S

def stops (m : Nat) (ts : List Tok) : Prop :=
  match loopArm ts with
  | .stop => True
  | .binary o _ => lbp o < m
  | _ => False

/-- what the loop may see next, given that `lhs` can stand at every `min_bp ≤ bnd` -/
def LoopNext (bnd d : Nat) (lhs : E) (ts : List Tok) : Prop :=
  match loopArm ts with
  | .stop => True
  | .binary o _ => lbp o ≤ bnd
  | _ => d + needP lhs ≤ MAX_DEPTH

def CtlInv (st : St) : Prop :=
  match st.ctl with
  | .start m => m = topM st.stk
  | .loop m _ lhs =>
    m = topM st.stk ∧ ∃ bnd, m ≤ bnd ∧ bnd ≤ 100 ∧
      (∀ m'', m'' ≤ bnd → st.stk.length + need m'' lhs ≤ MAX_DEPTH) ∧ LoopNext bnd st.stk.length lhs st.ts
  | .ret e => st.stk.length + need (topM st.stk) e ≤ MAX_DEPTH ∧ stops (topM st.stk) st.ts
  | .done (.ok e) => framesMin e ≤ MAX_DEPTH
  | .done _ => True

def DInv (st : St) : Prop := StackInv st.stk ∧ CtlInv st

theorem dinv_fail (e : Err) : DInv (fail e) := ⟨trivial, trivial⟩
theorem dinv_outside : DInv (halt .outside) := ⟨trivial, trivial⟩

theorem expect_dinv {t : Tok} {x : Expect} {ts : List Tok} {k : List Tok → St} (hk : ∀ r, DInv (k r)) :
    DInv (expect t x ts k) :=
  expect_cases (dinv_fail _) (fun _ => dinv_fail _) fun r _ => hk r

theorem dinv_push {k : K} {s : Nat} {S : List Frame} {ts : List Tok} (hS : StackInv S)
    (hk : KInv S.length (topM S) k) : DInv ⟨.start (retBp k), ⟨k, topM S, s⟩ :: S, ts⟩ :=
  ⟨⟨rfl, hk, hS⟩, rfl⟩

theorem dinv_loop {s : Nat} {lhs : E} {S : List Frame} {ts : List Tok} (hS : StackInv S)
    (bnd : Nat) (h1 : topM S ≤ bnd) (h2 : bnd ≤ 100) (h3 : ∀ m, m ≤ bnd → S.length + need m lhs ≤ MAX_DEPTH)
    (h4 : LoopNext bnd S.length lhs ts) : DInv ⟨.loop (topM S) s lhs, S, ts⟩ := ⟨hS, rfl, bnd, h1, h2, h3, h4⟩

theorem stops_loopNext {b bnd d : Nat} {lhs : E} {ts : List Tok} (h : stops b ts) (hb : b ≤ bnd + 1) :
    LoopNext bnd d lhs ts := by
  unfold stops at h
  unfold LoopNext
  split
  · trivial
  · next o r h1 => rw [h1] at h; simp only at h; omega
  · next h1 h2 =>
    split at h
    · next h3 => exact absurd h3 h1
    · next o r h3 => exact absurd h3 (h2 o r)
    · exact absurd h id

theorem loopNext_of_needP {d : Nat} {lhs : E} {ts : List Tok} (h : d + needP lhs ≤ MAX_DEPTH) :
    LoopNext 100 d lhs ts := by
  unfold LoopNext
  split
  · trivial
  · exact lbp_le _
  · exact h

theorem dinv_loop_top {s : Nat} {lhs : E} {S : List Frame} {ts : List Tok} (hS : StackInv S)
    (ht : topBp lhs = 100) (hF : S.length + framesMin lhs ≤ MAX_DEPTH) (hnext : LoopNext 100 S.length lhs ts) :
    DInv ⟨.loop (topM S) s lhs, S, ts⟩ :=
  dinv_loop hS 100 (topM_le S) (Nat.le_refl _) (fun m h => by rw [need_of_le (by omega)]; exact hF) hnext

theorem dinv_loop_closed {s : Nat} {lhs : E} {S : List Frame} {ts : List Tok} (hS : StackInv S)
    (hc : openEnd lhs = false) (hF : S.length + framesMin lhs ≤ MAX_DEPTH) :
    DInv ⟨.loop (topM S) s lhs, S, ts⟩ :=
  dinv_loop_top hS (topBp_of_closed hc) hF (loopNext_of_needP (by rw [needP_closed hc]; exact hF))

/-- a node ending in an operand at `min_bp = 19` (prefix operator, BETWEEN, LIKE): the operand's
    frame has stopped, so no postfix form follows -/
theorem dinv_loop_open {s : Nat} {lhs : E} {S : List Frame} {ts : List Tok} (hS : StackInv S)
    (ht : topBp lhs = 100) (hF : S.length + framesMin lhs ≤ MAX_DEPTH)
    (hst : stops PREFIX_BP ts) : DInv ⟨.loop (topM S) s lhs, S, ts⟩ :=
  dinv_loop_top hS ht hF (stops_loopNext hst (by decide))

/-- an expression that used one more frame than its minimal print (`( e )`, a one-item "tuple") -/
theorem dinv_loop_paren {s : Nat} {lhs : E} {S : List Frame} {ts : List Tok} (hS : StackInv S)
    (hF : S.length + 1 + framesMin lhs ≤ MAX_DEPTH) : DInv ⟨.loop (topM S) s lhs, S, ts⟩ :=
  dinv_loop hS 100 (topM_le S) (Nat.le_refl _) (fun m _ => by have := need_le m lhs; omega)
    (loopNext_of_needP (by have := needP_le lhs; omega))

theorem callFrom_dinv (f : Callee) (s : Nat) (S : List Frame) (r : List Tok) (hS : StackInv S)
    (hd : S.length + 1 ≤ MAX_DEPTH) : DInv (callFrom f (topM S) s S r) := by
  unfold callFrom
  refine expect_dinv fun r1 => ?_
  simp only
  split
  · exact dinv_loop_closed hS rfl (by rw [F_call, FI_nil]; exact hd)
  · exact dinv_push hS ⟨hd, trivial⟩

theorem caseNext_dinv (operand : OE) (acc : WL) (s : Nat) (S : List Frame) (ts : List Tok)
    (hS : StackInv S) (ho : S.length + 1 + FO operand ≤ MAX_DEPTH)
    (ha : S.length + 1 + FW acc ≤ MAX_DEPTH) : DInv (caseNext operand acc (topM S) s S ts) := by
  unfold caseNext
  split
  · exact dinv_push hS ⟨ho, ha⟩
  · cases acc with
    | nil => exact dinv_fail _
    | cons c r rest =>
      simp only [FW_cons, add_max_le] at ha
      simp only
      split
      · exact dinv_push hS ⟨ho, ha⟩
      · refine expect_dinv fun r' => dinv_loop_closed hS rfl ?_
        simp only [F_case, FO_none, ← Nat.add_assoc, add_max_le]
        exact ⟨ho, ha.1, ha.2.1, ha.2.2, by omega⟩

theorem prefixArm_atom : ∀ {t : Tok} {e : E}, prefixArm t = .atom e → openEnd e = false ∧ framesMin e = 1
  | .lit _, _, rfl | .null, _, rfl | .kw _, _, rfl => ⟨rfl, rfl⟩

theorem stepStart_dinv (mode : Mode) (S : List Frame) (ts : List Tok) (hS : StackInv S) :
    DInv (stepStart mode (topM S) S ts) := by
  unfold stepStart
  split
  · exact dinv_fail _
  · next hd =>
    have hd' : S.length + 1 ≤ MAX_DEPTH := by omega
    cases ts with
    | nil => exact dinv_fail _
    | cons t r =>
      simp only
      cases ha : prefixArm t with
      | atom e =>
        obtain ⟨h1, h2⟩ := prefixArm_atom ha
        exact dinv_loop_closed hS h1 (by omega)
      | ident n =>
        simp only
        split
        · exact callFrom_dinv _ _ _ _ hS hd'
        · exact dinv_loop_closed hS rfl hd'
      | agg n => exact callFrom_dinv _ _ _ _ hS hd'
      | wildcard => exact dinv_loop_closed hS rfl hd'
      | paren =>
        simp only
        split
        · exact dinv_loop_closed hS rfl hd'
        · exact dinv_push hS trivial
      | bracket =>
        simp only
        split
        · exact dinv_loop_closed hS rfl (by rw [F_array, FI_nil]; exact hd')
        · exact dinv_push hS ⟨hd', trivial⟩
      | unary u => exact dinv_push hS trivial
      | caseArm =>
        simp only
        split
        · exact caseNext_dinv _ _ _ _ _ hS hd' hd'
        · exact dinv_push hS trivial
      | existsArm =>
        cases mode with
        | stmt => exact dinv_outside
        | expr => exact expect_dinv fun r' => dinv_fail _
      | castArm =>
        cases mode with
        | stmt => exact dinv_outside
        | expr => exact dinv_fail _
      | unexpected => exact dinv_fail _

theorem stepLoop_dinv (mode : Mode) (m s : Nat) (lhs : E) (S : List Frame) (ts : List Tok)
    (h : DInv ⟨.loop m s lhs, S, ts⟩) : DInv (stepLoop mode m s lhs S ts) := by
  obtain ⟨hS, hm, bnd, hb1, hb2, hneed, hnext⟩ := h
  simp only at hS hm hb1 hneed hnext
  subst hm
  have hd1 : S.length + 1 ≤ MAX_DEPTH := by
    have := hneed _ hb1
    have := need_ge (topM S) lhs
    have := framesMin_pos lhs
    omega
  unfold stepLoop
  unfold LoopNext at hnext
  cases ha : loopArm ts with
  | stop => exact ⟨hS, hneed _ hb1, by unfold stops; rw [ha]; trivial⟩
  | binary o r =>
    simp only [ha] at hnext
    simp only
    split
    · next hlt => exact ⟨hS, hneed _ hb1, by unfold stops; rw [ha]; exact hlt⟩
    · next hge => exact dinv_push hS ⟨hneed _ hnext, Nat.le_of_not_lt hge⟩
  | isArm r =>
    simp only [ha] at hnext
    exact expect_dinv fun r' => dinv_loop_closed hS rfl (by rw [F_isNull]; exact hnext)
  | inArm neg r =>
    simp only [ha] at hnext
    simp only
    refine expect_dinv fun r1 => ?_
    split
    · exact dinv_outside
    · split
      · exact dinv_loop_closed hS rfl (by rw [F_inList, FI_nil, add_max_le]; exact ⟨hnext, hd1⟩)
      · exact dinv_push hS ⟨hd1, hnext⟩
  | betArm neg r =>
    simp only [ha] at hnext
    exact dinv_push hS hnext
  | likeArm neg r =>
    simp only [ha] at hnext
    exact dinv_push hS hnext
  | dotArm r =>
    simp only [ha] at hnext
    simp only
    split
    · exact dinv_fail _
    · split
      · split
        · exact dinv_loop_closed hS rfl hd1
        · exact dinv_loop_closed hS rfl hd1
        · exact dinv_fail _
      · exact dinv_loop_closed hS rfl (by rw [F_qual]; exact hnext)
      · exact dinv_fail _

theorem build_dinv {s : Nat} {S : List Frame} {ts : List Tok} (lk : LK) (acc : EL) (hS : StackInv S)
    (hF : S.length + 1 + FI acc ≤ MAX_DEPTH)
    (hsub : match lk with | .inl subj _ => S.length + needP subj ≤ MAX_DEPTH | _ => True) :
    DInv ⟨.loop (topM S) s (lk.build acc), S, ts⟩ := by
  cases lk with
  | args f d => exact dinv_loop_closed hS rfl (by rw [LK.build, F_call, ← Nat.add_assoc]; exact hF)
  | arr => exact dinv_loop_closed hS rfl (by rw [LK.build, F_array, ← Nat.add_assoc]; exact hF)
  | inl subj neg =>
    exact dinv_loop_closed hS rfl (by rw [LK.build, F_inList, add_max_le, ← Nat.add_assoc]; exact ⟨hsub, hF⟩)
  | tup =>
    cases acc with
    | nil => exact dinv_loop_closed hS rfl (by rw [FI_nil] at hF; exact hF)
    | cons a l =>
      cases l with
      | nil =>
        rw [FI_cons, FI_nil, Nat.max_zero] at hF
        exact dinv_loop_paren hS hF
      | cons b r =>
        refine dinv_loop_closed hS rfl ?_
        rw [LK.build, F_tuple, ← Nat.add_assoc]
        exact hF

theorem stepRet_dinv (e : E) (f : Frame) (S : List Frame) (ts : List Tok)
    (h : DInv ⟨.ret e, f :: S, ts⟩) : DInv (stepRet e f S ts) := by
  obtain ⟨⟨hfm, hK, hS⟩, h1, h2⟩ := h
  obtain ⟨k, fm, fs⟩ := f
  simp only [List.length_cons, topM] at hfm hK h1 h2
  subst hfm
  have hge := need_ge (retBp k) e
  have hpos := framesMin_pos e
  unfold stepRet
  cases k with
  | unary u =>
    simp only [retBp] at h1 hge
    exact dinv_loop_open hS rfl (by rw [F_un]; omega) h2
  | paren =>
    simp only [retBp, need_zero] at h1
    simp only
    split
    · exact dinv_push hS ⟨by rw [FI_cons, FI_nil]; omega, trivial⟩
    · exact expect_dinv fun r => dinv_loop_paren hS (by omega)
  | list lk acc =>
    simp only [retBp, need_zero] at h1
    have hF : S.length + 1 + FI (acc.snoc e) ≤ MAX_DEPTH := by rw [FI_snoc, add_max_le]; exact ⟨hK.1, h1⟩
    simp only
    split
    · exact dinv_push hS ⟨hF, hK.2⟩
    · exact expect_dinv fun r => build_dinv lk _ hS hF hK.2
  | binR l o =>
    simp only [retBp] at h1 h2
    refine dinv_loop hS (lbp o) hK.2 (lbp_le o) (fun m hm => ?_) (stops_loopNext h2 (by rw [rbp_eq]; omega))
    rw [need_of_le hm, F_bin, add_max_le]
    exact ⟨hK.1, by omega⟩
  | betLo subj neg => exact expect_dinv fun r => dinv_push hS ⟨hK, by simp only [retBp] at h1; omega⟩
  | betHi subj neg lo =>
    simp only [retBp] at h1
    refine dinv_loop_open hS rfl ?_ h2
    simp only [F_between, add_max_le, ← Nat.add_assoc]
    exact ⟨hK.1, hK.2, by omega⟩
  | likeP subj neg =>
    simp only [retBp] at h1
    exact dinv_loop_open hS rfl (by rw [F_like, add_max_le]; exact ⟨hK, by omega⟩) h2
  | caseOperand =>
    simp only [retBp, need_zero] at h1
    exact caseNext_dinv _ _ _ _ _ hS (by rw [FO_some]; omega) (by rw [FW_nil]; omega)
  | caseCond operand acc =>
    simp only [retBp, need_zero] at h1
    exact expect_dinv fun r => dinv_push hS ⟨hK.1, hK.2, by omega⟩
  | caseRes operand acc c =>
    simp only [retBp, need_zero] at h1
    refine caseNext_dinv _ _ _ _ _ hS hK.1 ?_
    simp only [FW_snoc, add_max_le]
    exact ⟨hK.2.1, hK.2.2, by omega⟩
  | caseElse operand c r rest =>
    simp only [retBp, need_zero] at h1
    refine expect_dinv fun r' => dinv_loop_closed hS rfl ?_
    simp only [F_case, FO_some, ← Nat.add_assoc, add_max_le]
    exact ⟨hK.1, hK.2.1, hK.2.2.1, hK.2.2.2, by omega⟩

theorem stepTop_dinv (mode : Mode) (e : E) (ts : List Tok) (h : DInv ⟨.ret e, [], ts⟩) :
    DInv (stepTop mode e ts) := by
  obtain ⟨_, h1, _⟩ := h
  simp only [List.length_nil, topM, need_zero, Nat.zero_add] at h1
  unfold stepTop
  cases mode with
  | stmt => exact ⟨trivial, h1⟩
  | expr =>
    cases ts with
    | nil => exact ⟨trivial, h1⟩
    | cons t r => exact dinv_fail _

theorem step_dinv (mode : Mode) (st : St) (h : DInv st) : DInv (step mode st) := by
  obtain ⟨ctl, S, ts⟩ := st
  cases ctl with
  | done r => exact h
  | start m => exact h.2 ▸ stepStart_dinv mode S ts h.1
  | loop m s lhs => exact stepLoop_dinv mode m s lhs S ts h
  | ret e =>
    cases S with
    | nil => exact stepTop_dinv mode e ts h
    | cons f S => exact stepRet_dinv e f S ts h

theorem run_dinv (mode : Mode) : ∀ (k : Nat) (st : St), DInv st → DInv (run mode k st) :=
  run_preserves (step_dinv mode)

theorem dinv_init (ts : List Tok) : DInv (init ts) := ⟨trivial, rfl⟩

end Neumann.Parse.Full
