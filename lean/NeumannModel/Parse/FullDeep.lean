import NeumannModel.Parse.FullRound
/-
  C15 — exactness of the depth accounting of the complete expression grammar model
  (`Parse/Full.lean`): a print that needs one frame too many is answered `TooDeep` (never
  mis-parsed, never another error).  The half of `GE` beyond the limit.  Core Lean only (no Mathlib).
-/
namespace Neumann.Parse.Full

def TDProp (mode : Mode) (extra : E → Bool) (e : E) : Prop :=
  ∀ (m : Nat) (S : List Frame) (X ts : List Tok), ts = printWith extra e ++ X → m ≤ topBp e →
    S.length ≤ MAX_DEPTH → MAX_DEPTH < S.length + framesWith extra e → TD mode ⟨.start m, S, ts⟩

def TailTD (mode : Mode) (extra : E → Bool) (l : EL) : Prop :=
  ∀ (lk : LK) (acc : EL) (e : E) (m s : Nat) (S : List Frame) (X ts : List Tok),
    ts = printTail extra l ++ lk.close :: X → S.length + 1 ≤ MAX_DEPTH →
    MAX_DEPTH < (S.length + 1) + framesItems extra l →
    TD mode ⟨.ret e, ⟨.list lk acc, m, s⟩ :: S, ts⟩

def WhensTD (mode : Mode) (extra : E → Bool) (l : WL) : Prop :=
  ∀ (operand : OE) (acc : WL) (c r : E) (els : OE) (m s : Nat) (S : List Frame) (X ts : List Tok),
    (∀ e, els = .some e → TDProp mode extra e) →
    ts = printWhens extra l ++ (printElse extra els ++ .endKw :: X) → S.length + 1 ≤ MAX_DEPTH →
    MAX_DEPTH < (S.length + 1) + max (framesWhens extra l) (framesOpt extra els) →
    TD mode ⟨.ret r, ⟨.caseRes operand acc c, m, s⟩ :: S, ts⟩

theorem TDTail (mode : Mode) (extra : E → Bool) : ∀ l : EL, TailTD mode extra l :=
  fun l lk acc e m s S X ts hts hS hd => (tailG (EL.all_of (GE mode extra) l) lk acc e m s S X ts hts hS).2 hd

theorem TDWhens (mode : Mode) (extra : E → Bool) : ∀ l : WL, WhensTD mode extra l :=
  fun l operand acc c r els m s S X ts _ hts hS hd =>
    (whensG (OE.all_of (GE mode extra) els) (WL.all_of (GE mode extra) l) operand acc c r m s S X ts hts hS).2 hd

end Neumann.Parse.Full
