import NeumannModel.Parse.Full
import NeumannModel.Parse.Lemmas
/-
  C15 — helper lemmas for the complete expression grammar model (`Parse/Full.lean`).
  Core Lean only (no Mathlib).
-/
namespace Neumann.Parse.Full

theorem step_done (mode : Mode) (r : Res) (S : List Frame) (ts : List Tok) :
    step mode ⟨.done r, S, ts⟩ = ⟨.done r, S, ts⟩ := rfl

theorem run_done (mode : Mode) (n : Nat) (r : Res) (S : List Frame) (ts : List Tok) :
    run mode n ⟨.done r, S, ts⟩ = ⟨.done r, S, ts⟩ := by
  induction n with
  | zero => rfl
  | succ n ih => simp only [run, step_done, ih]

theorem run_add (mode : Mode) (a b : Nat) (st : St) :
    run mode (a + b) st = run mode b (run mode a st) := by
  induction a generalizing st with
  | zero => simp [run]
  | succ a ih => rw [Nat.succ_add]; simp only [run]; exact ih _

theorem run_preserves {mode : Mode} {P : St → Prop} (h : ∀ st, P st → P (step mode st)) :
    ∀ (n : Nat) (st : St), P st → P (run mode n st)
  | 0, _, hst => hst
  | n+1, st, hst => run_preserves h n _ (h st hst)

def Reach (mode : Mode) (a b : St) : Prop := ∃ n, run mode n a = b

theorem Reach.refl (mode : Mode) (a : St) : Reach mode a a := ⟨0, rfl⟩

theorem Reach.trans {mode : Mode} {a b c : St} (h1 : Reach mode a b) (h2 : Reach mode b c) :
    Reach mode a c := by
  obtain ⟨n1, e1⟩ := h1
  obtain ⟨n2, e2⟩ := h2
  exact ⟨n1 + n2, by rw [run_add, e1, e2]⟩

theorem Reach.one {mode : Mode} {a b : St} (h : step mode a = b) : Reach mode a b :=
  ⟨1, by simp [run, h]⟩

theorem Reach.head {mode : Mode} {a b c : St} (h : step mode a = b) (h2 : Reach mode b c) :
    Reach mode a c := (Reach.one h).trans h2

/-- splits a bound on a maximum before `omega` sees the `max` -/
theorem add_max_le {n a b m : Nat} : n + max a b ≤ m ↔ n + a ≤ m ∧ n + b ≤ m := by
  rw [← Nat.add_max_add_left, Nat.max_le]

theorem EL.snoc_append : ∀ (a : EL) (e : E) (l : EL), (a.snoc e).append l = a.append (.cons e l)
  | .nil, _, _ => rfl
  | .cons x a, e, l => by simp only [EL.snoc, EL.append, EL.snoc_append a e l]

theorem EL.append_nil : ∀ a : EL, a.append .nil = a
  | .nil => rfl
  | .cons x a => by simp only [EL.append, EL.append_nil a]

theorem EL.snoc_eq_append (a : EL) (e : E) : a.snoc e = a.append (.cons e .nil) := by
  rw [← EL.snoc_append, EL.append_nil]

theorem WL.snoc_append : ∀ (a : WL) (c r : E) (l : WL), (a.snoc c r).append l = a.append (.cons c r l)
  | .nil, _, _, _ => rfl
  | .cons c0 r0 a, c, r, l => by simp only [WL.snoc, WL.append, WL.snoc_append a c r l]

theorem WL.append_nil : ∀ a : WL, a.append .nil = a
  | .nil => rfl
  | .cons c0 r0 a => by simp only [WL.append, WL.append_nil a]

def EL.All (P : E → Prop) : EL → Prop
  | .nil => True
  | .cons e l => P e ∧ l.All P

def WL.All (P : E → Prop) : WL → Prop
  | .nil => True
  | .cons c r l => P c ∧ P r ∧ l.All P

def OE.All (P : E → Prop) : OE → Prop
  | .none => True
  | .some e => P e

/-- structural induction on `E`; the seven leaves are taken together (`isCompound e = false`) -/
theorem E.ind {P : E → Prop}
    (atom : ∀ e, isCompound e = false → P e)
    (tuple : ∀ a b rest, P a → P b → rest.All P → P (.tuple a b rest))
    (un : ∀ u x, P x → P (.un u x))
    (bin : ∀ l o r, P l → P r → P (.bin l o r))
    (isNull : ∀ x neg, P x → P (.isNull x neg))
    (inList : ∀ x neg items, P x → items.All P → P (.inList x neg items))
    (between : ∀ x neg lo hi, P x → P lo → P hi → P (.between x neg lo hi))
    (like : ∀ x neg p, P x → P p → P (.like x neg p))
    (qual : ∀ x n, P x → P (.qual x n))
    (call : ∀ f d args, args.All P → P (.call f d args))
    (array : ∀ items, items.All P → P (.array items))
    (case : ∀ operand c r rest els, operand.All P → P c → P r → rest.All P → els.All P →
      P (.case operand c r rest els)) :
    ∀ e, P e :=
  E.rec (motive_1 := P) (motive_2 := EL.All P) (motive_3 := WL.All P) (motive_4 := OE.All P)
    (fun _ => atom _ rfl) (atom _ rfl) (fun _ => atom _ rfl) (fun _ => atom _ rfl) (atom _ rfl) (atom _ rfl)
    tuple un bin isNull inList between like qual (fun _ _ => atom _ rfl) call array case
    trivial (fun _ _ he hl => ⟨he, hl⟩) trivial (fun _ _ _ hc hr hl => ⟨hc, hr, hl⟩) trivial (fun _ he => he)

theorem EL.all_of {P : E → Prop} (h : ∀ e, P e) : ∀ l : EL, l.All P
  | .nil => trivial
  | .cons e l => ⟨h e, EL.all_of h l⟩

theorem WL.all_of {P : E → Prop} (h : ∀ e, P e) : ∀ l : WL, l.All P
  | .nil => trivial
  | .cons c r l => ⟨h c, h r, WL.all_of h l⟩

theorem OE.all_of {P : E → Prop} (h : ∀ e, P e) : ∀ o : OE, o.All P
  | .none => trivial
  | .some e => h e

/-- the head of the remaining input makes the loop of a frame running at `min_bp = b` stop without
    consuming anything: it is not a postfix starter, not `(`, and not an operator that binds at
    least as tightly as `b` -/
def headStops (b : Nat) (X : List Tok) : Prop :=
  (match loopArm X with
   | .stop => True
   | .binary o _ => lbp o < b
   | _ => False) ∧ X.head? ≠ some .lparen

theorem loop_stops {mode : Mode} {m s : Nat} {e : E} {S : List Frame} {X : List Tok}
    (h : headStops m X) : step mode ⟨.loop m s e, S, X⟩ = ⟨.ret e, S, X⟩ := by
  have h1 := h.1
  show stepLoop mode m s e S X = _
  unfold stepLoop
  split at h1
  · next ha => rw [ha]
  · next o r ha => rw [ha]; exact if_pos h1
  · exact h1.elim

theorem headStops_mono {a b : Nat} {X : List Tok} (h : a ≤ b) (hs : headStops a X) : headStops b X := by
  obtain ⟨h1, h2⟩ := hs
  refine ⟨?_, h2⟩
  cases ha : loopArm X <;> simp only [ha] at h1 ⊢
  omega

theorem headStops_nil (b : Nat) : headStops b [] := by simp [headStops, loopArm]

theorem headStops_op {b : Nat} {o : BinOp} {X : List Tok} (h : lbp o < b) : headStops b (.op o :: X) := by
  simp [headStops, loopArm, h]

theorem headStops_nolparen {b : Nat} {X : List Tok} (h : headStops b X) : X.head? ≠ some .lparen := h.2

end Neumann.Parse.Full
