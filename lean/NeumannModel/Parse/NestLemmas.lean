import NeumannModel.Parse.Nest
import NeumannModel.Parse.SelectLemmas
/- C15 — lemmas for the expression × subquery model (`Parse/Nest.lean`). Core Lean only. -/
namespace Neumann.Parse.Nest
open Neumann.Parse.Sel (Res SErr SExpect MAX_SELECT_DEPTH NF NF_bind bind_eq_ok bind_ok bind_error
  bind_outside OkP FuelLe fuel_transfer Adq tail_le)

/-- both limits are 64 in the code -/
theorem limits_ordered : MAX_DEPTH ≤ MAX_SELECT_DEPTH := by decide

@[simp] theorem expect_self (t : NTok) (x : SExpect) (r : List NTok) : expect t x (t :: r) = .ok r := by
  simp [expect]

theorem noAlias_ok {α : Type} (a : α) (r : List NTok) : OkP (fun p => p.1 = a ∧ p.2 = r) (noAlias a r) := by
  unfold noAlias
  split
  · exact OkP.outside
  · exact OkP.ok ⟨rfl, rfl⟩

theorem loopArm_in {ts r : List NTok} {neg : Bool} (h : loopArm ts = .inArm neg r) :
    r.length + 1 ≤ ts.length := by
  unfold loopArm at h
  split at h <;> simp_all

theorem loopArm_bin {ts r : List NTok} {o : BinOp} (h : loopArm ts = .binary o r) :
    r.length + 1 = ts.length := by
  unfold loopArm at h
  split at h <;> simp_all

theorem head_cons_tail {t : NTok} {r : List NTok} (h : r.head? = some t) : r = t :: r.tail := by
  cases r with
  | nil => simp at h
  | cons c l => simp only [List.head?_cons, Option.some.injEq] at h; rw [h]; rfl

/-- the FROM part of `bodyN`, with the fuel `bodyN` passes down -/
def fromN (maxS maxE fuel sd d : Nat) : List NTok → Res (Src × List NTok)
  | .fromKw :: r =>
    if r.head? = some NTok.lparen then
      (expect .select .select r.tail).bind fun r1 =>
      (bodyN maxS maxE fuel sd d r1).bind fun p =>
      (expect .rparen .rparen p.2).bind fun r2 => noAlias (Src.sub p.1) r2
    else
      (expectIdent r).bind fun p => noAlias (Src.tbl p.1) p.2
  | r => .ok (Src.none, r)

def whereN (maxS maxE fuel sd d : Nat) : List NTok → Res (Whr × List NTok)
  | .whereKw :: r => (exprN maxS maxE fuel sd d 0 r).bind fun p => .ok (Whr.cond p.1, p.2)
  | r => .ok (Whr.none, r)

theorem bodyN_succ (maxS maxE f sd d : Nat) (ts : List NTok) :
    bodyN maxS maxE (f+1) sd d ts =
      if sd + 1 > maxS then .error (.tooDeep ts.length) else
      (exprN maxS maxE f (sd+1) d 0 ts).bind fun p0 =>
      (noAlias p0.1 p0.2).bind fun pI =>
      (fromN maxS maxE f (sd+1) d pI.2).bind fun ps =>
      (whereN maxS maxE f (sd+1) d ps.2).bind fun pw => .ok (Q.mk pI.1 ps.1 pw.1, pw.2) := by
  rw [bodyN]; rfl

theorem loopN_succ (maxS maxE f sd d m : Nat) (lhs : E) (ts : List NTok) :
    loopN maxS maxE (f+1) sd d m lhs ts =
      match loopArm ts with
      | .stop => .ok (lhs, ts)
      | .inArm neg r =>
        (expect .lparen .lparen r).bind fun r1 =>
        if r1.head? = some .select then
          (bodyN maxS maxE f sd d r1.tail).bind fun p =>
          (expect .rparen .rparen p.2).bind fun r2 =>
          loopN maxS maxE f sd d m (.inSub lhs neg p.1) r2
        else if r1.head? = some .rparen then
          loopN maxS maxE f sd d m (.inNil lhs neg) r1.tail
        else
          (exprN maxS maxE f sd d 0 r1).bind fun p =>
          (expect .rparen .rparen p.2).bind fun r2 =>
          loopN maxS maxE f sd d m (.inOne lhs neg p.1) r2
      | .binary o r =>
        if lbp o < m then .ok (lhs, ts) else
        (exprN maxS maxE f sd d (rbp o) r).bind fun p =>
        loopN maxS maxE f sd d m (.bin lhs o p.1) p.2 := by
  rw [loopN]; rfl

theorem fromN_other {maxS maxE f sd d : Nat} {ts : List NTok} (h : ts.head? ≠ some .fromKw) :
    fromN maxS maxE f sd d ts = .ok (.none, ts) := by
  unfold fromN
  split
  · simp at h
  · rfl

theorem whereN_other {maxS maxE f sd d : Nat} {ts : List NTok} (h : ts.head? ≠ some .whereKw) :
    whereN maxS maxE f sd d ts = .ok (.none, ts) := by
  unfold whereN
  split
  · simp at h
  · rfl

theorem expect_adq {a g : Nat} (t : NTok) (x : SExpect) (ts : List NTok) :
    Adq a List.length 1 ts.length 0 g (expect t x ts) := by
  cases ts with
  | nil => exact .error nofun
  | cons c r =>
    simp only [expect]
    exact .ite (.ok (Nat.le_refl _)) (.error nofun)

theorem expectIdent_adq {a g : Nat} (ts : List NTok) :
    Adq a (·.2.length) 1 ts.length 0 g (expectIdent ts) := by
  cases ts with
  | nil => exact .error nofun
  | cons c r => cases c <;> first | exact .ok (Nat.le_refl _) | exact .error nofun

theorem noAlias_adq {α : Type} {a g : Nat} (x : α) (r : List NTok) :
    Adq a (·.2.length) 0 r.length 0 g (noAlias x r) :=
  .ite .outside (.ok (Nat.le_refl _))

theorem fromN_adq {maxS maxE f : Nat}
    (ihB : ∀ sd d ts, Adq 3 (·.2.length) 1 ts.length 3 f (bodyN maxS maxE f sd d ts)) (sd d : Nat)
    (ts : List NTok) : Adq 3 (·.2.length) 0 ts.length 0 f (fromN maxS maxE f sd d ts) := by
  unfold fromN
  split
  · next r =>
    split
    · exact (((expect_adq _ _ r.tail).shift (k := 1) (Nat.succ_le_succ (tail_le r))).bind fun r1 =>
        (ihB _ _ _).bind fun p => (expect_adq _ _ _).bind fun r2 => noAlias_adq _ _).weaken
    · exact (((expectIdent_adq r).shift (k := 1) (Nat.le_refl _)).bind fun p => noAlias_adq _ _).weaken
  · exact .ok (Nat.le_refl _)

theorem whereN_adq {maxS maxE f : Nat}
    (ihE : ∀ sd d m ts, Adq 3 (·.2.length) 1 ts.length 2 f (exprN maxS maxE f sd d m ts)) (sd d : Nat)
    (ts : List NTok) : Adq 3 (·.2.length) 0 ts.length 0 f (whereN maxS maxE f sd d ts) := by
  unfold whereN
  split
  · next r =>
    exact (((ihE sd d 0 r).shift (k := 1) (Nat.le_refl _)).bind
      (len' := fun p : Whr × List NTok => p.2.length) fun p => .ret (Nat.le_refl _)).weaken
  · exact .ok (Nat.le_refl _)

/-- every call consumes input (the loop possibly none); three units of fuel per token suffice -/
theorem adequate (maxS maxE : Nat) : ∀ f,
    (∀ sd d m ts, Adq 3 (·.2.length) 1 ts.length 2 f (exprN maxS maxE f sd d m ts)) ∧
    (∀ sd d ts, Adq 3 (·.2.length) 1 ts.length 1 f (prefixN maxS maxE f sd d ts)) ∧
    (∀ sd d m lhs ts, Adq 3 (·.2.length) 0 ts.length 1 f (loopN maxS maxE f sd d m lhs ts)) ∧
    (∀ sd d ts, Adq 3 (·.2.length) 1 ts.length 3 f (bodyN maxS maxE f sd d ts)) := by
  intro f
  induction f with
  | zero => exact ⟨fun _ _ _ _ => .fuel (by decide), fun _ _ _ => .fuel (by decide),
      fun _ _ _ _ _ => .fuel (by decide), fun _ _ _ => .fuel (by decide)⟩
  | succ f ih =>
    obtain ⟨ihE, ihP, ihL, ihB⟩ := ih
    refine ⟨?_, ?_, ?_, ?_⟩
    · intro sd d m ts
      simp only [exprN]
      split
      · exact .error nofun
      · exact .step ((ihP _ _ _).bind fun p => ihL _ _ _ _ _)
    · intro sd d ts
      cases ts with
      | nil => exact .error nofun
      | cons t rest =>
        have sub := fun m => (ihE sd d m rest).shift (k := 1) (Nat.le_refl (t :: rest).length)
        simp only [prefixN]
        cases prefixArm t with
        | num n | wildcard => exact .ok (Nat.le_refl _)
        | ident n =>
          simp only
          split
          · exact .outside
          · exact .ok (Nat.le_refl _)
        | paren =>
          simp only
          split
          · exact .ok (by simp only [List.length_tail, List.length_cons]; omega)
          · exact .step ((sub 0).bind fun p => (expect_adq _ _ _).bind fun r => .ret (Nat.le_refl _))
        | unary u => exact .step ((sub _).bind fun p => .ret (Nat.le_refl _))
        | existsArm =>
          exact .step (((expect_adq _ _ rest).shift (k := 1) (Nat.le_refl (t :: rest).length)).bind fun r1 =>
            (expect_adq _ _ _).bind fun r2 => (ihB _ _ _).bind fun p => (expect_adq _ _ _).bind fun r =>
            .ret (Nat.le_refl _))
        | unexpected => exact .error nofun
    · intro sd d m lhs ts
      rw [loopN_succ]
      cases ha : loopArm ts with
      | stop => exact .ok (Nat.le_refl _)
      | inArm neg r0 =>
        refine .step (((expect_adq _ _ r0).shift (k := 1) (loopArm_in ha)).bind fun r1 => .ite
          ((((ihB _ _ r1.tail).shift (k := 0) (tail_le r1)).bind fun p => (expect_adq _ _ _).bind fun r2 =>
            ihL _ _ _ _ _).weaken (δ := 0) (c := 3))
          (.ite ((ihL _ _ _ _ r1.tail).shift (k := 0) (tail_le r1)).weaken
            ((ihE _ _ 0 r1).bind fun p => (expect_adq _ _ _).bind fun r2 => ihL _ _ _ _ _).weaken))
      | binary o r0 =>
        simp only
        split
        · exact .ok (Nat.le_refl _)
        · exact .step (((ihE _ _ _ r0).shift (k := 1) (Nat.le_of_eq (loopArm_bin ha))).bind fun p =>
            ihL _ _ _ _ _)
    · intro sd d ts
      rw [bodyN_succ]
      split
      · exact .error nofun
      · exact .step ((ihE _ _ _ _).bind fun p0 => (noAlias_adq _ _).bind fun pI =>
          (fromN_adq ihB _ _ _).bind fun ps => (whereN_adq ihE _ _ _).bind fun pw => .ret (Nat.le_refl _))

theorem bounds (maxS maxE : Nat) : ∀ f,
    (∀ sd d m ts e r, exprN maxS maxE f sd d m ts = .ok (e, r) → r.length < ts.length) ∧
    (∀ sd d ts e r, prefixN maxS maxE f sd d ts = .ok (e, r) → r.length < ts.length) ∧
    (∀ sd d m lhs ts e r, loopN maxS maxE f sd d m lhs ts = .ok (e, r) → r.length ≤ ts.length) ∧
    (∀ sd d ts q r, bodyN maxS maxE f sd d ts = .ok (q, r) → r.length < ts.length) := by
  intro f
  obtain ⟨hE, hP, hL, hB⟩ := adequate maxS maxE f
  exact ⟨fun sd d m ts e r => (hE sd d m ts).1 (e, r), fun sd d ts e r => (hP sd d ts).1 (e, r),
    fun sd d m lhs ts e r => (hL sd d m lhs ts).1 (e, r), fun sd d ts q r => (hB sd d ts).1 (q, r)⟩

theorem mono (maxS maxE : Nat) : ∀ f,
    (∀ sd d m ts, FuelLe (exprN maxS maxE f sd d m ts) (exprN maxS maxE (f+1) sd d m ts)) ∧
    (∀ sd d ts, FuelLe (prefixN maxS maxE f sd d ts) (prefixN maxS maxE (f+1) sd d ts)) ∧
    (∀ sd d m lhs ts, FuelLe (loopN maxS maxE f sd d m lhs ts) (loopN maxS maxE (f+1) sd d m lhs ts)) ∧
    (∀ sd d ts, FuelLe (bodyN maxS maxE f sd d ts) (bodyN maxS maxE (f+1) sd d ts)) := by
  intro f
  induction f with
  | zero => exact ⟨fun _ _ _ _ => .fuel, fun _ _ _ => .fuel, fun _ _ _ _ _ => .fuel, fun _ _ _ => .fuel⟩
  | succ g ih =>
    obtain ⟨ihE, ihP, ihL, ihB⟩ := ih
    refine ⟨?_, ?_, ?_, ?_⟩
    · intro sd d m ts
      simp only [exprN]
      split
      · exact .refl _
      · exact (ihP _ _ _).bind fun p => ihL _ _ _ _ _
    · intro sd d ts
      cases ts with
      | nil => exact .refl _
      | cons t rest =>
        simp only [prefixN]
        cases prefixArm t with
        | num n | ident n | wildcard | unexpected => exact .refl _
        | paren =>
          simp only
          split
          · exact .refl _
          · exact (ihE _ _ _ _).bind fun p => .refl _
        | unary u => exact (ihE _ _ _ _).bind fun p => .refl _
        | existsArm =>
          exact (FuelLe.refl _).bind fun r1 => (FuelLe.refl _).bind fun r2 => (ihB _ _ _).bind fun p =>
            .refl _
    · intro sd d m lhs ts
      rw [loopN_succ _ _ g, loopN_succ _ _ (g+1)]
      cases loopArm ts with
      | stop => exact .refl _
      | inArm neg r0 =>
        refine (FuelLe.refl _).bind fun r1 => ?_
        split
        · exact (ihB _ _ _).bind fun p => (FuelLe.refl _).bind fun r2 => ihL _ _ _ _ _
        · split
          · exact ihL _ _ _ _ _
          · exact (ihE _ _ _ _).bind fun p => (FuelLe.refl _).bind fun r2 => ihL _ _ _ _ _
      | binary o r0 =>
        simp only
        split
        · exact .refl _
        · exact (ihE _ _ _ _).bind fun p => ihL _ _ _ _ _
    · intro sd d ts
      rw [bodyN_succ, bodyN_succ]
      split
      · exact .refl _
      · have hF : ∀ r, FuelLe (fromN maxS maxE g (sd+1) d r) (fromN maxS maxE (g+1) (sd+1) d r) := by
          intro r
          by_cases h : r.head? = some .fromKw
          · rw [head_cons_tail h]
            simp only [fromN]
            split
            · exact (FuelLe.refl _).bind fun r1 => (ihB _ _ _).bind fun p => .refl _
            · exact .refl _
          · rw [fromN_other h, fromN_other h]
            exact .refl _
        have hW : ∀ r, FuelLe (whereN maxS maxE g (sd+1) d r) (whereN maxS maxE (g+1) (sd+1) d r) := by
          intro r
          by_cases h : r.head? = some .whereKw
          · rw [head_cons_tail h]
            exact (ihE _ _ _ _).bind fun p => .refl _
          · rw [whereN_other h, whereN_other h]
            exact .refl _
        exact (ihE _ _ _ _).bind fun p0 => (FuelLe.refl _).bind fun pI => (hF _).bind fun ps =>
          (hW _).bind fun pw => .refl _

theorem body_fuel {maxS maxE f g sd d : Nat} {ts : List NTok} {r : Res (Q × List NTok)}
    (h : bodyN maxS maxE f sd d ts = r) (hr : NF r) (hg : 3 * ts.length + 3 ≤ g) :
    bodyN maxS maxE g sd d ts = r :=
  fuel_transfer (F := fun f => bodyN maxS maxE f sd d ts) (fun f => (mono maxS maxE f).2.2.2 sd d ts) h hr
    (((adequate maxS maxE g).2.2.2 sd d ts).2 hg)

/-! ### the two budgets are statement-wide -/

/-- `e`, parsed with `d` expression frames and `sd` bodies active, stays within both limits -/
def Fits (maxS maxE sd d : Nat) (e : E) : Prop :=
  d + e.frames ≤ maxE ∧ (sd ≤ maxS → sd + e.sdepth ≤ maxS)

theorem Fits.leaf {maxS maxE sd d : Nat} {e : E} (hd : d + 1 ≤ maxE) (h1 : e.frames = 1)
    (h2 : e.sdepth = 0) : Fits maxS maxE sd d e :=
  ⟨by omega, fun _ => by omega⟩

theorem Fits.un {maxS maxE sd d : Nat} {x : E} (u : UnOp) (a : Fits maxS maxE sd (d+1) x) :
    Fits maxS maxE sd d (.un u x) :=
  ⟨by have := a.1; simp only [E.frames]; omega, a.2⟩

theorem Fits.paren {maxS maxE sd d : Nat} {x : E} (a : Fits maxS maxE sd (d+1) x) :
    Fits maxS maxE sd d x :=
  ⟨by have := a.1; omega, a.2⟩

theorem add_max_le {d a b m : Nat} (ha : d + a ≤ m) (hb : d + b ≤ m) : d + max a b ≤ m := by omega

theorem Fits.node {maxS maxE sd d fl fx sl sx : Nat} {e : E} (hf : e.frames = max fl (1 + fx))
    (hs : e.sdepth = max sl sx) (h1 : d + fl ≤ maxE) (h2 : d + 1 + fx ≤ maxE)
    (h3 : sd ≤ maxS → sd + sl ≤ maxS) (h4 : sd ≤ maxS → sd + sx ≤ maxS) : Fits maxS maxE sd d e :=
  ⟨hf ▸ add_max_le h1 (Nat.add_assoc d 1 fx ▸ h2), fun hm => hs ▸ add_max_le (h3 hm) (h4 hm)⟩

theorem Fits.exists {maxS maxE sd d : Nat} {q : Q}
    (a : d + 1 + q.frames ≤ maxE ∧ sd + q.sdepth ≤ maxS) : Fits maxS maxE sd d (.exists q) :=
  ⟨by have := a.1; simp only [E.frames]; omega, fun _ => a.2⟩

/-- Whatever is accepted fits both limits, counted from the counters' values on entry: an
    expression entered with `d` frames active uses at most `maxE - d` more, a body entered with `d`
    expression frames and `sd` bodies active keeps all of its expressions — those of its subqueries
    included — within `maxE - d` further frames and its bodies within `maxS - sd`. -/
theorem fits (maxS maxE : Nat) : ∀ f,
    (∀ sd d m ts, OkP (fun p => Fits maxS maxE sd d p.1) (exprN maxS maxE f sd d m ts)) ∧
    (∀ sd d ts, d + 1 ≤ maxE → OkP (fun p => Fits maxS maxE sd d p.1) (prefixN maxS maxE f sd (d+1) ts)) ∧
    (∀ sd d m lhs ts, Fits maxS maxE sd d lhs →
        OkP (fun p => Fits maxS maxE sd d p.1) (loopN maxS maxE f sd (d+1) m lhs ts)) ∧
    (∀ sd d ts, OkP (fun p => d + p.1.frames ≤ maxE ∧ sd + p.1.sdepth ≤ maxS)
        (bodyN maxS maxE f sd d ts)) := by
  intro f
  induction f with
  | zero => exact ⟨fun _ _ _ _ => OkP.error, fun _ _ _ _ => OkP.error, fun _ _ _ _ _ _ => OkP.error,
      fun _ _ _ => OkP.error⟩
  | succ f ih =>
    obtain ⟨ihE, ihP, ihL, ihB⟩ := ih
    have any : ∀ {α : Type} (r : Res α), OkP (fun _ => True) r := fun _ _ _ => trivial
    refine ⟨?_, ?_, ?_, ?_⟩
    · intro sd d m ts
      simp only [exprN]
      split
      · exact OkP.error
      · next hd => exact (ihP _ _ _ (Nat.le_of_not_gt hd)).bind fun p a => ihL _ _ _ _ _ a
    · intro sd d ts hd
      cases ts with
      | nil => exact OkP.error
      | cons t rest =>
        simp only [prefixN]
        cases prefixArm t with
        | num n | wildcard => exact OkP.ok (.leaf hd rfl rfl)
        | ident n =>
          simp only
          split
          · exact OkP.outside
          · exact OkP.ok (.leaf hd rfl rfl)
        | paren =>
          simp only
          split
          · exact OkP.ok (.leaf hd rfl rfl)
          · exact (ihE _ _ _ _).bind fun p a => (any _).bind fun r _ => OkP.ok a.paren
        | unary u => exact (ihE _ _ _ _).bind fun p a => OkP.ok (a.un u)
        | existsArm =>
          exact (any _).bind fun r1 _ => (any _).bind fun r2 _ => (ihB _ _ _).bind fun p a =>
            (any _).bind fun r _ => OkP.ok (.exists a)
        | unexpected => exact OkP.error
    · intro sd d m lhs ts hl
      rw [loopN_succ]
      cases loopArm ts with
      | stop => exact OkP.ok hl
      | inArm neg r0 =>
        refine (any _).bind fun r1 _ => ?_
        split
        · exact (ihB _ _ _).bind fun p a => (any _).bind fun r2 _ => ihL _ _ _ _ _ (.node rfl rfl hl.1 a.1 hl.2 fun _ => a.2)
        · split
          · exact ihL _ _ _ _ _ hl
          · exact (ihE _ _ _ _).bind fun p a => (any _).bind fun r2 _ => ihL _ _ _ _ _ (.node rfl rfl hl.1 a.1 hl.2 a.2)
      | binary o r0 =>
        simp only
        split
        · exact OkP.ok hl
        · exact (ihE _ _ _ _).bind fun p a => ihL _ _ _ _ _ (.node rfl rfl hl.1 a.1 hl.2 a.2)
    · intro sd d ts
      rw [bodyN_succ]
      split
      · exact OkP.error
      · next hd =>
        have z : ∀ n, d + n ≤ maxE → d + 0 ≤ maxE ∧ sd + 1 + 0 ≤ maxS := fun n h => ⟨by omega, by omega⟩
        refine (ihE _ _ _ _).bind fun p0 a0 => (noAlias_ok _ _).bind fun pI eI =>
          OkP.bind (P' := fun ps => d + ps.1.frames ≤ maxE ∧ sd + 1 + ps.1.sdepth ≤ maxS) ?_ fun ps aS =>
          OkP.bind (P' := fun pw => d + pw.1.frames ≤ maxE ∧ sd + 1 + pw.1.sdepth ≤ maxS) ?_ fun pw aW =>
          OkP.ok ?_
        · unfold fromN
          split
          · split
            · exact (any _).bind fun r1 _ => (ihB _ _ _).bind fun p a => (any _).bind fun r2 _ =>
                (noAlias_ok _ _).imp fun q e => by rw [e.1]; exact a
            · exact (any _).bind fun p _ => (noAlias_ok _ _).imp fun q e => by rw [e.1]; exact z _ a0.1
          · exact OkP.ok (z _ a0.1)
        · unfold whereN
          split
          · exact (ihE _ _ _ _).bind fun p a => OkP.ok ⟨a.1, a.2 (by omega)⟩
          · exact OkP.ok (z _ a0.1)
        · rw [eI.1]
          exact ⟨add_max_le a0.1 (add_max_le aS.1 aW.1),
            Nat.add_assoc sd 1 _ ▸ add_max_le (a0.2 (Nat.le_of_not_gt hd)) (add_max_le aS.2 aW.2)⟩

/-! ### linear chains of frame openers: the exact position of `TooDeep` -/

theorem prefixArm_preTok (u : UnOp) (b : Bool) : prefixArm (preTok u b) = .unary u := by
  cases u <;> cases b <;> rfl

theorem opens_eq_flatten (l : List Opener) : opens l = (l.map Opener.toks).flatten := by
  induction l with
  | nil => rfl
  | cons o l ih => simp only [opens, ih, List.map_cons, List.flatten_cons]

theorem opens_append (a b : List Opener) : opens (a ++ b) = opens a ++ opens b := by
  simp only [opens_eq_flatten, List.map_append, List.flatten_append]

theorem opens_head (l : List Opener) (rest : List NTok) (h : rest.head? ≠ some .rparen) :
    (opens l ++ rest).head? ≠ some .rparen := by
  cases l with
  | nil => simpa [opens] using h
  | cons o l =>
    cases o with
    | pre u b => cases u <;> cases b <;> simp [opens, Opener.toks, preTok]
    | paren => simp [opens, Opener.toks]
    | inSel n neg => cases neg <;> simp [opens, Opener.toks]
    | exSel => simp [opens, Opener.toks]

/-- Prefix operators, parentheses and the frames that stay active around `IN ( SELECT` /
    `EXISTS ( SELECT` all draw on the same budget. (`maxE ≤ maxS` and `sd ≤ d + 1`: the select
    counter cannot fire earlier — when both fire it is at the same token.) -/
theorem chain_td (maxS maxE : Nat) (hSE : maxE ≤ maxS) : ∀ (l : List Opener) (fuel sd d m : Nat)
    (X : List NTok), sd ≤ d + 1 → d + l.length = maxE → 3 * l.length + 1 ≤ fuel →
    X.head? ≠ some .rparen →
    exprN maxS maxE fuel sd d m (opens l ++ X) = .error (.tooDeep X.length) := by
  intro l
  induction l with
  | nil =>
    intro fuel sd d m X hsd hd hf hr
    obtain ⟨f, rfl⟩ : ∃ f, fuel = f + 1 := ⟨fuel - 1, by omega⟩
    have hd : d = maxE := hd
    have : d + 1 > maxE := by omega
    simp only [exprN, this, if_true, opens, List.nil_append]
  | cons o l ih =>
    intro fuel sd d m X hsd hd hf hr
    simp only [List.length_cons] at hd hf
    obtain ⟨f, rfl⟩ : ∃ f, fuel = f + 3 := ⟨fuel - 3, by omega⟩
    have hnd : ¬ (d + 1 > maxE) := Nat.not_lt.2 (hd ▸ Nat.add_le_add_left (Nat.le_add_left 1 l.length) d)
    have hd' : d + 1 + l.length = maxE := (Nat.add_right_comm d 1 l.length).trans hd
    have hf' : 3 * l.length + 1 ≤ f :=
      Nat.le_of_succ_le_succ (Nat.le_of_succ_le_succ (Nat.le_of_succ_le_succ hf))
    have hexpr : ∀ m', exprN maxS maxE (f+1) sd (d+1) m' (opens l ++ X) = .error (.tooDeep X.length) :=
      fun m' => ih (f+1) sd (d+1) m' X (Nat.le_succ_of_le hsd) hd' (Nat.le_succ_of_le hf') hr
    -- the body entered by a subquery opener (fuel f+1), shared by `inSel` / `exSel`
    have hbody : bodyN maxS maxE (f+1) sd (d+1) (opens l ++ X) = .error (.tooDeep X.length) := by
      rw [bodyN_succ]
      by_cases hs : sd + 1 > maxS
      · -- both counters are at their limit: `l` is empty
        have : l = [] := List.eq_nil_of_length_eq_zero (by omega)
        rw [if_pos hs, this]
        rfl
      · rw [if_neg hs, ih f (sd+1) (d+1) 0 X (Nat.succ_le_succ hsd) hd' hf' hr]
        rfl
    simp only [opens, List.append_assoc]
    cases o with
    | pre u b =>
      simp only [Opener.toks, List.cons_append, List.nil_append]
      simp only [exprN, hnd, if_false]
      simp only [prefixN, prefixArm_preTok, hexpr, bind_error]
    | paren =>
      have hh := opens_head l X hr
      simp only [Opener.toks, List.cons_append, List.nil_append]
      simp only [exprN, hnd, if_false]
      simp only [prefixN, prefixArm, hh, if_false, hexpr, bind_error]
    | exSel =>
      simp only [Opener.toks, List.cons_append, List.nil_append]
      simp only [exprN, hnd, if_false]
      simp only [prefixN, prefixArm, expect_self, bind_ok, hbody, bind_error]
    | inSel n neg =>
      cases neg <;>
      · simp only [Opener.toks, List.cons_append, List.nil_append]
        simp only [exprN, hnd, if_false]
        simp only [prefixN, prefixArm, bind_ok]
        rw [loopN_succ]
        simp only [loopArm, expect_self, bind_ok, List.head?_cons, if_true, List.tail_cons, hbody,
          bind_error]

end Neumann.Parse.Nest

namespace Neumann.Parse.NestProps
open Neumann.Parse.Nest

/-- `levels` nested `IN` subqueries with `bangs` prefix operators each, the shape
    `SELECT !!…!7 IN ( SELECT !!…!7 IN ( … ( SELECT 1 ) … ) )` -/
def bangLevels (levels bangs : Nat) : List Opener :=
  (List.replicate levels (List.replicate bangs (Opener.pre .not true) ++ [Opener.inSel 7 false])).flatten

def bangText (levels bangs : Nat) : List NTok :=
  .select :: (opens (bangLevels levels bangs) ++ .num 1 :: List.replicate levels .rparen)

theorem bangLevels_length (levels bangs : Nat) :
    (bangLevels levels bangs).length = levels * (bangs + 1) := by
  simp [bangLevels, List.length_flatten, List.map_replicate, List.sum_replicate_nat]

theorem opens_bangLevels_length (levels bangs : Nat) :
    (opens (bangLevels levels bangs)).length = levels * (bangs + 4) := by
  have hsum : ∀ n : Nat,
      (List.replicate n (List.replicate bangs 1 ++ [4])).flatten.sum = n * (bangs + 4) := by
    intro n
    induction n with
    | zero => simp
    | succ n ih => simp [List.replicate_succ, ih, Nat.succ_mul]; omega
  simp [bangLevels, opens_eq_flatten, Opener.toks, hsum]

theorem bangText_length (levels bangs : Nat) :
    (bangText levels bangs).length = levels * (bangs + 5) + 2 := by
  simp [bangText, opens_bangLevels_length, Nat.mul_add]
  omega

end Neumann.Parse.NestProps

