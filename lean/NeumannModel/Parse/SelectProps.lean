import NeumannModel.Parse.SelectLemmas
/-
  C15 — property theorems for the SELECT-skeleton model (`Parse/Select.lean`): the second depth
  counter of `neumann_parser/src/parser.rs`, `select_depth` / `MAX_SELECT_DEPTH = 64`, which bounds
  the recursion `parse_select_body → parse_table_ref | parse_exists_expr → parse_select_body`.
  ONLY property statements and their non-vacuity examples live here.

  Scope: `SELECT * [FROM t | FROM ( SELECT … )] [WHERE EXISTS ( SELECT … )]`, arbitrarily nested.
  All statements are for ALL skeleton trees / ALL token lists over the skeleton alphabet; the only
  hypotheses are the depth limit the code itself imposes.  Inputs that leave the fragment are
  answered `Res.outside` by the model and no theorem says anything about the real parser there.
-/
namespace Neumann.Parse.SelectProps
open Neumann.Parse Neumann.Parse.Sel

/-- Totality / fuel adequacy: the fuel `|ts| + 1` is never exhausted — every token list yields a
    tree, a genuine parse error, or `outside`. -/
theorem select_total (ts : List STok) : parseStmt ts ≠ .error .fuel := by
  unfold parseStmt parseStmtWith
  split
  · next r =>
    have h := ((adequate MAX_SELECT_DEPTH MAX_DEPTH (Sel.fuelFor (.select :: r))).1 0 0 r).2
      (by simp [Sel.fuelFor])
    exact NF_bind h fun p _ => by simp [NF]
  · simp

/-- Determinism beyond "it is a function": the answer does not depend on how much fuel (≥ the
    adequate amount) the recursion is given. -/
theorem select_fuel_independent (ts : List STok) (f : Nat) (h : Sel.fuelFor ts ≤ f) :
    parseStmtWith MAX_SELECT_DEPTH MAX_DEPTH f ts = parseStmt ts := by
  unfold parseStmt parseStmtWith
  split
  · next r =>
    have hnf := ((adequate MAX_SELECT_DEPTH MAX_DEPTH (Sel.fuelFor (.select :: r))).1 0 0 r).2
      (by simp [Sel.fuelFor])
    rw [FuelLe.of_le (F := fun f => bodyN MAX_SELECT_DEPTH MAX_DEPTH f 0 0 r)
      (fun f => (mono MAX_SELECT_DEPTH MAX_DEPTH f).1 0 0 r) h hnf]
  · rfl

/-- Round trip: the text of every skeleton that needs at most `MAX_SELECT_DEPTH` nested
    `parse_select_body` frames parses back to exactly that skeleton. -/
theorem select_round_trip (q : Q) (h : sdepth q ≤ MAX_SELECT_DEPTH) :
    parseStmt (.select :: print q) = .ok q := by
  have hk := K MAX_SELECT_DEPTH MAX_DEPTH limits_ordered q _ 0 0 [] rfl (by omega) (Nat.le_refl _)
    (Nat.le_refl _)
  rw [List.append_nil] at hk
  exact parseStmt_select hk (by simp [NF])

/-- The depth hypothesis is exact: a skeleton that needs more than `MAX_SELECT_DEPTH` frames is
    rejected with `TooDeep` — never mis-parsed, never another error, never a stack overflow. -/
theorem select_too_deep (q : Q) (h : MAX_SELECT_DEPTH < sdepth q) :
    ∃ k, parseStmt (.select :: print q) = .error (.tooDeep k) := by
  obtain ⟨k, hk⟩ := TD MAX_SELECT_DEPTH MAX_DEPTH limits_ordered q _ 0 0 [] (by omega) (Nat.le_refl _)
    (Nat.le_refl _)
  rw [List.append_nil] at hk
  exact ⟨k, parseStmt_select hk (by simp [NF])⟩

/-- …so the round trip holds exactly when the skeleton fits the limit. -/
theorem select_ok_iff (q : Q) :
    parseStmt (.select :: print q) = .ok q ↔ sdepth q ≤ MAX_SELECT_DEPTH := by
  constructor
  · intro h
    apply Nat.le_of_not_lt
    intro hlt
    obtain ⟨k, hk⟩ := select_too_deep q hlt
    rw [hk] at h
    cases h
  · exact select_round_trip q

/-- a concrete non-trivial skeleton:
    `SELECT * FROM ( SELECT * FROM t1 WHERE EXISTS ( SELECT * ) ) WHERE EXISTS ( SELECT * FROM ( SELECT * FROM t2 ) )` -/
def sample : Q := .both (.whereSub (some 1) (.leaf none)) (.fromSub (.leaf (some 2)))

example : sdepth sample ≤ MAX_SELECT_DEPTH := by decide +kernel
example : print sample =
    [.star, .fromKw, .lparen, .select, .star, .fromKw, .tbl 1, .whereKw, .existsKw, .lparen, .select,
     .star, .rparen, .rparen, .whereKw, .existsKw, .lparen, .select, .star, .fromKw, .lparen, .select,
     .star, .fromKw, .tbl 2, .rparen, .rparen] := by rfl
example : parseStmt (.select :: print sample) = .ok sample := by rfl
-- genuine errors, with positions
example : parseStmt [.select, .star, .fromKw, .lparen, .other] = .error (.unexpected .select 1) := by rfl
example : parseStmt [.select, .star, .fromKw] = .error (.eof .identifier) := by rfl
example : parseStmt [.select, .star, .whereKw, .existsKw, .lparen, .select, .star] = .error (.eof .rparen) := by rfl
example : parseStmt [.select, .star, .whereKw, .select] = .error (.unexpected .expression 1) := by rfl
-- the explicit domain boundary: implicit alias, binary `*`, non-EXISTS condition
example : parseStmt [.select, .star, .fromKw, .tbl 1, .tbl 2] = .outside := by rfl
example : parseStmt [.select, .star, .star] = .outside := by rfl
example : parseStmt [.select, .star, .whereKw, .tbl 0] = .outside := by rfl
-- `parse()` does not look beyond the statement
example : parseStmt [.select, .star, .rparen, .other, .select] = .ok (.leaf none) := by rfl

/-- Soundness of acceptance: whatever token list is accepted, it IS the text of the returned
    skeleton (followed by tokens `parse()` never looks at), and that skeleton fits the limit.
    Together with `select_round_trip` the accepted language of the fragment is characterised
    exactly. -/
theorem select_ok_is_print (ts : List STok) (q : Q) (h : parseStmt ts = .ok q) :
    (∃ rest, ts = .select :: (print q ++ rest)) ∧ sdepth q ≤ MAX_SELECT_DEPTH := by
  unfold parseStmt parseStmtWith at h
  split at h
  · next r =>
    simp only [bind_eq_ok] at h
    obtain ⟨⟨q', r'⟩, hb, hq⟩ := h
    simp only [Res.ok.injEq] at hq
    subst hq
    obtain ⟨e, d⟩ : r = print q' ++ r' ∧ 0 + sdepth q' ≤ MAX_SELECT_DEPTH :=
      (sound MAX_SELECT_DEPTH MAX_DEPTH _).1 _ _ _ _ hb
    exact ⟨⟨r', by rw [e]⟩, by omega⟩
  · simp at h

/-- Normal form: an accepted input means the same as the print of its own parse. -/
theorem select_normal_form (ts : List STok) (q : Q) (h : parseStmt ts = .ok q) :
    parseStmt (.select :: print q) = .ok q :=
  select_round_trip q (select_ok_is_print ts q h).2

example : parseStmt (.select :: (print sample ++ [.other, .rparen])) = .ok sample := by rfl

/-- Exact position of the limit on linear chains, in every mixture of the subquery sites
    (`FROM ( SELECT`, `WHERE EXISTS ( SELECT`, `FROM t WHERE EXISTS ( SELECT`): once
    `MAX_SELECT_DEPTH` bodies are open, `TooDeep` is raised at the first token of the next body —
    whatever that token is (also at end of input), whatever follows, and independently of how
    much deeper the chain would go. `rem` counts the tokens from that position to the end. -/
theorem select_chain_too_deep_exact (sites : List Site) (rest : List STok)
    (h : MAX_SELECT_DEPTH ≤ sites.length) :
    parseStmt (.select :: (openers sites ++ rest)) =
      .error (.tooDeep ((openers (sites.drop MAX_SELECT_DEPTH)).length + rest.length)) := by
  have hk := chain_td MAX_SELECT_DEPTH MAX_DEPTH limits_ordered (sites.take MAX_SELECT_DEPTH) _ 0 0
    (openers (sites.drop MAX_SELECT_DEPTH) ++ rest) (by simp only [List.length_take]; omega) (Nat.le_refl _)
    (Nat.le_refl _)
  rw [← List.append_assoc, ← openers_append, List.take_append_drop] at hk
  rw [parseStmt_select hk (by simp [NF]), List.length_append]
  rfl

/-- The closed form: the text of a chain of `|sites| + 1 ≥ 65` bodies around any inner skeleton is
    rejected exactly at the first token of body 65: what remains is the text of the chain from
    body 65 on plus the 64 closing parentheses. -/
theorem select_chain_closed_too_deep_exact (inner : Q) (sites : List Site)
    (h : MAX_SELECT_DEPTH ≤ sites.length) :
    parseStmt (.select :: print (chain inner sites)) =
      .error (.tooDeep ((print (chain inner (sites.drop MAX_SELECT_DEPTH))).length + MAX_SELECT_DEPTH)) := by
  rw [print_chain, List.append_assoc, select_chain_too_deep_exact sites _ h, print_chain]
  simp only [List.length_append, List.length_replicate, List.length_drop]
  congr 2
  omega

/-- A linear chain of `k` bodies parses iff `k ≤ MAX_SELECT_DEPTH`. -/
theorem select_chain_ok_iff (o : Option Nat) (sites : List Site) :
    parseStmt (.select :: print (chain (.leaf o) sites)) = .ok (chain (.leaf o) sites)
      ↔ sites.length + 1 ≤ MAX_SELECT_DEPTH := by
  rw [select_ok_iff, sdepth_chain]
  simp [sdepth]

/-- Inside the fragment the expression counter `depth` never exceeds `select_depth`, so
    `MAX_DEPTH` never fires first: the answer of the parser is the same for every expression
    limit `≥ MAX_SELECT_DEPTH` (in particular for "no expression limit at all"), for ALL token
    lists and all fuel. -/
theorem select_expr_counter_never_fires (ts : List STok) (maxE fuel : Nat)
    (h : MAX_SELECT_DEPTH ≤ maxE) :
    parseStmtWith MAX_SELECT_DEPTH maxE fuel ts = parseStmtWith MAX_SELECT_DEPTH MAX_DEPTH fuel ts := by
  unfold parseStmtWith
  split
  · next r =>
    rw [(ed_irrelevant MAX_SELECT_DEPTH maxE MAX_DEPTH h limits_ordered fuel).1 0 0 r (Nat.le_refl _)]
  · rfl

/-- the 63-site chains of the three kinds and an alternating one: 64 bodies -/
def sites63 (k : Nat) : List Site :=
  match k with
  | 0 => List.replicate 63 .frm
  | 1 => List.replicate 63 (.exi none)
  | 2 => List.replicate 63 (.exi (some 7))
  | _ => (List.range 63).map fun i => if i % 3 = 0 then .frm else if i % 3 = 1 then .exi none else .exi (some i)

example : MAX_SELECT_DEPTH ≤ (Site.frm :: sites63 3).length := by decide +kernel
example : MAX_SELECT_DEPTH < sdepth (chain (.leaf none) (Site.frm :: sites63 3)) := by decide +kernel
example : (sites63 3).length + 1 ≤ MAX_SELECT_DEPTH := by decide +kernel
set_option maxRecDepth 20000 in
example : (openers (sites63 3)).length = 336 := by decide +kernel
-- the boundary is exact: a chain of 64 bodies parses, a chain of 65 does not
-- (evaluated on the flat text: `print` of a chain is quadratic for the kernel)
set_option maxRecDepth 20000 in
example : parseStmt (.select :: print (chain (.leaf none) (sites63 0))) = .ok (chain (.leaf none) (sites63 0)) := by
  rw [print_chain]; decide +kernel
set_option maxRecDepth 20000 in
example : parseStmt (.select :: print (chain (.leaf (some 1)) (sites63 3)))
    = .ok (chain (.leaf (some 1)) (sites63 3)) := by rw [print_chain]; decide +kernel
set_option maxRecDepth 20000 in
example : parseStmt (.select :: print (chain (.leaf none) (.frm :: sites63 0))) = .error (.tooDeep 65) := by
  rw [print_chain]; decide +kernel
set_option maxRecDepth 20000 in
example : parseStmt (.select :: print (chain (.leaf none) (.exi none :: sites63 1))) = .error (.tooDeep 65) := by
  rw [print_chain]; decide +kernel
-- 64 openers followed by nothing: TooDeep at the end-of-input position
set_option maxRecDepth 20000 in
example : parseStmt (.select :: openers (.frm :: sites63 2)) = .error (.tooDeep 0) := by decide +kernel
-- …and it is the select counter, not the expression counter, that fires: with an expression limit
-- of 1000 the answer is the same
set_option maxRecDepth 20000 in
example : parseStmtWith MAX_SELECT_DEPTH 1000 400 (.select :: print (chain (.leaf none) (.exi none :: sites63 1)))
    = .error (.tooDeep 65) := by rw [print_chain]; decide +kernel

end Neumann.Parse.SelectProps
