import NeumannModel.Parse.LexStr
/-
  C15 — what a string literal MEANS (`Lexer::scan_string`, `neumann_parser/src/lexer.rs`; model `scanStr`,
  specification `litValue`, canonical renderer `litRender`, all in `Parse/Lex.lean`).
  ONLY property statements and their non-vacuity examples live here.

  "Query text means one thing" needs more of a string token than a well-formed span: the VALUE it carries
  must be the value that was written, because that value is what INSERT / UPDATE / VAULT SET / BLOB PUT /
  NODE CREATE hand to the engine.  The specification `litValue q` reads the characters between two
  delimiters `q`: a doubled delimiter is one delimiter, a backslash escape is what the escape table says,
  EVERY other character — the quote character of the other kind included, alone or in a run — is itself.

  All statements are for every text, every value, both delimiters and every answer of the Unicode tables.
-/
namespace Neumann.Parse.Lex.StrProps

/-- THE CODE COMPUTES THE SPECIFICATION.  An opening quote `Q`, a body that means `v` (`litValue`), the closing
    quote `Q'`, then anything that does not go on with a further quote of that kind: `next_token` returns the
    string token with value `v`, spanning exactly the two delimiters and the body, and leaves `rest`. -/
theorem string_literal_scanned_to_its_value {Q Q' : Ch} (hq : IsQuote Q.cp) (hQ' : Q'.cp = Q.cp)
    {body : List Ch} {v : List Nat} (hv : litValue Q.cp (cps body) = some v) (p : Nat) (rest : List Ch)
    (hr : rest.head?.map Ch.cp ≠ some Q.cp) :
    scanToken p Q (body ++ Q' :: rest) =
      (⟨.str v, p, p + Q.len + bytes body + Q'.len⟩, p + Q.len + bytes body + Q'.len, rest) := by
  rw [scanToken_quote hq, scanStr_of_lit (Lit.of_value hv) hQ' hr body rfl [] (p + Q.len)]
  rfl

/-- … and nothing else is a string token: whenever `next_token` on a quote character returns a string token,
    the text it consumed is a body, the closing quote, and the token's value is what that body means. -/
theorem string_token_value_is_the_meaning_of_its_body {Q : Ch} (hq : IsQuote Q.cp) (p : Nat) (src : List Ch)
    {v : List Nat} (h : (scanToken p Q src).1.kind = .str v) :
    ∃ body Q' rest, src = body ++ Q' :: rest ∧ Q'.cp = Q.cp ∧ litValue Q.cp (cps body) = some v ∧
      (scanToken p Q src).2.2 = rest ∧ (scanToken p Q src).1.hi = p + Q.len + bytes body + Q'.len ∧
      rest.head?.map Ch.cp ≠ some Q.cp := by
  rw [scanToken_quote hq] at h ⊢
  cases hs : scanStr Q.cp [] (p + Q.len) src with
  | mk res pr =>
    obtain ⟨p', rest⟩ := pr
    rw [hs] at h
    cases res with
    | none => cases h
    | some w =>
      cases (Kind.str.inj h : w = v)
      obtain ⟨b, Q', vb, e', hQ', hv, rfl, ep, hn⟩ := lit_of_scanStr Q.cp src [] (p + Q.len) hs
      exact ⟨b, Q', rest, e', hQ', hv.value, rfl, ep, hn⟩

/-- ROUND TRIP.  For every value `v` and both delimiters: the canonical rendering of `v` (delimiter doubled,
    backslash doubled, newline as `\n`, every other character as it is) between two delimiters lexes to the
    string token with value `v` — from every position, whatever follows (unless a further quote of the
    delimiting kind follows directly, which would continue the literal). -/
theorem string_literal_round_trip {Q Q' : Ch} (hq : IsQuote Q.cp) (hQ' : Q'.cp = Q.cp) (v : List Nat)
    {body : List Ch} (hb : cps body = litRender Q.cp v) (p : Nat) (rest : List Ch)
    (hr : rest.head?.map Ch.cp ≠ some Q.cp) :
    scanToken p Q (body ++ Q' :: rest) =
      (⟨.str v, p, p + Q.len + bytes body + Q'.len⟩, p + Q.len + bytes body + Q'.len, rest) :=
  string_literal_scanned_to_its_value hq hQ' (by rw [hb]; exact litValue_litRender hq.ne92 v) p rest hr

/-- the specification alone: `scan (render v) = v` -/
theorem render_then_scan_is_identity {q : Nat} (hq : IsQuote q) (v : List Nat) :
    litValue q (litRender q v) = some v :=
  litValue_litRender hq.ne92 v

/-- ROUND TRIP of a whole text: `tokenize` of a text that begins with the rendered literal is the string token
    with value `v` followed by the tokens of the remaining text, moved to their place.  (A quote character is
    not whitespace in Rust's table; the model holds for every table, so this is a hypothesis here.) -/
theorem string_literal_round_trip_tokenize {Q Q' : Ch} (hq : IsQuote Q.cp) (hw : Q.ws = false) (hQ' : Q'.cp = Q.cp)
    (v : List Nat) {body : List Ch} (hb : cps body = litRender Q.cp v) (rest : List Ch)
    (hr : rest.head?.map Ch.cp ≠ some Q.cp) :
    lex (Q :: body ++ Q' :: rest) =
      ⟨.str v, 0, Q.len + bytes body + Q'.len⟩ :: (lex rest).map (Token.shift (Q.len + bytes body + Q'.len)) := by
  have hs : skip .normal 0 (Q :: (body ++ Q' :: rest)) = (0, Q :: (body ++ Q' :: rest)) := by
    cases hbr : body ++ Q' :: rest with
    | nil => simp at hbr
    | cons d r' =>
      rw [skip]
      rcases hq with h | h <;> simp [hw, h]
  have ht := string_literal_round_trip hq hQ' v hb 0 rest hr
  simp only [Nat.zero_add] at ht
  show lexN ((Q :: (body ++ Q' :: rest)).length + 1) 0 (Q :: (body ++ Q' :: rest)) = _
  rw [lexN]
  simp only [hs, ht]
  rw [lexN_as_lex _ _ rest (by simp; omega)]

/-- THE OTHER QUOTE KIND IS AN ORDINARY CHARACTER.  A body in which the delimiter, the backslash and the newline
    do not occur means exactly itself — whatever else occurs in it, in particular the quote character that is
    not the delimiter, alone, doubled or in a longer run: `'{"name":""}'` carries `{"name":""}`, `"it''s"`
    carries `it''s`. -/
theorem other_quote_kind_is_an_ordinary_character {Q Q' : Ch} (hq : IsQuote Q.cp) (hQ' : Q'.cp = Q.cp)
    {body : List Ch} (hb : ∀ c ∈ cps body, c ≠ Q.cp ∧ c ≠ 92 ∧ c ≠ 10) (p : Nat) (rest : List Ch)
    (hr : rest.head?.map Ch.cp ≠ some Q.cp) :
    (scanToken p Q (body ++ Q' :: rest)).1.kind = .str (cps body) := by
  rw [string_literal_scanned_to_its_value hq hQ' (litValue_plain_body (cps body) hb) p rest hr]

/-- UNIQUENESS UP TO ESCAPE SPELLING.  Two different bodies that mean the same value differ only by how an
    escape is spelled: they have a common prefix `w` made of whole items, after which at least one of the two
    goes on with a backslash; the two remainders again mean one common value (so the statement applies to
    them in turn). -/
theorem string_value_unique_up_to_escape_spelling (q : Nat) {b1 b2 v : List Nat} (h1 : litValue q b1 = some v)
    (h2 : litValue q b2 = some v) (hne : b1 ≠ b2) :
    ∃ w r1 r2 v0 v1, b1 = w ++ r1 ∧ b2 = w ++ r2 ∧ litValue q w = some v0 ∧ litValue q r1 = some v1 ∧
      litValue q r2 = some v1 ∧ v = v0 ++ v1 ∧ (r1.head? = some 92 ∨ r2.head? = some 92) :=
  (Lit.of_value h1).split (Lit.of_value h2) rfl hne

/-- INJECTIVITY.  On bodies without a backslash the meaning is injective: two literals that carry the same
    value are the same text.  (A value has exactly one spelling made of plain characters and doubled
    delimiters; no two different quote runs mean the same.) -/
theorem string_value_injective_without_escapes (q : Nat) {b1 b2 v : List Nat} (h1 : litValue q b1 = some v)
    (h2 : litValue q b2 = some v) (n1 : 92 ∉ b1) (n2 : 92 ∉ b2) : b1 = b2 :=
  litValue_injective_without_escapes q b1 b2 v h1 h2 n1 n2

/-! ### non-vacuity -/

/-- ASCII character with the answers Rust's tables give for it (for the examples) -/
def ascii (c : Char) : Ch :=
  ⟨c.toNat, c == ' ' || c == '\n' || c == '\t' || c == '\r', c.isAlphanum, [c.toUpper.toNat]⟩

def text (s : String) : List Ch := s.toList.map ascii

-- the specification on the texts of the regression: the doubled OTHER quote stays doubled
example : litValue 39 (cps (text "{\"a\":\"\"}")) = some (cps (text "{\"a\":\"\"}")) := by decide +kernel
example : litValue 34 (cps (text "it''s")) = some (cps (text "it''s")) := by decide +kernel
-- the doubled delimiter is one delimiter; escapes; what is not a body
example : litValue 39 (cps (text "it''s")) = some (cps (text "it's")) := by decide +kernel
example : litValue 39 (cps (text "a\\n\\'\\x")) = some [97, 10, 39, 92, 120] := by decide +kernel
example : litValue 39 (cps (text "a'b")) = none ∧ litValue 39 (cps (text "a\\")) = none ∧
    litValue 39 (cps (text "a\nb")) = none := by decide +kernel
-- the renderer, and the round trip on a value made of quotes of both kinds, a backslash and a newline
example : litRender 39 [39, 34, 34, 92, 10, 39, 39] = cps (text "''\"\"\\\\\\n''''") := by decide +kernel
example : litValue 39 (litRender 39 [39, 34, 34, 92, 10, 39, 39]) = some [39, 34, 34, 92, 10, 39, 39] :=
  render_then_scan_is_identity (Or.inl rfl) _
example : litValue 34 (litRender 34 [39, 34, 34, 92, 10, 39, 39]) = some [39, 34, 34, 92, 10, 39, 39] :=
  render_then_scan_is_identity (Or.inr rfl) _
-- the theorems at work on the lexer model
example : lex (text "'{\"\"}'") = [⟨.str [123, 34, 34, 125], 0, 6⟩, ⟨.eof, 6, 6⟩] := by decide +kernel
example : lex (text "'{\"\"}'") = ⟨.str [123, 34, 34, 125], 0, 1 + 4 + 1⟩ :: (lex []).map (Token.shift (1 + 4 + 1)) :=
  string_literal_round_trip_tokenize (Q := ascii '\'') (Q' := ascii '\'') (body := text "{\"\"}") (Or.inl rfl) rfl rfl
    [123, 34, 34, 125] (by decide +kernel) [] (by decide +kernel)
example : (scanToken 7 (ascii '"') (text "it''s" ++ ascii '"' :: text ", 1)")).1.kind = .str (cps (text "it''s")) :=
  other_quote_kind_is_an_ordinary_character (Q := ascii '"') (Q' := ascii '"') (body := text "it''s") (Or.inr rfl) rfl
    (by decide +kernel) 7 (text ", 1)") (by decide +kernel)
-- two spellings of one value: `\'` and `''`, they part at an item boundary where one has a backslash
example : litValue 39 (cps (text "a\\'b")) = some [97, 39, 98] ∧ litValue 39 (cps (text "a''b")) = some [97, 39, 98] := by
  decide +kernel

/-- The widened quote arm (`scanStrEitherQuoteCollapses`, `Lex.lean`: the arm for the delimiting quote matching
    either quote character) is NOT this scanner and does not satisfy the round trip: inside `'…'` the text `""`
    is two characters and inside `"…"` the text `''` is two characters — the code and the specification say so
    — while the variant collapses both to one, so the canonical rendering of the value `""` does not come back. -/
theorem either_quote_collapses_witness :
    (scanStr 39 [] 1 (text "{\"a\":\"\"}'")).1 = some (cps (text "{\"a\":\"\"}")) ∧
    (scanStrEitherQuoteCollapses 39 [] 1 (text "{\"a\":\"\"}'")).1 = some (cps (text "{\"a\":\"}")) ∧
    (scanStr 34 [] 1 (text "it''s\"")).1 = some (cps (text "it''s")) ∧
    (scanStrEitherQuoteCollapses 34 [] 1 (text "it''s\"")).1 = some (cps (text "it's")) ∧
    cps (text "\"\"") = litRender 39 [34, 34] ∧
    (scanStr 39 [] 1 (text "\"\"'")).1 = some [34, 34] ∧
    (scanStrEitherQuoteCollapses 39 [] 1 (text "\"\"'")).1 = some [34] := by
  decide +kernel

end Neumann.Parse.Lex.StrProps
