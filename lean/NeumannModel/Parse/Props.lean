import NeumannModel.Parse.Lemmas
/-
  C15 — property theorems for the expression parser model.  `parse` is the Pratt core of BOTH
  real parsers: `ExprParser` (`neumann_parser/src/expr.rs`) and, since /repo 59c7cb56, the copy
  embedded in the statement parser (`parser.rs`, `Parser::parse_expr_bp` with the same
  `MAX_DEPTH = 64` counter).  `parseNoLimit` is the statement parser's loop as it was BEFORE that
  fix (no counter); it appears only in the `…_witness` theorems at the end, which record what the
  pre-fix code did and that the fix changed nothing else.
  ONLY property statements and their non-vacuity examples live here.

  Scope: atoms (every primary and every postfix form is an opaque atom), `*`, `()`, the 19 binary
  operators with the binding powers of `infix_binding_power`, prefix `-` `NOT` `!` `~` at 19,
  parentheses, `MAX_DEPTH = 64`.  All statements are for ALL expressions / token lists; the only
  hypotheses are the depth limit the code itself imposes.
-/
namespace Neumann.Parse.Props
open Neumann.Parse

deriving instance DecidableEq for Except

/-- Totality / fuel adequacy: the model parser is a total function by construction and its fuel
    `2·|ts|+2` is never exhausted — every token list yields a tree or a genuine parse error. -/
theorem parse_total (ts : List Tok) : parse ts ≠ .error .fuel := fun h =>
  finish_avoids (fun _ => id) ((no_fuel MAX_DEPTH (fuelFor ts)).1 0 0 ts (Nat.le_refl _)) _ h trivial

/-- Determinism beyond "it is a function": the answer does not depend on how much fuel (≥ the
    adequate amount) the recursion is given — there is exactly one parse. -/
theorem parse_fuel_independent (ts : List Tok) (f : Nat) (h : fuelFor ts ≤ f) :
    parseWith f ts = parse ts := by
  unfold parse parseWith
  rw [mono_bp h ((no_fuel MAX_DEPTH (fuelFor ts)).1 0 0 ts (Nat.le_refl _)) rfl]

/-- An error carries a position inside the input: `TooDeep` / "unexpected token" point at one of
    the `|ts|` tokens (`rem` tokens from the end, `1 ≤ rem ≤ |ts|`; `TooDeep` may also point at
    the end-of-input position). -/
theorem parse_error_position_in_input (ts : List Tok) (e : PErr) (h : parse ts = .error e) :
    e.posOk ts.length := by
  unfold parse parseWith at h
  have hb := (bounds MAX_DEPTH (fuelFor ts)).1 0 0 ts
  cases hp : parseBpN MAX_DEPTH (fuelFor ts) 0 0 ts with
  | error e' =>
    rw [hp] at h hb
    simp only [finish, Except.error.injEq] at h
    subst h; exact hb
  | ok p =>
    obtain ⟨x, r⟩ := p
    rw [hp] at h hb
    simp only [ResOk, if_true] at hb
    cases r with
    | nil => simp [finish] at h
    | cons t r =>
      simp only [finish, Except.error.injEq] at h
      subst h
      simp only [PErr.posOk, List.length_cons] at hb ⊢
      omega

example : parse [.atom 0, .op .add, .other, .atom 1] = .error (.unexpected .expression 2) := by decide +kernel
example : parse [.atom 0, .rparen] = .error (.unexpected .endOfExpr 1) := by decide +kernel

/-- Round trip for every parenthesisation policy: print `e` with the parentheses the binding
    powers require plus arbitrary redundant ones (`extra`), and the parser returns exactly `e`,
    provided the print needs at most `MAX_DEPTH` nested frames (the limit the code imposes). -/
theorem parse_printWith (extra : Expr → Bool) (e : Expr) (h : framesWith extra e ≤ MAX_DEPTH) :
    parse (printWith extra e) = .ok e := by
  obtain ⟨f, hf⟩ := K_top extra MAX_DEPTH e h
  exact congrArg finish (at_fuelFor MAX_DEPTH hf .ok)

/-- The depth hypothesis is exact: a print that needs more than `MAX_DEPTH` nested frames is
    rejected with `TooDeep` (never mis-parsed, never another error). -/
theorem parse_printWith_too_deep (extra : Expr → Bool) (e : Expr) (h : MAX_DEPTH < framesWith extra e) :
    ∃ k, parse (printWith extra e) = .error (.tooDeep k) := by
  obtain ⟨k, hn, f, hf⟩ := TD extra MAX_DEPTH e 0 0 [] (Nat.zero_le _) (Nat.zero_le _) (by omega)
  rw [List.append_nil] at hf
  exact ⟨k, congrArg finish (at_fuelFor MAX_DEPTH hf hn)⟩

/-- …so the round trip holds exactly when the print fits the depth limit. -/
theorem parse_printWith_ok_iff (extra : Expr → Bool) (e : Expr) :
    parse (printWith extra e) = .ok e ↔ framesWith extra e ≤ MAX_DEPTH := by
  constructor
  · intro h
    apply Nat.le_of_not_lt
    intro hlt
    obtain ⟨k, hk⟩ := parse_printWith_too_deep extra e hlt
    rw [hk] at h
    cases h
  · exact parse_printWith extra e

/-- Precedence/associativity correctness: minimal parenthesisation parses back to the tree. -/
theorem parse_printMin (e : Expr) (h : framesMin e ≤ MAX_DEPTH) : parse (printMin e) = .ok e :=
  parse_printWith _ e h

/-- Parenthesising an expression the way the rules dictate — or more — never changes its parse. -/
theorem paren_invariance (extra : Expr → Bool) (e : Expr) (h : framesWith extra e ≤ MAX_DEPTH) :
    parse (printWith extra e) = parse (printMin e) := by
  rw [parse_printWith extra e h]
  exact (parse_printMin e (Nat.le_trans (frames_min_le extra e) h)).symm

/-- the instance the correspondence run exercises: fully parenthesised vs minimal -/
theorem paren_invariance_full (e : Expr) (h : framesWith isCompound e ≤ MAX_DEPTH) :
    parse (printFull e) = parse (printMin e) :=
  paren_invariance isCompound e h

/-- Whatever text was accepted, the tree it produced fits the depth limit when printed minimally
    (redundant parentheses only ever cost depth, they never buy any). -/
theorem parse_ok_fits_depth (ts : List Tok) (e : Expr) (h : parse ts = .ok e) :
    framesMin e ≤ MAX_DEPTH := by
  have := ((depth_used MAX_DEPTH (fuelFor ts)).1 0 0 ts e [] (by decide) (finish_eq_ok.1 h)).1
  rw [need_of_le (Nat.zero_le _)] at this
  omega

/-- Normal form: every accepted token list means the same as the minimal print of its own parse —
    `parse ∘ printMin ∘ parse = parse`.  Together with `parse_printWith` this says that two texts
    with the same tree are interchangeable and that the tree is the meaning. -/
theorem parse_normal_form (ts : List Tok) (e : Expr) (h : parse ts = .ok e) :
    parse (printMin e) = .ok e :=
  parse_printMin e (parse_ok_fits_depth ts e h)

-- redundant parentheses and `!` in the input, canonical text out, same tree
example : parse [.lparen, .lparen, .atom 1, .rparen, .op .mul, .atom 2, .rparen, .op .add, .bang, .lparen, .atom 3, .rparen]
    = .ok (.bin (.bin (.atom 1) .mul (.atom 2)) .add (.un .not (.atom 3))) := by decide +kernel
example : printMin (.bin (.bin (.atom 1) .mul (.atom 2)) .add (.un .not (.atom 3)))
    = [.atom 1, .op .mul, .atom 2, .op .add, .notKw, .atom 3] := by decide +kernel

/-- a concrete non-trivial instance: `(a1 + a2) * - (a3 OR ())  <  ~ * ` -/
def sample : Expr :=
  .bin (.bin (.bin (.atom 1) .add (.atom 2)) .mul (.un .neg (.bin (.atom 3) .or .unit))) .lt (.un .bitNot .wildcard)

example : framesWith (fun _ => true) sample ≤ MAX_DEPTH := by decide +kernel
example : framesMin sample ≤ MAX_DEPTH := by decide +kernel
example : printMin sample ≠ printFull sample := by decide +kernel
example : printMin sample =
    [.lparen, .atom 1, .op .add, .atom 2, .rparen, .op .mul, .op .sub, .lparen, .atom 3, .op .or,
     .lparen, .rparen, .rparen, .op .lt, .tilde, .op .mul] := by decide +kernel
example : parse (printMin sample) = .ok sample := by decide +kernel
example : parse (printFull sample) = .ok sample := by decide +kernel
-- left associativity and the level table are visible in the parse of unparenthesised input
example : parse [.atom 1, .op .sub, .atom 2, .op .sub, .atom 3] =
    .ok (.bin (.bin (.atom 1) .sub (.atom 2)) .sub (.atom 3)) := by decide +kernel
example : parse [.atom 1, .op .or, .atom 2, .op .and, .atom 3, .op .eq, .atom 4, .op .bitOr, .atom 5,
      .op .add, .atom 6, .op .mul, .op .sub, .atom 7] =
    .ok (.bin (.atom 1) .or (.bin (.atom 2) .and (.bin (.atom 3) .eq (.bin (.atom 4) .bitOr
      (.bin (.atom 5) .add (.bin (.atom 6) .mul (.un .neg (.atom 7)))))))) := by decide +kernel

/-- `!` and `NOT` are two spellings of the same prefix operator: replacing one by the other
    anywhere in any input (well-formed or not) changes neither the tree nor the error. -/
theorem bang_is_not (ts : List Tok) : parse (ts.map normBang) = parse ts := by
  unfold parse parseWith fuelFor
  rw [List.length_map, (bang_eq_not MAX_DEPTH _).1]
  cases hp : parseBpN MAX_DEPTH (2 * ts.length + 2) 0 0 ts with
  | error e => rfl
  | ok p =>
    obtain ⟨e, r⟩ := p
    cases r with
    | nil => rfl
    | cons t r => simp [mapRest, finish]

example : [Tok.bang, .atom 1, .op .and, .bang, .bang, .atom 2].map normBang
    = [.notKw, .atom 1, .op .and, .notKw, .notKw, .atom 2] := by decide +kernel

/-- Beyond the limit: any chain of at least `MAX_DEPTH` nesting tokens (`(`, prefix `-`, `NOT`,
    `!`, `~`, in any mixture) makes `parse` answer `TooDeep`, positioned at the token where frame
    65 would start, whatever follows (except that `()` directly after the chain is the empty
    tuple, which opens no frame). -/
theorem too_deep_is_error (pre rest : List Tok) (hp : ∀ t ∈ pre, isNester t = true)
    (hn : MAX_DEPTH ≤ pre.length) (hr : rest.head? ≠ some Tok.rparen) :
    parse (pre ++ rest) = .error (.tooDeep (pre.length - MAX_DEPTH + rest.length)) := by
  obtain ⟨f, hf⟩ := nester_chain MAX_DEPTH (pre.take MAX_DEPTH) (pre.drop MAX_DEPTH ++ rest)
    (fun t ht => hp t (List.mem_of_mem_take ht)) (nesters_head (fun t ht => hp t (List.mem_of_mem_drop ht)) hr)
    0 0 (by simp only [List.length_take]; omega)
  rw [← List.append_assoc, List.take_append_drop] at hf
  rw [show parse (pre ++ rest) = _ from congrArg finish (at_fuelFor MAX_DEPTH hf (.error id))]
  simp [finish]

-- 64 prefix operators need 65 frames: the hypothesis of `parse_printWith_too_deep` is satisfiable
example : MAX_DEPTH < framesMin (Nat.repeat (Expr.un .neg) 64 (.atom 0)) := by decide +kernel
example : ∀ t ∈ [Tok.lparen, .op .sub, .notKw, .bang, .tilde], isNester t = true := by decide +kernel
-- the boundary is exact: 63 prefix operators parse, 64 do not
example : (parse (List.replicate 63 (Tok.op .sub) ++ [.atom 0])).isOk = true := by decide +kernel
example : parse (List.replicate 64 (Tok.op .sub) ++ [.atom 0]) = .error (.tooDeep 1) := by decide +kernel
set_option maxRecDepth 8000 in
example : parse (List.replicate 64 Tok.lparen ++ .atom 0 :: List.replicate 64 Tok.rparen)
    = .error (.tooDeep 65) := by decide +kernel

/-! ### the statement parser before and after 59c7cb56 (regression witnesses)

`parseNoLimit` is the Pratt loop of `parser.rs` as it was before the fix: no depth counter, so
nothing but the machine stack bounded its recursion (finding
`neumann_parser::Parser::parse_expr_bp/stack_overflow`, fixed).  The theorems below describe that
old code and its relation to the current one; they are not claims about /repo HEAD except
`depth_limit_fix_is_conservative`. -/

/-- The fix is conservative: on every token list the old loop and the current parser give the same
    answer unless the current one says `TooDeep` — the counter changed the behaviour of exactly the
    inputs that need more than `MAX_DEPTH` nested frames. -/
theorem depth_limit_fix_is_conservative (ts : List Tok) (h : ∀ k, parse ts ≠ .error (.tooDeep k)) :
    parseNoLimit ts = parse ts := by
  unfold parse parseWith at h ⊢
  unfold parseNoLimit
  have h64 : Avoids PErr.isDeep (parseBpN MAX_DEPTH (fuelFor ts) 0 0 ts) := by
    intro e hp hd
    cases e with
    | tooDeep k => rw [hp] at h; exact h k rfl
    | _ => exact hd
  have hroom := (room_no_too_deep (ts.length + 2) (fuelFor ts)).1 0 0 ts (by omega)
  have a := (limit_mono (Nat.le_max_left MAX_DEPTH (ts.length + 2)) (fuelFor ts)).1 0 0 ts h64
  have b := (limit_mono (Nat.le_max_right MAX_DEPTH (ts.length + 2)) (fuelFor ts)).1 0 0 ts hroom
  rw [← a, b]

-- both sides of the hypothesis occur: a shallow input, and one the limit rejects
example : parseNoLimit [.atom 1, .op .add, .lparen, .atom 2, .rparen] = parse [.atom 1, .op .add, .lparen, .atom 2, .rparen] := by decide +kernel
example : ∀ k, parse [.atom 1, .op .add, .lparen, .atom 2, .rparen] ≠ .error (.tooDeep k) := by
  intro k h
  have : parse [.atom 1, .op .add, .lparen, .atom 2, .rparen] = .ok (.bin (.atom 1) .add (.atom 2)) := by
    decide +kernel
  rw [this] at h; cases h

/-- The old loop never answered `TooDeep`: every frame consumes a token before opening the next,
    so its recursion depth was bounded by the input length only. -/
theorem parseNoLimit_never_too_deep_witness (ts : List Tok) (k : Nat) :
    parseNoLimit ts ≠ .error (.tooDeep k) := fun h =>
  finish_avoids (fun _ => id) ((room_no_too_deep (ts.length + 2) (fuelFor ts)).1 0 0 ts (by omega)) _ h
    trivial

/-- The old loop round-tripped every expression at EVERY depth… -/
theorem parseNoLimit_printWith_witness (extra : Expr → Bool) (e : Expr) :
    parseNoLimit (printWith extra e) = .ok e := by
  obtain ⟨f, hf⟩ := K_top extra ((printWith extra e).length + 2) e
    (Nat.le_trans (frames_le_length extra e) (Nat.le_add_right _ 2))
  exact congrArg finish (at_fuelFor _ hf .ok)

/-- …in particular `n` prefix operators opened `n + 1` nested frames for every `n` (the stack
    overflow), where the current parser stops at 64: the two differ on exactly these inputs. -/
theorem parseNoLimit_unbounded_recursion_witness (n k : Nat) :
    parseNoLimit (List.replicate n (Tok.op .sub) ++ [Tok.atom k])
      = .ok (Nat.repeat (Expr.un .neg) n (.atom k)) ∧
    (MAX_DEPTH ≤ n → parse (List.replicate n (Tok.op .sub) ++ [Tok.atom k])
      = .error (.tooDeep (n - MAX_DEPTH + 1))) := by
  constructor
  · have h : ∀ n, printWith (fun _ => false) (Nat.repeat (Expr.un .neg) n (.atom k))
        = List.replicate n (Tok.op .sub) ++ [Tok.atom k] := by
      intro n
      induction n with
      | zero => rfl
      | succ n ih =>
        have hb : ∀ n, topBp (Nat.repeat (Expr.un .neg) n (.atom k)) = 100 := by
          intro n; cases n <;> rfl
        simp only [Nat.repeat, printWith, unTok, hb, Bool.false_or, ih, List.replicate_succ,
          List.cons_append]
        simp [wrap, PREFIX_BP]
    rw [← h n]
    exact parseNoLimit_printWith_witness _ _
  · intro hn
    have := too_deep_is_error (List.replicate n (Tok.op .sub)) [Tok.atom k]
      (by intro t ht; rw [List.eq_of_mem_replicate ht]; rfl) (by simpa using hn) (by simp)
    simpa using this

example : (parseNoLimit (List.replicate 64 (Tok.op .sub) ++ [.atom 0])).isOk = true := by decide +kernel

end Neumann.Parse.Props
