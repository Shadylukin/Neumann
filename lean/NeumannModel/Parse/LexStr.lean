import NeumannModel.Parse.LexLocal
/-
  C15 — lemmas about string literals: the loop `scanStr` of the lexer model against the specification
  `litValue` (what the characters between the delimiters mean) and the canonical renderer `litRender`
  (`Parse/Lex.lean`).  Statements for the property file `LexStrProps.lean`.

  `Lit q b v` is `litValue q b = some v` as a derivation, item by item; the statements about bodies are
  proved by induction on it.
-/
namespace Neumann.Parse.Lex

def cps (b : List Ch) : List Nat := b.map Ch.cp

@[simp] theorem cps_nil : cps [] = [] := rfl
@[simp] theorem cps_cons (c : Ch) (r : List Ch) : cps (c :: r) = c.cp :: cps r := rfl
theorem cps_append (a b : List Ch) : cps (a ++ b) = cps a ++ cps b := by simp [cps]

theorem cps_eq_cons {b : List Ch} {c : Nat} {r : List Nat} (h : cps b = c :: r) :
    ∃ x b', b = x :: b' ∧ x.cp = c ∧ cps b' = r := by
  cases b with
  | nil => cases h
  | cons x b' => exact ⟨x, b', rfl, (List.cons.inj h).1, (List.cons.inj h).2⟩

/-- the body `b` consists of whole items — the delimiter twice, a backslash and the character after it, any
    other character but the newline — and means `v` -/
inductive Lit (q : Nat) : List Nat → List Nat → Prop
  | nil : Lit q [] []
  | quote {b v : List Nat} : Lit q b v → Lit q (q :: q :: b) (q :: v)
  | esc {b v : List Nat} (d : Nat) : q ≠ 92 → Lit q b v → Lit q (92 :: d :: b) (escape d ++ v)
  | plain {b v : List Nat} {c : Nat} : c ≠ q → c ≠ 92 → c ≠ 10 → Lit q b v → Lit q (c :: b) (c :: v)

theorem litValue_nil (q : Nat) : litValue q [] = some [] := by rw [litValue]

theorem litValue_cons (q c : Nat) (r : List Nat) : litValue q (c :: r) =
    if c = q then
      (match r with
       | d :: r' => if d = q then (litValue q r').map (q :: ·) else none
       | [] => none)
    else if c = 92 then
      (match r with
       | d :: r' => (litValue q r').map (escape d ++ ·)
       | [] => none)
    else if c = 10 then none
    else (litValue q r).map (c :: ·) := by
  conv => lhs; rw [litValue.eq_def]
  rfl

theorem litValue_dq (q : Nat) (r : List Nat) : litValue q (q :: q :: r) = (litValue q r).map (q :: ·) := by
  rw [litValue_cons, if_pos rfl]; exact if_pos rfl

theorem litValue_esc {q : Nat} (h : q ≠ 92) (d : Nat) (r : List Nat) :
    litValue q (92 :: d :: r) = (litValue q r).map (escape d ++ ·) := by
  rw [litValue_cons, if_neg (Ne.symm h), if_pos rfl]

theorem litValue_plain {q c : Nat} (h1 : c ≠ q) (h2 : c ≠ 92) (h3 : c ≠ 10) (r : List Nat) :
    litValue q (c :: r) = (litValue q r).map (c :: ·) := by
  rw [litValue_cons, if_neg h1, if_neg h2, if_neg h3]

theorem Lit.value {q : Nat} {b v : List Nat} (h : Lit q b v) : litValue q b = some v := by
  induction h with
  | nil => exact litValue_nil q
  | quote _ ih => rw [litValue_dq, ih]; rfl
  | esc d hq _ ih => rw [litValue_esc hq, ih]; rfl
  | plain h1 h2 h3 _ ih => rw [litValue_plain h1 h2 h3, ih]; rfl

theorem Lit.of_value {q : Nat} {b v : List Nat} (h : litValue q b = some v) : Lit q b v := by
  fun_induction litValue q b generalizing v with
  | case1 => cases h; exact .nil
  | case2 r ih => obtain ⟨v', hv, rfl⟩ := Option.map_eq_some_iff.1 h; exact .quote (ih hv)
  | case5 d r hq ih => obtain ⟨v', hv, rfl⟩ := Option.map_eq_some_iff.1 h; exact .esc d (Ne.symm hq) (ih hv)
  | case8 c r h1 h2 h3 ih => obtain ⟨v', hv, rfl⟩ := Option.map_eq_some_iff.1 h; exact .plain h1 h2 h3 (ih hv)
  | case3 | case4 | case6 | case7 => cases h

theorem escape_ne_nil (d : Nat) : escape d ≠ [] := by
  fun_cases escape d <;> exact List.cons_ne_nil _ _

theorem Lit.eq_nil {q : Nat} {b v : List Nat} (h : Lit q b v) (hv : v = []) : b = [] := by
  cases h with
  | nil => rfl
  | quote _ => cases hv
  | esc d _ _ => exact absurd (List.append_eq_nil_iff.1 hv).1 (escape_ne_nil d)
  | plain _ _ _ _ => cases hv

theorem litRender_nil (q : Nat) : litRender q [] = [] := rfl
theorem litRender_cons (q c : Nat) (v : List Nat) : litRender q (c :: v) = renderCp q c ++ litRender q v := by
  simp [litRender]

theorem Lit.renderCp {q : Nat} (hq : q ≠ 92) (c : Nat) {b v : List Nat} (h : Lit q b v) :
    Lit q (renderCp q c ++ b) (c :: v) := by
  unfold Lex.renderCp
  split
  · next h1 => subst h1; exact .quote h
  · split
    · next h2 => subst h2; exact .esc 92 hq h
    · split
      · next h3 => subst h3; exact .esc 110 hq h
      · next h1 h2 h3 => exact .plain h1 h2 h3 h

/-- ROUND TRIP on code points: the canonical rendering of `v` means `v`. -/
theorem litValue_litRender {q : Nat} (hq : q ≠ 92) (v : List Nat) : litValue q (litRender q v) = some v := by
  refine Lit.value ?_
  induction v with
  | nil => exact .nil
  | cons c v ih => rw [litRender_cons]; exact ih.renderCp hq c

theorem litValue_plain_body {q : Nat} (b : List Nat) (h : ∀ c ∈ b, c ≠ q ∧ c ≠ 92 ∧ c ≠ 10) :
    litValue q b = some b := by
  refine Lit.value ?_
  induction b with
  | nil => exact .nil
  | cons c r ih =>
    have hc := h c List.mem_cons_self
    exact .plain hc.1 hc.2.1 hc.2.2 (ih fun x hx => h x (List.mem_cons_of_mem _ hx))

theorem scanStr_plain {q : Nat} {c : Ch} (h1 : c.cp ≠ q) (h2 : c.cp ≠ 92) (h3 : c.cp ≠ 10) (acc : List Nat) (p : Nat)
    (r : List Ch) : scanStr q acc p (c :: r) = scanStr q (c.cp :: acc) (p + c.len) r := by
  cases r with
  | nil => conv => lhs; rw [scanStr, if_neg h1, if_neg h2, if_neg h3]
  | cons d r' => rw [scanStr_cons2, if_neg h1, if_neg h2, if_neg h3]

theorem scanStr_close (q : Nat) (acc : List Nat) (p : Nat) (Q : Ch) (rest : List Ch) (hQ : Q.cp = q)
    (hr : rest.head?.map Ch.cp ≠ some q) :
    scanStr q acc p (Q :: rest) = (some acc.reverse, p + Q.len, rest) := by
  cases rest with
  | nil => rw [scanStr, if_pos hQ]
  | cons d r' => rw [scanStr_cons2, if_pos hQ, if_neg fun hd => hr (congrArg some hd)]

/-- FORWARD: a body that means `v`, followed by the closing delimiter (itself not followed by a further
    delimiter), is scanned to the value `v`, ending exactly behind the closing delimiter. -/
theorem scanStr_of_lit {q : Nat} {bs v : List Nat} (h : Lit q bs v) {Q : Ch} {rest : List Ch} (hQ : Q.cp = q)
    (hr : rest.head?.map Ch.cp ≠ some q) : ∀ (b : List Ch), cps b = bs → ∀ (acc : List Nat) (p : Nat),
    scanStr q acc p (b ++ Q :: rest) = (some (acc.reverse ++ v), p + bytes b + Q.len, rest) := by
  induction h with
  | nil =>
    intro b hb acc p
    cases List.map_eq_nil_iff.1 hb
    rw [List.nil_append, scanStr_close q acc p Q rest hQ hr, List.append_nil]
    rfl
  | quote _ ih =>
    intro b hb acc p
    obtain ⟨x, b, rfl, hx, hb⟩ := cps_eq_cons hb
    obtain ⟨y, b, rfl, hy, hb⟩ := cps_eq_cons hb
    rw [List.cons_append, List.cons_append, scanStr_cons2, if_pos hx, if_pos hy, ih b hb]
    simp only [List.reverse_cons, List.append_assoc, List.singleton_append, bytes, Nat.add_assoc]
  | esc d hq _ ih =>
    intro b hb acc p
    obtain ⟨x, b, rfl, hx, hb⟩ := cps_eq_cons hb
    obtain ⟨y, b', rfl, rfl, hb'⟩ := cps_eq_cons hb
    rw [List.cons_append, List.cons_append, scanStr_cons2, if_neg fun e => hq (e.symm.trans hx), if_pos hx, ih b' hb']
    simp only [List.reverse_append, List.reverse_reverse, List.append_assoc, bytes, Nat.add_assoc]
  | plain h1 h2 h3 _ ih =>
    intro b hb acc p
    obtain ⟨x, b', rfl, rfl, hb'⟩ := cps_eq_cons hb
    rw [List.cons_append, scanStr_plain h1 h2 h3, ih b' hb']
    simp only [List.reverse_cons, List.append_assoc, List.singleton_append, bytes, Nat.add_assoc]

/-- BACKWARD: whenever the loop ends a literal, what it consumed is a body, the closing delimiter, and the
    value is what that body means; the character after the closing delimiter is not a delimiter. -/
theorem lit_of_scanStr (q : Nat) (src : List Ch) (acc : List Nat) (p : Nat) {v : List Nat} {p' : Nat}
    {rest : List Ch} (h : scanStr q acc p src = (some v, p', rest)) :
    ∃ b Q vb, src = b ++ Q :: rest ∧ Q.cp = q ∧ Lit q (cps b) vb ∧ v = acc.reverse ++ vb ∧
      p' = p + bytes b + Q.len ∧ rest.head?.map Ch.cp ≠ some q := by
  fun_induction scanStr q acc p src with
  | case1 => cases h
  | case2 acc p c h1 d r hd ih =>
    obtain ⟨b, Q, vb, e, hQ, hv, ev, ep, hn⟩ := ih h
    refine ⟨c :: d :: b, Q, q :: vb, by rw [e]; rfl, hQ, ?_, ?_, ?_, hn⟩
    · rw [cps_cons, cps_cons, h1, hd]; exact .quote hv
    · rw [ev, List.reverse_cons, List.append_assoc]; rfl
    · rw [ep]; simp only [bytes, Nat.add_assoc]
  | case3 acc p c h1 d r hd =>
    cases h
    exact ⟨[], c, [], rfl, h1, .nil, (List.append_nil _).symm, rfl, fun e => hd (Option.some.inj e)⟩
  | case4 acc p c h1 =>
    cases h
    exact ⟨[], c, [], rfl, h1, .nil, (List.append_nil _).symm, rfl, nofun⟩
  | case5 acc p c h1 h2 d r ih =>
    obtain ⟨b, Q, vb, e, hQ, hv, ev, ep, hn⟩ := ih h
    refine ⟨c :: d :: b, Q, escape d.cp ++ vb, by rw [e]; rfl, hQ, ?_, ?_, ?_, hn⟩
    · rw [cps_cons, cps_cons, h2]; exact .esc d.cp (fun hq => h1 (h2.trans hq.symm)) hv
    · rw [ev, List.reverse_append, List.reverse_reverse, List.append_assoc]
    · rw [ep]; simp only [bytes, Nat.add_assoc]
  | case6 | case7 => cases h
  | case8 acc p c r h1 h2 h3 ih =>
    obtain ⟨b, Q, vb, e, hQ, hv, ev, ep, hn⟩ := ih h
    refine ⟨c :: b, Q, c.cp :: vb, by rw [e]; rfl, hQ, .plain h1 h2 h3 hv, ?_, ?_, hn⟩
    · rw [ev, List.reverse_cons, List.append_assoc]; rfl
    · rw [ep]; simp only [bytes, Nat.add_assoc]

/-- `b1` and `b2` have a common prefix `w` of whole items, after which one of them goes on with a backslash
    escape; the remainders have one common value -/
def Split (q : Nat) (b1 b2 v : List Nat) : Prop :=
  ∃ w r1 r2 v0 v1, b1 = w ++ r1 ∧ b2 = w ++ r2 ∧ litValue q w = some v0 ∧ litValue q r1 = some v1 ∧
    litValue q r2 = some v1 ∧ v = v0 ++ v1 ∧ (r1.head? = some 92 ∨ r2.head? = some 92)

theorem Split.cons {q : Nat} {b1 b2 v : List Nat} (h : Split q b1 b2 v) {i i' : List Nat}
    (hi : ∀ {w v0}, Lit q w v0 → Lit q (i ++ w) (i' ++ v0)) : Split q (i ++ b1) (i ++ b2) (i' ++ v) := by
  obtain ⟨w, r1, r2, v0, v1, rfl, rfl, gw, gr1, gr2, rfl, hb⟩ := h
  exact ⟨i ++ w, r1, r2, i' ++ v0, v1, (List.append_assoc ..).symm, (List.append_assoc ..).symm,
    (hi (Lit.of_value gw)).value, gr1, gr2, (List.append_assoc ..).symm, hb⟩

/-- UNIQUENESS UP TO ESCAPES.  Two different bodies with the same value part at an item boundary where at
    least one of them has a backslash escape. -/
theorem Lit.split {q : Nat} {b1 v : List Nat} (h1 : Lit q b1 v) :
    ∀ {b2 v2 : List Nat}, Lit q b2 v2 → v2 = v → b1 ≠ b2 → Split q b1 b2 v := by
  have start {b1 b2 v : List Nat} (g1 : Lit q b1 v) (g2 : Lit q b2 v) (hb : b1.head? = some 92 ∨ b2.head? = some 92) :
      Split q b1 b2 v := ⟨[], b1, b2, [], v, rfl, rfl, litValue_nil q, g1.value, g2.value, rfl, hb⟩
  induction h1 with
  | nil =>
    intro b2 v2 h2 hv hne
    exact absurd (h2.eq_nil hv).symm hne
  | esc d hq g1 _ =>
    intro b2 v2 h2 hv _
    exact start (.esc d hq g1) (hv ▸ h2) (.inl rfl)
  | quote g1 ih =>
    intro b2 v2 h2 hv hne
    cases h2 with
    | nil => cases hv
    | esc d hq g2 => exact start (.quote g1) (hv ▸ .esc d hq g2) (.inr rfl)
    | quote g2 =>
      exact (ih g2 (List.cons.inj hv).2 fun e => hne (by rw [e])).cons (i := [q, q]) (i' := [q]) .quote
    | plain c1 _ _ _ => exact absurd (List.cons.inj hv).1 c1
  | plain a1 a2 a3 g1 ih =>
    intro b2 v2 h2 hv hne
    cases h2 with
    | nil => cases hv
    | esc d hq g2 => exact start (.plain a1 a2 a3 g1) (hv ▸ .esc d hq g2) (.inr rfl)
    | quote g2 => exact absurd (List.cons.inj hv).1.symm a1
    | plain c1 c2 c3 g2 =>
      cases (List.cons.inj hv).1
      exact (ih g2 (List.cons.inj hv).2 fun e => hne (by rw [e])).cons (i := [_]) (i' := [_]) (.plain a1 a2 a3)

theorem litValue_injective_without_escapes (q : Nat) (b1 b2 : List Nat) (v : List Nat)
    (h1 : litValue q b1 = some v) (h2 : litValue q b2 = some v) (n1 : 92 ∉ b1) (n2 : 92 ∉ b2) : b1 = b2 := by
  refine Decidable.byContradiction fun hne => ?_
  obtain ⟨w, r1, r2, _, _, rfl, rfl, _, _, _, _, hb⟩ := (Lit.of_value h1).split (Lit.of_value h2) rfl hne
  rcases hb with hb | hb
  · exact n1 (List.mem_append_right _ (List.mem_of_mem_head? hb))
  · exact n2 (List.mem_append_right _ (List.mem_of_mem_head? hb))

/-- the two characters that open a string literal: `'` and `"` -/
def IsQuote (q : Nat) : Prop := q = 39 ∨ q = 34

theorem IsQuote.ne92 {q : Nat} (h : IsQuote q) : q ≠ 92 := by
  rcases h with rfl | rfl <;> decide

theorem scanToken_quote {Q : Ch} (hq : IsQuote Q.cp) (p : Nat) (r : List Ch) : scanToken p Q r =
    (⟨strKind (scanStr Q.cp [] (p + Q.len) r).1, p, (scanStr Q.cp [] (p + Q.len) r).2.1⟩, (scanStr Q.cp [] (p + Q.len) r).2) := by
  have h1 : ¬ isIdentStart Q = true := by rcases hq with h | h <;> simp [isIdentStart, h]
  have h2 : ¬ isDigit Q = true := by rcases hq with h | h <;> simp [isDigit, h]
  exact scanToken_string p r h1 h2 hq

end Neumann.Parse.Lex
