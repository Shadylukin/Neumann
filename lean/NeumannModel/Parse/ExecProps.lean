import NeumannModel.Parse.ExecLemmas
/-
  C15, third clause — property theorems for the clauses of a statement the query router evaluates ITSELF on
  the answer of the direct engine call (`Parse/Exec.lean`: ORDER BY, OFFSET, LIMIT of `exec_select` and
  `exec_select_with_joins`, LIMIT / OFFSET of NODE LIST, EDGE LIST, FIND … WHERE, SHOW EMBEDDINGS).

  "Same result as the equivalent direct engine call" for such a statement means: the rows are rows of the
  engine's answer, in the order ORDER BY asks for (the engine's own order when there is none), and LIMIT k /
  OFFSET o keep exactly the window `[o, o + k)` of that list.
  ONLY property statements and their non-vacuity examples live here.
-/
namespace Neumann.Parse.Exec.Props

/-! ### LIMIT / OFFSET of SELECT -/

/-- The statement returns the window the clauses describe: OFFSET (an integer literal) drops that many rows
    of the ordered answer, LIMIT (an integer literal) keeps at most that many of the rest. -/
theorem select_returns_the_window_of_the_ordered_rows (s : Sel) (base : List Row) (o k : Nat)
    (ho : s.offset = .lit o) (hk : s.limit = .lit k) :
    selectTail s base = window o k (ordered s base) := by
  rw [selectTail_eq, ho, hk]; rfl

example : selectTail { limit := .lit 2, offset := .lit 1 } [⟨0, []⟩, ⟨1, []⟩, ⟨2, []⟩, ⟨3, []⟩] = [⟨1, []⟩, ⟨2, []⟩] := by
  decide

/-- LIMIT 0 returns no row, whatever the other clauses and the table. -/
theorem limit_zero_returns_no_rows (s : Sel) (base : List Row) (h : s.limit = .lit 0) :
    selectTail s base = [] := by
  rw [selectTail_eq, h]; rfl

example : selectTail { limit := .lit 0 } [⟨0, []⟩] = [] := by decide

/-- LIMIT k returns the first k rows of what the same statement returns without LIMIT. -/
theorem limit_is_prefix_of_the_unlimited_result (s : Sel) (base : List Row) (k : Nat) :
    selectTail { s with limit := .lit k } base = (selectTail { s with limit := .absent } base).take k := by
  rw [selectTail_eq, selectTail_eq]; rfl

/-- … hence exactly `min k n` rows, -/
theorem limit_result_length (s : Sel) (base : List Row) (k : Nat) :
    (selectTail { s with limit := .lit k } base).length
      = min k (selectTail { s with limit := .absent } base).length := by
  rw [limit_is_prefix_of_the_unlimited_result, List.length_take]

/-- … and every row when k is at least the number of rows (k = n and k = n + 1 included). -/
theorem limit_at_least_the_row_count_returns_every_row (s : Sel) (base : List Row) (k : Nat)
    (h : (selectTail { s with limit := .absent } base).length ≤ k) :
    selectTail { s with limit := .lit k } base = selectTail { s with limit := .absent } base := by
  rw [limit_is_prefix_of_the_unlimited_result, List.take_of_length_le h]

example : (selectTail { limit := .absent } [⟨0, []⟩, ⟨1, []⟩]).length ≤ 2 := by decide

/-- OFFSET o returns what the same statement returns without OFFSET and LIMIT, minus its first o rows, cut by
    the LIMIT. -/
theorem offset_drops_a_prefix_of_the_result_without_offset (s : Sel) (base : List Row) (o : Nat) :
    selectTail { s with offset := .lit o } base
      = applyLimit s.limit ((selectTail { s with offset := .absent, limit := .absent } base).drop o) := by
  rw [selectTail_eq, selectTail_eq]; rfl

/-- OFFSET 0 changes nothing. -/
theorem offset_zero_changes_nothing (s : Sel) (base : List Row) :
    selectTail { s with offset := .lit 0 } base = selectTail { s with offset := .absent } base := by
  rw [selectTail_eq, selectTail_eq]; rfl

/-- OFFSET at or past the end returns no row (o = n and o = n + 1 included). -/
theorem offset_at_or_past_the_end_returns_no_rows (s : Sel) (base : List Row) (o : Nat)
    (ho : s.offset = .lit o) (h : base.length ≤ o) : selectTail s base = [] := by
  rw [selectTail_eq, ho]
  have hl : (ordered s base).length = base.length := by
    rw [ordered_eq_sortRows]; exact (sortBy_perm _ base).length_eq
  have : (ordered s base).drop (offN (.lit o)) = [] := List.drop_eq_nil_of_le (by simp only [offN]; omega)
  rw [this]
  cases s.limit <;> simp [applyLimit]

example : selectTail { offset := .lit 2 } [⟨0, []⟩, ⟨1, []⟩] = [] := by decide

/-- Consecutive pages concatenate: the page after `[o, o + k)` starts exactly where it ended — no row is
    returned twice, none is skipped. -/
theorem consecutive_pages_concatenate {α : Type} (xs : List α) (o k k' : Nat) :
    window o k xs ++ window (o + k) k' xs = window o (k + k') xs := by
  unfold window
  rw [List.take_add, ← List.drop_drop]

/-- Reading a result page by page (LIMIT k OFFSET 0, k, 2k, …) returns every row once, in order. -/
theorem pages_partition_the_result {α : Type} (xs : List α) (k p : Nat) :
    (List.range p).flatMap (fun i => window (i * k) k xs) = xs.take (p * k) := by
  induction p with
  | zero => simp
  | succ n ih =>
    rw [List.range_succ, List.flatMap_append, ih]
    simp only [List.flatMap_cons, List.flatMap_nil, List.append_nil]
    have h := consecutive_pages_concatenate xs 0 (n * k) k
    simp only [window, List.drop_zero, Nat.zero_add] at h ⊢
    rw [h, Nat.succ_mul]

/-- LIMIT and OFFSET only select: the result is a sub-list (same order, no row invented or repeated) of the
    ordered answer. -/
theorem limit_and_offset_only_select (s : Sel) (base : List Row) :
    (selectTail s base).Sublist (ordered s base) := by
  rw [selectTail_eq]
  have h1 : ((ordered s base).drop (offN s.offset)).Sublist (ordered s base) := List.drop_sublist _ _
  cases s.limit with
  | absent => exact h1
  | other => exact h1
  | lit k => exact (List.take_sublist _ _).trans h1

/-- The code as it is: a LIMIT / OFFSET expression that is not an integer literal (`LIMIT 1 + 1`, `LIMIT -1`,
    `LIMIT 2.0`, `LIMIT NULL`) is read by no branch — the statement runs as if the clause were not there. -/
theorem select_ignores_limit_and_offset_that_are_not_integer_literals (s : Sel) (base : List Row) :
    selectTail { s with limit := .other, offset := .other } base
      = selectTail { s with limit := .absent, offset := .absent } base := by
  rfl

/-! ### ORDER BY -/

/-- ORDER BY returns the rows of the engine's answer — each as often as it came. -/
theorem order_by_returns_a_permutation (order : List OrderItem) (rows : List Row) :
    (sortRows order rows).Perm rows :=
  sortBy_perm _ rows

/-- … in an order in which no row is greater (by the ORDER BY items, first deciding item wins) than a later
    one, for every direction, NULLS placement and number of items — on EVERY answer of the engine call, the rows
    of LEFT / RIGHT / FULL joins included (a sort column may be missing in one row and NULL in another: since
    /repo 1133d8d8 both follow the NULLS FIRST / LAST rule), -/
theorem order_by_result_is_sorted (order : List OrderItem) (rows : List Row) :
    (sortRows order rows).Pairwise (fun a b => cmpRows order a b ≠ .gt) :=
  sortBy_sorted _ (law_cmpRows order) rows

/-- … and rows that tie on every item keep the order the engine returned them in (the sort is stable), which
    makes the ordered list — and so every LIMIT / OFFSET window of it — a function of the statement and the
    engine's answer. -/
theorem order_by_keeps_ties_in_engine_order (order : List OrderItem) (rows : List Row) (r : Row) :
    (sortRows order rows).filter (fun x => cmpRows order r x == .eq)
      = rows.filter (fun x => cmpRows order r x == .eq) := by
  unfold sortRows
  apply sortBy_filter
  intro a b ha hb
  have ha' : cmpRows order r a = .eq := by simpa using ha
  have hb' : cmpRows order r b = .eq := by simpa using hb
  have L := law_cmpRows order
  rw [← L.eqCongr r a b ha', hb']; simp

/-- The closure `sort_rows` hands to `sort_by` is a total preorder (what `sort_by` requires: with anything else it
    may panic) for every ORDER BY list and on ALL rows — antisymmetric up to `swap`, transitive, and `Equal` is a
    congruence.  (Until /repo 1133d8d8 this held on `consistent` rows only.) -/
theorem order_by_comparator_is_a_total_preorder (order : List OrderItem) : Law (cmpRows order) :=
  law_cmpRows order

/-- ORDER BY returns a sorted permutation of the engine's answer for every join result: the two statements above
    together, with the rows the repair is about as the non-vacuity example (u.a = column 3 is missing in the row
    without partner, NULL in the row of the NULL = NULL partners, a value in the third). -/
theorem order_by_returns_a_sorted_permutation (order : List OrderItem) (rows : List Row) :
    (sortRows order rows).Perm rows ∧ (sortRows order rows).Pairwise (fun a b => cmpRows order a b ≠ .gt) :=
  ⟨sortBy_perm _ rows, order_by_result_is_sorted order rows⟩

example : mixedCol [⟨0, [(0, some 4)]⟩, ⟨1, [(0, none), (3, none)]⟩, ⟨2, [(0, some 1), (3, some 1)]⟩] 3 = true
    ∧ sortRows [{ col := 3, desc := true, nulls := none }]
        [⟨0, [(0, some 4)]⟩, ⟨1, [(0, none), (3, none)]⟩, ⟨2, [(0, some 1), (3, some 1)]⟩]
      = [⟨0, [(0, some 4)]⟩, ⟨1, [(0, none), (3, none)]⟩, ⟨2, [(0, some 1), (3, some 1)]⟩] := by decide

/-- A missing sort column and a NULL sort column tie, whatever the direction and the NULLS clause. -/
theorem missing_and_null_sort_keys_tie (it : OrderItem) (a b : Row)
    (ha : a.get it.col = .absent) (hb : b.get it.col = .null) :
    cmpItem it a b = .eq ∧ cmpItem it b a = .eq := by
  unfold cmpItem
  rw [ha, hb]
  cases it.desc <;> exact ⟨rfl, rfl⟩

example : (⟨0, []⟩ : Row).get 0 = .absent ∧ (⟨1, [(0, none)]⟩ : Row).get 0 = .null := by decide

/-- The code as it was before /repo 1133d8d8 (known_findings: fixed,
    `query_router::QueryRouter::exec_select_with_joins/order_by_panics_on_outer_join_rows`; on the real code a 21-row
    LEFT JOIN made `sort_by` panic): a sort column that is missing in one row (outer join, no partner) and NULL in
    another was compared `Greater` BOTH ways round — the closure was not an order. -/
theorem order_by_comparator_is_not_an_order_on_outer_join_rows_witness :
    ∃ (it : OrderItem) (a b : Row), a.get it.col = .absent ∧ b.get it.col = .null
      ∧ cmpItemOld it a b = .gt ∧ cmpItemOld it b a = .gt :=
  ⟨{ col := 0, desc := false, nulls := none }, ⟨0, []⟩, ⟨1, [(0, none)]⟩, by decide⟩

/-- … and that pair of cells is the ONLY thing the repair changed: on every answer without a sort column that is
    missing in one row and NULL in another (`consistent`: rows of one table, of inner / cross / natural joins, of
    outer joins without NULL in the sort column) the statement returns what it returned before. -/
theorem order_by_repair_changes_nothing_on_consistent_rows (order : List OrderItem) (rows : List Row)
    (h : consistent order rows = true) : sortRowsOld order rows = sortRows order rows :=
  sortRowsOld_eq_sortRows order rows h

example : consistent [{ col := 0, desc := true, nulls := some true }]
    [⟨0, [(0, some 2)]⟩, ⟨1, [(0, none)]⟩, ⟨2, [(0, some 1)]⟩] = true := by decide

/-- Without ORDER BY the rows stay in the engine's order. -/
theorem no_order_by_keeps_engine_order (s : Sel) (base : List Row) (h : s.order = []) :
    ordered s base = base := by
  unfold ordered; rw [h]; rfl

/-- One item, both values present: ASC puts the smaller value first, DESC the greater. -/
theorem order_by_direction (it : OrderItem) (a b : Row) (x y : Int)
    (ha : a.get it.col = .val x) (hb : b.get it.col = .val y) :
    cmpItem it a b = if it.desc then cmpInt y x else cmpInt x y := by
  unfold cmpItem
  rw [ha, hb]
  simp only [cmpNulls]
  cases it.desc
  · rfl
  · simp only [if_true]; exact (law_cmpInt.swap x y).symm

example : (⟨0, [(0, some 3)]⟩ : Row).get 0 = .val 3 := by decide

/-- ORDER BY agrees with what the clause says (`cmpItemSpec`: the direction orders the values, NULLS FIRST / LAST
    places the NULLs; default NULLS LAST under ASC and NULLS FIRST under DESC) for every item that is ascending
    or has no NULLS clause. -/
theorem order_by_item_agrees_with_its_meaning (it : OrderItem) (h : it.desc = false ∨ it.nulls = none)
    (a b : Row) : cmpItem it a b = cmpItemSpec it a b := by
  obtain ⟨col, desc, nulls⟩ := it
  unfold cmpItem cmpItemSpec
  dsimp only at h ⊢
  rcases h with rfl | rfl
  · cases a.get col <;> cases b.get col <;> rcases nulls with _ | _ | _ <;> rfl
  · cases a.get col <;> cases b.get col <;> cases desc <;> rfl

example : (({ col := 0, desc := true, nulls := none } : OrderItem).desc = false
    ∨ ({ col := 0, desc := true, nulls := none } : OrderItem).nulls = none) := by decide

/-- The code as it is (candidate finding, reported as an observation): under DESC the whole comparison is
    reversed, the placement of NULLs included, so `DESC NULLS FIRST` puts the NULLs LAST. -/
theorem desc_nulls_first_puts_nulls_last_witness :
    ∃ (it : OrderItem) (a b : Row), it.desc = true ∧ it.nulls = some true ∧ a.get it.col = .null
      ∧ b.get it.col = .val 5 ∧ cmpItemSpec it a b = .lt ∧ sortRows [it] [a, b] = [b, a] :=
  ⟨{ col := 0, desc := true, nulls := some true }, ⟨0, [(0, none)]⟩, ⟨1, [(0, some 5)]⟩, by decide⟩

/-- The code as it is (candidate finding, reported as an observation): the projection is applied by the engine
    call, before the sort; a sort column that is not in the select list is missing from every row, every
    comparison answers `Equal` and the rows stay in engine order. -/
theorem order_by_column_outside_the_select_list_does_not_sort (it : OrderItem) (rows : List Row)
    (h : ∀ r ∈ rows, r.get it.col = .absent) : sortRows [it] rows = rows := by
  unfold sortRows
  rw [sortBy_congr _ (fun _ _ => .eq) rows fun a ha b hb => ?_, sortBy_all_eq _ fun _ _ => rfl]
  simp only [cmpRows, cmpItem, h a ha, h b hb, cmpNulls]
  cases it.desc <;> rfl

example : ∀ r ∈ [(⟨0, [(1, some 2)]⟩ : Row), ⟨1, [(1, some 1)]⟩], r.get 0 = .absent := by decide

/-! ### statement forms that never reach the clauses -/

/-- The code as it is (candidate finding, reported as an observation): DISTINCT is read by no execution path. -/
theorem distinct_is_read_by_no_execution_path (s : Sel) (base agg : List Row) :
    execSelect { s with distinct := true } base agg = execSelect { s with distinct := false } base agg := by
  rfl

/-- The code as it is (candidate finding, reported as an observation): a SELECT with an aggregate in its list or
    a GROUP BY returns before ORDER BY / OFFSET / LIMIT are looked at. -/
theorem aggregate_select_ignores_order_limit_offset (s : Sel) (h : s.aggregate = true)
    (order : List OrderItem) (l o : Clause) (base agg : List Row) :
    execSelect { s with order := order, limit := l, offset := o } base agg = agg := by
  unfold execSelect; simp [h]

example : execSelect { aggregate := true, limit := .lit 0 } [] [⟨0, []⟩] = [⟨0, []⟩] := by decide

/-- A SELECT without aggregates is the common tail applied to the engine's rows (with and without JOIN). -/
theorem plain_select_is_the_tail (s : Sel) (h : s.aggregate = false) (base agg : List Row) :
    execSelect s base agg = selectTail s base := by
  unfold execSelect; simp [h]

/-! ### NODE LIST / EDGE LIST / FIND … WHERE / SHOW EMBEDDINGS -/

/-- `LIST [LIMIT k] [OFFSET o]` returns the window `[o, o + k)` of the engine's answer (k = 1000, o = 0 when
    not written); an expression that is not a non-negative integer literal is an error, never ignored. -/
theorem list_returns_the_window (limit offset : Clause) {α : Type} (items : List α) :
    execList limit offset items
      = match resolve limit 1000, resolve offset 0 with
        | some k, some o => some (window o k items)
        | _, _ => none := by
  unfold execList window; rfl

/-- LIST … LIMIT 0 is empty; the length of every answer is `min k (n - o)`. -/
theorem list_result_length (limit offset : Clause) {α : Type} (items r : List α) (k o : Nat)
    (hk : resolve limit 1000 = some k) (ho : resolve offset 0 = some o)
    (h : execList limit offset items = some r) : r.length = min k (items.length - o) := by
  unfold execList at h
  rw [hk, ho] at h
  simp only [Option.some.injEq] at h
  rw [← h, List.length_take, List.length_drop]

example : execList (.lit 0) .absent [1, 2, 3] = some [] := by decide
example : execList .absent (.lit 1) [1, 2, 3] = some [2, 3] := by decide

/-- FIND … WHERE … LIMIT k / SHOW EMBEDDINGS LIMIT k keep the first k (100 when not written). -/
theorem take_statement_returns_a_prefix (limit : Clause) {α : Type} (items r : List α)
    (h : execTake limit items = some r) :
    ∃ k, resolve limit 100 = some k ∧ r = items.take k := by
  unfold execTake at h
  cases hr : resolve limit 100 with
  | none => rw [hr] at h; cases h
  | some k => rw [hr] at h; exact ⟨k, rfl, by simpa using h.symm⟩

example : execTake (.lit 0) [1, 2] = some [] := by decide

/-! ### variants that are not the code -/

/-- `0` as the "no limit" value of a refactored LIMIT step (`unwrap_or(0)` … `if limit > 0 { truncate }`):
    LIMIT 0 returns rows.  The smallest case: one row. -/
theorem limit_zero_sentinel_returns_rows_witness :
    ∃ (s : Sel) (base : List Row), s.limit = .lit 0 ∧ selectTailZeroSentinel s base ≠ [] :=
  ⟨{ limit := .lit 0 }, [⟨0, []⟩], by decide⟩

/-- … and that is the ONLY place where that variant differs from the code: for every k > 0, every absent or
    non-literal LIMIT and every table the two agree (which is why a test suite without LIMIT 0 cannot tell). -/
theorem limit_zero_sentinel_differs_only_at_zero (s : Sel) (base : List Row) (h : s.limit ≠ .lit 0) :
    selectTailZeroSentinel s base = selectTail s base := by
  unfold selectTailZeroSentinel selectTail
  cases hl : s.limit with
  | absent => rfl
  | other => rfl
  | lit k =>
    have : k > 0 := by
      rcases Nat.eq_zero_or_pos k with h0 | h0
      · exact absurd (by rw [hl, h0]) h
      · exact h0
    simp [applyLimitZeroSentinel, applyLimit, this]

example : ({ limit := .lit 3 } : Sel).limit ≠ .lit 0 := by decide

/-- LIMIT applied before OFFSET loses rows: `LIMIT 1 OFFSET 1` over two rows must return the second. -/
theorem limit_before_offset_loses_rows_witness :
    ∃ (s : Sel) (base : List Row), selectTail s base = [⟨1, []⟩] ∧ selectTailLimitFirst s base = [] :=
  ⟨{ limit := .lit 1, offset := .lit 1 }, [⟨0, []⟩, ⟨1, []⟩], by decide⟩

/-- OFFSET past the end without the `clear` arm returns the whole table. -/
theorem offset_past_the_end_without_clear_returns_rows_witness :
    ∃ (rows : List Nat), applyOffset (.lit 5) rows = [] ∧ applyOffsetNoClear (.lit 5) rows ≠ [] :=
  ⟨[1, 2], by decide⟩

end Neumann.Parse.Exec.Props
