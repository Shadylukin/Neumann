import NeumannModel.Parse.FullLemmas
/-
  C15 — totality (a step measure), error positions and the depth bound of the complete expression
  grammar model (`Parse/Full.lean`).  Core Lean only (no Mathlib).
-/
namespace Neumann.Parse.Full

theorem expect_cases {P : St → Prop} {t : Tok} {x : Expect} {ts : List Tok} {k : List Tok → St}
    (heof : P (fail (.eof x))) (hne : 1 ≤ ts.length → P (fail (.unexpected x ts.length)))
    (hk : ∀ r, ts = t :: r → P (k r)) : P (expect t x ts k) := by
  cases ts with
  | nil => exact heof
  | cons c r =>
    simp only [expect]
    split
    · next h => exact hk r (by rw [h])
    · exact hne (by simp)

theorem eat_len (t : Tok) (ts : List Tok) : (eat t ts).2.length ≤ ts.length := by
  cases ts with
  | nil => simp [eat]
  | cons c r => simp only [eat]; split <;> simp

theorem head_tail_len {t : Tok} {ts : List Tok} (h : ts.head? = some t) : ts.tail.length + 1 = ts.length := by
  cases ts with
  | nil => simp at h
  | cons c r => simp

theorem loopArm_len (ts : List Tok) :
    match loopArm ts with
    | .inArm _ r => r.length + 1 ≤ ts.length
    | .betArm _ r => r.length + 1 ≤ ts.length
    | .likeArm _ r => r.length + 1 ≤ ts.length
    | .isArm r => r.length + 1 ≤ ts.length
    | .dotArm r => r.length + 1 ≤ ts.length
    | .binary _ r => r.length + 1 ≤ ts.length
    | .stop => True := by
  fun_cases loopArm ts <;> simp

/-- the position an error carries lies inside an input of `n` tokens (`rem` tokens from the end;
    "unexpected token" always points at a token, the others may point at the end of input) -/
def Err.posOk (n : Nat) : Err → Prop
  | .tooDeep rem => rem ≤ n
  | .unexpected _ rem => 1 ≤ rem ∧ rem ≤ n
  | .invalid _ rem => rem ≤ n
  | .eof _ => True
  | .fuel => False

def Res.posOk (n : Nat) : Res → Prop
  | .error e => e.posOk n
  | _ => True

theorem Res.posOk_mono {a b : Nat} (h : a ≤ b) : ∀ {r : Res}, r.posOk a → r.posOk b
  | .ok _, _ | .outside, _ => trivial
  | .error (.eof _), _ => trivial
  | .error (.tooDeep _), hr | .error (.invalid _ _), hr => Nat.le_trans hr h
  | .error (.unexpected _ _), hr => ⟨hr.1, Nat.le_trans hr.2 h⟩

/-- What one step makes of the frame `(m, s)` on the stack `S` with input `ts`: the run is over (a
    position, if any, is `s` or lies in `ts`); or the frame is at the top of its loop with at least `c`
    tokens fewer; or it has pushed itself and entered a new frame with at least one token fewer. -/
inductive Next (c m s : Nat) (S : List Frame) (ts : List Tok) : St → Prop
  | halt (r : Res) : r.posOk (max s ts.length) → Next c m s S ts (halt r)
  | loop (e : E) (r : List Tok) : r.length + c ≤ ts.length → Next c m s S ts ⟨.loop m s e, S, r⟩
  | push (k : K) (m' : Nat) (r : List Tok) : r.length + 1 ≤ ts.length →
      Next c m s S ts ⟨.start m', ⟨k, m, s⟩ :: S, r⟩

namespace Next
variable {c c' m s : Nat} {S : List Frame} {ts r : List Tok} {st : St}

theorem eof (x : Expect) : Next c m s S ts (fail (.eof x)) := .halt _ trivial

theorem unexpected (x : Expect) (h : 1 ≤ ts.length) : Next c m s S ts (fail (.unexpected x ts.length)) :=
  .halt _ ⟨h, Nat.le_max_right ..⟩

theorem weaken (h : Next c m s S r st) (h1 : r.length ≤ ts.length) (h2 : r.length + c' ≤ ts.length + c) :
    Next c' m s S ts st := by
  cases h with
  | halt res hp => exact .halt _ (Res.posOk_mono (by omega) hp)
  | loop e r' hr => exact .loop _ _ (by omega)
  | push k m' r' hr => exact .push _ _ _ (by omega)

theorem expect {t : Tok} {x : Expect} {k : List Tok → St} (hk : ∀ r, ts = t :: r → Next c m s S ts (k r)) :
    Next c m s S ts (expect t x ts k) :=
  expect_cases (eof x) (unexpected x) hk

end Next

theorem callFrom_next (f : Callee) (m s : Nat) (S : List Frame) (ts : List Tok) :
    Next 1 m s S ts (callFrom f m s S ts) := by
  unfold callFrom
  refine Next.expect fun r hr => ?_
  have hl := eat_len .distinctKw r
  have hr1 : r.length + 1 = ts.length := by rw [hr]; rfl
  simp only
  split
  · next hh => exact .loop _ _ (by have := head_tail_len hh; omega)
  · exact .push _ _ _ (by omega)

theorem caseNext_next (operand : OE) (acc : WL) (m s : Nat) (S : List Frame) (ts : List Tok) :
    Next 1 m s S ts (caseNext operand acc m s S ts) := by
  unfold caseNext
  split
  · next hh => exact .push _ _ _ (Nat.le_of_eq (head_tail_len hh))
  · cases acc with
    | nil => exact .halt _ (Nat.le_max_right ..)
    | cons c r rest =>
      simp only
      split
      · next hh => exact .push _ _ _ (Nat.le_of_eq (head_tail_len hh))
      · exact Next.expect fun r' hr => .loop _ _ (by rw [hr]; exact Nat.le_refl _)

theorem stepStart_deep (mode : Mode) (m : Nat) {S : List Frame} (ts : List Tok) (hd : MAX_DEPTH ≤ S.length) :
    stepStart mode m S ts = fail (.tooDeep ts.length) := by
  unfold stepStart
  exact if_pos (by omega)

theorem stepStart_next (mode : Mode) (m : Nat) {S : List Frame} (ts : List Tok) (hd : S.length < MAX_DEPTH) :
    Next 1 m ts.length S ts (stepStart mode m S ts) := by
  unfold stepStart
  rw [if_neg (by omega)]
  cases ts with
  | nil => exact .eof _
  | cons t r =>
    have hr : r.length ≤ (t :: r).length := Nat.le_succ _
    have here : Next 1 m (t :: r).length S (t :: r) (fail (.unexpected .expression (t :: r).length)) :=
      .unexpected _ (Nat.le_add_left ..)
    simp only
    cases prefixArm t with
    | atom e => exact .loop _ _ (Nat.le_refl _)
    | ident n =>
      simp only
      split
      · exact (callFrom_next ..).weaken hr (by omega)
      · exact .loop _ _ (Nat.le_refl _)
    | agg n => exact (callFrom_next ..).weaken hr (by omega)
    | wildcard => exact .loop _ _ (Nat.le_refl _)
    | paren =>
      simp only
      split
      · exact .loop _ _ (by simp only [List.length_tail, List.length_cons]; omega)
      · exact .push _ _ _ (Nat.le_refl _)
    | bracket =>
      simp only
      split
      · exact .loop _ _ (by simp only [List.length_tail, List.length_cons]; omega)
      · exact .push _ _ _ (Nat.le_refl _)
    | unary u => exact .push _ _ _ (Nat.le_refl _)
    | caseArm =>
      simp only
      split
      · exact (caseNext_next ..).weaken hr (by omega)
      · exact .push _ _ _ (Nat.le_refl _)
    | existsArm =>
      cases mode with
      | stmt => exact .halt _ trivial
      | expr =>
        refine (Next.expect (c := 0) fun r' hr' => .halt _ ?_).weaken hr (Nat.le_refl _)
        rw [hr']
        exact Nat.le_max_right ..
    | castArm =>
      cases mode with
      | stmt => exact .halt _ trivial
      | expr => exact here
    | unexpected => exact here

/-- the one step that consumes nothing: the loop stops and the frame returns -/
theorem stepLoop_next (mode : Mode) (m s : Nat) (lhs : E) (S : List Frame) (ts : List Tok) :
    stepLoop mode m s lhs S ts = ⟨.ret lhs, S, ts⟩ ∨ Next 1 m s S ts (stepLoop mode m s lhs S ts) := by
  unfold stepLoop
  have hlen := loopArm_len ts
  generalize loopArm ts = arm at hlen
  cases arm with
  | stop => exact .inl rfl
  | binary o r =>
    simp only
    split
    · exact .inl rfl
    · exact .inr (.push _ _ _ hlen)
  | isArm r =>
    have hl := eat_len .notKw r
    refine .inr ((Next.expect (c := 1) fun r' hr => .loop _ _ ?_).weaken (by omega) (by omega))
    rw [hr]
    exact Nat.le_refl _
  | inArm neg r =>
    refine .inr ((Next.expect (c := 1) fun r1 hr => ?_).weaken (by omega) (by omega))
    have : r1.length + 1 = r.length := by rw [hr]; rfl
    split
    · exact .halt _ trivial
    · split
      · next hh => exact .loop _ _ (by have := head_tail_len hh; omega)
      · exact .push _ _ _ (by omega)
  | betArm neg r => exact .inr (.push _ _ _ hlen)
  | likeArm neg r => exact .inr (.push _ _ _ hlen)
  | dotArm r =>
    right
    simp only
    split
    · exact .eof _
    · next t r1 =>
      simp only [List.length_cons] at hlen
      split
      · split
        · exact .loop _ _ (by omega)
        · exact .loop _ _ (by omega)
        · exact .halt _ (Nat.le_max_left ..)
      · exact .loop _ _ (by omega)
      · exact .halt _ ⟨Nat.le_add_left .., by simp only [List.length_cons]; omega⟩

theorem stepRet_next (e : E) (f : Frame) (S : List Frame) (ts : List Tok) :
    Next 0 f.m f.s S ts (stepRet e f S ts) := by
  have tail {t : Tok} (hh : ts.head? = some t) : ts.tail.length + 1 ≤ ts.length := Nat.le_of_eq (head_tail_len hh)
  have rest {t : Tok} {r : List Tok} (hr : ts = t :: r) : r.length + 1 ≤ ts.length := by rw [hr]; exact Nat.le_refl _
  unfold stepRet
  cases f.k with
  | unary u => exact .loop _ _ (Nat.le_refl _)
  | paren =>
    simp only
    split
    · next hh => exact .push _ _ _ (tail hh)
    · exact Next.expect fun r hr => .loop _ _ (Nat.le_of_succ_le (rest hr))
  | list lk acc =>
    simp only
    split
    · next hh => exact .push _ _ _ (tail hh)
    · exact Next.expect fun r hr => .loop _ _ (Nat.le_of_succ_le (rest hr))
  | binR l o => exact .loop _ _ (Nat.le_refl _)
  | betLo subj neg => exact Next.expect fun r hr => .push _ _ _ (rest hr)
  | betHi subj neg lo => exact .loop _ _ (Nat.le_refl _)
  | likeP subj neg => exact .loop _ _ (Nat.le_refl _)
  | caseOperand => exact (caseNext_next ..).weaken (Nat.le_refl _) (Nat.le_succ _)
  | caseCond operand acc => exact Next.expect fun r hr => .push _ _ _ (rest hr)
  | caseRes operand acc c => exact (caseNext_next ..).weaken (Nat.le_refl _) (Nat.le_succ _)
  | caseElse operand c r rest' => exact Next.expect fun r' hr => .loop _ _ (Nat.le_of_succ_le (rest hr))

def mu (st : St) : Nat :=
  match st.ctl with
  | .start _ => 4 * st.ts.length + 2 * st.stk.length + 2
  | .loop _ _ _ => 4 * st.ts.length + 2 * st.stk.length + 1
  | .ret _ => 4 * st.ts.length + 2 * st.stk.length
  | .done _ => 0

def isDone (st : St) : Prop := ∃ r, st.ctl = .done r

def Good (b : Nat) (st : St) : Prop := isDone st ∨ mu st < b

theorem Next.good {b c m s : Nat} {S : List Frame} {ts : List Tok} {st : St} (h : Next c m s S ts st)
    (hc : c ≤ 1) (hb : 4 * ts.length + 2 * S.length + 2 ≤ b + c) : Good b st := by
  cases h with
  | halt r _ => exact .inl ⟨r, rfl⟩
  | loop e r hr => exact .inr (show 4 * r.length + 2 * S.length + 1 < b by omega)
  | push k m' r hr => exact .inr (show 4 * r.length + 2 * (S.length + 1) + 2 < b by omega)

theorem stepTop_done (mode : Mode) (e : E) (ts : List Tok) : isDone (stepTop mode e ts) := by
  unfold stepTop
  cases mode with
  | stmt => exact ⟨_, rfl⟩
  | expr => cases ts <;> exact ⟨_, rfl⟩

theorem step_good (mode : Mode) (st : St) (h : ¬ isDone st) : Good (mu st) (step mode st) := by
  obtain ⟨ctl, S, ts⟩ := st
  cases ctl with
  | done r => exact absurd ⟨r, rfl⟩ h
  | start m =>
    by_cases hd : S.length < MAX_DEPTH
    · exact (stepStart_next mode m ts hd).good (Nat.le_refl _) (Nat.le_succ _)
    · exact .inl ⟨_, congrArg St.ctl (stepStart_deep mode m ts (Nat.le_of_not_lt hd))⟩
  | loop m s lhs =>
    rcases stepLoop_next mode m s lhs S ts with h | h
    · show Good _ (stepLoop mode m s lhs S ts)
      rw [h]
      exact .inr (Nat.lt_succ_self _)
    · exact h.good (Nat.le_refl _) (Nat.le_refl _)
  | ret e =>
    cases S with
    | nil => exact .inl (stepTop_done mode e ts)
    | cons f S => exact (stepRet_next e f S ts).good (Nat.zero_le _) (Nat.le_refl _)

theorem run_isDone (mode : Mode) {st : St} (h : isDone st) (n : Nat) : run mode n st = st := by
  obtain ⟨ctl, S, ts⟩ := st
  obtain ⟨r, hr⟩ := h
  simp only at hr
  subst hr
  exact run_done mode n r S ts

theorem run_reaches_done (mode : Mode) : ∀ (n : Nat) (st : St), mu st < n → isDone (run mode n st) := by
  intro n
  induction n with
  | zero => intro st h; omega
  | succ n ih =>
    intro st h
    by_cases hd : isDone st
    · rw [run_isDone mode hd]; exact hd
    · simp only [run]
      rcases step_good mode st hd with h2 | h2
      · rw [run_isDone mode h2]; exact h2
      · exact ih _ (by omega)

theorem mu_init (ts : List Tok) : mu (init ts) < fuelFor ts := by
  simp [mu, init, fuelFor]

theorem run_done_unique (mode : Mode) {st : St} {a b : Nat} (ha : isDone (run mode a st)) (hb : isDone (run mode b st)) :
    run mode a st = run mode b st := by
  have h1 : run mode (a + b) st = run mode a st := by
    rw [run_add, run_isDone mode ha]
  have h2 : run mode (a + b) st = run mode b st := by
    rw [Nat.add_comm, run_add, run_isDone mode hb]
  rw [← h1, h2]

theorem run_finished (mode : Mode) (ts : List Tok) : isDone (run mode (fuelFor ts) (init ts)) :=
  run_reaches_done mode _ _ (mu_init ts)

theorem parse_done (mode : Mode) (ts : List Tok) :
    (run mode (fuelFor ts) (init ts)).ctl = .done (parse mode ts) := by
  obtain ⟨r, hr⟩ := run_finished mode ts
  unfold parse parseWith result
  rw [hr]

theorem parse_of_reach {mode : Mode} {ts : List Tok} {r : Res} (h : Reach mode (init ts) (halt r)) :
    parse mode ts = r := by
  obtain ⟨n, hn⟩ := h
  have hd : isDone (run mode n (init ts)) := by rw [hn]; exact ⟨_, rfl⟩
  unfold parse parseWith
  rw [← run_done_unique mode hd (run_finished mode _), hn]
  rfl

/-- what every reachable state of a run on `n` tokens satisfies: nothing refers to a position
    outside the input, and never more than `MAX_DEPTH` frames are active -/
def Inv (n : Nat) (st : St) : Prop :=
  st.ts.length ≤ n ∧ (∀ f ∈ st.stk, f.s ≤ n) ∧ st.stk.length ≤ MAX_DEPTH ∧
  match st.ctl with
  | .loop _ s _ => s ≤ n ∧ st.stk.length < MAX_DEPTH
  | .done r => r.posOk n
  | _ => True

theorem inv_halt {n : Nat} {r : Res} (h : r.posOk n) : Inv n (halt r) :=
  ⟨Nat.zero_le _, fun _ hf => absurd hf List.not_mem_nil, Nat.zero_le _, h⟩

theorem Next.inv {n c m s : Nat} {S : List Frame} {ts : List Tok} {st : St} (h : Next c m s S ts st)
    (h1 : ts.length ≤ n) (h2 : ∀ f ∈ S, f.s ≤ n) (h3 : S.length < MAX_DEPTH) (h4 : s ≤ n) : Inv n st := by
  cases h with
  | halt r hp => exact inv_halt (Res.posOk_mono (Nat.max_le.2 ⟨h4, h1⟩) hp)
  | loop e r hr => exact ⟨show r.length ≤ n by omega, h2, Nat.le_of_lt h3, h4, h3⟩
  | push k m' r hr =>
    refine ⟨show r.length ≤ n by omega, fun g hg => ?_, h3, trivial⟩
    rcases List.mem_cons.1 hg with e | e
    · rw [e]; exact h4
    · exact h2 g e

theorem stepTop_inv {n : Nat} (mode : Mode) (e : E) (ts : List Tok) (h1 : ts.length ≤ n) :
    Inv n (stepTop mode e ts) := by
  unfold stepTop
  cases mode with
  | stmt => exact inv_halt trivial
  | expr =>
    cases ts with
    | nil => exact inv_halt trivial
    | cons t r => exact inv_halt ⟨Nat.le_add_left .., h1⟩

theorem step_inv {n : Nat} (mode : Mode) (st : St) (h : Inv n st) : Inv n (step mode st) := by
  obtain ⟨ctl, S, ts⟩ := st
  obtain ⟨h1, h2, h3, h4⟩ := h
  simp only at h1 h2 h3 h4
  cases ctl with
  | done r => exact ⟨h1, h2, h3, h4⟩
  | start m =>
    by_cases hd : S.length < MAX_DEPTH
    · exact (stepStart_next mode m ts hd).inv h1 h2 hd h1
    · show Inv n (stepStart mode m S ts)
      rw [stepStart_deep mode m ts (Nat.le_of_not_lt hd)]
      exact inv_halt h1
  | loop m s lhs =>
    rcases stepLoop_next mode m s lhs S ts with h | h
    · show Inv n (stepLoop mode m s lhs S ts)
      rw [h]
      exact ⟨h1, h2, h3, trivial⟩
    · exact h.inv h1 h2 h4.2 h4.1
  | ret e =>
    cases S with
    | nil => exact stepTop_inv mode e ts h1
    | cons f S =>
      exact (stepRet_next e f S ts).inv h1 (fun g hg => h2 g (List.mem_cons_of_mem _ hg))
        (Nat.lt_of_succ_le h3) (h2 f (List.mem_cons_self ..))

theorem run_inv {n : Nat} (mode : Mode) : ∀ (k : Nat) (st : St), Inv n st → Inv n (run mode k st) :=
  run_preserves (step_inv mode)

theorem inv_init (ts : List Tok) : Inv ts.length (init ts) :=
  ⟨Nat.le_refl _, fun _ hf => absurd hf List.not_mem_nil, Nat.zero_le _, trivial⟩

theorem parse_posOk (mode : Mode) (ts : List Tok) : (parse mode ts).posOk ts.length := by
  have hinv := (run_inv mode (fuelFor ts) _ (inv_init ts)).2.2.2
  rw [parse_done] at hinv
  exact hinv

end Neumann.Parse.Full
