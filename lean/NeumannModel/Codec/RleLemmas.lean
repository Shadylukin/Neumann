import NeumannModel.Codec.Model
import NeumannModel.Codec.Lemmas
/-! C20 — run-length encoding: the u32 run counter variant, the run-length sum, adjacency. -/
namespace Neumann.Codec

/-- sum of the run lengths: `RleEncoded::len` -/
def rleLen : List (Int × Nat) → Nat
  | [] => 0
  | (_, n) :: rest => n + rleLen rest

/-- adjacent runs carry different values -/
def rleAdjDistinct : List (Int × Nat) → Prop
  | [] => True
  | [_] => True
  | (a, _) :: (b, m) :: rest => a ≠ b ∧ rleAdjDistinct ((b, m) :: rest)

/-- the encoder loop with the run counter kept in a u32 (wrapping, as in a release build) -/
def rleGoU32 (cur : Int) (count : Nat) : List Int → List (Int × Nat)
  | [] => [(cur, count)]
  | x :: xs =>
      if x = cur then rleGoU32 cur ((count + 1) % 4294967296) xs
      else (cur, count) :: rleGoU32 x 1 xs

def rleEncodeU32 : List Int → List (Int × Nat)
  | [] => []
  | x :: xs => rleGoU32 x 1 xs

theorem rleGo_head (cur : Int) (count : Nat) (xs : List Int) :
    ∃ n rest, rleGo cur count xs = (cur, n) :: rest := by
  induction xs generalizing count with
  | nil => exact ⟨count, [], rfl⟩
  | cons x xs ih =>
    rw [rleGo]
    split
    · exact ih (count + 1)
    · exact ⟨count, _, rfl⟩

theorem rleGo_runs_pos (cur : Int) (count : Nat) (xs : List Int) (hc : 1 ≤ count) :
    ∀ p ∈ rleGo cur count xs, 1 ≤ p.2 := by
  induction xs generalizing cur count with
  | nil => exact List.forall_mem_cons.mpr ⟨hc, nofun⟩
  | cons x xs ih =>
    rw [rleGo]
    split
    · exact ih cur (count + 1) (Nat.le_succ_of_le hc)
    · exact List.forall_mem_cons.mpr ⟨hc, ih x 1 (Nat.le_refl 1)⟩

theorem rleGo_len (cur : Int) (count : Nat) (xs : List Int) :
    rleLen (rleGo cur count xs) = count + xs.length := by
  induction xs generalizing cur count with
  | nil => rfl
  | cons x xs ih =>
    rw [rleGo, List.length_cons, Nat.add_comm xs.length 1, ← Nat.add_assoc]
    split
    · exact ih cur (count + 1)
    · rw [rleLen, ih, Nat.add_assoc]

theorem rleGo_adj (cur : Int) (count : Nat) (xs : List Int) :
    rleAdjDistinct (rleGo cur count xs) := by
  induction xs generalizing cur count with
  | nil => simp [rleGo, rleAdjDistinct]
  | cons x xs ih =>
    simp only [rleGo]
    split
    · exact ih cur (count + 1)
    · rename_i hne
      obtain ⟨n, rest, h⟩ := rleGo_head x 1 xs
      have := ih x 1
      rw [h] at this ⊢
      exact ⟨fun e => hne e.symm, this⟩

theorem rleLen_mem_le (rs : List (Int × Nat)) : ∀ p ∈ rs, p.2 ≤ rleLen rs := by
  induction rs with
  | nil => nofun
  | cons r rs ih =>
    obtain ⟨v, n⟩ := r
    rw [rleLen]
    exact List.forall_mem_cons.mpr
      ⟨Nat.le_add_right _ _, fun p hp => Nat.le_trans (ih p hp) (Nat.le_add_left _ _)⟩

theorem rleGoU32_eq (cur : Int) (count : Nat) (xs : List Int)
    (h : count + xs.length < 4294967296) :
    rleGoU32 cur count xs = rleGo cur count xs := by
  induction xs generalizing cur count with
  | nil => rfl
  | cons x xs ih =>
    rw [List.length_cons, Nat.add_comm xs.length 1, ← Nat.add_assoc] at h
    rw [rleGoU32, rleGo]
    split
    · rw [Nat.mod_eq_of_lt (Nat.lt_of_le_of_lt (Nat.le_add_right _ _) h)]
      exact ih cur (count + 1) h
    · rw [ih x 1 (Nat.lt_of_le_of_lt (Nat.add_le_add_right (Nat.le_add_left 1 count) _) h)]

end Neumann.Codec
