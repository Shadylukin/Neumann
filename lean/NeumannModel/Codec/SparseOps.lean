import NeumannModel.Codec.SparseLemmas
namespace Neumann.Codec

theorem fromDenseGo_image (keep : Nat → Bool) (d : List Nat) :
    ∀ (i : Nat) (pre : List Nat), pre.length = i →
      applyWrites (fromDenseGo keep i d) (pre ++ List.replicate d.length 0) =
        pre ++ d.map (fun v => if keep v then v else 0) := by
  induction d with
  | nil => intro i pre _; rfl
  | cons v vs ih =>
    intro i pre hpre
    -- either way the cell behind `pre` ends up holding `if keep v then v else 0`
    have hi : (pre ++ [if keep v then v else 0]).length = i + 1 := by
      rw [List.length_append, hpre]; rfl
    rw [List.map_cons, List.append_cons pre (if keep v then v else 0), ← ih (i + 1) _ hi,
      List.length_cons, List.replicate_succ, fromDenseGo]
    split
    · rw [applyWrites_cons]
      congr 1
      subst hpre
      simp
    · rw [List.append_cons]

theorem fromDenseGo_bounds (keep : Nat → Bool) (d : List Nat) :
    ∀ (i : Nat), ∀ pv ∈ fromDenseGo keep i d, i ≤ pv.1 ∧ pv.1 < i + d.length ∧ keep pv.2 = true := by
  induction d with
  | nil => intro i pv h; cases h
  | cons v vs ih =>
    intro i pv h
    have tail : pv ∈ fromDenseGo keep (i + 1) vs →
        i ≤ pv.1 ∧ pv.1 < i + (v :: vs).length ∧ keep pv.2 = true := fun h => by
      obtain ⟨h1, h2, h3⟩ := ih (i + 1) pv h
      exact ⟨Nat.le_of_succ_le h1, by rwa [List.length_cons, Nat.add_comm vs.length, ← Nat.add_assoc], h3⟩
    rw [fromDenseGo] at h
    split at h
    · rename_i hk
      rcases List.mem_cons.mp h with rfl | h
      · exact ⟨Nat.le_refl _, Nat.lt_add_of_pos_right (Nat.zero_lt_succ _), hk⟩
      · exact tail h
    · exact tail h

theorem fromDenseGo_sorted (keep : Nat → Bool) (d : List Nat) :
    ∀ (i : Nat), strictSorted (keys (fromDenseGo keep i d)) = true := by
  induction d with
  | nil => intro i; rfl
  | cons v vs ih =>
    intro i
    rw [fromDenseGo]
    split
    · rw [strictSorted_iff_pairwise]
      refine List.pairwise_cons.mpr ⟨fun c hc => ?_, (strictSorted_iff_pairwise _).mp (ih (i + 1))⟩
      obtain ⟨pv, hpv, rfl⟩ := List.mem_map.mp hc
      exact (fromDenseGo_bounds keep vs (i + 1) pv hpv).1
    · exact ih (i + 1)

theorem fromDense_ofPairs (keep : Nat → Bool) (d : List Nat) :
    (ofPairs d.length (fromDenseGo keep 0 d)).wf = true ∧
    (∀ pv ∈ fromDenseGo keep 0 d, keep pv.2 = true) ∧
    toDense (ofPairs d.length (fromDenseGo keep 0 d)) =
      some (d.map fun v => if keep v then v else 0) := by
  have hb := fromDenseGo_bounds keep d 0
  have hlt : ∀ pv ∈ fromDenseGo keep 0 d, pv.1 < d.length := fun pv hpv => by
    have := (hb pv hpv).2.1; rwa [Nat.zero_add] at this
  exact ⟨ofPairs_wf _ _ (fromDenseGo_sorted keep d 0) hlt, fun pv hpv => (hb pv hpv).2.2,
    by rw [toDense_ofPairs _ _ hlt]; exact congrArg some (fromDenseGo_image keep d 0 [] rfl)⟩

theorem mem_sortByPos_nonzero (l : List (Nat × Nat)) (pv : Nat × Nat)
    (h : pv ∈ sortByPos (l.filter fun pv => !isZero pv.2)) : pv ∈ l ∧ isZero pv.2 = false := by
  obtain ⟨h2, h3⟩ := List.mem_filter.mp ((mem_sortByPos _ pv).mp h)
  exact ⟨h2, by simpa using h3⟩

theorem partsScan_eq (dim : Nat) (l : List (Nat × Nat)) :
    partsScan dim l = if l.all (fun pv => decide (pv.1 < dim)) then
      some (l.filter fun pv => !isZero pv.2) else none := by
  induction l with
  | nil => rfl
  | cons a t ih =>
    obtain ⟨p, v⟩ := a
    rw [partsScan, ih, List.all_cons, List.filter_cons]
    by_cases hp : p < dim
    · rw [if_neg (Nat.not_le_of_lt hp), decide_eq_true hp, Bool.true_and]
      by_cases ht : t.all (fun pv => decide (pv.1 < dim)) = true
      · rw [if_pos ht, if_pos ht]; dsimp only; cases isZero v <;> rfl
      · rw [if_neg ht, if_neg ht]
    · rw [if_pos (Nat.le_of_not_lt hp), decide_eq_false hp, Bool.false_and]; rfl

theorem tryFromParts_ok (dim : Nat) (ps vs : List Nat) (s : SV)
    (h : tryFromParts dim ps vs = .ok s) :
    dim ≤ MAXDIM ∧ (∀ pv ∈ ps.zip vs, pv.1 < dim) ∧
      s = ofPairs dim (sortByPos ((ps.zip vs).filter (fun pv => !isZero pv.2))) := by
  rw [tryFromParts, partsScan_eq] at h
  by_cases hd : dim > MAXDIM
  · rw [if_pos hd] at h; cases h
  · rw [if_neg hd] at h
    by_cases hall : (ps.zip vs).all (fun pv => decide (pv.1 < dim)) = true
    · rw [if_pos hall] at h
      injection h with h
      exact ⟨Nat.le_of_not_lt hd,
        fun pv hpv => of_decide_eq_true (List.all_eq_true.mp hall pv hpv), h.symm⟩
    · rw [if_neg hall] at h; cases h

theorem findPos_cons_eq_some {p : Nat} {rest : List Nat} {i k : Nat}
    (h : findPos (p :: rest) i = some k) :
    (p = i ∧ k = 0) ∨ (p ≠ i ∧ ∃ k', findPos rest i = some k' ∧ k = k' + 1) := by
  rw [findPos] at h
  split at h
  · rename_i hp
    exact Or.inl ⟨hp, (Option.some.inj h).symm⟩
  · rename_i hp
    obtain ⟨k', hk', e⟩ := Option.map_eq_some_iff.mp h
    exact Or.inr ⟨hp, k', hk', e.symm⟩

theorem findPos_lt (ps : List Nat) (i k : Nat) (h : findPos ps i = some k) :
    k < ps.length ∧ ps[k]? = some i := by
  induction ps generalizing k with
  | nil => cases h
  | cons p rest ih =>
    rcases findPos_cons_eq_some h with ⟨rfl, rfl⟩ | ⟨_, k', hf, rfl⟩
    · exact ⟨Nat.zero_lt_succ _, rfl⟩
    · obtain ⟨h1, h2⟩ := ih k' hf
      exact ⟨Nat.succ_lt_succ h1, by rw [List.getElem?_cons_succ]; exact h2⟩

theorem findPos_none (ps : List Nat) (i : Nat) : findPos ps i = none ↔ i ∉ ps := by
  induction ps with
  | nil => simp [findPos]
  | cons p rest ih =>
    rw [findPos]
    by_cases hp : p = i
    · rw [if_pos hp]; subst hp; simp
    · rw [if_neg hp]
      simp only [Option.map_eq_none_iff, ih, List.mem_cons, not_or]
      exact ⟨fun h => ⟨fun e => hp e.symm, h⟩, fun h => h.2⟩

theorem svGet_lookup (s : SV) (i : Nat) (hlen : s.pos.length = s.vals.length) :
    svGet s i = some ((lookupW (s.pos.zip s.vals) i).getD 0) := by
  obtain ⟨dim, ps, vs⟩ := s
  unfold svGet
  dsimp only at hlen ⊢
  induction ps generalizing vs with
  | nil => rfl
  | cons p rest ih =>
    cases vs with
    | nil => cases hlen
    | cons v vrest =>
      rw [findPos, List.zip_cons_cons, lookupW]
      by_cases hp : p = i
      · rw [if_pos hp, if_pos hp]; rfl
      · rw [if_neg hp, if_neg hp, ← ih vrest (Nat.succ.inj hlen)]
        cases findPos rest i <;> rfl

theorem builderPush_fold (pushes : List (Nat × Nat)) (acc : List (Nat × Nat)) :
    pushes.foldl (fun a pv => builderPush a pv.1 pv.2) acc =
      acc ++ pushes.filter (fun pv => !isZero pv.2) := by
  induction pushes generalizing acc with
  | nil => simp
  | cons a t ih =>
    rw [List.foldl_cons, ih, List.filter_cons]
    unfold builderPush
    by_cases hz : isZero a.2 = true
    · simp [hz]
    · simp [hz]

theorem applyWrites_dedupLast (l : List (Nat × Nat)) (base : List Nat) :
    applyWrites (dedupLast l) base = applyWrites l base := by
  induction l generalizing base with
  | nil => rfl
  | cons a t ih =>
    cases t with
    | nil => rfl
    | cons b rest =>
      rw [dedupLast]
      by_cases hab : a.1 = b.1
      · rw [if_pos hab, ih, applyWrites_cons, applyWrites_cons, applyWrites_cons, hab, List.set_set]
      · rw [if_neg hab, applyWrites_cons, ih, applyWrites_cons (a)]

theorem mem_dedupLast (l : List (Nat × Nat)) (y : Nat × Nat) (h : y ∈ dedupLast l) : y ∈ l := by
  induction l with
  | nil => simp [dedupLast] at h
  | cons a t ih =>
    cases t with
    | nil => exact h
    | cons b rest =>
      rw [dedupLast] at h
      by_cases hab : a.1 = b.1
      · rw [if_pos hab] at h; exact List.mem_cons_of_mem _ (ih h)
      · rw [if_neg hab] at h
        rcases List.mem_cons.mp h with e | e
        · subst e; exact List.mem_cons_self
        · exact List.mem_cons_of_mem _ (ih e)

theorem dedupLast_strict (l : List (Nat × Nat)) (h : (keys l).Pairwise (· ≤ ·)) :
    strictSorted (keys (dedupLast l)) = true := by
  rw [strictSorted_iff_pairwise]
  induction l with
  | nil => exact List.Pairwise.nil
  | cons a t ih =>
    cases t with
    | nil => exact List.pairwise_singleton _ _
    | cons b rest =>
      obtain ⟨ha, ht⟩ := List.pairwise_cons.mp h
      rw [dedupLast]
      split
      · exact ih ht
      · -- whatever survives of the tail is at or above `b`, and `a` is strictly below `b`
        rename_i hab
        refine List.pairwise_cons.mpr ⟨fun c hc => ?_, ih ht⟩
        obtain ⟨y, hy, rfl⟩ := List.mem_map.mp hc
        have hby : b.1 ≤ y.1 := by
          rcases List.mem_cons.mp (mem_dedupLast _ y hy) with rfl | hy'
          · exact Nat.le_refl _
          · exact (List.pairwise_cons.mp ht).1 _ (List.mem_map.mpr ⟨y, hy', rfl⟩)
        exact Nat.lt_of_lt_of_le (Nat.lt_of_le_of_ne (ha b.1 List.mem_cons_self) hab) hby

theorem positionsCheck_ok (dim : Nat) (ps : List Nat) :
    ∀ (prev : Option Nat), positionsCheck dim prev ps = .ok ↔
      (∀ p ∈ ps, p < dim) ∧ strictSorted (prev.toList ++ ps) = true := by
  induction ps with
  | nil =>
    intro prev
    cases prev <;> simp [positionsCheck, strictSorted]
  | cons p rest ih =>
    intro prev
    rw [positionsCheck.eq_def, List.forall_mem_cons]
    dsimp only
    by_cases hp : p ≥ dim
    · rw [if_pos hp]
      exact ⟨nofun, fun h => absurd h.1.1 (Nat.not_lt_of_le hp)⟩
    · rw [if_neg hp]
      have hpd := Nat.lt_of_not_le hp
      cases prev with
      | none =>
        dsimp only
        rw [ih (some p)]
        exact ⟨fun h => ⟨⟨hpd, h.1⟩, h.2⟩, fun h => ⟨h.1.2, h.2⟩⟩
      | some q =>
        dsimp only
        show _ ↔ _ ∧ strictSorted (q :: p :: rest) = true
        rw [strictSorted, Bool.and_eq_true, decide_eq_true_eq]
        by_cases hq : q ≥ p
        · rw [if_pos hq]
          exact ⟨nofun, fun h => absurd h.2.1 (Nat.not_lt_of_le hq)⟩
        · rw [if_neg hq, ih (some p)]
          exact ⟨fun h => ⟨⟨hpd, h.1⟩, Nat.lt_of_not_le hq, h.2⟩, fun h => ⟨h.1.2, h.2.2⟩⟩

theorem valuesCheck_ok_iff (vs : List Nat) :
    valuesCheck vs = .ok ↔ ∀ v ∈ vs, isNaN v = false ∧ isInf v = false := by
  induction vs with
  | nil => simp [valuesCheck]
  | cons v rest ih =>
    rw [valuesCheck, List.forall_mem_cons, ← ih]
    cases isNaN v <;> cases isInf v <;> simp

end Neumann.Codec
