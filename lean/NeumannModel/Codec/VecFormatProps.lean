import NeumannModel.Codec.VecFormat
import NeumannModel.Codec.Props
/-! Property theorems for `compress_vector` / `decompress_vector` (C20: lossless encodings decode to
    exactly the value that was encoded). -/
namespace Neumann.Codec
open Neumann.Codec.Props

/-- Whatever the two casts do — NaN payloads, infinities, `-0.0`, subnormals, values at or beyond
    2^64, any rounding of `u64 -> f32` — and whatever the field is called, a vector field of a
    compressed snapshot decodes to exactly the bit patterns that were encoded. `Elem`s are any
    elements consistent with ONE back-cast function (`back = ofU64 asU64`), the `as u64` cast lands
    in `u64`. -/
theorem vector_field_roundtrip (ofU64 : Nat → Nat) (delta named : Bool) (v : List Elem)
    (hback : ∀ e ∈ v, e.back = ofU64 e.asU64) (hu : ∀ e ∈ v, e.asU64 < U64) :
    decompressVector ofU64 (compressVector delta named v) = v.map (·.bits) := by
  unfold compressVector
  split
  · rename_i h
    simp only [Bool.and_eq_true, List.all_eq_true, Elem.exact, beq_iff_eq] at h
    show List.map _ (decompressIds (compressIds _)) = _
    rw [decompress_compress_ids _ (List.forall_mem_map.mpr hu), List.map_map]
    exact List.map_congr_left fun e he => (hback e he).symm.trans (h.2 e he)
  · rfl

/-- the same for the elements the real casts produce (`mkElem`): no hypothesis on the floats at all -/
theorem vector_field_roundtrip_any_casts (toU64 ofU64 : Nat → Nat) (whole gePrev : Nat → Bool)
    (delta named : Bool) (bits : List Nat) (hu : ∀ b, toU64 b < U64) :
    decompressVector ofU64 (compressVector delta named (bits.map (mkElem toU64 ofU64 whole gePrev))) = bits := by
  rw [vector_field_roundtrip ofU64 delta named _ ?_ ?_]
  · rw [List.map_map]
    conv => rhs; rw [← List.map_id bits]
    apply List.map_congr_left
    intro b _
    rfl
  · intro e he
    obtain ⟨b, _, rfl⟩ := List.mem_map.mp he
    rfl
  · intro e he
    obtain ⟨b, _, rfl⟩ := List.mem_map.mp he
    exact hu b

/-- the id-list arm is taken only for vectors every element of which survives the two casts -/
theorem id_list_arm_only_for_exact_vectors (delta named : Bool) (v : List Elem) (bytes : List Nat)
    (h : compressVector delta named v = .idList bytes) :
    delta = true ∧ looksLikeIdList named v = true ∧ (∀ e ∈ v, e.back = e.bits) ∧
      bytes = compressIds (v.map (·.asU64)) := by
  unfold compressVector at h
  split at h
  · rename_i hc
    simp only [Bool.and_eq_true, List.all_eq_true, Elem.exact, beq_iff_eq] at hc
    injection h with h
    exact ⟨hc.1.1, hc.1.2, hc.2, h.symm⟩
  · cases h

/-- with delta encoding off, or for a vector that does not look like an id list, the field is stored raw -/
theorem raw_arm_when_not_id_like (delta named : Bool) (v : List Elem)
    (h : delta = false ∨ looksLikeIdList named v = false) :
    compressVector delta named v = .raw (v.map (·.bits)) := by
  unfold compressVector
  rcases h with h | h <;> simp [h]

/-- the back-cast table of the witnesses: 3 ↦ bits of 3.0, 4 ↦ bits of 4.0, everything else ↦ +0.0 -/
def demoOfU64 : Nat → Nat := fun id => if id = 3 then 1077936128 else if id = 4 then 1082130432 else 0

/-- non-vacuity: a three-element id-like vector takes the id-list arm and decodes exactly -/
example :
    let v : List Elem := [⟨0, 0, 0, true, true⟩, ⟨1077936128, 3, 1077936128, true, true⟩, ⟨1082130432, 4, 1082130432, true, true⟩]
    compressVector true false v = .idList (compressIds [0, 3, 4]) ∧
    decompressVector demoOfU64 (compressVector true false v) = [0, 1077936128, 1082130432] := by
  intro v
  have h : compressVector true false v = .idList (compressIds [0, 3, 4]) := rfl
  refine ⟨h, ?_⟩
  rw [h]
  show List.map _ (decompressIds (compressIds _)) = _
  rw [decompress_compress_ids _ (by decide)]
  decide

/-- WITNESS (not the code): choosing the id-list arm by "is a non-negative whole number" instead of
    by the bit-for-bit check loses the sign of `-0.0` (bits 0x80000000: `-0.0 >= 0.0`, `fract = 0`,
    `as u64 = 0`, `0 as f32 = +0.0`): `[-0.0, 3.0, 4.0]` decodes to `[+0.0, 3.0, 4.0]`, while the code
    as it is stores the vector raw and decodes it exactly. -/
theorem id_list_by_predicate_loses_negative_zero_witness :
    let v : List Elem := [⟨2147483648, 0, 0, true, true⟩, ⟨1077936128, 3, 1077936128, true, true⟩, ⟨1082130432, 4, 1082130432, true, true⟩]
    decompressVector demoOfU64 (compressVectorByPredicate true false v) = [0, 1077936128, 1082130432] ∧
    decompressVector demoOfU64 (compressVector true false v) = [2147483648, 1077936128, 1082130432] ∧
    compressVector true false v = .raw [2147483648, 1077936128, 1082130432] := by
  intro v
  have hp : compressVectorByPredicate true false v = .idList (compressIds [0, 3, 4]) := rfl
  have hc : compressVector true false v = .raw [2147483648, 1077936128, 1082130432] := rfl
  refine ⟨?_, ?_, hc⟩
  · rw [hp]
    show List.map _ (decompressIds (compressIds _)) = _
    rw [decompress_compress_ids _ (by decide)]
    decide
  · rw [hc]; rfl

end Neumann.Codec
