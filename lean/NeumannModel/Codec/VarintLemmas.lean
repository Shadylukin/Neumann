import NeumannModel.Codec.Model
/-! C20 — varint: the shape predicate of one encoded value and the two equations of `varint1`. -/
namespace Neumann.Codec

/-- every byte but the last carries the continuation bit, the last does not -/
def varintShape : List Nat → Prop
  | [] => False
  | [b] => b < 128
  | b :: c :: rest => 128 ≤ b ∧ b < 256 ∧ varintShape (c :: rest)

theorem varint1_lt (v : Nat) (h : v < 128) : varint1 v = [v] := by
  rw [varint1, dif_pos h]

theorem varint1_ge (v : Nat) (h : 128 ≤ v) :
    varint1 v = (v % 128 + 128) :: varint1 (v / 128) := by
  rw [varint1, dif_neg (Nat.not_lt_of_le h)]

theorem varint1_ne_nil (v : Nat) : varint1 v ≠ [] := by
  by_cases h : v < 128
  · rw [varint1_lt v h]; exact List.cons_ne_nil _ _
  · rw [varint1_ge v (Nat.le_of_not_lt h)]; exact List.cons_ne_nil _ _

theorem div128_lt (v : Nat) (h : 128 ≤ v) : v / 128 < v :=
  Nat.div_lt_self (Nat.lt_of_lt_of_le (by decide) h) (by decide)

end Neumann.Codec
