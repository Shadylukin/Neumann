import NeumannModel.Codec.Model
import Mathlib.Tactic.Ring
namespace Neumann.Codec

theorem add_sub_mod (M p x : Nat) (hp : p < M) (hx : x < M) :
    (p + (x + M - p % M) % M) % M = x := by
  rw [Nat.mod_eq_of_lt hp]
  by_cases h : p ≤ x
  · rw [Nat.sub_add_comm h, Nat.add_mod_right, Nat.mod_eq_of_lt (Nat.lt_of_le_of_lt (Nat.sub_le x p) hx),
      Nat.add_sub_of_le h]
    exact Nat.mod_eq_of_lt hx
  · have hpM : p ≤ x + M := Nat.le_trans (Nat.le_of_lt hp) (Nat.le_add_left M x)
    have hlt : x + M - p < M :=
      Nat.sub_lt_left_of_lt_add hpM (Nat.add_lt_add_right (Nat.lt_of_not_le h) M)
    rw [Nat.mod_eq_of_lt hlt, Nat.add_sub_of_le hpM, Nat.add_mod_right]
    exact Nat.mod_eq_of_lt hx

theorem wadd_wsub (p x : Nat) (hp : p < U64) (hx : x < U64) : wadd p (wsub x p) = x :=
  add_sub_mod U64 p x hp hx

theorem undelta_delta (p : Nat) (xs : List Nat) (hp : p < U64) (h : ∀ x ∈ xs, x < U64) :
    undeltaGo p (deltaGo p xs) = xs := by
  induction xs generalizing p with
  | nil => rfl
  | cons x xs ih =>
    obtain ⟨hx, hxs⟩ := List.forall_mem_cons.mp h
    rw [deltaGo, undeltaGo, wadd_wsub p x hp hx, ih x hx hxs]

theorem wsub_lt (b a : Nat) : wsub b a < U64 := Nat.mod_lt _ (by decide)

theorem deltaGo_lt (p : Nat) (xs : List Nat) : ∀ d ∈ deltaGo p xs, d < U64 := by
  induction xs generalizing p with
  | nil => intro d hd; cases hd
  | cons x xs ih => exact List.forall_mem_cons.mpr ⟨wsub_lt x p, ih x⟩

theorem deltaEncode_lt (xs : List Nat) (h : ∀ x ∈ xs, x < U64) : ∀ d ∈ deltaEncode xs, d < U64 := by
  cases xs with
  | nil => exact h
  | cons x xs => exact List.forall_mem_cons.mpr ⟨(List.forall_mem_cons.mp h).1, deltaGo_lt x xs⟩

theorem undeltaGo_length (cur : Nat) (ds : List Nat) : (undeltaGo cur ds).length = ds.length := by
  induction ds generalizing cur with
  | nil => rfl
  | cons d ds ih => rw [undeltaGo, List.length_cons, List.length_cons, ih]

theorem deltaDecode_length (l : List Nat) : (deltaDecode l).length = l.length := by
  cases l with
  | nil => rfl
  | cons x ds => rw [deltaDecode, List.length_cons, List.length_cons, undeltaGo_length]

theorem pow_shift7 (s : Nat) : 2 ^ (s + 7) = 128 * 2 ^ s := by
  rw [Nat.pow_add, Nat.mul_comm]

theorem varintDecodeGo_last (cur shift b : Nat) (bs : List Nat) (hs : shift < 64) (hb : b < 128) :
    varintDecodeGo cur shift (b :: bs) = (cur + b * 2 ^ shift) % U64 :: varintDecodeGo 0 0 bs := by
  have h2 : b / 128 % 2 = 0 := by rw [Nat.div_eq_of_lt hb]
  simp only [varintDecodeGo, Nat.not_le_of_lt hs, if_false, Nat.mod_eq_of_lt hb, h2, if_true]

theorem varintDecodeGo_cont (cur shift b : Nat) (bs : List Nat) (hs : shift < 64) (hb : b < 128) :
    varintDecodeGo cur shift ((b + 128) :: bs) =
      varintDecodeGo ((cur + b * 2 ^ shift) % U64) (shift + 7) bs := by
  have h2 : (b + 128) % 128 = b := by rw [Nat.add_mod_right]; exact Nat.mod_eq_of_lt hb
  have h3 : ¬ (b + 128) / 128 % 2 = 0 := by
    rw [Nat.add_div_right _ (by decide), Nat.div_eq_of_lt hb]; decide
  simp only [varintDecodeGo, Nat.not_le_of_lt hs, if_false, h2, h3]

theorem varint1_decode (v : Nat) : ∀ (cur shift : Nat) (rest : List Nat),
    shift < 64 → cur + v * 2 ^ shift < U64 →
    varintDecodeGo cur shift (varint1 v ++ rest) = (cur + v * 2 ^ shift) :: varintDecodeGo 0 0 rest := by
  induction v using Nat.strongRecOn with
  | _ v ih =>
    intro cur shift rest hs hlt
    rw [varint1]
    by_cases hv : v < 128
    · rw [dif_pos hv, List.singleton_append, varintDecodeGo_last _ _ _ _ hs hv,
        Nat.mod_eq_of_lt hlt]
    · have hv' : 128 ≤ v := Nat.le_of_not_lt hv
      rw [dif_neg hv, List.cons_append,
        varintDecodeGo_cont _ _ _ _ hs (Nat.mod_lt v (by decide))]
      -- the low seven bits go in at `shift`, the rest at `shift + 7`
      have hsplit : v * 2 ^ shift = v % 128 * 2 ^ shift + v / 128 * 2 ^ (shift + 7) := by
        rw [pow_shift7, Nat.mul_left_comm, ← Nat.mul_assoc, ← Nat.add_mul, Nat.mod_add_div]
      -- `v ≥ 128` still fits below 2^64, so there is room for another group
      have hs7 : shift + 7 < 64 := by
        apply (Nat.pow_lt_pow_iff_right (a := 2) (by decide)).mp
        rw [pow_shift7]
        calc 128 * 2 ^ shift ≤ v * 2 ^ shift := Nat.mul_le_mul_right _ hv'
          _ ≤ cur + v * 2 ^ shift := Nat.le_add_left _ _
          _ < 2 ^ 64 := hlt
      have hlow : cur + v % 128 * 2 ^ shift < U64 :=
        Nat.lt_of_le_of_lt (Nat.add_le_add_left (Nat.mul_le_mul_right _ (Nat.mod_le v 128)) cur) hlt
      rw [Nat.mod_eq_of_lt hlow,
        ih (v / 128) (Nat.div_lt_self (Nat.lt_of_lt_of_le (by decide) hv') (by decide)) _ _ rest hs7
          (by rw [Nat.add_assoc, ← hsplit]; exact hlt),
        hsplit, Nat.add_assoc]

theorem varint1_decode_zero (v : Nat) (rest : List Nat) (hv : v < U64) :
    varintDecodeGo 0 0 (varint1 v ++ rest) = v :: varintDecodeGo 0 0 rest := by
  have h := varint1_decode v 0 0 rest (by omega) (by omega)
  rwa [Nat.pow_zero, Nat.mul_one, Nat.zero_add] at h

theorem varint_decode_encode_append (vs : List Nat) (rest : List Nat) (h : ∀ v ∈ vs, v < U64) :
    varintDecodeGo 0 0 (varintEncode vs ++ rest) = vs ++ varintDecodeGo 0 0 rest := by
  induction vs with
  | nil => rfl
  | cons v vs ih =>
    obtain ⟨hv, hvs⟩ := List.forall_mem_cons.mp h
    rw [varintEncode, List.append_assoc, varint1_decode_zero v _ hv, ih hvs, List.cons_append]

theorem varint_decode_encode_go (vs : List Nat) (h : ∀ v ∈ vs, v < U64) :
    varintDecodeGo 0 0 (varintEncode vs) = vs := by
  have := varint_decode_encode_append vs [] h
  rwa [List.append_nil, varintDecodeGo, List.append_nil] at this

theorem varintDecodeGo_length (cur shift : Nat) (bs : List Nat) :
    (varintDecodeGo cur shift bs).length ≤ bs.length := by
  induction bs generalizing cur shift with
  | nil => exact Nat.le_refl 0
  | cons b bs ih =>
    rw [varintDecodeGo]
    split
    · split
      · exact Nat.succ_le_succ (ih _ _)
      · exact Nat.le_succ_of_le (ih _ _)
    · dsimp only
      split
      · exact Nat.succ_le_succ (ih _ _)
      · exact Nat.le_succ_of_le (ih _ _)

theorem rleGo_decode (cur : Int) (count : Nat) (xs : List Int) :
    rleDecode (rleGo cur count xs) = List.replicate count cur ++ xs := by
  induction xs generalizing cur count with
  | nil => simp [rleGo, rleDecode]
  | cons x xs ih =>
    simp only [rleGo]
    split
    · rename_i h; subst h
      rw [ih, List.replicate_succ']; simp
    · simp only [rleDecode]; rw [ih]; simp

theorem be32_roundtrip (n : Nat) (h : n < U32) :
    be32Decode (n / 16777216 % 256) (n / 65536 % 256) (n / 256 % 256) (n % 256) = n := by
  have e2 : n / 65536 = n / 256 / 256 := (Nat.div_div_eq_div_mul n 256 256).symm
  have e3 : n / 16777216 % 256 = n / 256 / 256 / 256 := by
    rw [Nat.mod_eq_of_lt (Nat.div_lt_of_lt_mul h), Nat.div_div_eq_div_mul, Nat.div_div_eq_div_mul]
  -- `n` written out in base 256
  have d : n = 256 * (256 * (256 * (n / 256 / 256 / 256) + n / 256 / 256 % 256) + n / 256 % 256)
      + n % 256 := by
    rw [Nat.div_add_mod, Nat.div_add_mod, Nat.div_add_mod]
  rw [e3, e2, be32Decode]
  conv => rhs; rw [d]
  ring

theorem frameEncode_ok (max : Nat) (p : List Nat) (hm : p.length ≤ max) (h32 : p.length < U32) :
    frameEncode max p = .ok (be32 p.length ++ p) := by
  rw [frameEncode, if_neg (Nat.not_lt_of_le hm), if_neg (Nat.not_le_of_lt h32)]

theorem frameRead_frame_iff (max : Nat) (bs p rest : List Nat) :
    frameRead max bs = .frame p rest ↔
      ∃ a b c d, bs = a :: b :: c :: d :: (p ++ rest) ∧ p.length = be32Decode a b c d ∧
        0 < p.length ∧ p.length ≤ max := by
  constructor
  · intro h
    unfold frameRead at h
    split at h
    · rename_i a b c d tl
      dsimp only at h
      split at h
      · cases h
      · rename_i hmax
        split at h
        · cases h
        · rename_i hz
          split at h
          · cases h
          · rename_i hshort
            injection h with hp hr
            subst hp hr
            have hlen := List.length_take_of_le (Nat.le_of_not_lt hshort)
            refine ⟨a, b, c, d, by rw [List.take_append_drop], hlen, ?_, ?_⟩
            · rw [hlen]; exact Nat.pos_of_ne_zero hz
            · rw [hlen]; exact Nat.le_of_not_lt hmax
    · cases h
  · rintro ⟨a, b, c, d, rfl, hlen, h0, hm⟩
    have hshort : ¬ (p ++ rest).length < p.length := by
      rw [List.length_append]; exact Nat.not_lt_of_le (Nat.le_add_right _ _)
    simp only [frameRead, ← hlen, if_neg (Nat.not_lt_of_le hm), if_neg (Nat.ne_of_gt h0),
      if_neg hshort, List.take_left', List.drop_left']

theorem frameRead_encoded (max : Nat) (p rest : List Nat)
    (h0 : 0 < p.length) (hm : p.length ≤ max) (h32 : p.length < U32) :
    frameRead max (be32 p.length ++ p ++ rest) = .frame p rest :=
  (frameRead_frame_iff max _ p rest).mpr
    ⟨_, _, _, _, rfl, (be32_roundtrip p.length h32).symm, h0, hm⟩

theorem frameEncodeV2_ok (max flags : Nat) (payload f : List Nat)
    (h : frameEncodeV2 max flags payload = .ok f) :
    f = be32 (flags :: payload).length ++ flags :: payload := by
  unfold frameEncodeV2 at h
  split at h
  · cases h
  · split at h
    · cases h
    · injection h with h
      rw [← h, List.length_cons, Nat.add_comm]

theorem v2Choose_cases (enabled : Bool) (minSize methodFlag : Nat) (ser comp : List Nat) :
    (v2Choose enabled minSize methodFlag ser comp = (methodFlag, comp) ∧ comp.length < ser.length) ∨
      v2Choose enabled minSize methodFlag ser comp = (0, ser) := by
  unfold v2Choose
  split
  · split
    · rename_i h; exact Or.inl ⟨rfl, h⟩
    · exact Or.inr rfl
  · exact Or.inr rfl

end Neumann.Codec
