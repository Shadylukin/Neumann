import NeumannModel.Codec.RleLemmas

/-!
# C20 — run-length encoding: shape of the encoded form and the u32 run counter

`tensor_compress/src/rle.rs` keeps `count` in a `u32` (`let mut count = 1u32; … count += 1`).
`Model.rleGo` counts in `Nat`.  This file closes the gap: `rleGoU32` is the same loop with the
counter reduced modulo 2^32 after every increment (what a release build does; a debug build panics
at the same point), and `rle_u32_counter_exact` proves that it produces the SAME encoding as the
unbounded model for every input shorter than 2^32 elements — so `rle_roundtrip` is a statement about
the real counter on exactly that domain, and `rle_u32_wraps_witness_shape` states what happens on the
first input outside it.  The other theorems describe the encoded form for every input: every run is
non-empty, adjacent runs carry different values (the encoding is the canonical one), the run lengths
add up to the input length (`RleEncoded::len`), and no run is longer than the input.
-/

namespace Neumann.Codec.RleProps
open Neumann.Codec


/-- every run of an encoding is non-empty -/
theorem rle_runs_nonempty (xs : List Int) : ∀ p ∈ rleEncode xs, 1 ≤ p.2 := by
  cases xs with
  | nil => intro p hp; cases hp
  | cons x xs => exact rleGo_runs_pos x 1 xs (Nat.le_refl _)

/-- adjacent runs carry different values: the encoding is the canonical (shortest) one -/
theorem rle_adjacent_runs_differ (xs : List Int) : rleAdjDistinct (rleEncode xs) := by
  cases xs with
  | nil => trivial
  | cons x xs => exact rleGo_adj x 1 xs

/-- `RleEncoded::len` of an encoding is the input length -/
theorem rle_len_is_input_length (xs : List Int) : rleLen (rleEncode xs) = xs.length := by
  cases xs with
  | nil => rfl
  | cons x xs => rw [rleEncode, rleGo_len, List.length_cons, Nat.add_comm]

/-- no run is longer than the input -/
theorem rle_run_le_input_length (xs : List Int) : ∀ p ∈ rleEncode xs, p.2 ≤ xs.length := by
  intro p hp
  have := rleLen_mem_le _ p hp
  rw [rle_len_is_input_length] at this
  exact this

/-- the decoder's output length is the sum of the run lengths it is given (so `Vec::with_capacity(len())`
    is exact for well-formed input: value and run vectors of the same length) -/
theorem rle_decode_length (rs : List (Int × Nat)) : (rleDecode rs).length = rleLen rs := by
  induction rs with
  | nil => simp [rleDecode, rleLen]
  | cons r rs ih => obtain ⟨v, n⟩ := r; simp [rleDecode, rleLen, ih]

/-- THE u32 COUNTER: for every input shorter than 2^32 elements the encoder with the wrapping u32
    counter produces exactly the unbounded model's encoding … -/
theorem rle_u32_counter_exact (xs : List Int) (h : xs.length < 4294967296) :
    rleEncodeU32 xs = rleEncode xs := by
  cases xs with
  | nil => rfl
  | cons x xs =>
    simp only [rleEncodeU32, rleEncode]
    exact rleGoU32_eq x 1 xs (by rwa [List.length_cons, Nat.add_comm] at h)

/-- … hence round-trips, with every stored run length a valid u32 -/
theorem rle_u32_roundtrip (xs : List Int) (h : xs.length < 4294967296) :
    rleDecode (rleEncodeU32 xs) = xs ∧ ∀ p ∈ rleEncodeU32 xs, p.2 < 4294967296 := by
  rw [rle_u32_counter_exact xs h]
  refine ⟨?_, ?_⟩
  · cases xs with
    | nil => rfl
    | cons x xs => rw [rleEncode, rleGo_decode]; rfl
  · exact fun p hp => Nat.lt_of_le_of_lt (rle_run_le_input_length xs p hp) h

/-- outside that domain the guard is needed: a counter standing at u32::MAX wraps to 0 on the next
    equal element, and the run that is then stored no longer decodes to the input (the loop started
    at its invariant-breaking state; a release build reaches it after 2^32 - 1 equal elements, a
    debug build panics there) -/
theorem rle_u32_wraps_witness_shape :
    rleGoU32 7 4294967295 [7] = [(7, 0)] ∧ rleGo 7 4294967295 [7] = [(7, 4294967296)] ∧
    rleDecode (rleGoU32 7 4294967295 [7]) = [] :=
  ⟨rfl, rfl, rfl⟩

/-- non-vacuity: a concrete input with repeated, returning values -/
example : rleEncode [3, 3, -1, 3, 3, 3] = [(3, 2), (-1, 1), (3, 3)] ∧
    rleEncodeU32 [3, 3, -1, 3, 3, 3] = [(3, 2), (-1, 1), (3, 3)] := by decide

end Neumann.Codec.RleProps
