import NeumannModel.Codec.Sparse
namespace Neumann.Codec

theorem applyWrites_nil (base : List Nat) : applyWrites [] base = base := rfl

theorem applyWrites_cons (w : Nat × Nat) (ws : List (Nat × Nat)) (base : List Nat) :
    applyWrites (w :: ws) base = applyWrites ws (base.set w.1 w.2) := rfl

theorem applyWrites_append (a b : List (Nat × Nat)) (base : List Nat) :
    applyWrites (a ++ b) base = applyWrites b (applyWrites a base) := by
  unfold applyWrites; rw [List.foldl_append]

theorem applyWrites_length (ws : List (Nat × Nat)) (base : List Nat) :
    (applyWrites ws base).length = base.length := by
  induction ws generalizing base with
  | nil => rfl
  | cons w ws ih => rw [applyWrites_cons, ih, List.length_set]

def keys (ws : List (Nat × Nat)) : List Nat := ws.map (·.1)

theorem applyWrites_get_other (ws : List (Nat × Nat)) (base : List Nat) (i : Nat)
    (h : i ∉ keys ws) : (applyWrites ws base)[i]? = base[i]? := by
  induction ws generalizing base with
  | nil => rfl
  | cons w ws ih =>
    simp only [keys, List.map_cons, List.mem_cons, not_or] at h
    rw [applyWrites_cons, ih _ h.2, List.getElem?_set_ne (Ne.symm h.1)]

/-- first value written for `i` -/
def lookupW (ws : List (Nat × Nat)) (i : Nat) : Option Nat :=
  match ws with
  | [] => none
  | w :: rest => if w.1 = i then some w.2 else lookupW rest i

theorem lookupW_none (ws : List (Nat × Nat)) (i : Nat) : lookupW ws i = none ↔ i ∉ keys ws := by
  induction ws with
  | nil => simp [lookupW, keys]
  | cons w ws ih =>
    simp only [lookupW, keys, List.map_cons, List.mem_cons, not_or]
    by_cases h : w.1 = i
    · simp [h]
    · rw [if_neg h, ih]
      exact ⟨fun h2 => ⟨fun e => h e.symm, h2⟩, fun h2 => h2.2⟩

theorem applyWrites_get (ws : List (Nat × Nat)) (base : List Nat) (i : Nat)
    (hnd : (keys ws).Nodup) (hb : ∀ p ∈ keys ws, p < base.length) :
    (applyWrites ws base)[i]? = match lookupW ws i with
      | some v => some v
      | none => base[i]? := by
  induction ws generalizing base with
  | nil => rfl
  | cons w ws ih =>
    simp only [keys, List.map_cons, List.nodup_cons] at hnd
    have hb' : ∀ p ∈ keys ws, p < (base.set w.1 w.2).length := by
      intro p hp; rw [List.length_set]; exact hb p (List.mem_cons_of_mem _ hp)
    rw [applyWrites_cons]
    by_cases h : w.1 = i
    · subst h
      have hno : w.1 ∉ keys ws := hnd.1
      rw [applyWrites_get_other ws _ _ hno]
      simp only [lookupW, if_true]
      exact List.getElem?_set_self (hb w.1 List.mem_cons_self)
    · rw [ih _ hnd.2 hb']
      simp only [lookupW, if_neg h]
      cases lookupW ws i with
      | some v => rfl
      | none => exact List.getElem?_set_ne h

theorem insertByPos_perm (x : Nat × Nat) (l : List (Nat × Nat)) : (insertByPos x l).Perm (x :: l) := by
  induction l with
  | nil => exact List.Perm.refl _
  | cons a t ih =>
    rw [insertByPos]
    split
    · exact List.Perm.refl _
    · exact (ih.cons a).trans (List.Perm.swap x a t)

theorem sortByPos_perm (l : List (Nat × Nat)) : (sortByPos l).Perm l := by
  induction l with
  | nil => exact List.Perm.refl _
  | cons a t ih => exact (insertByPos_perm a (sortByPos t)).trans (ih.cons a)

theorem mem_sortByPos (l : List (Nat × Nat)) (y : Nat × Nat) : y ∈ sortByPos l ↔ y ∈ l :=
  (sortByPos_perm l).mem_iff

theorem applyWrites_insertByPos (x : Nat × Nat) (l : List (Nat × Nat)) (base : List Nat) :
    applyWrites (insertByPos x l) base = applyWrites (x :: l) base := by
  induction l generalizing base with
  | nil => rfl
  | cons a t ih =>
    rw [insertByPos]
    split
    · rfl
    · rename_i hlt
      have hne : a.1 ≠ x.1 := by omega
      rw [applyWrites_cons, ih, applyWrites_cons, applyWrites_cons, applyWrites_cons,
        List.set_comm _ _ hne]

theorem applyWrites_sortByPos (l : List (Nat × Nat)) (base : List Nat) :
    applyWrites (sortByPos l) base = applyWrites l base := by
  induction l generalizing base with
  | nil => rfl
  | cons a t ih =>
    show applyWrites (insertByPos a (sortByPos t)) base = _
    rw [applyWrites_insertByPos, applyWrites_cons, ih, applyWrites_cons]

theorem insertByPos_sorted (x : Nat × Nat) (l : List (Nat × Nat))
    (h : (keys l).Pairwise (· ≤ ·)) : (keys (insertByPos x l)).Pairwise (· ≤ ·) := by
  induction l with
  | nil => exact List.pairwise_singleton _ _
  | cons a t ih =>
    obtain ⟨hat, ht⟩ := List.pairwise_cons.mp h
    rw [insertByPos]
    split
    · rename_i hle
      refine List.pairwise_cons.mpr ⟨fun b hb => ?_, h⟩
      rcases List.mem_cons.mp hb with rfl | hb
      · exact hle
      · exact Nat.le_trans hle (hat b hb)
    · rename_i hlt
      refine List.pairwise_cons.mpr ⟨fun b hb => ?_, ih ht⟩
      rcases List.mem_cons.mp (((insertByPos_perm x t).map _).mem_iff.mp hb) with rfl | hb
      · exact Nat.le_of_lt (Nat.lt_of_not_le hlt)
      · exact hat b hb

theorem sortByPos_sorted (l : List (Nat × Nat)) : (keys (sortByPos l)).Pairwise (· ≤ ·) := by
  induction l with
  | nil => simp [sortByPos, keys]
  | cons a t ih => exact insertByPos_sorted a _ ih

theorem insertByPos_length (x : Nat × Nat) (l : List (Nat × Nat)) :
    (insertByPos x l).length = l.length + 1 := by
  induction l with
  | nil => rfl
  | cons a t ih =>
    rw [insertByPos]; split
    · rfl
    · simp only [List.length_cons, ih]

theorem keys_sortByPos_nodup (l : List (Nat × Nat)) (h : (keys l).Nodup) :
    (keys (sortByPos l)).Nodup :=
  (((sortByPos_perm l).map _).nodup_iff).mpr h

theorem strictSorted_cons (a : Nat) (l : List Nat) :
    strictSorted (a :: l) = true ↔ (∀ b ∈ l.head?, a < b) ∧ strictSorted l = true := by
  cases l with
  | nil => simp [strictSorted]
  | cons b rest => simp [strictSorted]

theorem strictSorted_iff_pairwise (l : List Nat) : strictSorted l = true ↔ l.Pairwise (· < ·) := by
  induction l with
  | nil => simp [strictSorted]
  | cons a t ih =>
    rw [strictSorted_cons, ih, List.pairwise_cons]
    refine and_congr_left fun ht => ?_
    cases t with
    | nil => simp
    | cons c rest =>
      simp only [List.head?_cons, Option.mem_def, Option.some.injEq, forall_eq', List.mem_cons,
        forall_eq_or_imp]
      exact ⟨fun hac => ⟨hac, fun b hb => Nat.lt_trans hac ((List.pairwise_cons.mp ht).1 b hb)⟩,
        And.left⟩

theorem strictSorted_of_sorted_nodup (l : List Nat) (h1 : l.Pairwise (· ≤ ·)) (h2 : l.Nodup) :
    strictSorted l = true :=
  (strictSorted_iff_pairwise l).mpr ((h1.and h2).imp fun h => Nat.lt_of_le_of_ne h.1 h.2)

theorem zip_map_fst_snd (l : List (Nat × Nat)) : (l.map (·.1)).zip (l.map (·.2)) = l := by
  induction l with
  | nil => rfl
  | cons a t ih => simp only [List.map_cons, List.zip_cons_cons, ih]

theorem SV.wf_iff (s : SV) : s.wf = true ↔
    s.pos.length = s.vals.length ∧ strictSorted s.pos = true ∧ ∀ p ∈ s.pos, p < s.dim := by
  simp only [SV.wf, Bool.and_eq_true, decide_eq_true_eq, List.all_eq_true, and_assoc]

theorem SV.valid_iff (s : SV) : s.valid = true ↔
    s.wf = true ∧ (∀ v ∈ s.vals, isZero v = false) ∧ s.dim ≤ MAXDIM := by
  simp only [SV.valid, Bool.and_eq_true, decide_eq_true_eq, List.all_eq_true, Bool.not_eq_eq_eq_not,
    Bool.not_true, and_assoc]

/-- the vector stored as the pair list `ws` -/
def ofPairs (dim : Nat) (ws : List (Nat × Nat)) : SV := ⟨dim, keys ws, ws.map (·.2)⟩

theorem ofPairs_wf (dim : Nat) (ws : List (Nat × Nat)) (hs : strictSorted (keys ws) = true)
    (hb : ∀ pv ∈ ws, pv.1 < dim) : (ofPairs dim ws).wf = true := by
  exact (SV.wf_iff _).mpr
    ⟨by simp only [ofPairs, keys, List.length_map], hs, List.forall_mem_map.mpr hb⟩

theorem ofPairs_valid (dim : Nat) (ws : List (Nat × Nat)) (hs : strictSorted (keys ws) = true)
    (hb : ∀ pv ∈ ws, pv.1 < dim) (hnz : ∀ pv ∈ ws, isZero pv.2 = false) (hd : dim ≤ MAXDIM) :
    (ofPairs dim ws).valid = true := by
  exact (SV.valid_iff _).mpr ⟨ofPairs_wf dim ws hs hb, List.forall_mem_map.mpr hnz, hd⟩

theorem toDense_ofPairs (dim : Nat) (ws : List (Nat × Nat)) (hb : ∀ pv ∈ ws, pv.1 < dim) :
    toDense (ofPairs dim ws) = some (applyWrites ws (List.replicate dim 0)) := by
  have hall : ws.all (fun pv => decide (pv.1 < dim)) = true :=
    List.all_eq_true.mpr fun pv hpv => decide_eq_true (hb pv hpv)
  unfold toDense ofPairs keys
  simp only [zip_map_fst_snd]
  exact if_pos hall

theorem wf_as_pairs (s : SV) (h : s.wf = true) :
    s = ofPairs s.dim (s.pos.zip s.vals) ∧ (keys (s.pos.zip s.vals)).Pairwise (· < ·) ∧
      ∀ pv ∈ s.pos.zip s.vals, pv.1 < s.dim := by
  obtain ⟨hlen, hsorted, hb⟩ := (SV.wf_iff s).mp h
  have hkeys : keys (s.pos.zip s.vals) = s.pos := List.map_fst_zip (Nat.le_of_eq hlen)
  have hsnd : (s.pos.zip s.vals).map (·.2) = s.vals := List.map_snd_zip (Nat.le_of_eq hlen.symm)
  exact ⟨by rw [ofPairs, hkeys, hsnd], by rw [hkeys]; exact (strictSorted_iff_pairwise _).mp hsorted,
    fun pv hpv => hb _ (List.of_mem_zip hpv).1⟩

end Neumann.Codec
