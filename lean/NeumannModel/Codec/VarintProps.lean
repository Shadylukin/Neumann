import NeumannModel.Codec.VarintLemmas
/-!
  C20 — varint (`tensor_compress/src/delta.rs` `varint_encode`): the shape of one encoded value, for EVERY value.
  These are what make the byte stream self-delimiting (`varint_stream_split`) and bound what a decoder may be asked
  to allocate: every byte but the last carries the continuation bit and the last does not (a prefix-free code);
  a u64 takes at most 10 bytes and a value below 128^k at most k; the encoding is the shortest one (no trailing
  zero group).  A fast path that sets a continuation bit on the last byte of some range of values (seeded change
  C20_9) contradicts `varint_value_shape` on exactly those values.
-/
namespace Neumann.Codec.VarintProps
open Neumann.Codec

/-- every byte but the last has the continuation bit (128..255), the last is below 128 -/
theorem varint_value_shape (v : Nat) : varintShape (varint1 v) := by
  induction v using Nat.strongRecOn with
  | _ v ih =>
    by_cases h : v < 128
    · rw [varint1_lt v h]; exact h
    · have h' : 128 ≤ v := Nat.le_of_not_lt h
      have hr := ih (v / 128) (div128_lt v h')
      rw [varint1_ge v h']
      cases hm : varint1 (v / 128) with
      | nil => exact absurd hm (varint1_ne_nil _)
      | cons c rest =>
        rw [hm] at hr
        exact ⟨Nat.le_add_left _ _, Nat.add_lt_add_right (Nat.mod_lt v (by decide)) 128, hr⟩

/-- a value below 128^k (k ≥ 1) takes at most k bytes -/
theorem varint_value_length (k v : Nat) (h : v < 128 ^ (k + 1)) : (varint1 v).length ≤ k + 1 := by
  induction k generalizing v with
  | zero => rw [varint1_lt v h]; exact Nat.le_refl 1
  | succ k ih =>
    by_cases hv : v < 128
    · rw [varint1_lt v hv]; exact Nat.le_add_left 1 _
    · rw [varint1_ge v (Nat.le_of_not_lt hv)]
      exact Nat.succ_le_succ (ih _ ((Nat.div_lt_iff_lt_mul (by decide)).mpr h))

/-- a u64 takes at most 10 bytes -/
theorem varint_u64_at_most_10_bytes (v : Nat) (h : v < U64) : (varint1 v).length ≤ 10 :=
  varint_value_length 9 v (Nat.lt_of_lt_of_le h (by decide))

/-- the encoding is the shortest one: a value of more than one byte never ends in a zero group -/
theorem varint_value_canonical (v : Nat) (h : 128 ≤ v) :
    ∃ b, (varint1 v).getLast? = some b ∧ 1 ≤ b := by
  induction v using Nat.strongRecOn with
  | _ v ih =>
    rw [varint1_ge v h]
    by_cases h2 : 128 ≤ v / 128
    · obtain ⟨b, hb, hb1⟩ := ih (v / 128) (div128_lt v h) h2
      refine ⟨b, ?_, hb1⟩
      cases hm : varint1 (v / 128) with
      | nil => exact absurd hm (varint1_ne_nil _)
      | cons c rest => rw [hm] at hb; rw [List.getLast?_cons_cons]; exact hb
    · -- the last group is `v / 128` itself, at least 1 since `v ≥ 128`
      rw [varint1_lt _ (Nat.lt_of_not_le h2)]
      exact ⟨v / 128, rfl, (Nat.le_div_iff_mul_le (by decide)).mpr h⟩

/-- one-byte values are themselves -/
theorem varint_small_value (v : Nat) (h : v < 128) : varint1 v = [v] :=
  varint1_lt v h

/-- non-vacuity / regression input of seeded change C20_9: 2^21 is the first four-byte value -/
example : varint1 2097151 = [255, 255, 127] ∧ varint1 2097152 = [128, 128, 128, 1] := by
  constructor <;> simp [varint1]

end Neumann.Codec.VarintProps
