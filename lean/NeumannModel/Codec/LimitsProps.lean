import NeumannModel.Codec.Limits
/-! Property theorems for the request-size limits of decoded messages (C20). -/
namespace Neumann.Codec

/-- the saturating span: exact below the top of `u64`, clamped to `u64::MAX` for the full range -/
theorem span_cases (fromH toH : Nat) (ht : toH < U64) :
    (toH - fromH + 1 < U64 ∧ satAdd (satSub toH fromH) 1 = toH - fromH + 1) ∨
    (toH - fromH + 1 = U64 ∧ satAdd (satSub toH fromH) 1 = U64 - 1) := by
  unfold satAdd satSub
  by_cases h : toH - fromH + 1 < U64
  · exact Or.inl ⟨h, if_pos h⟩
  · exact Or.inr ⟨Nat.le_antisymm (Nat.succ_le_of_lt (Nat.lt_of_le_of_lt (Nat.sub_le _ _) ht))
      (Nat.le_of_not_lt h), if_neg h⟩

/-- An accepted BlockRequest asks for a non-empty, correctly ordered range of at most
    `max_blocks_per_request` blocks — the TRUE number of blocks `to - from + 1`, for every pair of `u64`
    heights including `0 ..= u64::MAX` — whenever the limit itself is below `u64::MAX`. -/
theorem accepted_block_request_is_within_limit (maxBlocks fromH toH : Nat)
    (ht : toH < U64) (hm : maxBlocks < U64 - 1)
    (h : validateBlockRequest maxBlocks fromH toH = .ok) :
    fromH ≤ toH ∧ toH - fromH + 1 ≤ maxBlocks := by
  unfold validateBlockRequest at h
  split at h
  · cases h
  · rename_i h1
    split at h
    · cases h
    · rename_i h2
      refine ⟨Nat.le_of_not_lt h1, ?_⟩
      rcases span_cases fromH toH ht with ⟨_, e⟩ | ⟨_, e⟩
      · rw [e] at h2; exact Nat.le_of_not_lt h2
      · rw [e] at h2; exact absurd hm h2

/-- and conversely every ordered range within the limit is accepted: the verdict is exactly the
    specification -/
theorem block_request_verdict_exact (maxBlocks fromH toH : Nat)
    (ht : toH < U64) (hm : maxBlocks < U64 - 1) :
    validateBlockRequest maxBlocks fromH toH =
      if toH < fromH then .inverted else if toH - fromH + 1 > maxBlocks then .tooMany else .ok := by
  unfold validateBlockRequest
  by_cases h1 : toH < fromH
  · rw [if_pos h1, if_pos h1]
  · rw [if_neg h1, if_neg h1]
    rcases span_cases fromH toH ht with ⟨_, e⟩ | ⟨hfull, e⟩
    · rw [e]
    · rw [e, hfull, if_pos hm, if_pos (Nat.lt_of_lt_of_le hm (Nat.sub_le _ _))]

/-- an accepted SnapshotRequest asks for between 1 and `max_snapshot_chunk_size` bytes -/
theorem accepted_snapshot_request_is_within_limit (maxChunk chunk : Nat)
    (h : validateSnapshotRequest maxChunk chunk = .ok) : 0 < chunk ∧ chunk ≤ maxChunk := by
  unfold validateSnapshotRequest at h
  split at h
  · cases h
  · rename_i h0
    split at h
    · cases h
    · rename_i h1
      exact ⟨Nat.pos_of_ne_zero h0, Nat.le_of_not_lt h1⟩

/-- non-vacuity: a 1000-block range at the top of the height space is accepted, one more is not -/
example : validateBlockRequest 1000 (U64 - 1000) (U64 - 1) = .ok ∧
    validateBlockRequest 1000 (U64 - 1001) (U64 - 1) = .tooMany ∧
    validateBlockRequest 1000 0 (U64 - 1) = .tooMany := by decide

/-- WITNESS (not the code): with wrapping arithmetic the full range `0 ..= u64::MAX` has span 0 and is
    ACCEPTED whatever the limit, although it asks for 2^64 blocks; the code as it is refuses it. -/
theorem wrapping_span_accepts_full_range_witness :
    validateBlockRequestWrapping 1000 0 (U64 - 1) = .ok ∧
    validateBlockRequest 1000 0 (U64 - 1) = .tooMany ∧
    ¬ ((U64 - 1) - 0 + 1 ≤ 1000) := by decide

/-- the two agree everywhere else -/
theorem wrapping_span_differs_only_on_full_range (maxBlocks fromH toH : Nat)
    (ht : toH < U64) (hne : ¬ (fromH = 0 ∧ toH = U64 - 1)) :
    validateBlockRequestWrapping maxBlocks fromH toH = validateBlockRequest maxBlocks fromH toH := by
  unfold validateBlockRequestWrapping validateBlockRequest
  by_cases h1 : toH < fromH
  · rw [if_pos h1, if_pos h1]
  · rw [if_neg h1, if_neg h1]
    rcases span_cases fromH toH ht with ⟨hlt, e⟩ | ⟨hfull, _⟩
    · rw [e, Nat.mod_eq_of_lt hlt]
    · have h1 : 1 < U64 := by decide
      exact absurd (by omega) hne

end Neumann.Codec
