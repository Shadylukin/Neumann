import NeumannModel.Codec.SparseOps
/- `SparseVector::try_set` keeps the struct invariant and changes exactly one dense component. -/
namespace Neumann.Codec

-- stated for `a.map f`: the index stays `a.length` once a projection is pushed through `++`
theorem eraseIdx_mid {α β : Type} (f : α → β) (a : List α) (y : β) (c : List β) :
    (a.map f ++ y :: c).eraseIdx a.length = a.map f ++ c := by
  induction a with
  | nil => rfl
  | cons x t ih =>
    rw [List.map_cons, List.cons_append, List.length_cons, List.eraseIdx_cons_succ, ih, List.cons_append]

theorem set_mid {α β : Type} (f : α → β) (a : List α) (y z : β) (c : List β) :
    (a.map f ++ y :: c).set a.length z = a.map f ++ z :: c := by
  induction a with
  | nil => rfl
  | cons x t ih =>
    rw [List.map_cons, List.cons_append, List.length_cons, List.set_cons_succ, ih, List.cons_append]

theorem map_insertAt (f : Nat × Nat → Nat) (ws : List (Nat × Nat)) (k : Nat) (x : Nat × Nat) :
    (ws.take k ++ x :: ws.drop k).map f = insertAt (ws.map f) k (f x) := by
  simp [insertAt, List.map_take, List.map_drop]

theorem forall_mem_mid {α : Type} {p : α → Prop} {a b : List α} {x : α} :
    (∀ y ∈ a ++ x :: b, p y) ↔ p x ∧ ∀ y ∈ a ++ b, p y := by
  rw [List.forall_mem_append, List.forall_mem_cons, List.forall_mem_append]
  exact ⟨fun h => ⟨h.2.1, h.1, h.2.2⟩, fun h => ⟨h.2.1, h.1, h.2.2⟩⟩

theorem findPos_split (ws : List (Nat × Nat)) (i k : Nat) (hf : findPos (keys ws) i = some k) :
    ∃ a v b, ws = a ++ (i, v) :: b ∧ a.length = k ∧ i ∉ keys a := by
  induction ws generalizing k with
  | nil => cases hf
  | cons w t ih =>
    rcases findPos_cons_eq_some (p := w.1) (rest := keys t) hf with ⟨hw, rfl⟩ | ⟨hw, k', hf', rfl⟩
    · exact ⟨[], w.2, t, by rw [← hw]; rfl, rfl, List.not_mem_nil⟩
    · obtain ⟨a, v, b, rfl, rfl, hia⟩ := ih k' hf'
      exact ⟨w :: a, v, b, rfl, rfl, fun hm => (List.mem_cons.mp hm).elim (fun e => hw e.symm) hia⟩

theorem lookupW_mid (a b : List (Nat × Nat)) (i v j : Nat) (hia : i ∉ keys a) :
    lookupW (a ++ (i, v) :: b) j = if j = i then some v else lookupW (a ++ b) j := by
  induction a with
  | nil =>
    rw [List.nil_append, lookupW]
    by_cases hj : j = i
    · rw [if_pos hj, if_pos hj.symm]
    · rw [if_neg hj, if_neg (fun e => hj e.symm)]; rfl
  | cons x t ih =>
    have hx : x.1 ≠ i := fun e => hia (e ▸ List.mem_cons_self)
    rw [List.cons_append, List.cons_append, lookupW, lookupW,
      ih (fun hm => hia (List.mem_cons_of_mem _ hm))]
    by_cases hxj : x.1 = j
    · rw [if_pos hxj, if_pos hxj, if_neg (fun e => hx (hxj.trans e))]
    · rw [if_neg hxj, if_neg hxj]

theorem insert_sorted (l : List Nat) (i : Nat) (h : l.Pairwise (· < ·)) (hi : i ∉ l) :
    (l.take (insertIdx l i) ++ i :: l.drop (insertIdx l i)).Pairwise (· < ·) := by
  induction l with
  | nil => exact List.pairwise_singleton _ _
  | cons a t ih =>
    obtain ⟨hat, ht⟩ := List.pairwise_cons.mp h
    have hia : i ≠ a := fun e => hi (e ▸ List.mem_cons_self)
    have hit : i ∉ t := fun hm => hi (List.mem_cons_of_mem _ hm)
    unfold insertIdx
    rw [List.filter_cons]
    by_cases hai : a < i
    · rw [if_pos (decide_eq_true hai), List.length_cons, List.take_succ_cons, List.drop_succ_cons,
        List.cons_append]
      refine List.pairwise_cons.mpr ⟨fun x hx => ?_, ih ht hit⟩
      rcases List.mem_append.mp hx with hx | hx
      · exact hat x (List.mem_of_mem_take hx)
      · rcases List.mem_cons.mp hx with rfl | hx
        · exact hai
        · exact hat x (List.mem_of_mem_drop hx)
    · -- `i` is below `a`, hence below everything: nothing is filtered and `i` goes in front
      have hia' : i < a := Nat.lt_of_le_of_ne (Nat.le_of_not_lt hai) hia
      have hnil : t.filter (· < i) = [] := List.filter_eq_nil_iff.mpr fun x hx =>
        by simpa using Nat.le_of_lt (Nat.lt_trans hia' (hat x hx))
      rw [if_neg (by simpa using hai), hnil]
      refine List.pairwise_cons.mpr ⟨fun x hx => ?_, h⟩
      rcases List.mem_cons.mp hx with rfl | hx
      · exact hia'
      · exact Nat.lt_trans hia' (hat x hx)

structure PairsOk (dim : Nat) (ws : List (Nat × Nat)) : Prop where
  sorted : (keys ws).Pairwise (· < ·)
  bound : ∀ pv ∈ ws, pv.1 < dim
  nz : ∀ pv ∈ ws, isZero pv.2 = false

theorem ofPairs_dense (dim : Nat) (ws : List (Nat × Nat)) (hs : (keys ws).Pairwise (· < ·))
    (hb : ∀ pv ∈ ws, pv.1 < dim) :
    ∃ l, toDense (ofPairs dim ws) = some l ∧ l.length = dim ∧
      ∀ j, j < dim → l[j]? = some ((lookupW ws j).getD 0) := by
  refine ⟨_, toDense_ofPairs dim ws hb, by rw [applyWrites_length, List.length_replicate], ?_⟩
  intro j hj
  rw [applyWrites_get ws _ j (hs.imp Nat.ne_of_lt)
    (List.forall_mem_map.mpr fun pv hpv => by rw [List.length_replicate]; exact hb pv hpv)]
  cases lookupW ws j with
  | some v => rfl
  | none => rw [List.getElem?_replicate, if_pos hj]; rfl

theorem dense_set_of_lookup (dim : Nat) (ws ws' : List (Nat × Nat)) (h : PairsOk dim ws)
    (h' : PairsOk dim ws') (i v : Nat)
    (hl : ∀ j, lookupW ws' j = if j = i then (if isZero v then none else some v) else lookupW ws j) :
    ∃ l l', toDense (ofPairs dim ws) = some l ∧ toDense (ofPairs dim ws') = some l' ∧
      l' = l.set i (normZero v) := by
  obtain ⟨l, hl1, hlen, hget⟩ := ofPairs_dense dim ws h.sorted h.bound
  obtain ⟨l', hl1', hlen', hget'⟩ := ofPairs_dense dim ws' h'.sorted h'.bound
  refine ⟨l, l', hl1, hl1', ?_⟩
  apply List.ext_getElem?
  intro j
  by_cases hj : j < dim
  · rw [hget' j hj, hl j]
    by_cases hji : j = i
    · subst hji
      rw [if_pos rfl, List.getElem?_set_self (hlen ▸ hj)]
      unfold normZero
      cases isZero v <;> rfl
    · rw [if_neg hji, List.getElem?_set_ne (fun e => hji e.symm), hget j hj]
  · have hj' := Nat.le_of_not_lt hj
    rw [List.getElem?_eq_none (hlen' ▸ hj'), List.getElem?_eq_none (by rw [List.length_set, hlen]; exact hj')]

theorem set_pairs (dim : Nat) (ws : List (Nat × Nat)) (h : PairsOk dim ws) (i v : Nat)
    (hi : i < dim) :
    ∃ ws', trySet (ofPairs dim ws) i v = .ok (ofPairs dim ws') ∧ PairsOk dim ws' ∧
      ∀ j, lookupW ws' j = if j = i then (if isZero v then none else some v) else lookupW ws j := by
  unfold trySet
  rw [if_neg (show ¬ i ≥ (ofPairs dim ws).dim from Nat.not_le_of_lt hi)]
  cases hf : findPos (keys ws) i with
  | some k =>
    rw [show findPos (ofPairs dim ws).pos i = some k from hf]
    obtain ⟨a, v0, b, rfl, rfl, hia⟩ := findPos_split ws i k hf
    have hs : (keys a ++ i :: keys b).Pairwise (· < ·) := by
      have := h.sorted
      rwa [keys, List.map_append, List.map_cons] at this
    obtain ⟨_, hb⟩ := forall_mem_mid.mp h.bound
    obtain ⟨_, hn⟩ := forall_mem_mid.mp h.nz
    dsimp only
    by_cases hz : isZero v = true
    · rw [if_pos hz]
      have hib : i ∉ keys b := fun hm =>
        Nat.lt_irrefl i ((List.pairwise_cons.mp (List.pairwise_append.mp hs).2.1).1 i hm)
      refine ⟨a ++ b, ?_, ⟨?_, hb, hn⟩, fun j => ?_⟩
      · simp only [ofPairs, keys, List.map_append, List.map_cons, eraseIdx_mid]
      · exact h.sorted.sublist (((List.sublist_cons_self _ b).append_left a).map _)
      · rw [lookupW_mid a b i v0 j hia, hz]
        by_cases hj : j = i
        · rw [if_pos hj, hj]
          apply (lookupW_none _ i).mpr
          rw [keys, List.map_append, List.mem_append]
          exact not_or.mpr ⟨hia, hib⟩
        · rw [if_neg hj, if_neg hj]
    · rw [if_neg hz]
      have hzf : isZero v = false := Bool.eq_false_iff.mpr hz
      refine ⟨a ++ (i, v) :: b, ?_,
        ⟨?_, forall_mem_mid.mpr ⟨hi, hb⟩, forall_mem_mid.mpr ⟨hzf, hn⟩⟩, fun j => ?_⟩
      · simp only [ofPairs, keys, List.map_append, List.map_cons, set_mid]
      · rwa [keys, List.map_append, List.map_cons]
      · rw [lookupW_mid a b i v j hia, lookupW_mid a b i v0 j hia, hzf]
        by_cases hj : j = i
        · rw [if_pos hj, if_pos hj]; rfl
        · rw [if_neg hj, if_neg hj, if_neg hj]
  | none =>
    rw [show findPos (ofPairs dim ws).pos i = none from hf]
    have hni : i ∉ keys ws := (findPos_none _ i).mp hf
    dsimp only
    by_cases hz : isZero v = true
    · rw [if_pos hz]
      refine ⟨ws, rfl, h, fun j => ?_⟩
      by_cases hj : j = i
      · rw [if_pos hj, hz, hj]; exact (lookupW_none ws i).mpr hni
      · rw [if_neg hj]
    · rw [if_neg hz]
      have hzf : isZero v = false := Bool.eq_false_iff.mpr hz
      have hsplit := List.take_append_drop (insertIdx (keys ws) i) ws
      have hia : i ∉ keys (ws.take (insertIdx (keys ws) i)) := fun hm =>
        hni ((List.take_sublist _ _).map _ |>.subset hm)
      refine ⟨ws.take (insertIdx (keys ws) i) ++ (i, v) :: ws.drop (insertIdx (keys ws) i), ?_,
        ⟨?_, forall_mem_mid.mpr ⟨hi, by rw [hsplit]; exact h.bound⟩,
          forall_mem_mid.mpr ⟨hzf, by rw [hsplit]; exact h.nz⟩⟩,
        fun j => ?_⟩
      · simp only [ofPairs, keys, map_insertAt]
      · rw [keys, map_insertAt]; exact insert_sorted _ i h.sorted hni
      · rw [lookupW_mid _ _ i v j hia, hsplit, hzf]; rfl

theorem valid_as_pairs (s : SV) (hv : s.valid = true) :
    s = ofPairs s.dim (s.pos.zip s.vals) ∧ PairsOk s.dim (s.pos.zip s.vals) ∧ s.dim ≤ MAXDIM := by
  obtain ⟨hwf, hnz, hmax⟩ := (SV.valid_iff s).mp hv
  obtain ⟨hs, hsorted, hb⟩ := wf_as_pairs s hwf
  exact ⟨hs, ⟨hsorted, hb, fun pv hpv => hnz _ (List.of_mem_zip hpv).2⟩, hmax⟩

end Neumann.Codec
