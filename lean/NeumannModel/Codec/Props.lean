import NeumannModel.Codec.Lemmas
/-
  C20 — property theorems for the lossless codecs.  ONLY property statements
  and their non-vacuity examples live here; helpers are in `Lemmas.lean`.
-/
namespace Neumann.Codec.Props
open Neumann.Codec

theorem delta_roundtrip (ids : List Nat) (h : ∀ x ∈ ids, x < U64) :
    deltaDecode (deltaEncode ids) = ids := by
  cases ids with
  | nil => rfl
  | cons x xs =>
    obtain ⟨hx, hxs⟩ := List.forall_mem_cons.mp h
    rw [deltaEncode, deltaDecode, undelta_delta x xs hx hxs]

theorem varint_roundtrip (vs : List Nat) (h : ∀ v ∈ vs, v < U64) :
    varintDecode (varintEncode vs) = vs :=
  varint_decode_encode_go vs h

/-- Every list of u64 ids (empty, single, maximal, **unsorted**, duplicates) survives
    `compress_ids` / `decompress_ids`. -/
theorem decompress_compress_ids (ids : List Nat) (h : ∀ x ∈ ids, x < U64) :
    decompressIds (compressIds ids) = ids := by
  rw [decompressIds, compressIds, varint_roundtrip _ (deltaEncode_lt ids h), delta_roundtrip ids h]

/-- a varint stream followed by more encoded values decodes to the concatenation:
    the decoder consumes exactly the declared extent of each value -/
theorem varint_stream_split (v : Nat) (rest : List Nat) (hv : v < U64) :
    varintDecode (varint1 v ++ rest) = v :: varintDecode rest :=
  varint1_decode_zero v rest hv

/-- the varint decoder never yields more values than it was given bytes
    (no amplification on arbitrary / malformed input); it is total by construction -/
theorem varint_decode_bounded (bs : List Nat) : (varintDecode bs).length ≤ bs.length :=
  varintDecodeGo_length 0 0 bs

theorem decompress_bounded (bs : List Nat) : (decompressIds bs).length ≤ bs.length := by
  rw [decompressIds, deltaDecode_length]
  exact varint_decode_bounded bs

/-- run-length coding is an exact inverse for every input (run counters are `Nat` here;
    the Rust `u32` counter needs `data.len() < 2^32`, stated in DESIGN.md) -/
theorem rle_roundtrip (xs : List Int) : rleDecode (rleEncode xs) = xs := by
  cases xs with
  | nil => rfl
  | cons x xs => rw [rleEncode, rleGo_decode]; rfl

/-- frame v1 round trip, with arbitrary bytes following the frame on the stream -/
theorem frame_roundtrip (max : Nat) (p rest : List Nat)
    (h0 : 0 < p.length) (hm : p.length ≤ max) (h32 : p.length < U32) :
    ∃ f, frameEncode max p = .ok f ∧ frameRead max (f ++ rest) = .frame p rest :=
  ⟨_, frameEncode_ok max p hm h32, frameRead_encoded max p rest h0 hm h32⟩

/-- the encoder refuses what the reader would refuse: payloads above the limit never produce a frame -/
theorem frame_encode_rejects_oversize (max : Nat) (p : List Nat) (h : p.length > max) :
    frameEncode max p = .error .tooLarge := by
  rw [frameEncode, if_pos h]

/-- whatever bytes arrive, an accepted frame is non-empty, within the configured limit,
    and is exactly the declared extent of the input (nothing read past it) -/
theorem frame_decode_bounded (max : Nat) (bs p rest : List Nat)
    (h : frameRead max bs = .frame p rest) :
    0 < p.length ∧ p.length ≤ max ∧ ∃ a b c d, bs = a :: b :: c :: d :: (p ++ rest) := by
  obtain ⟨a, b, c, d, hbs, _, h0, hm⟩ := (frameRead_frame_iff max bs p rest).mp h
  exact ⟨h0, hm, a, b, c, d, hbs⟩

/-- a declared length above the limit is rejected before any payload byte is looked at -/
theorem frame_oversize_rejected (max a b c d : Nat) (tl : List Nat)
    (h : be32Decode a b c d > max) : frameRead max (a :: b :: c :: d :: tl) = .err .tooLarge := by
  simp only [frameRead, if_pos h]

def encodeAll (ps : List (List Nat)) : List Nat := (ps.map fun p => be32 p.length ++ p).flatten

/-- a concatenation of frames decodes to exactly those frames, then EOF -/
theorem frame_stream_split_exact (max : Nat) (ps : List (List Nat))
    (h : ∀ p ∈ ps, 0 < p.length ∧ p.length ≤ max ∧ p.length < U32) :
    frameReadAll max (ps.length + 1) (encodeAll ps) = (ps, none) := by
  induction ps with
  | nil => rfl
  | cons p ps ih =>
    obtain ⟨⟨h0, hm, h32⟩, hps⟩ := List.forall_mem_cons.mp h
    show frameReadAll max (ps.length + 1 + 1) (be32 p.length ++ p ++ encodeAll ps) = _
    rw [frameReadAll, frameRead_encoded max p _ h0 hm h32]
    dsimp only
    rw [ih hps]

/-- v2 header: an empty payload is an error, otherwise flags bit 0 and the data are split off -/
theorem v2_split_spec (f : Nat) (data : List Nat) : v2Split (f :: data) = .ok (f % 2, data) := rfl

/-- **v2 round trip with compression negotiated**: whatever the compressor returns, the bytes
    handed to the deserialiser are the serialised message — provided `decompress` inverts
    `compress` (lz4, opaque) and the flag of the configured method is 0 (None, where
    `compress` is the identity) or 1 (LZ4). The flags byte says "compressed" exactly when the
    compressed bytes travel. -/
theorem v2_roundtrip (decompress : List Nat → Option (List Nat)) (max : Nat) (enabled : Bool)
    (minSize methodFlag : Nat) (ser comp : List Nat)
    (hflag : (methodFlag = 0 ∧ comp = ser) ∨ (methodFlag = 1 ∧ decompress comp = some ser))
    (hmax : ser.length ≤ max) :
    v2Decode decompress max
        ((v2Choose enabled minSize methodFlag ser comp).1 :: (v2Choose enabled minSize methodFlag ser comp).2)
      = .ok ser := by
  have hm : ¬ ser.length > max := Nat.not_lt_of_le hmax
  rcases v2Choose_cases enabled minSize methodFlag ser comp with ⟨e, hlt⟩ | e
  · -- the compressed bytes travel: the method is LZ4, since "compressing" with None shortens nothing
    rw [e]
    rcases hflag with ⟨_, hc⟩ | ⟨hf, hd⟩
    · rw [hc] at hlt; exact absurd hlt (Nat.lt_irrefl _)
    · simp only [v2Decode, hf, Nat.one_mod, Nat.one_ne_zero, if_false, hd, if_neg hm]
  · rw [e]
    simp only [v2Decode, Nat.zero_mod, if_true, if_neg hm]

/-- **encode_v2 / decode_payload_v2 are inverse for every limit**: whenever the encoder emits a
    frame, its content decodes (same `max`) to the serialised message. -/
theorem v2_encode_then_decode (decompress : List Nat → Option (List Nat)) (max : Nat)
    (enabled : Bool) (minSize methodFlag : Nat) (ser comp f : List Nat)
    (hflag : (methodFlag = 0 ∧ comp = ser) ∨ (methodFlag = 1 ∧ decompress comp = some ser))
    (h : frameEncodeV2c max enabled minSize methodFlag ser comp = .ok f) :
    ∃ content, f = be32 content.length ++ content ∧ v2Decode decompress max content = .ok ser := by
  unfold frameEncodeV2c at h
  split at h
  · cases h
  · rename_i hbig
    exact ⟨_, frameEncodeV2_ok _ _ _ _ h,
      v2_roundtrip decompress max enabled minSize methodFlag ser comp hflag (Nat.le_of_not_lt hbig)⟩

/-- the pre-fix encoder emitted frames its own decoder refuses (witness: limit 4, a 6-byte
    serialisation that "compresses" to 2 bytes) -/
theorem v2_old_encoder_limit_witness :
    ∃ f content, frameEncodeV2cOld 4 true 0 1 [1, 2, 3, 4, 5, 6] [9, 9] = .ok f ∧
      f = be32 content.length ++ content ∧
      v2Decode (fun _ => some [1, 2, 3, 4, 5, 6]) 4 content = .error .tooLarge :=
  ⟨_, [1, 9, 9], rfl, by decide, by decide⟩

/-- the compressed bytes are sent only when they are strictly shorter -/
theorem v2_never_grows (enabled : Bool) (minSize methodFlag : Nat) (ser comp : List Nat) :
    (v2Choose enabled minSize methodFlag ser comp).2.length ≤ ser.length := by
  rcases v2Choose_cases enabled minSize methodFlag ser comp with ⟨e, hlt⟩ | e
  · exact e ▸ Nat.le_of_lt hlt
  · exact e ▸ Nat.le_refl ser.length

/-! ### The pre-fix encoder does **not** satisfy the property (kept as a regression witness). -/
theorem old_delta_not_inverse :
    deltaDecodeOld (deltaEncodeOld [5, 3, 9, 9, 1]) = [5, 5, 11, 11, 11] := by decide

/-! ### Non-vacuity: concrete non-trivial inputs meet the hypotheses. -/
example : decompressIds (compressIds [5, 3, 9, 9, 1]) = [5, 3, 9, 9, 1] :=
  decompress_compress_ids _ (by decide)
example : (∀ x ∈ [18446744073709551615, 0, 7], x < U64) := by decide
example : ∃ f, frameEncode 16 [1, 2, 3] = .ok f ∧ frameRead 16 (f ++ [9]) = .frame [1, 2, 3] [9] :=
  frame_roundtrip 16 [1, 2, 3] [9] (by decide) (by decide) (by decide)

end Neumann.Codec.Props
