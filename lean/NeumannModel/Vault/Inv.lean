import NeumannModel.Vault.Moves
/-
  C14 — history invariant tying the GHOST expiry of every grant edge to the TTL tracker
  (the code stores expiry only in the tracker, keyed by (entity, secret name)), and its
  consequence: right after `cleanup_expired_grants` every edge left in the graph is unexpired.
-/
namespace Neumann.Vault

/-- every edge issued with an expiry `x` is a VAULT_ACCESS edge entity→secret whose (entity, secret, x)
    entry is still in the TTL tracker -/
def TI (g : Graph) (ttl : List TtlEntry) : Prop :=
  ∀ e ∈ g, ∀ x, e.expiry = some x →
    ∃ ent sec, e.src = entNode ent ∧ e.dst = secNode sec ∧ e.kind.isAccess = true ∧ (TtlEntry.mk ent sec x) ∈ ttl

theorem TI.mono {g g' : Graph} {ttl ttl' : List TtlEntry} (h : TI g ttl)
    (hg : ∀ e ∈ g', e ∈ g)
    (ht : ∀ e ∈ g', ∀ t ∈ ttl, e.src = entNode t.ent → e.dst = secNode t.sec → e.kind.isAccess = true → t ∈ ttl') :
    TI g' ttl' := by
  intro e he x hx
  obtain ⟨ent, sec, h1, h2, h3, h4⟩ := h e (hg e he) x hx
  exact ⟨ent, sec, h1, h2, h3, ht e he _ h4 h1 h2 h3⟩

theorem TI.append {g : Graph} {ttl : List TtlEntry} (h : TI g ttl) (e : Edge) (he : e.expiry = none) :
    TI (g ++ [e]) ttl := by
  intro e' he' x hx
  rcases List.mem_append.mp he' with h1 | h1
  · exact h e' h1 x hx
  · rw [List.mem_singleton] at h1; subst h1; rw [he] at hx; cases hx

theorem TI.ttl_append {g : Graph} {ttl : List TtlEntry} (h : TI g ttl) (more : List TtlEntry) :
    TI g (ttl ++ more) :=
  h.mono (fun _ h => h) (fun _ _ _ ht _ _ _ => List.mem_append_left _ ht)

theorem mem_foldl_dropAccess {e : Edge} (L : List TtlEntry) (g : Graph) :
    e ∈ L.foldl (fun g t => dropAccess g t.ent t.sec) g ↔
      e ∈ g ∧ ∀ t ∈ L, ¬ (e.src = entNode t.ent ∧ e.dst = secNode t.sec ∧ e.kind.isAccess = true) :=
  mem_foldl_iff id _ _ L g fun _ _ => mem_dropAccess

/-- what `cleanup_expired_grants` does to the graph, the tracker and the policy (it also persists the tracker when an
    edge went) -/
theorem cleanup_proj (s : State) (now : Nat) :
    (s.cleanup now).graph =
      (s.ttl.filter (fun t => t.expires ≤ now)).foldl (fun g t => dropAccess g t.ent t.sec) s.graph ∧
    (s.cleanup now).ttl = s.ttl.filter (fun t => !(decide (t.expires ≤ now))) ∧ (s.cleanup now).pol = s.pol := by
  unfold State.cleanup
  simp only
  split
  · exact ⟨persistTtl_graph _, persistTtl_ttl _, persistTtl_pol _⟩
  · exact ⟨rfl, rfl, rfl⟩

theorem cleanup_graph (s : State) (now : Nat) :
    (s.cleanup now).graph =
      (s.ttl.filter (fun t => t.expires ≤ now)).foldl (fun g t => dropAccess g t.ent t.sec) s.graph :=
  (cleanup_proj s now).1

theorem cleanup_ttl (s : State) (now : Nat) :
    (s.cleanup now).ttl = s.ttl.filter (fun t => !(decide (t.expires ≤ now))) :=
  (cleanup_proj s now).2.1

@[simp] theorem cleanup_pol (s : State) (now : Nat) : (s.cleanup now).pol = s.pol :=
  (cleanup_proj s now).2.2

theorem cleanup_graph_sub (s : State) (now : Nat) : ∀ e ∈ (s.cleanup now).graph, e ∈ s.graph := by
  intro e he
  rw [cleanup_graph] at he
  exact ((mem_foldl_dropAccess _ _).mp he).1

/-- `cleanup_expired_grants` twice at the same instant = once (why the repeated calls inside one API call —
    `get`: top + `check_access`; `list`: top + every `has_access`; `delegate`: every `get_permission` — are
    modelled by a single `cleanup now`) -/
theorem cleanup_cleanup (s : State) (now : Nat) : (s.cleanup now).cleanup now = s.cleanup now := by
  have hexp : (s.cleanup now).ttl.filter (fun t => decide (t.expires ≤ now)) = [] := by
    rw [cleanup_ttl, List.filter_filter]
    simp
  have hkeep : (s.cleanup now).ttl.filter (fun t => !(decide (t.expires ≤ now))) = (s.cleanup now).ttl := by
    rw [cleanup_ttl, List.filter_filter]
    simp
  generalize s.cleanup now = c at hexp hkeep ⊢
  unfold State.cleanup
  simp only [hexp, hkeep, List.foldl_nil, Nat.lt_irrefl, if_false]

theorem checkAccess_cleanup (s : State) (now req sec : Nat) (need : Level) :
    ((s.cleanup now).checkAccess now req sec need).2 = (s.checkAccess now req sec need).2 := by
  unfold State.checkAccess
  rw [cleanup_cleanup]
  split
  · rfl
  · split <;> rfl

theorem checkAccess_checkAccess (s : State) (now r sec' req sec : Nat) (n need : Level) :
    ((s.checkAccess now r sec' n).1.checkAccess now req sec need).2 = (s.checkAccess now req sec need).2 := by
  rw [checkAccess_fst]
  split
  · rfl
  · split
    · rfl
    · exact checkAccess_cleanup ..

theorem MPath.mono {g g' : Graph} (hsub : ∀ e ∈ g, e ∈ g') {a b k : Nat} (h : MPath g a b k) : MPath g' a b k := by
  induction h with
  | refl => exact .refl
  | step e _ he hk hs ih => exact .step e ih (hsub e he) hk hs

theorem Justified.mono {s s' : State} {req sec : Nat} {need : Level} {P : Edge → Prop}
    (h : Justified s req sec need P) (hpol : s.pol = s'.pol) (hsub : ∀ e ∈ s.graph, e ∈ s'.graph) :
    Justified s' req sec need P := by
  obtain ⟨l, e, ⟨k, grp, hpath, hk, he, hsrc, hdst, hacc, hlvl⟩, hl, hp⟩ := h
  exact ⟨l, e, ⟨k, grp, hpath.mono hsub, hpol ▸ hk, hsub e he, hsrc, hdst, hacc, hpol ▸ hlvl⟩, hl, hp⟩

theorem Justified.of_cleanup {s : State} {now req sec : Nat} {need : Level} {P : Edge → Prop}
    (h : Justified (s.cleanup now) req sec need P) : Justified s req sec need P :=
  h.mono (cleanup_pol s now) (cleanup_graph_sub s now)

/-- after `cleanup_expired_grants` at `now`: the invariant still holds and every remaining edge is unexpired -/
theorem TI.cleanup {s : State} (h : TI s.graph s.ttl) (now : Nat) :
    TI (s.cleanup now).graph (s.cleanup now).ttl ∧ ∀ e ∈ (s.cleanup now).graph, LiveAt now e := by
  rw [cleanup_graph, cleanup_ttl]
  have key : ∀ e ∈ (s.ttl.filter (fun t => t.expires ≤ now)).foldl (fun g t => dropAccess g t.ent t.sec) s.graph,
      ∀ x, e.expiry = some x → now < x ∧
        ∃ ent sec, e.src = entNode ent ∧ e.dst = secNode sec ∧ e.kind.isAccess = true ∧ (TtlEntry.mk ent sec x) ∈ s.ttl := by
    intro e he x hx
    obtain ⟨heg, hno⟩ := (mem_foldl_dropAccess _ _).mp he
    obtain ⟨ent, sec, h1, h2, h3, h4⟩ := h e heg x hx
    refine ⟨?_, ent, sec, h1, h2, h3, h4⟩
    by_cases hle : x ≤ now
    · exact absurd ⟨h1, h2, h3⟩ (hno ⟨ent, sec, x⟩ (by simp [h4, hle]))
    · omega
  constructor
  · intro e he x hx
    obtain ⟨hlt, ent, sec, h1, h2, h3, h4⟩ := key e he x hx
    refine ⟨ent, sec, h1, h2, h3, ?_⟩
    simp only [List.mem_filter, Bool.not_eq_eq_eq_not, Bool.not_true, decide_eq_false_iff_not]
    exact ⟨h4, show ¬ x ≤ now by omega⟩
  · intro e he x hx
    exact (key e he x hx).1

theorem addAccess_graph (s : State) (ent sec : Nat) (l : Level) (x : Option Nat) :
    (s.addAccess ent sec l x).graph = s.graph ++ [accessEdge s.nextId ent sec l x] := rfl
@[simp] theorem addAccess_ttl (s : State) (ent sec : Nat) (l : Level) (x : Option Nat) :
    (s.addAccess ent sec l x).ttl = s.ttl := rfl

theorem foldl_addAccess {child : Nat} {eff : Level} {exp : Option Nat} :
    ∀ (secs : List Nat) (s0 : State),
      (secs.foldl (fun st sec => st.addAccess child sec eff exp) s0).ttl = s0.ttl ∧
      ∀ e ∈ (secs.foldl (fun st sec => st.addAccess child sec eff exp) s0).graph,
        e ∈ s0.graph ∨ ∃ sec ∈ secs, ∃ id, e = accessEdge id child sec eff exp
  | [], s0 => ⟨rfl, fun e he => Or.inl he⟩
  | sec :: rest, s0 => by
    rw [List.foldl_cons]
    obtain ⟨h1, h2⟩ := foldl_addAccess rest (s0.addAccess child sec eff exp)
    refine ⟨by rw [h1]; rfl, ?_⟩
    intro e he
    rcases h2 e he with h3 | ⟨sec', hs, id, rfl⟩
    · rw [addAccess_graph] at h3
      rcases List.mem_append.mp h3 with h4 | h4
      · exact Or.inl h4
      · rw [List.mem_singleton] at h4
        exact Or.inr ⟨sec, List.mem_cons_self .., _, h4⟩
    · exact Or.inr ⟨sec', List.mem_cons_of_mem _ hs, id, rfl⟩

theorem foldl_audit_proj (f : State → Nat → State) (hg : ∀ st x, (f st x).graph = st.graph)
    (ht : ∀ st x, (f st x).ttl = st.ttl) :
    ∀ (l : List Nat) (s0 : State), (l.foldl f s0).graph = s0.graph ∧ (l.foldl f s0).ttl = s0.ttl
  | [], _ => ⟨rfl, rfl⟩
  | x :: l, s0 => by
    rw [List.foldl_cons]
    obtain ⟨h1, h2⟩ := foldl_audit_proj f hg ht l (f s0 x)
    exact ⟨by rw [h1, hg], by rw [h2, ht]⟩

theorem foldl_audit_graph (parent child : Nat) (op : String) (l : List Nat) (s0 : State) :
    (l.foldl (fun st sec => st.audit parent sec op [.ident child]) s0).graph = s0.graph :=
  foldl_proj State.graph _ l s0 fun _ _ => rfl

theorem TI.add_grants {g g' : Graph} {ttl ttl' : List TtlEntry} (h : TI g ttl) {child : Nat} {eff : Level}
    {exp : Option Nat} {secs : List Nat}
    (hg : ∀ e ∈ g', e ∈ g ∨ ∃ sec ∈ secs, ∃ id, e = accessEdge id child sec eff exp)
    (ht : ∀ t ∈ ttl, t ∈ ttl')
    (hn : ∀ x, exp = some x → ∀ sec ∈ secs, TtlEntry.mk child sec x ∈ ttl') : TI g' ttl' := by
  intro e he x hx
  rcases hg e he with h1 | ⟨sec, hs, id, rfl⟩
  · obtain ⟨a, b, q1, q2, q3, q4⟩ := h e h1 x hx
    exact ⟨a, b, q1, q2, q3, ht _ q4⟩
  · exact ⟨child, sec, rfl, rfl, rfl, hn x hx sec hs⟩

/-- the records reachable from the agents `q` in the record graph of `ds`: a record whose delegating parent is one of
    `q`, and every record delegated onward by the child of such a record -/
inductive FromAgents (ds : List DelegRec) (q : List Nat) : DelegRec → Prop
  | first {d : DelegRec} : d ∈ ds → d.parent ∈ q → FromAgents ds q d
  | onward {d d' : DelegRec} : FromAgents ds q d → d' ∈ ds → d'.parent = d.child → FromAgents ds q d'

theorem FromAgents.mono {ds ds' : List DelegRec} {q : List Nat} {d : DelegRec} (hsub : ∀ x ∈ ds, x ∈ ds')
    (h : FromAgents ds q d) : FromAgents ds' q d := by
  induction h with
  | first hd hq => exact .first (hsub _ hd) hq
  | onward _ hd hp ih => exact .onward ih (hsub _ hd) hp

theorem FromAgents.mem {ds : List DelegRec} {q : List Nat} {d : DelegRec} (h : FromAgents ds q d) : d ∈ ds := by
  cases h with
  | first hd _ => exact hd
  | onward _ hd _ => exact hd

theorem not_fromAgents_nil {ds : List DelegRec} {d : DelegRec} (h : FromAgents ds [] d) : False := by
  induction h with
  | first _ hq => cases hq
  | onward _ _ _ ih => exact ih

theorem fromAgents_cons_iff {ds : List DelegRec} {cur : Nat} {q0 : List Nat} {d : DelegRec} :
    FromAgents ds (cur :: q0) d ↔ (d ∈ ds ∧ d.parent = cur) ∨
      FromAgents (ds.filter (fun x => decide (x.parent ≠ cur)))
        (q0 ++ (ds.filter (fun x => decide (x.parent = cur))).map (·.child)) d := by
  have hrest : ∀ {x : DelegRec}, x ∈ ds → x.parent ≠ cur → x ∈ ds.filter (fun x => decide (x.parent ≠ cur)) :=
    fun hx hp => List.mem_filter.mpr ⟨hx, decide_eq_true hp⟩
  constructor
  · intro h
    induction h with
    | @first x hx hq =>
      by_cases hp : x.parent = cur
      · exact .inl ⟨hx, hp⟩
      · exact .inr (.first (hrest hx hp) (List.mem_append_left _ ((List.mem_cons.mp hq).resolve_left hp)))
    | @onward x x' _ hx' hpar ih =>
      by_cases hp : x'.parent = cur
      · exact .inl ⟨hx', hp⟩
      · rcases ih with ⟨hx, hxp⟩ | ih
        · exact .inr (.first (hrest hx' hp) (List.mem_append_right _
            (List.mem_map.mpr ⟨x, List.mem_filter.mpr ⟨hx, decide_eq_true hxp⟩, hpar.symm⟩)))
        · exact .inr (.onward ih (hrest hx' hp) hpar)
  · rintro (⟨hd, hp⟩ | h)
    · exact .first hd (hp ▸ List.mem_cons_self ..)
    · -- back from the new queue to the old one
      induction h with
      | @first x hx hq =>
        have hx' := (List.mem_filter.mp hx).1
        rcases List.mem_append.mp hq with hq | hq
        · exact .first hx' (List.mem_cons_of_mem _ hq)
        · obtain ⟨k, hk, hkc⟩ := List.mem_map.mp hq
          have hk' := List.mem_filter.mp hk
          exact .onward (.first hk'.1 (of_decide_eq_true hk'.2 ▸ List.mem_cons_self ..)) hx' hkc.symm
      | onward _ hx hp ih => exact .onward ih (List.mem_filter.mp hx).1 hp

theorem cascadeLoop_nil (fuel : Nat) (ds acc : List DelegRec) : cascadeLoop fuel [] ds acc = (ds, acc) := by
  cases fuel <;> rfl

/-- with enough fuel the breadth-first walk of `revoke_cascading` splits the records by reachability from the queued
    agents: it reports exactly the reachable ones and keeps exactly the others -/
theorem cascadeLoop_spec :
    ∀ (fuel : Nat) (q : List Nat) (ds acc : List DelegRec), q.length + ds.length ≤ fuel →
      ∃ new, (cascadeLoop fuel q ds acc).2 = acc ++ new ∧ (∀ d, d ∈ new ↔ FromAgents ds q d) ∧
        ∀ d, d ∈ (cascadeLoop fuel q ds acc).1 ↔ d ∈ ds ∧ ¬ FromAgents ds q d := by
  have base : ∀ fuel ds acc, ∃ new, (cascadeLoop fuel [] ds acc).2 = acc ++ new ∧
      (∀ d, d ∈ new ↔ FromAgents ds [] d) ∧
      ∀ d, d ∈ (cascadeLoop fuel [] ds acc).1 ↔ d ∈ ds ∧ ¬ FromAgents ds [] d := fun fuel ds acc =>
    ⟨[], by rw [cascadeLoop_nil, List.append_nil], fun d => ⟨fun h => (nomatch h), fun h => (not_fromAgents_nil h).elim⟩,
      fun d => by rw [cascadeLoop_nil]; exact ⟨fun h => ⟨h, not_fromAgents_nil⟩, fun h => h.1⟩⟩
  intro fuel
  induction fuel with
  | zero =>
    intro q ds acc hle
    cases q with
    | nil => exact base 0 ds acc
    | cons cur q0 => simp only [List.length_cons] at hle; omega
  | succ n ih =>
    intro q ds acc hle
    cases q with
    | nil => exact base _ ds acc
    | cons cur q0 =>
      rw [cascadeLoop]
      have hlen : (q0 ++ (ds.filter (fun d => decide (d.parent = cur))).map (·.child)).length +
          (ds.filter (fun d => decide (d.parent ≠ cur))).length ≤ n := by
        have hpart := List.length_eq_countP_add_countP (fun d : DelegRec => decide (d.parent = cur)) (l := ds)
        simp only [List.countP_eq_length_filter, decide_eq_true_eq] at hpart
        simp only [List.length_append, List.length_map, List.length_cons, ne_eq] at hle ⊢
        omega
      obtain ⟨new', h1, h2, h3⟩ := ih _ _ (acc ++ ds.filter (fun d => decide (d.parent = cur))) hlen
      refine ⟨ds.filter (fun d => decide (d.parent = cur)) ++ new', by rw [h1, List.append_assoc], fun d => ?_, fun d => ?_⟩
      · rw [List.mem_append, h2, fromAgents_cons_iff, List.mem_filter, decide_eq_true_eq]
      · rw [h3, fromAgents_cons_iff, List.mem_filter, decide_eq_true_eq]
        constructor
        · rintro ⟨⟨hd, hp⟩, hn⟩
          exact ⟨hd, fun h => h.elim (fun h => hp h.2) hn⟩
        · rintro ⟨hd, hn⟩
          exact ⟨⟨hd, fun hp => hn (.inl ⟨hd, hp⟩)⟩, fun h => hn (.inr h)⟩

theorem mem_foldl_drop_graph (child : Nat) {e : Edge} (secs : List Nat) (s : State) :
    e ∈ (secs.foldl (fun (st : State) sec =>
      { st with graph := dropAccess st.graph child sec, ttl := ttlRemove st.ttl child sec }) s).graph ↔
    e ∈ s.graph ∧ ∀ sec ∈ secs, ¬ (e.src = entNode child ∧ e.dst = secNode sec ∧ e.kind.isAccess = true) :=
  mem_foldl_iff State.graph _ _ secs s fun _ _ => mem_dropAccess

theorem mem_foldl_dropRecord_graph {e : Edge} (ds : List DelegRec) (s : State) :
    e ∈ (ds.foldl State.dropRecord s).graph ↔
      e ∈ s.graph ∧ ∀ d ∈ ds, ∀ sec ∈ d.secrets,
        ¬ (e.src = entNode d.child ∧ e.dst = secNode sec ∧ e.kind.isAccess = true) :=
  mem_foldl_iff State.graph _ _ ds s fun st d => mem_foldl_drop_graph d.child d.secrets st

theorem foldl_dropRecord_delegs (ds : List DelegRec) (s : State) : (ds.foldl State.dropRecord s).delegs = s.delegs :=
  foldl_proj State.delegs _ ds s fun st d => foldl_proj State.delegs _ d.secrets st fun _ _ => rfl

@[simp] theorem persistDelegs_delegs (s : State) : s.persistDelegs.delegs = s.delegs := rfl
@[simp] theorem persistTtl_delegs (s : State) : s.persistTtl.delegs = s.delegs := by
  unfold State.persistTtl; split <;> rfl
@[simp] theorem persistTtl_pdelegs (s : State) : s.persistTtl.pdelegs = s.pdelegs := by
  unfold State.persistTtl; split <;> rfl

theorem mem_filter_not_pair {ds : List DelegRec} {parent child : Nat} {d : DelegRec} :
    d ∈ ds.filter (fun d => !(d.parent = parent && d.child = child)) ↔
      d ∈ ds ∧ ¬ (d.parent = parent ∧ d.child = child) := by
  rw [List.mem_filter, Bool.not_eq_true', ← Bool.not_eq_true, Bool.and_eq_true, decide_eq_true_eq, decide_eq_true_eq]

/-- `revoke_delegation_cascading(parent, child)`: the records it reports (`gone`) are the record `parent → child` and
    every record reachable from the agent `child` among the others; exactly those leave the manager and its persisted
    copy, and every VAULT_ACCESS edge their children held on the delegated secrets leaves the graph -/
theorem undelegateCascade_spec (s : State) (parent child : Nat) :
    ∃ gone : List DelegRec,
      (s.undelegateCascade parent child).2 = .pairs (gone.map fun d => (d.parent, d.child)) ∧
      (∀ d, d ∈ gone ↔ (d ∈ s.delegs ∧ d.parent = parent ∧ d.child = child) ∨
        FromAgents (s.delegs.filter fun d => !(d.parent = parent && d.child = child)) [child] d) ∧
      (∀ d, d ∈ (s.undelegateCascade parent child).1.delegs ↔ d ∈ s.delegs ∧ d ∉ gone) ∧
      (s.undelegateCascade parent child).1.pdelegs = (s.undelegateCascade parent child).1.delegs ∧
      ∀ e, e ∈ (s.undelegateCascade parent child).1.graph ↔ e ∈ s.graph ∧ ∀ d ∈ gone, ∀ sec ∈ d.secrets,
        ¬ (e.src = entNode d.child ∧ e.dst = secNode sec ∧ e.kind.isAccess = true) := by
  have hlen : [child].length + (s.delegs.filter (fun d => !(d.parent = parent && d.child = child))).length ≤
      s.delegs.length + 1 := by
    have := List.length_filter_le (fun d : DelegRec => !(d.parent = parent && d.child = child)) s.delegs
    simp only [List.length_cons, List.length_nil]; omega
  obtain ⟨new, hacc, hnew, hkept⟩ := cascadeLoop_spec _ _ _
    (s.delegs.filter (fun d => d.parent = parent && d.child = child)) hlen
  have hgone : ∀ d, d ∈ s.delegs.filter (fun d => d.parent = parent && d.child = child) ++ new ↔
      (d ∈ s.delegs ∧ d.parent = parent ∧ d.child = child) ∨
        FromAgents (s.delegs.filter fun d => !(d.parent = parent && d.child = child)) [child] d := fun d => by
    rw [List.mem_append, hnew, List.mem_filter, Bool.and_eq_true, decide_eq_true_eq, decide_eq_true_eq]
  refine ⟨_, ?_, hgone, fun d => ?_, ?_, fun e => ?_⟩
  · unfold State.undelegateCascade
    simp only [hacc]
  · unfold State.undelegateCascade
    simp only [persistTtl_delegs, persistDelegs_delegs, foldl_dropRecord_delegs]
    rw [hkept, hgone, mem_filter_not_pair]
    exact ⟨fun ⟨⟨hd, hp⟩, hn⟩ => ⟨hd, fun h => h.elim (fun h => hp h.2) hn⟩,
      fun ⟨hd, hn⟩ => ⟨⟨hd, fun hp => hn (.inl ⟨hd, hp⟩)⟩, fun h => hn (.inr h)⟩⟩
  · unfold State.undelegateCascade
    simp only [persistTtl_delegs, persistTtl_pdelegs]
    rfl
  · unfold State.undelegateCascade
    simp only [persistTtl_graph, persistDelegs_graph, hacc]
    exact mem_foldl_dropRecord_graph _ _

/-! ### batch calls: every entry is decided on the same graph (the one left by `cleanup_expired_grants` at the call's instant) -/

/-- same access-relevant part: graph, tracker, policy -/
def Same (a b : State) : Prop := a.graph = b.graph ∧ a.ttl = b.ttl ∧ a.pol = b.pol

theorem Same.refl (a : State) : Same a a := ⟨rfl, rfl, rfl⟩
theorem Same.trans {a b c : State} (h1 : Same a b) (h2 : Same b c) : Same a c :=
  ⟨h1.1.trans h2.1, h1.2.1.trans h2.2.1, h1.2.2.trans h2.2.2⟩

theorem Same.cleanup {a b : State} (h : Same a b) (now : Nat) : Same (a.cleanup now) (b.cleanup now) := by
  refine ⟨?_, ?_, ?_⟩
  · rw [cleanup_graph, cleanup_graph, h.1, h.2.1]
  · rw [cleanup_ttl, cleanup_ttl, h.2.1]
  · rw [cleanup_pol, cleanup_pol, h.2.2]

theorem Justified.same {a b : State} {req sec : Nat} {need : Level} {P : Edge → Prop}
    (h : Justified a req sec need P) (hs : Same a b) : Justified b req sec need P :=
  h.mono hs.2.2 (fun _ he => hs.1 ▸ he)

/-- after `set` by a non-root requester, `cleanup` at the same instant leaves the access-relevant part it would have
    left before: the check may have run it already, and the guarded body writes secret data only -/
theorem set_cleanup_same {s : State} {now req sec val size : Nat} (hr : req ≠ root) :
    Same ((s.set now req sec val size).1.cleanup now) (s.cleanup now) := by
  unfold State.set
  split
  · exact .refl _
  · split
    · refine guarded_inv (fun x => Same (x.cleanup now) (s.cleanup now)) (.refl _)
        (by rw [cleanup_cleanup]; exact .refl _) fun s' h => Same.trans (Same.cleanup (b := s') ?_ now) h
      exact ⟨rfl, rfl, rfl⟩
    · exact .refl _

/-- the per-entry outcomes of `batch_set_detailed`, entry by entry -/
def batchItems (now req : Nat) : State → List (Nat × Nat × Nat) → List Item
  | _, [] => []
  | s, en :: rest =>
    respItem (s.set now req en.1 en.2.1 en.2.2).2 :: batchItems now req (s.set now req en.1 en.2.1 en.2.2).1 rest

theorem batchSet_fold_items (now req : Nat) :
    ∀ (entries : List (Nat × Nat × Nat)) (s : State) (pre : List Item),
      (entries.foldl (fun (acc : State × List Item) en =>
        ((acc.1.set now req en.1 en.2.1 en.2.2).1, acc.2 ++ [respItem (acc.1.set now req en.1 en.2.1 en.2.2).2])) (s, pre)).2 =
        pre ++ batchItems now req s entries
  | [], _, pre => by simp [batchItems]
  | en :: rest, s, pre => by
    rw [List.foldl_cons, batchSet_fold_items now req rest, batchItems]
    simp

theorem respItem_done {r : Resp} (h : respItem r = .done) : r.isOk = true := by
  cases r <;> first | rfl | cases h

theorem batchItems_justified {s0 : State} {now req : Nat} (hr : req ≠ root) :
    ∀ (entries : List (Nat × Nat × Nat)) (s : State), Same (s.cleanup now) (s0.cleanup now) →
      ∀ p ∈ entries.zip (batchItems now req s entries), p.2 = .done →
        Justified (s0.cleanup now) req p.1.1 .write (fun _ => True)
  | [], _, _, p, hp, _ => by simp [batchItems] at hp
  | en :: rest, s, hs, p, hp, hd => by
    rw [batchItems, List.zip_cons_cons] at hp
    rcases List.mem_cons.mp hp with rfl | hp
    · exact (checkAccess_ok (set_passes (respItem_done hd)) hr).same hs
    · exact batchItems_justified hr rest _ ((set_cleanup_same hr).trans hs) p hp hd

theorem batchItems_key {now req : Nat} (hk : isNodeKey req = true) :
    ∀ (entries : List (Nat × Nat × Nat)) (s : State), ∀ i ∈ batchItems now req s entries, ∃ e, i = .err e
  | [], _, i, hi => by simp [batchItems] at hi
  | en :: rest, s, i, hi => by
    rw [batchItems] at hi
    obtain ⟨e, he⟩ := set_key s now req en.1 en.2.1 en.2.2 hk
    rw [he] at hi
    rcases List.mem_cons.mp hi with rfl | hi
    · exact ⟨e, rfl⟩
    · exact batchItems_key hk rest s i hi

theorem mem_zip_map {α β : Type} (f : α → β) : ∀ (l : List α) (p : α × β), p ∈ l.zip (l.map f) → p.2 = f p.1
  | [], _, h => by simp at h
  | a :: l, p, h => by
    rw [List.map_cons, List.zip_cons_cons] at h
    rcases List.mem_cons.mp h with rfl | h
    · rfl
    · exact mem_zip_map f l p h

/-! ### the persisted copy of the tracker covers the tracker (so a re-opened vault still knows every expiry) -/

/-- every tracker entry is also in the persisted copy (`_vault_ttl_grants`) -/
def SubP (s : State) : Prop := ∀ t ∈ s.ttl, t ∈ s.pttl

@[simp] theorem audit_pttl (s : State) (req sec : Nat) (op : String) (extra : List Plain) :
    (s.audit req sec op extra).pttl = s.pttl := rfl
@[simp] theorem putSecret_pttl (s : State) (m : SecretMeta) : (s.putSecret m).pttl = s.pttl := rfl
@[simp] theorem addAccess_pttl (s : State) (ent sec : Nat) (l : Level) (x : Option Nat) :
    (s.addAccess ent sec l x).pttl = s.pttl := rfl
@[simp] theorem persistDelegs_pttl (s : State) : s.persistDelegs.pttl = s.pttl := rfl
@[simp] theorem persistTtl_pttl (s : State) : s.persistTtl.pttl = s.ttl := by
  unfold State.persistTtl; split <;> rfl

theorem SubP.persist (s : State) : SubP s.persistTtl := by
  intro t ht
  rw [persistTtl_pttl]
  rwa [persistTtl_ttl] at ht

/-- same persisted copy, smaller (or equal) tracker -/
theorem SubP.shrink {s s' : State} (h : SubP s) (ht : ∀ t ∈ s'.ttl, t ∈ s.ttl) (hp : s'.pttl = s.pttl) : SubP s' :=
  fun t h' => hp ▸ h t (ht t h')

theorem cleanup_subp {s : State} (h : SubP s) (now : Nat) : SubP (s.cleanup now) := by
  unfold State.cleanup
  simp only
  split
  · exact SubP.persist _
  · exact h.shrink (fun t ht => (List.mem_filter.mp ht).1) rfl

/-- every edge issued with an expiry keeps its tracker entry, and every tracker entry is also in the persisted copy -/
def HI (s : State) : Prop := TI s.graph s.ttl ∧ SubP s

theorem Moves.hi {s s' : State} (m : Moves s s') : HI s → HI s' := by
  induction m with
  | refl => exact id
  | trans _ _ ih1 ih2 => exact fun h => ih2 (ih1 h)
  | cleanup s now => exact fun h => ⟨(h.1.cleanup now).1, cleanup_subp h.2 now⟩
  | audit => exact id
  | persistTtl s => exact fun h => ⟨by rw [persistTtl_graph, persistTtl_ttl]; exact h.1, SubP.persist s⟩
  | persistDelegs => exact id
  | data => exact id
  | edge s e n he => exact fun h => ⟨h.1.append e he, h.2⟩
  | grants s child eff x secs =>
    refine fun h => ⟨?_, SubP.persist _⟩
    rw [persistTtl_graph, persistTtl_ttl]
    refine h.1.add_grants (foldl_addAccess secs s).2 (fun t ht => ?_) (fun y hy sec hs => ?_)
    · rw [(foldl_addAccess secs s).1]
      exact List.mem_append_left _ ht
    · cases hy
      exact List.mem_append_right _ (List.mem_map.mpr ⟨sec, hs, rfl⟩)
  | shrink s hg ht hk => exact fun h => ⟨h.1.mono hg hk, h.2.shrink ht rfl⟩
  | reload s => exact fun h => ⟨h.1.mono (fun _ he => he) (fun _ _ t ht _ _ _ => h.2 t ht), fun _ ht => ht⟩

theorem run_inv (h : List (Nat × Op)) (s : State) : HI s → HI (run s h) := (run_moves h s).hi

theorem init_inv (pol : Policy) (a b c : Nat) : HI (init pol a b c) :=
  ⟨fun _ he => (nomatch he), fun _ ht => (nomatch ht)⟩

/-- re-opening: the tracker is replaced by its persisted copy (a superset), then expired grants are dropped -/
theorem reopen_inv {s : State} (h : HI s) (now : Nat) :
    HI (s.reopen now).1 ∧ ∀ e ∈ (s.reopen now).1.graph, e ∈ s.graph ∧ LiveAt now e := by
  have h1 : HI { s with ttl := s.pttl, delegs := s.pdelegs } := ((Moves.reload s).trans (.data _ .refl)).hi h
  exact ⟨(Moves.cleanup _ now).hi h1, fun e he => ⟨cleanup_graph_sub { s with ttl := s.pttl, delegs := s.pdelegs } now e he, (h1.1.cleanup now).2 e he⟩⟩

end Neumann.Vault
