import NeumannModel.Vault.Inv
/-
  C14 — at-rest shape, for every history.  One invariant, two instances:
    * secret VALUES: no record of the model's store holds one in a readable (`Field.clear`) field;
    * secret NAMES: the same for every record EXCEPT the two persistence records that still carry the
      name in the clear (`_vault_ttl_grants`, `_vdel:…` — known findings, witnessed in Props).
-/
namespace Neumann.Vault

/-- a class of sensitive plaintexts (`bad`) together with the record kinds excluded from the claim (`exempt`) -/
structure Cls where
  bad : Plain → Prop
  exempt : RKey → Prop

/-- the class is never an identity, and it either contains no secret name or exempts the two record kinds
    whose clear JSON lists secret names -/
structure Cls.Adm (c : Cls) : Prop where
  ident : ∀ e, ¬ c.bad (.ident e)
  names : (∀ n, ¬ c.bad (.name n)) ∨ (c.exempt .ttlGrants ∧ ∀ p ch, c.exempt (.deleg p ch))

/-- secret values, no record kind exempt -/
def valueCls : Cls := { bad := fun p => ∃ v, p = .value v, exempt := fun _ => False }

/-- secret names, the TTL-tracker record and the delegation records exempt -/
def nameCls : Cls :=
  { bad := fun p => ∃ n, p = .name n,
    exempt := fun k => k = .ttlGrants ∨ ∃ p ch, k = .deleg p ch }

theorem valueCls_adm : valueCls.Adm :=
  ⟨fun _ ⟨_, h⟩ => Plain.noConfusion h, Or.inl fun _ ⟨_, h⟩ => Plain.noConfusion h⟩

theorem nameCls_adm : nameCls.Adm :=
  ⟨fun _ ⟨_, h⟩ => Plain.noConfusion h, Or.inr ⟨Or.inl rfl, fun p ch => Or.inr ⟨p, ch, rfl⟩⟩⟩

/-- a record exposes no plaintext of the class (or is of an exempt kind) -/
def RecOk (c : Cls) (r : Rec) : Prop := c.exempt r.key ∨ ∀ f ∈ r.fields, ∀ p, c.bad p → f.2.reveals p = false

/-- no record of the store exposes a plaintext of the class -/
def SV (c : Cls) (st : Store) : Prop := ∀ r ∈ st, RecOk c r

variable {c : Cls}

theorem SV.put {st : Store} (h : SV c st) {r : Rec} (hr : RecOk c r) : SV c (st.put r) := by
  intro x hx
  unfold Store.put at hx
  rcases List.mem_append.mp hx with h1 | h1
  · exact h x (List.mem_filter.mp h1).1
  · rw [List.mem_singleton] at h1; subst h1; exact hr

theorem SV.filter {st : Store} (h : SV c st) (p : Rec → Bool) : SV c (st.filter p) :=
  fun x hx => h x (List.mem_filter.mp hx).1

theorem SV.del {st : Store} (h : SV c st) (k : RKey) : SV c (st.del k) := h.filter _

theorem clear_ok {ps : List Plain} (h : ∀ p ∈ ps, ¬ c.bad p) (q : Plain) (hq : c.bad q) :
    (Field.clear ps).reveals q = false := by
  unfold Field.reveals
  simp only [List.contains_eq_mem, decide_eq_false_iff_not]
  intro hm
  exact h _ hm hq

theorem Rec.Sealed.ok {r : Rec} (h : r.Sealed) : RecOk c r := Or.inr fun f hf p _ => h f hf p

theorem Sealed.sv {st st' : Store} (h : Sealed st st') (hs : SV c st) : SV c st' := by
  induction h with
  | refl => exact hs
  | put _ hr ih => exact ih.put hr.ok
  | del k _ ih => exact ih.del k

theorem ttlRec_ok (hc : c.Adm) (l : List TtlEntry) : RecOk c (ttlRec l) := by
  rcases hc.names with hn | ⟨hex, _⟩
  · refine Or.inr fun f hf q hq => ?_
    simp only [ttlRec, List.mem_singleton] at hf
    subst hf
    apply clear_ok _ q hq
    intro p hp
    simp only [List.mem_flatMap, List.mem_cons, List.mem_nil_iff, or_false] at hp
    obtain ⟨t, _, rfl | rfl⟩ := hp
    · exact hc.ident _
    · exact hn _
  · exact Or.inl hex

theorem delegRec_ok (hc : c.Adm) (d : DelegRec) : RecOk c (delegRec d) := by
  rcases hc.names with hn | ⟨_, hex⟩
  · refine Or.inr fun f hf q hq => ?_
    simp only [delegRec, List.mem_singleton] at hf
    subst hf
    apply clear_ok _ q hq
    intro p hp
    simp only [List.mem_append, List.mem_cons, List.mem_nil_iff, or_false, List.mem_map] at hp
    rcases hp with (rfl | rfl) | ⟨n, _, rfl⟩
    · exact hc.ident _
    · exact hc.ident _
    · exact hn _
  · exact Or.inl (hex _ _)

theorem auditRec_ok (n req sec : Nat) (op : String) (extra : List Plain) (h : ∀ p ∈ extra, ¬ c.bad p) :
    RecOk c (auditRec n req sec op extra) := by
  refine Or.inr fun f hf q hq => ?_
  simp only [auditRec, List.mem_cons, List.mem_nil_iff, or_false] at hf
  rcases hf with rfl | rfl | rfl | rfl
  · rfl
  · rfl
  · rfl
  · exact clear_ok h q hq

theorem audit_sv (hc : c.Adm) {s : State} (h : SV c s.store) (req sec : Nat) (op : String) (ids : List Nat) :
    SV c (s.audit req sec op (ids.map .ident)).store := by
  refine h.put (auditRec_ok _ _ _ _ _ fun p hp => ?_)
  obtain ⟨e, _, rfl⟩ := List.mem_map.mp hp
  exact hc.ident e

theorem persistTtl_sv (hc : c.Adm) {s : State} (h : SV c s.store) : SV c s.persistTtl.store := by
  unfold State.persistTtl
  split
  · exact h.del _
  · exact h.put (ttlRec_ok hc _)

theorem persistDelegs_sv (hc : c.Adm) {s : State} (h : SV c s.store) : SV c s.persistDelegs.store := by
  unfold State.persistDelegs
  simp only
  exact foldl_inv (fun (st : Store) d => st.put (delegRec d)) (SV c) s.delegs
    (fun st d _ hst => hst.put (delegRec_ok hc d)) _ (h.filter _)

theorem cleanup_sv (hc : c.Adm) {s : State} (h : SV c s.store) (now : Nat) : SV c (s.cleanup now).store := by
  unfold State.cleanup
  simp only
  split
  · exact persistTtl_sv hc h
  · exact h

@[simp] theorem putSecret_store (s : State) (m : SecretMeta) : (s.putSecret m).store = s.store := rfl
@[simp] theorem addAccess_store (s : State) (ent sec : Nat) (l : Level) (x : Option Nat) :
    (s.addAccess ent sec l x).store = s.store := rfl

theorem foldl_addAccess_store {child : Nat} {eff : Level} {exp : Option Nat} (secs : List Nat) (s0 : State) :
    (secs.foldl (fun st sec => st.addAccess child sec eff exp) s0).store = s0.store :=
  foldl_proj State.store _ secs s0 fun _ _ => rfl

theorem Moves.sv (hc : c.Adm) {s s' : State} (m : Moves s s') : SV c s.store → SV c s'.store := by
  induction m with
  | refl => exact id
  | trans _ _ ih1 ih2 => exact fun h => ih2 (ih1 h)
  | cleanup s now => exact fun h => cleanup_sv hc h now
  | audit s req sec op ids => exact fun h => audit_sv hc h req sec op ids
  | persistTtl => exact persistTtl_sv hc
  | persistDelegs => exact persistDelegs_sv hc
  | data s hst => exact hst.sv
  | edge => exact id
  | grants s child eff x secs =>
    refine fun h => persistTtl_sv hc ?_
    show SV c (secs.foldl (fun st sec => st.addAccess child sec eff (some x)) s).store
    rw [foldl_addAccess_store]
    exact h
  | shrink => exact id
  | reload => exact id

theorem run_sv (hc : c.Adm) (h : List (Nat × Op)) (s : State) : SV c s.store → SV c (run s h).store :=
  (run_moves h s).sv hc

theorem key_reveals_no_value (k : RKey) (v : Nat) : k.reveals (.value v) = false := by
  cases k <;> simp [RKey.reveals]

theorem key_reveals_no_name (k : RKey) (n : Nat) : k.reveals (.name n) = false := by
  cases k <;> simp [RKey.reveals]

end Neumann.Vault
