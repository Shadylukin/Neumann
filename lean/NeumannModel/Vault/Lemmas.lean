import NeumannModel.Vault.Bfs
namespace Neumann.Vault

theorem entNode_ne_secNode (a b : Nat) : entNode a ≠ secNode b := by
  unfold entNode secNode; omega

theorem entNode_inj {a b : Nat} (h : entNode a = entNode b) : a = b := by
  unfold entNode at h; omega

theorem secNode_inj {a b : Nat} (h : secNode a = secNode b) : a = b := by
  unfold secNode at h; omega

/-- the grant that created edge `e` has not reached its requested expiry at time `t` -/
def LiveAt (t : Nat) (e : Edge) : Prop := ∀ x, e.expiry = some x → t < x

/-- `req` is entitled to level `need` on `sec` in state `s`: some VAULT_ACCESS edge satisfying `P`, still in
    the graph (= unrevoked), hangs off `req` or off a group reachable from `req` over fewer than `horizon`
    MEMBER hops, and its level after signature check, attenuation and capacity is at least `need`. -/
def Justified (s : State) (req sec : Nat) (need : Level) (P : Edge → Prop) : Prop :=
  ∃ l e, Witness s.pol s.graph (entNode req) (secNode sec) l e ∧ need.toNat ≤ l.toNat ∧ P e

theorem Justified.weaken {s : State} {req sec : Nat} {need : Level} {P Q : Edge → Prop}
    (h : Justified s req sec need P) (hpq : ∀ e, e ∈ s.graph → P e → Q e) : Justified s req sec need Q := by
  obtain ⟨l, e, hw, hl, hp⟩ := h
  obtain ⟨k, grp, hpath, hk, he, rest⟩ := hw
  exact ⟨l, e, ⟨k, grp, hpath, hk, he, rest⟩, hl, hpq e he hp⟩

theorem perm_some_justified {s : State} {req sec : Nat} {p need : Level} (hp : s.perm req sec = some p)
    (hn : need.toNat ≤ p.toNat) : Justified s req sec need (fun _ => True) := by
  obtain ⟨e, hw⟩ := permLevel_sound _ _ _ _ _ (entNode_ne_secNode req sec) hp
  exact ⟨p, e, hw, hn, trivial⟩

theorem checkGraph_ok {s : State} {req sec : Nat} {need : Level}
    (h : s.checkGraph req sec need = .ok ()) : Justified s req sec need (fun _ => True) := by
  unfold State.checkGraph at h
  cases hp : s.perm req sec with
  | none => rw [hp] at h; simp only at h; split at h <;> cases h
  | some p =>
    rw [hp] at h; simp only at h
    by_cases ha : p.allows need = true
    · exact perm_some_justified hp (by simpa [Level.allows] using ha)
    · rw [if_neg ha] at h; split at h <;> cases h

/-- a non-root caller that passes `check_access_with_permission` passed it in the state `cleanup now` -/
theorem checkAccess_ok {s : State} {now req sec : Nat} {need : Level}
    (h : (s.checkAccess now req sec need).2 = .ok ()) (hr : req ≠ root) :
    Justified (s.cleanup now) req sec need (fun _ => True) := by
  unfold State.checkAccess at h
  rw [if_neg hr] at h
  split at h
  · exact nomatch h
  · exact checkGraph_ok h

theorem checkAccess_fst (s : State) (now req sec : Nat) (need : Level) :
    (s.checkAccess now req sec need).1 = if req = root then s else if isNodeKey req then s else s.cleanup now := by
  unfold State.checkAccess
  split
  · rfl
  · split <;> rfl

theorem checkAccess_key (s : State) (now req sec : Nat) (need : Level) (hk : isNodeKey req = true) :
    s.checkAccess now req sec need = (s, .error .denied) := by
  have hr : req ≠ root := by
    intro h; rw [h] at hk; revert hk; decide
  unfold State.checkAccess
  rw [if_neg hr, if_pos hk]

theorem isNodeKey_ne_root {req : Nat} (hk : isNodeKey req = true) : req ≠ root := by
  intro h; rw [h] at hk; revert hk; decide

theorem getPermission_some {s : State} {now req sec : Nat} {p : Level}
    (h : s.getPermission now req sec = some p) (hr : req ≠ root) :
    isNodeKey req = false ∧ (s.cleanup now).perm req sec = some p := by
  unfold State.getPermission at h
  rw [if_neg hr] at h
  cases hk : isNodeKey req with
  | false => rw [hk] at h; exact ⟨rfl, h⟩
  | true => rw [hk] at h; exact nomatch h

theorem level_one_le (l : Level) : Level.read.toNat ≤ l.toNat := by
  cases l <;> simp [Level.toNat]

theorem hasAccess_justified {s : State} {now req sec : Nat} (h : s.hasAccess now req sec = true) (hr : req ≠ root) :
    Justified (s.cleanup now) req sec .read (fun _ => True) := by
  unfold State.hasAccess at h
  have h2 : ((s.cleanup now).perm req sec).isSome = true := by
    have : req = root ∨ (isNodeKey req = false ∧ ((s.cleanup now).perm req sec).isSome = true) := by
      simpa using h
    rcases this with h0 | h0
    · exact absurd h0 hr
    · exact h0.2
  cases hp : (s.cleanup now).perm req sec with
  | none => rw [hp] at h2; cases h2
  | some p =>
    exact perm_some_justified hp (level_one_le p)

theorem MPath.first_edge {g : Graph} {a b k : Nat} (h : MPath g a b k) (hk : 0 < k) :
    ∃ e ∈ g, e.kind = .member ∧ e.src = a := by
  induction h with
  | refl => omega
  | step e p he hkind hsrc ih =>
    rename_i b' k'
    cases k' with
    | zero =>
      cases p
      exact ⟨e, he, hkind, hsrc⟩
    | succ n => exact ih (by omega)

theorem MPath.zero_eq {g : Graph} {a b : Nat} (h : MPath g a b 0) : b = a := by
  cases h; rfl

@[simp] theorem audit_graph (s : State) (req sec : Nat) (op : String) (extra : List Plain) :
    (s.audit req sec op extra).graph = s.graph := rfl
@[simp] theorem audit_pol (s : State) (req sec : Nat) (op : String) (extra : List Plain) :
    (s.audit req sec op extra).pol = s.pol := rfl
@[simp] theorem audit_ttl (s : State) (req sec : Nat) (op : String) (extra : List Plain) :
    (s.audit req sec op extra).ttl = s.ttl := rfl

@[simp] theorem persistTtl_graph (s : State) : s.persistTtl.graph = s.graph := by
  unfold State.persistTtl; split <;> rfl
@[simp] theorem persistTtl_pol (s : State) : s.persistTtl.pol = s.pol := by
  unfold State.persistTtl; split <;> rfl
@[simp] theorem persistTtl_ttl (s : State) : s.persistTtl.ttl = s.ttl := by
  unfold State.persistTtl; split <;> rfl

@[simp] theorem persistDelegs_graph (s : State) : s.persistDelegs.graph = s.graph := rfl
@[simp] theorem persistDelegs_pol (s : State) : s.persistDelegs.pol = s.pol := rfl
@[simp] theorem persistDelegs_ttl (s : State) : s.persistDelegs.ttl = s.ttl := rfl

@[simp] theorem putSecret_graph (s : State) (m : SecretMeta) : (s.putSecret m).graph = s.graph := rfl
@[simp] theorem putSecret_pol (s : State) (m : SecretMeta) : (s.putSecret m).pol = s.pol := rfl
@[simp] theorem putSecret_ttl (s : State) (m : SecretMeta) : (s.putSecret m).ttl = s.ttl := rfl

theorem foldl_proj {α β : Type _} (π : State → β) (f : State → α → State) (l : List α) (s : State)
    (h : ∀ st x, π (f st x) = π st) : π (l.foldl f s) = π s :=
  foldl_inv f (fun st => π st = π s) l (fun st a _ hst => (h st a).trans hst) s rfl

/-- membership in a list read off a fold whose every step filters that list by a test on the step's argument -/
theorem mem_foldl_iff {α β γ : Type _} (π : β → List γ) (f : β → α → β) (Q : α → Prop) {e : γ} :
    ∀ (l : List α) (b : β), (∀ b x, e ∈ π (f b x) ↔ e ∈ π b ∧ Q x) →
      (e ∈ π (l.foldl f b) ↔ e ∈ π b ∧ ∀ x ∈ l, Q x)
  | [], b, _ => by simp
  | x :: l, b, h => by
    rw [List.foldl_cons, mem_foldl_iff π f Q l _ h, h]
    simp only [List.mem_cons, forall_eq_or_imp, and_assoc]

theorem mem_dropAccess {g : Graph} {ent sec : Nat} {e : Edge} :
    e ∈ dropAccess g ent sec ↔ e ∈ g ∧ ¬ (e.src = entNode ent ∧ e.dst = secNode sec ∧ e.kind.isAccess = true) := by
  rw [dropAccess, List.mem_filter, Bool.not_eq_true', ← Bool.not_eq_true, Bool.and_eq_true, Bool.and_eq_true,
    decide_eq_true_eq, decide_eq_true_eq, and_assoc]

/-! ### `guarded`: the `check_access_with_permission(..)?` prefix shared by every guarded operation -/

theorem guarded_cases (s : State) (now req sec : Nat) (need : Level) (k : State → State × Resp) :
    (∃ e, s.guarded now req sec need k = ((s.checkAccess now req sec need).1, .err e)) ∨
    ((s.checkAccess now req sec need).2 = .ok () ∧
      s.guarded now req sec need k = k (s.checkAccess now req sec need).1) := by
  unfold State.guarded
  split
  · rename_i s' e heq; rw [heq]; exact Or.inl ⟨e, rfl⟩
  · rename_i s' u heq; rw [heq]; exact Or.inr ⟨rfl, rfl⟩

theorem guarded_inv (P : State → Prop) {s : State} {now req sec : Nat} {need : Level} {k : State → State × Resp}
    (hs : P s) (hc : P (s.cleanup now)) (hk : ∀ s', P s' → P (k s').1) : P (s.guarded now req sec need k).1 := by
  have hfst : P (s.checkAccess now req sec need).1 := by
    rw [checkAccess_fst]; split
    · exact hs
    · split
      · exact hs
      · exact hc
  rcases guarded_cases s now req sec need k with ⟨e, h⟩ | ⟨_, h⟩
  · rw [h]; exact hfst
  · rw [h]; exact hk _ hfst

theorem guarded_ok {s : State} {now req sec : Nat} {need : Level} {k : State → State × Resp}
    (h : (s.guarded now req sec need k).2.isOk = true) :
    (s.checkAccess now req sec need).2 = .ok () ∧ s.guarded now req sec need k = k (s.checkAccess now req sec need).1 := by
  rcases guarded_cases s now req sec need k with ⟨e, h'⟩ | h'
  · rw [h'] at h; cases h
  · exact h'

/-! ### a secret-node key as requester (refused by every entry point since ad58047e) -/

theorem guarded_key (s : State) (now req sec : Nat) (need : Level) (k : State → State × Resp)
    (hk : isNodeKey req = true) : s.guarded now req sec need k = (s, .err .denied) := by
  unfold State.guarded; rw [checkAccess_key s now req sec need hk]

theorem hasAccess_key (s : State) (now req sec : Nat) (hk : isNodeKey req = true) : s.hasAccess now req sec = false := by
  unfold State.hasAccess
  simp [hk, isNodeKey_ne_root hk]

theorem getPermission_key (s : State) (now req sec : Nat) (hk : isNodeKey req = true) :
    s.getPermission now req sec = none := by
  unfold State.getPermission; rw [if_neg (isNodeKey_ne_root hk), if_pos hk]

/-- `set` by a secret-node key: an error (size first, as for everybody), state untouched -/
theorem set_key (s : State) (now req sec val size : Nat) (hk : isNodeKey req = true) :
    ∃ e, s.set now req sec val size = (s, .err e) := by
  unfold State.set
  split
  · exact ⟨_, rfl⟩
  · split
    · exact ⟨_, guarded_key s now req sec .write _ hk⟩
    · rw [if_pos (isNodeKey_ne_root hk)]; exact ⟨_, rfl⟩

theorem set_passes {s : State} {now req sec val size : Nat} (h : (s.set now req sec val size).2.isOk = true) :
    (s.checkAccess now req sec .write).2 = .ok () := by
  unfold State.set at h
  split at h
  · cases h
  · split at h
    · exact (guarded_ok h).1
    · -- a new secret: only root gets past `req ≠ root`
      split at h
      · cases h
      · rename_i hr
        rw [Decidable.not_not.mp hr]
        rfl

theorem grantTtl_grantCore {s : State} {now req ent sec ttl : Nat} {l : Level}
    (h : (s.grantTtl now req ent sec l ttl).2.isOk = true) :
    (s.grantCore now req ent sec l (some (now + ttl))).2.isOk = true := by
  unfold State.grantTtl at h
  split at h
  · cases h
  · rename_i s' r hne heq
    rw [heq]
    cases r with
    | err e => exact absurd rfl (hne e)
    | _ => rfl

theorem revoke_graph {s : State} {now req ent sec : Nat} (h : (s.revoke now req ent sec).2.isOk = true) :
    ∃ s' : State, (s.revoke now req ent sec).1.graph = dropAccess s'.graph ent sec := by
  unfold State.revoke at h ⊢
  rw [(guarded_ok h).2]
  refine ⟨(s.checkAccess now req sec .admin).1, ?_⟩
  simp only [audit_graph]
  split <;> simp

theorem delete_graph {s : State} {now req sec : Nat} (h : (s.delete now req sec).2.isOk = true) :
    ∃ s' : State, (s.delete now req sec).1.graph = s'.graph.filter (fun e => e.dst ≠ secNode sec) := by
  unfold State.delete at h ⊢
  have h2 := (guarded_ok h).2
  rw [h2] at h ⊢
  refine ⟨(s.checkAccess now req sec .admin).1, ?_⟩
  cases hf : (s.checkAccess now req sec .admin).1.findSecret sec with
  | none => rw [hf] at h; cases h
  | some m => simp

theorem checkAccess_of_getPermission {s : State} {now req sec : Nat} {need p : Level}
    (hp : s.getPermission now req sec = some p) (ha : p.allows need = true) :
    (s.checkAccess now req sec need).2 = .ok () := by
  by_cases hr : req = root
  · rw [hr]; rfl
  · obtain ⟨hk, hp'⟩ := getPermission_some hp hr
    unfold State.checkAccess
    rw [if_neg hr, hk]
    show (s.cleanup now).checkGraph req sec need = .ok ()
    unfold State.checkGraph
    rw [hp']
    exact if_pos ha

/-- the first loop of `delegate` is the level check on every secret -/
theorem delegCheck_passes {s : State} {now parent : Nat} {l : Level} :
    ∀ {secs : List Nat}, s.delegCheck now parent l secs = .ok () →
      ∀ sec ∈ secs, (s.checkAccess now parent sec l).2 = .ok ()
  | [], _, _, hm => nomatch hm
  | sec :: rest, h, x, hm => by
    unfold State.delegCheck at h
    split at h
    · cases h
    · rename_i p hp
      by_cases ha : p.allows l = true
      · rw [if_pos ha] at h
        rcases List.mem_cons.mp hm with rfl | hm
        · exact checkAccess_of_getPermission hp ha
        · exact delegCheck_passes h x hm
      · rw [if_neg ha] at h; cases h

theorem delegate_ok {s : State} {now parent child : Nat} {secs : List Nat} {l : Level} {ttl : Option Nat}
    (h : (s.delegate now parent child secs l ttl).2.isOk = true) : s.delegCheck now parent l secs = .ok () := by
  unfold State.delegate at h
  simp only at h
  split at h
  · cases h
  · rename_i hc; exact hc

theorem foldl_min_le (f : Nat → Level) : ∀ (secs : List Nat) (l : Level),
    (secs.foldl (fun acc sec => if (f sec).toNat < acc.toNat then f sec else acc) l).toNat ≤ l.toNat
  | [], _ => Nat.le_refl _
  | x :: xs, l => by
    rw [List.foldl_cons]
    refine Nat.le_trans (foldl_min_le f xs _) ?_
    split <;> omega

theorem delegEff_le (s : State) (now parent : Nat) (l : Level) (secs : List Nat) :
    (s.delegEff now parent l secs).toNat ≤ l.toNat :=
  foldl_min_le (fun sec => (s.getPermission now parent sec).getD .read) secs l

theorem delegateApply_resp {s : State} {now parent child : Nat} {secs : List Nat} {eff : Level} {ttl : Option Nat}
    (h : (s.delegateApply now parent child secs eff ttl).2.isOk = true) :
    (s.delegateApply now parent child secs eff ttl).2 = .level eff := by
  unfold State.delegateApply at h ⊢
  by_cases h1 : parent = child
  · rw [if_pos h1] at h; cases h
  · rw [if_neg h1] at h ⊢
    by_cases h2 : isAncestor s.delegs child (s.delegs.length + 1) parent [parent] = true
    · rw [if_pos h2] at h; cases h
    · rw [if_neg h2] at h ⊢
      simp only at h ⊢
      by_cases h3 : delegDepth s.delegs parent + 1 > s.maxDeleg
      · rw [if_pos h3] at h; cases h
      · rw [if_neg h3]

theorem delegate_resp {s : State} {now parent child : Nat} {secs : List Nat} {l : Level} {ttl : Option Nat}
    (h : (s.delegate now parent child secs l ttl).2.isOk = true) :
    (s.delegate now parent child secs l ttl).2 = .level (s.delegEff now parent l secs) := by
  have hc := delegate_ok h
  unfold State.delegate at h ⊢
  simp only [hc] at h ⊢
  exact delegateApply_resp h

theorem list_names {s : State} {now req : Nat} {p : Pattern} {names : List Nat}
    (h : (s.list now req p).2 = .names names) :
    ∀ n ∈ names, (s.cleanup now).hasAccess now req n = true := by
  unfold State.list at h
  simp only at h
  cases h
  intro n hn
  simp only [List.mem_map, List.mem_filter, Bool.and_eq_true] at hn
  obtain ⟨m, ⟨_, _, hacc⟩, rfl⟩ := hn
  exact hacc

/-- the graph without the edges whose type is outside `ALLOWED_TRAVERSAL_EDGES` -/
def dropOther (g : Graph) : Graph := g.filter (fun e => e.kind ≠ .other)

theorem mem_dropOther {g : Graph} {e : Edge} : e ∈ dropOther g ↔ e ∈ g ∧ e.kind ≠ .other := by
  simp only [dropOther, List.mem_filter, decide_eq_true_eq]

theorem MPath.dropOther_iff {g : Graph} {a b k : Nat} : MPath (dropOther g) a b k ↔ MPath g a b k := by
  constructor
  · intro h
    induction h with
    | refl => exact .refl
    | step e _ he hk hs ih => exact .step e ih (mem_dropOther.mp he).1 hk hs
  · intro h
    induction h with
    | refl => exact .refl
    | step e _ he hk hs ih =>
      exact .step e ih (mem_dropOther.mpr ⟨he, by rw [hk]; exact fun h => EKind.noConfusion h⟩) hk hs

theorem Witness.dropOther_iff {pol : Policy} {g : Graph} {src tgt : Nat} {l : Level} {e : Edge} :
    Witness pol (dropOther g) src tgt l e ↔ Witness pol g src tgt l e := by
  constructor
  · rintro ⟨k, grp, hp, hk, he, h1, h2, h3, h4⟩
    exact ⟨k, grp, MPath.dropOther_iff.mp hp, hk, (mem_dropOther.mp he).1, h1, h2, h3, h4⟩
  · rintro ⟨k, grp, hp, hk, he, h1, h2, h3, h4⟩
    refine ⟨k, grp, MPath.dropOther_iff.mpr hp, hk, mem_dropOther.mpr ⟨he, fun ho => ?_⟩, h1, h2, h3, h4⟩
    rw [ho] at h3; cases h3

theorem Level.toNat_inj {a b : Level} (h : a.toNat = b.toNat) : a = b := by
  cases a <;> cases b <;> simp [Level.toNat] at h <;> rfl

theorem permLevel_congr {pol : Policy} {g g' : Graph} {src tgt : Nat}
    (h : ∀ l e, Witness pol g' src tgt l e ↔ Witness pol g src tgt l e) :
    permLevel pol g' src tgt = permLevel pol g src tgt := by
  by_cases hne : src = tgt
  · unfold permLevel; rw [if_pos hne, if_pos hne]
  · have key : ∀ {g1 g2 : Graph}, (∀ l e, Witness pol g1 src tgt l e → Witness pol g2 src tgt l e) →
        ∀ l1, permLevel pol g1 src tgt = some l1 → ∃ l2, permLevel pol g2 src tgt = some l2 ∧ l1.toNat ≤ l2.toNat := by
      intro g1 g2 h12 l1 h1
      obtain ⟨e, hw⟩ := permLevel_sound pol g1 src tgt l1 hne h1
      exact permLevel_complete pol g2 src tgt l1 e hne (h12 l1 e hw)
    cases h1 : permLevel pol g' src tgt with
    | none =>
      cases h2 : permLevel pol g src tgt with
      | none => rfl
      | some l2 =>
        obtain ⟨l, hl, _⟩ := key (fun l e hw => (h l e).mpr hw) l2 h2
        rw [h1] at hl; cases hl
    | some l1 =>
      obtain ⟨l2, h2, h12⟩ := key (fun l e hw => (h l e).mp hw) l1 h1
      obtain ⟨l1', h1', h21⟩ := key (fun l e hw => (h l e).mpr hw) l2 h2
      rw [h1] at h1'; cases h1'
      rw [h2, Level.toNat_inj (Nat.le_antisymm h12 h21)]

theorem reachStep_dropOther (g : Graph) (seen : List Nat) : reachStep (dropOther g) seen = reachStep g seen := by
  unfold reachStep dropOther
  rw [List.foldl_filter]
  congr 1; funext acc e
  -- the step function ignores an edge that is not allow-listed, filtered out or not
  by_cases hk : e.kind = .other
  · simp only [hk, ne_eq, not_true_eq_false, decide_false, false_and, if_false, Bool.false_eq_true]
  · simp only [hk, ne_eq, not_false_eq_true, decide_true, if_true]

theorem checkPath_dropOther (g : Graph) (src tgt : Nat) : checkPath (dropOther g) src tgt = checkPath g src tgt := by
  unfold checkPath
  have : ∀ n seen, reachN (dropOther g) n seen = reachN g n seen := by
    intro n
    induction n with
    | zero => intro seen; rfl
    | succ n ih => intro seen; rw [reachN, reachN, reachStep_dropOther, ih]
  rw [this]

end Neumann.Vault
