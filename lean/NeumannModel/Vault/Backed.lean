import NeumannModel.Vault.AtRest
/-
  C14 — the vocabulary of the property statements in `Props.lean` (`needs`, `Backed`, `Below`) and what is proved
  about it once for several of them.
-/
namespace Neumann.Vault.Props
open Neumann.Vault

/-- the (requester, secret, level) checks an operation must pass -/
def needs : Op → List (Nat × Nat × Level)
  | .set req sec _ _ => [(req, sec, .write)]
  | .get req sec => [(req, sec, .read)]
  | .rotate req sec _ _ => [(req, sec, .write)]
  | .delete req sec => [(req, sec, .admin)]
  | .grant req _ sec _ => [(req, sec, .admin)]
  | .grantTtl req _ sec _ _ => [(req, sec, .admin)]
  | .revoke req _ sec => [(req, sec, .admin)]
  | .delegate parent _ secs l _ => secs.map fun sec => (parent, sec, l)
  | .getVersion req sec _ => [(req, sec, .read)]
  | .versions req sec => [(req, sec, .read)]
  | .rollback req sec _ => [(req, sec, .read), (req, sec, .write)]
  | .wrap req sec => [(req, sec, .read)]
  | .probe req sec need _ => [(req, sec, need)]
  | .list .. | .batchGet .. | .batchSet .. => []      -- per returned entry, see `Backed`
  | .undelegate .. | .undelegateCascade .. | .addMember .. | .delMember .. | .addEdge .. | .unwrap .. | .reopen => []

/-- what the answer `r` of a successful call `op` rests on, in state `s0`, with `P` a property of the grant edge:
    every level check the operation needs (read / old version / version count / wrap: Read; overwrite / rotate:
    Write; rollback: Read and Write; delete / grant / grant-with-ttl / revoke: Admin; delegate: the requested level
    on every secret), every name `list` returns, every value `batch_get` returns and every entry `batch_set`
    reports as written — each for a non-root requester — is `Justified` by a grant edge satisfying `P`. -/
def Backed (s0 : State) (op : Op) (r : Resp) (P : Edge → Prop) : Prop :=
  (∀ x ∈ needs op, x.1 ≠ root → Justified s0 x.1 x.2.1 x.2.2 P) ∧
  (∀ req p names, op = .list req p → r = .names names → req ≠ root →
      ∀ n ∈ names, Justified s0 req n .read P) ∧
  (∀ req secs items, op = .batchGet req secs → r = .items items → req ≠ root →
      ∀ p ∈ secs.zip items, ∀ v, p.2 = .val v → Justified s0 req p.1 .read P) ∧
  (∀ req entries items, op = .batchSet req entries → r = .items items → req ≠ root →
      ∀ p ∈ entries.zip items, p.2 = .done → Justified s0 req p.1.1 .write P)

theorem Backed.imp {s0 s1 : State} {op : Op} {r : Resp} {P Q : Edge → Prop} (h : Backed s0 op r P)
    (hj : ∀ {req sec need}, Justified s0 req sec need P → Justified s1 req sec need Q) : Backed s1 op r Q :=
  ⟨fun x hx hr => hj (h.1 x hx hr),
   fun req p names hop hn hr n hmem => hj (h.2.1 req p names hop hn hr n hmem),
   fun req secs items hop hi hr p hp v hv => hj (h.2.2.1 req secs items hop hi hr p hp v hv),
   fun req es items hop hi hr p hp hd => hj (h.2.2.2 req es items hop hi hr p hp hd)⟩

/-- a successful call passed `check_access_with_permission` for every triple of `needs` — as evaluated on the state
    before the call, at the time of the call -/
theorem step_passes {s : State} {t : Nat} {op : Op} (hok : (step s t op).2.isOk = true) :
    ∀ x ∈ needs op, (s.checkAccess t x.1 x.2.1 x.2.2).2 = .ok () := by
  cases op with
  | set req sec val size => exact List.forall_mem_singleton.mpr (set_passes hok)
  | get req sec => exact List.forall_mem_singleton.mpr (checkAccess_cleanup s t req sec .read ▸ (guarded_ok hok).1)
  | grantTtl req ent sec l ttl => exact List.forall_mem_singleton.mpr (guarded_ok (grantTtl_grantCore hok)).1
  | delegate parent child secs l ttl =>
    intro x hx
    obtain ⟨sec, hsec, rfl⟩ := List.mem_map.mp hx
    exact delegCheck_passes (delegate_ok hok) sec hsec
  -- a guarded body on the state before the call
  | rotate _ _ _ _ | delete _ _ | grant _ _ _ _ | revoke _ _ _ | getVersion _ _ _ | versions _ _ | wrap _ _
  | probe _ _ _ _ => exact List.forall_mem_singleton.mpr (guarded_ok hok).1
  | rollback req sec ver =>
    obtain ⟨h1, h2⟩ := guarded_ok hok
    refine List.forall_mem_cons.mpr ⟨h1, List.forall_mem_singleton.mpr ?_⟩
    -- the inner `set` ran on the state the outer check left, at the same instant
    rw [show step s t (.rollback req sec ver) = s.rollback t req sec ver from rfl, State.rollback, h2] at hok
    split at hok
    · cases hok
    · split at hok
      · cases hok
      · exact checkAccess_checkAccess s t req sec req sec .read .write ▸ set_passes hok
  | list _ _ | batchGet _ _ | batchSet _ _ | undelegate _ _ | undelegateCascade _ _ | addMember _ _ | delMember _ _
  | addEdge _ _ _ | unwrap _ | reopen => exact fun _ h => nomatch h

/-- the records BELOW the record `parent → child` in an arbitrary set of delegation records — no shape is assumed:
    chains, trees, diamonds, an agent that holds delegations from several parents (in one branch or not, at one depth
    or several), even cycles.  It is the record graph that is walked, not the agent graph: a record `x → y` is
    followed by every record `y → z`. -/
inductive Below (ds : List DelegRec) (parent child : Nat) : DelegRec → Prop
  | direct {d : DelegRec} : d ∈ ds → d.parent = parent → d.child = child → Below ds parent child d
  | onward {d d' : DelegRec} : Below ds parent child d → d' ∈ ds → d'.parent = d.child → Below ds parent child d'

/-- in the diamond A=1 → B=2, B → C=3, B → D=4, C → D both records into D are below A → B -/
theorem diamond_below {ds : List DelegRec}
    (h : ds = [⟨1, 2, [1, 2], 1⟩, ⟨2, 3, [1, 2], 2⟩, ⟨2, 4, [1], 2⟩, ⟨3, 4, [2], 3⟩]) :
    Below ds 1 2 ⟨2, 4, [1], 2⟩ ∧ Below ds 1 2 ⟨3, 4, [2], 3⟩ := by
  have hAB : Below ds 1 2 ⟨1, 2, [1, 2], 1⟩ := .direct (by rw [h]; decide +kernel) rfl rfl
  have hBC : Below ds 1 2 ⟨2, 3, [1, 2], 2⟩ := .onward hAB (by rw [h]; decide +kernel) rfl
  exact ⟨.onward hAB (by rw [h]; decide +kernel) rfl, .onward hBC (by rw [h]; decide +kernel) rfl⟩

end Neumann.Vault.Props
