import NeumannModel.Vault.Model
/-
  C14 — correctness of the permission search (`permLevel` = `get_permission_level_verified`):
  soundness (every reported level is witnessed by a reachable, verifying access edge) and
  completeness (no witnessed level is missed: the result is the maximum over all MEMBER paths
  shorter than the horizon).
-/
namespace Neumann.Vault

/-- `MPath g a b k`: there is a chain of `k` MEMBER edges of `g` from node `a` to node `b` -/
inductive MPath (g : Graph) (a : Nat) : Nat → Nat → Prop
  | refl : MPath g a a 0
  | step {b k : Nat} (e : Edge) : MPath g a b k → e ∈ g → e.kind = .member → e.src = b → MPath g a e.dst (k + 1)

/-- access edge `e` into `tgt` hangs off a node reachable from `src` over `k < horizon` MEMBER hops and,
    after signature check / attenuation at `k+1` hops / capacity, contributes exactly level `l` -/
def Witness (pol : Policy) (g : Graph) (src tgt : Nat) (l : Level) (e : Edge) : Prop :=
  ∃ k grp, MPath g src grp k ∧ k < pol.horizon ∧ e ∈ g ∧ e.src = grp ∧ e.dst = tgt ∧
    e.kind.isAccess = true ∧ edgeLevel pol e (k + 1) = some l

theorem Level.max_cases (a b : Level) : Level.max a b = a ∨ Level.max a b = b := by
  unfold Level.max; split
  · exact Or.inr rfl
  · exact Or.inl rfl

theorem Level.le_max_left (a b : Level) : a.toNat ≤ (Level.max a b).toNat := by
  unfold Level.max; split <;> omega

theorem Level.le_max_right (a b : Level) : b.toNat ≤ (Level.max a b).toNat := by
  unfold Level.max; split <;> omega

theorem Level.min_mono (a a' c : Level) (h : a.toNat ≤ a'.toNat) :
    (Level.min a c).toNat ≤ (Level.min a' c).toNat := by
  unfold Level.min; split <;> split <;> omega

theorem Level.toNat_le_admin (l : Level) : l.toNat ≤ Level.admin.toNat := by
  cases l <;> decide

theorem Level.ite_mono {c1 c2 : Prop} [Decidable c1] [Decidable c2] (hc : c2 → c1) {a b1 b2 : Level}
    (hb : b2.toNat ≤ b1.toNat) (hba : b1.toNat ≤ a.toNat) :
    (if c2 then a else b2).toNat ≤ (if c1 then a else b1).toNat := by
  by_cases h1 : c1
  · rw [if_pos h1]
    split
    · exact Nat.le_refl _
    · exact Nat.le_trans hb hba
  · rw [if_neg h1, if_neg fun h2 => h1 (hc h2)]
    exact hb

theorem attenuate_mono (p : Policy) (l : Level) {h1 h2 : Nat} (hle : h1 ≤ h2) {a2 : Level}
    (h : attenuate p l h2 = some a2) :
    ∃ a1, attenuate p l h1 = some a1 ∧ a2.toNat ≤ a1.toNat := by
  unfold attenuate at h ⊢
  split at h
  · cases h
  · rw [if_neg (by omega : ¬ h1 > p.horizon)]
    cases h
    refine ⟨_, rfl, ?_⟩
    have hlim : ∀ lim, h2 ≤ lim → h1 ≤ lim := fun _ => Nat.le_trans hle
    cases l with
    | read => exact Nat.le_refl _
    | write => exact Level.ite_mono (hlim _) (Nat.le_refl _) (by decide)
    | admin =>
      exact Level.ite_mono (hlim _) (Level.ite_mono (hlim _) (Nat.le_refl _) (by decide)) (Level.toNat_le_admin _)

theorem edgeLevel_mono (pol : Policy) (e : Edge) {h1 h2 : Nat} (hle : h1 ≤ h2) {x : Level}
    (h : edgeLevel pol e h2 = some x) :
    ∃ y, edgeLevel pol e h1 = some y ∧ x.toNat ≤ y.toNat := by
  unfold edgeLevel at h ⊢
  cases hk : e.kind with
  | member => rw [hk] at h; cases h
  | other => rw [hk] at h; cases h
  | access lvl cap sigOk =>
    rw [hk] at h
    simp only at h ⊢
    cases sigOk with
    | false => simp at h
    | true =>
      cases lvl with
      | none => simp at h
      | some l =>
        simp only [Bool.true_eq_false, if_false] at h ⊢
        cases ha : attenuate pol l h2 with
        | none => rw [ha] at h; cases h
        | some a2 =>
          rw [ha] at h
          obtain ⟨a1, ha1, hle1⟩ := attenuate_mono pol l hle ha
          rw [ha1]
          simp only at h ⊢
          cases h
          refine ⟨_, rfl, ?_⟩
          cases cap with
          | none => exact hle1
          | some c => exact Level.min_mono _ _ _ hle1

/-- `o` holds a level at least `x` -/
def BestGe (o : Option Level) (x : Level) : Prop := ∃ b, o = some b ∧ x.toNat ≤ b.toNat

theorem BestGe.bestMax {o : Option Level} {x : Level} (h : BestGe o x) (l : Level) :
    BestGe (bestMax o l) x := by
  obtain ⟨b, rfl, hb⟩ := h
  exact ⟨_, rfl, Nat.le_trans hb (Level.le_max_left b l)⟩

theorem bestGe_bestMax_self (o : Option Level) (l : Level) : BestGe (bestMax o l) l := by
  cases o with
  | none => exact ⟨l, rfl, Nat.le_refl _⟩
  | some b => exact ⟨_, rfl, Level.le_max_right b l⟩

theorem scanEdge_cases (pol : Policy) (tgt d : Nat) (st : Bfs) (e : Edge) :
    (scanEdge pol tgt d st e = st ∧ (e.kind = .member → e.dst ∈ st.vis) ∧
        (e.kind.isAccess = true → e.dst = tgt → edgeLevel pol e (d + 1) = none)) ∨
    (e.kind = .member ∧ e.dst ∉ st.vis ∧ scanEdge pol tgt d st e =
        { st with vis := e.dst :: st.vis, queue := st.queue ++ [(e.dst, d + 1)] }) ∨
    (∃ l, e.kind.isAccess = true ∧ e.dst = tgt ∧ edgeLevel pol e (d + 1) = some l ∧
        scanEdge pol tgt d st e = { st with best := bestMax st.best l }) := by
  cases hk : e.kind with
  | other => exact .inl ⟨by simp only [scanEdge, hk], nofun, nofun⟩
  | member =>
    by_cases hv : e.dst ∈ st.vis
    · exact .inl ⟨by simp only [scanEdge, hk, hv, if_true], fun _ => hv, nofun⟩
    · exact .inr (.inl ⟨rfl, hv, by simp only [scanEdge, hk, hv, if_false]⟩)
  | access lvl cap sig =>
    by_cases ht : e.dst = tgt
    · cases hl : edgeLevel pol e (d + 1) with
      | none => exact .inl ⟨by simp only [scanEdge, hk, ht, if_true, hl], nofun, fun _ _ => rfl⟩
      | some l => exact .inr (.inr ⟨l, rfl, ht, rfl, by simp only [scanEdge, hk, ht, if_true, hl]⟩)
    · exact .inl ⟨by simp only [scanEdge, hk, ht, if_false], nofun, fun _ h => (ht h).elim⟩

theorem foldl_inv {α β : Type _} (f : β → α → β) (P : β → Prop) :
    ∀ (es : List α), (∀ s a, a ∈ es → P s → P (f s a)) → ∀ s, P s → P (es.foldl f s)
  | [], _, _, hs => hs
  | a :: t, hstep, s, hs =>
    foldl_inv f P t (fun s b hb => hstep s b (List.mem_cons_of_mem _ hb)) (f s a)
      (hstep s a (List.mem_cons_self ..) hs)

theorem foldl_inv_all {α β : Type _} (f : β → α → β) (P : β → Prop) (Q : α → β → Prop)
    (hstab : ∀ s a a', Q a s → Q a (f s a')) :
    ∀ (es : List α), (∀ s a, a ∈ es → P s → P (f s a) ∧ Q a (f s a)) →
      ∀ s, P s → P (es.foldl f s) ∧ (∀ a, Q a s → Q a (es.foldl f s)) ∧
        ∀ a ∈ es, Q a (es.foldl f s)
  | [], _, s, hs => ⟨hs, fun _ h => h, fun _ h => nomatch h⟩
  | a :: t, hstep, s, hs => by
    have h1 := hstep s a (List.mem_cons_self ..) hs
    have ih := foldl_inv_all f P Q hstab t
      (fun s b hb => hstep s b (List.mem_cons_of_mem _ hb)) (f s a) h1.1
    refine ⟨ih.1, fun b hb => ih.2.1 b (hstab s b a hb), ?_⟩
    intro b hb
    rcases List.mem_cons.mp hb with rfl | hb
    · exact ih.2.1 _ h1.2
    · exact ih.2.2 b hb

structure SInv (pol : Policy) (g : Graph) (src tgt : Nat) (st : Bfs) : Prop where
  qpath : ∀ p ∈ st.queue, MPath g src p.1 p.2
  wit : ∀ l, st.best = some l → ∃ e, Witness pol g src tgt l e

theorem SInv.scan {pol : Policy} {g : Graph} {src tgt : Nat} {st : Bfs} {cur d : Nat} {e : Edge}
    (hs : SInv pol g src tgt st) (hcur : MPath g src cur d) (hd : d < pol.horizon)
    (he : e ∈ g) (hsrc : e.src = cur) : SInv pol g src tgt (scanEdge pol tgt d st e) := by
  rcases scanEdge_cases pol tgt d st e with ⟨h, _⟩ | ⟨hk, _, h⟩ | ⟨l, ha, ht, hl, h⟩ <;> rw [h]
  · exact hs
  · refine ⟨?_, hs.wit⟩
    intro p hp
    rcases List.mem_append.mp hp with hp | hp
    · exact hs.qpath p hp
    · rw [List.mem_singleton] at hp
      subst hp
      exact MPath.step e hcur he hk hsrc
  · refine ⟨hs.qpath, ?_⟩
    intro l0 h0
    have hw : Witness pol g src tgt l e := ⟨d, cur, hcur, hd, he, hsrc, ht, ha, hl⟩
    cases hb : st.best with
    | none =>
      simp only [hb, bestMax] at h0
      cases h0
      exact ⟨e, hw⟩
    | some x =>
      simp only [hb, bestMax] at h0
      cases h0
      rcases Level.max_cases x l with hm | hm <;> rw [hm]
      · exact hs.wit x hb
      · exact ⟨e, hw⟩

theorem mem_outEdges {g : Graph} {n : Nat} {e : Edge} : e ∈ outEdges g n ↔ e ∈ g ∧ e.src = n := by
  simp only [outEdges, List.mem_filter, decide_eq_true_eq]

theorem bfs_sound (pol : Policy) (g : Graph) (src tgt : Nat) :
    ∀ (fuel : Nat) (st : Bfs), SInv pol g src tgt st →
      ∀ l, bfs pol g tgt fuel st = some l → ∃ e, Witness pol g src tgt l e := by
  intro fuel
  induction fuel with
  | zero => intro st hs l h; rw [bfs] at h; exact hs.wit l h
  | succ n ih =>
    intro st hs l h
    rw [bfs] at h
    split at h
    · exact hs.wit l h
    · rename_i cur d rest hq
      have hcur : MPath g src cur d := hs.qpath (cur, d) (by rw [hq]; exact List.mem_cons_self ..)
      have hpop : SInv pol g src tgt { st with queue := rest } :=
        ⟨fun p hp => hs.qpath p (by rw [hq]; exact List.mem_cons_of_mem _ hp), hs.wit⟩
      split at h
      · exact ih _ hpop l h
      · rename_i hd
        refine ih _ ?_ l h
        apply foldl_inv (scanEdge pol tgt d) (SInv pol g src tgt) _ _ _ hpop
        intro s a ha hsa
        have ha' := mem_outEdges.mp ha
        exact hsa.scan hcur (by omega) ha'.1 ha'.2

theorem permLevel_sound (pol : Policy) (g : Graph) (src tgt : Nat) (l : Level)
    (hne : src ≠ tgt) (h : permLevel pol g src tgt = some l) : ∃ e, Witness pol g src tgt l e := by
  unfold permLevel at h
  rw [if_neg hne] at h
  refine bfs_sound pol g src tgt _ _ ?_ l h
  refine ⟨?_, ?_⟩
  · intro p hp
    rw [List.mem_singleton] at hp
    subst hp
    exact MPath.refl
  · intro l hl; cases hl

structure FuelInv (g : Graph) (src fuel : Nat) (st : Bfs) : Prop where
  nodup : st.vis.Nodup
  origin : ∀ n ∈ st.vis, n = src ∨ ∃ e ∈ g, e.dst = n
  count : st.queue.length + (g.length + 1) ≤ fuel + st.vis.length

theorem FuelInv.vis_le {g : Graph} {src fuel : Nat} {st : Bfs} (h : FuelInv g src fuel st) :
    st.vis.length ≤ g.length + 1 := by
  have := h.nodup.length_le_of_subset (l₂ := src :: g.map (·.dst)) (by
    intro x hx
    rcases h.origin x hx with rfl | ⟨e, he, rfl⟩
    · exact List.mem_cons_self ..
    · exact List.mem_cons_of_mem _ (List.mem_map.mpr ⟨e, he, rfl⟩))
  simpa only [List.length_cons, List.length_map] using this

theorem FuelInv.queue_nil {g : Graph} {src : Nat} {st : Bfs} (h : FuelInv g src 0 st) :
    st.queue = [] := by
  have h1 := h.vis_le
  have h2 := h.count
  exact List.eq_nil_of_length_eq_zero (by omega)

theorem FuelInv.pop {g : Graph} {src fuel : Nat} {st : Bfs} {x : Nat × Nat} {rest : List (Nat × Nat)}
    (h : FuelInv g src (fuel + 1) st) (hq : st.queue = x :: rest) :
    FuelInv g src fuel { st with queue := rest } := by
  refine ⟨h.nodup, h.origin, ?_⟩
  have := h.count
  rw [hq] at this
  simp only [List.length_cons] at this ⊢
  omega

theorem FuelInv.scan {g : Graph} {src fuel : Nat} {st : Bfs} (pol : Policy) (tgt d : Nat) {e : Edge}
    (h : FuelInv g src fuel st) (he : e ∈ g) : FuelInv g src fuel (scanEdge pol tgt d st e) := by
  rcases scanEdge_cases pol tgt d st e with ⟨hh, _⟩ | ⟨_, hv, hh⟩ | ⟨l, _, _, _, hh⟩ <;> rw [hh]
  · exact h
  · refine ⟨List.nodup_cons.mpr ⟨hv, h.nodup⟩, ?_, ?_⟩
    · intro n hn
      rcases List.mem_cons.mp hn with rfl | hn
      · exact Or.inr ⟨e, he, rfl⟩
      · exact h.origin n hn
    · have := h.count
      simp only [List.length_append, List.length_cons, List.length_nil]
      omega
  · exact ⟨h.nodup, h.origin, h.count⟩

/-- node `n` has been given depth `d`: either already popped (`done`) or still queued -/
def Known (done : List (Nat × Nat)) (st : Bfs) (n d : Nat) : Prop := (n, d) ∈ done ∨ (n, d) ∈ st.queue

/-- edge `e`, leaving a node popped at depth `dn`, has had its effect -/
def Handled (pol : Policy) (tgt : Nat) (done : List (Nat × Nat)) (st : Bfs) (e : Edge) (dn : Nat) : Prop :=
  (e.kind = .member → ∃ d', d' ≤ dn + 1 ∧ Known done st e.dst d') ∧
  (e.kind.isAccess = true → e.dst = tgt → ∀ x, edgeLevel pol e (dn + 1) = some x → BestGe st.best x)

theorem Handled.mono {pol : Policy} {tgt : Nat} {done done' : List (Nat × Nat)} {st st' : Bfs} {e : Edge}
    {dn : Nat} (h : Handled pol tgt done st e dn)
    (hk : ∀ n d, Known done st n d → Known done' st' n d)
    (hb : ∀ x, BestGe st.best x → BestGe st'.best x) : Handled pol tgt done' st' e dn := by
  refine ⟨fun hm => ?_, fun ha ht x hx => hb x (h.2 ha ht x hx)⟩
  obtain ⟨d', hd', hkn⟩ := h.1 hm
  exact ⟨d', hd', hk _ _ hkn⟩

/-- BFS invariant.  `done` = popped (node, depth) pairs; `fin` = those whose out-edges are all handled;
    `D` = depth of the node being (or last) expanded. -/
structure Inv (pol : Policy) (g : Graph) (src tgt : Nat) (done fin : List (Nat × Nat)) (D : Nat)
    (st : Bfs) : Prop where
  sorted : st.queue.Pairwise (fun a b => a.2 ≤ b.2)
  doneLe : ∀ p ∈ done, p.2 ≤ D
  qrange : ∀ a ∈ st.queue, D ≤ a.2 ∧ a.2 ≤ D + 1
  visKnown : ∀ n ∈ st.vis, ∃ d, Known done st n d
  srcZero : Known done st src 0
  handled : ∀ p ∈ fin, p.2 < pol.horizon → ∀ e ∈ g, e.src = p.1 → Handled pol tgt done st e p.2

theorem scanEdge_known {pol : Policy} {tgt d : Nat} {st : Bfs} {e : Edge} {done : List (Nat × Nat)}
    {n k : Nat} (h : Known done st n k) : Known done (scanEdge pol tgt d st e) n k := by
  rcases scanEdge_cases pol tgt d st e with ⟨hh, _⟩ | ⟨_, _, hh⟩ | ⟨l, _, _, _, hh⟩ <;> rw [hh]
  · exact h
  · exact h.imp id (List.mem_append_left _)
  · exact h

theorem scanEdge_bestGe {pol : Policy} {tgt d : Nat} {st : Bfs} {e : Edge} {x : Level}
    (h : BestGe st.best x) : BestGe (scanEdge pol tgt d st e).best x := by
  rcases scanEdge_cases pol tgt d st e with ⟨hh, _⟩ | ⟨_, _, hh⟩ | ⟨l, _, _, _, hh⟩ <;> rw [hh]
  · exact h
  · exact h
  · exact h.bestMax l

theorem Handled.scan {pol : Policy} {tgt d : Nat} {done : List (Nat × Nat)} {st : Bfs} {e e' : Edge}
    {dn : Nat} (h : Handled pol tgt done st e dn) :
    Handled pol tgt done (scanEdge pol tgt d st e') e dn :=
  h.mono (fun _ _ hk => scanEdge_known hk) (fun _ hb => scanEdge_bestGe hb)

theorem Inv.scan {pol : Policy} {g : Graph} {src tgt : Nat} {done fin : List (Nat × Nat)} {D : Nat}
    {st : Bfs} (hi : Inv pol g src tgt done fin D st) (e : Edge) :
    Inv pol g src tgt done fin D (scanEdge pol tgt D st e) ∧
      Handled pol tgt done (scanEdge pol tgt D st e) e D := by
  have hmono : ∀ p ∈ fin, p.2 < pol.horizon → ∀ e' ∈ g, e'.src = p.1 →
      Handled pol tgt done (scanEdge pol tgt D st e) e' p.2 :=
    fun p hp hlt e' he' hs' => (hi.handled p hp hlt e' he' hs').scan
  rcases scanEdge_cases pol tgt D st e with ⟨hh, hm, ha⟩ | ⟨hk, hv, hh⟩ | ⟨l, ha, ht, hl, hh⟩
  · rw [hh]
    refine ⟨hi, fun hk => ?_, fun hacc ht x hx => ?_⟩
    · -- a visited node was given a depth no larger than `D + 1`
      obtain ⟨d0, hd0⟩ := hi.visKnown _ (hm hk)
      refine ⟨d0, ?_, hd0⟩
      rcases hd0 with h | h
      · have := hi.doneLe _ h
        simp only at this; omega
      · have := (hi.qrange _ h).2
        simp only at this; omega
    · rw [ha hacc ht] at hx; cases hx
  · rw [hh] at hmono ⊢
    refine ⟨⟨?_, hi.doneLe, ?_, ?_, hi.srcZero.imp id (List.mem_append_left _), hmono⟩, fun _ => ?_,
      fun ha => by rw [hk] at ha; cases ha⟩
    · refine List.pairwise_append.mpr ⟨hi.sorted, List.pairwise_singleton _ _, ?_⟩
      intro a ha b hb
      rw [List.mem_singleton] at hb
      subst hb
      exact (hi.qrange a ha).2
    · intro a ha
      rcases List.mem_append.mp ha with ha | ha
      · exact hi.qrange a ha
      · rw [List.mem_singleton] at ha
        subst ha
        exact ⟨Nat.le_succ _, Nat.le_refl _⟩
    · intro n hn
      rcases List.mem_cons.mp hn with rfl | hn
      · exact ⟨D + 1, Or.inr (List.mem_append_right _ (List.mem_singleton.mpr rfl))⟩
      · obtain ⟨d0, h⟩ := hi.visKnown n hn
        exact ⟨d0, h.imp id (List.mem_append_left _)⟩
    · exact ⟨D + 1, Nat.le_refl _, Or.inr (List.mem_append_right _ (List.mem_singleton.mpr rfl))⟩
  · rw [hh] at hmono ⊢
    refine ⟨⟨hi.sorted, hi.doneLe, hi.qrange, hi.visKnown, hi.srcZero, hmono⟩,
      fun hk => (by rw [hk] at ha; cases ha), fun _ _ x hx => ?_⟩
    rw [hl] at hx; cases hx
    exact bestGe_bestMax_self _ _

theorem Inv.pop {pol : Policy} {g : Graph} {src tgt : Nat} {done : List (Nat × Nat)} {D : Nat}
    {st : Bfs} {cur d : Nat} {rest : List (Nat × Nat)}
    (hi : Inv pol g src tgt done done D st) (hq : st.queue = (cur, d) :: rest) :
    Inv pol g src tgt ((cur, d) :: done) done d { st with queue := rest } := by
  have hsorted := hi.sorted
  rw [hq] at hsorted
  have hs' := List.pairwise_cons.mp hsorted
  have hhead := hi.qrange (cur, d) (by rw [hq]; exact List.mem_cons_self ..)
  simp only at hhead
  have hkn : ∀ n k, Known done st n k → Known ((cur, d) :: done) { st with queue := rest } n k := by
    intro n k h
    rcases h with h | h
    · exact Or.inl (List.mem_cons_of_mem _ h)
    · rw [hq] at h
      rcases List.mem_cons.mp h with h | h
      · exact Or.inl (h ▸ List.mem_cons_self ..)
      · exact Or.inr h
  refine ⟨hs'.2, ?_, ?_, ?_, hkn _ _ hi.srcZero, ?_⟩
  · intro p hp
    rcases List.mem_cons.mp hp with rfl | hp
    · exact Nat.le_refl _
    · have := hi.doneLe p hp; omega
  · intro a ha
    have h1 := hs'.1 a ha
    have h2 := (hi.qrange a (by rw [hq]; exact List.mem_cons_of_mem _ ha)).2
    simp only at h1
    exact ⟨h1, by omega⟩
  · intro n hn
    obtain ⟨d0, h⟩ := hi.visKnown n hn
    exact ⟨d0, hkn _ _ h⟩
  · intro p hp hlt e he hs
    exact (hi.handled p hp hlt e he hs).mono hkn (fun _ h => h)

theorem Inv.extend {pol : Policy} {g : Graph} {src tgt : Nat} {done fin : List (Nat × Nat)} {D : Nat}
    {st : Bfs} {p : Nat × Nat} (hi : Inv pol g src tgt done fin D st)
    (hp : p.2 < pol.horizon → ∀ e ∈ g, e.src = p.1 → Handled pol tgt done st e p.2) :
    Inv pol g src tgt done (p :: fin) D st := by
  refine ⟨hi.sorted, hi.doneLe, hi.qrange, hi.visKnown, hi.srcZero, ?_⟩
  intro q hq
  rcases List.mem_cons.mp hq with rfl | hq
  · exact hp
  · exact hi.handled q hq

theorem Inv.reach {pol : Policy} {g : Graph} {src tgt : Nat} {done : List (Nat × Nat)} {D : Nat}
    {st : Bfs} (hi : Inv pol g src tgt done done D st) (hq : st.queue = []) :
    ∀ n k, MPath g src n k → k < pol.horizon → ∃ d, d ≤ k ∧ (n, d) ∈ done := by
  intro n k hp
  induction hp with
  | refl =>
    intro _
    rcases hi.srcZero with h | h
    · exact ⟨0, Nat.le_refl _, h⟩
    · rw [hq] at h; cases h
  | step e hp he hk hs ih =>
    rename_i b k
    intro hlt
    obtain ⟨d, hdk, hmem⟩ := ih (by omega)
    have hh := hi.handled (b, d) hmem (by simp only; omega) e he hs
    obtain ⟨d', hd', hkn⟩ := hh.1 hk
    rcases hkn with h | h
    · exact ⟨d', by omega, h⟩
    · rw [hq] at h; cases h

theorem Inv.final {pol : Policy} {g : Graph} {src tgt : Nat} {done : List (Nat × Nat)} {D : Nat}
    {st : Bfs} (hi : Inv pol g src tgt done done D st) (hq : st.queue = [])
    {l' : Level} {e : Edge} (hw : Witness pol g src tgt l' e) : BestGe st.best l' := by
  obtain ⟨k, grp, hp, hk, he, hs, hd, ha, hl⟩ := hw
  obtain ⟨d, hdk, hmem⟩ := hi.reach hq grp k hp hk
  obtain ⟨y, hy, hxy⟩ := edgeLevel_mono pol e (h1 := d + 1) (h2 := k + 1) (by omega) hl
  have hh := hi.handled (grp, d) hmem (by simp only; omega) e he hs
  obtain ⟨b, hb, hyb⟩ := hh.2 ha hd y hy
  exact ⟨b, hb, by omega⟩

theorem bfs_complete (pol : Policy) (g : Graph) (src tgt : Nat) {l' : Level} {e : Edge}
    (hw : Witness pol g src tgt l' e) :
    ∀ (fuel : Nat) (st : Bfs) (done : List (Nat × Nat)) (D : Nat),
      Inv pol g src tgt done done D st → FuelInv g src fuel st →
      BestGe (bfs pol g tgt fuel st) l' := by
  intro fuel
  induction fuel with
  | zero =>
    intro st done D hi hf
    rw [bfs]
    exact hi.final hf.queue_nil hw
  | succ n ih =>
    intro st done D hi hf
    rw [bfs]
    split
    · rename_i hq
      exact hi.final hq hw
    · rename_i cur d rest hq
      have hpop := hi.pop hq
      have hfp := hf.pop hq
      split
      · rename_i hge
        refine ih _ ((cur, d) :: done) d (hpop.extend ?_) hfp
        intro hlt
        simp only at hlt
        omega
      · have hfold := foldl_inv_all (scanEdge pol tgt d)
          (fun s => Inv pol g src tgt ((cur, d) :: done) done d s ∧ FuelInv g src n s)
          (fun a s => Handled pol tgt ((cur, d) :: done) s a d)
          (fun s a a' h => h.scan) (outEdges g cur)
          (fun s a ha hs =>
            ⟨⟨(hs.1.scan a).1, hs.2.scan pol tgt d (mem_outEdges.mp ha).1⟩, (hs.1.scan a).2⟩)
          _ ⟨hpop, hfp⟩
        refine ih _ ((cur, d) :: done) d (hfold.1.1.extend ?_) hfold.1.2
        intro _ a ha hs
        exact hfold.2.2 a (mem_outEdges.mpr ⟨ha, hs⟩)

theorem permLevel_complete (pol : Policy) (g : Graph) (src tgt : Nat) (l' : Level) (e : Edge)
    (hne : src ≠ tgt) (hw : Witness pol g src tgt l' e) :
    ∃ l, permLevel pol g src tgt = some l ∧ l'.toNat ≤ l.toNat := by
  unfold permLevel
  rw [if_neg hne]
  refine bfs_complete pol g src tgt hw _ _ [] 0 ?_ ?_
  · refine ⟨List.pairwise_singleton _ _, (fun p hp => by cases hp), ?_, ?_, ?_, (fun p hp => by cases hp)⟩
    · intro a ha
      rw [List.mem_singleton] at ha
      subst ha
      exact ⟨Nat.le_refl _, Nat.zero_le _⟩
    · intro n hn
      rw [List.mem_singleton] at hn
      subst hn
      exact ⟨0, Or.inr (List.mem_singleton.mpr rfl)⟩
    · exact Or.inr (List.mem_singleton.mpr rfl)
  · refine ⟨List.nodup_cons.mpr ⟨List.not_mem_nil, List.nodup_nil⟩, ?_, ?_⟩
    · intro n hn
      rw [List.mem_singleton] at hn
      exact Or.inl hn
    · simp only [List.length_cons, List.length_nil]
      omega

theorem permLevel_none_iff (pol : Policy) (g : Graph) (src tgt : Nat) (hne : src ≠ tgt) :
    permLevel pol g src tgt = none ↔ ∀ l e, ¬ Witness pol g src tgt l e := by
  constructor
  · intro h l e hw
    obtain ⟨l0, h0, _⟩ := permLevel_complete pol g src tgt l e hne hw
    rw [h] at h0
    cases h0
  · intro h
    cases hp : permLevel pol g src tgt with
    | none => rfl
    | some l =>
      obtain ⟨e, hw⟩ := permLevel_sound pol g src tgt l hne hp
      exact (h l e hw).elim

end Neumann.Vault
