import NeumannModel.Vault.Backed
/-
  C14 — "Vault: no access without a live grant, no plaintext at rest".
  The model is the code AFTER 4e577a4d (expired TTL grants are dropped on every authorisation path),
  31ebe3e9 (no `_secret_key` in the secret node record) and ad58047e (a secret's graph-node key presented as
  the requester is refused by every authorisation entry point).  What holds, what does not:
    * the graph search is sound and complete (`bfs_level_is_max_over_paths`);
    * FULL: for every configuration, history, time and guarded operation, success of a non-root requester
      rests on a grant edge that is unrevoked AND unexpired, reachable within the horizon and of sufficient
      attenuated level (`access_requires_live_grant`, `…_prestate`); revoke / expiry / delete act at once;
    * the code before 4e577a4d violated exactly this (`access_requires_live_grant_old_witness`);
    * a requester string that is a secret's graph-node key (`vault_secret:…`) gets nothing from any entry point,
      in every state (`secret_node_key_is_no_identity`); before ad58047e it got Admin on its own secret through
      the `source == target` shortcut of the path search (`secret_node_key_as_identity_old_witness`);
    * cascading revocation walks delegation RECORDS, not agents: for every set of records (diamonds, an agent with
      several delegating parents, …) every record reachable from the revoked one is removed together with the edges
      it created (`cascading_revocation_reaches_every_record_below`), nothing else is removed
      (`cascading_revocation_removes_only_records_below`); the walk with a visited-AGENTS set is not complete
      (`cascade_visited_agents_leaves_delegation_witness`);
    * secret VALUES never reach the store / audit log in readable form (`at_rest_no_plain_value`);
    * secret NAMES: clean in the secret node, `_vk:`, `_vs:` and audit records
      (`at_rest_no_plain_name_partial`), still readable in the persisted TTL tracker and the delegation
      records (`at_rest_no_plain_name_witness`, `at_rest_name_sites_witness` — known findings).
-/
namespace Neumann.Vault.Props
open Neumann.Vault

/-- `get_permission_level_verified` returns exactly the maximum, over every MEMBER path shorter than the
    horizon and every verifying VAULT_ACCESS edge at its end, of the attenuated and capacity-limited level:
    (soundness) whatever it returns is contributed by such an edge, (completeness) no such edge is missed. -/
theorem bfs_level_is_max_over_paths (pol : Policy) (g : Graph) (src tgt : Nat) (hne : src ≠ tgt) :
    (∀ l, permLevel pol g src tgt = some l → ∃ e, Witness pol g src tgt l e) ∧
    (∀ l' e, Witness pol g src tgt l' e → ∃ l, permLevel pol g src tgt = some l ∧ l'.toNat ≤ l.toNat) :=
  ⟨fun l h => permLevel_sound pol g src tgt l hne h,
   fun l' e hw => permLevel_complete pol g src tgt l' e hne hw⟩

/-- non-vacuity: alice –MEMBER→ team –VAULT_ACCESS_ADMIN→ secret gives Write (2 hops) under the default policy,
    and a second, direct Read edge does not lower it -/
example : permLevel {} [⟨0, 2, 4, .member, none⟩, ⟨1, 4, 7, .access (some .admin) (some .admin) true, none⟩,
                        ⟨2, 2, 7, .access (some .read) (some .read) true, none⟩] 2 7 = some .write := by decide +kernel

/-- membership alone confers nothing: if no VAULT_ACCESS edge points at the secret, no chain of MEMBER
    edges (even one ending AT the secret node) gives any level -/
theorem membership_alone_confers_nothing (pol : Policy) (g : Graph) (src tgt : Nat) (hne : src ≠ tgt)
    (h : ∀ e ∈ g, e.dst = tgt → e.kind = .member) : permLevel pol g src tgt = none := by
  rw [permLevel_none_iff pol g src tgt hne]
  rintro l e ⟨k, grp, _, _, he, _, hdst, hacc, _⟩
  rw [h e he hdst] at hacc
  cases hacc

example : permLevel {} [⟨0, 2, 4, .member, none⟩, ⟨1, 4, 7, .member, none⟩, ⟨2, 2, 7, .member, none⟩] 2 7 = none := by
  decide +kernel

/-- only allow-listed edge types count (access.rs `ALLOWED_TRAVERSAL_EDGES` / `is_allowed_edge_type`):
    (classification) an edge type is skipped by the search exactly when it starts with none of the allow-listed
    strings, it can contribute a level only when it starts with `VAULT_ACCESS`, and it is traversed only when it is
    allow-listed without that prefix (i.e. starts with `MEMBER`);
    (irrelevance) deleting every skipped edge from ANY graph changes neither the level the search returns nor the
    denied / insufficient decision of `check_path` — so no chain through OWNS / ADMIN_OF / … edges confers anything. -/
theorem non_allowlisted_edges_are_ignored :
    (∀ (ty : List Char) (cap : Option Level) (sig : Bool),
        (kindOfType ty cap sig = .other ↔ isAllowedType ty = false) ∧
        ((kindOfType ty cap sig).isAccess = true → hasAccessPrefix ty = true) ∧
        (kindOfType ty cap sig = .member → isAllowedType ty = true ∧ hasAccessPrefix ty = false)) ∧
    (∀ (pol : Policy) (g : Graph) (src tgt : Nat),
        permLevel pol (dropOther g) src tgt = permLevel pol g src tgt ∧
        checkPath (dropOther g) src tgt = checkPath g src tgt) := by
  refine ⟨fun ty cap sig => ?_, fun pol g src tgt =>
    ⟨permLevel_congr (fun _ _ => Witness.dropOther_iff), checkPath_dropOther g src tgt⟩⟩
  unfold kindOfType
  cases ha : isAllowedType ty <;> cases hv : hasAccessPrefix ty <;> simp [EKind.isAccess]

/-- non-vacuity: the classification of concrete type strings, and a graph where alice reaches an Admin grant
    only through an `OWNS` edge (nothing) next to the same graph with a `MEMBER_OF` edge (Write at 2 hops) -/
example : kindOfType "OWNS".toList none true = .other ∧ kindOfType "member".toList none true = .other ∧
    kindOfType "XMEMBER".toList none true = .other ∧ kindOfType "VAULT_ACCES".toList none true = .other ∧
    kindOfType "MEMBER_OF".toList none true = .member ∧ kindOfType "MEMBERSHIP_ADMIN".toList none true = .member ∧
    kindOfType "VAULT_ACCESS_WRITE".toList none true = .access (some .write) none true ∧
    kindOfType "VAULT_ACCESS".toList none true = .access (some .admin) none true ∧
    kindOfType "VAULT_ACCESS_FOO".toList none true = .access none none true ∧
    kindOfType "VAULT_ACCESSX_READ".toList none true = .access (some .read) none true := by decide +kernel

example : permLevel {} [⟨0, 2, 4, kindOfType "OWNS".toList none true, none⟩,
                        ⟨1, 4, 7, .access (some .admin) (some .admin) true, none⟩] 2 7 = none ∧
          permLevel {} [⟨0, 2, 4, kindOfType "MEMBER_OF".toList none true, none⟩,
                        ⟨1, 4, 7, .access (some .admin) (some .admin) true, none⟩] 2 7 = some .write := by decide +kernel

/-- PARTIAL (missing: "unexpired" — an arbitrary state need not come from a history, so its TTL tracker need not
    know the edges' expiries): in EVERY state, a successful read / list entry / overwrite / rotate / delete / grant /
    revoke / delegate / old-version read / rollback / wrap / batch entry by a non-root requester implies a
    VAULT_ACCESS edge of sufficient attenuated level that is still in the graph after `cleanup_expired_grants`
    (unrevoked, secret not deleted) at a node reachable over < horizon MEMBER hops. -/
theorem access_requires_grant_any_state_partial (s : State) (t : Nat) (op : Op)
    (hok : (step s t op).2.isOk = true) :
    Backed (s.cleanup t) op (step s t op).2 (fun _ => True) := by
  refine ⟨?_, ?_, ?_, ?_⟩
  · exact fun x hx hr => checkAccess_ok (step_passes hok x hx) hr
  · intro req p names hop hn hr n hmem
    subst hop
    have := hasAccess_justified (list_names hn n hmem) hr
    rwa [cleanup_cleanup] at this
  · intro req secs items hop hi hr p hp v hv
    subst hop
    obtain rfl := Resp.items.inj hi
    have hp2 := mem_zip_map _ secs p hp
    rw [hv] at hp2
    split at hp2
    · cases hp2
    · rename_i hc
      rw [checkAccess_cleanup] at hc
      exact checkAccess_ok hc hr
  · intro req entries items hop hi hr p hp hd
    subst hop
    simp only [step] at hi; unfold State.batchSet at hi
    split at hi
    · simp only [Resp.items.injEq] at hi; subst hi; simp at hp
    · simp only [Resp.items.injEq] at hi
      rw [batchSet_fold_items, List.nil_append] at hi
      subst hi
      exact batchItems_justified hr entries s (Same.refl _) p hp hd

/-- non-vacuity: a non-root Write holder overwrites a secret -/
example : (step (run (init) [(0, .set 0 1 7 3), (0, .grant 0 1 1 .write)]) 1 (.set 1 1 8 3)).2.isOk = true := by decide +kernel

/-- FULL.  For every configuration, every history of timed API calls (including raw graph edges of any kind,
    batch calls, old-version reads, rollbacks, wrapping, cascading revocation and re-opening the vault over its
    store), every time `t` and every operation: if the call succeeds then everything its answer rests on (`Backed`:
    each level check with a non-root requester — read, old-version read, version count, wrap, transit
    encrypt/decrypt, changelog, get/clear expiration, overwrite, rotate, rollback, delete, grant, grant-with-ttl, revoke, delegate — each name a non-root `list` returns, each value a
    non-root `batch_get` returns, each entry a non-root `batch_set` reports written) has a VAULT_ACCESS edge that
      * is in the graph the decision was taken on (= the graph before the call minus the grants the TTL tracker
        reports expired at `t`): unrevoked, its secret not deleted;
      * is UNEXPIRED at `t` (`LiveAt t`: the grant that created it was issued with no expiry or with one `> t`);
      * hangs off the requester or off a group reachable from it over fewer than `horizon` MEMBER hops;
      * after signature check, attenuation by distance and capacity gives at least the needed level.
    Proof: history invariant `HI` (every edge issued with an expiry keeps its tracker entry through all 23
    operations, and every tracker entry is in the persisted copy a re-opened vault loads) ⇒ after
    `cleanup_expired_grants` at `t` every remaining edge is live at `t`; every authorisation entry point of the
    repaired code runs that cleanup first. -/
theorem access_requires_live_grant (pol : Policy) (a b c : Nat) (h : List (Nat × Op)) (t : Nat) (op : Op)
    (hok : (step (run (init pol a b c) h) t op).2.isOk = true) :
    Backed ((run (init pol a b c) h).cleanup t) op (step (run (init pol a b c) h) t op).2 (LiveAt t) := by
  have hlive := ((run_inv h _ (init_inv pol a b c)).1.cleanup t).2
  exact (access_requires_grant_any_state_partial _ t op hok).imp fun j => j.weaken (fun e he _ => hlive e he)

/-- FULL, same statement about the state right BEFORE the call (no reference to the cleanup): the live grant
    edge is in the pre-call graph. -/
theorem access_requires_live_grant_prestate (pol : Policy) (a b c : Nat) (h : List (Nat × Op)) (t : Nat) (op : Op)
    (hok : (step (run (init pol a b c) h) t op).2.isOk = true) :
    Backed (run (init pol a b c) h) op (step (run (init pol a b c) h) t op).2 (LiveAt t) :=
  (access_requires_live_grant pol a b c h t op hok).imp Justified.of_cleanup

/-- non-vacuity and the behaviour around expiry, one history: a Write grant issued at t=0 for 5 time units lets
    identity 1 read, list and overwrite at t=4; at t=10 every path is closed — read, list, overwrite, rotate,
    and (for an Admin grant) delete / grant / revoke / delegate -/
example :
    let s := run (init) [(0, .set 0 1 7 3), (0, .grantTtl 0 1 1 .write 5)]
    (step s 4 (.get 1 1)).2 = .value 7 ∧ (step s 4 (.set 1 1 8 3)).2 = .ok ∧ (step s 4 (.list 1 .all)).2 = .names [1] ∧
    (step s 10 (.get 1 1)).2 = .err .denied ∧ (step s 10 (.list 1 .all)).2 = .names [] ∧
    (step s 10 (.set 1 1 8 3)).2 = .err .denied ∧ (step s 10 (.rotate 1 1 8 3)).2 = .err .denied := by decide +kernel

example :
    let s := run (init) [(0, .set 0 1 7 3), (0, .grantTtl 0 1 1 .admin 5)]
    (step s 4 (.grant 1 2 1 .read)).2 = .ok ∧ (step s 4 (.delegate 1 2 [1] .write none)).2 = .level .write ∧
    (step s 10 (.delete 1 1)).2 = .err .denied ∧ (step s 10 (.grant 1 2 1 .read)).2 = .err .denied ∧
    (step s 10 (.grantTtl 1 2 1 .read 9)).2 = .err .denied ∧ (step s 10 (.revoke 1 2 1)).2 = .err .denied ∧
    (step s 10 (.delegate 1 2 [1] .read none)).2 = .err .denied := by decide +kernel

/-- non-vacuity for the other read / overwrite paths: with a Read grant identity 1 reads old versions, the version
    count, a batch and a wrapped copy but cannot roll back; with a Write grant for 5 time units identity 2 rolls back
    and batch-writes at t=4 and does none of it at t=10; identity 3 (no grant) gets nothing anywhere -/
example :
    let s := run (init) [(0, .set 0 1 7 3), (0, .rotate 0 1 8 3), (0, .grant 0 1 1 .read), (0, .grantTtl 0 2 1 .write 5)]
    (step s 4 (.getVersion 1 1 1)).2 = .value 7 ∧ (step s 4 (.getVersion 1 1 2)).2 = .value 8 ∧
    (step s 4 (.getVersion 1 1 3)).2 = .err .notFound ∧ (step s 4 (.versions 1 1)).2 = .num 2 ∧
    (step s 4 (.batchGet 1 [1, 2])).2 = .items [.val 8, .err .denied] ∧ (step s 4 (.wrap 1 1)).2 = .ok ∧
    (step s 4 (.rollback 1 1 1)).2 = .err .insufficient ∧
    (step s 4 (.rollback 2 1 1)).2 = .ok ∧ (step s 4 (.batchSet 2 [(1, 9, 3), (2, 9, 3)])).2 = .items [.done, .err .denied] ∧
    (step s 10 (.rollback 2 1 1)).2 = .err .denied ∧ (step s 10 (.batchSet 2 [(1, 9, 3)])).2 = .items [.err .denied] ∧
    (step s 10 (.getVersion 2 1 1)).2 = .err .denied ∧ (step s 10 (.batchGet 2 [1])).2 = .items [.err .denied] ∧
    (step s 4 (.getVersion 3 1 1)).2 = .err .denied ∧ (step s 4 (.versions 3 1)).2 = .err .denied ∧
    (step s 4 (.wrap 3 1)).2 = .err .denied ∧ (step s 4 (.batchGet 3 [1])).2 = .items [.err .denied] := by decide +kernel

/-- the code BEFORE 4e577a4d violated the property: root grants Write for 5 time units at t=0; at any later time
    (the old `set_inner` never looked at the TTL tracker) the grantee still overwrites the secret although no
    grant live at t=10 justifies it -/
theorem access_requires_live_grant_old_witness :
    ∃ (h : List (Nat × Op)), ((run (init) h).setOld 1 1 8 3).2 = .ok ∧
      ¬ Justified (run (init) h) 1 1 .write (LiveAt 10) := by
  refine ⟨[(0, .set 0 1 7 3), (0, .grantTtl 0 1 1 .write 5)], by decide +kernel, ?_⟩
  rintro ⟨l, e, ⟨k, grp, hpath, hk, he, hsrc, hdst, hacc, hlvl⟩, hle, hlive⟩
  -- the only access edges in that state: root's creation edge (no path from identity 1) and the expired one
  have hg : (run (init) [(0, .set 0 1 7 3), (0, .grantTtl 0 1 1 .write 5)]).graph =
      [accessEdge 1 0 1 .admin none, accessEdge 2 1 1 .write (some 5)] := by decide +kernel
  rw [hg] at he
  simp only [List.mem_cons, List.mem_nil_iff, or_false] at he
  rcases he with rfl | rfl
  · -- root's edge hangs off node 0; identity 1 (node 2) has no MEMBER edge at all, so it cannot reach node 0
    have : grp = entNode 1 := by
      cases k with
      | zero => exact MPath.zero_eq hpath
      | succ n =>
        obtain ⟨e', he', hk', _⟩ := MPath.first_edge hpath (by omega)
        rw [hg] at he'
        simp only [List.mem_cons, List.mem_nil_iff, or_false] at he'
        rcases he' with rfl | rfl <;> cases hk'
    rw [this] at hsrc
    revert hsrc; decide +kernel
  · exact absurd (hlive 5 rfl) (by omega)

/-- … while the repaired `set` refuses in the same state at the same time -/
example : (step (run (init) [(0, .set 0 1 7 3), (0, .grantTtl 0 1 1 .write 5)]) 10 (.set 1 1 8 3)).2 = .err .denied := by
  decide +kernel

/-- FULL, every state, every time: a requester STRING that is the graph key of a secret's node
    (`vault_secret:…` — of ANY secret, existing or not, in particular of the very secret asked for, where the path
    search answers Admin through `source == target` without looking at a grant) gets nothing from any entry point:
    `check_access_with_permission` answers AccessDenied and leaves the state untouched, `has_access` is false,
    `get_permission` is None; hence every operation that checks a level for it (`needs`: read, old-version read,
    version count, wrap, transit, changelog, get/clear expiration, overwrite, rotate, rollback, delete, grant,
    grant-with-ttl, revoke, delegate of at least one secret) fails, `list` returns no name, every `batch_get` entry
    is AccessDenied and every `batch_set` entry is an error. -/
theorem secret_node_key_is_no_identity (s : State) (t req : Nat) (hk : isNodeKey req = true) :
    (∀ sec need, s.checkAccess t req sec need = (s, .error .denied)) ∧
    (∀ sec, s.hasAccess t req sec = false ∧ s.getPermission t req sec = none) ∧
    (∀ op, ∀ x ∈ needs op, x.1 = req → (step s t op).2.isOk = false) ∧
    (∀ p, (step s t (.list req p)).2 = .names []) ∧
    (∀ secs, ∃ items, (step s t (.batchGet req secs)).2 = .items items ∧ ∀ i ∈ items, i = .err .denied) ∧
    (∀ entries, ∃ items, (step s t (.batchSet req entries)).2 = .items items ∧ ∀ i ∈ items, ∃ e, i = .err e) := by
  refine ⟨fun sec need => checkAccess_key s t req sec need hk,
          fun sec => ⟨hasAccess_key s t req sec hk, getPermission_key s t req sec hk⟩, ?_, ?_, ?_, ?_⟩
  · intro op x hx hreq
    cases hok : (step s t op).2.isOk with
    | false => rfl
    | true =>
      have hp := step_passes hok x hx
      rw [hreq, checkAccess_key s t req _ _ hk] at hp
      cases hp
  · intro p
    simp only [step, State.list, hasAccess_key _ t req _ hk, Bool.and_false]
    rw [(List.filter_eq_nil_iff (p := fun _ => false)).mpr fun _ _ h => nomatch h]
    rfl
  · intro secs
    refine ⟨_, rfl, fun i hi => ?_⟩
    obtain ⟨sec, _, rfl⟩ := List.mem_map.mp hi
    rw [checkAccess_key _ t req sec .read hk]
  · intro entries
    simp only [step, State.batchSet]
    split
    · exact ⟨[], rfl, fun i hi => nomatch hi⟩
    · refine ⟨_, rfl, fun i hi => ?_⟩
      rw [batchSet_fold_items, List.nil_append] at hi
      exact batchItems_key hk entries s i hi

/-- non-vacuity: with secret 1 stored (value 7) and no grant to anybody, the requester `vault_secret:<obf 1>` is
    denied on every path — on its own secret, on another one, and as the key of a secret that does not exist —
    while root still reads the secret and an identity holding a grant is served -/
example :
    let s := run (init) [(0, .set 0 1 7 3), (0, .set 0 2 8 3), (0, .grant 0 1 1 .read)]
    isNodeKey (nodeKeyReq 1) = true ∧ reqNode (nodeKeyReq 1) = secNode 1 ∧
    (step s 1 (.get (nodeKeyReq 1) 1)).2 = .err .denied ∧ (step s 1 (.get (nodeKeyReq 1) 2)).2 = .err .denied ∧
    (step s 1 (.get (nodeKeyReq 9) 1)).2 = .err .denied ∧
    (step s 1 (.rotate (nodeKeyReq 1) 1 9 3)).2 = .err .denied ∧ (step s 1 (.delete (nodeKeyReq 1) 1)).2 = .err .denied ∧
    (step s 1 (.grant (nodeKeyReq 1) 2 1 .admin)).2 = .err .denied ∧
    (step s 1 (.delegate (nodeKeyReq 1) 2 [1] .read none)).2 = .err .denied ∧
    (step s 1 (.list (nodeKeyReq 1) .all)).2 = .names [] ∧
    (step s 1 (.batchGet (nodeKeyReq 1) [1, 2])).2 = .items [.err .denied, .err .denied] ∧
    (step s 1 (.batchSet (nodeKeyReq 1) [(1, 9, 3)])).2 = .items [.err .denied] ∧
    s.getPermission 1 (nodeKeyReq 1) 1 = none ∧
    (step s 1 (.get 0 1)).2 = .value 7 ∧ (step s 1 (.get 1 1)).2 = .value 7 := by decide +kernel

/-- the code BEFORE ad58047e violated the access property: root stores secret 1 and grants nothing; the requester
    string `vault_secret:<obf 1>` names the secret's own node, the path search answered Admin through
    `source == target`, and the old entry points therefore reported Admin, served the read and let the node key
    grant Admin to identity 2 — although the only VAULT_ACCESS edge in the graph is root's own creation edge -/
theorem secret_node_key_as_identity_old_witness :
    ∃ (h : List (Nat × Op)) (t : Nat),
      (∀ e ∈ (run (init) h).graph, e.src = entNode root) ∧
      (run (init) h).getPermissionKeyOld t (nodeKeyReq 1) 1 = some .admin ∧
      ((run (init) h).getKeyOld t (nodeKeyReq 1) 1).2 = .value 7 ∧
      ((run (init) h).grantKeyOld t (nodeKeyReq 1) 2 1 .admin).2 = .ok ∧
      (step ((run (init) h).grantKeyOld t (nodeKeyReq 1) 2 1 .admin).1 t (.delete 2 1)).2 = .ok :=
  ⟨[(0, .set 0 1 7 3)], 1, by decide +kernel, by decide +kernel, by decide +kernel, by decide +kernel, by decide +kernel⟩

/-- … while the repaired entry points refuse in the same state at the same time; the old check was NOT wrong for a
    node key of another secret (no shortcut there): the defect was exactly `source == target` -/
example :
    let s := run (init) [(0, .set 0 1 7 3), (0, .set 0 2 8 3)]
    (step s 1 (.get (nodeKeyReq 1) 1)).2 = .err .denied ∧ s.getPermission 1 (nodeKeyReq 1) 1 = none ∧
    (step s 1 (.grant (nodeKeyReq 1) 2 1 .admin)).2 = .err .denied ∧
    (s.getKeyOld 1 (nodeKeyReq 1) 2).2 = .err .denied ∧ s.getPermissionKeyOld 1 (nodeKeyReq 2) 1 = none := by decide +kernel

/-- FULL: granting (with or without TTL) and revoking require a LIVE Admin-level grant on the secret — for every
    configuration, history, time and non-root requester -/
theorem grant_requires_admin (pol : Policy) (a b c : Nat) (h : List (Nat × Op)) (t req ent sec : Nat) (l : Level)
    (ttl : Nat) (hr : req ≠ root) :
    ((step (run (init pol a b c) h) t (.grant req ent sec l)).2.isOk = true →
        Justified (run (init pol a b c) h) req sec .admin (LiveAt t)) ∧
    ((step (run (init pol a b c) h) t (.grantTtl req ent sec l ttl)).2.isOk = true →
        Justified (run (init pol a b c) h) req sec .admin (LiveAt t)) ∧
    ((step (run (init pol a b c) h) t (.revoke req ent sec)).2.isOk = true →
        Justified (run (init pol a b c) h) req sec .admin (LiveAt t)) :=
  have key := fun op (hm : (req, sec, Level.admin) ∈ needs op) hok =>
    (access_requires_live_grant_prestate pol a b c h t op hok).1 _ hm hr
  ⟨key _ (List.mem_singleton.mpr rfl), key _ (List.mem_singleton.mpr rfl), key _ (List.mem_singleton.mpr rfl)⟩

/-- non-vacuity: a Write holder cannot grant, an Admin holder can -/
example : (step (run (init) [(0, .set 0 1 7 3), (0, .grant 0 1 1 .write)]) 1 (.grant 1 2 1 .read)).2 = .err .insufficient ∧
          (step (run (init) [(0, .set 0 1 7 3), (0, .grant 0 1 1 .admin)]) 1 (.grant 1 2 1 .read)).2 = .ok := by decide +kernel

/-- FULL: delegation (the documented ceiling model — "agents delegate subsets of their own access") never hands
    out more than the delegator holds: a successful `delegate` by a non-root parent answers with an effective
    level `eff ≤` the requested one, and on every delegated secret the parent itself holds a LIVE grant of at
    least the requested (hence of at least the effective) level at that moment. -/
theorem delegate_within_own_level (pol : Policy) (a b c : Nat) (h : List (Nat × Op)) (t parent child : Nat)
    (secs : List Nat) (l : Level) (ttl : Option Nat) (hr : parent ≠ root)
    (hok : (step (run (init pol a b c) h) t (.delegate parent child secs l ttl)).2.isOk = true) :
    ∃ eff, (step (run (init pol a b c) h) t (.delegate parent child secs l ttl)).2 = .level eff ∧
      eff.toNat ≤ l.toNat ∧
      ∀ sec ∈ secs, Justified (run (init pol a b c) h) parent sec l (LiveAt t) := by
  refine ⟨_, delegate_resp hok, delegEff_le _ _ _ _ _, fun sec hs => ?_⟩
  exact (access_requires_live_grant_prestate pol a b c h t _ hok).1 (parent, sec, l)
    (List.mem_map.mpr ⟨sec, hs, rfl⟩) hr

/-- `delegate` is the one way a non-Admin can create a grant: the child's edge never exceeds what the parent
    holds at that moment (`delegate_within_own_level`), but a Read holder can hand Read on.  This is the documented
    design (docs/book/src/architecture/tensor-vault.md "Delegation": ceiling model, and its example of a Read-only
    deploy agent delegating Read to a canary agent); recorded as a witness so that the reading "granting requires
    admin" is not silently claimed for delegation. -/
theorem delegate_without_admin_witness :
    ∃ (s : State) (t : Nat), s.getPermission t 1 1 = some .read ∧
      (step s t (.delegate 1 2 [1] .read none)).2 = .level .read ∧
      (step s t (.delegate 1 2 [1] .read none)).1.perm 2 1 = some .read :=
  ⟨run (init) [(0, .set 0 1 7 3), (0, .grant 0 1 1 .read)], 1, by decide +kernel, by decide +kernel, by decide +kernel⟩

/-- (revoke) after a successful `revoke req ent sec` no VAULT_ACCESS edge `ent → sec` is left;
    (delete) after a successful `delete req sec` no edge at all points at the secret, so every non-root requester
    fails every level check on it in every later call (whatever the MEMBER edges, whatever the time);
    (expire) for every history: in the graph any authorisation decision at time `t` is taken on, every edge is
    unexpired at `t`; and a non-root requester for whom the pre-call state holds no LIVE sufficient grant fails
    `check_access_with_permission`, and `get_permission` reports less than the needed level — at the very first
    call at or after the expiry instant, with no intervening read. -/
theorem revoke_expire_delete_immediate :
    (∀ (s : State) (t req ent sec : Nat), (step s t (.revoke req ent sec)).2.isOk = true →
        ∀ e ∈ (step s t (.revoke req ent sec)).1.graph,
          ¬ (e.src = entNode ent ∧ e.dst = secNode sec ∧ e.kind.isAccess = true)) ∧
    (∀ (s : State) (t req sec : Nat), (step s t (.delete req sec)).2.isOk = true →
        ∀ r need t', r ≠ root → ((step s t (.delete req sec)).1.checkAccess t' r sec need).2 ≠ .ok ()) ∧
    (∀ (pol : Policy) (a b c : Nat) (h : List (Nat × Op)) (t : Nat),
        (∀ e ∈ ((run (init pol a b c) h).cleanup t).graph, LiveAt t e) ∧
        ∀ r sec need, r ≠ root → ¬ Justified (run (init pol a b c) h) r sec need (LiveAt t) →
          ((run (init pol a b c) h).checkAccess t r sec need).2 ≠ .ok () ∧
          ∀ p, (run (init pol a b c) h).getPermission t r sec = some p → p.toNat < need.toNat) := by
  refine ⟨?_, ?_, ?_⟩
  · intro s t req ent sec hok e he
    simp only [step] at he hok
    obtain ⟨s', hg⟩ := revoke_graph hok
    rw [hg] at he
    exact (mem_dropAccess.mp he).2
  · intro s t req sec hok r need t' hr hc
    have hj := (checkAccess_ok hc hr).of_cleanup
    obtain ⟨l, e, ⟨k, grp, _, _, he, _, hdst, _, _⟩, _, _⟩ := hj
    simp only [step] at he hok
    obtain ⟨s', hg⟩ := delete_graph hok
    rw [hg] at he
    simp only [List.mem_filter, decide_eq_true_eq] at he
    exact he.2 hdst
  · intro pol a b c h t
    have hlive := ((run_inv h _ (init_inv pol a b c)).1.cleanup t).2
    refine ⟨hlive, fun r sec need hr hdead => ⟨?_, ?_⟩⟩
    · intro hc
      exact hdead ((checkAccess_ok hc hr).weaken (fun e he _ => hlive e he)).of_cleanup
    · intro p hp
      refine Nat.lt_of_not_le fun hle => hdead ?_
      exact ((perm_some_justified (getPermission_some hp hr).2 hle).weaken (fun e he _ => hlive e he)).of_cleanup

/-- non-vacuity + the direct consequence for a requester with no group: revoked ⇒ denied at once -/
example :
    let s := run (init) [(0, .set 0 1 7 3), (0, .grant 0 1 1 .admin), (0, .grant 0 1 1 .read)]
    (step s 1 (.get 1 1)).2 = .value 7 ∧
    (step (step s 1 (.revoke 0 1 1)).1 1 (.get 1 1)).2 = .err .denied ∧
    (step (step s 1 (.delete 0 1)).1 1 (.get 1 1)).2 = .err .denied := by decide +kernel

/-- FULL: dropping the `Vault` object and building a new one over the same store and graph (`Vault::new`: the TTL
    tracker and the delegation records are re-read from their persisted copies, then `cleanup_expired_grants` runs)
    neither resurrects nor immortalises a grant — for every configuration and history (which may itself contain
    earlier re-openings) and every time `t`: the re-opened vault's graph is a sub-graph of the old one, every edge in
    it is unexpired at `t`, and every edge issued with an expiry is again tracked (in memory AND in the persisted
    copy) with that same expiry — so `access_requires_live_grant` keeps applying to every later call. -/
theorem reopen_keeps_every_expiry (pol : Policy) (a b c : Nat) (h : List (Nat × Op)) (t : Nat) :
    (∀ e ∈ (step (run (init pol a b c) h) t .reopen).1.graph, e ∈ (run (init pol a b c) h).graph ∧ LiveAt t e) ∧
    (∀ e ∈ (step (run (init pol a b c) h) t .reopen).1.graph, ∀ x, e.expiry = some x →
      ∃ ent sec, e.src = entNode ent ∧ e.dst = secNode sec ∧
        TtlEntry.mk ent sec x ∈ (step (run (init pol a b c) h) t .reopen).1.ttl ∧
        TtlEntry.mk ent sec x ∈ (step (run (init pol a b c) h) t .reopen).1.pttl) := by
  obtain ⟨⟨hti, hsp⟩, hlive⟩ := reopen_inv (run_inv h _ (init_inv pol a b c)) t
  refine ⟨hlive, fun e he x hx => ?_⟩
  obtain ⟨ent, sec, h1, h2, _, h4⟩ := hti e he x hx
  exact ⟨ent, sec, h1, h2, h4, hsp _ h4⟩

/-- non-vacuity: a 5-unit Read grant survives a re-opening at t=3 (read at t=4) and is gone at t=10 whether the vault
    was re-opened before or after the expiry; a delegation made before can still be revoked after -/
example :
    let s := run (init) [(0, .set 0 1 7 3), (0, .grantTtl 0 1 1 .read 5), (1, .delegate 0 2 [1] .read (some 5)), (3, .reopen)]
    (step s 4 (.get 1 1)).2 = .value 7 ∧ (step s 4 (.get 2 1)).2 = .value 7 ∧
    (step s 10 (.get 1 1)).2 = .err .denied ∧ (step s 10 (.get 2 1)).2 = .err .denied ∧
    (step (step s 10 .reopen).1 10 (.get 1 1)).2 = .err .denied ∧
    (step s 4 (.undelegate 0 2)).2 = .names [1] ∧ (step (step s 4 (.undelegate 0 2)).1 4 (.get 2 1)).2 = .err .denied := by
  decide +kernel

/-- why the persisted copy matters (negative control for the invariant `SubP`): in a state whose tracker entry never
    reached `_vault_ttl_grants`, re-opening forgets the expiry and the grant issued for 5 time units still reads at
    t=10 — the state is NOT reachable by the modelled code, which persists right after every `ttl_tracker.add` -/
theorem reopen_needs_persisted_tracker_witness :
    ∃ s : State, TI s.graph s.ttl ∧ ¬ SubP s ∧ (step (step s 10 .reopen).1 10 (.get 1 1)).2 = .value 7 ∧
      (step s 10 (.get 1 1)).2 = .err .denied := by
  -- graph and tracker are those of a history, so `TI` holds; the persisted copy has been emptied
  exact ⟨{ (run (init) [(0, .set 0 1 7 3), (0, .grantTtl 0 1 1 .read 5)]) with pttl := [] },
    (run_inv _ _ (init_inv {} 3 65531 5)).1, fun hsub => List.not_mem_nil (hsub ⟨1, 1, 5⟩ (by decide +kernel)),
    by decide +kernel, by decide +kernel⟩

/-- FULL, every state: after a successful `revoke_delegation(parent, child)` the child holds no VAULT_ACCESS edge on
    any of the secrets the call reports as revoked (whoever granted it), and the record is gone -/
theorem revoke_delegation_immediate (s : State) (parent child : Nat) (names : List Nat)
    (h : (s.undelegate parent child).2 = .names names) :
    (∀ sec ∈ names, ∀ e ∈ (s.undelegate parent child).1.graph,
        ¬ (e.src = entNode child ∧ e.dst = secNode sec ∧ e.kind.isAccess = true)) ∧
    ∀ d ∈ (s.undelegate parent child).1.delegs, ¬ (d.parent = parent ∧ d.child = child) := by
  unfold State.undelegate at h ⊢
  split at h
  · cases h
  · rename_i d hfind
    simp only [Resp.names.injEq] at h
    subst h
    simp only [foldl_audit_graph, persistTtl_graph, persistDelegs_graph]
    refine ⟨fun sec hsec e he => ((mem_foldl_drop_graph child _ _).mp he).2 sec hsec, ?_⟩
    have hdel : ∀ x : State,
        (d.secrets.foldl (fun st sec => st.audit parent sec "revoke" [.ident child]) x).delegs = x.delegs :=
      fun x => foldl_proj State.delegs _ _ x fun _ _ => rfl
    have hdrop : ∀ x : State, (d.secrets.foldl (fun (st : State) sec =>
        { st with graph := dropAccess st.graph child sec, ttl := ttlRemove st.ttl child sec }) x).delegs = x.delegs :=
      fun x => foldl_proj State.delegs _ _ x fun _ _ => rfl
    rw [hdel, persistTtl_delegs, persistDelegs_delegs, hdrop]
    intro d' hd' hm
    have := (List.mem_filter.mp hd').2
    simp [hm.1, hm.2] at this

example :
    let s := run (init) [(0, .set 0 1 7 3), (0, .grant 0 1 1 .read), (0, .delegate 1 2 [1] .read none)]
    (step s 1 (.get 2 1)).2 = .value 7 ∧ (step s 1 (.undelegate 1 2)).2 = .names [1] ∧
    (step (step s 1 (.undelegate 1 2)).1 1 (.get 2 1)).2 = .err .denied := by decide +kernel

/-- FULL, every state: `revoke_delegation_cascading(parent, child)` answers with records that existed, removes every
    VAULT_ACCESS edge those records' children held on the delegated secrets, includes the direct record when there
    is one, and leaves no record hanging below: no surviving record is the direct one, has `child` as its parent, or
    has the child of any revoked record as its parent.  Nothing is assumed about the shape of the record set (the
    surviving set is CLOSED under "delegated onward"); the reachability form of the same fact, for arbitrary record
    graphs, is `cascading_revocation_reaches_every_record_below` below. -/
theorem cascading_revocation_complete (s : State) (parent child : Nat) (pairs : List (Nat × Nat))
    (h : (s.undelegateCascade parent child).2 = .pairs pairs) :
    (∀ pc ∈ pairs, ∃ d ∈ s.delegs, (d.parent, d.child) = pc ∧
        ∀ sec ∈ d.secrets, ∀ e ∈ (s.undelegateCascade parent child).1.graph,
          ¬ (e.src = entNode d.child ∧ e.dst = secNode sec ∧ e.kind.isAccess = true)) ∧
    (∀ d ∈ s.delegs, d.parent = parent → d.child = child → (parent, child) ∈ pairs) ∧
    (∀ d ∈ (s.undelegateCascade parent child).1.delegs,
        d ∈ s.delegs ∧ ¬ (d.parent = parent ∧ d.child = child) ∧ d.parent ≠ child ∧
        ∀ pc ∈ pairs, d.parent ≠ pc.2) := by
  obtain ⟨gone, hresp, hgone, hkept, _, hgraph⟩ := undelegateCascade_spec s parent child
  rw [hresp, Resp.pairs.injEq] at h
  subst h
  refine ⟨fun pc hpc => ?_, fun d hd hp hc => ?_, fun d hd => ?_⟩
  · obtain ⟨d, hd, rfl⟩ := List.mem_map.mp hpc
    have hdm : d ∈ s.delegs := ((hgone d).mp hd).elim (·.1) fun hf => (List.mem_filter.mp hf.mem).1
    exact ⟨d, hdm, rfl, fun sec hsec e he => ((hgraph e).mp he).2 d hd sec hsec⟩
  · exact List.mem_map.mpr ⟨d, (hgone d).mpr (.inl ⟨hd, hp, hc⟩), by rw [hp, hc]⟩
  · obtain ⟨hd1, hng⟩ := (hkept d).mp hd
    have hd0 : ¬ (d.parent = parent ∧ d.child = child) := fun hm => hng ((hgone d).mpr (.inl ⟨hd1, hm⟩))
    have hin := mem_filter_not_pair.mpr ⟨hd1, hd0⟩
    -- a kept record is not reachable from `child`: neither directly nor through a reported record
    have hnc : d.parent ≠ child := fun hc =>
      hng ((hgone d).mpr (.inr (.first hin (hc ▸ List.mem_singleton.mpr rfl))))
    refine ⟨hd1, hd0, hnc, fun pc hpc => ?_⟩
    obtain ⟨d', hd', rfl⟩ := List.mem_map.mp hpc
    rcases (hgone d').mp hd' with ⟨_, _, hc'⟩ | hf
    · exact fun hp => hnc (hp.trans hc')
    · exact fun hp => hng ((hgone d).mpr (.inr (.onward hf hin hp)))

/-- non-vacuity: root → 1 → 2 → 3; cutting 1 → 2 takes 2 and 3 down and leaves 1; a cascade from a pair with no direct
    record still clears what hangs below the child -/
example :
    let s := run (init) [(0, .set 0 1 7 3), (0, .delegate 0 1 [1] .admin none), (0, .delegate 1 2 [1] .write none),
                         (0, .delegate 2 3 [1] .read none)]
    (step s 1 (.get 3 1)).2 = .value 7 ∧
    (step s 1 (.undelegateCascade 1 2)).2 = .pairs [(1, 2), (2, 3)] ∧
    (step (step s 1 (.undelegateCascade 1 2)).1 1 (.get 3 1)).2 = .err .denied ∧
    (step (step s 1 (.undelegateCascade 1 2)).1 1 (.get 2 1)).2 = .err .denied ∧
    (step (step s 1 (.undelegateCascade 1 2)).1 1 (.get 1 1)).2 = .value 7 ∧
    (step s 1 (.undelegateCascade 3 1)).2 = .pairs [(1, 2), (2, 3)] := by decide +kernel

/-- FULL, every state, every SET of delegation records (not only trees): after `revoke_delegation_cascading(parent,
    child)` EVERY record below `parent → child` in the record graph is gone — from the manager and from the
    persisted `_vdel:` copy that a re-opened vault loads —, is among the records the call reports, and the agent it
    delegated to holds no VAULT_ACCESS edge any more on any of the secrets it delegated.  In particular a second
    record into an agent that was already reached through another record is revoked like the first. -/
theorem cascading_revocation_reaches_every_record_below (s : State) (parent child : Nat) (d : DelegRec)
    (hb : Below s.delegs parent child d) :
    d ∉ (s.undelegateCascade parent child).1.delegs ∧
    d ∉ (s.undelegateCascade parent child).1.pdelegs ∧
    (∃ pairs, (s.undelegateCascade parent child).2 = .pairs pairs ∧ (d.parent, d.child) ∈ pairs) ∧
    ∀ sec ∈ d.secrets, ∀ e ∈ (s.undelegateCascade parent child).1.graph,
      ¬ (e.src = entNode d.child ∧ e.dst = secNode sec ∧ e.kind.isAccess = true) := by
  obtain ⟨gone, hresp, hgone, hkept, hpers, hgraph⟩ := undelegateCascade_spec s parent child
  have hR : d ∈ gone := by
    induction hb with
    | direct hd hp hc => exact (hgone _).mpr (.inl ⟨hd, hp, hc⟩)
    | @onward d0 d' _ hd' hpar ih =>
      by_cases hm : d'.parent = parent ∧ d'.child = child
      · exact (hgone _).mpr (.inl ⟨hd', hm⟩)
      · have hin := mem_filter_not_pair.mpr ⟨hd', hm⟩
        rcases (hgone d0).mp ih with ⟨_, _, hc⟩ | hf
        · exact (hgone _).mpr (.inr (.first hin (by rw [hpar, hc]; exact List.mem_singleton.mpr rfl)))
        · exact (hgone _).mpr (.inr (.onward hf hin hpar))
  have hnot : d ∉ (s.undelegateCascade parent child).1.delegs := fun h => ((hkept d).mp h).2 hR
  exact ⟨hnot, by rw [hpers]; exact hnot, ⟨_, hresp, List.mem_map.mpr ⟨d, hR, rfl⟩⟩,
    fun sec hsec e he => ((hgraph e).mp he).2 d hR sec hsec⟩

/-- FULL, every state, every set of records — the converse: the cascade removes NOTHING ELSE.  A record that is gone
    afterwards was the record `parent → child` itself or is reachable from the agent `child` in the record graph
    (`FromAgents`; when the record `parent → child` exists this is `Below`); every other delegation record is kept. -/
theorem cascading_revocation_removes_only_records_below (s : State) (parent child : Nat) (d : DelegRec)
    (hd : d ∈ s.delegs) (hgone : d ∉ (s.undelegateCascade parent child).1.delegs) :
    (d.parent = parent ∧ d.child = child) ∨ FromAgents s.delegs [child] d := by
  obtain ⟨gone, _, hmem, hkept, _, _⟩ := undelegateCascade_spec s parent child
  by_cases hg : d ∈ gone
  · rcases (hmem d).mp hg with ⟨_, hm⟩ | hf
    · exact .inl hm
    · exact .inr (hf.mono fun x hx => (List.mem_filter.mp hx).1)
  · exact absurd ((hkept d).mpr ⟨hd, hg⟩) hgone

/-- non-vacuity: D=4 holds a delegation from B=2 (s1, below A → B) and one from C=3 (s2, NOT below it): the cascade of
    A → B takes the first and keeps the second, D loses s1 and still reads s2 -/
example :
    let s := run (init) [(0, .set 0 1 7 3), (0, .set 0 2 8 3), (0, .grant 0 1 1 .admin), (0, .grant 0 3 2 .admin),
                         (0, .delegate 1 2 [1] .write none), (0, .delegate 2 4 [1] .read none),
                         (0, .delegate 3 4 [2] .read none)]
    (step s 1 (.undelegateCascade 1 2)).2 = .pairs [(1, 2), (2, 4)] ∧
    (step s 1 (.undelegateCascade 1 2)).1.delegs = [⟨3, 4, [2], 1⟩] ∧
    (step (step s 1 (.undelegateCascade 1 2)).1 1 (.get 4 2)).2 = .value 8 ∧
    (step (step s 1 (.undelegateCascade 1 2)).1 1 (.get 4 1)).2 = .err .denied := by decide +kernel

/-- non-vacuity on a DIAMOND that is not a tree — root grants A=1 Admin on s1, s2; A → B=2 (s1, s2), B → C=3 (s1, s2),
    B → D=4 (s1), C → D (s2): D is reached through two records below A → B.  Both are below it, the cascade reports all
    four records, nobody below reads anything afterwards, A is untouched; cutting the inner record B → C instead
    takes C → D with it and leaves B → D. -/
example :
    let s := run (init) [(0, .set 0 1 7 3), (0, .set 0 2 8 3), (0, .grant 0 1 1 .admin), (0, .grant 0 1 2 .admin),
                         (0, .delegate 1 2 [1, 2] .write none), (0, .delegate 2 3 [1, 2] .read none),
                         (0, .delegate 2 4 [1] .read none), (0, .delegate 3 4 [2] .read none)]
    Below s.delegs 1 2 ⟨2, 4, [1], 2⟩ ∧ Below s.delegs 1 2 ⟨3, 4, [2], 3⟩ ∧
    (step s 1 (.get 4 1)).2 = .value 7 ∧ (step s 1 (.get 4 2)).2 = .value 8 ∧
    (step s 1 (.undelegateCascade 1 2)).2 = .pairs [(1, 2), (2, 3), (2, 4), (3, 4)] ∧
    (step s 1 (.undelegateCascade 1 2)).1.delegs = [] ∧
    (step (step s 1 (.undelegateCascade 1 2)).1 1 (.get 4 2)).2 = .err .denied ∧
    (step (step s 1 (.undelegateCascade 1 2)).1 1 (.get 4 1)).2 = .err .denied ∧
    (step (step s 1 (.undelegateCascade 1 2)).1 1 (.get 3 2)).2 = .err .denied ∧
    (step (step s 1 (.undelegateCascade 1 2)).1 1 (.get 2 1)).2 = .err .denied ∧
    (step (step s 1 (.undelegateCascade 1 2)).1 1 (.get 1 2)).2 = .value 8 ∧
    (step s 1 (.undelegateCascade 2 3)).2 = .pairs [(2, 3), (3, 4)] ∧
    (step (step s 1 (.undelegateCascade 2 3)).1 1 (.get 4 2)).2 = .err .denied ∧
    (step (step s 1 (.undelegateCascade 2 3)).1 1 (.get 4 1)).2 = .value 7 := by
  intro s
  have hd := diamond_below (ds := s.delegs) (by decide +kernel)
  exact ⟨hd.1, hd.2, by decide +kernel⟩

/-- NEGATIVE CONTROL: the variant of the walk that keeps a set of visited AGENTS and skips a record into an agent it
    has already reached (`cascadeVisitedAgents`, not the code) is NOT complete on the same diamond: after the
    "cascading revocation" of A → B the record C → D, which lies below A → B, is still in the manager and in the
    persisted copy, it is not reported, D keeps its VAULT_ACCESS edge on s2 and still reads s2 — whereas the walk over
    RECORDS that the code performs (`cascadeLoop`) leaves nothing.  On chains and trees the two walks agree. -/
theorem cascade_visited_agents_leaves_delegation_witness :
    ∃ (s : State) (d : DelegRec), Below s.delegs 1 2 d ∧
      d ∈ (s.undelegateCascadeVisitedAgents 1 2).1.delegs ∧
      d ∈ (s.undelegateCascadeVisitedAgents 1 2).1.pdelegs ∧
      (s.undelegateCascadeVisitedAgents 1 2).2 = .pairs [(1, 2), (2, 3), (2, 4)] ∧
      ((s.undelegateCascadeVisitedAgents 1 2).1.get 1 4 2).2 = .value 8 ∧
      d ∉ (s.undelegateCascade 1 2).1.delegs ∧
      ((s.undelegateCascade 1 2).1.get 1 4 2).2 = .err .denied ∧
      -- a chain and a tree: the same answer from both walks
      (∀ t ∈ [run (init) [(0, .set 0 1 7 3), (0, .delegate 0 1 [1] .admin none), (0, .delegate 1 2 [1] .write none),
                          (0, .delegate 2 3 [1] .read none)],
              run (init) [(0, .set 0 1 7 3), (0, .delegate 0 1 [1] .admin none), (0, .delegate 1 2 [1] .write none),
                          (0, .delegate 1 3 [1] .write none), (0, .delegate 2 4 [1] .read none)]],
        (t.undelegateCascadeVisitedAgents 0 1).2 = (t.undelegateCascade 0 1).2 ∧
        (t.undelegateCascadeVisitedAgents 0 1).1.delegs = (t.undelegateCascade 0 1).1.delegs) := by
  exact ⟨run (init) [(0, .set 0 1 7 3), (0, .set 0 2 8 3), (0, .grant 0 1 1 .admin), (0, .grant 0 1 2 .admin),
                      (0, .delegate 1 2 [1, 2] .write none), (0, .delegate 2 3 [1, 2] .read none),
                      (0, .delegate 2 4 [1] .read none), (0, .delegate 3 4 [2] .read none)],
    ⟨3, 4, [2], 3⟩, (diamond_below (by decide +kernel)).2, by decide +kernel⟩

/-- secret VALUES: for every configuration and every history, no record of the store (this includes the audit
    records, the persisted TTL tracker and the delegation records) exposes a secret value, neither in its key nor
    in any field.  "Type-level": values enter the store only through `blobRec`'s `Field.cipher`; the statement is
    relative to the hypothesis, built into `Field.reveals`, that AES-GCM ciphertext reveals nothing. -/
theorem at_rest_no_plain_value (pol : Policy) (a b c : Nat) (h : List (Nat × Op)) (v : Nat) :
    ∀ r ∈ (run (init pol a b c) h).store,
      r.key.reveals (.value v) = false ∧ ∀ f ∈ r.fields, f.2.reveals (.value v) = false := by
  intro r hr
  have hsv := run_sv valueCls_adm h (init pol a b c) (fun _ hx => nomatch hx)
  refine ⟨key_reveals_no_value _ _, fun f hf => ?_⟩
  rcases hsv r hr with hex | hok
  · exact hex.elim
  · exact hok f hf _ ⟨v, rfl⟩

/-- non-vacuity: the value IS in the store — as ciphertext only -/
example : (run (init) [(0, .set 0 1 7 3), (0, .rotate 0 1 9 3)]).store.any
    (fun r => r.fields.any (fun f => f.2 = .cipher (.value 9))) = true := by decide +kernel

/-- … and so is a wrapped copy (`_vwrap:` record), until it is unwrapped -/
example :
    let s := run (init) [(0, .set 0 1 7 3), (0, .wrap 0 1)]
    s.store.any (fun r => r.key = .wrap 0 ∧ r.fields.any (fun f => f.2 = .cipher (.value 7))) = true ∧
    (step s 1 (.unwrap 0)).2 = .value 7 ∧ (step s 1 (.unwrap 0)).1.store.any (fun r => r.key = .wrap 0) = false ∧
    (step (step s 1 (.unwrap 0)).1 1 (.unwrap 0)).2 = .err .notFound := by decide +kernel

/-- FULL shape property for secret NAMES: no store record (key or field) ever exposes one -/
def AtRestNoPlainName : Prop :=
  ∀ (pol : Policy) (a b c : Nat) (h : List (Nat × Op)) (n : Nat), ∀ r ∈ (run (init pol a b c) h).store,
    r.key.reveals (.name n) = false ∧ ∀ f ∈ r.fields, f.2.reveals (.name n) = false

/-- PARTIAL (missing: the two persistence records `_vault_ttl_grants` and `_vdel:…`, see the witnesses below): for
    every configuration and history, no store KEY exposes a secret name, and no field of any OTHER record does —
    the `vault_secret:` node record (clean since 31ebe3e9), the `_vk:` metadata record (name AES-encrypted), the
    `_vs:` blobs and every audit record (name obfuscated by keyed hash). -/
theorem at_rest_no_plain_name_partial (pol : Policy) (a b c : Nat) (h : List (Nat × Op)) (n : Nat) :
    ∀ r ∈ (run (init pol a b c) h).store,
      r.key.reveals (.name n) = false ∧
      (r.key ≠ .ttlGrants → (∀ p ch, r.key ≠ .deleg p ch) → ∀ f ∈ r.fields, f.2.reveals (.name n) = false) := by
  intro r hr
  have hsv := run_sv nameCls_adm h (init pol a b c) (fun _ hx => nomatch hx)
  refine ⟨key_reveals_no_name _ _, fun h1 h2 f hf => ?_⟩
  rcases hsv r hr with hex | hok
  · rcases hex with hex | ⟨p, ch, hex⟩
    · exact absurd hex h1
    · exact absurd hex (h2 p ch)
  · exact hok f hf _ ⟨n, rfl⟩

/-- non-vacuity: the node, metadata and audit records are there (and the name is — as ciphertext only) -/
example :
    let st := (run (init) [(0, .set 0 1 7 3), (0, .grant 0 1 1 .read), (1, .get 1 1)]).store
    st.any (fun r => r.key = .node 1) = true ∧ st.any (fun r => r.key = .vk 1) = true ∧
    st.any (fun r => r.key = .audit 2) = true ∧
    st.any (fun r => r.fields.any (fun f => f.2 = .cipher (.name 1))) = true := by decide +kernel

/-- the full name property is FALSE of the code: the persisted TTL tracker lists (entity, secret NAME) in clear -/
theorem at_rest_no_plain_name_witness : ¬ AtRestNoPlainName := by
  intro h
  have := (h {} 3 65531 5 [(0, .set 0 1 7 3), (0, .grantTtl 0 1 1 .read 5)] 1 (ttlRec [⟨1, 1, 5⟩]) (by decide +kernel)).2
    ("_data", .clear [.ident 1, .name 1]) (by decide +kernel)
  revert this; decide +kernel

/-- both remaining sites: the persisted TTL tracker (`_vault_ttl_grants`) and the delegation records (`_vdel:`) -/
theorem at_rest_name_sites_witness :
    (∃ r ∈ (run (init) [(0, .set 0 1 7 3), (0, .grantTtl 0 1 1 .read 5)]).store, r.key = .ttlGrants ∧
        ∃ f ∈ r.fields, f.2.reveals (.name 1) = true) ∧
    (∃ r ∈ (run (init) [(0, .set 0 1 7 3), (0, .delegate 0 1 [1] .read none)]).store, r.key = .deleg 0 1 ∧
        ∃ f ∈ r.fields, f.2.reveals (.name 1) = true) := by
  refine ⟨⟨ttlRec [⟨1, 1, 5⟩], by decide +kernel, rfl, _, List.mem_singleton.mpr rfl, by decide +kernel⟩,
          ⟨delegRec ⟨0, 1, [1], 1⟩, by decide +kernel, rfl, _, List.mem_singleton.mpr rfl, by decide +kernel⟩⟩

/-- the code BEFORE 31ebe3e9 also wrote the name in clear into the `_secret_key` field of the secret node -/
theorem at_rest_name_node_old_witness :
    ∃ r ∈ ((init).setOld 0 1 7 3).1.store, r.key = .node 1 ∧ ∃ f ∈ r.fields, f.2.reveals (.name 1) = true :=
  ⟨nodeRecOld 1, by decide +kernel, rfl, ("_secret_key", .clear [.name 1]), by decide +kernel, by decide +kernel⟩

/-- … the repaired `set` does not -/
example : ∀ r ∈ (step (init) 0 (.set 0 1 7 3)).1.store, ∀ f ∈ r.fields, f.2.reveals (.name 1) = false := by decide +kernel

end Neumann.Vault.Props
