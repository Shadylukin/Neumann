import NeumannModel.Vault.Lemmas
/-
  C14 — every API call is a composition of a few kinds of state change (`Moves`), so a property of states that each
  kind keeps is kept by every operation and every history.
-/
namespace Neumann.Vault

def Rec.Sealed (r : Rec) : Prop := ∀ f ∈ r.fields, ∀ p, f.2.reveals p = false

theorem blobRec_sealed (name nonce val : Nat) : (blobRec name nonce val).Sealed := by
  intro f hf p
  simp only [blobRec, List.mem_cons, List.mem_nil_iff, or_false] at hf
  rcases hf with rfl | rfl | rfl <;> rfl

theorem nodeRec_sealed (name : Nat) : (nodeRec name).Sealed := by
  intro f hf p
  simp only [nodeRec, List.mem_singleton] at hf
  subst hf
  rfl

theorem wrapRec_sealed (id val : Nat) : (wrapRec id val).Sealed := by
  intro f hf p
  simp only [wrapRec, List.mem_cons, List.mem_nil_iff, or_false] at hf
  rcases hf with rfl | rfl | rfl | rfl | rfl <;> rfl

theorem metaRec_sealed (name nonce : Nat) (vs : List Ver) (r : Option Nat) : (metaRec name nonce vs r).Sealed := by
  intro f hf p
  unfold metaRec at hf
  rcases List.mem_append.mp hf with hf | hf
  · simp only [List.mem_cons, List.mem_nil_iff, or_false] at hf
    rcases hf with rfl | rfl | rfl | rfl | rfl | rfl | rfl <;> rfl
  · cases r with
    | none => cases hf
    | some x =>
      simp only [List.mem_cons, List.mem_nil_iff, or_false] at hf
      rcases hf with rfl | rfl <;> rfl

inductive Sealed (st : Store) : Store → Prop
  | refl : Sealed st st
  | put {st' : Store} {r : Rec} : Sealed st st' → r.Sealed → Sealed st (st'.put r)
  | del {st' : Store} (k : RKey) : Sealed st st' → Sealed st (st'.del k)

theorem Sealed.foldl_del {α : Type} (f : α → RKey) {st : Store} :
    ∀ (l : List α) {st' : Store}, Sealed st st' → Sealed st (l.foldl (fun st n => st.del (f n)) st')
  | [], _, h => h
  | n :: l, _, h => Sealed.foldl_del f l (h.del (f n))

theorem mem_ttlRemove {l : List TtlEntry} {ent sec : Nat} {t : TtlEntry} :
    t ∈ ttlRemove l ent sec ↔ t ∈ l ∧ ¬ (t.ent = ent ∧ t.sec = sec) := by
  unfold ttlRemove
  simp only [List.mem_filter, Bool.not_eq_eq_eq_not, Bool.not_true, Bool.and_eq_false_imp, decide_eq_true_eq,
    decide_eq_false_iff_not, not_and]

/-- `data`: the fields no access or at-rest property reads change at will, the store by sealed records and deletions;
    `shrink`: edges and tracker entries go, but no surviving edge loses its entry; `reload`: what `Vault::new` does
    to the tracker. -/
inductive Moves : State → State → Prop
  | refl (s : State) : Moves s s
  | trans {s s' s'' : State} : Moves s s' → Moves s' s'' → Moves s s''
  | cleanup (s : State) (now : Nat) : Moves s (s.cleanup now)
  | audit (s : State) (req sec : Nat) (op : String) (ids : List Nat) : Moves s (s.audit req sec op (ids.map .ident))
  | persistTtl (s : State) : Moves s s.persistTtl
  | persistDelegs (s : State) : Moves s s.persistDelegs
  | data (s : State) {st : Store} {nextId : Nat} {secrets : List SecretMeta} {delegs : List DelegRec}
      {wraps : List (Nat × Nat)} {wrapN : Nat} : Sealed s.store st →
      Moves s { s with store := st, nextId := nextId, secrets := secrets, delegs := delegs, wraps := wraps,
                       wrapN := wrapN }
  | edge (s : State) (e : Edge) (n : Nat) : e.expiry = none → Moves s { s with graph := s.graph ++ [e], nextId := n }
  /-- grant edges issued with an expiry come with their tracker entries and the persisting of the tracker: the
      history invariant does not hold in between -/
  | grants (s : State) (child : Nat) (eff : Level) (x : Nat) (secs : List Nat) :
      Moves s (State.persistTtl
        { (secs.foldl (fun st sec => st.addAccess child sec eff (some x)) s) with
          ttl := (secs.foldl (fun st sec => st.addAccess child sec eff (some x)) s).ttl ++
                   secs.map (fun sec => TtlEntry.mk child sec x) })
  | shrink (s : State) {g : Graph} {ttl : List TtlEntry} : (∀ e ∈ g, e ∈ s.graph) → (∀ t ∈ ttl, t ∈ s.ttl) →
      (∀ e ∈ g, ∀ t ∈ s.ttl, e.src = entNode t.ent → e.dst = secNode t.sec → e.kind.isAccess = true → t ∈ ttl) →
      Moves s { s with graph := g, ttl := ttl }
  | reload (s : State) : Moves s { s with ttl := s.pttl }

theorem Moves.foldl {α : Type} {f : State → α → State} (hf : ∀ st a, Moves st (f st a)) (l : List α) (s : State) :
    Moves s (l.foldl f s) :=
  foldl_inv f (Moves s) l (fun st a _ h => h.trans (hf st a)) s (.refl s)

theorem checkAccess_moves (s : State) (now req sec : Nat) (need : Level) :
    Moves s (s.checkAccess now req sec need).1 := by
  rw [checkAccess_fst]
  split
  · exact .refl s
  · split
    · exact .refl s
    · exact .cleanup s now

theorem guarded_moves {s : State} {now req sec : Nat} {need : Level} {k : State → State × Resp}
    (hk : ∀ s', Moves s' (k s').1) : Moves s (s.guarded now req sec need k).1 :=
  guarded_inv (Moves s) (.refl s) (.cleanup s now) fun s' h => h.trans (hk s')

theorem drop_moves (s : State) (ent sec : Nat) :
    Moves s { s with graph := dropAccess s.graph ent sec, ttl := ttlRemove s.ttl ent sec } :=
  .shrink s (fun _ he => (mem_dropAccess.mp he).1) (fun _ ht => (mem_ttlRemove.mp ht).1)
    fun _ he _ ht h1 h2 h3 =>
      mem_ttlRemove.mpr ⟨ht, fun ⟨h4, h5⟩ => (mem_dropAccess.mp he).2 ⟨h4 ▸ h1, h5 ▸ h2, h3⟩⟩

theorem set_moves (s : State) (now req sec val size : Nat) : Moves s (s.set now req sec val size).1 := by
  unfold State.set
  split
  · exact .refl s
  · split
    · refine guarded_moves fun s' => ?_
      exact .trans
        (.data s' ((Sealed.foldl_del _ _ (Sealed.refl.put (blobRec_sealed _ _ _))).put (metaRec_sealed _ _ _ _)))
        (.audit _ req sec "set" [])
    · split
      · exact .refl s
      · exact ((Moves.data s (((Sealed.refl.put (blobRec_sealed _ _ _)).put (metaRec_sealed _ _ _ _)).put
          (nodeRec_sealed sec))).trans (.edge _ _ _ rfl)).trans (.audit _ req sec "set" [])

theorem get_moves (s : State) (now req sec : Nat) : Moves s (s.get now req sec).1 := by
  unfold State.get
  refine (Moves.cleanup s now).trans (guarded_moves fun s' => ?_)
  split
  · exact .refl s'
  · exact .audit s' req sec "get" []

theorem list_moves (s : State) (now req : Nat) (p : Pattern) : Moves s (s.list now req p).1 :=
  (Moves.cleanup s now).trans (.audit _ req 0 "list" [])

theorem rotate_moves (s : State) (now req sec val size : Nat) : Moves s (s.rotate now req sec val size).1 := by
  unfold State.rotate
  refine guarded_moves fun s' => ?_
  split
  · exact .refl s'
  · split
    · exact .refl s'
    · exact .trans
        (.data s' ((Sealed.foldl_del _ _ (Sealed.refl.put (blobRec_sealed _ _ _))).put (metaRec_sealed _ _ _ _)))
        (.audit _ req sec "rotate" [])

theorem mem_foldl_ttlRemove {sec : Nat} {t : TtlEntry} (es : List Edge) (l : List TtlEntry) :
    (t ∈ es.foldl (fun l e => if (e.kind.isAccess && decide (e.src % 2 = 0)) = true then ttlRemove l (e.src / 2) sec else l) l →
      t ∈ l) ∧
    (t ∈ l → t.sec ≠ sec →
      t ∈ es.foldl (fun l e => if (e.kind.isAccess && decide (e.src % 2 = 0)) = true then ttlRemove l (e.src / 2) sec else l) l) := by
  refine ⟨foldl_inv _ (fun l' => t ∈ l' → t ∈ l) es (fun l' e _ h ht => h ?_) l id,
    fun ht hne => foldl_inv _ (fun l' => t ∈ l') es (fun l' e _ h => ?_) l ht⟩
  · split at ht
    · exact (mem_ttlRemove.mp ht).1
    · exact ht
  · split
    · exact mem_ttlRemove.mpr ⟨h, fun hh => hne hh.2⟩
    · exact h

theorem delete_moves (s : State) (now req sec : Nat) : Moves s (s.delete now req sec).1 := by
  unfold State.delete
  refine guarded_moves fun s' => ?_
  split
  · exact .refl s'
  · refine (((Moves.data s' ((Sealed.foldl_del _ _ Sealed.refl).del _ |>.del _)).trans
      (.shrink _ (fun _ he => (List.mem_filter.mp he).1) (fun _ ht => (mem_foldl_ttlRemove _ _).1 ht) ?_)).trans
      (.persistTtl _)).trans (.audit _ req sec "delete" [])
    intro e he t ht _ h2 _
    refine (mem_foldl_ttlRemove _ _).2 ht fun hsec => ?_
    have hd := (List.mem_filter.mp he).2
    simp only [decide_eq_true_eq] at hd
    exact hd (by rw [h2, hsec])

theorem grantCore_cases (s : State) (now req ent sec : Nat) (l : Level) (x : Option Nat) :
    (∃ e, s.grantCore now req ent sec l x = ((s.checkAccess now req sec .admin).1, .err e)) ∨
    s.grantCore now req ent sec l x =
      (((s.checkAccess now req sec .admin).1.addAccess ent sec l x).audit req sec "grant" [.ident ent], .ok) := by
  unfold State.grantCore
  rcases guarded_cases s now req sec .admin (fun s : State =>
      if !s.exists sec then (s, .err .notFound)
      else ((s.addAccess ent sec l x).audit req sec "grant" [.ident ent], .ok)) with ⟨e, he⟩ | ⟨_, he⟩
  · exact .inl ⟨e, he⟩
  · rw [he]
    split
    · exact .inl ⟨_, rfl⟩
    · exact .inr rfl

theorem grant_moves (s : State) (now req ent sec : Nat) (l : Level) : Moves s (s.grant now req ent sec l).1 := by
  unfold State.grant
  rcases grantCore_cases s now req ent sec l none with ⟨e, h⟩ | h <;> rw [h]
  · exact checkAccess_moves ..
  · exact (checkAccess_moves ..).trans ((Moves.edge _ _ _ rfl).trans (.audit _ req sec "grant" [ent]))

theorem grantTtl_moves (s : State) (now req ent sec : Nat) (l : Level) (ttl : Nat) :
    Moves s (s.grantTtl now req ent sec l ttl).1 := by
  unfold State.grantTtl
  rcases grantCore_cases s now req ent sec l (some (now + ttl)) with ⟨e, h⟩ | h <;> rw [h]
  · exact checkAccess_moves ..
  · -- the audit record does not depend on the new edge: it may be written first
    show Moves s (State.persistTtl _)
    refine (checkAccess_moves s now req sec .admin).trans ((Moves.audit _ req sec "grant" [ent]).trans ?_)
    exact .grants _ ent l (now + ttl) [sec]

theorem revoke_moves (s : State) (now req ent sec : Nat) : Moves s (s.revoke now req ent sec).1 := by
  unfold State.revoke
  refine guarded_moves fun s' => .trans ?_ (.audit _ req sec "revoke" [ent])
  split
  · exact (drop_moves s' ent sec).trans (.persistTtl _)
  · exact .shrink s' (fun _ he => (mem_dropAccess.mp he).1) (fun _ ht => ht) fun _ _ _ ht _ _ _ => ht

theorem delegateApply_moves (s : State) (now parent child : Nat) (secs : List Nat) (eff : Level) (ttl : Option Nat) :
    Moves s (s.delegateApply now parent child secs eff ttl).1 := by
  unfold State.delegateApply
  by_cases h1 : parent = child
  · rw [if_pos h1]; exact .refl s
  rw [if_neg h1]
  by_cases h2 : isAncestor s.delegs child (s.delegs.length + 1) parent [parent] = true
  · rw [if_pos h2]; exact .refl s
  rw [if_neg h2]
  by_cases h3 : delegDepth s.delegs parent + 1 > s.maxDeleg
  · exact if_pos h3 ▸ Moves.refl s
  simp only [if_neg h3]
  refine .trans (.trans ?_ (.persistDelegs _)) (Moves.foldl (fun st sec => .audit st parent sec "grant" [child]) _ _)
  cases ttl with
  | none => exact (Moves.data s .refl).trans (Moves.foldl (fun st sec => .edge st _ _ rfl) _ _)
  | some t => exact (Moves.data s .refl).trans (.grants _ child eff (now + t) secs)

theorem delegate_moves (s : State) (now parent child : Nat) (secs : List Nat) (l : Level) (ttl : Option Nat) :
    Moves s (s.delegate now parent child secs l ttl).1 := by
  have h0 : Moves s (if parent = root || isNodeKey parent || secs.isEmpty then s else s.cleanup now) := by
    split
    · exact .refl s
    · exact .cleanup s now
  unfold State.delegate
  simp only
  split
  · exact h0
  · exact h0.trans (delegateApply_moves ..)

theorem undelegate_moves (s : State) (parent child : Nat) : Moves s (s.undelegate parent child).1 := by
  unfold State.undelegate
  split
  · exact .refl s
  · exact (((Moves.data s .refl).trans (Moves.foldl (fun st sec => drop_moves st child sec) _ _)).trans
      ((Moves.persistDelegs _).trans (.persistTtl _))).trans
      (Moves.foldl (fun st sec => .audit st parent sec "revoke" [child]) _ _)

theorem rollback_moves (s : State) (now req sec ver : Nat) : Moves s (s.rollback now req sec ver).1 := by
  unfold State.rollback
  refine guarded_moves fun s' => ?_
  split
  · exact .refl s'
  · split
    · exact .refl s'
    · exact set_moves ..

theorem batchSet_fold_inv (P : State → Prop) (now req : Nat)
    (hset : ∀ (s : State) sec val size, P s → P (s.set now req sec val size).1) :
    ∀ (entries : List (Nat × Nat × Nat)) (acc : State × List Item), P acc.1 →
      P (entries.foldl (fun (acc : State × List Item) en =>
        ((acc.1.set now req en.1 en.2.1 en.2.2).1, acc.2 ++ [respItem (acc.1.set now req en.1 en.2.1 en.2.2).2])) acc).1
  | [], _, h => h
  | en :: rest, acc, h => by
    rw [List.foldl_cons]
    exact batchSet_fold_inv P now req hset rest _ (hset _ _ _ _ h)

theorem batchSet_moves (s : State) (now req : Nat) (entries : List (Nat × Nat × Nat)) :
    Moves s (s.batchSet now req entries).1 := by
  unfold State.batchSet
  split
  · exact .refl s
  · exact (batchSet_fold_inv (Moves s) now req (fun s' _ _ _ h => h.trans (set_moves ..)) entries (s, []) (.refl s)).trans
      (.audit _ req 0 "batch_set" [])

theorem wrap_moves (s : State) (now req sec : Nat) : Moves s (s.wrap now req sec).1 := by
  unfold State.wrap
  refine guarded_moves fun s' => ?_
  have hg := get_moves s' now req sec
  generalize s'.get now req sec = r at hg
  obtain ⟨s'', resp⟩ := r
  cases resp with
  | value v => exact hg.trans ((Moves.data s'' (Sealed.refl.put (wrapRec_sealed _ _))).trans (.audit _ req sec "wrap" []))
  | _ => exact hg

theorem unwrap_moves (s : State) (token : Nat) : Moves s (s.unwrap token).1 := by
  unfold State.unwrap
  split
  · exact .refl s
  · exact (Moves.data s (Sealed.refl.del _)).trans (.audit _ anon 0 "unwrap" [])

theorem dropRecord_moves (s : State) (d : DelegRec) : Moves s (s.dropRecord d) :=
  Moves.foldl (fun st sec => drop_moves st d.child sec) d.secrets s

theorem undelegateCascade_moves (s : State) (parent child : Nat) : Moves s (s.undelegateCascade parent child).1 := by
  unfold State.undelegateCascade
  exact ((Moves.data s .refl).trans (Moves.foldl dropRecord_moves _ _)).trans
    ((Moves.persistDelegs _).trans (.persistTtl _))

theorem step_moves (s : State) (t : Nat) (op : Op) : Moves s (step s t op).1 := by
  cases op with
  | set req sec val size => exact set_moves ..
  | get req sec => exact get_moves ..
  | list req p => exact list_moves ..
  | rotate req sec val size => exact rotate_moves ..
  | delete req sec => exact delete_moves ..
  | grant req ent sec l => exact grant_moves ..
  | grantTtl req ent sec l ttl => exact grantTtl_moves ..
  | revoke req ent sec => exact revoke_moves ..
  | delegate p c secs l ttl => exact delegate_moves ..
  | undelegate p c => exact undelegate_moves ..
  | addMember a b => exact .edge s _ _ rfl
  | delMember a b => exact .shrink s (fun _ he => (List.mem_filter.mp he).1) (fun _ ht => ht) fun _ _ _ ht _ _ _ => ht
  | addEdge a b k => exact .edge s _ _ rfl
  | getVersion req sec ver =>
    refine guarded_moves fun s' => ?_
    split
    · exact .refl s'
    · split <;> exact .refl s'
  | versions req sec =>
    refine guarded_moves fun s' => ?_
    split <;> exact .refl s'
  | rollback req sec ver => exact rollback_moves ..
  | batchGet req secs => exact (Moves.cleanup s t).trans (.audit _ req 0 "batch_get" [])
  | batchSet req entries => exact batchSet_moves ..
  | wrap req sec => exact wrap_moves ..
  | unwrap token => exact unwrap_moves ..
  | undelegateCascade p c => exact undelegateCascade_moves ..
  | reopen => exact ((Moves.reload s).trans (.data _ .refl)).trans (.cleanup _ t)
  | probe req sec need me =>
    refine guarded_moves fun s' => ?_
    split <;> exact .refl s'

theorem run_moves : ∀ (h : List (Nat × Op)) (s : State), Moves s (run s h)
  | [], s => .refl s
  | (t, op) :: rest, s => (step_moves s t op).trans (run_moves rest _)

end Neumann.Vault
