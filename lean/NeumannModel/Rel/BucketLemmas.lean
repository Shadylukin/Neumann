import NeumannModel.Rel.VecLemmas
import NeumannModel.Rel.Bucket
/-
  C04: index buckets as ordered vectors, the key-ordered B-tree range lookup (a permutation of the model's
  lookup), reordered indexes, and the two-index narrowing of `a AND b` (not the code) with a membership test.
-/
namespace Neumann.Rel

variable {κ : Type} [DecidableEq κ]

theorem mem_bucketOf (ix : Idx κ) (k : κ) (i : Nat) : i ∈ bucketOf ix k ↔ (k, i) ∈ ix := by
  unfold bucketOf
  simp only [List.mem_map, List.mem_filter, decide_eq_true_eq]
  constructor
  · rintro ⟨⟨k', i'⟩, ⟨hm, hk⟩, hi⟩
    simp only at hk hi; subst hk; subst hi; exact hm
  · intro h; exact ⟨(k, i), ⟨h, rfl⟩, rfl⟩

theorem bucketOf_append (a b : Idx κ) (k : κ) : bucketOf (a ++ b) k = bucketOf a k ++ bucketOf b k := by
  unfold bucketOf; rw [List.filter_append, List.map_append]

theorem bucketOf_idxAdd_same (k : κ) (id : Nat) (ix : Idx κ) :
    bucketOf (idxAdd k id ix) k = vecPush id (bucketOf ix k) := by
  unfold idxAdd vecPush
  by_cases h : (k, id) ∈ ix
  · rw [if_pos h, if_pos ((mem_bucketOf ix k id).2 h)]
  · rw [if_neg h, if_neg (fun h' => h ((mem_bucketOf ix k id).1 h')), bucketOf_append]
    simp [bucketOf]

theorem bucketOf_idxAdd_other (k k' : κ) (id : Nat) (ix : Idx κ) (hne : k' ≠ k) :
    bucketOf (idxAdd k id ix) k' = bucketOf ix k' := by
  unfold idxAdd
  split
  · rfl
  · rw [bucketOf_append]
    have : bucketOf [(k, id)] k' = [] := by simp [bucketOf, Ne.symm hne]
    rw [this, List.append_nil]

theorem bucketOf_idxRemove_same (k : κ) (id : Nat) (ix : Idx κ) :
    bucketOf (idxRemove k id ix) k = vecRetain id (bucketOf ix k) := by
  unfold idxRemove bucketOf vecRetain
  rw [List.filter_map, List.filter_filter, List.filter_filter]
  refine congrArg _ (List.filter_congr fun p _ => ?_)
  by_cases hk : p.1 = k <;> simp [hk]

theorem bucketOf_idxRemove_other (k k' : κ) (id : Nat) (ix : Idx κ) (hne : k' ≠ k) :
    bucketOf (idxRemove k id ix) k' = bucketOf ix k' := by
  unfold idxRemove bucketOf
  rw [List.filter_filter]
  congr 1
  apply List.filter_congr
  intro p _
  by_cases hp : p.1 = k'
  · simp [hp, hne]
  · simp [hp]

theorem mem_keysOf (ix : Idx κ) : ∀ k, k ∈ keysOf ix ↔ ∃ i, (k, i) ∈ ix := by
  induction ix with
  | nil => intro k; exact ⟨fun h => (nomatch h), fun ⟨_, h⟩ => (nomatch h)⟩
  | cons p ps ih =>
    intro k
    have hk : k ∈ keysOf (p :: ps) ↔ k = p.1 ∨ k ∈ keysOf ps := by
      show k ∈ (if p.1 ∈ keysOf ps then keysOf ps else p.1 :: keysOf ps) ↔ _
      split
      · rename_i hm; exact ⟨Or.inr, fun h => h.elim (fun e => e ▸ hm) id⟩
      · exact List.mem_cons
    rw [hk, ih]
    constructor
    · rintro (rfl | ⟨i, h⟩)
      · exact ⟨p.2, List.mem_cons_self⟩
      · exact ⟨i, List.mem_cons_of_mem _ h⟩
    · rintro ⟨i, h⟩
      rcases List.mem_cons.1 h with rfl | h
      · exact Or.inl rfl
      · exact Or.inr ⟨i, h⟩

theorem nodup_keysOf (ix : Idx κ) : (keysOf ix).Nodup := by
  induction ix with
  | nil => simp [keysOf]
  | cons p ps ih =>
    unfold keysOf
    split
    · exact ih
    · rename_i hm; exact List.nodup_cons.2 ⟨hm, ih⟩

theorem okeyInsertSorted_perm (k : OKey) (l : List OKey) : (okeyInsertSorted k l).Perm (k :: l) := by
  induction l with
  | nil => exact List.Perm.refl _
  | cons x xs ih =>
    unfold okeyInsertSorted
    split
    · exact ((List.Perm.cons x ih).trans (List.Perm.swap k x xs))
    · exact List.Perm.refl _

theorem sortKeys_perm (l : List OKey) : (sortKeys l).Perm l := by
  induction l with
  | nil => exact List.Perm.refl _
  | cons k ks ih =>
    unfold sortKeys
    exact (okeyInsertSorted_perm k _).trans (List.Perm.cons k ih)

/-! ## `OKey` is `OrderedKey` up to its `Ord`-equality: distinct `OKey`s are distinct `BTreeMap` keys -/

theorem lexCmp_eq_iff : ∀ (a b : List Nat), lexCmp a b = .eq ↔ a = b
  | [], [] => ⟨fun _ => rfl, fun _ => rfl⟩
  | [], _ :: _ => ⟨fun h => (nomatch h), fun h => (nomatch h)⟩
  | _ :: _, [] => ⟨fun h => (nomatch h), fun h => (nomatch h)⟩
  | x :: xs, y :: ys => by
    unfold lexCmp
    split
    · rename_i h1; exact ⟨fun h => (nomatch h), fun e => by cases e; exact absurd h1 (Nat.lt_irrefl _)⟩
    · split
      · rename_i h2; exact ⟨fun h => (nomatch h), fun e => by cases e; exact absurd h2 (Nat.lt_irrefl _)⟩
      · rename_i h1 h2
        cases Nat.le_antisymm (Nat.le_of_not_lt h2) (Nat.le_of_not_lt h1)
        rw [lexCmp_eq_iff xs ys, List.cons.injEq]
        exact ⟨fun e => ⟨rfl, e⟩, And.right⟩

theorem okey_cmp_eq_iff (a b : OKey) : OKey.cmp a b = .eq ↔ a = b := by
  constructor
  · intro h
    -- keys of different kinds compare by rank, never `Equal`
    cases a with
    | null => cases b with
      | null => rfl
      | _ => cases h
    | bool x => cases b with
      | bool y => cases x <;> cases y <;> first | rfl | cases h
      | _ => cases h
    | int x => cases b with
      | int y => exact congrArg OKey.int ((icmp_eq_iff x y).1 h)
      | _ => cases h
    | float x => cases b with
      | float y => cases x with
        | none => cases y with
          | none => rfl
          | some y => cases h
        | some x => cases y with
          | none => cases h
          | some y => exact congrArg (fun k => OKey.float (some k)) ((icmp_eq_iff x y).1 h)
      | _ => cases x <;> cases h
    | str x => cases b with
      | str y => exact congrArg OKey.str ((lexCmp_eq_iff x y).1 h)
      | _ => cases h
    | bytes x => cases b with
      | bytes y => exact congrArg OKey.bytes ((lexCmp_eq_iff x y).1 h)
      | _ => cases h
    | json x => cases b with
      | json y => exact congrArg OKey.json ((lexCmp_eq_iff x y).1 h)
      | _ => cases h
  · rintro rfl
    cases a with
    | null => rfl
    | bool x => cases x <;> rfl
    | int x => exact (icmp_eq_iff x x).2 rfl
    | float x => cases x with
      | none => rfl
      | some x => exact (icmp_eq_iff x x).2 rfl
    | str x => exact (lexCmp_eq_iff x x).2 rfl
    | bytes x => exact (lexCmp_eq_iff x x).2 rfl
    | json x => exact (lexCmp_eq_iff x x).2 rfl

omit [DecidableEq κ] in
theorem filter_or_perm {α : Type} (p q : α → Bool) (l : List α) (hd : ∀ x ∈ l, ¬ (p x = true ∧ q x = true)) :
    (l.filter (fun x => p x || q x)).Perm (l.filter p ++ l.filter q) := by
  induction l with
  | nil => simp
  | cons x xs ih =>
    have ih' := ih (fun y hy => hd y (List.mem_cons_of_mem _ hy))
    have hx := hd x (by simp)
    cases hp : p x <;> cases hq : q x
    · simpa [List.filter_cons, hp, hq] using ih'
    · simp only [List.filter_cons, hp, hq, Bool.or_true, Bool.false_eq_true, if_true, if_false]
      exact (List.Perm.cons x ih').trans List.perm_middle.symm
    · simp only [List.filter_cons, hp, hq, Bool.or_false, Bool.false_eq_true, if_true, if_false, List.cons_append]
      exact List.Perm.cons x ih'
    · exact absurd ⟨hp, hq⟩ hx

theorem flatMap_bucketOf_perm (ix : Idx κ) : ∀ (ks : List κ), ks.Nodup →
    (ks.flatMap (bucketOf ix)).Perm ((ix.filter (fun p => decide (p.1 ∈ ks))).map (·.2)) := by
  intro ks
  induction ks with
  | nil => intro _; simp
  | cons k ks ih =>
    intro hn
    rw [List.nodup_cons] at hn
    rw [List.flatMap_cons]
    have hf : ix.filter (fun p => decide (p.1 ∈ k :: ks)) =
        ix.filter (fun p => decide (p.1 = k) || decide (p.1 ∈ ks)) := by
      apply List.filter_congr; intro p _; simp
    rw [hf]
    have hperm := filter_or_perm (fun p : κ × Nat => decide (p.1 = k)) (fun p => decide (p.1 ∈ ks)) ix
      (by intro x _ ⟨h1, h2⟩
          simp only [decide_eq_true_eq] at h1 h2
          exact hn.1 (h1 ▸ h2))
    have := (hperm.map (·.2))
    rw [List.map_append] at this
    exact ((List.Perm.append_left _ (ih hn.2)).trans this.symm)

theorem rangeLookupTree_perm (ix : Idx OKey) (op : RangeOp) (v : Value) :
    (rangeLookupTree ix op v).Perm (rangeLookup ix op v) := by
  unfold rangeLookupTree rangeLookup treeKeys
  let P : OKey → Bool := fun k => op.holds (OKey.cmp k (ordKey v))
  have h1 : (((sortKeys (keysOf ix)).filter P).flatMap (bucketOf ix)).Perm
      (((keysOf ix).filter P).flatMap (bucketOf ix)) :=
    List.Perm.flatMap_right _ ((sortKeys_perm (keysOf ix)).filter P)
  have hn : ((keysOf ix).filter P).Nodup := (nodup_keysOf ix).sublist List.filter_sublist
  have h2 := flatMap_bucketOf_perm ix _ hn
  have h3 : ix.filter (fun p => decide (p.1 ∈ (keysOf ix).filter P)) = ix.filter (fun p => P p.1) := by
    apply List.filter_congr
    intro p hp
    have : p.1 ∈ keysOf ix := (mem_keysOf ix p.1).2 ⟨p.2, hp⟩
    simp [List.mem_filter, this]
  rw [h3] at h2
  exact h1.trans h2

theorem tryIndexLookupT_perm (t : Table) (c : Cond) :
    (tryIndexLookupT t c = none ∧ tryIndexLookup t c = none) ∨
    ∃ ids' ids, tryIndexLookupT t c = some ids' ∧ tryIndexLookup t c = some ids ∧ ids'.Perm ids := by
  induction c with
  | tt => exact Or.inl ⟨rfl, rfl⟩
  | ne c v => exact Or.inl ⟨rfl, rfl⟩
  | or a b _ _ => exact Or.inl ⟨rfl, rfl⟩
  | eq col v =>
    simp only [tryIndexLookupT, tryIndexLookup]
    cases assocGet col t.hidx with
    | none => exact Or.inl ⟨rfl, rfl⟩
    | some ix => exact Or.inr ⟨_, _, rfl, rfl, List.Perm.refl _⟩
  | rng op col v =>
    simp only [tryIndexLookupT, tryIndexLookup]
    cases assocGet col t.oidx with
    | none => exact Or.inl ⟨rfl, rfl⟩
    | some ix => exact Or.inr ⟨_, _, rfl, rfl, rangeLookupTree_perm ix op v⟩
  | and a b iha ihb =>
    simp only [tryIndexLookupT, tryIndexLookup]
    rcases iha with ⟨h1, h2⟩ | ⟨ia', ia, h1, h2, hp⟩
    · rw [h1, h2]; exact ihb
    · rw [h1, h2]; exact Or.inr ⟨ia', ia, rfl, rfl, hp⟩

theorem selectT_eq_spec (t : Table) (hi : IdxInv t) (c : Cond) : selectT t c = spec t c := by
  unfold selectT
  rcases tryIndexLookupT_perm t c with ⟨h1, _⟩ | ⟨ids', ids, h1, h2, hp⟩
  · rw [h1]; exact scanSelect_eq_spec t c hi.wf
  · rw [h1]; exact selectViaIds_eq_spec t c ids' hi.wf ((lookup_sound t hi c ids h2).perm hp)

theorem specRows_length (t : Table) (c : Cond) : (specRows t c).length = (spec t c).length :=
  matching_length t c

omit [DecidableEq κ] in
theorem kinv_perm (key : Value → κ) (rows : List RowE) (c : ColRef) (ix ix' : Idx κ)
    (h : KInv key rows c ix) (hp : ix'.Perm ix) : KInv key rows c ix' :=
  ⟨((hp.map Prod.snd).nodup_iff).2 h.nodup,
   fun k i hm => h.sound k i ((hp.mem_iff).1 hm),
   fun r hr ha v hv => (hp.mem_iff).2 (h.complete r hr ha v hv)⟩

/-- every index of `l'` is a reordering of an index of `l` on the same column -/
def Reordered {κ : Type} (l l' : List (ColRef × Idx κ)) : Prop :=
  ∀ c ix', (c, ix') ∈ l' → ∃ ix, (c, ix) ∈ l ∧ ix'.Perm ix

theorem idxInv_reordered (t t' : Table) (hi : IdxInv t) (hr : t'.rows = t.rows) (hs : t'.schema = t.schema)
    (hh : Reordered t.hidx t'.hidx) (ho : Reordered t.oidx t'.oidx) : IdxInv t' := by
  refine ⟨hr ▸ hi.1, ?_, ?_, ?_⟩
  · intro c ix' hm
    obtain ⟨ix, hm0, hp⟩ := hh c ix' hm
    rw [hr]; exact kinv_perm hashKey t.rows c ix ix' (hi.2.1 c ix hm0) hp
  · intro c ix' hm
    obtain ⟨ix, hm0, hp⟩ := ho c ix' hm
    rw [hr]; exact kinv_perm ordKey t.rows c ix ix' (hi.2.2.1 c ix hm0) hp
  · intro r hm; rw [hs]; exact hi.2.2.2 r (hr ▸ hm)

theorem countNarrow_eq_lookup (mem : List Nat → Nat → Bool) (t : Table) (c : Cond) :
    countNarrow mem t c = match tryIndexLookupNarrow mem t c with
      | some ids => ((fetch t ids).filter (fun r => evaluate c r.id r.vals)).length
      | none => ((scanAll t).filter (fun r => evaluate c r.id r.vals)).length := by
  cases c with
  | tt => exact congrArg List.length (List.filter_eq_self.2 fun _ _ => rfl).symm
  | _ => rfl

theorem narrow_contains_sound (t : Table) (hi : IdxInv t) (c : Cond) :
    ∀ ids, tryIndexLookupNarrow (fun l x => l.contains x) t c = some ids → Cands t c ids := by
  induction c with
  | tt => intro ids h; cases h
  | ne c v => intro ids h; cases h
  | or a b _ _ => intro ids h; cases h
  | eq col v => intro ids h; exact lookup_sound t hi (.eq col v) ids h
  | rng op col v =>
    intro ids h
    obtain ⟨ix, hix, rfl⟩ := Option.map_eq_some_iff.1 h
    exact (lookup_sound t hi (.rng op col v) (rangeLookup ix op v) (by simp [tryIndexLookup, hix])).perm
      (rangeLookupTree_perm ix op v)
  | and a b iha ihb =>
    intro ids h
    unfold tryIndexLookupNarrow at h
    split at h
    · exact (ihb ids h).and_right
    · rename_i cands ha
      have plain : Cands t (.and a b) cands := (iha cands ha).and_left
      split at h
      · rename_i col v
        split at h
        · -- the narrowed list: still duplicate-free, and a matching row is in `a`'s candidates and in `b`'s bucket
          rename_i ix hix
          cases h
          refine ⟨plain.1.sublist List.filter_sublist, fun r hr hal he => List.mem_filter.2 ⟨plain.2 r hr hal he, ?_⟩⟩
          have hb : Cands t (.eq col v) (hashLookup ix v) :=
            lookup_sound t hi _ _ (by simp [tryIndexLookup, hix])
          exact List.contains_iff_mem.2 (hb.2 r hr hal (Bool.and_eq_true_iff.1 he).2)
        · cases h; exact plain
      · cases h; exact plain

end Neumann.Rel
