import NeumannModel.Rel.BinSearchLemmas
/-
  C04 — property theorems, part 2: index lookups return exactly the matching rows WHATEVER THE ORDER of the row
  ids inside a bucket and whatever history produced it.

  The engine keeps one `Vec<u64>` of row ids per index key (`index_add` pushes unless present, `index_remove`
  retains the others); a B-tree range lookup concatenates the vectors of the keys in range in ascending key
  order.  A vector is in ascending id order only as long as nothing but INSERT / DELETE / CREATE INDEX ran: an
  UPDATE moves a row's id to the END of another key's vector.  Nothing in the code may therefore depend on the
  order of the candidate ids -- and nothing does: every strategy re-checks, then sorts or counts.

  ONLY property statements and their non-vacuity examples live here; helpers are in the `*Lemmas.lean` modules.
-/
namespace Neumann.Rel.BucketProps
open Neumann.Rel

/-- **the model's index is the code's store of id vectors, order included**: the ids filed under a key, in list
    order, change exactly as the `Vec<u64>` under that key does -- `index_add` / `btree_index_add`
    (`if !ids.contains(&id) { ids.push(id) }`) pushes onto the END of that key's vector and leaves every other
    vector alone, `index_remove` / `btree_index_remove` (`ids.retain(|&x| x != id)`) keeps the order of the
    rest; the hash lookup returns that vector as it stands -/
theorem bucket_is_the_codes_vector {κ : Type} [DecidableEq κ] (ix : Idx κ) (k k' : κ) (id : Nat) :
    bucketOf (idxAdd k id ix) k = vecPush id (bucketOf ix k) ∧
    bucketOf (idxRemove k id ix) k = vecRetain id (bucketOf ix k) ∧
    (k' ≠ k → bucketOf (idxAdd k id ix) k' = bucketOf ix k' ∧ bucketOf (idxRemove k id ix) k' = bucketOf ix k') ∧
    (∀ v : Value, ∀ hx : Idx HKey, hashLookup hx v = bucketOf hx (hashKey v)) :=
  ⟨bucketOf_idxAdd_same k id ix, bucketOf_idxRemove_same k id ix,
   fun h => ⟨bucketOf_idxAdd_other k k' id ix h, bucketOf_idxRemove_other k k' id ix h⟩, fun _ _ => rfl⟩

example : vecPush 1 [5, 6] = [5, 6, 1] ∧ vecPush 5 [5, 6] = [5, 6] ∧ vecRetain 5 [5, 6, 1] = [6, 1] := by decide

/-- two rows in `ops` (c0 = 0), two in `eng` (c0 = 1), everybody on level 3 (c1); hash indexes on both columns
    (level first, then dept); then the first two rows move to `eng`.  The minimal history of its kind has one
    row on each side (`moveOps1`). -/
def moveSchema : List (ColType × Bool) := [(.int, false), (.int, false)]
def moveOps : List Op :=
  [.insert [.int 0, .int 3], .insert [.int 0, .int 3], .insert [.int 1, .int 3], .insert [.int 1, .int 3],
   .createHash (.col 1), .createHash (.col 0),
   .update (.rng .le .id (.int 2)) [(0, .int 1)]]
def moveOps1 : List Op :=
  [.insert [.int 0, .int 3], .insert [.int 1, .int 3], .createHash (.col 1), .createHash (.col 0),
   .update (.eq .id (.int 1)) [(0, .int 1)]]
/-- the same rows with the indexes created AFTER the move -/
def moveOpsLate : List Op :=
  [.insert [.int 0, .int 3], .insert [.int 0, .int 3], .insert [.int 1, .int 3], .insert [.int 1, .int 3],
   .update (.rng .le .id (.int 2)) [(0, .int 1)],
   .createHash (.col 1), .createHash (.col 0)]
def moveQuery : Cond := .and (.eq (.col 1) (.int 3)) (.eq (.col 0) (.int 1))

/-- **buckets do get out of id order, and their order is a matter of history**: after the move the vector of
    `c0 = 1` is `[3, 4, 1, 2]`; the same table with the index created after the move has `[1, 2, 3, 4]`; a
    delete followed by re-inserts, an update in the other direction (high ids into a bucket of low ids) and a
    same-value update (the id goes to the end of its own vector) reorder as well; a B-tree range lookup
    returns its candidates by key, not by id -/
theorem bucket_order_depends_on_history_witness :
    tryIndexLookupT (run moveSchema moveOps) (.eq (.col 0) (.int 1)) = some [3, 4, 1, 2] ∧
    tryIndexLookupT (run moveSchema moveOpsLate) (.eq (.col 0) (.int 1)) = some [1, 2, 3, 4] ∧
    (run moveSchema moveOps).rows = (run moveSchema moveOpsLate).rows ∧
    tryIndexLookupT (run moveSchema (moveOps ++ [.update (.eq .id (.int 3)) [(0, .int 1)]]))
      (.eq (.col 0) (.int 1)) = some [4, 1, 2, 3] ∧
    tryIndexLookupT (run moveSchema (moveOps ++ [.update (.rng .ge .id (.int 4)) [(0, .int 0)],
        .update (.eq .id (.int 1)) [(0, .int 0)]])) (.eq (.col 0) (.int 0)) = some [4, 1] ∧
    tryIndexLookupT (run moveSchema ([.createOrd (.col 0)] ++ moveOps ++ [.insert [.int 0, .int 3]]))
      (.rng .ge (.col 0) (.int 0)) = some [5, 3, 4, 1, 2] := by
  decide +kernel

/-- **the key-ordered B-tree range lookup** (what `btree.range(..)` + `extend` produces) lists exactly the ids
    the model's `rangeLookup` lists, in another order; with it `try_index_lookup` takes the same plan -/
theorem tree_range_lookup_is_permutation (ix : Idx OKey) (op : RangeOp) (v : Value) (t : Table) (c : Cond) :
    (rangeLookupTree ix op v).Perm (rangeLookup ix op v) ∧
    ((tryIndexLookupT t c = none ∧ tryIndexLookup t c = none) ∨
     ∃ ids' ids, tryIndexLookupT t c = some ids' ∧ tryIndexLookup t c = some ids ∧ ids'.Perm ids) :=
  ⟨rangeLookupTree_perm ix op v, tryIndexLookupT_perm t c⟩

/-- the model's B-tree keys are the map's keys: `OrderedKey`'s `Ord` calls two keys equal exactly when their
    `OKey`s are equal (both float zeros one key, all NaNs one key -- by construction of `ordKey`), so grouping the
    entries by `OKey` is grouping them by `BTreeMap` key -/
theorem btree_keys_are_ord_classes (a b : OKey) : OKey.cmp a b = .eq ↔ a = b :=
  okey_cmp_eq_iff a b

example : ordKey (.float 0) = ordKey (.float 9223372036854775808) ∧ ordKey (.float 0) ≠ ordKey (.float 1) := by decide

example : rangeLookupTree [(.int 5, 1), (.int 2, 2), (.int 5, 3), (.int 2, 4)] .ge (.int 0) = [2, 4, 1, 3] ∧
    rangeLookup [(.int 5, 1), (.int 2, 2), (.int 5, 3), (.int 2, 4)] .ge (.int 0) = [1, 2, 3, 4] := by decide +kernel

/-- **no answer depends on the order of the candidate ids**: in every reachable state, for every condition
    tree and EVERY reordering `ids'` of the ids the index lookup yields, the index path of `select` (fetch,
    re-check, sort), of `select_with_limit` (the window of that), of `count` (the length), of `count_column`
    (the re-checked rows with a non-NULL column) and the row records handed to `sum` / `avg` / `min` / `max`
    are those of the specification -/
theorem candidate_order_never_matters (schema : List (ColType × Bool)) (ops : List Op) (c : Cond)
    (ids ids' : List Nat) (h : tryIndexLookup (run schema ops) c = some ids) (hp : ids'.Perm ids) :
    let t := run schema ops
    selectViaIds t c ids' = spec t c ∧
    (∀ l o, ((selectViaIds t c ids').drop o).take l = ((spec t c).drop o).take l) ∧
    ((fetch t ids').filter (fun r => evaluate c r.id r.vals)).length = (spec t c).length ∧
    (∀ i, ((fetch t ids').filter (fun r => evaluate c r.id r.vals && nonNull i r)).length =
        ((specRows t c).filter (nonNull i)).length) ∧
    sortRows ((fetch t ids').filter (fun r => evaluate c r.id r.vals)) = specRows t c := by
  intro t
  have hi : IdxInv t := run_inv schema ops
  have hc : Cands t c ids' := (lookup_sound t hi c ids h).perm hp
  have hsel := selectViaIds_eq_spec t c ids' hi.1 hc
  exact ⟨hsel, fun l o => by rw [hsel], countViaIds_eq t c ids' hi.1 hc,
    fun i => countViaIds_filter t hi.1 c ids' hc (nonNull i), rowsViaIds_eq t hi.1 c ids' hc⟩

example : tryIndexLookup (run moveSchema moveOps) moveQuery = some [1, 2, 3, 4] := by decide +kernel
example : selectViaIds (run moveSchema moveOps) moveQuery [4, 2, 3, 1] = [1, 2, 3, 4] := by decide +kernel

/-- ... in particular with the candidates in the order the code produces them (hash vector as it stands, B-tree
    vectors in key order): `select` over them is the specification, and the plan (index or scan) is the model's -/
theorem code_order_candidates_agree (schema : List (ColType × Bool)) (ops : List Op) (c : Cond) :
    let t := run schema ops
    selectT t c = spec t c ∧ selectT t c = select t c ∧
    ((tryIndexLookupT t c).isSome = (tryIndexLookup t c).isSome) := by
  intro t
  have hi : IdxInv t := run_inv schema ops
  have hsel : selectT t c = spec t c := selectT_eq_spec t hi c
  refine ⟨hsel, by rw [hsel, select_eq_spec t hi c], ?_⟩
  rcases tryIndexLookupT_perm t c with ⟨h1, h2⟩ | ⟨ids', ids, h1, h2, _⟩ <;> simp [h1, h2]

example : selectT (run moveSchema ([.createOrd (.col 0)] ++ moveOps)) (.rng .ge (.col 0) (.int 0)) = [1, 2, 3, 4] := by
  decide +kernel

/-- **bucket order never matters, table-wide**: take any reachable state and reorder the entries of every
    index arbitrarily (any order inside every bucket, any interleaving of the buckets) -- every strategy
    (select by hash lookup or B-tree range, limit / offset, count, streaming cursor, columnar, `select_iter`,
    cursor with `max_rows`, the router's text paths, `count_column`, the row records of the aggregates) returns
    on the reordered state exactly what it returns on the original one: the rows for which the condition is
    true -/
theorem bucket_order_never_matters (schema : List (ColType × Bool)) (ops : List Op) (t' : Table) (c : Cond)
    (hr : t'.rows = (run schema ops).rows) (hs : t'.schema = (run schema ops).schema)
    (hh : Reordered (run schema ops).hidx t'.hidx) (ho : Reordered (run schema ops).oidx t'.oidx) :
    let t := run schema ops
    select t' c = spec t c ∧
    (∀ l o, selectLimit t' c l o = ((spec t c).drop o).take l) ∧
    count t' c = (spec t c).length ∧
    (∀ b, 0 < b → cursorSelect t' c b = spec t c) ∧
    columnarSelect t' c = spec t c ∧
    (∀ l o, selectIter t' c l o = selectIter t c l o) ∧
    (∀ b m, 0 < b → cursorSelectMax t' c b m = cursorSelectMax t c b m) ∧
    (∀ l o, routerSelect t' c l o = routerSelect t c l o) ∧
    (∀ l, routerSelectLegacy t' c l = routerSelectLegacy t c l) ∧
    selectRows t' c = specRows t c ∧
    (∀ i, countColumn t' i c = countColumn t i c) := by
  intro t
  have hi : IdxInv t := run_inv schema ops
  have hi' : IdxInv t' := idxInv_reordered t t' hi hr hs hh ho
  have hspec : spec t' c = spec t c := by unfold spec; rw [hr]
  have hspecR : specRows t' c = specRows t c := by unfold specRows; rw [hr]
  refine ⟨?_, ?_, ?_, ?_, ?_, ?_, ?_, ?_, ?_, ?_, ?_⟩
  · rw [select_eq_spec t' hi' c, hspec]
  · intro l o; rw [selectLimit_eq t' hi' c, hspec]
  · rw [count_eq t' hi' c, hspec]
  · intro b hb; rw [cursorSelect_eq t' hi' c b hb, hspec]
  · rw [columnarSelect_eq t' hi' c, hspec]
  · intro l o; rw [selectIter_eq t' hi' c, selectIter_eq t hi c, hspec]
  · intro b m hb; rw [cursorSelectMax_eq t' hi' c b hb, cursorSelectMax_eq t hi c b hb, hspec]
  · intro l o; rw [routerSelect_eq t' hi' c, routerSelect_eq t hi c, hspec]
  · intro l; rw [routerSelectLegacy_eq t' hi' c, routerSelectLegacy_eq t hi c, hspec]
  · rw [selectRows_eq_specRows t' hi' c, hspecR]
  · intro i
    by_cases hcol : i < t.schema.length
    · rw [countColumn_eq t' hi' i c (hs ▸ hcol), countColumn_eq t hi i c hcol, hspecR]
    · have hl : t'.schema.length = t.schema.length := by rw [hs]
      unfold countColumn
      rw [if_pos (by omega), if_pos (by omega)]

/-- the hypothesis is inhabited non-trivially: the moved table with the `c0` index listed backwards -/
example : Reordered (run moveSchema moveOps).hidx
    [(.col 1, [(.i 3, 1), (.i 3, 2), (.i 3, 3), (.i 3, 4)]), (.col 0, [(.i 1, 2), (.i 1, 1), (.i 1, 4), (.i 1, 3)])] := by
  intro c ix' hm
  simp only [List.mem_cons, Prod.mk.injEq, List.not_mem_nil, or_false] at hm
  rcases hm with ⟨rfl, rfl⟩ | ⟨rfl, rfl⟩
  · exact ⟨_, by decide +kernel, List.Perm.refl _⟩
  · refine ⟨[(.i 1, 3), (.i 1, 4), (.i 1, 1), (.i 1, 2)], by decide +kernel, ?_⟩
    decide

/-- **a two-index path for `a AND b` that narrows `a`'s candidates by MEMBERSHIP in `b`'s bucket is sound** in
    every reachable state (the narrowed list is still duplicate-free and contains every matching row, so
    every strategy over it returns the specification) -/
theorem narrowing_by_membership_is_sound (schema : List (ColType × Bool)) (ops : List Op) (c : Cond) :
    let t := run schema ops
    selectNarrow (fun l x => l.contains x) t c = spec t c ∧
    countNarrow (fun l x => l.contains x) t c = (spec t c).length := by
  intro t
  have hi : IdxInv t := run_inv schema ops
  constructor
  · unfold selectNarrow
    cases h : tryIndexLookupNarrow (fun l x => l.contains x) t c with
    | none => exact scanSelect_eq_spec t c hi.1
    | some ids => exact selectViaIds_eq_spec t c ids hi.1 (narrow_contains_sound t hi c ids h)
  · rw [countNarrow_eq_lookup]
    cases h : tryIndexLookupNarrow (fun l x => l.contains x) t c with
    | none => exact (congrArg List.length (scanFilter_map_id t c)).symm.trans (List.length_map _) |>.symm
    | some ids => exact countViaIds_eq t c ids hi.1 (narrow_contains_sound t hi c ids h)

example : tryIndexLookupNarrow (fun l x => l.contains x) (run moveSchema moveOps) moveQuery = some [1, 2, 3, 4] := by
  decide +kernel

/-- **the same path with a BINARY SEARCH in `b`'s bucket** (`bucket.binary_search(&id).is_ok()`, which assumes
    ascending vectors) **loses rows**: on the moved table `level = 3 AND dept = eng` is true of all four rows,
    the narrowed index path returns rows 1 and 2 only (3 and 4 stand before 1 and 2 in the vector and the search
    never looks there) -- select and count alike; one row on each side is enough; the same rows with the
    indexes created after the move are answered correctly (so insert-only tests, tests with one index, and
    tests that build the index last do not see it) -/
theorem narrowing_by_binary_search_loses_rows_witness :
    spec (run moveSchema moveOps) moveQuery = [1, 2, 3, 4] ∧
    select (run moveSchema moveOps) moveQuery = [1, 2, 3, 4] ∧
    selectNarrow binSearch (run moveSchema moveOps) moveQuery = [1, 2] ∧
    countNarrow binSearch (run moveSchema moveOps) moveQuery = 2 ∧
    spec (run moveSchema moveOps1) moveQuery = [1, 2] ∧
    selectNarrow binSearch (run moveSchema moveOps1) moveQuery = [1] ∧
    selectNarrow binSearch (run moveSchema moveOpsLate) moveQuery = [1, 2, 3, 4] := by
  decide +kernel

/-- **`binary_search` is membership exactly when the vector is ascending**: the loop of
    `core::slice::binary_search_by` finds `x` in a strictly ascending list iff `x` is a member -/
theorem binary_search_is_membership_on_ascending (l : List Nat) (hs : StrictAsc l) (x : Nat) :
    binSearch l x = l.contains x :=
  binSearch_eq_contains l hs x

example : StrictAsc [1, 2, 5, 9] ∧ binSearch [1, 2, 5, 9] 5 = true ∧ binSearch [1, 2, 5, 9] 4 = false := by
  refine ⟨by unfold StrictAsc; decide, by decide, by decide⟩
/-- ... and not otherwise -/
example : binSearch [3, 4, 1, 2] 3 = false ∧ [3, 4, 1, 2].contains 3 = true := by decide

/-- **what the binary-search narrowing needs to go wrong is an UPDATE (or a rollback)**: in every history of
    inserts, batch inserts, deletes and index creations / drops -- no UPDATE -- every id vector of every index is
    in ascending id order (new ids are the largest, `create_index` scans in id order, removing keeps the order),
    and the binary-search narrowing then returns exactly the matching rows.  So insert-only tests, tests that
    delete, and tests that build their indexes last all pass with it; `narrowing_by_binary_search_loses_rows_witness`
    has one UPDATE, `rollback_reorders_bucket_witness` one rolled-back DELETE -/
theorem binary_search_narrowing_sound_without_updates (schema : List (ColType × Bool)) (ops : List Op)
    (hno : ∀ op ∈ ops, op.isUpdate = false) (c : Cond) :
    let t := run schema ops
    (∀ col ix k, (col, ix) ∈ t.hidx → StrictAsc (bucketOf ix k)) ∧
    (∀ col ix k, (col, ix) ∈ t.oidx → StrictAsc (bucketOf ix k)) ∧
    selectNarrow binSearch t c = spec t c ∧ countNarrow binSearch t c = (spec t c).length := by
  intro t
  have hs : SortedInv t := run_sorted schema ops hno
  have he := narrow_bin_eq_contains t hs
  obtain ⟨h1, h2⟩ := narrowing_by_membership_is_sound schema ops c
  refine ⟨fun col ix k hm => sortedIdx_bucket ix (hs.1 col ix hm) k,
    fun col ix k hm => sortedIdx_bucket ix (hs.2 col ix hm) k, ?_, ?_⟩
  · rw [← h1]; unfold selectNarrow; rw [he c]
  · rw [← h2]; unfold countNarrow; rw [he c]

/-- a history without UPDATE: inserts, a delete in the middle, a batch, indexes before and after -/
def noUpdateOps : List Op :=
  [.createHash (.col 0), .insert [.int 1, .int 3], .insert [.int 0, .int 3], .insert [.int 1, .int 3],
   .createHash (.col 1), .delete (.eq .id (.int 2)), .batchInsert [[.int 1, .int 3], [.int 1, .int 4]],
   .dropHash (.col 0), .createHash (.col 0)]
example : ∀ op ∈ noUpdateOps, op.isUpdate = false := by decide
example : tryIndexLookupNarrow binSearch (run moveSchema noUpdateOps) moveQuery = some [1, 3, 4] := by decide +kernel

/-! ### histories with rolled-back statements (`begin_transaction; tx_delete / tx_update; rollback`) -/

/-- **a rolled-back DELETE / UPDATE changes no row** -- in every state reachable by inserts, updates, deletes,
    index DDL AND rolled-back statements, the table after `begin; DELETE / UPDATE ... WHERE c; rollback` has the
    same slab and schema, the statement reported exactly the matching rows while it ran, the index invariant
    holds again (only the ORDER inside the id vectors differs: the restored ids are pushed onto the end) -/
theorem rolled_back_statement_changes_no_row (schema : List (ColType × Bool)) (xops : List XOp) (c : Cond)
    (sets : List (Nat × Value)) :
    let t := runX schema xops
    (deleteRolledBack t c).rows = t.rows ∧ (deleteRolledBack t c).schema = t.schema ∧
    IdxInv (deleteRolledBack t c) ∧
    (∀ t' n, updateRolledBack t c sets = .ok (t', n) →
      t'.rows = t.rows ∧ t'.schema = t.schema ∧ n = (spec t c).length ∧ IdxInv t') ∧
    (∀ e, updateRolledBack t c sets = .error e → update t c sets = .error e ∧ applyX t (.updateRollback c sets) = t) := by
  intro t
  have hi : IdxInv t := runX_inv schema xops
  refine ⟨deleteRolledBack_rows t c hi.1, ?_, deleteRolledBack_preserves t c hi, ?_, ?_⟩
  · unfold deleteRolledBack
    rw [foldl_schema (step := restoreOne) (fun _ _ => rfl), deleteFold_schema]
  · intro t' n h
    obtain ⟨h1, h2, h3⟩ := updateRolledBack_rows t c sets t' n hi.1 h
    exact ⟨h1, h2, h3.trans (matching_length t c), updateRolledBack_preserves t c sets t' n hi h⟩
  · intro e h
    refine ⟨?_, by simp only [applyX, h]⟩
    unfold updateRolledBack at h
    unfold update
    cases hv : validateSets t.schema sets with
    | some e' => simp only [hv, Except.error.injEq] at h ⊢; exact h
    | none => simp [hv] at h

/-- a history with both kinds of rolled-back statement -/
def rbSchema : List (ColType × Bool) := [(.int, false), (.int, false)]
def rbOps : List XOp :=
  [.base (.createHash (.col 0)), .base (.createHash (.col 1)),
   .base (.insert [.int 1, .int 3]), .base (.insert [.int 1, .int 3]), .base (.insert [.int 1, .int 3]),
   .base (.insert [.int 1, .int 4]),
   .deleteRollback (.rng .le .id (.int 2))]

example : (runX rbSchema rbOps).rows = (runX rbSchema (rbOps.take 6)).rows := by decide +kernel
example : updateRolledBack (runX rbSchema rbOps) .tt [(5, .int 1)] = .error .colNotFound := by decide +kernel

/-- **rolled-back statements reorder buckets too**: the undo log is applied backwards and every restored id is
    pushed onto the end of its vector -- after `begin; DELETE WHERE _id <= 2; rollback` the vector of `c0 = 1` is
    `[3, 4, 2, 1]` (no UPDATE ever ran); a rolled-back UPDATE of row 3 then gives `[4, 2, 1, 3]`; the binary-search
    narrowing loses every row on this history, the code's lookup and the membership narrowing lose none -/
theorem rollback_reorders_bucket_witness :
    tryIndexLookupT (runX rbSchema rbOps) (.eq (.col 0) (.int 1)) = some [3, 4, 2, 1] ∧
    tryIndexLookupT (runX rbSchema (rbOps ++ [.updateRollback (.eq .id (.int 3)) [(0, .int 2)]]))
      (.eq (.col 0) (.int 1)) = some [4, 2, 1, 3] ∧
    spec (runX rbSchema rbOps) moveQuery = [1, 2, 3] ∧
    select (runX rbSchema rbOps) moveQuery = [1, 2, 3] ∧
    selectNarrow (fun l x => l.contains x) (runX rbSchema rbOps) moveQuery = [1, 2, 3] ∧
    selectNarrow binSearch (runX rbSchema rbOps) moveQuery = [] := by
  decide +kernel

/-- **strategies agree in every history with rolled-back statements**: every strategy returns exactly the rows
    for which the condition is true, also with the candidates in the code's order -/
theorem strategies_agree_with_rollbacks (schema : List (ColType × Bool)) (xops : List XOp) (c : Cond) :
    let t := runX schema xops
    select t c = spec t c ∧ selectT t c = spec t c ∧
    (∀ limit offset, selectLimit t c limit offset = ((spec t c).drop offset).take limit) ∧
    count t c = (spec t c).length ∧
    (∀ batch, 0 < batch → cursorSelect t c batch = spec t c) ∧
    columnarSelect t c = spec t c ∧
    selectRows t c = specRows t c ∧
    (∀ i, i < t.schema.length → countColumn t i c = .ok ((specRows t c).filter (nonNull i)).length) ∧
    (∀ limit offset, routerSelect t c limit offset =
        (let rows := match offset with | some o => (spec t c).drop o | none => spec t c
         match limit with | some l => rows.take l | none => rows)) := by
  intro t
  have hi : IdxInv t := runX_inv schema xops
  exact ⟨select_eq_spec t hi c, selectT_eq_spec t hi c, selectLimit_eq t hi c, count_eq t hi c,
    fun b hb => cursorSelect_eq t hi c b hb, columnarSelect_eq t hi c, selectRows_eq_specRows t hi c,
    fun i hcol => countColumn_eq t hi i c hcol, routerSelect_eq t hi c⟩

example : select (runX rbSchema rbOps) moveQuery = [1, 2, 3] ∧ count (runX rbSchema rbOps) moveQuery = 3 := by decide +kernel

end Neumann.Rel.BucketProps
