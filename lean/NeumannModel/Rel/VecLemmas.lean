import NeumannModel.Rel.Extend
import NeumannModel.Rel.VecModel
/-
  C04: stored values are well typed; the word-level vectorised filter computes exactly the per-slot filter of
  `Model.lean` whatever the unspecified storage (words of NULL slots, padding bits) holds; row id = slot + 1.
-/
namespace Neumann.Rel

def TypedRows (t : Table) : Prop :=
  ∀ r ∈ t.rows, ∀ (j : Nat) (ty : ColType) (nl : Bool) (v : Value),
    t.schema[j]? = some (ty, nl) → r.vals[j]? = some v → typeOk ty v = true

theorem typeOk_null (ty : ColType) : typeOk ty .null = true := by cases ty <;> rfl

theorem validateRow_typed : ∀ (schema : List (ColType × Bool)) (vals : List Value),
    validateRow schema vals = none →
    ∀ (j : Nat) (ty : ColType) (nl : Bool) (v : Value),
      schema[j]? = some (ty, nl) → vals[j]? = some v → typeOk ty v = true := by
  intro schema
  induction schema with
  | nil => intro vals _ j ty nl v h; cases h
  | cons cd cs ih =>
    obtain ⟨cty, cnl⟩ := cd
    intro vals hv j ty nl v hs hg
    cases vals with
    | nil => cases hg
    | cons x xs =>
      unfold validateRow at hv
      have hx : typeOk cty x = true ∧ validateRow cs xs = none := by
        split at hv
        · rename_i hn
          split at hv
          · exact ⟨hn ▸ typeOk_null _, hv⟩
          · cases hv
        · split at hv
          · rename_i ht; exact ⟨ht, hv⟩
          · cases hv
      cases j with
      | zero => cases hs; cases hg; exact hx.1
      | succ j => exact ih xs hx.2 j ty nl v hs hg

theorem applyOp_typed (t : Table) (op : Op) (hi : IdxInv t) (h : TypedRows t) : TypedRows (applyOp t op) := by
  refine applyOp_cases (P := TypedRows) t op hi h ?_ ?_ ?_ ?_ ?_ ?_ ?_
  · intro t _ h vals t' id hins r hr j ty nl v hs hg
    obtain ⟨_, hv, e⟩ := insert_ok hins
    cases e
    rcases List.mem_append.1 hr with hr | hr
    · exact h r hr j ty nl v hs hg
    · cases List.mem_singleton.1 hr; exact validateRow_typed t.schema vals hv j ty nl v hs hg
  · intro c sets t' n _ hu r hr j ty nl v hs hg
    rw [update_rows_eq t c sets t' n hi.1 hu] at hr
    obtain ⟨hvs, rfl, _⟩ := update_ok hu
    rw [updateFold_schema] at hs
    obtain ⟨x, hx, rfl⟩ := List.mem_map.1 hr
    split at hg
    · -- a rewritten row: column `j` holds the SET value, or what it held before
      change (applySetsFrom sets 0 x.vals)[j]? = some v at hg
      rw [applySetsFrom_get, Nat.zero_add] at hg
      cases hxv : x.vals[j]? with
      | none => rw [hxv] at hg; cases hg
      | some old =>
        rw [hxv] at hg
        cases hsg : setsGet j sets with
        | none => rw [hsg] at hg; cases hg; exact h x hx j ty nl old hs hxv
        | some nv =>
          rw [hsg] at hg; cases hg
          obtain ⟨ty', nl', hs', hok⟩ := validateSets_typed t.schema sets hvs j nv hsg
          rw [hs] at hs'; cases hs'; exact hok
    · exact h x hx j ty nl v hs hg
  · intro c r hr j ty nl v hs hg
    rw [delete_rows_eq t c hi.1] at hr
    rw [show (delete t c).1.schema = t.schema from deleteFold_schema _ t] at hs
    obtain ⟨x, hx, rfl⟩ := List.mem_map.1 hr
    exact h x hx j ty nl v hs (by split at hg <;> exact hg)
  · intro c t' hc; rw [createHashIndex_ok hc]; exact h
  · intro c t' hc; rw [createOrdIndex_ok hc]; exact h
  · intro c t' hc; rw [dropHashIndex_ok hc]; exact h
  · intro c t' hc; rw [dropOrdIndex_ok hc]; exact h

theorem run_typed (schema : List (ColType × Bool)) (ops : List Op) : TypedRows (run schema ops) :=
  run_induction schema (fun _ hr => nomatch hr) applyOp_typed ops

theorem typed_slot (t : Table) (ht : TypedRows t) (i : Nat) (ty : ColType) (hc : colType? t i = some ty)
    (r : RowE) (hr : r ∈ t.rows) : typeOk ty (slotVal r i) = true := by
  unfold colType? at hc
  cases hs : t.schema[i]? with
  | none => rw [hs] at hc; cases hc
  | some tn =>
    rw [hs] at hc; cases hc
    unfold slotVal
    cases hv : r.vals[i]? with
    | none => exact typeOk_null _
    | some v => exact ht r hr i _ tn.2 v hs hv

theorem mem_simdOrder (n p : Nat) : p ∈ simdOrder n ↔ p < n := by
  unfold simdOrder
  simp only [List.mem_append, List.mem_flatMap, List.mem_range, List.mem_range'_1, List.mem_cons,
    List.not_mem_nil, or_false]
  -- the remainder starts after the last full chunk and ends at `n`
  rw [Nat.add_sub_of_le (Nat.mul_div_le n 4)]
  constructor
  · rintro (⟨c, hc, h⟩ | ⟨_, h2⟩)
    · omega
    · exact h2
  · intro h
    by_cases hp : p < 4 * (n / 4)
    · exact Or.inl ⟨p / 4, Nat.div_lt_of_lt_mul hp, by omega⟩
    · exact Or.inr ⟨Nat.le_of_not_lt hp, h⟩

theorem simdFold_bit (pred : Nat → Bool) : ∀ (L : List Nat) (b : Bitmap) (p : Nat),
    (L.foldl (fun b i => if pred i then b.set i else b) b).bit p = (b.bit p || (decide (p ∈ L) && pred p)) ∧
    (L.foldl (fun b i => if pred i then b.set i else b) b).nwords = b.nwords := by
  intro L
  induction L with
  | nil => intro b p; simp
  | cons i L ih =>
    intro b p
    rw [List.foldl_cons]
    obtain ⟨h1, h2⟩ := ih (if pred i then b.set i else b) p
    refine ⟨?_, ?_⟩
    · rw [h1]
      by_cases hpi : pred i = true
      · by_cases hpe : p = i
        · subst hpe; simp [hpi, Bitmap.set]
        · simp [hpi, Bitmap.set, hpe]
      · by_cases hpe : p = i
        · subst hpe; simp [hpi]
        · simp [hpi, hpe]
    · rw [h2]; split <;> rfl

theorem simdFilter_bit (n : Nat) (pred : Nat → Bool) (p : Nat) :
    (simdFilter n pred).bit p = (decide (p < n) && pred p) ∧ (simdFilter n pred).nwords = bitmapWords n := by
  unfold simdFilter
  obtain ⟨h1, h2⟩ := simdFold_bit pred (simdOrder n) (Bitmap.zeros n) p
  refine ⟨?_, by rw [h2]; rfl⟩
  rw [h1]
  simp only [Bitmap.zeros, Bool.false_or]
  congr 1
  exact decide_eq_decide.2 (mem_simdOrder n p)

def Agrees (bm : Bitmap) (bits : List Bool) : Prop :=
  bm.nwords = bitmapWords bits.length ∧ ∀ p, p < bits.length → bm.bit p = (bits[p]?).getD false

theorem word_in_range (n p : Nat) (h : p < n) : p / 64 < bitmapWords n := by
  unfold bitmapWords; omega

theorem leafW_agrees (t : Table) (u : Unspec) (i : Nat) (pred : Nat → Bool) (nim : Bool) (slotf : RowE → Bool)
    (hslot : ∀ p r, t.rows[p]? = some r →
      (if nim then pred p || decide (slotVal r i = .null) else pred p && !decide (slotVal r i = .null)) = slotf r) :
    Agrees (leafW t u i pred nim) (t.rows.map (fun r => r.alive && slotf r)) := by
  unfold leafW
  by_cases h0 : t.rows.length = 0
  · rw [if_pos h0]
    have : t.rows = [] := List.eq_nil_of_length_eq_zero h0
    rw [this]
    exact ⟨rfl, fun p hp => by simp at hp⟩
  · rw [if_neg h0]
    refine ⟨?_, ?_⟩
    · simp only [applyAliveMask, applyNullMask, (simdFilter_bit _ _ 0).2, List.length_map]
    · intro p hp
      rw [List.length_map] at hp
      have hw := word_in_range _ _ hp
      obtain ⟨r, hr⟩ : ∃ r, t.rows[p]? = some r := ⟨t.rows[p], List.getElem?_eq_getElem hp⟩
      simp only [applyAliveMask, applyNullMask, aliveWords, nullWords, rawWords, List.length_map, hw, if_true, hp,
        (simdFilter_bit _ _ p).1, decide_true, Bool.true_and, List.getElem?_map, hr, Option.map_some,
        Option.getD_some]
      rw [← hslot p r hr]
      cases nim <;> simp [Bool.and_comm]

theorem agrees_comb (f : Bool → Bool → Bool) (a b : Bitmap) (x y : List Bool) (ha : Agrees a x) (hb : Agrees b y)
    (hl : x.length = y.length) :
    Agrees ⟨a.nwords, fun p => if p / 64 < min a.nwords b.nwords then f (a.bit p) (b.bit p) else false⟩
      (List.zipWith f x y) := by
  have hlen : (List.zipWith f x y).length = x.length := by rw [List.length_zipWith, hl, Nat.min_self]
  refine ⟨by rw [hlen]; exact ha.1, ?_⟩
  intro p hp
  rw [hlen] at hp
  have hw := word_in_range _ _ hp
  have hmin : p / 64 < min a.nwords b.nwords := by rw [ha.1, hb.1, ← hl, Nat.min_self]; exact hw
  show (if p / 64 < min a.nwords b.nwords then f (a.bit p) (b.bit p) else false) = _
  rw [if_pos hmin, ha.2 p hp, hb.2 p (hl ▸ hp), List.getElem?_zipWith, List.getElem?_eq_getElem hp,
    List.getElem?_eq_getElem (hl ▸ hp)]
  rfl

theorem vals_of_slotVal {r : RowE} {i : Nat} {v : Value} (h : slotVal r i = v) (hn : v ≠ .null) :
    r.vals[i]? = some v := by
  unfold slotVal at h
  cases hv : r.vals[i]? with
  | none => rw [hv] at h; exact absurd h.symm hn
  | some w => rw [hv] at h; exact congrArg some h

theorem int_hslot (t : Table) (ht : TypedRows t) (i : Nat) (hc : colType? t i = some .int) (junk : Nat → Int)
    (op : Option RangeOp) (neg : Bool) (k : Int) (nim : Bool)
    (hn : nim = (match op with | none => neg | some _ => false)) :
    ∀ p r, t.rows[p]? = some r →
      (if nim then intPred op neg k (rawInt t i junk p) || decide (slotVal r i = .null)
       else intPred op neg k (rawInt t i junk p) && !decide (slotVal r i = .null)) = intLeaf op neg k (slotVal r i) := by
  intro p r hr
  have hty := typed_slot t ht i .int hc r (List.mem_of_getElem? hr)
  subst hn
  cases h : slotVal r i with
  | null => cases op <;> cases neg <;> simp [intLeaf]
  | int k' =>
    have hraw : rawInt t i junk p = k' := by simp [rawInt, hr, vals_of_slotVal h (fun e => nomatch e)]
    rw [hraw]
    cases op <;> cases neg <;> simp [intLeaf, intPred]
  | _ => rw [h] at hty; cases hty

theorem float_hslot (t : Table) (ht : TypedRows t) (i : Nat) (hc : colType? t i = some .float) (junk : Nat → Nat)
    (op : Option RangeOp) (k : Nat) :
    ∀ p r, t.rows[p]? = some r →
      (if false then floatPred op k (rawFloat t i junk p) || decide (slotVal r i = .null)
       else floatPred op k (rawFloat t i junk p) && !decide (slotVal r i = .null)) = floatLeaf op k (slotVal r i) := by
  intro p r hr
  have hty := typed_slot t ht i .float hc r (List.mem_of_getElem? hr)
  cases h : slotVal r i with
  | null => simp [floatLeaf]
  | float k' =>
    have hraw : rawFloat t i junk p = k' := by simp [rawFloat, hr, vals_of_slotVal h (fun e => nomatch e)]
    rw [hraw]
    cases op with
    | none => simp [floatLeaf, floatPred]
    | some o => simp [floatLeaf, floatPred]; rfl
  | _ => rw [h] at hty; cases hty

/-- the word-level filter `w` answers exactly when the per-slot filter `f` does, and then agrees with it bit by bit -/
def Corr (t : Table) (f : Option (List Bool)) (w : Option Bitmap) : Prop :=
  (∀ bits, f = some bits → ∃ bm, w = some bm ∧ Agrees bm bits ∧ bits.length = t.rows.length) ∧ (f = none → w = none)

theorem agrees_of_none {t : Table} {f : Option (List Bool)} {w : Option Bitmap} (h1 : f = none) (h2 : w = none) :
    Corr t f w :=
  ⟨fun bits h => (by rw [h1] at h; cases h), fun _ => h2⟩

theorem leafW_case {t : Table} {u : Unspec} {i : Nat} {p : Prop} [Decidable p] {pred : Nat → Bool} {nim : Bool}
    {slotf : RowE → Bool}
    (hslot : p → ∀ q r, t.rows[q]? = some r →
      (if nim then pred q || decide (slotVal r i = .null) else pred q && !decide (slotVal r i = .null)) = slotf r) :
    Corr t (if p then some (t.rows.map (fun r => r.alive && slotf r)) else none)
      (if p then some (leafW t u i pred nim) else none) := by
  by_cases hp : p
  · rw [if_pos hp, if_pos hp]
    exact ⟨fun bits h => by cases h; exact ⟨_, rfl, leafW_agrees t u i pred nim slotf (hslot hp), List.length_map _⟩,
      fun h => nomatch h⟩
  · rw [if_neg hp, if_neg hp]
    exact ⟨fun _ h => (nomatch h), fun _ => rfl⟩

theorem agrees_zip {t : Table} {fa fb : Option (List Bool)} {wa wb : Option Bitmap}
    (f : Bool → Bool → Bool) (fw : Bitmap → Bitmap → Bitmap)
    (hfw : ∀ a b, fw a b =
      ⟨a.nwords, fun p => if p / 64 < min a.nwords b.nwords then f (a.bit p) (b.bit p) else false⟩) :
    Corr t fa wa → Corr t fb wb →
    Corr t (match fa, fb with | some x, some y => some (List.zipWith f x y) | _, _ => none)
      (match wa, wb with | some x, some y => some (fw x y) | _, _ => none) := by
  intro iha ihb
  cases fa with
  | none => rw [iha.2 rfl]; exact ⟨fun _ h => (nomatch h), fun _ => rfl⟩
  | some x =>
    obtain ⟨ba, rfl, hax, hlx⟩ := iha.1 x rfl
    cases fb with
    | none => rw [ihb.2 rfl]; exact ⟨fun _ h => (nomatch h), fun _ => rfl⟩
    | some y =>
      obtain ⟨bb, rfl, hby, hly⟩ := ihb.1 y rfl
      refine ⟨fun bits h => ?_, fun h => nomatch h⟩
      cases h
      exact ⟨_, rfl, hfw ba bb ▸ agrees_comb f ba bb x y hax hby (hlx.trans hly.symm),
        by rw [List.length_zipWith, hlx, hly, Nat.min_self]⟩

theorem vecFilterW_agrees (t : Table) (ht : TypedRows t) (u : Unspec) (c : Cond) :
    Corr t (vecFilter t c) (vecFilterW t u c) := by
  induction c with
  | tt => exact agrees_of_none rfl rfl
  | eq col v =>
    cases col with
    | id => exact agrees_of_none rfl rfl
    | col i =>
      cases v with
      | int k => exact leafW_case fun hc => int_hslot t ht i hc _ none false k false rfl
      | float k => exact leafW_case fun hc => float_hslot t ht i hc _ none k
      | _ => exact agrees_of_none rfl rfl
  | ne col v =>
    cases col with
    | id => exact agrees_of_none rfl rfl
    | col i =>
      cases v with
      | int k => exact leafW_case fun hc => int_hslot t ht i hc _ none true k true rfl
      | _ => exact agrees_of_none rfl rfl
  | rng op col v =>
    cases col with
    | id => cases op <;> exact agrees_of_none rfl rfl
    | col i =>
      cases v with
      | int k => exact leafW_case fun hc => int_hslot t ht i hc _ (some op) false k false rfl
      | float k =>
        cases op with
        | lt => exact leafW_case fun hc => float_hslot t ht i hc _ (some .lt) k
        | gt => exact leafW_case fun hc => float_hslot t ht i hc _ (some .gt) k
        | _ => exact agrees_of_none rfl rfl
      | _ => cases op <;> exact agrees_of_none rfl rfl
  | and a b iha ihb => exact agrees_zip (· && ·) Bitmap.inter (fun _ _ => rfl) iha ihb
  | or a b iha ihb => exact agrees_zip (· || ·) Bitmap.union (fun _ _ => rfl) iha ihb

theorem rowsByIndices_nil (idxs : List Nat) : rowsByIndices [] idxs = [] := by
  unfold rowsByIndices; exact List.filterMap_eq_nil_iff.2 fun i _ => rfl

theorem rowsByIndices_zero (r : RowE) (rs : List RowE) (l : List Nat) :
    rowsByIndices (r :: rs) (0 :: l) =
      if r.alive then r.id :: rowsByIndices (r :: rs) l else rowsByIndices (r :: rs) l := by
  unfold rowsByIndices; rw [List.filterMap_cons, List.getElem?_cons_zero]; dsimp only; cases r.alive <;> rfl

theorem rowsByIndices_succ (r : RowE) (rs : List RowE) (l : List Nat) :
    rowsByIndices (r :: rs) (l.map Nat.succ) = rowsByIndices rs l := by
  unfold rowsByIndices; rw [List.filterMap_map]; rfl

theorem bitmapWords_covers (n : Nat) : n ≤ 64 * bitmapWords n := by unfold bitmapWords; omega

/-- `P` is the bit list on the slab; beyond it there are no slots, whatever `P` says there -/
theorem rowsByIndices_bits : ∀ (rows : List RowE) (bits : List Bool) (N : Nat) (P : Nat → Bool),
    bits.length = rows.length → rows.length ≤ N → (∀ p, p < rows.length → P p = (bits[p]?).getD false) →
    (∀ (p : Nat) (r : RowE), rows[p]? = some r → (bits[p]?).getD false = true → r.alive = true) →
    rowsByIndices rows ((List.range N).filter P) = selectedIds rows bits := by
  intro rows
  induction rows with
  | nil =>
    intro bits N P hl _ _ _
    cases bits with
    | nil => exact rowsByIndices_nil _
    | cons _ _ => cases hl
  | cons r rs ih =>
    intro bits N P hl hN hP hal
    cases bits with
    | nil => cases hl
    | cons b bs =>
      obtain ⟨N', rfl⟩ : ∃ N', N = N' + 1 :=
        ⟨N - 1, (Nat.succ_pred_eq_of_pos (Nat.lt_of_lt_of_le (Nat.succ_pos _) hN)).symm⟩
      have hrest : rowsByIndices (r :: rs) (((List.range N').map Nat.succ).filter P) = selectedIds rs bs := by
        rw [List.filter_map, rowsByIndices_succ]
        exact ih bs N' (P ∘ Nat.succ) (Nat.succ.inj hl) (Nat.le_of_succ_le_succ hN)
          (fun p hp => hP (p + 1) (Nat.succ_lt_succ hp)) (fun p r' hr' hb => hal (p + 1) r' hr' hb)
      rw [List.range_succ_eq_map, List.filter_cons, hP 0 (Nat.succ_pos _), List.getElem?_cons_zero, Option.getD_some]
      cases b with
      | true => rw [if_pos rfl, rowsByIndices_zero, if_pos (hal 0 r rfl rfl), hrest]; rfl
      | false => rw [if_neg (by exact Bool.false_ne_true)]; exact hrest

theorem selected_fetch (rows : List RowE) (bm : Bitmap) (bits : List Bool) (ha : Agrees bm bits)
    (hl : bits.length = rows.length)
    (hal : ∀ (p : Nat) (r : RowE), rows[p]? = some r → (bits[p]?).getD false = true → r.alive = true) :
    rowsByIndices rows bm.selected = selectedIds rows bits :=
  rowsByIndices_bits rows bits (64 * bm.nwords) bm.bit hl (by rw [ha.1, hl]; exact bitmapWords_covers _)
    (fun p hp => ha.2 p (hl ▸ hp)) hal

/-- the word-level columnar select equals the per-slot one (hence the specification) whatever the unspecified
    storage holds -/
theorem columnarSelectW_eq (t : Table) (ht : TypedRows t) (u : Unspec) (c : Cond) :
    columnarSelectW t u c = columnarSelect t c := by
  unfold columnarSelectW columnarSelect
  split
  · cases hv : vecFilter t c with
    | none => rw [(vecFilterW_agrees t ht u c).2 hv]
    | some bits =>
      obtain ⟨bm, hbm, hag, hlen⟩ := (vecFilterW_agrees t ht u c).1 bits hv
      rw [hbm]
      simp only
      apply selected_fetch t.rows bm bits hag hlen
      intro p r hr hb
      have hbits := vecFilter_eq t c bits hv
      rw [hbits, List.getElem?_map, hr] at hb
      simp only [Option.map_some, Option.getD_some, matchesRow, Bool.and_eq_true] at hb
      exact hb.1
  · rfl

def IdPos (t : Table) : Prop := ∀ (p : Nat) (r : RowE), t.rows[p]? = some r → r.id = p + 1

theorem idPos_of_map (rows : List RowE) (f : RowE → RowE) (hf : ∀ x, (f x).id = x.id)
    (h : ∀ (p : Nat) (r : RowE), rows[p]? = some r → r.id = p + 1) :
    ∀ (p : Nat) (r : RowE), (rows.map f)[p]? = some r → r.id = p + 1 := by
  intro p r hr
  rw [List.getElem?_map] at hr
  cases hx : rows[p]? with
  | none => simp [hx] at hr
  | some x =>
    simp only [hx, Option.map_some, Option.some.injEq] at hr
    rw [← hr, hf]; exact h p x hx

theorem applyOp_idPos (t : Table) (op : Op) (hi : IdxInv t) (h : IdPos t) : IdPos (applyOp t op) := by
  refine applyOp_cases (P := IdPos) t op hi h ?_ ?_ ?_ ?_ ?_ ?_ ?_
  · intro t _ h vals t' id hins p r hr
    cases (insert_ok hins).2.2
    change (t.rows ++ [_])[p]? = some r at hr
    by_cases hp : p < t.rows.length
    · rw [List.getElem?_append_left hp] at hr; exact h p r hr
    · rw [List.getElem?_append_right (Nat.le_of_not_lt hp)] at hr
      have hp0 : p - t.rows.length = 0 := by
        cases hq : p - t.rows.length with
        | zero => rfl
        | succ q => rw [hq] at hr; cases hr
      rw [hp0] at hr; cases hr
      show t.rows.length + 1 = p + 1
      rw [Nat.le_antisymm (Nat.le_of_not_lt hp) (Nat.le_of_sub_eq_zero hp0)]
  · intro c sets t' n _ hu
    unfold IdPos
    rw [update_rows_eq t c sets t' n hi.1 hu]
    exact idPos_of_map t.rows _ (fun x => by split <;> rfl) h
  · intro c
    unfold IdPos
    rw [delete_rows_eq t c hi.1]
    exact idPos_of_map t.rows _ (fun x => by split <;> rfl) h
  · intro c t' hc; rw [createHashIndex_ok hc]; exact h
  · intro c t' hc; rw [createOrdIndex_ok hc]; exact h
  · intro c t' hc; rw [dropHashIndex_ok hc]; exact h
  · intro c t' hc; rw [dropOrdIndex_ok hc]; exact h

theorem run_idPos (schema : List (ColType × Bool)) (ops : List Op) : IdPos (run schema ops) :=
  run_induction schema (fun _ _ hr => nomatch hr) applyOp_idPos ops

/-- looking a row up by id is reading slot `id - 1` -/
theorem find_by_id_eq_slot (t : Table) (hw : RowsWF t.rows) (hp : IdPos t) (i : Nat) (h1 : 1 ≤ i) :
    t.rows.find? (fun r => decide (r.id = i) && r.alive) =
      (match t.rows[i - 1]? with
       | some r => if r.alive then some r else none
       | none => none) := by
  have slot : ∀ r, t.rows[i - 1]? = some r ↔ r ∈ t.rows ∧ r.id = i := fun r =>
    ⟨fun hs => ⟨List.mem_of_getElem? hs, (hp (i - 1) r hs).trans (Nat.sub_add_cancel h1)⟩, fun ⟨hm, hid⟩ => by
      obtain ⟨p, hpl, rfl⟩ := List.getElem_of_mem hm
      cases Nat.eq_sub_of_add_eq ((hp p _ (List.getElem?_eq_getElem hpl)).symm.trans hid)
      exact List.getElem?_eq_getElem hpl⟩
  cases hf : t.rows.find? (fun r => decide (r.id = i) && r.alive) with
  | some r =>
    obtain ⟨hm, hid, ha⟩ := (find_id_eq_some t.rows hw.1 i r).1 hf
    rw [(slot r).2 ⟨hm, hid⟩]
    exact (if_pos ha).symm
  | none =>
    cases hs : t.rows[i - 1]? with
    | none => rfl
    | some r =>
      by_cases ha : r.alive = true
      · rw [(find_id_eq_some t.rows hw.1 i r).2 ⟨((slot r).1 hs).1, ((slot r).1 hs).2, ha⟩] at hf; cases hf
      · exact (if_neg ha).symm

theorem filterMap_congr_mem {α β : Type} (f g : α → Option β) : ∀ (l : List α), (∀ x ∈ l, f x = g x) →
    l.filterMap f = l.filterMap g := by
  intro l
  induction l with
  | nil => intro _; rfl
  | cons x xs ih =>
    intro h
    rw [List.filterMap_cons, List.filterMap_cons, h x (by simp), ih (fun y hy => h y (List.mem_cons_of_mem _ hy))]

theorem fetch_eq_fetchBySlot (t : Table) (hw : RowsWF t.rows) (hp : IdPos t) (ids : List Nat)
    (h1 : ∀ i ∈ ids, 1 ≤ i) : fetch t ids = fetchBySlot t ids := by
  unfold fetch fetchBySlot
  exact filterMap_congr_mem _ _ ids (fun i hi => find_by_id_eq_slot t hw hp i (h1 i hi))

/-- ids handed out by an index lookup belong to rows, so they are at least 1 -/
theorem lookup_ids_pos (t : Table) (hi : IdxInv t) (hp : IdPos t) (c : Cond) :
    ∀ ids, tryIndexLookup t c = some ids → ∀ i ∈ ids, 1 ≤ i := by
  have entry : ∀ {κ : Type} {key : Value → κ} {col : ColRef} {ix : Idx κ}, KInv key t.rows col ix →
      ∀ pr ∈ ix, 1 ≤ pr.2 := fun k pr hpr => by
    obtain ⟨r, hr, hid, _⟩ := k.sound pr.1 pr.2 hpr
    obtain ⟨p, hpl, hpe⟩ := List.getElem_of_mem hr
    rw [← hid, hp p r (by rw [List.getElem?_eq_getElem hpl, hpe])]
    exact Nat.succ_le_succ (Nat.zero_le p)
  refine lookup_cases (Q := fun _ ids => ∀ i ∈ ids, 1 ≤ i) t (fun col v ix hm i hin => ?_)
    (fun op col v ix hm i hin => ?_) (fun _ _ _ h => h) (fun _ _ _ h => h) c
  · obtain ⟨pr, hpr, rfl⟩ := List.mem_map.1 hin
    exact entry (hi.hash hm) pr (List.mem_filter.1 hpr).1
  · obtain ⟨pr, hpr, rfl⟩ := List.mem_map.1 hin
    exact entry (hi.ord hm) pr (List.mem_filter.1 hpr).1

theorem rowsByIndices_slot_plus_one (t : Table) (hp : IdPos t) (idxs : List Nat) :
    rowsByIndices t.rows idxs =
      (idxs.filter (fun i => match t.rows[i]? with | some r => r.alive | none => false)).map (· + 1) := by
  unfold rowsByIndices
  induction idxs with
  | nil => rfl
  | cons i is ih =>
    rw [List.filterMap_cons, List.filter_cons]
    cases hs : t.rows[i]? with
    | none => simp only [Bool.false_eq_true, if_false]; exact ih
    | some r =>
      simp only
      by_cases ha : r.alive = true
      · simp only [ha, if_true, List.map_cons, ih, hp i r hs]
      · simp only [ha, Bool.false_eq_true, if_false]; exact ih

end Neumann.Rel
