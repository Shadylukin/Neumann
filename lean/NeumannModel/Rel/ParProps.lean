import NeumannModel.Rel.ParLemmas
import NeumannModel.Rel.Props
/-
  C04 — property theorems, part 3: the aggregates do not depend on the execution strategy "sequential fold
  below 1000 selected rows / rayon reduction from 1000 rows on", nor on how rayon splits the selected rows.

  `min` / `max`: `rows.par_iter().filter_map(non-NULL column value).reduce_with(pick)`.  For every splitting
  (`Split`: any binary recursion of cuts, pieces folded left to right, results combined left first) the result
  is the sequential fold of the same rows, hence (`aggregates_touch_exactly`) the extreme of exactly the
  matching rows with NULLs ignored -- provided `partial_cmp_value` orders the column's non-NULL values linearly
  and only identical values compare `Equal` (integer, string, bytes columns; float columns without NaN and with
  one sign of zero: the reducer keeps its RIGHT operand on `Equal` / incomparable, the sequential loop its
  first, so -0.0 / 0.0 / NaN make the bit pattern of the answer depend on the splitting).
  `sum` / `avg` on integer terms: every splitting adds up to the (sum, count) of the list.

  ONLY property statements and their non-vacuity examples live here; helpers are in `ParLemmas.lean`.
-/
namespace Neumann.Rel.ParProps
open Neumann.Rel

/-- `partial_cmp_value` orders `vs` linearly through the key `g`; equal keys only for identical values -/
def Linear (g : Value → Int) (vs : List Value) : Prop :=
  (∀ a ∈ vs, ∀ b ∈ vs, partialCmp a b = some (icmp (g a) (g b))) ∧ (∀ a ∈ vs, ∀ b ∈ vs, g a = g b → a = b)

/-- the key of an integer column -/
def intKey : Value → Int
  | .int k => k
  | _ => 0

/-- an integer column: NULL or `Int` in every row (what `stored_values_well_typed` gives for `ColType.int`) -/
def IntColumn (i : Nat) (rows : List RowE) : Prop :=
  ∀ r ∈ rows, ∀ v, colVal r i = some v → v = .null ∨ ∃ k, v = .int k

/-- **the parallel branch of min / max is split-independent and skips NULLs in every piece**: for every
    list of selected rows, every column, every splitting of the rayon reduction (any cuts, any depth, empty
    pieces included), if `partial_cmp_value` orders the column's non-NULL values linearly, the reduction returns
    what the sequential loop returns over the same rows: the extreme of the non-NULL values (`none` when every
    selected row is NULL) -/
theorem parallel_min_max_independent_of_split (g : Value → Int) (i : Nat) (rows : List RowE)
    (h : Linear g (rows.filterMap (parKeep i))) (s : Split) :
    parReduce (parKeep i) .lt s rows = extremeOf .lt i rows ∧
    parReduce (parKeep i) .gt s rows = extremeOf .gt i rows := by
  constructor
  · apply parReduce_eq_extremeOf (g := g)
    exact ⟨fun a ha b hb => by rw [h.1 a ha b hb]; simp [icmp_lt], h.2⟩
  · apply parReduce_eq_extremeOf (g := fun v => - g v)
    refine ⟨fun a ha b hb => ?_, fun a ha b hb hg => h.2 a ha b hb (by have hg' : - g a = - g b := hg; omega)⟩
    rw [h.1 a ha b hb]
    simp only [Option.some.injEq, icmp_gt_iff]
    omega

/-- integer columns satisfy the hypothesis -/
theorem int_column_is_linear (i : Nat) (rows : List RowE) (h : IntColumn i rows) :
    Linear intKey (rows.filterMap (parKeep i)) := by
  have hint : ∀ a ∈ rows.filterMap (parKeep i), ∃ k, a = .int k := by
    intro a ha
    obtain ⟨r, hr, hk⟩ := List.mem_filterMap.mp ha
    unfold parKeep at hk
    cases hc : colVal r i with
    | none => rw [hc] at hk; simp at hk
    | some v =>
      rcases h r hr v hc with rfl | ⟨k, rfl⟩
      · rw [hc] at hk; simp at hk
      · rw [hc] at hk; simp at hk; exact ⟨k, hk.symm⟩
  constructor
  · intro a ha b hb
    obtain ⟨x, rfl⟩ := hint a ha
    obtain ⟨y, rfl⟩ := hint b hb
    rfl
  · intro a ha b hb hg
    obtain ⟨x, rfl⟩ := hint a ha
    obtain ⟨y, rfl⟩ := hint b hb
    simp only [intKey] at hg
    rw [hg]

/-- **min / max are strategy-independent on every reachable table**: in every reachable state, for every
    condition and every splitting, `min` / `max` with both branches (rayon from `PARALLEL_THRESHOLD` selected
    rows on) return the sequential extreme over exactly the rows for which the condition is true, NULLs
    ignored -- however many rows the condition selects -/
theorem min_max_independent_of_strategy (schema : List (ColType × Bool)) (ops : List Op) (i : Nat) (c : Cond)
    (g : Value → Int) (s : Split) :
    let t := run schema ops
    Linear g ((specRows t c).filterMap (parKeep i)) →
    aggMinPar s t i c = extremeOf .lt i (specRows t c) ∧ aggMaxPar s t i c = extremeOf .gt i (specRows t c) := by
  intro t h
  have hsel : selectRows t c = specRows t c := (Neumann.Rel.Props.aggregates_touch_exactly schema ops i c).1
  have hp := parallel_min_max_independent_of_split g i (specRows t c) h s
  simp only [aggMinPar, aggMaxPar, extremeBoth, hsel]
  constructor
  · split
    · exact hp.1
    · rfl
  · split
    · exact hp.2
    · rfl

private def r1 (v : Value) : RowE := ⟨1, true, [v]⟩

-- non-vacuity: a splitting with an empty piece and a NULL in every piece
example : Linear intKey ([r1 (.int 5), r1 .null, r1 (.int (-2)), r1 .null, r1 (.int 7)].filterMap (parKeep 0)) :=
  int_column_is_linear 0 _ (by
    intro r hr v hv
    simp only [List.mem_cons, List.not_mem_nil, or_false] at hr
    rcases hr with rfl | rfl | rfl | rfl | rfl <;> simp [colVal, r1] at hv <;> simp [← hv])
example : parReduce (parKeep 0) .lt (.node 2 (.node 0 .leaf .leaf) (.node 2 .leaf .leaf))
    [r1 (.int 5), r1 .null, r1 (.int (-2)), r1 .null, r1 (.int 7)] = some (.int (-2)) := by decide +kernel
example : parReduce (parKeep 0) .gt .leaf [r1 .null, r1 .null] = none := by decide

/-- **without the NULL guard in the parallel branch the property fails**: a NULL that reaches the reducer is
    incomparable, the reducer answers its right operand -- `MIN` over `[10, NULL]` is NULL, and over
    `[5, 7, NULL, 6]` it is 6 or 5 depending on where rayon cuts; the sequential loop says 10 and 5 -/
theorem extremeBothParallelKeepsNulls_witness :
    parReduce (parKeepNulls 0) .lt .leaf [r1 (.int 10), r1 .null] = some .null ∧
    extremeOf .lt 0 [r1 (.int 10), r1 .null] = some (.int 10) ∧
    parReduce (parKeepNulls 0) .lt .leaf [r1 (.int 5), r1 (.int 7), r1 .null, r1 (.int 6)] = some (.int 6) ∧
    parReduce (parKeepNulls 0) .lt (.node 2 .leaf .leaf) [r1 (.int 5), r1 (.int 7), r1 .null, r1 (.int 6)]
      = some (.int 5) ∧
    parReduce (parKeepNulls 0) .gt (.node 1 .leaf .leaf) [r1 (.int 9), r1 .null] = some .null := by decide +kernel

/-- **the (sum, count) reduction of sum / avg is split-independent on integer terms**: every splitting adds up
    to the left-to-right (sum, count) of the same rows; NULL rows contribute (0, 0) in every piece -/
theorem parallel_sum_count_independent_of_split (i : Nat) (rows : List RowE) (s : Split) :
    parSumCount i s rows = parSumCount i .leaf rows :=
  by rw [parSumCount_eq, parSumCount_eq]

example : parSumCount 0 (.node 1 .leaf (.node 1 .leaf .leaf)) [r1 (.int 5), r1 .null, r1 (.int (-2))] = (3, 2) := by
  decide

end Neumann.Rel.ParProps
