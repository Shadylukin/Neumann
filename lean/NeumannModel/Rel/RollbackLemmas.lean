import NeumannModel.Rel.BucketLemmas
/-
  C04: a rolled-back DELETE / UPDATE (`begin_transaction; tx_delete / tx_update; rollback`) preserves the index
  invariant and changes no row -- it only moves ids to the END of their vectors.
-/
namespace Neumann.Rel

variable {κ : Type} [DecidableEq κ]

/-- undoing in reverse order what was done in order gives back the slab: `u r` reverts `g r` on rows with `p r` -/
theorem foldl_undo (g u : RowE → RowE → RowE) (hg : ∀ r x, (g r x).id = x.id) (p : RowE → RowE → Prop)
    (hu : ∀ r x, p r x → u r (g r x) = x) :
    ∀ (targets rows : List RowE), (targets.map (·.id)).Nodup → (∀ r ∈ targets, ∀ x ∈ rows, x.id = r.id → p r x) →
      targets.reverse.foldl (fun rows r => mapAt r.id (u r) rows)
        (targets.foldl (fun rows r => mapAt r.id (g r) rows) rows) = rows := by
  unfold mapAt
  intro targets
  induction targets with
  | nil => intro rows _ _; rfl
  | cons r rs ih =>
    intro rows hn hp
    rw [List.map_cons, List.nodup_cons] at hn
    rw [List.foldl_cons, List.reverse_cons, List.foldl_append, ih _ hn.2]
    · show (rows.map _).map _ = rows
      rw [List.map_map]
      refine (List.map_congr_left fun x hx => ?_).trans (List.map_id _)
      simp only [Function.comp]
      by_cases h1 : x.id = r.id
      · rw [if_pos h1, hg, if_pos h1, hu r x (hp r List.mem_cons_self x hx h1)]; rfl
      · rw [if_neg h1, if_neg h1]; rfl
    · intro r2 h2 x' hx' hid'
      obtain ⟨x0, hx0, rfl⟩ := List.mem_map.1 hx'
      have hne : r2.id ≠ r.id := fun e => hn.1 (List.mem_map.2 ⟨r2, h2, e⟩)
      by_cases h0 : x0.id = r.id
      · rw [if_pos h0, hg] at hid'; exact absurd (hid'.symm.trans h0) hne
      · rw [if_neg h0] at hid' ⊢; exact hp r2 (List.mem_cons_of_mem _ h2) x0 hx0 hid'

/-- restoring one deleted row: `x` is the dead slot, `r` the row as recorded before the delete -/
theorem kinv_revive (key : Value → κ) (rows : List RowE) (c : ColRef) (ix : Idx κ) (r x : RowE)
    (h : KInv key rows c ix) (hw : (rows.map (·.id)).Pairwise (· < ·)) (hx : x ∈ rows)
    (hid : x.id = r.id) (hdead : x.alive = false) (hvals : x.vals = r.vals) :
    KInv key (reviveRow r.id rows) c (idxAddRow key r c ix) := by
  -- no entry of the index carries the id of the dead slot
  have hrest : ∀ k i, (k, i) ∈ ix ↔ (k, i) ∈ ix ∧ i ≠ x.id := fun k i =>
    ⟨fun hm => ⟨hm, fun e => by subst e; have := (h.entry_at hw hx hm).2.1; rw [hdead] at this; cases this⟩, And.left⟩
  -- `r` has the id and the values of the slot `x`
  rw [← hid]
  unfold idxAddRow
  rw [← hid, ← hvals]
  split
  · rename_i v hv
    exact kinv_mapAt_add key (fun y => { y with alive := true }) ix v h hw hx h.nodup hrest rfl rfl hv
  · rename_i hv
    exact kinv_mapAt_none key (fun y => { y with alive := true }) ix h hw hx h.nodup hrest
      (not_isEntry_of_none (r := { x with alive := true }) hv)

theorem restoreOne_preserves (t : Table) (r x : RowE) (hi : IdxInv t) (hx : x ∈ t.rows)
    (hid : x.id = r.id) (hdead : x.alive = false) (hvals : x.vals = r.vals) : IdxInv (restoreOne t r) :=
  idxInv_mapAt hi r.id (fun y => { y with alive := true }) (fun _ => rfl) (fun _ _ _ => rfl) _ _
    (fun c ix hm => kinv_revive hashKey t.rows c ix r x (hi.hash hm) hi.1.1 hx hid hdead hvals)
    (fun c ix hm => kinv_revive ordKey t.rows c ix r x (hi.ord hm) hi.1.1 hx hid hdead hvals)

theorem deleteRolledBack_rows (t : Table) (c : Cond) (hw : RowsWF t.rows) : (deleteRolledBack t c).rows = t.rows := by
  unfold deleteRolledBack
  rw [foldl_rows (f := fun rows r => reviveRow r.id rows) (fun _ _ => rfl), deleteFold_rows]
  refine foldl_undo (fun _ x => { x with alive := false }) (fun _ x => { x with alive := true }) (fun _ _ => rfl)
    (fun _ x => x.alive = true) (fun _ x hx => by cases x; cases hx; rfl) _ _ (matching_ids_nodup t c hw) ?_
  intro r hr x hx hid
  rw [id_inj t.rows hw.1 x hx r (mem_matching hr).1 hid]; exact (mem_matching hr).2

theorem deleteRolledBack_preserves (t : Table) (c : Cond) (hi : IdxInv t) : IdxInv (deleteRolledBack t c) := by
  unfold deleteRolledBack
  refine foldl_targets (Q := fun t r => ∃ x ∈ t.rows, x.id = r.id ∧ x.alive = false ∧ x.vals = r.vals)
    (fun t r hi ⟨x, hx, hid, hdead, hvals⟩ => restoreOne_preserves t r x hi hx hid hdead hvals)
    (fun _ r _ _ _ ⟨x, hx, hid, h⟩ hne => ⟨x, mem_mapAt_of_ne _ hx (hid ▸ hne), hid, h⟩)
    _ _ (delete_preserves t c hi) (fun r hr => ?_)
    (by rw [List.map_reverse]; exact (List.reverse_perm _).nodup_iff.2 (matching_ids_nodup t c hi.1))
  have hrows := delete_rows_eq t c hi.1
  unfold delete at hrows
  rw [hrows]
  have hr' := List.mem_filter.1 (List.mem_reverse.1 hr)
  exact ⟨{ r with alive := false }, List.mem_map.2 ⟨r, hr'.1, if_pos hr'.2⟩, rfl, rfl, rfl⟩

/-- undoing the update of one row: `y` is the updated row in the table, `r` the row before the update -/
theorem kinv_revert (key : Value → κ) (sets : List (Nat × Value)) (rows : List RowE) (c : ColRef) (ix : Idx κ)
    (r y : RowE) (h : KInv key rows c ix) (hw : (rows.map (·.id)).Pairwise (· < ·)) (hy : y ∈ rows)
    (hid : y.id = r.id) (hlive : y.alive = true) (hvals : y.vals = applySetsFrom sets 0 r.vals) :
    KInv key (setRow r.id r.vals rows) c (idxRevertRow key sets r c ix) := by
  rw [← hid]
  -- columns the SET list does not name hold in `y` what they held in `r`
  have same : (∀ j, c = .col j → setsGet j sets = none) → getWithId y.id r.vals c = getWithId y.id y.vals c :=
    fun hn => by rw [hvals, getWithId_applySets_of_none sets _ _ _ hn]
  unfold idxRevertRow
  split
  · exact kinv_replace_same key rows .id ix y r.vals h hw hy rfl
  · rename_i j
    split
    · rename_i hsg
      exact kinv_replace_same key rows _ ix y r.vals h hw hy (same fun j' e => by cases e; exact hsg)
    · rename_i nv hsg
      rw [← hid]
      have hcur : y.vals[j]? = (r.vals[j]?).map (fun v => (setsGet j sets).getD v) := by
        rw [hvals, applySetsFrom_get, Nat.zero_add]
      split
      · -- `y` holds the SET value `nv`, so removing `key nv` is removing `y`'s entry
        rename_i ov hov
        have hyv : getWithId y.id y.vals (.col j) = some nv := by
          show y.vals[j]? = some nv
          rw [hcur, show r.vals[j]? = some ov from hov, hsg]; rfl
        have hrem : idxRemove (key nv) y.id ix = idxRemoveRow key y (.col j) ix := by
          unfold idxRemoveRow; rw [hyv]
        rw [hrem]
        exact kinv_replace key rows _ ix y r.vals ov h hw hy hlive hov
      · rename_i hov
        refine kinv_replace_same key rows _ ix y r.vals h hw hy ?_
        show r.vals[j]? = y.vals[j]?
        rw [hcur, show r.vals[j]? = none from hov]; rfl

theorem revertOne_preserves (sets : List (Nat × Value)) (t : Table) (r y : RowE) (hi : IdxInv t)
    (hy : y ∈ t.rows) (hid : y.id = r.id) (hlive : y.alive = true)
    (hvals : y.vals = applySetsFrom sets 0 r.vals) : IdxInv (revertOne sets t r) := by
  refine idxInv_mapAt hi r.id (fun x => { x with vals := r.vals }) (fun _ => rfl) ?_ _ _
    (fun c ix hm => kinv_revert hashKey sets t.rows c ix r y (hi.hash hm) hi.1.1 hy hid hlive hvals)
    (fun c ix hm => kinv_revert ordKey sets t.rows c ix r y (hi.ord hm) hi.1.1 hy hid hlive hvals)
  intro r0 h0 e
  rw [id_inj t.rows hi.1.1 r0 h0 y hy (e.trans hid.symm), hvals, applySetsFrom_length]

theorem updateRolledBack_ok {t : Table} {c : Cond} {sets : List (Nat × Value)} {t' : Table} {n : Nat}
    (h : updateRolledBack t c sets = .ok (t', n)) :
    validateSets t.schema sets = none ∧ n = (matching t c).length ∧
      t' = (matching t c).reverse.foldl (revertOne sets) ((matching t c).foldl (updateOne sets) t) := by
  unfold updateRolledBack at h
  split at h
  · cases h
  · rename_i hv; cases h; exact ⟨hv, rfl, rfl⟩

theorem updateRolledBack_rows (t : Table) (c : Cond) (sets : List (Nat × Value)) (t' : Table) (n : Nat)
    (hw : RowsWF t.rows) (h : updateRolledBack t c sets = .ok (t', n)) :
    t'.rows = t.rows ∧ t'.schema = t.schema ∧ n = (matching t c).length := by
  obtain ⟨_, rfl, rfl⟩ := updateRolledBack_ok h
  refine ⟨?_, by rw [foldl_schema (step := revertOne sets) (fun _ _ => rfl),
    updateFold_schema], rfl⟩
  rw [foldl_rows (f := fun rows r => setRow r.id r.vals rows) (fun _ _ => rfl), updateFold_rows]
  refine foldl_undo (fun r x => { x with vals := applySetsFrom sets 0 r.vals }) (fun r x => { x with vals := r.vals })
    (fun _ _ => rfl) (fun r x => x.vals = r.vals) (fun r x hx => by cases x; cases hx; rfl) _ _
    (matching_ids_nodup t c hw) ?_
  intro r hr x hx hid
  rw [id_inj t.rows hw.1 x hx r (mem_matching hr).1 hid]

theorem updateRolledBack_preserves (t : Table) (c : Cond) (sets : List (Nat × Value)) (t' : Table) (n : Nat)
    (hi : IdxInv t) (h : updateRolledBack t c sets = .ok (t', n)) : IdxInv t' := by
  obtain ⟨hv, _, rfl⟩ := updateRolledBack_ok h
  refine foldl_targets
    (Q := fun t r => ∃ y ∈ t.rows, y.id = r.id ∧ y.alive = true ∧ y.vals = applySetsFrom sets 0 r.vals)
    (fun t r hi ⟨y, hy, hid, hlive, hvals⟩ => revertOne_preserves sets t r y hi hy hid hlive hvals)
    (fun _ r _ _ _ ⟨y, hy, hid, h⟩ hne => ⟨y, mem_mapAt_of_ne _ hy (hid ▸ hne), hid, h⟩)
    _ _ (updateFold_preserves sets t c hi hv) (fun r hr => ?_)
    (by rw [List.map_reverse]; exact (List.reverse_perm _).nodup_iff.2 (matching_ids_nodup t c hi.1))
  have hr' := List.mem_filter.1 (List.mem_reverse.1 hr)
  rw [update_rows_eq t c sets _ _ hi.1 (by unfold update; rw [hv])]
  exact ⟨{ r with vals := applySetsFrom sets 0 r.vals }, List.mem_map.2 ⟨r, hr'.1, if_pos hr'.2⟩, rfl,
    (mem_matching (List.mem_reverse.1 hr)).2, rfl⟩

theorem applyX_preserves (t : Table) (op : XOp) (hi : IdxInv t) : IdxInv (applyX t op) := by
  cases op with
  | base op => exact applyOp_preserves t op hi
  | deleteRollback c => exact deleteRolledBack_preserves t c hi
  | updateRollback c sets =>
    simp only [applyX]
    split
    · exact updateRolledBack_preserves t c sets _ _ hi ‹_›
    · exact hi

theorem runX_inv (schema : List (ColType × Bool)) (ops : List XOp) : IdxInv (runX schema ops) := by
  unfold runX
  suffices ∀ t, IdxInv t → IdxInv (ops.foldl applyX t) from this _ (idxInv_empty schema)
  induction ops with
  | nil => intro t h; exact h
  | cons op ops ih => intro t h; exact ih _ (applyX_preserves t op h)

end Neumann.Rel
