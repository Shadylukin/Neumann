import NeumannModel.Rel.VecLemmas
/-
  C04 — property theorems: every execution strategy returns exactly the rows that satisfy the condition,
  in every reachable table state.  ONLY property statements and their non-vacuity examples live here;
  helpers are in `Lemmas.lean` (strategies on a state with the index invariant), `Preserve.lean`
  (every operation preserves the invariant), `Extend.lean` (UPDATE image, aggregates, derived strategies,
  depth limit) and `VecLemmas.lean` (typing invariant, word level of the vectorised filter).
-/
namespace Neumann.Rel.Props
open Neumann.Rel

/-- values that compare equal land in the same hash bucket (so an index lookup is a superset of the matches) -/
theorem eq_implies_same_hashKey (v w : Value) (h : Value.eq v w = true) : hashKey v = hashKey w :=
  Neumann.Rel.eq_implies_same_hashKey v w h

example : Value.eq (.float 9223372036854775808) (.float 0) = true := by decide

/-- with the pre-fix bucket function (raw bit pattern) the lemma is false: -0.0 == 0.0 but the buckets differ -/
theorem old_hashKey_witness :
    ∃ v w, Value.eq v w = true ∧ hashKeyOld v ≠ hashKeyOld w :=
  ⟨.float 9223372036854775808, .float 0, by decide, by decide⟩

/-! ### JSON columns (repaired in /repo f72f348f) -/

/-- the JSON numbers `-0.0`, `0.0`, the object `{"a": -0.0}` / `{"a": 0.0}` and the array `[0.0]` / `[-0.0]`
    with their renderings (UTF-8 bytes) -/
def jNegZero : Value := .json (.num (.flt 9223372036854775808)) [45, 48, 46, 48]
def jPosZero : Value := .json (.num (.flt 0)) [48, 46, 48]
def jObjNegZero : Value := .json (.ocons [97] (.num (.flt 9223372036854775808)) .onil) [123, 34, 97, 34, 58, 45, 48, 46, 48, 125]
def jObjPosZero : Value := .json (.ocons [97] (.num (.flt 0)) .onil) [123, 34, 97, 34, 58, 48, 46, 48, 125]
def jArrPosZero : Value := .json (.acons (.num (.flt 0)) .anil) [91, 48, 46, 48, 93]
def jArrNegZero : Value := .json (.acons (.num (.flt 9223372036854775808)) .anil) [91, 45, 48, 46, 48, 93]
def jIntZero : Value := .json (.num (.pos 0)) [48]

/-- **what the repair rests on**: for every pair of JSON trees, equality under `serde_json::Value`'s
    `PartialEq` (numbers of one kind compared by payload, floats with `f64 ==`, arrays / objects pairwise)
    implies that `json_with_positive_zeros` maps both to the same tree -- so both render to the same text and
    the hash index puts them into the same bucket (`eq_implies_same_hashKey` above is stated for every `Value`,
    JSON included) -/
theorem json_eq_implies_same_normalised_tree (a b : Json) (h : Json.eq a b = true) :
    a.posZeros = b.posZeros :=
  json_eq_same_posZeros a b h

example : Value.eq jNegZero jPosZero = true ∧ hashKey jNegZero = hashKey jPosZero := by decide
example : Value.eq jObjNegZero jObjPosZero = true ∧ hashKey jObjNegZero = hashKey jObjPosZero := by decide
example : Value.eq jArrNegZero jArrPosZero = true ∧ hashKey jArrNegZero = hashKey jArrPosZero := by decide
/-- the integer `0` and the float `0.0` are different JSON numbers (different `N` kinds) and stay in
    different buckets -/
example : Value.eq jIntZero jPosZero = false ∧ hashKey jIntZero ≠ hashKey jPosZero := by decide

/-- the defect repaired by f72f348f: `hash_key` hashed the rendered text of the JSON value as it is, so two
    equal JSON values (`-0.0 == 0.0`, also nested in an object or an array) got different buckets -/
theorem json_text_hashKey_witness :
    (Value.eq jNegZero jPosZero = true ∧ hashKeyJsonTextOld jNegZero ≠ hashKeyJsonTextOld jPosZero) ∧
    (Value.eq jObjNegZero jObjPosZero = true ∧ hashKeyJsonTextOld jObjNegZero ≠ hashKeyJsonTextOld jObjPosZero) ∧
    (Value.eq jArrNegZero jArrPosZero = true ∧ hashKeyJsonTextOld jArrNegZero ≠ hashKeyJsonTextOld jArrPosZero) := by
  decide

/-- the rows of the finding: `-0.0`, `0.0`, `{"a":-0.0}`, `[0.0]` -/
def jsonFindingRows : List RowE :=
  [⟨1, true, [jNegZero]⟩, ⟨2, true, [jPosZero]⟩, ⟨3, true, [jObjNegZero]⟩, ⟨4, true, [jArrPosZero]⟩]

/-- ... and what it did to queries: on those rows `WHERE j = 0.0` is true of rows 1 and 2; through a hash index
    keyed by the text-as-it-is bucket function the index path returns row 2 only (and `{"a":0.0}` / `[-0.0]`
    find nothing), with the repaired bucket function it returns exactly the matching rows -/
theorem json_text_hash_index_misses_rows_witness :
    (jsonFindingRows.filter (matchesRow (.eq (.col 0) jPosZero))).map (·.id) = [1, 2] ∧
    selectHashWith hashKeyJsonTextOld jsonFindingRows (.col 0) jPosZero = [2] ∧
    selectHashWith hashKeyJsonTextOld jsonFindingRows (.col 0) jObjPosZero = [] ∧
    selectHashWith hashKeyJsonTextOld jsonFindingRows (.col 0) jArrNegZero = [] ∧
    selectHashWith hashKey jsonFindingRows (.col 0) jPosZero = [1, 2] ∧
    selectHashWith hashKey jsonFindingRows (.col 0) jObjPosZero = [3] ∧
    selectHashWith hashKey jsonFindingRows (.col 0) jArrNegZero = [4] := by
  decide +kernel

/-- the B-tree key order agrees with the value order wherever the latter is defined (so a key range is a
    superset of the matches); NaN, nulls, booleans and cross-type pairs have no value order and never match -/
theorem cmp_agrees_with_orderedKey (v w : Value) (o : Ordering) (h : partialCmp v w = some o) :
    OKey.cmp (ordKey v) (ordKey w) = o :=
  Neumann.Rel.cmp_agrees_with_orderedKey v w o h

example : partialCmp (.float 9223372036854775808) (.float 4607182418800017408) = some .lt := by decide
/-- JSON values are ordered by their rendered text, in the condition and in the B-tree key alike -/
example : partialCmp jNegZero jPosZero = some .lt ∧ OKey.cmp (ordKey jNegZero) (ordKey jPosZero) = .lt := by decide

/-- insert / update / delete / create index / drop index (successful or failing) preserve the index invariant:
    every index holds exactly one (key, id) pair per live row, keyed by the row's current value -/
theorem index_invariant_preserved (t : Table) (op : Op) (h : IdxInv t) : IdxInv (applyOp t op) :=
  applyOp_preserves t op h

/-- the invariant holds in every reachable state (induction over the operation sequence) -/
theorem reachable_index_invariant (schema : List (ColType × Bool)) (ops : List Op) : IdxInv (run schema ops) :=
  run_inv schema ops

/-- a reachable state with live rows, a dead slot, a hash and a B-tree index (hypothesis of the above is inhabited
    non-trivially, and the strategies below run on it) -/
def demoOps : List Op :=
  [.insert [.float 9223372036854775808, .null], .createHash (.col 0), .createOrd (.col 1),
   .insert [.float 0, .int 5], .insert [.float 4607182418800017408, .int 7],
   .update (.eq (.col 1) (.int 7)) [(1, .null)], .delete (.eq (.col 0) (.float 4607182418800017408)),
   .insert [.float 9221120237041090560, .int (-3)]]
def demoSchema : List (ColType × Bool) := [(.float, false), (.int, true)]

example : spec (run demoSchema demoOps) (.eq (.col 0) (.float 0)) = [1, 2] := by decide +kernel
example : select (run demoSchema demoOps) (.eq (.col 0) (.float 0)) = [1, 2] := by decide +kernel
example : (tryIndexLookup (run demoSchema demoOps) (.rng .lt (.col 1) (.int 6))).isSome = true := by decide +kernel
example : select (run demoSchema demoOps) (.rng .lt (.col 1) (.int 6)) = [2, 4] := by decide +kernel
example : columnarSelect (run demoSchema demoOps) (.rng .lt (.col 1) (.int 6)) = [2, 4] := by decide +kernel

/-- a reachable state with a JSON column that holds the rows of the f72f348f finding, a hash index created
    over existing rows and maintained through an insert, an update and a delete, and a B-tree index -/
def jsonDemoSchema : List (ColType × Bool) := [(.json, true), (.int, false)]
def jsonDemoOps : List Op :=
  [.insert [jNegZero, .int 1], .insert [jPosZero, .int 2], .createHash (.col 0),
   .insert [jObjNegZero, .int 3], .insert [jArrPosZero, .int 4], .insert [jIntZero, .int 5], .insert [.null, .int 6],
   .update (.eq (.col 1) (.int 5)) [(0, jNegZero)], .delete (.eq (.col 1) (.int 2)), .createOrd (.col 0)]

example : (tryIndexLookup (run jsonDemoSchema jsonDemoOps) (.eq (.col 0) jPosZero)).isSome = true := by decide +kernel
example : spec (run jsonDemoSchema jsonDemoOps) (.eq (.col 0) jPosZero) = [1, 5] := by decide +kernel
example : select (run jsonDemoSchema jsonDemoOps) (.eq (.col 0) jPosZero) = [1, 5] := by decide +kernel
example : select (run jsonDemoSchema jsonDemoOps) (.eq (.col 0) jObjPosZero) = [3] := by decide +kernel
example : count (run jsonDemoSchema jsonDemoOps) (.eq (.col 0) jArrNegZero) = 1 := by decide +kernel
example : (tryIndexLookup (run jsonDemoSchema jsonDemoOps) (.rng .le (.col 0) jPosZero)).isSome = true := by decide +kernel
example : select (run jsonDemoSchema jsonDemoOps) (.rng .le (.col 0) jPosZero) = [1, 5] := by decide +kernel

/-- **strategies agree**: in every reachable table state (every schema -- JSON columns included since the
    repair f72f348f --, every sequence of
    inserts / updates / deletes / index creations / index drops) and for every condition tree, the full scan,
    the index path of `select` (hash lookup or B-tree range, then re-check), `select_with_limit`, `count`,
    the streaming cursor and the vectorised columnar filter all return exactly `rows.filter (evaluate c)`
    (as ascending row ids; limit/offset = that list's window; count = its length) -/
theorem strategies_agree (schema : List (ColType × Bool)) (ops : List Op) (c : Cond) :
    let t := run schema ops
    scanSelect t c = spec t c ∧
    select t c = spec t c ∧
    (∀ ids, tryIndexLookup t c = some ids → selectViaIds t c ids = spec t c) ∧
    (∀ limit offset, selectLimit t c limit offset = ((spec t c).drop offset).take limit) ∧
    count t c = (spec t c).length ∧
    (∀ batch, 0 < batch → cursorSelect t c batch = spec t c) ∧
    columnarSelect t c = spec t c := by
  intro t
  have hi : IdxInv t := run_inv schema ops
  refine ⟨scanSelect_eq_spec t c hi.1, select_eq_spec t hi c, ?_, selectLimit_eq t hi c, count_eq t hi c,
    fun b hb => cursorSelect_eq t hi c b hb, columnarSelect_eq t hi c⟩
  intro ids h
  exact selectViaIds_eq_spec t c ids hi.1 (lookup_sound t hi c ids h)

/-- creating or dropping an index (hash or B-tree, on any column or `_id`) changes no row and no query answer -/
theorem create_drop_index_transparent (schema : List (ColType × Bool)) (ops : List Op) (col : ColRef) (q : Cond)
    (op : Op) (hop : op = .createHash col ∨ op = .createOrd col ∨ op = .dropHash col ∨ op = .dropOrd col) :
    let t := run schema ops
    let t' := applyOp t op
    t'.rows = t.rows ∧ select t' q = select t q ∧ count t' q = count t q ∧
      columnarSelect t' q = columnarSelect t q ∧
      (∀ l o, selectLimit t' q l o = selectLimit t q l o) := by
  intro t t'
  have hi : IdxInv t := run_inv schema ops
  have hi' : IdxInv t' := applyOp_preserves t op hi
  have hrows : t'.rows = t.rows :=
    (indexOp_rows t op (by rcases hop with rfl | rfl | rfl | rfl <;> rfl)).1
  have hspec : spec t' q = spec t q := by unfold spec; rw [hrows]
  refine ⟨hrows, ?_, ?_, ?_, ?_⟩
  · rw [select_eq_spec t' hi' q, select_eq_spec t hi q, hspec]
  · rw [count_eq t' hi' q, count_eq t hi q, hspec]
  · rw [columnarSelect_eq t' hi' q, columnarSelect_eq t hi q, hspec]
  · intro l o; rw [selectLimit_eq t' hi' q, selectLimit_eq t hi q, hspec]

/-- **indexes never change results, over whole histories**: take any operation sequence and the same
    sequence with every index creation / drop removed (an engine that never had an index).  Both end with the
    same slab and schema, hence every strategy on the indexed state -- hash lookup, B-tree range, limit/offset,
    count, cursor, columnar -- returns exactly what the full scan of the never-indexed state returns -/
theorem indexes_never_change_results (schema : List (ColType × Bool)) (ops : List Op) (c : Cond) :
    let t := run schema ops
    let u := run schema (ops.filter (fun o => !o.isIndexOp))
    t.rows = u.rows ∧ t.schema = u.schema ∧
    select t c = scanSelect u c ∧ count t c = (scanSelect u c).length ∧ columnarSelect t c = scanSelect u c ∧
    (∀ l o, selectLimit t c l o = ((scanSelect u c).drop o).take l) ∧
    (∀ b, 0 < b → cursorSelect t c b = scanSelect u c) ∧
    selectRows t c = specRows u c := by
  intro t u
  have hi : IdxInv t := run_inv schema ops
  have hu : IdxInv u := run_inv schema _
  obtain ⟨hr, hs⟩ := run_rows_strip ops (Table.empty schema) (Table.empty schema) rfl rfl
  have hspec : spec t c = spec u c := by unfold spec; rw [show t.rows = u.rows from hr]
  have hscan : scanSelect u c = spec t c := by rw [scanSelect_eq_spec u c hu.1, hspec]
  refine ⟨hr, hs, ?_, ?_, ?_, ?_, ?_, ?_⟩
  · rw [hscan, select_eq_spec t hi c]
  · rw [hscan, count_eq t hi c]
  · rw [hscan, columnarSelect_eq t hi c]
  · intro l o; rw [hscan, selectLimit_eq t hi c]
  · intro b hb; rw [hscan, cursorSelect_eq t hi c b hb]
  · rw [selectRows_eq_specRows t hi c]; unfold specRows; rw [show t.rows = u.rows from hr]

example : (demoOps.filter (fun o => !o.isIndexOp)).length = 6 := by decide
example : select (run demoSchema demoOps) (.rng .lt (.col 1) (.int 6)) =
    scanSelect (run demoSchema (demoOps.filter (fun o => !o.isIndexOp))) (.rng .lt (.col 1) (.int 6)) := by decide +kernel

/-- DELETE with a condition removes exactly the rows for which the condition is true (every other slot is
    untouched), reports their number, and leaves a state in which all strategies agree again -/
theorem update_delete_touch_exactly (schema : List (ColType × Bool)) (ops : List Op) (c : Cond) :
    let t := run schema ops
    (delete t c).1.rows = t.rows.map (fun x => if matchesRow c x then { x with alive := false } else x) ∧
    (delete t c).2 = (spec t c).length ∧
    IdxInv (delete t c).1 := by
  intro t
  have hi : IdxInv t := run_inv schema ops
  exact ⟨delete_rows_eq t c hi.1, matching_length t c, delete_preserves t c hi⟩

/-- UPDATE with a condition rewrites exactly the rows for which the condition is true -- each of them gets the
    SET columns overwritten and keeps every other column, every other slot (live or dead) is untouched --,
    reports their number, keeps the schema and the index invariant (so all strategies agree afterwards) -/
theorem update_touch_exactly (schema : List (ColType × Bool)) (ops : List Op) (c : Cond)
    (sets : List (Nat × Value)) (t' : Table) (n : Nat)
    (h : update (run schema ops) c sets = .ok (t', n)) :
    t'.rows = (run schema ops).rows.map
        (fun x => if matchesRow c x then { x with vals := applySetsFrom sets 0 x.vals } else x) ∧
    n = (spec (run schema ops) c).length ∧ IdxInv t' := by
  have hi := run_inv schema ops
  exact ⟨update_rows_eq _ c sets t' n hi.1 h, (update_ok h).2.2.trans (matching_length _ c),
    update_preserves _ c sets t' n hi h⟩

example : (update (run demoSchema demoOps) (.rng .ge (.col 1) (.int 0)) [(1, .int 9)]).toOption.map (·.2) = some 1 := by
  decide +kernel

/-- a rejected UPDATE (unknown column, wrong type, NULL into a NOT NULL column) changes nothing -/
theorem update_rejected_changes_nothing (t : Table) (c : Cond) (sets : List (Nat × Value)) (e : Err)
    (_h : update t c sets = .error e) : applyOp t (.update c sets) = t := by
  simp only [applyOp, _h]

example : update (run demoSchema demoOps) .tt [(0, .null)] = .error .nullNotAllowed := by decide +kernel

/-- **aggregates touch exactly the matching rows**: in every reachable state the row records `select` hands to
    `sum` / `avg` / `min` / `max` are exactly the live rows for which the condition is true, in id order --
    whichever plan `select` took -- so the list of addends of `sum` / `avg` and the sequential `min` / `max`
    folds are those of the specification; `count_column` (own fast path, index path and scan path) counts
    exactly the matching rows whose column is not NULL.  (The f64 additions of `sum` / `avg` and the rayon
    reduction used from 1000 selected rows on are outside the model.) -/
theorem aggregates_touch_exactly (schema : List (ColType × Bool)) (ops : List Op) (i : Nat) (c : Cond) :
    let t := run schema ops
    selectRows t c = specRows t c ∧
    aggSumTerms t i c = sumTerms i (specRows t c) ∧
    aggMin t i c = extremeOf .lt i (specRows t c) ∧
    aggMax t i c = extremeOf .gt i (specRows t c) ∧
    (i < t.schema.length → countColumn t i c = .ok ((specRows t c).filter (nonNull i)).length) := by
  intro t
  have hi : IdxInv t := run_inv schema ops
  obtain ⟨h1, h2, h3⟩ := aggregates_eq t hi i c
  exact ⟨selectRows_eq_specRows t hi c, h1, h2, h3, countColumn_eq t hi i c⟩

example : aggMin (run demoSchema demoOps) 1 (.rng .lt (.col 1) (.int 6)) = some (.int (-3)) := by decide +kernel
example : aggMax (run demoSchema demoOps) 0 .tt = some (.float 9223372036854775808) := by decide +kernel
example : aggSumTerms (run demoSchema demoOps) 1 .tt = [.int 5, .int (-3)] := by decide +kernel
example : countColumn (run demoSchema demoOps) 1 (.eq (.col 0) (.float 0)) = .ok 1 := by decide +kernel

/-- **derived strategies agree**: `select_iter` (limit / offset-only / plain), the streaming cursor with
    `max_rows`, and the query router's text paths (parsed: columnar select, then OFFSET, then LIMIT; legacy:
    select, then LIMIT) return the corresponding window of exactly the matching rows in every reachable state -/
theorem derived_strategies_agree (schema : List (ColType × Bool)) (ops : List Op) (c : Cond) :
    let t := run schema ops
    (∀ limit offset, selectIter t c limit offset =
        (match limit with
         | some l => ((spec t c).drop offset).take l
         | none => (spec t c).drop offset)) ∧
    (∀ batch max, 0 < batch → cursorSelectMax t c batch max =
        (match max with | some m => (spec t c).take m | none => spec t c)) ∧
    (∀ limit offset, routerSelect t c limit offset =
        (let rows := match offset with | some o => (spec t c).drop o | none => spec t c
         match limit with | some l => rows.take l | none => rows)) ∧
    (∀ limit, routerSelectLegacy t c limit =
        (match limit with | some l => (spec t c).take l | none => spec t c)) := by
  intro t
  have hi : IdxInv t := run_inv schema ops
  exact ⟨selectIter_eq t hi c, fun b m hb => cursorSelectMax_eq t hi c b hb m, routerSelect_eq t hi c,
    routerSelectLegacy_eq t hi c⟩

example : cursorSelectMax (run demoSchema demoOps) .tt 1 (some 2) = [1, 2] := by decide +kernel
example : selectIter (run demoSchema demoOps) .tt none 1 = [2, 4] := by decide +kernel
example : routerSelect (run demoSchema demoOps) .tt (some 1) (some 1) = [2] := by decide +kernel

/-- `batch_insert` validates every row first: if one row is rejected nothing is inserted; otherwise the
    resulting table is exactly that of inserting the rows one by one (so it is a reachable state and the index
    invariant holds) -/
theorem batch_insert_is_sequence_of_inserts (schema : List (ColType × Bool)) (ops : List Op)
    (rows : List (List Value)) :
    let t := run schema ops
    (∀ t' ids, batchInsert t rows = .ok (t', ids) →
        t' = rows.foldl (fun t v => applyOp t (.insert v)) t ∧ IdxInv t') ∧
    (∀ e, batchInsert t rows = .error e → applyOp t (.batchInsert rows) = t) := by
  intro t
  have hi : IdxInv t := run_inv schema ops
  refine ⟨?_, ?_⟩
  · intro t' ids h
    have e := batchInsert_eq_inserts t rows t' ids h
    exact ⟨e, e ▸ insertsFold_preserves rows t hi⟩
  · intro e h
    simp only [applyOp, h]

example : (batchInsert (run demoSchema demoOps) [[.float 0, .null], [.float 1, .int 2]]).toOption.map (·.2)
    = some [5, 6] := by decide +kernel
example : batchInsert (run demoSchema demoOps) [[.float 0, .null], [.null, .int 2]] = .error .nullNotAllowed := by
  decide +kernel

/-- `Condition::evaluate_with_depth` (what every row path of the engine really calls): it never returns a
    wrong truth value -- it returns `evaluate`'s answer or `ConditionTooDeep` -- and for a condition tree no
    deeper than `max_condition_depth` it always returns `evaluate`'s answer -/
theorem evaluate_with_depth_agrees (mx : Nat) (c : Cond) (d id : Nat) (row : List Value) :
    (∀ b, evalDepth mx c d id row = .ok b → b = evaluate c id row) ∧
    (d + condDepth c ≤ mx → evalDepth mx c d id row = .ok (evaluate c id row)) :=
  ⟨evalDepth_sound mx c d id row, evalDepth_within mx c d id row⟩

example : evalDepth 1 (.and (.and .tt .tt) .tt) 0 1 [] = .error () := by decide
example : evalDepth 1 (.and (.eq (.col 0) (.int 1)) (.and (.and .tt .tt) .tt)) 0 1 [.int 2] = .ok false := by decide

/-- **the depth limit never changes which rows are touched**: in every reachable state, for every
    `max_condition_depth` and every condition tree, each strategy run with the depth check either fails with
    `ConditionTooDeep` or returns exactly the rows for which the condition is true (UPDATE / DELETE: either
    fail before touching anything, or do exactly what they do without the limit); when the tree is no deeper
    than the limit every strategy succeeds -/
theorem depth_limited_strategies_agree (schema : List (ColType × Bool)) (ops : List Op) (mx : Nat) (c : Cond) :
    let t := run schema ops
    (∀ ids, selectE mx t c = .ok ids → ids = spec t c) ∧
    (∀ n, countE mx t c = .ok n → n = (spec t c).length) ∧
    (∀ l o ids, selectLimitE mx t c l o = .ok ids → ids = ((spec t c).drop o).take l) ∧
    (∀ ids, columnarE mx t c = .ok ids → ids = spec t c) ∧
    (∀ p, deleteE mx t c = .ok p → p = delete t c) ∧
    (∀ sets p, updateE mx t c sets = .ok p → p = update t c sets) ∧
    (condDepth c ≤ mx →
      selectE mx t c = .ok (spec t c) ∧ countE mx t c = .ok (spec t c).length ∧
      (∀ l o, selectLimitE mx t c l o = .ok (((spec t c).drop o).take l)) ∧
      columnarE mx t c = .ok (spec t c) ∧ deleteE mx t c = .ok (delete t c) ∧
      (∀ sets, updateE mx t c sets = .ok (update t c sets))) := by
  intro t
  have hi : IdxInv t := run_inv schema ops
  refine ⟨?_, ?_, ?_, ?_, deleteE_sound mx t c, updateE_sound mx t c, ?_⟩
  · intro ids h; rw [selectE_sound mx t c ids h, select_eq_spec t hi c]
  · intro n h; rw [countE_sound mx t c n h, count_eq t hi c]
  · intro l o ids h; rw [selectLimitE_sound mx t c l o ids h, selectLimit_eq t hi c]
  · intro ids h; rw [columnarE_sound mx t c ids h, columnarSelect_eq t hi c]
  · intro hd
    refine ⟨?_, ?_, ?_, ?_, deleteE_within mx t c hd, fun sets => updateE_within mx t c sets hd⟩
    · rw [selectE_within mx t c hd, select_eq_spec t hi c]
    · rw [countE_within mx t c hd, count_eq t hi c]
    · intro l o; rw [selectLimitE_within mx t c l o hd, selectLimit_eq t hi c]
    · rw [columnarE_within mx t c hd, columnarSelect_eq t hi c]

/-- beyond the limit the *outcome* does depend on the strategy (the vectorised path never checks the depth):
    the row path fails with `ConditionTooDeep` where the columnar path returns the matching rows -/
theorem depth_limit_outcome_strategy_dependent_witness :
    ∃ (ops : List Op) (c : Cond),
      selectE 0 (run [(.int, false)] ops) c = .error () ∧
      columnarE 0 (run [(.int, false)] ops) c = .ok (spec (run [(.int, false)] ops) c) ∧
      spec (run [(.int, false)] ops) c = [1] :=
  ⟨[.insert [.int 1]], .and (.eq (.col 0) (.int 1)) (.rng .ge (.col 0) (.int 0)), by decide +kernel, by decide +kernel, by decide +kernel⟩

/-- every stored value is NULL or of its column's type, in every reachable state (insert / batch_insert /
    update validate; delete and index DDL do not touch values) -/
theorem stored_values_well_typed (schema : List (ColType × Bool)) (ops : List Op) :
    ∀ r ∈ (run schema ops).rows, ∀ (j : Nat) (ty : ColType) (nl : Bool) (v : Value),
      (run schema ops).schema[j]? = some (ty, nl) → r.vals[j]? = some v → typeOk ty v = true :=
  run_typed schema ops

example : typeOk .float (.float 0) = true ∧ typeOk .float (.int 0) = false := by decide

/-- the SIMD filter loop (`len / 4` chunks of four lanes, then the remainder, each hit doing
    `result[i / 64] |= 1 << (i % 64)` on a zeroed `bitmap_words(len)` vector) sets exactly the bits of the
    positions below `len` whose value satisfies the comparison -/
theorem simd_filter_sets_exactly_matching_bits (n : Nat) (pred : Nat → Bool) (p : Nat) :
    (simdFilter n pred).bit p = (decide (p < n) && pred p) ∧ (simdFilter n pred).nwords = (n + 63) / 64 :=
  simdFilter_bit n pred p

example : (simdFilter 7 (fun i => i % 2 = 1)).selected = [1, 3, 5] := by decide +kernel

/-- **the vectorised path at word level**: in every reachable state and for every condition tree, the
    word-level execution -- value vector, 64-bit words of the result / null / alive bitmaps, `apply_null_mask`,
    `apply_alive_mask`, word-wise `bitmap_and` / `bitmap_or` over the common prefix, `selected_indices`, then
    `get_rows_by_indices` with its bounds and alive checks -- returns exactly the rows for which the condition
    is true, whatever the unspecified storage holds: the stored word of a NULL slot (0, or the value before an
    update to NULL) and the padding bits of the last word of the raw alive / null bit vectors -/
theorem vectorised_words_agree (schema : List (ColType × Bool)) (ops : List Op) (u : Unspec) (c : Cond) :
    columnarSelectW (run schema ops) u c = spec (run schema ops) c := by
  rw [columnarSelectW_eq _ (run_typed schema ops) u c, columnarSelect_eq _ (run_inv schema ops) c]

example : columnarSelectW (run demoSchema demoOps) Unspec.ones (.rng .lt (.col 1) (.int 6)) = [2, 4] := by decide +kernel
example : (vecFilterW (run demoSchema demoOps) Unspec.ones (.ne (.col 1) (.int 5))).isSome = true := by decide +kernel
example : columnarSelectW (run demoSchema demoOps) Unspec.ones (.ne (.col 1) (.int 5)) = [1, 4] := by decide +kernel

/-- **row id = slot + 1**: in every reachable state the row in slot `p` has id `p + 1`; hence the index paths,
    which turn every looked-up id into the slot `id.saturating_sub(1)` and read it with `get_rows_by_indices`,
    fetch exactly the rows the model finds by id, and the vectorised path numbers its selected slots `slot + 1` -/
theorem row_ids_are_slot_plus_one (schema : List (ColType × Bool)) (ops : List Op) (c : Cond) :
    let t := run schema ops
    (∀ (p : Nat) (r : RowE), t.rows[p]? = some r → r.id = p + 1) ∧
    (∀ ids, tryIndexLookup t c = some ids → fetch t ids = fetchBySlot t ids) ∧
    (∀ idxs, rowsByIndices t.rows idxs =
        (idxs.filter (fun i => match t.rows[i]? with | some r => r.alive | none => false)).map (· + 1)) := by
  intro t
  have hi : IdxInv t := run_inv schema ops
  have hp : IdPos t := run_idPos schema ops
  exact ⟨hp, fun ids h => fetch_eq_fetchBySlot t hi.1 hp ids (lookup_ids_pos t hi hp c ids h),
    rowsByIndices_slot_plus_one t hp⟩

example : fetchBySlot (run demoSchema demoOps) [2, 3, 4, 9] = fetch (run demoSchema demoOps) [2, 3, 4, 9] := by decide +kernel
example : (fetchBySlot (run demoSchema demoOps) [2, 3, 4, 9]).map (·.id) = [2, 4] := by decide +kernel

/-- the defect found on the real engine (`select_with_limit` truncated the raw index ids before the re-check):
    with that variant an index changes the answer -/
theorem limit_truncate_first_witness :
    ∃ (ops : List Op) (c : Cond),
      selectLimitTruncFirst (run [(.int, false), (.int, false)] ops) c 1 0 ≠
        ((spec (run [(.int, false), (.int, false)] ops) c).drop 0).take 1 :=
  ⟨[.insert [.int 1, .int 0], .insert [.int 1, .int 4], .createHash (.col 0)],
   .and (.eq (.col 0) (.int 1)) (.eq (.col 1) (.int 4)), by decide +kernel⟩

/-- the defect found on the real engine (SIMD leaf ignored the null bitmap): a NULL slot satisfies `x < 5` -/
theorem columnar_null_mask_witness :
    intLeafNoNullMask (some .lt) false 5 .null = true ∧
      evaluate (.rng .lt (.col 0) (.int 5)) 1 [.null] = false := by decide

end Neumann.Rel.Props
