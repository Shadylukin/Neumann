import NeumannModel.Rel.RollbackLemmas
/-
  C04: what the binary-search narrowing of `a AND b` (NOT the code) would need -- `<[u64]>::binary_search` finds
  exactly the members of an ASCENDING vector, and the id vectors are ascending in every history without UPDATE
  (and without rolled-back statements).
-/
namespace Neumann.Rel

variable {κ : Type} [DecidableEq κ]

theorem strictAsc_get (l : List Nat) (hs : StrictAsc l) (i j yi yj : Nat) (hij : i < j)
    (hi : l[i]? = some yi) (hj : l[j]? = some yj) : yi < yj := by
  unfold StrictAsc at hs
  rw [List.pairwise_iff_getElem] at hs
  obtain ⟨hi', rfl⟩ := List.getElem?_eq_some_iff.1 hi
  obtain ⟨hj', rfl⟩ := List.getElem?_eq_some_iff.1 hj
  exact hs i j hi' hj' hij

theorem half_window {size f : Nat} (hle : ¬ size ≤ 1) (h2 : size ≤ f + 1 + 1) :
    size / 2 ≤ size - size / 2 ∧ 1 ≤ size - size / 2 ∧ size - size / 2 ≤ f + 1 ∧
      size / 2 + (size - size / 2) = size := by
  omega

/-- loop invariant of `binary_search_by`: everything from `base + size` on is greater than the key, and the
    element at `base` (unless `base = 0`) is not greater -/
theorem bsLoop_spec (l : List Nat) (hs : StrictAsc l) (x : Nat) :
    ∀ (fuel size base : Nat), 1 ≤ size → size ≤ fuel + 1 → base + size ≤ l.length →
      (base = 0 ∨ ∃ y, l[base]? = some y ∧ y ≤ x) →
      (∀ j y, base + size ≤ j → l[j]? = some y → x < y) →
      bsLoop l x fuel size base < l.length ∧
      (bsLoop l x fuel size base = 0 ∨ ∃ y, l[bsLoop l x fuel size base]? = some y ∧ y ≤ x) ∧
      (∀ j y, bsLoop l x fuel size base + 1 ≤ j → l[j]? = some y → x < y) := by
  have one : ∀ fuel size base, 1 ≤ size → size ≤ 1 → base + size ≤ l.length → bsLoop l x fuel size base = base ∧
      base < l.length ∧ base + 1 = base + size := fun fuel size base h1 hle h3 => by
    cases Nat.le_antisymm hle h1
    exact ⟨by cases fuel <;> rfl, h3, rfl⟩
  intro fuel
  induction fuel with
  | zero =>
    intro size base h1 h2 h3 hA hB
    obtain ⟨e, hlt, e1⟩ := one 0 size base h1 h2 h3
    rw [e]; exact ⟨hlt, hA, e1 ▸ hB⟩
  | succ f ih =>
    intro size base h1 h2 h3 hA hB
    by_cases hle : size ≤ 1
    · obtain ⟨e, hlt, e1⟩ := one (f + 1) size base h1 hle h3
      rw [e]; exact ⟨hlt, hA, e1 ▸ hB⟩
    · obtain ⟨hhalf, hu1, hu2, hsum⟩ := half_window hle h2
      have hmid : base + size / 2 < l.length :=
        Nat.lt_of_lt_of_le (Nat.add_lt_add_left (Nat.sub_pos_iff_lt.1 hu1) base) h3
      have hm : l[base + size / 2]? = some l[base + size / 2] := List.getElem?_eq_getElem hmid
      rw [bsLoop, if_neg hle]
      simp only
      rw [show l[base + size / 2]?.getD 0 = l[base + size / 2] from by rw [hm]; rfl]
      by_cases hx : x < l[base + size / 2]
      · -- the key is below the middle: keep `base`, everything from the middle on is greater
        rw [if_pos hx]
        refine ih (size - size / 2) base hu1 hu2 (Nat.le_trans (Nat.add_le_add_left (Nat.sub_le _ _) _) h3) hA ?_
        intro j y hj hy
        rcases Nat.eq_or_lt_of_le (Nat.le_trans (Nat.add_le_add_left hhalf base) hj) with e | hlt
        · rw [← e, hm] at hy; cases hy; exact hx
        · exact Nat.lt_trans hx (strictAsc_get l hs (base + size / 2) j _ y hlt hm hy)
      · -- otherwise move `base` to the middle
        rw [if_neg hx]
        refine ih (size - size / 2) (base + size / 2) hu1 hu2 (by rw [Nat.add_assoc, hsum]; exact h3)
          (Or.inr ⟨_, hm, Nat.le_of_not_lt hx⟩) ?_
        intro j y hj hy
        exact hB j y (by rw [Nat.add_assoc, hsum] at hj; exact hj) hy

/-- **on an ascending vector `binary_search(&x).is_ok()` is membership** -/
theorem binSearch_eq_contains (l : List Nat) (hs : StrictAsc l) (x : Nat) : binSearch l x = l.contains x := by
  unfold binSearch
  by_cases he : l.isEmpty = true
  · rw [if_pos he, List.isEmpty_iff.1 he]; rfl
  · rw [if_neg he]
    have hlen : 1 ≤ l.length :=
      Nat.pos_of_ne_zero fun e => he (List.isEmpty_iff.2 (List.eq_nil_of_length_eq_zero e))
    obtain ⟨-, hA, hB⟩ := bsLoop_spec l hs x l.length l.length 0 hlen (Nat.le_succ _)
      (Nat.le_of_eq (Nat.zero_add _)) (Or.inl rfl)
      (fun j y hj hy => by rw [List.getElem?_eq_none (Nat.zero_add l.length ▸ hj)] at hy; cases hy)
    generalize bsLoop l x l.length l.length 0 = b at hA hB ⊢
    rw [Bool.eq_iff_iff, decide_eq_true_eq, List.contains_iff_mem]
    refine ⟨List.mem_of_getElem?, fun hmem => ?_⟩
    obtain ⟨j, hj⟩ := List.mem_iff_getElem?.1 hmem
    -- `x` stands neither before `b` (there everything is smaller) nor after it (greater)
    rcases Nat.lt_trichotomy j b with h | h | h
    · rcases hA with h0 | ⟨y, hy, hyx⟩
      · rw [h0] at h; exact absurd h (Nat.not_lt_zero j)
      · exact absurd (Nat.lt_of_lt_of_le (strictAsc_get l hs j b x y h hj hy) hyx) (Nat.lt_irrefl x)
    · rw [← h]; exact hj
    · exact absurd (hB j x h hj) (Nat.lt_irrefl x)

def SortedIdx (ix : Idx κ) : Prop := (ix.map Prod.snd).Pairwise (· < ·)

def SortedInv (t : Table) : Prop :=
  (∀ c ix, (c, ix) ∈ t.hidx → SortedIdx ix) ∧ (∀ c ix, (c, ix) ∈ t.oidx → SortedIdx ix)

omit [DecidableEq κ] in
theorem sortedIdx_bucket [DecidableEq κ] (ix : Idx κ) (h : SortedIdx ix) (k : κ) : StrictAsc (bucketOf ix k) := by
  unfold bucketOf StrictAsc
  exact h.sublist ((List.filter_sublist).map _)

theorem sortedIdx_addRow (key : Value → κ) (r : RowE) (c : ColRef) (ix : Idx κ) (h : SortedIdx ix)
    (hlt : ∀ p ∈ ix, p.2 < r.id) : SortedIdx (idxAddRow key r c ix) := by
  unfold idxAddRow idxAdd
  split
  · split
    · exact h
    · unfold SortedIdx
      rw [List.map_append, List.pairwise_append]
      refine ⟨h, List.pairwise_singleton _ _, fun a ha b hb => ?_⟩
      obtain ⟨p, hp, rfl⟩ := List.mem_map.1 ha
      cases List.mem_singleton.1 hb
      exact hlt p hp
  · exact h

theorem sortedIdx_removeRow (key : Value → κ) (r : RowE) (c : ColRef) (ix : Idx κ) (h : SortedIdx ix) :
    SortedIdx (idxRemoveRow key r c ix) := by
  unfold idxRemoveRow idxRemove
  split
  · exact h.sublist ((List.filter_sublist).map _)
  · exact h

theorem sorted_build_go (key : Value → κ) (c : ColRef) :
    ∀ (S P : List RowE) (ix : Idx κ), KInv key P c ix → SortedIdx ix → ((P ++ S).map (·.id)).Pairwise (· < ·) →
      SortedIdx (S.foldl (fun ix r => if r.alive then idxAddRow key r c ix else ix) ix) := by
  intro S
  induction S with
  | nil => intro P ix _ hs _; exact hs
  | cons r S ih =>
    intro P ix hk hs hp
    have hfresh : ∀ r' ∈ P, r'.id < r.id := by
      intro r' hr'
      rw [List.map_append, List.pairwise_append] at hp
      exact hp.2.2 r'.id (List.mem_map.2 ⟨r', hr', rfl⟩) r.id (by simp)
    have h1 := kinv_append key P c ix r hk (fun r' hr' => Nat.ne_of_lt (hfresh r' hr'))
    rw [List.foldl_cons]
    apply ih (P ++ [r]) _ h1 ?_ (by simpa using hp)
    split
    · apply sortedIdx_addRow key r c ix hs
      intro p hpm
      obtain ⟨r', hr', hid, _⟩ := hk.sound p.1 p.2 hpm
      rw [← hid]; exact hfresh r' hr'
    · exact hs

theorem sorted_build (key : Value → κ) (c : ColRef) (rows : List RowE) (h : RowsWF rows) :
    SortedIdx (buildIdx key c rows) := by
  have := sorted_build_go key c rows [] [] (kinv_nil key c) (by simp [SortedIdx]) (by simpa using h.1)
  simpa [buildIdx] using this

/-- everything but UPDATE -/
def Op.isUpdate : Op → Bool
  | .update _ _ => true
  | _ => false

theorem sortedInv_mapIdx {t : Table} (hs : SortedInv t) (fh : ColRef → Idx HKey → Idx HKey)
    (fo : ColRef → Idx OKey → Idx OKey) (hh : ∀ c ix, (c, ix) ∈ t.hidx → SortedIdx ix → SortedIdx (fh c ix))
    (ho : ∀ c ix, (c, ix) ∈ t.oidx → SortedIdx ix → SortedIdx (fo c ix)) {rows : List RowE} :
    SortedInv { t with rows := rows, hidx := mapIdx fh t.hidx, oidx := mapIdx fo t.oidx } := by
  refine ⟨fun c ix' hm => ?_, fun c ix' hm => ?_⟩
  · obtain ⟨ix, hm0, rfl⟩ := mem_mapIdx.1 hm; exact hh c ix hm0 (hs.1 c ix hm0)
  · obtain ⟨ix, hm0, rfl⟩ := mem_mapIdx.1 hm; exact ho c ix hm0 (hs.2 c ix hm0)

theorem insertRaw_sorted (t : Table) (vals : List Value) (hi : IdxInv t) (hs : SortedInv t) :
    SortedInv (insertRaw t vals).1 := by
  have hlt : ∀ {κ : Type} {key : Value → κ} {c : ColRef} {ix : Idx κ}, KInv key t.rows c ix →
      ∀ p ∈ ix, p.2 < t.rows.length + 1 := fun k p hp => by
    obtain ⟨r', hr', hid, _⟩ := k.sound p.1 p.2 hp
    exact hid ▸ Nat.lt_succ_of_le (hi.1.2 r' hr')
  exact sortedInv_mapIdx hs _ _ (fun c ix hm h => sortedIdx_addRow hashKey _ c ix h (hlt (hi.hash hm)))
    (fun c ix hm h => sortedIdx_addRow ordKey _ c ix h (hlt (hi.ord hm)))

theorem deleteFold_sorted (targets : List RowE) (t : Table) (hs : SortedInv t) :
    SortedInv (targets.foldl deleteOne t) := by
  induction targets generalizing t with
  | nil => exact hs
  | cons r rs ih =>
    exact ih _ (sortedInv_mapIdx hs _ _ (fun c ix _ h => sortedIdx_removeRow hashKey r c ix h)
      (fun c ix _ h => sortedIdx_removeRow ordKey r c ix h))

theorem applyOp_sorted (t : Table) (op : Op) (hi : IdxInv t) (hs : SortedInv t) (hno : op.isUpdate = false) :
    SortedInv (applyOp t op) := by
  refine applyOp_cases (P := SortedInv) t op hi hs ?_ ?_ ?_ ?_ ?_ ?_ ?_
  · intro t hi hs vals t' id hins
    cases (insert_ok hins).2.2; exact insertRaw_sorted t vals hi hs
  · intro c sets t' n e; rw [e] at hno; cases hno
  · intro c; exact deleteFold_sorted _ t hs
  · intro c t' hc
    rw [createHashIndex_ok hc]
    refine ⟨fun c' ix hm => ?_, hs.2⟩
    rcases List.mem_append.1 hm with hm | hm
    · exact hs.1 c' ix hm
    · cases List.mem_singleton.1 hm; exact sorted_build hashKey c t.rows hi.1
  · intro c t' hc
    rw [createOrdIndex_ok hc]
    refine ⟨hs.1, fun c' ix hm => ?_⟩
    rcases List.mem_append.1 hm with hm | hm
    · exact hs.2 c' ix hm
    · cases List.mem_singleton.1 hm; exact sorted_build ordKey c t.rows hi.1
  · intro c t' hc
    rw [dropHashIndex_ok hc]
    exact ⟨fun c' ix hm => hs.1 c' ix (List.mem_filter.1 hm).1, hs.2⟩
  · intro c t' hc
    rw [dropOrdIndex_ok hc]
    exact ⟨hs.1, fun c' ix hm => hs.2 c' ix (List.mem_filter.1 hm).1⟩

theorem run_sorted (schema : List (ColType × Bool)) (ops : List Op) (hno : ∀ op ∈ ops, op.isUpdate = false) :
    SortedInv (run schema ops) := by
  unfold run
  suffices ∀ t, IdxInv t → SortedInv t → SortedInv (ops.foldl applyOp t) from
    this _ (idxInv_empty schema) ⟨by simp [Table.empty], by simp [Table.empty]⟩
  induction ops with
  | nil => intro t _ hs; exact hs
  | cons op ops ih =>
    intro t hi hs
    rw [List.foldl_cons]
    exact ih (fun o ho => hno o (List.mem_cons_of_mem _ ho)) _ (applyOp_preserves t op hi)
      (applyOp_sorted t op hi hs (hno op (by simp)))

theorem narrow_bin_eq_contains (t : Table) (hs : SortedInv t) (c : Cond) :
    tryIndexLookupNarrow binSearch t c = tryIndexLookupNarrow (fun l x => l.contains x) t c := by
  induction c with
  | tt | ne _ _ | or _ _ _ _ | eq _ _ | rng _ _ _ => rfl
  | and a b iha ihb =>
    simp only [tryIndexLookupNarrow, iha, ihb]
    cases tryIndexLookupNarrow (fun l x => l.contains x) t a with
    | none => rfl
    | some cands =>
      simp only
      cases b with
      | eq col v =>
        simp only
        cases hix : assocGet col t.hidx with
        | none => rfl
        | some ix =>
          simp only
          congr 1
          apply List.filter_congr
          intro id _
          exact binSearch_eq_contains _ (sortedIdx_bucket ix (hs.1 col ix (assocGet_mem col _ ix hix)) _) id
      | _ => rfl

end Neumann.Rel
