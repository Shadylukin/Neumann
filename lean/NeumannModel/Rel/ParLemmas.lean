import NeumannModel.Rel.ParModel
/-
  C04, large selections: on values that `partial_cmp_value` orders linearly (via a key `g`, equal keys only for
  identical values) every run of the rayon reduction, and the sequential fold, return THE element of least key
  among the non-NULL column values.
-/
namespace Neumann.Rel

/-- `want` is decided by the key `g` on `vs`, and equal keys mean identical values -/
def KeyOrd (want : Ordering) (g : Value → Int) (vs : List Value) : Prop :=
  (∀ a ∈ vs, ∀ b ∈ vs, (partialCmp a b = some want ↔ g a < g b)) ∧
  (∀ a ∈ vs, ∀ b ∈ vs, g a = g b → a = b)

theorem KeyOrd.mono {want g vs ws} (h : KeyOrd want g vs) (hs : ∀ x ∈ ws, x ∈ vs) : KeyOrd want g ws :=
  ⟨fun a ha b hb => h.1 a (hs a ha) b (hs b hb), fun a ha b hb => h.2 a (hs a ha) b (hs b hb)⟩

/-- `o` is the answer for `vs`: nothing for the empty list, else an element of least key -/
def Res (g : Value → Int) (vs : List Value) : Option Value → Prop
  | none => vs = []
  | some r => r ∈ vs ∧ ∀ x ∈ vs, g r ≤ g x

theorem Res.unique {want g vs a b} (h : KeyOrd want g vs) (ha : Res g vs a) (hb : Res g vs b) : a = b := by
  cases a with
  | none => cases b with
    | none => rfl
    | some r => simp only [Res] at ha hb; subst ha; exact absurd hb.1 (List.not_mem_nil)
  | some r => cases b with
    | none => simp only [Res] at ha hb; subst hb; exact absurd ha.1 (List.not_mem_nil)
    | some r' =>
      simp only [Res] at ha hb
      rw [h.2 r ha.1 r' hb.1 (Int.le_antisymm (ha.2 r' hb.1) (hb.2 r ha.1))]

theorem res_optPick {want g xs ys a b} (h : KeyOrd want g (xs ++ ys)) (ha : Res g xs a) (hb : Res g ys b) :
    Res g (xs ++ ys) (optPick want a b) := by
  cases a with
  | none =>
    simp only [Res] at ha; subst ha
    cases b <;> simpa [optPick] using hb
  | some r => cases b with
    | none =>
      simp only [Res] at hb; subst hb
      simpa [optPick] using ha
    | some r' =>
      simp only [Res] at ha hb
      have hr : r ∈ xs ++ ys := List.mem_append.mpr (Or.inl ha.1)
      have hr' : r' ∈ xs ++ ys := List.mem_append.mpr (Or.inr hb.1)
      have hiff := h.1 r hr r' hr'
      simp only [optPick, parPick, Res]
      by_cases hc : partialCmp r r' = some want
      · rw [if_pos hc]
        have hlt := hiff.mp hc
        refine ⟨hr, fun x hx => ?_⟩
        rcases List.mem_append.mp hx with hx | hx
        · exact ha.2 x hx
        · exact Int.le_trans (Int.le_of_lt hlt) (hb.2 x hx)
      · rw [if_neg hc]
        have hge : ¬ g r < g r' := fun hlt => hc (hiff.mpr hlt)
        refine ⟨hr', fun x hx => ?_⟩
        rcases List.mem_append.mp hx with hx | hx
        · exact Int.le_trans (Int.not_lt.1 hge) (ha.2 x hx)
        · exact hb.2 x hx

theorem res_singleton (g : Value → Int) (x : Value) : Res g [x] (some x) :=
  ⟨List.mem_cons_self, fun y hy => by cases List.mem_singleton.1 hy; exact Int.le_refl _⟩

theorem Res.of_mem_iff {g : Value → Int} {vs ws : List Value} {o : Option Value} (h : ∀ x, x ∈ vs ↔ x ∈ ws)
    (hr : Res g vs o) : Res g ws o := by
  cases o with
  | none =>
    cases ws with
    | nil => rfl
    | cons w _ => have := (h w).2 List.mem_cons_self; rw [show vs = [] from hr] at this; cases this
  | some r => exact ⟨(h r).1 hr.1, fun x hx => hr.2 x ((h x).2 hx)⟩

theorem res_foldl {want g} (f : Option Value → Value → Option Value)
    (hf : ∀ pre acc x, KeyOrd want g (pre ++ [x]) → Res g pre acc → Res g (pre ++ [x]) (f acc x))
    (vs : List Value) : ∀ (pre : List Value) (acc : Option Value),
    KeyOrd want g (pre ++ vs) → Res g pre acc → Res g (pre ++ vs) (vs.foldl f acc) := by
  induction vs with
  | nil => intro pre acc _ ha; rw [List.append_nil]; exact ha
  | cons x tl ih =>
    intro pre acc h ha
    have e : pre ++ x :: tl = (pre ++ [x]) ++ tl := (List.append_cons pre x tl)
    rw [List.foldl_cons, e]
    rw [e] at h
    exact ih (pre ++ [x]) _ h (hf pre acc x (h.mono fun y hy => List.mem_append_left _ hy) ha)

theorem res_parReduce {want g} (keep : RowE → Option Value) (s : Split) : ∀ (rows : List RowE),
    KeyOrd want g (rows.filterMap keep) → Res g (rows.filterMap keep) (parReduce keep want s rows) := by
  induction s with
  | leaf =>
    intro rows h
    exact res_foldl _ (fun pre acc x h ha => res_optPick h ha (res_singleton g x)) _ [] none h rfl
  | node k l r ihl ihr =>
    intro rows h
    have e : rows.filterMap keep = (rows.take k).filterMap keep ++ (rows.drop k).filterMap keep := by
      rw [← List.filterMap_append, List.take_append_drop]
    rw [parReduce, e]
    rw [e] at h
    exact res_optPick h
      (ihl _ (h.mono (fun x hx => List.mem_append.mpr (Or.inl hx))))
      (ihr _ (h.mono (fun x hx => List.mem_append.mpr (Or.inr hx))))

/-- the sequential loop applies the reducer with the new value on the LEFT -/
theorem extremeStep_eq (want : Ordering) (i : Nat) (acc : Option Value) (r : RowE) :
    extremeStep want i acc r = match parKeep i r with
      | none => acc
      | some x => optPick want (some x) acc := by
  have pick : ∀ x cur : Value, (match partialCmp x cur with
      | some o => if o = want then some x else some cur
      | none => some cur) = some (parPick want x cur) := fun x cur => by
    unfold parPick
    cases partialCmp x cur with
    | none => rfl
    | some o => by_cases h : o = want <;> simp [h]
  unfold extremeStep parKeep
  cases colVal r i with
  | none => rfl
  | some v => cases v <;> cases acc <;> first | rfl | exact pick _ _

theorem res_extreme_fold {want g} (i : Nat) (rows : List RowE) (h : KeyOrd want g (rows.filterMap (parKeep i))) :
    Res g (rows.filterMap (parKeep i)) (extremeOf want i rows) := by
  have e : ∀ (rows : List RowE) (acc : Option Value), rows.foldl (extremeStep want i) acc =
      (rows.filterMap (parKeep i)).foldl (fun acc x => optPick want (some x) acc) acc := by
    intro rows
    induction rows with
    | nil => intro acc; rfl
    | cons r tl ih =>
      intro acc
      rw [List.foldl_cons, extremeStep_eq, ih]
      cases hk : parKeep i r with
      | none => rw [List.filterMap_cons_none hk]
      | some x => rw [List.filterMap_cons_some hk]; rfl
  unfold extremeOf
  rw [e]
  refine res_foldl _ (fun pre acc x h ha => ?_) _ [] none h rfl
  exact (res_optPick (h.mono fun y hy => List.mem_append.2 (List.mem_append.1 hy).symm) (res_singleton g x) ha).of_mem_iff
    fun y => by rw [List.mem_append, List.mem_append, Or.comm]

theorem parReduce_eq_extremeOf {want g} (i : Nat) (s : Split) (rows : List RowE)
    (h : KeyOrd want g (rows.filterMap (parKeep i))) :
    parReduce (parKeep i) want s rows = extremeOf want i rows :=
  Res.unique h (res_parReduce (parKeep i) s rows h) (res_extreme_fold i rows h)

theorem sumCount_fold (i : Nat) (rows : List RowE) : ∀ acc : Int × Nat,
    rows.foldl (fun acc r => pairAdd acc (parTerm i r)) acc
      = pairAdd acc (rows.foldl (fun acc r => pairAdd acc (parTerm i r)) (0, 0)) := by
  induction rows with
  | nil => intro acc; simp [pairAdd]
  | cons r tl ih =>
    intro acc
    rw [List.foldl_cons, List.foldl_cons, ih, ih (pairAdd (0, 0) (parTerm i r))]
    simp only [pairAdd]
    ext <;> simp <;> omega

theorem parSumCount_eq (i : Nat) (s : Split) : ∀ rows : List RowE,
    parSumCount i s rows = rows.foldl (fun acc r => pairAdd acc (parTerm i r)) (0, 0) := by
  induction s with
  | leaf => intro rows; rfl
  | node k l r ihl ihr =>
    intro rows
    rw [parSumCount, ihl, ihr]
    conv => rhs; rw [← List.take_append_drop k rows, List.foldl_append, sumCount_fold]

end Neumann.Rel
