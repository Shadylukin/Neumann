import NeumannModel.Rel.Preserve
/-
  C04: the closed form of UPDATE, `select` on row records and the aggregates, `count_column`, `select_iter`, the
  router's OFFSET / LIMIT, `evaluate_with_depth`, and the independence of the row slab from the indexes.
-/
namespace Neumann.Rel

theorem update_rows_eq (t : Table) (c : Cond) (sets : List (Nat × Value)) (t' : Table) (n : Nat)
    (hw : RowsWF t.rows) (h : update t c sets = .ok (t', n)) :
    t'.rows = t.rows.map (fun x => if matchesRow c x then { x with vals := applySetsFrom sets 0 x.vals } else x) := by
  obtain ⟨_, rfl, _⟩ := update_ok h
  rw [updateFold_rows]
  -- a target is the slab row with its id
  exact (foldl_mapAt (fun r x => { x with vals := applySetsFrom sets 0 r.vals })
    (fun x => { x with vals := applySetsFrom sets 0 x.vals }) (fun _ _ => rfl) _ _ (matching_ids_nodup t c hw)
    (fun r hr x hx hid => by rw [id_inj t.rows hw.1 x hx r (mem_matching hr).1 hid])).trans
    (map_matching_ids t c hw _)

theorem insertSortedRow_perm (x : RowE) (l : List RowE) : (insertSortedRow x l).Perm (x :: l) := by
  induction l with
  | nil => exact .refl _
  | cons y ys ih =>
    unfold insertSortedRow; split
    · exact .refl _
    · exact (ih.cons y).trans (.swap x y ys)

theorem sortRows_perm (l : List RowE) : (sortRows l).Perm l := by
  induction l with
  | nil => exact .refl _
  | cons x xs ih => exact (insertSortedRow_perm x _).trans (ih.cons x)

theorem mem_sortRows (y : RowE) (l : List RowE) : y ∈ sortRows l ↔ y ∈ l := (sortRows_perm l).mem_iff

theorem insertSortedRow_ids (x : RowE) (l : List RowE) :
    (insertSortedRow x l).map (·.id) = insertSorted x.id (l.map (·.id)) := by
  induction l with
  | nil => rfl
  | cons y ys ih =>
    unfold insertSortedRow
    simp only [List.map_cons]
    unfold insertSorted
    split
    · rfl
    · simp [ih]

theorem sortRows_ids (l : List RowE) : (sortRows l).map (·.id) = sortIds (l.map (·.id)) := by
  induction l with
  | nil => rfl
  | cons x xs ih => simp only [sortRows, List.map_cons, sortIds, insertSortedRow_ids, ih]

theorem eq_of_ids_eq (rows : List RowE) (hw : (rows.map (·.id)).Pairwise (· < ·)) :
    ∀ (l1 l2 : List RowE), (∀ r ∈ l1, r ∈ rows) → (∀ r ∈ l2, r ∈ rows) →
      l1.map (·.id) = l2.map (·.id) → l1 = l2 := by
  intro l1
  induction l1 with
  | nil => intro l2 _ _ h; cases l2 with
    | nil => rfl
    | cons y ys => cases h
  | cons x xs ih =>
    intro l2 h1 h2 h
    cases l2 with
    | nil => cases h
    | cons y ys =>
      simp only [List.map_cons, List.cons.injEq] at h
      rw [id_inj rows hw x (h1 x List.mem_cons_self) y (h2 y List.mem_cons_self) h.1,
        ih ys (fun r hr => h1 r (List.mem_cons_of_mem _ hr)) (fun r hr => h2 r (List.mem_cons_of_mem _ hr)) h.2]

theorem selectRows_ids (t : Table) (c : Cond) : (selectRows t c).map (·.id) = select t c := by
  unfold selectRows select selectViaIds scanSelect
  cases tryIndexLookup t c <;> simp only [sortRows_ids]

theorem rowsViaIds_eq (t : Table) (hw : RowsWF t.rows) (c : Cond) (ids : List Nat) (h : Cands t c ids) :
    sortRows ((fetch t ids).filter (fun r => evaluate c r.id r.vals)) = specRows t c := by
  refine eq_of_ids_eq t.rows hw.1 _ _ (fun r hr => ?_) (fun r hr => (List.mem_filter.1 hr).1) ?_
  · exact ((fetch_mem t ids hw r).1 (List.mem_filter.1 ((mem_sortRows _ _).1 hr)).1).1
  · rw [sortRows_ids]; exact selectViaIds_eq_spec t c ids hw h

theorem selectRows_eq_specRows (t : Table) (hi : IdxInv t) (c : Cond) : selectRows t c = specRows t c := by
  unfold selectRows
  cases h : tryIndexLookup t c with
  | some ids => exact rowsViaIds_eq t hi.wf c ids (lookup_sound t hi c ids h)
  | none =>
    refine eq_of_ids_eq t.rows hi.1.1 _ _ (fun r hr => ?_) (fun r hr => (List.mem_filter.1 hr).1) ?_
    · exact (List.mem_filter.1 (List.mem_filter.1 ((mem_sortRows _ _).1 hr)).1).1
    · rw [sortRows_ids]; exact scanSelect_eq_spec t c hi.wf

theorem aggregates_eq (t : Table) (hi : IdxInv t) (i : Nat) (c : Cond) :
    aggSumTerms t i c = sumTerms i (specRows t c) ∧
    aggMin t i c = extremeOf .lt i (specRows t c) ∧
    aggMax t i c = extremeOf .gt i (specRows t c) := by
  unfold aggSumTerms aggMin aggMax
  rw [selectRows_eq_specRows t hi c]
  exact ⟨rfl, rfl, rfl⟩

theorem filter_and {α : Type} (l : List α) (p q : α → Bool) :
    l.filter (fun r => p r && q r) = (l.filter p).filter q := by
  rw [List.filter_filter]
  exact List.filter_congr fun _ _ => Bool.and_comm _ _

theorem countViaIds_filter (t : Table) (hw : RowsWF t.rows) (c : Cond) (ids : List Nat) (h : Cands t c ids)
    (q : RowE → Bool) :
    ((fetch t ids).filter (fun r => evaluate c r.id r.vals && q r)).length = ((specRows t c).filter q).length := by
  rw [filter_and, ← rowsViaIds_eq t hw c ids h, ((sortRows_perm _).filter q).length_eq]

theorem countColumn_eq_lookup (t : Table) (i : Nat) (c : Cond) (hcol : i < t.schema.length) :
    countColumn t i c = match tryIndexLookup t c with
      | some ids => .ok ((fetch t ids).filter (fun r => evaluate c r.id r.vals && nonNull i r)).length
      | none => .ok ((scanAll t).filter (fun r => evaluate c r.id r.vals && nonNull i r)).length := by
  unfold countColumn
  rw [if_neg (Nat.not_le.2 hcol)]
  cases c <;> rfl

theorem countColumn_eq (t : Table) (hi : IdxInv t) (i : Nat) (c : Cond) (hcol : i < t.schema.length) :
    countColumn t i c = .ok ((specRows t c).filter (nonNull i)).length := by
  rw [countColumn_eq_lookup t i c hcol]
  cases h : tryIndexLookup t c with
  | some ids => exact congrArg Except.ok (countViaIds_filter t hi.wf c ids (lookup_sound t hi c ids h) (nonNull i))
  | none => exact congrArg Except.ok (by rw [filter_and, scanFilter_eq]; rfl)

theorem selectIter_eq (t : Table) (hi : IdxInv t) (c : Cond) (limit : Option Nat) (offset : Nat) :
    selectIter t c limit offset =
      (match limit with
       | some l => ((spec t c).drop offset).take l
       | none => (spec t c).drop offset) := by
  unfold selectIter
  cases limit with
  | some l => exact selectLimit_eq t hi c l offset
  | none =>
    simp only [select_eq_spec t hi c]
    split
    · split
      · rename_i h; exact (List.drop_eq_nil_of_le h).symm
      · rfl
    · rename_i h
      cases Nat.eq_zero_of_not_pos h; rfl

theorem routerSelect_eq (t : Table) (hi : IdxInv t) (c : Cond) (limit offset : Option Nat) :
    routerSelect t c limit offset =
      (let rows := match offset with | some o => (spec t c).drop o | none => spec t c
       match limit with | some l => rows.take l | none => rows) := by
  unfold routerSelect
  simp only [columnarSelect_eq t hi c]
  cases offset with
  | none => cases limit <;> rfl
  | some o =>
    by_cases h : o < (spec t c).length
    · cases limit <;> simp [h]
    · have : (spec t c).drop o = [] := List.drop_eq_nil_of_le (Nat.le_of_not_lt h)
      cases limit <;> simp [h, this]

theorem routerSelectLegacy_eq (t : Table) (hi : IdxInv t) (c : Cond) (limit : Option Nat) :
    routerSelectLegacy t c limit =
      (match limit with | some l => (spec t c).take l | none => spec t c) := by
  unfold routerSelectLegacy
  rw [select_eq_spec t hi c]
  cases limit <;> rfl

theorem evalDepth_sound (mx : Nat) (c : Cond) : ∀ (d id : Nat) (row : List Value) (b : Bool),
    evalDepth mx c d id row = .ok b → b = evaluate c id row := by
  induction c with
  | tt | eq _ _ | ne _ _ | rng _ _ _ =>
    intro d id row b h; unfold evalDepth at h; split at h
    · cases h
    · cases h; rfl
  | and x y ihx ihy =>
    intro d id row b h
    unfold evalDepth at h
    split at h
    · cases h
    · show b = (evaluate x id row && evaluate y id row)
      split at h
      · cases h
      · rename_i hx; cases h; rw [← ihx _ _ _ _ hx]; rfl
      · rename_i hx; rw [← ihx _ _ _ _ hx, ← ihy _ _ _ _ h]; rfl
  | or x y ihx ihy =>
    intro d id row b h
    unfold evalDepth at h
    split at h
    · cases h
    · show b = (evaluate x id row || evaluate y id row)
      split at h
      · cases h
      · rename_i hx; cases h; rw [← ihx _ _ _ _ hx]; rfl
      · rename_i hx; rw [← ihx _ _ _ _ hx, ← ihy _ _ _ _ h]; rfl

theorem depth_children {a b d mx : Nat} (h : d + (1 + max a b) ≤ mx) : ¬ mx < d ∧ d + 1 + a ≤ mx ∧ d + 1 + b ≤ mx := by
  omega

theorem evalDepth_within (mx : Nat) (c : Cond) : ∀ (d id : Nat) (row : List Value),
    d + condDepth c ≤ mx → evalDepth mx c d id row = .ok (evaluate c id row) := by
  induction c with
  | tt => intro d id row h; unfold evalDepth; rw [if_neg (Nat.not_lt.2 (show d ≤ mx from h))]; rfl
  | eq _ _ | ne _ _ | rng _ _ _ =>
    intro d id row h; unfold evalDepth; rw [if_neg (Nat.not_lt.2 (show d ≤ mx from h))]
  | and x y ihx ihy =>
    intro d id row h
    obtain ⟨h0, h1, h2⟩ := depth_children h
    unfold evalDepth
    rw [if_neg h0, ihx _ id row h1]
    show _ = Except.ok (evaluate x id row && evaluate y id row)
    cases evaluate x id row with
    | false => rfl
    | true => exact ihy _ id row h2
  | or x y ihx ihy =>
    intro d id row h
    obtain ⟨h0, h1, h2⟩ := depth_children h
    unfold evalDepth
    rw [if_neg h0, ihx _ id row h1]
    show _ = Except.ok (evaluate x id row || evaluate y id row)
    cases evaluate x id row with
    | true => rfl
    | false => exact ihy _ id row h2

theorem filterE_sound (mx : Nat) (c : Cond) : ∀ (rows l : List RowE),
    filterE mx c rows = .ok l → l = rows.filter (fun r => evaluate c r.id r.vals) := by
  intro rows
  induction rows with
  | nil => intro l h; cases h; rfl
  | cons r rs ih =>
    intro l h
    unfold filterE at h
    split at h
    · cases h
    · rename_i b hb
      split at h
      · cases h
      · rename_i l' hr
        cases h
        rw [List.filter_cons, ← evalDepth_sound mx c 0 r.id r.vals b hb, ← ih l' hr]

theorem filterE_within (mx : Nat) (c : Cond) (hd : condDepth c ≤ mx) : ∀ (rows : List RowE),
    filterE mx c rows = .ok (rows.filter (fun r => evaluate c r.id r.vals)) := by
  intro rows
  induction rows with
  | nil => rfl
  | cons r rs ih =>
    unfold filterE
    rw [evalDepth_within mx c 0 r.id r.vals (by rw [Nat.zero_add]; exact hd), ih, List.filter_cons]

theorem scanLimitE_sound (mx : Nat) (c : Cond) : ∀ (rows l : List RowE) (need : Nat), 0 < need →
    scanLimitE mx c rows need = .ok l → l = (rows.filter (fun r => evaluate c r.id r.vals)).take need := by
  intro rows
  induction rows with
  | nil => intro l need _ h; cases h; exact List.take_nil.symm
  | cons r rs ih =>
    intro l need hn h
    unfold scanLimitE at h
    rw [List.filter_cons]
    split at h
    · cases h
    · rename_i hb
      rw [← evalDepth_sound mx c 0 r.id r.vals true hb, if_pos rfl]
      obtain ⟨n, rfl⟩ : ∃ n, need = n + 1 := ⟨need - 1, (Nat.succ_pred_eq_of_pos hn).symm⟩
      rw [List.take_succ_cons]
      split at h
      · rename_i h1
        cases h
        cases Nat.le_zero.1 (Nat.le_of_succ_le_succ h1); rfl
      · rename_i h1
        split at h
        · cases h
        · rename_i l' hr
          cases h
          rw [ih l' n (Nat.pos_of_ne_zero fun e => h1 (by rw [e]; exact Nat.le_refl _)) hr]
    · rename_i hb
      rw [← evalDepth_sound mx c 0 r.id r.vals false hb]
      exact ih l need hn h

theorem scanLimitE_within (mx : Nat) (c : Cond) (hd : condDepth c ≤ mx) : ∀ (rows : List RowE) (need : Nat),
    0 < need →
    scanLimitE mx c rows need = .ok ((rows.filter (fun r => evaluate c r.id r.vals)).take need) := by
  intro rows
  induction rows with
  | nil => intro need _; rw [List.filter_nil, List.take_nil]; rfl
  | cons r rs ih =>
    intro need hn
    unfold scanLimitE
    rw [evalDepth_within mx c 0 r.id r.vals (by rw [Nat.zero_add]; exact hd), List.filter_cons]
    cases evaluate c r.id r.vals with
    | false => exact ih need hn
    | true =>
      obtain ⟨n, rfl⟩ : ∃ n, need = n + 1 := ⟨need - 1, (Nat.succ_pred_eq_of_pos hn).symm⟩
      simp only [if_true, List.take_succ_cons]
      split
      · rename_i h1
        cases Nat.le_zero.1 (Nat.le_of_succ_le_succ h1); rfl
      · rename_i h1
        rw [Nat.add_sub_cancel, ih n (Nat.pos_of_ne_zero fun e => h1 (by rw [e]; exact Nat.le_refl _))]

theorem mapE_ok {α β : Type} (f : α → β) (x : Except Unit α) (b : β) (h : mapE f x = .ok b) :
    ∃ a, x = .ok a ∧ b = f a := by
  cases x with
  | error e => cases h
  | ok a => cases h; exact ⟨a, rfl, rfl⟩

/-- with the depth limit, `select` either fails with `ConditionTooDeep` or answers as without the limit -/
theorem selectE_sound (mx : Nat) (t : Table) (c : Cond) (ids : List Nat) (h : selectE mx t c = .ok ids) :
    ids = select t c := by
  unfold selectE at h
  unfold select selectViaIds scanSelect
  cases hl : tryIndexLookup t c <;> simp only [hl] at h ⊢ <;>
    (obtain ⟨a, ha, rfl⟩ := mapE_ok _ _ _ h; rw [filterE_sound mx c _ a ha])

theorem selectE_within (mx : Nat) (t : Table) (c : Cond) (hd : condDepth c ≤ mx) :
    selectE mx t c = .ok (select t c) := by
  unfold selectE select selectViaIds scanSelect
  cases tryIndexLookup t c <;> simp only [filterE_within mx c hd, mapE]

theorem countE_eq_lookup (mx : Nat) (t : Table) (c : Cond) :
    countE mx t c = match tryIndexLookup t c with
      | some ids => mapE List.length (filterE mx c (fetch t ids))
      | none => mapE List.length (filterE mx c (scanAll t)) := by
  cases c with
  | tt =>
    show Except.ok _ = mapE List.length (filterE mx .tt (scanAll t))
    rw [filterE_within mx .tt (Nat.zero_le _)]
    exact congrArg Except.ok (congrArg List.length (List.filter_eq_self.2 fun _ _ => rfl)).symm
  | _ => rfl

theorem countE_sound (mx : Nat) (t : Table) (c : Cond) (n : Nat) (h : countE mx t c = .ok n) :
    n = count t c := by
  rw [countE_eq_lookup] at h
  rw [count_eq_lookup]
  cases hl : tryIndexLookup t c <;> simp only [hl] at h ⊢ <;>
    (obtain ⟨a, ha, rfl⟩ := mapE_ok _ _ _ h; rw [filterE_sound mx _ _ a ha])

theorem countE_within (mx : Nat) (t : Table) (c : Cond) (hd : condDepth c ≤ mx) :
    countE mx t c = .ok (count t c) := by
  rw [countE_eq_lookup, count_eq_lookup]
  cases tryIndexLookup t c <;> simp only [filterE_within mx _ hd, mapE]

theorem selectLimitE_sound (mx : Nat) (t : Table) (c : Cond) (limit offset : Nat) (ids : List Nat)
    (h : selectLimitE mx t c limit offset = .ok ids) : ids = selectLimit t c limit offset := by
  unfold selectLimitE at h
  unfold selectLimit
  split at h
  · rename_i h0; cases h; rw [if_pos h0]
  · rename_i h0
    rw [if_neg h0]
    cases hl : tryIndexLookup t c with
    | some is =>
      simp only [hl] at h ⊢
      obtain ⟨a, ha, rfl⟩ := mapE_ok _ _ _ h
      rw [filterE_sound mx c _ a ha]; rfl
    | none =>
      simp only [hl] at h ⊢
      obtain ⟨a, ha, rfl⟩ := mapE_ok _ _ _ h
      rw [scanLimitE_sound mx c _ a (offset + limit) (Nat.add_pos_right _ (Nat.pos_of_ne_zero h0)) ha]

theorem selectLimitE_within (mx : Nat) (t : Table) (c : Cond) (limit offset : Nat) (hd : condDepth c ≤ mx) :
    selectLimitE mx t c limit offset = .ok (selectLimit t c limit offset) := by
  unfold selectLimitE selectLimit
  split
  · rfl
  · rename_i h0
    cases tryIndexLookup t c with
    | some is => simp only [filterE_within mx c hd, mapE, selectViaIds]
    | none =>
      simp only [scanLimitE_within mx c hd _ _ (Nat.add_pos_right offset (Nat.pos_of_ne_zero h0)), mapE]

theorem columnarE_sound (mx : Nat) (t : Table) (c : Cond) (ids : List Nat) (h : columnarE mx t c = .ok ids) :
    ids = columnarSelect t c := by
  unfold columnarE at h
  unfold columnarSelect
  split at h
  · rename_i hc
    rw [if_pos hc]
    cases hv : vecFilter t c with
    | some bits => rw [hv] at h; cases h; rfl
    | none => rw [hv] at h; exact selectE_sound mx t c ids h
  · rename_i hc
    rw [if_neg hc]
    exact selectE_sound mx t c ids h

theorem columnarE_within (mx : Nat) (t : Table) (c : Cond) (hd : condDepth c ≤ mx) :
    columnarE mx t c = .ok (columnarSelect t c) := by
  unfold columnarE columnarSelect
  split
  · cases vecFilter t c with
    | some bits => rfl
    | none => exact selectE_within mx t c hd
  · exact selectE_within mx t c hd

theorem deleteE_sound (mx : Nat) (t : Table) (c : Cond) (p : Table × Nat) (h : deleteE mx t c = .ok p) :
    p = delete t c := by
  unfold deleteE at h
  split at h
  · cases h
  · rename_i l hf
    cases h
    rw [filterE_sound mx c _ l hf, scanFilter_eq]; rfl

theorem deleteE_within (mx : Nat) (t : Table) (c : Cond) (hd : condDepth c ≤ mx) :
    deleteE mx t c = .ok (delete t c) := by
  unfold deleteE
  rw [filterE_within mx c hd, scanFilter_eq]
  rfl

theorem updateE_sound (mx : Nat) (t : Table) (c : Cond) (sets : List (Nat × Value))
    (p : Except Err (Table × Nat)) (h : updateE mx t c sets = .ok p) : p = update t c sets := by
  unfold updateE at h
  unfold update
  split at h
  · cases h; rfl
  · split at h
    · cases h
    · rename_i l hf
      cases h
      rw [filterE_sound mx c _ l hf, scanFilter_eq]; rfl

theorem updateE_within (mx : Nat) (t : Table) (c : Cond) (sets : List (Nat × Value)) (hd : condDepth c ≤ mx) :
    updateE mx t c sets = .ok (update t c sets) := by
  unfold updateE update
  cases validateSets t.schema sets with
  | some e => rfl
  | none => simp only [filterE_within mx c hd, scanFilter_eq]; rfl

theorem batchFold_rows : ∀ (rows : List (List Value)) (t1 t2 : Table) (a1 a2 : List Nat),
    t1.rows = t2.rows → t1.schema = t2.schema →
    (rows.foldl batchStep (t1, a1)).1.rows = (rows.foldl batchStep (t2, a2)).1.rows ∧
    (rows.foldl batchStep (t1, a1)).1.schema = (rows.foldl batchStep (t2, a2)).1.schema := by
  intro rows
  induction rows with
  | nil => intro t1 t2 a1 a2 hr hs; exact ⟨hr, hs⟩
  | cons v vs ih =>
    intro t1 t2 a1 a2 hr hs
    rw [List.foldl_cons, List.foldl_cons]
    apply ih
    · simp only [insertRaw, hr]
    · simp only [insertRaw, hs]

theorem dataOp_rows_congr (t1 t2 : Table) (op : Op) (hop : op.isIndexOp = false) (hr : t1.rows = t2.rows)
    (hs : t1.schema = t2.schema) :
    (applyOp t1 op).rows = (applyOp t2 op).rows ∧ (applyOp t1 op).schema = (applyOp t2 op).schema := by
  have hm : ∀ c, matching t1 c = matching t2 c := fun c => by unfold matching; rw [hr]
  cases op with
  | insert vals =>
    simp only [applyOp]
    unfold insert
    rw [hs]
    by_cases hl : vals.length ≠ t2.schema.length
    · rw [if_pos hl, if_pos hl]; exact ⟨hr, hs⟩
    · rw [if_neg hl, if_neg hl]
      cases validateRow t2.schema vals with
      | some e => exact ⟨hr, hs⟩
      | none => simp only [hr, and_self]
  | update c sets =>
    simp only [applyOp, update, hs]
    cases validateSets t2.schema sets with
    | some e => exact ⟨hr, hs⟩
    | none =>
      simp only
      rw [updateFold_rows, updateFold_rows,
        updateFold_schema, updateFold_schema, hm, hr]
      exact ⟨rfl, hs⟩
  | delete c =>
    simp only [applyOp, delete]
    rw [deleteFold_rows, deleteFold_rows,
      deleteFold_schema, deleteFold_schema, hm, hr]
    exact ⟨rfl, hs⟩
  | batchInsert rows =>
    simp only [applyOp, batchInsert, hs]
    cases validateBatch t2.schema rows with
    | some e => exact ⟨hr, hs⟩
    | none => exact batchFold_rows rows t1 t2 [] [] hr hs
  | _ => cases hop

theorem run_rows_strip : ∀ (ops : List Op) (t1 t2 : Table), t1.rows = t2.rows → t1.schema = t2.schema →
    (ops.foldl applyOp t1).rows = ((ops.filter (fun o => !o.isIndexOp)).foldl applyOp t2).rows ∧
    (ops.foldl applyOp t1).schema = ((ops.filter (fun o => !o.isIndexOp)).foldl applyOp t2).schema := by
  intro ops
  induction ops with
  | nil => intro t1 t2 hr hs; exact ⟨hr, hs⟩
  | cons op ops ih =>
    intro t1 t2 hr hs
    rw [List.foldl_cons, List.filter_cons]
    cases hi : op.isIndexOp with
    | true =>
      obtain ⟨h1, h2⟩ := indexOp_rows t1 op hi
      exact ih _ _ (h1.trans hr) (h2.trans hs)
    | false =>
      obtain ⟨h1, h2⟩ := dataOp_rows_congr t1 t2 op hi hr hs
      exact ih _ _ h1 h2

end Neumann.Rel
