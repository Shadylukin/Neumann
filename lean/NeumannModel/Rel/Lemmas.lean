import NeumannModel.Rel.Model
/-
  C04: values and keys, sorting by id, the index invariant `IdxInv`, and the agreement of every read strategy of
  `Model.lean` with `spec` on a state that satisfies it.
-/
namespace Neumann.Rel

theorem fKey_inj_of_nonzero (a b : Nat) (h : fKey a = fKey b) (hz : fMag a ≠ 0) : a = b := by
  unfold fKey at h; unfold fMag at hz
  by_cases ha : 9223372036854775808 ≤ a <;> by_cases hb : 9223372036854775808 ≤ b <;>
    simp only [ha, hb, if_true, if_false] at h hz <;> omega

theorem fKey_zero_iff (a : Nat) : fKey a = 0 ↔ fMag a = 0 := by
  unfold fKey fMag; split <;> omega

/-- `f`: whatever is built from the bits (a hash key, a JSON number) -/
theorem fEq_same_normalised {α : Type} (f : Nat → α) (a b : Nat) (h : fEq a b = true) :
    (if fIsZero a then f 0 else f a) = (if fIsZero b then f 0 else f b) := by
  have hk : fKey a = fKey b := of_decide_eq_true (Bool.and_eq_true_iff.1 h).2
  by_cases ha : fMag a = 0
  · have hb : fMag b = 0 := (fKey_zero_iff b).1 (hk ▸ (fKey_zero_iff a).2 ha)
    rw [if_pos (show fIsZero a = true from decide_eq_true ha), if_pos (show fIsZero b = true from decide_eq_true hb)]
  · rw [fKey_inj_of_nonzero a b hk ha]

/-- JSON numbers that are equal (`impl PartialEq for N`) are the same number once float zeros are `0.0` -/
theorem jnum_eq_same_posZero (a b : JNum) (h : JNum.eq a b = true) : a.posZero = b.posZero := by
  cases a <;> cases b <;> try cases h
  case pos.pos x y => exact congrArg JNum.pos (of_decide_eq_true h)
  case neg.neg x y => exact congrArg JNum.neg (of_decide_eq_true h)
  case flt.flt x y => exact fEq_same_normalised JNum.flt x y h

/-- **what the repair of f72f348f rests on**: JSON values that are equal under `serde_json::Value`'s
    `PartialEq` are the same tree after `json_with_positive_zeros` (hence render to the same text and land in
    the same hash bucket) -/
theorem json_eq_same_posZeros : ∀ (a b : Json), Json.eq a b = true → a.posZeros = b.posZeros := by
  intro a
  induction a with
  | null => intro b h; cases b with
    | null => rfl
    | _ => cases h
  | bool x => intro b h; cases b with
    | bool y => exact congrArg Json.bool (of_decide_eq_true h)
    | _ => cases h
  | num n => intro b h; cases b with
    | num m => exact congrArg Json.num (jnum_eq_same_posZero n m h)
    | _ => cases h
  | str x => intro b h; cases b with
    | str y => exact congrArg Json.str (of_decide_eq_true h)
    | _ => cases h
  | anil => intro b h; cases b with
    | anil => rfl
    | _ => cases h
  | acons hd tl ih1 ih2 => intro b h; cases b with
    | acons hd' tl' =>
      have h := Bool.and_eq_true_iff.1 h
      show Json.acons hd.posZeros tl.posZeros = Json.acons hd'.posZeros tl'.posZeros
      rw [ih1 _ h.1, ih2 _ h.2]
    | _ => cases h
  | onil => intro b h; cases b with
    | onil => rfl
    | _ => cases h
  | ocons k v r ih1 ih2 => intro b h; cases b with
    | ocons k' v' r' =>
      have h := Bool.and_eq_true_iff.1 h
      have h1 := Bool.and_eq_true_iff.1 h.1
      show Json.ocons k v.posZeros r.posZeros = Json.ocons k' v'.posZeros r'.posZeros
      rw [of_decide_eq_true h1.1, ih1 _ h1.2, ih2 _ h.2]
    | _ => cases h

theorem eq_implies_same_hashKey (v w : Value) (h : Value.eq v w = true) : hashKey v = hashKey w := by
  -- values of different kinds are never `==`
  cases v <;> cases w <;> try cases h
  case null.null => rfl
  case int.int a b => exact congrArg HKey.i (of_decide_eq_true h)
  case float.float a b => exact fEq_same_normalised HKey.f a b h
  case str.str a b => exact congrArg HKey.s (of_decide_eq_true h)
  case bool.bool a b => exact congrArg HKey.b (of_decide_eq_true h)
  case bytes.bytes a b => exact congrArg HKey.y (of_decide_eq_true h)
  case json.json a _ b _ => exact congrArg HKey.j (json_eq_same_posZeros a b h)

theorem icmp_lt (a b : Int) : icmp a b = .lt ↔ a < b := by unfold icmp; split <;> simp_all <;> split <;> simp_all

theorem icmp_eq_iff (a b : Int) : icmp a b = .eq ↔ a = b := by
  constructor
  · intro h
    unfold icmp at h
    split at h
    · cases h
    · split at h
      · assumption
      · cases h
  · rintro rfl
    unfold icmp
    rw [if_neg (Int.lt_irrefl a), if_pos rfl]

theorem icmp_gt_iff (a b : Int) : icmp a b = .gt ↔ b < a := by
  constructor
  · intro h
    unfold icmp at h
    split at h
    · cases h
    · split at h
      · cases h
      · rename_i h1 h2; exact Int.lt_iff_le_and_ne.2 ⟨Int.not_lt.1 h1, Ne.symm h2⟩
  · intro h
    unfold icmp
    rw [if_neg (Int.lt_asymm h), if_neg (Int.ne_of_gt h)]

theorem cmp_agrees_with_orderedKey (v w : Value) (o : Ordering) (h : partialCmp v w = some o) :
    OKey.cmp (ordKey v) (ordKey w) = o := by
  -- two kinds, NULLs, booleans: `partialCmp` is `none`
  cases v <;> cases w <;> try (cases h <;> rfl)
  case float.float a b =>
    replace h : fCmp a b = some o := h
    unfold fCmp at h
    split at h
    · cases h
    · rename_i hn
      cases h
      rw [Bool.or_eq_true, not_or, Bool.not_eq_true, Bool.not_eq_true] at hn
      show OKey.cmp (if fIsNan a then _ else _) (if fIsNan b then _ else _) = _
      rw [hn.1, hn.2]; rfl

theorem insertSorted_perm (x : Nat) (l : List Nat) : (insertSorted x l).Perm (x :: l) := by
  induction l with
  | nil => exact .refl _
  | cons y ys ih =>
    unfold insertSorted; split
    · exact .refl _
    · exact (ih.cons y).trans (.swap x y ys)

theorem sortIds_perm (l : List Nat) : (sortIds l).Perm l := by
  induction l with
  | nil => exact .refl _
  | cons x xs ih => exact (insertSorted_perm x _).trans (ih.cons x)

theorem mem_sortIds (y : Nat) (l : List Nat) : y ∈ sortIds l ↔ y ∈ l := (sortIds_perm l).mem_iff

theorem length_sortIds (l : List Nat) : (sortIds l).length = l.length := (sortIds_perm l).length_eq

def StrictAsc (l : List Nat) : Prop := l.Pairwise (· < ·)

theorem StrictAsc.nodup {l : List Nat} (h : StrictAsc l) : l.Nodup := h.imp Nat.ne_of_lt

theorem strictAsc_insertSorted (x : Nat) (l : List Nat) (h : StrictAsc l) (hx : x ∉ l) :
    StrictAsc (insertSorted x l) := by
  induction l with
  | nil => exact List.pairwise_singleton _ _
  | cons z zs ih =>
    have hz := List.pairwise_cons.1 h
    have hne : x ≠ z := fun e => hx (e ▸ List.mem_cons_self)
    unfold insertSorted; split
    · rename_i hle
      refine List.pairwise_cons.2 ⟨fun a ha => ?_, h⟩
      rcases List.mem_cons.1 ha with rfl | ha
      · exact Nat.lt_of_le_of_ne hle hne
      · exact Nat.lt_of_le_of_lt hle (hz.1 a ha)
    · rename_i hle
      refine List.pairwise_cons.2 ⟨fun a ha => ?_, ih hz.2 (fun hm => hx (List.mem_cons_of_mem _ hm))⟩
      rcases List.mem_cons.1 ((insertSorted_perm x zs).mem_iff.1 ha) with rfl | ha
      · exact Nat.lt_of_not_le hle
      · exact hz.1 a ha

theorem strictAsc_sortIds (l : List Nat) (h : l.Nodup) : StrictAsc (sortIds l) := by
  induction l with
  | nil => exact List.Pairwise.nil
  | cons x xs ih =>
    rw [List.nodup_cons] at h
    exact strictAsc_insertSorted x _ (ih h.2) (by rw [mem_sortIds]; exact h.1)

theorem strictAsc_ext (a b : List Nat) (ha : StrictAsc a) (hb : StrictAsc b) (h : ∀ x, x ∈ a ↔ x ∈ b) : a = b :=
  List.Perm.eq_of_pairwise (le := (· < ·)) (fun _ _ _ _ h1 h2 => absurd h1 (Nat.lt_asymm h2)) ha hb
    ((List.perm_ext_iff_of_nodup ha.nodup hb.nodup).2 h)

theorem sortIds_of_strictAsc (l : List Nat) (h : StrictAsc l) : sortIds l = l :=
  strictAsc_ext _ _ (strictAsc_sortIds l h.nodup) h (fun x => mem_sortIds x l)

def RowsWF (rows : List RowE) : Prop :=
  (rows.map (·.id)).Pairwise (· < ·) ∧ ∀ r ∈ rows, r.id ≤ rows.length

structure KInv {κ : Type} (key : Value → κ) (rows : List RowE) (c : ColRef) (ix : Idx κ) : Prop where
  nodup : (ix.map Prod.snd).Nodup
  sound : ∀ k i, (k, i) ∈ ix → ∃ r ∈ rows, r.id = i ∧ r.alive = true ∧ ∃ v, getWithId r.id r.vals c = some v ∧ key v = k
  complete : ∀ r ∈ rows, r.alive = true → ∀ v, getWithId r.id r.vals c = some v → (key v, r.id) ∈ ix

def IdxInv (t : Table) : Prop :=
  RowsWF t.rows ∧ (∀ c ix, (c, ix) ∈ t.hidx → KInv hashKey t.rows c ix) ∧
    (∀ c ix, (c, ix) ∈ t.oidx → KInv ordKey t.rows c ix) ∧
    (∀ r ∈ t.rows, r.vals.length = t.schema.length)

theorem IdxInv.wf {t : Table} (h : IdxInv t) : RowsWF t.rows := h.1
theorem IdxInv.hash {t : Table} (h : IdxInv t) {c ix} (hm : (c, ix) ∈ t.hidx) : KInv hashKey t.rows c ix := h.2.1 c ix hm
theorem IdxInv.ord {t : Table} (h : IdxInv t) {c ix} (hm : (c, ix) ∈ t.oidx) : KInv ordKey t.rows c ix := h.2.2.1 c ix hm
theorem IdxInv.width {t : Table} (h : IdxInv t) {r} (hr : r ∈ t.rows) : r.vals.length = t.schema.length := h.2.2.2 r hr

theorem id_inj (rows : List RowE) (h : (rows.map (·.id)).Pairwise (· < ·)) :
    ∀ r ∈ rows, ∀ r' ∈ rows, r.id = r'.id → r = r' := by
  induction rows with
  | nil => simp
  | cons x xs ih =>
    rw [List.map_cons, List.pairwise_cons] at h
    intro r hr r' hr' he
    rcases List.mem_cons.1 hr with h1 | h1 <;> rcases List.mem_cons.1 hr' with h2 | h2
    · rw [h1, h2]
    · exact absurd (h1 ▸ he) (Nat.ne_of_lt (h.1 r'.id (List.mem_map.2 ⟨r', h2, rfl⟩)))
    · exact absurd (h2 ▸ he).symm (Nat.ne_of_lt (h.1 r.id (List.mem_map.2 ⟨r, h1, rfl⟩)))
    · exact ih h.2 r h1 r' h2 he

theorem assocGet_mem {β : Type} (c : ColRef) (l : List (ColRef × β)) (b : β) (h : assocGet c l = some b) : (c, b) ∈ l := by
  induction l with
  | nil => cases h
  | cons p ps ih =>
    obtain ⟨c', b'⟩ := p
    unfold assocGet at h
    split at h
    · rename_i hc; cases h; subst hc; exact List.mem_cons_self
    · exact List.mem_cons_of_mem _ (ih h)

theorem spec_strictAsc (t : Table) (c : Cond) (h : RowsWF t.rows) : StrictAsc (spec t c) :=
  h.1.sublist ((List.filter_sublist).map _)

theorem spec_length_le (t : Table) (c : Cond) : (spec t c).length ≤ t.rows.length := by
  unfold spec; rw [List.length_map]; exact List.length_filter_le _ _

theorem scanFilter_eq (t : Table) (c : Cond) :
    (scanAll t).filter (fun r => evaluate c r.id r.vals) = t.rows.filter (matchesRow c) := by
  unfold scanAll
  rw [List.filter_filter]
  exact List.filter_congr fun r _ => Bool.and_comm _ _

theorem scanFilter_map_id (t : Table) (c : Cond) :
    ((scanAll t).filter (fun r => evaluate c r.id r.vals)).map (·.id) = spec t c :=
  congrArg (List.map (·.id)) (scanFilter_eq t c)

theorem scanSelect_eq_spec (t : Table) (c : Cond) (h : RowsWF t.rows) : scanSelect t c = spec t c := by
  unfold scanSelect
  rw [scanFilter_map_id]
  exact sortIds_of_strictAsc _ (spec_strictAsc t c h)

theorem find_id_eq_some (rows : List RowE) (hw : (rows.map (·.id)).Pairwise (· < ·)) (i : Nat) (r : RowE) :
    rows.find? (fun r' => decide (r'.id = i) && r'.alive) = some r ↔ r ∈ rows ∧ r.id = i ∧ r.alive = true := by
  constructor
  · intro hf
    have hp := List.find?_some hf
    simp only [Bool.and_eq_true, decide_eq_true_eq] at hp
    exact ⟨List.mem_of_find?_eq_some hf, hp⟩
  · rintro ⟨hm, rfl, ha⟩
    cases hf : rows.find? (fun r' => decide (r'.id = r.id) && r'.alive) with
    | none => have := List.find?_eq_none.1 hf r hm; simp [ha] at this
    | some r' =>
      have hp := List.find?_some hf
      simp only [Bool.and_eq_true, decide_eq_true_eq] at hp
      rw [id_inj rows hw r' (List.mem_of_find?_eq_some hf) r hm hp.1]

theorem fetch_mem (t : Table) (ids : List Nat) (h : RowsWF t.rows) (r : RowE) :
    r ∈ fetch t ids ↔ r ∈ t.rows ∧ r.alive = true ∧ r.id ∈ ids := by
  unfold fetch
  rw [List.mem_filterMap]
  constructor
  · rintro ⟨i, hi, hf⟩
    obtain ⟨hm, rfl, ha⟩ := (find_id_eq_some t.rows h.1 i r).1 hf
    exact ⟨hm, ha, hi⟩
  · rintro ⟨hm, ha, hi⟩
    exact ⟨r.id, hi, (find_id_eq_some t.rows h.1 r.id r).2 ⟨hm, rfl, ha⟩⟩

theorem fetch_ids_sublist (t : Table) (ids : List Nat) : ((fetch t ids).map (·.id)).Sublist ids := by
  induction ids with
  | nil => exact .slnil
  | cons i is ih =>
    unfold fetch at ih ⊢
    rw [List.filterMap_cons]
    split
    · exact ih.cons _
    · rename_i r hf
      have hp := List.find?_some hf
      simp only [Bool.and_eq_true, decide_eq_true_eq] at hp
      rw [List.map_cons, hp.1]
      exact ih.cons_cons _

/-- what an index lookup owes the re-check; nothing about the order, nothing about what else is in the list -/
def Cands (t : Table) (c : Cond) (ids : List Nat) : Prop :=
  ids.Nodup ∧ ∀ r ∈ t.rows, r.alive = true → evaluate c r.id r.vals = true → r.id ∈ ids

theorem Cands.perm {t c ids ids'} (h : Cands t c ids) (hp : ids'.Perm ids) : Cands t c ids' :=
  ⟨hp.nodup_iff.2 h.1, fun r hr ha he => hp.mem_iff.2 (h.2 r hr ha he)⟩

theorem Cands.and_left {t a b ids} (h : Cands t a ids) : Cands t (.and a b) ids :=
  ⟨h.1, fun r hr ha he => h.2 r hr ha (Bool.and_eq_true_iff.1 he).1⟩

theorem Cands.and_right {t a b ids} (h : Cands t b ids) : Cands t (.and a b) ids :=
  ⟨h.1, fun r hr ha he => h.2 r hr ha (Bool.and_eq_true_iff.1 he).2⟩

theorem selectViaIds_eq_spec (t : Table) (c : Cond) (ids : List Nat) (h : RowsWF t.rows) (hc : Cands t c ids) :
    selectViaIds t c ids = spec t c := by
  unfold selectViaIds
  apply strictAsc_ext
  · apply strictAsc_sortIds
    exact (hc.1.sublist (fetch_ids_sublist t ids)).sublist ((List.filter_sublist).map _)
  · exact spec_strictAsc t c h
  · intro x
    rw [mem_sortIds]
    unfold spec
    simp only [List.mem_map, List.mem_filter, fetch_mem t ids h]
    constructor
    · rintro ⟨r, ⟨⟨hm, ha, _⟩, he⟩, rfl⟩
      exact ⟨r, ⟨hm, by simp [matchesRow, ha, he]⟩, rfl⟩
    · rintro ⟨r, ⟨hm, hp⟩, rfl⟩
      simp only [matchesRow, Bool.and_eq_true] at hp
      exact ⟨r, ⟨⟨hm, hp.1, hc.2 r hm hp.1 hp.2⟩, hp.2⟩, rfl⟩

theorem countViaIds_eq (t : Table) (c : Cond) (ids : List Nat) (h : RowsWF t.rows) (hc : Cands t c ids) :
    ((fetch t ids).filter (fun r => evaluate c r.id r.vals)).length = (spec t c).length := by
  rw [← selectViaIds_eq_spec t c ids h hc, selectViaIds, length_sortIds, List.length_map]

theorem cands_of_kinv {κ : Type} {key : Value → κ} {t : Table} {col : ColRef} {ix : Idx κ}
    (k : KInv key t.rows col ix) (c : Cond) (sel : κ → Bool)
    (hsel : ∀ r : RowE, evaluate c r.id r.vals = true →
      ∃ x, getWithId r.id r.vals col = some x ∧ sel (key x) = true) :
    Cands t c ((ix.filter (fun p => sel p.1)).map (·.2)) := by
  refine ⟨k.nodup.sublist ((List.filter_sublist).map _), fun r hr ha he => ?_⟩
  obtain ⟨x, hg, hs⟩ := hsel r he
  exact List.mem_map.2 ⟨(key x, r.id), List.mem_filter.2 ⟨k.complete r hr ha x hg, hs⟩, rfl⟩

theorem lookup_cases {Q : Cond → List Nat → Prop} (t : Table)
    (hh : ∀ col v ix, (col, ix) ∈ t.hidx → Q (.eq col v) (hashLookup ix v))
    (ho : ∀ op col v ix, (col, ix) ∈ t.oidx → Q (.rng op col v) (rangeLookup ix op v))
    (hl : ∀ a b ids, Q a ids → Q (.and a b) ids) (hr : ∀ a b ids, Q b ids → Q (.and a b) ids) (c : Cond) :
    ∀ ids, tryIndexLookup t c = some ids → Q c ids := by
  induction c with
  | tt | ne _ _ | or _ _ _ _ => intro ids h; cases h
  | eq col v =>
    intro ids h
    obtain ⟨ix, hix, rfl⟩ := Option.map_eq_some_iff.1 h
    exact hh col v ix (assocGet_mem col _ ix hix)
  | rng op col v =>
    intro ids h
    obtain ⟨ix, hix, rfl⟩ := Option.map_eq_some_iff.1 h
    exact ho op col v ix (assocGet_mem col _ ix hix)
  | and a b iha ihb =>
    intro ids h
    unfold tryIndexLookup at h
    split at h
    · cases h; exact hl a b _ (iha _ ‹_›)
    · exact hr a b ids (ihb ids h)

theorem lookup_sound (t : Table) (hi : IdxInv t) (c : Cond) :
    ∀ ids, tryIndexLookup t c = some ids → Cands t c ids := by
  refine lookup_cases t (fun col v ix hm => ?_) (fun op col v ix hm => ?_) (fun _ _ _ h => h.and_left)
    (fun _ _ _ h => h.and_right) c
  · -- `==` implies the same bucket
    refine cands_of_kinv (hi.hash hm) _ (fun k => decide (k = hashKey v)) fun r he => ?_
    unfold evaluate at he
    split at he
    · rename_i x hg; exact ⟨x, hg, decide_eq_true (eq_implies_same_hashKey x v he)⟩
    · cases he
  · -- the value order is the key order
    refine cands_of_kinv (hi.ord hm) _ (fun k => op.holds (OKey.cmp k (ordKey v))) fun r he => ?_
    unfold evaluate at he
    split at he
    · rename_i x hg
      split at he
      · rename_i o ho; exact ⟨x, hg, by rw [cmp_agrees_with_orderedKey x v o ho]; exact he⟩
      · cases he
    · cases he

theorem select_eq_spec (t : Table) (hi : IdxInv t) (c : Cond) : select t c = spec t c := by
  unfold select
  cases h : tryIndexLookup t c with
  | none => exact scanSelect_eq_spec t c hi.wf
  | some ids => exact selectViaIds_eq_spec t c ids hi.wf (lookup_sound t hi c ids h)

theorem selectLimit_eq (t : Table) (hi : IdxInv t) (c : Cond) (limit offset : Nat) :
    selectLimit t c limit offset = ((spec t c).drop offset).take limit := by
  unfold selectLimit
  split
  · rename_i h; subst h; exact List.take_zero.symm
  · cases h : tryIndexLookup t c with
    | some ids => simp only [selectViaIds_eq_spec t c ids hi.wf (lookup_sound t hi c ids h)]
    | none =>
      simp only
      rw [List.map_take, scanFilter_map_id,
        sortIds_of_strictAsc _ ((spec_strictAsc t c hi.wf).sublist (List.take_sublist _ _))]
      rw [List.drop_take, Nat.add_sub_cancel_left, List.take_take, Nat.min_self]

/-- the `Condition::True` fast path is the scan branch: no index serves `True`, and `True` filters nothing -/
theorem count_eq_lookup (t : Table) (c : Cond) :
    count t c = match tryIndexLookup t c with
      | some ids => ((fetch t ids).filter (fun r => evaluate c r.id r.vals)).length
      | none => ((scanAll t).filter (fun r => evaluate c r.id r.vals)).length := by
  cases c with
  | tt => exact congrArg List.length (List.filter_eq_self.2 fun _ _ => rfl).symm
  | _ => rfl

theorem count_eq (t : Table) (hi : IdxInv t) (c : Cond) : count t c = (spec t c).length := by
  rw [count_eq_lookup]
  cases h : tryIndexLookup t c with
  | some ids => exact countViaIds_eq t c ids hi.wf (lookup_sound t hi c ids h)
  | none => exact (congrArg List.length (scanFilter_map_id t c)).symm.trans (List.length_map _) |>.symm

theorem pagesMax_none (sel : Nat → Nat → List Nat) (batch : Nat) :
    ∀ fuel off y, pagesMax sel batch none fuel off y = pagesFrom sel batch fuel off := by
  intro fuel
  induction fuel with
  | zero => intro off y; rfl
  | succ f ih =>
    intro off y
    unfold pagesMax pagesFrom
    simp only [ih]

theorem page_append (rest next : List Nat) (n : Nat) (hn : 0 < n) :
    (if (rest.take n).isEmpty then [] else if (rest.take n).length < n then rest.take n else rest.take n ++ next) =
      rest.take n ++ (if n ≤ rest.length then next else []) := by
  rw [List.length_take]
  cases rest with
  | nil => cases n with | zero => exact absurd hn (Nat.lt_irrefl 0) | succ n => rfl
  | cons a as =>
    rw [if_neg (by cases n with | zero => exact absurd hn (Nat.lt_irrefl 0) | succ n => simp)]
    by_cases hle : n ≤ (a :: as).length
    · rw [if_neg (Nat.not_lt.2 (Nat.le_of_eq (Nat.min_eq_left hle).symm)), if_pos hle]
    · rw [if_pos (Nat.lt_of_le_of_lt (Nat.min_le_right _ _) (Nat.lt_of_not_le hle)), if_neg hle, List.append_nil]

theorem fuel_step {len off n f : Nat} (h : len - off < f + 1) (hn : 0 < n) (hle : n ≤ len - off) :
    len - (off + n) < f := by
  rw [Nat.sub_add_eq]
  exact Nat.lt_of_lt_of_le (Nat.sub_lt (Nat.lt_of_lt_of_le hn hle) hn) (Nat.le_of_lt_succ h)

theorem pagesMax_window (l : List Nat) (batch : Nat) (hb : 0 < batch) (max : Option Nat) :
    ∀ fuel off y, l.length - off < fuel →
      pagesMax (fun n o => (l.drop o).take n) batch max fuel off y =
        match max with
        | some m => (l.drop off).take (m - y)
        | none => l.drop off := by
  intro fuel
  induction fuel with
  | zero => intro off y h; exact absurd h (Nat.not_lt_zero _)
  | succ f ih =>
    intro off y h
    unfold pagesMax
    have hlen : (l.drop off).length = l.length - off := List.length_drop
    cases max with
    | none =>
      simp only at ih ⊢
      rw [page_append _ _ batch hb]
      by_cases hle : batch ≤ (l.drop off).length
      · rw [if_pos hle, List.length_take, Nat.min_eq_left hle, ih _ _ (fuel_step h hb (hlen ▸ hle)),
          ← List.drop_drop, List.take_append_drop]
      · rw [if_neg hle, List.append_nil, List.take_of_length_le (Nat.le_of_lt (Nat.lt_of_not_le hle))]
    | some m =>
      simp only at ih ⊢
      by_cases hz : m - y = 0
      · rw [if_pos hz, hz, List.take_zero]
      · rw [if_neg hz]
        simp only
        generalize hn : min (m - y) batch = n
        have hnw : n ≤ m - y := hn ▸ Nat.min_le_left _ _
        have hn0 : 0 < n := hn ▸ Nat.lt_min.2 ⟨Nat.pos_of_ne_zero hz, hb⟩
        rw [page_append _ _ n hn0]
        by_cases hle : n ≤ (l.drop off).length
        · rw [if_pos hle, List.length_take, Nat.min_eq_left hle, ih _ _ (fuel_step h hn0 (hlen ▸ hle)),
            ← List.drop_drop, ← List.take_add, Nat.sub_add_eq, Nat.add_sub_of_le hnw]
        · have hlt := Nat.le_of_lt (Nat.lt_of_not_le hle)
          rw [if_neg hle, List.append_nil, List.take_of_length_le hlt, List.take_of_length_le (Nat.le_trans hlt hnw)]

theorem cursorSelectMax_eq (t : Table) (hi : IdxInv t) (c : Cond) (batch : Nat) (hb : 0 < batch)
    (max : Option Nat) :
    cursorSelectMax t c batch max =
      (match max with | some m => (spec t c).take m | none => spec t c) := by
  unfold cursorSelectMax
  rw [show (fun l o => selectLimit t c l o) = (fun n o => ((spec t c).drop o).take n) from
    funext fun l => funext fun o => selectLimit_eq t hi c l o,
    pagesMax_window (spec t c) batch hb max _ _ _
      (Nat.lt_succ_of_le (Nat.le_trans (Nat.sub_le _ _) (spec_length_le t c)))]
  rfl

theorem cursorSelect_eq (t : Table) (hi : IdxInv t) (c : Cond) (batch : Nat) (hb : 0 < batch) :
    cursorSelect t c batch = spec t c :=
  (pagesMax_none _ batch _ 0 0).symm.trans (cursorSelectMax_eq t hi c batch hb none)

theorem intLeaf_eq (k : Int) (r : RowE) (i : Nat) :
    intLeaf none false k (slotVal r i) = evaluate (.eq (.col i) (.int k)) r.id r.vals := by
  simp only [evaluate, getWithId, slotVal]
  cases r.vals[i]? with
  | none => rfl
  | some x => cases x <;> rfl

theorem intLeaf_ne (k : Int) (r : RowE) (i : Nat) :
    intLeaf none true k (slotVal r i) = evaluate (.ne (.col i) (.int k)) r.id r.vals := by
  simp only [evaluate, getWithId, slotVal]
  cases r.vals[i]? with
  | none => rfl
  | some x => cases x with
    | int y => exact decide_not
    | _ => rfl

theorem intLeaf_rng (op : RangeOp) (k : Int) (r : RowE) (i : Nat) :
    intLeaf (some op) false k (slotVal r i) = evaluate (.rng op (.col i) (.int k)) r.id r.vals := by
  simp only [evaluate, getWithId, slotVal]
  cases r.vals[i]? with
  | none => rfl
  | some x => cases x <;> rfl

theorem floatLeaf_eq (k : Nat) (r : RowE) (i : Nat) :
    floatLeaf none k (slotVal r i) = evaluate (.eq (.col i) (.float k)) r.id r.vals := by
  simp only [evaluate, getWithId, slotVal]
  cases r.vals[i]? with
  | none => rfl
  | some x => cases x <;> rfl

theorem floatLeaf_rng (op : RangeOp) (k : Nat) (r : RowE) (i : Nat) :
    floatLeaf (some op) k (slotVal r i) = evaluate (.rng op (.col i) (.float k)) r.id r.vals := by
  simp only [evaluate, getWithId, slotVal]
  cases r.vals[i]? with
  | none => rfl
  | some x => cases x <;> rfl

theorem zipWith_map_map {α β γ : Type} (f : β → β → γ) (l : List α) (p q : α → β) :
    List.zipWith f (l.map p) (l.map q) = l.map (fun a => f (p a) (q a)) := by
  rw [List.zipWith_map, List.zipWith_self]

theorem leaf_bits {t : Table} {p : Prop} [Decidable p] {f : RowE → Bool} {bits : List Bool} (c : Cond)
    (h : (if p then some (t.rows.map (fun r => r.alive && f r)) else none) = some bits)
    (hf : ∀ r, f r = evaluate c r.id r.vals) : bits = t.rows.map (matchesRow c) := by
  split at h
  · cases h; exact List.map_congr_left fun r _ => congrArg (r.alive && ·) (hf r)
  · cases h

theorem vecFilter_eq (t : Table) (c : Cond) :
    ∀ bits, vecFilter t c = some bits → bits = t.rows.map (matchesRow c) := by
  induction c with
  | tt => intro bits h; cases h
  | eq col v =>
    intro bits h
    cases col with
    | id => cases h
    | col i =>
      cases v with
      | int k => exact leaf_bits _ h (intLeaf_eq k · i)
      | float k => exact leaf_bits _ h (floatLeaf_eq k · i)
      | _ => cases h
  | ne col v =>
    intro bits h
    cases col with
    | id => cases h
    | col i =>
      cases v with
      | int k => exact leaf_bits _ h (intLeaf_ne k · i)
      | _ => cases h
  | rng op col v =>
    intro bits h
    cases col with
    | id => cases op <;> cases h
    | col i =>
      cases v with
      | int k => exact leaf_bits _ h (intLeaf_rng op k · i)
      | float k =>
        cases op with
        | lt => exact leaf_bits _ h (floatLeaf_rng .lt k · i)
        | gt => exact leaf_bits _ h (floatLeaf_rng .gt k · i)
        | _ => cases h
      | _ => cases op <;> cases h
  | and a b iha ihb =>
    intro bits h
    unfold vecFilter at h
    split at h
    · rename_i x y ha hb
      cases h
      rw [iha x ha, ihb y hb, zipWith_map_map]
      exact List.map_congr_left fun r _ => by unfold matchesRow; cases r.alive <;> rfl
    · cases h
  | or a b iha ihb =>
    intro bits h
    unfold vecFilter at h
    split at h
    · rename_i x y ha hb
      cases h
      rw [iha x ha, ihb y hb, zipWith_map_map]
      exact List.map_congr_left fun r _ => by unfold matchesRow; cases r.alive <;> rfl
    · cases h

theorem selectedIds_map (rows : List RowE) (p : RowE → Bool) :
    selectedIds rows (rows.map p) = (rows.filter p).map (·.id) := by
  induction rows with
  | nil => rfl
  | cons r rs ih =>
    simp only [List.map_cons, selectedIds, List.filter_cons]
    split <;> simp [ih]

theorem columnarSelect_eq (t : Table) (hi : IdxInv t) (c : Cond) : columnarSelect t c = spec t c := by
  unfold columnarSelect
  split
  · cases h : vecFilter t c with
    | none => exact select_eq_spec t hi c
    | some bits =>
      simp only
      rw [vecFilter_eq t c bits h, selectedIds_map]
      rfl
  · exact select_eq_spec t hi c

end Neumann.Rel
