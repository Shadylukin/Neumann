import NeumannModel.Rel.Lemmas
/-
  C04: every operation preserves the index invariant `IdxInv`.  UPDATE, DELETE and their undo rewrite one slab
  row at a time (`mapAt`), and adjust every index
  by that row's entry; the operations are instances of the lemmas about that shape.
-/
namespace Neumann.Rel

variable {κ : Type} [DecidableEq κ]

theorem mem_idxAdd (k : κ) (i : Nat) (ix : Idx κ) (p : κ × Nat) :
    p ∈ idxAdd k i ix ↔ p ∈ ix ∨ p = (k, i) := by
  unfold idxAdd; split
  · rename_i h; constructor
    · exact Or.inl
    · rintro (h' | rfl); exact h'; exact h
  · simp

theorem nodup_idxAdd (k : κ) (i : Nat) (ix : Idx κ) (h : (ix.map Prod.snd).Nodup)
    (hf : ∀ k', (k', i) ∉ ix) : ((idxAdd k i ix).map Prod.snd).Nodup := by
  unfold idxAdd; split
  · exact h
  · rw [List.map_append, List.nodup_append]
    refine ⟨h, List.pairwise_singleton _ _, ?_⟩
    intro a ha b hb hab
    obtain ⟨⟨k', i'⟩, hp, rfl⟩ := List.mem_map.1 ha
    cases List.mem_singleton.1 hb
    cases (hab : i' = i)
    exact hf k' hp

theorem mem_idxRemove (k : κ) (i : Nat) (ix : Idx κ) (p : κ × Nat) :
    p ∈ idxRemove k i ix ↔ p ∈ ix ∧ ¬ (p.1 = k ∧ p.2 = i) := by
  unfold idxRemove
  simp only [List.mem_filter, Bool.not_eq_true', Bool.and_eq_false_iff, decide_eq_false_iff_not, not_and]
  constructor
  · rintro ⟨h, h'⟩; refine ⟨h, fun a => ?_⟩; rcases h' with h' | h'; exact absurd a h'; exact h'
  · rintro ⟨h, h'⟩; refine ⟨h, ?_⟩; by_cases a : p.1 = k; exact Or.inr (h' a); exact Or.inl a

/-- `(k, i)` is what row `r` contributes to an index on column `c` -/
def IsEntry (key : Value → κ) (c : ColRef) (r : RowE) (k : κ) (i : Nat) : Prop :=
  r.id = i ∧ r.alive = true ∧ ∃ v, getWithId r.id r.vals c = some v ∧ key v = k

omit [DecidableEq κ] in
theorem isEntry_iff_of_some {key : Value → κ} {c : ColRef} {r : RowE} {v : Value} (ha : r.alive = true)
    (hv : getWithId r.id r.vals c = some v) (k : κ) (i : Nat) : IsEntry key c r k i ↔ (k, i) = (key v, r.id) := by
  constructor
  · rintro ⟨rfl, _, v', hv', rfl⟩; rw [hv] at hv'; cases hv'; rfl
  · intro e; cases e; exact ⟨rfl, ha, v, hv, rfl⟩

omit [DecidableEq κ] in
theorem not_isEntry_of_none {key : Value → κ} {c : ColRef} {r : RowE} (hv : getWithId r.id r.vals c = none)
    (k : κ) (i : Nat) : ¬ IsEntry key c r k i := by
  rintro ⟨_, _, v', hv', _⟩; rw [hv] at hv'; cases hv'

omit [DecidableEq κ] in
theorem KInv.entry_at {key : Value → κ} {rows : List RowE} {c : ColRef} {ix : Idx κ} (h : KInv key rows c ix)
    (hw : (rows.map (·.id)).Pairwise (· < ·)) {y : RowE} (hy : y ∈ rows) {k : κ} (hm : (k, y.id) ∈ ix) :
    IsEntry key c y k y.id := by
  obtain ⟨r, hr, he⟩ := h.sound k y.id hm
  rw [id_inj rows hw r hr y hy he.1] at he; exact he

theorem mem_idxRemoveRow {key : Value → κ} {rows : List RowE} {c : ColRef} {ix : Idx κ} (h : KInv key rows c ix)
    (hw : (rows.map (·.id)).Pairwise (· < ·)) {y : RowE} (hy : y ∈ rows) (k : κ) (i : Nat) :
    (k, i) ∈ idxRemoveRow key y c ix ↔ (k, i) ∈ ix ∧ i ≠ y.id := by
  unfold idxRemoveRow
  split
  · rename_i v hv
    rw [mem_idxRemove]
    refine and_congr_right fun hm => ⟨fun hnot e => ?_, fun hne e => hne e.2⟩
    subst e
    obtain ⟨_, _, v', hv', hk⟩ := h.entry_at hw hy hm
    rw [hv] at hv'; cases hv'; exact hnot ⟨hk.symm, rfl⟩
  · rename_i hv
    refine ⟨fun hm => ⟨hm, fun e => ?_⟩, And.left⟩
    subst e
    exact not_isEntry_of_none hv _ _ (h.entry_at hw hy hm)

theorem nodup_idxRemoveRow (key : Value → κ) (y : RowE) (c : ColRef) (ix : Idx κ) (h : (ix.map Prod.snd).Nodup) :
    ((idxRemoveRow key y c ix).map Prod.snd).Nodup := by
  unfold idxRemoveRow; split
  · exact h.sublist ((List.filter_sublist).map _)
  · exact h

/-- `rows` with `g` applied to the row whose id is `id`; `killRow`, `setRow`, `reviveRow` are instances -/
def mapAt (id : Nat) (g : RowE → RowE) (rows : List RowE) : List RowE :=
  rows.map (fun r => if r.id = id then g r else r)

theorem mem_mapAt {rows : List RowE} {y : RowE} (g : RowE → RowE) (hw : (rows.map (·.id)).Pairwise (· < ·))
    (hy : y ∈ rows) (r' : RowE) :
    r' ∈ mapAt y.id g rows ↔ r' = g y ∨ (r' ∈ rows ∧ r'.id ≠ y.id) := by
  unfold mapAt
  rw [List.mem_map]
  constructor
  · rintro ⟨r0, h0, rfl⟩
    by_cases hid : r0.id = y.id
    · rw [if_pos hid, id_inj rows hw r0 h0 y hy hid]; exact Or.inl rfl
    · rw [if_neg hid]; exact Or.inr ⟨h0, hid⟩
  · rintro (rfl | ⟨h0, hne⟩)
    · exact ⟨y, hy, if_pos rfl⟩
    · exact ⟨r', h0, if_neg hne⟩

theorem mem_mapAt_of_ne {rows : List RowE} {r' : RowE} {id : Nat} (g : RowE → RowE) (h : r' ∈ rows) (hne : r'.id ≠ id) :
    r' ∈ mapAt id g rows :=
  List.mem_map.2 ⟨r', h, if_neg hne⟩

theorem mapAt_ids (rows : List RowE) (id : Nat) (g : RowE → RowE) (hg : ∀ r, (g r).id = r.id) :
    (mapAt id g rows).map (·.id) = rows.map (·.id) := by
  unfold mapAt
  rw [List.map_map]
  exact List.map_congr_left fun r _ => by show (if r.id = id then g r else r).id = r.id; split <;> simp [hg]

omit [DecidableEq κ] in
/-- row `y` becomes `g y`: the new index keeps the entries of the other rows and holds exactly `g y`'s under `y`'s id -/
theorem kinv_mapAt (key : Value → κ) {rows : List RowE} {c : ColRef} {ix : Idx κ} {y : RowE} (g : RowE → RowE)
    (ix' : Idx κ) (h : KInv key rows c ix) (hw : (rows.map (·.id)).Pairwise (· < ·)) (hy : y ∈ rows)
    (hnd : (ix'.map Prod.snd).Nodup)
    (hmem : ∀ k i, (k, i) ∈ ix' ↔ ((k, i) ∈ ix ∧ i ≠ y.id) ∨ IsEntry key c (g y) k i) :
    KInv key (mapAt y.id g rows) c ix' := by
  refine ⟨hnd, fun k i hm => ?_, fun r' hr' ha v hv => ?_⟩
  · rcases (hmem k i).1 hm with ⟨hm, hne⟩ | he
    · obtain ⟨r, hr, he⟩ := h.sound k i hm
      exact ⟨r, mem_mapAt_of_ne g hr (fun e => hne (he.1 ▸ e)), he⟩
    · exact ⟨g y, (mem_mapAt g hw hy _).2 (Or.inl rfl), he⟩
  · rcases (mem_mapAt g hw hy r').1 hr' with rfl | ⟨hr, hne⟩
    · exact (hmem _ _).2 (Or.inr ⟨rfl, ha, v, hv, rfl⟩)
    · exact (hmem _ _).2 (Or.inl ⟨h.complete r' hr ha v hv, hne⟩)

omit [DecidableEq κ] in
theorem kinv_mapAt_none (key : Value → κ) {rows : List RowE} {c : ColRef} {ix : Idx κ} {y : RowE} (g : RowE → RowE)
    (ix₀ : Idx κ) (h : KInv key rows c ix) (hw : (rows.map (·.id)).Pairwise (· < ·)) (hy : y ∈ rows)
    (hnd : (ix₀.map Prod.snd).Nodup) (hrest : ∀ k i, (k, i) ∈ ix₀ ↔ (k, i) ∈ ix ∧ i ≠ y.id)
    (hno : ∀ k i, ¬ IsEntry key c (g y) k i) :
    KInv key (mapAt y.id g rows) c ix₀ :=
  kinv_mapAt key g ix₀ h hw hy hnd fun k i => by rw [hrest, or_iff_left (hno k i)]

theorem kinv_mapAt_add (key : Value → κ) {rows : List RowE} {c : ColRef} {ix : Idx κ} {y : RowE} (g : RowE → RowE)
    (ix₀ : Idx κ) (nv : Value) (h : KInv key rows c ix) (hw : (rows.map (·.id)).Pairwise (· < ·)) (hy : y ∈ rows)
    (hnd : (ix₀.map Prod.snd).Nodup) (hrest : ∀ k i, (k, i) ∈ ix₀ ↔ (k, i) ∈ ix ∧ i ≠ y.id)
    (hid : (g y).id = y.id) (ha : (g y).alive = true) (hv : getWithId (g y).id (g y).vals c = some nv) :
    KInv key (mapAt y.id g rows) c (idxAdd (key nv) y.id ix₀) :=
  kinv_mapAt key g _ h hw hy (nodup_idxAdd _ _ _ hnd fun k' hm => ((hrest k' _).1 hm).2 rfl) fun k i => by
    rw [mem_idxAdd, hrest, isEntry_iff_of_some ha hv, hid]

/-- removing one live row (one step of `tx_delete`) -/
theorem kinv_kill (key : Value → κ) (rows : List RowE) (c : ColRef) (ix : Idx κ) (r : RowE)
    (h : KInv key rows c ix) (hw : (rows.map (·.id)).Pairwise (· < ·)) (hr : r ∈ rows) :
    KInv key (killRow r.id rows) c (idxRemoveRow key r c ix) :=
  kinv_mapAt_none key (fun x => { x with alive := false }) _ h hw hr (nodup_idxRemoveRow key r c ix h.nodup)
    (mem_idxRemoveRow h hw hr) fun _ _ he => Bool.false_ne_true he.2.1

omit [DecidableEq κ] in
theorem kinv_replace_same (key : Value → κ) (rows : List RowE) (c : ColRef) (ix : Idx κ) (y : RowE)
    (vals' : List Value) (h : KInv key rows c ix) (hw : (rows.map (·.id)).Pairwise (· < ·)) (hy : y ∈ rows)
    (hs : getWithId y.id vals' c = getWithId y.id y.vals c) :
    KInv key (setRow y.id vals' rows) c ix := by
  refine kinv_mapAt key (fun x => { x with vals := vals' }) ix h hw hy h.nodup fun k i => ?_
  have e : IsEntry key c { y with vals := vals' } k i ↔ IsEntry key c y k i := by
    show (_ ∧ _ ∧ ∃ v, getWithId y.id vals' c = some v ∧ _) ↔ _; rw [hs]; rfl
  rw [e]
  constructor
  · intro hm
    by_cases hid : i = y.id
    · subst hid; exact Or.inr (h.entry_at hw hy hm)
    · exact Or.inl ⟨hm, hid⟩
  · rintro (hm | ⟨rfl, ha, v, hv, rfl⟩)
    · exact hm.1
    · exact h.complete y hy ha v hv

/-- whatever entry the row had is removed, `nv`'s is pushed -/
theorem kinv_replace (key : Value → κ) (rows : List RowE) (c : ColRef) (ix : Idx κ) (y : RowE)
    (vals' : List Value) (nv : Value) (h : KInv key rows c ix) (hw : (rows.map (·.id)).Pairwise (· < ·))
    (hy : y ∈ rows) (hlive : y.alive = true) (hn : getWithId y.id vals' c = some nv) :
    KInv key (setRow y.id vals' rows) c (idxAdd (key nv) y.id (idxRemoveRow key y c ix)) :=
  kinv_mapAt_add key (fun x => { x with vals := vals' }) _ nv h hw hy (nodup_idxRemoveRow key y c ix h.nodup)
    (mem_idxRemoveRow h hw hy) rfl hlive hn

theorem applySetsFrom_get (sets : List (Nat × Value)) :
    ∀ (vs : List Value) (j i : Nat),
      (applySetsFrom sets j vs)[i]? = (vs[i]?).map (fun v => (setsGet (j + i) sets).getD v) := by
  intro vs
  induction vs with
  | nil => intro j i; simp [applySetsFrom]
  | cons v vs ih =>
    intro j i
    cases i with
    | zero => simp only [applySetsFrom, List.getElem?_cons_zero, Option.map_some, Nat.add_zero]
              cases setsGet j sets <;> rfl
    | succ i =>
      simp only [applySetsFrom, List.getElem?_cons_succ]
      rw [ih (j + 1) i, Nat.add_right_comm, Nat.add_assoc]

theorem applySetsFrom_length (sets : List (Nat × Value)) : ∀ (vs : List Value) (j : Nat),
    (applySetsFrom sets j vs).length = vs.length := by
  intro vs; induction vs with
  | nil => intro j; rfl
  | cons v vs ih => intro j; simp [applySetsFrom, ih]

theorem getWithId_applySets_of_none (sets : List (Nat × Value)) (id : Nat) (vals : List Value) (c : ColRef)
    (h : ∀ j, c = .col j → setsGet j sets = none) :
    getWithId id (applySetsFrom sets 0 vals) c = getWithId id vals c := by
  cases c with
  | id => rfl
  | col j =>
    show (applySetsFrom sets 0 vals)[j]? = vals[j]?
    rw [applySetsFrom_get, Nat.zero_add, h j rfl]
    cases vals[j]? <;> rfl

/-- rewriting one live row (one step of `tx_update`) -/
theorem kinv_set (key : Value → κ) (sets : List (Nat × Value)) (rows : List RowE) (c : ColRef) (ix : Idx κ)
    (r : RowE) (h : KInv key rows c ix) (hw : (rows.map (·.id)).Pairwise (· < ·)) (hr : r ∈ rows)
    (hlive : r.alive = true) (hcol : ∀ j nv, setsGet j sets = some nv → j < r.vals.length) :
    KInv key (setRow r.id (applySetsFrom sets 0 r.vals) rows) c (idxUpdateRow key sets r c ix) := by
  unfold idxUpdateRow
  split
  · exact kinv_replace_same key rows .id ix r _ h hw hr rfl
  · rename_i j
    split
    · rename_i hsg
      exact kinv_replace_same key rows _ ix r _ h hw hr
        (getWithId_applySets_of_none sets _ _ _ fun j' e => by cases e; exact hsg)
    · rename_i nv hsg
      refine kinv_replace key rows _ ix r _ nv h hw hr hlive ?_
      show (applySetsFrom sets 0 r.vals)[j]? = some nv
      rw [applySetsFrom_get, Nat.zero_add, hsg, List.getElem?_eq_getElem (hcol j nv hsg)]; rfl

theorem kinv_append (key : Value → κ) (rows : List RowE) (c : ColRef) (ix : Idx κ) (r : RowE)
    (h : KInv key rows c ix) (hfresh : ∀ r' ∈ rows, r'.id ≠ r.id) :
    KInv key (rows ++ [r]) c (if r.alive then idxAddRow key r c ix else ix) := by
  have noid : ∀ k', (k', r.id) ∉ ix := fun k' hm => by
    obtain ⟨r', hr', hid, _⟩ := h.sound k' r.id hm
    exact hfresh r' hr' hid
  -- the new index holds the old entries and the entry of `r`
  suffices hix : ((if r.alive then idxAddRow key r c ix else ix).map Prod.snd).Nodup ∧
      ∀ k i, (k, i) ∈ (if r.alive then idxAddRow key r c ix else ix) ↔ (k, i) ∈ ix ∨ IsEntry key c r k i by
    refine ⟨hix.1, fun k i hm => ?_, fun r' hr' ha v hv => (hix.2 _ _).2 ?_⟩
    · rcases (hix.2 k i).1 hm with hm | he
      · obtain ⟨r', hr', he⟩ := h.sound k i hm
        exact ⟨r', List.mem_append_left _ hr', he⟩
      · exact ⟨r, List.mem_append_right _ List.mem_cons_self, he⟩
    · rcases List.mem_append.1 hr' with hr' | hr'
      · exact Or.inl (h.complete r' hr' ha v hv)
      · cases List.mem_singleton.1 hr'; exact Or.inr ⟨rfl, ha, v, hv, rfl⟩
  by_cases ha : r.alive = true
  · rw [if_pos ha]
    unfold idxAddRow
    split
    · rename_i v hv
      exact ⟨nodup_idxAdd _ _ _ h.nodup noid, fun k i => by rw [mem_idxAdd, isEntry_iff_of_some ha hv]⟩
    · rename_i hv
      exact ⟨h.nodup, fun k i => (or_iff_left (not_isEntry_of_none hv k i)).symm⟩
  · rw [if_neg ha]
    exact ⟨h.nodup, fun k i => (or_iff_left fun he => ha he.2.1).symm⟩

omit [DecidableEq κ] in
theorem kinv_nil (key : Value → κ) (c : ColRef) : KInv key [] c ([] : Idx κ) :=
  ⟨List.nodup_nil, fun _ _ h => (nomatch h), fun _ h => (nomatch h)⟩

theorem kinv_build_go (key : Value → κ) (c : ColRef) :
    ∀ (S P : List RowE) (ix : Idx κ), KInv key P c ix → ((P ++ S).map (·.id)).Pairwise (· < ·) →
      KInv key (P ++ S) c (S.foldl (fun ix r => if r.alive then idxAddRow key r c ix else ix) ix) := by
  intro S
  induction S with
  | nil => intro P ix h _; simpa using h
  | cons r S ih =>
    intro P ix h hp
    have hfresh : ∀ r' ∈ P, r'.id ≠ r.id := by
      intro r' hr'
      rw [List.map_append, List.pairwise_append] at hp
      exact Nat.ne_of_lt (hp.2.2 r'.id (List.mem_map.2 ⟨r', hr', rfl⟩) r.id (by simp))
    have h1 := kinv_append key P c ix r h hfresh
    have := ih (P ++ [r]) _ h1 (by simpa using hp)
    simpa using this

theorem kinv_build (key : Value → κ) (c : ColRef) (rows : List RowE) (h : RowsWF rows) :
    KInv key rows c (buildIdx key c rows) := by
  have := kinv_build_go key c rows [] [] (kinv_nil key c) (by simpa using h.1)
  simpa [buildIdx] using this

omit [DecidableEq κ] in
theorem mem_mapIdx {f : ColRef → Idx κ → Idx κ} {l : List (ColRef × Idx κ)} {c : ColRef} {ix' : Idx κ} :
    (c, ix') ∈ mapIdx f l ↔ ∃ ix, (c, ix) ∈ l ∧ ix' = f c ix := by
  unfold mapIdx; rw [List.mem_map]
  constructor
  · rintro ⟨⟨c0, ix⟩, hm, e⟩; cases e; exact ⟨ix, hm, rfl⟩
  · rintro ⟨ix, hm, rfl⟩; exact ⟨(c, ix), hm, rfl⟩

theorem idxInv_mapAt {t : Table} (hi : IdxInv t) (id : Nat) (g : RowE → RowE) (hid : ∀ r, (g r).id = r.id)
    (hwidth : ∀ r ∈ t.rows, r.id = id → (g r).vals.length = r.vals.length)
    (fh : ColRef → Idx HKey → Idx HKey) (fo : ColRef → Idx OKey → Idx OKey)
    (hh : ∀ c ix, (c, ix) ∈ t.hidx → KInv hashKey (mapAt id g t.rows) c (fh c ix))
    (ho : ∀ c ix, (c, ix) ∈ t.oidx → KInv ordKey (mapAt id g t.rows) c (fo c ix)) :
    IdxInv { t with rows := mapAt id g t.rows,
                    hidx := mapIdx fh t.hidx, oidx := mapIdx fo t.oidx } := by
  refine ⟨⟨?_, fun r' hm => ?_⟩, fun c ix' hm => ?_, fun c ix' hm => ?_, fun r' hm => ?_⟩
  · show List.Pairwise (· < ·) ((mapAt id g t.rows).map (·.id))
    rw [mapAt_ids _ _ _ hid]; exact hi.1.1
  · obtain ⟨r0, h0, rfl⟩ := List.mem_map.1 hm
    have := hi.1.2 r0 h0
    show (if r0.id = id then g r0 else r0).id ≤ (t.rows.map _).length
    rw [List.length_map]; split
    · rw [hid]; exact this
    · exact this
  · obtain ⟨ix, hm0, rfl⟩ := mem_mapIdx.1 hm; exact hh c ix hm0
  · obtain ⟨ix, hm0, rfl⟩ := mem_mapIdx.1 hm; exact ho c ix hm0
  · obtain ⟨r0, h0, rfl⟩ := List.mem_map.1 hm
    show (if r0.id = id then g r0 else r0).vals.length = t.schema.length
    split
    · rename_i e; rw [hwidth r0 h0 e]; exact hi.width h0
    · exact hi.width h0

/-- `Q t r`: target `r` can still be processed in `t`; it survives steps on other ids -/
theorem foldl_targets {P : Table → Prop} {Q : Table → RowE → Prop} {step : Table → RowE → Table}
    (hstep : ∀ t r, P t → Q t r → P (step t r))
    (hkeep : ∀ t r r', P t → Q t r → Q t r' → r'.id ≠ r.id → Q (step t r) r') :
    ∀ (targets : List RowE) (t : Table), P t → (∀ r ∈ targets, Q t r) → (targets.map (·.id)).Nodup →
      P (targets.foldl step t) := by
  intro targets
  induction targets with
  | nil => intro t hp _ _; exact hp
  | cons r rs ih =>
    intro t hp hq hn
    rw [List.map_cons, List.nodup_cons] at hn
    have hr := hq r List.mem_cons_self
    refine ih _ (hstep t r hp hr) (fun r' h' => ?_) hn.2
    exact hkeep t r r' hp hr (hq r' (List.mem_cons_of_mem _ h')) fun e => hn.1 (List.mem_map.2 ⟨r', h', e⟩)

theorem foldl_rows {α : Type} {step : Table → α → Table} {f : List RowE → α → List RowE}
    (h : ∀ t a, (step t a).rows = f t.rows a) (l : List α) (t : Table) :
    (l.foldl step t).rows = l.foldl f t.rows := by
  induction l generalizing t with
  | nil => rfl
  | cons a as ih => rw [List.foldl_cons, List.foldl_cons, ih, h]

theorem deleteFold_rows (targets : List RowE) (t : Table) :
    (targets.foldl deleteOne t).rows = targets.foldl (fun rows r => killRow r.id rows) t.rows :=
  foldl_rows (fun _ _ => rfl) targets t

theorem updateFold_rows (sets : List (Nat × Value)) (targets : List RowE) (t : Table) :
    (targets.foldl (updateOne sets) t).rows =
      targets.foldl (fun rows r => setRow r.id (applySetsFrom sets 0 r.vals) rows) t.rows :=
  foldl_rows (fun _ _ => rfl) targets t

theorem foldl_schema {α : Type} {step : Table → α → Table} (h : ∀ t a, (step t a).schema = t.schema)
    (l : List α) (t : Table) : (l.foldl step t).schema = t.schema := by
  induction l generalizing t with
  | nil => rfl
  | cons a as ih => rw [List.foldl_cons, ih, h]

theorem deleteFold_schema (targets : List RowE) (t : Table) : (targets.foldl deleteOne t).schema = t.schema :=
  foldl_schema (step := deleteOne) (fun _ _ => rfl) targets t

theorem updateFold_schema (sets : List (Nat × Value)) (targets : List RowE) (t : Table) :
    (targets.foldl (updateOne sets) t).schema = t.schema :=
  foldl_schema (step := updateOne sets) (fun _ _ => rfl) targets t

theorem foldl_mapAt (g : RowE → RowE → RowE) (g' : RowE → RowE) (hid : ∀ r x, (g r x).id = x.id) :
    ∀ (targets rows : List RowE), (targets.map (·.id)).Nodup →
      (∀ r ∈ targets, ∀ x ∈ rows, x.id = r.id → g r x = g' x) →
      targets.foldl (fun rows r => mapAt r.id (g r) rows) rows =
        rows.map (fun x => if x.id ∈ targets.map (·.id) then g' x else x) := by
  unfold mapAt
  intro targets
  induction targets with
  | nil => intro rows _ _; simp
  | cons r rs ih =>
    intro rows hn hg
    rw [List.map_cons, List.nodup_cons] at hn
    rw [List.foldl_cons, ih _ hn.2, List.map_map]
    · refine List.map_congr_left fun x hx => ?_
      by_cases h1 : x.id = r.id
      · simp only [Function.comp, if_pos h1]
        rw [hid, h1, if_neg hn.1, hg r List.mem_cons_self x hx h1]
        simp only [List.map_cons, List.mem_cons, true_or, if_true]
      · simp only [Function.comp, h1, if_false, List.map_cons, List.mem_cons, false_or]
    · intro r2 h2 x' hx' hid'
      obtain ⟨x0, hx0, rfl⟩ := List.mem_map.1 hx'
      have hne : r2.id ≠ r.id := fun e => hn.1 (List.mem_map.2 ⟨r2, h2, e⟩)
      by_cases h0 : x0.id = r.id
      · rw [if_pos h0, hid] at hid'; exact absurd (hid'.symm.trans h0) hne
      · rw [if_neg h0] at hid' ⊢; exact hg r2 (List.mem_cons_of_mem _ h2) x0 hx0 hid'

theorem rowsWF_append (rows : List RowE) (h : RowsWF rows) (alive : Bool) (vals : List Value) :
    RowsWF (rows ++ [⟨rows.length + 1, alive, vals⟩]) := by
  refine ⟨?_, ?_⟩
  · rw [List.map_append, List.pairwise_append]
    refine ⟨h.1, by simp, ?_⟩
    intro a ha b hb
    obtain ⟨r, hr, rfl⟩ := List.mem_map.1 ha
    simp only [List.map_cons, List.map_nil, List.mem_singleton] at hb; subst hb
    exact Nat.lt_succ_of_le (h.2 r hr)
  · intro r hr
    rw [List.length_append]
    rcases List.mem_append.1 hr with hr | hr
    · exact Nat.le_trans (h.2 r hr) (Nat.le_add_right _ _)
    · cases List.mem_singleton.1 hr; exact Nat.le_refl _

theorem insert_ok {t : Table} {vals : List Value} {t' : Table} {id : Nat} (h : insert t vals = .ok (t', id)) :
    vals.length = t.schema.length ∧ validateRow t.schema vals = none ∧ (t', id) = insertRaw t vals := by
  unfold insert at h
  split at h
  · cases h
  · rename_i hlen
    split at h
    · cases h
    · rename_i hv; cases h; exact ⟨Decidable.not_not.1 hlen, hv, rfl⟩

theorem insertRaw_preserves (t : Table) (vals : List Value) (hi : IdxInv t) (hl : vals.length = t.schema.length) :
    IdxInv (insertRaw t vals).1 := by
  have hfresh : ∀ r' ∈ t.rows, r'.id ≠ t.rows.length + 1 := by
    intro r' hr'; exact Nat.ne_of_lt (Nat.lt_succ_of_le (hi.1.2 r' hr'))
  refine ⟨rowsWF_append t.rows hi.1 true vals, ?_, ?_, ?_⟩
  · intro c ix' hm
    obtain ⟨ix, hm0, rfl⟩ := mem_mapIdx.1 hm
    exact kinv_append hashKey t.rows c ix ⟨t.rows.length + 1, true, vals⟩ (hi.hash hm0) hfresh
  · intro c ix' hm
    obtain ⟨ix, hm0, rfl⟩ := mem_mapIdx.1 hm
    exact kinv_append ordKey t.rows c ix ⟨t.rows.length + 1, true, vals⟩ (hi.ord hm0) hfresh
  · intro r hr
    rcases List.mem_append.1 hr with hr | hr
    · exact hi.width hr
    · cases List.mem_singleton.1 hr; exact hl

theorem insert_preserves (t : Table) (vals : List Value) (t' : Table) (id : Nat)
    (hi : IdxInv t) (h : insert t vals = .ok (t', id)) : IdxInv t' := by
  obtain ⟨hl, _, e⟩ := insert_ok h
  rw [show t' = (insertRaw t vals).1 from congrArg Prod.fst e]
  exact insertRaw_preserves t vals hi hl

theorem createHashIndex_ok {t : Table} {c : ColRef} {t' : Table} (h : createHashIndex t c = .ok t') :
    t' = { t with hidx := t.hidx ++ [(c, buildIdx hashKey c t.rows)] } := by
  unfold createHashIndex at h
  split at h
  · cases h
  · split at h
    · cases h
    · cases h; rfl

theorem createOrdIndex_ok {t : Table} {c : ColRef} {t' : Table} (h : createOrdIndex t c = .ok t') :
    t' = { t with oidx := t.oidx ++ [(c, buildIdx ordKey c t.rows)] } := by
  unfold createOrdIndex at h
  split at h
  · cases h
  · split at h
    · cases h
    · cases h; rfl

theorem dropHashIndex_ok {t : Table} {c : ColRef} {t' : Table} (h : dropHashIndex t c = .ok t') :
    t' = { t with hidx := t.hidx.filter (fun p => !decide (p.1 = c)) } := by
  unfold dropHashIndex at h
  split at h
  · cases h
  · cases h; rfl

theorem dropOrdIndex_ok {t : Table} {c : ColRef} {t' : Table} (h : dropOrdIndex t c = .ok t') :
    t' = { t with oidx := t.oidx.filter (fun p => !decide (p.1 = c)) } := by
  unfold dropOrdIndex at h
  split at h
  · cases h
  · cases h; rfl

theorem createHash_preserves (t : Table) (c : ColRef) (t' : Table) (hi : IdxInv t)
    (h : createHashIndex t c = .ok t') : IdxInv t' := by
  rw [createHashIndex_ok h]
  refine ⟨hi.1, fun c' ix hm => ?_, hi.2.2.1, hi.2.2.2⟩
  rcases List.mem_append.1 hm with hm | hm
  · exact hi.hash hm
  · cases List.mem_singleton.1 hm; exact kinv_build hashKey c t.rows hi.1

theorem createOrd_preserves (t : Table) (c : ColRef) (t' : Table) (hi : IdxInv t)
    (h : createOrdIndex t c = .ok t') : IdxInv t' := by
  rw [createOrdIndex_ok h]
  refine ⟨hi.1, hi.2.1, fun c' ix hm => ?_, hi.2.2.2⟩
  rcases List.mem_append.1 hm with hm | hm
  · exact hi.ord hm
  · cases List.mem_singleton.1 hm; exact kinv_build ordKey c t.rows hi.1

theorem dropHash_preserves (t : Table) (c : ColRef) (t' : Table) (hi : IdxInv t)
    (h : dropHashIndex t c = .ok t') : IdxInv t' := by
  rw [dropHashIndex_ok h]
  exact ⟨hi.1, fun c' ix hm => hi.hash (List.mem_filter.1 hm).1, hi.2.2.1, hi.2.2.2⟩

theorem dropOrd_preserves (t : Table) (c : ColRef) (t' : Table) (hi : IdxInv t)
    (h : dropOrdIndex t c = .ok t') : IdxInv t' := by
  rw [dropOrdIndex_ok h]
  exact ⟨hi.1, hi.2.1, fun c' ix hm => hi.ord (List.mem_filter.1 hm).1, hi.2.2.2⟩

theorem deleteOne_preserves (t : Table) (r : RowE) (hi : IdxInv t) (hr : r ∈ t.rows) : IdxInv (deleteOne t r) :=
  idxInv_mapAt hi r.id (fun x => { x with alive := false }) (fun _ => rfl) (fun _ _ _ => rfl) _ _
    (fun c ix hm => kinv_kill hashKey t.rows c ix r (hi.hash hm) hi.1.1 hr)
    (fun c ix hm => kinv_kill ordKey t.rows c ix r (hi.ord hm) hi.1.1 hr)

theorem matching_ids_nodup (t : Table) (c : Cond) (h : RowsWF t.rows) : ((matching t c).map (·.id)).Nodup :=
  StrictAsc.nodup (h.1.sublist ((List.filter_sublist).map _))

theorem mem_matching {t : Table} {c : Cond} {r : RowE} (h : r ∈ matching t c) : r ∈ t.rows ∧ r.alive = true :=
  ⟨(List.mem_filter.1 h).1, (Bool.and_eq_true_iff.1 (List.mem_filter.1 h).2).1⟩

theorem matching_length (t : Table) (c : Cond) : (matching t c).length = (spec t c).length := by
  unfold matching spec; rw [List.length_map]

theorem delete_preserves (t : Table) (c : Cond) (hi : IdxInv t) : IdxInv (delete t c).1 :=
  foldl_targets (Q := fun t r => r ∈ t.rows) (fun t r hi hr => deleteOne_preserves t r hi hr)
    (fun _ _ _ _ _ h' hne => mem_mapAt_of_ne _ h' hne) _ t hi (fun _ hr => (mem_matching hr).1)
    (matching_ids_nodup t c hi.1)

theorem validateSets_typed (schema : List (ColType × Bool)) : ∀ (sets : List (Nat × Value)),
    validateSets schema sets = none → ∀ j nv, setsGet j sets = some nv →
      ∃ ty nl, schema[j]? = some (ty, nl) ∧ typeOk ty nv = true := by
  intro sets
  induction sets with
  | nil => intro _ j nv h; cases h
  | cons p ps ih =>
    obtain ⟨i, v⟩ := p
    intro hv j nv hg
    unfold validateSets at hv
    split at hv
    · cases hv
    · rename_i ty nullable hs
      split at hv
      · cases hv
      · rename_i hto
        split at hv
        · cases hv
        · unfold setsGet at hg
          split at hg
          · rename_i e; subst e; cases hg
            exact ⟨ty, nullable, hs, by simpa using hto⟩
          · exact ih hv j nv hg

theorem updateOne_preserves (sets : List (Nat × Value)) (t : Table) (r : RowE) (hi : IdxInv t) (hr : r ∈ t.rows)
    (hlive : r.alive = true) (hv : validateSets t.schema sets = none) : IdxInv (updateOne sets t r) := by
  have hcol : ∀ j nv, setsGet j sets = some nv → j < r.vals.length := by
    intro j nv h
    obtain ⟨_, _, hs, _⟩ := validateSets_typed t.schema sets hv j nv h
    rw [hi.width hr]; exact (List.getElem?_eq_some_iff.1 hs).1
  refine idxInv_mapAt hi r.id (fun x => { x with vals := applySetsFrom sets 0 r.vals }) (fun _ => rfl) ?_ _ _
    (fun c ix hm => kinv_set hashKey sets t.rows c ix r (hi.hash hm) hi.1.1 hr hlive hcol)
    (fun c ix hm => kinv_set ordKey sets t.rows c ix r (hi.ord hm) hi.1.1 hr hlive hcol)
  intro r0 h0 e
  rw [id_inj t.rows hi.1.1 r0 h0 r hr e]; exact applySetsFrom_length sets r.vals 0

theorem update_ok {t : Table} {c : Cond} {sets : List (Nat × Value)} {t' : Table} {n : Nat}
    (h : update t c sets = .ok (t', n)) :
    validateSets t.schema sets = none ∧ t' = (matching t c).foldl (updateOne sets) t ∧ n = (matching t c).length := by
  unfold update at h
  split at h
  · cases h
  · rename_i hv; cases h; exact ⟨hv, rfl, rfl⟩

theorem updateFold_preserves (sets : List (Nat × Value)) (t : Table) (c : Cond) (hi : IdxInv t)
    (hv : validateSets t.schema sets = none) : IdxInv ((matching t c).foldl (updateOne sets) t) :=
  (foldl_targets (P := fun t => IdxInv t ∧ validateSets t.schema sets = none)
    (Q := fun t r => r ∈ t.rows ∧ r.alive = true)
    (fun t r hp hq => ⟨updateOne_preserves sets t r hp.1 hq.1 hq.2 hp.2, hp.2⟩)
    (fun _ _ _ _ _ h' hne => ⟨mem_mapAt_of_ne _ h'.1 hne, h'.2⟩) _ t ⟨hi, hv⟩ (fun _ hr => mem_matching hr)
    (matching_ids_nodup t c hi.1)).1

theorem update_preserves (t : Table) (c : Cond) (sets : List (Nat × Value)) (t' : Table) (n : Nat)
    (hi : IdxInv t) (h : update t c sets = .ok (t', n)) : IdxInv t' := by
  obtain ⟨hv, rfl, _⟩ := update_ok h
  exact updateFold_preserves sets t c hi hv

theorem insert_eq_raw (t : Table) (vals : List Value) (hl : vals.length = t.schema.length)
    (hv : validateRow t.schema vals = none) : insert t vals = .ok (insertRaw t vals) := by
  unfold insert insertRaw
  simp [hl, hv]

theorem validateBatch_cons (schema : List (ColType × Bool)) (vals : List Value) (rest : List (List Value))
    (h : validateBatch schema (vals :: rest) = none) :
    vals.length = schema.length ∧ validateRow schema vals = none ∧ validateBatch schema rest = none := by
  unfold validateBatch at h
  split at h
  · cases h
  · rename_i hl
    split at h
    · cases h
    · rename_i hv
      exact ⟨Decidable.not_not.1 hl, hv, h⟩

theorem batchFold_eq_inserts : ∀ (rows : List (List Value)) (t : Table) (acc : List Nat),
    validateBatch t.schema rows = none →
    (rows.foldl batchStep (t, acc)).1 = rows.foldl (fun t v => applyOp t (.insert v)) t := by
  intro rows
  induction rows with
  | nil => intro t acc _; rfl
  | cons vals rest ih =>
    intro t acc h
    obtain ⟨hl, hv, hr⟩ := validateBatch_cons t.schema vals rest h
    rw [List.foldl_cons, List.foldl_cons]
    have e : applyOp t (.insert vals) = (insertRaw t vals).1 := by
      simp only [applyOp, insert_eq_raw t vals hl hv]
    rw [e]
    exact ih (insertRaw t vals).1 _ hr

theorem batchInsert_eq_inserts (t : Table) (rows : List (List Value)) (t' : Table) (ids : List Nat)
    (h : batchInsert t rows = .ok (t', ids)) :
    t' = rows.foldl (fun t v => applyOp t (.insert v)) t := by
  unfold batchInsert at h
  split at h
  · cases h
  · rename_i hv
    injection h with h
    rw [← batchFold_eq_inserts rows t [] hv, h]

/-- elimination rule of `applyOp`: `batch_insert` counts as its single inserts; `hupd` is told which UPDATE it is
    (some invariants survive every operation but UPDATE) -/
theorem applyOp_cases {P : Table → Prop} (t : Table) (op : Op) (hi : IdxInv t) (h0 : P t)
    (hins : ∀ t, IdxInv t → P t → ∀ vals t' id, insert t vals = .ok (t', id) → P t')
    (hupd : ∀ c sets t' n, op = .update c sets → update t c sets = .ok (t', n) → P t')
    (hdel : ∀ c, P (delete t c).1)
    (hch : ∀ c t', createHashIndex t c = .ok t' → P t')
    (hco : ∀ c t', createOrdIndex t c = .ok t' → P t')
    (hdh : ∀ c t', dropHashIndex t c = .ok t' → P t')
    (hdo : ∀ c t', dropOrdIndex t c = .ok t' → P t') : P (applyOp t op) := by
  have hins1 : ∀ t, IdxInv t → P t → ∀ vals,
      IdxInv (applyOp t (.insert vals)) ∧ P (applyOp t (.insert vals)) := fun t hi h vals => by
    simp only [applyOp]; split
    · exact ⟨insert_preserves t vals _ _ hi ‹_›, hins t hi h vals _ _ ‹_›⟩
    · exact ⟨hi, h⟩
  have hfold : ∀ (rows : List (List Value)) (t : Table), IdxInv t → P t →
      IdxInv (rows.foldl (fun t v => applyOp t (.insert v)) t) ∧
        P (rows.foldl (fun t v => applyOp t (.insert v)) t) := by
    intro rows
    induction rows with
    | nil => exact fun t hi h => ⟨hi, h⟩
    | cons v vs ih => exact fun t hi h => ih _ (hins1 t hi h v).1 (hins1 t hi h v).2
  cases op with
  | insert vals => exact (hins1 t hi h0 vals).2
  | update c sets => simp only [applyOp]; split; exact hupd c sets _ _ rfl ‹_›; exact h0
  | delete c => exact hdel c
  | createHash c => simp only [applyOp]; split; exact hch c _ ‹_›; exact h0
  | createOrd c => simp only [applyOp]; split; exact hco c _ ‹_›; exact h0
  | dropHash c => simp only [applyOp]; split; exact hdh c _ ‹_›; exact h0
  | dropOrd c => simp only [applyOp]; split; exact hdo c _ ‹_›; exact h0
  | batchInsert rows =>
    simp only [applyOp]; split
    · rename_i heq
      rw [batchInsert_eq_inserts t rows _ _ heq]
      exact (hfold rows t hi h0).2
    · exact h0

theorem applyOp_preserves (t : Table) (op : Op) (hi : IdxInv t) : IdxInv (applyOp t op) :=
  applyOp_cases t op hi hi (fun t hi _ vals t' id => insert_preserves t vals t' id hi)
    (fun c sets t' n _ => update_preserves t c sets t' n hi) (fun c => delete_preserves t c hi)
    (fun c t' => createHash_preserves t c t' hi) (fun c t' => createOrd_preserves t c t' hi)
    (fun c t' => dropHash_preserves t c t' hi) (fun c t' => dropOrd_preserves t c t' hi)

theorem insertsFold_preserves (rows : List (List Value)) (t : Table) (hi : IdxInv t) :
    IdxInv (rows.foldl (fun t v => applyOp t (.insert v)) t) := by
  induction rows generalizing t with
  | nil => exact hi
  | cons v vs ih => exact ih _ (applyOp_preserves t (.insert v) hi)

theorem idxInv_empty (schema : List (ColType × Bool)) : IdxInv (Table.empty schema) :=
  ⟨⟨List.Pairwise.nil, fun _ h => (nomatch h)⟩, fun _ _ h => (nomatch h), fun _ _ h => (nomatch h), fun _ h => (nomatch h)⟩

theorem run_induction {P : Table → Prop} (schema : List (ColType × Bool)) (h0 : P (Table.empty schema))
    (hstep : ∀ t op, IdxInv t → P t → P (applyOp t op)) (ops : List Op) : P (run schema ops) := by
  unfold run
  suffices ∀ t, IdxInv t → P t → P (ops.foldl applyOp t) from this _ (idxInv_empty schema) h0
  induction ops with
  | nil => exact fun t _ h => h
  | cons op ops ih => exact fun t hi h => ih _ (applyOp_preserves t op hi) (hstep t op hi h)

theorem run_inv (schema : List (ColType × Bool)) (ops : List Op) : IdxInv (run schema ops) :=
  run_induction schema (idxInv_empty schema) (fun t op hi _ => applyOp_preserves t op hi) ops

theorem mem_matching_ids (t : Table) (c : Cond) (h : RowsWF t.rows) (x : RowE) (hx : x ∈ t.rows) :
    x.id ∈ (matching t c).map (·.id) ↔ matchesRow c x = true := by
  unfold matching
  rw [List.mem_map]
  constructor
  · rintro ⟨y, hy, e⟩
    have hy' := List.mem_filter.1 hy
    rw [← id_inj t.rows h.1 y hy'.1 x hx e]; exact hy'.2
  · intro hm; exact ⟨x, List.mem_filter.2 ⟨hx, hm⟩, rfl⟩

theorem map_matching_ids (t : Table) (c : Cond) (h : RowsWF t.rows) (g : RowE → RowE) :
    t.rows.map (fun x => if x.id ∈ (matching t c).map (·.id) then g x else x) =
      t.rows.map (fun x => if matchesRow c x then g x else x) :=
  List.map_congr_left fun x hx => by simp only [mem_matching_ids t c h x hx]

theorem delete_rows_eq (t : Table) (c : Cond) (h : RowsWF t.rows) :
    (delete t c).1.rows = t.rows.map (fun x => if matchesRow c x then { x with alive := false } else x) := by
  unfold delete
  rw [deleteFold_rows]
  exact (foldl_mapAt (fun _ x => { x with alive := false }) _ (fun _ _ => rfl) _ _ (matching_ids_nodup t c h)
    (fun _ _ _ _ _ => rfl)).trans (map_matching_ids t c h _)

theorem indexOp_rows (t : Table) (op : Op) (hop : op.isIndexOp = true) :
    (applyOp t op).rows = t.rows ∧ (applyOp t op).schema = t.schema := by
  cases op with
  | createHash c => simp only [applyOp]; split; (rename_i heq; rw [createHashIndex_ok heq]; exact ⟨rfl, rfl⟩); exact ⟨rfl, rfl⟩
  | createOrd c => simp only [applyOp]; split; (rename_i heq; rw [createOrdIndex_ok heq]; exact ⟨rfl, rfl⟩); exact ⟨rfl, rfl⟩
  | dropHash c => simp only [applyOp]; split; (rename_i heq; rw [dropHashIndex_ok heq]; exact ⟨rfl, rfl⟩); exact ⟨rfl, rfl⟩
  | dropOrd c => simp only [applyOp]; split; (rename_i heq; rw [dropOrdIndex_ok heq]; exact ⟨rfl, rfl⟩); exact ⟨rfl, rfl⟩
  | _ => cases hop

end Neumann.Rel
