import NeumannModel.Gossip.Lemmas
/-
  C17 helper lemmas for the sending side of the manager (`states_for_gossip`, `gossip_round`,
  `expire_suspicions`, `suspect_node`, `handle_ping_ack`) and for the cluster of managers.
-/
namespace Neumann.Gossip

instance (a b : Option Reg) : Decidable (OLe a b) := by
  cases a <;> cases b <;> unfold OLe <;> infer_instance

theorem insertDesc_perm (u : Update) (l : List Update) : (insertDesc u l).Perm (u :: l) := by
  induction l with
  | nil => exact List.Perm.refl _
  | cons v vs ih =>
    unfold insertDesc
    split
    · exact ((ih.cons v).trans (List.Perm.swap u v vs))
    · exact List.Perm.refl _

theorem sortDesc_perm (l : List Update) : (sortDesc l).Perm l := by
  induction l with
  | nil => exact List.Perm.refl _
  | cons u us ih => exact (insertDesc_perm u (sortDesc us)).trans (ih.cons u)

def SortedDesc (l : List Update) : Prop := l.Pairwise (fun a b => b.reg.ts ≤ a.reg.ts)

theorem insertDesc_sorted (u : Update) {l : List Update} (h : SortedDesc l) : SortedDesc (insertDesc u l) := by
  induction l with
  | nil => exact List.pairwise_singleton _ _
  | cons v vs ih =>
    unfold insertDesc
    have hv := List.pairwise_cons.mp h
    split
    · rename_i hlt
      refine List.pairwise_cons.mpr ⟨?_, ih hv.2⟩
      intro x hx
      cases List.mem_cons.mp ((insertDesc_perm u vs).mem_iff.mp hx) with
      | inl e => subst e; exact Nat.le_of_lt hlt
      | inr hx => exact hv.1 x hx
    · rename_i hge
      refine List.pairwise_cons.mpr ⟨?_, h⟩
      intro x hx
      cases List.mem_cons.mp hx with
      | inl e => subst e; exact Nat.le_of_not_lt hge
      | inr hx => exact Nat.le_trans (hv.1 x hx) (Nat.le_of_not_lt hge)

theorem sortDesc_sorted (l : List Update) : SortedDesc (sortDesc l) := by
  induction l with
  | nil => exact List.Pairwise.nil
  | cons u us ih => exact insertDesc_sorted u ih

theorem mem_sortDesc {l : List Update} {u : Update} : u ∈ sortDesc l ↔ u ∈ l :=
  (sortDesc_perm l).mem_iff

theorem snapshot_nodes_sublist (s : State) (ms : List Nat) :
    ((snapshot s ms).map (·.node)).Sublist ms := by
  induction ms with
  | nil => exact List.Sublist.refl _
  | cons k ks ih =>
    unfold snapshot
    cases s.regs k with
    | none => exact ih.cons k
    | some e => exact ih.cons_cons k

theorem mem_statesForGossip {s : State} {order : List Nat} {k : Nat} {u : Update}
    (h : u ∈ statesForGossip s order k) : u.node ∈ order ∧ s.regs u.node = some u.reg :=
  mem_snapshot.mp (mem_sortDesc.mp (List.mem_of_mem_take h))

theorem mem_statesForGossip_full {s : State} {order : List Nat} {k : Nat} (hk : order.length ≤ k)
    {u : Update} : u ∈ statesForGossip s order k ↔ u.node ∈ order ∧ s.regs u.node = some u.reg := by
  have : (sortDesc (snapshot s order)).length ≤ k := by
    rw [(sortDesc_perm _).length_eq]
    exact Nat.le_trans (by simpa using (snapshot_nodes_sublist s order).length_le) hk
  rw [statesForGossip, List.take_of_length_le this, mem_sortDesc, mem_snapshot]

theorem joinList_full_view (a : Option Reg) (t : State) (order : List Nat) (k : Nat)
    (hk : order.length ≤ k) (m : Nat) (hm : m ∈ order) :
    joinList a (forMember m (statesForGossip t order k)) = join a (t.regs m) :=
  joinList_of_exact _ _ _ fun x => by
    rw [mem_forMember, mem_statesForGossip_full hk]; exact ⟨fun h => h.2, fun h => ⟨hm, h⟩⟩

def Fwd (s s' : State) : Prop :=
  s.clock ≤ s'.clock ∧ (∀ m, OLe (s.regs m) (s'.regs m)) ∧ WF s'

theorem Fwd.refl {s : State} (h : WF s) : Fwd s s := ⟨Nat.le_refl _, fun _ => OLe.refl _, h⟩

/-- an event is an admissible run of CRDT operations, and a view after such a run is the join of the
    view before with what was seen -/
theorem stepEv_fwd (g : Mgr) (h : WF g.st) (e : MEv) : Fwd g.st (g.stepEv e).st := by
  rw [stepEv_eq_run]
  refine ⟨run_clock_mono _ _, fun m => ?_, run_wf h _⟩
  rw [run_join h _ (evOps_admissible g e)]
  exact (joinList_isJoin _ _).2.1

theorem expire_local (g : Mgr) (ms : List Nat) :
    (g.expire ms).local_ = g.local_ ∧ (g.expire ms).ownInc = g.ownInc ∧ (g.expire ms).maxDelta = g.maxDelta := by
  induction ms generalizing g with
  | nil => exact ⟨rfl, rfl, rfl⟩
  | cons m ms ih =>
    unfold Mgr.expire
    split
    · exact ih _
    · exact ih g

theorem handle_local (g : Mgr) (x : Msg) :
    (g.handle x).local_ = g.local_ ∧ (g.handle x).maxDelta = g.maxDelta ∧ g.ownInc ≤ (g.handle x).ownInc := by
  cases x with
  | sync s b t => exact ⟨rfl, rfl, Nat.le_refl _⟩
  | suspect m i =>
    simp only [Mgr.handle, Mgr.handleSuspect]
    split
    · exact ⟨rfl, rfl, Nat.le_succ _⟩
    · split <;> exact ⟨rfl, rfl, Nat.le_refl _⟩
  | alive m i =>
    simp only [Mgr.handle, Mgr.handleAlive]
    repeat' split
    all_goals exact ⟨rfl, rfl, Nat.le_refl _⟩
  | addPeer p =>
    simp only [Mgr.handle, Mgr.addPeer]
    split <;> exact ⟨rfl, rfl, Nat.le_refl _⟩
  | pingAck t ok =>
    simp only [Mgr.handle, Mgr.handlePingAck]
    repeat' split
    all_goals exact ⟨rfl, rfl, Nat.le_refl _⟩

theorem stepEv_local (g : Mgr) (e : MEv) :
    (g.stepEv e).local_ = g.local_ ∧ (g.stepEv e).maxDelta = g.maxDelta ∧ g.ownInc ≤ (g.stepEv e).ownInc := by
  cases e with
  | msg x => exact handle_local g x
  | round o k ex => obtain ⟨a, b, c⟩ := expire_local g ex; exact ⟨a, c, Nat.le_of_eq b.symm⟩
  | suspectNode m =>
    simp only [Mgr.stepEv, Mgr.suspectNode]
    split <;> exact ⟨rfl, rfl, Nat.le_refl _⟩

def MsgOk (A : Nat → Nat) : Msg → Prop
  | .sync _ b _ => ∀ u ∈ b, u.reg.inc ≤ A u.node
  | .alive m i => i ≤ A m
  | _ => True

theorem msgOk_mono {A A' : Nat → Nat} {x : Msg} (h : MsgOk A x) (hA : ∀ m, A m ≤ A' m) : MsgOk A' x := by
  cases x with
  | sync s b t => exact fun u hu => Nat.le_trans (h u hu) (hA _)
  | alive m i => exact Nat.le_trans h (hA m)
  | _ => trivial

theorem expire_incBound {A : Nat → Nat} (g : Mgr) (h : IncBound A g.st) (ms : List Nat) :
    IncBound A (g.expire ms).st := by
  induction ms generalizing g with
  | nil => exact h
  | cons m ms ih =>
    unfold Mgr.expire
    split
    · exact ih _ (fail_incBound h m)
    · exact ih g h

theorem stepEv_incBound {A : Nat → Nat} (g : Mgr) (h : IncBound A g.st) (e : MEv)
    (he : ∀ x, e = .msg x → MsgOk A x) : IncBound A (g.stepEv e).st := by
  cases e with
  | msg x =>
    have hx := he x rfl
    cases x with
    | sync s b t =>
      simp only [Mgr.stepEv, Mgr.handle, Mgr.handleSync]
      have h1 : IncBound A (syncTime g.st t) := h
      have h2 : IncBound A (merge (syncTime g.st t) (b.filter (passesDelta (syncTime g.st t) g.maxDelta))).1 :=
        merge_incBound h1 (fun u hu => hx u (List.mem_filter.mp hu).1)
      refine merge_single_incBound h2 ?_
      show (match (merge (syncTime g.st t) (b.filter (passesDelta (syncTime g.st t) g.maxDelta))).1.regs s with
        | some e => e.inc | none => 0) ≤ A s
      split
      · rename_i e he; exact h2 s e he
      · exact Nat.zero_le _
    | suspect m i =>
      simp only [Mgr.stepEv, Mgr.handle, Mgr.handleSuspect]
      split
      · exact h
      · split
        · exact h
        · exact suspect_incBound h m i
    | alive m i =>
      simp only [Mgr.stepEv, Mgr.handle]
      cases handleAlive_st g m i with
      | inl h' => rw [h']; exact h
      | inr h' => rw [h']; exact refute_incBound h m i hx
    | addPeer p =>
      simp only [Mgr.stepEv, Mgr.handle, Mgr.addPeer]
      cases g.st.regs p with
      | some _ => exact h
      | none =>
        exact merge_single_incBound (s := { g.st with clock := g.st.clock + 1 }) h (Nat.zero_le _)
    | pingAck t ok =>
      simp only [Mgr.stepEv, Mgr.handle]
      cases handlePingAck_st g t ok with
      | inl h' => rw [h']; exact h
      | inr h' => rw [h']; exact markHealthy_incBound h t
  | round o k ex => exact expire_incBound g h ex
  | suspectNode m =>
    simp only [Mgr.stepEv, Mgr.suspectNode]
    split
    · exact h
    · exact suspect_incBound h m _

/-- `fail` (hence `expire_suspicions`) records a member at exactly the incarnation it held -/
theorem fail_inc (s : State) (m k : Nat) (e' : Reg) (h : (fail s m).1.regs k = some e') :
    ∃ e, s.regs k = some e ∧ e'.inc = e.inc := by
  rw [fail_spec] at h
  rcases localOp_regs (fun e => e.health ≠ .failed) (fun e t => { e with health := .failed, ts := t }) s m k
    with h' | ⟨_, e0, he0, _, h'⟩ <;> rw [h'] at h
  · exact ⟨e', h, rfl⟩
  · cases h; exact ⟨e0, he0, rfl⟩

theorem expire_inc (g : Mgr) (ms : List Nat) (k : Nat) (e' : Reg) (h : (g.expire ms).st.regs k = some e') :
    ∃ e, g.st.regs k = some e ∧ e'.inc = e.inc := by
  induction ms generalizing g with
  | nil => exact ⟨e', h, rfl⟩
  | cons m ms ih =>
    unfold Mgr.expire at h
    split at h
    · obtain ⟨e1, h1, l1⟩ := ih _ h
      obtain ⟨e0, h0, l0⟩ := fail_inc g.st m k e1 h1
      exact ⟨e0, h0, l1.trans l0⟩
    · exact ih g h

theorem handleSync_dominates (g : Mgr) (s : Nat) (b : List Update) (t : Nat) (u : Update) (hu : u ∈ b)
    (hp : passesDelta (syncTime g.st t) g.maxDelta u = true) :
    OLe (some u.reg) ((g.handleSync s b t).st.regs u.node) := by
  unfold Mgr.handleSync
  simp only []
  refine OLe.trans ?_ (merge_key_mono _ _ u.node)
  rw [merge_apply]
  exact (joinList_isJoin _ _).2.2 u.reg (mem_forMember.mpr (List.mem_filter.mpr ⟨hu, hp⟩))

/-- every node is who it says it is, every incarnation recorded anywhere or carried by a `Sync` /
    `Alive` in flight for member `m` is at most `m`'s own counter, every clock dominates -/
def CInv (c : Cluster) : Prop :=
  (∀ r, (c.nodes r).local_ = r) ∧
  (∀ r, IncBound (fun m => (c.nodes m).ownInc) (c.nodes r).st) ∧
  (∀ x ∈ c.net, MsgOk (fun m => (c.nodes m).ownInc) x) ∧
  (∀ r, WF (c.nodes r).st)

theorem cinv_init (d : Nat) : CInv (Cluster.init d) := by
  refine ⟨fun r => rfl, fun r => updateLocal_empty_incBound _ r .healthy, ?_, fun r => mgr_new_wf r d⟩
  intro x h; cases h

theorem enabled_msgOk {c : Cluster} {A : Nat → Nat} (hnet : ∀ x ∈ c.net, MsgOk A x) {e : MEv}
    (hen : c.enabled e = true) : ∀ x, e = .msg x → MsgOk A x := by
  intro x hx
  subst hx
  cases x with
  | sync s b t => exact hnet _ (by simpa [Cluster.enabled] using hen)
  | alive m i => exact hnet _ (by simpa [Cluster.enabled] using hen)
  | _ => trivial

theorem out_msgOk (g : Mgr) (A' : Nat → Nat) (e : MEv)
    (hst : IncBound A' g.st) (hown : (g.stepEv e).ownInc ≤ A' g.local_) :
    ∀ x ∈ g.out e, MsgOk A' x := by
  intro x hx
  cases e with
  | msg y =>
    cases y with
    | suspect m i =>
      simp only [Mgr.out] at hx
      split at hx
      · rename_i hm
        simp only [List.mem_cons, List.not_mem_nil, or_false] at hx
        subst hx
        simp only [Mgr.stepEv, Mgr.handle, Mgr.handleSuspect, hm, if_true] at hown
        exact hown
      · cases hx
    | _ => cases hx
  | round o k ex =>
    simp only [Mgr.out, Mgr.syncMsg, List.mem_cons, List.not_mem_nil, or_false] at hx
    subst hx
    intro u hu
    exact hst u.node u.reg (mem_statesForGossip hu).2
  | suspectNode m =>
    simp only [Mgr.out, List.mem_cons, List.not_mem_nil, or_false] at hx
    subst hx; trivial

theorem cinv_step (c : Cluster) (re : Nat × MEv) (h : CInv c) : CInv (c.step re) := by
  obtain ⟨r, e⟩ := re
  unfold Cluster.step
  simp only []
  split
  · rename_i hen
    obtain ⟨hloc, hinc, hnet, hwf⟩ := h
    obtain ⟨l1, _, l3⟩ := stepEv_local (c.nodes r) e
    have hA : ∀ m, (c.nodes m).ownInc ≤ (setMgr c.nodes r ((c.nodes r).stepEv e) m).ownInc :=
      forall_update (P := fun m (g : Mgr) => (c.nodes m).ownInc ≤ g.ownInc) (fun _ => Nat.le_refl _) l3
    have hnew := stepEv_incBound (c.nodes r) (hinc r) e (enabled_msgOk hnet hen)
    refine ⟨forall_update (P := fun k (g : Mgr) => g.local_ = k) hloc (l1.trans (hloc r)),
      fun k => incBound_mono (forall_update (P := fun _ (g : Mgr) => IncBound _ g.st) hinc hnew k) hA, ?_,
      forall_update (P := fun _ (g : Mgr) => WF g.st) hwf (stepEv_fwd _ (hwf r) e).2.2⟩
    intro x hx
    cases List.mem_append.mp hx with
    | inr hx => exact msgOk_mono (hnet x hx) hA
    | inl hx =>
      refine out_msgOk (c.nodes r) _ e (incBound_mono (hinc r) hA) ?_ x hx
      rw [hloc r]; simp [setMgr]
  · exact h

theorem cinv_run (steps : List (Nat × MEv)) (c : Cluster) (h : CInv c) : CInv (c.run steps) :=
  foldl_invariant (P := CInv) (fun c st _ h => cinv_step c st h) h

theorem cluster_step_fwd (c : Cluster) (h : CInv c) (re : Nat × MEv) (k : Nat) :
    Fwd (c.nodes k).st ((c.step re).nodes k).st := by
  obtain ⟨r, e⟩ := re
  unfold Cluster.step
  simp only []
  split
  · exact forall_update (P := fun k (g : Mgr) => Fwd (c.nodes k).st g.st) (fun k => Fwd.refl (h.2.2.2 k))
      (stepEv_fwd _ (h.2.2.2 r) e) k
  · exact Fwd.refl (h.2.2.2 k)

def Mgr.runEv (g : Mgr) (evs : List MEv) : Mgr := evs.foldl Mgr.stepEv g

theorem runEv_wf (g : Mgr) (h : WF g.st) (evs : List MEv) : WF (g.runEv evs).st :=
  foldl_invariant (P := fun g => WF g.st) (fun g e _ h => (stepEv_fwd g h e).2.2) h

/-- the whole CRDT history of a manager: its constructor's `update_local`, then the operations of
    every event -/
def Mgr.historyFrom (g : Mgr) : List MEv → List Op
  | [] => []
  | e :: es => g.evOps e ++ Mgr.historyFrom (g.stepEv e) es

theorem historyFrom_noUL (g : Mgr) (evs : List MEv) : NoUpdateLocal (g.historyFrom evs) := by
  induction evs generalizing g with
  | nil => trivial
  | cons e es ih => exact noUpdateLocal_append (evOps_noUL g e) (ih (g.stepEv e))

theorem runEv_eq_run (g : Mgr) (evs : List MEv) : (g.runEv evs).st = run g.st (g.historyFrom evs) := by
  induction evs generalizing g with
  | nil => rfl
  | cons e es ih =>
    have : g.runEv (e :: es) = (g.stepEv e).runEv es := rfl
    rw [this, ih, stepEv_eq_run,
      show g.historyFrom (e :: es) = g.evOps e ++ (g.stepEv e).historyFrom es from rfl, run_append]

def Mgr.history (loc : Nat) (d : Nat) (evs : List MEv) : List Op :=
  .updateLocal loc .healthy 0 :: (Mgr.new loc d).historyFrom evs

theorem mgr_history_admissible (loc d : Nat) (evs : List MEv) : Admissible State.empty (Mgr.history loc d evs) :=
  show OpOk _ _ ∧ Admissible _ _ from
    ⟨fun _ h => (by cases h), admissible_of_noUpdateLocal (historyFrom_noUL _ evs)⟩

theorem mgr_history_run (loc d : Nat) (evs : List MEv) :
    ((Mgr.new loc d).runEv evs).st = run State.empty (Mgr.history loc d evs) := by
  rw [runEv_eq_run]; rfl

theorem handleSync_absorbs (g : Mgr) (s : Nat) (b : List Update) (t : Nat) (m : Nat) (hm : m ≠ s)
    (hold : ∀ u ∈ b, u.node = m → OLe (some u.reg) (g.st.regs m)) :
    (g.handleSync s b t).st.regs m = g.st.regs m := by
  rw [handleSync_regs_filtered g s b t hm]
  exact joinList_absorb _ _ fun x hx => hold _ (List.mem_filter.mp (mem_forMember.mp hx)).1 rfl

end Neumann.Gossip
