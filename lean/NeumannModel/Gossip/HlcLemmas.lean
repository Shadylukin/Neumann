import NeumannModel.Gossip.Hlc
import NeumannModel.Gossip.LexOrder
/-
  C17 — helper lemmas for the hybrid logical clock model (no Mathlib).
-/
namespace Neumann.Gossip.Hlc

theorem Ts.lt_irrefl (a : Ts) : ¬ a < a := Lex.irrefl (Lex.irrefl (Nat.lt_irrefl _))

theorem Ts.lt_trans {a b c : Ts} (h1 : a < b) (h2 : b < c) : a < c :=
  Lex.trans (Lex.trans Nat.lt_trans) h1 h2

theorem Ts.lt_asymm {a b : Ts} (h1 : a < b) : ¬ b < a :=
  fun h2 => Ts.lt_irrefl a (Ts.lt_trans h1 h2)

theorem Ts.lt_trichotomy (a b : Ts) : a < b ∨ a = b ∨ b < a := by
  rcases Lex.tri (Lex.tri (Nat.lt_trichotomy a.node b.node)) with h | ⟨hw, hl, hn⟩ | h
  · exact .inl h
  · cases a; cases b; cases hw; cases hl; cases hn; exact .inr (.inl rfl)
  · exact .inr (.inr h)

theorem Ts.wall_le_of_lt {a b : Ts} (h : a < b) : a.wall ≤ b.wall :=
  h.elim Nat.le_of_lt fun h => Nat.le_of_eq h.1

theorem Ts.lt_of_wall_lt {a b : Ts} (h : a.wall < b.wall) : a < b := .inl h

theorem Ts.lt_of_logical_lt {a b : Ts} (hw : a.wall = b.wall) (h : a.logical < b.logical) : a < b :=
  .inr ⟨hw, .inl h⟩

theorem now_spec (c : Clock) (p : Nat) :
    c.stamp < (c.now p).2 ∧ (c.now p).1.stamp = (c.now p).2 ∧ (c.now p).1.node = c.node ∧
      (c.now p).2.wall = max p c.last := by
  unfold Clock.now
  split
  · rename_i h
    exact ⟨Ts.lt_of_wall_lt h, rfl, rfl, (Nat.max_eq_left (Nat.le_of_lt h)).symm⟩
  · rename_i h
    exact ⟨Ts.lt_of_logical_lt rfl (Nat.lt_succ_self _), rfl, rfl,
      (Nat.max_eq_right (Nat.le_of_not_gt h)).symm⟩

theorem recvLogical_gt_local {c : Clock} {mx : Nat} (r : Ts) (h : mx = c.last) :
    c.logical < recvLogical c mx r := by
  unfold recvLogical
  split
  · omega
  · exact Nat.lt_succ_self _

theorem recvLogical_gt_received (c : Clock) {mx : Nat} {r : Ts} (h : mx = r.wall) :
    r.logical < recvLogical c mx r := by
  unfold recvLogical
  by_cases hl : mx = c.last
  · rw [if_pos ⟨hl, h⟩]; omega
  · rw [if_neg (fun x => hl x.1), if_neg hl, if_pos h]; exact Nat.lt_succ_self _

/-- already in (wall, logical): the node component is never needed -/
theorem receiveWith_spec {rule : Clock → Nat → Ts → Nat} (c : Clock) (p : Nat) (r : Ts)
    (hl : ∀ mx, mx = c.last → c.logical < rule c mx r)
    (hr : ∀ mx, mx = r.wall → r.logical < rule c mx r) :
    c.stamp < (c.receiveWith rule p r).2 ∧ r < (c.receiveWith rule p r).2 ∧
      (c.receiveWith rule p r).1.stamp = (c.receiveWith rule p r).2 ∧
      (c.receiveWith rule p r).1.node = c.node ∧
      (c.receiveWith rule p r).2.wall = max (max p c.last) r.wall := by
  unfold Clock.receiveWith
  generalize hmx : max (max p c.last) r.wall = mx
  have h1 : c.last ≤ mx := hmx ▸ Nat.le_trans (Nat.le_max_right p c.last) (Nat.le_max_left _ _)
  have h2 : r.wall ≤ mx := hmx ▸ Nat.le_max_right _ _
  refine ⟨?_, ?_, ?_, rfl, rfl⟩
  · rcases Nat.lt_or_eq_of_le h1 with l | e
    · exact Ts.lt_of_wall_lt l
    · exact Ts.lt_of_logical_lt e (hl mx e.symm)
  · rcases Nat.lt_or_eq_of_le h2 with l | e
    · exact Ts.lt_of_wall_lt l
    · exact Ts.lt_of_logical_lt e (hr mx e.symm)
  · rcases Nat.lt_or_eq_of_le h1 with l | e
    · simp only [Clock.stamp, if_pos l]
    · subst e; simp only [Clock.stamp, if_neg (Nat.lt_irrefl _)]

theorem receive_spec (c : Clock) (p : Nat) (r : Ts) :
    c.stamp < (c.receive p r).2 ∧ r < (c.receive p r).2 ∧
      (c.receive p r).1.stamp = (c.receive p r).2 ∧ (c.receive p r).1.node = c.node ∧
      (c.receive p r).2.wall = max (max p c.last) r.wall :=
  receiveWith_spec c p r (fun _ => recvLogical_gt_local r) (fun _ => recvLogical_gt_received c)

theorem recvLogicalReceivedFirst_eq {c : Clock} {mx : Nat} {r : Ts}
    (h : mx = c.last → mx = r.wall → c.logical ≤ r.logical) :
    recvLogicalReceivedFirst c mx r = recvLogical c mx r := by
  unfold recvLogicalReceivedFirst recvLogical
  by_cases hr : mx = r.wall
  · by_cases hl : mx = c.last
    · simp only [if_pos hr, if_pos (And.intro hl hr), Nat.max_eq_right (h hl hr)]
    · simp only [if_pos hr, if_neg hl, if_neg (fun x : _ ∧ _ => hl x.1)]
  · simp only [if_neg hr, if_neg (fun x : _ ∧ _ => hr x.2)]

theorem step_spec (c : Clock) (s : Step) :
    c.stamp < (c.step s).2 ∧ (c.step s).1.stamp = (c.step s).2 ∧ (c.step s).1.node = c.node := by
  cases s with
  | now p => exact ⟨(now_spec c p).1, (now_spec c p).2.1, (now_spec c p).2.2.1⟩
  | recv p r => exact ⟨(receive_spec c p r).1, (receive_spec c p r).2.2.1, (receive_spec c p r).2.2.2.1⟩

theorem run_cons (c : Clock) (s : Step) (rest : List Step) :
    c.run (s :: rest) = (((c.step s).1.run rest).1, (c.step s).2 :: ((c.step s).1.run rest).2) := rfl

theorem run_append (c : Clock) (xs ys : List Step) :
    c.run (xs ++ ys) = (((c.run xs).1.run ys).1, (c.run xs).2 ++ ((c.run xs).1.run ys).2) := by
  induction xs generalizing c with
  | nil => rfl
  | cons s rest ih => simp only [List.cons_append, run_cons, ih]

theorem run_above_start (c : Clock) (steps : List Step) :
    (∀ t ∈ (c.run steps).2, c.stamp < t) ∧
      (∀ t ∈ (c.run steps).2, t = (c.run steps).1.stamp ∨ t < (c.run steps).1.stamp) ∧
      (c.run steps).1.node = c.node ∧
      ((c.run steps).1.stamp = c.stamp ∨ c.stamp < (c.run steps).1.stamp) := by
  induction steps generalizing c with
  | nil => exact ⟨fun _ h => (nomatch h), fun _ h => (nomatch h), rfl, Or.inl rfl⟩
  | cons s rest ih =>
    rw [run_cons]
    have hs := step_spec c s
    have h1 := ih (c.step s).1
    refine ⟨?_, ?_, ?_, ?_⟩
    · intro t ht
      rcases List.mem_cons.mp ht with rfl | ht
      · exact hs.1
      · exact Ts.lt_trans (hs.2.1 ▸ hs.1) (h1.1 t ht)
    · intro t ht
      rcases List.mem_cons.mp ht with rfl | ht
      · rcases h1.2.2.2 with h | h
        · exact Or.inl (hs.2.1 ▸ h.symm)
        · exact Or.inr (hs.2.1 ▸ h)
      · exact h1.2.1 t ht
    · exact h1.2.2.1.trans hs.2.2
    · rcases h1.2.2.2 with h | h
      · exact Or.inr (h ▸ hs.2.1 ▸ hs.1)
      · exact Or.inr (Ts.lt_trans (hs.2.1 ▸ hs.1) h)

theorem run_pairwise (c : Clock) (steps : List Step) : (c.run steps).2.Pairwise (· < ·) := by
  induction steps generalizing c with
  | nil => exact List.Pairwise.nil
  | cons s rest ih =>
    rw [run_cons]
    refine List.Pairwise.cons ?_ (ih _)
    intro t ht
    have := (run_above_start (c.step s).1 rest).1 t ht
    rwa [(step_spec c s).2.1] at this

theorem satSucc_lt {B n : Nat} (h : n < B) : satSucc B n = n + 1 := by
  simp only [satSucc, h, if_true]

end Neumann.Gossip.Hlc
