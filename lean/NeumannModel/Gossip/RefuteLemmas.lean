import NeumannModel.Gossip.ClusterLemmas
/-
  C17 helper lemmas for RefuteProps: a refutation (`refute(m, n)`, the operation behind
  `GossipMessage::Alive`) against news about OLDER incarnations of `m` (stale suspicions, merged
  Degraded / Failed / Unknown states of an incarnation below `n`, older refutations, ping acks).
-/
namespace Neumann.Gossip

theorem localOp_reg (c : Reg → Prop) [DecidablePred c] (f : Reg → Nat → Reg) (s : State) (k m : Nat)
    (e : Reg) (h : s.regs m = some e) :
    (localOp c f s k).1.regs m = some e ∨
      (k = m ∧ c e ∧ (localOp c f s k).1.regs m = some (f e (s.clock + 1))) := by
  rcases localOp_regs c f s k m with h' | ⟨hk, e0, he0, hc, h'⟩
  · exact .inl (h'.trans h)
  · rw [h] at he0; cases he0; exact .inr ⟨hk, hc, h'⟩

theorem refute_reg (s : State) (k i m : Nat) (e : Reg) (h : s.regs m = some e) :
    (refute s k i).1.regs m = some e ∨ (k = m ∧ i > e.inc ∧
      (refute s k i).1.regs m = some ⟨.healthy, s.clock + 1, i⟩) := by
  rw [refute_spec]; exact localOp_reg _ _ s k m e h

/-- Operations that carry, about member `m`, only news of incarnations BELOW `n`: merged states
    of `m` with a lower incarnation (any health, any timestamp), suspicions and refutations of a
    lower incarnation, `mark_healthy` (not tagged with an incarnation: it only ever keeps the
    recorded one), clock operations, and anything at all about other members.  Not in the class:
    `fail(m)` and `update_local(m, ..)` — they are verdicts about whatever incarnation is
    recorded, not about an older one. -/
def StaleFor (m n : Nat) : Op → Prop
  | .merge b => ∀ u ∈ b, u.node = m → u.reg.inc < n
  | .updateLocal k _ _ => k ≠ m
  | .suspect k i => k = m → i < n
  | .fail k => k ≠ m
  | .refute k i => k = m → i < n
  | .markHealthy _ => True
  | .tick => True
  | .syncTime _ => True

def Below (m lo n : Nat) (s : State) : Prop := ∃ e, s.regs m = some e ∧ lo ≤ e.inc ∧ e.inc < n

/-- What old news about `m` can do to `m`'s register `e`: nothing, or replace it by `e'` -/
def StaleStep (n : Nat) (e e' : Reg) : Prop :=
  e' = e ∨ (e.inc ≤ e'.inc ∧ (e.inc < n → e'.inc < n) ∧ (e.health = .healthy → e.inc < n))

theorem localOp_stale {c : Reg → Prop} [DecidablePred c] {f : Reg → Nat → Reg} {s : State} {k m n : Nat}
    {e : Reg} (he : s.regs m = some e) (hf : k = m → c e → ∀ t, StaleStep n e (f e t)) :
    ∃ e', (localOp c f s k).1.regs m = some e' ∧ StaleStep n e e' := by
  rcases localOp_reg c f s k m e he with h | ⟨hk, hc, h⟩
  · exact ⟨e, h, .inl rfl⟩
  · exact ⟨_, h, hf hk hc _⟩

theorem stale_reg {m n : Nat} {s : State} {o : Op} (hs : StaleFor m n o) {e : Reg} (he : s.regs m = some e) :
    ∃ e', (apply s o).regs m = some e' ∧ StaleStep n e e' := by
  cases o with
  | merge b =>
    -- the register after the merge dominates `e`; it is `e` or an entry of the batch
    obtain ⟨e', hr, hle⟩ := OLe.of_some (he ▸ merge_key_mono s b m)
    refine ⟨e', hr, (merge_reg_origin hr).imp (fun h => ?_) fun h => ?_⟩
    · rw [he] at h; cases h; rfl
    · have h1 : e'.inc < n := hs _ h rfl
      have h2 := Reg.le_inc hle
      exact ⟨h2, fun _ => h1, fun _ => Nat.lt_of_le_of_lt h2 h1⟩
  | updateLocal k hh i =>
    have hk : m ≠ k := fun x => hs x.symm
    exact ⟨e, by simp only [apply, updateLocal]; rw [setReg_other _ _ hk]; exact he, .inl rfl⟩
  | suspect k i =>
    simp only [apply]; rw [suspect_spec]
    exact localOp_stale he fun hk hc _ => .inr ⟨Nat.le_refl _, id, fun _ => by rw [hc.1]; exact hs hk⟩
  | fail k =>
    simp only [apply]; rw [fail_spec]
    exact localOp_stale he fun hk => absurd hk hs
  | refute k i =>
    simp only [apply]; rw [refute_spec]
    exact localOp_stale he fun hk hc _ => .inr ⟨Nat.le_of_lt hc, fun _ => hs hk, fun _ => Nat.lt_trans hc (hs hk)⟩
  | markHealthy k =>
    simp only [apply]; rw [markHealthy_spec]
    exact localOp_stale he fun _ hc _ => .inr ⟨Nat.le_refl _, id, fun hh => absurd hh hc⟩
  | tick => exact ⟨e, he, .inl rfl⟩
  | syncTime t => exact ⟨e, he, .inl rfl⟩

theorem stale_below {m lo n : Nat} {s : State} {o : Op} (hs : StaleFor m n o) (hb : Below m lo n s) :
    Below m lo n (apply s o) := by
  obtain ⟨e, he, hlo, hlt⟩ := hb
  obtain ⟨e', he', rfl | ⟨h1, h2, _⟩⟩ := stale_reg hs he
  · exact ⟨e', he', hlo, hlt⟩
  · exact ⟨e', he', Nat.le_trans hlo h1, h2 hlt⟩

theorem stale_refuted {m n t : Nat} {s : State} {o : Op} (hs : StaleFor m n o)
    (he : s.regs m = some ⟨.healthy, t, n⟩) : (apply s o).regs m = some ⟨.healthy, t, n⟩ := by
  obtain ⟨e', he', rfl | ⟨_, _, h3⟩⟩ := stale_reg hs he
  · exact he'
  · exact absurd (h3 rfl) (Nat.lt_irrefl n)

theorem run_stale {m n : Nat} {P : State → Prop}
    (hP : ∀ {s o}, StaleFor m n o → P s → P (apply s o)) (ops : List Op) {s : State}
    (hs : ∀ o ∈ ops, StaleFor m n o) (h : P s) : P (run s ops) :=
  foldl_invariant (P := P) (fun _ o ho => hP (hs o ho)) h

theorem refute_fires {s : State} {m n : Nat} {e : Reg} (he : s.regs m = some e) (hlt : e.inc < n) :
    refute s m n = (⟨setReg s.regs m ⟨.healthy, s.clock + 1, n⟩, s.clock + 1⟩, true) := by
  unfold refute
  rw [he]
  simp [hlt]

theorem healthy_at {r : Option Reg} {n : Nat} (h : ∃ t, r = some ⟨.healthy, t, n⟩) :
    r.map (fun r => (r.health, r.inc)) = some (.healthy, n) := by
  obtain ⟨t, rfl⟩ := h; rfl

/-- manager events that carry only news about incarnations of `m` below `n`: a `Sync` from
    anybody but `m` whose states for `m` are all below `n`, a `Suspect` / `Alive` about a lower
    incarnation, `add_peer`, ping acks, gossip rounds in which no suspicion of `m` expires, a
    `suspect_node` of another member -/
def EvStale (m n : Nat) : MEv → Prop
  | .msg (.sync s b _) => s ≠ m ∧ ∀ u ∈ b, u.node = m → u.reg.inc < n
  | .msg (.suspect k i) => k = m → i < n
  | .msg (.alive k i) => k = m → i < n
  | .msg (.addPeer _) => True
  | .msg (.pingAck _ _) => True
  | .round _ _ ex => m ∉ ex
  | .suspectNode k => k ≠ m

theorem expireOps_stale (m n : Nat) (ex : List Nat) (hm : m ∉ ex) (g : Mgr) :
    ∀ o ∈ g.expireOps ex, StaleFor m n o := by
  induction ex generalizing g with
  | nil => intro o ho; cases ho
  | cons k ks ih =>
    have hk : k ≠ m := fun x => hm (by simp [x])
    have hks : m ∉ ks := fun x => hm (List.mem_cons_of_mem _ x)
    intro o ho
    unfold Mgr.expireOps at ho
    split at ho
    · cases List.mem_cons.mp ho with
      | inl x => subst x; exact hk
      | inr x => exact ih hks _ o x
    · exact ih hks g o ho

/-- the CRDT operations of a stale event are stale operations, provided `m` is in the view (so
    that `add_peer` never creates it) -/
theorem evOps_stale {m n : Nat} (g : Mgr) (e : MEv) (he : EvStale m n e) (hm : g.st.regs m ≠ none) :
    ∀ o ∈ g.evOps e, StaleFor m n o := by
  cases e with
  | msg x =>
    cases x with
    | sync s b t =>
      intro o ho
      simp only [Mgr.evOps, List.mem_cons, List.not_mem_nil, or_false] at ho
      rcases ho with rfl | rfl | rfl
      · trivial
      · exact fun u hu hn => he.2 u (List.mem_filter.mp hu).1 hn
      · intro u hu hn
        rw [List.mem_singleton.mp hu] at hn
        exact absurd hn he.1
    | suspect k i => exact forall_mem_of_nil_or (evOps_suspect g k i) he
    | alive k i => exact forall_mem_of_nil_or (evOps_alive g k i) he
    | addPeer p =>
      cases hp : g.st.regs p with
      | some x => rw [evOps_addPeer_known hp]; exact fun _ ho => nomatch ho
      | none =>
        rw [evOps_addPeer_absent hp]
        intro o ho
        simp only [List.mem_cons, List.not_mem_nil, or_false] at ho
        rcases ho with rfl | rfl
        · trivial
        · intro u hu hn
          rw [List.mem_singleton.mp hu] at hn
          exact absurd (hn ▸ hp) hm
    | pingAck t ok => exact forall_mem_of_nil_or (evOps_pingAck g t ok) trivial
  | round ord k ex => exact expireOps_stale m n ex he g
  | suspectNode k => exact forall_mem_of_nil_or (evOps_suspectNode g k) fun x => absurd x he

theorem runEv_maxDelta (g : Mgr) (evs : List MEv) : (g.runEv evs).maxDelta = g.maxDelta :=
  foldl_invariant (P := fun x : Mgr => x.maxDelta = g.maxDelta)
    (fun x e _ h => (stepEv_local x e).2.1.trans h) rfl

theorem runEv_append (g : Mgr) (a b : List MEv) : g.runEv (a ++ b) = (g.runEv a).runEv b := by
  unfold Mgr.runEv; rw [List.foldl_append]

/-- `hk`: the property implies that `m` is in the view, so that `add_peer` never creates it -/
theorem runEv_stale {m n : Nat} {P : State → Prop}
    (hP : ∀ {s o}, StaleFor m n o → P s → P (apply s o)) (hk : ∀ {s}, P s → s.regs m ≠ none)
    (evs : List MEv) (g : Mgr) (hs : ∀ e ∈ evs, EvStale m n e) (h : P g.st) : P (g.runEv evs).st :=
  foldl_invariant (P := fun g : Mgr => P g.st) (fun g e he h => by
    rw [stepEv_eq_run]; exact run_stale hP _ (evOps_stale g e (hs e he) (hk h)) h) h

theorem handleAlive_fires {g : Mgr} {m n : Nat} {e : Reg} (he : g.st.regs m = some e) (hlt : e.inc < n)
    (hd : n ≤ e.inc + g.maxDelta) :
    (g.handleAlive m n).st.regs m = some ⟨.healthy, g.st.clock + 1, n⟩ := by
  unfold Mgr.handleAlive
  simp only [he]
  have h1 : ¬ (n - e.inc > g.maxDelta) := Nat.not_lt.mpr (Nat.sub_le_iff_le_add'.mpr hd)
  rw [if_neg h1, refute_fires he hlt]
  simp only [if_true]
  exact setReg_same _ _ _

end Neumann.Gossip
