import NeumannModel.Gossip.Lemmas
/-
  C17 — "Cluster membership views converge and never move backwards".

  Reading guide
  * `Reg.le`  : lexicographic order on the key `(incarnation, timestamp, health_tie_rank health)`.
  * `join`    : what one step of `LWWMembershipState::merge` does to a (possibly absent) register.
  * `deliver` : a replica merging a list of batches (each batch = one `merge` call, with its
                `sync_time`), `run`/`seen` : a replica history with local events and the ghost
                list of every update it merged or generated.
  * `Sys`     : the multi-node system (Model.lean) in which incarnations for `m` are created only
                by `m` (`announce`) and reach other replicas only as `Alive`/gossip.
-/
namespace Neumann.Gossip.Props
open Neumann.Gossip

/-! ## 1. the key order is total, and `merge` takes the maximum -/

theorem key_le_refl (a : Reg) : a.le a := Reg.le_refl a
theorem key_le_total (a b : Reg) : a.le b ∨ b.le a := Reg.le_total a b
theorem key_le_trans (a b c : Reg) (h1 : a.le b) (h2 : b.le c) : a.le c := Reg.le_trans h1 h2
/-- equal keys are equal registers (`health_tie_rank` is injective): the order is a total order
    on registers, not just a preorder -/
theorem key_le_antisymm (a b : Reg) (h1 : a.le b) (h2 : b.le a) : a = b := Reg.le_antisymm h1 h2

example : (⟨.healthy, 5, 1⟩ : Reg).le ⟨.failed, 5, 1⟩ ∧ ¬ (⟨.failed, 5, 1⟩ : Reg).le ⟨.healthy, 5, 1⟩ := by decide

/-- `merge` replaces a stored register exactly when the incoming one is strictly greater -/
theorem wins_iff_key_gt (a b : Reg) : wins a b = true ↔ b.le a ∧ b ≠ a := by
  rw [wins_iff]; exact Reg.lt_iff_le_ne

/-- the unchanged `supersedes` is the restriction of the key order to `(inc, ts)` -/
theorem supersedes_iff (a b : Reg) :
    supersedes a b = true ↔ b.inc < a.inc ∨ (b.inc = a.inc ∧ b.ts < a.ts) :=
  Neumann.Gossip.supersedes_iff a b

/-- one loop iteration of `merge` on a present member stores the maximum of old and incoming -/
theorem mergeOne_eq_max (regs : Nat → Option Reg) (u : Update) (e : Reg) (h : regs u.node = some e) :
    (mergeOne regs u).1 u.node = some (regMax e u.reg) := by
  rw [mergeOne_apply, if_pos rfl, h, join_some_some]

theorem mergeOne_absent (regs : Nat → Option Reg) (u : Update) (h : regs u.node = none) :
    (mergeOne regs u).1 u.node = some u.reg := by
  rw [mergeOne_apply, if_pos rfl, h]; rfl

theorem mergeOne_other (regs : Nat → Option Reg) (u : Update) (k : Nat) (h : k ≠ u.node) :
    (mergeOne regs u).1 k = regs k := by
  rw [mergeOne_apply, if_neg h]

example : (mergeOne (fun _ => some ⟨.healthy, 5, 1⟩) ⟨0, ⟨.failed, 5, 1⟩⟩).1 0 = some ⟨.failed, 5, 1⟩ := by decide +kernel
example : (mergeOne (fun _ => some ⟨.failed, 5, 1⟩) ⟨0, ⟨.healthy, 5, 1⟩⟩).1 0 = some ⟨.failed, 5, 1⟩ := by decide +kernel

/-! ## 2. semilattice laws on registers -/

theorem merge_comm (a b : Option Reg) : join a b = join b a := join_comm' a b
theorem merge_assoc (a b c : Option Reg) : join (join a b) c = join a (join b c) := join_assoc' a b c
theorem merge_idem (a : Option Reg) : join a a = a := join_idem' a
/-- `join` is the least upper bound of the key order (with "absent" as bottom) -/
theorem merge_is_lub (a b c : Option Reg) : OLe (join a b) c ↔ OLe a c ∧ OLe b c :=
  ⟨fun h => ⟨OLe.trans (join_ge_left a b) h, OLe.trans (join_ge_right a b) h⟩, fun h => join_le h.1 h.2⟩

/-! ## 3. convergence: order, grouping and repetition of delivery do not matter -/

/-- Two replicas that start from the same state and are delivered batches whose flattened
    contents are the same **set** of updates — any order, any grouping into `merge` calls, any
    repetition, any number of members and updates — hold identical `(health, ts, inc)` for
    every member.  (Their Lamport clocks may differ: the clock counts `merge` calls.) -/
theorem merge_order_independent (s : State) (B₁ B₂ : List (List Update))
    (h : ∀ u, u ∈ B₁.flatten ↔ u ∈ B₂.flatten) (m : Nat) :
    (deliver s B₁).regs m = (deliver s B₂).regs m := by
  rw [deliver_regs, deliver_regs]
  exact isJoin_unique (joinList_isJoin _ _) (joinList_isJoin _ _)
    (fun x => by rw [mem_forMember, mem_forMember]; exact h _)

/-- the multiset form (same updates up to permutation, regrouped arbitrarily) -/
theorem merge_perm_independent (s : State) (B₁ B₂ : List (List Update))
    (h : B₁.flatten.Perm B₂.flatten) (m : Nat) : (deliver s B₁).regs m = (deliver s B₂).regs m :=
  merge_order_independent s B₁ B₂ (fun _ => h.mem_iff) m

/-- re-delivering anything already delivered changes no register -/
theorem redelivery_is_noop (s : State) (B : List (List Update)) (b : List Update)
    (h : ∀ u ∈ b, u ∈ B.flatten) (m : Nat) : (deliver s (B ++ [b])).regs m = (deliver s B).regs m := by
  apply merge_order_independent
  intro u
  simp only [List.flatten_append, List.flatten_cons, List.flatten_nil, List.append_nil, List.mem_append]
  exact ⟨fun h' => h'.elim id (h u), Or.inl⟩

-- non-vacuity: three updates with an exact tie, two orders / groupings / a repetition
example :
    let a : Update := ⟨1, ⟨.healthy, 5, 1⟩⟩
    let b : Update := ⟨1, ⟨.failed, 5, 1⟩⟩
    let c : Update := ⟨2, ⟨.degraded, 0, 3⟩⟩
    (∀ u, u ∈ [[a], [b, c]].flatten ↔ u ∈ [[c, b, b], [], [a]].flatten) ∧
    (deliver State.empty [[a], [b, c]]).regs 1 = some ⟨.failed, 5, 1⟩ ∧
    (deliver State.empty [[c, b, b], [], [a]]).regs 1 = some ⟨.failed, 5, 1⟩ := by
  refine ⟨?_, by decide +kernel, by decide +kernel⟩
  intro u; simp only [List.flatten_cons, List.flatten_nil, List.mem_append, List.mem_cons, List.not_mem_nil]
  grind

-- non-vacuity of the permutation / re-delivery forms
example : ([[(⟨0, ⟨.healthy, 1, 1⟩⟩ : Update)], [⟨0, ⟨.unknown, 1, 1⟩⟩, ⟨1, ⟨.failed, 0, 0⟩⟩]].flatten).Perm
    ([[(⟨1, ⟨.failed, 0, 0⟩⟩ : Update), ⟨0, ⟨.unknown, 1, 1⟩⟩, ⟨0, ⟨.healthy, 1, 1⟩⟩]].flatten) := by decide +kernel
example : ∀ u ∈ [(⟨0, ⟨.healthy, 1, 1⟩⟩ : Update)],
    u ∈ [[(⟨0, ⟨.healthy, 1, 1⟩⟩ : Update)], [⟨0, ⟨.unknown, 1, 1⟩⟩]].flatten := by decide +kernel

/-! ## 4. nothing moves backwards -/

/-- the Lamport clock never decreases, under every operation (merge, the local events, and the
    public `tick` / `sync_time`) -/
theorem clock_monotone (s : State) (o : Op) : s.clock ≤ (apply s o).clock := apply_clock_mono s o

theorem clock_monotone_run (s : State) (ops : List Op) : s.clock ≤ (run s ops).clock := run_clock_mono s ops

/-- a recorded member is never forgotten and its recorded incarnation never decreases, under
    every operation.  The only hypothesis is `OpOk`: `update_local` is not handed an incarnation
    below the recorded one (it inserts unconditionally — see `updateLocal_inc_decrease_witness`);
    merge, suspect, fail, refute, mark_healthy need nothing. -/
theorem inc_monotone (s : State) (o : Op) (hok : OpOk s o) (m : Nat) (e : Reg) (h : s.regs m = some e) :
    ∃ e', (apply s o).regs m = some e' ∧ e.inc ≤ e'.inc := apply_inc_mono s o hok m e h

theorem inc_monotone_run (s : State) (ops : List Op) (hadm : Admissible s ops) (m : Nat) (e : Reg)
    (h : s.regs m = some e) : ∃ e', (run s ops).regs m = some e' ∧ e.inc ≤ e'.inc :=
  run_inc_mono s ops hadm m e h

/-- `update_local` really is unguarded: called with a lower incarnation it moves the recorded
    incarnation backwards (outside `OpOk`; production code calls it only on an empty state). -/
theorem updateLocal_inc_decrease_witness :
    let s := (updateLocal State.empty 1 .healthy 5).1
    (s.regs 1).map (·.inc) = some 5 ∧ ((updateLocal s 1 .healthy 0).1.regs 1).map (·.inc) = some 0 := by
  decide +kernel

/-- the clock invariant every reachable replica state satisfies: it dominates all stored stamps
    (`WF s` is `∀ m e, s.regs m = some e → e.ts ≤ s.clock`; `Op.merge b` takes an arbitrary batch,
    so this already covers every internal order of a batch — spelled out, with the strict form
    for a freshly merged batch, as `clock_dominates_held_timestamps` in §9) -/
theorem wf_reachable (ops : List Op) : WF (run State.empty ops) := run_wf wf_empty ops

/-- stronger than `inc_monotone`: on a reachable state every operation can only raise a member's
    whole key `(inc, ts, rank)` -/
theorem key_monotone (s : State) (hwf : WF s) (o : Op) (hok : OpOk s o) (m : Nat) :
    OLe (s.regs m) ((apply s o).regs m) := apply_key_mono hwf o hok m

example : WF (run State.empty [.updateLocal 0 .healthy 0, .merge [⟨1, ⟨.degraded, 7, 2⟩⟩], .suspect 0 0]) ∧
    Admissible State.empty [.updateLocal 0 .healthy 0, .merge [⟨1, ⟨.degraded, 7, 2⟩⟩], .suspect 0 0, .updateLocal 1 .healthy 2] := by
  refine ⟨wf_reachable _, ?_⟩
  simp only [Admissible, OpOk, and_true, true_and]
  refine ⟨(by intro e h; cases h), ?_⟩
  decide +kernel

/-! ## 5. a view is the join of everything merged or generated -/

/-- After any admissible history a replica's register for `m` is the greatest element (in the
    key order) of the registers for `m` among all updates it has merged or generated: it is one
    of them (or still absent), and it dominates every one of them. -/
theorem view_is_join (ops : List Op) (hadm : Admissible State.empty ops) (m : Nat) :
    let r := (run State.empty ops).regs m
    (r = none ∨ ∃ x, (⟨m, x⟩ : Update) ∈ seen State.empty ops ∧ r = some x) ∧
    ∀ x, (⟨m, x⟩ : Update) ∈ seen State.empty ops → OLe (some x) r := by
  have hj := run_join wf_empty ops hadm m
  obtain ⟨h1, _, h3⟩ := joinList_isJoin (State.empty.regs m) (forMember m (seen State.empty ops))
  rw [← hj] at h1 h3
  refine ⟨?_, fun x hx => h3 x (mem_forMember.mpr hx)⟩
  cases h1 with
  | inl h => left; exact h
  | inr h => obtain ⟨x, hx, e⟩ := h; right; exact ⟨x, mem_forMember.mp hx, e⟩

/-- the same from any reachable (well-formed) state, as an equation -/
theorem view_is_join_from (s : State) (hwf : WF s) (ops : List Op) (hadm : Admissible s ops) (m : Nat) :
    (run s ops).regs m = joinList (s.regs m) (forMember m (seen s ops)) := run_join hwf ops hadm m

/-- Convergence with local events: two replicas whose histories (merges in any order/grouping,
    interleaved with local suspect/fail/refute/mark-healthy/update-local events) have merged or
    generated the same set of updates for `m` hold the same register for `m`. -/
theorem converge_of_same_seen (ops₁ ops₂ : List Op) (h₁ : Admissible State.empty ops₁)
    (h₂ : Admissible State.empty ops₂) (m : Nat)
    (hset : ∀ x, (⟨m, x⟩ : Update) ∈ seen State.empty ops₁ ↔ (⟨m, x⟩ : Update) ∈ seen State.empty ops₂) :
    (run State.empty ops₁).regs m = (run State.empty ops₂).regs m := by
  rw [run_join wf_empty ops₁ h₁, run_join wf_empty ops₂ h₂]
  exact isJoin_unique (joinList_isJoin _ _) (joinList_isJoin _ _)
    (fun x => by rw [mem_forMember, mem_forMember]; exact hset x)

-- non-vacuity: a replica that suspects locally and one that only hears about it converge
example :
    let h₁ : List Op := [.merge [⟨1, ⟨.healthy, 1, 0⟩⟩], .suspect 1 0]
    let h₂ : List Op := [.merge [⟨1, ⟨.degraded, 3, 0⟩⟩, ⟨1, ⟨.healthy, 1, 0⟩⟩]]
    seen State.empty h₁ = [⟨1, ⟨.healthy, 1, 0⟩⟩, ⟨1, ⟨.degraded, 3, 0⟩⟩] ∧
    (run State.empty h₁).regs 1 = some ⟨.degraded, 3, 0⟩ ∧
    (run State.empty h₂).regs 1 = some ⟨.degraded, 3, 0⟩ := by decide +kernel

/-- Anti-entropy: whatever two replicas did before (any merges, any local events, even states
    that are not reachable), after each merges the other's published registers for the members
    `ms` — in any batching order relative to other traffic — they agree on every member of `ms`. -/
theorem anti_entropy_converges (s t : State) (ms : List Nat) (m : Nat) (hm : m ∈ ms) :
    (merge s (snapshot t ms)).1.regs m = (merge t (snapshot s ms)).1.regs m := by
  rw [merge_snapshot s t ms m hm, merge_snapshot t s ms m hm, join_comm']

example :
    let s := run State.empty [.updateLocal 0 .healthy 0, .merge [⟨1, ⟨.healthy, 1, 0⟩⟩], .suspect 1 0]
    let t := run State.empty [.updateLocal 1 .healthy 0, .merge [⟨0, ⟨.healthy, 1, 0⟩⟩], .fail 0]
    (merge s (snapshot t [0, 1])).1.regs 0 = some ⟨.failed, 3, 0⟩ ∧
    (merge t (snapshot s [0, 1])).1.regs 0 = some ⟨.failed, 3, 0⟩ ∧
    (merge s (snapshot t [0, 1])).1.regs 1 = (merge t (snapshot s [0, 1])).1.regs 1 := by decide +kernel

/-! ## 6. nobody is failed at an incarnation the member never announced -/

/-- the bound for every recorded health -/
theorem recorded_inc_le_announced (steps : List Step) (r m : Nat) (e : Reg)
    (h : ((Sys.init.run steps).nodes r).regs m = some e) :
    e.inc ≤ (Sys.init.run steps).announced m :=
  (sysInv_run steps Sys.init sysInv_init).1 r m e h

/-- In every run of the multi-node system (any interleaving of announcements, `Alive`
    deliveries, gossip publication, delayed/duplicated/reordered batch deliveries, `handle_sync`'s
    sender stamp, `add_peer`, local suspect/fail/mark-healthy on any replica) no replica ever
    records member `m` — in particular never records it **Failed** — at an incarnation higher
    than `m` itself has announced. -/
theorem failed_inc_le_announced (steps : List Step) (r m : Nat) (e : Reg)
    (h : ((Sys.init.run steps).nodes r).regs m = some e) (_hf : e.health = .failed) :
    e.inc ≤ (Sys.init.run steps).announced m :=
  recorded_inc_le_announced steps r m e h

-- non-vacuity: member 1 announces incarnation 1, replica 0 hears it, fails it, replica 2 learns it
example :
    let steps : List Step := [.gossip 1 [1], .deliver 0 [⟨1, ⟨.healthy, 1, 0⟩⟩], .announce 1,
      .deliverAlive 0 1 1, .fail 0 1, .gossip 0 [1], .deliver 2 [⟨1, ⟨.failed, 4, 1⟩⟩]]
    ((Sys.init.run steps).nodes 2).regs 1 = some ⟨.failed, 4, 1⟩ ∧ (Sys.init.run steps).announced 1 = 1 := by
  decide +kernel

/-! ## 7. the manager (`GossipMembershipManager::handle_gossip`) -/

/-- Two managers (same configuration, same starting CRDT registers for `m`) that handle Sync
    messages carrying the same **set** of states — any order, any split into messages, any
    repetition, any `sender_time`s — hold the same register for every member `m` that is not one
    of the senders, provided no incarnation exceeds the configured `max_incarnation_delta` (the
    jump filter is a deliberately state-dependent guard outside the property's small incarnation
    ranges).  The sender's own register is excluded: `handle_sync` stamps it with a receiver-local
    "alive" event. -/
theorem mgr_sync_order_independent (g₁ g₂ : Mgr) (M₁ M₂ : List Msg) (m : Nat)
    (hcfg : g₁.maxDelta = g₂.maxDelta) (hstart : g₁.st.regs m = g₂.st.regs m)
    (h₁ : SyncsNotFrom m M₁) (h₂ : SyncsNotFrom m M₂)
    (hset : ∀ u, u ∈ syncPayload M₁ ↔ u ∈ syncPayload M₂)
    (hpass : ∀ u ∈ syncPayload M₁, u.reg.inc ≤ g₁.maxDelta) :
    (g₁.run M₁).st.regs m = (g₂.run M₂).st.regs m := by
  rw [runSyncs_regs g₁ M₁ m h₁ hpass,
    runSyncs_regs g₂ M₂ m h₂ (fun u hu => hcfg ▸ hpass u ((hset u).mpr hu)), hstart]
  exact isJoin_unique (joinList_isJoin _ _) (joinList_isJoin _ _)
    (fun x => by rw [mem_forMember, mem_forMember]; exact hset _)

example :
    let a : Update := ⟨1, ⟨.healthy, 2, 1⟩⟩
    let b : Update := ⟨1, ⟨.failed, 2, 1⟩⟩
    SyncsNotFrom 1 [.sync 4 [a] 0, .sync 4 [b] 3] ∧
    ((Mgr.new 5 100).run [.sync 4 [a] 0, .sync 4 [b] 3]).st.regs 1 = some b.reg ∧
    ((Mgr.new 5 100).run [.sync 4 [b, a] 1]).st.regs 1 = some b.reg := by
  refine ⟨by simp [SyncsNotFrom], by decide +kernel, by decide +kernel⟩

/-- every handled message (Sync incl. the jump filter and the sender stamp, Suspect, Alive,
    PingAck, add_peer) leaves the manager's Lamport clock and every recorded incarnation non-decreasing -/
theorem mgr_clock_monotone (g : Mgr) (x : Msg) : g.st.clock ≤ (g.handle x).st.clock := by
  rw [handle_eq_run]; exact run_clock_mono _ _

theorem mgr_inc_monotone (g : Mgr) (x : Msg) (m : Nat) (e : Reg) (h : g.st.regs m = some e) :
    ∃ e', (g.handle x).st.regs m = some e' ∧ e.inc ≤ e'.inc := by
  rw [handle_eq_run]; exact run_inc_mono _ _ (evOps_admissible g (.msg x)) m e h

/-! ## 8. the defect the fix removed -/

/-- With the pre-fix merge (`supersedes` only) two replicas that received the same two updates —
    an exact `(incarnation, timestamp)` tie with different health — in opposite orders disagree
    forever: first arrival wins. -/
theorem tie_witness_old :
    (deliverOld State.empty [[⟨0, ⟨.healthy, 5, 1⟩⟩], [⟨0, ⟨.failed, 5, 1⟩⟩]]).regs 0 = some ⟨.healthy, 5, 1⟩ ∧
    (deliverOld State.empty [[⟨0, ⟨.failed, 5, 1⟩⟩], [⟨0, ⟨.healthy, 5, 1⟩⟩]]).regs 0 = some ⟨.failed, 5, 1⟩ := by
  decide +kernel

-- the same two deliveries with the current merge agree (instance of `merge_order_independent`)
example :
    (deliver State.empty [[⟨0, ⟨.healthy, 5, 1⟩⟩], [⟨0, ⟨.failed, 5, 1⟩⟩]]).regs 0 = some ⟨.failed, 5, 1⟩ ∧
    (deliver State.empty [[⟨0, ⟨.failed, 5, 1⟩⟩], [⟨0, ⟨.healthy, 5, 1⟩⟩]]).regs 0 = some ⟨.failed, 5, 1⟩ := by
  decide +kernel

/-! ## 9. the clock dominates every held timestamp, so local events survive re-delivery -/

/-- The invariant that makes local events win.  In every state reachable by any sequence of
    merges of ARBITRARY batches (any internal order of the entries — the newest entry at the head
    or anywhere else —, any repetition, re-deliveries of earlier batches) and local events:
    (1) the Lamport clock is at least every timestamp the replica holds (`wf_reachable` spelled
    out), and (2) one more merge of any batch leaves the clock strictly above the timestamp of
    every entry of that batch, wherever the entry sits in it.  Hence the stamp `clock + 1` of the
    next local suspect / fail / refute / mark_healthy is above everything held. -/
theorem clock_dominates_held_timestamps (ops : List Op) :
    (∀ m e, (run State.empty ops).regs m = some e → e.ts ≤ (run State.empty ops).clock) ∧
    (∀ (b : List Update) (u : Update), u ∈ b → u.reg.ts < (merge (run State.empty ops) b).1.clock) :=
  ⟨wf_reachable ops, fun _ _ hu => merge_clock_gt hu⟩

/-- the same for the manager: after any sequence of handled messages (Sync with ANY `sender_time`,
    also one behind the timestamps of its own states, and any order of the states; Suspect; Alive;
    add_peer) the manager's clock is at least every timestamp in its view -/
theorem mgr_clock_dominates_held_timestamps (loc maxDelta : Nat) (msgs : List Msg) (m : Nat) (e : Reg)
    (h : ((Mgr.new loc maxDelta).run msgs).st.regs m = some e) :
    e.ts ≤ ((Mgr.new loc maxDelta).run msgs).st.clock :=
  mgr_run_wf _ (mgr_new_wf loc maxDelta) msgs m e h

-- non-vacuity: a batch whose head is its OLDEST entry; a Sync whose sender_time is behind its states
example :
    (run State.empty [.merge [⟨2, ⟨.healthy, 3, 1⟩⟩, ⟨3, ⟨.healthy, 5, 2⟩⟩, ⟨1, ⟨.healthy, 9, 1⟩⟩]]).regs 1
      = some ⟨.healthy, 9, 1⟩ ∧
    (run State.empty [.merge [⟨2, ⟨.healthy, 3, 1⟩⟩, ⟨3, ⟨.healthy, 5, 2⟩⟩, ⟨1, ⟨.healthy, 9, 1⟩⟩]]).clock = 10 ∧
    ((Mgr.new 5 100).run [.sync 4 [⟨2, ⟨.healthy, 3, 1⟩⟩, ⟨1, ⟨.healthy, 9, 1⟩⟩] 0]).st.regs 1
      = some ⟨.healthy, 9, 1⟩ ∧
    ((Mgr.new 5 100).run [.sync 4 [⟨2, ⟨.healthy, 3, 1⟩⟩, ⟨1, ⟨.healthy, 9, 1⟩⟩] 0]).st.clock = 12 := by
  decide +kernel

/-- `redelivery_is_noop` extended to histories with local events and to "in-between" updates:
    after ANY admissible history (merges of arbitrary batches in arbitrary order, local events,
    earlier re-deliveries), delivering any further batches — in any order and grouping — whose
    entries for `m` are each an update the replica has already merged or generated, or older (in
    the key order) than one, changes nothing for `m`. -/
theorem redelivery_after_local_events_is_noop (ops : List Op) (hadm : Admissible State.empty ops)
    (m : Nat) (bs : List (List Update))
    (hold : ∀ u ∈ bs.flatten, u.node = m →
      ∃ y, (⟨m, y⟩ : Update) ∈ seen State.empty ops ∧ u.reg.le y) :
    (deliver (run State.empty ops) bs).regs m = (run State.empty ops).regs m := by
  rw [deliver_regs]
  apply joinList_absorb
  intro x hx
  obtain ⟨y, hy, hle⟩ := hold ⟨m, x⟩ (mem_forMember.mp hx) rfl
  have hj := run_join wf_empty ops hadm m
  obtain ⟨_, _, h3⟩ := joinList_isJoin (State.empty.regs m) (forMember m (seen State.empty ops))
  rw [← hj] at h3
  exact OLe.trans (show OLe (some x) (some y) from hle) (h3 y (mem_forMember.mpr hy))

/-- A local verdict is never lost to old news.  At any reachable replica state, when a local
    suspect / fail / refute / mark_healthy on member `m` succeeds (returns `true`), the register
    it writes carries the event's health and the fresh stamp `clock + 1`, and it is still exactly
    that register after merging ANY batches — any number, any internal order — made of entries
    for `m` that existed at the replica before the event (re-deliveries of anything it had merged
    or generated) or are older than such an entry (late updates with an in-between timestamp). -/
theorem local_event_survives_redelivery (ops : List Op) (hadm : Admissible State.empty ops) (o : Op)
    (m : Nat) (h : Health) (ht : localTarget o = some (m, h))
    (hsucc : emitted (run State.empty ops) o ≠ []) (bs : List (List Update))
    (hold : ∀ u ∈ bs.flatten, u.node = m →
      ∃ y, (⟨m, y⟩ : Update) ∈ seen State.empty ops ∧ u.reg.le y) :
    ∃ x, (apply (run State.empty ops) o).regs m = some x ∧ x.health = h ∧
      x.ts = (run State.empty ops).clock + 1 ∧
      (deliver (apply (run State.empty ops) o) bs).regs m = some x := by
  obtain ⟨c, _, f, hf, hh, hs⟩ := guarded_spec ht
  rw [(hs _).2] at hsucc
  obtain ⟨e, _, hc, hr, _⟩ := localOp_emitted _ _ hsucc
  rw [← (hs _).1] at hr
  have h1 := redelivery_after_local_events_is_noop (ops ++ [o])
    (admissible_append hadm ⟨opOk_of_localTarget ht, trivial⟩) m bs (fun u hu hm => by
      obtain ⟨y, hy, hle⟩ := hold u hu hm
      exact ⟨y, by rw [seen_append]; exact List.mem_append_left _ hy, hle⟩)
  rw [run_append] at h1
  exact ⟨_, hr, hh e _, (hf e _ hc).1, h1.trans hr⟩

-- non-vacuity (the seeded scenario on the real merge): a batch whose head is not its newest
-- entry, a successful local `fail`, then the same batch again in the other order plus a late
-- update with an in-between timestamp: the hypotheses hold and the verdict stays
example :
    let ops : List Op := [.merge [⟨2, ⟨.healthy, 3, 1⟩⟩, ⟨1, ⟨.healthy, 9, 1⟩⟩]]
    let bs : List (List Update) := [[⟨1, ⟨.healthy, 9, 1⟩⟩, ⟨2, ⟨.healthy, 3, 1⟩⟩], [⟨1, ⟨.healthy, 7, 1⟩⟩]]
    Admissible State.empty ops ∧ localTarget (.fail 1) = some (1, .failed) ∧
    emitted (run State.empty ops) (.fail 1) ≠ [] ∧
    (∀ u ∈ bs.flatten, u.node = 1 → ∃ y, (⟨1, y⟩ : Update) ∈ seen State.empty ops ∧ u.reg.le y) ∧
    (apply (run State.empty ops) (.fail 1)).regs 1 = some ⟨.failed, 11, 1⟩ ∧
    (deliver (apply (run State.empty ops) (.fail 1)) bs).regs 1 = some ⟨.failed, 11, 1⟩ := by
  refine ⟨⟨trivial, trivial⟩, rfl, by decide +kernel, ?_, by decide +kernel, by decide +kernel⟩
  intro u hu hm
  refine ⟨⟨.healthy, 9, 1⟩, by decide, ?_⟩
  simp only [List.flatten_cons, List.flatten_nil, List.append_nil, List.cons_append, List.nil_append,
    List.mem_cons, List.not_mem_nil, or_false] at hu
  rcases hu with rfl | rfl | rfl
  · decide
  · exact absurd hm (by decide)
  · decide

/-- Taking the clock from the FIRST entry of the batch (`mergeClockFromHead`: `incoming.first()`
    instead of the maximum timestamp) breaks both, on a 2-entry batch whose head is not its newest
    entry: the registers are those of the real merge, but the clock (4) is behind a held timestamp
    (9); a successful local `fail` is stamped 5, older than the entry it replaces; re-delivery of
    the very same batch — by either merge — reverts the verdict to Healthy; and two replicas given
    the same two updates (only the order inside the batch differs), the same local `fail` and the
    same late update end with different views. -/
theorem mergeClockFromHead_witness :
    let batch : List Update := [⟨2, ⟨.healthy, 3, 1⟩⟩, ⟨1, ⟨.healthy, 9, 1⟩⟩]
    let s := (mergeClockFromHead State.empty batch).1
    let s' := (fail s 1).1
    let t := (mergeClockFromHead State.empty batch.reverse).1
    let late : List Update := [⟨1, ⟨.healthy, 7, 1⟩⟩]
    (s.regs 1 = (merge State.empty batch).1.regs 1 ∧ s.regs 1 = some ⟨.healthy, 9, 1⟩ ∧ s.clock = 4) ∧
    ((fail s 1).2 = true ∧ s'.regs 1 = some ⟨.failed, 5, 1⟩) ∧
    ((mergeClockFromHead s' batch).1.regs 1 = some ⟨.healthy, 9, 1⟩ ∧
      (merge s' batch).1.regs 1 = some ⟨.healthy, 9, 1⟩) ∧
    ((mergeClockFromHead (fail t 1).1 late).1.regs 1 = some ⟨.failed, 11, 1⟩ ∧
      (mergeClockFromHead s' late).1.regs 1 = some ⟨.healthy, 7, 1⟩) := by
  decide +kernel

-- the same steps with the current merge: clock 10, the `fail` stamped 11, both orders agree
example :
    let batch : List Update := [⟨2, ⟨.healthy, 3, 1⟩⟩, ⟨1, ⟨.healthy, 9, 1⟩⟩]
    let s := (merge State.empty batch).1
    let t := (merge State.empty batch.reverse).1
    s.clock = 10 ∧ (fail s 1).1.regs 1 = some ⟨.failed, 11, 1⟩ ∧
    (merge (fail s 1).1 batch).1.regs 1 = some ⟨.failed, 11, 1⟩ ∧
    (merge (fail s 1).1 [⟨1, ⟨.healthy, 7, 1⟩⟩]).1.regs 1 = (merge (fail t 1).1 [⟨1, ⟨.healthy, 7, 1⟩⟩]).1.regs 1 := by
  decide +kernel

end Neumann.Gossip.Props
