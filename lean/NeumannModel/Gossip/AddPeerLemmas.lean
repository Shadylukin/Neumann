import NeumannModel.Gossip.RefuteLemmas
/-
  C17 helper lemmas for AddPeerProps: a member that is in the view stays in the view under every
  CRDT operation and every manager event (entries are never removed), and `add_peer` of such a
  member is the identity on the manager.
-/
namespace Neumann.Gossip

def Known (m : Nat) (s : State) : Prop := ∃ e, s.regs m = some e

theorem apply_known (s : State) (o : Op) (m : Nat) (h : Known m s) : Known m (apply s o) := by
  obtain ⟨e, he⟩ := h
  cases o with
  | updateLocal k hh i =>
    by_cases hm : m = k
    · subst hm; exact ⟨_, setReg_same _ _ _⟩
    · exact ⟨e, by simp only [apply, updateLocal]; rw [setReg_other _ _ hm]; exact he⟩
  | _ =>
    -- no other operation has a precondition (`OpOk` is `True`)
    refine (apply_inc_mono s _ ?_ m e he).imp fun _ h => h.1
    trivial

theorem stepEv_known (g : Mgr) (e : MEv) (m : Nat) (h : Known m g.st) : Known m (g.stepEv e).st := by
  rw [stepEv_eq_run]; exact foldl_invariant (P := Known m) (fun s o _ h => apply_known s o m h) h

theorem runEv_known (evs : List MEv) (g : Mgr) (m : Nat) (h : Known m g.st) : Known m (g.runEv evs).st :=
  foldl_invariant (P := fun g => Known m g.st) (fun g e _ h => stepEv_known g e m h) h

theorem addPeer_known (g : Mgr) (p : Nat) (h : Known p g.st) : g.addPeer p = g := by
  obtain ⟨e, he⟩ := h
  simp only [Mgr.addPeer, he]

/-- the event list with every `add_peer(p)` taken out -/
def withoutAddPeer (p : Nat) (evs : List MEv) : List MEv :=
  evs.filter (fun e => decide (e ≠ MEv.msg (.addPeer p)))

theorem withoutAddPeer_append (p : Nat) (a b : List MEv) :
    withoutAddPeer p (a ++ b) = withoutAddPeer p a ++ withoutAddPeer p b := by
  simp [withoutAddPeer]

theorem runEv_withoutAddPeer (evs : List MEv) (g : Mgr) (p : Nat) (h : Known p g.st) :
    g.runEv (withoutAddPeer p evs) = g.runEv evs := by
  induction evs generalizing g with
  | nil => rfl
  | cons e es ih =>
    by_cases he : e = MEv.msg (.addPeer p)
    · subst he
      have h1 : withoutAddPeer p (MEv.msg (.addPeer p) :: es) = withoutAddPeer p es := by
        simp [withoutAddPeer]
      have h2 : g.runEv (MEv.msg (.addPeer p) :: es) = (g.addPeer p).runEv es := rfl
      rw [h1, h2, addPeer_known g p h]
      exact ih g h
    · have h1 : withoutAddPeer p (e :: es) = e :: withoutAddPeer p es := by
        simp [withoutAddPeer, he]
      have h2 : ∀ l, g.runEv (e :: l) = (g.stepEv e).runEv l := fun _ => rfl
      rw [h1, h2, h2]
      exact ih (g.stepEv e) (stepEv_known g e p h)

end Neumann.Gossip
