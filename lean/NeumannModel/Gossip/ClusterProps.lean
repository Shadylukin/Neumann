import NeumannModel.Gossip.ClusterLemmas
import NeumannModel.Gossip.Props
/-
  C17 — the sending side of `GossipMembershipManager` and the cluster of managers.

  Reading guide
  * `statesForGossip s order k` : `LWWMembershipState::states_for_gossip(k)` when the `states`
    HashMap iterates in the order `order` (every theorem holds for EVERY order).
  * `Mgr.syncMsg`, `Mgr.expire`, `Mgr.suspectNode`, `Msg.pingAck` : `gossip_round`'s Sync,
    `expire_suspicions`, `suspect_node`, `handle_ping_ack`.
  * `MEv` / `Mgr.stepEv` / `Mgr.out` : one event at one manager and what it hands to the transport.
  * `Cluster` : managers `Mgr.new r d` for every `r`; a `Sync` / `Suspect` / `Alive` can be handled
    (by any node, any number of times, in any order) only if some manager has sent exactly it.
-/
namespace Neumann.Gossip.Props
open Neumann.Gossip

/-! ## 10. what `states_for_gossip` publishes -/

/-- every published state is a register the replica holds, for a member of its view -/
theorem statesForGossip_held (s : State) (order : List Nat) (k : Nat) (u : Update)
    (h : u ∈ statesForGossip s order k) : u.node ∈ order ∧ s.regs u.node = some u.reg :=
  mem_statesForGossip h

theorem statesForGossip_length (s : State) (order : List Nat) (k : Nat) :
    (statesForGossip s order k).length ≤ k := List.length_take_le _ _

/-- newest first -/
theorem statesForGossip_sorted (s : State) (order : List Nat) (k : Nat) :
    (statesForGossip s order k).Pairwise (fun a b => b.reg.ts ≤ a.reg.ts) :=
  (sortDesc_sorted _).sublist (List.take_sublist _ _)

/-- one entry per member (the map has one entry per key): a published batch never carries two
    states for the same node -/
theorem statesForGossip_one_per_member (s : State) (order : List Nat) (k : Nat) (hnd : order.Nodup) :
    ((statesForGossip s order k).map (·.node)).Nodup := by
  have h1 : ((snapshot s order).map (·.node)).Nodup := hnd.sublist (snapshot_nodes_sublist s order)
  have h2 : ((sortDesc (snapshot s order)).map (·.node)).Nodup :=
    ((sortDesc_perm _).map _).nodup_iff.mpr h1
  exact h2.sublist ((List.take_sublist _ _).map _)

/-- truncation drops only the oldest: a held register that is not published is not newer than
    any published one -/
theorem statesForGossip_keeps_newest (s : State) (order : List Nat) (k : Nat) (u : Update)
    (hu : u ∈ statesForGossip s order k) (m : Nat) (hm : m ∈ order) (e : Reg) (he : s.regs m = some e)
    (hout : (⟨m, e⟩ : Update) ∉ statesForGossip s order k) : e.ts ≤ u.reg.ts := by
  have hall : (⟨m, e⟩ : Update) ∈ sortDesc (snapshot s order) :=
    mem_sortDesc.mpr (mem_snapshot.mpr ⟨hm, he⟩)
  have hs := sortDesc_sorted (snapshot s order)
  unfold SortedDesc at hs
  rw [← List.take_append_drop k (sortDesc (snapshot s order))] at hall hs
  cases List.mem_append.mp hall with
  | inl h => exact absurd h hout
  | inr h => exact (List.pairwise_append.mp hs).2.2 u hu _ h

/-- with room for the whole view (`max_states_per_message ≥` number of members) everything held
    is published -/
theorem statesForGossip_full_view (s : State) (order : List Nat) (k : Nat) (hk : order.length ≤ k)
    (u : Update) : u ∈ statesForGossip s order k ↔ u.node ∈ order ∧ s.regs u.node = some u.reg :=
  mem_statesForGossip_full hk

-- non-vacuity: a 3-member view in map order [2, 0, 1], cut to the 2 newest
example :
    let s := run State.empty [.merge [⟨0, ⟨.healthy, 3, 0⟩⟩, ⟨1, ⟨.failed, 7, 1⟩⟩, ⟨2, ⟨.degraded, 5, 0⟩⟩]]
    statesForGossip s [2, 0, 1] 2 = [⟨1, ⟨.failed, 7, 1⟩⟩, ⟨2, ⟨.degraded, 5, 0⟩⟩] ∧
    statesForGossip s [2, 0, 1] 3 = [⟨1, ⟨.failed, 7, 1⟩⟩, ⟨2, ⟨.degraded, 5, 0⟩⟩, ⟨0, ⟨.healthy, 3, 0⟩⟩] ∧
    [2, 0, 1].Nodup ∧ (⟨0, ⟨.healthy, 3, 0⟩⟩ : Update) ∉ statesForGossip s [2, 0, 1] 2 := by decide +kernel

/-! ## 11. a gossip round is honest, and handling it loses nothing that passes the filter -/

/-- The `Sync` of `gossip_round` on any reachable manager (any events before it): it names the
    local node, its `sender_time` is the sender's Lamport clock, every state in it is a register
    the sender holds, and `sender_time` is at least every timestamp in it. -/
theorem round_sync_is_honest (loc d : Nat) (evs : List MEv) (order : List Nat) (k : Nat) :
    let g := (Mgr.new loc d).runEv evs
    ∃ b, g.syncMsg order k = .sync g.local_ b g.st.clock ∧
      ∀ u ∈ b, g.st.regs u.node = some u.reg ∧ u.reg.ts ≤ g.st.clock := by
  intro g
  refine ⟨statesForGossip g.st order k, rfl, ?_⟩
  intro u hu
  have h := (mem_statesForGossip hu).2
  exact ⟨h, runEv_wf _ (mgr_new_wf loc d) evs u.node u.reg h⟩

/-- `handle_sync` never loses a state: after it, the receiver's register for the member of every
    state of the message that passes the incarnation-jump filter is at least that state (key
    order) — whatever `sender_time`, whatever the order of the states, also for the sender's own
    entry and for a Sync the node receives from itself. -/
theorem sync_delivers_every_accepted_state (g : Mgr) (sender : Nat) (b : List Update) (t : Nat)
    (u : Update) (hu : u ∈ b) (hp : passesDelta (syncTime g.st t) g.maxDelta u = true) :
    OLe (some u.reg) ((g.handle (.sync sender b t)).st.regs u.node) :=
  handleSync_dominates g sender b t u hu hp

/-- Handling the Sync of a peer `h` whose message has room for `h`'s whole view: for every member
    `m` of that view other than the sender, the receiver ends with the JOIN of its own and `h`'s
    register (no incarnation above the configured jump). -/
theorem full_sync_joins_views (g h : Mgr) (order : List Nat) (k : Nat) (hk : order.length ≤ k)
    (m : Nat) (hm : m ∈ order) (hns : m ≠ h.local_)
    (hpass : ∀ k' e, h.st.regs k' = some e → e.inc ≤ g.maxDelta) :
    (g.handle (h.syncMsg order k)).st.regs m = join (g.st.regs m) (h.st.regs m) := by
  simp only [Mgr.syncMsg, Mgr.handle]
  rw [handleSync_regs g h.local_ _ h.st.clock m hns
    (fun u hu => hpass u.node u.reg (mem_statesForGossip hu).2)]
  exact joinList_full_view _ _ _ _ hk m hm

/-- Anti-entropy through the managers: `h` runs a gossip round, `g` handles that Sync, then `g`
    runs a round and `h` handles it.  Whatever the two did before (any views, any clocks, any map
    orders), they now hold the same register for every member other than the two of them (their
    own entries carry the receiver-local "sender is alive" stamps). -/
theorem mgr_exchange_converges (g h : Mgr) (o₁ o₂ : List Nat) (k₁ k₂ : Nat)
    (hk₁ : o₁.length ≤ k₁) (hk₂ : o₂.length ≤ k₂) (m : Nat) (hm₁ : m ∈ o₁) (hm₂ : m ∈ o₂)
    (hg : m ≠ g.local_) (hh : m ≠ h.local_)
    (hpg : ∀ k' e, h.st.regs k' = some e → e.inc ≤ g.maxDelta)
    (hph : ∀ k' e, (g.handle (h.syncMsg o₁ k₁)).st.regs k' = some e → e.inc ≤ h.maxDelta) :
    let g' := g.handle (h.syncMsg o₁ k₁)
    let h' := h.handle (g'.syncMsg o₂ k₂)
    g'.st.regs m = h'.st.regs m := by
  intro g' h'
  have e1 : g'.st.regs m = join (g.st.regs m) (h.st.regs m) :=
    full_sync_joins_views g h o₁ k₁ hk₁ m hm₁ hh hpg
  have hl : g'.local_ = g.local_ := (handle_local g _).1
  have e2 : h'.st.regs m = join (h.st.regs m) (g'.st.regs m) :=
    full_sync_joins_views h g' o₂ k₂ hk₂ m hm₂ (by rw [hl]; exact hg) hph
  rw [e2, e1, ← join_assoc', join_comm' (h.st.regs m), join_assoc', join_idem']

-- non-vacuity: two managers with different histories, member 2 seen differently, full exchange
example :
    let g := (Mgr.new 0 100).runEv [.msg (.sync 3 [⟨2, ⟨.healthy, 4, 1⟩⟩] 5), .suspectNode 2]
    let h := (Mgr.new 1 100).runEv [.msg (.sync 3 [⟨2, ⟨.healthy, 9, 1⟩⟩, ⟨4, ⟨.unknown, 2, 0⟩⟩] 9)]
    let g' := g.handle (h.syncMsg [4, 1, 3, 2] 20)
    let h' := h.handle (g'.syncMsg [0, 2, 3, 4, 1] 20)
    g.st.regs 2 = some ⟨.degraded, 10, 1⟩ ∧ h.st.regs 2 = some ⟨.healthy, 9, 1⟩ ∧
    g'.st.regs 2 = some ⟨.degraded, 10, 1⟩ ∧ h'.st.regs 2 = some ⟨.degraded, 10, 1⟩ ∧
    g'.st.regs 4 = h'.st.regs 4 := by decide +kernel

/-! ## 12. no event of the manager moves anything backwards -/

/-- For a manager reached by ANY sequence of events (handled Sync / Suspect / Alive / PingAck,
    add_peer, gossip rounds with any set of expired suspicions, local suspect_node) and any further
    event: the Lamport clock does not decrease, every member's key (incarnation, timestamp,
    severity) does not decrease (in particular: no member is forgotten, no incarnation goes down),
    and the clock is at least every held timestamp afterwards. -/
theorem mgr_event_never_moves_backwards (loc d : Nat) (evs : List MEv) (e : MEv) :
    let g := (Mgr.new loc d).runEv evs
    g.st.clock ≤ (g.stepEv e).st.clock ∧
    (∀ m, OLe (g.st.regs m) ((g.stepEv e).st.regs m)) ∧
    (∀ m x, (g.stepEv e).st.regs m = some x → x.ts ≤ (g.stepEv e).st.clock) :=
  stepEv_fwd _ (runEv_wf _ (mgr_new_wf loc d) evs) e

/-- an expired suspicion records the member Failed at exactly the incarnation held for it: the
    failure path of the manager never invents an incarnation -/
theorem expire_keeps_incarnation (g : Mgr) (expired : List Nat) (m : Nat) (e' : Reg)
    (h : (g.expire expired).st.regs m = some e') : ∃ e, g.st.regs m = some e ∧ e'.inc = e.inc :=
  expire_inc g expired m e' h

-- non-vacuity: suspect_node then an expiring round fails member 2 at the held incarnation 1
example :
    let g := (Mgr.new 0 100).runEv [.msg (.sync 3 [⟨2, ⟨.healthy, 4, 1⟩⟩] 5), .suspectNode 2]
    g.suspicions = [2] ∧ (g.stepEv (.round [0, 2, 3] 20 [2])).st.regs 2 = some ⟨.failed, 11, 1⟩ ∧
    (g.stepEv (.round [0, 2, 3] 20 [2])).suspicions = [] ∧
    g.out (.round [0, 2, 3] 20 [2]) =
      [.sync 0 [⟨2, ⟨.degraded, 10, 1⟩⟩, ⟨3, ⟨.healthy, 8, 0⟩⟩, ⟨0, ⟨.healthy, 1, 0⟩⟩] 10] := by decide +kernel

/-! ## 13. the cluster: nobody is recorded above the incarnation the member itself announced -/

/-- In every run of the cluster of managers — gossip rounds (any map order, any truncation, any
    set of expired suspicions), `suspect_node`, `add_peer`, ping acks, and the handling by ANY node,
    any number of times and in any order, of any `Sync` / `Suspect` / `Alive` that some manager has
    sent — no node records member `m` at an incarnation above `m`'s own counter (the largest
    incarnation `m` has put into an `Alive`). -/
theorem cluster_recorded_inc_le_announced (d : Nat) (steps : List (Nat × MEv)) (r m : Nat) (e : Reg)
    (h : (((Cluster.init d).run steps).nodes r).st.regs m = some e) :
    e.inc ≤ (((Cluster.init d).run steps).nodes m).ownInc :=
  (cinv_run steps _ (cinv_init d)).2.1 r m e h

/-- in particular never **Failed** above it (the clause of the property) -/
theorem cluster_failed_inc_le_announced (d : Nat) (steps : List (Nat × MEv)) (r m : Nat) (e : Reg)
    (h : (((Cluster.init d).run steps).nodes r).st.regs m = some e) (_hf : e.health = .failed) :
    e.inc ≤ (((Cluster.init d).run steps).nodes m).ownInc :=
  cluster_recorded_inc_le_announced d steps r m e h

/-- every `Alive` in flight names an incarnation its subject has reached, every state of every
    `Sync` in flight is bounded the same way -/
theorem cluster_messages_le_announced (d : Nat) (steps : List (Nat × MEv)) (x : Msg)
    (hx : x ∈ ((Cluster.init d).run steps).net) :
    (∀ m i, x = .alive m i → i ≤ (((Cluster.init d).run steps).nodes m).ownInc) ∧
    (∀ s b t, x = .sync s b t → ∀ u ∈ b, u.reg.inc ≤ (((Cluster.init d).run steps).nodes u.node).ownInc) := by
  have h := (cinv_run steps _ (cinv_init d)).2.2.1 x hx
  refine ⟨?_, ?_⟩
  · intro m i e; subst e; exact h
  · intro s b t e; subst e; exact h

/-- every step of a cluster run leaves every node's clock and every member's key at every node
    non-decreasing, and every node's clock at least every timestamp it holds -/
theorem cluster_never_moves_backwards (d : Nat) (steps : List (Nat × MEv)) (st : Nat × MEv) (k : Nat) :
    let c := (Cluster.init d).run steps
    (c.nodes k).st.clock ≤ ((c.step st).nodes k).st.clock ∧
    (∀ m, OLe ((c.nodes k).st.regs m) (((c.step st).nodes k).st.regs m)) ∧
    (∀ m x, (c.nodes k).st.regs m = some x → x.ts ≤ (c.nodes k).st.clock) := by
  intro c
  have hinv := cinv_run steps _ (cinv_init d)
  have h := cluster_step_fwd c hinv st k
  exact ⟨h.1, h.2.1, hinv.2.2.2 k⟩

/-- The run used below: node 1 gossips, node 0 learns member 1, suspects it (`suspect_node`), node 1
    handles the `Suspect` about itself (bumps its counter to 1, sends `Alive(1, 1)`), node 0 handles
    the `Alive`, suspects member 1 again and the suspicion expires in a gossip round. -/
def selfViewRun : List (Nat × MEv) :=
  [(1, .round [1] 20 []), (0, .msg (.sync 1 [⟨1, ⟨.healthy, 1, 0⟩⟩] 1)), (0, .suspectNode 1),
   (1, .msg (.suspect 1 0)), (0, .msg (.alive 1 1)), (0, .suspectNode 1), (0, .round [0, 1] 20 [1])]

/-- `specs/tla/Membership.tla` states `NoFalsePositivesSafety` against the member's SELF-VIEW
    (`membershipView[n][n].incarnation`), and its `RefuteSuspicion` action bumps that self-view.
    The code's `handle_suspect` on the local node bumps only the `incarnation` counter and sends
    `Alive`; its own register is not touched.  So in the code the self-view lags: after this run
    node 0 records member 1 **Failed at incarnation 1** while node 1's own register for itself is
    still at incarnation 0 — the TLA form of the invariant is false of the code, the announced
    form (`cluster_failed_inc_le_announced`, the property's wording) holds with equality. -/
theorem self_view_lags_announced_witness :
    let c := (Cluster.init 100).run selfViewRun
    (c.nodes 0).st.regs 1 = some ⟨.failed, 9, 1⟩ ∧
    (c.nodes 1).st.regs 1 = some ⟨.healthy, 1, 0⟩ ∧
    (c.nodes 1).ownInc = 1 ∧ Msg.alive 1 1 ∈ c.net := by
  decide +kernel

-- non-vacuity of the cluster theorems: the run above is a run in which every handled message was
-- really sent (each `enabled` check passes: the net grows to 5 messages), and a forged Alive is refused
example :
    ((Cluster.init 100).run selfViewRun).net.length = 5 ∧
    (((Cluster.init 100).run [(0, .msg (.alive 1 7))]).nodes 0).st.regs 1 = none ∧
    (((Cluster.init 100).run [(0, .msg (.addPeer 1)), (0, .msg (.alive 1 7))]).nodes 0).st.regs 1
      = some ⟨.unknown, 2, 0⟩ := by decide +kernel

/-! ## 14. the manager is a CRDT replica: the replica theorems apply to it -/

/-- Every event of the manager acts on its `LWWMembershipState` through a short sequence of the
    public operations (`Mgr.evOps`: `sync_time, merge, merge` for a Sync — the filtered states, then
    the sender stamp —, `tick, merge` for add_peer, `suspect`, `refute`, `mark_healthy`, one `fail`
    per expired suspicion), never `update_local`: an admissible replica history. -/
theorem mgr_event_is_crdt_history (g : Mgr) (e : MEv) :
    (g.stepEv e).st = run g.st (g.evOps e) ∧ Admissible g.st (g.evOps e) :=
  ⟨stepEv_eq_run g e, admissible_of_noUpdateLocal (evOps_noUL g e)⟩

/-- the CRDT state of a manager after any events is the replica history `Mgr.history` (the
    constructor's `update_local(local, Healthy, 0)` on the empty state, then the operations of each
    event) — so every theorem about `run State.empty ops` (§4, §5, §9) holds of managers -/
theorem mgr_is_crdt_replica (loc d : Nat) (evs : List MEv) :
    ((Mgr.new loc d).runEv evs).st = run State.empty (Mgr.history loc d evs) ∧
    Admissible State.empty (Mgr.history loc d evs) :=
  ⟨mgr_history_run loc d evs, mgr_history_admissible loc d evs⟩

/-- `view_is_join` for the manager: its register for `m` is the greatest (key order) of all the
    states it accepted from Syncs (after the jump filter), the sender stamps, the add_peer
    placeholders and the registers its own suspect / refute / mark_healthy / fail wrote. -/
theorem mgr_view_is_join (loc d : Nat) (evs : List MEv) (m : Nat) :
    let r := ((Mgr.new loc d).runEv evs).st.regs m
    (r = none ∨ ∃ x, (⟨m, x⟩ : Update) ∈ seen State.empty (Mgr.history loc d evs) ∧ r = some x) ∧
    ∀ x, (⟨m, x⟩ : Update) ∈ seen State.empty (Mgr.history loc d evs) → OLe (some x) r := by
  intro r
  have h := view_is_join (Mgr.history loc d evs) (mgr_history_admissible loc d evs) m
  simp only [r, mgr_history_run]
  exact h

/-- A Sync from anybody but `m` whose states for `m` are all old news — each at most the register
    the manager holds (key order) — leaves that register exactly as it is, whatever else the
    message carries, whatever its `sender_time` (any manager state, reachable or not). -/
theorem mgr_stale_sync_changes_nothing (g : Mgr) (s : Nat) (b : List Update) (t : Nat) (m : Nat)
    (hm : m ≠ s) (hold : ∀ u ∈ b, u.node = m → OLe (some u.reg) (g.st.regs m)) :
    (g.handle (.sync s b t)).st.regs m = g.st.regs m :=
  handleSync_absorbs g s b t m hm hold

/-- The manager's verdicts survive old news: take a manager reached by any events, let any event
    `e` happen (a `suspect_node` that degrades `m`, a round whose expiry fails `m`, a ping ack that
    marks it healthy, an `Alive` …), then handle a Sync — not sent by `m` — whose states for `m`
    were already dominated by the view BEFORE `e` (re-deliveries, late in-between updates): the
    register `e` left for `m` is untouched. -/
theorem mgr_verdict_survives_old_news (loc d : Nat) (evs : List MEv) (e : MEv) (s : Nat)
    (b : List Update) (t : Nat) (m : Nat) (hm : m ≠ s)
    (hold : ∀ u ∈ b, u.node = m → OLe (some u.reg) (((Mgr.new loc d).runEv evs).st.regs m)) :
    ((((Mgr.new loc d).runEv evs).stepEv e).handle (.sync s b t)).st.regs m
      = (((Mgr.new loc d).runEv evs).stepEv e).st.regs m := by
  apply mgr_stale_sync_changes_nothing _ s b t m hm
  intro u hu hn
  exact OLe.trans (hold u hu hn) ((mgr_event_never_moves_backwards loc d evs e).2.1 m)

-- non-vacuity: member 2 arrives Healthy, is suspected, the suspicion expires (Failed, stamp 11);
-- the original Sync and a late in-between update are handled again: still Failed at stamp 11
example :
    let evs : List MEv := [.msg (.sync 3 [⟨2, ⟨.healthy, 4, 1⟩⟩] 5), .suspectNode 2]
    let g := (Mgr.new 0 100).runEv evs
    let b : List Update := [⟨2, ⟨.healthy, 4, 1⟩⟩, ⟨2, ⟨.unknown, 7, 1⟩⟩, ⟨3, ⟨.failed, 30, 0⟩⟩]
    (∀ u ∈ b, u.node = 2 → OLe (some u.reg) (g.st.regs 2)) ∧
    (g.stepEv (.round [0, 2, 3] 20 [2])).st.regs 2 = some ⟨.failed, 11, 1⟩ ∧
    ((g.stepEv (.round [0, 2, 3] 20 [2])).handle (.sync 3 b 6)).st.regs 2 = some ⟨.failed, 11, 1⟩ ∧
    Mgr.history 0 100 evs =
      [.updateLocal 0 .healthy 0, .syncTime 5, .merge [⟨2, ⟨.healthy, 4, 1⟩⟩], .merge [⟨3, ⟨.healthy, 8, 0⟩⟩],
       .suspect 2 1] := by
  refine ⟨?_, by decide +kernel, by decide +kernel, by decide +kernel⟩
  intro u hu hn
  simp only [List.mem_cons, List.not_mem_nil, or_false] at hu
  rcases hu with rfl | rfl | rfl
  · decide
  · decide
  · exact absurd hn (by decide)

end Neumann.Gossip.Props
