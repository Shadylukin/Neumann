import NeumannModel.Gossip.Model
import NeumannModel.Gossip.LexOrder
/-
  C17 helper lemmas: the order on registers, `join`, the characterisation of a fold of merges as
  "the greatest element of what was fed in", the per-operation invariants, and the manager: every
  event of `GossipMembershipManager` is a short run of CRDT operations (`stepEv_eq_run`).
-/
namespace Neumann.Gossip

theorem foldl_invariant {σ α : Type} {P : σ → Prop} {f : σ → α → σ} {l : List α}
    (h : ∀ s, ∀ a ∈ l, P s → P (f s a)) {s : σ} (hs : P s) : P (l.foldl f s) := by
  induction l generalizing s with
  | nil => exact hs
  | cons a as ih =>
    exact ih (fun s b hb => h s b (List.mem_cons_of_mem _ hb)) (h s a (List.mem_cons_self ..) hs)

theorem forall_update {α : Type} {P : Nat → α → Prop} {f : Nat → α} {r : Nat} {x : α}
    (h : ∀ k, P k (f k)) (hx : P r x) (k : Nat) : P k (if k = r then x else f k) := by
  by_cases hk : k = r
  · rw [if_pos hk, hk]; exact hx
  · rw [if_neg hk]; exact h k

theorem Health.rank_inj {a b : Health} (h : a.rank = b.rank) : a = b := by
  cases a <;> cases b <;> first | rfl | (simp [Health.rank] at h)

theorem Reg.ext_key {a b : Reg} (h1 : a.inc = b.inc) (h2 : a.ts = b.ts)
    (h3 : a.health.rank = b.health.rank) : a = b := by
  cases a; cases b; simp only [Reg.mk.injEq] at *
  exact ⟨Health.rank_inj h3, h2, h1⟩

/-- strict lexicographic order on the key `(inc, ts, rank health)` -/
def Reg.lt (a b : Reg) : Prop :=
  a.inc < b.inc ∨ (a.inc = b.inc ∧ (a.ts < b.ts ∨ (a.ts = b.ts ∧ a.health.rank < b.health.rank)))

/-- lexicographic order on the key `(inc, ts, rank health)` -/
def Reg.le (a b : Reg) : Prop :=
  a.inc < b.inc ∨ (a.inc = b.inc ∧ (a.ts < b.ts ∨ (a.ts = b.ts ∧ a.health.rank ≤ b.health.rank)))

instance (a b : Reg) : Decidable (a.lt b) := by unfold Reg.lt; infer_instance
instance (a b : Reg) : Decidable (a.le b) := by unfold Reg.le; infer_instance

def regMax (a b : Reg) : Reg := if a.le b then b else a

theorem supersedes_iff (a b : Reg) :
    supersedes a b = true ↔ b.inc < a.inc ∨ (b.inc = a.inc ∧ b.ts < a.ts) := by
  unfold supersedes
  by_cases h : a.inc = b.inc
  · rw [if_pos h, decide_eq_true_eq]
    exact ⟨fun l => .inr ⟨h.symm, l⟩, fun | .inl l => absurd h (Nat.ne_of_gt l) | .inr ⟨_, l⟩ => l⟩
  · rw [if_neg h, decide_eq_true_eq]
    exact ⟨.inl, fun | .inl l => l | .inr ⟨e, _⟩ => absurd e.symm h⟩

theorem wins_iff (a b : Reg) : wins a b = true ↔ b.lt a := by
  simp only [wins, Bool.or_eq_true, Bool.and_eq_true, decide_eq_true_eq, supersedes_iff]
  constructor
  · rintro ((h | ⟨e, h⟩) | ⟨⟨e, e'⟩, h⟩)
    · exact .inl h
    · exact .inr ⟨e, .inl h⟩
    · exact .inr ⟨e.symm, .inr ⟨e'.symm, h⟩⟩
  · rintro (h | ⟨e, h | ⟨e', h⟩⟩)
    · exact .inl (.inl h)
    · exact .inl (.inr ⟨e, h⟩)
    · exact .inr ⟨⟨e.symm, e'.symm⟩, h⟩

theorem Reg.le_refl (a : Reg) : a.le a := .inr ⟨rfl, .inr ⟨rfl, Nat.le_refl _⟩⟩
theorem Reg.le_total (a b : Reg) : a.le b ∨ b.le a := Lex.total (Lex.total (Nat.le_total _ _))
theorem Reg.le_trans {a b c : Reg} (h1 : a.le b) (h2 : b.le c) : a.le c :=
  Lex.trans (Lex.trans Nat.le_trans) h1 h2
theorem Reg.le_antisymm {a b : Reg} (h1 : a.le b) (h2 : b.le a) : a = b :=
  have ⟨hi, p, q⟩ := Lex.antisymm h1 h2
  have ⟨ht, l, l'⟩ := Lex.antisymm p q
  Reg.ext_key hi ht (Nat.le_antisymm l l')
theorem Reg.not_le {a b : Reg} : ¬ a.le b ↔ b.lt a := Lex.not_iff (Lex.not_iff Nat.not_le)
theorem Reg.lt_iff_le_ne {a b : Reg} : a.lt b ↔ a.le b ∧ a ≠ b := by
  rw [← Reg.not_le]
  constructor
  · intro h
    exact ⟨(Reg.le_total a b).resolve_right h, fun e => h (e ▸ Reg.le_refl a)⟩
  · exact fun ⟨h, ne⟩ h' => ne (Reg.le_antisymm h h')
theorem Reg.le_inc {a b : Reg} (h : a.le b) : a.inc ≤ b.inc :=
  h.elim Nat.le_of_lt fun h => Nat.le_of_eq h.1

theorem not_wins_iff (a b : Reg) : wins a b = false ↔ a.le b := by
  rw [← Bool.not_eq_true, wins_iff]; exact Lex.not_iff (Lex.not_iff Nat.not_lt)

/-- what one `merge` step does to a (possibly absent) register -/
def join : Option Reg → Option Reg → Option Reg
  | none, y => y
  | some a, none => some a
  | some a, some b => if wins b a then some b else some a

/-- order on possibly absent registers (`none` is bottom) -/
def OLe : Option Reg → Option Reg → Prop
  | none, _ => True
  | some _, none => False
  | some a, some b => a.le b

theorem OLe.refl (a : Option Reg) : OLe a a := by
  cases a <;> simp [OLe, Reg.le_refl]
theorem OLe.trans {a b c : Option Reg} (h1 : OLe a b) (h2 : OLe b c) : OLe a c := by
  cases a <;> cases b <;> cases c <;> simp_all [OLe]
  exact Reg.le_trans h1 h2
theorem OLe.of_some {e : Reg} {r : Option Reg} (h : OLe (some e) r) : ∃ e', r = some e' ∧ e.le e' := by
  cases r with
  | none => exact h.elim
  | some e' => exact ⟨e', rfl, h⟩

theorem OLe.antisymm {a b : Option Reg} (h1 : OLe a b) (h2 : OLe b a) : a = b := by
  cases a <;> cases b <;> simp_all [OLe]
  exact Reg.le_antisymm h1 h2

theorem join_some_some (a b : Reg) : join (some a) (some b) = some (regMax a b) := by
  simp only [join, regMax]
  by_cases hab : a.le b
  · simp only [hab, if_true]
    cases h : wins b a
    · have := (not_wins_iff b a).mp h
      simp [Reg.le_antisymm hab this]
    · simp
  · have hw : wins b a = false := by
      rw [not_wins_iff]
      cases Reg.le_total a b with
      | inl h' => exact absurd h' hab
      | inr h' => exact h'
    simp [hw, hab]

theorem join_ge_left (a b : Option Reg) : OLe a (join a b) := by
  cases a with
  | none => trivial
  | some a => cases b with
    | none => exact Reg.le_refl a
    | some b =>
      show OLe (some a) (if wins b a then some b else some a)
      split
      · rename_i h; exact (Reg.lt_iff_le_ne.mp ((wins_iff b a).mp h)).1
      · exact Reg.le_refl a

theorem join_ge_right (a b : Option Reg) : OLe b (join a b) := by
  cases a with
  | none => exact OLe.refl b
  | some a => cases b with
    | none => trivial
    | some b =>
      show OLe (some b) (if wins b a then some b else some a)
      split
      · exact Reg.le_refl b
      · rename_i h; exact (not_wins_iff b a).mp (Bool.eq_false_iff.mpr h)

theorem join_eq_or (a b : Option Reg) : join a b = a ∨ join a b = b := by
  cases a with
  | none => right; rfl
  | some a => cases b with
    | none => left; rfl
    | some b => simp only [join]; split <;> simp

theorem join_le {a b c : Option Reg} (h1 : OLe a c) (h2 : OLe b c) : OLe (join a b) c := by
  cases join_eq_or a b with
  | inl h => rw [h]; exact h1
  | inr h => rw [h]; exact h2

theorem join_comm' (a b : Option Reg) : join a b = join b a :=
  OLe.antisymm (join_le (join_ge_right b a) (join_ge_left b a))
    (join_le (join_ge_right a b) (join_ge_left a b))

theorem join_assoc' (a b c : Option Reg) : join (join a b) c = join a (join b c) := by
  apply OLe.antisymm
  · apply join_le
    · apply join_le (join_ge_left _ _)
      exact OLe.trans (join_ge_left b c) (join_ge_right a _)
    · exact OLe.trans (join_ge_right b c) (join_ge_right a _)
  · apply join_le
    · exact OLe.trans (join_ge_left a b) (join_ge_left _ c)
    · apply join_le
      · exact OLe.trans (join_ge_right a b) (join_ge_left _ c)
      · exact join_ge_right _ c

theorem join_idem' (a : Option Reg) : join a a = a := by
  cases join_eq_or a a <;> assumption

theorem join_of_le {a b : Option Reg} (h : OLe a b) : join a b = b :=
  OLe.antisymm (join_le h (OLe.refl b)) (join_ge_right a b)

def joinList (init : Option Reg) (l : List Reg) : Option Reg :=
  l.foldl (fun acc r => join acc (some r)) init

theorem joinList_cons (init : Option Reg) (x : Reg) (l : List Reg) :
    joinList init (x :: l) = joinList (join init (some x)) l := rfl

theorem joinList_append (init : Option Reg) (a b : List Reg) :
    joinList init (a ++ b) = joinList (joinList init a) b := by
  unfold joinList; rw [List.foldl_append]

/-- `r` is the greatest element of `init` together with the members of `l` -/
def IsJoinOf (r init : Option Reg) (l : List Reg) : Prop :=
  (r = init ∨ ∃ x ∈ l, r = some x) ∧ OLe init r ∧ ∀ x ∈ l, OLe (some x) r

theorem joinList_isJoin (init : Option Reg) (l : List Reg) : IsJoinOf (joinList init l) init l := by
  induction l generalizing init with
  | nil => exact ⟨Or.inl rfl, OLe.refl _, by simp⟩
  | cons x xs ih =>
    rw [joinList_cons]
    obtain ⟨h1, h2, h3⟩ := ih (join init (some x))
    refine ⟨?_, OLe.trans (join_ge_left _ _) h2, ?_⟩
    · cases h1 with
      | inl h => cases join_eq_or init (some x) with
        | inl h' => left; rw [h, h']
        | inr h' => right; exact ⟨x, by simp, by rw [h, h']⟩
      | inr h => obtain ⟨y, hy, e⟩ := h; right; exact ⟨y, by simp [hy], e⟩
    · intro y hy
      cases List.mem_cons.mp hy with
      | inl e => subst e; exact OLe.trans (join_ge_right _ _) h2
      | inr hy => exact h3 y hy

theorem isJoin_unique {r r' init : Option Reg} {l l' : List Reg}
    (h : IsJoinOf r init l) (h' : IsJoinOf r' init l') (hset : ∀ x, x ∈ l ↔ x ∈ l') : r = r' := by
  obtain ⟨a1, a2, a3⟩ := h
  obtain ⟨b1, b2, b3⟩ := h'
  apply OLe.antisymm
  · cases a1 with
    | inl e => rw [e]; exact b2
    | inr e => obtain ⟨x, hx, e⟩ := e; rw [e]; exact b3 x ((hset x).mp hx)
  · cases b1 with
    | inl e => rw [e]; exact a2
    | inr e => obtain ⟨x, hx, e⟩ := e; rw [e]; exact a3 x ((hset x).mpr hx)

def forMember (m : Nat) (b : List Update) : List Reg :=
  (b.filter (fun u => u.node = m)).map (·.reg)

theorem forMember_append (m : Nat) (a b : List Update) :
    forMember m (a ++ b) = forMember m a ++ forMember m b := by
  simp [forMember]

theorem mem_forMember {m : Nat} {b : List Update} {x : Reg} :
    x ∈ forMember m b ↔ (⟨m, x⟩ : Update) ∈ b := by
  unfold forMember
  simp only [List.mem_map, List.mem_filter, decide_eq_true_eq]
  constructor
  · rintro ⟨u, ⟨hu, hm⟩, e⟩; cases u; simp_all
  · intro h; exact ⟨⟨m, x⟩, ⟨h, rfl⟩, rfl⟩

theorem mergeOne_apply (regs : Nat → Option Reg) (u : Update) (k : Nat) :
    (mergeOne regs u).1 k = if k = u.node then join (regs k) (some u.reg) else regs k := by
  unfold mergeOne mergeOneWith
  by_cases hk : k = u.node
  · subst hk
    cases h : regs u.node with
    | none => simp [setReg, join]
    | some e =>
      simp only [if_true]
      split
      · simp [setReg, join, *]
      · simp [join, *]
  · cases h : regs u.node with
    | none => simp [setReg, hk]
    | some e => simp only [hk, if_false]; split <;> simp [setReg, hk]

theorem mergeRegs_apply (regs : Nat → Option Reg) (b : List Update) (m : Nat) :
    (mergeRegs regs b).1 m = joinList (regs m) (forMember m b) := by
  induction b generalizing regs with
  | nil => rfl
  | cons u us ih =>
    rw [show (mergeRegs regs (u :: us)).1 = (mergeRegs (mergeOne regs u).1 us).1 from rfl, ih, mergeOne_apply]
    unfold forMember
    by_cases hk : m = u.node
    · subst hk; simp [joinList]
    · have : ¬ u.node = m := fun e => hk e.symm
      simp [hk, this]

theorem merge_apply (s : State) (b : List Update) (m : Nat) :
    (merge s b).1.regs m = joinList (s.regs m) (forMember m b) := by
  rw [← mergeRegs_apply]
  unfold merge mergeWith mergeRegs
  cases maxTs b <;> rfl

theorem merge_clock (s : State) (b : List Update) :
    (merge s b).1.clock = match maxTs b with | none => s.clock | some t => max s.clock t + 1 := by
  unfold merge mergeWith
  cases maxTs b <;> rfl

theorem maxTs_ge {b : List Update} {u : Update} (h : u ∈ b) : ∃ t, maxTs b = some t ∧ u.reg.ts ≤ t := by
  induction b with
  | nil => cases h
  | cons v vs ih =>
    unfold maxTs
    cases List.mem_cons.mp h with
    | inl e =>
      subst e
      cases maxTs vs with
      | none => exact ⟨_, rfl, Nat.le_refl _⟩
      | some t => exact ⟨_, rfl, Nat.le_max_left _ _⟩
    | inr hm =>
      obtain ⟨t, ht, hle⟩ := ih hm
      rw [ht]; exact ⟨_, rfl, Nat.le_trans hle (Nat.le_max_right _ _)⟩

theorem merge_clock_ge (s : State) (b : List Update) : s.clock ≤ (merge s b).1.clock := by
  rw [merge_clock]
  cases maxTs b with
  | none => exact Nat.le_refl _
  | some t => exact Nat.le_succ_of_le (Nat.le_max_left _ _)

theorem merge_clock_gt {s : State} {b : List Update} {u : Update} (hu : u ∈ b) :
    u.reg.ts < (merge s b).1.clock := by
  obtain ⟨t, ht, hle⟩ := maxTs_ge hu
  rw [merge_clock, ht]
  exact Nat.lt_succ_of_le (Nat.le_trans hle (Nat.le_max_right _ _))

theorem merge_reg_origin {s : State} {b : List Update} {m : Nat} {e : Reg}
    (he : (merge s b).1.regs m = some e) : s.regs m = some e ∨ (⟨m, e⟩ : Update) ∈ b := by
  rw [merge_apply] at he
  obtain ⟨h1, _, _⟩ := joinList_isJoin (s.regs m) (forMember m b)
  rw [he] at h1
  rcases h1 with h1 | ⟨x, hx, e'⟩
  · exact .inl h1.symm
  · cases e'; exact .inr (mem_forMember.mp hx)

theorem deliver_regs (s : State) (bs : List (List Update)) (m : Nat) :
    (deliver s bs).regs m = joinList (s.regs m) (forMember m bs.flatten) := by
  induction bs generalizing s with
  | nil => rfl
  | cons b bs ih =>
    have : deliver s (b :: bs) = deliver (merge s b).1 bs := rfl
    rw [this, ih, merge_apply, List.flatten_cons, forMember_append, joinList_append]

def WF (s : State) : Prop := ∀ m e, s.regs m = some e → e.ts ≤ s.clock

theorem wf_empty : WF State.empty := by intro m e h; cases h

theorem wf_set {s : State} (h : WF s) (m : Nat) (r : Reg) (c : Nat) (hr : r.ts ≤ c) (hc : s.clock ≤ c) :
    WF ⟨setReg s.regs m r, c⟩ := by
  intro k e hk
  simp only [setReg] at hk
  by_cases hkm : k = m
  · simp only [hkm, if_true, Option.some.injEq] at hk; subst hk; exact hr
  · simp only [hkm, if_false] at hk; exact Nat.le_trans (h k e hk) hc

theorem join_fresh {s : State} (h : WF s) {m : Nat} {e r : Reg} (he : s.regs m = some e)
    (hts : r.ts = s.clock + 1) (hinc : e.inc ≤ r.inc) : join (some e) (some r) = some r := by
  apply join_of_le
  have := h m e he
  simp only [OLe]; unfold Reg.le; omega

/-! ### the four conditional local events share one shape -/

def localOp (c : Reg → Prop) [DecidablePred c] (f : Reg → Nat → Reg) (s : State) (m : Nat) : State × Bool :=
  match s.regs m with
  | some e => if c e then (⟨setReg s.regs m (f e (s.clock + 1)), s.clock + 1⟩, true) else (s, false)
  | none => (s, false)

theorem suspect_spec (s : State) (m i : Nat) :
    suspect s m i = localOp (fun e => e.inc = i ∧ e.health ≠ .failed)
      (fun e t => { e with health := .degraded, ts := t }) s m := rfl
theorem fail_spec (s : State) (m : Nat) :
    fail s m = localOp (fun e => e.health ≠ .failed) (fun e t => { e with health := .failed, ts := t }) s m := rfl
theorem refute_spec (s : State) (m i : Nat) :
    refute s m i = localOp (fun e => i > e.inc) (fun _ t => ⟨.healthy, t, i⟩) s m := rfl
theorem markHealthy_spec (s : State) (m : Nat) :
    markHealthy s m = localOp (fun e => e.health ≠ .healthy)
      (fun e t => { e with health := .healthy, ts := t }) s m := rfl

def FreshOk (c : Reg → Prop) (f : Reg → Nat → Reg) : Prop :=
  ∀ e t, c e → (f e t).ts = t ∧ e.inc ≤ (f e t).inc

theorem localOp_cases (c : Reg → Prop) [DecidablePred c] (f : Reg → Nat → Reg) (s : State) (m : Nat) :
    (localOp c f s m = (s, false)) ∨
    (∃ e, s.regs m = some e ∧ c e ∧
      localOp c f s m = (⟨setReg s.regs m (f e (s.clock + 1)), s.clock + 1⟩, true)) := by
  unfold localOp
  cases h : s.regs m with
  | none => left; rfl
  | some e =>
    by_cases hc : c e
    · right; exact ⟨e, rfl, hc, by simp [hc]⟩
    · left; simp [hc]

theorem setReg_same (regs : Nat → Option Reg) (m : Nat) (r : Reg) : setReg regs m r m = some r := by
  simp [setReg]
theorem setReg_other (regs : Nat → Option Reg) {m k : Nat} (r : Reg) (h : k ≠ m) : setReg regs m r k = regs k := by
  simp [setReg, h]

theorem localOp_clock (c : Reg → Prop) [DecidablePred c] (f : Reg → Nat → Reg) (s : State) (m : Nat) :
    s.clock ≤ (localOp c f s m).1.clock := by
  rcases localOp_cases c f s m with h | ⟨e, _, _, h⟩ <;> rw [h] <;> simp

theorem localOp_wf {c : Reg → Prop} [DecidablePred c] {f : Reg → Nat → Reg} (hf : FreshOk c f)
    {s : State} (h : WF s) (m : Nat) : WF (localOp c f s m).1 := by
  rcases localOp_cases c f s m with h' | ⟨e, _, hc, h'⟩ <;> rw [h']
  · exact h
  · exact wf_set h m _ _ (by rw [(hf e _ hc).1]; exact Nat.le_refl _) (Nat.le_succ _)

/-- seen from member `m`: the event left its register alone, or it acted on `m` -/
theorem localOp_regs (c : Reg → Prop) [DecidablePred c] (f : Reg → Nat → Reg) (s : State) (k m : Nat) :
    (localOp c f s k).1.regs m = s.regs m ∨
      (k = m ∧ ∃ e, s.regs m = some e ∧ c e ∧ (localOp c f s k).1.regs m = some (f e (s.clock + 1))) := by
  rcases localOp_cases c f s k with h' | ⟨e, he, hc, h'⟩ <;> rw [h']
  · exact .inl rfl
  · by_cases hm : m = k
    · subst hm; exact .inr ⟨rfl, e, he, hc, setReg_same _ _ _⟩
    · exact .inl (setReg_other _ _ hm)

theorem localOp_inc {c : Reg → Prop} [DecidablePred c] {f : Reg → Nat → Reg} (hf : FreshOk c f)
    (s : State) (m' m : Nat) (e : Reg) (h : s.regs m = some e) :
    ∃ e', (localOp c f s m').1.regs m = some e' ∧ e.inc ≤ e'.inc := by
  rcases localOp_regs c f s m' m with h' | ⟨_, e0, he0, hc, h'⟩
  · exact ⟨e, h'.trans h, Nat.le_refl _⟩
  · rw [h] at he0; cases he0; exact ⟨_, h', (hf e _ hc).2⟩

/-- writing a register that dominates the old one is merging the one-entry batch that carries it -/
theorem setReg_eq_join {regs : Nat → Option Reg} {m' : Nat} {r : Reg}
    (h : join (regs m') (some r) = some r) (m : Nat) :
    setReg regs m' r m = joinList (regs m) (forMember m [⟨m', r⟩]) := by
  by_cases hm : m = m'
  · subst hm; rw [setReg_same]; simp [forMember, joinList, h]
  · have : ¬ m' = m := fun e => hm e.symm
    simp [setReg_other _ _ hm, forMember, this, joinList]

theorem localOp_join {c : Reg → Prop} [DecidablePred c] {f : Reg → Nat → Reg} (hf : FreshOk c f)
    {s : State} (hwf : WF s) (m' m : Nat) :
    (localOp c f s m').1.regs m = joinList (s.regs m) (forMember m (emittedLocal (localOp c f s m') m')) := by
  rcases localOp_cases c f s m' with h' | ⟨e0, he0, hc, h'⟩ <;> rw [h']
  · simp [emittedLocal, forMember, joinList]
  · simp only [emittedLocal, if_true, setReg_same]
    exact setReg_eq_join (by rw [he0]; exact join_fresh hwf he0 (hf e0 _ hc).1 (hf e0 _ hc).2) m

theorem freshOk_suspect (i : Nat) : FreshOk (fun e => e.inc = i ∧ e.health ≠ .failed)
    (fun e t => { e with health := .degraded, ts := t }) := by intro e t _; simp
theorem freshOk_fail : FreshOk (fun e => e.health ≠ .failed)
    (fun e t => { e with health := .failed, ts := t }) := by intro e t _; simp
theorem freshOk_refute (i : Nat) : FreshOk (fun e => i > e.inc) (fun _ t => ⟨.healthy, t, i⟩) := by
  intro e t h; simp; omega
theorem freshOk_markHealthy : FreshOk (fun e => e.health ≠ .healthy)
    (fun e t => { e with health := .healthy, ts := t }) := by intro e t _; simp

/-- the four guarded local events: the member they act on and the health they record -/
def localTarget : Op → Option (Nat × Health)
  | .suspect m _ => some (m, .degraded)
  | .fail m => some (m, .failed)
  | .refute m _ => some (m, .healthy)
  | .markHealthy m => some (m, .healthy)
  | _ => none

theorem guarded_spec {o : Op} {m : Nat} {h : Health} (ht : localTarget o = some (m, h)) :
    ∃ (c : Reg → Prop) (_ : DecidablePred c) (f : Reg → Nat → Reg), FreshOk c f ∧ (∀ e t, (f e t).health = h) ∧
      ∀ s, apply s o = (localOp c f s m).1 ∧ emitted s o = emittedLocal (localOp c f s m) m := by
  cases o with
  | suspect m' i => cases ht; exact ⟨_, inferInstance, _, freshOk_suspect i, fun _ _ => rfl, fun _ => ⟨rfl, rfl⟩⟩
  | fail m' => cases ht; exact ⟨_, inferInstance, _, freshOk_fail, fun _ _ => rfl, fun _ => ⟨rfl, rfl⟩⟩
  | refute m' i => cases ht; exact ⟨_, inferInstance, _, freshOk_refute i, fun _ _ => rfl, fun _ => ⟨rfl, rfl⟩⟩
  | markHealthy m' => cases ht; exact ⟨_, inferInstance, _, freshOk_markHealthy, fun _ _ => rfl, fun _ => ⟨rfl, rfl⟩⟩
  | _ => cases ht

/-- `update_local` is the only mutator that takes its incarnation from the caller without a
    guard: it is monotone exactly when the caller does not pass a lower one. -/
def OpOk (s : State) : Op → Prop
  | .updateLocal m _ inc => ∀ e, s.regs m = some e → e.inc ≤ inc
  | _ => True

theorem opOk_of_localTarget {s : State} {o : Op} {p : Nat × Health} (ht : localTarget o = some p) :
    OpOk s o := by
  cases o with
  | updateLocal _ _ _ => cases ht
  | _ => trivial

def Admissible (s : State) : List Op → Prop
  | [] => True
  | o :: os => OpOk s o ∧ Admissible (apply s o) os

theorem merge_wf {s : State} (h : WF s) (b : List Update) : WF (merge s b).1 := fun m e he =>
  (merge_reg_origin he).elim (fun h1 => Nat.le_trans (h m e h1) (merge_clock_ge s b))
    (fun hx => Nat.le_of_lt (merge_clock_gt hx))

theorem apply_wf {s : State} (h : WF s) (o : Op) : WF (apply s o) := by
  cases o with
  | merge b => exact merge_wf h b
  | updateLocal m hh i => exact wf_set h m _ _ (Nat.le_refl _) (Nat.le_succ _)
  | suspect m i => exact localOp_wf (freshOk_suspect i) h m
  | fail m => exact localOp_wf freshOk_fail h m
  | refute m i => exact localOp_wf (freshOk_refute i) h m
  | markHealthy m => exact localOp_wf freshOk_markHealthy h m
  | tick => exact fun m e he => Nat.le_trans (h m e he) (Nat.le_succ _)
  | syncTime t => exact fun m e he => Nat.le_trans (h m e he) (by simp only [apply, syncTime]; omega)

theorem run_wf {s : State} (h : WF s) (ops : List Op) : WF (run s ops) :=
  foldl_invariant (P := WF) (fun _ o _ h => apply_wf h o) h

theorem apply_join {s : State} (hwf : WF s) (o : Op) (hok : OpOk s o) (m : Nat) :
    (apply s o).regs m = joinList (s.regs m) (forMember m (emitted s o)) := by
  cases o with
  | merge b => exact merge_apply s b m
  | updateLocal m' hh i =>
    refine setReg_eq_join ?_ m
    cases he : s.regs m' with
    | none => rfl
    | some e => exact join_fresh hwf he rfl (hok e he)
  | suspect m' i => exact localOp_join (freshOk_suspect i) hwf m' m
  | fail m' => exact localOp_join freshOk_fail hwf m' m
  | refute m' i => exact localOp_join (freshOk_refute i) hwf m' m
  | markHealthy m' => exact localOp_join freshOk_markHealthy hwf m' m
  | tick => rfl
  | syncTime t => rfl

theorem run_join {s : State} (hwf : WF s) (ops : List Op) (hadm : Admissible s ops) (m : Nat) :
    (run s ops).regs m = joinList (s.regs m) (forMember m (seen s ops)) := by
  induction ops generalizing s with
  | nil => rfl
  | cons o os ih =>
    have : run s (o :: os) = run (apply s o) os := rfl
    rw [this, ih (apply_wf hwf o) hadm.2, apply_join hwf o hadm.1]
    simp only [seen, forMember_append, joinList_append]

theorem apply_clock_mono (s : State) (o : Op) : s.clock ≤ (apply s o).clock := by
  cases o with
  | merge b => exact merge_clock_ge s b
  | updateLocal m h i => exact Nat.le_succ _
  | suspect m i => simp only [apply]; rw [suspect_spec]; exact localOp_clock _ _ s m
  | fail m => simp only [apply]; rw [fail_spec]; exact localOp_clock _ _ s m
  | refute m i => simp only [apply]; rw [refute_spec]; exact localOp_clock _ _ s m
  | markHealthy m => simp only [apply]; rw [markHealthy_spec]; exact localOp_clock _ _ s m
  | tick => exact Nat.le_succ _
  | syncTime t => exact Nat.le_succ_of_le (Nat.le_max_left _ _)

theorem run_clock_mono (s : State) (ops : List Op) : s.clock ≤ (run s ops).clock :=
  foldl_invariant (P := fun x => s.clock ≤ x.clock)
    (fun x o _ h => Nat.le_trans h (apply_clock_mono x o)) (Nat.le_refl _)

theorem merge_key_mono (s : State) (b : List Update) (m : Nat) :
    OLe (s.regs m) ((merge s b).1.regs m) := by
  rw [merge_apply]; exact (joinList_isJoin _ _).2.1

theorem apply_key_mono {s : State} (hwf : WF s) (o : Op) (hok : OpOk s o) (m : Nat) :
    OLe (s.regs m) ((apply s o).regs m) := by
  rw [apply_join hwf o hok]; exact (joinList_isJoin _ _).2.1

theorem apply_inc_mono (s : State) (o : Op) (hok : OpOk s o) (m : Nat) (e : Reg) (h : s.regs m = some e) :
    ∃ e', (apply s o).regs m = some e' ∧ e.inc ≤ e'.inc := by
  cases o with
  | merge b =>
    obtain ⟨e', hr, hle⟩ := OLe.of_some (h ▸ merge_key_mono s b m)
    exact ⟨e', hr, Reg.le_inc hle⟩
  | updateLocal m' hh i =>
    simp only [apply, updateLocal]
    by_cases hm : m = m'
    · subst hm; exact ⟨_, setReg_same _ _ _, hok e h⟩
    · exact ⟨e, by rw [setReg_other _ _ hm]; exact h, Nat.le_refl _⟩
  | suspect m' i => exact localOp_inc (freshOk_suspect i) s m' m e h
  | fail m' => exact localOp_inc freshOk_fail s m' m e h
  | refute m' i => exact localOp_inc (freshOk_refute i) s m' m e h
  | markHealthy m' => exact localOp_inc freshOk_markHealthy s m' m e h
  | tick => exact ⟨e, h, Nat.le_refl _⟩
  | syncTime t => exact ⟨e, h, Nat.le_refl _⟩

theorem run_inc_mono (s : State) (ops : List Op) (hadm : Admissible s ops) (m : Nat) (e : Reg)
    (h : s.regs m = some e) : ∃ e', (run s ops).regs m = some e' ∧ e.inc ≤ e'.inc := by
  induction ops generalizing s e with
  | nil => exact ⟨e, h, Nat.le_refl _⟩
  | cons o os ih =>
    obtain ⟨e1, h1, le1⟩ := apply_inc_mono s o hadm.1 m e h
    obtain ⟨e2, h2, le2⟩ := ih (apply s o) hadm.2 e1 h1
    exact ⟨e2, h2, Nat.le_trans le1 le2⟩

def IncBound (A : Nat → Nat) (s : State) : Prop := ∀ m e, s.regs m = some e → e.inc ≤ A m

theorem incBound_mono {A A' : Nat → Nat} {s : State} (h : IncBound A s) (hA : ∀ m, A m ≤ A' m) :
    IncBound A' s := fun m e he => Nat.le_trans (h m e he) (hA m)

theorem merge_incBound {A : Nat → Nat} {s : State} (h : IncBound A s) {b : List Update}
    (hb : ∀ u ∈ b, u.reg.inc ≤ A u.node) : IncBound A (merge s b).1 := fun m e he =>
  (merge_reg_origin he).elim (h m e) (hb _)

theorem merge_single_incBound {A : Nat → Nat} {s : State} (h : IncBound A s) {u : Update}
    (hu : u.reg.inc ≤ A u.node) : IncBound A (merge s [u]).1 :=
  merge_incBound h fun v hv => by rw [List.mem_singleton.mp hv]; exact hu

theorem localOp_incBound {A : Nat → Nat} {c : Reg → Prop} [DecidablePred c] {f : Reg → Nat → Reg}
    {s : State} (h : IncBound A s) (m' : Nat) (hf : ∀ e t, s.regs m' = some e → c e → (f e t).inc ≤ A m') :
    IncBound A (localOp c f s m').1 := by
  intro m e he
  rcases localOp_regs c f s m' m with h' | ⟨rfl, e0, he0, hc, h'⟩ <;> rw [h'] at he
  · exact h m e he
  · cases he; exact hf e0 _ he0 hc

theorem suspect_incBound {A : Nat → Nat} {s : State} (h : IncBound A s) (m i : Nat) :
    IncBound A (suspect s m i).1 := by
  rw [suspect_spec]; exact localOp_incBound h m (fun e _ he _ => h m e he)
theorem fail_incBound {A : Nat → Nat} {s : State} (h : IncBound A s) (m : Nat) :
    IncBound A (fail s m).1 := by
  rw [fail_spec]; exact localOp_incBound h m (fun e _ he _ => h m e he)
theorem markHealthy_incBound {A : Nat → Nat} {s : State} (h : IncBound A s) (m : Nat) :
    IncBound A (markHealthy s m).1 := by
  rw [markHealthy_spec]; exact localOp_incBound h m (fun e _ he _ => h m e he)
theorem refute_incBound {A : Nat → Nat} {s : State} (h : IncBound A s) (m i : Nat) (hi : i ≤ A m) :
    IncBound A (refute s m i).1 := by
  rw [refute_spec]; exact localOp_incBound h m (fun _ _ _ _ => hi)

theorem updateLocal_empty_incBound (A : Nat → Nat) (r : Nat) (hh : Health) :
    IncBound A (updateLocal State.empty r hh 0).1 := by
  intro m e he
  simp only [updateLocal, State.empty, setReg] at he
  by_cases hm : m = r
  · simp only [hm, if_true, Option.some.injEq] at he; subst he; exact Nat.zero_le _
  · simp [hm] at he

theorem mem_snapshot {s : State} {ms : List Nat} {u : Update} :
    u ∈ snapshot s ms ↔ u.node ∈ ms ∧ s.regs u.node = some u.reg := by
  induction ms with
  | nil => simp [snapshot]
  | cons k ks ih =>
    unfold snapshot
    cases hk : s.regs k with
    | none =>
      simp only [ih, List.mem_cons]
      refine ⟨fun h => ⟨.inr h.1, h.2⟩, fun ⟨h1, h2⟩ => ⟨h1.resolve_left fun e => ?_, h2⟩⟩
      rw [e, hk] at h2; cases h2
    | some e =>
      simp only [List.mem_cons, ih]
      constructor
      · rintro (rfl | h)
        · exact ⟨.inl rfl, hk⟩
        · exact ⟨.inr h.1, h.2⟩
      · rintro ⟨h1 | h1, h2⟩
        · cases u; cases h1; rw [hk] at h2; cases h2; exact .inl rfl
        · exact .inr ⟨h1, h2⟩

/-- system invariant: every incarnation recorded anywhere, in flight or announced by `Alive`,
    for member `m` is at most the counter `m` itself has reached -/
def SysInv (y : Sys) : Prop :=
  (∀ r, IncBound y.announced (y.nodes r)) ∧
  (∀ u ∈ y.net, u.reg.inc ≤ y.announced u.node) ∧
  (∀ p ∈ y.alive, p.2 ≤ y.announced p.1)

theorem incBound_setNode {A : Nat → Nat} {nodes : Nat → State} (h : ∀ r, IncBound A (nodes r))
    {r : Nat} {s' : State} (hs : IncBound A s') : ∀ k, IncBound A (setNode nodes r s' k) :=
  forall_update (P := fun _ => IncBound A) h hs

theorem sysInv_step (y : Sys) (st : Step) (h : SysInv y) : SysInv (y.step st) := by
  have ⟨hn, hnet, hal⟩ := h
  cases st with
  | announce m =>
    -- only `m`'s counter moves, and it moves up; the new `Alive` carries exactly the new counter
    have hA : ∀ k, y.announced k ≤ if k = m then y.announced m + 1 else y.announced k := fun k => by
      by_cases hk : k = m
      · rw [if_pos hk, hk]; exact Nat.le_succ _
      · rw [if_neg hk]; exact Nat.le_refl _
    refine ⟨fun r => incBound_mono (hn r) hA, fun u hu => Nat.le_trans (hnet u hu) (hA _), ?_⟩
    intro p hp
    rcases List.mem_cons.mp hp with rfl | hp
    · exact Nat.le_of_eq (if_pos rfl).symm
    · exact Nat.le_trans (hal p hp) (hA _)
  | deliverAlive r m inc =>
    show SysInv (if (m, inc) ∈ y.alive then _ else y)
    split
    · rename_i hmem
      exact ⟨incBound_setNode hn (refute_incBound (hn r) m inc (hal (m, inc) hmem)), hnet, hal⟩
    · exact h
  | gossip r ms =>
    refine ⟨hn, fun u hu => ?_, hal⟩
    rcases List.mem_append.mp hu with hu | hu
    · exact hn r u.node u.reg (mem_snapshot.mp hu).2
    · exact hnet u hu
  | deliver r batch =>
    show SysInv (if batch.all (· ∈ y.net) then _ else y)
    split
    · rename_i hall
      refine ⟨incBound_setNode hn (merge_incBound (hn r) fun u hu => hnet u ?_), hnet, hal⟩
      simpa using List.all_eq_true.mp hall u hu
    · exact h
  | markSender r sender =>
    refine ⟨incBound_setNode hn (merge_single_incBound (hn r) ?_), hnet, hal⟩
    show (match (y.nodes r).regs sender with | some e => e.inc | none => 0) ≤ y.announced sender
    split
    · rename_i e he; exact hn r sender e he
    · exact Nat.zero_le _
  | addPeer r p =>
    show SysInv (match (y.nodes r).regs p with | some _ => y | none => _)
    split
    · exact h
    · exact ⟨incBound_setNode hn (merge_single_incBound
        (s := { (y.nodes r) with clock := (y.nodes r).clock + 1 }) (hn r) (Nat.zero_le _)), hnet, hal⟩
  | suspect r m inc => exact ⟨incBound_setNode hn (suspect_incBound (hn r) m inc), hnet, hal⟩
  | fail r m => exact ⟨incBound_setNode hn (fail_incBound (hn r) m), hnet, hal⟩
  | markHealthy r m => exact ⟨incBound_setNode hn (markHealthy_incBound (hn r) m), hnet, hal⟩

theorem sysInv_init : SysInv Sys.init := by
  refine ⟨fun r => updateLocal_empty_incBound _ r .healthy, ?_, ?_⟩
  · intro u h; cases h
  · intro p h; cases h

theorem sysInv_run (sts : List Step) (y : Sys) (h : SysInv y) : SysInv (y.run sts) :=
  foldl_invariant (P := SysInv) (fun y st _ h => sysInv_step y st h) h

theorem join_none_right (a : Option Reg) : join a none = a := by cases a <;> rfl

theorem joinList_of_exact (a b : Option Reg) (l : List Reg) (h : ∀ x, x ∈ l ↔ b = some x) :
    joinList a l = join a b := by
  cases b with
  | none =>
    have : l = [] := List.eq_nil_iff_forall_not_mem.mpr fun x hx => nomatch (h x).mp hx
    rw [this, join_none_right]; rfl
  | some r =>
    exact isJoin_unique (joinList_isJoin a l) (joinList_isJoin a [r])
      (fun x => by rw [h, List.mem_singleton, Option.some.injEq, eq_comm])

theorem merge_snapshot (s t : State) (ms : List Nat) (m : Nat) (hm : m ∈ ms) :
    (merge s (snapshot t ms)).1.regs m = join (s.regs m) (t.regs m) := by
  rw [merge_apply]
  exact joinList_of_exact _ _ _ fun x => by
    rw [mem_forMember, mem_snapshot]; exact ⟨fun h => h.2, fun h => ⟨hm, h⟩⟩

theorem passesDelta_of_le (s : State) (maxDelta : Nat) (u : Update) (h : u.reg.inc ≤ maxDelta) :
    passesDelta s maxDelta u = true := by
  unfold passesDelta
  rw [decide_eq_true_eq]
  split
  · exact h
  · exact Nat.le_trans (Nat.sub_le _ _) h

theorem handleSync_maxDelta (g : Mgr) (sender : Nat) (b : List Update) (t : Nat) :
    (g.handleSync sender b t).maxDelta = g.maxDelta := rfl

/-- `handle_sync` on a member other than the sender is the plain CRDT merge of the states that
    pass the incarnation-jump filter (the sender stamp touches the sender's entry only) -/
theorem handleSync_regs_filtered (g : Mgr) (sender : Nat) (b : List Update) (t : Nat) {m : Nat}
    (hm : m ≠ sender) : (g.handleSync sender b t).st.regs m =
      joinList (g.st.regs m) (forMember m (b.filter (passesDelta (syncTime g.st t) g.maxDelta))) := by
  unfold Mgr.handleSync
  simp only []
  rw [merge_apply, merge_apply]
  have : ¬ sender = m := fun e => hm e.symm
  simp [forMember, this, joinList, syncTime]

theorem handleSync_regs (g : Mgr) (sender : Nat) (b : List Update) (t : Nat) (m : Nat) (hm : m ≠ sender)
    (hpass : ∀ u ∈ b, u.reg.inc ≤ g.maxDelta) :
    (g.handleSync sender b t).st.regs m = joinList (g.st.regs m) (forMember m b) := by
  rw [handleSync_regs_filtered g sender b t hm,
    List.filter_eq_self.mpr fun u hu => passesDelta_of_le _ _ u (hpass u hu)]

/-- a list of messages consisting of Sync messages only, none of them sent by `m` -/
def SyncsNotFrom (m : Nat) : List Msg → Prop
  | [] => True
  | .sync s _ _ :: ms => s ≠ m ∧ SyncsNotFrom m ms
  | _ :: _ => False

theorem run_maxDelta_syncs (g : Mgr) (msgs : List Msg) (m : Nat) (h : SyncsNotFrom m msgs) :
    (g.run msgs).maxDelta = g.maxDelta := by
  induction msgs generalizing g with
  | nil => rfl
  | cons x xs ih =>
    cases x with
    | sync s b t => exact ih (g.handleSync s b t) h.2
    | _ => exact False.elim h

theorem runSyncs_regs (g : Mgr) (msgs : List Msg) (m : Nat) (h : SyncsNotFrom m msgs)
    (hpass : ∀ u ∈ syncPayload msgs, u.reg.inc ≤ g.maxDelta) :
    (g.run msgs).st.regs m = joinList (g.st.regs m) (forMember m (syncPayload msgs)) := by
  induction msgs generalizing g with
  | nil => rfl
  | cons x xs ih =>
    cases x with
    | sync s b t =>
      have ⟨hb, hxs⟩ := List.forall_mem_append.mp hpass
      rw [show g.run (.sync s b t :: xs) = (g.handleSync s b t).run xs from rfl,
        ih (g.handleSync s b t) h.2 hxs, handleSync_regs g s b t m (fun e => h.1 e.symm) hb]
      simp only [syncPayload, forMember_append, joinList_append]
    | _ => exact False.elim h

theorem joinList_absorb (r : Option Reg) (l : List Reg) (h : ∀ x ∈ l, OLe (some x) r) :
    joinList r l = r := by
  induction l with
  | nil => rfl
  | cons x xs ih =>
    rw [joinList_cons, join_comm', join_of_le (h x (by simp))]
    exact ih (fun y hy => h y (by simp [hy]))

theorem run_append (s : State) (a b : List Op) : run s (a ++ b) = run (run s a) b := by
  unfold run; rw [List.foldl_append]

theorem seen_append (s : State) (a b : List Op) : seen s (a ++ b) = seen s a ++ seen (run s a) b := by
  induction a generalizing s with
  | nil => rfl
  | cons o os ih =>
    have hr : run s (o :: os) = run (apply s o) os := rfl
    simp only [List.cons_append, seen, ih, List.append_assoc, hr]

theorem admissible_append {s : State} {a b : List Op} (ha : Admissible s a)
    (hb : Admissible (run s a) b) : Admissible s (a ++ b) := by
  induction a generalizing s with
  | nil => exact hb
  | cons o os ih => exact ⟨ha.1, ih ha.2 hb⟩

theorem localOp_emitted {c : Reg → Prop} [DecidablePred c] {f : Reg → Nat → Reg} (s : State) (m : Nat)
    (h : emittedLocal (localOp c f s m) m ≠ []) :
    ∃ e, s.regs m = some e ∧ c e ∧ (localOp c f s m).1.regs m = some (f e (s.clock + 1)) ∧
      emittedLocal (localOp c f s m) m = [⟨m, f e (s.clock + 1)⟩] := by
  rcases localOp_cases c f s m with h' | ⟨e, he, hc, h'⟩
  · rw [h'] at h; simp [emittedLocal] at h
  · refine ⟨e, he, hc, ?_, ?_⟩ <;> rw [h'] <;> simp [emittedLocal, setReg_same]

def Mgr.expireOps (g : Mgr) : List Nat → List Op
  | [] => []
  | m :: ms =>
    if g.suspicions.contains m then
      .fail m :: Mgr.expireOps { g with suspicions := g.suspicions.filter (· ≠ m), st := (fail g.st m).1 } ms
    else Mgr.expireOps g ms

/-- the operations of `LWWMembershipState` an event performs, in order -/
def Mgr.evOps (g : Mgr) : MEv → List Op
  | .msg (.sync s b t) =>
    let s1 := syncTime g.st t
    let filtered := b.filter (passesDelta s1 g.maxDelta)
    let s2 := (merge s1 filtered).1
    let senderInc := match s2.regs s with | some e => e.inc | none => 0
    [.syncTime t, .merge filtered, .merge [⟨s, ⟨.healthy, s2.clock + 1, senderInc⟩⟩]]
  | .msg (.suspect m i) =>
    if m = g.local_ then [] else if g.suspicions.contains m then [] else [.suspect m i]
  | .msg (.alive m i) =>
    let cur := match g.st.regs m with | some e => e.inc | none => 0
    if i - cur > g.maxDelta then [] else [.refute m i]
  | .msg (.addPeer p) =>
    match g.st.regs p with
    | some _ => []
    | none => [.tick, .merge [⟨p, ⟨.unknown, g.st.clock + 1, 0⟩⟩]]
  | .msg (.pingAck t ok) =>
    if ok then (match g.st.regs t with | some _ => [.markHealthy t] | none => []) else []
  | .round _ _ ex => g.expireOps ex
  | .suspectNode m => if g.suspicions.contains m then [] else [.suspect m (g.suspectInc m)]

/-- no `update_local` in it (the only operation with a precondition) -/
def NoUpdateLocal : List Op → Prop
  | [] => True
  | .updateLocal _ _ _ :: _ => False
  | _ :: os => NoUpdateLocal os

theorem admissible_of_noUpdateLocal {s : State} {ops : List Op} (h : NoUpdateLocal ops) : Admissible s ops := by
  induction ops generalizing s with
  | nil => trivial
  | cons o os ih =>
    cases o with
    | updateLocal _ _ _ => exact False.elim h
    | _ => exact ⟨trivial, ih h⟩

theorem noUpdateLocal_append {a b : List Op} (ha : NoUpdateLocal a) (hb : NoUpdateLocal b) :
    NoUpdateLocal (a ++ b) := by
  induction a with
  | nil => exact hb
  | cons o os ih =>
    cases o with
    | updateLocal _ _ _ => exact False.elim ha
    | _ => exact ih ha

theorem expireOps_noUL (g : Mgr) (ms : List Nat) : NoUpdateLocal (g.expireOps ms) := by
  induction ms generalizing g with
  | nil => trivial
  | cons m ms ih =>
    unfold Mgr.expireOps
    split
    · exact ih _
    · exact ih g

theorem ite_nil_or {α : Type} {c : Prop} [Decidable c] {l l' : List α} (h : l = [] ∨ l = l') :
    (if c then [] else l) = [] ∨ (if c then [] else l) = l' := by
  split
  · exact .inl rfl
  · exact h

theorem forall_mem_of_nil_or {α : Type} {P : α → Prop} {l : List α} {x : α} (h : l = [] ∨ l = [x])
    (hx : P x) : ∀ o ∈ l, P o := by
  rcases h with h | h <;> rw [h]
  · exact fun _ ho => nomatch ho
  · exact fun o ho => List.mem_singleton.mp ho ▸ hx

theorem evOps_suspect (g : Mgr) (m i : Nat) :
    g.evOps (.msg (.suspect m i)) = [] ∨ g.evOps (.msg (.suspect m i)) = [.suspect m i] :=
  ite_nil_or (ite_nil_or (.inr rfl))

theorem evOps_alive (g : Mgr) (m i : Nat) :
    g.evOps (.msg (.alive m i)) = [] ∨ g.evOps (.msg (.alive m i)) = [.refute m i] :=
  ite_nil_or (.inr rfl)

theorem evOps_suspectNode (g : Mgr) (m : Nat) :
    g.evOps (.suspectNode m) = [] ∨ g.evOps (.suspectNode m) = [.suspect m (g.suspectInc m)] :=
  ite_nil_or (.inr rfl)

theorem evOps_pingAck (g : Mgr) (t : Nat) (ok : Bool) :
    g.evOps (.msg (.pingAck t ok)) = [] ∨ g.evOps (.msg (.pingAck t ok)) = [.markHealthy t] := by
  simp only [Mgr.evOps]
  cases ok with
  | false => exact .inl rfl
  | true =>
    cases g.st.regs t with
    | none => exact .inl rfl
    | some _ => exact .inr rfl

theorem evOps_addPeer_known {g : Mgr} {p : Nat} {e : Reg} (h : g.st.regs p = some e) :
    g.evOps (.msg (.addPeer p)) = [] := by
  simp only [Mgr.evOps, h]

theorem evOps_addPeer_absent {g : Mgr} {p : Nat} (h : g.st.regs p = none) :
    g.evOps (.msg (.addPeer p)) = [.tick, .merge [⟨p, ⟨.unknown, g.st.clock + 1, 0⟩⟩]] := by
  simp only [Mgr.evOps, h]

theorem evOps_noUL (g : Mgr) (e : MEv) : NoUpdateLocal (g.evOps e) := by
  cases e with
  | msg x =>
    cases x with
    | sync s b t => trivial
    | suspect m i => rcases evOps_suspect g m i with h | h <;> rw [h] <;> trivial
    | alive m i => rcases evOps_alive g m i with h | h <;> rw [h] <;> trivial
    | addPeer p =>
      cases h : g.st.regs p with
      | some _ => rw [evOps_addPeer_known h]; trivial
      | none => rw [evOps_addPeer_absent h]; trivial
    | pingAck t ok => rcases evOps_pingAck g t ok with h | h <;> rw [h] <;> trivial
  | round o k ex => exact expireOps_noUL g ex
  | suspectNode m => rcases evOps_suspectNode g m with h | h <;> rw [h] <;> trivial

theorem evOps_admissible (g : Mgr) (e : MEv) : Admissible g.st (g.evOps e) :=
  admissible_of_noUpdateLocal (evOps_noUL g e)

theorem expire_eq_run (g : Mgr) (ms : List Nat) : (g.expire ms).st = run g.st (g.expireOps ms) := by
  induction ms generalizing g with
  | nil => rfl
  | cons m ms ih =>
    unfold Mgr.expire Mgr.expireOps
    split
    · rw [ih]; rfl
    · exact ih g

theorem refute_refused {s : State} {m i : Nat} (h : (refute s m i).2 = false) : (refute s m i).1 = s := by
  rw [refute_spec] at h ⊢
  rcases localOp_cases (fun e => i > e.inc) (fun _ t => ⟨.healthy, t, i⟩) s m with h' | ⟨e, _, _, h'⟩
  · rw [h']
  · rw [h'] at h; cases h

theorem stepEv_eq_run (g : Mgr) (e : MEv) : (g.stepEv e).st = run g.st (g.evOps e) := by
  cases e with
  | msg x =>
    cases x with
    | sync s b t => rfl
    | suspect m i =>
      simp only [Mgr.stepEv, Mgr.handle, Mgr.handleSuspect, Mgr.evOps]
      repeat' split
      all_goals rfl
    | alive m i =>
      -- `cur`: the incarnation held for `m`; a refused `refute` leaves the state as it is
      have key : ∀ cur : Nat,
          (if i - cur > g.maxDelta then { g with rejected := g.rejected + 1 }
            else if (refute g.st m i).2 = true then
              { g with st := (refute g.st m i).1, suspicions := g.suspicions.filter (· ≠ m) } else g).st
          = run g.st (if i - cur > g.maxDelta then [] else [Op.refute m i]) := by
        intro cur
        by_cases hd : i - cur > g.maxDelta
        · simp only [hd, if_true]; rfl
        · simp only [hd, if_false]
          cases hr : (refute g.st m i).2 with
          | true => simp only [if_true]; rfl
          | false =>
            simp only [Bool.false_eq_true, if_false]
            exact (refute_refused hr).symm
      simp only [Mgr.stepEv, Mgr.handle, Mgr.handleAlive, Mgr.evOps]
      cases g.st.regs m with
      | none => exact key 0
      | some e => exact key e.inc
    | addPeer p =>
      simp only [Mgr.stepEv, Mgr.handle, Mgr.addPeer, Mgr.evOps]
      cases g.st.regs p <;> rfl
    | pingAck t ok =>
      simp only [Mgr.stepEv, Mgr.handle, Mgr.handlePingAck, Mgr.evOps]
      cases ok with
      | false => rfl
      | true => simp only [if_true]; cases g.st.regs t <;> rfl
  | round o k ex => exact expire_eq_run g ex
  | suspectNode m =>
    simp only [Mgr.stepEv, Mgr.suspectNode, Mgr.evOps]
    split <;> rfl

theorem handle_eq_run (g : Mgr) (x : Msg) : (g.handle x).st = run g.st (g.evOps (.msg x)) :=
  stepEv_eq_run g (.msg x)

theorem handleAlive_st (g : Mgr) (m i : Nat) :
    (g.handleAlive m i).st = g.st ∨ (g.handleAlive m i).st = (refute g.st m i).1 := by
  rw [show (g.handleAlive m i).st = _ from handle_eq_run g (.alive m i)]
  rcases evOps_alive g m i with h | h <;> rw [h]
  · exact .inl rfl
  · exact .inr rfl

theorem handlePingAck_st (g : Mgr) (t : Nat) (ok : Bool) :
    (g.handlePingAck t ok).st = g.st ∨ (g.handlePingAck t ok).st = (markHealthy g.st t).1 := by
  rw [show (g.handlePingAck t ok).st = _ from handle_eq_run g (.pingAck t ok)]
  rcases evOps_pingAck g t ok with h | h <;> rw [h]
  · exact .inl rfl
  · exact .inr rfl

theorem wf_clock_mono {s : State} (h : WF s) (c : Nat) (hc : s.clock ≤ c) : WF { s with clock := c } :=
  fun m e he => Nat.le_trans (h m e he) hc

theorem mgr_new_wf (loc maxDelta : Nat) : WF (Mgr.new loc maxDelta).st :=
  apply_wf wf_empty (.updateLocal loc .healthy 0)

theorem mgr_run_wf (g : Mgr) (h : WF g.st) (msgs : List Msg) : WF (g.run msgs).st :=
  foldl_invariant (P := fun g : Mgr => WF g.st) (fun g x _ h => by rw [handle_eq_run]; exact run_wf h _) h

end Neumann.Gossip
