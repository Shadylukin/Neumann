/-
  One level of a lexicographic comparison of records with `Nat` components: `x < y ∨ x = y ∧ P`,
  where `P` compares the remaining components.  A law of orders holds at a level when it holds of
  the tail; the register key order and the HLC timestamp order nest these once per component.
-/
namespace Neumann.Gossip.Lex

variable {x y z : Nat} {P Q R E : Prop}

theorem trans (t : P → Q → R) : (x < y ∨ x = y ∧ P) → (y < z ∨ y = z ∧ Q) → (x < z ∨ x = z ∧ R)
  | .inl h, .inl h' => .inl (Nat.lt_trans h h')
  | .inl h, .inr ⟨e, _⟩ => .inl (Nat.lt_of_lt_of_eq h e)
  | .inr ⟨e, _⟩, .inl h' => .inl (e ▸ h')
  | .inr ⟨e, p⟩, .inr ⟨e', q⟩ => .inr ⟨e.trans e', t p q⟩

theorem irrefl (t : ¬ P) : ¬ (x < x ∨ x = x ∧ P)
  | .inl h => Nat.lt_irrefl x h
  | .inr ⟨_, p⟩ => t p

theorem tri (t : P ∨ E ∨ Q) : (x < y ∨ x = y ∧ P) ∨ (x = y ∧ E) ∨ (y < x ∨ y = x ∧ Q) :=
  match Nat.lt_trichotomy x y with
  | .inl h => .inl (.inl h)
  | .inr (.inr h) => .inr (.inr (.inl h))
  | .inr (.inl e) =>
    match t with
    | .inl p => .inl (.inr ⟨e, p⟩)
    | .inr (.inl q) => .inr (.inl ⟨e, q⟩)
    | .inr (.inr q) => .inr (.inr (.inr ⟨e.symm, q⟩))

theorem total (t : P ∨ Q) : (x < y ∨ x = y ∧ P) ∨ (y < x ∨ y = x ∧ Q) :=
  match tri (E := False) (x := x) (y := y) (t.imp_right .inr) with
  | .inl h => .inl h
  | .inr (.inl h) => h.2.elim
  | .inr (.inr h) => .inr h

theorem antisymm : (x < y ∨ x = y ∧ P) → (y < x ∨ y = x ∧ Q) → x = y ∧ P ∧ Q
  | .inl h, .inl h' => absurd (Nat.lt_trans h h') (Nat.lt_irrefl x)
  | .inl h, .inr ⟨e, _⟩ => absurd (Nat.lt_of_lt_of_eq h e) (Nat.lt_irrefl x)
  | .inr ⟨e, _⟩, .inl h' => absurd (Nat.lt_of_lt_of_eq h' e) (Nat.lt_irrefl y)
  | .inr ⟨e, p⟩, .inr ⟨_, q⟩ => ⟨e, p, q⟩

theorem not_iff (t : ¬ P ↔ Q) : ¬ (x < y ∨ x = y ∧ P) ↔ (y < x ∨ y = x ∧ Q) := by
  constructor
  · intro h
    rcases Nat.lt_trichotomy x y with l | e | g
    · exact absurd (.inl l) h
    · exact .inr ⟨e.symm, t.mp fun p => h (.inr ⟨e, p⟩)⟩
    · exact .inl g
  · intro h h'
    have := antisymm h' h
    exact t.mpr this.2.2 this.2.1

end Neumann.Gossip.Lex
