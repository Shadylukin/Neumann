import NeumannModel.Gossip.HlcLemmas
/-
  C17 — "a node's … logical clock never decrease[s]": the hybrid logical clock of
  tensor_chain/src/hlc.rs.

  Reading guide
  * `Ts` / `a < b`      : `HLCTimestamp` and its derived `Ord` (wall_ms, logical, node_id_hash).
  * `Clock.now c p`     : `now()` when `wall_with_drift()` reads `p`.
  * `Clock.receive c p r` : `receive(&r)` when `wall_with_drift()` reads `p`.
  * `Clock.run c steps` : any sequence of such calls, every call with its OWN physical-time reading —
                          nothing relates the readings of different calls: the physical clock may
                          stall, jump or run backwards between (and because of `set_drift_offset`,
                          during) any two calls.
  * `c.stamp`           : the timestamp the clock stands at (`last_wall_ms`, `logical`, node).
-/
namespace Neumann.Gossip.Props
open Neumann.Gossip.Hlc

/-! ## 20. the order timestamps are compared in -/

/-- the derived order is a strict total order -/
theorem hlc_order_is_strict_total (a b c : Ts) :
    ¬ a < a ∧ (a < b → b < c → a < c) ∧ (a < b ∨ a = b ∨ b < a) :=
  ⟨Ts.lt_irrefl a, Ts.lt_trans, Ts.lt_trichotomy a b⟩

/-! ## 21. one call -/

/-- `now()` hands out a timestamp strictly after the one the clock stood at — whatever the physical
    clock reads — and the clock then stands at exactly that timestamp -/
theorem hlc_now_moves_forward (c : Clock) (p : Nat) :
    c.stamp < (c.now p).2 ∧ (c.now p).1.stamp = (c.now p).2 :=
  ⟨(now_spec c p).1, (now_spec c p).2.1⟩

/-- `receive(r)` hands out a timestamp strictly after BOTH the one the clock stood at and `r`,
    whatever the physical clock reads and however the three wall times tie, and the clock then stands
    at exactly that timestamp -/
theorem hlc_receive_after_local_and_received (c : Clock) (p : Nat) (r : Ts) :
    c.stamp < (c.receive p r).2 ∧ r < (c.receive p r).2 ∧ (c.receive p r).1.stamp = (c.receive p r).2 :=
  ⟨(receive_spec c p r).1, (receive_spec c p r).2.1, (receive_spec c p r).2.2.1⟩

/-- the wall component of every answer is the largest wall time in sight: never behind the physical
    reading of that call, never behind the clock's own, never behind the received one -/
theorem hlc_wall_is_max_of_walls (c : Clock) (p : Nat) (r : Ts) :
    (c.now p).2.wall = max p c.last ∧ (c.receive p r).2.wall = max (max p c.last) r.wall :=
  ⟨(now_spec c p).2.2.2, (receive_spec c p r).2.2.2.2⟩

/-- a physical reading at or behind the clock's wall component has no influence on the answer: all
    such readings (a stalled clock, one that was set back by any amount) give the same result -/
theorem hlc_physical_time_behind_is_irrelevant (c : Clock) (p q : Nat) (r : Ts)
    (hp : p ≤ c.last) (hq : q ≤ c.last) :
    c.now p = c.now q ∧ c.receive p r = c.receive q r := by
  constructor
  · simp only [Clock.now, if_neg (Nat.not_lt.mpr hp), if_neg (Nat.not_lt.mpr hq)]
  · simp only [Clock.receive, Clock.receiveWith, Nat.max_eq_right hp, Nat.max_eq_right hq]

example : (Clock.mk 100 4 1).receive 0 ⟨100, 2, 9⟩ = (Clock.mk 100 4 1).receive 100 ⟨100, 2, 9⟩ :=
  (hlc_physical_time_behind_is_irrelevant _ 0 100 _ (by decide) (by decide)).2

/-! ## 22. every sequence of calls, arbitrary physical readings -/

/-- ISSUED TIMESTAMPS ARE STRICTLY INCREASING: in every sequence of now / receive calls on a clock in
    any state, with arbitrary physical readings and arbitrary received timestamps, every timestamp
    handed out is strictly after every timestamp handed out earlier -/
theorem hlc_issued_strictly_increasing (c : Clock) (steps : List Step) :
    (c.run steps).2.Pairwise (· < ·) :=
  run_pairwise c steps

/-- in particular no timestamp is ever handed out twice -/
theorem hlc_issued_no_duplicates (c : Clock) (steps : List Step) : (c.run steps).2.Nodup :=
  (run_pairwise c steps).imp fun {a b} h => fun e : a = b => by subst e; exact Ts.lt_irrefl _ h

/-- the clock itself never moves backwards: after any calls it stands at the last timestamp handed
    out, at or after everything handed out, and (strictly, once a call was made) after where it
    started -/
theorem hlc_clock_never_moves_backwards (c : Clock) (steps : List Step) :
    (∀ t ∈ (c.run steps).2, c.stamp < t) ∧
      (∀ t ∈ (c.run steps).2, t = (c.run steps).1.stamp ∨ t < (c.run steps).1.stamp) ∧
      ((c.run steps).1.stamp = c.stamp ∨ c.stamp < (c.run steps).1.stamp) :=
  ⟨(run_above_start c steps).1, (run_above_start c steps).2.1, (run_above_start c steps).2.2.2⟩

/-- `receive(r)` after ANY history returns a timestamp greater than `r` and than everything issued
    before -/
theorem hlc_receive_after_everything_issued (c : Clock) (steps : List Step) (p : Nat) (r : Ts) :
    r < ((c.run steps).1.receive p r).2 ∧ ∀ u ∈ (c.run steps).2, u < ((c.run steps).1.receive p r).2 := by
  refine ⟨(receive_spec _ p r).2.1, fun u hu => ?_⟩
  rcases (run_above_start c steps).2.1 u hu with h | h
  · exact h ▸ (receive_spec _ p r).1
  · exact Ts.lt_trans h (receive_spec _ p r).1

/-- `now()` after ANY history returns a timestamp greater than everything issued before -/
theorem hlc_now_after_everything_issued (c : Clock) (steps : List Step) (p : Nat) :
    ∀ u ∈ (c.run steps).2, u < ((c.run steps).1.now p).2 := by
  intro u hu
  rcases (run_above_start c steps).2.1 u hu with h | h
  · exact h ▸ (now_spec _ p).1
  · exact Ts.lt_trans h (now_spec _ p).1

/-- a received timestamp stays behind for good: the answer to `receive(r)` and everything the clock
    hands out afterwards, under any later calls, is strictly after `r` -/
theorem hlc_received_stays_behind (c : Clock) (p : Nat) (r : Ts) (later : List Step) :
    ∀ t ∈ (c.run (.recv p r :: later)).2, r < t := by
  intro t ht
  rw [run_cons] at ht
  rcases List.mem_cons.mp ht with rfl | ht
  · exact (receive_spec c p r).2.1
  · have h := (run_above_start (c.step (.recv p r)).1 later).1 t ht
    rw [(step_spec c (.recv p r)).2.1] at h
    exact Ts.lt_trans (receive_spec c p r).2.1 h

/-- message causality between two clocks with unrelated physical clocks: whatever clock `a` stamps a
    message with, everything clock `b` hands out from the receipt on is strictly after it — also when
    the message is delayed behind any other calls on `b`, delivered again, or ties with `b`'s wall
    component -/
theorem hlc_message_causality (a b : Clock) (sa : Step) (before : List Step) (pb : Nat) (later : List Step) :
    ∀ t ∈ ((b.run before).1.run (.recv pb (a.step sa).2 :: later)).2, (a.step sa).2 < t :=
  hlc_received_stays_behind _ pb _ later

/-- the wall component never decreases along a run -/
theorem hlc_wall_never_decreases (c : Clock) (steps : List Step) :
    c.last ≤ (c.run steps).1.last ∧ ∀ t ∈ (c.run steps).2, c.last ≤ t.wall := by
  have h := run_above_start c steps
  constructor
  · rcases h.2.2.2 with e | l
    · exact Nat.le_of_eq (congrArg Ts.wall e.symm)
    · exact Ts.wall_le_of_lt l
  · exact fun t ht => Ts.wall_le_of_lt (h.1 t ht)

/-- non-vacuity: the physical clock stalls (5, 5), jumps (900), runs backwards (3, 0) and a delayed
    message ties with the clock's wall component with a smaller counter; the answers keep increasing -/
example :
    ((Clock.mk 100 0 1).run
      [.now 5, .recv 5 ⟨160, 0, 2⟩, .now 3, .now 0, .recv 0 ⟨160, 1, 2⟩, .recv 160 ⟨160, 9, 2⟩,
       .now 900, .now 3, .recv 0 ⟨900, 1, 7⟩, .recv 0 ⟨900, 0, 7⟩]).2
      = [⟨100, 1, 1⟩, ⟨160, 1, 1⟩, ⟨160, 2, 1⟩, ⟨160, 3, 1⟩, ⟨160, 4, 1⟩, ⟨160, 10, 1⟩,
         ⟨900, 0, 1⟩, ⟨900, 1, 1⟩, ⟨900, 2, 1⟩, ⟨900, 3, 1⟩] := by decide +kernel

/-! ## 23. a ladder that tests "received carries the maximum wall time" first -/

/-- NOT the code.  With the received-first ladder a delayed message that ties with the clock's wall
    component and carries a smaller counter sets the clock back: `receive` returns (160, 2) after
    `now()` had returned (160, 3), and the next `now()` hands (160, 3) out a second time.  The code's
    ladder (three-way tie first) answers (160, 4), (160, 5) on the same calls. -/
theorem hlc_receivedFirst_ladder_moves_backwards_witness :
    ((Clock.mk 100 0 1).runReceivedFirst
        [.recv 0 ⟨160, 0, 2⟩, .now 0, .now 0, .recv 0 ⟨160, 1, 2⟩, .now 0]).2
      = [⟨160, 1, 1⟩, ⟨160, 2, 1⟩, ⟨160, 3, 1⟩, ⟨160, 2, 1⟩, ⟨160, 3, 1⟩] ∧
    ((Clock.mk 100 0 1).run
        [.recv 0 ⟨160, 0, 2⟩, .now 0, .now 0, .recv 0 ⟨160, 1, 2⟩, .now 0]).2
      = [⟨160, 1, 1⟩, ⟨160, 2, 1⟩, ⟨160, 3, 1⟩, ⟨160, 4, 1⟩, ⟨160, 5, 1⟩] ∧
    ¬ ((Clock.mk 100 0 1).runReceivedFirst
        [.recv 0 ⟨160, 0, 2⟩, .now 0, .now 0, .recv 0 ⟨160, 1, 2⟩, .now 0]).2.Pairwise (· < ·) ∧
    ¬ ((Clock.mk 100 0 1).runReceivedFirst
        [.recv 0 ⟨160, 0, 2⟩, .now 0, .now 0, .recv 0 ⟨160, 1, 2⟩, .now 0]).2.Nodup := by decide +kernel

/-- the two ladders differ ONLY on that tie: whenever the received wall time is not equal to the
    clock's, or its counter is at least the clock's, they give the same answer (why forward skew,
    local-ahead and same-wall-larger-counter inputs do not tell them apart) -/
theorem hlc_ladders_differ_only_on_tie_with_smaller_counter (c : Clock) (p : Nat) (r : Ts)
    (h : r.wall ≠ c.last ∨ p > c.last ∨ c.logical ≤ r.logical) :
    c.receiveReceivedFirst p r = c.receive p r := by
  have key : recvLogicalReceivedFirst c (max (max p c.last) r.wall) r =
      recvLogical c (max (max p c.last) r.wall) r :=
    recvLogicalReceivedFirst_eq fun hl hr => by
      rcases h with n | g | l
      · exact absurd (hr.symm.trans hl) n
      · exact absurd (Nat.le_trans (Nat.le_trans (Nat.le_max_left p c.last) (Nat.le_max_left _ r.wall))
          (Nat.le_of_eq hl)) (Nat.not_le.mpr g)
      · exact l
  simp only [Clock.receiveReceivedFirst, Clock.receive, Clock.receiveWith, key]

example : (Clock.mk 160 3 1).receiveReceivedFirst 0 ⟨160, 1, 2⟩ ≠ (Clock.mk 160 3 1).receive 0 ⟨160, 1, 2⟩ := by
  decide +kernel

/-! ## 24. the u64 counters -/

/-- while the counters involved are below the largest counter value `B` (u64::MAX in the code), the
    saturating / wrapping arithmetic of the code is the arithmetic of the model -/
theorem hlc_bounded_counters_refine (B : Nat) (c : Clock) (p : Nat) (r : Ts)
    (hc : c.logical < B) (hr : r.logical < B) :
    c.nowSat B p = c.now p ∧ c.receiveSat B p r = c.receive p r := by
  constructor
  · unfold Clock.nowSat Clock.now
    rw [satSucc_lt hc, Nat.mod_eq_of_lt (by omega)]
  · have key : ∀ mx, recvLogicalSat B c mx r = recvLogical c mx r := by
      intro mx
      unfold recvLogicalSat recvLogical
      rw [satSucc_lt hc, satSucc_lt hr, satSucc_lt (show max c.logical r.logical < B by omega)]
    simp only [Clock.receiveSat, Clock.receive, Clock.receiveWith, key]

example : (Clock.mk 100 4 1).receiveSat 7 0 ⟨100, 6, 2⟩ = (Clock.mk 100 4 1).receive 0 ⟨100, 6, 2⟩ :=
  (hlc_bounded_counters_refine 7 _ 0 _ (by decide) (by decide)).2

/-- at the largest counter value the code's arithmetic stops moving forward (shown with `B = 3`
    standing for u64::MAX): a received timestamp carrying the largest counter is answered with a
    timestamp that is not after it, the next `now()` repeats that answer (the stored counter wrapped
    to 0 while the returned one saturated) and the one after goes back to counter 1.  Outside the
    property's quantifier (small timestamp ranges); reported by the harness as an observation. -/
theorem hlc_saturated_counter_repeats_witness :
    let c0 : Clock := ⟨100, 0, 1⟩
    let r : Ts := ⟨160, 3, 2⟩
    let (c1, t1) := c0.receiveSat 3 0 r
    let (c2, t2) := c1.nowSat 3 0
    let (_, t3) := c2.nowSat 3 0
    ¬ r < t1 ∧ t2 = t1 ∧ t3 < t2 := by decide +kernel

end Neumann.Gossip.Props
