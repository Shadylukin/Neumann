import NeumannModel.Gossip.AddPeerLemmas
import NeumannModel.Gossip.RefuteProps
/-
  C17 — registering a peer is bookkeeping, not a membership update:
  `GossipMembershipManager::add_peer` against a view that ALREADY holds the member.

  The clauses of the property this file is about: "two nodes that have received the same set of
  membership updates hold identical views" and "never move backwards".  Entries of the view are
  created by `add_peer` (placeholder Unknown, incarnation 0, fresh tick) AND by gossip (a Sync that
  carries the member, or that the member sent), independently of the `known_peers` list.  When the
  node learns of a member through gossip first and registers it as a peer afterwards (late
  registration, dynamic join), `add_peer` must leave the view alone: the placeholder would carry a
  locally highest timestamp, win over any entry at incarnation 0 (Healthy, Degraded, Failed), win
  again at every replica it is gossiped to, and two nodes with the same updates would disagree
  depending on WHEN they registered the peer.

  Reading guide
  * `Known m s` (AddPeerLemmas): `m` has an entry in the view `s`.
  * `withoutAddPeer p evs`: the event list `evs` with every `add_peer(p)` removed.
  * `Mgr.addPeerAlwaysMergesPlaceholder` (Model.lean): NOT the code — the placeholder is merged
    whether or not the member has an entry.
-/
namespace Neumann.Gossip.Props
open Neumann.Gossip

/-! ## A1. `add_peer` and a member that is in the view -/

/-- `add_peer(p)` on a manager whose view holds an entry for `p` — whatever its health, incarnation
    and timestamp, however it got there — is the identity: no register, not the clock, nothing. -/
theorem add_peer_of_known_member_is_identity (g : Mgr) (p : Nat) (e : Reg) (h : g.st.regs p = some e) :
    g.addPeer p = g :=
  addPeer_known g p ⟨e, h⟩

/-- `add_peer(p)` never changes the entry of ANY member that has one (`p` itself or another). -/
theorem add_peer_keeps_every_entry (g : Mgr) (p m : Nat) (e : Reg) (h : g.st.regs m = some e) :
    (g.addPeer p).st.regs m = some e := by
  cases hp : g.st.regs p with
  | some e' => rw [addPeer_known g p ⟨e', hp⟩]; exact h
  | none =>
    have hm : m ≠ p := by intro hmp; subst hmp; rw [h] at hp; cases hp
    simp only [Mgr.addPeer, hp, merge, mergeWith, mergeRegsWith, mergeOneWith, maxTs, syncTime]
    rw [setReg_other _ _ hm]; exact h

/-- the other branch (so that the two theorems above are not about a function that never does
    anything): an absent member is entered as Unknown at incarnation 0 with a fresh stamp -/
theorem add_peer_enters_an_absent_member (g : Mgr) (p : Nat) (h : g.st.regs p = none) :
    (g.addPeer p).st.regs p = some ⟨.unknown, g.st.clock + 1, 0⟩ ∧
      (g.addPeer p).st.clock = g.st.clock + 2 := by
  simp only [Mgr.addPeer, h, merge, mergeWith, mergeRegsWith, mergeOneWith, maxTs, syncTime]
  exact ⟨setReg_same _ _ _, by simp⟩

-- non-vacuity: a member learned through a Sync in each health state, then registered
example :
    let g := (Mgr.new 5 100).handle (.sync 4 [⟨2, ⟨.failed, 50, 0⟩⟩, ⟨1, ⟨.healthy, 3, 0⟩⟩, ⟨0, ⟨.degraded, 7, 2⟩⟩] 50)
    g.st.regs 2 = some ⟨.failed, 50, 0⟩ ∧ (g.addPeer 2).st.regs 2 = some ⟨.failed, 50, 0⟩ ∧
    (g.addPeer 1).st.regs 1 = some ⟨.healthy, 3, 0⟩ ∧ (g.addPeer 0).st.regs 0 = some ⟨.degraded, 7, 2⟩ ∧
    (g.addPeer 2).st.clock = g.st.clock ∧
    g.st.regs 3 = none ∧ (g.addPeer 3).st.regs 3 = some ⟨.unknown, g.st.clock + 1, 0⟩ := by
  decide +kernel

/-! ## A2. late registration is invisible: same updates, any registration points, same manager -/

/-- A member that is in the view stays in the view under every manager event (entries are never
    removed): Sync, Suspect, Alive, PingAck, add_peer, rounds with any expired set, suspect_node. -/
theorem known_member_stays_known (g : Mgr) (evs : List MEv) (m : Nat) (e : Reg) (h : g.st.regs m = some e) :
    ∃ e', (g.runEv evs).st.regs m = some e' :=
  runEv_known evs g m ⟨e, h⟩

/-- Once the view holds an entry for `p`, the `add_peer(p)` calls in ANY later history — any number
    of them, anywhere between any other events — are invisible: the manager ends in exactly the
    state (view, clock, suspicions, counters) it reaches without them. -/
theorem late_registration_is_invisible (g : Mgr) (evs : List MEv) (p : Nat) (e : Reg)
    (h : g.st.regs p = some e) :
    g.runEv evs = g.runEv (withoutAddPeer p evs) :=
  (runEv_withoutAddPeer evs g p ⟨e, h⟩).symm

/-- Two managers in the same state that are handed the same events, each with `add_peer(p)` calls
    at points of its own (histories that are equal up to `add_peer(p)`), after `p` was learned:
    identical managers.  In particular they agree on every member's health and incarnation. -/
theorem registration_point_does_not_matter (g : Mgr) (evsA evsB : List MEv) (p : Nat) (e : Reg)
    (h : g.st.regs p = some e) (hsame : withoutAddPeer p evsA = withoutAddPeer p evsB) :
    g.runEv evsA = g.runEv evsB := by
  rw [late_registration_is_invisible g evsA p e h, late_registration_is_invisible g evsB p e h, hsame]

/-- The same from a common history `pre` that leaves `p` in the view (for instance one that ends
    with the Sync through which `p` is learned), with the registration before / between / after
    any further events `a ++ b`: all the same as never registering. -/
theorem registration_after_learning_commutes (g : Mgr) (pre a b : List MEv) (p : Nat) (e : Reg)
    (h : (g.runEv pre).st.regs p = some e) :
    g.runEv (pre ++ a ++ [MEv.msg (.addPeer p)] ++ b) = g.runEv (pre ++ a ++ b) := by
  rw [List.append_assoc, List.append_assoc, runEv_append, List.append_assoc pre a b, runEv_append g pre (a ++ b)]
  apply registration_point_does_not_matter _ _ _ p e h
  simp [withoutAddPeer]

-- non-vacuity: learned Healthy@0 by a Sync from a third node; registered right away, after a
-- Suspect, never — the same manager, member 2 Degraded@0
example :
    let g := Mgr.new 5 100
    let learn := [MEv.msg (.sync 4 [⟨2, ⟨.healthy, 50, 0⟩⟩] 50)]
    let rest := [MEv.msg (.suspect 2 0), MEv.msg (.sync 4 [⟨1, ⟨.healthy, 3, 0⟩⟩] 60)]
    ((g.runEv (learn ++ [MEv.msg (.addPeer 2)] ++ rest)).st.regs 2 = some ⟨.degraded, 55, 0⟩) ∧
    ((g.runEv (learn ++ rest ++ [MEv.msg (.addPeer 2)])).st.regs 2 = some ⟨.degraded, 55, 0⟩) ∧
    ((g.runEv (learn ++ rest)).st.regs 2 = some ⟨.degraded, 55, 0⟩) := by
  decide +kernel

/-! ## A3. the variant that merges the placeholder on every first registration -/

/-- `addPeerAlwaysMergesPlaceholder` agrees with the code on a member that is not in the view. -/
theorem addPeerAlwaysMergesPlaceholder_agrees_on_absent (g : Mgr) (p : Nat) (h : g.st.regs p = none) :
    g.addPeerAlwaysMergesPlaceholder p = g.addPeer p := by
  simp only [Mgr.addPeerAlwaysMergesPlaceholder, Mgr.addPeer, h]

/-- With the placeholder merged on every first registration (`addPeerAlwaysMergesPlaceholder`), on a
    manager that learned members 1 and 2 through a Sync from node 4 (Healthy@0, Failed@0) and
    member 0 at incarnation 1: registering member 1 rewrites Healthy@0 to Unknown@0 and registering
    member 2 rewrites Failed@0 to Unknown@0 — a failed member is un-failed without any update about
    it — (`add_peer_of_known_member_is_identity`, `add_peer_keeps_every_entry` fail); the clock
    moves although nothing was learned; a manager that registered member 1 BEFORE the same Sync
    holds Healthy@0, so the two disagree on the same updates
    (`registration_point_does_not_matter` fails); the rewritten entry, gossiped on, overrides the
    correct one at a third manager; only an entry at incarnation >= 1 survives. -/
theorem addPeerAlwaysMergesPlaceholder_witness :
    let sync : Msg := .sync 4 [⟨1, ⟨.healthy, 50, 0⟩⟩, ⟨2, ⟨.failed, 50, 0⟩⟩, ⟨0, ⟨.degraded, 50, 1⟩⟩] 50
    let g := (Mgr.new 5 100).handle sync
    let hi := fun (x : Mgr) (m : Nat) => (x.st.regs m).map (fun r => (r.health, r.inc))
    (hi g 1 = some (.healthy, 0) ∧ hi (g.addPeerAlwaysMergesPlaceholder 1) 1 = some (.unknown, 0)) ∧
    (hi g 2 = some (.failed, 0) ∧ hi (g.addPeerAlwaysMergesPlaceholder 2) 2 = some (.unknown, 0)) ∧
    (g.addPeerAlwaysMergesPlaceholder 1).st.clock > g.st.clock ∧
    hi (((Mgr.new 5 100).addPeerAlwaysMergesPlaceholder 1).handle sync) 1 = some (.healthy, 0) ∧
    ((g.addPeerAlwaysMergesPlaceholder 1).st.regs 1 = some ⟨.unknown, 55, 0⟩ ∧
      hi (((Mgr.new 3 100).handle sync).handle (.sync 5 [⟨1, ⟨.unknown, 55, 0⟩⟩] 60)) 1 = some (.unknown, 0)) ∧
    hi (g.addPeerAlwaysMergesPlaceholder 0) 0 = some (.degraded, 1) := by
  decide +kernel

-- the same steps with the code's `add_peer`: nothing moves, the two registration points agree
example :
    let sync : Msg := .sync 4 [⟨1, ⟨.healthy, 50, 0⟩⟩, ⟨2, ⟨.failed, 50, 0⟩⟩, ⟨0, ⟨.degraded, 50, 1⟩⟩] 50
    let g := (Mgr.new 5 100).handle sync
    let hi := fun (x : Mgr) (m : Nat) => (x.st.regs m).map (fun r => (r.health, r.inc))
    hi (g.addPeer 1) 1 = some (.healthy, 0) ∧ hi (g.addPeer 2) 2 = some (.failed, 0) ∧
    (g.addPeer 1).st.clock = g.st.clock ∧
    hi (((Mgr.new 5 100).addPeer 1).handle sync) 1 = some (.healthy, 0) := by
  decide +kernel

end Neumann.Gossip.Props
