import NeumannModel.Gossip.RefuteLemmas
import NeumannModel.Gossip.ClusterProps
/-
  C17 — a refutation is never lost: `LWWMembershipState::refute` (the operation behind
  `GossipMessage::Alive` / `handle_alive`) against old news.

  The clauses of the property this file is about: "a node's recorded incarnation for any member
  never decreases", "a member is never recorded as failed at an incarnation higher than one that
  member itself announced" and convergence, read together: once a replica has been told that `m`
  announced incarnation `n`, it records at least `n` — whatever it recorded before, in particular
  also when it saw `m` as Healthy and knew of no suspicion —, and from then on suspicions /
  Degraded / Failed / Unknown states of incarnations below `n` can never be recorded again.
  Hence the announcement and any amount of such old news commute.

  Reading guide
  * `StaleFor m n o` (RefuteLemmas): the operation `o` carries, about `m`, only news of
    incarnations below `n` (`merge` of states of `m` with a lower incarnation — any health, any
    timestamp —, `suspect` / `refute` with a lower incarnation, `mark_healthy`, clock operations,
    anything about other members).  `fail(m)` and `update_local(m, ..)` are not in the class.
  * `EvStale m n e`: the same for manager events (`Sync` from anybody but `m`, `Suspect`, `Alive`,
    `add_peer`, ping acks, rounds in which no suspicion of `m` expires, `suspect_node` of others).
  * `refuteUnlessHealthy` (Model.lean): NOT the code — `refute` that leaves a Healthy member alone.
-/
namespace Neumann.Gossip.Props
open Neumann.Gossip

/-! ## R1. `refute` records the announced incarnation -/

/-- After `refute(m, n)` has returned, a member that is in the view is recorded at an incarnation
    of at least `n` — for EVERY register held before (Healthy, Degraded, Failed or Unknown, any
    timestamp, any incarnation), whether the call returned `true` or `false`. -/
theorem refute_records_announced (s : State) (m n : Nat) (e : Reg) (h : s.regs m = some e) :
    ∃ e', (refute s m n).1.regs m = some e' ∧ n ≤ e'.inc := by
  by_cases hlt : e.inc < n
  · rw [refute_fires h hlt]
    exact ⟨_, setReg_same _ _ _, Nat.le_refl _⟩
  · rcases refute_reg s m n m e h with h' | ⟨_, hc, _⟩
    · exact ⟨e, h', by omega⟩
    · omega

/-- a strictly higher incarnation is recorded whatever the health: the member is Healthy at `n`
    with the fresh stamp `clock + 1`, and the call answers `true` -/
theorem refute_raises_whatever_the_health (s : State) (m n : Nat) (e : Reg) (h : s.regs m = some e)
    (hlt : e.inc < n) :
    (refute s m n).2 = true ∧ (refute s m n).1.regs m = some ⟨.healthy, s.clock + 1, n⟩ ∧
      (refute s m n).1.clock = s.clock + 1 := by
  rw [refute_fires h hlt]
  exact ⟨rfl, setReg_same _ _ _, rfl⟩

/-- `refute` answers `true` exactly for a known member and a strictly higher incarnation; the
    recorded health plays no role -/
theorem refute_accepts_iff (s : State) (m n : Nat) :
    (refute s m n).2 = true ↔ ∃ e, s.regs m = some e ∧ e.inc < n := by
  unfold refute
  cases h : s.regs m with
  | none => simp
  | some e => by_cases hlt : n > e.inc <;> simp [hlt]

example : (refute (merge State.empty [⟨1, ⟨.healthy, 3, 0⟩⟩]).1 1 1).1.regs 1 = some ⟨.healthy, 5, 1⟩ ∧
    (refute (merge State.empty [⟨1, ⟨.failed, 3, 0⟩⟩]).1 1 1).1.regs 1 = some ⟨.healthy, 5, 1⟩ := by decide +kernel

/-- and it stays recorded: after `refute(m, n)` every admissible history (merges of anything,
    suspect, fail, refute, mark_healthy, clock operations) keeps `m` at an incarnation `≥ n` -/
theorem announced_incarnation_is_kept (s : State) (m n : Nat) (e : Reg) (h : s.regs m = some e)
    (ops : List Op) (hadm : Admissible (refute s m n).1 ops) :
    ∃ e', (run (refute s m n).1 ops).regs m = some e' ∧ n ≤ e'.inc := by
  obtain ⟨e1, h1, hn⟩ := refute_records_announced s m n e h
  obtain ⟨e2, h2, hle⟩ := inc_monotone_run _ ops hadm m e1 h1
  exact ⟨e2, h2, Nat.le_trans hn hle⟩

/-! ## R2. a refutation and old news commute -/

/-- Let `m` be in the view at an incarnation below `n`.  Take ANY two sequences `pre`, `post` of
    operations that carry only news about incarnations of `m` below `n` (`StaleFor`), and put
    `refute(m, n)` anywhere between them.  The replica ends with `m` Healthy at incarnation `n`:
    old news that arrives before the refutation cannot stop it (whatever health it leaves behind,
    Healthy included), old news that arrives after it is ignored. -/
theorem refute_wins_over_stale_news (s : State) (m n : Nat) (e : Reg) (h : s.regs m = some e)
    (hlt : e.inc < n) (pre post : List Op) (hpre : ∀ o ∈ pre, StaleFor m n o)
    (hpost : ∀ o ∈ post, StaleFor m n o) :
    ∃ t, (run s (pre ++ .refute m n :: post)).regs m = some ⟨.healthy, t, n⟩ := by
  obtain ⟨e1, he1, _, hlt1⟩ := run_stale (P := Below m 0 n) stale_below pre hpre ⟨e, h, Nat.zero_le _, hlt⟩
  have hr : (apply (run s pre) (.refute m n)).regs m = some ⟨.healthy, (run s pre).clock + 1, n⟩ :=
    (refute_raises_whatever_the_health _ m n e1 he1 hlt1).2.1
  refine ⟨(run s pre).clock + 1, ?_⟩
  rw [run_append]
  exact run_stale (P := fun x : State => x.regs m = some ⟨.healthy, _, n⟩) stale_refuted post hpost hr

/-- Order independence: two replicas that start from the same register for `m` and receive the
    refutation `refute(m, n)` and old news about `m` in ANY two orders (in particular: the same
    events, the refutation overtaking the suspicion at one replica and trailing it at the other)
    agree on `m`'s health and incarnation — Healthy at `n`. -/
theorem refute_and_stale_news_commute (s₁ s₂ : State) (m n : Nat) (e₁ e₂ : Reg)
    (h₁ : s₁.regs m = some e₁) (h₂ : s₂.regs m = some e₂) (hlt₁ : e₁.inc < n) (hlt₂ : e₂.inc < n)
    (pre₁ post₁ pre₂ post₂ : List Op)
    (hs : ∀ o ∈ pre₁ ++ post₁ ++ pre₂ ++ post₂, StaleFor m n o) :
    ((run s₁ (pre₁ ++ .refute m n :: post₁)).regs m).map (fun r => (r.health, r.inc)) = some (.healthy, n) ∧
    ((run s₂ (pre₂ ++ .refute m n :: post₂)).regs m).map (fun r => (r.health, r.inc)) = some (.healthy, n) := by
  simp only [List.forall_mem_append] at hs
  obtain ⟨⟨⟨hpre₁, hpost₁⟩, hpre₂⟩, hpost₂⟩ := hs
  exact ⟨healthy_at (refute_wins_over_stale_news s₁ m n e₁ h₁ hlt₁ pre₁ post₁ hpre₁ hpost₁),
    healthy_at (refute_wins_over_stale_news s₂ m n e₂ h₂ hlt₂ pre₂ post₂ hpre₂ hpost₂)⟩

-- non-vacuity: the two orders of {suspect(m, 0), refute(m, 1)} and a stale Failed state with a
-- far newer timestamp, on a member seen Healthy at incarnation 0
example :
    let s := (merge State.empty [⟨1, ⟨.healthy, 1, 0⟩⟩]).1
    StaleFor 1 1 (.suspect 1 0) ∧ StaleFor 1 1 (.merge [⟨1, ⟨.failed, 7, 0⟩⟩]) ∧
    (run s [.suspect 1 0, .refute 1 1]).regs 1 = some ⟨.healthy, 4, 1⟩ ∧
    (run s [.refute 1 1, .suspect 1 0]).regs 1 = some ⟨.healthy, 3, 1⟩ ∧
    (run s [.refute 1 1, .merge [⟨1, ⟨.failed, 7, 0⟩⟩]]).regs 1 = some ⟨.healthy, 3, 1⟩ ∧
    (run s [.merge [⟨1, ⟨.failed, 7, 0⟩⟩], .refute 1 1]).regs 1 = some ⟨.healthy, 9, 1⟩ := by
  refine ⟨?_, ?_, ?_, ?_, ?_, ?_⟩
  · intro _; decide
  · intro u hu _
    simp only [List.mem_cons, List.not_mem_nil, or_false] at hu
    subst hu; decide
  all_goals decide +kernel

/-! ## R3. the manager: `handle_alive` -/

/-- `handle_alive(m, n)` on a known member within the incarnation jump limit: the member is
    recorded at an incarnation of at least `n` afterwards, whatever was recorded before -/
theorem mgr_alive_records_announced (g : Mgr) (m n : Nat) (e : Reg) (h : g.st.regs m = some e)
    (hd : n ≤ e.inc + g.maxDelta) :
    ∃ e', (g.handle (.alive m n)).st.regs m = some e' ∧ n ≤ e'.inc := by
  by_cases hlt : e.inc < n
  · exact ⟨_, handleAlive_fires h hlt hd, Nat.le_refl _⟩
  · cases handleAlive_st g m n with
    | inl h' => exact ⟨e, by simp only [Mgr.handle]; rw [h']; exact h, by omega⟩
    | inr h' =>
      obtain ⟨e', he', hn⟩ := refute_records_announced g.st m n e h
      exact ⟨e', by simp only [Mgr.handle]; rw [h']; exact he', hn⟩

/-- The manager form of `refute_wins_over_stale_news`, over ALL events of a manager: `m` known at
    an incarnation below `n` and within the jump limit of `n`; any events that carry only old news
    about `m` (`EvStale`: Syncs from others with states of `m` below `n`, Suspect / Alive about
    lower incarnations, add_peer, ping acks, rounds that do not expire a suspicion of `m`,
    suspect_node of others) before and after the `Alive(m, n)`: `m` ends Healthy at `n`. -/
theorem mgr_alive_wins_over_stale_news (g : Mgr) (m n : Nat) (e : Reg) (h : g.st.regs m = some e)
    (hlt : e.inc < n) (hd : n ≤ e.inc + g.maxDelta) (pre post : List MEv)
    (hpre : ∀ x ∈ pre, EvStale m n x) (hpost : ∀ x ∈ post, EvStale m n x) :
    ∃ t, (g.runEv (pre ++ .msg (.alive m n) :: post)).st.regs m = some ⟨.healthy, t, n⟩ := by
  obtain ⟨e1, he1, hlo, hlt1⟩ := runEv_stale (P := Below m e.inc n) stale_below
    (fun ⟨x, hx, _⟩ => by rw [hx]; exact Option.some_ne_none x) pre g hpre
    ⟨e, h, Nat.le_refl _, hlt⟩
  have hmd : (g.runEv pre).maxDelta = g.maxDelta := runEv_maxDelta g pre
  have hr : ((g.runEv pre).stepEv (.msg (.alive m n))).st.regs m =
      some ⟨.healthy, (g.runEv pre).st.clock + 1, n⟩ :=
    handleAlive_fires he1 hlt1 (by rw [hmd]; exact Nat.le_trans hd (Nat.add_le_add_right hlo _))
  refine ⟨(g.runEv pre).st.clock + 1, ?_⟩
  rw [runEv_append]
  exact runEv_stale (P := fun x : State => x.regs m = some ⟨.healthy, _, n⟩) stale_refuted
    (fun hr => by rw [hr]; exact Option.some_ne_none _) post _ hpost hr

/-- two managers, the `Alive` and the old news in any two orders: both record `m` Healthy at `n` -/
theorem mgr_alive_and_stale_news_commute (g₁ g₂ : Mgr) (m n : Nat) (e₁ e₂ : Reg)
    (h₁ : g₁.st.regs m = some e₁) (h₂ : g₂.st.regs m = some e₂) (hlt₁ : e₁.inc < n) (hlt₂ : e₂.inc < n)
    (hd₁ : n ≤ e₁.inc + g₁.maxDelta) (hd₂ : n ≤ e₂.inc + g₂.maxDelta)
    (pre₁ post₁ pre₂ post₂ : List MEv)
    (hs : ∀ x ∈ pre₁ ++ post₁ ++ pre₂ ++ post₂, EvStale m n x) :
    ((g₁.runEv (pre₁ ++ .msg (.alive m n) :: post₁)).st.regs m).map (fun r => (r.health, r.inc)) = some (.healthy, n) ∧
    ((g₂.runEv (pre₂ ++ .msg (.alive m n) :: post₂)).st.regs m).map (fun r => (r.health, r.inc)) = some (.healthy, n) := by
  simp only [List.forall_mem_append] at hs
  obtain ⟨⟨⟨hpre₁, hpost₁⟩, hpre₂⟩, hpost₂⟩ := hs
  exact ⟨healthy_at (mgr_alive_wins_over_stale_news g₁ m n e₁ h₁ hlt₁ hd₁ pre₁ post₁ hpre₁ hpost₁),
    healthy_at (mgr_alive_wins_over_stale_news g₂ m n e₂ h₂ hlt₂ hd₂ pre₂ post₂ hpre₂ hpost₂)⟩

-- non-vacuity: manager 0 learns member 1 (Healthy, incarnation 0) from a Sync of node 2, then
-- Alive(1, 1) and the stale Suspect(1, 0) in both orders
example :
    let g := (Mgr.new 0 100).handle (.sync 2 [⟨1, ⟨.healthy, 1, 0⟩⟩] 1)
    EvStale 1 1 (.msg (.suspect 1 0)) ∧ g.st.regs 1 = some ⟨.healthy, 1, 0⟩ ∧
    ((g.runEv [.msg (.alive 1 1), .msg (.suspect 1 0)]).st.regs 1).map (fun r => (r.health, r.inc)) = some (.healthy, 1) ∧
    ((g.runEv [.msg (.suspect 1 0), .msg (.alive 1 1)]).st.regs 1).map (fun r => (r.health, r.inc)) = some (.healthy, 1) := by
  refine ⟨?_, ?_, ?_, ?_⟩
  · intro _; decide
  all_goals decide +kernel

/-! ## R4. what goes wrong when a Healthy member is left alone -/

/-- `refuteUnlessHealthy` differs from the code's `refute` exactly on a member recorded Healthy
    below the announced incarnation (there it does nothing) -/
theorem refuteUnlessHealthy_differs_iff (s : State) (m n : Nat) :
    refuteUnlessHealthy s m n ≠ refute s m n ↔
      ∃ e, s.regs m = some e ∧ e.health = .healthy ∧ e.inc < n := by
  unfold refuteUnlessHealthy refute
  cases h : s.regs m with
  | none => simp
  | some e =>
    by_cases h1 : n > e.inc <;> by_cases h2 : e.health = .healthy <;> simp [h1, h2] <;> omega

/-- With the "nothing to refute while Healthy" shortcut (`refuteUnlessHealthy`) on a member seen
    Healthy at incarnation 0: the announced incarnation 1 is dropped (`refute_records_announced`
    fails); the two orders of {suspect(m, 0), refute(m, 1)} end Healthy@1 and Degraded@0; a stale
    Failed state of incarnation 0 merged afterwards is accepted, so the member is recorded Failed
    at an incarnation it had already refuted, while the replica that saw the stale state first
    ends Healthy@1. -/
theorem refuteUnlessHealthy_witness :
    let s := (merge State.empty [⟨1, ⟨.healthy, 1, 0⟩⟩]).1
    let hi := fun (x : State) => (x.regs 1).map (fun r => (r.health, r.inc))
    ((refuteUnlessHealthy s 1 1).2 = false ∧ hi (refuteUnlessHealthy s 1 1).1 = some (.healthy, 0)) ∧
    (hi (refuteUnlessHealthy (suspect s 1 0).1 1 1).1 = some (.healthy, 1) ∧
      hi (suspect (refuteUnlessHealthy s 1 1).1 1 0).1 = some (.degraded, 0)) ∧
    (hi (refuteUnlessHealthy (merge s [⟨1, ⟨.failed, 7, 0⟩⟩]).1 1 1).1 = some (.healthy, 1) ∧
      hi (merge (refuteUnlessHealthy s 1 1).1 [⟨1, ⟨.failed, 7, 0⟩⟩]).1 = some (.failed, 0)) := by
  decide +kernel

-- the same steps with the code's `refute`: both orders Healthy@1
example :
    let s := (merge State.empty [⟨1, ⟨.healthy, 1, 0⟩⟩]).1
    let hi := fun (x : State) => (x.regs 1).map (fun r => (r.health, r.inc))
    hi (refute s 1 1).1 = some (.healthy, 1) ∧
    hi (suspect (refute s 1 1).1 1 0).1 = some (.healthy, 1) ∧
    hi (merge (refute s 1 1).1 [⟨1, ⟨.failed, 7, 0⟩⟩]).1 = some (.healthy, 1) := by
  decide +kernel

/-! ## R5. observation: the manager's suspicion table is not tagged with what it suspects -/

/-- NOT covered by `mgr_alive_wins_over_stale_news` (its hypothesis excludes rounds in which a
    suspicion of `m` expires), and true of the code as it is: `handle_suspect` records a pending
    suspicion also when the CRDT `suspect` refused it as stale, and `expire_suspicions` fails the
    member at whatever incarnation is recorded by then.  Manager 0 sees member 1 Healthy@0; with
    `Alive(1, 1)` before the stale `Suspect(1, 0)` the next expiring round records member 1 Failed
    at the incarnation 1 it announced in order to refute exactly that suspicion; in the other
    order the `Alive` clears the suspicion and member 1 stays Healthy@1.  (Failed at 1 ≤ announced
    1: the clause "never failed above an announced incarnation" holds; the expiry is a local
    `fail` event, which the property does not require to commute.) -/
theorem stale_suspicion_stays_pending_witness :
    let g := (Mgr.new 0 100).handle (.sync 2 [⟨1, ⟨.healthy, 1, 0⟩⟩] 1)
    let hi := fun (x : Mgr) => (x.st.regs 1).map (fun r => (r.health, r.inc))
    hi ((g.run [.alive 1 1, .suspect 1 0]).expire [1]) = some (.failed, 1) ∧
    hi ((g.run [.suspect 1 0, .alive 1 1]).expire [1]) = some (.healthy, 1) := by
  decide +kernel

end Neumann.Gossip.Props
