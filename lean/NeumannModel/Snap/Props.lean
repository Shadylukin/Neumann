import NeumannModel.Snap.Lemmas
/-
  C07 — "Snapshots reproduce the store exactly and replace files atomically": property theorems.

  * header / detection / load are stated for every header, every byte string, every body.
  * atomicity is stated for every crash state of the real save's I/O sequence (any prefix of
    create-temp / write header / write body / sync_all / rename, the write in flight cut at any
    byte, rename atomic), every old file system, EVERY file name (the temp name `name ++ ".tmp"`
    never equals the name and is injective), and additionally under power loss (un-synced bytes of
    any file cut at any byte).
  * the clause "later saves keep working" is stated over SEQUENCES of saves: for every directory
    including an ARBITRARY leftover temp file (what an interrupted save leaves: any content, any
    length), every crash point of the next save shows old-or-new at the path and a completed save
    leaves exactly the new snapshot and no temp file (`save_over_stale_tmp_exact`,
    `two_saves_atomic_and_exact`, `any_crashes_then_save_exact`), for both save sequences. This
    rests on `File::create` truncating: for the variant that opens the temp file without truncation
    (`saveOpsKeep`, NOT the code) the final content is proved to be new ++ tail-of-stale, with a
    `decide` witness on a crash state of the real sequence.
  * the quantising format's value map is exact on every scalar (Bytes included), on pointers, on
    every vector that is not sent to tensor-train by the caller's configuration (raw branch and
    guarded id-list branch alike) and on every sparse value.
  * the embedding slab's snapshot form is bit-identical for every vector below the TT threshold.
  * `…_witness` theorems are about the code BEFORE the fixes 79f86251 / 56197952 (`…Old` functions of
    the model): they document what the fixed defects were and keep the regression inputs.
  Opaque third-party encoders are the fields of `Codec`; hypotheses on them are explicit.
-/
namespace Neumann.Snap.Props
open Neumann.Snap

/-! ## header -/

/-- every well-formed header survives `to_raw_bytes` / `from_raw_bytes`, whatever follows it -/
theorem header_roundtrip (h : Header) (hw : h.WF) (rest : Bytes) :
    decodeHeader (encodeHeader h ++ rest) = some (h, rest) :=
  decode_encode_append h hw rest

example : (newHeader true 12345).WF := by decide
example : decodeHeader (encodeHeader (newHeader true 12345) ++ [1, 2, 3]) = some (newHeader true 12345, [1, 2, 3]) := by
  decide +kernel

/-- the other direction: decoding is injective on byte strings (20 bytes determine the header) -/
theorem header_decode_encode (bs : Bytes) (hb : AllBytes bs) (h : Header) (rest : Bytes)
    (hd : decodeHeader bs = some (h, rest)) : encodeHeader h ++ rest = bs :=
  encode_decode bs hb h rest hd

example : AllBytes (encodeHeader (newHeader false 7) ++ [9]) := by decide

/-- a header is read iff at least 20 bytes are there -/
theorem header_needs_20_bytes (bs : Bytes) : (decodeHeader bs).isSome = decide (20 ≤ bs.length) :=
  decodeHeader_isSome bs

/-- `validate` accepts exactly magic "NEUM" with version 3 (flags and entry count are never checked) -/
theorem validate_ok_iff (h : Header) :
    validate h = .ok () ↔ (h.m0 = 78 ∧ h.m1 = 69 ∧ h.m2 = 85 ∧ h.m3 = 77 ∧ h.version = 3) := by
  rw [validate_ok, Header.magicOk, isMagic_iff]
  simp only [and_assoc, CURRENT_VERSION]

/-! ## detection -/

/-- the V3 loader is chosen exactly for contents that start with the four magic bytes;
    everything else — including files shorter than 4 bytes — goes to the legacy loader -/
theorem detect_version_correct (bs : Bytes) :
    detectVersion bs = .v3 ↔ ∃ rest, bs = 78 :: 69 :: 85 :: 77 :: rest := by
  unfold detectVersion
  split
  · next a b c d rest =>
    have hv : (if isMagic a b c d = true then Version.v3 else .v2) = .v3 ↔ isMagic a b c d = true := by
      cases isMagic a b c d <;> decide
    rw [hv, isMagic_iff]
    exact ⟨fun ⟨ha, hb, hc, hd⟩ => ⟨rest, by rw [ha, hb, hc, hd]⟩,
      fun ⟨_, h⟩ => by cases h; exact ⟨rfl, rfl, rfl, rfl⟩⟩
  · next hn => exact ⟨nofun, fun ⟨rest, h⟩ => (hn _ _ _ _ _ h).elim⟩

/-- every file written by `save_v3*` is detected as V3 -/
theorem detect_saved_is_v3 {σ : Type} (C : Codec σ) (compress : Bool) (count : Nat) (s : σ) :
    detectVersion (fileBytes C compress count s) = .v3 := rfl

/-- `route` (what the driver answers) is sound for `loadBytes`: header-level rejections are exactly
    the load's error, and the two V3 routes run exactly the named decoders on the remainder -/
theorem route_sound {σ : Type} (C : Codec σ) (bs : Bytes) :
    (route bs = .errIo → loadBytes C bs = .error .io) ∧
    (∀ e, route bs = .err e → loadBytes C bs = .error e) ∧
    (route bs = .v2 → loadBytes C bs = loadV2 C bs) ∧
    (route bs = .v3Plain → ∃ h body, decodeHeader bs = some (h, body) ∧
        loadBytes C bs = (match C.dec body with | none => .error .ser | some s => .ok s)) ∧
    (route bs = .v3Zstd → ∃ h body, decodeHeader bs = some (h, body) ∧
        loadBytes C bs = (match C.unzip body with
          | none => .error .io
          | some raw => match C.dec raw with | none => .error .ser | some s => .ok s)) := by
  -- in each case `route bs` is one constructor: four implications are vacuous, the fifth unfolds
  unfold route loadBytes loadV3
  cases detectVersion bs with
  | v2 => exact ⟨nofun, nofun, fun _ => rfl, nofun, nofun⟩
  | v3 =>
    cases decodeHeader bs with
    | none => exact ⟨fun _ => rfl, nofun, nofun, nofun, nofun⟩
    | some hb =>
      obtain ⟨h, body⟩ := hb
      dsimp only
      cases validate h with
      | error e => exact ⟨nofun, fun e' he => by cases he; rfl, nofun, nofun, nofun⟩
      | ok u =>
        cases h.isCompressed <;> dsimp only
        · exact ⟨nofun, nofun, nofun, fun _ => ⟨h, body, rfl, rfl⟩, nofun⟩
        · exact ⟨nofun, nofun, nofun, nofun, fun _ => ⟨h, body, rfl, rfl⟩⟩

/-! ## load of a saved file, and of its truncations -/

/-- the file `save` writes loads back to exactly the saved content, compressed or not -/
theorem load_saved_ok {σ : Type} (C : Codec σ) (hdec : ∀ s, C.dec (C.enc s) = some s)
    (hz : ∀ b, C.unzip (C.zip b) = some b) (compress : Bool) (count : Nat) (hc : count < U64) (s : σ) :
    loadBytes C (fileBytes C compress count s) = .ok s := by
  unfold loadBytes
  rw [detect_saved_is_v3]
  simp only [loadV3, fileBytes, decode_encode_append _ (newHeader_wf compress count hc), validate_newHeader,
    isCompressed_newHeader]
  cases compress
  · simp only [Bool.false_eq_true, if_false, hdec]
  · simp only [if_true, hz, hdec]

/-- what happens to EVERY strict prefix of a saved file, with no assumption on the decoders:
    < 4 bytes go to the legacy loader, 4..19 bytes are an I/O error, ≥ 20 bytes reach the body
    decoder with the truncated body -/
theorem load_truncated_route {σ : Type} (C : Codec σ) (compress : Bool) (count : Nat) (s : σ) (k : Nat) :
    (k < 4 → route ((fileBytes C compress count s).take k) = .v2) ∧
    (4 ≤ k → k < 20 → route ((fileBytes C compress count s).take k) = .errIo) := by
  have hlen : ((fileBytes C compress count s).take k).length ≤ k := by
    rw [List.length_take]; exact Nat.min_le_left _ _
  constructor
  · intro hk
    simp only [route, detectVersion_of_short _ (Nat.lt_of_le_of_lt hlen hk)]
  · intro h4 h20
    simp only [route, detectVersion_take _ k h4, detect_saved_is_v3,
      decodeHeader_none_of_short _ (Nat.lt_of_le_of_lt hlen h20)]

/-- Every strict prefix of a saved file is rejected — given that the opaque decoders reject the
    truncated inputs they are then confronted with (the harness checks these three facts on the
    real bitcode / zstd for every truncation point it materialises). -/
theorem load_rejects_truncated {σ : Type} (C : Codec σ) (compress : Bool) (count : Nat) (hc : count < U64) (s : σ)
    (hv2 : ∀ k, k < 4 → C.decV2 (([78, 69, 85, 77] : Bytes).take k) = none)
    (hplain : compress = false → ∀ k, k < (C.enc s).length → C.dec ((C.enc s).take k) = none)
    (hzstd : compress = true → ∀ k, k < (C.zip (C.enc s)).length → C.unzip ((C.zip (C.enc s)).take k) = none)
    (k : Nat) (hk : k < (fileBytes C compress count s).length) :
    ∃ e, loadBytes C ((fileBytes C compress count s).take k) = .error e := by
  by_cases h20 : k < 20
  · by_cases h4 : k < 4
    · -- a prefix of the magic goes to the legacy loader
      have hmagic : (fileBytes C compress count s).take k = ([78, 69, 85, 77] : Bytes).take k :=
        (Nat.min_eq_left (Nat.le_of_lt h4) ▸ List.take_take (l := fileBytes C compress count s) (i := k) (j := 4)).symm
      have hr := (route_sound C _).2.2.1 ((load_truncated_route C compress count s k).1 h4)
      exact ⟨.ser, by rw [hr, loadV2, hmagic, hv2 k h4]⟩
    · exact ⟨.io, (route_sound C _).1 ((load_truncated_route C compress count s k).2 (Nat.le_of_not_lt h4) h20)⟩
  · -- the header is complete; the body is a strict prefix of the saved body
    have h20 := Nat.le_of_not_lt h20
    have hklen : k - 20 < (if compress then C.zip (C.enc s) else C.enc s).length := by
      rw [fileBytes, List.length_append, encodeHeader_length] at hk
      omega
    unfold loadBytes
    rw [detectVersion_take _ k (Nat.le_trans (by decide) h20), detect_saved_is_v3]
    simp only [loadV3, fileBytes, take_encodeHeader_append _ _ k h20,
      decode_encode_append _ (newHeader_wf compress count hc), validate_newHeader, isCompressed_newHeader]
    cases compress
    · exact ⟨.ser, by simp only [Bool.false_eq_true, if_false, hplain rfl (k - 20) hklen]⟩
    · exact ⟨.io, by simp only [if_true, hzstd rfl (k - 20) hklen]⟩

/-- a concrete codec (identity encoders, legacy loader rejecting everything, decoders rejecting
    anything but the one saved body) satisfying every hypothesis above: they are not vacuous -/
def demoCodec (body : Bytes) : Codec Bytes :=
  { enc := fun s => s, dec := fun b => if b = body then some b else none,
    zip := fun b => 0 :: b, unzip := fun b => match b with | 0 :: r => (if r = body then some r else none) | _ => none,
    decV2 := fun _ => none }

example : ∃ e, loadBytes (demoCodec [1, 2, 3]) ((fileBytes (demoCodec [1, 2, 3]) true 5 [1, 2, 3]).take 22) = .error e :=
  ⟨.io, by decide +kernel⟩
example : loadBytes (demoCodec [1, 2, 3]) (fileBytes (demoCodec [1, 2, 3]) true 5 [1, 2, 3]) = .ok [1, 2, 3] := by decide +kernel

/-- `SlabRouter::from_bytes`: whatever the opaque decoder returns, a header other than NEUM/3 is refused -/
theorem from_bytes_validates {σ : Type} (decV3 : Bytes → Option (Header × σ)) (bs : Bytes) (s : σ) :
    fromBytes decV3 bs = .ok s ↔ ∃ h, decV3 bs = some (h, s) ∧ validate h = .ok () := by
  unfold fromBytes
  cases decV3 bs with
  | none => exact ⟨nofun, fun ⟨_, h, _⟩ => nomatch h⟩
  | some p =>
    obtain ⟨h, s'⟩ := p
    dsimp only
    cases hv : validate h with
    | error e => exact ⟨nofun, fun ⟨h', h1, h2⟩ => by cases h1; rw [hv] at h2; cases h2⟩
    | ok u => exact ⟨fun e => ⟨h, by cases e; rfl, hv⟩, fun ⟨_, h1, _⟩ => by cases h1; rfl⟩

/-! ## atomic replacement -/

section atomic
variable {π : Type} [DecidableEq π] {σ : Type}

theorem applyOp_create_ne (fs : FS π) (p q : π) (h : q ≠ p) : applyOp fs (.create p) q = fs q :=
  applyOp_avoids fs (.create p) q h

theorem applyOp_write_ne (fs : FS π) (p q : π) (bs : Bytes) (h : q ≠ p) : applyOp fs (.write p bs) q = fs q :=
  applyOp_avoids fs (.write p bs) q h

theorem applyOp_fsync_ne (fs : FS π) (p q : π) (h : q ≠ p) : applyOp fs (.fsync p) q = fs q :=
  applyOp_avoids fs (.fsync p) q h

/-- the state after the whole sequence is one of its crash states -/
theorem final_mem_crashStates (ops : List (IoOp π)) : ∀ fs : FS π, applyOps fs ops ∈ crashStates fs ops :=
  applyOps_mem_crashStates ops

theorem applyOp_write_same (fs : FS π) (p : π) (bs : Bytes) (f : File) (h : fs p = some f) :
    applyOp fs (.write p bs) p = some ⟨f.synced, f.pending ++ bs⟩ := by
  simp [applyOp, h]

theorem applyOp_fsync_same (fs : FS π) (p : π) (f : File) (h : fs p = some f) :
    applyOp fs (.fsync p) p = some ⟨f.synced ++ f.pending, []⟩ := by
  simp [applyOp, h]

theorem applyOp_rename_dst (fs : FS π) (a b : π) (f : File) (hne : a ≠ b) (h : fs a = some f) :
    applyOp fs (.rename a b) b = some f := by
  have : b ≠ a := fun e => hne e.symm
  simp [applyOp, hne, h, this]

/-- what `path` holds in every crash state of the save sequence, with or without the `sync_all`:
    the untouched old entry, or the complete new file (all of it synced with the `sync_all`, all
    of it pending without) -/
theorem save_crash_path_content (tmp path : π) (hne : tmp ≠ path) (fs0 : FS π) (hdr body : Bytes) (fsyncFirst : Bool) :
    ∀ st ∈ crashStates fs0 (saveOpsWith tmp path hdr body fsyncFirst),
      st path = fs0 path ∨
      st path = some (if fsyncFirst then ⟨hdr ++ body, []⟩ else ⟨[], hdr ++ body⟩) := by
  have hpt : path ≠ tmp := fun e => hne e.symm
  cases fsyncFirst
  · exact crashStates_then_rename tmp path [.create tmp, .write tmp hdr, .write tmp body]
      (by simp only [List.forall_mem_cons]; exact ⟨hpt, hpt, hpt, nofun⟩) fs0 _ hne (by simp [applyOps, applyOp])
  · exact crashStates_then_rename tmp path [.create tmp, .write tmp hdr, .write tmp body, .fsync tmp]
      (by simp only [List.forall_mem_cons]; exact ⟨hpt, hpt, hpt, hpt, nofun⟩) fs0 _ hne (by simp [applyOps, applyOp])

/-- atomic replacement for the sequence with or without the `sync_all` (process-crash model) -/
theorem save_crash_atomic_any_sync (C : Codec σ) (hdec : ∀ s, C.dec (C.enc s) = some s)
    (hz : ∀ b, C.unzip (C.zip b) = some b)
    (tmp path : π) (hne : tmp ≠ path) (fs0 : FS π) (new : σ) (compress : Bool) (count : Nat) (hc : count < U64)
    (fsyncFirst : Bool) :
    ∀ st ∈ crashStates fs0 (saveOpsWith tmp path (encodeHeader (newHeader compress count))
        (if compress then C.zip (C.enc new) else C.enc new) fsyncFirst),
      loadPath C st path = loadPath C fs0 path ∨ loadPath C st path = .ok new := by
  intro st hst
  rcases save_crash_path_content tmp path hne fs0 _ _ fsyncFirst st hst with h | h
  · left; simp [loadPath, h]
  · right
    have := load_saved_ok C hdec hz compress count hc new
    unfold fileBytes at this
    cases fsyncFirst <;> simp [loadPath, h, File.content, this]

/-- **Atomic replacement.** For every crash state of the real save sequence (any prefix of
    create-temp / write header / write body / sync_all / rename, the write in flight cut at any
    byte), loading the path gives exactly what it gave before the save began, or the complete new
    snapshot — for every old file system, every content, compressed or not, whenever the temp path
    is not the path itself (which `tmpName_ne` shows for every name). -/
theorem save_crash_atomic (C : Codec σ) (hdec : ∀ s, C.dec (C.enc s) = some s)
    (hz : ∀ b, C.unzip (C.zip b) = some b)
    (tmp path : π) (hne : tmp ≠ path) (fs0 : FS π) (new : σ) (compress : Bool) (count : Nat) (hc : count < U64) :
    ∀ st ∈ crashStates fs0 (saveOps tmp path (encodeHeader (newHeader compress count))
        (if compress then C.zip (C.enc new) else C.enc new)),
      loadPath C st path = loadPath C fs0 path ∨ loadPath C st path = .ok new :=
  save_crash_atomic_any_sync C hdec hz tmp path hne fs0 new compress count hc true

/-- the form the property is worded in: when the old snapshot was loadable, a crash never yields an
    error and never anything but old or new -/
theorem save_crash_atomic_old_or_new (C : Codec σ) (hdec : ∀ s, C.dec (C.enc s) = some s)
    (hz : ∀ b, C.unzip (C.zip b) = some b)
    (tmp path : π) (hne : tmp ≠ path) (fs0 : FS π) (old new : σ) (hold : loadPath C fs0 path = .ok old)
    (compress : Bool) (count : Nat) (hc : count < U64) :
    ∀ st ∈ crashStates fs0 (saveOps tmp path (encodeHeader (newHeader compress count))
        (if compress then C.zip (C.enc new) else C.enc new)),
      loadPath C st path = .ok old ∨ loadPath C st path = .ok new := by
  intro st hst
  have := save_crash_atomic C hdec hz tmp path hne fs0 new compress count hc st hst
  rwa [hold] at this

/-- the same for the quantising format's save (one write of the whole blob, sync_all or not, then
    rename): the path holds the old entry or exactly the blob -/
theorem saveq_crash_path_content (tmp path : π) (hne : tmp ≠ path) (fs0 : FS π) (blob : Bytes) (fsyncFirst : Bool) :
    ∀ st ∈ crashStates fs0 (saveOpsQWith tmp path blob fsyncFirst),
      st path = fs0 path ∨ st path = some (if fsyncFirst then ⟨blob, []⟩ else ⟨[], blob⟩) := by
  have hpt : path ≠ tmp := fun e => hne e.symm
  cases fsyncFirst
  · exact crashStates_then_rename tmp path [.create tmp, .write tmp blob]
      (by simp only [List.forall_mem_cons]; exact ⟨hpt, hpt, nofun⟩) fs0 _ hne (by simp [applyOps, applyOp])
  · exact crashStates_then_rename tmp path [.create tmp, .write tmp blob, .fsync tmp]
      (by simp only [List.forall_mem_cons]; exact ⟨hpt, hpt, hpt, nofun⟩) fs0 _ hne (by simp [applyOps, applyOp])

/-- atomic replacement for `save_snapshot_compressed`'s real sequence: in every crash state the
    path holds the old entry, or exactly the blob and all of it synced -/
theorem saveq_crash_atomic (tmp path : π) (hne : tmp ≠ path) (fs0 : FS π) (blob : Bytes) :
    ∀ st ∈ crashStates fs0 (saveOpsQ tmp path blob),
      st path = fs0 path ∨ st path = some ⟨blob, []⟩ := by
  intro st hst
  simpa using saveq_crash_path_content tmp path hne fs0 blob true st hst

end atomic

/-! ### the temp name -/

/-- `.tmp` is appended to the whole name: the temp path never equals the path -/
theorem tmpName_ne (name : List Char) : tmpName name ≠ name := by
  intro h
  have := congrArg List.length h
  simp [tmpName] at this

/-- two different snapshot names never share a temp name -/
theorem tmpName_injective (a b : List Char) (h : tmpName a = tmpName b) : a = b := by
  unfold tmpName at h
  exact List.append_cancel_right h

/-- **Atomic replacement for every file name**: with the temp path the code derives, no
    hypothesis on the name is left -/
theorem save_crash_atomic_every_path {σ : Type} (C : Codec σ) (hdec : ∀ s, C.dec (C.enc s) = some s)
    (hz : ∀ b, C.unzip (C.zip b) = some b)
    (name : List Char) (fs0 : FS (List Char)) (new : σ) (compress : Bool) (count : Nat) (hc : count < U64) :
    ∀ st ∈ crashStates fs0 (saveOps (tmpName name) name (encodeHeader (newHeader compress count))
        (if compress then C.zip (C.enc new) else C.enc new)),
      loadPath C st name = loadPath C fs0 name ∨ loadPath C st name = .ok new :=
  save_crash_atomic C hdec hz (tmpName name) name (tmpName_ne name) fs0 new compress count hc

/-- non-vacuity: a two-path file system with an old snapshot at the path (paths: `true` = temp) -/
def demoFS : FS Bool := fun p => if p then none else some ⟨fileBytes (demoCodec [9]) false 1 [9], []⟩

example : loadPath (demoCodec [9]) demoFS false = .ok [9] := by decide +kernel
example : (crashStates demoFS (saveOps true false (encodeHeader (newHeader false 1)) [9])).length = 25 := by
  decide +kernel
example : tmpName "snap.tmp".toList = "snap.tmp.tmp".toList ∧ tmpName "a.bin".toList ≠ tmpName "a.dat".toList := by
  decide +kernel

/-! ### power loss -/

/-- With `sync_all` before the rename, every power-loss content of the path in every crash state
    of the real sequence is the old file or the complete new file. -/
theorem save_fsync_power_loss_atomic {π : Type} [DecidableEq π] (tmp path : π) (hne : tmp ≠ path) (fs0 : FS π)
    (oldBytes : Bytes) (hold : fs0 path = some ⟨oldBytes, []⟩) (hdr body : Bytes) :
    ∀ st ∈ crashStates fs0 (saveOps tmp path hdr body),
      ∀ bs, PowerLossContent st path bs → bs = oldBytes ∨ bs = hdr ++ body := by
  intro st hst bs hp
  rcases save_crash_path_content tmp path hne fs0 hdr body true st hst with h | h
  · exact .inl (powerLoss_of_synced st path _ bs (h.trans hold) hp)
  · exact .inr (powerLoss_of_synced st path _ bs h hp)

/-- the same for the quantising save -/
theorem saveq_fsync_power_loss_atomic {π : Type} [DecidableEq π] (tmp path : π) (hne : tmp ≠ path) (fs0 : FS π)
    (oldBytes : Bytes) (hold : fs0 path = some ⟨oldBytes, []⟩) (blob : Bytes) :
    ∀ st ∈ crashStates fs0 (saveOpsQ tmp path blob),
      ∀ bs, PowerLossContent st path bs → bs = oldBytes ∨ bs = blob := by
  intro st hst bs hp
  rcases saveq_crash_atomic tmp path hne fs0 blob st hst with h | h
  · exact .inl (powerLoss_of_synced st path _ bs (h.trans hold) hp)
  · exact .inr (powerLoss_of_synced st path _ bs h hp)

/-- **Crash or power loss, every file name, at the level of `load`**: whatever survives at the
    path loads as what the old (fully synced) file loaded as, or as the complete new snapshot. -/
theorem save_power_loss_load_atomic {σ : Type} (C : Codec σ) (hdec : ∀ s, C.dec (C.enc s) = some s)
    (hz : ∀ b, C.unzip (C.zip b) = some b)
    (name : List Char) (fs0 : FS (List Char)) (oldBytes : Bytes) (hold : fs0 name = some ⟨oldBytes, []⟩)
    (new : σ) (compress : Bool) (count : Nat) (hc : count < U64) :
    ∀ st ∈ crashStates fs0 (saveOps (tmpName name) name (encodeHeader (newHeader compress count))
        (if compress then C.zip (C.enc new) else C.enc new)),
      ∀ bs, PowerLossContent st name bs → loadBytes C bs = loadBytes C oldBytes ∨ loadBytes C bs = .ok new := by
  intro st hst bs hp
  rcases save_fsync_power_loss_atomic (tmpName name) name (tmpName_ne name) fs0 oldBytes hold _ _ st hst bs hp with h | h
  · left; rw [h]
  · right; rw [h]; exact load_saved_ok C hdec hz compress count hc new

example : ∃ bs, PowerLossContent (applyOps demoFS (saveOps true false (encodeHeader (newHeader false 1)) [9])) false bs :=
  ⟨encodeHeader (newHeader false 1) ++ [9], ⟨encodeHeader (newHeader false 1) ++ [9], []⟩, by decide, 0, by decide, by decide⟩

/-! ### a later save over whatever an interrupted save left behind (two saves, any number of saves)

  The crash clause of the property is about a SEQUENCE of saves: an interrupted save leaves its temp
  file behind (any prefix of the snapshot it was writing, or all of it), and the next save to the same
  path must still replace the path by exactly its own snapshot. That rests on the temp file being
  opened with create-or-TRUNCATE (`File::create`); the theorems below are stated for every initial
  directory, the leftover temp file being an explicit, arbitrary `stale : File`. -/

section stale
variable {π : Type} [DecidableEq π] {σ : Type}

theorem set_other (fs : FS π) (p q : π) (f : Option File) (h : q ≠ p) : (fs.set p f) q = fs q := by
  simp [FS.set, h]

/-- the driver's direct computation of one crash point inside an operation is the model's enumeration -/
theorem partialAt_eq (fs : FS π) (op : IoOp π) (k : Nat) : partialAt fs op k = (partials fs op)[k]? := by
  have hr (n : Nat) (f : Nat → FS π) : (if k < n then some (f k) else none) = ((List.range n).map f)[k]? := by
    split
    · next h => rw [List.getElem?_map, List.getElem?_range h]; rfl
    · next h => rw [List.getElem?_eq_none (by rw [List.length_map, List.length_range]; exact Nat.le_of_not_lt h)]
  cases op with
  | write p bs => exact hr bs.length fun k => applyOp fs (.write p (bs.take k))
  | writeAt p off bs => exact hr bs.length fun k => applyOp fs (.writeAt p off (bs.take k))
  | create p | openKeep p | fsync p | rename a b => cases k <;> rfl

/-- crash states of the rest of a sequence, after a completed prefix, are crash states of the whole -/
theorem crashStates_append (a b : List (IoOp π)) :
    ∀ (fs st : FS π), st ∈ crashStates (applyOps fs a) b → st ∈ crashStates fs (a ++ b) := by
  induction a with
  | nil => intro fs st h; simpa [applyOps] using h
  | cons op a ih =>
    intro fs st h
    simp only [List.cons_append, crashStates, List.mem_append]
    exact .inr (ih _ _ (by simpa [applyOps] using h))

/-- **A completed save leaves exactly the new snapshot at the path** — whatever the directory held
    before: the temp file is gone and every other file is untouched. -/
theorem save_final_exact (tmp path : π) (hne : tmp ≠ path) (fs0 : FS π) (hdr body : Bytes) :
    applyOps fs0 (saveOps tmp path hdr body) path = some ⟨hdr ++ body, []⟩ ∧
    applyOps fs0 (saveOps tmp path hdr body) tmp = none ∧
    ∀ q, q ≠ tmp → q ≠ path → applyOps fs0 (saveOps tmp path hdr body) q = fs0 q := by
  have hpt : path ≠ tmp := fun e => hne e.symm
  refine ⟨?_, ?_, ?_⟩
  · simp [saveOps, saveOpsWith, applyOps, applyOp, FS.set, hne, hpt]
  · simp [saveOps, saveOpsWith, applyOps, applyOp, FS.set, hne]
  · intro q h1 h2
    simp [saveOps, saveOpsWith, applyOps, applyOp, FS.set, hne, h1, h2]

/-- the same for the quantising save -/
theorem saveq_final_exact (tmp path : π) (hne : tmp ≠ path) (fs0 : FS π) (blob : Bytes) :
    applyOps fs0 (saveOpsQ tmp path blob) path = some ⟨blob, []⟩ ∧
    applyOps fs0 (saveOpsQ tmp path blob) tmp = none ∧
    ∀ q, q ≠ tmp → q ≠ path → applyOps fs0 (saveOpsQ tmp path blob) q = fs0 q := by
  have hpt : path ≠ tmp := fun e => hne e.symm
  refine ⟨?_, ?_, ?_⟩
  · simp [saveOpsQ, saveOpsQWith, applyOps, applyOp, FS.set, hne, hpt]
  · simp [saveOpsQ, saveOpsQWith, applyOps, applyOp, FS.set, hne]
  · intro q h1 h2
    simp [saveOpsQ, saveOpsQWith, applyOps, applyOp, FS.set, hne, h1, h2]

/-- **Save over a stale temp file, completed.** With ANY leftover temp file (any content, any
    length, synced or not) in ANY directory, the completed save leaves at the path exactly the new
    snapshot — not one byte of the stale file —, no temp file, and every other file as it was. -/
theorem save_over_stale_tmp_exact (tmp path : π) (hne : tmp ≠ path) (fs0 : FS π) (stale : File) (hdr body : Bytes) :
    applyOps (fs0.set tmp (some stale)) (saveOps tmp path hdr body) path = some ⟨hdr ++ body, []⟩ ∧
    applyOps (fs0.set tmp (some stale)) (saveOps tmp path hdr body) tmp = none ∧
    ∀ q, q ≠ tmp → q ≠ path → applyOps (fs0.set tmp (some stale)) (saveOps tmp path hdr body) q = fs0 q := by
  obtain ⟨h1, h2, h3⟩ := save_final_exact tmp path hne (fs0.set tmp (some stale)) hdr body
  exact ⟨h1, h2, fun q hq hq' => by rw [h3 q hq hq', set_other _ _ _ _ hq]⟩

/-- the same for the quantising save -/
theorem saveq_over_stale_tmp_exact (tmp path : π) (hne : tmp ≠ path) (fs0 : FS π) (stale : File) (blob : Bytes) :
    applyOps (fs0.set tmp (some stale)) (saveOpsQ tmp path blob) path = some ⟨blob, []⟩ ∧
    applyOps (fs0.set tmp (some stale)) (saveOpsQ tmp path blob) tmp = none ∧
    ∀ q, q ≠ tmp → q ≠ path → applyOps (fs0.set tmp (some stale)) (saveOpsQ tmp path blob) q = fs0 q := by
  obtain ⟨h1, h2, h3⟩ := saveq_final_exact tmp path hne (fs0.set tmp (some stale)) blob
  exact ⟨h1, h2, fun q hq hq' => by rw [h3 q hq hq', set_other _ _ _ _ hq]⟩

/-- **Save over a stale temp file, interrupted.** Every crash point of a save that starts with an
    arbitrary leftover temp file shows at the path what was there before, or the complete new file. -/
theorem save_over_stale_tmp_crash_content (tmp path : π) (hne : tmp ≠ path) (fs0 : FS π) (stale : File)
    (hdr body : Bytes) :
    ∀ st ∈ crashStates (fs0.set tmp (some stale)) (saveOps tmp path hdr body),
      st path = fs0 path ∨ st path = some ⟨hdr ++ body, []⟩ := by
  intro st hst
  have hpt : path ≠ tmp := fun e => hne e.symm
  have := save_crash_path_content tmp path hne (fs0.set tmp (some stale)) hdr body true st hst
  rwa [set_other _ _ _ _ hpt] at this

/-- the same for the quantising save -/
theorem saveq_over_stale_tmp_crash_content (tmp path : π) (hne : tmp ≠ path) (fs0 : FS π) (stale : File)
    (blob : Bytes) :
    ∀ st ∈ crashStates (fs0.set tmp (some stale)) (saveOpsQ tmp path blob),
      st path = fs0 path ∨ st path = some ⟨blob, []⟩ := by
  intro st hst
  have hpt : path ≠ tmp := fun e => hne e.symm
  have := saveq_crash_atomic tmp path hne (fs0.set tmp (some stale)) blob st hst
  rwa [set_other _ _ _ _ hpt] at this

/-- **At the level of `load`, every file name**: with an arbitrary leftover `name.tmp`, every crash
    point of the save loads as what the path loaded as before, or as the complete new snapshot; and
    the completed save loads as exactly the new snapshot. -/
theorem save_over_stale_tmp_load (C : Codec σ) (hdec : ∀ s, C.dec (C.enc s) = some s)
    (hz : ∀ b, C.unzip (C.zip b) = some b)
    (name : List Char) (fs0 : FS (List Char)) (stale : File) (new : σ) (compress : Bool) (count : Nat) (hc : count < U64) :
    (∀ st ∈ crashStates (fs0.set (tmpName name) (some stale))
        (saveOps (tmpName name) name (encodeHeader (newHeader compress count))
          (if compress then C.zip (C.enc new) else C.enc new)),
      loadPath C st name = loadPath C fs0 name ∨ loadPath C st name = .ok new) ∧
    loadPath C (applyOps (fs0.set (tmpName name) (some stale))
        (saveOps (tmpName name) name (encodeHeader (newHeader compress count))
          (if compress then C.zip (C.enc new) else C.enc new))) name = .ok new := by
  have hne := tmpName_ne name
  constructor
  · intro st hst
    have := save_crash_atomic C hdec hz (tmpName name) name hne (fs0.set (tmpName name) (some stale)) new
      compress count hc st hst
    have hl : loadPath C (fs0.set (tmpName name) (some stale)) name = loadPath C fs0 name := by
      simp [loadPath, set_other _ _ _ _ (fun e => hne e.symm)]
    rwa [hl] at this
  · have h := (save_over_stale_tmp_exact (tmpName name) name hne fs0 stale
      (encodeHeader (newHeader compress count)) (if compress then C.zip (C.enc new) else C.enc new)).1
    have hl := load_saved_ok C hdec hz compress count hc new
    unfold fileBytes at hl
    simp [loadPath, h, File.content, hl]

/-- **Two saves.** The first save (of anything) is cut at ANY crash point — leaving no temp file, a
    partial one or a complete one. The second save, run on that directory, is atomic again: each of
    ITS crash points shows at the path what the path held before the first save, the complete first
    snapshot, or the complete second one; and when it completes, the path holds exactly the second
    snapshot and the temp file is gone. -/
theorem two_saves_atomic_and_exact (tmp path : π) (hne : tmp ≠ path) (fs0 : FS π) (hdr1 body1 hdr2 body2 : Bytes) :
    ∀ st1 ∈ crashStates fs0 (saveOps tmp path hdr1 body1),
      (∀ st2 ∈ crashStates st1 (saveOps tmp path hdr2 body2),
        st2 path = fs0 path ∨ st2 path = some ⟨hdr1 ++ body1, []⟩ ∨ st2 path = some ⟨hdr2 ++ body2, []⟩) ∧
      applyOps st1 (saveOps tmp path hdr2 body2) path = some ⟨hdr2 ++ body2, []⟩ ∧
      applyOps st1 (saveOps tmp path hdr2 body2) tmp = none := by
  intro st1 h1
  exact ⟨fun st2 h2 => old_or_new_trans (save_crash_path_content tmp path hne fs0 hdr1 body1 true st1 h1)
      (save_crash_path_content tmp path hne st1 hdr2 body2 true st2 h2),
    (save_final_exact tmp path hne st1 hdr2 body2).1, (save_final_exact tmp path hne st1 hdr2 body2).2.1⟩

/-- two saves through the quantising format -/
theorem saveq_two_saves_atomic_and_exact (tmp path : π) (hne : tmp ≠ path) (fs0 : FS π) (blob1 blob2 : Bytes) :
    ∀ st1 ∈ crashStates fs0 (saveOpsQ tmp path blob1),
      (∀ st2 ∈ crashStates st1 (saveOpsQ tmp path blob2),
        st2 path = fs0 path ∨ st2 path = some ⟨blob1, []⟩ ∨ st2 path = some ⟨blob2, []⟩) ∧
      applyOps st1 (saveOpsQ tmp path blob2) path = some ⟨blob2, []⟩ ∧
      applyOps st1 (saveOpsQ tmp path blob2) tmp = none := by
  intro st1 h1
  exact ⟨fun st2 h2 => old_or_new_trans (saveq_crash_atomic tmp path hne fs0 blob1 st1 h1)
      (saveq_crash_atomic tmp path hne st1 blob2 st2 h2),
    (saveq_final_exact tmp path hne st1 blob2).1, (saveq_final_exact tmp path hne st1 blob2).2.1⟩

/-- **Any number of interrupted saves, then one that completes.** After any sequence of saves each
    cut at any crash point, the path holds what it held at the start or the complete snapshot of one
    of those saves — the last one that got as far as its rename —, and the next completed save leaves
    exactly its own snapshot and no temp file: saving keeps working. -/
theorem any_crashes_then_save_exact (tmp path : π) (hne : tmp ≠ path) (fs0 : FS π)
    (saves : List (Bytes × Bytes)) (st : FS π) (h : AfterCrashes tmp path fs0 saves st) (hdr body : Bytes) :
    (st path = fs0 path ∨ ∃ hb ∈ saves, st path = some ⟨hb.1 ++ hb.2, []⟩) ∧
    (∀ st' ∈ crashStates st (saveOps tmp path hdr body), st' path = st path ∨ st' path = some ⟨hdr ++ body, []⟩) ∧
    applyOps st (saveOps tmp path hdr body) path = some ⟨hdr ++ body, []⟩ ∧
    applyOps st (saveOps tmp path hdr body) tmp = none := by
  refine ⟨?_, fun st' h' => by simpa using save_crash_path_content tmp path hne st hdr body true st' h',
    (save_final_exact tmp path hne st hdr body).1, (save_final_exact tmp path hne st hdr body).2.1⟩
  induction h with
  | none => exact .inl rfl
  | more hb _ hmem ih =>
    have b := save_crash_path_content tmp path hne _ hb.1 hb.2 true _ hmem
    simp only [if_true] at b
    rcases b with b | b
    · rcases ih with a | ⟨x, hx, a⟩
      · exact .inl (b.trans a)
      · exact .inr ⟨x, List.mem_append_left _ hx, b.trans a⟩
    · exact .inr ⟨hb, by simp, b⟩

/-! #### the variant that does not truncate (`OpenOptions::new().write(true).create(true)`): NOT the code -/

/-- what a completed non-truncating save leaves at the path, for every leftover temp file: the new
    snapshot FOLLOWED BY the tail of the stale file beyond the new snapshot's length -/
theorem save_no_truncate_final_content (tmp path : π) (hne : tmp ≠ path) (fs0 : FS π) (stale : File) (hdr body : Bytes) :
    applyOps (fs0.set tmp (some stale)) (saveOpsKeep tmp path hdr body) path =
      some ⟨hdr ++ body ++ stale.content.drop (hdr.length + body.length), []⟩ := by
  have hpt : path ≠ tmp := fun e => hne e.symm
  simp [saveOpsKeep, applyOps, applyOp, FS.set, hne, hpt, File.content, overlay_zero, overlay_after_prefix,
    List.drop_drop]

/-- the same for the quantising save -/
theorem saveq_no_truncate_final_content (tmp path : π) (hne : tmp ≠ path) (fs0 : FS π) (stale : File) (blob : Bytes) :
    applyOps (fs0.set tmp (some stale)) (saveOpsQKeep tmp path blob) path =
      some ⟨blob ++ stale.content.drop blob.length, []⟩ := by
  have hpt : path ≠ tmp := fun e => hne e.symm
  simp [saveOpsQKeep, applyOps, applyOp, FS.set, hne, hpt, File.content, overlay_zero]

/-- so the non-truncating save is exact precisely when the leftover temp file is not longer than
    the new snapshot — which is why ordinary save / load round trips cannot tell the two apart -/
theorem save_no_truncate_exact_iff (tmp path : π) (hne : tmp ≠ path) (fs0 : FS π) (stale : File) (hdr body : Bytes) :
    applyOps (fs0.set tmp (some stale)) (saveOpsKeep tmp path hdr body) path = some ⟨hdr ++ body, []⟩ ↔
      stale.content.length ≤ hdr.length + body.length := by
  rw [save_no_truncate_final_content tmp path hne]
  simp only [Option.some.injEq, File.mk.injEq, and_true]
  constructor
  · intro h
    have := congrArg List.length h
    simp only [List.length_append, List.length_drop] at this
    omega
  · intro h
    rw [List.drop_eq_nil_of_le h]; simp

/-- with no leftover temp file the two variants agree at the path -/
theorem save_no_truncate_same_without_stale (tmp path : π) (hne : tmp ≠ path) (fs0 : FS π) (h0 : fs0 tmp = none)
    (hdr body : Bytes) :
    applyOps fs0 (saveOpsKeep tmp path hdr body) path = applyOps fs0 (saveOps tmp path hdr body) path := by
  have hpt : path ≠ tmp := fun e => hne e.symm
  rw [(save_final_exact tmp path hne fs0 hdr body).1]
  simp [saveOpsKeep, applyOps, applyOp, FS.set, hne, hpt, h0, File.content, overlay_zero, overlay_at_end]

end stale

/-- a self-delimiting body codec (length byte, then that many bytes; nothing may follow — bitcode's
    "Expected EOF"): satisfies the round-trip hypotheses and rejects a body with a stale tail -/
def framedCodec : Codec Bytes :=
  { enc := fun s => s.length :: s,
    dec := fun b => match b with | n :: r => (if r.length = n then some r else none) | [] => none,
    zip := fun b => 0 :: b, unzip := fun b => match b with | 0 :: r => some r | _ => none,
    decV2 := fun _ => none }

example : (∀ s, framedCodec.dec (framedCodec.enc s) = some s) ∧ (∀ b, framedCodec.unzip (framedCodec.zip b) = some b) :=
  ⟨fun s => by simp [framedCodec], fun b => by simp [framedCodec]⟩

/-- old snapshot `[1]` at the path (paths: `true` = temp), no temp file -/
def staleFS0 : FS Bool := fun p => if p then none else some ⟨fileBytes framedCodec false 1 [1], []⟩

/-- the directory an interrupted save of the larger content `[5,6,7,8,5,6,7,8]` leaves: the complete
    29-byte temp file written, the crash hits before `sync_all` / rename -/
def staleFS1 : FS Bool :=
  applyOps staleFS0 [.create true, .write true (encodeHeader (newHeader false 8)),
    .write true (framedCodec.enc [5, 6, 7, 8, 5, 6, 7, 8])]

/-- non-vacuity: that directory IS a crash state of the real save sequence, its temp file (29 bytes)
    is longer than the next snapshot (23 bytes), and the old snapshot is still what loads -/
example : staleFS1 ∈ crashStates staleFS0 (saveOps true false (encodeHeader (newHeader false 8))
    (framedCodec.enc [5, 6, 7, 8, 5, 6, 7, 8])) := by
  have := crashStates_append
    [.create true, .write true (encodeHeader (newHeader false 8)), .write true (framedCodec.enc [5, 6, 7, 8, 5, 6, 7, 8])]
    [.fsync true, .rename true false] staleFS0 staleFS1 (by simp [staleFS1, crashStates, partials])
  simpa [saveOps, saveOpsWith] using this
example : (staleFS1 true).map (·.content.length) = some 29 ∧
    (fileBytes framedCodec false 2 [2, 3]).length = 23 ∧ loadPath framedCodec staleFS1 false = .ok [1] := by decide +kernel
/-- the current code on it: the next (smaller) save is exact and loads -/
example : applyOps staleFS1 (saveOps true false (encodeHeader (newHeader false 2)) (framedCodec.enc [2, 3])) false =
      some ⟨fileBytes framedCodec false 2 [2, 3], []⟩ ∧
    loadPath framedCodec (applyOps staleFS1 (saveOps true false (encodeHeader (newHeader false 2)) (framedCodec.enc [2, 3])))
      false = .ok [2, 3] := by decide +kernel

/-- **The non-truncating variant violates the two-save theorem**: on the directory an interrupted
    larger save left (old snapshot intact and loadable), the next save of the smaller `[2,3]` returns
    with the path holding the new snapshot followed by the last 6 bytes of the stale temp file; that
    file loads as an error, the previous good snapshot is gone — and the statement
    `save_over_stale_tmp_exact` is false of `saveOpsKeep`. -/
theorem save_no_truncate_stale_tmp_witness :
    loadPath framedCodec staleFS1 false = .ok [1] ∧
    applyOps staleFS1 (saveOpsKeep true false (encodeHeader (newHeader false 2)) (framedCodec.enc [2, 3])) false =
      some ⟨fileBytes framedCodec false 2 [2, 3] ++ [7, 8, 5, 6, 7, 8], []⟩ ∧
    loadPath framedCodec (applyOps staleFS1 (saveOpsKeep true false (encodeHeader (newHeader false 2)) (framedCodec.enc [2, 3])))
      false = .error .ser ∧
    ¬ (∀ (fs0 : FS Bool) (stale : File) (hdr body : Bytes),
        applyOps (fs0.set true (some stale)) (saveOpsKeep true false hdr body) false = some ⟨hdr ++ body, []⟩) := by
  refine ⟨by decide +kernel, by decide +kernel, by decide +kernel, fun h => ?_⟩
  have := h staleFS0 ⟨[], [9, 9]⟩ [] [1]
  revert this
  decide +kernel

/-- the quantising save without truncation: blob `[1]` over a stale `[9,9]` leaves `[1,9]` -/
theorem saveq_no_truncate_stale_tmp_witness :
    applyOps (staleFS0.set true (some ⟨[], [9, 9]⟩)) (saveOpsQKeep true false [1]) false = some ⟨[1, 9], []⟩ ∧
    applyOps (staleFS0.set true (some ⟨[], [9, 9]⟩)) (saveOpsQ true false [1]) false = some ⟨[1], []⟩ := by
  decide +kernel

/-! ### before 56197952 (`…Old`): what the fix removed -/

/-- `with_extension("tmp")` mapped a `*.tmp` name to itself, and two names differing only in their
    extension to the same temp name -/
theorem tmpName_fixed_witness :
    tmpNameOld "snap.tmp".toList = "snap.tmp".toList ∧ tmpNameOld "a.bin".toList = tmpNameOld "a.dat".toList := by
  decide +kernel

/-- and with the temp path equal to the path the save is an in-place overwrite: `File::create`
    truncates the only copy, and there is a crash state in which the path holds a torn file that
    loads as neither old nor new -/
theorem save_crash_same_path_witness :
    ∃ st ∈ crashStates (fun _ : Unit => some ⟨fileBytes (demoCodec [9]) false 1 [9], []⟩)
        (saveOpsOld () () (encodeHeader (newHeader false 1)) [9]),
      loadPath (demoCodec [9]) st () = .error .ser := by
  refine ⟨applyOp (fun _ : Unit => some ⟨fileBytes (demoCodec [9]) false 1 [9], []⟩) (.create ()), ?_, ?_⟩
  · simp only [saveOpsOld, saveOpsWith, List.cons_append, List.nil_append, crashStates, partials, List.mem_append,
      List.mem_cons, List.mem_map, List.mem_range]
    right; left
    exact ⟨0, by decide, by funext u; cases u; simp [applyOp, FS.set]⟩
  · decide +kernel

/-- Without the `sync_all`, a power loss after the rename could leave a torn file at the path:
    the final state's file has all its bytes un-synced, the empty prefix is a possible durable
    content, and it loads as an error. -/
theorem save_power_loss_witness :
    ∃ st ∈ crashStates demoFS (saveOpsOld true false (encodeHeader (newHeader false 1)) [9]),
      ∃ bs, PowerLossContent st false bs ∧ loadBytes (demoCodec [9]) bs = .error .ser := by
  refine ⟨applyOps demoFS (saveOpsOld true false (encodeHeader (newHeader false 1)) [9]),
    final_mem_crashStates _ _, [], ?_, by decide⟩
  · exact ⟨⟨[], encodeHeader (newHeader false 1) ++ [9]⟩, by decide, 0, by decide, by decide⟩

/-! ## the quantising format: scalars -/

/-- every scalar survives the quantising format: null, bool, every int, every float bit pattern
    (NaN payloads, ±inf, -0.0), every string, every byte string -/
theorem compressed_scalar_exact (s : Scalar) : decompressScalar (compressScalar s) = s := by
  cases s <;> rfl

/-- before 79f86251 `Bytes([1,2,3])` came back as `String("bytes:3")` -/
theorem compressed_bytes_witness :
    decompressScalar (compressScalarOld (.bytes [1, 2, 3])) = .str "bytes:3" ∧
    ¬ (∀ s : Scalar, decompressScalar (compressScalarOld s) = s) := by
  refine ⟨by decide, fun h => ?_⟩
  have := h (.bytes [1, 2, 3])
  revert this
  decide +kernel

/-- and no byte string at all survived: the loss was total, not an edge case -/
theorem compressed_bytes_never_exact_witness (b : List Nat) (ttRecon : List Nat → List Nat) (cfg : CConfig) (key field : Name) :
    roundValueOld ttRecon cfg key field (.scalar (.bytes b)) ≠ .scalar (.bytes b) := by
  simp [roundValueOld, compressValueOld, compressScalarOld, decompressValue, decompressScalar]

/-! ## the quantising format: pointers, vectors, sparse values -/

/-- pointers and pointer lists are exact under every configuration -/
theorem compressed_pointer_exact (ttRecon : List Nat → List Nat) (cfg : CConfig) (key field : Name) :
    (∀ p, roundValue ttRecon cfg key field (.pointer p) = .pointer p) ∧
    (∀ ps, roundValue ttRecon cfg key field (.pointers ps) = .pointers ps) := by
  constructor <;> intro _ <;> rfl

/-- **Every dense vector that the caller's configuration does not send to tensor-train comes back
    bit-identical** — whatever its length, content (NaN payloads, -0.0, subnormals) and field name:
    the raw branch stores the bits, and the id-list branch is taken only when the `u64` casts are
    exact, after which `decompress_ids ∘ compress_ids` is the identity (C20). -/
theorem compressed_vector_bit_identical (ttRecon : List Nat → List Nat) (cfg : CConfig) (key field : Name)
    (v : List Nat) (htt : (isEmbeddingField key field && cfg.ttMode) = false) :
    roundValue ttRecon cfg key field (.vector v) = .vector v := by
  simp only [roundValue, compressValue, compressVector, htt, Bool.false_eq_true, if_false]
  split
  · rename_i hg
    simp only [Bool.and_eq_true, beq_iff_eq] at hg
    simp only [decompressValue]
    rw [Codec.Props.decompress_compress_ids _ (map_f32ToU64_lt v), hg.2]
  · rfl

example : (isEmbeddingField "user:1".toList "ids".toList && (CConfig.mk true true true).ttMode) = false := by decide +kernel
/-- both branches occur: `[1.0, 2.0]` in a field called `ids` is stored as an id list, `[1.5]` raw -/
example :
    (looksLikeIdList [0x3f800000, 0x40000000] "ids".toList &&
      (([0x3f800000, 0x40000000].map f32ToU64).map u64ToF32 == [0x3f800000, 0x40000000])) = true ∧
    (looksLikeIdList [0x3fc00000] "ids".toList && (([0x3fc00000].map f32ToU64).map u64ToF32 == [0x3fc00000])) = false := by
  decide +kernel

/-- with no TT mode configured, every vector of every key and field is bit-identical -/
theorem compressed_vector_exact_without_tt (ttRecon : List Nat → List Nat) (delta rle : Bool) (key field : Name)
    (v : List Nat) : roundValue ttRecon ⟨false, delta, rle⟩ key field (.vector v) = .vector v :=
  compressed_vector_bit_identical ttRecon _ key field v (by simp)

/-- **A sparse value comes back as the same sparse value** (dimension, positions, values), under
    every configuration — it never goes through tensor-train or the id-list heuristics -/
theorem compressed_sparse_exact (ttRecon : List Nat → List Nat) (cfg : CConfig) (key field : Name)
    (dim : Nat) (ps xs : List Nat) (hps : ∀ p ∈ ps, p < U32) :
    roundValue ttRecon cfg key field (.sparse dim ps xs) = .sparse dim ps xs := by
  simp only [roundValue, compressValue, decompressValue]
  rw [sparse_positions_roundtrip ps hps]

example : ∀ p ∈ [0, 7, 4294967295], p < U32 := by decide

/-- **Every field value** of an entry whose vector fields are not sent to tensor-train by the
    caller's configuration survives save + load of the quantising format exactly -/
theorem compressed_value_exact (ttRecon : List Nat → List Nat) (cfg : CConfig) (key field : Name) (v : TValue)
    (htt : (isEmbeddingField key field && cfg.ttMode) = false)
    (hps : ∀ dim ps xs, v = .sparse dim ps xs → ∀ p ∈ ps, p < U32) :
    roundValue ttRecon cfg key field v = v := by
  cases v with
  | scalar s =>
    simp only [roundValue, compressValue, decompressValue]
    rw [compressed_scalar_exact]
  | vector v => exact compressed_vector_bit_identical ttRecon cfg key field v htt
  | sparse dim ps xs => exact compressed_sparse_exact ttRecon cfg key field dim ps xs (hps dim ps xs rfl)
  | pointer p => rfl
  | pointers ps => rfl

/-- before 56197952 a vector stored in a field called `ids` (or `*_ids`) was cast to u64 and back
    whatever it held: `[1.5]` came back as `[1.0]` (delta encoding on, no TT involved) -/
theorem compressed_ids_field_witness :
    roundValueOld id ⟨false, true, true⟩ "user:1".toList "ids".toList (.vector [0x3fc00000]) = .vector [0x3f800000] ∧
    roundValue id ⟨false, true, true⟩ "user:1".toList "ids".toList (.vector [0x3fc00000]) = .vector [0x3fc00000] := by
  have hc : Codec.compressIds [1] = [1] := by
    simp [Codec.compressIds, Codec.deltaEncode, Codec.deltaGo, Codec.varintEncode, Codec.varint1]
  refine ⟨?_, compressed_vector_bit_identical _ _ _ _ _ (by decide)⟩
  have h1 : List.map f32ToU64 [0x3fc00000] = [1] := by decide
  have h2 : (isEmbeddingField "user:1".toList "ids".toList && (CConfig.mk false true true).ttMode) = false := by decide
  have h3 : ((CConfig.mk false true true).delta && looksLikeIdList [0x3fc00000] "ids".toList) = true := by decide
  have h4 : (Codec.decompressIds [1]).map u64ToF32 = [0x3f800000] := by decide
  simp only [roundValueOld, compressValueOld, compressVectorOld, h2, h3, h1, hc, decompressValue, h4,
    Bool.false_eq_true, if_false, if_true]

/-- before 56197952 a sparse vector never came back sparse: it was densified on save and reloaded
    as `Vector` -/
theorem compressed_sparse_kind_witness (ttRecon : List Nat → List Nat) (cfg : CConfig) (key field : Name)
    (dim : Nat) (ps xs : List Nat) :
    ∀ d' ps' xs', roundValueOld ttRecon cfg key field (.sparse dim ps xs) ≠ .sparse d' ps' xs' := by
  intro d' ps' xs'
  simp only [roundValueOld, compressValueOld, compressVectorOld]
  repeat' split
  all_goals simp [decompressValue]

/-- the quantising header accepts exactly magic NEUM with version ≤ 3 -/
theorem validateC_ok_iff (a b c d v : Nat) :
    validateC a b c d v = .ok () ↔ (a = 78 ∧ b = 69 ∧ c = 85 ∧ d = 77 ∧ v ≤ 3) := by
  rw [validateC_ok, isMagic_iff]
  simp only [and_assoc, C_VERSION]

/-! ## the embedding slab's snapshot form (every v3 snapshot) -/

/-- **Every vector below the TT threshold is bit-identical** through the embedding slab's snapshot
    form: no condition on its entries (tiny values, -0.0, NaN payloads included), whichever of the
    dense / sparse forms the `|x| > 1e-6` count picks -/
theorem short_vector_bit_identical (ttOk : List Nat → Bool) (ttRecon : List Nat → List Nat) (v : List Nat)
    (hlen : v.length < TT_MIN_DIMENSION) :
    toDense ttRecon (fromDense ttOk v) = v :=
  toDense_fromDense_of_not_tt ttOk ttRecon v (Nat.le_trans (Nat.le_of_lt hlen) (by decide))
    (fromDense_ne_tt_of_short ttOk v hlen)

example : toDense id (fromDense (fun _ => true) [0x350637bd, 0, 0x80000000, 0x7fc00001]) =
    [0x350637bd, 0, 0x80000000, 0x7fc00001] := by decide +kernel

/-- at and above the threshold the same holds whenever tensor-train is not chosen (mostly-zero
    vectors take the sparse form, and vectors for which `tt_decompose` fails stay dense) -/
theorem non_tt_vector_bit_identical (ttOk : List Nat → Bool) (ttRecon : List Nat → List Nat) (v : List Nat)
    (hlen : v.length ≤ U32) (hntt : ∀ o, fromDense ttOk v ≠ .tt o) :
    toDense ttRecon (fromDense ttOk v) = v :=
  toDense_fromDense_of_not_tt ttOk ttRecon v hlen hntt

example : ∀ o, fromDense (fun _ => true) [0x3f800000, 0, 0, 0] ≠ .tt o := by
  intro o h
  have : fromDense (fun _ => true) [0x3f800000, 0, 0, 0] = .sparse 4 [0] [0x3f800000] := by decide
  rw [this] at h
  cases h

/-- before 56197952 `[5e-7, 0, 0, 1.0]` (dimension 4) took the sparse branch and came back as
    `[0, 0, 0, 1.0]` -/
theorem short_vector_witness :
    toDense id (fromDenseOld (fun _ => true) [0x350637bd, 0, 0, 0x3f800000]) = [0, 0, 0, 0x3f800000] ∧
    ¬ (∀ (ttOk : List Nat → Bool) (ttRecon : List Nat → List Nat) (v : List Nat),
        v.length < TT_MIN_DIMENSION → toDense ttRecon (fromDenseOld ttOk v) = v) := by
  refine ⟨by decide, fun h => ?_⟩
  have := h (fun _ => true) id [0x350637bd, 0, 0, 0x3f800000] (by decide)
  revert this
  decide +kernel

end Neumann.Snap.Props
