import NeumannModel.Snap.StoreLemmas
/-
  Helper lemmas about the graph tensor's model (C07): the CSR rows, `merge`, `add_edge`, and the fold
  `restore` runs over the saved edges.
-/
namespace Neumann.Snap

/-! ### CSR rows -/

theorem flatMap_range_single {β : Type} (X : List β) (node k : Nat) :
    (List.range k).flatMap (fun n => if n = node then X else []) = if node < k then X else [] := by
  induction k with
  | zero => rfl
  | succ k ih =>
    rw [List.range_succ, List.flatMap_append, ih, List.flatMap_singleton]
    by_cases h1 : node < k
    · rw [if_pos h1, if_neg (Nat.ne_of_gt h1), if_pos (Nat.lt_succ_of_lt h1), List.append_nil]
    · by_cases h2 : k = node
      · rw [if_neg h1, if_pos h2, if_pos (h2 ▸ Nat.lt_succ_self k), List.nil_append]
      · rw [if_neg h1, if_neg h2, if_neg (fun h => (Nat.lt_succ_iff_lt_or_eq.1 h).elim h1 (fun e => h2 e.symm))]
        rfl

theorem rows_filter (all : List GEdge) (m node : Nat) :
    ((List.range (m + 1)).flatMap (fun n => all.filter (fun e => e.src = n))).filter (fun e => e.src = node) =
      if node ≤ m then all.filter (fun e => e.src = node) else [] := by
  rw [List.filter_flatMap]
  have hfun : (fun n => List.filter (fun e : GEdge => decide (e.src = node)) (List.filter (fun e => decide (e.src = n)) all)) =
      (fun n => if n = node then all.filter (fun e => decide (e.src = node)) else []) := by
    funext n
    by_cases h : n = node
    · subst h; simp [List.filter_filter]
    · simp only [h, if_false, List.filter_filter]
      rw [List.filter_eq_nil_iff]
      intro e _
      simp only [Bool.and_eq_true, decide_eq_true_eq, not_and]
      intro h1 h2
      exact h (h2.symm.trans h1)
  rw [hfun, flatMap_range_single]
  by_cases h : node ≤ m
  · have : node < m + 1 := by omega
    simp [h, this]
  · have : ¬ node < m + 1 := by omega
    simp [h, this]

theorem csrBuild_spec (all : List GEdge) (m : Nat) (e : GEdge) (h : e ∈ (csrBuild all m).1) :
    e ∈ all ∧ e.src < (csrBuild all m).2 := by
  cases hE : all.isEmpty <;> simp only [csrBuild, hE, if_true, Bool.false_eq_true, if_false] at h ⊢
  · obtain ⟨n, hn, he⟩ := List.mem_flatMap.1 h
    have he := List.mem_filter.1 he
    exact ⟨he.1, of_decide_eq_true he.2 ▸ List.mem_range.1 hn⟩
  · cases h

theorem csrBuild_filter (all : List GEdge) (m node : Nat) (hb : ∀ e ∈ all, e.src ≤ m) :
    (csrBuild all m).1.filter (fun e => e.src = node) = all.filter (fun e => e.src = node) := by
  cases hE : all.isEmpty <;> simp only [csrBuild, hE, if_true, Bool.false_eq_true, if_false]
  · rw [rows_filter]
    split
    · rfl
    · next hn =>
      refine (List.filter_eq_nil_iff.2 fun e he hs => hn ?_).symm
      exact of_decide_eq_true hs ▸ hb e he
  · rw [List.isEmpty_iff.1 hE]

/-! ### the invariant every graph-tensor operation keeps -/

structure GraphT.Inv (g : GraphT) : Prop where
  rows : ∀ e ∈ g.csr, e.src < g.csrNodes
  bound : ∀ e, e ∈ g.csr ∨ e ∈ g.pending → e.src ≤ g.maxNode
  dataNd : (aKeys g.edgeData).Nodup

/-- the edges that exist: CSR first, then the pending log, deleted ones left out -/
def GraphT.live (g : GraphT) : List GEdge := g.csr.filter g.notDeleted ++ g.pending.filter g.notDeleted

theorem GraphT.new_inv (t : Nat) : (GraphT.new t).Inv :=
  ⟨by simp [GraphT.new], by simp [GraphT.new], by simp [GraphT.new, aKeys]⟩

theorem mem_live_iff (g : GraphT) (e : GEdge) : e ∈ g.live ↔ (e ∈ g.csr ∨ e ∈ g.pending) ∧ g.notDeleted e = true := by
  unfold GraphT.live
  rw [List.mem_append, List.mem_filter, List.mem_filter]
  constructor
  · rintro (h | h)
    · exact ⟨Or.inl h.1, h.2⟩
    · exact ⟨Or.inr h.1, h.2⟩
  · rintro ⟨h | h, hn⟩
    · exact Or.inl ⟨h, hn⟩
    · exact Or.inr ⟨h, hn⟩

theorem mem_live (g : GraphT) (e : GEdge) (h : e ∈ g.live) : e ∈ g.csr ∨ e ∈ g.pending :=
  ((mem_live_iff g e).1 h).1

theorem outEdges_eq_of_rows (g : GraphT) (hrows : ∀ e ∈ g.csr, e.src < g.csrNodes) (node : Nat) :
    g.outEdges node = g.live.filter (fun e => e.src = node) := by
  unfold GraphT.outEdges GraphT.live csrOutgoing
  rw [List.filter_append, List.filter_filter, List.filter_filter]
  congr 1
  · by_cases hn : node ≥ g.csrNodes
    · simp only [hn, if_true, List.filter_nil]
      symm
      rw [List.filter_eq_nil_iff]
      intro e he
      have := hrows e he
      simp only [Bool.and_eq_true, decide_eq_true_eq, not_and]
      intro h1; omega
    · simp only [hn, if_false, List.filter_filter]
      apply List.filter_congr
      intro e _
      exact Bool.and_comm _ _

theorem outEdges_eq (g : GraphT) (h : g.Inv) (node : Nat) :
    g.outEdges node = g.live.filter (fun e => e.src = node) := outEdges_eq_of_rows g h.rows node

theorem live_clean (g : GraphT) (hp : g.pending = []) (hd : g.deleted = []) : g.live = g.csr := by
  unfold GraphT.live GraphT.notDeleted
  rw [hp, hd]
  simp

theorem merge_pending_deleted (g : GraphT) : g.merge.pending = [] ∧ g.merge.deleted = [] := by
  unfold GraphT.merge
  split
  · rename_i h
    simp only [Bool.and_eq_true, List.isEmpty_iff] at h
    exact h
  · exact ⟨rfl, rfl⟩

theorem merge_inv (g : GraphT) (h : g.Inv) : g.merge.Inv := by
  unfold GraphT.merge
  split
  · exact h
  · exact ⟨fun e he => (csrBuild_spec _ _ e he).2,
      fun e he => h.bound e (mem_live g e (csrBuild_spec _ _ e (he.resolve_right nofun)).1), h.dataNd⟩

theorem merge_live_filter (g : GraphT) (h : g.Inv) (node : Nat) :
    g.merge.live.filter (fun e => e.src = node) = g.live.filter (fun e => e.src = node) := by
  have hpd := merge_pending_deleted g
  rw [live_clean g.merge hpd.1 hpd.2]
  unfold GraphT.merge
  split
  · next hc =>
    simp only [Bool.and_eq_true, List.isEmpty_iff] at hc
    rw [live_clean g hc.1 hc.2]
  · exact csrBuild_filter g.live g.maxNode node fun e he => h.bound e (mem_live g e he)

theorem merge_outEdges (g : GraphT) (h : g.Inv) (node : Nat) : g.merge.outEdges node = g.outEdges node := by
  rw [outEdges_eq g.merge (merge_inv g h), outEdges_eq g h, merge_live_filter g h]

theorem merge_edgeData (g : GraphT) : g.merge.edgeData = g.edgeData := by
  unfold GraphT.merge; split <;> rfl

theorem merge_nextId (g : GraphT) : g.merge.nextId = g.nextId := by
  unfold GraphT.merge; split <;> rfl

theorem merge_maxNode (g : GraphT) : g.merge.maxNode = g.maxNode := by
  unfold GraphT.merge; split <;> rfl

theorem merge_types (g : GraphT) : g.merge.types = g.types := by
  unfold GraphT.merge; split <;> rfl

/-! ### `add_edge` on a graph without deleted edges (every graph `restore` passes through) -/

theorem intern_fields (g : GraphT) (ty : Name) :
    (g.intern ty).1.csr = g.csr ∧ (g.intern ty).1.csrNodes = g.csrNodes ∧ (g.intern ty).1.pending = g.pending ∧
    (g.intern ty).1.deleted = g.deleted ∧ (g.intern ty).1.edgeData = g.edgeData ∧ (g.intern ty).1.threshold = g.threshold ∧
    (g.intern ty).1.incoming = g.incoming := by
  unfold GraphT.intern
  split <;> exact ⟨rfl, rfl, rfl, rfl, rfl, rfl, rfl⟩

/-- the graph `add_edge` builds before it decides whether to merge -/
def GraphT.pushed (g : GraphT) (forced : Option Nat) (src dst : Nat) (ty : Name) (directed : Bool) : GraphT :=
  { (g.intern ty).1 with
    nextId := (match forced with | some _ => g.nextId | none => g.nextId + 1),
    maxNode := max (max g.maxNode src) dst,
    pending := g.pending ++ [⟨(match forced with | some i => i | none => g.nextId), src, dst, (g.intern ty).2, directed⟩],
    incoming := aPush dst (src, (match forced with | some i => i | none => g.nextId)) g.incoming }

theorem addEdgeWith_eq (g : GraphT) (forced : Option Nat) (src dst : Nat) (ty : Name) (directed : Bool) :
    g.addEdgeWith forced src dst ty directed =
      (if (g.pushed forced src dst ty directed).pending.length ≥ (g.pushed forced src dst ty directed).threshold
        then (g.pushed forced src dst ty directed).merge else g.pushed forced src dst ty directed,
       (match forced with | some i => i | none => g.nextId)) := rfl

theorem pushed_inv (g : GraphT) (h : g.Inv) (forced : Option Nat) (src dst : Nat) (ty : Name) (directed : Bool) :
    (g.pushed forced src dst ty directed).Inv := by
  obtain ⟨h1, h2, h3, _, h5, _, _⟩ := intern_fields g ty
  refine ⟨?_, ?_, ?_⟩
  · intro e he
    simp only [GraphT.pushed] at he ⊢
    rw [h1] at he; rw [h2]
    exact h.rows e he
  · intro e he
    simp only [GraphT.pushed] at he ⊢
    rw [h1] at he
    have hm : g.maxNode ≤ max (max g.maxNode src) dst :=
      Nat.le_trans (Nat.le_max_left _ _) (Nat.le_max_left _ _)
    rcases he with he | he
    · exact Nat.le_trans (h.bound e (Or.inl he)) hm
    · rcases List.mem_append.1 he with he | he
      · exact Nat.le_trans (h.bound e (Or.inr he)) hm
      · rw [List.mem_singleton.1 he]
        exact Nat.le_trans (Nat.le_max_right _ _) (Nat.le_max_left _ _)
  · simp only [GraphT.pushed]; rw [h5]; exact h.dataNd

theorem pushed_live (g : GraphT) (hd : g.deleted = []) (forced : Option Nat) (src dst : Nat) (ty : Name) (directed : Bool) :
    (g.pushed forced src dst ty directed).live =
      g.live ++ [⟨(match forced with | some i => i | none => g.nextId), src, dst, (g.intern ty).2, directed⟩] := by
  obtain ⟨h1, _, _, h4, _, _, _⟩ := intern_fields g ty
  have hd' : (g.pushed forced src dst ty directed).deleted = [] := by
    simp only [GraphT.pushed]; rw [h4]; exact hd
  unfold GraphT.live GraphT.notDeleted
  rw [hd', hd]
  simp only [GraphT.pushed]
  rw [h1]
  simp

theorem addEdgeWith_clean (g : GraphT) (h : g.Inv) (hd : g.deleted = []) (forced : Option Nat) (src dst : Nat)
    (ty : Name) (directed : Bool) :
    (g.addEdgeWith forced src dst ty directed).1.Inv ∧
    (g.addEdgeWith forced src dst ty directed).1.deleted = [] ∧
    (g.addEdgeWith forced src dst ty directed).1.edgeData = g.edgeData ∧
    (g.addEdgeWith forced src dst ty directed).1.nextId = (match forced with | some _ => g.nextId | none => g.nextId + 1) ∧
    ∀ node, (g.addEdgeWith forced src dst ty directed).1.outgoing node =
      g.outgoing node ++ (if src = node then [(dst, (match forced with | some i => i | none => g.nextId))] else []) := by
  obtain ⟨_, _, _, h4, h5, _, _⟩ := intern_fields g ty
  have hpi := pushed_inv g h forced src dst ty directed
  have hpd : (g.pushed forced src dst ty directed).deleted = [] := by
    simp only [GraphT.pushed]; rw [h4]; exact hd
  have hout : ∀ node, (g.pushed forced src dst ty directed).outgoing node =
      g.outgoing node ++ (if src = node then [(dst, (match forced with | some i => i | none => g.nextId))] else []) := by
    intro node
    unfold GraphT.outgoing
    rw [outEdges_eq _ hpi, outEdges_eq g h, pushed_live g hd, List.filter_append, List.map_append]
    congr 1
    by_cases hs : src = node
    · simp [hs]
    · simp [hs]
  rw [addEdgeWith_eq]
  simp only
  split
  · refine ⟨merge_inv _ hpi, (merge_pending_deleted _).2, ?_, ?_, ?_⟩
    · rw [merge_edgeData]; simp only [GraphT.pushed]; exact h5
    · rw [merge_nextId]; rfl
    · intro node
      unfold GraphT.outgoing
      rw [merge_outEdges _ hpi]
      exact hout node
  · refine ⟨hpi, hpd, ?_, rfl, hout⟩
    · simp only [GraphT.pushed]; exact h5

/-! ### the fold `restore` runs over the saved edges -/

/-- the id `restore` gives the `i`-th saved edge when the id counter stood at `n0` before the first -/
def restoredIds (keep : Bool) (n0 : Nat) : List GEdge → List Nat
  | [] => []
  | e :: es => (if keep then e.id else n0) :: restoredIds keep (if keep then n0 else n0 + 1) es

theorem restoredIds_keep (n0 : Nat) (es : List GEdge) : restoredIds true n0 es = es.map (·.id) := by
  induction es generalizing n0 with
  | nil => rfl
  | cons e es ih => simp [restoredIds, ih]

theorem restoredIds_length (keep : Bool) (n0 : Nat) (es : List GEdge) : (restoredIds keep n0 es).length = es.length := by
  induction es generalizing n0 with
  | nil => rfl
  | cons e es ih => simp [restoredIds, ih]

/-- (target, id) of the saved edges that start at `node`, under the ids `restore` gives them -/
def restoredOut (keep : Bool) (n0 : Nat) (node : Nat) : List GEdge → List (Nat × Nat)
  | [] => []
  | e :: es =>
    (if e.src = node then [(e.dst, if keep then e.id else n0)] else []) ++
      restoredOut keep (if keep then n0 else n0 + 1) node es

theorem restoredOut_targets (keep : Bool) (n0 node : Nat) (es : List GEdge) :
    (restoredOut keep n0 node es).map (·.1) = (es.filter (fun e => e.src = node)).map (·.dst) := by
  induction es generalizing n0 with
  | nil => rfl
  | cons e es ih =>
    simp only [restoredOut, List.map_append, ih, List.filter_cons]
    by_cases h : e.src = node <;> simp [h]

theorem restoredOut_keep (n0 node : Nat) (es : List GEdge) :
    restoredOut true n0 node es = (es.filter (fun e => e.src = node)).map (fun e => (e.dst, e.id)) := by
  induction es generalizing n0 with
  | nil => rfl
  | cons e es ih =>
    simp only [restoredOut, if_true, ih, List.filter_cons]
    by_cases h : e.src = node <;> simp [h]

/-! ### the incoming index is the transpose of the stored edges -/

theorem aFind_aPush {κ β : Type} [DecidableEq κ] (k k' : κ) (y : β) (l : List (κ × List β)) :
    (aFind k (aPush k' y l)).getD [] = if k = k' then (aFind k l).getD [] ++ [y] else (aFind k l).getD [] := by
  induction l with
  | nil =>
    by_cases h : k = k'
    · subst h; simp [aPush, aFind]
    · have : ¬ k' = k := fun e => h e.symm
      simp [aPush, aFind, h, this]
  | cons p l ih =>
    obtain ⟨k₂, xs⟩ := p
    by_cases h2 : k₂ = k'
    · subst h2
      by_cases h : k = k₂
      · subst h; simp [aPush, aFind]
      · have : ¬ k₂ = k := fun e => h e.symm
        simp [aPush, aFind, h, this]
    · by_cases h3 : k₂ = k
      · subst h3
        have : ¬ k₂ = k' := h2
        simp [aPush, aFind, h2]
      · simp only [aPush, h2, if_false, aFind, h3]
        exact ih

theorem mem_csrBuild (all : List GEdge) (m : Nat) (hb : ∀ e ∈ all, e.src ≤ m) (e : GEdge) :
    e ∈ (csrBuild all m).1 ↔ e ∈ all := by
  refine ⟨fun h => (csrBuild_spec all m e h).1, fun h => ?_⟩
  have : e ∈ all.filter (fun x => x.src = e.src) := List.mem_filter.2 ⟨h, decide_eq_true rfl⟩
  rw [← csrBuild_filter all m e.src hb] at this
  exact (List.mem_filter.1 this).1

/-- every entry of the incoming index is a stored edge seen from its target, and conversely -/
def GraphT.IncInv (g : GraphT) : Prop :=
  ∀ (node : Nat) (x : Nat × Nat), x ∈ (aFind node g.incoming).getD [] ↔
    ∃ e : GEdge, (e ∈ g.csr ∨ e ∈ g.pending) ∧ e.dst = node ∧ x = (e.src, e.id)

theorem GraphT.new_incInv (t : Nat) : (GraphT.new t).IncInv := by
  intro node x
  simp [GraphT.new, aFind]

theorem stored_not_deleted_iff_live (g : GraphT) (node : Nat) (x : Nat × Nat) :
    ((∃ e : GEdge, (e ∈ g.csr ∨ e ∈ g.pending) ∧ e.dst = node ∧ x = (e.src, e.id)) ∧
        (!g.deleted.contains x.2) = true) ↔
      ∃ e ∈ g.live, e.dst = node ∧ x = (e.src, e.id) := by
  constructor
  · rintro ⟨⟨e, hst, hd, rfl⟩, hnd⟩
    exact ⟨e, (mem_live_iff g e).mpr ⟨hst, hnd⟩, hd, rfl⟩
  · rintro ⟨e, he, hd, rfl⟩
    exact ⟨⟨e, ((mem_live_iff g e).mp he).1, hd, rfl⟩, ((mem_live_iff g e).mp he).2⟩

theorem merge_incInv (g : GraphT) (h : g.Inv) (hi : g.IncInv) : g.merge.IncInv := by
  unfold GraphT.merge
  split
  · exact hi
  · intro node x
    simp only [List.not_mem_nil, or_false]
    have hf : (aFind node (g.incoming.map (fun p => (p.1, p.2.filter (fun x => !g.deleted.contains x.2))))).getD [] =
        ((aFind node g.incoming).getD []).filter (fun x => !g.deleted.contains x.2) := by
      rw [aFind_map_val (fun xs : List (Nat × Nat) => xs.filter (fun x => !g.deleted.contains x.2))]
      cases aFind node g.incoming <;> simp
    have hbound : ∀ e ∈ g.live, e.src ≤ g.maxNode := fun e he => h.bound e (mem_live g e he)
    rw [hf, List.mem_filter, hi node x, stored_not_deleted_iff_live]
    exact exists_congr fun e => and_congr_left' (mem_csrBuild g.live g.maxNode hbound e).symm

theorem pushed_incInv (g : GraphT) (hi : g.IncInv) (forced : Option Nat) (src dst : Nat) (ty : Name) (directed : Bool) :
    (g.pushed forced src dst ty directed).IncInv := by
  obtain ⟨h1, _, _, _, _, _, _⟩ := intern_fields g ty
  intro node x
  simp only [GraphT.pushed]
  rw [aFind_aPush, h1]
  -- the index of `node` grows by the new edge exactly when the edge ends there
  have hl : ∀ (old : List (Nat × Nat)) (y : Nat × Nat),
      x ∈ (if node = dst then old ++ [y] else old) ↔ x ∈ old ∨ (dst = node ∧ x = y) := by
    intro old y
    split
    · next h => rw [List.mem_append, List.mem_singleton]; exact or_congr_right ⟨fun hx => ⟨h.symm, hx⟩, And.right⟩
    · next h => exact ⟨.inl, fun o => o.resolve_right fun e => h e.1.symm⟩
  rw [hl, hi node x]
  constructor
  · rintro (⟨e, hst, hd, hx⟩ | ⟨hd, hx⟩)
    · exact ⟨e, hst.imp_right (List.mem_append_left _), hd, hx⟩
    · exact ⟨_, .inr (List.mem_append_right _ (List.mem_singleton_self _)), hd, hx⟩
  · rintro ⟨e, hst | hst, hd, hx⟩
    · exact .inl ⟨e, .inl hst, hd, hx⟩
    · rcases List.mem_append.1 hst with h | h
      · exact .inl ⟨e, .inr h, hd, hx⟩
      · rw [List.mem_singleton.1 h] at hd hx
        exact .inr ⟨hd, hx⟩

theorem addEdgeWith_inv (g : GraphT) (h : g.Inv) (hi : g.IncInv) (forced : Option Nat) (src dst : Nat) (ty : Name) (directed : Bool) :
    (g.addEdgeWith forced src dst ty directed).1.Inv ∧ (g.addEdgeWith forced src dst ty directed).1.IncInv := by
  rw [addEdgeWith_eq]
  simp only
  have hpi := pushed_inv g h forced src dst ty directed
  have hpc := pushed_incInv g hi forced src dst ty directed
  split
  · exact ⟨merge_inv _ hpi, merge_incInv _ hpi hpc⟩
  · exact ⟨hpi, hpc⟩

theorem deleteEdge_inv (g : GraphT) (h : g.Inv) (hi : g.IncInv) (id : Nat) :
    (g.deleteEdge id).1.Inv ∧ (g.deleteEdge id).1.IncInv := by
  unfold GraphT.deleteEdge
  split
  · exact ⟨⟨h.rows, h.bound, h.dataNd⟩, hi⟩
  · exact ⟨h, hi⟩

theorem apply_inv (g : GraphT) (op : GOp) (h : g.Inv) (hi : g.IncInv) : (g.apply op).Inv ∧ (g.apply op).IncInv := by
  cases op with
  | add s d ty dir => exact addEdgeWith_inv g h hi none s d ty dir
  | del id => exact deleteEdge_inv g h hi id
  | merge => exact ⟨merge_inv g h, merge_incInv g h hi⟩
  | setData id d => exact ⟨⟨h.rows, h.bound, aKeys_aInsert_nodup id d g.edgeData h.dataNd⟩, hi⟩

theorem run_inv (g : GraphT) (ops : List GOp) (h : g.Inv) (hi : g.IncInv) : (g.run ops).Inv ∧ (g.run ops).IncInv := by
  unfold GraphT.run
  induction ops generalizing g with
  | nil => exact ⟨h, hi⟩
  | cons op ops ih =>
    have := apply_inv g op h hi
    exact ih (g.apply op) this.1 this.2

theorem mem_incomingOf (g : GraphT) (hi : g.IncInv) (node : Nat) (x : Nat × Nat) :
    x ∈ g.incomingOf node ↔ ∃ e ∈ g.live, e.dst = node ∧ x = (e.src, e.id) := by
  have heq : g.incomingOf node = ((aFind node g.incoming).getD []).filter (fun x => !g.deleted.contains x.2) := by
    unfold GraphT.incomingOf
    cases aFind node g.incoming <;> rfl
  rw [heq, List.mem_filter, hi node x, stored_not_deleted_iff_live]

theorem mem_outgoing (g : GraphT) (hrows : ∀ e ∈ g.csr, e.src < g.csrNodes) (node : Nat) (x : Nat × Nat) :
    x ∈ g.outgoing node ↔ ∃ e ∈ g.live, e.src = node ∧ x = (e.dst, e.id) := by
  unfold GraphT.outgoing
  rw [outEdges_eq_of_rows g hrows, List.mem_map]
  constructor
  · rintro ⟨e, he, hx⟩
    rw [List.mem_filter] at he
    exact ⟨e, he.1, by simpa using he.2, hx.symm⟩
  · rintro ⟨e, he, hs, hx⟩
    exact ⟨e, by rw [List.mem_filter]; exact ⟨he, by simpa using hs⟩, hx.symm⟩

theorem incoming_transpose (g : GraphT) (hrows : ∀ e ∈ g.csr, e.src < g.csrNodes) (hi : g.IncInv) (s t id : Nat) :
    (s, id) ∈ g.incomingOf t ↔ (t, id) ∈ g.outgoing s := by
  rw [mem_incomingOf g hi, mem_outgoing g hrows]
  constructor
  · rintro ⟨e, he, hd, hx⟩
    simp only [Prod.mk.injEq] at hx
    exact ⟨e, he, hx.1.symm, by simp [hd, hx.2]⟩
  · rintro ⟨e, he, hs, hx⟩
    simp only [Prod.mk.injEq] at hx
    exact ⟨e, he, hx.1.symm, by simp [hs, hx.2]⟩

theorem merge_incomingOf (g : GraphT) (node : Nat) : g.merge.incomingOf node = g.incomingOf node := by
  unfold GraphT.merge
  split
  · rfl
  · unfold GraphT.incomingOf
    simp only
    rw [aFind_map_val (fun xs : List (Nat × Nat) => xs.filter (fun x => !g.deleted.contains x.2))]
    cases aFind node g.incoming with
    | none => rfl
    | some xs => simp

/-! ### `restore` of a snapshot -/

theorem snapshot_fields (g : GraphT) :
    g.snapshot.2.edges = g.merge.csr ∧ g.snapshot.2.edgeData = g.edgeData ∧ g.snapshot.2.nextId = g.nextId ∧
    g.snapshot.2.maxNode = g.maxNode ∧ g.snapshot.2.types = g.types ∧ g.snapshot.1 = g.merge :=
  ⟨rfl, merge_edgeData g, merge_nextId g, merge_maxNode g, merge_types g, rfl⟩

theorem outgoing_eq_snapshot (g : GraphT) (h : g.Inv) (node : Nat) :
    g.outgoing node = (g.snapshot.2.edges.filter (fun e => e.src = node)).map (fun e => (e.dst, e.id)) := by
  unfold GraphT.outgoing
  rw [outEdges_eq g h, ← merge_live_filter g h, live_clean g.merge (merge_pending_deleted g).1 (merge_pending_deleted g).2]
  rfl

theorem restore_start_inv (types : List Name) :
    (GraphT.restoreStart types).Inv ∧ (GraphT.restoreStart types).IncInv :=
  ⟨⟨(GraphT.new_inv 10000).rows, (GraphT.new_inv 10000).bound, (GraphT.new_inv 10000).dataNd⟩,
   GraphT.new_incInv 10000⟩

theorem restore_fold (keep : Bool) (types : List Name) (es : List GEdge) (g : GraphT) (h : g.Inv) (hi : g.IncInv)
    (hd : g.deleted = []) :
    let g1 := es.foldl (fun g e => (g.addEdgeWith (if keep then some e.id else none) e.src e.dst (types.getD e.ty []) e.directed).1) g
    g1.Inv ∧ g1.IncInv ∧ g1.deleted = [] ∧ g1.edgeData = g.edgeData ∧
    ∀ node, g1.outgoing node = g.outgoing node ++ restoredOut keep g.nextId node es := by
  induction es generalizing g with
  | nil => simp only [List.foldl_nil, restoredOut, List.append_nil]; exact ⟨h, hi, hd, trivial, fun _ => trivial⟩
  | cons e es ih =>
    simp only [List.foldl_cons]
    obtain ⟨i1, d1, e1, n1, o1⟩ := addEdgeWith_clean g h hd (if keep then some e.id else none) e.src e.dst (types.getD e.ty []) e.directed
    obtain ⟨i2, c2, d2, e2, o2⟩ := ih _ i1
      (addEdgeWith_inv g h hi (if keep then some e.id else none) e.src e.dst (types.getD e.ty []) e.directed).2 d1
    refine ⟨i2, c2, d2, e2.trans e1, ?_⟩
    intro node
    rw [o2 node, o1 node, n1]
    cases keep <;> simp [restoredOut, List.append_assoc]

theorem outgoing_congr (g g' : GraphT) (h1 : g'.csr = g.csr) (h2 : g'.csrNodes = g.csrNodes) (h3 : g'.pending = g.pending)
    (h4 : g'.deleted = g.deleted) (node : Nat) : g'.outgoing node = g.outgoing node := by
  unfold GraphT.outgoing GraphT.outEdges GraphT.notDeleted
  rw [h1, h2, h3, h4]

theorem incomingOf_congr (g g' : GraphT) (h1 : g'.incoming = g.incoming) (h4 : g'.deleted = g.deleted) (node : Nat) :
    g'.incomingOf node = g.incomingOf node := by
  unfold GraphT.incomingOf
  rw [h1, h4]

theorem restore_start_outgoing (types : List Name) (node : Nat) :
    (GraphT.restoreStart types).outgoing node = [] := by
  simp [GraphT.outgoing, GraphT.outEdges, GraphT.restoreStart, GraphT.new, csrOutgoing]

theorem restoreWith_outgoing (keep : Bool) (s : GraphSnap) (node : Nat) :
    (GraphT.restoreWith keep s).outgoing node = restoredOut keep 0 node s.edges := by
  have hs := restore_start_inv s.types
  obtain ⟨_, _, _, _, ho⟩ := restore_fold keep s.types s.edges _ hs.1 hs.2 rfl
  have := ho node
  rw [restore_start_outgoing, List.nil_append] at this
  have h0 : (GraphT.restoreStart s.types).nextId = 0 := rfl
  rw [h0] at this
  rw [← this]
  exact outgoing_congr _ _ rfl rfl rfl rfl node

theorem restoreWith_rows_incInv (keep : Bool) (s : GraphSnap) :
    (∀ e ∈ (GraphT.restoreWith keep s).csr, e.src < (GraphT.restoreWith keep s).csrNodes) ∧ (GraphT.restoreWith keep s).IncInv := by
  have hs := restore_start_inv s.types
  obtain ⟨hinv, hinc, _⟩ := restore_fold keep s.types s.edges _ hs.1 hs.2 rfl
  exact ⟨hinv.rows, hinc⟩

theorem restoreWith_edgeData (keep : Bool) (s : GraphSnap) (hnd : (aKeys s.edgeData).Nodup) :
    (GraphT.restoreWith keep s).edgeData = s.edgeData := by
  have hs := restore_start_inv s.types
  obtain ⟨_, _, _, hed, _⟩ := restore_fold keep s.types s.edges _ hs.1 hs.2 rfl
  unfold GraphT.restoreWith
  simp only
  rw [hed]
  exact foldl_aInsert_nil s.edgeData hnd

/-! ### counting edges row by row -/

theorem sum_map_add (xs : List Nat) (f g : Nat → Nat) :
    (xs.map (fun n => f n + g n)).sum = (xs.map f).sum + (xs.map g).sum := by
  induction xs with
  | nil => rfl
  | cons x xs ih => simp only [List.map_cons, List.sum_cons, ih]; omega

theorem sum_map_zero (xs : List Nat) : (xs.map (fun _ => 0)).sum = 0 := by
  induction xs with
  | nil => rfl
  | cons x xs ih => simp [ih]

theorem sum_indicator_range (k j : Nat) :
    ((List.range j).map (fun n => if k = n then 1 else 0)).sum = if k < j then 1 else 0 := by
  have count (l : List Nat) : (l.map (fun n => if k = n then 1 else 0)).sum = l.count k := by
    induction l with
    | nil => rfl
    | cons n l ih =>
      rw [List.map_cons, List.sum_cons, ih, List.count_cons, Nat.add_comm]
      by_cases h : k = n
      · rw [if_pos h, h, beq_self_eq_true, if_pos rfl]
      · rw [if_neg h, if_neg (fun e => h (beq_iff_eq.1 e).symm)]
  rw [count, List.count_range]

theorem length_by_rows (l : List GEdge) (m : Nat) (hb : ∀ e ∈ l, e.src ≤ m) :
    l.length = ((List.range (m + 1)).map (fun n => (l.filter (fun e => e.src = n)).length)).sum := by
  induction l with
  | nil => exact (sum_map_zero _).symm
  | cons e l ih =>
    have hfun : (fun n => ((e :: l).filter (fun e => decide (e.src = n))).length) =
        (fun n => (if e.src = n then 1 else 0) + (l.filter (fun e => decide (e.src = n))).length) := by
      funext n
      by_cases h : e.src = n
      · rw [List.filter_cons, if_pos (decide_eq_true h), List.length_cons, if_pos h, Nat.add_comm]
      · rw [List.filter_cons, if_neg (by rwa [decide_eq_true_eq]), if_neg h, Nat.zero_add]
    rw [hfun, sum_map_add, sum_indicator_range, ← ih (fun x hx => hb x (List.mem_cons_of_mem _ hx)),
      if_pos (Nat.lt_succ_of_le (hb e List.mem_cons_self)), List.length_cons, Nat.add_comm]

theorem edgeCount_eq_live (g : GraphT) : g.edgeCount = g.live.length := by
  unfold GraphT.edgeCount GraphT.live
  rw [List.length_append]

theorem edgeCount_of_outgoing_eq (g r : GraphT) (hg : ∀ e ∈ g.csr, e.src < g.csrNodes) (hr : ∀ e ∈ r.csr, e.src < r.csrNodes)
    (m : Nat) (hbg : ∀ e ∈ g.live, e.src ≤ m) (hbr : ∀ e ∈ r.live, e.src ≤ m)
    (hout : ∀ node, r.outgoing node = g.outgoing node) : r.edgeCount = g.edgeCount := by
  rw [edgeCount_eq_live, edgeCount_eq_live, length_by_rows r.live m hbr, length_by_rows g.live m hbg]
  congr 1
  apply List.map_congr_left
  intro n _
  have := congrArg List.length (hout n)
  unfold GraphT.outgoing at this
  rw [List.length_map, List.length_map, outEdges_eq_of_rows r hr, outEdges_eq_of_rows g hg] at this
  exact this

theorem restoreWith_live_bound (keep : Bool) (s : GraphSnap) :
    ∃ m, ∀ e ∈ (GraphT.restoreWith keep s).live, e.src ≤ m := by
  have hs := restore_start_inv s.types
  obtain ⟨hinv, _⟩ := restore_fold keep s.types s.edges _ hs.1 hs.2 rfl
  refine ⟨_, fun e he => hinv.bound e ?_⟩
  exact mem_live _ e he

/-! ### blob log: the counters are functions of the index -/

structure BlobLog.Inv (b : BlobLog) : Prop where
  bytes : b.totalBytes = (b.index.map (fun p => p.2.len)).sum
  count : b.chunkCount = b.index.length

theorem BlobLog.new_inv (seg : Nat) : (BlobLog.new seg).Inv := ⟨rfl, rfl⟩

theorem BlobLog.append_inv (b : BlobLog) (hash : Nat) (data : Bytes) (h : b.Inv) : (b.append hash data).Inv := by
  unfold BlobLog.append
  cases hf : aFind hash b.index with
  | some loc => simpa using h
  | none =>
    have hk : hash ∉ aKeys b.index := by
      intro hm
      rw [← aFind_isSome_iff_mem, hf] at hm
      simp at hm
    simp only [Option.isSome_none, Bool.false_eq_true, if_false]
    split
    · refine ⟨?_, ?_⟩
      · simp only; rw [aInsert_of_not_mem hash _ b.index hk]; simp [h.bytes]
      · simp only; rw [aInsert_of_not_mem hash _ b.index hk]; simp [h.count]
    · split
      · refine ⟨?_, ?_⟩
        · simp only; rw [aInsert_of_not_mem hash _ b.index hk]; simp [h.bytes]
        · simp only; rw [aInsert_of_not_mem hash _ b.index hk]; simp [h.count]
      · refine ⟨?_, ?_⟩
        · simp only; rw [aInsert_of_not_mem hash _ b.index hk]; simp [h.bytes]
        · simp only; rw [aInsert_of_not_mem hash _ b.index hk]; simp [h.count]

theorem BlobLog.mark_inv (b : BlobLog) (hash : Nat) (h : b.Inv) : (b.markGarbage hash).Inv := by
  unfold BlobLog.markGarbage
  split
  · exact ⟨h.bytes, h.count⟩
  · exact h

theorem BlobLog.run_inv (b : BlobLog) (ops : List BOp) (h : b.Inv) : (b.run ops).Inv := by
  unfold BlobLog.run
  induction ops generalizing b with
  | nil => exact h
  | cons op ops ih =>
    apply ih
    cases op with
    | append hsh d => exact BlobLog.append_inv b hsh d h
    | mark hsh => exact BlobLog.mark_inv b hsh h

end Neumann.Snap
