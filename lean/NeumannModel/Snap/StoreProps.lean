import NeumannModel.Snap.StoreLemmas
import NeumannModel.Snap.LoopLemmas
import NeumannModel.Snap.Props
/-
  C07 — store-level clauses: "saving a store and loading it back gives a store whose every key, field
  and value equals the original across all data classes".

  The v3 forms (file, compressed or not, and bytes) all carry `SlabRouter::snapshot()` through an opaque
  serializer and hand the decoded value to `SlabRouter::restore` (`Props.load_saved_ok`,
  `Props.from_bytes_validates`). Here `restore ∘ snapshot` itself is the object: the per-slab snapshot
  and restore functions of the model (`Store.lean`), composed as the router composes them, for EVERY
  router state that operation sequences reach (`Router.WF` is an invariant of every operation:
  `router_wf_reachable`), and for the key-addressed reads `get` / `exists` / `scan`, the header's entry
  count, the graph tensor's `outgoing` / edge data / counters and the blob log's `get` / counters.
  * embeddings below the tensor-train threshold, and longer ones that do not take the tensor-train
    form, come back bit for bit under their key; in general the loaded `_embedding` of an `emb:` key
    is `to_dense(from_dense(v))` of the slab's vector (`snapshot_restore_get`).
  * the graph tensor comes back with the same `outgoing` lists (targets AND edge ids) per node, the same
    edge data map, the same counters, and `incoming` as the transpose of `outgoing` (an invariant of
    every operation, merges included); the code before 3d29d770 / ce34e58a renumbered the edges and
    let merged-away deleted edges reappear in `incoming` (`…_witness` theorems on `restoreOld` /
    `mergeOld`).
  * `restore_from_bytes`, the legacy v2 loader and the quantising format's load are loops of `put`
    over key-addressed entries: what they preserve is proved per key, what they drop is witnessed.
-/
namespace Neumann.Snap.Props
open Neumann.Snap

/-! ## well-formedness is reachable: every operation keeps it -/

/-- every router state reached from a fresh router by ANY sequence of put / delete / get / cache
    eviction / clear / graph-tensor and blob-log operations is well formed (distinct keys per slab,
    slab vectors of the slab's dimension, a cache ring with as many slots as its capacity) -/
theorem router_wf_reachable (cfg : RouterCfg) (ops : List ROp) : ((Router.new cfg).run ops).WF :=
  Router.run_wf _ ops (Router.new_wf cfg)

/-- the slab's dimension never changes -/
theorem router_dim_invariant (cfg : RouterCfg) (ops : List ROp) : ((Router.new cfg).run ops).emb.dim = cfg.dim := by
  have step : ∀ (r : Router) (op : ROp), (r.apply op).emb.dim = r.emb.dim := by
    intro r op
    cases op with
    | put k v victim =>
      show (r.put k v victim).emb.dim = _
      rw [Router.put_emb]
      split
      · exact ESlab.putValue_dim _ _ _
      · rfl
    | delete k =>
      show (r.delete k).1.emb.dim = _
      rcases (Router.delete_fields r k).2.2.2 with e | ⟨id, e⟩ <;> rw [e] <;> rfl
    | get k => exact congrArg ESlab.dim (Router.touch_fields r k).2.2.1
    | evict ks => rfl
    | clear => rfl
    | graph op => rfl
    | blob op => rfl
  have : ∀ (ops : List ROp) (r : Router), (r.run ops).emb.dim = r.emb.dim := by
    intro ops
    induction ops with
    | nil => intro r; rfl
    | cons op ops ih =>
      intro r
      show ((r.apply op).run ops).emb.dim = r.emb.dim
      rw [ih, step]
  exact this ops _

example : ((Router.new ⟨4, 2, 3, 64⟩).run
    [.put "emb:a".toList [(EMB_FIELD, .vector [1, 2, 3, 4])] 0, .delete "emb:a".toList,
     .put "emb:a".toList [(EMB_FIELD, .vector [9, 2, 3, 4])] 0, .put "_cache:1".toList [] 0]).index.vocab.length = 2 := by
  decide +kernel

/-! ## key-addressed content through snapshot + restore -/

/-- **`get` after load, in general**: for every well-formed router and every key, the loaded router
    answers `get` like the saved router whose slab vectors have each gone through
    `to_dense(from_dense(·))` (an entry whose reconstruction has another length is dropped by `set`, and
    `get` falls back to the exact copy in the metadata slab) -/
theorem snapshot_restore_get (ttOk : List Nat → Bool) (ttRecon : List Nat → List Nat)
    (r : Router) (h : r.WF) (key : Name) :
    (Router.restore ttRecon (r.snapshot ttOk).2).peek key =
      ({ r with emb := r.emb.rounded ttOk ttRecon } : Router).peek key := by
  rw [router_restore_snapshot ttOk ttRecon r h]
  exact Router.peek_congr _ _ key rfl rfl (fun _ _ _ => rfl)
    (fun _ => by rw [cache_peek_eq, cache_peek_eq, cacheMap_packed_reset]; rfl)

/-- the slab after snapshot + restore holds the same vector under the same id whenever each vector
    is reproduced exactly by its snapshot form -/
theorem rounded_get_exact (ttOk : List Nat → Bool) (ttRecon : List Nat → List Nat) (s : ESlab) (h : s.WF)
    (hex : ∀ p ∈ s.ents, toDense ttRecon (fromDense ttOk p.2) = p.2) (id : Nat) :
    (s.rounded ttOk ttRecon).get id = s.get id := by
  unfold ESlab.rounded ESlab.get
  simp only
  rw [aFind_filterMap (embRound ttOk ttRecon s.dim) s.ents id h.nd]
  cases hf : aFind id s.ents with
  | none => rfl
  | some v =>
    have hm := aFind_mem id v s.ents hf
    have h1 := hex (id, v) hm
    have h2 := h.len (id, v) hm
    simp only at h1 h2
    simp [embRound, h1, h2]

/-- `get` depends on the slab only through `ESlab.get` -/
theorem peek_congr_emb (r : Router) (e : ESlab) (he : ∀ id, e.get id = r.emb.get id) (key : Name) :
    ({ r with emb := e } : Router).peek key = r.peek key :=
  Router.peek_congr r _ key rfl rfl (fun _ id _ => he id) (fun _ => rfl)

/-- **Below the tensor-train threshold every key reads back exactly**: for every well-formed router
    whose embedding dimension is below 256 and every key of every class, `get` on the loaded router
    returns what `get` on the saved router returns — every field, every value, bit for bit -/
theorem snapshot_restore_get_exact_short_dim (ttOk : List Nat → Bool) (ttRecon : List Nat → List Nat)
    (r : Router) (h : r.WF) (hd : r.emb.dim < TT_MIN_DIMENSION) (key : Name) :
    (Router.restore ttRecon (r.snapshot ttOk).2).peek key = r.peek key := by
  rw [snapshot_restore_get ttOk ttRecon r h key]
  apply peek_congr_emb
  intro id
  apply rounded_get_exact ttOk ttRecon r.emb h.emb
  intro p hp
  exact short_vector_bit_identical ttOk ttRecon p.2 (by rw [h.emb.len p hp]; exact hd)

/-- at and above the threshold the same holds whenever no slab vector takes the tensor-train form
    (mostly-zero vectors, vectors `tt_decompose` rejects) -/
theorem snapshot_restore_get_exact_without_tt (ttOk : List Nat → Bool) (ttRecon : List Nat → List Nat)
    (r : Router) (h : r.WF) (hd : r.emb.dim ≤ U32)
    (hntt : ∀ p ∈ r.emb.ents, ∀ o, fromDense ttOk p.2 ≠ .tt o) (key : Name) :
    (Router.restore ttRecon (r.snapshot ttOk).2).peek key = r.peek key := by
  rw [snapshot_restore_get ttOk ttRecon r h key]
  apply peek_congr_emb
  intro id
  apply rounded_get_exact ttOk ttRecon r.emb h.emb
  intro p hp
  exact non_tt_vector_bit_identical ttOk ttRecon p.2 (by rw [h.emb.len p hp]; exact hd) (hntt p hp)

/-- keys that are not `emb:` keys never depend on the embedding slab: exact whatever the dimension -/
theorem snapshot_restore_get_exact_non_embedding_key (ttOk : List Nat → Bool) (ttRecon : List Nat → List Nat)
    (r : Router) (h : r.WF) (key : Name) (hk : classifyKey key ≠ .embedding) :
    (Router.restore ttRecon (r.snapshot ttOk).2).peek key = r.peek key := by
  rw [snapshot_restore_get ttOk ttRecon r h key]
  exact Router.peek_congr r _ key rfl rfl (fun he => absurd he hk) (fun _ => rfl)

/-- `exists` answers the same for every key -/
theorem snapshot_restore_exists (ttOk : List Nat → Bool) (ttRecon : List Nat → List Nat)
    (r : Router) (h : r.WF) (key : Name) :
    (Router.restore ttRecon (r.snapshot ttOk).2).exists key = r.exists key := by
  rw [router_restore_snapshot ttOk ttRecon r h]
  exact Router.exists_congr r _ key rfl rfl (by rw [cache_contains_eq, cache_contains_eq, cacheMap_packed_reset]; rfl)

/-- `scan(prefix)` lists the same keys (the very same list in the model's order) for every prefix -/
theorem snapshot_restore_scan (ttOk : List Nat → Bool) (ttRecon : List Nat → List Nat)
    (r : Router) (h : r.WF) (pre : Name) :
    (Router.restore ttRecon (r.snapshot ttOk).2).scan pre = r.scan pre := by
  rw [router_restore_snapshot ttOk ttRecon r h]
  unfold Router.scan Cache.scanPrefix
  simp only [occupied_packed]
  congr 2
  simp [List.filter_map, List.map_map, Function.comp_def, resetAccess]

/-- the number of entries (`len`) and the header's entry count are the same -/
theorem snapshot_restore_entry_count (ttOk : List Nat → Bool) (ttRecon : List Nat → List Nat)
    (r : Router) (h : r.WF) :
    (Router.restore ttRecon (r.snapshot ttOk).2).entryCount = r.entryCount := by
  rw [router_restore_snapshot ttOk ttRecon r h]
  unfold Router.entryCount Router.len Cache.len
  simp only [occupied_packed, List.length_map]

/-- the entity index (vocabulary, tombstones, live count: hence every entity id) is the saved one -/
theorem snapshot_restore_entity_index (ttOk : List Nat → Bool) (ttRecon : List Nat → List Nat) (r : Router) :
    (Router.restore ttRecon (r.snapshot ttOk).2).index = r.index := rfl

/-- saving does not change what the saved store answers for any key (only the graph tensor merges) -/
theorem save_leaves_key_content_alone (ttOk : List Nat → Bool) (r : Router) (key pre : Name) :
    (r.snapshot ttOk).1.peek key = r.peek key ∧ (r.snapshot ttOk).1.exists key = r.exists key ∧
    (r.snapshot ttOk).1.scan pre = r.scan pre := ⟨rfl, rfl, rfl⟩

/-- **All operation sequences**: whatever sequence of operations built the store, with an embedding
    dimension below the tensor-train threshold every key of every class reads back exactly, `exists`
    and `scan` agree and the entry count is the same -/
theorem snapshot_exact_after_any_ops (ttOk : List Nat → Bool) (ttRecon : List Nat → List Nat)
    (cfg : RouterCfg) (hd : cfg.dim < TT_MIN_DIMENSION) (ops : List ROp) (key : Name) :
    let r := (Router.new cfg).run ops
    let l := Router.restore ttRecon (r.snapshot ttOk).2
    l.peek key = r.peek key ∧ l.exists key = r.exists key ∧ l.scan key = r.scan key ∧ l.entryCount = r.entryCount := by
  intro r l
  have hw : r.WF := router_wf_reachable cfg ops
  have hdim : r.emb.dim < TT_MIN_DIMENSION := by rw [router_dim_invariant cfg ops]; exact hd
  exact ⟨snapshot_restore_get_exact_short_dim ttOk ttRecon r hw hdim key,
    snapshot_restore_exists ttOk ttRecon r hw key, snapshot_restore_scan ttOk ttRecon r hw key,
    snapshot_restore_entry_count ttOk ttRecon r hw⟩

/-- with any dimension: the same for every key that is not an `emb:` key -/
theorem snapshot_exact_after_any_ops_non_embedding (ttOk : List Nat → Bool) (ttRecon : List Nat → List Nat)
    (cfg : RouterCfg) (ops : List ROp) (key : Name) (hk : classifyKey key ≠ .embedding) :
    (Router.restore ttRecon (((Router.new cfg).run ops).snapshot ttOk).2).peek key = ((Router.new cfg).run ops).peek key :=
  snapshot_restore_get_exact_non_embedding_key ttOk ttRecon _ (router_wf_reachable cfg ops) key hk

example :
    let r := (Router.new ⟨4, 2, 3, 64⟩).run
      [.put "emb:a".toList [(EMB_FIELD, .vector [1, 2, 3, 4])] 0, .delete "emb:a".toList,
       .put "emb:a".toList [(EMB_FIELD, .vector [9, 0, 0, 0x80000000])] 0, .put "_cache:1".toList [("n".toList, .scalar (.int 5))] 0]
    (Router.restore id (r.snapshot (fun _ => true)).2).peek "emb:a".toList =
      some [(EMB_FIELD, .vector [9, 0, 0, 0x80000000])] ∧
    (Router.restore id (r.snapshot (fun _ => true)).2).peek "_cache:1".toList =
      some [("n".toList, .scalar (.int 5))] := by
  decide +kernel

/-! ## end to end: the file a save writes, and a crash in the middle of the next save -/

/-- **save to a file, load it back** (compressed or not; the serializer and zstd are the opaque `Codec`
    with their round-trip as hypotheses): the loader returns a snapshot whose restored router answers
    every key like the saved store (embedding dimension below the tensor-train threshold) -/
theorem file_save_load_get_exact (C : Codec RouterSnap) (hdec : ∀ s, C.dec (C.enc s) = some s)
    (hz : ∀ b, C.unzip (C.zip b) = some b) (compress : Bool)
    (ttOk : List Nat → Bool) (ttRecon : List Nat → List Nat) (r : Router) (h : r.WF)
    (hd : r.emb.dim < TT_MIN_DIMENSION) (hc : r.entryCount < U64) (key : Name) :
    ∃ s, loadBytes C (fileBytes C compress r.entryCount (r.snapshot ttOk).2) = .ok s ∧
      (Router.restore ttRecon s).peek key = r.peek key ∧ (Router.restore ttRecon s).exists key = r.exists key ∧
      (Router.restore ttRecon s).scan key = r.scan key :=
  ⟨(r.snapshot ttOk).2, load_saved_ok C hdec hz compress r.entryCount hc _,
    snapshot_restore_get_exact_short_dim ttOk ttRecon r h hd key, snapshot_restore_exists ttOk ttRecon r h key,
    snapshot_restore_scan ttOk ttRecon r h key⟩

/-- **a crash during the save of `new` over the snapshot of `old`**: at every crash state of the save's
    file operations, loading the path gives a store that answers EVERY key like `old` or EVERY key like
    `new` — one of the two for all keys at once, never a mixture, never an error -/
theorem crash_during_save_old_or_new_store {π : Type} [DecidableEq π] (C : Codec RouterSnap)
    (hdec : ∀ s, C.dec (C.enc s) = some s) (hz : ∀ b, C.unzip (C.zip b) = some b)
    (tmp path : π) (hne : tmp ≠ path) (fs0 : FS π)
    (ttOk : List Nat → Bool) (ttRecon : List Nat → List Nat) (old new : Router) (ho : old.WF) (hn : new.WF)
    (hdo : old.emb.dim < TT_MIN_DIMENSION) (hdn : new.emb.dim < TT_MIN_DIMENSION)
    (hold : loadPath C fs0 path = .ok (old.snapshot ttOk).2) (compress : Bool) (hc : new.entryCount < U64) :
    ∀ st ∈ crashStates fs0 (saveOps tmp path (encodeHeader (newHeader compress new.entryCount))
        (if compress then C.zip (C.enc (new.snapshot ttOk).2) else C.enc (new.snapshot ttOk).2)),
      ∃ s, loadPath C st path = .ok s ∧
        ((∀ key, (Router.restore ttRecon s).peek key = old.peek key) ∨
         (∀ key, (Router.restore ttRecon s).peek key = new.peek key)) := by
  intro st hst
  rcases save_crash_atomic_old_or_new C hdec hz tmp path hne fs0 _ (new.snapshot ttOk).2 hold compress new.entryCount hc st hst with h | h
  · exact ⟨_, h, Or.inl (fun key => snapshot_restore_get_exact_short_dim ttOk ttRecon old ho hdo key)⟩
  · exact ⟨_, h, Or.inr (fun key => snapshot_restore_get_exact_short_dim ttOk ttRecon new hn hdn key)⟩

/-! ## the store-level loops: `restore_from_bytes`, the v2 loader, the quantising format -/

/-- **`restore_from_bytes`, key by key**: whatever the store held before, for every key that is not a
    cache key, the restored store answers `get` exactly like the router decoded from the bytes when the
    key is among the scanned keys (`order`: the scan in whatever order the hash set yields it), and
    `NotFound` otherwise — earlier content of the store does not survive, in any order of the loop -/
theorem restore_from_bytes_get (target new : Router) (order : List Name) (hnd : order.Nodup)
    (key : Name) (hk : classifyKey key ≠ .cache) :
    (restoreFromBytes target new order).peek key = if key ∈ order then new.peek key else none :=
  fold_putOpt_keys_peek new.peek order target.clear EIndex.new_wf hnd key hk (peek_of_empty _ key hk rfl rfl)

/-- with `order` = the keys `scan("")` of the decoded router lists (in any order, each once) — what the
    code iterates over — every key that is not a cache key reads exactly as in the decoded router -/
theorem restore_from_bytes_over_scan_get (target new : Router) (order : List Name) (hnd : order.Nodup)
    (hscan : ∀ k, k ∈ order ↔ k ∈ new.scan []) (key : Name) (hk : classifyKey key ≠ .cache) :
    (restoreFromBytes target new order).peek key = new.peek key := by
  rw [restore_from_bytes_get target new order hnd key hk]
  by_cases hm : key ∈ order
  · simp [hm]
  · simp only [hm, if_false]
    cases hp : new.peek key with
    | none => rfl
    | some v =>
      exact absurd ((hscan key).mpr (peek_some_mem_scan new key (by rw [hp]; rfl))) hm

/-- composed with the v3 restore: below the tensor-train threshold `restore_from_bytes(snapshot_bytes())`
    gives every scanned non-cache key the value the saved store returns for it -/
theorem restore_from_bytes_of_snapshot_get_exact (ttOk : List Nat → Bool) (ttRecon : List Nat → List Nat)
    (target r : Router) (h : r.WF) (hd : r.emb.dim < TT_MIN_DIMENSION) (order : List Name) (hnd : order.Nodup)
    (key : Name) (hk : classifyKey key ≠ .cache) (hm : key ∈ order) :
    (restoreFromBytes target (Router.restore ttRecon (r.snapshot ttOk).2) order).peek key = r.peek key := by
  rw [restore_from_bytes_get _ _ order hnd key hk]
  simp only [hm, if_true]
  exact snapshot_restore_get_exact_short_dim ttOk ttRecon r h hd key

/-- **what `restore_from_bytes` never carries** (known findings `restore_from_bytes/graph_tensor_not_restored`,
    `…/blob_log_not_restored`; the relational slab is handled the same way by `clear`): whatever the
    decoded router holds in its graph tensor and blob log, the restored store's are the cleared ones -/
theorem restore_from_bytes_drops_graph_and_blobs (target new : Router) (order : List Name) :
    (restoreFromBytes target new order).graph = target.graph.clear ∧
    (restoreFromBytes target new order).blobs = target.blobs.clear :=
  fold_putOpt_graph_blobs new.peek order target.clear

example :
    let new : Router := { Router.new ⟨4, 2, 3, 64⟩ with graph := ((GraphT.new 3).addEdge 1 2 [] true).1 }
    new.graph.outgoing 1 = [(2, 0)] ∧ (restoreFromBytes (Router.new ⟨4, 2, 3, 64⟩) new []).graph.outgoing 1 = [] := by
  decide +kernel

/-- **the legacy v2 loader**: a file whose map has the entries `entries` (a map: distinct keys) loads
    to a store that returns, for every key that is not a cache key, exactly the map's value -/
theorem load_v2_get (cfg : RouterCfg) (entries : List (Name × TData)) (hnd : (aKeys entries).Nodup)
    (key : Name) (hk : classifyKey key ≠ .cache) :
    (loadV2Entries cfg entries).peek key = aFind key entries := by
  have h := fold_putOpt_peek (entries.map fun p => (p.1, some p.2)) (Router.new cfg) EIndex.new_wf
    (by rw [aKeys_map_val fun _ v => some v]; exact hnd) key hk
  rw [List.foldl_map, aFind_map_val some entries key, peek_of_empty (Router.new cfg) key hk rfl rfl] at h
  unfold loadV2Entries
  refine h.trans ?_
  cases aFind key entries <;> rfl

example : (loadV2Entries ⟨4, 2, 3, 64⟩ [("emb:a".toList, [(EMB_FIELD, .vector [1, 2, 3, 4])]), ("user:1".toList, [])]).peek "emb:a".toList =
    some [(EMB_FIELD, .vector [1, 2, 3, 4])] := by decide +kernel

/-- one entry of the quantising format: when every field value survives its own round trip
    (`Props.compressed_value_exact` says when) and the field names are distinct (a map), the decoded
    entry is the saved one -/
theorem quant_entry_exact (ttRecon : List Nat → List Nat) (cfg : CConfig) (key : Name) (d : TData)
    (hnd : (aKeys d).Nodup) (hex : ∀ p ∈ d, roundValue ttRecon cfg key p.1 p.2 = p.2) :
    decompressEntry ttRecon (compressEntry cfg key d) = d := by
  have hround : d.map (fun p => (p.1, roundValue ttRecon cfg key p.1 p.2)) = d :=
    (List.map_congr_left fun p hp => by rw [hex p hp]).trans (List.map_id' d)
  have h2 : (d.map fun p => (p.1, roundValue ttRecon cfg key p.1 p.2)).foldl (fun m p => aInsert p.1 p.2 m) [] = d := by
    rw [hround]; exact foldl_aInsert_nil d hnd
  unfold decompressEntry compressEntry
  rw [List.foldl_map] at h2 ⊢
  exact h2

/-- **the quantising format at store level**: for every key the save lists (`order` = `scan("")`, distinct)
    that is not a cache key, the loaded store returns the saved entry with every field through the
    format's value map — hence the saved entry itself whenever its values round-trip — and keys the
    save does not list are absent -/
theorem quant_store_get (ttRecon : List Nat → List Nat) (qcfg : CConfig) (cfg : RouterCfg) (r : Router)
    (order : List Name) (hnd : order.Nodup) (key : Name) (hk : classifyKey key ≠ .cache) :
    (loadQuant ttRecon cfg (saveQuant qcfg r order)).peek key =
      if key ∈ order then (r.peek key).map (fun d => decompressEntry ttRecon (compressEntry qcfg key d)) else none := by
  unfold loadQuant saveQuant
  -- the load of a list of optional entries is a loop of optional puts
  have hfold : ∀ t : Router,
      (order.filterMap (fun key => (r.peek key).map (fun d => (key, compressEntry qcfg key d)))).foldl
        (fun r p => r.put p.1 (decompressEntry ttRecon p.2) 0) t =
      order.foldl (fun t k => t.putOpt k ((r.peek k).map fun d => decompressEntry ttRecon (compressEntry qcfg k d))) t := by
    intro t
    rw [List.foldl_filterMap]
    congr
    funext t k
    cases r.peek k <;> rfl
  rw [hfold]
  exact fold_putOpt_keys_peek _ order _ EIndex.new_wf hnd key hk (peek_of_empty _ key hk rfl rfl)

/-- the key-addressed content of a store comes back exactly through the quantising format when each
    stored value does -/
theorem quant_store_get_exact (ttRecon : List Nat → List Nat) (qcfg : CConfig) (cfg : RouterCfg) (r : Router)
    (order : List Name) (hnd : order.Nodup) (key : Name) (hk : classifyKey key ≠ .cache) (hm : key ∈ order)
    (hfields : ∀ d, r.peek key = some d → (aKeys d).Nodup ∧ ∀ p ∈ d, roundValue ttRecon qcfg key p.1 p.2 = p.2) :
    (loadQuant ttRecon cfg (saveQuant qcfg r order)).peek key = r.peek key := by
  rw [quant_store_get ttRecon qcfg cfg r order hnd key hk]
  simp only [hm, if_true]
  cases hp : r.peek key with
  | none => rfl
  | some d =>
    simp only [Option.map_some]
    rw [quant_entry_exact ttRecon qcfg key d (hfields d hp).1 (hfields d hp).2]

example : (loadQuant id ⟨4, 2, 3, 64⟩ (saveQuant ⟨false, true, true⟩
      ((Router.new ⟨4, 2, 3, 64⟩).put "user:1".toList [("b".toList, .scalar (.bytes [1, 2, 3])), ("ids".toList, .vector [0x3fc00000])] 0)
      ["user:1".toList])).peek "user:1".toList =
    some [("b".toList, .scalar (.bytes [1, 2, 3])), ("ids".toList, .vector [0x3fc00000])] := by decide +kernel

end Neumann.Snap.Props
