import NeumannModel.Snap.LoopLemmas
/-
  Helper lemmas for the Bloom filter in front of the router (C07, `TStore` of Store.lean): which keys
  `exists` can answer `true` for after each router operation (only the key just put, or a key it
  answered `true` for before), and the invariant "every key the router holds has been told to the
  filter".
-/
namespace Neumann.Snap

theorem contains_set_imp (c : Cache) (i : Nat) (x : Option CEntry) (key : Name)
    (h : ({ c with slots := c.slots.set i x } : Cache).contains key = true) :
    (∃ e, x = some e ∧ e.key = key) ∨ c.contains key = true := by
  obtain ⟨j, e, hj, hk⟩ := (contains_iff _ key).1 h
  rcases getElem?_set_some_imp _ _ _ _ _ hj with ⟨_, hy⟩ | ⟨_, hy⟩
  · exact .inl ⟨e, hy.symm, hk⟩
  · exact .inr ((contains_iff c key).2 ⟨j, e, hy, hk⟩)

theorem cache_put_contains_imp (c : Cache) (k : Name) (val : TData) (cost size victim : Nat) (key : Name)
    (h : (c.put k val cost size victim).contains key = true) : key = k ∨ c.contains key = true := by
  unfold Cache.put at h
  cases hf : findSlot k c.slots 0 with
  | some i =>
    obtain ⟨e0, he0, hk0⟩ := findSlot_some_spec k c.slots i hf
    simp only [hf, he0] at h
    rcases contains_set_imp c i _ key h with ⟨e, he, hk⟩ | h
    · cases he; exact .inl (hk.symm.trans hk0)
    · exact .inr h
  | none =>
    simp only [hf] at h
    rcases contains_set_imp c _ _ key h with ⟨e, he, hk⟩ | h
    · cases he; exact .inl hk.symm
    · exact .inr h

theorem cache_delete_contains_imp (c : Cache) (k key : Name) (h : (c.delete k).contains key = true) :
    c.contains key = true := by
  unfold Cache.delete at h
  cases hf : findSlot k c.slots 0 with
  | some i =>
    simp only [hf] at h
    rcases contains_set_imp c i none key h with ⟨e, he, -⟩ | h
    · cases he
    · exact h
  | none => simpa only [hf] using h

theorem cache_touch_contains_imp (c : Cache) (k key : Name) (h : (c.touch k).contains key = true) :
    c.contains key = true := by
  unfold Cache.touch at h
  cases hf : findSlot k c.slots 0 with
  | some i =>
    obtain ⟨e0, he0, hk0⟩ := findSlot_some_spec k c.slots i hf
    simp only [hf, he0] at h
    rcases contains_set_imp c i _ key h with ⟨e, he, hk⟩ | h
    · cases he; exact (contains_iff c key).2 ⟨i, e0, he0, hk⟩
    · exact h
  | none => simpa only [hf] using h

theorem cache_replicate_contains (cap n : Nat) (key : Name) : (⟨cap, List.replicate n none⟩ : Cache).contains key = false := by
  cases h : (⟨cap, List.replicate n none⟩ : Cache).contains key with
  | false => rfl
  | true =>
    obtain ⟨j, e, hj, _⟩ := (contains_iff _ key).mp h
    simp only [List.getElem?_replicate] at hj
    split at hj <;> simp at hj

theorem findLiveFrom_mono (tomb tomb' : List Nat) (hsub : ∀ x, x ∈ tomb → x ∈ tomb') (key : Name) (vocab : List Name) (i : Nat)
    (h : (findLiveFrom tomb' key vocab i).isSome) : (findLiveFrom tomb key vocab i).isSome := by
  induction vocab generalizing i with
  | nil => simp [findLiveFrom] at h
  | cons k ks ih =>
    simp only [findLiveFrom] at h ⊢
    by_cases hk : k = key ∧ ¬ i ∈ tomb
    · simp [hk]
    · simp only [hk, if_false]
      by_cases hk' : k = key ∧ ¬ i ∈ tomb'
      · exact absurd ⟨hk'.1, fun hm => hk'.2 (hsub i hm)⟩ hk
      · simp only [hk', if_false] at h
        exact ih (i + 1) h

theorem remove_get_imp (ix : EIndex) (k key : Name) (h : ((ix.remove k).get key).isSome) : (ix.get key).isSome := by
  unfold EIndex.remove at h
  cases hg : ix.get k with
  | none => rw [hg] at h; exact h
  | some id =>
    rw [hg] at h
    simp only [EIndex.get] at h ⊢
    apply findLiveFrom_mono ix.tomb _ _ key ix.vocab 0 h
    intro x hx
    split
    · exact hx
    · exact List.mem_cons_of_mem _ hx

theorem aFind_aErase_imp {κ ν : Type} [DecidableEq κ] (k key : κ) (l : List (κ × ν)) (h : (aFind key (aErase k l)).isSome) :
    (aFind key l).isSome := by
  rw [aFind_isSome_iff_mem] at h ⊢
  exact aKeys_aErase_sub k l key h

theorem exists_put_imp (r : Router) (k : Name) (v : TData) (victim : Nat) (key : Name)
    (h : (r.put k v victim).exists key = true) : key = k ∨ r.exists key = true := by
  by_cases hkk : key = k
  · exact Or.inl hkk
  · refine Or.inr (Router.exists_mono r _ key ?_ ?_ ?_ h)
    · rw [put_index_get_ne r k key v victim hkk]; exact id
    · rw [put_md_find_ne r k key v victim hkk]; exact id
    · rw [Router.put_cache]
      split
      · exact fun hc => (cache_put_contains_imp _ _ _ _ _ _ _ hc).resolve_left hkk
      · exact id

theorem exists_delete_imp (r : Router) (k key : Name) (h : (r.delete k).1.exists key = true) : r.exists key = true := by
  obtain ⟨hm, hi, hc, -⟩ := Router.delete_fields r k
  refine Router.exists_mono r _ key ?_ ?_ ?_ h
  · rcases hi with e | e <;> rw [e]
    · exact id
    · exact remove_get_imp r.index k key
  · rcases hm with e | e <;> rw [e]
    · exact id
    · exact aFind_aErase_imp k key r.md
  · rcases hc with e | e <;> rw [e]
    · exact id
    · exact cache_delete_contains_imp r.cache k key

theorem exists_touch_imp (r : Router) (k key : Name) (h : (r.touch k).exists key = true) : r.exists key = true := by
  obtain ⟨hm, hi, -, hc⟩ := Router.touch_fields r k
  refine Router.exists_mono r _ key (by rw [hi]; exact id) (by rw [hm]; exact id) ?_ h
  rcases hc with e | e <;> rw [e]
  · exact id
  · exact cache_touch_contains_imp r.cache k key

theorem exists_of_empty (r : Router) (key : Name) (hi : r.index = EIndex.new) (hm : r.md = [])
    (hc : ∃ n, r.cache.slots = List.replicate n none) : r.exists key = false := by
  obtain ⟨n, hc⟩ := hc
  have hcache : r.cache.contains key = false := by
    have := cache_replicate_contains r.cache.cap n key
    rwa [← hc] at this
  unfold Router.exists
  rw [hi, hm, hcache]
  split <;> rfl

theorem exists_clear (r : Router) (key : Name) : r.clear.exists key = false :=
  exists_of_empty _ key rfl rfl ⟨_, rfl⟩

theorem exists_new (cfg : RouterCfg) (key : Name) : (Router.new cfg).exists key = false :=
  exists_of_empty _ key rfl rfl ⟨_, rfl⟩

/-- every key the router answers `exists` for has been told to the filter (when there is one) -/
def TStore.Covers (s : TStore) : Prop :=
  ∀ added, s.filter = some added → ∀ key, s.router.exists key = true → key ∈ added

theorem covers_new (cfg : RouterCfg) (bloom : Bool) : (TStore.new cfg bloom).Covers := by
  intro added _ key h
  simp only [TStore.new] at h
  rw [exists_new] at h
  exact absurd h (by simp)

theorem covers_put (s : TStore) (k : Name) (v : TData) (victim : Nat) (h : s.Covers) : (s.put k v victim).Covers := by
  intro added hf key hex
  simp only [TStore.put, TStore.tell] at hf hex
  cases hs : s.filter with
  | none => rw [hs] at hf; simp at hf
  | some a =>
    rw [hs] at hf
    simp only [Option.map_some, Option.some.injEq] at hf
    subst hf
    rcases exists_put_imp s.router k v victim key hex with h1 | h1
    · subst h1; exact List.mem_cons_self
    · exact List.mem_cons_of_mem _ (h a hs key h1)

theorem covers_delete (s : TStore) (k : Name) (h : s.Covers) : (s.delete k).1.Covers := by
  intro added hf key hex
  simp only [TStore.delete] at hf hex
  exact h added hf key (exists_delete_imp s.router k key hex)

theorem covers_touch (fp : List Name → Name → Bool) (s : TStore) (k : Name) (h : s.Covers) : (s.touch fp k).Covers := by
  unfold TStore.touch
  split
  · intro added hf key hex
    exact h added hf key (exists_touch_imp s.router k key hex)
  · exact h

theorem covers_clear (s : TStore) : s.clear.Covers := by
  intro added _ key hex
  simp only [TStore.clear] at hex
  rw [exists_clear] at hex
  exact absurd hex (by simp)

theorem covers_restoreStart (s : TStore) : s.restoreStart.Covers := by
  intro added _ key hex
  simp only [TStore.restoreStart] at hex
  rw [exists_clear] at hex
  exact absurd hex (by simp)

theorem restoreStep_none (tell : Bool) (new : Router) (t : TStore) (key : Name) (h : new.peek key = none) :
    TStore.restoreStep tell new t key = t := by
  unfold TStore.restoreStep
  rw [h]

theorem restoreStep_some (tell : Bool) (new : Router) (t : TStore) (key : Name) (v : TData) (h : new.peek key = some v) :
    TStore.restoreStep tell new t key = ⟨t.router.put key v 0, if tell then t.tell key else t.filter⟩ := by
  unfold TStore.restoreStep
  rw [h]

theorem covers_restoreStep (new : Router) (t : TStore) (k : Name) (h : t.Covers) : (TStore.restoreStep true new t k).Covers := by
  cases hp : new.peek k with
  | none => rw [restoreStep_none true new t k hp]; exact h
  | some v =>
    rw [restoreStep_some true new t k v hp]
    exact covers_put t k v 0 h

theorem covers_fold_restoreStep (new : Router) (order : List Name) (t : TStore) (h : t.Covers) :
    (order.foldl (TStore.restoreStep true new) t).Covers := by
  induction order generalizing t with
  | nil => exact h
  | cons k ks ih => exact ih _ (covers_restoreStep new t k h)

theorem covers_restoreFromBytes (s : TStore) (new : Router) (order : List Name) : (s.restoreFromBytes new order).Covers :=
  covers_fold_restoreStep new order _ (covers_restoreStart s)

theorem fold_restoreStep_router (tell : Bool) (new : Router) (order : List Name) (t : TStore) :
    (order.foldl (TStore.restoreStep tell new) t).router =
      order.foldl (fun r key => r.putOpt key (new.peek key)) t.router := by
  induction order generalizing t with
  | nil => rfl
  | cons k ks ih =>
    simp only [List.foldl_cons]
    rw [ih]
    congr 1
    cases hp : new.peek k with
    | none => rw [restoreStep_none tell new t k hp]; rfl
    | some v => rw [restoreStep_some tell new t k v hp]; rfl

theorem restoreWith_router (tell : Bool) (s : TStore) (new : Router) (order : List Name) :
    (TStore.restoreWith tell s new order).router = restoreFromBytes s.router new order :=
  fold_restoreStep_router tell new order s.restoreStart

/-- the filter after the loop, in closed form: untouched when the loop does not tell it, else the keys of
    `order` that `get` finds in `new`, latest first, in front of what it held -/
theorem fold_restoreStep_filter (tell : Bool) (new : Router) (order : List Name) (t : TStore) :
    (order.foldl (TStore.restoreStep tell new) t).filter =
      if tell then t.filter.map (fun a => (order.filter fun k => (new.peek k).isSome).reverse ++ a)
      else t.filter := by
  induction order generalizing t with
  | nil => cases tell <;> simp
  | cons k ks ih =>
    rw [List.foldl_cons, ih]
    cases hp : new.peek k with
    | none => rw [restoreStep_none tell new t k hp]; simp [hp]
    | some v =>
      rw [restoreStep_some tell new t k v hp]
      cases tell
      · rfl
      · simp only [TStore.tell, if_true, Option.map_map, List.filter_cons, hp, Option.isSome_some,
          List.reverse_cons, List.append_assoc]
        rfl

theorem fold_restoreStep_filter_mem (new : Router) (order : List Name) (t : TStore) (a : List Name) (ha : t.filter = some a) :
    ∃ a', (order.foldl (TStore.restoreStep true new) t).filter = some a' ∧
      ∀ key, key ∈ a' ↔ (key ∈ a ∨ (key ∈ order ∧ (new.peek key).isSome)) :=
  ⟨_, by rw [fold_restoreStep_filter, if_pos rfl, ha]; rfl, fun key => by
    rw [List.mem_append, List.mem_reverse, List.mem_filter, Or.comm]⟩

theorem fold_cons_mem (order acc : List Name) (key : Name) :
    key ∈ order.foldl (fun added k => k :: added) acc ↔ (key ∈ order ∨ key ∈ acc) := by
  rw [List.foldl_flip_cons_eq_append, List.map_id', List.mem_append, List.mem_reverse]

theorem covers_loadWithBloom (r : Router) (order : List Name) (hscan : ∀ k, k ∈ r.scan [] → k ∈ order) :
    (TStore.loadWithBloom r order).Covers := by
  intro added hf key hex
  simp only [TStore.loadWithBloom, Option.some.injEq] at hf hex
  subst hf
  rw [fold_cons_mem]
  exact Or.inl (hscan key (exists_mem_scan r key hex))

theorem covers_apply (fp : List Name → Name → Bool) (s : TStore) (op : TOp) (h : s.Covers) : (s.apply fp op).Covers := by
  cases op with
  | put k v victim => exact covers_put s k v victim h
  | delete k => exact covers_delete s k h
  | get k => exact covers_touch fp s k h
  | clear => exact covers_clear s
  | restore new order => exact covers_restoreFromBytes s new order

theorem covers_run (fp : List Name → Name → Bool) (s : TStore) (ops : List TOp) (h : s.Covers) : (s.run fp ops).Covers := by
  unfold TStore.run
  induction ops generalizing s with
  | nil => exact h
  | cons op ops ih => exact ih _ (covers_apply fp s op h)

/-- under the invariant the filter never changes an answer -/
theorem covers_transparent (fp : List Name → Name → Bool) (s : TStore) (h : s.Covers) (key : Name) :
    s.get fp key = s.router.peek key ∧ s.exists fp key = s.router.exists key := by
  unfold TStore.get TStore.exists TStore.passes
  cases hf : s.filter with
  | none => simp
  | some a =>
    simp only
    by_cases hex : s.router.exists key = true
    · have hm : key ∈ a := h a hf key hex
      simp [mightContain, hm]
    · have hex' : s.router.exists key = false := by simpa using hex
      have hp : s.router.peek key = none := by
        cases hp : s.router.peek key with
        | none => rfl
        | some v => exact absurd (peek_isSome_exists s.router key (by rw [hp]; rfl)) hex
      simp [hex', hp]

end Neumann.Snap
