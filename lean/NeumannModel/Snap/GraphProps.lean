import NeumannModel.Snap.GraphLemmas
/-
  C07 — the graph tensor and the blob log through `snapshot` + `restore` ("graph data", "blobs" of the
  property's data classes; slab_router.rs `snapshot` / `restore` call these per slab).

  Graph tensor (graph_tensor.rs), stated for EVERY graph that any sequence of add_edge / delete_edge /
  merge / set_edge_data operations reaches, with any merge threshold (automatic merges included):
  * `incoming` is the transpose of `outgoing` at every moment (`graph_incoming_is_transpose_of_outgoing`);
    a merge — the one `snapshot()` runs on the store being saved included — changes neither
    (`graph_save_keeps_outgoing_and_incoming`);
  * the restored graph answers `outgoing` with the very same (target, edge id) lists, `incoming` with the
    same (source, edge id) entries, `get_edge_data` with the same data for every id, and continues with
    the saved id counter (`graph_restore_*`).
  `…_witness` theorems are about the code before 3d29d770 (`restoreOld`: edges renumbered 0, 1, 2 … in
  snapshot order, edge data — keyed by id — left behind on other edges) and before ce34e58a (`mergeOld`:
  a deleted edge listed by `incoming` again after the merge a save runs).

  Blob log (blob_log.rs): `get` and the counters are reproduced for every log; `contains` is reproduced
  exactly when no chunk is marked garbage — the marks are not part of the snapshot (witness; known
  finding `tensor_store.blob_log.snapshot/garbage_marks_not_restored`).
-/
namespace Neumann.Snap.Props
open Neumann.Snap

/-! ## graph tensor -/

/-- the structural invariants (CSR rows in range, sources bounded by the node counter, one data entry
    per edge id, incoming index = transpose of the stored edges) hold after ANY operation sequence -/
theorem graph_inv_reachable (threshold : Nat) (ops : List GOp) :
    ((GraphT.new threshold).run ops).Inv ∧ ((GraphT.new threshold).run ops).IncInv :=
  run_inv _ ops (GraphT.new_inv threshold) (GraphT.new_incInv threshold)

/-- **incoming = transpose of outgoing, for every history** (deletions followed by merges included:
    since ce34e58a a merge removes the deleted edges from the incoming index too) -/
theorem graph_incoming_is_transpose_of_outgoing (threshold : Nat) (ops : List GOp) (s t id : Nat) :
    (s, id) ∈ ((GraphT.new threshold).run ops).incomingOf t ↔ (t, id) ∈ ((GraphT.new threshold).run ops).outgoing s :=
  incoming_transpose _ (graph_inv_reachable threshold ops).1.rows (graph_inv_reachable threshold ops).2 s t id

example : ((GraphT.new 2).run [.add 1 2 [] true, .add 3 2 [] true, .del 0, .add 2 1 [] false]).incomingOf 2 = [(3, 1)] ∧
    ((GraphT.new 2).run [.add 1 2 [] true, .add 3 2 [] true, .del 0, .add 2 1 [] false]).outgoing 3 = [(2, 1)] := by
  decide +kernel

/-- saving (`snapshot()` merges the graph being saved) changes neither list of any node -/
theorem graph_save_keeps_outgoing_and_incoming (g : GraphT) (h : g.Inv) (node : Nat) :
    g.snapshot.1.outgoing node = g.outgoing node ∧ g.snapshot.1.incomingOf node = g.incomingOf node := by
  refine ⟨?_, merge_incomingOf g node⟩
  show g.merge.outgoing node = g.outgoing node
  unfold GraphT.outgoing
  rw [merge_outEdges g h]

/-- **`outgoing` of the restored graph is the saved one: same targets, same edge ids, same order** -/
theorem graph_restore_outgoing_exact (g : GraphT) (h : g.Inv) (node : Nat) :
    (GraphT.restore g.snapshot.2).outgoing node = g.outgoing node := by
  unfold GraphT.restore
  rw [restoreWith_outgoing, restoredOut_keep, outgoing_eq_snapshot g h]

/-- `incoming` of the restored graph lists the same (source, edge id) entries -/
theorem graph_restore_incoming (g : GraphT) (h : g.Inv) (hi : g.IncInv) (s t id : Nat) :
    (s, id) ∈ (GraphT.restore g.snapshot.2).incomingOf t ↔ (s, id) ∈ g.incomingOf t := by
  have hr := restoreWith_rows_incInv true g.snapshot.2
  unfold GraphT.restore
  rw [incoming_transpose _ hr.1 hr.2, incoming_transpose g h.rows hi]
  have := graph_restore_outgoing_exact g h s
  unfold GraphT.restore at this
  rw [this]

/-- edge data comes back under the same edge id, for every id -/
theorem graph_restore_edge_data (g : GraphT) (h : g.Inv) (id : Nat) :
    (GraphT.restore g.snapshot.2).getEdgeData id = g.getEdgeData id := by
  unfold GraphT.restore GraphT.getEdgeData
  rw [restoreWith_edgeData true g.snapshot.2 (by rw [(snapshot_fields g).2.1]; exact h.dataNd), (snapshot_fields g).2.1]

/-- `edge_count()` is the saved one -/
theorem graph_restore_edge_count (g : GraphT) (h : g.Inv) : (GraphT.restore g.snapshot.2).edgeCount = g.edgeCount := by
  obtain ⟨m, hm⟩ := restoreWith_live_bound true g.snapshot.2
  have hr := restoreWith_rows_incInv true g.snapshot.2
  apply edgeCount_of_outgoing_eq g (GraphT.restore g.snapshot.2) h.rows hr.1 (max m g.maxNode)
  · intro e he
    have := h.bound e (mem_live g e he)
    omega
  · intro e he
    have := hm e he
    omega
  · exact graph_restore_outgoing_exact g h

/-- the id counter and the node counter are the saved ones: new edges continue after the saved ids -/
theorem graph_restore_counters (g : GraphT) :
    (GraphT.restore g.snapshot.2).nextId = g.nextId ∧ (GraphT.restore g.snapshot.2).maxNode = g.maxNode :=
  ⟨(snapshot_fields g).2.2.1, (snapshot_fields g).2.2.2.1⟩

/-- the four together for every graph any operation sequence builds -/
theorem graph_restore_exact_after_any_ops (threshold : Nat) (ops : List GOp) (s t id : Nat) :
    let g := (GraphT.new threshold).run ops
    (GraphT.restore g.snapshot.2).outgoing s = g.outgoing s ∧
    ((s, id) ∈ (GraphT.restore g.snapshot.2).incomingOf t ↔ (s, id) ∈ g.incomingOf t) ∧
    (GraphT.restore g.snapshot.2).getEdgeData id = g.getEdgeData id ∧
    (GraphT.restore g.snapshot.2).nextId = g.nextId := by
  intro g
  have hi := graph_inv_reachable threshold ops
  exact ⟨graph_restore_outgoing_exact g hi.1 s, graph_restore_incoming g hi.1 hi.2 s t id,
    graph_restore_edge_data g hi.1 id, (graph_restore_counters g).1⟩

/-- sources out of order (5 → 1 added first, then 2 → 3), edge data on the first edge -/
def witnessGraph : GraphT :=
  (((GraphT.new 10000).run [.add 5 1 "a".toList true, .add 2 3 "b".toList false]).setEdgeData 0 [("w".toList, .scalar (.int 50))])

example : (GraphT.restore witnessGraph.snapshot.2).outgoing 5 = [(1, 0)] ∧ (GraphT.restore witnessGraph.snapshot.2).outgoing 2 = [(3, 1)] ∧
    (GraphT.restore witnessGraph.snapshot.2).getEdgeData 0 = some [("w".toList, .scalar (.int 50))] := by decide +kernel

/-- before 3d29d770 `restore` re-added the edges with `add_edge`: the edge 2 → 3 (saved id 1) came back
    as id 0 and 5 → 1 (saved id 0) as id 1, while the data of edge 0 stayed under id 0 — on the other
    edge. In general the restored ids were the positions in the snapshot's edge list. -/
theorem graph_restore_renumbers_witness :
    witnessGraph.outgoing 2 = [(3, 1)] ∧ (GraphT.restoreOld witnessGraph.snapshot.2).outgoing 2 = [(3, 0)] ∧
    witnessGraph.outgoing 5 = [(1, 0)] ∧ (GraphT.restoreOld witnessGraph.snapshot.2).outgoing 5 = [(1, 1)] ∧
    (GraphT.restoreOld witnessGraph.snapshot.2).getEdgeData 0 = some [("w".toList, .scalar (.int 50))] ∧
    ¬ (∀ (g : GraphT), g.Inv → ∀ node, (GraphT.restoreOld g.snapshot.2).outgoing node = g.outgoing node) := by
  refine ⟨by decide, by decide, by decide, by decide, by decide, fun hall => ?_⟩
  have h := hall witnessGraph (by
    have := (graph_inv_reachable 10000 [.add 5 1 "a".toList true, .add 2 3 "b".toList false]).1
    exact ⟨this.rows, this.bound, by decide⟩) 2
  revert h
  decide

/-- what `restoreOld` did keep: the targets of every node, in order (for every graph) -/
theorem graph_restore_old_keeps_targets (g : GraphT) (h : g.Inv) (node : Nat) :
    ((GraphT.restoreOld g.snapshot.2).outgoing node).map (·.1) = (g.outgoing node).map (·.1) := by
  unfold GraphT.restoreOld
  rw [restoreWith_outgoing, restoredOut_targets, outgoing_eq_snapshot g h]
  simp [List.map_map, Function.comp_def]

/-- before ce34e58a the merge that `snapshot()` runs emptied the deleted set without pruning the
    incoming index: add 1 → 2 (edge 0), delete edge 0; `incoming(2)` is empty before the save and lists
    the deleted edge after it -/
theorem graph_merge_old_resurrects_deleted_incoming_witness :
    ((GraphT.new 10000).run [.add 1 2 [] true, .del 0]).incomingOf 2 = [] ∧
    ((GraphT.new 10000).run [.add 1 2 [] true, .del 0]).mergeOld.incomingOf 2 = [(1, 0)] ∧
    ((GraphT.new 10000).run [.add 1 2 [] true, .del 0]).mergeOld.outgoing 1 = [] ∧
    ((GraphT.new 10000).run [.add 1 2 [] true, .del 0]).merge.incomingOf 2 = [] := by
  decide +kernel

/-! ## blob log -/

/-- `get` answers the same for every hash (the segments and the index are carried as they are) -/
theorem blob_restore_get (b : BlobLog) (hash : Nat) : (BlobLog.restore b.snapshot).get hash = b.get hash := rfl

/-- the chunk and byte counters, recomputed from the index by `restore`, are the saved ones after any
    sequence of appends (duplicates and sealed segments included) and garbage marks -/
theorem blob_restore_counters (segSize : Nat) (ops : List BOp) :
    (BlobLog.restore ((BlobLog.new segSize).run ops).snapshot).chunkCount = ((BlobLog.new segSize).run ops).chunkCount ∧
    (BlobLog.restore ((BlobLog.new segSize).run ops).snapshot).totalBytes = ((BlobLog.new segSize).run ops).totalBytes := by
  have h := BlobLog.run_inv _ ops (BlobLog.new_inv segSize)
  exact ⟨h.count.symm, h.bytes.symm⟩

example : ((BlobLog.new 4).run [.append 1 [1, 2, 3], .append 2 [4, 5, 6], .append 1 [1, 2, 3], .mark 2]).chunkCount = 2 ∧
    ((BlobLog.new 4).run [.append 1 [1, 2, 3], .append 2 [4, 5, 6], .append 1 [1, 2, 3], .mark 2]).sealed.length = 1 := by decide +kernel

/-- `contains` answers the same for every chunk that is not marked garbage -/
theorem blob_restore_contains_unmarked (b : BlobLog) (hash : Nat) (h : hash ∉ b.garbage) :
    (BlobLog.restore b.snapshot).contains hash = b.contains hash := by
  unfold BlobLog.contains BlobLog.restore BlobLog.snapshot
  simp [h]

/-- the marks themselves are not in the snapshot: a marked chunk is `contains = false` before the save
    and `true` after the load (known finding) -/
theorem blob_restore_forgets_garbage_marks_witness :
    let b := ((BlobLog.new 64).append 7 [97, 98, 99]).markGarbage 7
    b.contains 7 = false ∧ (BlobLog.restore b.snapshot).contains 7 = true ∧
    b.get 7 = some [97, 98, 99] ∧ (BlobLog.restore b.snapshot).get 7 = some [97, 98, 99] := by
  decide +kernel

end Neumann.Snap.Props
