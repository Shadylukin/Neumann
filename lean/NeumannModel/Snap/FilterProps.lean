import NeumannModel.Snap.FilterLemmas
import NeumannModel.Snap.StoreProps
/-
  C07 — the store-level load paths INTO A STORE BUILT WITH A BLOOM FILTER.

  `TensorStore::get` / `exists` ask the store's Bloom filter before the router and answer `NotFound` /
  `false` from the filter alone when it says "definitely absent"; `scan` never asks it. A load path that
  fills the router without telling the filter therefore produces a store in which `scan` lists the
  saved keys while `get` / `exists` deny them: that is what `restore_from_bytes` did before cb3c5db0
  (`TStore.restoreFromBytesOld`, witness below). Here, for the code as it is now (`TStore` of
  Store.lean: the filter is the list of keys added since the last clear, its false positives an
  ARBITRARY function `fp` of that content and the asked key):
  * after `restore_from_bytes` into ANY store (any router content, any filter content, any `fp`), every
    key-addressed read (`get`, `exists`; every key class) is the router's own answer, hence — for the
    keys of the loops' theorems in StoreProps — the saved store's; keys the target held before are gone
    for `get` / `exists` as they are for `scan`, although they stay in the filter;
  * the loaders that build a filter from `scan("")` (`load_snapshot_with_bloom_filter`,
    `recover_with_bloom`) give a store whose reads are the loaded router's for every key;
  * over ALL histories of put / delete / get / clear / restore_from_bytes from a new store, a store with
    a filter and a store without one hold the same router and answer every `get` / `exists` alike.
-/
namespace Neumann.Snap.Props
open Neumann.Snap

/-! ## `restore_from_bytes` into a store with a filter -/

/-- `scan` never consults the filter -/
theorem filter_never_affects_scan (s : TStore) (pre : Name) : s.scan pre = s.router.scan pre := rfl

/-- telling the filter changes nothing below it: the router after `restore_from_bytes` is the
    router-level loop's result (`restoreFromBytes` of StoreProps), with or without a filter, told or not -/
theorem restore_router_is_the_loop (tell : Bool) (s : TStore) (new : Router) (order : List Name) :
    (TStore.restoreWith tell s new order).router = restoreFromBytes s.router new order :=
  restoreWith_router tell s new order

/-- **The filter is transparent after `restore_from_bytes`**: for EVERY target store (whatever its
    router and its filter held), every decoded router, every iteration order, every false-positive
    behaviour `fp` and every key of every class, `get` and `exists` of the restored store answer exactly
    what its router answers — the filter denies no restored key -/
theorem restore_into_filter_store_reads (fp : List Name → Name → Bool) (s : TStore) (new : Router) (order : List Name)
    (key : Name) :
    (s.restoreFromBytes new order).get fp key = (restoreFromBytes s.router new order).peek key ∧
    (s.restoreFromBytes new order).exists fp key = (restoreFromBytes s.router new order).exists key := by
  have h := covers_transparent fp _ (covers_restoreFromBytes s new order) key
  rw [TStore.restoreFromBytes, restoreWith_router] at h
  exact h

/-- `exists` of the router-level loop, key by key (not a cache key): `true` exactly for the scanned keys
    that `get` finds in the decoded router — nothing of the store's earlier content -/
theorem restore_from_bytes_exists (target new : Router) (order : List Name) (hnd : order.Nodup)
    (key : Name) (hk : classifyKey key ≠ .cache) :
    (restoreFromBytes target new order).exists key = (decide (key ∈ order) && (new.peek key).isSome) := by
  rw [Bool.eq_iff_iff]
  simp only [Bool.and_eq_true, decide_eq_true_eq]
  let s : TStore := ⟨target, some []⟩
  have hc := covers_restoreFromBytes s new order
  obtain ⟨a', ha', hmem⟩ := fold_restoreStep_filter_mem new order s.restoreStart [] rfl
  have hr : (s.restoreFromBytes new order).router = restoreFromBytes target new order := restoreWith_router true s new order
  constructor
  · intro hex
    have := hc a' ha' key (by rw [hr]; exact hex)
    rcases (hmem key).mp this with h | h
    · simp at h
    · exact h
  · rintro ⟨hm, hp⟩
    apply peek_isSome_exists
    rw [restore_from_bytes_get target new order hnd key hk]
    simp only [hm, if_true]
    exact hp

/-- **`get` / `exists` of the restored store = the decoded router's `get`** (keys that are not cache
    keys; `order` = the keys `scan("")` of the decoded router lists, each once, in any order): with any
    filter content before the restore and any false positives -/
theorem restore_into_filter_store_get (fp : List Name → Name → Bool) (s : TStore) (new : Router) (order : List Name)
    (hnd : order.Nodup) (hscan : ∀ k, k ∈ order ↔ k ∈ new.scan []) (key : Name) (hk : classifyKey key ≠ .cache) :
    (s.restoreFromBytes new order).get fp key = new.peek key ∧
    (s.restoreFromBytes new order).exists fp key = (new.peek key).isSome := by
  obtain ⟨h1, h2⟩ := restore_into_filter_store_reads fp s new order key
  refine ⟨h1.trans (restore_from_bytes_over_scan_get s.router new order hnd hscan key hk), ?_⟩
  rw [h2, restore_from_bytes_exists s.router new order hnd key hk]
  cases hp : new.peek key with
  | none => simp
  | some v =>
    have : key ∈ order := (hscan key).mpr (peek_some_mem_scan new key (by rw [hp]; rfl))
    simp [this]

/-- **against the saved store**: `dst.restore_from_bytes(src.snapshot_bytes())` with `dst` built with a
    Bloom filter (or not), empty or holding other keys: below the tensor-train threshold every key that is
    not a cache key reads in `dst` exactly as in `src` — `get` the same value or `NotFound`, `exists`
    `true` exactly when `get` succeeds in `src` -/
theorem restore_into_filter_store_equals_saved (ttOk : List Nat → Bool) (ttRecon : List Nat → List Nat)
    (fp : List Name → Name → Bool) (dst : TStore) (src : Router) (h : src.WF) (hd : src.emb.dim < TT_MIN_DIMENSION)
    (order : List Name) (hnd : order.Nodup)
    (hscan : ∀ k, k ∈ order ↔ k ∈ (Router.restore ttRecon (src.snapshot ttOk).2).scan [])
    (key : Name) (hk : classifyKey key ≠ .cache) :
    (dst.restoreFromBytes (Router.restore ttRecon (src.snapshot ttOk).2) order).get fp key = src.peek key ∧
    (dst.restoreFromBytes (Router.restore ttRecon (src.snapshot ttOk).2) order).exists fp key = (src.peek key).isSome := by
  obtain ⟨h1, h2⟩ := restore_into_filter_store_get fp dst _ order hnd hscan key hk
  rw [snapshot_restore_get_exact_short_dim ttOk ttRecon src h hd key] at h1 h2
  exact ⟨h1, h2⟩

/-- **keys the target held before** and that are not among the restored ones are absent for `get` and
    `exists` (as they are for `scan`), although the filter still holds them -/
theorem restore_into_filter_store_earlier_key_absent (fp : List Name → Name → Bool) (s : TStore) (new : Router)
    (order : List Name) (hnd : order.Nodup) (key : Name) (hk : classifyKey key ≠ .cache) (hm : key ∉ order) :
    (s.restoreFromBytes new order).get fp key = none ∧ (s.restoreFromBytes new order).exists fp key = false := by
  obtain ⟨h1, h2⟩ := restore_into_filter_store_reads fp s new order key
  rw [restore_from_bytes_get s.router new order hnd key hk] at h1
  rw [restore_from_bytes_exists s.router new order hnd key hk] at h2
  simp only [hm, if_false] at h1
  simp only [hm, decide_false, Bool.false_and] at h2
  exact ⟨h1, h2⟩

/-- the filter is monotone through a restore: what it held stays, the restored keys that `get` finds are
    added, nothing else -/
theorem restore_filter_content (s : TStore) (new : Router) (order : List Name) (a : List Name) (ha : s.filter = some a) :
    ∃ a', (s.restoreFromBytes new order).filter = some a' ∧
      ∀ key, key ∈ a' ↔ (key ∈ a ∨ (key ∈ order ∧ (new.peek key).isSome)) :=
  fold_restoreStep_filter_mem new order s.restoreStart a ha

/-- a store without a filter stays without one -/
theorem restore_without_filter (tell : Bool) (s : TStore) (new : Router) (order : List Name) (h : s.filter = none) :
    (TStore.restoreWith tell s new order).filter = none := by
  unfold TStore.restoreWith
  rw [fold_restoreStep_filter]
  cases tell <;> simp [TStore.restoreStart, h]

example :
    let src := ((Router.new ⟨4, 2, 3, 64⟩).put "user:restored".toList [("n".toList, .scalar (.int 7))] 0).put
      "emb:a".toList [(EMB_FIELD, .vector [1, 2, 3, 4])] 0
    let dst := ((TStore.new ⟨4, 2, 3, 64⟩ true).put "user:old".toList [] 0).put "user:restored".toList [] 0
    let fp : List Name → Name → Bool := fun _ _ => false
    let d := dst.restoreFromBytes src (src.scan [])
    d.get fp "user:restored".toList = some [("n".toList, .scalar (.int 7))] ∧ d.exists fp "emb:a".toList = true ∧
    d.get fp "emb:a".toList = some [(EMB_FIELD, .vector [1, 2, 3, 4])] ∧
    d.get fp "user:old".toList = none ∧ d.exists fp "user:old".toList = false ∧
    d.filter = some ["emb:a".toList, "user:restored".toList, "user:restored".toList, "user:old".toList] := by
  decide +kernel

/-- the hypotheses of `restore_into_filter_store_equals_saved` on a concrete saved store (through the v3
    snapshot form) and a target with a filter that held another key -/
example :
    let cfg : RouterCfg := ⟨4, 2, 3, 64⟩
    let src := ((Router.new cfg).put "emb:a".toList [(EMB_FIELD, .vector [1, 2, 3, 4])] 0).put "user:1".toList [] 0
    let new := Router.restore id (src.snapshot (fun _ => true)).2
    let d := ((TStore.new cfg true).put "user:old".toList [] 0).restoreFromBytes new (new.scan [])
    (new.scan []).Nodup ∧ src.emb.dim < TT_MIN_DIMENSION ∧
    d.get (fun _ _ => false) "emb:a".toList = src.peek "emb:a".toList ∧
    d.exists (fun _ _ => false) "user:1".toList = true ∧ d.exists (fun _ _ => false) "user:old".toList = false := by
  decide +kernel

/-! ## the code before cb3c5db0: the loop never told the filter -/

/-- what the old loop did keep: the router (hence `scan`, and every read of a store WITHOUT a filter) -/
theorem restore_old_router_same (s : TStore) (new : Router) (order : List Name) :
    (s.restoreFromBytesOld new order).router = (s.restoreFromBytes new order).router := by
  rw [TStore.restoreFromBytesOld, TStore.restoreFromBytes, restoreWith_router, restoreWith_router]

/-- … and it left the filter exactly as it was -/
theorem restore_old_filter_unchanged (s : TStore) (new : Router) (order : List Name) :
    (s.restoreFromBytesOld new order).filter = s.filter :=
  fold_restoreStep_filter false new order s.restoreStart

/-- **regression input of cb3c5db0**: `src = TensorStore::new(); src.put("user:restored", v);
    dst = TensorStore::with_bloom_filter(..); dst.restore_from_bytes(&src.snapshot_bytes()?)` — with the
    old loop (and a filter without false positives) `scan` lists `user:restored` while `get` is
    `NotFound` and `exists` is `false`; the same on a target that held another key, whose own earlier
    key is the only one the filter knows; the loop as it is now answers like the saved store -/
theorem restore_not_telling_filter_witness :
    let cfg : RouterCfg := ⟨4, 2, 3, 64⟩
    let key := "user:restored".toList
    let src := (Router.new cfg).put key [("n".toList, .scalar (.int 7))] 0
    let fp : List Name → Name → Bool := fun _ _ => false
    let old := (TStore.new cfg true).restoreFromBytesOld src (src.scan [])
    let old2 := ((TStore.new cfg true).put "user:old".toList [] 0).restoreFromBytesOld src (src.scan [])
    let now := (TStore.new cfg true).restoreFromBytes src (src.scan [])
    src.peek key = some [("n".toList, .scalar (.int 7))] ∧
    old.scan [] = [key] ∧ old.get fp key = none ∧ old.exists fp key = false ∧ old.router.exists key = true ∧
    old2.scan [] = [key] ∧ old2.get fp key = none ∧ old2.exists fp key = false ∧ old2.filter = some ["user:old".toList] ∧
    now.scan [] = [key] ∧ now.get fp key = src.peek key ∧ now.exists fp key = true := by
  decide +kernel

/-- the old loop was only saved by a false positive: with a filter that answers "maybe" for everything
    the restored key is readable again — the defect depended on the filter's bit array -/
theorem restore_not_telling_filter_false_positive_witness :
    let cfg : RouterCfg := ⟨4, 2, 3, 64⟩
    let key := "user:restored".toList
    let src := (Router.new cfg).put key [] 0
    let old := (TStore.new cfg true).restoreFromBytesOld src (src.scan [])
    old.get (fun _ _ => true) key = some [] ∧ old.get (fun _ _ => false) key = none := by
  decide +kernel

/-! ## loaders that build a filter: `load_snapshot_with_bloom_filter`, `recover_with_bloom` -/

/-- **a filter rebuilt from `scan("")`** denies nothing the loaded router holds: for every router, every
    order of the scan, every `fp` and every key of every class, `get` / `exists` are the router's -/
theorem load_with_bloom_reads (fp : List Name → Name → Bool) (r : Router) (order : List Name)
    (hscan : ∀ k, k ∈ r.scan [] → k ∈ order) (key : Name) :
    (TStore.loadWithBloom r order).get fp key = r.peek key ∧ (TStore.loadWithBloom r order).exists fp key = r.exists key :=
  covers_transparent fp _ (covers_loadWithBloom r order hscan) key

/-- composed with the v3 restore: the store `load_snapshot_with_bloom_filter` returns reads like the saved
    one (embedding dimension below the tensor-train threshold; every key class) -/
theorem load_with_bloom_equals_saved (ttOk : List Nat → Bool) (ttRecon : List Nat → List Nat)
    (fp : List Name → Name → Bool) (src : Router) (h : src.WF) (hd : src.emb.dim < TT_MIN_DIMENSION) (order : List Name)
    (hscan : ∀ k, k ∈ (Router.restore ttRecon (src.snapshot ttOk).2).scan [] → k ∈ order) (key : Name) :
    (TStore.loadWithBloom (Router.restore ttRecon (src.snapshot ttOk).2) order).get fp key = src.peek key ∧
    (TStore.loadWithBloom (Router.restore ttRecon (src.snapshot ttOk).2) order).exists fp key = src.exists key := by
  obtain ⟨h1, h2⟩ := load_with_bloom_reads fp _ order hscan key
  exact ⟨h1.trans (snapshot_restore_get_exact_short_dim ttOk ttRecon src h hd key),
    h2.trans (snapshot_restore_exists ttOk ttRecon src h key)⟩

/-- a filter built from fewer keys than the scan lists is NOT enough (why the loaders add every key) -/
theorem load_with_partial_filter_witness :
    let r := (Router.new ⟨4, 2, 3, 64⟩).put "user:1".toList [] 0
    (TStore.loadWithBloom r []).get (fun _ _ => false) "user:1".toList = none ∧
    (TStore.loadWithBloom r (r.scan [])).get (fun _ _ => false) "user:1".toList = some [] := by
  decide +kernel

/-! ## every history: a store with a filter is a store without one -/

/-- a `get` of a key the router does not hold changes nothing (no cache entry to bump) -/
theorem touch_absent (r : Router) (key : Name) (h : r.exists key = false) : r.touch key = r := by
  unfold Router.touch
  cases hc : classifyKey key with
  | cache =>
    simp only
    unfold Router.exists at h
    rw [hc] at h
    simp only [Cache.contains] at h
    unfold Cache.touch
    cases hf : findSlot key r.cache.slots 0 with
    | none => rfl
    | some i => rw [hf] at h; simp at h
  | embedding => rfl
  | graph => rfl
  | table => rfl
  | metadata => rfl

/-- **All histories**: run the same sequence of put / delete / get / clear / restore_from_bytes (any decoded
    routers, any iteration orders) on a store whose filter covers its router (a new store with a filter,
    a store a filter-building loader returned, any store just restored) and on a store without a filter
    holding the same router: at the end — hence at every point — the routers are the same, and `get` /
    `exists` of every key answer the same, whatever the filter's false positives -/
theorem filter_store_equals_plain_store (fp fp' : List Name → Name → Bool) (ops : List TOp) (s p : TStore)
    (hr : s.router = p.router) (hs : s.Covers) (hp : p.filter = none) (key : Name) :
    (s.run fp ops).router = (p.run fp' ops).router ∧
    (s.run fp ops).get fp key = (p.run fp' ops).get fp' key ∧
    (s.run fp ops).exists fp key = (p.run fp' ops).exists fp' key := by
  have main : ∀ (ops : List TOp) (s p : TStore), s.router = p.router → s.Covers → p.filter = none →
      (s.run fp ops).router = (p.run fp' ops).router ∧ (s.run fp ops).Covers ∧ (p.run fp' ops).filter = none := by
    intro ops
    induction ops with
    | nil => intro s p hr hs hp; exact ⟨hr, hs, hp⟩
    | cons op ops ih =>
      intro s p hr hs hp
      have hstep : (s.apply fp op).router = (p.apply fp' op).router ∧ (p.apply fp' op).filter = none := by
        cases op with
        | put k v victim => exact ⟨by simp [TStore.apply, TStore.put, hr], by simp [TStore.apply, TStore.put, TStore.tell, hp]⟩
        | delete k => exact ⟨by simp [TStore.apply, TStore.delete, hr], by simp [TStore.apply, TStore.delete, hp]⟩
        | get k =>
          have hpp : p.passes fp' k = true := by simp [TStore.passes, hp]
          refine ⟨?_, by simp [TStore.apply, TStore.touch, hpp, hp]⟩
          simp only [TStore.apply, TStore.touch, hpp, if_true]
          by_cases hsp : s.passes fp k = true
          · simp only [hsp, if_true, hr]
          · simp only [hsp, Bool.false_eq_true, if_false]
            have hex : s.router.exists k = false := by
              have := (covers_transparent fp s hs k).2
              simp only [TStore.exists] at this
              rw [show s.passes fp k = false by simpa using hsp] at this
              simpa using this.symm
            rw [← hr, touch_absent s.router k hex]
        | clear => exact ⟨by simp [TStore.apply, TStore.clear, hr], by simp [TStore.apply, TStore.clear, hp]⟩
        | restore new order =>
          refine ⟨?_, restore_without_filter true p new order hp⟩
          simp only [TStore.apply, TStore.restoreFromBytes, restoreWith_router, hr]
      exact ih (s.apply fp op) (p.apply fp' op) hstep.1 (covers_apply fp s op hs) hstep.2
  obtain ⟨h1, h2, h3⟩ := main ops s p hr hs hp
  obtain ⟨g1, g2⟩ := covers_transparent fp _ h2 key
  refine ⟨h1, ?_, ?_⟩
  · rw [g1, h1]; simp [TStore.get, TStore.passes, h3]
  · rw [g2, h1]; simp [TStore.exists, TStore.passes, h3]

/-- from new stores: `TensorStore::with_bloom_filter(..)` (and its siblings) against `TensorStore::new()` -/
theorem filter_store_equals_plain_store_from_new (fp fp' : List Name → Name → Bool) (cfg : RouterCfg) (ops : List TOp) (key : Name) :
    ((TStore.new cfg true).run fp ops).get fp key = ((TStore.new cfg false).run fp' ops).get fp' key ∧
    ((TStore.new cfg true).run fp ops).exists fp key = ((TStore.new cfg false).run fp' ops).exists fp' key :=
  (filter_store_equals_plain_store fp fp' ops (TStore.new cfg true) (TStore.new cfg false) rfl (covers_new cfg true) rfl key).2

/-- from loaded stores: `load_snapshot_with_bloom_filter` against `load_snapshot` of the same file -/
theorem filter_store_equals_plain_store_from_load (fp fp' : List Name → Name → Bool) (r : Router) (order : List Name)
    (hscan : ∀ k, k ∈ r.scan [] → k ∈ order) (ops : List TOp) (key : Name) :
    ((TStore.loadWithBloom r order).run fp ops).get fp key = ((TStore.load r).run fp' ops).get fp' key ∧
    ((TStore.loadWithBloom r order).run fp ops).exists fp key = ((TStore.load r).run fp' ops).exists fp' key :=
  (filter_store_equals_plain_store fp fp' ops (TStore.loadWithBloom r order) (TStore.load r) rfl (covers_loadWithBloom r order hscan) rfl key).2

/-- with the old loop the two stores part at the first restore (same input as the witness above, as a history) -/
theorem filter_store_differs_with_old_restore_witness :
    let cfg : RouterCfg := ⟨4, 2, 3, 64⟩
    let key := "user:restored".toList
    let src := (Router.new cfg).put key [] 0
    let fp : List Name → Name → Bool := fun _ _ => false
    ((TStore.new cfg true).restoreFromBytesOld src (src.scan [])).get fp key = none ∧
    ((TStore.new cfg false).restoreFromBytesOld src (src.scan [])).get fp key = some [] ∧
    ((TStore.new cfg true).run fp [.restore src (src.scan [])]).get fp key = some [] := by
  decide +kernel

example :
    let cfg : RouterCfg := ⟨4, 2, 3, 64⟩
    let src := (Router.new cfg).put "emb:a".toList [(EMB_FIELD, .vector [1, 2, 3, 4])] 0
    let ops : List TOp := [.put "user:1".toList [] 0, .restore src (src.scan []), .delete "emb:a".toList, .get "emb:a".toList,
      .put "_cache:1".toList [] 0, .get "_cache:1".toList, .clear, .put "user:2".toList [] 0]
    let s := (TStore.new cfg true).run (fun _ _ => false) ops
    s.get (fun _ _ => false) "user:2".toList = some [] ∧ s.exists (fun _ _ => false) "user:1".toList = false ∧
    s.filter = some ["user:2".toList] := by
  decide +kernel

end Neumann.Snap.Props
