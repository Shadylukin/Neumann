import NeumannModel.Snap.Model
import NeumannModel.Codec.Props
/-
  Helper lemmas for the snapshot properties (C07). From C20 only the id-list codec's round-trip
  theorem is used (`Codec.Props.decompress_compress_ids`).
-/
namespace Neumann.Snap

theorem overlay_zero (c bs : Bytes) : overlay c 0 bs = bs ++ c.drop bs.length := by
  simp [overlay]

theorem overlay_after_prefix (pre rest bs : Bytes) :
    overlay (pre ++ rest) pre.length bs = pre ++ bs ++ rest.drop bs.length := by
  simp [overlay, List.drop_append]

theorem overlay_at_end (c bs : Bytes) : overlay c c.length bs = c ++ bs := by
  simp [overlay]

theorem overlay_length (c : Bytes) (off : Nat) (bs : Bytes) :
    (overlay c off bs).length = max c.length (off + bs.length) := by
  simp only [overlay, List.length_append, List.length_take, List.length_replicate, List.length_drop]
  -- the write ends inside the file, starts inside and ends beyond it, or starts beyond its end
  rcases Nat.le_total off c.length with h | h
  · rw [Nat.min_eq_left h, Nat.sub_eq_zero_of_le h, Nat.add_zero]
    rcases Nat.le_total (off + bs.length) c.length with h' | h'
    · rw [Nat.max_eq_left h', Nat.add_sub_of_le h']
    · rw [Nat.max_eq_right h', Nat.sub_eq_zero_of_le h', Nat.add_zero]
  · have h' : c.length ≤ off + bs.length := Nat.le_trans h (Nat.le_add_right _ _)
    rw [Nat.min_eq_right h, Nat.max_eq_right h', Nat.sub_eq_zero_of_le h', Nat.add_zero, Nat.add_sub_of_le h]

theorem leBytes_length (k v : Nat) : (leBytes k v).length = k := by
  induction k generalizing v with
  | zero => rfl
  | succ k ih => simp only [leBytes, List.length_cons, ih]

theorem leVal_leBytes (k v : Nat) (h : v < 256 ^ k) : leVal (leBytes k v) = v := by
  induction k generalizing v with
  | zero => simp only [Nat.pow_zero, Nat.lt_one_iff] at h; rw [h]; rfl
  | succ k ih =>
    rw [leBytes, leVal, ih _ (Nat.div_lt_of_lt_mul (Nat.pow_succ' ▸ h))]
    exact Nat.mod_add_div v 256

def AllBytes (bs : Bytes) : Prop := ∀ b ∈ bs, b < 256
instance (bs : Bytes) : Decidable (AllBytes bs) := by unfold AllBytes; infer_instance

theorem leBytes_leVal (bs : Bytes) (h : AllBytes bs) : leBytes bs.length (leVal bs) = bs := by
  induction bs with
  | nil => rfl
  | cons b bs ih =>
    have hb : b < 256 := h b List.mem_cons_self
    rw [List.length_cons, leVal, leBytes, Nat.add_mul_mod_self_left, Nat.mod_eq_of_lt hb,
      Nat.add_mul_div_left _ _ (by decide : 0 < 256), Nat.div_eq_of_lt hb, Nat.zero_add,
      ih (fun x hx => h x (List.mem_cons_of_mem _ hx))]

theorem encodeHeader_length (h : Header) : (encodeHeader h).length = 20 := by
  simp only [encodeHeader, List.length_append, leBytes_length, List.length_cons, List.length_nil]

theorem forall_of_forall_cons {α : Type} {P : List α → Prop} {n : Nat}
    (h : ∀ a t, n ≤ t.length → P (a :: t)) : ∀ l, n + 1 ≤ l.length → P l
  | [], hl => absurd hl (Nat.not_succ_le_zero n)
  | a :: t, hl => h a t (Nat.le_of_succ_le_succ hl)

theorem decodeHeader_isSome (bs : Bytes) : (decodeHeader bs).isSome = decide (20 ≤ bs.length) := by
  by_cases h : 20 ≤ bs.length
  · rw [decide_eq_true h]
    revert bs
    -- twenty bytes come off one by one; what is left is the pattern of `decodeHeader`
    iterate 20 refine forall_of_forall_cons fun _ => ?_
    exact fun _ _ => rfl
  · rw [decide_eq_false h]
    unfold decodeHeader
    split
    · exact absurd (Nat.le_add_left 20 _) h
    · rfl

theorem decodeHeader_none_of_short (bs : Bytes) (h : bs.length < 20) : decodeHeader bs = none := by
  rw [← Option.not_isSome_iff_eq_none, decodeHeader_isSome, decide_eq_true_eq]
  exact Nat.not_le_of_lt h

theorem decode_encode_append (h : Header) (hw : h.WF) (rest : Bytes) :
    decodeHeader (encodeHeader h ++ rest) = some (h, rest) := by
  obtain ⟨-, -, -, -, hv, hf, hc⟩ := hw
  show some (Header.mk h.m0 h.m1 h.m2 h.m3 (leVal (leBytes 4 h.version)) (leVal (leBytes 4 h.flags))
    (leVal (leBytes 8 h.entryCount)), rest) = some (h, rest)
  rw [leVal_leBytes 4 _ hv, leVal_leBytes 4 _ hf, leVal_leBytes 8 _ hc]

theorem encode_decode (bs : Bytes) (hb : AllBytes bs) (h : Header) (rest : Bytes)
    (hd : decodeHeader bs = some (h, rest)) : encodeHeader h ++ rest = bs := by
  have sub (i n : Nat) : AllBytes ((bs.drop i).take n) :=
    fun b hm => hb b (List.mem_of_mem_drop (List.mem_of_mem_take hm))
  unfold decodeHeader at hd
  split at hd
  · next m0 m1 m2 m3 v0 v1 v2 v3 f0 f1 f2 f3 c0 c1 c2 c3 c4 c5 c6 c7 rest' =>
    obtain ⟨rfl, rfl⟩ := Prod.mk.inj (Option.some.inj hd)
    have ev : leBytes 4 (leVal [v0, v1, v2, v3]) = [v0, v1, v2, v3] := leBytes_leVal _ (sub 4 4)
    have ef : leBytes 4 (leVal [f0, f1, f2, f3]) = [f0, f1, f2, f3] := leBytes_leVal _ (sub 8 4)
    have ec : leBytes 8 (leVal [c0, c1, c2, c3, c4, c5, c6, c7]) = [c0, c1, c2, c3, c4, c5, c6, c7] :=
      leBytes_leVal _ (sub 12 8)
    simp only [encodeHeader, ev, ef, ec]
    rfl
  · cases hd

theorem isMagic_iff (a b c d : Nat) : isMagic a b c d = true ↔ a = 78 ∧ b = 69 ∧ c = 85 ∧ d = 77 := by
  simp only [isMagic, Bool.and_eq_true, beq_iff_eq, and_assoc]

theorem validate_ok (h : Header) : validate h = .ok () ↔ h.magicOk = true ∧ h.version = CURRENT_VERSION := by
  unfold validate
  cases h.magicOk
  · simp
  · by_cases hv : h.version = CURRENT_VERSION <;> simp [hv]

theorem validateC_ok (a b c d v : Nat) : validateC a b c d v = .ok () ↔ isMagic a b c d = true ∧ v ≤ C_VERSION := by
  unfold validateC
  cases isMagic a b c d
  · simp
  · by_cases hv : v > C_VERSION <;> simp [hv]
    exact Nat.le_of_not_lt hv

theorem detectVersion_of_short (bs : Bytes) (h : bs.length < 4) : detectVersion bs = .v2 := by
  unfold detectVersion
  split
  · exact absurd h (Nat.not_lt_of_le (Nat.le_add_left 4 _))
  · rfl

theorem detectVersion_take (bs : Bytes) (k : Nat) (h : 4 ≤ k) : detectVersion (bs.take k) = detectVersion bs := by
  obtain ⟨k, rfl⟩ := Nat.exists_eq_add_of_le' h
  match bs with
  | _ :: _ :: _ :: _ :: _ => rfl
  | [] | [_] | [_, _] | [_, _, _] => rfl

theorem take_encodeHeader_append (h : Header) (body : Bytes) (k : Nat) (hk : 20 ≤ k) :
    (encodeHeader h ++ body).take k = encodeHeader h ++ body.take (k - 20) := by
  rw [List.take_append, encodeHeader_length, List.take_of_length_le (by rw [encodeHeader_length]; exact hk)]

theorem newHeader_wf (compress : Bool) (count : Nat) (hc : count < U64) : (newHeader compress count).WF := by
  show 78 < 256 ∧ 69 < 256 ∧ 85 < 256 ∧ 77 < 256 ∧ 3 < 4294967296 ∧
    (if compress then 1 else 0) < 4294967296 ∧ count < 18446744073709551616
  refine ⟨by decide, by decide, by decide, by decide, by decide, ?_, hc⟩
  cases compress <;> decide

theorem validate_newHeader (compress : Bool) (count : Nat) : validate (newHeader compress count) = .ok () := rfl

theorem isCompressed_newHeader (compress : Bool) (count : Nat) : (newHeader compress count).isCompressed = compress := by
  cases compress <;> rfl

theorem old_or_new_trans {α : Type} {x0 x1 x2 a b : α} (h1 : x1 = x0 ∨ x1 = a) (h2 : x2 = x1 ∨ x2 = b) :
    x2 = x0 ∨ x2 = a ∨ x2 = b := by
  rcases h2 with h2 | h2
  · exact h1.imp h2.trans fun h => .inl (h2.trans h)
  · exact .inr (.inr h2)

section fs
variable {π : Type} [DecidableEq π]

@[simp] theorem FS.set_same (fs : FS π) (p : π) (f : Option File) : (fs.set p f) p = f := by
  simp [FS.set]

@[simp] theorem FS.set_other (fs : FS π) (p q : π) (f : Option File) (h : q ≠ p) :
    (fs.set p f) q = fs q := by
  simp [FS.set, h]

/-- `op` cannot change what path `q` holds -/
def IoOp.Avoids (q : π) : IoOp π → Prop
  | .create p | .openKeep p | .write p _ | .writeAt p _ _ | .fsync p => q ≠ p
  | .rename a b => q ≠ a ∧ q ≠ b

theorem applyOp_avoids (fs : FS π) (op : IoOp π) (q : π) (h : op.Avoids q) : applyOp fs op q = fs q := by
  cases op with
  | create p => exact FS.set_other _ _ _ _ h
  | openKeep p =>
    simp only [applyOp]
    cases fs p with
    | none => exact FS.set_other _ _ _ _ h
    | some f => rfl
  | write p bs | writeAt p off bs | fsync p =>
    simp only [applyOp]
    cases fs p with
    | none => rfl
    | some f => exact FS.set_other _ _ _ _ h
  | rename a b =>
    simp only [applyOp]
    split
    · rfl
    · cases fs a with
      | none => rfl
      | some f => exact (FS.set_other _ _ _ _ h.1).trans (FS.set_other _ _ _ _ h.2)

theorem partials_avoids (fs : FS π) (op : IoOp π) (q : π) (h : op.Avoids q) : ∀ st ∈ partials fs op, st q = fs q := by
  intro st hst
  cases op with
  | write p bs =>
    obtain ⟨k, -, rfl⟩ := List.mem_map.1 hst
    exact applyOp_avoids fs (.write p _) q h
  | writeAt p off bs =>
    obtain ⟨k, -, rfl⟩ := List.mem_map.1 hst
    exact applyOp_avoids fs (.writeAt p off _) q h
  | create p | openKeep p | fsync p | rename a b => rw [List.mem_singleton.1 hst]

theorem crashStates_avoids (q : π) (ops : List (IoOp π)) (h : ∀ op ∈ ops, op.Avoids q) :
    ∀ (fs : FS π), ∀ st ∈ crashStates fs ops, st q = fs q := by
  induction ops with
  | nil => intro fs st hst; rw [List.mem_singleton.1 hst]
  | cons op ops ih =>
    intro fs st hst
    rcases List.mem_append.1 hst with hp | hr
    · exact partials_avoids fs op q (h op List.mem_cons_self) st hp
    · rw [ih (fun o ho => h o (List.mem_cons_of_mem _ ho)) _ st hr, applyOp_avoids fs op q (h op List.mem_cons_self)]

theorem applyOps_mem_crashStates (ops : List (IoOp π)) : ∀ fs : FS π, applyOps fs ops ∈ crashStates fs ops := by
  induction ops with
  | nil => exact fun fs => List.mem_singleton_self fs
  | cons op ops ih => exact fun fs => List.mem_append_right _ (ih _)

theorem mem_crashStates_append (a b : List (IoOp π)) :
    ∀ (fs st : FS π), st ∈ crashStates fs (a ++ b) → st ∈ crashStates fs a ∨ st ∈ crashStates (applyOps fs a) b := by
  induction a with
  | nil => exact fun fs st h => Or.inr h
  | cons op a ih =>
    intro fs st h
    rcases List.mem_append.1 h with hp | hr
    · exact Or.inl (List.mem_append_left _ hp)
    · exact (ih _ st hr).imp (List.mem_append_right _) id

/-- operations that avoid `path`, then one rename onto it: in every crash state `path` holds what it held
    before, or the file the operations built -/
theorem crashStates_then_rename (tmp path : π) (pre : List (IoOp π)) (hpre : ∀ op ∈ pre, op.Avoids path)
    (fs0 : FS π) (f : File) (hne : tmp ≠ path) (hf : applyOps fs0 pre tmp = some f) :
    ∀ st ∈ crashStates fs0 (pre ++ [.rename tmp path]), st path = fs0 path ∨ st path = some f := by
  intro st hst
  have hkeep := crashStates_avoids path pre hpre fs0
  rcases mem_crashStates_append pre _ fs0 st hst with h | h
  · exact .inl (hkeep st h)
  · rcases List.mem_cons.1 h with rfl | h
    · exact .inl (hkeep _ (applyOps_mem_crashStates pre fs0))
    · rw [List.mem_singleton.1 h]
      refine .inr ?_
      simp only [applyOp, if_neg hne, hf]
      exact (FS.set_other _ _ _ _ (Ne.symm hne)).trans (FS.set_same _ _ _)

theorem powerLoss_of_synced (st : FS π) (p : π) (c bs : Bytes) (h : st p = some ⟨c, []⟩)
    (hp : PowerLossContent st p bs) : bs = c := by
  obtain ⟨f, hf, k, -, rfl⟩ := hp
  cases h.symm.trans hf
  show c ++ List.take k [] = c
  rw [List.take_nil, List.append_nil]

end fs

theorem set_append_at_length (pre : List Nat) (x y : Nat) (xs : List Nat) :
    (pre ++ x :: xs).set pre.length y = pre ++ y :: xs := by
  induction pre with
  | nil => rfl
  | cons a pre ih => simp [ih]

/-- entries the criterion drops are exactly `+0.0` -/
def DroppedAreZero (keep : Nat → Bool) (v : List Nat) : Prop := ∀ b ∈ v, keep b = true ∨ b = 0
instance (keep : Nat → Bool) (v : List Nat) : Decidable (DroppedAreZero keep v) := by
  unfold DroppedAreZero; infer_instance

/-- entries that are not "big" are exactly `+0.0` -/
def SmallAreZero (v : List Nat) : Prop := DroppedAreZero isBig v
instance (v : List Nat) : Decidable (SmallAreZero v) := by unfold SmallAreZero; infer_instance

theorem scatter_sparse_by (keep : Nat → Bool) (v : List Nat) : ∀ (pre : List Nat),
    DroppedAreZero keep v → pre.length + v.length ≤ U32 →
    scatter (pre ++ List.replicate v.length 0) (sparsePositionsBy keep pre.length v)
        (sparseValuesBy keep pre.length v)
      = pre ++ v := by
  induction v with
  | nil => intro pre _ _; rfl
  | cons b bs ih =>
    intro pre hz hlen
    rw [List.length_cons, ← Nat.add_assoc] at hlen
    have hlt : pre.length < U32 := Nat.lt_of_lt_of_le (Nat.lt_succ_of_le (Nat.le_add_right _ _)) hlen
    have ihb := ih (pre ++ [b]) (fun x hx => hz x (List.mem_cons_of_mem _ hx))
      (by rw [List.length_append, List.length_singleton, Nat.add_right_comm]; exact hlen)
    rw [List.length_append, List.length_singleton, List.append_assoc, List.append_assoc] at ihb
    rw [List.length_cons, List.replicate_succ, sparsePositionsBy, sparseValuesBy, decide_eq_true hlt, Bool.and_true]
    cases hb : keep b with
    | true =>
      rw [if_pos rfl, if_pos rfl, scatter, set_append_at_length]
      exact ihb
    | false =>
      have hb0 : b = 0 := (hz b List.mem_cons_self).resolve_left (by rw [hb]; nofun)
      rw [if_neg Bool.false_ne_true, if_neg Bool.false_ne_true]
      rw [hb0] at ihb ⊢
      exact ihb

theorem droppedAreZero_notPlusZero (v : List Nat) : DroppedAreZero notPlusZero v := by
  intro b _
  by_cases h : b = 0
  · exact .inr h
  · left; simp [notPlusZero, h]

/-- the sparse form of the code is lossless: no condition on the entries -/
theorem scatter_sparse (v : List Nat) (pre : List Nat) (hlen : pre.length + v.length ≤ U32) :
    scatter (pre ++ List.replicate v.length 0) (sparsePositions pre.length v) (sparseValues pre.length v)
      = pre ++ v :=
  scatter_sparse_by notPlusZero v pre (droppedAreZero_notPlusZero v) hlen

/-- the sparse form before 56197952 needed the small entries to be `+0.0` already -/
theorem scatter_sparse_old (v : List Nat) (pre : List Nat)
    (hz : SmallAreZero v) (hlen : pre.length + v.length ≤ U32) :
    scatter (pre ++ List.replicate v.length 0) (sparsePositionsOld pre.length v) (sparseValuesOld pre.length v)
      = pre ++ v :=
  scatter_sparse_by isBig v pre hz hlen

/-- the snapshot form of a vector that does not take the tensor-train form is lossless: the sparse form
    by `scatter_sparse`, the dense form as it is -/
theorem toDense_fromDense_of_not_tt (ttOk : List Nat → Bool) (ttRecon : List Nat → List Nat) (v : List Nat)
    (hlen : v.length ≤ U32) (hntt : ∀ o, fromDense ttOk v ≠ .tt o) :
    toDense ttRecon (fromDense ttOk v) = v := by
  unfold fromDense at hntt ⊢
  cases v with
  | nil => simp [toDense]
  | cons b bs =>
    simp only [List.isEmpty_cons, Bool.false_eq_true, if_false] at hntt ⊢
    split
    · have := scatter_sparse (b :: bs) [] (by simpa using hlen)
      simpa [toDense] using this
    · rename_i hs
      simp only [hs, if_false] at hntt
      split
      · rename_i ht
        simp only [ht, if_true] at hntt
        exact absurd rfl (hntt _)
      · simp [toDense]

theorem fromDense_ne_tt_of_short (ttOk : List Nat → Bool) (v : List Nat) (hlen : v.length < TT_MIN_DIMENSION)
    (o : List Nat) : fromDense ttOk v ≠ .tt o := by
  have hd : decide (v.length ≥ TT_MIN_DIMENSION) = false := decide_eq_false (Nat.not_le_of_lt hlen)
  unfold fromDense
  rw [hd, Bool.false_and]
  split
  · nofun
  · split <;> nofun

theorem ite_lt {c : Prop} [Decidable c] {a b u : Nat} (ha : a < u) (hb : b < u) : (if c then a else b) < u := by
  split <;> assumption

theorem saturate_lt {u : Nat} (hu : 0 < u) (v : Nat) : (if v ≥ u then u - 1 else v) < u := by
  split
  · exact Nat.sub_lt hu Nat.one_pos
  · exact Nat.lt_of_not_le ‹_›

/-- `x as u64` fits u64 -/
theorem f32ToU64_lt (x : Nat) : f32ToU64 x < U64 := by
  have h0 : 0 < U64 := by decide
  unfold f32ToU64
  exact ite_lt h0 (ite_lt h0 (ite_lt (Nat.sub_lt h0 Nat.one_pos) (ite_lt h0 (saturate_lt h0 _))))

theorem map_f32ToU64_lt (v : List Nat) : ∀ x ∈ v.map f32ToU64, x < Codec.U64 := by
  intro x hx
  obtain ⟨y, _, rfl⟩ := List.mem_map.1 hx
  exact f32ToU64_lt y

/-- positions of a `SparseVector` are `u32`: the `as u32` on load is the identity -/
theorem map_mod_U32 (ps : List Nat) (h : ∀ p ∈ ps, p < U32) : ps.map (· % U32) = ps := by
  induction ps with
  | nil => rfl
  | cons p ps ih =>
    simp only [List.map_cons]
    rw [ih (fun q hq => h q (List.mem_cons_of_mem _ hq)), Nat.mod_eq_of_lt (h p (by simp))]

/-- the positions of a sparse value survive `compress_ids` / `decompress_ids` / `as u32` -/
theorem sparse_positions_roundtrip (ps : List Nat) (h : ∀ p ∈ ps, p < U32) :
    (Codec.decompressIds (Codec.compressIds ps)).map (· % U32) = ps := by
  rw [Codec.Props.decompress_compress_ids ps (fun x hx => by
    have := h x hx; unfold U32 at this; unfold Codec.U64; omega)]
  exact map_mod_U32 ps h

end Neumann.Snap
