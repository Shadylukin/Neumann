import NeumannModel.Snap.Store
import NeumannModel.Snap.Lemmas
/-
  Helper lemmas for the store-level snapshot properties (C07): association lists, the embedding
  slab, the cache ring, the router's fields after an operation and what its reads depend on.
-/
namespace Neumann.Snap

section AList
variable {κ : Type} {ν : Type} [DecidableEq κ]

@[simp] theorem aFind_nil (k : κ) : aFind k ([] : List (κ × ν)) = none := rfl

theorem aInsertOpt_none (k : κ) (m : List (κ × ν)) : aInsertOpt k none m = m := rfl
theorem aInsertOpt_some (k : κ) (w : ν) (m : List (κ × ν)) : aInsertOpt k (some w) m = aInsert k w m := rfl

theorem aFind_cons (k k' : κ) (v : ν) (l : List (κ × ν)) :
    aFind k ((k', v) :: l) = if k' = k then some v else aFind k l := rfl

theorem aFind_aInsert_self (k : κ) (v : ν) (l : List (κ × ν)) : aFind k (aInsert k v l) = some v := by
  induction l with
  | nil => simp [aInsert, aFind]
  | cons p l ih =>
    obtain ⟨k', v'⟩ := p
    by_cases h : k' = k
    · simp [aInsert, aFind, h]
    · simp [aInsert, aFind, h, ih]

theorem aFind_aInsert_ne (k k₂ : κ) (v : ν) (l : List (κ × ν)) (hne : k₂ ≠ k) :
    aFind k₂ (aInsert k v l) = aFind k₂ l := by
  induction l with
  | nil => simp [aInsert, aFind]; intro h; exact absurd h.symm hne
  | cons p l ih =>
    obtain ⟨k', v'⟩ := p
    by_cases h : k' = k
    · subst h
      have : ¬ k' = k₂ := fun e => hne e.symm
      simp [aInsert, aFind, this]
    · by_cases h2 : k' = k₂
      · subst h2; simp [aInsert, aFind, h]
      · simp [aInsert, aFind, h, h2, ih]

theorem aFind_aErase_self (k : κ) (l : List (κ × ν)) : aFind k (aErase k l) = none := by
  induction l with
  | nil => rfl
  | cons p l ih =>
    obtain ⟨k', v'⟩ := p
    by_cases h : k' = k
    · simp [aErase, h, ih]
    · simp [aErase, aFind, h, ih]

theorem aFind_aErase_ne (k k₂ : κ) (l : List (κ × ν)) (hne : k₂ ≠ k) :
    aFind k₂ (aErase k l) = aFind k₂ l := by
  induction l with
  | nil => rfl
  | cons p l ih =>
    obtain ⟨k', v'⟩ := p
    by_cases h : k' = k
    · subst h
      have : ¬ k' = k₂ := fun e => hne e.symm
      simp [aErase, aFind, this, ih]
    · by_cases h2 : k' = k₂
      · subst h2; simp [aErase, aFind, h]
      · simp [aErase, aFind, h, h2, ih]

theorem aFind_none_of_not_mem (k : κ) (l : List (κ × ν)) (h : k ∉ aKeys l) : aFind k l = none := by
  induction l with
  | nil => rfl
  | cons p l ih =>
    obtain ⟨k', v'⟩ := p
    simp only [aKeys, List.map_cons, List.mem_cons, not_or] at h
    have h1 : ¬ k' = k := fun e => h.1 e.symm
    simp only [aFind, h1, if_false]
    exact ih h.2

theorem aFind_isSome_iff_mem (k : κ) (l : List (κ × ν)) : (aFind k l).isSome ↔ k ∈ aKeys l := by
  induction l with
  | nil => exact ⟨nofun, nofun⟩
  | cons p l ih =>
    obtain ⟨k', v'⟩ := p
    rw [aFind_cons, show aKeys ((k', v') :: l) = k' :: aKeys l from rfl, List.mem_cons]
    split
    · next h => exact ⟨fun _ => .inl h.symm, fun _ => rfl⟩
    · next h => exact ih.trans ⟨.inr, fun hm => hm.resolve_left fun e => h e.symm⟩

theorem aInsert_of_not_mem (k : κ) (v : ν) (l : List (κ × ν)) (h : k ∉ aKeys l) : aInsert k v l = l ++ [(k, v)] := by
  induction l with
  | nil => rfl
  | cons p l ih =>
    obtain ⟨k', v'⟩ := p
    simp only [aKeys, List.map_cons, List.mem_cons, not_or] at h
    have h1 : ¬ k' = k := fun e => h.1 e.symm
    simp only [aInsert, h1, if_false, List.cons_append]
    rw [ih h.2]

theorem aKeys_aInsert_mem (k : κ) (v : ν) (l : List (κ × ν)) (h : k ∈ aKeys l) : aKeys (aInsert k v l) = aKeys l := by
  induction l with
  | nil => cases h
  | cons p l ih =>
    obtain ⟨k', v'⟩ := p
    rw [aInsert]
    split
    · next h1 => rw [h1]; rfl
    · next h1 => exact congrArg (k' :: ·) (ih ((List.mem_cons.1 h).resolve_left fun e => h1 e.symm))
theorem aKeys_aInsert_nodup (k : κ) (v : ν) (l : List (κ × ν)) (h : (aKeys l).Nodup) : (aKeys (aInsert k v l)).Nodup := by
  by_cases hm : k ∈ aKeys l
  · rw [aKeys_aInsert_mem k v l hm]; exact h
  · rw [aInsert_of_not_mem k v l hm]
    simp only [aKeys, List.map_append, List.map_cons, List.map_nil]
    rw [List.nodup_append]
    refine ⟨h, by simp, ?_⟩
    intro a ha b hb
    simp at hb
    subst hb
    intro e
    subst e
    exact hm ha

theorem mem_aInsert (k : κ) (v : ν) (l : List (κ × ν)) (p : κ × ν) (h : p ∈ aInsert k v l) : p = (k, v) ∨ p ∈ l := by
  induction l with
  | nil => exact .inl (List.mem_singleton.1 h)
  | cons q l ih =>
    obtain ⟨k', v'⟩ := q
    rw [aInsert] at h
    split at h
    · exact (List.mem_cons.1 h).imp_right (List.mem_cons_of_mem _)
    · rcases List.mem_cons.1 h with h | h
      · exact .inr (h ▸ List.mem_cons_self)
      · exact (ih h).imp_right (List.mem_cons_of_mem _)

theorem aErase_sublist (k : κ) (l : List (κ × ν)) : (aErase k l).Sublist l := by
  induction l with
  | nil => exact .slnil
  | cons p l ih =>
    obtain ⟨k', v'⟩ := p
    rw [aErase]
    split
    · exact ih.cons _
    · exact ih.cons₂ _

theorem mem_aErase (k : κ) (l : List (κ × ν)) (p : κ × ν) (h : p ∈ aErase k l) : p ∈ l :=
  (aErase_sublist k l).subset h

theorem aKeys_aErase_sub (k : κ) (l : List (κ × ν)) : ∀ x, x ∈ aKeys (aErase k l) → x ∈ aKeys l :=
  fun _ h => ((aErase_sublist k l).map Prod.fst).subset h

theorem aKeys_aErase_nodup (k : κ) (l : List (κ × ν)) (h : (aKeys l).Nodup) : (aKeys (aErase k l)).Nodup :=
  h.sublist ((aErase_sublist k l).map Prod.fst)
/-- re-inserting entries with distinct keys behind an unrelated map appends them, skipping rejected values -/
theorem foldl_aInsert_filterMap {α : Type} (f : α → Option ν) (l : List (κ × α)) (m : List (κ × ν))
    (hnd : (aKeys l).Nodup) (hdis : ∀ k ∈ aKeys l, k ∉ aKeys m) :
    l.foldl (fun m p => aInsertOpt p.1 (f p.2) m) m =
      m ++ l.filterMap (fun p => (f p.2).map (fun w => (p.1, w))) := by
  induction l generalizing m with
  | nil => exact (List.append_nil m).symm
  | cons p l ih =>
    obtain ⟨k, a⟩ := p
    have hnd' : k ∉ aKeys l ∧ (aKeys l).Nodup := List.nodup_cons.1 hnd
    have hdis' : ∀ k' ∈ aKeys l, k' ∉ aKeys m := fun k' hk' => hdis k' (List.mem_cons_of_mem _ hk')
    rw [List.foldl_cons, List.filterMap_cons]
    dsimp only
    cases f a with
    | none => exact ih m hnd'.2 hdis'
    | some w =>
      rw [show aInsertOpt k (some w) m = m ++ [(k, w)] from
        aInsert_of_not_mem k w m (hdis k List.mem_cons_self), ih _ hnd'.2, List.append_assoc]
      · rfl
      · intro k' hk' hm
        rw [aKeys, List.map_append, List.mem_append] at hm
        rcases hm with hm | hm
        · exact hdis' k' hk' hm
        · exact hnd'.1 ((List.mem_singleton.1 hm : k' = k) ▸ hk')
theorem foldl_aInsert_nil (l : List (κ × ν)) (hnd : (aKeys l).Nodup) :
    l.foldl (fun m p => aInsert p.1 p.2 m) [] = l := by
  have := foldl_aInsert_filterMap some l [] hnd (fun _ _ h => nomatch h)
  rwa [List.nil_append, show (fun p : κ × ν => (some p.2).map (fun w => (p.1, w))) = some from rfl,
    List.filterMap_some] at this

theorem aFind_filterMap {α : Type} (f : α → Option ν) (l : List (κ × α)) (k : κ) (hnd : (aKeys l).Nodup) :
    aFind k (l.filterMap (fun p => (f p.2).map (fun w => (p.1, w)))) = (aFind k l).bind f := by
  induction l with
  | nil => rfl
  | cons p l ih =>
    obtain ⟨k', a⟩ := p
    simp only [aKeys, List.map_cons, List.nodup_cons] at hnd
    simp only [List.filterMap_cons]
    by_cases h : k' = k
    · subst h
      cases hf : f a with
      | none =>
        simp only [Option.map_none, aFind, if_true, Option.bind_some, hf]
        rw [ih hnd.2]
        rw [aFind_none_of_not_mem k' l hnd.1]
        rfl
      | some w => simp [aFind, hf]
    · cases hf : f a with
      | none => simp only [Option.map_none, aFind, h, if_false]; exact ih hnd.2
      | some w => simp only [Option.map_some, aFind, h, if_false]; exact ih hnd.2

theorem aFind_map_val {β : Type} (g : ν → β) (l : List (κ × ν)) (k : κ) :
    aFind k (l.map (fun p => (p.1, g p.2))) = (aFind k l).map g := by
  induction l with
  | nil => rfl
  | cons p l ih =>
    obtain ⟨k', a⟩ := p
    by_cases h : k' = k
    · simp [aFind, h]
    · simp [aFind, h, ih]

theorem aKeys_map_val {β : Type} (g : κ → ν → β) (l : List (κ × ν)) :
    aKeys (l.map (fun p => (p.1, g p.1 p.2))) = aKeys l := by
  simp [aKeys, List.map_map, Function.comp_def]

theorem aFind_mem (k : κ) (v : ν) (l : List (κ × ν)) (h : aFind k l = some v) : (k, v) ∈ l := by
  induction l with
  | nil => simp at h
  | cons p l ih =>
    obtain ⟨k', v'⟩ := p
    by_cases h1 : k' = k
    · simp only [aFind, h1, if_true, Option.some.injEq] at h
      subst h; subst h1; simp
    · simp only [aFind, h1, if_false] at h
      exact List.mem_cons_of_mem _ (ih h)

end AList

/-- what one slab entry becomes through snapshot + restore: `to_dense(from_dense(v))`, kept only when
    `set` accepts its length -/
def embRound (ttOk : List Nat → Bool) (ttRecon : List Nat → List Nat) (dim : Nat) (v : List Nat) : Option (List Nat) :=
  if (toDense ttRecon (fromDense ttOk v)).length = dim then some (toDense ttRecon (fromDense ttOk v)) else none

theorem ESlab.setOrSkip_eq (t : ESlab) (id : Nat) (v : List Nat) :
    t.setOrSkip id v = ⟨t.dim, aInsertOpt id (if v.length = t.dim then some v else none) t.ents⟩ := by
  unfold ESlab.setOrSkip ESlab.set
  by_cases h : v.length = t.dim <;> simp [h, aInsertOpt]

theorem eslab_restore_fold (ttRecon : List Nat → List Nat) (d : Nat) (cents : List (Nat × CEmb)) (t : ESlab) (hd : t.dim = d) :
    cents.foldl (fun s e => s.setOrSkip e.1 (toDense ttRecon e.2)) t =
    ⟨d, cents.foldl (fun m p => aInsertOpt p.1
      (if (toDense ttRecon p.2).length = d then some (toDense ttRecon p.2) else none) m) t.ents⟩ := by
  induction cents generalizing t with
  | nil => subst hd; rfl
  | cons c cs ih =>
    rw [List.foldl_cons, List.foldl_cons, ESlab.setOrSkip_eq, hd]
    exact ih ⟨d, _⟩ rfl

theorem eslab_restore_snapshot (ttOk : List Nat → Bool) (ttRecon : List Nat → List Nat) (s : ESlab)
    (hnd : (aKeys s.ents).Nodup) :
    ESlab.restore ttRecon (s.snapshot ttOk) =
      ⟨s.dim, s.ents.filterMap (fun p => (embRound ttOk ttRecon s.dim p.2).map (fun w => (p.1, w)))⟩ := by
  unfold ESlab.restore ESlab.snapshot
  rw [eslab_restore_fold ttRecon s.dim _ (ESlab.new s.dim) rfl]
  have hk : aKeys (s.ents.map (fun e => (e.1, fromDense ttOk e.2))) = aKeys s.ents :=
    aKeys_map_val (fun _ v => fromDense ttOk v) s.ents
  have := foldl_aInsert_filterMap (fun c : CEmb => if (toDense ttRecon c).length = s.dim then some (toDense ttRecon c) else none)
    (s.ents.map (fun e => (e.1, fromDense ttOk e.2))) [] (by rw [hk]; exact hnd) (by intro k _ h; simp [aKeys] at h)
  simp only [ESlab.new]
  rw [this]
  simp only [List.nil_append, List.filterMap_map]
  congr 1

theorem eslab_restore_get (ttOk : List Nat → Bool) (ttRecon : List Nat → List Nat) (s : ESlab)
    (hnd : (aKeys s.ents).Nodup) (id : Nat) :
    (ESlab.restore ttRecon (s.snapshot ttOk)).get id = (s.get id).bind (embRound ttOk ttRecon s.dim) := by
  rw [eslab_restore_snapshot ttOk ttRecon s hnd]
  simp only [ESlab.get]
  exact aFind_filterMap (embRound ttOk ttRecon s.dim) s.ents id hnd

theorem findSlot_shift (key : Name) (ss : List (Option CEntry)) (i : Nat) :
    findSlot key ss i = (findSlot key ss 0).map (· + i) := by
  induction ss generalizing i with
  | nil => rfl
  | cons s ss ih =>
    simp only [findSlot]
    split
    · simp
    · rw [ih (i + 1), ih (0 + 1)]
      cases findSlot key ss 0 with
      | none => rfl
      | some j => simp; omega

theorem findSlot_some (key : Name) (slots : List (Option CEntry)) (i j : Nat) (h : findSlot key slots i = some j) :
    ∃ d e, j = i + d ∧ slots[d]? = some (some e) ∧ e.key = key := by
  induction slots generalizing i with
  | nil => cases h
  | cons s ss ih =>
    rw [findSlot] at h
    split at h
    · next hs =>
      cases h
      cases s with
      | none => cases hs
      | some e => exact ⟨0, e, rfl, rfl, of_decide_eq_true hs⟩
    · obtain ⟨d, e, rfl, hd, hk⟩ := ih (i + 1) h
      exact ⟨d + 1, e, by rw [Nat.add_assoc, Nat.add_comm 1 d], hd, hk⟩

theorem findSlot_some_spec (key : Name) (slots : List (Option CEntry)) (i : Nat) (h : findSlot key slots 0 = some i) :
    ∃ e, slots[i]? = some (some e) ∧ e.key = key := by
  obtain ⟨d, e, rfl, hd, hk⟩ := findSlot_some key slots 0 i h
  rw [Nat.zero_add]
  exact ⟨e, hd, hk⟩

theorem occupied_eq_filterMap (slots : List (Option CEntry)) : occupied slots = slots.filterMap id := by
  induction slots with
  | nil => rfl
  | cons s ss ih => cases s <;> simp only [occupied, ih, List.filterMap_cons, id]

/-- key ↦ value of the occupied slots, in slot order -/
def cacheMap (slots : List (Option CEntry)) : List (Name × TData) := (occupied slots).map (fun e => (e.key, e.val))

theorem cache_peek_cons (cap : Nat) (s : Option CEntry) (ss : List (Option CEntry)) (key : Name) :
    (⟨cap, s :: ss⟩ : Cache).peek key =
      if slotHolds key s then s.map (·.val) else (⟨cap, ss⟩ : Cache).peek key := by
  unfold Cache.peek
  rw [findSlot]
  by_cases h : slotHolds key s = true
  · rw [if_pos h, if_pos h]
    cases s with
    | none => cases h
    | some e => rfl
  · rw [if_neg h, if_neg h, findSlot_shift key ss (0 + 1)]
    cases findSlot key ss 0 <;> rfl

theorem cache_peek_eq (c : Cache) (key : Name) : c.peek key = aFind key (cacheMap c.slots) := by
  obtain ⟨cap, slots⟩ := c
  induction slots with
  | nil => rfl
  | cons s ss ih =>
    rw [cache_peek_cons]
    cases s with
    | none =>
      simp only [slotHolds, Bool.false_eq_true, if_false]
      rw [ih]; rfl
    | some e =>
      by_cases h : e.key = key
      · simp [slotHolds, h, cacheMap, occupied, aFind]
      · simp only [slotHolds, h, decide_false, Bool.false_eq_true, if_false]
        rw [ih]
        simp [cacheMap, occupied, aFind, h]

theorem findSlot_isSome_eq (slots : List (Option CEntry)) (key : Name) :
    (findSlot key slots 0).isSome = (aFind key (cacheMap slots)).isSome := by
  rw [← cache_peek_eq ⟨0, slots⟩ key]
  unfold Cache.peek
  cases hf : findSlot key slots 0 with
  | none => rfl
  | some i =>
    obtain ⟨e, he, -⟩ := findSlot_some_spec key slots i hf
    simp only [he]
    rfl

theorem cache_contains_eq (c : Cache) (key : Name) : c.contains key = (aFind key (cacheMap c.slots)).isSome :=
  findSlot_isSome_eq c.slots key

/-- a ring whose first slots hold `done` and whose other `n` slots are empty -/
def packed (done : List CEntry) (n : Nat) : List (Option CEntry) := done.map some ++ List.replicate n none

theorem occupied_packed (done : List CEntry) (n : Nat) : occupied (packed done n) = done := by
  simp [occupied_eq_filterMap, packed, List.filterMap_append, List.filterMap_map]

theorem findSlot_packed_none (key : Name) (done : List CEntry) (n : Nat) (h : ∀ e ∈ done, e.key ≠ key) :
    findSlot key (packed done n) 0 = none := by
  have := findSlot_isSome_eq (packed done n) key
  rw [cacheMap, occupied_packed] at this
  have hk : key ∉ aKeys (done.map (fun e => (e.key, e.val))) := by
    simp only [aKeys, List.map_map, List.mem_map, Function.comp_def, not_exists, not_and]
    intro e he; exact h e he
  rw [aFind_none_of_not_mem key _ hk] at this
  cases hf : findSlot key (packed done n) 0 with
  | none => rfl
  | some j => rw [hf] at this; simp at this

theorem firstEmpty_packed (done : List CEntry) (n i : Nat) :
    firstEmpty (packed done (n + 1)) i = some (i + done.length) := by
  induction done generalizing i with
  | nil => simp [packed, List.replicate_succ, firstEmpty]
  | cons e es ih =>
    simp only [packed, List.map_cons, List.cons_append, firstEmpty, List.length_cons]
    have := ih (i + 1)
    simp only [packed] at this
    rw [this]; congr 1; omega

theorem set_packed (done : List CEntry) (n : Nat) (x : CEntry) :
    (packed done (n + 1)).set done.length (some x) = packed (done ++ [x]) n := by
  induction done with
  | nil => simp [packed, List.replicate_succ]
  | cons e es ih =>
    simp only [packed, List.map_cons, List.cons_append, List.length_cons, List.set_cons_succ] at ih ⊢
    rw [ih]

theorem cache_put_packed (cap : Nat) (done : List CEntry) (n : Nat) (key : Name) (val : TData) (cost size victim : Nat)
    (h : ∀ e ∈ done, e.key ≠ key) :
    (⟨cap, packed done (n + 1)⟩ : Cache).put key val cost size victim =
      ⟨cap, packed (done ++ [⟨key, val, 1, cost, size⟩]) n⟩ := by
  unfold Cache.put
  simp only [findSlot_packed_none key done (n + 1) h]
  have := firstEmpty_packed done n 0
  simp only [Nat.zero_add] at this
  simp only [this]
  rw [set_packed]

/-- the entries of a snapshot as `restore` puts them back: access count 1 -/
def resetAccess (e : CEntry) : CEntry := ⟨e.key, e.val, 1, e.cost, e.size⟩

theorem cache_restore_fold (cap : Nat) (es done : List CEntry) (n : Nat)
    (hnd : (es.map (·.key)).Nodup) (hdis : ∀ e ∈ es, ∀ d ∈ done, d.key ≠ e.key) :
    es.foldl (fun c e => c.put e.key e.val e.cost e.size 0) (⟨cap, packed done (es.length + n)⟩ : Cache) =
      ⟨cap, packed (done ++ es.map resetAccess) n⟩ := by
  induction es generalizing done with
  | nil => rw [List.length_nil, Nat.zero_add, List.map_nil, List.append_nil]; rfl
  | cons e es ih =>
    have hnd' := List.nodup_cons.1 hnd
    rw [List.foldl_cons, List.length_cons, Nat.succ_add,
      cache_put_packed cap done _ e.key e.val e.cost e.size 0 (fun d hd => hdis e List.mem_cons_self d hd),
      ih (done ++ [(⟨e.key, e.val, 1, e.cost, e.size⟩ : CEntry)]) hnd'.2, List.map_cons, List.append_assoc]
    · rfl
    · intro e' he' d hd
      rcases List.mem_append.1 hd with hd | hd
      · exact hdis e' (List.mem_cons_of_mem _ he') d hd
      · rw [List.mem_singleton.1 hd]
        exact fun heq => hnd'.1 (List.mem_map.2 ⟨e', he', heq.symm⟩)

theorem cache_restore_snapshot (c : Cache) (hlen : c.slots.length = c.cap) (hnd : ((occupied c.slots).map (·.key)).Nodup) :
    Cache.restore c.snapshot = ⟨c.cap, packed ((occupied c.slots).map resetAccess) (c.cap - (occupied c.slots).length)⟩ := by
  have hocc : (occupied c.slots).length ≤ c.cap := by
    rw [← hlen, occupied_eq_filterMap]; exact List.length_filterMap_le _ _
  have := cache_restore_fold c.cap (occupied c.slots) [] (c.cap - (occupied c.slots).length) hnd (fun _ _ _ hd => nomatch hd)
  rw [Nat.add_sub_cancel' hocc] at this
  exact this

theorem cacheMap_packed_reset (es : List CEntry) (n : Nat) :
    cacheMap (packed (es.map resetAccess) n) = es.map (fun e => (e.key, e.val)) := by
  rw [cacheMap, occupied_packed]
  simp [List.map_map, Function.comp_def, resetAccess]

/-! ### cache ring: well-formedness (as many slots as the capacity, no key in two slots) -/

def SlotsNodup (slots : List (Option CEntry)) : Prop :=
  ∀ (i j : Nat) (e1 e2 : CEntry), slots[i]? = some (some e1) → slots[j]? = some (some e2) → e1.key = e2.key → i = j

theorem mem_occupied (slots : List (Option CEntry)) (e : CEntry) :
    e ∈ occupied slots ↔ ∃ i : Nat, slots[i]? = some (some e) := by
  rw [occupied_eq_filterMap, List.mem_filterMap, ← List.mem_iff_getElem?]
  simp only [id, exists_eq_right]

theorem slotsNodup_tail (s : Option CEntry) (ss : List (Option CEntry)) (h : SlotsNodup (s :: ss)) : SlotsNodup ss :=
  fun i j e1 e2 h1 h2 hk => Nat.succ.inj (h (i + 1) (j + 1) e1 e2 h1 h2 hk)

theorem occKeys_nodup (slots : List (Option CEntry)) (h : SlotsNodup slots) : ((occupied slots).map (·.key)).Nodup := by
  induction slots with
  | nil => simp [occupied]
  | cons s ss ih =>
    have ht := ih (slotsNodup_tail s ss h)
    cases s with
    | none => simpa [occupied] using ht
    | some e =>
      simp only [occupied, List.map_cons, List.nodup_cons]
      refine ⟨?_, ht⟩
      intro hm
      obtain ⟨e2, he2, hk⟩ := List.mem_map.mp hm
      obtain ⟨j, hj⟩ := (mem_occupied ss e2).mp he2
      exact Nat.succ_ne_zero j (h 0 (j + 1) e e2 rfl hj hk.symm).symm

theorem findSlot_none_spec (key : Name) (slots : List (Option CEntry)) (h : findSlot key slots 0 = none) :
    ∀ (j : Nat) (e : CEntry), slots[j]? = some (some e) → e.key ≠ key := by
  intro j e hj hk
  have h1 := findSlot_isSome_eq slots key
  rw [h] at h1
  have hm : key ∈ aKeys (cacheMap slots) := by
    simp only [cacheMap, aKeys, List.map_map, List.mem_map, Function.comp_def]
    exact ⟨e, (mem_occupied slots e).mpr ⟨j, hj⟩, hk⟩
  rw [← aFind_isSome_iff_mem] at hm
  rw [hm] at h1
  simp at h1

theorem contains_iff (c : Cache) (key : Name) :
    c.contains key = true ↔ ∃ (j : Nat) (e : CEntry), c.slots[j]? = some (some e) ∧ e.key = key := by
  unfold Cache.contains
  constructor
  · intro h
    cases hf : findSlot key c.slots 0 with
    | none => rw [hf] at h; simp at h
    | some i =>
      obtain ⟨e, he, hk⟩ := findSlot_some_spec key c.slots i hf
      exact ⟨i, e, he, hk⟩
  · rintro ⟨j, e, hj, hk⟩
    cases hf : findSlot key c.slots 0 with
    | none => exact absurd hk (findSlot_none_spec key c.slots hf j e hj)
    | some i => rfl

theorem cache_peek_contains (c : Cache) (key : Name) (h : (c.peek key).isSome) : c.contains key = true := by
  unfold Cache.peek at h
  unfold Cache.contains
  cases hf : findSlot key c.slots 0 with
  | none => rw [hf] at h; simp at h
  | some i => rfl

theorem getElem?_set_some_imp {α : Type} (l : List α) (i j : Nat) (x y : α) (h : (l.set i x)[j]? = some y) :
    (i = j ∧ y = x) ∨ (i ≠ j ∧ l[j]? = some y) := by
  rw [List.getElem?_set] at h
  by_cases hij : i = j
  · simp only [hij, if_true] at h
    split at h
    · simp only [Option.some.injEq] at h
      exact Or.inl ⟨hij, h.symm⟩
    · simp at h
  · simp only [hij, if_false] at h
    exact Or.inr ⟨hij, h⟩

theorem slotsNodup_set (slots : List (Option CEntry)) (i : Nat) (x : Option CEntry) (h : SlotsNodup slots)
    (hx : ∀ e', x = some e' → ∀ (j : Nat) (e : CEntry), j ≠ i → slots[j]? = some (some e) → e.key ≠ e'.key) :
    SlotsNodup (slots.set i x) := by
  intro a b e1 e2 h1 h2 hk
  rcases getElem?_set_some_imp _ _ _ _ _ h1 with ⟨ha, e⟩ | ⟨ha, h1⟩ <;>
    rcases getElem?_set_some_imp _ _ _ _ _ h2 with ⟨hb, e'⟩ | ⟨hb, h2⟩
  · exact ha.symm.trans hb
  · exact absurd hk.symm (hx e1 e.symm b e2 (Ne.symm hb) h2)
  · exact absurd hk (hx e2 e'.symm a e1 (Ne.symm ha) h1)
  · exact h a b e1 e2 h1 h2 hk

theorem slotsNodup_set_same_key (slots : List (Option CEntry)) (i : Nat) (e e' : CEntry)
    (hi : slots[i]? = some (some e)) (hk' : e'.key = e.key) (h : SlotsNodup slots) :
    SlotsNodup (slots.set i (some e')) :=
  slotsNodup_set slots i _ h fun _ he j e2 hj h2 hk =>
    hj (h j i e2 e h2 hi (hk.trans ((Option.some.inj he) ▸ hk')))

structure Cache.WF (c : Cache) : Prop where
  len : c.slots.length = c.cap
  nd : SlotsNodup c.slots

theorem slotsNodup_replicate (n : Nat) : SlotsNodup (List.replicate n none) := by
  intro i j e1 e2 h1 _ _
  rw [List.getElem?_replicate] at h1
  split at h1 <;> cases h1

theorem Cache.new_wf (cap : Nat) : (Cache.new cap).WF :=
  ⟨List.length_replicate, slotsNodup_replicate cap⟩

theorem Cache.clear_wf (c : Cache) (h : c.WF) : c.clear.WF :=
  ⟨List.length_replicate.trans h.len, slotsNodup_replicate _⟩

theorem Cache.put_wf (c : Cache) (key : Name) (val : TData) (cost size victim : Nat) (h : c.WF) :
    (c.put key val cost size victim).WF := by
  unfold Cache.put
  cases hf : findSlot key c.slots 0 with
  | some i =>
    obtain ⟨e, he, hk⟩ := findSlot_some_spec key c.slots i hf
    simp only [he]
    exact ⟨by simp [h.len], slotsNodup_set_same_key c.slots i e _ he rfl h.nd⟩
  | none =>
    simp only
    exact ⟨by simp [h.len], slotsNodup_set c.slots _ _ h.nd
      fun _ he j e _ hj => Option.some.inj he ▸ findSlot_none_spec key c.slots hf j e hj⟩

theorem Cache.touch_wf (c : Cache) (key : Name) (h : c.WF) : (c.touch key).WF := by
  unfold Cache.touch
  cases hf : findSlot key c.slots 0 with
  | some i =>
    obtain ⟨e, he, hk⟩ := findSlot_some_spec key c.slots i hf
    simp only [he]
    exact ⟨by simp [h.len], slotsNodup_set_same_key c.slots i e _ he rfl h.nd⟩
  | none => exact h

theorem Cache.delete_wf (c : Cache) (key : Name) (h : c.WF) : (c.delete key).WF := by
  unfold Cache.delete
  cases hf : findSlot key c.slots 0 with
  | some i => exact ⟨by simp [h.len], slotsNodup_set c.slots i none h.nd nofun⟩
  | none => exact h

theorem Cache.evict_wf (c : Cache) (keys : List Name) (h : c.WF) : (c.evict keys).WF := by
  unfold Cache.evict
  induction keys generalizing c with
  | nil => exact h
  | cons k ks ih => exact ih (c.delete k) (Cache.delete_wf c k h)

structure ESlab.WF (s : ESlab) : Prop where
  nd : (aKeys s.ents).Nodup
  len : ∀ p ∈ s.ents, p.2.length = s.dim

theorem ESlab.new_wf (dim : Nat) : (ESlab.new dim).WF := ⟨by simp [ESlab.new, aKeys], by simp [ESlab.new]⟩

theorem ESlab.delete_wf (s : ESlab) (id : Nat) (h : s.WF) : (s.delete id).WF :=
  ⟨aKeys_aErase_nodup id s.ents h.nd, fun p hp => h.len p (mem_aErase id s.ents p hp)⟩

theorem ESlab.set_wf (s s' : ESlab) (id : Nat) (v : List Nat) (h : s.WF) (hs : s.set id v = some s') : s'.WF := by
  unfold ESlab.set at hs
  split at hs
  · simp at hs
  · rename_i hl
    simp only [Option.some.injEq] at hs
    subst hs
    refine ⟨aKeys_aInsert_nodup id v s.ents h.nd, fun p hp => ?_⟩
    rcases mem_aInsert id v s.ents p hp with hp | hp
    · subst hp; simpa using hl
    · exact h.len p hp

theorem ESlab.set_dim (s s' : ESlab) (id : Nat) (v : List Nat) (hs : s.set id v = some s') : s'.dim = s.dim := by
  unfold ESlab.set at hs
  split at hs
  · simp at hs
  · simp only [Option.some.injEq] at hs; subst hs; rfl

theorem ESlab.putValue_cases (s : ESlab) (id : Nat) (v : TData) :
    s.putValue id v = s.delete id ∨
      ∃ vec, v.embOf = some vec ∧ vec.length = s.dim ∧ s.putValue id v = { s with ents := aInsert id vec s.ents } := by
  unfold ESlab.putValue ESlab.set
  cases v.embOf with
  | none => exact .inl rfl
  | some vec =>
    by_cases hl : vec.length = s.dim
    · exact .inr ⟨vec, rfl, hl, by simp [hl]⟩
    · exact .inl (by simp [hl])

theorem Router.put_md (r : Router) (key : Name) (v : TData) (w : Nat) :
    (r.put key v w).md = if classifyKey key = .cache then r.md else aInsert key v r.md := by
  unfold Router.put; cases classifyKey key <;> rfl

theorem Router.put_cache (r : Router) (key : Name) (v : TData) (w : Nat) :
    (r.put key v w).cache =
      if classifyKey key = .cache then r.cache.put key v COST_ONE (v.length * 100) w else r.cache := by
  unfold Router.put; cases classifyKey key <;> rfl

theorem Router.put_index (r : Router) (key : Name) (v : TData) (w : Nat) :
    (r.put key v w).index = if classifyKey key = .embedding then (r.index.getOrCreate key).1 else r.index := by
  unfold Router.put; cases classifyKey key <;> rfl

theorem Router.put_emb (r : Router) (key : Name) (v : TData) (w : Nat) :
    (r.put key v w).emb =
      if classifyKey key = .embedding then r.emb.putValue (r.index.getOrCreate key).2 v else r.emb := by
  unfold Router.put; cases classifyKey key <;> rfl

theorem Router.delete_fields (r : Router) (k : Name) :
    ((r.delete k).1.md = r.md ∨ (r.delete k).1.md = aErase k r.md) ∧
    ((r.delete k).1.index = r.index ∨ (r.delete k).1.index = r.index.remove k) ∧
    ((r.delete k).1.cache = r.cache ∨ (r.delete k).1.cache = r.cache.delete k) ∧
    ((r.delete k).1.emb = r.emb ∨ ∃ id, (r.delete k).1.emb = r.emb.delete id) := by
  unfold Router.delete
  split
  · exact ⟨.inl rfl, .inl rfl, .inl rfl, .inl rfl⟩
  · split
    · refine ⟨.inr rfl, .inr rfl, .inl rfl, ?_⟩
      cases r.index.get k with
      | none => exact .inl rfl
      | some id => exact .inr ⟨id, rfl⟩
    · exact ⟨.inl rfl, .inl rfl, .inr rfl, .inl rfl⟩
    · exact ⟨.inr rfl, .inl rfl, .inl rfl, .inl rfl⟩

theorem Router.touch_fields (r : Router) (k : Name) :
    (r.touch k).md = r.md ∧ (r.touch k).index = r.index ∧ (r.touch k).emb = r.emb ∧
    ((r.touch k).cache = r.cache ∨ (r.touch k).cache = r.cache.touch k) := by
  unfold Router.touch
  split
  · exact ⟨rfl, rfl, rfl, .inr rfl⟩
  · exact ⟨rfl, rfl, rfl, .inl rfl⟩

theorem Router.peek_congr (r r' : Router) (key : Name) (hi : r'.index.get key = r.index.get key)
    (hm : aFind key r'.md = aFind key r.md)
    (he : classifyKey key = .embedding → ∀ id, r.index.get key = some id → r'.emb.get id = r.emb.get id)
    (hc : classifyKey key = .cache → r'.cache.peek key = r.cache.peek key) : r'.peek key = r.peek key := by
  unfold Router.peek
  split
  · next h =>
    rw [hi, hm]
    cases hg : r.index.get key with
    | none => rfl
    | some id => simp only [he h id hg]
  · next h => exact hc h
  · exact hm

theorem Router.exists_congr (r r' : Router) (key : Name) (hi : r'.index.get key = r.index.get key)
    (hm : aFind key r'.md = aFind key r.md) (hc : r'.cache.contains key = r.cache.contains key) :
    r'.exists key = r.exists key := by
  unfold Router.exists
  rw [hi, hm, hc]

theorem Router.exists_mono (r r' : Router) (key : Name) (hi : (r'.index.get key).isSome → (r.index.get key).isSome)
    (hm : (aFind key r'.md).isSome → (aFind key r.md).isSome)
    (hc : r'.cache.contains key = true → r.cache.contains key = true)
    (h : r'.exists key = true) : r.exists key = true := by
  unfold Router.exists at h ⊢
  split at h
  · rw [Bool.or_eq_true] at h ⊢; exact h.imp hi hm
  · exact hc h
  · exact hm h

structure Router.WF (r : Router) : Prop where
  md : (aKeys r.md).Nodup
  emb : r.emb.WF
  cache : r.cache.WF

theorem Router.new_wf (cfg : RouterCfg) : (Router.new cfg).WF :=
  ⟨by simp [Router.new, aKeys], ESlab.new_wf _, Cache.new_wf _⟩

theorem ESlab.putValue_wf (s : ESlab) (id : Nat) (val : TData) (h : s.WF) : (s.putValue id val).WF := by
  rcases ESlab.putValue_cases s id val with e | ⟨vec, -, hl, e⟩ <;> rw [e]
  · exact ESlab.delete_wf _ _ h
  · refine ⟨aKeys_aInsert_nodup id vec s.ents h.nd, fun p hp => ?_⟩
    rcases mem_aInsert id vec s.ents p hp with rfl | hp
    · exact hl
    · exact h.len p hp

theorem ESlab.putValue_dim (s : ESlab) (id : Nat) (val : TData) : (s.putValue id val).dim = s.dim := by
  rcases ESlab.putValue_cases s id val with e | ⟨vec, -, -, e⟩ <;> rw [e] <;> rfl

theorem Router.put_wf (r : Router) (key : Name) (val : TData) (victim : Nat) (h : r.WF) : (r.put key val victim).WF := by
  refine ⟨?_, ?_, ?_⟩
  · rw [Router.put_md]
    split
    · exact h.md
    · exact aKeys_aInsert_nodup key val r.md h.md
  · rw [Router.put_emb]
    split
    · exact ESlab.putValue_wf _ _ _ h.emb
    · exact h.emb
  · rw [Router.put_cache]
    split
    · exact Cache.put_wf _ _ _ _ _ _ h.cache
    · exact h.cache

theorem Router.delete_wf (r : Router) (key : Name) (h : r.WF) : (r.delete key).1.WF := by
  obtain ⟨hm, -, hc, he⟩ := Router.delete_fields r key
  refine ⟨?_, ?_, ?_⟩
  · rcases hm with e | e <;> rw [e]
    · exact h.md
    · exact aKeys_aErase_nodup key r.md h.md
  · rcases he with e | ⟨id, e⟩ <;> rw [e]
    · exact h.emb
    · exact ESlab.delete_wf _ _ h.emb
  · rcases hc with e | e <;> rw [e]
    · exact h.cache
    · exact Cache.delete_wf _ _ h.cache

theorem Router.touch_wf (r : Router) (key : Name) (h : r.WF) : (r.touch key).WF := by
  obtain ⟨hm, -, he, hc⟩ := Router.touch_fields r key
  refine ⟨hm ▸ h.md, he ▸ h.emb, ?_⟩
  rcases hc with e | e <;> rw [e]
  · exact h.cache
  · exact Cache.touch_wf _ _ h.cache

theorem Router.clear_wf (r : Router) (h : r.WF) : r.clear.WF :=
  ⟨by simp [Router.clear, aKeys], ESlab.new_wf _, Cache.clear_wf _ h.cache⟩

theorem Router.apply_wf (r : Router) (op : ROp) (h : r.WF) : (r.apply op).WF := by
  cases op with
  | put k v victim => exact Router.put_wf r k v victim h
  | delete k => exact Router.delete_wf r k h
  | get k => exact Router.touch_wf r k h
  | evict ks => exact ⟨h.md, h.emb, Cache.evict_wf _ ks h.cache⟩
  | clear => exact Router.clear_wf r h
  | graph op => exact ⟨h.md, h.emb, h.cache⟩
  | blob op => exact ⟨h.md, h.emb, h.cache⟩

theorem Router.run_wf (r : Router) (ops : List ROp) (h : r.WF) : (r.run ops).WF := by
  unfold Router.run
  induction ops generalizing r with
  | nil => exact h
  | cons op ops ih => exact ih (r.apply op) (Router.apply_wf r op h)

/-- the embedding slab after snapshot + restore -/
def ESlab.rounded (ttOk : List Nat → Bool) (ttRecon : List Nat → List Nat) (s : ESlab) : ESlab :=
  ⟨s.dim, s.ents.filterMap (fun p => (embRound ttOk ttRecon s.dim p.2).map (fun w => (p.1, w)))⟩

/-- closed form of `SlabRouter::restore(snapshot())` on a well-formed router -/
theorem router_restore_snapshot (ttOk : List Nat → Bool) (ttRecon : List Nat → List Nat) (r : Router) (h : r.WF) :
    Router.restore ttRecon (r.snapshot ttOk).2 =
      ⟨r.index, r.emb.rounded ttOk ttRecon, r.md,
       ⟨r.cache.cap, packed ((occupied r.cache.slots).map resetAccess) (r.cache.cap - (occupied r.cache.slots).length)⟩,
       GraphT.restore r.graph.snapshot.2, BlobLog.restore r.blobs.snapshot⟩ := by
  unfold Router.restore Router.snapshot
  simp only [EIndex.restore, EIndex.snapshot, restoreMeta]
  rw [eslab_restore_snapshot ttOk ttRecon r.emb h.emb.nd, foldl_aInsert_nil r.md h.md,
    cache_restore_snapshot r.cache h.cache.len (occKeys_nodup _ h.cache.nd)]
  rfl

end Neumann.Snap
