import NeumannModel.Snap.StoreLemmas
/-
  Helper lemmas for the store-level loops (C07): `restore_from_bytes`, the v2 loader and the
  quantising format's load are all folds of `SlabRouter::put`. What a `put` does to the `get` of its
  own key and of every other key.
-/
namespace Neumann.Snap

structure EIndex.WF (ix : EIndex) : Prop where
  tombBound : ∀ i ∈ ix.tomb, i < ix.vocab.length

theorem EIndex.new_wf : EIndex.new.WF := ⟨by simp [EIndex.new]⟩

theorem findLiveFrom_some (tomb : List Nat) (key : Name) (vocab : List Name) (i j : Nat)
    (h : findLiveFrom tomb key vocab i = some j) : ∃ d, j = i + d ∧ vocab[d]? = some key := by
  induction vocab generalizing i with
  | nil => cases h
  | cons k ks ih =>
    rw [findLiveFrom] at h
    split at h
    · next hk =>
      cases h
      exact ⟨0, rfl, congrArg some hk.1⟩
    · obtain ⟨d, rfl, hd⟩ := ih (i + 1) h
      exact ⟨d + 1, by rw [Nat.add_assoc, Nat.add_comm 1 d], hd⟩

theorem findLiveFrom_append_ne (tomb : List Nat) (key k2 : Name) (vocab : List Name) (i : Nat) (hne : k2 ≠ key) :
    findLiveFrom tomb key (vocab ++ [k2]) i = findLiveFrom tomb key vocab i := by
  induction vocab generalizing i with
  | nil => simp [findLiveFrom, hne]
  | cons k ks ih =>
    simp only [List.cons_append, findLiveFrom]
    split
    · rfl
    · exact ih (i + 1)

theorem findLiveFrom_append_self (tomb : List Nat) (key : Name) (vocab : List Name) (i : Nat)
    (h : findLiveFrom tomb key vocab i = none) (hnt : i + vocab.length ∉ tomb) :
    findLiveFrom tomb key (vocab ++ [key]) i = some (i + vocab.length) := by
  induction vocab generalizing i with
  | nil => simp only [List.nil_append, findLiveFrom, List.length_nil, Nat.add_zero] at hnt ⊢; simp [hnt]
  | cons k ks ih =>
    simp only [findLiveFrom] at h
    split at h
    · simp at h
    · rename_i hk
      simp only [List.cons_append, findLiveFrom, hk, if_false]
      rw [ih (i + 1) h (by simp only [List.length_cons] at hnt; rw [show i + 1 + ks.length = i + (ks.length + 1) by omega]; exact hnt)]
      simp only [List.length_cons]
      congr 1; omega

theorem EIndex.get_lt (ix : EIndex) (key : Name) (id : Nat) (h : ix.get key = some id) :
    id < ix.vocab.length ∧ ix.vocab[id]? = some key := by
  obtain ⟨d, rfl, hd⟩ := findLiveFrom_some ix.tomb key ix.vocab 0 id h
  rw [Nat.zero_add]
  exact ⟨(List.getElem?_eq_some_iff.1 hd).1, hd⟩

theorem EIndex.get_inj (ix : EIndex) (k1 k2 : Name) (id : Nat) (h1 : ix.get k1 = some id) (h2 : ix.get k2 = some id) : k1 = k2 := by
  have a := (EIndex.get_lt ix k1 id h1).2
  have b := (EIndex.get_lt ix k2 id h2).2
  rw [a] at b
  exact Option.some.inj b

theorem getOrCreate_wf (ix : EIndex) (key : Name) (h : ix.WF) : (ix.getOrCreate key).1.WF := by
  unfold EIndex.getOrCreate
  cases ix.get key with
  | some id => exact h
  | none =>
    refine ⟨fun i hi => ?_⟩
    have := h.tombBound i hi
    simp only [List.length_append, List.length_cons, List.length_nil]
    omega

theorem getOrCreate_get_self (ix : EIndex) (key : Name) (h : ix.WF) :
    (ix.getOrCreate key).1.get key = some (ix.getOrCreate key).2 := by
  unfold EIndex.getOrCreate
  cases hg : ix.get key with
  | some id => simpa using hg
  | none =>
    simp only
    unfold EIndex.get at hg ⊢
    have := findLiveFrom_append_self ix.tomb key ix.vocab 0 hg (by
      intro hm
      have := h.tombBound _ hm
      omega)
    simpa using this

theorem getOrCreate_get_ne (ix : EIndex) (key key' : Name) (hne : key' ≠ key) :
    (ix.getOrCreate key).1.get key' = ix.get key' := by
  unfold EIndex.getOrCreate
  cases ix.get key with
  | some id => rfl
  | none =>
    simp only
    unfold EIndex.get
    exact findLiveFrom_append_ne ix.tomb key' key ix.vocab 0 (fun e => hne e.symm)

theorem getOrCreate_id_ne (ix : EIndex) (key key' : Name) (id' : Nat) (hne : key' ≠ key) (h' : ix.get key' = some id') :
    (ix.getOrCreate key).2 ≠ id' := by
  unfold EIndex.getOrCreate
  cases hg : ix.get key with
  | some id =>
    simp only
    intro e
    subst e
    exact hne (EIndex.get_inj ix key' key id h' hg)
  | none =>
    simp only
    have := (EIndex.get_lt ix key' id' h').1
    omega

theorem remove_wf (ix : EIndex) (key : Name) (h : ix.WF) : (ix.remove key).WF := by
  unfold EIndex.remove
  cases hg : ix.get key with
  | none => exact h
  | some id =>
    refine ⟨fun i hi => ?_⟩
    simp only at hi
    split at hi
    · exact h.tombBound i hi
    · simp only [List.mem_cons] at hi
      rcases hi with hi | hi
      · subst hi; exact (EIndex.get_lt ix key i hg).1
      · exact h.tombBound i hi

theorem aInsert_of_aFind {κ ν : Type} [DecidableEq κ] (k : κ) (v : ν) (l : List (κ × ν)) (h : aFind k l = some v) :
    aInsert k v l = l := by
  induction l with
  | nil => cases h
  | cons p l ih =>
    obtain ⟨k', v'⟩ := p
    rw [aFind_cons] at h
    rw [aInsert]
    split at h
    · next h1 => cases h; rw [if_pos h1, h1]
    · next h1 => rw [if_neg h1, ih h]

theorem withEmb_of_embOf (d : TData) (vec : List Nat) (h : d.embOf = some vec) : d.withEmb vec = d := by
  unfold TData.embOf at h
  apply aInsert_of_aFind
  split at h
  · next v hf => cases h; exact hf
  · cases h

theorem put_index_wf (r : Router) (key : Name) (v : TData) (victim : Nat) (h : r.index.WF) : (r.put key v victim).index.WF := by
  rw [Router.put_index]
  split
  · exact getOrCreate_wf r.index key h
  · exact h

theorem putValue_get_ne (s : ESlab) (id id' : Nat) (v : TData) (hne : id ≠ id') : (s.putValue id v).get id' = s.get id' := by
  rcases ESlab.putValue_cases s id v with e | ⟨vec, -, -, e⟩ <;> rw [e]
  · exact aFind_aErase_ne _ _ _ (fun e => hne e.symm)
  · exact aFind_aInsert_ne _ _ _ _ (fun e => hne e.symm)

theorem putValue_get_self (s : ESlab) (id : Nat) (v : TData) :
    (s.putValue id v).get id = none ∨ ∃ vec, v.embOf = some vec ∧ (s.putValue id v).get id = some vec := by
  rcases ESlab.putValue_cases s id v with e | ⟨vec, hv, -, e⟩ <;> rw [e]
  · exact .inl (aFind_aErase_self _ _)
  · exact .inr ⟨vec, hv, aFind_aInsert_self _ _ _⟩

theorem peek_put_self (r : Router) (key : Name) (v : TData) (victim : Nat) (hw : r.index.WF) (hk : classifyKey key ≠ .cache) :
    (r.put key v victim).peek key = some v := by
  have hmd : aFind key (r.put key v victim).md = some v := by
    rw [Router.put_md, if_neg hk]; exact aFind_aInsert_self key v r.md
  unfold Router.peek
  split
  · next he =>
    rw [Router.put_index, if_pos he, getOrCreate_get_self r.index key hw, Router.put_emb, if_pos he, hmd]
    rcases putValue_get_self r.emb (r.index.getOrCreate key).2 v with h | ⟨vec, hv, h⟩
    · simp only [h]
    · simp only [h, Option.getD_some, withEmb_of_embOf v vec hv]
  · next hc => exact absurd hc hk
  · exact hmd

section other
variable (r : Router) (key key' : Name) (v : TData) (victim : Nat) (hne : key' ≠ key)
include hne

theorem put_index_get_ne : (r.put key v victim).index.get key' = r.index.get key' := by
  rw [Router.put_index]
  split
  · exact getOrCreate_get_ne r.index key key' hne
  · rfl

theorem put_md_find_ne : aFind key' (r.put key v victim).md = aFind key' r.md := by
  rw [Router.put_md]
  split
  · rfl
  · exact aFind_aInsert_ne key key' v r.md hne

theorem put_emb_get_ne (id' : Nat) (hg : r.index.get key' = some id') :
    (r.put key v victim).emb.get id' = r.emb.get id' := by
  rw [Router.put_emb]
  split
  · exact putValue_get_ne r.emb _ id' v (getOrCreate_id_ne r.index key key' id' hne hg)
  · rfl

theorem peek_put_other (hk' : classifyKey key' ≠ .cache) : (r.put key v victim).peek key' = r.peek key' :=
  Router.peek_congr r _ key' (put_index_get_ne r key key' v victim hne) (put_md_find_ne r key key' v victim hne)
    (fun _ => put_emb_get_ne r key key' v victim hne) (fun h => absurd h hk')

end other

theorem put_graph_blobs (r : Router) (key : Name) (v : TData) (victim : Nat) :
    (r.put key v victim).graph = r.graph ∧ (r.put key v victim).blobs = r.blobs := by
  unfold Router.put
  cases classifyKey key <;> exact ⟨rfl, rfl⟩

theorem peek_of_empty (r : Router) (key : Name) (hk : classifyKey key ≠ .cache) (hi : r.index = EIndex.new)
    (hm : r.md = []) : r.peek key = none := by
  unfold Router.peek
  rw [hi, hm]
  split
  · rfl
  · next hc => exact absurd hc hk
  · rfl

theorem putOpt_index_wf (r : Router) (key : Name) (o : Option TData) (h : r.index.WF) : (r.putOpt key o).index.WF := by
  cases o with
  | none => exact h
  | some v => exact put_index_wf r key v 0 h

theorem fold_putOpt_peek (entries : List (Name × Option TData)) (t : Router) (hw : t.index.WF)
    (hnd : (aKeys entries).Nodup) (key' : Name) (hk' : classifyKey key' ≠ .cache) :
    (entries.foldl (fun t p => t.putOpt p.1 p.2) t).peek key' =
      match aFind key' entries with
      | some (some v) => some v
      | _ => t.peek key' := by
  induction entries generalizing t with
  | nil => rfl
  | cons p es ih =>
    obtain ⟨k, o⟩ := p
    simp only [aKeys, List.map_cons, List.nodup_cons] at hnd
    simp only [List.foldl_cons]
    rw [ih (t.putOpt k o) (putOpt_index_wf t k o hw) hnd.2]
    by_cases hkk : k = key'
    · subst hkk
      rw [aFind_none_of_not_mem k es hnd.1]
      simp only [aFind, if_true]
      cases o with
      | none => rfl
      | some v => exact peek_put_self t k v 0 hw hk'
    · simp only [aFind, hkk, if_false]
      have : (t.putOpt k o).peek key' = t.peek key' := by
        cases o with
        | none => rfl
        | some v => exact peek_put_other t k key' v 0 (fun e => hkk e.symm) hk'
      rw [this]

theorem aFind_map_pair {α : Type} (f : Name → α) (order : List Name) (key : Name) :
    aFind key (order.map (fun k => (k, f k))) = if key ∈ order then some (f key) else none := by
  induction order with
  | nil => rfl
  | cons k ks ih =>
    by_cases h : k = key
    · subst h; simp [aFind]
    · have h' : ¬ key = k := fun e => h e.symm
      simp only [List.map_cons, aFind, h, if_false, ih, List.mem_cons, h', false_or]

theorem fold_putOpt_keys_peek (f : Name → Option TData) (order : List Name) (t : Router) (hw : t.index.WF)
    (hnd : order.Nodup) (key : Name) (hk : classifyKey key ≠ .cache) (ht : t.peek key = none) :
    (order.foldl (fun t k => t.putOpt k (f k)) t).peek key = if key ∈ order then f key else none := by
  have := fold_putOpt_peek (order.map fun k => (k, f k)) t hw
    (by simpa [aKeys, List.map_map, Function.comp_def] using hnd) key hk
  rw [List.foldl_map, aFind_map_pair, ht] at this
  rw [this]
  by_cases hm : key ∈ order
  · rw [if_pos hm, if_pos hm]
    cases f key <;> rfl
  · rw [if_neg hm, if_neg hm]

theorem fold_putOpt_graph_blobs (f : Name → Option TData) (order : List Name) (t : Router) :
    (order.foldl (fun t k => t.putOpt k (f k)) t).graph = t.graph ∧
    (order.foldl (fun t k => t.putOpt k (f k)) t).blobs = t.blobs := by
  induction order generalizing t with
  | nil => exact ⟨rfl, rfl⟩
  | cons k ks ih =>
    have h2 : (t.putOpt k (f k)).graph = t.graph ∧ (t.putOpt k (f k)).blobs = t.blobs := by
      cases f k with
      | none => exact ⟨rfl, rfl⟩
      | some v => exact put_graph_blobs t k v 0
    exact ⟨(ih _).1.trans h2.1, (ih _).2.trans h2.2⟩

theorem scanLiveFrom_mem_of_find (tomb : List Nat) (key : Name) (vocab : List Name) (i j : Nat)
    (h : findLiveFrom tomb key vocab i = some j) : (key, j) ∈ scanLiveFrom tomb [] vocab i := by
  induction vocab generalizing i with
  | nil => simp [findLiveFrom] at h
  | cons k ks ih =>
    simp only [findLiveFrom] at h
    simp only [scanLiveFrom, List.isPrefixOf, true_and]
    split at h
    · rename_i hk
      simp only [Option.some.injEq] at h
      subst h
      simp [hk.1, hk.2]
    · have := ih (i + 1) h
      split
      · exact List.mem_cons_of_mem _ this
      · exact this

theorem peek_isSome_exists (r : Router) (key : Name) (h : (r.peek key).isSome) : r.exists key = true := by
  unfold Router.peek at h
  unfold Router.exists
  cases hc : classifyKey key with
  | cache => rw [hc] at h; exact cache_peek_contains r.cache key h
  | embedding =>
    rw [hc] at h
    simp only at h ⊢
    cases hg : r.index.get key with
    | none => rw [hg] at h; simpa using h
    | some id => simp
  | graph => rw [hc] at h; exact h
  | table => rw [hc] at h; exact h
  | metadata => rw [hc] at h; exact h

theorem exists_mem_scan (r : Router) (key : Name) (h : r.exists key = true) : key ∈ r.scan [] := by
  unfold Router.scan
  rw [List.mem_eraseDups, List.mem_append, List.mem_append]
  have hmd : (aFind key r.md).isSome → key ∈ (aKeys r.md).filter (fun k => ([] : Name).isPrefixOf k) :=
    fun hm => List.mem_filter.2 ⟨(aFind_isSome_iff_mem key r.md).mp hm, rfl⟩
  have hidx : (r.index.get key).isSome → key ∈ (r.index.scanPrefix []).map (·.1) := by
    intro hg
    obtain ⟨id, hg⟩ := Option.isSome_iff_exists.1 hg
    exact List.mem_map.2 ⟨(key, id), scanLiveFrom_mem_of_find r.index.tomb key r.index.vocab 0 id hg, rfl⟩
  have hcache : r.cache.contains key = true → key ∈ r.cache.scanPrefix [] := by
    intro hc
    obtain ⟨j, e, hj, hk⟩ := (contains_iff r.cache key).mp hc
    exact List.mem_map.2 ⟨e, List.mem_filter.2 ⟨(mem_occupied r.cache.slots e).mpr ⟨j, hj⟩, rfl⟩, hk⟩
  unfold Router.exists at h
  split at h
  · exact .inl ((Bool.or_eq_true _ _ ▸ h).elim (fun h => .inr (hidx h)) (fun h => .inl (hmd h)))
  · exact .inr (hcache h)
  · exact .inl (.inl (hmd h))

theorem peek_some_mem_scan (r : Router) (key : Name) (h : (r.peek key).isSome) : key ∈ r.scan [] :=
  exists_mem_scan r key (peek_isSome_exists r key h)

end Neumann.Snap
