import NeumannModel.Chain.Commit
namespace Neumann.Chain

theorem narrow_raw (t : Tx) : t.raw.narrow = some t := by cases t <;> rfl

theorem narrow_none_of_reserved (t : RawTx) (h : t.key.reserved = true) : t.narrow = none := by
  cases t with
  | put k v | del k | cas k e v => cases k <;> simp_all [RawTx.key, SKey.reserved, RawTx.narrow]

theorem narrow_some_of_unreserved (t : RawTx) (h : t.key.reserved = false) : ∃ t', t.narrow = some t' ∧ t'.raw = t := by
  cases t with
  | put k v | del k | cas k e v => cases k <;> simp_all [RawTx.key, SKey.reserved, RawTx.narrow, Tx.raw]

theorem raw_key_unreserved (t : Tx) : t.raw.key.reserved = false := by cases t <;> rfl

theorem applyRawTx_raw (s : List (SKey × SVal)) (t : Tx) : applyRawTx s t.raw = applyTx s t := by
  cases t <;> rfl

theorem applyRawTxs_raw (txs : List Tx) : ∀ (s : List (SKey × SVal)), applyRawTxs s (txs.map Tx.raw) = applyTxs s txs := by
  induction txs with
  | nil => intro s; rfl
  | cons t r ih =>
    intro s
    simp only [List.map_cons, applyRawTxs, applyTxs, List.foldl_cons, applyRawTx_raw]
    exact ih _

theorem sget_applyRawTx_ne (s : List (SKey × SVal)) (t : RawTx) (k : SKey) (h : t.key ≠ k) :
    sget (applyRawTx s t) k = sget s k := by
  cases t with
  | put k' v => exact sget_sput_ne s k' k _ h
  | del k' => exact sget_sdel_ne s k' k h
  | cas k' e v =>
    simp only [applyRawTx]
    split
    · exact sget_sput_ne s k' k _ h
    · rfl

theorem sget_applyRawTxs_unreserved (ops : List RawTx) : ∀ (s : List (SKey × SVal)),
    (∀ t ∈ ops, t.key.reserved = false) → ∀ k : SKey, k.reserved = true → sget (applyRawTxs s ops) k = sget s k := by
  induction ops with
  | nil => intro s _ k _; rfl
  | cons t r ih =>
    intro s hall k hk
    simp only [applyRawTxs, List.foldl_cons]
    have h1 := ih (applyRawTx s t) (fun x hx => hall x (List.mem_cons_of_mem _ hx)) k hk
    simp only [applyRawTxs] at h1
    rw [h1]
    apply sget_applyRawTx_ne
    intro heq
    have := hall t (List.mem_cons_self ..)
    rw [heq, hk] at this
    cases this

theorem addOperation_chain (n : Node) (w : Nat) (t : RawTx) :
    (addOperation n w t).1.cfg = n.cfg ∧ (addOperation n w t).1.chain = n.chain := by
  unfold addOperation
  split
  · split
    · exact ⟨rfl, rfl⟩
    · split
      · exact ⟨rfl, rfl⟩
      · exact addOp_chain n w _
  · exact ⟨rfl, rfl⟩

/-- the sequential client call that records a typed transaction -/
def Tx.asOp (w : Nat) : Tx → Op
  | .put k v => .put w k v
  | .del k => .del w k
  | .cas k e v => .cas w k e v

theorem addOperation_cases (C : Crypto) (n : Node) (w : Nat) (t : RawTx) :
    (addOperation n w t).1 = n ∨ ∃ t' : Tx, t'.raw = t ∧ (addOperation n w t).1 = stepOp C n (t'.asOp w) := by
  unfold addOperation
  split
  · split
    · exact Or.inl rfl
    · cases hn : t.narrow with
      | none => exact Or.inl rfl
      | some t' =>
        refine Or.inr ⟨t', ?_, by cases t' <;> rfl⟩
        by_cases hr : t.key.reserved = true
        · rw [narrow_none_of_reserved t hr] at hn; cases hn
        · obtain ⟨t2, h2, h3⟩ := narrow_some_of_unreserved t (by simpa using hr)
          rw [hn] at h2
          cases h2
          exact h3
  · exact Or.inl rfl

end Neumann.Chain
