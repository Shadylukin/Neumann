import NeumannModel.Chain.Basic
import NeumannModel.Chain.Merge
/-
  C16 — property theorems, part 6: AUTO-MERGE WITH THE TRANSITION VALIDATOR.  With a non-empty global codebook
  `find_and_merge_orthogonal` asks the `TransitionValidator` about every merge candidate; a candidate it rejects
  is marked `Failed`.  "A transaction workspace either becomes one new block with all its writes applied, or
  leaves chain and store untouched" then demands that NOTHING of a rejected candidate reaches the operation list
  the block and the store are built from.  The verdict is an input bit of each candidate (`Cand.valid`), the
  statements hold for every candidate list and every verdict assignment.  Same conventions as `Props.lean`.
-/
namespace Neumann.Chain.Props
open Neumann.Chain

/-! ## 13. the merge loop under the validator -/

/-- WHAT THE LOOP RETURNS, for every candidate list, every `mark_committing` outcome and every verdict assignment:
    the block's operations are the committer's own followed by those of the ACCEPTED candidates (in loop order),
    the merged delta sums the committer's and the accepted directions, `merged_workspaces` are the accepted ids and
    the workspaces marked `Failed` are exactly the rejected ones. -/
theorem merge_block_is_own_plus_accepted (v : Bool) (own : List Tx) (dir : Nat) (cs : List Cand) :
    mergeLoop v own dir cs =
      { ops := own ++ (cs.filter (Cand.accepted v)).flatMap (·.ops),
        dirs := dir :: (cs.filter (Cand.accepted v)).map (·.dir),
        merged := (cs.filter (Cand.accepted v)).map (·.id),
        failed := (cs.filter (Cand.rejected v)).map (·.id) } := by
  unfold mergeLoop
  rw [mergeFold_char]
  simp [mergeInit]

/-- A REJECTED CANDIDATE CONTRIBUTES NOTHING: operation list, merged delta and merged workspaces — hence the block
    built from them and the store after applying them, from every store `s` — are those of the same commit with
    the rejected candidates absent (where the loop marks no workspace `Failed`). -/
theorem rejected_candidate_contributes_nothing (v : Bool) (own : List Tx) (dir : Nat) (cs : List Cand) :
    let r := mergeLoop v own dir cs
    let r' := mergeLoop v own dir (cs.filter fun c => !c.rejected v)
    r.ops = r'.ops ∧ r.dirs = r'.dirs ∧ r.merged = r'.merged ∧ r'.failed = [] ∧
      ∀ s, applyTxs s r.ops = applyTxs s r'.ops := by
  simp only [merge_block_is_own_plus_accepted, List.filter_filter, accepted_not_rejected, rejected_of_not_rejected]
  simp

/-- every operation of the block is the committer's own or an accepted candidate's -/
theorem failed_candidate_ops_not_in_block (v : Bool) (own : List Tx) (dir : Nat) (cs : List Cand) (t : Tx)
    (ht : t ∈ (mergeLoop v own dir cs).ops) : t ∈ own ∨ ∃ c ∈ cs, c.accepted v = true ∧ t ∈ c.ops := by
  rw [merge_block_is_own_plus_accepted] at ht
  simp only [List.mem_append, List.mem_flatMap, List.mem_filter] at ht
  rcases ht with h | ⟨c, ⟨hc, ha⟩, htc⟩
  · exact Or.inl h
  · exact Or.inr ⟨c, hc, ha, htc⟩

/-- a key that only rejected (or unmarkable) candidates write keeps its record in the store the commit leaves -/
theorem failed_candidate_writes_not_in_store (v : Bool) (own : List Tx) (dir : Nat) (cs : List Cand)
    (s : List (SKey × SVal)) (k : Nat) (hown : ∀ t ∈ own, t.key ≠ k)
    (hacc : ∀ c ∈ cs, c.accepted v = true → ∀ t ∈ c.ops, t.key ≠ k) :
    sget (applyTxs s (mergeLoop v own dir cs).ops) (.data k) = sget s (.data k) := by
  refine sget_applyTxs_ne _ _ s fun t ht e => ?_
  rcases failed_candidate_ops_not_in_block v own dir cs t ht with h | ⟨c, hc, ha, htc⟩
  · exact hown t h (SKey.data.inj e)
  · exact hacc c hc ha t htc (SKey.data.inj e)

def wOwn : List Tx := [.put 1 1]
def wRejected : Cand := { id := 1, ops := [.put 2 2, .del 1], dir := 2, markable := true, valid := false }
def wAccepted : Cand := { id := 2, ops := [.put 3 3], dir := 3, markable := true, valid := true }

/-- non-vacuity: key 2 is written by a rejected candidate only; an accepted one sits next to it -/
example : wRejected.rejected true = true ∧ wAccepted.accepted true = true ∧
    (∀ t ∈ wOwn, t.key ≠ 2) ∧ (∀ c ∈ [wRejected, wAccepted], c.accepted true = true → ∀ t ∈ c.ops, t.key ≠ 2) ∧
    (mergeLoop true wOwn 1 [wRejected, wAccepted]).ops = [.put 1 1, .put 3 3] ∧
    (mergeLoop true wOwn 1 [wRejected, wAccepted]).failed = [1] := by decide +kernel

/-- THE DEFAULT CONFIGURATION IS THE `prepare` STEP OF `commitStep`: without a validator (empty codebook), or with
    one that accepts every candidate, candidates that are all still `Active` are all merged — `ops`, `dirs` and
    `merged` are the expressions `commitStep` uses, so every theorem about `commit` covers the accepted part. -/
theorem merge_all_accepted_is_commit_prepare (v : Bool) (valid : Nat → Bool) (ws : Ws) (cands : List Ws)
    (hact : ∀ w ∈ cands, w.state = .active) (hv : v = false ∨ ∀ w ∈ cands, valid w.id = true) :
    mergeLoop v ws.ops ws.dir (cands.map (Cand.ofWs valid)) =
      { ops := ws.ops ++ cands.flatMap (·.ops), dirs := ws.dir :: cands.map (·.dir),
        merged := cands.map (·.id), failed := [] } := by
  rw [merge_block_is_own_plus_accepted]
  have hacc : ∀ c ∈ cands.map (Cand.ofWs valid), c.accepted v = true := by
    intro c hc
    rcases List.mem_map.mp hc with ⟨w, hw, rfl⟩
    rcases hv with h | h
    · simp [Cand.accepted, Cand.ofWs, hact w hw, h]
    · simp [Cand.accepted, Cand.ofWs, hact w hw, h w hw]
  have hrej : ∀ c ∈ cands.map (Cand.ofWs valid), c.rejected v = false := by
    intro c hc
    have := hacc c hc
    revert this
    cases hm : c.markable <;> cases hvv : c.valid <;> cases v <;> simp [Cand.accepted, Cand.rejected, hm, hvv]
  rw [List.filter_eq_self.mpr hacc, List.filter_eq_nil_iff.mpr (by intro c hc; simp [hrej c hc])]
  simp [List.flatMap_map, List.map_map, Cand.ofWs, Function.comp_def]

example : (∀ w ∈ ([{ id := 1, snap := [], ops := [.put 2 2], state := .active, dir := 2 }] : List Ws), w.state = .active) := by decide +kernel

/-- VARIANT WITNESS (operations appended before the validator is consulted): the rejected candidate 1 is still
    marked `Failed` and is not among the merged workspaces, yet its put of key 2 is in the block's operation list
    and in the store, and its delete removed the committer's own write of key 1; the loop as it is leaves key 2
    absent and key 1 written. -/
theorem merge_append_before_validation_witness :
    wRejected.rejected true = true ∧
    (mergeLoopAppendBeforeValidation true wOwn 1 [wRejected]).failed = [1] ∧
    (mergeLoopAppendBeforeValidation true wOwn 1 [wRejected]).merged = [] ∧
    Tx.put 2 2 ∈ (mergeLoopAppendBeforeValidation true wOwn 1 [wRejected]).ops ∧
    dataAt (applyTxs [] (mergeLoopAppendBeforeValidation true wOwn 1 [wRejected]).ops) 2 = some 2 ∧
    dataAt (applyTxs [] (mergeLoopAppendBeforeValidation true wOwn 1 [wRejected]).ops) 1 = none ∧
    dataAt (applyTxs [] (mergeLoop true wOwn 1 [wRejected]).ops) 2 = none ∧
    dataAt (applyTxs [] (mergeLoop true wOwn 1 [wRejected]).ops) 1 = some 1 := by decide +kernel

end Neumann.Chain.Props
