import NeumannModel.Chain.Basic
namespace Neumann.Chain

/-- the genesis block is present and its `tx_root` matches its transactions; every block `1..=height`
    is present and passes `checkLink` against its stored predecessor -/
def ChainOK (C : Crypto) (reg : Option (List (List Nat × Nat))) (c : ChainSt) : Prop :=
  (∃ g, blockAt c.store 0 = some g ∧ g.header.txRoot = txRoot C g.txs) ∧
  ∀ i, 1 ≤ i → i ≤ c.height →
    ∃ p b, blockAt c.store (i - 1) = some p ∧ blockAt c.store i = some b ∧ checkLink C reg p b = none

theorem verifyFrom_sound (C : Crypto) (reg : Option (List (List Nat × Nat))) (s : List (SKey × SVal)) :
    ∀ (n : Nat) (prev : Block) (h : Nat), 1 ≤ h → blockAt s (h - 1) = some prev → verifyFrom C reg s prev h n = none →
      ∀ i, h ≤ i → i < h + n →
        ∃ p b, blockAt s (i - 1) = some p ∧ blockAt s i = some b ∧ checkLink C reg p b = none := by
  intro n
  induction n with
  | zero => intro prev h _ _ _ i h1 h2; omega
  | succ n ih =>
    intro prev h hh hprev hv i h1 h2
    simp only [verifyFrom] at hv
    cases hb : blockAt s h with
    | none => simp [hb] at hv
    | some b =>
      simp only [hb] at hv
      cases hc : checkLink C reg prev b with
      | some e => simp [hc] at hv
      | none =>
        simp only [hc] at hv
        by_cases hi : i = h
        · subst hi
          exact ⟨prev, b, hprev, hb, hc⟩
        · exact ih b (h + 1) (by omega) (by simpa using hb) hv i (by omega) (by omega)

theorem verifyFrom_complete (C : Crypto) (reg : Option (List (List Nat × Nat))) (s : List (SKey × SVal)) :
    ∀ (n : Nat) (prev : Block) (h : Nat), 1 ≤ h → blockAt s (h - 1) = some prev →
      (∀ i, h ≤ i → i < h + n →
        ∃ p b, blockAt s (i - 1) = some p ∧ blockAt s i = some b ∧ checkLink C reg p b = none) →
      verifyFrom C reg s prev h n = none := by
  intro n
  induction n with
  | zero => intro prev h _ _ _; rfl
  | succ n ih =>
    intro prev h hh hprev hall
    obtain ⟨p, b, hp, hb, hc⟩ := hall h (by omega) (by omega)
    rw [hprev] at hp
    cases hp
    simp only [verifyFrom, hb, hc]
    exact ih b (h + 1) (by omega) (by simpa using hb) (fun i h1 h2 => hall i (by omega) (by omega))

theorem verify_sound (C : Crypto) (reg : Option (List (List Nat × Nat))) (c : ChainSt)
    (hv : verifyChain C reg c = none) (hh : 1 ≤ c.height) : ChainOK C reg c := by
  unfold verifyChain at hv
  rw [if_neg (by omega)] at hv
  cases hg : blockAt c.store 0 with
  | none => simp [hg] at hv
  | some g =>
    simp only [hg] at hv
    by_cases hroot : g.header.txRoot = txRoot C g.txs
    · rw [if_neg (not_not_intro hroot)] at hv
      exact ⟨⟨g, hg, hroot⟩, fun i h1 h2 =>
        verifyFrom_sound C reg c.store c.height g 1 (Nat.le_refl _) hg hv i h1 (by omega)⟩
    · rw [if_pos hroot] at hv; cases hv

theorem verify_complete (C : Crypto) (reg : Option (List (List Nat × Nat))) (c : ChainSt)
    (hok : ChainOK C reg c) : verifyChain C reg c = none := by
  unfold verifyChain
  by_cases h0 : c.height = 0
  · rw [if_pos h0]
  · obtain ⟨⟨g, hg, hroot⟩, hall⟩ := hok
    simp only [h0, if_false, hg, hroot, ne_eq, not_true_eq_false]
    exact verifyFrom_complete C reg c.store c.height g 1 (Nat.le_refl _) hg (fun i h1 h2 => hall i h1 (by omega))

theorem checkLink_none (C : Crypto) (reg : Option (List (List Nat × Nat))) (p b : Block)
    (h : checkLink C reg p b = none) :
    b.header.height = p.header.height + 1 ∧ b.header.prevHash = p.header.hash C ∧
    b.header.txRoot = txRoot C b.txs ∧ p.header.timestamp ≤ b.header.timestamp ∧ regSigOk C reg b.header = true := by
  unfold checkLink at h
  by_cases h1 : b.header.height = p.header.height + 1
  · rw [if_neg (not_not_intro h1)] at h
    by_cases h2 : b.header.prevHash = p.header.hash C
    · rw [if_neg (not_not_intro h2)] at h
      by_cases h3 : b.header.txRoot = txRoot C b.txs
      · rw [if_neg (not_not_intro h3)] at h
        by_cases h4 : b.header.timestamp < p.header.timestamp
        · rw [if_pos h4] at h; cases h
        · rw [if_neg h4] at h
          by_cases h5 : regSigOk C reg b.header = true
          · exact ⟨h1, h2, h3, Nat.le_of_not_lt h4, h5⟩
          · rw [if_neg h5] at h; cases h
      · rw [if_pos h3] at h; cases h
    · rw [if_pos h2] at h; cases h
  · rw [if_pos h1] at h; cases h

theorem regSigOk_some (C : Crypto) (r : List (List Nat × Nat)) (h : Header) (hs : regSigOk C (some r) h = true) :
    ∃ k, regLookup r h.proposer = some k ∧ C.verify k h.bytes h.signature = true := by
  simp only [regSigOk, sigOk] at hs
  split at hs
  · cases hs
  · split at hs
    · cases hs
    · rename_i k hk
      exact ⟨k, hk, hs⟩

theorem fixTxRoot_height (C : Crypto) (b : Block) : (fixTxRoot C b).header.height = b.header.height := by
  unfold fixTxRoot; split <;> rfl
theorem fixTxRoot_prev (C : Crypto) (b : Block) : (fixTxRoot C b).header.prevHash = b.header.prevHash := by
  unfold fixTxRoot; split <;> rfl
theorem fixTxRoot_ts (C : Crypto) (b : Block) : (fixTxRoot C b).header.timestamp = b.header.timestamp := by
  unfold fixTxRoot; split <;> rfl
theorem fixTxRoot_txs (C : Crypto) (b : Block) : (fixTxRoot C b).txs = b.txs := by
  unfold fixTxRoot; split <;> rfl

theorem fixTxRoot_of_root (C : Crypto) (b : Block) (h : b.header.txRoot = txRoot C b.txs) : fixTxRoot C b = b := by
  unfold fixTxRoot
  split
  · obtain ⟨hd, txs, sigs⟩ := b
    obtain ⟨a1, a2, a3, a4, a5, a6, a7, a8, a9⟩ := hd
    simp only at h
    simp [h]
  · rfl

/-- the checks of `Chain::append` read only the in-memory height and tip, never the store -/
def appendCheck (C : Crypto) (reg : Option (List (List Nat × Nat))) (height : Nat) (tip : List Nat) (b : Block) :
    Except AppendErr Block :=
  if b.header.height ≠ height + 1 then .error .height
  else if b.header.prevHash ≠ tip then .error .prevHash
  else if (fixTxRoot C b).header.txRoot ≠ txRoot C (fixTxRoot C b).txs then .error .txRoot
  else if height + 1 > 1 ∧ (fixTxRoot C b).header.signature = [] then .error .unsigned
  else if height + 1 > 1 ∧ regSigOk C reg (fixTxRoot C b).header = false then .error .badSig
  else .ok (fixTxRoot C b)

theorem append_eq (C : Crypto) (reg : Option (List (List Nat × Nat))) (c : ChainSt) (b : Block) :
    append C reg c b =
      match appendCheck C reg c.height c.tip b with
      | .ok b' => .ok { store := sput (sput c.store (.block (c.height + 1)) (.block b')) .chainMeta (.height (c.height + 1)),
                        height := c.height + 1, tip := b'.header.hash C }
      | .error e => .error e := by
  unfold append appendCheck
  dsimp only
  by_cases h1 : b.header.height ≠ c.height + 1
  · rw [if_pos h1, if_pos h1]
  rw [if_neg h1, if_neg h1]
  by_cases h2 : b.header.prevHash ≠ c.tip
  · rw [if_pos h2, if_pos h2]
  rw [if_neg h2, if_neg h2]
  by_cases h3 : (fixTxRoot C b).header.txRoot ≠ txRoot C (fixTxRoot C b).txs
  · rw [if_pos h3, if_pos h3]
  rw [if_neg h3, if_neg h3]
  by_cases h4 : c.height + 1 > 1 ∧ (fixTxRoot C b).header.signature = []
  · rw [if_pos h4, if_pos h4]
  rw [if_neg h4, if_neg h4]
  by_cases h5 : c.height + 1 > 1 ∧ regSigOk C reg (fixTxRoot C b).header = false
  · rw [if_pos h5, if_pos h5]
  rw [if_neg h5, if_neg h5]

theorem append_ok_inv (C : Crypto) (reg : Option (List (List Nat × Nat))) (c c' : ChainSt) (b : Block)
    (h : append C reg c b = .ok c') :
    let b' := fixTxRoot C b
    b.header.height = c.height + 1 ∧ b.header.prevHash = c.tip ∧ b'.header.txRoot = txRoot C b'.txs ∧
    (c.height + 1 > 1 → b'.header.signature ≠ [] ∧ regSigOk C reg b'.header = true) ∧
    c' = { store := sput (sput c.store (.block (c.height + 1)) (.block b')) .chainMeta (.height (c.height + 1)),
           height := c.height + 1, tip := b'.header.hash C } := by
  rw [append_eq] at h
  unfold appendCheck at h
  by_cases h1 : b.header.height = c.height + 1
  · rw [if_neg (not_not_intro h1)] at h
    by_cases h2 : b.header.prevHash = c.tip
    · rw [if_neg (not_not_intro h2)] at h
      by_cases h3 : (fixTxRoot C b).header.txRoot = txRoot C (fixTxRoot C b).txs
      · rw [if_neg (not_not_intro h3)] at h
        by_cases h4 : c.height + 1 > 1 ∧ (fixTxRoot C b).header.signature = []
        · rw [if_pos h4] at h; cases h
        · rw [if_neg h4] at h
          by_cases h5 : c.height + 1 > 1 ∧ regSigOk C reg (fixTxRoot C b).header = false
          · rw [if_pos h5] at h; cases h
          · rw [if_neg h5] at h
            cases h
            refine ⟨h1, h2, h3, fun hgt => ⟨fun he => h4 ⟨hgt, he⟩, ?_⟩, rfl⟩
            cases hr : regSigOk C reg (fixTxRoot C b).header with
            | true => rfl
            | false => exact absurd ⟨hgt, hr⟩ h5
      · rw [if_pos h3] at h; cases h
    · rw [if_pos h2] at h; cases h
  · rw [if_pos h1] at h; cases h

/-- what every chain built through `initialize` / `append` satisfies -/
structure Inv (C : Crypto) (reg : Option (List (List Nat × Nat))) (c : ChainSt) : Prop where
  ok : ChainOK C reg c
  heights : ∀ i, i ≤ c.height → ∃ b, blockAt c.store i = some b ∧ b.header.height = i
  tip : ∃ t, blockAt c.store c.height = some t ∧ c.tip = t.header.hash C

theorem inv_init (C : Crypto) (reg : Option (List (List Nat × Nat))) (s : List (SKey × SVal)) (p : List Nat) (ts : Nat) :
    Inv C reg (initChain C s p ts) := by
  have hb : blockAt (initChain C s p ts).store 0 = some (genesisBlock C p ts) := blockAt_appended_new ..
  refine ⟨⟨⟨_, hb, rfl⟩, fun i h1 h2 => ?_⟩, fun i hi => ?_, ⟨_, hb, rfl⟩⟩
  · exact absurd h2 (by show ¬ i ≤ 0; omega)
  · obtain rfl : i = 0 := Nat.le_zero.mp hi
    exact ⟨_, hb, rfl⟩

theorem inv_store_congr (C : Crypto) (reg : Option (List (List Nat × Nat))) (c : ChainSt) (s' : List (SKey × SVal))
    (h : ∀ j, blockAt s' j = blockAt c.store j) (hinv : Inv C reg c) : Inv C reg { c with store := s' } := by
  obtain ⟨⟨⟨g, hg, hr⟩, hall⟩, hh, t, ht, htip⟩ := hinv
  refine ⟨⟨⟨g, (h 0).trans hg, hr⟩, fun i h1 h2 => ?_⟩, fun i hi => ?_, ⟨t, (h _).trans ht, htip⟩⟩
  · obtain ⟨p, b, hp, hb, hc⟩ := hall i h1 h2
    exact ⟨p, b, (h _).trans hp, (h _).trans hb, hc⟩
  · obtain ⟨b, hb, hbh⟩ := hh i hi
    exact ⟨b, (h _).trans hb, hbh⟩

theorem inv_congr (C : Crypto) (reg : Option (List (List Nat × Nat))) (c c' : ChainSt)
    (hs : ∀ j, blockAt c'.store j = blockAt c.store j) (hh : c'.height = c.height) (ht : c'.tip = c.tip)
    (hinv : Inv C reg c) : Inv C reg c' := by
  have := inv_store_congr C reg c c'.store hs hinv
  obtain ⟨s', h', t'⟩ := c'
  simp only at hh ht
  subst hh ht
  exact this

/-- `append` keeps the invariant, given the two facts `verify_chain` checks but `append` does not:
    the timestamp does not go back, and (when a registry is set) the block at height 1 carries a
    valid signature too -/
theorem inv_append (C : Crypto) (reg : Option (List (List Nat × Nat))) (c c' : ChainSt) (b : Block)
    (hinv : Inv C reg c) (h : append C reg c b = .ok c')
    (hts : ∀ t, blockAt c.store c.height = some t → t.header.timestamp ≤ b.header.timestamp)
    (hsig1 : c.height = 0 → regSigOk C reg (fixTxRoot C b).header = true) :
    Inv C reg c' := by
  obtain ⟨hh, hp, htx, hsig, rfl⟩ := append_ok_inv C reg c c' b h
  obtain ⟨t, htip, htiph⟩ := hinv.tip
  obtain ⟨t', ht', hth⟩ := hinv.heights c.height (Nat.le_refl _)
  rw [htip] at ht'; cases ht'
  have hnew := blockAt_appended_new c.store (c.height + 1) (fixTxRoot C b) (.height (c.height + 1))
  have hold : ∀ j, j ≤ c.height → blockAt (sput (sput c.store (.block (c.height + 1)) (.block (fixTxRoot C b))) .chainMeta
      (.height (c.height + 1))) j = blockAt c.store j :=
    fun j hj => blockAt_appended_old _ _ _ _ j (by omega)
  have hlink : checkLink C reg t (fixTxRoot C b) = none := by
    have hs : regSigOk C reg (fixTxRoot C b).header = true := by
      by_cases h0 : c.height = 0
      · exact hsig1 h0
      · exact (hsig (by omega)).2
    unfold checkLink
    simp only [fixTxRoot_height, fixTxRoot_prev, fixTxRoot_ts, hh, hth, hp, htiph, Header.hash, htx, hs]
    simp [Nat.not_lt.mpr (hts t htip)]
  refine ⟨⟨?_, fun i h1 h2 => ?_⟩, fun i hi => ?_, ⟨_, hnew, rfl⟩⟩
  · obtain ⟨g, hg, hroot⟩ := hinv.ok.1
    exact ⟨g, (hold 0 (Nat.zero_le _)).trans hg, hroot⟩
  · by_cases hi : i = c.height + 1
    · subst hi
      exact ⟨t, fixTxRoot C b, (hold _ (Nat.le_refl _)).trans htip, hnew, hlink⟩
    · have h2' : i ≤ c.height := Nat.le_of_lt_succ (Nat.lt_of_le_of_ne h2 hi)
      obtain ⟨p, b2, hp2, hb2, hc2⟩ := hinv.ok.2 i h1 h2'
      exact ⟨p, b2, (hold _ (by omega)).trans hp2, (hold _ h2').trans hb2, hc2⟩
  · by_cases hi' : i = c.height + 1
    · subst hi'
      exact ⟨_, hnew, (fixTxRoot_height C b).trans hh⟩
    · have hi2 : i ≤ c.height := Nat.le_of_lt_succ (Nat.lt_of_le_of_ne hi hi')
      obtain ⟨b2, hb2, hh2⟩ := hinv.heights i hi2
      exact ⟨b2, (hold _ hi2).trans hb2, hh2⟩

/-- what the validators signed: the `(key, signing bytes, signature)` of the stored blocks `1..=n` -/
def signedOf (reg : List (List Nat × Nat)) (s : List (SKey × SVal)) : Nat → List (Nat × List Nat × List Nat)
  | 0 => []
  | n + 1 =>
    (match blockAt s (n + 1) with
      | some b =>
        match regLookup reg b.header.proposer with
        | some k => [(k, b.header.bytes, b.header.signature)]
        | none => []
      | none => []) ++ signedOf reg s n

theorem mem_signedOf (reg : List (List Nat × Nat)) (s : List (SKey × SVal)) (n : Nat) (t : Nat × List Nat × List Nat)
    (h : t ∈ signedOf reg s n) :
    ∃ j b, 1 ≤ j ∧ j ≤ n ∧ blockAt s j = some b ∧ t.2.1 = b.header.bytes ∧ t.2.2 = b.header.signature := by
  induction n with
  | zero => simp [signedOf] at h
  | succ n ih =>
    simp only [signedOf, List.mem_append] at h
    rcases h with h | h
    · cases hb : blockAt s (n + 1) with
      | none => simp [hb] at h
      | some b =>
        simp only [hb] at h
        cases hk : regLookup reg b.header.proposer with
        | none => simp [hk] at h
        | some k =>
          simp only [hk, List.mem_singleton] at h
          subst h
          exact ⟨n + 1, b, by omega, by omega, hb, rfl, rfl⟩
    · obtain ⟨j, b, h1, h2, h3⟩ := ih h
      exact ⟨j, b, h1, by omega, h3⟩

theorem checkLinkR_txRoot (C : Crypto) (reg : Option (List (List Nat × Nat))) (prev b : Block) :
    checkLinkR C (txRoot C) reg prev b = checkLink C reg prev b := rfl

theorem verifyFromR_txRoot (C : Crypto) (reg : Option (List (List Nat × Nat))) (s : List (SKey × SVal)) :
    ∀ (n : Nat) (prev : Block) (h : Nat), verifyFromR C (txRoot C) reg s prev h n = verifyFrom C reg s prev h n := by
  intro n
  induction n with
  | zero => intro prev h; rfl
  | succ n ih =>
    intro prev h
    rw [verifyFromR, verifyFrom]
    cases blockAt s h with
    | none => rfl
    | some b =>
      simp only [checkLinkR_txRoot]
      cases checkLink C reg prev b with
      | none => exact ih b (h + 1)
      | some e => rfl

theorem verifyChainR_txRoot (C : Crypto) (reg : Option (List (List Nat × Nat))) (c : ChainSt) :
    verifyChainR C (txRoot C) reg c = verifyChain C reg c := by
  unfold verifyChainR verifyChain
  split
  · rfl
  · cases blockAt c.store 0 with
    | none => rfl
    | some g =>
      simp only
      split
      · rfl
      · exact verifyFromR_txRoot C reg c.store c.height g 1

end Neumann.Chain
