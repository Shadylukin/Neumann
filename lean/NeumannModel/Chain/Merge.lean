import NeumannModel.Chain.Model
namespace Neumann.Chain

theorem mergeFold_char (v : Bool) (cs : List Cand) : ∀ a : MergeAcc,
    cs.foldl (mergeStep v) a =
      { ops := a.ops ++ (cs.filter (Cand.accepted v)).flatMap (·.ops),
        dirs := a.dirs ++ (cs.filter (Cand.accepted v)).map (·.dir),
        merged := a.merged ++ (cs.filter (Cand.accepted v)).map (·.id),
        failed := a.failed ++ (cs.filter (Cand.rejected v)).map (·.id) } := by
  induction cs with
  | nil => intro a; simp
  | cons c cs ih =>
    intro a
    rw [List.foldl_cons, ih]
    cases hm : c.markable <;> cases hv : c.valid <;> cases v <;>
      simp [mergeStep, Cand.accepted, Cand.rejected, hm, hv, List.append_assoc]

theorem accepted_not_rejected (v : Bool) (c : Cand) :
    (c.accepted v && !(c.rejected v)) = c.accepted v := by
  cases hm : c.markable <;> cases hv : c.valid <;> cases v <;> simp [Cand.accepted, Cand.rejected, hm, hv]

theorem rejected_of_not_rejected (v : Bool) (c : Cand) :
    (c.rejected v && !(c.rejected v)) = false := by
  cases c.rejected v <;> rfl

end Neumann.Chain
