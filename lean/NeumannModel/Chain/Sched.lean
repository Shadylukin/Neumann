import NeumannModel.Chain.Commit
namespace Neumann.Chain

def Local.isOk (l : Local) : Bool :=
  match l.res with
  | some (.ok _) => true
  | _ => false

def okCount (ls : List Local) : Nat := (ls.filter Local.isOk).length

def Local.okH (l : Local) : Option Nat :=
  match l.res with
  | some (.ok h) => some h
  | _ => none

/-- the heights reported by the calls that returned `Ok` -/
def okHeights (ls : List Local) : List Nat := ls.filterMap Local.okH

theorem isOk_eq (l : Local) : l.isOk = l.okH.isSome := by
  unfold Local.isOk Local.okH
  split <;> simp_all

theorem okH_of_not_ok (l : Local) (h : l.isOk = false) : l.okH = none := by
  rw [isOk_eq] at h
  cases hk : l.okH <;> simp_all

theorem okCount_eq (ls : List Local) : okCount ls = (okHeights ls).length := by
  induction ls with
  | nil => rfl
  | cons l ls ih =>
    simp only [okCount, okHeights, List.filter_cons, List.filterMap_cons, isOk_eq] at ih ⊢
    cases l.okH <;> simp [ih]

theorem setNth_eq_set {α : Type} : ∀ (ls : List α) (i : Nat) (a : α), setNth ls i a = ls.set i a
  | [], _, _ => rfl
  | _ :: _, 0, _ => rfl
  | x :: r, i + 1, a => congrArg (x :: ·) (setNth_eq_set r i a)

theorem setNth_self {α : Type} (ls : List α) (i : Nat) (a : α) (h : ls[i]? = some a) : setNth ls i a = ls := by
  obtain ⟨hi, rfl⟩ := List.getElem?_eq_some_iff.mp h
  rw [setNth_eq_set, List.set_getElem_self hi]

theorem mem_setNth {α : Type} (ls : List α) (i : Nat) (a x : α) (h : x ∈ setNth ls i a) : x ∈ ls ∨ x = a :=
  List.mem_or_eq_of_mem_set (setNth_eq_set ls i a ▸ h)

theorem mem_setNth_keep {α : Type} (ls : List α) (i : Nat) (a x : α) (h : x ∈ ls) :
    x ∈ setNth ls i a ∨ ls[i]? = some x := by
  obtain ⟨j, hj⟩ := List.mem_iff_getElem?.mp h
  by_cases hij : i = j
  · exact Or.inr (hij ▸ hj)
  · exact Or.inl (List.mem_iff_getElem?.mpr ⟨j, by rw [setNth_eq_set, List.getElem?_set, if_neg hij, hj]⟩)

theorem mem_setNth_self {α : Type} (ls : List α) (i : Nat) (a x : α) (h : ls[i]? = some x) : a ∈ setNth ls i a :=
  setNth_eq_set ls i a ▸ List.mem_set (List.getElem?_eq_some_iff.mp h).1 a

theorem okHeights_setNth_same : ∀ (ls : List Local) (i : Nat) (l l' : Local), ls[i]? = some l →
    l.isOk = false → l'.isOk = false → okHeights (setNth ls i l') = okHeights ls
  | [], _, _, _, _, _, _ => rfl
  | x :: r, 0, l, l', h, h1, h2 => by
    simp at h; subst h
    simp [setNth, okHeights, okH_of_not_ok _ h1, okH_of_not_ok _ h2]
  | x :: r, i + 1, l, l', h, h1, h2 => by
    have := okHeights_setNth_same r i l l' (by simpa using h) h1 h2
    simp only [okHeights, setNth, List.filterMap_cons] at this ⊢
    rw [this]

theorem okHeights_setNth_new : ∀ (ls : List Local) (i : Nat) (l l' : Local) (hh : Nat), ls[i]? = some l →
    l.isOk = false → l'.res = some (.ok hh) → (okHeights (setNth ls i l')).Perm (hh :: okHeights ls)
  | [], _, _, _, _, h, _, _ => by simp at h
  | x :: r, 0, l, l', hh, h, h1, h2 => by
    simp at h; subst h
    simp [setNth, okHeights, okH_of_not_ok _ h1, show l'.okH = some hh by simp [Local.okH, h2]]
  | x :: r, i + 1, l, l', hh, h, h1, h2 => by
    have := okHeights_setNth_new r i l l' hh (by simpa using h) h1 h2
    simp only [okHeights, setNth, List.filterMap_cons] at this ⊢
    cases x.okH with
    | none => exact this
    | some y => exact (List.Perm.cons y this).trans (List.Perm.swap hh y _)

/-- a call that has its `Ok` result has returned -/
def Local.Settled (l : Local) : Prop := l.isOk = true → l.pc = .done

/-- what one step of a call that has not returned may do to the accounting -/
def StepAccount (n : Node) (l : Local) (r : Node × Local) : Prop :=
  r.2.Settled ∧
  (r = (n, l) ∨
   (l.isOk = false ∧ r.2.isOk = false ∧ r.1.chain.height = n.chain.height) ∨
   (l.isOk = false ∧ r.2.res = some (.ok (n.chain.height + 1)) ∧ r.1.chain.height = n.chain.height + 1))

theorem stepAccount_same {n n' : Node} {l l' : Local} (hno : l.isOk = false) (hres : l'.res = l.res)
    (hh : n'.chain.height = n.chain.height) : StepAccount n l (n', l') := by
  have h' : l'.isOk = false := by simp only [Local.isOk, hres]; exact hno
  exact ⟨fun h => (by rw [h'] at h; cases h), Or.inr (Or.inl ⟨hno, h', hh⟩)⟩

theorem stepAccount_fail {n n' : Node} {l l' : Local} (hno : l.isOk = false) (hpc : l'.pc = .done) (h' : l'.isOk = false)
    (hh : n'.chain.height = n.chain.height) : StepAccount n l (n', l') :=
  ⟨fun _ => hpc, Or.inr (Or.inl ⟨hno, h', hh⟩)⟩

/-- (the third case of `StepAccount` is the `append` step: height check, write and height update are one critical
    section) -/
theorem commitStep_account (C : Crypto) (n : Node) (l : Local) (hs : l.Settled) :
    StepAccount n l (commitStep C n l) := by
  by_cases hd : l.pc = .done
  · rw [commitStep_done hd]
    exact ⟨hs, Or.inl rfl⟩
  have hno : l.isOk = false := by
    cases h : l.isOk with
    | false => rfl
    | true => exact absurd (hs h) hd
  cases hpc : l.pc with
  | done => exact absurd hpc hd
  | prepare =>
    generalize hr : commitStep C n l = r
    obtain ⟨n', l'⟩ := r
    obtain ⟨_, hch, _, ⟨hq, _⟩ | ⟨ws, _, _, ⟨res, _, _, hl, hres, _⟩ | ⟨_, hl⟩⟩⟩ := prepare_spec C n l hpc _ hr
    · rw [hq]; exact stepAccount_fail hno rfl rfl rfl
    · cases hl
      exact stepAccount_fail hno rfl (by rcases hres with rfl | rfl | rfl <;> rfl) (congrArg ChainSt.height hch)
    · cases hl
      exact stepAccount_same hno rfl (congrArg ChainSt.height hch)
  | snapshot | apply | root | build => simp only [commitStep, hpc]; exact stepAccount_same hno rfl rfl
  | restore => rw [commitStep_restore hpc]; exact stepAccount_fail hno rfl rfl rfl
  | append =>
    cases hb : l.block with
    | none => rw [commitStep_append_none hpc hb]; exact stepAccount_same hno rfl rfl
    | some b =>
      cases happ : append C n.cfg.registry n.chain b with
      | error e => rw [commitStep_append_err hpc hb happ]; exact stepAccount_same hno rfl rfl
      | ok c' =>
        rw [commitStep_append_ok hpc hb happ]
        have hh : c'.height = n.chain.height + 1 := by rw [(append_ok_inv C _ _ _ _ happ).2.2.2.2]
        exact ⟨fun _ => rfl, Or.inr (Or.inr ⟨hno, by rw [← hh], hh⟩)⟩

theorem runSched_account (C : Crypto) (base : Nat) : ∀ (sched : List Nat) (n : Node) (ls : List Local),
    (∀ l ∈ ls, l.Settled) → (okHeights ls).Nodup →
    (∀ h, h ∈ okHeights ls ↔ base < h ∧ h ≤ n.chain.height) → n.chain.height = base + (okHeights ls).length →
    (okHeights (runSched C sched n ls).2).Nodup ∧
    (∀ h, h ∈ okHeights (runSched C sched n ls).2 ↔ base < h ∧ h ≤ (runSched C sched n ls).1.chain.height) ∧
    (runSched C sched n ls).1.chain.height = base + (okHeights (runSched C sched n ls).2).length := by
  intro sched
  induction sched with
  | nil => intro n ls _ h2 h3 h4; exact ⟨h2, h3, h4⟩
  | cons i sched ih =>
    intro n ls h1 h2 h3 h4
    simp only [runSched]
    cases hl : ls[i]? with
    | none => exact ih n ls h1 h2 h3 h4
    | some l =>
      dsimp only
      obtain ⟨hset, hcase⟩ := commitStep_account C n l (h1 l (List.mem_of_getElem? hl))
      have hset' : ∀ x ∈ setNth ls i (commitStep C n l).2, x.Settled := fun x hx => by
        rcases mem_setNth _ _ _ _ hx with hx | hx
        · exact h1 x hx
        · rw [hx]; exact hset
      rcases hcase with heq | ⟨hno, hno', hh⟩ | ⟨hno, hres, hh⟩
      · rw [heq, setNth_self ls i l hl]
        exact ih n ls h1 h2 h3 h4
      · refine ih _ _ hset' ?_ ?_ ?_
        · rw [okHeights_setNth_same ls i l _ hl hno hno']; exact h2
        · rw [okHeights_setNth_same ls i l _ hl hno hno', hh]; exact h3
        · rw [okHeights_setNth_same ls i l _ hl hno hno', hh]; exact h4
      · -- the call returns `Ok (height + 1)`: a new height, one above all reported so far
        have hperm := okHeights_setNth_new ls i l _ _ hl hno hres
        refine ih _ _ hset' ?_ (fun h => ?_) ?_
        · rw [hperm.nodup_iff, List.nodup_cons]
          exact ⟨fun hin => absurd ((h3 _).mp hin).2 (Nat.not_succ_le_self _), h2⟩
        · rw [hperm.mem_iff, List.mem_cons, h3 h, hh]; omega
        · rw [hperm.length_eq, hh, List.length_cons, h4]; omega

/-- facts about the thread-local variables of one `commit` call that hold at every step of every interleaving:
    its clock reading is `ts`; a block it has built carries that timestamp, a matching transaction root and a
    signature that verifies under the node's registered key; a call whose result is an append failure has returned -/
structure LocalWF (C : Crypto) (cfg : Config) (ts : Nat) (l : Local) : Prop where
  hts : l.ts = ts
  hblock : ∀ b, l.block = some b → b.header.timestamp = ts ∧ b.header.txRoot = txRoot C b.txs ∧
    regSigOk C cfg.registry b.header = true
  hfailed : ∀ e, l.res = some (.appendFailed e) → l.pc = .done

def Local.lateFailed (l : Local) : Prop := ∃ e, l.res = some (.appendFailed e)

/-- the chain is healthy: invariant and the tip is not younger than the calls' clock reading -/
def Healthy (C : Crypto) (cfg : Config) (ts : Nat) (c : ChainSt) : Prop :=
  Inv C cfg.registry c ∧ ∀ t, blockAt c.store c.height = some t → t.header.timestamp ≤ ts

theorem localWF_init (C : Crypto) (cfg : Config) (ts w : Nat) : LocalWF C cfg ts (Local.init w ts) :=
  ⟨rfl, nofun, nofun⟩

theorem commitStep_wf (C : Crypto) (hsc : SignCorrect C) (cfg : Config)
    (hreg : ∀ r, cfg.registry = some r → regLookup r cfg.nodeId = some cfg.key)
    (ts : Nat) (n : Node) (l : Local) (hcfg : n.cfg = cfg) (hw : LocalWF C cfg ts l) :
    LocalWF C cfg ts (commitStep C n l).2 ∧
    (Healthy C cfg ts n.chain → Healthy C cfg ts (commitStep C n l).1.chain ∨ (commitStep C n l).2.lateFailed) := by
  by_cases hd : l.pc = .done
  · rw [commitStep_done hd]; exact ⟨hw, Or.inl⟩
  -- a call that has not returned has no append failure as its result
  have hres : ∀ e, l.res ≠ some (.appendFailed e) := fun e he => hd (hw.hfailed e he)
  cases hpc : l.pc with
  | done => exact absurd hpc hd
  | prepare =>
    generalize hr : commitStep C n l = r
    obtain ⟨_, hch, _, ⟨hq, _⟩ | ⟨ws, _, _, ⟨res, _, _, hl, _⟩ | ⟨_, hl⟩⟩⟩ := prepare_spec C n l hpc r hr
    all_goals refine ⟨?_, fun hh => Or.inl (by rw [hch]; exact hh)⟩
    · rw [hq]; exact ⟨hw.hts, hw.hblock, fun _ _ => rfl⟩
    · rw [hl]; exact ⟨hw.hts, hw.hblock, fun _ _ => rfl⟩
    · rw [hl]; exact ⟨hw.hts, hw.hblock, fun e h => absurd h (hres e)⟩
  | snapshot | root => simp only [commitStep, hpc]; exact ⟨⟨hw.hts, hw.hblock, fun e h => absurd h (hres e)⟩, Or.inl⟩
  | apply =>
    rw [commitStep_apply hpc]
    exact ⟨⟨hw.hts, hw.hblock, fun e h => absurd h (hres e)⟩, fun hh =>
      Or.inl ⟨inv_store_congr C _ n.chain _ (fun j => blockAt_applyTxs _ _ j) hh.1,
        fun t ht => hh.2 t (by rw [← blockAt_applyTxs]; exact ht)⟩⟩
  | build =>
    rw [commitStep_build hpc]
    refine ⟨⟨hw.hts, fun b hb => ?_, fun e h => absurd h (hres e)⟩, Or.inl⟩
    cases hb
    have := builtBlock_sigOk C n l.ops l.dirs l.root l.ts hsc (by rw [hcfg]; exact hreg)
    rw [fixTxRoot_of_root C _ rfl, hcfg] at this
    exact ⟨hw.hts, rfl, this⟩
  | restore => rw [commitStep_restore hpc]; exact ⟨⟨hw.hts, hw.hblock, fun _ _ => rfl⟩, fun _ => Or.inr ⟨_, rfl⟩⟩
  | append =>
    cases hb : l.block with
    | none => rw [commitStep_append_none hpc hb]; exact ⟨⟨hw.hts, hw.hblock, fun _ _ => rfl⟩, Or.inl⟩
    | some b =>
      cases happ : append C n.cfg.registry n.chain b with
      | error e =>
        rw [commitStep_append_err hpc hb happ]
        exact ⟨⟨hw.hts, hw.hblock, fun e' h => absurd h (hres e')⟩, Or.inl⟩
      | ok c' =>
        rw [commitStep_append_ok hpc hb happ]
        refine ⟨⟨hw.hts, hw.hblock, fun _ _ => rfl⟩, fun hh => ?_⟩
        obtain ⟨hbts, hbroot, hbsig⟩ := hw.hblock b hb
        have hfix : fixTxRoot C b = b := fixTxRoot_of_root C b hbroot
        rw [hcfg] at happ
        refine Or.inl ⟨inv_append C cfg.registry n.chain c' b hh.1 happ (fun t ht => by rw [hbts]; exact hh.2 t ht)
          (fun _ => by rw [hfix]; exact hbsig), fun t ht => ?_⟩
        rw [show (finish { n with chain := c' } (l.ws :: l.merged) .committed).chain = c' from rfl,
          (append_ok_inv C _ _ _ _ happ).2.2.2.2, hfix, blockAt_appended_new] at ht
        cases ht
        exact Nat.le_of_eq hbts

theorem runSched_healthy (C : Crypto) (hsc : SignCorrect C) (cfg : Config)
    (hreg : ∀ r, cfg.registry = some r → regLookup r cfg.nodeId = some cfg.key) (ts : Nat) :
    ∀ (sched : List Nat) (n : Node) (ls : List Local), n.cfg = cfg → (∀ l ∈ ls, LocalWF C cfg ts l) →
      (Healthy C cfg ts n.chain ∨ ∃ l ∈ ls, l.lateFailed) →
      (runSched C sched n ls).1.cfg = cfg ∧
      (Healthy C cfg ts (runSched C sched n ls).1.chain ∨ ∃ l ∈ (runSched C sched n ls).2, l.lateFailed) := by
  intro sched
  induction sched with
  | nil => intro n ls h1 _ h3; exact ⟨h1, h3⟩
  | cons i sched ih =>
    intro n ls h1 h2 h3
    simp only [runSched]
    cases hl : ls[i]? with
    | none => exact ih n ls h1 h2 h3
    | some l =>
      have hmem : l ∈ ls := List.mem_of_getElem? hl
      have hwl : LocalWF C cfg ts l := h2 l hmem
      obtain ⟨hw', hh'⟩ := commitStep_wf C hsc cfg hreg ts n l h1 hwl
      refine ih _ _ ((commitStep_cfg C n l).trans h1) (fun x hx => ?_) ?_
      · rcases mem_setNth _ _ _ _ hx with hx | hx
        · exact h2 x hx
        · rw [hx]; exact hw'
      rcases h3 with hh | ⟨l0, hl0, hf0⟩
      · exact (hh' hh).imp_right fun hf' => ⟨_, mem_setNth_self ls i _ l hl, hf'⟩
      · -- some call has already failed late: it has returned, so it stays in the list unchanged
        refine Or.inr ?_
        rcases mem_setNth_keep ls i (commitStep C n l).2 l0 hl0 with hk | hk
        · exact ⟨l0, hk, hf0⟩
        · -- the failed call is the one scheduled: it has returned, the step changes nothing
          rw [hl] at hk
          cases hk
          obtain ⟨e, he⟩ := hf0
          rw [commitStep_done (hwl.hfailed e he)]
          exact ⟨l, by rw [setNth_self ls i l hl]; exact hmem, ⟨e, he⟩⟩

end Neumann.Chain
