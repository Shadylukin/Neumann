import NeumannModel.Chain.Verify
namespace Neumann.Chain

/-- the block `commit` builds from the state it reads at the `build` step -/
def builtBlock (C : Crypto) (n : Node) (ops : List Tx) (dirs : List Nat) (root : List Nat) (ts : Nat) : Block :=
  let h0 : Header :=
    { height := n.chain.height + 1, prevHash := n.chain.tip, txRoot := txRoot C ops, stateRoot := root,
      embedding := embBytes dirs, codes := [], timestamp := ts, proposer := n.cfg.nodeId, signature := [] }
  { header := { h0 with signature := C.sign n.cfg.key h0.bytes }, txs := ops, sigs := [] }

theorem builtBlock_sigOk (C : Crypto) (n : Node) (ops : List Tx) (dirs : List Nat) (root : List Nat) (ts : Nat)
    (hsc : SignCorrect C) (hreg : ∀ r, n.cfg.registry = some r → regLookup r n.cfg.nodeId = some n.cfg.key) :
    regSigOk C n.cfg.registry (fixTxRoot C (builtBlock C n ops dirs root ts)).header = true := by
  rw [fixTxRoot_of_root C _ rfl]
  cases hr : n.cfg.registry with
  | none => rfl
  | some r =>
    obtain ⟨h1, h2⟩ := hsc n.cfg.key
      ({ height := n.chain.height + 1, prevHash := n.chain.tip, txRoot := txRoot C ops, stateRoot := root,
         embedding := embBytes dirs, codes := [], timestamp := ts, proposer := n.cfg.nodeId, signature := [] } : Header).bytes
    simp only [regSigOk, sigOk, builtBlock, hreg r hr, h1, if_false]
    exact h2

theorem finish_chain (n : Node) (ids : List Nat) (st : WsState) : (finish n ids st).chain = n.chain := rfl

section Step
variable {C : Crypto} {n : Node} {l : Local}

theorem commitStep_snapshot (h : l.pc = .snapshot) :
    commitStep C n l = (n, { l with pc := .apply, snap := n.chain.store }) := by
  simp only [commitStep, h]

theorem commitStep_apply (h : l.pc = .apply) :
    commitStep C n l =
      ({ n with chain := { n.chain with store := applyTxs n.chain.store l.ops } }, { l with pc := .root }) := by
  simp only [commitStep, h]

theorem commitStep_root (h : l.pc = .root) :
    commitStep C n l = (n, { l with pc := .build, root := stateRoot C n.chain.store }) := by
  simp only [commitStep, h]

theorem commitStep_build (h : l.pc = .build) :
    commitStep C n l = (n, { l with pc := .append, block := some (builtBlock C n l.ops l.dirs l.root l.ts) }) := by
  simp only [commitStep, h, builtBlock]

theorem commitStep_append_none (h : l.pc = .append) (hb : l.block = none) :
    commitStep C n l = (n, { l with pc := .done }) := by
  simp only [commitStep, h, hb]

theorem commitStep_append_ok {b : Block} {c' : ChainSt} (h : l.pc = .append)
    (hb : l.block = some b) (happ : append C n.cfg.registry n.chain b = .ok c') :
    commitStep C n l = (finish { n with chain := c' } (l.ws :: l.merged) .committed,
                        { l with pc := .done, res := some (.ok c'.height) }) := by
  simp only [commitStep, h, hb, happ]

theorem commitStep_append_err {b : Block} {e : AppendErr} (h : l.pc = .append)
    (hb : l.block = some b) (happ : append C n.cfg.registry n.chain b = .error e) :
    commitStep C n l = (n, { l with pc := .restore, err := some e }) := by
  simp only [commitStep, h, hb, happ]

theorem commitStep_restore (h : l.pc = .restore) :
    commitStep C n l =
      (finish { n with chain := { n.chain with store := l.snap } } (l.ws :: l.merged) .failed,
       { l with pc := .done, res := some (.appendFailed (l.err.getD .height)) }) := by
  simp only [commitStep, h]

theorem commitStep_done (h : l.pc = .done) : commitStep C n l = (n, l) := by
  simp only [commitStep, h]

end Step

theorem commitRun_succ {C : Crypto} {f : Nat} {n : Node} {l : Local} (h : l.pc ≠ .done) :
    commitRun C (f + 1) n l = commitRun C f (commitStep C n l).1 (commitStep C n l).2 := by
  rw [commitRun, if_neg h]

theorem commitRun_done {C : Crypto} {f : Nat} {n : Node} {l : Local} (h : l.pc = .done) : commitRun C f n l = (n, l) := by
  cases f with
  | zero => rfl
  | succ f => rw [commitRun, if_pos h]

/-- (a call that has returned stays put, so runs compose) -/
theorem commitRun_add (C : Crypto) (b : Nat) : ∀ (a : Nat) (n : Node) (l : Local),
    commitRun C (b + a) n l = commitRun C b (commitRun C a n l).1 (commitRun C a n l).2
  | 0, _, _ => rfl
  | a + 1, n, l => by
    by_cases h : l.pc = .done
    · rw [commitRun_done h, commitRun_done h, commitRun_done h]
    · rw [← Nat.add_assoc, commitRun_succ h, commitRun_succ h, commitRun_add C b a]

theorem commit_split (C : Crypto) (n : Node) (w ts : Nat) :
    commit C n w ts = commitRun C 7 (commitStep C n (Local.init w ts)).1 (commitStep C n (Local.init w ts)).2 :=
  commitRun_succ (l := Local.init w ts) nofun

/-- `Chain::append` of the block the call builds, over the store with the call's operations applied -/
def commitAppend (C : Crypto) (n : Node) (l : Local) : Except AppendErr ChainSt :=
  append C n.cfg.registry { n.chain with store := applyTxs n.chain.store l.ops }
    (builtBlock C n l.ops l.dirs (stateRoot C (applyTxs n.chain.store l.ops)) l.ts)

/-- the call when it reaches the append step: snapshot taken, operations applied, state root computed, block built -/
def Local.atAppend (C : Crypto) (n : Node) (l : Local) : Local :=
  { l with pc := .append, snap := n.chain.store, root := stateRoot C (applyTxs n.chain.store l.ops),
           block := some (builtBlock C n l.ops l.dirs (stateRoot C (applyTxs n.chain.store l.ops)) l.ts) }

theorem pipeline_to_append {C : Crypto} {n : Node} {l : Local} (hpc : l.pc = .snapshot) :
    commitRun C 4 n l = ({ n with chain := { n.chain with store := applyTxs n.chain.store l.ops } }, l.atAppend C n) := by
  rw [commitRun_succ (by rw [hpc]; nofun), commitStep_snapshot hpc,
    commitRun_succ (by nofun), commitStep_apply rfl,
    commitRun_succ (by nofun), commitStep_root rfl,
    commitRun_succ (by nofun), commitStep_build rfl]
  rfl

theorem pipeline_ok {C : Crypto} {n : Node} {l : Local} (hpc : l.pc = .snapshot) {c' : ChainSt}
    (happ : commitAppend C n l = .ok c') :
    commitRun C 7 n l =
      (finish { n with chain := c' } (l.ws :: l.merged) .committed,
       { l.atAppend C n with pc := .done, res := some (.ok c'.height) }) := by
  rw [show 7 = 2 + 1 + 4 from rfl, commitRun_add, pipeline_to_append hpc, commitRun_succ (by nofun),
    commitStep_append_ok (n := { n with chain := _ }) (l := l.atAppend C n) rfl rfl happ, commitRun_done rfl]
  rfl

theorem pipeline_err_restore {C : Crypto} {n : Node} {l : Local} (hpc : l.pc = .snapshot) {e : AppendErr}
    (happ : commitAppend C n l = .error e) :
    commitRun C 5 n l =
      ({ n with chain := { n.chain with store := applyTxs n.chain.store l.ops } },
       { l.atAppend C n with pc := .restore, err := some e }) := by
  rw [show 5 = 0 + 1 + 4 from rfl, commitRun_add, pipeline_to_append hpc, commitRun_succ (by nofun),
    commitStep_append_err (n := { n with chain := _ }) (l := l.atAppend C n) rfl rfl happ]
  rfl

theorem pipeline_err {C : Crypto} {n : Node} {l : Local} (hpc : l.pc = .snapshot) {e : AppendErr}
    (happ : commitAppend C n l = .error e) :
    commitRun C 7 n l =
      (finish n (l.ws :: l.merged) .failed,
       { l.atAppend C n with pc := .done, err := some e, res := some (.appendFailed e) }) := by
  rw [show 7 = 1 + 1 + 5 from rfl, commitRun_add, pipeline_err_restore hpc happ, commitRun_succ (by nofun),
    commitStep_restore rfl, commitRun_done rfl]
  rfl

theorem pipeline (C : Crypto) (n : Node) (l : Local) (hpc : l.pc = .snapshot) :
    let r := commitRun C 7 n l
    (∃ c', append C n.cfg.registry { n.chain with store := applyTxs n.chain.store l.ops }
              (builtBlock C n l.ops l.dirs (stateRoot C (applyTxs n.chain.store l.ops)) l.ts) = .ok c' ∧
            r.1.chain = c' ∧ r.2.res = some (.ok c'.height) ∧ r.2.ops = l.ops)
    ∨ (r.1.chain = n.chain ∧ ∀ h, r.2.res ≠ some (.ok h)) := by
  intro r
  cases happ : commitAppend C n l with
  | ok c' => exact Or.inl ⟨c', happ, by rw [show r = _ from pipeline_ok hpc happ]; exact ⟨rfl, rfl, rfl⟩⟩
  | error e => exact Or.inr (by rw [show r = _ from pipeline_err hpc happ]; exact ⟨rfl, nofun⟩)

theorem findWs_id (wss : List Ws) (w : Nat) (ws : Ws) (h : findWs wss w = some ws) : ws.id = w := by
  have := List.find?_some h
  simpa using this

theorem findWs_map (wss : List Ws) (g : Ws → Ws) (hid : ∀ x, (g x).id = x.id) (id : Nat) :
    findWs (wss.map g) id = (findWs wss id).map g := by
  unfold findWs
  induction wss with
  | nil => rfl
  | cons x r ih =>
    simp only [List.map_cons, List.find?_cons, hid]
    cases decide (x.id = id) with
    | true => rfl
    | false => exact ih

theorem setStates_eq_map (wss : List Ws) (ids : List Nat) (st : WsState) :
    setStates wss ids st = wss.map fun x => if ids.contains x.id then { x with state := st } else x := rfl

theorem findWs_setStates (wss : List Ws) (ids : List Nat) (st : WsState) (w : Nat) :
    findWs (setStates wss ids st) w =
      (findWs wss w).map fun x => if ids.contains x.id then { x with state := st } else x :=
  findWs_map wss _ (fun x => by split <;> rfl) w

theorem setStates_nil (wss : List Ws) (st : WsState) : setStates wss [] st = wss := by
  simp [setStates]

/-- the first step (early checks, marking, merge candidates), for any call at `prepare`; `ids'`: the candidates the
    step marked before an early check ended the call (none, or all) -/
theorem prepare_spec (C : Crypto) (n : Node) (l : Local) (hpc : l.pc = .prepare) (r : Node × Local)
    (hr : commitStep C n l = r) :
    r.1.cfg = n.cfg ∧ r.1.chain = n.chain ∧ r.1.nextId = n.nextId ∧
    ((r = (n, { l with pc := .done, res := some .notActive }) ∧ ∀ ws, findWs n.wss l.ws = some ws → ws.state ≠ .active) ∨
     ∃ ws, findWs n.wss l.ws = some ws ∧ ws.state = .active ∧
       let n1 : Node := { n with wss := setStates n.wss [ws.id] .committing }
       let cands := mergeCandidates n1 ws
       let ids := cands.map (·.id)
       ((∃ res ids' st, r.2 = { l with pc := .done, res := some res } ∧ (res = .emptyOk ∨ res = .tooMany ∨ res = .conflict) ∧
           (ids' = [] ∨ ids' = ids) ∧ r.1.wss = setStates (setStates n1.wss ids' .committing) (ws.id :: ids') st) ∨
        (r.1.wss = setStates n1.wss ids .committing ∧
         r.2 = { l with pc := .snapshot, ops := ws.ops ++ cands.flatMap (·.ops), merged := ids,
                        dirs := ws.dir :: cands.map (·.dir) }))) := by
  subst hr
  simp only [commitStep, hpc]
  cases hws : findWs n.wss l.ws with
  | none => exact ⟨rfl, rfl, rfl, Or.inl ⟨rfl, nofun⟩⟩
  | some ws =>
    dsimp only
    by_cases hact : ws.state = .active
    · rw [if_neg (not_not_intro hact)]
      have early : ∀ st, setStates (setStates n.wss [ws.id] .committing) [ws.id] st =
          setStates (setStates (setStates n.wss [ws.id] .committing) [] .committing) [ws.id] st := fun st => by
        rw [setStates_nil]
      by_cases h2 : ws.ops = []
      · rw [if_pos h2]
        exact ⟨rfl, rfl, rfl, Or.inr ⟨ws, rfl, hact, Or.inl ⟨_, [], _, rfl, Or.inl rfl, Or.inl rfl, early _⟩⟩⟩
      rw [if_neg h2]
      by_cases h3 : ws.ops.length > n.cfg.maxTxs
      · rw [if_pos h3]
        exact ⟨rfl, rfl, rfl, Or.inr ⟨ws, rfl, hact, Or.inl ⟨_, [], _, rfl, Or.inr (Or.inl rfl), Or.inl rfl, early _⟩⟩⟩
      rw [if_neg h3]
      by_cases h4 : hasConflict { n with wss := setStates n.wss [ws.id] .committing } ws = true
      · rw [if_pos h4]
        exact ⟨rfl, rfl, rfl, Or.inr ⟨ws, rfl, hact, Or.inl ⟨_, [], _, rfl, Or.inr (Or.inr rfl), Or.inl rfl, early _⟩⟩⟩
      rw [if_neg h4]
      split
      · exact ⟨rfl, rfl, rfl, Or.inr ⟨ws, rfl, hact, Or.inl ⟨_, _, _, rfl, Or.inr (Or.inl rfl), Or.inr rfl, rfl⟩⟩⟩
      · exact ⟨rfl, rfl, rfl, Or.inr ⟨ws, rfl, hact, Or.inr ⟨rfl, rfl⟩⟩⟩
    · rw [if_pos hact]
      exact ⟨rfl, rfl, rfl, Or.inl ⟨rfl, fun ws' h => by cases h; exact hact⟩⟩

theorem commitStep_cfg (C : Crypto) (n : Node) (l : Local) : (commitStep C n l).1.cfg = n.cfg := by
  cases hpc : l.pc with
  | prepare => exact (prepare_spec C n l hpc _ rfl).1
  | snapshot | apply | root | build => simp only [commitStep, hpc]
  | append =>
    cases hb : l.block with
    | none => rw [commitStep_append_none hpc hb]
    | some b =>
      cases happ : append C n.cfg.registry n.chain b with
      | ok c' => rw [commitStep_append_ok hpc hb happ]; rfl
      | error e => rw [commitStep_append_err hpc hb happ]
  | restore => rw [commitStep_restore hpc]; rfl
  | done => rw [commitStep_done hpc]

theorem commitRun_cfg (C : Crypto) : ∀ (f : Nat) (n : Node) (l : Local), (commitRun C f n l).1.cfg = n.cfg
  | 0, _, _ => rfl
  | f + 1, n, l => by
    rw [commitRun]
    split
    · rfl
    · exact (commitRun_cfg C f _ _).trans (commitStep_cfg C n l)

theorem commit_cfg (C : Crypto) (n : Node) (w ts : Nat) : (commit C n w ts).1.cfg = n.cfg := commitRun_cfg C 8 n _

/-- the outcome of one uninterrupted `commit`: nothing changes (unknown or finished workspace); or the chain is
    untouched and the result is not `Ok` (an early check failed, or `append` rejected the block and the snapshot was
    restored); or `append` accepted the block built over the store with the merged operations applied -/
theorem commit_spec (C : Crypto) (n : Node) (w ts : Nat) (r : Node × Local) (hr : commit C n w ts = r) :
    r.1.cfg = n.cfg ∧ r.1.nextId = n.nextId ∧
    ((r.1 = n ∧ r.2.res = some .notActive ∧ ∀ ws, findWs n.wss w = some ws → ws.state ≠ .active) ∨
     ∃ ws, findWs n.wss w = some ws ∧ ws.state = .active ∧
       let n1 : Node := { n with wss := setStates n.wss [w] .committing }
       let cands := mergeCandidates n1 ws
       let ids := cands.map (·.id)
       let ops := ws.ops ++ cands.flatMap (·.ops)
       ((r.1.chain = n.chain ∧ (∀ h, r.2.res ≠ some (.ok h)) ∧ ∃ ids' st, (ids' = [] ∨ ids' = ids) ∧
           r.1.wss = setStates (setStates n1.wss ids' .committing) (w :: ids') st) ∨
        (∃ c', append C n.cfg.registry { n.chain with store := applyTxs n.chain.store ops }
                 (builtBlock C n ops (ws.dir :: cands.map (·.dir)) (stateRoot C (applyTxs n.chain.store ops)) ts) = .ok c' ∧
           r.1.chain = c' ∧ r.2.res = some (.ok c'.height) ∧ r.2.merged = ids ∧
           r.1.wss = setStates (setStates n1.wss ids .committing) (w :: ids) .committed))) := by
  subst hr
  rw [commit_split]
  obtain ⟨hcfg, hch, hnx, hcase⟩ := prepare_spec C n (Local.init w ts) rfl _ rfl
  generalize commitStep C n (Local.init w ts) = q at hcfg hch hnx hcase
  obtain ⟨n1, l1⟩ := q
  dsimp only at hcfg hch hnx hcase
  rcases hcase with ⟨hq, hna⟩ | ⟨ws, hws, hact, hcase⟩
  · cases hq
    rw [commitRun_done rfl]
    exact ⟨rfl, rfl, Or.inl ⟨rfl, rfl, hna⟩⟩
  · obtain rfl : ws.id = w := findWs_id _ _ _ hws
    rcases hcase with ⟨res, ids', st, hl, hres, hids, hwss⟩ | ⟨hwss, hl⟩
    · subst hl
      rw [commitRun_done rfl]
      refine ⟨hcfg, hnx, Or.inr ⟨ws, hws, hact, Or.inl ⟨hch, ?_, ids', st, hids, hwss⟩⟩⟩
      rcases hres with rfl | rfl | rfl <;> nofun
    · have hpc : l1.pc = .snapshot := by rw [hl]
      cases happ : commitAppend C n1 l1 with
      | error e =>
        rw [pipeline_err hpc happ, hl]
        exact ⟨hcfg, hnx, Or.inr ⟨ws, hws, hact, Or.inl ⟨hch, nofun, _, .failed, Or.inr rfl, by rw [← hwss]; rfl⟩⟩⟩
      | ok c' =>
        rw [pipeline_ok hpc happ, hl]
        -- the block reads the node's chain head and identity only, which the first step left alone
        unfold commitAppend builtBlock at happ
        rw [hcfg, hch, hl] at happ
        exact ⟨hcfg, hnx, Or.inr ⟨ws, hws, hact, Or.inr ⟨c', happ, rfl, rfl, rfl, by rw [← hwss]; rfl⟩⟩⟩

theorem commit_inv (C : Crypto) (n : Node) (w ts : Nat) (hsc : SignCorrect C)
    (hreg : ∀ r, n.cfg.registry = some r → regLookup r n.cfg.nodeId = some n.cfg.key)
    (hinv : Inv C n.cfg.registry n.chain)
    (hts : ∀ t, blockAt n.chain.store n.chain.height = some t → t.header.timestamp ≤ ts) :
    Inv C n.cfg.registry (commit C n w ts).1.chain := by
  obtain ⟨_, _, hn | ⟨ws, _, _, ⟨hch, _⟩ | ⟨c', happ, hch, _⟩⟩⟩ := commit_spec C n w ts _ rfl
  · rw [hn.1]; exact hinv
  · rw [hch]; exact hinv
  · rw [hch]
    exact inv_append C _ _ c' _ (inv_store_congr C _ n.chain _ (fun j => blockAt_applyTxs _ _ j) hinv) happ
      (fun t ht => hts t (by rw [← blockAt_applyTxs]; exact ht)) (fun _ => builtBlock_sigOk C n _ _ _ ts hsc hreg)

theorem addOp_chain (n : Node) (w : Nat) (t : Tx) : (addOp n w t).1.cfg = n.cfg ∧ (addOp n w t).1.chain = n.chain := by
  unfold addOp; (repeat' split) <;> exact ⟨rfl, rfl⟩

/-- every call but `commit` leaves configuration and chain as they are — `rollback` when the workspace's checkpoint is
    still the current store -/
theorem stepOp_chain (C : Crypto) (n : Node) (op : Op)
    (hroll : ∀ w, op = .rollback w → ∀ ws, findWs n.wss w = some ws → ws.state = .committed ∨ ws.snap = n.chain.store)
    (hnc : ∀ w ts, op ≠ .commit w ts) : (stepOp C n op).cfg = n.cfg ∧ (stepOp C n op).chain = n.chain := by
  cases op with
  | begin | dir w d => exact ⟨rfl, rfl⟩
  | put w k v | del w k | cas w k e v => exact addOp_chain n w _
  | commit w ts => exact absurd rfl (hnc w ts)
  | rollback w =>
    simp only [stepOp]
    unfold rollbackWs
    cases hf : findWs n.wss w with
    | none => exact ⟨rfl, rfl⟩
    | some ws =>
      dsimp only
      split
      · exact ⟨rfl, rfl⟩
      · rename_i hst
        exact ⟨rfl, by rw [(hroll w rfl ws hf).resolve_left hst]⟩

/-- the transactions of the stored blocks `1..=n`, in chain order -/
def chainTxs (s : List (SKey × SVal)) : Nat → List Tx
  | 0 => []
  | n + 1 => chainTxs s n ++ (match blockAt s (n + 1) with | some b => b.txs | none => [])

theorem chainTxs_congr (s s' : List (SKey × SVal)) : ∀ (n : Nat), (∀ j, j ≤ n → blockAt s' j = blockAt s j) → chainTxs s' n = chainTxs s n
  | 0, _ => rfl
  | n + 1, h => by
    simp only [chainTxs]
    rw [chainTxs_congr s s' n (fun j hj => h j (by omega)), h (n + 1) (Nat.le_refl _)]

theorem chainTxs_appended (s : List (SKey × SVal)) {s' : List (SKey × SVal)} {h : Nat} {b : Block} {v : SVal} (hs : ∀ j, blockAt s' j = blockAt s j) :
    chainTxs (sput (sput s' (.block (h + 1)) (.block b)) .chainMeta v) (h + 1) = chainTxs s h ++ b.txs := by
  simp only [chainTxs]
  rw [blockAt_appended_new, chainTxs_congr s _ h fun j hj => (blockAt_appended_old _ _ _ _ j (by omega)).trans (hs j)]

/-- the store's data image is the replay of the chain's blocks -/
def DataInv (c : ChainSt) : Prop := DataEq c.store (applyTxs [] (chainTxs c.store c.height))

theorem dataInv_init (C : Crypto) (p : List Nat) (ts : Nat) : DataInv (initChain C [] p ts) :=
  dataEq_appended [] 0 _ _

theorem dataInv_commit (c : ChainSt) (b : Block) (tip' : List Nat) (h : DataInv c) :
    DataInv { store := sput (sput (applyTxs c.store b.txs) (.block (c.height + 1)) (.block b)) .chainMeta (.height (c.height + 1)),
              height := c.height + 1, tip := tip' } := by
  unfold DataInv
  rw [chainTxs_appended c.store (blockAt_applyTxs _ _), applyTxs_append]
  exact (dataEq_appended _ _ _ _).trans (applyTxs_dataEq b.txs _ _ h)

theorem append_applied_ok {C : Crypto} {reg : Option (List (List Nat × Nat))} (c : ChainSt) {c' : ChainSt} {txs : List Tx} {b : Block}
    (h : append C reg { c with store := applyTxs c.store txs } b = .ok c') :
    c' = { store := sput (sput (applyTxs c.store txs) (.block (c.height + 1)) (.block (fixTxRoot C b))) .chainMeta
                      (.height (c.height + 1)),
           height := c.height + 1, tip := (fixTxRoot C b).header.hash C } :=
  (append_ok_inv C reg _ c' b h).2.2.2.2

end Neumann.Chain
