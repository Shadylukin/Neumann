import NeumannModel.Chain.Model
namespace Neumann.Chain

theorem stateStore_setState (r : Replica) (s : List (SKey × SVal)) : (r.setState s).stateStore = s := by
  obtain ⟨st, c, sh⟩ := r
  cases sh <;> simp [Replica.setState, Replica.stateStore]

theorem setState_restore (r : Replica) (s : List (SKey × SVal)) : (r.setState s).setState r.stateStore = r := by
  obtain ⟨st, c, sh⟩ := r
  cases sh <;> rfl

theorem applyBlock_shared (C : Crypto) (reg : Option (List (List Nat × Nat))) (r : Replica) (b : Block) :
    (applyBlock C reg r b).1.shared = r.shared := by
  obtain ⟨st, c, sh⟩ := r
  unfold applyBlock
  simp only
  split
  · cases sh <;> simp [Replica.setState]
  · cases append C reg (Replica.setState ⟨st, c, sh⟩ (applyTxs (Replica.stateStore ⟨st, c, sh⟩) b.txs)).chain b <;>
      cases sh <;> simp [Replica.setState]

theorem applyBlock_shared_ok (C : Crypto) (reg : Option (List (List Nat × Nat))) (c c' : ChainSt) (b : Block)
    (hroot : b.header.stateRoot = stateRoot C (applyTxs c.store b.txs))
    (happ : append C reg { c with store := applyTxs c.store b.txs } b = .ok c') :
    applyBlock C reg { state := [], chain := c, shared := true } b = ({ state := [], chain := c', shared := true }, none) := by
  simp only [applyBlock, Replica.stateStore, Replica.setState, if_true]
  rw [if_neg (not_not_intro hroot), happ]

theorem trimFront_length (n : Nat) (l : List (List Nat)) : (trimFront n l).length ≤ n := by
  unfold trimFront
  simp only [List.length_drop]
  omega

theorem applyBlockM_recent (F : FastPath) (C : Crypto) (reg : Option (List (List Nat × Nat))) (m : Machine) (b : Block) :
    (applyBlockM F C reg m b).1.recent =
      if (applyBlockM F C reg m b).2 = none then trackEmbedding F m.recent b else m.recent := by
  unfold applyBlockM appendFast appendFull
  simp only [ite_self]
  by_cases hne : b.header.stateRoot = stateRoot C (m.rep.setState (applyTxs m.rep.stateStore b.txs)).stateStore
  · simp only [hne, ne_eq, not_true_eq_false, if_false]
    cases append C reg (m.rep.setState (applyTxs m.rep.stateStore b.txs)).chain b with
    | ok c' => dsimp only; rw [if_pos rfl]
    | error e' => dsimp only; rw [if_neg (by intro h; cases h)]
  · have hne' : b.header.stateRoot ≠ stateRoot C (m.rep.setState (applyTxs m.rep.stateStore b.txs)).stateStore := hne
    rw [if_pos hne']
    dsimp only
    rw [if_neg (by intro h; cases h)]

end Neumann.Chain
