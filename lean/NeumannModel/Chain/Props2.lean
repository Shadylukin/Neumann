import NeumannModel.Chain.Props
import NeumannModel.Chain.Restart
import NeumannModel.Chain.Sched
import NeumannModel.Chain.Log
import NeumannModel.Chain.Machine
/-
  C16 — property theorems, part 2: restart (`Chain::initialize` over an existing store), `history`, replica
  `apply_block` (rejections, proposer/replica agreement), commit calls under EVERY interleaving (what the
  `append` critical section guarantees), `CompareAndSwap` transactions.  Same conventions as `Props.lean`.
-/
namespace Neumann.Chain.Props
open Neumann.Chain

/-! ## 5. restart: `Chain::initialize` over the store of an existing chain -/

/-- RESTART ROUND TRIP, every chain length: over the store of a chain that satisfies the chain invariant and whose
    height record is in place (`MetaInv`: the record names the height, no block record above it — what `append`
    leaves behind), a NEW `Chain` object + `initialize()` recovers exactly the height and the tip hash, leaves
    every record of the store as it was, and the recovered chain verifies and satisfies the same invariants
    (so appends and commits continue where the old object stopped). -/
theorem reopen_roundtrip (C : Crypto) (reg : Option (List (List Nat × Nat))) (c : ChainSt) (p : List Nat) (ts : Nat)
    (hinv : Inv C reg c) (hm : MetaInv c) :
    let c' := openChain C c.store p ts
    c'.height = c.height ∧ c'.tip = c.tip ∧ (∀ k, sget c'.store k = sget c.store k) ∧
    verifyChain C reg c' = none ∧ Inv C reg c' ∧ MetaInv c' := by
  intro c'
  obtain ⟨hh, ht, hs⟩ := openChain_healthy C reg c p ts hinv hm
  obtain ⟨hi, hm', hv, _⟩ := healthy_congr C reg c c' hinv hm hh ht hs
  exact ⟨hh, ht, hs, hv, hi, hm'⟩

/-- non-vacuity: the concrete two-block chain of `Props.lean` has its height record in place, and re-opening
    its store gives height 1, the same tip and a verifying chain -/
example : MetaInv exChain1 := by
  have h : exChain1 =
      { store := sput (sput (applyTxs (initChain drvCrypto [] [1] 10).store []) (.block ((initChain drvCrypto [] [1] 10).height + 1))
                  (.block exBlock1)) .chainMeta (.height ((initChain drvCrypto [] [1] 10).height + 1)),
        height := (initChain drvCrypto [] [1] 10).height + 1, tip := exChain1.tip } := by decide +kernel
  rw [h]
  exact metaInv_commit _ [] _ _ (metaInv_init _ _ _)

example : (openChain drvCrypto exChain1.store [1] 99).height = 1 ∧
    (openChain drvCrypto exChain1.store [1] 99).tip = exChain1.tip ∧
    verifyChain drvCrypto (some [([1], 1)]) (openChain drvCrypto exChain1.store [1] 99) = none := by decide +kernel

/-- one client call of a sequential history keeps the node invariant (configuration, chain invariant, store =
    replay of the chain, height record, empty genesis) -/
theorem stepOp_nodeInv (C : Crypto) (cfg : Config) (hsc : SignCorrect C)
    (hreg : ∀ r, cfg.registry = some r → regLookup r cfg.nodeId = some cfg.key)
    (n : Node) (op : Op) (hop : OpOk n op) (h : NodeInv C cfg n) : NodeInv C cfg (stepOp C n op) := by
  obtain ⟨hcfg, hinv, hdata, hmeta, hgen⟩ := h
  have hroll : ∀ w, op = .rollback w → ∀ ws, findWs n.wss w = some ws → ws.state = .committed ∨ ws.snap = n.chain.store :=
    fun w e ws h => by subst e; simpa only [OpOk, h] using hop
  cases op with
  | commit w ts =>
    have hinv' := commit_inv C n w ts hsc (by rw [hcfg]; exact hreg) (by rw [hcfg]; exact hinv)
      (by intro t ht; simp only [OpOk, ht] at hop; exact hop)
    rw [hcfg] at hinv'
    -- the height record and the genesis block change only when a block is appended
    have hrest : MetaInv (commit C n w ts).1.chain ∧ genesisTxs (commit C n w ts).1.chain.store = [] := by
      obtain ⟨_, _, hn | ⟨ws, _, _, ⟨hch, _⟩ | ⟨c', happ, hch, _⟩⟩⟩ := commit_spec C n w ts _ rfl
      · rw [hn.1]; exact ⟨hmeta, hgen⟩
      · rw [hch]; exact ⟨hmeta, hgen⟩
      · rw [hch, append_applied_ok n.chain happ]
        exact ⟨metaInv_commit n.chain _ _ _ hmeta, (genesisTxs_congr n.chain.store _
          ((blockAt_appended_old _ _ _ _ 0 (Nat.succ_ne_zero _).symm).trans (blockAt_applyTxs _ _ 0))).trans hgen⟩
    exact ⟨(commit_cfg C n w ts).trans hcfg, hinv', commit_dataInv C n w ts hdata, hrest.1, hrest.2⟩
  | _ =>
    obtain ⟨h1, h2⟩ := stepOp_chain C n _ hroll nofun
    exact ⟨h1.trans hcfg, by rw [h2]; exact hinv, by rw [h2]; exact hdata, by rw [h2]; exact hmeta, by rw [h2]; exact hgen⟩

/-- node states reachable from `TensorChain::initialize` through ANY sequential history of client calls
    INCLUDING RESTARTS (a new `TensorChain` object with the same identity over the same store + `initialize()`,
    at any point, any number of times; workspaces begun before a restart may be used after it) -/
inductive SeqReachR (C : Crypto) (cfg : Config) : Node → Prop where
  | init (ts : Nat) : SeqReachR C cfg (initNode C cfg ts)
  | step (n : Node) (op : Op) : SeqReachR C cfg n → OpOk n op → SeqReachR C cfg (stepOp C n op)
  | reopen (n : Node) (ts : Nat) : SeqReachR C cfg n → SeqReachR C cfg (reopenNode C n ts)

/-- THE SEQUENTIAL-HISTORY INVARIANT WITH RESTARTS.  A `TensorChain` is always constructed with a fresh registry
    holding its own key (`hown`).  After every sequential history with any number of restarts: the configuration
    is the original one, the chain invariant holds, the store's data image is the replay of the chain, the height
    record names the height with no block record above it, the genesis block has no transactions — and therefore
    `verify()` returns `Ok`. -/
theorem sequential_history_invariant_restart (C : Crypto) (cfg : Config) (hsc : SignCorrect C)
    (hown : cfg.registry = some [(cfg.nodeId, cfg.key)]) (n : Node) (h : SeqReachR C cfg n) :
    NodeInv C cfg n ∧ verifyChain C n.cfg.registry n.chain = none := by
  have hreg := regLookup_own cfg hown
  suffices hN : NodeInv C cfg n from ⟨hN, by rw [hN.hcfg]; exact verify_complete C _ _ hN.hinv.ok⟩
  induction h with
  | init ts => exact nodeInv_init C cfg ts
  | step n op _ hop ih => exact stepOp_nodeInv C cfg hsc hreg n op hop ih
  | reopen n ts _ ih => exact nodeInv_reopen C cfg hown n ts ih

/-- a `TensorChain` configuration: the registry holds exactly the node's own key -/
def cfgOwn : Config := { cfg0 with registry := some [(cfg0.nodeId, cfg0.key)] }

/-- side condition of one call of a history with restarts: `OpOk` for the sequential calls, none for a restart
    (the registry calls are not part of these histories) -/
def OpROk (n : Node) : OpR → Prop
  | .x (.op o) => OpOk n o
  | .x _ => False
  | .reopen _ => True

instance (n : Node) (op : OpR) : Decidable (OpROk n op) := by
  cases op with
  | x o => cases o <;> simp only [OpROk] <;> infer_instance
  | reopen ts => simp only [OpROk]; infer_instance

/-- every op list whose calls satisfy `OpOk` where they are issued, restarts anywhere, is such a history -/
theorem seqReachR_of_runOpsR (C : Crypto) (cfg : Config) :
    ∀ (ops : List OpR) (n : Node), SeqReachR C cfg n →
      (∀ i (h : i < ops.length), OpROk (runOpsR C n (ops.take i)) ops[i]) →
      SeqReachR C cfg (runOpsR C n ops) :=
  foldl_mem_of_closed (SeqReachR C cfg) (stepOpR C) OpROk fun n op h hop =>
    match op, hop with
    | .reopen ts, _ => .reopen n ts h
    | .x (.op o), hop => .step n o h hop

/-- non-vacuity: commit, restart, commit a workspace begun BEFORE the restart and one begun after it, restart
    again: the history is in `SeqReachR`, ends at height 3 and verifies -/
def exRestartHistory : List OpR :=
  [.x (.op .begin), .x (.op (.put 0 1 1)), .x (.op (.commit 0 5)), .x (.op .begin), .x (.op (.cas 1 1 (some 1) 7)),
   .reopen 6, .x (.op (.commit 1 7)), .x (.op .begin), .x (.op (.put 2 2 2)), .x (.op (.commit 2 8)), .reopen 9]

example : SeqReachR drvCrypto cfgOwn (runOpsR drvCrypto (initNode drvCrypto cfgOwn 0) exRestartHistory) ∧
    (runOpsR drvCrypto (initNode drvCrypto cfgOwn 0) exRestartHistory).chain.height = 3 ∧
    sget (runOpsR drvCrypto (initNode drvCrypto cfgOwn 0) exRestartHistory).chain.store (.data 1) = some (.data 7) :=
  And.imp_left (fun h => seqReachR_of_runOpsR _ _ _ _ (.init 0) (foldOk_spec (stepOpR drvCrypto) OpROk _ _ h)) (by decide +kernel)

/-- WITNESS (what a restart does NOT detect): remove the record of the TIP block from the store of a two-block
    chain.  The running object notices (`verify` = block 2 not found); a new object + `initialize()` walks the
    height back to 1, saves it, and `verify` succeeds on the truncated chain — the removal of the last block is
    not detected after a restart (there is nothing above the tip that names its hash). -/
theorem reopen_heals_removed_tip_witness :
    let n := runOps drvCrypto (initNode drvCrypto cfg0 0) [.begin, .put 0 1 1, .commit 0 5, .begin, .put 1 2 2, .commit 1 6]
    let cut : ChainSt := { n.chain with store := sdel n.chain.store (.block 2) }
    n.chain.height = 2 ∧ verifyChain drvCrypto cfg0.registry cut = some (.notFound 2) ∧
    (openChain drvCrypto cut.store [1] 9).height = 1 ∧ loadHeight (openChain drvCrypto cut.store [1] 9).store = some 1 ∧
    verifyChain drvCrypto cfg0.registry (openChain drvCrypto cut.store [1] 9) = none := by decide +kernel

/-- WITNESS: removing a block BELOW the tip is still detected after a restart (the walk back stops at the first
    block record it finds, the walk forward at the first gap) -/
theorem reopen_detects_removed_inner_block_witness :
    let n := runOps drvCrypto (initNode drvCrypto cfg0 0) [.begin, .put 0 1 1, .commit 0 5, .begin, .put 1 2 2, .commit 1 6]
    let cut : ChainSt := { n.chain with store := sdel n.chain.store (.block 1) }
    (openChain drvCrypto cut.store [1] 9).height = 2 ∧
    verifyChain drvCrypto cfg0.registry (openChain drvCrypto cut.store [1] 9) = some (.notFound 1) := by decide +kernel

/-! ## 6. `history` and "each committed workspace once" -/

/-- `history(key)` lists, in chain order, exactly the transactions of the stored blocks `0..=height` that affect
    `key` (every chain, every store, every key) -/
theorem history_lists_chain_transactions (c : ChainSt) (k : Nat) :
    (history c k).map Prod.snd = (genesisTxs c.store ++ chainTxs c.store c.height).filter fun t => t.key = k :=
  historyUpTo_snd c.store k c.height

/-- THE VALUE OF EVERY KEY IS THE REPLAY OF ITS OWN HISTORY, after every sequential history with restarts: what a
    client reads under `key` is what replaying `history(key)` alone — puts, deletes and compare-and-swaps, in chain
    order, on an empty store — leaves under `key`. -/
theorem value_is_replay_of_own_history (C : Crypto) (cfg : Config) (hsc : SignCorrect C)
    (hown : cfg.registry = some [(cfg.nodeId, cfg.key)]) (n : Node) (h : SeqReachR C cfg n) (k : Nat) :
    sget n.chain.store (.data k) = sget (applyTxs [] ((history n.chain k).map Prod.snd)) (.data k) := by
  obtain ⟨hN, _⟩ := sequential_history_invariant_restart C cfg hsc hown n h
  rw [history_lists_chain_transactions, hN.hgen, List.nil_append, hN.hdata k]
  exact sget_applyTxs_filter k _ [] [] rfl

/-- non-vacuity: in the restart history above key 1 was put (1) and compare-and-swapped (1 → 7) -/
example : (history (runOpsR drvCrypto (initNode drvCrypto cfgOwn 0) exRestartHistory).chain 1)
    = [(1, .put 1 1), (2, .cas 1 (some 1) 7)] := by decide +kernel

/-- a successful commit extends the chain's transaction list by exactly the workspace's operations (followed by
    those of the workspaces merged into the block), from every node state -/
theorem commit_ok_extends_chain_by_its_operations (C : Crypto) (n : Node) (w ts : Nat) (h : Nat)
    (hok : (commit C n w ts).2.res = some (.ok h)) :
    ∃ ws extra, findWs n.wss w = some ws ∧
      chainTxs (commit C n w ts).1.chain.store (commit C n w ts).1.chain.height
        = chainTxs n.chain.store n.chain.height ++ (ws.ops ++ extra) := by
  obtain ⟨_, _, hn | ⟨ws, hws, _, ⟨_, hno, _⟩ | ⟨c', happ, hch, _⟩⟩⟩ := commit_spec C n w ts _ rfl
  · rw [hn.2.1] at hok; cases hok
  · exact absurd hok (hno h)
  · exact ⟨ws, _, hws, by
      rw [hch, append_applied_ok n.chain happ, chainTxs_appended n.chain.store (blockAt_applyTxs _ _),
        fixTxRoot_txs]
      rfl⟩

/-- ... and marks the workspace `Committed` -/
theorem commit_ok_marks_committed (C : Crypto) (n : Node) (w ts : Nat) (h : Nat)
    (hok : (commit C n w ts).2.res = some (.ok h)) :
    ∃ ws', findWs (commit C n w ts).1.wss w = some ws' ∧ ws'.state = .committed := by
  obtain ⟨_, _, hn | ⟨ws, hws, _, ⟨_, hno, _⟩ | ⟨c', _, _, _, _, hwss⟩⟩⟩ := commit_spec C n w ts _ rfl
  · rw [hn.2.1] at hok; cases hok
  · exact absurd hok (hno h)
  · apply stateOf_some
    rw [hwss, stateOf_marked, show stateOf n.wss w = some ws.state by simp [stateOf, hws]]
    simp

/-- a workspace that is no longer `Active` (committed, failed, rolled back) cannot be committed (again): the call
    answers "not active" and changes NOTHING — so, together with the two theorems above and
    `failed_commit_untouched`, the operations of a workspace enter the chain at most once, and exactly once when
    its commit returned `Ok` -/
theorem finished_workspace_cannot_commit (C : Crypto) (n : Node) (w ts : Nat) (ws : Ws)
    (hws : findWs n.wss w = some ws) (hst : ws.state ≠ .active) :
    (commit C n w ts).1 = n ∧ (commit C n w ts).2.res = some .notActive := by
  obtain ⟨_, _, hn | ⟨ws', hws', hact, _⟩⟩ := commit_spec C n w ts _ rfl
  · exact ⟨hn.1, hn.2.1⟩
  · rw [hws] at hws'; cases hws'; exact absurd hact hst

/-- non-vacuity: after the commit of workspace 0 a second commit of it is refused and changes nothing -/
example : let n := runOps drvCrypto (initNode drvCrypto cfg0 0) [.begin, .put 0 1 1, .commit 0 5]
    (commit drvCrypto n 0 6).1 = n ∧ (commit drvCrypto n 0 6).2.res = some .notActive ∧
    chainTxs n.chain.store n.chain.height = [.put 1 1] := by decide +kernel

/-- the ids a client call adds to the chain: those of a successful `commit` (the workspace and the workspaces
    merged into its block); nothing for every other call -/
def newIds (C : Crypto) (n : Node) : Op → List Nat
  | .commit w ts => commitIds C n w ts
  | _ => []

/-- sequential histories together with the list of workspace ids whose commit returned `Ok` (or that were merged
    into such a commit), in the order of the calls -/
inductive SeqReachLog (C : Crypto) (cfg : Config) : Node → List Nat → Prop where
  | init (ts : Nat) : SeqReachLog C cfg (initNode C cfg ts) []
  | step (n : Node) (order : List Nat) (op : Op) : SeqReachLog C cfg n order → OpOk n op →
      SeqReachLog C cfg (stepOp C n op) (order ++ newIds C n op)

/-- THE CHAIN CONTAINS EACH COMMITTED WORKSPACE EXACTLY ONCE.  After every sequential history (any number of
    workspaces, begin / put / delete / compare-and-swap / delta / commit / rollback in any order, auto-merge on or
    off, failed commits early and late included): the transactions of blocks `1..=height`, in chain order, are the
    concatenation of the operation lists of the workspaces in `order` — the workspaces whose `commit` returned `Ok`
    and those merged into such a block, in commit order; no workspace occurs twice in `order`; every one of them is
    in state `Committed`.  So no committed operation is lost or duplicated, and nothing else is in the chain. -/
theorem each_committed_workspace_exactly_once (C : Crypto) (cfg : Config) (n : Node) (order : List Nat)
    (h : SeqReachLog C cfg n order) :
    chainTxs n.chain.store n.chain.height = order.flatMap (opsOf n.wss) ∧ order.Nodup ∧
    ∀ id ∈ order, stateOf n.wss id = some .committed := by
  suffices hL : LogInv n order from ⟨hL.txs, hL.nodup, hL.committed⟩
  induction h with
  | init ts =>
    exact ⟨⟨List.nodup_nil, fun x hx => by cases hx⟩, rfl, List.nodup_nil, fun id hid => by cases hid⟩
  | step n order op _ hop ih =>
    cases op with
    | begin => simpa [newIds, stepOp] using logInv_begin n order ih
    | put w k v | del w k | cas w k e v => simpa [newIds, stepOp] using logInv_addOp n order w _ ih
    | dir w d => simpa [newIds, stepOp] using logInv_setDir n order w d ih
    | commit w ts => exact logInv_commit C n order w ts ih
    | rollback w =>
      have := logInv_rollback n order w ih (by
        intro ws hws
        simp only [OpOk, hws] at hop
        exact hop)
      simpa [newIds, stepOp] using this

/-- non-vacuity: three orthogonal workspaces, auto-merge on: the commit of workspace 0 merges 1 and 2 into one
    block; a fourth workspace commits later; a second commit of workspace 1 is refused.  `order` = [0, 1, 2, 3] and
    the chain holds the four operation lists in that order. -/
def exLogHistory : List Op :=
  [.begin, .dir 0 1, .begin, .dir 1 2, .begin, .dir 2 3, .put 0 100 1, .put 1 200 2, .cas 2 300 none 3,
   .commit 0 5, .begin, .put 3 1 4, .commit 1 6, .commit 3 7]

/-- a history run with its ghost list -/
def runOpsLog (C : Crypto) : Node → List Nat → List Op → Node × List Nat
  | n, order, [] => (n, order)
  | n, order, op :: ops => runOpsLog C (stepOp C n op) (order ++ newIds C n op) ops

theorem seqReachLog_of_runOps (C : Crypto) (cfg : Config) :
    ∀ (ops : List Op) (n : Node) (order : List Nat), SeqReachLog C cfg n order →
      (∀ i (h : i < ops.length), OpOk (runOps C n (ops.take i)) ops[i]) →
      SeqReachLog C cfg (runOpsLog C n order ops).1 (runOpsLog C n order ops).2 := by
  intro ops
  induction ops with
  | nil => exact fun _ _ h _ => h
  | cons op ops ih =>
    exact fun n order h hok =>
      ih _ _ (.step n order op h (hok 0 (Nat.zero_lt_succ _))) fun i hi => hok (i + 1) (Nat.succ_lt_succ hi)

example : SeqReachLog drvCrypto cfg0 (runOpsLog drvCrypto (initNode drvCrypto cfg0 0) [] exLogHistory).1
      (runOpsLog drvCrypto (initNode drvCrypto cfg0 0) [] exLogHistory).2 ∧
    (runOpsLog drvCrypto (initNode drvCrypto cfg0 0) [] exLogHistory).2 = [0, 1, 2, 3] ∧
    (runOpsLog drvCrypto (initNode drvCrypto cfg0 0) [] exLogHistory).1.chain.height = 2 ∧
    chainTxs (runOpsLog drvCrypto (initNode drvCrypto cfg0 0) [] exLogHistory).1.chain.store 2
      = [.put 100 1, .put 200 2, .cas 300 none 3, .put 1 4] :=
  And.imp_left (fun h => seqReachLog_of_runOps _ _ _ _ [] (.init 0) (foldOk_spec (stepOp drvCrypto) OpOk _ _ h)) (by decide +kernel)

/-! ## 7. replicas: rejected blocks, verdicts, proposer/replica agreement -/

/-- A REJECTED BLOCK LEAVES THE REPLICA UNTOUCHED, from every replica state, both store configurations, every block:
    whether the state root does not match the applied state or `Chain::append` refuses the block (height,
    predecessor hash, transaction root, signature), the state store is restored to the pre-apply image and the chain
    is unchanged -/
theorem applyBlock_rejected_untouched (C : Crypto) (reg : Option (List (List Nat × Nat))) (r : Replica) (b : Block)
    (e : ApplyErr) (h : (applyBlock C reg r b).2 = some e) : (applyBlock C reg r b).1 = r := by
  unfold applyBlock at h ⊢
  dsimp only at h ⊢
  split
  · exact setState_restore r _
  · rename_i hroot
    rw [if_neg hroot] at h
    split
    · rename_i c' happ
      rw [happ] at h
      cases h
    · exact setState_restore r _

/-- AN ACCEPTED BLOCK: exactly its transactions were applied to the state store, its state root is the root of the
    result, and the chain is the result of `Chain::append` (one block longer) -/
theorem applyBlock_accepted_applies_exactly (C : Crypto) (reg : Option (List (List Nat × Nat))) (r : Replica) (b : Block)
    (hsep : r.shared = false) (h : (applyBlock C reg r b).2 = none) :
    (applyBlock C reg r b).1.state = applyTxs r.state b.txs ∧
    b.header.stateRoot = stateRoot C (applyTxs r.state b.txs) ∧
    append C reg r.chain b = .ok (applyBlock C reg r b).1.chain ∧
    (applyBlock C reg r b).1.chain.height = r.chain.height + 1 := by
  obtain ⟨s, c, sh⟩ := r
  simp only at hsep
  subst hsep
  simp only [applyBlock, Replica.stateStore, Replica.setState, Bool.false_eq_true, if_false] at h ⊢
  split at h
  · cases h
  · rename_i hroot
    simp only [hroot, if_false]
    cases happ : append C reg c b with
    | error e => simp [happ] at h
    | ok c' =>
      obtain ⟨_, _, _, _, hc'⟩ := append_ok_inv C _ _ _ _ happ
      refine ⟨rfl, Classical.not_not.mp hroot, rfl, ?_⟩
      simp only [hc']

def replayVerdicts (C : Crypto) (reg : Option (List (List Nat × Nat))) : Replica → List Block → List (Option ApplyErr)
  | _, [] => []
  | r, b :: bs => (applyBlock C reg r b).2 :: replayVerdicts C reg (applyBlock C reg r b).1 bs

/-- replicas that agree give the SAME VERDICT on every block of every block sequence (valid blocks, blocks with a
    wrong state root, duplicates, gaps, forged signatures, in any order) -/
theorem replay_verdicts_deterministic (C : Crypto) (reg : Option (List (List Nat × Nat))) (bs : List Block) (r1 r2 : Replica)
    (h : Agree r1 r2) : replayVerdicts C reg r1 bs = replayVerdicts C reg r2 bs := by
  induction bs generalizing r1 r2 with
  | nil => rfl
  | cons b bs ih =>
    obtain ⟨ha, hv⟩ := applyBlock_agree C reg r1 r2 b h
    simp only [replayVerdicts, hv, ih _ _ ha]

/-- PROPOSER AND REPLICA COMPUTE THE SAME STATE ROOT.  From every node state: when `TensorChain::commit` returns
    `Ok h`, applying the block it stored at height `h` through `TensorStateMachine::apply_block` to a replica whose
    (shared) store and chain head are the node's of BEFORE the commit is accepted and yields exactly the node's
    chain of AFTER the commit (store image, height, tip).  I.e. `commit` is `apply_block` of the block it builds. -/
theorem committed_block_replays_on_shared_replica (C : Crypto) (n : Node) (w ts : Nat) (h : Nat)
    (hok : (commit C n w ts).2.res = some (.ok h)) :
    ∃ b, blockAt (commit C n w ts).1.chain.store h = some b ∧
      applyBlock C n.cfg.registry { state := [], chain := n.chain, shared := true } b
        = ({ state := [], chain := (commit C n w ts).1.chain, shared := true }, none) := by
  obtain ⟨_, _, hn | ⟨ws, _, _, ⟨_, hno, _⟩ | ⟨c', happ, hch, hres, _⟩⟩⟩ := commit_spec C n w ts _ rfl
  · rw [hn.2.1] at hok; cases hok
  · exact absurd hok (hno h)
  · obtain rfl : c'.height = h := by rw [hres] at hok; cases hok; rfl
    have hc' := append_applied_ok n.chain happ
    rw [fixTxRoot_of_root C _ rfl] at hc'
    exact ⟨builtBlock .., by rw [hch, hc']; exact blockAt_appended_new .., by
      rw [hch]; exact applyBlock_shared_ok C _ n.chain c' (builtBlock ..) rfl happ⟩

/-- non-vacuity of the above, and WITNESS of its limit: the same committed block is REJECTED (state root mismatch)
    by a replica that keeps its state in a separate store — the root `commit` wrote into the header covers the
    proposer's chain records, which a separate state store never holds.  Blocks produced by `TensorChain::commit`
    can only be replayed on replicas whose state store is their chain store. -/
theorem committed_block_rejected_by_separate_replica_witness :
    let n := runOps drvCrypto (initNode drvCrypto cfg0 5) [.begin, .put 0 1 1]
    let r := commit drvCrypto n 0 6
    r.2.res = some (.ok 1) ∧
    (blockAt r.1.chain.store 1).any (fun b =>
       decide ((applyBlock drvCrypto cfg0.registry { state := [], chain := n.chain, shared := true } b).2 = none) &&
       decide ((applyBlock drvCrypto cfg0.registry { state := [], chain := n.chain, shared := false } b).2
                 = some .stateRoot)) = true := by decide +kernel

/-! ## 8. commit calls under EVERY interleaving: what the `append` critical section guarantees -/

/-- FOR EVERY INTERLEAVING of the atomic steps of any number of `commit` calls (any schedule, finished or not, any
    workspaces — conflicting, orthogonal, merged, unknown), from every node state:
    the in-memory height is the old height plus the number of calls that have returned `Ok`; the heights these calls
    report are pairwise different and are exactly the heights above the old one up to the new one.  No two commits
    ever succeed for the same height and no height is skipped (the height check, the block write and the height
    update of `Chain::append` are one step).  This is the part of the concurrent-commit clause that holds of the
    code as it stands; the part that does not (the store may lose the winner's block, `concurrent_commit_witness`)
    is about the store image, not about this accounting. -/
theorem concurrent_heights_all_interleavings (C : Crypto) (n : Node) (ws : List Nat) (ts : Nat) (sched : List Nat) :
    let r := runSched C sched n (ws.map fun w => Local.init w ts)
    r.1.chain.height = n.chain.height + okCount r.2 ∧
    (okHeights r.2).Nodup ∧
    ∀ h, h ∈ okHeights r.2 ↔ n.chain.height < h ∧ h ≤ r.1.chain.height := by
  intro r
  have hinit : okHeights (ws.map fun w => Local.init w ts) = [] := by
    induction ws with
    | nil => rfl
    | cons w ws ih => simp [okHeights, Local.okH, Local.init]
  have hsettled : ∀ l ∈ ws.map (fun w => Local.init w ts), l.Settled := by
    intro l hl
    obtain ⟨w, _, rfl⟩ := List.mem_map.mp hl
    intro h
    simp [Local.isOk, Local.init] at h
  obtain ⟨hnd, hb, hlen⟩ := runSched_account C n.chain.height sched n _ hsettled (by rw [hinit]; exact List.nodup_nil)
    (fun h => ⟨fun hh => (by rw [hinit] at hh; cases hh), fun ⟨a, b⟩ => absurd a (Nat.not_lt.mpr b)⟩) (by rw [hinit]; rfl)
  exact ⟨by rw [okCount_eq]; exact hlen, hnd, hb⟩

/-- non-vacuity: the witness interleaving of `concurrent_commit_witness` (the loser's restore wipes the winner's
    block): still exactly one `Ok`, for height 1, and the in-memory height is 1 -/
example : okHeights witnessRun.2 = [1] ∧ witnessRun.1.chain.height = twoWs.chain.height + 1 := by decide +kernel

/-- CONCURRENT COMMITS ARE VALID UNLESS ONE FAILS LATE.  For EVERY interleaving of the atomic steps of any number of
    `commit` calls (2-4 or more; conflicting or orthogonal workspaces, auto-merge on or off, workspaces unknown or
    already finished), started on a chain that satisfies the invariant, with the node's key registered and a clock
    that is not behind the tip block: if, when the schedule ends, NO call has failed late (no `Chain::append`
    rejection after the writes were applied, hence no restore of a pre-apply snapshot), then the chain verifies, the
    invariant holds, and the height is the old height plus the number of `Ok` results — the full conclusion of
    `ConcurrentCommitsValid`.  So the only way overlapping commits can break the chain is the restore step of a losing
    commit (`concurrent_commit_witness`); successful overlapping commits never do. -/
theorem concurrent_commits_valid_unless_late_failure (C : Crypto) (hsc : SignCorrect C) (n : Node) (ws : List Nat)
    (ts : Nat) (sched : List Nat)
    (hreg : ∀ r, n.cfg.registry = some r → regLookup r n.cfg.nodeId = some n.cfg.key)
    (hinv : Inv C n.cfg.registry n.chain)
    (hts : ∀ t, blockAt n.chain.store n.chain.height = some t → t.header.timestamp ≤ ts) :
    let r := runSched C sched n (ws.map fun w => Local.init w ts)
    (∀ l ∈ r.2, ∀ e, l.res ≠ some (.appendFailed e)) →
      verifyChain C r.1.cfg.registry r.1.chain = none ∧ Inv C r.1.cfg.registry r.1.chain ∧
      r.1.chain.height = n.chain.height + okCount r.2 := by
  intro r hno
  have hwf : ∀ l ∈ ws.map (fun w => Local.init w ts), LocalWF C n.cfg ts l := by
    intro l hl
    obtain ⟨w, _, rfl⟩ := List.mem_map.mp hl
    exact localWF_init C n.cfg ts w
  obtain ⟨hcfg, hh⟩ := runSched_healthy C hsc n.cfg hreg ts sched n _ rfl hwf (Or.inl ⟨hinv, hts⟩)
  have hheight := (concurrent_heights_all_interleavings C n ws ts sched).1
  rcases hh with ⟨hinv', _⟩ | ⟨l, hl, e, he⟩
  · have hinv'' : Inv C r.1.cfg.registry r.1.chain := by rw [hcfg]; exact hinv'
    exact ⟨verify_complete C _ _ hinv''.ok, hinv'', hheight⟩
  · exact absurd he (hno l hl e)

/-- non-vacuity: the interleaving of `concurrent_commit_order_witness` (thread 0 applies, thread 1 commits completely,
    thread 0 finishes): both calls return `Ok`, none fails late, the chain has two more blocks and verifies
    (what that witness shows is a different defect: the STORE then disagrees with the replay of the chain) -/
example : (orderRun.2.all fun l => match l.res with | some (.appendFailed _) => false | _ => true) = true ∧
    okCount orderRun.2 = 2 ∧
    orderRun.1.chain.height = sameKeyWs.chain.height + 2 ∧
    verifyChain drvCrypto orderRun.1.cfg.registry orderRun.1.chain = none := by
  decide +kernel

end Neumann.Chain.Props
