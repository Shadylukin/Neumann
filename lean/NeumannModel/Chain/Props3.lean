import NeumannModel.Chain.Props2
import NeumannModel.Chain.Raw
/-
  C16 — property theorems, part 3: the chain's own records (`chain:block:<h>`, `chain:meta`) and the transactions'
  keys share one store; `add_operation` refuses keys under the reserved `chain:` prefix (repo commit b368f92a).
  What the check makes true — for EVERY key a client may name, every node state, every sequential history — and
  what was false before it (`…_old_witness`).  Section 10: restart over the crash states of `Chain::append` (block
  record written, height record not yet).  Same conventions as `Props.lean`.
-/
namespace Neumann.Chain.Props
open Neumann.Chain

/-! ## 9. the reserved `chain:` prefix -/

/-- `add_operation` REFUSES EVERY RESERVED KEY, from every node state, for every workspace and every transaction
    kind: the node (workspaces, operation lists, chain, store) is exactly as before, the result is never `Ok`, and
    on an active workspace it is the reserved-prefix error. -/
theorem add_operation_refuses_reserved_keys (n : Node) (w : Nat) (t : RawTx) (hr : t.key.reserved = true) :
    (addOperation n w t).1 = n ∧ (addOperation n w t).2 ≠ .ok ∧
    (∀ ws, findWs n.wss w = some ws → ws.state = .active → (addOperation n w t).2 = .reserved) := by
  have hn := narrow_none_of_reserved t hr
  unfold addOperation
  cases hf : findWs n.wss w with
  | none => exact ⟨rfl, by simp, by intro ws h; cases h⟩
  | some ws =>
    by_cases hs : ws.state = .active
    · simp [hs, hn]
    · refine ⟨by simp [hs], by simp [hs], ?_⟩
      intro ws' h h'
      cases h
      exact absurd h' hs

/-- non-vacuity: an active workspace on a chain of height 1; the block record, the genesis record and the height
    record are refused for put, delete and compare-and-swap; a data key is accepted -/
example : let n := runOps drvCrypto (initNode drvCrypto cfg0 0) [.begin, .put 0 1 1, .commit 0 5, .begin]
    (findWs n.wss 1).map (·.state) = some .active ∧
    addOperation n 1 (.put (.block 1) 1) = (n, .reserved) ∧ addOperation n 1 (.del (.block 0)) = (n, .reserved) ∧
    addOperation n 1 (.cas .chainMeta none 7) = (n, .reserved) ∧ (addOperation n 1 (.put (.data 4) 4)).2 = .ok ∧
    (addOperation n 0 (.put (.data 4) 4)).2 = .notActive := by decide +kernel

/-- ON EVERY OTHER KEY `add_operation` IS THE TYPED CALL of the model (`addOp`): same node afterwards, `Ok` exactly
    when `addOp` accepts — so the typed transactions `Tx` (data keys by construction) are exactly what workspaces
    hold and blocks carry. -/
theorem add_operation_unreserved_is_addOp (n : Node) (w : Nat) (t : RawTx) (hr : t.key.reserved = false) :
    ∃ t' : Tx, t'.raw = t ∧ (addOperation n w t).1 = (addOp n w t').1 ∧
      ((addOperation n w t).2 = .ok ↔ (addOp n w t').2 = true) := by
  obtain ⟨t', hn, hraw⟩ := narrow_some_of_unreserved t hr
  refine ⟨t', hraw, ?_⟩
  unfold addOperation addOp
  cases hf : findWs n.wss w with
  | none => exact ⟨rfl, by simp⟩
  | some ws =>
    by_cases hs : ws.state = .active
    · simp [hs, hn]
    · simp [hs]

/-- THE APPLY STEP, for the generic `apply_transaction_to_store` (which the fix did not touch): a list of
    transactions none of which names a reserved key leaves EVERY chain record — every block record, the height
    record — exactly as it was, whatever the store holds; and on typed transactions the generic apply is the typed
    apply of the model. -/
theorem apply_unreserved_keeps_chain_records (s : List (SKey × SVal)) (ops : List RawTx)
    (hall : ∀ t ∈ ops, t.key.reserved = false) (k : SKey) (hk : k.reserved = true) :
    sget (applyRawTxs s ops) k = sget s k :=
  sget_applyRawTxs_unreserved ops s hall k hk

theorem apply_typed_is_generic_apply (s : List (SKey × SVal)) (txs : List Tx) :
    applyRawTxs s (txs.map Tx.raw) = applyTxs s txs ∧ ∀ t ∈ txs.map Tx.raw, t.key.reserved = false := by
  refine ⟨applyRawTxs_raw txs s, ?_⟩
  intro t ht
  obtain ⟨t', _, rfl⟩ := List.mem_map.mp ht
  exact raw_key_unreserved t'

/-- non-vacuity, and what a reserved key does to the same store: three data-key operations leave block 1 and the
    height record alone; one put on `chain:block:1` replaces the block record -/
example : let s := (runOps drvCrypto (initNode drvCrypto cfg0 0) [.begin, .put 0 1 1, .commit 0 5]).chain.store
    (blockAt s 1).isSome = true ∧
    sget (applyRawTxs s [.put (.data 1) 9, .del (.data 1), .cas (.data 2) none 3]) (.block 1) = sget s (.block 1) ∧
    sget (applyRawTxs s [.put (.data 1) 9, .del (.data 1), .cas (.data 2) none 3]) .chainMeta = sget s .chainMeta ∧
    blockAt (applyRawTxs s [.put (.block 1) 1]) 1 = none := by decide +kernel

/-- side condition of one client call (`OpOk` for the typed calls; `add_operation` with any key and a restart are
    unconditional) -/
def OpCOk (n : Node) : OpC → Prop
  | .call o => OpOk n o
  | _ => True

instance (n : Node) (op : OpC) : Decidable (OpCOk n op) := by
  cases op <;> simp only [OpCOk] <;> infer_instance

/-- node states reachable from `TensorChain::initialize` through ANY sequential history of client calls in which
    `add_operation` may name ANY key — data keys, `chain:block:<h>` for any `h`, `chain:meta` — with put, delete
    or compare-and-swap, on any workspace, at any point; restarts included -/
inductive SeqReachC (C : Crypto) (cfg : Config) : Node → Prop where
  | init (ts : Nat) : SeqReachC C cfg (initNode C cfg ts)
  | step (n : Node) (op : OpC) : SeqReachC C cfg n → OpCOk n op → SeqReachC C cfg (stepOpC C n op)

/-- such a history reaches nothing the histories over data keys do not reach: a refused call changes nothing -/
theorem seqReachC_is_seqReachR (C : Crypto) (cfg : Config) (n : Node) (h : SeqReachC C cfg n) : SeqReachR C cfg n := by
  induction h with
  | init ts => exact SeqReachR.init ts
  | step n op _ hop ih =>
    cases op with
    | call o => exact SeqReachR.step n o ih hop
    | reopen ts => exact SeqReachR.reopen n ts ih
    | add w t =>
      simp only [stepOpC]
      rcases addOperation_cases C n w t with h | ⟨t', _, h⟩
      · rw [h]; exact ih
      · rw [h]
        exact SeqReachR.step n _ ih (by cases t' <;> simp [Tx.asOp, OpOk])

/-- THE SEQUENTIAL-HISTORY INVARIANT FOR EVERY KEY A CLIENT MAY NAME (what repo commit b368f92a makes true; before
    it: `workspace_write_to_chain_namespace_old_witness`).  After every sequential history of begin / add_operation
    with ANY key / delta / commit / rollback / restart: the chain invariant holds, the store's data image is the
    replay of the chain, the height record names the height with no block record above it — and `verify()` returns
    `Ok`.  A chain built only through the public interface verifies, whatever keys the transactions tried to write. -/
theorem sequential_history_invariant_any_key (C : Crypto) (cfg : Config) (hsc : SignCorrect C)
    (hown : cfg.registry = some [(cfg.nodeId, cfg.key)]) (n : Node) (h : SeqReachC C cfg n) :
    NodeInv C cfg n ∧ verifyChain C n.cfg.registry n.chain = none :=
  sequential_history_invariant_restart C cfg hsc hown n (seqReachC_is_seqReachR C cfg n h)

/-- NO CLIENT CALL CHANGES A CHAIN RECORD EXCEPT THROUGH `Chain::append`.  At every state of every such history,
    for every next call: either every chain record (every block record at every height, the height record) reads
    exactly as before the call, or the call is a `commit` that returned `Ok(height + 1)` and the only chain records
    that differ are the ones `Chain::append` writes — the new block record at `height + 1` and the height record.
    In particular every block record at or below the height stays what it was, for ever. -/
theorem chain_records_change_only_through_append (C : Crypto) (cfg : Config) (hsc : SignCorrect C)
    (hown : cfg.registry = some [(cfg.nodeId, cfg.key)]) (n : Node) (h : SeqReachC C cfg n)
    (op : OpC) (hop : OpCOk n op) :
    let n' := stepOpC C n op
    ((∀ k : SKey, k.reserved = true → sget n'.chain.store k = sget n.chain.store k) ∨
     (∃ w ts, op = .call (.commit w ts) ∧ (commit C n w ts).2.res = some (.ok (n.chain.height + 1)) ∧
        ∀ k : SKey, k.reserved = true → k ≠ .block (n.chain.height + 1) → k ≠ .chainMeta →
          sget n'.chain.store k = sget n.chain.store k)) ∧
    ∀ j, j ≤ n.chain.height → blockAt n'.chain.store j = blockAt n.chain.store j := by
  intro n'
  cases op with
  | add w t =>
    rw [show n'.chain = n.chain from (addOperation_chain n w t).2]
    exact ⟨Or.inl fun _ _ => rfl, fun _ _ => rfl⟩
  | reopen ts =>
    obtain ⟨hN, _⟩ := sequential_history_invariant_any_key C cfg hsc hown n h
    obtain ⟨_, _, hs⟩ := openChain_healthy C cfg.registry n.chain n.cfg.nodeId ts hN.hinv hN.hmeta
    exact ⟨Or.inl fun k _ => hs k, fun j _ => storeEq_blockAt hs j⟩
  | call o =>
    have hroll : ∀ w, o = .rollback w → ∀ ws, findWs n.wss w = some ws → ws.state = .committed ∨ ws.snap = n.chain.store :=
      fun w e ws h => by subst e; simpa only [OpCOk, OpOk, h] using hop
    cases o with
    | commit w ts =>
      rcases commit_atomic C n w ts with ⟨b, ws, extra, hres, _, _, _, _, hst⟩ | ⟨hc, _⟩
      · have key : ∀ k : SKey, k.reserved = true → k ≠ .block (n.chain.height + 1) → k ≠ .chainMeta →
            sget n'.chain.store k = sget n.chain.store k := by
          intro k hk h1 h2
          show sget (commit C n w ts).1.chain.store k = _
          rw [hst, sget_sput_ne _ _ _ _ (Ne.symm h2), sget_sput_ne _ _ _ _ (Ne.symm h1)]
          exact sget_applyTxs_reserved _ _ k hk
        refine ⟨Or.inr ⟨w, ts, rfl, hres, key⟩, fun j hj => ?_⟩
        show blockAt (commit C n w ts).1.chain.store j = _
        rw [hst, blockAt_appended_old _ _ _ _ j (by omega), blockAt_applyTxs]
      · rw [show n'.chain = n.chain from hc]
        exact ⟨Or.inl fun _ _ => rfl, fun _ _ => rfl⟩
    | _ =>
      rw [show n'.chain = n.chain from (stepOp_chain C n _ hroll (by nofun)).2]
      exact ⟨Or.inl fun _ _ => rfl, fun _ _ => rfl⟩

/-- every op list whose calls satisfy their side condition where they are issued is such a history -/
theorem seqReachC_of_runOpsC (C : Crypto) (cfg : Config) :
    ∀ (ops : List OpC) (n : Node), SeqReachC C cfg n →
      (∀ i (h : i < ops.length), OpCOk (runOpsC C n (ops.take i)) ops[i]) →
      SeqReachC C cfg (runOpsC C n ops) :=
  foldl_mem_of_closed (SeqReachC C cfg) (stepOpC C) OpCOk .step

/-- non-vacuity: block 1; a workspace that is handed `Put{chain:block:1}`, `Delete{chain:meta}`,
    `CompareAndSwap{chain:block:0}` (all refused) and one data-key put, committed as block 2; a restart; the same
    attempts on a finished workspace.  The history is in `SeqReachC`, ends at height 2 with block record 1 intact. -/
def exReservedHistory : List OpC :=
  [.call .begin, .call (.put 0 1 1), .call (.commit 0 5), .call .begin, .add 1 (.put (.block 1) 1), .add 1 (.del .chainMeta),
   .add 1 (.cas (.block 0) none 3), .add 1 (.put (.data 4) 4), .call (.commit 1 6), .reopen 7, .add 1 (.del (.block 2))]

example : SeqReachC drvCrypto cfgOwn (runOpsC drvCrypto (initNode drvCrypto cfgOwn 0) exReservedHistory) ∧
    (runOpsC drvCrypto (initNode drvCrypto cfgOwn 0) exReservedHistory).chain.height = 2 ∧
    (blockAt (runOpsC drvCrypto (initNode drvCrypto cfgOwn 0) exReservedHistory).chain.store 1).map (·.txs) = some [.put 1 1] ∧
    (blockAt (runOpsC drvCrypto (initNode drvCrypto cfgOwn 0) exReservedHistory).chain.store 2).map (·.txs) = some [.put 4 4] :=
  And.imp_left (fun h => seqReachC_of_runOpsC _ _ _ _ (.init 0) (foldOk_spec (stepOpC drvCrypto) OpCOk _ _ h)) (by decide +kernel)

/-- WITNESS (the code before repo commit b368f92a, `commitOld`): on a verifying chain of height 1, a workspace
    holding `Put{key: "chain:block:1"}` committed successfully as block 2; the apply step had replaced the record of
    block 1 by the transaction's data, and `verify()` then failed at block 1 although only begin / put / commit
    were used.  `Delete` on the same key: the record is gone, same verdict.  With the check, both operations are
    refused and the node is untouched. -/
theorem workspace_write_to_chain_namespace_old_witness :
    let n := runOps drvCrypto (initNode drvCrypto cfg0 0) [.begin, .put 0 1 1, .commit 0 5, .begin]
    let p := commitOld drvCrypto n [.put (.block 1) 1] 6
    let d := commitOld drvCrypto n [.del (.block 1)] 6
    n.chain.height = 1 ∧ verifyChain drvCrypto cfg0.registry n.chain = none ∧
    p.2 = .ok 2 ∧ sget p.1.chain.store (.block 1) = some (.data 1) ∧ (blockAt p.1.chain.store 2).isSome = true ∧
    verifyChain drvCrypto cfg0.registry p.1.chain = some (.notFound 1) ∧
    d.2 = .ok 2 ∧ sget d.1.chain.store (.block 1) = none ∧
    verifyChain drvCrypto cfg0.registry d.1.chain = some (.notFound 1) ∧
    addOperation n 1 (.put (.block 1) 1) = (n, .reserved) ∧ addOperation n 1 (.del (.block 1)) = (n, .reserved) := by
  decide +kernel

/-- `commitOld` is the commit pipeline: on a data key it does what `commit` does (same result, same data image,
    same verdict) -/
example : let n := runOps drvCrypto (initNode drvCrypto cfg0 0) [.begin, .put 0 1 1, .commit 0 5, .begin, .put 1 2 2]
    (commitOld drvCrypto n [.put (.data 2) 2] 6).2 = .ok 2 ∧ (commit drvCrypto n 1 6).2.res = some (.ok 2) ∧
    (∀ k ∈ [0, 1, 2, 3], sget (commitOld drvCrypto n [.put (.data 2) 2] 6).1.chain.store (.data k)
        = sget (commit drvCrypto n 1 6).1.chain.store (.data k)) ∧
    verifyChain drvCrypto cfg0.registry (commitOld drvCrypto n [.put (.data 2) 2] 6).1.chain = none ∧
    verifyChain drvCrypto cfg0.registry (commit drvCrypto n 1 6).1.chain = none := by decide +kernel

/-! ## 10. restart over a crash state of `Chain::append` (block record written, height record not yet) -/

/-- the write list IS what `append` does to the store: the store of an accepted append is the old store with both
    writes applied, in that order (so `appendCrashStore … k`, `k = 0, 1, 2`, are exactly the stores a process can
    leave behind when it stops inside `append`) -/
theorem append_store_is_its_writes (C : Crypto) (reg : Option (List (List Nat × Nat))) (c c' : ChainSt) (b : Block)
    (h : append C reg c b = .ok c') (k : Nat) : c'.store = appendCrashStore C c b (k + 2) := by
  obtain ⟨_, _, _, _, hc'⟩ := append_ok_inv C reg c c' b h
  rw [appendCrashStore_all, hc']

/-- RESTART OVER EVERY CRASH STATE OF `append`, every chain length, every accepted block, every number `k` of store
    writes done when the process stopped.  `c` is any chain satisfying the chain invariant with its height record in
    place, `b` any block `append` accepts (with the two facts `verify_chain` checks and `append` does not, as in
    `inv_append`).  A NEW `Chain` object + `initialize()` over the store left behind:
    * `k = 0` (nothing written): height and tip of `c`;
    * `k ≥ 1` (block record written — with or without the height record): height `c.height + 1` and the tip is the
      hash of the block just stored, i.e. exactly the head of the completed append `c'`, over the same records;
    * in every case the tip is the hash of the stored block at the recovered height, the height record names the
      recovered height, the chain verifies and satisfies the invariants again — so every later append / commit
      continues a verifying chain (`sequential_history_invariant_append_crash`). -/
theorem reopen_after_append_crash_recovers_tip (C : Crypto) (reg : Option (List (List Nat × Nat))) (c c' : ChainSt)
    (b : Block) (p : List Nat) (ts k : Nat)
    (hinv : Inv C reg c) (hm : MetaInv c) (happ : append C reg c b = .ok c')
    (hts : ∀ t, blockAt c.store c.height = some t → t.header.timestamp ≤ b.header.timestamp)
    (hsig1 : c.height = 0 → regSigOk C reg (fixTxRoot C b).header = true) :
    let r := openChain C (appendCrashStore C c b k) p ts
    (k = 0 → r.height = c.height ∧ r.tip = c.tip ∧ StoreEq r.store c.store) ∧
    (1 ≤ k → r.height = c.height + 1 ∧ r.tip = (fixTxRoot C b).header.hash C ∧
              r.height = c'.height ∧ r.tip = c'.tip ∧ StoreEq r.store c'.store) ∧
    (∃ t, blockAt r.store r.height = some t ∧ r.tip = t.header.hash C) ∧
    loadHeight r.store = some r.height ∧
    verifyChain C reg r = none ∧ Inv C reg r ∧ MetaInv r := by
  intro r
  have hinv' : Inv C reg c' := inv_append C reg c c' b hinv happ hts hsig1
  obtain ⟨_, _, _, _, hc'⟩ := append_ok_inv C reg c c' b happ
  have hm' : MetaInv c' := by
    rw [hc']
    exact metaInv_commit c [] (fixTxRoot C b) _ hm
  -- the recovered chain agrees with `c` (k = 0) or with `c'` (k ≥ 1) in height, tip and records
  cases k with
  | zero =>
    obtain ⟨hh, ht, hs⟩ := openChain_healthy C reg c p ts hinv hm
    obtain ⟨hi, hmr, hv, hl⟩ := healthy_congr C reg c r hinv hm hh ht hs
    exact ⟨fun _ => ⟨hh, ht, hs⟩, fun h1 => absurd h1 (Nat.not_succ_le_zero 0), hi.tip, hl, hv, hi, hmr⟩
  | succ k =>
    obtain ⟨t, htip, _⟩ := hinv.tip
    obtain ⟨hh, ht, hs⟩ := openChain_appendCrash C reg c c' b p ts (k + 1) hm (by rw [htip]; rfl) happ (Nat.le_add_left 1 k)
    obtain ⟨hi, hmr, hv, hl⟩ := healthy_congr C reg c' r hinv' hm' hh ht hs
    exact ⟨fun h0 => absurd h0 (Nat.succ_ne_zero k), fun _ => ⟨by rw [hh, hc'], by rw [ht, hc'], hh, ht, hs⟩,
      hi.tip, hl, hv, hi, hmr⟩

/-- non-vacuity: the genesis-only chain and the concrete block `exBlock1` of `Props.lean` satisfy the hypotheses
    (`append` accepts the block), and over "block record 1 written, height record still 0" a restart finds
    height 1 with the hash of block 1 as tip -/
example : Inv drvCrypto (some [([1], 1)]) (initChain drvCrypto [] [1] 10) ∧ MetaInv (initChain drvCrypto [] [1] 10) ∧
    (match append drvCrypto (some [([1], 1)]) (initChain drvCrypto [] [1] 10) exBlock1 with
      | .ok c => decide (c = exChain1) | .error _ => false) = true ∧
    loadHeight (appendCrashStore drvCrypto (initChain drvCrypto [] [1] 10) exBlock1 1) = some 0 ∧
    (openChain drvCrypto (appendCrashStore drvCrypto (initChain drvCrypto [] [1] 10) exBlock1 1) [1] 99).height = 1 ∧
    (openChain drvCrypto (appendCrashStore drvCrypto (initChain drvCrypto [] [1] 10) exBlock1 1) [1] 99).tip
      = exBlock1.header.hash drvCrypto :=
  ⟨inv_init _ _ _ _ _, metaInv_init _ _ _, by decide +kernel⟩

/-- node states reachable through ANY sequential history of client calls with restarts (`SeqReachR`) in which, in
    addition, the process may STOP INSIDE THE `Chain::append` OF ANY COMMIT — after the block record was written,
    with or without the height record (`commitCrashInAppend`, `k ≥ 1`) — and be restarted over the store left
    behind, any number of times -/
inductive SeqReachK (C : Crypto) (cfg : Config) : Node → Prop where
  | init (ts : Nat) : SeqReachK C cfg (initNode C cfg ts)
  | step (n : Node) (op : Op) : SeqReachK C cfg n → OpOk n op → SeqReachK C cfg (stepOp C n op)
  | reopen (n : Node) (ts : Nat) : SeqReachK C cfg n → SeqReachK C cfg (reopenNode C n ts)
  | crash (n nc : Node) (w ts k ts' : Nat) : SeqReachK C cfg n → OpOk n (.commit w ts) → 1 ≤ k →
      commitCrashInAppend C n w ts k = some nc → SeqReachK C cfg (reopenNode C nc ts')

/-- a history without crashes is such a history -/
theorem seqReachK_of_seqReachR (C : Crypto) (cfg : Config) (n : Node) (h : SeqReachR C cfg n) : SeqReachK C cfg n := by
  induction h with
  | init ts => exact .init ts
  | step n op _ hop ih => exact .step n op ih hop
  | reopen n ts _ ih => exact .reopen n ts ih

/-- A COMMIT THAT STOPS INSIDE ITS `append` AFTER THE BLOCK RECORD WAS WRITTEN IS, AFTER THE RESTART, THE COMPLETED
    COMMIT: from every node state whose chain has its height record in place and its tip block stored, the
    restarted node has the configuration's identity, height and tip of the node the uninterrupted `commit` returns
    (one block more than before), over a store holding the same records. -/
theorem reopen_after_commit_crash_is_completed_commit (C : Crypto) (n nc : Node) (w ts k ts' : Nat) (hk : 1 ≤ k)
    (hm : MetaInv n.chain) (htip : (blockAt n.chain.store n.chain.height).isSome = true)
    (hc : commitCrashInAppend C n w ts k = some nc) :
    (reopenNode C nc ts').chain.height = (commit C n w ts).1.chain.height ∧
    (reopenNode C nc ts').chain.tip = (commit C n w ts).1.chain.tip ∧
    (∀ key, sget (reopenNode C nc ts').chain.store key = sget (commit C n w ts).1.chain.store key) ∧
    (reopenNode C nc ts').chain.height = n.chain.height + 1 := by
  obtain ⟨_, hh, ht, hs, h1⟩ := reopen_commitCrash C n nc w ts k ts' hk hm htip hc
  exact ⟨hh, ht, hs, by rw [← h1]; exact hh⟩

/-- THE SEQUENTIAL-HISTORY INVARIANT WITH RESTARTS AND CRASHES INSIDE `append`.  After every such history the
    configuration is the original one, the chain invariant holds (in particular the in-memory tip is the hash of
    the stored block at the in-memory height), the store's data image is the replay of the chain, the height record
    names the height with no block record above it — and `verify()` returns `Ok`.  So a chain built through
    begin / commit keeps verifying whatever crash of this kind and restart lies behind it. -/
theorem sequential_history_invariant_append_crash (C : Crypto) (cfg : Config) (hsc : SignCorrect C)
    (hown : cfg.registry = some [(cfg.nodeId, cfg.key)]) (n : Node) (h : SeqReachK C cfg n) :
    NodeInv C cfg n ∧ verifyChain C n.cfg.registry n.chain = none ∧
    (∃ t, blockAt n.chain.store n.chain.height = some t ∧ n.chain.tip = t.header.hash C) := by
  have hreg := regLookup_own cfg hown
  suffices hN : NodeInv C cfg n from ⟨hN, by rw [hN.hcfg]; exact verify_complete C _ _ hN.hinv.ok, hN.hinv.tip⟩
  induction h with
  | init ts => exact nodeInv_init C cfg ts
  | step n op _ hop ih => exact stepOp_nodeInv C cfg hsc hreg n op hop ih
  | reopen n ts _ ih => exact nodeInv_reopen C cfg hown n ts ih
  | crash n nc w ts k ts' _ hop hk hc ih =>
    obtain ⟨t, htip, _⟩ := ih.hinv.tip
    obtain ⟨hcfgc, hh, ht, hs, _⟩ := reopen_commitCrash C n nc w ts k ts' hk ih.hmeta (by rw [htip]; rfl) hc
    exact nodeInv_congr C cfg _ _ (stepOp_nodeInv C cfg hsc hreg n (.commit w ts) hop ih)
      (reopenNode_cfg C cfg hown nc (hcfgc.trans ih.hcfg) ts') hh ht hs

/-- every op list whose calls satisfy `OpOk` where they are issued continues such a history -/
theorem seqReachK_of_runOps (C : Crypto) (cfg : Config) :
    ∀ (ops : List Op) (n : Node), SeqReachK C cfg n → (∀ i (h : i < ops.length), OpOk (runOps C n (ops.take i)) ops[i]) →
      SeqReachK C cfg (runOps C n ops) :=
  foldl_mem_of_closed (SeqReachK C cfg) (stepOp C) OpOk .step

/-- the node of the examples below: block 1 committed, a second workspace with one write still active -/
def exCrashPre : Node :=
  runOps drvCrypto (initNode drvCrypto cfgOwn 0) [.begin, .put 0 1 1, .commit 0 5, .begin, .put 1 2 2]

/-- `commit 1` stops inside `append`: block record 2 written, height record still 1 -/
def exCrashed : Node := (commitCrashInAppend drvCrypto exCrashPre 1 6 1).getD exCrashPre

/-- restart over the crash state, one more commit, a second restart, another commit -/
def exCrashHistoryEnd : Node :=
  runOps drvCrypto (reopenNode drvCrypto (runOps drvCrypto (reopenNode drvCrypto exCrashed 9)
    [.begin, .put 2 3 3, .commit 2 10]) 11) [.begin, .put 3 4 4, .commit 3 12]

/-- non-vacuity: the crash state is reached (`some`), it holds block record 2 under height record 1; the restart +
    one more commit + a second restart + another commit is a history in `SeqReachK` and ends at height 4; right after
    the first restart the tip is the hash of block 2, and at the end every block names its predecessor
    (`verifyChain = none`) -/
example : commitCrashInAppend drvCrypto exCrashPre 1 6 1 = some exCrashed ∧
    loadHeight exCrashed.chain.store = some 1 ∧ (blockAt exCrashed.chain.store 2).isSome = true ∧
    (reopenNode drvCrypto exCrashed 9).chain.height = 2 ∧
    SeqReachK drvCrypto cfgOwn exCrashHistoryEnd ∧ exCrashHistoryEnd.chain.height = 4 ∧
    (blockAt (reopenNode drvCrypto exCrashed 9).chain.store 2).map (·.header.hash drvCrypto)
      = some (reopenNode drvCrypto exCrashed 9).chain.tip ∧
    verifyChain drvCrypto exCrashHistoryEnd.cfg.registry exCrashHistoryEnd.chain = none := by
  -- the side conditions that put the history in `SeqReachK` take the place of that conjunct: one evaluation decides all
  have reach : foldOk (stepOp drvCrypto) OpOk (initNode drvCrypto cfgOwn 0) [.begin, .put 0 1 1, .commit 0 5, .begin, .put 1 2 2] = true ∧
      OpOk exCrashPre (.commit 1 6) ∧ commitCrashInAppend drvCrypto exCrashPre 1 6 1 = some exCrashed ∧
      foldOk (stepOp drvCrypto) OpOk (reopenNode drvCrypto exCrashed 9) [.begin, .put 2 3 3, .commit 2 10] = true ∧
      foldOk (stepOp drvCrypto) OpOk (reopenNode drvCrypto (runOps drvCrypto (reopenNode drvCrypto exCrashed 9)
        [.begin, .put 2 3 3, .commit 2 10]) 11) [.begin, .put 3 4 4, .commit 3 12] = true →
      SeqReachK drvCrypto cfgOwn exCrashHistoryEnd := fun ⟨h0, hop, hc, h2, h3⟩ =>
    seqReachK_of_runOps _ _ _ _ (.reopen _ 11 (seqReachK_of_runOps _ _ _ _
      (.crash exCrashPre exCrashed 1 6 1 9 (seqReachK_of_runOps _ _ _ _ (.init 0) (foldOk_spec _ _ _ _ h0)) hop (Nat.le_refl 1) hc)
      (foldOk_spec _ _ _ _ h2))) (foldOk_spec _ _ _ _ h3)
  exact And.imp_right (And.imp_right (And.imp_right (And.imp_right (And.imp_left reach)))) (by decide +kernel)

/-- the restart over `exCrashed` as the code does it -/
def exReopened : Node := reopenNode drvCrypto exCrashed 9

/-- the same restart with the tip taken from the block the walk back stopped at (`openChainWalkBackTip`) -/
def exReopenedStale : Node := { exReopened with chain := openChainWalkBackTip drvCrypto exCrashed.chain.store [1] 9 }

/-- the next workspace after the restart: begin, one put (committed as workspace 2) -/
def exNext : List Op := [.begin, .put 2 3 3]

/-- WITNESS (the variant of `initialize` that reuses the block found by the walk BACK for the tip,
    `openChainWalkBackTip`; regression fixture seeded/C16_2): over the same crash state — block record 2 written,
    height record 1 — it also reports height 2 and the stored chain verifies, but its tip is the hash of block 1,
    not of block 2.  The next commit through the public interface (begin / put / commit) returns `Ok(3)`: `append`
    compares the block's predecessor hash only with the in-memory tip.  Block 3 names block 1 as its predecessor
    and `verify()` fails with the predecessor-hash error — on the current `openChain` the same history verifies. -/
theorem cached_walk_back_tip_breaks_chain_witness :
    exReopened.chain.height = 2 ∧ exReopenedStale.chain.height = 2 ∧ exReopenedStale.chain.store = exReopened.chain.store ∧
    (blockAt exReopened.chain.store 2).map (·.header.hash drvCrypto) = some exReopened.chain.tip ∧
    (blockAt exReopenedStale.chain.store 2).map (·.header.hash drvCrypto) ≠ some exReopenedStale.chain.tip ∧
    (blockAt exReopenedStale.chain.store 1).map (·.header.hash drvCrypto) = some exReopenedStale.chain.tip ∧
    verifyChain drvCrypto exReopenedStale.cfg.registry exReopenedStale.chain = none ∧
    (commit drvCrypto (runOps drvCrypto exReopenedStale exNext) 2 10).2.res = some (.ok 3) ∧
    verifyChain drvCrypto exReopenedStale.cfg.registry (commit drvCrypto (runOps drvCrypto exReopenedStale exNext) 2 10).1.chain
      = some .prevHash ∧
    (commit drvCrypto (runOps drvCrypto exReopened exNext) 2 10).2.res = some (.ok 3) ∧
    verifyChain drvCrypto exReopened.cfg.registry (commit drvCrypto (runOps drvCrypto exReopened exNext) 2 10).1.chain = none :=
  by decide +kernel

end Neumann.Chain.Props
