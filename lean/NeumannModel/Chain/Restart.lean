import NeumannModel.Chain.Commit
namespace Neumann.Chain

/-- what `Chain::initialize` relies on when it re-derives the head from the store: the height record names the
    in-memory height and no block record lies above it -/
structure MetaInv (c : ChainSt) : Prop where
  heightRec : sget c.store .chainMeta = some (.height c.height)
  top : ∀ j, c.height < j → blockAt c.store j = none

theorem metaInv_init (C : Crypto) (p : List Nat) (ts : Nat) : MetaInv (initChain C [] p ts) :=
  ⟨sget_sput_same .., fun j hj => (blockAt_appended_old [] 0 _ _ j (Nat.ne_of_gt hj)).trans rfl⟩

theorem metaInv_applyTxs (c : ChainSt) (txs : List Tx) (h : MetaInv c) :
    MetaInv { c with store := applyTxs c.store txs } :=
  ⟨(sget_applyTxs_reserved _ _ _ rfl).trans h.heightRec, fun j hj => (blockAt_applyTxs _ _ j).trans (h.top j hj)⟩

theorem metaInv_commit (c : ChainSt) (txs : List Tx) (b : Block) (tip' : List Nat) (h : MetaInv c) :
    MetaInv { store := sput (sput (applyTxs c.store txs) (.block (c.height + 1)) (.block b)) .chainMeta (.height (c.height + 1)),
              height := c.height + 1, tip := tip' } :=
  ⟨sget_sput_same .., fun j hj =>
    (blockAt_appended_old _ _ _ _ j (Nat.ne_of_gt hj)).trans ((blockAt_applyTxs _ _ j).trans (h.top j (Nat.lt_of_succ_lt hj)))⟩

theorem metaInv_congr (c c' : ChainSt) (hs : StoreEq c'.store c.store) (hh : c'.height = c.height)
    (h : MetaInv c) : MetaInv c' :=
  ⟨by rw [hs, hh]; exact h.heightRec, fun j hj => by rw [storeEq_blockAt hs]; exact h.top j (by omega)⟩

theorem dataInv_congr (c c' : ChainSt) (hs : StoreEq c'.store c.store) (hh : c'.height = c.height)
    (h : DataInv c) : DataInv c' := by
  intro k
  rw [hs (.data k), hh, chainTxs_congr c.store c'.store c.height (fun j _ => storeEq_blockAt hs j)]
  exact h k

theorem walkBack_present (s : List (SKey × SVal)) (h : Nat) (hp : h = 0 ∨ (blockAt s h).isSome = true) : walkBack s h = h := by
  cases h with
  | zero => rfl
  | succ h =>
    rcases hp with hp | hp
    · omega
    · simp [walkBack, hp]

theorem walkFwd_absent (s : List (SKey × SVal)) (f h : Nat) (ha : blockAt s (h + 1) = none) : walkFwd s f h = h := by
  cases f with
  | zero => rfl
  | succ f => simp [walkFwd, ha]

theorem openChain_eq (C : Crypto) (c : ChainSt) (p : List Nat) (ts : Nat) (t : Block) (hm : MetaInv c)
    (ht : blockAt c.store c.height = some t) :
    openChain C c.store p ts =
      { store := sput c.store .chainMeta (.height c.height), height := c.height, tip := t.header.hash C } := by
  have hl : loadHeight c.store = some c.height := by simp only [loadHeight, hm.heightRec]
  have hb : walkBack c.store c.height = c.height := walkBack_present _ _ (Or.inr (by rw [ht]; rfl))
  have hf : walkFwd c.store c.store.length c.height = c.height := walkFwd_absent _ _ _ (hm.top _ (Nat.lt_succ_self _))
  simp only [openChain, hl, hb, hf, ht]

theorem openChain_healthy (C : Crypto) (reg : Option (List (List Nat × Nat))) (c : ChainSt) (p : List Nat) (ts : Nat)
    (hinv : Inv C reg c) (hm : MetaInv c) :
    (openChain C c.store p ts).height = c.height ∧ (openChain C c.store p ts).tip = c.tip ∧
    StoreEq (openChain C c.store p ts).store c.store := by
  obtain ⟨t, ht, htip⟩ := hinv.tip
  rw [openChain_eq C c p ts t hm ht]
  exact ⟨rfl, htip.symm, sput_storeEq_of_sget _ _ _ hm.heightRec⟩

theorem healthy_congr (C : Crypto) (reg : Option (List (List Nat × Nat))) (d r : ChainSt) (hd : Inv C reg d) (hmd : MetaInv d)
    (hh : r.height = d.height) (ht : r.tip = d.tip) (hs : StoreEq r.store d.store) :
    Inv C reg r ∧ MetaInv r ∧ verifyChain C reg r = none ∧ loadHeight r.store = some r.height := by
  have hi : Inv C reg r := inv_congr C reg d r (fun j => storeEq_blockAt hs j) hh ht hd
  have hmr : MetaInv r := metaInv_congr d r hs hh hmd
  exact ⟨hi, hmr, verify_complete C reg r hi.ok, by simp only [loadHeight, hmr.heightRec]⟩

theorem appendCrashStore_zero (C : Crypto) (c : ChainSt) (b : Block) : appendCrashStore C c b 0 = c.store := rfl

theorem appendCrashStore_one (C : Crypto) (c : ChainSt) (b : Block) :
    appendCrashStore C c b 1 = sput c.store (.block (c.height + 1)) (.block (fixTxRoot C b)) := rfl

theorem appendCrashStore_all (C : Crypto) (c : ChainSt) (b : Block) (k : Nat) :
    appendCrashStore C c b (k + 2) =
      sput (sput c.store (.block (c.height + 1)) (.block (fixTxRoot C b))) .chainMeta (.height (c.height + 1)) := by
  simp [appendCrashStore, appendWrites, putAll]

/-- `initialize` over a store whose height record is one behind: the walk back stays at the recorded height (its block
    is there), the walk forward finds exactly the next block, the tip is read at the final height, the corrected
    height is saved -/
theorem openChain_one_behind (C : Crypto) (s : List (SKey × SVal)) (h : Nat) (b' : Block) (p : List Nat) (ts : Nat)
    (hl : loadHeight s = some h) (hcur : (blockAt s h).isSome = true) (hnew : blockAt s (h + 1) = some b')
    (htop : blockAt s (h + 2) = none) :
    openChain C s p ts = { store := sput s .chainMeta (.height (h + 1)), height := h + 1, tip := b'.header.hash C } := by
  have hb : walkBack s h = h := walkBack_present _ _ (Or.inr hcur)
  have hf : walkFwd s s.length h = h + 1 := by
    cases hlen : s.length with
    | zero =>
      rw [List.length_eq_zero_iff.mp hlen] at hnew
      cases hnew
    | succ f =>
      rw [walkFwd]
      simp only [hnew, Option.isSome_some, if_true]
      exact walkFwd_absent _ _ _ htop
  simp only [openChain, hl, hb, hf, hnew]

theorem openChain_appendCrash (C : Crypto) (reg : Option (List (List Nat × Nat))) (c c' : ChainSt) (b : Block) (p : List Nat)
    (ts k : Nat) (hm : MetaInv c) (htip : (blockAt c.store c.height).isSome = true) (happ : append C reg c b = .ok c')
    (hk : 1 ≤ k) :
    (openChain C (appendCrashStore C c b k) p ts).height = c'.height ∧
    (openChain C (appendCrashStore C c b k) p ts).tip = c'.tip ∧
    StoreEq (openChain C (appendCrashStore C c b k) p ts).store c'.store := by
  obtain ⟨_, _, _, _, rfl⟩ := append_ok_inv C reg c c' b happ
  match k, hk with
  | 1, _ =>
    -- block record written, height record still the old one: literally the state the completed append leaves
    rw [appendCrashStore_one, openChain_one_behind C _ c.height (fixTxRoot C b) p ts
      (by simp only [loadHeight]; rw [sget_sput_ne _ (.block (c.height + 1)) .chainMeta _ nofun, hm.heightRec])
      (by rw [blockAt_sput_block_ne (Nat.succ_ne_self _)]; exact htip) (blockAt_sput_same ..)
      (by rw [blockAt_sput_block_ne (by omega)]; exact hm.top _ (by omega))]
    exact ⟨rfl, rfl, fun _ => rfl⟩
  | k + 2, _ =>
    rw [appendCrashStore_all]
    have := openChain_eq C _ p ts (fixTxRoot C b) (metaInv_commit c [] (fixTxRoot C b) ((fixTxRoot C b).header.hash C) hm)
      (blockAt_appended_new ..)
    rw [show applyTxs c.store [] = c.store from rfl] at this
    rw [this]
    exact ⟨rfl, rfl, sput_storeEq_of_sget _ _ _ (sget_sput_same ..)⟩

theorem reopen_commitCrash (C : Crypto) (n nc : Node) (w ts k ts' : Nat) (hk : 1 ≤ k)
    (hm : MetaInv n.chain) (htip : (blockAt n.chain.store n.chain.height).isSome = true)
    (hc : commitCrashInAppend C n w ts k = some nc) :
    nc.cfg = n.cfg ∧
    (openChain C nc.chain.store nc.cfg.nodeId ts').height = (commit C n w ts).1.chain.height ∧
    (openChain C nc.chain.store nc.cfg.nodeId ts').tip = (commit C n w ts).1.chain.tip ∧
    StoreEq (openChain C nc.chain.store nc.cfg.nodeId ts').store (commit C n w ts).1.chain.store ∧
    (commit C n w ts).1.chain.height = n.chain.height + 1 := by
  unfold commitCrashInAppend at hc
  rw [commit_split]
  rw [show commitRun C 5 n (Local.init w ts) = _ from commitRun_succ (by nofun)] at hc
  obtain ⟨hcfg, hch, _, hcase⟩ := prepare_spec C n (Local.init w ts) rfl _ rfl
  generalize commitStep C n (Local.init w ts) = q at hc hcfg hch hcase ⊢
  obtain ⟨n1, l1⟩ := q
  dsimp only at hc hcfg hch hcase ⊢
  -- a call that returns at its first step never reaches `append`
  have hdone : l1.pc ≠ .done := fun hd => by
    rw [commitRun_done hd] at hc
    dsimp only at hc
    rw [hd] at hc
    cases hc
  rcases hcase with ⟨hq, _⟩ | ⟨ws, _, _, ⟨res, _, _, hl, _⟩ | ⟨_, hl⟩⟩
  · cases hq; exact absurd rfl hdone
  · cases hl; exact absurd rfl hdone
  · have hpc : l1.pc = .snapshot := by rw [hl]
    rw [pipeline_to_append hpc] at hc
    unfold Local.atAppend at hc
    dsimp only at hc
    cases happ : commitAppend C n1 l1 with
    | error e => rw [show append _ _ _ _ = _ from happ] at hc; cases hc
    | ok c' =>
      rw [show append _ _ _ _ = _ from happ] at hc
      cases hc
      rw [pipeline_ok hpc happ]
      obtain ⟨hh, ht, hs⟩ := openChain_appendCrash C _ _ c' _ n1.cfg.nodeId ts' k
        (metaInv_applyTxs n1.chain l1.ops (by rw [hch]; exact hm)) (by rw [blockAt_applyTxs, hch]; exact htip) happ hk
      exact ⟨hcfg, hh, ht, hs, by rw [finish_chain, append_applied_ok _ happ, hch]⟩

/-- the transactions of the genesis block (none on a chain built through the public interface) -/
def genesisTxs (s : List (SKey × SVal)) : List Tx :=
  match blockAt s 0 with
  | some g => g.txs
  | none => []

theorem genesisTxs_congr (s s' : List (SKey × SVal)) (h : blockAt s' 0 = blockAt s 0) : genesisTxs s' = genesisTxs s := by
  simp only [genesisTxs, h]

theorem historyUpTo_snd (s : List (SKey × SVal)) (k : Nat) :
    ∀ n, (historyUpTo s k n).map Prod.snd = (genesisTxs s ++ chainTxs s n).filter fun t => t.key = k
  | 0 => by
    simp only [historyUpTo, blockHistory, genesisTxs, chainTxs, List.append_nil]
    cases blockAt s 0 <;> simp [List.map_map, Function.comp_def]
  | n + 1 => by
    simp only [historyUpTo, chainTxs, List.map_append, historyUpTo_snd s k n, ← List.append_assoc, List.filter_append]
    congr 1
    simp only [blockHistory]
    cases blockAt s (n + 1) <;> simp [List.map_map, Function.comp_def]

structure NodeInv (C : Crypto) (cfg : Config) (n : Node) : Prop where
  hcfg : n.cfg = cfg
  hinv : Inv C cfg.registry n.chain
  hdata : DataInv n.chain
  hmeta : MetaInv n.chain
  hgen : genesisTxs n.chain.store = []

theorem nodeInv_init (C : Crypto) (cfg : Config) (ts : Nat) : NodeInv C cfg (initNode C cfg ts) :=
  ⟨rfl, inv_init C _ _ _ _, dataInv_init C _ _, metaInv_init C _ _,
    (genesisTxs_congr [(.block 0, .block (genesisBlock C cfg.nodeId ts))] _ (blockAt_appended_new ..)).trans rfl⟩

theorem nodeInv_congr (C : Crypto) (cfg : Config) (n n' : Node) (h : NodeInv C cfg n) (hcfg : n'.cfg = cfg)
    (hh : n'.chain.height = n.chain.height) (ht : n'.chain.tip = n.chain.tip) (hs : StoreEq n'.chain.store n.chain.store) :
    NodeInv C cfg n' :=
  ⟨hcfg, inv_congr C _ n.chain _ (fun j => storeEq_blockAt hs j) hh ht h.hinv, dataInv_congr n.chain _ hs hh h.hdata,
    metaInv_congr n.chain _ hs hh h.hmeta, (genesisTxs_congr _ _ (storeEq_blockAt hs 0)).trans h.hgen⟩

theorem regLookup_own (cfg : Config) (hown : cfg.registry = some [(cfg.nodeId, cfg.key)]) :
    ∀ r, cfg.registry = some r → regLookup r cfg.nodeId = some cfg.key := by
  intro r hr
  rw [hown] at hr
  cases hr
  simp [regLookup]

theorem reopenNode_cfg (C : Crypto) (cfg : Config) (hown : cfg.registry = some [(cfg.nodeId, cfg.key)]) (n : Node)
    (hcfg : n.cfg = cfg) (ts : Nat) : (reopenNode C n ts).cfg = cfg := by
  obtain ⟨a1, a2, a3, a4, a5, a6⟩ := cfg
  simp only [reopenNode, hcfg]
  simp only at hown
  simp [hown]

theorem nodeInv_reopen (C : Crypto) (cfg : Config) (hown : cfg.registry = some [(cfg.nodeId, cfg.key)]) (n : Node) (ts : Nat)
    (h : NodeInv C cfg n) : NodeInv C cfg (reopenNode C n ts) := by
  obtain ⟨hh, ht, hs⟩ := openChain_healthy C cfg.registry n.chain n.cfg.nodeId ts h.hinv h.hmeta
  exact nodeInv_congr C cfg n _ h (reopenNode_cfg C cfg hown n h.hcfg ts) hh ht hs

end Neumann.Chain
