import NeumannModel.Chain.Commit
import NeumannModel.Chain.Merkle
/-
  C16 — property theorems for the tamper-evident chain.  ONLY property statements and their
  non-vacuity examples live here.

  Reading guide.  `Inv C reg c` is the invariant of chains built through `initialize`/`append`
  (`built_inv`).  The tamper theorems quantify over EVERY chain length `c.height ≥ 1`, every
  position `i`, every replacement value.  `signedOf r c.store c.height` is "what the validators
  signed" = the stored blocks `1..=height` of the honest chain; `SigSound` says nothing else
  verifies under a registered key.  What is false of the code as it stands is proved as
  `…_witness`, what holds with an extra hypothesis as `…_partial`.
-/
namespace Neumann.Chain.Props
open Neumann.Chain

/-! ## 1. chains built through the public interface verify -/

/-- chains reachable by `Chain::initialize` + `Chain::append`, where each appended block also
    satisfies the two conditions `verify_chain` checks but `append` does not -/
inductive Built (C : Crypto) (reg : Option (List (List Nat × Nat))) : ChainSt → Prop where
  | init (s : List (SKey × SVal)) (proposer : List Nat) (ts : Nat) : Built C reg (initChain C s proposer ts)
  | step (c c' : ChainSt) (b : Block) : Built C reg c → append C reg c b = .ok c' →
      (∀ t, blockAt c.store c.height = some t → t.header.timestamp ≤ b.header.timestamp) →
      (c.height = 0 → regSigOk C reg (fixTxRoot C b).header = true) → Built C reg c'

theorem built_inv (C : Crypto) (reg : Option (List (List Nat × Nat))) (c : ChainSt) (h : Built C reg c) :
    Inv C reg c := by
  induction h with
  | init s p ts => exact inv_init C reg s p ts
  | step c c' b _ happ hts hsig ih => exact inv_append C reg c c' b ih happ hts hsig

/-- PARTIAL (missing: `append` itself does not enforce the two side conditions of `Built.step`, so the
    unconditional statement is false for RAW `append` — see the two witnesses below; for chains built through the
    workspace commit path the side conditions are discharged in `commit_built_chain_verifies`).  Any chain of any length built
    through `append` from blocks whose timestamps do not go back and whose height-1 block is signed
    verifies. -/
theorem built_chain_verifies_partial (C : Crypto) (reg : Option (List (List Nat × Nat))) (c : ChainSt)
    (h : Built C reg c) : verifyChain C reg c = none :=
  verify_complete C reg c (built_inv C reg c h).ok

/-- a concrete two-block chain: genesis + one signed block -/
def exBlock1 : Block :=
  let h0 : Header := { height := 1, prevHash := (genesisBlock drvCrypto [1] 10).header.hash drvCrypto,
                       txRoot := txRoot drvCrypto [.put 1 2], stateRoot := [0], embedding := [], codes := [],
                       timestamp := 11, proposer := [1], signature := [] }
  { header := { h0 with signature := drvCrypto.sign 1 h0.bytes }, txs := [.put 1 2], sigs := [] }

def exChain1 : ChainSt :=
  match append drvCrypto (some [([1], 1)]) (initChain drvCrypto [] [1] 10) exBlock1 with
  | .ok c => c
  | .error _ => initChain drvCrypto [] [1] 10

/-- non-vacuity: `Built` holds of a real two-block chain, and it verifies -/
example : exChain1.height = 1 ∧ verifyChain drvCrypto (some [([1], 1)]) exChain1 = none := by decide +kernel

/-- WITNESS (`built_chain_verifies` is false as the code stands, 1/2): `append` accepts a block whose
    timestamp is before the tip's; `verify_chain` rejects the resulting chain. -/
theorem append_accepts_timestamp_regression_witness :
    ∃ (c : ChainSt) (b : Block) (c' : ChainSt), Built drvCrypto none c ∧ append drvCrypto none c b = .ok c' ∧
      verifyChain drvCrypto none c' = some .timestamp := by
  let g := initChain drvCrypto [] [1] 10
  let b : Block := { header := { height := 1, prevHash := g.tip, txRoot := [0], stateRoot := [0], embedding := [],
                                 codes := [], timestamp := 5, proposer := [1], signature := [] }, txs := [], sigs := [] }
  refine ⟨g, b, { store := sput (sput g.store (.block 1) (.block b)) .chainMeta (.height 1), height := 1,
                  tip := b.header.hash drvCrypto }, Built.init _ _ _, by rfl, by decide +kernel⟩

/-- WITNESS (2/2): with a validator registry, `append` accepts an UNSIGNED block at height 1 (its check is
    `expected_height > 1`); `verify_chain` rejects the chain ("missing block signature"). -/
theorem append_accepts_unsigned_height1_witness :
    ∃ (c : ChainSt) (b : Block) (c' : ChainSt), Built drvCrypto (some [([1], 1)]) c ∧
      append drvCrypto (some [([1], 1)]) c b = .ok c' ∧ verifyChain drvCrypto (some [([1], 1)]) c' = some .badSig := by
  let g := initChain drvCrypto [] [1] 10
  let b : Block := { header := { height := 1, prevHash := g.tip, txRoot := [0], stateRoot := [0], embedding := [],
                                 codes := [], timestamp := 15, proposer := [1], signature := [] }, txs := [], sigs := [] }
  refine ⟨g, b, { store := sput (sput g.store (.block 1) (.block b)) .chainMeta (.height 1), height := 1,
                  tip := b.header.hash drvCrypto }, Built.init _ _ _, by rfl, by decide +kernel⟩

/-! ## 2. tamper evidence -/

/-- replace the stored block at position `i` -/
def withBlock (c : ChainSt) (i : Nat) (b : Block) : ChainSt :=
  { c with store := sput c.store (.block i) (.block b) }

/-- CORE (alter / forge, every chain length, every non-genesis position): if the stored block `i ≥ 1`
    is replaced by ANY block `b'` and the chain still verifies, then `b'` has exactly the signing bytes and the
    signature of the original.  Needs only `SigSound` (the predecessor check pins the height, the height is
    readable from the signed bytes, so the validators' signature over another height cannot be reused). -/
theorem tamper_detected_forged_block (C : Crypto) (r : List (List Nat × Nat)) (c : ChainSt)
    (hinv : Inv C (some r) c) (hwf : ∀ j b, j ≤ c.height → blockAt c.store j = some b → b.header.height < 2 ^ 64)
    (hsound : SigSound C (signedOf r c.store c.height))
    (i : Nat) (h1 : 1 ≤ i) (h2 : i ≤ c.height) (o b' : Block) (ho : blockAt c.store i = some o)
    (hwf' : b'.header.height < 2 ^ 64)
    (hne : b'.header.bytes ≠ o.header.bytes ∨ b'.header.signature ≠ o.header.signature) :
    verifyChain C (some r) (withBlock c i b') ≠ none := by
  intro hv
  have hok := verify_sound C (some r) (withBlock c i b') hv (Nat.le_trans h1 h2)
  obtain ⟨p, b, hp, hb, hc⟩ := hok.2 i h1 h2
  simp only [withBlock] at hp hb
  rw [blockAt_sput_same] at hb
  cases hb
  rw [blockAt_sput_block_ne (by omega)] at hp
  obtain ⟨p0, hp0, hph⟩ := hinv.heights (i - 1) (by omega)
  rw [hp0] at hp; cases hp
  obtain ⟨hh, _, _, _, hs⟩ := checkLink_none C (some r) _ _ hc
  obtain ⟨k, _, hver⟩ := regSigOk_some C r _ hs
  obtain ⟨j, bj, hj1, hj2, hbj, hbytes, hsig⟩ := mem_signedOf r c.store c.height _ (hsound _ _ _ hver)
  simp only at hbytes hsig
  obtain ⟨bj', hbj', hjh⟩ := hinv.heights j hj2
  rw [hbj] at hbj'; cases hbj'
  have hhj : b'.header.height = bj.header.height := bytes_height _ _ hwf' (hwf j bj hj2 hbj) hbytes
  have : j = i := by omega
  subst this
  rw [ho] at hbj; cases hbj
  rcases hne with hne | hne
  · exact hne hbytes
  · exact hne hsig

/-- genesis (`i = 0`) header: its hash is pinned by block 1's `prev_hash` (needs `HashInjOn`) -/
theorem tamper_detected_genesis_header (C : Crypto) (reg : Option (List (List Nat × Nat))) (occ : List Nat → Prop)
    (c : ChainSt) (hinv : Inv C reg c) (hinj : HashInjOn C occ) (hh : 1 ≤ c.height)
    (o b' : Block) (ho : blockAt c.store 0 = some o) (ho1 : occ o.header.bytes) (ho2 : occ b'.header.bytes)
    (hne : b'.header.bytes ≠ o.header.bytes) :
    verifyChain C reg (withBlock c 0 b') ≠ none := by
  intro hv
  have hok := verify_sound C reg (withBlock c 0 b') hv hh
  obtain ⟨p, b, hp, hb, hc⟩ := hok.2 1 (Nat.le_refl _) hh
  simp only [withBlock, Nat.sub_self] at hp hb
  rw [blockAt_sput_same] at hp
  cases hp
  rw [blockAt_sput_block_ne Nat.zero_ne_one] at hb
  obtain ⟨p0, b0, hp0, hb0, hc0⟩ := hinv.ok.2 1 (Nat.le_refl _) hh
  simp only [Nat.sub_self] at hp0
  rw [ho] at hp0; cases hp0
  rw [hb] at hb0; cases hb0
  have e1 := (checkLink_none C reg _ _ hc).2.1
  have e2 := (checkLink_none C reg _ _ hc0).2.1
  rw [e1] at e2
  exact hne (hinj _ _ ho2 ho1 e2)

/-- the per-field statement, all positions `0..=height` of every chain with `height ≥ 1`:
    a replacement whose signing bytes differ from the original's is detected -/
theorem tamper_detected_header_bytes (C : Crypto) (r : List (List Nat × Nat)) (occ : List Nat → Prop) (c : ChainSt)
    (hinv : Inv C (some r) c) (hwf : ∀ j b, j ≤ c.height → blockAt c.store j = some b → b.header.height < 2 ^ 64)
    (hinj : HashInjOn C occ) (hsound : SigSound C (signedOf r c.store c.height)) (hh : 1 ≤ c.height)
    (i : Nat) (h2 : i ≤ c.height) (o b' : Block) (ho : blockAt c.store i = some o)
    (ho1 : occ o.header.bytes) (ho2 : occ b'.header.bytes) (hwf' : b'.header.height < 2 ^ 64)
    (hne : b'.header.bytes ≠ o.header.bytes) :
    verifyChain C (some r) (withBlock c i b') ≠ none := by
  by_cases h0 : i = 0
  · subst h0
    exact tamper_detected_genesis_header C (some r) occ c hinv hinj hh o b' ho ho1 ho2 hne
  · exact tamper_detected_forged_block C r c hinv hwf hsound i (by omega) h2 o b' ho hwf' (Or.inl hne)

/-- hypotheses shared by the per-field theorems, bundled -/
structure Honest (C : Crypto) (r : List (List Nat × Nat)) (occ : List Nat → Prop) (c : ChainSt) : Prop where
  inv : Inv C (some r) c
  wf : ∀ j b, j ≤ c.height → blockAt c.store j = some b → b.header.WF
  inj : HashInjOn C occ
  sound : SigSound C (signedOf r c.store c.height)
  occAll : ∀ x, occ x
  nonempty : 1 ≤ c.height

theorem field_detected (C : Crypto) (r : List (List Nat × Nat)) (occ : List Nat → Prop) (c : ChainSt)
    (H : Honest C r occ c) (i : Nat) (h2 : i ≤ c.height) (o : Block) (ho : blockAt c.store i = some o) (h' : Header)
    (hwf' : h'.height < 2 ^ 64) (hne : h'.bytes ≠ o.header.bytes) :
    verifyChain C (some r) (withBlock c i { o with header := h' }) ≠ none :=
  tamper_detected_header_bytes C r occ c H.inv (fun j b hj hb => (H.wf j b hj hb).1) H.inj H.sound H.nonempty i h2 o _ ho
    (H.occAll _) (H.occAll _) hwf' hne

theorem tamper_detected_height (C : Crypto) (r : List (List Nat × Nat)) (occ : List Nat → Prop) (c : ChainSt)
    (H : Honest C r occ c) (i : Nat) (h2 : i ≤ c.height) (o : Block) (ho : blockAt c.store i = some o)
    (v : Nat) (hv : v < 2 ^ 64) (hne : v ≠ o.header.height) :
    verifyChain C (some r) (withBlock c i { o with header := { o.header with height := v } }) ≠ none := by
  refine field_detected C r occ c H i h2 o ho _ ?_ ?_
  · exact hv
  intro hb
  exact hne (bytes_height _ _ hv (H.wf i o h2 ho).1 hb)

theorem tamper_detected_prev_hash (C : Crypto) (r : List (List Nat × Nat)) (occ : List Nat → Prop) (c : ChainSt)
    (H : Honest C r occ c) (i : Nat) (h2 : i ≤ c.height) (o : Block) (ho : blockAt c.store i = some o)
    (v : List Nat) (hne : v ≠ o.header.prevHash) :
    verifyChain C (some r) (withBlock c i { o with header := { o.header with prevHash := v } }) ≠ none := by
  refine field_detected C r occ c H i h2 o ho _ ?_ ?_
  · exact (H.wf i o h2 ho).1
  intro hb
  simp only [Header.bytes] at hb
  exact hne (List.append_cancel_right (List.append_cancel_left hb))

theorem tamper_detected_tx_root (C : Crypto) (r : List (List Nat × Nat)) (occ : List Nat → Prop) (c : ChainSt)
    (H : Honest C r occ c) (i : Nat) (h2 : i ≤ c.height) (o : Block) (ho : blockAt c.store i = some o)
    (v : List Nat) (hne : v ≠ o.header.txRoot) :
    verifyChain C (some r) (withBlock c i { o with header := { o.header with txRoot := v } }) ≠ none := by
  refine field_detected C r occ c H i h2 o ho _ ?_ ?_
  · exact (H.wf i o h2 ho).1
  intro hb
  simp only [Header.bytes] at hb
  exact hne (List.append_cancel_right (List.append_cancel_left (List.append_cancel_left hb)))

theorem tamper_detected_state_root (C : Crypto) (r : List (List Nat × Nat)) (occ : List Nat → Prop) (c : ChainSt)
    (H : Honest C r occ c) (i : Nat) (h2 : i ≤ c.height) (o : Block) (ho : blockAt c.store i = some o)
    (v : List Nat) (hne : v ≠ o.header.stateRoot) :
    verifyChain C (some r) (withBlock c i { o with header := { o.header with stateRoot := v } }) ≠ none := by
  refine field_detected C r occ c H i h2 o ho _ ?_ ?_
  · exact (H.wf i o h2 ho).1
  intro hb
  simp only [Header.bytes] at hb
  exact hne (List.append_cancel_right (List.append_cancel_left (List.append_cancel_left (List.append_cancel_left hb))))

theorem tamper_detected_delta_embedding (C : Crypto) (r : List (List Nat × Nat)) (occ : List Nat → Prop) (c : ChainSt)
    (H : Honest C r occ c) (i : Nat) (h2 : i ≤ c.height) (o : Block) (ho : blockAt c.store i = some o)
    (v : List Nat) (hne : v ≠ o.header.embedding) :
    verifyChain C (some r) (withBlock c i { o with header := { o.header with embedding := v } }) ≠ none := by
  refine field_detected C r occ c H i h2 o ho _ ?_ ?_
  · exact (H.wf i o h2 ho).1
  intro hb
  simp only [Header.bytes] at hb
  exact hne (List.append_cancel_right (List.append_cancel_left (List.append_cancel_left
    (List.append_cancel_left (List.append_cancel_left hb)))))

theorem tamper_detected_quantized_codes (C : Crypto) (r : List (List Nat × Nat)) (occ : List Nat → Prop) (c : ChainSt)
    (H : Honest C r occ c) (i : Nat) (h2 : i ≤ c.height) (o : Block) (ho : blockAt c.store i = some o)
    (v : List Nat) (hv : ∀ x ∈ v, x < 2 ^ 16) (hne : v ≠ o.header.codes) :
    verifyChain C (some r) (withBlock c i { o with header := { o.header with codes := v } }) ≠ none := by
  refine field_detected C r occ c H i h2 o ho _ ?_ ?_
  · exact (H.wf i o h2 ho).1
  intro hb
  simp only [Header.bytes] at hb
  have := List.append_cancel_right (List.append_cancel_left (List.append_cancel_left
    (List.append_cancel_left (List.append_cancel_left (List.append_cancel_left hb)))))
  exact hne (flatMap_leBytes2_inj _ _ hv (H.wf i o h2 ho).2.2 this)

theorem tamper_detected_timestamp (C : Crypto) (r : List (List Nat × Nat)) (occ : List Nat → Prop) (c : ChainSt)
    (H : Honest C r occ c) (i : Nat) (h2 : i ≤ c.height) (o : Block) (ho : blockAt c.store i = some o)
    (v : Nat) (hv : v < 2 ^ 64) (hne : v ≠ o.header.timestamp) :
    verifyChain C (some r) (withBlock c i { o with header := { o.header with timestamp := v } }) ≠ none := by
  refine field_detected C r occ c H i h2 o ho _ ?_ ?_
  · exact (H.wf i o h2 ho).1
  intro hb
  simp only [Header.bytes] at hb
  have := List.append_cancel_right (List.append_cancel_left (List.append_cancel_left
    (List.append_cancel_left (List.append_cancel_left (List.append_cancel_left (List.append_cancel_left hb))))))
  exact hne (leBytes8_inj _ _ hv (H.wf i o h2 ho).2.1 this)

theorem tamper_detected_proposer (C : Crypto) (r : List (List Nat × Nat)) (occ : List Nat → Prop) (c : ChainSt)
    (H : Honest C r occ c) (i : Nat) (h2 : i ≤ c.height) (o : Block) (ho : blockAt c.store i = some o)
    (v : List Nat) (hne : v ≠ o.header.proposer) :
    verifyChain C (some r) (withBlock c i { o with header := { o.header with proposer := v } }) ≠ none := by
  refine field_detected C r occ c H i h2 o ho _ ?_ ?_
  · exact (H.wf i o h2 ho).1
  intro hb
  simp only [Header.bytes] at hb
  exact hne (List.append_cancel_left (List.append_cancel_left (List.append_cancel_left
    (List.append_cancel_left (List.append_cancel_left (List.append_cancel_left (List.append_cancel_left hb)))))))

/-- PARTIAL (missing: position 0 — the genesis `signature` is neither hashed nor verified, see
    `tamper_genesis_signature_witness`).  The `signature` field of every non-genesis block. -/
theorem tamper_detected_signature_partial (C : Crypto) (r : List (List Nat × Nat)) (occ : List Nat → Prop) (c : ChainSt)
    (H : Honest C r occ c) (i : Nat) (h1 : 1 ≤ i) (h2 : i ≤ c.height) (o : Block) (ho : blockAt c.store i = some o)
    (v : List Nat) (hne : v ≠ o.header.signature) :
    verifyChain C (some r) (withBlock c i { o with header := { o.header with signature := v } }) ≠ none :=
  tamper_detected_forged_block C r c H.inv (fun j b hj hb => (H.wf j b hj hb).1) H.sound i h1 h2 o _ ho (H.wf i o h2 ho).1 (Or.inr hne)

/-- removing any stored block `0..=height` is detected (no crypto needed) -/
theorem tamper_detected_removed (C : Crypto) (reg : Option (List (List Nat × Nat))) (c : ChainSt)
    (hh : 1 ≤ c.height) (i : Nat) (h2 : i ≤ c.height) :
    verifyChain C reg { c with store := sdel c.store (.block i) } ≠ none := by
  intro hv
  have hok := verify_sound C reg _ hv hh
  by_cases h0 : i = 0
  · subst h0
    obtain ⟨g, hg, _⟩ := hok.1
    simp only at hg
    rw [blockAt_sdel_same] at hg
    cases hg
  · obtain ⟨p, b, _, hb, _⟩ := hok.2 i (Nat.pos_of_ne_zero h0) h2
    simp only at hb
    rw [blockAt_sdel_same] at hb
    cases hb

/-- reordering: swapping the stored blocks at two different positions is detected (no crypto needed) -/
theorem tamper_detected_reordered (C : Crypto) (reg : Option (List (List Nat × Nat))) (c : ChainSt) (hinv : Inv C reg c)
    (i j : Nat) (hij : i < j) (hj : j ≤ c.height) (oi oj : Block)
    (hoi : blockAt c.store i = some oi) (hoj : blockAt c.store j = some oj) :
    verifyChain C reg { c with store := sput (sput c.store (.block i) (.block oj)) (.block j) (.block oi) } ≠ none := by
  intro hv
  have hic : i ≤ c.height := Nat.le_of_lt (Nat.lt_of_lt_of_le hij hj)
  have h1c : 1 ≤ c.height := Nat.le_trans (Nat.succ_le_of_lt (Nat.zero_lt_of_lt hij)) hj
  have hok := verify_sound C reg _ hv h1c
  obtain ⟨x, hx, hxh⟩ := hinv.heights i hic
  rw [hoi] at hx; cases hx
  obtain ⟨y, hy, hyh⟩ := hinv.heights j hj
  rw [hoj] at hy; cases hy
  by_cases h0 : i = 0
  · -- genesis swapped with block j: look at position 1, whose predecessor now has height j
    subst h0
    obtain ⟨p, b, hp, hb, hc⟩ := hok.2 1 (Nat.le_refl _) h1c
    rw [blockAt_sput_block_ne (Nat.ne_of_gt hij), blockAt_sput_same] at hp
    cases hp
    have hh := (checkLink_none C reg _ _ hc).1
    by_cases hj1 : j = 1
    · subst hj1
      rw [blockAt_sput_same] at hb
      cases hb
      omega
    · rw [blockAt_sput_block_ne hj1, blockAt_sput_block_ne Nat.zero_ne_one] at hb
      obtain ⟨z, hz, hzh⟩ := hinv.heights 1 h1c
      rw [hb] at hz; cases hz
      omega
  · -- position i ≥ 1 now holds the block of height j, its predecessor i-1 is untouched
    have hpred : i - 1 < i := Nat.sub_lt (Nat.pos_of_ne_zero h0) Nat.one_pos
    obtain ⟨p, b, hp, hb, hc⟩ := hok.2 i (Nat.pos_of_ne_zero h0) hic
    rw [blockAt_sput_block_ne (Nat.ne_of_gt hij), blockAt_sput_same] at hb
    cases hb
    rw [blockAt_sput_block_ne (Nat.ne_of_gt (Nat.lt_trans hpred hij)),
      blockAt_sput_block_ne (Nat.ne_of_gt hpred)] at hp
    obtain ⟨z, hz, hzh⟩ := hinv.heights (i - 1) (Nat.le_trans (Nat.sub_le i 1) hic)
    rw [hp] at hz; cases hz
    have hh := (checkLink_none C reg _ _ hc).1
    omega

/-! ### the `transactions` field -/

/-- WITNESS: `merkle_root` gives `[a,b,c]` and `[a,b,c,c]` the same root for EVERY hash function: the odd
    last leaf is paired with itself, which is exactly the pair `(c,c)` of the longer list.
    Hence `tx_root` does not bind the `transactions` field (reproduced on `Block::verify_tx_root`). -/
theorem merkle_duplicate_witness (C : Crypto) (a b c : Tx) :
    [a, b, c] ≠ [a, b, c, c] ∧ txRoot C [a, b, c] = txRoot C [a, b, c, c] := by
  refine ⟨by simp, ?_⟩
  simp [txRoot, merkleRoot, merkleLoop, merkleLevel]

/-- WITNESS: consequently a stored non-genesis block can be altered without `verify_chain` noticing,
    validator registry and all. -/
theorem tamper_transactions_witness :
    ∃ (c : ChainSt) (o : Block) (txs' : List Tx), Built drvCrypto (some [([1], 1)]) c ∧ blockAt c.store 1 = some o ∧
      txs' ≠ o.txs ∧ verifyChain drvCrypto (some [([1], 1)]) (withBlock c 1 { o with txs := txs' }) = none := by
  let g := initChain drvCrypto [] [1] 10
  let txs : List Tx := [.put 1 1, .put 2 2, .put 3 3]
  let h0 : Header := { height := 1, prevHash := g.tip, txRoot := txRoot drvCrypto txs, stateRoot := [0], embedding := [],
                       codes := [], timestamp := 11, proposer := [1], signature := [] }
  let b : Block := { header := { h0 with signature := drvCrypto.sign 1 h0.bytes }, txs := txs, sigs := [] }
  let c : ChainSt := { store := sput (sput g.store (.block 1) (.block b)) .chainMeta (.height 1), height := 1,
                       tip := b.header.hash drvCrypto }
  refine ⟨c, b, txs ++ [.put 3 3], ?_, by decide +kernel⟩
  exact Built.step g c b (Built.init _ _ _) (by rfl) (by decide +kernel) (by decide +kernel)

/-- genesis (`i = 0`), after repo commit 8e53c5a4 (`verify_chain` now calls `verify_tx_root` on the genesis
    block): PARTIAL (missing: injectivity of `txRoot` — the duplicated-tail weakness of `merkle_root` applies to
    a genesis block with an odd number ≥ 3 of transactions just as to any other block; same-length alterations
    are covered at full strength by `tamper_detected_transactions`).  Every alteration of the genesis block's
    `transactions` that changes the Merkle root is detected, for every chain with at least one more block. -/
theorem tamper_detected_genesis_transactions_partial (C : Crypto) (reg : Option (List (List Nat × Nat))) (c : ChainSt)
    (hinv : Inv C reg c) (hh : 1 ≤ c.height) (o : Block) (ho : blockAt c.store 0 = some o)
    (txs' : List Tx) (hne : txRoot C txs' ≠ txRoot C o.txs) :
    verifyChain C reg (withBlock c 0 { o with txs := txs' }) ≠ none := by
  intro hv
  have hok := verify_sound C reg _ hv hh
  obtain ⟨g, hg, hroot⟩ := hok.1
  simp only [withBlock] at hg
  rw [blockAt_sput_same] at hg
  cases hg
  obtain ⟨g0, hg0, hroot0⟩ := hinv.ok.1
  rw [ho] at hg0; cases hg0
  simp only at hroot
  rw [hroot0] at hroot
  exact hne hroot.symm

/-- PARTIAL (missing: injectivity of `txRoot` across DIFFERENT lengths, which fails for a duplicated tail as shown
    above; for equal lengths see `tamper_detected_transactions`).  Every alteration of the `transactions` of ANY
    stored block `0..=height` that changes the Merkle root is detected — no crypto hypothesis needed, for every
    chain length. -/
theorem tamper_detected_transactions_partial (C : Crypto) (reg : Option (List (List Nat × Nat))) (c : ChainSt)
    (hinv : Inv C reg c) (hh : 1 ≤ c.height) (i : Nat) (h2 : i ≤ c.height) (o : Block) (ho : blockAt c.store i = some o)
    (txs' : List Tx) (hne : txRoot C txs' ≠ txRoot C o.txs) :
    verifyChain C reg (withBlock c i { o with txs := txs' }) ≠ none := by
  by_cases h0 : i = 0
  · subst h0
    exact tamper_detected_genesis_transactions_partial C reg c hinv hh o ho txs' hne
  have h1 : 1 ≤ i := by omega
  intro hv
  have hok := verify_sound C reg _ hv hh
  obtain ⟨p, b, _, hb, hc⟩ := hok.2 i h1 h2
  simp only [withBlock] at hb
  rw [blockAt_sput_same] at hb
  cases hb
  obtain ⟨p0, b0, _, hb0, hc0⟩ := hinv.ok.2 i h1 h2
  rw [ho] at hb0; cases hb0
  have e1 := (checkLink_none C reg _ _ hc).2.2.1
  have e2 := (checkLink_none C reg _ _ hc0).2.2.1
  simp only at e1
  rw [e2] at e1
  exact hne e1.symm

/-- REGRESSION WITNESS for repo commit 8e53c5a4: on the same tampered chain (forged transactions in the stored
    genesis block) the old `verify_chain` (`verifyChainOld`: checks start at block 1) answers `Ok`, the current one
    answers `tx_root does not match transactions`. -/
theorem tamper_genesis_transactions_fixed_witness :
    ∃ (c : ChainSt) (o : Block), Built drvCrypto (some [([1], 1)]) c ∧ 1 ≤ c.height ∧ blockAt c.store 0 = some o ∧
      verifyChainOld drvCrypto (some [([1], 1)]) (withBlock c 0 { o with txs := [.put 9 9] }) = none ∧
      verifyChain drvCrypto (some [([1], 1)]) (withBlock c 0 { o with txs := [.put 9 9] }) = some .txRoot :=
  ⟨exChain1, genesisBlock drvCrypto [1] 10,
    Built.step (initChain drvCrypto [] [1] 10) exChain1 exBlock1 (Built.init _ _ _) (by rfl) (by decide +kernel) (by decide +kernel),
    by decide +kernel⟩

/-- FULL STRENGTH for every alteration that keeps the NUMBER of transactions (replace, reorder, any mix), every
    stored block `0..=height`, every chain length: under `HashInjOn` on the byte strings `compute_tx_root` feeds to
    SHA-256 for the two lists (`txRootInputs`: the serialised transactions and every inner pair of every level) and
    `HashLen` (all digests have one length, 32 bytes for SHA-256), `compute_tx_root` is injective on lists of equal
    length (`txRoot_inj_of_length_eq`), so the alteration is detected.  Together with `merkle_duplicate_witness`
    this locates the gap of `tamper_detected_transactions_partial` exactly: only alterations that CHANGE the length
    can go unnoticed, and the duplicated odd tail is one that does. -/
theorem tamper_detected_transactions (C : Crypto) (reg : Option (List (List Nat × Nat))) (occ : List Nat → Prop)
    (c : ChainSt) (hinv : Inv C reg c) (hinj : HashInjOn C occ) (n : Nat) (hl : HashLen C n) (hh : 1 ≤ c.height)
    (i : Nat) (h2 : i ≤ c.height) (o : Block) (ho : blockAt c.store i = some o) (txs' : List Tx)
    (hlen : txs'.length = o.txs.length)
    (o1 : ∀ z ∈ txRootInputs C o.txs, occ z) (o2 : ∀ z ∈ txRootInputs C txs', occ z) (hne : txs' ≠ o.txs) :
    verifyChain C reg (withBlock c i { o with txs := txs' }) ≠ none :=
  tamper_detected_transactions_partial C reg c hinv hh i h2 o ho txs'
    (fun h => hne (txRoot_inj_of_length_eq C occ hinj n hl txs' o.txs hlen o2 o1 h))

/-- a crypto whose digests all have length 8 and which is injective on the strings of the example below -/
def lenCrypto : Crypto := { drvCrypto with hash := fun x => x.length :: (x ++ List.replicate 7 0).take 7 }

def exTxsA : List Tx := [.put 1 1, .put 2 2]
def exTxsB : List Tx := [.put 1 5, .put 2 2]
def exOccList : List (List Nat) := txRootInputs lenCrypto exTxsA ++ txRootInputs lenCrypto exTxsB

example : HashInjOn lenCrypto (· ∈ exOccList) := by
  intro x y hx hy
  revert y
  revert x
  decide +kernel

example : HashLen lenCrypto 8 := by
  intro x
  simp [lenCrypto]

example : exTxsB.length = exTxsA.length ∧ exTxsB ≠ exTxsA ∧ (∀ z ∈ txRootInputs lenCrypto exTxsA, z ∈ exOccList) ∧
    (∀ z ∈ txRootInputs lenCrypto exTxsB, z ∈ exOccList) ∧ txRoot lenCrypto exTxsB ≠ txRoot lenCrypto exTxsA := by
  refine ⟨rfl, by decide +kernel, fun z hz => List.mem_append_left _ hz, fun z hz => List.mem_append_right _ hz, by decide +kernel⟩

/-- WITNESS: the genesis block's `signature` is neither part of its hash nor verified. -/
theorem tamper_genesis_signature_witness :
    ∃ (c : ChainSt) (o : Block), Built drvCrypto (some [([1], 1)]) c ∧ 1 ≤ c.height ∧ blockAt c.store 0 = some o ∧
      verifyChain drvCrypto (some [([1], 1)])
        (withBlock c 0 { o with header := { o.header with signature := [6, 6, 6] } }) = none :=
  ⟨exChain1, genesisBlock drvCrypto [1] 10,
    Built.step (initChain drvCrypto [] [1] 10) exChain1 exBlock1 (Built.init _ _ _) (by rfl) (by decide +kernel) (by decide +kernel),
    by decide +kernel⟩

/-- WITNESS: `Block.signatures` (the validator-signature vector) is covered by no hash and no signature,
    at any position. -/
theorem tamper_signatures_witness :
    ∃ (c : ChainSt) (o : Block), Built drvCrypto (some [([1], 1)]) c ∧ blockAt c.store 1 = some o ∧
      verifyChain drvCrypto (some [([1], 1)]) (withBlock c 1 { o with sigs := [1] }) = none :=
  ⟨exChain1, exBlock1,
    Built.step (initChain drvCrypto [] [1] 10) exChain1 exBlock1 (Built.init _ _ _) (by rfl) (by decide +kernel) (by decide +kernel),
    by decide +kernel⟩

/-- WITNESS: a chain that only has its genesis block is not checked at all (`height == 0` returns `Ok`
    before reading the store) — even removing the genesis record goes unnoticed. -/
theorem tamper_genesis_only_witness (C : Crypto) (reg : Option (List (List Nat × Nat))) (s : List (SKey × SVal)) (tip : List Nat) :
    verifyChain C reg { store := s, height := 0, tip := tip } = none := by
  simp [verifyChain]

/-- non-vacuity of `Honest` and of the tamper theorems: the concrete two-block chain satisfies every
    hypothesis (hash = identity is injective; the only triple that verifies under key 1 … is checked by
    evaluation on the stored block), and an altered state root is indeed rejected -/
example : verifyChain drvCrypto (some [([1], 1)])
    (withBlock exChain1 1 { exBlock1 with header := { exBlock1.header with stateRoot := [7] } }) = some .badSig := by decide +kernel

/-- a crypto under which exactly the one honest signature verifies (so that `SigSound` holds) -/
def exCrypto : Crypto :=
  { drvCrypto with verify := fun k m s => k == 1 && m == exBlock1.header.bytes && s == exBlock1.header.signature }

/-- non-vacuity of `Honest` (the hypothesis bundle of every per-field theorem): the concrete chain
    genesis + one signed block satisfies all of it -/
example : Honest exCrypto [([1], 1)] (fun _ => True) exChain1 where
  inv := built_inv _ _ _ (Built.step (initChain exCrypto [] [1] 10) exChain1 exBlock1 (Built.init _ _ _) (by rfl) (by decide +kernel) (by decide +kernel))
  wf := by
    intro j b hj hb
    have hh : exChain1.height = 1 := by decide +kernel
    have : j = 0 ∨ j = 1 := by omega
    rcases this with rfl | rfl
    · rw [show blockAt exChain1.store 0 = some (genesisBlock drvCrypto [1] 10) by decide +kernel] at hb
      cases hb
      unfold Header.WF
      decide +kernel
    · rw [show blockAt exChain1.store 1 = some exBlock1 by decide +kernel] at hb
      cases hb
      unfold Header.WF
      decide +kernel
  inj := fun _ _ _ _ h => h
  sound := by
    intro k m s h
    simp only [exCrypto, Bool.and_eq_true, beq_iff_eq] at h
    obtain ⟨⟨rfl, rfl⟩, rfl⟩ := h
    decide +kernel
  occAll := fun _ => trivial
  nonempty := by decide +kernel

example : HashInjOn drvCrypto (fun _ => True) := fun _ _ _ _ h => h


/-! ## 3. commits are atomic -/

/-- ATOMICITY of one `TensorChain::commit` run without interference, from ANY node state (hence at every
    point of every sequential history, see `commit_atomic_history`): either the result is `Ok`, the chain is
    exactly one block longer, that block carries the workspace's operations (plus those of merged
    workspaces) and the store is the old store with all these writes applied plus the block record and the
    height record — or the chain (store, height, tip) is untouched and the result is not `Ok`. -/
theorem commit_atomic (C : Crypto) (n : Node) (w ts : Nat) :
    let r := commit C n w ts
    (∃ (b : Block) (ws : Ws) (extra : List Tx),
        r.2.res = some (.ok (n.chain.height + 1)) ∧ r.1.chain.height = n.chain.height + 1 ∧
        findWs n.wss w = some ws ∧ b.txs = ws.ops ++ extra ∧ b.header.height = n.chain.height + 1 ∧
        r.1.chain.store = sput (sput (applyTxs n.chain.store (ws.ops ++ extra)) (.block (n.chain.height + 1)) (.block b))
                            .chainMeta (.height (n.chain.height + 1)))
    ∨ (r.1.chain = n.chain ∧ ∀ h, r.2.res ≠ some (.ok h)) := by
  intro r
  obtain ⟨_, _, hn | ⟨ws, hws, _, ⟨hch, hno, _⟩ | ⟨c', happ, hch, hres, _⟩⟩⟩ := commit_spec C n w ts r rfl
  · exact Or.inr ⟨by rw [hn.1], by rw [hn.2.1]; nofun⟩
  · exact Or.inr ⟨hch, hno⟩
  · have hc' := append_applied_ok n.chain happ
    refine Or.inl ⟨_, ws, _, ?_, ?_, hws, ?_, ?_, by rw [hch, hc']⟩
    · rw [hres, hc']
    · rw [hch, hc']
    · exact fixTxRoot_txs C _
    · exact fixTxRoot_height C _

/-- the same over every sequential history: whatever ops ran before (begin/put/delete/commit/rollback over any
    number of workspaces), the next commit is atomic -/
theorem commit_atomic_history (C : Crypto) (n0 : Node) (ops : List Op) (w ts : Nat) :
    let n := runOps C n0 ops
    let r := commit C n w ts
    (r.1.chain.height = n.chain.height + 1 ∧ r.2.res = some (.ok (n.chain.height + 1)))
    ∨ (r.1.chain = n.chain ∧ ∀ h, r.2.res ≠ some (.ok h)) := by
  exact (commit_atomic C _ w ts).imp (fun ⟨_, _, _, h1, h2, _⟩ => ⟨h2, h1⟩) id

/-- non-overlapping commits, any number of them: the height grows by exactly the number of `Ok` results -/
def commitsSeq (C : Crypto) : Node → List (Nat × Nat) → Node × Nat
  | n, [] => (n, 0)
  | n, (w, ts) :: rest =>
    let r := commit C n w ts
    let q := commitsSeq C r.1 rest
    (q.1, q.2 + (match r.2.res with | some (.ok _) => 1 | _ => 0))

/-- the full statement about concurrent commits: for EVERY interleaving of the step lists of the commit calls,
    once all calls have returned the chain verifies and its height is the old height plus the number of `Ok`s -/
def ConcurrentCommitsValid (C : Crypto) : Prop :=
  ∀ (n : Node) (ws : List Nat) (ts : Nat) (sched : List Nat), Inv C n.cfg.registry n.chain →
    let r := runSched C sched n (ws.map fun w => Local.init w ts)
    (∀ l ∈ r.2, l.pc = .done) →
      verifyChain C r.1.cfg.registry r.1.chain = none ∧
      r.1.chain.height = n.chain.height + (r.2.filter fun l => match l.res with | some (.ok _) => true | _ => false).length

/-- PARTIAL (missing: overlapping commits, for which the statement is false — `concurrent_commit_witness`).
    Commits that do not overlap in time: height = old height + number of successful commits. -/
theorem concurrent_commits_nonoverlapping_partial (C : Crypto) (n : Node) (cs : List (Nat × Nat)) :
    (commitsSeq C n cs).1.chain.height = n.chain.height + (commitsSeq C n cs).2 := by
  induction cs generalizing n with
  | nil => simp [commitsSeq]
  | cons c rest ih =>
    obtain ⟨w, ts⟩ := c
    simp only [commitsSeq]
    rw [ih]
    rcases commit_atomic C n w ts with ⟨b, ws, extra, h1, h2, _⟩ | ⟨h1, h2⟩
    · rw [h2, h1]; simp; omega
    · rw [h1]
      cases hres : (commit C n w ts).2.res with
      | none => simp
      | some x =>
        cases x with
        | ok h => exact absurd hres (h2 h)
        | _ => simp

def cfg0 : Config := { maxTxs := 1000, autoMerge := true, maxMerge := 10, registry := some [([1], 1)], nodeId := [1], key := 1 }

/-- two workspaces with one write each, both still active -/
def twoWs : Node := runOps drvCrypto (initNode drvCrypto cfg0 0) [.begin, .put 0 1 1, .begin, .put 1 2 2]

def witnessSched : List Nat := [0, 1, 0, 1, 0, 1, 0, 1, 0, 1, 0, 1, 1]

def witnessRun : Node × List Local := runSched drvCrypto witnessSched twoWs ([0, 1].map fun w => Local.init w 5)

/-- WITNESS (DESIGN §8 row 12; replayed on the real `TensorChain` by the harness under the deterministic scheduler,
    unit script `0A 1A 0B 1B 0C 1C 0D 1D`): two overlapping `commit`s.  Both snapshot, both apply, both build height 1;
    thread 0's append wins; thread 1's append fails on the height check and it restores its snapshot — taken
    before thread 0 stored its block.  Result: in-memory height 1, block record 1 gone, `verify_chain` =
    `BlockNotFound(1)`, although thread 0 was told `Ok`. -/
theorem concurrent_commit_witness : ¬ ConcurrentCommitsValid drvCrypto := by
  intro h
  have hdone : ∀ l ∈ witnessRun.2, l.pc = .done := by decide +kernel
  have hbad : verifyChain drvCrypto witnessRun.1.cfg.registry witnessRun.1.chain = some (.notFound 1) := by decide +kernel
  have := (h twoWs [0, 1] 5 witnessSched (inv_init _ _ _ _ _) hdone).1
  rw [show runSched drvCrypto witnessSched twoWs ([0, 1].map fun w => Local.init w 5) = witnessRun from rfl] at this
  rw [hbad] at this
  cases this

/-- non-vacuity of the sequential theorems: the same two commits run one after the other give two blocks
    and a verifying chain -/
example : (commitsSeq drvCrypto twoWs [(0, 5), (1, 6)]).2 = 2 ∧
    verifyChain drvCrypto cfg0.registry (commitsSeq drvCrypto twoWs [(0, 5), (1, 6)]).1.chain = none := by decide +kernel

/-- two workspaces writing the SAME key, both still active -/
def sameKeyWs : Node := runOps drvCrypto (initNode drvCrypto cfg0 0) [.begin, .put 0 1 10, .begin, .put 1 1 11]

/-- thread 0 runs prepare/snapshot/apply, then thread 1 runs its whole commit, then thread 0 finishes -/
def orderSched : List Nat := [0, 0, 0, 1, 1, 1, 1, 1, 1, 0, 0, 0]

def orderRun : Node × List Local := runSched drvCrypto orderSched sameKeyWs ([0, 1].map fun w => Local.init w 5)

/-- WITNESS (second symptom of the same defect, reproduced on the real code under the deterministic scheduler, unit
    script `0A 0B 1A 1B 1C 1D 0C 0D`, as `tensor_chain.commit/concurrent_store_diverges_from_chain`): both overlapping commits return `Ok`, the chain has
    two new blocks and verifies — but the writes were applied to the store in the order 0,1 and the blocks were
    appended in the order 1,0, so the store holds `d1 = 11` while replaying the chain gives `d1 = 10`:
    the sequential-history invariant `DataInv` fails. -/
theorem concurrent_commit_order_witness :
    (∀ l ∈ orderRun.2, l.pc = .done) ∧ orderRun.2.map (·.res) = [some (.ok 2), some (.ok 1)] ∧
    orderRun.1.chain.height = 2 ∧ verifyChain drvCrypto orderRun.1.cfg.registry orderRun.1.chain = none ∧
    sget orderRun.1.chain.store (.data 1) = some (.data 11) ∧
    sget (applyTxs [] (chainTxs orderRun.1.chain.store orderRun.1.chain.height)) (.data 1) = some (.data 10) ∧
    ¬ DataInv orderRun.1.chain := by
  -- the other conjuncts are decided by one evaluation of the run
  have hN : ¬ DataInv orderRun.1.chain := fun h => absurd (h 1) (by decide +kernel)
  simp only [hN, not_false_eq_true, and_true]
  decide +kernel

/-! ### rollback -/

/-- WITNESS: `rollback` restores the WHOLE store to the workspace's checkpoint.  In the sequential history
    begin w0; put w0; begin w1; commit w0; rollback w1 the committed block 1 and its write disappear while
    the in-memory height stays 1. -/
theorem rollback_wipes_commit_witness :
    let n := runOps drvCrypto (initNode drvCrypto cfg0 0) [.begin, .put 0 1 1, .begin, .commit 0 5, .rollback 1]
    n.chain.height = 1 ∧ blockAt n.chain.store 1 = none ∧ sget n.chain.store (.data 1) = none ∧
    verifyChain drvCrypto cfg0.registry n.chain = some (.notFound 1) := by decide +kernel

/-- PARTIAL (missing: workspaces whose checkpoint is older than the last commit, see the witness).  A rollback
    leaves chain and store untouched when nothing was committed since the workspace began. -/
theorem rollback_untouched_partial (n : Node) (w : Nat) (ws : Ws) (hws : findWs n.wss w = some ws)
    (hsnap : ws.snap = n.chain.store) : (rollbackWs n w).1.chain = n.chain := by
  unfold rollbackWs
  simp only [hws]
  split
  · rfl
  · simp [hsnap]

/-! ### failed commits, early and late -/

/-- A FAILED COMMIT LEAVES CHAIN AND STORE EXACTLY AS THEY WERE IMMEDIATELY BEFORE THE CALL, for EVERY node state
    (any chain, any store contents, any registry contents, any set of workspaces with any operation lists) and
    whichever step failed: early (workspace not active, too many operations, conflict, merged block too large —
    nothing was written yet) or late (`Chain::append` rejects the block after the operations of the workspace and
    of the merged workspaces were applied to the store: the pre-apply snapshot is restored).  `chain` is the triple
    (store image, in-memory height, in-memory tip); equality of the store image covers every data key, every block
    record and the height record, hence also "the failed workspace's writes are absent". -/
theorem failed_commit_untouched (C : Crypto) (n : Node) (w ts : Nat)
    (hfail : ∀ h, (commit C n w ts).2.res ≠ some (.ok h)) :
    (commit C n w ts).1.chain = n.chain ∧ (commit C n w ts).1.cfg = n.cfg := by
  refine ⟨?_, commit_cfg C n w ts⟩
  rcases commit_atomic C n w ts with ⟨b, ws, extra, h1, _⟩ | ⟨h, _⟩
  · exact absurd h1 (hfail _)
  · exact h

/-- the same at the end of every history of client calls, the two registry calls
    (`validator_registry().remove(node_id)`, `register_validator(identity())`) included, from every start state -/
theorem failed_commit_untouched_history (C : Crypto) (n0 : Node) (ops : List OpX) (w ts : Nat) :
    let n := runOpsX C n0 ops
    (∀ h, (commit C n w ts).2.res ≠ some (.ok h)) →
      (commit C n w ts).1.chain = n.chain ∧ (commit C n w ts).1.cfg = n.cfg := by
  intro n h
  exact failed_commit_untouched C n w ts h

/-- THE LATE FAILURE, step by step, from every state in which `commit` has passed its early checks (`pc = snapshot`):
    if `Chain::append` rejects the block built over the store with the operations applied, then after the five steps
    snapshot / apply / root / build / append the store DOES hold the writes (`applyTxs`), and the restore step puts
    back exactly the chain of before (not the image of some earlier moment such as the workspace's `begin`), reports
    the append error and marks the workspace and every merged workspace `Failed`. -/
theorem late_failure_restores (C : Crypto) (n : Node) (l : Local) (hpc : l.pc = .snapshot) (e : AppendErr)
    (hfail : append C n.cfg.registry { n.chain with store := applyTxs n.chain.store l.ops }
              (builtBlock C n l.ops l.dirs (stateRoot C (applyTxs n.chain.store l.ops)) l.ts) = .error e) :
    (commitRun C 5 n l).2.pc = .restore ∧
    (commitRun C 5 n l).1.chain.store = applyTxs n.chain.store l.ops ∧
    (commitRun C 7 n l).2.pc = .done ∧
    (commitRun C 7 n l).2.res = some (.appendFailed e) ∧
    (commitRun C 7 n l).1.chain = n.chain ∧
    (commitRun C 7 n l).1.wss = setStates n.wss (l.ws :: l.merged) .failed := by
  rw [pipeline_err_restore hpc hfail, pipeline_err hpc hfail]
  exact ⟨rfl, rfl, rfl, rfl, rfl, rfl⟩

/-- the late failure is reachable without a second thread: with the node's own key absent from the registry and at
    least one block after genesis, `Chain::append` rejects every block `commit` builds (whatever the store, the
    operations, the state root, the time) -/
theorem unregistered_append_rejects (C : Crypto) (n : Node) (r : List (List Nat × Nat))
    (hreg : n.cfg.registry = some r) (hno : regLookup r n.cfg.nodeId = none) (hh : 1 ≤ n.chain.height)
    (s : List (SKey × SVal)) (ops : List Tx) (dirs root : List Nat) (ts : Nat) :
    ∃ e, (e = .unsigned ∨ e = .badSig) ∧
      append C n.cfg.registry { n.chain with store := s } (builtBlock C n ops dirs root ts) = .error e := by
  rw [append_eq]
  unfold appendCheck
  rw [fixTxRoot_of_root C _ rfl]
  by_cases hs : (builtBlock C n ops dirs root ts).header.signature = []
  · refine ⟨.unsigned, Or.inl rfl, ?_⟩
    have h1 : n.chain.height + 1 > 1 := by omega
    simp [builtBlock] at hs
    simp [builtBlock, hs, h1]
  · refine ⟨.badSig, Or.inr rfl, ?_⟩
    have h1 : n.chain.height + 1 > 1 := by omega
    simp [builtBlock] at hs
    simp [builtBlock, hs, h1, hreg, regSigOk, sigOk, hno]

/-- both together, seen from the client: a `commit` that passes its early checks on a node whose key is not
    registered (height ≥ 1) fails with the append error, after its writes were applied, and leaves the chain
    (store, height, tip) exactly as it was before the call -/
theorem commit_unregistered_late_failure (C : Crypto) (n : Node) (w ts : Nat) (r : List (List Nat × Nat))
    (hreg : n.cfg.registry = some r) (hno : regLookup r n.cfg.nodeId = none) (hh : 1 ≤ n.chain.height)
    (hprep : (commitStep C n (Local.init w ts)).2.pc = .snapshot) :
    ∃ e, (e = .unsigned ∨ e = .badSig) ∧ (commit C n w ts).2.res = some (.appendFailed e) ∧
      (commit C n w ts).1.chain = n.chain := by
  rw [commit_split]
  obtain ⟨hcfg, hch, _, _⟩ := prepare_spec C n (Local.init w ts) rfl _ rfl
  generalize commitStep C n (Local.init w ts) = q at hprep hcfg hch
  obtain ⟨n1, l1⟩ := q
  obtain ⟨e, he, happ⟩ := unregistered_append_rejects C n1 r (by rw [hcfg]; exact hreg) (by rw [hcfg]; exact hno)
    (by rw [hch]; exact hh) (applyTxs n1.chain.store l1.ops) l1.ops l1.dirs (stateRoot C (applyTxs n1.chain.store l1.ops)) l1.ts
  rw [pipeline_err hprep happ]
  exact ⟨e, he, rfl, hch⟩

/-- non-vacuity: block 1; workspace 1 begins and gets two writes (one over the committed key 1); workspace 2 begins
    and commits block 2; the node's key is removed -/
def lateHistory : List OpX :=
  [.op .begin, .op (.put 0 1 1), .op (.commit 0 5), .op .begin, .op (.put 1 1 9), .op (.put 1 2 2),
   .op .begin, .op (.put 2 3 3), .op (.commit 2 6), .unregister]

def lateNode : Node := runOpsX drvCrypto (initNode drvCrypto cfg0 0) lateHistory

/-- the hypotheses of `commit_unregistered_late_failure` hold at `lateNode`; the commit of workspace 1 fails late
    (`badSig` = "unknown proposer"), chain and store are those of before (two blocks, key 1 still 1, key 2 absent),
    and once the key is registered again the chain verifies -/
example : lateNode.cfg.registry = some [] ∧ regLookup [] lateNode.cfg.nodeId = none ∧ lateNode.chain.height = 2 ∧
    (commitStep drvCrypto lateNode (Local.init 1 7)).2.pc = .snapshot ∧
    (commit drvCrypto lateNode 1 7).2.res = some (.appendFailed .badSig) ∧
    (commit drvCrypto lateNode 1 7).1.chain = lateNode.chain ∧
    sget lateNode.chain.store (.data 1) = some (.data 1) ∧ sget lateNode.chain.store (.data 2) = none ∧
    verifyChain drvCrypto (registerSelf (commit drvCrypto lateNode 1 7).1).cfg.registry
      (commit drvCrypto lateNode 1 7).1.chain = none := by decide +kernel

/-- the restore step with the workspace's BEGIN-time checkpoint as the undo image (what `commit` would do if it
    reused `workspace.checkpoint_bytes()` instead of taking `snapshot_bytes()` before applying).  NOT the code:
    kept only for the witness below, which is why the harness stream `late_fail` compares the whole store. -/
def commitStepBeginCkpt (C : Crypto) (n : Node) (l : Local) : Node × Local :=
  match l.pc with
  | .restore =>
    let snap := match findWs n.wss l.ws with
      | some ws => ws.snap
      | none => l.snap
    (finish { n with chain := { n.chain with store := snap } } (l.ws :: l.merged) .failed,
     { l with pc := .done, res := some (.appendFailed (l.err.getD .height)) })
  | _ => commitStep C n l

def commitRunBeginCkpt (C : Crypto) : Nat → Node → Local → Node × Local
  | 0, n, l => (n, l)
  | f + 1, n, l =>
    if l.pc = .done then (n, l)
    else
      let r := commitStepBeginCkpt C n l
      commitRunBeginCkpt C f r.1 r.2

/-- WITNESS (why the undo image must be taken right before the apply step): with the begin-time checkpoint as undo
    image the same failed commit at `lateNode` erases block 2 and its write (committed by workspace 2 after
    workspace 1 began) while the in-memory height stays 2, so `failed_commit_untouched` fails and the chain no
    longer verifies even with the key registered again — whereas nothing is lost when no commit lies between the
    workspace's `begin` and its failed commit (the k = 0 histories of the harness stream). -/
theorem begin_checkpoint_restore_witness :
    let r := commitRunBeginCkpt drvCrypto 8 lateNode (Local.init 1 7)
    r.2.res = some (.appendFailed .badSig) ∧ r.1.chain.height = 2 ∧ r.1.chain ≠ lateNode.chain ∧
    blockAt r.1.chain.store 2 = none ∧ sget r.1.chain.store (.data 3) = none ∧
    verifyChain drvCrypto (registerSelf r.1).cfg.registry r.1.chain = some (.notFound 2) := by decide +kernel

/-! ### the sequential-history invariant; `built_chain_verifies` for commit-built chains -/

/-- side conditions of one client call in a sequential history.  `commit`: the clock (`SystemTime::now`, the
    block timestamp) has not gone back since the tip block.  `rollback`: the workspace's checkpoint is still the
    current store, i.e. nothing was committed since its `begin` (otherwise: `rollback_wipes_commit_witness`).
    Everything else is unconditional. -/
def OpOk (n : Node) : Op → Prop
  | .commit _ ts =>
    match blockAt n.chain.store n.chain.height with
    | some t => t.header.timestamp ≤ ts
    | none => True
  | .rollback w =>
    match findWs n.wss w with
    | some ws => ws.state = .committed ∨ ws.snap = n.chain.store
    | none => True
  | _ => True

instance (n : Node) (op : Op) : Decidable (OpOk n op) := by
  cases op <;> simp only [OpOk] <;> (try split) <;> infer_instance

/-- node states reachable from `TensorChain::initialize` through ANY sequential history of client calls
    (`begin` / `put` / `delete` / delta / `commit` / `rollback` over any number of workspaces, auto-merge or not) -/
inductive SeqReach (C : Crypto) (cfg : Config) : Node → Prop where
  | init (ts : Nat) : SeqReach C cfg (initNode C cfg ts)
  | step (n : Node) (op : Op) : SeqReach C cfg n → OpOk n op → SeqReach C cfg (stepOp C n op)

theorem commit_dataInv (C : Crypto) (n : Node) (w ts : Nat) (h : DataInv n.chain) : DataInv (commit C n w ts).1.chain := by
  obtain ⟨_, _, hn | ⟨ws, _, _, ⟨hch, _⟩ | ⟨c', happ, hch, _⟩⟩⟩ := commit_spec C n w ts _ rfl
  · rw [hn.1]; exact h
  · rw [hch]; exact h
  · rw [hch, append_applied_ok n.chain happ, fixTxRoot_of_root C _ rfl]
    exact dataInv_commit n.chain (builtBlock ..) _ h

/-- THE SEQUENTIAL-HISTORY INVARIANT.  After every sequential history (any length, any number of workspaces):
    the configuration is unchanged, the chain invariant `Inv` holds (every block `1..=height` present, linked, its
    `tx_root` matching, timestamps monotone, signed by a registered key; tip = hash of the last block) and the
    store's data image is exactly the replay of the transactions of blocks `1..=height` in chain order. -/
theorem sequential_history_invariant (C : Crypto) (cfg : Config) (hsc : SignCorrect C)
    (hreg : ∀ r, cfg.registry = some r → regLookup r cfg.nodeId = some cfg.key) (n : Node) (h : SeqReach C cfg n) :
    n.cfg = cfg ∧ Inv C cfg.registry n.chain ∧ DataInv n.chain := by
  induction h with
  | init ts => exact ⟨rfl, inv_init C _ _ _ _, dataInv_init C _ _⟩
  | step n op _ hop ih =>
    obtain ⟨hcfg, hinv, hdata⟩ := ih
    have hroll : ∀ w, op = .rollback w → ∀ ws, findWs n.wss w = some ws → ws.state = .committed ∨ ws.snap = n.chain.store :=
      fun w e ws h => by subst e; simpa only [OpOk, h] using hop
    cases op with
    | commit w ts =>
      refine ⟨(commit_cfg C n w ts).trans hcfg, ?_, commit_dataInv C n w ts hdata⟩
      have := commit_inv C n w ts hsc (by rw [hcfg]; exact hreg) (by rw [hcfg]; exact hinv)
        (by intro t ht; simp only [OpOk, ht] at hop; exact hop)
      rw [hcfg] at this
      exact this
    | _ =>
      obtain ⟨h1, h2⟩ := stepOp_chain C n _ hroll nofun
      rw [h1, h2]
      exact ⟨hcfg, hinv, hdata⟩

/-- `built_chain_verifies` for the chains the system itself builds: through the workspace commit path the two
    checks `Chain::append` omits cannot fail (every block is signed by the node's registered key, also the one at
    height 1; timestamps come from a clock that does not go back), so after EVERY sequential history
    `verify_chain` returns `Ok`. -/
theorem commit_built_chain_verifies (C : Crypto) (cfg : Config) (hsc : SignCorrect C)
    (hreg : ∀ r, cfg.registry = some r → regLookup r cfg.nodeId = some cfg.key) (n : Node) (h : SeqReach C cfg n) :
    verifyChain C n.cfg.registry n.chain = none := by
  obtain ⟨hcfg, hinv, _⟩ := sequential_history_invariant C cfg hsc hreg n h
  rw [hcfg]
  exact verify_complete C _ _ hinv.ok

example : SignCorrect drvCrypto := fun k m => ⟨by simp [drvCrypto], by simp [drvCrypto]⟩

/-- every op list whose calls satisfy `OpOk` at the state they are issued in is a sequential history -/
theorem seqReach_of_runOps (C : Crypto) (cfg : Config) :
    ∀ (ops : List Op) (n : Node), SeqReach C cfg n → (∀ i (h : i < ops.length), OpOk (runOps C n (ops.take i)) ops[i]) →
      SeqReach C cfg (runOps C n ops) :=
  foldl_mem_of_closed (SeqReach C cfg) (stepOp C) OpOk .step

/-- non-vacuity: a history with two workspaces, a fresh rollback and two commits is in `SeqReach`; it ends with
    two blocks -/
def exHistory : List Op := [.begin, .put 0 1 1, .begin, .rollback 1, .begin, .put 2 2 2, .commit 0 5, .commit 2 6]

example : SeqReach drvCrypto cfg0 (runOps drvCrypto (initNode drvCrypto cfg0 0) exHistory) ∧
    (runOps drvCrypto (initNode drvCrypto cfg0 0) exHistory).chain.height = 2 ∧
    regLookup [([1], 1)] cfg0.nodeId = some cfg0.key :=
  -- one evaluation of the history: the side conditions of its calls (`foldOk`) and the concrete facts
  And.imp_left (fun h => seqReach_of_runOps _ _ _ _ (.init 0) (foldOk_spec (stepOp drvCrypto) OpOk _ _ h)) (by decide +kernel)

/-! ## 4. replay is deterministic -/

def replay (C : Crypto) (reg : Option (List (List Nat × Nat))) (r : Replica) (bs : List Block) : Replica :=
  bs.foldl (fun r b => (applyBlock C reg r b).1) r

/-- two replicas are in agreement when the key/value image the state root scans is the same and their
    chains are at the same height and tip (exactly what `apply_block` + `append` read) -/
def Agree (r1 r2 : Replica) : Prop :=
  r1.shared = r2.shared ∧ r1.stateStore = r2.stateStore ∧ r1.chain.height = r2.chain.height ∧ r1.chain.tip = r2.chain.tip

theorem applyBlock_agree (C : Crypto) (reg : Option (List (List Nat × Nat))) (r1 r2 : Replica) (b : Block)
    (h : Agree r1 r2) :
    Agree (applyBlock C reg r1 b).1 (applyBlock C reg r2 b).1 ∧ (applyBlock C reg r1 b).2 = (applyBlock C reg r2 b).2 := by
  obtain ⟨s1, c1, sh1⟩ := r1
  obtain ⟨s2, c2, sh2⟩ := r2
  obtain ⟨st1, h1, t1⟩ := c1
  obtain ⟨st2, h2, t2⟩ := c2
  obtain ⟨hsh, hst, hh, ht⟩ := h
  simp only at hsh hh ht
  subst hsh hh ht
  -- both store configurations alike: the verdict of `append` reads height and tip only (`append_eq`)
  cases sh1
  all_goals
    simp only [Replica.stateStore, Bool.false_eq_true, if_false, if_true] at hst
    subst hst
    simp only [applyBlock, Replica.stateStore, Replica.setState, Bool.false_eq_true, if_false, if_true, append_eq]
    split
    · simp [Agree, Replica.stateStore]
    · cases appendCheck C reg h1 t1 b <;> simp [Agree, Replica.stateStore]

/-- DETERMINISM, with exactly the hypothesis the code needs: the state root is a function of the scanned
    key/value image, so replicas that agree on that image (and on chain height/tip) accept/reject every block of
    every block sequence identically and end with the same state root. -/
theorem replay_deterministic (C : Crypto) (reg : Option (List (List Nat × Nat))) (bs : List Block) (r1 r2 : Replica)
    (h : Agree r1 r2) :
    Agree (replay C reg r1 bs) (replay C reg r2 bs) ∧
    stateRoot C (replay C reg r1 bs).stateStore = stateRoot C (replay C reg r2 bs).stateStore := by
  induction bs generalizing r1 r2 with
  | nil => exact ⟨h, by rw [show (replay C reg r1 []).stateStore = r1.stateStore from rfl,
                            show (replay C reg r2 []).stateStore = r2.stateStore from rfl, h.2.1]⟩
  | cons b bs ih => exact ih _ _ (applyBlock_agree C reg r1 r2 b h).1

/-- non-vacuity: two replicas with separate state stores and different chain stores (one already pruned) agree -/
example : Agree (initReplica drvCrypto false [1] 5)
    { initReplica drvCrypto false [1] 5 with chain := { (initReplica drvCrypto false [1] 5).chain with store := [] } } := by
  unfold Agree
  decide +kernel

/-- WITNESS: when the state store is the chain store, the scanned image contains the replica's own chain
    records; two replicas whose records differ (here: genesis timestamps 5 and 6) compute different roots
    for the same block, so a block valid on one is rejected by the other. -/
theorem replay_shared_store_witness :
    let r1 := initReplica drvCrypto true [1] 5
    let r2 := initReplica drvCrypto true [1] 6
    let root := stateRoot drvCrypto (applyTxs r1.chain.store [.put 1 1])
    let h0 : Header := { height := 1, prevHash := r1.chain.tip, txRoot := txRoot drvCrypto [.put 1 1], stateRoot := root,
                         embedding := [], codes := [], timestamp := 7, proposer := [1], signature := [7] }
    let b : Block := { header := h0, txs := [.put 1 1], sigs := [] }
    (applyBlock drvCrypto none r1 b).2 = none ∧ (applyBlock drvCrypto none r2 b).2 = some .stateRoot := by decide +kernel


end Neumann.Chain.Props
