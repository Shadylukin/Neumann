import NeumannModel.Chain.Model
namespace Neumann.Chain

/-- SHA-256 is injective on the byte strings that occur (`occ`) -/
def HashInjOn (C : Crypto) (occ : List Nat → Prop) : Prop :=
  ∀ x y, occ x → occ y → C.hash x = C.hash y → x = y

/-- unforgeability on the occurring values: a `(message, signature)` pair verifies under key `k`
    only if the holder of `k` produced it (`signed` lists what the validators signed) -/
def SigSound (C : Crypto) (signed : List (Nat × List Nat × List Nat)) : Prop :=
  ∀ k m s, C.verify k m s = true → (k, m, s) ∈ signed

/-- `sign` produces non-empty signatures that verify -/
def SignCorrect (C : Crypto) : Prop :=
  ∀ k m, C.sign k m ≠ [] ∧ C.verify k m (C.sign k m) = true

/-- the integer fields fit their Rust types -/
def Header.WF (h : Header) : Prop :=
  h.height < 2 ^ 64 ∧ h.timestamp < 2 ^ 64 ∧ ∀ c ∈ h.codes, c < 2 ^ 16

theorem leBytes_length (n v : Nat) : (leBytes n v).length = n := by
  induction n generalizing v with
  | zero => rfl
  | succ n ih => simp [leBytes, ih]

theorem leBytes_inj (n : Nat) : ∀ (a b : Nat), a < 256 ^ n → b < 256 ^ n → leBytes n a = leBytes n b → a = b := by
  induction n with
  | zero => intro a b ha hb _; simp at ha hb; omega
  | succ n ih =>
    intro a b ha hb h
    simp only [leBytes, List.cons.injEq] at h
    rw [Nat.pow_succ] at ha hb
    have := ih _ _ (Nat.div_lt_of_lt_mul (by omega)) (Nat.div_lt_of_lt_mul (by omega)) h.2
    omega

theorem leBytes8_inj (a b : Nat) (ha : a < 2 ^ 64) (hb : b < 2 ^ 64) (h : leBytes 8 a = leBytes 8 b) : a = b :=
  leBytes_inj 8 a b ha hb h

theorem flatMap_leBytes2_inj : ∀ (xs ys : List Nat), (∀ c ∈ xs, c < 2 ^ 16) → (∀ c ∈ ys, c < 2 ^ 16) →
    xs.flatMap (leBytes 2) = ys.flatMap (leBytes 2) → xs = ys
  | [], [], _, _, _ => rfl
  | [], _ :: _, _, _, h => by simp [List.flatMap_cons, leBytes] at h
  | _ :: _, [], _, _, h => by simp [List.flatMap_cons, leBytes] at h
  | x :: xs, y :: ys, hx, hy, h => by
    simp only [List.flatMap_cons] at h
    have h' := List.append_inj h (by rw [leBytes_length, leBytes_length])
    rw [leBytes_inj 2 x y (hx x (List.mem_cons_self ..)) (hy y (List.mem_cons_self ..)) h'.1,
      flatMap_leBytes2_inj xs ys (fun c hc => hx c (List.mem_cons_of_mem _ hc)) (fun c hc => hy c (List.mem_cons_of_mem _ hc)) h'.2]

theorem bytes_height (h1 h2 : Header) (w1 : h1.height < 2 ^ 64) (w2 : h2.height < 2 ^ 64)
    (h : h1.bytes = h2.bytes) : h1.height = h2.height :=
  leBytes8_inj _ _ w1 w2 (List.append_inj h (by rw [leBytes_length, leBytes_length])).1

theorem sget_sput_same (s : List (SKey × SVal)) (k : SKey) (v : SVal) : sget (sput s k v) k = some v := by
  induction s with
  | nil => simp [sput, sget]
  | cons kv r ih =>
    obtain ⟨k', v'⟩ := kv
    simp only [sput]
    split
    · simp [sget]
    · split
      · simp [sget]
      · rename_i hne _
        simp [sget, hne, ih]

theorem sget_sput_ne (s : List (SKey × SVal)) (k k' : SKey) (v : SVal) (hne : k ≠ k') :
    sget (sput s k v) k' = sget s k' := by
  induction s with
  | nil => simp [sput, sget, hne]
  | cons kv r ih =>
    obtain ⟨k2, v2⟩ := kv
    simp only [sput]
    split
    · rename_i heq
      subst heq
      simp [sget, hne]
    · split
      · simp [sget, hne]
      · simp [sget, ih]

theorem sget_sdel_same (s : List (SKey × SVal)) (k : SKey) : sget (sdel s k) k = none := by
  induction s with
  | nil => rfl
  | cons kv r ih =>
    obtain ⟨k2, v2⟩ := kv
    simp only [sdel]
    split
    · exact ih
    · rename_i hne
      simp [sget, hne, ih]

theorem sget_sdel_ne (s : List (SKey × SVal)) (k k' : SKey) (hne : k ≠ k') : sget (sdel s k) k' = sget s k' := by
  induction s with
  | nil => rfl
  | cons kv r ih =>
    obtain ⟨k2, v2⟩ := kv
    simp only [sdel]
    split
    · rename_i heq
      subst heq
      simp [sget, hne, ih]
    · simp [sget, ih]

theorem blockAt_sput_same (s : List (SKey × SVal)) (i : Nat) (b : Block) :
    blockAt (sput s (.block i) (.block b)) i = some b := by
  simp only [blockAt, sget_sput_same]

theorem blockAt_sput_ne (s : List (SKey × SVal)) (k : SKey) (v : SVal) (j : Nat) (hne : k ≠ .block j) :
    blockAt (sput s k v) j = blockAt s j := by
  simp only [blockAt, sget_sput_ne _ _ _ _ hne]

theorem blockAt_sput_block_ne {s : List (SKey × SVal)} {i j : Nat} {v : SVal} (h : i ≠ j) :
    blockAt (sput s (.block i) v) j = blockAt s j :=
  blockAt_sput_ne _ _ _ _ fun e => h (SKey.block.inj e)

theorem blockAt_sdel_same (s : List (SKey × SVal)) (i : Nat) : blockAt (sdel s (.block i)) i = none := by
  simp only [blockAt, sget_sdel_same]

theorem blockAt_sdel_ne (s : List (SKey × SVal)) (k : SKey) (j : Nat) (hne : k ≠ .block j) :
    blockAt (sdel s k) j = blockAt s j := by
  simp only [blockAt, sget_sdel_ne _ _ _ hne]

/-- two stores hold the same records (the lists may differ in order) -/
def StoreEq (s s' : List (SKey × SVal)) : Prop := ∀ k, sget s k = sget s' k

theorem storeEq_blockAt {s s' : List (SKey × SVal)} (h : StoreEq s s') (j : Nat) : blockAt s j = blockAt s' j := by
  simp only [blockAt, h (.block j)]

theorem sput_storeEq_of_sget (s : List (SKey × SVal)) (k : SKey) (v : SVal) (h : sget s k = some v) :
    StoreEq (sput s k v) s := by
  intro k'
  by_cases hk : k = k'
  · subst hk; rw [sget_sput_same, h]
  · rw [sget_sput_ne _ _ _ _ hk]

theorem blockAt_appended_new (s : List (SKey × SVal)) (h : Nat) (b : Block) (v : SVal) :
    blockAt (sput (sput s (.block h) (.block b)) .chainMeta v) h = some b := by
  rw [blockAt_sput_ne _ .chainMeta _ h nofun, blockAt_sput_same]

theorem blockAt_appended_old (s : List (SKey × SVal)) (h : Nat) (b : SVal) (v : SVal) (j : Nat) (hj : j ≠ h) :
    blockAt (sput (sput s (.block h) b) .chainMeta v) j = blockAt s j := by
  rw [blockAt_sput_ne _ .chainMeta _ j nofun, blockAt_sput_block_ne (Ne.symm hj)]

theorem sget_applyTx_ne (s : List (SKey × SVal)) (t : Tx) (k : SKey) (hk : .data t.key ≠ k) :
    sget (applyTx s t) k = sget s k := by
  cases t with
  | put k' v => exact sget_sput_ne _ _ _ _ hk
  | del k' => exact sget_sdel_ne _ _ _ hk
  | cas k' e v =>
    simp only [applyTx]
    split
    · exact sget_sput_ne _ _ _ _ hk
    · rfl

theorem sget_applyTxs_ne (k : SKey) (txs : List Tx) : ∀ (s : List (SKey × SVal)), (∀ t ∈ txs, .data t.key ≠ k) →
    sget (applyTxs s txs) k = sget s k := by
  induction txs with
  | nil => intro s _; rfl
  | cons t ts ih =>
    intro s h
    exact (ih (applyTx s t) fun x hx => h x (List.mem_cons_of_mem _ hx)).trans
      (sget_applyTx_ne s t k (h t (List.mem_cons_self ..)))

theorem sget_applyTxs_reserved (s : List (SKey × SVal)) (txs : List Tx) (k : SKey) (hk : k.reserved = true) :
    sget (applyTxs s txs) k = sget s k :=
  sget_applyTxs_ne k txs s fun _ _ e => by rw [← e] at hk; cases hk

theorem blockAt_applyTxs (s : List (SKey × SVal)) (txs : List Tx) (j : Nat) : blockAt (applyTxs s txs) j = blockAt s j := by
  simp only [blockAt, sget_applyTxs_reserved s txs (.block j) rfl]

theorem sget_applyTx_same (s s' : List (SKey × SVal)) (t : Tx) (h : sget s (.data t.key) = sget s' (.data t.key)) :
    sget (applyTx s t) (.data t.key) = sget (applyTx s' t) (.data t.key) := by
  cases t with
  | put k v => simp only [applyTx, Tx.key, sget_sput_same]
  | del k => simp only [applyTx, Tx.key, sget_sdel_same]
  | cas k e v =>
    simp only [Tx.key] at h
    have hd : dataAt s k = dataAt s' k := by simp only [dataAt, h]
    simp only [applyTx, Tx.key, hd]
    split
    · simp only [sget_sput_same]
    · exact h

theorem sget_applyTxs_filter (k : Nat) (txs : List Tx) : ∀ (s s' : List (SKey × SVal)),
    sget s (.data k) = sget s' (.data k) →
    sget (applyTxs s txs) (.data k) = sget (applyTxs s' (txs.filter fun t => t.key = k)) (.data k) := by
  unfold applyTxs
  induction txs with
  | nil => intro s s' h; exact h
  | cons t ts ih =>
    intro s s' h
    by_cases hk : t.key = k
    · simp only [List.filter_cons, hk, decide_true, if_true, List.foldl_cons]
      subst hk
      exact ih _ _ (sget_applyTx_same s s' t h)
    · simp only [List.filter_cons, hk, decide_false, List.foldl_cons]
      exact ih _ _ (by rw [sget_applyTx_ne s t _ (fun e => hk (SKey.data.inj e))]; exact h)

/-- equal data images (what clients read; block and metadata records are not compared) -/
def DataEq (s s' : List (SKey × SVal)) : Prop := ∀ k, sget s (.data k) = sget s' (.data k)

theorem DataEq.trans {a b c : List (SKey × SVal)} (h1 : DataEq a b) (h2 : DataEq b c) : DataEq a c :=
  fun k => (h1 k).trans (h2 k)

theorem applyTx_dataEq (s s' : List (SKey × SVal)) (h : DataEq s s') (t : Tx) : DataEq (applyTx s t) (applyTx s' t) := by
  intro k
  by_cases hk : t.key = k
  · subst hk; exact sget_applyTx_same s s' t (h _)
  · have hne : SKey.data t.key ≠ .data k := fun e => hk (SKey.data.inj e)
    rw [sget_applyTx_ne s t _ hne, sget_applyTx_ne s' t _ hne]; exact h k

theorem applyTxs_dataEq (txs : List Tx) : ∀ (s s' : List (SKey × SVal)), DataEq s s' → DataEq (applyTxs s txs) (applyTxs s' txs) := by
  unfold applyTxs
  induction txs with
  | nil => intro s s' h; exact h
  | cons t ts ih => intro s s' h; exact ih _ _ (applyTx_dataEq s s' h t)

theorem applyTxs_append (s : List (SKey × SVal)) (a b : List Tx) : applyTxs s (a ++ b) = applyTxs (applyTxs s a) b :=
  List.foldl_append ..

theorem dataEq_appended (s : List (SKey × SVal)) (h : Nat) (b v : SVal) :
    DataEq (sput (sput s (.block h) b) .chainMeta v) s :=
  fun k => (sget_sput_ne _ .chainMeta (.data k) _ nofun).trans (sget_sput_ne _ (.block h) (.data k) _ nofun)

theorem foldl_mem_of_closed {σ α : Type} (R : σ → Prop) (step : σ → α → σ) (P : σ → α → Prop)
    (hstep : ∀ s a, R s → P s a → R (step s a)) :
    ∀ (l : List α) (s : σ), R s → (∀ i (h : i < l.length), P ((l.take i).foldl step s) l[i]) → R (l.foldl step s)
  | [], _, hs, _ => hs
  | a :: l, s, hs, hok =>
    foldl_mem_of_closed R step P hstep l (step s a) (hstep s a hs (hok 0 (Nat.zero_lt_succ _)))
      (fun i h => hok (i + 1) (Nat.succ_lt_succ h))

/-- the side conditions of a concrete history, checked in one pass (evaluating the `∀ i` form runs every prefix again) -/
def foldOk {σ α : Type} (step : σ → α → σ) (P : σ → α → Prop) [∀ s a, Decidable (P s a)] : σ → List α → Bool
  | _, [] => true
  | s, a :: l => decide (P s a) && foldOk step P (step s a) l

theorem foldOk_spec {σ α : Type} (step : σ → α → σ) (P : σ → α → Prop) [∀ s a, Decidable (P s a)] :
    ∀ (l : List α) (s : σ), foldOk step P s l = true → ∀ i (h : i < l.length), P ((l.take i).foldl step s) l[i]
  | [], _, _, _, h => absurd h (Nat.not_lt_zero _)
  | a :: l, s, hok, i, h => by
    simp only [foldOk, Bool.and_eq_true, decide_eq_true_eq] at hok
    cases i with
    | zero => exact hok.1
    | succ i => exact foldOk_spec step P l (step s a) hok.2 i (Nat.lt_of_succ_lt_succ h)

end Neumann.Chain
