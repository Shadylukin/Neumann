import NeumannModel.Chain.Props
/-
  C16 — property theorems, part 5: EVERY TRANSACTION OF A BLOCK FEEDS ITS TRANSACTION ROOT.  "Tamper-evident"
  needs more of `merkle_root` than determinism: the root a block's header carries (and the validators signed)
  must change when any ONE transaction of the block — first, inner, last, at any block size — is replaced by a
  different one.  `merkle_root` achieves it because every level of the tree, not just the leaf level, pairs an odd
  last node with itself (`merkleLevel`); the proofs go level by level (`merkleLevel_inj`, then `merkleLoop_inj`
  by induction over the levels).  A variant that pads the leaves once and folds pairs with `chunks_exact(2)` is
  refuted at 5 and 6 leaves.  Same conventions as `Props.lean`.
-/
namespace Neumann.Chain.Props
open Neumann.Chain

/-! ## 12. every leaf influences the root -/

/-- EVERY LEAF INFLUENCES THE MERKLE ROOT, for every number of leaves and every position: replacing leaf `k` by a
    different digest changes `merkle_root(leaves)`.  Hypotheses: the area's `HashInjOn` on the byte strings the
    two computations feed to SHA-256 (`loopInputs`: the pairs of every level) and one digest length. -/
theorem every_leaf_influences_merkle_root (C : Crypto) (occ : List Nat → Prop) (hinj : HashInjOn C occ) (n : Nat)
    (hl : HashLen C n) (leaves : List (List Nat)) (hall : ∀ x ∈ leaves, x.length = n)
    (k : Nat) (hk : k < leaves.length) (x' : List Nat) (hx' : x'.length = n) (hne : x' ≠ leaves[k])
    (o1 : ∀ z ∈ loopInputs C leaves.length leaves, occ z)
    (o2 : ∀ z ∈ loopInputs C leaves.length (leaves.set k x'), occ z) :
    merkleRoot C (leaves.set k x') ≠ merkleRoot C leaves := by
  intro h
  unfold merkleRoot at h
  rw [List.length_set] at h
  have hall' : ∀ x ∈ leaves.set k x', x.length = n := by
    intro x hx
    rcases List.mem_or_eq_of_mem_set hx with hx | hx
    · exact hall x hx
    · rw [hx]; exact hx'
  have := merkleLoop_inj C occ hinj n hl leaves.length (leaves.set k x') leaves (List.length_set ..)
    (by rw [List.length_set]; exact Nat.le_refl _) hall' hall o2 o1 h
  exact set_ne_of_ne leaves k hk x' hne this

/-- EVERY TRANSACTION INFLUENCES `tx_root`, for every transaction list and every position: replacing transaction
    `k` by a different transaction changes `Block::compute_tx_root` — whether `k` is the first, an inner or the
    last transaction, whatever the parity of any level of the tree. -/
theorem every_transaction_influences_tx_root (C : Crypto) (occ : List Nat → Prop) (hinj : HashInjOn C occ) (n : Nat)
    (hl : HashLen C n) (txs : List Tx) (k : Nat) (hk : k < txs.length) (t' : Tx) (hne : t' ≠ txs[k])
    (o1 : ∀ z ∈ txRootInputs C txs, occ z) (o2 : ∀ z ∈ txRootInputs C (txs.set k t'), occ z) :
    txRoot C (txs.set k t') ≠ txRoot C txs := by
  intro h
  have := txRoot_inj_of_length_eq C occ hinj n hl (txs.set k t') txs (List.length_set ..) o2 o1 h
  exact set_ne_of_ne txs k hk t' hne this

/-- ALTERING ONE TRANSACTION OF ANY STORED BLOCK IS DETECTED: for every chain built through the public interface
    (`Inv`), every chain length, every stored block `i ≤ height` (genesis included), every position `k` of its
    transaction list and every different transaction `t'`: `verify_chain` over the store with that one
    transaction replaced does not return `Ok`. -/
theorem altered_transaction_detected (C : Crypto) (reg : Option (List (List Nat × Nat))) (occ : List Nat → Prop)
    (c : ChainSt) (hinv : Inv C reg c) (hinj : HashInjOn C occ) (n : Nat) (hl : HashLen C n) (hh : 1 ≤ c.height)
    (i : Nat) (h2 : i ≤ c.height) (o : Block) (ho : blockAt c.store i = some o)
    (k : Nat) (hk : k < o.txs.length) (t' : Tx) (hne : t' ≠ o.txs[k])
    (o1 : ∀ z ∈ txRootInputs C o.txs, occ z) (o2 : ∀ z ∈ txRootInputs C (o.txs.set k t'), occ z) :
    verifyChain C reg (withBlock c i (o.setTx k t')) ≠ none :=
  tamper_detected_transactions C reg occ c hinv hinj n hl hh i h2 o ho (o.txs.set k t') (List.length_set ..) o1 o2
    (set_ne_of_ne o.txs k hk t' hne)

/-! ### non-vacuity: five transactions, the LAST one altered, under a crypto with one digest length that is
    injective on every string the two computations hash -/

/-- digests of length 1: the input read as a number in base 1000 (digits shifted by one) -/
def polyCrypto : Crypto := { drvCrypto with hash := fun x => [x.foldl (fun acc a => acc * 1000 + a + 1) 0] }

def fiveTxs : List Tx := [.put 1 1, .put 2 2, .put 3 3, .put 4 4, .put 5 5]
def sixTxs : List Tx := fiveTxs ++ [.put 6 6]
def fiveOcc : List (List Nat) := txRootInputs polyCrypto fiveTxs ++ txRootInputs polyCrypto (fiveTxs.set 4 (.put 5 9))

example : HashLen polyCrypto 1 := fun _ => rfl

example : HashInjOn polyCrypto (· ∈ fiveOcc) := by
  intro x y hx hy
  revert y
  revert x
  decide +kernel

example : (4 < fiveTxs.length) ∧ Tx.put 5 9 ≠ fiveTxs[4] ∧ (∀ z ∈ txRootInputs polyCrypto fiveTxs, z ∈ fiveOcc) ∧
    (∀ z ∈ txRootInputs polyCrypto (fiveTxs.set 4 (.put 5 9)), z ∈ fiveOcc) ∧
    txRoot polyCrypto (fiveTxs.set 4 (.put 5 9)) ≠ txRoot polyCrypto fiveTxs :=
  ⟨by decide +kernel, by decide +kernel, fun z hz => List.mem_append_left _ hz, fun z hz => List.mem_append_right _ hz, by decide +kernel⟩

/-! ### the variant that drops the last node of an odd inner level -/

/-- WITNESS (any hash function): under the pad-once / `chunks_exact(2)` variant the fifth of five transactions and
    the fifth and sixth of six do not reach the root at all — two lists differing exactly there share one root. -/
theorem drops_odd_intermediate_node_any_hash_witness (C : Crypto) (a b c d e e' f f' : Tx) :
    txRootDropsOddIntermediateNode C [a, b, c, d, e] = txRootDropsOddIntermediateNode C [a, b, c, d, e'] ∧
    txRootDropsOddIntermediateNode C [a, b, c, d, e, f] = txRootDropsOddIntermediateNode C [a, b, c, d, e', f'] := by
  constructor <;>
    simp [txRootDropsOddIntermediateNode, merkleRootDropsOddIntermediateNode, merkleLoopExact, merkleLevelExact]

/-- WITNESS at 5 and 6 leaves (concrete, by evaluation): replacing the last transaction of five, or the fifth or
    the sixth of six, leaves the variant's root unchanged, while `compute_tx_root` as it is changes each time. -/
theorem tx_root_drops_odd_intermediate_node_witness :
    (txRootDropsOddIntermediateNode drvCrypto (fiveTxs.set 4 (.put 5 9)) = txRootDropsOddIntermediateNode drvCrypto fiveTxs ∧
      txRoot drvCrypto (fiveTxs.set 4 (.put 5 9)) ≠ txRoot drvCrypto fiveTxs) ∧
    (txRootDropsOddIntermediateNode drvCrypto (sixTxs.set 4 (.put 5 9)) = txRootDropsOddIntermediateNode drvCrypto sixTxs ∧
      txRoot drvCrypto (sixTxs.set 4 (.put 5 9)) ≠ txRoot drvCrypto sixTxs) ∧
    (txRootDropsOddIntermediateNode drvCrypto (sixTxs.set 5 (.del 6)) = txRootDropsOddIntermediateNode drvCrypto sixTxs ∧
      txRoot drvCrypto (sixTxs.set 5 (.del 6)) ≠ txRoot drvCrypto sixTxs) := by
  decide +kernel

/-- the variant is the SAME function as `compute_tx_root` on blocks of 1, 2, 3, 4, 7 and 8 transactions (no inner
    level of those trees is odd) — which is why blocks of up to four transactions cannot tell them apart -/
def putsUpTo (n : Nat) : List Tx := (List.range n).map fun i => .put i (i + 1)

example : ∀ n ∈ [0, 1, 2, 3, 4, 7, 8], txRootDropsOddIntermediateNode drvCrypto (putsUpTo n) = txRoot drvCrypto (putsUpTo n) := by
  decide +kernel

example : ∀ n ∈ [5, 6, 9, 10, 11, 12, 13], txRootDropsOddIntermediateNode drvCrypto (putsUpTo n) ≠ txRoot drvCrypto (putsUpTo n) := by
  decide +kernel

/-- genesis + one signed block of five transactions whose header carries `root` of them -/
def fiveBlock (root : List Tx → List Nat) : Block :=
  let h0 : Header := { height := 1, prevHash := (genesisBlock drvCrypto [1] 10).header.hash drvCrypto,
                       txRoot := root fiveTxs, stateRoot := [0], embedding := [], codes := [],
                       timestamp := 11, proposer := [1], signature := [] }
  { header := { h0 with signature := drvCrypto.sign 1 h0.bytes }, txs := fiveTxs, sigs := [] }

def fiveChain (root : List Tx → List Nat) : ChainSt :=
  let g := initChain drvCrypto [] [1] 10
  { store := sput (sput g.store (.block 1) (.block (fiveBlock root))) .chainMeta (.height 1), height := 1,
    tip := (fiveBlock root).header.hash drvCrypto }

/-- WITNESS: tamper evidence is lost under the variant.  A verifier that recomputes transaction roots with the
    pad-once / `chunks_exact(2)` function accepts the honest chain (validator key registered) AND the same store
    with the last of block 1's five transactions replaced; `verify_chain` as it is (`verifyChainR` with
    `compute_tx_root` is `verifyChain`, `verifyChainR_txRoot`) accepts its honest chain and answers
    `tx_root does not match transactions` on the altered one. -/
theorem altered_transaction_undetected_when_odd_intermediate_node_dropped_witness :
    verifyChainR drvCrypto (txRootDropsOddIntermediateNode drvCrypto) (some [([1], 1)])
      (fiveChain (txRootDropsOddIntermediateNode drvCrypto)) = none ∧
    verifyChainR drvCrypto (txRootDropsOddIntermediateNode drvCrypto) (some [([1], 1)])
      (withBlock (fiveChain (txRootDropsOddIntermediateNode drvCrypto)) 1
        ((fiveBlock (txRootDropsOddIntermediateNode drvCrypto)).setTx 4 (.put 5 9))) = none ∧
    verifyChain drvCrypto (some [([1], 1)]) (fiveChain (txRoot drvCrypto)) = none ∧
    verifyChain drvCrypto (some [([1], 1)])
      (withBlock (fiveChain (txRoot drvCrypto)) 1 ((fiveBlock (txRoot drvCrypto)).setTx 4 (.put 5 9))) = some .txRoot := by
  decide +kernel

/-- the honest five-transaction chain is one `append` on the genesis chain (so `altered_transaction_detected`
    applies to it with `i = 1`, `k = 4`) -/
example : append drvCrypto (some [([1], 1)]) (initChain drvCrypto [] [1] 10) (fiveBlock (txRoot drvCrypto)) =
    .ok (fiveChain (txRoot drvCrypto)) := by rfl

end Neumann.Chain.Props
