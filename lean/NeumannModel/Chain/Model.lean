/-
  C16 — model of the tensor chain (`tensor_chain/src/{block,chain,lib,transaction,
  state_machine,state_root}.rs`).  Import-free, total, computable.

  What is opaque: SHA-256 (`Crypto.hash`), ed25519 (`Crypto.sign` / `Crypto.verify`), bitcode
  (`Tx.enc`, the `embedding` bytes of a header).  The theorems take `HashInjOn` / `SigSound`
  as hypotheses; the driver instantiates `hash` with an injective encoding.

  Not modelled: the graph nodes / edges `Chain::append` creates beside each block record (they
  only matter as additional scanned keys of the state root), storage errors of the store
  itself, the float arithmetic of delta embeddings (workspaces carry a direction tag instead:
  `0` = zero delta, `d > 0` = unit vector `e_d`; the harness only generates such deltas).
-/
namespace Neumann.Chain

/-- `n` little-endian bytes of `v` (`u64::to_le_bytes`, `u16::to_le_bytes`) -/
def leBytes : Nat → Nat → List Nat
  | 0, _ => []
  | n + 1, v => v % 256 :: leBytes n (v / 256)

/-- the opaque third-party functions -/
structure Crypto where
  hash : List Nat → List Nat
  sign : Nat → List Nat → List Nat
  verify : Nat → List Nat → List Nat → Bool
  /-- `[0u8; 32]` -/
  zero : List Nat

/-- `Transaction::{Put, Delete, CompareAndSwap}`.  `cas k e v`: write `v` only if the current value of `k`
    equals `e` (`none` = empty `expected_data`, which is also what an absent key compares as).  The remaining
    variants (`Embed`, `NodeCreate`, `NodeDelete`, `EdgeCreate`, `TableInsert`, `TableUpdate`, `TableDelete`) are
    unconditional puts / deletes of one prefixed key, i.e. `put` / `del` on another key. -/
inductive Tx where
  | put (k v : Nat)
  | del (k : Nat)
  | cas (k : Nat) (e : Option Nat) (v : Nat)
deriving DecidableEq, Repr

def optCode : Option Nat → Nat
  | none => 0
  | some e => e + 1

/-- stands for `bitcode::serialize(tx)` -/
def Tx.enc : Tx → List Nat
  | .put k v => [1, k, v]
  | .del k => [2, k, 0]
  | .cas k e v => [3, k, optCode e, v]

/-- `Transaction::affected_key` -/
def Tx.key : Tx → Nat
  | .put k _ => k
  | .del k => k
  | .cas k _ _ => k

/-- `BlockHeader`, fields in declaration order -/
structure Header where
  height : Nat
  prevHash : List Nat
  txRoot : List Nat
  stateRoot : List Nat
  /-- `bitcode::serialize(delta_embedding)` -/
  embedding : List Nat
  codes : List Nat
  timestamp : Nat
  proposer : List Nat
  signature : List Nat
deriving DecidableEq, Repr

/-- `BlockHeader::signing_bytes` = the bytes fed to SHA-256 by `BlockHeader::hash`:
    every field except `signature`, concatenated without length prefixes -/
def Header.bytes (h : Header) : List Nat :=
  leBytes 8 h.height ++ (h.prevHash ++ (h.txRoot ++ (h.stateRoot ++ (h.embedding
    ++ (h.codes.flatMap (leBytes 2) ++ (leBytes 8 h.timestamp ++ h.proposer))))))

def Header.hash (C : Crypto) (h : Header) : List Nat := C.hash h.bytes

/-- `Block` -/
structure Block where
  header : Header
  txs : List Tx
  /-- `signatures: Vec<ValidatorSignature>` (opaque entries) -/
  sigs : List Nat
deriving DecidableEq, Repr

/-- one level of `merkle_root`: `level.chunks(2)`, an odd last chunk is hashed with itself -/
def merkleLevel (C : Crypto) : List (List Nat) → List (List Nat)
  | [] => []
  | [a] => [C.hash (a ++ a)]
  | a :: b :: rest => C.hash (a ++ b) :: merkleLevel C rest

/-- the `while level.len() > 1` loop (fuel = number of leaves is enough) -/
def merkleLoop (C : Crypto) : Nat → List (List Nat) → List Nat
  | _, [] => C.zero
  | _, [a] => a
  | 0, a :: _ => a
  | fuel + 1, level => merkleLoop C fuel (merkleLevel C level)

def merkleRoot (C : Crypto) (leaves : List (List Nat)) : List Nat :=
  merkleLoop C leaves.length leaves

/-- `Block::compute_tx_root` -/
def txRoot (C : Crypto) (txs : List Tx) : List Nat :=
  match txs with
  | [] => C.zero
  | _ => merkleRoot C (txs.map fun t => C.hash t.enc)

/-! ### the store (one `TensorStore` holds data keys, block records and chain metadata) -/

inductive SKey where
  | chainMeta
  | block (h : Nat)
  | data (k : Nat)
deriving DecidableEq, Repr

inductive SVal where
  | height (h : Nat)
  | block (b : Block)
  | data (v : Nat)
deriving DecidableEq, Repr

/-- scan order (any fixed total order; the real one is the string order of the keys) -/
def SKey.code : SKey → Nat
  | .chainMeta => 0
  | .block h => 2 * h + 1
  | .data k => 2 * k + 2

/-- a store is its scanned image: key-sorted association list -/
def sget : List (SKey × SVal) → SKey → Option SVal
  | [], _ => none
  | (k', v) :: r, k => if k' = k then some v else sget r k

def sput : List (SKey × SVal) → SKey → SVal → List (SKey × SVal)
  | [], k, v => [(k, v)]
  | (k', v') :: r, k, v =>
    if k' = k then (k, v) :: r
    else if k.code < k'.code then (k, v) :: (k', v') :: r
    else (k', v') :: sput r k v

def sdel : List (SKey × SVal) → SKey → List (SKey × SVal)
  | [], _ => []
  | (k', v') :: r, k => if k' = k then sdel r k else (k', v') :: sdel r k

def blockAt (s : List (SKey × SVal)) (h : Nat) : Option Block :=
  match sget s (.block h) with
  | some (.block b) => some b
  | _ => none

/-- the `data` bytes `CompareAndSwap` compares with: `None` for an absent key (`unwrap_or(&[])`) -/
def dataAt (s : List (SKey × SVal)) (k : Nat) : Option Nat :=
  match sget s (.data k) with
  | some (.data x) => some x
  | _ => none

/-- `apply_transaction_to_store` -/
def applyTx (s : List (SKey × SVal)) : Tx → List (SKey × SVal)
  | .put k v => sput s (.data k) (.data v)
  | .del k => sdel s (.data k)
  | .cas k e v => if dataAt s k = e then sput s (.data k) (.data v) else s

def applyTxs (s : List (SKey × SVal)) (txs : List Tx) : List (SKey × SVal) :=
  txs.foldl applyTx s

def encKey : SKey → List Nat
  | .chainMeta => [0]
  | .block h => [1, h]
  | .data k => [2, k]

def encVal : SVal → List Nat
  | .height h => [0, h]
  | .block b => 1 :: (b.header.bytes ++ b.header.signature ++ b.txs.flatMap Tx.enc ++ b.sigs)
  | .data v => [2, v]

/-- `compute_state_root`: SHA-256 over every scanned key and value, length-prefixed -/
def stateRoot (C : Crypto) (s : List (SKey × SVal)) : List Nat :=
  C.hash (s.flatMap fun kv =>
    let k := encKey kv.1
    let v := encVal kv.2
    k.length :: (k ++ (v.length :: v)))

/-! ### `Chain` -/

def regLookup : List (List Nat × Nat) → List Nat → Option Nat
  | [], _ => none
  | (p, k) :: r, q => if p = q then some k else regLookup r q

/-- `BlockHeader::verify_signature` -/
def sigOk (C : Crypto) (reg : List (List Nat × Nat)) (h : Header) : Bool :=
  if h.signature = [] then false
  else match regLookup reg h.proposer with
    | none => false
    | some k => C.verify k h.bytes h.signature

/-- `if let Some(registry) = &self.validator_registry { header.verify_signature(registry)? }` -/
def regSigOk (C : Crypto) (reg : Option (List (List Nat × Nat))) (h : Header) : Bool :=
  match reg with
  | some r => sigOk C r h
  | none => true

inductive AppendErr where
  | height | prevHash | txRoot | unsigned | badSig
deriving DecidableEq, Repr

/-- "Compute tx_root if not set" in `Chain::append` (done after the block was signed) -/
def fixTxRoot (C : Crypto) (b : Block) : Block :=
  if b.header.txRoot = C.zero ∧ b.txs ≠ [] then
    { b with header := { b.header with txRoot := txRoot C b.txs } }
  else b

/-- in-memory part of `Chain` plus the store it writes to -/
structure ChainSt where
  store : List (SKey × SVal)
  height : Nat
  tip : List Nat
deriving DecidableEq, Repr

/-- `Chain::append` (one critical section under `append_lock`) -/
def append (C : Crypto) (reg : Option (List (List Nat × Nat))) (c : ChainSt) (b : Block) :
    Except AppendErr ChainSt :=
  let expected := c.height + 1
  if b.header.height ≠ expected then .error .height
  else if b.header.prevHash ≠ c.tip then .error .prevHash
  else
    let b : Block := fixTxRoot C b
    if b.header.txRoot ≠ txRoot C b.txs then .error .txRoot
    else if expected > 1 ∧ b.header.signature = [] then .error .unsigned
    else if expected > 1 ∧ regSigOk C reg b.header = false then .error .badSig
    else
      .ok { store := sput (sput c.store (.block expected) (.block b)) .chainMeta (.height expected),
            height := expected, tip := b.header.hash C }

inductive VerifyErr where
  | emptyChain
  | notFound (h : Nat)
  | height | prevHash | txRoot | timestamp | badSig
deriving DecidableEq, Repr

/-- `Block::verify_chain(prev)` followed by the optional signature check -/
def checkLink (C : Crypto) (reg : Option (List (List Nat × Nat))) (prev b : Block) : Option VerifyErr :=
  if b.header.height ≠ prev.header.height + 1 then some .height
  else if b.header.prevHash ≠ prev.header.hash C then some .prevHash
  else if b.header.txRoot ≠ txRoot C b.txs then some .txRoot
  else if b.header.timestamp < prev.header.timestamp then some .timestamp
  else if regSigOk C reg b.header then none else some .badSig

/-- the `for h in 1..=height` loop of `Chain::verify_chain`; `n` = blocks still to visit -/
def verifyFrom (C : Crypto) (reg : Option (List (List Nat × Nat))) (s : List (SKey × SVal)) :
    Block → Nat → Nat → Option VerifyErr
  | _, _, 0 => none
  | prev, h, n + 1 =>
    match blockAt s h with
    | none => some (.notFound h)
    | some b =>
      match checkLink C reg prev b with
      | some e => some e
      | none => verifyFrom C reg s b (h + 1) n

/-- `Chain::verify_chain`; `none` = `Ok(())` -/
def verifyChain (C : Crypto) (reg : Option (List (List Nat × Nat))) (c : ChainSt) : Option VerifyErr :=
  if c.height = 0 then none
  else match blockAt c.store 0 with
    | none => some .emptyChain
    | some g =>
      -- `if !prev_block.verify_tx_root()` on the genesis block (repo commit 8e53c5a4)
      if g.header.txRoot ≠ txRoot C g.txs then some .txRoot
      else verifyFrom C reg c.store g 1 c.height

/-- `Chain::verify_chain` before repo commit 8e53c5a4 (the genesis block's `tx_root` was never compared
    with its transactions); kept only for the regression witness in `Props.lean` -/
def verifyChainOld (C : Crypto) (reg : Option (List (List Nat × Nat))) (c : ChainSt) : Option VerifyErr :=
  if c.height = 0 then none
  else match blockAt c.store 0 with
    | none => some .emptyChain
    | some g => verifyFrom C reg c.store g 1 c.height

/-- `Block::genesis` stored by `Chain::initialize` on an empty store -/
def genesisBlock (C : Crypto) (proposer : List Nat) (ts : Nat) : Block :=
  { header := { height := 0, prevHash := C.zero, txRoot := C.zero, stateRoot := C.zero,
                embedding := [], codes := [], timestamp := ts, proposer := proposer, signature := [] },
    txs := [], sigs := [] }

def initChain (C : Crypto) (s : List (SKey × SVal)) (proposer : List Nat) (ts : Nat) : ChainSt :=
  let g := genesisBlock C proposer ts
  { store := sput (sput s (.block 0) (.block g)) .chainMeta (.height 0), height := 0, tip := g.header.hash C }

/-! ### `Chain::initialize` on a store that already holds a chain (re-open after a restart) -/

/-- `load_height`: the `height` field of the `chain:meta` record -/
def loadHeight (s : List (SKey × SVal)) : Option Nat :=
  match sget s .chainMeta with
  | some (.height h) => some h
  | _ => none

/-- `while height > 0 && self.get_block_at(height)?.is_none() { height -= 1 }` -/
def walkBack (s : List (SKey × SVal)) : Nat → Nat
  | 0 => 0
  | h + 1 => if (blockAt s (h + 1)).isSome then h + 1 else walkBack s h

/-- `loop { if self.get_block_at(height + 1)?.is_some() { height += 1 } else { break } }`; every round consumes
    a different block record, so `fuel` = number of records in the store is enough -/
def walkFwd (s : List (SKey × SVal)) : Nat → Nat → Nat
  | 0, h => h
  | f + 1, h => if (blockAt s (h + 1)).isSome then walkFwd s f (h + 1) else h

/-- `Chain::initialize` on a fresh `Chain` object (height 0, tip `[0u8; 32]`) over the store `s`: with a height
    record the height is corrected against the block records actually present (back over missing blocks, then
    forward over present ones), the tip is the hash of the block at that height, and the corrected height is
    saved; without a height record a genesis block is created -/
def openChain (C : Crypto) (s : List (SKey × SVal)) (proposer : List Nat) (ts : Nat) : ChainSt :=
  match loadHeight s with
  | some h0 =>
    let h := walkFwd s s.length (walkBack s h0)
    { store := sput s .chainMeta (.height h), height := h,
      tip := match blockAt s h with
        | some t => t.header.hash C
        | none => C.zero }
  | none => initChain C s proposer ts

/-! ### crash states of `Chain::append`: the process stops between two of its store writes -/

/-- the store writes of an accepted `Chain::append`, in program order: `store_block` (the block record), then —
    after `add_chain_edge`, whose node/edge records belong to the graph engine and are never read by
    `initialize` — `save_height` (the height record) -/
def appendWrites (c : ChainSt) (b : Block) : List (SKey × SVal) :=
  [(.block (c.height + 1), .block b), (.chainMeta, .height (c.height + 1))]

def putAll (s : List (SKey × SVal)) (ws : List (SKey × SVal)) : List (SKey × SVal) :=
  ws.foldl (fun s kv => sput s kv.1 kv.2) s

/-- the store a process leaves behind when it stops inside `Chain::append` of a block that passed the checks,
    after the first `k` store writes: `k = 0` nothing written, `k = 1` block record written and the height record
    still the old one, `k ≥ 2` both written (the store of the completed append) -/
def appendCrashStore (C : Crypto) (c : ChainSt) (b : Block) (k : Nat) : List (SKey × SVal) :=
  putAll c.store ((appendWrites c (fixTxRoot C b)).take k)

/-- NOT the current code — the variant of `Chain::initialize` that keeps the block found by the walk BACK and
    uses it for the tip hash instead of reading the block at the final height again (regression fixture
    seeded/C16_2): the walk FORWARD advances the height but not the cached block.  Kept only for the witness
    `cached_walk_back_tip_breaks_chain_witness` in `Props3.lean`. -/
def openChainWalkBackTip (C : Crypto) (s : List (SKey × SVal)) (proposer : List Nat) (ts : Nat) : ChainSt :=
  match loadHeight s with
  | some h0 =>
    let hb := walkBack s h0
    let h := walkFwd s s.length hb
    { store := sput s .chainMeta (.height h), height := h,
      tip := match blockAt s hb with
        | some t => t.header.hash C
        | none => C.zero }
  | none => initChain C s proposer ts

/-! ### `TensorChain`: workspaces and the commit pipeline -/

inductive WsState where
  | active | committing | committed | rolledBack | failed
deriving DecidableEq, Repr

structure Ws where
  id : Nat
  /-- `checkpoint_bytes`: the whole store at `begin` -/
  snap : List (SKey × SVal)
  ops : List Tx
  state : WsState
  /-- delta embedding: 0 = zero vector, d > 0 = unit vector e_d -/
  dir : Nat
deriving DecidableEq, Repr

structure Config where
  maxTxs : Nat
  autoMerge : Bool
  maxMerge : Nat
  /-- `Some` for `TensorChain` (always built `with_registry`) -/
  registry : Option (List (List Nat × Nat))
  nodeId : List Nat
  key : Nat
deriving DecidableEq, Repr

structure Node where
  cfg : Config
  chain : ChainSt
  wss : List Ws
  /-- `tx_manager.active` -/
  active : List Nat
  nextId : Nat
deriving DecidableEq, Repr

def findWs (wss : List Ws) (id : Nat) : Option Ws := wss.find? (·.id = id)

def updWs (wss : List Ws) (id : Nat) (f : Ws → Ws) : List Ws :=
  wss.map fun w => if w.id = id then f w else w

def setStates (wss : List Ws) (ids : List Nat) (st : WsState) : List Ws :=
  wss.map fun w => if ids.contains w.id then { w with state := st } else w

/-- affected key set (sorted, duplicate-free) -/
def insertKey (k : Nat) : List Nat → List Nat
  | [] => [k]
  | x :: r => if k < x then k :: x :: r else if k = x then x :: r else x :: insertKey k r

def keySet (ops : List Tx) : List Nat := ops.foldl (fun acc t => insertKey t.key acc) []

/-- `TensorChain::begin` -/
def beginWs (n : Node) : Node :=
  { n with wss := n.wss ++ [{ id := n.nextId, snap := n.chain.store, ops := [], state := .active, dir := 0 }],
           active := n.active ++ [n.nextId], nextId := n.nextId + 1 }

/-- `TransactionWorkspace::add_operation`; `false` = "transaction is not active" -/
def addOp (n : Node) (w : Nat) (t : Tx) : Node × Bool :=
  match findWs n.wss w with
  | some ws => if ws.state = .active then ({ n with wss := updWs n.wss w fun x => { x with ops := x.ops ++ [t] } }, true)
               else (n, false)
  | none => (n, false)

def setDir (n : Node) (w d : Nat) : Node :=
  { n with wss := updWs n.wss w fun x => { x with dir := d } }

/-- `TensorChain::rollback`: restores the whole store to the workspace checkpoint -/
def rollbackWs (n : Node) (w : Nat) : Node × Bool :=
  match findWs n.wss w with
  | some ws =>
    if ws.state = .committed then (n, false)
    else ({ n with chain := { n.chain with store := ws.snap },
                   wss := updWs n.wss w (fun x => { x with state := .rolledBack }),
                   active := n.active.filter (· ≠ w) }, true)
  | none => (n, false)

inductive CommitRes where
  | ok (height : Nat)
  | emptyOk
  | notActive | tooMany | conflict
  | appendFailed (e : AppendErr)
deriving DecidableEq, Repr

/-- program counter of one `TensorChain::commit` call -/
inductive Pc where
  | prepare | snapshot | apply | root | build | append | restore | done
deriving DecidableEq, Repr

/-- thread-local variables of one `commit` call -/
structure Local where
  ws : Nat
  ts : Nat
  pc : Pc
  ops : List Tx
  merged : List Nat
  dirs : List Nat
  snap : List (SKey × SVal)
  root : List Nat
  block : Option Block
  err : Option AppendErr
  res : Option CommitRes
deriving DecidableEq, Repr

def Local.init (w ts : Nat) : Local :=
  { ws := w, ts := ts, pc := .prepare, ops := [], merged := [], dirs := [], snap := [], root := [],
    block := none, err := none, res := none }

def otherActive (n : Node) (w : Nat) : List Ws :=
  n.wss.filter fun o => n.active.contains o.id ∧ o.id ≠ w ∧ o.state = .active ∧ o.dir ≠ 0

/-- `detect_conflicts` on unit-vector deltas: same direction with a different key set is
    `Conflicting`; same direction and key set is `Identical`; different directions `Orthogonal` -/
def hasConflict (n : Node) (ws : Ws) : Bool :=
  ws.dir ≠ 0 ∧ (otherActive n ws.id).any fun o => o.dir = ws.dir ∧ keySet o.ops ≠ keySet ws.ops

/-- `find_merge_candidates`: active, non-zero, orthogonal workspaces -/
def mergeCandidates (n : Node) (ws : Ws) : List Ws :=
  if n.cfg.autoMerge ∧ ws.dir ≠ 0 then
    ((otherActive n ws.id).filter fun o => o.dir ≠ ws.dir).take n.cfg.maxMerge
  else []

def finish (n : Node) (ids : List Nat) (st : WsState) : Node :=
  { n with wss := setStates n.wss ids st, active := n.active.filter fun i => !ids.contains i }

/-- the embedding bytes of the committed block: opaque function of the merged directions -/
def embBytes (dirs : List Nat) : List Nat := dirs.filter (· ≠ 0)

/-- one atomic step of `TensorChain::commit` (no lock is held between two steps) -/
def commitStep (C : Crypto) (n : Node) (l : Local) : Node × Local :=
  match l.pc with
  | .prepare =>
    match findWs n.wss l.ws with
    | none => (n, { l with pc := .done, res := some .notActive })
    | some ws =>
      if ws.state ≠ .active then (n, { l with pc := .done, res := some .notActive })
      else
        let n1 := { n with wss := setStates n.wss [ws.id] .committing }
        if ws.ops = [] then (finish n1 [ws.id] .committed, { l with pc := .done, res := some .emptyOk })
        else if ws.ops.length > n.cfg.maxTxs then (finish n1 [ws.id] .failed, { l with pc := .done, res := some .tooMany })
        else if hasConflict n1 ws then (finish n1 [ws.id] .failed, { l with pc := .done, res := some .conflict })
        else
          let cands := mergeCandidates n1 ws
          let ids := cands.map (·.id)
          let n2 := { n1 with wss := setStates n1.wss ids .committing }
          let ops := ws.ops ++ cands.flatMap (·.ops)
          if ops.length > n.cfg.maxTxs then
            (finish n2 (ws.id :: ids) .failed, { l with pc := .done, res := some .tooMany })
          else (n2, { l with pc := .snapshot, ops := ops, merged := ids, dirs := ws.dir :: cands.map (·.dir) })
  | .snapshot => (n, { l with pc := .apply, snap := n.chain.store })
  | .apply => ({ n with chain := { n.chain with store := applyTxs n.chain.store l.ops } }, { l with pc := .root })
  | .root => (n, { l with pc := .build, root := stateRoot C n.chain.store })
  | .build =>
    let h0 : Header :=
      { height := n.chain.height + 1, prevHash := n.chain.tip, txRoot := txRoot C l.ops, stateRoot := l.root,
        embedding := embBytes l.dirs, codes := [], timestamp := l.ts, proposer := n.cfg.nodeId, signature := [] }
    let h : Header := { h0 with signature := C.sign n.cfg.key h0.bytes }
    (n, { l with pc := .append, block := some { header := h, txs := l.ops, sigs := [] } })
  | .append =>
    match l.block with
    | none => (n, { l with pc := .done })
    | some b =>
      match append C n.cfg.registry n.chain b with
      | .ok c' =>
        (finish { n with chain := c' } (l.ws :: l.merged) .committed, { l with pc := .done, res := some (.ok c'.height) })
      | .error e => (n, { l with pc := .restore, err := some e })
  | .restore =>
    (finish { n with chain := { n.chain with store := l.snap } } (l.ws :: l.merged) .failed,
     { l with pc := .done, res := some (.appendFailed (l.err.getD .height)) })
  | .done => (n, l)

def commitRun (C : Crypto) : Nat → Node → Local → Node × Local
  | 0, n, l => (n, l)
  | f + 1, n, l =>
    if l.pc = .done then (n, l)
    else
      let r := commitStep C n l
      commitRun C f r.1 r.2

/-- `TensorChain::commit` executed without interference -/
def commit (C : Crypto) (n : Node) (w ts : Nat) : Node × Local :=
  commitRun C 8 n (Local.init w ts)

/-- a concurrent execution: the schedule names which commit call takes its next step -/
def setNth {α : Type} : List α → Nat → α → List α
  | [], _, _ => []
  | _ :: r, 0, a => a :: r
  | x :: r, i + 1, a => x :: setNth r i a

def runSched (C : Crypto) : List Nat → Node → List Local → Node × List Local
  | [], n, ls => (n, ls)
  | i :: sched, n, ls =>
    match ls[i]? with
    | none => runSched C sched n ls
    | some l =>
      let r := commitStep C n l
      runSched C sched r.1 (setNth ls i r.2)

/-- sequential client operations on one node -/
inductive Op where
  | begin
  | put (w k v : Nat)
  | del (w k : Nat)
  | cas (w k : Nat) (e : Option Nat) (v : Nat)
  | dir (w d : Nat)
  | commit (w ts : Nat)
  | rollback (w : Nat)
deriving DecidableEq, Repr

def stepOp (C : Crypto) (n : Node) : Op → Node
  | .begin => beginWs n
  | .put w k v => (addOp n w (.put k v)).1
  | .del w k => (addOp n w (.del k)).1
  | .cas w k e v => (addOp n w (.cas k e v)).1
  | .dir w d => setDir n w d
  | .commit w ts => (commit C n w ts).1
  | .rollback w => (rollbackWs n w).1

def runOps (C : Crypto) (n : Node) (ops : List Op) : Node := ops.foldl (stepOp C) n

def initNode (C : Crypto) (cfg : Config) (ts : Nat) : Node :=
  { cfg := cfg, chain := initChain C [] cfg.nodeId ts, wss := [], active := [], nextId := 0 }

/-! ### the validator registry is shared mutable state (`ValidatorRegistry` = a `DashMap` behind
    `TensorChain::validator_registry()`): a client can remove and re-insert the node's own key between two
    calls.  With the key absent, `Chain::append` rejects the block `commit` has just built ("unknown proposer")
    AFTER the workspace's writes were applied to the store — the late failure of a commit that needs no second
    thread. -/

/-- `ValidatorRegistry::remove(node_id)` -/
def regRemove : List (List Nat × Nat) → List Nat → List (List Nat × Nat)
  | [], _ => []
  | (p, k) :: r, q => if p = q then regRemove r q else (p, k) :: regRemove r q

/-- `chain.validator_registry().remove(chain.node_id())`; `true` = an entry was removed -/
def unregisterSelf (n : Node) : Node × Bool :=
  match n.cfg.registry with
  | some r => ({ n with cfg := { n.cfg with registry := some (regRemove r n.cfg.nodeId) } },
               (regLookup r n.cfg.nodeId).isSome)
  | none => (n, false)

/-- `chain.register_validator(chain.identity())` (`DashMap::insert` under the node's own id) -/
def registerSelf (n : Node) : Node :=
  match n.cfg.registry with
  | some r => { n with cfg := { n.cfg with registry := some ((n.cfg.nodeId, n.cfg.key) :: regRemove r n.cfg.nodeId) } }
  | none => n

/-- client calls including the two registry calls (kept apart from `Op`: the sequential-history invariant
    is stated for histories in which the node's key stays registered) -/
inductive OpX where
  | op (o : Op)
  | unregister
  | register
deriving DecidableEq, Repr

def stepOpX (C : Crypto) (n : Node) : OpX → Node
  | .op o => stepOp C n o
  | .unregister => (unregisterSelf n).1
  | .register => registerSelf n

def runOpsX (C : Crypto) (n : Node) (ops : List OpX) : Node := ops.foldl (stepOpX C) n

/-! ### restart: a new `TensorChain` object (same identity) over the same store, then `initialize()` -/

/-- `TensorChain::with_identity(store, config, identity)` + `initialize()`: the chain head is re-derived from the
    store, the validator registry is a fresh one holding the node's own key, the transaction manager is empty.
    Workspace objects the client still holds stay usable (`commit` / `rollback` take any workspace), they are
    merely unknown to the new manager. -/
def reopenNode (C : Crypto) (n : Node) (ts : Nat) : Node :=
  { n with cfg := { n.cfg with registry := some [(n.cfg.nodeId, n.cfg.key)] },
           chain := openChain C n.chain.store n.cfg.nodeId ts,
           active := [] }

/-- the node a process leaves behind when it stops inside the `Chain::append` of an uninterrupted
    `commit w ts` (the five steps prepare … build have run, the block passed `append`'s checks), after the first
    `k` store writes of that append (`appendCrashStore`); `none` when the call never reaches an accepted append.
    Only the store matters afterwards: a restart (`reopenNode`) re-derives height and tip from it. -/
def commitCrashInAppend (C : Crypto) (n : Node) (w ts k : Nat) : Option Node :=
  let r := commitRun C 5 n (Local.init w ts)
  match r.2.pc, r.2.block with
  | .append, some b =>
    match append C r.1.cfg.registry r.1.chain b with
    | .ok _ => some { r.1 with chain := { r.1.chain with store := appendCrashStore C r.1.chain b k } }
    | .error _ => none
  | _, _ => none

/-- every client call: the sequential calls, the two registry calls, and the restart -/
inductive OpR where
  | x (o : OpX)
  | reopen (ts : Nat)
deriving DecidableEq, Repr

def stepOpR (C : Crypto) (n : Node) : OpR → Node
  | .x o => stepOpX C n o
  | .reopen ts => reopenNode C n ts

def runOpsR (C : Crypto) (n : Node) (ops : List OpR) : Node := ops.foldl (stepOpR C) n

/-! ### `Chain::history(key)`: the transactions of blocks `0..=height` whose affected key is `key` -/

def blockHistory (s : List (SKey × SVal)) (k h : Nat) : List (Nat × Tx) :=
  match blockAt s h with
  | some b => (b.txs.filter fun t => t.key = k).map fun t => (h, t)
  | none => []

/-- the `for h in 0..=height` loop, blocks that are not found are skipped -/
def historyUpTo (s : List (SKey × SVal)) (k : Nat) : Nat → List (Nat × Tx)
  | 0 => blockHistory s k 0
  | h + 1 => historyUpTo s k h ++ blockHistory s k (h + 1)

def history (c : ChainSt) (k : Nat) : List (Nat × Tx) := historyUpTo c.store k c.height

/-! ### replica: `TensorStateMachine::apply_block` -/

structure Replica where
  /-- the store transactions are applied to and the state root is computed over -/
  state : List (SKey × SVal)
  chain : ChainSt
  /-- `true`: `state` *is* `chain.store` (one `TensorStore` for both) -/
  shared : Bool
deriving DecidableEq, Repr

inductive ApplyErr where
  | stateRoot
  | append (e : AppendErr)
deriving DecidableEq, Repr

def Replica.stateStore (r : Replica) : List (SKey × SVal) := if r.shared then r.chain.store else r.state

def Replica.setState (r : Replica) (s : List (SKey × SVal)) : Replica :=
  if r.shared then { r with chain := { r.chain with store := s } } else { r with state := s }

def applyBlock (C : Crypto) (reg : Option (List (List Nat × Nat))) (r : Replica) (b : Block) :
    Replica × Option ApplyErr :=
  let snap := r.stateStore
  let r1 := r.setState (applyTxs snap b.txs)
  if b.header.stateRoot ≠ stateRoot C r1.stateStore then (r1.setState snap, some .stateRoot)
  else match append C reg r1.chain b with
    | .ok c' => ({ r1 with chain := c' }, none)
    | .error e => (r1.setState snap, some (.append e))

def initReplica (C : Crypto) (shared : Bool) (proposer : List Nat) (ts : Nat) : Replica :=
  { state := [], chain := initChain C [] proposer ts, shared := shared }

/-! ### transaction keys as the client names them: the reserved `chain:` prefix (repo commit b368f92a)

    The chain keeps its block records (`chain:block:<height>`) and its height record (`chain:meta`) in the very
    store its transactions write to, and `apply_transaction_to_store` has no notion of a reserved key: it calls
    `store.put(key, {data})` / `store.delete(key)` on whatever string the transaction names.  What keeps the two
    key spaces apart is one check in `TransactionWorkspace::add_operation`
    (`op.storage_key().starts_with("chain:")` ⇒ `TransactionFailed`), added by repo commit b368f92a.  The typed
    `Tx` above (keys are data keys by construction) is the model of the transactions that check lets through;
    `RawTx` is a transaction as a client hands it in, naming ANY record of the store. -/

/-- `storage_key().starts_with("chain:")`.  (Other strings under the prefix that name no record of the chain are
    refused alike; the typed store has no key for them — the harness checks them on the real code.) -/
def SKey.reserved : SKey → Bool
  | .data _ => false
  | _ => true

/-- `Transaction::{Put, Delete, CompareAndSwap}` as handed to `add_operation`: the key is any store key -/
inductive RawTx where
  | put (k : SKey) (v : Nat)
  | del (k : SKey)
  | cas (k : SKey) (e : Option Nat) (v : Nat)
deriving DecidableEq, Repr

/-- `Transaction::storage_key` -/
def RawTx.key : RawTx → SKey
  | .put k _ => k
  | .del k => k
  | .cas k _ _ => k

/-- a transaction on a data key, as a raw transaction -/
def Tx.raw : Tx → RawTx
  | .put k v => .put (.data k) v
  | .del k => .del (.data k)
  | .cas k e v => .cas (.data k) e v

/-- the typed transaction of a raw transaction whose key is not reserved; `none` for a reserved key -/
def RawTx.narrow : RawTx → Option Tx
  | .put (.data k) v => some (.put k v)
  | .del (.data k) => some (.del k)
  | .cas (.data k) e v => some (.cas k e v)
  | _ => none

/-- the `data` field `CompareAndSwap` compares with, of whatever record lies under the key (`None` when the key is
    absent or the record — a block, the height record — has no such field) -/
def rawDataAt (s : List (SKey × SVal)) (k : SKey) : Option Nat :=
  match sget s k with
  | some (.data x) => some x
  | _ => none

/-- `apply_transaction_to_store` for whatever key the transaction names (the function the fix did NOT change) -/
def applyRawTx (s : List (SKey × SVal)) : RawTx → List (SKey × SVal)
  | .put k v => sput s k (.data v)
  | .del k => sdel s k
  | .cas k e v => if rawDataAt s k = e then sput s k (.data v) else s

def applyRawTxs (s : List (SKey × SVal)) (txs : List RawTx) : List (SKey × SVal) :=
  txs.foldl applyRawTx s

inductive AddRes where
  | ok
  /-- "transaction is not active" -/
  | notActive
  /-- "key uses the reserved prefix \"chain:\"" -/
  | reserved
deriving DecidableEq, Repr

/-- `TransactionWorkspace::add_operation` as it is now: the state check, then the reserved-prefix check (repo commit
    b368f92a), then the operation is recorded (`addOp`) -/
def addOperation (n : Node) (w : Nat) (t : RawTx) : Node × AddRes :=
  match findWs n.wss w with
  | some ws =>
    if ws.state ≠ .active then (n, .notActive)
    else match t.narrow with
      | none => (n, .reserved)
      | some t' => ((addOp n w t').1, .ok)
  | none => (n, .notActive)

/-- every client call of a sequential history, `add_operation` with ANY key included -/
inductive OpC where
  | call (o : Op)
  | add (w : Nat) (t : RawTx)
  | reopen (ts : Nat)
deriving DecidableEq, Repr

def stepOpC (C : Crypto) (n : Node) : OpC → Node
  | .call o => stepOp C n o
  | .add w t => (addOperation n w t).1
  | .reopen ts => reopenNode C n ts

def runOpsC (C : Crypto) (n : Node) (ops : List OpC) : Node := ops.foldl (stepOpC C) n

/-! #### before repo commit b368f92a (kept only for the regression witness in `Props3.lean`)

    `add_operation` had the state check only, so a workspace could hold a transaction on `chain:block:<h>` or
    `chain:meta`, and `commit` applied it like any other.  `commitOld` is `TensorChain::commit` of a workspace
    holding the raw operations `ops`, run without interference, with a zero delta (no conflict check, nothing
    merged): apply, state root, build + sign, `Chain::append`, restore on failure. -/

/-- the block entry of a raw transaction: the scan code of the key stands for the key string (injective) -/
def RawTx.entry : RawTx → Tx
  | .put k v => .put k.code v
  | .del k => .del k.code
  | .cas k e v => .cas k.code e v

def commitOld (C : Crypto) (n : Node) (ops : List RawTx) (ts : Nat) : Node × CommitRes :=
  if ops = [] then (n, .emptyOk)
  else if ops.length > n.cfg.maxTxs then (n, .tooMany)
  else
    let snap := n.chain.store
    let s1 := applyRawTxs snap ops
    let txs := ops.map RawTx.entry
    let h0 : Header :=
      { height := n.chain.height + 1, prevHash := n.chain.tip, txRoot := txRoot C txs, stateRoot := stateRoot C s1,
        embedding := embBytes [0], codes := [], timestamp := ts, proposer := n.cfg.nodeId, signature := [] }
    let h : Header := { h0 with signature := C.sign n.cfg.key h0.bytes }
    match append C n.cfg.registry { n.chain with store := s1 } { header := h, txs := txs, sigs := [] } with
    | .ok c' => ({ n with chain := c' }, .ok c'.height)
    | .error e => ({ n with chain := { n.chain with store := snap } }, .appendFailed e)

/-! ### `TensorStateMachine` as an object: the fast path and the recent-embedding window

    `apply_block` / `apply_entry` choose between `append_fast` and `append_full` by `can_fast_path(block)`: the
    block's delta embedding is non-empty and its cosine similarity to one of the (at most `max_recent` = 10)
    embeddings this OBJECT tracked — the non-empty embeddings of the blocks it accepted since it was created or
    `clear_recent()` was called — reaches `fast_path_threshold`.  The window is in memory only and private to the
    object: two replicas that hold the same store and the same chain may hold different windows (one was restarted,
    one was created with another threshold, one had its window cleared).  The float arithmetic is opaque
    (`FastPath`: what the code reads of an embedding); everything else is mirrored branch by branch. -/

/-- what `can_fast_path` / `track_embedding` read of the serialised delta embeddings -/
structure FastPath where
  /-- `delta_embedding.nnz() != 0` -/
  nonzero : List Nat → Bool
  /-- `block_embedding.cosine_similarity(recent_emb) >= self.fast_path_threshold` (first argument: the block's) -/
  similar : List Nat → List Nat → Bool
  /-- `max_recent` -/
  maxRecent : Nat

/-- one `TensorStateMachine`: the replica it drives and its `recent_embeddings` (oldest first) -/
structure Machine where
  rep : Replica
  recent : List (List Nat)
deriving DecidableEq, Repr

/-- `can_fast_path`: no embedding ⇒ no; empty window ⇒ no; otherwise the maximum similarity over the window reaches
    the threshold, i.e. some entry does -/
def canFastPath (F : FastPath) (recent : List (List Nat)) (b : Block) : Bool :=
  if F.nonzero b.header.embedding = false then false
  else if recent.isEmpty then false
  else recent.any (F.similar b.header.embedding)

/-- `append_fast`: "still do basic structural validation via Chain::append" -/
def appendFast (C : Crypto) (reg : Option (List (List Nat × Nat))) (c : ChainSt) (b : Block) : Except AppendErr ChainSt :=
  append C reg c b

/-- `append_full`: "full validation path through Chain::append" -/
def appendFull (C : Crypto) (reg : Option (List (List Nat × Nat))) (c : ChainSt) (b : Block) : Except AppendErr ChainSt :=
  append C reg c b

/-- `while recent.len() > max_recent { recent.remove(0) }` -/
def trimFront (n : Nat) (l : List (List Nat)) : List (List Nat) := l.drop (l.length - n)

/-- `track_embedding` -/
def trackEmbedding (F : FastPath) (recent : List (List Nat)) (b : Block) : List (List Nat) :=
  if F.nonzero b.header.embedding = false then recent
  else trimFront F.maxRecent (recent ++ [b.header.embedding])

/-- `TensorStateMachine::apply_block` (and `apply_entry` after its config-change filter: the same statements) as the
    code is NOW: snapshot, apply the transactions, compare the state root ON EVERY PATH, then the fast or the full
    append, restore on any failure, track the embedding of an accepted block -/
def applyBlockM (F : FastPath) (C : Crypto) (reg : Option (List (List Nat × Nat))) (m : Machine) (b : Block) :
    Machine × Option ApplyErr :=
  let snap := m.rep.stateStore
  let r1 := m.rep.setState (applyTxs snap b.txs)
  if b.header.stateRoot ≠ stateRoot C r1.stateStore then ({ m with rep := r1.setState snap }, some .stateRoot)
  else
    match (if canFastPath F m.recent b then appendFast C reg r1.chain b else appendFull C reg r1.chain b) with
    | .ok c' => ({ rep := { r1 with chain := c' }, recent := trackEmbedding F m.recent b }, none)
    | .error e => ({ m with rep := r1.setState snap }, some (.append e))

/-- the variant in which the fast path also skips the state-root comparison ("the fast path skips heavy
    validation": regression fixture seeded/C16_4) — kept only for the witnesses in `Props4.lean` -/
def applyBlockFastPathSkipsStateRoot (F : FastPath) (C : Crypto) (reg : Option (List (List Nat × Nat))) (m : Machine)
    (b : Block) : Machine × Option ApplyErr :=
  let snap := m.rep.stateStore
  let r1 := m.rep.setState (applyTxs snap b.txs)
  let fast := canFastPath F m.recent b
  if fast = false ∧ b.header.stateRoot ≠ stateRoot C r1.stateStore then ({ m with rep := r1.setState snap }, some .stateRoot)
  else
    match (if fast then appendFast C reg r1.chain b else appendFull C reg r1.chain b) with
    | .ok c' => ({ rep := { r1 with chain := c' }, recent := trackEmbedding F m.recent b }, none)
    | .error e => ({ m with rep := r1.setState snap }, some (.append e))

/-- what happens to one replica between two blocks, besides receiving the next block -/
inductive MOp where
  /-- `apply_block(b)` -/
  | apply (b : Block)
  /-- the process restarts: `TensorStateMachine::new` / `with_threshold` over the same chain and the same store -/
  | restart
  /-- `clear_recent()` -/
  | clear
deriving DecidableEq, Repr

def stepM (F : FastPath) (C : Crypto) (reg : Option (List (List Nat × Nat))) (m : Machine) : MOp → Machine
  | .apply b => (applyBlockM F C reg m b).1
  | .restart => { m with recent := [] }
  | .clear => { m with recent := [] }

def runM (F : FastPath) (C : Crypto) (reg : Option (List (List Nat × Nat))) (m : Machine) (ops : List MOp) : Machine :=
  ops.foldl (stepM F C reg) m

/-- the verdicts of the `apply_block` calls of a run, in order -/
def verdictsM (F : FastPath) (C : Crypto) (reg : Option (List (List Nat × Nat))) : Machine → List MOp → List (Option ApplyErr)
  | _, [] => []
  | m, .apply b :: ops => (applyBlockM F C reg m b).2 :: verdictsM F C reg (applyBlockM F C reg m b).1 ops
  | m, o :: ops => verdictsM F C reg (stepM F C reg m o) ops

/-- the blocks a run feeds to the replica -/
def blocksOf : List MOp → List Block
  | [] => []
  | .apply b :: ops => b :: blocksOf ops
  | _ :: ops => blocksOf ops

/-- the driver's embeddings: `[]` = the zero vector, `[c, p]` = direction class `c` with perturbation `p`.  With the
    default threshold (0.95) two embeddings are similar exactly when they are of one class; with threshold 0 every
    pair of non-empty embeddings is (the harness's vectors have no negative component). -/
def drvFast (all : Bool) : FastPath :=
  { nonzero := fun e => !e.isEmpty, similar := fun a b => all || a.head? == b.head?, maxRecent := 10 }

/-! ### one transaction of a stored block altered in place; a Merkle variant that loses odd inner nodes

  `merkle_root` (above: `merkleLevel` / `merkleLoop`) gives EVERY level of the tree the treatment of an odd last
  node: `level.chunks(2)` yields a final chunk of one, which is hashed with itself.  That is what makes every leaf
  feed the root.  The variant below is the tempting simplification "pad the leaves to an even number once, then
  fold pairs": `chunks_exact(2)` has no final chunk of one, so the last node of every odd INNER level (3 nodes above
  5 or 6 leaves, 5 above 9 or 10, 3 above 11 or 12, …) is dropped together with every transaction below it.  Kept
  only for the regression witnesses in `Props5.lean`. -/

/-- transaction `k` of the block replaced by `t` (the stored record rewritten; header untouched) -/
def Block.setTx (b : Block) (k : Nat) (t : Tx) : Block := { b with txs := b.txs.set k t }

/-- `level.chunks_exact(2)`: pairs only, a remaining single node is ignored -/
def merkleLevelExact (C : Crypto) : List (List Nat) → List (List Nat)
  | a :: b :: rest => C.hash (a ++ b) :: merkleLevelExact C rest
  | _ => []

def merkleLoopExact (C : Crypto) : Nat → List (List Nat) → List Nat
  | _, [] => C.zero
  | _, [a] => a
  | 0, a :: _ => a
  | fuel + 1, level => merkleLoopExact C fuel (merkleLevelExact C level)

/-- VARIANT of `merkleRoot`: the leaf level padded once (last leaf repeated when their number is odd), every level
    folded with `chunks_exact(2)` -/
def merkleRootDropsOddIntermediateNode (C : Crypto) (leaves : List (List Nat)) : List Nat :=
  match leaves with
  | [] => C.zero
  | [a] => a
  | _ =>
    let level := if leaves.length % 2 = 1 then leaves ++ leaves.getLast?.toList else leaves
    merkleLoopExact C level.length level

/-- VARIANT of `txRoot` over it -/
def txRootDropsOddIntermediateNode (C : Crypto) (txs : List Tx) : List Nat :=
  match txs with
  | [] => C.zero
  | _ => merkleRootDropsOddIntermediateNode C (txs.map fun t => C.hash t.enc)

/-- `checkLink` / `verifyFrom` / `verifyChain` with the function that recomputes a block's transaction root as a
    parameter (`verifyChainR C (txRoot C) = verifyChain C`, proved in `Verify.lean`) -/
def checkLinkR (C : Crypto) (root : List Tx → List Nat) (reg : Option (List (List Nat × Nat))) (prev b : Block) :
    Option VerifyErr :=
  if b.header.height ≠ prev.header.height + 1 then some .height
  else if b.header.prevHash ≠ prev.header.hash C then some .prevHash
  else if b.header.txRoot ≠ root b.txs then some .txRoot
  else if b.header.timestamp < prev.header.timestamp then some .timestamp
  else if regSigOk C reg b.header then none else some .badSig

def verifyFromR (C : Crypto) (root : List Tx → List Nat) (reg : Option (List (List Nat × Nat))) (s : List (SKey × SVal)) :
    Block → Nat → Nat → Option VerifyErr
  | _, _, 0 => none
  | prev, h, n + 1 =>
    match blockAt s h with
    | none => some (.notFound h)
    | some b =>
      match checkLinkR C root reg prev b with
      | some e => some e
      | none => verifyFromR C root reg s b (h + 1) n

def verifyChainR (C : Crypto) (root : List Tx → List Nat) (reg : Option (List (List Nat × Nat))) (c : ChainSt) :
    Option VerifyErr :=
  if c.height = 0 then none
  else match blockAt c.store 0 with
    | none => some .emptyChain
    | some g =>
      if g.header.txRoot ≠ root g.txs then some .txRoot
      else verifyFromR C root reg c.store g 1 c.height

/-! ### `find_and_merge_orthogonal` with the transition validator (non-empty global codebook)

`commitStep` above models auto-merge with the DEFAULT (empty) codebook, where every candidate that can be marked
`Committing` is merged.  With a non-empty codebook the loop asks the `TransitionValidator` about the tentative
merged delta of each candidate in turn; the verdict is an INPUT BIT of the candidate here (the validator is a
function of embeddings the model does not carry).  Branch by branch:
`mark_committing` fails → skip; validator consulted and says invalid → `mark_failed`, skip (nothing of the
candidate is kept); otherwise operations appended, delta merged, workspace recorded as merged. -/

structure Cand where
  id : Nat
  ops : List Tx
  dir : Nat
  /-- `mark_committing()` succeeds (the workspace is still `Active` when the loop reaches it) -/
  markable : Bool
  /-- `validate_transition("chain", original, tentative).is_valid` -/
  valid : Bool
deriving DecidableEq, Repr

/-- the loop variables of `find_and_merge_orthogonal` (+ the ids marked `Failed`) -/
structure MergeAcc where
  /-- `all_operations` -/
  ops : List Tx
  /-- the directions summed into `delta` -/
  dirs : List Nat
  /-- `merged_workspaces` -/
  merged : List Nat
  /-- candidates marked `Failed` by the loop (they stay in `tx_manager.active`) -/
  failed : List Nat
deriving DecidableEq, Repr

/-- one iteration; `validate` = `!codebook_manager.global().is_empty()` -/
def mergeStep (validate : Bool) (a : MergeAcc) (c : Cand) : MergeAcc :=
  if !c.markable then a
  else if validate && !c.valid then { a with failed := a.failed ++ [c.id] }
  else { a with ops := a.ops ++ c.ops, dirs := a.dirs ++ [c.dir], merged := a.merged ++ [c.id] }

def mergeInit (own : List Tx) (dir : Nat) : MergeAcc := { ops := own, dirs := [dir], merged := [], failed := [] }

/-- `find_and_merge_orthogonal(workspace, delta)` over the (already truncated) candidate list -/
def mergeLoop (validate : Bool) (own : List Tx) (dir : Nat) (cs : List Cand) : MergeAcc :=
  cs.foldl (mergeStep validate) (mergeInit own dir)

/-- the candidate ends up in the block -/
def Cand.accepted (validate : Bool) (c : Cand) : Bool := c.markable && !(validate && !c.valid)
/-- the candidate is marked `Failed` by the loop -/
def Cand.rejected (validate : Bool) (c : Cand) : Bool := c.markable && (validate && !c.valid)

/-- variant (seeded mistake): the candidate's operations are appended next to the tentative delta merge, BEFORE the
    validator is consulted; a rejected candidate is still marked `Failed` and skipped -/
def mergeStepAppendBeforeValidation (validate : Bool) (a : MergeAcc) (c : Cand) : MergeAcc :=
  if !c.markable then a
  else
    let a1 := { a with ops := a.ops ++ c.ops }
    if validate && !c.valid then { a1 with failed := a1.failed ++ [c.id] }
    else { a1 with dirs := a1.dirs ++ [c.dir], merged := a1.merged ++ [c.id] }

def mergeLoopAppendBeforeValidation (validate : Bool) (own : List Tx) (dir : Nat) (cs : List Cand) : MergeAcc :=
  cs.foldl (mergeStepAppendBeforeValidation validate) (mergeInit own dir)

/-- the candidate a workspace of the node is, given the verdict the validator will give it -/
def Cand.ofWs (valid : Nat → Bool) (w : Ws) : Cand :=
  { id := w.id, ops := w.ops, dir := w.dir, markable := w.state = .active, valid := valid w.id }

/-! ### the driver's concrete crypto: injective encodings -/

def drvCrypto : Crypto :=
  { hash := fun x => x, sign := fun k m => 7 :: k :: m, verify := fun k m s => s == 7 :: k :: m, zero := [0] }

end Neumann.Chain
