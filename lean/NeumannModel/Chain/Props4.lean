import NeumannModel.Chain.Props2
/-
  C16 — property theorems, part 4: `TensorStateMachine` as an object.  `apply_block` / `apply_entry` choose between
  a fast and a full append by the block's similarity to the embeddings THIS object tracked (`recent_embeddings`:
  in memory, private to the object, emptied by a restart or by `clear_recent()`).  "Replaying the same blocks
  yields the same state root on every replica" therefore needs: the verdict on a block and the replica after it
  depend on the block and on the replica's store and chain head only — never on the window.  Same conventions as
  `Props.lean`.
-/
namespace Neumann.Chain.Props
open Neumann.Chain

/-! ## 11. the fast path and the recent-embedding window -/

/-- THE WINDOW DECIDES NOTHING BUT THE PATH.  For every similarity function, threshold and window size (`F`),
    every window, every replica and every block: `apply_block` of the object gives exactly the verdict and the
    replica (state store, chain store, height, tip) of the window-free `applyBlock` — the state-root comparison
    is made on both paths and both paths are the one `Chain::append`. -/
theorem apply_block_independent_of_window (F : FastPath) (C : Crypto) (reg : Option (List (List Nat × Nat)))
    (m : Machine) (b : Block) :
    (applyBlockM F C reg m b).1.rep = (applyBlock C reg m.rep b).1 ∧
    (applyBlockM F C reg m b).2 = (applyBlock C reg m.rep b).2 := by
  unfold applyBlockM applyBlock appendFast appendFull
  simp only [ite_self]
  split
  · exact ⟨rfl, rfl⟩
  · cases append C reg (m.rep.setState (applyTxs m.rep.stateStore b.txs)).chain b <;> exact ⟨rfl, rfl⟩

/-- THE STATE ROOT IS CHECKED ON EVERY PATH: a block is accepted — through the fast or the full path, whatever the
    window holds — only if its header's state root is the root of the replica's state with the block's
    transactions applied. -/
theorem accepted_block_certifies_state_root (F : FastPath) (C : Crypto) (reg : Option (List (List Nat × Nat)))
    (m : Machine) (b : Block) (h : (applyBlockM F C reg m b).2 = none) :
    b.header.stateRoot = stateRoot C (applyTxs m.rep.stateStore b.txs) := by
  unfold applyBlockM appendFast appendFull at h
  simp only [ite_self, stateStore_setState] at h
  split at h
  · exact absurd h (by simp)
  · rename_i hne
    exact Classical.not_not.mp hne

/-- a rejected block leaves the whole object as it was: state store, chain, and the window -/
theorem rejected_block_leaves_machine_untouched (F : FastPath) (C : Crypto) (reg : Option (List (List Nat × Nat)))
    (m : Machine) (b : Block) (e : ApplyErr) (h : (applyBlockM F C reg m b).2 = some e) :
    (applyBlockM F C reg m b).1 = m := by
  have hw := apply_block_independent_of_window F C reg m b
  have hrep : (applyBlockM F C reg m b).1.rep = m.rep := by
    rw [hw.1]
    exact applyBlock_rejected_untouched C reg m.rep b e (by rw [← hw.2]; exact h)
  have hrec : (applyBlockM F C reg m b).1.recent = m.recent := by
    rw [applyBlockM_recent, h]
    simp
  have ext : ∀ (a c : Machine), a.rep = c.rep → a.recent = c.recent → a = c := by
    intro a c h1 h2
    obtain ⟨ra, wa⟩ := a
    obtain ⟨rc, wc⟩ := c
    simp only at h1 h2
    subst h1
    subst h2
    rfl
  exact ext _ _ hrep hrec

/-- an accepted block extends the window by exactly its own embedding (`track_embedding`) -/
theorem accepted_block_tracked (F : FastPath) (C : Crypto) (reg : Option (List (List Nat × Nat)))
    (m : Machine) (b : Block) (h : (applyBlockM F C reg m b).2 = none) :
    (applyBlockM F C reg m b).1.recent = trackEmbedding F m.recent b := by
  rw [applyBlockM_recent, h]
  simp

/-- THE WINDOW STAYS BOUNDED and holds non-empty embeddings only, across every operation of the object -/
theorem window_bounded (F : FastPath) (C : Crypto) (reg : Option (List (List Nat × Nat))) (m : Machine) (o : MOp)
    (hlen : m.recent.length ≤ F.maxRecent) (hnz : ∀ e ∈ m.recent, F.nonzero e = true) :
    (stepM F C reg m o).recent.length ≤ F.maxRecent ∧ ∀ e ∈ (stepM F C reg m o).recent, F.nonzero e = true := by
  cases o with
  | restart | clear => exact ⟨by simp [stepM], by simp [stepM]⟩
  | apply b =>
    simp only [stepM]
    cases hv : (applyBlockM F C reg m b).2 with
    | some e => rw [rejected_block_leaves_machine_untouched F C reg m b e hv]; exact ⟨hlen, hnz⟩
    | none =>
      rw [accepted_block_tracked F C reg m b hv]
      unfold trackEmbedding
      split
      · exact ⟨hlen, hnz⟩
      · rename_i hn
        refine ⟨trimFront_length _ _, ?_⟩
        intro e he
        have he' : e ∈ m.recent ++ [b.header.embedding] := List.mem_of_mem_drop he
        rcases List.mem_append.mp he' with h1 | h1
        · exact hnz e h1
        · simp only [List.mem_singleton] at h1
          subst h1
          simpa using hn

/-- a run of one object — blocks, restarts and `clear_recent()` calls in any order — leaves the replica the plain
    replay of its blocks leaves, and gives its verdicts -/
theorem run_is_replay_of_its_blocks (F : FastPath) (C : Crypto) (reg : Option (List (List Nat × Nat)))
    (ops : List MOp) (m : Machine) :
    (runM F C reg m ops).rep = replay C reg m.rep (blocksOf ops) ∧
    verdictsM F C reg m ops = replayVerdicts C reg m.rep (blocksOf ops) := by
  induction ops generalizing m with
  | nil => exact ⟨rfl, rfl⟩
  | cons o ops ih =>
    cases o with
    | apply b =>
      obtain ⟨h1, h2⟩ := apply_block_independent_of_window F C reg m b
      have := ih (applyBlockM F C reg m b).1
      simp only [runM, List.foldl_cons, stepM, blocksOf, replay, verdictsM, replayVerdicts] at this ⊢
      rw [this.1, this.2, h1, h2]
      exact ⟨rfl, rfl⟩
    | restart | clear =>
      have := ih { m with recent := [] }
      simp only [runM, List.foldl_cons, stepM, blocksOf, verdictsM] at this ⊢
      exact this

/-- REPLICAS AGREE FOR EVERY PAIR OF WINDOWS.  Two `TensorStateMachine` objects whose replicas agree (same state
    image, height, tip) are fed the same blocks; their windows are ARBITRARY and different, their thresholds /
    similarity functions / window sizes may differ (`F1`, `F2`), and each is restarted or has its window cleared
    at its own arbitrary points between the blocks (`ops1`, `ops2` share only their block sequence).  Then they
    give the same verdict on every block — honest or with a wrong state root / height / predecessor hash /
    transaction root / signature — and end in agreement: same state image, same height, same tip, same state
    root. -/
theorem replicas_agree_for_every_pair_of_windows (C : Crypto) (reg : Option (List (List Nat × Nat)))
    (F1 F2 : FastPath) (m1 m2 : Machine) (ops1 ops2 : List MOp)
    (hag : Agree m1.rep m2.rep) (hb : blocksOf ops1 = blocksOf ops2) :
    verdictsM F1 C reg m1 ops1 = verdictsM F2 C reg m2 ops2 ∧
    Agree (runM F1 C reg m1 ops1).rep (runM F2 C reg m2 ops2).rep ∧
    stateRoot C (runM F1 C reg m1 ops1).rep.stateStore = stateRoot C (runM F2 C reg m2 ops2).rep.stateStore := by
  obtain ⟨r1, v1⟩ := run_is_replay_of_its_blocks F1 C reg ops1 m1
  obtain ⟨r2, v2⟩ := run_is_replay_of_its_blocks F2 C reg ops2 m2
  rw [r1, r2, v1, v2, hb]
  exact ⟨replay_verdicts_deterministic C reg _ _ _ hag, replay_deterministic C reg _ _ _ hag⟩

/-- a replay never changes which store a replica keeps its state in -/
theorem replay_shared (C : Crypto) (reg : Option (List (List Nat × Nat))) (bs : List Block) (r : Replica) :
    (replay C reg r bs).shared = r.shared := by
  induction bs generalizing r with
  | nil => rfl
  | cons b bs ih =>
    simp only [replay, List.foldl_cons] at ih ⊢
    rw [ih, applyBlock_shared]

/-- REPLAY ON AN EMPTY STORE: replicas bootstrapped from one genesis block with empty state stores, whatever
    their windows hold and whenever they restart, end every common block sequence with the same state root,
    the same height and the same verdicts -/
theorem replay_on_empty_store_same_root_on_every_replica (C : Crypto) (reg : Option (List (List Nat × Nat)))
    (F1 F2 : FastPath) (proposer : List Nat) (ts : Nat) (w1 w2 : List (List Nat)) (ops1 ops2 : List MOp)
    (hb : blocksOf ops1 = blocksOf ops2) :
    let m1 : Machine := { rep := initReplica C false proposer ts, recent := w1 }
    let m2 : Machine := { rep := initReplica C false proposer ts, recent := w2 }
    verdictsM F1 C reg m1 ops1 = verdictsM F2 C reg m2 ops2 ∧
    (runM F1 C reg m1 ops1).rep.chain.height = (runM F2 C reg m2 ops2).rep.chain.height ∧
    (runM F1 C reg m1 ops1).rep.state = (runM F2 C reg m2 ops2).rep.state ∧
    stateRoot C (runM F1 C reg m1 ops1).rep.stateStore = stateRoot C (runM F2 C reg m2 ops2).rep.stateStore := by
  intro m1 m2
  have hag : Agree m1.rep m2.rep := ⟨rfl, rfl, rfl, rfl⟩
  obtain ⟨hv, ha, hr⟩ := replicas_agree_for_every_pair_of_windows C reg F1 F2 m1 m2 ops1 ops2 hag hb
  refine ⟨hv, ha.2.2.1, ?_, hr⟩
  have hsh1 : (runM F1 C reg m1 ops1).rep.shared = false := by
    rw [(run_is_replay_of_its_blocks F1 C reg ops1 m1).1]
    rw [replay_shared]; rfl
  have hsh2 : (runM F2 C reg m2 ops2).rep.shared = false := by
    rw [(run_is_replay_of_its_blocks F2 C reg ops2 m2).1]
    rw [replay_shared]; rfl
  have := ha.2.1
  simp only [Replica.stateStore, hsh1, hsh2, Bool.false_eq_true, if_false] at this
  exact this

/-! ### non-vacuity and witnesses on the driver's concrete crypto and embeddings -/

/-- a block on top of replica `r`: transactions `txs`, embedding `emb`, state root `root` -/
def fpBlock (r : Replica) (txs : List Tx) (emb : List Nat) (root : List Nat) (ts : Nat) : Block :=
  { header := { height := r.chain.height + 1, prevHash := r.chain.tip, txRoot := txRoot drvCrypto txs, stateRoot := root,
                embedding := emb, codes := [], timestamp := ts, proposer := [1], signature := [7] },
    txs := txs, sigs := [] }

def fpHonest (r : Replica) (txs : List Tx) (emb : List Nat) (ts : Nat) : Block :=
  fpBlock r txs emb (stateRoot drvCrypto (applyTxs r.stateStore txs)) ts

def fpWrongRoot (r : Replica) (txs : List Tx) (emb : List Nat) (ts : Nat) : Block :=
  fpBlock r txs emb (stateRoot drvCrypto (applyTxs r.stateStore txs) ++ [9]) ts

def fpM0 : Machine := { rep := initReplica drvCrypto false [1] 5, recent := [] }
def fpB1 : Block := fpHonest fpM0.rep [.put 1 1] [1, 0] 6
/-- replica A: block 1 (class 1) applied, window `[[1, 0]]` -/
def fpA1 : Machine := (applyBlockM (drvFast false) drvCrypto none fpM0 fpB1).1
/-- replica B: the same, then restarted (window empty) -/
def fpB1r : Machine := { fpA1 with recent := [] }
/-- block 2: honest, of the same direction class (similar to block 1) -/
def fpB2 : Block := fpHonest fpA1.rep [.put 2 2] [1, 3] 7
/-- block 2': the same transactions and embedding, but a state root that is not the root of the applied state -/
def fpB2bad : Block := fpWrongRoot fpA1.rep [.put 2 2] [1, 3] 7

/-- non-vacuity: the FAST path is really taken by replica A for block 2 and the FULL path by the restarted
    replica B, the honest block is accepted by both and the wrong-root block is rejected by both — through
    different paths — and the runs `[b1, b2, b2bad]` with and without a restart agree (hypotheses of
    `replicas_agree_for_every_pair_of_windows` hold: same blocks, agreeing replicas, different windows) -/
example : fpA1.recent = [[1, 0]] ∧ fpB1r.recent = [] ∧ Agree fpA1.rep fpB1r.rep ∧
    canFastPath (drvFast false) fpA1.recent fpB2 = true ∧ canFastPath (drvFast false) fpB1r.recent fpB2 = false ∧
    (applyBlockM (drvFast false) drvCrypto none fpA1 fpB2).2 = none ∧
    (applyBlockM (drvFast false) drvCrypto none fpB1r fpB2).2 = none ∧
    canFastPath (drvFast false) fpA1.recent fpB2bad = true ∧
    (applyBlockM (drvFast false) drvCrypto none fpA1 fpB2bad).2 = some .stateRoot ∧
    (applyBlockM (drvFast false) drvCrypto none fpB1r fpB2bad).2 = some .stateRoot := by
  unfold Agree
  decide +kernel

example : blocksOf [.apply fpB1, .apply fpB2, .clear, .apply fpB2bad] = blocksOf [.apply fpB1, .restart, .apply fpB2, .apply fpB2bad] ∧
    verdictsM (drvFast false) drvCrypto none fpM0 [.apply fpB1, .apply fpB2, .clear, .apply fpB2bad] = [none, none, some .stateRoot] :=
  ⟨rfl, by decide +kernel⟩

/-- non-vacuity of `window_bounded`: replica A's window after block 1 is within the bound and non-empty -/
example : fpA1.recent.length ≤ (drvFast false).maxRecent ∧ (∀ e ∈ fpA1.recent, (drvFast false).nonzero e = true) ∧
    fpA1.recent ≠ [] := by decide +kernel

/-- the window evicts its oldest entry: with `max_recent` = 2, after three accepted embeddings the first is gone -/
example : trackEmbedding { drvFast false with maxRecent := 2 } [[1, 0], [2, 0]] fpB2 = [[2, 0], [1, 3]] := by decide +kernel

/-- WITNESS (regression fixture seeded/C16_4): in the variant whose fast path skips the state-root comparison,
    replica A (window holds block 1's embedding) ACCEPTS block 2' although its state root is not the root of the
    applied state — its writes stay, the chain grows — while replica B, which holds the same store and chain but
    was restarted, REJECTS it: two replicas fed the same blocks end with different heights and different state
    roots.  The current `applyBlockM` rejects it on both (example above). -/
theorem fast_path_skips_state_root_replicas_diverge_witness :
    Agree fpA1.rep fpB1r.rep ∧
    (applyBlockFastPathSkipsStateRoot (drvFast false) drvCrypto none fpA1 fpB2bad).2 = none ∧
    (applyBlockFastPathSkipsStateRoot (drvFast false) drvCrypto none fpB1r fpB2bad).2 = some .stateRoot ∧
    (applyBlockFastPathSkipsStateRoot (drvFast false) drvCrypto none fpA1 fpB2bad).1.rep.chain.height = 2 ∧
    (applyBlockFastPathSkipsStateRoot (drvFast false) drvCrypto none fpB1r fpB2bad).1.rep.chain.height = 1 ∧
    stateRoot drvCrypto (applyBlockFastPathSkipsStateRoot (drvFast false) drvCrypto none fpA1 fpB2bad).1.rep.stateStore ≠
      stateRoot drvCrypto (applyBlockFastPathSkipsStateRoot (drvFast false) drvCrypto none fpB1r fpB2bad).1.rep.stateStore := by
  unfold Agree
  decide +kernel

/-- WITNESS: in that variant an accepted block's state root certifies nothing — block 2' is accepted by replica A
    with a header root different from the root of the state it produced
    (`accepted_block_certifies_state_root` fails for the variant) -/
theorem fast_path_skips_state_root_accepts_wrong_root_witness :
    (applyBlockFastPathSkipsStateRoot (drvFast false) drvCrypto none fpA1 fpB2bad).2 = none ∧
    fpB2bad.header.stateRoot ≠ stateRoot drvCrypto (applyTxs fpA1.rep.stateStore fpB2bad.txs) := by
  decide +kernel

end Neumann.Chain.Props
