import NeumannModel.Paths.AlgoBasics
/-
  C18 — `articulation_points` / `bridges` (low-link DFS on the simple undirected view).  The fuel-bounded
  mutual recursion equals structurally recursive functions over an abstract adjacency.  Invariant `BcInv`
  relative to the ghost path of active nodes (finished = discovered and not on the path): discovery
  numbers injective and below the clock, parent entries are adjacencies from smaller to larger numbers,
  every adjacency of a finished node joins an ancestor and a descendant, `low` of a finished node is a
  lower bound of the numbers of its non-parent neighbours and of the `low` of its children and is
  attained, the two answer lists contain exactly what the tests `BcApCond` / `BcBrCond` say about
  finished children.  The finished search is a `BcForest`; over it the two tests are exact
  (`bcA_ap_iff`, `bcB_br_iff`), the common step being `bcSub_step`.
-/
namespace Neumann.Paths

/-- `BcAnc par a c`: `a` is an ancestor of `c` (or `c` itself) in the forest of the parent function -/
inductive BcAnc (par : Nat → Option Nat) : Nat → Nat → Prop
  | refl (a : Nat) : BcAnc par a a
  | step {a p c : Nat} : BcAnc par a p → par c = some p → BcAnc par a c

inductive BcWalk (R : Nat → Nat → Prop) : Nat → Nat → Prop
  | refl (a : Nat) : BcWalk R a a
  | step {a b c : Nat} : R a b → BcWalk R b c → BcWalk R a c

def BcRadj (adj : Nat → List Nat) (u v : Nat) : Prop := v ∈ adj u
/-- adjacency step that does not touch `x` -/
def BcRav (adj : Nat → List Nat) (x : Nat) (u v : Nat) : Prop := v ∈ adj u ∧ u ≠ x ∧ v ≠ x
/-- adjacency step other than the direct one between `a` and `b` -/
def BcRwo (adj : Nat → List Nat) (a b : Nat) (u v : Nat) : Prop :=
  v ∈ adj u ∧ ¬ ((u = a ∧ v = b) ∨ (u = b ∧ v = a))

def BcArt (adj : Nat → List Nat) (x : Nat) : Prop :=
  ∃ a b, a ≠ x ∧ b ≠ x ∧ BcWalk (BcRadj adj) x a ∧ BcWalk (BcRadj adj) x b ∧ ¬ BcWalk (BcRav adj x) a b

def BcBridge (adj : Nat → List Nat) (a b : Nat) : Prop :=
  b ∈ adj a ∧ ¬ BcWalk (BcRwo adj a b) a b

/-- the test of the engine for `x`, read off the final maps; `blk` = finished nodes -/
def BcApCond (par : Nat → Option Nat) (D L : Nat → Nat) (blk : Nat → Prop) (x : Nat) : Prop :=
  (par x = none ∧ ∃ c1 c2, c1 ≠ c2 ∧ blk c1 ∧ blk c2 ∧ par c1 = some x ∧ par c2 = some x) ∨
  (∃ p c, par x = some p ∧ blk c ∧ par c = some x ∧ D x ≤ L c)

def BcBrCond (par : Nat → Option Nat) (D L : Nat → Nat) (blk : Nat → Prop) (e : Nat × Nat) : Prop :=
  ∃ u v, blk v ∧ par v = some u ∧ D u < L v ∧ e = (min u v, max u v)

/-- what the finished search knows: a spanning forest without cross adjacencies and local low-link facts -/
structure BcForest (adj : Nat → List Nat) (nodes : List Nat) (par : Nat → Option Nat) (D L : Nat → Nat) :
    Prop where
  sym : ∀ u v, u ∈ nodes → v ∈ adj u → u ∈ adj v
  irr : ∀ u v, v ∈ adj u → v ≠ u
  adjn : ∀ u v, v ∈ adj u → v ∈ nodes
  inj : ∀ x y, x ∈ nodes → y ∈ nodes → D x = D y → x = y
  bnd : ∃ T, ∀ x, x ∈ nodes → D x < T
  tree : ∀ c p, par c = some p → c ∈ nodes ∧ p ∈ nodes ∧ c ∈ adj p ∧ D p < D c
  cmp : ∀ y w, y ∈ nodes → w ∈ adj y → BcAnc par y w ∨ BcAnc par w y
  lowa : ∀ y w, y ∈ nodes → w ∈ adj y → par y ≠ some w → L y ≤ D w
  lowc : ∀ c y, par c = some y → L y ≤ L c
  loww : ∀ y, y ∈ nodes → L y = D y ∨ (∃ w, w ∈ adj y ∧ par y ≠ some w ∧ L y = D w) ∨
    (∃ c, par c = some y ∧ L y = L c)


/-- `parent[v] = u` -/
def bcSetPar (u v : Nat) (st : BcSt) : BcSt := { st with parent := (v, u) :: st.parent }

/-- the caller's part before the recursive call: nothing for a root -/
def bcSetParO (po : Option Nat) (v : Nat) (st : BcSt) : BcSt :=
  match po with
  | none => st
  | some u => bcSetPar u v st

/-- entry of `dfs(u)` -/
def bcPush (u : Nat) (st : BcSt) : BcSt :=
  { st with disc := (u, st.time) :: st.disc, low := (u, st.time) :: st.low, time := st.time + 1 }

/-- what `dfs(u)` does after the recursive call for its child `v` returned -/
def bcRetire (u v ch : Nat) (st' : BcSt) : BcSt :=
  let lowV := tjNum st'.low v
  let lowU := tjNum st'.low u
  let discU := tjNum st'.disc u
  let ap : Bool := if (nmGet st'.parent u).isNone then decide (ch + 1 > 1) else decide (lowV ≥ discU)
  { st' with low := (u, min lowU lowV) :: st'.low,
             aps := if ap then u :: st'.aps else st'.aps,
             bridges := if lowV > discU then (min u v, max u v) :: st'.bridges else st'.bridges }

/-- an already discovered neighbour that is not the parent -/
def bcBack (u discV : Nat) (st : BcSt) : BcSt :=
  if discV < tjNum st.low u then { st with low := (u, discV) :: st.low } else st

def bcNbrsF (visit : Nat → BcSt → BcSt) (u : Nat) : List Nat → Nat → BcSt → BcSt
  | [], _, st => st
  | v :: vs, ch, st =>
    match nmGet st.disc v with
    | none => bcNbrsF visit u vs (ch + 1) (bcRetire u v ch (visit v (bcSetPar u v st)))
    | some discV =>
      if nmGet st.parent u != some v then bcNbrsF visit u vs ch (bcBack u discV st)
      else bcNbrsF visit u vs ch st

def bcVisitF (adj : Nat → List Nat) : Nat → Nat → BcSt → BcSt
  | 0, _, st => st
  | fuel + 1, u, st => bcNbrsF (bcVisitF adj fuel) u (adj u) 0 (bcPush u st)

def bcAllF (visit : Nat → BcSt → BcSt) : List Nat → BcSt → BcSt
  | [], st => st
  | n :: ns, st =>
    match nmGet st.disc n with
    | none => bcAllF visit ns (visit n st)
    | some _ => bcAllF visit ns st

theorem bcNbrs_eq_F (g : Graph) (etype : Option Nat) (fuel : Nat) (visit : Nat → BcSt → BcSt)
    (hv : ∀ w st, bcVisit g etype fuel w st = visit w st) (u : Nat) :
    ∀ vs ch st, bcNbrs g etype fuel u vs ch st = bcNbrsF visit u vs ch st := by
  intro vs
  induction vs with
  | nil => intro ch st; rw [bcNbrs, bcNbrsF]
  | cons v vs ih =>
    intro ch st
    rw [bcNbrs, bcNbrsF]
    cases h : nmGet st.disc v with
    | none =>
      simp only [hv, ih]
      rfl
    | some k =>
      simp only [ih, bcBack, tjNum]
      split
      · split <;> rename_i h2 <;> simp only [h2, ↓reduceIte]
      · rfl

theorem bcVisit_eq_F (g : Graph) (etype : Option Nat) :
    ∀ fuel v st, bcVisit g etype fuel v st = bcVisitF (nbrSet g etype .both) fuel v st := by
  intro fuel
  induction fuel with
  | zero => intro v st; rw [bcVisit, bcVisitF]
  | succ fuel ih =>
    intro v st
    rw [bcVisit, bcVisitF]
    simp only [bcNbrs_eq_F g etype fuel _ ih]
    rfl

theorem bcAll_eq_F (g : Graph) (etype : Option Nat) (fuel : Nat) :
    ∀ ns st, bcAll g etype fuel ns st = bcAllF (bcVisitF (nbrSet g etype .both) fuel) ns st := by
  intro ns
  induction ns with
  | nil => intro st; rfl
  | cons n ns ih =>
    intro st
    rw [bcAll, bcAllF]
    cases h : nmGet st.disc n with
    | none => simp only [ih, bcVisit_eq_F]
    | some k => simp only [ih]

def bcInit : BcSt := { time := 0, disc := [], low := [], parent := [], aps := [], bridges := [] }

/-- the final state of the run on a graph -/
def bcFinalF (g : Graph) (etype : Option Nat) : BcSt :=
  bcAllF (bcVisitF (nbrSet g etype .both) (g.nodes.length + 1)) (g.nodes.map (·.id)) bcInit

theorem bcFinal_eq_F (g : Graph) (etype : Option Nat) : bcFinal g etype = bcFinalF g etype := by
  unfold bcFinal bcFinalF
  rw [bcAll_eq_F]
  rfl

structure BcAdjOk (adj : Nat → List Nat) (nodes : List Nat) : Prop where
  sym : ∀ u v, u ∈ nodes → v ∈ adj u → u ∈ adj v
  irr : ∀ u v, v ∈ adj u → v ≠ u
  adjn : ∀ u v, v ∈ adj u → v ∈ nodes

/-- finished: discovered and not on the ghost path of active nodes -/
def bcBlk (path : List Nat) (st : BcSt) (x : Nat) : Prop := nmGet st.disc x ≠ none ∧ x ∉ path

/-- the path of active nodes, newest first: every entry's parent is the next entry, the last one is a root -/
def BcChain (par : Nat → Option Nat) : List Nat → Prop
  | [] => True
  | z :: r => par z = r.head? ∧ BcChain par r

/-- what is known about a neighbour `w` of `y` once the loop of `y` has handled it (`l` = `low[y]`) -/
def BcWOk (st : BcSt) (y l w : Nat) : Prop :=
  nmGet st.disc w ≠ none ∧
  (BcAnc (nmGet st.parent) y w ∨ BcAnc (nmGet st.parent) w y) ∧
  (nmGet st.parent y ≠ some w → l ≤ tjNum st.disc w)

/-- `l` = `low[y]` is below the low values of the finished children and is attained -/
structure BcLowCW (adj : Nat → List Nat) (path : List Nat) (st : BcSt) (y l : Nat) : Prop where
  le : l ≤ tjNum st.disc y
  lowc : ∀ c, bcBlk path st c → nmGet st.parent c = some y → l ≤ tjNum st.low c
  loww : l = tjNum st.disc y ∨
    (∃ w, w ∈ adj y ∧ nmGet st.disc w ≠ none ∧ nmGet st.parent y ≠ some w ∧ l = tjNum st.disc w) ∨
    (∃ c, bcBlk path st c ∧ nmGet st.parent c = some y ∧ l = tjNum st.low c)

structure BcInvD (adj : Nat → List Nat) (nodes : List Nat) (path : List Nat) (st : BcSt) : Prop where
  node : ∀ x, nmGet st.disc x ≠ none → x ∈ nodes
  lt : ∀ x k, nmGet st.disc x = some k → k < st.time
  inj : ∀ x y k, nmGet st.disc x = some k → nmGet st.disc y = some k → x = y
  tree : ∀ c p, nmGet st.parent c = some p →
    nmGet st.disc c ≠ none ∧ nmGet st.disc p ≠ none ∧ c ∈ adj p ∧ tjNum st.disc p < tjNum st.disc c
  chain : BcChain (nmGet st.parent) path
  pathd : ∀ z, z ∈ path → nmGet st.disc z ≠ none

structure BcInvB (adj : Nat → List Nat) (path : List Nat) (st : BcSt) : Prop where
  badj : ∀ y, bcBlk path st y → ∀ w, w ∈ adj y → BcWOk st y (tjNum st.low y) w
  blow : ∀ y, bcBlk path st y → BcLowCW adj path st y (tjNum st.low y)
  aps : ∀ x, x ∈ st.aps ↔
    BcApCond (nmGet st.parent) (tjNum st.disc) (tjNum st.low) (bcBlk path st) x
  brs : ∀ e, e ∈ st.bridges ↔
    BcBrCond (nmGet st.parent) (tjNum st.disc) (tjNum st.low) (bcBlk path st) e
  brnd : st.bridges.Nodup

structure BcInv (adj : Nat → List Nat) (nodes : List Nat) (path : List Nat) (st : BcSt) : Prop where
  d : BcInvD adj nodes path st
  b : BcInvB adj path st

theorem bcAnc_mono {par par' : Nat → Option Nat} (h : ∀ c p, par c = some p → par' c = some p) {a b : Nat}
    (hab : BcAnc par a b) : BcAnc par' a b := by
  induction hab with
  | refl => exact .refl _
  | step _ hp ih => exact .step ih (h _ _ hp)

theorem bcAnc_trans {par : Nat → Option Nat} {a b c : Nat} (h1 : BcAnc par a b) (h2 : BcAnc par b c) :
    BcAnc par a c := by
  induction h2 with
  | refl => exact h1
  | step _ hp ih => exact .step ih hp

theorem bcChain_congr {par par' : Nat → Option Nat} : ∀ (path : List Nat),
    (∀ z, z ∈ path → par' z = par z) → BcChain par path → BcChain par' path := by
  intro path
  induction path with
  | nil => intro _ _; exact True.intro
  | cons z r ih =>
    intro h hc
    exact ⟨by rw [h z List.mem_cons_self]; exact hc.1, ih (fun y hy => h y (List.mem_cons_of_mem _ hy)) hc.2⟩

theorem bcChain_anc {par : Nat → Option Nat} : ∀ (rest : List Nat) (u : Nat),
    BcChain par (u :: rest) → ∀ w, w ∈ u :: rest → BcAnc par w u
  | [], u, _, w, hw => by rw [List.mem_singleton.1 hw]; exact .refl _
  | z :: r, u, hc, w, hw => by
    rcases List.mem_cons.1 hw with h1 | h1
    · rw [h1]; exact .refl _
    · exact .step (bcChain_anc r z hc.2 w h1) hc.1

theorem BcApCond.congr {par par' : Nat → Option Nat} {D D' L L' : Nat → Nat} {blk blk' : Nat → Prop}
    (h1 : ∀ c, blk c → blk' c ∧ par' c = par c ∧ L' c = L c)
    (h2 : ∀ c x, blk c → par c = some x → par' x = par x ∧ D' x = D x) {x : Nat}
    (h : BcApCond par D L blk x) : BcApCond par' D' L' blk' x := by
  rcases h with ⟨hr, c1, c2, hne, b1, b2, p1, p2⟩ | ⟨p, c, hp, bc, pc, hle⟩
  · left
    have e1 := h1 c1 b1
    have e2 := h1 c2 b2
    exact ⟨by rw [(h2 c1 x b1 p1).1]; exact hr, c1, c2, hne, e1.1, e2.1, by rw [e1.2.1]; exact p1,
      by rw [e2.2.1]; exact p2⟩
  · right
    have e := h1 c bc
    have e' := h2 c x bc pc
    exact ⟨p, c, by rw [e'.1]; exact hp, e.1, by rw [e.2.1]; exact pc, by rw [e'.2, e.2.2]; exact hle⟩

theorem BcBrCond.congr {par par' : Nat → Option Nat} {D D' L L' : Nat → Nat} {blk blk' : Nat → Prop}
    (h1 : ∀ c, blk c → blk' c ∧ par' c = par c ∧ L' c = L c)
    (h2 : ∀ c x, blk c → par c = some x → par' x = par x ∧ D' x = D x) {e : Nat × Nat}
    (h : BcBrCond par D L blk e) : BcBrCond par' D' L' blk' e := by
  rcases h with ⟨u, v, bv, pv, hlt, he⟩
  have e1 := h1 v bv
  have e2 := h2 v u bv pv
  exact ⟨u, v, e1.1, by rw [e1.2.1]; exact pv, by rw [e2.2, e1.2.2]; exact hlt, he⟩

/-- the parent and discovery maps unchanged: only the finished set and `low` on it matter -/
theorem BcApCond.mono {par : Nat → Option Nat} {D L L' : Nat → Nat} {blk blk' : Nat → Prop}
    (h : ∀ c, blk c → blk' c ∧ L' c = L c) {x : Nat} (hx : BcApCond par D L blk x) :
    BcApCond par D L' blk' x :=
  hx.congr (fun c hc => ⟨(h c hc).1, rfl, (h c hc).2⟩) (fun _ _ _ _ => ⟨rfl, rfl⟩)

theorem BcBrCond.mono {par : Nat → Option Nat} {D L L' : Nat → Nat} {blk blk' : Nat → Prop}
    (h : ∀ c, blk c → blk' c ∧ L' c = L c) {e : Nat × Nat} (he : BcBrCond par D L blk e) :
    BcBrCond par D L' blk' e :=
  he.congr (fun c hc => ⟨(h c hc).1, rfl, (h c hc).2⟩) (fun _ _ _ _ => ⟨rfl, rfl⟩)

/-- a step that keeps the set of finished nodes and everything the invariant reads about them -/
structure BcFrame (path : List Nat) (st : BcSt) (path' : List Nat) (st' : BcSt) : Prop where
  disc : ∀ x, nmGet st.disc x ≠ none → nmGet st'.disc x = nmGet st.disc x
  par : ∀ x, nmGet st.disc x ≠ none → nmGet st'.parent x = nmGet st.parent x
  low : ∀ x, bcBlk path st x → nmGet st'.low x = nmGet st.low x
  blk : ∀ x, bcBlk path' st' x ↔ bcBlk path st x
  aps : st'.aps = st.aps
  brs : st'.bridges = st.bridges

section Invariant

variable {adj : Nat → List Nat} {nodes : List Nat}

theorem BcInvD.par_mono {path : List Nat} {st st' : BcSt}
    (hd : BcInvD adj nodes path st)
    (hpar : ∀ x, nmGet st.disc x ≠ none → nmGet st'.parent x = nmGet st.parent x) :
    ∀ c p, nmGet st.parent c = some p → nmGet st'.parent c = some p := by
  intro c p h
  rw [hpar c (hd.tree c p h).1]; exact h

theorem BcWOk.mono {path : List Nat} {st st' : BcSt} {y l l' w : Nat}
    (hd : BcInvD adj nodes path st)
    (hdisc : ∀ x, nmGet st.disc x ≠ none → nmGet st'.disc x = nmGet st.disc x)
    (hpar : ∀ x, nmGet st.disc x ≠ none → nmGet st'.parent x = nmGet st.parent x)
    (hy : nmGet st.disc y ≠ none) (hl : l' ≤ l) (h : BcWOk st y l w) : BcWOk st' y l' w := by
  rcases h with ⟨h1, h2, h3⟩
  have hm := hd.par_mono hpar
  refine ⟨by rw [hdisc w h1]; exact h1, ?_, ?_⟩
  · rcases h2 with h2 | h2
    · exact .inl (bcAnc_mono hm h2)
    · exact .inr (bcAnc_mono hm h2)
  · intro hne
    rw [hpar y hy] at hne
    rw [tjNum_congr (hdisc w h1)]
    have := h3 hne
    omega

theorem BcLowCW.frame {path path' : List Nat} {st st' : BcSt} {y l : Nat}
    (F : BcFrame path st path' st') (hy : nmGet st.disc y ≠ none) (h : BcLowCW adj path st y l) :
    BcLowCW adj path' st' y l := by
  refine ⟨by rw [tjNum_congr (F.disc y hy)]; exact h.le, ?_, ?_⟩
  · intro c hc hp
    have hc' := (F.blk c).1 hc
    rw [F.par c hc'.1] at hp
    rw [tjNum_congr (F.low c hc')]
    exact h.lowc c hc' hp
  · rcases h.loww with h1 | ⟨w, hw, hwd, hne, hl⟩ | ⟨c, hc, hp, hl⟩
    · left; rw [tjNum_congr (F.disc y hy)]; exact h1
    · right; left
      exact ⟨w, hw, by rw [F.disc w hwd]; exact hwd, by rw [F.par y hy]; exact hne,
        by rw [tjNum_congr (F.disc w hwd)]; exact hl⟩
    · right; right
      exact ⟨c, (F.blk c).2 hc, by rw [F.par c hc.1]; exact hp, by rw [tjNum_congr (F.low c hc)]; exact hl⟩

theorem BcInvB.frame {path path' : List Nat} {st st' : BcSt}
    (hd : BcInvD adj nodes path st) (hb : BcInvB adj path st) (F : BcFrame path st path' st') :
    BcInvB adj path' st' := by
  have h1 : ∀ c, bcBlk path st c → bcBlk path' st' c ∧ nmGet st'.parent c = nmGet st.parent c ∧
      tjNum st'.low c = tjNum st.low c :=
    fun c hc => ⟨(F.blk c).2 hc, F.par c hc.1, tjNum_congr (F.low c hc)⟩
  have h2 : ∀ c x, bcBlk path st c → nmGet st.parent c = some x →
      nmGet st'.parent x = nmGet st.parent x ∧ tjNum st'.disc x = tjNum st.disc x :=
    fun c x _ hp => ⟨F.par x (hd.tree c x hp).2.1, tjNum_congr (F.disc x (hd.tree c x hp).2.1)⟩
  have h1' : ∀ c, bcBlk path' st' c → bcBlk path st c ∧ nmGet st.parent c = nmGet st'.parent c ∧
      tjNum st.low c = tjNum st'.low c :=
    fun c hc => ⟨(F.blk c).1 hc, (F.par c ((F.blk c).1 hc).1).symm, (tjNum_congr (F.low c ((F.blk c).1 hc))).symm⟩
  have h2' : ∀ c x, bcBlk path' st' c → nmGet st'.parent c = some x →
      nmGet st.parent x = nmGet st'.parent x ∧ tjNum st.disc x = tjNum st'.disc x := by
    intro c x hc hp
    have hc' := (F.blk c).1 hc
    rw [F.par c hc'.1] at hp
    have hx := (hd.tree c x hp).2.1
    exact ⟨(F.par x hx).symm, (tjNum_congr (F.disc x hx)).symm⟩
  refine ⟨?_, ?_, ?_, ?_, ?_⟩
  · intro y hy w hw
    have hy' := (F.blk y).1 hy
    rw [tjNum_congr (F.low y hy')]
    exact (hb.badj y hy' w hw).mono hd F.disc F.par hy'.1 (Nat.le_refl _)
  · intro y hy
    have hy' := (F.blk y).1 hy
    rw [tjNum_congr (F.low y hy')]
    exact (hb.blow y hy').frame F hy'.1
  · intro x
    rw [F.aps, hb.aps x]
    exact ⟨BcApCond.congr h1 h2, BcApCond.congr h1' h2'⟩
  · intro e
    rw [F.brs, hb.brs e]
    exact ⟨BcBrCond.congr h1 h2, BcBrCond.congr h1' h2'⟩
  · rw [F.brs]; exact hb.brnd

theorem bcPushO_disc (po : Option Nat) (v : Nat) (st : BcSt) :
    (bcPush v (bcSetParO po v st)).disc = (v, st.time) :: st.disc := by cases po <;> rfl

theorem bcPushO_low (po : Option Nat) (v : Nat) (st : BcSt) :
    (bcPush v (bcSetParO po v st)).low = (v, st.time) :: st.low := by cases po <;> rfl

theorem bcPushO_time (po : Option Nat) (v : Nat) (st : BcSt) :
    (bcPush v (bcSetParO po v st)).time = st.time + 1 := by cases po <;> rfl

theorem bcPushO_par (po : Option Nat) (v : Nat) (st : BcSt) (hv : nmGet st.parent v = none) (x : Nat) :
    nmGet (bcPush v (bcSetParO po v st)).parent x = if v = x then po else nmGet st.parent x := by
  cases po with
  | none =>
    show nmGet st.parent x = _
    by_cases h : v = x
    · subst h; rw [if_pos rfl, hv]
    · rw [if_neg h]
  | some u =>
    show nmGet ((v, u) :: st.parent) x = _
    rw [nmGet_cons]

theorem BcInvD.par_none {path : List Nat} {st : BcSt}
    (hd : BcInvD adj nodes path st) {v : Nat} (hv : nmGet st.disc v = none) : nmGet st.parent v = none := by
  cases h : nmGet st.parent v with
  | none => rfl
  | some p => exact absurd hv (hd.tree v p h).1

theorem bcPushO_frame {path : List Nat} {st : BcSt}
    (hd : BcInvD adj nodes path st) {v : Nat} (hv : nmGet st.disc v = none) (po : Option Nat) :
    BcFrame path st (v :: path) (bcPush v (bcSetParO po v st)) := by
  have hne : ∀ x, nmGet st.disc x ≠ none → ¬ v = x := fun x hx h => by subst h; exact hx hv
  refine ⟨?_, ?_, ?_, ?_, by cases po <;> rfl, by cases po <;> rfl⟩
  · intro x hx
    rw [bcPushO_disc, nmGet_cons, if_neg (hne x hx)]
  · intro x hx
    rw [bcPushO_par po v st (hd.par_none hv), if_neg (hne x hx)]
  · intro x hx
    rw [bcPushO_low, nmGet_cons, if_neg (hne x hx.1)]
  · intro x
    unfold bcBlk
    rw [bcPushO_disc, nmGet_cons]
    constructor
    · rintro ⟨h1, h2⟩
      have hvx : ¬ v = x := fun h => h2 (by simp [h])
      rw [if_neg hvx] at h1
      exact ⟨h1, fun h => h2 (List.mem_cons_of_mem _ h)⟩
    · rintro ⟨h1, h2⟩
      rw [if_neg (hne x h1)]
      refine ⟨h1, fun h => ?_⟩
      rcases List.mem_cons.1 h with h | h
      · exact hne x h1 h.symm
      · exact h2 h

theorem BcInvD.push {path : List Nat} {st : BcSt}
    (hd : BcInvD adj nodes path st) {v : Nat} (hv : nmGet st.disc v = none) (hn : v ∈ nodes)
    {po : Option Nat} (hpo : po = path.head?) (hadj : ∀ u, po = some u → v ∈ adj u) :
    BcInvD adj nodes (v :: path) (bcPush v (bcSetParO po v st)) := by
  have hne : ∀ x, nmGet st.disc x ≠ none → ¬ v = x := fun x hx h => by subst h; exact hx hv
  have hdisc : ∀ x, nmGet (bcPush v (bcSetParO po v st)).disc x =
      if v = x then some st.time else nmGet st.disc x := fun x => by rw [bcPushO_disc, nmGet_cons]
  have hpar := bcPushO_par po v st (hd.par_none hv)
  have hnumv : tjNum (bcPush v (bcSetParO po v st)).disc v = st.time := by
    apply tjNum_of_some; rw [hdisc, if_pos rfl]
  have hnum : ∀ x, nmGet st.disc x ≠ none → tjNum (bcPush v (bcSetParO po v st)).disc x = tjNum st.disc x :=
    fun x hx => tjNum_congr (by rw [hdisc, if_neg (hne x hx)])
  have hnumlt : ∀ x, nmGet st.disc x ≠ none → tjNum st.disc x < st.time := by
    intro x hx
    cases hk : nmGet st.disc x with
    | none => exact absurd hk hx
    | some k => rw [tjNum_of_some hk]; exact hd.lt x k hk
  refine ⟨?_, ?_, ?_, ?_, ?_, ?_⟩
  · intro x hx
    rw [hdisc] at hx
    by_cases h : v = x
    · subst h; exact hn
    · rw [if_neg h] at hx; exact hd.node x hx
  · intro x k hx
    rw [hdisc] at hx
    rw [bcPushO_time]
    by_cases h : v = x
    · rw [if_pos h] at hx
      simp only [Option.some.injEq] at hx
      omega
    · rw [if_neg h] at hx
      have := hd.lt x k hx
      omega
  · intro x y k hx hy
    rw [hdisc] at hx hy
    by_cases h1 : v = x
    · by_cases h2 : v = y
      · rw [← h1, ← h2]
      · rw [if_pos h1] at hx
        rw [if_neg h2] at hy
        simp only [Option.some.injEq] at hx
        have := hd.lt y k hy
        omega
    · by_cases h2 : v = y
      · rw [if_neg h1] at hx
        rw [if_pos h2] at hy
        simp only [Option.some.injEq] at hy
        have := hd.lt x k hx
        omega
      · rw [if_neg h1] at hx
        rw [if_neg h2] at hy
        exact hd.inj x y k hx hy
  · intro c p hcp
    rw [hpar] at hcp
    by_cases h : v = c
    · subst h
      rw [if_pos rfl] at hcp
      have hp : p ∈ path := by
        rw [hpo] at hcp
        cases path with
        | nil => simp at hcp
        | cons a r =>
          simp only [List.head?_cons, Option.some.injEq] at hcp
          subst hcp; exact List.mem_cons_self
      have hpd := hd.pathd p hp
      refine ⟨by rw [hdisc, if_pos rfl]; simp, by rw [hdisc, if_neg (hne p hpd)]; exact hpd,
        hadj p hcp, ?_⟩
      rw [hnumv, hnum p hpd]
      exact hnumlt p hpd
    · rw [if_neg h] at hcp
      have := hd.tree c p hcp
      refine ⟨by rw [hdisc, if_neg h]; exact this.1, by rw [hdisc, if_neg (hne p this.2.1)]; exact this.2.1,
        this.2.2.1, ?_⟩
      rw [hnum c this.1, hnum p this.2.1]
      exact this.2.2.2
  · refine ⟨by rw [hpar, if_pos rfl]; exact hpo, ?_⟩
    refine bcChain_congr path (fun z hz => ?_) hd.chain
    rw [hpar, if_neg (hne z (hd.pathd z hz))]
  · intro z hz
    rw [hdisc]
    rcases List.mem_cons.1 hz with h | h
    · rw [if_pos h.symm]; simp
    · rw [if_neg (hne z (hd.pathd z h))]; exact hd.pathd z h

theorem BcInv.push {path : List Nat} {st : BcSt}
    (h : BcInv adj nodes path st) {v : Nat} (hv : nmGet st.disc v = none) (hn : v ∈ nodes)
    {po : Option Nat} (hpo : po = path.head?) (hadj : ∀ u, po = some u → v ∈ adj u) :
    BcInv adj nodes (v :: path) (bcPush v (bcSetParO po v st)) :=
  ⟨h.d.push hv hn hpo hadj, h.b.frame h.d (bcPushO_frame h.d hv po)⟩

/-- state of the loop of `u` (`path` is the ghost path, `u` its head): `l` = `low[u]`, `ch` = `children` -/
structure BcLoop (adj : Nat → List Nat) (path : List Nat) (u : Nat) (st : BcSt) (ch l : Nat) : Prop where
  low : nmGet st.low u = some l
  cw : BcLowCW adj path st u l
  cnt : 0 < ch ↔ ∃ c, bcBlk path st c ∧ nmGet st.parent c = some u

theorem bcPushO_loop {path : List Nat} {st : BcSt}
    (hd : BcInvD adj nodes path st) {v : Nat} (hv : nmGet st.disc v = none) (po : Option Nat) :
    BcLoop adj (v :: path) v (bcPush v (bcSetParO po v st)) 0 st.time := by
  have hpar := bcPushO_par po v st (hd.par_none hv)
  have hno : ∀ c, bcBlk (v :: path) (bcPush v (bcSetParO po v st)) c →
      nmGet (bcPush v (bcSetParO po v st)).parent c = some v → False := by
    intro c hc hp
    have hcv : ¬ v = c := fun h => hc.2 (by simp [h])
    rw [hpar, if_neg hcv] at hp
    exact (hd.tree c v hp).2.1 hv
  have hnumv : tjNum (bcPush v (bcSetParO po v st)).disc v = st.time := by
    apply tjNum_of_some
    rw [bcPushO_disc, nmGet_cons_self]
  refine ⟨by rw [bcPushO_low, nmGet_cons_self],
    ⟨by rw [hnumv]; exact Nat.le_refl _, fun c hc hp => (hno c hc hp).elim, .inl hnumv.symm⟩, ?_⟩
  · constructor
    · intro h; omega
    · rintro ⟨c, hc, hp⟩; exact (hno c hc hp).elim

structure BcVisitPost (adj : Nat → List Nat) (nodes path : List Nat) (v : Nat) (po : Option Nat)
    (st st' : BcSt) : Prop where
  inv : BcInv adj nodes (v :: path) st'
  ext : NmExt st.disc st'.disc
  dv : nmGet st'.disc v ≠ none
  pv : nmGet st'.parent v = po
  parf : ∀ x, nmGet st.disc x ≠ none → nmGet st'.parent x = nmGet st.parent x
  lowf : ∀ x, nmGet st.disc x ≠ none → nmGet st'.low x = nmGet st.low x
  newpar : ∀ c, nmGet st.disc c = none → c ≠ v → ∀ p, nmGet st'.parent c = some p → nmGet st.disc p = none
  wok : ∀ w, w ∈ adj v → BcWOk st' v (tjNum st'.low v) w
  cw : BcLowCW adj (v :: path) st' v (tjNum st'.low v)

def BcVisitSpec (adj : Nat → List Nat) (nodes : List Nat) (fuel : Nat) (visit : Nat → BcSt → BcSt) : Prop :=
  ∀ path v st po, BcInv adj nodes path st → nmGet st.disc v = none → v ∈ nodes → po = path.head? →
    (∀ u, po = some u → v ∈ adj u) → nmUnset nodes st.disc < fuel →
    BcVisitPost adj nodes path v po st (visit v (bcSetParO po v st))

structure BcLoopPost (adj : Nat → List Nat) (nodes path : List Nat) (u : Nat) (ws : List Nat)
    (st st' : BcSt) (l : Nat) : Prop where
  inv : BcInv adj nodes path st'
  loop : ∃ ch' l', BcLoop adj path u st' ch' l' ∧ l' ≤ l ∧ ∀ w, w ∈ ws → BcWOk st' u l' w
  ext : NmExt st.disc st'.disc
  parf : ∀ x, nmGet st.disc x ≠ none → nmGet st'.parent x = nmGet st.parent x
  lowf : ∀ x, nmGet st.disc x ≠ none → x ≠ u → nmGet st'.low x = nmGet st.low x
  newpar : ∀ c, nmGet st.disc c = none → ∀ p, nmGet st'.parent c = some p → p = u ∨ nmGet st.disc p = none

/-- the caller's loop state survives the recursive call -/
theorem BcLoop.visit {rest : List Nat} {u v : Nat} {st sta : BcSt} {ch l : Nat}
    (hd : BcInvD adj nodes (u :: rest) st) (hloop : BcLoop adj (u :: rest) u st ch l)
    (hv : nmGet st.disc v = none) (hp : BcVisitPost adj nodes (u :: rest) v (some u) st sta) :
    BcLoop adj (v :: u :: rest) u sta ch l := by
  have hud : nmGet st.disc u ≠ none := hd.pathd u List.mem_cons_self
  have hold : ∀ c, bcBlk (v :: u :: rest) sta c → nmGet sta.parent c = some u →
      bcBlk (u :: rest) st c ∧ nmGet st.parent c = some u ∧ nmGet sta.low c = nmGet st.low c := by
    intro c hc hpc
    have hcv : c ≠ v := fun h => hc.2 (by simp [h])
    have hcp : c ∉ u :: rest := fun h => hc.2 (List.mem_cons_of_mem _ h)
    by_cases hcd : nmGet st.disc c = none
    · exact absurd (hp.newpar c hcd hcv u hpc) hud
    · exact ⟨⟨hcd, hcp⟩, by rw [← hp.parf c hcd]; exact hpc, hp.lowf c hcd⟩
  have hnew : ∀ c, bcBlk (u :: rest) st c →
      bcBlk (v :: u :: rest) sta c ∧ nmGet sta.parent c = nmGet st.parent c ∧
        nmGet sta.low c = nmGet st.low c := by
    intro c hc
    have hcv : c ≠ v := fun h => by subst h; exact hc.1 hv
    refine ⟨⟨hp.ext.vis hc.1, fun h => ?_⟩, hp.parf c hc.1, hp.lowf c hc.1⟩
    rcases List.mem_cons.1 h with h | h
    · exact hcv h
    · exact hc.2 h
  refine ⟨by rw [hp.lowf u hud]; exact hloop.low,
    ⟨by rw [tjNum_congr (hp.ext.get hud)]; exact hloop.cw.le, ?_, ?_⟩, ?_⟩
  · intro c hc hpc
    have := hold c hc hpc
    rw [tjNum_congr this.2.2]
    exact hloop.cw.lowc c this.1 this.2.1
  · rcases hloop.cw.loww with h1 | ⟨w, hw, hwd, hne, hl⟩ | ⟨c, hc, hpc, hl⟩
    · left; rw [tjNum_congr (hp.ext.get hud)]; exact h1
    · right; left
      exact ⟨w, hw, hp.ext.vis hwd, by rw [hp.parf u hud]; exact hne,
        by rw [tjNum_congr (hp.ext.get hwd)]; exact hl⟩
    · right; right
      have := hnew c hc
      exact ⟨c, this.1, by rw [this.2.1]; exact hpc, by rw [tjNum_congr this.2.2]; exact hl⟩
  · rw [hloop.cnt]
    constructor
    · rintro ⟨c, hc, hpc⟩
      have := hnew c hc
      exact ⟨c, this.1, by rw [this.2.1]; exact hpc⟩
    · rintro ⟨c, hc, hpc⟩
      have := hold c hc hpc
      exact ⟨c, this.1, this.2.1⟩

theorem bcBlk_retire {path : List Nat} {v : Nat} {sta stb : BcSt} (hdisc : stb.disc = sta.disc)
    (hvd : nmGet sta.disc v ≠ none) (hvp : v ∉ path) (x : Nat) :
    bcBlk path stb x ↔ (bcBlk (v :: path) sta x ∨ x = v) := by
  unfold bcBlk
  rw [hdisc]
  constructor
  · rintro ⟨h1, h2⟩
    by_cases h : x = v
    · exact .inr h
    · refine .inl ⟨h1, fun hm => ?_⟩
      rcases List.mem_cons.1 hm with h3 | h3
      · exact h h3
      · exact h2 h3
  · rintro (⟨h1, h2⟩ | h)
    · exact ⟨h1, fun hm => h2 (List.mem_cons_of_mem _ hm)⟩
    · subst h; exact ⟨hvd, hvp⟩

theorem BcLowCW.retire {adj : Nat → List Nat} {path : List Nat} {v y l : Nat} {sta stb : BcSt}
    (hdisc : stb.disc = sta.disc) (hpar : stb.parent = sta.parent)
    (hlow : ∀ x, x ∉ path → nmGet stb.low x = nmGet sta.low x)
    (hvd : nmGet sta.disc v ≠ none) (hvp : v ∉ path)
    (hpv : ∀ p, nmGet sta.parent v = some p → p ∈ path) (hy : y ∉ path)
    (h : BcLowCW adj (v :: path) sta y l) : BcLowCW adj path stb y l := by
  refine ⟨by rw [hdisc]; exact h.le, ?_, ?_⟩
  · intro c hc hpc
    rw [hpar] at hpc
    rw [tjNum_congr (hlow c hc.2)]
    rcases (bcBlk_retire hdisc hvd hvp c).1 hc with h1 | h1
    · exact h.lowc c h1 hpc
    · subst h1
      exact absurd (hpv y hpc) hy
  · rw [hdisc, hpar]
    rcases h.loww with h1 | h1 | ⟨c, hc, hpc, hl⟩
    · exact .inl h1
    · exact .inr (.inl h1)
    · right; right
      have hc' := (bcBlk_retire hdisc hvd hvp c).2 (.inl hc)
      exact ⟨c, hc', hpc, by rw [tjNum_congr (hlow c hc'.2)]; exact hl⟩

/-- the part of the invariant that does not mention the two answer lists -/
theorem BcInv.retireS {path : List Nat} {v : Nat} {sta stb : BcSt}
    (h : BcInv adj nodes (v :: path) sta)
    (hdisc : stb.disc = sta.disc) (hpar : stb.parent = sta.parent) (htime : stb.time = sta.time)
    (hlow : ∀ x, x ∉ path → nmGet stb.low x = nmGet sta.low x)
    (hvd : nmGet sta.disc v ≠ none) (hvp : v ∉ path)
    (hpv : ∀ p, nmGet sta.parent v = some p → p ∈ path)
    (wok : ∀ w, w ∈ adj v → BcWOk sta v (tjNum sta.low v) w)
    (cw : BcLowCW adj (v :: path) sta v (tjNum sta.low v)) :
    BcInvD adj nodes path stb ∧
      (∀ y, bcBlk path stb y → ∀ w, w ∈ adj y → BcWOk stb y (tjNum stb.low y) w) ∧
      (∀ y, bcBlk path stb y → BcLowCW adj path stb y (tjNum stb.low y)) := by
  refine ⟨?_, ?_, ?_⟩
  · refine ⟨?_, ?_, ?_, ?_, ?_, ?_⟩
    · rw [hdisc]; exact h.d.node
    · rw [hdisc, htime]; exact h.d.lt
    · rw [hdisc]; exact h.d.inj
    · rw [hdisc, hpar]; exact h.d.tree
    · rw [hpar]; exact h.d.chain.2
    · rw [hdisc]; exact fun z hz => h.d.pathd z (List.mem_cons_of_mem _ hz)
  · intro y hy w hw
    rw [tjNum_congr (hlow y hy.2)]
    unfold BcWOk
    rw [hdisc, hpar]
    rcases (bcBlk_retire hdisc hvd hvp y).1 hy with h1 | h1
    · exact h.b.badj y h1 w hw
    · subst h1; exact wok w hw
  · intro y hy
    rw [tjNum_congr (hlow y hy.2)]
    rcases (bcBlk_retire hdisc hvd hvp y).1 hy with h1 | h1
    · exact (h.b.blow y h1).retire hdisc hpar hlow hvd hvp hpv hy.2
    · subst h1; exact cw.retire hdisc hpar hlow hvd hvp hpv hy.2

/-- a root is finished: nothing is pushed -/
theorem BcInv.retireRoot {v : Nat} {sta : BcSt}
    (h : BcInv adj nodes [v] sta) (hpv : nmGet sta.parent v = none) (hvd : nmGet sta.disc v ≠ none)
    (wok : ∀ w, w ∈ adj v → BcWOk sta v (tjNum sta.low v) w)
    (cw : BcLowCW adj [v] sta v (tjNum sta.low v)) : BcInv adj nodes [] sta := by
  have hS := h.retireS (stb := sta) rfl rfl rfl (fun _ _ => rfl) hvd (by simp)
    (fun p hp => by rw [hpv] at hp; exact absurd hp (by simp)) wok cw
  have hblk := bcBlk_retire (path := []) (v := v) (sta := sta) (stb := sta) rfl hvd (by simp)
  have hold : ∀ c x, bcBlk [] sta c → nmGet sta.parent c = some x → bcBlk [v] sta c := by
    intro c x hc hp
    rcases (hblk c).1 hc with h1 | h1
    · exact h1
    · subst h1; rw [hpv] at hp; exact absurd hp (by simp)
  have h1 : ∀ c, bcBlk [v] sta c → bcBlk [] sta c ∧ tjNum sta.low c = tjNum sta.low c :=
    fun c hc => ⟨(hblk c).2 (.inl hc), rfl⟩
  refine ⟨hS.1, hS.2.1, hS.2.2, ?_, ?_, h.b.brnd⟩
  · intro x
    rw [h.b.aps x]
    refine ⟨BcApCond.mono h1, ?_⟩
    rintro (⟨hr, c1, c2, hne, b1, b2, p1, p2⟩ | ⟨p, c, hp, bc, pc, hle⟩)
    · exact .inl ⟨hr, c1, c2, hne, hold c1 x b1 p1, hold c2 x b2 p2, p1, p2⟩
    · exact .inr ⟨p, c, hp, hold c x bc pc, pc, hle⟩
  · intro e
    rw [h.b.brs e]
    refine ⟨BcBrCond.mono h1, ?_⟩
    rintro ⟨u', v', bv, pv, hlt, he⟩
    exact ⟨u', v', hold v' u' bv pv, pv, hlt, he⟩

theorem minMax_snd_mem {u v u' v' : Nat} (h : (min u v, max u v) = (min u' v', max u' v')) :
    v' = v ∨ v' = u := by
  rw [Prod.mk.injEq] at h
  rcases Nat.le_total u v with huv | huv <;> rcases Nat.le_total u' v' with huv' | huv'
  · rw [Nat.min_eq_left huv, Nat.max_eq_right huv, Nat.max_eq_right huv'] at h; exact .inl h.2.symm
  · rw [Nat.min_eq_left huv, Nat.min_eq_right huv'] at h; exact .inr h.1.symm
  · rw [Nat.max_eq_left huv, Nat.max_eq_right huv'] at h; exact .inr h.2.symm
  · rw [Nat.min_eq_right huv, Nat.min_eq_right huv'] at h; exact .inl h.1.symm

theorem bcRetire_aps_mem (u v ch : Nat) (sta : BcSt) (x : Nat) :
    x ∈ (bcRetire u v ch sta).aps ↔ (x ∈ sta.aps ∨ (x = u ∧
      ((nmGet sta.parent u = none ∧ 0 < ch) ∨
       (nmGet sta.parent u ≠ none ∧ tjNum sta.disc u ≤ tjNum sta.low v)))) := by
  show x ∈ (if (if (nmGet sta.parent u).isNone then decide (ch + 1 > 1)
      else decide (tjNum sta.low v ≥ tjNum sta.disc u)) = true then u :: sta.aps else sta.aps) ↔ _
  cases hp : nmGet sta.parent u with
  | none =>
    simp only [Option.isNone_none, if_true, decide_eq_true_eq]
    by_cases hc : 0 < ch
    · rw [if_pos (by omega)]
      simp only [List.mem_cons, hc, and_true, ne_eq, not_true_eq_false, false_and, or_false]
      exact Or.comm
    · rw [if_neg (by omega)]
      simp only [hc, and_false, ne_eq, not_true_eq_false, false_and, or_false]
  | some p =>
    simp only [Option.isNone_some, Bool.false_eq_true, if_false, decide_eq_true_eq, ge_iff_le]
    by_cases hc : tjNum sta.disc u ≤ tjNum sta.low v
    · rw [if_pos hc]
      simp only [List.mem_cons, hc, and_true, ne_eq, reduceCtorEq, not_false_eq_true, false_and, false_or]
      exact Or.comm
    · rw [if_neg hc]
      simp only [hc, and_false, reduceCtorEq, false_and, or_false]

theorem bcRetire_brs (u v ch : Nat) (sta : BcSt) :
    (bcRetire u v ch sta).bridges =
      if tjNum sta.disc u < tjNum sta.low v then (min u v, max u v) :: sta.bridges else sta.bridges := rfl

theorem bcRetire_low (u v ch : Nat) (sta : BcSt) :
    (bcRetire u v ch sta).low = (u, min (tjNum sta.low u) (tjNum sta.low v)) :: sta.low := rfl

/-- the child `v` of `u` is finished: `low[u]`, the articulation test and the bridge test -/
theorem BcInv.retireChild {rest : List Nat} {u v ch l : Nat} {sta : BcSt}
    (h : BcInv adj nodes (v :: u :: rest) sta) (hloop : BcLoop adj (v :: u :: rest) u sta ch l)
    (hpv : nmGet sta.parent v = some u) (hvd : nmGet sta.disc v ≠ none) (hvp : v ∉ u :: rest)
    (wok : ∀ w, w ∈ adj v → BcWOk sta v (tjNum sta.low v) w)
    (cw : BcLowCW adj (v :: u :: rest) sta v (tjNum sta.low v)) :
    BcInv adj nodes (u :: rest) (bcRetire u v ch sta) ∧
      BcLoop adj (u :: rest) u (bcRetire u v ch sta) (ch + 1) (min l (tjNum sta.low v)) := by
  have hvu : v ≠ u := fun he => hvp (by simp [he])
  have hlu : tjNum sta.low u = l := tjNum_of_some hloop.low
  have hlowb : ∀ x, x ≠ u → nmGet (bcRetire u v ch sta).low x = nmGet sta.low x := by
    intro x hx
    rw [bcRetire_low, nmGet_cons_ne hx]
  have hlowp : ∀ x, x ∉ u :: rest → nmGet (bcRetire u v ch sta).low x = nmGet sta.low x :=
    fun x hx => hlowb x (fun he => hx (by simp [he]))
  have hS := h.retireS (stb := bcRetire u v ch sta) rfl rfl rfl hlowp hvd hvp
    (fun p hp => by rw [hpv] at hp; simp only [Option.some.injEq] at hp; subst hp; exact List.mem_cons_self)
    wok cw
  have hblk := bcBlk_retire (path := u :: rest) (v := v) (sta := sta) (stb := bcRetire u v ch sta) rfl hvd hvp
  have hLb : ∀ c, bcBlk (u :: rest) (bcRetire u v ch sta) c →
      tjNum (bcRetire u v ch sta).low c = tjNum sta.low c := fun c hc => tjNum_congr (hlowp c hc.2)
  have hvnew : bcBlk (u :: rest) (bcRetire u v ch sta) v := (hblk v).2 (.inr rfl)
  have hLu : tjNum (bcRetire u v ch sta).low u = min l (tjNum sta.low v) := by
    apply tjNum_of_some
    rw [bcRetire_low, nmGet_cons, if_pos rfl, hlu]
  -- old finished nodes stay finished
  have h1 : ∀ c, bcBlk (v :: u :: rest) sta c → bcBlk (u :: rest) (bcRetire u v ch sta) c ∧
      tjNum (bcRetire u v ch sta).low c = tjNum sta.low c :=
    fun c hc => ⟨(hblk c).2 (.inl hc), hLb c ((hblk c).2 (.inl hc))⟩
  have hsplit : ∀ c x, bcBlk (u :: rest) (bcRetire u v ch sta) c → nmGet sta.parent c = some x →
      bcBlk (v :: u :: rest) sta c ∨ (c = v ∧ x = u) := by
    intro c x hc hp
    rcases (hblk c).1 hc with h3 | h3
    · exact .inl h3
    · subst h3
      rw [hpv] at hp
      simp only [Option.some.injEq] at hp
      exact .inr ⟨rfl, hp.symm⟩
  refine ⟨⟨hS.1, hS.2.1, hS.2.2, ?_, ?_, ?_⟩, ?_⟩
  · -- articulation points
    intro x
    rw [bcRetire_aps_mem, h.b.aps x]
    show _ ↔ BcApCond (nmGet sta.parent) (tjNum sta.disc) (tjNum (bcRetire u v ch sta).low)
      (bcBlk (u :: rest) (bcRetire u v ch sta)) x
    constructor
    · rintro (hx | ⟨rfl, (⟨hr, hc⟩ | ⟨hr, hle⟩)⟩)
      · exact BcApCond.mono h1 hx
      · rcases hloop.cnt.1 hc with ⟨c, hcb, hcp⟩
        have hcv : c ≠ v := fun he => hcb.2 (by simp [he])
        exact .inl ⟨hr, c, v, hcv, (hblk c).2 (.inl hcb), hvnew, hcp, hpv⟩
      · cases hpx : nmGet sta.parent x with
        | none => exact absurd hpx hr
        | some p => exact .inr ⟨p, v, hpx, hvnew, hpv, by rw [hLb v hvnew]; exact hle⟩
    · rintro (⟨hr, c1, c2, hne, b1, b2, p1, p2⟩ | ⟨p, c, hp, bc, pc, hle⟩)
      · rcases hsplit c1 x b1 p1 with o1 | ⟨e1, ex⟩
        · rcases hsplit c2 x b2 p2 with o2 | ⟨e2, ex⟩
          · exact .inl (.inl ⟨hr, c1, c2, hne, o1, o2, p1, p2⟩)
          · subst ex
            exact .inr ⟨rfl, .inl ⟨hr, hloop.cnt.2 ⟨c1, o1, p1⟩⟩⟩
        · subst ex
          rcases hsplit c2 x b2 p2 with o2 | ⟨e2, _⟩
          · exact .inr ⟨rfl, .inl ⟨hr, hloop.cnt.2 ⟨c2, o2, p2⟩⟩⟩
          · exact absurd (e1.trans e2.symm) hne
      · rcases hsplit c x bc pc with o | ⟨e, ex⟩
        · rw [hLb c bc] at hle
          exact .inl (.inr ⟨p, c, hp, o, pc, hle⟩)
        · subst ex; subst e
          rw [hLb c bc] at hle
          exact .inr ⟨rfl, .inr ⟨by rw [hp]; simp, hle⟩⟩
  · -- bridges
    intro e
    rw [bcRetire_brs]
    show _ ↔ BcBrCond (nmGet sta.parent) (tjNum sta.disc) (tjNum (bcRetire u v ch sta).low)
      (bcBlk (u :: rest) (bcRetire u v ch sta)) e
    constructor
    · intro he
      by_cases hlt : tjNum sta.disc u < tjNum sta.low v
      · rw [if_pos hlt] at he
        rcases List.mem_cons.1 he with h3 | h3
        · exact ⟨u, v, hvnew, hpv, by rw [hLb v hvnew]; exact hlt, h3⟩
        · exact BcBrCond.mono h1 ((h.b.brs e).1 h3)
      · rw [if_neg hlt] at he
        exact BcBrCond.mono h1 ((h.b.brs e).1 he)
    · rintro ⟨u', v', bv, pv, hlt, he⟩
      rw [hLb v' bv] at hlt
      rcases hsplit v' u' bv pv with o | ⟨e1, e2⟩
      · have hm : e ∈ sta.bridges := (h.b.brs e).2 ⟨u', v', o, pv, hlt, he⟩
        by_cases hc : tjNum sta.disc u < tjNum sta.low v
        · rw [if_pos hc]; exact List.mem_cons_of_mem _ hm
        · rw [if_neg hc]; exact hm
      · subst e1; subst e2
        rw [if_pos hlt, he]
        exact List.mem_cons_self
  · -- no repetition
    rw [bcRetire_brs]
    by_cases hc : tjNum sta.disc u < tjNum sta.low v
    · rw [if_pos hc, List.nodup_cons]
      refine ⟨fun hm => ?_, h.b.brnd⟩
      rcases (h.b.brs _).1 hm with ⟨u', v', bv, pv, _, he⟩
      rcases minMax_snd_mem he with h3 | h3
      · exact bv.2 (by simp [h3])
      · exact bv.2 (by simp [h3])
    · rw [if_neg hc]; exact h.b.brnd
  · -- the loop state of `u`
    refine ⟨?_, ⟨?_, ?_, ?_⟩, ?_⟩
    · rw [bcRetire_low, nmGet_cons, if_pos rfl, hlu]
    · show min l (tjNum sta.low v) ≤ tjNum sta.disc u
      have := hloop.cw.le
      omega
    · intro c hc hp
      rw [hLb c hc]
      rcases hsplit c u hc hp with o | ⟨e, _⟩
      · have := hloop.cw.lowc c o hp
        omega
      · subst e; omega
    · show _ ∨ (∃ w, w ∈ adj u ∧ nmGet sta.disc w ≠ none ∧ nmGet sta.parent u ≠ some w ∧
          min l (tjNum sta.low v) = tjNum sta.disc w) ∨
        (∃ c, bcBlk (u :: rest) (bcRetire u v ch sta) c ∧ nmGet sta.parent c = some u ∧
          min l (tjNum sta.low v) = tjNum (bcRetire u v ch sta).low c)
      by_cases hm : l ≤ tjNum sta.low v
      · rw [Nat.min_eq_left hm]
        rcases hloop.cw.loww with h3 | h3 | ⟨c, hc, hp, hl⟩
        · exact .inl h3
        · exact .inr (.inl h3)
        · have hc' := (hblk c).2 (.inl hc)
          exact .inr (.inr ⟨c, hc', hp, by rw [hLb c hc']; exact hl⟩)
      · rw [Nat.min_eq_right (by omega)]
        exact .inr (.inr ⟨v, hvnew, hpv, (hLb v hvnew).symm⟩)
    · constructor
      · intro _; exact ⟨v, hvnew, hpv⟩
      · intro _; omega

/-- an already discovered neighbour `w` that is not the parent of `u` -/
theorem BcLoop.back {path : List Nat} {u w k ch l : Nat} {st : BcSt}
    (h : BcInv adj nodes path st) (hup : u ∈ path) (hloop : BcLoop adj path u st ch l)
    (hwa : w ∈ adj u) (hw : nmGet st.disc w = some k) (hne : nmGet st.parent u ≠ some w) :
    BcInv adj nodes path (bcBack u k st) ∧ BcLoop adj path u (bcBack u k st) ch (min l k) ∧
      (bcBack u k st).disc = st.disc ∧ (bcBack u k st).parent = st.parent ∧
      (∀ x, x ≠ u → nmGet (bcBack u k st).low x = nmGet st.low x) := by
  have hlu : tjNum st.low u = l := tjNum_of_some hloop.low
  have hud := h.d.pathd u hup
  unfold bcBack
  rw [hlu]
  by_cases hk : k < l
  · rw [if_pos hk, Nat.min_eq_right (by omega)]
    have hlow : ∀ x, x ≠ u → nmGet ((u, k) :: st.low) x = nmGet st.low x := fun x hx => by
      rw [nmGet_cons_ne hx]
    have F : BcFrame path st path { st with low := (u, k) :: st.low } :=
      ⟨fun _ _ => rfl, fun _ _ => rfl, fun x hx => hlow x (fun he => hx.2 (by rw [he]; exact hup)),
        fun _ => Iff.rfl, rfl, rfl⟩
    have hcw := hloop.cw.frame F hud
    refine ⟨⟨⟨h.d.node, h.d.lt, h.d.inj, h.d.tree, h.d.chain, h.d.pathd⟩, h.b.frame h.d F⟩, ?_, rfl, rfl, hlow⟩
    refine ⟨?_, ⟨?_, ?_, ?_⟩, hloop.cnt⟩
    · show nmGet ((u, k) :: st.low) u = some k
      rw [nmGet_cons_self]
    · have := hcw.le; omega
    · intro c hc hp
      have := hcw.lowc c hc hp
      omega
    · exact .inr (.inl ⟨w, hwa, by rw [hw]; simp, hne, (tjNum_of_some hw).symm⟩)
  · rw [if_neg hk, Nat.min_eq_left (by omega)]
    exact ⟨h, hloop, rfl, rfl, fun _ _ => rfl⟩

theorem BcLoopPost.cons {path : List Nat} {u : Nat} {ws : List Nat}
    {st stb st' : BcSt} {l lb w : Nat}
    (hle : lb ≤ l) (hext : NmExt st.disc stb.disc)
    (hparf : ∀ x, nmGet st.disc x ≠ none → nmGet stb.parent x = nmGet st.parent x)
    (hlowf : ∀ x, nmGet st.disc x ≠ none → x ≠ u → nmGet stb.low x = nmGet st.low x)
    (hnew : ∀ c, nmGet st.disc c = none → ∀ p, nmGet stb.parent c = some p → p = u ∨ nmGet st.disc p = none)
    (hdb : BcInvD adj nodes path stb) (hud : nmGet stb.disc u ≠ none)
    (hw : BcWOk stb u lb w) (hp : BcLoopPost adj nodes path u ws stb st' lb) :
    BcLoopPost adj nodes path u (w :: ws) st st' l := by
  rcases hp.loop with ⟨ch', l', hl', hle', hws⟩
  refine ⟨hp.inv, ⟨ch', l', hl', by omega, ?_⟩, hext.trans hp.ext, ?_, ?_, ?_⟩
  · intro x hx
    rcases List.mem_cons.1 hx with h | h
    · subst h
      exact hw.mono hdb (fun x hx => hp.ext.get hx) hp.parf hud hle'
    · exact hws x h
  · intro x hx
    rw [hp.parf x (hext.vis hx), hparf x hx]
  · intro x hx hxu
    rw [hp.lowf x (hext.vis hx) hxu, hlowf x hx hxu]
  · intro c hc p hcp
    by_cases hcb : nmGet stb.disc c = none
    · rcases hp.newpar c hcb p hcp with h | h
      · exact .inl h
      · right
        cases hk : nmGet st.disc p with
        | none => rfl
        | some k => rw [hext p k hk] at h; exact absurd h (by simp)
    · rw [hp.parf c hcb] at hcp
      exact hnew c hc p hcp

theorem bcNbrsF_spec {fuel : Nat} {visit : Nat → BcSt → BcSt}
    (ok : BcAdjOk adj nodes) (hvisit : BcVisitSpec adj nodes fuel visit) (u : Nat) (rest : List Nat) :
    ∀ (ws : List Nat) (st : BcSt) (ch l : Nat), (∀ w, w ∈ ws → w ∈ adj u) →
      BcInv adj nodes (u :: rest) st → BcLoop adj (u :: rest) u st ch l → nmUnset nodes st.disc < fuel →
      BcLoopPost adj nodes (u :: rest) u ws st (bcNbrsF visit u ws ch st) l := by
  intro ws
  induction ws with
  | nil =>
    intro st ch l _ hinv hl _
    rw [bcNbrsF]
    exact ⟨hinv, ⟨ch, l, hl, Nat.le_refl _, fun w hw => by simp at hw⟩, NmExt.refl _, fun _ _ => rfl,
      fun _ _ _ => rfl, fun c hc p hp => absurd hc (hinv.d.tree c p hp).1⟩
  | cons w ws ih =>
    intro st ch l hws hinv hl hfuel
    have hwa : w ∈ adj u := hws w List.mem_cons_self
    have hws' : ∀ x, x ∈ ws → x ∈ adj u := fun x hx => hws x (List.mem_cons_of_mem _ hx)
    have hup : u ∈ u :: rest := List.mem_cons_self
    have hud : nmGet st.disc u ≠ none := hinv.d.pathd u hup
    have hun : u ∈ nodes := hinv.d.node u hud
    have hwn : w ∈ nodes := ok.adjn u w hwa
    rw [bcNbrsF]
    cases hw : nmGet st.disc w with
    | none =>
      simp only []
      have hp : BcVisitPost adj nodes (u :: rest) w (some u) st (visit w (bcSetPar u w st)) :=
        hvisit (u :: rest) w st (some u) hinv hw hwn rfl
          (fun u' h => by simp only [Option.some.injEq] at h; subst h; exact hwa) hfuel
      generalize visit w (bcSetPar u w st) = sta at hp ⊢
      have hwp : w ∉ u :: rest := fun hm => hinv.d.pathd w hm hw
      have hloopa := hl.visit hinv.d hw hp
      have hr := hp.inv.retireChild hloopa hp.pv hp.dv hwp hp.wok hp.cw
      have hfuel' : nmUnset nodes (bcRetire u w ch sta).disc < fuel :=
        Nat.lt_of_le_of_lt (nmUnset_mono nodes (fun x hx => hp.ext.vis hx)) hfuel
      have hlw : tjNum sta.low w ≤ tjNum sta.disc w := hp.cw.le
      refine BcLoopPost.cons (stb := bcRetire u w ch sta) (lb := min l (tjNum sta.low w))
        (Nat.min_le_left _ _) hp.ext hp.parf ?_ ?_ hr.1.d (hp.ext.vis hud) ?_
        (ih _ _ _ hws' hr.1 hr.2 hfuel')
      · intro x hx hxu
        rw [bcRetire_low, nmGet_cons_ne hxu]
        exact hp.lowf x hx
      · intro c hc p hcp
        by_cases hcw : c = w
        · subst hcw
          have : nmGet sta.parent c = some p := hcp
          rw [hp.pv] at this
          simp only [Option.some.injEq] at this
          exact .inl this.symm
        · exact .inr (hp.newpar c hc hcw p hcp)
      · refine ⟨hp.dv, .inl (.step (.refl u) hp.pv), fun _ => ?_⟩
        show min l (tjNum sta.low w) ≤ tjNum sta.disc w
        omega
    | some k =>
      simp only []
      have hwd : nmGet st.disc w ≠ none := by rw [hw]; simp
      have hcmp : BcAnc (nmGet st.parent) u w ∨ BcAnc (nmGet st.parent) w u := by
        by_cases hm : w ∈ u :: rest
        · exact .inr (bcChain_anc rest u hinv.d.chain w hm)
        · have := (hinv.b.badj w ⟨hwd, hm⟩ u (ok.sym u w hun hwa)).2.1
          exact this.symm
      by_cases hpar : (nmGet st.parent u != some w) = true
      · rw [if_pos hpar]
        have hne : nmGet st.parent u ≠ some w := by simpa using hpar
        have hb := hl.back hinv hup hwa hw hne
        have hfuel' : nmUnset nodes (bcBack u k st).disc < fuel := by rw [hb.2.2.1]; exact hfuel
        refine BcLoopPost.cons (stb := bcBack u k st) (lb := min l k) (Nat.min_le_left _ _)
          (by rw [hb.2.2.1]; exact NmExt.refl _) (fun x _ => by rw [hb.2.2.2.1])
          (fun x _ hxu => hb.2.2.2.2 x hxu) ?_ hb.1.d (by rw [hb.2.2.1]; exact hud) ?_
          (ih _ _ _ hws' hb.1 hb.2.1 hfuel')
        · intro c hc p hcp
          rw [hb.2.2.2.1] at hcp
          exact absurd hc (hinv.d.tree c p hcp).1
        · unfold BcWOk
          rw [hb.2.2.1, hb.2.2.2.1]
          refine ⟨hwd, hcmp, fun _ => ?_⟩
          rw [tjNum_of_some hw]
          exact Nat.min_le_right _ _
      · rw [if_neg hpar]
        have hpe : nmGet st.parent u = some w := by simpa using hpar
        refine BcLoopPost.cons (stb := st) (lb := l) (Nat.le_refl _) (NmExt.refl _) (fun _ _ => rfl)
          (fun _ _ _ => rfl) (fun c hc p hcp => absurd hc (hinv.d.tree c p hcp).1) hinv.d hud ?_
          (ih _ _ _ hws' hinv hl hfuel)
        exact ⟨hwd, hcmp, fun hne => absurd hpe hne⟩

theorem bcVisitF_spec (ok : BcAdjOk adj nodes) :
    ∀ fuel, BcVisitSpec adj nodes fuel (bcVisitF adj fuel) := by
  intro fuel
  induction fuel with
  | zero => intro _ _ _ _ _ _ _ _ _ hf; exact absurd hf (Nat.not_lt_zero _)
  | succ fuel ih =>
    intro path v st po hinv hv hn hpo hadj hf
    rw [bcVisitF]
    have hne : ∀ x, nmGet st.disc x ≠ none → ¬ v = x := fun x hx h => by subst h; exact hx hv
    have hinv1 := hinv.push hv hn hpo hadj
    have hloop1 := bcPushO_loop hinv.d hv po
    have F := bcPushO_frame hinv.d hv po
    have hdv1 : nmGet (bcPush v (bcSetParO po v st)).disc v = some st.time := by
      rw [bcPushO_disc, nmGet_cons_self]
    have hext1 : NmExt st.disc (bcPush v (bcSetParO po v st)).disc := by
      rw [bcPushO_disc]; exact NmExt.cons hv _
    have hf1 : nmUnset nodes (bcPush v (bcSetParO po v st)).disc < fuel := by
      have := nmUnset_lt nodes (fun x hx => hext1.vis hx) hn hv (by rw [hdv1]; simp)
      omega
    have hpost := bcNbrsF_spec ok ih v path (adj v) (bcPush v (bcSetParO po v st)) 0 st.time
      (fun w hw => hw) hinv1 hloop1 hf1
    generalize bcNbrsF (bcVisitF adj fuel) v (adj v) 0 (bcPush v (bcSetParO po v st)) = st2 at hpost ⊢
    rcases hpost.loop with ⟨ch', l', hl', _, hws⟩
    have hlv : tjNum st2.low v = l' := tjNum_of_some hl'.low
    have hvd1 : nmGet (bcPush v (bcSetParO po v st)).disc v ≠ none := by rw [hdv1]; simp
    refine ⟨hpost.inv, hext1.trans hpost.ext, hpost.ext.vis hvd1, ?_, ?_, ?_, ?_, ?_, ?_⟩
    · rw [hpost.parf v hvd1, bcPushO_par po v st (hinv.d.par_none hv), if_pos rfl]
    · intro x hx
      rw [hpost.parf x (hext1.vis hx), F.par x hx]
    · intro x hx
      rw [hpost.lowf x (hext1.vis hx) (fun he => hne x hx he.symm), bcPushO_low, nmGet_cons,
        if_neg (hne x hx)]
    · intro c hc hcv p hcp
      have hc1 : nmGet (bcPush v (bcSetParO po v st)).disc c = none := by
        rw [bcPushO_disc, nmGet_cons_ne hcv]; exact hc
      rcases hpost.newpar c hc1 p hcp with h | h
      · subst h; exact hv
      · cases hk : nmGet st.disc p with
        | none => rfl
        | some k => rw [hext1 p k hk] at h; exact absurd h (by simp)
    · rw [hlv]; exact hws
    · rw [hlv]; exact hl'.cw

theorem bcAllF_spec {fuel : Nat} {visit : Nat → BcSt → BcSt}
    (hvisit : BcVisitSpec adj nodes fuel visit) :
    ∀ (ns : List Nat) (st : BcSt), (∀ n, n ∈ ns → n ∈ nodes) → BcInv adj nodes [] st →
      nmUnset nodes st.disc < fuel →
      BcInv adj nodes [] (bcAllF visit ns st) ∧ NmExt st.disc (bcAllF visit ns st).disc ∧
        ∀ n, n ∈ ns → nmGet (bcAllF visit ns st).disc n ≠ none := by
  intro ns
  induction ns with
  | nil =>
    intro st _ hinv _
    rw [bcAllF]
    exact ⟨hinv, NmExt.refl _, fun n hn => by simp at hn⟩
  | cons a ns ih =>
    intro st hns hinv hf
    have hns' : ∀ n, n ∈ ns → n ∈ nodes := fun n hn => hns n (List.mem_cons_of_mem _ hn)
    rw [bcAllF]
    cases ha : nmGet st.disc a with
    | none =>
      simp only []
      have hp : BcVisitPost adj nodes [] a none st (visit a st) :=
        hvisit [] a st none hinv ha (hns a List.mem_cons_self) rfl (fun u h => by simp at h) hf
      generalize visit a st = sta at hp ⊢
      have hinva := hp.inv.retireRoot hp.pv hp.dv hp.wok hp.cw
      have hfa : nmUnset nodes sta.disc < fuel :=
        Nat.lt_of_le_of_lt (nmUnset_mono nodes (fun x hx => hp.ext.vis hx)) hf
      have hr := ih sta hns' hinva hfa
      refine ⟨hr.1, hp.ext.trans hr.2.1, fun n hn => ?_⟩
      rcases List.mem_cons.1 hn with h | h
      · subst h; exact hr.2.1.vis hp.dv
      · exact hr.2.2 n h
    | some k =>
      simp only []
      have hr := ih st hns' hinv hf
      refine ⟨hr.1, hr.2.1, fun n hn => ?_⟩
      rcases List.mem_cons.1 hn with h | h
      · subst h; exact hr.2.1.vis (by rw [ha]; simp)
      · exact hr.2.2 n h

theorem bcInit_inv (adj : Nat → List Nat) (nodes : List Nat) : BcInv adj nodes [] bcInit := by
  have hd : ∀ x, nmGet bcInit.disc x = none := fun _ => rfl
  have hp : ∀ x, nmGet bcInit.parent x = none := fun _ => rfl
  have hb : ∀ x, ¬ bcBlk [] bcInit x := fun x h => h.1 (hd x)
  refine ⟨⟨fun x h => absurd (hd x) h, fun x k h => ?_, fun x y k h => ?_, fun c p h => ?_, True.intro,
    fun z hz => by simp at hz⟩, ⟨fun y hy => absurd hy (hb y), fun y hy => absurd hy (hb y), fun x => ?_,
    fun e => ?_, List.nodup_nil⟩⟩
  · rw [hd] at h; exact absurd h (by simp)
  · rw [hd] at h; exact absurd h (by simp)
  · rw [hp] at h; exact absurd h (by simp)
  · constructor
    · intro h; exact absurd h (by simp [bcInit])
    · rintro (⟨_, c1, _, _, b1, _⟩ | ⟨_, c, _, bc, _⟩)
      · exact absurd b1 (hb c1)
      · exact absurd bc (hb c)
  · constructor
    · intro h; exact absurd h (by simp [bcInit])
    · rintro ⟨_, v, bv, _⟩
      exact absurd bv (hb v)

end Invariant

theorem bcAdjOk_nbrSet (g : Graph) (etype : Option Nat) :
    BcAdjOk (nbrSet g etype .both) (g.nodes.map (·.id)) := by
  refine ⟨fun u v hu hv => ?_, fun u v hv => ?_, fun u v hv => ?_⟩
  · have hun := (hasNode_iff_mem g u).2 hu
    have hvn := ((mem_nbrSet_both g etype u v).1 hv).2.1
    exact (mem_nbrSet_both_symm g etype u v hun hvn).1 hv
  · exact ((mem_nbrSet_both g etype u v).1 hv).1
  · exact (hasNode_iff_mem g v).1 ((mem_nbrSet_both g etype u v).1 hv).2.1

/-- fuel adequacy: the run ends with the invariant, an empty path and every node discovered -/
theorem bcFinalF_spec (g : Graph) (etype : Option Nat) :
    BcInv (nbrSet g etype .both) (g.nodes.map (·.id)) [] (bcFinalF g etype) ∧
      ∀ n, n ∈ g.nodes.map (·.id) → nmGet (bcFinalF g etype).disc n ≠ none := by
  have h := bcAllF_spec (bcVisitF_spec (bcAdjOk_nbrSet g etype) (g.nodes.length + 1))
    (g.nodes.map (·.id)) bcInit (fun n hn => hn) (bcInit_inv _ _)
    (by
      have := nmUnset_le_length (g.nodes.map (·.id)) bcInit.disc
      rw [List.length_map] at this
      omega)
  exact ⟨h.1, h.2.2⟩

theorem bcInv_forest {adj : Nat → List Nat} {nodes : List Nat} {st : BcSt} (ok : BcAdjOk adj nodes)
    (h : BcInv adj nodes [] st) (hall : ∀ n, n ∈ nodes → nmGet st.disc n ≠ none) :
    BcForest adj nodes (nmGet st.parent) (tjNum st.disc) (tjNum st.low) := by
  have hb : ∀ x, nmGet st.disc x ≠ none → bcBlk [] st x := fun x hx => ⟨hx, by simp⟩
  refine ⟨ok.sym, ok.irr, ok.adjn, ?_, ⟨st.time, ?_⟩, ?_, ?_, ?_, ?_, ?_⟩
  · intro x y hx hy he
    cases hkx : nmGet st.disc x with
    | none => exact absurd hkx (hall x hx)
    | some kx =>
      cases hky : nmGet st.disc y with
      | none => exact absurd hky (hall y hy)
      | some ky =>
        rw [tjNum_of_some hkx, tjNum_of_some hky] at he
        subst he
        exact h.d.inj x y kx hkx hky
  · intro x hx
    cases hkx : nmGet st.disc x with
    | none => exact absurd hkx (hall x hx)
    | some kx => rw [tjNum_of_some hkx]; exact h.d.lt x kx hkx
  · intro c p hcp
    have := h.d.tree c p hcp
    exact ⟨h.d.node c this.1, h.d.node p this.2.1, this.2.2.1, this.2.2.2⟩
  · intro y w hy hw
    exact (h.b.badj y (hb y (hall y hy)) w hw).2.1
  · intro y w hy hw hne
    exact (h.b.badj y (hb y (hall y hy)) w hw).2.2 hne
  · intro c y hcy
    have := h.d.tree c y hcy
    exact (h.b.blow y (hb y this.2.1)).lowc c (hb c this.1) hcy
  · intro y hy
    rcases (h.b.blow y (hb y (hall y hy))).loww with h1 | ⟨w, hw, _, hne, hl⟩ | ⟨c, _, hp, hl⟩
    · exact .inl h1
    · exact .inr (.inl ⟨w, hw, hne, hl⟩)
    · exact .inr (.inr ⟨c, hp, hl⟩)

theorem bcWalk_trans {R : Nat → Nat → Prop} {a b c : Nat}
    (h1 : BcWalk R a b) (h2 : BcWalk R b c) : BcWalk R a c := by
  induction h1 with
  | refl => exact h2
  | step h _ ih => exact BcWalk.step h (ih h2)

theorem bcWalk_one {R : Nat → Nat → Prop} {a b : Nat} (h : R a b) : BcWalk R a b :=
  BcWalk.step h (BcWalk.refl b)

theorem bcWalk_mono {R R' : Nat → Nat → Prop} (hm : ∀ u v, R u v → R' u v) {a b : Nat}
    (h : BcWalk R a b) : BcWalk R' a b := by
  induction h with
  | refl => exact BcWalk.refl _
  | step h _ ih => exact BcWalk.step (hm _ _ h) ih

theorem bcWalk_closed {R : Nat → Nat → Prop} (S : Nat → Prop)
    (hc : ∀ y w, S y → R y w → S w) {a b : Nat} (h : BcWalk R a b) (ha : S a) : S b := by
  induction h with
  | refl => exact ha
  | step h _ ih => exact ih (hc _ _ ha h)

/-- a walk inside a set on which every step can be taken backwards can be walked backwards -/
theorem bcWalk_rev {R R' : Nat → Nat → Prop} (S : Nat → Prop)
    (hc : ∀ u v, S u → R u v → S v ∧ R' v u) {a b : Nat} (h : BcWalk R a b) (ha : S a) :
    BcWalk R' b a := by
  induction h with
  | refl => exact BcWalk.refl _
  | step h _ ih => exact bcWalk_trans (ih (hc _ _ ha h).1) (bcWalk_one (hc _ _ ha h).2)

theorem bcAnc_child {par : Nat → Option Nat} {p c : Nat} (h : par c = some p) : BcAnc par p c :=
  BcAnc.step (BcAnc.refl p) h

theorem bcAnc_parent {par : Nat → Option Nat} {a c : Nat} (h : BcAnc par a c) (hne : a ≠ c) :
    ∃ p, par c = some p ∧ BcAnc par a p := by
  cases h with
  | refl => exact absurd rfl hne
  | step h hp => exact ⟨_, hp, h⟩

theorem bcAnc_childOf {par : Nat → Option Nat} {a c : Nat} (h : BcAnc par a c) (hne : a ≠ c) :
    ∃ k, par k = some a ∧ BcAnc par k c := by
  induction h with
  | refl => exact absurd rfl hne
  | @step p c h hp ih =>
    by_cases hap : a = p
    · subst hap; exact ⟨c, hp, BcAnc.refl c⟩
    · rcases ih hap with ⟨k, hk, hkp⟩
      exact ⟨k, hk, BcAnc.step hkp hp⟩

theorem bcAnc_chain {par : Nat → Option Nat} {a b y : Nat} (h1 : BcAnc par a y)
    (h2 : BcAnc par b y) : BcAnc par a b ∨ BcAnc par b a := by
  induction h1 with
  | refl => exact Or.inr h2
  | @step p c h hp ih =>
    by_cases hbc : b = c
    · subst hbc; exact Or.inl (BcAnc.step h hp)
    · rcases bcAnc_parent h2 hbc with ⟨q, hq, hbq⟩
      have : q = p := by rw [hp] at hq; exact (Option.some.inj hq).symm
      subst this
      exact ih hbq

theorem bcAnc_root_top {par : Nat → Option Nat} {r w : Nat} (hr : par r = none)
    (h : BcAnc par w r) : w = r := by
  cases h with
  | refl => rfl
  | step _ hp => rw [hr] at hp; cases hp

/-- along parent links from `a` up to its ancestor `t`, provided every tree edge on the way is a step -/
theorem bcWalk_up {par : Nat → Option Nat} {R : Nat → Nat → Prop} {t a : Nat} (h : BcAnc par t a)
    (hR : ∀ z p, par z = some p → BcAnc par t p → BcAnc par z a → R z p) : BcWalk R a t := by
  induction h with
  | refl => exact BcWalk.refl _
  | @step p c h hp ih =>
    exact BcWalk.step (hR c p hp h (BcAnc.refl c))
      (ih (fun z q hzq htq hzp => hR z q hzq htq (BcAnc.step hzp hp)))

theorem bcWalk_down {par : Nat → Option Nat} {R : Nat → Nat → Prop} {t a : Nat} (h : BcAnc par t a)
    (hR : ∀ z p, par z = some p → BcAnc par t p → BcAnc par z a → R p z) : BcWalk R t a := by
  induction h with
  | refl => exact BcWalk.refl _
  | @step p c h hp ih =>
    exact bcWalk_trans (ih (fun z q hzq htq hzp => hR z q hzq htq (BcAnc.step hzp hp)))
      (bcWalk_one (hR c p hp h (BcAnc.refl c)))

theorem bcA_anc_nodes_up {adj : Nat → List Nat} {nodes : List Nat} {par : Nat → Option Nat}
    {D L : Nat → Nat} (F : BcForest adj nodes par D L) {a c : Nat} (h : BcAnc par a c)
    (hc : c ∈ nodes) : a ∈ nodes := by
  induction h with
  | refl => exact hc
  | step _ hp ih => exact ih (F.tree _ _ hp).2.1

section Forest

variable {adj : Nat → List Nat} {nodes : List Nat} {par : Nat → Option Nat} {D L : Nat → Nat}

theorem bcAnc_D (F : BcForest adj nodes par D L) {a c : Nat} (h : BcAnc par a c) :
    a = c ∨ D a < D c := by
  induction h with
  | refl => exact Or.inl rfl
  | step _ hp ih =>
    have := (F.tree _ _ hp).2.2.2
    rcases ih with ih | ih
    · subst ih; exact Or.inr this
    · exact Or.inr (by omega)

theorem bcAnc_le (F : BcForest adj nodes par D L) {a c : Nat} (h : BcAnc par a c) : D a ≤ D c := by
  rcases bcAnc_D F h with h | h
  · subst h; exact Nat.le_refl _
  · omega

theorem bcAnc_nodes_down (F : BcForest adj nodes par D L) {a c : Nat} (h : BcAnc par a c)
    (ha : a ∈ nodes) : c ∈ nodes := by
  cases h with
  | refl => exact ha
  | step _ hp => exact (F.tree _ _ hp).1

theorem bcAnc_root_exists (F : BcForest adj nodes par D L) :
    ∀ n y, y ∈ nodes → D y < n → ∃ r, BcAnc par r y ∧ par r = none := by
  intro n
  induction n with
  | zero => intro y _ h; omega
  | succ n ih =>
    intro y hy hD
    cases hp : par y with
    | none => exact ⟨y, BcAnc.refl y, hp⟩
    | some p =>
      have ht := F.tree _ _ hp
      rcases ih p ht.2.1 (by omega) with ⟨r, hr, hr0⟩
      exact ⟨r, BcAnc.step hr hp, hr0⟩

theorem bcLow_anc (F : BcForest adj nodes par D L) {v y : Nat} (h : BcAnc par v y) : L v ≤ L y := by
  induction h with
  | refl => exact Nat.le_refl _
  | step _ hp ih => exact Nat.le_trans ih (F.lowc _ _ hp)

/-- `low[v]` is `disc[v]` or the number of a non-parent neighbour of a descendant of `v` -/
theorem bcLow_wit (F : BcForest adj nodes par D L) {v : Nat} (hv : v ∈ nodes) :
    L v = D v ∨ ∃ y w, BcAnc par v y ∧ w ∈ adj y ∧ par y ≠ some w ∧ L v = D w := by
  obtain ⟨T, hT⟩ := F.bnd
  generalize hn : T - D v = n
  induction n using Nat.strongRecOn generalizing v with
  | _ n ih =>
    rcases F.loww v hv with h | ⟨w, hw, hpw, hl⟩ | ⟨c, hc, hl⟩
    · exact Or.inl h
    · exact Or.inr ⟨v, w, BcAnc.refl _, hw, hpw, hl⟩
    · obtain ⟨hcn, _, hca, hd⟩ := F.tree _ _ hc
      have hTc := hT c hcn
      rcases ih (T - D c) (by omega) hcn rfl with h | ⟨y, w, hy, hw, hpw, hlw⟩
      · refine Or.inr ⟨v, c, BcAnc.refl _, hca, fun hvc => ?_, by omega⟩
        have := (F.tree _ _ hvc).2.2.2
        omega
      · exact Or.inr ⟨y, w, bcAnc_trans (bcAnc_child hc) hy, hw, hpw, by omega⟩

/-- an adjacency out of the subtree of `c` ends at an ancestor `w` of the parent `q` of `c`, and is
    either the tree edge from `c` to `q` itself or bounds `low[c]` -/
theorem bcSub_step (F : BcForest adj nodes par D L) {c y w : Nat} (hcn : c ∈ nodes)
    (hy : BcAnc par c y) (hw : w ∈ adj y) :
    BcAnc par c w ∨ ∃ q, par c = some q ∧ BcAnc par w q ∧ ((y = c ∧ w = q) ∨ L c ≤ D w) := by
  have hyn : y ∈ nodes := bcAnc_nodes_down F hy hcn
  rcases F.cmp y w hyn hw with h | h
  · exact .inl (bcAnc_trans hy h)
  · rcases bcAnc_chain hy h with h' | h'
    · exact .inl h'
    · by_cases hwc : w = c
      · subst hwc; exact .inl (BcAnc.refl _)
      · obtain ⟨q, hq, hwq⟩ := bcAnc_parent h' hwc
        by_cases hpy : par y = some w
        · by_cases hyc : c = y
          · subst hyc
            rw [hq] at hpy
            exact .inr ⟨q, hq, hwq, .inl ⟨rfl, (Option.some.inj hpy).symm⟩⟩
          · obtain ⟨q2, hq2, hcq2⟩ := bcAnc_parent hy hyc
            rw [hpy] at hq2
            cases hq2
            exact .inl hcq2
        · exact .inr ⟨q, hq, hwq, .inr (Nat.le_trans (bcLow_anc F hy) (F.lowa y w hyn hw hpy))⟩

theorem bcAnc_root_closed (F : BcForest adj nodes par D L) {r y w : Nat} (hr : par r = none)
    (hy : BcAnc par r y) (hyn : y ∈ nodes) (hw : w ∈ adj y) : BcAnc par r w := by
  rcases F.cmp y w hyn hw with h | h
  · exact bcAnc_trans hy h
  · rcases bcAnc_chain hy h with h' | h'
    · exact h'
    · rw [bcAnc_root_top hr h']; exact BcAnc.refl _

theorem bcA_sound_nonroot (F : BcForest adj nodes par D L) {x p c : Nat}
    (hxp : par x = some p) (hcx : par c = some x) (hL : D x ≤ L c) : BcArt adj x := by
  have htx := F.tree _ _ hxp
  have htc := F.tree _ _ hcx
  have hclosed : ∀ y w, BcAnc par c y → BcRav adj x y w → BcAnc par c w := by
    intro y w hy ⟨hw, _, hwx⟩
    rcases bcSub_step F htc.1 hy hw with h | ⟨q, hq, hwq, h⟩
    · exact h
    · rw [hcx] at hq
      cases hq
      rcases h with ⟨_, h⟩ | h
      · exact absurd h hwx
      · rcases bcAnc_D F hwq with h' | h'
        · exact absurd h' hwx
        · omega
  refine ⟨c, p, ?_, ?_, bcWalk_one htc.2.2.1, bcWalk_one (F.sym p x htx.2.1 htx.2.2.1), fun hw => ?_⟩
  · intro h; subst h; have := htc.2.2.2; omega
  · intro h; subst h; have := htx.2.2.2; omega
  · have h1 := bcAnc_le F (bcWalk_closed (fun y => BcAnc par c y) hclosed hw (BcAnc.refl c))
    have h2 := htx.2.2.2
    have h3 := htc.2.2.2
    omega

theorem bcA_sound_root (F : BcForest adj nodes par D L) {x c1 c2 : Nat}
    (hx : par x = none) (hne : c1 ≠ c2) (h1 : par c1 = some x) (h2 : par c2 = some x) :
    BcArt adj x := by
  have ht1 := F.tree _ _ h1
  have ht2 := F.tree _ _ h2
  have hclosed : ∀ y w, BcAnc par c1 y → BcRav adj x y w → BcAnc par c1 w := by
    intro y w hy ⟨hw, _, hwx⟩
    rcases bcSub_step F ht1.1 hy hw with h | ⟨q, hq, hwq, _⟩
    · exact h
    · rw [h1] at hq
      cases hq
      exact absurd (bcAnc_root_top hx hwq) hwx
  refine ⟨c1, c2, ?_, ?_, bcWalk_one ht1.2.2.1, bcWalk_one ht2.2.2.1, fun hw => ?_⟩
  · intro h; subst h; have := ht1.2.2.2; omega
  · intro h; subst h; have := ht2.2.2.2; omega
  · have := bcWalk_closed (fun y => BcAnc par c1 y) hclosed hw (BcAnc.refl c1)
    rcases bcAnc_parent this hne with ⟨q, hq, hcq⟩
    rw [h2] at hq
    cases hq
    have h3 := bcAnc_le F hcq
    have h4 := ht1.2.2.2
    omega

/-- avoiding step between nodes (symmetric) -/
def bcA_Rn (adj : Nat → List Nat) (nodes : List Nat) (x : Nat) (u v : Nat) : Prop :=
  v ∈ adj u ∧ u ≠ x ∧ v ≠ x ∧ u ∈ nodes

theorem bcA_walk_symm (F : BcForest adj nodes par D L) {x a b : Nat}
    (h : BcWalk (bcA_Rn adj nodes x) a b) : BcWalk (bcA_Rn adj nodes x) b a :=
  bcWalk_rev (fun _ => True)
    (fun u v _ ⟨h1, h2, h3, h4⟩ => ⟨trivial, F.sym u v h4 h1, h3, h2, F.adjn u v h1⟩) h trivial

theorem bcA_up_walk (F : BcForest adj nodes par D L) {x t a : Nat} (h : BcAnc par t a)
    (hav : ∀ z, BcAnc par t z → BcAnc par z a → z ≠ x) : BcWalk (bcA_Rn adj nodes x) a t := by
  refine bcWalk_up h ?_
  intro z q hzq htq hza
  have ht := F.tree _ _ hzq
  exact ⟨F.sym q z ht.2.1 ht.2.2.1, hav z (BcAnc.step htq hzq) hza,
    hav q htq (bcAnc_trans (bcAnc_child hzq) hza), ht.1⟩

theorem bcA_up_walk_sub (F : BcForest adj nodes par D L) {x k a : Nat} (hk : par k = some x)
    (h : BcAnc par k a) : BcWalk (bcA_Rn adj nodes x) a k := by
  refine bcA_up_walk F h ?_
  intro z hkz _ hzx
  subst hzx
  have h1 := bcAnc_le F hkz
  have h2 := (F.tree _ _ hk).2.2.2
  omega

theorem bcA_up_walk_out (F : BcForest adj nodes par D L) {x r a : Nat} (h : BcAnc par r a)
    (hxa : ¬ BcAnc par x a) : BcWalk (bcA_Rn adj nodes x) a r :=
  bcA_up_walk F h (fun _ _ hza hzx => hxa (hzx ▸ hza))

theorem bcA_to_root (F : BcForest adj nodes par D L) {x r : Nat}
    (hr : par r = none) (hrx : BcAnc par r x)
    (hno : ∀ c, par c = some x → L c < D x)
    {a : Nat} (hax : a ≠ x) (hra : BcAnc par r a) : BcWalk (bcA_Rn adj nodes x) a r := by
  by_cases hxa : BcAnc par x a
  · rcases bcAnc_childOf hxa (Ne.symm hax) with ⟨k, hk, hka⟩
    have htk := F.tree _ _ hk
    have hLk := hno k hk
    rcases bcLow_wit F htk.1 with h | ⟨y, w, hky, hw, hpw, hLw⟩
    · have := htk.2.2.2; omega
    · have hyn : y ∈ nodes := bcAnc_nodes_down F hky htk.1
      have hDy := bcAnc_le F hky
      have hDk := htk.2.2.2
      have hrw : BcAnc par r w :=
        bcAnc_root_closed F hr (bcAnc_trans hrx (bcAnc_trans (bcAnc_child hk) hky)) hyn hw
      have hxw : ¬ BcAnc par x w := fun h => by have := bcAnc_le F h; omega
      have w3 : BcWalk (bcA_Rn adj nodes x) y w :=
        bcWalk_one ⟨hw, fun h => by subst h; omega, fun h => by subst h; omega, hyn⟩
      exact bcWalk_trans (bcA_up_walk_sub F hk hka)
        (bcWalk_trans (bcA_walk_symm F (bcA_up_walk_sub F hk hky))
          (bcWalk_trans w3 (bcA_up_walk_out F hrw hxw)))
  · exact bcA_up_walk_out F hra hxa

theorem bcA_complete (F : BcForest adj nodes par D L) (x : Nat) (hx : x ∈ nodes)
    (hart : BcArt adj x) : BcApCond par D L (fun c => c ∈ nodes) x := by
  apply Classical.byContradiction
  intro hn
  rcases hart with ⟨a, b, hax, hbx, hwa, hwb, hnw⟩
  rcases F.bnd with ⟨T, hT⟩
  rcases bcAnc_root_exists F T x hx (hT x hx) with ⟨r, hrx, hr⟩
  have hcl : ∀ y w, (BcAnc par r y ∧ y ∈ nodes) → BcRadj adj y w → (BcAnc par r w ∧ w ∈ nodes) :=
    fun y w ⟨h1, h2⟩ hw => ⟨bcAnc_root_closed F hr h1 h2 hw, F.adjn y w hw⟩
  have hra := (bcWalk_closed (fun y => BcAnc par r y ∧ y ∈ nodes) hcl hwa ⟨hrx, hx⟩).1
  have hrb := (bcWalk_closed (fun y => BcAnc par r y ∧ y ∈ nodes) hcl hwb ⟨hrx, hx⟩).1
  apply hnw
  refine bcWalk_mono (R := bcA_Rn adj nodes x) (fun u v h => ⟨h.1, h.2.1, h.2.2.1⟩) ?_
  cases hpx : par x with
  | some p =>
    have hno : ∀ c, par c = some x → L c < D x := by
      intro c hc
      apply Nat.lt_of_not_le
      intro hle
      exact hn (Or.inr ⟨p, c, hpx, (F.tree _ _ hc).1, hc, hle⟩)
    exact bcWalk_trans (bcA_to_root F hr hrx hno hax hra)
      (bcA_walk_symm F (bcA_to_root F hr hrx hno hbx hrb))
  | none =>
    have hrx' : r = x := bcAnc_root_top hpx hrx
    subst hrx'
    rcases bcAnc_childOf hra (Ne.symm hax) with ⟨ka, hka, hkaa⟩
    rcases bcAnc_childOf hrb (Ne.symm hbx) with ⟨kb, hkb, hkbb⟩
    have hk : ka = kb := by
      apply Classical.byContradiction
      intro hne
      exact hn (Or.inl ⟨hpx, ka, kb, hne, (F.tree _ _ hka).1, (F.tree _ _ hkb).1, hka, hkb⟩)
    subst hk
    exact bcWalk_trans (bcA_up_walk_sub F hka hkaa) (bcA_walk_symm F (bcA_up_walk_sub F hka hkbb))

theorem bcA_ap_iff (F : BcForest adj nodes par D L) (x : Nat) (hx : x ∈ nodes) :
    BcApCond par D L (fun c => c ∈ nodes) x ↔ BcArt adj x := by
  constructor
  · intro h
    rcases h with ⟨hx0, c1, c2, hne, _, _, h1, h2⟩ | ⟨p, c, hxp, _, hcx, hL⟩
    · exact bcA_sound_root F hx0 hne h1 h2
    · exact bcA_sound_nonroot F hxp hcx hL
  · exact bcA_complete F x hx

theorem bcB_rwo_swap {a b u v : Nat} (h : BcRwo adj a b u v) : BcRwo adj b a u v :=
  ⟨h.1, fun hh => h.2 hh.symm⟩

theorem bcB_rwo_sym (F : BcForest adj nodes par D L) {a b u v : Nat} (hu : u ∈ nodes)
    (h : BcRwo adj a b u v) : v ∈ nodes ∧ BcRwo adj a b v u := by
  refine ⟨F.adjn _ _ h.1, F.sym _ _ hu h.1, fun hh => h.2 ?_⟩
  rcases hh with ⟨h1, h2⟩ | ⟨h1, h2⟩
  · exact Or.inr ⟨h2, h1⟩
  · exact Or.inl ⟨h2, h1⟩

theorem bcB_walk_sym (F : BcForest adj nodes par D L) {a b x y : Nat} (hx : x ∈ nodes)
    (h : BcWalk (BcRwo adj a b) x y) : BcWalk (BcRwo adj a b) y x :=
  bcWalk_rev (fun z => z ∈ nodes) (fun _ _ hu hr => bcB_rwo_sym F hu hr) h hx

/-- below a tree edge `u`—`v` with `disc[u] < low[v]` no other adjacency leaves the subtree of `v` -/
theorem bcB_sub_closed (F : BcForest adj nodes par D L) {u v : Nat} (hp : par v = some u)
    (hl : D u < L v) {y w : Nat} (hy : BcAnc par v y) (hr : BcRwo adj u v y w) : BcAnc par v w := by
  rcases bcSub_step F (F.tree _ _ hp).1 hy hr.1 with h | ⟨q, hq, hwq, h⟩
  · exact h
  · rw [hp] at hq
    cases hq
    rcases h with ⟨h1, h2⟩ | h
    · exact absurd (Or.inr ⟨h1, h2⟩) hr.2
    · have := bcAnc_le F hwq
      omega

theorem bcB_sound (F : BcForest adj nodes par D L) {u v : Nat} (hp : par v = some u)
    (hl : D u < L v) :
    ¬ BcWalk (BcRwo adj u v) v u ∧ ¬ BcWalk (BcRwo adj u v) u v := by
  obtain ⟨hvn, hun, hva, hd⟩ := F.tree _ _ hp
  have hnu : ¬ BcAnc par v u := fun h => by have := bcAnc_le F h; omega
  constructor
  · intro hw
    exact hnu (bcWalk_closed (fun y => BcAnc par v y)
      (fun y w hy hr => bcB_sub_closed F hp hl hy hr) hw (BcAnc.refl _))
  · intro hw
    have := bcWalk_closed (fun y => y ∈ nodes ∧ ¬ BcAnc par v y)
      (fun y w hy hr => by
        obtain ⟨hwn, hr'⟩ := bcB_rwo_sym F hy.1 hr
        exact ⟨hwn, fun hvw => hy.2 (bcB_sub_closed F hp hl hvw hr')⟩) hw ⟨hun, hnu⟩
    exact this.2 (BcAnc.refl _)

theorem bcB_complete_key (F : BcForest adj nodes par D L) {u v : Nat} (hun : u ∈ nodes)
    (huv : BcAnc par u v) (hne : u ≠ v) (hn : ¬ (par v = some u ∧ D u < L v)) :
    BcWalk (BcRwo adj u v) v u := by
  have hvn : v ∈ nodes := bcAnc_nodes_down F huv hun
  have hD : D u < D v := by
    rcases bcAnc_D F huv with h | h
    · exact absurd h hne
    · exact h
  by_cases hp : par v = some u
  · have hl : L v ≤ D u := by
      by_cases h : D u < L v
      · exact absurd ⟨hp, h⟩ hn
      · omega
    rcases bcLow_wit F hvn with h | ⟨y, w, hy, hw, hpw, hlw⟩
    · omega
    · have hyn : y ∈ nodes := bcAnc_nodes_down F hy hvn
      have hvy := bcAnc_le F hy
      have hwu : BcAnc par w u := by
        rcases F.cmp y w hyn hw with h | h
        · have := bcAnc_le F (bcAnc_trans hy h)
          omega
        · rcases bcAnc_chain h (bcAnc_trans huv hy) with h2 | h2
          · exact h2
          · rcases bcAnc_D F h2 with h3 | h3
            · subst h3; exact BcAnc.refl _
            · omega
      have w1 : BcWalk (BcRwo adj u v) v y := by
        refine bcWalk_down hy ?_
        intro z p hz hvp hzy
        obtain ⟨_, _, hza, hdz⟩ := F.tree _ _ hz
        have := bcAnc_le F hvp
        refine ⟨hza, ?_⟩
        intro hh
        rcases hh with ⟨h1, h2⟩ | ⟨h1, h2⟩
        · subst h1; omega
        · subst h1; subst h2; omega
      have w2 : BcRwo adj u v y w := by
        refine ⟨hw, ?_⟩
        intro hh
        rcases hh with ⟨h1, h2⟩ | ⟨h1, h2⟩
        · subst h1; omega
        · subst h1; subst h2; exact hpw hp
      have w3 : BcWalk (BcRwo adj u v) w u := by
        refine bcWalk_down hwu ?_
        intro z p hz hwp hzu
        obtain ⟨_, _, hza, hdz⟩ := F.tree _ _ hz
        have := bcAnc_le F hzu
        refine ⟨hza, ?_⟩
        intro hh
        rcases hh with ⟨h1, h2⟩ | ⟨h1, h2⟩
        · subst h2; omega
        · subst h1; subst h2; omega
      exact bcWalk_trans w1 (BcWalk.step w2 w3)
  · refine bcWalk_up huv ?_
    intro z p hz hup hzv
    obtain ⟨_, hpn, hza, hdz⟩ := F.tree _ _ hz
    refine ⟨F.sym _ _ hpn hza, ?_⟩
    intro hh
    rcases hh with ⟨h1, h2⟩ | ⟨h1, h2⟩
    · subst h1; subst h2; omega
    · subst h1; subst h2; exact hp hz

theorem minMax_eq_iff {u v a b : Nat} (huv : u ≠ v) :
    (a, b) = (min u v, max u v) ↔ (a < b ∧ ((a = u ∧ b = v) ∨ (a = v ∧ b = u))) := by
  rw [Prod.mk.injEq]
  rcases Nat.lt_or_gt_of_ne huv with h | h
  · rw [Nat.min_eq_left (Nat.le_of_lt h), Nat.max_eq_right (Nat.le_of_lt h)]
    exact ⟨fun hh => ⟨by omega, .inl hh⟩, fun ⟨_, hh⟩ => hh.elim id (fun hh => by omega)⟩
  · rw [Nat.min_eq_right (Nat.le_of_lt h), Nat.max_eq_left (Nat.le_of_lt h)]
    exact ⟨fun hh => ⟨by omega, .inr hh⟩, fun ⟨_, hh⟩ => hh.elim (fun hh => by omega) id⟩

theorem bcB_br_iff (F : BcForest adj nodes par D L) (a b : Nat) :
    BcBrCond par D L (fun c => c ∈ nodes) (a, b) ↔ (a < b ∧ a ∈ nodes ∧ BcBridge adj a b) := by
  constructor
  · rintro ⟨u, v, hvn, hp, hl, he⟩
    obtain ⟨_, hun, hva, hd⟩ := F.tree _ _ hp
    have huv : u ≠ v := by intro h; subst h; omega
    obtain ⟨s1, s2⟩ := bcB_sound F hp hl
    obtain ⟨hlt, ⟨rfl, rfl⟩ | ⟨rfl, rfl⟩⟩ := (minMax_eq_iff huv).1 he
    · exact ⟨hlt, hun, hva, s2⟩
    · exact ⟨hlt, hvn, F.sym _ _ hun hva, fun hw => s1 (bcWalk_mono (fun _ _ h => bcB_rwo_swap h) hw)⟩
  · rintro ⟨hlt, han, hba, hnw⟩
    have hbn : b ∈ nodes := F.adjn _ _ hba
    have hab : a ≠ b := Nat.ne_of_lt hlt
    rcases F.cmp a b han hba with h | h
    · have hc : par b = some a ∧ D a < L b := by
        apply Classical.byContradiction
        intro hn
        exact hnw (bcB_walk_sym F hbn (bcB_complete_key F han h hab hn))
      exact ⟨a, b, hbn, hc.1, hc.2, (minMax_eq_iff hab).2 ⟨hlt, .inl ⟨rfl, rfl⟩⟩⟩
    · have hc : par a = some b ∧ D b < L a := by
        apply Classical.byContradiction
        intro hn
        exact hnw (bcWalk_mono (fun _ _ h => bcB_rwo_swap h) (bcB_complete_key F hbn h hab.symm hn))
      exact ⟨b, a, han, hc.1, hc.2, (minMax_eq_iff hab.symm).2 ⟨hlt, .inr ⟨rfl, rfl⟩⟩⟩

end Forest

theorem bc_adjT_mem {g : Graph} {etype : Option Nat} {u v : Nat} (h : adjacentT g etype u v) :
    v ∈ nbrSet g etype .both u :=
  (mem_nbrSet_both_iff_adjacentT g etype u v h.2.1).2 h

theorem bc_connT_walk {g : Graph} {etype : Option Nat} {u w : Nat} (h : ConnT g etype u w) :
    BcWalk (BcRadj (nbrSet g etype .both)) u w := by
  induction h with
  | refl u => exact .refl u
  | step ha _ ih => exact .step (bc_adjT_mem ha) ih

theorem bc_connT_end {g : Graph} {etype : Option Nat} {u w : Nat} (h : ConnT g etype u w) :
    u = w ∨ g.hasNode w = true := by
  induction h with
  | refl u => exact .inl rfl
  | step ha _ ih =>
    rcases ih with ih | ih
    · subst ih; exact .inr ha.2.2.1
    · exact .inr ih

theorem bc_walk_connT {g : Graph} {etype : Option Nat} {u w : Nat}
    (h : BcWalk (BcRadj (nbrSet g etype .both)) u w) : g.hasNode u = true → ConnT g etype u w := by
  induction h with
  | refl a => intro _; exact .refl a
  | step hr _ ih =>
    intro hu
    have ha := (mem_nbrSet_both_iff_adjacentT g etype _ _ hu).1 hr
    exact .step ha (ih ha.2.2.1)

theorem bc_avoid_walk {g : Graph} {etype : Option Nat} {x a b : Nat} (h : ConnAvoid g etype x a b) :
    a ≠ x ∧ BcWalk (BcRav (nbrSet g etype .both) x) a b := by
  induction h with
  | refl u hu => exact ⟨hu, .refl u⟩
  | step hu ha _ ih => exact ⟨hu, .step ⟨bc_adjT_mem ha, hu, ih.1⟩ ih.2⟩

theorem bc_walk_avoid {g : Graph} {etype : Option Nat} {x a b : Nat}
    (h : BcWalk (BcRav (nbrSet g etype .both) x) a b) :
    a ≠ x → g.hasNode a = true → ConnAvoid g etype x a b := by
  induction h with
  | refl a => intro hax _; exact .refl a hax
  | step hr _ ih =>
    intro hax hu
    have ha := (mem_nbrSet_both_iff_adjacentT g etype _ _ hu).1 hr.1
    exact .step hax ha (ih hr.2.2 ha.2.2.1)

theorem bc_without_walk {g : Graph} {etype : Option Nat} {a b u w : Nat}
    (h : ConnWithout g etype a b u w) : BcWalk (BcRwo (nbrSet g etype .both) a b) u w := by
  induction h with
  | refl u => exact .refl u
  | step ha hn _ ih => exact .step ⟨bc_adjT_mem ha, hn⟩ ih

theorem bc_walk_without {g : Graph} {etype : Option Nat} {a b u w : Nat}
    (h : BcWalk (BcRwo (nbrSet g etype .both) a b) u w) :
    g.hasNode u = true → ConnWithout g etype a b u w := by
  induction h with
  | refl a => intro _; exact .refl a
  | step hr _ ih =>
    intro hu
    have ha := (mem_nbrSet_both_iff_adjacentT g etype _ _ hu).1 hr.1
    exact .step ha hr.2 (ih ha.2.2.1)

theorem bcFinal_forest (g : Graph) (etype : Option Nat) :
    BcForest (nbrSet g etype .both) (g.nodes.map (·.id)) (nmGet (bcFinal g etype).parent)
        (tjNum (bcFinal g etype).disc) (tjNum (bcFinal g etype).low) ∧
      (∀ x, x ∈ (bcFinal g etype).aps ↔
        BcApCond (nmGet (bcFinal g etype).parent) (tjNum (bcFinal g etype).disc)
          (tjNum (bcFinal g etype).low) (fun c => c ∈ g.nodes.map (·.id)) x) ∧
      (∀ e, e ∈ (bcFinal g etype).bridges ↔
        BcBrCond (nmGet (bcFinal g etype).parent) (tjNum (bcFinal g etype).disc)
          (tjNum (bcFinal g etype).low) (fun c => c ∈ g.nodes.map (·.id)) e) ∧
      (bcFinal g etype).bridges.Nodup := by
  rw [bcFinal_eq_F]
  rcases bcFinalF_spec g etype with ⟨hinv, hall⟩
  have h1 : ∀ c, bcBlk [] (bcFinalF g etype) c → c ∈ g.nodes.map (·.id) ∧
      tjNum (bcFinalF g etype).low c = tjNum (bcFinalF g etype).low c :=
    fun c hc => ⟨hinv.d.node c hc.1, rfl⟩
  have h1' : ∀ c, c ∈ g.nodes.map (·.id) → bcBlk [] (bcFinalF g etype) c ∧
      tjNum (bcFinalF g etype).low c = tjNum (bcFinalF g etype).low c :=
    fun c hc => ⟨⟨hall c hc, List.not_mem_nil⟩, rfl⟩
  refine ⟨bcInv_forest (bcAdjOk_nbrSet g etype) hinv hall, fun x => ?_, fun e => ?_, hinv.b.brnd⟩
  · rw [hinv.b.aps x]
    exact ⟨BcApCond.mono h1, BcApCond.mono h1'⟩
  · rw [hinv.b.brs e]
    exact ⟨BcBrCond.mono h1, BcBrCond.mono h1'⟩

/-- fuel adequacy, stated on the model: every node is discovered, discovery numbers are injective and
    below the final clock, every parent entry is an adjacency from a smaller to a larger number -/
theorem bicon_fuel_adequate (g : Graph) (etype : Option Nat) :
    (∀ n, n ∈ g.nodes.map (·.id) → nmGet (bcFinal g etype).disc n ≠ none) ∧
    (∀ x y k, nmGet (bcFinal g etype).disc x = some k → nmGet (bcFinal g etype).disc y = some k → x = y) ∧
    (∀ x k, nmGet (bcFinal g etype).disc x = some k → k < (bcFinal g etype).time) ∧
    (∀ c p, nmGet (bcFinal g etype).parent c = some p →
      c ∈ nbrSet g etype .both p ∧ tjNum (bcFinal g etype).disc p < tjNum (bcFinal g etype).disc c) := by
  rw [bcFinal_eq_F]
  rcases bcFinalF_spec g etype with ⟨hinv, hall⟩
  exact ⟨hall, hinv.d.inj, hinv.d.lt, fun c p h => ⟨(hinv.d.tree c p h).2.2.1, (hinv.d.tree c p h).2.2.2⟩⟩

theorem ap_exact (g : Graph) (etype : Option Nat) (hn : NodesUnique g) (x : Nat) :
    x ∈ articulationPoints g etype ↔ IsArticulation g etype x := by
  have _ := hn
  rcases bcFinal_forest g etype with ⟨F, haps, _, _⟩
  unfold articulationPoints
  rw [List.mem_eraseDups, haps x]
  constructor
  · intro hc
    have hx : x ∈ g.nodes.map (·.id) := by
      rcases hc with ⟨_, c1, _, _, _, _, p1, _⟩ | ⟨_, c, _, _, pc, _⟩
      · exact (F.tree c1 x p1).2.1
      · exact (F.tree c x pc).2.1
    have hxn := (hasNode_iff_mem g x).2 hx
    rcases (bcA_ap_iff F x hx).1 hc with ⟨a, b, hax, hbx, hwa, hwb, hno⟩
    exact ⟨a, b, hax, hbx, bc_walk_connT hwa hxn, bc_walk_connT hwb hxn, fun h => hno (bc_avoid_walk h).2⟩
  · rintro ⟨a, b, hax, hbx, hca, hcb, hno⟩
    have hxn : g.hasNode x = true := by
      cases hca with
      | refl => exact absurd rfl hax
      | step ha _ => exact ha.2.1
    have han : g.hasNode a = true := by
      rcases bc_connT_end hca with h | h
      · exact absurd h.symm hax
      · exact h
    have hx := (hasNode_iff_mem g x).1 hxn
    exact (bcA_ap_iff F x hx).2 ⟨a, b, hax, hbx, bc_connT_walk hca, bc_connT_walk hcb,
      fun h => hno (bc_walk_avoid h hax han)⟩

theorem ap_sound (g : Graph) (etype : Option Nat) (hn : NodesUnique g) (x : Nat)
    (h : x ∈ articulationPoints g etype) : IsArticulation g etype x := (ap_exact g etype hn x).1 h

theorem ap_complete (g : Graph) (etype : Option Nat) (hn : NodesUnique g) (x : Nat)
    (h : IsArticulation g etype x) : x ∈ articulationPoints g etype := (ap_exact g etype hn x).2 h

theorem bridges_exact (g : Graph) (etype : Option Nat) (hn : NodesUnique g) (a b : Nat) :
    (a, b) ∈ bridgePairs g etype ↔ (a < b ∧ IsBridgePair g etype a b) := by
  have _ := hn
  rcases bcFinal_forest g etype with ⟨F, _, hbrs, _⟩
  unfold bridgePairs
  rw [List.mem_reverse, hbrs (a, b), bcB_br_iff F a b]
  constructor
  · rintro ⟨hlt, ha, hadj, hno⟩
    have han := (hasNode_iff_mem g a).2 ha
    exact ⟨hlt, (mem_nbrSet_both_iff_adjacentT g etype a b han).1 hadj, fun h => hno (bc_without_walk h)⟩
  · rintro ⟨hlt, hadj, hno⟩
    exact ⟨hlt, (hasNode_iff_mem g a).1 hadj.2.1, bc_adjT_mem hadj, fun h => hno (bc_walk_without h hadj.2.1)⟩

theorem bridges_sound (g : Graph) (etype : Option Nat) (hn : NodesUnique g) (a b : Nat)
    (h : (a, b) ∈ bridgePairs g etype) : a < b ∧ IsBridgePair g etype a b := (bridges_exact g etype hn a b).1 h

theorem bridges_complete (g : Graph) (etype : Option Nat) (hn : NodesUnique g) (a b : Nat)
    (hlt : a < b) (h : IsBridgePair g etype a b) : (a, b) ∈ bridgePairs g etype :=
  (bridges_exact g etype hn a b).2 ⟨hlt, h⟩

theorem bridges_nodup (g : Graph) (etype : Option Nat) (hn : NodesUnique g) : (bridgePairs g etype).Nodup := by
  have _ := hn
  unfold bridgePairs
  exact (List.reverse_perm _).nodup_iff.2 (bcFinal_forest g etype).2.2.2

/-- the path 1—2—3 and the triangle 3—4—5—3 -/
def bcExG : Graph :=
  { nodes := [⟨1, none⟩, ⟨2, none⟩, ⟨3, none⟩, ⟨4, none⟩, ⟨5, none⟩],
    edges := [⟨1, 1, 2, false, 0, none, none⟩, ⟨2, 2, 3, false, 0, none, none⟩,
              ⟨3, 3, 4, false, 0, none, none⟩, ⟨4, 4, 5, false, 0, none, none⟩,
              ⟨5, 5, 3, false, 0, none, none⟩] }

/-- two nodes joined by two parallel edges (one of them directed) -/
def bcExP : Graph :=
  { nodes := [⟨1, none⟩, ⟨2, none⟩],
    edges := [⟨1, 1, 2, false, 0, none, none⟩, ⟨2, 2, 1, true, 0, none, none⟩] }

theorem bc_articulationPoints_eq_F (g : Graph) (etype : Option Nat) :
    articulationPoints g etype = (bcFinalF g etype).aps.eraseDups := by
  unfold articulationPoints; rw [bcFinal_eq_F]

theorem bc_bridgePairs_eq_F (g : Graph) (etype : Option Nat) :
    bridgePairs g etype = (bcFinalF g etype).bridges.reverse := by
  unfold bridgePairs; rw [bcFinal_eq_F]

theorem articulationPoints_bcExG : articulationPoints bcExG none = [2, 3] := by
  rw [bc_articulationPoints_eq_F]; decide +kernel

theorem bridgePairs_bcExG : bridgePairs bcExG none = [(2, 3), (1, 2)] := by
  rw [bc_bridgePairs_eq_F]; decide +kernel

example : articulationPoints bcExG none = [2, 3] := articulationPoints_bcExG

example : bridgePairs bcExG none = [(2, 3), (1, 2)] := bridgePairs_bcExG

/-- as sets: articulation points {2, 3}, bridges {(1,2), (2,3)} -/
example : (∀ x, x ∈ articulationPoints bcExG none ↔ (x = 2 ∨ x = 3)) ∧
    (∀ e, e ∈ bridgePairs bcExG none ↔ (e = (1, 2) ∨ e = (2, 3))) := by
  rw [articulationPoints_bcExG, bridgePairs_bcExG]
  constructor
  · intro x; simp only [List.mem_cons, List.not_mem_nil, or_false]
  · intro e; simp only [List.mem_cons, List.not_mem_nil, or_false]; exact Or.comm

theorem bicon_bcExP : bridgePairs bcExP none = [(1, 2)] ∧ articulationPoints bcExP none = [] := by
  rw [bc_bridgePairs_eq_F, bc_articulationPoints_eq_F]; decide +kernel

/-- simple view: a pair joined only by two parallel edges IS a bridge pair; no articulation point -/
example : bridgePairs bcExP none = [(1, 2)] ∧ articulationPoints bcExP none = [] := bicon_bcExP

/-- only edges of type 1: nothing is adjacent, nothing is reported -/
example : bridgePairs bcExG (some 1) = [] ∧ articulationPoints bcExG (some 1) = [] := by
  rw [bc_bridgePairs_eq_F, bc_articulationPoints_eq_F]; decide +kernel

end Neumann.Paths
