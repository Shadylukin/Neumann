import NeumannModel.Paths.Basics
/-
  C18 — proofs about the model of `find_weighted_path` (Dijkstra) for every graph.

  The invariant `Inv` is textbook Dijkstra with lazy deletion, stated over the settle list `S`:
  distances are costs of real walks, every open node with a distance has its live entry in the heap,
  settled nodes are below every heap entry and closed under relaxation, and the parent map leads from
  every node to an earlier-settled one.  `find_all_weighted_paths` runs the same loop and reuses it.
-/
namespace Neumann.Paths

theorem mem_dijCands {g : Graph} {u v : Nat} {e : Edge} (h : (v, e) ∈ dijCands g u) :
    e ∈ g.edges ∧ e.joins u v := by
  simp only [dijCands, List.mem_append, List.mem_filterMap, mem_outEdges_iff, mem_inEdges_iff] at h
  rcases h with ⟨a, ⟨ha, _⟩, h⟩ | ⟨a, ⟨ha, _⟩, h⟩
  · split at h
    · rename_i h1
      cases h
      exact ⟨ha, .inl ⟨by simpa using h1, rfl⟩⟩
    · split at h
      · rename_i h2
        cases h
        simp only [Bool.and_eq_true, Bool.not_eq_true', beq_iff_eq] at h2
        exact ⟨ha, .inr ⟨h2.1, h2.2, rfl⟩⟩
      · cases h
  · split at h
    · cases h
    · rename_i h1
      split at h
      · rename_i h2
        cases h
        exact ⟨ha, .inr ⟨by simpa using h1, by simpa using h2, rfl⟩⟩
      · cases h

theorem dijCands_complete {g : Graph} {u v : Nat} {e : Edge} (he : e ∈ g.edges) (hj : e.joins u v) :
    (v, e) ∈ dijCands g u := by
  unfold dijCands
  refine List.mem_append_left _ (List.mem_filterMap.2 ⟨e, mem_outEdges_of_joins he hj, ?_⟩)
  rcases hj with ⟨h1, h2⟩ | ⟨h1, h2, h3⟩
  · simp [h1, h2]
  · by_cases hs : e.src = u
    · simp [hs]; omega
    · simp [h1, h2, h3]
      exact fun h => h.symm

theorem dijCands_length_le (g : Graph) (u : Nat) : (dijCands g u).length ≤ 2 * g.edges.length := by
  unfold dijCands outEdges inEdges
  rw [List.length_append]
  refine Nat.le_trans (Nat.add_le_add (Nat.le_trans (List.length_filterMap_le _ _) (List.length_filter_le _ _))
    (Nat.le_trans (List.length_filterMap_le _ _) (List.length_filter_le _ _))) (by omega)

theorem entryBefore_le {a b : Int × Nat} (h : entryBefore a b = true) : a.1 ≤ b.1 := by
  unfold entryBefore at h
  simp only [Bool.or_eq_true, Bool.and_eq_true, decide_eq_true_eq, beq_iff_eq] at h
  omega

theorem not_entryBefore_le {a b : Int × Nat} (h : ¬ entryBefore a b = true) : b.1 ≤ a.1 := by
  unfold entryBefore at h
  simp only [Bool.or_eq_true, Bool.and_eq_true, decide_eq_true_eq, beq_iff_eq] at h
  omega

theorem bestOf_spec (b : Int × Nat) (xs : List (Int × Nat)) :
    bestOf b xs ∈ b :: xs ∧ ∀ x, x ∈ b :: xs → (bestOf b xs).1 ≤ x.1 := by
  induction xs generalizing b with
  | nil => simp [bestOf]
  | cons y ys ih =>
    rw [bestOf]
    by_cases hb : entryBefore y b = true
    · rw [if_pos hb]
      obtain ⟨h1, h2⟩ := ih y
      refine ⟨List.mem_cons_of_mem _ h1, ?_⟩
      intro x hx
      rcases List.mem_cons.1 hx with rfl | hx
      · exact Int.le_trans (h2 y List.mem_cons_self) (entryBefore_le hb)
      · exact h2 x hx
    · rw [if_neg hb]
      obtain ⟨h1, h2⟩ := ih b
      refine ⟨(List.mem_cons.1 h1).elim (fun h => by rw [h]; exact List.mem_cons_self)
        (fun h => List.mem_cons_of_mem _ (List.mem_cons_of_mem _ h)), ?_⟩
      intro x hx
      rcases List.mem_cons.1 hx with rfl | hx
      · exact h2 _ List.mem_cons_self
      · rcases List.mem_cons.1 hx with rfl | hx
        · exact Int.le_trans (h2 b List.mem_cons_self) (not_entryBefore_le hb)
        · exact h2 x (List.mem_cons_of_mem _ hx)

theorem popMin_spec {h h' : List (Int × Nat)} {b : Int × Nat} (hp : popMin h = some (b, h')) :
    b ∈ h ∧ h' = h.erase b ∧ ∀ x, x ∈ h → b.1 ≤ x.1 := by
  cases h with
  | nil => simp [popMin] at hp
  | cons x xs =>
    simp only [popMin, Option.some.injEq, Prod.mk.injEq] at hp
    obtain ⟨rfl, rfl⟩ := hp
    exact ⟨(bestOf_spec x xs).1, rfl, (bestOf_spec x xs).2⟩

theorem popMin_none {h : List (Int × Nat)} (hp : popMin h = none) : h = [] := by
  cases h with
  | nil => rfl
  | cons x xs => simp [popMin] at hp

theorem length_erase_popped {h : List (Int × Nat)} {b : Int × Nat} (hm : b ∈ h) :
    (h.erase b).length + 1 = h.length := by
  have := List.length_erase_of_mem hm
  have := List.length_pos_of_mem hm
  omega

theorem edgeWeight_ok {e : Edge} (h : 0 ≤ e.w) : edgeWeight e = .ok e.w := by
  unfold edgeWeight
  unfold Edge.w at h ⊢
  cases hw : e.weight with
  | none => rfl
  | some w =>
    simp only [hw] at h ⊢
    have : ¬ w < 0 := by omega
    simp [this]

theorem edgeWeight_error {e : Edge} {id : Nat} (h : edgeWeight e = .error id) : e.id = id ∧ e.w < 0 := by
  unfold edgeWeight at h
  unfold Edge.w
  cases hw : e.weight with
  | none => simp [hw] at h
  | some w =>
    simp only [hw] at h ⊢
    by_cases hlt : w < 0
    · simp only [hlt, if_true, Except.error.injEq] at h
      exact ⟨h, hlt⟩
    · simp [hlt] at h

theorem improves_some {nc c : Int} (h : improves nc (some c) = true) : nc < c := by
  simpa [improves] using h

theorem not_improves {nc : Int} {o : Option Int} (h : ¬ improves nc o = true) : ∃ c, o = some c ∧ c ≤ nc := by
  cases o with
  | none => simp [improves] at h
  | some c => exact ⟨c, rfl, by simpa [improves] using h⟩

theorem not_stale {c cu : Int} (h : ¬ stale c (some cu) = true) : c ≤ cu := by
  simpa [stale] using h

/-! ### negative weights are reported faithfully (no hypothesis on the graph) -/

theorem dijRelax_error {cur : Nat} {cost : Int} {id : Nat} :
    ∀ (cs : List (Nat × Edge)) (st : DijSt), dijRelax cur cost cs st = .error id →
      ∃ v e, (v, e) ∈ cs ∧ e.id = id ∧ e.w < 0 := by
  intro cs
  induction cs with
  | nil => intro st h; simp [dijRelax] at h
  | cons a rest ih =>
    intro st h
    obtain ⟨nb, e⟩ := a
    rw [dijRelax] at h
    cases hw : edgeWeight e with
    | error id' =>
      simp only [hw, Except.error.injEq] at h
      subst h
      exact ⟨nb, e, by simp, edgeWeight_error hw⟩
    | ok w =>
      simp only [hw] at h
      split at h
      · obtain ⟨v, e', hm, h2⟩ := ih _ h
        exact ⟨v, e', by simp [hm], h2⟩
      · obtain ⟨v, e', hm, h2⟩ := ih _ h
        exact ⟨v, e', by simp [hm], h2⟩

theorem dijLoop_error {g : Graph} {t : Nat} {id : Nat} :
    ∀ (fuel : Nat) (st : DijSt), dijLoop g t fuel st = .error id →
      ∃ e, e ∈ g.edges ∧ e.id = id ∧ e.w < 0 := by
  intro fuel
  induction fuel with
  | zero => intro st h; simp [dijLoop] at h
  | succ n ih =>
    intro st h
    rw [dijLoop] at h
    split at h
    · simp at h
    · rename_i cost u heap' _
      split at h
      · simp at h
      · split at h
        · exact ih _ h
        · split at h
          · rename_i id' hr
            cases h
            obtain ⟨v, e, hm, h2⟩ := dijRelax_error _ _ hr
            exact ⟨e, (mem_dijCands hm).1, h2⟩
          · exact ih _ h

def dijInit (s : Nat) : DijSt := { dist := [(s, 0)], parent := [], heap := [(0, s)] }

theorem findWeightedPath_eq_of_ne {g : Graph} {s t : Nat} (hs : g.hasNode s = true)
    (ht : g.hasNode t = true) (hst : s ≠ t) :
    findWeightedPath g s t =
      match dijLoop g t (dijFuel g) (dijInit s) with
      | .error id => .error (.negativeWeight id)
      | .ok none => .error .pathNotFound
      | .ok (some (cost, p)) =>
        let r := reconstruct p s (p.length + 1) t [] []
        .ok { nodes := r.nodes, edges := r.edges, total := cost } := by
  have h3 : (s == t) = false := by simpa using hst
  unfold findWeightedPath dijInit
  simp only [hs, ht, h3, Bool.not_true, Bool.false_eq_true, if_false]
  rfl

theorem findWeightedPath_cases (g : Graph) (s t : Nat) :
    (g.hasNode s = false ∧ findWeightedPath g s t = .error (.nodeNotFound s)) ∨
    (g.hasNode t = false ∧ findWeightedPath g s t = .error (.nodeNotFound t)) ∨
    (s = t ∧ findWeightedPath g s t = .ok { nodes := [s], edges := [], total := 0 }) ∨
    (g.hasNode s = true ∧ g.hasNode t = true ∧ s ≠ t) := by
  cases hs : g.hasNode s
  · exact .inl ⟨rfl, by simp [findWeightedPath, hs]⟩
  · cases ht : g.hasNode t
    · exact .inr (.inl ⟨rfl, by simp [findWeightedPath, hs, ht]⟩)
    · by_cases hst : s = t
      · exact .inr (.inr (.inl ⟨hst, by simp [findWeightedPath, ht, hst]⟩))
      · exact .inr (.inr (.inr ⟨rfl, rfl, hst⟩))

theorem dijkstra_negative_reported (g : Graph) (s t : Nat) (id : Nat)
    (h : findWeightedPath g s t = .error (.negativeWeight id)) :
    ∃ e, e ∈ g.edges ∧ e.id = id ∧ e.w < 0 := by
  rcases findWeightedPath_cases g s t with ⟨_, h'⟩ | ⟨_, h'⟩ | ⟨_, h'⟩ | ⟨hs, ht, hst⟩
  · rw [h'] at h; cases h
  · rw [h'] at h; cases h
  · rw [h'] at h; cases h
  · rw [findWeightedPath_eq_of_ne hs ht hst] at h
    split at h
    · rename_i id' hl
      cases h
      exact dijLoop_error _ _ hl
    · cases h
    · cases h

theorem WWalk.append {g : Graph} {a b d : Nat} {c1 c2 : Int}
    (h1 : WWalk g a b c1) (h2 : WWalk g b d c2) : WWalk g a d (c1 + c2) := by
  induction h1 with
  | nil u => rw [Int.zero_add]; exact h2
  | @cons u v w c' e hs _ ih =>
    rw [Int.add_assoc]; exact WWalk.cons e hs (ih h2)

theorem WWalk.snoc {g : Graph} {a b d : Nat} {c : Int} {e : Edge}
    (h : WWalk g a b c) (hs : WStep g b d e) : WWalk g a d (c + e.w) := by
  simpa using h.append (WWalk.cons e hs (WWalk.nil d))

theorem WWalk.nonneg {g : Graph} (hnn : NonNeg g) {a b : Nat} {c : Int} (h : WWalk g a b c) : 0 ≤ c := by
  induction h with
  | nil u => omega
  | cons e hs _ ih =>
    have := hnn e hs.1
    omega

theorem WWalk.mem_endpoints {g : Graph} {a b : Nat} {c : Int} (h : WWalk g a b c) :
    b = a ∨ b ∈ endpoints g := by
  induction h with
  | nil u => exact .inl rfl
  | cons e hs _ ih =>
    rcases ih with rfl | ih
    · exact .inr (joins_mem_endpoints hs.1 hs.2)
    · exact .inr ih

/-- position from the end of the settle list (newest first): `0` = absent -/
def rank : List Nat → Nat → Nat
  | [], _ => 0
  | x :: xs, v => if x = v then xs.length + 1 else rank xs v

theorem rank_le (S : List Nat) (v : Nat) : rank S v ≤ S.length := by
  induction S with
  | nil => simp [rank]
  | cons x xs ih =>
    simp only [rank, List.length_cons]
    split <;> omega

theorem rank_pos {S : List Nat} {v : Nat} (h : v ∈ S) : 1 ≤ rank S v := by
  induction S with
  | nil => simp at h
  | cons x xs ih =>
    simp only [rank]
    split
    · omega
    · rename_i hne
      exact ih ((List.mem_cons.1 h).resolve_left (fun h => hne h.symm))

theorem rank_cons_ne {u v : Nat} (S : List Nat) (h : u ≠ v) : rank (u :: S) v = rank S v := by
  simp [rank, h]

theorem rank_cons_self (u : Nat) (S : List Nat) : rank (u :: S) u = S.length + 1 := by
  simp [rank]

/-- expansion time of a node (`|S| + 1` for a node not yet expanded) -/
def expTime (S : List Nat) (v : Nat) : Nat := if v ∈ S then rank S v else S.length + 1

theorem expTime_pos (S : List Nat) (v : Nat) : 1 ≤ expTime S v := by
  unfold expTime
  split
  · rename_i h; exact rank_pos h
  · omega

theorem expTime_le (S : List Nat) (v : Nat) : expTime S v ≤ S.length + 1 := by
  unfold expTime
  split
  · have := rank_le S v; omega
  · omega

theorem expTime_lt {S : List Nat} {p v : Nat} (hp : p ∈ S) (h : v ∈ S → rank S p < rank S v) :
    expTime S p < expTime S v := by
  unfold expTime
  rw [if_pos hp]
  split
  · rename_i hv; exact h hv
  · have := rank_le S p; omega

/-- `S`: nodes already expanded (newest first).  `u`, `pend`: the node being expanded and the
    candidates not yet relaxed (`pend = []` between expansions). -/
structure Inv (g : Graph) (s : Nat) (S : List Nat) (u : Nat) (pend : List (Nat × Edge)) (st : DijSt) : Prop where
  src0 : lookupDist st.dist s = some 0
  sound : ∀ v c, lookupDist st.dist v = some c → WWalk g s v c
  heapUp : ∀ c v, (c, v) ∈ st.heap → ∃ c', lookupDist st.dist v = some c' ∧ c' ≤ c
  heapLive : ∀ v c, lookupDist st.dist v = some c → v ∉ S → (c, v) ∈ st.heap
  settled : ∀ x, x ∈ S → ∃ cx, lookupDist st.dist x = some cx ∧ ∀ c v, (c, v) ∈ st.heap → cx ≤ c
  closed : ∀ x, x ∈ S → ∀ v e, e ∈ g.edges → e.joins x v →
    (x = u ∧ (v, e) ∈ pend) ∨
    ∃ cx cv, lookupDist st.dist x = some cx ∧ lookupDist st.dist v = some cv ∧ cv ≤ cx + e.w
  par : ∀ v c, lookupDist st.dist v = some c → v ≠ s →
    ∃ p eid e cp, lookupParent st.parent v = some (p, eid) ∧ e ∈ g.edges ∧ e.id = eid ∧ e.joins p v ∧
      lookupDist st.dist p = some cp ∧ c = cp + e.w ∧ p ∈ S ∧ (v ∈ S → rank S p < rank S v)
  nodup : S.Nodup
  len : st.parent.length + 1 = st.dist.length

theorem inv_init (g : Graph) (s u : Nat) : Inv g s [] u [] (dijInit s) := by
  have hl : ∀ v c, lookupDist [(s, 0)] v = some c → v = s ∧ c = 0 := by
    intro v c h
    rcases lookupDist_cons_some.1 h with ⟨rfl, rfl⟩ | ⟨_, h⟩
    · exact ⟨rfl, rfl⟩
    · cases h
  refine ⟨by simp [dijInit, lookupDist_cons], ?_, ?_, ?_, ?_, ?_, ?_, List.nodup_nil, rfl⟩
  · intro v c h
    obtain ⟨rfl, rfl⟩ := hl v c h
    exact WWalk.nil _
  · intro c v h
    obtain ⟨rfl, rfl⟩ : c = 0 ∧ v = s := by simpa [dijInit] using h
    exact ⟨0, by simp [dijInit, lookupDist_cons], Int.le_refl _⟩
  · intro v c h _
    obtain ⟨rfl, rfl⟩ := hl v c h
    exact List.mem_cons_self
  · intro x hx; cases hx
  · intro x hx; cases hx
  · intro v c h hne
    exact absurd (hl v c h).1 hne

section
variable {g : Graph} {s : Nat} {S : List Nat} {u u0 : Nat} {pend : List (Nat × Edge)} {st : DijSt} {t : Nat}
  {c : Int}

theorem Inv.card_le (hinv : Inv g s S u pend st) : S.length ≤ 2 * g.edges.length + 1 :=
  length_le_of_endpoints g s S hinv.nodup fun x hx =>
    (hinv.settled x hx).elim fun cx h => (hinv.sound x cx h.1).mem_endpoints

theorem Inv.settled_le (hinv : Inv g s S u0 pend st) (hmem : (c, u) ∈ st.heap)
    (hdu : lookupDist st.dist u = some c) {x : Nat} {cx : Int}
    (hx : x ∈ u :: S) (hdx : lookupDist st.dist x = some cx) : cx ≤ c := by
  rcases List.mem_cons.1 hx with rfl | hx
  · rw [hdu] at hdx; cases hdx; exact Int.le_refl _
  · obtain ⟨cx', h1, h2⟩ := hinv.settled x hx
    rw [hdx] at h1
    cases h1
    exact h2 c u hmem

theorem Inv.relax_improve (hnn : NonNeg g) (hu : u ∈ S) {nb : Nat} {e : Edge} {rest : List (Nat × Edge)}
    (hinv : Inv g s S u ((nb, e) :: rest) st)
    (hdu : lookupDist st.dist u = some c)
    (hbound : ∀ x cx, x ∈ S → lookupDist st.dist x = some cx → cx ≤ c)
    (heE : e ∈ g.edges) (hjoin : e.joins u nb)
    (himp : improves (c + e.w) (lookupDist st.dist nb) = true) :
    nb ∉ S ∧ nb ≠ s ∧
    Inv g s S u rest
      { dist := (nb, c + e.w) :: st.dist, parent := (nb, u, e.id) :: st.parent,
        heap := (c + e.w, nb) :: st.heap } := by
  have hw0 : 0 ≤ e.w := hnn e heE
  have hc0 : 0 ≤ c := (hinv.sound u c hdu).nonneg hnn
  have hold : ∀ cv, lookupDist st.dist nb = some cv → c + e.w < cv :=
    fun cv h => improves_some (h ▸ himp)
  have hnbS : nb ∉ S := by
    intro hmem
    obtain ⟨cx, hcx, _⟩ := hinv.settled nb hmem
    have := hbound nb cx hmem hcx
    have := hold cx hcx
    omega
  have hnbu : nb ≠ u := fun h => hnbS (h ▸ hu)
  have hnbs : nb ≠ s := by
    intro h
    have := hold 0 (h ▸ hinv.src0)
    omega
  have hkeep : ∀ x, x ∈ S → nb ≠ x := fun x hx h => hnbS (h ▸ hx)
  have hsame : ∀ {x : Nat}, nb ≠ x → lookupDist ((nb, c + e.w) :: st.dist) x = lookupDist st.dist x :=
    fun hx => by rw [lookupDist_cons, if_neg hx]
  have hnew : lookupDist ((nb, c + e.w) :: st.dist) nb = some (c + e.w) := by
    rw [lookupDist_cons, if_pos rfl]
  refine ⟨hnbS, hnbs, ?_, ?_, ?_, ?_, ?_, ?_, ?_, hinv.nodup, ?_⟩
  · show lookupDist ((nb, c + e.w) :: st.dist) s = some 0
    rw [hsame hnbs]; exact hinv.src0
  · intro v cv h
    rcases lookupDist_cons_some.1 h with ⟨rfl, rfl⟩ | ⟨_, h⟩
    · exact (hinv.sound u c hdu).snoc ⟨heE, hjoin⟩
    · exact hinv.sound v cv h
  · intro c' v h
    show ∃ c'', lookupDist ((nb, c + e.w) :: st.dist) v = some c'' ∧ c'' ≤ c'
    by_cases hv : nb = v
    · subst hv
      refine ⟨c + e.w, hnew, ?_⟩
      rcases List.mem_cons.1 h with h | h
      · cases h; exact Int.le_refl _
      · obtain ⟨c'', h1, h2⟩ := hinv.heapUp c' nb h
        have := hold c'' h1
        omega
    · rw [hsame hv]
      rcases List.mem_cons.1 h with h | h
      · cases h; exact absurd rfl hv
      · exact hinv.heapUp c' v h
  · intro v cv h hvS
    rcases lookupDist_cons_some.1 h with ⟨rfl, rfl⟩ | ⟨_, h⟩
    · exact List.mem_cons_self
    · exact List.mem_cons_of_mem _ (hinv.heapLive v cv h hvS)
  · intro x hx
    obtain ⟨cx, hcx, hle⟩ := hinv.settled x hx
    refine ⟨cx, (hsame (hkeep x hx)).trans hcx, ?_⟩
    intro c' v h
    rcases List.mem_cons.1 h with h | h
    · cases h
      have := hbound x cx hx hcx
      omega
    · exact hle c' v h
  · intro x hx v e' he' hj'
    show _ ∨ ∃ cx cv, lookupDist ((nb, c + e.w) :: st.dist) x = some cx ∧
      lookupDist ((nb, c + e.w) :: st.dist) v = some cv ∧ cv ≤ cx + e'.w
    rw [hsame (hkeep x hx)]
    rcases hinv.closed x hx v e' he' hj' with ⟨hxu, hm⟩ | ⟨cx, cv, h1, h2, h3⟩
    · rcases List.mem_cons.1 hm with hm | hm
      · cases hm
        subst hxu
        exact .inr ⟨c, c + e.w, hdu, hnew, Int.le_refl _⟩
      · exact .inl ⟨hxu, hm⟩
    · right
      by_cases hv : nb = v
      · subst hv
        have := hold cv h2
        exact ⟨cx, c + e.w, h1, hnew, by omega⟩
      · exact ⟨cx, cv, h1, (hsame hv).trans h2, h3⟩
  · intro v cv h hvs
    show ∃ p eid e' cp, lookupParent ((nb, u, e.id) :: st.parent) v = some (p, eid) ∧ _ ∧ _ ∧ _ ∧
      lookupDist ((nb, c + e.w) :: st.dist) p = some cp ∧ _
    rw [lookupParent_cons]
    rcases lookupDist_cons_some.1 h with ⟨rfl, rfl⟩ | ⟨hv, h⟩
    · exact ⟨u, e.id, e, c, if_pos rfl, heE, rfl, hjoin, (hsame hnbu).trans hdu, rfl, hu,
        fun h => absurd h hnbS⟩
    · obtain ⟨p, eid, e', cp, h1, h2, h3, h4, h5, h6, h7, h8⟩ := hinv.par v cv h hvs
      exact ⟨p, eid, e', cp, by rw [if_neg hv]; exact h1, h2, h3, h4, (hsame (hkeep p h7)).trans h5,
        h6, h7, h8⟩
  · simp only [List.length_cons]; have := hinv.len; omega

theorem Inv.relax_skip {nb : Nat} {e : Edge} {rest : List (Nat × Edge)}
    (hinv : Inv g s S u ((nb, e) :: rest) st)
    (hdu : lookupDist st.dist u = some c)
    (himp : ¬ improves (c + e.w) (lookupDist st.dist nb) = true) :
    Inv g s S u rest st := by
  refine { hinv with closed := ?_ }
  intro x hx v e' he' hj'
  rcases hinv.closed x hx v e' he' hj' with ⟨hxu, hm⟩ | h
  · rcases List.mem_cons.1 hm with hm | hm
    · cases hm
      subst hxu
      obtain ⟨cv, hd, hle⟩ := not_improves himp
      exact .inr ⟨c, cv, hdu, hd, hle⟩
    · exact .inl ⟨hxu, hm⟩
  · exact .inr h

theorem dijRelax_inv (hnn : NonNeg g) (hu : u ∈ S) :
    ∀ (pend : List (Nat × Edge)) (st : DijSt),
      Inv g s S u pend st →
      lookupDist st.dist u = some c →
      (∀ x cx, x ∈ S → lookupDist st.dist x = some cx → cx ≤ c) →
      (∀ v e, (v, e) ∈ pend → e ∈ g.edges ∧ e.joins u v) →
      ∃ st', dijRelax u c pend st = .ok st' ∧ Inv g s S u [] st' ∧
        st'.heap.length ≤ st.heap.length + pend.length := by
  intro pend
  induction pend with
  | nil =>
    intro st hinv _ _ _
    exact ⟨st, by simp [dijRelax], hinv, by simp⟩
  | cons a rest ih =>
    intro st hinv hdu hbound hpend
    obtain ⟨nb, e⟩ := a
    obtain ⟨heE, hjoin⟩ := hpend nb e List.mem_cons_self
    have hrest : ∀ v e, (v, e) ∈ rest → e ∈ g.edges ∧ e.joins u v :=
      fun v e h => hpend v e (List.mem_cons_of_mem _ h)
    rw [dijRelax, edgeWeight_ok (hnn e heE)]
    simp only
    by_cases himp : improves (c + e.w) (lookupDist st.dist nb) = true
    · rw [if_pos himp]
      obtain ⟨hnbS, _, hinv'⟩ := hinv.relax_improve hnn hu hdu hbound heE hjoin himp
      have hsame : ∀ x, x ∈ S → lookupDist ((nb, c + e.w) :: st.dist) x = lookupDist st.dist x :=
        fun x hx => by rw [lookupDist_cons, if_neg (fun (h : nb = x) => hnbS (h ▸ hx))]
      obtain ⟨st', h1, h2, h3⟩ := ih _ hinv' ((hsame u hu).trans hdu)
        (fun x cx hx h => hbound x cx hx ((hsame x hx).symm.trans h)) hrest
      exact ⟨st', h1, h2, by simp only [List.length_cons] at h3 ⊢; omega⟩
    · rw [if_neg himp]
      obtain ⟨st', h1, h2, h3⟩ := ih st (hinv.relax_skip hdu himp) hdu hbound hrest
      exact ⟨st', h1, h2, by simp only [List.length_cons]; omega⟩

theorem dijRelax_noop :
    ∀ (pend : List (Nat × Edge)) (st : DijSt),
      (∀ v e, (v, e) ∈ pend → edgeWeight e = .ok e.w ∧ improves (c + e.w) (lookupDist st.dist v) = false) →
      dijRelax u c pend st = .ok st := by
  intro pend
  induction pend with
  | nil => intro st _; simp [dijRelax]
  | cons a rest ih =>
    intro st h
    obtain ⟨nb, e⟩ := a
    obtain ⟨h1, h2⟩ := h nb e (by simp)
    rw [dijRelax, h1]
    simp only [h2]
    exact ih st (fun v e' hm => h v e' (by simp [hm]))

theorem inv_erase (x : Int × Nat) (hinv : Inv g s S u pend st)
    (hx : ∀ v cv, lookupDist st.dist v = some cv → v ∉ S → (cv, v) ≠ x) :
    Inv g s S u pend { dist := st.dist, parent := st.parent, heap := st.heap.erase x } := by
  refine ⟨hinv.src0, hinv.sound, ?_, ?_, ?_, hinv.closed, hinv.par, hinv.nodup, hinv.len⟩
  · intro c v h
    exact hinv.heapUp c v (List.mem_of_mem_erase h)
  · intro v cv h hvS
    exact (List.mem_erase_of_ne (hx v cv h hvS)).2 (hinv.heapLive v cv h hvS)
  · intro y hy
    obtain ⟨cy, h1, h2⟩ := hinv.settled y hy
    exact ⟨cy, h1, fun c v h => h2 c v (List.mem_of_mem_erase h)⟩

theorem inv_settle (hinv : Inv g s S u0 [] st) (huS : u ∉ S) (hdu : lookupDist st.dist u = some c)
    (hmin : ∀ c' v, (c', v) ∈ st.heap → c ≤ c') :
    Inv g s (u :: S) u (dijCands g u) st := by
  refine ⟨hinv.src0, hinv.sound, hinv.heapUp, ?_, ?_, ?_, ?_, ?_, hinv.len⟩
  · intro v cv h hv
    exact hinv.heapLive v cv h (fun hm => hv (List.mem_cons_of_mem _ hm))
  · intro x hx
    rcases List.mem_cons.1 hx with rfl | hx
    · exact ⟨c, hdu, hmin⟩
    · exact hinv.settled x hx
  · intro x hx v e he hj
    rcases List.mem_cons.1 hx with rfl | hx
    · exact .inl ⟨rfl, dijCands_complete he hj⟩
    · rcases hinv.closed x hx v e he hj with ⟨_, hm⟩ | h
      · cases hm
      · exact .inr h
  · intro v cv h hvs
    obtain ⟨p, eid, e, cp, h1, h2, h3, h4, h5, h6, h7, h8⟩ := hinv.par v cv h hvs
    refine ⟨p, eid, e, cp, h1, h2, h3, h4, h5, h6, List.mem_cons_of_mem _ h7, ?_⟩
    intro hv
    rw [rank_cons_ne S (fun (h : u = p) => huS (h ▸ h7))]
    rcases List.mem_cons.1 hv with rfl | hv
    · rw [rank_cons_self]
      have := rank_le S p
      omega
    · rw [rank_cons_ne S (fun (h : u = v) => huS (h ▸ hv))]
      exact h8 hv
  · exact List.nodup_cons.2 ⟨huS, hinv.nodup⟩

/-- pops still possible: entries in the heap + candidates of the nodes not yet expanded -/
def pot (g : Graph) (st : DijSt) (S : List Nat) : Nat :=
  st.heap.length + 2 * g.edges.length * (2 * g.edges.length + 1 - S.length)

/-- an expansion (one pop, at most `k ≤ 2|E|` pushes, one more settled node out of at most `2|E|+1`)
    lowers the potential: `a`, `b` are the heap lengths before and after, `n` the settled nodes before -/
theorem pot_expand {E a b k n : Nat} (hk : k ≤ 2 * E) (hn : n + 1 ≤ 2 * E + 1) (hb : b + 1 ≤ a + k) :
    b + 2 * E * (2 * E + 1 - (n + 1)) + 1 ≤ a + 2 * E * (2 * E + 1 - n) := by
  have hsplit : 2 * E + 1 - n = (2 * E + 1 - (n + 1)) + 1 := by omega
  rw [hsplit, Nat.mul_succ]
  generalize 2 * E * (2 * E + 1 - (n + 1)) = X
  omega

theorem dijFuel_covers (g : Graph) (s : Nat) : pot g (dijInit s) [] ≤ dijFuel g := by
  unfold pot dijFuel dijInit
  simp only [List.length_cons, List.length_nil, Nat.sub_zero]
  have h : 2 * g.edges.length * (2 * g.edges.length + 1) ≤ (2 * g.edges.length + 2) * (2 * g.edges.length + 2) :=
    Nat.mul_le_mul (by omega) (by omega)
  omega

theorem walk_bound (hnn : NonNeg g)
    (hinv : Inv g s S u0 [] st) (m : Int) (hm : ∀ c v, (c, v) ∈ st.heap → m ≤ c) :
    ∀ x v w, WWalk g x v w → x ∈ S → ∀ cx, lookupDist st.dist x = some cx →
      (∃ cv, lookupDist st.dist v = some cv ∧ cv ≤ cx + w) ∨ m ≤ cx + w := by
  intro x v w hw
  induction hw with
  | nil a =>
    intro _ cx hcx
    left; exact ⟨cx, hcx, by omega⟩
  | @cons a b d c' e hs hw' ih =>
    intro haS cx hcx
    have hc' : 0 ≤ c' := hw'.nonneg hnn
    rcases hinv.closed a haS b e hs.1 hs.2 with ⟨_, hmem⟩ | ⟨cx', cb, h1, h2, h3⟩
    · cases hmem
    · rw [hcx] at h1
      cases h1
      by_cases hbS : b ∈ S
      · rcases ih hbS cb h2 with ⟨cv, h4, h5⟩ | h4
        · left; exact ⟨cv, h4, by omega⟩
        · right; omega
      · right
        have := hm cb b (hinv.heapLive b cb h2 hbS)
        omega

theorem walk_bound_src (hnn : NonNeg g)
    (hinv : Inv g s S u0 [] st) (m : Int) (hm : ∀ c v, (c, v) ∈ st.heap → m ≤ c)
    {v : Nat} {c' : Int} (hw : WWalk g s v c') :
    (∃ cv, lookupDist st.dist v = some cv ∧ cv ≤ c') ∨ m ≤ c' := by
  by_cases hsS : s ∈ S
  · rcases walk_bound hnn hinv m hm s v c' hw hsS 0 hinv.src0 with ⟨cv, h1, h2⟩ | h
    · left; exact ⟨cv, h1, by omega⟩
    · right; omega
  · right
    have := hm 0 s (hinv.heapLive s 0 hinv.src0 hsS)
    have := hw.nonneg hnn
    omega

theorem final_dist (hinv : Inv g s S u0 [] st) (htS : t ∉ S) (hmem : (c, t) ∈ st.heap)
    (hmin : ∀ c' v, (c', v) ∈ st.heap → c ≤ c') : lookupDist st.dist t = some c := by
  obtain ⟨ct, h1, h2⟩ := hinv.heapUp c t hmem
  have := hmin ct t (hinv.heapLive t ct h1 htS)
  have : ct = c := by omega
  rw [h1, this]

theorem final_opt (hnn : NonNeg g) (hinv : Inv g s S u0 [] st) (htS : t ∉ S)
    (hmin : ∀ c' v, (c', v) ∈ st.heap → c ≤ c') : ∀ c', WWalk g s t c' → c ≤ c' := by
  intro c' hw
  rcases walk_bound_src hnn hinv c hmin hw with ⟨ct, h1, h2⟩ | h
  · have := hmin ct t (hinv.heapLive t ct h1 htS)
    omega
  · exact h

theorem final_none (hnn : NonNeg g)
    (hinv : Inv g s S u0 [] st) (htS : t ∉ S) (hempty : st.heap = []) : ¬ ∃ c, WWalk g s t c := by
  rintro ⟨c', hw⟩
  have hm : ∀ c v, (c, v) ∈ st.heap → c' + 1 ≤ c := by
    intro c v h; rw [hempty] at h; cases h
  rcases walk_bound_src hnn hinv (c' + 1) hm hw with ⟨ct, h1, _⟩ | h
  · have := hinv.heapLive t ct h1 htS
    rw [hempty] at this; cases this
  · omega

theorem final_path (hinv : Inv g s S u0 [] st) (htS : t ∉ S) (hdt : lookupDist st.dist t = some c) :
    (reconstruct st.parent s (st.parent.length + 1) t [] []).nodes.head? = some s ∧
    (reconstruct st.parent s (st.parent.length + 1) t [] []).nodes.getLast? = some t ∧
    WChainOk g (reconstruct st.parent s (st.parent.length + 1) t [] []).nodes
      (reconstruct st.parent s (st.parent.length + 1) t [] []).edges c := by
  -- `t` and the settled nodes are distinct keys of `dist`, which has one entry more than `parent`
  have hfuel : expTime S t - 1 < st.parent.length + 1 := by
    have hsub : t :: S ⊆ st.dist.map Prod.fst := by
      intro x hx
      rcases List.mem_cons.1 hx with rfl | hx
      · exact lookupDist_mem_keys hdt
      · exact (hinv.settled x hx).elim fun cx h => lookupDist_mem_keys h.1
    have h1 := List.Nodup.length_le_of_subset (List.nodup_cons.2 ⟨htS, hinv.nodup⟩) hsub
    have hl := hinv.len
    have := expTime_le S t
    simp only [List.length_cons, List.length_map] at h1
    omega
  -- walking back, the chain built so far weighs what is left of `c` below the current node
  obtain ⟨ns', es', hr, cc, hd, hlast, hchain⟩ := reconstruct_induct st.parent s
    (fun cur ns es => ∃ cc, lookupDist st.dist cur = some cc ∧ (cur :: ns).getLast? = some t ∧
      WChainOk g (cur :: ns) es (c - cc))
    (fun v => expTime S v - 1)
    (by
      rintro cur ns es ⟨cc, hd, hlast, hchain⟩ hcs
      obtain ⟨p, eid, e, cp, h1, h2, h3, h4, h5, h6, h7, h8⟩ := hinv.par cur cc hd hcs
      refine ⟨p, eid, h1, ⟨cp, h5, by rw [List.getLast?_cons_cons]; exact hlast, ?_⟩, ?_⟩
      · rw [wchain_cons]
        refine ⟨e, h2, h3, h4, ?_⟩
        have : c - cp - e.w = c - cc := by omega
        rw [this]; exact hchain
      · have := expTime_lt h7 h8
        have := expTime_pos S p
        omega)
    (st.parent.length + 1) t [] [] ⟨c, hdt, rfl, by rw [wchain_single]; omega⟩ hfuel
  rw [hr]
  rw [hinv.src0] at hd
  cases hd
  rw [Int.sub_zero] at hchain
  exact ⟨rfl, hlast, hchain⟩

end

def Good (g : Graph) (s t : Nat) (c : Int) (P : ParentMap) : Prop :=
  (∀ c', WWalk g s t c' → c ≤ c') ∧ WWalk g s t c ∧
  (reconstruct P s (P.length + 1) t [] []).nodes.head? = some s ∧
  (reconstruct P s (P.length + 1) t [] []).nodes.getLast? = some t ∧
  WChainOk g (reconstruct P s (P.length + 1) t [] []).nodes (reconstruct P s (P.length + 1) t [] []).edges c

/-- postcondition of `dijLoop`; `fuelOk` = "the fuel covers the potential of the start state" -/
def Post (g : Graph) (s t : Nat) (fuelOk : Prop) : Except Nat (Option (Int × ParentMap)) → Prop
  | .error _ => False
  | .ok none => fuelOk → ¬ ∃ c, WWalk g s t c
  | .ok (some (c, P)) => Good g s t c P

theorem Post.mono {g : Graph} {s t : Nat} {A B : Prop} (hab : A → B) :
    ∀ r, Post g s t B r → Post g s t A r
  | .error _, h => h
  | .ok none, h => fun ha => h (hab ha)
  | .ok (some (_, _)), h => h

theorem dijLoop_post {g : Graph} (hnn : NonNeg g) {s t : Nat} :
    ∀ (fuel : Nat) (st : DijSt) (S : List Nat) (u0 : Nat), Inv g s S u0 [] st → t ∉ S →
      Post g s t (pot g st S ≤ fuel) (dijLoop g t fuel st) := by
  intro fuel
  induction fuel with
  | zero =>
    intro st S u0 hinv htS
    rw [dijLoop]
    intro hpot
    have : st.heap.length = 0 := by unfold pot at hpot; omega
    exact final_none hnn hinv htS (List.eq_nil_of_length_eq_zero this)
  | succ n ih =>
    intro st S u0 hinv htS
    rw [dijLoop]
    cases hp : popMin st.heap with
    | none =>
      simp only
      intro _
      exact final_none hnn hinv htS (popMin_none hp)
    | some r =>
      obtain ⟨⟨c, u⟩, h'⟩ := r
      obtain ⟨hmem, rfl, hmin'⟩ := popMin_spec hp
      have hmin : ∀ c' v, (c', v) ∈ st.heap → c ≤ c' := fun c' v h => hmin' (c', v) h
      have hlen := length_erase_popped hmem
      simp only
      by_cases hut : u = t
      · subst hut
        simp only [beq_self_eq_true, if_true]
        have hdt := final_dist hinv htS hmem hmin
        exact ⟨final_opt hnn hinv htS hmin, hinv.sound u c hdt, final_path hinv htS hdt⟩
      · have hbeq : (u == t) = false := by simp [hut]
        simp only [hbeq]
        obtain ⟨cu, hdu, hcu⟩ := hinv.heapUp c u hmem
        -- dropping the popped entry keeps the invariant when it is not the live entry of an open node
        have hdrop : (c ≠ cu ∨ u ∈ S) →
            Post g s t (pot g st S ≤ n + 1)
              (dijLoop g t n { dist := st.dist, parent := st.parent, heap := st.heap.erase (c, u) }) := by
          intro hor
          have hinv' := inv_erase (c, u) hinv (by
            intro v cv hv hvS heq
            cases heq
            rw [hdu] at hv
            cases hv
            exact hor.elim (fun h => h rfl) hvS)
          refine Post.mono ?_ _ (ih _ S u0 hinv' htS)
          unfold pot
          simp only
          omega
        rw [hdu]
        by_cases hst : stale c (some cu) = true
        · rw [if_pos hst]
          apply hdrop
          left
          simp only [stale, decide_eq_true_eq] at hst
          omega
        · rw [if_neg hst]
          have hceq : cu = c := by have := not_stale hst; omega
          subst hceq
          by_cases huS : u ∈ S
          · -- re-expansion of a settled node changes nothing
            have hno := dijRelax_noop (u := u) (c := cu) (dijCands g u)
              { dist := st.dist, parent := st.parent, heap := st.heap.erase (cu, u) } (by
                intro v e hm
                obtain ⟨he, hj⟩ := mem_dijCands hm
                refine ⟨edgeWeight_ok (hnn e he), ?_⟩
                rcases hinv.closed u huS v e he hj with ⟨_, hmm⟩ | ⟨cx, cv, h1, h2, h3⟩
                · cases hmm
                · rw [hdu] at h1
                  cases h1
                  simp only [h2, improves, decide_eq_false_iff_not]
                  omega)
            rw [hno]
            exact hdrop (Or.inr huS)
          · have hinv2 := inv_erase (cu, u) (inv_settle hinv huS hdu hmin) (by
              intro v cv _ hvS heq
              cases heq
              exact hvS List.mem_cons_self)
            obtain ⟨st', hr, hinv3, hlen3⟩ := dijRelax_inv hnn (c := cu) List.mem_cons_self
              (dijCands g u) _ hinv2 hdu
              (fun x cx hx hdx => hinv.settled_le hmem hdu hx hdx)
              (fun v e hm => mem_dijCands hm)
            rw [hr]
            simp only
            have htS' : t ∉ u :: S := fun h => (List.mem_cons.1 h).elim (fun h => hut h.symm) htS
            refine Post.mono ?_ _ (ih st' (u :: S) u hinv3 htS')
            have hb : st'.heap.length + 1 ≤ st.heap.length + (dijCands g u).length := by
              simp only at hlen3; omega
            have := pot_expand (dijCands_length_le g u) hinv3.card_le hb
            unfold pot
            simp only [List.length_cons] at this ⊢
            omega

theorem dijLoop_main {g : Graph} (hnn : NonNeg g) (s t : Nat) :
    Post g s t True (dijLoop g t (dijFuel g) (dijInit s)) :=
  Post.mono (fun _ => dijFuel_covers g s) _
    (dijLoop_post hnn (dijFuel g) _ [] s (inv_init g s s) List.not_mem_nil)

theorem findWeightedPath_spec (g : Graph) (s t : Nat) (hnn : NonNeg g) :
    match findWeightedPath g s t with
    | .ok p => WWalk g s t p.total ∧ (∀ c, WWalk g s t c → p.total ≤ c) ∧
        p.nodes.head? = some s ∧ p.nodes.getLast? = some t ∧ WChainOk g p.nodes p.edges p.total
    | .error .pathNotFound => ¬ ∃ c, WWalk g s t c
    | .error (.nodeNotFound n) => (n = s ∨ n = t) ∧ g.hasNode n = false
    | .error (.negativeWeight _) => False := by
  rcases findWeightedPath_cases g s t with ⟨hs, h⟩ | ⟨ht, h⟩ | ⟨rfl, h⟩ | ⟨hs, ht, hst⟩
  · rw [h]; exact ⟨.inl rfl, hs⟩
  · rw [h]; exact ⟨.inr rfl, ht⟩
  · rw [h]
    exact ⟨WWalk.nil s, fun c hw => hw.nonneg hnn, rfl, rfl, (wchain_single g s 0).2 rfl⟩
  · rw [findWeightedPath_eq_of_ne hs ht hst]
    have hpost := dijLoop_main hnn s t
    cases hl : dijLoop g t (dijFuel g) (dijInit s) with
    | error id => rw [hl] at hpost; exact hpost
    | ok r =>
      rw [hl] at hpost
      cases r with
      | none => exact hpost trivial
      | some cp => exact ⟨hpost.2.1, hpost.1, hpost.2.2⟩

theorem dijkstra_path_is_walk (g : Graph) (s t : Nat) (p : WPath) (hnn : NonNeg g)
    (h : findWeightedPath g s t = .ok p) :
    p.nodes.head? = some s ∧ p.nodes.getLast? = some t ∧ WChainOk g p.nodes p.edges p.total := by
  have := findWeightedPath_spec g s t hnn
  rw [h] at this
  exact this.2.2

theorem dijkstra_optimal (g : Graph) (s t : Nat) (p : WPath) (hnn : NonNeg g)
    (h : findWeightedPath g s t = .ok p) :
    ∀ c, WWalk g s t c → p.total ≤ c := by
  have := findWeightedPath_spec g s t hnn
  rw [h] at this
  exact this.2.1

theorem dijkstra_total_is_walk (g : Graph) (s t : Nat) (p : WPath) (hnn : NonNeg g)
    (h : findWeightedPath g s t = .ok p) : WWalk g s t p.total := by
  have := findWeightedPath_spec g s t hnn
  rw [h] at this
  exact this.1

theorem dijkstra_none_iff_unreachable (g : Graph) (s t : Nat) (hnn : NonNeg g)
    (hs : g.hasNode s = true) (ht : g.hasNode t = true) :
    findWeightedPath g s t = .error .pathNotFound ↔ ¬ ∃ c, WWalk g s t c := by
  have hspec := findWeightedPath_spec g s t hnn
  constructor
  · intro h; rw [h] at hspec; exact hspec
  · intro hno
    cases hf : findWeightedPath g s t with
    | ok p => rw [hf] at hspec; exact absurd ⟨_, hspec.1⟩ hno
    | error err =>
      rw [hf] at hspec
      cases err with
      | pathNotFound => rfl
      | negativeWeight id => exact hspec.elim
      | nodeNotFound n =>
        obtain ⟨rfl | rfl, hn⟩ := hspec
        · rw [hs] at hn; cases hn
        · rw [ht] at hn; cases hn

/-! ### the hypotheses are satisfiable: a weighted triangle with a cheaper two-hop route -/

def dijExGraph : Graph :=
  { nodes := [⟨0, none⟩, ⟨1, none⟩, ⟨2, none⟩, ⟨3, none⟩]
    edges := [⟨10, 0, 2, true, 0, some 5, none⟩, ⟨11, 0, 1, true, 0, some 2, none⟩,
              ⟨12, 2, 1, false, 0, none, none⟩] }

theorem dijExGraph_nonneg : NonNeg dijExGraph := by
  intro e he
  simp only [dijExGraph, List.mem_cons, List.not_mem_nil, or_false] at he
  rcases he with rfl | rfl | rfl <;> decide

example : NonNeg dijExGraph ∧
    findWeightedPath dijExGraph 0 2 = .ok { nodes := [0, 1, 2], edges := [11, 12], total := 3 } :=
  ⟨dijExGraph_nonneg, by rfl⟩

example : NonNeg dijExGraph ∧ dijExGraph.hasNode 0 = true ∧ dijExGraph.hasNode 3 = true ∧
    findWeightedPath dijExGraph 0 3 = .error .pathNotFound :=
  ⟨dijExGraph_nonneg, by rfl, by rfl, by rfl⟩

example : findWeightedPath
    { nodes := [⟨0, none⟩, ⟨1, none⟩], edges := [⟨7, 0, 1, true, 0, some (-4), none⟩] } 0 1 =
    .error (.negativeWeight 7) := by rfl

end Neumann.Paths
