import NeumannModel.Paths.AlgoBasics
/-
  C18 — union-find and `connectedComponents`: a structure that is `UF.Good k` (ranks at most `k`,
  strictly increasing along parent links) has a representative function `UF.rep k`; find, union and
  labels are specified through it, and the components are exact with respect to `Linked`.
-/
namespace Neumann.Paths

theorem nmGet_nil (x : Nat) : nmGet [] x = none := rfl

theorem UF.parentOf_cons (uf : UF) (a b : Nat) (r : NatMap) (y : Nat) :
    UF.parentOf { parent := (a, b) :: uf.parent, rank := r } y
      = if a = y then b else uf.parentOf y := by
  simp only [UF.parentOf, nmGet_cons]
  split <;> rfl

theorem UF.rankOf_cons (uf : UF) (a b : Nat) (p : NatMap) (y : Nat) :
    UF.rankOf { parent := p, rank := (a, b) :: uf.rank } y
      = if a = y then b else uf.rankOf y := by
  simp only [UF.rankOf, nmGet_cons]
  split <;> rfl

theorem UF.rankOf_congr {uf uf' : UF} (h : uf'.rank = uf.rank) (y : Nat) :
    uf'.rankOf y = uf.rankOf y := by
  unfold UF.rankOf
  rw [h]

/-- follow `parentOf` at most `fuel` times (no compression) -/
def UF.root (uf : UF) : Nat → Nat → Nat
  | 0, x => x
  | f + 1, x => if uf.parentOf x == x then x else uf.root f (uf.parentOf x)

theorem UF.root_zero (uf : UF) (x : Nat) : uf.root 0 x = x := rfl

theorem UF.root_succ (uf : UF) (f x : Nat) :
    uf.root (f + 1) x = if uf.parentOf x = x then x else uf.root f (uf.parentOf x) := by
  simp only [UF.root, beq_iff_eq]

/-- well-formedness with rank bound `k`: ranks are at most `k` and strictly increase along
    parent links -/
def UF.Good (uf : UF) (k : Nat) : Prop :=
  (∀ x, uf.rankOf x ≤ k) ∧ ∀ x, uf.parentOf x ≠ x → uf.rankOf x < uf.rankOf (uf.parentOf x)

def UF.rep (uf : UF) (k : Nat) (x : Nat) : Nat := uf.root (k + 1) x

theorem UF.root_of_fix {uf : UF} {x : Nat} (hx : uf.parentOf x = x) (f : Nat) :
    uf.root f x = x := by
  cases f with
  | zero => rfl
  | succ f => rw [UF.root_succ, if_pos hx]

theorem UF.root_stable {uf : UF} : ∀ (f x : Nat), uf.parentOf (uf.root f x) = uf.root f x →
    ∀ f', f ≤ f' → uf.root f' x = uf.root f x := by
  intro f
  induction f with
  | zero =>
    intro x hx f' _
    rw [UF.root_zero] at hx ⊢
    exact UF.root_of_fix hx f'
  | succ f ih =>
    intro x hx f' hf'
    obtain ⟨f'', rfl⟩ : ∃ f'', f' = f'' + 1 := ⟨f' - 1, by omega⟩
    by_cases hp : uf.parentOf x = x
    · simp only [UF.root_succ, if_pos hp]
    · simp only [UF.root_succ, if_neg hp] at hx ⊢
      exact ih _ hx f'' (by omega)

theorem UF.Good.rank_le_root {uf : UF} {k : Nat} (h : uf.Good k) :
    ∀ (f x : Nat), uf.rankOf x ≤ uf.rankOf (uf.root f x) := by
  intro f
  induction f with
  | zero => intro x; exact Nat.le_refl _
  | succ f ih =>
    intro x
    by_cases hp : uf.parentOf x = x
    · simp only [UF.root_succ, if_pos hp]; exact Nat.le_refl _
    · simp only [UF.root_succ, if_neg hp]
      have h1 := h.2 x hp
      have h2 := ih (uf.parentOf x)
      omega

theorem UF.Good.root_fix {uf : UF} {k : Nat} (h : uf.Good k) :
    ∀ (f x : Nat), k - uf.rankOf x < f → uf.parentOf (uf.root f x) = uf.root f x := by
  intro f
  induction f with
  | zero => intro x hf; omega
  | succ f ih =>
    intro x hf
    by_cases hp : uf.parentOf x = x
    · simp only [UF.root_succ, if_pos hp]; exact hp
    · simp only [UF.root_succ, if_neg hp]
      apply ih
      have h1 := h.2 x hp
      have h2 := h.1 (uf.parentOf x)
      omega

theorem UF.Good.rep_fix {uf : UF} {k : Nat} (h : uf.Good k) (x : Nat) :
    uf.parentOf (uf.rep k x) = uf.rep k x :=
  h.root_fix (k + 1) x (by omega)

theorem UF.Good.root_eq_rep {uf : UF} {k : Nat} (h : uf.Good k) {f x : Nat}
    (hf : k - uf.rankOf x < f) : uf.root f x = uf.rep k x := by
  rcases Nat.le_total f (k + 1) with hle | hle
  · exact (UF.root_stable f x (h.root_fix f x hf) (k + 1) hle).symm
  · exact UF.root_stable (k + 1) x (h.rep_fix x) f hle

theorem UF.rep_of_fix {uf : UF} {x : Nat} (hx : uf.parentOf x = x) (k : Nat) : uf.rep k x = x :=
  UF.root_of_fix hx (k + 1)

theorem UF.good_mono {uf : UF} {k k' : Nat} (h : uf.Good k) (hk : k ≤ k') : uf.Good k' :=
  ⟨fun x => Nat.le_trans (h.1 x) hk, h.2⟩

theorem UF.rep_mono {uf : UF} {k k' : Nat} (h : uf.Good k) (hk : k ≤ k') (x : Nat) :
    uf.rep k' x = uf.rep k x :=
  h.root_eq_rep (f := k' + 1) (by omega)

theorem UF.rep_idem {uf : UF} {k : Nat} (h : uf.Good k) (x : Nat) :
    uf.rep k (uf.rep k x) = uf.rep k x :=
  UF.rep_of_fix (h.rep_fix x) k

theorem UF.rep_parentOf {uf : UF} {k : Nat} (h : uf.Good k) (x : Nat) :
    uf.parentOf (uf.rep k x) = uf.rep k x := h.rep_fix x

theorem UF.Good.rep_parent {uf : UF} {k : Nat} (h : uf.Good k) (x : Nat) :
    uf.rep k (uf.parentOf x) = uf.rep k x := by
  by_cases hp : uf.parentOf x = x
  · rw [hp]
  · have h1 := h.2 x hp
    have h2 := h.1 (uf.parentOf x)
    have e : uf.rep k x = uf.root k (uf.parentOf x) := by
      unfold UF.rep
      rw [UF.root_succ, if_neg hp]
    rw [e]
    exact (h.root_eq_rep (by omega)).symm

theorem UF.Good.rank_le_rep {uf : UF} {k : Nat} (h : uf.Good k) (x : Nat) :
    uf.rankOf x ≤ uf.rankOf (uf.rep k x) := h.rank_le_root (k + 1) x

theorem UF.Good.rank_lt_rep {uf : UF} {k : Nat} (h : uf.Good k) (x : Nat)
    (hx : uf.rep k x ≠ x) : uf.rankOf x < uf.rankOf (uf.rep k x) := by
  have hp : uf.parentOf x ≠ x := fun e => hx (UF.rep_of_fix e k)
  have h1 := h.2 x hp
  have h2 := h.rank_le_rep (uf.parentOf x)
  rw [h.rep_parent x] at h2
  omega

theorem UF.Good.rep_unique {uf : UF} {k : Nat} (h : uf.Good k) (ρ : Nat → Nat)
    (h1 : ∀ y, ρ (uf.parentOf y) = ρ y) (h2 : ∀ y, uf.parentOf y = y → ρ y = y) (y : Nat) :
    uf.rep k y = ρ y := by
  have hroot : ∀ (f y : Nat), ρ (uf.root f y) = ρ y := by
    intro f
    induction f with
    | zero => intro y; rfl
    | succ f ih =>
      intro y
      by_cases hp : uf.parentOf y = y
      · simp only [UF.root_succ, if_pos hp]
      · simp only [UF.root_succ, if_neg hp]
        rw [ih, h1]
  exact (h2 _ (h.rep_fix y)).symm.trans (hroot (k + 1) y)

theorem UF.new_parentOf (nodes : List Nat) (x : Nat) : (UF.new nodes).parentOf x = x := by
  simp only [UF.parentOf, UF.new, nmGet_map]
  split <;> rfl

theorem UF.new_rankOf (nodes : List Nat) (x : Nat) : (UF.new nodes).rankOf x = 0 := by
  simp only [UF.rankOf, UF.new, nmGet_map]
  split <;> rfl

theorem UF.new_good (nodes : List Nat) : (UF.new nodes).Good 0 :=
  ⟨fun x => by rw [UF.new_rankOf]; exact Nat.le_refl _,
   fun x hx => absurd (UF.new_parentOf nodes x) hx⟩

theorem UF.new_rep (nodes : List Nat) (x : Nat) : (UF.new nodes).rep 0 x = x :=
  UF.rep_of_fix (UF.new_parentOf nodes x) 0

theorem ufFind_zero (uf : UF) (x : Nat) : ufFind 0 uf x = (x, uf) := rfl

theorem ufFind_succ (fuel : Nat) (uf : UF) (x : Nat) :
    ufFind (fuel + 1) uf x =
      if uf.parentOf x = x then (x, uf)
      else ((ufFind fuel uf (uf.parentOf x)).1,
            { parent := (x, (ufFind fuel uf (uf.parentOf x)).1)
                          :: (ufFind fuel uf (uf.parentOf x)).2.parent,
              rank := (ufFind fuel uf (uf.parentOf x)).2.rank }) := by
  simp only [ufFind, beq_iff_eq]

theorem ufFind_rank : ∀ (fuel : Nat) (uf : UF) (x : Nat), (ufFind fuel uf x).2.rank = uf.rank := by
  intro fuel
  induction fuel with
  | zero => intro uf x; rfl
  | succ fuel ih =>
    intro uf x
    rw [ufFind_succ]
    by_cases hp : uf.parentOf x = x
    · rw [if_pos hp]
    · rw [if_neg hp]
      exact ih uf (uf.parentOf x)

theorem UF.compress_spec {uf : UF} {k : Nat} (h : uf.Good k) (x : Nat) (uf' : UF)
    (hpar : ∀ y, uf'.parentOf y = if x = y then uf.rep k x else uf.parentOf y)
    (hrank : ∀ y, uf'.rankOf y = uf.rankOf y) :
    uf'.Good k ∧ ∀ y, uf'.rep k y = uf.rep k y := by
  have hg : uf'.Good k := by
    refine ⟨fun y => by rw [hrank]; exact h.1 y, fun y hy => ?_⟩
    rw [hpar] at hy ⊢
    rw [hrank, hrank]
    by_cases hxy : x = y
    · subst hxy
      rw [if_pos rfl] at hy ⊢
      exact h.rank_lt_rep x hy
    · rw [if_neg hxy] at hy ⊢
      exact h.2 y hy
  refine ⟨hg, fun y => hg.rep_unique (fun y => uf.rep k y) ?_ ?_ y⟩
  · intro y
    rw [hpar]
    by_cases hxy : x = y
    · subst hxy
      rw [if_pos rfl]
      exact UF.rep_idem h x
    · rw [if_neg hxy]
      exact h.rep_parent y
  · intro y hy
    rw [hpar] at hy
    by_cases hxy : x = y
    · subst hxy
      rw [if_pos rfl] at hy
      exact hy
    · rw [if_neg hxy] at hy
      exact UF.rep_of_fix hy k

theorem ufFind_aux {k : Nat} : ∀ (fuel : Nat) (uf : UF) (x : Nat), uf.Good k →
    k - uf.rankOf x < fuel →
    (ufFind fuel uf x).1 = uf.rep k x ∧ (ufFind fuel uf x).2.Good k ∧
      ∀ y, (ufFind fuel uf x).2.rep k y = uf.rep k y := by
  intro fuel
  induction fuel with
  | zero => intro uf x _ hf; omega
  | succ fuel ih =>
    intro uf x h hf
    rw [ufFind_succ]
    by_cases hp : uf.parentOf x = x
    · rw [if_pos hp]
      exact ⟨(UF.rep_of_fix hp k).symm, h, fun _ => rfl⟩
    · rw [if_neg hp]
      have h1 := h.2 x hp
      have h2 := h.1 (uf.parentOf x)
      obtain ⟨e1, g1, r1⟩ := ih uf (uf.parentOf x) h (by omega)
      have hrk := ufFind_rank fuel uf (uf.parentOf x)
      generalize ufFind fuel uf (uf.parentOf x) = F at e1 g1 r1 hrk ⊢
      have eF : F.1 = F.2.rep k x := by rw [e1, h.rep_parent x, r1]
      have hc := UF.compress_spec g1 x
        { parent := (x, F.1) :: F.2.parent, rank := F.2.rank }
        (fun y => by rw [UF.parentOf_cons, eF])
        (fun y => rfl)
      refine ⟨?_, hc.1, fun y => (hc.2 y).trans (r1 y)⟩
      show F.1 = uf.rep k x
      rw [e1, h.rep_parent x]

/-- find answers the representative (it never runs out of fuel); path compression keeps
    well-formedness and changes no representative -/
theorem ufFind_spec {uf : UF} {k fuel : Nat} (h : uf.Good k) (hf : k < fuel) (x : Nat) :
    (ufFind fuel uf x).1 = uf.rep k x ∧ (ufFind fuel uf x).2.Good k ∧
      ∀ y, (ufFind fuel uf x).2.rep k y = uf.rep k y :=
  ufFind_aux fuel uf x h (by omega)

theorem merge_eq_iff {a b : Nat} (hab : a ≠ b) (p q : Nat) :
    ((if p = a then b else p) = (if q = a then b else q)) ↔
      (p = q ∨ (p = a ∧ q = b) ∨ (p = b ∧ q = a)) := by
  grind

/-- hanging the root `a` under the root `b` (whose rank may have been raised) merges the classes of
    `a` and `b` and changes nothing else -/
theorem UF.hang_spec {uf : UF} {k : Nat} (h : uf.Good k) {a b : Nat}
    (ha : uf.parentOf a = a) (hb : uf.parentOf b = b) (hab : a ≠ b) (uf' : UF)
    (hpar : ∀ y, uf'.parentOf y = if a = y then b else uf.parentOf y)
    (hr : ∀ y, y ≠ b → uf'.rankOf y = uf.rankOf y)
    (hrb : uf.rankOf b ≤ uf'.rankOf b) (hrb' : uf'.rankOf b ≤ k + 1)
    (hlt : uf.rankOf a < uf'.rankOf b) :
    uf'.Good (k + 1) ∧
      ∀ p q, (uf'.rep (k + 1) p = uf'.rep (k + 1) q ↔
        (uf.rep k p = uf.rep k q ∨ (uf.rep k p = a ∧ uf.rep k q = b) ∨
          (uf.rep k p = b ∧ uf.rep k q = a))) := by
  have hg : uf'.Good (k + 1) := by
    refine ⟨fun y => ?_, fun y hy => ?_⟩
    · by_cases hyb : y = b
      · rw [hyb]; exact hrb'
      · rw [hr y hyb]; have := h.1 y; omega
    · rw [hpar] at hy ⊢
      by_cases hay : a = y
      · subst hay
        rw [if_pos rfl, hr a hab]
        exact hlt
      · rw [if_neg hay] at hy ⊢
        have hyb : y ≠ b := fun e => hy (by rw [e]; exact hb)
        rw [hr y hyb]
        have h1 := h.2 y hy
        by_cases hpb : uf.parentOf y = b
        · rw [hpb] at h1 ⊢; omega
        · rw [hr _ hpb]; exact h1
  have hrep : ∀ y, uf'.rep (k + 1) y = if uf.rep k y = a then b else uf.rep k y := by
    refine hg.rep_unique (fun y => if uf.rep k y = a then b else uf.rep k y) (fun y => ?_) (fun y hy => ?_)
    · show (if uf.rep k (uf'.parentOf y) = a then b else uf.rep k (uf'.parentOf y))
          = if uf.rep k y = a then b else uf.rep k y
      rw [hpar]
      by_cases hay : a = y
      · subst hay
        rw [if_pos rfl, UF.rep_of_fix hb k, UF.rep_of_fix ha k, if_pos rfl,
          if_neg (fun e => hab e.symm)]
      · rw [if_neg hay, h.rep_parent y]
    · show (if uf.rep k y = a then b else uf.rep k y) = y
      rw [hpar] at hy
      by_cases hay : a = y
      · subst hay
        rw [if_pos rfl] at hy
        exact absurd hy.symm hab
      · rw [if_neg hay] at hy
        rw [UF.rep_of_fix hy k, if_neg (fun e => hay e.symm)]
  exact ⟨hg, fun p q => by rw [hrep, hrep]; exact merge_eq_iff hab _ _⟩

/-- the linking step of `union`, applied to the two roots `find` answered -/
def UF.link (uf : UF) (rx ry : Nat) : UF × Bool :=
  if rx == ry then (uf, false)
  else if uf.rankOf rx < uf.rankOf ry then ({ uf with parent := (rx, ry) :: uf.parent }, true)
  else if uf.rankOf rx > uf.rankOf ry then ({ uf with parent := (ry, rx) :: uf.parent }, true)
  else ({ parent := (ry, rx) :: uf.parent, rank := (rx, uf.rankOf rx + 1) :: uf.rank }, true)

theorem ufUnion_eq (fuel : Nat) (uf : UF) (x y : Nat) :
    ufUnion fuel uf x y =
      (ufFind fuel (ufFind fuel uf x).2 y).2.link (ufFind fuel uf x).1
        (ufFind fuel (ufFind fuel uf x).2 y).1 := rfl

theorem UF.link_spec {uf : UF} {k : Nat} (h : uf.Good k) {a b : Nat}
    (ha : uf.parentOf a = a) (hb : uf.parentOf b = b) :
    (uf.link a b).1.Good (k + 1) ∧ ((uf.link a b).2 = true ↔ a ≠ b) ∧
      ∀ p q, ((uf.link a b).1.rep (k + 1) p = (uf.link a b).1.rep (k + 1) q ↔
        (uf.rep k p = uf.rep k q ∨ (uf.rep k p = a ∧ uf.rep k q = b) ∨
          (uf.rep k p = b ∧ uf.rep k q = a))) := by
  have hka := h.1 a
  have hkb := h.1 b
  unfold UF.link
  by_cases hab : a = b
  · rw [if_pos (beq_iff_eq.2 hab)]
    refine ⟨UF.good_mono h (Nat.le_succ k), ⟨Bool.noConfusion, fun hne => absurd hab hne⟩, fun p q => ?_⟩
    show uf.rep (k + 1) p = uf.rep (k + 1) q ↔ _
    rw [UF.rep_mono h (Nat.le_succ k), UF.rep_mono h (Nat.le_succ k)]
    refine ⟨Or.inl, fun hpq => hpq.elim id (fun hpq => ?_)⟩
    rcases hpq with ⟨h1, h2⟩ | ⟨h1, h2⟩
    · rw [h1, h2, hab]
    · rw [h1, h2, hab]
  · rw [if_neg (fun e => hab (beq_iff_eq.1 e))]
    have hba : b ≠ a := fun e => hab e.symm
    -- `b` under `a` states the merged classes with the last two alternatives exchanged
    have hswap : ∀ {P Q R : Prop}, (P ∨ Q ∨ R) ↔ (P ∨ R ∨ Q) := fun {_ _ _} => or_congr_right Or.comm
    by_cases hlt : uf.rankOf a < uf.rankOf b
    · rw [if_pos hlt]
      have hl := UF.hang_spec h ha hb hab { uf with parent := (a, b) :: uf.parent }
        (fun z => UF.parentOf_cons uf _ _ _ z) (fun z _ => rfl) (Nat.le_refl _)
        (show uf.rankOf _ ≤ k + 1 by omega) hlt
      exact ⟨hl.1, ⟨fun _ => hab, fun _ => rfl⟩, hl.2⟩
    · rw [if_neg hlt]
      by_cases hgt : uf.rankOf a > uf.rankOf b
      · rw [if_pos hgt]
        have hl := UF.hang_spec h hb ha hba { uf with parent := (b, a) :: uf.parent }
          (fun z => UF.parentOf_cons uf _ _ _ z) (fun z _ => rfl) (Nat.le_refl _)
          (show uf.rankOf _ ≤ k + 1 by omega) hgt
        exact ⟨hl.1, ⟨fun _ => hab, fun _ => rfl⟩, fun p q => (hl.2 p q).trans hswap⟩
      · rw [if_neg hgt]
        have hl := UF.hang_spec h hb ha hba
          { parent := (b, a) :: uf.parent, rank := (a, uf.rankOf a + 1) :: uf.rank }
          (fun z => UF.parentOf_cons uf _ _ _ z)
          (fun z hz => by rw [UF.rankOf_cons, if_neg (fun e => hz e.symm)])
          (by rw [UF.rankOf_cons, if_pos rfl]; omega)
          (by rw [UF.rankOf_cons, if_pos rfl]; omega)
          (by rw [UF.rankOf_cons, if_pos rfl]; omega)
        exact ⟨hl.1, ⟨fun _ => hab, fun _ => rfl⟩, fun p q => (hl.2 p q).trans hswap⟩

theorem ufUnion_spec {uf : UF} {k fuel : Nat} (h : uf.Good k) (hf : k < fuel) (x y : Nat) :
    (ufUnion fuel uf x y).1.Good (k + 1) ∧
    ((ufUnion fuel uf x y).2 = true ↔ uf.rep k x ≠ uf.rep k y) ∧
    ∀ a b, ((ufUnion fuel uf x y).1.rep (k + 1) a = (ufUnion fuel uf x y).1.rep (k + 1) b ↔
      (uf.rep k a = uf.rep k b ∨ (uf.rep k a = uf.rep k x ∧ uf.rep k b = uf.rep k y) ∨
       (uf.rep k a = uf.rep k y ∧ uf.rep k b = uf.rep k x))) := by
  rw [ufUnion_eq]
  obtain ⟨ex, gx, rx⟩ := ufFind_spec h hf x
  obtain ⟨ey, gy, ry⟩ := ufFind_spec gx hf y
  rw [rx] at ey
  have r2 : ∀ z, (ufFind fuel (ufFind fuel uf x).2 y).2.rep k z = uf.rep k z :=
    fun z => (ry z).trans (rx z)
  rw [ex, ey]
  generalize (ufFind fuel (ufFind fuel uf x).2 y).2 = uf2 at gy r2 ⊢
  have hl := UF.link_spec gy (a := uf.rep k x) (b := uf.rep k y)
    (by rw [← r2 x]; exact gy.rep_fix x) (by rw [← r2 y]; exact gy.rep_fix y)
  simp only [r2] at hl
  exact hl

theorem ufLabels_spec {uf : UF} {k fuel : Nat} (h : uf.Good k) (hf : k < fuel) (ns : List Nat) :
    ufLabels fuel ns uf = ns.map (fun n => (n, uf.rep k n)) := by
  induction ns generalizing uf with
  | nil => rfl
  | cons n ns ih =>
    obtain ⟨e1, g1, r1⟩ := ufFind_spec h hf n
    show (n, (ufFind fuel uf n).1) :: ufLabels fuel ns (ufFind fuel uf n).2 = _
    rw [ih g1, e1, List.map_cons]
    congr 1
    apply List.map_congr_left
    intro m _
    rw [r1]

theorem ufLabels_keys (fuel : Nat) (ns : List Nat) (uf : UF) :
    (ufLabels fuel ns uf).map (·.1) = ns := by
  induction ns generalizing uf with
  | nil => rfl
  | cons n ns ih =>
    show n :: (ufLabels fuel ns (ufFind fuel uf n).2).map (·.1) = _
    rw [ih]

theorem Linked.single {g : Graph} {etype : Option Nat} {u v : Nat} (h : linked g etype u v) :
    Linked g etype u v := Linked.step h (Linked.refl v)

theorem Linked.trans {g : Graph} {etype : Option Nat} {u v w : Nat}
    (h1 : Linked g etype u v) (h2 : Linked g etype v w) : Linked g etype u w := by
  induction h1 with
  | refl _ => exact h2
  | step hl _ ih => exact Linked.step hl (ih h2)

theorem Linked.symm {g : Graph} {etype : Option Nat} {u v : Nat}
    (h : Linked g etype u v) : Linked g etype v u := by
  induction h with
  | refl _ => exact Linked.refl _
  | step hl _ ih => exact ih.trans (Linked.single (linked_symm hl))

theorem Linked.mono {g g' : Graph} {etype : Option Nat}
    (hsub : ∀ e, e ∈ g.edges → typeOk etype e = true → e ∈ g'.edges) {u v : Nat}
    (h : Linked g etype u v) : Linked g' etype u v := by
  induction h with
  | refl _ => exact Linked.refl _
  | step hl _ ih =>
    obtain ⟨e, he, ht, hs⟩ := hl
    exact Linked.step ⟨e, hsub e he ht, ht, hs⟩ ih

abbrev LinkedBy (es : List Edge) (etype : Option Nat) (u v : Nat) : Prop :=
  Linked ({ nodes := [], edges := es } : Graph) etype u v

theorem linkedBy_iff (g : Graph) (etype : Option Nat) (u v : Nat) :
    LinkedBy g.edges etype u v ↔ Linked g etype u v :=
  ⟨fun h => Linked.mono (g := { nodes := [], edges := g.edges }) (g' := g) (fun _ he _ => he) h,
   fun h => Linked.mono (g := g) (g' := { nodes := [], edges := g.edges }) (fun _ he _ => he) h⟩

theorem linkedBy_nil {etype : Option Nat} {u v : Nat} (h : LinkedBy [] etype u v) : u = v := by
  cases h with
  | refl _ => rfl
  | step hl _ =>
    obtain ⟨e, he, _, _⟩ := hl
    exact absurd he (List.not_mem_nil)

theorem linkedBy_snoc_skip {es : List Edge} {etype : Option Nat} {e : Edge}
    (ht : typeOk etype e ≠ true) (u v : Nat) :
    LinkedBy (es ++ [e]) etype u v ↔ LinkedBy es etype u v := by
  constructor
  · apply Linked.mono
    intro e' he' ht'
    rcases List.mem_append.1 he' with h | h
    · exact h
    · rw [List.mem_singleton] at h
      subst h
      exact absurd ht' ht
  · apply Linked.mono
    intro e' he' _
    exact List.mem_append.2 (Or.inl he')

theorem linkedBy_snoc_take {es : List Edge} {etype : Option Nat} {e : Edge}
    (ht : typeOk etype e = true) (u v : Nat) :
    LinkedBy (es ++ [e]) etype u v ↔
      (LinkedBy es etype u v ∨ (LinkedBy es etype u e.src ∧ LinkedBy es etype v e.dst) ∨
        (LinkedBy es etype u e.dst ∧ LinkedBy es etype v e.src)) := by
  have hmono : ∀ {a b : Nat}, LinkedBy es etype a b → LinkedBy (es ++ [e]) etype a b := by
    intro a b
    apply Linked.mono
    intro e' he' _
    exact List.mem_append.2 (Or.inl he')
  have hedge : LinkedBy (es ++ [e]) etype e.src e.dst :=
    Linked.single ⟨e, List.mem_append.2 (Or.inr (List.mem_singleton.2 rfl)), ht,
      Or.inl ⟨rfl, rfl⟩⟩
  constructor
  · intro h
    induction h with
    | refl a => exact Or.inl (Linked.refl a)
    | @step a c b hl _ ih =>
      obtain ⟨e', he', ht', hs⟩ := hl
      rcases List.mem_append.1 he' with hm | hm
      · have hac : LinkedBy es etype a c := Linked.single ⟨e', hm, ht', hs⟩
        rcases ih with h1 | ⟨h1, h2⟩ | ⟨h1, h2⟩
        · exact Or.inl (hac.trans h1)
        · exact Or.inr (Or.inl ⟨hac.trans h1, h2⟩)
        · exact Or.inr (Or.inr ⟨hac.trans h1, h2⟩)
      · rw [List.mem_singleton] at hm
        subst hm
        rcases hs with ⟨rfl, rfl⟩ | ⟨rfl, rfl⟩
        · rcases ih with h1 | ⟨h1, h2⟩ | ⟨_, h2⟩
          · exact Or.inr (Or.inl ⟨Linked.refl _, h1.symm⟩)
          · exact Or.inl (h1.symm.trans h2.symm)
          · exact Or.inl h2.symm
        · rcases ih with h1 | ⟨_, h2⟩ | ⟨h1, h2⟩
          · exact Or.inr (Or.inr ⟨Linked.refl _, h1.symm⟩)
          · exact Or.inl h2.symm
          · exact Or.inl (h1.symm.trans h2.symm)
  · rintro (h | ⟨h1, h2⟩ | ⟨h1, h2⟩)
    · exact hmono h
    · exact (hmono h1).trans (hedge.trans (hmono h2).symm)
    · exact (hmono h1).trans (hedge.symm.trans (hmono h2).symm)

/-- after the edges `es` have been processed: well-formed with rank bound `es.length`, and two
    keys have the same representative exactly if the typed edges of `es` join them -/
def CCInv (etype : Option Nat) (es : List Edge) (uf : UF) : Prop :=
  uf.Good es.length ∧
    ∀ a b, uf.rep es.length a = uf.rep es.length b ↔ LinkedBy es etype a b

theorem ccInv_new (etype : Option Nat) (nodes : List Nat) : CCInv etype [] (UF.new nodes) := by
  refine ⟨UF.new_good nodes, fun a b => ?_⟩
  show (UF.new nodes).rep 0 a = (UF.new nodes).rep 0 b ↔ _
  rw [UF.new_rep, UF.new_rep]
  exact ⟨fun e => e ▸ Linked.refl a, linkedBy_nil⟩

theorem ccInv_step {etype : Option Nat} {fuel : Nat} {es : List Edge} {uf : UF} (e : Edge)
    (h : CCInv etype es uf) (hf : es.length < fuel) :
    CCInv etype (es ++ [e])
      (if typeOk etype e = true then (ufUnion fuel uf e.src e.dst).1 else uf) := by
  obtain ⟨hg, hrep⟩ := h
  have hlen : (es ++ [e]).length = es.length + 1 := by simp
  unfold CCInv
  rw [hlen]
  by_cases ht : typeOk etype e = true
  · rw [if_pos ht]
    obtain ⟨g', _, r'⟩ := ufUnion_spec hg hf e.src e.dst
    refine ⟨g', fun a b => ?_⟩
    rw [r' a b, linkedBy_snoc_take ht, hrep, hrep, hrep, hrep, hrep]
  · rw [if_neg ht]
    refine ⟨UF.good_mono hg (by omega), fun a b => ?_⟩
    rw [UF.rep_mono (k' := es.length + 1) hg (by omega),
      UF.rep_mono (k' := es.length + 1) hg (by omega), hrep, linkedBy_snoc_skip ht]

theorem ccUnions_cons (fuel : Nat) (etype : Option Nat) (e : Edge) (es : List Edge) (uf : UF) :
    ccUnions fuel etype (e :: es) uf =
      ccUnions fuel etype es
        (if typeOk etype e = true then (ufUnion fuel uf e.src e.dst).1 else uf) := by
  rw [ccUnions]
  split <;> rfl

theorem ccUnions_inv {etype : Option Nat} {fuel : Nat} :
    ∀ (es₂ es₁ : List Edge) (uf : UF), CCInv etype es₁ uf → es₁.length + es₂.length ≤ fuel →
      CCInv etype (es₁ ++ es₂) (ccUnions fuel etype es₂ uf) := by
  intro es₂
  induction es₂ with
  | nil =>
    intro es₁ uf h _
    rw [List.append_nil]
    exact h
  | cons e es ih =>
    intro es₁ uf h hf
    rw [List.length_cons] at hf
    rw [ccUnions_cons]
    have h' := ccInv_step (fuel := fuel) e h (by omega)
    have := ih (es₁ ++ [e]) _ h' (by simp; omega)
    rw [List.append_assoc] at this
    exact this

theorem components_inv (g : Graph) (etype : Option Nat) :
    CCInv etype g.edges
      (ccUnions (ufFuel g) etype g.edges (UF.new (g.nodes.map (·.id)))) := by
  have := ccUnions_inv (etype := etype) (fuel := ufFuel g) g.edges [] _
    (ccInv_new etype (g.nodes.map (·.id))) (by unfold ufFuel; simp)
  rw [List.nil_append] at this
  exact this

theorem components_eq (g : Graph) (etype : Option Nat) :
    connectedComponents g etype =
      (g.nodes.map (·.id)).map (fun n =>
        (n, (ccUnions (ufFuel g) etype g.edges (UF.new (g.nodes.map (·.id)))).rep
              g.edges.length n)) := by
  unfold connectedComponents
  exact ufLabels_spec (components_inv g etype).1 (by unfold ufFuel; omega) _

theorem components_keys (g : Graph) (etype : Option Nat) :
    (connectedComponents g etype).map (·.1) = g.nodes.map (·.id) := by
  unfold connectedComponents
  exact ufLabels_keys _ _ _

theorem components_mem {g : Graph} {etype : Option Nat} {u l : Nat}
    (hu : (u, l) ∈ connectedComponents g etype) :
    l = (ccUnions (ufFuel g) etype g.edges (UF.new (g.nodes.map (·.id)))).rep
          g.edges.length u := by
  rw [components_eq, List.mem_map] at hu
  obtain ⟨n, _, hn⟩ := hu
  cases hn
  rfl

theorem components_exact (g : Graph) (etype : Option Nat) (u v lu lv : Nat)
    (hu : (u, lu) ∈ connectedComponents g etype) (hv : (v, lv) ∈ connectedComponents g etype) :
    lu = lv ↔ Linked g etype u v := by
  rw [components_mem hu, components_mem hv, (components_inv g etype).2, linkedBy_iff]

/-- the label is itself a member of the component -/
theorem components_label_linked (g : Graph) (etype : Option Nat) (u l : Nat)
    (hu : (u, l) ∈ connectedComponents g etype) : Linked g etype u l := by
  rw [components_mem hu, ← linkedBy_iff, ← (components_inv g etype).2]
  exact (UF.rep_idem (components_inv g etype).1 u).symm

/-! ### a concrete graph: nodes 1..5, edges 1-2, 2-3 of type 0 and 4-5 of type 1 -/

def ufExampleGraph : Graph :=
  { nodes := [⟨1, none⟩, ⟨2, none⟩, ⟨3, none⟩, ⟨4, none⟩, ⟨5, none⟩],
    edges := [⟨1, 1, 2, false, 0, none, none⟩, ⟨2, 2, 3, false, 0, none, none⟩,
              ⟨3, 4, 5, false, 1, none, none⟩] }

theorem components_ufExampleGraph :
    connectedComponents ufExampleGraph none = [(1, 1), (2, 1), (3, 1), (4, 4), (5, 4)] := by
  decide +kernel

theorem components_ufExampleGraph_type0 :
    connectedComponents ufExampleGraph (some 0) = [(1, 1), (2, 1), (3, 1), (4, 4), (5, 5)] := by
  decide +kernel

example : connectedComponents ufExampleGraph none = [(1, 1), (2, 1), (3, 1), (4, 4), (5, 4)] :=
  components_ufExampleGraph

example : connectedComponents ufExampleGraph (some 0)
    = [(1, 1), (2, 1), (3, 1), (4, 4), (5, 5)] := components_ufExampleGraph_type0

example : connectedComponents ufExampleGraph (some 1)
    = [(1, 1), (2, 2), (3, 3), (4, 4), (5, 4)] := by decide +kernel

example : ((connectedComponents ufExampleGraph none).map (·.2)).eraseDups.length = 2 := by
  rw [components_ufExampleGraph]; rfl

example : ((connectedComponents ufExampleGraph (some 0)).map (·.2)).eraseDups.length = 3 := by
  rw [components_ufExampleGraph_type0]; rfl

end Neumann.Paths
