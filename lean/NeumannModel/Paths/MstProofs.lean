import NeumannModel.Paths.UnionFindProofs
import NeumannModel.Paths.ForestProofs
/-
  C18 — `minimum_spanning_tree` (Kruskal, algorithms/mst.rs): the concrete loop `kruskal` (union-find,
  early return of the `!compute_forest` mode) computes the abstract loop `greedy` of `ForestProofs.lean`,
  its final union-find represents `Joined` of the accepted edges; the theorems about `mstOf` follow.
-/
namespace Neumann.Paths


theorem kr_nil (fuel : Nat) (forest : Bool) (n : Nat) (uf : UF) (acc : List Edge) :
    kruskal fuel forest n [] uf acc = (uf, acc) := rfl

theorem kr_cons (fuel : Nat) (forest : Bool) (n : Nat) (e : Edge) (es : List Edge) (uf : UF)
    (acc : List Edge) :
    kruskal fuel forest n (e :: es) uf acc =
      if (ufUnion fuel uf e.src e.dst).2 = true then
        if (!forest && (e :: acc).length == n - 1) = true then
          ((ufUnion fuel uf e.src e.dst).1, e :: acc)
        else kruskal fuel forest n es (ufUnion fuel uf e.src e.dst).1 (e :: acc)
      else kruskal fuel forest n es (ufUnion fuel uf e.src e.dst).1 acc := rfl

/-- once every remaining edge has joined ends the abstract loop accepts nothing more -/
theorem mst_greedy_all_joined (es acc : List Edge) (h : ∀ e, e ∈ es → Joined acc e.src e.dst) :
    greedy es acc = acc := by
  induction es with
  | nil => exact greedy_nil acc
  | cons e es ih =>
    rw [greedy_cons_pos (h e (List.mem_cons_self ..))]
    exact ih (fun x hx => h x (List.mem_cons_of_mem _ hx))

/-- the union-find is well formed with rank bound `k` and represents exactly `Joined acc` -/
def KrInv (uf : UF) (k : Nat) (acc : List Edge) : Prop :=
  uf.Good k ∧ ∀ a b, uf.rep k a = uf.rep k b ↔ Joined acc a b

theorem kr_inv_new (nodes : List Nat) : KrInv (UF.new nodes) 0 [] := by
  refine ⟨UF.new_good nodes, fun a b => ?_⟩
  rw [UF.new_rep, UF.new_rep]
  exact joined_nil_iff.symm

theorem kr_loop {ns : List Nat} (hnd : ns.Nodup) (fuel : Nat) (forest : Bool) :
    ∀ (es : List Edge) (uf : UF) (acc : List Edge) (k : Nat),
      (∀ e, e ∈ es → e.src ∈ ns ∧ e.dst ∈ ns) → (∀ e, e ∈ acc → e.src ∈ ns ∧ e.dst ∈ ns) →
      SeqAcyclic acc → k + es.length < fuel → KrInv uf k acc →
      (kruskal fuel forest ns.length es uf acc).2 = greedy es acc ∧
      ∃ k', k' < fuel ∧ KrInv (kruskal fuel forest ns.length es uf acc).1 k' (greedy es acc) := by
  intro es
  induction es with
  | nil =>
    intro uf acc k _ _ _ hf hinv
    rw [kr_nil, greedy_nil]
    exact ⟨rfl, k, by simpa using hf, hinv⟩
  | cons e es ih =>
    intro uf acc k hes hacc hac hf hinv
    obtain ⟨hg, hrep⟩ := hinv
    rw [List.length_cons] at hf
    obtain ⟨g', hacc_iff, r'⟩ := ufUnion_spec hg (show k < fuel by omega) e.src e.dst
    have hesrc := hes e (List.mem_cons_self ..)
    have hes' : ∀ x, x ∈ es → x.src ∈ ns ∧ x.dst ∈ ns :=
      fun x hx => hes x (List.mem_cons_of_mem _ hx)
    rw [kr_cons]
    by_cases hj : Joined acc e.src e.dst
    · -- rejected: the classes do not change
      have hr : ¬ (ufUnion fuel uf e.src e.dst).2 = true := by
        rw [hacc_iff]; exact fun hne => hne ((hrep _ _).2 hj)
      rw [if_neg hr, greedy_cons_pos hj]
      apply ih _ acc (k + 1) hes' hacc hac (by omega)
      refine ⟨g', fun a b => ?_⟩
      rw [r' a b, hrep, hrep, hrep, hrep, hrep]
      exact ((joined_cons_of_joined hj).symm.trans joined_cons_iff).symm
    · -- accepted: two classes merge
      have hr : (ufUnion fuel uf e.src e.dst).2 = true := by
        rw [hacc_iff]; exact fun heq => hj ((hrep _ _).1 heq)
      rw [if_pos hr, greedy_cons_neg hj]
      have hinv' : KrInv (ufUnion fuel uf e.src e.dst).1 (k + 1) (e :: acc) := by
        refine ⟨g', fun a b => ?_⟩
        rw [r' a b, hrep, hrep, hrep, hrep, hrep, joined_cons_iff]
      have hacc' : ∀ x, x ∈ e :: acc → x.src ∈ ns ∧ x.dst ∈ ns := by
        intro x hx
        rcases List.mem_cons.1 hx with rfl | hx
        · exact hesrc
        · exact hacc x hx
      have hac' : SeqAcyclic (e :: acc) := ⟨hj, hac⟩
      by_cases hstop : (!forest && (e :: acc).length == ns.length - 1) = true
      · -- early return: one class is left, nothing more would be accepted
        rw [if_pos hstop]
        have hlen : (e :: acc).length = ns.length - 1 := by
          simp only [Bool.and_eq_true, beq_iff_eq] at hstop
          exact hstop.2
        have hcl := seqAcyclic_classes hnd hacc' hac'
        have hnpos : 0 < ns.length := List.length_pos_of_mem hesrc.1
        have h1 : classes ns (e :: acc) ≤ 1 := by
          generalize (e :: acc).length = m at hlen hcl
          omega
        have hall : greedy es (e :: acc) = e :: acc :=
          mst_greedy_all_joined _ _
            (fun x hx => classes_one_joined h1 (hes' x hx).1 (hes' x hx).2)
        rw [hall]
        exact ⟨rfl, k + 1, by omega, hinv'⟩
      · rw [if_neg hstop]
        exact ih _ (e :: acc) (k + 1) hes' hacc' hac' (by omega) hinv'

theorem mst_unfold (g : Graph) (forest : Bool) (order : List Edge) :
    mstOf g forest order =
      if (g.nodes.map (·.id)).isEmpty = true then none
      else some
        { edges := (kruskal (ufFuel g) forest (g.nodes.map (·.id)).length (sortByW order)
              (UF.new (g.nodes.map (·.id))) []).2.reverse,
          total := sumW (kruskal (ufFuel g) forest (g.nodes.map (·.id)).length (sortByW order)
              (UF.new (g.nodes.map (·.id))) []).2.reverse,
          trees := ((ufLabels (ufFuel g) (g.nodes.map (·.id))
              (kruskal (ufFuel g) forest (g.nodes.map (·.id)).length (sortByW order)
                (UF.new (g.nodes.map (·.id))) []).1).map (·.2)).eraseDups.length } := rfl

theorem mst_none_iff (g : Graph) (forest : Bool) (order : List Edge) :
    mstOf g forest order = none ↔ g.nodes = [] := by
  rw [mst_unfold]
  cases hnodes : g.nodes with
  | nil => simp
  | cons x xs => simp

theorem mst_mem_sorted {g : Graph} {order : List Edge} (hperm : order.Perm g.edges) (e : Edge) :
    e ∈ sortByW order ↔ e ∈ g.edges :=
  ((sortByW_perm order).trans hperm).mem_iff

theorem mst_sorted_ends {g : Graph} {order : List Edge} (hperm : order.Perm g.edges)
    (hend : EndpointsExist g) :
    ∀ e, e ∈ sortByW order → e.src ∈ g.nodes.map (·.id) ∧ e.dst ∈ g.nodes.map (·.id) := by
  intro e he
  have := hend e ((mst_mem_sorted hperm e).1 he)
  exact ⟨(hasNode_iff_mem g _).1 this.1, (hasNode_iff_mem g _).1 this.2⟩

/-- the answer of `mstOf` in terms of the abstract loop: the accepted edges are those of `greedy`
    (in acceptance order), the total is their weight, and the tree count plus the number of accepted
    edges is the number of nodes -/
theorem mst_core (g : Graph) (forest : Bool) (order : List Edge) (r : MstRes)
    (hperm : order.Perm g.edges) (hend : EndpointsExist g) (hn : NodesUnique g)
    (h : mstOf g forest order = some r) :
    r.edges = (greedy (sortByW order) []).reverse ∧
    r.total = sumW (greedy (sortByW order) []) ∧
    r.trees + (greedy (sortByW order) []).length = g.nodes.length := by
  have hnd : (g.nodes.map (·.id)).Nodup := hn
  have hin := mst_sorted_ends hperm hend
  have hlen : (sortByW order).length = g.edges.length :=
    ((sortByW_perm order).trans hperm).length_eq
  obtain ⟨hacc, k', hk', hg', hrep'⟩ :=
    kr_loop hnd (ufFuel g) forest (sortByW order) (UF.new (g.nodes.map (·.id))) [] 0 hin
      (fun e he => absurd he List.not_mem_nil) trivial
      (by rw [hlen]; unfold ufFuel; omega) (kr_inv_new _)
  rw [mst_unfold] at h
  by_cases hempty : (g.nodes.map (·.id)).isEmpty = true
  · rw [if_pos hempty] at h
    exact absurd h (by simp)
  · rw [if_neg hempty] at h
    have hr := (Option.some.inj h).symm
    rw [ufLabels_spec hg' hk', hacc] at hr
    subst hr
    refine ⟨rfl, sumW_perm (List.reverse_perm _), ?_⟩
    show ((List.map (fun n => (n, _)) (g.nodes.map (·.id))).map (·.2)).eraseDups.length + _ = _
    rw [List.map_map]
    have hfun : ((fun x : Nat × Nat => x.2) ∘ fun n =>
        (n, (kruskal (ufFuel g) forest (g.nodes.map (·.id)).length (sortByW order)
              (UF.new (g.nodes.map (·.id))) []).1.rep k' n)) =
        (kruskal (ufFuel g) forest (g.nodes.map (·.id)).length (sortByW order)
              (UF.new (g.nodes.map (·.id))) []).1.rep k' := rfl
    rw [hfun, classes_eq_reps _ hrep']
    have := seqAcyclic_classes hnd (fun e he => hin e (greedy_mem he))
      (greedy_seqAcyclic (sortByW order))
    rw [this, List.length_map]

theorem mst_isForest_perm {F F' : List Edge} (hp : F.Perm F') (h : IsForest F) : IsForest F' := by
  refine ⟨hp.nodup_iff.1 h.1, fun e he hj => ?_⟩
  refine h.2 e (hp.mem_iff.2 he) ?_
  exact Joined.mono (fun x hx => ((hp.erase e).mem_iff).2 hx) hj

theorem mst_spans (g : Graph) (order : List Edge) (hperm : order.Perm g.edges) :
    Spans g (greedy (sortByW order) []).reverse := by
  refine ⟨fun e he => ?_, fun u v => ?_⟩
  · exact (mst_mem_sorted hperm e).1 (greedy_mem (List.mem_reverse.1 he))
  · rw [Joined.congr_mem (fun e => List.mem_reverse) u v, greedy_joined]
    exact Joined.congr_mem (mst_mem_sorted hperm) u v

/-- the counting part needs no uniqueness of edge records -/
theorem mst_tree_count (g : Graph) (forest : Bool) (order : List Edge) (r : MstRes)
    (hperm : order.Perm g.edges) (hend : EndpointsExist g) (hn : NodesUnique g)
    (h : mstOf g forest order = some r) :
    r.total = sumW r.edges ∧ r.trees + r.edges.length = g.nodes.length := by
  obtain ⟨hed, htot, htr⟩ := mst_core g forest order r hperm hend hn h
  rw [hed, List.length_reverse]
  exact ⟨htot.trans (sumW_perm (List.reverse_perm _).symm), htr⟩

theorem mst_spanning_forest (g : Graph) (forest : Bool) (order : List Edge) (r : MstRes)
    (hperm : order.Perm g.edges) (hend : EndpointsExist g) (hn : NodesUnique g) (he : EdgesUnique g)
    (h : mstOf g forest order = some r) :
    Spans g r.edges ∧ IsForest r.edges ∧ r.total = sumW r.edges ∧
      r.trees + r.edges.length = g.nodes.length := by
  refine ⟨?_, ?_, mst_tree_count g forest order r hperm hend hn h⟩
  all_goals rw [(mst_core g forest order r hperm hend hn h).1]
  · exact mst_spans g order hperm
  · exact mst_isForest_perm (List.reverse_perm _).symm
      (greedy_isForest hn (mst_sorted_ends hperm hend) (((sortByW_perm order).trans hperm).nodup_iff.2 he))

theorem mst_minimal (g : Graph) (forest : Bool) (order : List Edge) (r : MstRes)
    (hperm : order.Perm g.edges) (hend : EndpointsExist g) (hn : NodesUnique g)
    (h : mstOf g forest order = some r) :
    ∀ F, Spans g F → SeqAcyclic F → r.total ≤ sumW F := by
  intro F hsp hac
  obtain ⟨_, htot, _⟩ := mst_core g forest order r hperm hend hn h
  have hnd : (g.nodes.map (·.id)).Nodup := hn
  rw [htot]
  refine greedy_minimal hnd (mst_sorted_ends hperm hend) (sortByW_sorted order)
    (fun e he => (mst_mem_sorted hperm e).2 (hsp.1 e he)) (fun u v => ?_) hac
  rw [hsp.2 u v]
  exact (Joined.congr_mem (mst_mem_sorted hperm) u v).symm

theorem mst_minimal_forest (g : Graph) (forest : Bool) (order : List Edge) (r : MstRes)
    (hperm : order.Perm g.edges) (hend : EndpointsExist g) (hn : NodesUnique g)
    (h : mstOf g forest order = some r) :
    ∀ F, Spans g F → IsForest F → r.total ≤ sumW F :=
  fun F hsp hF => mst_minimal g forest order r hperm hend hn h F hsp (isForest_seqAcyclic hF)

theorem mst_scan_order_irrelevant (g : Graph) (forest forest' : Bool) (order order' : List Edge)
    (r r' : MstRes)
    (hperm : order.Perm g.edges) (hperm' : order'.Perm g.edges) (hend : EndpointsExist g)
    (hn : NodesUnique g)
    (h : mstOf g forest order = some r) (h' : mstOf g forest' order' = some r') :
    r.total = r'.total ∧ r.trees = r'.trees ∧ r.edges.map Edge.w = r'.edges.map Edge.w := by
  obtain ⟨hed, htot, htr⟩ := mst_core g forest order r hperm hend hn h
  obtain ⟨hed', htot', htr'⟩ := mst_core g forest' order' r' hperm' hend hn h'
  have hnd : (g.nodes.map (·.id)).Nodup := hn
  have hp : (sortByW order).Perm (sortByW order') :=
    ((sortByW_perm order).trans hperm).trans ((sortByW_perm order').trans hperm').symm
  have hw := greedy_weights_unique hnd (mst_sorted_ends hperm hend) hp (sortByW_sorted order)
    (sortByW_sorted order')
  have hlen : (greedy (sortByW order) []).length = (greedy (sortByW order') []).length := by
    have := congrArg List.length hw
    rwa [List.length_map, List.length_map, List.length_reverse, List.length_reverse] at this
  refine ⟨?_, by omega, by rw [hed, hed']; exact hw⟩
  rw [htot, htot', sumW_perm (List.reverse_perm (greedy (sortByW order) [])).symm,
    sumW_perm (List.reverse_perm (greedy (sortByW order') [])).symm, sumW_eq_sum, sumW_eq_sum, hw]

/-! ## a concrete graph: nodes 1..4 and the isolated 5; a negative weight, a missing weight
    (counts 1) and a tie between the two heaviest edges -/

def mstExampleGraph : Graph :=
  { nodes := [⟨1, none⟩, ⟨2, none⟩, ⟨3, none⟩, ⟨4, none⟩, ⟨5, none⟩],
    edges := [⟨1, 1, 2, false, 0, some 3, none⟩, ⟨2, 2, 3, false, 0, some (-1), none⟩,
              ⟨3, 1, 3, false, 0, some 3, none⟩, ⟨4, 3, 4, false, 0, none, none⟩] }

example : (minimumSpanningTree mstExampleGraph true).map
    (fun r => (r.total, r.trees, r.edges.map Edge.w)) = some (3, 2, [-1, 1, 3]) := by decide +kernel

example : (minimumSpanningTree mstExampleGraph false).map
    (fun r => (r.total, r.trees, r.edges.map Edge.w)) = some (3, 2, [-1, 1, 3]) := by decide +kernel

example : (minimumSpanningTree mstExampleGraph true).map (fun r => r.edges.map Edge.id)
    = some [2, 4, 1] := by decide +kernel

/-- the other scan order of the tie accepts the other edge of weight 3: same total, trees, weights -/
example : (mstOf mstExampleGraph false mstExampleGraph.edges.reverse).map
    (fun r => (r.total, r.trees, r.edges.map Edge.w, r.edges.map Edge.id))
    = some (3, 2, [-1, 1, 3], [2, 4, 3]) := by decide +kernel

example : minimumSpanningTree { nodes := [], edges := [] } true = none := by decide +kernel

end Neumann.Paths
