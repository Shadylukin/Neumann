import NeumannModel.Paths.Basics
/-
  C18 — `find_path` (BFS): the returned path is a real walk, it is a shortest one, `PathNotFound` is
  returned exactly when no qualifying walk exists, and the loop fuel `bfsFuel` is adequate.
  All statements are for every graph / filter / node pair (invariant proofs, no enumeration).
-/
namespace Neumann.Paths

theorem bfsNbr_iff {flt : Flt} {t u v : Nat} {e : Edge} :
    bfsNbrWith bfsDirRule flt t u e = some v ↔
      flt.edgeOk e = true ∧ e.joins u v ∧ (v = t ∨ flt.nodeOk v = true) := by
  rw [← bfsDirRule_iff]
  unfold bfsNbrWith
  cases h1 : flt.edgeOk e
  · simp
  · cases h2 : bfsDirRule u e with
    | none => simp
    | some nb =>
      by_cases h3 : nb = t
      · simp [h3]
        intro h; subst h; simp
      · cases h4 : flt.nodeOk nb
        · simp [h3, h4]
          intro h; subst h; simp [h3, h4]
        · simp [h4]
          intro h; subst h; simp [h4]

theorem bstep_iff {g : Graph} {flt : Flt} {t u v : Nat} {e : Edge} :
    BStep g flt t u v e ↔ e ∈ g.edges ∧ bfsNbrWith bfsDirRule flt t u e = some v := by
  unfold BStep; rw [bfsNbr_iff]

theorem mem_allEdges_sub {g : Graph} {u : Nat} {e : Edge} (h : e ∈ allEdges g u) : e ∈ g.edges := by
  unfold allEdges outEdges inEdges at h
  simp only [List.mem_append, List.mem_filter] at h
  rcases h with h | h
  · exact h.1
  · exact h.1.1

theorem mem_allEdges_of_joins {g : Graph} {u v : Nat} {e : Edge} (he : e ∈ g.edges)
    (hj : e.joins u v) : e ∈ allEdges g u := by
  unfold allEdges outEdges
  simp only [List.mem_append, List.mem_filter]
  left
  refine ⟨he, ?_⟩
  unfold inOut
  unfold Edge.joins at hj
  rcases hj with ⟨h1, _⟩ | ⟨h1, h2, _⟩
  · simp [h1]
  · simp [h1, h2]

theorem BWalk.snoc {g : Graph} {flt : Flt} {t a b c n : Nat} {e : Edge}
    (hw : BWalk g flt t a b n) (hs : BStep g flt t b c e) : BWalk g flt t a c (n + 1) := by
  induction hw with
  | nil u => exact BWalk.cons e hs (BWalk.nil _)
  | cons e' hs' _ ih => exact BWalk.cons e' hs' (ih hs)

def pkeys (P : ParentMap) : List Nat := P.map (·.1)

/-- the parent map is a forest rooted at `s`, built in insertion order: each entry's parent is `s` or an
    older key, keys are unique and differ from `s`, and each entry is a real qualifying hop -/
def PWf (g : Graph) (flt : Flt) (t s : Nat) : ParentMap → Prop
  | [] => True
  | x :: P => PWf g flt t s P ∧ x.1 ≠ s ∧ x.1 ∉ pkeys P ∧ (x.2.1 = s ∨ x.2.1 ∈ pkeys P) ∧
      ∃ e, e ∈ g.edges ∧ e.id = x.2.2 ∧ BStep g flt t x.2.1 x.1 e

structure PInv (g : Graph) (flt : Flt) (t s : Nat) (st : BfsSt) : Prop where
  wf : PWf g flt t s st.parent
  vis : ∀ x, x ∈ st.visited ↔ (x = s ∨ x ∈ pkeys st.parent)
  que : ∀ q, q ∈ st.queue → q ∈ st.visited

/-- How the scan of the edges of `cur` is reasoned about: `Q es st` is kept while `es` remain to be
    scanned, `R` holds of the parent map of an early return.  An edge is skipped when it gives no
    neighbour or a visited one; a new neighbour either is the target (return) or is enqueued. -/
theorem bfsScan_induct {flt : Flt} {t cur : Nat} (Q : List Edge → BfsSt → Prop) (R : ParentMap → Prop)
    (hskip : ∀ e es st, Q (e :: es) st →
      (bfsNbrWith bfsDirRule flt t cur e = none ∨
        ∃ nb, bfsNbrWith bfsDirRule flt t cur e = some nb ∧ nb ∈ st.visited) → Q es st)
    (hnew : ∀ e es st nb, Q (e :: es) st → bfsNbrWith bfsDirRule flt t cur e = some nb →
      nb ∉ st.visited →
      (nb = t → R ((nb, cur, e.id) :: st.parent)) ∧
      (nb ≠ t → Q es { queue := st.queue ++ [nb], visited := nb :: st.visited,
                       parent := (nb, cur, e.id) :: st.parent }))
    (es : List Edge) (st : BfsSt) (h : Q es st) :
    (∀ st', bfsScanWith bfsDirRule flt t cur es st = .ok st' → Q [] st') ∧
    (∀ P, bfsScanWith bfsDirRule flt t cur es st = .error P → R P) := by
  induction es generalizing st with
  | nil =>
    simp only [bfsScanWith]
    exact ⟨fun st' h' => by cases h'; exact h, fun P h' => nomatch h'⟩
  | cons e es ih =>
    simp only [bfsScanWith]
    cases hn : bfsNbrWith bfsDirRule flt t cur e with
    | none => exact ih st (hskip e es st h (.inl hn))
    | some nb =>
      dsimp only
      by_cases hv : st.visited.contains nb = true
      · rw [if_pos hv]
        exact ih st (hskip e es st h (.inr ⟨nb, hn, by simpa using hv⟩))
      · rw [if_neg hv]
        obtain ⟨h1, h2⟩ := hnew e es st nb h hn (by simpa using hv)
        by_cases ht : (nb == t) = true
        · rw [if_pos ht]
          exact ⟨fun st' h' => (nomatch h'), fun P h' => by cases h'; exact h1 (by simpa using ht)⟩
        · rw [if_neg ht]
          exact ih _ (h2 (by simpa using ht))

def IsDist (g : Graph) (flt : Flt) (t s v d : Nat) : Prop :=
  BWalk g flt t s v d ∧ ∀ m, BWalk g flt t s v m → d ≤ m

/-- every entry of the parent map links a node at distance `d` to a node at distance `d + 1` -/
def PDist (g : Graph) (flt : Flt) (t s : Nat) (P : ParentMap) : Prop :=
  ∀ x, x ∈ P → ∃ d, IsDist g flt t s x.2.1 d ∧ IsDist g flt t s x.1 (d + 1)

section recon
variable {g : Graph} {flt : Flt} {t s : Nat}

theorem IsDist.unique {v d1 d2 : Nat} (h1 : IsDist g flt t s v d1) (h2 : IsDist g flt t s v d2) :
    d1 = d2 :=
  Nat.le_antisymm (h1.2 _ h2.1) (h2.2 _ h1.1)

theorem isDist_src : IsDist g flt t s s 0 := ⟨BWalk.nil s, fun _ _ => Nat.zero_le _⟩

/-- how long ago `v` was entered into the parent map (`0` = not a key) -/
def age : ParentMap → Nat → Nat
  | [], _ => 0
  | x :: P, v => if x.1 = v then P.length + 1 else age P v

theorem age_le (P : ParentMap) (v : Nat) : age P v ≤ P.length := by
  induction P with
  | nil => exact Nat.le_refl _
  | cons x P ih =>
    simp only [age, List.length_cons]
    split <;> omega

theorem PWf.lookup {P : ParentMap} (hwf : PWf g flt t s P) {cur : Nat} (hc : cur ∈ pkeys P) :
    ∃ par eid, lookupParent P cur = some (par, eid) ∧ (cur, par, eid) ∈ P ∧
      (∃ e, e ∈ g.edges ∧ e.id = eid ∧ BStep g flt t par cur e) ∧
      (par = s ∨ par ∈ pkeys P) ∧ age P par < age P cur := by
  induction P with
  | nil => cases hc
  | cons x P ih =>
    obtain ⟨k, p, eid⟩ := x
    obtain ⟨hP, hks, hkP, hpar, hedge⟩ := hwf
    -- `s` and the older keys differ from the newest key `k`
    have hne : ∀ {v}, v = s ∨ v ∈ pkeys P → k ≠ v := by
      rintro v (rfl | hv) hkv
      · exact hks hkv
      · exact hkP (hkv ▸ hv)
    by_cases hck : k = cur
    · subst hck
      refine ⟨p, eid, by rw [lookupParent_cons, if_pos rfl], List.mem_cons_self, hedge,
        hpar.imp id (List.mem_cons_of_mem _), ?_⟩
      have := age_le P p
      simp only [age, hne hpar, if_false, if_true]
      omega
    · have hc' : cur ∈ pkeys P := (List.mem_cons.1 hc).resolve_left fun h => hck h.symm
      obtain ⟨par, eid', h1, h2, h3, h4, h5⟩ := ih hP hc'
      refine ⟨par, eid', by rw [lookupParent_cons, if_neg hck]; exact h1, List.mem_cons_of_mem _ h2, h3,
        h4.imp id (List.mem_cons_of_mem _), ?_⟩
      simp only [age, hne h4, hck, if_false]
      exact h5

/-- the back-walk from a node of the forest arrives at `s` along real hops; with distances in the map it
    adds exactly the distance of its start to the edge list -/
theorem reconstruct_ok (P : ParentMap) (hwf : PWf g flt t s P) (cur : Nat) (ns es : List Nat)
    (tl : Nat) (hc : cur = s ∨ cur ∈ pkeys P)
    (hch : ChainOk g (BStep g flt t) (cur :: ns) es) (hl : (cur :: ns).getLast? = some tl) :
    ∃ ns' es', reconstruct P s (P.length + 1) cur ns es = { nodes := s :: ns', edges := es' } ∧
      (s :: ns').getLast? = some tl ∧ ChainOk g (BStep g flt t) (s :: ns') es' ∧
      (PDist g flt t s P → ∀ d, IsDist g flt t s cur d → es'.length = es.length + d) := by
  obtain ⟨ns', es', hr, _, hch', hl', hlen⟩ := reconstruct_induct P s
    (fun cur' ns' es' => (cur' = s ∨ cur' ∈ pkeys P) ∧ ChainOk g (BStep g flt t) (cur' :: ns') es' ∧
      (cur' :: ns').getLast? = some tl ∧
      (PDist g flt t s P → ∀ d' d, IsDist g flt t s cur' d' → IsDist g flt t s cur d →
        es'.length + d' = es.length + d))
    (age P)
    (by
      rintro cur' ns' es' ⟨hc', hch', hl', hlen⟩ hcs
      obtain ⟨par, eid, h1, h2, ⟨e, he, heid, hstep⟩, h4, h5⟩ := hwf.lookup (hc'.resolve_left hcs)
      refine ⟨par, eid, h1, ⟨h4, (chainOk_cons ..).2 ⟨⟨e, he, heid, hstep⟩, hch'⟩,
        by rw [List.getLast?_cons_cons]; exact hl', ?_⟩, h5⟩
      intro hpd d' d hd' hd
      obtain ⟨d0, hd0, hd1⟩ := hpd _ h2
      have := hlen hpd (d0 + 1) d hd1 hd
      have := hd'.unique hd0
      simp only [List.length_cons]
      omega)
    (P.length + 1) cur ns es ⟨hc, hch, hl, fun _ d' d h' h => by rw [h'.unique h]⟩
    (Nat.lt_succ_of_le (age_le P cur))
  exact ⟨ns', es', hr, hl', hch', fun hpd d hd => by have := hlen hpd 0 d isDist_src hd; omega⟩

end recon

section layer2
variable {g : Graph} {flt : Flt} {t s : Nat}

/-- a walk leaving a node set `V` that contains its start crosses the frontier of `V` somewhere -/
theorem frontier (V : List Nat) {u w n i0 : Nat} (hw : BWalk g flt t u w n) (hu : u ∈ V) (hwV : w ∉ V)
    (h0 : BWalk g flt t s u i0) :
    ∃ x y i e, BWalk g flt t s x i ∧ x ∈ V ∧ BStep g flt t x y e ∧ y ∉ V ∧ i + 1 ≤ i0 + n := by
  induction hw generalizing i0 with
  | nil u => exact absurd hu hwV
  | @cons u v w n e hs hw' ih =>
    by_cases hv : v ∈ V
    · obtain ⟨x, y, i, e', h1, h2, h3, h4, h5⟩ := ih hv hwV (h0.snoc hs)
      exact ⟨x, y, i, e', h1, h2, h3, h4, by omega⟩
    · exact ⟨u, v, i0, e, h0, hu, hs, hv, by omega⟩

structure DInv (g : Graph) (flt : Flt) (t s : Nat) (st : BfsSt) : Prop where
  src : s ∈ st.visited
  dist : ∀ v, v ∈ st.visited → ∃ d, IsDist g flt t s v d
  sorted : st.queue.Pairwise
    (fun a b => ∀ da db, IsDist g flt t s a da → IsDist g flt t s b db → da ≤ db)
  spread : ∀ a, a ∈ st.queue → ∀ b, b ∈ st.queue →
    ∀ da db, IsDist g flt t s a da → IsDist g flt t s b db → db ≤ da + 1
  qvis : ∀ q, q ∈ st.queue → q ∈ st.visited
  closed : ∀ v, v ∈ st.visited → v ∉ st.queue → ∀ w e, BStep g flt t v w e → w ∈ st.visited
  tgt : t ∉ st.visited
  par : PDist g flt t s st.parent

/-- invariant of the inner `for` loop over the edges `es` still to be scanned of the dequeued node `cur`
    (at distance `dc`) -/
structure SInv (g : Graph) (flt : Flt) (t s cur dc : Nat) (es : List Edge) (st : BfsSt) : Prop where
  src : s ∈ st.visited
  dist : ∀ v, v ∈ st.visited → ∃ d, IsDist g flt t s v d
  sorted : st.queue.Pairwise
    (fun a b => ∀ da db, IsDist g flt t s a da → IsDist g flt t s b db → da ≤ db)
  range : ∀ a, a ∈ st.queue → ∀ da, IsDist g flt t s a da → dc ≤ da ∧ da ≤ dc + 1
  qvis : ∀ q, q ∈ st.queue → q ∈ st.visited
  closed : ∀ v, v ∈ st.visited → v ∉ st.queue → v ≠ cur →
    ∀ w e, BStep g flt t v w e → w ∈ st.visited
  curcl : ∀ w e, BStep g flt t cur w e →
    w ∈ st.visited ∨ ∃ e', e' ∈ es ∧ bfsNbrWith bfsDirRule flt t cur e' = some w
  tgt : t ∉ st.visited
  par : PDist g flt t s st.parent

theorem discover {cur dc : Nat} {es : List Edge} {st : BfsSt} {e : Edge} {nb : Nat}
    (hdc : IsDist g flt t s cur dc) (h : SInv g flt t s cur dc es st) (he : e ∈ g.edges)
    (hn : bfsNbrWith bfsDirRule flt t cur e = some nb) (hnv : nb ∉ st.visited) :
    IsDist g flt t s nb (dc + 1) := by
  refine ⟨hdc.1.snoc (bstep_iff.2 ⟨he, hn⟩), ?_⟩
  intro m hm
  obtain ⟨x, y, i, e', hx, hxV, hxy, hyV, hi⟩ := frontier st.visited hm h.src hnv (BWalk.nil s)
  by_cases hxc : x = cur
  · subst hxc
    have := hdc.2 i hx
    omega
  · by_cases hxq : x ∈ st.queue
    · obtain ⟨dx, hdx⟩ := h.dist x hxV
      have h1 := (h.range x hxq dx hdx).1
      have h2 := hdx.2 i hx
      omega
    · exact absurd (h.closed x hxV hxq hxc y e' hxy) hyV

theorem scan_inv (cur dc : Nat) (hdc : IsDist g flt t s cur dc) (es : List Edge)
    (hes : ∀ e, e ∈ es → e ∈ g.edges) (st : BfsSt) (hp : PInv g flt t s st) (hcur : cur ∈ st.visited)
    (hinv : SInv g flt t s cur dc es st) :
    (∀ st', bfsScanWith bfsDirRule flt t cur es st = .ok st' →
      PInv g flt t s st' ∧ SInv g flt t s cur dc [] st') ∧
    (∀ P, bfsScanWith bfsDirRule flt t cur es st = .error P →
      PWf g flt t s P ∧ t ∈ pkeys P ∧ PDist g flt t s P) := by
  obtain ⟨h1, h2⟩ := bfsScan_induct (flt := flt) (t := t) (cur := cur)
    (fun es st => (∀ e, e ∈ es → e ∈ g.edges) ∧ PInv g flt t s st ∧ cur ∈ st.visited ∧
      SInv g flt t s cur dc es st)
    (fun P => PWf g flt t s P ∧ t ∈ pkeys P ∧ PDist g flt t s P)
    (by
      rintro e es st ⟨hes, hp, hcur, hinv⟩ hcase
      refine ⟨fun e' h => hes e' (List.mem_cons_of_mem _ h), hp, hcur, { hinv with curcl := ?_ }⟩
      intro w e0 hs0
      rcases hinv.curcl w e0 hs0 with h | ⟨e', he', hw⟩
      · exact Or.inl h
      · rcases List.mem_cons.1 he' with rfl | he'
        · rcases hcase with hn | ⟨nb, hn, hnv⟩
          · rw [hn] at hw; cases hw
          · rw [hn] at hw; cases hw; exact Or.inl hnv
        · exact Or.inr ⟨e', he', hw⟩)
    (by
      rintro e es st nb ⟨hes, hp, hcur, hinv⟩ hn hnv
      have heg : e ∈ g.edges := hes e List.mem_cons_self
      have hdn : IsDist g flt t s nb (dc + 1) := discover hdc hinv heg hn hnv
      have hnk : ¬ (nb = s ∨ nb ∈ pkeys st.parent) := fun h => hnv ((hp.vis nb).2 h)
      have hwf' : PWf g flt t s ((nb, cur, e.id) :: st.parent) :=
        ⟨hp.wf, fun h => hnk (Or.inl h), fun h => hnk (Or.inr h), (hp.vis cur).1 hcur,
          e, heg, rfl, bstep_iff.2 ⟨heg, hn⟩⟩
      have hpd : PDist g flt t s ((nb, cur, e.id) :: st.parent) := by
        intro x hx
        rcases List.mem_cons.1 hx with rfl | hx
        · exact ⟨dc, hdc, hdn⟩
        · exact hinv.par x hx
      refine ⟨fun hnt => ⟨hwf', by simp [pkeys, hnt], hpd⟩, fun hnt =>
        ⟨fun e' h => hes e' (List.mem_cons_of_mem _ h), ⟨hwf', ?_, ?_⟩, List.mem_cons_of_mem _ hcur,
          ?_, ?_, ?_, ?_, ?_, ?_, ?_, ?_, hpd⟩⟩
      · intro x
        have := hp.vis x
        simp only [pkeys] at this
        simp only [List.mem_cons, pkeys, List.map_cons, this, or_left_comm]
      · intro q hq
        rcases List.mem_append.1 hq with hq | hq
        · exact List.mem_cons_of_mem _ (hp.que q hq)
        · cases List.mem_singleton.1 hq; exact List.mem_cons_self
      · exact List.mem_cons_of_mem _ hinv.src
      · intro v hv'
        rcases List.mem_cons.1 hv' with rfl | hv'
        · exact ⟨_, hdn⟩
        · exact hinv.dist v hv'
      · show (st.queue ++ [nb]).Pairwise _
        rw [List.pairwise_append]
        refine ⟨hinv.sorted, List.pairwise_singleton _ _, ?_⟩
        intro a ha b hb da db hda hdb
        cases List.mem_singleton.1 hb
        have := (hinv.range a ha da hda).2
        have := hdb.unique hdn
        omega
      · intro a ha da hda
        rcases List.mem_append.1 ha with ha' | ha'
        · exact hinv.range a ha' da hda
        · cases List.mem_singleton.1 ha'
          have := hda.unique hdn
          omega
      · intro q hq
        rcases List.mem_append.1 hq with hq' | hq'
        · exact List.mem_cons_of_mem _ (hinv.qvis q hq')
        · cases List.mem_singleton.1 hq'; exact List.mem_cons_self
      · intro v hv' hvq hvc w e0 hs0
        have hvq' : v ∉ st.queue ∧ v ≠ nb := by simpa using hvq
        rcases List.mem_cons.1 hv' with rfl | hv'
        · exact absurd rfl hvq'.2
        · exact List.mem_cons_of_mem _ (hinv.closed v hv' hvq'.1 hvc w e0 hs0)
      · intro w e0 hs0
        rcases hinv.curcl w e0 hs0 with h | ⟨e', he', hw⟩
        · exact Or.inl (List.mem_cons_of_mem _ h)
        · rcases List.mem_cons.1 he' with rfl | he'
          · rw [hn] at hw
            cases hw
            exact Or.inl List.mem_cons_self
          · exact Or.inr ⟨e', he', hw⟩
      · intro h
        rcases List.mem_cons.1 h with h | h
        · exact hnt h.symm
        · exact hinv.tgt h)
    es st ⟨hes, hp, hcur, hinv⟩
  exact ⟨fun st' h => ⟨(h1 st' h).2.1, (h1 st' h).2.2.2⟩, h2⟩

theorem dinv_to_sinv {st : BfsSt} {cur dc : Nat} {rest : List Nat} (h : DInv g flt t s st)
    (hq : st.queue = cur :: rest) (hdc : IsDist g flt t s cur dc) :
    SInv g flt t s cur dc (allEdges g cur) { st with queue := rest } := by
  have hsorted := h.sorted
  rw [hq, List.pairwise_cons] at hsorted
  refine ⟨h.src, h.dist, hsorted.2, ?_, ?_, ?_, ?_, h.tgt, h.par⟩
  · intro a ha da hda
    have ha' : a ∈ st.queue := by rw [hq]; exact List.mem_cons_of_mem _ ha
    have hc' : cur ∈ st.queue := by rw [hq]; exact List.mem_cons_self ..
    exact ⟨hsorted.1 a ha dc da hdc hda, h.spread cur hc' a ha' dc da hdc hda⟩
  · intro q hq'
    exact h.qvis q (by rw [hq]; exact List.mem_cons_of_mem _ hq')
  · intro v hv hvq hvc w e hs0
    refine h.closed v hv ?_ w e hs0
    rw [hq]
    intro hm
    rcases List.mem_cons.1 hm with hm | hm
    · exact hvc hm
    · exact hvq hm
  · intro w e hs0
    right
    have h1 := bstep_iff.1 hs0
    exact ⟨e, mem_allEdges_of_joins h1.1 (bfsNbr_iff.1 h1.2).2.1, h1.2⟩

theorem sinv_to_dinv {st : BfsSt} {cur dc : Nat} (h : SInv g flt t s cur dc [] st) :
    DInv g flt t s st := by
  refine ⟨h.src, h.dist, h.sorted, ?_, h.qvis, ?_, h.tgt, h.par⟩
  · intro a ha b hb da db hda hdb
    have := (h.range a ha da hda).1
    have := (h.range b hb db hdb).2
    omega
  · intro v hv hvq w e hs0
    by_cases hvc : v = cur
    · subst hvc
      rcases h.curcl w e hs0 with h' | ⟨e', he', _⟩
      · exact h'
      · cases he'
    · exact h.closed v hv hvq hvc w e hs0

theorem dinv_init (g : Graph) (flt : Flt) {t s : Nat} (hst : s ≠ t) :
    DInv g flt t s { queue := [s], visited := [s], parent := [] } := by
  refine ⟨List.mem_cons_self .., ?_, List.pairwise_singleton _ _, ?_, fun q hq => hq, ?_, ?_, ?_⟩
  · intro v hv
    have : v = s := by simpa using hv
    subst this; exact ⟨0, isDist_src⟩
  · intro a ha b hb da db hda hdb
    have ha' : a = s := by simpa using ha
    have hb' : b = s := by simpa using hb
    subst ha'; subst hb'
    have := hda.unique hdb
    omega
  · intro v hv hvq; exact absurd hv hvq
  · intro h
    have : t = s := by simpa using h
    exact hst this.symm
  · intro x hx; cases hx

/-- every node that can ever be enqueued: the start and the endpoints of the edges -/
def cands (g : Graph) (s : Nat) : List Nat := s :: g.edges.flatMap (fun e => [e.src, e.dst])

def unvis (l vis : List Nat) : Nat := (l.filter (fun x => decide (x ∉ vis))).length

def mu (g : Graph) (s : Nat) (st : BfsSt) : Nat := unvis (cands g s) st.visited + st.queue.length

theorem filter_len_lt (p q : Nat → Bool) (h : ∀ x, p x = true → q x = true) (l : List Nat) (nb : Nat)
    (hm : nb ∈ l) (hq : q nb = true) (hp : p nb = false) :
    (l.filter p).length + 1 ≤ (l.filter q).length := by
  have heq : l.filter p = (l.filter q).filter p := by
    rw [List.filter_filter]
    refine List.filter_congr fun x _ => ?_
    cases hpx : p x
    · rfl
    · rw [h x hpx]; rfl
  rw [heq]
  exact List.length_filter_lt_length_iff_exists.2 ⟨nb, List.mem_filter.2 ⟨hm, hq⟩, by simp [hp]⟩

theorem unvis_lt (l vis vis' : List Nat) (nb : Nat) (hm : nb ∈ l) (hv : nb ∉ vis) (hv' : nb ∈ vis')
    (hsub : ∀ x, x ∈ vis → x ∈ vis') : unvis l vis' + 1 ≤ unvis l vis := by
  unfold unvis
  apply filter_len_lt _ _ _ l nb hm
  · simpa using hv
  · simpa using hv'
  · intro x hx
    simp only [decide_eq_true_eq] at hx ⊢
    exact fun h => hx (hsub x h)

theorem unvis_drop (l vis : List Nat) (nb : Nat) (hm : nb ∈ l) (hv : nb ∉ vis) :
    unvis l (nb :: vis) + 1 ≤ unvis l vis :=
  unvis_lt l vis (nb :: vis) nb hm hv List.mem_cons_self fun _ h => List.mem_cons_of_mem _ h

theorem scan_mu (cur : Nat) (es : List Edge) (hes : ∀ e, e ∈ es → e ∈ g.edges) (st st' : BfsSt)
    (h : bfsScanWith bfsDirRule flt t cur es st = .ok st') : mu g s st' ≤ mu g s st := by
  refine ((bfsScan_induct (flt := flt) (t := t) (cur := cur)
    (fun es st1 => (∀ e, e ∈ es → e ∈ g.edges) ∧ mu g s st1 ≤ mu g s st) (fun _ => True)
    (fun e es st1 hq _ => ⟨fun e' h => hq.1 e' (List.mem_cons_of_mem _ h), hq.2⟩)
    ?_ es st ⟨hes, Nat.le_refl _⟩).1 st' h).2
  rintro e es st1 nb ⟨hes1, hle⟩ hn hnv
  refine ⟨fun _ => trivial, fun _ => ⟨fun e' h => hes1 e' (List.mem_cons_of_mem _ h), ?_⟩⟩
  -- one candidate leaves the unvisited ones, one node joins the queue
  have h2 := unvis_drop (cands g s) st1.visited nb
    (List.mem_cons_of_mem _ (joins_mem_endpoints (hes1 e List.mem_cons_self) (bfsNbr_iff.1 hn).2.1)) hnv
  simp only [mu, List.length_append, List.length_singleton] at hle ⊢
  omega

theorem loop_fuel (fuel k : Nat) (st : BfsSt) (h : mu g s st ≤ fuel) :
    bfsLoopWith bfsDirRule g flt t (fuel + k) st = bfsLoopWith bfsDirRule g flt t fuel st := by
  induction fuel generalizing st with
  | zero =>
    have hq : st.queue = [] := by
      have : st.queue.length = 0 := by unfold mu at h; omega
      exact List.eq_nil_of_length_eq_zero this
    cases k with
    | zero => rfl
    | succ k =>
      rw [Nat.zero_add, bfsLoopWith, bfsLoopWith]
      simp [hq]
  | succ fuel ih =>
    rw [Nat.add_right_comm, bfsLoopWith, bfsLoopWith]
    cases hq : st.queue with
    | nil => rfl
    | cons cur rest =>
      dsimp only
      cases hr : bfsScanWith bfsDirRule flt t cur (allEdges g cur) { st with queue := rest } with
      | error P => rfl
      | ok st' =>
        dsimp only
        apply ih
        have := scan_mu (s := s) cur (allEdges g cur) (fun e he => mem_allEdges_sub he) _ st' hr
        simp only [mu, hq, List.length_cons] at this h ⊢
        omega

theorem mu_init (g : Graph) (s : Nat) :
    mu g s { queue := [s], visited := [s], parent := [] } ≤ bfsFuel g := by
  have h1 := unvis_drop (cands g s) [] s (List.mem_cons_self ..) (by simp)
  have h2 : unvis (cands g s) [] ≤ (endpoints g).length + 1 := List.length_filter_le _ (s :: endpoints g)
  rw [length_endpoints] at h2
  simp only [mu, bfsFuel, List.length_singleton]
  omega

theorem loop_inv (fuel : Nat) (st : BfsSt) (hp : PInv g flt t s st) (hinv : DInv g flt t s st) :
    (∀ P, bfsLoopWith bfsDirRule g flt t fuel st = some P →
      PWf g flt t s P ∧ t ∈ pkeys P ∧ PDist g flt t s P) ∧
    (mu g s st ≤ fuel → bfsLoopWith bfsDirRule g flt t fuel st = none →
      ∀ n, ¬ BWalk g flt t s t n) := by
  -- an exhausted queue means the visited set is closed and misses `t`
  have hempty : ∀ st : BfsSt, DInv g flt t s st → st.queue = [] → ∀ n, ¬ BWalk g flt t s t n := by
    intro st hinv hq n hw
    obtain ⟨x, y, i, e, _, hxV, hxy, hyV, _⟩ := frontier st.visited hw hinv.src hinv.tgt (BWalk.nil s)
    exact hyV (hinv.closed x hxV (by rw [hq]; exact List.not_mem_nil) y e hxy)
  induction fuel generalizing st with
  | zero =>
    refine ⟨fun P h => by simp [bfsLoopWith] at h, ?_⟩
    intro hmu _
    apply hempty st hinv
    have : st.queue.length = 0 := by unfold mu at hmu; omega
    exact List.eq_nil_of_length_eq_zero this
  | succ fuel ih =>
    rw [bfsLoopWith]
    cases hq : st.queue with
    | nil =>
      dsimp only
      exact ⟨fun P h => (nomatch h), fun _ _ => hempty st hinv hq⟩
    | cons cur rest =>
      dsimp only
      have hcur : cur ∈ st.visited := hinv.qvis cur (by rw [hq]; exact List.mem_cons_self)
      obtain ⟨dc, hdc⟩ := hinv.dist cur hcur
      have hp' : PInv g flt t s { st with queue := rest } :=
        ⟨hp.wf, hp.vis, fun q hq' => hp.que q (by rw [hq]; exact List.mem_cons_of_mem _ hq')⟩
      have hs := scan_inv cur dc hdc (allEdges g cur) (fun e he => mem_allEdges_sub he)
        { st with queue := rest } hp' hcur (dinv_to_sinv hinv hq hdc)
      cases hr : bfsScanWith bfsDirRule flt t cur (allEdges g cur) { st with queue := rest } with
      | error P' =>
        dsimp only
        refine ⟨?_, fun _ h => nomatch h⟩
        intro P h
        cases h
        exact hs.2 _ hr
      | ok st' =>
        dsimp only
        obtain ⟨hp1, hs1⟩ := hs.1 st' hr
        have hmu' := scan_mu (s := s) cur (allEdges g cur) (fun e he => mem_allEdges_sub he) _ st' hr
        obtain ⟨h1, h2⟩ := ih st' hp1 (sinv_to_dinv hs1)
        refine ⟨h1, fun hmu => h2 ?_⟩
        simp only [mu, hq, List.length_cons] at hmu' hmu ⊢
        omega

end layer2

def bfsInit (s : Nat) : BfsSt := { queue := [s], visited := [s], parent := [] }

theorem findPath_ok_cases {g : Graph} {flt : Flt} {s t : Nat} {p : Path}
    (h : findPath g flt s t = .ok p) :
    (s = t ∧ p = { nodes := [s], edges := [] }) ∨
    (s ≠ t ∧ ∃ P, bfsLoopWith bfsDirRule g flt t (bfsFuel g) (bfsInit s) = some P ∧
      p = reconstruct P s (P.length + 1) t [] []) := by
  unfold findPath findPathWith at h
  split at h
  · cases h
  split at h
  · cases h
  split at h
  · rename_i hst
    cases h
    exact .inl ⟨by simpa using hst, rfl⟩
  · rename_i hst
    split at h
    · cases h
    · rename_i P hP
      cases h
      exact .inr ⟨by simpa using hst, P, hP, rfl⟩

theorem pinv_init (g : Graph) (flt : Flt) (t s : Nat) : PInv g flt t s (bfsInit s) := by
  refine ⟨trivial, ?_, ?_⟩
  · intro x; simp [bfsInit, pkeys]
  · intro q hq; exact hq

/-- **The path returned by `find_path` is a real walk**: it starts at the source, ends at the target, and
    every consecutive pair of nodes is joined by an existing edge with the listed id that passes the edge
    filter, is usable in that direction, and leads to a node passing the node filter (or the target). -/
theorem bfs_path_is_walk (g : Graph) (flt : Flt) (s t : Nat) (p : Path)
    (h : findPath g flt s t = .ok p) :
    p.nodes.head? = some s ∧ p.nodes.getLast? = some t ∧ ChainOk g (BStep g flt t) p.nodes p.edges := by
  rcases findPath_ok_cases h with ⟨rfl, rfl⟩ | ⟨hst, P, hP, rfl⟩
  · exact ⟨rfl, rfl, trivial⟩
  · obtain ⟨hwf, htk, _⟩ :=
      (loop_inv (bfsFuel g) (bfsInit s) (pinv_init g flt t s) (dinv_init g flt hst)).1 P hP
    obtain ⟨ns', es', hr, h2, h3, _⟩ := reconstruct_ok P hwf t [] [] t (Or.inr htk) trivial rfl
    rw [hr]
    exact ⟨rfl, h2, h3⟩

/-- a small graph for the examples: `1→2→3→4`, a directed shortcut `1→4`, and an undirected `4—5` -/
def exG : Graph :=
  { nodes := [⟨1, none⟩, ⟨2, none⟩, ⟨3, none⟩, ⟨4, none⟩, ⟨5, none⟩, ⟨6, none⟩]
    edges := [⟨10, 1, 2, true, 0, none, none⟩, ⟨11, 2, 3, true, 0, none, none⟩,
              ⟨12, 3, 4, true, 0, none, none⟩, ⟨13, 1, 4, true, 0, none, none⟩,
              ⟨14, 5, 4, false, 0, none, none⟩] }

/-- the hypothesis of `bfs_path_is_walk` / `bfs_path_shortest` on concrete non-trivial queries -/
example : findPath exG Flt.all 1 5 = .ok { nodes := [1, 4, 5], edges := [13, 14] } := rfl
example : findPath exG Flt.all 2 5 = .ok { nodes := [2, 3, 4, 5], edges := [11, 12, 14] } := rfl

/-- **The path returned by `find_path` is a shortest qualifying walk**: no qualifying walk from the source
    to the target has fewer hops than the returned path has edges. -/
theorem bfs_path_shortest (g : Graph) (flt : Flt) (s t : Nat) (p : Path)
    (h : findPath g flt s t = .ok p) :
    ∀ n, BWalk g flt t s t n → p.edges.length ≤ n := by
  rcases findPath_ok_cases h with ⟨rfl, rfl⟩ | ⟨hst, P, hP, rfl⟩
  · intro n _; exact Nat.zero_le _
  · obtain ⟨hwf, htk, hpd⟩ :=
      (loop_inv (bfsFuel g) (bfsInit s) (pinv_init g flt t s) (dinv_init g flt hst)).1 P hP
    obtain ⟨x, hx, hx1⟩ : ∃ x, x ∈ P ∧ x.1 = t := by simpa [pkeys] using htk
    obtain ⟨d0, _, hdt⟩ := hpd x hx
    rw [hx1] at hdt
    obtain ⟨ns', es', hr, _, _, h4⟩ := reconstruct_ok P hwf t [] [] t (Or.inr htk) trivial rfl
    intro n hw
    have h5 := h4 hpd (d0 + 1) hdt
    have h6 := hdt.2 n hw
    rw [hr]
    simp only [List.length_nil] at h5 ⊢
    omega

theorem findPath_eq_of_ne {g : Graph} {flt : Flt} {s t : Nat} (hs : g.hasNode s = true)
    (ht : g.hasNode t = true) (hst : s ≠ t) :
    findPath g flt s t =
      match bfsLoopWith bfsDirRule g flt t (bfsFuel g) (bfsInit s) with
      | none => .error .pathNotFound
      | some p => .ok (reconstruct p s (p.length + 1) t [] []) := by
  have h3 : (s == t) = false := by simpa using hst
  unfold findPath findPathWith bfsInit
  simp only [hs, ht, h3, Bool.not_true, Bool.false_eq_true, if_false]
  rfl

/-- the hypotheses of `bfs_none_iff_unreachable` on concrete queries: directed edges are not followed
    backwards (`4 → 1`), and an isolated node is unreachable (`1 → 6`) -/
example : exG.hasNode 4 = true ∧ exG.hasNode 1 = true ∧
    findPath exG Flt.all 4 1 = .error .pathNotFound := ⟨rfl, rfl, rfl⟩
example : exG.hasNode 1 = true ∧ exG.hasNode 6 = true ∧
    findPath exG Flt.all 1 6 = .error .pathNotFound := ⟨rfl, rfl, rfl⟩

/-- **`PathNotFound` exactly when unreachable**: for existing endpoints, `find_path` fails with
    `PathNotFound` iff there is no qualifying walk at all from the source to the target. -/
theorem bfs_none_iff_unreachable (g : Graph) (flt : Flt) (s t : Nat)
    (hs : g.hasNode s = true) (ht : g.hasNode t = true) :
    findPath g flt s t = .error .pathNotFound ↔ ¬ ∃ n, BWalk g flt t s t n := by
  by_cases hst : s = t
  · subst hst
    have h1 : findPath g flt s s = .ok { nodes := [s], edges := [] } := by
      unfold findPath findPathWith; simp [hs]
    rw [h1]
    constructor
    · intro h; cases h
    · intro h; exact absurd ⟨0, BWalk.nil s⟩ h
  · rw [findPath_eq_of_ne hs ht hst]
    have hl := loop_inv (bfsFuel g) (bfsInit s) (pinv_init g flt t s) (dinv_init g flt hst)
    cases hr : bfsLoopWith bfsDirRule g flt t (bfsFuel g) (bfsInit s) with
    | none =>
      dsimp only
      refine ⟨fun _ => ?_, fun _ => rfl⟩
      rintro ⟨n, hw⟩
      exact hl.2 (mu_init g s) hr n hw
    | some P =>
      dsimp only
      refine ⟨fun h => (by cases h), fun h => ?_⟩
      exfalso
      apply h
      obtain ⟨_, htk, hpd⟩ := hl.1 P hr
      obtain ⟨x, hx, hx1⟩ : ∃ x, x ∈ P ∧ x.1 = t := by simpa [pkeys] using htk
      obtain ⟨d0, _, hdt⟩ := hpd x hx
      rw [hx1] at hdt
      exact ⟨d0 + 1, hdt.1⟩

/-- **Fuel adequacy**: `bfsFuel g` iterations are enough — more fuel never changes the answer (so the
    fuel-exhausted branch of `bfsLoop`, which the engine's `while` loop does not have, is never the reason
    for a `none`). -/
theorem bfs_fuel_adequate (g : Graph) (flt : Flt) (s t : Nat) (k : Nat) :
    bfsLoop g flt t (bfsFuel g + k) { queue := [s], visited := [s], parent := [] }
      = bfsLoop g flt t (bfsFuel g) { queue := [s], visited := [s], parent := [] } :=
  loop_fuel (s := s) (bfsFuel g) k _ (mu_init g s)

end Neumann.Paths
