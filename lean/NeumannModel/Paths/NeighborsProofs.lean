import NeumannModel.Paths.Basics
import NeumannModel.Paths.AlgoSpec
/-
  C18 — the public `edges_of` and `neighbors` (observation points on the stored adjacency) against the
  declarative one-hop relation of `Spec.lean`.
-/
namespace Neumann.Paths

theorem edges_of_none_iff (g : Graph) (dir : Dir) (n : Nat) : edgesOf g dir n = none ↔ g.hasNode n = false := by
  unfold edgesOf
  cases h : g.hasNode n <;> simp

theorem edges_of_exact (g : Graph) (dir : Dir) (n : Nat) (r : List Nat) (h : edgesOf g dir n = some r) :
    r.Nodup ∧ ∀ i, i ∈ r ↔ ∃ e, e ∈ g.edges ∧ e.id = i ∧
      ((dir.hasOut = true ∧ (e.src = n ∨ (e.directed = false ∧ e.dst = n))) ∨
       (dir.hasIn = true ∧ (e.dst = n ∨ (e.directed = false ∧ e.src = n)))) := by
  unfold edgesOf at h
  split at h
  · exact absurd h (by simp)
  · cases h
    refine ⟨nb_eraseDups_nodup _, fun i => ?_⟩
    simp only [List.mem_eraseDups, List.mem_map, List.mem_append, mem_if_list, mem_outEdges_iff, mem_inEdges_iff]
    constructor
    · rintro ⟨e, ⟨hd, he, hc⟩ | ⟨hd, he, hc⟩, hi⟩
      · exact ⟨e, he, hi, .inl ⟨hd, hc⟩⟩
      · exact ⟨e, he, hi, .inr ⟨hd, hc⟩⟩
    · rintro ⟨e, he, hi, ⟨hd, hc⟩ | ⟨hd, hc⟩⟩
      · exact ⟨e, .inl ⟨hd, he, hc⟩, hi⟩
      · exact ⟨e, .inr ⟨hd, he, hc⟩, hi⟩

/-- the out-list rule of `neighbors` -/
def nbOutRule (etype : Option Nat) (flt : Flt) (n : Nat) (e : Edge) : Option Nat :=
  if !typeOk etype e then none
  else if !flt.edgeOk e then none
  else if e.src == n && e.dst != n then some e.dst
  else if e.dst == n && e.src != n then some e.src
  else none

/-- the in-list rule of `neighbors` -/
def nbInRule (etype : Option Nat) (flt : Flt) (n : Nat) (e : Edge) : Option Nat :=
  if !typeOk etype e then none
  else if !flt.edgeOk e then none
  else if e.dst == n && e.src != n then some e.src
  else if e.src == n && e.dst != n then some e.dst
  else none

theorem neighborsRawF_eq (g : Graph) (etype : Option Nat) (dir : Dir) (flt : Flt) (n : Nat) :
    neighborsRawF g etype dir flt n =
      (if dir.hasOut then (outEdges g n).filterMap (nbOutRule etype flt n) else []) ++
      (if dir.hasIn then (inEdges g n).filterMap (nbInRule etype flt n) else []) := rfl

theorem nbOutRule_iff (etype : Option Nat) (flt : Flt) (n v : Nat) (e : Edge)
    (hs : e.src = n ∨ (e.directed = false ∧ e.dst = n)) :
    nbOutRule etype flt n e = some v ↔
      (typeOk etype e = true ∧ flt.edgeOk e = true ∧ v ≠ n ∧ e.joins n v) := by
  unfold nbOutRule Edge.joins
  cases typeOk etype e <;> cases flt.edgeOk e <;> simp
  grind

theorem nbInRule_iff (etype : Option Nat) (flt : Flt) (n v : Nat) (e : Edge)
    (hs : e.dst = n ∨ (e.directed = false ∧ e.src = n)) :
    nbInRule etype flt n e = some v ↔
      (typeOk etype e = true ∧ flt.edgeOk e = true ∧ v ≠ n ∧ e.joins v n) := by
  unfold nbInRule Edge.joins
  cases typeOk etype e <;> cases flt.edgeOk e <;> simp
  grind

theorem mem_neighborsRawF_iff (g : Graph) (etype : Option Nat) (dir : Dir) (flt : Flt) (n v : Nat) :
    v ∈ neighborsRawF g etype dir flt n ↔ TStep g etype dir flt n v := by
  simp only [neighborsRawF_eq, List.mem_append, mem_if_filterMap, mem_outEdges_iff, mem_inEdges_iff, TStep]
  constructor
  · rintro (⟨hd, e, ⟨he, hs⟩, hv⟩ | ⟨hd, e, ⟨he, hs⟩, hv⟩)
    · obtain ⟨ht, hf, hne, hj⟩ := (nbOutRule_iff etype flt n v e hs).1 hv
      exact ⟨hne, e, he, ht, hf, .inl ⟨hd, hj⟩⟩
    · obtain ⟨ht, hf, hne, hj⟩ := (nbInRule_iff etype flt n v e hs).1 hv
      exact ⟨hne, e, he, ht, hf, .inr ⟨hd, hj⟩⟩
  · rintro ⟨hne, e, he, ht, hf, ⟨hd, hj⟩ | ⟨hd, hj⟩⟩
    · exact .inl ⟨hd, e, ⟨he, joins_out hj⟩,
        (nbOutRule_iff etype flt n v e (joins_out hj)).2 ⟨ht, hf, hne, hj⟩⟩
    · exact .inr ⟨hd, e, ⟨he, joins_in hj⟩,
        (nbInRule_iff etype flt n v e (joins_in hj)).2 ⟨ht, hf, hne, hj⟩⟩

theorem neighbors_api_none_iff (g : Graph) (etype : Option Nat) (dir : Dir) (flt : Flt) (n : Nat) :
    neighborsApi g etype dir flt n = none ↔ g.hasNode n = false := by
  unfold neighborsApi
  cases h : g.hasNode n <;> simp

theorem neighbors_api_exact (g : Graph) (etype : Option Nat) (dir : Dir) (flt : Flt) (n : Nat) (r : List Nat)
    (h : neighborsApi g etype dir flt n = some r) :
    r.Nodup ∧ ∀ v, v ∈ r ↔ (g.hasNode v = true ∧ flt.nodeOk v = true ∧ TStep g etype dir flt n v) := by
  unfold neighborsApi at h
  split at h
  · exact absurd h (by simp)
  · cases h
    refine ⟨(nb_eraseDups_nodup _).sublist List.filter_sublist, ?_⟩
    intro v
    rw [List.mem_filter, List.mem_eraseDups, mem_neighborsRawF_iff]
    simp only [Bool.and_eq_true]
    constructor
    · rintro ⟨hs, hn, hf⟩
      exact ⟨hn, hf, hs⟩
    · rintro ⟨hn, hf, hs⟩
      exact ⟨hs, hn, hf⟩

theorem neighborsRawF_all (g : Graph) (etype : Option Nat) (dir : Dir) (n : Nat) :
    neighborsRawF g etype dir Flt.all n = neighborsRawT g etype dir n := by
  unfold neighborsRawF neighborsRawT Flt.all
  simp only [Bool.not_true, Bool.false_eq_true, if_false]

theorem neighbors_api_all (g : Graph) (etype : Option Nat) (dir : Dir) (n : Nat) (hn : g.hasNode n = true) :
    neighborsApi g etype dir Flt.all n = some (nbrSet g etype dir n) := by
  unfold neighborsApi nbrSet
  rw [neighborsRawF_all]
  simp only [hn, Bool.not_true, Bool.false_eq_true, if_false, Flt.all, Bool.and_true]

/-! ### closed examples: a directed edge 1→2, an undirected edge 2—3, a self-loop on 2 -/

def nbExampleGraph : Graph :=
  { nodes := [⟨1, none⟩, ⟨2, none⟩, ⟨3, none⟩],
    edges := [ ⟨10, 1, 2, true, 0, none, none⟩,
               ⟨11, 2, 3, false, 0, none, none⟩,
               ⟨12, 2, 2, true, 0, none, none⟩ ] }

example : neighborsApi nbExampleGraph none .out Flt.all 2 = some [3] := by decide +kernel
example : neighborsApi nbExampleGraph none .inc Flt.all 2 = some [1, 3] := by decide +kernel
example : neighborsApi nbExampleGraph none .both Flt.all 2 = some [3, 1] := by decide +kernel
example : edgesOf nbExampleGraph .out 2 = some [11, 12] := by decide +kernel
example : edgesOf nbExampleGraph .inc 2 = some [10, 11, 12] := by decide +kernel
example : edgesOf nbExampleGraph .both 2 = some [11, 12, 10] := by decide +kernel
example : neighborsApi nbExampleGraph none .both Flt.all 4 = none := by decide +kernel

end Neumann.Paths
