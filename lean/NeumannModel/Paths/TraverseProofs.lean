import NeumannModel.Paths.Basics
/-
  C18 — `traverse` (BFS with explicit depths) against the declarative walks of `Spec.lean`.

  Proof: an invariant `TravInv` of `travLoop` with a ghost list `P` of already dequeued (node, depth)
  pairs; queue depths are minimal walk lengths, sorted and within one level; processed nodes of depth
  `< maxDepth` are closed under `TStep` inside `visited`.  The fuel `bfsFuel g` is adequate because
  every visited node other than the start is an endpoint of an edge and `visited` is duplicate-free.
-/
namespace Neumann.Paths

theorem nbrOut_iff (etype : Option Nat) (flt : Flt) (n v : Nat) (e : Edge) :
    v ∈ (if typeOk etype e && flt.edgeOk e then
        (if e.src == n then [e.dst] else []) ++ (if !e.directed && e.dst == n then [e.src] else [])
      else []) ↔ typeOk etype e = true ∧ flt.edgeOk e = true ∧ e.joins n v := by
  cases typeOk etype e <;> cases flt.edgeOk e <;> simp [Edge.joins]
  grind

theorem nbrIn_iff (etype : Option Nat) (flt : Flt) (n v : Nat) (e : Edge) :
    v ∈ (if typeOk etype e && flt.edgeOk e then
        (if e.dst == n then [e.src] else []) ++ (if !e.directed && e.src == n then [e.dst] else [])
      else []) ↔ typeOk etype e = true ∧ flt.edgeOk e = true ∧ e.joins v n := by
  cases typeOk etype e <;> cases flt.edgeOk e <;> simp [Edge.joins]
  grind

theorem mem_nbrIdsRaw_iff (g : Graph) (etype : Option Nat) (dir : Dir) (flt : Flt) (u v : Nat) :
    v ∈ nbrIdsRaw g etype dir flt u ↔
      ∃ e, e ∈ g.edges ∧ typeOk etype e = true ∧ flt.edgeOk e = true ∧
        ((dir.hasOut = true ∧ e.joins u v) ∨ (dir.hasIn = true ∧ e.joins v u)) := by
  simp only [nbrIdsRaw, List.mem_append, mem_if_flatMap, mem_outEdges_iff, mem_inEdges_iff, nbrOut_iff,
    nbrIn_iff]
  constructor
  · rintro (⟨hd, e, ⟨he, _⟩, ht, hf, hj⟩ | ⟨hd, e, ⟨he, _⟩, ht, hf, hj⟩)
    · exact ⟨e, he, ht, hf, .inl ⟨hd, hj⟩⟩
    · exact ⟨e, he, ht, hf, .inr ⟨hd, hj⟩⟩
  · rintro ⟨e, he, ht, hf, ⟨hd, hj⟩ | ⟨hd, hj⟩⟩
    · exact .inl ⟨hd, e, ⟨he, joins_out hj⟩, ht, hf, hj⟩
    · exact .inr ⟨hd, e, ⟨he, joins_in hj⟩, ht, hf, hj⟩

theorem mem_nbrIds_iff (g : Graph) (etype : Option Nat) (dir : Dir) (flt : Flt) (u v : Nat) :
    v ∈ nbrIds g etype dir flt u ↔ TStep g etype dir flt u v := by
  unfold nbrIds TStep
  rw [List.mem_eraseDups, List.mem_filter, mem_nbrIdsRaw_iff]
  simp only [bne_iff_ne, ne_eq]
  exact And.comm

theorem traverse_none_iff (g : Graph) (s : Nat) (dir : Dir) (md : Nat) (etype : Option Nat) (flt : Flt) :
    traverse g s dir md etype flt = none ↔ g.hasNode s = false := by
  unfold traverse
  cases h : g.hasNode s <;> simp

theorem twalk_zero {g : Graph} {etype : Option Nat} {dir : Dir} {flt : Flt} {u v : Nat}
    (h : TWalk g etype dir flt u v 0) : v = u := by
  cases h; rfl

theorem twalk_snoc {g : Graph} {etype : Option Nat} {dir : Dir} {flt : Flt} {u v w n : Nat}
    (h : TWalk g etype dir flt u v n) (hs : TStep g etype dir flt v w) :
    TWalk g etype dir flt u w (n + 1) := by
  induction h with
  | nil u => exact TWalk.cons hs (TWalk.nil _)
  | cons hs' _ ih => exact TWalk.cons hs' (ih hs)

theorem twalk_unsnoc {g : Graph} {etype : Option Nat} {dir : Dir} {flt : Flt} :
    ∀ (n u w : Nat), TWalk g etype dir flt u w (n + 1) →
      ∃ v, TWalk g etype dir flt u v n ∧ TStep g etype dir flt v w := by
  intro n
  induction n with
  | zero =>
    intro u w h
    cases h with
    | cons hs hw =>
      have := twalk_zero hw
      subst this
      exact ⟨u, TWalk.nil _, hs⟩
  | succ k ih =>
    intro u w h
    cases h with
    | cons hs hw =>
      obtain ⟨v, hv, hvw⟩ := ih _ _ hw
      exact ⟨v, TWalk.cons hs hv, hvw⟩

theorem twalk_endpoint {g : Graph} {etype : Option Nat} {dir : Dir} {flt : Flt} {u w n : Nat}
    (h : TWalk g etype dir flt u w n) : w = u ∨ w ∈ endpoints g := by
  induction h with
  | nil u => exact Or.inl rfl
  | cons hs _ ih =>
    rcases ih with ih | ih
    · subst ih
      obtain ⟨_, e, he, _, _, hj⟩ := hs
      exact .inr (joins_either_mem_endpoints he hj)
    · exact Or.inr ih

theorem travPush_spec (d : Nat) : ∀ (nbs : List Nat) (q : List (Nat × Nat)) (vis : List Nat),
    ∃ new : List Nat,
      travPush d nbs q vis = (q ++ new.map (fun x => (x, d)), new.reverse ++ vis) ∧
      new.Nodup ∧ ∀ x, x ∈ new ↔ x ∈ nbs ∧ x ∉ vis := by
  intro nbs
  induction nbs with
  | nil => intro q vis; exact ⟨[], by simp [travPush]⟩
  | cons nb rest ih =>
    intro q vis
    rw [travPush]
    by_cases hc : vis.contains nb = true
    · rw [if_pos hc]
      obtain ⟨new, h1, h2, h3⟩ := ih q vis
      refine ⟨new, h1, h2, ?_⟩
      intro x
      have : nb ∈ vis := by simpa using hc
      rw [h3, List.mem_cons]
      by_cases hx : x = nb <;> simp [hx, this]
    · rw [if_neg hc]
      have hnb : nb ∉ vis := by simpa using hc
      obtain ⟨new, h1, h2, h3⟩ := ih (q ++ [(nb, d)]) (nb :: vis)
      refine ⟨nb :: new, ?_, ?_, ?_⟩
      · rw [h1]; simp
      · rw [List.nodup_cons]
        refine ⟨?_, h2⟩
        intro hmem
        exact ((h3 nb).1 hmem).2 (List.mem_cons_self)
      · intro x
        rw [List.mem_cons, h3, List.mem_cons, List.mem_cons]
        by_cases hx : x = nb <;> simp [hx, hnb]

def TravMinDepth (g : Graph) (etype : Option Nat) (dir : Dir) (flt : Flt) (s v d : Nat) : Prop :=
  TWalk g etype dir flt s v d ∧ ∀ n, TWalk g etype dir flt s v n → d ≤ n

def travIncl (g : Graph) (flt : Flt) (s v : Nat) : Bool := g.hasNode v && (v == s || flt.nodeOk v)

/-- invariant of `travLoop`; `P` = ghost list of the dequeued (node, depth) pairs, newest first -/
structure TravInv (g : Graph) (etype : Option Nat) (dir : Dir) (flt : Flt) (s md : Nat)
    (q : List (Nat × Nat)) (vis res : List Nat) (P : List (Nat × Nat)) : Prop where
  depth : ∀ p, p ∈ q ∨ p ∈ P → TravMinDepth g etype dir flt s p.1 p.2 ∧ p.2 ≤ md
  sorted : q.Pairwise (fun a b => a.2 ≤ b.2 ∧ b.2 ≤ a.2 + 1)
  vis_iff : ∀ x, x ∈ vis ↔ (x ∈ q.map Prod.fst ∨ x ∈ P.map Prod.fst)
  vis_nodup : vis.Nodup
  vis_len : vis.length = q.length + P.length
  q_nodup : (q.map Prod.fst).Nodup
  p_nodup : (P.map Prod.fst).Nodup
  qp_disj : ∀ x, x ∈ q.map Prod.fst → x ∉ P.map Prod.fst
  closed : ∀ p, p ∈ P → p.2 < md → ∀ w, TStep g etype dir flt p.1 w → w ∈ vis
  res_eq : res = (P.map Prod.fst).filter (travIncl g flt s)
  start : s ∈ vis

section loop
variable {g : Graph} {etype : Option Nat} {dir : Dir} {flt : Flt} {s md : Nat}

theorem travInv_init : TravInv g etype dir flt s md [(s, 0)] [s] [] [] where
  depth := by
    intro p hp
    simp only [List.mem_singleton, List.not_mem_nil, or_false] at hp
    subst hp
    exact ⟨⟨TWalk.nil _, fun n _ => Nat.zero_le n⟩, Nat.zero_le _⟩
  sorted := by simp
  vis_iff := by simp
  vis_nodup := by simp
  vis_len := by simp
  q_nodup := by simp
  p_nodup := by simp
  qp_disj := by simp
  closed := by simp
  res_eq := by simp
  start := by simp

theorem trav_frontier {u d : Nat} {rest : List (Nat × Nat)} {vis res : List Nat} {P : List (Nat × Nat)}
    (hinv : TravInv g etype dir flt s md ((u, d) :: rest) vis res P) :
    ∀ n x, TWalk g etype dir flt s x n → x ∉ vis → d + 1 ≤ n := by
  intro n
  induction n with
  | zero =>
    intro x hw hx
    have := twalk_zero hw
    subst this
    exact absurd hinv.start hx
  | succ m ih =>
    intro x hw hx
    obtain ⟨y, hy, hyx⟩ := twalk_unsnoc m s x hw
    by_cases hyv : y ∈ vis
    · have hd : d ≤ md := (hinv.depth (u, d) (Or.inl List.mem_cons_self)).2
      rcases (hinv.vis_iff y).1 hyv with hq | hp
      · rw [List.mem_map] at hq
        obtain ⟨p, hp, hpy⟩ := hq
        have hmin := (hinv.depth p (Or.inl hp)).1.2 m (hpy ▸ hy)
        rw [List.mem_cons] at hp
        rcases hp with hp | hp
        · subst hp; exact Nat.succ_le_succ hmin
        · have := (List.rel_of_pairwise_cons hinv.sorted hp).1
          simp only at this
          omega
      · rw [List.mem_map] at hp
        obtain ⟨p, hp, hpy⟩ := hp
        have hmin := (hinv.depth p (Or.inr hp)).1.2 m (hpy ▸ hy)
        by_cases hlt : p.2 < md
        · exact absurd (hinv.closed p hp hlt x (hpy ▸ hyx)) hx
        · omega
    · have := ih y hy hyv
      omega

/-- dequeue `(u, d)` and enqueue `new` one level deeper: unvisited neighbours of `u`, all of them if `u`
    lies below the depth bound, none if it lies at the bound -/
theorem travInv_step {u d : Nat} {rest : List (Nat × Nat)} {vis res : List Nat} {P : List (Nat × Nat)}
    (hinv : TravInv g etype dir flt s md ((u, d) :: rest) vis res P)
    (new : List Nat) (hnd : new.Nodup)
    (hnew : ∀ x, x ∈ new → d < md ∧ x ∈ nbrIds g etype dir flt u ∧ x ∉ vis)
    (hfull : d < md → ∀ w, TStep g etype dir flt u w → w ∈ vis ∨ w ∈ new) :
    TravInv g etype dir flt s md (rest ++ new.map (fun x => (x, d + 1))) (new.reverse ++ vis)
      (if travIncl g flt s u then u :: res else res) ((u, d) :: P) := by
  have hkeys : (rest ++ new.map (fun x => (x, d + 1))).map Prod.fst = rest.map Prod.fst ++ new := by
    simp [Function.comp_def]
  have hq := hinv.q_nodup
  simp only [List.map_cons, List.nodup_cons] at hq
  have huq : ∀ {x}, x ∈ rest.map Prod.fst → x ∈ ((u, d) :: rest).map Prod.fst :=
    fun hx => List.mem_cons_of_mem _ hx
  exact
  { depth := by
      intro p hp
      rcases hp with hp | hp
      · rcases List.mem_append.1 hp with hp | hp
        · exact hinv.depth p (Or.inl (List.mem_cons_of_mem _ hp))
        · obtain ⟨w, hw, rfl⟩ := List.mem_map.1 hp
          obtain ⟨hd, hw1, hw2⟩ := hnew w hw
          have hstep := (mem_nbrIds_iff g etype dir flt u w).1 hw1
          have hu := (hinv.depth (u, d) (Or.inl List.mem_cons_self)).1
          exact ⟨⟨twalk_snoc hu.1 hstep, fun n hn => trav_frontier hinv n w hn hw2⟩, hd⟩
      · rcases List.mem_cons.1 hp with hp | hp
        · exact hinv.depth p (Or.inl (hp ▸ List.mem_cons_self))
        · exact hinv.depth p (Or.inr hp)
    sorted := by
      have hs := List.pairwise_cons.1 hinv.sorted
      rw [List.pairwise_append]
      refine ⟨hs.2, ?_, ?_⟩
      · rw [List.pairwise_map]
        exact List.Pairwise.imp (R := fun _ _ => True) (fun _ => ⟨Nat.le_refl _, Nat.le_succ _⟩)
          (List.pairwise_of_forall (fun _ _ => trivial))
      · intro a ha b hb
        obtain ⟨w, _, rfl⟩ := List.mem_map.1 hb
        have := hs.1 a ha
        simp only at this ⊢
        omega
    vis_iff := by
      intro x
      rw [hkeys]
      simp only [List.mem_append, List.mem_reverse, hinv.vis_iff x, List.map_cons, List.mem_cons, or_assoc,
        or_comm, or_left_comm]
    vis_nodup := by
      rw [List.nodup_append]
      refine ⟨(List.reverse_perm new).nodup_iff.2 hnd, hinv.vis_nodup, ?_⟩
      intro a ha b hb hab
      subst hab
      exact (hnew a (List.mem_reverse.1 ha)).2.2 hb
    vis_len := by
      simp only [List.length_append, List.length_reverse, List.length_map, List.length_cons, hinv.vis_len]
      omega
    q_nodup := by
      rw [hkeys, List.nodup_append]
      refine ⟨hq.2, hnd, ?_⟩
      intro a ha b hb hab
      subst hab
      exact (hnew a hb).2.2 ((hinv.vis_iff a).2 (Or.inl (huq ha)))
    p_nodup := by
      simp only [List.map_cons, List.nodup_cons]
      exact ⟨hinv.qp_disj u List.mem_cons_self, hinv.p_nodup⟩
    qp_disj := by
      intro x hx
      rw [hkeys, List.mem_append] at hx
      simp only [List.map_cons, List.mem_cons, not_or]
      rcases hx with hx | hx
      · exact ⟨fun hxu => hq.1 (hxu ▸ hx), hinv.qp_disj x (huq hx)⟩
      · have hnv := (hnew x hx).2.2
        rw [hinv.vis_iff] at hnv
        simp only [List.map_cons, List.mem_cons, not_or] at hnv
        exact ⟨hnv.1.1, hnv.2⟩
    closed := by
      intro p hp hlt w hw
      rw [List.mem_append, List.mem_reverse]
      rcases List.mem_cons.1 hp with hp | hp
      · subst hp
        exact (hfull hlt w hw).symm
      · exact Or.inr (hinv.closed p hp hlt w hw)
    res_eq := by
      rw [List.map_cons, List.filter_cons, hinv.res_eq]
    start := List.mem_append_right _ hinv.start }

theorem travInv_vis_le {q : List (Nat × Nat)} {vis res : List Nat} {P : List (Nat × Nat)}
    (hinv : TravInv g etype dir flt s md q vis res P) : vis.length ≤ 2 * g.edges.length + 1 := by
  apply length_le_of_endpoints g s vis hinv.vis_nodup
  intro x hx
  have : ∃ p, (p ∈ q ∨ p ∈ P) ∧ p.1 = x := by
    rcases (hinv.vis_iff x).1 hx with h | h
    · rw [List.mem_map] at h
      obtain ⟨p, hp, hpx⟩ := h
      exact ⟨p, Or.inl hp, hpx⟩
    · rw [List.mem_map] at h
      obtain ⟨p, hp, hpx⟩ := h
      exact ⟨p, Or.inr hp, hpx⟩
  obtain ⟨p, hp, rfl⟩ := this
  exact twalk_endpoint (hinv.depth p hp).1.1

theorem travLoop_spec : ∀ (fuel : Nat) (q : List (Nat × Nat)) (vis res : List Nat) (P : List (Nat × Nat)),
    TravInv g etype dir flt s md q vis res P → 2 * g.edges.length + 2 ≤ fuel + P.length →
    ∃ vis' res' P', TravInv g etype dir flt s md [] vis' res' P' ∧
      travLoop g etype dir flt s md fuel { queue := q, visited := vis, result := res } = res'.reverse := by
  intro fuel
  induction fuel with
  | zero =>
    intro q vis res P hinv hf
    have h1 := travInv_vis_le hinv
    have h2 := hinv.vis_len
    omega
  | succ fuel ih =>
    intro q vis res P hinv hf
    cases q with
    | nil => exact ⟨vis, res, P, hinv, by simp only [travLoop]⟩
    | cons hd rest =>
      obtain ⟨u, d⟩ := hd
      by_cases hd : md ≤ d
      · have hstop := travInv_step hinv [] List.nodup_nil (fun _ h => nomatch h)
          (fun hlt => absurd hd (Nat.not_le_of_lt hlt))
        simp only [List.map_nil, List.append_nil, List.reverse_nil, List.nil_append] at hstop
        obtain ⟨vis', res', P', h1, h2⟩ := ih _ _ _ _ hstop (by simp only [List.length_cons]; omega)
        refine ⟨vis', res', P', h1, ?_⟩
        rw [← h2]
        simp only [travLoop, travIncl, ge_iff_le, hd, if_true]
        rfl
      · have hd' : d < md := Nat.lt_of_not_le hd
        obtain ⟨new, hp, hnd, hnew⟩ := travPush_spec (d + 1) (nbrIds g etype dir flt u) rest vis
        obtain ⟨vis', res', P', h1, h2⟩ := ih _ _ _ _
          (travInv_step hinv new hnd (fun x hx => ⟨hd', (hnew x).1 hx⟩) fun _ w hw =>
            (Classical.em (w ∈ vis)).imp id fun hwv =>
              (hnew w).2 ⟨(mem_nbrIds_iff g etype dir flt u w).2 hw, hwv⟩)
          (by simp only [List.length_cons]; omega)
        refine ⟨vis', res', P', h1, ?_⟩
        rw [← h2]
        simp only [travLoop, travIncl, ge_iff_le, hd, if_false, hp]
        rfl

end loop

theorem traverse_inv (g : Graph) (s : Nat) (dir : Dir) (md : Nat) (etype : Option Nat) (flt : Flt) (r : List Nat)
    (h : traverse g s dir md etype flt = some r) :
    ∃ vis res P, TravInv g etype dir flt s md [] vis res P ∧ r = res.reverse := by
  unfold traverse at h
  split at h
  · exact absurd h (by simp)
  · obtain ⟨vis, res, P, h1, h2⟩ := travLoop_spec (g := g) (etype := etype) (dir := dir) (flt := flt)
      (s := s) (md := md) (bfsFuel g) _ _ _ [] travInv_init (by simp [bfsFuel])
    refine ⟨vis, res, P, h1, ?_⟩
    rw [← h2]
    exact (Option.some.inj h).symm

theorem travInv_final_vis {g : Graph} {etype : Option Nat} {dir : Dir} {flt : Flt} {s md : Nat}
    {vis res : List Nat} {P : List (Nat × Nat)} (hinv : TravInv g etype dir flt s md [] vis res P) (v : Nat) :
    v ∈ vis ↔ ∃ n, n ≤ md ∧ TWalk g etype dir flt s v n := by
  constructor
  · intro hv
    rcases (hinv.vis_iff v).1 hv with h | h
    · simp at h
    · rw [List.mem_map] at h
      obtain ⟨p, hp, rfl⟩ := h
      have := hinv.depth p (Or.inr hp)
      exact ⟨p.2, this.2, this.1.1⟩
  · rintro ⟨n, hn, hw⟩
    induction n generalizing v with
    | zero =>
      have := twalk_zero hw
      subst this
      exact hinv.start
    | succ m ih =>
      obtain ⟨y, hy, hyv⟩ := twalk_unsnoc m s v hw
      have hyvis := ih y (by omega) hy
      rcases (hinv.vis_iff y).1 hyvis with h | h
      · simp at h
      · rw [List.mem_map] at h
        obtain ⟨p, hp, rfl⟩ := h
        have hmin := (hinv.depth p (Or.inr hp)).1.2 m hy
        exact hinv.closed p hp (by omega) v hyv

theorem traverse_exact (g : Graph) (s : Nat) (dir : Dir) (md : Nat) (etype : Option Nat) (flt : Flt) (r : List Nat)
    (h : traverse g s dir md etype flt = some r) :
    ∀ v, v ∈ r ↔ (g.hasNode v = true ∧ (v = s ∨ flt.nodeOk v = true) ∧ ∃ n, n ≤ md ∧ TWalk g etype dir flt s v n) := by
  obtain ⟨vis, res, P, hinv, rfl⟩ := traverse_inv g s dir md etype flt r h
  intro v
  rw [List.mem_reverse, hinv.res_eq, List.mem_filter, ← travInv_final_vis hinv v, hinv.vis_iff v]
  simp only [List.map_nil, List.not_mem_nil, false_or, travIncl, Bool.and_eq_true, Bool.or_eq_true, beq_iff_eq]
  constructor
  · rintro ⟨a, b, c⟩; exact ⟨b, c, a⟩
  · rintro ⟨b, c, a⟩; exact ⟨a, b, c⟩

theorem traverse_nodup (g : Graph) (s : Nat) (dir : Dir) (md : Nat) (etype : Option Nat) (flt : Flt) (r : List Nat)
    (h : traverse g s dir md etype flt = some r) : r.Nodup := by
  obtain ⟨vis, res, P, hinv, rfl⟩ := traverse_inv g s dir md etype flt r h
  rw [(List.reverse_perm res).nodup_iff, hinv.res_eq]
  exact hinv.p_nodup.sublist List.filter_sublist

/-! ### non-vacuity: a concrete graph on which `traverse` answers `some _` and cuts at the depth bound -/

/-- 1 → 2 → 3 → 4 (directed), 1 — 5 (undirected), node 6 isolated -/
def travExGraph : Graph :=
  { nodes := [⟨1, none⟩, ⟨2, none⟩, ⟨3, none⟩, ⟨4, none⟩, ⟨5, none⟩, ⟨6, none⟩]
    edges := [⟨10, 1, 2, true, 0, none, none⟩, ⟨11, 2, 3, true, 0, none, none⟩,
              ⟨12, 3, 4, true, 0, none, none⟩, ⟨13, 5, 1, false, 0, none, none⟩] }

example : traverse travExGraph 1 .out 2 none Flt.all = some [1, 2, 5, 3] := by decide +kernel
example : traverse travExGraph 3 .inc 5 none Flt.all = some [3, 2, 1, 5] := by decide +kernel
example : traverse travExGraph 7 .both 5 none Flt.all = none := by decide +kernel
example : 2 ∈ nbrIds travExGraph none .out Flt.all 1 := by decide +kernel

end Neumann.Paths
