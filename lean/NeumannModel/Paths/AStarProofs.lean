import NeumannModel.Paths.DijkstraProofs
import NeumannModel.Paths.NeighborsProofs
/-
  C18 — proofs about the model of `astar_path` with the default (zero) heuristic, for every graph
  and every direction: the answered cost is the cost of a real walk, no walk is lighter
  (non-negative weights), "no path" iff no walk, the loop never runs out of fuel.

  Invariant (textbook Dijkstra with a closed set, stated without path decomposition):
    * every heap entry (c, x) is the cost of a real walk to x, and g(x) ≤ c;
    * every open node with a g-score has the entry (g(x), x) in the heap;
    * every edge out of a closed node is relaxed: g(y) ≤ g(x) + w;
    * g of a closed node is ≤ every heap entry of an open node.
  From these, by induction on a walk s ⇝ v of cost c: either v is closed with g(v) ≤ c, or the heap
  holds an entry of an open node with cost ≤ c (`walk_claim`).
-/
namespace Neumann.Paths

/-- `astar_path` calls `neighbors(n, None, direction, None)`: the public neighbour list without a type
    or a filter -/
theorem neighborsRaw_eq (g : Graph) (dir : Dir) (u : Nat) :
    neighborsRaw g dir u = neighborsRawF g none dir Flt.all u := rfl

theorem mem_neighborIds_iff (g : Graph) (dir : Dir) (u v : Nat) :
    v ∈ neighborIds g dir u ↔ v ≠ u ∧ ∃ e, AStep g dir u v e := by
  unfold neighborIds AStep
  rw [List.mem_filter, List.mem_eraseDups, neighborsRaw_eq, mem_neighborsRawF_iff]
  constructor
  · rintro ⟨⟨hne, e, he, _, _, h⟩, hn⟩
    exact ⟨hne, e, he, hn, h⟩
  · rintro ⟨hne, e, he, hn, h⟩
    exact ⟨⟨hne, e, he, rfl, rfl, h⟩, hn⟩

/-! ### the edge `get_astar_edge_weight` picks -/

theorem mem_astarEdges_iff {g : Graph} {dir : Dir} {u v : Nat} {e : Edge} (hne : v ≠ u)
    (hn : g.hasNode v = true) : e ∈ astarEdges g dir u v ↔ AStep g dir u v e := by
  simp only [astarEdges, AStep, Edge.joins, List.mem_filter, List.mem_append, mem_if_list, mem_outEdges_iff,
    mem_inEdges_iff, Bool.or_eq_true, Bool.and_eq_true, beq_iff_eq, hn, true_and]
  -- both sides are now propositional combinations of `e.src = _`, `e.dst = _`, `e.directed = false`
  grind

theorem lightest_some (es : List Edge) : ∀ (w0 : Int) (i0 : Nat),
    ∃ w i, lightest es (some (w0, i0)) = some (w, i) ∧ w ≤ w0 ∧ (∀ e, e ∈ es → w ≤ e.w) ∧
      ((∃ e, e ∈ es ∧ e.w = w) ∨ w = w0) := by
  induction es with
  | nil => intro w0 i0; exact ⟨w0, i0, rfl, Int.le_refl _, fun _ h => (nomatch h), .inr rfl⟩
  | cons e es ih =>
    intro w0 i0
    rw [lightest]
    by_cases hlt : e.w < w0
    · rw [if_pos hlt]
      obtain ⟨w, i, h1, h2, h3, h4⟩ := ih e.w e.id
      refine ⟨w, i, h1, by omega, ?_, .inl ?_⟩
      · intro e' he'
        rcases List.mem_cons.1 he' with rfl | he'
        · exact h2
        · exact h3 e' he'
      · rcases h4 with ⟨e', he', hw⟩ | h4
        · exact ⟨e', List.mem_cons_of_mem _ he', hw⟩
        · exact ⟨e, List.mem_cons_self, h4.symm⟩
    · rw [if_neg hlt]
      obtain ⟨w, i, h1, h2, h3, h4⟩ := ih w0 i0
      refine ⟨w, i, h1, h2, ?_, h4.imp (fun ⟨e', he', hw⟩ => ⟨e', List.mem_cons_of_mem _ he', hw⟩) id⟩
      intro e' he'
      rcases List.mem_cons.1 he' with rfl | he'
      · omega
      · exact h3 e' he'

/-- when some edge joins the two nodes, the weight used is the weight of one of them and no joining
    edge is lighter -/
theorem astarEdgeWeight_spec {g : Graph} {dir : Dir} {u v : Nat} {e0 : Edge} (h0 : e0 ∈ astarEdges g dir u v) :
    (∃ e, e ∈ astarEdges g dir u v ∧ e.w = (astarEdgeWeight g dir u v).1) ∧
    ∀ e, e ∈ astarEdges g dir u v → (astarEdgeWeight g dir u v).1 ≤ e.w := by
  unfold astarEdgeWeight
  cases hl : astarEdges g dir u v with
  | nil => rw [hl] at h0; cases h0
  | cons e es =>
    obtain ⟨w, i, h1, h2, h3, h4⟩ := lightest_some es e.w e.id
    rw [lightest, h1]
    refine ⟨?_, ?_⟩
    · rcases h4 with ⟨e', he', hw⟩ | h4
      · exact ⟨e', List.mem_cons_of_mem _ he', hw⟩
      · exact ⟨e, List.mem_cons_self, h4.symm⟩
    · intro e' he'
      rcases List.mem_cons.1 he' with rfl | he'
      · exact h2
      · exact h3 e' he'

theorem AWalk.nonneg {g : Graph} {dir : Dir} (hnn : NonNeg g) {s v : Nat} {c : Int} (h : AWalk g dir s v c) : 0 ≤ c := by
  induction h with
  | nil => omega
  | snoc e _ hs ih =>
    have := hnn e hs.1
    omega

theorem AStep.mem_endpoints {g : Graph} {dir : Dir} {u v : Nat} {e : Edge} (hs : AStep g dir u v e) :
    v ∈ endpoints g :=
  joins_either_mem_endpoints hs.1 hs.2.2

theorem AWalk.mem_endpoints {g : Graph} {dir : Dir} {s v : Nat} {c : Int} (h : AWalk g dir s v c) :
    v = s ∨ v ∈ endpoints g := by
  cases h with
  | nil => exact .inl rfl
  | snoc e _ hs => exact .inr hs.mem_endpoints

/-- the neighbours are distinct edge endpoints, so one expansion pushes at most `2|E|` entries -/
theorem neighborIds_length_le (g : Graph) (dir : Dir) (u : Nat) :
    (neighborIds g dir u).length ≤ 2 * g.edges.length := by
  rw [← length_endpoints]
  refine List.Nodup.length_le_of_subset ((nb_eraseDups_nodup _).sublist List.filter_sublist) ?_
  intro v hv
  obtain ⟨_, e, hs⟩ := (mem_neighborIds_iff g dir u v).1 hv
  exact hs.mem_endpoints

theorem AWalk.cons {g : Graph} {dir : Dir} {u v w : Nat} {c : Int} {e : Edge}
    (hs : AStep g dir u v e) (h : AWalk g dir v w c) : AWalk g dir u w (e.w + c) := by
  induction h with
  | nil =>
    have := AWalk.snoc e (AWalk.nil (g := g) (dir := dir) (s := u)) hs
    have heq : (0 : Int) + e.w = e.w + 0 := by omega
    rw [← heq]; exact this
  | @snoc x y c' e' _ hs' ih =>
    have := AWalk.snoc e' ih hs'
    have heq : e.w + c' + e'.w = e.w + (c' + e'.w) := by omega
    rw [← heq]; exact this

/-- for `Outgoing`, on graphs whose edge endpoints exist, the walks of A* are the walks of
    `find_weighted_path` -/
theorem awalk_out_of_wwalk {g : Graph} (hend : EndpointsExist g) {u v : Nat} {c : Int}
    (h : WWalk g u v c) : AWalk g .out u v c := by
  induction h with
  | nil u => exact AWalk.nil
  | cons e hs _ ih =>
    rename_i a b d c'
    refine AWalk.cons ⟨hs.1, ?_, .inl ⟨rfl, hs.2⟩⟩ ih
    have := hend e hs.1
    have hj := hs.2
    unfold Edge.joins at hj
    rcases hj with ⟨_, h2⟩ | ⟨_, _, h2⟩
    · rw [← h2]; exact this.2
    · rw [← h2]; exact this.1

theorem wwalk_of_awalk_out {g : Graph} {u v : Nat} {c : Int} (h : AWalk g .out u v c) : WWalk g u v c := by
  induction h with
  | nil => exact WWalk.nil _
  | snoc e _ hs ih =>
    refine WWalk.snoc ih ⟨hs.1, ?_⟩
    rcases hs.2.2 with ⟨_, hj⟩ | ⟨hd, _⟩
    · exact hj
    · cases hd

structure AInv (g : Graph) (dir : Dir) (s t : Nat) (st : AStarSt) : Prop where
  src : lookupDist st.gs s = some 0
  sound : ∀ c x, (c, x) ∈ st.heap → AWalk g dir s x c
  hle : ∀ c x, (c, x) ∈ st.heap → ∃ c', lookupDist st.gs x = some c' ∧ c' ≤ c
  opn : ∀ x c, x ∉ st.closed → lookupDist st.gs x = some c → (c, x) ∈ st.heap
  relaxed : ∀ x, x ∈ st.closed → ∀ y e, y ≠ x → AStep g dir x y e →
    ∃ cx cy, lookupDist st.gs x = some cx ∧ lookupDist st.gs y = some cy ∧ cy ≤ cx + e.w
  mono : ∀ x, x ∈ st.closed → ∃ cx, lookupDist st.gs x = some cx ∧
    ∀ c y, (c, y) ∈ st.heap → y ∉ st.closed → cx ≤ c
  tgt : t ∉ st.closed
  nodup : st.closed.Nodup
  reach : ∀ x, x ∈ st.closed → ∃ c, AWalk g dir s x c

section
variable {g : Graph} {dir : Dir} {s t u : Nat} {c0 : Int} {st : AStarSt}

/-- every walk from the source ends in a closed node whose g-score it does not beat, or is at least as
    heavy as some heap entry of an open node -/
theorem walk_claim (hnn : NonNeg g) (inv : AInv g dir s t st) {v : Nat} {c : Int} (h : AWalk g dir s v c) :
    (v ∈ st.closed ∧ ∃ cv, lookupDist st.gs v = some cv ∧ cv ≤ c) ∨
    (∃ c' x, (c', x) ∈ st.heap ∧ x ∉ st.closed ∧ c' ≤ c) := by
  induction h with
  | nil =>
    by_cases hs : s ∈ st.closed
    · exact .inl ⟨hs, 0, inv.src, Int.le_refl _⟩
    · exact .inr ⟨0, s, inv.opn s 0 hs inv.src, hs, Int.le_refl _⟩
  | @snoc u v c1 e _ hs ih =>
    have hw := hnn e hs.1
    rcases ih with ⟨huc, cu, hgu, hle⟩ | ⟨c', x, hm, hx, hle⟩
    · by_cases hvu : v = u
      · subst hvu
        exact .inl ⟨huc, cu, hgu, by omega⟩
      · obtain ⟨cx, cy, h1, h2, h3⟩ := inv.relaxed u huc v e hvu hs
        rw [hgu] at h1
        cases h1
        by_cases hvc : v ∈ st.closed
        · exact .inl ⟨hvc, cy, h2, by omega⟩
        · exact .inr ⟨cy, v, inv.opn v cy hvc h2, hvc, by omega⟩
    · exact .inr ⟨c', x, hm, hx, by omega⟩

/-- invariant while the neighbours of the just-closed node `u` (popped with cost `c0`) are relaxed;
    `pend` are the neighbours still to be looked at -/
structure RInv (g : Graph) (dir : Dir) (s t u : Nat) (c0 : Int) (pend : List Nat) (st : AStarSt) : Prop where
  src : lookupDist st.gs s = some 0
  sound : ∀ c x, (c, x) ∈ st.heap → AWalk g dir s x c
  hle : ∀ c x, (c, x) ∈ st.heap → ∃ c', lookupDist st.gs x = some c' ∧ c' ≤ c
  opn : ∀ x c, x ∉ st.closed → lookupDist st.gs x = some c → (c, x) ∈ st.heap
  relaxed : ∀ x, x ∈ st.closed → ∀ y e, y ≠ x → AStep g dir x y e →
    (x = u ∧ y ∈ pend) ∨
    ∃ cx cy, lookupDist st.gs x = some cx ∧ lookupDist st.gs y = some cy ∧ cy ≤ cx + e.w
  le0 : ∀ x, x ∈ st.closed → ∃ cx, lookupDist st.gs x = some cx ∧ cx ≤ c0
  gu : lookupDist st.gs u = some c0
  ge0 : ∀ c y, (c, y) ∈ st.heap → c0 ≤ c
  walkU : AWalk g dir s u c0
  uin : u ∈ st.closed
  pendOk : ∀ y, y ∈ pend → y ≠ u ∧ ∃ e, AStep g dir u y e
  tgt : t ∉ st.closed
  nodup : st.closed.Nodup
  reach : ∀ x, x ∈ st.closed → ∃ c, AWalk g dir s x c

theorem astarRelax_inv (hnn : NonNeg g) :
    ∀ (pend : List Nat) (st : AStarSt), RInv g dir s t u c0 pend st →
      RInv g dir s t u c0 [] (astarRelax g dir u c0 pend st) ∧
      (astarRelax g dir u c0 pend st).closed = st.closed ∧
      (astarRelax g dir u c0 pend st).heap.length ≤ st.heap.length + pend.length := by
  intro pend
  induction pend with
  | nil => intro st h; exact ⟨h, rfl, Nat.le_refl _⟩
  | cons nb rest ih =>
    intro st h
    -- the rest of the pass, from a state with the same closed set and at most one more heap entry
    have hfin : ∀ st' : AStarSt, st'.closed = st.closed → st'.heap.length ≤ st.heap.length + 1 →
        RInv g dir s t u c0 rest st' →
        RInv g dir s t u c0 [] (astarRelax g dir u c0 rest st') ∧
        (astarRelax g dir u c0 rest st').closed = st.closed ∧
        (astarRelax g dir u c0 rest st').heap.length ≤ st.heap.length + (rest.length + 1) := by
      intro st' hc hl hr
      obtain ⟨h1, h2, h3⟩ := ih st' hr
      exact ⟨h1, h2.trans hc, by omega⟩
    obtain ⟨hnbu, e0, hstep0⟩ := h.pendOk nb List.mem_cons_self
    have hc0 : 0 ≤ c0 := AWalk.nonneg hnn h.walkU
    have hpend : ∀ y, y ∈ rest → y ≠ u ∧ ∃ e, AStep g dir u y e :=
      fun y hy => h.pendOk y (List.mem_cons_of_mem _ hy)
    -- when `nb` is left as it is, the edges `u → nb` are relaxed provided `g(nb)` is small enough
    have hskip : (∀ e, AStep g dir u nb e → ∃ cn, lookupDist st.gs nb = some cn ∧ cn ≤ c0 + e.w) →
        RInv g dir s t u c0 rest st := by
      intro hnb
      refine { h with pendOk := hpend, relaxed := ?_ }
      intro x hx y e hyx hs
      rcases h.relaxed x hx y e hyx hs with ⟨rfl, hy⟩ | hr
      · rcases List.mem_cons.1 hy with rfl | hy
        · obtain ⟨cn, hgn, hcn⟩ := hnb e hs
          exact .inr ⟨c0, cn, h.gu, hgn, hcn⟩
        · exact .inl ⟨rfl, hy⟩
      · exact .inr hr
    rw [astarRelax]
    dsimp only
    by_cases hcl : st.closed.contains nb = true
    · rw [if_pos hcl]
      have hcl' : nb ∈ st.closed := by simpa using hcl
      apply hfin st rfl (Nat.le_succ _)
      apply hskip
      intro e hs
      obtain ⟨cy, hgy, hle⟩ := h.le0 nb hcl'
      have := hnn e hs.1
      exact ⟨cy, hgy, by omega⟩
    · rw [if_neg hcl]
      have hncl : nb ∉ st.closed := by simpa using hcl
      have hedges : ∀ e, e ∈ astarEdges g dir u nb ↔ AStep g dir u nb e :=
        fun e => mem_astarEdges_iff hnbu hstep0.2.1
      obtain ⟨⟨e1, he1, hw1⟩, hmin⟩ := astarEdgeWeight_spec ((hedges e0).2 hstep0)
      have hstep1 : AStep g dir u nb e1 := (hedges e1).1 he1
      obtain ⟨w, hwdef⟩ : ∃ w, (astarEdgeWeight g dir u nb).1 = w := ⟨_, rfl⟩
      rw [hwdef] at hw1 hmin ⊢
      have hw0 : 0 ≤ w := hw1 ▸ hnn e1 hstep1.1
      by_cases himp : improves (c0 + w) (lookupDist st.gs nb) = true
      · rw [if_pos himp]
        refine hfin _ rfl (Nat.le_of_eq (List.length_cons ..)) ?_
        have hne_closed : ∀ x, x ∈ st.closed → nb ≠ x := fun x hx hh => hncl (hh ▸ hx)
        have hold : ∀ cv, lookupDist st.gs nb = some cv → c0 + w < cv :=
          fun cv hg => improves_some (hg ▸ himp)
        have hsame : ∀ {x : Nat}, nb ≠ x → lookupDist ((nb, c0 + w) :: st.gs) x = lookupDist st.gs x :=
          fun hx => by rw [lookupDist_cons, if_neg hx]
        have hnew : lookupDist ((nb, c0 + w) :: st.gs) nb = some (c0 + w) := by
          rw [lookupDist_cons, if_pos rfl]
        exact
          { walkU := h.walkU, uin := h.uin, tgt := h.tgt, nodup := h.nodup, reach := h.reach, pendOk := hpend
            src := by
              have : nb ≠ s := fun hns => by have := hold 0 (hns ▸ h.src); omega
              exact (hsame this).trans h.src
            sound := by
              intro c x hm
              rcases List.mem_cons.1 hm with hm | hm
              · cases hm
                rw [← hw1]; exact AWalk.snoc e1 h.walkU hstep1
              · exact h.sound c x hm
            hle := by
              intro c x hm
              show ∃ c', lookupDist ((nb, c0 + w) :: st.gs) x = some c' ∧ c' ≤ c
              rcases List.mem_cons.1 hm with hm | hm
              · cases hm
                exact ⟨c0 + w, hnew, Int.le_refl _⟩
              · obtain ⟨c', hg, hl⟩ := h.hle c x hm
                by_cases hx : nb = x
                · subst hx
                  have := hold c' hg
                  exact ⟨c0 + w, hnew, by omega⟩
                · exact ⟨c', (hsame hx).trans hg, hl⟩
            opn := by
              intro x c hx hg
              rcases lookupDist_cons_some.1 hg with ⟨rfl, rfl⟩ | ⟨_, hg⟩
              · exact List.mem_cons_self
              · exact List.mem_cons_of_mem _ (h.opn x c hx hg)
            relaxed := by
              intro x hx y e hyx hs
              show (x = u ∧ y ∈ rest) ∨ ∃ cx cy, lookupDist ((nb, c0 + w) :: st.gs) x = some cx ∧
                lookupDist ((nb, c0 + w) :: st.gs) y = some cy ∧ cy ≤ cx + e.w
              rw [hsame (hne_closed x hx)]
              rcases h.relaxed x hx y e hyx hs with ⟨rfl, hy⟩ | ⟨cx, cy, h1, h2, h3⟩
              · rcases List.mem_cons.1 hy with rfl | hy
                · have := hmin e ((hedges e).2 hs)
                  exact .inr ⟨c0, c0 + w, h.gu, hnew, by omega⟩
                · exact .inl ⟨rfl, hy⟩
              · right
                by_cases hynb : nb = y
                · subst hynb
                  have := hold cy h2
                  exact ⟨cx, c0 + w, h1, hnew, by omega⟩
                · exact ⟨cx, cy, h1, (hsame hynb).trans h2, h3⟩
            le0 := fun x hx => (h.le0 x hx).imp fun cx hc => ⟨(hsame (hne_closed x hx)).trans hc.1, hc.2⟩
            gu := (hsame hnbu).trans h.gu
            ge0 := by
              intro c y hm
              rcases List.mem_cons.1 hm with hm | hm
              · cases hm
                omega
              · exact h.ge0 c y hm }
      · rw [if_neg himp]
        apply hfin st rfl (Nat.le_succ _)
        apply hskip
        intro e hs
        obtain ⟨cn, hgn, hcn⟩ := not_improves himp
        have := hmin e ((hedges e).2 hs)
        exact ⟨cn, hgn, by omega⟩

def APost (g : Graph) (dir : Dir) (s t : Nat) : AStarOut → Prop
  | .found c => AWalk g dir s t c ∧ ∀ c', AWalk g dir s t c' → c ≤ c'
  | .notFound => ∀ c', ¬ AWalk g dir s t c'
  | .outOfFuel => False

/-- heap entries still to pop, plus what the nodes not yet closed may still push -/
def apot (g : Graph) (st : AStarSt) : Nat :=
  st.heap.length + 2 * g.edges.length * (2 * g.edges.length + 1 - st.closed.length)

theorem closed_length_le (inv : AInv g dir s t st) :
    st.closed.length ≤ 2 * g.edges.length + 1 :=
  length_le_of_endpoints g s _ inv.nodup fun x hx => (inv.reach x hx).elim fun _ h => h.mem_endpoints

theorem AInv.drop (inv : AInv g dir s t st) {c : Int} {u : Nat} (hu : u ∈ st.closed) :
    AInv g dir s t { st with heap := st.heap.erase (c, u) } :=
  { inv with
    sound := fun c' x hm => inv.sound c' x (List.mem_of_mem_erase hm)
    hle := fun c' x hm => inv.hle c' x (List.mem_of_mem_erase hm)
    opn := fun x c' hx hg =>
      (List.mem_erase_of_ne (fun hh => hx (by cases hh; exact hu))).2 (inv.opn x c' hx hg)
    mono := fun x hx => (inv.mono x hx).imp fun cx hc =>
      ⟨hc.1, fun c' y hy hyc => hc.2 c' y (List.mem_of_mem_erase hy) hyc⟩ }

theorem AInv.expand (inv : AInv g dir s t st)
    {c : Int} {u : Nat} (hmem : (c, u) ∈ st.heap) (hmin : ∀ x, x ∈ st.heap → c ≤ x.1)
    (hucl : u ∉ st.closed) (hut : u ≠ t) :
    RInv g dir s t u c (neighborIds g dir u)
      { st with heap := st.heap.erase (c, u), closed := u :: st.closed } := by
  have hgu : lookupDist st.gs u = some c := by
    obtain ⟨c', hg, hl⟩ := inv.hle c u hmem
    have := hmin (c', u) (inv.opn u c' hucl hg)
    have : c' = c := by simp only at this; omega
    rw [← this]; exact hg
  exact
    { src := inv.src
      sound := fun c' x hm => inv.sound c' x (List.mem_of_mem_erase hm)
      hle := fun c' x hm => inv.hle c' x (List.mem_of_mem_erase hm)
      opn := by
        intro x c' hx hg
        have hxu : x ≠ u := fun hh => hx (hh ▸ List.mem_cons_self)
        refine (List.mem_erase_of_ne (fun hh => hxu (by cases hh; rfl))).2 ?_
        exact inv.opn x c' (fun hh => hx (List.mem_cons_of_mem _ hh)) hg
      relaxed := by
        intro x hx y e hyx hs
        rcases List.mem_cons.1 hx with rfl | hx'
        · exact .inl ⟨rfl, (mem_neighborIds_iff g dir x y).2 ⟨hyx, e, hs⟩⟩
        · exact .inr (inv.relaxed x hx' y e hyx hs)
      le0 := by
        intro x hx
        rcases List.mem_cons.1 hx with rfl | hx'
        · exact ⟨c, hgu, Int.le_refl _⟩
        · exact (inv.mono x hx').imp fun cx hc => ⟨hc.1, hc.2 c u hmem hucl⟩
      gu := hgu
      ge0 := fun c' y hm => hmin (c', y) (List.mem_of_mem_erase hm)
      walkU := inv.sound c u hmem
      uin := List.mem_cons_self
      pendOk := fun y hy => (mem_neighborIds_iff g dir u y).1 hy
      tgt := fun hh => (List.mem_cons.1 hh).elim (fun h => hut h.symm) inv.tgt
      nodup := List.nodup_cons.2 ⟨hucl, inv.nodup⟩
      reach := by
        intro x hx
        rcases List.mem_cons.1 hx with rfl | hx'
        · exact ⟨c, inv.sound c x hmem⟩
        · exact inv.reach x hx' }

theorem RInv.done (h : RInv g dir s t u c0 [] st) : AInv g dir s t st :=
  { src := h.src, sound := h.sound, hle := h.hle, opn := h.opn, tgt := h.tgt, nodup := h.nodup,
    reach := h.reach
    relaxed := fun x hx y e hyx hs => (h.relaxed x hx y e hyx hs).resolve_left fun hh => nomatch hh.2
    mono := fun x hx => (h.le0 x hx).imp fun _ hc =>
      ⟨hc.1, fun c' y hm _ => Int.le_trans hc.2 (h.ge0 c' y hm)⟩ }

theorem astarLoop_post (hnn : NonNeg g) :
    ∀ (fuel : Nat) (st : AStarSt), AInv g dir s t st → apot g st < fuel →
      APost g dir s t (astarLoop g dir t fuel st) := by
  intro fuel
  induction fuel with
  | zero => intro st _ hp; omega
  | succ n ih =>
    intro st inv hp
    rw [astarLoop]
    cases hpop : popMin st.heap with
    | none =>
      have hnil := popMin_none hpop
      show ∀ c', ¬ AWalk g dir s t c'
      intro c' hw
      rcases walk_claim hnn inv hw with ⟨hc, _⟩ | ⟨c'', x, hm, _⟩
      · exact inv.tgt hc
      · rw [hnil] at hm; cases hm
    | some p =>
      obtain ⟨⟨c, u⟩, heap'⟩ := p
      obtain ⟨hmem, rfl, hmin⟩ := popMin_spec hpop
      dsimp only
      have hlen := length_erase_popped hmem
      by_cases hcl : st.closed.contains u = true
      · rw [if_pos hcl]
        apply ih _ (inv.drop (by simpa using hcl))
        unfold apot at hp ⊢
        dsimp only
        omega
      · rw [if_neg hcl]
        have hucl : u ∉ st.closed := by simpa using hcl
        by_cases hut : (u == t) = true
        · rw [if_pos hut]
          have hut' : u = t := by simpa using hut
          subst hut'
          refine ⟨inv.sound c u hmem, ?_⟩
          intro c' hw
          rcases walk_claim hnn inv hw with ⟨hc, _⟩ | ⟨c'', x, hm, _, hle⟩
          · exact absurd hc inv.tgt
          · have := hmin (c'', x) hm
            simp only at this
            omega
        · rw [if_neg hut]
          obtain ⟨hR, hclosed, hheap⟩ :=
            astarRelax_inv hnn _ _ (inv.expand hmem hmin hucl (by simpa using hut))
          have hnb := neighborIds_length_le g dir u
          apply ih _ hR.done
          -- one entry popped, at most `2|E|` pushed, one more node closed
          have hcl2 := closed_length_le hR.done
          rw [hclosed] at hcl2
          dsimp only at hheap
          have := pot_expand (a := st.heap.length) hnb hcl2
            (Nat.le_trans (Nat.add_le_add_right hheap 1) (by omega))
          unfold apot at hp ⊢
          rw [hclosed]
          simp only [List.length_cons] at this ⊢
          omega

theorem ainv_init (g : Graph) (dir : Dir) (s t : Nat) :
    AInv g dir s t { closed := [], gs := [(s, 0)], heap := [(0, s)] } :=
  { src := by simp [lookupDist]
    sound := by
      intro c x hm
      cases List.mem_singleton.1 hm
      exact AWalk.nil
    hle := by
      intro c x hm
      cases List.mem_singleton.1 hm
      exact ⟨0, by simp [lookupDist], Int.le_refl _⟩
    opn := by
      intro x c _ hg
      rcases lookupDist_cons_some.1 hg with ⟨rfl, rfl⟩ | ⟨_, hg⟩
      · exact List.mem_cons_self
      · cases hg
    relaxed := fun x hx => nomatch hx
    mono := fun x hx => nomatch hx
    tgt := List.not_mem_nil
    nodup := List.nodup_nil
    reach := fun x hx => nomatch hx }

theorem astarLoop_main (hnn : NonNeg g) (dir : Dir) (s t : Nat) :
    APost g dir s t (astarLoop g dir t (astarFuel g) { closed := [], gs := [(s, 0)], heap := [(0, s)] }) := by
  apply astarLoop_post hnn _ _ (ainv_init g dir s t)
  unfold apot astarFuel
  simp only [List.length_cons, List.length_nil, Nat.sub_zero]
  have : 2 * g.edges.length * (2 * g.edges.length + 1) ≤ (2 * g.edges.length + 1) * (2 * g.edges.length + 1) :=
    Nat.mul_le_mul_right _ (by omega)
  omega

end

theorem astarCost_spec (g : Graph) (dir : Dir) (s t : Nat) (hnn : NonNeg g) :
    match astarCost g dir s t with
    | some c => AWalk g dir s t c ∧ ∀ c', AWalk g dir s t c' → c ≤ c'
    | none => s ≠ t ∧ (g.hasNode s = true → g.hasNode t = true → ∀ c, ¬ AWalk g dir s t c) := by
  unfold astarCost
  by_cases hst : s = t
  · subst hst
    simp only [beq_self_eq_true, if_true]
    exact ⟨AWalk.nil, fun c' hw => hw.nonneg hnn⟩
  · have hb : (s == t) = false := by simpa using hst
    simp only [hb, Bool.false_eq_true, if_false]
    by_cases hn : (!g.hasNode s || !g.hasNode t) = true
    · rw [if_pos hn]
      refine ⟨hst, fun hs ht => ?_⟩
      simp [hs, ht] at hn
    · rw [if_neg hn]
      have hpost := astarLoop_main hnn dir s t
      cases hl : astarLoop g dir t (astarFuel g) { closed := [], gs := [(s, 0)], heap := [(0, s)] } with
      | found c => rw [hl] at hpost; exact hpost
      | notFound => rw [hl] at hpost; exact ⟨hst, fun _ _ => hpost⟩
      | outOfFuel => rw [hl] at hpost; exact hpost.elim

theorem astar_cost_is_walk (g : Graph) (dir : Dir) (s t : Nat) (c : Int) (hnn : NonNeg g)
    (h : astarCost g dir s t = some c) : AWalk g dir s t c := by
  have := astarCost_spec g dir s t hnn
  rw [h] at this
  exact this.1

theorem astar_cost_optimal (g : Graph) (dir : Dir) (s t : Nat) (c : Int) (hnn : NonNeg g)
    (h : astarCost g dir s t = some c) : ∀ c', AWalk g dir s t c' → c ≤ c' := by
  have := astarCost_spec g dir s t hnn
  rw [h] at this
  exact this.2

theorem astar_none_iff_unreachable (g : Graph) (dir : Dir) (s t : Nat) (hnn : NonNeg g) (hst : s ≠ t)
    (hs : g.hasNode s = true) (ht : g.hasNode t = true) :
    astarCost g dir s t = none ↔ ¬ ∃ c, AWalk g dir s t c := by
  have hspec := astarCost_spec g dir s t hnn
  constructor
  · intro h
    rw [h] at hspec
    exact fun ⟨c, hw⟩ => hspec.2 hs ht c hw
  · intro hno
    cases ha : astarCost g dir s t with
    | none => rfl
    | some c => rw [ha] at hspec; exact absurd ⟨c, hspec.1⟩ hno

/-- the loop never stops for lack of fuel -/
theorem astar_fuel_adequate (g : Graph) (dir : Dir) (s t : Nat) (hnn : NonNeg g) (hst : s ≠ t) :
    astarLoop g dir t (astarFuel g) { closed := [], gs := [(s, 0)], heap := [(0, s)] } ≠ .outOfFuel := by
  intro h
  have hpost := astarLoop_main hnn dir s t
  rw [h] at hpost
  exact hpost

/-! ### A* (zero heuristic, Outgoing) and Dijkstra answer the same cost -/

theorem astar_cost_eq_dijkstra_cost (g : Graph) (s t : Nat) (hnn : NonNeg g) (hend : EndpointsExist g)
    (hs : g.hasNode s = true) (ht : g.hasNode t = true) :
    astarCost g .out s t = (findWeightedPath g s t).toOption.map (·.total) := by
  by_cases hst : s = t
  · subst hst
    unfold astarCost findWeightedPath
    simp [hs, Except.toOption]
  · cases hd : findWeightedPath g s t with
    | error e =>
      simp only [Except.toOption, Option.map_none]
      cases e with
      | nodeNotFound n =>
        exfalso
        unfold findWeightedPath at hd
        simp only [hs, ht, Bool.not_true, Bool.false_eq_true, if_false] at hd
        split at hd
        · cases hd
        · split at hd <;> cases hd
      | pathNotFound =>
        rw [astar_none_iff_unreachable g .out s t hnn hst hs ht]
        rintro ⟨c, hw⟩
        exact (dijkstra_none_iff_unreachable g s t hnn hs ht).1 hd ⟨c, wwalk_of_awalk_out hw⟩
      | negativeWeight id =>
        exfalso
        obtain ⟨e, he, _, hneg⟩ := dijkstra_negative_reported g s t id hd
        have := hnn e he
        omega
    | ok p =>
      simp only [Except.toOption, Option.map_some]
      have hwalk := awalk_out_of_wwalk hend (dijkstra_total_is_walk g s t p hnn hd)
      cases ha : astarCost g .out s t with
      | none => exact absurd ⟨p.total, hwalk⟩ ((astar_none_iff_unreachable g .out s t hnn hst hs ht).1 ha)
      | some c =>
        have h1 := astar_cost_optimal g .out s t c hnn ha p.total hwalk
        have h2 := dijkstra_optimal g s t p hnn hd c (wwalk_of_awalk_out (astar_cost_is_walk g .out s t c hnn ha))
        have : c = p.total := by omega
        rw [this]

end Neumann.Paths
