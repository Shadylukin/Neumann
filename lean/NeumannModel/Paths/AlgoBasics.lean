import NeumannModel.Paths.NeighborsProofs
/-
  C18 — facts shared by the proofs about the algorithm family: `nbrSet` in terms of the edge relation
  (any direction), association-list lookups, the numbering maps of the two depth-first searches.
-/
namespace Neumann.Paths

theorem nmGet_cons (a b : Nat) (m : NatMap) (x : Nat) :
    nmGet ((a, b) :: m) x = if a = x then some b else nmGet m x := by
  by_cases h : a = x
  · have hb : (a == x) = true := by simpa using h
    simp only [nmGet, List.find?_cons, hb, if_pos h]
  · have hb : (a == x) = false := by simpa using h
    simp only [nmGet, List.find?_cons, hb, if_neg h]

theorem nmGet_cons_self (a b : Nat) (m : NatMap) : nmGet ((a, b) :: m) a = some b := by
  rw [nmGet_cons, if_pos rfl]

theorem nmGet_cons_ne {a x : Nat} (h : x ≠ a) (b : Nat) (m : NatMap) :
    nmGet ((a, b) :: m) x = nmGet m x := by
  rw [nmGet_cons, if_neg (fun e => h e.symm)]

theorem nmGet_map (f : Nat → Nat) (ns : List Nat) (x : Nat) :
    nmGet (ns.map (fun n => (n, f n))) x = if x ∈ ns then some (f x) else none := by
  induction ns with
  | nil => rfl
  | cons n ns ih =>
    rw [List.map_cons, nmGet_cons, ih]
    by_cases h : n = x
    · subst h; simp
    · have h' : ¬ x = n := fun e => h e.symm
      simp [h, h']

theorem hasNode_iff_mem (g : Graph) (n : Nat) : g.hasNode n = true ↔ n ∈ g.nodes.map (·.id) := by
  unfold Graph.hasNode
  simp only [List.any_eq_true, beq_iff_eq, List.mem_map]

theorem nbrSet_nodup (g : Graph) (etype : Option Nat) (dir : Dir) (u : Nat) :
    (nbrSet g etype dir u).Nodup :=
  List.Pairwise.filter _ (nb_eraseDups_nodup _)

theorem linked_symm {g : Graph} {etype : Option Nat} {u v : Nat} (h : linked g etype u v) :
    linked g etype v u := by
  obtain ⟨e, he, ht, hs⟩ := h
  exact ⟨e, he, ht, hs.symm⟩

theorem adjacentT_symm {g : Graph} {etype : Option Nat} {u v : Nat} (h : adjacentT g etype u v) :
    adjacentT g etype v u :=
  ⟨fun e => h.1 e.symm, h.2.2.1, h.2.1, linked_symm h.2.2.2⟩

theorem mem_neighborsRawT (g : Graph) (etype : Option Nat) (dir : Dir) (n v : Nat) :
    v ∈ neighborsRawT g etype dir n ↔
      (v ≠ n ∧ ∃ e, e ∈ g.edges ∧ typeOk etype e = true ∧
        ((dir.hasOut = true ∧ e.joins n v) ∨ (dir.hasIn = true ∧ e.joins v n))) := by
  rw [← neighborsRawF_all, mem_neighborsRawF_iff]
  simp only [TStep, Flt.all, true_and]

theorem mem_nbrSet (g : Graph) (etype : Option Nat) (dir : Dir) (u v : Nat) :
    v ∈ nbrSet g etype dir u ↔
      (v ≠ u ∧ g.hasNode v = true ∧ ∃ e, e ∈ g.edges ∧ typeOk etype e = true ∧
        ((dir.hasOut = true ∧ e.joins u v) ∨ (dir.hasIn = true ∧ e.joins v u))) := by
  unfold nbrSet
  rw [List.mem_filter, List.mem_eraseDups, mem_neighborsRawT]
  exact ⟨fun ⟨⟨h1, h2⟩, h3⟩ => ⟨h1, h3, h2⟩, fun ⟨h1, h3, h2⟩ => ⟨⟨h1, h2⟩, h3⟩⟩

theorem joins_or_iff (e : Edge) (u v : Nat) :
    (e.joins u v ∨ e.joins v u) ↔ ((e.src = u ∧ e.dst = v) ∨ (e.src = v ∧ e.dst = u)) := by
  unfold Edge.joins
  constructor
  · rintro ((h | ⟨_, h1, h2⟩) | (h | ⟨_, h1, h2⟩))
    · exact .inl h
    · exact .inr ⟨h2, h1⟩
    · exact .inr h
    · exact .inl ⟨h2, h1⟩
  · rintro (h | h)
    · exact .inl (.inl h)
    · exact .inr (.inl h)

theorem mem_nbrSet_both (g : Graph) (etype : Option Nat) (u v : Nat) :
    v ∈ nbrSet g etype .both u ↔ (v ≠ u ∧ g.hasNode v = true ∧ linked g etype u v) := by
  rw [mem_nbrSet]
  unfold linked
  simp only [Dir.hasOut, Dir.hasIn, true_and, joins_or_iff]

theorem mem_nbrSet_both_symm (g : Graph) (etype : Option Nat) (u v : Nat)
    (hu : g.hasNode u = true) (hv : g.hasNode v = true) :
    v ∈ nbrSet g etype .both u ↔ u ∈ nbrSet g etype .both v := by
  rw [mem_nbrSet_both, mem_nbrSet_both]
  exact ⟨fun ⟨h1, _, h3⟩ => ⟨fun h => h1 h.symm, hu, linked_symm h3⟩,
    fun ⟨h1, _, h3⟩ => ⟨fun h => h1 h.symm, hv, linked_symm h3⟩⟩

theorem mem_nbrSet_both_iff_adjacentT (g : Graph) (etype : Option Nat) (u v : Nat)
    (hu : g.hasNode u = true) :
    v ∈ nbrSet g etype .both u ↔ adjacentT g etype u v := by
  rw [mem_nbrSet_both]
  unfold adjacentT
  exact ⟨fun ⟨h1, h2, h3⟩ => ⟨fun h => h1 h.symm, hu, h2, h3⟩,
    fun ⟨h1, _, h2, h3⟩ => ⟨fun h => h1 h.symm, h2, h3⟩⟩

theorem mem_nbrSet_of_adjacentT {g : Graph} {etype : Option Nat} {u v : Nat}
    (h : adjacentT g etype u v) : v ∈ nbrSet g etype .both u :=
  (mem_nbrSet_both_iff_adjacentT g etype u v h.2.1).2 h

/-! ### numbering maps of the depth-first searches

`indices` of Tarjan's search and `disc` of the low-link search only ever grow by fresh keys; the
recursion fuel of both is measured by the number of nodes that have no number yet. -/

def tjNum (m : NatMap) (x : Nat) : Nat := (nmGet m x).getD 0

theorem tjNum_of_some {m : NatMap} {x k : Nat} (h : nmGet m x = some k) : tjNum m x = k := by
  unfold tjNum; rw [h]; rfl

theorem tjNum_congr {m m' : NatMap} {x : Nat} (h : nmGet m' x = nmGet m x) : tjNum m' x = tjNum m x := by
  unfold tjNum; rw [h]

def NmExt (m m' : NatMap) : Prop := ∀ x k, nmGet m x = some k → nmGet m' x = some k

theorem NmExt.refl (m : NatMap) : NmExt m m := fun _ _ h => h

theorem NmExt.trans {a b c : NatMap} (h1 : NmExt a b) (h2 : NmExt b c) : NmExt a c :=
  fun x k h => h2 x k (h1 x k h)

theorem NmExt.get {m m' : NatMap} (h : NmExt m m') {x : Nat} (hx : nmGet m x ≠ none) :
    nmGet m' x = nmGet m x := by
  cases hk : nmGet m x with
  | none => exact absurd hk hx
  | some k => exact h x k hk

theorem NmExt.vis {m m' : NatMap} (h : NmExt m m') {x : Nat} (hx : nmGet m x ≠ none) :
    nmGet m' x ≠ none := by
  rw [h.get hx]; exact hx

theorem NmExt.num {m m' : NatMap} (h : NmExt m m') {x : Nat} (hx : nmGet m x ≠ none) :
    tjNum m' x = tjNum m x :=
  tjNum_congr (h.get hx)

theorem NmExt.cons {m : NatMap} {v : Nat} (hv : nmGet m v = none) (k : Nat) : NmExt m ((v, k) :: m) := by
  intro x j hx
  rw [nmGet_cons_ne (fun e => by rw [e, hv] at hx; cases hx)]
  exact hx

def nmUnset (nodes : List Nat) (m : NatMap) : Nat := nodes.countP (fun n => (nmGet m n).isNone)

theorem nmUnset_le_length (nodes : List Nat) (m : NatMap) : nmUnset nodes m ≤ nodes.length :=
  List.countP_le_length

theorem nmUnset_mono (nodes : List Nat) {m m' : NatMap}
    (h : ∀ x, nmGet m x ≠ none → nmGet m' x ≠ none) : nmUnset nodes m' ≤ nmUnset nodes m := by
  refine List.countP_mono_left (fun x _ hx => ?_)
  rw [Option.isNone_iff_eq_none] at hx ⊢
  exact Classical.byContradiction (fun hne => h x hne hx)

theorem nmUnset_lt (nodes : List Nat) {m m' : NatMap}
    (h : ∀ x, nmGet m x ≠ none → nmGet m' x ≠ none)
    {v : Nat} (hv : v ∈ nodes) (h1 : nmGet m v = none) (h2 : nmGet m' v ≠ none) :
    nmUnset nodes m' < nmUnset nodes m := by
  induction nodes with
  | nil => exact absurd hv List.not_mem_nil
  | cons a as ih =>
    have hm := nmUnset_mono as h
    have ha := nmUnset_mono [a] h
    unfold nmUnset at hm ha ih ⊢
    rw [List.countP_cons, List.countP_cons]
    rw [List.countP_cons, List.countP_cons, List.countP_nil, List.countP_nil] at ha
    rcases List.mem_cons.1 hv with rfl | hv'
    · have e1 : (nmGet m v).isNone = true := by rw [h1]; rfl
      have e2 : ¬ (nmGet m' v).isNone = true := by rw [Option.isNone_iff_eq_none]; exact h2
      rw [if_pos e1, if_neg e2]
      omega
    · have := ih hv'
      omega

end Neumann.Paths
