import NeumannModel.Paths.AlgoModel
/-!
  The early-stopping enumeration `awEnumTake` (what the driver runs, and what the engine does:
  `if paths.len() >= max_paths { break }`) is exactly the `take k` prefix of the full enumeration
  `awEnum`; hence `findAllWeightedPathsFast = findAllWeightedPaths`.
-/
namespace Neumann.Paths

theorem awf_take_append {α : Type} (X R : List α) (k : Nat) :
    X.take k ++ R.take (k - (X.take k).length) = (X ++ R).take k := by
  rw [List.take_append, List.length_take]
  have h : k - min k X.length = k - X.length := by omega
  rw [h]

def awf_step (parents : MultiParent) (src d : Nat) (ns es : List Nat) : Nat × Nat → List Path :=
  fun (p, eid) => if ns.contains p then [] else awEnum parents src d p (p :: ns) (eid :: es)

theorem awf_list_of_node (parents : MultiParent) (src d : Nat)
    (ih : ∀ cur ns es k, awEnumTake parents src d cur ns es k = (awEnum parents src d cur ns es).take k)
    (ns es : List Nat) (ps : List (Nat × Nat)) (k : Nat) :
    awEnumTakeList parents src d ns es ps k = (ps.flatMap (awf_step parents src d ns es)).take k := by
  induction ps generalizing k with
  | nil => rw [awEnumTakeList]; simp only [List.flatMap_nil, List.take_nil]
  | cons a rest ihl =>
    obtain ⟨p, eid⟩ := a
    rw [awEnumTakeList]
    by_cases hk : k = 0
    · subst hk
      simp only [beq_self_eq_true, if_true, List.take_zero]
    · have hk' : (k == 0) = false := by simp only [beq_eq_false_iff_ne, ne_eq, hk, not_false_eq_true]
      simp only [hk', Bool.false_eq_true, if_false, List.flatMap_cons]
      rw [ihl]
      cases hc : ns.contains p with
      | true =>
        simp only [awf_step, hc, if_true, List.length_nil, Nat.sub_zero, List.nil_append]
      | false =>
        have hs : awf_step parents src d ns es (p, eid) = awEnum parents src d p (p :: ns) (eid :: es) := by
          simp only [awf_step, hc, Bool.false_eq_true, if_false]
        simp only [Bool.false_eq_true, if_false]
        rw [ih, hs]
        exact awf_take_append _ _ _

theorem awf_enum_unfold (parents : MultiParent) (src d cur : Nat) (ns es : List Nat) :
    awEnum parents src (d + 1) cur ns es =
      if cur == src then [{ nodes := ns, edges := es }]
      else match lookupParents parents cur with
        | none => []
        | some ps => ps.reverse.flatMap (awf_step parents src d ns es) := by
  rw [awEnum]; rfl

theorem awf_head {α : Type} (k : Nat) (c : Bool) (p : α) {X Y : List α}
    (h : X = Y.take k) :
    (if (k == 0) = true then [] else if c = true then [p] else X) = (if c = true then [p] else Y).take k := by
  by_cases hk : k = 0
  · subst hk; simp only [beq_self_eq_true, if_true, List.take_zero]
  · rw [if_neg (by simpa using hk)]
    cases c with
    | true => exact (List.take_of_length_le (Nat.pos_of_ne_zero hk)).symm
    | false => exact h

theorem awEnumTake_eq (parents : MultiParent) (src d cur : Nat) (ns es : List Nat) (k : Nat) :
    awEnumTake parents src d cur ns es k = (awEnum parents src d cur ns es).take k := by
  induction d generalizing cur ns es k with
  | zero =>
    rw [awEnumTake, awEnum]
    exact awf_head k _ _ List.take_nil.symm
  | succ d ih =>
    rw [awEnumTake, awf_enum_unfold]
    refine awf_head k _ _ ?_
    cases hl : lookupParents parents cur with
    | none => exact List.take_nil.symm
    | some ps => exact awf_list_of_node parents src d ih ns es ps.reverse k

/-- the list version, in the shape of `awEnum`'s body -/
theorem awEnumTakeList_eq (parents : MultiParent) (src d : Nat) (ns es : List Nat)
    (ps : List (Nat × Nat)) (k : Nat) :
    awEnumTakeList parents src d ns es ps k =
      (ps.flatMap (fun (p, eid) =>
        if ns.contains p then [] else awEnum parents src d p (p :: ns) (eid :: es))).take k :=
  awf_list_of_node parents src d (awEnumTake_eq parents src d) ns es ps k

theorem findAllWeightedPathsFast_eq (g : Graph) (mp cap s t : Nat) :
    findAllWeightedPathsFast g mp cap s t = findAllWeightedPaths g mp cap s t := by
  unfold findAllWeightedPathsFast findAllWeightedPaths
  simp only [awEnumTake_eq]

/-- two parents of node 2, both leading to the source 0: the cut enumeration returns one path -/
example : awEnumTake [(2, [(0, 7), (1, 8)]), (1, [(0, 9)])] 0 5 2 [2] [] 1
    = [{ nodes := [0, 1, 2], edges := [9, 8] }] := by
  rw [awEnumTake_eq]; decide +kernel

example : (awEnumTake [(2, [(0, 7), (1, 8)]), (1, [(0, 9)])] 0 5 2 [2] [] 1).length = 1 := by
  rw [awEnumTake_eq]; decide +kernel

end Neumann.Paths
