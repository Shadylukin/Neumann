import NeumannModel.Paths.Basics
/-
  C18 — `find_variable_paths`: the model (`varNbrs`, `varDfs`, `findVariablePaths`) returns exactly the
  paths described by `VarPathOk`, for every graph / config / filter / endpoints.
  Proofs by structural induction on the remaining depth; nothing is enumerated.
-/
namespace Neumann.Paths

/-- the out-list rule of `get_variable_path_neighbors_filtered` -/
def varOutRule (etypes : Option (List Nat)) (flt : Flt) (n : Nat) (e : Edge) : Option (Nat × Nat) :=
  if !typesOk etypes e then none
  else if !flt.edgeOk e then none
  else if e.src == n then some (e.dst, e.id)
  else if !e.directed && e.dst == n then some (e.src, e.id)
  else none

/-- its in-list rule: under `Both` an undirected edge was already offered by the out-list -/
def varInRule (etypes : Option (List Nat)) (dir : Dir) (flt : Flt) (n : Nat) (e : Edge) : Option (Nat × Nat) :=
  if !typesOk etypes e then none
  else if !flt.edgeOk e then none
  else
    let nb := if e.dst == n then some e.src else if !e.directed && e.src == n then some e.dst else none
    match nb with
    | none => none
    | some x => if dir == .both && !e.directed then none else some (x, e.id)

theorem varNbrs_eq (g : Graph) (etypes : Option (List Nat)) (dir : Dir) (flt : Flt) (n : Nat) :
    varNbrs g etypes dir flt n =
      (if dir.hasOut then (outEdges g n).filterMap (varOutRule etypes flt n) else []) ++
      (if dir.hasIn then (inEdges g n).filterMap (varInRule etypes dir flt n) else []) := rfl

theorem varOutRule_iff (etypes : Option (List Nat)) (flt : Flt) (u v eid : Nat) (e : Edge) :
    varOutRule etypes flt u e = some (v, eid)
      ↔ typesOk etypes e = true ∧ flt.edgeOk e = true ∧ e.id = eid ∧ e.joins u v := by
  unfold varOutRule Edge.joins
  cases typesOk etypes e <;> cases flt.edgeOk e <;> simp
  grind

theorem varInRule_iff (etypes : Option (List Nat)) (dir : Dir) (flt : Flt) (u v eid : Nat) (e : Edge) :
    varInRule etypes dir flt u e = some (v, eid)
      ↔ typesOk etypes e = true ∧ flt.edgeOk e = true ∧ e.id = eid ∧ e.joins v u ∧
          ¬ (dir = .both ∧ e.directed = false) := by
  unfold varInRule Edge.joins
  cases typesOk etypes e <;> cases flt.edgeOk e <;> simp
  split <;> grind

theorem mem_varNbrs_iff (g : Graph) (cfg : VarCfg) (flt : Flt) (tgt u v eid : Nat) :
    ((v, eid) ∈ varNbrs g cfg.etypes cfg.dir flt u ∧ (v = tgt ∨ flt.nodeOk v = true))
      ↔ ∃ e, e ∈ g.edges ∧ e.id = eid ∧ VStep g cfg flt tgt u v e := by
  simp only [varNbrs_eq, VStep, List.mem_append, mem_if_filterMap, mem_outEdges_iff, mem_inEdges_iff,
    varOutRule_iff, varInRule_iff]
  constructor
  · rintro ⟨⟨ho, e, ⟨he, _⟩, h1, h2, h3, h4⟩ | ⟨hi, e, ⟨he, _⟩, h1, h2, h3, h4, _⟩, hv⟩
    · exact ⟨e, he, h3, he, h1, h2, .inl ⟨ho, h4⟩, hv⟩
    · exact ⟨e, he, h3, he, h1, h2, .inr ⟨hi, h4⟩, hv⟩
  · rintro ⟨e, he, hid, _, h1, h2, hj, hv⟩
    refine ⟨?_, hv⟩
    rcases hj with ⟨ho, hj⟩ | ⟨hi, hj⟩
    · exact .inl ⟨ho, e, ⟨he, joins_out hj⟩, h1, h2, hid, hj⟩
    · by_cases hskip : cfg.dir = .both ∧ e.directed = false
      · -- the in-list skips the edge; the out-list has offered it, the other way round
        have hj' := (joins_symm_of_undirected hskip.2 u v).mp hj
        exact .inl ⟨by rw [hskip.1]; rfl, e, ⟨he, joins_out hj'⟩, h1, h2, hid, hj'⟩
      · exact .inr ⟨hi, e, ⟨he, joins_in hj⟩, h1, h2, hid, hj, hskip⟩

theorem mem_varDfs_iff (g : Graph) (cfg : VarCfg) (flt : Flt) (t : Nat) (rem cur : Nat)
    (pn pe vis : List Nat) (p : Path) :
    p ∈ varDfs g cfg flt t rem cur pn pe vis ↔
      ∃ ns es, p.nodes = pn.reverse ++ ns ∧ p.edges = pe.reverse ++ es ∧ es.length = rem ∧
        ChainOk g (VStep g cfg flt t) (cur :: ns) es ∧ (cur :: ns).getLast? = some t ∧
        (cfg.allowCycles = false → ns.Nodup ∧ ∀ x, x ∈ ns → x ∉ vis) := by
  induction rem generalizing cur pn pe vis with
  | zero =>
    rw [varDfs]
    constructor
    · intro h
      split at h
      · rename_i hc
        have hc' : cur = t := by simpa using hc
        rw [List.mem_singleton] at h
        subst h
        exact ⟨[], [], by simp, by simp, rfl, (chainOk_single _ _ _).mpr trivial, by simp [hc'], by simp⟩
      · simp at h
    · rintro ⟨ns, es, hn, he, hl, hch, hlast, _⟩
      have hes : es = [] := List.eq_nil_of_length_eq_zero hl
      subst hes
      have hns : ns = [] := (chainOk_nil_edges _ _ _ _).mp hch
      subst hns
      have hc : cur = t := by simpa using hlast
      have hp : p = { nodes := pn.reverse, edges := pe.reverse } := by
        cases p; simp at hn he; simp [hn, he]
      simp [hc, hp]
  | succ rem ih =>
    rw [varDfs, List.mem_flatMap]
    constructor
    · rintro ⟨⟨nb, eid⟩, hmem, hp⟩
      dsimp only at hp
      split at hp
      · simp at hp
      · rename_i hvis
        split at hp
        · simp at hp
        · rename_i hnode
          have hnode' : nb = t ∨ flt.nodeOk nb = true := by
            cases hk : flt.nodeOk nb
            · left; simpa [hk] using hnode
            · right; rfl
          obtain ⟨ns', es', hn, he, hl, hch, hlast, hnd⟩ := (ih _ _ _ _).mp hp
          refine ⟨nb :: ns', eid :: es', ?_, ?_, ?_, ?_, ?_, ?_⟩
          · rw [hn]; simp
          · rw [he]; simp
          · simp [hl]
          · exact (chainOk_cons _ _ _ _ _ _ _).mpr
              ⟨(mem_varNbrs_iff g cfg flt t cur nb eid).mp ⟨hmem, hnode'⟩, hch⟩
          · rw [List.getLast?_cons_cons]; exact hlast
          · intro hac
            have hnv : nb ∉ vis := by simpa [hac] using hvis
            obtain ⟨hnd1, hnd2⟩ := hnd hac
            simp only [hac, Bool.false_eq_true, if_false] at hnd2
            refine ⟨List.nodup_cons.mpr ⟨fun hin => ?_, hnd1⟩, ?_⟩
            · exact hnd2 nb hin (List.mem_cons_self)
            · intro x hx
              rcases List.mem_cons.mp hx with rfl | hx
              · exact hnv
              · exact fun hxv => hnd2 x hx (List.mem_cons_of_mem _ hxv)
    · rintro ⟨ns, es, hn, he, hl, hch, hlast, hnd⟩
      cases es with
      | nil => simp at hl
      | cons eid es' =>
        cases ns with
        | nil => exact absurd hch (by rw [chainOk_single_cons]; exact id)
        | cons nb ns' =>
          obtain ⟨hstep, hch'⟩ := (chainOk_cons _ _ _ _ _ _ _).mp hch
          obtain ⟨hmem, hnode'⟩ := (mem_varNbrs_iff g cfg flt t cur nb eid).mpr hstep
          refine ⟨(nb, eid), hmem, ?_⟩
          dsimp only
          have hvis : ¬ ((!cfg.allowCycles && vis.contains nb) = true) := by
            cases hac : cfg.allowCycles
            · have := (hnd hac).2 nb (List.mem_cons_self)
              simpa using this
            · simp
          have hnode : ¬ ((nb != t && !flt.nodeOk nb) = true) := by
            rcases hnode' with h | h <;> simp [h]
          rw [if_neg hvis, if_neg hnode]
          apply (ih _ _ _ _).mpr
          refine ⟨ns', es', ?_, ?_, ?_, hch', ?_, ?_⟩
          · rw [hn]; simp
          · rw [he]; simp
          · simpa using hl
          · rw [List.getLast?_cons_cons] at hlast; exact hlast
          · intro hac
            obtain ⟨hnd1, hnd2⟩ := hnd hac
            simp only [hac, Bool.false_eq_true, if_false]
            obtain ⟨hnotin, hnd1'⟩ := List.nodup_cons.mp hnd1
            refine ⟨hnd1', ?_⟩
            intro x hx hxv
            rcases List.mem_cons.mp hxv with rfl | hxv
            · exact hnotin hx
            · exact hnd2 x (List.mem_cons_of_mem _ hx) hxv

theorem varPathOk_iff (g : Graph) (cfg : VarCfg) (flt : Flt) (s t : Nat) (p : Path) :
    VarPathOk g cfg flt s t p ↔
      (s = t ∧ cfg.minHops = 0 ∧ p = { nodes := [s], edges := [] }) ∨
      (∃ d, max cfg.minHops 1 ≤ d ∧ d ≤ cfg.maxHops ∧
        p ∈ varDfs g cfg flt t d s [s] [] (if cfg.allowCycles then [] else [s])) := by
  constructor
  · rintro ⟨hh, hl, hch, hmin, hmax, hnd⟩
    obtain ⟨nodes, edges⟩ := p
    dsimp only at hh hl hch hmin hmax hnd
    cases nodes with
    | nil => simp at hh
    | cons s' ns =>
      have hs : s' = s := by simpa using hh
      subst hs
      cases edges with
      | nil =>
        left
        have hns : ns = [] := (chainOk_nil_edges _ _ _ _).mp hch
        subst hns
        have hst : s' = t := by simpa using hl
        refine ⟨hst, ?_, rfl⟩
        simpa using hmin
      | cons eid es =>
        right
        refine ⟨(eid :: es).length, ?_, hmax, ?_⟩
        · simp only [List.length_cons] at hmin ⊢; omega
        · apply (mem_varDfs_iff _ _ _ _ _ _ _ _ _ _).mpr
          refine ⟨ns, eid :: es, by simp, by simp, rfl, hch, hl, ?_⟩
          intro hac
          obtain ⟨hnotin, hnd'⟩ := List.nodup_cons.mp (hnd hac)
          refine ⟨hnd', ?_⟩
          intro x hx hxv
          simp only [hac, Bool.false_eq_true, if_false, List.mem_singleton] at hxv
          subst hxv
          exact hnotin hx
  · rintro (⟨hst, hmin, hp⟩ | ⟨d, hlo, hhi, hmem⟩)
    · subst hp; subst hst
      refine ⟨rfl, rfl, (chainOk_single _ _ _).mpr trivial, ?_, ?_, ?_⟩
      · simp [hmin]
      · simp
      · intro _; simp
    · obtain ⟨ns, es, hn, he, hl, hch, hlast, hnd⟩ := (mem_varDfs_iff _ _ _ _ _ _ _ _ _ _).mp hmem
      have hn' : p.nodes = s :: ns := by simpa using hn
      have he' : p.edges = es := by simpa using he
      refine ⟨?_, ?_, ?_, ?_, ?_, ?_⟩
      · rw [hn']; rfl
      · rw [hn']; exact hlast
      · rw [hn', he']; exact hch
      · rw [he', hl]; omega
      · rw [he', hl]; exact hhi
      · intro hac
        obtain ⟨hnd1, hnd2⟩ := hnd hac
        simp only [hac, Bool.false_eq_true, if_false, List.mem_singleton] at hnd2
        rw [hn']
        exact List.nodup_cons.mpr ⟨fun hin => hnd2 s hin rfl, hnd1⟩

theorem varpaths_error_iff (g : Graph) (cfg : VarCfg) (flt : Flt) (s t : Nat) :
    (∃ e, findVariablePaths g cfg flt s t = .error e) ↔ (g.hasNode s = false ∨ g.hasNode t = false) := by
  unfold findVariablePaths
  cases hs : g.hasNode s
  · simp
  · cases ht : g.hasNode t
    · simp
    · simp only [Bool.not_true, Bool.false_eq_true, if_false]
      constructor
      · rintro ⟨e, he⟩
        split at he <;> cases he
      · rintro (h | h) <;> cases h

/-- with both endpoints present the answer is the zero-hop path (if asked for) followed by the results
    of the DFS at every admissible depth; the early return of the engine for `0..=0` hops is that list too -/
theorem findVariablePaths_ok {g : Graph} {cfg : VarCfg} {flt : Flt} {s t : Nat}
    (hs : g.hasNode s = true) (ht : g.hasNode t = true) :
    findVariablePaths g cfg flt s t = .ok
      ((if s == t && cfg.minHops == 0 then [{ nodes := [s], edges := [] }] else []) ++
        ((List.range (cfg.maxHops + 1)).filter (fun d => max cfg.minHops 1 ≤ d)).flatMap (fun d =>
          varDfs g cfg flt t d s [s] [] (if cfg.allowCycles then [] else [s]))) := by
  unfold findVariablePaths
  simp only [hs, ht, Bool.not_true, Bool.false_eq_true, if_false]
  split
  · rename_i hz
    simp only [Bool.and_eq_true, beq_iff_eq] at hz
    simp [hz.1.1, hz.1.2, hz.2]
  · rfl

theorem varpaths_exact (g : Graph) (cfg : VarCfg) (flt : Flt) (s t : Nat) (ps : List Path)
    (h : findVariablePaths g cfg flt s t = .ok ps) :
    ∀ p, p ∈ ps ↔ VarPathOk g cfg flt s t p := by
  have hs : g.hasNode s = true := by
    cases hs : g.hasNode s
    · obtain ⟨e, he⟩ := (varpaths_error_iff g cfg flt s t).2 (.inl hs)
      rw [he] at h; cases h
    · rfl
  have ht : g.hasNode t = true := by
    cases ht : g.hasNode t
    · obtain ⟨e, he⟩ := (varpaths_error_iff g cfg flt s t).2 (.inr ht)
      rw [he] at h; cases h
    · rfl
  rw [findVariablePaths_ok hs ht] at h
  cases h
  intro p
  rw [varPathOk_iff, List.mem_append, List.mem_flatMap]
  refine or_congr ?_ ?_
  · split
    · rename_i hc
      simp only [Bool.and_eq_true, beq_iff_eq] at hc
      simp [hc.1, hc.2]
    · rename_i hc
      simp only [Bool.and_eq_true, beq_iff_eq] at hc
      simp only [List.not_mem_nil, false_iff]
      exact fun h => hc ⟨h.1, h.2.1⟩
  · simp only [List.mem_filter, List.mem_range, decide_eq_true_eq]
    constructor
    · rintro ⟨d, ⟨hd1, hd2⟩, hp⟩; exact ⟨d, hd2, by omega, hp⟩
    · rintro ⟨d, hlo, hhi, hp⟩; exact ⟨d, ⟨by omega, hlo⟩, hp⟩

/-! ### non-vacuity -/

/-- nodes 1,2,3; directed edges 10: 1→2, 11: 2→3, 12: 1→3 -/
def exGraph : Graph :=
  { nodes := [⟨1, none⟩, ⟨2, none⟩, ⟨3, none⟩]
    edges := [⟨10, 1, 2, true, 0, none, none⟩, ⟨11, 2, 3, true, 0, none, none⟩,
              ⟨12, 1, 3, true, 0, none, none⟩] }

/-- the hypothesis of `varpaths_exact` is satisfiable with a non-trivial answer: two matches 1 ⇝ 3 -/
example :
    (findVariablePaths exGraph ⟨1, 2, .out, none, false⟩ Flt.all 1 3).toOption
      = some [⟨[1, 3], [12]⟩, ⟨[1, 2, 3], [10, 11]⟩] := by decide +kernel

/-- undirected triangle (ids 20, 21, 22), `Both`, cycles allowed, 0..=3 hops from 1 back to 1:
    the zero-hop path plus the two orientations of the triangle (each undirected edge offered once) -/
def exTri : Graph :=
  { nodes := [⟨1, none⟩, ⟨2, none⟩, ⟨3, none⟩]
    edges := [⟨20, 1, 2, false, 0, none, none⟩, ⟨21, 2, 3, false, 0, none, none⟩,
              ⟨22, 3, 1, false, 0, none, none⟩] }

example :
    (findVariablePaths exTri ⟨0, 3, .both, none, true⟩ Flt.all 1 1).toOption
      = some [⟨[1], []⟩, ⟨[1, 2, 1], [20, 20]⟩, ⟨[1, 3, 1], [22, 22]⟩,
             ⟨[1, 2, 3, 1], [20, 21, 22]⟩, ⟨[1, 3, 2, 1], [22, 21, 20]⟩] := by decide +kernel

/-- `varpaths_exact` used forwards: a listed result is a genuine match … -/
example : VarPathOk exGraph ⟨1, 2, .out, none, false⟩ Flt.all 1 3 ⟨[1, 2, 3], [10, 11]⟩ :=
  (varpaths_exact exGraph ⟨1, 2, .out, none, false⟩ Flt.all 1 3 _ rfl _).mp (by decide)

/-- … and backwards: a non-listed candidate (edge 11 does not leave node 1) is not a match -/
example : ¬ VarPathOk exGraph ⟨1, 2, .out, none, false⟩ Flt.all 1 3 ⟨[1, 3], [11]⟩ :=
  fun h => absurd ((varpaths_exact exGraph ⟨1, 2, .out, none, false⟩ Flt.all 1 3 _ rfl _).mpr h) (by decide)

/-- the error side: an endpoint that does not exist -/
example : findVariablePaths exGraph ⟨1, 2, .out, none, false⟩ Flt.all 1 7 = .error (.nodeNotFound 7) :=
  rfl

end Neumann.Paths

