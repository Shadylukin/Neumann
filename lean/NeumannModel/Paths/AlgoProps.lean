import NeumannModel.Paths.AllWProofs
import NeumannModel.Paths.AllWFastProofs
import NeumannModel.Paths.UnionFindProofs
import NeumannModel.Paths.MstProofs
import NeumannModel.Paths.TriangleProofs
import NeumannModel.Paths.KCoreProofs
import NeumannModel.Paths.SccProofs
import NeumannModel.Paths.BiconProofs
import NeumannModel.Paths.NeighborsProofs
import NeumannModel.Paths.VarProofs
import NeumannModel.Paths.AStarCfgProofs
/-
  C18 — second half of the property theorems: the stored adjacency as the public API shows it
  (`edges_of`, `neighbors`), and the algorithm family ("component, spanning-tree, core-number and
  triangle algorithms agree with their textbook definitions on the same graph").

  Everything is stated over the model of `AlgoModel.lean` (union-find with rank and path compression,
  Kruskal, lazy-heap core peeling, forward triangle count, recursive Tarjan, low-link DFS for cut
  vertices and bridges — mirrored from the Rust branch by branch) and
  the declarative notions of `AlgoSpec.lean`, for EVERY graph; hypotheses are only the engine's own
  invariants where a statement needs them (`NodesUnique`: node ids are unique).
-/
namespace Neumann.Paths.Props
open Neumann.Paths

/-! ### find_variable_paths under `max_paths` -/

/-- with `max_paths = k` the answer is a prefix of the untruncated answer: at most `k` matches, every
    one a qualifying chain within the hop bounds, and all of them when there are at most `k` -/
theorem varpaths_capped (g : Graph) (cfg : VarCfg) (flt : Flt) (s t k : Nat) (ps : List Path)
    (h : findVariablePathsCapped g cfg flt s t k = .ok ps) :
    ps.length ≤ k ∧ (∀ p, p ∈ ps → VarPathOk g cfg flt s t p) ∧
    ∃ full, findVariablePaths g cfg flt s t = .ok full ∧ ps = full.take k ∧ (full.length ≤ k → ps = full) := by
  unfold findVariablePathsCapped at h
  split at h
  · rename_i full hfull
    cases h
    refine ⟨List.length_take_le _ _, ?_, full, hfull, rfl, fun hl => List.take_of_length_le hl⟩
    intro p hp
    exact (Neumann.Paths.varpaths_exact g cfg flt s t full hfull p).1 (List.mem_of_mem_take hp)
  · cases h

/-- non-vacuity: two matches 1 ⇝ 3 within 1..2 hops, `max_paths = 1` keeps the first -/
example : (findVariablePathsCapped exGraph ⟨1, 2, .out, none, false⟩ Flt.all 1 3 1).toOption
    = some [⟨[1, 3], [12]⟩] := by decide +kernel

/-! ### the stored adjacency: `edges_of` and `neighbors` -/

/-- `edges_of(n, dir)` lists (once each) exactly the ids of the edges that leave `n` (`Outgoing`),
    arrive at `n` (`Incoming`) or either (`Both`); an undirected edge does both at both of its ends -/
theorem edges_of_exact (g : Graph) (dir : Dir) (n : Nat) (r : List Nat) (h : edgesOf g dir n = some r) :
    r.Nodup ∧ ∀ i, i ∈ r ↔ ∃ e, e ∈ g.edges ∧ e.id = i ∧
      ((dir.hasOut = true ∧ (e.src = n ∨ (e.directed = false ∧ e.dst = n))) ∨
       (dir.hasIn = true ∧ (e.dst = n ∨ (e.directed = false ∧ e.src = n)))) :=
  Neumann.Paths.edges_of_exact g dir n r h

theorem edges_of_none_iff (g : Graph) (dir : Dir) (n : Nat) : edgesOf g dir n = none ↔ g.hasNode n = false :=
  Neumann.Paths.edges_of_none_iff g dir n

/-- `neighbors(n, edge_type, dir, filter)` returns (once each) exactly the existing nodes that pass the
    node filter and are one qualifying hop away — the same one-hop relation `traverse` is proved
    against (`traverse_exact`, `neighbours_exact`) -/
theorem neighbors_api_exact (g : Graph) (etype : Option Nat) (dir : Dir) (flt : Flt) (n : Nat) (r : List Nat)
    (h : neighborsApi g etype dir flt n = some r) :
    r.Nodup ∧ ∀ v, v ∈ r ↔ (g.hasNode v = true ∧ flt.nodeOk v = true ∧ TStep g etype dir flt n v) :=
  Neumann.Paths.neighbors_api_exact g etype dir flt n r h

theorem neighbors_api_none_iff (g : Graph) (etype : Option Nat) (dir : Dir) (flt : Flt) (n : Nat) :
    neighborsApi g etype dir flt n = none ↔ g.hasNode n = false :=
  Neumann.Paths.neighbors_api_none_iff g etype dir flt n

/-- non-vacuity: directed 1→2, undirected 2—3, self-loop on 2 -/
example : neighborsApi nbExampleGraph none .out Flt.all 2 = some [3] ∧
    neighborsApi nbExampleGraph none .inc Flt.all 2 = some [1, 3] ∧
    edgesOf nbExampleGraph .out 2 = some [11, 12] ∧ edgesOf nbExampleGraph .inc 2 = some [10, 11, 12] := by decide +kernel

/-! ### find_all_weighted_paths: all minimum-weight simple paths -/

/-- the reported total is the weight of a real direction-respecting walk, and no walk is lighter -/
theorem awp_total_optimal (g : Graph) (mp cap s t : Nat) (r : AllWPaths) (hnn : NonNeg g)
    (h : findAllWeightedPaths g mp cap s t = .ok r) :
    WWalk g s t r.total ∧ ∀ c, WWalk g s t c → r.total ≤ c :=
  Neumann.Paths.awp_total_optimal g mp cap s t r hnn h

/-- every listed path is a simple chain of existing edges from `s` to `t`, followed along their
    direction, whose weights add up to exactly the reported (minimum) total -/
theorem awp_paths_sound (g : Graph) (mp cap s t : Nat) (r : AllWPaths) (hnn : NonNeg g)
    (h : findAllWeightedPaths g mp cap s t = .ok r) :
    ∀ p, p ∈ r.paths → p.nodes.head? = some s ∧ p.nodes.getLast? = some t ∧
      WChainOk g p.nodes p.edges r.total ∧ p.nodes.Nodup :=
  Neumann.Paths.awp_paths_sound g mp cap s t r hnn h

/-- `NegativeWeight{edge_id}` always names an existing edge with a negative weight -/
theorem awp_negative_reported (g : Graph) (mp cap s t id : Nat)
    (h : findAllWeightedPaths g mp cap s t = .error (.negativeWeight id)) :
    ∃ e, e ∈ g.edges ∧ e.id = id ∧ e.w < 0 :=
  Neumann.Paths.awp_negative_reported g mp cap s t id h

/-- for existing endpoints and non-negative weights, `PathNotFound` iff no walk exists (includes fuel
    adequacy of the loop) -/
theorem awp_none_iff_unreachable (g : Graph) (mp cap s t : Nat) (hnn : NonNeg g)
    (hs : g.hasNode s = true) (ht : g.hasNode t = true) :
    findAllWeightedPaths g mp cap s t = .error .pathNotFound ↔ ¬ ∃ c, WWalk g s t c :=
  Neumann.Paths.awp_none_iff_unreachable g mp cap s t hnn hs ht

/-- it reports exactly the total `find_weighted_path` reports, and no path exactly when that does -/
theorem awp_total_eq_dijkstra (g : Graph) (mp cap s t : Nat) (hnn : NonNeg g)
    (hs : g.hasNode s = true) (ht : g.hasNode t = true) :
    (findAllWeightedPaths g mp cap s t).toOption.map (·.total) = (findWeightedPath g s t).toOption.map (·.total) :=
  Neumann.Paths.awp_total_eq_dijkstra g mp cap s t hnn hs ht

/-- with `max_paths > 0` at least one path is listed, whatever `max_parents_per_node` is and even
    when zero-weight cycles make a node its own equal-cost ancestor -/
theorem awp_nonempty (g : Graph) (mp cap s t : Nat) (r : AllWPaths) (hnn : NonNeg g) (hmp : 0 < mp)
    (h : findAllWeightedPaths g mp cap s t = .ok r) : r.paths ≠ [] :=
  Neumann.Paths.awp_nonempty g mp cap s t r hnn hmp h

/-- when neither cap is reached (`max_parents_per_node ≥ 2·|E|`, fewer than `max_paths` results)
    every simple minimum-weight chain is listed -/
theorem awp_complete (g : Graph) (mp cap s t : Nat) (r : AllWPaths) (hnn : NonNeg g)
    (h : findAllWeightedPaths g mp cap s t = .ok r)
    (hcap : 2 * g.edges.length ≤ cap) (hmax : r.paths.length < mp)
    (ns es : List Nat) (hhead : ns.head? = some s) (hlast : ns.getLast? = some t)
    (hchain : WChainOk g ns es r.total) (hnd : ns.Nodup) :
    { nodes := ns, edges := es } ∈ r.paths :=
  Neumann.Paths.awp_complete g mp cap s t r hnn h hcap hmax ns es hhead hlast hchain hnd

/-- the early-stopping enumeration the driver runs (and the engine's loop performs: it breaks at
    `max_paths` results) answers exactly what `findAllWeightedPaths` answers -/
theorem awp_fast_eq (g : Graph) (mp cap s t : Nat) :
    findAllWeightedPathsFast g mp cap s t = findAllWeightedPaths g mp cap s t :=
  Neumann.Paths.findAllWeightedPathsFast_eq g mp cap s t

/-- non-vacuity: the diamond 0→1→3, 0→2→3 (weight 2) beside the direct edge of weight 5; `max_paths = 1`
    truncates, `max_parents_per_node = 1` keeps one parent; an unreachable pair; a negative edge -/
example : NonNeg awExGraph := awExGraph_nonneg
example : (findAllWeightedPaths awExGraph 10 10 0 3).toOption.map (fun r => (r.total, r.paths.length)) = some (2, 2) ∧
    (findAllWeightedPaths awExGraph 1 10 0 3).toOption.map (fun r => r.paths.length) = some 1 ∧
    (findAllWeightedPaths awExGraph 10 1 0 3).toOption.map (fun r => r.paths.length) = some 1 ∧
    (findAllWeightedPaths awExGraph 10 10 0 4).toOption.map (fun r => r.total) = none := by decide +kernel

/-! ### astar_path under a config (`edge_type`, no `weight_property`) -/

/-- the edges the configured search sees: those of the requested type, each weighing 1 when no weight
    property is configured -/
theorem astar_view_edges (g : Graph) (etype : Option Nat) (weighted : Bool) (e' : Edge) :
    e' ∈ (astarView g etype weighted).edges ↔
      ∃ e, e ∈ g.edges ∧ typeOk etype e = true ∧ e' = (if weighted then e else { e with weight := none }) :=
  Neumann.Paths.mem_astarView_edges g etype weighted e'

/-- the configured A* answers the weight (the hop count when unweighted) of a real walk over edges of
    the requested type, in the requested direction -/
theorem astar_cfg_cost_is_walk (g : Graph) (etype : Option Nat) (weighted : Bool) (dir : Dir) (s t : Nat) (c : Int)
    (hnn : weighted = true → NonNeg g) (h : astarCostCfg g etype weighted dir s t = some c) :
    AWalk (astarView g etype weighted) dir s t c :=
  Neumann.Paths.astar_cfg_cost_is_walk g etype weighted dir s t c hnn h

/-- no such walk is lighter (shorter) -/
theorem astar_cfg_cost_optimal (g : Graph) (etype : Option Nat) (weighted : Bool) (dir : Dir) (s t : Nat) (c : Int)
    (hnn : weighted = true → NonNeg g) (h : astarCostCfg g etype weighted dir s t = some c) :
    ∀ c', AWalk (astarView g etype weighted) dir s t c' → c ≤ c' :=
  Neumann.Paths.astar_cfg_cost_optimal g etype weighted dir s t c hnn h

theorem astar_cfg_none_iff_unreachable (g : Graph) (etype : Option Nat) (weighted : Bool) (dir : Dir) (s t : Nat)
    (hnn : weighted = true → NonNeg g) (hst : s ≠ t) (hs : g.hasNode s = true) (ht : g.hasNode t = true) :
    astarCostCfg g etype weighted dir s t = none ↔ ¬ ∃ c, AWalk (astarView g etype weighted) dir s t c :=
  Neumann.Paths.astar_cfg_none_iff_unreachable g etype weighted dir s t hnn hst hs ht

/-- non-vacuity on the typed example graph (1-2, 2-3 of type 0; 4-5 of type 1): two hops 1 ⇝ 3 over
    type 0, nothing over type 1 -/
example : astarCostCfg ufExampleGraph (some 0) false .out 1 3 = some 2 ∧
    astarCostCfg ufExampleGraph (some 1) false .out 1 3 = none ∧
    astarCostCfg ufExampleGraph (some 1) true .both 5 4 = some 1 := by decide +kernel

/-! ### connected_components (union-find with rank and path compression) -/

/-- every node gets exactly one label, in node order -/
theorem components_keys (g : Graph) (etype : Option Nat) :
    (connectedComponents g etype).map (·.1) = g.nodes.map (·.id) :=
  Neumann.Paths.components_keys g etype

/-- two nodes carry the same label exactly when they are connected by edges of the requested type,
    direction ignored (includes fuel adequacy of `find`: it always reaches the root) -/
theorem components_exact (g : Graph) (etype : Option Nat) (u v lu lv : Nat)
    (hu : (u, lu) ∈ connectedComponents g etype) (hv : (v, lv) ∈ connectedComponents g etype) :
    lu = lv ↔ Linked g etype u v :=
  Neumann.Paths.components_exact g etype u v lu lv hu hv

/-- the label of a component is one of its members -/
theorem components_label_linked (g : Graph) (etype : Option Nat) (u l : Nat)
    (hu : (u, l) ∈ connectedComponents g etype) : Linked g etype u l :=
  Neumann.Paths.components_label_linked g etype u l hu

/-- non-vacuity: edges 1-2, 2-3 of type 0 and 4-5 of type 1 -/
example : connectedComponents ufExampleGraph none = [(1, 1), (2, 1), (3, 1), (4, 4), (5, 4)] ∧
    connectedComponents ufExampleGraph (some 0) = [(1, 1), (2, 1), (3, 1), (4, 4), (5, 5)] :=
  ⟨components_ufExampleGraph, components_ufExampleGraph_type0⟩

/-! ### minimum_spanning_tree (Kruskal over the union-find) -/

/-- for whatever order the engine's hash-map scan delivers the edges in (`order`, any permutation of
    the edges) and either setting of `compute_forest`: the accepted edges are edges of the graph,
    join exactly the node pairs the whole graph joins and contain no cycle; `total_weight` is their
    weight and `tree_count` the number of connected components -/
theorem mst_spanning_forest (g : Graph) (forest : Bool) (order : List Edge) (r : MstRes)
    (hperm : order.Perm g.edges) (hend : EndpointsExist g) (hn : NodesUnique g) (he : EdgesUnique g)
    (h : mstOf g forest order = some r) :
    Spans g r.edges ∧ IsForest r.edges ∧ r.total = sumW r.edges ∧ r.trees + r.edges.length = g.nodes.length :=
  Neumann.Paths.mst_spanning_forest g forest order r hperm hend hn he h

/-- no spanning forest of the graph is lighter (negative weights included) -/
theorem mst_minimal_forest (g : Graph) (forest : Bool) (order : List Edge) (r : MstRes)
    (hperm : order.Perm g.edges) (hend : EndpointsExist g) (hn : NodesUnique g)
    (h : mstOf g forest order = some r) :
    ∀ F, Spans g F → IsForest F → r.total ≤ sumW F :=
  Neumann.Paths.mst_minimal_forest g forest order r hperm hend hn h

/-- the same over the larger class of edge lists that are acyclic in their listed order -/
theorem mst_minimal (g : Graph) (forest : Bool) (order : List Edge) (r : MstRes)
    (hperm : order.Perm g.edges) (hend : EndpointsExist g) (hn : NodesUnique g)
    (h : mstOf g forest order = some r) :
    ∀ F, Spans g F → SeqAcyclic F → r.total ≤ sumW F :=
  Neumann.Paths.mst_minimal g forest order r hperm hend hn h

/-- the scan order and `compute_forest` change neither the total, nor the tree count, nor the
    ascending list of accepted weights (what the correspondence run compares) -/
theorem mst_scan_order_irrelevant (g : Graph) (forest forest' : Bool) (order order' : List Edge) (r r' : MstRes)
    (hperm : order.Perm g.edges) (hperm' : order'.Perm g.edges) (hend : EndpointsExist g) (hn : NodesUnique g)
    (h : mstOf g forest order = some r) (h' : mstOf g forest' order' = some r') :
    r.total = r'.total ∧ r.trees = r'.trees ∧ r.edges.map Edge.w = r'.edges.map Edge.w :=
  Neumann.Paths.mst_scan_order_irrelevant g forest forest' order order' r r' hperm hperm' hend hn h h'

theorem mst_none_iff (g : Graph) (forest : Bool) (order : List Edge) : mstOf g forest order = none ↔ g.nodes = [] :=
  Neumann.Paths.mst_none_iff g forest order

/-- non-vacuity: edges 1-2 (3), 2-3 (−1), 1-3 (3), 3-4 (no weight = 1), isolated node 5: total 3, two
    trees, weights −1, 1, 3 — with either edge of weight 3, depending on the scan order -/
example : EndpointsExist mstExampleGraph ∧ NodesUnique mstExampleGraph ∧ EdgesUnique mstExampleGraph := by
  refine ⟨?_, by unfold NodesUnique; decide +kernel, by unfold EdgesUnique; decide +kernel⟩
  intro e he
  simp only [mstExampleGraph, List.mem_cons, List.not_mem_nil, or_false] at he
  rcases he with rfl | rfl | rfl | rfl <;> decide +kernel
example : (minimumSpanningTree mstExampleGraph true).map (fun r => (r.total, r.trees, r.edges.map Edge.id)) = some (3, 2, [2, 4, 1]) ∧
    (mstOf mstExampleGraph false mstExampleGraph.edges.reverse).map (fun r => (r.total, r.trees, r.edges.map Edge.id)) = some (3, 2, [2, 4, 3]) := by decide +kernel

/-! ### strongly_connected_components (recursive Tarjan) -/

/-- the successors Tarjan's search follows are the declarative one-step relation: an edge of the
    requested type followed along its direction (either way when undirected) to another existing node -/
theorem scc_successors_exact (g : Graph) (etype : Option Nat) (u v : Nat) :
    v ∈ nbrSet g etype .out u ↔ SStep g etype u v :=
  Neumann.Paths.mem_nbrSet_out g etype u v

/-- every node lies in exactly one component, exactly once (includes fuel adequacy of the recursion) -/
theorem scc_partition (g : Graph) (etype : Option Nat) (hn : NodesUnique g) :
    (sccComponents g etype).flatten.Perm (g.nodes.map (·.id)) :=
  Neumann.Paths.scc_partition g etype hn

/-- the members of a component are exactly the nodes mutually reachable with any one of its members -/
theorem scc_exact (g : Graph) (etype : Option Nat) (hn : NodesUnique g) (c : List Nat)
    (hc : c ∈ sccComponents g etype) (u : Nat) (hu : u ∈ c) (v : Nat) :
    v ∈ c ↔ (g.hasNode v = true ∧ SReach g etype u v ∧ SReach g etype v u) :=
  Neumann.Paths.scc_exact g etype hn c hc u hu v

/-- non-vacuity: the directed cycle 1→2→3→1 with the tail 3→4 and the undirected edge 4—5 of type 1 -/
example : sccComponents tjExG none = [[5, 4], [3, 2, 1]] ∧ sccComponents tjExG (some 0) = [[4], [3, 2, 1], [5]] :=
  ⟨scc_tjExG, scc_tjExG_type0⟩

/-! ### articulation_points / bridges (low-link DFS on the simple undirected view) -/

/-- `x` is reported exactly when it is a cut vertex: two other nodes of its component are separated
    once `x` is removed (includes fuel adequacy of the recursion) -/
theorem ap_exact (g : Graph) (etype : Option Nat) (hn : NodesUnique g) (x : Nat) :
    x ∈ articulationPoints g etype ↔ IsArticulation g etype x :=
  Neumann.Paths.ap_exact g etype hn x

/-- the pair `(a, b)`, smaller id first, is reported exactly when `a` and `b` are adjacent and become
    disconnected without that adjacency (simple-graph view: parallel edges between them count as one) -/
theorem bridges_exact (g : Graph) (etype : Option Nat) (hn : NodesUnique g) (a b : Nat) :
    (a, b) ∈ bridgePairs g etype ↔ (a < b ∧ IsBridgePair g etype a b) :=
  Neumann.Paths.bridges_exact g etype hn a b

/-- no pair is reported twice -/
theorem bridges_nodup (g : Graph) (etype : Option Nat) (hn : NodesUnique g) : (bridgePairs g etype).Nodup :=
  Neumann.Paths.bridges_nodup g etype hn

/-- non-vacuity: the path 1—2—3 with the triangle 3—4—5—3; two nodes joined only by parallel edges -/
example : articulationPoints bcExG none = [2, 3] ∧ bridgePairs bcExG none = [(2, 3), (1, 2)] ∧
    bridgePairs bcExP none = [(1, 2)] ∧ articulationPoints bcExP none = [] :=
  ⟨articulationPoints_bcExG, bridgePairs_bcExG, bicon_bcExP⟩

/-! ### kcore_decomposition (peeling with a lazy min-heap) -/

/-- every node receives exactly one core number (includes fuel adequacy: the loop ends with an empty
    heap and every node processed) -/
theorem kcore_keys (g : Graph) (etype : Option Nat) (hn : NodesUnique g) :
    ((kcore g etype).map (·.1)).Perm (g.nodes.map (·.id)) :=
  Neumann.Paths.kcore_keys g etype hn

/-- the number answered for `u` is its textbook core number in the simple undirected view: `u` lies in
    a node set whose members all have at least `c` neighbours inside the set, and in no such set for a
    larger bound -/
theorem kcore_exact (g : Graph) (etype : Option Nat) (hn : NodesUnique g) (u c : Nat)
    (h : (u, c) ∈ kcore g etype) :
    (∃ s, u ∈ s ∧ IsKCoreSetT g etype c s) ∧ ∀ k s, u ∈ s → IsKCoreSetT g etype k s → k ≤ c :=
  Neumann.Paths.kcore_exact g etype hn u c h

/-- the adjacency the peeling (and the triangle count) runs on is the declarative one -/
theorem kcore_adjacency_exact (g : Graph) (etype : Option Nat) (u v : Nat) (hu : g.hasNode u = true) :
    v ∈ nbrSet g etype .both u ↔ adjacentT g etype u v :=
  Neumann.Paths.mem_nbrSet_both_iff_adjacentT g etype u v hu

/-- non-vacuity: triangle 1-2-3, pendant 4 on node 1, isolated 5: core numbers 2,2,2,1,0; restricted
    to edge type 0 the triangle opens into a path -/
example : NodesUnique kcoreExG := by unfold NodesUnique; decide +kernel
example : [1, 2, 3, 4, 5].map (nmGet (kcore kcoreExG none)) = [some 2, some 2, some 2, some 1, some 0] ∧
    [1, 2, 3, 4, 5].map (nmGet (kcore kcoreExT (some 0))) = [some 1, some 1, some 1, some 1, some 0] := by
  rw [kcore_kcoreExG, kcore_kcoreExT_type0]; exact ⟨rfl, rfl⟩

/-! ### count_triangles (undirected view) -/

/-- `triangle_count` is the number of triangles of the simple undirected view of the graph: there is
    a duplicate-free list of exactly that length whose members are exactly the triangles -/
theorem triangles_exact (g : Graph) (etype : Option Nat) (hn : NodesUnique g) :
    ∃ ts : List (Nat × Nat × Nat), ts.Nodup ∧ ts.length = triangleCount g etype true ∧
      ∀ a b c, (a, b, c) ∈ ts ↔ IsTriangleT g etype a b c :=
  Neumann.Paths.triangles_exact g etype hn

/-- `node_triangles[x]` is the number of triangles that have `x` as a corner -/
theorem triangles_per_node (g : Graph) (etype : Option Nat) (hn : NodesUnique g) (x : Nat) :
    ∃ ts : List (Nat × Nat × Nat), ts.Nodup ∧ ts.length = nodeTriangles g etype true x ∧
      ∀ a b c, (a, b, c) ∈ ts ↔ (IsTriangleT g etype a b c ∧ (x = a ∨ x = b ∨ x = c)) :=
  Neumann.Paths.triangles_per_node g etype hn x

/-- non-vacuity: the triangle 1-2-3 with a pendant on node 1 (degree order ≠ id order: the witness of
    the fixed double-count defect) has one triangle; K4 has four -/
example : NodesUnique triExG := by unfold NodesUnique; decide +kernel
example : triangleCount triExG none true = 1 ∧ nodeTriangles triExG none true 1 = 1 ∧
    nodeTriangles triExG none true 4 = 0 ∧ triangleCount triExK4 none true = 4 := by
  rw [triangleCount, nodeTriangles, nodeTriangles, triangleCount, triFound_triExG, triFound_triExK4]
  exact ⟨rfl, rfl, rfl, rfl⟩

end Neumann.Paths.Props
