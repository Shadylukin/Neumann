import NeumannModel.Paths.AStarProofs
import NeumannModel.Paths.AlgoSpec
/-
  C18 — A* under a config (`edge_type`, no `weight_property`): the engine searches the view of the
  graph that keeps the edges of the requested type and (unweighted) gives every edge weight 1; the
  theorems of `AStarProofs` hold on that view.
-/
namespace Neumann.Paths

theorem mem_astarView_edges (g : Graph) (etype : Option Nat) (weighted : Bool) (e' : Edge) :
    e' ∈ (astarView g etype weighted).edges ↔
      ∃ e, e ∈ g.edges ∧ typeOk etype e = true ∧ e' = (if weighted then e else { e with weight := none }) := by
  unfold astarView
  simp only [List.mem_map, List.mem_filter]
  constructor
  · rintro ⟨e, ⟨he, ht⟩, rfl⟩; exact ⟨e, he, ht, rfl⟩
  · rintro ⟨e, he, ht, rfl⟩; exact ⟨e, ⟨he, ht⟩, rfl⟩

theorem astarView_hasNode (g : Graph) (etype : Option Nat) (weighted : Bool) (n : Nat) :
    (astarView g etype weighted).hasNode n = g.hasNode n := rfl

/-- with a weight property the view keeps the weights, so non-negativity is inherited; without one
    every edge weighs 1 -/
theorem nonNeg_astarView (g : Graph) (etype : Option Nat) (weighted : Bool) (hnn : weighted = true → NonNeg g) :
    NonNeg (astarView g etype weighted) := by
  intro e' he'
  obtain ⟨e, he, _, heq⟩ := (mem_astarView_edges g etype weighted e').1 he'
  rw [heq]
  cases weighted with
  | true => exact hnn rfl e he
  | false => simp [Edge.w]

theorem astar_cfg_cost_is_walk (g : Graph) (etype : Option Nat) (weighted : Bool) (dir : Dir) (s t : Nat) (c : Int)
    (hnn : weighted = true → NonNeg g) (h : astarCostCfg g etype weighted dir s t = some c) :
    AWalk (astarView g etype weighted) dir s t c :=
  astar_cost_is_walk _ dir s t c (nonNeg_astarView g etype weighted hnn) h

theorem astar_cfg_cost_optimal (g : Graph) (etype : Option Nat) (weighted : Bool) (dir : Dir) (s t : Nat) (c : Int)
    (hnn : weighted = true → NonNeg g) (h : astarCostCfg g etype weighted dir s t = some c) :
    ∀ c', AWalk (astarView g etype weighted) dir s t c' → c ≤ c' :=
  astar_cost_optimal _ dir s t c (nonNeg_astarView g etype weighted hnn) h

theorem astar_cfg_none_iff_unreachable (g : Graph) (etype : Option Nat) (weighted : Bool) (dir : Dir) (s t : Nat)
    (hnn : weighted = true → NonNeg g) (hst : s ≠ t) (hs : g.hasNode s = true) (ht : g.hasNode t = true) :
    astarCostCfg g etype weighted dir s t = none ↔ ¬ ∃ c, AWalk (astarView g etype weighted) dir s t c :=
  astar_none_iff_unreachable _ dir s t (nonNeg_astarView g etype weighted hnn) hst hs ht

end Neumann.Paths
