import NeumannModel.Paths.DijkstraProofs
import NeumannModel.Paths.AlgoSpec
/-
  C18 — proofs about the model of `find_all_weighted_paths` (Dijkstra with multi-parent tracking,
  then enumeration of the simple parent chains) for every graph.

  The loop is that of `find_weighted_path` with two additions: a relaxation that finds an equal cost
  extends the parent list of its target, and the loop runs on until the popped cost exceeds the
  destination's.  `AwInv` is the Dijkstra invariant `Inv` on the projected state (with a ghost map of
  first parents) plus what the parent lists hold: only tight edges from settled nodes, and all of them
  while the cap is not reached.
-/
namespace Neumann.Paths

/-! ### negative weights are reported faithfully (no hypothesis on the graph) -/

theorem awRelax_error {cap tgt cur : Nat} {cost : Int} {id : Nat} :
    ∀ (cs : List (Nat × Edge)) (st : AWSt), awRelax cap tgt cur cost cs st = .error id →
      ∃ v e, (v, e) ∈ cs ∧ e.id = id ∧ e.w < 0 := by
  intro cs
  induction cs with
  | nil => intro st h; simp [awRelax] at h
  | cons a rest ih =>
    intro st h
    obtain ⟨nb, e⟩ := a
    rw [awRelax] at h
    cases hw : edgeWeight e with
    | error id' =>
      simp only [hw, Except.error.injEq] at h
      subst h
      exact ⟨nb, e, by simp, edgeWeight_error hw⟩
    | ok w =>
      simp only [hw] at h
      split at h
      · obtain ⟨v, e', hm, h2⟩ := ih _ h
        exact ⟨v, e', by simp [hm], h2⟩
      · split at h
        · obtain ⟨v, e', hm, h2⟩ := ih _ h
          exact ⟨v, e', by simp [hm], h2⟩
        · obtain ⟨v, e', hm, h2⟩ := ih _ h
          exact ⟨v, e', by simp [hm], h2⟩

theorem awLoop_error {g : Graph} {cap t : Nat} {id : Nat} :
    ∀ (fuel : Nat) (st : AWSt), awLoop g cap t fuel st = .error id →
      ∃ e, e ∈ g.edges ∧ e.id = id ∧ e.w < 0 := by
  intro fuel
  induction fuel with
  | zero => intro st h; simp [awLoop] at h
  | succ n ih =>
    intro st h
    rw [awLoop] at h
    split at h
    · simp at h
    · rename_i cost u heap' _
      split at h
      · simp at h
      · split at h
        · exact ih _ h
        · split at h
          · rename_i id' hr
            cases h
            obtain ⟨v, e, hm, h2⟩ := awRelax_error _ _ hr
            exact ⟨e, (mem_dijCands hm).1, h2⟩
          · exact ih _ h

def awInit (s : Nat) : AWSt := { dist := [(s, 0)], parents := [], heap := [(0, s)], dc := none }

theorem findAllWeightedPaths_eq_of_ne {g : Graph} {mp cap s t : Nat} (hs : g.hasNode s = true)
    (ht : g.hasNode t = true) (hst : s ≠ t) :
    findAllWeightedPaths g mp cap s t =
      match awLoop g cap t (dijFuel g) (awInit s) with
      | .error id => .error (.negativeWeight id)
      | .ok st =>
        match st.dc with
        | none => .error .pathNotFound
        | some total =>
          .ok { total := total, paths := (awEnum st.parents s (awDepth g) t [t] []).take mp } := by
  have h3 : (s == t) = false := by simpa using hst
  unfold findAllWeightedPaths awInit
  simp only [hs, ht, h3, Bool.not_true, Bool.false_eq_true, if_false]
  rfl

theorem findAllWeightedPaths_cases (g : Graph) (mp cap s t : Nat) :
    (g.hasNode s = false ∧ findAllWeightedPaths g mp cap s t = .error (.nodeNotFound s)) ∨
    (g.hasNode t = false ∧ findAllWeightedPaths g mp cap s t = .error (.nodeNotFound t)) ∨
    (s = t ∧ findAllWeightedPaths g mp cap s t =
      .ok { total := 0, paths := [{ nodes := [s], edges := [] }] }) ∨
    (g.hasNode s = true ∧ g.hasNode t = true ∧ s ≠ t) := by
  cases hs : g.hasNode s
  · exact .inl ⟨rfl, by simp [findAllWeightedPaths, hs]⟩
  · cases ht : g.hasNode t
    · exact .inr (.inl ⟨rfl, by simp [findAllWeightedPaths, hs, ht]⟩)
    · by_cases hst : s = t
      · exact .inr (.inr (.inl ⟨hst, by simp [findAllWeightedPaths, ht, hst]⟩))
      · exact .inr (.inr (.inr ⟨rfl, rfl, hst⟩))

theorem awp_negative_reported (g : Graph) (mp cap s t id : Nat)
    (h : findAllWeightedPaths g mp cap s t = .error (.negativeWeight id)) :
    ∃ e, e ∈ g.edges ∧ e.id = id ∧ e.w < 0 := by
  rcases findAllWeightedPaths_cases g mp cap s t with ⟨_, h'⟩ | ⟨_, h'⟩ | ⟨_, h'⟩ | ⟨hs, ht, hst⟩
  · rw [h'] at h; cases h
  · rw [h'] at h; cases h
  · rw [h'] at h; cases h
  · rw [findAllWeightedPaths_eq_of_ne hs ht hst] at h
    split at h
    · rename_i id' hl
      cases h
      exact awLoop_error _ _ hl
    · split at h <;> cases h

def awPendCount (v : Nat) (pend : List (Nat × Edge)) : Nat := pend.countP (fun a => a.1 == v)

def awCands (es : List Edge) (cur : Nat) : List (Nat × Edge) :=
  (es.filter (inOut · cur)).filterMap (fun e =>
    if e.src == cur then some (e.dst, e)
    else if !e.directed && e.dst == cur then some (e.src, e)
    else none)
  ++ (es.filter (inIn · cur)).filterMap (fun e =>
    if e.directed then none
    else if e.dst == cur then some (e.src, e)
    else none)

theorem aw_dijCands_eq (g : Graph) (x : Nat) : dijCands g x = awCands g.edges x := rfl

theorem aw_countP_fm_cons (p : Nat × Edge → Bool) (q : Edge → Bool) (f : Edge → Option (Nat × Edge))
    (e : Edge) (es : List Edge) :
    (((e :: es).filter q).filterMap f).countP p =
      ((([e].filter q).filterMap f).countP p) + ((es.filter q).filterMap f).countP p := by
  have : e :: es = [e] ++ es := rfl
  rw [this, List.filter_append, List.filterMap_append, List.countP_append]

theorem aw_pendCount_cands_cons (v : Nat) (e : Edge) (es : List Edge) (x : Nat) :
    awPendCount v (awCands (e :: es) x) = awPendCount v (awCands [e] x) + awPendCount v (awCands es x) := by
  unfold awCands awPendCount
  rw [List.countP_append, List.countP_append, List.countP_append, aw_countP_fm_cons, aw_countP_fm_cons _ (inIn · x)]
  omega

def awXo (e : Edge) (v : Nat) : Nat := if e.dst = v then e.src else e.dst

theorem countP_single_le {α β : Type} (p : β → Bool) (q : α → Bool) (f : α → Option β) (e : α)
    (c : Prop) [Decidable c] (h : ∀ y, f e = some y → p y = true → c) :
    (([e].filter q).filterMap f).countP p ≤ if c then 1 else 0 := by
  cases hq : q e
  · simp [hq]
  · cases hf : f e with
    | none => simp [hq, hf]
    | some y =>
      cases hp : p y
      · simp [hq, hf, hp]
      · simp [hq, hf, hp, h y hf hp]

theorem aw_pendCount_cands_single (v : Nat) (e : Edge) (x : Nat) :
    awPendCount v (awCands [e] x) ≤ (if x = awXo e v then 1 else 0) + (if x = e.dst then 1 else 0) := by
  unfold awCands awPendCount
  rw [List.countP_append]
  apply Nat.add_le_add
  · apply countP_single_le
    intro y hf hp
    unfold awXo
    split at hf
    · rename_i h1
      cases hf
      rw [if_pos (by simpa using hp)]
      exact (beq_iff_eq.1 h1).symm
    · split at hf
      · rename_i h1 h2
        cases hf
        simp only [beq_iff_eq, Bool.and_eq_true, Bool.not_eq_true'] at h1 h2 hp
        rw [if_neg (fun hd => h1 (by rw [hp, ← hd, h2.2]))]
        exact h2.2.symm
      · cases hf
  · apply countP_single_le
    intro y hf _
    split at hf
    · cases hf
    · split at hf
      · rename_i _ h2
        exact (beq_iff_eq.1 h2).symm
      · cases hf
theorem aw_candSum_le (es : List Edge) (v : Nat) {S : List Nat} (hn : S.Nodup) :
    (S.map (fun x => awPendCount v (awCands es x))).sum ≤ 2 * es.length := by
  have hsum : ∀ x, awPendCount v (awCands es x) = (es.map (fun e => awPendCount v (awCands [e] x))).sum := by
    intro x
    induction es with
    | nil => rfl
    | cons e es ih => rw [aw_pendCount_cands_cons, ih, List.map_cons, List.sum_cons]
  simpa only [hsum] using
    sum_sum_le_two_mul es (fun e x => awPendCount v (awCands [e] x)) (awXo · v) Edge.dst
      (fun e x => aw_pendCount_cands_single v e x) hn

theorem awPendCount_cons (v nb : Nat) (e : Edge) (rest : List (Nat × Edge)) :
    awPendCount v ((nb, e) :: rest) = awPendCount v rest + (if nb = v then 1 else 0) := by
  unfold awPendCount
  rw [List.countP_cons]
  by_cases h : nb = v
  · simp [h]
  · simp [h]

def awPlen (M : MultiParent) (v : Nat) : Nat :=
  match lookupParents M v with
  | none => 0
  | some ps => ps.length

theorem awPlen_cons (k : Nat) (ps : List (Nat × Nat)) (M : MultiParent) (v : Nat) :
    awPlen ((k, ps) :: M) v = if k = v then ps.length else awPlen M v := by
  unfold awPlen
  rw [lookupParents_cons]
  by_cases h : k = v
  · simp [h]
  · simp [h]

theorem awPlen_push (cap n : Nat) (entry : Nat × Nat) (M : MultiParent) (v : Nat) :
    awPlen (pushParent cap n entry M) v ≤ awPlen M v + (if n = v then 1 else 0) := by
  unfold awPlen
  rw [lookupParents_pushParent]
  by_cases h : n = v
  · simp only [h, if_true]
    cases lookupParents M v with
    | none => simp
    | some ps =>
      simp only [Option.map_some]
      split <;> simp
  · simp only [h, if_false]
    omega

/-- the Dijkstra state inside an `AWSt`; `P` is a ghost single-parent map (first parent of every node) -/
def awProj (st : AWSt) (P : ParentMap) : DijSt := { dist := st.dist, parent := P, heap := st.heap }

structure AwInv (g : Graph) (s t cap : Nat) (S : List Nat) (u : Nat) (pend : List (Nat × Edge))
    (st : AWSt) (P : ParentMap) : Prop where
  base : Inv g s S u pend (awProj st P)
  link : ∀ v p eid, lookupParent P v = some (p, eid) →
    ∃ ps, lookupParents st.parents v = some ps ∧ (p, eid) ∈ ps
  psound : ∀ v ps, lookupParents st.parents v = some ps → ∀ p eid, (p, eid) ∈ ps →
    p ∈ S ∧ ∃ e cp, e ∈ g.edges ∧ e.id = eid ∧ e.joins p v ∧
      lookupDist st.dist p = some cp ∧ lookupDist st.dist v = some (cp + e.w)
  dcEq : t ≠ s → st.dc = lookupDist st.dist t
  heapFresh : ∀ x cx, x ∈ S → lookupDist st.dist x = some cx → (cx, x) ∉ st.heap
  heapOnce : ∀ v cv, lookupDist st.dist v = some cv → st.heap.count (cv, v) ≤ 1
  pcomplete : 2 * g.edges.length ≤ cap → ∀ x, x ∈ S → ∀ v e, v ≠ s → e ∈ g.edges → e.joins x v →
    (x = u ∧ (v, e) ∈ pend) ∨
    ∃ cx cv, lookupDist st.dist x = some cx ∧ lookupDist st.dist v = some cv ∧ cv ≤ cx + e.w ∧
      (cv = cx + e.w → ∃ ps, lookupParents st.parents v = some ps ∧ (x, e.id) ∈ ps)
  pcount : ∀ v, awPlen st.parents v + awPendCount v pend ≤
    (S.map (fun x => awPendCount v (dijCands g x))).sum

theorem awinv_init (g : Graph) (s t cap u : Nat) :
    AwInv g s t cap [] u [] (awInit s) [] := by
  refine ⟨inv_init g s u, ?_, ?_, ?_, ?_, ?_, ?_, ?_⟩
  · intro v p eid h; cases h
  · intro v ps h; cases h
  · intro hts
    show none = lookupDist [(s, 0)] t
    rw [lookupDist_cons, if_neg (fun h => hts h.symm)]
    rfl
  · intro x cx hx; cases hx
  · intro v cv _
    show List.count (cv, v) [(0, s)] ≤ 1
    exact List.count_le_length
  · intro _ x hx; cases hx
  · intro v
    exact Nat.le_refl 0

theorem aw_sameCost_eq {nc : Int} {o : Option Int} (h : sameCost nc o = true) : o = some nc := by
  cases o with
  | none => simp [sameCost] at h
  | some c =>
    simp only [sameCost, beq_iff_eq] at h
    rw [h]

section
variable {g : Graph} {s t cap : Nat} {S : List Nat} {u u0 : Nat} {c : Int} {pend : List (Nat × Edge)} {st : AWSt}
  {P : ParentMap}

theorem AwInv.relax_improve (hnn : NonNeg g) (hu : u ∈ S) {nb : Nat} {e : Edge} {rest : List (Nat × Edge)}
    (hinv : AwInv g s t cap S u ((nb, e) :: rest) st P)
    (hdu : lookupDist st.dist u = some c)
    (hbound : ∀ x cx, x ∈ S → lookupDist st.dist x = some cx → cx ≤ c)
    (heE : e ∈ g.edges) (hjoin : e.joins u nb)
    (himp : improves (c + e.w) (lookupDist st.dist nb) = true) :
    nb ∉ S ∧
    AwInv g s t cap S u rest
      { dist := (nb, c + e.w) :: st.dist, parents := (nb, [(u, e.id)]) :: st.parents,
        heap := (c + e.w, nb) :: st.heap, dc := if nb == t then some (c + e.w) else st.dc }
      ((nb, u, e.id) :: P) := by
  obtain ⟨hnbS, _, hbase⟩ := hinv.base.relax_improve hnn hu hdu hbound heE hjoin himp
  have hnbu : nb ≠ u := fun h => hnbS (h ▸ hu)
  have hkeep : ∀ x, x ∈ S → nb ≠ x := fun x hx h => hnbS (h ▸ hx)
  have hold : ∀ cv, lookupDist st.dist nb = some cv → c + e.w < cv :=
    fun cv h => improves_some (h ▸ himp)
  have hsame : ∀ {x : Nat}, nb ≠ x → lookupDist ((nb, c + e.w) :: st.dist) x = lookupDist st.dist x :=
    fun hx => by rw [lookupDist_cons, if_neg hx]
  have hnew : lookupDist ((nb, c + e.w) :: st.dist) nb = some (c + e.w) := by
    rw [lookupDist_cons, if_pos rfl]
  refine ⟨hnbS, hbase, ?_, ?_, ?_, ?_, ?_, ?_, ?_⟩
  · intro v p eid h
    show ∃ ps, lookupParents ((nb, [(u, e.id)]) :: st.parents) v = some ps ∧ _
    rw [lookupParent_cons] at h
    rw [lookupParents_cons]
    by_cases hv : nb = v
    · rw [if_pos hv] at h ⊢
      cases h
      exact ⟨_, rfl, List.mem_singleton.2 rfl⟩
    · rw [if_neg hv] at h ⊢
      exact hinv.link v p eid h
  · intro v ps h p eid hm
    rcases lookupParents_cons_some.1 h with ⟨rfl, rfl⟩ | ⟨hv, h⟩
    · cases List.mem_singleton.1 hm
      exact ⟨hu, e, c, heE, rfl, hjoin, (hsame hnbu).trans hdu, hnew⟩
    · obtain ⟨hpS, e', cp, h1, h2, h3, h4, h5⟩ := hinv.psound v ps h p eid hm
      exact ⟨hpS, e', cp, h1, h2, h3, (hsame (hkeep p hpS)).trans h4, (hsame hv).trans h5⟩
  · intro hts
    show (if nb == t then some (c + e.w) else st.dc) = lookupDist ((nb, c + e.w) :: st.dist) t
    rw [lookupDist_cons]
    by_cases hv : nb = t
    · simp [hv]
    · rw [if_neg hv, if_neg (by simpa using hv)]
      exact hinv.dcEq hts
  · intro x cx hx h hm
    rcases List.mem_cons.1 hm with hm | hm
    · cases hm; exact hnbS hx
    · exact hinv.heapFresh x cx hx ((hsame (hkeep x hx)).symm.trans h) hm
  · intro v cv h
    show List.count (cv, v) ((c + e.w, nb) :: st.heap) ≤ 1
    rcases lookupDist_cons_some.1 h with ⟨rfl, rfl⟩ | ⟨hv, h⟩
    · -- the old entries of `nb` carry larger costs
      have hnot : (c + e.w, nb) ∉ st.heap := by
        intro hm
        obtain ⟨c'', h1, h2⟩ := hinv.base.heapUp (c + e.w) nb hm
        have := hold c'' h1
        omega
      rw [List.count_cons_self, List.count_eq_zero.2 hnot]
      omega
    · rw [List.count_cons_of_ne (fun hh => hv (by cases hh; rfl))]
      exact hinv.heapOnce v cv h
  · intro hcap x hx v e' hvs he' hj'
    show _ ∨ ∃ cx cv, lookupDist ((nb, c + e.w) :: st.dist) x = some cx ∧
      lookupDist ((nb, c + e.w) :: st.dist) v = some cv ∧ cv ≤ cx + e'.w ∧
      (cv = cx + e'.w → ∃ ps, lookupParents ((nb, [(u, e.id)]) :: st.parents) v = some ps ∧ (x, e'.id) ∈ ps)
    rw [hsame (hkeep x hx)]
    rcases hinv.pcomplete hcap x hx v e' hvs he' hj' with ⟨rfl, hm⟩ | ⟨cx, cv, h1, h2, h3, h4⟩
    · rcases List.mem_cons.1 hm with hm | hm
      · cases hm
        exact .inr ⟨c, c + e.w, hdu, hnew, Int.le_refl _, fun _ =>
          ⟨_, by rw [lookupParents_cons, if_pos rfl], List.mem_singleton.2 rfl⟩⟩
      · exact .inl ⟨rfl, hm⟩
    · right
      by_cases hv : nb = v
      · subst hv
        have := hold cv h2
        exact ⟨cx, c + e.w, h1, hnew, by omega, fun heq => by omega⟩
      · refine ⟨cx, cv, h1, (hsame hv).trans h2, h3, fun heq => ?_⟩
        obtain ⟨ps, h5, h6⟩ := h4 heq
        exact ⟨ps, by rw [lookupParents_cons, if_neg hv]; exact h5, h6⟩
  · intro v
    show awPlen ((nb, [(u, e.id)]) :: st.parents) v + _ ≤ _
    rw [awPlen_cons]
    have h0 := hinv.pcount v
    rw [awPendCount_cons] at h0
    by_cases hv : nb = v
    · simp only [hv, if_true, List.length_cons, List.length_nil] at h0 ⊢
      omega
    · simp only [hv, if_false] at h0 ⊢
      omega

theorem AwInv.relax_same (hu : u ∈ S) {nb : Nat} {e : Edge} {rest : List (Nat × Edge)}
    (hinv : AwInv g s t cap S u ((nb, e) :: rest) st P)
    (hdu : lookupDist st.dist u = some c) (heE : e ∈ g.edges) (hjoin : e.joins u nb)
    (himp : ¬ improves (c + e.w) (lookupDist st.dist nb) = true)
    (hdnb : lookupDist st.dist nb = some (c + e.w)) :
    AwInv g s t cap S u rest
      { dist := st.dist, parents := pushParent cap nb (u, e.id) st.parents, heap := st.heap, dc := st.dc } P := by
  have hmono : ∀ {v : Nat} {ps : List (Nat × Nat)} {x : Nat × Nat}, lookupParents st.parents v = some ps →
      x ∈ ps → ∃ ps', lookupParents (pushParent cap nb (u, e.id) st.parents) v = some ps' ∧ x ∈ ps' :=
    fun h hx => (lookupParents_push_mono h).imp fun ps' h' => ⟨h'.1, h'.2 _ hx⟩
  refine ⟨hinv.base.relax_skip hdu himp, ?_, ?_, hinv.dcEq, hinv.heapFresh, hinv.heapOnce, ?_, ?_⟩
  · intro v p eid h
    obtain ⟨ps, h1, h2⟩ := hinv.link v p eid h
    exact hmono h1 h2
  · intro v ps' h p eid hm
    obtain ⟨ps, h1, h2⟩ := lookupParents_push_inv h
    rcases h2 _ hm with hm' | ⟨heq, rfl⟩
    · exact hinv.psound v ps h1 p eid hm'
    · cases heq
      exact ⟨hu, e, c, heE, rfl, hjoin, hdu, hdnb⟩
  · intro hcap x hx v e' hvs he' hj'
    rcases hinv.pcomplete hcap x hx v e' hvs he' hj' with ⟨rfl, hm⟩ | ⟨cx, cv, h1, h2, h3, h4⟩
    · rcases List.mem_cons.1 hm with hm | hm
      · cases hm
        refine .inr ⟨c, c + e.w, hdu, hdnb, Int.le_refl _, fun _ => ?_⟩
        -- the list of `nb` exists (it has a first parent) and is short of the cap: this push lands
        obtain ⟨p, eid, e2, cp, hp1, _⟩ := hinv.base.par nb (c + e.w) hdnb hvs
        obtain ⟨ps, hl, _⟩ := hinv.link nb p eid hp1
        have hlen : ps.length < cap := by
          have h0 := hinv.pcount nb
          rw [awPendCount_cons, if_pos rfl] at h0
          have h1 : (S.map (fun x => awPendCount nb (dijCands g x))).sum ≤ 2 * g.edges.length :=
            aw_candSum_le g.edges nb hinv.base.nodup
          unfold awPlen at h0
          rw [hl] at h0
          simp only at h0
          omega
        refine ⟨ps ++ [(x, e.id)], ?_, by simp⟩
        show lookupParents (pushParent cap nb (x, e.id) st.parents) nb = _
        rw [lookupParents_pushParent, if_pos rfl, hl]
        simp [hlen]
      · exact .inl ⟨rfl, hm⟩
    · exact .inr ⟨cx, cv, h1, h2, h3, fun heq => (h4 heq).elim fun ps h5 => hmono h5.1 h5.2⟩
  · intro v
    have h0 := hinv.pcount v
    rw [awPendCount_cons] at h0
    have h1 := awPlen_push cap nb (u, e.id) st.parents v
    show awPlen (pushParent cap nb (u, e.id) st.parents) v + _ ≤ _
    by_cases hv : nb = v
    · simp only [hv, if_true] at h0 h1 ⊢
      omega
    · simp only [hv, if_false] at h0 h1 ⊢
      omega

theorem AwInv.relax_skip {nb : Nat} {e : Edge} {rest : List (Nat × Edge)}
    (hinv : AwInv g s t cap S u ((nb, e) :: rest) st P)
    (hdu : lookupDist st.dist u = some c)
    (himp : ¬ improves (c + e.w) (lookupDist st.dist nb) = true)
    (hsame : ¬ sameCost (c + e.w) (lookupDist st.dist nb) = true) :
    AwInv g s t cap S u rest st P := by
  refine ⟨hinv.base.relax_skip hdu himp, hinv.link, hinv.psound, hinv.dcEq, hinv.heapFresh, hinv.heapOnce,
    ?_, ?_⟩
  · intro hcap x hx v e' hvs he' hj'
    rcases hinv.pcomplete hcap x hx v e' hvs he' hj' with ⟨rfl, hm⟩ | h
    · rcases List.mem_cons.1 hm with hm | hm
      · cases hm
        obtain ⟨cv, hd, hle⟩ := not_improves himp
        rw [hd] at hsame
        simp only [sameCost, beq_iff_eq] at hsame
        exact .inr ⟨c, cv, hdu, hd, hle, fun h => absurd h.symm hsame⟩
      · exact .inl ⟨rfl, hm⟩
    · exact .inr h
  · intro v
    have h0 := hinv.pcount v
    rw [awPendCount_cons] at h0
    omega

theorem awRelax_inv (hnn : NonNeg g) (hu : u ∈ S) :
    ∀ (pend : List (Nat × Edge)) (st : AWSt) (P : ParentMap),
      AwInv g s t cap S u pend st P →
      lookupDist st.dist u = some c →
      (∀ x cx, x ∈ S → lookupDist st.dist x = some cx → cx ≤ c) →
      (∀ v e, (v, e) ∈ pend → e ∈ g.edges ∧ e.joins u v) →
      ∃ st' P', awRelax cap t u c pend st = .ok st' ∧ AwInv g s t cap S u [] st' P' ∧
        st'.heap.length ≤ st.heap.length + pend.length := by
  intro pend
  induction pend with
  | nil =>
    intro st P hinv _ _ _
    exact ⟨st, P, by simp [awRelax], hinv, by simp⟩
  | cons a rest ih =>
    intro st P hinv hdu hbound hpend
    obtain ⟨nb, e⟩ := a
    obtain ⟨heE, hjoin⟩ := hpend nb e List.mem_cons_self
    have hrest : ∀ v e, (v, e) ∈ rest → e ∈ g.edges ∧ e.joins u v :=
      fun v e h => hpend v e (List.mem_cons_of_mem _ h)
    rw [awRelax, edgeWeight_ok (hnn e heE)]
    simp only
    by_cases himp : improves (c + e.w) (lookupDist st.dist nb) = true
    · rw [if_pos himp]
      obtain ⟨hnbS, hinv'⟩ := hinv.relax_improve hnn hu hdu hbound heE hjoin himp
      have hsame : ∀ x, x ∈ S → lookupDist ((nb, c + e.w) :: st.dist) x = lookupDist st.dist x :=
        fun x hx => by rw [lookupDist_cons, if_neg (fun (h : nb = x) => hnbS (h ▸ hx))]
      obtain ⟨st', P', h1, h2, h3⟩ := ih _ _ hinv' ((hsame u hu).trans hdu)
        (fun x cx hx h => hbound x cx hx ((hsame x hx).symm.trans h)) hrest
      exact ⟨st', P', h1, h2, by simp only [List.length_cons] at h3 ⊢; omega⟩
    · rw [if_neg himp]
      by_cases hsame : sameCost (c + e.w) (lookupDist st.dist nb) = true
      · rw [if_pos hsame]
        obtain ⟨st', P', h1, h2, h3⟩ := ih _ P
          (hinv.relax_same hu hdu heE hjoin himp (aw_sameCost_eq hsame)) hdu hbound hrest
        exact ⟨st', P', h1, h2, by simp only [List.length_cons] at h3 ⊢; omega⟩
      · rw [if_neg hsame]
        obtain ⟨st', P', h1, h2, h3⟩ := ih st P (hinv.relax_skip hdu himp hsame) hdu hbound hrest
        exact ⟨st', P', h1, h2, by simp only [List.length_cons]; omega⟩

theorem awinv_erase (x : Int × Nat) (hinv : AwInv g s t cap S u pend st P)
    (hx : ∀ v cv, lookupDist st.dist v = some cv → v ∉ S → (cv, v) ≠ x) :
    AwInv g s t cap S u pend
      { dist := st.dist, parents := st.parents, heap := st.heap.erase x, dc := st.dc } P := by
  refine ⟨inv_erase x hinv.base hx, hinv.link, hinv.psound, hinv.dcEq, ?_, ?_, hinv.pcomplete,
    hinv.pcount⟩
  · intro y cy hy h hm
    exact hinv.heapFresh y cy hy h (List.mem_of_mem_erase hm)
  · intro v cv h
    have h1 := hinv.heapOnce v cv h
    have h2 : (st.heap.erase x).count (cv, v) ≤ st.heap.count (cv, v) :=
      (List.erase_sublist).count_le _
    exact Nat.le_trans h2 h1

theorem awinv_settle (hinv : AwInv g s t cap S u0 [] st P) (huS : u ∉ S)
    (hdu : lookupDist st.dist u = some c) (hmin : ∀ c' v, (c', v) ∈ st.heap → c ≤ c') :
    AwInv g s t cap (u :: S) u (dijCands g u)
      { dist := st.dist, parents := st.parents, heap := st.heap.erase (c, u), dc := st.dc } P := by
  have hb1 := inv_settle hinv.base huS hdu hmin
  have hb2 := inv_erase (c, u) hb1 (by
    intro v cv _ hvS heq
    simp only [Prod.mk.injEq] at heq
    exact hvS (by simp [heq.2]))
  refine ⟨hb2, hinv.link, ?_, hinv.dcEq, ?_, ?_, ?_, ?_⟩
  · intro v ps h p eid hm
    obtain ⟨h1, h2⟩ := hinv.psound v ps h p eid hm
    exact ⟨by simp [h1], h2⟩
  · intro x cx hx h hm
    simp only [List.mem_cons] at hx
    rcases hx with rfl | hx
    · rw [hdu] at h
      cases h
      have h1 := hinv.heapOnce x c hdu
      have h2 : 0 < (st.heap.erase (c, x)).count (c, x) := List.count_pos_iff.2 hm
      rw [List.count_erase_self] at h2
      omega
    · exact hinv.heapFresh x cx hx h (List.mem_of_mem_erase hm)
  · intro v cv h
    have h1 := hinv.heapOnce v cv h
    have h2 : (st.heap.erase (c, u)).count (cv, v) ≤ st.heap.count (cv, v) :=
      (List.erase_sublist).count_le _
    exact Nat.le_trans h2 h1
  · intro hcap x hx v e hvs he hj
    simp only [List.mem_cons] at hx
    rcases hx with rfl | hx
    · left; exact ⟨rfl, dijCands_complete he hj⟩
    · rcases hinv.pcomplete hcap x hx v e hvs he hj with ⟨_, hm⟩ | h
      · simp at hm
      · right; exact h
  · intro v
    have h0 := hinv.pcount v
    change _ + 0 ≤ _ at h0
    simp only [List.map_cons, List.sum_cons]
    omega

/-- the loop stopped for a reason other than fuel: every entry left in the heap is past the
    destination cost (in particular the heap is empty when the destination was never reached) -/
def AwTerm (st : AWSt) : Prop := ∀ c v, (c, v) ∈ st.heap → ∃ ct, st.dc = some ct ∧ ct < c

/-- postcondition of `awLoop`; `fuelOk` = "the fuel covers the potential of the start state" -/
def AwPost (g : Graph) (s t cap : Nat) (fuelOk : Prop) : Except Nat AWSt → Prop
  | .error _ => False
  | .ok st => ∃ S u0 P, AwInv g s t cap S u0 [] st P ∧ (fuelOk → AwTerm st)

theorem AwPost.mono {g : Graph} {s t cap : Nat} {A B : Prop} (hab : A → B) :
    ∀ r, AwPost g s t cap B r → AwPost g s t cap A r
  | .error _, h => h
  | .ok _, ⟨S, u0, P, h1, h2⟩ => ⟨S, u0, P, h1, fun ha => h2 (hab ha)⟩

theorem awLoop_post (hnn : NonNeg g) :
    ∀ (fuel : Nat) (st : AWSt) (S : List Nat) (u0 : Nat) (P : ParentMap), AwInv g s t cap S u0 [] st P →
      AwPost g s t cap (pot g (awProj st P) S ≤ fuel) (awLoop g cap t fuel st) := by
  intro fuel
  induction fuel with
  | zero =>
    intro st S u0 P hinv
    rw [awLoop]
    refine ⟨S, u0, P, hinv, ?_⟩
    intro hpot c v hm
    have : st.heap.length = 0 := by unfold pot awProj at hpot; simp only at hpot; omega
    rw [List.eq_nil_of_length_eq_zero this] at hm
    cases hm
  | succ n ih =>
    intro st S u0 P hinv
    rw [awLoop]
    cases hp : popMin st.heap with
    | none =>
      simp only
      refine ⟨S, u0, P, hinv, ?_⟩
      intro _ c v hm
      rw [popMin_none hp] at hm
      cases hm
    | some r =>
      obtain ⟨⟨c, u⟩, h'⟩ := r
      obtain ⟨hmem, rfl, hmin'⟩ := popMin_spec hp
      have hmin : ∀ c' v, (c', v) ∈ st.heap → c ≤ c' := fun c' v h => hmin' (c', v) h
      have hlen := length_erase_popped hmem
      simp only
      by_cases hpd : pastDest c st.dc = true
      · rw [if_pos hpd]
        refine ⟨S, u0, P, hinv, ?_⟩
        intro _ c' v hm
        cases hdc : st.dc with
        | none => rw [hdc] at hpd; cases hpd
        | some ct =>
          rw [hdc] at hpd
          simp only [pastDest, decide_eq_true_eq] at hpd
          have := hmin c' v hm
          exact ⟨ct, rfl, by omega⟩
      · rw [if_neg hpd]
        obtain ⟨cu, hdu, hcu⟩ := hinv.base.heapUp c u hmem
        change lookupDist st.dist u = some cu at hdu
        rw [hdu]
        by_cases hst : stale c (some cu) = true
        · rw [if_pos hst]
          have hne : c ≠ cu := by
            simp only [stale, decide_eq_true_eq] at hst
            omega
          have hinv' := awinv_erase (c, u) hinv (by
            intro v cv hv _ heq
            cases heq
            rw [hdu] at hv
            cases hv
            exact hne rfl)
          refine AwPost.mono ?_ _ (ih _ S u0 P hinv')
          unfold pot awProj
          simp only
          omega
        · rw [if_neg hst]
          have hceq : cu = c := by have := not_stale hst; omega
          subst hceq
          have huS : u ∉ S := fun h => hinv.heapFresh u cu h hdu hmem
          obtain ⟨st', P', hr, hinv3, hlen3⟩ := awRelax_inv hnn (c := cu) List.mem_cons_self
            (dijCands g u) _ P (awinv_settle hinv huS hdu hmin) hdu
            (fun x cx hx hdx => hinv.base.settled_le hmem hdu hx hdx)
            (fun v e hm => mem_dijCands hm)
          rw [hr]
          simp only
          refine AwPost.mono ?_ _ (ih st' (u :: S) u P' hinv3)
          have hb : st'.heap.length + 1 ≤ st.heap.length + (dijCands g u).length := by
            simp only at hlen3; omega
          have := pot_expand (dijCands_length_le g u) hinv3.base.card_le hb
          unfold pot awProj
          simp only [List.length_cons] at this ⊢
          omega

theorem awLoop_main (hnn : NonNeg g) (s t cap : Nat) :
    AwPost g s t cap True
      (awLoop g cap t (dijFuel g) (awInit s)) :=
  AwPost.mono (fun _ => dijFuel_covers g s) _
    (awLoop_post hnn (dijFuel g) _ [] s [] (awinv_init g s t cap s))

/-- the loop result, spelled out: `total` is the distance of `t`, it is optimal, and every node
    reachable within `total` has been expanded with its optimal distance -/
theorem aw_final_facts (hnn : NonNeg g) (hts : t ≠ s)
    (hinv : AwInv g s t cap S u0 [] st P) (hterm : AwTerm st) {total : Int}
    (hdc : st.dc = some total) :
    lookupDist st.dist t = some total ∧
    ∀ v c', WWalk g s v c' → c' ≤ total →
      v ∈ S ∧ ∃ cv, lookupDist st.dist v = some cv ∧ cv ≤ c' := by
  have hdt : lookupDist st.dist t = some total := by rw [← hinv.dcEq hts, hdc]
  refine ⟨hdt, ?_⟩
  intro v c' hw hle
  have hm : ∀ c x, (c, x) ∈ st.heap → total + 1 ≤ c := by
    intro c x h
    obtain ⟨ct, h1, h2⟩ := hterm c x h
    rw [hdc] at h1
    simp only [Option.some.injEq] at h1
    omega
  rcases walk_bound_src hnn hinv.base (total + 1) hm hw with ⟨cv, h1, h2⟩ | h
  · refine ⟨?_, cv, h1, h2⟩
    apply Classical.byContradiction
    intro hvS
    have := hm cv v (hinv.base.heapLive v cv h1 hvS)
    omega
  · omega

theorem aw_final_opt (hnn : NonNeg g) (hts : t ≠ s)
    (hinv : AwInv g s t cap S u0 [] st P) (hterm : AwTerm st) {total : Int}
    (hdc : st.dc = some total) :
    WWalk g s t total ∧ ∀ c', WWalk g s t c' → total ≤ c' := by
  obtain ⟨hdt, hall⟩ := aw_final_facts hnn hts hinv hterm hdc
  refine ⟨hinv.base.sound t total hdt, ?_⟩
  intro c' hw
  by_cases hle : c' ≤ total
  · obtain ⟨_, cv, h1, h2⟩ := hall t c' hw hle
    rw [hdt] at h1
    simp only [Option.some.injEq] at h1
    omega
  · omega

theorem aw_final_none (hnn : NonNeg g) (hts : t ≠ s) (hinv : AwInv g s t cap S u0 [] st P) (hterm : AwTerm st)
    (hdc : st.dc = none) : ¬ ∃ c, WWalk g s t c := by
  have hdt : lookupDist st.dist t = none := by rw [← hinv.dcEq hts, hdc]
  have hempty : st.heap = [] := by
    cases hh : st.heap with
    | nil => rfl
    | cons x xs =>
      obtain ⟨ct, h1, _⟩ := hterm x.1 x.2 (by rw [hh]; simp)
      rw [hdc] at h1
      simp at h1
  have htS : t ∉ S := by
    intro h
    obtain ⟨cx, h1, _⟩ := hinv.base.settled t h
    have h1' : lookupDist st.dist t = some cx := h1
    rw [hdt] at h1'
    simp at h1'
  exact final_none hnn hinv.base htS hempty

theorem awEnum_sound {total : Int} (hinv : AwInv g s t cap S u0 [] st P) :
    ∀ (d cur : Nat) (ns es : List Nat) (cc : Int),
      lookupDist st.dist cur = some cc →
      (cur :: ns).getLast? = some t →
      WChainOk g (cur :: ns) es (total - cc) →
      (cur :: ns).Nodup →
      ∀ p, p ∈ awEnum st.parents s d cur (cur :: ns) es →
        p.nodes.head? = some s ∧ p.nodes.getLast? = some t ∧
          WChainOk g p.nodes p.edges total ∧ p.nodes.Nodup := by
  -- the source ends every branch, whatever depth is left
  have hsrc : ∀ (d : Nat) (ns es : List Nat) (cc : Int), lookupDist st.dist s = some cc →
      (s :: ns).getLast? = some t → WChainOk g (s :: ns) es (total - cc) → (s :: ns).Nodup →
      ∀ p, p ∈ awEnum st.parents s d s (s :: ns) es →
        p.nodes.head? = some s ∧ p.nodes.getLast? = some t ∧
          WChainOk g p.nodes p.edges total ∧ p.nodes.Nodup := by
    intro d ns es cc hd hlast hchain hnd p hp
    have hp' : p = { nodes := s :: ns, edges := es } := by
      cases d <;> simpa [awEnum] using hp
    subst hp'
    have h0 : lookupDist st.dist s = some 0 := hinv.base.src0
    rw [h0] at hd
    cases hd
    rw [Int.sub_zero] at hchain
    exact ⟨rfl, hlast, hchain, hnd⟩
  intro d
  induction d with
  | zero =>
    intro cur ns es cc hd hlast hchain hnd p hp
    by_cases hcs : cur = s
    · subst hcs
      exact hsrc 0 ns es cc hd hlast hchain hnd p hp
    · simp [awEnum, hcs] at hp
  | succ n ih =>
    intro cur ns es cc hd hlast hchain hnd p hp
    by_cases hcs : cur = s
    · subst hcs
      exact hsrc (n + 1) ns es cc hd hlast hchain hnd p hp
    · rw [awEnum] at hp
      have hbeq : (cur == s) = false := by simp [hcs]
      simp only [hbeq, Bool.false_eq_true, if_false] at hp
      cases hl : lookupParents st.parents cur with
      | none => rw [hl] at hp; simp at hp
      | some ps =>
        rw [hl] at hp
        simp only [List.mem_flatMap] at hp
        obtain ⟨⟨q, eid⟩, hq, hp⟩ := hp
        simp only at hp
        by_cases hcon : (cur :: ns).contains q = true
        · rw [if_pos hcon] at hp; simp at hp
        · rw [if_neg hcon] at hp
          have hqps : (q, eid) ∈ ps := List.mem_reverse.1 hq
          obtain ⟨_, e, cp, h1, h2, h3, h4, h5⟩ := hinv.psound cur ps hl q eid hqps
          rw [hd] at h5
          simp only [Option.some.injEq] at h5
          apply ih q (cur :: ns) (eid :: es) cp h4 _ _ _ p hp
          · rw [List.getLast?_cons_cons]; exact hlast
          · rw [wchain_cons]
            refine ⟨e, h1, h2, h3, ?_⟩
            have : total - cp - e.w = total - cc := by omega
            rw [this]; exact hchain
          · refine List.nodup_cons.2 ⟨?_, hnd⟩
            intro hmem
            apply hcon
            simp only [List.contains_eq_mem, decide_eq_true_eq] 
            exact hmem

end

theorem findAllWeightedPaths_run {g : Graph} (hnn : NonNeg g) (mp cap : Nat) {s t : Nat}
    (hs : g.hasNode s = true) (ht : g.hasNode t = true) (hst : s ≠ t) :
    ∃ st S u0 P, AwInv g s t cap S u0 [] st P ∧ AwTerm st ∧
      findAllWeightedPaths g mp cap s t =
        match st.dc with
        | none => .error .pathNotFound
        | some total =>
          .ok { total := total, paths := (awEnum st.parents s (awDepth g) t [t] []).take mp } := by
  rw [findAllWeightedPaths_eq_of_ne hs ht hst]
  have hpost := awLoop_main hnn s t cap
  cases hl : awLoop g cap t (dijFuel g) (awInit s) with
  | error id => rw [hl] at hpost; exact hpost.elim
  | ok st =>
    rw [hl] at hpost
    obtain ⟨S, u0, P, hinv, hterm⟩ := hpost
    exact ⟨st, S, u0, P, hinv, hterm trivial, rfl⟩

theorem awp_ok_cases {g : Graph} (hnn : NonNeg g) {mp cap s t : Nat} {r : AllWPaths}
    (h : findAllWeightedPaths g mp cap s t = .ok r) :
    (s = t ∧ r = { total := 0, paths := [{ nodes := [s], edges := [] }] }) ∨
    (t ≠ s ∧ ∃ st S u0 P total, AwInv g s t cap S u0 [] st P ∧ AwTerm st ∧ st.dc = some total ∧
      r = { total := total, paths := (awEnum st.parents s (awDepth g) t [t] []).take mp }) := by
  rcases findAllWeightedPaths_cases g mp cap s t with ⟨_, h'⟩ | ⟨_, h'⟩ | ⟨hst, h'⟩ | ⟨hs, ht, hst⟩
  · rw [h'] at h; cases h
  · rw [h'] at h; cases h
  · rw [h'] at h; cases h; exact .inl ⟨hst, rfl⟩
  · obtain ⟨st, S, u0, P, hinv, hterm, heq⟩ := findAllWeightedPaths_run hnn mp cap hs ht hst
    rw [heq] at h
    cases hdc : st.dc with
    | none => rw [hdc] at h; cases h
    | some total =>
      rw [hdc] at h
      cases h
      exact .inr ⟨fun h => hst h.symm, st, S, u0, P, total, hinv, hterm, hdc, rfl⟩

theorem awp_total_optimal (g : Graph) (mp cap s t : Nat) (r : AllWPaths) (hnn : NonNeg g)
    (h : findAllWeightedPaths g mp cap s t = .ok r) :
    WWalk g s t r.total ∧ ∀ c, WWalk g s t c → r.total ≤ c := by
  rcases awp_ok_cases hnn h with ⟨rfl, rfl⟩ | ⟨hts, st, S, u0, P, total, hinv, hterm, hdc, rfl⟩
  · exact ⟨WWalk.nil s, fun c hw => hw.nonneg hnn⟩
  · exact aw_final_opt hnn hts hinv hterm hdc

theorem awp_paths_sound (g : Graph) (mp cap s t : Nat) (r : AllWPaths) (hnn : NonNeg g)
    (h : findAllWeightedPaths g mp cap s t = .ok r) :
    ∀ p, p ∈ r.paths → p.nodes.head? = some s ∧ p.nodes.getLast? = some t ∧
      WChainOk g p.nodes p.edges r.total ∧ p.nodes.Nodup := by
  rcases awp_ok_cases hnn h with ⟨rfl, rfl⟩ | ⟨hts, st, S, u0, P, total, hinv, hterm, hdc, rfl⟩
  · intro p hp
    cases List.mem_singleton.1 hp
    exact ⟨rfl, rfl, (wchain_single g s 0).2 rfl, List.pairwise_singleton _ _⟩
  · intro p hp
    have hdt : lookupDist st.dist t = some total := by rw [← hinv.dcEq hts, hdc]
    exact awEnum_sound (total := total) hinv (awDepth g) t [] [] total hdt rfl
      (by rw [wchain_single]; omega) (List.pairwise_singleton _ _) p (List.mem_of_mem_take hp)

theorem awp_cases (g : Graph) (mp cap s t : Nat) (hnn : NonNeg g)
    (hs : g.hasNode s = true) (ht : g.hasNode t = true) :
    (∃ r, findAllWeightedPaths g mp cap s t = .ok r) ∨
      (findAllWeightedPaths g mp cap s t = .error .pathNotFound ∧ ¬ ∃ c, WWalk g s t c) := by
  rcases findAllWeightedPaths_cases g mp cap s t with ⟨h, _⟩ | ⟨h, _⟩ | ⟨_, h'⟩ | ⟨_, _, hst⟩
  · rw [hs] at h; cases h
  · rw [ht] at h; cases h
  · exact .inl ⟨_, h'⟩
  · obtain ⟨st, S, u0, P, hinv, hterm, heq⟩ := findAllWeightedPaths_run hnn mp cap hs ht hst
    rw [heq]
    cases hdc : st.dc with
    | none => exact .inr ⟨rfl, aw_final_none hnn (fun h => hst h.symm) hinv hterm hdc⟩
    | some total => exact .inl ⟨_, rfl⟩

theorem awp_none_iff_unreachable (g : Graph) (mp cap s t : Nat) (hnn : NonNeg g)
    (hs : g.hasNode s = true) (ht : g.hasNode t = true) :
    findAllWeightedPaths g mp cap s t = .error .pathNotFound ↔ ¬ ∃ c, WWalk g s t c := by
  rcases awp_cases g mp cap s t hnn hs ht with ⟨r, hr⟩ | ⟨he, hn⟩
  · rw [hr]
    constructor
    · intro h; cases h
    · intro h
      exact absurd ⟨r.total, (awp_total_optimal g mp cap s t r hnn hr).1⟩ h
  · rw [he]
    exact ⟨fun _ => hn, fun _ => rfl⟩

theorem aw_wchain_walk {g : Graph} {t : Nat} :
    ∀ (ns es : List Nat) (x : Nat) (c : Int), WChainOk g (x :: ns) es c →
      (x :: ns).getLast? = some t → WWalk g x t c := by
  intro ns
  induction ns with
  | nil =>
    intro es x c hc hl
    cases es with
    | nil =>
      rw [wchain_single] at hc
      subst hc
      simp only [List.getLast?_singleton, Option.some.injEq] at hl
      subst hl
      exact WWalk.nil x
    | cons e es => simp [WChainOk] at hc
  | cons y ns ih =>
    intro es x c hc hl
    cases es with
    | nil => simp [WChainOk] at hc
    | cons eid es =>
      rw [wchain_cons] at hc
      obtain ⟨e, h1, _, h3, h4⟩ := hc
      rw [List.getLast?_cons_cons] at hl
      have hw := WWalk.cons e ⟨h1, h3⟩ (ih es y (c - e.w) h4 hl)
      have heq : e.w + (c - e.w) = c := by omega
      rw [heq] at hw
      exact hw

theorem awp_total_eq_dijkstra (g : Graph) (mp cap s t : Nat) (hnn : NonNeg g)
    (hs : g.hasNode s = true) (ht : g.hasNode t = true) :
    (findAllWeightedPaths g mp cap s t).toOption.map (·.total) =
      (findWeightedPath g s t).toOption.map (·.total) := by
  have hd := findWeightedPath_spec g s t hnn
  have ha := awp_cases g mp cap s t hnn hs ht
  cases hf : findWeightedPath g s t with
  | ok p =>
    rw [hf] at hd
    rcases ha with ⟨r, hr⟩ | ⟨_, hn⟩
    · obtain ⟨hw, hopt⟩ := awp_total_optimal g mp cap s t r hnn hr
      have h1 := hopt p.total hd.1
      have h2 := hd.2.1 r.total hw
      have : r.total = p.total := by omega
      simp only [hr, Except.toOption, Option.map_some, this]
    · exact absurd ⟨p.total, hd.1⟩ hn
  | error err =>
    rw [hf] at hd
    cases err with
    | pathNotFound =>
      rcases ha with ⟨r, hr⟩ | ⟨he, _⟩
      · exact absurd ⟨r.total, (awp_total_optimal g mp cap s t r hnn hr).1⟩ hd
      · rw [he]; rfl
    | negativeWeight id => exact hd.elim
    | nodeNotFound n =>
      obtain ⟨rfl | rfl, hn⟩ := hd
      · rw [hs] at hn; cases hn
      · rw [ht] at hn; cases hn

theorem awEnum_nonempty {g : Graph} {s t cap : Nat} {S : List Nat} {u0 : Nat} {st : AWSt} {P : ParentMap}
    (hinv : AwInv g s t cap S u0 [] st P) :
    ∀ (d cur : Nat) (ns es : List Nat) (cc : Int),
      lookupDist st.dist cur = some cc →
      expTime S cur ≤ d →
      (∀ x, x ∈ ns → expTime S cur < expTime S x) →
      awEnum st.parents s d cur (cur :: ns) es ≠ [] := by
  intro d
  induction d with
  | zero =>
    intro cur ns es cc _ hk _
    have := expTime_pos S cur
    omega
  | succ n ih =>
    intro cur ns es cc hd hk hns
    rw [awEnum]
    by_cases hcs : cur = s
    · subst hcs
      simp
    · have hbeq : (cur == s) = false := by simp [hcs]
      simp only [hbeq, Bool.false_eq_true, if_false]
      -- the first parent was expanded before `cur`, hence before everything on the partial path
      obtain ⟨p, eid, e, cp, h1, _, _, _, h5, _, h7, h8⟩ := hinv.base.par cur cc hd hcs
      have hkp := expTime_lt h7 h8
      obtain ⟨ps, hl, hmem⟩ := hinv.link cur p eid h1
      rw [hl]
      simp only
      intro hnil
      have hz := (List.flatMap_eq_nil_iff.1 hnil) (p, eid) (List.mem_reverse.2 hmem)
      simp only at hz
      have hcon : ¬ (cur :: ns).contains p = true := by
        simp only [List.contains_eq_mem, decide_eq_true_eq, List.mem_cons, not_or]
        constructor
        · intro h; subst h; omega
        · intro h; have := hns p h; omega
      rw [if_neg hcon] at hz
      refine ih p (cur :: ns) (eid :: es) cp h5 (by omega) ?_ hz
      intro x hx
      rcases List.mem_cons.1 hx with rfl | hx
      · exact hkp
      · have := hns x hx; omega

theorem awp_nonempty (g : Graph) (mp cap s t : Nat) (r : AllWPaths) (hnn : NonNeg g) (hmp : 0 < mp)
    (h : findAllWeightedPaths g mp cap s t = .ok r) : r.paths ≠ [] := by
  rcases awp_ok_cases hnn h with ⟨rfl, rfl⟩ | ⟨hts, st, S, u0, P, total, hinv, hterm, hdc, rfl⟩
  · exact List.cons_ne_nil _ _
  · have hdt : lookupDist st.dist t = some total := by rw [← hinv.dcEq hts, hdc]
    have hk : expTime S t ≤ awDepth g := by
      have := expTime_le S t
      have := hinv.base.card_le
      unfold awDepth
      omega
    have hne := awEnum_nonempty hinv (awDepth g) t [] [] total hdt hk (fun _ h => nomatch h)
    cases hL : awEnum st.parents s (awDepth g) t [t] [] with
    | nil => exact absurd hL hne
    | cons x xs =>
      obtain ⟨k, rfl⟩ : ∃ k, mp = k + 1 := ⟨mp - 1, by omega⟩
      exact List.cons_ne_nil _ _

/-- a node on a minimum-weight route has been expanded, with the weight of the route's prefix as distance -/
theorem aw_exact_dist {g : Graph} (hnn : NonNeg g) {s t cap : Nat} (hts : t ≠ s) {S : List Nat} {u0 : Nat}
    {st : AWSt} {P : ParentMap} (hinv : AwInv g s t cap S u0 [] st P) (hterm : AwTerm st) {total : Int}
    (hdc : st.dc = some total) {x : Nat} {a c : Int}
    (h1 : WWalk g s x a) (h2 : WWalk g x t c) (hsum : a + c = total) :
    x ∈ S ∧ lookupDist st.dist x = some a := by
  obtain ⟨_, hopt⟩ := aw_final_opt hnn hts hinv hterm hdc
  obtain ⟨_, hall⟩ := aw_final_facts hnn hts hinv hterm hdc
  have hc := h2.nonneg hnn
  obtain ⟨hxS, cv, h3, h4⟩ := hall x a h1 (by omega)
  have h5 := hopt (cv + c) (WWalk.append (hinv.base.sound x cv h3) h2)
  have h6 : cv = a := by omega
  subst h6
  exact ⟨hxS, h3⟩

theorem aw_chain_PCr {g : Graph} (hnn : NonNeg g) {s t cap : Nat} (hts : t ≠ s) {S : List Nat} {u0 : Nat}
    {st : AWSt} {P : ParentMap} (hinv : AwInv g s t cap S u0 [] st P) (hterm : AwTerm st) {total : Int}
    (hdc : st.dc = some total) (hcap : 2 * g.edges.length ≤ cap) :
    ∀ (ns es : List Nat) (x : Nat) (a c : Int) (racc reacc : List Nat),
      parentChain st.parents s (x :: racc) reacc → WWalk g s x a → WChainOk g (x :: ns) es c →
      (x :: ns).getLast? = some t → a + c = total → s ∉ ns →
      parentChain st.parents s ((x :: ns).reverse ++ racc) (es.reverse ++ reacc) := by
  intro ns
  induction ns with
  | nil =>
    intro es x a c racc reacc hacc _ hchain _ _ _
    cases es with
    | nil => simpa using hacc
    | cons e es => simp [WChainOk] at hchain
  | cons y ns ih =>
    intro es x a c racc reacc hacc hwalk hchain hlast hsum hs
    cases es with
    | nil => simp [WChainOk] at hchain
    | cons eid es =>
      have hxt := aw_wchain_walk (y :: ns) (eid :: es) x c hchain hlast
      rw [wchain_cons] at hchain
      obtain ⟨e, h1, h2, h3, h4⟩ := hchain
      rw [List.getLast?_cons_cons] at hlast
      have hyt := aw_wchain_walk ns es y (c - e.w) h4 hlast
      have hsy : WWalk g s y (a + e.w) := hwalk.snoc ⟨h1, h3⟩
      obtain ⟨hxS, hdx⟩ := aw_exact_dist hnn hts hinv hterm hdc hwalk hxt hsum
      obtain ⟨_, hdy⟩ := aw_exact_dist hnn hts hinv hterm hdc hsy hyt (by omega)
      simp only [List.mem_cons, not_or] at hs
      have hys : y ≠ s := fun h => hs.1 h.symm
      have hlink : ∃ ps, lookupParents st.parents y = some ps ∧ (x, eid) ∈ ps := by
        rcases hinv.pcomplete hcap x hxS y e hys h1 h3 with ⟨_, hm⟩ | ⟨cx, cv, h5, h6, _, h8⟩
        · simp at hm
        · rw [hdx] at h5
          rw [hdy] at h6
          cases h5; cases h6
          rw [← h2]
          exact h8 rfl
      have := ih es y (a + e.w) (c - e.w) (x :: racc) (eid :: reacc)
        ⟨hys, hlink, hacc⟩ hsy h4 hlast (by omega) hs.2
      simpa [List.reverse_cons, List.append_assoc] using this

theorem awEnum_complete (M : MultiParent) (s : Nat) :
    ∀ (rp : List Nat) (d cur : Nat) (re ns' es' : List Nat),
      parentChain M s (cur :: rp) re → (rp.reverse ++ cur :: ns').Nodup →
      (cur :: rp).getLast? = some s → rp.length ≤ d →
      ({ nodes := rp.reverse ++ cur :: ns', edges := re.reverse ++ es' } : Path) ∈
        awEnum M s d cur (cur :: ns') es' := by
  intro rp
  induction rp with
  | nil =>
    intro d cur re ns' es' hpc _ hlast _
    simp only [List.getLast?_singleton, Option.some.injEq] at hlast
    subst hlast
    cases re with
    | cons e re => simp [parentChain] at hpc
    | nil =>
      cases d with
      | zero => rw [awEnum]; simp
      | succ n => rw [awEnum]; simp
  | cons p rp ih =>
    intro d cur re ns' es' hpc hnd hlast hlen
    cases re with
    | nil => simp [parentChain] at hpc
    | cons eid re =>
      obtain ⟨hcs, ⟨ps, hl, hmem⟩, hrest⟩ := hpc
      rw [List.getLast?_cons_cons] at hlast
      have hdisj := (List.nodup_append.1 hnd).2.2
      have hcon : ¬ (cur :: ns').contains p = true := by
        simp only [List.contains_eq_mem, decide_eq_true_eq]
        intro hm
        exact hdisj p (List.mem_reverse.2 (by simp)) p hm rfl
      cases d with
      | zero => simp at hlen
      | succ n =>
        rw [awEnum]
        have hbeq : (cur == s) = false := by simp [hcs]
        simp only [hbeq, Bool.false_eq_true, if_false, hl, List.mem_flatMap]
        refine ⟨(p, eid), List.mem_reverse.2 hmem, ?_⟩
        simp only
        rw [if_neg hcon]
        have := ih n p re (cur :: ns') (eid :: es') hrest
          (by simpa [List.reverse_cons, List.append_assoc] using hnd) hlast
          (by simp only [List.length_cons] at hlen; omega)
        simpa [List.reverse_cons, List.append_assoc] using this

theorem aw_chain_nodes {g : Graph} :
    ∀ (ns es : List Nat) (x : Nat) (c : Int), WChainOk g (x :: ns) es c →
      ∀ y, y ∈ ns → y ∈ endpoints g := by
  intro ns
  induction ns with
  | nil => intro es x c _ y hy; cases hy
  | cons z ns ih =>
    intro es x c hchain y hy
    cases es with
    | nil => simp [WChainOk] at hchain
    | cons eid es =>
      rw [wchain_cons] at hchain
      obtain ⟨e, h1, _, h3, h4⟩ := hchain
      rcases List.mem_cons.1 hy with rfl | hy
      · exact joins_mem_endpoints h1 h3
      · exact ih es z (c - e.w) h4 y hy

theorem awp_complete (g : Graph) (mp cap s t : Nat) (r : AllWPaths) (hnn : NonNeg g)
    (h : findAllWeightedPaths g mp cap s t = .ok r)
    (hcap : 2 * g.edges.length ≤ cap) (hmax : r.paths.length < mp)
    (ns es : List Nat) (hhead : ns.head? = some s) (hlast : ns.getLast? = some t)
    (hchain : WChainOk g ns es r.total) (hnd : ns.Nodup) :
    { nodes := ns, edges := es } ∈ r.paths := by
  cases ns with
  | nil => cases hhead
  | cons x tl =>
    cases hhead
    rcases awp_ok_cases hnn h with ⟨rfl, rfl⟩ | ⟨hts, st, S, u0, P, total, hinv, hterm, hdc, rfl⟩
    · cases tl with
      | nil =>
        cases es with
        | nil => exact List.mem_singleton.2 rfl
        | cons e es => simp [WChainOk] at hchain
      | cons y tl =>
        rw [List.getLast?_cons_cons] at hlast
        exact absurd (List.mem_of_getLast? hlast) (List.nodup_cons.1 hnd).1
    · simp only at hchain hmax ⊢
      have hxtl : s ∉ tl := (List.nodup_cons.1 hnd).1
      have hpc := aw_chain_PCr hnn hts hinv hterm hdc hcap tl es s 0 total [] []
        trivial (WWalk.nil s) hchain hlast (by omega) hxtl
      simp only [List.append_nil] at hpc
      obtain ⟨rp, hr, hns, hlast'⟩ := reverse_of_getLast hlast
      rw [hr] at hpc
      -- a simple chain is no longer than the enumeration depth
      have hcard := length_le_of_endpoints g s (s :: tl) hnd fun y hy =>
        (List.mem_cons.1 hy).imp id (aw_chain_nodes tl es s total hchain y)
      rw [hns] at hcard
      simp only [List.length_append, List.length_reverse, List.length_cons, List.length_nil] at hcard
      have hmemL := awEnum_complete st.parents s rp (awDepth g) t es.reverse [] []
        hpc (by rw [← hns]; exact hnd) hlast' (by unfold awDepth; omega)
      rw [← hns] at hmemL
      simp only [List.reverse_reverse, List.append_nil] at hmemL
      rw [List.length_take] at hmax
      rw [List.take_of_length_le (by omega)]
      exact hmemL

/-! ### the hypotheses are satisfiable; what the model answers on small graphs -/

/-- a diamond with two minimum-weight routes and a heavier direct edge -/
def awExGraph : Graph :=
  { nodes := [⟨0, none⟩, ⟨1, none⟩, ⟨2, none⟩, ⟨3, none⟩, ⟨4, none⟩]
    edges := [⟨10, 0, 1, true, 0, some 1, none⟩, ⟨11, 0, 2, true, 0, some 1, none⟩,
              ⟨12, 1, 3, true, 0, some 1, none⟩, ⟨13, 2, 3, true, 0, some 1, none⟩,
              ⟨14, 0, 3, true, 0, some 5, none⟩] }

theorem awExGraph_nonneg : NonNeg awExGraph := by
  intro e he
  simp only [awExGraph, List.mem_cons, List.not_mem_nil, or_false] at he
  rcases he with rfl | rfl | rfl | rfl | rfl <;> decide

example : NonNeg awExGraph ∧ 2 * awExGraph.edges.length ≤ 10 ∧
    findAllWeightedPaths awExGraph 10 10 0 3 =
      .ok { total := 2, paths := [{ nodes := [0, 1, 3], edges := [10, 12] },
                                   { nodes := [0, 2, 3], edges := [11, 13] }] } :=
  ⟨awExGraph_nonneg, by decide, by rfl⟩

/-- `max_paths = 1` truncates the list, `max_parents_per_node = 1` keeps the first parent only -/
example : findAllWeightedPaths awExGraph 1 10 0 3 =
      .ok { total := 2, paths := [{ nodes := [0, 1, 3], edges := [10, 12] }] } ∧
    findAllWeightedPaths awExGraph 10 1 0 3 =
      .ok { total := 2, paths := [{ nodes := [0, 2, 3], edges := [11, 13] }] } :=
  ⟨by rfl, by rfl⟩

example : awExGraph.hasNode 0 = true ∧ awExGraph.hasNode 4 = true ∧
    findAllWeightedPaths awExGraph 10 10 0 4 = .error .pathNotFound :=
  ⟨by rfl, by rfl, by rfl⟩

example : findAllWeightedPaths
    { nodes := [⟨0, none⟩, ⟨1, none⟩], edges := [⟨7, 0, 1, true, 0, some (-4), none⟩] } 10 10 0 1 =
    .error (.negativeWeight 7) := by rfl

/-- observation (not excluded by the theorems above, which speak about membership): an undirected
    edge followed from its `dst` end to its `src` end is a candidate of BOTH loops of one expansion
    (out-list and in-list), the second relaxation finds an equal cost and pushes the same parent
    entry again, so the same path is listed twice. -/
example : findAllWeightedPaths
    { nodes := [⟨0, none⟩, ⟨1, none⟩], edges := [⟨10, 1, 0, false, 0, some 2, none⟩] } 10 10 0 1 =
    .ok { total := 2, paths := [{ nodes := [0, 1], edges := [10] }, { nodes := [0, 1], edges := [10] }] } := by
  rfl

end Neumann.Paths
