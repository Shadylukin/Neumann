import NeumannModel.Paths.BfsProofs
/-
  C18 — `find_all_paths` (level BFS with multi-parent tracking, then enumeration of all parent chains):
  every listed path is a real shortest chain, the hop count is the true distance, `PathNotFound` exactly
  when unreachable, and (caps not reached) every shortest chain is listed.
  All statements are for every graph / caps / node pair (invariant proofs, no enumeration).
-/
namespace Neumann.Paths

theorem apBStep_iff {g : Graph} {t u v : Nat} {e : Edge} :
    BStep g Flt.all t u v e ↔ e ∈ g.edges ∧ e.joins u v := by
  simp [BStep, Flt.all]

theorem apOutEdges_sub {g : Graph} {u : Nat} {e : Edge} (h : e ∈ outEdges g u) : e ∈ g.edges :=
  ((mem_outEdges_iff g u e).1 h).1

theorem apWalk_trans {g : Graph} {flt : Flt} {t a b c n m : Nat}
    (h1 : BWalk g flt t a b n) (h2 : BWalk g flt t b c m) : BWalk g flt t a c (n + m) := by
  induction h1 with
  | nil u => simpa using h2
  | @cons u v w n e hs _ ih =>
    have := BWalk.cons e hs (ih h2)
    have hh : n + 1 + m = n + m + 1 := by omega
    rw [hh]; exact this

/-- one iteration of the `for edge_id in out_list(current)` loop -/
def apStep (cap tgt cur level : Nat) (st : APSt) (e : Edge) : APSt :=
  match apNbr cur e with
  | none => st
  | some nb =>
    match lookupLevel st.levels nb with
    | none =>
      { levels := (nb, level) :: st.levels, parents := (nb, [(cur, e.id)]) :: st.parents,
        next := st.next ++ [nb], found := st.found || nb == tgt }
    | some l =>
      if l == level then { st with parents := pushParent cap nb (cur, e.id) st.parents } else st

theorem apScan_eq_foldl (cap tgt cur level : Nat) (es : List Edge) (st : APSt) :
    apScan cap tgt cur level es st = es.foldl (apStep cap tgt cur level) st := by
  induction es generalizing st with
  | nil => rfl
  | cons e es ih =>
    rw [apScan, List.foldl_cons]
    unfold apStep
    cases h1 : apNbr cur e with
    | none => exact ih st
    | some nb =>
      dsimp only
      cases h2 : lookupLevel st.levels nb with
      | none => exact ih _
      | some l =>
        dsimp only
        by_cases h3 : (l == level) = true
        · rw [if_pos h3, if_pos h3]; exact ih _
        · rw [if_neg h3, if_neg h3]; exact ih _

/-- invariant of a left fold that remembers the elements already folded, `N` bounding their number -/
theorem apFoldl_inv_len {α σ : Type} (f : σ → α → σ) (P : List α → σ → Prop) (Q : α → Prop) (N : Nat)
    (hstep : ∀ acc st e, Q e → acc.length < N → P acc st → P (e :: acc) (f st e)) (es : List α)
    (hQ : ∀ e, e ∈ es → Q e) (acc : List α) (st : σ) (hN : acc.length + es.length ≤ N)
    (h : P acc st) : P (es.reverse ++ acc) (es.foldl f st) := by
  induction es generalizing acc st with
  | nil => simpa using h
  | cons e es ih =>
    rw [List.foldl_cons, List.reverse_cons, List.append_assoc]
    simp only [List.length_cons] at hN
    exact ih (fun e' h' => hQ e' (List.mem_cons_of_mem _ h')) (e :: acc) (f st e)
      (by simp only [List.length_cons]; omega)
      (hstep acc st e (hQ e (List.mem_cons_self ..)) (by omega) h)

/-- parent lists are sound: each recorded pair is a real edge from a node exactly one level lower -/
def ApParOk (g : Graph) (s t : Nat) (P : MultiParent) : Prop :=
  ∀ v ps, lookupParents P v = some ps → ∀ pe, pe ∈ ps →
    ∃ l, IsDist g Flt.all t s pe.1 l ∧ IsDist g Flt.all t s v (l + 1) ∧
      ∃ e, e ∈ g.edges ∧ e.id = pe.2 ∧ e.joins pe.1 v

def ApClosed (g : Graph) (levels : List (Nat × Nat)) (u : Nat) : Prop :=
  ∀ e v, e ∈ g.edges → e.joins u v → lookupLevel levels v ≠ none

/-- invariant while level `L + 1` is being built; `rest` = nodes of level `L` not yet fully scanned -/
structure ApInv (g : Graph) (s t L : Nat) (rest : List Nat) (st : APSt) : Prop where
  lev : ∀ v l, lookupLevel st.levels v = some l → IsDist g Flt.all t s v l ∧ l ≤ L + 1
  closed : ∀ u l, lookupLevel st.levels u = some l → l ≤ L → u ∈ rest ∨ ApClosed g st.levels u
  next : ∀ v, v ∈ st.next ↔ lookupLevel st.levels v = some (L + 1)
  foundF : st.found = false → lookupLevel st.levels t = none
  foundT : st.found = true → lookupLevel st.levels t = some (L + 1)
  par : ApParOk g s t st.parents
  cands : ∀ v, lookupLevel st.levels v ≠ none → v ∈ cands g s
  src : lookupLevel st.levels s = some 0

section inv
variable {g : Graph} {s t : Nat}

/-- a walk from `s` to a node without a level leaves the levelled nodes over an edge out of a levelled
    node that is not yet closed -/
theorem apFrontier {levels : List (Nat × Nat)} (hsrc : lookupLevel levels s = some 0) {w n : Nat}
    (hw : BWalk g Flt.all t s w n) (hnone : lookupLevel levels w = none) :
    ∃ x lx i, lookupLevel levels x = some lx ∧ BWalk g Flt.all t s x i ∧ i + 1 ≤ n ∧
      ¬ ApClosed g levels x := by
  have hsV : s ∈ levels.map (·.1) := lookupLevel_ne_none.1 (by rw [hsrc]; simp)
  have hnV : w ∉ levels.map (·.1) := fun hc => lookupLevel_ne_none.2 hc hnone
  obtain ⟨x, y, i, e', hx, hxV, hxy, hyV, hi⟩ := frontier _ hw hsV hnV (BWalk.nil s)
  cases hlx : lookupLevel levels x with
  | none => exact absurd hlx (lookupLevel_ne_none.2 hxV)
  | some lx =>
    have hs' := apBStep_iff.1 hxy
    exact ⟨x, lx, i, hlx, hx, by omega, fun hcl => hyV (lookupLevel_ne_none.1 (hcl e' y hs'.1 hs'.2))⟩

theorem apDiscover {L : Nat} {R : List Nat} {st : APSt} {cur nb : Nat} {e : Edge}
    (h : ApInv g s t L R st) (hR : ∀ c, c ∈ R → IsDist g Flt.all t s c L) (hcur : cur ∈ R)
    (he : e ∈ g.edges) (hj : e.joins cur nb) (hnb : lookupLevel st.levels nb = none) :
    IsDist g Flt.all t s nb (L + 1) := by
  refine ⟨(hR cur hcur).1.snoc (apBStep_iff.2 ⟨he, hj⟩), ?_⟩
  intro m hm
  obtain ⟨x, lx, i, hlx, hx, hi, hncl⟩ := apFrontier h.src hm hnb
  obtain ⟨hdx, hle⟩ := h.lev x lx hlx
  have h1 := hdx.2 i hx
  by_cases hlL : lx ≤ L
  · rcases h.closed x lx hlx hlL with hxR | hcl
    · have := (hR x hxR).2 i hx
      omega
    · exact absurd hcl hncl
  · omega

theorem apStep_inv {cap L : Nat} {R : List Nat} {st : APSt} {cur : Nat} {e : Edge}
    (h : ApInv g s t L R st) (hR : ∀ c, c ∈ R → IsDist g Flt.all t s c L) (hcur : cur ∈ R)
    (he : e ∈ g.edges) :
    ApInv g s t L R (apStep cap t cur (L + 1) st e) ∧
    (∀ v l, lookupLevel st.levels v = some l →
      lookupLevel (apStep cap t cur (L + 1) st e).levels v = some l) ∧
    (∀ v, e.joins cur v → lookupLevel (apStep cap t cur (L + 1) st e).levels v ≠ none) := by
  unfold apStep
  cases h1 : apNbr cur e with
  | none => exact ⟨h, fun _ _ hh => hh, fun v hj => by rw [apNbr_iff.2 hj] at h1; cases h1⟩
  | some nb =>
    dsimp only
    have hj : e.joins cur nb := apNbr_iff.1 h1
    have hfun : ∀ v, e.joins cur v → v = nb := fun v hv => by
      have := apNbr_iff.2 hv
      rw [h1] at this; cases this; rfl
    cases h2 : lookupLevel st.levels nb with
    | none =>
      dsimp only
      have hdn := apDiscover h hR hcur he hj h2
      have hmono : ∀ v l, lookupLevel st.levels v = some l →
          lookupLevel ((nb, L + 1) :: st.levels) v = some l := by
        intro v l hv
        refine lookupLevel_cons_some.2 (.inr ⟨?_, hv⟩)
        rintro rfl
        rw [h2] at hv; cases hv
      have hmono' : ∀ v, lookupLevel st.levels v ≠ none →
          lookupLevel ((nb, L + 1) :: st.levels) v ≠ none := by
        intro v hv
        cases hl : lookupLevel st.levels v with
        | none => exact absurd hl hv
        | some l => rw [hmono v l hl]; simp
      refine ⟨⟨?_, ?_, ?_, ?_, ?_, ?_, ?_, hmono s 0 h.src⟩, hmono, ?_⟩
      · intro v l hv
        rcases lookupLevel_cons_some.1 hv with ⟨rfl, rfl⟩ | ⟨_, hv⟩
        · exact ⟨hdn, Nat.le_refl _⟩
        · exact h.lev v l hv
      · intro u l hu hl
        rcases lookupLevel_cons_some.1 hu with ⟨rfl, rfl⟩ | ⟨_, hu⟩
        · omega
        · exact (h.closed u l hu hl).imp id fun hc e' v he' hj' => hmono' v (hc e' v he' hj')
      · intro v
        show v ∈ st.next ++ [nb] ↔ _
        rw [List.mem_append, List.mem_singleton, h.next v, lookupLevel_cons_some]
        constructor
        · rintro (hv | rfl)
          · exact .inr ⟨fun hnv => (by rw [hnv, hv] at h2; cases h2), hv⟩
          · exact .inl ⟨rfl, rfl⟩
        · rintro (⟨rfl, _⟩ | ⟨_, hv⟩)
          · exact .inr rfl
          · exact .inl hv
      · intro hf
        change (st.found || nb == t) = false at hf
        simp only [Bool.or_eq_false_iff, beq_eq_false_iff_ne] at hf
        show lookupLevel ((nb, L + 1) :: st.levels) t = none
        rw [lookupLevel_cons, if_neg hf.2]
        exact h.foundF hf.1
      · intro hf
        change (st.found || nb == t) = true at hf
        show lookupLevel ((nb, L + 1) :: st.levels) t = some (L + 1)
        rw [lookupLevel_cons]
        by_cases hnt : nb = t
        · rw [if_pos hnt]
        · rw [if_neg hnt]
          exact h.foundT (by simpa [hnt] using hf)
      · intro v ps hv pe hpe
        rcases lookupParents_cons_some.1 hv with ⟨rfl, rfl⟩ | ⟨_, hv⟩
        · cases List.mem_singleton.1 hpe
          exact ⟨L, hR cur hcur, hdn, e, he, rfl, hj⟩
        · exact h.par v ps hv pe hpe
      · intro v hv
        change lookupLevel ((nb, L + 1) :: st.levels) v ≠ none at hv
        rw [lookupLevel_cons] at hv
        by_cases hnv : nb = v
        · exact hnv ▸ List.mem_cons_of_mem _ (joins_mem_endpoints he hj)
        · rw [if_neg hnv] at hv
          exact h.cands v hv
      · intro v hv
        rw [hfun v hv, lookupLevel_cons, if_pos rfl]
        simp
    | some l =>
      dsimp only
      have hsc : ∀ v, e.joins cur v → lookupLevel st.levels v ≠ none := by
        intro v hv
        rw [hfun v hv, h2]; simp
      by_cases h3 : (l == L + 1) = true
      · rw [if_pos h3]
        have hl : l = L + 1 := by simpa using h3
        subst hl
        refine ⟨{ h with par := ?_ }, fun _ _ hh => hh, hsc⟩
        -- an entry of the extended list is an old one or the pushed `(cur, e.id)`
        intro v ps hv pe hpe
        obtain ⟨ps0, h4, hsub⟩ := lookupParents_push_inv hv
        rcases hsub pe hpe with hpe | ⟨rfl, rfl⟩
        · exact h.par v ps0 h4 pe hpe
        · exact ⟨L, hR cur hcur, (h.lev _ (L + 1) h2).1, e, he, rfl, hj⟩
      · rw [if_neg h3]
        exact ⟨h, fun _ _ hh => hh, hsc⟩

theorem apScan_inv {cap L : Nat} {R : List Nat} {cur : Nat}
    (hR : ∀ c, c ∈ R → IsDist g Flt.all t s c L) (hcur : cur ∈ R) (es : List Edge)
    (hes : ∀ e, e ∈ es → e ∈ g.edges) (st : APSt) (h : ApInv g s t L R st) :
    ApInv g s t L R (apScan cap t cur (L + 1) es st) ∧
    (∀ v l, lookupLevel st.levels v = some l →
      lookupLevel (apScan cap t cur (L + 1) es st).levels v = some l) ∧
    (∀ e, e ∈ es → ∀ v, e.joins cur v →
      lookupLevel (apScan cap t cur (L + 1) es st).levels v ≠ none) := by
  rw [apScan_eq_foldl]
  have := apFoldl_inv_len (apStep cap t cur (L + 1))
    (fun acc st' => ApInv g s t L R st' ∧
      (∀ v l, lookupLevel st.levels v = some l → lookupLevel st'.levels v = some l) ∧
      (∀ e, e ∈ acc → ∀ v, e.joins cur v → lookupLevel st'.levels v ≠ none))
    (fun e => e ∈ g.edges) es.length
    (by
      intro acc st' e he _ ⟨hi, hm, ha⟩
      obtain ⟨k1, k2, k3⟩ := apStep_inv (cap := cap) hi hR hcur he
      refine ⟨k1, fun v l hv => k2 v l (hm v l hv), ?_⟩
      intro e' he' v hj
      rcases List.mem_cons.1 he' with rfl | he'
      · exact k3 v hj
      · cases hl : lookupLevel st'.levels v with
        | none => exact absurd hl (ha e' he' v hj)
        | some l => rw [k2 v l hl]; simp)
    es hes [] st (by simp) ⟨h, fun _ _ hh => hh, fun _ he => by cases he⟩
  obtain ⟨k1, k2, k3⟩ := this
  exact ⟨k1, k2, fun e he => k3 e (by simpa using he)⟩

theorem apInv_drop {L : Nat} {c : Nat} {rest : List Nat} {st : APSt}
    (h : ApInv g s t L (c :: rest) st)
    (hs : ∀ e, e ∈ outEdges g c → ∀ v, e.joins c v → lookupLevel st.levels v ≠ none) :
    ApInv g s t L rest st := by
  refine { h with closed := ?_ }
  intro u l hu hl
  rcases h.closed u l hu hl with hr | hc
  · rcases List.mem_cons.1 hr with rfl | hr
    · exact Or.inr (fun e v he hj => hs e (mem_outEdges_of_joins he hj) v hj)
    · exact Or.inl hr
  · exact Or.inr hc

theorem apLevel_inv {cap L : Nat} (cl : List Nat) (hR : ∀ c, c ∈ cl → IsDist g Flt.all t s c L)
    (st : APSt) (h : ApInv g s t L cl st) :
    ApInv g s t L [] (apLevel g cap t (L + 1) cl st) ∧
    (∀ v l, lookupLevel st.levels v = some l →
      lookupLevel (apLevel g cap t (L + 1) cl st).levels v = some l) := by
  induction cl generalizing st with
  | nil => exact ⟨h, fun _ _ hh => hh⟩
  | cons c rest ih =>
    rw [apLevel]
    obtain ⟨h1, hm1, hs1⟩ := apScan_inv (cap := cap) hR (List.mem_cons_self ..) (outEdges g c)
      (fun e he => apOutEdges_sub he) st h
    have h1' := apInv_drop h1 hs1
    obtain ⟨h2, hm2⟩ := ih (fun c' hc' => hR c' (List.mem_cons_of_mem _ hc')) _ h1'
    exact ⟨h2, fun v l hv => hm2 v l (hm1 v l hv)⟩

/-- invariant of the outer `while` at the start of a level: `current` = the nodes of level `level` -/
structure ApLoopInv (g : Graph) (s t level : Nat) (current : List Nat) (st : APSt) : Prop where
  lev : ∀ v l, lookupLevel st.levels v = some l → IsDist g Flt.all t s v l ∧ l ≤ level
  cur : ∀ v, v ∈ current ↔ lookupLevel st.levels v = some level
  closed : ∀ u l, lookupLevel st.levels u = some l → l < level → ApClosed g st.levels u
  found : st.found = false
  tgt : lookupLevel st.levels t = none
  par : ApParOk g s t st.parents
  cands : ∀ v, lookupLevel st.levels v ≠ none → v ∈ cands g s
  src : lookupLevel st.levels s = some 0

theorem apLoopInv_start {level : Nat} {current : List Nat} {st : APSt}
    (h : ApLoopInv g s t level current st) : ApInv g s t level current { st with next := [] } := by
  refine ⟨?_, ?_, ?_, fun _ => h.tgt, ?_, h.par, h.cands, h.src⟩
  · intro v l hv
    have := h.lev v l hv
    exact ⟨this.1, by omega⟩
  · intro u l hu hl
    by_cases hlt : l < level
    · exact Or.inr (h.closed u l hu hlt)
    · have : l = level := by omega
      subst this
      exact Or.inl ((h.cur u).2 hu)
  · intro v
    constructor
    · intro hv; cases hv
    · intro hv
      have := (h.lev v _ hv).2
      omega
  · intro hf
    have := h.found
    dsimp only at hf
    rw [this] at hf; cases hf

theorem apLoopInv_next {level : Nat} {st : APSt} (h : ApInv g s t level [] st)
    (hf : st.found = false) : ApLoopInv g s t (level + 1) st.next st := by
  refine ⟨h.lev, h.next, ?_, hf, h.foundF hf, h.par, h.cands, h.src⟩
  intro u l hu hl
  rcases h.closed u l hu (by omega) with hr | hc
  · cases hr
  · exact hc

theorem apLoopInv_init (g : Graph) {s t : Nat} (hst : s ≠ t) :
    ApLoopInv g s t 0 [s] { levels := [(s, 0)], parents := [], next := [], found := false } := by
  have hl : ∀ v l, lookupLevel [(s, 0)] v = some l → v = s ∧ l = 0 := by
    intro v l hv
    rw [lookupLevel_cons] at hv
    by_cases hsv : s = v
    · simp only [hsv, if_true, Option.some.injEq] at hv
      exact ⟨hsv.symm, hv.symm⟩
    · simp [hsv, lookupLevel] at hv
  refine ⟨?_, ?_, ?_, rfl, ?_, ?_, ?_, ?_⟩
  · intro v l hv
    obtain ⟨rfl, rfl⟩ := hl v l hv
    exact ⟨isDist_src, Nat.le_refl _⟩
  · intro v
    dsimp only
    rw [lookupLevel_cons]
    by_cases hsv : s = v
    · simp [hsv]
    · have : ¬ v = s := fun h => hsv h.symm
      simp [hsv, this, lookupLevel]
  · intro u l _ hl'; omega
  · dsimp only
    rw [lookupLevel_cons]
    simp [hst, lookupLevel]
  · intro v ps hv
    simp [lookupParents] at hv
  · intro v hv
    dsimp only at hv
    cases hl' : lookupLevel [(s, 0)] v with
    | none => exact absurd hl' hv
    | some l =>
      obtain ⟨rfl, _⟩ := hl v l hl'
      exact List.mem_cons_self ..
  · dsimp only
    rw [lookupLevel_cons]; simp

theorem apLoop_some {cap : Nat} (fuel level : Nat) (current : List Nat) (st : APSt)
    (hinv : ApLoopInv g s t level current st) (hops : Nat) (P : MultiParent)
    (hr : apLoop g cap t fuel level current st = some (hops, P)) :
    IsDist g Flt.all t s t hops ∧ ApParOk g s t P := by
  induction fuel generalizing level current st with
  | zero => simp [apLoop] at hr
  | succ fuel ih =>
    rw [apLoop] at hr
    by_cases hemp : current.isEmpty = true
    · rw [if_pos hemp] at hr; cases hr
    · rw [if_neg hemp] at hr
      dsimp only at hr
      obtain ⟨hA, _⟩ := apLevel_inv (cap := cap) current
        (fun c hc => (hinv.lev c level ((hinv.cur c).1 hc)).1) _ (apLoopInv_start hinv)
      by_cases hf : (apLevel g cap t (level + 1) current { st with next := [] }).found = true
      · rw [if_pos hf] at hr
        simp only [Option.some.injEq, Prod.mk.injEq] at hr
        obtain ⟨rfl, rfl⟩ := hr
        exact ⟨(hA.lev t _ (hA.foundT hf)).1, hA.par⟩
      · rw [if_neg hf] at hr
        exact ih _ _ _ (apLoopInv_next hA (by simpa using hf)) hr

theorem apLoop_empty {level : Nat} {st : APSt} (hinv : ApLoopInv g s t level [] st) :
    ∀ n, ¬ BWalk g Flt.all t s t n := by
  intro n hw
  obtain ⟨x, lx, i, hlx, _, _, hncl⟩ := apFrontier hinv.src hw hinv.tgt
  have hle := (hinv.lev x lx hlx).2
  by_cases hlt : lx < level
  · exact hncl (hinv.closed x lx hlx hlt)
  · have : lx = level := by omega
    subst this
    exact nomatch (hinv.cur x).2 hlx

theorem apLoop_none {cap : Nat} (fuel level : Nat) (current : List Nat) (st : APSt)
    (hinv : ApLoopInv g s t level current st)
    (hfuel : unvis (cands g s) (st.levels.map (·.1)) + 1 ≤ fuel)
    (hr : apLoop g cap t fuel level current st = none) : ∀ n, ¬ BWalk g Flt.all t s t n := by
  induction fuel generalizing level current st with
  | zero => omega
  | succ fuel ih =>
    rw [apLoop] at hr
    by_cases hemp : current.isEmpty = true
    · have : current = [] := by simpa using hemp
      subst this
      exact apLoop_empty hinv
    · rw [if_neg hemp] at hr
      dsimp only at hr
      obtain ⟨hA, hm⟩ := apLevel_inv (cap := cap) current
        (fun c hc => (hinv.lev c level ((hinv.cur c).1 hc)).1) _ (apLoopInv_start hinv)
      by_cases hf : (apLevel g cap t (level + 1) current { st with next := [] }).found = true
      · rw [if_pos hf] at hr; cases hr
      · rw [if_neg hf] at hr
        have hinv' := apLoopInv_next hA (by simpa using hf)
        cases hnx : (apLevel g cap t (level + 1) current { st with next := [] }).next with
        | nil => rw [hnx] at hinv'; exact apLoop_empty hinv'
        | cons nb rest =>
          apply ih _ _ _ hinv' _ hr
          have hnb : lookupLevel (apLevel g cap t (level + 1) current { st with next := [] }).levels nb
              = some (level + 1) := (hA.next nb).1 (by rw [hnx]; exact List.mem_cons_self ..)
          have hnb0 : lookupLevel st.levels nb = none := by
            cases hl : lookupLevel st.levels nb with
            | none => rfl
            | some l =>
              have h1 := (hinv.lev nb l hl).2
              have h2 := hm nb l hl
              rw [hnb] at h2
              simp only [Option.some.injEq] at h2
              omega
          have hdrop : unvis (cands g s)
              ((apLevel g cap t (level + 1) current { st with next := [] }).levels.map (·.1)) + 1
              ≤ unvis (cands g s) (st.levels.map (·.1)) := by
            refine unvis_lt (cands g s) _ _ nb (hA.cands nb (by rw [hnb]; simp))
              (fun hc => lookupLevel_ne_none.2 hc hnb0) (lookupLevel_ne_none.1 (by rw [hnb]; simp)) ?_
            intro x hc
            have hc' := lookupLevel_ne_none.2 hc
            cases hl : lookupLevel st.levels x with
            | none => exact absurd hl hc'
            | some l => exact lookupLevel_ne_none.1 (by rw [hm x l hl]; simp)
          omega

end inv

section enum
variable {g : Graph} {s t : Nat}

theorem apEnum_sound (P : MultiParent) (hP : ApParOk g s t P) (d cur : Nat) (tl es : List Nat)
    (hch : ChainOk g (BStep g Flt.all t) (cur :: tl) es) (hl : (cur :: tl).getLast? = some t) :
    ∀ p, p ∈ apEnum P s d cur (cur :: tl) es →
      p.nodes.head? = some s ∧ p.nodes.getLast? = some t ∧
      ChainOk g (BStep g Flt.all t) p.nodes p.edges ∧
      ∀ dc, IsDist g Flt.all t s cur dc → p.edges.length = es.length + dc := by
  -- the source ends every branch, whatever depth is left
  have hsrc : ∀ (d : Nat) (tl es : List Nat), ChainOk g (BStep g Flt.all t) (s :: tl) es →
      (s :: tl).getLast? = some t → ∀ p, p ∈ apEnum P s d s (s :: tl) es →
      p.nodes.head? = some s ∧ p.nodes.getLast? = some t ∧
      ChainOk g (BStep g Flt.all t) p.nodes p.edges ∧
      ∀ dc, IsDist g Flt.all t s s dc → p.edges.length = es.length + dc := by
    intro d tl es hch hl p hp
    have : p = { nodes := s :: tl, edges := es } := by cases d <;> simpa [apEnum] using hp
    subst this
    refine ⟨rfl, hl, hch, fun dc hdc => ?_⟩
    have : dc = 0 := hdc.unique isDist_src
    simp [this]
  induction d generalizing cur tl es with
  | zero =>
    intro p hp
    by_cases hcs : cur = s
    · subst hcs; exact hsrc 0 tl es hch hl p hp
    · simp [apEnum, hcs] at hp
  | succ d ih =>
    intro p hp
    by_cases hcs : cur = s
    · subst hcs; exact hsrc (d + 1) tl es hch hl p hp
    · rw [apEnum, if_neg (by simpa using hcs)] at hp
      dsimp only at hp
      cases hlp : lookupParents P cur with
      | none => rw [hlp] at hp; simp at hp
      | some ps =>
        rw [hlp] at hp
        dsimp only at hp
        rw [List.mem_flatMap] at hp
        obtain ⟨⟨par, eid⟩, hmem, hp⟩ := hp
        have hmem' : (par, eid) ∈ ps := by simpa using hmem
        obtain ⟨l, hdp, hdc', e, he, heid, hj⟩ := hP cur ps hlp (par, eid) hmem'
        dsimp only at hdp heid hj hp
        have hch' : ChainOk g (BStep g Flt.all t) (par :: cur :: tl) (eid :: es) := by
          simp only [ChainOk]
          exact ⟨⟨e, he, heid, apBStep_iff.2 ⟨he, hj⟩⟩, hch⟩
        have hl' : (par :: cur :: tl).getLast? = some t := by
          rw [List.getLast?_cons_cons]; exact hl
        obtain ⟨k1, k2, k3, k4⟩ := ih par (cur :: tl) (eid :: es) hch' hl' p hp
        refine ⟨k1, k2, k3, ?_⟩
        intro dc hdc
        have := k4 l hdp
        have h2 : dc = l + 1 := hdc.unique hdc'
        simp only [List.length_cons] at this
        omega

end enum

def apInit (s : Nat) : APSt := { levels := [(s, 0)], parents := [], next := [], found := false }

theorem findAllPaths_ok_cases {g : Graph} {maxPaths cap s t : Nat} {r : AllPaths}
    (h : findAllPaths g maxPaths cap s t = .ok r) :
    (s = t ∧ r = { hops := 0, paths := [{ nodes := [s], edges := [] }] }) ∨
    (s ≠ t ∧ ∃ hops P, apLoop g cap t (bfsFuel g) 0 [s] (apInit s) = some (hops, P) ∧
      r = { hops := hops, paths := (apEnum P s hops t [t] []).take maxPaths }) := by
  unfold findAllPaths at h
  split at h
  · cases h
  split at h
  · cases h
  split at h
  · rename_i hst
    cases h
    exact .inl ⟨by simpa using hst, rfl⟩
  · rename_i hst
    split at h
    · cases h
    · rename_i hops P hP
      cases h
      exact .inr ⟨by simpa using hst, hops, P, hP, rfl⟩

theorem findAllPaths_eq_of_ne {g : Graph} {maxPaths cap s t : Nat} (hs : g.hasNode s = true)
    (ht : g.hasNode t = true) (hst : s ≠ t) :
    findAllPaths g maxPaths cap s t =
      match apLoop g cap t (bfsFuel g) 0 [s] (apInit s) with
      | none => .error .pathNotFound
      | some (hops, parents) =>
        .ok { hops := hops, paths := (apEnum parents s hops t [t] []).take maxPaths } := by
  have h3 : (s == t) = false := by simpa using hst
  unfold findAllPaths apInit
  simp only [hs, ht, h3, Bool.not_true, Bool.false_eq_true, if_false]
  rfl

/-- every listed path is a real direction-respecting chain from s to t with exactly `hops` edges -/
theorem allpaths_sound (g : Graph) (maxPaths cap s t : Nat) (r : AllPaths)
    (h : findAllPaths g maxPaths cap s t = .ok r) :
    ∀ p, p ∈ r.paths → p.nodes.head? = some s ∧ p.nodes.getLast? = some t ∧
      ChainOk g (BStep g Flt.all t) p.nodes p.edges ∧ p.edges.length = r.hops := by
  rcases findAllPaths_ok_cases h with ⟨rfl, rfl⟩ | ⟨hst, hops, P, hP, rfl⟩
  · intro p hp
    have : p = { nodes := [s], edges := [] } := by simpa using hp
    subst this
    exact ⟨rfl, rfl, trivial, rfl⟩
  · intro p hp
    obtain ⟨hd, hpar⟩ := apLoop_some (bfsFuel g) 0 [s] (apInit s) (apLoopInv_init g hst) hops P hP
    obtain ⟨k1, k2, k3, k4⟩ := apEnum_sound P hpar hops t [] [] trivial rfl p
      (List.mem_of_mem_take hp)
    refine ⟨k1, k2, k3, ?_⟩
    have := k4 hops hd
    simpa using this

/-- the reported hop count is the true distance: a walk of that length exists and none is shorter -/
theorem allpaths_hops_shortest (g : Graph) (maxPaths cap s t : Nat) (r : AllPaths)
    (h : findAllPaths g maxPaths cap s t = .ok r) :
    BWalk g Flt.all t s t r.hops ∧ ∀ n, BWalk g Flt.all t s t n → r.hops ≤ n := by
  rcases findAllPaths_ok_cases h with ⟨rfl, rfl⟩ | ⟨hst, hops, P, hP, rfl⟩
  · exact ⟨BWalk.nil s, fun _ _ => Nat.zero_le _⟩
  · exact (apLoop_some (bfsFuel g) 0 [s] (apInit s) (apLoopInv_init g hst) hops P hP).1

theorem allpaths_none_iff_unreachable (g : Graph) (maxPaths cap s t : Nat)
    (hs : g.hasNode s = true) (ht : g.hasNode t = true) :
    findAllPaths g maxPaths cap s t = .error .pathNotFound ↔ ¬ ∃ n, BWalk g Flt.all t s t n := by
  by_cases hst : s = t
  · subst hst
    have h1 : findAllPaths g maxPaths cap s s =
        .ok { hops := 0, paths := [{ nodes := [s], edges := [] }] } := by
      unfold findAllPaths; simp [hs]
    rw [h1]
    constructor
    · intro h; cases h
    · intro h; exact absurd ⟨0, BWalk.nil s⟩ h
  · rw [findAllPaths_eq_of_ne hs ht hst]
    cases hr : apLoop g cap t (bfsFuel g) 0 [s] (apInit s) with
    | none =>
      dsimp only
      refine ⟨fun _ => ?_, fun _ => rfl⟩
      rintro ⟨n, hw⟩
      refine apLoop_none (bfsFuel g) 0 [s] (apInit s) (apLoopInv_init g hst) ?_ hr n hw
      have := mu_init g s
      simpa [mu, apInit] using this
    | some hp =>
      obtain ⟨hops, P⟩ := hp
      dsimp only
      refine ⟨fun h => (by cases h), fun h => ?_⟩
      exfalso
      apply h
      exact ⟨hops, (apLoop_some (bfsFuel g) 0 [s] (apInit s) (apLoopInv_init g hst) hops P hr).1.1⟩

def ApSub (P P' : MultiParent) : Prop :=
  ∀ v ps, lookupParents P v = some ps →
    ∃ ps', lookupParents P' v = some ps' ∧ ∀ pe, pe ∈ ps → pe ∈ ps'

def apDegSum (g : Graph) (l : List Nat) : Nat := (l.map (fun u => (outEdges g u).length)).sum

/-- second invariant while level `L + 1` is being built: parent lists are complete for the part
    already scanned, and no list is longer than the number `n` of scan steps done -/
structure ApInvB (g : Graph) (s t L : Nat) (rest : List Nat) (n : Nat) (st : APSt) : Prop where
  keys : ∀ v, lookupParents st.parents v ≠ none → lookupLevel st.levels v ≠ none
  has : ∀ v, lookupLevel st.levels v ≠ none → v ≠ s → lookupParents st.parents v ≠ none
  compl : ∀ p l v e, lookupLevel st.levels p = some l → l ≤ L → e ∈ g.edges → e.joins p v →
    IsDist g Flt.all t s v (l + 1) →
    p ∈ rest ∨ ∃ ps, lookupParents st.parents v = some ps ∧ (p, e.id) ∈ ps
  bound : ∀ v ps, lookupParents st.parents v = some ps → ps.length ≤ n
  nextNd : st.next.Nodup

section invB
variable {g : Graph} {s t : Nat}

theorem ApInvB.weaken {L n : Nat} {R : List Nat} {st : APSt} (h : ApInvB g s t L R n st) :
    ApInvB g s t L R (n + 1) st :=
  { h with bound := fun v ps hv => Nat.le_succ_of_le (h.bound v ps hv) }

theorem ApSub.rfl' (P : MultiParent) : ApSub P P := fun _ ps hv => ⟨ps, hv, fun _ h => h⟩

theorem apStep_invB {cap L n : Nat} {R : List Nat} {st : APSt} {cur : Nat} {e : Edge}
    (hA : ApInv g s t L R st) (hB : ApInvB g s t L R n st) (hn : n < cap) :
    ApInvB g s t L R (n + 1) (apStep cap t cur (L + 1) st e) ∧
    ApSub st.parents (apStep cap t cur (L + 1) st e).parents ∧
    (∀ v, e.joins cur v → IsDist g Flt.all t s v (L + 1) →
      ∃ ps, lookupParents (apStep cap t cur (L + 1) st e).parents v = some ps ∧ (cur, e.id) ∈ ps) := by
  -- whatever the step does to the parent lists, it loses no entry: completeness survives
  have hcompl : ∀ {P' : MultiParent} {lv' : List (Nat × Nat)}, ApSub st.parents P' →
      (∀ p l, lookupLevel lv' p = some l → l ≤ L → lookupLevel st.levels p = some l) →
      ∀ p l v e', lookupLevel lv' p = some l → l ≤ L → e' ∈ g.edges → e'.joins p v →
        IsDist g Flt.all t s v (l + 1) → p ∈ R ∨ ∃ ps, lookupParents P' v = some ps ∧ (p, e'.id) ∈ ps := by
    intro P' lv' hsub hlv p l v e' hp hl he' hj' hd
    rcases hB.compl p l v e' (hlv p l hp hl) hl he' hj' hd with hr | ⟨ps, k1, k2⟩
    · exact .inl hr
    · obtain ⟨ps', k3, k4⟩ := hsub v ps k1
      exact .inr ⟨ps', k3, k4 _ k2⟩
  unfold apStep
  cases h1 : apNbr cur e with
  | none =>
    exact ⟨hB.weaken, ApSub.rfl' _, fun v hj => by rw [apNbr_iff.2 hj] at h1; cases h1⟩
  | some nb =>
    dsimp only
    have hfun : ∀ v, e.joins cur v → v = nb := fun v hv => by
      have := apNbr_iff.2 hv
      rw [h1] at this; cases this; rfl
    cases h2 : lookupLevel st.levels nb with
    | none =>
      dsimp only
      have hlp : lookupParents st.parents nb = none := by
        cases hq : lookupParents st.parents nb with
        | none => rfl
        | some x => exact absurd h2 (hB.keys nb (by rw [hq]; simp))
      have hsub : ApSub st.parents ((nb, [(cur, e.id)]) :: st.parents) := by
        intro v ps hv
        refine ⟨ps, lookupParents_cons_some.2 (.inr ⟨?_, hv⟩), fun _ h => h⟩
        rintro rfl
        rw [hlp] at hv; cases hv
      refine ⟨⟨?_, ?_, ?_, ?_, ?_⟩, hsub, ?_⟩
      · intro v hv
        change lookupParents ((nb, [(cur, e.id)]) :: st.parents) v ≠ none at hv
        show lookupLevel ((nb, L + 1) :: st.levels) v ≠ none
        rw [lookupParents_cons] at hv
        rw [lookupLevel_cons]
        by_cases hnv : nb = v
        · simp [hnv]
        · rw [if_neg hnv] at hv ⊢
          exact hB.keys v hv
      · intro v hv hvs
        change lookupLevel ((nb, L + 1) :: st.levels) v ≠ none at hv
        show lookupParents ((nb, [(cur, e.id)]) :: st.parents) v ≠ none
        rw [lookupLevel_cons] at hv
        rw [lookupParents_cons]
        by_cases hnv : nb = v
        · simp [hnv]
        · rw [if_neg hnv] at hv ⊢
          exact hB.has v hv hvs
      · refine hcompl hsub ?_
        intro p l hp hl
        rcases lookupLevel_cons_some.1 hp with ⟨rfl, rfl⟩ | ⟨_, hp⟩
        · omega
        · exact hp
      · intro v ps hv
        rcases lookupParents_cons_some.1 hv with ⟨rfl, rfl⟩ | ⟨_, hv⟩
        · exact Nat.le_add_left 1 n
        · exact Nat.le_succ_of_le (hB.bound v ps hv)
      · show (st.next ++ [nb]).Nodup
        refine List.nodup_append.2 ⟨hB.nextNd, List.pairwise_singleton _ _, ?_⟩
        intro a ha b hb hab
        cases List.mem_singleton.1 hb
        subst hab
        have := (hA.next a).1 ha
        rw [h2] at this; cases this
      · intro v hv _
        rw [hfun v hv]
        exact ⟨[(cur, e.id)], by rw [lookupParents_cons, if_pos rfl], List.mem_singleton.2 rfl⟩
    | some l =>
      dsimp only
      by_cases h3 : (l == L + 1) = true
      · rw [if_pos h3]
        have hl : l = L + 1 := by simpa using h3
        subst hl
        have hsub : ApSub st.parents (pushParent cap nb (cur, e.id) st.parents) :=
          fun v ps hv => lookupParents_push_mono hv
        -- the pushed-to lists are the old ones, longer by at most one
        have hold : ∀ v ps, lookupParents (pushParent cap nb (cur, e.id) st.parents) v = some ps →
            ∃ ps0, lookupParents st.parents v = some ps0 ∧ ps.length ≤ ps0.length + 1 := by
          intro v ps hv
          rw [lookupParents_pushParent] at hv
          split at hv
          · cases hq : lookupParents st.parents v with
            | none => rw [hq] at hv; cases hv
            | some ps0 =>
              rw [hq] at hv
              cases hv
              refine ⟨ps0, rfl, ?_⟩
              show (if ps0.length < cap then ps0 ++ [(cur, e.id)] else ps0).length ≤ _
              split
              · simp
              · omega
          · exact ⟨ps, hv, Nat.le_succ _⟩
        refine ⟨⟨?_, ?_, hcompl hsub (fun _ _ hp _ => hp), ?_, hB.nextNd⟩, hsub, ?_⟩
        · intro v hv
          cases hq : lookupParents (pushParent cap nb (cur, e.id) st.parents) v with
          | none => exact absurd hq hv
          | some ps =>
            obtain ⟨ps0, h0, _⟩ := hold v ps hq
            exact hB.keys v (by rw [h0]; simp)
        · intro v hv hvs
          cases hq : lookupParents st.parents v with
          | none => exact absurd hq (hB.has v hv hvs)
          | some ps =>
            obtain ⟨ps', k1, _⟩ := hsub v ps hq
            show lookupParents (pushParent cap nb (cur, e.id) st.parents) v ≠ none
            rw [k1]; simp
        · intro v ps hv
          obtain ⟨ps0, h0, hlen⟩ := hold v ps hv
          have := hB.bound v ps0 h0
          omega
        · intro v hv _
          rw [hfun v hv]
          have hns : nb ≠ s := by
            rintro rfl
            rw [hA.src] at h2
            cases h2
          cases hq : lookupParents st.parents nb with
          | none => exact absurd hq (hB.has nb (by rw [h2]; simp) hns)
          | some ps0 =>
            have hb := hB.bound nb ps0 hq
            refine ⟨ps0 ++ [(cur, e.id)], ?_, by simp⟩
            show lookupParents (pushParent cap nb (cur, e.id) st.parents) nb = _
            rw [lookupParents_pushParent, if_pos rfl, hq]
            simp only [Option.map_some]
            rw [if_pos (by omega)]
      · rw [if_neg h3]
        refine ⟨hB.weaken, ApSub.rfl' _, ?_⟩
        intro v hv hd
        rw [hfun v hv] at hd
        have := (hA.lev nb l h2).1.unique hd
        subst this
        simp at h3

theorem apScan_invB {cap L n : Nat} {R : List Nat} {cur : Nat}
    (hR : ∀ c, c ∈ R → IsDist g Flt.all t s c L) (hcur : cur ∈ R) (es : List Edge)
    (hes : ∀ e, e ∈ es → e ∈ g.edges) (st : APSt) (hA : ApInv g s t L R st)
    (hB : ApInvB g s t L R n st) (hcap : n + es.length ≤ cap) :
    ApInvB g s t L R (n + es.length) (apScan cap t cur (L + 1) es st) ∧
    (∀ e, e ∈ es → ∀ v, e.joins cur v → IsDist g Flt.all t s v (L + 1) →
      ∃ ps, lookupParents (apScan cap t cur (L + 1) es st).parents v = some ps ∧
        (cur, e.id) ∈ ps) := by
  rw [apScan_eq_foldl]
  have := apFoldl_inv_len (apStep cap t cur (L + 1))
    (fun acc st' => ApInv g s t L R st' ∧ ApInvB g s t L R (n + acc.length) st' ∧
      (∀ e, e ∈ acc → ∀ v, e.joins cur v → IsDist g Flt.all t s v (L + 1) →
        ∃ ps, lookupParents st'.parents v = some ps ∧ (cur, e.id) ∈ ps))
    (fun e => e ∈ g.edges) es.length
    (by
      intro acc st' e he hlen ⟨hi, hb, ha⟩
      obtain ⟨k1, _, _⟩ := apStep_inv (cap := cap) hi hR hcur he
      obtain ⟨b1, b2, b3⟩ := apStep_invB (cap := cap) (cur := cur) (e := e) hi hb (by omega)
      refine ⟨k1, by simpa [Nat.add_assoc] using b1, ?_⟩
      intro e' he' v hj hd
      rcases List.mem_cons.1 he' with rfl | he'
      · exact b3 v hj hd
      · obtain ⟨ps, q1, q2⟩ := ha e' he' v hj hd
        obtain ⟨ps', q3, q4⟩ := b2 v ps q1
        exact ⟨ps', q3, q4 _ q2⟩)
    es hes [] st (by simp) ⟨hA, by simpa using hB, fun _ he => by cases he⟩
  obtain ⟨_, k2, k3⟩ := this
  exact ⟨by simpa using k2, fun e he => k3 e (by simpa using he)⟩

theorem apLevel_invB {cap L : Nat} (cl : List Nat) (hR : ∀ c, c ∈ cl → IsDist g Flt.all t s c L)
    (n : Nat) (st : APSt) (hA : ApInv g s t L cl st) (hB : ApInvB g s t L cl n st)
    (hcap : n + apDegSum g cl ≤ cap) :
    ApInvB g s t L [] (n + apDegSum g cl) (apLevel g cap t (L + 1) cl st) := by
  induction cl generalizing n st with
  | nil => simpa [apDegSum, apLevel] using hB
  | cons c rest ih =>
    rw [apLevel]
    have hsum : apDegSum g (c :: rest) = (outEdges g c).length + apDegSum g rest := by
      simp [apDegSum]
    rw [hsum] at hcap ⊢
    obtain ⟨h1, _, hs1⟩ := apScan_inv (cap := cap) hR (List.mem_cons_self ..) (outEdges g c)
      (fun e he => apOutEdges_sub he) st hA
    obtain ⟨b1, bs1⟩ := apScan_invB (cap := cap) hR (List.mem_cons_self ..) (outEdges g c)
      (fun e he => apOutEdges_sub he) st hA hB (by omega)
    have h1' := apInv_drop h1 hs1
    have b1' : ApInvB g s t L rest (n + (outEdges g c).length)
        (apScan cap t c (L + 1) (outEdges g c) st) := by
      refine { b1 with compl := ?_ }
      intro p l v e hp hl he hj hd
      rcases b1.compl p l v e hp hl he hj hd with hr | hc
      · rcases List.mem_cons.1 hr with rfl | hr
        · have hl' : l = L := (h1.lev p l hp).1.unique (hR p (List.mem_cons_self ..))
          subst hl'
          exact Or.inr (bs1 e (mem_outEdges_of_joins he hj) v hj hd)
        · exact Or.inl hr
      · exact Or.inr hc
    have := ih (fun c' hc' => hR c' (List.mem_cons_of_mem _ hc')) _ _ h1' b1' (by omega)
    rw [← Nat.add_assoc]
    exact this

theorem apDegSum_le (g : Graph) (l : List Nat) (hnd : l.Nodup) : apDegSum g l ≤ 2 * g.edges.length := by
  -- an edge is in the out-list of its `src` and, undirected, of its `dst`
  have hlen : ∀ u, (outEdges g u).length = (g.edges.map (fun e => if inOut e u = true then 1 else 0)).sum := by
    intro u
    unfold outEdges
    induction g.edges with
    | nil => rfl
    | cons e es ih =>
      rw [List.filter_cons, List.map_cons, List.sum_cons]
      split <;> simp [ih] <;> omega
  have := sum_sum_le_two_mul g.edges (fun e u => if inOut e u = true then 1 else 0) Edge.src Edge.dst
    (by
      intro e x
      split
      · rename_i h
        rcases (inOut_iff e x).1 h with h | ⟨_, h⟩ <;> simp [h]
      · exact Nat.zero_le _) hnd
  simpa only [apDegSum, hlen] using this

theorem apDegSum_append (g : Graph) (l₁ l₂ : List Nat) :
    apDegSum g (l₁ ++ l₂) = apDegSum g l₁ + apDegSum g l₂ := by
  simp [apDegSum, List.sum_append]

structure ApLoopInvB (g : Graph) (s t level : Nat) (current done : List Nat) (st : APSt) : Prop where
  keys : ∀ v, lookupParents st.parents v ≠ none → lookupLevel st.levels v ≠ none
  has : ∀ v, lookupLevel st.levels v ≠ none → v ≠ s → lookupParents st.parents v ≠ none
  compl : ∀ p l v e, lookupLevel st.levels p = some l → l < level → e ∈ g.edges → e.joins p v →
    IsDist g Flt.all t s v (l + 1) → ∃ ps, lookupParents st.parents v = some ps ∧ (p, e.id) ∈ ps
  bound : ∀ v ps, lookupParents st.parents v = some ps → ps.length ≤ apDegSum g done
  nodup : (done ++ current).Nodup
  doneLev : ∀ u, u ∈ done → ∃ l, lookupLevel st.levels u = some l ∧ l < level

def ApParFull (g : Graph) (s t hops : Nat) (P : MultiParent) : Prop :=
  ∀ p l v e, IsDist g Flt.all t s p l → l < hops → e ∈ g.edges → e.joins p v →
    IsDist g Flt.all t s v (l + 1) → ∃ ps, lookupParents P v = some ps ∧ (p, e.id) ∈ ps

theorem apPresent {L : Nat} {st : APSt} (h : ApInv g s t L [] st) {p l : Nat}
    (hd : IsDist g Flt.all t s p l) (hl : l ≤ L) : lookupLevel st.levels p = some l := by
  cases hq : lookupLevel st.levels p with
  | some lp => rw [(h.lev p lp hq).1.unique hd]
  | none =>
    obtain ⟨x, lx, i, hlx, hx, hi, hncl⟩ := apFrontier h.src hd.1 hq
    have h1 := (h.lev x lx hlx).1.2 i hx
    rcases h.closed x lx hlx (by omega) with hr | hcl
    · cases hr
    · exact absurd hcl hncl

theorem apLoopInvB_init (g : Graph) (s t : Nat) : ApLoopInvB g s t 0 [s] [] (apInit s) := by
  refine ⟨?_, ?_, ?_, ?_, by simp, ?_⟩
  · intro v hv; simp [apInit, lookupParents] at hv
  · intro v hv hvs
    exfalso
    apply hv
    simp only [apInit]
    rw [lookupLevel_cons]
    have : ¬ s = v := fun h => hvs h.symm
    simp [this, lookupLevel]
  · intro p l v e _ hl; omega
  · intro v ps hv; simp [apInit, lookupParents] at hv
  · intro u hu; cases hu

theorem apLoop_full {cap : Nat} (hcap : 2 * g.edges.length ≤ cap) (fuel level : Nat)
    (current done : List Nat) (st : APSt) (hinv : ApLoopInv g s t level current st)
    (hB : ApLoopInvB g s t level current done st) (hops : Nat) (P : MultiParent)
    (hr : apLoop g cap t fuel level current st = some (hops, P)) : ApParFull g s t hops P := by
  induction fuel generalizing level current done st with
  | zero => simp [apLoop] at hr
  | succ fuel ih =>
    rw [apLoop] at hr
    by_cases hemp : current.isEmpty = true
    · rw [if_pos hemp] at hr; cases hr
    · rw [if_neg hemp] at hr
      dsimp only at hr
      have hR : ∀ c, c ∈ current → IsDist g Flt.all t s c level :=
        fun c hc => (hinv.lev c level ((hinv.cur c).1 hc)).1
      have hA0 := apLoopInv_start hinv
      have hB0 : ApInvB g s t level current (apDegSum g done) { st with next := [] } := by
        refine ⟨hB.keys, hB.has, ?_, hB.bound, List.nodup_nil⟩
        intro p l v e hp hl he hj hd
        by_cases hlt : l < level
        · exact Or.inr (hB.compl p l v e hp hlt he hj hd)
        · have : l = level := by omega
          subst this
          exact Or.inl ((hinv.cur p).2 hp)
      have hbud : apDegSum g done + apDegSum g current ≤ cap := by
        have := apDegSum_le g _ hB.nodup
        rw [apDegSum_append] at this
        omega
      obtain ⟨hA, hm⟩ := apLevel_inv (cap := cap) current hR _ hA0
      have hB' := apLevel_invB (cap := cap) current hR _ _ hA0 hB0 hbud
      by_cases hf : (apLevel g cap t (level + 1) current { st with next := [] }).found = true
      · rw [if_pos hf] at hr
        simp only [Option.some.injEq, Prod.mk.injEq] at hr
        obtain ⟨rfl, rfl⟩ := hr
        intro p l v e hdp hl he hj hdv
        have hp := apPresent hA hdp (by omega)
        rcases hB'.compl p l v e hp (by omega) he hj hdv with hr | hc
        · cases hr
        · exact hc
      · rw [if_neg hf] at hr
        refine ih _ _ (done ++ current) _ (apLoopInv_next hA (by simpa using hf)) ?_ hr
        refine ⟨hB'.keys, hB'.has, ?_, ?_, ?_, ?_⟩
        · intro p l v e hp hl he hj hd
          rcases hB'.compl p l v e hp (by omega) he hj hd with hr | hc
          · cases hr
          · exact hc
        · rw [apDegSum_append]; exact hB'.bound
        · refine List.nodup_append.2 ⟨hB.nodup, hB'.nextNd, ?_⟩
          intro a ha b hb hab
          subst hab
          have hb' := (hA.next a).1 hb
          rcases List.mem_append.1 ha with ha | ha
          · obtain ⟨l, k1, k2⟩ := hB.doneLev a ha
            have := hm a l k1
            rw [hb'] at this
            simp only [Option.some.injEq] at this
            omega
          · have := hm a level ((hinv.cur a).1 ha)
            rw [hb'] at this
            simp only [Option.some.injEq] at this
            omega
        · intro u hu
          rcases List.mem_append.1 hu with hu | hu
          · obtain ⟨l, k1, k2⟩ := hB.doneLev u hu
            exact ⟨l, hm u l k1, by omega⟩
          · exact ⟨level, hm u level ((hinv.cur u).1 hu), by omega⟩

end invB

section enumc
variable {g : Graph} {s t : Nat}

theorem apChain_len (ns es : List Nat) (h : ChainOk g (BStep g Flt.all t) ns es) :
    ns.length = es.length + 1 := by
  induction ns generalizing es with
  | nil => cases es <;> simp [ChainOk] at h
  | cons u ns ih =>
    cases ns with
    | nil => cases es <;> simp [ChainOk] at h ⊢
    | cons v ns =>
      cases es with
      | nil => simp [ChainOk] at h
      | cons eid es =>
        simp only [ChainOk] at h
        have := ih es h.2
        simp only [List.length_cons] at this ⊢
        omega

theorem apChain_walk (u : Nat) (ns es : List Nat) (w : Nat)
    (h : ChainOk g (BStep g Flt.all t) (u :: ns) es) (hl : (u :: ns).getLast? = some w) :
    BWalk g Flt.all t u w es.length := by
  induction ns generalizing u es with
  | nil =>
    cases es with
    | nil =>
      have : u = w := by simpa using hl
      subst this; exact BWalk.nil u
    | cons eid es => simp [ChainOk] at h
  | cons v ns ih =>
    cases es with
    | nil => simp [ChainOk] at h
    | cons eid es =>
      simp only [ChainOk] at h
      obtain ⟨⟨e, _, _, hs⟩, hrest⟩ := h
      rw [List.getLast?_cons_cons] at hl
      exact BWalk.cons e hs (ih v es hrest hl)

/-- a shortest chain, read forwards from a node at distance `i`, is a parent chain read backwards:
    every node on it sits at the distance of its position, so the scan has recorded each hop -/
theorem apChain_PCr {hops : Nat} {P : MultiParent} (hP : ApParFull g s t hops P) :
    ∀ (ns es : List Nat) (x i : Nat) (racc reacc : List Nat),
      parentChain P s (x :: racc) reacc → BWalk g Flt.all t s x i →
      ChainOk g (BStep g Flt.all t) (x :: ns) es → (x :: ns).getLast? = some t →
      IsDist g Flt.all t s t (i + es.length) → i + es.length = hops →
      parentChain P s ((x :: ns).reverse ++ racc) (es.reverse ++ reacc) := by
  intro ns
  induction ns with
  | nil =>
    intro es x i racc reacc hacc _ hch _ _ _
    cases es with
    | nil => simpa using hacc
    | cons e es => simp [ChainOk] at hch
  | cons y ns ih =>
    intro es x i racc reacc hacc hw hch hl hd hlen
    cases es with
    | nil => simp [ChainOk] at hch
    | cons eid es =>
      have hxt := apChain_walk x (y :: ns) (eid :: es) t hch hl
      simp only [ChainOk] at hch
      obtain ⟨⟨e, he, heid, hs⟩, hrest⟩ := hch
      rw [List.getLast?_cons_cons] at hl
      have hyt := apChain_walk y ns es t hrest hl
      simp only [List.length_cons] at hd hlen hxt
      -- a shorter way to `x` or `y` would give a shorter way to `t`
      have hdx : IsDist g Flt.all t s x i :=
        ⟨hw, fun m hm => by have := hd.2 _ (apWalk_trans hm hxt); omega⟩
      have hdy : IsDist g Flt.all t s y (i + 1) :=
        ⟨hw.snoc hs, fun m hm => by have := hd.2 _ (apWalk_trans hm hyt); omega⟩
      have hys : y ≠ s := fun h => by have := (h ▸ hdy).unique isDist_src; omega
      obtain ⟨ps, q1, q2⟩ := hP x i y e hdx (by omega) he (apBStep_iff.1 hs).2 hdy
      rw [heid] at q2
      have := ih es y (i + 1) (x :: racc) (eid :: reacc) ⟨hys, ⟨ps, q1, q2⟩, hacc⟩ (hw.snoc hs) hrest hl
        (by rw [Nat.add_right_comm]; exact hd) (by omega)
      simpa [List.reverse_cons, List.append_assoc] using this

theorem apEnum_complete (M : MultiParent) (s : Nat) :
    ∀ (rp : List Nat) (d cur : Nat) (re ns' es' : List Nat),
      parentChain M s (cur :: rp) re → (cur :: rp).getLast? = some s → rp.length ≤ d →
      ({ nodes := rp.reverse ++ cur :: ns', edges := re.reverse ++ es' } : Path) ∈
        apEnum M s d cur (cur :: ns') es' := by
  intro rp
  induction rp with
  | nil =>
    intro d cur re ns' es' hpc hlast _
    simp only [List.getLast?_singleton, Option.some.injEq] at hlast
    subst hlast
    cases re with
    | cons e re => simp [parentChain] at hpc
    | nil => cases d <;> simp [apEnum]
  | cons p rp ih =>
    intro d cur re ns' es' hpc hlast hlen
    cases re with
    | nil => simp [parentChain] at hpc
    | cons eid re =>
      obtain ⟨hcs, ⟨ps, hl, hmem⟩, hrest⟩ := hpc
      rw [List.getLast?_cons_cons] at hlast
      cases d with
      | zero => simp at hlen
      | succ n =>
        rw [apEnum, if_neg (by simpa using hcs)]
        simp only [hl, List.mem_flatMap]
        refine ⟨(p, eid), List.mem_reverse.2 hmem, ?_⟩
        have := ih n p re (cur :: ns') (eid :: es') hrest hlast
          (by simp only [List.length_cons] at hlen; omega)
        simpa [List.reverse_cons, List.append_assoc] using this

end enumc

/-- completeness when the two caps are not reached: every shortest chain is listed.
    (Unique edge ids are not needed: the chain itself supplies, for every listed id, an edge with that
    id joining the two nodes, and the scan records the id of every such edge.) -/
theorem allpaths_complete (g : Graph) (maxPaths cap s t : Nat) (r : AllPaths)
    (h : findAllPaths g maxPaths cap s t = .ok r)
    (hcap : 2 * g.edges.length ≤ cap) (hmax : r.paths.length < maxPaths)
    (ns es : List Nat) (hhead : ns.head? = some s) (hlast : ns.getLast? = some t)
    (hchain : ChainOk g (BStep g Flt.all t) ns es) (hlen : es.length = r.hops) :
    { nodes := ns, edges := es } ∈ r.paths := by
  have hnl := apChain_len ns es hchain
  rcases findAllPaths_ok_cases h with ⟨rfl, rfl⟩ | ⟨hst, hops, P, hP, rfl⟩
  · dsimp only at hlen
    have he : es = [] := List.eq_nil_of_length_eq_zero hlen
    subst he
    cases ns with
    | nil => simp at hhead
    | cons u ns =>
      cases ns with
      | cons _ _ => simp at hnl
      | nil =>
        have : u = s := by simpa using hhead
        subst this
        simp
  · dsimp only at hlen hmax ⊢
    obtain ⟨hdt, _⟩ := apLoop_some (bfsFuel g) 0 [s] (apInit s) (apLoopInv_init g hst) hops P hP
    have hfull := apLoop_full hcap (bfsFuel g) 0 [s] [] (apInit s) (apLoopInv_init g hst)
      (apLoopInvB_init g s t) hops P hP
    have htake : (apEnum P s hops t [t] []).take maxPaths = apEnum P s hops t [t] [] := by
      apply List.take_of_length_le
      rw [List.length_take] at hmax
      omega
    rw [htake]
    cases ns with
    | nil => cases hhead
    | cons x tl =>
      cases hhead
      have hpc := apChain_PCr hfull tl es s 0 [] [] trivial (BWalk.nil s) hchain hlast
        (by rw [Nat.zero_add, hlen]; exact hdt) (by omega)
      simp only [List.append_nil] at hpc
      obtain ⟨rp, hr, hns, hlast'⟩ := reverse_of_getLast hlast
      rw [hr] at hpc
      have hrl : rp.length ≤ hops := by
        rw [hns] at hnl
        simp only [List.length_append, List.length_reverse, List.length_cons, List.length_nil] at hnl
        omega
      have := apEnum_complete P s rp hops t es.reverse [] [] hpc hlast' hrl
      rw [← hns] at this
      simpa using this

/-! ### non-vacuity: a diamond `1→2→4`, `1→3→4` with an undirected tail `4—5`, node 6 isolated -/

def apExG : Graph :=
  { nodes := [⟨1, none⟩, ⟨2, none⟩, ⟨3, none⟩, ⟨4, none⟩, ⟨5, none⟩, ⟨6, none⟩]
    edges := [⟨10, 1, 2, true, 0, none, none⟩, ⟨11, 1, 3, true, 0, none, none⟩,
              ⟨12, 2, 4, true, 0, none, none⟩, ⟨13, 3, 4, true, 0, none, none⟩,
              ⟨14, 5, 4, false, 0, none, none⟩] }

/-- the hypothesis of `allpaths_sound` / `allpaths_hops_shortest`: two shortest paths, both listed
    (last recorded parent first) -/
example : findAllPaths apExG 1000 100 1 5 = .ok { hops := 3, paths :=
    [{ nodes := [1, 3, 4, 5], edges := [11, 13, 14] }, { nodes := [1, 2, 4, 5], edges := [10, 12, 14] }] } := rfl

/-- `maxPaths` truncates (so `hmax` of `allpaths_complete` is a real restriction) -/
example : findAllPaths apExG 1 100 1 5 = .ok { hops := 3, paths :=
    [{ nodes := [1, 3, 4, 5], edges := [11, 13, 14] }] } := rfl

/-- the hypotheses of `allpaths_none_iff_unreachable`: a directed edge is not followed backwards, and an
    isolated node is unreachable -/
example : apExG.hasNode 4 = true ∧ apExG.hasNode 1 = true ∧
    findAllPaths apExG 1000 100 4 1 = .error .pathNotFound := ⟨rfl, rfl, rfl⟩
example : apExG.hasNode 1 = true ∧ apExG.hasNode 6 = true ∧
    findAllPaths apExG 1000 100 1 6 = .error .pathNotFound := ⟨rfl, rfl, rfl⟩

/-- all hypotheses of `allpaths_complete` hold for the chain `1 →10 2 →12 4 —14 5`, and the theorem
    then places it in the answer -/
example : ({ nodes := [1, 2, 4, 5], edges := [10, 12, 14] } : Path) ∈
    ({ hops := 3, paths := [{ nodes := [1, 3, 4, 5], edges := [11, 13, 14] },
        { nodes := [1, 2, 4, 5], edges := [10, 12, 14] }] } : AllPaths).paths := by
  refine allpaths_complete apExG 1000 100 1 5 _ rfl (by decide) (by decide) [1, 2, 4, 5] [10, 12, 14]
    rfl rfl ?_ rfl
  · simp only [ChainOk]
    refine ⟨⟨⟨10, 1, 2, true, 0, none, none⟩, by decide +kernel, rfl, ?_⟩,
      ⟨⟨12, 2, 4, true, 0, none, none⟩, by decide +kernel, rfl, ?_⟩,
      ⟨⟨14, 5, 4, false, 0, none, none⟩, by decide +kernel, rfl, ?_⟩, trivial⟩
    all_goals exact apBStep_iff.2 (by decide +kernel)

end Neumann.Paths
