import NeumannModel.Paths.BfsProofs
import NeumannModel.Paths.DijkstraProofs
import NeumannModel.Paths.TraverseProofs
import NeumannModel.Paths.VarProofs
import NeumannModel.Paths.AllPathsProofs
import NeumannModel.Paths.AStarProofs
/-
  C18 — "Path queries return real, optimal paths": the property theorems.

  Everything here is stated over the model of `Model.lean` and the declarative notions of `Spec.lean`
  (`BWalk`, `WWalk`, `TWalk`, `ChainOk`, `VarPathOk`) for EVERY graph: no bound on the number of nodes
  or edges, any ids, self-loops, parallel edges, duplicate ids, dangling endpoints.  Proofs live in
  `BfsProofs`, `DijkstraProofs`, `TraverseProofs`, `VarProofs`, `AllPathsProofs`, `AStarProofs` (loop
  invariants + fuel adequacy).

  A* is modelled for the default (zero) heuristic and answers the COST of the returned path (which of
  several optimal paths the engine returns depends on heap tie order; the path itself is validated by
  the correspondence run).  The second half of the property — `find_all_weighted_paths`, the stored
  adjacency as `edges_of` / `neighbors` show it, A* under a config, and the algorithm family
  (components, spanning forest, core numbers, triangles, strongly connected components) — is in
  `AlgoProps.lean`.
-/
namespace Neumann.Paths.Props
open Neumann.Paths

/-! ### the defect fixed by `fix: find_path does not traverse directed edges against their direction` -/

/-- one directed edge 1 → 2 -/
def oneEdge : Graph :=
  { nodes := [⟨1, none⟩, ⟨2, none⟩], edges := [⟨7, 1, 2, true, 0, none, none⟩] }

/-- the pre-fix neighbour rule answers `find_path(2, 1)` with the path [2, 1] over edge 7,
    which is not a walk: no `BStep` leads from 2 to 1 -/
theorem old_find_path_witness :
    (findPathOld oneEdge Flt.all 2 1).toOption = some { nodes := [2, 1], edges := [7] } ∧
    ¬ ChainOk oneEdge (BStep oneEdge Flt.all 1) [2, 1] [7] := by
  refine ⟨by decide, ?_⟩
  intro h
  obtain ⟨⟨e, he, _, _, _, hj, _⟩, _⟩ := h
  simp only [oneEdge, List.mem_singleton] at he
  subst he
  revert hj
  decide

/-- the current rule says PathNotFound on the same query -/
example : (findPath oneEdge Flt.all 2 1).toOption = none := by decide +kernel
example : (findPath oneEdge Flt.all 1 2).toOption = some { nodes := [1, 2], edges := [7] } := by decide +kernel

/-! ### find_path: a real walk, with the fewest hops; "not found" iff unreachable -/

/-- the returned path starts at `s`, ends at `t`, and every consecutive pair of nodes is joined by an
    existing edge carrying the listed id, usable in that direction, passing the edge filter, and
    leading to a node that passes the node filter (the target is exempt) -/
theorem bfs_path_is_walk (g : Graph) (flt : Flt) (s t : Nat) (p : Path)
    (h : findPath g flt s t = .ok p) :
    p.nodes.head? = some s ∧ p.nodes.getLast? = some t ∧ ChainOk g (BStep g flt t) p.nodes p.edges :=
  Neumann.Paths.bfs_path_is_walk g flt s t p h

/-- no qualifying walk from `s` to `t` has fewer hops than the returned path -/
theorem bfs_path_shortest (g : Graph) (flt : Flt) (s t : Nat) (p : Path)
    (h : findPath g flt s t = .ok p) :
    ∀ n, BWalk g flt t s t n → p.edges.length ≤ n :=
  Neumann.Paths.bfs_path_shortest g flt s t p h

/-- for existing endpoints, `PathNotFound` is answered exactly when no qualifying walk exists -/
theorem bfs_none_iff_unreachable (g : Graph) (flt : Flt) (s t : Nat)
    (hs : g.hasNode s = true) (ht : g.hasNode t = true) :
    findPath g flt s t = .error .pathNotFound ↔ ¬ ∃ n, BWalk g flt t s t n :=
  Neumann.Paths.bfs_none_iff_unreachable g flt s t hs ht

/-- fuel adequacy: the BFS loop never stops for lack of fuel -/
theorem bfs_fuel_adequate (g : Graph) (flt : Flt) (s t : Nat) (k : Nat) :
    bfsLoop g flt t (bfsFuel g + k) { queue := [s], visited := [s], parent := [] }
      = bfsLoop g flt t (bfsFuel g) { queue := [s], visited := [s], parent := [] } :=
  Neumann.Paths.bfs_fuel_adequate g flt s t k

/-- non-vacuity: a mixed graph with a filter that forces a detour (node 2 fails `c ≠ 9`),
    an unreachable pair with existing endpoints, and a target exempt from the node filter -/
def fltGraph : Graph :=
  { nodes := [⟨1, some 0⟩, ⟨2, some 9⟩, ⟨3, some 0⟩, ⟨4, some 9⟩, ⟨5, some 0⟩]
    edges := [⟨10, 1, 2, true, 0, none, some 1⟩, ⟨11, 2, 4, true, 0, none, some 1⟩,
              ⟨12, 1, 3, false, 0, none, some 1⟩, ⟨13, 5, 3, false, 0, none, some 1⟩,
              ⟨14, 5, 4, true, 0, none, some 1⟩, ⟨15, 4, 4, true, 0, none, some 1⟩] }

def ne9 : Flt := mkFlt fltGraph [{ op := .ne, val := 9 }] []

example : (findPath fltGraph Flt.all 1 4).toOption = some { nodes := [1, 2, 4], edges := [10, 11] } := by decide +kernel
example : (findPath fltGraph ne9 1 4).toOption = some { nodes := [1, 3, 5, 4], edges := [12, 13, 14] } := by decide +kernel
example : fltGraph.hasNode 4 = true ∧ fltGraph.hasNode 1 = true ∧
    (findPath fltGraph Flt.all 4 1).toOption = none := by decide +kernel

/-! ### error taxonomy: a missing endpoint is reported, and nothing else is -/

/-- `find_path` answers `NodeNotFound(n)` exactly for the first missing endpoint -/
theorem find_path_missing_node (g : Graph) (flt : Flt) (s t n : Nat) :
    findPath g flt s t = .error (.nodeNotFound n) ↔
      (g.hasNode s = false ∧ n = s) ∨ (g.hasNode s = true ∧ g.hasNode t = false ∧ n = t) := by
  unfold findPath findPathWith
  cases hs : g.hasNode s <;> cases ht : g.hasNode t
  · simp [eq_comm]
  · simp [eq_comm]
  · simp [eq_comm]
  · simp only [Bool.not_true, Bool.false_eq_true, if_false, Bool.true_eq_false, false_and, and_false, or_self, iff_false]
    intro h
    split at h
    · cases h
    · split at h <;> cases h

/-- with both endpoints present `find_path` answers a path or `PathNotFound`, never another error -/
theorem find_path_total (g : Graph) (flt : Flt) (s t : Nat)
    (hs : g.hasNode s = true) (ht : g.hasNode t = true) :
    (∃ p, findPath g flt s t = .ok p) ∨ findPath g flt s t = .error .pathNotFound := by
  unfold findPath findPathWith
  simp only [hs, ht, Bool.not_true, Bool.false_eq_true, if_false]
  split
  · exact Or.inl ⟨_, rfl⟩
  · split
    · exact Or.inr rfl
    · exact Or.inl ⟨_, rfl⟩

/-! ### find_weighted_path: a real walk of the reported weight, optimal for non-negative weights -/

/-- the returned chain starts at `s`, ends at `t`, follows existing edges along their direction and
    its edge weights add up to exactly the reported total -/
theorem dijkstra_path_is_walk (g : Graph) (s t : Nat) (p : WPath) (hnn : NonNeg g)
    (h : findWeightedPath g s t = .ok p) :
    p.nodes.head? = some s ∧ p.nodes.getLast? = some t ∧ WChainOk g p.nodes p.edges p.total :=
  Neumann.Paths.dijkstra_path_is_walk g s t p hnn h

/-- no direction-respecting walk from `s` to `t` is lighter than the reported total -/
theorem dijkstra_optimal (g : Graph) (s t : Nat) (p : WPath) (hnn : NonNeg g)
    (h : findWeightedPath g s t = .ok p) :
    ∀ c, WWalk g s t c → p.total ≤ c :=
  Neumann.Paths.dijkstra_optimal g s t p hnn h

/-- `NegativeWeight{edge_id}` always names an existing edge with a negative weight -/
theorem dijkstra_negative_reported (g : Graph) (s t : Nat) (id : Nat)
    (h : findWeightedPath g s t = .error (.negativeWeight id)) :
    ∃ e, e ∈ g.edges ∧ e.id = id ∧ e.w < 0 :=
  Neumann.Paths.dijkstra_negative_reported g s t id h

/-- for existing endpoints and non-negative weights, `PathNotFound` iff no walk exists
    (includes fuel adequacy of the Dijkstra loop) -/
theorem dijkstra_none_iff_unreachable (g : Graph) (s t : Nat) (hnn : NonNeg g)
    (hs : g.hasNode s = true) (ht : g.hasNode t = true) :
    findWeightedPath g s t = .error .pathNotFound ↔ ¬ ∃ c, WWalk g s t c :=
  Neumann.Paths.dijkstra_none_iff_unreachable g s t hnn hs ht

/-- non-vacuity: parallel edges of different weight, a zero-weight edge, a missing weight (= 1),
    an undirected edge used backwards; the two-hop route 1→2→3 (0 + 1) beats the direct edge (5) -/
def wGraph : Graph :=
  { nodes := [⟨1, none⟩, ⟨2, none⟩, ⟨3, none⟩, ⟨4, none⟩]
    edges := [⟨20, 1, 3, true, 0, some 5, none⟩, ⟨21, 1, 2, true, 0, some 0, none⟩,
              ⟨22, 3, 2, false, 0, none, none⟩, ⟨23, 1, 3, true, 0, some 4, none⟩,
              ⟨24, 4, 1, true, 0, some 2, none⟩] }

example : NonNeg wGraph := by
  intro e he
  simp only [wGraph, List.mem_cons, List.not_mem_nil, or_false] at he
  rcases he with rfl | rfl | rfl | rfl | rfl <;> decide
example : (findWeightedPath wGraph 1 3).toOption = some { nodes := [1, 2, 3], edges := [21, 22], total := 1 } := by decide +kernel
example : wGraph.hasNode 1 = true ∧ wGraph.hasNode 4 = true ∧ (findWeightedPath wGraph 1 4).toOption = none := by decide +kernel

/-! ### astar_path (zero heuristic): the cost of a real walk, optimal; "no path" iff unreachable -/

/-- the answered cost is the total weight of a real walk from `s` to `t` that follows edges the way
    the requested direction allows and only visits existing nodes -/
theorem astar_cost_is_walk (g : Graph) (dir : Dir) (s t : Nat) (c : Int) (hnn : NonNeg g)
    (h : astarCost g dir s t = some c) : AWalk g dir s t c :=
  Neumann.Paths.astar_cost_is_walk g dir s t c hnn h

/-- no such walk is lighter -/
theorem astar_cost_optimal (g : Graph) (dir : Dir) (s t : Nat) (c : Int) (hnn : NonNeg g)
    (h : astarCost g dir s t = some c) : ∀ c', AWalk g dir s t c' → c ≤ c' :=
  Neumann.Paths.astar_cost_optimal g dir s t c hnn h

/-- for distinct existing endpoints, `path: None` is answered exactly when no walk exists
    (includes fuel adequacy of the A* loop) -/
theorem astar_none_iff_unreachable (g : Graph) (dir : Dir) (s t : Nat) (hnn : NonNeg g) (hst : s ≠ t)
    (hs : g.hasNode s = true) (ht : g.hasNode t = true) :
    astarCost g dir s t = none ↔ ¬ ∃ c, AWalk g dir s t c :=
  Neumann.Paths.astar_none_iff_unreachable g dir s t hnn hst hs ht

/-- the A* loop never stops for lack of fuel -/
theorem astar_fuel_adequate (g : Graph) (dir : Dir) (s t : Nat) (hnn : NonNeg g) (hst : s ≠ t) :
    astarLoop g dir t (astarFuel g) { closed := [], gs := [(s, 0)], heap := [(0, s)] } ≠ .outOfFuel :=
  Neumann.Paths.astar_fuel_adequate g dir s t hnn hst

/-- with the zero heuristic and `Direction::Outgoing`, A* answers exactly the total weight
    `find_weighted_path` answers (and no path exactly when it answers `PathNotFound`), on every
    graph with non-negative weights whose edge endpoints exist -/
theorem astar_cost_eq_dijkstra_cost (g : Graph) (s t : Nat) (hnn : NonNeg g) (hend : EndpointsExist g)
    (hs : g.hasNode s = true) (ht : g.hasNode t = true) :
    astarCost g .out s t = (findWeightedPath g s t).toOption.map (·.total) :=
  Neumann.Paths.astar_cost_eq_dijkstra_cost g s t hnn hend hs ht

/-- non-vacuity on `wGraph` (parallel edges 5 / 4, a zero-weight edge, a missing weight, an
    undirected edge): both answer 1 for 1 ⇝ 3; backwards over `Incoming` 3 ⇝ 1 costs 1 too, and the
    pre-fix witness shape (one directed edge queried against its direction) has no path -/
example : EndpointsExist wGraph := by
  intro e he
  simp only [wGraph, List.mem_cons, List.not_mem_nil, or_false] at he
  rcases he with rfl | rfl | rfl | rfl | rfl <;> decide
example : astarCost wGraph .out 1 3 = some 1 ∧ astarCost wGraph .inc 3 1 = some 1 ∧
    astarCost wGraph .out 1 4 = none ∧ astarCost wGraph .both 1 4 = some 2 := by decide +kernel
example : astarCost oneEdge .out 2 1 = none ∧ astarCost oneEdge .both 2 1 = some 1 := by decide +kernel

/-! ### find_all_paths: all shortest paths -/

/-- every listed path is a real direction-respecting chain from `s` to `t` with exactly `hops` edges -/
theorem allpaths_sound (g : Graph) (maxPaths cap s t : Nat) (r : AllPaths)
    (h : findAllPaths g maxPaths cap s t = .ok r) :
    ∀ p, p ∈ r.paths → p.nodes.head? = some s ∧ p.nodes.getLast? = some t ∧
      ChainOk g (BStep g Flt.all t) p.nodes p.edges ∧ p.edges.length = r.hops :=
  Neumann.Paths.allpaths_sound g maxPaths cap s t r h

/-- the reported hop count is the true distance -/
theorem allpaths_hops_shortest (g : Graph) (maxPaths cap s t : Nat) (r : AllPaths)
    (h : findAllPaths g maxPaths cap s t = .ok r) :
    BWalk g Flt.all t s t r.hops ∧ ∀ n, BWalk g Flt.all t s t n → r.hops ≤ n :=
  Neumann.Paths.allpaths_hops_shortest g maxPaths cap s t r h

theorem allpaths_none_iff_unreachable (g : Graph) (maxPaths cap s t : Nat)
    (hs : g.hasNode s = true) (ht : g.hasNode t = true) :
    findAllPaths g maxPaths cap s t = .error .pathNotFound ↔ ¬ ∃ n, BWalk g Flt.all t s t n :=
  Neumann.Paths.allpaths_none_iff_unreachable g maxPaths cap s t hs ht

/-- when neither cap is reached (`max_parents_per_node ≥ 2·|E|`, fewer than `max_paths` results)
    every shortest chain is listed -/
theorem allpaths_complete (g : Graph) (maxPaths cap s t : Nat) (r : AllPaths)
    (h : findAllPaths g maxPaths cap s t = .ok r)
    (hcap : 2 * g.edges.length ≤ cap) (hmax : r.paths.length < maxPaths)
    (ns es : List Nat) (hhead : ns.head? = some s) (hlast : ns.getLast? = some t)
    (hchain : ChainOk g (BStep g Flt.all t) ns es) (hlen : es.length = r.hops) :
    { nodes := ns, edges := es } ∈ r.paths :=
  Neumann.Paths.allpaths_complete g maxPaths cap s t r h hcap hmax ns es hhead hlast hchain hlen

/-- non-vacuity: the diamond 1→2→4, 1→3→4, 4—5 has two shortest paths 1 ⇝ 5; `max_paths = 1` truncates -/
example : (findAllPaths apExG 1000 100 1 5).toOption.map (fun r => (r.hops, r.paths.length)) = some (3, 2) := by decide +kernel
example : (findAllPaths apExG 1 100 1 5).toOption.map (fun r => r.paths.length) = some 1 := by decide +kernel

/-! ### traverse: exactly the nodes within the hop bound -/

/-- the result of `traverse` holds exactly the existing nodes that pass the node filter (the start
    always) and lie within `md` hops of the start over edges of the requested type / direction that
    pass the edge filter -/
theorem traverse_exact (g : Graph) (s : Nat) (dir : Dir) (md : Nat) (etype : Option Nat) (flt : Flt) (r : List Nat)
    (h : traverse g s dir md etype flt = some r) :
    ∀ v, v ∈ r ↔ (g.hasNode v = true ∧ (v = s ∨ flt.nodeOk v = true) ∧
      ∃ n, n ≤ md ∧ TWalk g etype dir flt s v n) :=
  Neumann.Paths.traverse_exact g s dir md etype flt r h

theorem traverse_nodup (g : Graph) (s : Nat) (dir : Dir) (md : Nat) (etype : Option Nat) (flt : Flt) (r : List Nat)
    (h : traverse g s dir md etype flt = some r) : r.Nodup :=
  Neumann.Paths.traverse_nodup g s dir md etype flt r h

theorem traverse_none_iff (g : Graph) (s : Nat) (dir : Dir) (md : Nat) (etype : Option Nat) (flt : Flt) :
    traverse g s dir md etype flt = none ↔ g.hasNode s = false :=
  Neumann.Paths.traverse_none_iff g s dir md etype flt

/-- the neighbour set used by `traverse` is the declarative one-hop relation -/
theorem neighbours_exact (g : Graph) (etype : Option Nat) (dir : Dir) (flt : Flt) (u v : Nat) :
    v ∈ nbrIds g etype dir flt u ↔ TStep g etype dir flt u v :=
  Neumann.Paths.mem_nbrIds_iff g etype dir flt u v

/-- non-vacuity: a graph where the bound cuts the result (4 is three hops away) -/
example : traverse travExGraph 1 .out 2 none Flt.all = some [1, 2, 5, 3] := by decide +kernel

/-! ### variable-length matches: exactly the chains within the hop bounds -/

theorem varpaths_exact (g : Graph) (cfg : VarCfg) (flt : Flt) (s t : Nat) (ps : List Path)
    (h : findVariablePaths g cfg flt s t = .ok ps) :
    ∀ p, p ∈ ps ↔ VarPathOk g cfg flt s t p :=
  Neumann.Paths.varpaths_exact g cfg flt s t ps h

/-- non-vacuity: two matches 1 ⇝ 3 within 1..2 hops; undirected triangle with cycles allowed -/
example : (findVariablePaths exGraph ⟨1, 2, .out, none, false⟩ Flt.all 1 3).toOption
    = some [⟨[1, 3], [12]⟩, ⟨[1, 2, 3], [10, 11]⟩] := by decide +kernel
example : ((findVariablePaths exTri ⟨0, 3, .both, none, true⟩ Flt.all 1 1).toOption.map List.length) = some 5 := by decide +kernel

theorem varpaths_error_iff (g : Graph) (cfg : VarCfg) (flt : Flt) (s t : Nat) :
    (∃ e, findVariablePaths g cfg flt s t = .error e) ↔ (g.hasNode s = false ∨ g.hasNode t = false) :=
  Neumann.Paths.varpaths_error_iff g cfg flt s t

end Neumann.Paths.Props
