import NeumannModel.Paths.AlgoSpec
/-
  C18 — the graph-theory half of Kruskal's correctness.  `classes ns F` counts the classes of `Joined F`
  among the nodes; an edge between unjoined nodes removes exactly one class, so an edge-by-edge acyclic
  list of `k` edges over `n` nodes has `n - k` classes.  The abstract loop `greedy` (the union-find
  replaced by `Joined acc`) yields a spanning forest that has, below every weight threshold, at least as
  many edges as any acyclic competitor: hence minimum weight, and an ascending weight list that does
  not depend on the scan order of equal weights.
-/
namespace Neumann.Paths


theorem Joined.trans {F : List Edge} {u v w : Nat} (h1 : Joined F u v) (h2 : Joined F v w) :
    Joined F u w := by
  induction h1 with
  | refl _ => exact h2
  | step e he hl _ ih => exact Joined.step e he hl (ih h2)

/-- one edge of `F` joins its two ends -/
theorem Joined.single {F : List Edge} (e : Edge) (he : e ∈ F) : Joined F e.src e.dst :=
  Joined.step e he (Or.inl ⟨rfl, rfl⟩) (Joined.refl _)

theorem Joined.single' {F : List Edge} (e : Edge) (he : e ∈ F) : Joined F e.dst e.src :=
  Joined.step e he (Or.inr ⟨rfl, rfl⟩) (Joined.refl _)

theorem Joined.symm {F : List Edge} {u v : Nat} (h : Joined F u v) : Joined F v u := by
  induction h with
  | refl _ => exact Joined.refl _
  | step e he hl _ ih => exact ih.trans (Joined.step e he hl.symm (Joined.refl _))

theorem Joined.of_rel {F F' : List Edge} {u v : Nat} (h : ∀ e, e ∈ F → Joined F' e.src e.dst)
    (hj : Joined F u v) : Joined F' u v := by
  induction hj with
  | refl _ => exact Joined.refl _
  | step e he hl _ ih =>
    rcases hl with ⟨a, b⟩ | ⟨a, b⟩
    · subst a; subst b; exact (h e he).trans ih
    · subst a; subst b; exact (h e he).symm.trans ih

theorem Joined.mono {F F' : List Edge} {u v : Nat} (h : ∀ e, e ∈ F → e ∈ F') (hj : Joined F u v) :
    Joined F' u v :=
  Joined.of_rel (fun e he => Joined.single e (h e he)) hj

theorem Joined.congr_mem {F F' : List Edge} (h : ∀ e, e ∈ F ↔ e ∈ F') (u v : Nat) :
    Joined F u v ↔ Joined F' u v :=
  ⟨Joined.mono (fun e he => (h e).1 he), Joined.mono (fun e he => (h e).2 he)⟩

theorem joined_cons_iff {e : Edge} {F : List Edge} {u v : Nat} :
    Joined (e :: F) u v ↔
      (Joined F u v ∨ (Joined F u e.src ∧ Joined F v e.dst) ∨ (Joined F u e.dst ∧ Joined F v e.src)) := by
  constructor
  · intro h
    induction h with
    | refl _ => exact Or.inl (Joined.refl _)
    | step e' he' hl _ ih =>
      rcases List.mem_cons.1 he' with rfl | hmem
      · -- the new edge itself
        rcases hl with ⟨a, b⟩ | ⟨a, b⟩
        · subst a; subst b
          rcases ih with h1 | ⟨h1, h2⟩ | ⟨h1, h2⟩
          · exact Or.inr (Or.inl ⟨Joined.refl _, h1.symm⟩)
          · exact Or.inr (Or.inl ⟨Joined.refl _, h2⟩)
          · exact Or.inl h2.symm
        · subst a; subst b
          rcases ih with h1 | ⟨h1, h2⟩ | ⟨h1, h2⟩
          · exact Or.inr (Or.inr ⟨Joined.refl _, h1.symm⟩)
          · exact Or.inl h2.symm
          · exact Or.inr (Or.inr ⟨Joined.refl _, h2⟩)
      · -- an old edge: prepend it to the first leg
        have hs : ∀ {x}, Joined F _ x → Joined F _ x := fun {x} hx => Joined.step e' hmem hl hx
        rcases ih with h1 | ⟨h1, h2⟩ | ⟨h1, h2⟩
        · exact Or.inl (hs h1)
        · exact Or.inr (Or.inl ⟨hs h1, h2⟩)
        · exact Or.inr (Or.inr ⟨hs h1, h2⟩)
  · have hm : ∀ {x y}, Joined F x y → Joined (e :: F) x y :=
      fun {x y} h => Joined.mono (fun _ h' => List.mem_cons_of_mem _ h') h
    rintro (h | ⟨h1, h2⟩ | ⟨h1, h2⟩)
    · exact hm h
    · exact (hm h1).trans ((Joined.single e List.mem_cons_self).trans (hm h2).symm)
    · exact (hm h1).trans ((Joined.single' e List.mem_cons_self).trans (hm h2).symm)

theorem joined_cons_of_joined {e : Edge} {F : List Edge} (h : Joined F e.src e.dst) {u v : Nat} :
    Joined (e :: F) u v ↔ Joined F u v := by
  rw [joined_cons_iff]
  constructor
  · rintro (h0 | ⟨h1, h2⟩ | ⟨h1, h2⟩)
    · exact h0
    · exact h1.trans (h.trans h2.symm)
    · exact h1.trans (h.symm.trans h2.symm)
  · exact Or.inl

/-! ## counting classes

`cnt R l` counts the members of `l` that are not `R`-related to any LATER member of `l` (for an
equivalence relation: one representative per class).  The count is invariant under permutations of
`l` (`cnt_perm`), so counting the first representatives instead gives the same number. -/

open Classical in
/-- indicator of a proposition -/
noncomputable def ind (p : Prop) : Nat := if p then 1 else 0

theorem ind_pos {p : Prop} (h : p) : ind p = 1 := by simp only [ind, if_pos h]
theorem ind_neg {p : Prop} (h : ¬ p) : ind p = 0 := by simp only [ind, if_neg h]
theorem ind_congr {p q : Prop} (h : p ↔ q) : ind p = ind q := by rw [propext h]
theorem ind_le_one (p : Prop) : ind p ≤ 1 := by
  by_cases h : p
  · rw [ind_pos h]; exact Nat.le_refl _
  · rw [ind_neg h]; exact Nat.zero_le _

noncomputable def cnt (R : Nat → Nat → Prop) : List Nat → Nat
  | [] => 0
  | x :: xs => ind (¬ ∃ y, y ∈ xs ∧ R x y) + cnt R xs

theorem cnt_nil (R : Nat → Nat → Prop) : cnt R [] = 0 := rfl

theorem cnt_cons_pos {R : Nat → Nat → Prop} {x : Nat} {xs : List Nat} (h : ∃ y, y ∈ xs ∧ R x y) :
    cnt R (x :: xs) = cnt R xs := by
  simp only [cnt, ind_neg (not_not_intro h), Nat.zero_add]

theorem cnt_cons_neg {R : Nat → Nat → Prop} {x : Nat} {xs : List Nat} (h : ¬ ∃ y, y ∈ xs ∧ R x y) :
    cnt R (x :: xs) = cnt R xs + 1 := by
  simp only [cnt, ind_pos h]; omega

theorem cnt_le_cons (R : Nat → Nat → Prop) (x : Nat) (xs : List Nat) : cnt R xs ≤ cnt R (x :: xs) := by
  by_cases h : ∃ y, y ∈ xs ∧ R x y
  · rw [cnt_cons_pos h]; exact Nat.le_refl _
  · rw [cnt_cons_neg h]; omega

theorem cnt_anti {R R' : Nat → Nat → Prop} (h : ∀ a b, R a b → R' a b) (l : List Nat) :
    cnt R' l ≤ cnt R l := by
  induction l with
  | nil => exact Nat.le_refl _
  | cons x xs ih =>
    by_cases h1 : ∃ y, y ∈ xs ∧ R x y
    · have h2 : ∃ y, y ∈ xs ∧ R' x y := by
        obtain ⟨y, hy, hr⟩ := h1; exact ⟨y, hy, h _ _ hr⟩
      rw [cnt_cons_pos h1, cnt_cons_pos h2]; exact ih
    · rw [cnt_cons_neg h1]
      by_cases h2 : ∃ y, y ∈ xs ∧ R' x y
      · rw [cnt_cons_pos h2]; omega
      · rw [cnt_cons_neg h2]; omega

theorem cnt_congr {R R' : Nat → Nat → Prop} (h : ∀ a b, R a b ↔ R' a b) (l : List Nat) :
    cnt R' l = cnt R l :=
  Nat.le_antisymm (cnt_anti (fun a b => (h a b).1) l) (cnt_anti (fun a b => (h a b).2) l)

theorem cnt_eq_length {R : Nat → Nat → Prop} (h : ∀ a b, R a b ↔ a = b) {l : List Nat} (hnd : l.Nodup) :
    cnt R l = l.length := by
  induction l with
  | nil => rfl
  | cons x xs ih =>
    have hx : x ∉ xs := (List.nodup_cons.1 hnd).1
    have h1 : ¬ ∃ y, y ∈ xs ∧ R x y := by
      rintro ⟨y, hy, hr⟩
      have := (h x y).1 hr
      subst this; exact hx hy
    rw [cnt_cons_neg h1, ih (List.nodup_cons.1 hnd).2, List.length_cons]

theorem exists_mem_cons_iff_or {p : Nat → Prop} {x : Nat} {xs : List Nat} :
    (∃ y, y ∈ x :: xs ∧ p y) ↔ (p x ∨ ∃ y, y ∈ xs ∧ p y) := by
  simp only [List.mem_cons, or_and_right, exists_or, exists_eq_left]

theorem ind_merge (A B : Prop) : ind (¬ (A ∨ B)) + ind B = ind (¬ A) + ind (A ∧ B) := by
  by_cases hA : A <;> by_cases hB : B <;> simp [ind, hA, hB]

/-- merging the class of `s` with the class of `d` (`¬ R s d`) removes exactly one representative —
    provided both classes have a member in the list. -/
theorem cnt_merge {R R' : Nat → Nat → Prop} {s d : Nat}
    (hsymm : ∀ a b, R a b → R b a) (htrans : ∀ a b c, R a b → R b c → R a c)
    (hR' : ∀ a b, R' a b ↔ (R a b ∨ (R a s ∧ R b d) ∨ (R a d ∧ R b s)))
    (hsd : ¬ R s d) (l : List Nat) :
    cnt R' l + ind ((∃ y, y ∈ l ∧ R y s) ∧ (∃ y, y ∈ l ∧ R y d)) = cnt R l := by
  induction l with
  | nil =>
    have : ¬ ((∃ y, y ∈ ([] : List Nat) ∧ R y s) ∧ (∃ y, y ∈ ([] : List Nat) ∧ R y d)) := by
      rintro ⟨⟨y, hy, _⟩, _⟩; exact absurd hy List.not_mem_nil
    rw [ind_neg this]; rfl
  | cons x xs ih =>
    -- a later member related to `x` is one related to whatever `x` is related to
    have hto : ∀ {t}, R x t → ((∃ y, y ∈ xs ∧ R x y) ↔ (∃ y, y ∈ xs ∧ R y t)) := fun {t} hxt =>
      ⟨fun ⟨y, hy, hr⟩ => ⟨y, hy, htrans _ _ _ (hsymm _ _ hr) hxt⟩,
       fun ⟨y, hy, hr⟩ => ⟨y, hy, htrans _ _ _ hxt (hsymm _ _ hr)⟩⟩
    have hP' : (∃ y, y ∈ xs ∧ R' x y) ↔
        ((∃ y, y ∈ xs ∧ R x y) ∨ (R x s ∧ ∃ y, y ∈ xs ∧ R y d) ∨ (R x d ∧ ∃ y, y ∈ xs ∧ R y s)) := by
      constructor
      · rintro ⟨y, hy, hr⟩
        rcases (hR' _ _).1 hr with h | ⟨h1, h2⟩ | ⟨h1, h2⟩
        · exact .inl ⟨y, hy, h⟩
        · exact .inr (.inl ⟨h1, y, hy, h2⟩)
        · exact .inr (.inr ⟨h1, y, hy, h2⟩)
      · rintro (⟨y, hy, h⟩ | ⟨h1, y, hy, h2⟩ | ⟨h1, y, hy, h2⟩)
        · exact ⟨y, hy, (hR' _ _).2 (.inl h)⟩
        · exact ⟨y, hy, (hR' _ _).2 (.inr (.inl ⟨h1, h2⟩))⟩
        · exact ⟨y, hy, (hR' _ _).2 (.inr (.inr ⟨h1, h2⟩))⟩
    rw [cnt, cnt, ← ih, exists_mem_cons_iff_or, exists_mem_cons_iff_or, ind_congr (not_congr hP')]
    by_cases hxs : R x s
    · have hxd : ¬ R x d := fun h => hsd (htrans _ _ _ (hsymm _ _ hxs) h)
      have := ind_merge (∃ y, y ∈ xs ∧ R y s) (∃ y, y ∈ xs ∧ R y d)
      simp only [hto hxs, hxs, hxd, true_and, false_and, or_false, false_or, true_or]
      omega
    · by_cases hxd : R x d
      · have := ind_merge (∃ y, y ∈ xs ∧ R y d) (∃ y, y ∈ xs ∧ R y s)
        rw [or_comm, and_comm] at this
        simp only [hto hxd, hxs, hxd, true_and, false_and, false_or, true_or, and_true,
          or_comm (a := ∃ y, y ∈ xs ∧ R y d)]
        omega
      · simp only [hxs, hxd, false_and, or_false, false_or]
        omega

theorem cnt_perm {R : Nat → Nat → Prop}
    (hsymm : ∀ a b, R a b → R b a) (htrans : ∀ a b c, R a b → R b c → R a c)
    {l l' : List Nat} (hp : l.Perm l') : cnt R l = cnt R l' := by
  induction hp with
  | nil => rfl
  | cons x hp ih =>
    rename_i l₁ l₂
    have hP : (∃ y, y ∈ l₁ ∧ R x y) ↔ (∃ y, y ∈ l₂ ∧ R x y) :=
      ⟨fun ⟨y, hy, hr⟩ => ⟨y, hp.mem_iff.1 hy, hr⟩, fun ⟨y, hy, hr⟩ => ⟨y, hp.mem_iff.2 hy, hr⟩⟩
    simp only [cnt, hP, ih]
  | swap x y l =>
    by_cases hxy : R x y
    · have hyx : R y x := hsymm _ _ hxy
      have h1 : ∃ z, z ∈ x :: l ∧ R y z := ⟨x, List.mem_cons_self, hyx⟩
      have h2 : ∃ z, z ∈ y :: l ∧ R x z := ⟨y, List.mem_cons_self, hxy⟩
      have h3 : (∃ z, z ∈ l ∧ R x z) ↔ (∃ z, z ∈ l ∧ R y z) :=
        ⟨fun ⟨z, hz, hr⟩ => ⟨z, hz, htrans _ _ _ hyx hr⟩, fun ⟨z, hz, hr⟩ => ⟨z, hz, htrans _ _ _ hxy hr⟩⟩
      rw [cnt_cons_pos h1, cnt_cons_pos h2]
      simp only [cnt, h3]
    · have hyx : ¬ R y x := fun h => hxy (hsymm _ _ h)
      simp only [cnt, exists_mem_cons_iff_or, hxy, hyx, false_or]
      omega
  | trans _ _ ih1 ih2 => exact ih1.trans ih2

theorem cnt_pos (R : Nat → Nat → Prop) {l : List Nat} (h : l ≠ []) : 1 ≤ cnt R l := by
  induction l with
  | nil => exact absurd rfl h
  | cons x xs ih =>
    by_cases hxs : xs = []
    · subst hxs
      have : ¬ ∃ y, y ∈ ([] : List Nat) ∧ R x y := by
        rintro ⟨y, hy, _⟩; exact absurd hy List.not_mem_nil
      rw [cnt_cons_neg this]; omega
    · exact Nat.le_trans (ih hxs) (cnt_le_cons R x xs)

theorem cnt_one {R : Nat → Nat → Prop} (hrefl : ∀ a, R a a)
    (hsymm : ∀ a b, R a b → R b a) (htrans : ∀ a b c, R a b → R b c → R a c)
    (l : List Nat) (h1 : cnt R l ≤ 1) (u v : Nat) (hu : u ∈ l) (hv : v ∈ l) : R u v := by
  induction l generalizing u v with
  | nil => exact absurd hu List.not_mem_nil
  | cons x xs ih =>
    by_cases hxs : xs = []
    · subst hxs
      rw [List.mem_singleton] at hu hv
      subst hu; subst hv; exact hrefl _
    · have hpos := cnt_pos R hxs
      by_cases hP : ∃ y, y ∈ xs ∧ R x y
      · rw [cnt_cons_pos hP] at h1
        obtain ⟨y, hy, hxy⟩ := hP
        have key : ∀ z, z ∈ x :: xs → R z y := by
          intro z hz
          rcases List.mem_cons.1 hz with rfl | hz
          · exact hxy
          · exact ih h1 z y hz hy
        exact htrans _ _ _ (key u hu) (hsymm _ _ (key v hv))
      · rw [cnt_cons_neg hP] at h1; omega

theorem cnt_map_rep {R : Nat → Nat → Prop} (rep : Nat → Nat) (h : ∀ a b, rep a = rep b ↔ R a b)
    (l : List Nat) : cnt (fun a b => a = b) (l.map rep) = cnt R l := by
  induction l with
  | nil => rfl
  | cons x xs ih =>
    have hP : (∃ y, y ∈ xs.map rep ∧ rep x = y) ↔ (∃ y, y ∈ xs ∧ R x y) := by
      constructor
      · rintro ⟨y, hy, hr⟩
        obtain ⟨z, hz, rfl⟩ := List.mem_map.1 hy
        exact ⟨z, hz, (h _ _).1 hr⟩
      · rintro ⟨y, hy, hr⟩
        exact ⟨rep y, List.mem_map.2 ⟨y, hy, rfl⟩, (h _ _).2 hr⟩
    simp only [List.map_cons, cnt, hP, ih]

theorem ind_not (p : Prop) : ind (¬ p) + ind p = 1 := by
  by_cases h : p <;> simp [ind, h]

theorem cnt_eq_cons (y : Nat) (ys : List Nat) :
    cnt (fun a b => a = b) (y :: ys) = ind (y ∉ ys) + cnt (fun a b => a = b) ys := by
  have h : (∃ z, z ∈ ys ∧ y = z) ↔ y ∈ ys := ⟨fun ⟨_, hz, e⟩ => e ▸ hz, fun h => ⟨y, h, rfl⟩⟩
  rw [cnt, ind_congr (not_congr h)]

theorem cnt_eq_filter_ne (x : Nat) (xs : List Nat) :
    cnt (fun a b => a = b) xs =
      cnt (fun a b => a = b) (xs.filter (fun b => !b == x)) + ind (x ∈ xs) := by
  induction xs with
  | nil => rw [List.filter_nil, ind_neg List.not_mem_nil]; rfl
  | cons y ys ih =>
    by_cases hyx : y = x
    · subst hyx
      have := ind_not (y ∈ ys)
      rw [List.filter_cons_of_neg (by simp), cnt_eq_cons, ih, ind_pos List.mem_cons_self]
      omega
    · have hf : (y ∉ ys.filter (fun b => !b == x)) ↔ y ∉ ys := by simp [List.mem_filter, hyx]
      have hm : x ∈ y :: ys ↔ x ∈ ys := by simp [Ne.symm hyx]
      rw [List.filter_cons_of_pos (by simpa using hyx), cnt_eq_cons, cnt_eq_cons, ih, ind_congr hf,
        ind_congr hm]
      omega

theorem eraseDups_length_eq_cnt (l : List Nat) : l.eraseDups.length = cnt (fun a b => a = b) l := by
  generalize hn : l.length = n
  induction n using Nat.strongRecOn generalizing l with
  | _ n ih =>
    cases l with
    | nil => rfl
    | cons x xs =>
      have hlen : (xs.filter (fun b => !b == x)).length < n := by
        have := List.length_filter_le (fun b => !b == x) xs
        rw [List.length_cons] at hn; omega
      have := ind_not (x ∈ xs)
      rw [List.eraseDups_cons, List.length_cons, ih _ hlen _ rfl, cnt_eq_cons, cnt_eq_filter_ne x xs]
      omega

/-- the number of nodes of `ns` that are not `Joined F` to any earlier node of `ns` -/
noncomputable def classes (ns : List Nat) (F : List Edge) : Nat := cnt (Joined F) ns.reverse

theorem joined_symm' (F : List Edge) : ∀ a b, Joined F a b → Joined F b a := fun _ _ h => h.symm
theorem joined_trans' (F : List Edge) : ∀ a b c, Joined F a b → Joined F b c → Joined F a c :=
  fun _ _ _ h1 h2 => h1.trans h2

/-- counting last representatives instead of first ones gives the same number -/
theorem classes_eq_cnt (ns : List Nat) (F : List Edge) : classes ns F = cnt (Joined F) ns :=
  cnt_perm (joined_symm' F) (joined_trans' F) (List.reverse_perm ns)

theorem joined_nil_iff {u v : Nat} : Joined [] u v ↔ u = v := by
  constructor
  · intro h
    cases h with
    | refl _ => rfl
    | step e he _ _ => exact absurd he List.not_mem_nil
  · rintro rfl; exact Joined.refl _

theorem classes_nil {ns : List Nat} (hnd : ns.Nodup) : classes ns [] = ns.length := by
  rw [classes_eq_cnt]
  exact cnt_eq_length (fun _ _ => joined_nil_iff) hnd

theorem classes_anti {ns : List Nat} {F F' : List Edge} (h : ∀ u v, Joined F u v → Joined F' u v) :
    classes ns F' ≤ classes ns F :=
  cnt_anti h _

theorem classes_congr {ns : List Nat} {F F' : List Edge} (h : ∀ u v, Joined F u v ↔ Joined F' u v) :
    classes ns F' = classes ns F :=
  cnt_congr h _

theorem classes_cons_old {ns : List Nat} {e : Edge} {F : List Edge} (h : Joined F e.src e.dst) :
    classes ns (e :: F) = classes ns F :=
  classes_congr (fun _ _ => (joined_cons_of_joined h).symm)

theorem classes_cons_new {ns : List Nat} {e : Edge} {F : List Edge}
    (hs : e.src ∈ ns) (hd : e.dst ∈ ns) (h : ¬ Joined F e.src e.dst) :
    classes ns (e :: F) + 1 = classes ns F := by
  rw [classes_eq_cnt, classes_eq_cnt]
  have hm := cnt_merge (R := Joined F) (R' := Joined (e :: F)) (s := e.src) (d := e.dst)
    (joined_symm' F) (joined_trans' F) (fun _ _ => joined_cons_iff) h ns
  have hc : (∃ y, y ∈ ns ∧ Joined F y e.src) ∧ (∃ y, y ∈ ns ∧ Joined F y e.dst) :=
    ⟨⟨_, hs, Joined.refl _⟩, ⟨_, hd, Joined.refl _⟩⟩
  rw [ind_pos hc] at hm
  exact hm

theorem seqAcyclic_classes {ns : List Nat} {F : List Edge} (hnd : ns.Nodup)
    (hin : ∀ e, e ∈ F → e.src ∈ ns ∧ e.dst ∈ ns) (hac : SeqAcyclic F) :
    classes ns F + F.length = ns.length := by
  induction F with
  | nil => rw [classes_nil hnd]; rfl
  | cons e F ih =>
    have h1 := classes_cons_new (hin e List.mem_cons_self).1 (hin e List.mem_cons_self).2 hac.1
    have h2 := ih (fun e' he' => hin e' (List.mem_cons_of_mem _ he')) hac.2
    rw [List.length_cons]; omega

theorem classes_eq_reps {ns : List Nat} {F : List Edge} (rep : Nat → Nat)
    (h : ∀ a b, rep a = rep b ↔ Joined F a b) : ((ns.map rep).eraseDups).length = classes ns F := by
  rw [classes_eq_cnt, eraseDups_length_eq_cnt, cnt_map_rep rep h]

theorem classes_one_joined {ns : List Nat} {F : List Edge} (h1 : classes ns F ≤ 1)
    {u v : Nat} (hu : u ∈ ns) (hv : v ∈ ns) : Joined F u v := by
  rw [classes_eq_cnt] at h1
  exact cnt_one Joined.refl (joined_symm' F) (joined_trans' F) ns h1 u v hu hv

theorem seqAcyclic_cons {e : Edge} {F : List Edge} :
    SeqAcyclic (e :: F) ↔ (¬ Joined F e.src e.dst ∧ SeqAcyclic F) := Iff.rfl

theorem seqAcyclic_filter {F : List Edge} (p : Edge → Bool) (h : SeqAcyclic F) :
    SeqAcyclic (F.filter p) := by
  induction F with
  | nil => exact h
  | cons e F ih =>
    have h' := seqAcyclic_cons.1 h
    rw [List.filter_cons]
    split
    · exact seqAcyclic_cons.2
        ⟨fun hj => h'.1 (Joined.mono (fun x hx => (List.mem_filter.1 hx).1) hj), ih h'.2⟩
    · exact ih h'.2

theorem isForest_seqAcyclic {F : List Edge} (h : IsForest F) : SeqAcyclic F := by
  induction F with
  | nil => trivial
  | cons e F ih =>
    obtain ⟨hnd, hb⟩ := h
    have hnd' := List.nodup_cons.1 hnd
    refine seqAcyclic_cons.2 ⟨?_, ih ⟨hnd'.2, ?_⟩⟩
    · have := hb e List.mem_cons_self
      rwa [List.erase_cons_head] at this
    · intro e' he' hj
      have hne : ¬ (e == e') = true := by
        intro heq
        have : e = e' := eq_of_beq heq
        exact hnd'.1 (this ▸ he')
      apply hb e' (List.mem_cons_of_mem _ he')
      rw [List.erase_cons_tail hne]
      exact Joined.mono (fun x hx => List.mem_cons_of_mem _ hx) hj

theorem seqAcyclic_isForest {ns : List Nat} {F : List Edge} (hnd : ns.Nodup)
    (hin : ∀ e, e ∈ F → e.src ∈ ns ∧ e.dst ∈ ns) (hF : F.Nodup) (hac : SeqAcyclic F) : IsForest F := by
  refine ⟨hF, fun e he hj => ?_⟩
  have herase : F.erase e = F.filter (fun x => x != e) := hF.erase_eq_filter e
  have hac' : SeqAcyclic (F.erase e) := by rw [herase]; exact seqAcyclic_filter _ hac
  have hin' : ∀ x, x ∈ F.erase e → x.src ∈ ns ∧ x.dst ∈ ns :=
    fun x hx => hin x (List.mem_of_mem_erase hx)
  have h1 := seqAcyclic_classes hnd hin hac
  have h2 := seqAcyclic_classes hnd hin' hac'
  have hlen : (F.erase e).length = F.length - 1 := List.length_erase_of_mem he
  have hpos : 0 < F.length := List.length_pos_of_mem he
  have hc : classes ns (F.erase e) = classes ns F := by
    apply classes_congr
    intro u v
    constructor
    · apply Joined.of_rel
      intro x hx
      by_cases hxe : x = e
      · rw [hxe]; exact hj
      · exact Joined.single x ((List.mem_erase_of_ne hxe).2 hx)
    · exact Joined.mono (fun x hx => List.mem_of_mem_erase hx)
  omega

theorem sumW_nil : sumW [] = 0 := rfl

theorem sumW_eq_sum (es : List Edge) : sumW es = (es.map Edge.w).sum :=
  List.sum_eq_foldl.symm

theorem int_sum_perm {l l' : List Int} (h : l.Perm l') : l.sum = l'.sum := by
  induction h with
  | nil => rfl
  | cons x _ ih => rw [List.sum_cons, List.sum_cons, ih]
  | swap x y l => rw [List.sum_cons, List.sum_cons, List.sum_cons, List.sum_cons]; omega
  | trans _ _ ih1 ih2 => exact ih1.trans ih2

theorem sumW_perm {es es' : List Edge} (h : es.Perm es') : sumW es = sumW es' := by
  rw [sumW_eq_sum, sumW_eq_sum]
  exact int_sum_perm (h.map _)

open Classical in
/-- the Kruskal loop with the union-find replaced by the relation it represents: scan the edges,
    keep an edge iff its ends are not yet joined by the kept ones (`acc`, newest first) -/
noncomputable def greedy : List Edge → List Edge → List Edge
  | [], acc => acc
  | e :: es, acc => if Joined acc e.src e.dst then greedy es acc else greedy es (e :: acc)

def SortedW (es : List Edge) : Prop := es.Pairwise (fun a b => a.w ≤ b.w)

theorem greedy_nil (acc : List Edge) : greedy [] acc = acc := by simp only [greedy]

theorem greedy_cons_pos {e : Edge} {es acc : List Edge} (h : Joined acc e.src e.dst) :
    greedy (e :: es) acc = greedy es acc := by
  simp only [greedy, if_pos h]

theorem greedy_cons_neg {e : Edge} {es acc : List Edge} (h : ¬ Joined acc e.src e.dst) :
    greedy (e :: es) acc = greedy es (e :: acc) := by
  simp only [greedy, if_neg h]

theorem insertW_perm (e : Edge) (l : List Edge) : (insertW e l).Perm (e :: l) := by
  induction l with
  | nil => exact List.Perm.refl _
  | cons x xs ih =>
    simp only [insertW]
    split
    · exact List.Perm.refl _
    · exact (List.Perm.cons x ih).trans (List.Perm.swap e x xs)

theorem sortByW_cons (e : Edge) (es : List Edge) : sortByW (e :: es) = insertW e (sortByW es) := rfl

theorem sortByW_perm (es : List Edge) : (sortByW es).Perm es := by
  induction es with
  | nil => exact List.Perm.refl _
  | cons e es ih =>
    rw [sortByW_cons]
    exact (insertW_perm e _).trans (List.Perm.cons e ih)

theorem insertW_sorted (e : Edge) {l : List Edge} (h : SortedW l) : SortedW (insertW e l) := by
  unfold SortedW at *
  induction l with
  | nil => exact List.pairwise_singleton _ _
  | cons x xs ih =>
    have hx := List.pairwise_cons.1 h
    simp only [insertW]
    split
    · rename_i hle
      refine List.pairwise_cons.2 ⟨?_, h⟩
      intro y hy
      rcases List.mem_cons.1 hy with hyx | hy
      · rw [hyx]; exact hle
      · exact Int.le_trans hle (hx.1 y hy)
    · rename_i hnle
      refine List.pairwise_cons.2 ⟨?_, ih hx.2⟩
      intro y hy
      rcases List.mem_cons.1 ((insertW_perm e xs).mem_iff.1 hy) with hye | hy
      · rw [hye]; omega
      · exact hx.1 y hy

theorem sortByW_sorted (es : List Edge) : SortedW (sortByW es) := by
  induction es with
  | nil => exact List.Pairwise.nil
  | cons e es ih => rw [sortByW_cons]; exact insertW_sorted e ih

theorem greedy_seqAcyclic_acc (es acc : List Edge) (h : SeqAcyclic acc) : SeqAcyclic (greedy es acc) := by
  induction es generalizing acc with
  | nil => rw [greedy_nil]; exact h
  | cons e es ih =>
    by_cases hj : Joined acc e.src e.dst
    · rw [greedy_cons_pos hj]; exact ih acc h
    · rw [greedy_cons_neg hj]; exact ih (e :: acc) (seqAcyclic_cons.2 ⟨hj, h⟩)

theorem greedy_seqAcyclic (es : List Edge) : SeqAcyclic (greedy es []) :=
  greedy_seqAcyclic_acc es [] trivial

theorem greedy_sublist_acc (es acc : List Edge) : (greedy es acc).Sublist (es.reverse ++ acc) := by
  induction es generalizing acc with
  | nil => rw [greedy_nil]; exact List.Sublist.refl _
  | cons e es ih =>
    have heq : (e :: es).reverse ++ acc = es.reverse ++ (e :: acc) := by
      rw [List.reverse_cons, List.append_assoc, List.singleton_append]
    rw [heq]
    by_cases hj : Joined acc e.src e.dst
    · rw [greedy_cons_pos hj]
      exact (ih acc).trans ((List.sublist_cons_self e acc).append_left _)
    · rw [greedy_cons_neg hj]; exact ih (e :: acc)

theorem greedy_sublist (es : List Edge) : (greedy es []).Sublist es.reverse := by
  have := greedy_sublist_acc es []
  rwa [List.append_nil] at this

theorem greedy_mem_acc {es acc : List Edge} {x : Edge} (h : x ∈ greedy es acc) : x ∈ es ∨ x ∈ acc := by
  rcases List.mem_append.1 ((greedy_sublist_acc es acc).subset h) with h | h
  · exact Or.inl (List.mem_reverse.1 h)
  · exact Or.inr h

theorem greedy_mem {es : List Edge} {x : Edge} (h : x ∈ greedy es []) : x ∈ es := by
  rcases greedy_mem_acc h with h | h
  · exact h
  · exact absurd h List.not_mem_nil

theorem greedy_nodup {es : List Edge} (h : es.Nodup) : (greedy es []).Nodup :=
  (greedy_sublist es).nodup ((List.reverse_perm es).nodup_iff.2 h)

theorem greedy_acc_subset (es acc : List Edge) (a : Edge) (ha : a ∈ acc) : a ∈ greedy es acc := by
  induction es generalizing acc with
  | nil => rw [greedy_nil]; exact ha
  | cons e es ih =>
    by_cases hj : Joined acc e.src e.dst
    · rw [greedy_cons_pos hj]; exact ih acc ha
    · rw [greedy_cons_neg hj]; exact ih (e :: acc) (List.mem_cons_of_mem _ ha)

theorem greedy_joined_acc (es acc : List Edge) (u v : Nat) :
    Joined (greedy es acc) u v ↔ Joined (es ++ acc) u v := by
  induction es generalizing acc with
  | nil => rw [greedy_nil, List.nil_append]
  | cons e es ih =>
    by_cases hj : Joined acc e.src e.dst
    · rw [greedy_cons_pos hj, ih acc, List.cons_append]
      exact (joined_cons_of_joined (Joined.mono (fun x hx => List.mem_append_right _ hx) hj)).symm
    · rw [greedy_cons_neg hj, ih (e :: acc)]
      apply Joined.congr_mem
      intro x
      simp only [List.mem_append, List.mem_cons]
      constructor
      · rintro (h | h | h)
        · exact Or.inl (Or.inr h)
        · exact Or.inl (Or.inl h)
        · exact Or.inr h
      · rintro ((h | h) | h)
        · exact Or.inr (Or.inl h)
        · exact Or.inl h
        · exact Or.inr (Or.inr h)

theorem greedy_joined (es : List Edge) (u v : Nat) : Joined (greedy es []) u v ↔ Joined es u v := by
  rw [greedy_joined_acc, List.append_nil]

theorem greedy_weights_sorted_acc {es acc : List Edge} (hs : SortedW es) (ha : SortedW acc.reverse)
    (hacc : ∀ a, a ∈ acc → ∀ e, e ∈ es → a.w ≤ e.w) : SortedW (greedy es acc).reverse := by
  induction es generalizing acc with
  | nil => rw [greedy_nil]; exact ha
  | cons e es ih =>
    have hs' := List.pairwise_cons.1 hs
    by_cases hj : Joined acc e.src e.dst
    · rw [greedy_cons_pos hj]
      exact ih hs'.2 ha (fun a h x hx => hacc a h x (List.mem_cons_of_mem _ hx))
    · rw [greedy_cons_neg hj]
      refine ih hs'.2 ?_ ?_
      · unfold SortedW at *
        rw [List.reverse_cons, List.pairwise_append]
        refine ⟨ha, List.pairwise_singleton _ _, ?_⟩
        intro a h b hb
        rw [List.mem_singleton.1 hb]
        exact hacc a (List.mem_reverse.1 h) e List.mem_cons_self
      · intro a h x hx
        rcases List.mem_cons.1 h with hae | h
        · rw [hae]; exact hs'.1 x hx
        · exact hacc a h x (List.mem_cons_of_mem _ hx)

theorem greedy_weights_sorted {es : List Edge} (hs : SortedW es) : SortedW (greedy es []).reverse :=
  greedy_weights_sorted_acc hs List.Pairwise.nil (fun _ h => absurd h List.not_mem_nil)

theorem greedy_isForest {ns : List Nat} {es : List Edge} (hnd : ns.Nodup)
    (hin : ∀ e, e ∈ es → e.src ∈ ns ∧ e.dst ∈ ns) (hes : es.Nodup) : IsForest (greedy es []) :=
  seqAcyclic_isForest hnd (fun e he => hin e (greedy_mem he)) (greedy_nodup hes) (greedy_seqAcyclic es)

def leW (w : Int) : Edge → Bool := fun e => decide (e.w ≤ w)

theorem mem_filter_leW {w : Int} {l : List Edge} {x : Edge} : x ∈ l.filter (leW w) ↔ (x ∈ l ∧ x.w ≤ w) := by
  rw [List.mem_filter]; unfold leW; rw [decide_eq_true_iff]

/-- every scanned edge has its ends joined by accepted edges that are not heavier -/
theorem greedy_covers_acc (es acc : List Edge) (hs : SortedW es)
    (hacc : ∀ a, a ∈ acc → ∀ e, e ∈ es → a.w ≤ e.w) (f : Edge) (hf : f ∈ es) :
    Joined ((greedy es acc).filter (leW f.w)) f.src f.dst := by
  induction es generalizing acc with
  | nil => exact absurd hf List.not_mem_nil
  | cons e es ih =>
    have hs' := List.pairwise_cons.1 hs
    by_cases hj : Joined acc e.src e.dst
    · rw [greedy_cons_pos hj]
      rcases List.mem_cons.1 hf with hfe | hf
      · rw [hfe]
        refine Joined.mono (fun a ha => ?_) hj
        exact mem_filter_leW.2 ⟨greedy_acc_subset es acc a ha, hacc a ha e List.mem_cons_self⟩
      · exact ih acc hs'.2 (fun a h x hx => hacc a h x (List.mem_cons_of_mem _ hx)) hf
    · rw [greedy_cons_neg hj]
      rcases List.mem_cons.1 hf with hfe | hf
      · rw [hfe]
        exact Joined.single e
          (mem_filter_leW.2 ⟨greedy_acc_subset es (e :: acc) e List.mem_cons_self, Int.le_refl _⟩)
      · refine ih (e :: acc) hs'.2 ?_ hf
        intro a h x hx
        rcases List.mem_cons.1 h with hae | h
        · rw [hae]; exact hs'.1 x hx
        · exact hacc a h x (List.mem_cons_of_mem _ hx)

theorem greedy_covers {es : List Edge} (hs : SortedW es) {f : Edge} (hf : f ∈ es) {w : Int} (hw : f.w ≤ w) :
    Joined ((greedy es []).filter (leW w)) f.src f.dst := by
  refine Joined.mono (fun x hx => ?_)
    (greedy_covers_acc es [] hs (fun a h => absurd h List.not_mem_nil) f hf)
  have := mem_filter_leW.1 hx
  exact mem_filter_leW.2 ⟨this.1, Int.le_trans this.2 hw⟩

/-- below every threshold the greedy result has at least as many edges as any acyclic sub-list of `es` -/
theorem greedy_count_le {ns : List Nat} {es F : List Edge} (hnd : ns.Nodup)
    (hin : ∀ e, e ∈ es → e.src ∈ ns ∧ e.dst ∈ ns) (hs : SortedW es) (hF : ∀ e, e ∈ F → e ∈ es)
    (hac : SeqAcyclic F) (w : Int) :
    (F.filter (leW w)).length ≤ ((greedy es []).filter (leW w)).length := by
  have hK := seqAcyclic_classes (F := (greedy es []).filter (leW w)) hnd
    (fun e he => hin e (greedy_mem (mem_filter_leW.1 he).1)) (seqAcyclic_filter _ (greedy_seqAcyclic es))
  have hFw := seqAcyclic_classes (F := F.filter (leW w)) hnd
    (fun e he => hin e (hF e (mem_filter_leW.1 he).1)) (seqAcyclic_filter _ hac)
  have hle : classes ns ((greedy es []).filter (leW w)) ≤ classes ns (F.filter (leW w)) := by
    apply classes_anti
    intro u v
    apply Joined.of_rel
    intro f hf
    have := mem_filter_leW.1 hf
    exact greedy_covers hs (hF f this.1) this.2
  omega

theorem seqAcyclic_length_eq {ns : List Nat} {F G : List Edge} (hnd : ns.Nodup)
    (hinF : ∀ e, e ∈ F → e.src ∈ ns ∧ e.dst ∈ ns) (hinG : ∀ e, e ∈ G → e.src ∈ ns ∧ e.dst ∈ ns)
    (hF : SeqAcyclic F) (hG : SeqAcyclic G) (hj : ∀ u v, Joined F u v ↔ Joined G u v) :
    F.length = G.length := by
  have h1 := seqAcyclic_classes hnd hinF hF
  have h2 := seqAcyclic_classes hnd hinG hG
  have h3 : classes ns G = classes ns F := classes_congr hj
  omega

def cle (w : Int) (l : List Int) : Nat := l.countP (fun x => decide (x ≤ w))

theorem cle_cons (w x : Int) (l : List Int) : cle w (x :: l) = (if x ≤ w then 1 else 0) + cle w l := by
  unfold cle
  rw [List.countP_cons, Nat.add_comm]
  simp only [decide_eq_true_eq]

theorem cle_perm {l l' : List Int} (w : Int) (h : l.Perm l') : cle w l = cle w l' := h.countP_eq _

theorem cle_le_length (w : Int) (l : List Int) : cle w l ≤ l.length := List.countP_le_length

theorem cle_eq_length_iff (w : Int) (l : List Int) : cle w l = l.length ↔ ∀ x, x ∈ l → x ≤ w := by
  unfold cle
  rw [List.countP_eq_length]
  simp only [decide_eq_true_eq]

theorem cle_map (w : Int) (F : List Edge) : cle w (F.map Edge.w) = (F.filter (leW w)).length := by
  unfold cle
  rw [List.countP_map, List.countP_eq_length_filter]
  rfl

theorem int_exists_max (l : List Int) (h : l ≠ []) : ∃ b, b ∈ l ∧ ∀ x, x ∈ l → x ≤ b := by
  obtain ⟨b, hb⟩ := Option.isSome_iff_exists.1 (List.isSome_max?_of_ne_nil h)
  exact ⟨b, List.max?_eq_some_iff.1 hb⟩

theorem cle_erase {l : List Int} {a : Int} (ha : a ∈ l) (w : Int) :
    cle w l = (if a ≤ w then 1 else 0) + cle w (l.erase a) := by
  rw [cle_perm w (List.perm_cons_erase ha), cle_cons]

/-- if below every threshold `A` has at least as many members as `B` (and both have the same length)
    then `A` sums to at most what `B` sums to: split off a maximum of each -/
theorem majorise (n : Nat) : ∀ (A B : List Int), A.length = n → B.length = n →
    (∀ w, cle w B ≤ cle w A) → A.sum ≤ B.sum := by
  induction n with
  | zero =>
    intro A B hA hB _
    rw [List.length_eq_zero_iff.1 hA, List.length_eq_zero_iff.1 hB]
    exact Int.le_refl _
  | succ n ih =>
    intro A B hA hB hc
    obtain ⟨a, ha, hamax⟩ := int_exists_max A (by rintro rfl; simp at hA)
    obtain ⟨b, hb, hbmax⟩ := int_exists_max B (by rintro rfl; simp at hB)
    -- everything in `A` is below the maximum of `B`
    have hallA : ∀ x, x ∈ A → x ≤ b := by
      refine (cle_eq_length_iff b A).1 ?_
      have h1 := (cle_eq_length_iff b B).2 hbmax
      have h2 := hc b
      have h3 := cle_le_length b A
      omega
    have hlA := List.length_erase_of_mem ha
    have hlB := List.length_erase_of_mem hb
    have hrec : (A.erase a).sum ≤ (B.erase b).sum := by
      refine ih _ _ (by omega) (by omega) (fun w => ?_)
      have hcA := cle_erase ha w
      have hcB := cle_erase hb w
      have h2 := hc w
      have hleB := cle_le_length w (B.erase b)
      -- once a bound of `A` is below the threshold the rest of `A` counts in full
      have hfull : ∀ m, (∀ x, x ∈ A → x ≤ m) → m ≤ w → cle w (A.erase a) = (A.erase a).length :=
        fun m hm hmw => (cle_eq_length_iff w _).2
          (fun x hx => Int.le_trans (hm x (List.mem_of_mem_erase hx)) hmw)
      by_cases hbw : b ≤ w
      · have := hfull b hallA hbw; omega
      · by_cases haw : a ≤ w
        · have := hfull a hamax haw; omega
        · rw [if_neg hbw] at hcB; rw [if_neg haw] at hcA; omega
    rw [int_sum_perm (List.perm_cons_erase ha), int_sum_perm (List.perm_cons_erase hb), List.sum_cons,
      List.sum_cons]
    have := hallA a ha
    omega

theorem count_add_cle (a : Int) (l : List Int) : l.count a + cle (a - 1) l = cle a l := by
  induction l with
  | nil => rfl
  | cons x xs ih =>
    rw [List.count_cons, cle_cons, cle_cons]
    simp only [beq_iff_eq]
    rcases Int.lt_trichotomy x a with h | h | h
    · rw [if_neg (Int.ne_of_lt h), if_pos (Int.le_sub_one_of_lt h), if_pos (Int.le_of_lt h)]; omega
    · rw [if_pos h, if_neg (by omega), if_pos (Int.le_of_eq h)]; omega
    · rw [if_neg (Int.ne_of_gt h), if_neg (by omega), if_neg (Int.not_le.2 h)]; omega

/-- ascending lists with the same count below every threshold are equal: the counts determine the
    multiplicity of every value -/
theorem sorted_eq_of_cle (A B : List Int) (hA : A.Pairwise (· ≤ ·)) (hB : B.Pairwise (· ≤ ·))
    (hc : ∀ w, cle w A = cle w B) : A = B := by
  refine (List.perm_iff_count.2 (fun a => ?_)).eq_of_pairwise (fun _ _ _ _ => Int.le_antisymm) hA hB
  have h1 := count_add_cle a A
  have h2 := count_add_cle a B
  rw [hc a, hc (a - 1)] at h1
  omega

theorem greedy_minimal {ns : List Nat} {es F : List Edge} (hnd : ns.Nodup)
    (hin : ∀ e, e ∈ es → e.src ∈ ns ∧ e.dst ∈ ns) (hs : SortedW es) (hF : ∀ e, e ∈ F → e ∈ es)
    (hj : ∀ u v, Joined F u v ↔ Joined es u v) (hac : SeqAcyclic F) :
    sumW (greedy es []) ≤ sumW F := by
  have hlen : (greedy es []).length = F.length :=
    seqAcyclic_length_eq hnd (fun e he => hin e (greedy_mem he)) (fun e he => hin e (hF e he))
      (greedy_seqAcyclic es) hac (fun u v => (greedy_joined es u v).trans (hj u v).symm)
  rw [sumW_eq_sum, sumW_eq_sum]
  apply majorise F.length
  · rw [List.length_map, hlen]
  · rw [List.length_map]
  · intro w
    rw [cle_map, cle_map]
    exact greedy_count_le hnd hin hs hF hac w

theorem greedy_weights_unique {ns : List Nat} {es es' : List Edge} (hnd : ns.Nodup)
    (hin : ∀ e, e ∈ es → e.src ∈ ns ∧ e.dst ∈ ns) (hp : es.Perm es') (hs : SortedW es)
    (hs' : SortedW es') :
    (greedy es []).reverse.map Edge.w = (greedy es' []).reverse.map Edge.w := by
  have hin' : ∀ e, e ∈ es' → e.src ∈ ns ∧ e.dst ∈ ns := fun e he => hin e (hp.mem_iff.2 he)
  apply sorted_eq_of_cle
  · exact List.pairwise_map.2 (greedy_weights_sorted hs)
  · exact List.pairwise_map.2 (greedy_weights_sorted hs')
  · intro w
    rw [cle_perm w ((List.reverse_perm _).map Edge.w), cle_perm w ((List.reverse_perm _).map Edge.w),
      cle_map, cle_map]
    apply Nat.le_antisymm
    · exact greedy_count_le hnd hin' hs' (fun e he => hp.mem_iff.1 (greedy_mem he))
        (greedy_seqAcyclic es) w
    · exact greedy_count_le hnd hin hs (fun e he => hp.mem_iff.2 (greedy_mem he))
        (greedy_seqAcyclic es') w

end Neumann.Paths
