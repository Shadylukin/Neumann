import NeumannModel.Locks.Lemmas
/-
  C12 — the wait-for graph as a relation: `reverse_edges` is the transpose of `edges` after every
  sequence of graph operations, and what `remove_transaction` therefore achieves.  Core Lean only.
-/
namespace Neumann.Locks

/-- holders `w` waits for (`edges[w]`, absent = empty) -/
def outs (g : WaitGraph) (w : Nat) : List Nat := (aGet g.edges w).getD []
/-- waiters on `h` (`reverse_edges[h]`, absent = empty) -/
def ins (g : WaitGraph) (h : Nat) : List Nat := (aGet g.reverse h).getD []

/-- `reverse_edges` is exactly the transpose of `edges` -/
def Transpose (g : WaitGraph) : Prop := ∀ w h, h ∈ outs g w ↔ w ∈ ins g h

theorem mem_get_aRemove (m : List (Nat × List Nat)) (k k' y : Nat) :
    y ∈ (aGet (aRemove m k) k').getD [] ↔ k' ≠ k ∧ y ∈ (aGet m k').getD [] := by
  rw [aGet_aRemove]
  by_cases h : k' = k <;> simp [h]

theorem mem_get_aInsert (m : List (Nat × List Nat)) (k k' y : Nat) (v : List Nat) :
    y ∈ (aGet (aInsert m k v) k').getD [] ↔ (k' = k ∧ y ∈ v) ∨ (k' ≠ k ∧ y ∈ (aGet m k').getD []) := by
  rw [aGet_aInsert]
  by_cases h : k = k'
  · subst h; simp
  · have : ¬ k' = k := fun e => h e.symm
    simp [h, this]

theorem mem_get_aModify_filter (m : List (Nat × List Nat)) (k k' t y : Nat) :
    y ∈ (aGet (aModify m k (fun s => s.filter (· != t))) k').getD [] ↔
      y ∈ (aGet m k').getD [] ∧ ¬ (k' = k ∧ y = t) := by
  rw [aGet_aModify]
  by_cases h : k' = k
  · subst h
    cases aGet m k' <;> simp
  · simp [h]

theorem mem_get_aModify_const (m : List (Nat × List Nat)) (k k' y : Nat) (v : List Nat)
    (hk : aGet m k ≠ none) :
    y ∈ (aGet (aModify m k (fun _ => v)) k').getD [] ↔
      (k' = k ∧ y ∈ v) ∨ (k' ≠ k ∧ y ∈ (aGet m k').getD []) := by
  rw [aGet_aModify]
  by_cases h : k' = k
  · subst h
    cases hg : aGet m k' with
    | none => exact absurd hg hk
    | some s => simp
  · simp [h]

theorem mem_setInsert (s : List Nat) (x y : Nat) : y ∈ setInsert s x ↔ y ∈ s ∨ y = x := by
  unfold setInsert
  by_cases h : x ∈ s
  · simp only [h, ↓reduceIte]
    constructor
    · exact Or.inl
    · rintro (a | a)
      · exact a
      · subst a; exact h
  · simp [h]

theorem mem_get_addToSet (m : List (Nat × List Nat)) (k x k' y : Nat) :
    y ∈ (aGet (addToSet m k x) k').getD [] ↔ y ∈ (aGet m k').getD [] ∨ (k' = k ∧ y = x) := by
  unfold addToSet
  cases hg : aGet m k with
  | none =>
    simp only
    rw [mem_get_aInsert]
    by_cases h : k' = k
    · subst h; simp [hg]
    · simp [h]
  | some s =>
    simp only
    rw [aGet_aModify]
    by_cases h : k' = k
    · subst h; simp [hg, mem_setInsert]
    · simp [h]

theorem eraseFromEach_nil (m : List (Nat × List Nat)) (tx : Nat) : eraseFromEach m [] tx = m := rfl

theorem mem_get_eraseFromEach (xs : List Nat) (m : List (Nat × List Nat)) (tx k y : Nat) :
    y ∈ (aGet (eraseFromEach m xs tx) k).getD [] ↔ y ∈ (aGet m k).getD [] ∧ ¬ (k ∈ xs ∧ y = tx) := by
  unfold eraseFromEach
  induction xs generalizing m with
  | nil => simp
  | cons a r ih =>
    simp only [List.foldl_cons]
    rw [ih, mem_get_aModify_filter]
    simp only [List.mem_cons]
    constructor
    · rintro ⟨⟨h1, h2⟩, h3⟩
      refine ⟨h1, ?_⟩
      rintro ⟨h4 | h4, h5⟩
      · exact h2 ⟨h4, h5⟩
      · exact h3 ⟨h4, h5⟩
    · rintro ⟨h1, h2⟩
      exact ⟨⟨h1, fun h => h2 ⟨Or.inl h.1, h.2⟩⟩, fun h => h2 ⟨Or.inr h.1, h.2⟩⟩

theorem mem_outs_addWait (g : WaitGraph) (now w h : Nat) (p : Option Nat) (a b : Nat) :
    b ∈ outs (addWait g now w h p) a ↔
      b ∈ outs g a ∨ (a = w ∧ b = h ∧ w ≠ h ∧
        ¬ (g.maxEdgesPerTx > 0 ∧ ((aGet g.edges w).getD []).length ≥ g.maxEdgesPerTx)) := by
  unfold addWait outs
  by_cases h1 : w = h
  · simp [h1]
  · by_cases h2 : g.maxEdgesPerTx > 0 ∧ ((aGet g.edges w).getD []).length ≥ g.maxEdgesPerTx
    · simp only [h1, ↓reduceIte, h2, and_self, not_true_eq_false, and_false, or_false]
      cases hg : aGet g.edges w with
      | some s => simp
      | none =>
        simp only
        rw [mem_get_aInsert]
        by_cases e : a = w
        · subst e; simp [hg]
        · simp [e]
    · simp only [h1, ↓reduceIte, h2, mem_get_addToSet, ne_eq, not_false_eq_true, and_true]

theorem mem_ins_addWait (g : WaitGraph) (now w h : Nat) (p : Option Nat) (a b : Nat) :
    a ∈ ins (addWait g now w h p) b ↔
      a ∈ ins g b ∨ (a = w ∧ b = h ∧ w ≠ h ∧
        ¬ (g.maxEdgesPerTx > 0 ∧ ((aGet g.edges w).getD []).length ≥ g.maxEdgesPerTx)) := by
  unfold addWait ins
  by_cases h1 : w = h
  · simp [h1]
  · by_cases h2 : g.maxEdgesPerTx > 0 ∧ ((aGet g.edges w).getD []).length ≥ g.maxEdgesPerTx
    · simp only [h1, ↓reduceIte, h2, and_self, not_true_eq_false, and_false, or_false]
      cases hg : aGet g.edges w <;> simp
    · simp only [h1, ↓reduceIte, h2, mem_get_addToSet, ne_eq, not_false_eq_true, and_true]
      constructor
      · rintro (x | ⟨x, y⟩)
        · exact Or.inl x
        · exact Or.inr ⟨y, x⟩
      · rintro (x | ⟨x, y⟩)
        · exact Or.inl x
        · exact Or.inr ⟨y, x⟩

theorem transpose_addWait (g : WaitGraph) (now w h : Nat) (p : Option Nat) (hT : Transpose g) :
    Transpose (addWait g now w h p) := by
  intro a b
  rw [mem_outs_addWait, mem_ins_addWait, hT a b]

/-- first block of `remove_wait` (forward edges) -/
def rwFwd (g : WaitGraph) (w h : Nat) : WaitGraph :=
  match aGet g.edges w with
  | some hs =>
    let hs' := hs.filter (· != h)
    if hs'.isEmpty then
      { g with edges := aRemove g.edges w, waitStarted := aRemove g.waitStarted w }
    else { g with edges := aModify g.edges w (fun _ => hs') }
  | none => g

/-- second block of `remove_wait` (reverse edges) -/
def rwRev (g1 : WaitGraph) (w h : Nat) : WaitGraph :=
  match aGet g1.reverse h with
  | some ws =>
    let ws' := ws.filter (· != w)
    if ws'.isEmpty then { g1 with reverse := aRemove g1.reverse h }
    else { g1 with reverse := aModify g1.reverse h (fun _ => ws') }
  | none => g1

theorem removeWait_eq (g : WaitGraph) (w h : Nat) : removeWait g w h = rwRev (rwFwd g w h) w h := rfl

/-- `if let Some(s) = m.get_mut(&k) { s.remove(&x); if s.is_empty() { m.remove(&k) } }`: what both
    blocks of `remove_wait` do to their map -/
def dropFrom (m : List (Nat × List Nat)) (k x : Nat) : List (Nat × List Nat) :=
  match aGet m k with
  | some s => if (s.filter (· != x)).isEmpty then aRemove m k else aModify m k (fun _ => s.filter (· != x))
  | none => m

theorem removeWait_edges (g : WaitGraph) (w h : Nat) : (removeWait g w h).edges = dropFrom g.edges w h := by
  have h1 : (rwRev (rwFwd g w h) w h).edges = (rwFwd g w h).edges := by
    unfold rwRev
    cases aGet (rwFwd g w h).reverse h with
    | none => rfl
    | some ws => exact (apply_ite WaitGraph.edges ..).trans (ite_self _)
  rw [removeWait_eq, h1, rwFwd, dropFrom]
  cases aGet g.edges w with
  | none => rfl
  | some hs => exact apply_ite WaitGraph.edges ..

theorem removeWait_reverse (g : WaitGraph) (w h : Nat) : (removeWait g w h).reverse = dropFrom g.reverse h w := by
  have h1 : (rwFwd g w h).reverse = g.reverse := by
    unfold rwFwd
    cases aGet g.edges w with
    | none => rfl
    | some hs => exact (apply_ite WaitGraph.reverse ..).trans (ite_self _)
  rw [removeWait_eq, rwRev, dropFrom, h1]
  cases aGet g.reverse h with
  | none => exact h1
  | some ws => exact apply_ite WaitGraph.reverse ..

theorem mem_get_dropFrom (m : List (Nat × List Nat)) (k x k' y : Nat) :
    y ∈ (aGet (dropFrom m k x) k').getD [] ↔ y ∈ (aGet m k').getD [] ∧ ¬ (k' = k ∧ y = x) := by
  unfold dropFrom
  cases hg : aGet m k with
  | none => exact ⟨fun hb => ⟨hb, fun ⟨e1, _⟩ => by rw [e1, hg] at hb; cases hb⟩, fun hb => hb.1⟩
  | some s =>
    dsimp only
    split
    · -- the set becomes empty and the entry goes: `x` was its only member
      rename_i e
      rw [List.isEmpty_iff] at e
      rw [mem_get_aRemove]
      refine ⟨fun ⟨h1, h2⟩ => ⟨h2, fun h3 => h1 h3.1⟩, fun ⟨h1, h2⟩ => ⟨fun e1 => ?_, h1⟩⟩
      rw [e1, hg] at h1
      have : y ∈ s.filter (· != x) := List.mem_filter.mpr ⟨h1, bne_iff_ne.mpr fun e2 => h2 ⟨e1, e2⟩⟩
      rw [e] at this; cases this
    · rw [mem_get_aModify_const _ _ _ _ _ (by rw [hg]; exact nofun)]
      by_cases e1 : k' = k
      · subst e1
        simp [hg, List.mem_filter]
      · simp [e1]

theorem mem_outs_removeWait (g : WaitGraph) (w h a b : Nat) :
    b ∈ outs (removeWait g w h) a ↔ b ∈ outs g a ∧ ¬ (a = w ∧ b = h) := by
  rw [outs, removeWait_edges]; exact mem_get_dropFrom ..

theorem mem_ins_removeWait (g : WaitGraph) (w h a b : Nat) :
    a ∈ ins (removeWait g w h) b ↔ a ∈ ins g b ∧ ¬ (a = w ∧ b = h) := by
  rw [ins, removeWait_reverse, mem_get_dropFrom, and_comm (a := a = w)]; rfl

theorem transpose_removeWait (g : WaitGraph) (w h : Nat) (hT : Transpose g) :
    Transpose (removeWait g w h) := by
  intro a b
  rw [mem_outs_removeWait, mem_ins_removeWait, hT a b]

/-- the two `if let Some(..)` loops are `eraseFromEach` over the (possibly absent = empty) sets -/
theorem removeTransaction_eq (g : WaitGraph) (tx : Nat) :
    removeTransaction g tx =
      let reverse1 := eraseFromEach g.reverse (outs g tx) tx
      { g with
        edges := eraseFromEach (aRemove g.edges tx) ((aGet reverse1 tx).getD []) tx
        reverse := aRemove reverse1 tx
        waitStarted := aRemove g.waitStarted tx, priorities := aRemove g.priorities tx } := by
  unfold removeTransaction outs
  cases h1 : aGet g.edges tx with
  | none =>
    simp only [Option.getD_none, eraseFromEach_nil]
    cases h2 : aGet g.reverse tx <;> simp [eraseFromEach_nil]
  | some hs =>
    simp only [Option.getD_some]
    cases h2 : aGet (eraseFromEach g.reverse hs tx) tx <;> simp [eraseFromEach_nil]

theorem mem_outs_removeTransaction (g : WaitGraph) (tx a b : Nat) (hT : Transpose g) :
    b ∈ outs (removeTransaction g tx) a ↔ b ∈ outs g a ∧ a ≠ tx ∧ b ≠ tx := by
  rw [removeTransaction_eq]
  simp only [outs, mem_get_eraseFromEach, mem_get_aRemove]
  constructor
  · rintro ⟨⟨h1, h2⟩, h3⟩
    refine ⟨h2, h1, ?_⟩
    intro e; subst e
    apply h3
    refine ⟨⟨(hT a b).mp h2, ?_⟩, rfl⟩
    rintro ⟨_, e2⟩
    exact h1 e2
  · rintro ⟨h1, h2, h3⟩
    exact ⟨⟨h2, h1⟩, fun h4 => h3 h4.2⟩

theorem mem_ins_removeTransaction (g : WaitGraph) (tx a b : Nat) (hT : Transpose g) :
    a ∈ ins (removeTransaction g tx) b ↔ a ∈ ins g b ∧ a ≠ tx ∧ b ≠ tx := by
  rw [removeTransaction_eq]
  simp only [ins, mem_get_eraseFromEach, mem_get_aRemove]
  constructor
  · rintro ⟨h1, h2, h3⟩
    refine ⟨h2, ?_, h1⟩
    intro e; subst e
    exact h3 ⟨(hT a b).mpr h2, rfl⟩
  · rintro ⟨h1, h2, h3⟩
    exact ⟨h3, h1, fun h4 => h2 h4.2⟩

theorem transpose_removeTransaction (g : WaitGraph) (tx : Nat) (hT : Transpose g) :
    Transpose (removeTransaction g tx) := by
  intro a b
  rw [mem_outs_removeTransaction g tx a b hT, mem_ins_removeTransaction g tx a b hT, hT a b]

theorem removeTransaction_absent (g : WaitGraph) (tx : Nat) (hT : Transpose g) :
    aGet (removeTransaction g tx).edges tx = none ∧
    aGet (removeTransaction g tx).reverse tx = none ∧
    (∀ w, tx ∉ outs (removeTransaction g tx) w) ∧
    (∀ h, tx ∉ ins (removeTransaction g tx) h) ∧
    aGet (removeTransaction g tx).waitStarted tx = none ∧
    aGet (removeTransaction g tx).priorities tx = none := by
  refine ⟨(removeTransaction_waiter_gone g tx).1, ?_, ?_, ?_, (removeTransaction_waiter_gone g tx).2.1,
    (removeTransaction_waiter_gone g tx).2.2⟩
  · rw [removeTransaction_eq]; simp [aGet_aRemove]
  · intro w h; exact ((mem_outs_removeTransaction g tx w tx hT).mp h).2.2 rfl
  · intro h hh; exact ((mem_ins_removeTransaction g tx tx h hT).mp hh).2.1 rfl

theorem transpose_foldl_removeTransaction (txs : List Nat) (g : WaitGraph) (hT : Transpose g) :
    Transpose (txs.foldl removeTransaction g) :=
  foldl_preserves txs g (fun g a _ => transpose_removeTransaction g a) hT

theorem transpose_empty (mx : Nat) : Transpose (WaitGraph.empty mx) := by
  intro w h; simp [outs, ins, WaitGraph.empty, aGet]

/-- every mutating operation the coordinator side performs on the pair (lock table, wait-for graph) -/
inductive COp
  /-- `try_lock_with_wait_tracking` -/
  | lockW (tx : Nat) (keys : List Nat) (prio : Option Nat)
  /-- `release_by_handle_with_wait_cleanup` -/
  | relHW (h : Nat)
  /-- `cleanup_expired_with_wait_cleanup` -/
  | cleanW
  /-- plain `try_lock` / `release` / `release_by_handle` / `cleanup_expired` -/
  | lock (tx : Nat) (keys : List Nat)
  | rel (tx : Nat)
  | relH (h : Nat)
  | clean
  /-- raw `WaitForGraph::{add_wait, remove_transaction, remove_wait}` (detector, victim abort …) -/
  | gAdd (w h : Nat) (prio : Option Nat)
  | gRm (tx : Nat)
  | gRmW (w h : Nat)
  /-- a transaction ends (commit / abort / timeout / recovery) with these recorded handles -/
  | endTx (tx : Nat) (handles : List Nat)
  /-- the same with the PRE-FIX sequence (only used by the witness) -/
  | endTxOld (tx : Nat) (handles : List Nat)
  | advance (d : Nat)
  | serializeRestore
  /-- `release_orphaned_locks(partition_start)`; `active` = the coordinator's pending ids -/
  | sweep (active : List Nat) (partitionStart : Nat)
  /-- `WaitForGraph::clear` -/
  | gClear
  /-- a coordinator loaded from its saved state starts with `WaitForGraph::new()` -/
  | gNew
  /-- `WaitForGraph::cleanup_stale_edges(ttl)` -/
  | gStale (ttl : Nat)
deriving Repr

structure CSys where
  t : LockTable
  g : WaitGraph
  now : Nat
deriving Repr

def CSys.init (timeout maxEdges : Nat) : CSys :=
  { t := LockTable.empty timeout, g := WaitGraph.empty maxEdges, now := 0 }

def cstep (s : CSys) : COp → CSys
  | .lockW tx keys prio =>
    let r := tryLockWait s.t s.g s.now s.now tx keys prio
    { s with t := r.1, g := r.2.1 }
  | .relHW h => let r := releaseByHandleWait s.t s.g h; { s with t := r.1, g := r.2 }
  | .cleanW => let r := cleanupExpiredWait s.t s.g s.now; { s with t := r.1, g := r.2.1 }
  | .lock tx keys => { s with t := (tryLock s.t s.now tx keys).1 }
  | .rel tx => { s with t := release s.t tx }
  | .relH h => { s with t := releaseByHandle s.t h }
  | .clean => { s with t := (cleanupExpired s.t s.now).1 }
  | .gAdd w h prio => { s with g := addWait s.g s.now w h prio }
  | .gRm tx => { s with g := removeTransaction s.g tx }
  | .gRmW w h => { s with g := removeWait s.g w h }
  | .endTx tx hs => let r := endTx s.t s.g tx hs; { s with t := r.1, g := r.2 }
  | .endTxOld tx hs => let r := endTxOld s.t s.g tx hs; { s with t := r.1, g := r.2 }
  | .advance d => { s with now := s.now + d }
  | .serializeRestore => { s with t := restore (serialize s.t) s.t.nextHandle }
  | .sweep active ps => let r := orphanSweep s.t s.g active ps; { s with t := r.1, g := r.2.1 }
  | .gClear => { s with g := clearGraph s.g }
  | .gNew => { s with g := WaitGraph.empty 0 }
  | .gStale ttl => { s with g := (cleanupStaleEdges s.g s.now ttl).1 }

def crun (ops : List COp) (s : CSys) : CSys := ops.foldl cstep s

/-- invariant of the pair: both table maps have unique keys, `reverse_edges` = transpose of `edges` -/
structure PairInv (s : CSys) : Prop where
  uq : s.t.Uniq
  tr : Transpose s.g

theorem uniq_releaseByHandle (t : LockTable) (h : Nat) (hu : t.Uniq) : (releaseByHandle t h).Uniq :=
  foldl_dropKey_uniq _ t hu

theorem uniq_cleanupExpired (t : LockTable) (now : Nat) (hu : t.Uniq) : (cleanupExpired t now).1.Uniq :=
  foldl_dropKey_uniq _ t hu

theorem tryLockWait_of_free {t : LockTable} {now tx : Nat} {keys : List Nat}
    (h : firstConflict t.locks now tx keys = none) (g : WaitGraph) (wnow : Nat) (prio : Option Nat) :
    tryLockWait t g now wnow tx keys prio = ((tryLock t now tx keys).1, removeTransaction g tx, .ok t.nextHandle) := by
  rw [tryLockWait, (conflicts_nil_iff ..).mpr h]; rfl

theorem tryLockWait_of_conflict {t : LockTable} {now tx : Nat} {keys : List Nat} {c : Nat}
    (h : firstConflict t.locks now tx keys = some c) (g : WaitGraph) (wnow : Nat) (prio : Option Nat) :
    tryLockWait t g now wnow tx keys prio =
      (t, ((conflicts t.locks now tx keys).foldl (fun s c => setInsert s c.2) []).foldl
            (fun g b => addWait g wnow tx b prio) g,
        .error ((conflicts t.locks now tx keys).map (·.1))) := by
  have : (conflicts t.locks now tx keys).isEmpty = false := by
    cases hc : conflicts t.locks now tx keys with
    | nil => rw [(conflicts_nil_iff ..).mp hc] at h; cases h
    | cons _ _ => rfl
  rw [tryLockWait]; dsimp only; rw [this]; rfl

theorem tryLockWait_table (t : LockTable) (g : WaitGraph) (now wnow tx : Nat) (keys : List Nat) (prio : Option Nat) :
    (tryLockWait t g now wnow tx keys prio).1 = (tryLock t now tx keys).1 := by
  cases hc : firstConflict t.locks now tx keys with
  | none => rw [tryLockWait_of_free hc]
  | some c => rw [tryLockWait_of_conflict hc, tryLock_of_conflict hc]

theorem tryLockWait_granted_iff (t : LockTable) (g : WaitGraph) (now wnow tx : Nat) (keys : List Nat) (prio : Option Nat) :
    (∃ h, (tryLockWait t g now wnow tx keys prio).2.2 = .ok h) ↔ firstConflict t.locks now tx keys = none := by
  cases hc : firstConflict t.locks now tx keys with
  | none => rw [tryLockWait_of_free hc]; exact ⟨fun _ => rfl, fun _ => ⟨_, rfl⟩⟩
  | some c => rw [tryLockWait_of_conflict hc]; exact ⟨fun ⟨_, h⟩ => (nomatch h), fun h => (nomatch h)⟩

theorem uniq_tryLockWait (t : LockTable) (g : WaitGraph) (now wnow tx : Nat) (keys : List Nat) (prio : Option Nat)
    (hu : t.Uniq) : (tryLockWait t g now wnow tx keys prio).1.Uniq :=
  tryLockWait_table .. ▸ uniq_tryLock t now tx keys hu

theorem transpose_tryLockWait (t : LockTable) (g : WaitGraph) (now wnow tx : Nat) (keys : List Nat) (prio : Option Nat)
    (tr : Transpose g) : Transpose (tryLockWait t g now wnow tx keys prio).2.1 := by
  cases hc : firstConflict t.locks now tx keys with
  | none => rw [tryLockWait_of_free hc]; exact transpose_removeTransaction g tx tr
  | some c => rw [tryLockWait_of_conflict hc]; exact foldl_preserves _ g (fun g b _ => transpose_addWait g wnow tx b prio) tr

theorem releaseByHandleWait_eq (t : LockTable) (g : WaitGraph) (h : Nat) :
    ∃ L : List Nat, releaseByHandleWait t g h = (releaseByHandle t h, L.foldl removeTransaction g) := by
  unfold releaseByHandleWait
  dsimp only
  split
  · exact ⟨[_], rfl⟩
  · exact ⟨[], rfl⟩

theorem releaseHandles_eq (hs : List Nat) (t : LockTable) (g : WaitGraph) :
    ∃ L : List Nat, releaseHandles t g hs = (hs.foldl releaseByHandle t, L.foldl removeTransaction g) := by
  unfold releaseHandles
  induction hs generalizing t g with
  | nil => exact ⟨[], rfl⟩
  | cons a r ih =>
    obtain ⟨L1, h1⟩ := releaseByHandleWait_eq t g a
    obtain ⟨L2, h2⟩ := ih (releaseByHandle t a) (L1.foldl removeTransaction g)
    exact ⟨L1 ++ L2, by rw [List.foldl_cons, h1, h2, List.foldl_cons, List.foldl_append]⟩

theorem releaseByHandleWait_table (t : LockTable) (g : WaitGraph) (h : Nat) :
    (releaseByHandleWait t g h).1 = releaseByHandle t h := by
  obtain ⟨L, hL⟩ := releaseByHandleWait_eq t g h; rw [hL]

theorem releaseHandles_table (hs : List Nat) (t : LockTable) (g : WaitGraph) :
    (releaseHandles t g hs).1 = hs.foldl releaseByHandle t := by
  obtain ⟨L, hL⟩ := releaseHandles_eq hs t g; rw [hL]

theorem uniq_foldl_releaseByHandle (hs : List Nat) (t : LockTable) (hu : t.Uniq) :
    (hs.foldl releaseByHandle t).Uniq :=
  foldl_preserves hs t (fun t a _ => uniq_releaseByHandle t a) hu

theorem transpose_releaseHandles (hs : List Nat) (t : LockTable) (g : WaitGraph) (tr : Transpose g) :
    Transpose (releaseHandles t g hs).2 := by
  obtain ⟨L, hL⟩ := releaseHandles_eq hs t g
  rw [hL]; exact transpose_foldl_removeTransaction L g tr

theorem pairInv_init (timeout maxEdges : Nat) : PairInv (CSys.init timeout maxEdges) :=
  ⟨uniq_empty timeout, transpose_empty maxEdges⟩

theorem pairInv_step (s : CSys) (op : COp) (hi : PairInv s) : PairInv (cstep s op) := by
  have hrel (hs : List Nat) : (releaseHandles s.t s.g hs).1.Uniq :=
    releaseHandles_table hs s.t s.g ▸ uniq_foldl_releaseByHandle hs s.t hi.uq
  cases op with
  | lockW tx keys prio =>
    exact ⟨uniq_tryLockWait _ _ _ _ _ _ _ hi.uq, transpose_tryLockWait _ _ _ _ _ _ _ hi.tr⟩
  | relHW h =>
    exact ⟨hrel [h], transpose_releaseHandles [h] s.t s.g hi.tr⟩
  | cleanW =>
    exact ⟨uniq_cleanupExpired s.t s.now hi.uq, transpose_foldl_removeTransaction _ _ hi.tr⟩
  | lock tx keys => exact ⟨uniq_tryLock s.t s.now tx keys hi.uq, hi.tr⟩
  | rel tx => exact ⟨uniq_release s.t tx hi.uq, hi.tr⟩
  | relH h => exact ⟨uniq_releaseByHandle s.t h hi.uq, hi.tr⟩
  | clean => exact ⟨uniq_cleanupExpired s.t s.now hi.uq, hi.tr⟩
  | gAdd w h prio => exact ⟨hi.uq, transpose_addWait _ _ _ _ _ hi.tr⟩
  | gRm tx => exact ⟨hi.uq, transpose_removeTransaction _ _ hi.tr⟩
  | gRmW w h => exact ⟨hi.uq, transpose_removeWait _ _ _ hi.tr⟩
  | endTx tx hs =>
    exact ⟨hrel hs, transpose_removeTransaction _ tx (transpose_releaseHandles hs s.t s.g hi.tr)⟩
  | endTxOld tx hs => exact ⟨hrel hs, transpose_releaseHandles hs s.t s.g hi.tr⟩
  | advance | serializeRestore => exact ⟨hi.uq, hi.tr⟩
  | sweep active ps =>
    exact ⟨foldl_sweepKey_uniq _ s.t hi.uq, transpose_foldl_removeTransaction _ _ hi.tr⟩
  | gClear | gNew => exact ⟨hi.uq, transpose_empty _⟩
  | gStale ttl => exact ⟨hi.uq, transpose_foldl_removeTransaction _ _ hi.tr⟩

theorem pairInv_run (ops : List COp) (s : CSys) (hi : PairInv s) : PairInv (crun ops s) :=
  foldl_preserves ops s (fun s op _ => pairInv_step s op) hi

theorem crun_concat (ops : List COp) (op : COp) (s : CSys) : crun (ops ++ [op]) s = cstep (crun ops s) op := by
  rw [crun, List.foldl_append]; rfl

theorem releaseByHandle_locks (t : LockTable) (h k : Nat) (l : KeyLock)
    (nd : (t.locks.map (·.1)).Nodup) (hl : aGet (releaseByHandle t h).locks k = some l) :
    aGet t.locks k = some l ∧ l.handle ≠ h := by
  rw [aGet_releaseByHandle t h k nd] at hl
  obtain ⟨h1, h2⟩ := Option.filter_eq_some_iff.mp hl
  exact ⟨h1, by simpa using h2⟩

theorem foldl_releaseByHandle_locks (hs : List Nat) (t : LockTable) (hu : t.Uniq) (k : Nat) (l : KeyLock)
    (hl : aGet (hs.foldl releaseByHandle t).locks k = some l) : aGet t.locks k = some l ∧ l.handle ∉ hs := by
  induction hs generalizing t with
  | nil => exact ⟨hl, List.not_mem_nil⟩
  | cons a r ih =>
    obtain ⟨h1, h2⟩ := ih (releaseByHandle t a) (uniq_releaseByHandle t a hu) hl
    obtain ⟨h3, h4⟩ := releaseByHandle_locks t a k l hu.locks h1
    exact ⟨h3, fun hm => (List.mem_cons.mp hm).elim h4 h2⟩

/-- the lock-table operations a coordinator-side operation performs -/
def cproj : COp → List Op
  | .lockW tx keys _ => [.tryLock tx keys]
  | .relHW h => [.releaseByHandle h]
  | .cleanW => [.cleanupExpired]
  | .lock tx keys => [.tryLock tx keys]
  | .rel tx => [.release tx]
  | .relH h => [.releaseByHandle h]
  | .clean => [.cleanupExpired]
  | .gAdd _ _ _ => []
  | .gRm _ => []
  | .gRmW _ _ => []
  | .endTx _ hs => hs.map .releaseByHandle
  | .endTxOld _ hs => hs.map .releaseByHandle
  | .advance d => [.advance d]
  | .serializeRestore => [.serializeRestore]
  | .sweep active ps => [.sweep active ps]
  | .gClear => []
  | .gNew => []
  | .gStale _ => []

theorem run_append (a b : List Op) (s : Sys) : run (a ++ b) s = run b (run a s) :=
  List.foldl_append

theorem cstep_table (s : CSys) (op : COp) (ghost : List Grant) :
    (run (cproj op) ⟨s.t, s.now, ghost⟩).t = (cstep s op).t ∧ (run (cproj op) ⟨s.t, s.now, ghost⟩).now = (cstep s op).now := by
  have hloop (hs : List Nat) : ∀ (t : LockTable) (ghost : List Grant),
      (run (hs.map .releaseByHandle) ⟨t, s.now, ghost⟩).t = hs.foldl releaseByHandle t ∧
      (run (hs.map .releaseByHandle) ⟨t, s.now, ghost⟩).now = s.now := by
    induction hs with
    | nil => exact fun _ _ => ⟨rfl, rfl⟩
    | cons a r ih => exact fun t ghost => ih (releaseByHandle t a) _
  have htry (tx : Nat) (keys : List Nat) :
      (step ⟨s.t, s.now, ghost⟩ (.tryLock tx keys)).t = (tryLock s.t s.now tx keys).1 ∧
      (step ⟨s.t, s.now, ghost⟩ (.tryLock tx keys)).now = s.now := by
    unfold step
    dsimp only
    cases tryLock s.t s.now tx keys with
    | mk t' r => cases r <;> exact ⟨rfl, rfl⟩
  cases op with
  | lockW tx keys prio => exact ⟨(htry tx keys).1.trans (tryLockWait_table ..).symm, (htry tx keys).2⟩
  | lock tx keys => exact htry tx keys
  | relHW h => exact ⟨(releaseByHandleWait_table ..).symm, rfl⟩
  | endTx tx hs | endTxOld tx hs =>
    exact ⟨(hloop hs s.t ghost).1.trans (releaseHandles_table hs s.t s.g).symm, (hloop hs s.t ghost).2⟩
  | cleanW | rel | relH | clean | gAdd | gRm | gRmW | advance | serializeRestore | sweep | gClear | gNew | gStale =>
    exact ⟨rfl, rfl⟩

/-- **Refinement**: along any sequence of coordinator-side operations the lock table and the clock
    evolve exactly as under the projected sequence of plain lock-table operations -/
theorem crun_table (ops : List COp) (s : CSys) (gs : Sys) (ht : gs.t = s.t) (hn : gs.now = s.now) :
    (run (ops.flatMap cproj) gs).t = (crun ops s).t ∧ (run (ops.flatMap cproj) gs).now = (crun ops s).now := by
  induction ops generalizing s gs with
  | nil => exact ⟨ht, hn⟩
  | cons op r ih =>
    rw [List.flatMap_cons, run_append]
    obtain ⟨t, now, ghost⟩ := gs
    cases ht; cases hn
    exact ih (cstep s op) _ (cstep_table s op ghost).1 (cstep_table s op ghost).2

end Neumann.Locks
