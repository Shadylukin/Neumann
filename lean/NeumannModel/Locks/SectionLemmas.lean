import NeumannModel.Locks.SectionModel
import NeumannModel.Locks.CoordLemmas
/-
  C12 — helper lemmas for the critical-section model (`SectionModel.lean`): the invariant `Inv`
  kept by every step of every thread (code as it is, `early = false`), and the composition of a
  thread's steps into the whole-call operations of `Model.lean`.  Core Lean only.
-/
namespace Neumann.Locks.Section
open Neumann.Locks

theorem aGet_addToSet_ne (m : List (Nat × List Nat)) (k x k' : Nat) (h : k' ≠ k) :
    aGet (addToSet m k x) k' = aGet m k' := by
  unfold addToSet
  cases aGet m k with
  | none => exact (aGet_aInsert ..).trans (if_neg (Ne.symm h))
  | some s => exact (aGet_aModify ..).trans (if_neg h)

theorem addWait_other (g : WaitGraph) (now w h : Nat) (p : Option Nat) (x : Nat) (h1 : x ≠ w) (h2 : x ≠ h) :
    aGet (addWait g now w h p).edges x = aGet g.edges x ∧ aGet (addWait g now w h p).reverse x = aGet g.reverse x ∧
    aGet (addWait g now w h p).waitStarted x = aGet g.waitStarted x ∧
    aGet (addWait g now w h p).priorities x = aGet g.priorities x := by
  have ins {β : Type} (m : List (Nat × β)) (v : β) : aGet (aInsert m w v) x = aGet m x :=
    (aGet_aInsert ..).trans (if_neg (Ne.symm h1))
  unfold addWait
  by_cases e1 : w = h
  · rw [if_pos e1]; exact ⟨rfl, rfl, rfl, rfl⟩
  · rw [if_neg e1]
    by_cases e2 : g.maxEdgesPerTx > 0 ∧ ((aGet g.edges w).getD []).length ≥ g.maxEdgesPerTx
    · rw [if_pos e2]
      cases aGet g.edges w with
      | some _ => exact ⟨rfl, rfl, rfl, rfl⟩
      | none => exact ⟨ins _ _, rfl, rfl, rfl⟩
    · rw [if_neg e2]
      refine ⟨aGet_addToSet_ne _ _ _ _ h1, aGet_addToSet_ne _ _ _ _ h2, ?_, ?_⟩
      · cases aGet g.waitStarted w with
        | some _ => rfl
        | none => exact ins _ _
      · cases p with
        | none => rfl
        | some q => exact ins _ _

theorem absent_addWait (g : WaitGraph) (now w h : Nat) (p : Option Nat) (x : Nat)
    (ha : Absent g x) (h1 : x ≠ w) (h2 : x ≠ h) : Absent (addWait g now w h p) x := by
  obtain ⟨a1, a2, a3, a4, a5, a6⟩ := ha
  obtain ⟨e1, e2, e3, e4⟩ := addWait_other g now w h p x h1 h2
  refine ⟨e1.trans a1, e2.trans a2, fun a hx => ?_, fun b hx => ?_, e3.trans a5, e4.trans a6⟩
  · rcases (mem_outs_addWait g now w h p a x).mp hx with hx | ⟨_, hx, _⟩
    · exact a3 a hx
    · exact h2 hx
  · rcases (mem_ins_addWait g now w h p x b).mp hx with hx | ⟨hx, _⟩
    · exact a4 b hx
    · exact h1 hx

theorem get_set (ths : List Th) (i j : Nat) (th th' : Th) (h : ths[i]? = some th) :
    (ths.set i th')[j]? = if j = i then some th' else ths[j]? := by
  rw [List.getElem?_set]
  by_cases e : i = j
  · rw [if_pos e, if_pos e.symm, if_pos (e ▸ (List.getElem?_eq_some_iff.mp h).1)]
  · rw [if_neg e, if_neg (Ne.symm e)]

/-- the blockers of a refused prepare hold a lock (whatever its age) at the moment of the scan -/
theorem blocker_holds_lock (locks : List (Nat × KeyLock)) (now tx : Nat) (keys : List Nat) (b : Nat)
    (hb : b ∈ blockersOf (conflicts locks now tx keys)) :
    ∃ k l, aGet locks k = some l ∧ l.tx = b := by
  rcases (mem_foldl_setInsert_snd ..).mp hb with hb | ⟨k, hk⟩
  · cases hb
  · obtain ⟨_, l, h1, _, _, h4⟩ := (mem_conflicts locks now tx keys k b).mp hk
    exact ⟨k, l, h1, h4⟩

theorem step_done (e : Bool) (s : St) (i now : Nat) (th : Th)
    (h1 : s.ths[i]? = some th) (h2 : th.pc = .done) : step e s i now = none := by
  unfold step; simp only [h1, h2]

theorem step_blocked (e : Bool) (s : St) (i now : Nat) (th : Th) (h1 : s.ths[i]? = some th)
    (h2 : (∃ h hs, th.pc = .ending (h :: hs)) ∨ (∃ ks r, th.pc = .prep (ks :: r)))
    (hg : s.guard.isSome = true) : step e s i now = none := by
  unfold step
  rcases h2 with ⟨h, hs, h2⟩ | ⟨ks, r, h2⟩ <;> simp only [h1, h2, hg, if_true]

theorem step_prep_nil (e : Bool) (s : St) (i now : Nat) (th : Th)
    (h1 : s.ths[i]? = some th) (h2 : th.pc = .prep []) :
    step e s i now = some { s with ths := s.ths.set i { th with pc := .ending th.handles } } := by
  unfold step; simp only [h1, h2]

theorem step_prep_grant (e : Bool) (s : St) (i now : Nat) (th : Th) (ks : List Nat) (rest : List (List Nat))
    (h1 : s.ths[i]? = some th) (h2 : th.pc = .prep (ks :: rest)) (hg : s.guard = none)
    (hc : (conflicts s.t.locks now i ks).isEmpty = true) :
    step e s i now = some { s with t := (tryLock s.t now i ks).1, guard := some i
                                   ths := s.ths.set i { pc := .granted rest, handles := th.handles ++ [s.t.nextHandle] } } := by
  unfold step; simp only [h1, h2, hg, hc, Option.isSome_none, Bool.false_eq_true, ↓reduceIte]

theorem step_prep_refuse (e : Bool) (s : St) (i now : Nat) (th : Th) (ks : List Nat) (rest : List (List Nat))
    (h1 : s.ths[i]? = some th) (h2 : th.pc = .prep (ks :: rest)) (hg : s.guard = none)
    (hc : (conflicts s.t.locks now i ks).isEmpty = false) :
    step e s i now = some { s with guard := if e then none else some i
                                   ths := s.ths.set i { th with pc := .adding (blockersOf (conflicts s.t.locks now i ks)) rest } } := by
  unfold step; simp only [h1, h2, hg, hc, Option.isSome_none, Bool.false_eq_true, ↓reduceIte]

theorem step_granted (e : Bool) (s : St) (i now : Nat) (th : Th) (rest : List (List Nat))
    (h1 : s.ths[i]? = some th) (h2 : th.pc = .granted rest) :
    step e s i now = some { s with g := removeTransaction s.g i, ths := s.ths.set i { th with pc := .adding [] rest } } := by
  unfold step; simp only [h1, h2]

theorem step_adding_cons (e : Bool) (s : St) (i now : Nat) (th : Th) (b : Nat) (bs : List Nat) (rest : List (List Nat))
    (h1 : s.ths[i]? = some th) (h2 : th.pc = .adding (b :: bs) rest) :
    step e s i now = some { s with g := addWait s.g now i b none, ths := s.ths.set i { th with pc := .adding bs rest } } := by
  unfold step; simp only [h1, h2]

theorem step_adding_nil (e : Bool) (s : St) (i now : Nat) (th : Th) (rest : List (List Nat))
    (h1 : s.ths[i]? = some th) (h2 : th.pc = .adding [] rest) :
    step e s i now = some { s with guard := if s.guard = some i then none else s.guard
                                   ths := s.ths.set i { th with pc := .prep rest } } := by
  unfold step; simp only [h1, h2]

theorem step_ending_cons (e : Bool) (s : St) (i now : Nat) (th : Th) (h : Nat) (hs : List Nat)
    (h1 : s.ths[i]? = some th) (h2 : th.pc = .ending (h :: hs)) (hg : s.guard = none) :
    step e s i now = some { s with t := releaseByHandle s.t h
                                   ths := s.ths.set i { th with pc :=
                                     match ((s.t.locks.filter (fun p => p.2.handle == h)).map (·.2.tx)).getLast? with
                                     | some x => .cleaning x hs
                                     | none => .ending hs } } := by
  unfold step
  simp only [h1, h2, hg, Option.isSome_none, Bool.false_eq_true, ↓reduceIte]
  cases ((s.t.locks.filter (fun p => p.2.handle == h)).map (·.2.tx)).getLast? <;> rfl

theorem step_cleaning (e : Bool) (s : St) (i now : Nat) (th : Th) (x : Nat) (hs : List Nat)
    (h1 : s.ths[i]? = some th) (h2 : th.pc = .cleaning x hs) :
    step e s i now = some { s with g := removeTransaction s.g x, ths := s.ths.set i { th with pc := .ending hs } } := by
  unfold step; simp only [h1, h2]

theorem step_ending_nil (e : Bool) (s : St) (i now : Nat) (th : Th)
    (h1 : s.ths[i]? = some th) (h2 : th.pc = .ending []) :
    step e s i now = some { s with g := removeTransaction s.g i, ended := i :: s.ended
                                   ths := s.ths.set i { th with pc := .done } } := by
  unfold step; simp only [h1, h2]

structure Inv (s : St) : Prop where
  uq : s.t.Uniq
  tr : Transpose s.g
  /-- an ended transaction is nowhere in the wait-for graph -/
  abs : ∀ x ∈ s.ended, Absent s.g x
  /-- …and its thread has finished -/
  fin : ∀ x ∈ s.ended, ∀ th, s.ths[x]? = some th → th.pc = .done
  /-- every lock carries a handle its owner's thread will still release -/
  own : ∀ k l, aGet s.t.locks k = some l → ∃ th, s.ths[l.tx]? = some th ∧ l.handle ∈ remaining th
  /-- a thread that still has edges to record holds the lock-table guards, and each blocker it
      is going to name still has a lock in the table -/
  sec : ∀ i th bs rest, s.ths[i]? = some th → th.pc = .adding bs rest →
    ∀ b ∈ bs, s.guard = some i ∧ ∃ k l, aGet s.t.locks k = some l ∧ l.tx = b

theorem inv_init (timeout maxEdges : Nat) (progs : List (List (List Nat))) :
    Inv (init timeout maxEdges progs) := by
  refine ⟨uniq_empty _, transpose_empty _, fun _ => nofun, fun _ => nofun, fun _ _ => nofun, ?_⟩
  intro i th bs rest h hpc
  -- every thread starts at `prep`
  obtain ⟨p, _, rfl⟩ := Option.map_eq_some_iff.mp (List.getElem?_map.symm.trans h)
  cases hpc

/-- an ended transaction is neither the stepping thread's (it is not `done`) … -/
theorem ended_ne_running (s : St) (hi : Inv s) (i x : Nat) (th : Th) (hth : s.ths[i]? = some th)
    (hpc : th.pc ≠ .done) (hx : x ∈ s.ended) : x ≠ i :=
  fun e => hpc (hi.fin x hx th (e ▸ hth))

/-- … nor the owner of a lock in the table -/
theorem ended_ne_owner (s : St) (hi : Inv s) (x k : Nat) (l : KeyLock) (hl : aGet s.t.locks k = some l)
    (hx : x ∈ s.ended) : x ≠ l.tx := by
  rintro rfl
  obtain ⟨th, h1, h2⟩ := hi.own k l hl
  rw [remaining, hi.fin l.tx hx th h1] at h2
  cases h2

theorem fin_keep (s : St) (hi : Inv s) (i : Nat) (th th' : Th) (hth : s.ths[i]? = some th) (hnd : th.pc ≠ .done) :
    ∀ x ∈ s.ended, ∀ thx, (s.ths.set i th')[x]? = some thx → thx.pc = .done := by
  intro x hx thx h
  rw [get_set _ _ _ _ _ hth, if_neg (ended_ne_running s hi i x th hth hnd hx)] at h
  exact hi.fin x hx thx h

theorem own_keep (ths : List Th) (i : Nat) (th th' : Th) (hth : ths[i]? = some th)
    (hsub : ∀ h ∈ remaining th, h ∈ remaining th') (tx h : Nat)
    (ho : ∃ tho, ths[tx]? = some tho ∧ h ∈ remaining tho) :
    ∃ tho, (ths.set i th')[tx]? = some tho ∧ h ∈ remaining tho := by
  obtain ⟨tho, h1, h2⟩ := ho
  rw [get_set ths i tx th th' hth]
  split
  · rename_i e
    cases (e ▸ hth).symm.trans h1
    exact ⟨th', rfl, hsub h h2⟩
  · exact ⟨tho, h1, h2⟩

theorem sec_keep (s : St) (hi : Inv s) (i : Nat) (th th' : Th) (hth : s.ths[i]? = some th)
    (t' : LockTable) (gd' : Option Nat)
    (hself : ∀ bs rest, th'.pc = .adding bs rest → ∀ b ∈ bs, gd' = some i ∧ ∃ k l, aGet t'.locks k = some l ∧ l.tx = b)
    (hoth : ∀ j, j ≠ i → s.guard = some j → gd' = some j ∧ t'.locks = s.t.locks) :
    ∀ j thj bs rest, (s.ths.set i th')[j]? = some thj → thj.pc = .adding bs rest →
      ∀ b ∈ bs, gd' = some j ∧ ∃ k l, aGet t'.locks k = some l ∧ l.tx = b := by
  intro j thj bs rest hj hpc b hb
  rw [get_set _ _ _ _ _ hth] at hj
  split at hj
  · rename_i e
    cases hj
    exact e ▸ hself bs rest hpc b hb
  · rename_i e
    obtain ⟨h1, h2⟩ := hi.sec j thj bs rest hj hpc b hb
    obtain ⟨g1, g2⟩ := hoth j e h1
    exact ⟨g1, g2 ▸ h2⟩

/-- **Every step of every thread keeps the invariant** (code as it is: the guards are held from
    the conflict scan to the last `add_wait`). -/
theorem inv_step (s s' : St) (i now : Nat) (hi : Inv s) (hs : step false s i now = some s') : Inv s' := by
  cases hth : s.ths[i]? with
  | none => rw [step, hth] at hs; cases hs
  | some th =>
    have fin' (th' : Th) (hnd : th.pc ≠ .done) := fin_keep s hi i th th' hth hnd
    have own' (th' : Th) (hsub : ∀ h ∈ remaining th, h ∈ remaining th') (k : Nat) (l : KeyLock)
        (hl : aGet s.t.locks k = some l) := own_keep s.ths i th th' hth hsub _ _ (hi.own k l hl)
    have sec' (th' : Th) (hself : ∀ bs rest, th'.pc = .adding bs rest → bs = []) :=
      sec_keep s hi i th th' hth s.t s.guard (fun bs rest h b hb => by rw [hself bs rest h] at hb; cases hb)
        (fun _ _ h => ⟨h, rfl⟩)
    -- with the guards free nobody is between a scan and its last `add_wait`
    have free (hg : s.guard = none) (t' : LockTable) (gd' : Option Nat) :
        ∀ j, j ≠ i → s.guard = some j → gd' = some j ∧ t'.locks = s.t.locks :=
      fun j _ h => nomatch hg.symm.trans h
    cases hpc : th.pc with
    | done => cases (step_done _ s i now th hth hpc).symm.trans hs
    | prep shards =>
      have hnd : th.pc ≠ .done := hpc ▸ nofun
      have hrem : remaining th = th.handles := by rw [remaining, hpc]
      cases shards with
      | nil =>
        cases (step_prep_nil _ s i now th hth hpc).symm.trans hs
        exact ⟨hi.uq, hi.tr, hi.abs, fin' _ hnd, own' _ (fun h hh => hrem ▸ hh), sec' _ (fun _ _ => nofun)⟩
      | cons ks rest =>
        cases hg : s.guard with
        | some j =>
          cases (step_blocked _ s i now th hth (Or.inr ⟨ks, rest, hpc⟩) (hg ▸ rfl)).symm.trans hs
        | none =>
          cases hc : (conflicts s.t.locks now i ks).isEmpty with
          | true =>
            cases (step_prep_grant _ s i now th ks rest hth hpc hg hc).symm.trans hs
            have hfc : firstConflict s.t.locks now i ks = none :=
              (conflicts_nil_iff ..).mp (List.isEmpty_iff.mp hc)
            refine ⟨uniq_tryLock s.t now i ks hi.uq, hi.tr, hi.abs, fin' _ hnd, fun k l hl => ?_,
              sec_keep s hi i th _ hth _ _ (fun _ _ => nofun) (free hg _ _)⟩
            -- a granted key carries the new handle, which the thread records
            rw [tryLock_of_free hfc, show aGet _ k = _ from aGet_acquireAll ..] at hl
            by_cases hk : k ∈ ks
            · rw [if_pos hk] at hl; cases hl
              exact ⟨_, (get_set _ _ _ _ _ hth).trans (if_pos rfl), List.mem_append_right _ (List.mem_singleton_self _)⟩
            · rw [if_neg hk] at hl
              exact own_keep s.ths i th _ hth (fun h hh => List.mem_append_left _ (hrem ▸ hh)) _ _ (hi.own k l hl)
          | false =>
            cases (step_prep_refuse _ s i now th ks rest hth hpc hg hc).symm.trans hs
            exact ⟨hi.uq, hi.tr, hi.abs, fin' _ hnd, own' _ (fun h hh => hrem ▸ hh),
              sec_keep s hi i th _ hth _ _
                (fun bs r e b hb => by cases e; exact ⟨rfl, blocker_holds_lock _ _ _ _ _ hb⟩) (free hg _ _)⟩
    | granted rest =>
      have hnd : th.pc ≠ .done := hpc ▸ nofun
      have hrem : remaining th = th.handles := by rw [remaining, hpc]
      cases (step_granted _ s i now th rest hth hpc).symm.trans hs
      exact ⟨hi.uq, transpose_removeTransaction _ _ hi.tr,
        fun x hx => absent_removeTransaction _ _ _ hi.tr (Or.inr (hi.abs x hx)),
        fin' _ hnd, own' _ (fun h hh => hrem ▸ hh), sec' _ (fun bs r e => by cases e; rfl)⟩
    | adding bs0 rest =>
      have hnd : th.pc ≠ .done := hpc ▸ nofun
      have hrem : remaining th = th.handles := by rw [remaining, hpc]
      cases bs0 with
      | cons b0 bs1 =>
        cases (step_adding_cons _ s i now th b0 bs1 rest hth hpc).symm.trans hs
        have hsec := hi.sec i th (b0 :: bs1) rest hth hpc
        obtain ⟨_, k0, l0, hl0, hb0⟩ := hsec b0 List.mem_cons_self
        refine ⟨hi.uq, transpose_addWait _ _ _ _ _ hi.tr, fun x hx => ?_, fin' _ hnd,
          own' _ (fun h hh => hrem ▸ hh),
          sec_keep s hi i th _ hth s.t s.guard
            (fun bs r e b hb => by cases e; exact hsec b (List.mem_cons_of_mem _ hb)) (fun _ _ h => ⟨h, rfl⟩)⟩
        -- neither end of the new edge has ended: `i` is running and `b0` holds a lock
        exact absent_addWait _ _ _ _ _ _ (hi.abs x hx) (ended_ne_running s hi i x th hth hnd hx)
          (hb0 ▸ ended_ne_owner s hi x k0 l0 hl0 hx)
      | nil =>
        cases (step_adding_nil _ s i now th rest hth hpc).symm.trans hs
        refine ⟨hi.uq, hi.tr, hi.abs, fin' _ hnd, own' _ (fun h hh => hrem ▸ hh),
          sec_keep s hi i th _ hth s.t _ (fun _ _ => nofun) fun j hj h => ⟨?_, rfl⟩⟩
        rw [h, if_neg fun e => hj (Option.some.inj e)]
    | ending hs0 =>
      have hnd : th.pc ≠ .done := hpc ▸ nofun
      have hrem : remaining th = hs0 := by rw [remaining, hpc]
      cases hs0 with
      | nil =>
        cases (step_ending_nil _ s i now th hth hpc).symm.trans hs
        refine ⟨hi.uq, transpose_removeTransaction _ _ hi.tr, fun x hx => ?_, fun x hx thx h => ?_,
          own' _ (fun h hh => by rw [hrem] at hh; cases hh), sec' _ (fun _ _ => nofun)⟩
        · exact absent_removeTransaction _ _ _ hi.tr
            ((List.mem_cons.mp hx).imp id (hi.abs x))
        · rw [get_set _ _ _ _ _ hth] at h
          by_cases e : x = i
          · rw [if_pos e] at h; cases h; rfl
          · rw [if_neg e] at h
            exact hi.fin x ((List.mem_cons.mp hx).resolve_left e) thx h
      | cons h hs1 =>
        cases hg : s.guard with
        | some j =>
          cases (step_blocked _ s i now th hth (Or.inl ⟨h, hs1, hpc⟩) (hg ▸ rfl)).symm.trans hs
        | none =>
          cases (step_ending_cons _ s i now th h hs1 hth hpc hg).symm.trans hs
          -- both outcomes (a lock carried the handle or not) leave `hs1` to release
          have hpc' : ∀ o : Option Nat,
              remaining { th with pc := match o with | some x => Pc.cleaning x hs1 | none => Pc.ending hs1 } = hs1 ∧
              ∀ (bs : List Nat) (r : List (List Nat)),
                (match o with | some x => Pc.cleaning x hs1 | none => Pc.ending hs1) ≠ Pc.adding bs r :=
            fun o => by cases o <;> exact ⟨rfl, fun _ _ e => Pc.noConfusion e⟩
          obtain ⟨hrem', hna⟩ := hpc' ((s.t.locks.filter (fun p => p.2.handle == h)).map (·.2.tx)).getLast?
          refine ⟨uniq_releaseByHandle s.t h hi.uq, hi.tr, hi.abs, fin' _ hnd, fun k l hl => ?_,
            sec_keep s hi i th _ hth _ _ (fun bs r e => absurd e (hna bs r)) (free hg _ _)⟩
          obtain ⟨hl0, hne⟩ := releaseByHandle_locks s.t h k l hi.uq.locks hl
          obtain ⟨tho, h1, h2⟩ := hi.own k l hl0
          rw [get_set _ _ _ _ _ hth]
          by_cases e : l.tx = i
          · rw [if_pos e]
            cases (e ▸ hth).symm.trans h1
            rw [hrem] at h2
            exact ⟨_, rfl, by rw [hrem']; exact (List.mem_cons.mp h2).resolve_left hne⟩
          · rw [if_neg e]; exact ⟨tho, h1, h2⟩
    | cleaning x hs1 =>
      have hnd : th.pc ≠ .done := hpc ▸ nofun
      have hrem : remaining th = hs1 := by rw [remaining, hpc]
      cases (step_cleaning _ s i now th x hs1 hth hpc).symm.trans hs
      exact ⟨hi.uq, transpose_removeTransaction _ _ hi.tr,
        fun y hy => absent_removeTransaction _ _ _ hi.tr (Or.inr (hi.abs y hy)),
        fin' _ hnd, own' _ (fun h hh => hrem ▸ hh), sec' _ (fun _ _ => nofun)⟩

theorem inv_run (sched : List (Nat × Nat)) (s s' : St) (hi : Inv s) (hr : run false s sched = some s') :
    Inv s' := by
  induction sched generalizing s with
  | nil => cases hr; exact hi
  | cons a r ih =>
    obtain ⟨i, now⟩ := a
    rw [run] at hr
    cases hs : step false s i now with
    | none => rw [hs] at hr; cases hr
    | some s1 => rw [hs] at hr; exact ih s1 (inv_step s s1 i now hi hs) hr

theorem run_append_some (e : Bool) (s s1 : St) (a b : List (Nat × Nat)) (h : run e s a = some s1) :
    run e s (a ++ b) = run e s1 b := by
  induction a generalizing s with
  | nil => cases h; rfl
  | cons x r ih =>
    obtain ⟨i, now⟩ := x
    rw [List.cons_append, run]
    rw [run] at h
    cases hs : step e s i now with
    | none => rw [hs] at h; cases h
    | some s' => rw [hs] at h; exact ih s' h

/-! ### a call that no other thread interleaves with is the whole-call operation of `Model.lean` -/

/-- what a run of thread `i` alone leaves of the other threads and of the ghost state -/
structure Frame (s s' : St) (i : Nat) : Prop where
  ended : s'.ended = s.ended
  others : ∀ j, j ≠ i → s'.ths[j]? = s.ths[j]?

/-- thread `i`, moving alone and reading the clock value `now` at every step, takes `s` to `s'`
    in `n` steps -/
def Alone (e : Bool) (i now : Nat) (s s' : St) (n : Nat) : Prop :=
  run e s (List.replicate n (i, now)) = some s' ∧ Frame s s' i

theorem Alone.refl (e : Bool) (i now : Nat) (s : St) : Alone e i now s s 0 := ⟨rfl, rfl, fun _ _ => rfl⟩

theorem Alone.trans {e : Bool} {i now : Nat} {s s1 s2 : St} {n m : Nat}
    (h1 : Alone e i now s s1 n) (h2 : Alone e i now s1 s2 m) : Alone e i now s s2 (n + m) :=
  ⟨by rw [← List.replicate_append_replicate, run_append_some e s s1 _ _ h1.1]; exact h2.1,
    h2.2.ended.trans h1.2.ended, fun j hj => (h2.2.others j hj).trans (h1.2.others j hj)⟩

theorem Alone.one {e : Bool} {i now : Nat} {s : St} {t : LockTable} {g : WaitGraph} {gd : Option Nat} {th' : Th}
    (hs : step e s i now = some { s with t := t, g := g, guard := gd, ths := s.ths.set i th' }) :
    Alone e i now s { s with t := t, g := g, guard := gd, ths := s.ths.set i th' } 1 :=
  ⟨by rw [List.replicate_one, run, hs]; rfl, rfl, fun _ hj => List.getElem?_set_ne (Ne.symm hj)⟩

theorem get_set_self (ths : List Th) (i : Nat) (th th' : Th) (h : ths[i]? = some th) :
    (ths.set i th')[i]? = some th' :=
  (get_set ths i i th th' h).trans (if_pos rfl)

theorem run_adding (e : Bool) (i now : Nat) (rest : List (List Nat)) :
    ∀ (bs : List Nat) (s : St) (th : Th), s.ths[i]? = some th → th.pc = .adding bs rest →
    ∃ n s', Alone e i now s s' n ∧ s'.t = s.t ∧
      s'.g = bs.foldl (fun g b => addWait g now i b none) s.g ∧ s'.guard = s.guard ∧
      s'.ths[i]? = some { th with pc := .adding [] rest }
  | [], s, th, h1, h2 => ⟨0, s, Alone.refl .., rfl, rfl, rfl, by rw [h1, ← h2]⟩
  | b :: bs, s, th, h1, h2 => by
    have hs := step_adding_cons e s i now th b bs rest h1 h2
    obtain ⟨n, s', hr, a1, a2, a3, a4⟩ := run_adding e i now rest bs
      { s with g := addWait s.g now i b none, ths := s.ths.set i { th with pc := .adding bs rest } }
      { th with pc := .adding bs rest } (get_set_self _ i th _ h1) rfl
    exact ⟨_, s', (Alone.one hs).trans hr, a1, a2, a3, a4⟩

theorem prepare_alone_is_tryLockWait (e : Bool) (s : St) (i now : Nat) (th : Th) (ks : List Nat)
    (rest : List (List Nat)) (h1 : s.ths[i]? = some th) (h2 : th.pc = .prep (ks :: rest))
    (hg : s.guard = none) :
    ∃ n s', run e s (List.replicate n (i, now)) = some s' ∧
      s'.t = (tryLockWait s.t s.g now now i ks none).1 ∧
      s'.g = (tryLockWait s.t s.g now now i ks none).2.1 ∧ s'.guard = none ∧
      (∃ th', s'.ths[i]? = some th' ∧ th'.pc = .prep rest ∧
        th'.handles = (match (tryLockWait s.t s.g now now i ks none).2.2 with
          | .ok h => th.handles ++ [h] | .error _ => th.handles)) ∧ Frame s s' i := by
  cases hc : firstConflict s.t.locks now i ks with
  | none =>
    -- granted: scan + grant, remove_transaction, drop
    have he : (conflicts s.t.locks now i ks).isEmpty = true := by rw [(conflicts_nil_iff ..).mpr hc]; rfl
    let th1 : Th := { pc := .granted rest, handles := th.handles ++ [s.t.nextHandle] }
    let s1 : St := { s with t := (tryLock s.t now i ks).1, guard := some i, ths := s.ths.set i th1 }
    let th2 : Th := { th1 with pc := .adding [] rest }
    let s2 : St := { s1 with g := removeTransaction s1.g i, ths := s1.ths.set i th2 }
    have g1 : s1.ths[i]? = some th1 := get_set_self _ i th _ h1
    have g2 : s2.ths[i]? = some th2 := get_set_self _ i th1 _ g1
    have h := ((Alone.one (step_prep_grant e s i now th ks rest h1 h2 hg he)).trans
      (Alone.one (step_granted e s1 i now th1 rest g1 rfl))).trans
      (Alone.one (step_adding_nil e s2 i now th2 rest g2 rfl))
    rw [tryLockWait_of_free hc]
    exact ⟨_, _, h.1, rfl, rfl, if_pos rfl, ⟨_, get_set_self _ i th2 _ g2, rfl, rfl⟩, h.2⟩
  | some c =>
    -- refused: scan, one add_wait per blocker, drop
    have he : (conflicts s.t.locks now i ks).isEmpty = false := by
      cases hcs : conflicts s.t.locks now i ks with
      | nil => rw [(conflicts_nil_iff ..).mp hcs] at hc; cases hc
      | cons _ _ => rfl
    let th1 : Th := { th with pc := .adding (blockersOf (conflicts s.t.locks now i ks)) rest }
    let s1 : St := { s with guard := if e then none else some i, ths := s.ths.set i th1 }
    obtain ⟨n, s2, hr2, a1, a2, a3, a4⟩ := run_adding e i now rest _ s1 th1 (get_set_self _ i th _ h1) rfl
    have h := ((Alone.one (step_prep_refuse e s i now th ks rest h1 h2 hg he)).trans hr2).trans
      (Alone.one (step_adding_nil e s2 i now { th1 with pc := .adding [] rest } rest a4 rfl))
    rw [tryLockWait_of_conflict hc]
    refine ⟨_, _, h.1, a1, a2, ?_, ⟨_, get_set_self _ i _ _ a4, rfl, rfl⟩, h.2⟩
    show (if s2.guard = some i then none else s2.guard) = none
    rw [a3]
    show (if (if e then none else some i) = some i then none else (if e then none else some i)) = none
    cases e
    · exact if_pos rfl
    · exact ite_self _

theorem run_ending (e : Bool) (i now : Nat) :
    ∀ (hs : List Nat) (s : St) (th : Th), s.ths[i]? = some th → th.pc = .ending hs → s.guard = none →
    ∃ n s', Alone e i now s s' n ∧ s'.t = (releaseHandles s.t s.g hs).1 ∧
      s'.g = (releaseHandles s.t s.g hs).2 ∧ s'.guard = none ∧
      s'.ths[i]? = some { th with pc := .ending [] }
  | [], s, th, h1, h2, hg => ⟨0, s, Alone.refl .., rfl, rfl, hg, by rw [h1, ← h2]⟩
  | h :: hs, s, th, h1, h2, hg => by
    have hs1 := step_ending_cons e s i now th h hs h1 h2 hg
    have hloop : releaseHandles s.t s.g (h :: hs) =
        releaseHandles (releaseByHandleWait s.t s.g h).1 (releaseByHandleWait s.t s.g h).2 hs := rfl
    rw [hloop, releaseByHandleWait]
    cases hf : ((s.t.locks.filter (fun p => p.2.handle == h)).map (·.2.tx)).getLast? with
    | none =>
      rw [hf] at hs1
      obtain ⟨n, s', hr, a1, a2, a3, a4⟩ := run_ending e i now hs
        { s with t := releaseByHandle s.t h, ths := s.ths.set i { th with pc := .ending hs } }
        { th with pc := .ending hs } (get_set_self _ i th _ h1) rfl hg
      exact ⟨_, s', (Alone.one hs1).trans hr, a1, a2, a3, a4⟩
    | some x =>
      rw [hf] at hs1
      let th1 : Th := { th with pc := .cleaning x hs }
      let s1 : St := { s with t := releaseByHandle s.t h, ths := s.ths.set i th1 }
      have g1 : s1.ths[i]? = some th1 := get_set_self _ i th _ h1
      obtain ⟨n, s', hr, a1, a2, a3, a4⟩ := run_ending e i now hs
        { s1 with g := removeTransaction s1.g x, ths := s1.ths.set i { th1 with pc := .ending hs } }
        { th1 with pc := .ending hs } (get_set_self _ i th1 _ g1) rfl hg
      exact ⟨_, s', ((Alone.one hs1).trans (Alone.one (step_cleaning e s1 i now th1 x hs g1 rfl))).trans hr,
        a1, a2, a3, a4⟩

theorem end_alone_is_endTx (e : Bool) (s : St) (i now : Nat) (th : Th) (hs : List Nat)
    (h1 : s.ths[i]? = some th) (h2 : th.pc = .ending hs) (hg : s.guard = none) :
    ∃ n s', run e s (List.replicate n (i, now)) = some s' ∧ (s'.t, s'.g) = endTx s.t s.g i hs ∧
      s'.guard = none ∧ s'.ended = i :: s.ended ∧ s'.ths[i]? = some { th with pc := .done } ∧
      ∀ j, j ≠ i → s'.ths[j]? = s.ths[j]? := by
  obtain ⟨n, s1, hr, a1, a2, a3, a4⟩ := run_ending e i now hs s th h1 h2 hg
  let th2 : Th := { th with pc := .done }
  let s2 : St := { s1 with g := removeTransaction s1.g i, ended := i :: s1.ended, ths := s1.ths.set i th2 }
  have hs2 : step e s1 i now = some s2 := step_ending_nil e s1 i now { th with pc := .ending [] } a4 rfl
  refine ⟨n + 1, s2, ?_, ?_, a3, congrArg (i :: ·) hr.2.ended, get_set_self _ i _ th2 a4, fun j hj => ?_⟩
  · rw [List.replicate_succ', run_append_some e s s1 _ _ hr.1, run, hs2]; rfl
  · show (s1.t, removeTransaction s1.g i) = _
    rw [a1, a2]; rfl
  · exact (List.getElem?_set_ne (Ne.symm hj)).trans (hr.2.others j hj)

end Neumann.Locks.Section
