import NeumannModel.Locks.WaitLemmas
/-
  C12 — the coordinator model (`CoordModel.lean`): every coordinator operation is a sequence of
  coordinator-side lock/graph operations (`COp`), and the invariant that accounts for every lock
  in the table: its handle is in flight, was refused by `record_vote`, or is recorded in the votes
  of a pending transaction.  Core Lean only.
-/
namespace Neumann.Locks

theorem aGet_append {β : Type} (a b : List (Nat × β)) (k : Nat) :
    aGet (a ++ b) k = match aGet a k with | some v => some v | none => aGet b k := by
  induction a with
  | nil => rfl
  | cons p r ih =>
    obtain ⟨x, y⟩ := p
    rw [List.cons_append, aGet_cons, aGet_cons]
    split
    · rfl
    · exact ih

theorem aGet_concat_eq_some {β : Type} (m : List (Nat × β)) (k : Nat) (v : β) (k' : Nat) (x : β) :
    aGet (m ++ [(k, v)]) k' = some x ↔ aGet m k' = some x ∨ (aGet m k' = none ∧ k = k' ∧ v = x) := by
  rw [aGet_append]
  cases aGet m k' with
  | some y => simp
  | none => simp [aGet]

theorem aRemove_of_none {β : Type} (m : List (Nat × β)) (k : Nat) (h : aGet m k = none) : aRemove m k = m := by
  induction m with
  | nil => rfl
  | cons p r ih =>
    obtain ⟨x, y⟩ := p
    rw [aGet_cons] at h
    split at h
    · cases h
    · rename_i e
      rw [aRemove, List.filter_cons, if_pos (bne_iff_ne.mpr e)]
      exact congrArg _ (ih h)

theorem aGet_map_snd {β γ : Type} (m : List (Nat × β)) (f : β → γ) (k : Nat) :
    aGet (m.map (fun e => (e.1, f e.2))) k = (aGet m k).map f := by
  induction m with
  | nil => rfl
  | cons p r ih =>
    obtain ⟨x, y⟩ := p
    rw [List.map_cons, aGet_cons, aGet_cons]
    split
    · rfl
    · exact ih

theorem keys_map_snd {β γ : Type} (m : List (Nat × β)) (f : β → γ) :
    (m.map (fun e => (e.1, f e.2))).map (·.1) = m.map (·.1) := by
  rw [List.map_map]; rfl

theorem mem_keys_iff {β : Type} (m : List (Nat × β)) (k : Nat) : k ∈ m.map (·.1) ↔ ∃ v, aGet m k = some v := by
  constructor
  · intro h
    induction m with
    | nil => cases h
    | cons p r ih =>
      obtain ⟨x, y⟩ := p
      rw [aGet_cons]
      split
      · exact ⟨y, rfl⟩
      · rename_i e
        exact ih ((List.mem_cons.mp h).resolve_left (Ne.symm e))
  · rintro ⟨v, h⟩
    exact List.mem_map.mpr ⟨(k, v), aGet_some_mem _ _ _ h, rfl⟩

theorem aGet_none_of_not_mem {β : Type} (m : List (Nat × β)) (k : Nat) (h : k ∉ m.map (·.1)) : aGet m k = none := by
  cases hg : aGet m k with
  | none => rfl
  | some v => exact absurd ((mem_keys_iff m k).mpr ⟨v, hg⟩) h

/-- `t'` has the same handle counter as `t` and every lock of `t'` is a lock of `t` -/
structure Shrinks (t t' : LockTable) : Prop where
  nh : t'.nextHandle = t.nextHandle
  sub : ∀ k l, aGet t'.locks k = some l → aGet t.locks k = some l

theorem Shrinks.refl (t : LockTable) : Shrinks t t := ⟨rfl, fun _ _ h => h⟩

theorem Shrinks.trans {a b c : LockTable} (h1 : Shrinks a b) (h2 : Shrinks b c) : Shrinks a c :=
  ⟨h2.nh.trans h1.nh, fun k l h => h1.sub k l (h2.sub k l h)⟩

theorem shrinks_of_removed {t t' : LockTable} {R : List Nat} (nh : t'.nextHandle = t.nextHandle)
    (h : ∀ k, aGet t'.locks k = if k ∈ R then none else aGet t.locks k) : Shrinks t t' := by
  refine ⟨nh, fun k l hl => ?_⟩
  rw [h] at hl
  split at hl
  · cases hl
  · exact hl

theorem shrinks_foldl_dropKey (ks : List Nat) (t : LockTable) : Shrinks t (ks.foldl dropKey t) :=
  shrinks_of_removed (foldl_dropKey_fields ks t).1 (foldl_dropKey_locks ks t)

theorem shrinks_foldl_releaseByHandle (hs : List Nat) (t : LockTable) : Shrinks t (hs.foldl releaseByHandle t) :=
  foldl_preserves hs t (fun _ _ _ h => h.trans (shrinks_foldl_dropKey _ _)) (Shrinks.refl t)

def Coord.pair (c : Coord) : CSys := { t := c.t, g := c.g, now := c.now }

/-- the timed-out loop of `cleanup_timeouts` -/
def timeoutLoop (c : Coord) (txs : List Nat) : Coord :=
  txs.foldl (fun c tx =>
    match aGet c.pending tx with
    | some p => c.finish tx p
    | none => c) c

theorem timeoutLoop_cons (c : Coord) (a : Nat) (r : List Nat) :
    timeoutLoop c (a :: r) =
      timeoutLoop (match aGet c.pending a with | some p => c.finish a p | none => c) r := rfl

theorem timeoutLoop_pair (txs : List Nat) (c : Coord) :
    ∃ cops, (timeoutLoop c txs).pair = crun cops c.pair := by
  induction txs generalizing c with
  | nil => exact ⟨[], rfl⟩
  | cons a r ih =>
    rw [timeoutLoop_cons]
    cases aGet c.pending a with
    | none => exact ih c
    | some p =>
      obtain ⟨cops, h⟩ := ih (c.finish a p)
      exact ⟨COp.endTx a p.handles :: cops, h⟩

/-- the new `pending` entry of a transaction whose vote was accepted -/
def votedPTx (p : PTx) (shard : Nat) (v : Option Nat) : PTx :=
  let p1 : PTx := { p with votes := aInsert p.votes shard v }
  let ph : Option Phase :=
    if p1.allVoted then (if p1.allYes then some .prepared else some .aborting) else none
  { p1 with phase := ph.getD p1.phase }

theorem recordVote_spec (c : Coord) (tx shard : Nat) (v : Option Nat) :
    (∃ r, recordVote c tx shard v = (c, r) ∧ ∀ ph, r ≠ .recorded ph) ∨
    (∃ p ph, aGet c.pending tx = some p ∧ p.phase = .preparing ∧ aGet p.votes shard = none ∧
      recordVote c tx shard v =
        ({ c with pending := aModify c.pending tx (fun _ => votedPTx p shard v) }, .recorded ph)) := by
  unfold recordVote
  cases hp : aGet c.pending tx with
  | none => exact Or.inl ⟨_, rfl, fun ph h => by cases h⟩
  | some p =>
    simp only
    by_cases e1 : p.phase ≠ .preparing
    · rw [if_pos e1]; exact Or.inl ⟨_, rfl, fun ph h => by cases h⟩
    · rw [if_neg e1]
      by_cases e2 : (aGet p.votes shard).isSome
      · simp only [e2, ↓reduceIte]; exact Or.inl ⟨_, rfl, fun ph h => by cases h⟩
      · simp only [e2, Bool.false_eq_true, ↓reduceIte]
        right
        refine ⟨p, _, rfl, by simpa using e1, ?_, rfl⟩
        cases hv : aGet p.votes shard with
        | none => rfl
        | some x => simp [hv] at e2

theorem recordVote_pair (c : Coord) (tx shard : Nat) (v : Option Nat) :
    (recordVote c tx shard v).1.pair = c.pair := by
  rcases recordVote_spec c tx shard v with ⟨r, h, _⟩ | ⟨p, ph, _, _, _, h⟩ <;> rw [h] <;> rfl

theorem costep_begin (c : Coord) (shards : List Nat) :
    costep c (.begin shards) =
      if c.pending.length ≥ c.maxConcurrent then (c, .refused)
      else ({ c with pending := aInsert c.pending c.nextTx
                       { shards := shards, votes := [], phase := .preparing, doomed := false }
                     nextTx := c.nextTx + 1 }, .began c.nextTx) := rfl

theorem costep_prepare (c : Coord) (tx : Nat) (keys : List Nat) :
    costep c (.prepare tx keys) =
      match tryLockWait c.t c.g c.now c.now tx keys none with
      | (t', g', .ok h) => ({ c with t := t', g := g', inflight := c.inflight ++ [(h, tx)] }, .yes h)
      | (t', g', .error ks) => ({ c with t := t', g := g' }, .conflict ks) := rfl

theorem costep_deliver (c : Coord) (h shard : Nat) :
    costep c (.deliver h shard) =
      match aGet c.inflight h with
      | none => (c, .unit)
      | some tx =>
        match recordVote { c with inflight := aRemove c.inflight h } tx shard (some h) with
        | (c2, .recorded ph) => (c2, .recorded ph)
        | (c2, r) => ({ c2 with unrecorded := c2.unrecorded ++ [h] }, r) := rfl

/-- the single-transaction end-of-transaction operations and the transaction they end -/
def endOf : CoOp → Option Nat
  | .commit tx => some tx
  | .abort tx => some tx
  | .completeCommit tx => some tx
  | .completeAbort tx => some tx
  | .forceResolve tx _ => some tx
  | _ => none

/-- the five single-transaction end sites have one shape: the operation changes nothing and does
    not answer `ok`, or it runs the end-of-transaction sequence of a pending transaction and does -/
theorem costep_endOf (c : Coord) (op : CoOp) (tx : Nat) (he : endOf op = some tx) :
    (∃ r, costep c op = (c, r) ∧ r ≠ .ok) ∨
    (∃ p, aGet c.pending tx = some p ∧ costep c op = (c.finish tx p, .ok)) := by
  -- look the transaction up, then decide the guard of the site
  have site (f : PTx → Coord × CoRes)
      (hf : ∀ p, (∃ r, f p = (c, r) ∧ r ≠ .ok) ∨ f p = (c.finish tx p, .ok)) :
      (∃ r, (match aGet c.pending tx with | none => (c, CoRes.notFound) | some p => f p) = (c, r) ∧ r ≠ .ok) ∨
      (∃ p, aGet c.pending tx = some p ∧
        (match aGet c.pending tx with | none => (c, CoRes.notFound) | some p => f p) = (c.finish tx p, .ok)) := by
    cases aGet c.pending tx with
    | none => exact Or.inl ⟨_, rfl, nofun⟩
    | some p => exact (hf p).imp id fun h => ⟨p, rfl, h⟩
  -- a site that refuses when its guard `q` on the phase fails
  have guard (q : Prop) [Decidable q] (p : PTx) :
      (∃ r, (if q then (c, CoRes.wrongPhase) else (c.finish tx p, CoRes.ok)) = (c, r) ∧ r ≠ .ok) ∨
      (if q then (c, CoRes.wrongPhase) else (c.finish tx p, CoRes.ok)) = (c.finish tx p, .ok) := by
    by_cases h : q
    · rw [if_pos h]; exact Or.inl ⟨_, rfl, nofun⟩
    · rw [if_neg h]; exact Or.inr rfl
  cases op with
  | commit t => cases he; exact site _ fun p => guard _ p
  | abort t => cases he; exact site _ fun p => Or.inr rfl
  | completeCommit t => cases he; exact site _ fun p => guard _ p
  | completeAbort t => cases he; exact site _ fun p => guard _ p
  | forceResolve t commit =>
    cases he
    refine site _ fun p => ?_
    cases commit with
    | false => exact Or.inr rfl
    | true =>
      rw [if_pos rfl]
      by_cases h : p.allYes = true ∨ p.phase = .prepared ∨ p.phase = .committing
      · rw [if_pos h]; exact Or.inr rfl
      · rw [if_neg h]; exact Or.inl ⟨_, rfl, nofun⟩
  | _ => cases he

theorem end_ok_runs_finish (c : Coord) (op : CoOp) (tx : Nat) (he : endOf op = some tx)
    (hok : (costep c op).2 = .ok) : ∃ p, aGet c.pending tx = some p ∧ (costep c op).1 = c.finish tx p := by
  rcases costep_endOf c op tx he with ⟨r, h, hr⟩ | ⟨p, hp, h⟩
  · rw [h] at hok; exact absurd hok hr
  · exact ⟨p, hp, by rw [h]⟩

theorem costep_pair (c : Coord) (op : CoOp) : ∃ cops, (costep c op).1.pair = crun cops c.pair := by
  have hend (tx : Nat) (he : endOf op = some tx) : ∃ cops, (costep c op).1.pair = crun cops c.pair := by
    rcases costep_endOf c op tx he with ⟨r, h, _⟩ | ⟨p, _, h⟩
    · exact ⟨[], by rw [h]; rfl⟩
    · exact ⟨[.endTx tx p.handles], by rw [h]; rfl⟩
  cases op with
  | commit tx | abort tx | completeCommit tx | completeAbort tx | forceResolve tx _ => exact hend tx rfl
  | begin shards =>
    refine ⟨[], ?_⟩
    rw [costep_begin]
    exact (apply_ite (fun r : Coord × CoRes => r.1.pair) ..).trans (ite_self _)
  | prepare tx keys =>
    refine ⟨[.lockW tx keys none], ?_⟩
    rw [costep_prepare]
    show _ = cstep c.pair (.lockW tx keys none)
    unfold cstep Coord.pair
    dsimp only
    generalize tryLockWait c.t c.g c.now c.now tx keys none = r
    obtain ⟨t', g', res⟩ := r
    cases res <;> rfl
  | deliver h shard =>
    refine ⟨[], ?_⟩
    rw [costep_deliver]
    cases aGet c.inflight h with
    | none => rfl
    | some tx =>
      dsimp only
      have := recordVote_pair { c with inflight := aRemove c.inflight h } tx shard (some h)
      split <;> (rename_i heq; rw [heq] at this; exact this)
  | voteNo tx shard => exact ⟨[], recordVote_pair c tx shard none⟩
  | cleanupTimeouts =>
    obtain ⟨cops, h⟩ := timeoutLoop_pair ((c.pending.filter (fun e => e.2.doomed)).map (·.1)) c
    exact ⟨cops ++ [.cleanW], by rw [crun, List.foldl_append]; exact congrArg (cstep · .cleanW) h⟩
  | recover => exact ⟨[.cleanW], rfl⟩
  | sweep ps => exact ⟨[.sweep (c.pending.map Prod.fst) ps], rfl⟩
  | advance d => exact ⟨[.advance d], rfl⟩
  | saveLoad => exact ⟨[.serializeRestore, .gNew], rfl⟩
  | doom tx => exact ⟨[], rfl⟩

theorem corun_pair (ops : List CoOp) (c : Coord) : ∃ cops, (corun ops c).pair = crun cops c.pair := by
  induction ops generalizing c with
  | nil => exact ⟨[], rfl⟩
  | cons op r ih =>
    obtain ⟨c1, h1⟩ := costep_pair c op
    obtain ⟨c2, h2⟩ := ih (costep c op).1
    exact ⟨c1 ++ c2, by rw [crun, List.foldl_append]; exact (h1 ▸ h2 :)⟩

theorem pairInv_costep (c : Coord) (op : CoOp) (hi : PairInv c.pair) : PairInv (costep c op).1.pair := by
  obtain ⟨cops, h⟩ := costep_pair c op
  rw [h]; exact pairInv_run cops _ hi

/-- the coordinator has recorded a Yes vote of `tx` carrying lock handle `h` -/
def Recorded (c : Coord) (tx h : Nat) : Prop := ∃ p, aGet c.pending tx = some p ∧ h ∈ p.handles

/-- where the coordinator stands with respect to a lock handle: the Yes vote carrying it is still
    in flight, `record_vote` refused it, or it is recorded in the votes of the pending owner -/
def Accounted (c : Coord) (l : KeyLock) : Prop :=
  (aGet c.inflight l.handle).isSome ∨ l.handle ∈ c.unrecorded ∨ Recorded c l.tx l.handle

structure CoInv (c : Coord) : Prop where
  pi : PairInv c.pair
  fresh : ∀ tx p, aGet c.pending tx = some p → tx < c.nextTx
  hlt : ∀ k l, aGet c.t.locks k = some l → l.handle < c.t.nextHandle
  ilt : ∀ h tx, aGet c.inflight h = some tx → h < c.t.nextHandle
  iown : ∀ k l tx, aGet c.t.locks k = some l → aGet c.inflight l.handle = some tx → l.tx = tx
  acc : ∀ k l, aGet c.t.locks k = some l → Accounted c l

theorem coInv_init (timeout mc : Nat) : CoInv (Coord.init timeout mc) :=
  ⟨pairInv_init timeout 0, fun _ _ => nofun, fun _ _ => nofun, fun _ _ => nofun, fun _ _ _ => nofun,
    fun _ _ => nofun⟩

/-- operations that only remove locks, only remove in-flight entries, only add refused handles and
    keep the counter; `hfl` says where the handles that were in flight went -/
theorem coInv_frame (c c' : Coord) (hi : CoInv c) (hs : Shrinks c.t c'.t) (hpi : PairInv c'.pair)
    (hfresh : ∀ tx p, aGet c'.pending tx = some p → tx < c'.nextTx)
    (hinf : ∀ h tx, aGet c'.inflight h = some tx → aGet c.inflight h = some tx)
    (hfl : ∀ k l, aGet c.t.locks k = some l → (aGet c.inflight l.handle).isSome → Accounted c' l)
    (hun : ∀ h ∈ c.unrecorded, h ∈ c'.unrecorded)
    (hrec : ∀ k l, aGet c'.t.locks k = some l → Recorded c l.tx l.handle → Recorded c' l.tx l.handle) :
    CoInv c' := by
  refine ⟨hpi, hfresh, fun k l h => hs.nh ▸ hi.hlt k l (hs.sub k l h),
    fun h tx hh => hs.nh ▸ hi.ilt h tx (hinf h tx hh),
    fun k l tx h hh => hi.iown k l tx (hs.sub k l h) (hinf _ tx hh), fun k l h => ?_⟩
  rcases hi.acc k l (hs.sub k l h) with ha | ha | ha
  · exact hfl k l (hs.sub k l h) ha
  · exact Or.inr (Or.inl (hun _ ha))
  · exact Or.inr (Or.inr (hrec k l h ha))

theorem coInv_table_shrink (c : Coord) (t' : LockTable) (g' : WaitGraph) (hi : CoInv c) (hs : Shrinks c.t t')
    (hpi : PairInv { c with t := t', g := g' }.pair) : CoInv { c with t := t', g := g' } :=
  coInv_frame c _ hi hs hpi hi.fresh (fun _ _ h => h) (fun _ _ _ h => Or.inl h) (fun _ h => h) (fun _ _ _ h => h)

theorem recorded_aModify (c : Coord) (tx : Nat) (f : PTx → PTx)
    (hf : ∀ p, aGet c.pending tx = some p → ∀ h ∈ p.handles, h ∈ (f p).handles) (tx' h : Nat)
    (hr : Recorded c tx' h) : Recorded { c with pending := aModify c.pending tx f } tx' h := by
  obtain ⟨q, hq, hh⟩ := hr
  unfold Recorded
  rw [show aGet (aModify c.pending tx f) tx' = _ from aGet_aModify ..]
  split
  · rename_i e
    exact ⟨f q, by rw [hq]; rfl, hf q (e ▸ hq) h hh⟩
  · exact ⟨q, hq, hh⟩

theorem fresh_aModify (c : Coord) (hi : CoInv c) (tx : Nat) (f : PTx → PTx) (tx' : Nat) (p' : PTx)
    (h : aGet (aModify c.pending tx f) tx' = some p') : tx' < c.nextTx := by
  rw [aGet_aModify] at h
  cases hq : aGet c.pending tx' with
  | none => rw [hq] at h; split at h <;> cases h
  | some q => exact hi.fresh tx' q hq

theorem votedPTx_handles (p : PTx) (shard : Nat) (v : Option Nat) (hn : aGet p.votes shard = none) (h : Nat) :
    h ∈ (votedPTx p shard v).handles ↔ v = some h ∨ h ∈ p.handles := by
  show h ∈ (aInsert p.votes shard v).filterMap (·.2) ↔ _
  rw [aInsert, aRemove_of_none p.votes shard hn]
  cases v with
  | none => exact ⟨Or.inr, fun h => h.resolve_left nofun⟩
  | some x =>
    exact List.mem_cons.trans (or_congr_left ⟨fun e => congrArg some e.symm, fun e => (Option.some.inj e).symm⟩)

theorem recorded_voted (c : Coord) (tx shard : Nat) (v : Option Nat) (p : PTx)
    (hp : aGet c.pending tx = some p) (hn : aGet p.votes shard = none) (tx' h : Nat)
    (hr : Recorded c tx' h) :
    Recorded { c with pending := aModify c.pending tx (fun _ => votedPTx p shard v) } tx' h :=
  recorded_aModify c tx _ (fun q hq h hh => by
    cases hp.symm.trans hq; exact (votedPTx_handles p shard v hn h).mpr (Or.inr hh)) tx' h hr

theorem coInv_recordVote_no (c : Coord) (tx shard : Nat) (hi : CoInv c) : CoInv (recordVote c tx shard none).1 := by
  rcases recordVote_spec c tx shard none with ⟨r, h, _⟩ | ⟨p, ph, hp, _, hn, h⟩
  · rw [h]; exact hi
  · rw [h]
    exact coInv_frame c _ hi (Shrinks.refl _) hi.pi (fresh_aModify c hi tx fun _ => votedPTx p shard none)
      (fun _ _ h => h) (fun _ _ _ h => Or.inl h) (fun _ h => h)
      (fun _ l _ => recorded_voted c tx shard none p hp hn _ _)

theorem coInv_deliver (c : Coord) (h shard : Nat) (hi : CoInv c) : CoInv (costep c (.deliver h shard)).1 := by
  rw [costep_deliver]
  cases hf : aGet c.inflight h with
  | none => exact hi
  | some tx =>
    dsimp only
    have hremove : ∀ h' tx', aGet (aRemove c.inflight h) h' = some tx' → aGet c.inflight h' = some tx' := by
      intro h' tx' hh
      rw [aGet_aRemove] at hh
      split at hh
      · cases hh
      · exact hh
    have hstill (l : KeyLock) (ha : (aGet c.inflight l.handle).isSome) (e : l.handle ≠ h) :
        (aGet (aRemove c.inflight h) l.handle).isSome := by
      rw [aGet_aRemove, if_neg e]; exact ha
    rcases recordVote_spec { c with inflight := aRemove c.inflight h } tx shard (some h) with
      ⟨r, hr, hnr⟩ | ⟨p, ph, hp, _, hn, hr⟩
    · -- refused: the handle moves from in flight to unrecorded
      rw [hr]
      have : CoInv { c with inflight := aRemove c.inflight h, unrecorded := c.unrecorded ++ [h] } := by
        refine coInv_frame c _ hi (Shrinks.refl _) hi.pi hi.fresh hremove ?_
          (fun _ h => List.mem_append_left _ h) (fun _ _ _ h => h)
        intro k l _ ha
        by_cases e : l.handle = h
        · exact Or.inr (Or.inl (List.mem_append_right _ (e ▸ List.mem_singleton_self _)))
        · exact Or.inl (hstill l ha e)
      cases r with
      | recorded ph => exact absurd rfl (hnr ph)
      | _ => exact this
    · -- recorded
      rw [hr]
      refine coInv_frame c _ hi (Shrinks.refl _) hi.pi (fresh_aModify c hi tx fun _ => votedPTx p shard (some h))
        hremove ?_ (fun _ h => h)
        (fun _ l _ => recorded_voted { c with inflight := aRemove c.inflight h } tx shard (some h) p hp hn _ _)
      intro k l hl ha
      by_cases e : l.handle = h
      · -- the delivered vote: its lock belongs to `tx` and is recorded now
        have hown : l.tx = tx := hi.iown k l tx hl (e ▸ hf)
        refine Or.inr (Or.inr ⟨votedPTx p shard (some h), ?_, ?_⟩)
        · rw [show aGet (aModify c.pending tx _) l.tx = _ from aGet_aModify .., if_pos hown, hown,
            show aGet c.pending tx = some p from hp]; rfl
        · exact (votedPTx_handles p shard (some h) hn l.handle).mpr (Or.inl (e ▸ rfl))
      · exact Or.inl (hstill l ha e)

theorem coInv_finish (c : Coord) (tx : Nat) (p : PTx) (hp : aGet c.pending tx = some p) (hi : CoInv c) :
    CoInv (c.finish tx p) := by
  have ht : (c.finish tx p).t = p.handles.foldl releaseByHandle c.t := releaseHandles_table ..
  refine coInv_frame c _ hi (ht ▸ shrinks_foldl_releaseByHandle _ _)
    ⟨(ht ▸ uniq_foldl_releaseByHandle _ _ hi.pi.uq : (c.finish tx p).t.Uniq),
      transpose_removeTransaction _ tx (transpose_releaseHandles p.handles c.t c.g hi.pi.tr)⟩
    ?_ (fun _ _ h => h) (fun _ _ _ h => Or.inl h) (fun _ h => h) ?_
  · intro tx' p' hp'
    rw [show aGet (c.finish tx p).pending tx' = _ from aGet_aRemove ..] at hp'
    split at hp'
    · cases hp'
    · exact hi.fresh _ p' hp'
  · rintro k l hl ⟨q, hq, hh⟩
    -- a lock that survived the handle loop carries none of the recorded handles of `tx`
    have hne : l.tx ≠ tx := fun e => by
      cases (e ▸ hq).symm.trans hp
      exact (foldl_releaseByHandle_locks p.handles c.t hi.pi.uq k l (ht ▸ hl)).2 hh
    exact ⟨q, (aGet_aRemove ..).trans ((if_neg hne).trans hq), hh⟩

theorem coInv_timeoutLoop (txs : List Nat) (c : Coord) (hi : CoInv c) : CoInv (timeoutLoop c txs) := by
  refine foldl_preserves txs c (fun c a _ hi => ?_) hi
  cases hp : aGet c.pending a with
  | none => exact hi
  | some p => exact coInv_finish c a p hp hi

theorem recoverPhase_handles (p : PTx) : (recoverPhase p).handles = p.handles := by
  have keep (c : Prop) [Decidable c] (a b : PTx) (ha : a.handles = p.handles) (hb : b.handles = p.handles) :
      (if c then a else b).handles = p.handles := by rw [apply_ite PTx.handles, ha, hb, ite_self]
  unfold recoverPhase
  cases p.phase with
  | preparing => exact keep _ _ _ rfl rfl
  | prepared => exact keep _ _ _ rfl (keep _ _ _ rfl (keep _ _ _ rfl rfl))
  | committing => rfl
  | aborting => rfl

theorem costep_prepare_of_free (c : Coord) (tx : Nat) (keys : List Nat)
    (h : firstConflict c.t.locks c.now tx keys = none) :
    costep c (.prepare tx keys) =
      ({ c with t := (tryLock c.t c.now tx keys).1, g := removeTransaction c.g tx
                inflight := c.inflight ++ [(c.t.nextHandle, tx)] }, .yes c.t.nextHandle) := by
  rw [costep_prepare, tryLockWait_of_free h]

theorem costep_prepare_of_conflict (c : Coord) (tx : Nat) (keys : List Nat) {b : Nat}
    (h : firstConflict c.t.locks c.now tx keys = some b) :
    costep c (.prepare tx keys) =
      ({ c with g := (tryLockWait c.t c.g c.now c.now tx keys none).2.1 },
        .conflict ((conflicts c.t.locks c.now tx keys).map (·.1))) := by
  rw [costep_prepare, tryLockWait_of_conflict h]

theorem coInv_prepare (c : Coord) (tx : Nat) (keys : List Nat) (hi : CoInv c) :
    CoInv (costep c (.prepare tx keys)).1 := by
  have hpi := pairInv_costep c (.prepare tx keys) hi.pi
  cases hc : firstConflict c.t.locks c.now tx keys with
  | some b =>
    rw [costep_prepare_of_conflict c tx keys hc] at hpi ⊢
    exact coInv_table_shrink c c.t _ hi (Shrinks.refl _) hpi
  | none =>
    rw [costep_prepare_of_free c tx keys hc] at hpi ⊢
    -- the granted keys carry the next handle, which is in flight now; every other lock is as before
    have hlock (k : Nat) (l : KeyLock) (hl : aGet (tryLock c.t c.now tx keys).1.locks k = some l) :
        (l.handle = c.t.nextHandle ∧ l.tx = tx) ∨ aGet c.t.locks k = some l := by
      rw [tryLock_of_free hc, show aGet _ k = _ from aGet_acquireAll ..] at hl
      split at hl
      · cases hl; exact Or.inl ⟨rfl, rfl⟩
      · exact Or.inr hl
    have hnone : aGet c.inflight c.t.nextHandle = none := by
      cases hx : aGet c.inflight c.t.nextHandle with
      | none => rfl
      | some y => exact absurd (hi.ilt _ y hx) (Nat.lt_irrefl _)
    have hnh : (tryLock c.t c.now tx keys).1.nextHandle = c.t.nextHandle + 1 := by rw [tryLock_of_free hc]
    refine ⟨hpi, hi.fresh, fun k l hl => ?_, fun h' tx' hx => ?_, fun k l tx' hl hx => ?_, fun k l hl => ?_⟩
    · show l.handle < (tryLock c.t c.now tx keys).1.nextHandle
      rw [hnh]
      rcases hlock k l hl with ⟨e, _⟩ | h0
      · exact e ▸ Nat.lt_succ_self _
      · exact Nat.lt_succ_of_lt (hi.hlt k l h0)
    · show h' < (tryLock c.t c.now tx keys).1.nextHandle
      rw [hnh]
      rcases (aGet_concat_eq_some ..).mp hx with hy | ⟨_, e, _⟩
      · exact Nat.lt_succ_of_lt (hi.ilt h' tx' hy)
      · exact e ▸ Nat.lt_succ_self _
    · rcases hlock k l hl with ⟨e, et⟩ | h0 <;> rcases (aGet_concat_eq_some ..).mp hx with hy | ⟨_, e', et'⟩
      · rw [e, hnone] at hy; cases hy
      · exact et.trans et'
      · exact hi.iown k l tx' h0 hy
      · exact absurd (hi.hlt k l h0) (e' ▸ Nat.lt_irrefl _)
    · rcases hlock k l hl with ⟨e, _⟩ | h0
      · exact Or.inl (Option.isSome_iff_exists.mpr
          ⟨tx, (aGet_concat_eq_some ..).mpr (Or.inr ⟨e ▸ hnone, e.symm, rfl⟩)⟩)
      · rcases hi.acc k l h0 with ha | ha | ha
        · obtain ⟨y, hy⟩ := Option.isSome_iff_exists.mp ha
          exact Or.inl (Option.isSome_iff_exists.mpr ⟨y, (aGet_concat_eq_some ..).mpr (Or.inl hy)⟩)
        · exact Or.inr (Or.inl ha)
        · exact Or.inr (Or.inr ha)

theorem coInv_step (c : Coord) (op : CoOp) (hi : CoInv c) : CoInv (costep c op).1 := by
  have hpi := pairInv_costep c op hi.pi
  have hend (tx : Nat) (he : endOf op = some tx) : CoInv (costep c op).1 := by
    rcases costep_endOf c op tx he with ⟨r, h, _⟩ | ⟨p, hp, h⟩
    · rw [h]; exact hi
    · rw [h]; exact coInv_finish c tx p hp hi
  cases op with
  | commit tx | abort tx | completeCommit tx | completeAbort tx | forceResolve tx _ => exact hend tx rfl
  | prepare tx keys => exact coInv_prepare c tx keys hi
  | deliver h shard => exact coInv_deliver c h shard hi
  | voteNo tx shard => exact coInv_recordVote_no c tx shard hi
  | begin shards =>
    rw [costep_begin] at hpi ⊢
    split
    · exact hi
    · rename_i hfull
      rw [if_neg hfull] at hpi
      refine coInv_frame c _ hi (Shrinks.refl _) hpi ?_ (fun _ _ h => h) (fun _ _ _ h => Or.inl h) (fun _ h => h) ?_
      · intro tx p hp
        rw [show aGet (aInsert c.pending c.nextTx _) tx = _ from aGet_aInsert ..] at hp
        split at hp
        · rename_i e; exact e ▸ Nat.lt_succ_self _
        · exact Nat.lt_succ_of_lt (hi.fresh tx p hp)
      · rintro k l _ ⟨q, hq, hh⟩
        -- the new transaction id is fresh: no recorded entry is overwritten
        have : c.nextTx ≠ l.tx := fun e => Nat.lt_irrefl _ (e ▸ hi.fresh _ q hq)
        exact ⟨q, (aGet_aInsert ..).trans ((if_neg this).trans hq), hh⟩
  | cleanupTimeouts =>
    have h1 := coInv_timeoutLoop ((c.pending.filter (fun e => e.2.doomed)).map (·.1)) c hi
    exact coInv_table_shrink _ _ _ h1 (shrinks_foldl_dropKey _ _) hpi
  | recover =>
    refine coInv_frame c _ hi (shrinks_foldl_dropKey _ _) hpi ?_ (fun _ _ h => h) (fun _ _ _ h => Or.inl h)
      (fun _ h => h) ?_
    · intro tx p hp
      have hp : (aGet c.pending tx).map recoverPhase = some p := (aGet_map_snd ..).symm.trans hp
      cases hq : aGet c.pending tx with
      | none => rw [hq] at hp; cases hp
      | some q => exact hi.fresh tx q hq
    · rintro k l _ ⟨q, hq, hh⟩
      exact ⟨recoverPhase q, (aGet_map_snd ..).trans (by rw [hq]; rfl), (recoverPhase_handles q).symm ▸ hh⟩
  | sweep ps => exact coInv_table_shrink c _ _ hi (shrinks_of_removed (foldl_sweepKey_fields _ c.t).1 (foldl_sweepKey_locks _ c.t)) hpi
  | advance d => exact ⟨hpi, hi.fresh, hi.hlt, hi.ilt, hi.iown, hi.acc⟩
  | saveLoad => exact coInv_table_shrink c c.t _ hi (Shrinks.refl _) hpi
  | doom tx =>
    exact coInv_frame c _ hi (Shrinks.refl _) hpi (fresh_aModify c hi tx fun p => { p with doomed := true })
      (fun _ _ h => h) (fun _ _ _ h => Or.inl h) (fun _ h => h)
      (fun _ l _ => recorded_aModify c tx (fun p => { p with doomed := true }) (fun _ _ _ h => h) _ _)

theorem coInv_run (ops : List CoOp) (c : Coord) (hi : CoInv c) : CoInv (corun ops c) :=
  foldl_preserves ops c (fun c op _ => coInv_step c op) hi

/-- `tx` does not occur in the wait-for graph: no entry in either index, in nobody's holder or
    waiter set, no wait-start, no priority -/
def Absent (g : WaitGraph) (tx : Nat) : Prop :=
  aGet g.edges tx = none ∧ aGet g.reverse tx = none ∧ (∀ w, tx ∉ outs g w) ∧ (∀ h, tx ∉ ins g h) ∧
  aGet g.waitStarted tx = none ∧ aGet g.priorities tx = none

theorem absent_removeTransaction (g : WaitGraph) (tx tx' : Nat) (hT : Transpose g)
    (h : tx = tx' ∨ Absent g tx) : Absent (removeTransaction g tx') tx := by
  rcases h with h | ⟨a1, a2, a3, a4, a5, a6⟩
  · subst h; exact removeTransaction_absent g tx hT
  · refine ⟨?_, ?_, ?_, ?_, ?_, ?_⟩
    · rw [removeTransaction_eq]
      apply eraseFromEach_none
      rw [aGet_aRemove]; by_cases e : tx = tx' <;> simp [e, a1]
    · rw [removeTransaction_eq]
      simp only [aGet_aRemove]
      split
      · rfl
      · exact eraseFromEach_none _ _ _ _ a2
    · intro w hw; exact a3 w ((mem_outs_removeTransaction g tx' w tx hT).mp hw).1
    · intro x hx; exact a4 x ((mem_ins_removeTransaction g tx' tx x hT).mp hx).1
    · rw [removeTransaction_eq]; simp only [aGet_aRemove]; by_cases e : tx = tx' <;> simp [e, a5]
    · rw [removeTransaction_eq]; simp only [aGet_aRemove]; by_cases e : tx = tx' <;> simp [e, a6]

theorem absent_foldl_removeTransaction (txs : List Nat) (g : WaitGraph) (tx : Nat) (hT : Transpose g)
    (h : tx ∈ txs ∨ Absent g tx) : Absent (txs.foldl removeTransaction g) tx := by
  induction txs generalizing g with
  | nil => exact h.resolve_left List.not_mem_nil
  | cons a r ih =>
    refine ih _ (transpose_removeTransaction g a hT) ?_
    rcases h with h | h
    · rcases List.mem_cons.mp h with e | h
      · exact Or.inr (absent_removeTransaction g tx a hT (Or.inl e))
      · exact Or.inl h
    · exact Or.inr (absent_removeTransaction g tx a hT (Or.inr h))

theorem timeoutLoop_absent (txs : List Nat) (c : Coord) (tx : Nat) (hi : CoInv c)
    (h0 : aGet c.pending tx = none → Absent c.g tx) :
    aGet (timeoutLoop c txs).pending tx = none → Absent (timeoutLoop c txs).g tx := by
  induction txs generalizing c with
  | nil => exact h0
  | cons a r ih =>
    rw [timeoutLoop_cons]
    cases hp : aGet c.pending a with
    | none => exact ih c hi h0
    | some p =>
      refine ih (c.finish a p) (coInv_finish c a p hp hi) fun hnone => ?_
      obtain ⟨L, hL⟩ := releaseHandles_eq p.handles c.t c.g
      show Absent (removeTransaction (releaseHandles c.t c.g p.handles).2 a) tx
      rw [hL]
      refine absent_removeTransaction _ tx a (transpose_foldl_removeTransaction L _ hi.pi.tr) ?_
      by_cases e : tx = a
      · exact Or.inl e
      · refine Or.inr (absent_foldl_removeTransaction L _ tx hi.pi.tr (Or.inr (h0 ?_)))
        rwa [show aGet (c.finish a p).pending tx = _ from aGet_aRemove .., if_neg e] at hnone

theorem mem_foldl_setInsert_snd (oks : List (Nat × Nat)) (acc : List Nat) (tx : Nat) :
    tx ∈ oks.foldl (fun s p => setInsert s p.2) acc ↔ tx ∈ acc ∨ ∃ k, (k, tx) ∈ oks := by
  induction oks generalizing acc with
  | nil => simp
  | cons a r ih =>
    simp only [List.foldl_cons, ih, mem_setInsert, List.mem_cons]
    constructor
    · rintro ((h | h) | ⟨k, h⟩)
      · exact Or.inl h
      · exact Or.inr ⟨a.1, Or.inl (by rw [h])⟩
      · exact Or.inr ⟨k, Or.inr h⟩
    · rintro (h | ⟨k, h | h⟩)
      · exact Or.inl (Or.inl h)
      · exact Or.inl (Or.inr (by rw [← h]))
      · exact Or.inr ⟨k, h⟩

theorem mem_outs_foldl_removeTransaction (txs : List Nat) (g : WaitGraph) (hT : Transpose g) (a b : Nat) :
    b ∈ outs (txs.foldl removeTransaction g) a ↔ b ∈ outs g a ∧ a ∉ txs ∧ b ∉ txs := by
  induction txs generalizing g with
  | nil => simp
  | cons x r ih =>
    simp only [List.foldl_cons, ih _ (transpose_removeTransaction g x hT), mem_outs_removeTransaction g x a b hT,
      List.mem_cons, not_or]
    constructor
    · rintro ⟨⟨h1, h2, h3⟩, h4, h5⟩; exact ⟨h1, ⟨h2, h4⟩, ⟨h3, h5⟩⟩
    · rintro ⟨h1, ⟨h2, h4⟩, ⟨h3, h5⟩⟩; exact ⟨⟨h1, h2, h3⟩, h4, h5⟩

theorem mem_staleTxs (g : WaitGraph) (now ttl tx : Nat) :
    tx ∈ staleTxs g now ttl ↔ ∃ s, (tx, s) ∈ g.waitStarted ∧ now - s > ttl := by
  unfold staleTxs
  simp only [List.mem_map, List.mem_filter, decide_eq_true_eq]
  constructor
  · rintro ⟨⟨a, s⟩, ⟨h1, h2⟩, e⟩
    simp only at e h2; subst e
    exact ⟨s, h1, h2⟩
  · rintro ⟨s, h1, h2⟩
    exact ⟨(tx, s), ⟨h1, h2⟩, rfl⟩

theorem addWait_mx (g : WaitGraph) (now w h : Nat) (p : Option Nat) :
    (addWait g now w h p).maxEdgesPerTx = g.maxEdgesPerTx := by
  unfold addWait
  by_cases h1 : w = h
  · rw [if_pos h1]
  · rw [if_neg h1]
    by_cases h2 : g.maxEdgesPerTx > 0 ∧ ((aGet g.edges w).getD []).length ≥ g.maxEdgesPerTx
    · rw [if_pos h2]; cases aGet g.edges w <;> rfl
    · rw [if_neg h2]

theorem removeTransaction_mx (g : WaitGraph) (tx : Nat) :
    (removeTransaction g tx).maxEdgesPerTx = g.maxEdgesPerTx := by
  rw [removeTransaction_eq]

theorem foldl_removeTransaction_mx (txs : List Nat) (g : WaitGraph) :
    (txs.foldl removeTransaction g).maxEdgesPerTx = g.maxEdgesPerTx :=
  foldl_preserves (P := fun g' => g'.maxEdgesPerTx = g.maxEdgesPerTx) txs g
    (fun g' a _ h => (removeTransaction_mx g' a).trans h) rfl

theorem foldl_addWait_mx (bs : List Nat) (g : WaitGraph) (now w : Nat) (p : Option Nat) :
    (bs.foldl (fun g b => addWait g now w b p) g).maxEdgesPerTx = g.maxEdgesPerTx :=
  foldl_preserves (P := fun g' => g'.maxEdgesPerTx = g.maxEdgesPerTx) bs g
    (fun g' a _ h => (addWait_mx g' now w a p).trans h) rfl

theorem removeWait_mx (g : WaitGraph) (w h : Nat) : (removeWait g w h).maxEdgesPerTx = g.maxEdgesPerTx := by
  have h1 : (rwFwd g w h).maxEdgesPerTx = g.maxEdgesPerTx := by
    unfold rwFwd
    cases aGet g.edges w with
    | none => rfl
    | some hs => exact (apply_ite WaitGraph.maxEdgesPerTx ..).trans (ite_self _)
  have h2 : (rwRev (rwFwd g w h) w h).maxEdgesPerTx = (rwFwd g w h).maxEdgesPerTx := by
    unfold rwRev
    cases aGet (rwFwd g w h).reverse h with
    | none => rfl
    | some ws => exact (apply_ite WaitGraph.maxEdgesPerTx ..).trans (ite_self _)
  exact h2.trans h1

theorem tryLockWait_mx (t : LockTable) (g : WaitGraph) (now wnow tx : Nat) (keys : List Nat) (prio : Option Nat) :
    (tryLockWait t g now wnow tx keys prio).2.1.maxEdgesPerTx = g.maxEdgesPerTx := by
  cases hc : firstConflict t.locks now tx keys with
  | none => rw [tryLockWait_of_free hc]; exact removeTransaction_mx g tx
  | some c => rw [tryLockWait_of_conflict hc]; exact foldl_addWait_mx _ g wnow tx prio

theorem cstep_mx (s : CSys) (op : COp) (h : s.g.maxEdgesPerTx = 0) : (cstep s op).g.maxEdgesPerTx = 0 := by
  have hloop (hs : List Nat) : (releaseHandles s.t s.g hs).2.maxEdgesPerTx = 0 := by
    obtain ⟨L, hL⟩ := releaseHandles_eq hs s.t s.g
    rw [hL]; exact (foldl_removeTransaction_mx L s.g).trans h
  cases op with
  | lockW tx keys prio => exact (tryLockWait_mx ..).trans h
  | relHW x => exact hloop [x]
  | gAdd w x prio => exact (addWait_mx ..).trans h
  | gRm tx => exact (removeTransaction_mx ..).trans h
  | gRmW w x => exact (removeWait_mx ..).trans h
  | endTx tx hs => exact (removeTransaction_mx ..).trans (hloop hs)
  | endTxOld tx hs => exact hloop hs
  | cleanW | sweep | gStale => exact (foldl_removeTransaction_mx ..).trans h
  | lock | rel | relH | clean | advance | serializeRestore | gClear => exact h
  | gNew => rfl

theorem corun_mx (T mc : Nat) (ops : List CoOp) : (corun ops (Coord.init T mc)).g.maxEdgesPerTx = 0 := by
  obtain ⟨cops, h⟩ := corun_pair ops (Coord.init T mc)
  exact (congrArg (·.g.maxEdgesPerTx) h).trans
    (foldl_preserves (P := fun s => s.g.maxEdgesPerTx = 0) cops _ (fun s op _ => cstep_mx s op) rfl)

theorem mem_outs_foldl_addWait (bs : List Nat) (g : WaitGraph) (now w : Nat) (p : Option Nat)
    (hmx : g.maxEdgesPerTx = 0) (a b : Nat) :
    b ∈ outs (bs.foldl (fun g b => addWait g now w b p) g) a ↔ b ∈ outs g a ∨ (a = w ∧ b ∈ bs ∧ w ≠ b) := by
  induction bs generalizing g with
  | nil => simp
  | cons x r ih =>
    simp only [List.foldl_cons]
    rw [ih _ (by rw [addWait_mx]; exact hmx), mem_outs_addWait]
    simp only [hmx, Nat.lt_irrefl, false_and, not_false_eq_true, and_true, List.mem_cons, gt_iff_lt]
    constructor
    · rintro ((h | ⟨h1, h2, h3⟩) | ⟨h1, h2, h3⟩)
      · exact Or.inl h
      · exact Or.inr ⟨h1, Or.inl h2, h2 ▸ h3⟩
      · exact Or.inr ⟨h1, Or.inr h2, h3⟩
    · rintro (h | ⟨h1, h2 | h2, h3⟩)
      · exact Or.inl (Or.inl h)
      · exact Or.inl (Or.inr ⟨h1, h2, h2 ▸ h3⟩)
      · exact Or.inr ⟨h1, h2, h3⟩

end Neumann.Locks
