import NeumannModel.Locks.CoordModel
/- Helper lemmas for the lock-table / wait-for-graph properties (C12). Core Lean only. -/
namespace Neumann.Locks

theorem foldl_preserves {α σ : Type} {P : σ → Prop} {f : σ → α → σ} :
    ∀ (l : List α) (s : σ), (∀ s, ∀ a ∈ l, P s → P (f s a)) → P s → P (l.foldl f s)
  | [], _, _, h => h
  | a :: l, s, hf, h =>
    foldl_preserves l (f s a) (fun s b hb => hf s b (List.mem_cons_of_mem _ hb)) (hf s a List.mem_cons_self h)

theorem aGet_cons {β : Type} (a : Nat) (b : β) (r : List (Nat × β)) (k : Nat) :
    aGet ((a, b) :: r) k = if a = k then some b else aGet r k := rfl

theorem aGet_aRemove {β : Type} (m : List (Nat × β)) (k k' : Nat) :
    aGet (aRemove m k) k' = if k' = k then none else aGet m k' := by
  induction m with
  | nil => exact (ite_self _).symm
  | cons p r ih =>
    obtain ⟨a, b⟩ := p
    unfold aRemove at ih ⊢
    rw [List.filter_cons, aGet_cons]
    by_cases h : a = k
    · subst h
      rw [bne_self_eq_false, if_neg Bool.false_ne_true, ih]
      by_cases h2 : k' = a
      · rw [if_pos h2, if_pos h2]
      · rw [if_neg h2, if_neg h2, if_neg (Ne.symm h2)]
    · rw [if_pos (bne_iff_ne.mpr h), aGet_cons, ih]
      by_cases h2 : a = k'
      · rw [if_pos h2, if_pos h2, if_neg (h2 ▸ h)]
      · rw [if_neg h2, if_neg h2]

theorem aGet_aInsert {β : Type} (m : List (Nat × β)) (k k' : Nat) (v : β) :
    aGet (aInsert m k v) k' = if k = k' then some v else aGet m k' := by
  rw [aInsert, aGet_cons, aGet_aRemove]
  by_cases h : k = k'
  · rw [if_pos h, if_pos h]
  · rw [if_neg h, if_neg h, if_neg (Ne.symm h)]

theorem aGet_aModify {β : Type} (m : List (Nat × β)) (k k' : Nat) (f : β → β) :
    aGet (aModify m k f) k' = if k' = k then (aGet m k').map f else aGet m k' := by
  induction m with
  | nil => exact (ite_self _).symm
  | cons p r ih =>
    obtain ⟨a, b⟩ := p
    unfold aModify at ih ⊢
    rw [List.map_cons, aGet_cons]
    by_cases h : a = k
    · subst h
      rw [if_pos rfl, aGet_cons, ih]
      by_cases h2 : a = k'
      · rw [if_pos h2, if_pos h2, if_pos h2.symm]; rfl
      · rw [if_neg h2, if_neg h2]
    · rw [if_neg h, aGet_cons, ih]
      by_cases h2 : a = k'
      · rw [if_pos h2, if_pos h2, if_neg (h2 ▸ h)]
      · rw [if_neg h2, if_neg h2]

theorem aGet_some_mem {β : Type} (m : List (Nat × β)) (k : Nat) (v : β) (h : aGet m k = some v) :
    (k, v) ∈ m := by
  induction m with
  | nil => cases h
  | cons p r ih =>
    obtain ⟨a, b⟩ := p
    rw [aGet_cons] at h
    by_cases h2 : a = k
    · rw [if_pos h2] at h; cases h; subst h2; exact List.mem_cons_self
    · rw [if_neg h2] at h; exact List.mem_cons_of_mem _ (ih h)

theorem mem_aGet_of_nodup {β : Type} (m : List (Nat × β)) (k : Nat) (v : β)
    (nd : (m.map (·.1)).Nodup) (h : (k, v) ∈ m) : aGet m k = some v := by
  induction m with
  | nil => cases h
  | cons p r ih =>
    obtain ⟨a, b⟩ := p
    rw [List.map_cons, List.nodup_cons] at nd
    rcases List.mem_cons.mp h with e | h
    · cases e; exact if_pos rfl
    · have : a ≠ k := fun e => nd.1 (e ▸ List.mem_map.mpr ⟨(k, v), h, rfl⟩)
      exact (if_neg this).trans (ih nd.2 h)

theorem mem_filter_keys {β : Type} (m : List (Nat × β)) (p : Nat × β → Bool) (k : Nat)
    (nd : (m.map (·.1)).Nodup) :
    k ∈ (m.filter p).map (·.1) ↔ ∃ v, aGet m k = some v ∧ p (k, v) = true := by
  constructor
  · intro h
    obtain ⟨⟨a, v⟩, hm, rfl⟩ := List.mem_map.mp h
    exact ⟨v, mem_aGet_of_nodup _ _ _ nd (List.mem_filter.mp hm).1, (List.mem_filter.mp hm).2⟩
  · rintro ⟨v, hg, hp⟩
    exact List.mem_map.mpr ⟨(k, v), List.mem_filter.mpr ⟨aGet_some_mem _ _ _ hg, hp⟩, rfl⟩

theorem keys_aRemove_nodup {β : Type} (m : List (Nat × β)) (k : Nat)
    (nd : (m.map (·.1)).Nodup) : ((aRemove m k).map (·.1)).Nodup :=
  nd.sublist (List.filter_sublist.map _)

theorem keys_aInsert_nodup {β : Type} (m : List (Nat × β)) (k : Nat) (v : β)
    (nd : (m.map (·.1)).Nodup) : ((aInsert m k v).map (·.1)).Nodup :=
  List.nodup_cons.mpr ⟨fun h => by
      obtain ⟨p, hp, e⟩ := List.mem_map.mp h
      exact bne_iff_ne.mp (List.mem_filter.mp hp).2 e, keys_aRemove_nodup m k nd⟩

theorem keys_aModify {β : Type} (m : List (Nat × β)) (k : Nat) (f : β → β) :
    (aModify m k f).map (·.1) = m.map (·.1) := by
  unfold aModify
  rw [List.map_map]
  apply List.map_congr_left
  intro p _
  by_cases h : p.1 = k <;> simp [h]


/-- `locks` and `tx_locks` are `HashMap`s: no key occurs twice -/
structure LockTable.Uniq (t : LockTable) : Prop where
  locks : (t.locks.map (·.1)).Nodup
  txLocks : (t.txLocks.map (·.1)).Nodup

theorem uniq_empty (timeout : Nat) : (LockTable.empty timeout).Uniq := ⟨List.nodup_nil, List.nodup_nil⟩

/-- key `k` is listed under `tx` in the per-transaction index -/
def Listed (t : LockTable) (tx k : Nat) : Prop := ∃ ks, aGet t.txLocks tx = some ks ∧ k ∈ ks

/-- the live foreign holder of key `k`, if there is one: what both scans look for -/
def blocker (locks : List (Nat × KeyLock)) (now tx k : Nat) : Option Nat :=
  match aGet locks k with
  | some l => if !l.isExpired now && l.tx != tx then some l.tx else none
  | none => none

theorem blocker_eq_some (locks : List (Nat × KeyLock)) (now tx k b : Nat) :
    blocker locks now tx k = some b ↔
      ∃ l, aGet locks k = some l ∧ l.isExpired now = false ∧ l.tx ≠ tx ∧ l.tx = b := by
  unfold blocker
  cases aGet locks k with
  | none => simp
  | some l => cases h : l.isExpired now <;> simp [h]

theorem blocker_eq_none (locks : List (Nat × KeyLock)) (now tx k : Nat) :
    blocker locks now tx k = none ↔ ∀ l, aGet locks k = some l → l.isExpired now = true ∨ l.tx = tx := by
  unfold blocker
  cases aGet locks k with
  | none => simp
  | some l => cases h : l.isExpired now <;> simp [h]

theorem firstConflict_eq (locks : List (Nat × KeyLock)) (now tx : Nat) (keys : List Nat) :
    firstConflict locks now tx keys = keys.findSome? (blocker locks now tx) := by
  induction keys with
  | nil => rfl
  | cons k ks ih =>
    rw [firstConflict, List.findSome?_cons, ih, blocker]
    cases aGet locks k with
    | none => rfl
    | some l => dsimp only; split <;> rfl

theorem conflicts_eq (locks : List (Nat × KeyLock)) (now tx : Nat) (keys : List Nat) :
    conflicts locks now tx keys = keys.filterMap (fun k => (blocker locks now tx k).map (k, ·)) := by
  induction keys with
  | nil => rfl
  | cons k ks ih =>
    rw [conflicts, List.filterMap_cons, ih, blocker]
    cases aGet locks k with
    | none => rfl
    | some l => dsimp only; split <;> rfl

theorem firstConflict_none_iff (locks : List (Nat × KeyLock)) (now tx : Nat) (keys : List Nat) :
    firstConflict locks now tx keys = none ↔
      ∀ k ∈ keys, ∀ l, aGet locks k = some l → l.isExpired now = true ∨ l.tx = tx := by
  simp only [firstConflict_eq, List.findSome?_eq_none_iff, blocker_eq_none]

theorem firstConflict_some (locks : List (Nat × KeyLock)) (now tx : Nat) (keys : List Nat) (c : Nat)
    (h : firstConflict locks now tx keys = some c) :
    ∃ k ∈ keys, ∃ l, aGet locks k = some l ∧ l.isExpired now = false ∧ l.tx ≠ tx ∧ l.tx = c := by
  rw [firstConflict_eq] at h
  obtain ⟨k, hk, hb⟩ := List.exists_of_findSome?_eq_some h
  exact ⟨k, hk, (blocker_eq_some ..).mp hb⟩

theorem mem_conflicts (locks : List (Nat × KeyLock)) (now tx : Nat) (keys : List Nat) (k b : Nat) :
    (k, b) ∈ conflicts locks now tx keys ↔
      k ∈ keys ∧ ∃ l, aGet locks k = some l ∧ l.isExpired now = false ∧ l.tx ≠ tx ∧ l.tx = b := by
  rw [conflicts_eq, List.mem_filterMap, ← blocker_eq_some]
  constructor
  · rintro ⟨a, ha, he⟩
    cases hb : blocker locks now tx a with
    | none => rw [hb] at he; cases he
    | some x => rw [hb] at he; cases he; exact ⟨ha, hb⟩
  · rintro ⟨hk, hb⟩
    exact ⟨k, hk, by rw [hb]; rfl⟩

theorem conflicts_nil_iff (locks : List (Nat × KeyLock)) (now tx : Nat) (keys : List Nat) :
    conflicts locks now tx keys = [] ↔ firstConflict locks now tx keys = none := by
  simp only [conflicts_eq, firstConflict_eq, List.filterMap_eq_nil_iff, List.findSome?_eq_none_iff,
    Option.map_eq_none_iff]

theorem aGet_foldl_insert {β : Type} (f : Nat → β) (keys : List Nat) (m : List (Nat × β)) (k : Nat) :
    aGet (keys.foldl (fun m k => aInsert m k (f k)) m) k = if k ∈ keys then some (f k) else aGet m k := by
  induction keys generalizing m with
  | nil => rfl
  | cons a r ih =>
    rw [List.foldl_cons, ih, aGet_aInsert]
    by_cases h1 : k ∈ r
    · rw [if_pos h1, if_pos (List.mem_cons_of_mem _ h1)]
    · by_cases h2 : a = k
      · subst h2; rw [if_neg h1, if_pos rfl, if_pos List.mem_cons_self]
      · rw [if_neg h1, if_neg h2, if_neg (by simp [h1, Ne.symm h2])]

theorem keys_foldl_insert_nodup {β : Type} (f : Nat → β) (keys : List Nat) (m : List (Nat × β))
    (nd : (m.map (·.1)).Nodup) :
    ((keys.foldl (fun m k => aInsert m k (f k)) m).map (·.1)).Nodup :=
  foldl_preserves (P := fun m => (m.map (·.1)).Nodup) keys m (fun m k _ => keys_aInsert_nodup m k (f k)) nd

theorem aGet_acquireAll (t : LockTable) (now tx : Nat) (keys : List Nat) (k : Nat) :
    aGet (acquireAll t now tx keys) k = if k ∈ keys then some (newLock t now tx k) else aGet t.locks k :=
  aGet_foldl_insert (newLock t now tx) keys t.locks k

theorem aGet_extendTx (m : List (Nat × List Nat)) (tx : Nat) (keys : List Nat) (tx' : Nat) :
    aGet (extendTx m tx keys) tx' =
      if tx' = tx then some ((aGet m tx).getD [] ++ keys) else aGet m tx' := by
  unfold extendTx
  by_cases e : tx' = tx
  · subst e
    cases h : aGet m tx' with
    | none => simp [aGet_aInsert]
    | some ks => simp [aGet_aModify, h]
  · cases aGet m tx with
    | none => simp [aGet_aInsert, e, Ne.symm e]
    | some ks => simp [aGet_aModify, e]

theorem keys_extendTx_nodup (m : List (Nat × List Nat)) (tx : Nat) (keys : List Nat)
    (nd : (m.map (·.1)).Nodup) : ((extendTx m tx keys).map (·.1)).Nodup := by
  unfold extendTx
  cases aGet m tx with
  | none => exact keys_aInsert_nodup m tx keys nd
  | some _ => rw [keys_aModify]; exact nd

theorem tryLock_of_conflict {t : LockTable} {now tx : Nat} {keys : List Nat} {c : Nat}
    (h : firstConflict t.locks now tx keys = some c) : tryLock t now tx keys = (t, .error c) := by
  rw [tryLock, h]

theorem tryLock_of_free {t : LockTable} {now tx : Nat} {keys : List Nat}
    (h : firstConflict t.locks now tx keys = none) :
    tryLock t now tx keys =
      ({ locks := acquireAll t now tx keys, txLocks := extendTx t.txLocks tx keys
         defaultTimeout := t.defaultTimeout, nextHandle := t.nextHandle + 1 }, .ok t.nextHandle) := by
  rw [tryLock, h]

theorem uniq_tryLock (t : LockTable) (now tx : Nat) (keys : List Nat) (h : t.Uniq) :
    (tryLock t now tx keys).1.Uniq := by
  cases hc : firstConflict t.locks now tx keys with
  | some c => rw [tryLock_of_conflict hc]; exact h
  | none =>
    rw [tryLock_of_free hc]
    exact ⟨keys_foldl_insert_nodup _ _ _ h.locks, keys_extendTx_nodup _ _ _ h.txLocks⟩

theorem aGet_releaseKey (tx : Nat) (m : List (Nat × KeyLock)) (a k : Nat) :
    aGet (releaseKey tx m a) k =
      match aGet m k with
      | some l => if l.tx = tx ∧ k = a then none else some l
      | none => none := by
  unfold releaseKey
  by_cases hka : k = a
  · subst hka
    cases h : aGet m k with
    | none => exact h
    | some l => by_cases h2 : l.tx = tx <;> simp [h, h2, aGet_aRemove]
  · have other : ∀ o : Option KeyLock, o = match o with
        | some l => if l.tx = tx ∧ k = a then none else some l
        | none => none := by
      intro o; cases o <;> simp [hka]
    cases aGet m a with
    | none => exact other _
    | some la =>
      dsimp only
      split
      · rw [aGet_aRemove, if_neg hka]; exact other _
      · exact other _

theorem aGet_foldl_releaseKey (tx : Nat) (keys : List Nat) (m : List (Nat × KeyLock)) (k : Nat) :
    aGet (keys.foldl (releaseKey tx) m) k =
      match aGet m k with
      | some l => if l.tx = tx ∧ k ∈ keys then none else some l
      | none => none := by
  induction keys generalizing m with
  | nil => cases h : aGet m k <;> simp [h]
  | cons a r ih =>
    rw [List.foldl_cons, ih, aGet_releaseKey]
    cases aGet m k with
    | none => rfl
    | some l =>
      by_cases h : l.tx = tx <;> by_cases h2 : k = a <;> simp [h, h2]

theorem keys_foldl_releaseKey_nodup (tx : Nat) (keys : List Nat) (m : List (Nat × KeyLock))
    (nd : (m.map (·.1)).Nodup) : ((keys.foldl (releaseKey tx) m).map (·.1)).Nodup := by
  refine foldl_preserves (P := fun m => (m.map (·.1)).Nodup) keys m (fun m a _ nd => ?_) nd
  unfold releaseKey
  cases aGet m a with
  | none => exact nd
  | some l => dsimp only; split; exact keys_aRemove_nodup m a nd; exact nd

theorem uniq_release (t : LockTable) (tx : Nat) (h : t.Uniq) : (release t tx).Uniq := by
  unfold release
  cases aGet t.txLocks tx with
  | none => exact h
  | some keys => exact ⟨keys_foldl_releaseKey_nodup _ _ _ h.locks, keys_aRemove_nodup _ _ h.txLocks⟩


theorem foldl_locks_removed {α : Type} {f : LockTable → α → LockTable} {key : α → Nat}
    (hf : ∀ t a k, aGet (f t a).locks k = if k = key a then none else aGet t.locks k)
    (l : List α) (t : LockTable) (k : Nat) :
    aGet (l.foldl f t).locks k = if k ∈ l.map key then none else aGet t.locks k := by
  induction l generalizing t with
  | nil => rfl
  | cons a r ih =>
    rw [List.foldl_cons, ih, hf, List.map_cons]
    by_cases h1 : k ∈ r.map key
    · rw [if_pos h1, if_pos (List.mem_cons_of_mem _ h1)]
    · by_cases h2 : k = key a
      · rw [if_neg h1, if_pos h2, if_pos (h2 ▸ List.mem_cons_self)]
      · rw [if_neg h1, if_neg h2, if_neg (by simp [h1, h2])]

theorem dropKey_locks (t : LockTable) (k0 k : Nat) :
    aGet (dropKey t k0).locks k = if k = k0 then none else aGet t.locks k := by
  unfold dropKey
  cases h : aGet t.locks k0 with
  | none =>
    by_cases e : k = k0
    · rw [if_pos e, e]; exact h
    · rw [if_neg e]
  | some l => exact aGet_aRemove ..

theorem dropKey_listed (t : LockTable) (k0 tx k : Nat) (h : Listed t tx k) (hne : k ≠ k0) :
    Listed (dropKey t k0) tx k := by
  obtain ⟨ks, h1, h2⟩ := h
  unfold dropKey
  cases aGet t.locks k0 with
  | none => exact ⟨ks, h1, h2⟩
  | some l =>
    by_cases e : tx = l.tx
    · exact ⟨ks.filter (· != k0), by rw [aGet_aModify, if_pos e, h1]; rfl,
        List.mem_filter.mpr ⟨h2, bne_iff_ne.mpr hne⟩⟩
    · exact ⟨ks, by rw [aGet_aModify, if_neg e]; exact h1, h2⟩

theorem dropKey_fields (t : LockTable) (k0 : Nat) :
    (dropKey t k0).nextHandle = t.nextHandle ∧ (dropKey t k0).defaultTimeout = t.defaultTimeout := by
  unfold dropKey; cases aGet t.locks k0 <;> exact ⟨rfl, rfl⟩

theorem uniq_dropKey (t : LockTable) (k0 : Nat) (h : t.Uniq) : (dropKey t k0).Uniq := by
  unfold dropKey
  cases aGet t.locks k0 with
  | none => exact h
  | some l => exact ⟨keys_aRemove_nodup _ _ h.locks, by rw [keys_aModify]; exact h.txLocks⟩

theorem foldl_dropKey_locks (ks : List Nat) (t : LockTable) (k : Nat) :
    aGet (ks.foldl dropKey t).locks k = if k ∈ ks then none else aGet t.locks k := by
  rw [foldl_locks_removed (key := id) dropKey_locks, List.map_id]

theorem foldl_dropKey_listed (ks : List Nat) (t : LockTable) (tx k : Nat) (h : Listed t tx k) (hn : k ∉ ks) :
    Listed (ks.foldl dropKey t) tx k :=
  foldl_preserves (P := (Listed · tx k)) ks t
    (fun t a ha h => dropKey_listed t a tx k h (fun e => hn (e ▸ ha))) h

theorem foldl_dropKey_fields (ks : List Nat) (t : LockTable) :
    (ks.foldl dropKey t).nextHandle = t.nextHandle ∧ (ks.foldl dropKey t).defaultTimeout = t.defaultTimeout :=
  foldl_preserves (P := fun t' => t'.nextHandle = t.nextHandle ∧ t'.defaultTimeout = t.defaultTimeout) ks t
    (fun t' a _ h => ⟨(dropKey_fields t' a).1.trans h.1, (dropKey_fields t' a).2.trans h.2⟩) ⟨rfl, rfl⟩

theorem foldl_dropKey_uniq (ks : List Nat) (t : LockTable) (h : t.Uniq) : (ks.foldl dropKey t).Uniq :=
  foldl_preserves ks t (fun t a _ => uniq_dropKey t a) h

theorem mem_keysWithHandle (t : LockTable) (h k : Nat) (nd : (t.locks.map (·.1)).Nodup) :
    k ∈ keysWithHandle t h ↔ ∃ l, aGet t.locks k = some l ∧ l.handle = h := by
  simp only [keysWithHandle, mem_filter_keys _ _ _ nd, beq_iff_eq]

theorem mem_expiredKeys (t : LockTable) (now k : Nat) (nd : (t.locks.map (·.1)).Nodup) :
    k ∈ expiredKeys t now ↔ ∃ l, aGet t.locks k = some l ∧ l.isExpired now = true := by
  simp only [expiredKeys, mem_filter_keys _ _ _ nd]

theorem removed_eq_filter {R : List Nat} {m : List (Nat × KeyLock)} {q : KeyLock → Bool} {k : Nat}
    (hR : k ∈ R ↔ ∃ l, aGet m k = some l ∧ q l = true) :
    (if k ∈ R then none else aGet m k) = (aGet m k).filter (fun l => !q l) := by
  cases h : aGet m k with
  | none => exact ite_self _
  | some l =>
    cases hq : q l with
    | true => rw [if_pos (hR.mpr ⟨l, h, hq⟩)]; simp [Option.filter, hq]
    | false =>
      rw [if_neg fun hm => by
        obtain ⟨l', h', hq'⟩ := hR.mp hm
        cases h.symm.trans h'; rw [hq] at hq'; cases hq']
      simp [Option.filter, hq]

theorem aGet_releaseByHandle (t : LockTable) (h k : Nat) (nd : (t.locks.map (·.1)).Nodup) :
    aGet (releaseByHandle t h).locks k = (aGet t.locks k).filter (fun l => !(l.handle == h)) :=
  (foldl_dropKey_locks ..).trans
    (removed_eq_filter ((mem_keysWithHandle t h k nd).trans (by simp only [beq_iff_eq])))

theorem aGet_cleanupExpired (t : LockTable) (now k : Nat) (nd : (t.locks.map (·.1)).Nodup) :
    aGet (cleanupExpired t now).1.locks k = (aGet t.locks k).filter (fun l => !l.isExpired now) :=
  (foldl_dropKey_locks ..).trans (removed_eq_filter (mem_expiredKeys t now k nd))

theorem sweepKey_locks (t : LockTable) (kt : Nat × Nat) (k : Nat) :
    aGet (sweepKey t kt).locks k = if k = kt.1 then none else aGet t.locks k := by
  unfold sweepKey
  cases aGet t.txLocks kt.2 <;> exact aGet_aRemove ..

theorem sweepKey_fields (t : LockTable) (kt : Nat × Nat) :
    (sweepKey t kt).nextHandle = t.nextHandle ∧ (sweepKey t kt).defaultTimeout = t.defaultTimeout := by
  unfold sweepKey; cases aGet t.txLocks kt.2 <;> exact ⟨rfl, rfl⟩

theorem uniq_sweepKey (t : LockTable) (kt : Nat × Nat) (h : t.Uniq) : (sweepKey t kt).Uniq := by
  unfold sweepKey
  cases aGet t.txLocks kt.2 with
  | none => exact ⟨keys_aRemove_nodup _ _ h.locks, h.txLocks⟩
  | some ks =>
    refine ⟨keys_aRemove_nodup _ _ h.locks, ?_⟩
    dsimp only
    split
    · exact keys_aRemove_nodup _ _ h.txLocks
    · rw [keys_aModify]; exact h.txLocks

theorem sweepKey_listed (t : LockTable) (kt : Nat × Nat) (tx k : Nat)
    (h : Listed t tx k) (hne : ¬ (k = kt.1 ∧ tx = kt.2)) : Listed (sweepKey t kt) tx k := by
  obtain ⟨ks0, h0, hk⟩ := h
  unfold sweepKey
  cases hg : aGet t.txLocks kt.2 with
  | none => exact ⟨ks0, h0, hk⟩
  | some ks =>
    dsimp only
    by_cases e : tx = kt.2
    · -- the entry of `tx` is filtered: `k` stays in it, so it is not emptied
      subst e
      cases h0.symm.trans hg
      have hmem : k ∈ ks0.filter (· != kt.1) :=
        List.mem_filter.mpr ⟨hk, bne_iff_ne.mpr fun e1 => hne ⟨e1, rfl⟩⟩
      rw [if_neg (by rw [List.isEmpty_iff]; exact fun e => by rw [e] at hmem; cases hmem)]
      exact ⟨_, by rw [aGet_aModify, if_pos rfl, h0]; rfl, hmem⟩
    · split
      · exact ⟨ks0, by rw [aGet_aRemove, if_neg e]; exact h0, hk⟩
      · exact ⟨ks0, by rw [aGet_aModify, if_neg e]; exact h0, hk⟩

theorem foldl_sweepKey_locks (oks : List (Nat × Nat)) (t : LockTable) (k : Nat) :
    aGet (oks.foldl sweepKey t).locks k = if k ∈ oks.map (·.1) then none else aGet t.locks k :=
  foldl_locks_removed sweepKey_locks oks t k

theorem foldl_sweepKey_fields (oks : List (Nat × Nat)) (t : LockTable) :
    (oks.foldl sweepKey t).nextHandle = t.nextHandle ∧ (oks.foldl sweepKey t).defaultTimeout = t.defaultTimeout :=
  foldl_preserves (P := fun t' => t'.nextHandle = t.nextHandle ∧ t'.defaultTimeout = t.defaultTimeout) oks t
    (fun t' a _ h => ⟨(sweepKey_fields t' a).1.trans h.1, (sweepKey_fields t' a).2.trans h.2⟩) ⟨rfl, rfl⟩

theorem foldl_sweepKey_uniq (oks : List (Nat × Nat)) (t : LockTable) (h : t.Uniq) : (oks.foldl sweepKey t).Uniq :=
  foldl_preserves oks t (fun t a _ => uniq_sweepKey t a) h

theorem foldl_sweepKey_listed (oks : List (Nat × Nat)) (t : LockTable) (tx k : Nat)
    (h : Listed t tx k) (hn : (k, tx) ∉ oks) : Listed (oks.foldl sweepKey t) tx k :=
  foldl_preserves (P := (Listed · tx k)) oks t
    (fun t a ha h => sweepKey_listed t a tx k h (fun e => hn (by rw [e.1, e.2]; exact ha))) h

theorem mem_orphanKeys_fst (t : LockTable) (active : List Nat) (ps k : Nat) (nd : (t.locks.map (·.1)).Nodup) :
    k ∈ (orphanKeys t active ps).map (·.1) ↔
      ∃ l, aGet t.locks k = some l ∧ l.tx ∉ active ∧ l.acquiredAt < ps := by
  unfold orphanKeys
  rw [List.map_map, show ((·.1) ∘ fun p : Nat × KeyLock => (p.1, p.2.tx)) = (·.1) from rfl, mem_filter_keys _ _ _ nd]
  simp

theorem mem_orphanKeys (t : LockTable) (active : List Nat) (ps k tx : Nat) (nd : (t.locks.map (·.1)).Nodup) :
    (k, tx) ∈ orphanKeys t active ps ↔
      ∃ l, aGet t.locks k = some l ∧ l.tx = tx ∧ tx ∉ active ∧ l.acquiredAt < ps := by
  constructor
  · intro h
    obtain ⟨l, h1, h2, h3⟩ := (mem_orphanKeys_fst t active ps k nd).mp (List.mem_map.mpr ⟨_, h, rfl⟩)
    obtain ⟨⟨a, l'⟩, hm, e⟩ := List.mem_map.mp h
    cases e
    cases (mem_aGet_of_nodup _ _ _ nd (List.mem_filter.mp hm).1).symm.trans h1
    exact ⟨l, h1, rfl, h2, h3⟩
  · rintro ⟨l, hg, rfl, h1, h2⟩
    exact List.mem_map.mpr ⟨(k, l), List.mem_filter.mpr ⟨aGet_some_mem _ _ _ hg, by simp [h1, h2]⟩, rfl⟩


/-- ghost record: transaction `tx` was granted `key` at time `at_` with timeout `to` and has not
    released it since (transaction-level view; see `step`) -/
structure Grant where
  key : Nat
  tx : Nat
  at_ : Nat
  to : Nat
deriving DecidableEq, Repr

def Grant.expired (g : Grant) (now : Nat) : Bool := decide (now - g.at_ > g.to)

inductive Op
  | tryLock (tx : Nat) (keys : List Nat)
  | release (tx : Nat)
  | releaseByHandle (h : Nat)
  | cleanupExpired
  | advance (d : Nat)
  | serializeRestore
  /-- `release_orphaned_locks(partition_start)` with `active` = the pending transaction ids -/
  | sweep (active : List Nat) (partitionStart : Nat)
deriving Repr

structure Sys where
  t : LockTable
  now : Nat
  ghost : List Grant
deriving Repr

/-- a grant survives `release_by_handle h` unless the lock currently recorded for its key belongs
    to its transaction and carries handle `h` -/
def ghostRelH (t : LockTable) (h : Nat) (g : Grant) : Bool :=
  match aGet t.locks g.key with
  | some l => !(l.handle == h && l.tx == g.tx)
  | none => true

/-- a grant survives the orphan sweep unless the lock currently recorded for its key belongs to its
    transaction and is swept (owner not active, acquired before the partition start) -/
def ghostSweep (t : LockTable) (active : List Nat) (ps : Nat) (g : Grant) : Bool :=
  match aGet t.locks g.key with
  | some l => !(l.tx == g.tx && !(active.contains l.tx) && decide (l.acquiredAt < ps))
  | none => true

def step (s : Sys) : Op → Sys
  | .tryLock tx keys =>
    match tryLock s.t s.now tx keys with
    | (t', .ok _) =>
      { t := t', now := s.now
        ghost := s.ghost ++ keys.map (fun k => ⟨k, tx, s.now, s.t.defaultTimeout⟩) }
    | (t', .error _) => { s with t := t' }
  | .release tx => { s with t := release s.t tx, ghost := s.ghost.filter (fun g => g.tx != tx) }
  | .releaseByHandle h =>
    { s with t := releaseByHandle s.t h, ghost := s.ghost.filter (ghostRelH s.t h) }
  | .cleanupExpired => { s with t := (cleanupExpired s.t s.now).1 }
  | .advance d => { s with now := s.now + d }
  | .serializeRestore => { s with t := restore (serialize s.t) s.t.nextHandle }
  | .sweep active ps =>
    { s with t := (orphanKeys s.t active ps).foldl sweepKey s.t
             ghost := s.ghost.filter (ghostSweep s.t active ps) }

def run (ops : List Op) (s : Sys) : Sys := ops.foldl step s

def Sys.init (timeout : Nat) : Sys := { t := LockTable.empty timeout, now := 0, ghost := [] }

/-- a grant has lapsed, or the lock now recorded for its key belongs to its transaction and lasts
    at least as long -/
def Grant.Backed (g : Grant) (s : Sys) : Prop :=
  g.at_ + g.to < s.now ∨
    ∃ l, aGet s.t.locks g.key = some l ∧ l.tx = g.tx ∧ g.at_ + g.to ≤ l.acquiredAt + l.timeout

structure Inv (s : Sys) : Prop where
  uq : s.t.Uniq
  lk : ∀ k l, aGet s.t.locks k = some l →
        l.key = k ∧ l.handle < s.t.nextHandle ∧ l.timeout = s.t.defaultTimeout ∧ l.acquiredAt ≤ s.now ∧
        Listed s.t l.tx k
  gh : ∀ g ∈ s.ghost, g.at_ ≤ s.now ∧ g.to = s.t.defaultTimeout ∧ g.Backed s

theorem elapsed_gt_iff (now a t : Nat) : now - a > t ↔ a + t < now := Nat.lt_sub_iff_add_lt'

theorem isExpired_iff (l : KeyLock) (now : Nat) :
    l.isExpired now = true ↔ l.acquiredAt + l.timeout < now :=
  decide_eq_true_iff.trans (elapsed_gt_iff ..)

theorem Grant.expired_iff (g : Grant) (now : Nat) : g.expired now = true ↔ g.at_ + g.to < now :=
  decide_eq_true_iff.trans (elapsed_gt_iff ..)

/-- both grants are backed by the one lock recorded for the key -/
theorem Inv.excl {s : Sys} (hi : Inv s) {g1 g2 : Grant} (h1 : g1 ∈ s.ghost) (h2 : g2 ∈ s.ghost)
    (hk : g1.key = g2.key) (e1 : g1.expired s.now = false) (e2 : g2.expired s.now = false) :
    g1.tx = g2.tx := by
  rcases (hi.gh g1 h1).2.2 with a | ⟨l, l1, l2, _⟩
  · exact absurd ((g1.expired_iff _).mpr a) (Bool.eq_false_iff.mp e1)
  · rcases (hi.gh g2 h2).2.2 with b | ⟨l', l1', l2', _⟩
    · exact absurd ((g2.expired_iff _).mpr b) (Bool.eq_false_iff.mp e2)
    · cases (hk ▸ l1).symm.trans l1'; exact l2.symm.trans l2'

theorem Inv.index {s : Sys} (hi : Inv s) :
    (∀ k l, aGet s.t.locks k = some l → l.key = k ∧ l.handle < s.t.nextHandle ∧ Listed s.t l.tx k) ∧
    (s.t.locks.map (·.1)).Nodup ∧ (s.t.txLocks.map (·.1)).Nodup :=
  ⟨fun k l h => ⟨(hi.lk k l h).1, (hi.lk k l h).2.1, (hi.lk k l h).2.2.2.2⟩, hi.uq.locks, hi.uq.txLocks⟩

theorem inv_init (timeout : Nat) : Inv (Sys.init timeout) :=
  ⟨uniq_empty timeout, fun _ _ => nofun, fun _ => nofun⟩

theorem inv_tryLock (s : Sys) (tx : Nat) (keys : List Nat) (hi : Inv s) : Inv (step s (.tryLock tx keys)) := by
  unfold step
  dsimp only
  cases hc : firstConflict s.t.locks s.now tx keys with
  | some c => rw [tryLock_of_conflict hc]; exact hi
  | none =>
    rw [tryLock_of_free hc]
    have hfree := (firstConflict_none_iff ..).mp hc
    refine ⟨(tryLock_of_free hc ▸ uniq_tryLock s.t s.now tx keys hi.uq :), ?_, ?_⟩
    · intro k l h
      change aGet (acquireAll s.t s.now tx keys) k = some l at h
      rw [aGet_acquireAll] at h
      by_cases hk : k ∈ keys
      · rw [if_pos hk] at h; cases h
        exact ⟨rfl, Nat.lt_succ_self _, rfl, Nat.le_refl _, _, (aGet_extendTx ..).trans (if_pos rfl),
          List.mem_append_right _ hk⟩
      · rw [if_neg hk] at h
        obtain ⟨h1, h2, h3, h4, ks, h5, h6⟩ := hi.lk k l h
        refine ⟨h1, Nat.lt_succ_of_lt h2, h3, h4, ?_⟩
        by_cases e : l.tx = tx
        · exact ⟨_, by rw [aGet_extendTx, if_pos e, ← e, h5]; rfl, List.mem_append_left _ h6⟩
        · exact ⟨ks, by rw [aGet_extendTx, if_neg e]; exact h5, h6⟩
    · intro g hg
      have hnew (k : Nat) (hk : k ∈ keys) :
          aGet (acquireAll s.t s.now tx keys) k = some (newLock s.t s.now tx k) := by
        rw [aGet_acquireAll, if_pos hk]
      rcases List.mem_append.mp hg with hg | hg
      · obtain ⟨g1, g2, g3⟩ := hi.gh g hg
        refine ⟨g1, g2, ?_⟩
        rcases g3 with g3 | ⟨l, l1, l2, l3⟩
        · exact Or.inl g3
        · by_cases hk : g.key ∈ keys
          · -- the key is taken again: its old lock had lapsed or was the requester's own
            rcases hfree g.key hk l l1 with he | he
            · exact Or.inl (Nat.lt_of_le_of_lt l3 ((isExpired_iff l s.now).mp he))
            · exact Or.inr ⟨_, hnew _ hk, he ▸ l2, Nat.add_le_add (hi.gh g hg).1 (Nat.le_of_eq g2)⟩
          · exact Or.inr ⟨l, (aGet_acquireAll ..).trans ((if_neg hk).trans l1), l2, l3⟩
      · obtain ⟨k, hk, rfl⟩ := List.mem_map.mp hg
        exact ⟨Nat.le_refl _, rfl, Or.inr ⟨_, hnew k hk, rfl, Nat.le_refl _⟩⟩


theorem inv_release (s : Sys) (tx : Nat) (hi : Inv s) : Inv (step s (.release tx)) := by
  have hgh : ∀ g ∈ s.ghost.filter (fun g => g.tx != tx), g ∈ s.ghost ∧ g.tx ≠ tx :=
    fun g hg => ⟨(List.mem_filter.mp hg).1, bne_iff_ne.mp (List.mem_filter.mp hg).2⟩
  unfold step release
  dsimp only
  cases hk : aGet s.t.txLocks tx with
  | none => exact ⟨hi.uq, hi.lk, fun g hg => hi.gh g (hgh g hg).1⟩
  | some keys =>
    refine ⟨hk ▸ uniq_release s.t tx hi.uq, ?_, ?_⟩
    · intro k l h
      change aGet (keys.foldl (releaseKey tx) s.t.locks) k = some l at h
      rw [aGet_foldl_releaseKey] at h
      cases ho : aGet s.t.locks k with
      | none => rw [ho] at h; cases h
      | some l0 =>
        rw [ho] at h
        dsimp only at h
        split at h
        · cases h
        · rename_i hc
          cases h
          obtain ⟨h1, h2, h3, h4, ks, h5, h6⟩ := hi.lk k l ho
          -- a surviving lock is not one of `tx`: those are all listed under `tx`
          have hne : l.tx ≠ tx := fun e => hc ⟨e, by cases (e ▸ h5).symm.trans hk; exact h6⟩
          exact ⟨h1, h2, h3, h4, ks, (aGet_aRemove ..).trans ((if_neg hne).trans h5), h6⟩
    · intro g hg
      obtain ⟨g1, g2, g3⟩ := hi.gh g (hgh g hg).1
      refine ⟨g1, g2, g3.imp id fun ⟨l, l1, l2, l3⟩ => ⟨l, ?_, l2, l3⟩⟩
      show aGet (keys.foldl (releaseKey tx) s.t.locks) g.key = some l
      rw [aGet_foldl_releaseKey, l1]
      exact if_neg fun h => (hgh g hg).2 (l2 ▸ h.1)

theorem inv_removeKeys (s : Sys) (hi : Inv s) (t' : LockTable) (ghost' : List Grant) (R : List Nat)
    (huq : t'.Uniq) (hf : t'.nextHandle = s.t.nextHandle ∧ t'.defaultTimeout = s.t.defaultTimeout)
    (hlocks : ∀ k, aGet t'.locks k = if k ∈ R then none else aGet s.t.locks k)
    (hlisted : ∀ k l, aGet s.t.locks k = some l → k ∉ R → Listed s.t l.tx k → Listed t' l.tx k)
    (hsub : ∀ g ∈ ghost', g ∈ s.ghost)
    (hkeep : ∀ g ∈ ghost', g.key ∈ R → ∀ l, aGet s.t.locks g.key = some l → l.tx = g.tx →
              g.at_ + g.to ≤ l.acquiredAt + l.timeout → g.at_ + g.to < s.now) :
    Inv { s with t := t', ghost := ghost' } := by
  refine ⟨huq, ?_, ?_⟩
  · intro k l h
    rw [hlocks] at h
    by_cases hk : k ∈ R
    · rw [if_pos hk] at h; cases h
    · rw [if_neg hk] at h
      obtain ⟨h1, h2, h3, h4, h5⟩ := hi.lk k l h
      exact ⟨h1, hf.1 ▸ h2, hf.2 ▸ h3, h4, hlisted k l h hk h5⟩
  · intro g hg
    obtain ⟨g1, g2, g3⟩ := hi.gh g (hsub g hg)
    refine ⟨g1, hf.2 ▸ g2, ?_⟩
    rcases g3 with g3 | ⟨l, l1, l2, l3⟩
    · exact Or.inl g3
    · by_cases hk : g.key ∈ R
      · exact Or.inl (hkeep g hg hk l l1 l2 l3)
      · exact Or.inr ⟨l, (hlocks _).trans ((if_neg hk).trans l1), l2, l3⟩

theorem inv_dropKeys (s : Sys) (ks : List Nat) (ghost' : List Grant) (hi : Inv s)
    (hsub : ∀ g ∈ ghost', g ∈ s.ghost)
    (hkeep : ∀ g ∈ ghost', g.key ∈ ks → ∀ l, aGet s.t.locks g.key = some l → l.tx = g.tx →
              g.at_ + g.to ≤ l.acquiredAt + l.timeout → g.at_ + g.to < s.now) :
    Inv { s with t := ks.foldl dropKey s.t, ghost := ghost' } :=
  inv_removeKeys s hi _ ghost' ks (foldl_dropKey_uniq ks s.t hi.uq) (foldl_dropKey_fields ks s.t)
    (foldl_dropKey_locks ks s.t) (fun k l _ hk h => foldl_dropKey_listed ks s.t l.tx k h hk) hsub hkeep

theorem inv_releaseByHandle (s : Sys) (h : Nat) (hi : Inv s) : Inv (step s (.releaseByHandle h)) := by
  refine inv_dropKeys s _ _ hi (fun g hg => (List.mem_filter.mp hg).1) ?_
  intro g hg hk l l1 l2 _
  -- the grant was kept although its lock carries `h`: impossible
  obtain ⟨l', l1', lh⟩ := (mem_keysWithHandle s.t h g.key hi.uq.locks).mp hk
  cases l1.symm.trans l1'
  have := (List.mem_filter.mp hg).2
  simp [ghostRelH, l1, lh, l2] at this

theorem inv_cleanupExpired (s : Sys) (hi : Inv s) : Inv (step s .cleanupExpired) := by
  refine inv_dropKeys s _ _ hi (fun g hg => hg) ?_
  intro g _ hk l l1 _ l3
  obtain ⟨l', l1', lh⟩ := (mem_expiredKeys s.t s.now g.key hi.uq.locks).mp hk
  cases l1.symm.trans l1'
  exact Nat.lt_of_le_of_lt l3 ((isExpired_iff l s.now).mp lh)

theorem inv_sweep (s : Sys) (active : List Nat) (ps : Nat) (hi : Inv s) : Inv (step s (.sweep active ps)) := by
  refine inv_removeKeys s hi _ _ ((orphanKeys s.t active ps).map (·.1)) (foldl_sweepKey_uniq _ s.t hi.uq)
    (foldl_sweepKey_fields _ s.t) (foldl_sweepKey_locks _ s.t) ?_ (fun g hg => (List.mem_filter.mp hg).1) ?_
  · intro k l _ hk h
    exact foldl_sweepKey_listed _ s.t l.tx k h fun hm => hk (List.mem_map.mpr ⟨_, hm, rfl⟩)
  · intro g hg hk l l1 l2 _
    -- the grant was kept although its lock is swept: impossible
    obtain ⟨l', e1, e2, e3⟩ := (mem_orphanKeys_fst s.t active ps g.key hi.uq.locks).mp hk
    cases l1.symm.trans e1
    have := (List.mem_filter.mp hg).2
    simp [ghostSweep, l1, l2, e3] at this
    exact absurd (l2 ▸ this) e2

theorem inv_advance (s : Sys) (d : Nat) (hi : Inv s) : Inv (step s (.advance d)) := by
  refine ⟨hi.uq, fun k l h => ?_, fun g hg => ?_⟩
  · obtain ⟨h1, h2, h3, h4, r⟩ := hi.lk k l h
    exact ⟨h1, h2, h3, Nat.le_add_right_of_le h4, r⟩
  · obtain ⟨g1, g2, g3⟩ := hi.gh g hg
    exact ⟨Nat.le_add_right_of_le g1, g2, g3.imp (Nat.lt_add_right d) id⟩

theorem restore_serialize (t : LockTable) : restore (serialize t) t.nextHandle = t := rfl

theorem inv_step (s : Sys) (op : Op) (hi : Inv s) : Inv (step s op) := by
  cases op with
  | tryLock tx keys => exact inv_tryLock s tx keys hi
  | release tx => exact inv_release s tx hi
  | releaseByHandle h => exact inv_releaseByHandle s h hi
  | cleanupExpired => exact inv_cleanupExpired s hi
  | advance d => exact inv_advance s d hi
  | serializeRestore => exact hi
  | sweep active ps => exact inv_sweep s active ps hi

theorem inv_run (ops : List Op) (s : Sys) (hi : Inv s) : Inv (run ops s) :=
  foldl_preserves ops s (fun s op _ => inv_step s op) hi

theorem run_concat (ops : List Op) (op : Op) (s : Sys) : run (ops ++ [op]) s = step (run ops s) op :=
  by rw [run, List.foldl_append]; rfl

theorem eraseFromEach_none (m : List (Nat × List Nat)) (xs : List Nat) (tx k : Nat)
    (h : aGet m k = none) : aGet (eraseFromEach m xs tx) k = none :=
  foldl_preserves (P := fun m => aGet m k = none) xs m
    (fun m x _ h => by rw [aGet_aModify, h]; exact ite_self _) h

/-- `remove_transaction` always removes the transaction as a *waiter* (its out-edges, wait-start
    and priority); whether it disappears as a *holder* depends on the reverse index -/
theorem removeTransaction_waiter_gone (g : WaitGraph) (tx : Nat) :
    aGet (removeTransaction g tx).edges tx = none ∧ aGet (removeTransaction g tx).waitStarted tx = none ∧
    aGet (removeTransaction g tx).priorities tx = none := by
  have gone {β : Type} (m : List (Nat × β)) : aGet (aRemove m tx) tx = none :=
    (aGet_aRemove ..).trans (if_pos rfl)
  refine ⟨?_, gone _, gone _⟩
  unfold removeTransaction
  dsimp only
  split
  · exact eraseFromEach_none _ _ _ _ (gone _)
  · exact gone _

end Neumann.Locks
