import NeumannModel.Locks.OrderModel
/-
  C12 — helper lemmas for the lock-order model: a system whose threads all acquire in increasing
  rank is never stuck; the discipline is kept by every step; every entry point of the coordinator
  as it is now follows the discipline (compositional `Closed` blocks).
-/
namespace Neumann.Locks.Order
open Res Mode Act

theorem rank_lt (r : Res) : r.rank < 10 := by cases r <;> decide

/-! ### what `Ordered` gives -/

theorem ordered_done {t : Thread} (ho : t.Ordered) (hd : t.todo = []) : t.held = [] := by
  unfold Thread.Ordered at ho
  rw [hd] at ho
  simpa [after] using ho

theorem ordered_acq_above {t : Thread} (ho : t.Ordered) {r : Res} {m : Mode} {rest : List Act}
    (hd : t.todo = .acq r m :: rest) {r' : Res} (hh : t.holds r' = true) : r'.rank < r.rank := by
  unfold Thread.Ordered at ho
  rw [hd] at ho
  simp only [after] at ho
  split at ho
  · rename_i hall
    simp only [Thread.holds, List.any_eq_true] at hh
    obtain ⟨h, hm, he⟩ := hh
    have := (List.all_eq_true.mp hall) h hm
    have e : h.1 = r' := by simpa using he
    rw [e] at this
    simpa using this
  · cases ho

theorem ordered_step {t : Thread} (ho : t.Ordered) : t.step.Ordered := by
  unfold Thread.Ordered at ho ⊢
  unfold Thread.step
  split
  · exact ho
  · rename_i r m rest hd
    rw [hd] at ho
    simp only [after] at ho
    split at ho
    · exact ho
    · cases ho
  · rename_i r m rest hd
    rw [hd] at ho
    simpa [after] using ho

/-! ### never stuck -/

theorem ordered_not_stuck (s : Sys) (ho : ∀ t ∈ s, t.Ordered) : ¬ Stuck s := by
  intro ⟨⟨t0, ht0, hne⟩, hall⟩
  have key : ∀ n, ∀ t ∈ s, ∀ r m rest, t.todo = .acq r m :: rest → 10 ≤ r.rank + n → False := by
    intro n
    induction n with
    | zero =>
      intro t _ r m rest _ h
      exact Nat.not_lt.mpr h (rank_lt r)
    | succ n ih =>
      intro t ht r m rest htodo hr
      obtain ⟨r', m', rest', e, u, hu, hh⟩ := hall t ht (by simp [htodo])
      rw [htodo] at e
      injection e with e1 _
      injection e1 with er em
      subst er
      have hune : u.todo ≠ [] := by
        intro hd
        have := ordered_done (ho u hu) hd
        simp [Thread.holds, this] at hh
      obtain ⟨r2, m2, rest2, e2, _⟩ := hall u hu hune
      have hlt : r.rank < r2.rank := ordered_acq_above (ho u hu) e2 hh
      exact ih u hu r2 m2 rest2 e2
        (Nat.le_trans (by rw [Nat.succ_add_eq_add_succ]; exact hr) (Nat.add_le_add_right hlt n))
  obtain ⟨r, m, rest, e, _⟩ := hall t0 ht0 hne
  exact key 10 t0 ht0 r m rest e (Nat.le_add_left 10 _)

theorem stepAt_ordered (adm : Sys → Thread → Bool) (s s' : Sys) (i : Nat)
    (ho : ∀ t ∈ s, t.Ordered) (h : stepAt adm s i = some s') : ∀ t ∈ s', t.Ordered := by
  unfold stepAt at h
  split at h
  · cases h
  · rename_i t hi
    split at h
    · injection h with h
      subst h
      intro u hu
      rcases List.mem_or_eq_of_mem_set hu with hu | hu
      · exact ho u hu
      · subst hu
        exact ordered_step (ho t (List.mem_of_getElem? hi))
    · cases h

theorem runSched_ordered (adm : Sys → Thread → Bool) (sched : List Nat) :
    ∀ (s s' : Sys), (∀ t ∈ s, t.Ordered) → runSched adm s sched = some s' → ∀ t ∈ s', t.Ordered := by
  induction sched with
  | nil =>
    intro s s' ho h
    simp only [runSched] at h
    injection h with h
    subst h
    exact ho
  | cons i is ih =>
    intro s s' ho h
    simp only [runSched] at h
    split at h
    · cases h
    · rename_i s1 h1
      exact ih s1 s' (stepAt_ordered adm s s1 i ho h1) h

theorem deadlockedRW_stuck (s : Sys) (h : deadlockedRW s = true) : Stuck s := by
  simp only [deadlockedRW, Bool.and_eq_true, List.any_eq_true, List.all_eq_true] at h
  obtain ⟨⟨t0, ht0, hne⟩, hall⟩ := h
  refine ⟨⟨t0, ht0, by simpa using hne⟩, ?_⟩
  intro t ht hne
  have := hall t ht
  have hemp : t.todo.isEmpty = false := by
    cases hd : t.todo with
    | nil => exact absurd hd hne
    | cons _ _ => rfl
  simp only [hemp, Bool.false_or, Bool.not_eq_true'] at this
  unfold rwAdmit at this
  split at this
  · rename_i hd; exact absurd hd hne
  · cases this
  · rename_i r m rest hd
    simp only [Bool.not_eq_false', List.any_eq_true] at this
    obtain ⟨u, hu, hc⟩ := this
    refine ⟨r, m, rest, hd, u, hu, ?_⟩
    simp only [Thread.holdsConflicting, List.any_eq_true, Bool.and_eq_true] at hc
    obtain ⟨h, hm, he, _⟩ := hc
    simp only [Thread.holds, List.any_eq_true]
    exact ⟨h, hm, he⟩

/-! ### compositional proof that the programs follow the discipline -/

/-- every guard in `H` has a rank below `k` -/
def Below (H : Held) (k : Nat) : Prop := ∀ h ∈ H, h.1.rank < k

/-- `p` can be run under any set of guards of rank below `k` and gives them back unchanged -/
def Closed (k : Nat) (p : List Act) : Prop := ∀ H, Below H k → after H p = some H

theorem after_append (H : Held) (p q : List Act) :
    after H (p ++ q) = (after H p).bind (fun H' => after H' q) := by
  induction p generalizing H with
  | nil => simp [after]
  | cons a p ih =>
    cases a with
    | acq r m =>
      simp only [List.cons_append, after]
      split
      · exact ih _
      · rfl
    | rel r m =>
      simp only [List.cons_append, after]
      exact ih _

theorem closed_nil (k : Nat) : Closed k [] := fun _ _ => rfl

theorem closed_append {k : Nat} {p q : List Act} (hp : Closed k p) (hq : Closed k q) :
    Closed k (p ++ q) := by
  intro H hH
  rw [after_append, hp H hH]
  exact hq H hH

theorem closed_mono {k k' : Nat} {p : List Act} (hp : Closed k p) (hk : k' ≤ k) : Closed k' p :=
  fun H hH => hp H (fun h hm => Nat.lt_of_lt_of_le (hH h hm) hk)

theorem closed_flatMap {α : Type} {k : Nat} (f : α → List Act) (l : List α)
    (hf : ∀ x, Closed k (f x)) : Closed k (l.flatMap f) := by
  induction l with
  | nil => exact closed_nil k
  | cons x l ih =>
    rw [List.flatMap_cons]
    exact closed_append (hf x) ih

theorem closed_ite {k : Nat} (c : Bool) {p q : List Act} (hp : Closed k p) (hq : Closed k q) :
    Closed k (if c then p else q) := by
  cases c
  · exact hq
  · exact hp

theorem below_all {H : Held} {k : Nat} (hH : Below H k) : H.all (fun h => h.1.rank < k) = true := by
  simp only [List.all_eq_true, decide_eq_true_eq]
  exact hH

theorem below_cons {H : Held} {k : Nat} {r : Res} {m : Mode} (hH : Below H r.rank) (hk : r.rank < k) :
    Below ((r, m) :: H) k := by
  intro h hm
  rcases List.mem_cons.mp hm with e | hm
  · subst e; exact hk
  · exact Nat.lt_trans (hH h hm) hk

/-- `let g = r.lock(); body; drop(g)` where `body` is closed above `r` -/
theorem closed_hold {k : Nat} {r : Res} {m : Mode} {body : List Act} (hk : k ≤ r.rank)
    (hb : Closed (r.rank + 1) body) : Closed k ([acq r m] ++ body ++ [rel r m]) := by
  intro H hH
  have hH' : Below H r.rank := fun h hm => Nat.lt_of_lt_of_le (hH h hm) hk
  simp only [List.cons_append, List.nil_append, after, below_all hH', if_true]
  rw [after_append, hb _ (below_cons hH' (Nat.lt_succ_self _))]
  simp [after]

theorem closed_once {k : Nat} (r : Res) (m : Mode) (hk : k ≤ r.rank) : Closed k (once r m) := by
  have := closed_hold (m := m) hk (closed_nil (r.rank + 1))
  simpa [once] using this

/-- two guards taken one inside the other and dropped in either order, with `body` inside both -/
theorem closed_hold2 {k : Nat} {r1 r2 : Res} {m1 m2 : Mode} {body : List Act} (hk : k ≤ r1.rank)
    (h12 : r1.rank < r2.rank) (hb : Closed (r2.rank + 1) body) (inner_first : Bool) :
    Closed k ([acq r1 m1, acq r2 m2] ++ body ++
      (if inner_first then [rel r2 m2, rel r1 m1] else [rel r1 m1, rel r2 m2])) := by
  intro H hH
  have hH1 : Below H r1.rank := fun h hm => Nat.lt_of_lt_of_le (hH h hm) hk
  have hH2 : Below ((r1, m1) :: H) r2.rank := below_cons hH1 h12
  have hH3 : Below ((r2, m2) :: (r1, m1) :: H) (r2.rank + 1) := below_cons hH2 (Nat.lt_succ_self _)
  have hne : ((r2, m2) == (r1, m1)) = false := by
    have : r2 ≠ r1 := by intro e; rw [e] at h12; exact Nat.lt_irrefl _ h12
    simp [this]
  simp only [List.cons_append, List.nil_append, after, below_all hH1, below_all hH2, if_true]
  rw [after_append, hb _ hH3]
  cases inner_first <;> simp [after, hne]


theorem below_zero {H : Held} (hH : Below H 0) : H = [] := by
  cases H with
  | nil => rfl
  | cons h t => exact absurd (hH h (List.mem_cons_self ..)) (Nat.not_lt_zero _)

theorem closed_zero_of_after {p : List Act} (h : after [] p = some []) : Closed 0 p := by
  intro H hH
  rw [below_zero hH]
  exact h

/-! ### the blocks -/

theorem closed_gRemoveTx (oi : Bool × Bool) : Closed 6 (gRemoveTx oi) := by
  unfold gRemoveTx
  refine closed_append (closed_append (closed_append (closed_append (closed_append ?_ ?_) ?_) ?_) ?_) ?_
  · exact closed_once _ _ (by decide)
  · exact closed_ite _ (closed_once _ _ (by decide)) (closed_nil _)
  · exact closed_once _ _ (by decide)
  · exact closed_ite _ (closed_once _ _ (by decide)) (closed_nil _)
  · exact closed_once _ _ (by decide)
  · exact closed_once _ _ (by decide)

theorem closed_gAddWait (self full prio : Bool) : Closed 6 (gAddWait self full prio) := by
  unfold gAddWait
  refine closed_ite _ (closed_nil _) (closed_append (closed_once _ _ (by decide)) ?_)
  refine closed_ite _ (closed_nil _) (closed_append (closed_append ?_ ?_) ?_)
  · exact closed_once _ _ (by decide)
  · exact closed_once _ _ (by decide)
  · exact closed_ite _ (closed_once _ _ (by decide)) (closed_nil _)

theorem closed_gRemoveWait (e : Bool) : Closed 6 (gRemoveWait e) := by
  unfold gRemoveWait
  refine closed_append (closed_hold (by decide) ?_) (closed_once _ _ (by decide))
  exact closed_ite _ (closed_once _ _ (by decide)) (closed_nil _)

theorem closed_gTransactionCount : Closed 6 gTransactionCount := by
  have := closed_hold2 (k := 6) (r1 := edges) (r2 := reverse) (m1 := read) (m2 := read)
    (by decide) (by decide) (closed_nil _) false
  simpa [gTransactionCount] using this

theorem closed_gClear : Closed 6 gClear := by
  unfold gClear
  exact closed_append (closed_append (closed_append (closed_once _ _ (by decide))
    (closed_once _ _ (by decide))) (closed_once _ _ (by decide))) (closed_once _ _ (by decide))

theorem closed_gCleanupStale (l : List (Bool × Bool)) : Closed 6 (gCleanupStale l) := by
  unfold gCleanupStale
  exact closed_append (closed_once _ _ (by decide)) (closed_flatMap _ _ closed_gRemoveTx)

theorem closed_lmSection : Closed 4 lmSection := by
  have := closed_hold2 (k := 4) (r1 := locks) (r2 := txLocks) (m1 := write) (m2 := write)
    (by decide) (by decide) (closed_nil _) false
  simpa [lmSection] using this

theorem closed_lmSectionRev : Closed 4 lmSectionRev := by
  have := closed_hold2 (k := 4) (r1 := locks) (r2 := txLocks) (m1 := write) (m2 := write)
    (by decide) (by decide) (closed_nil _) true
  simpa [lmSectionRev] using this

theorem closed_lmToSerializable : Closed 4 lmToSerializable := by
  have := closed_hold2 (k := 4) (r1 := locks) (r2 := txLocks) (m1 := read) (m2 := read)
    (by decide) (by decide) (closed_nil _) true
  simpa [lmToSerializable] using this

theorem closed_lmReleaseByHandleWC (f : Option (Bool × Bool)) : Closed 4 (lmReleaseByHandleWC f) := by
  unfold lmReleaseByHandleWC
  refine closed_append closed_lmSection ?_
  cases f with
  | none => exact closed_nil _
  | some oi => exact closed_mono (closed_gRemoveTx oi) (by decide)

theorem closed_lmCleanupExpiredWC (l : List (Bool × Bool)) : Closed 4 (lmCleanupExpiredWC l) := by
  unfold lmCleanupExpiredWC
  exact closed_append closed_lmSectionRev
    (closed_flatMap _ _ (fun oi => closed_mono (closed_gRemoveTx oi) (by decide)))

theorem closed_lmTryLockWT (b : Option (List (Bool × Bool))) (oi : Bool × Bool) :
    Closed 4 (lmTryLockWT b oi) := by
  cases b with
  | none =>
    have := closed_hold2 (k := 4) (r1 := locks) (r2 := txLocks) (m1 := write) (m2 := write)
      (by decide) (by decide) (closed_gRemoveTx oi) true
    simpa [lmTryLockWT] using this
  | some l =>
    have := closed_hold2 (k := 4) (r1 := locks) (r2 := txLocks) (m1 := write) (m2 := write)
      (body := l.flatMap (fun fp => gAddWait false fp.1 fp.2))
      (by decide) (by decide) (closed_flatMap _ _ (fun fp => closed_gAddWait _ _ _)) true
    simpa [lmTryLockWT] using this

theorem closed_blk (b : Blk) : Closed 1 b.prog := by
  cases b with
  | walEntry => exact closed_once _ _ (by decide)
  | abortsPush => exact closed_once _ _ (by decide)
  | releaseByHandle f => exact closed_mono (closed_lmReleaseByHandleWC f) (by decide)
  | removeTx oi => exact closed_mono (closed_gRemoveTx oi) (by decide)
  | cleanupExpired l => exact closed_mono (closed_lmCleanupExpiredWC l) (by decide)
  | lmRelease => exact closed_mono closed_lmSectionRev (by decide)
  | toSerializable => exact closed_mono closed_lmToSerializable (by decide)

theorem closed_underPending (m : Mode) (bs : List Blk) : Closed 0 (underPending m bs) := by
  unfold underPending
  exact closed_hold (Nat.le_refl _) (closed_flatMap _ _ closed_blk)

theorem closed_blocks (bs : List Blk) : Closed 0 (bs.flatMap Blk.prog) :=
  closed_flatMap _ _ (fun b => closed_mono (closed_blk b) (by decide))

theorem closed_sweepProg (owners : List (Bool × Bool)) : Closed 0 (sweepProg owners) := by
  unfold sweepProg
  exact closed_append (closed_zero_of_after (by decide))
    (closed_flatMap _ _ (fun oi => closed_mono (closed_gRemoveTx oi) (by decide)))

/-- every entry point as it is now acquires in increasing rank and ends holding nothing -/
theorem closed_entry (e : Entry) : Closed 0 (entryProg e) := by
  cases e with
  | begin | commit | abort | completeCommit | endRefused | cleanupTimeouts | recover | toState =>
    exact closed_underPending _ _
  | readPending | takePendingAborts | walOnly | abortStatesOnly | lmReadLocks | lmReadTxLocks | gReadEdges
    | gReadReverse | gReadWaitStarted | gReadPriorities => exact closed_once _ _ (by decide)
  | handlePrepare b oi o sc =>
    exact closed_append (closed_mono (closed_lmTryLockWT b oi) (by decide))
      (closed_ite _ (closed_underPending _ _) (closed_nil _))
  | recordVoteEarly wl => exact closed_append (closed_blocks _) (closed_underPending _ _)
  | recordVoteAbort wl =>
    exact closed_append (closed_append (closed_blocks _) (closed_underPending _ _))
      (closed_once _ _ (by decide))
  | recordVoteCrossConflict wl =>
    exact closed_append (closed_append (closed_append (closed_blocks _) (closed_underPending _ _))
      (closed_underPending _ _)) (closed_once _ _ (by decide))
  | recordVotePrepared wl =>
    exact closed_append (closed_append (closed_blocks _) (closed_underPending _ _))
      (closed_underPending _ _)
  | recoverFromWal orphans =>
    exact closed_append (closed_append (closed_once _ _ (by decide)) (closed_underPending _ _))
      (closed_flatMap _ _ (fun f => closed_mono (closed_lmReleaseByHandleWC f) (by decide)))
  | sweep owners => exact closed_sweepProg owners
  | lmTryLock => exact closed_mono closed_lmSection (by decide)
  | lmRelease => exact closed_mono closed_lmSectionRev (by decide)
  | lmReleaseByHandleWC f => exact closed_mono (closed_lmReleaseByHandleWC f) (by decide)
  | lmCleanupExpiredWC l => exact closed_mono (closed_lmCleanupExpiredWC l) (by decide)
  | lmTryLockWT b oi => exact closed_mono (closed_lmTryLockWT b oi) (by decide)
  | lmToSerializable => exact closed_mono closed_lmToSerializable (by decide)
  | gAddWait s f p => exact closed_mono (closed_gAddWait s f p) (by decide)
  | gRemoveTx oi => exact closed_mono (closed_gRemoveTx oi) (by decide)
  | gRemoveWait e => exact closed_mono (closed_gRemoveWait e) (by decide)
  | gTransactionCount => exact closed_mono closed_gTransactionCount (by decide)
  | gClear => exact closed_mono closed_gClear (by decide)
  | gCleanupStale l => exact closed_mono (closed_gCleanupStale l) (by decide)

/-! ### critical sections: the wait-for graph is touched inside the lock-table section -/

theorem gut_once (H : Held) (r : Res) (m : Mode) (rest : List Act) (h : holdsTable H = true) :
    graphUnderTable H (once r m ++ rest) = graphUnderTable H rest := by
  simp only [once, List.cons_append, List.nil_append, graphUnderTable, h, Bool.or_true, Bool.true_and,
    List.erase_cons_head]

theorem gut_ite_once (H : Held) (c : Bool) (r : Res) (m : Mode) (rest : List Act) (h : holdsTable H = true) :
    graphUnderTable H ((if c then once r m else []) ++ rest) = graphUnderTable H rest := by
  cases c
  · rfl
  · exact gut_once H r m rest h

theorem gut_gAddWait (H : Held) (f p : Bool) (rest : List Act) (h : holdsTable H = true) :
    graphUnderTable H (gAddWait false f p ++ rest) = graphUnderTable H rest := by
  cases f <;> cases p <;>
    simp only [gAddWait, List.append_assoc, gut_once _ _ _ _ h, Bool.false_eq_true, ↓reduceIte, List.nil_append]

theorem gut_addWaits (H : Held) (l : List (Bool × Bool)) (rest : List Act) (h : holdsTable H = true) :
    graphUnderTable H (l.flatMap (fun fp => gAddWait false fp.1 fp.2) ++ rest) = graphUnderTable H rest := by
  induction l with
  | nil => simp
  | cons a r ih => simp only [List.flatMap_cons, List.append_assoc, gut_gAddWait H a.1 a.2 _ h, ih]

theorem gut_gRemoveTx (H : Held) (oi : Bool × Bool) (rest : List Act) (h : holdsTable H = true) :
    graphUnderTable H (gRemoveTx oi ++ rest) = graphUnderTable H rest := by
  simp only [gRemoveTx, List.append_assoc, gut_once _ _ _ _ h, gut_ite_once _ _ _ _ _ h]

theorem graphUnderTable_lmTryLockWT (blockers : Option (List (Bool × Bool))) (oi : Bool × Bool) :
    graphUnderTable [] (lmTryLockWT blockers oi) = true := by
  have h0 : holdsTable [(Res.txLocks, Mode.write), (Res.locks, Mode.write)] = true := by decide
  unfold lmTryLockWT
  simp only [List.cons_append, List.nil_append, graphUnderTable, isGraphRes, Bool.not_false, Bool.true_or,
    Bool.true_and]
  cases blockers with
  | some l => simp only [gut_addWaits _ l _ h0]; decide
  | none => simp only [gut_gRemoveTx _ oi _ h0]; decide

theorem threadProg_ordered (calls : List Entry) : (Thread.mk [] (threadProg calls)).Ordered :=
  closed_flatMap _ _ closed_entry [] (fun _ h => absurd h (List.not_mem_nil))

theorem start_ordered (threads : List (List Entry)) :
    ∀ t ∈ start (threads.map threadProg), t.Ordered := by
  intro t ht
  simp only [start, List.map_map, List.mem_map] at ht
  obtain ⟨calls, _, rfl⟩ := ht
  exact threadProg_ordered calls

end Neumann.Locks.Order
