import NeumannModel.Locks.Lemmas
/- Helper definitions and lemmas for the wait-for-graph properties (C12): what a cycle is,
   soundness and completeness of the DFS, victim membership. Core Lean only. -/
namespace Neumann.Locks

/-- consecutive members are wait-for edges -/
def IsWalk (g : Adj) : List Nat → Prop
  | [] => True
  | [_] => True
  | a :: b :: r => b ∈ neighbors g a ∧ IsWalk g (b :: r)

instance instDecIsWalk (g : Adj) : (c : List Nat) → Decidable (IsWalk g c)
  | [] => isTrue trivial
  | [_] => isTrue trivial
  | a :: b :: r =>
    match instDecIsWalk g (b :: r) with
    | isTrue h => if h2 : b ∈ neighbors g a then isTrue ⟨h2, h⟩ else isFalse (fun x => h2 x.1)
    | isFalse h => isFalse (fun x => h x.2)

/-- `c` is a cycle of `g`: non-empty, consecutive members are edges, last waits for first -/
def IsCycle (g : Adj) (c : List Nat) : Prop :=
  c ≠ [] ∧ IsWalk g c ∧ c.headD 0 ∈ neighbors g (c.getLastD 0)

instance (g : Adj) (c : List Nat) : Decidable (IsCycle g c) := by unfold IsCycle; infer_instance

theorem isWalk_append_edge (g : Adj) (p : List Nat) (a b : Nat)
    (h : IsWalk g (p ++ [a])) (e : b ∈ neighbors g a) : IsWalk g (p ++ [a] ++ [b]) := by
  induction p with
  | nil => exact ⟨e, trivial⟩
  | cons x r ih =>
    cases r with
    | nil =>
      simp only [List.cons_append, List.nil_append, IsWalk] at h ⊢
      exact ⟨h.1, e, trivial⟩
    | cons y r' =>
      simp only [List.cons_append, IsWalk] at h ⊢
      exact ⟨h.1, ih h.2⟩

theorem isWalk_suffix (g : Adj) (pre c : List Nat) (h : IsWalk g (pre ++ c)) : IsWalk g c := by
  induction pre with
  | nil => exact h
  | cons x r ih =>
    apply ih
    cases hr : r ++ c with
    | nil => trivial
    | cons y t =>
      simp only [List.cons_append, hr, IsWalk] at h
      exact h.2

theorem suffixFrom_spec (x : Nat) (p c : List Nat) (h : suffixFrom x p = some c) :
    ∃ pre t, p = pre ++ c ∧ c = x :: t := by
  induction p with
  | nil => simp [suffixFrom] at h
  | cons y ys ih =>
    simp only [suffixFrom] at h
    by_cases e : y = x
    · simp only [e, ↓reduceIte, Option.some.injEq] at h
      exact ⟨[], ys, by simp [← h, e], by simp [← h]⟩
    · simp only [e, ↓reduceIte] at h
      obtain ⟨pre, t, h1, h2⟩ := ih h
      exact ⟨y :: pre, t, by simp [h1], h2⟩

theorem suffixFrom_of_mem (x : Nat) (p : List Nat) (h : x ∈ p) : ∃ c, suffixFrom x p = some c := by
  induction p with
  | nil => simp at h
  | cons y ys ih =>
    simp only [suffixFrom]
    by_cases e : y = x
    · simp [e]
    · simp only [e, ↓reduceIte]
      simp only [List.mem_cons] at h
      rcases h with h | h
      · exact absurd h.symm e
      · exact ih h

theorem getLastD_of_suffix (pre c q : List Nat) (node : Nat) (hne : c ≠ [])
    (h : pre ++ c = q ++ [node]) : c.getLastD 0 = node := by
  obtain ⟨init, z, rfl⟩ : ∃ init z, c = init ++ [z] :=
    ⟨c.dropLast, c.getLast hne, (List.dropLast_concat_getLast hne).symm⟩
  rw [← List.append_assoc] at h
  have := List.append_inj_right' h rfl
  simp only [List.cons.injEq, and_true] at this
  subst this
  simp [List.getLastD_eq_getLast?]

theorem walk_member_succ_or_last (g : Adj) : ∀ (c : List Nat) (x : Nat), IsWalk g c → x ∈ c →
    (∃ b, b ∈ neighbors g x) ∨ c.getLastD 0 = x
  | [], _, _, hx => nomatch hx
  | [a], x, _, hx => Or.inr (List.mem_singleton.mp hx).symm
  | a :: b :: r, x, hw, hx => by
    rcases List.mem_cons.mp hx with hx | hx
    · exact Or.inl ⟨b, hx ▸ hw.1⟩
    · exact (walk_member_succ_or_last g (b :: r) x hw.2 hx).imp_right id

theorem cycle_member_has_out_edge (g : Adj) (c : List Nat) (x : Nat) (h : IsCycle g c) (hx : x ∈ c) :
    ∃ b, b ∈ neighbors g x := by
  rcases walk_member_succ_or_last g c x h.2.1 hx with h1 | h1
  · exact h1
  · exact ⟨c.headD 0, h1 ▸ h.2.2⟩

theorem dfsStep_unvisited (recur : Nat → DfsState → DfsState) (s : DfsState) (nb : Nat)
    (h : nb ∉ s.visited) : dfsStep recur s nb = recur nb s := by
  unfold dfsStep; simp [h]

theorem dfsStep_back (recur : Nat → DfsState → DfsState) (s : DfsState) (nb : Nat) (c : List Nat)
    (h : nb ∈ s.visited) (h2 : nb ∈ s.recStack) (h3 : suffixFrom nb s.path = some c) :
    dfsStep recur s nb = { s with cycles := s.cycles ++ [c] } := by
  unfold dfsStep; simp [h, h2, h3]

theorem dfsStep_done (recur : Nat → DfsState → DfsState) (s : DfsState) (nb : Nat)
    (h : nb ∈ s.visited) (h2 : nb ∉ s.recStack) : dfsStep recur s nb = s := by
  unfold dfsStep; simp [h, h2]

/-- `s'` comes from `s` by DFS steps: `path` and `recStack` are restored, `visited` only grows and
    `cycles` is only appended to -/
structure DfsExt (s s' : DfsState) : Prop where
  path : s'.path = s.path
  recStack : s'.recStack = s.recStack
  visited : ∀ x ∈ s.visited, x ∈ s'.visited
  cycles : ∃ more, s'.cycles = s.cycles ++ more

theorem DfsExt.refl (s : DfsState) : DfsExt s s := ⟨rfl, rfl, fun _ h => h, [], (List.append_nil _).symm⟩

theorem DfsExt.trans {a b c : DfsState} (h1 : DfsExt a b) (h2 : DfsExt b c) : DfsExt a c :=
  ⟨h2.path.trans h1.path, h2.recStack.trans h1.recStack, fun x hx => h2.visited x (h1.visited x hx),
    let ⟨m1, e1⟩ := h1.cycles; let ⟨m2, e2⟩ := h2.cycles; ⟨m1 ++ m2, by rw [e2, e1, List.append_assoc]⟩⟩

theorem DfsExt.cycles_nil {s s' : DfsState} (h : DfsExt s s') (hn : s'.cycles = []) : s.cycles = [] := by
  obtain ⟨more, e⟩ := h.cycles
  exact (List.append_eq_nil_iff.mp (e ▸ hn)).1

theorem dfsStep_ext (recur : Nat → DfsState → DfsState) (hr : ∀ n s, DfsExt s (recur n s))
    (s : DfsState) (nb : Nat) : DfsExt s (dfsStep recur s nb) := by
  unfold dfsStep
  split
  · exact hr nb s
  · split
    · split
      · exact ⟨rfl, rfl, fun _ h => h, _, rfl⟩
      · exact DfsExt.refl s
    · exact DfsExt.refl s

theorem foldl_dfsStep_ext (recur : Nat → DfsState → DfsState) (hr : ∀ n s, DfsExt s (recur n s))
    (nbs : List Nat) (s : DfsState) : DfsExt s (nbs.foldl (fun acc nb => dfsStep recur acc nb) s) :=
  foldl_preserves nbs s (fun acc nb _ h => h.trans (dfsStep_ext recur hr acc nb)) (DfsExt.refl s)

theorem dfs_ext (g : Adj) (fuel node : Nat) (s : DfsState) : DfsExt s (dfs g fuel node s) := by
  induction fuel generalizing node s with
  | zero => exact DfsExt.refl s
  | succ n ih =>
    -- `node` is pushed on `path` and `recStack`, the neighbours are explored, `node` is popped again
    have h := foldl_dfsStep_ext (dfs g n) (fun a b => ih a b) (neighbors g node)
      { visited := node :: s.visited, recStack := node :: s.recStack, path := s.path ++ [node], cycles := s.cycles }
    rw [dfs]
    exact ⟨by rw [h.path]; exact List.dropLast_concat, by rw [h.recStack]; exact List.erase_cons_head ..,
      fun x hx => h.visited x (List.mem_cons_of_mem _ hx), h.cycles⟩

theorem detectLoop_ext (g : Adj) (starts : List Nat) (s : DfsState) : DfsExt s (detectLoop g starts s) :=
  foldl_preserves starts s (fun acc a _ h => h.trans (by split; exact dfs_ext g _ a acc; exact DfsExt.refl acc))
    (DfsExt.refl s)

theorem detectLoop_path (g : Adj) (starts : List Nat) (s : DfsState) :
    (detectLoop g starts s).path = s.path :=
  (detectLoop_ext g starts s).path

theorem dfs_cycles (g : Adj) (fuel node : Nat) (s : DfsState)
    (hw : IsWalk g (s.path ++ [node])) (hnd : (s.path ++ [node]).Nodup) (hsub : ∀ x ∈ s.path, x ∈ s.visited)
    (hc : ∀ c ∈ s.cycles, IsCycle g c ∧ c.Nodup) :
    ∀ c ∈ (dfs g fuel node s).cycles, IsCycle g c ∧ c.Nodup := by
  induction fuel generalizing node s with
  | zero => exact hc
  | succ n ih =>
    rw [dfs]
    suffices H : ∀ (nbs : List Nat) (acc : DfsState), (∀ nb ∈ nbs, nb ∈ neighbors g node) →
        acc.path = s.path ++ [node] → (∀ x ∈ acc.path, x ∈ acc.visited) →
        (∀ c ∈ acc.cycles, IsCycle g c ∧ c.Nodup) →
        ∀ c ∈ (nbs.foldl (fun acc nb => dfsStep (dfs g n) acc nb) acc).cycles, IsCycle g c ∧ c.Nodup by
      refine H (neighbors g node) _ (fun _ h => h) rfl (fun x hx => ?_) hc
      rcases List.mem_append.mp hx with hx | hx
      · exact List.mem_cons_of_mem _ (hsub x hx)
      · exact List.mem_singleton.mp hx ▸ List.mem_cons_self
    intro nbs
    induction nbs with
    | nil => exact fun _ _ _ _ h => h
    | cons nb r ihr =>
      intro acc hn hp hv hcs
      have hnb : nb ∈ neighbors g node := hn nb List.mem_cons_self
      have hext := dfsStep_ext (dfs g n) (dfs_ext g n) acc nb
      refine ihr _ (fun x hx => hn x (List.mem_cons_of_mem _ hx)) (hext.path.trans hp)
        (fun x hx => hext.visited x (hv x (hext.path ▸ hx))) ?_
      show ∀ c ∈ (dfsStep (dfs g n) acc nb).cycles, _
      by_cases hnew : nb ∉ acc.visited
      · -- tree edge: `nb` is new, so the path extended by it is still repetition-free
        rw [dfsStep_unvisited _ _ _ hnew]
        refine ih nb acc (hp ▸ isWalk_append_edge g s.path node nb hw hnb) ?_ hv hcs
        exact List.nodup_append.mpr ⟨hp ▸ hnd, List.pairwise_singleton _ _,
          fun a ha b hb e => hnew (List.mem_singleton.mp hb ▸ e ▸ hv a ha)⟩
      · have hvis : nb ∈ acc.visited := Decidable.of_not_not hnew
        by_cases hrs : nb ∈ acc.recStack
        · cases hsf : suffixFrom nb acc.path with
          | none =>
            have : dfsStep (dfs g n) acc nb = acc := by unfold dfsStep; rw [if_neg hnew, if_pos hrs, hsf]
            rw [this]; exact hcs
          | some c =>
            -- back edge to `nb` on the stack: the reported cycle is the path from `nb` on
            rw [dfsStep_back _ _ _ c hvis hrs hsf]
            intro c' hc'
            rcases List.mem_append.mp hc' with hc' | hc'
            · exact hcs c' hc'
            · cases List.mem_singleton.mp hc'
              obtain ⟨pre, t, h1, h2⟩ := suffixFrom_spec nb acc.path c hsf
              have hpre : pre ++ c = s.path ++ [node] := h1.symm.trans hp
              refine ⟨⟨h2 ▸ List.cons_ne_nil _ _, isWalk_suffix g pre c (hpre ▸ hw), ?_⟩,
                (List.nodup_append.mp (hpre ▸ hnd)).2.1⟩
              rw [getLastD_of_suffix pre c s.path node (h2 ▸ List.cons_ne_nil _ _) hpre, h2]
              exact hnb
        · rw [dfsStep_done _ _ _ hvis hrs]; exact hcs

theorem detectLoop_cycles (g : Adj) (starts : List Nat) (s : DfsState)
    (hp : s.path = []) (hc : ∀ c ∈ s.cycles, IsCycle g c ∧ c.Nodup) :
    ∀ c ∈ (detectLoop g starts s).cycles, IsCycle g c ∧ c.Nodup := by
  refine (foldl_preserves (P := fun s => s.path = [] ∧ ∀ c ∈ s.cycles, IsCycle g c ∧ c.Nodup) starts s
    (fun acc a _ h => ?_) ⟨hp, hc⟩).2
  split
  · exact ⟨(dfs_ext g _ a acc).path.trans h.1,
      dfs_cycles g _ a acc (by rw [h.1]; trivial) (by rw [h.1]; exact List.pairwise_singleton _ _)
        (by rw [h.1]; exact fun _ hx => nomatch hx) h.2⟩
  · exact h

theorem detectCycles_sound (g : Adj) (c : List Nat) (h : c ∈ detectCycles g) : IsCycle g c :=
  (detectLoop_cycles g _ dfsInit rfl (fun _ hc => nomatch hc) c h).1

theorem detectCycles_nodup (g : Adj) (c : List Nat) (h : c ∈ detectCycles g) : c.Nodup :=
  (detectLoop_cycles g _ dfsInit rfl (fun _ hc => nomatch hc) c h).2

theorem foldl_pick_mem (p : Nat → Nat → Bool) (xs : List Nat) (x : Nat) :
    xs.foldl (fun b y => if p y b then y else b) x ∈ x :: xs := by
  induction xs generalizing x with
  | nil => simp
  | cons a r ih =>
    simp only [List.foldl_cons]
    by_cases hp : p a x = true
    · simp only [hp, ↓reduceIte]
      have := ih a
      simp only [List.mem_cons] at this ⊢
      rcases this with h | h
      · exact Or.inr (Or.inl h)
      · exact Or.inr (Or.inr h)
    · simp only [hp, Bool.false_eq_true, ↓reduceIte]
      have := ih x
      simp only [List.mem_cons] at this ⊢
      rcases this with h | h
      · exact Or.inl h
      · exact Or.inr (Or.inr h)

theorem maxByKeyLast_mem (f : Nat → Nat) (c : List Nat) (d : Nat) (h : c ≠ []) :
    (maxByKeyLast f c).getD d ∈ c := by
  cases c with
  | nil => exact absurd rfl h
  | cons x xs =>
    simp only [maxByKeyLast, Option.getD_some]
    have := foldl_pick_mem (fun y b => decide (f y ≥ f b)) xs x
    simpa using this

theorem minByKeyFirst_mem (f : Nat → Nat) (c : List Nat) (d : Nat) (h : c ≠ []) :
    (minByKeyFirst f c).getD d ∈ c := by
  cases c with
  | nil => exact absurd rfl h
  | cons x xs =>
    simp only [minByKeyFirst, Option.getD_some]
    have := foldl_pick_mem (fun y b => decide (f y < f b)) xs x
    simpa using this

theorem selectVictim_mem (p : Policy) (wg : WaitGraph) (lc : Option (Nat → Nat)) (c : List Nat) (h : c ≠ []) :
    selectVictim p wg lc c ∈ c := by
  unfold selectVictim
  match c, h with
  | [x], _ => simp
  | x :: y :: r, _ =>
    simp only
    cases p with
    | youngest => exact maxByKeyLast_mem _ _ _ (by simp)
    | oldest => exact minByKeyFirst_mem _ _ _ (by simp)
    | lowestPriority => exact maxByKeyLast_mem _ _ _ (by simp)
    | mostLocks =>
      cases lc with
      | none => exact maxByKeyLast_mem _ _ _ (by simp)
      | some f => exact maxByKeyLast_mem _ _ _ (by simp)

theorem detect_subset (cfg : DetectorCfg) (wg : WaitGraph) (lc : Option (Nat → Nat)) (g : Adj)
    (c : List Nat) (v : Nat) (h : (c, v) ∈ detect cfg wg lc g) :
    c ∈ detectCycles g ∧ v = selectVictim cfg.policy wg lc c := by
  unfold detect at h
  split at h
  · simp at h
  · have key : ∀ (cs : List (List Nat)) (acc : List (List Nat × Nat) × List Nat × Nat),
        (∀ q ∈ acc.1, q.1 ∈ detectCycles g ∧ q.2 = selectVictim cfg.policy wg lc q.1) →
        (∀ x ∈ cs, x ∈ detectCycles g) →
        ∀ q ∈ (cs.foldl (detectFold cfg wg lc) acc).1,
          q.1 ∈ detectCycles g ∧ q.2 = selectVictim cfg.policy wg lc q.1 := by
      intro cs
      induction cs with
      | nil => intro acc ha _; exact ha
      | cons a r ih =>
        intro acc ha hcs
        simp only [List.foldl_cons]
        apply ih
        · obtain ⟨out, resolved, cascade⟩ := acc
          unfold detectFold
          simp only
          split
          · exact ha
          · intro q hq
            simp only [List.mem_append, List.mem_singleton] at hq
            rcases hq with hq | hq
            · exact ha q hq
            · subst hq; exact ⟨hcs a List.mem_cons_self, rfl⟩
        · intro x hx; exact hcs x (List.mem_cons_of_mem _ hx)
    exact key _ ([], [], 0) (by simp) (fun x hx => (List.mem_filter.mp hx).1) (c, v) h

end Neumann.Locks

namespace Neumann.Locks

/-! ### completeness of the DFS (classical white/grey/black argument) -/

/-- reachability along wait-for edges (zero or more steps) -/
inductive Reach (g : Adj) : Nat → Nat → Prop
  | refl (u : Nat) : Reach g u u
  | step {u v w : Nat} : v ∈ neighbors g u → Reach g v w → Reach g u w

/-- `u` lies on a cycle: it reaches itself by at least one edge -/
def OnCycle (g : Adj) (u : Nat) : Prop := ∃ w, w ∈ neighbors g u ∧ Reach g w u

/-- the recorded wait-for relation contains a cycle -/
def HasCycle (g : Adj) : Prop := ∃ u, OnCycle g u

theorem Reach.trans {g : Adj} {a b c : Nat} (h1 : Reach g a b) (h2 : Reach g b c) : Reach g a c := by
  induction h1 with
  | refl => exact h2
  | step e _ ih => exact Reach.step e (ih h2)

theorem reach_of_walk (g : Adj) (a : Nat) (r : List Nat) (h : IsWalk g (a :: r)) :
    Reach g a ((a :: r).getLastD 0) := by
  induction r generalizing a with
  | nil => exact Reach.refl a
  | cons b t ih =>
    simp only [IsWalk] at h
    have := ih b h.2
    simp only [List.getLastD_cons] at this ⊢
    exact Reach.step h.1 this

theorem hasCycle_of_isCycle (g : Adj) (c : List Nat) (h : IsCycle g c) : HasCycle g := by
  obtain ⟨hne, hw, he⟩ := h
  cases c with
  | nil => exact absurd rfl hne
  | cons a r =>
    refine ⟨(a :: r).getLastD 0, a, ?_, reach_of_walk g a r hw⟩
    simpa using he

def Black (s : DfsState) (v : Nat) : Prop := v ∈ s.visited ∧ v ∉ s.recStack

structure CInv (g : Adj) (s : DfsState) : Prop where
  c1 : ∀ x ∈ s.recStack, x ∈ s.visited
  c2 : ∀ x ∈ s.recStack, x ∈ s.path
  c3 : ∀ v, Black s v → ∀ w ∈ neighbors g v, Black s w
  c4 : ∀ v, Black s v → ¬ OnCycle g v

theorem reach_black (g : Adj) (s : DfsState) (hc : CInv g s) (a b : Nat) (hb : Black s a) (hr : Reach g a b) :
    Black s b := by
  induction hr with
  | refl => exact hb
  | step e _ ih => exact ih (hc.c3 _ hb _ e)

/-- number of (occurrences of) still unvisited vertices: the recursion-depth budget -/
def unvisited (g : Adj) (s : DfsState) : Nat := ((vertices g).filter (fun v => decide (v ∉ s.visited))).length

theorem filter_sublist_filter (l : List Nat) (p q : Nat → Bool) (h : ∀ x, p x = true → q x = true) :
    (l.filter p).Sublist (l.filter q) := by
  have e : l.filter p = (l.filter q).filter p := by
    rw [List.filter_filter]
    exact List.filter_congr fun x _ => by cases hpx : p x <;> simp [h x, hpx]
  exact e ▸ List.filter_sublist

theorem filter_length_lt (l : List Nat) (p q : Nat → Bool) (h : ∀ x, p x = true → q x = true)
    (a : Nat) (ha : a ∈ l) (hq : q a = true) (hp : p a = false) :
    (l.filter p).length < (l.filter q).length := by
  have hs := filter_sublist_filter l p q h
  refine Nat.lt_of_le_of_ne hs.length_le fun he => ?_
  -- equally long, the two lists would be equal, and `a` is only in the second
  have hm : a ∈ l.filter p := hs.eq_of_length he ▸ List.mem_filter.mpr ⟨ha, hq⟩
  rw [(List.mem_filter.mp hm).2] at hp
  cases hp

theorem unvisited_mono (g : Adj) (s s' : DfsState) (h : ∀ x ∈ s.visited, x ∈ s'.visited) :
    unvisited g s' ≤ unvisited g s := by
  refine (filter_sublist_filter _ _ _ fun x hx => ?_).length_le
  rw [decide_eq_true_eq] at hx ⊢
  exact fun hv => hx (h x hv)

theorem mem_vertices_of_neighbor (g : Adj) (u w : Nat) (h : w ∈ neighbors g u) : w ∈ vertices g ∧ u ∈ g.map (·.1) := by
  unfold neighbors at h
  cases hg : aGet g u with
  | none => rw [hg] at h; cases h
  | some vs =>
    rw [hg] at h
    have hm : (u, vs) ∈ g := aGet_some_mem _ _ _ hg
    exact ⟨List.mem_flatMap.mpr ⟨(u, vs), hm, List.mem_cons_of_mem _ h⟩, List.mem_map.mpr ⟨(u, vs), hm, rfl⟩⟩

theorem key_mem_vertices (g : Adj) (u : Nat) (h : u ∈ g.map (·.1)) : u ∈ vertices g := by
  obtain ⟨p, hp, e⟩ := List.mem_map.mp h
  unfold vertices
  exact List.mem_flatMap.mpr ⟨p, hp, by simp [← e]⟩

end Neumann.Locks

namespace Neumann.Locks

/-- the state in which `dfs` explores the neighbours of `node` -/
def pushed (s : DfsState) (node : Nat) : DfsState :=
  { visited := node :: s.visited, recStack := node :: s.recStack, path := s.path ++ [node], cycles := s.cycles }

theorem cinv_push (g : Adj) (s : DfsState) (node : Nat) (hc : CInv g s) (hn : node ∉ s.visited) :
    CInv g (pushed s node) := by
  have hb (v : Nat) (h : Black (pushed s node) v) : Black s v :=
    ⟨(List.mem_cons.mp h.1).resolve_left fun e => h.2 (e ▸ List.mem_cons_self),
      fun hm => h.2 (List.mem_cons_of_mem _ hm)⟩
  refine ⟨fun x hx => ?_, fun x hx => ?_, fun v hv w hw => ?_, fun v hv => hc.c4 v (hb v hv)⟩
  · exact (List.mem_cons.mp hx).elim (fun e => e ▸ List.mem_cons_self)
      fun h => List.mem_cons_of_mem _ (hc.c1 x h)
  · exact (List.mem_cons.mp hx).elim (fun e => List.mem_append_right _ (List.mem_singleton.mpr e))
      fun h => List.mem_append_left _ (hc.c2 x h)
  · obtain ⟨w1, w2⟩ := hc.c3 v (hb v hv) w hw
    exact ⟨List.mem_cons_of_mem _ w1, fun hm => (List.mem_cons.mp hm).elim (fun e => hn (e ▸ w1)) w2⟩

theorem unvisited_push (g : Adj) (s : DfsState) (node : Nat) (hv : node ∈ vertices g) (hn : node ∉ s.visited) :
    unvisited g (pushed s node) < unvisited g s :=
  filter_length_lt _ _ _ (fun _ hx => decide_eq_true fun h => of_decide_eq_true hx (List.mem_cons_of_mem _ h))
    node hv (decide_eq_true hn) (decide_eq_false fun h => h List.mem_cons_self)

theorem cinv_pop (g : Adj) (s s2 : DfsState) (node : Nat) (hc : CInv g s) (k1 : CInv g s2)
    (hrs : s2.recStack = node :: s.recStack) (hp : s2.path = s.path ++ [node])
    (k2 : ∀ x ∈ node :: s.visited, x ∈ s2.visited) (k3 : ∀ nb ∈ neighbors g node, Black s2 nb) :
    CInv g { s2 with path := s2.path.dropLast, recStack := s2.recStack.erase node } := by
  have hrs' : s2.recStack.erase node = s.recStack := hrs ▸ List.erase_cons_head ..
  -- a vertex that is black now was black before the pop, or is `node`
  have hb (v : Nat) (h : Black { s2 with path := s2.path.dropLast, recStack := s2.recStack.erase node } v)
      (e : v ≠ node) : Black s2 v :=
    ⟨h.1, fun hm => (List.mem_cons.mp (hrs ▸ hm)).elim e (hrs' ▸ h.2)⟩
  have hw (w : Nat) (h : Black s2 w) : Black { s2 with path := s2.path.dropLast, recStack := s2.recStack.erase node } w :=
    ⟨h.1, fun hm => h.2 (hrs ▸ List.mem_cons_of_mem _ (hrs' ▸ hm))⟩
  refine ⟨fun x hx => ?_, fun x hx => ?_, fun v hv w hvw => hw w ?_, fun v hv => ?_⟩
  · exact k2 x (List.mem_cons_of_mem _ (hc.c1 x (hrs' ▸ hx)))
  · exact (show s2.path.dropLast = s.path from hp ▸ List.dropLast_concat) ▸ hc.c2 x (hrs' ▸ hx)
  · by_cases e : v = node
    · exact k3 w (e ▸ hvw)
    · exact k1.c3 v (hb v hv e) w hvw
  · by_cases e : v = node
    · -- a cycle through `node` would pass through a black neighbour and come back to the stack
      rintro ⟨w, hvw, hr⟩
      exact (reach_black g s2 k1 w v (k3 w (e ▸ hvw)) hr).2 (hrs ▸ e ▸ List.mem_cons_self)
    · exact k1.c4 v (hb v hv e)

theorem dfs_complete (g : Adj) (fuel node : Nat) (s : DfsState)
    (hv : node ∈ vertices g) (hn : node ∉ s.visited) (hm : unvisited g s < fuel) (hc : CInv g s)
    (hnil : (dfs g fuel node s).cycles = []) :
    CInv g (dfs g fuel node s) ∧ node ∈ (dfs g fuel node s).visited := by
  induction fuel generalizing node s with
  | zero => exact absurd hm (Nat.not_lt_zero _)
  | succ n ih =>
    have key : ∀ (nbs : List Nat) (acc : DfsState),
        (∀ nb ∈ nbs, nb ∈ neighbors g node) →
        acc.recStack = node :: s.recStack → CInv g acc → unvisited g acc < n →
        (nbs.foldl (fun acc nb => dfsStep (dfs g n) acc nb) acc).cycles = [] →
        CInv g (nbs.foldl (fun acc nb => dfsStep (dfs g n) acc nb) acc) ∧
        (∀ x ∈ acc.visited, x ∈ (nbs.foldl (fun acc nb => dfsStep (dfs g n) acc nb) acc).visited) ∧
        (∀ nb ∈ nbs, Black (nbs.foldl (fun acc nb => dfsStep (dfs g n) acc nb) acc) nb) := by
      intro nbs
      induction nbs with
      | nil => intro acc _ _ hci _ _; exact ⟨hci, fun _ h => h, by simp⟩
      | cons nb r ihr =>
        intro acc hnb hrs hci hmu hfin
        simp only [List.foldl_cons] at hfin ⊢
        have hstepnil : (dfsStep (dfs g n) acc nb).cycles = [] :=
          (foldl_dfsStep_ext (dfs g n) (dfs_ext g n) r _).cycles_nil hfin
        have hnbE : nb ∈ neighbors g node := hnb nb List.mem_cons_self
        have hstep : CInv g (dfsStep (dfs g n) acc nb) ∧
            (∀ x ∈ acc.visited, x ∈ (dfsStep (dfs g n) acc nb).visited) ∧
            Black (dfsStep (dfs g n) acc nb) nb := by
          by_cases hvis : nb ∈ acc.visited
          · by_cases hrs' : nb ∈ acc.recStack
            · obtain ⟨c, hcs⟩ := suffixFrom_of_mem nb acc.path (hci.c2 nb hrs')
              rw [dfsStep_back _ _ _ _ hvis hrs' hcs] at hstepnil
              simp at hstepnil
            · rw [dfsStep_done _ _ _ hvis hrs']; exact ⟨hci, fun _ h => h, hvis, hrs'⟩
          · rw [dfsStep_unvisited _ _ _ hvis] at hstepnil ⊢
            have hnbV := (mem_vertices_of_neighbor g node nb hnbE).1
            obtain ⟨i1, i2⟩ := ih nb acc hnbV hvis hmu hci hstepnil
            exact ⟨i1, (dfs_ext g n nb acc).visited, i2, fun h => hvis (hci.c1 nb ((dfs_ext g n nb acc).recStack ▸ h))⟩
        have hrs2 : (dfsStep (dfs g n) acc nb).recStack = node :: s.recStack :=
          (dfsStep_ext (dfs g n) (dfs_ext g n) acc nb).recStack.trans hrs
        have hmu2 : unvisited g (dfsStep (dfs g n) acc nb) < n :=
          Nat.lt_of_le_of_lt (unvisited_mono g acc _ hstep.2.1) hmu
        obtain ⟨f1, f2, f3⟩ := ihr (dfsStep (dfs g n) acc nb)
          (fun x hx => hnb x (List.mem_cons_of_mem _ hx)) hrs2 hstep.1 hmu2 hfin
        refine ⟨f1, fun x hx => f2 x (hstep.2.1 x hx), ?_⟩
        intro x hx
        simp only [List.mem_cons] at hx
        rcases hx with hx | hx
        · subst hx
          refine ⟨f2 _ hstep.2.2.1, ?_⟩
          rw [(foldl_dfsStep_ext (dfs g n) (dfs_ext g n) r _).recStack]
          exact hstep.2.2.2
        · exact f3 x hx
    rw [dfs] at hnil ⊢
    have hnil : ((neighbors g node).foldl (fun acc nb => dfsStep (dfs g n) acc nb) (pushed s node)).cycles = [] := hnil
    have hext := foldl_dfsStep_ext (dfs g n) (dfs_ext g n) (neighbors g node) (pushed s node)
    obtain ⟨k1, k2, k3⟩ := key (neighbors g node) (pushed s node) (fun _ h => h) rfl (cinv_push g s node hc hn)
      (Nat.lt_of_lt_of_le (unvisited_push g s node hv hn) (Nat.le_of_lt_succ hm)) hnil
    exact ⟨cinv_pop g s _ node hc k1 hext.recStack hext.path k2 k3, k2 node List.mem_cons_self⟩

end Neumann.Locks

namespace Neumann.Locks

theorem detectLoop_cons (g : Adj) (a : Nat) (r : List Nat) (s : DfsState) :
    detectLoop g (a :: r) s = detectLoop g r (if a ∉ s.visited then dfs g (dfsFuel g) a s else s) := by
  simp [detectLoop]

theorem detectLoop_complete (g : Adj) (starts : List Nat) (s : DfsState)
    (hs : ∀ x ∈ starts, x ∈ vertices g) (hc : CInv g s) (hr : s.recStack = [])
    (hnil : (detectLoop g starts s).cycles = []) :
    CInv g (detectLoop g starts s) ∧ (detectLoop g starts s).recStack = [] ∧
    (∀ x ∈ s.visited, x ∈ (detectLoop g starts s).visited) ∧
    (∀ x ∈ starts, x ∈ (detectLoop g starts s).visited) := by
  induction starts generalizing s with
  | nil => exact ⟨hc, hr, fun _ h => h, by simp⟩
  | cons a r ih =>
    rw [detectLoop_cons] at hnil ⊢
    have hnil1 := (detectLoop_ext g r _).cycles_nil hnil
    have hstep : CInv g (if a ∉ s.visited then dfs g (dfsFuel g) a s else s) ∧
        (if a ∉ s.visited then dfs g (dfsFuel g) a s else s).recStack = [] ∧
        (∀ x ∈ s.visited, x ∈ (if a ∉ s.visited then dfs g (dfsFuel g) a s else s).visited) ∧
        a ∈ (if a ∉ s.visited then dfs g (dfsFuel g) a s else s).visited := by
      by_cases hv : a ∈ s.visited
      · rw [if_neg (by simpa using hv)]; exact ⟨hc, hr, fun _ h => h, hv⟩
      · rw [if_pos hv] at hnil1 ⊢
        have hm : unvisited g s < dfsFuel g := by
          exact Nat.lt_succ_of_le (List.length_filter_le _ _)
        obtain ⟨i1, i2⟩ := dfs_complete g (dfsFuel g) a s (hs a List.mem_cons_self) hv hm hc hnil1
        exact ⟨i1, (dfs_ext g _ a s).recStack.trans hr, (dfs_ext g _ a s).visited, i2⟩
    obtain ⟨f1, f2, f3, f4⟩ := ih _ (fun x hx => hs x (List.mem_cons_of_mem _ hx)) hstep.1 hstep.2.1 hnil
    refine ⟨f1, f2, fun x hx => f3 x (hstep.2.2.1 x hx), ?_⟩
    intro x hx
    simp only [List.mem_cons] at hx
    rcases hx with hx | hx
    · subst hx; exact f3 _ hstep.2.2.2
    · exact f4 x hx

theorem detectCycles_complete (g : Adj) (h : HasCycle g) : detectCycles g ≠ [] := by
  intro hnil
  obtain ⟨u, w, hw, hr⟩ := h
  unfold detectCycles at hnil
  have hinit : CInv g dfsInit := by
    refine ⟨by simp [dfsInit], by simp [dfsInit], ?_, ?_⟩ <;> (intro v hb; simp [Black, dfsInit] at hb)
  obtain ⟨f1, f2, _, f4⟩ := detectLoop_complete g (g.map (·.1)) dfsInit
    (fun x hx => key_mem_vertices g x hx) hinit rfl hnil
  have hu := f4 u (mem_vertices_of_neighbor g u w hw).2
  exact f1.c4 u ⟨hu, by rw [f2]; simp⟩ ⟨w, hw, hr⟩

theorem detect_nonempty (cfg : DetectorCfg) (wg : WaitGraph) (lc : Option (Nat → Nat)) (g : Adj)
    (hen : cfg.enabled = true) (c : List Nat) (hc : c ∈ detectCycles g) (hl : c.length ≤ cfg.maxCycleLength) :
    detect cfg wg lc g ≠ [] := by
  unfold detect
  simp only [hen, Bool.not_true, Bool.false_eq_true, ↓reduceIte]
  have hv : c ∈ (detectCycles g).filter (fun c => decide (c.length ≤ cfg.maxCycleLength)) :=
    List.mem_filter.mpr ⟨hc, by simpa using hl⟩
  generalize (detectCycles g).filter (fun c => decide (c.length ≤ cfg.maxCycleLength)) = valid at hv
  cases valid with
  | nil => simp at hv
  | cons a r =>
    simp only [List.foldl_cons]
    have hfirst : (detectFold cfg wg lc ([], [], 0) a).1 ≠ [] := by
      simp [detectFold]
    have mono : ∀ (cs : List (List Nat)) (acc : List (List Nat × Nat) × List Nat × Nat),
        acc.1 ≠ [] → (cs.foldl (detectFold cfg wg lc) acc).1 ≠ [] := by
      intro cs
      induction cs with
      | nil => intro acc h; exact h
      | cons b t ih =>
        intro acc h
        simp only [List.foldl_cons]
        apply ih
        obtain ⟨out, resolved, cascade⟩ := acc
        unfold detectFold
        simp only
        split
        · exact h
        · simp
    exact mono r _ hfirst

end Neumann.Locks
