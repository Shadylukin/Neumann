import NeumannModel.Locks.OrderLemmas
/-
  C12 — property theorems about the lock ORDER of the coordinator (`OrderModel.lean`): threads that
  call the entry points of `DistributedTxCoordinator` / `LockManager` / `WaitForGraph` as they are
  since /repo aa0e56f6 can never block each other for ever, for any number of threads, any calls,
  any data-dependent branch, any interleaving and any lock admission rule; the order
  `release_orphaned_locks` used before aa0e56f6 deadlocks against an end-of-transaction site.
  ONLY property statements and non-vacuity examples; helpers are in `OrderLemmas.lean`.
-/
namespace Neumann.Locks.OrderProps
open Neumann.Locks.Order

/-- **Rank-ordered acquisition never gets stuck** (the general statement): threads whose programs
    take every lock above all the guards they hold at that moment and end holding nothing — under
    every admission rule `adm` (plain reader/writer, writer-preferring, exclusive, …), after every
    schedule — never reach a state where every unfinished thread waits for a held lock. -/
theorem rank_ordered_threads_never_stuck (adm : Sys → Thread → Bool) (progs : List (List Act))
    (hp : ∀ p ∈ progs, after [] p = some []) (sched : List Nat) (s : Sys)
    (hr : runSched adm (start progs) sched = some s) : ¬ Stuck s := by
  refine ordered_not_stuck s (runSched_ordered adm sched _ s ?_ hr)
  intro t ht
  simp only [start, List.mem_map] at ht
  obtain ⟨p, hpm, rfl⟩ := ht
  exact hp p hpm

/-- **The coordinator's calls cannot deadlock each other** (what /repo aa0e56f6 makes true): any
    number of threads, each performing any sequence of entry-point calls (`Entry`: every public
    operation of the coordinator, its lock manager and its wait-for graph that takes a lock, with
    every data-dependent branch and loop count), under every admission rule and every schedule:
    the reached state is never stuck. -/
theorem coordinator_calls_never_stuck (adm : Sys → Thread → Bool) (threads : List (List Entry))
    (sched : List Nat) (s : Sys)
    (hr : runSched adm (start (threads.map threadProg)) sched = some s) : ¬ Stuck s :=
  ordered_not_stuck s (runSched_ordered adm sched _ s (start_ordered threads) hr)

/-- …in particular no reader/writer deadlock -/
theorem coordinator_calls_never_deadlock (threads : List (List Entry)) (sched : List Nat) (s : Sys)
    (hr : runSched rwAdmit (start (threads.map threadProg)) sched = some s) :
    deadlockedRW s = false := by
  cases h : deadlockedRW s with
  | false => rfl
  | true => exact absurd (deadlockedRW_stuck s h) (coordinator_calls_never_stuck rwAdmit threads sched s hr)

/-- **Progress**: in every reachable state with an unfinished thread, some thread can perform its
    next action. -/
theorem coordinator_calls_some_thread_moves (threads : List (List Entry)) (sched : List Nat) (s : Sys)
    (hr : runSched rwAdmit (start (threads.map threadProg)) sched = some s)
    (hu : ∃ t ∈ s, t.todo ≠ []) : ∃ i, (stepAt rwAdmit s i).isSome = true := by
  have hd := coordinator_calls_never_deadlock threads sched s hr
  obtain ⟨t0, ht0, hne⟩ := hu
  have hany : s.any (fun t => !t.todo.isEmpty) = true := by
    simp only [List.any_eq_true]
    exact ⟨t0, ht0, by cases h : t0.todo with | nil => exact absurd h hne | cons _ _ => rfl⟩
  simp only [deadlockedRW, hany, Bool.true_and] at hd
  have : ∃ t ∈ s, ¬ (t.todo.isEmpty || !rwAdmit s t) = true := by
    by_cases hex : ∃ t ∈ s, ¬ (t.todo.isEmpty || !rwAdmit s t) = true
    · exact hex
    · exfalso
      have hall : s.all (fun t => t.todo.isEmpty || !rwAdmit s t) = true := by
        simp only [List.all_eq_true]
        intro t ht
        by_cases hc : (t.todo.isEmpty || !rwAdmit s t) = true
        · exact hc
        · exact absurd ⟨t, ht, hc⟩ hex
      rw [hall] at hd
      cases hd
  obtain ⟨t, ht, hc⟩ := this
  obtain ⟨i, hi, hget⟩ := List.getElem_of_mem ht
  refine ⟨i, ?_⟩
  have hopt : s[i]? = some t := by rw [List.getElem?_eq_getElem hi, hget]
  have he : t.todo.isEmpty = false := by
    cases h : t.todo.isEmpty with
    | false => rfl
    | true => simp [h] at hc
  have ha : rwAdmit s t = true := by
    cases h : rwAdmit s t with
    | true => rfl
    | false => simp [h] at hc
  simp [stepAt, hopt, he, ha]

/-- **What was wrong before aa0e56f6** (finding
    DistributedTxCoordinator.release_orphaned_locks/lock_order_deadlock_with_end_of_tx): the old
    sweep took `locks.write()`, `tx_locks.write()` and then `pending.read()`.  One thread in
    `commit` (one recorded Yes vote) and one in the old sweep: commit takes `pending.write()`, the
    sweep takes the two lock-table locks; now the sweep waits for `pending` and commit's
    `release_by_handle_with_wait_cleanup` waits for `locks` — a reader/writer deadlock reached
    after three steps. -/
theorem sweep_old_deadlocks_with_end_of_tx_witness :
    ∃ sched s, runSched rwAdmit
        (start [sweepProgOld [], entryProg (.commit false [some (false, false)] (false, false))]) sched = some s ∧
      deadlockedRW s = true :=
  ⟨[1, 0, 0], _, rfl, by decide +kernel⟩

/-- the old sweep is not rank-ordered (`pending` is taken under the lock-table locks), the current
    one is — on the same inputs -/
theorem sweep_old_breaks_lock_order_witness :
    after [] (sweepProgOld [(true, true)]) = none ∧ after [] (sweepProg [(true, true)]) = some [] := by
  decide +kernel

/-- **The wait-for graph is touched only inside the lock-table section** by
    `try_lock_with_wait_tracking`: for every blocker list (any number of `add_wait` calls, each with
    its early-return / priority branch) and for the granted path (`remove_transaction`), every
    acquisition of `edges` / `reverse_edges` / `wait_started` / `priorities` happens while both
    lock-table write guards are held.  (What that buys at the level of data is
    `SectionProps.ended_tx_absent_in_every_interleaving`.) -/
theorem try_lock_wt_touches_graph_inside_section (blockers : Option (List (Bool × Bool))) (oi : Bool × Bool) :
    graphUnderTable [] (lmTryLockWT blockers oi) = true :=
  graphUnderTable_lmTryLockWT blockers oi

/-- the variant that drops the guards before recording the edges touches the graph outside the
    section — and the lock ORDER does not notice: its acquisitions are still rank-ordered, so
    `coordinator_calls_never_stuck` holds of it as well (it is a race, not a deadlock) -/
theorem drop_guards_first_is_still_rank_ordered_witness :
    graphUnderTable [] (lmTryLockWTDropGuardsFirst [(false, false)]) = false ∧
    after [] (lmTryLockWTDropGuardsFirst [(false, false)]) = some [] ∧
    graphUnderTable [] (lmTryLockWT (some [(false, false)]) (false, false)) = true := by
  decide +kernel

/-! ### non-vacuity -/

/-- the hypotheses of `rank_ordered_threads_never_stuck` are satisfiable by real programs -/
example : ∀ p ∈ [sweepProg [(true, false)], entryProg (.commit true [some (true, true), none] (false, true))],
    after [] p = some [] := by decide +kernel

/-- the current sweep interleaved with a commit: the sweep takes `pending.read()` and the lock-table
    locks and drops `pending`, commit takes `pending.write()`, the sweep finishes, commit runs to
    its end — both threads finish -/
example : (runSched rwAdmit
    (start [sweepProg [], entryProg (.commit false [some (false, false)] (false, false))])
    ([0, 0, 0, 0, 1, 0, 0] ++ List.replicate 21 1)).map (fun s => s.map (·.todo.length)) = some [0, 0] := by
  decide +kernel

/-- a reachable state in which a thread IS refused (the sweep waits for `pending`), and which is
    not stuck: commit can move -/
example : ∃ s, runSched rwAdmit
    (start [sweepProg [], entryProg (.commit false [some (false, false)] (false, false))]) [1] = some s ∧
    stepAt rwAdmit s 0 = none ∧ (stepAt rwAdmit s 1).isSome = true :=
  ⟨_, rfl, by decide +kernel, by decide +kernel⟩

/-- two readers of `pending` share it; a writer is refused meanwhile -/
example : ∃ s, runSched rwAdmit (start [entryProg .readPending, entryProg .readPending, entryProg .endRefused]) [0, 1] = some s ∧
    stepAt rwAdmit s 2 = none :=
  ⟨_, rfl, by decide +kernel⟩

/-- three threads: a refused prepare (adds a wait-for edge inside the lock-table section), an
    abort, `cleanup_timeouts` with one timed-out transaction — every program is rank-ordered -/
example : (Thread.mk [] (threadProg [.handlePrepare (some [(false, false)]) (false, false) true false,
    .abort true [some (true, false)] (true, true),
    .cleanupTimeouts [([some (false, false), none], (true, false))] [(false, true)]])).Ordered := by
  unfold Thread.Ordered
  decide +kernel

end Neumann.Locks.OrderProps
