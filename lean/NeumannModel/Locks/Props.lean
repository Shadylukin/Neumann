import NeumannModel.Locks.Lemmas
import NeumannModel.Locks.GraphLemmas
import NeumannModel.Locks.WaitLemmas
/-
  C12 — property theorems: 2PC key locks (one unexpired holder, conflicts refused, all-or-nothing,
  nothing left behind, index consistent) and the deadlock detector (soundness, completeness,
  victim membership).  ONLY property statements and non-vacuity examples; helpers are in
  `Lemmas.lean` / `GraphLemmas.lean`.

  Operation sequences: `run ops (Sys.init T)` folds `step` over any list of
  try_lock / release / release_by_handle / cleanup_expired / advance-clock / serialize-restore
  operations; time only moves forward (`advance d`).  Every mutating LockManager operation takes
  both RwLocks (`locks`, then `tx_locks`) before its first read and drops them after its last write,
  and the readers take them in the same order, so every interleaving of threads on the lock table is
  one such sequence.  `crun ops (CSys.init T mx)` folds `cstep` over the coordinator-side operations
  on the pair (lock table, wait-for graph): the `*_with_wait_*` variants, the plain ones, the raw
  graph operations and the end-of-transaction sequence.  The WaitForGraph operations are NOT single
  critical sections in the code (four RwLocks taken one after the other); the graph theorems are
  about sequences of whole graph operations.
-/
namespace Neumann.Locks.Props
open Neumann.Locks

/-! ### lock table -/

/-- **Exclusivity.** After any operation sequence, two transactions that were each granted key `k`
    and have not released it since are never both unexpired. -/
theorem at_most_one_unexpired_holder (T : Nat) (ops : List Op) (g1 g2 : Grant)
    (h1 : g1 ∈ (run ops (Sys.init T)).ghost) (h2 : g2 ∈ (run ops (Sys.init T)).ghost)
    (hk : g1.key = g2.key)
    (e1 : g1.expired (run ops (Sys.init T)).now = false)
    (e2 : g2.expired (run ops (Sys.init T)).now = false) :
    g1.tx = g2.tx :=
  (inv_run ops _ (inv_init T)).excl h1 h2 hk e1 e2

/-- the table itself never shows two holders: the live holder of a key is a function of the state,
    and a live holder is always one of the ghost-tracked grants' transactions (state-level form) -/
theorem holder_unique (t : LockTable) (now k a b : Nat)
    (ha : lockHolder t now k = some a) (hb : lockHolder t now k = some b) : a = b := by
  rw [ha] at hb; simpa using hb

/-- **A prepare that meets a held key is refused with a conflict and nothing changes**
    (any table, any time, any key set). The named transaction is a live foreign holder of a requested key. -/
theorem conflict_refused_and_state_unchanged (t : LockTable) (now tx : Nat) (keys : List Nat) (k : Nat) (l : KeyLock)
    (hk : k ∈ keys) (hl : aGet t.locks k = some l) (hlive : l.isExpired now = false) (hother : l.tx ≠ tx) :
    ∃ c, tryLock t now tx keys = (t, .error c) ∧
      ∃ k' ∈ keys, ∃ l', aGet t.locks k' = some l' ∧ l'.isExpired now = false ∧ l'.tx ≠ tx ∧ l'.tx = c := by
  cases hc : firstConflict t.locks now tx keys with
  | none =>
    rcases (firstConflict_none_iff ..).mp hc k hk l hl with h | h
    · rw [hlive] at h; cases h
    · exact absurd h hother
  | some c => exact ⟨c, tryLock_of_conflict hc, firstConflict_some _ _ _ _ _ hc⟩

/-- **Granting is all-or-nothing**: either the call is refused and the table is untouched, or every
    requested key is now held by `tx` under one fresh handle and no other key moved.
    It is granted exactly when no requested key has a live foreign holder. -/
theorem grant_all_or_nothing (t : LockTable) (now tx : Nat) (keys : List Nat) :
    (∃ c, tryLock t now tx keys = (t, .error c) ∧
        ∃ k ∈ keys, ∃ l, aGet t.locks k = some l ∧ l.isExpired now = false ∧ l.tx ≠ tx) ∨
    (∃ t', tryLock t now tx keys = (t', .ok t.nextHandle) ∧
        (∀ k ∈ keys, aGet t'.locks k = some ⟨k, tx, t.nextHandle, now, t.defaultTimeout⟩) ∧
        (∀ k, k ∉ keys → aGet t'.locks k = aGet t.locks k) ∧
        (∀ k ∈ keys, ∀ l, aGet t.locks k = some l → l.isExpired now = true ∨ l.tx = tx)) := by
  cases hc : firstConflict t.locks now tx keys with
  | some c =>
    obtain ⟨k, hk, l, h1, h2, h3, _⟩ := firstConflict_some _ _ _ _ _ hc
    exact Or.inl ⟨c, tryLock_of_conflict hc, k, hk, l, h1, h2, h3⟩
  | none =>
    refine Or.inr ⟨_, tryLock_of_free hc, ?_, ?_, (firstConflict_none_iff ..).mp hc⟩
    · intro k hk; exact (aGet_acquireAll ..).trans (if_pos hk)
    · intro k hk; exact (aGet_acquireAll ..).trans (if_neg hk)

/-- **Nothing left behind by `release`**: after any operation sequence followed by `release tx`,
    no lock of `tx` remains and `tx` has no index entry. -/
theorem no_locks_after_release (T : Nat) (ops : List Op) (tx : Nat) :
    let s := run (ops ++ [Op.release tx]) (Sys.init T)
    (∀ k l, aGet s.t.locks k = some l → l.tx ≠ tx) ∧ aGet s.t.txLocks tx = none ∧
    (∀ g ∈ s.ghost, g.tx ≠ tx) := by
  rw [run_concat]
  have hi := inv_run ops _ (inv_init T)
  generalize run ops (Sys.init T) = s at hi ⊢
  have hgh : ∀ g ∈ (step s (.release tx)).ghost, g.tx ≠ tx :=
    fun g hg => bne_iff_ne.mp (List.mem_filter.mp hg).2
  unfold step release
  dsimp only
  cases hk : aGet s.t.txLocks tx with
  | none =>
    -- nothing is listed under `tx`, so it holds nothing
    refine ⟨fun k l h e => ?_, hk, hgh⟩
    obtain ⟨ks, h5, _⟩ := (hi.lk k l h).2.2.2.2
    cases (e ▸ h5).symm.trans hk
  | some keys =>
    refine ⟨fun k l h e => ?_, (aGet_aRemove ..).trans (if_pos rfl), hgh⟩
    -- a lock of `tx` is listed under `tx`, hence among the released keys
    change aGet (keys.foldl (releaseKey tx) s.t.locks) k = some l at h
    rw [aGet_foldl_releaseKey] at h
    cases ho : aGet s.t.locks k with
    | none => rw [ho] at h; cases h
    | some l0 =>
      rw [ho] at h
      obtain ⟨ks, h5, h6⟩ := (hi.lk k l0 ho).2.2.2.2
      dsimp only at h
      split at h
      · cases h
      · rename_i hc
        cases h
        cases (e ▸ h5).symm.trans hk
        exact hc ⟨e, h6⟩

/-- **Nothing left behind by `release_by_handle`**: no lock carries the released handle afterwards
    (any reachable table). -/
theorem no_locks_after_release_by_handle (T : Nat) (ops : List Op) (h : Nat) :
    let s := run (ops ++ [Op.releaseByHandle h]) (Sys.init T)
    ∀ k l, aGet s.t.locks k = some l → l.handle ≠ h := by
  rw [run_concat]
  intro _ k l hl
  exact (releaseByHandle_locks _ h k l (inv_run ops _ (inv_init T)).uq.locks hl).2

/-- **Expiry cleanup** removes exactly the expired locks: none remains, live ones are untouched,
    and the returned count is the number of expired keys (any reachable table). -/
theorem cleanup_removes_exactly_expired (T : Nat) (ops : List Op) :
    let s := run ops (Sys.init T)
    let r := cleanupExpired s.t s.now
    (∀ k l, aGet r.1.locks k = some l → l.isExpired s.now = false ∧ aGet s.t.locks k = some l) ∧
    (∀ k l, aGet s.t.locks k = some l → l.isExpired s.now = false → aGet r.1.locks k = some l) ∧
    r.2 = (expiredKeys s.t s.now).length := by
  have hi := inv_run ops _ (inv_init T)
  generalize run ops (Sys.init T) = s at hi ⊢
  have hget (k : Nat) := aGet_cleanupExpired s.t s.now k hi.uq.locks
  refine ⟨fun k l hl => ?_, fun k l hl he => ?_, rfl⟩
  · rw [hget] at hl
    obtain ⟨h1, h2⟩ := Option.filter_eq_some_iff.mp hl
    exact ⟨(Bool.not_eq_true' _).mp h2, h1⟩
  · rw [hget, hl]; exact Option.filter_eq_some_iff.mpr ⟨rfl, by rw [he]; rfl⟩

/-- **Index consistency** (`tx_locks` ↔ `locks`): after any operation sequence every held lock is
    filed under its own key, is listed in its transaction's index entry, carries an issued handle,
    and both maps have unique keys. -/
theorem tx_index_consistent (T : Nat) (ops : List Op) :
    let s := run ops (Sys.init T)
    (∀ k l, aGet s.t.locks k = some l →
        l.key = k ∧ l.handle < s.t.nextHandle ∧ ∃ ks, aGet s.t.txLocks l.tx = some ks ∧ k ∈ ks) ∧
    (s.t.locks.map (·.1)).Nodup ∧ (s.t.txLocks.map (·.1)).Nodup :=
  (inv_run ops _ (inv_init T)).index

/-- serialize → restore is the identity on the lock table (the handle counter is process-global) -/
theorem serialize_restore_identity (t : LockTable) : restore (serialize t) t.nextHandle = t :=
  restore_serialize t

/-! non-vacuity: a run with a grant, a refused conflict, an expiry take-over and releases -/

def demoOps : List Op :=
  [.tryLock 1 [10, 11], .tryLock 2 [11, 12], .advance 5, .tryLock 2 [11, 12], .serializeRestore,
   .tryLock 1 [10], .releaseByHandle 1, .cleanupExpired, .release 1]

example : ((run (demoOps.take 1) (Sys.init 3)).t.locks.map (·.1)) = [11, 10] := by decide +kernel
-- tx 2 is refused while tx 1 is live …
example : (run (demoOps.take 2) (Sys.init 3)).ghost.map (·.tx) = [1, 1] := by decide +kernel
-- … and takes key 11 over once tx 1's lock has expired: both grants on 11 are in the ghost, one expired
example : ((run (demoOps.take 4) (Sys.init 3)).ghost.filter (·.key == 11)).map
    (fun g => (g.tx, g.expired (run (demoOps.take 4) (Sys.init 3)).now)) = [(1, true), (2, false)] := by decide +kernel
example : ∃ c, tryLock (run (demoOps.take 1) (Sys.init 3)).t 0 2 [11, 12] = ((run (demoOps.take 1) (Sys.init 3)).t, .error c) :=
  ⟨1, rfl⟩
example : (run demoOps (Sys.init 3)).t.locks = [] ∧ (run demoOps (Sys.init 3)).t.nextHandle = 3 := by decide +kernel

/-! ### lock manager + wait-for graph: what happens when a transaction ends -/

/-- **`reverse_edges` is the transpose of `edges`** after every sequence of coordinator-side
    operations (`try_lock_with_wait_tracking`, `release_by_handle_with_wait_cleanup`,
    `cleanup_expired_with_wait_cleanup`, the plain lock operations, raw `add_wait` /
    `remove_transaction` / `remove_wait`, end of transaction, clock, serialize-restore), including
    the `max_edges_per_tx` early return of `add_wait`.  This is what makes `remove_transaction`
    find every edge that mentions the transaction. -/
theorem wait_graph_transpose_invariant (T mx : Nat) (ops : List COp) (w h : Nat) :
    h ∈ outs (crun ops (CSys.init T mx)).g w ↔ w ∈ ins (crun ops (CSys.init T mx)).g h :=
  (pairInv_run ops _ (pairInv_init T mx)).tr w h

/-- **An ended transaction is absent from the wait-for graph** (full strength: every operation
    sequence, every transaction id, every list of recorded handles — none, stale, foreign or
    valid).  After the end-of-transaction sequence of the current code (`endTx`: handle loop, then
    unconditional `remove_transaction`) the transaction has no out-edges entry, no in-edges entry,
    is in nobody's holder set and in nobody's waiter set, and has no wait-start / priority. -/
theorem ended_tx_absent_from_graph (T mx : Nat) (ops : List COp) (tx : Nat) (handles : List Nat) :
    let s := crun (ops ++ [COp.endTx tx handles]) (CSys.init T mx)
    aGet s.g.edges tx = none ∧ aGet s.g.reverse tx = none ∧
    (∀ w, tx ∉ outs s.g w) ∧ (∀ h, tx ∉ ins s.g h) ∧
    aGet s.g.waitStarted tx = none ∧ aGet s.g.priorities tx = none := by
  rw [crun_concat]
  exact removeTransaction_absent _ tx
    (transpose_releaseHandles handles _ _ (pairInv_run ops _ (pairInv_init T mx)).tr)

/-- …and none of the locks it was granted remains: after the end-of-transaction sequence no lock
    carries any of the released handles (every operation sequence, every handle list). -/
theorem ended_tx_holds_no_released_handle (T mx : Nat) (ops : List COp) (tx : Nat) (handles : List Nat) :
    let s := crun (ops ++ [COp.endTx tx handles]) (CSys.init T mx)
    ∀ k l, aGet s.t.locks k = some l → l.handle ∉ handles := by
  rw [crun_concat]
  intro _ k l hl
  refine (foldl_releaseByHandle_locks handles _ (pairInv_run ops _ (pairInv_init T mx)).uq k l ?_).2
  exact releaseHandles_table handles _ _ ▸ hl

/-- the graph-level core, for any graph whose reverse index is the transpose of its edges:
    `remove_transaction tx` erases `tx` on both sides and keeps every edge between other
    transactions -/
theorem remove_transaction_exact (g : WaitGraph) (tx : Nat) (hT : Transpose g) (a b : Nat) :
    (b ∈ outs (removeTransaction g tx) a ↔ b ∈ outs g a ∧ a ≠ tx ∧ b ≠ tx) ∧
    (a ∈ ins (removeTransaction g tx) b ↔ a ∈ ins g b ∧ a ≠ tx ∧ b ≠ tx) :=
  ⟨mem_outs_removeTransaction g tx a b hT, mem_ins_removeTransaction g tx a b hT⟩

-- non-vacuity: T1 holds key 7, T3 waits for it, the lock expires, T2 takes over, T4 waits for T2,
-- T1 ends with its (now stale) handle 0: before the end T1 is a holder in the graph, afterwards it
-- is gone and the unrelated edge T4 → T2 is still there
def endOps : List COp :=
  [.lockW 1 [7] none, .lockW 3 [7] (some 2), .advance 10, .lockW 2 [7] none, .lockW 4 [7] none]

example : outs (crun endOps (CSys.init 3 0)).g 3 = [1] ∧ ins (crun endOps (CSys.init 3 0)).g 1 = [3] := by decide +kernel
example : outs (crun (endOps ++ [.endTx 1 [0]]) (CSys.init 3 0)).g 3 = [] ∧
    outs (crun (endOps ++ [.endTx 1 [0]]) (CSys.init 3 0)).g 4 = [2] := by decide +kernel
example : Transpose (WaitGraph.empty 0) := transpose_empty 0

/-- the same statement about the PRE-FIX end-of-transaction sequence (`endTxOld`: handle loop only,
    the code before /repo db804a9a).  It is false; kept as a `def`, refuted below. -/
def EndedTxAbsentFromGraphOld : Prop :=
  ∀ (T mx : Nat) (ops : List COp) (tx : Nat) (handles : List Nat),
    let s := crun (ops ++ [COp.endTxOld tx handles]) (CSys.init T mx)
    aGet s.g.edges tx = none ∧ ∀ w, tx ∉ outs s.g w

/-- regression witness for the fixed finding `DistributedTxCoordinator.abort/ended_waiter_stays_in_wait_graph`
    (both forms replayed on the real coordinator before the fix):
    (a) T1 is granted key 7, T2 is refused and waits for T1, T2 aborts — it has no handle, the loop
        is empty, T2 stays a waiter;
    (b) T1 is granted key 7, T3 waits for T1, T1's lock expires and T2 takes the key over, T1
        commits — `release_by_handle_with_wait_cleanup` finds no lock with T1's handle, skips the
        graph cleanup, and T3 → T1 stays. -/
theorem ended_tx_absent_from_graph_witness :
    ¬ EndedTxAbsentFromGraphOld ∧
    outs (crun ([.lockW 1 [7] none, .lockW 3 [7] none, .advance 10, .lockW 2 [7] none] ++ [COp.endTxOld 1 [0]])
      (CSys.init 3 0)).g 3 = [1] := by
  refine ⟨?_, by decide +kernel⟩
  intro h
  have := (h 3 0 [.lockW 1 [7] none, .lockW 2 [7] none] 2 []).1
  exact absurd this (by decide +kernel)

/-! ### wait-for graph and deadlock detection -/

/-- **Soundness**: every cycle reported by `detect_cycles` (for every adjacency, in every iteration
    order) is a cycle of the recorded wait-for edges: non-empty, consecutive members are edges, and
    the last member waits for the first. -/
theorem reported_cycle_is_cycle (g : Adj) (c : List Nat) (h : c ∈ detectCycles g) : IsCycle g c :=
  detectCycles_sound g c h

/-- the cycles reported by the detector (`detect`, after the max-length filter and cascading) are
    among those of `detect_cycles`, hence real cycles -/
theorem detect_reports_real_cycles (cfg : DetectorCfg) (wg : WaitGraph) (lc : Option (Nat → Nat)) (g : Adj)
    (c : List Nat) (v : Nat) (h : (c, v) ∈ detect cfg wg lc g) : IsCycle g c :=
  detectCycles_sound g c (detect_subset cfg wg lc g c v h).1

/-- **Victim membership**: for every policy, every wait-start / priority / lock-count table, the
    victim of a non-empty cycle is a member of that cycle. -/
theorem victim_in_cycle (p : Policy) (wg : WaitGraph) (lc : Option (Nat → Nat)) (c : List Nat) (h : c ≠ []) :
    selectVictim p wg lc c ∈ c :=
  selectVictim_mem p wg lc c h

/-- every deadlock reported by `detect` names a victim inside its (real) cycle -/
theorem detect_victim_in_cycle (cfg : DetectorCfg) (wg : WaitGraph) (lc : Option (Nat → Nat)) (g : Adj)
    (c : List Nat) (v : Nat) (h : (c, v) ∈ detect cfg wg lc g) : v ∈ c := by
  obtain ⟨hc, hv⟩ := detect_subset cfg wg lc g c v h
  subst hv
  exact selectVictim_mem _ _ _ _ (detectCycles_sound g c hc).1

/-- **Completeness** (classical DFS argument, every graph, every iteration order, unbounded size):
    if the recorded wait-for relation contains a cycle, `detect_cycles` reports at least one. -/
theorem detect_complete (g : Adj) (h : HasCycle g) : detectCycles g ≠ [] :=
  detectCycles_complete g h

/-- the detector reports a cycle **exactly** when the recorded wait-for relation contains one -/
theorem detect_exact (g : Adj) : detectCycles g ≠ [] ↔ HasCycle g := by
  constructor
  · intro h
    cases hc : detectCycles g with
    | nil => exact absurd hc h
    | cons c r =>
      exact hasCycle_of_isCycle g c (detectCycles_sound g c (by rw [hc]; exact List.mem_cons_self))
  · exact detectCycles_complete g

/-- same, phrased with the list form of a cycle -/
theorem detect_complete_of_cycle (g : Adj) (c : List Nat) (h : IsCycle g c) : detectCycles g ≠ [] :=
  detectCycles_complete g (hasCycle_of_isCycle g c h)

/-- `DeadlockDetector::detect` (enabled) reports a deadlock whenever some DFS cycle passes the
    `max_cycle_length` filter; cascading never suppresses the first one. -/
theorem detector_reports_when_cycle_fits (cfg : DetectorCfg) (wg : WaitGraph) (lc : Option (Nat → Nat)) (g : Adj)
    (hen : cfg.enabled = true) (c : List Nat) (hc : c ∈ detectCycles g) (hl : c.length ≤ cfg.maxCycleLength) :
    detect cfg wg lc g ≠ [] :=
  detect_nonempty cfg wg lc g hen c hc hl

example : HasCycle [(1, [2]), (2, [3, 1]), (3, [1])] :=
  ⟨1, 2, by decide +kernel, Reach.step (v := 1) (by decide +kernel) (Reach.refl 1)⟩
example : ¬ HasCycle [(1, [2]), (2, [3])] := by
  rw [← detect_exact]; decide
example : detectCycles [(1, [2]), (2, [3, 1]), (3, [1])] = [[1, 2, 3], [1, 2]] := by decide +kernel
example : IsCycle [(1, [2]), (2, [3, 1]), (3, [1])] [1, 2, 3] := by decide +kernel
example : selectVictim .oldest { WaitGraph.empty 0 with waitStarted := [(1, 5), (2, 3), (3, 3)] } none [1, 2, 3] = 2 := by decide +kernel

end Neumann.Locks.Props
