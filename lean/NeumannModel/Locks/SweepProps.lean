import NeumannModel.Locks.CoordLemmas
import NeumannModel.Locks.GraphLemmas
import NeumannModel.Locks.SweepModel
/-
  C12 — property theorems about the expired-lock SWEEP (`cleanup_expired_with_wait_cleanup`, run by
  `cleanup_timeouts` and `recover`): the clause "when a transaction times out, none of its locks
  remain and it no longer appears as waiter or holder in the wait-for graph; the detector reports no
  cycle through it" at the moment the time-out is realised.  Statements quantify over every
  coordinator-side operation sequence (`COp`: tracked prepares incl. take-overs of lapsed keys,
  releases, sweeps, raw graph operations, clock advances, serialize/restore).
  ONLY property statements and non-vacuity examples; helpers are in `CoordLemmas.lean` and `GraphLemmas.lean`.
-/
namespace Neumann.Locks.SweepProps
open Neumann.Locks

/-- **A swept transaction leaves the wait-for graph.**  After ANY coordinator-side operation
    sequence, every transaction that owns an expired row of the lock table (whatever its
    per-transaction index entry lists, whatever else it still holds) is, right after the sweep, absent
    from the wait-for graph: no entry in `edges` or `reverse_edges`, in nobody's holder or waiter
    set, no wait-start, no priority. -/
theorem swept_tx_absent_from_graph (T mx : Nat) (ops : List COp) (tx k : Nat) (l : KeyLock)
    (hl : aGet (crun ops (CSys.init T mx)).t.locks k = some l)
    (he : l.isExpired (crun ops (CSys.init T mx)).now = true) (ho : l.tx = tx) :
    Absent (cstep (crun ops (CSys.init T mx)) .cleanW).g tx := by
  have hi := pairInv_run ops _ (pairInv_init T mx)
  generalize crun ops (CSys.init T mx) = s at hi hl he ⊢
  refine absent_foldl_removeTransaction _ _ _ hi.tr (Or.inl ?_)
  exact List.mem_map.mpr ⟨(k, l), List.mem_filter.mpr ⟨aGet_some_mem _ _ _ hl, he⟩, ho⟩

/-- **No cycle through a swept transaction.**  Whatever adjacency the detector iterates over after
    the sweep — any order, as long as it lists only recorded wait-for edges — no cycle reported by
    `detect_cycles`, hence none reported by `DeadlockDetector::detect`, passes through a transaction
    that owned an expired row before the sweep. -/
theorem swept_tx_in_no_reported_cycle (T mx : Nat) (ops : List COp) (tx k : Nat) (l : KeyLock)
    (hl : aGet (crun ops (CSys.init T mx)).t.locks k = some l)
    (he : l.isExpired (crun ops (CSys.init T mx)).now = true) (ho : l.tx = tx)
    (adj : Adj) (hadj : ∀ a b, b ∈ neighbors adj a → b ∈ outs (cstep (crun ops (CSys.init T mx)) .cleanW).g a)
    (cfg : DetectorCfg) (lc : Option (Nat → Nat)) :
    (∀ c ∈ detectCycles adj, tx ∉ c) ∧
    (∀ p ∈ detect cfg (cstep (crun ops (CSys.init T mx)) .cleanW).g lc adj, tx ∉ p.1) := by
  have ha := swept_tx_absent_from_graph T mx ops tx k l hl he ho
  have key : ∀ c, IsCycle adj c → tx ∉ c := by
    intro c hc hx
    obtain ⟨b, hb⟩ := cycle_member_has_out_edge adj c tx hc hx
    have := hadj tx b hb
    rw [outs, ha.1] at this
    cases this
  refine ⟨fun c hc => key c (detectCycles_sound adj c hc), ?_⟩
  intro p hp
  exact key p.1 (detectCycles_sound adj p.1 (detect_subset cfg _ lc adj p.1 p.2 hp).1)

/-- the sweep itself leaves no expired row behind (any reachable pair state) -/
theorem sweep_leaves_no_expired_lock (T mx : Nat) (ops : List COp) (k : Nat) (l : KeyLock)
    (hl : aGet (cstep (crun ops (CSys.init T mx)) .cleanW).t.locks k = some l) :
    l.isExpired (crun ops (CSys.init T mx)).now = false := by
  have hi := pairInv_run ops _ (pairInv_init T mx)
  generalize crun ops (CSys.init T mx) = s at hi hl ⊢
  have hl : aGet (cleanupExpired s.t s.now).1.locks k = some l := hl
  rw [aGet_cleanupExpired s.t s.now k hi.uq.locks] at hl
  exact (Bool.not_eq_true' _).mp (Option.filter_eq_some_iff.mp hl).2

/-! ### non-vacuity and the refuted variant -/

-- T1 is granted keys 0 and 1, T3 is refused on key 1 and waits for T1, the clock passes the 3 ms
-- timeout, T2 takes the lapsed key 0 over (key 0 stays listed under T1), the sweep reaps key 1
def takeoverOps : List COp :=
  [.lockW 1 [0, 1] none, .lockW 3 [1] none, .advance 4, .lockW 2 [0] none]

-- before the sweep: T3 waits for T1, T1 still owns the (expired) row of key 1, its index entry lists both keys
example : outs (crun takeoverOps (CSys.init 3 0)).g 3 = [1] ∧ holdsAny (crun takeoverOps (CSys.init 3 0)).t 1 = true ∧
    aGet (crun takeoverOps (CSys.init 3 0)).t.txLocks 1 = some [0, 1] := by decide +kernel
-- after the sweep: T1 owns nothing, its index entry is NOT empty (key 0 is T2's now), and it left the graph
example : holdsAny (cstep (crun takeoverOps (CSys.init 3 0)) .cleanW).t 1 = false ∧
    aGet (cstep (crun takeoverOps (CSys.init 3 0)) .cleanW).t.txLocks 1 = some [0] ∧
    outs (cstep (crun takeoverOps (CSys.init 3 0)) .cleanW).g 3 = [] := by decide +kernel

-- the same with T1 also waiting (for T3, which holds key 2 and is still live): a genuine cycle before the sweep
def takeoverCycleOps : List COp :=
  [.lockW 1 [0, 1] none, .advance 2, .lockW 3 [2] none, .lockW 1 [2] none, .lockW 3 [1] none, .advance 2, .lockW 2 [0] none]

example : detectCycles (crun takeoverCycleOps (CSys.init 3 0)).g.edges ≠ [] ∧
    detectCycles (cstep (crun takeoverCycleOps (CSys.init 3 0)) .cleanW).g.edges = [] := by decide +kernel

/-- the sweep of the variant `cleanupExpiredWaitIdx` as a step on the pair state -/
def sweepIdx (s : CSys) : CSys :=
  let r := cleanupExpiredWaitIdx s.t s.g s.now
  { s with t := r.1, g := r.2.1 }

/-- the statement of `swept_tx_absent_from_graph` about the index-consulting variant.  False. -/
def SweptTxAbsentIdx : Prop :=
  ∀ (T mx : Nat) (ops : List COp) (tx k : Nat) (l : KeyLock),
    aGet (crun ops (CSys.init T mx)).t.locks k = some l → l.isExpired (crun ops (CSys.init T mx)).now = true → l.tx = tx →
    Absent (sweepIdx (crun ops (CSys.init T mx))).g tx

/-- **Witness against the index-consulting sweep** (the per-transaction index still lists the key
    another transaction took over): after `takeoverOps` + sweep T1 owns no row, yet T3 → T1 stays;
    after `takeoverCycleOps` + sweep the detector still reports the cycle through T1, which holds
    nothing. -/
theorem swept_tx_absent_from_graph_witness :
    ¬ SweptTxAbsentIdx ∧
    (holdsAny (sweepIdx (crun takeoverOps (CSys.init 3 0))).t 1 = false ∧
      outs (sweepIdx (crun takeoverOps (CSys.init 3 0))).g 3 = [1]) ∧
    (holdsAny (sweepIdx (crun takeoverCycleOps (CSys.init 3 0))).t 1 = false ∧
      detectCycles (sweepIdx (crun takeoverCycleOps (CSys.init 3 0))).g.edges = [[3, 1]]) := by
  refine ⟨?_, by decide +kernel, by decide +kernel⟩
  intro h
  have := (h 3 0 takeoverOps 1 1 { key := 1, tx := 1, handle := 0, acquiredAt := 0, timeout := 3 } (by decide +kernel) (by decide +kernel) rfl).2.2.1 3
  exact absurd this (by decide +kernel)

end Neumann.Locks.SweepProps
