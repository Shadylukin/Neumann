import NeumannModel.Locks.SectionLemmas
/-
  C12 — property theorems about the critical SECTIONS of the lock table (`SectionModel.lean`):
  the clause "when a transaction commits, aborts or times out, none of its locks remain and it no
  longer appears as waiter or holder in the wait-for graph" for threads that interleave INSIDE the
  calls — any number of threads, each running a whole transaction life (prepares over any shards
  and keys, then its end), every schedule of their steps, every clock reading at every step.

  What makes it true is that `try_lock_with_wait_tracking` records the wait-for edges while it
  still holds the lock-table guards it scanned under; the variant that drops the guards first
  (`early = true`) is refuted by a two-thread schedule.
  ONLY property statements and non-vacuity examples; helpers are in `SectionLemmas.lean`.
-/
namespace Neumann.Locks.SectionProps
open Neumann.Locks Neumann.Locks.Section

/-- **No ended transaction in the wait-for graph, in every interleaving.**  Threads `0..n-1` each
    run one transaction life (`progs[i]` = the key lists of its shards); after ANY schedule of their
    steps (`sched` = which thread moves and the clock value that step reads), every transaction
    whose end has returned is absent from the wait-for graph — no entry in `edges` or
    `reverse_edges`, in nobody's holder or waiter set, no wait-start, no priority — and owns no
    lock, while other threads may be anywhere inside their own calls. -/
theorem ended_tx_absent_in_every_interleaving (timeout maxEdges : Nat) (progs : List (List (List Nat)))
    (sched : List (Nat × Nat)) (s : St)
    (hr : Section.run false (Section.init timeout maxEdges progs) sched = some s) :
    ∀ x ∈ s.ended, Absent s.g x ∧ ∀ k l, aGet s.t.locks k = some l → l.tx ≠ x := by
  have hi := Section.inv_run sched _ s (Section.inv_init timeout maxEdges progs) hr
  intro x hx
  exact ⟨hi.abs x hx, fun k l hl e => ended_ne_owner s hi x k l hl hx e.symm⟩

/-- **"Conflict found" and "edge recorded" are one step with respect to the lock table**: in every
    reachable state, a thread that is about to record the edge `i → b` holds the lock-table guards,
    `b` still has a lock in the table, and `b` has not ended. -/
theorem edge_recorded_while_blocker_holds_lock (timeout maxEdges : Nat) (progs : List (List (List Nat)))
    (sched : List (Nat × Nat)) (s : St)
    (hr : Section.run false (Section.init timeout maxEdges progs) sched = some s)
    (i : Nat) (th : Th) (b : Nat) (bs : List Nat) (rest : List (List Nat))
    (hth : s.ths[i]? = some th) (hpc : th.pc = .adding (b :: bs) rest) :
    s.guard = some i ∧ (∃ k l, aGet s.t.locks k = some l ∧ l.tx = b) ∧ b ∉ s.ended := by
  have hi := Section.inv_run sched _ s (Section.inv_init timeout maxEdges progs) hr
  obtain ⟨h1, k, l, h2, h3⟩ := hi.sec i th (b :: bs) rest hth hpc b (List.mem_cons_self ..)
  refine ⟨h1, ⟨k, l, h2, h3⟩, ?_⟩
  intro hb
  exact ended_ne_owner s hi b k l h2 hb h3.symm

/-- …and while it does, no other thread gets into the lock table: neither a blocker's release nor
    another prepare can take a step. -/
theorem section_excludes_release_and_prepare (timeout maxEdges : Nat) (progs : List (List (List Nat)))
    (sched : List (Nat × Nat)) (s : St)
    (hr : Section.run false (Section.init timeout maxEdges progs) sched = some s)
    (i : Nat) (th : Th) (b : Nat) (bs : List Nat) (rest : List (List Nat))
    (hth : s.ths[i]? = some th) (hpc : th.pc = .adding (b :: bs) rest)
    (j now : Nat) (thj : Th) (hj : s.ths[j]? = some thj)
    (hjpc : (∃ h hs, thj.pc = .ending (h :: hs)) ∨ (∃ ks r, thj.pc = .prep (ks :: r))) :
    Section.step false s j now = none := by
  have hg := (edge_recorded_while_blocker_holds_lock timeout maxEdges progs sched s hr i th b bs rest hth hpc).1
  unfold Section.step
  rcases hjpc with ⟨h, hs, e⟩ | ⟨ks, r, e⟩ <;> simp [hj, e, hg]

/-- **The regression class, refuted**: when the guards are dropped as soon as the conflict set is
    complete and the edges are recorded afterwards (`early = true`), two threads suffice.  A (thread
    0) is granted key 5; B (thread 1) prepares key 5, finds A and lets the guards go; A's whole end
    runs (release by handle, `remove_transaction`, the final `remove_transaction`, ended); B records
    `1 → 0`.  The ended transaction 0 is now a holder in both indexes. -/
theorem drop_guards_first_leaves_ended_holder_witness :
    ∃ sched s, Section.run true (Section.init 30 0 [[[5]], [[5]]]) sched = some s ∧
      0 ∈ s.ended ∧ 0 ∈ outs s.g 1 ∧ 1 ∈ ins s.g 0 ∧ inGraph s.g 0 = true ∧ ¬ Absent s.g 0 := by
  refine ⟨[(0, 0), (0, 0), (0, 0), (1, 0), (0, 0), (0, 0), (0, 0), (0, 0), (1, 0)], _, rfl,
    by decide +kernel, by decide +kernel, by decide +kernel, by decide +kernel, ?_⟩
  intro h
  exact h.2.2.1 1 (by decide +kernel)

/-- the same schedule is not a run of the code as it is: A's release is refused while B is between
    its scan and its last `add_wait` (step 6 of the schedule) — and letting B finish first, A ends
    absent from the graph (B, still live, keeps its own entry with an empty holder set) -/
theorem guards_held_refuses_that_schedule_witness :
    Section.run false (Section.init 30 0 [[[5]], [[5]]]) [(0, 0), (0, 0), (0, 0), (1, 0), (0, 0), (0, 0)] = none ∧
    (Section.run false (Section.init 30 0 [[[5]], [[5]]])
        [(0, 0), (0, 0), (0, 0), (1, 0), (0, 0), (1, 0), (1, 0), (0, 0), (0, 0), (0, 0)]).map
      (fun s => (s.ended, inGraph s.g 0, inGraph s.g 1, s.t.locks.length)) = some ([0], false, true, 0) := by
  decide +kernel

/-- **A call nobody interleaves with is the whole-call operation** (the tie between this step-level
    model and the call-level model the sequential correspondence streams compare with the real
    `LockManager` / `WaitForGraph` after every call): from a call boundary with the guards free, the
    steps of one thread alone — scan, then grant + `remove_transaction` or one `add_wait` per
    blocker, then the drop of the guards — leave exactly the lock table and wait-for graph of
    `tryLockWait` (`try_lock_with_wait_tracking` as one operation), the guards free again and the
    granted handle recorded; no other thread and no ended transaction is touched.  True of both
    orders (`early`): sequentially they cannot be told apart, which is why only an interleaving
    statement separates them. -/
theorem uninterrupted_prepare_is_the_whole_call (early : Bool) (s : St) (i now : Nat) (th : Th)
    (ks : List Nat) (rest : List (List Nat)) (h1 : s.ths[i]? = some th)
    (h2 : th.pc = .prep (ks :: rest)) (hg : s.guard = none) :
    ∃ n s', Section.run early s (List.replicate n (i, now)) = some s' ∧
      s'.t = (tryLockWait s.t s.g now now i ks none).1 ∧
      s'.g = (tryLockWait s.t s.g now now i ks none).2.1 ∧ s'.guard = none ∧
      (∃ th', s'.ths[i]? = some th' ∧ th'.pc = .prep rest ∧
        th'.handles = (match (tryLockWait s.t s.g now now i ks none).2.2 with
          | .ok h => th.handles ++ [h] | .error _ => th.handles)) ∧
      s'.ended = s.ended ∧ ∀ j, j ≠ i → s'.ths[j]? = s.ths[j]? := by
  obtain ⟨n, s', a1, a2, a3, a4, a5, a6, a7⟩ := prepare_alone_is_tryLockWait early s i now th ks rest h1 h2 hg
  exact ⟨n, s', a1, a2, a3, a4, a5, a6, a7⟩

/-- …and the end of a transaction alone (one `release_by_handle_with_wait_cleanup` per recorded
    handle, then the unconditional `remove_transaction`) is `endTx`, the end-of-transaction
    sequence of `Model.lean`; afterwards the transaction counts as ended. -/
theorem uninterrupted_end_is_the_whole_call (early : Bool) (s : St) (i now : Nat) (th : Th) (hs : List Nat)
    (h1 : s.ths[i]? = some th) (h2 : th.pc = .ending hs) (hg : s.guard = none) :
    ∃ n s', Section.run early s (List.replicate n (i, now)) = some s' ∧ (s'.t, s'.g) = endTx s.t s.g i hs ∧
      s'.guard = none ∧ s'.ended = i :: s.ended ∧ s'.ths[i]? = some { th with pc := .done } ∧
      ∀ j, j ≠ i → s'.ths[j]? = s.ths[j]? :=
  end_alone_is_endTx early s i now th hs h1 h2 hg

/-! ### non-vacuity -/

/-- the hypotheses of `uninterrupted_prepare_is_the_whole_call` / `uninterrupted_end_is_the_whole_call`
    hold in reachable states: the initial one (thread 1 about to prepare key 5), and the one where
    thread 0 has called commit with one recorded handle -/
example : (Section.init 30 0 [[[5]], [[5]]]).ths[1]? = some { pc := .prep [[5]], handles := [] } ∧
    (Section.init 30 0 [[[5]], [[5]]]).guard = none ∧
    ∃ s, Section.run false (Section.init 30 0 [[[5]], [[5]]]) [(0, 0), (0, 0), (0, 0), (0, 0)] = some s ∧
      s.ths[0]? = some { pc := .ending [0], handles := [0] } ∧ s.guard = none :=
  ⟨rfl, rfl, _, rfl, rfl, rfl⟩

/-- a reachable state of the current code in which a thread IS about to record an edge (the
    hypotheses of `edge_recorded_while_blocker_holds_lock` and `section_excludes_release_and_prepare`):
    B has scanned, A has called commit and stands before its release -/
example : ∃ s th thj, Section.run false (Section.init 30 0 [[[5]], [[5]]]) [(0, 0), (0, 0), (0, 0), (1, 0), (0, 0)] = some s ∧
    s.ths[1]? = some th ∧ th.pc = .adding [0] [] ∧ s.ths[0]? = some thj ∧ thj.pc = .ending [0] :=
  ⟨_, _, _, rfl, rfl, rfl, rfl, rfl⟩

/-- three threads, up to two shards each, every thread to its end under a schedule in which prepares
    are granted, refused (thread 1 waits for 0, thread 0 for 2) and take over an expired lock
    (timeout 3, clock reading 9: thread 2 takes key 1 from thread 0): all three ended, graph and
    lock table empty -/
example : (Section.run false (Section.init 3 0 [[[1, 2], [3]], [[2]], [[3], [1]]])
    [(0, 0), (0, 0), (0, 0), (1, 0), (1, 0), (1, 0), (1, 0), (2, 9), (2, 9), (2, 9), (2, 9), (2, 9), (2, 9), (2, 9), (1, 9),
     (0, 9), (0, 9), (0, 9), (2, 9), (2, 9), (2, 9), (2, 9), (0, 9), (2, 9), (0, 9), (0, 9), (0, 9)]).map
    (fun s => (s.ended.length, s.g.edges.length, s.t.locks.length)) = some (3, 0, 0) := by
  decide +kernel

end Neumann.Locks.SectionProps
