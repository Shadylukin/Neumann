import NeumannModel.Locks.GraphLemmas
import NeumannModel.Locks.WaitLemmas
/-
  C12 — `WaitForGraph::would_create_cycle` (iterative DFS with an explicit stack) decides
  reachability holder →* waiter; adding an edge for which it answers `false` to an acyclic
  relation keeps it acyclic.  Core Lean only.
-/
namespace Neumann.Locks

theorem wccLoop_sound (g : Adj) (w h : Nat) (fuel : Nat) (visited stack : List Nat)
    (hS : ∀ x ∈ stack, Reach g h x) (ht : wccLoop g w fuel visited stack = true) : Reach g h w := by
  induction fuel generalizing visited stack with
  | zero => simp [wccLoop] at ht
  | succ n ih =>
    cases stack with
    | nil => simp [wccLoop] at ht
    | cons cur rest =>
      simp only [wccLoop] at ht
      by_cases e1 : cur = w
      · subst e1; exact hS cur List.mem_cons_self
      · simp only [e1, ↓reduceIte] at ht
        by_cases e2 : cur ∈ visited
        · simp only [e2, ↓reduceIte] at ht
          exact ih visited rest (fun x hx => hS x (List.mem_cons_of_mem _ hx)) ht
        · simp only [e2, ↓reduceIte] at ht
          refine ih _ _ ?_ ht
          intro x hx
          simp only [List.mem_append, List.mem_reverse] at hx
          rcases hx with hx | hx
          · exact (hS cur List.mem_cons_self).trans (Reach.step hx (Reach.refl x))
          · exact hS x (List.mem_cons_of_mem _ hx)

/-- edges leaving vertices that have not been expanded yet (an upper bound of what can still be pushed) -/
def remaining : Adj → List Nat → Nat
  | [], _ => 0
  | (k, ns) :: r, visited => (if k ∈ visited then 0 else ns.length) + remaining r visited

theorem remaining_nil (g : Adj) : remaining g [] = edgeCount g := by
  induction g with
  | nil => rfl
  | cons p r ih =>
    obtain ⟨k, ns⟩ := p
    simp only [remaining, List.not_mem_nil, ↓reduceIte, ih, edgeCount, List.map_cons, List.sum_cons]

theorem remaining_mono (g : Adj) (v : Nat) (visited : List Nat) :
    remaining g (v :: visited) ≤ remaining g visited := by
  induction g with
  | nil => exact Nat.le_refl _
  | cons p r ih =>
    obtain ⟨k, ns⟩ := p
    refine Nat.add_le_add ?_ ih
    split
    · exact Nat.zero_le _
    · rename_i h; rw [if_neg fun h2 => h (List.mem_cons_of_mem _ h2)]; exact Nat.le_refl _

theorem remaining_visit (g : Adj) (v : Nat) (visited : List Nat) (hv : v ∉ visited) :
    remaining g (v :: visited) + (neighbors g v).length ≤ remaining g visited := by
  induction g with
  | nil => exact Nat.le_refl _
  | cons p r ih =>
    obtain ⟨k, ns⟩ := p
    rw [remaining, remaining, neighbors, aGet_cons]
    by_cases e : k = v
    · -- the entry of `v` itself: its edges are what is pushed
      rw [if_pos e, if_pos (e ▸ List.mem_cons_self), if_neg (e ▸ hv), Nat.zero_add, Nat.add_comm]
      exact Nat.add_le_add_left (remaining_mono r v visited) _
    · rw [if_neg e, Nat.add_assoc]
      refine Nat.add_le_add ?_ ih
      split
      · exact Nat.zero_le _
      · rename_i h; rw [if_neg fun h2 => h (List.mem_cons_of_mem _ h2)]; exact Nat.le_refl _
/-- invariant of the search when it has not met the waiter yet -/
structure WccInv (g : Adj) (w h : Nat) (visited stack : List Nat) : Prop where
  nw : w ∉ visited
  closed : ∀ v ∈ visited, ∀ n ∈ neighbors g v, n ∈ visited ∨ n ∈ stack
  start : h ∈ visited ∨ h ∈ stack

theorem closed_reach (g : Adj) (visited : List Nat)
    (hc : ∀ v ∈ visited, ∀ n ∈ neighbors g v, n ∈ visited) (a b : Nat) (ha : a ∈ visited) (hr : Reach g a b) :
    b ∈ visited := by
  induction hr with
  | refl => exact ha
  | step e _ ih => exact ih (hc _ ha _ e)

theorem wccLoop_complete (g : Adj) (w h : Nat) (fuel : Nat) (visited stack : List Nat)
    (hf : stack.length + remaining g visited < fuel) (hI : WccInv g w h visited stack)
    (hfalse : wccLoop g w fuel visited stack = false) : ¬ Reach g h w := by
  induction fuel generalizing visited stack with
  | zero => exact absurd hf (Nat.not_lt_zero _)
  | succ n ih =>
    cases stack with
    | nil =>
      -- nothing left to expand: `visited` is closed under edges, contains `h` and not `w`
      intro hr
      have hc : ∀ v ∈ visited, ∀ m ∈ neighbors g v, m ∈ visited :=
        fun v hv m hm => (hI.closed v hv m hm).resolve_right List.not_mem_nil
      exact hI.nw (closed_reach g visited hc h w (hI.start.resolve_right List.not_mem_nil) hr)
    | cons cur rest =>
      rw [wccLoop] at hfalse
      by_cases e1 : cur = w
      · rw [if_pos e1] at hfalse; cases hfalse
      · rw [if_neg e1] at hfalse
        by_cases e2 : cur ∈ visited
        · rw [if_pos e2] at hfalse
          -- `cur` was expanded before: whatever was waiting on the stack as `cur` is in `visited`
          have drop (x : Nat) (hx : x ∈ visited ∨ x ∈ cur :: rest) : x ∈ visited ∨ x ∈ rest :=
            hx.elim Or.inl fun hx => (List.mem_cons.mp hx).elim (fun e => Or.inl (e ▸ e2)) Or.inr
          exact ih visited rest (Nat.lt_of_succ_lt_succ (Nat.succ_add .. ▸ hf))
            ⟨hI.nw, fun v hv m hm => drop m (hI.closed v hv m hm), drop h hI.start⟩ hfalse
        · rw [if_neg e2] at hfalse
          -- `cur` is expanded: it moves to `visited`, its neighbours go on the stack
          have move (x : Nat) (hx : x ∈ visited ∨ x ∈ cur :: rest) :
              x ∈ cur :: visited ∨ x ∈ (neighbors g cur).reverse ++ rest :=
            hx.elim (fun hx => Or.inl (List.mem_cons_of_mem _ hx)) fun hx =>
              (List.mem_cons.mp hx).elim (fun e => Or.inl (e ▸ List.mem_cons_self))
                fun hx => Or.inr (List.mem_append_right _ hx)
          refine ih (cur :: visited) ((neighbors g cur).reverse ++ rest) ?_ ⟨?_, ?_, move h hI.start⟩ hfalse
          · have h1 : rest.length + remaining g visited < n :=
              Nat.lt_of_succ_lt_succ (by rw [Nat.succ_eq_add_one, Nat.add_right_comm]; exact hf)
            refine Nat.lt_of_le_of_lt ?_ h1
            rw [List.length_append, List.length_reverse, Nat.add_comm (neighbors g cur).length, Nat.add_assoc,
              Nat.add_comm (neighbors g cur).length]
            exact Nat.add_le_add_left (remaining_visit g cur visited e2) _
          · exact fun hm => (List.mem_cons.mp hm).elim (fun e => e1 e.symm) hI.nw
          · intro v hv m hm
            rcases List.mem_cons.mp hv with rfl | hv
            · exact Or.inr (List.mem_append_left _ (List.mem_reverse.mpr hm))
            · exact move m (hI.closed v hv m hm)

theorem wouldCreateCycle_iff (g : Adj) (w h : Nat) :
    wouldCreateCycle g w h = true ↔ w = h ∨ Reach g h w := by
  unfold wouldCreateCycle
  by_cases e : w = h
  · simp [e]
  · simp only [e, ↓reduceIte, false_or]
    constructor
    · intro ht
      exact wccLoop_sound g w h _ [] [h] (by intro x hx; simp at hx; subst hx; exact Reach.refl _) ht
    · intro hr
      cases hres : wccLoop g w (wccFuel g) [] [h] with
      | true => rfl
      | false =>
        exfalso
        refine wccLoop_complete g w h _ [] [h] ?_ ⟨by simp, by simp, Or.inr (by simp)⟩ hres hr
        simp only [List.length_cons, List.length_nil, remaining_nil, wccFuel]
        omega

theorem mem_neighbors_addToSet (g : Adj) (w h a y : Nat) :
    y ∈ neighbors (addToSet g w h) a ↔ y ∈ neighbors g a ∨ (a = w ∧ y = h) := by
  unfold neighbors
  exact mem_get_addToSet g w h a y

theorem reach_addToSet_mono (g : Adj) (w h a b : Nat) (hr : Reach g a b) : Reach (addToSet g w h) a b := by
  induction hr with
  | refl u => exact Reach.refl u
  | step e _ ih => exact Reach.step ((mem_neighbors_addToSet g w h _ _).mpr (Or.inl e)) ih

/-- a path of the extended relation is a path of the old one, or splits at the new edge -/
theorem reach_addToSet (g : Adj) (w h a b : Nat) (hr : Reach (addToSet g w h) a b) :
    Reach g a b ∨ (Reach g a w ∧ Reach g h b) := by
  induction hr with
  | refl u => exact Or.inl (Reach.refl u)
  | @step u v x e _ ih =>
    rcases (mem_neighbors_addToSet g w h u v).mp e with e | ⟨e1, e2⟩
    · rcases ih with ih | ⟨i1, i2⟩
      · exact Or.inl (Reach.step e ih)
      · exact Or.inr ⟨Reach.step e i1, i2⟩
    · subst e1; subst e2
      rcases ih with ih | ⟨_, i2⟩
      · exact Or.inr ⟨Reach.refl _, ih⟩
      · exact Or.inr ⟨Reach.refl _, i2⟩

theorem acyclic_addToSet (g : Adj) (w h : Nat) (hac : ¬ HasCycle g) (hno : ¬ (w = h ∨ Reach g h w)) :
    ¬ HasCycle (addToSet g w h) := by
  rintro ⟨u, x, hx, hr⟩
  have hno2 : ¬ Reach g h w := fun r => hno (Or.inr r)
  rcases (mem_neighbors_addToSet g w h u x).mp hx with e | ⟨e1, e2⟩
  · rcases reach_addToSet g w h x u hr with r | ⟨r1, r2⟩
    · exact hac ⟨u, x, e, r⟩
    · exact hno2 (r2.trans (Reach.step e r1))
  · subst e1; subst e2
    rcases reach_addToSet g u x x u hr with r | ⟨r1, _⟩
    · exact hno2 r
    · exact hno2 r1

theorem isWalk_mem_key (g : Adj) (c : List Nat) (last : Nat) (hw : IsWalk g (c ++ [last])) (x : Nat) (hx : x ∈ c) :
    x ∈ g.map (·.1) := by
  induction c with
  | nil => simp at hx
  | cons a r ih =>
    simp only [List.mem_cons] at hx
    cases r with
    | nil =>
      simp only [List.cons_append, List.nil_append, IsWalk] at hw
      rcases hx with hx | hx
      · subst hx; exact (mem_vertices_of_neighbor g x last hw.1).2
      · simp at hx
    | cons b t =>
      simp only [List.cons_append, IsWalk] at hw
      rcases hx with hx | hx
      · subst hx; exact (mem_vertices_of_neighbor g x b hw.1).2
      · exact ih hw.2 hx

theorem isCycle_mem_key (g : Adj) (c : List Nat) (h : IsCycle g c) (x : Nat) (hx : x ∈ c) : x ∈ g.map (·.1) := by
  obtain ⟨hne, hw, he⟩ := h
  cases c with
  | nil => exact absurd rfl hne
  | cons a r =>
    simp only [List.headD_cons] at he
    -- the closed walk c ++ [a] has every member of c before its last element
    have hw2 : IsWalk g ((a :: r) ++ [a]) := by
      have : (a :: r) = (a :: r).dropLast ++ [(a :: r).getLastD 0] := by
        have hh := List.dropLast_concat_getLast (l := a :: r) (by simp)
        rw [List.getLastD_eq_getLast?, List.getLast?_eq_some_getLast (by simp)]
        simpa using hh.symm
      rw [this] at hw ⊢
      exact isWalk_append_edge g _ _ a hw he
    exact isWalk_mem_key g (a :: r) a hw2 x hx

theorem detectCycles_length_le (g : Adj) (c : List Nat) (h : c ∈ detectCycles g) : c.length ≤ g.length :=
  List.length_map (as := g) (·.1) ▸ (detectCycles_nodup g c h).length_le_of_subset
    fun x hx => isCycle_mem_key g c (detectCycles_sound g c h) x hx

end Neumann.Locks
