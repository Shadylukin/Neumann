import NeumannModel.Locks.CoordLemmas
import NeumannModel.Locks.GraphLemmas
import NeumannModel.Locks.ReachLemmas
/-
  C12 — property theorems about the coordinator model (`CoordModel.lean`): which locks are left
  when a transaction ends at ANY of the end-of-transaction sites, the orphan sweep, and the
  refinement that carries the lock-table theorems of `Props.lean` over to coordinator runs.
  ONLY property statements and non-vacuity examples; helpers are in `CoordLemmas.lean`.

  `corun ops (Coord.init T mc)` folds `costep` over any list of coordinator operations:
  begin / handle_prepare / record_vote (Yes vote in flight, or No) / commit / abort /
  complete_commit / complete_abort / force_resolve / cleanup_timeouts / recover /
  release_orphaned_locks / clock / save-load / a deadline passing.
-/
namespace Neumann.Locks.CoordProps
open Neumann.Locks

/-- **Every lock is accounted for.**  After any sequence of coordinator operations, each lock in
    the table carries a handle whose Yes vote is still in flight, was refused by `record_vote`
    (transaction unknown / not Preparing / duplicate shard), or is recorded in the votes of its
    owner, which is still pending. -/
theorem every_lock_is_accounted (T mc : Nat) (ops : List CoOp) (k : Nat) (l : KeyLock)
    (h : aGet (corun ops (Coord.init T mc)).t.locks k = some l) :
    Accounted (corun ops (Coord.init T mc)) l :=
  (coInv_run ops _ (coInv_init T mc)).acc k l h

/-- **When a transaction ends, none of its recorded locks remains** — at every end-of-transaction
    site (commit, abort, complete_commit, complete_abort, force_resolve), after every sequence of
    coordinator operations: a lock that still belongs to the ended transaction carries a handle
    the coordinator never recorded (its Yes vote is still in flight or was refused). -/
theorem ended_tx_keeps_only_unrecorded_locks (T mc : Nat) (ops : List CoOp) (op : CoOp) (tx : Nat)
    (he : endOf op = some tx)
    (hok : (costep (corun ops (Coord.init T mc)) op).2 = .ok) (k : Nat) (l : KeyLock)
    (hl : aGet (costep (corun ops (Coord.init T mc)) op).1.t.locks k = some l) (hown : l.tx = tx) :
    (aGet (costep (corun ops (Coord.init T mc)) op).1.inflight l.handle).isSome ∨
      l.handle ∈ (costep (corun ops (Coord.init T mc)) op).1.unrecorded := by
  have hi := coInv_run ops _ (coInv_init T mc)
  generalize corun ops (Coord.init T mc) = c at hi hok hl ⊢
  have hi' := coInv_step c op hi
  obtain ⟨p, hp, hfin⟩ := end_ok_runs_finish c op tx he hok
  rcases hi'.acc k l hl with ha | ha | ⟨q, hq, _⟩
  · exact Or.inl ha
  · exact Or.inr ha
  · rw [hfin, hown, show aGet (c.finish tx p).pending tx = _ from aGet_aRemove .., if_pos rfl] at hq
    cases hq

/-- …in particular, when every Yes vote of the transaction had been recorded (nothing of it in
    flight, nothing refused), it holds no lock at all afterwards. -/
theorem ended_tx_holds_no_lock (T mc : Nat) (ops : List CoOp) (op : CoOp) (tx : Nat)
    (he : endOf op = some tx)
    (hok : (costep (corun ops (Coord.init T mc)) op).2 = .ok)
    (hnone : ∀ h, aGet (costep (corun ops (Coord.init T mc)) op).1.inflight h ≠ some tx)
    (hun : (costep (corun ops (Coord.init T mc)) op).1.unrecorded = []) (k : Nat) (l : KeyLock)
    (hl : aGet (costep (corun ops (Coord.init T mc)) op).1.t.locks k = some l) : l.tx ≠ tx := by
  intro hown
  have hi' := coInv_step _ op (coInv_run ops _ (coInv_init T mc))
  rcases ended_tx_keeps_only_unrecorded_locks T mc ops op tx he hok k l hl hown with h | h
  · obtain ⟨tx', hx⟩ := Option.isSome_iff_exists.mp h
    exact hnone l.handle (hx.trans (congrArg some ((hi'.iown k l tx' hl hx).symm.trans hown)))
  · rw [hun] at h; cases h

/-- **…and it is absent from the wait-for graph** at every end-of-transaction site: no out-edges
    entry, no in-edges entry, in nobody's holder set, in nobody's waiter set, no wait-start, no
    priority (every operation sequence before it). -/
theorem ended_tx_absent_from_graph_every_site (T mc : Nat) (ops : List CoOp) (op : CoOp) (tx : Nat)
    (he : endOf op = some tx)
    (hok : (costep (corun ops (Coord.init T mc)) op).2 = .ok) :
    let g := (costep (corun ops (Coord.init T mc)) op).1.g
    aGet g.edges tx = none ∧ aGet g.reverse tx = none ∧ (∀ w, tx ∉ outs g w) ∧ (∀ h, tx ∉ ins g h) ∧
    aGet g.waitStarted tx = none ∧ aGet g.priorities tx = none := by
  have hi := coInv_run ops _ (coInv_init T mc)
  generalize corun ops (Coord.init T mc) = c at hi hok ⊢
  obtain ⟨p, _, hfin⟩ := end_ok_runs_finish c op tx he hok
  rw [hfin]
  exact removeTransaction_absent _ tx (transpose_releaseHandles p.handles c.t c.g hi.pi.tr)

/-- **Timeouts**: every transaction `cleanup_timeouts` reports has left `pending`, and whatever
    lock it still owns carries a handle the coordinator never recorded. -/
theorem timed_out_tx_keeps_only_unrecorded_locks (T mc : Nat) (ops : List CoOp) (tx : Nat)
    (hgone : aGet (costep (corun ops (Coord.init T mc)) .cleanupTimeouts).1.pending tx = none)
    (k : Nat) (l : KeyLock)
    (hl : aGet (costep (corun ops (Coord.init T mc)) .cleanupTimeouts).1.t.locks k = some l) (hown : l.tx = tx) :
    (aGet (costep (corun ops (Coord.init T mc)) .cleanupTimeouts).1.inflight l.handle).isSome ∨
      l.handle ∈ (costep (corun ops (Coord.init T mc)) .cleanupTimeouts).1.unrecorded := by
  have hi' := coInv_step _ .cleanupTimeouts (coInv_run ops _ (coInv_init T mc))
  rcases hi'.acc k l hl with ha | ha | ⟨q, hq, _⟩
  · exact Or.inl ha
  · exact Or.inr ha
  · rw [hown, hgone] at hq; cases hq

/-- **…and a timed-out transaction is absent from the wait-for graph**: every transaction that was
    pending before `cleanup_timeouts` and is not afterwards has no entry in either index, is in
    nobody's holder or waiter set and has no wait-start / priority (every operation sequence). -/
theorem timed_out_tx_absent_from_graph (T mc : Nat) (ops : List CoOp) (tx : Nat) (p : PTx)
    (hbefore : aGet (corun ops (Coord.init T mc)).pending tx = some p)
    (hgone : aGet (costep (corun ops (Coord.init T mc)) .cleanupTimeouts).1.pending tx = none) :
    Absent (costep (corun ops (Coord.init T mc)) .cleanupTimeouts).1.g tx := by
  have hi := coInv_run ops _ (coInv_init T mc)
  generalize corun ops (Coord.init T mc) = c at hi hbefore hgone ⊢
  have hloop := timeoutLoop_absent ((c.pending.filter (fun e => e.2.doomed)).map (·.1)) c tx hi
    (fun h => nomatch hbefore.symm.trans h)
  have hi1 := coInv_timeoutLoop ((c.pending.filter (fun e => e.2.doomed)).map (·.1)) c hi
  exact absent_foldl_removeTransaction _ _ _ hi1.pi.tr (Or.inr (hloop hgone))

/-- **Nothing left behind at quiescence**: when no transaction is pending, no vote is in flight
    and no vote was ever refused, the lock table is empty (every operation sequence). -/
theorem quiescent_lock_table_is_empty (T mc : Nat) (ops : List CoOp)
    (hp : (corun ops (Coord.init T mc)).pending = []) (hf : (corun ops (Coord.init T mc)).inflight = [])
    (hu : (corun ops (Coord.init T mc)).unrecorded = []) :
    (corun ops (Coord.init T mc)).t.locks = [] := by
  have hi := coInv_run ops _ (coInv_init T mc)
  generalize corun ops (Coord.init T mc) = c at hi hp hf hu ⊢
  cases hL : c.t.locks with
  | nil => rfl
  | cons e r =>
    obtain ⟨k, l⟩ := e
    have hl : aGet c.t.locks k = some l := by rw [hL]; exact if_pos rfl
    rcases hi.acc k l hl with ha | ha | ⟨q, hq, _⟩
    · rw [hf] at ha; cases ha
    · rw [hu] at ha; cases ha
    · rw [hp] at hq; cases hq

/-! ### the orphan sweep (`release_orphaned_locks`) -/

/-- **The sweep removes exactly the orphaned locks** of any table with unique keys: a lock
    survives iff its owner is active or it was acquired at/after the partition start; survivors
    are unchanged; the returned count is the number of orphaned locks. -/
theorem sweep_removes_exactly_orphans (t : LockTable) (g : WaitGraph) (active : List Nat) (ps : Nat)
    (nd : (t.locks.map (·.1)).Nodup) (k : Nat) :
    aGet (orphanSweep t g active ps).1.locks k =
      (match aGet t.locks k with
       | some l => if l.tx ∉ active ∧ l.acquiredAt < ps then none else some l
       | none => none) ∧
    (orphanSweep t g active ps).2.2 = (orphanKeys t active ps).length := by
  refine ⟨?_, rfl⟩
  have hR := mem_orphanKeys_fst t active ps k nd
  refine (foldl_sweepKey_locks ..).trans ?_
  cases hl : aGet t.locks k with
  | none => exact ite_self _
  | some l =>
    rw [hl] at hR
    dsimp only
    by_cases ho : l.tx ∉ active ∧ l.acquiredAt < ps
    · rw [if_pos (hR.mpr ⟨l, rfl, ho⟩), if_pos ho]
    · rw [if_neg fun hm => ho (by obtain ⟨l', e, h⟩ := hR.mp hm; cases e; exact h), if_neg ho]

/-- **The sweep never touches a pending transaction**: after any sequence of coordinator
    operations, a lock whose owner is pending survives `release_orphaned_locks` whatever the
    partition start. -/
theorem sweep_keeps_locks_of_pending_tx (T mc : Nat) (ops : List CoOp) (ps k : Nat) (l : KeyLock) (p : PTx)
    (hl : aGet (corun ops (Coord.init T mc)).t.locks k = some l)
    (hp : aGet (corun ops (Coord.init T mc)).pending l.tx = some p) :
    aGet (costep (corun ops (Coord.init T mc)) (.sweep ps)).1.t.locks k = some l := by
  have hi := coInv_run ops _ (coInv_init T mc)
  generalize corun ops (Coord.init T mc) = c at hi hl hp ⊢
  refine (sweep_removes_exactly_orphans c.t c.g _ ps hi.pi.uq.locks k).1.trans ?_
  rw [hl]
  exact if_neg fun h => h.1 ((mem_keys_iff ..).mpr ⟨p, hp⟩)

/-- …and it removes every lock of a transaction that is no longer pending and that was acquired
    before the partition start — including the locks whose votes were never recorded. -/
theorem sweep_removes_old_locks_of_ended_tx (T mc : Nat) (ops : List CoOp) (ps k : Nat) (l : KeyLock)
    (hl : aGet (corun ops (Coord.init T mc)).t.locks k = some l)
    (hp : aGet (corun ops (Coord.init T mc)).pending l.tx = none) (hold : l.acquiredAt < ps) :
    aGet (costep (corun ops (Coord.init T mc)) (.sweep ps)).1.t.locks k = none := by
  have hi := coInv_run ops _ (coInv_init T mc)
  generalize corun ops (Coord.init T mc) = c at hi hl hp ⊢
  refine (sweep_removes_exactly_orphans c.t c.g _ ps hi.pi.uq.locks k).1.trans ?_
  rw [hl]
  refine if_pos ⟨fun hm => ?_, hold⟩
  obtain ⟨v, hv⟩ := (mem_keys_iff ..).mp hm
  cases hp.symm.trans hv

/-- **A swept transaction leaves the wait-for graph**: the owner of any lock the sweep removes is
    absent from the graph afterwards (every operation sequence, every partition start). -/
theorem swept_tx_absent_from_graph (T mc : Nat) (ops : List CoOp) (ps k : Nat) (l : KeyLock)
    (hl : aGet (corun ops (Coord.init T mc)).t.locks k = some l)
    (hp : aGet (corun ops (Coord.init T mc)).pending l.tx = none) (hold : l.acquiredAt < ps) :
    Absent (costep (corun ops (Coord.init T mc)) (.sweep ps)).1.g l.tx := by
  have hi := coInv_run ops _ (coInv_init T mc)
  generalize corun ops (Coord.init T mc) = c at hi hl hp ⊢
  refine absent_foldl_removeTransaction _ _ _ hi.pi.tr (Or.inl ?_)
  refine (mem_foldl_setInsert_snd ..).mpr (Or.inr ⟨k, ?_⟩)
  refine (mem_orphanKeys c.t _ ps k l.tx hi.pi.uq.locks).mpr ⟨l, hl, rfl, fun hm => ?_, hold⟩
  obtain ⟨v, hv⟩ := (mem_keys_iff ..).mp hm
  cases hp.symm.trans hv

/-! ### coordinator runs are lock-table runs -/

/-- **Refinement**: the lock table (and clock) reached by any sequence of coordinator operations is
    reached by a sequence of plain lock-table operations (`Props.lean`'s `run`), so every theorem
    about `run` holds of coordinator runs; the pair (table, graph) is reached by a sequence of
    coordinator-side operations (`crun`). -/
theorem coordinator_run_is_a_lock_table_run (T mc : Nat) (ops : List CoOp) :
    ∃ (cops : List COp) (lops : List Op),
      (corun ops (Coord.init T mc)).pair = crun cops (CSys.init T 0) ∧
      (run lops (Sys.init T)).t = (corun ops (Coord.init T mc)).t ∧
      (run lops (Sys.init T)).now = (corun ops (Coord.init T mc)).now := by
  obtain ⟨cops, h⟩ := corun_pair ops (Coord.init T mc)
  refine ⟨cops, cops.flatMap cproj, h, ?_⟩
  have := crun_table cops (CSys.init T 0) (Sys.init T) rfl rfl
  have hp : (Coord.init T mc).pair = CSys.init T 0 := rfl
  rw [hp] at h
  constructor
  · rw [this.1, ← h]; rfl
  · rw [this.2, ← h]; rfl

/-- the index-consistency theorem carried over: after any sequence of coordinator operations every
    held lock is filed under its own key, listed in its owner's index entry, carries an issued
    handle, and both maps have unique keys -/
theorem coordinator_tx_index_consistent (T mc : Nat) (ops : List CoOp) :
    let c := corun ops (Coord.init T mc)
    (∀ k l, aGet c.t.locks k = some l →
        l.key = k ∧ l.handle < c.t.nextHandle ∧ ∃ ks, aGet c.t.txLocks l.tx = some ks ∧ k ∈ ks) ∧
    (c.t.locks.map (·.1)).Nodup ∧ (c.t.txLocks.map (·.1)).Nodup := by
  obtain ⟨_, lops, _, ht, _⟩ := coordinator_run_is_a_lock_table_run T mc ops
  have := (inv_run lops _ (inv_init T)).index
  rwa [ht] at this

/-- **Exclusivity along coordinator-side runs** (the `*_with_wait_*` variants, the end-of-transaction
    sequence, the sweep …): two grants of the same key that are both still held (not released, not
    swept) and both unexpired belong to the same transaction.  The ghost is that of the projected
    lock-table run, which reaches the same table at the same time. -/
theorem at_most_one_unexpired_holder_coordinator (T mx : Nat) (cops : List COp) (g1 g2 : Grant) :
    let s := run (cops.flatMap cproj) (Sys.init T)
    s.t = (crun cops (CSys.init T mx)).t ∧ s.now = (crun cops (CSys.init T mx)).now ∧
    (g1 ∈ s.ghost → g2 ∈ s.ghost → g1.key = g2.key →
      g1.expired s.now = false → g2.expired s.now = false → g1.tx = g2.tx) := by
  have hr := crun_table cops (CSys.init T mx) (Sys.init T) rfl rfl
  refine ⟨hr.1, hr.2, ?_⟩
  exact (inv_run (cops.flatMap cproj) _ (inv_init T)).excl

/-- **A prepare on the coordinator path is granted exactly when no requested key has a live
    foreign holder**, it then changes the table exactly as `try_lock` does (all-or-nothing, see
    `Props.grant_all_or_nothing`), and a refused prepare leaves the table untouched. -/
theorem prepare_granted_iff_no_live_foreign_holder (t : LockTable) (g : WaitGraph) (now wnow tx : Nat)
    (keys : List Nat) (prio : Option Nat) :
    ((∃ h, (tryLockWait t g now wnow tx keys prio).2.2 = .ok h) ↔
      ∀ k ∈ keys, ∀ l, aGet t.locks k = some l → l.isExpired now = true ∨ l.tx = tx) ∧
    (tryLockWait t g now wnow tx keys prio).1 = (tryLock t now tx keys).1 ∧
    ((∀ h, (tryLockWait t g now wnow tx keys prio).2.2 ≠ .ok h) → (tryLockWait t g now wnow tx keys prio).1 = t) := by
  refine ⟨?_, tryLockWait_table t g now wnow tx keys prio, ?_⟩
  · rw [tryLockWait_granted_iff, firstConflict_none_iff]
  · intro hno
    cases hc : firstConflict t.locks now tx keys with
    | some c => rw [tryLockWait_of_conflict hc]
    | none =>
      obtain ⟨h, hh⟩ := (tryLockWait_granted_iff t g now wnow tx keys prio).mpr hc
      exact absurd hh (hno h)

/-! ### the remaining wait-for-graph operations -/

/-- **`would_create_cycle(waiter, holder)` is exact**: it answers `true` precisely when the waiter
    is the holder or the holder already reaches the waiter along recorded wait-for edges (every
    adjacency of any size, in any iteration order; the fuel of the model's loop always suffices). -/
theorem would_create_cycle_exact (g : Adj) (waiter holder : Nat) :
    wouldCreateCycle g waiter holder = true ↔ waiter = holder ∨ Reach g holder waiter :=
  wouldCreateCycle_iff g waiter holder

/-- **Deadlock prevention is sound**: recording an edge for which `would_create_cycle` answered
    `false` in an acyclic wait-for relation leaves it acyclic, and one for which it answered `true`
    (other than a self-wait, which `add_wait` ignores) creates a cycle. -/
theorem would_create_cycle_prevention_sound (g : Adj) (waiter holder : Nat) (hac : ¬ HasCycle g) :
    (wouldCreateCycle g waiter holder = false → ¬ HasCycle (addToSet g waiter holder)) ∧
    (wouldCreateCycle g waiter holder = true → waiter ≠ holder → HasCycle (addToSet g waiter holder)) := by
  constructor
  · intro hf
    apply acyclic_addToSet g waiter holder hac
    rw [← wouldCreateCycle_iff, hf]; simp
  · intro ht hne
    rcases (wouldCreateCycle_iff g waiter holder).mp ht with e | r
    · exact absurd e hne
    · exact ⟨waiter, holder, (mem_neighbors_addToSet g waiter holder waiter holder).mpr (Or.inr ⟨rfl, rfl⟩),
        reach_addToSet_mono g waiter holder holder waiter r⟩

/-- **A reported cycle never repeats a transaction** and is therefore no longer than the number of
    waiting transactions (entries of `edges`) — every adjacency, every iteration order. -/
theorem reported_cycle_simple_and_bounded (g : Adj) (c : List Nat) (h : c ∈ detectCycles g) :
    c.Nodup ∧ c.length ≤ g.length ∧ ∀ x ∈ c, x ∈ g.map (·.1) :=
  ⟨detectCycles_nodup g c h, detectCycles_length_le g c h, isCycle_mem_key g c (detectCycles_sound g c h)⟩

/-- **The detector is exact whenever `max_cycle_length` covers the graph** (upgrade of
    `Props.detector_reports_when_cycle_fits`: the bound relating cycle length to the number of
    waiting transactions is now proved): an enabled detector whose `max_cycle_length` is at least
    the number of waiting transactions reports a deadlock exactly when the recorded wait-for
    relation contains a cycle. -/
theorem detector_exact_when_bound_covers_graph (cfg : DetectorCfg) (wg : WaitGraph) (lc : Option (Nat → Nat))
    (g : Adj) (hen : cfg.enabled = true) (hb : g.length ≤ cfg.maxCycleLength) :
    detect cfg wg lc g ≠ [] ↔ HasCycle g := by
  constructor
  · intro h
    cases hd : detect cfg wg lc g with
    | nil => exact absurd hd h
    | cons e r =>
      obtain ⟨c, v⟩ := e
      have hm : (c, v) ∈ detect cfg wg lc g := by rw [hd]; exact List.mem_cons_self
      exact hasCycle_of_isCycle g c (detectCycles_sound g c (detect_subset cfg wg lc g c v hm).1)
  · intro h
    have hne := detectCycles_complete g h
    cases hc : detectCycles g with
    | nil => exact absurd hc hne
    | cons c r =>
      have hm : c ∈ detectCycles g := by rw [hc]; exact List.mem_cons_self
      exact detect_nonempty cfg wg lc g hen c hm (Nat.le_trans (detectCycles_length_le g c hm) hb)

/-- **`cleanup_stale_edges(ttl)`** on a graph whose reverse index is the transpose of its edges:
    every transaction whose recorded wait started more than `ttl` ago is absent from the graph
    afterwards, the edges between the other transactions are exactly the old ones, the reverse
    index is still the transpose, and the returned count is the number of stale wait-starts. -/
theorem cleanup_stale_edges_exact (g : WaitGraph) (now ttl : Nat) (hT : Transpose g) :
    (∀ tx s, (tx, s) ∈ g.waitStarted → now - s > ttl → Absent (cleanupStaleEdges g now ttl).1 tx) ∧
    (∀ a b, b ∈ outs (cleanupStaleEdges g now ttl).1 a ↔
        b ∈ outs g a ∧ a ∉ staleTxs g now ttl ∧ b ∉ staleTxs g now ttl) ∧
    Transpose (cleanupStaleEdges g now ttl).1 ∧
    (cleanupStaleEdges g now ttl).2 = (staleTxs g now ttl).length := by
  refine ⟨?_, ?_, transpose_foldl_removeTransaction _ _ hT, rfl⟩
  · intro tx s hm hs
    exact absent_foldl_removeTransaction _ _ _ hT (Or.inl ((mem_staleTxs g now ttl tx).mpr ⟨s, hm, hs⟩))
  · intro a b
    exact mem_outs_foldl_removeTransaction _ g hT a b

/-- `WaitForGraph::clear` leaves nothing: every transaction is absent -/
theorem clear_leaves_nothing (g : WaitGraph) (tx : Nat) : Absent (clearGraph g) tx := by
  simp [Absent, clearGraph, WaitGraph.empty, aGet, outs, ins]

/-- **A refused prepare waits for exactly its blockers**: on the coordinator's graph (no per-transaction
    edge limit) a prepare that is refused adds a wait-for edge from the transaction to every live
    foreign holder of a requested key, and no other edge — the recorded wait-for relation is the
    lock-conflict relation of that moment. -/
theorem refused_prepare_waits_for_every_blocker (t : LockTable) (g : WaitGraph) (now wnow tx : Nat)
    (keys : List Nat) (prio : Option Nat) (hmx : g.maxEdgesPerTx = 0)
    (href : ∀ h, (tryLockWait t g now wnow tx keys prio).2.2 ≠ .ok h) (a b : Nat) :
    b ∈ outs (tryLockWait t g now wnow tx keys prio).2.1 a ↔
      b ∈ outs g a ∨ (a = tx ∧ ∃ k ∈ keys, ∃ l, aGet t.locks k = some l ∧ l.isExpired now = false ∧
        l.tx ≠ tx ∧ l.tx = b) := by
  cases hc : firstConflict t.locks now tx keys with
  | none =>
    obtain ⟨h, hh⟩ := (tryLockWait_granted_iff t g now wnow tx keys prio).mpr hc
    exact absurd hh (href h)
  | some c =>
  rw [tryLockWait_of_conflict hc, mem_outs_foldl_addWait _ g wnow tx prio hmx, mem_foldl_setInsert_snd]
  simp only [List.not_mem_nil, false_or, mem_conflicts]
  constructor
  · rintro (h | ⟨h1, ⟨k, hk, l, h2, h3, h4, h5⟩, _⟩)
    · exact Or.inl h
    · exact Or.inr ⟨h1, k, hk, l, h2, h3, h4, h5⟩
  · rintro (h | ⟨h1, k, hk, l, h2, h3, h4, h5⟩)
    · exact Or.inl h
    · exact Or.inr ⟨h1, ⟨k, hk, l, h2, h3, h4, h5⟩, fun e => h4 (by rw [h5, e])⟩

/-- …and this is the situation of every reachable coordinator state: its graph has no edge limit,
    so after any operation sequence a refused `handle_prepare` leaves the transaction waiting for
    every live foreign holder of the keys it asked for. -/
theorem coordinator_refused_prepare_waits_for_every_blocker (T mc : Nat) (ops : List CoOp) (tx : Nat)
    (keys : List Nat) (k : Nat) (l : KeyLock)
    (href : ∀ h, (costep (corun ops (Coord.init T mc)) (.prepare tx keys)).2 ≠ .yes h)
    (hk : k ∈ keys) (hl : aGet (corun ops (Coord.init T mc)).t.locks k = some l)
    (hlive : l.isExpired (corun ops (Coord.init T mc)).now = false) (hother : l.tx ≠ tx) :
    l.tx ∈ outs (costep (corun ops (Coord.init T mc)) (.prepare tx keys)).1.g tx := by
  have hmx := corun_mx T mc ops
  generalize corun ops (Coord.init T mc) = c at hmx href hl hlive ⊢
  cases hc : firstConflict c.t.locks c.now tx keys with
  | none => rw [costep_prepare_of_free c tx keys hc] at href; exact absurd rfl (href _)
  | some b =>
    rw [costep_prepare_of_conflict c tx keys hc]
    refine (refused_prepare_waits_for_every_blocker c.t c.g c.now c.now tx keys none hmx ?_ tx l.tx).mpr
      (Or.inr ⟨rfl, k, hk, l, hl, hlive, hother, rfl⟩)
    rw [tryLockWait_of_conflict hc]
    exact fun _ => nofun

/-! non-vacuity -/

def demo : List CoOp :=
  [.begin [0, 1], .begin [0], .prepare 1 [5, 6], .deliver 0 0, .prepare 1 [6, 7], .deliver 1 1,
   .prepare 2 [6], .voteNo 2 0]

-- tx 1 is Prepared with two recorded handles, tx 2 (refused, waits for tx 1) is Aborting
example : ((corun demo (Coord.init 3 10)).pending.map fun e => (e.1, e.2.phase, e.2.handles)) =
    [(2, Phase.aborting, []), (1, Phase.prepared, [1, 0])] := by decide +kernel
example : outs (corun demo (Coord.init 3 10)).g 2 = [1] := by decide +kernel
-- commit of tx 1 answers ok, releases the three keys held under both handles and clears the graph
example : (costep (corun demo (Coord.init 3 10)) (.commit 1)).2 matches .ok := by decide +kernel
example : (costep (corun demo (Coord.init 3 10)) (.commit 1)).1.t.locks = [] ∧
    outs (costep (corun demo (Coord.init 3 10)) (.commit 1)).1.g 2 = [] := by decide +kernel
-- a vote still in flight when its transaction is aborted: the lock stays, unrecorded, until the sweep
def leak : List CoOp := [.begin [0], .prepare 1 [4], .abort 1, .deliver 0 0, .advance 2]
example : (corun leak (Coord.init 30 10)).t.locks.map (·.1) = [4] ∧ (corun leak (Coord.init 30 10)).unrecorded = [0] ∧
    (corun leak (Coord.init 30 10)).pending = [] := by decide +kernel
example : (costep (corun leak (Coord.init 30 10)) (.sweep 1)).1.t.locks = [] ∧
    (costep (corun leak (Coord.init 30 10)) (.sweep 0)).1.t.locks.map (·.1) = [4] := by decide +kernel
example : endOf (.forceResolve 3 true) = some 3 := rfl
example : detect { enabled := true, policy := .youngest, maxCycleLength := 3, cascadeDepth := 3 } (WaitGraph.empty 0) none
    [(1, [2]), (2, [3, 1]), (3, [1])] = [([1, 2, 3], 3), ([1, 2], 2)] := by decide +kernel
example : wouldCreateCycle [(2, [3]), (3, [1, 4])] 1 2 = true ∧ wouldCreateCycle [(2, [3]), (3, [4])] 1 2 = false := by decide +kernel
example : ¬ HasCycle [(2, [3]), (3, [4])] := fun hc => detectCycles_complete _ hc (by decide +kernel)
def staleDemo : WaitGraph :=
  (crun [.advance 5, .gAdd 1 2 none, .advance 4, .gAdd 3 2 none] (CSys.init 3 0)).g
example : Transpose staleDemo := (pairInv_run _ _ (pairInv_init 3 0)).tr
example : staleDemo.waitStarted = [(3, 9), (1, 5)] ∧ (cleanupStaleEdges staleDemo 10 3).1.edges = [(3, [2])] ∧
    (cleanupStaleEdges staleDemo 10 3).2 = 1 := by decide +kernel
-- deadlines: tx 1 holds key 1, tx 2 waits for it; tx 1's deadline passes; cleanup_timeouts ends it
def late : List CoOp := [.begin [0], .begin [0], .prepare 1 [1], .deliver 0 0, .prepare 2 [1], .doom 1]
example : ins (corun late (Coord.init 30 10)).g 1 = [2] := by decide +kernel
example : (costep (corun late (Coord.init 30 10)) .cleanupTimeouts).1.pending.map (·.1) = [2] ∧
    (costep (corun late (Coord.init 30 10)) .cleanupTimeouts).1.g.edges = [(2, [])] ∧
    (costep (corun late (Coord.init 30 10)) .cleanupTimeouts).1.t.locks = [] := by decide +kernel

end Neumann.Locks.CoordProps
