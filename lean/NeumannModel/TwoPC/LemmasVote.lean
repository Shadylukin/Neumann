import NeumannModel.TwoPC.Lemmas
/-
  C03 — where YES votes come from.  `VInv`: every YES vote in the pool that carries the shard id of
  a real participant of its (begun) transaction was produced by that participant's own `prepare`
  (ghost `cast`), although the network may add forged / mis-tagged votes (`Ev.forge`): NO / CONFLICT
  votes for any transaction and shard, YES votes tagged with a non-participant shard.
-/
namespace Neumann.TwoPC

theorem findSpec_some {l : List TxSpec} {tx : Nat} {sp : TxSpec} (h : findSpec l tx = some sp) :
    sp ∈ l ∧ sp.id = tx := by
  induction l with
  | nil => cases h
  | cons a r ih =>
    simp only [findSpec] at h
    split at h
    · cases h; exact ⟨List.mem_cons_self .., by assumption⟩
    · exact ⟨List.mem_cons_of_mem _ (ih h).1, (ih h).2⟩

theorem findSpec_append (l : List TxSpec) (sp : TxSpec) (tx : Nat) :
    findSpec (l ++ [sp]) tx =
      match findSpec l tx with
      | some x => some x
      | none => if sp.id = tx then some sp else none := by
  induction l with
  | nil => simp [findSpec]
  | cons a r ih =>
    simp only [List.cons_append, findSpec]
    split
    · rfl
    · exact ih

theorem findSpec_of_mem {l : List TxSpec} {sp : TxSpec} (hm : sp ∈ l)
    (hu : ∀ a ∈ l, ∀ b ∈ l, a.id = b.id → a = b) : findSpec l sp.id = some sp := by
  induction l with
  | nil => simp at hm
  | cons a r ih =>
    simp only [findSpec]
    split
    · rename_i he
      rw [hu a (List.mem_cons_self ..) sp hm he]
    · rename_i hne
      rcases List.mem_cons.1 hm with rfl | h1
      · exact absurd rfl hne
      · exact ih h1 (fun x hx y hy => hu x (List.mem_cons_of_mem _ hx) y (List.mem_cons_of_mem _ hy))

structure VInv (s : Sys) : Prop where
  specUniq : ∀ sp ∈ s.specs, ∀ sp' ∈ s.specs, sp.id = sp'.id → sp = sp'
  prepLt : ∀ tx sh ops, Msg.prepare tx sh ops ∈ s.msgs → tx < s.coord.nextTx
  yesLt : ∀ tx sh h ks, Msg.vote tx sh (.yes h ks) ∈ s.msgs → tx < s.coord.nextTx
  yesCast : ∀ tx sh h ks, Msg.vote tx sh (.yes h ks) ∈ s.msgs → isParticipant s.specs tx sh = true →
    (tx, sh, true) ∈ s.cast

theorem VInv.init (stores : List Store) (a b c : Nat) : VInv (Sys.init stores a b c) := by
  constructor <;> simp [Sys.init]

theorem VInv.frame {s s' : Sys} (h : VInv s) (hs : s'.specs = s.specs)
    (hn : s'.coord.nextTx = s.coord.nextTx) (hc : ∀ x ∈ s.cast, x ∈ s'.cast)
    (hm : ∀ m ∈ s'.msgs, m ∈ s.msgs ∨ ∃ tx sh, m = Msg.commit tx sh ∨ m = Msg.abort tx sh) : VInv s' := by
  refine ⟨by rw [hs]; exact h.specUniq, ?_, ?_, ?_⟩
  · intro tx sh ops hmm
    rw [hn]
    rcases hm _ hmm with h1 | ⟨_, _, h1 | h1⟩
    · exact h.prepLt tx sh ops h1
    · cases h1
    · cases h1
  · intro tx sh hh ks hmm
    rw [hn]
    rcases hm _ hmm with h1 | ⟨_, _, h1 | h1⟩
    · exact h.yesLt tx sh hh ks h1
    · cases h1
    · cases h1
  · intro tx sh hh ks hmm hp
    rw [hs] at hp
    rcases hm _ hmm with h1 | ⟨_, _, h1 | h1⟩
    · exact hc _ (h.yesCast tx sh hh ks h1 hp)
    · cases h1
    · cases h1

theorem VInv.step {s : Sys} (h : VInv s) (hlt : ∀ sp ∈ s.specs, sp.id < s.coord.nextTx) (e : Ev)
    (ha : s.inAlphabet e = true) : VInv (s.step e) := by
  have he := s.eff e
  generalize s.step e = s' at he
  have drain : ∀ c, ∀ m ∈ (s.drain c).msgs, m ∈ s.msgs ∨ ∃ tx sh, m = Msg.commit tx sh ∨ m = Msg.abort tx sh :=
    fun c m hm => (mem_drain_msgs hm).imp_right fun ⟨tx, sh, h1, _⟩ => ⟨tx, sh, Or.inr h1⟩
  cases he with
  | same => exact h
  | tick | commit | abort => exact h.frame rfl rfl (fun _ hx => hx) (fun _ hm => Or.inl hm)
  | sweep => exact h.frame rfl rfl (fun _ hx => hx) (drain _)
  | vote hm hr =>
    obtain ⟨_, _, _, _, _, _, hn, _⟩ := recordVote_ok hr
    exact h.frame rfl hn (fun _ hx => hx) (drain _)
  | @coordCommit tx t hf hph =>
    refine h.frame rfl rfl (fun _ hx => hx) fun m hm => (List.mem_append.1 hm).imp_right fun h1 => ?_
    obtain ⟨sh, _, rfl⟩ := List.mem_map.1 h1
    exact ⟨tx, sh, Or.inl rfl⟩
  | @coordAbort tx t hf =>
    refine h.frame rfl rfl (fun _ hx => hx) fun m hm => (List.mem_append.1 hm).imp_right fun h1 => ?_
    obtain ⟨sh, _, rfl⟩ := List.mem_map.1 h1
    exact ⟨tx, sh, Or.inr rfl⟩
  | forge tx sh v =>
    -- a forged YES names a begun transaction and a shard that is not one of its participants
    simp only [Sys.inAlphabet, Bool.or_eq_true, Bool.not_eq_true', Bool.and_eq_true] at ha
    refine ⟨h.specUniq, ?_, ?_, ?_⟩
    · intro tx' sh' ops hm
      exact h.prepLt tx' sh' ops ((List.mem_append.1 hm).elim id (fun h1 => nomatch List.mem_singleton.1 h1))
    · intro tx' sh' hh ks hm
      rcases List.mem_append.1 hm with h1 | h1
      · exact h.yesLt tx' sh' hh ks h1
      · cases List.mem_singleton.1 h1
        rcases ha with h2 | ⟨h2, _⟩
        · cases h2
        · obtain ⟨sp, hsp⟩ := Option.isSome_iff_exists.1 h2
          obtain ⟨hm1, hid⟩ := findSpec_some hsp
          rw [← hid]; exact hlt sp hm1
    · intro tx' sh' hh ks hm hp
      rcases List.mem_append.1 hm with h1 | h1
      · exact h.yesCast tx' sh' hh ks h1 hp
      · cases List.mem_singleton.1 h1
        rcases ha with h2 | ⟨_, h2⟩
        · cases h2
        · rw [show isParticipant s.specs _ _ = true from hp] at h2; cases h2
  | begin shards ops sim =>
    refine ⟨?_, ?_, ?_, ?_⟩
    · intro sp hsp sp' hsp' hid
      simp only [List.mem_append, List.mem_singleton] at hsp hsp'
      rcases hsp with h1 | rfl <;> rcases hsp' with h2 | rfl
      · exact h.specUniq sp h1 sp' h2 hid
      · exact absurd hid (Nat.ne_of_lt (hlt sp h1))
      · exact absurd hid.symm (Nat.ne_of_lt (hlt sp' h2))
      · rfl
    · intro tx sh ops' hm
      simp only [List.mem_append, List.mem_map, Msg.prepare.injEq] at hm
      rcases hm with h1 | ⟨_, _, rfl, _, _⟩
      · exact Nat.lt_succ_of_lt (h.prepLt tx sh ops' h1)
      · exact Nat.lt_succ_self _
    · intro tx sh hh ks hm
      rcases List.mem_append.1 hm with h1 | h1
      · exact Nat.lt_succ_of_lt (h.yesLt tx sh hh ks h1)
      · exact nomatch List.mem_map.1 h1
    · -- an earlier YES names an earlier transaction, whose spec the new one does not shadow
      intro tx sh hh ks hm hp
      rcases List.mem_append.1 hm with h1 | h1
      · have hlt' := h.yesLt tx sh hh ks h1
        apply h.yesCast tx sh hh ks h1
        simp only [isParticipant, findSpec_append] at hp ⊢
        cases hf : findSpec s.specs tx with
        | some x => rw [hf] at hp; exact hp
        | none =>
          rw [hf] at hp
          have : ¬ s.coord.nextTx = tx := Nat.ne_of_gt hlt'
          simp [this] at hp
      · exact nomatch List.mem_map.1 h1
  | @prepare i tx sh ops p hm hp =>
    refine ⟨h.specUniq, ?_, ?_, ?_⟩
    · intro tx' sh' ops' hm'
      exact h.prepLt tx' sh' ops' ((List.mem_append.1 hm').elim id (fun h1 => nomatch List.mem_singleton.1 h1))
    · intro tx' sh' hh ks hm'
      rcases List.mem_append.1 hm' with h1 | h1
      · exact h.yesLt tx' sh' hh ks h1
      · obtain ⟨rfl, rfl, _⟩ := Msg.vote.inj (List.mem_singleton.1 h1)
        exact h.prepLt tx' sh' ops (mem_of_getElem? hm)
    · -- the participant's own YES is logged in `cast` by the same event
      intro tx' sh' hh ks hm' hpp
      rcases List.mem_append.1 hm' with h1 | h1
      · exact List.mem_append_left _ (h.yesCast tx' sh' hh ks h1 hpp)
      · obtain ⟨rfl, rfl, h3⟩ := Msg.vote.inj (List.mem_singleton.1 h1)
        apply List.mem_append_right
        rw [← h3]; exact List.mem_singleton.2 rfl
  | cleanupStale => cases ha
  | recover => cases ha

theorem VInv.reach {stores : List Store} {a b c : Nat} {s : Sys}
    (hr : Reach (Sys.init stores a b c) s) : VInv s := by
  induction hr with
  | refl => exact VInv.init stores a b c
  | step e hr' ha ih => exact ih.step ((InvA.init stores a b c).reach hr').specLt e ha

end Neumann.TwoPC
