/-
  C03 — helper lemmas for the abort acknowledgement / retry bookkeeping model (`Ack.lean`).
-/
import NeumannModel.TwoPC.Ack

namespace Neumann.TwoPC

theorem aGet_nil {β : Type} (k : Nat) : aGet ([] : List (Nat × β)) k = none := rfl

theorem aGet_cons {β : Type} (e : Nat × β) (r : List (Nat × β)) (k : Nat) :
    aGet (e :: r) k = if e.1 == k then some e.2 else aGet r k := rfl

theorem aGet_append {β : Type} (l1 l2 : List (Nat × β)) (k : Nat) :
    aGet (l1 ++ l2) k = (aGet l1 k <|> aGet l2 k) := by
  induction l1 with
  | nil => rfl
  | cons e r ih =>
    rw [List.cons_append, aGet_cons, aGet_cons, ih]
    split <;> rfl

theorem aGet_aErase_self {β : Type} (l : List (Nat × β)) (k : Nat) : aGet (aErase l k) k = none := by
  induction l with
  | nil => rfl
  | cons e r ih =>
    rw [aErase, List.filter_cons] at *
    by_cases h : e.1 = k
    · rw [if_neg (by simp [h]), ih]
    · rw [if_pos (by simpa using h), aGet_cons, if_neg (by simpa using h), ih]

theorem aGet_aErase_ne {β : Type} (l : List (Nat × β)) (k k' : Nat) (hne : k' ≠ k) :
    aGet (aErase l k) k' = aGet l k' := by
  induction l with
  | nil => rfl
  | cons e r ih =>
    rw [aErase, List.filter_cons] at *
    by_cases h : e.1 = k
    · rw [if_neg (by simp [h]), ih, aGet_cons, if_neg (by simp [h, Ne.symm hne])]
    · rw [if_pos (by simpa using h), aGet_cons, aGet_cons, ih]

theorem aGet_aSet_self {β : Type} (l : List (Nat × β)) (k : Nat) (v : β) : aGet (aSet l k v) k = some v := by
  rw [aSet, aGet_append, aGet_aErase_self, aGet_cons, if_pos (beq_self_eq_true k)]
  rfl

theorem aGet_aSet_ne {β : Type} (l : List (Nat × β)) (k k' : Nat) (v : β) (hne : k' ≠ k) :
    aGet (aSet l k v) k' = aGet l k' := by
  rw [aSet, aGet_append, aGet_aErase_ne l k k' hne, aGet_cons, if_neg (by simp [Ne.symm hne]), aGet_nil]
  cases aGet l k' <;> rfl
theorem aGet_mem {β : Type} (l : List (Nat × β)) (k : Nat) (v : β) (h : aGet l k = some v) : (k, v) ∈ l := by
  induction l with
  | nil => cases h
  | cons e r ih =>
    simp only [aGet_cons] at h
    split at h
    · rename_i heq
      have h1 : e.1 = k := by simpa using heq
      cases h
      have : e = (k, e.2) := by rw [← h1]
      rw [← this]
      exact List.mem_cons_self
    · exact List.mem_cons_of_mem _ (ih h)

theorem mem_dedupNat (l : List Nat) (x : Nat) : x ∈ dedupNat l ↔ x ∈ l := by
  induction l with
  | nil => simp [dedupNat]
  | cons y r ih =>
    simp only [dedupNat, List.mem_cons, List.mem_filter, ih]
    constructor
    · rintro (h | ⟨h, _⟩)
      · exact Or.inl h
      · exact Or.inr h
    · intro h
      by_cases hxy : x = y
      · exact Or.inl hxy
      · rcases h with h | h
        · exact Or.inl h
        · exact Or.inr ⟨h, by simpa using hxy⟩

def pend (m : List (Nat × AbortState)) (tx : Nat) : List Nat :=
  match aGet m tx with
  | some st => st.pending
  | none => []

theorem mem_pend {m : List (Nat × AbortState)} {tx sh : Nat} (h : sh ∈ pend m tx) :
    ∃ st, aGet m tx = some st ∧ sh ∈ st.pending := by
  unfold pend at h
  split at h
  · rename_i st hst; exact ⟨st, hst, h⟩
  · cases h

theorem pend_trackAbort_self (m : List (Nat × AbortState)) (now tx : Nat) (shards : List Nat) :
    pend (trackAbort m now tx shards) tx = dedupNat shards := by
  unfold pend trackAbort
  rw [aGet_aSet_self]

theorem pend_trackAbort_ne (m : List (Nat × AbortState)) (now tx tx' : Nat) (shards : List Nat) (hne : tx' ≠ tx) :
    pend (trackAbort m now tx shards) tx' = pend m tx' := by
  unfold pend trackAbort
  rw [aGet_aSet_ne _ _ _ _ hne]

theorem aGet_handleAbortAck_ne (m : List (Nat × AbortState)) (tx sh tx' : Nat) (hne : tx' ≠ tx) :
    aGet (handleAbortAck m tx sh).1 tx' = aGet m tx' := by
  unfold handleAbortAck
  cases aGet m tx with
  | none => rfl
  | some st =>
    dsimp only
    split
    · dsimp only; rw [aGet_aErase_ne _ _ _ hne]
    · dsimp only; rw [aGet_aSet_ne _ _ _ _ hne]

theorem pend_handleAbortAck_ne (m : List (Nat × AbortState)) (tx sh tx' : Nat) (hne : tx' ≠ tx) :
    pend (handleAbortAck m tx sh).1 tx' = pend m tx' := by
  unfold pend
  rw [aGet_handleAbortAck_ne _ _ _ _ hne]

theorem mem_pend_handleAbortAck (m : List (Nat × AbortState)) (tx sh x : Nat) (hx : x ∈ pend m tx) (hne : x ≠ sh) :
    x ∈ pend (handleAbortAck m tx sh).1 tx := by
  obtain ⟨st, hst, hmem⟩ := mem_pend hx
  have hf : x ∈ st.pending.filter (fun y => y != sh) := by
    simp only [List.mem_filter]; exact ⟨hmem, by simpa using hne⟩
  unfold handleAbortAck
  rw [hst]
  dsimp only
  split
  · rename_i hempty
    rw [List.isEmpty_iff] at hempty
    rw [hempty] at hf
    cases hf
  · dsimp only
    unfold pend
    rw [aGet_aSet_self]
    exact hf

theorem aGet_getRetryAborts (m : List (Nat × AbortState)) (now tx : Nat) :
    aGet (getRetryAborts m now).1 tx =
      (aGet m tx).map (fun st => if st.due now then { st with retryCount := st.retryCount + 1 } else st) := by
  unfold getRetryAborts
  dsimp only
  induction m with
  | nil => rfl
  | cons e r ih =>
    rw [List.map_cons, aGet_cons, aGet_cons, ih]
    by_cases hd : e.2.due now = true
    · rw [if_pos hd]; split <;> simp only [Option.map_some, if_pos hd]
    · rw [if_neg hd]; split <;> simp only [Option.map_some, if_neg hd]

theorem pend_getRetryAborts (m : List (Nat × AbortState)) (now tx : Nat) :
    pend (getRetryAborts m now).1 tx = pend m tx := by
  unfold pend
  rw [aGet_getRetryAborts]
  cases aGet m tx with
  | none => rfl
  | some st =>
    simp only [Option.map_some]
    split <;> rfl

theorem mem_resendPairs_of_pend {m : List (Nat × AbortState)} {now tx sh : Nat}
    (hd : ∀ e ∈ m, e.2.due now = true) (hp : sh ∈ pend m tx) :
    (tx, sh) ∈ resendPairs (getRetryAborts m now).2 := by
  obtain ⟨st, hst, hmem⟩ := mem_pend hp
  have hin : (tx, st) ∈ m := aGet_mem _ _ _ hst
  unfold resendPairs getRetryAborts
  simp only [List.mem_flatMap, List.mem_map, List.mem_filter]
  exact ⟨(tx, st.pending), ⟨(tx, st), ⟨hin, hd _ hin⟩, rfl⟩, sh, hmem, rfl⟩

theorem told_step_told (a : AckNet) (tx sh : Nat) : (a.step (.told tx sh)).told = a.told ++ [(tx, sh)] := rfl
theorem told_step_ack (a : AckNet) (tx sh : Nat) : (a.step (.ack tx sh)).told = a.told := rfl
theorem told_step_retry (a : AckNet) : (a.step .retry).told = a.told := rfl

theorem told_resendFold (pairs : List (Nat × Nat)) (b : AckNet) :
    (pairs.foldl (fun b p => (b.step (.told p.1 p.2)).step (.ack p.1 p.2)) b).told = b.told ++ pairs := by
  induction pairs generalizing b with
  | nil => simp
  | cons p r ih =>
    simp only [List.foldl_cons]
    rw [ih, told_step_ack, told_step_told]
    simp

theorem last_resendFold (pairs : List (Nat × Nat)) (b : AckNet) :
    (pairs.foldl (fun b p => (b.step (.told p.1 p.2)).step (.ack p.1 p.2)) b).last = b.last := by
  induction pairs generalizing b with
  | nil => rfl
  | cons p r ih =>
    simp only [List.foldl_cons]
    rw [ih]
    rfl

theorem told_resendRound (a : AckNet) :
    a.resendRound.told = a.told ++ resendPairs (getRetryAborts a.states a.now).2 := by
  unfold AckNet.resendRound
  rw [told_resendFold, told_step_retry]

theorem last_resendRound (a : AckNet) : a.resendRound.last = a.last := by
  unfold AckNet.resendRound
  rw [last_resendFold]
  rfl

theorem lastOf_track_self (a : AckNet) (tx : Nat) (shards : List Nat) :
    (a.step (.track tx shards)).lastOf tx = shards := by
  unfold AckNet.lastOf AckNet.step
  dsimp only
  rw [aGet_aSet_self]

theorem lastOf_track_ne (a : AckNet) (tx tx' : Nat) (shards : List Nat) (hne : tx' ≠ tx) :
    (a.step (.track tx shards)).lastOf tx' = a.lastOf tx' := by
  unfold AckNet.lastOf AckNet.step
  dsimp only
  rw [aGet_aSet_ne _ _ _ _ hne]

theorem tracked_step {a : AckNet} (e : EvA) (ih : a.Tracked) (hal : a.inAlphabet e = true) : (a.step e).Tracked := by
  intro tx sh hl
  cases e with
  | track tx' shards =>
    by_cases htx : tx = tx'
    · subst htx
      rw [lastOf_track_self] at hl
      right
      show sh ∈ pend (trackAbort a.states a.now tx shards) tx
      rw [pend_trackAbort_self, mem_dedupNat]
      exact hl
    · rw [lastOf_track_ne _ _ _ _ htx] at hl
      rcases ih tx sh hl with h | h
      · exact Or.inl h
      · right
        show sh ∈ pend (trackAbort a.states a.now tx' shards) tx
        rw [pend_trackAbort_ne _ _ _ _ _ htx]
        exact h
  | told tx' sh' =>
    have hl' : sh ∈ a.lastOf tx := hl
    rcases ih tx sh hl' with h | h
    · left
      rw [told_step_told]
      exact List.mem_append_left _ h
    · exact Or.inr h
  | ack tx' sh' =>
    have hl' : sh ∈ a.lastOf tx := hl
    have htold : (tx', sh') ∈ a.told := by
      have : a.told.contains (tx', sh') = true := hal
      simpa using this
    rcases ih tx sh hl' with h | h
    · exact Or.inl h
    · by_cases htx : tx = tx'
      · subst htx
        by_cases hsh : sh = sh'
        · subst hsh
          exact Or.inl htold
        · exact Or.inr (mem_pend_handleAbortAck _ _ _ _ h hsh)
      · right
        show sh ∈ pend (handleAbortAck a.states tx' sh').1 tx
        rw [pend_handleAbortAck_ne _ _ _ _ htx]
        exact h
  | advance d => exact ih tx sh hl
  | retry =>
    have hl' : sh ∈ a.lastOf tx := hl
    rcases ih tx sh hl' with h | h
    · exact Or.inl h
    · right
      show sh ∈ pend (getRetryAborts a.states a.now).1 tx
      rw [pend_getRetryAborts]
      exact h

theorem reach_tracked {a : AckNet} (hr : ReachA a) : a.Tracked := by
  induction hr with
  | init => exact fun _ _ h => nomatch h
  | step e _ hal ih => exact tracked_step e ih hal

theorem runChecked_reach {a b : AckNet} (es : List EvA) (h : a.runChecked es = some b) (hr : ReachA a) : ReachA b := by
  induction es generalizing a with
  | nil =>
    simp only [AckNet.runChecked] at h
    cases h
    exact hr
  | cons e es ih =>
    simp only [AckNet.runChecked] at h
    split at h
    · rename_i hal
      exact ih h (ReachA.step e hr hal)
    · cases h

end Neumann.TwoPC
