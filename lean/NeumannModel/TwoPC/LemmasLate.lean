import NeumannModel.TwoPC.LemmasPart
/-
  C03 — late PREPARE of a transaction that is already finished on a participant: what `try_lock` /
  `prepare` do to the locks and prepared records of OTHER transactions, and what the participant's
  unilateral cleanups (`cleanup_stale`, `recover`) do to the data of a participant whose undo images
  match its store (`PInv`).
-/
namespace Neumann.TwoPC

theorem firstConflict_some_ne {ls : List KeyLock} {now tx : Nat} {keys : List Nat} {c : Nat}
    (h : firstConflict ls now tx keys = some c) : c ≠ tx := by
  induction keys with
  | nil => simp [firstConflict] at h
  | cons k ks ih =>
    simp only [firstConflict] at h
    split at h
    · split at h
      · rename_i hc
        cases h
        simp only [Bool.and_eq_true, bne_iff_ne, ne_eq] at hc
        exact hc.2
      · exact ih h
    · exact ih h

theorem tryLock_conflict_of_held {t : LockTable} {now h tx : Nat} {keys : List Nat}
    (hn : ∀ l ∈ t.locks, l.expired now = false)
    {k : Nat} {l : KeyLock} (hk : k ∈ keys) (hf : findLock t.locks k = some l) (hne : l.tx ≠ tx) :
    ∃ c, c ≠ tx ∧ t.tryLock now h tx keys = .error c := by
  unfold LockTable.tryLock
  cases hfc : firstConflict t.locks now tx keys with
  | some c => exact ⟨c, firstConflict_some_ne hfc, rfl⟩
  | none =>
    rcases firstConflict_none hfc k hk l hf with he | he
    · rw [hn l (findLock_some hf).1] at he; cases he
    · exact absurd he hne

theorem tryLock_keeps_other_holders {t lt : LockTable} {now h tx : Nat} {keys : List Nat}
    (hn : ∀ l ∈ t.locks, l.expired now = false)
    (hl : t.tryLock now h tx keys = .ok lt) {k : Nat} {l : KeyLock}
    (hf : findLock t.locks k = some l) (hne : l.tx ≠ tx) : findLock lt.locks k = some l := by
  unfold LockTable.tryLock at hl
  split at hl
  · cases hl
  · rename_i hfc
    cases hl
    simp only
    rw [findLock_insertLocks]
    have hk : k ∉ keys := by
      intro hk
      rcases firstConflict_none hfc k hk l hf with he | he
      · rw [hn l (findLock_some hf).1] at he; cases he
      · exact hne he
    simp only [hk, if_false]
    exact hf

theorem findPrepared_removePrepared_ne (ps : List PreparedTx) {tx t' : Nat} (h : t' ≠ tx) :
    findPrepared (removePrepared ps tx) t' = findPrepared ps t' := by
  induction ps with
  | nil => rfl
  | cons a r ih =>
    rw [removePrepared, List.filter_cons] at *
    by_cases h1 : a.tx = tx
    · rw [if_neg (by simp [h1]), findPrepared, if_neg (fun e => h (e.symm.trans h1)), ih]
    · rw [if_pos (by simpa using h1), findPrepared, findPrepared, ih]

theorem prepare_respects_others {now nh : Nat} {p : Participant} (h : PInv now nh p) (tx : Nat) (ops : List Op) :
    (p.prepare now nh tx ops).1.store = p.store ∧
    (∀ k l, findLock p.locks.locks k = some l → l.tx ≠ tx →
      findLock (p.prepare now nh tx ops).1.locks.locks k = some l) ∧
    (∀ t', t' ≠ tx → findPrepared (p.prepare now nh tx ops).1.prepared t' = findPrepared p.prepared t') ∧
    ((∃ k ∈ lockKeys ops, ∃ l, findLock p.locks.locks k = some l ∧ l.tx ≠ tx) →
      ∃ c, c ≠ tx ∧ p.prepare now nh tx ops = (p, .conflict c)) := by
  refine ⟨prepare_store p now nh tx ops, ?_, ?_, ?_⟩
  · intro k l hf hne
    rcases prepare_eq p now nh tx ops with ⟨c, he⟩ | ⟨lt, hl, he⟩
    · rw [he]; exact hf
    · rw [he]; exact tryLock_keeps_other_holders h.notExpired hl hf hne
  · intro t' hne
    rcases prepare_eq p now nh tx ops with ⟨c, he⟩ | ⟨lt, hl, he⟩
    · rw [he]
    · rw [he]
      simp only [findPrepared]
      have : tx ≠ t' := fun e => hne e.symm
      simp only [this, if_false]
      exact findPrepared_removePrepared_ne p.prepared hne
  · rintro ⟨k, hk, l, hf, hne⟩
    obtain ⟨c, hc, hl⟩ := tryLock_conflict_of_held (h := nh) h.notExpired hk hf hne
    refine ⟨c, hc, ?_⟩
    unfold Participant.prepare Participant.prepareWith
    simp only [hl]

/-- the body of `cleanup_stale` / `recover` -/
theorem foldl_abort_keeps {now nh : Nat} (txs : List Nat) {p : Participant} (h : PInv now nh p) :
    PInv now nh (txs.foldl (fun q tx => (q.abort tx).1) p) ∧
    ∀ k, sget (txs.foldl (fun q tx => (q.abort tx).1) p).store k = sget p.store k := by
  induction txs generalizing p with
  | nil => exact ⟨h, fun _ => rfl⟩
  | cons t r ih =>
    obtain ⟨h1, h2⟩ := h.abort t
    obtain ⟨h3, h4⟩ := ih h1
    exact ⟨h3, fun k => (h4 k).trans (h2 k)⟩

theorem abort_absent {p : Participant} {tx : Nat} (h : findPrepared p.prepared tx = none) :
    p.abort tx = (p, false) := by
  unfold Participant.abort
  simp only [h]

theorem step_deliver_prepare {s : Sys} {i t sh : Nat} {ops : List Op} {p : Participant}
    (hm : s.msgs[i]? = some (Msg.prepare t sh ops)) (hp : s.parts[sh]? = some p) :
    (s.step (.deliver i)).parts = s.parts.set sh (p.prepare s.now s.nextHandle t ops).1 ∧
    (s.step (.deliver i)).msgs = s.msgs ++ [Msg.vote t sh (p.prepare s.now s.nextHandle t ops).2] := by
  refine ⟨?_, ?_⟩ <;> simp only [Sys.step, Sys.stepR, hm, Sys.deliverMsg, hp]

theorem cleanupStale_keeps_data {s : Sys} (h : SInv s) (sh to : Nat) :
    ∀ sh' k, sget ((s.step (.cleanupStale sh to)).storeOf sh') k = sget (s.storeOf sh') k := by
  have he := s.eff (.cleanupStale sh to)
  generalize s.step _ = s' at he
  cases he with
  | same => exact fun _ _ => rfl
  | cleanupStale _ hp =>
    exact storeOf_set hp rfl (foldl_abort_keeps _ (h _ (List.mem_of_getElem? hp))).2

theorem recover_keeps_data {s : Sys} (h : SInv s) (sh to : Nat) :
    ∀ sh' k, sget ((s.step (.recover sh to)).storeOf sh') k = sget (s.storeOf sh') k := by
  have he := s.eff (.recover sh to)
  generalize s.step _ = s' at he
  cases he with
  | same => exact fun _ _ => rfl
  | recover _ hp =>
    exact storeOf_set hp rfl (foldl_abort_keeps _ (h _ (List.mem_of_getElem? hp))).2

end Neumann.TwoPC
