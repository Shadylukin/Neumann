import NeumannModel.TwoPC.Model
/-
  C03 — what one event does to the system, as one case distinction (`Sys.Eff`); the invariants of the
  other `Lemmas*` files are proved by cases over it.
-/
namespace Neumann.TwoPC

/-- The shapes the successor of `s` under `e` can have (`Sys.eff`: it has one of them).  `same` stands for
    every event that changes nothing — a `begin` / `commit` / `abort` call or a vote the coordinator rejects,
    a pool index that does not exist, a message or a cleanup for a shard that does not exist — and does not
    record which of these it was. -/
inductive Sys.Eff (s : Sys) : Ev → Sys → Prop
  | same (e : Ev) : s.Eff e s
  | begin (shards : List Nat) (ops : List (Nat × List Op)) (sim : List (Nat × Nat)) :
      s.Eff (.begin shards ops sim)
        { s with coord := { s.coord with
                   pending := s.coord.pending ++
                     [⟨s.coord.nextTx, shards, .preparing, [], s.now, s.coord.prepareTimeout⟩],
                   nextTx := s.coord.nextTx + 1 },
                 specs := s.specs ++ [⟨s.coord.nextTx, shards, ops, sim⟩],
                 msgs := s.msgs ++ shards.map (fun sh => Msg.prepare s.coord.nextTx sh
                           (TxSpec.opsFor ⟨s.coord.nextTx, shards, ops, sim⟩ sh)) }
  | prepare {i tx sh : Nat} {ops : List Op} {p : Participant}
      (hm : s.msgs[i]? = some (.prepare tx sh ops)) (hp : s.parts[sh]? = some p) :
      s.Eff (.deliver i)
        { s with parts := s.parts.set sh (p.prepare s.now s.nextHandle tx ops).1,
                 msgs := s.msgs ++ [Msg.vote tx sh (p.prepare s.now s.nextHandle tx ops).2],
                 nextHandle := if (p.prepare s.now s.nextHandle tx ops).2.isYes then s.nextHandle + 1
                               else s.nextHandle,
                 cast := s.cast ++ [(tx, sh, (p.prepare s.now s.nextHandle tx ops).2.isYes)] }
  | vote {i tx sh : Nat} {v : Vote} {c : Coordinator} {r : Option Phase}
      (hm : s.msgs[i]? = some (.vote tx sh v))
      (hr : s.coord.recordVote tx sh v (nonOrthOf s.specs tx) = .ok (c, r)) :
      s.Eff (.deliver i) (s.drain c)
  | commit {i tx sh : Nat} {p : Participant}
      (hm : s.msgs[i]? = some (.commit tx sh)) (hp : s.parts[sh]? = some p) :
      s.Eff (.deliver i)
        { s with parts := s.parts.set sh (p.commit tx).1,
                 applied := if (p.commit tx).2 then s.applied ++ [(sh, tx)] else s.applied,
                 appliedOps := match findPrepared p.prepared tx with
                   | some pt => s.appliedOps ++ [(sh, tx, pt.ops)]
                   | none => s.appliedOps }
  | abort {i tx sh : Nat} {p : Participant}
      (hm : s.msgs[i]? = some (.abort tx sh)) (hp : s.parts[sh]? = some p) :
      s.Eff (.deliver i)
        { s with parts := s.parts.set sh (p.abort tx).1,
                 discarded := if (p.abort tx).2 then s.discarded ++ [(sh, tx)] else s.discarded }
  | sweep : s.Eff .sweep (s.drain (s.coord.cleanupTimeouts s.now).1)
  | tick (d : Nat) : s.Eff (.tick d) { s with now := s.now + d }
  | coordCommit {tx : Nat} {t : DTx} (hf : findTx s.coord.pending tx = some t) (hph : t.phase = .prepared) :
      s.Eff (.coordCommit tx)
        { s with coord := { s.coord with pending := removeTx s.coord.pending tx },
                 msgs := s.msgs ++ t.participants.map (fun sh => Msg.commit tx sh),
                 decided := s.decided ++ [(tx, true)] }
  | coordAbort {tx : Nat} {t : DTx} (hf : findTx s.coord.pending tx = some t) :
      s.Eff (.coordAbort tx)
        { s with coord := { s.coord with pending := removeTx s.coord.pending tx },
                 msgs := s.msgs ++ t.participants.map (fun sh => Msg.abort tx sh),
                 decided := s.decided ++ [(tx, false)] }
  | forge (tx sh : Nat) (v : Vote) :
      s.Eff (.forge tx sh v) { s with msgs := s.msgs ++ [Msg.vote tx sh v] }
  | cleanupStale {sh : Nat} (timeout : Nat) {p : Participant} (hp : s.parts[sh]? = some p) :
      s.Eff (.cleanupStale sh timeout)
        { s with parts := s.parts.set sh (p.cleanupStale s.now timeout).1,
                 discarded := s.discarded ++ (p.cleanupStale s.now timeout).2.map (fun tx => (sh, tx)) }
  | recover {sh : Nat} (timeout : Nat) {p : Participant} (hp : s.parts[sh]? = some p) :
      s.Eff (.recover sh timeout)
        { s with parts := s.parts.set sh (p.recover s.now timeout).1,
                 discarded := s.discarded ++ (p.recover s.now timeout).2.map (fun tx => (sh, tx)) }

theorem Sys.eff (s : Sys) (e : Ev) : s.Eff e (s.step e) := by
  cases e with
  | begin shards ops sim =>
    simp only [Sys.step, Sys.stepR, Coordinator.begin]
    by_cases hc : s.coord.pending.length ≥ s.coord.maxConcurrent
    · rw [if_pos hc]; exact .same _
    · rw [if_neg hc]; exact .begin shards ops sim
  | deliver i =>
    simp only [Sys.step, Sys.stepR]
    cases hm : s.msgs[i]? with
    | none => exact .same _
    | some m =>
      cases m with
      | prepare tx sh ops =>
        simp only [Sys.deliverMsg]
        cases hp : s.parts[sh]? with
        | none => exact .same _
        | some p => exact .prepare hm hp
      | vote tx sh v =>
        simp only [Sys.deliverMsg]
        cases hr : s.coord.recordVote tx sh v (nonOrthOf s.specs tx) with
        | error _ => exact .same _
        | ok r => exact .vote hm hr
      | commit tx sh =>
        simp only [Sys.deliverMsg]
        cases hp : s.parts[sh]? with
        | none => exact .same _
        | some p => exact .commit hm hp
      | abort tx sh =>
        simp only [Sys.deliverMsg]
        cases hp : s.parts[sh]? with
        | none => exact .same _
        | some p => exact .abort hm hp
  | sweep => exact .sweep
  | tick d => exact .tick d
  | coordCommit tx =>
    simp only [Sys.step, Sys.stepR, Coordinator.commit]
    cases hf : findTx s.coord.pending tx with
    | none => exact .same _
    | some t =>
      by_cases hph : (t.phase != .prepared) = true
      · simp only [if_pos hph]; exact .same _
      · simp only [if_neg hph]; exact .coordCommit hf (by simpa using hph)
  | coordAbort tx =>
    simp only [Sys.step, Sys.stepR, Coordinator.abort]
    cases hf : findTx s.coord.pending tx with
    | none => exact .same _
    | some t => exact .coordAbort hf
  | forge tx sh v => exact .forge tx sh v
  | cleanupStale sh timeout =>
    simp only [Sys.step, Sys.stepR]
    cases hp : s.parts[sh]? with
    | none => exact .same _
    | some p => exact .cleanupStale timeout hp
  | recover sh timeout =>
    simp only [Sys.step, Sys.stepR]
    cases hp : s.parts[sh]? with
    | none => exact .same _
    | some p => exact .recover timeout hp

theorem Sys.Eff.msgs_mono {s s' : Sys} {e : Ev} (h : s.Eff e s') {m : Msg} (hm : m ∈ s.msgs) : m ∈ s'.msgs := by
  cases h with
  | begin | prepare | vote | sweep | coordCommit | coordAbort | forge => exact List.mem_append_left _ hm
  | _ => exact hm

theorem Sys.Eff.decided_mono {s s' : Sys} {e : Ev} (h : s.Eff e s') {x : Nat × Bool} (hx : x ∈ s.decided) :
    x ∈ s'.decided := by
  cases h with
  | vote | sweep | coordCommit | coordAbort => exact List.mem_append_left _ hx
  | _ => exact hx

theorem getElem?_set_cases {α : Type} {l : List α} {i j : Nat} {a q : α} (h : (l.set i a)[j]? = some q) :
    (i = j ∧ q = a) ∨ (i ≠ j ∧ l[j]? = some q) := by
  rw [List.getElem?_set] at h
  split at h
  · rename_i hij
    split at h
    · cases h; exact Or.inl ⟨hij, rfl⟩
    · cases h
  · rename_i hij; exact Or.inr ⟨hij, h⟩

theorem mem_abortMsgs {l : List (Nat × AbortReason × List Nat)} {m : Msg} :
    m ∈ abortMsgs l ↔ ∃ a ∈ l, ∃ sh ∈ a.2.2, m = Msg.abort a.1 sh := by
  simp only [abortMsgs, List.mem_flatMap, List.mem_map]
  constructor
  · rintro ⟨a, ha, sh, hsh, rfl⟩; exact ⟨a, ha, sh, hsh, rfl⟩
  · rintro ⟨a, ha, sh, hsh, rfl⟩; exact ⟨a, ha, sh, hsh, rfl⟩

theorem mem_drain_msgs {s : Sys} {c : Coordinator} {m : Msg} (h : m ∈ (s.drain c).msgs) :
    m ∈ s.msgs ∨ ∃ tx sh, m = Msg.abort tx sh ∧ (tx, false) ∈ (s.drain c).decided := by
  rcases List.mem_append.1 h with h1 | h1
  · exact Or.inl h1
  · obtain ⟨a, ha, sh, _, rfl⟩ := mem_abortMsgs.1 h1
    exact Or.inr ⟨a.1, sh, rfl, List.mem_append_right _ (List.mem_map.2 ⟨a, ha, rfl⟩)⟩

theorem mem_drain_decided {s : Sys} {c : Coordinator} {tx : Nat} {b : Bool}
    (h : (tx, b) ∈ (s.drain c).decided) :
    (tx, b) ∈ s.decided ∨ (b = false ∧ ∃ a ∈ c.pendingAborts, a.1 = tx) := by
  rcases List.mem_append.1 h with h1 | h1
  · exact Or.inl h1
  · obtain ⟨a, ha, he⟩ := List.mem_map.1 h1
    cases he
    exact Or.inr ⟨rfl, a, ha, rfl⟩

end Neumann.TwoPC
