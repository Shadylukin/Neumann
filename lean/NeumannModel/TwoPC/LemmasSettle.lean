import NeumannModel.TwoPC.Lemmas
import NeumannModel.TwoPC.Settle
/-
  C03 — helper lemmas for `PropsSettle.lean`: the invariant `Addressed` ("every abort decision is backed by an
  ABORT message to every participant the client named") and its preservation by every event of the alphabet.
-/
namespace Neumann.TwoPC

/-- every abort decision is addressed to every participant the client named for the transaction -/
def Addressed (s : Sys) : Prop :=
  ∀ tx, (tx, false) ∈ s.decided → ∀ sp ∈ s.specs, sp.id = tx → ∀ sh ∈ sp.shards, Msg.abort tx sh ∈ s.msgs

theorem Addressed.init (stores : List Store) (a b c : Nat) : Addressed (Sys.init stores a b c) :=
  nofun

theorem Addressed.of {s s' : Sys} (hi : InvA s) (ha : Addressed s)
    (hm : ∀ m, m ∈ s.msgs → m ∈ s'.msgs) (hs : s'.specs = s.specs)
    (hnew : ∀ tx, (tx, false) ∈ s'.decided → (tx, false) ∈ s.decided ∨
      ∃ t ∈ s.coord.pending, t.id = tx ∧ ∀ sh ∈ t.participants, Msg.abort tx sh ∈ s'.msgs) :
    Addressed s' := by
  intro tx hd sp hsp hid sh hsh
  rw [hs] at hsp
  rcases hnew tx hd with h | ⟨t, ht, htid, hall⟩
  · exact hm _ (ha tx h sp hsp hid sh hsh)
  · have hp := hi.specPart t ht sp hsp (hid.trans htid.symm)
    rw [hp] at hsh
    exact hall sh hsh

theorem Addressed.drain {s : Sys} (hi : InvA s) (ha : Addressed s) {c : Coordinator}
    (hq : ∀ a ∈ c.pendingAborts, ∃ t ∈ s.coord.pending, t.id = a.1 ∧ t.participants = a.2.2) :
    Addressed (s.drain c) := by
  refine Addressed.of hi ha (fun _ => List.mem_append_left _) rfl fun tx hd =>
    (mem_drain_decided hd).imp_right fun ⟨_, a, ha', hid⟩ => ?_
  obtain ⟨t, ht, htid, hpart⟩ := hq a ha'
  refine ⟨t, ht, htid.trans hid, fun sh hsh => List.mem_append_right _ (mem_abortMsgs.2 ⟨a, ha', sh, ?_, ?_⟩)⟩
  · rw [← hpart]; exact hsh
  · rw [hid]

theorem Addressed.step {s : Sys} (hi : InvA s) (ha : Addressed s) (e : Ev) (hin : s.inAlphabet e = true) :
    Addressed (s.step e) := by
  have he := s.eff e
  generalize s.step e = s' at he
  have hm : ∀ m, m ∈ s.msgs → m ∈ s'.msgs := fun _ => he.msgs_mono
  cases he with
  | same => exact ha
  | tick | forge | prepare | commit | abort => exact Addressed.of hi ha hm rfl (fun _ h => Or.inl h)
  | begin shards ops sim =>
    -- the new spec has a fresh id: no decision names it
    intro tx hd sp hsp hid sh hsh
    rcases List.mem_append.1 hsp with h1 | h1
    · exact hm _ (ha tx hd sp h1 hid sh hsh)
    · cases List.mem_singleton.1 h1
      exact absurd hid.symm (Nat.ne_of_lt (hi.decLt tx false hd))
  | @vote i tx sh v c r _ hr =>
    obtain ⟨t, t1, htm, htid, _, _, _, _, _, _, hcases⟩ := recordVote_ok hr
    refine Addressed.drain hi ha fun a ha' => ?_
    rcases hcases with ⟨_, e⟩ | ⟨_, e, _, _⟩ | ⟨_, reason, e⟩ <;> rw [e, hi.paEmpty] at ha'
    · cases ha'
    · cases ha'
    · cases List.mem_singleton.1 ha'
      exact ⟨t, htm, htid, rfl⟩
  | sweep =>
    refine Addressed.drain hi ha fun a ha' => ?_
    simp only [Coordinator.cleanupTimeouts, hi.paEmpty, List.nil_append, List.mem_map, List.mem_filter] at ha'
    obtain ⟨t0, ⟨ht0, _⟩, rfl⟩ := ha'
    exact ⟨t0, ht0, rfl, rfl⟩
  | coordCommit hf hph =>
    refine Addressed.of hi ha hm rfl fun tx' hd => Or.inl ?_
    exact (List.mem_append.1 hd).elim id (fun h1 => nomatch List.mem_singleton.1 h1)
  | @coordAbort tx t hf =>
    obtain ⟨htm, htid⟩ := findTx_some hf
    refine Addressed.of hi ha hm rfl fun tx' hd => (List.mem_append.1 hd).imp_right fun h1 => ?_
    cases List.mem_singleton.1 h1
    exact ⟨t, htm, htid, fun sh' hsh' => List.mem_append_right _ (List.mem_map.2 ⟨sh', hsh', rfl⟩)⟩
  | cleanupStale => cases hin
  | recover => cases hin

theorem Addressed.deliver {s : Sys} (hi : InvA s) (ha : Addressed s) (i : Nat) :
    Addressed (s.step (.deliver i)) :=
  Addressed.step hi ha (.deliver i) rfl

theorem Addressed.reach {s0 s : Sys} (hi0 : InvA s0) (ha0 : Addressed s0) (hr : Reach s0 s) : Addressed s := by
  induction hr with
  | refl => exact ha0
  | step e hr' hin ih => exact Addressed.step (InvA.reach hi0 hr') ih e hin

theorem findPrepared_none_iff {ps : List PreparedTx} {tx : Nat} :
    findPrepared ps tx = none ↔ ∀ p ∈ ps, p.tx ≠ tx := by
  induction ps with
  | nil => exact ⟨nofun, fun _ => rfl⟩
  | cons a r ih =>
    rw [findPrepared, List.forall_mem_cons, ← ih]
    by_cases h : a.tx = tx
    · rw [if_pos h]; exact ⟨nofun, fun h' => absurd h h'.1⟩
    · rw [if_neg h]; exact ⟨fun h' => ⟨h, h'⟩, And.right⟩

/-- shard `sh` keeps no prepared record of `tx` -/
def NoPrep (s : Sys) (sh tx : Nat) : Prop :=
  ∀ p, s.parts[sh]? = some p → findPrepared p.prepared tx = none

theorem abort_noPrep (p : Participant) (tx tx' : Nat) (h : tx' = tx ∨ findPrepared p.prepared tx' = none) :
    findPrepared (p.abort tx).1.prepared tx' = none := by
  unfold Participant.abort
  split
  · rename_i hn
    rcases h with rfl | h
    · exact hn
    · exact h
  · simp only [removePrepared]
    rw [findPrepared_none_iff]
    intro q hq
    obtain ⟨hq1, hq2⟩ := List.mem_filter.1 hq
    rcases h with rfl | h
    · simpa using hq2
    · exact findPrepared_none_iff.1 h q hq1

theorem deliver_abort {s : Sys} {i tx sh : Nat} (hm : s.msgs[i]? = some (.abort tx sh)) :
    (s.step (.deliver i)).msgs = s.msgs ∧
    (∀ sh' tx', NoPrep s sh' tx' → NoPrep (s.step (.deliver i)) sh' tx') ∧
    NoPrep (s.step (.deliver i)) sh tx := by
  simp only [Sys.step, Sys.stepR, hm, Sys.deliverMsg]
  split
  · rename_i hn
    refine ⟨rfl, fun _ _ h => h, ?_⟩
    intro p hp
    rw [hn] at hp; cases hp
  · rename_i p hp
    refine ⟨rfl, ?_, ?_⟩
    · intro sh' tx' h q hq
      rcases getElem?_set_cases hq with ⟨rfl, rfl⟩ | ⟨_, hq⟩
      · exact abort_noPrep p tx tx' (Or.inr (h p hp))
      · exact h q hq
    · intro q hq
      rcases getElem?_set_cases hq with ⟨_, rfl⟩ | ⟨hne, _⟩
      · exact abort_noPrep p tx tx (Or.inl rfl)
      · exact absurd rfl hne

theorem run_aborts (l : List Nat) : ∀ {s : Sys}, (∀ i ∈ l, ∃ tx sh, s.msgs[i]? = some (.abort tx sh)) →
    (s.run (l.map Ev.deliver)).msgs = s.msgs ∧
    (∀ sh tx, NoPrep s sh tx → NoPrep (s.run (l.map Ev.deliver)) sh tx) ∧
    (∀ i ∈ l, ∀ tx sh, s.msgs[i]? = some (.abort tx sh) → NoPrep (s.run (l.map Ev.deliver)) sh tx) := by
  induction l with
  | nil =>
    intro s _
    exact ⟨rfl, fun _ _ h => h, fun i hi => by cases hi⟩
  | cons i l ih =>
    intro s h
    obtain ⟨tx, sh, hm⟩ := h i (List.mem_cons_self ..)
    obtain ⟨e1, e2, e3⟩ := deliver_abort hm
    have h' : ∀ j ∈ l, ∃ tx sh, (s.step (.deliver i)).msgs[j]? = some (.abort tx sh) := by
      rw [e1]; exact fun j hj => h j (List.mem_cons_of_mem _ hj)
    obtain ⟨f1, f2, f3⟩ := ih h'
    simp only [List.map_cons, Sys.run, List.foldl_cons] at f1 f2 f3 ⊢
    refine ⟨f1.trans e1, fun sh' tx' hn => f2 _ _ (e2 _ _ hn), ?_⟩
    intro j hj tx' sh' hm'
    rcases List.mem_cons.1 hj with rfl | hj
    · rw [hm] at hm'; cases hm'
      exact f2 _ _ e3
    · exact f3 j hj tx' sh' (by rw [e1]; exact hm')

theorem settleIdx_abort (s : Sys) : ∀ i ∈ s.settleIdx, ∃ tx sh, s.msgs[i]? = some (.abort tx sh) := by
  intro i hi
  simp only [Sys.settleIdx, List.mem_filter] at hi
  obtain ⟨_, h2⟩ := hi
  cases hm : s.msgs[i]? with
  | none => rw [hm] at h2; cases h2
  | some m =>
    rw [hm] at h2
    cases m with
    | abort tx sh => exact ⟨tx, sh, rfl⟩
    | prepare _ _ _ => cases h2
    | vote _ _ _ => cases h2
    | commit _ _ => cases h2

/-- an ABORT of an abort-only transaction that is in the pool is delivered by `settle`: afterwards the addressed shard
    keeps no prepared record of the transaction -/
theorem settle_noPrep {s : Sys} {tx sh : Nat} (hao : s.abortOnly tx = true) (hmem : Msg.abort tx sh ∈ s.msgs) :
    NoPrep s.settle sh tx := by
  obtain ⟨i, hi⟩ := List.getElem?_of_mem hmem
  have hlt : i < s.msgs.length := by
    obtain ⟨h, _⟩ := List.getElem?_eq_some_iff.1 hi
    exact h
  have hin : i ∈ s.settleIdx := by
    simp only [Sys.settleIdx, List.mem_filter, List.mem_range]
    refine ⟨hlt, ?_⟩
    rw [hi]
    exact hao
  exact (run_aborts s.settleIdx (settleIdx_abort s)).2.2 i hin tx sh hi

end Neumann.TwoPC
