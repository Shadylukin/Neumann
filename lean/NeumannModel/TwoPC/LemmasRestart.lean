import NeumannModel.TwoPC.Restart
import NeumannModel.TwoPC.LemmasRecovery
/-
  C03 — coordinator restarts (`Restart.lean`): `recover()` keeps every pending decision at every clock
  value and is idempotent (phase by phase: `LemmasRecovery.lean`), and the runs of
  `ReachK` (checkpoint / restore of a current checkpoint added) are runs of `ReachRS` on the system
  component, so that `InvR` / `InvRS` of `LemmasRecovery.lean` hold along them.
-/
namespace Neumann.TwoPC

theorem recoverPhase_ne {t : DTx} {now : Nat} (h : t.recoverPhase now ≠ t.phase) :
    t.phase = .preparing ∨ t.phase = .prepared := by
  rcases recoverPhase_cases t now with h1 | ⟨h1, _⟩ | ⟨h1, _⟩
  · exact absurd h1 h
  · exact Or.inl h1
  · exact Or.inr h1

/-- either the entry is unchanged, or it is now `Committing` / `Aborting`, which `recover()` keeps -/
theorem recoverPhase_recovered (t : DTx) (now : Nat) :
    (t.recovered now).recoverPhase now = t.recoverPhase now := by
  have hab : t.recoverPhase now = .aborting → (t.recovered now).recoverPhase now = t.recoverPhase now :=
    fun h => by rw [h]; exact recoverPhase_of_aborting (by rw [recovered_phase, h])
  rcases recoverPhase_cases t now with h1 | ⟨_, h1⟩ | ⟨_, h1 | h1⟩
  · have : t.recovered now = t := by rw [DTx.recovered, h1]
    rw [this]
  · exact hab h1
  · exact hab h1
  · rw [h1]; exact recoverPhase_of_committing (by rw [recovered_phase, h1])

theorem recovered_recovered (t : DTx) (now : Nat) : (t.recovered now).recovered now = t.recovered now := by
  show ({ t.recovered now with phase := (t.recovered now).recoverPhase now } : DTx) = t.recovered now
  rw [recoverPhase_recovered]
  rfl

theorem mem_pendingDecisions_of {c : Coordinator} {t : DTx} (ht : t ∈ c.pending)
    (hp : t.phase = .committing ∨ t.phase = .aborting) : (t.id, t.phase) ∈ c.pendingDecisions := by
  simp only [Coordinator.pendingDecisions, List.mem_map, List.mem_filter, Bool.or_eq_true, beq_iff_eq]
  exact ⟨t, ⟨ht, hp⟩, rfl⟩

theorem recovered_mem_recover {c : Coordinator} {now : Nat} {t : DTx} (ht : t ∈ c.pending)
    (hnf : (t.recoverPhase now).isFinal = false) : t.recovered now ∈ (c.recover now).1.pending := by
  simp only [Coordinator.recover, List.mem_filter, List.mem_map]
  refine ⟨⟨t, ht, rfl⟩, ?_⟩
  rw [recovered_phase, hnf]
  rfl

theorem mem_recover_pending_iff {c : Coordinator} {now : Nat} {t' : DTx} :
    t' ∈ (c.recover now).1.pending ↔
      ∃ t ∈ c.pending, t' = t.recovered now ∧ (t.recoverPhase now).isFinal = false := by
  constructor
  · intro h
    simp only [Coordinator.recover, List.mem_filter, List.mem_map] at h
    obtain ⟨⟨t, ht, rfl⟩, hf⟩ := h
    refine ⟨t, ht, rfl, ?_⟩
    rw [recovered_phase] at hf
    simpa using hf
  · rintro ⟨t, ht, rfl, hf⟩
    exact recovered_mem_recover ht hf

/-- `recover()`, at any clock value, keeps every entry of `get_pending_decisions` as it is -/
theorem recover_keeps_pendingDecision {c : Coordinator} {now : Nat} {d : Nat × Phase}
    (h : d ∈ c.pendingDecisions) : d ∈ (c.recover now).1.pendingDecisions := by
  obtain ⟨tx, ph⟩ := d
  obtain ⟨t, ht, hid, hph, hd⟩ := mem_pendingDecisions h
  have hrp : t.recoverPhase now = ph := by
    rcases hd with rfl | rfl
    · exact recoverPhase_of_committing hph
    · exact recoverPhase_of_aborting hph
  have hnf : (t.recoverPhase now).isFinal = false := by
    rw [hrp]; rcases hd with rfl | rfl <;> rfl
  have hm := recovered_mem_recover (c := c) ht hnf
  have hd' : (t.recovered now).phase = .committing ∨ (t.recovered now).phase = .aborting := by
    rw [recovered_phase, hrp]; exact hd
  have := mem_pendingDecisions_of hm hd'
  rw [recovered_id, recovered_phase, hrp, hid] at this
  exact this

theorem recoverAll_keeps_pendingDecision {c : Coordinator} (nows : List Nat) {d : Nat × Phase}
    (h : d ∈ c.pendingDecisions) : d ∈ (c.recoverAll nows).pendingDecisions := by
  induction nows generalizing c with
  | nil => exact h
  | cons now nows ih => exact ih (recover_keeps_pendingDecision h)

theorem recover_recover (c : Coordinator) (now : Nat) :
    ((c.recover now).1.recover now).1 = (c.recover now).1 := by
  have hfix : ∀ t' ∈ (c.recover now).1.pending, t'.recovered now = t' ∧ (!t'.phase.isFinal) = true := by
    intro t' ht'
    obtain ⟨t, _, rfl, hf⟩ := mem_recover_pending_iff.1 ht'
    refine ⟨recovered_recovered t now, ?_⟩
    rw [recovered_phase, hf]; rfl
  have hmap : (c.recover now).1.pending.map (fun t => t.recovered now) = (c.recover now).1.pending := by
    conv => rhs; rw [← List.map_id (c.recover now).1.pending]
    exact List.map_congr_left (fun t ht => (hfix t ht).1)
  have hfil : ((c.recover now).1.pending.map (fun t => t.recovered now)).filter (fun t => !t.phase.isFinal) =
      (c.recover now).1.pending := by
    rw [hmap]
    exact List.filter_eq_self.2 (fun t ht => (hfix t ht).2)
  show ({ (c.recover now).1 with pending := _ } : Coordinator) = (c.recover now).1
  rw [hfil]

theorem withState_toState {c : Coordinator} (h : c.pendingAborts = []) : c.withState c.toState = c := by
  cases c
  simp only [Coordinator.withState, Coordinator.toState] at *
  subst h
  rfl

/-- crash + `load_from_store` of a current checkpoint leaves the system as it is -/
theorem stepK_restore_current {k : SysK} (hc : k.checkpointCurrent = true)
    (hpa : k.sys.coord.pendingAborts = []) : (k.stepK .restore).sys = k.sys := by
  have hs : k.saved = some k.sys.coord.toState := by
    simpa [SysK.checkpointCurrent] using hc
  simp only [SysK.stepK, hs, Coordinator.loadFrom, withState_toState hpa]

/-- a run of `ReachK` is, on the system component, a run of `ReachRS` -/
theorem ReachK.toRS {k0 k : SysK} (h0 : InvR k0.sys) (hr : ReachK k0 k) : ReachRS k0.sys k.sys := by
  induction hr with
  | refl => exact .refl
  | step e _ ha ih =>
    cases e with
    | ev e =>
      simp only [SysK.inAlphabetK, Bool.and_eq_true] at ha
      exact ReachRS.step e ih ha.1 ha.2
    | checkpoint => exact ih
    | restore =>
      have hinv := h0.reach ih.toR
      rw [stepK_restore_current ha hinv.paEmpty]
      exact ih

theorem ReachK.trans {k0 k k' : SysK} (h1 : ReachK k0 k) (h2 : ReachK k k') : ReachK k0 k' := by
  induction h2 with
  | refl => exact h1
  | step e _ ha ih => exact ReachK.step e ih ha

theorem reachK_run {k0 k : SysK} (hr : ReachK k0 k) (es : List EvK) (h : k.allInK es = true) :
    ReachK k0 (k.runK es) := by
  induction es generalizing k with
  | nil => exact hr
  | cons e es ih =>
    simp only [SysK.allInK, Bool.and_eq_true] at h
    exact ih (ReachK.step e hr h.1) h.2

theorem reachKStale_run {k0 k : SysK} (hr : ReachKStale k0 k) (es : List EvK) (h : k.allInKStale es = true) :
    ReachKStale k0 (k.runK es) := by
  induction es generalizing k with
  | nil => exact hr
  | cons e es ih =>
    simp only [SysK.allInKStale, Bool.and_eq_true] at h
    exact ih (ReachKStale.step e hr h.1) h.2

/-- `InvRS` (decision / message invariant + exclusivity of the decisions) along `ReachK` -/
theorem InvRS.reachK {stores : List Store} {a b c : Nat} {k : SysK}
    (hr : ReachK (SysK.init stores a b c) k) : InvRS k.sys :=
  (InvRS.init stores a b c).reach (ReachK.toRS (InvR.init stores a b c) hr)

theorem decided_mono_reachK {k k' : SysK} (h : ReachK k k') (x : Nat × Bool) (hx : x ∈ k.sys.decided) :
    x ∈ k'.sys.decided := by
  induction h with
  | refl => exact hx
  | step e _ _ ih =>
    cases e with
    | ev e => exact decided_monoX _ e x ih
    | checkpoint => exact ih
    | restore => exact ih

end Neumann.TwoPC
