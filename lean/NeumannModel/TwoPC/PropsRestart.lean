import NeumannModel.TwoPC.LemmasRestart
/-
  C03 — "the coordinator decides at most once … and the decision never changes afterwards", with
  "coordinator timeouts firing at any point", across COORDINATOR RESTARTS: `recover()` run any number
  of times at any clock value — before or after a transaction's deadline —, checkpoint / restore
  cycles of the coordinator state (`to_state` / `save_to_store` → `load_from_store`) at any point, and
  the clock advancing by any amount between any two events (model: `Restart.lean`; `recover`,
  `get_pending_decisions`, `complete_commit`, `complete_abort`: `Recovery.lean`).  ONLY theorems and
  their non-vacuity examples; helpers are in `LemmasRestart.lean` / `LemmasRecovery.lean`.

  The theorems are stated (1) about `recover()` itself, for EVERY coordinator state and EVERY clock
  value — in particular for an entry in each of the six phases, timed out or not —, and (2) about every
  state reachable from an arbitrary initial configuration through ANY finite sequence of events of
  `ReachK`: every event of C03's alphabet (deliveries in any order / multiplicity, timeout sweeps,
  clock ticks, commit() / abort() calls, forged votes, new transactions), `recover()` followed by the
  re-send of every pending decision, `complete_commit` / `complete_abort`, `save_to_store`, and crash +
  `load_from_store` of a current checkpoint — each at any point, any number of times; the one
  restriction inherited from `ReachRS` is that no timeout sweep / `abort()` call runs over a
  `Committing` entry (`cleanup_timeouts` and `abort` have no phase test: `PropsRecovery.lean`).
  A `…_witness` theorem shows what the variant of `recover()` that tests the deadline in front of the
  `match` does on the same events, another that the "current checkpoint" condition is necessary.
-/
namespace Neumann.TwoPC.PropsRestart
open Neumann.TwoPC

/-! ### `recover()` on one pending entry, in every phase, before and after its deadline -/

/-- What `recover()` does to ONE pending entry, for every entry `t` and every clock value `now`, by
    phase × deadline: a `Preparing` entry is aborted exactly when it is timed out; a `Prepared` entry
    is aborted when timed out, else committed on all YES, aborted on any NO; a `Committing`, `Aborting`,
    `Committed` or `Aborted` entry keeps its phase WHETHER OR NOT its deadline has passed. -/
theorem recover_outcome_by_phase_and_deadline (t : DTx) (now : Nat) :
    (t.phase = .preparing →
      (t.recovered now).phase = if t.timedOut now then .aborting else .preparing) ∧
    (t.phase = .prepared →
      (t.recovered now).phase =
        if t.timedOut now then .aborting else if t.allYes then .committing
        else if t.anyNo then .aborting else .prepared) ∧
    (t.phase = .committing → (t.recovered now).phase = .committing) ∧
    (t.phase = .aborting → (t.recovered now).phase = .aborting) ∧
    (t.phase = .committed → (t.recovered now).phase = .committed) ∧
    (t.phase = .aborted → (t.recovered now).phase = .aborted) :=
  ⟨recoverPhase_preparing', recoverPhase_prepared', recoverPhase_of_committing, recoverPhase_of_aborting,
   recoverPhase_of_committed, recoverPhase_of_aborted⟩

-- each arm is reached: a timed-out and a live entry in each open phase, a timed-out decided entry
example : (DTx.recovered ⟨0, [0, 1], .preparing, [], 0, 2⟩ 3).phase = .aborting ∧
    (DTx.recovered ⟨0, [0, 1], .preparing, [], 0, 2⟩ 2).phase = .preparing := by decide +kernel
example : (DTx.recovered ⟨0, [0, 1], .prepared, [(0, .yes 0 [1]), (1, .yes 1 [3])], 0, 2⟩ 3).phase = .aborting ∧
    (DTx.recovered ⟨0, [0, 1], .prepared, [(0, .yes 0 [1]), (1, .yes 1 [3])], 0, 2⟩ 2).phase = .committing ∧
    (DTx.recovered ⟨0, [0, 1], .prepared, [(0, .yes 0 [1]), (1, .no)], 0, 2⟩ 2).phase = .aborting := by decide +kernel
example : (DTx.recovered ⟨0, [0, 1], .committing, [(0, .yes 0 [1]), (1, .yes 1 [3])], 0, 2⟩ 1000).phase = .committing ∧
    (DTx.timedOut ⟨0, [0, 1], .committing, [(0, .yes 0 [1]), (1, .yes 1 [3])], 0, 2⟩ 1000) = true := by decide +kernel

/-- `recover()` moves an entry only out of a phase in which the outcome is still open: whatever the
    clock says, an entry whose phase differs after `recover()` was `Preparing` or `Prepared`. -/
theorem recover_moves_only_undecided_entries (t : DTx) (now : Nat)
    (h : (t.recovered now).phase ≠ t.phase) : t.phase = .preparing ∨ t.phase = .prepared :=
  recoverPhase_ne h

example : (DTx.recovered ⟨0, [0, 1], .preparing, [], 0, 2⟩ 3).phase ≠ Phase.preparing := by decide +kernel

/-! ### `recover()` on the pending map -/

/-- Which entries `recover()` keeps: exactly the recovered images of the entries it does not find
    `Committed` / `Aborted` (ids, participants, votes, `started_at`, `timeout_ms` unchanged — so the
    deadline of a transaction is the same after every restart). -/
theorem recover_keeps_exactly_the_unfinished_entries (c : Coordinator) (now : Nat) (t' : DTx) :
    t' ∈ (c.recover now).1.pending ↔
      ∃ t ∈ c.pending, t' = t.recovered now ∧ (t.recoverPhase now).isFinal = false :=
  mem_recover_pending_iff

/-- For EVERY coordinator state and EVERY clock value: each entry `get_pending_decisions` lists before
    `recover()` — (tx, Committing) or (tx, Aborting) — is listed, unchanged, after it.  A decision
    that was announced is neither flipped nor dropped by recovery, however late recovery runs. -/
theorem recover_keeps_every_pending_decision (c : Coordinator) (now : Nat) (d : Nat × Phase)
    (h : d ∈ c.pendingDecisions) : d ∈ (c.recover now).1.pendingDecisions :=
  recover_keeps_pendingDecision h

/-- … and so after any number of `recover()` calls at any clock values (any restart delays). -/
theorem repeated_recover_keeps_every_pending_decision (c : Coordinator) (nows : List Nat) (d : Nat × Phase)
    (h : d ∈ c.pendingDecisions) : d ∈ (c.recoverAll nows).pendingDecisions :=
  recoverAll_keeps_pendingDecision nows h

/-- `recover()` is idempotent: a second call at the same clock value changes nothing. -/
theorem recover_is_idempotent (c : Coordinator) (now : Nat) :
    ((c.recover now).1.recover now).1 = (c.recover now).1 :=
  recover_recover c now

-- non-vacuity: a Committing entry far past its deadline beside a timed-out Preparing one
def demoCoord : Coordinator :=
  ⟨[⟨0, [0, 1], .committing, [(0, .yes 0 [1]), (1, .yes 1 [3])], 0, 2⟩, ⟨1, [0, 1], .preparing, [(0, .yes 2 [1])], 1, 2⟩],
   [], 100, 2, 2⟩

example : demoCoord.pendingDecisions = [(0, .committing)] := by decide +kernel
example : (demoCoord.recover 50).1.pendingDecisions = [(0, .committing), (1, .aborting)] := by decide +kernel
example : (demoCoord.recoverAll [3, 50, 50, 1000]).pendingDecisions = [(0, .committing), (1, .aborting)] := by decide +kernel
example : (demoCoord.recover 50).2 = ⟨0, 1, 0, 1, 0⟩ := by decide +kernel

/-! ### checkpoint / restore -/

/-- A checkpoint / restore cycle (`to_state` → `with_state`) reproduces the pending map exactly: every
    transaction with its phase, votes, `started_at` and `timeout_ms`; only the (drained) abort queue is
    fresh.  In particular `get_pending_decisions` answers the same before the crash and after the
    restart, whatever time has passed. -/
theorem checkpoint_restore_keeps_pending (c : Coordinator) :
    (c.withState c.toState).pending = c.pending ∧
    (c.withState c.toState).pendingDecisions = c.pendingDecisions ∧
    (c.pendingAborts = [] → c.withState c.toState = c) :=
  ⟨rfl, rfl, withState_toState⟩

/-! ### the system: decisions across recoveries, restarts and the clock -/

/-- (the property, over restarts) Along every run of `ReachK` — any interleaving of C03's events with
    `recover()` + re-send, `complete_commit` / `complete_abort`, checkpoints, crash + restore of a current
    checkpoint, and clock ticks of any size, each at any point and any number of times — a transaction
    gets at most ONE decision and the decision NEVER CHANGES: once (tx, b) is decided, it stays
    decided and the opposite decision is never taken, also by a `recover()` that runs after the
    transaction's deadline. -/
theorem decision_survives_recoveries_and_restarts (stores : List Store) (tt mc lt : Nat) {k k' : SysK}
    (hr : ReachK (SysK.init stores tt mc lt) k) (hr' : ReachK k k') (tx : Nat) (b : Bool)
    (hd : (tx, b) ∈ k.sys.decided) : (tx, b) ∈ k'.sys.decided ∧ (tx, !b) ∉ k'.sys.decided := by
  have hinv := InvRS.reachK (hr.trans hr')
  have hd' := decided_mono_reachK hr' _ hd
  refine ⟨hd', ?_⟩
  cases b with
  | true => exact hinv.excl tx hd'
  | false => exact fun h => hinv.excl tx h hd'

/-- What the restarted coordinator reports agrees with what was decided: in every state reachable
    through `ReachK`, a pending transaction with a commit decision is listed by `get_pending_decisions`
    as `Committing` — never as `Aborting`, so `complete_abort` is refused for it — and one with an abort
    decision as `Aborting`; and `recover()` at ANY clock value leaves both as they are. -/
theorem pending_decision_agrees_with_decision_after_any_restart (stores : List Store) (tt mc lt : Nat)
    {k : SysK} (hr : ReachK (SysK.init stores tt mc lt) k) (t : DTx) (ht : t ∈ k.sys.coord.pending) (now : Nat) :
    ((t.id, true) ∈ k.sys.decided →
      t.phase = .committing ∧ (t.recovered now).phase = .committing ∧
      (t.id, Phase.committing) ∈ (k.sys.coord.recover now).1.pendingDecisions ∧
      (t.id, Phase.aborting) ∉ (k.sys.coord.recover now).1.pendingDecisions) ∧
    ((t.id, false) ∈ k.sys.decided →
      t.phase = .aborting ∧ (t.recovered now).phase = .aborting ∧
      (t.id, Phase.aborting) ∈ (k.sys.coord.recover now).1.pendingDecisions ∧
      (t.id, Phase.committing) ∉ (k.sys.coord.recover now).1.pendingDecisions) := by
  have hinv := (InvRS.reachK hr).inv
  have huniq : ∀ ph, (t.id, ph) ∈ (k.sys.coord.recover now).1.pendingDecisions → ph = t.recoverPhase now := by
    intro ph hm
    obtain ⟨t', ht', hid, hph, _⟩ := mem_pendingDecisions hm
    obtain ⟨t0, ht0, rfl⟩ := mem_recover_pending ht'
    have : t0 = t := hinv.pendUniq t0 ht0 t ht (by rw [recovered_id] at hid; exact hid)
    subst this
    rw [← hph, recovered_phase]
  constructor
  · intro hd
    have hp := hinv.decCommit t.id hd t ht rfl
    have hm : (t.id, t.phase) ∈ k.sys.coord.pendingDecisions := mem_pendingDecisions_of ht (Or.inl hp)
    rw [hp] at hm
    refine ⟨hp, recoverPhase_of_committing hp, recover_keeps_pendingDecision hm, ?_⟩
    intro hx
    have := huniq _ hx
    rw [recoverPhase_of_committing hp] at this
    cases this
  · intro hd
    have hp := hinv.decAbort t.id hd t ht rfl
    have hm : (t.id, t.phase) ∈ k.sys.coord.pendingDecisions := mem_pendingDecisions_of ht (Or.inr hp)
    rw [hp] at hm
    refine ⟨hp, recoverPhase_of_aborting hp, recover_keeps_pendingDecision hm, ?_⟩
    intro hx
    have := huniq _ hx
    rw [recoverPhase_of_aborting hp] at this
    cases this

/-- Atomicity across shards along `ReachK`: if one participant applied a transaction's writes, no
    participant that voted YES discards them — whichever of the coordinator's incarnations told them. -/
theorem applied_implies_no_yes_voter_discards_across_restarts (stores : List Store) (tt mc lt : Nat)
    {k : SysK} (hr : ReachK (SysK.init stores tt mc lt) k) (sh1 sh2 tx : Nat)
    (ha : (sh1, tx) ∈ k.sys.applied) : (sh2, tx) ∉ k.sys.discarded := by
  have hinv := InvRS.reachK hr
  exact fun hd => hinv.excl tx (hinv.inv.applied sh1 tx ha) (hinv.inv.discarded sh2 tx hd)

/-! ### non-vacuity: the history the theorems are about.  tx 0 over shards 0, 1: both vote YES
    (`Prepared`), checkpoint, crash; restart in time: `recover()` decides commit (`Committing`), COMMIT
    is sent, shard 0 applies, checkpoint, crash before shard 1 hears of it; the second restart happens
    long after the deadline (tick 50, timeout 2): `recover()` must still say `Committing`; shard 1
    applies; `complete_commit`; a third restart finds nothing pending.  Beside it tx 1 (one vote in
    when the clock passes its deadline) is aborted by the same late `recover()` and stays aborted. -/

def demoInit : SysK := SysK.init [[(1, 5)], []] 2 100 1000

def demoRun : List EvK :=
  [ .ev (.base (.begin [0, 1] [(0, [.put 1 7]), (1, [.put 3 9])] [])),   -- msgs 0, 1 = PREPARE(0)
    .ev (.base (.deliver 0)), .ev (.base (.deliver 1)),                   -- 2, 3 = the YES votes
    .ev (.base (.deliver 2)), .ev (.base (.deliver 3)),                   -- tx 0 is Prepared
    .checkpoint, .restore, .ev .coordRecover,                              -- in time: Committing; 4, 5 = COMMIT(0)
    .ev (.base (.deliver 4)),                                              -- shard 0 applies
    .ev (.base (.begin [0, 1] [(0, [.put 2 8]), (1, [.put 4 1])] [])),   -- 6, 7 = PREPARE(1)
    .ev (.base (.deliver 6)), .ev (.base (.deliver 8)),                   -- 8 = shard 0's YES for tx 1, recorded
    .checkpoint, .ev (.base (.tick 50)), .restore,                         -- the restart takes 50 units
    .ev .coordRecover,                                                     -- 9, 10 = COMMIT(0) again; 11, 12 = ABORT(1)
    .ev (.base (.deliver 10)), .ev (.completeAbort 0), .ev (.completeCommit 0),
    .ev (.base (.deliver 11)), .ev (.base (.deliver 12)), .ev (.completeAbort 1),
    .checkpoint, .restore, .ev .coordRecover ]

example : ReachK demoInit (demoInit.runK demoRun) := reachK_run .refl _ (by decide +kernel)
example : (demoInit.runK demoRun).sys.decided = [(0, true), (0, true), (1, false)] := by decide +kernel
example : (demoInit.runK demoRun).sys.applied = [(0, 0), (1, 0)] := by decide +kernel
example : (demoInit.runK demoRun).sys.discarded = [(0, 1)] := by decide +kernel
example : (demoInit.runK demoRun).sys.coord.pending.length = 0 := by decide +kernel
-- the late restart: tx 0 is Committing and timed out when `recover()` runs, and stays Committing
example : ((demoInit.runK (demoRun.take 15)).sys.coord.pending.map
    (fun t => (t.id, t.phase, t.timedOut (demoInit.runK (demoRun.take 15)).sys.now))) =
    [(0, .committing, true), (1, .preparing, true)] := by decide +kernel
example : (demoInit.runK (demoRun.take 16)).sys.coord.pendingDecisions = [(0, .committing), (1, .aborting)] := by decide +kernel
example : ((demoInit.runK (demoRun.take 15)).sys.coord.recover 50).2 = ⟨0, 1, 0, 1, 0⟩ := by decide +kernel

/-! ### the variant that tests the deadline in front of the `match`; stale checkpoints -/

/-- On its own the hoisted deadline test differs from the code exactly on `Committing`: an entry in
    that phase past its deadline is moved to `Aborting` (counted `timed_out`), while `recover()` as it is
    keeps it (`recover_outcome_by_phase_and_deadline`). -/
theorem recover_arm_hoisted_timeout_aborts_committing_witness :
    ∃ (t : DTx) (now : Nat), t.phase = Phase.committing ∧ t.timedOut now = true ∧
      t.recoverArmHoistedTimeout now = (Phase.aborting, RecClass.timedOut) ∧
      t.recoverArm now = (Phase.committing, RecClass.pendingCommit) :=
  ⟨⟨0, [0, 1], .committing, [(0, .yes 0 [1]), (1, .yes 1 [3])], 0, 2⟩, 3, by decide +kernel⟩

/-- The variant breaks the property on a run of `ReachK`'s alphabet: both shards vote YES, restart in
    time (`Committing`, COMMIT sent, shard 0 applies), checkpoint, the clock passes the deadline, restore,
    `recover()`: the variant reports (0, Aborting), ABORT is sent, shard 1 — which voted YES — rolls
    back: two decisions for tx 0 and the shards split.  The SAME events on the code as it is end with
    one decision, both shards applied (and are a run of `ReachK`). -/
theorem recover_after_deadline_flips_commit_decision_hoistedTimeout_witness :
    ∃ es : List EvK,
      let k0 := SysK.init [[], []] 2 100 1000
      k0.allInKHoistedTimeout es = true ∧
      (0, true) ∈ (k0.runKHoistedTimeout es).sys.decided ∧ (0, false) ∈ (k0.runKHoistedTimeout es).sys.decided ∧
      (0, 0) ∈ (k0.runKHoistedTimeout es).sys.applied ∧ (1, 0) ∈ (k0.runKHoistedTimeout es).sys.discarded ∧
      k0.allInK es = true ∧ (k0.runK es).sys.decided = [(0, true), (0, true)] ∧
      (k0.runK es).sys.applied = [(0, 0), (1, 0)] ∧ (k0.runK es).sys.discarded = [] :=
  ⟨[ .ev (.base (.begin [0, 1] [(0, [.put 1 7]), (1, [.put 3 9])] [])),
     .ev (.base (.deliver 0)), .ev (.base (.deliver 1)), .ev (.base (.deliver 2)), .ev (.base (.deliver 3)),
     .checkpoint, .restore, .ev .coordRecover, .ev (.base (.deliver 4)),
     .checkpoint, .ev (.base (.tick 3)), .restore, .ev .coordRecover, .ev (.base (.deliver 7)) ],
   by decide +kernel⟩

/-- The "current checkpoint" condition of `ReachK` is necessary, on the code as it is: a checkpoint
    taken while tx 0 is `Prepared`; `commit()` (decision commit, shard 0 applies); crash; the STALE
    checkpoint is restored and the restart is late: `recover()` finds a timed-out `Prepared` entry and
    aborts it; shard 1 rolls back.  State-based recovery forgets what was decided after the checkpoint
    (the WAL, C13, is what covers that window); outside C03's quantifier. -/
theorem stale_checkpoint_restore_changes_decision_outside_quantifier_witness :
    ∃ k, ReachKStale (SysK.init [[], []] 2 100 1000) k ∧ (0, true) ∈ k.sys.decided ∧ (0, false) ∈ k.sys.decided ∧
      (0, 0) ∈ k.sys.applied ∧ (1, 0) ∈ k.sys.discarded :=
  ⟨(SysK.init [[], []] 2 100 1000).runK
      [ .ev (.base (.begin [0, 1] [(0, [.put 1 7]), (1, [.put 3 9])] [])),
        .ev (.base (.deliver 0)), .ev (.base (.deliver 1)), .ev (.base (.deliver 2)), .ev (.base (.deliver 3)),
        .checkpoint, .ev (.base (.coordCommit 0)), .ev (.base (.deliver 4)),
        .ev (.base (.tick 3)), .restore, .ev .coordRecover, .ev (.base (.deliver 7)) ],
   reachKStale_run .refl _ (by decide +kernel), by decide +kernel⟩

end Neumann.TwoPC.PropsRestart
