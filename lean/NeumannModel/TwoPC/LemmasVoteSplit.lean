import NeumannModel.TwoPC.VoteSplit
import NeumannModel.TwoPC.Lemmas
/-
  C03 — the atomic `Coordinator.recordVote` of the model is exactly the two critical sections of
  `record_vote` run back to back.
-/
namespace Neumann.TwoPC

theorem setPhase_setTx (ps : List DTx) (tx : Nat) (t1 : DTx) (ph : Phase) (h : t1.id = tx) :
    setPhase (setTx ps tx t1) tx ph = setTx ps tx { t1 with phase := ph } := by
  simp only [setPhase, setTx, List.map_map]
  apply List.map_congr_left
  intro t _
  simp only [Function.comp]
  by_cases ht : t.id = tx
  · simp only [ht, if_true, h]
  · simp only [ht, if_false]

theorem findTx_setTx {ps : List DTx} {tx : Nat} {t t1 : DTx} (hf : findTx ps tx = some t) (h : t1.id = tx) :
    findTx (setTx ps tx t1) tx = some t1 := by
  induction ps with
  | nil => cases hf
  | cons a r ih =>
    simp only [findTx] at hf
    simp only [setTx, List.map_cons, findTx]
    split at hf
    · rename_i ha
      simp only [ha, if_true, h]
    · rename_i ha
      simp only [ha, if_false]
      exact ih hf

theorem findTx_setPhase {ps : List DTx} {tx : Nat} {t : DTx} (ph : Phase) (hf : findTx ps tx = some t) :
    findTx (setPhase ps tx ph) tx = some { t with phase := ph } := by
  induction ps with
  | nil => cases hf
  | cons a r ih =>
    simp only [findTx] at hf
    simp only [setPhase, List.map_cons, findTx]
    split at hf
    · rename_i ha
      cases hf
      simp only [ha, if_true]
    · rename_i ha
      simp only [ha, if_false]
      exact ih hf

theorem recordVote_eq_phases (c : Coordinator) (tx sh : Nat) (v : Vote) (f : Nat → Nat → Bool) :
    c.recordVote tx sh v f =
      match c.recordVoteP1 tx sh v with
      | .error e => .error e
      | .ok (.done c' r) => .ok (c', r)
      | .ok (.check c' snap) => .ok (c'.recordVoteP3 tx snap f) := by
  unfold Coordinator.recordVote Coordinator.recordVoteP1
  cases hf : findTx c.pending tx with
  | none => rfl
  | some t =>
    have hid : t.id = tx := (findTx_some hf).2
    dsimp only
    by_cases hph : (t.phase != .preparing) = true
    · rw [if_pos hph, if_pos hph]
    · rw [if_neg hph, if_neg hph]
      by_cases hv : t.hasVote sh = true
      · rw [if_pos hv, if_pos hv]
      · rw [if_neg hv, if_neg hv]
        by_cases hav : DTx.allVoted { t with votes := t.votes ++ [(sh, v)] } = true
        · rw [if_pos hav, if_pos hav]
          by_cases hay : DTx.allYes { t with votes := t.votes ++ [(sh, v)] } = true
          · -- all voted YES: phases 2 + 3 run on the snapshot, and the entry is still `Preparing`
            rw [if_pos hay, if_pos hay]
            have hph' : t.phase = .preparing := by simpa using hph
            simp only [Coordinator.recordVoteP3]
            rw [findTx_setTx (t1 := { t with votes := t.votes ++ [(sh, v)] }) hf hid]
            simp only [hph', beq_self_eq_true, bne_self_eq_false, if_true, Bool.false_eq_true, if_false,
              setPhase_setTx c.pending tx { t with votes := t.votes ++ [(sh, v)], phase := .preparing } _ hid]
            split <;> rfl
          · rw [if_neg hay, if_neg hay]
        · rw [if_neg hav, if_neg hav]

theorem mem_setPhase {ps : List DTx} {tx : Nat} {ph : Phase} {t : DTx} (h : t ∈ setPhase ps tx ph) :
    (∃ u ∈ ps, u.id = tx ∧ t = { u with phase := ph }) ∨ (t ∈ ps ∧ t.id ≠ tx) := by
  simp only [setPhase, List.mem_map] at h
  obtain ⟨u, hu, rfl⟩ := h
  split
  · rename_i hid; exact Or.inl ⟨u, hu, hid, rfl⟩
  · rename_i hid; exact Or.inr ⟨hu, hid⟩

theorem recordVoteP1_ok {c : Coordinator} {tx sh : Nat} {v : Vote} {r : P1Result}
    (h : c.recordVoteP1 tx sh v = .ok r) :
    ∃ t t1 c', (r = .done c' none ∨ r = .done c' (some .aborting) ∨ r = .check c' t1) ∧
      t ∈ c.pending ∧ t.id = tx ∧ t.phase = .preparing ∧ t1.id = tx ∧
      c'.pending = setTx c.pending tx t1 ∧ c'.nextTx = c.nextTx ∧
      ((t1.phase = .preparing ∧ c'.pendingAborts = c.pendingAborts) ∨
       (t1.phase = .aborting ∧ ∃ reason ps, c'.pendingAborts = c.pendingAborts ++ [(tx, reason, ps)])) := by
  unfold Coordinator.recordVoteP1 at h
  cases hf : findTx c.pending tx with
  | none => rw [hf] at h; cases h
  | some t =>
    obtain ⟨hmem, hid⟩ := findTx_some hf
    rw [hf] at h
    dsimp only at h
    by_cases hne : (t.phase != .preparing) = true
    · rw [if_pos hne] at h; cases h
    · rw [if_neg hne] at h
      have hph : t.phase = .preparing := by simpa using hne
      by_cases hv : t.hasVote sh = true
      · rw [if_pos hv] at h; cases h
      · rw [if_neg hv] at h
        by_cases hav : DTx.allVoted { t with votes := t.votes ++ [(sh, v)] } = true
        · rw [if_pos hav] at h
          by_cases hay : DTx.allYes { t with votes := t.votes ++ [(sh, v)] } = true
          · rw [if_pos hay] at h
            cases h
            exact ⟨t, _, _, Or.inr (Or.inr rfl), hmem, hid, hph, hid, rfl, rfl, Or.inl ⟨hph, rfl⟩⟩
          · rw [if_neg hay] at h
            cases h
            exact ⟨t, { t with votes := t.votes ++ [(sh, v)], phase := .aborting }, _, Or.inr (Or.inl rfl),
              hmem, hid, hph, hid, rfl, rfl, Or.inr ⟨rfl, _, _, rfl⟩⟩
        · rw [if_neg hav] at h
          cases h
          exact ⟨t, { t with votes := t.votes ++ [(sh, v)] }, _, Or.inl rfl, hmem, hid, hph, hid, rfl, rfl,
            Or.inl ⟨hph, rfl⟩⟩

theorem recordVoteP3_cases (c : Coordinator) (tx : Nat) (snap : DTx) (f : Nat → Nat → Bool) :
    c.recordVoteP3 tx snap f = (c, none) ∨
    ∃ t, findTx c.pending tx = some t ∧ t.phase = .preparing ∧
      ((c.recordVoteP3 tx snap f) =
          ({ c with pending := setPhase c.pending tx .prepared }, some .prepared) ∨
       (c.recordVoteP3 tx snap f) =
          ({ c with pending := setPhase c.pending tx .aborting,
                    pendingAborts := c.pendingAborts ++ [(tx, .crossShard, snap.participants)] }, some .aborting)) := by
  unfold Coordinator.recordVoteP3
  cases hf : findTx c.pending tx with
  | none => exact Or.inl (by split <;> rfl)
  | some t =>
    dsimp only
    by_cases hph : t.phase = .preparing
    · refine Or.inr ⟨t, rfl, hph, ?_⟩
      rw [hph]
      by_cases hcc : crossConflict f snap.votes = true
      · rw [if_pos hcc]; exact Or.inr rfl
      · rw [if_neg hcc]; exact Or.inl rfl
    · have h1 : (t.phase == .preparing) = false := by simpa using hph
      have h2 : (t.phase != .preparing) = true := by simpa using hph
      rw [h1, h2]
      exact Or.inl (by split <;> rfl)

structure CInv (s : CSys) : Prop where
  lt : ∀ t ∈ s.c.pending, t.id < s.c.nextTx
  uniq : ∀ t ∈ s.c.pending, ∀ t' ∈ s.c.pending, t.id = t'.id → t = t'
  com : ∀ tx ∈ s.commits, tx < s.c.nextTx ∧ ∀ t ∈ s.c.pending, t.id ≠ tx
  ab : ∀ tx, s.abortDecided tx → tx < s.c.nextTx ∧ ∀ t ∈ s.c.pending, t.id = tx → t.phase = .aborting
  excl : ∀ tx ∈ s.commits, ¬ s.abortDecided tx

theorem CInv.init (mc tt : Nat) : CInv (CSys.init mc tt) := by
  constructor <;> simp [CSys.init, CSys.abortDecided]

/-- a step that only rewrites the entry of one `Preparing` transaction `tx` (new entry / entries `t'`
    with `t'.id = tx`), possibly queueing an abort broadcast for `tx` together with phase `Aborting` -/
theorem CInv.rewrite {s : CSys} (h : CInv s) {c' : Coordinator} {tx : Nat} {t : DTx}
    (ht : t ∈ s.c.pending) (hid : t.id = tx) (hph : t.phase = .preparing)
    (hnext : c'.nextTx = s.c.nextTx)
    (hpend : ∀ t' ∈ c'.pending, (t'.id = tx ∧ ∃ u ∈ s.c.pending, u.id = tx) ∨ (t' ∈ s.c.pending ∧ t'.id ≠ tx))
    (huniq : ∀ a ∈ c'.pending, ∀ b ∈ c'.pending, a.id = b.id → a = b)
    (hab : c'.pendingAborts = s.c.pendingAborts ∨
      ((∀ t' ∈ c'.pending, t'.id = tx → t'.phase = .aborting) ∧
        ∃ r ps, c'.pendingAborts = s.c.pendingAborts ++ [(tx, r, ps)])) :
    CInv { s with c := c' } := by
  have hnot : ¬ s.abortDecided tx := by
    intro hd
    have := (h.ab tx hd).2 t ht hid
    rw [hph] at this; cases this
  have hdec : ∀ tx', CSys.abortDecided { s with c := c' } tx' → s.abortDecided tx' ∨
      (tx' = tx ∧ ∀ t' ∈ c'.pending, t'.id = tx → t'.phase = .aborting) := by
    intro tx' hd
    rcases hab with hab | ⟨hph', r, ps, hab⟩
    · left
      simp only [CSys.abortDecided] at hd ⊢
      rw [hab] at hd; exact hd
    · simp only [CSys.abortDecided, hab, List.map_append, List.mem_append, List.map_cons, List.map_nil,
        List.mem_singleton] at hd
      rcases hd with hd | hd | hd
      · exact Or.inl (Or.inl hd)
      · exact Or.inl (Or.inr hd)
      · exact Or.inr ⟨hd, hph'⟩
  constructor
  · intro t' ht'
    show t'.id < c'.nextTx
    rw [hnext]
    rcases hpend t' ht' with ⟨h1, _⟩ | ⟨h1, _⟩
    · rw [h1, ← hid]; exact h.lt t ht
    · exact h.lt t' h1
  · exact huniq
  · intro tx' hc
    obtain ⟨h1, h2⟩ := h.com tx' hc
    refine ⟨by show tx' < c'.nextTx; rw [hnext]; exact h1, ?_⟩
    intro t' ht'
    rcases hpend t' ht' with ⟨h3, _⟩ | ⟨h3, _⟩
    · rw [h3, ← hid]; exact h2 t ht
    · exact h2 t' h3
  · intro tx' hd
    rcases hdec tx' hd with hd' | ⟨rfl, hph'⟩
    · obtain ⟨h1, h2⟩ := h.ab tx' hd'
      refine ⟨by show tx' < c'.nextTx; rw [hnext]; exact h1, ?_⟩
      intro t' ht' hid'
      rcases hpend t' ht' with ⟨h3, _⟩ | ⟨h3, _⟩
      · exact absurd hd' (by rw [← hid', h3]; exact hnot)
      · exact h2 t' h3 hid'
    · refine ⟨by show tx' < c'.nextTx; rw [hnext, ← hid]; exact h.lt t ht, hph'⟩
  · intro tx' hc hd
    rcases hdec tx' hd with hd' | ⟨rfl, _⟩
    · exact h.excl tx' hc hd'
    · exact (h.com tx' hc).2 t ht hid

theorem setPhase_uniq {ps : List DTx} {tx : Nat} {ph : Phase}
    (hu : ∀ a ∈ ps, ∀ b ∈ ps, a.id = b.id → a = b) :
    ∀ a ∈ setPhase ps tx ph, ∀ b ∈ setPhase ps tx ph, a.id = b.id → a = b := by
  intro a ha b hb hab
  rcases mem_setPhase ha with ⟨u, hu1, hu2, rfl⟩ | h1 <;> rcases mem_setPhase hb with ⟨w, hw1, hw2, rfl⟩ | h2
  · rw [hu u hu1 w hw1 hab]
  · exact absurd (hab.symm.trans hu2) h2.2
  · exact absurd (hab.trans hw2) h1.2
  · exact hu a h1.1 b h2.1 hab

/-- a step that only removes pending entries; `b` is the kind of its new decisions -/
theorem CInv.shrink {s s' : CSys} (h : CInv s) (b : Bool) (hn : s'.c.nextTx = s.c.nextTx)
    (hP : ∀ t ∈ s'.c.pending, t ∈ s.c.pending)
    (hc : ∀ tx ∈ s'.commits, tx ∈ s.commits ∨
      (b = true ∧ ∃ t ∈ s.c.pending, t.id = tx ∧ t.phase = .prepared ∧ t ∉ s'.c.pending))
    (ha : ∀ tx, s'.abortDecided tx → s.abortDecided tx ∨
      (b = false ∧ ∃ t ∈ s.c.pending, t.id = tx ∧ t ∉ s'.c.pending)) : CInv s' := by
  -- no entry with the id of a removed one remains
  have gone : ∀ t ∈ s.c.pending, t ∉ s'.c.pending → ∀ t' ∈ s'.c.pending, t'.id ≠ t.id := by
    intro t ht hnot t' ht' hid
    cases h.uniq t' (hP t' ht') t ht hid
    exact hnot ht'
  refine ⟨fun t ht => hn ▸ h.lt t (hP t ht), fun a ha b hb => h.uniq a (hP a ha) b (hP b hb), ?_, ?_, ?_⟩
  · intro tx hc'
    rw [hn]
    rcases hc tx hc' with h1 | ⟨_, t, ht, rfl, _, hnot⟩
    · exact ⟨(h.com tx h1).1, fun t ht => (h.com tx h1).2 t (hP t ht)⟩
    · exact ⟨h.lt t ht, gone t ht hnot⟩
  · intro tx hd
    rw [hn]
    rcases ha tx hd with h1 | ⟨_, t, ht, rfl, hnot⟩
    · exact ⟨(h.ab tx h1).1, fun t ht => (h.ab tx h1).2 t (hP t ht)⟩
    · exact ⟨h.lt t ht, fun t' ht' hid => absurd hid (gone t ht hnot t' ht')⟩
  · intro tx hc' hd
    rcases hc tx hc' with h1 | ⟨rfl, t, ht, htid, hph, _⟩ <;> rcases ha tx hd with h2 | ⟨hb, t2, ht2, htid2, _⟩
    · exact h.excl tx h1 h2
    · exact (h.com tx h1).2 t2 ht2 htid2
    · have := (h.ab tx h2).2 t ht htid
      rw [hph] at this; cases this
    · cases hb

theorem CInv.step {s : CSys} (h : CInv s) (e : CEv) : CInv (s.step e) := by
  cases e with
  | begin now ps =>
    simp only [CSys.step, CSys.stepWith, Coordinator.begin]
    by_cases hc : s.c.pending.length ≥ s.c.maxConcurrent
    · rw [if_pos hc]; exact h
    · rw [if_neg hc]
      dsimp only
      · -- the new entry has a fresh id
        have fresh : ∀ t, t ∈ s.c.pending ++ [⟨s.c.nextTx, ps, .preparing, [], now, s.c.prepareTimeout⟩] →
            t ∈ s.c.pending ∨ t.id = s.c.nextTx := fun t ht =>
          (List.mem_append.1 ht).imp_right fun h1 => by rw [List.mem_singleton.1 h1]
        constructor
        · intro t ht
          rcases fresh t ht with ht | ht
          · exact Nat.lt_succ_of_lt (h.lt t ht)
          · exact ht ▸ Nat.lt_succ_self _
        · intro a ha b hb hab
          simp only [List.mem_append, List.mem_singleton] at ha hb
          rcases ha with ha | rfl <;> rcases hb with hb | rfl
          · exact h.uniq a ha b hb hab
          · exact absurd hab (Nat.ne_of_lt (h.lt a ha))
          · exact absurd hab.symm (Nat.ne_of_lt (h.lt b hb))
          · rfl
        · intro tx hc
          obtain ⟨h1, h2⟩ := h.com tx hc
          refine ⟨Nat.lt_succ_of_lt h1, fun t ht => ?_⟩
          rcases fresh t ht with ht | ht
          · exact h2 t ht
          · exact ht ▸ Nat.ne_of_gt h1
        · intro tx hd
          obtain ⟨h1, h2⟩ := h.ab tx hd
          refine ⟨Nat.lt_succ_of_lt h1, fun t ht hid => ?_⟩
          rcases fresh t ht with ht | ht
          · exact h2 t ht hid
          · exact absurd (ht.symm.trans hid) (Nat.ne_of_gt h1)
        · exact fun tx hc hd => h.excl tx hc hd
  | voteP1 tx sh v =>
    simp only [CSys.step, CSys.stepWith]
    cases hp : s.c.recordVoteP1 tx sh v with
    | error e => exact h
    | ok r =>
      obtain ⟨t, t1, c', hr, ht, hid, hph, hid1, hpend, hnext, hab⟩ := recordVoteP1_ok hp
      have key : CInv { s with c := c' } := by
        refine h.rewrite ht hid hph hnext ?_ (hpend ▸ setTx_uniq hid1 h.uniq) ?_
        · intro t' ht'
          rw [hpend] at ht'
          rcases mem_setTx ht' with rfl | h1
          · exact Or.inl ⟨hid1, t, ht, hid⟩
          · exact Or.inr h1
        · rcases hab with ⟨_, h1⟩ | ⟨h1, r', ps, h2⟩
          · exact Or.inl h1
          · refine Or.inr ⟨?_, r', ps, h2⟩
            intro t' ht' hid'
            rw [hpend] at ht'
            rcases mem_setTx ht' with rfl | h3
            · exact h1
            · exact absurd hid' h3.2
      rcases hr with rfl | rfl | rfl <;> exact key
  | voteP3 tx snap f =>
    simp only [CSys.step, CSys.stepWith]
    have hpend : ∀ ph, ∀ t' ∈ setPhase s.c.pending tx ph,
        (t'.id = tx ∧ ∃ u ∈ s.c.pending, u.id = tx) ∨ (t' ∈ s.c.pending ∧ t'.id ≠ tx) := by
      intro ph t' ht'
      rcases mem_setPhase ht' with ⟨u, hu, hu2, rfl⟩ | h1
      · exact Or.inl ⟨hu2, u, hu, hu2⟩
      · exact Or.inr h1
    rcases recordVoteP3_cases s.c tx snap f with he | ⟨t, hf, hph, he | he⟩ <;> rw [he]
    · exact h
    · obtain ⟨ht, hid⟩ := findTx_some hf
      exact h.rewrite ht hid hph rfl (hpend _) (setPhase_uniq h.uniq) (Or.inl rfl)
    · obtain ⟨ht, hid⟩ := findTx_some hf
      refine h.rewrite ht hid hph rfl (hpend _) (setPhase_uniq h.uniq) (Or.inr ⟨?_, _, _, rfl⟩)
      intro t' ht' hid'
      rcases mem_setPhase ht' with ⟨u, hu, hu2, rfl⟩ | h1
      · rfl
      · exact absurd hid' h1.2
  | commit tx =>
    simp only [CSys.step, CSys.stepWith]
    cases hc : s.c.commit tx with
    | error e => exact h
    | ok c' =>
      obtain ⟨t, hf, hph, rfl⟩ := commit_ok hc
      obtain ⟨ht, hid⟩ := findTx_some hf
      refine h.shrink true rfl (fun t' ht' => (mem_removeTx.1 ht').1) ?_ (fun tx' hd => Or.inl hd)
      intro tx' hc'
      refine (List.mem_append.1 hc').imp_right fun h1 => ?_
      cases List.mem_singleton.1 h1
      exact ⟨rfl, t, ht, hid, hph, fun h2 => (mem_removeTx.1 h2).2 hid⟩
  | abort tx =>
    simp only [CSys.step, CSys.stepWith]
    cases hc : s.c.abort tx with
    | error e => exact h
    | ok c' =>
      obtain ⟨t, hf, rfl⟩ := abort_ok hc
      obtain ⟨ht, hid⟩ := findTx_some hf
      refine h.shrink false rfl (fun t' ht' => (mem_removeTx.1 ht').1) (fun tx' hc' => Or.inl hc') ?_
      intro tx' hd
      simp only [CSys.abortDecided, List.mem_append, List.mem_singleton] at hd
      rcases hd with (hd | rfl) | hd
      · exact Or.inl (Or.inl hd)
      · exact Or.inr ⟨rfl, t, ht, hid, fun h2 => (mem_removeTx.1 h2).2 hid⟩
      · exact Or.inl (Or.inr hd)
  | sweep now =>
    refine h.shrink false rfl (fun t' ht' => (List.mem_filter.1 ht').1) (fun tx' hc' => Or.inl hc') ?_
    intro tx' hd
    simp only [CSys.step, CSys.stepWith, Coordinator.cleanupTimeouts, CSys.abortDecided, List.map_append,
      List.mem_append, List.map_map, List.mem_map, List.mem_filter, Function.comp] at hd
    rcases hd with hd | hd | ⟨t, ⟨ht, hto⟩, hid⟩
    · exact Or.inl (Or.inl hd)
    · exact Or.inl (Or.inr (List.mem_map.2 hd))
    · refine Or.inr ⟨rfl, t, ht, hid, fun h2 => ?_⟩
      have := (List.mem_filter.1 h2).2
      rw [hto] at this; cases this
  | drain =>
    refine h.shrink false rfl (fun t' ht' => ht') (fun tx' hc' => Or.inl hc') fun tx' hd => Or.inl ?_
    simp only [CSys.step, CSys.stepWith, Coordinator.takePendingAborts, CSys.abortDecided, List.mem_append,
      List.map_nil, List.not_mem_nil, or_false] at hd
    exact hd

theorem CInv.reach {s0 s : CSys} (h0 : CInv s0) (hr : CReach s0 s) : CInv s := by
  induction hr with
  | refl => exact h0
  | step e _ ih => exact ih.step e

def CSys.run (s : CSys) (es : List CEv) : CSys := es.foldl CSys.step s
def CSys.runOld (s : CSys) (es : List CEv) : CSys := es.foldl CSys.stepOld s

theorem creach_run {s0 s : CSys} (hr : CReach s0 s) (es : List CEv) : CReach s0 (s.run es) := by
  induction es generalizing s with
  | nil => exact hr
  | cons e es ih => exact ih (CReach.step e hr)

end Neumann.TwoPC
