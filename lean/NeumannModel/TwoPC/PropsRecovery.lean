import NeumannModel.TwoPC.LemmasRecovery
/-
  C03 — two-phase commit with the coordinator's STATE-BASED CRASH-RECOVERY / RESOLUTION API
  (`recover`, `get_pending_decisions` + re-send, `complete_commit`, `complete_abort`, `force_resolve`;
  model in `Recovery.lean`).  ONLY theorems and their non-vacuity examples; helpers are in
  `LemmasRecovery.lean`.

  Coordinator restarts are what "the decision never changes afterwards" and "coordinator timeouts
  firing at any point" have to survive: `PropsRestart.lean` states the property over the alphabet
  `ReachK` (these events plus checkpoint / restore cycles, at any clock value), using the invariants
  proved here.  Partition merges (`force_resolve`) stay outside.  The theorems quantify over every state reachable
  from an arbitrary initial configuration through ANY finite sequence of events of the extended
  alphabet `ReachR`: every event of C03's alphabet (`Reach`), plus — at any point, any number of
  times — a coordinator restart (`recover()` on the pending map followed by the re-send of every
  pending decision), `complete_commit(tx)` and `complete_abort(tx)` for any `tx`.
  * What still holds over `ReachR`: a commit decision needs every participant's own YES, nothing is
    applied without a commit decision, nothing is discarded without an abort decision, decisions are
    never retracted, and the phase of a pending entry agrees with its decision.
  * What FAILS over `ReachR` on the code as it is: `decide_once` / atomicity — `cleanup_timeouts` and
    `abort` have no phase test, so a transaction that `recover()` moved to `Committing` (COMMIT sent) is
    aborted by the next timeout sweep or `abort()` call (`…_outside_quantifier_witness`).
  * What restores it: runs in which no sweep finds a timed-out `Committing` entry and `abort()` is not
    called on a `Committing` entry (`ReachRS`, hypothesis `Sys.sparesCommitting`).
  * `force_resolve(tx, true)` (alphabet `ReachRF`) commits with the YES votes of only some participants.
-/
namespace Neumann.TwoPC.PropsRecovery
open Neumann.TwoPC

/-- (a) Over the extended alphabet a commit decision — by `commit()` or by `recover()` moving a
    `Prepared` entry to `Committing`, or re-announcing a `Committing` one — is only ever made for a
    transaction each of whose participants has a YES vote in the pool AND answered YES itself (`cast`),
    whatever forged / mis-tagged votes were delivered. -/
theorem recovery_commit_needs_all_yes (stores : List Store) (tt mc lt : Nat) {s : Sys}
    (hr : ReachR (Sys.init stores tt mc lt) s) (tx : Nat) (hd : (tx, true) ∈ s.decided) :
    ∀ sp ∈ s.specs, sp.id = tx → ∀ sh ∈ sp.shards,
      (∃ h ks, Msg.vote tx sh (.yes h ks) ∈ s.msgs) ∧ (tx, sh, true) ∈ s.cast := by
  intro sp hsp hid sh hsh
  have hv := ((InvR.init stores tt mc lt).reach hr).commitYes tx hd sp hsp hid sh hsh
  refine ⟨hv, ?_⟩
  obtain ⟨h, ks, hm⟩ := hv
  have hV := VInv.reachR hr
  apply hV.yesCast tx sh h ks hm
  have hf := findSpec_of_mem hsp hV.specUniq
  rw [hid] at hf
  simp only [isParticipant, hf, List.contains_iff_mem]
  exact hsh

/-- (b) No participant applies a transaction's writes unless a commit decision was made. -/
theorem recovery_no_apply_without_commit (stores : List Store) (tt mc lt : Nat) {s : Sys}
    (hr : ReachR (Sys.init stores tt mc lt) s) (sh tx : Nat) (ha : (sh, tx) ∈ s.applied) :
    (tx, true) ∈ s.decided :=
  ((InvR.init stores tt mc lt).reach hr).applied sh tx ha

/-- (b) A participant discards a prepared (YES-voted) transaction only after an abort decision. -/
theorem recovery_discard_needs_abort_decision (stores : List Store) (tt mc lt : Nat) {s : Sys}
    (hr : ReachR (Sys.init stores tt mc lt) s) (sh tx : Nat) (hd : (sh, tx) ∈ s.discarded) :
    (tx, false) ∈ s.decided :=
  ((InvR.init stores tt mc lt).reach hr).discarded sh tx hd

/-- Every COMMIT / ABORT message in the pool — first broadcast or re-sent after a restart — carries
    a decision that was made. -/
theorem recovery_decision_messages_carry_decisions (stores : List Store) (tt mc lt : Nat) {s : Sys}
    (hr : ReachR (Sys.init stores tt mc lt) s) (tx sh : Nat) :
    (Msg.commit tx sh ∈ s.msgs → (tx, true) ∈ s.decided) ∧
    (Msg.abort tx sh ∈ s.msgs → (tx, false) ∈ s.decided) :=
  ⟨((InvR.init stores tt mc lt).reach hr).commitMsg tx sh, ((InvR.init stores tt mc lt).reach hr).abortMsg tx sh⟩

/-- Decisions are never retracted: no event of the extended alphabet removes one. -/
theorem recovery_decisions_are_stable (stores : List Store) (tt mc lt : Nat) {s s' : Sys}
    (_hr : ReachR (Sys.init stores tt mc lt) s) (hr' : ReachR s s') (tx : Nat) (b : Bool)
    (hd : (tx, b) ∈ s.decided) : (tx, b) ∈ s'.decided :=
  decided_mono_reachR hr' _ hd

/-- The coordinator's pending map agrees with the decisions made: a pending transaction with a commit
    decision is in phase `Committing` (so `get_pending_decisions` lists it as such and `recover()`
    keeps it there), one with an abort decision is in phase `Aborting`; a `Prepared` or `Committing`
    entry has the YES votes of all its participants. -/
theorem recovery_pending_phase_agrees_with_decision (stores : List Store) (tt mc lt : Nat) {s : Sys}
    (hr : ReachR (Sys.init stores tt mc lt) s) (t : DTx) (ht : t ∈ s.coord.pending) :
    ((t.id, true) ∈ s.decided → t.phase = .committing) ∧
    ((t.id, false) ∈ s.decided → t.phase = .aborting) ∧
    (t.phase = .prepared ∨ t.phase = .committing → t.allVoted = true ∧ t.allYes = true) := by
  have hinv := (InvR.init stores tt mc lt).reach hr
  exact ⟨fun hd => hinv.decCommit t.id hd t ht rfl, fun hd => hinv.decAbort t.id hd t ht rfl,
    hinv.prepOk t ht⟩

/-- Where a decision comes from: every decision one event of the extended alphabet adds is the
    decision for a transaction PENDING before the event, made in one of six ways (`Fresh`): a vote
    delivery that moved a `Preparing` entry to `Aborting`, a timeout sweep over a timed-out entry,
    `commit()` on a `Prepared` entry, `abort()` on any entry, `recover()` leaving the entry `Committing`
    resp. `Aborting`.  `complete_commit` / `complete_abort` never decide anything. -/
theorem recovery_every_new_decision_has_a_source (stores : List Store) (tt mc lt : Nat) {s : Sys}
    (hr : ReachR (Sys.init stores tt mc lt) s) (e : EvR) (ha : s.inAlphabetR e = true) (tx : Nat) (b : Bool)
    (hd : (tx, b) ∈ (s.stepX e).decided) :
    (tx, b) ∈ s.decided ∨ ∃ t ∈ s.coord.pending, t.id = tx ∧ Fresh s e t b :=
  decided_fresh ((InvR.init stores tt mc lt).reach hr) e ha tx b hd

/-- (e) `decide_once` over the extended alphabet, along runs that SPARE `Committing` transactions (no
    timeout sweep finds a timed-out `Committing` entry, `abort()` is not called on a `Committing`
    entry — `Sys.sparesCommitting`, checked at every step): per transaction at most one of {commit,
    abort} is ever decided, and the decision is stable.  Coordinator restarts, re-sends,
    `complete_commit` / `complete_abort`, `commit()` / `abort()` calls, sweeps over entries in every
    other phase, message loss / duplication / reordering and forged votes are all allowed, at any
    point.  Both restrictions are necessary: see the two `…_outside_quantifier_witness` theorems. -/
theorem recovery_decide_once_when_committing_is_spared (stores : List Store) (tt mc lt : Nat) {s s' : Sys}
    (hr : ReachRS (Sys.init stores tt mc lt) s) (hr' : ReachRS s s') (tx : Nat) (b : Bool)
    (hd : (tx, b) ∈ s.decided) : (tx, b) ∈ s'.decided ∧ (tx, !b) ∉ s'.decided := by
  have hinv := (InvRS.init stores tt mc lt).reach (hr.trans hr')
  have hd' := decided_mono_reachR hr'.toR _ hd
  refine ⟨hd', ?_⟩
  cases b with
  | true => exact hinv.excl tx hd'
  | false => exact fun h => hinv.excl tx h hd'

/-- (e) Atomicity across shards along such runs: if one participant applied the writes, no
    participant that voted YES discards them. -/
theorem recovery_applied_implies_no_yes_voter_discards_when_committing_is_spared
    (stores : List Store) (tt mc lt : Nat) {s : Sys}
    (hr : ReachRS (Sys.init stores tt mc lt) s) (sh1 sh2 tx : Nat) (ha : (sh1, tx) ∈ s.applied) :
    (sh2, tx) ∉ s.discarded := by
  have hinv := (InvRS.init stores tt mc lt).reach hr
  exact fun hd => hinv.excl tx (hinv.inv.applied sh1 tx ha) (hinv.inv.discarded sh2 tx hd)

/-! ### non-vacuity: a 2-shard run in which tx 0 is committed BY RECOVERY (both YES recorded, restart,
    COMMIT re-sent, applied on both shards, `complete_commit`) and tx 1 is aborted BY RECOVERY (one vote
    recorded, timed out at the restart, ABORT sent, discarded, `complete_abort`); the sweeps find
    no timed-out `Committing` entry (one runs while tx 0 is `Committing` and not timed out), the one
    `abort()` call names an unknown tx -/

def demoInit : Sys := Sys.init [[(1, 5)], []] 2 100 1000

def demoRun : List EvR :=
  [ .base (.begin [0, 1] [(0, [.put 1 7]), (1, [.put 3 9])] []),   -- msgs 0, 1 = PREPARE(0)
    .base (.deliver 0), .base (.deliver 1),                         -- 2, 3 = the YES votes
    .base (.deliver 2), .base (.deliver 3),                         -- tx 0 is Prepared
    .completeCommit 0,                                              -- refused: not Committing
    .coordRecover,                                                  -- Prepared, all YES -> Committing; 4, 5 = COMMIT(0)
    .base .sweep,                                                   -- tx 0 is Committing but not timed out: spared
    .base (.deliver 4), .base (.deliver 5), .completeCommit 0,
    .base (.begin [0, 1] [(0, [.put 1 8]), (1, [.put 3 1])] []),   -- 6, 7 = PREPARE(1)
    .base (.deliver 6), .base (.deliver 8),                         -- 8 = shard 0's YES, recorded; tx 1 stays Preparing
    .base .sweep,                                                   -- nothing timed out
    .base (.tick 3), .coordRecover,                                 -- timed out -> Aborting; 9, 10 = ABORT(1)
    .base (.coordAbort 7),                                          -- unknown tx: refused
    .coordRecover,                                                  -- the abort decision is re-sent: 11, 12
    .base (.deliver 9), .base (.deliver 12), .completeAbort 1,
    .base .sweep ]                                                  -- nothing pending

example : ReachRS demoInit (demoInit.runX demoRun) := reachRS_run .refl _ (by decide +kernel)
example : ReachR demoInit (demoInit.runX demoRun) := reachR_run .refl _ (by decide +kernel)
example : (demoInit.runX demoRun).decided = [(0, true), (1, false), (1, false)] := by decide +kernel
example : (demoInit.runX demoRun).applied = [(0, 0), (1, 0)] := by decide +kernel
example : (demoInit.runX demoRun).discarded = [(0, 1)] := by decide +kernel
example : (demoInit.runX demoRun).coord.pending.length = 0 := by decide +kernel
example : (demoInit.runX demoRun).cast = [(0, 0, true), (0, 1, true), (1, 0, true)] := by decide +kernel
example : sget ((demoInit.runX demoRun).storeOf 0) 1 = some 7 ∧ sget ((demoInit.runX demoRun).storeOf 1) 3 = some 9 := by
  decide +kernel
-- the restart after both votes: one entry counted `pending_commit`, left `Committing`, listed by `get_pending_decisions`
example : ((demoInit.runX (demoRun.take 6)).coord.recover 0).2 = ⟨0, 1, 0, 0, 0⟩ := by decide +kernel
example : (demoInit.runX (demoRun.take 7)).coord.pendingDecisions = [(0, .committing)] := by decide +kernel
-- the restart after the timeout: one entry counted `timed_out`, left `Aborting`
example : ((demoInit.runX (demoRun.take 16)).coord.recover 3).2 = ⟨0, 0, 0, 1, 0⟩ := by decide +kernel
example : (demoInit.runX (demoRun.take 17)).coord.pendingDecisions = [(1, .aborting)] := by decide +kernel
-- `recovery_pending_phase_agrees_with_decision` is not vacuous: after 7 events tx 0 is pending, decided, Committing
example : ((demoInit.runX (demoRun.take 7)).coord.pending.map (fun t => (t.id, t.phase))) = [(0, .committing)] ∧
    (0, true) ∈ (demoInit.runX (demoRun.take 7)).decided := by decide +kernel

/-! ### what fails over the extended alphabet on the code as it is -/

/-- (c) Over `ReachR`, `decide_once` and atomicity FAIL.  tx 0 over shards 0, 1 collects both YES votes
    (`Prepared`); the coordinator restarts: `recover()` (not timed out, all YES) moves it to
    `Committing`, COMMIT(0) is sent to both shards and commit is decided; the clock passes the
    transaction timeout; the next `cleanup_timeouts` — which removes EVERY timed-out pending entry,
    whatever its phase, and queues an ABORT broadcast — decides abort for the same transaction.  Shard 0
    receives the COMMIT and applies, shard 1 receives the ABORT and rolls back: the shards are split. -/
theorem recover_then_timeout_sweep_changes_decision_outside_quantifier_witness :
    ∃ s, ReachR (Sys.init [[], []] 2 100 1000) s ∧ (0, true) ∈ s.decided ∧ (0, false) ∈ s.decided ∧
      (0, 0) ∈ s.applied ∧ (1, 0) ∈ s.discarded :=
  ⟨(Sys.init [[], []] 2 100 1000).runX
      [ .base (.begin [0, 1] [(0, [.put 1 7]), (1, [.put 3 9])] []),
        .base (.deliver 0), .base (.deliver 1), .base (.deliver 2), .base (.deliver 3),
        .coordRecover, .base (.tick 3), .base .sweep, .base (.deliver 4), .base (.deliver 7) ],
   reachR_run .refl _ (by decide +kernel), by decide +kernel⟩

/-- (c′) The same with `abort()` in the place of the sweep — no clock needed: `abort` accepts an entry
    in ANY phase, also `Committing`.  So both conjuncts of `Sys.sparesCommitting` are necessary. -/
theorem recover_then_abort_changes_decision_outside_quantifier_witness :
    ∃ s, ReachR (Sys.init [[], []] 2 100 1000) s ∧ (0, true) ∈ s.decided ∧ (0, false) ∈ s.decided ∧
      (0, 0) ∈ s.applied ∧ (1, 0) ∈ s.discarded :=
  ⟨(Sys.init [[], []] 2 100 1000).runX
      [ .base (.begin [0, 1] [(0, [.put 1 7]), (1, [.put 3 9])] []),
        .base (.deliver 0), .base (.deliver 1), .base (.deliver 2), .base (.deliver 3),
        .coordRecover, .base (.coordAbort 0), .base (.deliver 4), .base (.deliver 7) ],
   reachR_run .refl _ (by decide +kernel), by decide +kernel⟩

/-- (d) With `force_resolve` in the alphabet, `commit_needs_all_yes` FAILS: `all_yes()` is
    `votes.values().all(Yes)` — true of the votes PRESENT.  tx 0 over shards 0, 1 has only shard 0's YES
    recorded (phase `Preparing`; shard 1 never received its PREPARE); `force_resolve(0, true)` succeeds,
    commit is decided and shard 0 applies its writes, while no YES vote of participant 1 exists and
    shard 1 never answered. -/
theorem force_resolve_commits_without_all_yes_outside_quantifier_witness :
    ∃ s, ReachRF (Sys.init [[], []] 2 100 1000) s ∧ (0, true) ∈ s.decided ∧ (0, 0) ∈ s.applied ∧
      (findSpec s.specs 0).map (·.shards) = some [0, 1] ∧
      (∀ h ks, Msg.vote 0 1 (.yes h ks) ∉ s.msgs) ∧ (∀ b, (0, 1, b) ∉ s.cast) := by
  refine ⟨(Sys.init [[], []] 2 100 1000).runX
      [ .base (.begin [0, 1] [(0, [.put 1 7]), (1, [.put 3 9])] []),
        .base (.deliver 0), .base (.deliver 2), .forceResolve 0 true, .base (.deliver 3) ],
    reachRF_run .refl _ (by decide +kernel), by decide +kernel, by decide +kernel, by decide +kernel, ?_, ?_⟩
  · intro h ks hm
    have e : ((Sys.init [[], []] 2 100 1000).runX
      [ .base (.begin [0, 1] [(0, [.put 1 7]), (1, [.put 3 9])] []),
        .base (.deliver 0), .base (.deliver 2), .forceResolve 0 true, .base (.deliver 3) ]).msgs =
        [.prepare 0 0 [.put 1 7], .prepare 0 1 [.put 3 9], .vote 0 0 (.yes 0 [1]), .commit 0 0, .commit 0 1] := by
      decide +kernel
    rw [e] at hm
    simp at hm
  · intro b hm
    have e : ((Sys.init [[], []] 2 100 1000).runX
      [ .base (.begin [0, 1] [(0, [.put 1 7]), (1, [.put 3 9])] []),
        .base (.deliver 0), .base (.deliver 2), .forceResolve 0 true, .base (.deliver 3) ]).cast =
        [(0, 0, true)] := by
      decide +kernel
    rw [e] at hm
    simp at hm

end Neumann.TwoPC.PropsRecovery
