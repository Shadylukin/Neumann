import NeumannModel.TwoPC.LemmasStep
/-
  C03 — helper lemmas: the system invariant `InvA` (decisions / messages / votes) and its
  preservation by every event of the property's alphabet.  The participant-side invariant
  (locks / undo images) lives in `LemmasPart.lean`.
-/
namespace Neumann.TwoPC

theorem findTx_some {ps : List DTx} {tx : Nat} {t : DTx} (h : findTx ps tx = some t) :
    t ∈ ps ∧ t.id = tx := by
  induction ps with
  | nil => cases h
  | cons a r ih =>
    simp only [findTx] at h
    split at h
    · cases h; exact ⟨by simp, by assumption⟩
    · exact ⟨by simp [(ih h).1], (ih h).2⟩

theorem findTx_none {ps : List DTx} {tx : Nat} (h : findTx ps tx = none) :
    ∀ t ∈ ps, t.id ≠ tx := by
  induction ps with
  | nil => simp
  | cons a r ih =>
    simp only [findTx] at h
    split at h
    · cases h
    · intro t ht
      rcases List.mem_cons.1 ht with rfl | ht
      · assumption
      · exact ih h t ht

theorem mem_removeTx {ps : List DTx} {tx : Nat} {t : DTx} :
    t ∈ removeTx ps tx ↔ t ∈ ps ∧ t.id ≠ tx := by
  simp [removeTx]

theorem mem_setTx {ps : List DTx} {tx : Nat} {t' t : DTx} (h : t ∈ setTx ps tx t') :
    t = t' ∨ (t ∈ ps ∧ t.id ≠ tx) := by
  simp only [setTx, List.mem_map] at h
  obtain ⟨u, hu, rfl⟩ := h
  split
  · exact Or.inl rfl
  · exact Or.inr ⟨hu, by assumption⟩

theorem setTx_uniq {ps : List DTx} {tx : Nat} {t1 : DTx} (h1 : t1.id = tx)
    (hu : ∀ a ∈ ps, ∀ b ∈ ps, a.id = b.id → a = b) :
    ∀ a ∈ setTx ps tx t1, ∀ b ∈ setTx ps tx t1, a.id = b.id → a = b := by
  intro a ha b hb hab
  rcases mem_setTx ha with rfl | ⟨ha, hna⟩ <;> rcases mem_setTx hb with rfl | ⟨hb, hnb⟩
  · rfl
  · exact absurd (hab.symm.trans h1) hnb
  · exact absurd (hab.trans h1) hna
  · exact hu a ha b hb hab

theorem mem_ite_append {α : Type} {c : Prop} [Decidable c] {l : List α} {a x : α}
    (h : x ∈ if c then l ++ [a] else l) : x ∈ l ∨ x = a := by
  split at h
  · exact (List.mem_append.1 h).imp_right List.mem_singleton.1
  · exact Or.inl h

theorem hasVote_mem {t : DTx} {sh : Nat} (h : t.hasVote sh = true) : ∃ e ∈ t.votes, e.1 = sh := by
  simp only [DTx.hasVote, List.any_eq_true] at h
  obtain ⟨e, he, heq⟩ := h
  exact ⟨e, he, by simpa using heq⟩

theorem mem_of_getElem? {α : Type} {l : List α} {i : Nat} {a : α} (h : l[i]? = some a) : a ∈ l :=
  List.mem_of_getElem? h

theorem recordVote_ok {c c' : Coordinator} {tx sh : Nat} {v : Vote} {f : Nat → Nat → Bool}
    {r : Option Phase} (h : c.recordVote tx sh v f = .ok (c', r)) :
    ∃ t t1, t ∈ c.pending ∧ t.id = tx ∧ t.phase = .preparing ∧
      c'.pending = setTx c.pending tx t1 ∧ c'.nextTx = c.nextTx ∧
      t1.id = tx ∧ t1.participants = t.participants ∧ t1.votes = t.votes ++ [(sh, v)] ∧
      ((t1.phase = .preparing ∧ c'.pendingAborts = c.pendingAborts) ∨
       (t1.phase = .prepared ∧ c'.pendingAborts = c.pendingAborts ∧ t1.allVoted = true ∧ t1.allYes = true) ∨
       (t1.phase = .aborting ∧ ∃ reason, c'.pendingAborts = c.pendingAborts ++ [(tx, reason, t.participants)])) := by
  unfold Coordinator.recordVote at h
  cases hf : findTx c.pending tx with
  | none => rw [hf] at h; cases h
  | some t =>
    obtain ⟨hmem, hid⟩ := findTx_some hf
    rw [hf] at h
    dsimp only at h
    by_cases hne : (t.phase != .preparing) = true
    · rw [if_pos hne] at h; cases h
    · rw [if_neg hne] at h
      have hph : t.phase = .preparing := by simpa using hne
      by_cases hv : t.hasVote sh = true
      · rw [if_pos hv] at h; cases h
      · rw [if_neg hv] at h
        by_cases hav : DTx.allVoted { t with votes := t.votes ++ [(sh, v)] } = true
        · rw [if_pos hav] at h
          by_cases hay : DTx.allYes { t with votes := t.votes ++ [(sh, v)] } = true
          · rw [if_pos hay] at h
            by_cases hcc : crossConflict f (t.votes ++ [(sh, v)]) = true
            · rw [if_pos hcc] at h
              cases h
              exact ⟨t, _, hmem, hid, hph, rfl, rfl, hid, rfl, rfl, Or.inr (Or.inr ⟨rfl, _, rfl⟩)⟩
            · rw [if_neg hcc] at h
              cases h
              exact ⟨t, _, hmem, hid, hph, rfl, rfl, hid, rfl, rfl, Or.inr (Or.inl ⟨rfl, rfl, hav, hay⟩)⟩
          · rw [if_neg hay] at h
            cases h
            exact ⟨t, _, hmem, hid, hph, rfl, rfl, hid, rfl, rfl, Or.inr (Or.inr ⟨rfl, _, rfl⟩)⟩
        · rw [if_neg hav] at h
          cases h
          exact ⟨t, _, hmem, hid, hph, rfl, rfl, hid, rfl, rfl, Or.inl ⟨hph, rfl⟩⟩

theorem commit_ok {c c' : Coordinator} {tx : Nat} (h : c.commit tx = .ok c') :
    ∃ t, findTx c.pending tx = some t ∧ t.phase = .prepared ∧
      c' = { c with pending := removeTx c.pending tx } := by
  unfold Coordinator.commit at h
  split at h
  · cases h
  · rename_i t ht
    split at h
    · cases h
    · rename_i hph
      cases h
      exact ⟨t, ht, by simpa using hph, rfl⟩

theorem abort_ok {c c' : Coordinator} {tx : Nat} (h : c.abort tx = .ok c') :
    ∃ t, findTx c.pending tx = some t ∧ c' = { c with pending := removeTx c.pending tx } := by
  unfold Coordinator.abort at h
  split at h
  · cases h
  · rename_i t ht
    cases h
    exact ⟨t, ht, rfl⟩

structure InvA (s : Sys) : Prop where
  commitMsg : ∀ tx sh, Msg.commit tx sh ∈ s.msgs → (tx, true) ∈ s.decided
  abortMsg : ∀ tx sh, Msg.abort tx sh ∈ s.msgs → (tx, false) ∈ s.decided
  decAbort : ∀ tx, (tx, false) ∈ s.decided → ∀ t ∈ s.coord.pending, t.id = tx → t.phase = .aborting
  decCommit : ∀ tx, (tx, true) ∈ s.decided → ∀ t ∈ s.coord.pending, t.id ≠ tx
  pendLt : ∀ t ∈ s.coord.pending, t.id < s.coord.nextTx
  pendUniq : ∀ t ∈ s.coord.pending, ∀ t' ∈ s.coord.pending, t.id = t'.id → t = t'
  decLt : ∀ tx b, (tx, b) ∈ s.decided → tx < s.coord.nextTx
  excl : ∀ tx, (tx, true) ∈ s.decided → (tx, false) ∉ s.decided
  paEmpty : s.coord.pendingAborts = []
  voteMsg : ∀ t ∈ s.coord.pending, ∀ e ∈ t.votes, Msg.vote t.id e.1 e.2 ∈ s.msgs
  prepOk : ∀ t ∈ s.coord.pending, t.phase = .prepared → t.allVoted = true ∧ t.allYes = true
  specLt : ∀ sp ∈ s.specs, sp.id < s.coord.nextTx
  specPart : ∀ t ∈ s.coord.pending, ∀ sp ∈ s.specs, sp.id = t.id → sp.shards = t.participants
  commitYes : ∀ tx, (tx, true) ∈ s.decided → ∀ sp ∈ s.specs, sp.id = tx →
      ∀ sh ∈ sp.shards, ∃ h ks, Msg.vote tx sh (.yes h ks) ∈ s.msgs
  applied : ∀ sh tx, (sh, tx) ∈ s.applied → (tx, true) ∈ s.decided
  discarded : ∀ sh tx, (sh, tx) ∈ s.discarded → (tx, false) ∈ s.decided

theorem InvA.init (stores : List Store) (a b c : Nat) : InvA (Sys.init stores a b c) := by
  -- every field but `paEmpty` speaks of a member of an empty list
  constructor <;> first | rfl | (intros; contradiction)

/-- Every event except `begin` is an instance.  `b` is the kind of the step's new decisions: one step
    never decides both ways. -/
theorem InvA.next {s s' : Sys} (h : InvA s) (b : Bool) (hs : s'.specs = s.specs)
    (hn : s'.coord.nextTx = s.coord.nextTx) (hpa : s'.coord.pendingAborts = [])
    (hm0 : ∀ m ∈ s.msgs, m ∈ s'.msgs) (hd0 : ∀ x ∈ s.decided, x ∈ s'.decided)
    (hP : ∀ t' ∈ s'.coord.pending, t' ∈ s.coord.pending ∨
      ∃ t ∈ s.coord.pending, t.phase = .preparing ∧ t'.id = t.id ∧ t'.participants = t.participants ∧
        (∀ e ∈ t'.votes, Msg.vote t.id e.1 e.2 ∈ s'.msgs) ∧
        (t'.phase = .prepared → t'.allVoted = true ∧ t'.allYes = true))
    (hu : ∀ a ∈ s'.coord.pending, ∀ b ∈ s'.coord.pending, a.id = b.id → a = b)
    (hd : ∀ tx b', (tx, b') ∈ s'.decided → (tx, b') ∈ s.decided ∨
      (b' = b ∧ ∃ t ∈ s.coord.pending, t.id = tx ∧ (b = true → t.phase = .prepared) ∧
        ∀ t' ∈ s'.coord.pending, t'.id = tx → b = false ∧ t'.phase = .aborting))
    (hm : ∀ m ∈ s'.msgs, m ∈ s.msgs ∨ (∃ tx sh v, m = Msg.vote tx sh v) ∨
      ∃ tx sh, (m = Msg.commit tx sh ∧ (tx, true) ∈ s'.decided) ∨ (m = Msg.abort tx sh ∧ (tx, false) ∈ s'.decided))
    (ha : ∀ sh tx, (sh, tx) ∈ s'.applied → (sh, tx) ∈ s.applied ∨ (tx, true) ∈ s'.decided)
    (hdi : ∀ sh tx, (sh, tx) ∈ s'.discarded → (sh, tx) ∈ s.discarded ∨ (tx, false) ∈ s'.decided) :
    InvA s' := by
  have hold : ∀ t' ∈ s'.coord.pending,
      ∃ t ∈ s.coord.pending, t'.id = t.id ∧ t'.participants = t.participants := by
    intro t' ht'
    rcases hP t' ht' with h1 | ⟨t, ht, _, hid, hpart, _⟩
    · exact ⟨t', h1, rfl, rfl⟩
    · exact ⟨t, ht, hid, hpart⟩
  constructor
  · intro tx sh hmm
    rcases hm _ hmm with h1 | ⟨_, _, _, h1⟩ | ⟨_, _, ⟨h1, h2⟩ | ⟨h1, _⟩⟩
    · exact hd0 _ (h.commitMsg tx sh h1)
    · cases h1
    · cases h1; exact h2
    · cases h1
  · intro tx sh hmm
    rcases hm _ hmm with h1 | ⟨_, _, _, h1⟩ | ⟨_, _, ⟨h1, _⟩ | ⟨h1, h2⟩⟩
    · exact hd0 _ (h.abortMsg tx sh h1)
    · cases h1
    · cases h1
    · cases h1; exact h2
  · intro tx hdx t' ht' hid
    rcases hd tx false hdx with h1 | ⟨_, _, _, _, _, hall⟩
    · rcases hP t' ht' with h2 | ⟨t, ht, hph, hid', _⟩
      · exact h.decAbort tx h1 t' h2 hid
      · have := h.decAbort tx h1 t ht (hid'.symm.trans hid)
        rw [hph] at this; cases this
    · exact (hall t' ht' hid).2
  · intro tx hdx t' ht' hid
    rcases hd tx true hdx with h1 | ⟨rfl, _, _, _, _, hall⟩
    · obtain ⟨t, ht, hid', _⟩ := hold t' ht'
      exact h.decCommit tx h1 t ht (hid'.symm.trans hid)
    · cases (hall t' ht' hid).1
  · intro t' ht'
    obtain ⟨t, ht, hid', _⟩ := hold t' ht'
    rw [hn, hid']; exact h.pendLt t ht
  · exact hu
  · intro tx b' hdx
    rw [hn]
    rcases hd tx b' hdx with h1 | ⟨_, t, ht, rfl, _⟩
    · exact h.decLt tx b' h1
    · exact h.pendLt t ht
  · intro tx hdt hdf
    rcases hd tx true hdt with h1 | ⟨rfl, t, ht, htid, hph, _⟩ <;>
      rcases hd tx false hdf with h2 | ⟨hb, t2, ht2, htid2, _⟩
    · exact h.excl tx h1 h2
    · exact h.decCommit tx h1 t2 ht2 htid2
    · have := h.decAbort tx h2 t ht htid
      rw [hph rfl] at this; cases this
    · cases hb
  · exact hpa
  · intro t' ht' e he
    rcases hP t' ht' with h1 | ⟨t, _, _, hid', _, hv, _⟩
    · exact hm0 _ (h.voteMsg t' h1 e he)
    · rw [hid']; exact hv e he
  · intro t' ht' hph
    rcases hP t' ht' with h1 | ⟨_, _, _, _, _, _, hp⟩
    · exact h.prepOk t' h1 hph
    · exact hp hph
  · rw [hs, hn]; exact h.specLt
  · rw [hs]
    intro t' ht' sp hsp hid
    obtain ⟨t, ht, hid', hpart⟩ := hold t' ht'
    rw [hpart]; exact h.specPart t ht sp hsp (hid.trans hid')
  · rw [hs]
    intro tx hdx sp hsp hid sh hsh
    have old : (∃ hh ks, Msg.vote tx sh (.yes hh ks) ∈ s.msgs) → ∃ hh ks, Msg.vote tx sh (.yes hh ks) ∈ s'.msgs :=
      fun ⟨hh, ks, hv⟩ => ⟨hh, ks, hm0 _ hv⟩
    apply old
    rcases hd tx true hdx with h1 | ⟨rfl, t, ht, htid, hph, _⟩
    · exact h.commitYes tx h1 sp hsp hid sh hsh
    · -- a `Prepared` entry has a YES vote of every participant, and its votes are in the pool
      obtain ⟨hav, hay⟩ := h.prepOk t ht (hph rfl)
      rw [h.specPart t ht sp hsp (hid.trans htid.symm)] at hsh
      obtain ⟨e, he, hesh⟩ := hasVote_mem (List.all_eq_true.1 hav sh hsh)
      have hyes : e.2.isYes = true := List.all_eq_true.1 hay e he
      have hv := h.voteMsg t ht e he
      rw [hesh, htid] at hv
      cases hev : e.2 with
      | yes hh ks => rw [hev] at hv; exact ⟨hh, ks, hv⟩
      | no => rw [hev] at hyes; cases hyes
      | conflict o => rw [hev] at hyes; cases hyes
  · intro sh tx hx
    rcases ha sh tx hx with h1 | h1
    · exact hd0 _ (h.applied sh tx h1)
    · exact h1
  · intro sh tx hx
    rcases hdi sh tx hx with h1 | h1
    · exact hd0 _ (h.discarded sh tx h1)
    · exact h1

theorem InvA.begin {s : Sys} (h : InvA s) (shards : List Nat) (ops : List (Nat × List Op))
    (sim : List (Nat × Nat)) :
    InvA { s with
      coord := { s.coord with
        pending := s.coord.pending ++ [⟨s.coord.nextTx, shards, .preparing, [], s.now, s.coord.prepareTimeout⟩],
        nextTx := s.coord.nextTx + 1 },
      specs := s.specs ++ [⟨s.coord.nextTx, shards, ops, sim⟩],
      msgs := s.msgs ++ shards.map (fun sh => Msg.prepare s.coord.nextTx sh
                (TxSpec.opsFor ⟨s.coord.nextTx, shards, ops, sim⟩ sh)) } := by
  -- the new entry and the new spec carry the fresh id `nextTx`; every pending, decided and spec id is below it
  have hprep : ∀ m, m ∈ s.msgs ++ shards.map (fun sh => Msg.prepare s.coord.nextTx sh
      (TxSpec.opsFor ⟨s.coord.nextTx, shards, ops, sim⟩ sh)) →
      m ∈ s.msgs ∨ ∃ a b c, m = Msg.prepare a b c := by
    intro m hm
    refine (List.mem_append.1 hm).imp_right fun h1 => ?_
    obtain ⟨sh, _, rfl⟩ := List.mem_map.1 h1
    exact ⟨_, _, _, rfl⟩
  constructor
  · intro tx sh hm
    rcases hprep _ hm with h1 | ⟨_, _, _, h1⟩
    · exact h.commitMsg tx sh h1
    · cases h1
  · intro tx sh hm
    rcases hprep _ hm with h1 | ⟨_, _, _, h1⟩
    · exact h.abortMsg tx sh h1
    · cases h1
  · intro tx hd t ht hid
    simp only [List.mem_append, List.mem_singleton] at ht
    rcases ht with h1 | rfl
    · exact h.decAbort tx hd t h1 hid
    · exact absurd hid.symm (Nat.ne_of_lt (h.decLt tx false hd))
  · intro tx hd t ht
    simp only [List.mem_append, List.mem_singleton] at ht
    rcases ht with h1 | rfl
    · exact h.decCommit tx hd t h1
    · exact Nat.ne_of_gt (h.decLt tx true hd)
  · intro t ht
    simp only [List.mem_append, List.mem_singleton] at ht
    rcases ht with h1 | rfl
    · exact Nat.lt_succ_of_lt (h.pendLt t h1)
    · exact Nat.lt_succ_self _
  · intro t ht t' ht' hid
    simp only [List.mem_append, List.mem_singleton] at ht ht'
    rcases ht with h1 | rfl <;> rcases ht' with h2 | rfl
    · exact h.pendUniq t h1 t' h2 hid
    · exact absurd hid (Nat.ne_of_lt (h.pendLt t h1))
    · exact absurd hid.symm (Nat.ne_of_lt (h.pendLt t' h2))
    · rfl
  · exact fun tx b hd => Nat.lt_succ_of_lt (h.decLt tx b hd)
  · exact h.excl
  · exact h.paEmpty
  · intro t ht e he
    simp only [List.mem_append, List.mem_singleton] at ht
    rcases ht with h1 | rfl
    · exact List.mem_append_left _ (h.voteMsg t h1 e he)
    · cases he
  · intro t ht hph
    simp only [List.mem_append, List.mem_singleton] at ht
    rcases ht with h1 | rfl
    · exact h.prepOk t h1 hph
    · cases hph
  · intro sp hsp
    simp only [List.mem_append, List.mem_singleton] at hsp
    rcases hsp with h1 | rfl
    · exact Nat.lt_succ_of_lt (h.specLt sp h1)
    · exact Nat.lt_succ_self _
  · intro t ht sp hsp hid
    simp only [List.mem_append, List.mem_singleton] at ht hsp
    rcases ht with h1 | rfl <;> rcases hsp with h2 | rfl
    · exact h.specPart t h1 sp h2 hid
    · exact absurd hid.symm (Nat.ne_of_lt (h.pendLt t h1))
    · exact absurd hid (Nat.ne_of_lt (h.specLt sp h2))
    · rfl
  · intro tx hd sp hsp hid sh hsh
    simp only [List.mem_append, List.mem_singleton] at hsp
    rcases hsp with h1 | rfl
    · obtain ⟨hh, ks, hv⟩ := h.commitYes tx hd sp h1 hid sh hsh
      exact ⟨hh, ks, List.mem_append_left _ hv⟩
    · exact absurd hid.symm (Nat.ne_of_lt (h.decLt tx true hd))
  · exact h.applied
  · exact h.discarded

theorem frame_msgs_same (l : List Msg) :
    ∀ m, m ∈ l ↔ (m ∈ l ∨ ∃ tx sh v, m = Msg.vote tx sh v ∧ m ∈ l) := by
  intro m
  constructor
  · intro h; exact Or.inl h
  · rintro (h | ⟨_, _, _, _, h⟩) <;> exact h

theorem frame_msgs_vote (l : List Msg) (tx sh : Nat) (v : Vote) :
    ∀ m, m ∈ l ++ [Msg.vote tx sh v] ↔
      (m ∈ l ∨ ∃ tx' sh' v', m = Msg.vote tx' sh' v' ∧ m ∈ l ++ [Msg.vote tx sh v]) := by
  intro m
  constructor
  · intro h
    rcases List.mem_append.1 h with h1 | h1
    · exact Or.inl h1
    · exact Or.inr ⟨tx, sh, v, by simpa using h1, h⟩
  · rintro (h | ⟨_, _, _, _, h⟩)
    · exact List.mem_append.2 (Or.inl h)
    · exact h

theorem InvA.frame {s s' : Sys} (h : InvA s) (hc : s'.coord = s.coord) (hs : s'.specs = s.specs)
    (hd : s'.decided = s.decided)
    (hm : ∀ m, m ∈ s'.msgs ↔ (m ∈ s.msgs ∨ ∃ tx sh v, m = Msg.vote tx sh v ∧ m ∈ s'.msgs))
    (ha : ∀ sh tx, (sh, tx) ∈ s'.applied → (sh, tx) ∈ s.applied ∨ (tx, true) ∈ s.decided)
    (hdi : ∀ sh tx, (sh, tx) ∈ s'.discarded → (sh, tx) ∈ s.discarded ∨ (tx, false) ∈ s.decided) :
    InvA s' := by
  refine h.next false hs (by rw [hc]) (by rw [hc]; exact h.paEmpty) (fun m hm' => (hm m).2 (Or.inl hm'))
    (by rw [hd]; exact fun _ hx => hx) (by rw [hc]; exact fun _ ht => Or.inl ht) (by rw [hc]; exact h.pendUniq)
    (by rw [hd]; exact fun _ _ hx => Or.inl hx) ?_ (by rw [hd]; exact ha) (by rw [hd]; exact hdi)
  intro m hm'
  rcases (hm m).1 hm' with h1 | ⟨tx, sh, v, h1, _⟩
  · exact Or.inl h1
  · exact Or.inr (Or.inl ⟨tx, sh, v, h1⟩)

theorem InvA.step {s : Sys} (h : InvA s) (e : Ev) (ha : s.inAlphabet e = true) : InvA (s.step e) := by
  have he := s.eff e
  generalize s.step e = s' at he
  cases he with
  | same => exact h
  | begin shards ops sim => exact h.begin shards ops sim
  | tick d =>
    exact h.frame rfl rfl rfl (frame_msgs_same _) (fun _ _ hx => Or.inl hx) (fun _ _ hx => Or.inl hx)
  | forge | prepare =>
    exact h.frame rfl rfl rfl (frame_msgs_vote _ _ _ _) (fun _ _ hx => Or.inl hx) (fun _ _ hx => Or.inl hx)
  | @commit i tx sh p hm hp =>
    -- an application is logged only on delivery of a COMMIT, which is in the pool only after the decision
    refine h.frame rfl rfl rfl (frame_msgs_same _) (fun sh' tx' hx => ?_) (fun _ _ hx => Or.inl hx)
    refine (mem_ite_append hx).imp_right fun e => ?_
    cases e; exact h.commitMsg tx sh (mem_of_getElem? hm)
  | @abort i tx sh p hm hp =>
    refine h.frame rfl rfl rfl (frame_msgs_same _) (fun _ _ hx => Or.inl hx) (fun sh' tx' hx => ?_)
    refine (mem_ite_append hx).imp_right fun e => ?_
    cases e; exact h.abortMsg tx sh (mem_of_getElem? hm)
  | @vote i tx sh v c r hm hr =>
    obtain ⟨t, t1, htm, htid, htph, hpend, hnext, h1id, h1part, h1votes, hcases⟩ := recordVote_ok hr
    refine h.next false rfl hnext rfl (fun _ => List.mem_append_left _) (fun _ => List.mem_append_left _)
      ?_ ?_ ?_ (fun m hm' => (mem_drain_msgs hm').imp_right fun ⟨tx', sh', e, hd⟩ => Or.inr ⟨tx', sh', Or.inr ⟨e, hd⟩⟩)
      (fun _ _ hx => Or.inl hx) (fun _ _ hx => Or.inl hx)
    · intro t' ht'
      have ht' : t' ∈ c.pending := ht'
      rw [hpend] at ht'
      rcases mem_setTx ht' with rfl | ⟨h1, _⟩
      · refine Or.inr ⟨t, htm, htph, h1id.trans htid.symm, h1part, ?_, ?_⟩
        · intro e he
          apply List.mem_append_left
          rw [h1votes] at he
          rcases List.mem_append.1 he with h2 | h2
          · exact h.voteMsg t htm e h2
          · cases List.mem_singleton.1 h2
            rw [htid]; exact mem_of_getElem? hm
        · rcases hcases with ⟨e, _⟩ | ⟨_, _, e1, e2⟩ | ⟨e, _⟩
          · intro h'; rw [e] at h'; cases h'
          · exact fun _ => ⟨e1, e2⟩
          · intro h'; rw [e] at h'; cases h'
      · exact Or.inl h1
    · show ∀ a ∈ c.pending, ∀ b ∈ c.pending, a.id = b.id → a = b
      rw [hpend]; exact setTx_uniq h1id h.pendUniq
    · -- an abort is queued only together with phase `Aborting`, and it is the abort of `tx`
      intro tx' b' hd
      refine (mem_drain_decided hd).imp_right fun ⟨hb, a, ha, hid⟩ => ?_
      rcases hcases with ⟨_, e⟩ | ⟨_, e, _, _⟩ | ⟨e1, reason, e⟩ <;> rw [e, h.paEmpty] at ha
      · cases ha
      · cases ha
      · cases List.mem_singleton.1 ha
        refine ⟨hb, t, htm, htid.trans hid, nofun, fun t' ht' hid' => ?_⟩
        have ht' : t' ∈ c.pending := ht'
        rw [hpend] at ht'
        rcases mem_setTx ht' with rfl | ⟨_, h2⟩
        · exact ⟨rfl, e1⟩
        · exact absurd (hid'.trans hid.symm) h2
  | sweep =>
    have hsub : ∀ t' ∈ s.coord.pending.filter (fun t => !t.timedOut s.now),
        t' ∈ s.coord.pending ∧ t'.timedOut s.now = false := by
      intro t' ht'
      have := List.mem_filter.1 ht'
      exact ⟨this.1, by simpa using this.2⟩
    refine h.next false rfl rfl rfl (fun _ => List.mem_append_left _) (fun _ => List.mem_append_left _)
      (fun t' ht' => Or.inl (hsub t' ht').1) (fun a ha b hb => h.pendUniq a (hsub a ha).1 b (hsub b hb).1) ?_
      (fun m hm' => (mem_drain_msgs hm').imp_right fun ⟨tx', sh', e, hd⟩ => Or.inr ⟨tx', sh', Or.inr ⟨e, hd⟩⟩)
      (fun _ _ hx => Or.inl hx) (fun _ _ hx => Or.inl hx)
    intro tx' b' hd
    refine (mem_drain_decided hd).imp_right fun ⟨hb, a, ha, hid⟩ => ?_
    simp only [Coordinator.cleanupTimeouts, h.paEmpty, List.nil_append, List.mem_map, List.mem_filter] at ha
    obtain ⟨t0, ⟨ht0, hto⟩, rfl⟩ := ha
    refine ⟨hb, t0, ht0, hid, nofun, ?_⟩
    -- a timed-out entry is removed
    intro t' ht' hid'
    obtain ⟨h1, h2⟩ := hsub t' ht'
    cases h.pendUniq t' h1 t0 ht0 (hid'.trans hid.symm)
    rw [h2] at hto; cases hto
  | @coordCommit tx t hf hph =>
    obtain ⟨htm, htid⟩ := findTx_some hf
    refine h.next true rfl rfl h.paEmpty (fun _ => List.mem_append_left _) (fun _ => List.mem_append_left _)
      (fun t' ht' => Or.inl (mem_removeTx.1 ht').1)
      (fun a ha b hb => h.pendUniq a (mem_removeTx.1 ha).1 b (mem_removeTx.1 hb).1) ?_ ?_
      (fun _ _ hx => Or.inl hx) (fun _ _ hx => Or.inl hx)
    · intro tx' b' hd
      refine (List.mem_append.1 hd).imp_right fun h1 => ?_
      cases List.mem_singleton.1 h1
      exact ⟨rfl, t, htm, htid, fun _ => hph, fun t' ht' hid' => absurd hid' (mem_removeTx.1 ht').2⟩
    · intro m hm'
      refine (List.mem_append.1 hm').imp_right fun h1 => ?_
      obtain ⟨sh, _, rfl⟩ := List.mem_map.1 h1
      exact Or.inr ⟨tx, sh, Or.inl ⟨rfl, List.mem_append_right _ (List.mem_singleton.2 rfl)⟩⟩
  | @coordAbort tx t hf =>
    obtain ⟨htm, htid⟩ := findTx_some hf
    refine h.next false rfl rfl h.paEmpty (fun _ => List.mem_append_left _) (fun _ => List.mem_append_left _)
      (fun t' ht' => Or.inl (mem_removeTx.1 ht').1)
      (fun a ha b hb => h.pendUniq a (mem_removeTx.1 ha).1 b (mem_removeTx.1 hb).1) ?_ ?_
      (fun _ _ hx => Or.inl hx) (fun _ _ hx => Or.inl hx)
    · intro tx' b' hd
      refine (List.mem_append.1 hd).imp_right fun h1 => ?_
      cases List.mem_singleton.1 h1
      exact ⟨rfl, t, htm, htid, nofun, fun t' ht' hid' => absurd hid' (mem_removeTx.1 ht').2⟩
    · intro m hm'
      refine (List.mem_append.1 hm').imp_right fun h1 => ?_
      obtain ⟨sh, _, rfl⟩ := List.mem_map.1 h1
      exact Or.inr ⟨tx, sh, Or.inr ⟨rfl, List.mem_append_right _ (List.mem_singleton.2 rfl)⟩⟩
  | cleanupStale => cases ha
  | recover => cases ha

theorem InvA.deliver {s : Sys} (h : InvA s) (i : Nat) : InvA (s.step (.deliver i)) :=
  h.step (.deliver i) rfl

theorem InvA.reach {s0 s : Sys} (h0 : InvA s0) (hr : Reach s0 s) : InvA s := by
  induction hr with
  | refl => exact h0
  | step e _ ha ih => exact ih.step e ha

def Sys.allIn (s : Sys) : List Ev → Bool
  | [] => true
  | e :: es => s.inAlphabet e && (s.step e).allIn es

theorem reach_run {s0 s : Sys} (hr : Reach s0 s) (es : List Ev) (h : s.allIn es = true) :
    Reach s0 (s.run es) := by
  induction es generalizing s with
  | nil => exact hr
  | cons e es ih =>
    simp only [Sys.allIn, Bool.and_eq_true] at h
    exact ih (Reach.step e hr h.1) h.2

theorem reachExt_run {s0 s : Sys} (hr : ReachExt s0 s) (es : List Ev) : ReachExt s0 (s.run es) := by
  induction es generalizing s with
  | nil => exact hr
  | cons e es ih => exact ih (ReachExt.step e hr)

theorem Reach.trans {s0 s s' : Sys} (h1 : Reach s0 s) (h2 : Reach s s') : Reach s0 s' := by
  induction h2 with
  | refl => exact h1
  | step e _ ha ih => exact Reach.step e ih ha

theorem decided_mono (s : Sys) (e : Ev) (x : Nat × Bool) (hx : x ∈ s.decided) : x ∈ (s.step e).decided :=
  (s.eff e).decided_mono hx

theorem decided_mono_reach {s s' : Sys} (h : Reach s s') (x : Nat × Bool) (hx : x ∈ s.decided) :
    x ∈ s'.decided := by
  induction h with
  | refl => exact hx
  | step e _ _ ih => exact decided_mono _ e x ih

end Neumann.TwoPC
