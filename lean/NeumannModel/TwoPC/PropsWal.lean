import NeumannModel.TwoPC.LemmasWal
/-
  C03 — "the coordinator decides at most once … and the decision never changes afterwards", with
  "coordinator timeouts firing at any point", across WAL RESTARTS: crash of the coordinator process and
  a new process on the same write-ahead log — `recover_from_wal()`, then `recover()`, then the re-send of
  every pending decision — at any point, any number of times (model: `Wal.lean`; what each coordinator
  call appends, what `TxRecoveryState::from_entries` reads back, what `recover_from_wal` restores).  ONLY
  theorems and their non-vacuity examples; helpers are in `LemmasWal.lean`.

  The theorems are stated (1) about the replay itself, for EVERY log (any list of records, also ones no
  coordinator would write) — only a transaction with a logged `PhaseChange` is restored, in the phase of
  its last `PhaseChange`, whatever votes the log holds for it —, and (2) about every state reachable from
  an arbitrary initial configuration through ANY finite sequence of events of `ReachW`: every event of the
  restart alphabet `ReachK` (C03's own events — deliveries in any order / multiplicity, timeout sweeps,
  clock ticks, commit() / abort() calls, forged votes, new transactions —, `recover()` + re-send,
  `complete_commit` / `complete_abort`, checkpoint / restore of a current checkpoint) with the log written
  along, and WAL restarts.  Two restrictions: the one inherited from `ReachRS` (no timeout sweep /
  `abort()` call over a `Committing` entry) and `sparesPrepared` (no deadline passes on a `Prepared`
  entry: `cleanup_timeouts` and `recover()` abort such an entry WITHOUT a log record — the last
  `…_outside_quantifier_witness` shows what a WAL restart then does, on the code as it is).  A timed-out
  `Preparing` transaction, a cross-shard-conflict abort, late and duplicated votes — logged before they
  are validated — are all INSIDE the quantifier.
  Two `…_fullyVotedAsPrepared_witness` theorems show what the variant of `classify_in_progress` that
  restores a `Preparing` entry with a logged YES of every participant as `Prepared` does on runs of the
  same alphabet: it commits a transaction whose ABORT was announced before the crash.
-/
namespace Neumann.TwoPC.PropsWal
open Neumann.TwoPC

/-! ### the replay of the log, for every log -/

/-- For EVERY log and every transaction id: if the log holds no `PhaseChange` record for `tx`, then
    `recover_from_wal` does not restore `tx` — whatever `TxBegin` and `PrepareVote` records the log holds
    for it, in particular a YES of every participant.  (A logged vote is not a decision: the coordinator
    writes the vote before it validates it, and it writes nothing when it decides ABORT by timeout or by
    a cross-shard conflict.) -/
theorem wal_replay_restores_only_transactions_with_a_logged_phase_change (c : Coordinator) (now : Nat)
    (log : List WalEntry) (tx : Nat) (h : ∀ to, WalEntry.phase tx to ∉ log) :
    ∀ t ∈ (c.recoverFromWal now log).pending, t.id ≠ tx := by
  intro t ht hid
  obtain ⟨e, he, hph, rfl⟩ := mem_restored.1 ht
  have := scan_no_phase log [] h (fun _ hx => by cases hx) e he hid
  rw [this] at hph
  rcases hph with h2 | h2 | h2 <;> cases h2

-- both participants' YES votes are in the log, no phase change: nothing is restored
example : (Coordinator.recoverFromWal ⟨[], [], 100, 2, 1⟩ 5
    [.begin 0 [0, 1], .vote 0 0 (.yes 0), .vote 0 1 (.yes 1)]).pending = [] := by decide +kernel
example : scanLog [.begin 0 [0, 1], .vote 0 0 (.yes 0), .vote 0 1 (.yes 1)] =
    [⟨0, [0, 1], [(0, .yes 0), (1, .yes 1)], .preparing⟩] := by decide +kernel
example : ∀ to, WalEntry.phase 0 to ∉ [WalEntry.begin 0 [0, 1], .vote 0 0 (.yes 0), .vote 0 1 (.yes 1)] := by
  intro to h; simp at h

/-- For EVERY log: each transaction `recover_from_wal` puts into `pending` is an in-progress entry of the
    scan (begun, not completed), restored in the phase of its last `PhaseChange` — `Prepared`, `Committing`
    or `Aborting`, never `Preparing` — with the participants of its `TxBegin`, the votes the log accepted
    (YES votes keep the lock handle and lose the delta's keys; NO and CONFLICT become NO), `started_at` =
    the time of the restart and the fixed timeout of `DistributedTransaction::new`. -/
theorem wal_replay_restores_the_logged_phase (c : Coordinator) (now : Nat) (log : List WalEntry) :
    ∀ t ∈ (c.recoverFromWal now log).pending, ∃ e ∈ scanLog log, e.id = t.id ∧ e.phase = t.phase ∧
      (t.phase = .prepared ∨ t.phase = .committing ∨ t.phase = .aborting) ∧
      t.participants = e.participants ∧ t.votes = e.votes.map (fun x => (x.1, x.2.restore)) ∧
      t.startedAt = now ∧ t.timeout = walRestoredTimeout := by
  intro t ht
  obtain ⟨e, he, hph, rfl⟩ := mem_restored.1 ht
  exact ⟨e, he, rfl, rfl, hph, rfl, rfl, rfl, rfl⟩

-- tx 0 logged Prepared is restored as Prepared; tx 1 (fully voted, Preparing) and tx 2 (completed) are not
example : (Coordinator.recoverFromWal ⟨[], [], 100, 2, 3⟩ 5
    [.begin 0 [0, 1], .vote 0 0 (.yes 0), .vote 0 1 (.yes 1), .phase 0 .prepared,
     .begin 1 [0], .vote 1 0 (.yes 2),
     .begin 2 [1], .vote 2 1 (.yes 3), .phase 2 .prepared, .phase 2 .committing, .complete 2]).pending =
    [⟨0, [0, 1], .prepared, [(0, .yes 0 []), (1, .yes 1 [])], 5, 0⟩] := by decide +kernel
-- a duplicate vote, a vote after the phase change and a vote for an unknown transaction are not accepted
example : scanLog [.begin 0 [0, 1], .vote 0 0 (.yes 0), .vote 0 0 .no, .vote 7 0 (.yes 9), .vote 0 1 (.yes 1),
    .phase 0 .prepared, .vote 0 2 .no] = [⟨0, [0, 1], [(0, .yes 0), (1, .yes 1)], .prepared⟩] := by decide +kernel

/-! ### the system: decisions across WAL restarts -/

/-- (the seeded-change class) Along every run of `ReachW`: a transaction whose ABORT was decided before
    a crash — by the timeout sweep, by a NO / CONFLICT vote, by a cross-shard conflict, by `abort()`, by
    `recover()` — stays aborted and is NEVER committed afterwards, through any number of WAL restarts,
    whatever votes reached the log before or after the decision. -/
theorem aborted_before_crash_is_never_committed_after_wal_restart (stores : List Store) (tt mc lt : Nat)
    {w w' : SysW} (hr : ReachW (SysW.init stores tt mc lt) w) (hr' : ReachW w w') (tx : Nat)
    (hd : (tx, false) ∈ w.k.sys.decided) :
    (tx, false) ∈ w'.k.sys.decided ∧ (tx, true) ∉ w'.k.sys.decided := by
  have hinv := InvW.reach (hr.trans hr')
  have hd' := decided_mono_reachW hr' _ hd
  exact ⟨hd', fun h => hinv.excl tx h hd'⟩

/-- (the property, over WAL restarts) Along every run of `ReachW` a transaction gets at most ONE decision
    and the decision NEVER CHANGES: once (tx, b) is decided it stays decided and the opposite decision is
    never taken — not by the process that decided, not by any later process that rebuilt its state from
    the log. -/
theorem decision_survives_wal_restarts (stores : List Store) (tt mc lt : Nat) {w w' : SysW}
    (hr : ReachW (SysW.init stores tt mc lt) w) (hr' : ReachW w w') (tx : Nat) (b : Bool)
    (hd : (tx, b) ∈ w.k.sys.decided) : (tx, b) ∈ w'.k.sys.decided ∧ (tx, !b) ∉ w'.k.sys.decided := by
  have hinv := InvW.reach (hr.trans hr')
  have hd' := decided_mono_reachW hr' _ hd
  refine ⟨hd', ?_⟩
  cases b with
  | true => exact hinv.excl tx hd'
  | false => exact fun h => hinv.excl tx h hd'

/-- In every state of `ReachW`: a WAL restart does not bring back a transaction with an abort decision —
    it is not pending in the new process, so `get_pending_decisions` does not list it as `Committing`
    (and no COMMIT is re-sent for it). -/
theorem wal_restart_forgets_abort_decided_transactions (stores : List Store) (tt mc lt : Nat) {w : SysW}
    (hr : ReachW (SysW.init stores tt mc lt) w) (tx : Nat) (hd : (tx, false) ∈ w.k.sys.decided) :
    (∀ t ∈ (w.stepW .walRestart).k.sys.coord.pending, t.id ≠ tx) ∧
    (tx, Phase.committing) ∉ (w.stepW .walRestart).k.sys.coord.pendingDecisions := by
  have hinv := InvW.reach hr
  have h1 : ∀ t ∈ (w.stepW .walRestart).k.sys.coord.pending, t.id ≠ tx := by
    intro t ht hid
    obtain ⟨e, he, hp, rfl⟩ := hinv.wal.mem_walRestart_pending ht
    exact hinv.wal.prepNoAbort e he hp (by rw [← hid] at hd; exact hd)
  refine ⟨h1, ?_⟩
  intro hm
  obtain ⟨t, ht, hid, _⟩ := mem_pendingDecisions hm
  exact h1 t ht hid

/-- In every state of `ReachW` the log agrees with the decisions that were announced (`walCurrent`): no
    transaction the replay would restore towards a commit has an abort decision, none it would restore as
    `Aborting` a commit decision.  (What the driver checks at a WAL restart.) -/
theorem log_agrees_with_decisions_in_every_reachable_state (stores : List Store) (tt mc lt : Nat) {w : SysW}
    (hr : ReachW (SysW.init stores tt mc lt) w) : w.walCurrent = true := by
  have hinv := (InvW.reach hr).wal
  simp only [SysW.walCurrent, List.all_eq_true]
  intro e he
  rcases hinv.phases e he with hp | hp
  · rw [hp]; rfl
  · have hn := hinv.prepNoAbort e he hp
    simp [hp, hn]

/-- Atomicity across shards along `ReachW`: if one participant applied a transaction's writes, no
    participant that voted YES discards them — whichever of the coordinator's incarnations, rebuilt from
    a checkpoint or from the log, told them. -/
theorem applied_implies_no_yes_voter_discards_across_wal_restarts (stores : List Store) (tt mc lt : Nat)
    {w : SysW} (hr : ReachW (SysW.init stores tt mc lt) w) (sh1 sh2 tx : Nat)
    (ha : (sh1, tx) ∈ w.k.sys.applied) : (sh2, tx) ∉ w.k.sys.discarded := by
  have hinv := InvW.reach hr
  exact fun hd => hinv.excl tx (hinv.inv.applied sh1 tx ha) (hinv.inv.discarded sh2 tx hd)

/-- Along `ReachW` a commit decision — also one taken by a process that rebuilt its state from the log —
    is backed by a YES vote of EVERY participant the client named, present in the message pool. -/
theorem commit_after_wal_restart_needs_every_participants_yes (stores : List Store) (tt mc lt : Nat)
    {w : SysW} (hr : ReachW (SysW.init stores tt mc lt) w) (tx : Nat) (hd : (tx, true) ∈ w.k.sys.decided) :
    ∀ sp ∈ w.k.sys.specs, sp.id = tx → ∀ sh ∈ sp.shards, ∃ h ks, Msg.vote tx sh (.yes h ks) ∈ w.k.sys.msgs :=
  (InvW.reach hr).inv.commitYes tx hd

/-! ### non-vacuity: the history the theorems are about.  tx 0 over shards 0, 1: both vote YES, the
    coordinator reaches `Prepared` and logs it; crash; the new process restores tx 0 from the log as
    `Prepared`, `recover()` makes it `Committing`, COMMIT is sent, both shards apply, `complete_commit`.
    tx 1: shard 0's YES is recorded, the clock passes the deadline, the sweep aborts tx 1 (ABORT sent,
    nothing logged); then shard 1's late YES arrives — answered "not found", but LOGGED: the log now holds
    a YES of every participant of tx 1.  Checkpoint / restore, then a second crash: the replay restores
    tx 0 (still `Prepared` in the log: `recover()` and `complete_commit` log nothing) and announces its
    commit again, and restores NOTHING for tx 1; both shards discard tx 1. -/

def demoInit : SysW := SysW.init [[(1, 5)], []] 2 100 1000

def demoRun : List EvW :=
  [ .k (.ev (.base (.begin [0, 1] [(0, [.put 1 7]), (1, [.put 3 9])] []))),   -- msgs 0, 1 = PREPARE(0)
    .k (.ev (.base (.deliver 0))), .k (.ev (.base (.deliver 1))),             -- 2, 3 = the YES votes
    .k (.ev (.base (.deliver 2))), .k (.ev (.base (.deliver 3))),             -- tx 0 is Prepared, logged
    .walRestart,                                                               -- Committing; 4, 5 = COMMIT(0)
    .k (.ev (.base (.deliver 4))), .k (.ev (.base (.deliver 5))),             -- both shards apply
    .k (.ev (.completeCommit 0)),
    .k (.ev (.base (.begin [0, 1] [(0, [.put 2 8]), (1, [.put 4 1])] []))),   -- 6, 7 = PREPARE(1)
    .k (.ev (.base (.deliver 6))), .k (.ev (.base (.deliver 8))),             -- 8 = shard 0's YES, recorded
    .k (.ev (.base (.tick 3))), .k (.ev (.base .sweep)),                       -- 9, 10 = ABORT(1) by timeout
    .k (.ev (.base (.deliver 7))), .k (.ev (.base (.deliver 11))),            -- 11 = shard 1's late YES: logged
    .k .checkpoint, .k .restore,
    .walRestart,                                                               -- 12, 13 = COMMIT(0) again
    .k (.ev (.base (.deliver 9))), .k (.ev (.base (.deliver 10))),            -- both shards discard tx 1
    .k (.ev (.base (.deliver 12))) ]

example : ReachW demoInit (demoInit.runW demoRun) := reachW_run .refl _ (by decide +kernel)
example : (demoInit.runW demoRun).k.sys.decided = [(0, true), (1, false), (0, true)] := by decide +kernel
example : (demoInit.runW demoRun).k.sys.applied = [(0, 0), (1, 0)] := by decide +kernel
example : (demoInit.runW demoRun).k.sys.discarded = [(0, 1), (1, 1)] := by decide +kernel
example : (demoInit.runW demoRun).walCurrent = true := by decide +kernel
-- the log at the end: tx 0 `Prepared`; tx 1 `Preparing` with a YES of both participants
example : scanLog (demoInit.runW demoRun).wal =
    [⟨0, [0, 1], [(0, .yes 0), (1, .yes 1)], .prepared⟩, ⟨1, [0, 1], [(0, .yes 2), (1, .yes 3)], .preparing⟩] := by
  decide +kernel
-- the first restart: restored as Prepared, moved to Committing, COMMIT re-sent
example : (demoInit.runW (demoRun.take 6)).k.sys.coord.pendingDecisions = [(0, .committing)] := by decide +kernel
example : (demoInit.runW (demoRun.take 5)).k.sys.decided = [] ∧
    (demoInit.runW (demoRun.take 6)).k.sys.decided = [(0, true)] := by decide +kernel
-- the late YES of shard 1 is refused (tx 1 is no longer pending: "not found") and logged
example : findTx (demoInit.runW (demoRun.take 15)).k.sys.coord.pending 1 = none ∧
    (demoInit.runW (demoRun.take 15)).k.sys.msgs[11]? = some (.vote 1 1 (.yes 3 [4])) := by decide +kernel
example : (demoInit.runW (demoRun.take 16)).wal.getLast? = some (.vote 1 1 (.yes 3)) := by decide +kernel
-- the second restart: tx 1 (abort decided, fully voted in the log) is not pending, tx 0 is announced again
example : (1, false) ∈ (demoInit.runW (demoRun.take 18)).k.sys.decided := by decide +kernel
example : (demoInit.runW (demoRun.take 18)).k.sys.coord.pending = [] := by decide +kernel
example : (demoInit.runW (demoRun.take 19)).k.sys.coord.pending.map (fun t => (t.id, t.phase)) =
    [(0, .committing)] := by decide +kernel

/-! ### the variant that restores a fully voted `Preparing` entry as `Prepared`; deadlines on `Prepared` -/

/-- The variant breaks the property on a run of `ReachW`'s alphabet (timeout): shard 0 votes YES, the
    clock passes the deadline, the sweep aborts tx 0 (ABORT sent, shard 0 rolls back), shard 1's late YES
    is answered "not found" but logged; crash.  The variant finds a YES of every participant in the log,
    restores tx 0 as `Prepared`, `recover()` makes it `Committing`, COMMIT is sent and shard 1 applies:
    two decisions for tx 0 and the shards split.  The SAME events on the code as it is restore nothing:
    one decision, nothing applied (and they are a run of `ReachW`). -/
theorem wal_restart_commits_timed_out_tx_fullyVotedAsPrepared_witness :
    ∃ es : List EvW,
      let w0 := SysW.init [[], []] 2 100 1000
      w0.allInWFullyVotedAsPrepared es = true ∧
      (0, false) ∈ (w0.runWFullyVotedAsPrepared es).k.sys.decided ∧
      (0, true) ∈ (w0.runWFullyVotedAsPrepared es).k.sys.decided ∧
      (1, 0) ∈ (w0.runWFullyVotedAsPrepared es).k.sys.applied ∧
      (0, 0) ∈ (w0.runWFullyVotedAsPrepared es).k.sys.discarded ∧
      w0.allInW es = true ∧ (w0.runW es).k.sys.decided = [(0, false)] ∧ (w0.runW es).k.sys.applied = [] :=
  ⟨[ .k (.ev (.base (.begin [0, 1] [(0, [.put 1 7]), (1, [.put 3 9])] []))),   -- 0, 1 = PREPARE
     .k (.ev (.base (.deliver 0))), .k (.ev (.base (.deliver 2))),             -- 2 = shard 0's YES, recorded
     .k (.ev (.base (.tick 3))), .k (.ev (.base .sweep)),                       -- 3, 4 = ABORT by timeout
     .k (.ev (.base (.deliver 3))),                                             -- shard 0 rolls back
     .k (.ev (.base (.deliver 1))), .k (.ev (.base (.deliver 5))),             -- 5 = shard 1's late YES: logged
     .walRestart,                                                               -- variant: 6, 7 = COMMIT
     .k (.ev (.base (.deliver 7))) ],
   by decide +kernel⟩

/-- The variant breaks the property on a run of `ReachW`'s alphabet (cross-shard conflict): both shards
    vote YES, but their deltas are not orthogonal and share a key, so the second vote is answered
    `Aborting` — ABORT is sent, shard 0 rolls back, and NOTHING more is logged: the log holds a YES of every
    participant and no phase change; crash.  The variant restores tx 0 as `Prepared` and commits it; shard 1
    applies.  The SAME events on the code as it is: one decision, nothing applied. -/
theorem wal_restart_commits_cross_shard_conflict_abort_fullyVotedAsPrepared_witness :
    ∃ es : List EvW,
      let w0 := SysW.init [[], []] 2 100 1000
      w0.allInWFullyVotedAsPrepared es = true ∧
      (0, false) ∈ (w0.runWFullyVotedAsPrepared es).k.sys.decided ∧
      (0, true) ∈ (w0.runWFullyVotedAsPrepared es).k.sys.decided ∧
      (1, 0) ∈ (w0.runWFullyVotedAsPrepared es).k.sys.applied ∧
      (0, 0) ∈ (w0.runWFullyVotedAsPrepared es).k.sys.discarded ∧
      w0.allInW es = true ∧ (w0.runW es).k.sys.decided = [(0, false)] ∧ (w0.runW es).k.sys.applied = [] :=
  ⟨[ .k (.ev (.base (.begin [0, 1] [(0, [.put 1 7]), (1, [.put 1 9])] [(0, 1)]))),   -- 0, 1 = PREPARE
     .k (.ev (.base (.deliver 0))), .k (.ev (.base (.deliver 1))),                   -- 2, 3 = the YES votes
     .k (.ev (.base (.deliver 2))), .k (.ev (.base (.deliver 3))),                   -- Aborting; 4, 5 = ABORT
     .k (.ev (.base (.deliver 4))),                                                   -- shard 0 rolls back
     .walRestart,                                                                     -- variant: 6, 7 = COMMIT
     .k (.ev (.base (.deliver 7))) ],
   by decide +kernel⟩

/-- The `sparesPrepared` condition of `ReachW` is necessary, on the code AS IT IS: `cleanup_timeouts` (and
    `recover()`) abort a timed-out `Prepared` transaction without a log record.  Both shards vote YES, tx 0
    is `Prepared` (logged); the clock passes the deadline and the sweep aborts it — ABORT is sent, shard 0
    rolls back, the log still says `Prepared` (`walCurrent` fails); crash; the replay restores tx 0 as
    `Prepared`, `recover()` makes it `Committing`, COMMIT is sent, shard 1 applies: both decisions and the
    shards split.  Outside C03's quantifier (the run is in the alphabet without `sparesPrepared`, not in
    `ReachW`'s). -/
theorem timeout_abort_of_prepared_entry_is_not_logged_outside_quantifier_witness :
    ∃ es : List EvW,
      let w0 := SysW.init [[], []] 2 100 1000
      w0.allInWAny es = true ∧ w0.allInW es = false ∧
      (0, false) ∈ (w0.runW es).k.sys.decided ∧ (0, true) ∈ (w0.runW es).k.sys.decided ∧
      (1, 0) ∈ (w0.runW es).k.sys.applied ∧ (0, 0) ∈ (w0.runW es).k.sys.discarded ∧
      (w0.runW (es.take 8)).walCurrent = false :=
  ⟨[ .k (.ev (.base (.begin [0, 1] [(0, [.put 1 7]), (1, [.put 3 9])] []))),   -- 0, 1 = PREPARE
     .k (.ev (.base (.deliver 0))), .k (.ev (.base (.deliver 1))),             -- 2, 3 = the YES votes
     .k (.ev (.base (.deliver 2))), .k (.ev (.base (.deliver 3))),             -- Prepared, logged
     .k (.ev (.base (.tick 3))), .k (.ev (.base .sweep)),                       -- 4, 5 = ABORT; nothing logged
     .k (.ev (.base (.deliver 4))),                                             -- shard 0 rolls back
     .walRestart,                                                               -- restored Prepared → 6, 7 = COMMIT
     .k (.ev (.base (.deliver 7))) ],
   by decide +kernel⟩

end Neumann.TwoPC.PropsWal
