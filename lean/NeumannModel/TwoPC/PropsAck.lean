/-
  C03 — properties of the abort acknowledgement / retry bookkeeping (`Ack.lean`).

  An ABORT that was lost stays re-sendable: the `abort_states` entry of a transaction keeps every recipient that no
  ABORT reached, over every run of the alphabet (tracking, deliveries, duplicated / reordered / lost acknowledgements,
  clock, retries).  The VARIANT with a "last outstanding acknowledgement" fast path does not.
-/
import NeumannModel.TwoPC.LemmasAck

namespace Neumann.TwoPC.Props
open Neumann.TwoPC

/-- every recipient of the last tracked broadcast of every transaction was reached by an ABORT or is still in
    `pending_acks` of the entry — in every reachable state -/
theorem abort_stays_tracked_until_every_participant_acknowledged {a : AckNet} (hr : ReachA a) : a.Tracked :=
  reach_tracked hr

/-- a recipient the ABORT never reached is in the next due `get_retry_aborts` result -/
theorem lost_abort_is_resent {a : AckNet} (hr : ReachA a) {tx sh : Nat} (hl : sh ∈ a.lastOf tx)
    (hn : (tx, sh) ∉ a.told) (hd : a.allDue) : (tx, sh) ∈ resendPairs (getRetryAborts a.states a.now).2 := by
  rcases reach_tracked hr tx sh hl with h | h
  · exact absurd h hn
  · exact mem_resendPairs_of_pend hd h

/-- after one round of the retry loop over a network that now delivers, every recipient of every tracked abort has
    been reached -/
theorem resend_round_tells_every_participant {a : AckNet} (hr : ReachA a) (hd : a.allDue) :
    ∀ tx sh, sh ∈ a.lastOf tx → (tx, sh) ∈ a.resendRound.told := by
  intro tx sh hl
  rw [told_resendRound]
  rcases reach_tracked hr tx sh hl with h | h
  · exact List.mem_append_left _ h
  · exact List.mem_append_right _ (mem_resendPairs_of_pend hd h)

/-- VARIANT (not the code): the abort to shard 1 is lost and shard 0's acknowledgement is duplicated — the variant
    drops the entry and re-sends nothing; the code keeps shard 1 and re-sends to it -/
theorem abort_forgotten_before_all_acks_LastAckFastPath_witness :
    let es := [EvA.track 0 [0, 1, 2], .told 0 0, .told 0 2, .ack 0 0, .ack 0 2, .ack 0 0, .advance 1000, .retry]
    (AckNet.init.runLastAckFastPath es).map (fun a => (a.trackedUpTo 3, a.pendingOf 0, a.told.contains (0, 1))) = some (false, [], false) ∧
    (AckNet.init.runLastAckFastPath (es.take 7)).map (fun a => (getRetryAborts a.states a.now).2) = some [] ∧
    (AckNet.init.runChecked es).map (fun a => (a.trackedUpTo 3, a.pendingOf 0)) = some (true, [1]) ∧
    (AckNet.init.runChecked (es.take 7)).map (fun a => (getRetryAborts a.states a.now).2) = some [(0, [1])] := by decide +kernel

/-! ## non-vacuity -/

/-- a reachable state with a lost abort where every entry is due -/
example : ((AckNet.init.runChecked [EvA.track 0 [0, 1, 2], .told 0 0, .ack 0 0, .advance 1000]).map
    (fun a => (a.pendingOf 0, a.states.all (fun e => e.2.due a.now), a.told.contains (0, 1)))) = some ([1, 2], true, false) := by
  decide +kernel

/-- ... and one resend round reaches the shards the ABORT was lost to -/
example : ((AckNet.init.runChecked [EvA.track 0 [0, 1, 2], .told 0 0, .ack 0 0, .advance 1000]).map
    (fun a => (a.resendRound.told.contains (0, 1), a.resendRound.told.contains (0, 2), a.resendRound.pendingOf 0)))
    = some (true, true, []) := by
  decide +kernel

/-- the hypotheses of `lost_abort_is_resent` / `resend_round_tells_every_participant` are jointly satisfiable -/
example : ∃ a : AckNet, ReachA a ∧ a.allDue ∧ 1 ∈ a.lastOf 0 ∧ (0, 1) ∉ a.told := by
  refine ⟨(((AckNet.init.step (.track 0 [0, 1, 2])).step (.told 0 0)).step (.ack 0 0)).step (.advance 1000), ?_, ?_, ?_, ?_⟩
  · refine ReachA.step _ (ReachA.step _ (ReachA.step _ (ReachA.step _ ReachA.init ?_) ?_) ?_) ?_ <;> decide
  · intro e he
    have : e = (0, ⟨[1, 2], 0, 0⟩) := by
      have h : e ∈ [((0 : Nat), (⟨[1, 2], 0, 0⟩ : AbortState))] := he
      simpa using h
    subst this
    decide
  · decide
  · decide

/-- the invariant is not trivially true: a reachable state where the left disjunct fails and the right one holds -/
example : (AckNet.init.runChecked [EvA.track 0 [0, 1, 2], .told 0 0, .ack 0 0]).map
    (fun a => (a.trackedUpTo 3, a.told, a.pendingOf 0)) = some (true, [(0, 0)], [1, 2]) := by decide +kernel

end Neumann.TwoPC.Props
