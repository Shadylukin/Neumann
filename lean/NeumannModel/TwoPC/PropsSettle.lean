import NeumannModel.TwoPC.LemmasSettle
/-
  C03 — "an abort decision is TOLD to every participant": whoever prepared (locks taken, undo images captured) is
  addressed by an ABORT message, whether or not its vote ever reached the coordinator.
  ONLY the property theorems and their non-vacuity examples; helpers are in `LemmasSettle.lean`.
-/
namespace Neumann.TwoPC.Props
open Neumann.TwoPC

/-- For every schedule: once the abort of `tx` is decided (NO / CONFLICT vote, cross-shard conflict, timeout sweep,
    explicit `abort`), the pool holds an ABORT message for EVERY shard the client named for `tx`. -/
theorem abort_decision_addresses_every_participant (stores : List Store) (tt mc lt : Nat) {s : Sys}
    (hr : Reach (Sys.init stores tt mc lt) s) {tx : Nat} (hd : (tx, false) ∈ s.decided) :
    ∀ sp ∈ s.specs, sp.id = tx → ∀ sh ∈ sp.shards, Msg.abort tx sh ∈ s.msgs :=
  Addressed.reach (InvA.init stores tt mc lt) (Addressed.init stores tt mc lt) hr tx hd

/-- The timeout path: every transaction a sweep times out has, right after the sweep, an ABORT in the pool for every
    participant — whether or not that participant's vote has been recorded. -/
theorem timeout_abort_addresses_every_participant (stores : List Store) (tt mc lt : Nat) {s : Sys}
    (hr : Reach (Sys.init stores tt mc lt) s) :
    ∀ tx ∈ (s.coord.cleanupTimeouts s.now).2, ∀ sp ∈ s.specs, sp.id = tx →
      ∀ sh ∈ sp.shards, Msg.abort tx sh ∈ (s.step .sweep).msgs := by
  intro tx htx
  have hd : (tx, false) ∈ (s.step .sweep).decided := by
    simp only [Sys.step, Sys.stepR, Sys.drain, Coordinator.takePendingAborts, Coordinator.cleanupTimeouts] at htx ⊢
    obtain ⟨t, ht, rfl⟩ := List.mem_map.1 htx
    exact List.mem_append.2 (Or.inr (List.mem_map.2
      ⟨(t.id, AbortReason.timeout, t.participants), List.mem_append.2 (Or.inr (List.mem_map.2 ⟨t, ht, rfl⟩)), rfl⟩))
  exact abort_decision_addresses_every_participant stores tt mc lt (Reach.step .sweep hr rfl) hd

/-! ### demo: shard 1 prepared and voted YES, its vote is delayed, the coordinator times out -/

def settleInit : Sys := Sys.init [[(1, 5)], [(2, 6)]] 2 100 1000

def settleRun : List Ev :=
  [ .begin [0, 1] [(0, [.put 1 7]), (1, [.put 2 8])] [],   -- msgs 0 = PREPARE(T0) shard 0, 1 = shard 1
    .deliver 0,                                             -- shard 0 prepares: 2 = its YES vote
    .deliver 1,                                             -- shard 1 prepares: 3 = its YES vote (delayed)
    .deliver 2,                                             -- shard 0's vote is recorded
    .tick 3, .sweep ]                                       -- timeout abort: 4 = ABORT(T0) shard 0, 5 = shard 1

example : settleInit.allIn settleRun = true := by decide +kernel
example : Reach settleInit (settleInit.run settleRun) := reach_run .refl _ (by decide +kernel)

-- non-vacuity of theorem 1: the abort of T0 is decided, T0 has a spec naming shards 0 and 1 …
example : (0, false) ∈ (settleInit.run settleRun).decided := by decide +kernel
example : (settleInit.run settleRun).specs.map (fun sp => (sp.id, sp.shards)) = [(0, [0, 1])] := by decide +kernel
-- … and of theorem 2: the sweep (last event) times T0 out while shard 1's vote is NOT recorded
example : ((settleInit.run (settleRun.take 5)).coord.cleanupTimeouts (settleInit.run (settleRun.take 5)).now).2 = [0] := by
  decide +kernel
example : (settleInit.run (settleRun.take 5)).coord.pending.map (fun t => t.votes.map (·.1)) = [[0]] := by decide +kernel
-- both participants are addressed; both are prepared before the ABORTs arrive and neither is afterwards
example : (settleInit.run settleRun).abortAddressedToAll 0 = true := by decide +kernel
example : (settleInit.run settleRun).msgs.drop 4 = [Msg.abort 0 0, Msg.abort 0 1] := by decide +kernel
example : (settleInit.run settleRun).stuck = [(0, 0), (0, 1)] := by decide +kernel
example : (settleInit.run settleRun).stuck ≠ [] := by decide +kernel
example : (settleInit.run settleRun).settle.stuck = [] := by decide +kernel

/-- WITNESS for the VARIANT `cleanupTimeoutsAbortOnlyRecordedVoters` (NOT the code): the same run, with the timeout
    abort queued only for the shards whose YES vote is recorded.  T0's only decision is abort, but shard 1 — which
    prepared and voted YES, the vote still in flight — is not addressed; after every queued ABORT is delivered it is
    still prepared for T0 and still holds T0's lock on key 2, while the code as it is (examples above) leaves nothing
    stuck. -/
theorem timeout_abort_skips_prepared_participant_AbortOnlyRecordedVoters_witness :
    let s := settleInit.runAbortOnlyRecordedVoters settleRun
    s.abortOnly 0 = true ∧ s.abortAddressedToAll 0 = false ∧
    s.msgs.drop 4 = [Msg.abort 0 0] ∧
    s.settle.stuck = [(0, 1)] ∧
    s.settle.parts.map (fun p => p.holder 2) = [none, some 0] ∧
    (settleInit.run settleRun).settle.stuck = [] := by
  decide +kernel

/-- After `settle` (every queued ABORT of an abort-only transaction delivered — ordinary deliveries, any schedule
    before them) no participant the client named keeps a prepared record of a transaction whose only decision is
    abort. -/
theorem settle_leaves_no_prepared_record (stores : List Store) (tt mc lt : Nat) {s : Sys}
    (hr : Reach (Sys.init stores tt mc lt) s) :
    ∀ sp ∈ s.specs, s.abortOnly sp.id = true → ∀ sh ∈ sp.shards, ∀ p,
      s.settle.parts[sh]? = some p → findPrepared p.prepared sp.id = none := by
  intro sp hsp hao sh hsh
  have hd : (sp.id, false) ∈ s.decided := by
    simp only [Sys.abortOnly, Bool.and_eq_true] at hao
    exact List.contains_iff_mem.1 hao.1
  exact settle_noPrep hao (abort_decision_addresses_every_participant stores tt mc lt hr hd sp hsp rfl sh hsh)

-- non-vacuity: in the demo both shards hold a prepared record of T0 before `settle`
example : (settleInit.run settleRun).parts.map (fun p => (findPrepared p.prepared 0).isSome) = [true, true] := by
  decide +kernel
example : (settleInit.run settleRun).abortOnly 0 = true := by decide +kernel
example : (settleInit.run settleRun).settle.parts.map (fun p => (findPrepared p.prepared 0).isSome) = [false, false] := by
  decide +kernel

end Neumann.TwoPC.Props
