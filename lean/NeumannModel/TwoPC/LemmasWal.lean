import NeumannModel.TwoPC.Wal
import NeumannModel.TwoPC.LemmasRestart
/-
  C03 — the coordinator with a write-ahead log (`Wal.lean`): what the scan of the log does entry by
  entry, what `recover_from_wal` restores, the invariant `WInv` that ties the in-progress entries of
  the log to the coordinator's memory and to the decisions that were announced, and its preservation —
  together with `InvR` and the exclusivity of the decisions — by every event of `ReachW`'s alphabet,
  the WAL restart included (`InvW`).
-/
namespace Neumann.TwoPC

theorem scanLog_append (w es : List WalEntry) : scanLog (w ++ es) = es.foldl scanStep (scanLog w) := by
  simp only [scanLog, List.foldl_append]

/-- `LockRelease` records do not touch the in-progress map -/
theorem foldl_releasesOf (ip : List WalTx) (tx : Nat) (vs : List (Nat × Vote)) :
    (releasesOf tx vs).foldl scanStep ip = ip := by
  induction vs with
  | nil => rfl
  | cons a r ih =>
    obtain ⟨sh, v⟩ := a
    cases v with
    | yes h ks => simp only [releasesOf, List.foldl_cons, scanStep]; exact ih
    | no => simp only [releasesOf]; exact ih
    | conflict o => simp only [releasesOf]; exact ih

/-- what a `PrepareVote` record does to one in-progress entry -/
def voteUpd (tx sh : Nat) (wv : WalVote) (a : WalTx) : WalTx :=
  if a.id == tx && a.phase == .preparing && !a.hasVote sh then { a with votes := a.votes ++ [(sh, wv)] } else a

/-- what a `PhaseChange` record does to one in-progress entry -/
def phaseUpd (tx : Nat) (to : Phase) (a : WalTx) : WalTx :=
  if a.id == tx then { a with phase := to } else a

theorem scanStep_vote (ip : List WalTx) (tx sh : Nat) (wv : WalVote) :
    scanStep ip (.vote tx sh wv) = ip.map (voteUpd tx sh wv) := rfl

theorem scanStep_phase (ip : List WalTx) (tx : Nat) (to : Phase) :
    scanStep ip (.phase tx to) = ip.map (phaseUpd tx to) := rfl

theorem voteUpd_id (tx sh : Nat) (wv : WalVote) (a : WalTx) : (voteUpd tx sh wv a).id = a.id := by
  unfold voteUpd; split <;> rfl

theorem voteUpd_phase (tx sh : Nat) (wv : WalVote) (a : WalTx) : (voteUpd tx sh wv a).phase = a.phase := by
  unfold voteUpd; split <;> rfl

theorem voteUpd_participants (tx sh : Nat) (wv : WalVote) (a : WalTx) :
    (voteUpd tx sh wv a).participants = a.participants := by
  unfold voteUpd; split <;> rfl

theorem voteUpd_of_id_ne {tx sh : Nat} {wv : WalVote} {a : WalTx} (h : a.id ≠ tx) : voteUpd tx sh wv a = a := by
  unfold voteUpd
  have : (a.id == tx) = false := by simpa using h
  rw [this]; rfl

theorem voteUpd_of_phase_ne {tx sh : Nat} {wv : WalVote} {a : WalTx} (h : a.phase ≠ .preparing) :
    voteUpd tx sh wv a = a := by
  unfold voteUpd
  have : (a.phase == Phase.preparing) = false := by simpa using h
  rw [this, Bool.and_false, Bool.false_and]; rfl

theorem voteUpd_of_hasVote {tx sh : Nat} {wv : WalVote} {a : WalTx} (h : a.hasVote sh = true) :
    voteUpd tx sh wv a = a := by
  unfold voteUpd
  rw [h]; simp

theorem voteUpd_hit {tx sh : Nat} {wv : WalVote} {a : WalTx} (h1 : a.id = tx) (h2 : a.phase = .preparing)
    (h3 : a.hasVote sh = false) : voteUpd tx sh wv a = { a with votes := a.votes ++ [(sh, wv)] } := by
  unfold voteUpd
  rw [h1, h2, h3]; simp

theorem phaseUpd_id (tx : Nat) (to : Phase) (a : WalTx) : (phaseUpd tx to a).id = a.id := by
  unfold phaseUpd; split <;> rfl

theorem phaseUpd_of_id_ne {tx : Nat} {to : Phase} {a : WalTx} (h : a.id ≠ tx) : phaseUpd tx to a = a := by
  unfold phaseUpd
  have : (a.id == tx) = false := by simpa using h
  rw [this]; rfl

theorem phaseUpd_hit {tx : Nat} {to : Phase} {a : WalTx} (h : a.id = tx) :
    phaseUpd tx to a = { a with phase := to } := by
  unfold phaseUpd
  rw [h]; simp

/-- a map over the in-progress entries that touches only the entries of `tx`: the one entry of `tx` is
    replaced by its image, the others are left alone -/
theorem mem_map_hit {ip : List WalTx} {tx : Nat} {f : WalTx → WalTx} {e0 : WalTx}
    (huniq : ∀ e ∈ ip, ∀ e' ∈ ip, e.id = e'.id → e = e') (he0 : e0 ∈ ip) (hid : e0.id = tx)
    (hne : ∀ a, a.id ≠ tx → f a = a) (x : WalTx) :
    x ∈ ip.map f ↔ (x ∈ ip ∧ x.id ≠ tx) ∨ x = f e0 := by
  rw [List.mem_map]
  constructor
  · rintro ⟨a, ha, rfl⟩
    by_cases h : a.id = tx
    · rw [huniq a ha e0 he0 (h.trans hid.symm)]; exact Or.inr rfl
    · rw [hne a h]; exact Or.inl ⟨ha, h⟩
  · rintro (⟨hx, hne'⟩ | rfl)
    · exact ⟨x, hx, hne x hne'⟩
    · exact ⟨e0, he0, rfl⟩

/-- `PhaseChange` followed by `TxComplete` (what `commit` / `abort` append): the transaction leaves the
    in-progress map, the others are left alone -/
theorem mem_scan_phase_complete {ip : List WalTx} {tx : Nat} {to : Phase} {x : WalTx} :
    x ∈ scanStep (scanStep ip (.phase tx to)) (.complete tx) ↔ x ∈ ip ∧ x.id ≠ tx := by
  rw [scanStep_phase]
  simp only [scanStep, List.mem_filter, List.mem_map, bne_iff_ne, ne_eq]
  constructor
  · rintro ⟨⟨a, ha, rfl⟩, hne⟩
    rw [phaseUpd_id] at hne
    rw [phaseUpd_of_id_ne hne]
    exact ⟨ha, hne⟩
  · rintro ⟨hx, hne⟩
    exact ⟨⟨x, hx, phaseUpd_of_id_ne hne⟩, hne⟩

theorem mem_scan_begin {ip : List WalTx} {tx : Nat} {ps : List Nat} {x : WalTx} :
    x ∈ scanStep ip (.begin tx ps) ↔ (x ∈ ip ∧ x.id ≠ tx) ∨ x = ⟨tx, ps, [], .preparing⟩ := by
  simp only [scanStep, List.mem_append, List.mem_filter, List.mem_singleton, bne_iff_ne, ne_eq]

theorem Vote.toWal_isYes (v : Vote) : v.toWal.isYes = v.isYes := by cases v <;> rfl

theorem WalVote.restore_isYes (v : WalVote) : v.restore.isYes = v.isYes := by cases v <;> rfl

theorem any_fst_map {α β : Type} (f : α → β) (vs : List (Nat × α)) (sh : Nat) :
    (vs.map (fun x => (x.1, f x.2))).any (fun x => x.1 == sh) = vs.any (fun x => x.1 == sh) := by
  induction vs with
  | nil => rfl
  | cons a r ih => simp only [List.map_cons, List.any_cons, ih]

theorem all_snd_map {α β : Type} (f : α → β) (p : β → Bool) (vs : List (Nat × α)) :
    (vs.map (fun x => (x.1, f x.2))).all (fun x => p x.2) = vs.all (fun x => p (f x.2)) := by
  induction vs with
  | nil => rfl
  | cons a r ih => simp only [List.map_cons, List.all_cons, ih]

theorem hasVote_toWal {e : WalTx} {t : DTx} (hv : e.votes = t.votes.map (fun x => (x.1, x.2.toWal))) (sh : Nat) :
    e.hasVote sh = t.hasVote sh := by
  rw [WalTx.hasVote, hv]; exact any_fst_map _ _ _

theorem mem_restored {ip : List WalTx} {now : Nat} {t : DTx} :
    t ∈ (classify ip).restored now ↔
      ∃ e ∈ ip, (e.phase = .prepared ∨ e.phase = .committing ∨ e.phase = .aborting) ∧
        t = e.restoreAs e.phase now := by
  simp only [WalRecovery.restored, classify, List.mem_append, List.mem_map, List.mem_filter, beq_iff_eq]
  constructor
  · rintro ((⟨e, ⟨he, hp⟩, rfl⟩ | ⟨e, ⟨he, hp⟩, rfl⟩) | ⟨e, ⟨he, hp⟩, rfl⟩)
    · exact ⟨e, he, Or.inl hp, by rw [hp]⟩
    · exact ⟨e, he, Or.inr (Or.inl hp), by rw [hp]⟩
    · exact ⟨e, he, Or.inr (Or.inr hp), by rw [hp]⟩
  · rintro ⟨e, he, hp | hp | hp, rfl⟩
    · exact Or.inl (Or.inl ⟨e, ⟨he, hp⟩, by rw [hp]⟩)
    · exact Or.inl (Or.inr ⟨e, ⟨he, hp⟩, by rw [hp]⟩)
    · exact Or.inr ⟨e, ⟨he, hp⟩, by rw [hp]⟩

/-- an id without a `PhaseChange` record in the log is `Preparing` in the scan, if it is there at all -/
theorem scan_no_phase {tx : Nat} (log : List WalEntry) (ip : List WalTx)
    (h : ∀ to, WalEntry.phase tx to ∉ log) (h0 : ∀ e ∈ ip, e.id = tx → e.phase = .preparing) :
    ∀ e ∈ log.foldl scanStep ip, e.id = tx → e.phase = .preparing := by
  induction log generalizing ip with
  | nil => exact h0
  | cons r log ih =>
    rw [List.foldl_cons]
    apply ih
    · intro to hm; exact h to (List.mem_cons_of_mem _ hm)
    · intro e he hid
      cases r with
      | «begin» tx' ps =>
        rcases mem_scan_begin.1 he with ⟨h1, _⟩ | rfl
        · exact h0 e h1 hid
        · rfl
      | vote tx' sh v =>
        rw [scanStep_vote, List.mem_map] at he
        obtain ⟨a, ha, rfl⟩ := he
        rw [voteUpd_phase]
        rw [voteUpd_id] at hid
        exact h0 a ha hid
      | phase tx' to =>
        have hne : tx' ≠ tx := by
          intro heq
          exact h to (by rw [← heq]; exact List.mem_cons_self)
        rw [scanStep_phase, List.mem_map] at he
        obtain ⟨a, ha, rfl⟩ := he
        rw [phaseUpd_id] at hid
        rw [phaseUpd_of_id_ne (fun hh => hne (hh.symm.trans hid))]
        exact h0 a ha hid
      | complete tx' =>
        simp only [scanStep, List.mem_filter] at he
        exact h0 e he.1 hid
      | lockRelease tx' hh => exact h0 e he hid
      | allLocksReleased tx' => exact h0 e he hid

/-- `ip` = the in-progress entries of the log, `s` = the system.  In this model the only in-progress
    logged phases are `Preparing` and `Prepared` (`commit` / `abort` append `PhaseChange` and `TxComplete`
    in one call).  A logged-`Prepared` entry has no abort decision and every participant's YES is in the
    pool; memory's `Preparing` entries are in the log exactly as they are in memory; the transaction of an
    `Aborting` entry of memory is still `Preparing` in the log, if it is there at all. -/
structure WInv (ip : List WalTx) (s : Sys) : Prop where
  phases : ∀ e ∈ ip, e.phase = .preparing ∨ e.phase = .prepared
  idLt : ∀ e ∈ ip, e.id < s.coord.nextTx
  idUniq : ∀ e ∈ ip, ∀ e' ∈ ip, e.id = e'.id → e = e'
  prepNoAbort : ∀ e ∈ ip, e.phase = .prepared → (e.id, false) ∉ s.decided
  prepVotes : ∀ e ∈ ip, e.phase = .prepared →
      (e.participants.all (fun sh => e.hasVote sh)) = true ∧ (e.votes.all (fun x => x.2.isYes)) = true
  prepYes : ∀ e ∈ ip, e.phase = .prepared → ∀ sp ∈ s.specs, sp.id = e.id →
      ∀ sh ∈ sp.shards, ∃ h ks, Msg.vote e.id sh (.yes h ks) ∈ s.msgs
  prepPart : ∀ e ∈ ip, e.phase = .prepared → ∀ sp ∈ s.specs, sp.id = e.id → sp.shards = e.participants
  memPreparing : ∀ t ∈ s.coord.pending, t.phase = .preparing →
      ∃ e ∈ ip, e.id = t.id ∧ e.phase = .preparing ∧ e.participants = t.participants ∧
        e.votes = t.votes.map (fun x => (x.1, x.2.toWal))
  memAborting : ∀ t ∈ s.coord.pending, t.phase = .aborting → ∀ e ∈ ip, e.id = t.id → e.phase = .preparing
  memOpen : ∀ t ∈ s.coord.pending, t.phase.isFinal = false

theorem WInv.init (stores : List Store) (a b c : Nat) : WInv [] (Sys.init stores a b c) := by
  constructor <;> intros <;> contradiction

/-- the log entry of a transaction that memory holds as `Preparing` or `Aborting` is `Preparing` -/
theorem WInv.logged_preparing {ip : List WalTx} {s : Sys} (h : WInv ip s) {t : DTx}
    (ht : t ∈ s.coord.pending) (hnp : t.phase ≠ .prepared) (hnc : t.phase ≠ .committing) :
    ∀ e ∈ ip, e.id = t.id → e.phase = .preparing := by
  intro e he hid
  cases hph : t.phase with
  | preparing =>
    obtain ⟨e0, he0, hid0, hp0, _⟩ := h.memPreparing t ht hph
    rw [h.idUniq e he e0 he0 (hid.trans hid0.symm)]; exact hp0
  | aborting => exact h.memAborting t ht hph e he hid
  | prepared => exact absurd hph hnp
  | committing => exact absurd hph hnc
  | committed => have := h.memOpen t ht; rw [hph] at this; cases this
  | aborted => have := h.memOpen t ht; rw [hph] at this; cases this

/-- the log shrinks or stays, the pending map changes but gets no new `Preparing` entry -/
theorem WInv.sub {ip ip' : List WalTx} {s s' : Sys} (h : WInv ip s)
    (hip : ∀ e ∈ ip', e ∈ ip)
    (hnext : s'.coord.nextTx = s.coord.nextTx) (hspecs : s'.specs = s.specs)
    (hmsgs : ∀ m ∈ s.msgs, m ∈ s'.msgs)
    (hdec : ∀ e ∈ ip', e.phase = .prepared → (e.id, false) ∈ s'.decided → (e.id, false) ∈ s.decided)
    (hmemP : ∀ t' ∈ s'.coord.pending, t'.phase = .preparing → ∃ t ∈ s.coord.pending, t.phase = .preparing ∧
        t.id = t'.id ∧ t.participants = t'.participants ∧ t.votes = t'.votes ∧ ∀ e ∈ ip, e.id = t.id → e ∈ ip')
    (hmemA : ∀ t' ∈ s'.coord.pending, t'.phase = .aborting → ∀ e ∈ ip', e.id = t'.id → e.phase = .preparing)
    (hopen : ∀ t' ∈ s'.coord.pending, t'.phase.isFinal = false) : WInv ip' s' := by
  constructor
  · intro e he; exact h.phases e (hip e he)
  · intro e he; rw [hnext]; exact h.idLt e (hip e he)
  · intro e he e' he' hid; exact h.idUniq e (hip e he) e' (hip e' he') hid
  · intro e he hp hd; exact h.prepNoAbort e (hip e he) hp (hdec e he hp hd)
  · intro e he hp; exact h.prepVotes e (hip e he) hp
  · intro e he hp sp hsp hid sh hsh
    rw [hspecs] at hsp
    obtain ⟨hh, ks, hv⟩ := h.prepYes e (hip e he) hp sp hsp hid sh hsh
    exact ⟨hh, ks, hmsgs _ hv⟩
  · intro e he hp sp hsp hid
    rw [hspecs] at hsp
    exact h.prepPart e (hip e he) hp sp hsp hid
  · intro t' ht' hp
    obtain ⟨t, ht, hph, hid, hpart, hvotes, hin⟩ := hmemP t' ht' hp
    obtain ⟨e, he, heid, hep, hepart, hev⟩ := h.memPreparing t ht hph
    exact ⟨e, hin e he heid, heid.trans hid, hep, by rw [hepart, hpart], by rw [hev, hvotes]⟩
  · exact hmemA
  · exact hopen

/-- one transaction `tx` gets a new log entry `en` and a new memory entry `tn` (`begin`, an accepted
    vote); every other transaction keeps its log entry and its memory entry -/
theorem WInv.replace {ip ip' : List WalTx} {s s' : Sys} (h : WInv ip s) (tx : Nat) (en : WalTx) (tn : DTx)
    (hen : en.id = tx) (htn : tn.id = tx)
    (hip : ∀ x, x ∈ ip' ↔ (x ∈ ip ∧ x.id ≠ tx) ∨ x = en)
    (hpend : ∀ t' ∈ s'.coord.pending, (t' ∈ s.coord.pending ∧ t'.id ≠ tx) ∨ t' = tn)
    (hnext : s.coord.nextTx ≤ s'.coord.nextTx) (htx : tx < s'.coord.nextTx)
    (hspecs : ∀ sp ∈ s'.specs, sp ∈ s.specs ∨ sp.id = tx)
    (hmsgs : ∀ m ∈ s.msgs, m ∈ s'.msgs)
    (hdec : ∀ x, (x, false) ∈ s'.decided → (x, false) ∈ s.decided ∨ x = tx)
    (henPhase : en.phase = .preparing ∨ en.phase = .prepared)
    (henPrep : en.phase = .prepared → (tx, false) ∉ s'.decided ∧
        ((en.participants.all (fun sh => en.hasVote sh)) = true ∧ (en.votes.all (fun x => x.2.isYes)) = true) ∧
        ∀ sp ∈ s'.specs, sp.id = tx → sp.shards = en.participants ∧
          ∀ sh ∈ sp.shards, ∃ hh ks, Msg.vote tx sh (.yes hh ks) ∈ s'.msgs)
    (htnP : tn.phase = .preparing → en.phase = .preparing ∧ en.participants = tn.participants ∧
        en.votes = tn.votes.map (fun x => (x.1, x.2.toWal)))
    (htnA : tn.phase = .aborting → en.phase = .preparing)
    (htnO : tn.phase.isFinal = false) : WInv ip' s' := by
  constructor
  · intro e he
    rcases (hip e).1 he with ⟨h1, _⟩ | rfl
    · exact h.phases e h1
    · exact henPhase
  · intro e he
    rcases (hip e).1 he with ⟨h1, _⟩ | rfl
    · exact Nat.lt_of_lt_of_le (h.idLt e h1) hnext
    · exact hen ▸ htx
  · intro e he e' he' hid
    rcases (hip e).1 he with ⟨h1, n1⟩ | rfl <;> rcases (hip e').1 he' with ⟨h2, n2⟩ | rfl
    · exact h.idUniq e h1 e' h2 hid
    · exact absurd (hid.trans hen) n1
    · exact absurd (hid.symm.trans hen) n2
    · rfl
  · intro e he hp hd
    rcases (hip e).1 he with ⟨h1, n1⟩ | rfl
    · rcases hdec e.id hd with h3 | h3
      · exact h.prepNoAbort e h1 hp h3
      · exact n1 h3
    · rw [hen] at hd; exact (henPrep hp).1 hd
  · intro e he hp
    rcases (hip e).1 he with ⟨h1, n1⟩ | rfl
    · exact h.prepVotes e h1 hp
    · exact (henPrep hp).2.1
  · intro e he hp sp hsp hid sh hsh
    rcases (hip e).1 he with ⟨h1, n1⟩ | rfl
    · rcases hspecs sp hsp with h3 | h3
      · obtain ⟨hh, ks, hv⟩ := h.prepYes e h1 hp sp h3 hid sh hsh
        exact ⟨hh, ks, hmsgs _ hv⟩
      · exact absurd (hid.symm.trans h3) n1
    · rw [hen] at hid ⊢
      exact ((henPrep hp).2.2 sp hsp hid).2 sh hsh
  · intro e he hp sp hsp hid
    rcases (hip e).1 he with ⟨h1, n1⟩ | rfl
    · rcases hspecs sp hsp with h3 | h3
      · exact h.prepPart e h1 hp sp h3 hid
      · exact absurd (hid.symm.trans h3) n1
    · rw [hen] at hid
      exact ((henPrep hp).2.2 sp hsp hid).1
  · intro t' ht' hp
    rcases hpend t' ht' with ⟨h1, n1⟩ | rfl
    · obtain ⟨e, he, heid, hrest⟩ := h.memPreparing t' h1 hp
      exact ⟨e, (hip e).2 (Or.inl ⟨he, heid ▸ n1⟩), heid, hrest⟩
    · obtain ⟨q1, q2, q3⟩ := htnP hp
      exact ⟨en, (hip en).2 (Or.inr rfl), hen.trans htn.symm, q1, q2, q3⟩
  · intro t' ht' hp e he hid
    rcases hpend t' ht' with ⟨h1, n1⟩ | rfl
    · rcases (hip e).1 he with ⟨h2, n2⟩ | rfl
      · exact h.memAborting t' h1 hp e h2 hid
      · exact absurd (hid.symm.trans hen) n1
    · rcases (hip e).1 he with ⟨h2, n2⟩ | rfl
      · exact absurd (hid.trans htn) n2
      · exact htnA hp
  · intro t' ht'
    rcases hpend t' ht' with ⟨h1, n1⟩ | rfl
    · exact h.memOpen t' h1
    · exact htnO

/-- nothing but new messages and apply / discard records -/
theorem WInv.frame {ip : List WalTx} {s s' : Sys} (h : WInv ip s) (hc : s'.coord = s.coord)
    (hs : s'.specs = s.specs) (hd : s'.decided = s.decided) (hm : ∀ m ∈ s.msgs, m ∈ s'.msgs) : WInv ip s' := by
  refine h.sub (fun _ x => x) (by rw [hc]) hs hm (fun _ _ _ x => by rw [hd] at x; exact x) ?_ ?_ ?_
  · rw [hc]; intro t ht hp; exact ⟨t, ht, hp, rfl, rfl, rfl, fun _ he _ => he⟩
  · rw [hc]; exact h.memAborting
  · rw [hc]; exact h.memOpen

/-- pending entries are dropped, nothing else changes -/
theorem WInv.shrink {ip : List WalTx} {s : Sys} (h : WInv ip s) (ps : List DTx)
    (hsub : ∀ t ∈ ps, t ∈ s.coord.pending) : WInv ip { s with coord := { s.coord with pending := ps } } := by
  refine h.sub (fun _ x => x) rfl rfl (fun _ x => x) (fun _ _ _ x => x) ?_ ?_ ?_
  · intro t ht hp; exact ⟨t, hsub t ht, hp, rfl, rfl, rfl, fun _ he _ => he⟩
  · intro t ht hp; exact h.memAborting t (hsub t ht) hp
  · intro t ht; exact h.memOpen t (hsub t ht)

theorem ok_ite {ε α : Type} {c : Prop} [Decidable c] {a b : Except ε α} (ha : ∃ r, a = .ok r)
    (hb : ∃ r, b = .ok r) : ∃ r, (if c then a else b) = .ok r := by
  split
  · exact ha
  · exact hb

theorem recordVote_accepts {c : Coordinator} {tx sh : Nat} {v : Vote} {f : Nat → Nat → Bool} {t : DTx}
    (hf : findTx c.pending tx = some t) (hph : t.phase = .preparing) (hnv : t.hasVote sh = false) :
    ∃ r, c.recordVote tx sh v f = .ok r := by
  unfold Coordinator.recordVote
  rw [hf]
  simp only [hph, hnv, bne_self_eq_false, Bool.false_eq_true, if_false]
  exact ok_ite (ok_ite (ok_ite ⟨_, rfl⟩ ⟨_, rfl⟩) ⟨_, rfl⟩) ⟨_, rfl⟩

theorem findTx_of_mem {ps : List DTx} {t : DTx} (huniq : ∀ a ∈ ps, ∀ b ∈ ps, a.id = b.id → a = b)
    (ht : t ∈ ps) : findTx ps t.id = some t := by
  cases hf : findTx ps t.id with
  | none => exact absurd rfl (findTx_none hf t ht)
  | some t0 =>
    obtain ⟨hmem, hid⟩ := findTx_some hf
    rw [huniq t0 hmem t ht hid]

/-- a refused vote for a `Preparing` transaction is a duplicate -/
theorem recordVote_error {c : Coordinator} {tx sh : Nat} {v : Vote} {f : Nat → Nat → Bool} {er : VoteErr}
    (h : c.recordVote tx sh v f = .error er) (huniq : ∀ t ∈ c.pending, ∀ t' ∈ c.pending, t.id = t'.id → t = t')
    {t : DTx} (ht : t ∈ c.pending) (hid : t.id = tx) (hph : t.phase = .preparing) : t.hasVote sh = true := by
  cases hnv : t.hasVote sh with
  | true => rfl
  | false =>
    obtain ⟨r, hr⟩ := recordVote_accepts (v := v) (f := f) (hid ▸ findTx_of_mem huniq ht) hph hnv
    rw [hr] at h; cases h

theorem recoverPhase_eq_preparing {t : DTx} {now : Nat} (h : t.recoverPhase now = .preparing) :
    t.phase = .preparing := by
  rcases recoverPhase_cases t now with h1 | ⟨_, h1⟩ | ⟨_, h1 | h1⟩
  · exact h1 ▸ h
  all_goals rw [h] at h1; cases h1

theorem recoverPhase_isFinal {t : DTx} {now : Nat} (h : t.phase.isFinal = false) :
    (t.recoverPhase now).isFinal = false := by
  rcases recoverPhase_cases t now with h1 | ⟨_, h1⟩ | ⟨_, h1 | h1⟩
  · rw [h1]; exact h
  all_goals rw [h1]; rfl

/-- an abort decision that is not an `abort()` call, along a run that spares `Committing` and `Prepared`
    entries, is about a transaction whose log entry — if it has one — is still `Preparing` -/
theorem WInv.fresh_abort_logged_preparing {ip : List WalTx} {s : Sys} (h : WInv ip s) (hi : InvR s)
    {ev : EvR} (hs : s.sparesCommitting ev = true) (hp : s.sparesPrepared ev = true) {t : DTx}
    (ht : t ∈ s.coord.pending) (f : Fresh s ev t false) (hne : ∀ tx, ev ≠ .base (.coordAbort tx)) :
    ∀ e ∈ ip, e.id = t.id → e.phase = .preparing := by
  refine h.logged_preparing ht (fun hph => ?_) (fun hph => ?_)
  · -- `Prepared`: no deadline passes on it, and it has all YES
    have hto : t.timedOut s.now = true → s.coord.pending.all
        (fun t => !(t.phase == .prepared && t.timedOut s.now)) = true → False := by
      intro hto hall
      have := List.all_eq_true.1 hall t ht
      rw [hph, hto] at this
      cases this
    cases f with
    | vote i _ hpre => rw [hph] at hpre; cases hpre
    | abort _ => exact hne t.id rfl
    | sweep _ hto' => exact hto hto' hp
    | recoverAbort _ hrp =>
      cases hx : t.timedOut s.now with
      | true => exact hto hx hp
      | false =>
        rw [recoverPhase_prepared' hph, hx, (hi.prepOk t ht (Or.inl hph)).2] at hrp
        cases hrp
  · exact f.not_committing ht hs hph

theorem WInv.begin {ip : List WalTx} {s : Sys} (h : WInv ip s) (hi : InvR s) (shards : List Nat)
    (ops : List (Nat × List Op)) (sim : List (Nat × Nat)) :
    WInv ((s.walOf (.begin shards ops sim)).foldl scanStep ip) (s.step (.begin shards ops sim)) := by
  by_cases hfull : s.coord.pending.length ≥ s.coord.maxConcurrent
  · simp only [Sys.step, Sys.stepR, Coordinator.begin, Sys.walOf, Coordinator.walOfBegin, if_pos hfull,
      List.foldl_nil]
    exact h
  · simp only [Sys.step, Sys.stepR, Coordinator.begin, Sys.walOf, Coordinator.walOfBegin, if_neg hfull,
      List.foldl_cons, List.foldl_nil]
    refine h.replace s.coord.nextTx ⟨s.coord.nextTx, shards, [], .preparing⟩
      ⟨s.coord.nextTx, shards, .preparing, [], s.now, s.coord.prepareTimeout⟩ rfl rfl
      (fun x => mem_scan_begin) ?_ (Nat.le_succ _) (Nat.lt_succ_self _) ?_
      (fun m hm => List.mem_append.2 (Or.inl hm)) (fun x hx => Or.inl hx) (Or.inl rfl) ?_
      (fun _ => ⟨rfl, rfl, rfl⟩) (fun _ => rfl) rfl
    · intro t' ht'
      rcases List.mem_append.1 ht' with h1 | h1
      · exact Or.inl ⟨h1, Nat.ne_of_lt (hi.pendLt t' h1)⟩
      · exact Or.inr (List.mem_singleton.1 h1)
    · intro sp hsp
      rcases List.mem_append.1 hsp with h1 | h1
      · exact Or.inl h1
      · rw [List.mem_singleton.1 h1]; exact Or.inr rfl
    · intro hp; cases hp

theorem WInv.vote {ip : List WalTx} {s : Sys} (h : WInv ip s) (hi : InvR s) {tx sh : Nat} {v : Vote}
    (hv : Msg.vote tx sh v ∈ s.msgs) :
    WInv ((s.coord.walOfVote tx sh v (nonOrthOf s.specs tx)).foldl scanStep ip)
      (s.deliverMsg (.vote tx sh v)).1 := by
  cases hr : s.coord.recordVote tx sh v (nonOrthOf s.specs tx) with
  | error er =>
    -- the record is logged all the same; memory holds no `Preparing` entry that would accept it
    simp only [Coordinator.walOfVote, Sys.deliverMsg, hr, List.foldl_cons, List.foldl_nil]
    rw [scanStep_vote]
    have hback : ∀ x ∈ ip.map (voteUpd tx sh v.toWal), x.phase = .prepared → x ∈ ip := by
      intro x hx hp
      obtain ⟨a, ha, rfl⟩ := List.mem_map.1 hx
      rw [voteUpd_phase] at hp
      rw [voteUpd_of_phase_ne (by rw [hp]; exact fun hh => nomatch hh)]
      exact ha
    constructor
    · intro x hx
      obtain ⟨a, ha, rfl⟩ := List.mem_map.1 hx
      rw [voteUpd_phase]; exact h.phases a ha
    · intro x hx
      obtain ⟨a, ha, rfl⟩ := List.mem_map.1 hx
      rw [voteUpd_id]; exact h.idLt a ha
    · intro x hx x' hx' hid
      obtain ⟨a, ha, rfl⟩ := List.mem_map.1 hx
      obtain ⟨a', ha', rfl⟩ := List.mem_map.1 hx'
      rw [voteUpd_id, voteUpd_id] at hid
      rw [h.idUniq a ha a' ha' hid]
    · exact fun x hx hp => h.prepNoAbort x (hback x hx hp) hp
    · exact fun x hx hp => h.prepVotes x (hback x hx hp) hp
    · exact fun x hx hp => h.prepYes x (hback x hx hp) hp
    · exact fun x hx hp => h.prepPart x (hback x hx hp) hp
    · intro t ht hph
      obtain ⟨e, he, hid, hep, hepart, hev⟩ := h.memPreparing t ht hph
      refine ⟨e, List.mem_map.2 ⟨e, he, ?_⟩, hid, hep, hepart, hev⟩
      by_cases hx : e.id = tx
      · apply voteUpd_of_hasVote
        rw [hasVote_toWal hev]
        exact recordVote_error hr hi.pendUniq ht (hid.symm.trans hx) hph
      · exact voteUpd_of_id_ne hx
    · intro t ht hph x hx hid
      obtain ⟨a, ha, rfl⟩ := List.mem_map.1 hx
      rw [voteUpd_id] at hid
      rw [voteUpd_phase]
      exact h.memAborting t ht hph a ha hid
    · exact h.memOpen
  | ok r =>
    obtain ⟨c', ph⟩ := r
    obtain ⟨t, t1, htm, htid, htph, htnv, hpend, hnext, h1id, h1part, h1votes, hcases⟩ := recordVote_ok_res hr
    obtain ⟨e0, he0, he0id, he0ph, he0part, he0votes⟩ := h.memPreparing t htm htph
    have he0tx : e0.id = tx := he0id.trans htid
    have he0upd : voteUpd tx sh v.toWal e0 = ⟨e0.id, e0.participants, e0.votes ++ [(sh, v.toWal)], e0.phase⟩ :=
      voteUpd_hit he0tx he0ph ((hasVote_toWal he0votes sh).trans htnv)
    have hscan : ∀ x, x ∈ scanStep ip (.vote tx sh v.toWal) ↔ (x ∈ ip ∧ x.id ≠ tx) ∨
        x = ⟨e0.id, e0.participants, e0.votes ++ [(sh, v.toWal)], e0.phase⟩ := fun x =>
      he0upd ▸ mem_map_hit h.idUniq he0 he0tx (fun _ => voteUpd_of_id_ne) x
    have hmem : ∀ t' ∈ c'.pending, (t' ∈ s.coord.pending ∧ t'.id ≠ tx) ∨ t' = t1 := fun t' ht' =>
      (mem_setTx (hpend ▸ ht')).symm
    have hvotes1 : e0.votes ++ [(sh, v.toWal)] = t1.votes.map (fun x => (x.1, x.2.toWal)) := by
      rw [h1votes, List.map_append, ← he0votes]; rfl
    rw [show (s.deliverMsg (.vote tx sh v)).1 = s.drain c' by simp only [Sys.deliverMsg, hr]]
    have hdec : ∀ x, (x, false) ∈ (s.drain c').decided → (x, false) ∈ s.decided ∨ x = tx := by
      intro x hx
      rcases mem_drain_decided hx with h1 | ⟨_, a, ha, rfl⟩
      · exact Or.inl h1
      · rcases hcases with ⟨_, _, e⟩ | ⟨_, _, e, _⟩ | ⟨_, _, _, e⟩ <;> rw [e, hi.paEmpty] at ha
        · cases ha
        · cases ha
        · cases List.mem_singleton.1 ha; exact Or.inr rfl
    have hopen : t1.phase.isFinal = false := by
      rcases hcases with ⟨e, _⟩ | ⟨e, _⟩ | ⟨e, _⟩ <;> rw [e] <;> rfl
    have htxlt : tx < (s.drain c').coord.nextTx := by
      show tx < c'.nextTx
      rw [hnext, ← htid]; exact hi.pendLt t htm
    by_cases hp : ph = some .prepared
    · -- `Prepared`: the phase change is logged after the vote
      subst hp
      obtain ⟨h1ph, hav, hay⟩ : t1.phase = .prepared ∧ t1.allVoted = true ∧ t1.allYes = true := by
        rcases hcases with ⟨_, e, _⟩ | ⟨e, _, _, e1, e2⟩ | ⟨_, e, _⟩
        · cases e
        · exact ⟨e, e1, e2⟩
        · cases e
      simp only [Coordinator.walOfVote, hr, List.foldl_cons, List.foldl_nil]
      have hip : ∀ x, x ∈ scanStep (scanStep ip (.vote tx sh v.toWal)) (.phase tx .prepared) ↔
          (x ∈ ip ∧ x.id ≠ tx) ∨ x = ⟨e0.id, e0.participants, e0.votes ++ [(sh, v.toWal)], .prepared⟩ := by
        intro x
        have := mem_map_hit (f := fun a => phaseUpd tx .prepared (voteUpd tx sh v.toWal a)) h.idUniq he0 he0tx
          (fun a hne => by rw [voteUpd_of_id_ne hne, phaseUpd_of_id_ne hne]) x
        rw [phaseUpd_hit ((voteUpd_id tx sh v.toWal e0).trans he0tx), he0upd] at this
        rw [scanStep_phase, scanStep_vote, List.map_map]
        exact this
      -- `tx` had no commit decision (its entry was `Preparing`), so every recorded vote is a pool message
      have hvm : ∀ e ∈ t1.votes, Msg.vote t1.id e.1 e.2 ∈ s.msgs := by
        intro e he
        rw [h1id]
        rw [h1votes] at he
        rcases List.mem_append.1 he with h2 | h2
        · rcases hi.voteMsg t htm e h2 with h3 | h3
          · exact htid ▸ h3
          · have := hi.decCommit t.id h3 t htm rfl
            rw [htph] at this; cases this
        · cases List.mem_singleton.1 h2; exact hv
      refine h.replace tx ⟨e0.id, e0.participants, e0.votes ++ [(sh, v.toWal)], .prepared⟩ t1 he0tx h1id hip hmem (Nat.le_of_eq hnext.symm) htxlt (fun sp hsp => Or.inl hsp)
        (fun m hm => List.mem_append.2 (Or.inl hm)) hdec (Or.inr rfl) (fun _ => ⟨?_, ⟨?_, ?_⟩, ?_⟩)
        (fun hp => by rw [h1ph] at hp; cases hp) (fun hp => by rw [h1ph] at hp; cases hp) hopen
      · intro hd
        rcases mem_drain_decided hd with h1 | ⟨_, a, ha, _⟩
        · have := hi.decAbort tx h1 t htm htid
          rw [htph] at this; cases this
        · rcases hcases with ⟨e, _⟩ | ⟨_, _, e, _⟩ | ⟨e, _⟩
          · rw [h1ph] at e; cases e
          · rw [e, hi.paEmpty] at ha; cases ha
          · rw [h1ph] at e; cases e
      · show (e0.participants.all (fun sh' => (e0.votes ++ [(sh, v.toWal)]).any (fun x => x.1 == sh'))) = true
        rw [hvotes1, he0part, ← h1part]
        simp only [any_fst_map]
        exact hav
      · show ((e0.votes ++ [(sh, v.toWal)]).all (fun x => x.2.isYes)) = true
        rw [hvotes1, all_snd_map Vote.toWal WalVote.isYes]
        simp only [Vote.toWal_isYes]
        exact hay
      · intro sp hsp hid
        have hparts := hi.specPart t htm sp hsp (hid.trans htid.symm)
        refine ⟨hparts.trans he0part.symm, ?_⟩
        intro sh' hsh'
        rw [hparts, ← h1part] at hsh'
        obtain ⟨hh, ks, hvv⟩ := yes_of_allVoted_allYes hav hay hvm hsh'
        exact ⟨hh, ks, List.mem_append.2 (Or.inl (h1id ▸ hvv))⟩
    · -- still `Preparing`, or `Aborting`: nothing more is logged, the log entry stays `Preparing`
      have hlog : (s.coord.walOfVote tx sh v (nonOrthOf s.specs tx)).foldl scanStep ip =
          scanStep ip (.vote tx sh v.toWal) := by
        rcases hcases with ⟨_, rfl, _⟩ | ⟨_, rfl, _⟩ | ⟨_, rfl, _⟩
        · simp only [Coordinator.walOfVote, hr, List.foldl_cons, List.foldl_nil]
        · exact absurd rfl hp
        · simp only [Coordinator.walOfVote, hr, List.foldl_cons, List.foldl_nil]
      rw [hlog]
      exact h.replace tx ⟨e0.id, e0.participants, e0.votes ++ [(sh, v.toWal)], e0.phase⟩ t1 he0tx h1id hscan hmem (Nat.le_of_eq hnext.symm) htxlt (fun sp hsp => Or.inl hsp)
        (fun m hm => List.mem_append.2 (Or.inl hm)) hdec (Or.inl he0ph)
        (fun hp => nomatch he0ph.symm.trans hp)
        (fun _ => ⟨he0ph, he0part.trans h1part.symm, hvotes1⟩) (fun _ => he0ph) hopen

theorem WInv.deliver {ip : List WalTx} {s : Sys} (h : WInv ip s) (hi : InvR s) (i : Nat) :
    WInv ((s.walOf (.deliver i)).foldl scanStep ip) (s.step (.deliver i)) := by
  cases hm : s.msgs[i]? with
  | none =>
    simp only [Sys.step, Sys.stepR, Sys.walOf, hm, List.foldl_nil]
    exact h
  | some m =>
    cases m with
    | vote tx sh v =>
      simp only [Sys.step, Sys.stepR, Sys.walOf, hm]
      exact h.vote hi (mem_of_getElem? hm)
    | prepare tx sh ops =>
      simp only [Sys.step, Sys.stepR, Sys.walOf, hm, List.foldl_nil, Sys.deliverMsg]
      split
      · exact h
      · exact h.frame rfl rfl rfl (fun m hm => List.mem_append.2 (Or.inl hm))
    | commit tx sh =>
      simp only [Sys.step, Sys.stepR, Sys.walOf, hm, List.foldl_nil, Sys.deliverMsg]
      split
      · exact h
      · exact h.frame rfl rfl rfl (fun m hm => hm)
    | abort tx sh =>
      simp only [Sys.step, Sys.stepR, Sys.walOf, hm, List.foldl_nil, Sys.deliverMsg]
      split
      · exact h
      · exact h.frame rfl rfl rfl (fun m hm => hm)

theorem WInv.sweep {ip : List WalTx} {s : Sys} (h : WInv ip s) (hi : InvR s)
    (hs : s.sparesCommitting (.base .sweep) = true) (hp : s.sparesPrepared (.base .sweep) = true) :
    WInv ip (s.step .sweep) := by
  have c := coordStep_sweep hi
  have hsub : ∀ t' ∈ (s.step .sweep).coord.pending, t' ∈ s.coord.pending := fun t' ht' =>
    let ⟨_, ht, e⟩ := c.pending t' ht'
    e ▸ ht
  refine h.sub (fun _ x => x) c.nextTx c.specs c.msgsMono ?_ ?_ ?_ ?_
  · intro e he hph hd
    rcases c.decided e.id false hd with h1 | ⟨t, ht, hid, f, _⟩
    · exact h1
    · have := h.fresh_abort_logged_preparing hi hs hp ht f (fun tx hh => by cases hh) e he hid.symm
      rw [hph] at this; cases this
  · intro t' ht' hph
    exact ⟨t', hsub t' ht', hph, rfl, rfl, rfl, fun _ he _ => he⟩
  · intro t' ht' hph
    exact h.memAborting t' (hsub t' ht') hph
  · intro t' ht'
    exact h.memOpen t' (hsub t' ht')

/-- `commit()` / `abort()`: the log and memory drop `tx` -/
theorem WInv.remove {ip : List WalTx} {s s' : Sys} (h : WInv ip s) (tx : Nat) (to : Phase)
    (hpend : s'.coord.pending = removeTx s.coord.pending tx) (hnext : s'.coord.nextTx = s.coord.nextTx)
    (hspecs : s'.specs = s.specs) (hmsgs : ∀ m ∈ s.msgs, m ∈ s'.msgs)
    (hdec : ∀ x, (x, false) ∈ s'.decided → (x, false) ∈ s.decided ∨ x = tx) :
    WInv (scanStep (scanStep ip (.phase tx to)) (.complete tx)) s' := by
  have hsub : ∀ t' ∈ s'.coord.pending, t' ∈ s.coord.pending ∧ t'.id ≠ tx := fun t' ht' =>
    mem_removeTx.1 (hpend ▸ ht')
  refine h.sub (fun e he => (mem_scan_phase_complete.1 he).1) hnext hspecs hmsgs ?_ ?_ ?_ ?_
  · intro e he _ hd
    exact (hdec e.id hd).resolve_right (mem_scan_phase_complete.1 he).2
  · intro t' ht' hph'
    obtain ⟨h1, h2⟩ := hsub t' ht'
    exact ⟨t', h1, hph', rfl, rfl, rfl, fun e he hid => mem_scan_phase_complete.2 ⟨he, hid ▸ h2⟩⟩
  · intro t' ht' hph' e he hid
    exact h.memAborting t' (hsub t' ht').1 hph' e (mem_scan_phase_complete.1 he).1 hid
  · intro t' ht'
    exact h.memOpen t' (hsub t' ht').1

theorem WInv.coordCommit {ip : List WalTx} {s : Sys} (h : WInv ip s) (tx : Nat) :
    WInv ((s.coord.walOfCommit tx).foldl scanStep ip) (s.step (.coordCommit tx)) := by
  cases hc : s.coord.commit tx with
  | error er =>
    cases hf : findTx s.coord.pending tx <;>
      simp only [Sys.step, Sys.stepR, Coordinator.walOfCommit, hf, hc, List.foldl_nil] <;> exact h
  | ok c =>
    obtain ⟨t, hft, hph, rfl⟩ := commit_ok hc
    simp only [Sys.step, Sys.stepR, Coordinator.walOfCommit, hft, hc, List.foldl_append, List.foldl_cons,
      List.foldl_nil, foldl_releasesOf]
    refine h.remove tx .committing rfl rfl rfl (fun m hm => List.mem_append.2 (Or.inl hm)) (fun x hx => ?_)
    rcases List.mem_append.1 hx with h1 | h1
    · exact Or.inl h1
    · cases List.mem_singleton.1 h1

theorem WInv.coordAbort {ip : List WalTx} {s : Sys} (h : WInv ip s) (tx : Nat) :
    WInv ((s.coord.walOfAbort tx).foldl scanStep ip) (s.step (.coordAbort tx)) := by
  cases hc : s.coord.abort tx with
  | error er =>
    cases hf : findTx s.coord.pending tx <;>
      simp only [Sys.step, Sys.stepR, Coordinator.walOfAbort, hf, hc, List.foldl_nil] <;> exact h
  | ok c =>
    obtain ⟨t, hft, rfl⟩ := abort_ok hc
    simp only [Sys.step, Sys.stepR, Coordinator.walOfAbort, hft, hc, List.foldl_cons, List.foldl_nil]
    refine h.remove tx .aborting rfl rfl rfl (fun m hm => List.mem_append.2 (Or.inl hm)) (fun x hx => ?_)
    rcases List.mem_append.1 hx with h1 | h1
    · exact Or.inl h1
    · cases List.mem_singleton.1 h1; exact Or.inr rfl

theorem WInv.coordRecover {ip : List WalTx} {s : Sys} (h : WInv ip s) (hi : InvR s)
    (hp : s.sparesPrepared .coordRecover = true) : WInv ip (s.stepX .coordRecover) := by
  have hmem : ∀ t', t' ∈ (s.stepX .coordRecover).coord.pending →
      ∃ t ∈ s.coord.pending, t' = t.recovered s.now ∧ (t.recoverPhase s.now).isFinal = false :=
    fun t' ht' => mem_recover_pending_iff.1 ht'
  have c := coordStep_recover hi
  refine h.sub (fun _ x => x) c.nextTx c.specs c.msgsMono ?_ ?_ ?_ ?_
  · intro e he hph hd
    rcases c.decided e.id false hd with h1 | ⟨t, ht, hid, f, _⟩
    · exact h1
    · have := h.fresh_abort_logged_preparing hi rfl hp ht f (fun tx hh => by cases hh) e he hid.symm
      rw [hph] at this; cases this
  · intro t' ht' hph
    obtain ⟨t, ht, rfl, _⟩ := hmem t' ht'
    rw [recovered_phase] at hph
    exact ⟨t, ht, recoverPhase_eq_preparing hph, rfl, rfl, rfl, fun _ he _ => he⟩
  · intro t' ht' hph e he hid
    obtain ⟨t, ht, rfl, _⟩ := hmem t' ht'
    rw [recovered_phase] at hph
    exact h.fresh_abort_logged_preparing hi rfl hp ht (Fresh.recoverAbort t hph) (fun tx hh => by cases hh) e he hid
  · intro t' ht'
    obtain ⟨t, ht, rfl, hf⟩ := hmem t' ht'
    rw [recovered_phase]; exact hf

theorem WInv.stepX {ip : List WalTx} {s : Sys} (h : WInv ip s) (hi : InvR s) (e : EvR)
    (ha : s.inAlphabetR e = true) (hs : s.sparesCommitting e = true) (hp : s.sparesPrepared e = true) :
    WInv ((s.walOfR e).foldl scanStep ip) (s.stepX e) := by
  cases e with
  | base e =>
    cases e with
    | «begin» shards ops sim => exact h.begin hi shards ops sim
    | deliver i => exact h.deliver hi i
    | sweep => exact h.sweep hi hs hp
    | tick d => exact h.frame rfl rfl rfl (fun m hm => hm)
    | coordCommit tx => exact h.coordCommit tx
    | coordAbort tx => exact h.coordAbort tx
    | forge tx sh v => exact h.frame rfl rfl rfl (fun m hm => List.mem_append.2 (Or.inl hm))
    | cleanupStale sh t => cases ha
    | recover sh t => cases ha
  | coordRecover => exact h.coordRecover hi hp
  | completeCommit tx =>
    simp only [Sys.stepX, Sys.walOfR, List.foldl_nil]
    split
    · rename_i c hc
      obtain ⟨_, _, _, rfl⟩ := completeCommit_ok hc
      exact h.shrink _ (fun t ht => (mem_removeTx.1 ht).1)
    · exact h
  | completeAbort tx =>
    simp only [Sys.stepX, Sys.walOfR, List.foldl_nil]
    split
    · rename_i c hc
      obtain ⟨_, _, _, rfl⟩ := completeAbort_ok hc
      exact h.shrink _ (fun t ht => (mem_removeTx.1 ht).1)
    · exact h
  | forceResolve tx b => cases ha

theorem mem_resendDecisions_of {c : Coordinator} {t : DTx} (ht : t ∈ c.pending) (hp : t.phase = .committing) :
    (t.id, true) ∈ c.resendDecisions := by
  simp only [Coordinator.resendDecisions, List.mem_filterMap]
  refine ⟨(t.id, t.phase), mem_pendingDecisions_of ht (Or.inl hp), ?_⟩
  rw [hp]; rfl

/-- a restored `Prepared` entry whose logged votes are all YES is not timed out at the restart and is
    moved to `Committing` by `recover()` -/
theorem restoreAs_prepared_recoverPhase {e : WalTx} {now : Nat}
    (hy : (e.votes.all (fun x => x.2.isYes)) = true) :
    (e.restoreAs .prepared now).recoverPhase now = .committing := by
  have hto : (e.restoreAs .prepared now).timedOut now = false := by
    simp [DTx.timedOut, WalTx.restoreAs, walRestoredTimeout]
  have hay : (e.restoreAs .prepared now).allYes = true := by
    simp only [DTx.allYes, WalTx.restoreAs]
    rw [all_snd_map WalVote.restore Vote.isYes]
    simp only [WalVote.restore_isYes]
    exact hy
  rw [recoverPhase_prepared' rfl, hto, hay]
  rfl

/-- the pending map after a WAL restart: the logged-`Prepared` entries, `Committing` -/
theorem WInv.mem_walRestart_pending {wal : List WalEntry} {s : Sys} (h : WInv (scanLog wal) s) {t' : DTx}
    (ht' : t' ∈ (s.walRestart wal).coord.pending) :
    ∃ e ∈ scanLog wal, e.phase = .prepared ∧ t' = e.restoreAs .committing s.now := by
  obtain ⟨t, ht, rfl⟩ := mem_recover_pending ht'
  obtain ⟨e, he, hph, rfl⟩ := mem_restored.1 ht
  have hp : e.phase = .prepared := by
    rcases h.phases e he with h1 | h1
    · rw [h1] at hph; rcases hph with h2 | h2 | h2 <;> cases h2
    · exact h1
  refine ⟨e, he, hp, ?_⟩
  rw [hp]
  show ({ e.restoreAs .prepared s.now with phase := (e.restoreAs .prepared s.now).recoverPhase s.now } : DTx) = _
  rw [restoreAs_prepared_recoverPhase (h.prepVotes e he hp).2]
  rfl

theorem walRestart_decided {wal : List WalEntry} {s : Sys} (h : WInv (scanLog wal) s) {tx : Nat} {b : Bool}
    (hd : (tx, b) ∈ (s.walRestart wal).decided) :
    (tx, b) ∈ s.decided ∨ (b = true ∧ ∃ e ∈ scanLog wal, e.phase = .prepared ∧ e.id = tx) := by
  change (tx, b) ∈ s.decided ++ _ at hd
  rcases List.mem_append.1 hd with h1 | h1
  · exact Or.inl h1
  · obtain ⟨t', ht', hid, hph⟩ := mem_resendDecisions h1
    obtain ⟨e, he, hp, rfl⟩ := h.mem_walRestart_pending ht'
    cases b with
    | true => exact Or.inr ⟨rfl, e, he, hp, hid⟩
    | false => cases hph

theorem walRestart_msgs_mono {wal : List WalEntry} {s : Sys} {m : Msg} (hm : m ∈ s.msgs) :
    m ∈ (s.walRestart wal).msgs := by
  change m ∈ s.msgs ++ _
  exact List.mem_append.2 (Or.inl hm)

theorem walRestart_decided_mono {wal : List WalEntry} {s : Sys} {x : Nat × Bool} (hx : x ∈ s.decided) :
    x ∈ (s.walRestart wal).decided := by
  change x ∈ s.decided ++ _
  exact List.mem_append.2 (Or.inl hx)

theorem walRestart_nextTx (s : Sys) (wal : List WalEntry) : (s.walRestart wal).coord.nextTx = s.coord.nextTx := rfl
theorem walRestart_specs (s : Sys) (wal : List WalEntry) : (s.walRestart wal).specs = s.specs := rfl
theorem walRestart_applied (s : Sys) (wal : List WalEntry) : (s.walRestart wal).applied = s.applied := rfl
theorem walRestart_discarded (s : Sys) (wal : List WalEntry) : (s.walRestart wal).discarded = s.discarded := rfl

theorem InvR.walRestart {wal : List WalEntry} {s : Sys} (h : InvR s) (hw : WInv (scanLog wal) s) :
    InvR (s.walRestart wal) := by
  have hmem : ∀ t', t' ∈ (s.walRestart wal).coord.pending →
      ∃ e ∈ scanLog wal, e.phase = .prepared ∧ t' = e.restoreAs .committing s.now :=
    fun t' ht' => hw.mem_walRestart_pending ht'
  constructor
  · intro tx sh hm
    rcases recover_msgs_cases hm with h1 | ⟨_, _, ⟨he, hd⟩ | ⟨he, _⟩⟩
    · exact walRestart_decided_mono (h.commitMsg tx sh h1)
    · cases he; exact hd
    · cases he
  · intro tx sh hm
    rcases recover_msgs_cases hm with h1 | ⟨_, _, ⟨he, _⟩ | ⟨he, hd⟩⟩
    · exact walRestart_decided_mono (h.abortMsg tx sh h1)
    · cases he
    · cases he; exact hd
  · intro tx hd t' ht' hid
    -- a restored entry is logged `Prepared`, so it has no abort decision, and the restart adds none
    obtain ⟨e, he, hp, rfl⟩ := hmem t' ht'
    rcases walRestart_decided hw hd with h1 | ⟨h1, _⟩
    · exact absurd (by rw [← hid] at h1; exact h1) (hw.prepNoAbort e he hp)
    · cases h1
  · intro tx hd t' ht' hid
    obtain ⟨e, he, hp, rfl⟩ := hmem t' ht'
    rfl
  · intro t' ht'
    obtain ⟨e, he, hp, rfl⟩ := hmem t' ht'
    rw [walRestart_nextTx]; exact hw.idLt e he
  · intro a ha b hb hid
    obtain ⟨e, he, hp, rfl⟩ := hmem a ha
    obtain ⟨e', he', hp', rfl⟩ := hmem b hb
    rw [hw.idUniq e he e' he' hid]
  · intro tx b hd
    rw [walRestart_nextTx]
    rcases walRestart_decided hw hd with h1 | ⟨_, e, he, _, hid⟩
    · exact h.decLt tx b h1
    · exact hid ▸ hw.idLt e he
  · rfl
  · intro t' ht' x _
    obtain ⟨e, he, hp, rfl⟩ := hmem t' ht'
    exact Or.inr (List.mem_append.2 (Or.inr (mem_resendDecisions_of ht' rfl)))
  · intro t' ht' _
    obtain ⟨e, he, hp, rfl⟩ := hmem t' ht'
    obtain ⟨hv, hy⟩ := hw.prepVotes e he hp
    constructor
    · simp only [DTx.allVoted, DTx.hasVote, WalTx.restoreAs, any_fst_map]
      exact hv
    · simp only [DTx.allYes, WalTx.restoreAs]
      rw [all_snd_map WalVote.restore Vote.isYes]
      simp only [WalVote.restore_isYes]
      exact hy
  · rw [walRestart_specs, walRestart_nextTx]; exact h.specLt
  · intro t' ht' sp hsp hid
    obtain ⟨e, he, hp, rfl⟩ := hmem t' ht'
    rw [walRestart_specs] at hsp
    exact hw.prepPart e he hp sp hsp hid
  · intro tx hd sp hsp hid sh hsh
    rw [walRestart_specs] at hsp
    rcases walRestart_decided hw hd with h1 | ⟨_, e, he, hp, hid'⟩
    · obtain ⟨hh, ks, hv⟩ := h.commitYes tx h1 sp hsp hid sh hsh
      exact ⟨hh, ks, walRestart_msgs_mono hv⟩
    · obtain ⟨hh, ks, hv⟩ := hw.prepYes e he hp sp hsp (hid.trans hid'.symm) sh hsh
      exact ⟨hh, ks, walRestart_msgs_mono (hid' ▸ hv)⟩
  · intro sh tx hx
    rw [walRestart_applied] at hx
    exact walRestart_decided_mono (h.applied sh tx hx)
  · intro sh tx hx
    rw [walRestart_discarded] at hx
    exact walRestart_decided_mono (h.discarded sh tx hx)

theorem excl_walRestart {wal : List WalEntry} {s : Sys} (hw : WInv (scanLog wal) s)
    (hx : ∀ tx, (tx, true) ∈ s.decided → (tx, false) ∉ s.decided) :
    ∀ tx, (tx, true) ∈ (s.walRestart wal).decided → (tx, false) ∉ (s.walRestart wal).decided := by
  intro tx h1 h2
  rcases walRestart_decided hw h2 with o2 | ⟨o2, _⟩
  · rcases walRestart_decided hw h1 with o1 | ⟨_, e, he, hp, hid⟩
    · exact hx tx o1 o2
    · rw [← hid] at o2
      exact hw.prepNoAbort e he hp o2
  · cases o2

theorem WInv.walRestart {wal : List WalEntry} {s : Sys} (hw : WInv (scanLog wal) s) :
    WInv (scanLog wal) (s.walRestart wal) := by
  have hmem : ∀ t', t' ∈ (s.walRestart wal).coord.pending →
      ∃ e ∈ scanLog wal, e.phase = .prepared ∧ t' = e.restoreAs .committing s.now :=
    fun t' ht' => hw.mem_walRestart_pending ht'
  refine hw.sub (fun _ x => x) (walRestart_nextTx s wal) (walRestart_specs s wal) (fun m hm => walRestart_msgs_mono hm) ?_ ?_ ?_ ?_
  · intro e he hp hd
    rcases walRestart_decided hw hd with h1 | ⟨h1, _⟩
    · exact h1
    · cases h1
  · intro t' ht' hph
    obtain ⟨e, he, hp, rfl⟩ := hmem t' ht'
    cases hph
  · intro t' ht' hph
    obtain ⟨e, he, hp, rfl⟩ := hmem t' ht'
    cases hph
  · intro t' ht'
    obtain ⟨e, he, hp, rfl⟩ := hmem t' ht'
    rfl

structure InvW (w : SysW) : Prop where
  inv : InvR w.k.sys
  excl : ∀ tx, (tx, true) ∈ w.k.sys.decided → (tx, false) ∉ w.k.sys.decided
  wal : WInv (scanLog w.wal) w.k.sys

theorem InvW.init (stores : List Store) (a b c : Nat) : InvW (SysW.init stores a b c) :=
  ⟨InvR.init stores a b c, (InvRS.init stores a b c).excl, WInv.init stores a b c⟩

theorem InvW.step {w : SysW} (h : InvW w) (e : EvW) (ha : w.inAlphabetW e = true) : InvW (w.stepW e) := by
  cases e with
  | walRestart =>
    exact ⟨h.inv.walRestart h.wal, excl_walRestart h.wal h.excl, h.wal.walRestart⟩
  | k e =>
    cases e with
    | ev e =>
      simp only [SysW.inAlphabetW, SysK.inAlphabetK, Bool.and_eq_true] at ha
      obtain ⟨⟨ha1, ha2⟩, ha3⟩ := ha
      refine ⟨h.inv.stepX e ha1, excl_stepX h.inv h.excl e ha1 ha2, ?_⟩
      show WInv (scanLog (w.wal ++ w.k.sys.walOfR e)) (w.k.sys.stepX e)
      rw [scanLog_append]
      exact h.wal.stepX h.inv e ha1 ha2 ha3
    | checkpoint =>
      refine ⟨h.inv, h.excl, ?_⟩
      show WInv (scanLog (w.wal ++ [])) w.k.sys
      rw [List.append_nil]; exact h.wal
    | restore =>
      have hs : (w.k.stepK .restore).sys = w.k.sys := stepK_restore_current ha h.inv.paEmpty
      have hw : (w.stepW (.k .restore)).wal = w.wal := List.append_nil _
      have hk : (w.stepW (.k .restore)).k.sys = w.k.sys := hs
      refine ⟨?_, ?_, ?_⟩
      · rw [hk]; exact h.inv
      · rw [hk]; exact h.excl
      · rw [hk, hw]; exact h.wal

theorem InvW.reach {stores : List Store} {a b c : Nat} {w : SysW}
    (hr : ReachW (SysW.init stores a b c) w) : InvW w := by
  induction hr with
  | refl => exact InvW.init stores a b c
  | step e _ ha ih => exact ih.step e ha

theorem ReachW.trans {w0 w w' : SysW} (h1 : ReachW w0 w) (h2 : ReachW w w') : ReachW w0 w' := by
  induction h2 with
  | refl => exact h1
  | step e _ ha ih => exact ReachW.step e ih ha

theorem reachW_run {w0 w : SysW} (hr : ReachW w0 w) (es : List EvW) (h : w.allInW es = true) :
    ReachW w0 (w.runW es) := by
  induction es generalizing w with
  | nil => exact hr
  | cons e es ih =>
    simp only [SysW.allInW, Bool.and_eq_true] at h
    exact ih (ReachW.step e hr h.1) h.2

theorem decided_mono_reachW {w w' : SysW} (h : ReachW w w') (x : Nat × Bool) (hx : x ∈ w.k.sys.decided) :
    x ∈ w'.k.sys.decided := by
  induction h with
  | refl => exact hx
  | step e _ _ ih =>
    cases e with
    | walRestart => exact walRestart_decided_mono ih
    | k e =>
      cases e with
      | ev e => exact decided_monoX _ e x ih
      | checkpoint => exact ih
      | restore => exact ih


end Neumann.TwoPC
