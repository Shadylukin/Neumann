import NeumannModel.TwoPC.LemmasPart
/-
  C03 — what is applied is what the client asked for: every PREPARE in the pool, every prepared
  record on shard `sh` and every logged application on shard `sh` carries exactly the operations the
  client named for that shard when it began the transaction (`TxSpec.opsFor`).
-/
namespace Neumann.TwoPC

structure OInv (s : Sys) : Prop where
  msg : ∀ tx sh ops, Msg.prepare tx sh ops ∈ s.msgs → ∃ sp ∈ s.specs, sp.id = tx ∧ ops = sp.opsFor sh
  prep : ∀ sh p, s.parts[sh]? = some p → ∀ pt ∈ p.prepared,
    ∃ sp ∈ s.specs, sp.id = pt.tx ∧ pt.ops = sp.opsFor sh
  app : ∀ sh tx ops, (sh, tx, ops) ∈ s.appliedOps → ∃ sp ∈ s.specs, sp.id = tx ∧ ops = sp.opsFor sh

theorem OInv.init (stores : List Store) (a b c : Nat) : OInv (Sys.init stores a b c) := by
  refine ⟨nofun, fun sh p hp pt hpt => ?_, nofun⟩
  obtain ⟨st, _, rfl⟩ := List.mem_map.1 (List.mem_of_getElem? hp)
  cases hpt

theorem OInv.frame {s s' : Sys} (h : OInv s) (hs : s'.specs = s.specs) (hp : s'.parts = s.parts)
    (ha : s'.appliedOps = s.appliedOps)
    (hm : ∀ tx sh ops, Msg.prepare tx sh ops ∈ s'.msgs → Msg.prepare tx sh ops ∈ s.msgs) : OInv s' := by
  refine ⟨?_, ?_, ?_⟩
  · intro tx sh ops hmm; rw [hs]; exact h.msg tx sh ops (hm tx sh ops hmm)
  · rw [hs, hp]; exact h.prep
  · rw [hs, ha]; exact h.app

theorem OInv.setPart {s : Sys} (h : OInv s) {sh : Nat} {p p' : Participant} (hp : s.parts[sh]? = some p)
    (hsub : ∀ pt ∈ p'.prepared, pt ∈ p.prepared ∨ ∃ sp ∈ s.specs, sp.id = pt.tx ∧ pt.ops = sp.opsFor sh) :
    ∀ sh' q, (s.parts.set sh p')[sh']? = some q → ∀ pt ∈ q.prepared,
      ∃ sp ∈ s.specs, sp.id = pt.tx ∧ pt.ops = sp.opsFor sh' := by
  intro sh' q hq pt hpt
  rcases getElem?_set_cases hq with ⟨rfl, rfl⟩ | ⟨_, hq⟩
  · exact (hsub pt hpt).elim (h.prep sh p hp pt) id
  · exact h.prep sh' q hq pt hpt

theorem commit_prepared_sub (p : Participant) (tx : Nat) : ∀ pt ∈ (p.commit tx).1.prepared, pt ∈ p.prepared := by
  intro pt hpt
  unfold Participant.commit at hpt
  split at hpt
  · exact hpt
  · exact (mem_removePrepared.1 hpt).1

theorem abort_prepared_sub (p : Participant) (tx : Nat) : ∀ pt ∈ (p.abort tx).1.prepared, pt ∈ p.prepared := by
  intro pt hpt
  unfold Participant.abort at hpt
  split at hpt
  · exact hpt
  · exact (mem_removePrepared.1 hpt).1

theorem OInv.step {s : Sys} (h : OInv s) (e : Ev) (ha : s.inAlphabet e = true) : OInv (s.step e) := by
  have he := s.eff e
  generalize s.step e = s' at he
  -- the glue's drain adds ABORTs only
  have drain : ∀ c tx sh ops, Msg.prepare tx sh ops ∈ (s.drain c).msgs → Msg.prepare tx sh ops ∈ s.msgs :=
    fun c tx sh ops hm => (mem_drain_msgs hm).elim id (fun ⟨_, _, h1, _⟩ => nomatch h1)
  cases he with
  | same => exact h
  | tick d => exact h.frame rfl rfl rfl (fun _ _ _ hm => hm)
  | forge tx sh v =>
    exact h.frame rfl rfl rfl fun _ _ _ hm =>
      (List.mem_append.1 hm).elim id (fun h1 => nomatch List.mem_singleton.1 h1)
  | sweep | vote => exact h.frame rfl rfl rfl (drain _)
  | coordCommit | coordAbort =>
    exact h.frame rfl rfl rfl fun _ _ _ hm =>
      (List.mem_append.1 hm).elim id (fun h1 => nomatch List.mem_map.1 h1)
  | begin shards ops sim =>
    refine ⟨?_, ?_, ?_⟩
    · intro tx sh ops' hm
      rcases List.mem_append.1 hm with h1 | h1
      · obtain ⟨sp, hsp, hid, ho⟩ := h.msg tx sh ops' h1
        exact ⟨sp, List.mem_append_left _ hsp, hid, ho⟩
      · simp only [List.mem_map, Msg.prepare.injEq] at h1
        obtain ⟨sh', _, rfl, rfl, rfl⟩ := h1
        exact ⟨_, List.mem_append_right _ (List.mem_singleton.2 rfl), rfl, rfl⟩
    · intro sh p hp pt hpt
      obtain ⟨sp, hsp, hid, ho⟩ := h.prep sh p hp pt hpt
      exact ⟨sp, List.mem_append_left _ hsp, hid, ho⟩
    · intro sh tx ops' hx
      obtain ⟨sp, hsp, hid, ho⟩ := h.app sh tx ops' hx
      exact ⟨sp, List.mem_append_left _ hsp, hid, ho⟩
  | @prepare i tx sh ops p hm hp =>
    refine ⟨?_, h.setPart hp ?_, h.app⟩
    · intro tx' sh' ops' hm'
      exact h.msg tx' sh' ops' ((List.mem_append.1 hm').elim id (fun h1 => nomatch List.mem_singleton.1 h1))
    · -- a new prepared record carries the operations of the PREPARE that was delivered
      intro pt hpt
      rcases prepare_eq p s.now s.nextHandle tx ops with ⟨c, he⟩ | ⟨lt, _, he⟩ <;> rw [he] at hpt
      · exact Or.inl hpt
      · rcases List.mem_cons.1 hpt with rfl | h2
        · exact Or.inr (h.msg tx sh ops (List.mem_of_getElem? hm))
        · exact Or.inl (mem_removePrepared.1 h2).1
  | @commit i tx sh p hm hp =>
    refine ⟨h.msg, h.setPart hp (fun pt hpt => Or.inl (commit_prepared_sub p tx pt hpt)), ?_⟩
    -- what is applied is what the prepared record holds
    intro sh' tx' ops' hx
    simp only at hx
    split at hx
    · rename_i pt hf
      rcases List.mem_append.1 hx with h1 | h1
      · exact h.app sh' tx' ops' h1
      · cases List.mem_singleton.1 h1
        obtain ⟨hpm, htx⟩ := findPrepared_some hf
        obtain ⟨sp, hsp, hid, ho⟩ := h.prep sh p hp pt hpm
        exact ⟨sp, hsp, hid.trans htx, ho⟩
    · exact h.app sh' tx' ops' hx
  | @abort i tx sh p hm hp =>
    exact ⟨h.msg, h.setPart hp (fun pt hpt => Or.inl (abort_prepared_sub p tx pt hpt)), h.app⟩
  | cleanupStale => cases ha
  | recover => cases ha

theorem OInv.reach {stores : List Store} {a b c : Nat} {s : Sys}
    (hr : Reach (Sys.init stores a b c) s) : OInv s := by
  induction hr with
  | refl => exact OInv.init stores a b c
  | step e _ ha ih => exact ih.step e ha

end Neumann.TwoPC
