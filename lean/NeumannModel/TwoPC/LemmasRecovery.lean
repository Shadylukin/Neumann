import NeumannModel.TwoPC.Recovery
import NeumannModel.TwoPC.Lemmas
import NeumannModel.TwoPC.LemmasVote
/-
  C03 — the coordinator's crash-recovery API: the invariant `InvR` (`InvA` of `Lemmas.lean` with "a pending tx
  decided commit is in phase Committing" instead of "is not pending", without the exclusivity field, which
  FAILS over `ReachR`), where a new decision comes from (`Fresh`), and exclusivity of the decisions along
  runs that spare `Committing` transactions (`ReachRS`).
-/
namespace Neumann.TwoPC

theorem recovered_id (t : DTx) (now : Nat) : (t.recovered now).id = t.id := rfl
theorem recovered_participants (t : DTx) (now : Nat) : (t.recovered now).participants = t.participants := rfl
theorem recovered_votes (t : DTx) (now : Nat) : (t.recovered now).votes = t.votes := rfl
theorem recovered_phase (t : DTx) (now : Nat) : (t.recovered now).phase = t.recoverPhase now := rfl

/-! `recover()` on one entry, phase by phase: the only place where `recoverArm` is unfolded -/

theorem recoverPhase_preparing' {t : DTx} {now : Nat} (h : t.phase = .preparing) :
    t.recoverPhase now = if t.timedOut now then .aborting else .preparing := by
  simp only [DTx.recoverPhase, DTx.recoverArm, h, apply_ite Prod.fst]

theorem recoverPhase_prepared' {t : DTx} {now : Nat} (h : t.phase = .prepared) :
    t.recoverPhase now =
      if t.timedOut now then .aborting else if t.allYes then .committing
      else if t.anyNo then .aborting else .prepared := by
  simp only [DTx.recoverPhase, DTx.recoverArm, h, apply_ite Prod.fst]

theorem recoverPhase_of_committing {t : DTx} {now : Nat} (h : t.phase = .committing) :
    t.recoverPhase now = .committing := by
  simp only [DTx.recoverPhase, DTx.recoverArm, h]

theorem recoverPhase_of_aborting {t : DTx} {now : Nat} (h : t.phase = .aborting) :
    t.recoverPhase now = .aborting := by
  simp only [DTx.recoverPhase, DTx.recoverArm, h]

theorem recoverPhase_of_committed {t : DTx} {now : Nat} (h : t.phase = .committed) :
    t.recoverPhase now = .committed := by
  simp only [DTx.recoverPhase, DTx.recoverArm, h]

theorem recoverPhase_of_aborted {t : DTx} {now : Nat} (h : t.phase = .aborted) :
    t.recoverPhase now = .aborted := by
  simp only [DTx.recoverPhase, DTx.recoverArm, h]

theorem recoverPhase_cases (t : DTx) (now : Nat) :
    t.recoverPhase now = t.phase ∨ (t.phase = .preparing ∧ t.recoverPhase now = .aborting) ∨
      (t.phase = .prepared ∧ (t.recoverPhase now = .aborting ∨ t.recoverPhase now = .committing)) := by
  cases hp : t.phase with
  | preparing =>
    rw [recoverPhase_preparing' hp]
    split
    · exact Or.inr (Or.inl ⟨rfl, rfl⟩)
    · exact Or.inl rfl
  | prepared =>
    rw [recoverPhase_prepared' hp]
    split
    · exact Or.inr (Or.inr ⟨rfl, Or.inl rfl⟩)
    · split
      · exact Or.inr (Or.inr ⟨rfl, Or.inr rfl⟩)
      · split
        · exact Or.inr (Or.inr ⟨rfl, Or.inl rfl⟩)
        · exact Or.inl rfl
  | committing => exact Or.inl (recoverPhase_of_committing hp)
  | aborting => exact Or.inl (recoverPhase_of_aborting hp)
  | committed => exact Or.inl (recoverPhase_of_committed hp)
  | aborted => exact Or.inl (recoverPhase_of_aborted hp)

theorem recoverPhase_committing {t : DTx} {now : Nat} (h : t.recoverPhase now = .committing) :
    t.phase = .prepared ∨ t.phase = .committing := by
  rcases recoverPhase_cases t now with h1 | ⟨_, h1⟩ | ⟨h1, _⟩
  · exact Or.inr (h1 ▸ h)
  · rw [h] at h1; cases h1
  · exact Or.inl h1

theorem recoverPhase_prepared {t : DTx} {now : Nat} (h : t.recoverPhase now = .prepared) :
    t.phase = .prepared := by
  rcases recoverPhase_cases t now with h1 | ⟨_, h1⟩ | ⟨_, h1 | h1⟩
  · exact h1 ▸ h
  all_goals rw [h] at h1; cases h1

theorem recoverPhase_of_preparing {t : DTx} {now : Nat} (h : t.phase = .preparing) :
    t.recoverPhase now ≠ .committing := by
  intro h'
  rcases recoverPhase_committing h' with h1 | h1 <;> rw [h] at h1 <;> cases h1

theorem mem_recover_pending {c : Coordinator} {now : Nat} {t' : DTx}
    (h : t' ∈ (c.recover now).1.pending) : ∃ t ∈ c.pending, t' = t.recovered now := by
  simp only [Coordinator.recover, List.mem_filter, List.mem_map] at h
  obtain ⟨⟨t, ht, rfl⟩, _⟩ := h
  exact ⟨t, ht, rfl⟩

theorem recover_nextTx (c : Coordinator) (now : Nat) : (c.recover now).1.nextTx = c.nextTx := rfl
theorem recover_pendingAborts (c : Coordinator) (now : Nat) :
    (c.recover now).1.pendingAborts = c.pendingAborts := rfl

theorem mem_pendingDecisions {c : Coordinator} {tx : Nat} {ph : Phase}
    (h : (tx, ph) ∈ c.pendingDecisions) :
    ∃ t ∈ c.pending, t.id = tx ∧ t.phase = ph ∧ (ph = .committing ∨ ph = .aborting) := by
  simp only [Coordinator.pendingDecisions, List.mem_map, List.mem_filter, Bool.or_eq_true,
    beq_iff_eq, Prod.mk.injEq] at h
  obtain ⟨t, ⟨ht, hph⟩, hid, hp⟩ := h
  exact ⟨t, ht, hid, hp, by rw [← hp]; exact hph⟩

theorem mem_resendDecisions {c : Coordinator} {tx : Nat} {b : Bool}
    (h : (tx, b) ∈ c.resendDecisions) :
    ∃ t ∈ c.pending, t.id = tx ∧ t.phase = (if b then Phase.committing else Phase.aborting) := by
  simp only [Coordinator.resendDecisions, List.mem_filterMap] at h
  obtain ⟨⟨tx', ph⟩, hd, he⟩ := h
  obtain ⟨t, ht, hid, hph, _⟩ := mem_pendingDecisions hd
  cases ph <;> simp only [decisionOf, Option.some.injEq, Prod.mk.injEq, reduceCtorEq] at he
  · obtain ⟨rfl, rfl⟩ := he
    exact ⟨t, ht, hid, hph⟩
  · obtain ⟨rfl, rfl⟩ := he
    exact ⟨t, ht, hid, hph⟩

theorem mem_resendMsgs {c : Coordinator} {m : Msg} (h : m ∈ c.resendMsgs) :
    (∃ tx sh, m = Msg.commit tx sh ∧ (tx, true) ∈ c.resendDecisions) ∨
    (∃ tx sh, m = Msg.abort tx sh ∧ (tx, false) ∈ c.resendDecisions) := by
  simp only [Coordinator.resendMsgs, List.mem_flatMap] at h
  obtain ⟨⟨tx, ph⟩, hd, hm⟩ := h
  cases ph <;> simp only [Coordinator.resendMsgsOf, List.mem_map, List.not_mem_nil] at hm
  · obtain ⟨sh, _, rfl⟩ := hm
    left
    refine ⟨tx, sh, rfl, ?_⟩
    simp only [Coordinator.resendDecisions, List.mem_filterMap]
    exact ⟨(tx, .committing), hd, rfl⟩
  · obtain ⟨sh, _, rfl⟩ := hm
    right
    refine ⟨tx, sh, rfl, ?_⟩
    simp only [Coordinator.resendDecisions, List.mem_filterMap]
    exact ⟨(tx, .aborting), hd, rfl⟩

theorem completeCommit_ok {c c' : Coordinator} {tx : Nat} (h : c.completeCommit tx = .ok c') :
    ∃ t, findTx c.pending tx = some t ∧ t.phase = .committing ∧
      c' = { c with pending := removeTx c.pending tx } := by
  unfold Coordinator.completeCommit at h
  split at h
  · cases h
  · rename_i t ht
    split at h
    · cases h
    · rename_i hph
      cases h
      exact ⟨t, ht, by simpa using hph, rfl⟩

theorem completeAbort_ok {c c' : Coordinator} {tx : Nat} (h : c.completeAbort tx = .ok c') :
    ∃ t, findTx c.pending tx = some t ∧ t.phase = .aborting ∧
      c' = { c with pending := removeTx c.pending tx } := by
  unfold Coordinator.completeAbort at h
  split at h
  · cases h
  · rename_i t ht
    split at h
    · cases h
    · rename_i hph
      cases h
      exact ⟨t, ht, by simpa using hph, rfl⟩

theorem ite_elim {α : Type} {P : α → Prop} {c : Prop} [Decidable c] {a b : α} (ha : c → P a) (hb : ¬c → P b) :
    P (if c then a else b) := by
  split
  · exact ha ‹_›
  · exact hb ‹_›

/-- `recordVote_ok` of `Lemmas.lean` with the answer (`None`, `Some(Prepared)`, `Some(Aborting)`) and with
    "no vote of this shard yet" -/
theorem recordVote_ok_res {c c' : Coordinator} {tx sh : Nat} {v : Vote} {f : Nat → Nat → Bool}
    {r : Option Phase} (h : c.recordVote tx sh v f = .ok (c', r)) :
    ∃ t t1, t ∈ c.pending ∧ t.id = tx ∧ t.phase = .preparing ∧ t.hasVote sh = false ∧
      c'.pending = setTx c.pending tx t1 ∧ c'.nextTx = c.nextTx ∧
      t1.id = tx ∧ t1.participants = t.participants ∧ t1.votes = t.votes ++ [(sh, v)] ∧
      ((t1.phase = .preparing ∧ r = none ∧ c'.pendingAborts = c.pendingAborts) ∨
       (t1.phase = .prepared ∧ r = some .prepared ∧ c'.pendingAborts = c.pendingAborts ∧
          t1.allVoted = true ∧ t1.allYes = true) ∨
       (t1.phase = .aborting ∧ r = some .aborting ∧
          ∃ reason, c'.pendingAborts = c.pendingAborts ++ [(tx, reason, t.participants)])) := by
  revert h
  unfold Coordinator.recordVote
  cases hf : findTx c.pending tx with
  | none => intro h; cases h
  | some t =>
    obtain ⟨hmem, hid⟩ := findTx_some hf
    -- one `if` after the other (`split at h` on the whole term is many times dearer)
    refine ite_elim (P := fun X => X = Except.ok (c', r) → _) (fun _ h => nomatch h) (fun hph => ?_)
    have hph' : t.phase = .preparing := by simpa using hph
    refine ite_elim (P := fun X => X = Except.ok (c', r) → _) (fun _ h => nomatch h) (fun hnv => ?_)
    have hnv' : t.hasVote sh = false := by simpa using hnv
    refine ite_elim (P := fun X => X = Except.ok (c', r) → _) (fun hav => ?_) (fun _ h => ?_)
    · refine ite_elim (P := fun X => X = Except.ok (c', r) → _) (fun hay => ?_) (fun _ h => ?_)
      · refine ite_elim (P := fun X => X = Except.ok (c', r) → _) (fun _ h => ?_) (fun _ h => ?_)
        · cases h
          exact ⟨t, _, hmem, hid, hph', hnv', rfl, rfl, hid, rfl, rfl, Or.inr (Or.inr ⟨rfl, rfl, _, rfl⟩)⟩
        · cases h
          exact ⟨t, _, hmem, hid, hph', hnv', rfl, rfl, hid, rfl, rfl, Or.inr (Or.inl ⟨rfl, rfl, rfl, hav, hay⟩)⟩
      · cases h
        exact ⟨t, _, hmem, hid, hph', hnv', rfl, rfl, hid, rfl, rfl, Or.inr (Or.inr ⟨rfl, rfl, _, rfl⟩)⟩
    · cases h
      exact ⟨t, _, hmem, hid, hph', hnv', rfl, rfl, hid, rfl, rfl, Or.inl ⟨hph', rfl, rfl⟩⟩
structure InvR (s : Sys) : Prop where
  commitMsg : ∀ tx sh, Msg.commit tx sh ∈ s.msgs → (tx, true) ∈ s.decided
  abortMsg : ∀ tx sh, Msg.abort tx sh ∈ s.msgs → (tx, false) ∈ s.decided
  decAbort : ∀ tx, (tx, false) ∈ s.decided → ∀ t ∈ s.coord.pending, t.id = tx → t.phase = .aborting
  decCommit : ∀ tx, (tx, true) ∈ s.decided → ∀ t ∈ s.coord.pending, t.id = tx → t.phase = .committing
  pendLt : ∀ t ∈ s.coord.pending, t.id < s.coord.nextTx
  pendUniq : ∀ t ∈ s.coord.pending, ∀ t' ∈ s.coord.pending, t.id = t'.id → t = t'
  decLt : ∀ tx b, (tx, b) ∈ s.decided → tx < s.coord.nextTx
  paEmpty : s.coord.pendingAborts = []
  /-- every recorded vote is a pool message, or the transaction already has a commit decision (the votes
      of an entry restored from the WAL are `Yes { handle, zero delta }` / `No`, not pool messages) -/
  voteMsg : ∀ t ∈ s.coord.pending, ∀ e ∈ t.votes,
      Msg.vote t.id e.1 e.2 ∈ s.msgs ∨ (t.id, true) ∈ s.decided
  prepOk : ∀ t ∈ s.coord.pending, t.phase = .prepared ∨ t.phase = .committing →
      t.allVoted = true ∧ t.allYes = true
  specLt : ∀ sp ∈ s.specs, sp.id < s.coord.nextTx
  specPart : ∀ t ∈ s.coord.pending, ∀ sp ∈ s.specs, sp.id = t.id → sp.shards = t.participants
  commitYes : ∀ tx, (tx, true) ∈ s.decided → ∀ sp ∈ s.specs, sp.id = tx →
      ∀ sh ∈ sp.shards, ∃ h ks, Msg.vote tx sh (.yes h ks) ∈ s.msgs
  applied : ∀ sh tx, (sh, tx) ∈ s.applied → (tx, true) ∈ s.decided
  discarded : ∀ sh tx, (sh, tx) ∈ s.discarded → (tx, false) ∈ s.decided

theorem InvR.init (stores : List Store) (a b c : Nat) : InvR (Sys.init stores a b c) := by
  constructor <;> intros <;> first | rfl | contradiction

theorem yes_of_allVoted_allYes {t : DTx} {msgs : List Msg} (hav : t.allVoted = true)
    (hay : t.allYes = true) (hvm : ∀ e ∈ t.votes, Msg.vote t.id e.1 e.2 ∈ msgs)
    {sh : Nat} (hsh : sh ∈ t.participants) : ∃ h ks, Msg.vote t.id sh (.yes h ks) ∈ msgs := by
  have hv1 : t.hasVote sh = true := by
    simp only [DTx.allVoted, List.all_eq_true] at hav
    exact hav sh hsh
  obtain ⟨e, he, hesh⟩ := hasVote_mem hv1
  have hyes : e.2.isYes = true := by
    simp only [DTx.allYes, List.all_eq_true] at hay
    exact hay e he
  have hm := hvm e he
  cases hev : e.2 with
  | yes hh ks => rw [hev] at hm; rw [hesh] at hm; exact ⟨hh, ks, hm⟩
  | no => rw [hev] at hyes; cases hyes
  | conflict o => rw [hev] at hyes; cases hyes

/-- steps that leave the coordinator, the specs and the decisions alone, only add `vote` messages,
    and only log an apply / discard that is backed by a decision -/
theorem InvR.frame {s s' : Sys} (h : InvR s) (hc : s'.coord = s.coord) (hs : s'.specs = s.specs)
    (hd : s'.decided = s.decided)
    (hm : ∀ m, m ∈ s'.msgs ↔ (m ∈ s.msgs ∨ ∃ tx sh v, m = Msg.vote tx sh v ∧ m ∈ s'.msgs))
    (ha : ∀ sh tx, (sh, tx) ∈ s'.applied → (sh, tx) ∈ s.applied ∨ (tx, true) ∈ s.decided)
    (hdi : ∀ sh tx, (sh, tx) ∈ s'.discarded → (sh, tx) ∈ s.discarded ∨ (tx, false) ∈ s.decided) :
    InvR s' := by
  have mono : ∀ m, m ∈ s.msgs → m ∈ s'.msgs := fun m hm' => (hm m).2 (Or.inl hm')
  cases s'
  dsimp only at hc hs hd
  subst hc hs hd
  exact
    { h with
      commitMsg := fun tx sh hmm => ((hm _).1 hmm).elim (h.commitMsg tx sh) (fun ⟨_, _, _, h1, _⟩ => nomatch h1)
      abortMsg := fun tx sh hmm => ((hm _).1 hmm).elim (h.abortMsg tx sh) (fun ⟨_, _, _, h1, _⟩ => nomatch h1)
      voteMsg := fun t ht e he => (h.voteMsg t ht e he).imp (mono _) id
      commitYes := fun tx htx sp hsp hid sh hsh =>
        let ⟨hh, ks, hv⟩ := h.commitYes tx htx sp hsp hid sh hsh
        ⟨hh, ks, mono _ hv⟩
      applied := fun sh tx hx => (ha sh tx hx).elim (h.applied sh tx) id
      discarded := fun sh tx hx => (hdi sh tx hx).elim (h.discarded sh tx) id }

theorem InvR.shrink {s : Sys} (h : InvR s) (ps : List DTx) (hsub : ∀ t ∈ ps, t ∈ s.coord.pending) :
    InvR { s with coord := { s.coord with pending := ps } } :=
  { h with
    decAbort := fun tx hd t ht hid => h.decAbort tx hd t (hsub t ht) hid
    decCommit := fun tx hd t ht hid => h.decCommit tx hd t (hsub t ht) hid
    pendLt := fun t ht => h.pendLt t (hsub t ht)
    pendUniq := fun t ht t' ht' hid => h.pendUniq t (hsub t ht) t' (hsub t' ht') hid
    voteMsg := fun t ht e he => h.voteMsg t (hsub t ht) e he
    prepOk := fun t ht hp => h.prepOk t (hsub t ht) hp
    specPart := fun t ht sp hsp hid => h.specPart t (hsub t ht) sp hsp hid }

/-- the ways one event of `ReachR`'s alphabet adds the decision `b` for the pending entry `t` -/
inductive Fresh (s : Sys) : EvR → DTx → Bool → Prop
  /-- `record_vote` moved a `Preparing` entry to `Aborting` (NO / CONFLICT vote, cross-shard conflict) -/
  | vote (i : Nat) (t : DTx) : t.phase = .preparing → Fresh s (.base (.deliver i)) t false
  /-- `cleanup_timeouts` removed a timed-out entry — whatever its phase -/
  | sweep (t : DTx) : t.timedOut s.now = true → Fresh s (.base .sweep) t false
  /-- `commit()` on a `Prepared` entry -/
  | commit (t : DTx) : t.phase = .prepared → Fresh s (.base (.coordCommit t.id)) t true
  /-- `abort()` on an entry — whatever its phase -/
  | abort (t : DTx) : Fresh s (.base (.coordAbort t.id)) t false
  /-- `recover()` left the entry `Committing` and the decision was (re-)sent -/
  | recoverCommit (t : DTx) : t.recoverPhase s.now = .committing → Fresh s .coordRecover t true
  /-- `recover()` left the entry `Aborting` and the decision was (re-)sent -/
  | recoverAbort (t : DTx) : t.recoverPhase s.now = .aborting → Fresh s .coordRecover t false

theorem Fresh.commit_phase {s : Sys} {e : EvR} {t : DTx} (f : Fresh s e t true) :
    t.phase = .prepared ∨ t.phase = .committing := by
  cases f with
  | commit _ hp => exact Or.inl hp
  | recoverCommit _ hp => exact recoverPhase_committing hp

/-- What a recorded vote, a timeout sweep, `commit()`, `abort()` and `recover()` + re-send have in common:
    pending entries are mapped through `g`, which leaves a decided entry in its phase; only decisions and
    the messages that carry them are added; every new decision has a source (`Fresh`). -/
structure CoordStep (s : Sys) (e : EvR) (s' : Sys) (g : DTx → DTx) : Prop where
  specs : s'.specs = s.specs
  nextTx : s'.coord.nextTx = s.coord.nextTx
  paEmpty : s'.coord.pendingAborts = []
  applied : s'.applied = s.applied
  discarded : s'.discarded = s.discarded
  msgsMono : ∀ m ∈ s.msgs, m ∈ s'.msgs
  msgs : ∀ m ∈ s'.msgs, m ∈ s.msgs ∨ ∃ tx sh,
    (m = Msg.commit tx sh ∧ (tx, true) ∈ s'.decided) ∨ (m = Msg.abort tx sh ∧ (tx, false) ∈ s'.decided)
  decidedMono : ∀ x ∈ s.decided, x ∈ s'.decided
  decided : ∀ tx b, (tx, b) ∈ s'.decided → (tx, b) ∈ s.decided ∨ ∃ t ∈ s.coord.pending, t.id = tx ∧
    Fresh s e t b ∧ (g t ∈ s'.coord.pending → (g t).phase = if b then .committing else .aborting)
  pending : ∀ t' ∈ s'.coord.pending, ∃ t ∈ s.coord.pending, t' = g t
  gId : ∀ t, (g t).id = t.id
  gPart : ∀ t ∈ s.coord.pending, (g t).participants = t.participants
  gVotes : ∀ t ∈ s.coord.pending, ∀ x ∈ (g t).votes, x ∈ t.votes ∨ Msg.vote t.id x.1 x.2 ∈ s.msgs
  gKeep : ∀ t ∈ s.coord.pending, t.phase = .committing ∨ t.phase = .aborting → (g t).phase = t.phase
  gPrep : ∀ t ∈ s.coord.pending, (g t).phase = .prepared ∨ (g t).phase = .committing →
    (g t).allVoted = true ∧ (g t).allYes = true

theorem CoordStep.refl {s : Sys} (e : EvR) (h : InvR s) : CoordStep s e s id where
  specs := rfl
  nextTx := rfl
  paEmpty := h.paEmpty
  applied := rfl
  discarded := rfl
  msgsMono := fun _ hm => hm
  msgs := fun _ hm => Or.inl hm
  decidedMono := fun _ hx => hx
  decided := fun _ _ hd => Or.inl hd
  pending := fun t ht => ⟨t, ht, rfl⟩
  gId := fun _ => rfl
  gPart := fun _ _ => rfl
  gVotes := fun _ _ _ hx => Or.inl hx
  gKeep := fun _ _ _ => rfl
  gPrep := h.prepOk

theorem CoordStep.inv {s s' : Sys} {e : EvR} {g : DTx → DTx} (c : CoordStep s e s' g) (h : InvR s) : InvR s' := by
  constructor
  · intro tx sh hm
    rcases c.msgs _ hm with h1 | ⟨_, _, ⟨he, hd⟩ | ⟨he, _⟩⟩
    · exact c.decidedMono _ (h.commitMsg tx sh h1)
    · cases he; exact hd
    · cases he
  · intro tx sh hm
    rcases c.msgs _ hm with h1 | ⟨_, _, ⟨he, _⟩ | ⟨he, hd⟩⟩
    · exact c.decidedMono _ (h.abortMsg tx sh h1)
    · cases he
    · cases he; exact hd
  · intro tx hd t' ht' hid
    obtain ⟨t, ht, rfl⟩ := c.pending t' ht'
    rw [c.gId] at hid
    rcases c.decided tx false hd with h1 | ⟨t2, ht2, hid2, _, hph⟩
    · have := h.decAbort tx h1 t ht hid
      rw [c.gKeep t ht (Or.inr this), this]
    · cases h.pendUniq t ht t2 ht2 (hid.trans hid2.symm)
      exact hph ht'
  · intro tx hd t' ht' hid
    obtain ⟨t, ht, rfl⟩ := c.pending t' ht'
    rw [c.gId] at hid
    rcases c.decided tx true hd with h1 | ⟨t2, ht2, hid2, _, hph⟩
    · have := h.decCommit tx h1 t ht hid
      rw [c.gKeep t ht (Or.inl this), this]
    · cases h.pendUniq t ht t2 ht2 (hid.trans hid2.symm)
      exact hph ht'
  · intro t' ht'
    obtain ⟨t, ht, rfl⟩ := c.pending t' ht'
    rw [c.gId, c.nextTx]; exact h.pendLt t ht
  · intro a ha b hb hid
    obtain ⟨ta, hta, rfl⟩ := c.pending a ha
    obtain ⟨tb, htb, rfl⟩ := c.pending b hb
    rw [c.gId, c.gId] at hid
    rw [h.pendUniq ta hta tb htb hid]
  · intro tx b hd
    rw [c.nextTx]
    rcases c.decided tx b hd with h1 | ⟨t, ht, hid, _⟩
    · exact h.decLt tx b h1
    · rw [← hid]; exact h.pendLt t ht
  · exact c.paEmpty
  · intro t' ht' x hx
    obtain ⟨t, ht, rfl⟩ := c.pending t' ht'
    rw [c.gId]
    rcases c.gVotes t ht x hx with h1 | h1
    · exact (h.voteMsg t ht x h1).imp (c.msgsMono _) (c.decidedMono _)
    · exact Or.inl (c.msgsMono _ h1)
  · intro t' ht' hp
    obtain ⟨t, ht, rfl⟩ := c.pending t' ht'
    exact c.gPrep t ht hp
  · rw [c.specs, c.nextTx]; exact h.specLt
  · intro t' ht' sp hsp hid
    obtain ⟨t, ht, rfl⟩ := c.pending t' ht'
    rw [c.specs] at hsp
    rw [c.gId] at hid
    rw [c.gPart t ht]; exact h.specPart t ht sp hsp hid
  · intro tx hd sp hsp hid sh hsh
    rw [c.specs] at hsp
    suffices ∃ hh ks, Msg.vote tx sh (.yes hh ks) ∈ s.msgs from
      let ⟨hh, ks, hv⟩ := this; ⟨hh, ks, c.msgsMono _ hv⟩
    by_cases hold : (tx, true) ∈ s.decided
    · exact h.commitYes tx hold sp hsp hid sh hsh
    · -- the source is `Prepared` or `Committing` and, with no commit decision yet, its votes are pool messages
      obtain ⟨t, ht, rfl, f, _⟩ := (c.decided tx true hd).resolve_left hold
      obtain ⟨hav, hay⟩ := h.prepOk t ht f.commit_phase
      rw [h.specPart t ht sp hsp hid] at hsh
      exact yes_of_allVoted_allYes hav hay (fun x hx => (h.voteMsg t ht x hx).resolve_right hold) hsh
  · intro sh tx hx
    rw [c.applied] at hx; exact c.decidedMono _ (h.applied sh tx hx)
  · intro sh tx hx
    rw [c.discarded] at hx; exact c.decidedMono _ (h.discarded sh tx hx)

theorem coordStep_vote {s : Sys} (h : InvR s) (i : Nat) {tx sh : Nat} {v : Vote} (hv : Msg.vote tx sh v ∈ s.msgs)
    {c' : Coordinator} {ph : Option Phase} (hr : s.coord.recordVote tx sh v (nonOrthOf s.specs tx) = .ok (c', ph)) :
    ∃ g, CoordStep s (.base (.deliver i)) (s.drain c') g := by
  obtain ⟨t, t1, htm, htid, htph, _, hpend, hnext, h1id, h1part, h1votes, hcases⟩ := recordVote_ok_res hr
  have hthe : ∀ a ∈ s.coord.pending, a.id = tx → a = t := fun a ha hid =>
    h.pendUniq a ha t htm (hid.trans htid.symm)
  have hpa : ∀ a ∈ c'.pendingAborts, a.1 = tx ∧ t1.phase = .aborting := by
    intro a ha
    rcases hcases with ⟨_, _, e⟩ | ⟨_, _, e, _⟩ | ⟨e1, _, _, e⟩ <;> rw [e, h.paEmpty] at ha
    · cases ha
    · cases ha
    · cases List.mem_singleton.1 ha; exact ⟨rfl, e1⟩
  refine ⟨fun a => if a.id = tx then t1 else a,
    { specs := rfl, nextTx := hnext, paEmpty := rfl, applied := rfl, discarded := rfl
      msgsMono := fun _ hm => List.mem_append.2 (Or.inl hm)
      msgs := fun _ hm => (mem_drain_msgs hm).imp id (fun ⟨tx', sh', he, hd⟩ => ⟨tx', sh', Or.inr ⟨he, hd⟩⟩)
      decidedMono := fun _ hx => List.mem_append.2 (Or.inl hx)
      decided := ?_, pending := ?_, gId := ?_, gPart := ?_, gVotes := ?_, gKeep := ?_, gPrep := ?_ }⟩
  · intro tx' b hd
    rcases mem_drain_decided hd with h1 | ⟨rfl, a, ha, rfl⟩
    · exact Or.inl h1
    · refine Or.inr ⟨t, htm, htid.trans (hpa a ha).1.symm, Fresh.vote i t htph, fun _ => ?_⟩
      rw [if_pos htid]; exact (hpa a ha).2
  · intro t' ht'
    obtain ⟨a, ha, rfl⟩ := List.mem_map.1 (show t' ∈ setTx s.coord.pending tx t1 from hpend ▸ ht')
    exact ⟨a, ha, rfl⟩
  · intro a
    split
    · rename_i hh; rw [h1id, hh]
    · rfl
  · intro a ha
    split
    · rename_i hh; rw [h1part, hthe a ha hh]
    · rfl
  · intro a ha x hx
    by_cases hh : a.id = tx
    · rw [if_pos hh, h1votes] at hx
      cases hthe a ha hh
      rcases List.mem_append.1 hx with h2 | h2
      · exact Or.inl h2
      · cases List.mem_singleton.1 h2
        rw [htid]; exact Or.inr hv
    · rw [if_neg hh] at hx; exact Or.inl hx
  · intro a ha hp
    split
    · rename_i hh
      rw [hthe a ha hh, htph] at hp
      rcases hp with hp | hp <;> cases hp
    · rfl
  · intro a ha hp
    by_cases hh : a.id = tx
    · rw [if_pos hh] at hp ⊢
      rcases hcases with ⟨e, _⟩ | ⟨_, _, _, e1, e2⟩ | ⟨e, _⟩
      · rw [e] at hp; rcases hp with hp | hp <;> cases hp
      · exact ⟨e1, e2⟩
      · rw [e] at hp; rcases hp with hp | hp <;> cases hp
    · rw [if_neg hh] at hp ⊢; exact h.prepOk a ha hp

theorem coordStep_sweep {s : Sys} (h : InvR s) :
    CoordStep s (.base .sweep) (s.drain (s.coord.cleanupTimeouts s.now).1) id := by
  have hpa : (s.coord.cleanupTimeouts s.now).1.pendingAborts =
      (s.coord.pending.filter (fun t => t.timedOut s.now)).map (fun t => (t.id, AbortReason.timeout, t.participants)) := by
    show s.coord.pendingAborts ++ _ = _
    rw [h.paEmpty]; rfl
  have hsub : ∀ t' ∈ (s.coord.cleanupTimeouts s.now).1.pending, t' ∈ s.coord.pending ∧ t'.timedOut s.now = false := by
    intro t' ht'
    obtain ⟨h1, h2⟩ := List.mem_filter.1 ht'
    exact ⟨h1, by simpa using h2⟩
  refine
    { CoordStep.refl (.base .sweep) h with
      paEmpty := rfl
      msgsMono := fun _ hm => List.mem_append.2 (Or.inl hm)
      msgs := fun _ hm => (mem_drain_msgs hm).imp id (fun ⟨tx', sh', he, hd⟩ => ⟨tx', sh', Or.inr ⟨he, hd⟩⟩)
      decidedMono := fun _ hx => List.mem_append.2 (Or.inl hx)
      decided := ?_
      pending := fun t' ht' => ⟨t', (hsub t' ht').1, rfl⟩ }
  intro tx b hd
  rcases mem_drain_decided hd with h1 | ⟨rfl, a, ha, rfl⟩
  · exact Or.inl h1
  · rw [hpa] at ha
    obtain ⟨t, ht, rfl⟩ := List.mem_map.1 ha
    obtain ⟨htm, hto⟩ := List.mem_filter.1 ht
    refine Or.inr ⟨t, htm, rfl, Fresh.sweep t hto, fun hm => ?_⟩
    rw [(hsub t hm).2] at hto; cases hto

theorem coordStep_remove {s : Sys} (h : InvR s) {e : EvR} {t : DTx} (htm : t ∈ s.coord.pending) {b : Bool}
    (f : Fresh s e t b) {ms : List Msg}
    (hms : ∀ m ∈ ms, ∃ sh, m = Msg.commit t.id sh ∧ b = true ∨ m = Msg.abort t.id sh ∧ b = false) :
    CoordStep s e { s with coord := { s.coord with pending := removeTx s.coord.pending t.id },
                           msgs := s.msgs ++ ms, decided := s.decided ++ [(t.id, b)] } id := by
  have hd : (t.id, b) ∈ s.decided ++ [(t.id, b)] := List.mem_append.2 (Or.inr (List.mem_singleton.2 rfl))
  refine
    { CoordStep.refl e h with
      msgsMono := fun _ hm => List.mem_append.2 (Or.inl hm)
      msgs := ?_
      decidedMono := fun _ hx => List.mem_append.2 (Or.inl hx)
      decided := ?_
      pending := fun t' ht' => ⟨t', (mem_removeTx.1 ht').1, rfl⟩ }
  · intro m hm
    rcases List.mem_append.1 hm with h1 | h1
    · exact Or.inl h1
    · obtain ⟨sh, ⟨rfl, rfl⟩ | ⟨rfl, rfl⟩⟩ := hms m h1
      · exact Or.inr ⟨t.id, sh, Or.inl ⟨rfl, hd⟩⟩
      · exact Or.inr ⟨t.id, sh, Or.inr ⟨rfl, hd⟩⟩
  · intro tx' b' hd'
    rcases List.mem_append.1 hd' with h1 | h1
    · exact Or.inl h1
    · cases List.mem_singleton.1 h1
      exact Or.inr ⟨t, htm, rfl, f, fun hm => absurd rfl (mem_removeTx.1 hm).2⟩

theorem recover_msgs_cases {s : Sys} {m : Msg} (hm : m ∈ (s.stepX .coordRecover).msgs) :
    m ∈ s.msgs ∨ ∃ tx sh, (m = Msg.commit tx sh ∧ (tx, true) ∈ (s.stepX .coordRecover).decided) ∨
      (m = Msg.abort tx sh ∧ (tx, false) ∈ (s.stepX .coordRecover).decided) := by
  rcases List.mem_append.1 hm with h1 | h1
  · exact Or.inl h1
  · rcases mem_resendMsgs h1 with ⟨tx, sh, he, hd⟩ | ⟨tx, sh, he, hd⟩
    · exact Or.inr ⟨tx, sh, Or.inl ⟨he, List.mem_append.2 (Or.inr hd)⟩⟩
    · exact Or.inr ⟨tx, sh, Or.inr ⟨he, List.mem_append.2 (Or.inr hd)⟩⟩

theorem coordStep_recover {s : Sys} (h : InvR s) :
    CoordStep s .coordRecover (s.stepX .coordRecover) (fun t => t.recovered s.now) := by
  refine
    { specs := rfl, nextTx := rfl, paEmpty := h.paEmpty, applied := rfl, discarded := rfl
      msgsMono := fun _ hm => List.mem_append.2 (Or.inl hm)
      msgs := fun _ hm => recover_msgs_cases hm
      decidedMono := fun _ hx => List.mem_append.2 (Or.inl hx)
      decided := ?_
      pending := fun _ ht' => mem_recover_pending ht'
      gId := fun _ => rfl, gPart := fun _ _ => rfl, gVotes := fun _ _ _ hx => Or.inl hx
      gKeep := ?_, gPrep := ?_ }
  · intro tx b hd
    rcases List.mem_append.1 hd with h1 | h1
    · exact Or.inl h1
    · obtain ⟨t', ht', hid, hph⟩ := mem_resendDecisions h1
      obtain ⟨t, ht, rfl⟩ := mem_recover_pending ht'
      refine Or.inr ⟨t, ht, hid, ?_, fun _ => hph⟩
      cases b
      · exact Fresh.recoverAbort t hph
      · exact Fresh.recoverCommit t hph
  · intro t _ hp
    rcases hp with hp | hp
    · rw [recovered_phase, recoverPhase_of_committing hp, hp]
    · rw [recovered_phase, recoverPhase_of_aborting hp, hp]
  · intro t ht hp
    show t.allVoted = true ∧ t.allYes = true
    rcases hp with hp | hp
    · exact h.prepOk t ht (Or.inl (recoverPhase_prepared hp))
    · exact h.prepOk t ht (recoverPhase_committing hp)

theorem InvR.begin {s : Sys} (h : InvR s) (shards : List Nat) (ops : List (Nat × List Op))
    (sim : List (Nat × Nat)) :
    InvR { s with
      coord := { s.coord with
        pending := s.coord.pending ++ [⟨s.coord.nextTx, shards, .preparing, [], s.now, s.coord.prepareTimeout⟩],
        nextTx := s.coord.nextTx + 1 },
      specs := s.specs ++ [⟨s.coord.nextTx, shards, ops, sim⟩],
      msgs := s.msgs ++ shards.map (fun sh => Msg.prepare s.coord.nextTx sh
                (TxSpec.opsFor ⟨s.coord.nextTx, shards, ops, sim⟩ sh)) } := by
  -- the new entry and spec carry the id `nextTx`, which nothing pending, decided or specified has
  have hprep : ∀ m, m ∈ s.msgs ++ shards.map (fun sh => Msg.prepare s.coord.nextTx sh
      (TxSpec.opsFor ⟨s.coord.nextTx, shards, ops, sim⟩ sh)) →
      m ∈ s.msgs ∨ ∃ a b c, m = Msg.prepare a b c := by
    intro m hm
    rcases List.mem_append.1 hm with h1 | h1
    · exact Or.inl h1
    · obtain ⟨sh, _, rfl⟩ := List.mem_map.1 h1
      exact Or.inr ⟨_, _, _, rfl⟩
  have hsnoc : ∀ {α : Type} {l : List α} {a x : α}, x ∈ l ++ [a] → x ∈ l ∨ x = a := fun hx =>
    (List.mem_append.1 hx).imp id List.mem_singleton.1
  constructor
  · intro tx sh hm
    rcases hprep _ hm with h1 | ⟨_, _, _, h1⟩
    · exact h.commitMsg tx sh h1
    · cases h1
  · intro tx sh hm
    rcases hprep _ hm with h1 | ⟨_, _, _, h1⟩
    · exact h.abortMsg tx sh h1
    · cases h1
  · intro tx hd t ht hid
    rcases hsnoc ht with h1 | rfl
    · exact h.decAbort tx hd t h1 hid
    · exact absurd (h.decLt tx false hd) (by rw [← hid]; exact Nat.lt_irrefl _)
  · intro tx hd t ht hid
    rcases hsnoc ht with h1 | rfl
    · exact h.decCommit tx hd t h1 hid
    · exact absurd (h.decLt tx true hd) (by rw [← hid]; exact Nat.lt_irrefl _)
  · intro t ht
    rcases hsnoc ht with h1 | rfl
    · exact Nat.lt_succ_of_lt (h.pendLt t h1)
    · exact Nat.lt_succ_self _
  · intro t ht t' ht' hid
    rcases hsnoc ht with h1 | rfl <;> rcases hsnoc ht' with h2 | rfl
    · exact h.pendUniq t h1 t' h2 hid
    · exact absurd (h.pendLt t h1) (by rw [hid]; exact Nat.lt_irrefl _)
    · exact absurd (h.pendLt t' h2) (by rw [← hid]; exact Nat.lt_irrefl _)
    · rfl
  · intro tx b hd
    exact Nat.lt_succ_of_lt (h.decLt tx b hd)
  · exact h.paEmpty
  · intro t ht e he
    rcases hsnoc ht with h1 | rfl
    · exact (h.voteMsg t h1 e he).imp (fun x => List.mem_append.2 (Or.inl x)) id
    · cases he
  · intro t ht hph
    rcases hsnoc ht with h1 | rfl
    · exact h.prepOk t h1 hph
    · rcases hph with hph | hph <;> cases hph
  · intro sp hsp
    rcases hsnoc hsp with h1 | rfl
    · exact Nat.lt_succ_of_lt (h.specLt sp h1)
    · exact Nat.lt_succ_self _
  · intro t ht sp hsp hid
    rcases hsnoc ht with h1 | rfl <;> rcases hsnoc hsp with h2 | rfl
    · exact h.specPart t h1 sp h2 hid
    · exact absurd (h.pendLt t h1) (by rw [← hid]; exact Nat.lt_irrefl _)
    · exact absurd (h.specLt sp h2) (by rw [hid]; exact Nat.lt_irrefl _)
    · rfl
  · intro tx hd sp hsp hid sh hsh
    rcases hsnoc hsp with h1 | rfl
    · obtain ⟨hh, ks, hv⟩ := h.commitYes tx hd sp h1 hid sh hsh
      exact ⟨hh, ks, List.mem_append.2 (Or.inl hv)⟩
    · exact absurd (h.decLt tx true hd) (by rw [← hid]; exact Nat.lt_irrefl _)
  · exact h.applied
  · exact h.discarded

/-- every event of `ReachR`'s alphabet leaves the decisions alone and keeps `InvR`, or is a `CoordStep` -/
theorem stepX_cases {s : Sys} (h : InvR s) (e : EvR) (ha : s.inAlphabetR e = true) :
    ((s.stepX e).decided = s.decided ∧ InvR (s.stepX e)) ∨ ∃ g, CoordStep s e (s.stepX e) g := by
  cases e with
  | forceResolve tx b => cases ha
  | coordRecover => exact Or.inr ⟨_, coordStep_recover h⟩
  | completeCommit tx =>
    simp only [Sys.stepX]
    split
    · rename_i c hc
      obtain ⟨_, _, _, rfl⟩ := completeCommit_ok hc
      exact Or.inl ⟨rfl, h.shrink _ (fun t ht => (mem_removeTx.1 ht).1)⟩
    · exact Or.inl ⟨rfl, h⟩
  | completeAbort tx =>
    simp only [Sys.stepX]
    split
    · rename_i c hc
      obtain ⟨_, _, _, rfl⟩ := completeAbort_ok hc
      exact Or.inl ⟨rfl, h.shrink _ (fun t ht => (mem_removeTx.1 ht).1)⟩
    · exact Or.inl ⟨rfl, h⟩
  | base e =>
    -- what the event does is read off `Sys.eff`
    have he := s.eff e
    show ((s.step e).decided = s.decided ∧ InvR (s.step e)) ∨ ∃ g, CoordStep s (.base e) (s.step e) g
    generalize s.step e = s' at he
    have quiet : ∀ {s' : Sys}, s'.coord = s.coord → s'.specs = s.specs → s'.decided = s.decided →
        s'.applied = s.applied → s'.discarded = s.discarded →
        (∀ m, m ∈ s'.msgs ↔ (m ∈ s.msgs ∨ ∃ tx sh v, m = Msg.vote tx sh v ∧ m ∈ s'.msgs)) →
        (s'.decided = s.decided ∧ InvR s') ∨ ∃ g, CoordStep s (.base e) s' g := fun hc hs hd hap hdi hm =>
      Or.inl ⟨hd, h.frame hc hs hd hm (fun _ _ hx => Or.inl (hap ▸ hx)) (fun _ _ hx => Or.inl (hdi ▸ hx))⟩
    cases he with
    | same => exact Or.inl ⟨rfl, h⟩
    | cleanupStale | recover => cases ha
    | begin shards ops sim => exact Or.inl ⟨rfl, h.begin shards ops sim⟩
    | tick d => exact quiet rfl rfl rfl rfl rfl (frame_msgs_same _)
    | forge tx sh v => exact quiet rfl rfl rfl rfl rfl (frame_msgs_vote _ _ _ _)
    | prepare hm hp => exact quiet rfl rfl rfl rfl rfl (frame_msgs_vote _ _ _ _)
    | vote hm hr => exact Or.inr (coordStep_vote h _ (mem_of_getElem? hm) hr)
    | sweep => exact Or.inr ⟨_, coordStep_sweep h⟩
    | coordCommit hf hph =>
      obtain ⟨htm, rfl⟩ := findTx_some hf
      exact Or.inr ⟨_, coordStep_remove h htm (Fresh.commit _ hph) (fun m hm =>
        let ⟨sh, _, e⟩ := List.mem_map.1 hm; ⟨sh, Or.inl ⟨e.symm, rfl⟩⟩)⟩
    | coordAbort hf =>
      obtain ⟨htm, rfl⟩ := findTx_some hf
      exact Or.inr ⟨_, coordStep_remove h htm (Fresh.abort _) (fun m hm =>
        let ⟨sh, _, e⟩ := List.mem_map.1 hm; ⟨sh, Or.inr ⟨e.symm, rfl⟩⟩)⟩
    | @commit i tx sh p hm hp =>
      refine Or.inl ⟨rfl, h.frame rfl rfl rfl (frame_msgs_same _) (fun sh' tx' hx => ?_) (fun _ _ hx => Or.inl hx)⟩
      -- the shard applies only on a COMMIT that is in the pool
      refine (mem_ite_append hx).imp id (fun e => ?_)
      cases e; exact h.commitMsg tx sh (mem_of_getElem? hm)
    | @abort i tx sh p hm hp =>
      refine Or.inl ⟨rfl, h.frame rfl rfl rfl (frame_msgs_same _) (fun _ _ hx => Or.inl hx) (fun sh' tx' hx => ?_)⟩
      refine (mem_ite_append hx).imp id (fun e => ?_)
      cases e; exact h.abortMsg tx sh (mem_of_getElem? hm)

theorem InvR.stepX {s : Sys} (h : InvR s) (e : EvR) (ha : s.inAlphabetR e = true) : InvR (s.stepX e) :=
  (stepX_cases h e ha).elim And.right (fun ⟨_, c⟩ => c.inv h)

theorem InvR.deliver {s : Sys} (h : InvR s) (i : Nat) : InvR (s.step (.deliver i)) :=
  h.stepX (.base (.deliver i)) rfl

theorem InvR.reach {s0 s : Sys} (h0 : InvR s0) (hr : ReachR s0 s) : InvR s := by
  induction hr with
  | refl => exact h0
  | step e _ ha ih => exact ih.stepX e ha

theorem reachR_run {s0 s : Sys} (hr : ReachR s0 s) (es : List EvR) (h : s.allInR es = true) :
    ReachR s0 (s.runX es) := by
  induction es generalizing s with
  | nil => exact hr
  | cons e es ih =>
    simp only [Sys.allInR, Bool.and_eq_true] at h
    exact ih (ReachR.step e hr h.1) h.2

theorem reachRS_run {s0 s : Sys} (hr : ReachRS s0 s) (es : List EvR) (h : s.allInRS es = true) :
    ReachRS s0 (s.runX es) := by
  induction es generalizing s with
  | nil => exact hr
  | cons e es ih =>
    simp only [Sys.allInRS, Bool.and_eq_true] at h
    exact ih (ReachRS.step e hr h.1.1 h.1.2) h.2

theorem reachRF_run {s0 s : Sys} (hr : ReachRF s0 s) (es : List EvR) (h : s.allInRF es = true) :
    ReachRF s0 (s.runX es) := by
  induction es generalizing s with
  | nil => exact hr
  | cons e es ih =>
    simp only [Sys.allInRF, Bool.and_eq_true] at h
    exact ih (ReachRF.step e hr h.1) h.2

theorem ReachRS.toR {s0 s : Sys} (h : ReachRS s0 s) : ReachR s0 s := by
  induction h with
  | refl => exact .refl
  | step e _ ha _ ih => exact .step e ih ha

theorem Reach.toRS {s0 s : Sys} (h : Reach s0 s) : ReachR s0 s := by
  induction h with
  | refl => exact .refl
  | step e _ ha ih => exact ReachR.step (.base e) ih ha

theorem ReachR.trans {s0 s s' : Sys} (h1 : ReachR s0 s) (h2 : ReachR s s') : ReachR s0 s' := by
  induction h2 with
  | refl => exact h1
  | step e _ ha ih => exact ReachR.step e ih ha

theorem ReachRS.trans {s0 s s' : Sys} (h1 : ReachRS s0 s) (h2 : ReachRS s s') : ReachRS s0 s' := by
  induction h2 with
  | refl => exact h1
  | step e _ ha hs ih => exact ReachRS.step e ih ha hs

theorem decided_monoX (s : Sys) (e : EvR) (x : Nat × Bool) (hx : x ∈ s.decided) : x ∈ (s.stepX e).decided := by
  cases e with
  | base e => exact decided_mono s e x hx
  | coordRecover => exact List.mem_append.2 (Or.inl hx)
  | completeCommit tx => simp only [Sys.stepX]; split <;> exact hx
  | completeAbort tx => simp only [Sys.stepX]; split <;> exact hx
  | forceResolve tx b =>
    simp only [Sys.stepX]
    split
    · exact List.mem_append.2 (Or.inl hx)
    · exact hx

theorem decided_fresh {s : Sys} (h : InvR s) (e : EvR) (ha : s.inAlphabetR e = true) (tx : Nat) (b : Bool)
    (hd : (tx, b) ∈ (s.stepX e).decided) :
    (tx, b) ∈ s.decided ∨ ∃ t ∈ s.coord.pending, t.id = tx ∧ Fresh s e t b := by
  rcases stepX_cases h e ha with ⟨he, _⟩ | ⟨g, c⟩
  · exact Or.inl (he ▸ hd)
  · exact (c.decided tx b hd).imp id (fun ⟨t, ht, hid, f, _⟩ => ⟨t, ht, hid, f⟩)

theorem Fresh.excl {s : Sys} {e : EvR} {t : DTx} (f1 : Fresh s e t true) (f2 : Fresh s e t false) : False := by
  cases f1 with
  | commit _ _ =>
    -- `cases f2` cannot solve `t.id = _.id` in the event index: generalise the event first
    generalize he : EvR.base (.coordCommit t.id) = e' at f2
    cases f2 <;> cases he
  | recoverCommit _ hp1 =>
    cases f2 with
    | recoverAbort _ hp2 => rw [hp1] at hp2; cases hp2

theorem Fresh.not_committing {s : Sys} {e : EvR} {t : DTx} (f : Fresh s e t false) (ht : t ∈ s.coord.pending)
    (hs : s.sparesCommitting e = true) : t.phase ≠ .committing := by
  intro hc
  cases f with
  | vote i _ hp => rw [hc] at hp; cases hp
  | sweep _ hto =>
    have := List.all_eq_true.1 hs t ht
    rw [hc, hto] at this
    cases this
  | abort _ =>
    have := List.all_eq_true.1 hs t ht
    rw [hc] at this
    simp at this
  | recoverAbort _ hp => rw [recoverPhase_of_committing hc] at hp; cases hp

theorem excl_stepX {s : Sys} (h : InvR s) (hx : ∀ tx, (tx, true) ∈ s.decided → (tx, false) ∉ s.decided)
    (e : EvR) (ha : s.inAlphabetR e = true) (hs : s.sparesCommitting e = true) :
    ∀ tx, (tx, true) ∈ (s.stepX e).decided → (tx, false) ∉ (s.stepX e).decided := by
  intro tx h1 h2
  rcases decided_fresh h e ha tx true h1 with o1 | ⟨t1, ht1, hid1, f1⟩ <;>
    rcases decided_fresh h e ha tx false h2 with o2 | ⟨t2, ht2, hid2, f2⟩
  · exact hx tx o1 o2
  · exact f2.not_committing ht2 hs (h.decCommit tx o1 t2 ht2 hid2)
  · have hc := h.decAbort tx o2 t1 ht1 hid1
    rcases f1.commit_phase with hp | hp <;> rw [hc] at hp <;> cases hp
  · cases h.pendUniq t1 ht1 t2 ht2 (hid1.trans hid2.symm)
    exact f1.excl f2

structure InvRS (s : Sys) : Prop where
  inv : InvR s
  excl : ∀ tx, (tx, true) ∈ s.decided → (tx, false) ∉ s.decided

theorem InvRS.init (stores : List Store) (a b c : Nat) : InvRS (Sys.init stores a b c) :=
  ⟨InvR.init stores a b c, fun _ h => nomatch h⟩

theorem InvRS.reach {s0 s : Sys} (h0 : InvRS s0) (hr : ReachRS s0 s) : InvRS s := by
  induction hr with
  | refl => exact h0
  | step e _ ha hs ih => exact ⟨ih.inv.stepX e ha, excl_stepX ih.inv ih.excl e ha hs⟩


theorem VInv.stepX {s : Sys} (h : VInv s) (hA : InvR s) (e : EvR) (ha : s.inAlphabetR e = true) :
    VInv (s.stepX e) := by
  cases e with
  | base e => exact h.step hA.specLt e ha
  | forceResolve tx b => cases ha
  | completeCommit tx =>
    simp only [Sys.stepX]
    split
    · rename_i c hc
      obtain ⟨_, _, _, rfl⟩ := completeCommit_ok hc
      exact h.frame rfl rfl (fun _ hx => hx) (fun _ hm => Or.inl hm)
    · exact h
  | completeAbort tx =>
    simp only [Sys.stepX]
    split
    · rename_i c hc
      obtain ⟨_, _, _, rfl⟩ := completeAbort_ok hc
      exact h.frame rfl rfl (fun _ hx => hx) (fun _ hm => Or.inl hm)
    · exact h
  | coordRecover =>
    have c := coordStep_recover hA
    exact h.frame c.specs c.nextTx (fun _ hx => hx)
      (fun m hm => (c.msgs m hm).imp id (fun ⟨tx, sh, hh⟩ => ⟨tx, sh, hh.imp And.left And.left⟩))

theorem VInv.reachR {stores : List Store} {a b c : Nat} {s : Sys}
    (hr : ReachR (Sys.init stores a b c) s) : VInv s := by
  induction hr with
  | refl => exact VInv.init stores a b c
  | step e hr' ha ih => exact ih.stepX ((InvR.init stores a b c).reach hr') e ha

theorem decided_mono_reachR {s s' : Sys} (h : ReachR s s') (x : Nat × Bool) (hx : x ∈ s.decided) :
    x ∈ s'.decided := by
  induction h with
  | refl => exact hx
  | step e _ _ ih => exact decided_monoX _ e x ih

end Neumann.TwoPC
