import NeumannModel.TwoPC.LemmasStep
/-
  C03 — participant-side invariant `PInv` (undo images match the store, every prepared tx holds the
  locks of its keys under its own fresh handle, no live lock is expired) and its preservation by
  prepare / commit / abort; consequence: inside the property's alphabet an abort re-installs exactly
  what is already there.
-/
namespace Neumann.TwoPC

theorem sget_sput (s : Store) (k : Nat) (v : Val) (k' : Nat) :
    sget (sput s k v) k' = if k = k' then some v else sget s k' := by
  simp [sput, sget]

theorem sget_sdel (s : Store) (k k' : Nat) :
    sget (sdel s k) k' = if k = k' then none else sget s k' := by
  induction s with
  | nil => simp [sdel, sget]
  | cons a r ih =>
    obtain ⟨a1, a2⟩ := a
    simp only [sdel] at ih ⊢
    by_cases h1 : a1 = k
    · subst h1
      simp only [List.filter, bne_self_eq_false]
      rw [ih]
      by_cases h2 : a1 = k'
      · simp [h2]
      · simp [h2, sget]
    · have : (a1 != k) = true := by simpa using h1
      simp only [List.filter, this, sget]
      rw [ih]
      by_cases h2 : k = k'
      · subst h2; simp [h1]
      · simp [h2]

def undoOk (s : Store) : Undo → Prop
  | .restore k v => sget s k = some v
  | .delete k => sget s k = none

theorem capture_ok (s : Store) (k : Nat) : undoOk s (capture s k) := by
  unfold capture
  split
  · rename_i v h; exact h
  · rename_i h; exact h

theorem capture_key (s : Store) (k : Nat) : (capture s k).key = k := by
  unfold capture
  split <;> rfl

theorem undoOk_of_sget_eq {s s' : Store} {u : Undo} (h : sget s' u.key = sget s u.key)
    (hu : undoOk s u) : undoOk s' u := by
  cases u with
  | restore k v => simp only [undoOk, Undo.key] at *; rw [h]; exact hu
  | delete k => simp only [undoOk, Undo.key] at *; rw [h]; exact hu

theorem applyUndo_ok {s : Store} {u : Undo} (h : undoOk s u) (k : Nat) :
    sget (applyUndo s u) k = sget s k := by
  cases u with
  | restore k0 v =>
    simp only [applyUndo, sget_sput]
    split
    · rename_i h1; subst h1; exact h.symm
    · rfl
  | delete k0 =>
    simp only [applyUndo, sget_sdel]
    split
    · rename_i h1; subst h1; exact h.symm
    · rfl

theorem applyUndos_ok {s : Store} {us : List Undo} (h : ∀ u ∈ us, undoOk s u) (k : Nat) :
    sget (applyUndos s us) k = sget s k := by
  induction us generalizing k with
  | nil => rfl
  | cons u r ih =>
    have ihr := ih (fun u hu => h u (List.mem_cons_of_mem _ hu))
    simp only [applyUndos, List.foldr] at ihr ⊢
    have hu : undoOk (List.foldr (fun u acc => applyUndo acc u) s r) u :=
      undoOk_of_sget_eq (ihr u.key) (h u (List.mem_cons_self ..))
    rw [applyUndo_ok hu, ihr]

theorem sget_applyOp {s : Store} {op : Op} {k : Nat} (h : op.writeKey ≠ k) :
    sget (applyOp s op) k = sget s k := by
  unfold applyOp
  split
  · rw [sget_sput]; simp [h]
  · rw [sget_sdel]; simp [h]
  · rfl

theorem sget_applyOps {s : Store} {ops : List Op} {k : Nat} (h : ∀ op ∈ ops, op.writeKey ≠ k) :
    sget (applyOps s ops) k = sget s k := by
  induction ops generalizing s with
  | nil => rfl
  | cons op r ih =>
    simp only [applyOps, List.foldl] at ih ⊢
    rw [ih (fun o ho => h o (List.mem_cons_of_mem _ ho)), sget_applyOp (h op (List.mem_cons_self ..))]

theorem findLock_some {ls : List KeyLock} {k : Nat} {l : KeyLock} (h : findLock ls k = some l) :
    l ∈ ls ∧ l.key = k := by
  induction ls with
  | nil => cases h
  | cons a r ih =>
    simp only [findLock] at h
    split at h
    · cases h; exact ⟨List.mem_cons_self .., by assumption⟩
    · exact ⟨List.mem_cons_of_mem _ (ih h).1, (ih h).2⟩

theorem findLock_filter {ls : List KeyLock} {k : Nat} {l : KeyLock} {p : KeyLock → Bool}
    (h : findLock ls k = some l) (hp : p l = true) : findLock (ls.filter p) k = some l := by
  induction ls with
  | nil => cases h
  | cons a r ih =>
    simp only [findLock] at h
    split at h
    · rename_i hk
      cases h
      simp only [List.filter, hp, findLock, hk, if_true]
    · rename_i hk
      simp only [List.filter]
      split
      · simp only [findLock, hk, if_false]; exact ih h
      · exact ih h

theorem findLock_filter_ne (ls : List KeyLock) (k k0 : Nat) (h : k ≠ k0) :
    findLock (ls.filter (fun x => x.key != k0)) k = findLock ls k := by
  induction ls with
  | nil => rfl
  | cons a r ih =>
    rw [List.filter_cons]
    by_cases h1 : a.key = k0
    · rw [if_neg (by simp [h1]), findLock, if_neg (fun e => h (e.symm.trans h1)), ih]
    · rw [if_pos (by simpa using h1), findLock, findLock, ih]

theorem findLock_insertLock (ls : List KeyLock) (l : KeyLock) (k : Nat) :
    findLock (insertLock ls l) k = if l.key = k then some l else findLock ls k := by
  simp only [insertLock, findLock]
  split
  · rfl
  · rename_i h; exact findLock_filter_ne ls k l.key (fun e => h e.symm)

theorem findLock_insertLocks (ls : List KeyLock) (now tx hd to : Nat) (keys : List Nat) (k : Nat) :
    findLock (insertLocks ls now tx hd to keys) k =
      if k ∈ keys then some ⟨k, tx, hd, now, to⟩ else findLock ls k := by
  induction keys generalizing ls with
  | nil => simp [insertLocks]
  | cons k0 ks ih =>
    simp only [insertLocks]
    rw [ih, findLock_insertLock]
    by_cases h1 : k ∈ ks
    · simp [h1]
    · by_cases h2 : k0 = k
      · subst h2; simp
      · have : ¬ k = k0 := fun e => h2 e.symm
        simp [h1, h2, this]

theorem mem_insertLocks {ls : List KeyLock} {now tx hd to : Nat} {keys : List Nat} {l : KeyLock}
    (h : l ∈ insertLocks ls now tx hd to keys) : l ∈ ls ∨ ∃ k ∈ keys, l = ⟨k, tx, hd, now, to⟩ := by
  induction keys generalizing ls with
  | nil => exact Or.inl h
  | cons k0 ks ih =>
    simp only [insertLocks] at h
    rcases ih h with h1 | ⟨k, hk, rfl⟩
    · simp only [insertLock, List.mem_cons, List.mem_filter] at h1
      rcases h1 with rfl | ⟨h1, _⟩
      · exact Or.inr ⟨k0, List.mem_cons_self .., rfl⟩
      · exact Or.inl h1
    · exact Or.inr ⟨k, List.mem_cons_of_mem _ hk, rfl⟩

theorem firstConflict_none {ls : List KeyLock} {now tx : Nat} {keys : List Nat}
    (h : firstConflict ls now tx keys = none) :
    ∀ k ∈ keys, ∀ l, findLock ls k = some l → l.expired now = true ∨ l.tx = tx := by
  induction keys with
  | nil => simp
  | cons k0 ks ih =>
    intro k hk l hl
    simp only [firstConflict] at h
    rcases List.mem_cons.1 hk with rfl | hk'
    · rw [hl] at h
      simp only at h
      split at h
      · cases h
      · rename_i hc
        simp only [Bool.and_eq_true, Bool.not_eq_true', bne_iff_ne, ne_eq, not_and, Decidable.not_not] at hc
        cases he : l.expired now
        · exact Or.inr (hc he)
        · exact Or.inl rfl
    · split at h
      · split at h
        · cases h
        · exact ih h k hk' l hl
      · exact ih h k hk' l hl

theorem mem_pushNew {acc ks : List Nat} {k : Nat} : k ∈ pushNew acc ks ↔ k ∈ acc ∨ k ∈ ks := by
  induction ks generalizing acc with
  | nil => simp [pushNew]
  | cons k0 r ih =>
    rw [pushNew, ih, List.mem_cons]
    by_cases hc : k0 ∈ acc
    · rw [if_pos (List.contains_iff_mem.2 hc)]
      exact ⟨Or.imp_right Or.inr, fun h => h.elim Or.inl (fun h => h.elim (fun e => Or.inl (e ▸ hc)) Or.inr)⟩
    · rw [if_neg (fun h => hc (List.contains_iff_mem.1 h)), List.mem_append, List.mem_singleton, or_assoc]

theorem mem_lockKeys {ops : List Op} {k : Nat} :
    k ∈ lockKeys ops ↔ ∃ op ∈ ops, k = op.key ∨ k = op.undoKey ∨ k = op.writeKey := by
  simp only [lockKeys, mem_pushNew, List.mem_map, List.mem_flatMap, List.mem_cons, List.not_mem_nil,
    or_false]
  constructor
  · rintro (⟨op, hop, rfl⟩ | ⟨op, hop, h⟩)
    · exact ⟨op, hop, Or.inl rfl⟩
    · exact ⟨op, hop, Or.inr h⟩
  · rintro ⟨op, hop, h | h⟩
    · exact Or.inl ⟨op, hop, h.symm⟩
    · exact Or.inr ⟨op, hop, h⟩

theorem key_mem_lockKeys {ops : List Op} {op : Op} (h : op ∈ ops) : op.key ∈ lockKeys ops :=
  mem_lockKeys.2 ⟨op, h, Or.inl rfl⟩

theorem findPrepared_some {ps : List PreparedTx} {tx : Nat} {pt : PreparedTx}
    (h : findPrepared ps tx = some pt) : pt ∈ ps ∧ pt.tx = tx := by
  induction ps with
  | nil => cases h
  | cons a r ih =>
    simp only [findPrepared] at h
    split at h
    · cases h; exact ⟨List.mem_cons_self .., by assumption⟩
    · exact ⟨List.mem_cons_of_mem _ (ih h).1, (ih h).2⟩

theorem mem_removePrepared {ps : List PreparedTx} {tx : Nat} {pt : PreparedTx} :
    pt ∈ removePrepared ps tx ↔ pt ∈ ps ∧ pt.tx ≠ tx := by
  simp [removePrepared]

structure PInv (now nextHandle : Nat) (p : Participant) : Prop where
  undoMatch : ∀ pt ∈ p.prepared, ∀ u ∈ pt.undo, undoOk p.store u
  undoKeys : ∀ pt ∈ p.prepared, ∀ u ∈ pt.undo, ∃ op ∈ pt.ops, op.undoKey = u.key
  held : ∀ pt ∈ p.prepared, ∀ k ∈ lockKeys pt.ops,
      ∃ l, findLock p.locks.locks k = some l ∧ l.tx = pt.tx ∧ l.handle = pt.handle
  prepHandleLt : ∀ pt ∈ p.prepared, pt.handle < nextHandle
  handleDistinct : ∀ pt ∈ p.prepared, ∀ pt' ∈ p.prepared, pt.handle = pt'.handle → pt.tx = pt'.tx
  notExpired : ∀ l ∈ p.locks.locks, l.expired now = false

theorem PInv.mono {now nh nh' : Nat} {p : Participant} (h : PInv now nh p) (hle : nh ≤ nh') :
    PInv now nh' p :=
  ⟨h.undoMatch, h.undoKeys, h.held, fun pt hpt => Nat.lt_of_lt_of_le (h.prepHandleLt pt hpt) hle,
   h.handleDistinct, h.notExpired⟩

/-- the tail shared by `commit` and `abort` -/
theorem PInv.finish {now nh : Nat} {p : Participant} (h : PInv now nh p) {pt : PreparedTx}
    (hpt : pt ∈ p.prepared) (store' : Store)
    (hst : ∀ pt' ∈ p.prepared, pt'.tx ≠ pt.tx → ∀ u ∈ pt'.undo, sget store' u.key = sget p.store u.key) :
    PInv now nh { prepared := removePrepared p.prepared pt.tx,
                  locks := p.locks.releaseByHandle pt.handle, store := store' } := by
  constructor
  · intro pt' hpt' u hu
    obtain ⟨h1, h2⟩ := mem_removePrepared.1 hpt'
    exact undoOk_of_sget_eq (hst pt' h1 h2 u hu) (h.undoMatch pt' h1 u hu)
  · intro pt' hpt'; exact h.undoKeys pt' (mem_removePrepared.1 hpt').1
  · intro pt' hpt' k hk
    obtain ⟨h1, h2⟩ := mem_removePrepared.1 hpt'
    obtain ⟨l, hl, htx, hh⟩ := h.held pt' h1 k hk
    refine ⟨l, ?_, htx, hh⟩
    simp only [LockTable.releaseByHandle, LockTable.releaseWhere]
    apply findLock_filter hl
    have : l.handle ≠ pt.handle := by
      intro e
      exact h2 (h.handleDistinct pt' h1 pt hpt (hh.symm.trans e))
    simpa using this
  · intro pt' hpt'; exact h.prepHandleLt pt' (mem_removePrepared.1 hpt').1
  · intro a ha b hb
    exact h.handleDistinct a (mem_removePrepared.1 ha).1 b (mem_removePrepared.1 hb).1
  · intro l hl
    simp only [LockTable.releaseByHandle, LockTable.releaseWhere] at hl
    exact h.notExpired l (List.mem_filter.1 hl).1

theorem PInv.disjoint {now nh : Nat} {p : Participant} (h : PInv now nh p) {pt pt' : PreparedTx}
    (hpt : pt ∈ p.prepared) (hpt' : pt' ∈ p.prepared) {k : Nat} (hk : k ∈ lockKeys pt.ops)
    (hk' : k ∈ lockKeys pt'.ops) : pt.tx = pt'.tx := by
  obtain ⟨l, hl, htx, _⟩ := h.held pt hpt k hk
  obtain ⟨l', hl', htx', _⟩ := h.held pt' hpt' k hk'
  rw [hl'] at hl
  cases hl
  exact htx.symm.trans htx'

/-- `commit` writes only keys that no OTHER prepared transaction holds an undo image of: the write key
    of the committing transaction and the storage key of the other one are both in their lock sets. -/
theorem PInv.commit {now nh : Nat} {p : Participant} (h : PInv now nh p) (tx : Nat) :
    PInv now nh (p.commit tx).1 := by
  unfold Participant.commit
  split
  · exact h
  · rename_i pt hf
    obtain ⟨hm, htx⟩ := findPrepared_some hf
    rw [← htx]
    refine h.finish hm _ ?_
    intro pt' h1 h2 u hu
    apply sget_applyOps
    intro op hop heq
    obtain ⟨op', hop', hk⟩ := h.undoKeys pt' h1 u hu
    apply h2
    apply h.disjoint h1 hm (mem_lockKeys.2 ⟨op', hop', .inr (.inl rfl)⟩)
    rw [hk, ← heq]
    exact mem_lockKeys.2 ⟨op, hop, .inr (.inr rfl)⟩

theorem PInv.abort {now nh : Nat} {p : Participant} (h : PInv now nh p) (tx : Nat) :
    PInv now nh (p.abort tx).1 ∧ ∀ k, sget (p.abort tx).1.store k = sget p.store k := by
  unfold Participant.abort
  split
  · exact ⟨h, fun _ => rfl⟩
  · rename_i pt hf
    obtain ⟨hm, htx⟩ := findPrepared_some hf
    have hs : ∀ k, sget (applyUndos p.store pt.undo) k = sget p.store k :=
      fun k => applyUndos_ok (h.undoMatch pt hm) k
    rw [← htx]
    exact ⟨h.finish hm _ (fun _ _ _ u _ => hs u.key), hs⟩

theorem prepare_store (p : Participant) (now nh tx : Nat) (ops : List Op) :
    (p.prepare now nh tx ops).1.store = p.store := by
  unfold Participant.prepare Participant.prepareWith
  dsimp only
  split <;> rfl

theorem prepare_eq (p : Participant) (now nh tx : Nat) (ops : List Op) :
    (∃ c, p.prepare now nh tx ops = (p, .conflict c)) ∨
    (∃ lt, p.locks.tryLock now nh tx (lockKeys ops) = .ok lt ∧
      p.prepare now nh tx ops =
        ({ p with locks := lt,
                  prepared := ⟨tx, nh, ops, now, ops.map (fun op => capture p.store op.undoKey)⟩ ::
                    removePrepared p.prepared tx }, .yes nh (ops.map Op.key))) := by
  unfold Participant.prepare Participant.prepareWith
  dsimp only
  cases hl : p.locks.tryLock now nh tx (lockKeys ops) with
  | error c => exact Or.inl ⟨c, rfl⟩
  | ok lt => exact Or.inr ⟨lt, rfl, rfl⟩

theorem PInv.prepare {now nh : Nat} {p : Participant} (h : PInv now nh p) (tx : Nat) (ops : List Op) :
    PInv now (if (p.prepare now nh tx ops).2.isYes then nh + 1 else nh) (p.prepare now nh tx ops).1 := by
  rcases prepare_eq p now nh tx ops with ⟨c, he⟩ | ⟨lt, hl, he⟩
  · rw [he]; simpa [Vote.isYes] using h
  · rw [he]
    simp only [Vote.isYes, if_true]
    unfold LockTable.tryLock at hl
    split at hl
    · cases hl
    · rename_i hfc
      cases hl
      have hnc := firstConflict_none hfc
      have hother : ∀ pt' ∈ p.prepared, pt'.tx ≠ tx → ∀ k ∈ lockKeys pt'.ops, k ∉ lockKeys ops := by
        intro pt' hpt' hne k hk hin
        obtain ⟨l, hl, htx, _⟩ := h.held pt' hpt' k hk
        rcases hnc k hin l hl with he | he
        · rw [h.notExpired l (findLock_some hl).1] at he; cases he
        · exact hne (htx.symm.trans he)
      constructor
      · intro pt' hpt' u hu
        rcases List.mem_cons.1 hpt' with rfl | h1
        · simp only [List.mem_map] at hu
          obtain ⟨op, _, rfl⟩ := hu
          exact capture_ok p.store op.undoKey
        · exact h.undoMatch pt' (mem_removePrepared.1 h1).1 u hu
      · intro pt' hpt' u hu
        rcases List.mem_cons.1 hpt' with rfl | h1
        · simp only [List.mem_map] at hu
          obtain ⟨op, hop, rfl⟩ := hu
          exact ⟨op, hop, (capture_key _ _).symm⟩
        · exact h.undoKeys pt' (mem_removePrepared.1 h1).1 u hu
      · intro pt' hpt' k hk
        rcases List.mem_cons.1 hpt' with rfl | h1
        · refine ⟨⟨k, tx, nh, now, p.locks.defaultTimeout⟩, ?_, rfl, rfl⟩
          rw [findLock_insertLocks, if_pos hk]
        · obtain ⟨h2, h3⟩ := mem_removePrepared.1 h1
          obtain ⟨l, hl, htx, hh⟩ := h.held pt' h2 k hk
          refine ⟨l, ?_, htx, hh⟩
          rw [findLock_insertLocks, if_neg (hother pt' h2 h3 k hk)]
          exact hl
      · intro pt' hpt'
        rcases List.mem_cons.1 hpt' with rfl | h1
        · exact Nat.lt_succ_self _
        · exact Nat.lt_succ_of_lt (h.prepHandleLt pt' (mem_removePrepared.1 h1).1)
      · intro a ha b hb hab
        rcases List.mem_cons.1 ha with rfl | h1 <;> rcases List.mem_cons.1 hb with rfl | h2
        · rfl
        · exact absurd hab.symm (Nat.ne_of_lt (h.prepHandleLt b (mem_removePrepared.1 h2).1))
        · exact absurd hab (Nat.ne_of_lt (h.prepHandleLt a (mem_removePrepared.1 h1).1))
        · exact h.handleDistinct a (mem_removePrepared.1 h1).1 b (mem_removePrepared.1 h2).1 hab
      · intro l hl
        rcases mem_insertLocks hl with h1 | ⟨k, _, rfl⟩
        · exact h.notExpired l h1
        · simp [KeyLock.expired]

/-- `lockDiscipline` as a proposition -/
def Disc (U : List Op) : Prop := ∀ a ∈ U, ∀ b ∈ U, a.writeKey = b.undoKey → a.key = b.key

theorem lockDiscipline_iff (U : List Op) : lockDiscipline U = true ↔ Disc U := by
  simp only [lockDiscipline, List.all_eq_true, Bool.or_eq_true, bne_iff_ne, ne_eq, beq_iff_eq, Disc]
  constructor
  · intro h a ha b hb he
    rcases h a ha b hb with h1 | h1
    · exact absurd he h1
    · exact h1
  · intro h a ha b hb
    by_cases he : a.writeKey = b.undoKey
    · exact Or.inr (h a ha b hb he)
    · exact Or.inl he

theorem Op.keys_of_isPlain {op : Op} (h : op.isPlain = true) :
    op.writeKey = op.key ∧ op.undoKey = op.key := by
  cases op with
  | put _ _ | del _ | cas _ _ _ => exact ⟨rfl, rfl⟩
  | _ => cases h

theorem Disc.sub {U V : List Op} (h : Disc V) (hs : ∀ a ∈ U, a ∈ V) : Disc U :=
  fun a ha b hb => h a (hs a ha) b (hs b hb)

def SInv (s : Sys) : Prop := ∀ p ∈ s.parts, PInv s.now s.nextHandle p

theorem SInv.init (stores : List Store) (a b c : Nat) : SInv (Sys.init stores a b c) := by
  intro p hp
  obtain ⟨st, _, rfl⟩ := List.mem_map.1 hp
  exact ⟨nofun, nofun, nofun, nofun, nofun, nofun⟩

theorem storeOf_set {s s' : Sys} {sh : Nat} {p p' : Participant} (hp : s.parts[sh]? = some p)
    (hs' : s'.parts = s.parts.set sh p') (hs : ∀ k, sget p'.store k = sget p.store k) (sh' k : Nat) :
    sget (s'.storeOf sh') k = sget (s.storeOf sh') k := by
  simp only [Sys.storeOf, hs', List.getElem?_set]
  by_cases hc : sh = sh'
  · subst hc
    rw [if_pos rfl, if_pos (List.getElem?_eq_some_iff.1 hp).1, hp]; exact hs k
  · rw [if_neg hc]

theorem SInv.set {s s' : Sys} (h : SInv s) {sh : Nat} {p' : Participant}
    (hs' : s'.parts = s.parts.set sh p') (hnow : s'.now = s.now) (hle : s.nextHandle ≤ s'.nextHandle)
    (hp' : PInv s.now s'.nextHandle p') : SInv s' := by
  intro q hq
  rw [hs'] at hq
  rw [hnow]
  rcases List.mem_or_eq_of_mem_set hq with h1 | rfl
  · exact (h q h1).mono hle
  · exact hp'

theorem SInv.step {s : Sys} (h : SInv s) (e : Ev) (ha : s.inAlphabet e = true) :
    SInv (s.step e) ∧
    ((∀ i tx sh, e = .deliver i → s.msgs[i]? ≠ some (Msg.commit tx sh)) →
      ∀ sh k, sget ((s.step e).storeOf sh) k = sget (s.storeOf sh) k) := by
  have he := s.eff e
  generalize s.step e = s' at he
  cases he with
  | tick d =>
    -- the alphabet admits a tick only if it expires no lock
    refine ⟨fun p hp => ?_, fun _ _ _ => rfl⟩
    have h0 := h p hp
    simp only [Sys.inAlphabet, List.all_eq_true] at ha
    exact ⟨h0.undoMatch, h0.undoKeys, h0.held, h0.prepHandleLt, h0.handleDistinct,
      fun l hl => by simpa using ha p hp l hl⟩
  | @prepare i tx sh ops p hm hp =>
    refine ⟨h.set rfl rfl ?_ ((h p (List.mem_of_getElem? hp)).prepare tx ops),
      fun _ => storeOf_set hp rfl (fun k => by rw [prepare_store])⟩
    show s.nextHandle ≤ (if _ then _ else _)
    split
    · exact Nat.le_succ _
    · exact Nat.le_refl _
  | @commit i tx sh p hm hp =>
    exact ⟨h.set rfl rfl (Nat.le_refl _) ((h p (List.mem_of_getElem? hp)).commit tx),
      fun hne => absurd hm (hne i tx sh rfl)⟩
  | @abort i tx sh p hm hp =>
    have hab := (h p (List.mem_of_getElem? hp)).abort tx
    exact ⟨h.set rfl rfl (Nat.le_refl _) hab.1, fun _ => storeOf_set hp rfl hab.2⟩
  | cleanupStale => cases ha
  | recover => cases ha
  | _ => exact ⟨h, fun _ _ _ => rfl⟩

theorem SInv.reach {s0 s : Sys} (h0 : SInv s0) (hr : Reach s0 s) : SInv s := by
  induction hr with
  | refl => exact h0
  | step e hr' ha ih => exact (ih.step e ha).1

theorem sinv_of_reach {stores : List Store} {a b c : Nat} {s : Sys}
    (hr : Reach (Sys.init stores a b c) s) : SInv s :=
  (SInv.init stores a b c).reach hr

theorem write_congr {a b : Store} (h : ∀ k, sget a k = sget b k) (op : Op) : op.write a = op.write b := by
  cases op <;> simp only [Op.write, h]

theorem applyOp_congr {a b : Store} (h : ∀ k, sget a k = sget b k) (op : Op) :
    ∀ k, sget (applyOp a op) k = sget (applyOp b op) k := by
  intro k
  unfold applyOp
  rw [write_congr h op]
  split
  · simp only [sget_sput, h]
  · simp only [sget_sdel, h]
  · exact h k

theorem applyOps_congr {a b : Store} (h : ∀ k, sget a k = sget b k) (ops : List Op) :
    ∀ k, sget (applyOps a ops) k = sget (applyOps b ops) k := by
  induction ops generalizing a b with
  | nil => exact h
  | cons op r ih =>
    simp only [applyOps, List.foldl] at ih ⊢
    exact ih (applyOp_congr h op)

theorem replay_append (st : Store) (sh : Nat) (log : List (Nat × Nat × List Op)) (e : Nat × Nat × List Op) :
    replay st sh (log ++ [e]) = if e.1 = sh then applyOps (replay st sh log) e.2.2 else replay st sh log := by
  simp [replay, List.foldl_append]

def RInv (stores : List Store) (s : Sys) : Prop :=
  ∀ sh k, sget (s.storeOf sh) k = sget (replay (stores[sh]?.getD []) sh s.appliedOps) k

theorem RInv.init (stores : List Store) (a b c : Nat) : RInv stores (Sys.init stores a b c) := by
  intro sh k
  simp only [Sys.init, Sys.storeOf, replay, List.foldl, List.getElem?_map]
  cases stores[sh]? <;> rfl

def AOInv (s : Sys) : Prop := ∀ sh tx ops, (sh, tx, ops) ∈ s.appliedOps → (sh, tx) ∈ s.applied

theorem commit_eq (p : Participant) (tx : Nat) :
    (findPrepared p.prepared tx = none ∧ p.commit tx = (p, false)) ∨
    (∃ pt, findPrepared p.prepared tx = some pt ∧ (p.commit tx).2 = true ∧
      (p.commit tx).1.store = applyOps p.store pt.ops) := by
  unfold Participant.commit
  cases h : findPrepared p.prepared tx with
  | none => exact Or.inl ⟨rfl, rfl⟩
  | some pt => exact Or.inr ⟨pt, rfl, rfl, rfl⟩

theorem RInv.step {stores : List Store} {s : Sys} (hS : SInv s) (hR : RInv stores s) (hA : AOInv s)
    (e : Ev) (ha : s.inAlphabet e = true) : RInv stores (s.step e) ∧ AOInv (s.step e) := by
  have he := s.eff e
  generalize s.step e = s' at he
  cases he with
  | @prepare i tx sh ops p hm hp =>
    exact ⟨fun sh' k => (storeOf_set hp rfl (fun k => by rw [prepare_store]) sh' k).trans (hR sh' k), hA⟩
  | @abort i tx sh p hm hp =>
    exact ⟨fun sh' k => (storeOf_set hp rfl ((hS p (List.mem_of_getElem? hp)).abort tx).2 sh' k).trans (hR sh' k), hA⟩
  | @commit i tx sh p hm hp =>
    rcases commit_eq p tx with ⟨hf, hc⟩ | ⟨pt, hf, hc2, hcs⟩
    · rw [hf, hc]
      exact ⟨fun sh' k => (storeOf_set hp rfl (fun _ => rfl) sh' k).trans (hR sh' k), hA⟩
    · rw [hf, hc2]
      constructor
      · -- the shard's new data is `applyOps` of its old data, the new log entry replays the same operations
        intro sh' k
        simp only [Sys.storeOf, replay_append, List.getElem?_set]
        by_cases hc : sh = sh'
        · subst hc
          rw [if_pos rfl, if_pos (List.getElem?_eq_some_iff.1 hp).1, if_pos rfl]
          show sget (p.commit tx).1.store k = _
          rw [hcs]
          apply applyOps_congr
          intro k'
          have := hR sh k'
          simp only [Sys.storeOf, hp] at this
          exact this
        · rw [if_neg hc, if_neg hc]
          exact hR sh' k
      · intro sh' tx' ops' hx
        simp only [if_true]
        rcases List.mem_append.1 hx with h1 | h1
        · exact List.mem_append_left _ (hA sh' tx' ops' h1)
        · cases List.mem_singleton.1 h1
          exact List.mem_append_right _ (List.mem_singleton.2 rfl)
  | cleanupStale => cases ha
  | recover => cases ha
  | _ => exact ⟨hR, hA⟩

theorem RInv.reach {stores : List Store} {a b c : Nat} {s : Sys}
    (hr : Reach (Sys.init stores a b c) s) : RInv stores s ∧ AOInv s := by
  induction hr with
  | refl => exact ⟨RInv.init stores a b c, nofun⟩
  | step e hr' ha ih =>
    exact RInv.step (sinv_of_reach hr') ih.1 ih.2 e ha

/-- `es` are events of the alphabet none of which delivers a commit message -/
def Sys.quiet (s : Sys) : List Ev → Bool
  | [] => true
  | e :: es =>
    s.inAlphabet e &&
    (match e with
     | .deliver i => (match s.msgs[i]? with | some (.commit _ _) => false | _ => true)
     | _ => true) &&
    (s.step e).quiet es

end Neumann.TwoPC
