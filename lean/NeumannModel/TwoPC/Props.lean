import NeumannModel.TwoPC.Lemmas
import NeumannModel.TwoPC.LemmasPart
import NeumannModel.TwoPC.LemmasLate
import NeumannModel.TwoPC.LemmasVote
import NeumannModel.TwoPC.LemmasVoteSplit
import NeumannModel.TwoPC.LemmasOps
/-
  C03 — "Two-phase commit: every participant reaches the coordinator's one decision".
  ONLY the property theorems and their non-vacuity examples; helpers are in `Lemmas*.lean`.

  Every theorem quantifies over every state reachable from an arbitrary initial configuration
  (any number of shards with arbitrary contents, any timeout / concurrency limit) through ANY finite
  sequence of events of the property's alphabet (`Reach`): new transactions (unboundedly many, any
  participants / keys, operations of all ten `Transaction` kinds), delivery of any pool message any
  number of times in any order (or never: duplication / reordering / delay / loss), coordinator
  timeout sweeps and clock ticks at any point, coordinator commit / abort calls at any point, late /
  duplicate votes, and forged / mis-tagged votes (`Ev.forge`: any NO / CONFLICT vote, any YES vote
  tagged with a shard that is not a participant).  No restriction on the workload: since 3e4ef1c8 the
  participant locks the logical, the storage and the write key of every operation, so transactions that
  reach one storage key under different logical keys are refused by the lock table (the `…_old_…witness`
  theorems show what the code did before its two repairs 3e4ef1c8 and f07ecb9a).  Outside the alphabet
  (see DESIGN §7 C03): participant-side `cleanup_stale` / `recover` and participant lock expiry — the
  `…_outside_quantifier_witness` theorems show what they break.
-/
namespace Neumann.TwoPC.Props
open Neumann.TwoPC

/-- Per tx at most one of {commit, abort} is ever decided, and the decision is stable: once `b` is
    decided for `tx` in a reachable state, in every later reachable state `b` is still the decision
    and the opposite decision is absent. -/
theorem decide_once (stores : List Store) (tt mc lt : Nat) {s s' : Sys}
    (hr : Reach (Sys.init stores tt mc lt) s) (hr' : Reach s s') (tx : Nat) (b : Bool)
    (hd : (tx, b) ∈ s.decided) : (tx, b) ∈ s'.decided ∧ (tx, !b) ∉ s'.decided := by
  have hinv := (InvA.init stores tt mc lt).reach (hr.trans hr')
  have hd' := decided_mono_reach hr' _ hd
  refine ⟨hd', ?_⟩
  cases b with
  | true => exact hinv.excl tx hd'
  | false => exact fun h => hinv.excl tx h hd'

/-- The coordinator decides commit only if every participant voted YES: for every participant shard a
    YES vote is in the pool AND that shard's own `prepare` answered YES (`cast`) — whatever forged or
    mis-tagged votes (NO / CONFLICT for any shard, YES tagged with a non-participant shard, votes for
    transactions not begun yet) the network delivered before, between or after the real ones. -/
theorem commit_needs_all_yes (stores : List Store) (tt mc lt : Nat) {s : Sys}
    (hr : Reach (Sys.init stores tt mc lt) s) (tx : Nat) (hd : (tx, true) ∈ s.decided) :
    ∀ sp ∈ s.specs, sp.id = tx → ∀ sh ∈ sp.shards,
      (∃ h ks, Msg.vote tx sh (.yes h ks) ∈ s.msgs) ∧ (tx, sh, true) ∈ s.cast := by
  intro sp hsp hid sh hsh
  have hv := ((InvA.init stores tt mc lt).reach hr).commitYes tx hd sp hsp hid sh hsh
  refine ⟨hv, ?_⟩
  obtain ⟨h, ks, hm⟩ := hv
  have hV := VInv.reach hr
  apply hV.yesCast tx sh h ks hm
  have hf := findSpec_of_mem hsp hV.specUniq
  rw [hid] at hf
  simp only [isParticipant, hf, List.contains_iff_mem]
  exact hsh

/-- `cast` is exactly the log of the participants' own answers: one event appends to it only by
    delivering a PREPARE to an existing shard, and what it appends is that participant's answer. -/
theorem cast_is_the_participants_own_answers (s : Sys) (e : Ev) :
    (s.step e).cast = s.cast ∨
    ∃ i tx sh ops p, e = .deliver i ∧ s.msgs[i]? = some (Msg.prepare tx sh ops) ∧ s.parts[sh]? = some p ∧
      (s.step e).cast = s.cast ++ [(tx, sh, (p.prepare s.now s.nextHandle tx ops).2.isYes)] := by
  have he := s.eff e
  generalize s.step e = s' at he
  cases he with
  | @prepare i tx sh ops p hm hp => exact Or.inr ⟨i, tx, sh, ops, p, rfl, hm, hp, rfl⟩
  | _ => exact Or.inl rfl

/-- No participant applies a transaction's writes unless the decision was commit. -/
theorem no_apply_without_commit (stores : List Store) (tt mc lt : Nat) {s : Sys}
    (hr : Reach (Sys.init stores tt mc lt) s) (sh tx : Nat) (ha : (sh, tx) ∈ s.applied) :
    (tx, true) ∈ s.decided :=
  ((InvA.init stores tt mc lt).reach hr).applied sh tx ha

/-- A participant discards a prepared (YES-voted) transaction only after an abort decision. -/
theorem discard_needs_abort_decision (stores : List Store) (tt mc lt : Nat) {s : Sys}
    (hr : Reach (Sys.init stores tt mc lt) s) (sh tx : Nat) (hd : (sh, tx) ∈ s.discarded) :
    (tx, false) ∈ s.decided :=
  ((InvA.init stores tt mc lt).reach hr).discarded sh tx hd

/-- Atomicity across shards: if one participant applied the writes, no participant that voted YES
    discards them — the shards never end up split between applied and rolled back. -/
theorem applied_implies_no_yes_voter_discards (stores : List Store) (tt mc lt : Nat) {s : Sys}
    (hr : Reach (Sys.init stores tt mc lt) s) (sh1 sh2 tx : Nat) (ha : (sh1, tx) ∈ s.applied) :
    (sh2, tx) ∉ s.discarded := by
  have hinv := (InvA.init stores tt mc lt).reach hr
  exact fun hd => hinv.excl tx (hinv.applied sh1 tx ha) (hinv.discarded sh2 tx hd)

/-- Aborted and timed-out transactions leave every shard's data exactly as it was — in the
    strongest step form: EVERY event of the alphabet other than the delivery of a commit message
    (so: every abort delivery — first, duplicate or late —, every timeout sweep, coordinator abort,
    prepare, vote, begin, tick) leaves every key of every shard unchanged. -/
/- (No assumption on the workload: the operations of the transactions are arbitrary — see
   `storage_key_alias_is_refused` below for what keeps alias transactions apart.) -/
theorem abort_restores_shard (stores : List Store) (tt mc lt : Nat) {s : Sys}
    (hr : Reach (Sys.init stores tt mc lt) s) (e : Ev) (ha : s.inAlphabet e = true)
    (hne : ∀ i tx sh, e = .deliver i → s.msgs[i]? ≠ some (Msg.commit tx sh)) :
    ∀ sh k, sget ((s.step e).storeOf sh) k = sget (s.storeOf sh) k :=
  ((sinv_of_reach hr).step e ha).2 hne

/-- … and over any stretch of execution without a commit delivery. -/
theorem abort_restores_shard_run (stores : List Store) (tt mc lt : Nat) {s : Sys}
    (hr : Reach (Sys.init stores tt mc lt) s) (es : List Ev) (hq : s.quiet es = true) :
    ∀ sh k, sget ((s.run es).storeOf sh) k = sget (s.storeOf sh) k := by
  induction es generalizing s with
  | nil => intro _ _; rfl
  | cons e es ih =>
    simp only [Sys.quiet, Bool.and_eq_true] at hq
    obtain ⟨⟨ha, hnc⟩, hq'⟩ := hq
    intro sh k
    have h1 := ih (Reach.step e hr ha) hq' sh k
    have h2 := abort_restores_shard stores tt mc lt hr e ha (by
      intro i tx sh' he hm
      subst he
      simp only [hm] at hnc
      cases hnc) sh k
    exact h1.trans h2

/-- Whenever an event changes some shard's data, it is the delivery of a commit message of a
    transaction whose (only) decision is commit: an aborted / timed-out transaction never changes data. -/
theorem data_change_needs_commit_decision (stores : List Store) (tt mc lt : Nat) {s : Sys}
    (hr : Reach (Sys.init stores tt mc lt) s) (e : Ev) (ha : s.inAlphabet e = true) (sh k : Nat)
    (hch : sget ((s.step e).storeOf sh) k ≠ sget (s.storeOf sh) k) :
    ∃ i tx sh', e = .deliver i ∧ s.msgs[i]? = some (Msg.commit tx sh') ∧
      (tx, true) ∈ s.decided ∧ (tx, false) ∉ s.decided := by
  have hinv := (InvA.init stores tt mc lt).reach hr
  apply Classical.byContradiction
  intro hno
  apply hch
  apply abort_restores_shard stores tt mc lt hr e ha
  intro i tx sh' he hm
  have hd := hinv.commitMsg tx sh' (List.mem_of_getElem? hm)
  exact hno ⟨i, tx, sh', he, hm, hd, hinv.excl tx hd⟩

/-- Run-level exactness: in every reachable state each shard holds exactly its initial data plus the
    logged commit applications, in application order — and every logged application belongs to a
    transaction whose one decision is commit.  Aborted and timed-out transactions (and every
    prepare / abort / duplicate / late message) contribute nothing to any shard. -/
theorem shard_data_is_replay_of_committed (stores : List Store) (tt mc lt : Nat) {s : Sys}
    (hr : Reach (Sys.init stores tt mc lt) s) :
    (∀ sh k, sget (s.storeOf sh) k = sget (replay (stores[sh]?.getD []) sh s.appliedOps) k) ∧
    (∀ sh tx ops, (sh, tx, ops) ∈ s.appliedOps → (tx, true) ∈ s.decided ∧ (tx, false) ∉ s.decided) := by
  have hinv := (InvA.init stores tt mc lt).reach hr
  obtain ⟨hR, hA⟩ := RInv.reach hr
  refine ⟨hR, ?_⟩
  intro sh tx ops hx
  have hd := hinv.applied sh tx (hA sh tx ops hx)
  exact ⟨hd, hinv.excl tx hd⟩

/-- What a participant applies is what the client asked for: every logged application on shard `sh`
    consists of exactly the operations the client named for `sh` when it began that transaction (so,
    with the theorem above, a shard holds its initial data plus the CLIENTS' operations of the
    commit-decided transactions, and nothing of any other transaction). -/
theorem applied_writes_are_the_clients_operations (stores : List Store) (tt mc lt : Nat) {s : Sys}
    (hr : Reach (Sys.init stores tt mc lt) s) (sh tx : Nat) (ops : List Op)
    (hx : (sh, tx, ops) ∈ s.appliedOps) : ∃ sp ∈ s.specs, sp.id = tx ∧ ops = sp.opsFor sh :=
  (OInv.reach hr).app sh tx ops hx

/-! ### non-vacuity: a concrete 2-shard run committing tx 0 and aborting (timing out) tx 1 -/

def demoInit : Sys := Sys.init [[(1, 5)], []] 2 100 1000

def demoRun : List Ev :=
  [ .begin [0, 1] [(0, [.put 1 7, .del 2]), (1, [.put 3 9])] [],
    .deliver 0, .deliver 1, .deliver 2, .deliver 3, .coordCommit 0, .deliver 4, .deliver 5,
    .begin [0, 1] [(0, [.put 1 8]), (1, [.put 3 1])] [],
    .deliver 7, .tick 3, .sweep, .deliver 9, .deliver 10, .deliver 8 ]

example : Reach demoInit (demoInit.run demoRun) := reach_run .refl _ (by decide +kernel)
example : (demoInit.run demoRun).decided = [(0, true), (1, false)] := by decide +kernel
example : (demoInit.run demoRun).applied = [(0, 0), (1, 0)] := by decide +kernel
example : (demoInit.run demoRun).discarded = [(1, 1)] := by decide +kernel
example : sget ((demoInit.run demoRun).storeOf 0) 1 = some 7 ∧ sget ((demoInit.run demoRun).storeOf 1) 3 = some 9 := by
  decide +kernel

example : (demoInit.run demoRun).appliedOps = [(0, 0, [.put 1 7, .del 2]), (1, 0, [.put 3 9])] := by decide +kernel
-- the stretch `tx 1 prepares, times out, is aborted, its late vote arrives` is quiet, and non-trivially so
example : ((demoInit.run (demoRun.take 9)).quiet (demoRun.drop 9)) = true := by decide +kernel
-- the hypotheses of `abort_restores_shard` hold for the delivery of tx 1's abort to the shard that prepared it
example : (demoInit.run (demoRun.take 13)).msgs[10]? = some (Msg.abort 1 1) := by decide +kernel

/-! ### late PREPARE of a transaction that is already finished on the participant -/

/-- A PREPARE(t) delivered (late duplicate, any number of times, at any point of any schedule) to a
    participant on which `t` is already FINISHED (applied or discarded there, no prepared record left;
    its `tx_locks` entry is still there, empty):
    * touches no other participant and no data;
    * never changes the lock (holder AND handle) of any key held by another transaction;
    * never changes another transaction's prepared record;
    * if one of the keys of its lock set (logical, storage or write key of one of its operations) is
      held by another transaction it is answered CONFLICT naming another
      transaction and the participant is left exactly as it was — no prepared record for `t`, so a
      later ABORT(t) finds nothing to apply (`abort t` is the identity);
    * and whatever happens afterwards (also when the keys were free and `t` was re-prepared): in every
      state reachable from there, every ABORT delivery (first, duplicate, re-sent) and every
      participant-side cleanup (`cleanup_stale`, `recover`, any shard, any timeout) leaves every key
      of every shard exactly as it is. -/
theorem late_prepare_of_finished_tx_harmless (stores : List Store) (tt mc lt : Nat) {s : Sys}
    (hr : Reach (Sys.init stores tt mc lt) s) (i t sh : Nat) (ops : List Op) (p : Participant)
    (hm : s.msgs[i]? = some (Msg.prepare t sh ops)) (hp : s.parts[sh]? = some p)
    (hfin : s.finishedOn sh t = true) :
    ∃ p', (s.step (.deliver i)).parts = s.parts.set sh p' ∧
      (s.step (.deliver i)).parts[sh]? = some p' ∧
      p'.store = p.store ∧
      (∀ k l, findLock p.locks.locks k = some l → l.tx ≠ t → findLock p'.locks.locks k = some l) ∧
      (∀ t', t' ≠ t → findPrepared p'.prepared t' = findPrepared p.prepared t') ∧
      ((∃ k ∈ lockKeys ops, ∃ l, findLock p.locks.locks k = some l ∧ l.tx ≠ t) →
        p' = p ∧ findPrepared p'.prepared t = none ∧ p'.abort t = (p', false) ∧
        ∃ c, c ≠ t ∧ (s.step (.deliver i)).msgs = s.msgs ++ [Msg.vote t sh (.conflict c)]) ∧
      (∀ s'', Reach (s.step (.deliver i)) s'' →
        (∀ j tx' sh', s''.msgs[j]? = some (Msg.abort tx' sh') →
          ∀ sh2 k, sget ((s''.step (.deliver j)).storeOf sh2) k = sget (s''.storeOf sh2) k) ∧
        (∀ sh' to sh2 k, sget ((s''.step (.cleanupStale sh' to)).storeOf sh2) k = sget (s''.storeOf sh2) k) ∧
        (∀ sh' to sh2 k, sget ((s''.step (.recover sh' to)).storeOf sh2) k = sget (s''.storeOf sh2) k)) := by
  have hS := sinv_of_reach hr
  have hP := hS p (List.mem_of_getElem? hp)
  obtain ⟨hparts, hmsgs⟩ := step_deliver_prepare hm hp
  obtain ⟨h1, h2, h3, h4⟩ := prepare_respects_others hP t ops
  have hnone : findPrepared p.prepared t = none := by
    simp only [Sys.finishedOn, hp, Bool.and_eq_true, Option.isNone_iff_eq_none] at hfin
    exact hfin.2
  refine ⟨(p.prepare s.now s.nextHandle t ops).1, hparts, ?_, h1, h2, h3, ?_, ?_⟩
  · rw [hparts]; exact List.getElem?_set_self (List.getElem?_eq_some_iff.1 hp).1
  · intro hheld
    obtain ⟨c, hc, he⟩ := h4 hheld
    rw [he] at hmsgs
    rw [he]
    exact ⟨rfl, hnone, abort_absent hnone, c, hc, hmsgs⟩
  · intro s'' hr''
    have hr2 : Reach (Sys.init stores tt mc lt) s'' := (Reach.step (.deliver i) hr rfl).trans hr''
    refine ⟨?_, cleanupStale_keeps_data (sinv_of_reach hr2),
      recover_keeps_data (sinv_of_reach hr2)⟩
    intro j tx' sh' hj
    apply abort_restores_shard stores tt mc lt hr2 (.deliver j) rfl
    intro i' tx2 sh2 he hm2
    cases he
    rw [hj] at hm2
    cases hm2

/-! the 2-transaction history: T0 = tx 0 prepares k1 on shard 0, times out (its PREPARE to shard 1 is
    lost) and is aborted on shard 0; T1 = tx 1 prepares the same key on shard 0; the delayed duplicate
    PREPARE(T0) arrives while T1 is prepared; T1 commits on both shards; the re-sent ABORT(T0) arrives. -/

def lateInit : Sys := Sys.init [[(1, 5)], [(2, 6)]] 2 100 1000

def lateRun : List Ev :=
  [ .begin [0, 1] [(0, [.put 1 7]), (1, [.put 2 8])] [],   -- msgs 0 = PREPARE(T0) shard 0, 1 = shard 1 (lost)
    .deliver 0, .deliver 2,                                 -- 2 = shard 0's YES vote
    .tick 3, .sweep,                                        -- timeout: 3 = ABORT(T0) shard 0, 4 = shard 1
    .deliver 3, .deliver 4,                                 -- T0 is finished on shard 0
    .begin [0, 1] [(0, [.put 1 9]), (1, [.put 2 10])] [],  -- 5 = PREPARE(T1) shard 0, 6 = shard 1
    .deliver 5,                                             -- T1 prepared on shard 0, holds k1; 7 = its YES
    .deliver 0,                                             -- the late duplicate PREPARE(T0); 8 = its answer
    .deliver 8, .deliver 7, .deliver 6, .deliver 9,         -- T1 collects its votes (9 = shard 1's YES)
    .coordCommit 1, .deliver 10, .deliver 11,               -- COMMIT(T1) applied on both shards
    .deliver 3 ]                                            -- the re-sent ABORT(T0) reaches shard 0

def lateMid : Sys := lateInit.run (lateRun.take 9)

-- non-vacuity: `lateMid` is reachable and satisfies every hypothesis of
-- `late_prepare_of_finished_tx_harmless`, including "one of the keys is held by another transaction";
-- T0's `tx_locks` entry has survived `release_by_handle` (empty), which is what the variant reads
example : Reach lateInit lateMid := reach_run .refl _ (by decide +kernel)
example : lateMid.msgs[0]? = some (Msg.prepare 0 0 [.put 1 7]) := by decide +kernel
example : lateMid.finishedOn 0 0 = true := by decide +kernel
example : (lateMid.parts[0]?.map (·.holder 1)) = some (some 1) := by decide +kernel
example : (lateMid.parts[0]?.map (·.locks.txLocks)) = some [(0, []), (1, [1])] := by decide +kernel
-- … and on the code as it is the whole history is harmless: CONFLICT, T1 keeps k1, both shards end with T1's writes
example : (lateMid.step (.deliver 0)).msgs[8]? = some (Msg.vote 0 0 (.conflict 1)) := by decide +kernel
example : ((lateMid.step (.deliver 0)).parts[0]?.map (·.holder 1)) = some (some 1) := by decide +kernel
example : Reach lateInit (lateInit.run lateRun) := reach_run .refl _ (by decide +kernel)
example : (lateInit.run lateRun).decided = [(0, false), (1, true)] := by decide +kernel
example : sget ((lateInit.run lateRun).storeOf 0) 1 = some 9 ∧ sget ((lateInit.run lateRun).storeOf 1) 2 = some 10 := by
  decide +kernel

/-- The conflict-check-skipping variant of `try_lock` ("a transaction with an entry in `tx_locks` is
    re-entering, skip the scan" — while `release_by_handle` keeps the entry of a finished transaction)
    breaks `late_prepare_of_finished_tx_harmless` on the 2-transaction history.  Up to the late PREPARE
    the variant run is the run of the code (T0 finished on shard 0, T1 prepared there and holding k1);
    the late PREPARE(T0) is then answered YES, the lock on k1 moves from T1 to T0, and a prepared record
    for T0 with the stale pre-image k1 = 5 is kept; T1 commits on both shards; the re-sent ABORT(T0) —
    or the participant's own `cleanup_stale` — then installs 5 over T1's committed 9 on shard 0 while
    shard 1 keeps T1's 10: the shards are split and a committed write is lost. -/
theorem late_prepare_breaks_tryLockNoConflictCheckForKnownTx_witness :
    let mid := lateInit.runNoConflictCheckForKnownTx (lateRun.take 9)
    let stolen := mid.stepNoConflictCheckForKnownTx (.deliver 0)
    let done := lateInit.runNoConflictCheckForKnownTx (lateRun.take 17)
    let resent := done.stepNoConflictCheckForKnownTx (.deliver 3)
    let cleaned := done.stepNoConflictCheckForKnownTx (.cleanupStale 0 0)
    -- hypotheses of the theorem hold before the late PREPARE …
    mid.msgs[0]? = some (Msg.prepare 0 0 [.put 1 7]) ∧ mid.finishedOn 0 0 = true ∧
    (mid.parts[0]?.map (·.holder 1)) = some (some 1) ∧
    -- … which now takes T1's lock, is answered YES and leaves a record with a stale undo image
    (stolen.parts[0]?.map (·.holder 1)) = some (some 0) ∧
    stolen.msgs[8]? = some (Msg.vote 0 0 (.yes 2 [1])) ∧
    (stolen.parts[0]?.map (fun q => (findPrepared q.prepared 0).map (·.undo))) = some (some [.restore 1 5]) ∧
    -- T1's one decision is commit and both shards applied it
    done.decided = [(0, false), (1, true)] ∧ done.applied = [(0, 1), (1, 1)] ∧
    sget (done.storeOf 0) 1 = some 9 ∧ sget (done.storeOf 1) 2 = some 10 ∧
    -- the re-sent ABORT(T0) (msgs[3]) rolls shard 0 back to T0's stale pre-image; shard 1 keeps T1's write
    resent.msgs[3]? = some (Msg.abort 0 0) ∧
    sget (resent.storeOf 0) 1 = some 5 ∧ sget (resent.storeOf 1) 2 = some 10 ∧
    -- and so does the participant's stale-prepared cleanup
    sget (cleaned.storeOf 0) 1 = some 5 ∧ sget (cleaned.storeOf 1) 2 = some 10 := by
  decide +kernel

/-! ### locks: what keeps concurrent transactions on overlapping keys apart -/

/-- In every reachable state every prepared transaction holds, under its own handle, the lock of the
    logical key, of the storage key (undo image) and of the write key of each of its operations. -/
theorem prepared_tx_holds_its_locks (stores : List Store) (tt mc lt : Nat) {s : Sys}
    (hr : Reach (Sys.init stores tt mc lt) s) (p : Participant) (hp : p ∈ s.parts)
    (pt : PreparedTx) (hpt : pt ∈ p.prepared) (op : Op) (hop : op ∈ pt.ops) (k : Nat)
    (hk : k = op.key ∨ k = op.undoKey ∨ k = op.writeKey) :
    ∃ l, findLock p.locks.locks k = some l ∧ l.tx = pt.tx ∧ l.handle = pt.handle :=
  ((sinv_of_reach hr) p hp).held pt hpt k (mem_lockKeys.2 ⟨op, hop, hk⟩)

/-- A PREPARE — first, duplicate or late, of a live or of a finished transaction — never changes the
    lock (holder and handle) of a key held by another transaction, never touches another transaction's
    prepared record or any data, and is answered CONFLICT with the participant left exactly as it was
    when the logical, the storage or the write key of one of its operations is held by another
    transaction. -/
theorem prepare_never_moves_foreign_lock (stores : List Store) (tt mc lt : Nat) {s : Sys}
    (hr : Reach (Sys.init stores tt mc lt) s) (p : Participant) (hp : p ∈ s.parts)
    (tx : Nat) (ops : List Op) :
    let r := p.prepare s.now s.nextHandle tx ops
    r.1.store = p.store ∧
    (∀ k l, findLock p.locks.locks k = some l → l.tx ≠ tx → findLock r.1.locks.locks k = some l) ∧
    (∀ t', t' ≠ tx → findPrepared r.1.prepared t' = findPrepared p.prepared t') ∧
    ((∃ op ∈ ops, ∃ k, (k = op.key ∨ k = op.undoKey ∨ k = op.writeKey) ∧
        ∃ l, findLock p.locks.locks k = some l ∧ l.tx ≠ tx) →
      ∃ c, c ≠ tx ∧ r = (p, .conflict c)) := by
  obtain ⟨h1, h2, h3, h4⟩ := prepare_respects_others ((sinv_of_reach hr) p hp) tx ops
  refine ⟨h1, h2, h3, ?_⟩
  rintro ⟨op, hop, k, hk, l, hl, hne⟩
  exact h4 ⟨k, mem_lockKeys.2 ⟨op, hop, hk⟩, l, hl, hne⟩

/-- What 3e4ef1c8 makes true, for EVERY workload: transactions that reach one storage key under different
    logical keys are kept apart by the participant.  In every reachable state, if `pt` is prepared on a
    participant and a PREPARE of another transaction carries an operation `op'` one of whose keys
    (logical, storage, write) is a key (logical, storage, write) of an operation of `pt` — in particular
    `op'` writes the storage key `pt` holds an undo image of (`Put{"emb:x"}` vs `Embed{x}`), or captures
    the undo image of a key `pt` will write — then that PREPARE is answered CONFLICT naming another
    transaction and leaves the participant (locks, prepared records, data) exactly as it was. -/
theorem storage_key_alias_is_refused (stores : List Store) (tt mc lt : Nat) {s : Sys}
    (hr : Reach (Sys.init stores tt mc lt) s) (p : Participant) (hp : p ∈ s.parts)
    (pt : PreparedTx) (hpt : pt ∈ p.prepared) (tx : Nat) (hne : tx ≠ pt.tx) (ops : List Op)
    (op : Op) (hop : op ∈ pt.ops) (op' : Op) (hop' : op' ∈ ops) (k : Nat)
    (hk : k = op.key ∨ k = op.undoKey ∨ k = op.writeKey)
    (hk' : k = op'.key ∨ k = op'.undoKey ∨ k = op'.writeKey) :
    ∃ c, c ≠ tx ∧ p.prepare s.now s.nextHandle tx ops = (p, .conflict c) := by
  have hP := (sinv_of_reach hr) p hp
  obtain ⟨l, hl, htx, _⟩ := hP.held pt hpt k (mem_lockKeys.2 ⟨op, hop, hk⟩)
  exact (prepare_respects_others hP tx ops).2.2.2
    ⟨k, mem_lockKeys.2 ⟨op', hop', hk'⟩, l, hl, by rw [htx]; exact fun e => hne e.symm⟩

/-- … hence two transactions prepared on one participant at the same time never share a logical,
    storage or write key: no prepared transaction holds an undo image of a key another prepared
    transaction will write. -/
theorem prepared_txs_touch_disjoint_keys (stores : List Store) (tt mc lt : Nat) {s : Sys}
    (hr : Reach (Sys.init stores tt mc lt) s) (p : Participant) (hp : p ∈ s.parts)
    (pt pt' : PreparedTx) (hpt : pt ∈ p.prepared) (hpt' : pt' ∈ p.prepared)
    (op : Op) (hop : op ∈ pt.ops) (op' : Op) (hop' : op' ∈ pt'.ops) (k : Nat)
    (hk : k = op.key ∨ k = op.undoKey ∨ k = op.writeKey)
    (hk' : k = op'.key ∨ k = op'.undoKey ∨ k = op'.writeKey) : pt.tx = pt'.tx :=
  ((sinv_of_reach hr) p hp).disjoint hpt hpt' (mem_lockKeys.2 ⟨op, hop, hk⟩) (mem_lockKeys.2 ⟨op', hop', hk'⟩)

/-- Workloads of Put / Delete / CompareAndSwap operations keep the OLD lock discipline by construction
    (logical key = storage key = write key): for them the lock set of the code before 3e4ef1c8 was
    already sufficient (the defect needed one of the prefixed kinds). -/
theorem lock_discipline_of_plain_ops (ops : List Op) (h : ∀ op ∈ ops, op.isPlain = true) :
    lockDiscipline ops = true := by
  apply (lockDiscipline_iff ops).2
  intro a ha b hb he
  rwa [(Op.keys_of_isPlain (h a ha)).1, (Op.keys_of_isPlain (h b hb)).2] at he

/-! non-vacuity: a mixed-kind workload (Embed, TableUpdate, CompareAndSwap, NodeCreate, EdgeCreate),
    with forged votes in the schedule: tx 0 commits on both shards although a
    stray YES tagged with shard 5, a forged NO for the not-yet-begun tx 1 and a late forged CONFLICT
    were delivered; tx 1 is aborted by a forged NO and changes nothing. -/

def mixedInit : Sys := Sys.init [[(1, 5), (tableK 3, .rows 4)], [(2, 6)]] 2 100 1000

def mixedRun : List Ev :=
  [ .begin [0, 1] [(0, [.embed 1 7, .tableUpdate 3 2 9, .cas 1 (some 5) 6]), (1, [.nodeCreate 2 4, .edgeCreate 2 3 1, .cas 2 none 1])] [],
    .forge 0 5 (.yes 77 [1]),          -- msgs 2: stray YES from shard 5 (not a participant)
    .forge 1 0 .no,                    -- msgs 3: NO for a transaction that does not exist yet
    .deliver 2, .deliver 0, .deliver 1,-- stray vote recorded; both participants prepare: msgs 4, 5
    .deliver 4, .deliver 5, .coordCommit 0, .deliver 6, .deliver 7,
    .forge 0 1 (.conflict 9), .deliver 8,
    .begin [0, 1] [(0, [.tableInsert 3 8]), (1, [.nodeDelete 2])] [],   -- tx 1: msgs 9, 10
    .deliver 9, .deliver 3,            -- shard 0 prepares tx 1 (msgs 11 = its YES); the early forged NO is recorded as shard 0's vote
    .deliver 10, .deliver 12,          -- shard 1 prepares (msgs 12 = its YES): all voted, not all YES -> msgs 13, 14 = ABORT(tx 1)
    .deliver 13, .deliver 11 ]         -- shard 0 discards tx 1; its real YES arrives late and is rejected

example : Reach mixedInit (mixedInit.run mixedRun) := reach_run .refl _ (by decide +kernel)
example : (mixedInit.run mixedRun).decided = [(0, true), (1, false)] := by decide +kernel
example : (mixedInit.run mixedRun).cast = [(0, 0, true), (0, 1, true), (1, 0, true), (1, 1, true)] := by decide +kernel
example : (mixedInit.run mixedRun).discarded = [(0, 1)] := by decide +kernel
-- Embed wrote "emb:k1", TableUpdate wrote the ROW key, CAS(k1: 5 -> 6) matched, CAS(k2: [] -> 1) did not (k2 = 6)
example : sget ((mixedInit.run mixedRun).storeOf 0) (embK 1) = some (.vec 7) ∧
    sget ((mixedInit.run mixedRun).storeOf 0) (rowK 3 2) = some (.row 2 9) ∧
    sget ((mixedInit.run mixedRun).storeOf 0) (tableK 3) = some (.rows 4) ∧
    sget ((mixedInit.run mixedRun).storeOf 0) 1 = some 6 ∧
    sget ((mixedInit.run mixedRun).storeOf 1) (nodeK 2) = some (.node 4) ∧
    sget ((mixedInit.run mixedRun).storeOf 1) (edgeK 2 3 1) = some .edge ∧
    sget ((mixedInit.run mixedRun).storeOf 1) 2 = some 6 := by decide +kernel
-- the hypothesis of `lock_discipline_of_plain_ops` holds of a real workload
example : ∀ op ∈ [Op.put 1 2, .cas 1 none 3, .del 1], op.isPlain = true := by decide +kernel
-- the lock set: Embed locks k1 and "emb:k1", TableUpdate the table name, "table:3" and the row key, CAS only k1
example : ((mixedInit.run (mixedRun.take 5)).parts[0]?.map (fun p => p.locks.txLocks)) =
    some [(0, [1, 3, 1, embK 1, tableK 3, rowK 3 2])] := by decide +kernel
-- `prepared_tx_holds_its_locks` / `prepare_never_moves_foreign_lock` are not vacuous: after 15 events tx 1 is prepared on shard 0
example : ((mixedInit.run (mixedRun.take 15)).parts[0]?.map (fun p => p.prepared.map (·.tx))) = some [1] := by decide +kernel

/-! the alias history: T0 = `Embed{k1}` and T1 = `Put{"emb:k1"}` reach the storage key `"emb:k1"` under
    the logical keys `k1` resp. `"emb:k1"`; T1 would commit, T0 times out. -/

def aliasInit : Sys := Sys.init [[], []] 2 100 1000

def aliasRun : List Ev :=
  [ .begin [0, 1] [(0, [.embed 1 7]), (1, [.put 2 8])] [],          -- msgs 0,1 = PREPARE(T0)
    .begin [0, 1] [(0, [.put (embK 1) 9]), (1, [.put 3 10])] [],     -- msgs 2,3 = PREPARE(T1)
    .deliver 0, .deliver 2,            -- shard 0: T0 prepared (4 = YES), then PREPARE(T1) (5 = its answer)
    .deliver 3, .deliver 5, .deliver 6,-- shard 1 prepares T1 (6 = YES); T1's two votes reach the coordinator
    .coordCommit 1, .deliver 7, .deliver 8,
    .tick 3, .sweep ]

/-- BEFORE 3e4ef1c8 (`prepareOld`: only `affected_key()` is locked, `Sys.runOld`) `abort_restores_shard`
    was false: T0 and T1 are prepared on shard 0 at the same time under different logical keys; T0's
    undo image of `"emb:k1"` is "absent".  T1 is decided commit and applied on both shards; T0 times out
    and its ABORT deletes `"emb:k1"`: an aborted transaction changed the shard, a committed write is
    lost, and shard 1 still holds T1's other write (split).  Every event of the run is in the alphabet.
    On the code as it is (`Sys.run`) the same events go: PREPARE(T1) is answered CONFLICT(T0) on shard 0
    (T0 holds `"emb:k1"`), T1 is aborted, the commit call is refused, and no shard ever changes. -/
theorem abort_undoes_commit_via_storage_key_alias_old_lock_set_witness :
    let old := aliasInit.runOld aliasRun
    let new := aliasInit.run aliasRun
    aliasInit.allIn aliasRun = true ∧
    -- old lock set: both transactions prepared on shard 0 together, under different logical keys
    (aliasInit.runOld (aliasRun.take 4)).parts[0]?.map (fun p => p.locks.locks.map (fun l => (l.key, l.tx))) =
      some [(embK 1, 1), (1, 0)] ∧
    old.decided = [(1, true), (0, false)] ∧ old.applied = [(0, 1), (1, 1)] ∧
    old.msgs[9]? = some (Msg.abort 0 0) ∧ old.inAlphabet (.deliver 9) = true ∧
    sget (old.storeOf 0) (embK 1) = some 9 ∧ sget (old.storeOf 1) 3 = some 10 ∧
    sget ((old.stepOld (.deliver 9)).storeOf 0) (embK 1) = none ∧
    sget ((old.stepOld (.deliver 9)).storeOf 1) 3 = some 10 ∧
    -- the code as it is: T0 holds k1 AND "emb:k1"; PREPARE(T1) is refused; T1 aborts; nothing is written
    (aliasInit.run (aliasRun.take 3)).parts[0]?.map (fun p => p.locks.locks.map (fun l => (l.key, l.tx))) =
      some [(embK 1, 0), (1, 0)] ∧
    (aliasInit.run (aliasRun.take 4)).msgs[5]? = some (Msg.vote 1 0 (.conflict 0)) ∧
    new.decided = [(1, false), (0, false), (1, false)] ∧ new.applied = [] ∧
    new.msgs[9]? = some (Msg.abort 0 0) ∧
    (∀ sh ∈ [0, 1], ∀ k ∈ [1, 2, 3, embK 1], sget ((new.step (.deliver 9)).storeOf sh) k = none) := by
  decide +kernel

-- `storage_key_alias_is_refused` is not vacuous: after 3 events of the alias history T0 is prepared on
-- shard 0 and the PREPARE of T1 (tx 1 ≠ 0) carries `Put{"emb:k1"}`, whose write key is T0's storage key
example : Reach aliasInit (aliasInit.run (aliasRun.take 3)) := reach_run .refl _ (by decide +kernel)
example : ((aliasInit.run (aliasRun.take 3)).parts[0]?.map (fun p => p.prepared.map (fun pt => (pt.tx, pt.ops)))) =
    some [(0, [.embed 1 7])] := by decide +kernel
example : (Op.put (embK 1) 9).writeKey = (Op.embed 1 7).undoKey := by decide +kernel
example : (aliasInit.run (aliasRun.take 3)).msgs[2]? = some (Msg.prepare 1 0 [.put (embK 1) 9]) := by decide +kernel
-- `prepared_txs_touch_disjoint_keys` with two records: both transactions of `mixedRun`'s shard 0 … (tx 0
-- committed there before tx 1 prepared); a state with two records at once:
example : (((Sys.init [[], []] 2 100 1000).run
    [ .begin [0] [(0, [.embed 1 7])] [], .begin [0] [(0, [.embed 2 7])] [], .deliver 0, .deliver 1 ]).parts[0]?.map
      (fun p => p.prepared.map (·.tx))) = some [1, 0] := by decide +kernel

/-! ### `record_vote` is two critical sections (VoteSplit.lean) -/

/-- The atomic `recordVote` that every theorem above is about is exactly phase 1 followed, with nothing
    in between, by phases 2 + 3 of the code's `record_vote` — for every coordinator state and vote. -/
theorem record_vote_is_its_two_critical_sections (c : Coordinator) (tx sh : Nat) (v : Vote)
    (f : Nat → Nat → Bool) :
    c.recordVote tx sh v f =
      match c.recordVoteP1 tx sh v with
      | .error e => .error e
      | .ok (.done c' r) => .ok (c', r)
      | .ok (.check c' snap) => .ok (c'.recordVoteP3 tx snap f) :=
  recordVote_eq_phases c tx sh v f

/-- Phase 3 of the code (since f07ecb9a) leaves a transaction that is gone or no longer `Preparing`
    exactly as it is — whatever happened between the two critical sections, whatever the snapshot and
    the similarity outcome: no phase change, nothing queued, `Ok(None)`. -/
theorem record_vote_phase3_keeps_decided_phase (c : Coordinator) (tx : Nat) (snap : DTx)
    (f : Nat → Nat → Bool) (hp : ∀ t, findTx c.pending tx = some t → t.phase ≠ .preparing) :
    c.recordVoteP3 tx snap f = (c, none) := by
  rcases recordVoteP3_cases c tx snap f with h | ⟨t, hf, hph, _⟩
  · exact h
  · exact absurd hph (hp t hf)

/-- … and when it does change something, the transaction is `Preparing` NOW and becomes `Prepared`
    (nothing queued) or `Aborting` (exactly one abort broadcast queued); no other entry changes. -/
theorem record_vote_phase3_moves_only_preparing (c : Coordinator) (tx : Nat) (snap : DTx)
    (f : Nat → Nat → Bool) (hne : c.recordVoteP3 tx snap f ≠ (c, none)) :
    ∃ t, findTx c.pending tx = some t ∧ t.phase = .preparing ∧
      ((c.recordVoteP3 tx snap f) = ({ c with pending := setPhase c.pending tx .prepared }, some .prepared) ∨
       (c.recordVoteP3 tx snap f) =
          ({ c with pending := setPhase c.pending tx .aborting,
                    pendingAborts := c.pendingAborts ++ [(tx, .crossShard, snap.participants)] }, some .aborting)) := by
  rcases recordVoteP3_cases c tx snap f with h | h
  · exact absurd h hne
  · exact h

/-- One decision under EVERY interleaving of the two critical sections.  The coordinator is shared by any
    number of threads (`CSys`): every call (`begin`, `commit`, `abort`, `cleanup_timeouts`,
    `take_pending_aborts`) is one event, `record_vote` is two (`voteP1`, `voteP3`), and a `voteP3` may
    carry any snapshot and any similarity outcome and run at any later point in any order with the other
    threads' events.  In every reachable state a transaction for which `commit()` succeeded has no
    abort decision: no `abort()` succeeded for it and no abort broadcast was ever queued for it (drained
    or not) — and vice versa. -/
theorem record_vote_interleaved_phases_never_decide_twice (mc tt : Nat) {s : CSys}
    (hr : CReach (CSys.init mc tt) s) (tx : Nat) (hc : tx ∈ s.commits) : ¬ s.abortDecided tx :=
  ((CInv.init mc tt).reach hr).excl tx hc

/-- … and the decision is stable and exclusive along every continuation. -/
theorem record_vote_interleaved_phases_abort_excludes_commit (mc tt : Nat) {s : CSys}
    (hr : CReach (CSys.init mc tt) s) (tx : Nat) (ha : s.abortDecided tx) : tx ∉ s.commits :=
  fun hc => ((CInv.init mc tt).reach hr).excl tx hc ha

/-- Phase 3b BEFORE f07ecb9a did not look at the phase it overwrote: whatever happened to the
    transaction between the two critical sections (as long as it was still pending), an orthogonal
    snapshot made it `Prepared`, i.e. committable. -/
theorem record_vote_phase3_old_overwrites_any_phase (c : Coordinator) (tx : Nat) (snap t : DTx)
    (f : Nat → Nat → Bool) (hc : crossConflict f snap.votes = false) (hf : findTx c.pending tx = some t) :
    c.recordVoteP3Old tx snap f = ({ c with pending := setPhase c.pending tx .prepared }, some .prepared) ∧
    findTx (c.recordVoteP3Old tx snap f).1.pending tx = some { t with phase := .prepared } := by
  have h1 : c.recordVoteP3Old tx snap f = ({ c with pending := setPhase c.pending tx .prepared }, some .prepared) := by
    simp only [Coordinator.recordVoteP3Old, hc, hf, Bool.false_eq_true, if_false]
  rw [h1]
  exact ⟨rfl, findTx_setPhase .prepared hf⟩

/-! the two-thread interleaving: thread A = the last real YES (shard 1), thread B = a stray NO tagged with
    the non-participant shard 5, recorded between A's two critical sections -/

def raceSnap : DTx := ⟨0, [0, 1], .preparing, [(0, .yes 0 [1]), (1, .yes 1 [2])], 0, 2⟩

def raceRun : List CEv :=
  [ .begin 0 [0, 1], .voteP1 0 0 (.yes 0 [1]),
    .voteP1 0 1 (.yes 1 [2]),                       -- thread A, phase 1: everybody voted YES, snapshot = `raceSnap`
    .voteP1 0 5 .no,                                -- thread B, a whole `record_vote` (it ends in phase 1): Aborting + queued ABORT
    .voteP3 0 raceSnap (fun _ _ => false),          -- thread A, phases 2 + 3
    .commit 0 ]

/-- BEFORE f07ecb9a (`CSys.runOld`): thread B's stray NO between thread A's two critical sections moves
    the transaction to `Aborting` and queues the abort broadcast; phase 3b of thread A then overwrites
    `Aborting` with `Prepared`, and `commit` succeeds: the transaction has an ABORT broadcast in the
    queue AND a commit decision.  On the code as it is (`CSys.run`) the same events leave it `Aborting`,
    phase 3 returns `None` and the commit is refused.  (`raceSnap` is the snapshot phase 1 really took.) -/
theorem record_vote_interleaved_phases_decide_twice_old_witness :
    let c2 := ((CSys.init 100 2).run (raceRun.take 2)).c
    let old := (CSys.init 100 2).runOld raceRun
    let new := (CSys.init 100 2).run raceRun
    (match c2.recordVoteP1 0 1 (.yes 1 [2]) with | .ok (.check _ snap) => some snap | _ => none) = some raceSnap ∧
    -- after thread B: Aborting, ABORT broadcast queued (old and new agree up to here)
    (((CSys.init 100 2).runOld (raceRun.take 4)).c.pending.map (·.phase),
      ((CSys.init 100 2).runOld (raceRun.take 4)).c.pendingAborts) =
        ([Phase.aborting], [(0, AbortReason.votedNo, [0, 1])]) ∧
    ((CSys.init 100 2).run (raceRun.take 4)).c = ((CSys.init 100 2).runOld (raceRun.take 4)).c ∧
    -- old: phase 3 says `Prepared`, the commit succeeds, both decisions exist
    (((CSys.init 100 2).runOld (raceRun.take 4)).c.recordVoteP3Old 0 raceSnap (fun _ _ => false)).2 = some Phase.prepared ∧
    (((CSys.init 100 2).runOld (raceRun.take 5)).c.pending.map (·.phase)) = [Phase.prepared] ∧
    old.commits = [0] ∧ old.abortDecided 0 ∧
    -- the code as it is: phase 3 leaves `Aborting` alone, the commit is refused, one decision
    (((CSys.init 100 2).run (raceRun.take 4)).c.recordVoteP3 0 raceSnap (fun _ _ => false)).2 = none ∧
    (((CSys.init 100 2).run (raceRun.take 5)).c.pending.map (·.phase)) = [Phase.aborting] ∧
    new.commits = [] ∧ new.abortDecided 0 ∧
    -- the same through `recordVoteInterleaved` (what the harness asks the driver for)
    (c2.recordVoteInterleaved 0 1 (.yes 1 [2]) 5 .no (fun _ _ => false)).map (fun r => (r.2.1.toOption, r.2.2)) =
      some (some (some Phase.aborting), none) := by
  decide +kernel

-- non-vacuity of `record_vote_interleaved_phases_never_decide_twice`: reachable states with a commit
-- decision (both real votes, phase 3 in order, commit) resp. an abort decision (the race above)
example : CReach (CSys.init 100 2) ((CSys.init 100 2).run raceRun) := creach_run .refl _
example : ((CSys.init 100 2).run [ .begin 0 [0, 1], .voteP1 0 0 (.yes 0 [1]), .voteP1 0 1 (.yes 1 [2]),
    .voteP3 0 raceSnap (fun _ _ => false), .commit 0, .voteP3 0 raceSnap (fun _ _ => true) ]).commits = [0] := by decide +kernel
example : ¬ ((CSys.init 100 2).run [ .begin 0 [0, 1], .voteP1 0 0 (.yes 0 [1]), .voteP1 0 1 (.yes 1 [2]),
    .voteP3 0 raceSnap (fun _ _ => false), .commit 0, .voteP3 0 raceSnap (fun _ _ => true) ]).abortDecided 0 := by decide +kernel
-- `record_vote_phase3_keeps_decided_phase`: its hypothesis holds of the state after thread B
example : ∀ t, findTx ((CSys.init 100 2).run (raceRun.take 4)).c.pending 0 = some t → t.phase ≠ .preparing := by
  decide +kernel

/-! ### the two counter-traces over the EXTENDED alphabet (outside C03's quantifier) -/

/-- With participant-side `cleanup_stale` (presumed abort after a YES vote) in the alphabet,
    atomicity fails: shard 0 applied tx 0, shard 1 discarded it. -/
theorem split_outcome_outside_quantifier_witness :
    ∃ s, ReachExt (Sys.init [[], []] 2 100 1000) s ∧ (0, 0) ∈ s.applied ∧ (1, 0) ∈ s.discarded :=
  ⟨(Sys.init [[], []] 2 100 1000).run
      [ .begin [0, 1] [(0, [.put 1 7]), (1, [.put 3 9])] [],
        .deliver 0, .deliver 1, .deliver 2, .deliver 3, .coordCommit 0, .deliver 4, .cleanupStale 1 0 ],
   reachExt_run .refl _, by decide +kernel, by decide +kernel⟩

/-- With participant lock EXPIRY in the alphabet, an abort changes a shard: tx 0 prepares k1 (image 5),
    its lock expires, tx 1 commits k1 = 9, then tx 0's abort re-installs 5 although tx 0 never wrote. -/
theorem abort_changes_shard_outside_quantifier_witness :
    ∃ s i, ReachExt (Sys.init [[(1, 5)]] 2 100 0) s ∧ s.msgs[i]? = some (Msg.abort 0 0) ∧
      sget (s.storeOf 0) 1 = some 9 ∧ sget ((s.step (.deliver i)).storeOf 0) 1 = some 5 :=
  ⟨(Sys.init [[(1, 5)]] 2 100 0).run
      [ .begin [0] [(0, [.put 1 7])] [], .begin [0] [(0, [.put 1 9])] [],
        .deliver 0, .tick 1, .deliver 1, .deliver 3, .coordCommit 1, .deliver 4, .coordAbort 0 ],
   5, reachExt_run .refl _, by decide +kernel, by decide +kernel, by decide +kernel⟩

end Neumann.TwoPC.Props
