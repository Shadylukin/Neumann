import NeumannModel.TxWal.Model
import NeumannModel.Common.FramedLogLemmas
/-
  Helper lemmas for C13: association lists, the recovery scan, every coordinator call case by
  case (`…Outcome`), the coordinator invariant `Inv`, recovery, and the byte-level restart
  refinement.
-/
namespace Neumann.TxWal
open Neumann.FramedLog

theorem snoc_induction {α : Type} {P : List α → Prop} (hnil : P [])
    (hsnoc : ∀ l a, P l → P (l ++ [a])) : ∀ l, P l := by
  have : ∀ l : List α, P l.reverse := by
    intro l
    induction l with
    | nil => simpa using hnil
    | cons a l ih => simpa using hsnoc _ a ih
  intro l
  simpa using this l.reverse

theorem append_keeps {α : Type} {P : List α → Prop} {ok : α → Prop}
    (hsnoc : ∀ l a, ok a → P l → P (l ++ [a])) (l es : List α) (hes : ∀ a ∈ es, ok a) (h : P l) :
    P (l ++ es) := by
  induction es generalizing l with
  | nil => rwa [List.append_nil]
  | cons a es ih =>
    rw [show l ++ a :: es = (l ++ [a]) ++ es by simp]
    exact ih _ (fun b hb => hes b (List.mem_cons_of_mem _ hb)) (hsnoc l a (hes a (List.mem_cons_self ..)) h)

theorem prefixes_take {α : Type} {P : List α → Prop} {l : List α} (h : ∀ k, P (l.take k)) (k : Nat) :
    ∀ j, P ((l.take k).take j) := by
  intro j; rw [List.take_take]; exact h _

theorem prefixes_snoc {α : Type} {P : List α → Prop} {l : List α} {a : α} (h : ∀ k, P (l.take k))
    (ha : P (l ++ [a])) : ∀ k, P ((l ++ [a]).take k) := by
  intro k
  by_cases hk : k ≤ l.length
  · rw [List.take_append_of_le_length hk]; exact h k
  · rw [List.take_of_length_le (by simp; omega)]; exact ha

theorem mem_mKeys_mErase {α : Type} (k x : Nat) (m : List (Nat × α)) :
    x ∈ mKeys (mErase k m) ↔ x ∈ mKeys m ∧ x ≠ k := by
  simp only [mKeys, mErase, List.mem_map, List.mem_filter, decide_eq_true_eq]
  constructor
  · rintro ⟨p, ⟨hp, hne⟩, rfl⟩; exact ⟨⟨p, hp, rfl⟩, hne⟩
  · rintro ⟨⟨p, hp, rfl⟩, hne⟩; exact ⟨p, ⟨hp, hne⟩, rfl⟩

theorem mem_mKeys_mInsert {α : Type} (k x : Nat) (v : α) (m : List (Nat × α)) :
    x ∈ mKeys (mInsert k v m) ↔ x = k ∨ (x ∈ mKeys m ∧ x ≠ k) := by
  have h := mem_mKeys_mErase k x m
  simp only [mKeys] at h
  simp only [mInsert, mKeys, List.map_cons, List.mem_cons, h]

theorem mKeys_mModify {α : Type} (k : Nat) (f : α → α) (m : List (Nat × α)) :
    mKeys (mModify k f m) = mKeys m := by
  simp only [mKeys, mModify, List.map_map]
  apply List.map_congr_left
  intro p _
  simp only [Function.comp]
  split <;> rfl

theorem mLookup_some_mem {α : Type} (k : Nat) (v : α) (m : List (Nat × α)) :
    mLookup k m = some v → (k, v) ∈ m := by
  induction m with
  | nil => simp [mLookup]
  | cons p r ih =>
    obtain ⟨k', v'⟩ := p
    simp only [mLookup]
    split
    · rename_i h; intro hv; cases hv; simp [h]
    · intro hv; exact List.mem_cons_of_mem _ (ih hv)

theorem mem_keys_of_mem {α : Type} (m : List (Nat × α)) (x : Nat) (v : α) (h : (x, v) ∈ m) : x ∈ mKeys m :=
  List.mem_map.mpr ⟨(x, v), h, rfl⟩

theorem mLookup_some_mem_keys {α : Type} (k : Nat) (v : α) (m : List (Nat × α)) :
    mLookup k m = some v → k ∈ mKeys m :=
  fun h => mem_keys_of_mem m k v (mLookup_some_mem k v m h)

theorem mLookup_eq_none_iff {α : Type} (k : Nat) (m : List (Nat × α)) : mLookup k m = none ↔ k ∉ mKeys m := by
  induction m with
  | nil => simp [mLookup, mKeys]
  | cons p r ih =>
    obtain ⟨k', v'⟩ := p
    simp only [mKeys, List.map_cons, List.mem_cons, not_or, mLookup] at ih ⊢
    by_cases h : k' = k
    · simp [h]
    · simp only [h, if_false, ih]
      exact ⟨fun h2 => ⟨fun e => h e.symm, h2⟩, fun h2 => h2.2⟩

theorem mLookup_none_of_not_mem {α : Type} (k : Nat) (m : List (Nat × α)) :
    k ∉ mKeys m → mLookup k m = none :=
  (mLookup_eq_none_iff k m).mpr

theorem mLookup_ne_none_of_mem_keys {α : Type} (k : Nat) (m : List (Nat × α)) (h : k ∈ mKeys m) :
    mLookup k m ≠ none :=
  fun hn => (mLookup_eq_none_iff k m).mp hn h

theorem not_mem_of_lookup_none {α : Type} (m : List (Nat × α)) (x : Nat) (v : α)
    (h : mLookup x m = none) : (x, v) ∉ m :=
  fun hm => (mLookup_eq_none_iff x m).mp h (mem_keys_of_mem m x v hm)

theorem mLookup_mInsert_self {α : Type} (k : Nat) (v : α) (m : List (Nat × α)) :
    mLookup k (mInsert k v m) = some v := by
  simp [mInsert, mLookup]

theorem mLookup_mErase_self {α : Type} (k : Nat) (m : List (Nat × α)) :
    mLookup k (mErase k m) = none := by
  apply mLookup_none_of_not_mem
  rw [mem_mKeys_mErase]
  simp

theorem mLookup_mErase_ne {α : Type} (k x : Nat) (m : List (Nat × α)) (h : k ≠ x) :
    mLookup x (mErase k m) = mLookup x m := by
  induction m with
  | nil => rfl
  | cons p r ih =>
    obtain ⟨k', v'⟩ := p
    by_cases hk : k' = k
    · subst hk
      have : mErase k' ((k', v') :: r) = mErase k' r := by simp [mErase]
      rw [this, ih]
      simp [mLookup, h]
    · have : mErase k ((k', v') :: r) = (k', v') :: mErase k r := by simp [mErase, hk]
      rw [this]
      simp only [mLookup, ih]

theorem mLookup_mInsert {α : Type} (k x : Nat) (v : α) (m : List (Nat × α)) :
    mLookup x (mInsert k v m) = if k = x then some v else mLookup x m := by
  simp only [mInsert, mLookup]
  split
  · rfl
  · rename_i h; exact mLookup_mErase_ne k x m h

theorem mem_mErase {α : Type} (k x : Nat) (v : α) (m : List (Nat × α)) :
    (x, v) ∈ mErase k m ↔ (x, v) ∈ m ∧ x ≠ k := by
  simp [mErase, List.mem_filter]

theorem mem_mInsert {α : Type} (k x : Nat) (v w : α) (m : List (Nat × α)) :
    (x, v) ∈ mInsert k w m ↔ (x = k ∧ v = w) ∨ ((x, v) ∈ m ∧ x ≠ k) := by
  simp [mInsert, mem_mErase]

theorem mem_mInsert_of_ne {α : Type} {k x : Nat} {v w : α} {m : List (Nat × α)}
    (h : (x, v) ∈ mInsert k w m) (hx : x ≠ k) : (x, v) ∈ m := by
  rcases (mem_mInsert _ _ _ _ _).mp h with ⟨h', _⟩ | ⟨h', _⟩
  · exact absurd h' hx
  · exact h'

theorem mem_mModify {α : Type} (k x : Nat) (f : α → α) (v : α) (m : List (Nat × α)) :
    (x, v) ∈ mModify k f m ↔ ∃ v0, (x, v0) ∈ m ∧ v = if x = k then f v0 else v0 := by
  simp only [mModify, List.mem_map]
  constructor
  · rintro ⟨⟨a, b⟩, hp, h⟩
    by_cases hk : a = k
    · simp only [hk, if_true, Prod.mk.injEq] at h
      obtain ⟨rfl, rfl⟩ := h
      exact ⟨b, by rw [← hk]; exact hp, by simp⟩
    · simp only [hk, if_false, Prod.mk.injEq] at h
      obtain ⟨rfl, rfl⟩ := h
      exact ⟨b, hp, by simp [hk]⟩
  · rintro ⟨v0, hp, rfl⟩
    refine ⟨(x, v0), hp, ?_⟩
    by_cases hk : x = k <;> simp [hk]

theorem nodup_filter_keys {α : Type} (m : List (Nat × α)) (p : Nat × α → Bool) (h : (mKeys m).Nodup) :
    (mKeys (m.filter p)).Nodup := by
  unfold mKeys at *
  exact List.Nodup.sublist (List.Sublist.map _ List.filter_sublist) h

theorem nodup_mErase {α : Type} (k : Nat) (m : List (Nat × α)) (h : (mKeys m).Nodup) :
    (mKeys (mErase k m)).Nodup :=
  nodup_filter_keys m _ h

theorem nodup_mInsert {α : Type} (k : Nat) (v : α) (m : List (Nat × α)) (h : (mKeys m).Nodup) :
    (mKeys (mInsert k v m)).Nodup := by
  have h1 := nodup_mErase k m h
  have h2 : k ∉ mKeys (mErase k m) := by rw [mem_mKeys_mErase]; simp
  simp only [mInsert, mKeys, List.map_cons] at h1 h2 ⊢
  exact List.nodup_cons.mpr ⟨h2, h1⟩

theorem mem_unique_of_nodup {α : Type} (m : List (Nat × α)) (h : (mKeys m).Nodup) (x : Nat) (v w : α)
    (hv : (x, v) ∈ m) (hw : (x, w) ∈ m) : v = w := by
  induction m with
  | nil => cases hv
  | cons p r ih =>
    have h' : p.1 ∉ mKeys r ∧ (mKeys r).Nodup := List.nodup_cons.mp h
    rcases List.mem_cons.mp hv with e | hv' <;> rcases List.mem_cons.mp hw with e' | hw'
    · cases e; cases e'; rfl
    · cases e; exact absurd (mem_keys_of_mem r _ _ hw') h'.1
    · cases e'; exact absurd (mem_keys_of_mem r _ _ hv') h'.1
    · exact ih h'.2 hv' hw'

theorem keys_insert_existing {α : Type} (id x : Nat) (t t' : α) (m : List (Nat × α))
    (hl : mLookup id m = some t) (hx : x ∈ mKeys (mInsert id t' m)) : x ∈ mKeys m := by
  rw [mem_mKeys_mInsert] at hx
  rcases hx with rfl | ⟨h, _⟩
  · exact mLookup_some_mem_keys _ _ _ hl
  · exact h

theorem mLookup_mModify {α : Type} (k x : Nat) (f : α → α) (m : List (Nat × α)) :
    mLookup x (mModify k f m) = if x = k then (mLookup x m).map f else mLookup x m := by
  induction m with
  | nil => simp [mModify, mLookup]
  | cons p r ih =>
    obtain ⟨a, b⟩ := p
    have hc : mModify k f ((a, b) :: r) = (if a = k then (a, f b) else (a, b)) :: mModify k f r := by
      simp [mModify]
    rw [hc]
    by_cases hak : a = k
    · subst hak
      simp only [if_true, mLookup]
      by_cases hax : a = x
      · subst hax; simp
      · simp only [hax, if_false, ih]
    · simp only [hak, if_false, mLookup]
      by_cases hax : a = x
      · subst hax
        simp [hak]
      · simp only [hax, if_false, ih]

theorem mLookup_append {α : Type} (x : Nat) (a b : List (Nat × α)) :
    mLookup x (a ++ b) = (mLookup x a).or (mLookup x b) := by
  induction a with
  | nil => rfl
  | cons p r ih =>
    obtain ⟨k, w⟩ := p
    simp only [List.cons_append, mLookup]
    split
    · rfl
    · exact ih

theorem mLookup_of_mem_nodup {α : Type} (m : List (Nat × α)) (h : (mKeys m).Nodup) (x : Nat) (v : α)
    (hm : (x, v) ∈ m) : mLookup x m = some v := by
  cases hl : mLookup x m with
  | none => exact absurd hl (mLookup_ne_none_of_mem_keys x m (mem_keys_of_mem m x v hm))
  | some w => rw [mem_unique_of_nodup m h x w v (mLookup_some_mem x w m hl) hm]

def Completed (L : List Entry) (x : Nat) : Prop := ∃ o, Entry.txComplete x o ∈ L
def Begun (L : List Entry) (x : Nat) : Prop := ∃ p, Entry.txBegin x p ∈ L

theorem scan_snoc (L : List Entry) (e : Entry) : scan (L ++ [e]) = scanStep (scan L) e := by
  simp [scan, List.foldl_append]

theorem scan_nil : scan [] = {} := rfl

theorem pushVote_phase (shard : Nat) (v : VoteKind) (ip : InProg) : (pushVote shard v ip).phase = ip.phase := by
  unfold pushVote; split <;> rfl

theorem mem_scanStep (s : Scan) (e : Entry) (x : Nat) (ip : InProg) (h : (x, ip) ∈ (scanStep s e).inProgress) :
    (∃ p, e = Entry.txBegin x p ∧ ip = ⟨p, [], .preparing⟩)
    ∨ ∃ ip0, (x, ip0) ∈ s.inProgress ∧
        (ip = ip0 ∨ (∃ sh v, e = Entry.prepareVote x sh v ∧ ip = pushVote sh v ip0)
          ∨ ∃ f t, e = Entry.phaseChange x f t ∧ ip = { ip0 with phase := t }) := by
  cases e with
  | txBegin tx parts =>
    rcases (mem_mInsert _ _ _ _ _).mp h with ⟨rfl, rfl⟩ | ⟨h, _⟩
    · exact Or.inl ⟨parts, rfl, rfl⟩
    · exact Or.inr ⟨ip, h, Or.inl rfl⟩
  | prepareVote tx shard v =>
    obtain ⟨i0, hm, rfl⟩ := (mem_mModify _ _ _ _ _).mp h
    refine Or.inr ⟨i0, hm, ?_⟩
    split
    · rename_i hx; subst hx; exact Or.inr (Or.inl ⟨shard, v, rfl, rfl⟩)
    · exact Or.inl rfl
  | phaseChange tx f t =>
    simp only [scanStep, mem_mModify] at h
    obtain ⟨i0, hm, rfl⟩ := h
    refine Or.inr ⟨i0, hm, ?_⟩
    split
    · rename_i hx; subst hx; exact Or.inr (Or.inr ⟨f, t, rfl, rfl⟩)
    · exact Or.inl rfl
  | txComplete tx o => exact Or.inr ⟨ip, ((mem_mErase _ _ _ _).mp h).1, Or.inl rfl⟩
  | lockRelease | allLocksReleased | abortIntent => exact Or.inr ⟨ip, h, Or.inl rfl⟩

theorem keys_scanStep (s : Scan) (e : Entry) (x : Nat) :
    x ∈ mKeys (scanStep s e).inProgress → x ∈ mKeys s.inProgress ∨ ∃ p, e = Entry.txBegin x p := by
  intro h
  obtain ⟨⟨y, ip⟩, hm, rfl⟩ := List.mem_map.mp h
  rcases mem_scanStep _ _ _ _ hm with ⟨p, he, _⟩ | ⟨ip0, h0, _⟩
  · exact Or.inr ⟨p, he⟩
  · exact Or.inl (mem_keys_of_mem _ _ _ h0)

/-- no transaction is both in progress and completed in the eyes of the scan -/
def Q (L : List Entry) : Prop := ∀ x ∈ mKeys (scan L).inProgress, ¬ Completed L x

/-- ... and that holds for every prefix of the log (so it survives any crash) -/
def PQ (L : List Entry) : Prop := ∀ k, Q (L.take k)

theorem Q_snoc (L : List Entry) (e : Entry) (hq : Q L)
    (hb : ∀ x p, e = Entry.txBegin x p → ¬ Completed L x) : Q (L ++ [e]) := by
  rintro x hx ⟨o, ho⟩
  rw [scan_snoc] at hx
  rcases List.mem_append.mp ho with hL | he
  · rcases keys_scanStep _ _ _ hx with h | ⟨p, rfl⟩
    · exact hq x h ⟨o, hL⟩
    · exact hb x p rfl ⟨o, hL⟩
  · cases List.mem_singleton.mp he
    exact ((mem_mKeys_mErase _ _ _).mp hx).2 rfl

theorem PQ_nil : PQ [] := by
  intro k x hx; rw [List.take_nil] at hx; cases hx

theorem PQ_take (L : List Entry) (k : Nat) (h : PQ L) : PQ (L.take k) :=
  prefixes_take h k

theorem PQ_snoc (L : List Entry) (e : Entry) (h : PQ L)
    (hb : ∀ x p, e = Entry.txBegin x p → ¬ Completed L x) : PQ (L ++ [e]) :=
  prefixes_snoc h (Q_snoc L e (by simpa using h L.length) hb)

def NoBegin (es : List Entry) : Prop := ∀ e ∈ es, ∀ x p, e ≠ Entry.txBegin x p

theorem PQ_append_noBegin (L es : List Entry) (h : PQ L) (hn : NoBegin es) : PQ (L ++ es) :=
  append_keeps (ok := fun e => ∀ x p, e ≠ Entry.txBegin x p)
    (fun L e he hL => PQ_snoc L e hL (fun x p h' => absurd h' (he x p))) L es hn h

/-- records the in-progress part of the scan does not look at -/
def Inert : Entry → Prop
  | .lockRelease _ _ => True
  | .allLocksReleased _ => True
  | .abortIntent _ _ _ => True
  | _ => False

/-- records that cannot make the scan show a transaction as Prepared -/
def Harmless (e : Entry) : Prop := ∀ y f, e ≠ Entry.phaseChange y f .prepared

def NotComplete (e : Entry) : Prop := ∀ y o, e ≠ Entry.txComplete y o

theorem harmless_of_inert (e : Entry) (h : Inert e) : Harmless e := by
  intro y f he; subst he; exact h

theorem notComplete_of_inert (e : Entry) (h : Inert e) : NotComplete e := by
  intro y o he; subst he; exact h

theorem noBegin_of_inert {es : List Entry} (h : ∀ e ∈ es, Inert e) : NoBegin es := by
  intro e he x p hx; subst hx; exact h _ he

theorem inert_releases (id : Nat) (hs : List Nat) :
    ∀ e ∈ hs.map (fun h => Entry.lockRelease id h) ++ [Entry.allLocksReleased id], Inert e := by
  intro e he
  rcases List.mem_append.mp he with he | he
  · obtain ⟨a, _, rfl⟩ := List.mem_map.mp he; trivial
  · cases List.mem_singleton.mp he; trivial

theorem inert_intents (pa : List (Nat × (String × List Nat))) :
    ∀ e ∈ pa.map (fun p => Entry.abortIntent p.1 p.2.1 p.2.2), Inert e := by
  intro e he
  obtain ⟨q, _, rfl⟩ := List.mem_map.mp he; trivial

theorem scan_phase_logged (L : List Entry) :
    ∀ x ip, (x, ip) ∈ (scan L).inProgress → ip.phase ≠ .preparing →
      ∃ f t, Entry.phaseChange x f t ∈ L := by
  induction L using snoc_induction with
  | hnil => intro x ip h; cases h
  | hsnoc L e ih =>
    intro x ip hm hp
    rw [scan_snoc] at hm
    have lift : ∀ ip0, (x, ip0) ∈ (scan L).inProgress → ip0.phase ≠ .preparing →
        ∃ f t, Entry.phaseChange x f t ∈ L ++ [e] :=
      fun ip0 h0 hp0 => (ih x ip0 h0 hp0).imp fun f h => h.imp fun t h => List.mem_append_left _ h
    rcases mem_scanStep _ _ _ _ hm with ⟨p, _, rfl⟩ | ⟨ip0, h0, rfl | ⟨sh, v, _, rfl⟩ | ⟨f, t, rfl, rfl⟩⟩
    · exact absurd rfl hp
    · exact lift _ h0 hp
    · exact lift _ h0 (pushVote_phase sh v ip0 ▸ hp)
    · exact ⟨f, t, List.mem_append_right _ (List.mem_singleton.mpr rfl)⟩

theorem nodup_scan (L : List Entry) : (mKeys (scan L).inProgress).Nodup := by
  induction L using snoc_induction with
  | hnil => simp [scan_nil, mKeys]
  | hsnoc L e ih =>
    rw [scan_snoc]
    cases e with
    | txBegin tx parts => exact nodup_mInsert _ _ _ ih
    | prepareVote | phaseChange => simp only [scanStep, mKeys_mModify]; exact ih
    | txComplete tx o => exact nodup_mErase _ _ ih
    | lockRelease | allLocksReleased | abortIntent => exact ih

theorem scan_votes_one_per_shard (L : List Entry) :
    ∀ x ip, (x, ip) ∈ (scan L).inProgress → (mKeys ip.votes).Nodup := by
  induction L using snoc_induction with
  | hnil => intro x ip h; cases h
  | hsnoc L e ih =>
    intro x ip hm
    rw [scan_snoc] at hm
    rcases mem_scanStep _ _ _ _ hm with ⟨p, _, rfl⟩ | ⟨ip0, h0, rfl | ⟨sh, v, _, rfl⟩ | ⟨f, t, _, rfl⟩⟩
    · exact List.nodup_nil
    · exact ih x _ h0
    · have hn := ih x ip0 h0
      unfold pushVote
      split
      · rename_i hc
        have hnone : sh ∉ mKeys ip0.votes := fun hin =>
          mLookup_ne_none_of_mem_keys sh ip0.votes hin (Option.isNone_iff_eq_none.mp hc.2)
        simp only [mKeys, List.map_append, List.map_cons, List.map_nil] at hn hnone ⊢
        exact List.nodup_append.mpr ⟨hn, by simp, by
          intro a ha b hb; cases List.mem_singleton.mp hb; intro hab; subst hab; exact hnone ha⟩
      · exact hn
    · exact ih x ip0 h0

theorem mem_classify (ip : List (Nat × InProg)) (ph : Phase) (r : RecTx) :
    r ∈ classify ip ph ↔ ∃ i, (r.tx, i) ∈ ip ∧ i.phase = ph ∧ r.parts = i.parts ∧ r.votes = i.votes := by
  simp only [classify, List.mem_map, List.mem_filter, decide_eq_true_eq]
  constructor
  · rintro ⟨p, ⟨hp, hph⟩, rfl⟩; exact ⟨p.2, hp, hph, rfl, rfl⟩
  · rintro ⟨i, hi, hph, h1, h2⟩
    refine ⟨(r.tx, i), ⟨hi, hph⟩, ?_⟩
    cases r; simp_all

def Decided (p : Phase) : Prop := p = .prepared ∨ p = .committing ∨ p = .aborting

structure Inv (c : Coord) : Prop where
  /-- a transaction whose completion is in the log is not pending -/
  pendingOpen : ∀ x ∈ mKeys c.pending, ¬ Completed c.log x
  /-- the log never holds two different outcomes for one transaction -/
  oneOutcome : ∀ x o o', Entry.txComplete x o ∈ c.log → Entry.txComplete x o' ∈ c.log → o = o'
  scanOK : PQ c.log

theorem Inv_fresh (cfg : Cfg) : Inv { cfg := cfg } where
  pendingOpen := by intro x hx; simp [mKeys] at hx
  oneOutcome := by intro x o o' h; simp at h
  scanOK := PQ_nil

theorem walApp_cases {sz : Entry → Nat} {cfg : Cfg} {log l : List Entry} {e : Entry}
    (h : walApp sz cfg log e = some l) : l = log ++ [e] ∨ l = [e] := by
  unfold walApp at h
  split at h
  · left; cases h; rfl
  · split at h
    · split at h
      · right; cases h; rfl
      · cases h
    · left; cases h; rfl

theorem walApp_noRotate {sz : Entry → Nat} {cfg : Cfg} {log l : List Entry} {e : Entry}
    (hn : cfg.NoRotate) (h : walApp sz cfg log e = some l) : l = log ++ [e] := by
  unfold walApp at h
  split at h
  · cases h; rfl
  · rename_i cap hc
    split at h
    · split at h
      · rename_i hr
        rcases hn with hn | hn
        · rw [hn] at hc; cases hc
        · rw [hn] at hr; cases hr
      · cases h
    · cases h; rfl

theorem walApp_noCap {sz : Entry → Nat} {cfg : Cfg} (log : List Entry) (e : Entry)
    (h : cfg.walCap = none) : walApp sz cfg log e = some (log ++ [e]) := by
  unfold walApp; rw [h]

theorem walTry_noCap {sz : Entry → Nat} {cfg : Cfg} (log : List Entry) (e : Entry)
    (h : cfg.walCap = none) : walTry sz cfg log e = log ++ [e] := by
  unfold walTry; rw [walApp_noCap log e h]; rfl

theorem walTryAll_noCap {sz : Entry → Nat} {cfg : Cfg} (log es : List Entry)
    (h : cfg.walCap = none) : walTryAll sz cfg log es = log ++ es := by
  unfold walTryAll
  induction es generalizing log with
  | nil => simp
  | cons e es ih => simp only [List.foldl_cons, walTry_noCap log e h, ih]; simp

theorem mem_walApp {sz : Entry → Nat} {cfg : Cfg} {log l : List Entry} {e : Entry}
    (h : walApp sz cfg log e = some l) : (∀ x ∈ l, x ∈ log ∨ x = e) ∧ e ∈ l := by
  rcases walApp_cases h with rfl | rfl
  · exact ⟨fun x hx => by simpa using hx, by simp⟩
  · exact ⟨fun x hx => Or.inr (by simpa using hx), by simp⟩

theorem walTry_cases (sz : Entry → Nat) (cfg : Cfg) (log : List Entry) (e : Entry) :
    walTry sz cfg log e = log ++ [e] ∨ walTry sz cfg log e = [e] ∨ walTry sz cfg log e = log := by
  unfold walTry
  cases h : walApp sz cfg log e with
  | none => right; right; rfl
  | some l =>
    rcases walApp_cases h with rfl | rfl
    · left; rfl
    · right; left; rfl

theorem walTry_noRotate (sz : Entry → Nat) {cfg : Cfg} (hn : cfg.NoRotate) (log : List Entry) (e : Entry) :
    walTry sz cfg log e = log ++ [e] ∨ walTry sz cfg log e = log := by
  unfold walTry
  cases h : walApp sz cfg log e with
  | none => right; rfl
  | some l => left; rw [walApp_noRotate hn h]; rfl

theorem walTryAll_noRotate (sz : Entry → Nat) {cfg : Cfg} (hn : cfg.NoRotate) (log es : List Entry) :
    ∃ es', (∀ e ∈ es', e ∈ es) ∧ walTryAll sz cfg log es = log ++ es' := by
  unfold walTryAll
  induction es generalizing log with
  | nil => exact ⟨[], by simp, by simp⟩
  | cons e es ih =>
    simp only [List.foldl_cons]
    rcases walTry_noRotate sz hn log e with h | h <;> rw [h]
    · obtain ⟨es', h1, h2⟩ := ih (log ++ [e])
      exact ⟨e :: es', by intro a ha; simp at ha; rcases ha with rfl | ha <;> simp [h1 _, *], by rw [h2]; simp⟩
    · obtain ⟨es', h1, h2⟩ := ih log
      exact ⟨es', fun a ha => by simp [h1 a ha], h2⟩

theorem walTryAll_snoc (sz : Entry → Nat) (cfg : Cfg) (log es : List Entry) (e : Entry) :
    walTryAll sz cfg log (es ++ [e]) = walTry sz cfg (walTryAll sz cfg log es) e := by
  simp only [walTryAll, List.foldl_append, List.foldl_cons, List.foldl_nil]

/-- A property of logs is kept by an append that went through if it is kept by adding the record
    at the end and holds of the record alone (the file was rotated). -/
theorem walApp_keeps {P : List Entry → Prop} {sz : Entry → Nat} {cfg : Cfg} {log l : List Entry} {e : Entry}
    (ha : walApp sz cfg log e = some l) (hsnoc : P (log ++ [e])) (hone : P [e]) : P l := by
  rcases walApp_cases ha with rfl | rfl
  · exact hsnoc
  · exact hone

theorem walTryAll_keeps {P : List Entry → Prop} {ok : Entry → Prop}
    (hsnoc : ∀ L e, ok e → P L → P (L ++ [e])) (hone : ∀ e, ok e → P [e])
    (sz : Entry → Nat) (cfg : Cfg) (log es : List Entry) (hes : ∀ e ∈ es, ok e) (h : P log) :
    P (walTryAll sz cfg log es) := by
  unfold walTryAll
  induction es generalizing log with
  | nil => exact h
  | cons e es ih =>
    refine ih _ (fun e' he' => hes e' (List.mem_cons_of_mem _ he')) ?_
    have he := hes e (List.mem_cons_self ..)
    rcases walTry_cases sz cfg log e with h' | h' | h' <;> rw [h']
    · exact hsnoc log e he h
    · exact hone e he
    · exact h

theorem mem_walTryAll (sz : Entry → Nat) (cfg : Cfg) (log es : List Entry) :
    ∀ x ∈ walTryAll sz cfg log es, x ∈ log ∨ x ∈ es :=
  walTryAll_keeps (P := fun L => ∀ x ∈ L, x ∈ log ∨ x ∈ es) (ok := (· ∈ es))
    (fun L e he hL x hx => (List.mem_append.mp hx).elim (hL x) (fun h => Or.inr (List.mem_singleton.mp h ▸ he)))
    (fun e he x hx => Or.inr (List.mem_singleton.mp hx ▸ he)) sz cfg log es (fun _ h => h) (fun _ h => Or.inl h)

theorem PQ_single (e : Entry) : PQ [e] := by
  have : PQ ([] ++ [e]) := by
    apply PQ_snoc [] e PQ_nil
    intro x p _ hc
    obtain ⟨o, ho⟩ := hc
    simp at ho
  simpa using this

theorem PQ_walApp {sz : Entry → Nat} {cfg : Cfg} {log l : List Entry} {e : Entry} (h : PQ log)
    (hb : ∀ x p, e = Entry.txBegin x p → ¬ Completed log x) (ha : walApp sz cfg log e = some l) : PQ l :=
  walApp_keeps ha (PQ_snoc log e h hb) (PQ_single e)

theorem PQ_walTryAll (sz : Entry → Nat) (cfg : Cfg) (log es : List Entry) (h : PQ log)
    (hn : NoBegin es) : PQ (walTryAll sz cfg log es) :=
  walTryAll_keeps (ok := fun e => ∀ x p, e ≠ Entry.txBegin x p)
    (fun L e he hL => PQ_snoc L e hL (fun x p h' => absurd h' (he x p))) (fun e _ => PQ_single e)
    sz cfg log es hn h

/-- effect of a call whose new log holds only old records and records of `es` (none of them a
    TxBegin — that is `hpq`); every TxComplete in `es` is for a transaction that was pending, with
    a single outcome, and that transaction is not pending afterwards -/
theorem Inv_of (c c' : Coord) (es : List Entry) (h : Inv c)
    (hsub : ∀ e ∈ c'.log, e ∈ c.log ∨ e ∈ es) (hpq : PQ c'.log)
    (hk : ∀ x ∈ mKeys c'.pending, x ∈ mKeys c.pending ∧ ∀ o, Entry.txComplete x o ∉ es)
    (hc : ∀ x o, Entry.txComplete x o ∈ es →
            x ∈ mKeys c.pending ∧ ∀ o', Entry.txComplete x o' ∈ es → o' = o) : Inv c' where
  pendingOpen := by
    intro x hx ⟨o, ho⟩
    rcases hsub _ ho with ho | ho
    · exact h.pendingOpen x (hk x hx).1 ⟨o, ho⟩
    · exact (hk x hx).2 o ho
  oneOutcome := by
    intro x o o' h1 h2
    rcases hsub _ h1 with h1 | h1 <;> rcases hsub _ h2 with h2 | h2
    · exact h.oneOutcome x o o' h1 h2
    · exact absurd ⟨o, h1⟩ (h.pendingOpen x (hc x o' h2).1)
    · exact absurd ⟨o', h2⟩ (h.pendingOpen x (hc x o h1).1)
    · exact ((hc x o h1).2 o' h2).symm
  scanOK := hpq

theorem Inv_mem (c c' : Coord) (h : Inv c) (hlog : c'.log = c.log)
    (hk : ∀ x ∈ mKeys c'.pending, x ∈ mKeys c.pending) : Inv c' :=
  Inv_of c c' [] h (by rw [hlog]; intro e he; exact Or.inl he) (by rw [hlog]; exact h.scanOK)
    (fun x hx => ⟨hk x hx, by simp⟩) (by intro x o ho; simp at ho)

/-- `begin`: refused (limit reached, or the TxBegin could not be written) with nothing changed, or
    logged and then pending. -/
inductive BeginOutcome (sz : Entry → Nat) (c : Coord) (id : Nat) (parts : List Nat) (now : Nat) :
    Coord × Res → Prop
  | refused {r : Res} (hr : r ≠ .ok) : BeginOutcome sz c id parts now (c, r)
  | begun {l : List Entry} (ha : walApp sz c.cfg c.log (.txBegin id parts) = some l) :
      BeginOutcome sz c id parts now
        ({ c with log := l
                  pending := mInsert id ⟨parts, .preparing, [], now, c.cfg.prepareTimeoutMs⟩ c.pending }, .ok)

theorem begin_outcome (sz : Entry → Nat) (c : Coord) (id : Nat) (parts : List Nat) (now : Nat) :
    BeginOutcome sz c id parts now (begin sz c id parts now) := by
  unfold begin
  split
  · exact .refused nofun
  · cases ha : walApp sz c.cfg c.log (.txBegin id parts) with
    | none => exact .refused nofun
    | some l => exact .begun ha

section BeginOutcome
variable {sz : Entry → Nat} {c : Coord} {id : Nat} {parts : List Nat} {now : Nat} {r : Coord × Res}

theorem BeginOutcome.cfg (ho : BeginOutcome sz c id parts now r) : r.1.cfg = c.cfg := by
  cases ho <;> rfl

theorem BeginOutcome.mem_log (ho : BeginOutcome sz c id parts now r) (e : Entry) (he : e ∈ r.1.log) :
    e ∈ c.log ∨ e = Entry.txBegin id parts := by
  cases ho with
  | refused => exact Or.inl he
  | begun ha => exact (mem_walApp ha).1 e he

theorem BeginOutcome.appends (ho : BeginOutcome sz c id parts now r) (hn : c.cfg.NoRotate) :
    ∃ es, r.1.log = c.log ++ es ∧ ∀ e ∈ es, Harmless e := by
  cases ho with
  | refused => exact ⟨[], (List.append_nil _).symm, fun _ h => nomatch h⟩
  | begun ha =>
    refine ⟨_, walApp_noRotate hn ha, fun e he => ?_⟩
    cases List.mem_singleton.mp he; intro y f h; cases h

theorem BeginOutcome.inv (ho : BeginOutcome sz c id parts now r) (hi : Inv c) (hfresh : ¬ Completed c.log id) :
    Inv r.1 := by
  have old : ∀ {x o}, Entry.txComplete x o ∈ r.1.log → Entry.txComplete x o ∈ c.log := by
    intro x o h
    rcases ho.mem_log _ h with h | h
    · exact h
    · cases h
  refine ⟨?_, fun x o o' h1 h2 => hi.oneOutcome x o o' (old h1) (old h2), ?_⟩
  · rintro x hx ⟨o, ho'⟩
    cases ho with
    | refused => exact hi.pendingOpen x hx ⟨o, ho'⟩
    | begun =>
      rcases (mem_mKeys_mInsert _ _ _ _).mp hx with rfl | ⟨hx, _⟩
      · exact hfresh ⟨o, old ho'⟩
      · exact hi.pendingOpen x hx ⟨o, old ho'⟩
  · cases ho with
    | refused => exact hi.scanOK
    | begun ha => exact PQ_walApp hi.scanOK (fun x p he => by cases he; exact hfresh) ha

end BeginOutcome

/-- What `recordVote sz c id shard v _` can return.  `l` is the log with the vote record, which is
    written before the vote is validated; `collecting` covers both "votes still missing" and "the
    PhaseChange could not be written", `aborting` both the cross-shard conflict and a NO vote. -/
inductive VoteOutcome (sz : Entry → Nat) (c : Coord) (id shard : Nat) (v : Vote) : Coord × Res → Prop
  | unlogged (ha : walApp sz c.cfg c.log (.prepareVote id shard v.kind) = none) :
      VoteOutcome sz c id shard v (c, .phase none)
  | unknown {l} (ha : walApp sz c.cfg c.log (.prepareVote id shard v.kind) = some l)
      (hl : mLookup id c.pending = none) : VoteOutcome sz c id shard v ({ c with log := l }, .notFound)
  | wrongPhase {l tx} (ha : walApp sz c.cfg c.log (.prepareVote id shard v.kind) = some l)
      (hl : mLookup id c.pending = some tx) (hp : tx.phase ≠ .preparing) :
      VoteOutcome sz c id shard v ({ c with log := l }, .wrongPhase tx.phase)
  | duplicate {l tx} (ha : walApp sz c.cfg c.log (.prepareVote id shard v.kind) = some l)
      (hl : mLookup id c.pending = some tx) (hp : tx.phase = .preparing)
      (hd : (mLookup shard tx.votes).isSome = true) :
      VoteOutcome sz c id shard v ({ c with log := l }, .duplicate)
  | collecting {l tx} (ha : walApp sz c.cfg c.log (.prepareVote id shard v.kind) = some l)
      (hl : mLookup id c.pending = some tx) (hp : tx.phase = .preparing)
      (hd : (mLookup shard tx.votes).isSome = false) :
      VoteOutcome sz c id shard v
        ({ c with log := l, pending := mInsert id { tx with votes := mInsert shard v tx.votes } c.pending },
         .phase none)
  | aborting {l tx reason} (ha : walApp sz c.cfg c.log (.prepareVote id shard v.kind) = some l)
      (hl : mLookup id c.pending = some tx) (hp : tx.phase = .preparing)
      (hd : (mLookup shard tx.votes).isSome = false) :
      VoteOutcome sz c id shard v
        ({ c with log := l
                  pending := mInsert id { tx with votes := mInsert shard v tx.votes, phase := .aborting } c.pending
                  pendingAborts := c.pendingAborts ++ [(id, (reason, tx.parts))] },
         .phase (some .aborting))
  | prepared {l l2 tx} (ha : walApp sz c.cfg c.log (.prepareVote id shard v.kind) = some l)
      (hl : mLookup id c.pending = some tx) (hp : tx.phase = .preparing)
      (hd : (mLookup shard tx.votes).isSome = false)
      (hall : ({ tx with votes := mInsert shard v tx.votes } : Tx).allVoted = true)
      (hyes : ({ tx with votes := mInsert shard v tx.votes } : Tx).allYes = true)
      (ha2 : walApp sz c.cfg l (.phaseChange id .preparing .prepared) = some l2) :
      VoteOutcome sz c id shard v
        ({ c with log := l2
                  pending := mInsert id { tx with votes := mInsert shard v tx.votes, phase := .prepared } c.pending },
         .phase (some .prepared))

theorem recordVote_outcome (sz : Entry → Nat) (c : Coord) (id shard : Nat) (v : Vote) (x : Bool) :
    VoteOutcome sz c id shard v (recordVote sz c id shard v x) := by
  unfold recordVote
  cases ha : walApp sz c.cfg c.log (.prepareVote id shard v.kind) with
  | none => exact .unlogged ha
  | some l =>
    dsimp only
    cases hl : mLookup id c.pending with
    | none => exact .unknown ha hl
    | some tx =>
      dsimp only
      by_cases hp : tx.phase = .preparing
      · rw [if_neg (fun h => h hp)]
        by_cases hd : (mLookup shard tx.votes).isSome = true
        · rw [if_pos hd]; exact .duplicate ha hl hp hd
        · rw [if_neg hd]
          have hd := Bool.eq_false_iff.mpr hd
          split
          · split
            · split
              · exact .aborting ha hl hp hd
              · split
                · exact .collecting ha hl hp hd
                · exact .prepared ha hl hp hd ‹_› ‹_› ‹_›
            · exact .aborting ha hl hp hd
          · exact .collecting ha hl hp hd
      · rw [if_pos hp]; exact .wrongPhase ha hl hp

section VoteOutcome
variable {sz : Entry → Nat} {c : Coord} {id shard : Nat} {v : Vote} {r : Coord × Res}

theorem VoteOutcome.cfg (ho : VoteOutcome sz c id shard v r) : r.1.cfg = c.cfg := by
  cases ho <;> rfl

theorem VoteOutcome.mem_log (ho : VoteOutcome sz c id shard v r) (e : Entry) (he : e ∈ r.1.log) :
    e ∈ c.log ∨ e = Entry.prepareVote id shard v.kind ∨ e = Entry.phaseChange id .preparing .prepared := by
  cases ho with
  | unlogged => exact Or.inl he
  | unknown ha | wrongPhase ha | duplicate ha | collecting ha | aborting ha =>
    exact ((mem_walApp ha).1 e he).imp_right Or.inl
  | prepared ha _ _ _ _ _ ha2 =>
    rcases (mem_walApp ha2).1 e he with h | h
    · exact ((mem_walApp ha).1 e h).imp_right Or.inl
    · exact Or.inr (Or.inr h)

theorem VoteOutcome.keys (ho : VoteOutcome sz c id shard v r) : ∀ y ∈ mKeys r.1.pending, y ∈ mKeys c.pending := by
  cases ho with
  | unlogged | unknown | wrongPhase | duplicate => exact fun _ h => h
  | collecting _ hl | aborting _ hl | prepared _ hl =>
    exact fun y hy => keys_insert_existing _ _ _ _ _ hl hy

theorem VoteOutcome.pq (ho : VoteOutcome sz c id shard v r) (h : PQ c.log) : PQ r.1.log := by
  have vote : ∀ {l}, walApp sz c.cfg c.log (.prepareVote id shard v.kind) = some l → PQ l :=
    fun ha => PQ_walApp h (fun _ _ he => by cases he) ha
  cases ho with
  | unlogged => exact h
  | unknown ha | wrongPhase ha | duplicate ha | collecting ha | aborting ha => exact vote ha
  | prepared ha _ _ _ _ _ ha2 =>
    exact PQ_walApp (vote ha) (fun _ _ he => by cases he) ha2

theorem VoteOutcome.log_grows (ho : VoteOutcome sz c id shard v r) (hn : c.cfg.NoRotate) : ∃ es, r.1.log = c.log ++ es := by
  cases ho with
  | unlogged => exact ⟨[], by simp⟩
  | unknown ha | wrongPhase ha | duplicate ha | collecting ha | aborting ha =>
    exact ⟨_, walApp_noRotate hn ha⟩
  | prepared ha _ _ _ _ _ ha2 =>
    refine ⟨[Entry.prepareVote id shard v.kind, Entry.phaseChange id .preparing .prepared], ?_⟩
    rw [show _ = _ from walApp_noRotate (cfg := c.cfg) hn ha2, walApp_noRotate hn ha, List.append_assoc]; rfl

theorem VoteOutcome.inv (ho : VoteOutcome sz c id shard v r) (hi : Inv c) : Inv r.1 :=
  Inv_of c r.1 [Entry.prepareVote id shard v.kind, Entry.phaseChange id .preparing .prepared] hi
    (fun e he => (ho.mem_log e he).imp_right (by simp)) (ho.pq hi.scanOK)
    (fun y hy => ⟨ho.keys y hy, by simp⟩) (by simp)

end VoteOutcome

/-- `commit` and `abort` are one call: a PhaseChange to `ph`, the TxComplete with outcome `o`, then
    best-effort records `trail tx`.  Nothing changes (not found, wrong phase, the PhaseChange could
    not be written); or the PhaseChange is in the log and in memory and the TxComplete could not
    be written; or the call went through.  `hg`: `commit` only starts from Prepared; `htr`: the
    in-progress part of the scan ignores the trailing records. -/
inductive EndOutcome (sz : Entry → Nat) (c : Coord) (id : Nat) (ph : Phase) (o : Outcome)
    (trail : Tx → List Entry) : Coord × Res → Prop
  | refused {r : Res} (hr : r ≠ .ok) : EndOutcome sz c id ph o trail (c, r)
  | halfway {tx : Tx} {l1 : List Entry} (hl : mLookup id c.pending = some tx)
      (hg : ph = .committing → tx.phase = .prepared)
      (ha1 : walApp sz c.cfg c.log (.phaseChange id tx.phase ph) = some l1)
      (ha2 : walApp sz c.cfg l1 (.txComplete id o) = none) :
      EndOutcome sz c id ph o trail
        ({ c with log := l1, pending := mInsert id { tx with phase := ph } c.pending }, .walErr)
  | done {tx : Tx} {l1 l2 : List Entry} (hl : mLookup id c.pending = some tx)
      (ha1 : walApp sz c.cfg c.log (.phaseChange id tx.phase ph) = some l1)
      (ha2 : walApp sz c.cfg l1 (.txComplete id o) = some l2) (htr : ∀ e ∈ trail tx, Inert e) :
      EndOutcome sz c id ph o trail
        ({ c with log := walTryAll sz c.cfg l2 (trail tx)
                  locks := releaseAll (voteHandles tx.votes) c.locks
                  pending := mErase id c.pending }, .ok)

theorem commit_outcome (sz : Entry → Nat) (c : Coord) (id : Nat) :
    EndOutcome sz c id .committing .committed
      (fun tx => (voteHandles tx.votes).map (fun h => Entry.lockRelease id h) ++ [Entry.allLocksReleased id])
      (commit sz c id) := by
  unfold commit
  cases hl : mLookup id c.pending with
  | none => exact .refused nofun
  | some tx =>
    dsimp only
    by_cases hp : tx.phase = .prepared
    · rw [if_neg (fun h => h hp)]
      cases ha1 : walApp sz c.cfg c.log (.phaseChange id .prepared .committing) with
      | none => exact .refused nofun
      | some l1 =>
        dsimp only
        rw [← hp] at ha1
        cases ha2 : walApp sz c.cfg l1 (.txComplete id .committed) with
        | none => exact .halfway hl (fun _ => hp) ha1 ha2
        | some l2 => dsimp only; rw [← walTryAll_snoc]; exact .done hl ha1 ha2 (inert_releases id _)
    · rw [if_pos hp]; exact .refused nofun

theorem abort_outcome (sz : Entry → Nat) (c : Coord) (id : Nat) :
    EndOutcome sz c id .aborting .aborted (fun _ => []) (abort sz c id) := by
  unfold abort
  cases hl : mLookup id c.pending with
  | none => exact .refused nofun
  | some tx =>
    dsimp only
    cases ha1 : walApp sz c.cfg c.log (.phaseChange id tx.phase .aborting) with
    | none => exact .refused nofun
    | some l1 =>
      dsimp only
      cases ha2 : walApp sz c.cfg l1 (.txComplete id .aborted) with
      | none => exact .halfway hl nofun ha1 ha2
      | some l2 => exact .done hl ha1 ha2 (fun _ h => (List.not_mem_nil h).elim)

section EndOutcome
variable {sz : Entry → Nat} {c : Coord} {id : Nat} {ph : Phase} {o : Outcome} {trail : Tx → List Entry}
  {r : Coord × Res}

theorem EndOutcome.cfg (ho : EndOutcome sz c id ph o trail r) : r.1.cfg = c.cfg := by
  cases ho <;> rfl

theorem EndOutcome.of_ok (ho : EndOutcome sz c id ph o trail r) (hok : r.2 = .ok) :
    ∃ tx, mLookup id c.pending = some tx ∧ r.1.locks = releaseAll (voteHandles tx.votes) c.locks := by
  cases ho with
  | refused hr => exact absurd hok hr
  | halfway => cases hok
  | done hl => exact ⟨_, hl, rfl⟩

theorem EndOutcome.mem_log (ho : EndOutcome sz c id ph o trail r) (e : Entry) (he : e ∈ r.1.log) :
    e ∈ c.log ∨ ∃ tx, mLookup id c.pending = some tx ∧
      (e = Entry.phaseChange id tx.phase ph ∨ e = Entry.txComplete id o ∨ Inert e) := by
  cases ho with
  | refused => exact Or.inl he
  | halfway hl _ ha1 => exact ((mem_walApp ha1).1 e he).imp_right (fun h => ⟨_, hl, Or.inl h⟩)
  | done hl ha1 ha2 htr =>
    rcases mem_walTryAll _ _ _ _ e he with h | h
    · rcases (mem_walApp ha2).1 e h with h | h
      · exact ((mem_walApp ha1).1 e h).imp_right (fun h => ⟨_, hl, Or.inl h⟩)
      · exact Or.inr ⟨_, hl, Or.inr (Or.inl h)⟩
    · exact Or.inr ⟨_, hl, Or.inr (Or.inr (htr e h))⟩

theorem complete_mem_written {id : Nat} {f ph : Phase} {o : Outcome} {tr : List Entry} (htr : ∀ e ∈ tr, Inert e)
    {y : Nat} {o' : Outcome} (h : Entry.txComplete y o' ∈ Entry.phaseChange id f ph :: Entry.txComplete id o :: tr) :
    y = id ∧ o' = o := by
  rcases List.mem_cons.mp h with h | h
  · cases h
  · rcases List.mem_cons.mp h with h | h
    · cases h; exact ⟨rfl, rfl⟩
    · exact (htr _ h).elim

theorem EndOutcome.inv (ho : EndOutcome sz c id ph o trail r) (hi : Inv c) : Inv r.1 := by
  have hpq1 : ∀ {tx l1}, walApp sz c.cfg c.log (.phaseChange id tx ph) = some l1 → PQ l1 :=
    fun ha1 => PQ_walApp hi.scanOK (fun _ _ he => by cases he) ha1
  cases ho with
  | refused => exact hi
  | @halfway tx l1 hl _ ha1 _ =>
    -- TxComplete could not be written: `ph` in memory, the PhaseChange in the log
    exact Inv_of c _ [Entry.phaseChange id tx.phase ph] hi
      (fun e he => ((mem_walApp ha1).1 e he).imp_right List.mem_singleton.mpr) (hpq1 ha1)
      (fun y hy => ⟨keys_insert_existing _ _ _ _ _ hl hy, by simp⟩) (by simp)
  | @done tx l1 l2 hl ha1 ha2 htr =>
    refine Inv_of c _ (Entry.phaseChange id tx.phase ph :: Entry.txComplete id o :: trail tx) hi ?_ ?_ ?_ ?_
    · intro e he
      rcases mem_walTryAll _ _ _ _ e he with h | h
      · rcases (mem_walApp ha2).1 e h with h | h
        · exact ((mem_walApp ha1).1 e h).imp_right (fun h => by simp [h])
        · exact Or.inr (by simp [h])
      · exact Or.inr (by simp [h])
    · exact PQ_walTryAll _ _ _ _ (PQ_walApp (hpq1 ha1) (fun _ _ he => by cases he) ha2) (noBegin_of_inert htr)
    · intro y hy
      have hy := (mem_mKeys_mErase _ _ _).mp hy
      exact ⟨hy.1, fun o' ho' => hy.2 (complete_mem_written htr ho').1⟩
    · intro y o' ho'
      obtain ⟨rfl, rfl⟩ := complete_mem_written htr ho'
      exact ⟨mLookup_some_mem_keys _ _ _ hl, fun o'' ho'' => (complete_mem_written htr ho'').2⟩

theorem EndOutcome.appends (ho : EndOutcome sz c id ph o trail r) (hn : c.cfg.NoRotate) (hph : ph ≠ .prepared) :
    ∃ es, r.1.log = c.log ++ es ∧ ∀ e ∈ es, Harmless e := by
  have hpc : ∀ f, Harmless (Entry.phaseChange id f ph) := fun f y f' h => hph (by cases h; rfl)
  cases ho with
  | refused => exact ⟨[], (List.append_nil _).symm, fun _ h => nomatch h⟩
  | @halfway tx l1 _ _ ha1 _ =>
    refine ⟨[Entry.phaseChange id tx.phase ph], walApp_noRotate hn ha1, fun e he => ?_⟩
    cases List.mem_singleton.mp he; exact hpc _
  | @done tx l1 l2 _ ha1 ha2 htr =>
    obtain ⟨es', hsub, h3⟩ := walTryAll_noRotate sz hn l2 (trail tx)
    refine ⟨Entry.phaseChange id tx.phase ph :: Entry.txComplete id o :: es', ?_, fun e he => ?_⟩
    · show walTryAll sz c.cfg l2 (trail tx) = _
      rw [h3, walApp_noRotate hn ha2, walApp_noRotate hn ha1]; simp
    · rcases List.mem_cons.mp he with rfl | he
      · exact hpc _
      · rcases List.mem_cons.mp he with rfl | he
        · intro y f h; cases h
        · exact harmless_of_inert e (htr e (hsub e he))

theorem EndOutcome.answer_log (ho : EndOutcome sz c id ph o trail r) (hn : c.cfg.NoRotate) :
    (r.2 = Res.ok → Entry.txComplete id o ∈ r.1.log)
    ∧ (r.2 ≠ Res.ok → ∀ x o', Entry.txComplete x o' ∈ r.1.log → Entry.txComplete x o' ∈ c.log) := by
  cases ho with
  | refused hr => exact ⟨fun h => absurd h hr, fun _ _ _ h => h⟩
  | halfway _ _ ha1 =>
    refine ⟨nofun, fun _ x o' h => ?_⟩
    rcases (mem_walApp ha1).1 _ h with h | h
    · exact h
    · cases h
  | @done tx l1 l2 _ _ ha2 =>
    refine ⟨fun _ => ?_, fun h => absurd rfl h⟩
    obtain ⟨es', _, h3⟩ := walTryAll_noRotate sz hn l2 (trail tx)
    show _ ∈ walTryAll sz c.cfg l2 (trail tx)
    rw [h3]; exact List.mem_append_left _ (mem_walApp ha2).2

end EndOutcome

/-- The call is refused and nothing changes, or the transaction leaves memory together with the
    locks of its YES votes; nothing is logged. -/
inductive DropOutcome (c : Coord) (id : Nat) : Coord × Res → Prop
  | refused {r : Res} (hr : r ≠ .ok) : DropOutcome c id (c, r)
  | dropped {tx : Tx} (hl : mLookup id c.pending = some tx) :
      DropOutcome c id
        ({ c with locks := releaseAll (voteHandles tx.votes) c.locks, pending := mErase id c.pending }, .ok)

theorem completeCommit_outcome (c : Coord) (id : Nat) : DropOutcome c id (completeCommit c id) := by
  unfold completeCommit
  cases hl : mLookup id c.pending with
  | none => exact .refused nofun
  | some tx =>
    dsimp only
    split
    · exact .refused nofun
    · exact .dropped hl

theorem completeAbort_outcome (c : Coord) (id : Nat) : DropOutcome c id (completeAbort c id) := by
  unfold completeAbort
  cases hl : mLookup id c.pending with
  | none => exact .refused nofun
  | some tx =>
    dsimp only
    split
    · exact .refused nofun
    · exact .dropped hl

theorem forceResolve_outcome (c : Coord) (id : Nat) (b : Bool) : DropOutcome c id (forceResolve c id b) := by
  unfold forceResolve
  cases hl : mLookup id c.pending with
  | none => exact .refused nofun
  | some tx =>
    dsimp only
    split
    · exact .refused nofun
    · exact .dropped hl

section DropOutcome
variable {c : Coord} {id : Nat} {r : Coord × Res}

theorem DropOutcome.cfg (ho : DropOutcome c id r) : r.1.cfg = c.cfg := by
  cases ho <;> rfl

theorem DropOutcome.log (ho : DropOutcome c id r) : r.1.log = c.log := by
  cases ho <;> rfl

theorem DropOutcome.of_ok (ho : DropOutcome c id r) (hok : r.2 = .ok) :
    ∃ tx, mLookup id c.pending = some tx ∧ r.1.locks = releaseAll (voteHandles tx.votes) c.locks := by
  cases ho with
  | refused hr => exact absurd hok hr
  | dropped hl => exact ⟨_, hl, rfl⟩

theorem DropOutcome.inv (ho : DropOutcome c id r) (hi : Inv c) :
    Inv r.1 := by
  cases ho with
  | refused => exact hi
  | dropped => exact Inv_mem c _ hi rfl (fun y hy => ((mem_mKeys_mErase _ _ _).mp hy).1)

end DropOutcome

theorem lookup_restoreAll (rs : List RecTx) (ph : Phase) (now : Nat) (p : List (Nat × Tx)) (x : Nat) :
    (∃ r ∈ rs, r.tx = x ∧ mLookup x (restoreAll rs ph now p) = some (restoreTx r ph now))
    ∨ ((∀ r ∈ rs, r.tx ≠ x) ∧ mLookup x (restoreAll rs ph now p) = mLookup x p) := by
  unfold restoreAll
  induction rs generalizing p with
  | nil => right; simp
  | cons r rs ih =>
    simp only [List.foldl_cons]
    rcases ih (mInsert r.tx (restoreTx r ph now) p) with ⟨r', hr', hx, hl⟩ | ⟨hn, hl⟩
    · left; exact ⟨r', by simp [hr'], hx, hl⟩
    · by_cases hrx : r.tx = x
      · left
        refine ⟨r, by simp, hrx, ?_⟩
        rw [hl, mLookup_mInsert]; simp [hrx]
      · right
        refine ⟨?_, ?_⟩
        · intro r' hr'
          simp only [List.mem_cons] at hr'
          rcases hr' with rfl | hr'
          · exact hrx
          · exact hn r' hr'
        · rw [hl, mLookup_mInsert]; simp [hrx]

theorem mem_restoreAll (rs : List RecTx) (ph : Phase) (now : Nat) (p : List (Nat × Tx)) (x : Nat) (tx : Tx)
    (h : (x, tx) ∈ restoreAll rs ph now p) :
    (x, tx) ∈ p ∨ ∃ r ∈ rs, r.tx = x ∧ tx = restoreTx r ph now := by
  unfold restoreAll at h
  induction rs generalizing p with
  | nil => exact Or.inl h
  | cons r rs ih =>
    simp only [List.foldl_cons] at h
    rcases ih _ h with h | ⟨r', hr', h1, h2⟩
    · rw [mem_mInsert] at h
      rcases h with ⟨rfl, rfl⟩ | ⟨h, _⟩
      · exact Or.inr ⟨r, by simp, rfl, rfl⟩
      · exact Or.inl h
    · exact Or.inr ⟨r', by simp [hr'], h1, h2⟩

theorem nodup_restoreAll (rs : List RecTx) (ph : Phase) (now : Nat) (p : List (Nat × Tx))
    (h : (mKeys p).Nodup) : (mKeys (restoreAll rs ph now p)).Nodup := by
  unfold restoreAll
  induction rs generalizing p with
  | nil => exact h
  | cons r rs ih => exact ih _ (nodup_mInsert _ _ _ h)

theorem mem_recover (c : Coord) (now x : Nat) (tx : Tx) (hm : (x, tx) ∈ (recoverFromWal c now).1.pending) :
    (x, tx) ∈ c.pending ∨ ∃ ip, (x, ip) ∈ (scan c.log).inProgress ∧ Decided ip.phase
      ∧ tx = restoreTx ⟨x, ip.parts, ip.votes⟩ ip.phase now := by
  have fin : ∀ (ph : Phase) (r : RecTx), r ∈ classify (scan c.log).inProgress ph → r.tx = x →
      tx = restoreTx r ph now → Decided ph →
      ∃ ip, (x, ip) ∈ (scan c.log).inProgress ∧ Decided ip.phase
        ∧ tx = restoreTx ⟨x, ip.parts, ip.votes⟩ ip.phase now := by
    rintro ph ⟨y, ps, vs⟩ hr rfl ht hph
    obtain ⟨i, hi, rfl, rfl, rfl⟩ := (mem_classify _ _ _).mp hr
    exact ⟨i, hi, hph, ht⟩
  rcases mem_restoreAll _ _ _ _ _ _ hm with hm | ⟨r, hr, hx, ht⟩
  · rcases mem_restoreAll _ _ _ _ _ _ hm with hm | ⟨r, hr, hx, ht⟩
    · rcases mem_restoreAll _ _ _ _ _ _ hm with hm | ⟨r, hr, hx, ht⟩
      · exact Or.inl hm
      · exact Or.inr (fin _ r hr hx ht (Or.inl rfl))
    · exact Or.inr (fin _ r hr hx ht (Or.inr (Or.inl rfl)))
  · exact Or.inr (fin _ r hr hx ht (Or.inr (Or.inr rfl)))

theorem Inv_recover (c : Coord) (now : Nat) (hi : Inv c) : Inv (recoverFromWal c now).1 where
  pendingOpen := by
    intro x hx hc
    obtain ⟨⟨y, tx⟩, hm, rfl⟩ := List.mem_map.mp hx
    rcases mem_recover c now y tx hm with h | ⟨ip, hip, _⟩
    · exact hi.pendingOpen y (mem_keys_of_mem _ _ _ h) hc
    · have := hi.scanOK c.log.length
      rw [List.take_length] at this
      exact this y (mem_keys_of_mem _ _ _ hip) hc
  oneOutcome := hi.oneOutcome
  scanOK := hi.scanOK

theorem nodup_recover (c : Coord) (now : Nat) (h : (mKeys c.pending).Nodup) :
    (mKeys (recoverFromWal c now).1.pending).Nodup :=
  nodup_restoreAll _ _ _ _ (nodup_restoreAll _ _ _ _ (nodup_restoreAll _ _ _ _ h))

theorem restart_pending (cfg : Cfg) (L : List Entry) (now : Nat) (x : Nat) (tx : Tx)
    (h : mLookup x (restartLog cfg L now).pending = some tx) :
    ∃ ip, (x, ip) ∈ (scan L).inProgress
      ∧ (ip.phase = .prepared ∨ ip.phase = .committing ∨ ip.phase = .aborting)
      ∧ tx = restoreTx ⟨x, ip.parts, ip.votes⟩ ip.phase now := by
  rcases mem_recover { cfg := cfg, log := L } now x tx (mLookup_some_mem _ _ _ h) with h | h
  · cases h
  · exact h

theorem restart_phase (cfg : Cfg) (L : List Entry) (now : Nat) (x : Nat) (ip : InProg)
    (hm : (x, ip) ∈ (scan L).inProgress)
    (hp : ip.phase = .prepared ∨ ip.phase = .committing ∨ ip.phase = .aborting) :
    mLookup x (restartLog cfg L now).pending = some (restoreTx ⟨x, ip.parts, ip.votes⟩ ip.phase now) := by
  -- it is a key of the pending map ...
  have hr : (⟨x, ip.parts, ip.votes⟩ : RecTx) ∈ classify (scan L).inProgress ip.phase :=
    (mem_classify _ _ _).mpr ⟨ip, hm, rfl, rfl, rfl⟩
  have key : ∀ (rs : List RecTx) (ph : Phase) (p : List (Nat × Tx)), (∃ r ∈ rs, r.tx = x) ∨ x ∈ mKeys p →
      x ∈ mKeys (restoreAll rs ph now p) := by
    intro rs ph p h
    rcases lookup_restoreAll rs ph now p x with ⟨r, _, _, hl⟩ | ⟨hn, hl⟩
    · exact mLookup_some_mem_keys _ _ _ hl
    · rcases h with ⟨r, hr, hx⟩ | h
      · exact absurd hx (hn r hr)
      · cases hlk : mLookup x p with
        | none => exact absurd hlk (mLookup_ne_none_of_mem_keys x p h)
        | some t => rw [hlk] at hl; exact mLookup_some_mem_keys _ _ _ hl
  have hk : x ∈ mKeys (restartLog cfg L now).pending := by
    unfold restartLog recoverFromWal
    simp only [fromEntries, recoveryOf]
    rcases hp with h | h | h <;> rw [h] at hr
    · exact key _ _ _ (Or.inr (key _ _ _ (Or.inr (key _ _ _ (Or.inl ⟨_, hr, rfl⟩)))))
    · exact key _ _ _ (Or.inr (key _ _ _ (Or.inl ⟨_, hr, rfl⟩)))
    · exact key _ _ _ (Or.inl ⟨_, hr, rfl⟩)
  -- ... and whatever is pending under `x` is the restored image of the scan's one entry for `x`
  cases hl : mLookup x (restartLog cfg L now).pending with
  | none => exact absurd hl (mLookup_ne_none_of_mem_keys _ _ hk)
  | some t =>
    obtain ⟨ip', hm', _, ht⟩ := restart_pending cfg L now x t hl
    cases mem_unique_of_nodup _ (nodup_scan L) x ip' ip hm' hm
    rw [ht]

theorem restart_prepared (cfg : Cfg) (L : List Entry) (now : Nat) (x : Nat) (ip : InProg)
    (hm : (x, ip) ∈ (scan L).inProgress) (hp : ip.phase = .prepared) :
    mLookup x (restartLog cfg L now).pending = some (restoreTx ⟨x, ip.parts, ip.votes⟩ .prepared now) :=
  hp ▸ restart_phase cfg L now x ip hm (Or.inl hp)

/-- the records of `L` are ones the real writer can produce and bitcode round-trips -/
def CodecOK (crc : List Nat → Nat) (ser : Entry → List Nat) (de : List Nat → Option Entry)
    (L : List Entry) : Prop :=
  ∀ e ∈ L, GoodRec crc (fun p => (de p).isSome) (ser e) ∧ de (ser e) = some e

theorem filterMap_de_ser (ser : Entry → List Nat) (de : List Nat → Option Entry) (L : List Entry)
    (h : ∀ e ∈ L, de (ser e) = some e) : (L.map ser).filterMap de = L := by
  induction L with
  | nil => rfl
  | cons e L ih =>
    simp only [List.map_cons, List.filterMap_cons, h e (by simp)]
    rw [ih (fun e' he' => h e' (by simp [he']))]

theorem replay_fileOf (crc : List Nat → Nat) (ser : Entry → List Nat) (de : List Nat → Option Entry)
    (L : List Entry) (h : CodecOK crc ser de L) : replay crc de (fileOf crc ser L) = some L := by
  unfold replay fileOf
  have hp := parse_encodeAll crc (fun p => (de p).isSome) (L.map ser) (by
    intro p hp
    simp only [List.mem_map] at hp
    obtain ⟨e, he, rfl⟩ := hp
    exact (h e he).1)
  simp only [hp]
  rw [filterMap_de_ser ser de L (fun e he => (h e he).2)]
  simp

theorem restartBytes_take (crc : List Nat → Nat) (ser : Entry → List Nat) (de : List Nat → Option Entry)
    (cfg : Cfg) (L : List Entry) (n now : Nat) (h : CodecOK crc ser de L) :
    restartBytes crc de cfg ((fileOf crc ser L).take n) now
      = some (restartLog cfg (L.take (wholeWithin crc (L.map ser) n)) now) := by
  unfold restartBytes
  have hr : openRepair ((fileOf crc ser L).take n)
      = fileOf crc ser (L.take (wholeWithin crc (L.map ser) n)) := by
    unfold fileOf
    rw [openRepair_take crc (L.map ser) n (by
      intro p hp
      simp only [List.mem_map] at hp
      obtain ⟨e, he, rfl⟩ := hp
      exact (h e he).1.1)]
    rw [List.map_take]
  rw [hr, replay_fileOf crc ser de _ (fun e he => h e (List.mem_of_mem_take he))]
  rfl

/-- side conditions of a step: transaction ids are fresh (`generate_tx_id`), and the records in
    the file at a crash are well-formed -/
def StepOK (crc : List Nat → Nat) (ser : Entry → List Nat) (de : List Nat → Option Entry)
    (c : Coord) : Step → Prop
  | .begin id _ _ => ¬ Completed c.log id ∧ ¬ Begun c.log id
  | .crash _ _ _ => CodecOK crc ser de c.log
  | _ => True

def Valid (crc : List Nat → Nat) (ser : Entry → List Nat) (de : List Nat → Option Entry) :
    Coord → List Step → Prop
  | _, [] => True
  | c, s :: ss => StepOK crc ser de c s ∧ Valid crc ser de (step crc ser de c s).1 ss

section Runs
variable (crc : List Nat → Nat) (ser : Entry → List Nat) (de : List Nat → Option Entry)

theorem step_crash_eq (c : Coord) (n now : Nat) (cfg : Cfg) (h : CodecOK crc ser de c.log) :
    step crc ser de c (.crash n now cfg)
      = (restartLog cfg (c.log.take (wholeWithin crc (c.log.map ser) n)) now, Res.ok) := by
  simp only [step, restartBytes_take crc ser de cfg c.log n now h]

theorem Inv_step (c : Coord) (s : Step) (hi : Inv c) (hs : StepOK crc ser de c s) :
    Inv (step crc ser de c s).1 := by
  cases s with
  | lock tx h => exact Inv_mem c _ hi rfl (fun _ hx => hx)
  | «begin» id parts now => exact (begin_outcome _ c id parts now).inv hi hs.1
  | vote id shard v x => exact (recordVote_outcome _ c id shard v x).inv hi
  | commit id => exact (commit_outcome _ c id).inv hi
  | abort id => exact (abort_outcome _ c id).inv hi
  | completeCommit id => exact (completeCommit_outcome c id).inv hi
  | completeAbort id => exact (completeAbort_outcome c id).inv hi
  | cleanup now =>
    refine Inv_mem c _ hi rfl fun y hy => ?_
    obtain ⟨p, hp, rfl⟩ := List.mem_map.mp hy
    exact mem_keys_of_mem _ _ _ (List.mem_filter.mp hp).1
  | flushAborts =>
    have hin := inert_intents c.pendingAborts
    exact Inv_of c (flushAborts (recSize ser) c).1 _ hi (mem_walTryAll _ _ _ _)
      (PQ_walTryAll _ _ _ _ hi.scanOK (noBegin_of_inert hin))
      (fun y hy => ⟨hy, fun o ho => hin _ ho⟩) (fun y o ho => (hin _ ho).elim)
  | recover now => exact Inv_recover c now hi
  | recoverMem now =>
    refine Inv_mem c _ hi rfl fun y hy => ?_
    obtain ⟨q, hq, rfl⟩ := List.mem_map.mp hy
    obtain ⟨p, hp, rfl⟩ := List.mem_map.mp hq
    exact mem_keys_of_mem _ _ _ (List.mem_filter.mp hp).1
  | decisions => exact hi
  | forceResolve id b => exact (forceResolve_outcome c id b).inv hi
  | truncate =>
    exact Inv_of c _ [] hi (by intro e he; simp [step] at he) (by simpa [step] using PQ_nil)
      (fun x hx => ⟨hx, by simp⟩) (by intro x o ho; simp at ho)
  | crash n now cfg =>
    rw [step_crash_eq crc ser de c n now cfg hs]
    -- a new process over a prefix of a good log
    exact Inv_recover _ now ⟨nofun, fun x o o' a b => hi.oneOutcome x o o' (List.mem_of_mem_take a)
      (List.mem_of_mem_take b), PQ_take c.log _ hi.scanOK⟩

theorem run_cons (c : Coord) (s : Step) (ss : List Step) :
    run crc ser de c (s :: ss) = run crc ser de (step crc ser de c s).1 ss := rfl

theorem Inv_run (c : Coord) (ss : List Step) (hi : Inv c) (hv : Valid crc ser de c ss) :
    Inv (run crc ser de c ss) := by
  induction ss generalizing c with
  | nil => exact hi
  | cons s ss ih =>
    rw [run_cons]
    exact ih _ (Inv_step crc ser de c s hi hv.1) hv.2

theorem run_append (c : Coord) (a b : List Step) :
    run crc ser de c (a ++ b) = run crc ser de (run crc ser de c a) b := by
  simp [run, List.foldl_append]

theorem Valid_append (c : Coord) (a b : List Step) :
    Valid crc ser de c (a ++ b) ↔ Valid crc ser de c a ∧ Valid crc ser de (run crc ser de c a) b := by
  induction a generalizing c with
  | nil => simp [Valid, run]
  | cons s a ih =>
    simp only [List.cons_append, Valid, run_cons, ih, and_assoc]

theorem events_commit (c : Coord) (id : Nat) (r : Res) :
    events c (.commit id) r = if r = .ok then [.committed id] else [] := by cases r <;> rfl

theorem events_abort (c : Coord) (id : Nat) (r : Res) :
    events c (.abort id) r = if r = .ok then [.aborted id] else [] := by cases r <;> rfl

theorem events_completeCommit (c : Coord) (id : Nat) (r : Res) :
    events c (.completeCommit id) r = if r = .ok then [.committed id] else [] := by cases r <;> rfl

theorem events_completeAbort (c : Coord) (id : Nat) (r : Res) :
    events c (.completeAbort id) r = if r = .ok then [.aborted id] else [] := by cases r <;> rfl

theorem events_forceResolve (c : Coord) (id : Nat) (b : Bool) (r : Res) :
    events c (.forceResolve id b) r = if r = .ok then [if b then .committed id else .aborted id] else [] := by
  cases b <;> cases r <;> rfl

theorem events_pending (c : Coord) (s : Step) (ev : Event) :
    ev ∈ events c s (step crc ser de c s).2 → ev.id ∈ mKeys c.pending := by
  -- a call that ends transaction `id` reports `a` only with the answer ok, and then `id` was pending
  have ended : ∀ (id : Nat) {r : Res} {a : Event} {P : Tx → Prop}, a.id = id →
      ev ∈ (if r = .ok then [a] else []) →
      (r = .ok → ∃ tx, mLookup id c.pending = some tx ∧ P tx) → ev.id ∈ mKeys c.pending := by
    intro id r a P ha h hok
    split at h
    · rename_i hr
      cases List.mem_singleton.mp h
      obtain ⟨tx, hl, _⟩ := hok hr
      exact ha ▸ mLookup_some_mem_keys _ _ _ hl
    · cases h
  -- calls that report nothing, whatever they answer
  have silent : ∀ {r : Res}, events c s r = [] → ev ∈ events c s r → ev.id ∈ mKeys c.pending :=
    fun h0 h => by rw [h0] at h; cases h
  cases s with
  | lock | flushAborts | recover | decisions | truncate => exact silent rfl
  | «begin» | vote | crash => exact silent (by generalize (step crc ser de c _).2 = r; cases r <;> rfl)
  | commit id => exact fun h => ended id rfl (events_commit .. ▸ h) (commit_outcome (recSize ser) c id).of_ok
  | abort id => exact fun h => ended id rfl (events_abort .. ▸ h) (abort_outcome (recSize ser) c id).of_ok
  | completeCommit id =>
    exact fun h => ended id rfl (events_completeCommit .. ▸ h) (completeCommit_outcome c id).of_ok
  | completeAbort id =>
    exact fun h => ended id rfl (events_completeAbort .. ▸ h) (completeAbort_outcome c id).of_ok
  | forceResolve id b =>
    exact fun h => ended id (by cases b <;> rfl) (events_forceResolve .. ▸ h) (forceResolve_outcome c id b).of_ok
  | cleanup now =>
    simp only [step, cleanupTimeouts, events, List.mem_map, mKeys, List.mem_filter]
    rintro ⟨i, ⟨p, ⟨hp, _⟩, rfl⟩, rfl⟩
    exact ⟨p, hp, rfl⟩
  | recoverMem now =>
    simp only [step, recoverMem, events, List.mem_map, mKeys, List.mem_filter]
    rintro ⟨p, ⟨hp, _⟩, rfl⟩
    exact ⟨p, hp, rfl⟩

theorem step_ok_locks (c : Coord) (s : Step) (id : Nat) (tx : Tx)
    (hs : s = Step.commit id ∨ s = Step.abort id ∨ s = Step.completeCommit id ∨ s = Step.completeAbort id
          ∨ ∃ b, s = Step.forceResolve id b)
    (hl : mLookup id c.pending = some tx) (hok : (step crc ser de c s).2 = Res.ok) :
    (step crc ser de c s).1.locks = releaseAll (voteHandles tx.votes) c.locks := by
  have key : (∃ tx', mLookup id c.pending = some tx' ∧
      (step crc ser de c s).1.locks = releaseAll (voteHandles tx'.votes) c.locks) →
      (step crc ser de c s).1.locks = releaseAll (voteHandles tx.votes) c.locks := by
    rintro ⟨tx', hl', h⟩; cases hl.symm.trans hl'; exact h
  rcases hs with rfl | rfl | rfl | rfl | ⟨b, rfl⟩
  · exact key ((commit_outcome (recSize ser) c id).of_ok hok)
  · exact key ((abort_outcome (recSize ser) c id).of_ok hok)
  · exact key ((completeCommit_outcome c id).of_ok hok)
  · exact key ((completeAbort_outcome c id).of_ok hok)
  · exact key ((forceResolve_outcome c id b).of_ok hok)

theorem step_complete_new (c : Coord) (s : Step) (hs : ∀ n now cfg, s ≠ Step.crash n now cfg) (x : Nat) (o : Outcome)
    (h : Entry.txComplete x o ∈ (step crc ser de c s).1.log) :
    Entry.txComplete x o ∈ c.log ∨ x ∈ mKeys c.pending := by
  have ended : ∀ {id : Nat} {ph : Phase} {o' : Outcome},
      (Entry.txComplete x o ∈ c.log ∨ ∃ tx, mLookup id c.pending = some tx ∧
        (Entry.txComplete x o = Entry.phaseChange id tx.phase ph ∨ Entry.txComplete x o = Entry.txComplete id o'
          ∨ Inert (Entry.txComplete x o))) →
      Entry.txComplete x o ∈ c.log ∨ x ∈ mKeys c.pending := by
    rintro id ph o' (h | ⟨tx, hl, h | h | h⟩)
    · exact Or.inl h
    · cases h
    · cases h; exact Or.inr (mLookup_some_mem_keys _ _ _ hl)
    · exact h.elim
  cases s with
  | lock | cleanup | recover | recoverMem | decisions => exact Or.inl h
  | «begin» id parts now =>
    rcases (begin_outcome (recSize ser) c id parts now).mem_log _ h with h | h
    · exact Or.inl h
    · cases h
  | vote id shard v b =>
    rcases (recordVote_outcome _ c id shard v b).mem_log _ h with h | h | h
    · exact Or.inl h
    · cases h
    · cases h
  | commit id => exact ended ((commit_outcome (recSize ser) c id).mem_log _ h)
  | abort id => exact ended ((abort_outcome (recSize ser) c id).mem_log _ h)
  | completeCommit id => exact Or.inl ((completeCommit_outcome c id).log ▸ h)
  | completeAbort id => exact Or.inl ((completeAbort_outcome c id).log ▸ h)
  | forceResolve id b => exact Or.inl ((forceResolve_outcome c id b).log ▸ h)
  | flushAborts =>
    rcases mem_walTryAll _ _ _ _ _ h with h | h
    · exact Or.inl h
    · exact (inert_intents _ _ h).elim
  | truncate => cases h
  | crash n now cfg => exact absurd rfl (hs n now cfg)

theorem step_appends (c : Coord) (hn : c.cfg.NoRotate) (s : Step) (hs : ∀ n now cfg, s ≠ Step.crash n now cfg)
    (ht : s ≠ Step.truncate) :
    ∃ es, (step crc ser de c s).1.log = c.log ++ es
      ∧ ((∀ id sh v x, s ≠ Step.vote id sh v x) → ∀ e ∈ es, Harmless e) := by
  have same : ∀ {l : List Entry}, l = c.log →
      ∃ es, l = c.log ++ es ∧ ((∀ id sh v x, s ≠ Step.vote id sh v x) → ∀ e ∈ es, Harmless e) :=
    fun h => ⟨[], by rw [h, List.append_nil], fun _ _ h => nomatch h⟩
  have lift : ∀ {l : List Entry}, (∃ es, l = c.log ++ es ∧ ∀ e ∈ es, Harmless e) →
      ∃ es, l = c.log ++ es ∧ ((∀ id sh v x, s ≠ Step.vote id sh v x) → ∀ e ∈ es, Harmless e) :=
    fun ⟨es, h1, h2⟩ => ⟨es, h1, fun _ => h2⟩
  cases s with
  | lock | cleanup | recover | recoverMem | decisions => exact same rfl
  | «begin» id parts now => exact lift ((begin_outcome (recSize ser) c id parts now).appends hn)
  | vote id shard v x =>
    obtain ⟨es, h⟩ := (recordVote_outcome _ c id shard v x).log_grows hn
    exact ⟨es, h, fun hv => absurd rfl (hv id shard v x)⟩
  | commit id => exact lift ((commit_outcome (recSize ser) c id).appends hn nofun)
  | abort id => exact lift ((abort_outcome (recSize ser) c id).appends hn nofun)
  | completeCommit id => exact same (completeCommit_outcome c id).log
  | completeAbort id => exact same (completeAbort_outcome c id).log
  | forceResolve id b => exact same (forceResolve_outcome c id b).log
  | flushAborts =>
    obtain ⟨es', hes', h⟩ := walTryAll_noRotate (recSize ser) hn c.log
      (c.pendingAborts.map (fun p => Entry.abortIntent p.1 p.2.1 p.2.2))
    exact ⟨es', h, fun _ e he => harmless_of_inert e (inert_intents _ e (hes' e he))⟩
  | truncate => exact absurd rfl ht
  | crash n now cfg => exact absurd rfl (hs n now cfg)

theorem step_log_grows (c : Coord) (hn : c.cfg.NoRotate) (s : Step) (hs : ∀ n now cfg, s ≠ Step.crash n now cfg)
    (ht : s ≠ Step.truncate) :
    ∃ es, (step crc ser de c s).1.log = c.log ++ es :=
  (step_appends crc ser de c hn s hs ht).imp fun _ h => h.1

theorem step_cfg (c : Coord) (s : Step) (hs : ∀ n now cfg, s ≠ Step.crash n now cfg) :
    (step crc ser de c s).1.cfg = c.cfg := by
  cases s with
  | lock | cleanup | flushAborts | recover | recoverMem | decisions | truncate => rfl
  | «begin» id parts now => exact (begin_outcome (recSize ser) c id parts now).cfg
  | vote id shard v x => exact (recordVote_outcome _ c id shard v x).cfg
  | commit id => exact (commit_outcome (recSize ser) c id).cfg
  | abort id => exact (abort_outcome (recSize ser) c id).cfg
  | completeCommit id => exact (completeCommit_outcome c id).cfg
  | completeAbort id => exact (completeAbort_outcome c id).cfg
  | forceResolve id b => exact (forceResolve_outcome c id b).cfg
  | crash n now cfg => exact absurd rfl (hs n now cfg)

end Runs

theorem mem_release (h : Nat) (l : List (Nat × Nat)) (p : Nat × Nat) :
    p ∈ release h l ↔ p ∈ l ∧ p.1 ≠ h := by
  simp [release, List.mem_filter]

theorem mem_releaseAll (hs : List Nat) (l : List (Nat × Nat)) (p : Nat × Nat) :
    p ∈ releaseAll hs l ↔ p ∈ l ∧ p.1 ∉ hs := by
  unfold releaseAll
  induction hs generalizing l with
  | nil => simp
  | cons a hs ih =>
    simp only [List.foldl_cons, ih, mem_release, List.mem_cons, not_or]
    constructor
    · rintro ⟨⟨h1, h2⟩, h3⟩; exact ⟨h1, h2, h3⟩
    · rintro ⟨h1, h2, h3⟩; exact ⟨⟨h1, h2⟩, h3⟩

instance (L : List Entry) (x : Nat) : Decidable (Completed L x) :=
  decidable_of_iff (L.any (fun e => match e with | .txComplete y _ => decide (y = x) | _ => false) = true) (by
    simp only [Completed, List.any_eq_true]
    constructor
    · rintro ⟨e, he, h⟩
      cases e <;> simp at h
      subst h; exact ⟨_, he⟩
    · rintro ⟨o, ho⟩; exact ⟨_, ho, by simp⟩)

instance (L : List Entry) (x : Nat) : Decidable (Begun L x) :=
  decidable_of_iff (L.any (fun e => match e with | .txBegin y _ => decide (y = x) | _ => false) = true) (by
    simp only [Begun, List.any_eq_true]
    constructor
    · rintro ⟨e, he, h⟩
      cases e <;> simp at h
      subst h; exact ⟨_, he⟩
    · rintro ⟨o, ho⟩; exact ⟨_, ho, by simp⟩)

instance (crc : List Nat → Nat) (ser : Entry → List Nat) (de : List Nat → Option Entry) (L : List Entry) :
    Decidable (CodecOK crc ser de L) := by
  unfold CodecOK GoodRec; infer_instance

instance (crc : List Nat → Nat) (ser : Entry → List Nat) (de : List Nat → Option Entry) (c : Coord) (s : Step) :
    Decidable (StepOK crc ser de c s) := by
  cases s <;> (unfold StepOK; infer_instance)

instance decValid (crc : List Nat → Nat) (ser : Entry → List Nat) (de : List Nat → Option Entry) :
    (c : Coord) → (ss : List Step) → Decidable (Valid crc ser de c ss)
  | _, [] => isTrue trivial
  | c, s :: ss =>
    have := decValid crc ser de (step crc ser de c s).1 ss
    by unfold Valid; infer_instance

end Neumann.TxWal
