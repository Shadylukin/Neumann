import NeumannModel.TxWal.Lemmas
/-
  C13 — memory never runs ahead of the log.
  `Sync`  : every pending transaction is in progress in the scan of the log, with the same
            participants, a phase the log justifies and (while that matters) the same votes;
  `PH`    : in every prefix of the log, a transaction the scan shows as Prepared carries exactly
            the votes of one of `record_vote`'s Prepared acknowledgements;
  `Good`  : both, together with `Inv`, preserved by every step of a run in which the size limit
            never rotates the WAL file.
-/
namespace Neumann.TxWal
open Neumann.FramedLog

/-- what the scan of `L` holds for transaction `x` -/
def ipOf (L : List Entry) (x : Nat) : Option InProg := mLookup x (scan L).inProgress

theorem ipOf_nil (x : Nat) : ipOf [] x = none := rfl

theorem ipOf_iff_mem (L : List Entry) (x : Nat) (ip : InProg) :
    ipOf L x = some ip ↔ (x, ip) ∈ (scan L).inProgress :=
  ⟨mLookup_some_mem x ip _, mLookup_of_mem_nodup _ (nodup_scan L) x ip⟩

def setPhase (t : Phase) (ip : InProg) : InProg := { ip with phase := t }

theorem ipOf_snoc_begin (L : List Entry) (y : Nat) (p : List Nat) (x : Nat) :
    ipOf (L ++ [Entry.txBegin y p]) x = if y = x then some ⟨p, [], .preparing⟩ else ipOf L x := by
  unfold ipOf; rw [scan_snoc]; simp only [scanStep, mLookup_mInsert]

theorem ipOf_snoc_vote (L : List Entry) (y s : Nat) (v : VoteKind) (x : Nat) :
    ipOf (L ++ [Entry.prepareVote y s v]) x = if x = y then (ipOf L x).map (pushVote s v) else ipOf L x := by
  unfold ipOf; rw [scan_snoc]; simp only [scanStep, mLookup_mModify]

theorem ipOf_snoc_phase (L : List Entry) (y : Nat) (f t : Phase) (x : Nat) :
    ipOf (L ++ [Entry.phaseChange y f t]) x = if x = y then (ipOf L x).map (setPhase t) else ipOf L x := by
  unfold ipOf; rw [scan_snoc]; simp only [scanStep, mLookup_mModify]; rfl

theorem ipOf_snoc_complete (L : List Entry) (y : Nat) (o : Outcome) (x : Nat) :
    ipOf (L ++ [Entry.txComplete y o]) x = if y = x then none else ipOf L x := by
  unfold ipOf; rw [scan_snoc]; simp only [scanStep, scanComplete]
  split
  · rename_i h; subst h; exact mLookup_mErase_self _ _
  · rename_i h; exact mLookup_mErase_ne _ _ _ h

theorem ipOf_snoc_inert (L : List Entry) (e : Entry) (h : Inert e) (x : Nat) :
    ipOf (L ++ [e]) x = ipOf L x := by
  unfold ipOf; rw [scan_snoc]
  cases e <;> first | rfl | exact absurd h (by simp [Inert])

theorem ipOf_snoc_some (L : List Entry) (e : Entry) (x : Nat) (ip : InProg) (h : ipOf (L ++ [e]) x = some ip) :
    (∃ p, e = Entry.txBegin x p ∧ ip = ⟨p, [], .preparing⟩)
    ∨ ∃ ip0, ipOf L x = some ip0 ∧
        (ip = ip0 ∨ (∃ sh v, e = Entry.prepareVote x sh v ∧ ip = pushVote sh v ip0)
          ∨ ∃ f t, e = Entry.phaseChange x f t ∧ ip = setPhase t ip0) := by
  have hm := (ipOf_iff_mem _ _ _).mp h
  rw [scan_snoc] at hm
  rcases mem_scanStep _ _ _ _ hm with hb | ⟨ip0, h0, hc⟩
  · exact Or.inl hb
  · exact Or.inr ⟨ip0, (ipOf_iff_mem _ _ _).mpr h0, hc⟩

theorem ipOf_append_inert (L es : List Entry) (h : ∀ e ∈ es, Inert e) (x : Nat) :
    ipOf (L ++ es) x = ipOf L x :=
  append_keeps (P := fun l => ipOf l x = ipOf L x) (fun l e he hl => (ipOf_snoc_inert l e he x).trans hl) L es h rfl

theorem pushVote_parts (shard : Nat) (v : VoteKind) (ip : InProg) : (pushVote shard v ip).parts = ip.parts := by
  unfold pushVote; split <;> rfl

theorem pushVote_not_preparing (shard : Nat) (v : VoteKind) (ip : InProg) (h : ip.phase ≠ .preparing) :
    pushVote shard v ip = ip := by
  unfold pushVote; simp [h]

/-- the log's votes for a transaction are the coordinator's, as `record_vote` writes them -/
def VotesEq (a : List (Nat × VoteKind)) (b : List (Nat × Vote)) : Prop :=
  ∀ s, mLookup s a = (mLookup s b).map Vote.kind

/-- a pending transaction `tx` against what the scan of the log holds for it -/
def SyncTx (ip : InProg) (tx : Tx) : Prop :=
  ip.parts = tx.parts
  ∧ (tx.phase = .preparing → ip.phase = .preparing)
  ∧ (tx.phase = .prepared → ip.phase = .prepared)
  ∧ (tx.phase = .committing → ip.phase = .prepared ∨ ip.phase = .committing)
  ∧ (tx.phase = .preparing ∨ ip.phase = .prepared ∨ ip.phase = .committing → VotesEq ip.votes tx.votes)
  ∧ tx.phase ≠ .committed ∧ tx.phase ≠ .aborted

def Sync (c : Coord) : Prop :=
  ∀ x tx, (x, tx) ∈ c.pending → ∃ ip, ipOf c.log x = some ip ∧ SyncTx ip tx

theorem Sync_fresh (cfg : Cfg) (L : List Entry) : Sync { cfg := cfg, log := L } := by
  intro x tx h; simp at h

theorem Sync_sub (c c' : Coord) (h : Sync c) (hlog : c'.log = c.log)
    (hp : ∀ x tx, (x, tx) ∈ c'.pending → (x, tx) ∈ c.pending) : Sync c' := by
  intro x tx hm
  rw [hlog]; exact h x tx (hp x tx hm)

theorem lookup_restore (vs : List (Nat × VoteKind)) (hn : (mKeys vs).Nodup) (s : Nat) :
    mLookup s (vs.foldl (fun m p => mInsert p.1 p.2.restore m) []) = (mLookup s vs).map VoteKind.restore := by
  have key : ∀ (acc : List (Nat × Vote)) (vs : List (Nat × VoteKind)), (mKeys vs).Nodup →
      ∀ s, mLookup s (vs.foldl (fun m p => mInsert p.1 p.2.restore m) acc)
        = match mLookup s vs with
          | some k => some k.restore
          | none => mLookup s acc := by
    intro acc vs
    induction vs generalizing acc with
    | nil => intro _ s; rfl
    | cons p r ih =>
      obtain ⟨a, k⟩ := p
      intro hn s
      simp only [mKeys, List.map_cons, List.nodup_cons] at hn
      simp only [List.foldl_cons]
      rw [ih _ hn.2 s]
      simp only [mLookup]
      by_cases has : a = s
      · subst has
        have : mLookup a r = none := mLookup_none_of_not_mem a r hn.1
        simp [this, mLookup_mInsert]
      · simp only [has, if_false]
        cases mLookup s r with
        | none => simp [mLookup_mInsert, has]
        | some k' => rfl
  rw [key [] vs hn s]
  cases mLookup s vs <;> rfl

theorem SyncTx_restore (ip : InProg) (x now : Nat) (hn : (mKeys ip.votes).Nodup)
    (hp : ip.phase = .prepared ∨ ip.phase = .committing ∨ ip.phase = .aborting) :
    SyncTx ip (restoreTx ⟨x, ip.parts, ip.votes⟩ ip.phase now) := by
  refine ⟨rfl, ?_, ?_, ?_, ?_, ?_, ?_⟩ <;> simp only [restoreTx]
  · intro h; exact h
  · intro h; exact h
  · intro h; exact Or.inr h
  · intro _ s
    rw [lookup_restore ip.votes hn s]
    cases mLookup s ip.votes with
    | none => rfl
    | some k => cases k <;> rfl
  · rcases hp with h | h | h <;> rw [h] <;> decide
  · rcases hp with h | h | h <;> rw [h] <;> decide

theorem Sync_recover (c : Coord) (now : Nat) (h : Sync c) : Sync (recoverFromWal c now).1 := by
  intro x tx hm
  rcases mem_recover c now x tx hm with hm | ⟨ip, hip, hd, rfl⟩
  · exact h x tx hm
  · exact ⟨ip, (ipOf_iff_mem _ _ _).mpr hip, SyncTx_restore ip x now (scan_votes_one_per_shard _ x ip hip) hd⟩

def PN (c : Coord) : Prop := (mKeys c.pending).Nodup

theorem VoteOutcome.pn {sz : Entry → Nat} {c : Coord} {id shard : Nat} {v : Vote} {r : Coord × Res}
    (ho : VoteOutcome sz c id shard v r) (h : PN c) : PN r.1 := by
  cases ho with
  | unlogged | unknown | wrongPhase | duplicate => exact h
  | collecting | aborting | prepared => exact nodup_mInsert _ _ _ h

theorem BeginOutcome.pn {sz : Entry → Nat} {c : Coord} {id : Nat} {parts : List Nat} {now : Nat}
    {r : Coord × Res} (ho : BeginOutcome sz c id parts now r) (h : PN c) : PN r.1 := by
  cases ho with
  | refused => exact h
  | begun => exact nodup_mInsert _ _ _ h

theorem EndOutcome.pn {sz : Entry → Nat} {c : Coord} {id : Nat} {ph : Phase} {o : Outcome}
    {trail : Tx → List Entry} {r : Coord × Res} (ho : EndOutcome sz c id ph o trail r) (h : PN c) : PN r.1 := by
  cases ho with
  | refused => exact h
  | halfway => exact nodup_mInsert _ _ _ h
  | done => exact nodup_mErase _ _ h

theorem DropOutcome.pn {c : Coord} {id : Nat} {r : Coord × Res} (ho : DropOutcome c id r) (h : PN c) : PN r.1 := by
  cases ho with
  | refused => exact h
  | dropped => exact nodup_mErase _ _ h

theorem PN_recoverMem (c : Coord) (now : Nat) (h : PN c) : PN (recoverMem c now).1 := by
  have := nodup_filter_keys c.pending (fun p => !p.2.phase.final) h
  simpa [PN, recoverMem, mKeys, List.map_map, Function.comp_def] using this

theorem Sync_of (c c' : Coord) (id : Nat) (h : Sync c)
    (hip : ∀ x, x ≠ id → ipOf c'.log x = ipOf c.log x)
    (hp : ∀ x tx, (x, tx) ∈ c'.pending → x ≠ id → (x, tx) ∈ c.pending)
    (hid : ∀ tx, (id, tx) ∈ c'.pending → ∃ ip, ipOf c'.log id = some ip ∧ SyncTx ip tx) : Sync c' := by
  intro x tx hm
  by_cases hx : x = id
  · subst hx; exact hid tx hm
  · rw [hip x hx]; exact h x tx (hp x tx hm hx)

theorem SyncTx_aborting (ip : InProg) (tx : Tx) (hparts : ip.parts = tx.parts)
    (h1 : ip.phase ≠ .prepared) (h2 : ip.phase ≠ .committing) (ht : tx.phase = .aborting) : SyncTx ip tx := by
  refine ⟨hparts, ?_, ?_, ?_, ?_, ?_, ?_⟩
  · intro h; rw [ht] at h; cases h
  · intro h; rw [ht] at h; cases h
  · intro h; rw [ht] at h; cases h
  · rintro (h | h | h)
    · rw [ht] at h; cases h
    · exact absurd h h1
    · exact absurd h h2
  · rw [ht]; decide
  · rw [ht]; decide

/-- a vote `record_vote` refuses (wrong phase, or the shard has voted) is one the scan drops too,
    as far as the claims of `SyncTx` go -/
theorem SyncTx_pushVote_reject (ip : InProg) (tx : Tx) (shard : Nat) (k : VoteKind) (h : SyncTx ip tx)
    (hr : tx.phase ≠ .preparing ∨ (mLookup shard tx.votes).isSome = true) :
    SyncTx (pushVote shard k ip) tx := by
  obtain ⟨h0, h1, h2, h3, h4, h5, h6⟩ := h
  by_cases hp : tx.phase = .preparing
  · -- duplicate: the scan holds the shard's vote too
    have hd : (mLookup shard tx.votes).isSome = true := by
      rcases hr with hr | hr
      · exact absurd hp hr
      · exact hr
    have hv := h4 (Or.inl hp) shard
    have : (mLookup shard ip.votes).isNone = false := by
      rw [hv]; cases hm : mLookup shard tx.votes with
      | none => rw [hm] at hd; cases hd
      | some w => rfl
    have e : pushVote shard k ip = ip := by unfold pushVote; simp [this]
    rw [e]; exact ⟨h0, h1, h2, h3, h4, h5, h6⟩
  · refine ⟨by rw [pushVote_parts]; exact h0, ?_, ?_, ?_, ?_, h5, h6⟩
    · intro h; exact absurd h hp
    · intro h; rw [pushVote_phase]; exact h2 h
    · intro h; rw [pushVote_phase]; exact h3 h
    · rw [pushVote_phase]
      rintro (h | h | h)
      · exact absurd h hp
      · rw [pushVote_not_preparing _ _ _ (by rw [h]; decide)]; exact h4 (Or.inr (Or.inl h))
      · rw [pushVote_not_preparing _ _ _ (by rw [h]; decide)]; exact h4 (Or.inr (Or.inr h))

theorem pushVote_accept (ip : InProg) (tx : Tx) (shard : Nat) (v : Vote) (h : SyncTx ip tx)
    (hp : tx.phase = .preparing) (hn : (mLookup shard tx.votes).isSome = false) :
    pushVote shard v.kind ip = { ip with votes := ip.votes ++ [(shard, v.kind)] }
    ∧ VotesEq (ip.votes ++ [(shard, v.kind)]) (mInsert shard v tx.votes) := by
  obtain ⟨h0, h1, h2, h3, h4, h5, h6⟩ := h
  have hv := h4 (Or.inl hp)
  have hnone : mLookup shard tx.votes = none := by
    cases hm : mLookup shard tx.votes with
    | none => rfl
    | some w => rw [hm] at hn; cases hn
  have hin : mLookup shard ip.votes = none := by rw [hv shard, hnone]; rfl
  constructor
  · unfold pushVote; simp [h1 hp, hin]
  · intro s
    rw [mLookup_mInsert]
    by_cases hs : shard = s
    · subst hs
      rw [mLookup_append, hin]
      simp [mLookup]
    · rw [if_neg hs, mLookup_append, ← hv s]
      cases mLookup s ip.votes with
      | some w => rfl
      | none => simp [mLookup, hs]

theorem ipOf_walTryAll_inert (sz : Entry → Nat) {cfg : Cfg} (hn : cfg.NoRotate) (L es : List Entry)
    (h : ∀ e ∈ es, Inert e) (x : Nat) : ipOf (walTryAll sz cfg L es) x = ipOf L x := by
  obtain ⟨es', h1, h2⟩ := walTryAll_noRotate sz hn L es
  rw [h2]; exact ipOf_append_inert L es' (fun e he => h e (h1 e he)) x

theorem BeginOutcome.sync {sz : Entry → Nat} {c : Coord} {id : Nat} {parts : List Nat} {now : Nat}
    {r : Coord × Res} (ho : BeginOutcome sz c id parts now r) (hn : c.cfg.NoRotate) (h : Sync c) : Sync r.1 := by
  cases ho with
  | refused => exact h
  | begun ha =>
    cases walApp_noRotate hn ha
    refine Sync_of c _ id h ?_ (fun x tx hm hx => mem_mInsert_of_ne hm hx) ?_
    · intro x hx; rw [ipOf_snoc_begin, if_neg (Ne.symm hx)]
    · intro tx hm
      rcases (mem_mInsert _ _ _ _ _).mp hm with ⟨_, rfl⟩ | ⟨_, h1⟩
      · refine ⟨_, by rw [ipOf_snoc_begin, if_pos rfl], rfl, fun _ => rfl, ?_, ?_, fun _ s => rfl, ?_, ?_⟩ <;> simp
      · exact absurd rfl h1

theorem VoteOutcome.sync {sz : Entry → Nat} {c : Coord} {id shard : Nat} {v : Vote} {r : Coord × Res}
    (ho : VoteOutcome sz c id shard v r) (hn : c.cfg.NoRotate) (hpn : PN c) (h : Sync c) : Sync r.1 := by
  have hoth : ∀ x, x ≠ id → ipOf (c.log ++ [Entry.prepareVote id shard v.kind]) x = ipOf c.log x := by
    intro x hx; rw [ipOf_snoc_vote]; simp [hx]
  -- a vote `record_vote` refuses: the scan drops it too
  have reject : ∀ tx0, mLookup id c.pending = some tx0 →
      (tx0.phase ≠ .preparing ∨ (mLookup shard tx0.votes).isSome = true) →
      Sync { c with log := c.log ++ [Entry.prepareVote id shard v.kind] } := by
    intro tx0 hl0 hr
    obtain ⟨ip0, hip0, hs0⟩ := h id tx0 (mLookup_some_mem _ _ _ hl0)
    refine Sync_of c _ id h hoth (fun x tx hm _ => hm) ?_
    intro tx hm
    cases mem_unique_of_nodup _ hpn id tx tx0 hm (mLookup_some_mem _ _ _ hl0)
    exact ⟨_, by rw [ipOf_snoc_vote]; simp [hip0], SyncTx_pushVote_reject ip0 tx0 shard v.kind hs0 hr⟩
  -- a vote it accepts: the scan appends it, whatever memory then holds for `id` is `t'`
  have accept : ∀ tx0, mLookup id c.pending = some tx0 → tx0.phase = .preparing →
      (mLookup shard tx0.votes).isSome = false → ∀ (l' : List Entry) (t' : Tx) pa,
      (∀ x, x ≠ id → ipOf l' x = ipOf c.log x) →
      (∀ ip0, ipOf c.log id = some ip0 → SyncTx ip0 tx0 →
        VotesEq (ip0.votes ++ [(shard, v.kind)]) (mInsert shard v tx0.votes) →
        ipOf (c.log ++ [Entry.prepareVote id shard v.kind]) id
          = some { ip0 with votes := ip0.votes ++ [(shard, v.kind)] } →
        ∃ ip, ipOf l' id = some ip ∧ SyncTx ip t') →
      Sync { c with log := l', pending := mInsert id t' c.pending, pendingAborts := pa } := by
    intro tx0 hl0 hph hd l' t' pa hoth' hid
    obtain ⟨ip0, hip0, hs0⟩ := h id tx0 (mLookup_some_mem _ _ _ hl0)
    obtain ⟨hpush, hveq⟩ := pushVote_accept ip0 tx0 shard v hs0 hph hd
    refine Sync_of c _ id h hoth' (fun x tx hm hx => mem_mInsert_of_ne hm hx) ?_
    intro tx hm
    rcases (mem_mInsert _ _ _ _ _).mp hm with ⟨_, rfl⟩ | ⟨_, h'⟩
    · exact hid ip0 hip0 hs0 hveq (by rw [ipOf_snoc_vote]; simp [hip0, hpush])
    · exact absurd rfl h'
  cases ho with
  | unlogged => exact h
  | unknown ha hnone =>
    cases walApp_noRotate hn ha
    refine Sync_of c _ id h hoth (fun x tx hm _ => hm) ?_
    intro tx hm; exact absurd hm (not_mem_of_lookup_none _ _ _ hnone)
  | wrongPhase ha hl hp => cases walApp_noRotate hn ha; exact reject _ hl (Or.inl hp)
  | duplicate ha hl _ hd => cases walApp_noRotate hn ha; exact reject _ hl (Or.inr hd)
  | collecting ha hl hp hd =>
    cases walApp_noRotate hn ha
    refine accept _ hl hp hd _ _ _ hoth ?_
    intro ip0 _ ⟨h0, h1, _, _, _, _, _⟩ hveq hid
    refine ⟨_, hid, h0, fun _ => h1 hp, ?_, ?_, fun _ => hveq, ?_, ?_⟩
    · intro hh; rw [hp] at hh; cases hh
    · intro hh; rw [hp] at hh; cases hh
    · rw [hp]; decide
    · rw [hp]; decide
  | aborting ha hl hp hd =>
    -- the abort is decided in memory only: the log still shows the transaction Preparing
    cases walApp_noRotate hn ha
    refine accept _ hl hp hd _ _ _ hoth ?_
    intro ip0 _ ⟨h0, h1, _, _, _, _, _⟩ _ hid
    refine ⟨_, hid, SyncTx_aborting _ _ h0 ?_ ?_ rfl⟩
    · simp only [h1 hp]; decide
    · simp only [h1 hp]; decide
  | prepared ha hl hp hd _ _ ha2 =>
    cases walApp_noRotate hn ha
    cases walApp_noRotate (cfg := c.cfg) hn ha2
    refine accept _ hl hp hd _ _ _ ?_ ?_
    · intro x hx; rw [ipOf_snoc_phase]; simp only [hx, if_false]; exact hoth x hx
    · intro ip0 _ ⟨h0, _, _, _, _, _, _⟩ hveq hid
      refine ⟨setPhase .prepared { ip0 with votes := ip0.votes ++ [(shard, v.kind)] }, ?_, ?_⟩
      · rw [ipOf_snoc_phase]; simp [hid]
      · refine ⟨h0, ?_, fun _ => rfl, ?_, fun _ => hveq, by simp, by simp⟩
        · intro hh; cases hh
        · intro hh; cases hh

theorem EndOutcome.sync {sz : Entry → Nat} {c : Coord} {id : Nat} {ph : Phase} {o : Outcome}
    {trail : Tx → List Entry} {r : Coord × Res} (ho : EndOutcome sz c id ph o trail r) (hn : c.cfg.NoRotate)
    (hph : ph = .committing ∨ ph = .aborting) (h : Sync c) :
    Sync r.1 := by
  have hoth : ∀ f x, x ≠ id → ipOf (c.log ++ [Entry.phaseChange id f ph]) x = ipOf c.log x := by
    intro f x hx; rw [ipOf_snoc_phase]; simp [hx]
  cases ho with
  | refused => exact h
  | @halfway tx0 l1 hl0 hg ha1 _ =>
    -- TxComplete not written: the log and memory both show `ph`
    cases walApp_noRotate hn ha1
    obtain ⟨ip0, hip0, h0, h1, h2, h3, h4, h5, h6⟩ := h id tx0 (mLookup_some_mem _ _ _ hl0)
    refine Sync_of c _ id h (hoth _) (fun x tx hm hx => mem_mInsert_of_ne hm hx) ?_
    intro tx hm
    rcases (mem_mInsert _ _ _ _ _).mp hm with ⟨_, rfl⟩ | ⟨_, h'⟩
    · refine ⟨setPhase ph ip0, by rw [ipOf_snoc_phase]; simp [hip0], ?_⟩
      rcases hph with rfl | rfl
      · refine ⟨h0, ?_, ?_, fun _ => Or.inr rfl, fun _ => h4 (Or.inr (Or.inl (h2 (hg rfl)))), by simp, by simp⟩
        · intro hh; cases hh
        · intro hh; cases hh
      · exact SyncTx_aborting _ _ h0 (by simp [setPhase]) (by simp [setPhase]) rfl
    · exact absurd rfl h'
  | @done tx0 l1 l2 hl0 ha1 ha2 htr =>
    cases walApp_noRotate hn ha1
    cases walApp_noRotate (cfg := c.cfg) hn ha2
    refine Sync_of c _ id h ?_ (fun x tx hm _ => ((mem_mErase _ _ _ _).mp hm).1)
      (fun tx hm => absurd rfl ((mem_mErase _ _ _ _).mp hm).2)
    intro x hx
    show ipOf (walTryAll sz c.cfg _ (trail tx0)) x = _
    rw [ipOf_walTryAll_inert sz hn _ _ htr, ipOf_snoc_complete, if_neg (Ne.symm hx)]
    exact hoth _ x hx

theorem SyncTx_recoverTx (ip : InProg) (tx : Tx) (now : Nat) (h : SyncTx ip tx) : SyncTx ip (recoverTx now tx) := by
  obtain ⟨h0, h1, h2, h3, h4, h5, h6⟩ := h
  unfold recoverTx
  split
  · rename_i hp
    split
    · refine SyncTx_aborting _ _ h0 ?_ ?_ rfl <;> rw [h1 hp] <;> decide
    · exact ⟨h0, h1, h2, h3, h4, h5, h6⟩
  · rename_i hp
    have hip := h2 hp
    have hv := h4 (Or.inr (Or.inl hip))
    have abo : SyncTx ip { tx with phase := .aborting } := by
      refine ⟨h0, ?_, ?_, ?_, fun _ => hv, by simp, by simp⟩ <;> (intro hh; cases hh)
    split
    · exact abo
    · split
      · refine ⟨h0, ?_, ?_, fun _ => Or.inl hip, fun _ => hv, by simp, by simp⟩ <;> (intro hh; cases hh)
      · exact abo
  · exact ⟨h0, h1, h2, h3, h4, h5, h6⟩

theorem DropOutcome.sync {c : Coord} {id : Nat} {r : Coord × Res} (ho : DropOutcome c id r) (h : Sync c) :
    Sync r.1 := by
  cases ho with
  | refused => exact h
  | dropped => exact Sync_sub c _ h rfl (fun x tx hm => ((mem_mErase _ _ _ _).mp hm).1)

section Steps
variable (crc : List Nat → Nat) (ser : Entry → List Nat) (de : List Nat → Option Entry)

theorem PN_step (c : Coord) (s : Step) (h : PN c) : PN (step crc ser de c s).1 := by
  unfold PN at *
  cases s with
  | lock | flushAborts | decisions | truncate => exact h
  | «begin» id parts now => exact (begin_outcome (recSize ser) c id parts now).pn h
  | vote id shard v x => exact (recordVote_outcome _ c id shard v x).pn h
  | commit id => exact (commit_outcome (recSize ser) c id).pn h
  | abort id => exact (abort_outcome (recSize ser) c id).pn h
  | completeCommit id => exact (completeCommit_outcome c id).pn h
  | completeAbort id => exact (completeAbort_outcome c id).pn h
  | forceResolve id b => exact (forceResolve_outcome c id b).pn h
  | cleanup now => exact nodup_filter_keys _ _ h
  | recover now => exact nodup_recover c now h
  | recoverMem now => exact PN_recoverMem c now h
  | crash n now cfg =>
    simp only [step]
    cases hr : restartBytes crc de cfg ((fileOf crc ser c.log).take n) now with
    | none => exact List.nodup_nil
    | some c' =>
      obtain ⟨es, _, rfl⟩ := Option.map_eq_some_iff.mp hr
      exact nodup_recover _ now List.nodup_nil

theorem Sync_step (c : Coord) (s : Step) (hn : c.cfg.NoRotate) (hpn : PN c) (h : Sync c)
    (hs : StepOK crc ser de c s) (ht : s = Step.truncate → c.pending = []) : Sync (step crc ser de c s).1 := by
  cases s with
  | lock tx h' => exact Sync_sub c _ h rfl (fun _ _ hm => hm)
  | «begin» id parts now => exact (begin_outcome _ c id parts now).sync hn h
  | vote id shard v x => exact (recordVote_outcome _ c id shard v x).sync hn hpn h
  | commit id => exact (commit_outcome _ c id).sync hn (Or.inl rfl) h
  | abort id => exact (abort_outcome _ c id).sync hn (Or.inr rfl) h
  | completeCommit id => exact (completeCommit_outcome c id).sync h
  | completeAbort id => exact (completeAbort_outcome c id).sync h
  | forceResolve id b => exact (forceResolve_outcome c id b).sync h
  | cleanup now =>
    exact Sync_sub c _ h rfl (fun x tx hm => (List.mem_filter.mp hm).1)
  | flushAborts =>
    intro x tx hm
    simp only [step, flushAborts] at hm ⊢
    rw [ipOf_walTryAll_inert _ hn _ _ (inert_intents _)]
    exact h x tx hm
  | recover now => exact Sync_recover c now h
  | recoverMem now =>
    intro x tx hm
    simp only [step, recoverMem, List.mem_map, List.mem_filter] at hm ⊢
    obtain ⟨p, ⟨hp, _⟩, he⟩ := hm
    cases he
    obtain ⟨ip, hip, hsx⟩ := h p.1 p.2 hp
    exact ⟨ip, hip, SyncTx_recoverTx ip p.2 now hsx⟩
  | decisions => exact h
  | truncate =>
    intro x tx hm
    simp only [step, ht rfl] at hm
    cases hm
  | crash n now cfg =>
    rw [step_crash_eq crc ser de c n now cfg hs]
    exact Sync_recover _ now (Sync_fresh cfg _)

end Steps

/-- `ip` (what a log prefix holds for `x`) is one of the Prepared acknowledgements in `hist` -/
def AckOK (hist : List (Nat × Tx)) (x : Nat) (ip : InProg) : Prop :=
  ∃ tx, (x, tx) ∈ hist ∧ ip.parts = tx.parts ∧ VotesEq ip.votes tx.votes
    ∧ tx.allVoted = true ∧ tx.allYes = true

def HP (hist : List (Nat × Tx)) (L : List Entry) : Prop :=
  ∀ x ip, ipOf L x = some ip → ip.phase = .prepared → AckOK hist x ip

/-- ... in every prefix of the log -/
def PH (hist : List (Nat × Tx)) (L : List Entry) : Prop := ∀ k, HP hist (L.take k)

theorem AckOK_mono {hist hist' : List (Nat × Tx)} (hsub : ∀ p ∈ hist, p ∈ hist') {x : Nat} {ip : InProg}
    (h : AckOK hist x ip) : AckOK hist' x ip := by
  obtain ⟨tx, h1, h2⟩ := h
  exact ⟨tx, hsub _ h1, h2⟩

theorem PH_nil (hist : List (Nat × Tx)) : PH hist [] := by
  intro k x ip h; rw [List.take_nil] at h; cases h

theorem PH_take (hist : List (Nat × Tx)) (L : List Entry) (k : Nat) (h : PH hist L) : PH hist (L.take k) :=
  prefixes_take h k

theorem PH_full {hist : List (Nat × Tx)} {L : List Entry} (h : PH hist L) : HP hist L := by
  simpa using h L.length

theorem PH_snoc (hist : List (Nat × Tx)) (L : List Entry) (e : Entry) (h : PH hist L)
    (hn : HP hist (L ++ [e])) : PH hist (L ++ [e]) :=
  prefixes_snoc h hn

theorem HP_snoc_harmless (hist : List (Nat × Tx)) (L : List Entry) (e : Entry) (h : HP hist L)
    (he : Harmless e) : HP hist (L ++ [e]) := by
  intro x ip hip hp
  rcases ipOf_snoc_some L e x ip hip with ⟨p, _, rfl⟩ | ⟨ip0, h0, rfl | ⟨sh, v, _, rfl⟩ | ⟨f, t, rfl, rfl⟩⟩
  · cases hp
  · exact h x ip h0 hp
  · rw [pushVote_phase] at hp
    rw [pushVote_not_preparing _ _ _ (by rw [hp]; decide)]
    exact h x ip0 h0 hp
  · cases hp; exact absurd rfl (he x f)

theorem PH_append_harmless (hist : List (Nat × Tx)) (L es : List Entry) (h : PH hist L)
    (he : ∀ e ∈ es, Harmless e) : PH hist (L ++ es) :=
  append_keeps (fun l e he hl => PH_snoc hist l e hl (HP_snoc_harmless hist l e (PH_full hl) he)) L es he h

theorem preparedAck_not_vote (c' : Coord) (s : Step) (r : Res) (hv : ∀ id sh v x, s ≠ Step.vote id sh v x) :
    preparedAck c' s r = [] := by
  cases s <;> first | rfl | exact absurd rfl (hv _ _ _ _)

/-- `record_vote`: the only place a transaction becomes Prepared in the log, and there the log's
    votes are the coordinator's -/
theorem VoteOutcome.ph {sz : Entry → Nat} {c : Coord} {id shard : Nat} {v : Vote} {r : Coord × Res}
    (ho : VoteOutcome sz c id shard v r) (hn : c.cfg.NoRotate) (hsync : Sync c) {hist : List (Nat × Tx)}
    (h : PH hist c.log) (xc : Bool) :
    PH (hist ++ preparedAck r.1 (.vote id shard v xc) r.2) r.1.log := by
  have h1 : PH hist (c.log ++ [Entry.prepareVote id shard v.kind]) :=
    PH_append_harmless hist c.log _ h (by intro e he y f h; cases List.mem_singleton.mp he; cases h)
  cases ho with
  | unlogged => show PH (hist ++ []) _; rw [List.append_nil]; exact h
  | unknown ha | wrongPhase ha | duplicate ha | collecting ha | aborting ha =>
    cases walApp_noRotate hn ha
    show PH (hist ++ []) _; rw [List.append_nil]; exact h1
  | @prepared _ _ tx0 ha hl0 hph hd hall hyes ha2 =>
    cases walApp_noRotate hn ha
    cases walApp_noRotate (cfg := c.cfg) hn ha2
    obtain ⟨ip0, hip0, hs0⟩ := hsync id tx0 (mLookup_some_mem _ _ _ hl0)
    obtain ⟨hpush, hveq⟩ := pushVote_accept ip0 tx0 shard v hs0 hph hd
    -- the acknowledgement
    have hack : preparedAck
        { c with log := c.log ++ [Entry.prepareVote id shard v.kind] ++ [Entry.phaseChange id .preparing .prepared]
                 pending := mInsert id { tx0 with votes := mInsert shard v tx0.votes, phase := .prepared } c.pending }
        (.vote id shard v xc) (.phase (some .prepared))
        = [(id, { tx0 with votes := mInsert shard v tx0.votes, phase := .prepared })] := by
      simp only [preparedAck, mLookup_mInsert_self]
    show PH (hist ++ preparedAck _ _ _) (_ ++ [_])
    rw [hack]
    apply PH_snoc
    · exact fun k x ip hx hp => AckOK_mono (fun p hp => List.mem_append_left _ hp) (h1 k x ip hx hp)
    · intro x ip hip hp
      rw [ipOf_snoc_phase] at hip
      split at hip
      · rename_i hx
        subst hx
        rw [ipOf_snoc_vote, if_pos rfl, hip0] at hip
        simp only [Option.map_some, Option.some.injEq, hpush] at hip
        subst hip
        exact ⟨{ tx0 with votes := mInsert shard v tx0.votes, phase := .prepared },
          List.mem_append_right _ (by simp), hs0.1, hveq, hall, hyes⟩
      · exact AckOK_mono (fun p hp => List.mem_append_left _ hp) (PH_full h1 x ip hip hp)

structure Good (c : Coord) (hist : List (Nat × Tx)) : Prop where
  noRotate : c.cfg.NoRotate
  inv : Inv c
  pn : PN c
  sync : Sync c
  ph : PH hist c.log

theorem Good_fresh (cfg : Cfg) (h : cfg.NoRotate) : Good { cfg := cfg } [] where
  noRotate := h
  inv := Inv_fresh cfg
  pn := by simp [PN, mKeys]
  sync := Sync_fresh cfg []
  ph := PH_nil []

/-- what one step must respect for the file to keep its records: a restart configures a WAL whose
    size limit does not rotate, and `truncate_wal` is only called with no transaction pending (a
    checkpoint) -/
def StepKeeps (c : Coord) : Step → Prop
  | .crash _ _ cfg => cfg.NoRotate
  | .truncate => c.pending = []
  | _ => True

/-- ... along a run -/
def KeepsRecords (crc : List Nat → Nat) (ser : Entry → List Nat) (de : List Nat → Option Entry) :
    Coord → List Step → Prop
  | _, [] => True
  | c, s :: ss => StepKeeps c s ∧ KeepsRecords crc ser de (step crc ser de c s).1 ss

section Runs
variable (crc : List Nat → Nat) (ser : Entry → List Nat) (de : List Nat → Option Entry)

theorem Good_step (c : Coord) (hist : List (Nat × Tx)) (s : Step) (hg : Good c hist) (hs : StepOK crc ser de c s)
    (hk : StepKeeps c s) :
    Good (step crc ser de c s).1 (hist ++ preparedAck (step crc ser de c s).1 s (step crc ser de c s).2) := by
  have htr : s = Step.truncate → c.pending = [] := by
    intro h; subst h; exact hk
  have hI := Inv_step crc ser de c s hg.inv hs
  have hP := PN_step crc ser de c s hg.pn
  have hS := Sync_step crc ser de c s hg.noRotate hg.pn hg.sync hs htr
  by_cases hc : ∃ n now cfg, s = Step.crash n now cfg
  · obtain ⟨n, now, cfg, rfl⟩ := hc
    refine ⟨?_, hI, hP, hS, ?_⟩
    · rw [step_crash_eq crc ser de c n now cfg hs]; exact hk
    · rw [preparedAck_not_vote _ _ _ (by intro _ _ _ _ h; cases h), List.append_nil,
        step_crash_eq crc ser de c n now cfg hs]
      exact PH_take hist c.log _ hg.ph
  · have hc' : ∀ n now cfg, s ≠ Step.crash n now cfg := fun n now cfg h => hc ⟨n, now, cfg, h⟩
    refine ⟨by rw [step_cfg crc ser de c s hc']; exact hg.noRotate, hI, hP, hS, ?_⟩
    by_cases hv : ∃ id sh v x, s = Step.vote id sh v x
    · obtain ⟨id, sh, v, x, rfl⟩ := hv
      exact (recordVote_outcome _ c id sh v x).ph hg.noRotate hg.sync hg.ph x
    · have hv' : ∀ id sh v x, s ≠ Step.vote id sh v x := fun id sh v x h => hv ⟨id, sh, v, x, h⟩
      rw [preparedAck_not_vote _ _ _ hv', List.append_nil]
      by_cases ht : s = Step.truncate
      · subst ht
        exact PH_nil hist
      · obtain ⟨es, hes, hh⟩ := step_appends crc ser de c hg.noRotate s hc' ht
        rw [hes]; exact PH_append_harmless hist c.log es hg.ph (hh hv')

theorem Good_run (c : Coord) (hist : List (Nat × Tx)) (ss : List Step) (hg : Good c hist)
    (hv : Valid crc ser de c ss) (hnr : KeepsRecords crc ser de c ss) :
    Good (run crc ser de c ss) (hist ++ acks crc ser de c ss) := by
  induction ss generalizing c hist with
  | nil => simpa [run, acks] using hg
  | cons s ss ih =>
    rw [run_cons, acks, ← List.append_assoc]
    exact ih _ _ (Good_step crc ser de c hist s hg hv.1 hnr.1) hv.2 hnr.2

end Runs

theorem mem_fold_restore (vs : List (Nat × VoteKind)) (acc : List (Nat × Vote)) (s : Nat) (w : Vote)
    (h : (s, w) ∈ vs.foldl (fun m p => mInsert p.1 p.2.restore m) acc) :
    (s, w) ∈ acc ∨ ∃ k, (s, k) ∈ vs ∧ w = k.restore := by
  induction vs generalizing acc with
  | nil => exact Or.inl h
  | cons p r ih =>
    simp only [List.foldl_cons] at h
    rcases ih _ h with h | ⟨k, hk, hw⟩
    · rw [mem_mInsert] at h
      rcases h with ⟨rfl, rfl⟩ | ⟨h, _⟩
      · exact Or.inr ⟨p.2, by simp, rfl⟩
      · exact Or.inl h
    · exact Or.inr ⟨k, by simp [hk], hw⟩

theorem votes_yes_of_ack (ipv : List (Nat × VoteKind)) (tx : Tx) (hv : VotesEq ipv tx.votes)
    (hn : (mKeys ipv).Nodup) (hy : tx.allYes = true) :
    ∀ s k, (s, k) ∈ ipv → ∃ h, k = VoteKind.yes h := by
  intro s k hm
  have h1 := mLookup_of_mem_nodup ipv hn s k hm
  rw [hv s] at h1
  cases hl : mLookup s tx.votes with
  | none => rw [hl] at h1; cases h1
  | some w =>
    rw [hl] at h1
    simp only [Option.map_some, Option.some.injEq] at h1
    have hw := mLookup_some_mem s w tx.votes hl
    simp only [Tx.allYes, List.all_eq_true] at hy
    have := hy (s, w) hw
    cases w with
    | yes h => exact ⟨h, by rw [← h1]; rfl⟩
    | no => cases this
    | conflict => cases this

theorem restoreTx_allYes (x : Nat) (ip : InProg) (ph : Phase) (now : Nat)
    (hy : ∀ s k, (s, k) ∈ ip.votes → ∃ h, k = VoteKind.yes h) :
    (restoreTx ⟨x, ip.parts, ip.votes⟩ ph now).allYes = true := by
  simp only [Tx.allYes, restoreTx, List.all_eq_true]
  intro p hp
  rcases mem_fold_restore ip.votes [] p.1 p.2 hp with h | ⟨k, hk, hw⟩
  · cases h
  · obtain ⟨h, rfl⟩ := hy _ _ hk
    rw [hw]; rfl

theorem recoverMem_commits (c : Coord) (hpn : PN c) (x : Nat) (t : Tx) (now : Nat)
    (hl : mLookup x c.pending = some t) (hp : t.phase = .prepared) (hy : t.allYes = true)
    (hto : t.timedOut now = false) :
    mLookup x (recoverMem c now).1.pending = some { t with phase := .committing }
    ∧ (x, Phase.committing) ∈ pendingDecisions (recoverMem c now).1
    ∧ (completeCommit (recoverMem c now).1 x).2 = Res.ok := by
  have hm : (x, { t with phase := Phase.committing }) ∈ (recoverMem c now).1.pending := by
    simp only [recoverMem, List.mem_map, List.mem_filter]
    refine ⟨(x, t), ⟨mLookup_some_mem _ _ _ hl, by simp [Phase.final, hp]⟩, ?_⟩
    simp [recoverTx, hp, hto, hy]
  have hlk := mLookup_of_mem_nodup _ (PN_recoverMem c now hpn) x _ hm
  refine ⟨hlk, ?_, ?_⟩
  · simp only [pendingDecisions, List.mem_map, List.mem_filter]
    exact ⟨(x, { t with phase := Phase.committing }), ⟨hm, by simp⟩, rfl⟩
  · simp [completeCommit, hlk]

instance (c : Coord) (s : Step) : Decidable (StepKeeps c s) := by
  cases s <;> (unfold StepKeeps; infer_instance)

instance decKeepsRecords (crc : List Nat → Nat) (ser : Entry → List Nat) (de : List Nat → Option Entry) :
    (c : Coord) → (ss : List Step) → Decidable (KeepsRecords crc ser de c ss)
  | _, [] => isTrue trivial
  | c, s :: ss =>
    have := decKeepsRecords crc ser de (step crc ser de c s).1 ss
    by unfold KeepsRecords; infer_instance

theorem KeepsRecords_append (crc : List Nat → Nat) (ser : Entry → List Nat) (de : List Nat → Option Entry)
    (c : Coord) (a b : List Step) :
    KeepsRecords crc ser de c (a ++ b) ↔ KeepsRecords crc ser de c a ∧ KeepsRecords crc ser de (run crc ser de c a) b := by
  induction a generalizing c with
  | nil => simp [KeepsRecords, run]
  | cons s a ih =>
    simp only [List.cons_append, KeepsRecords, run_cons, ih, and_assoc]

theorem commit_noCap (sz : Entry → Nat) (c : Coord) (hcap : c.cfg.walCap = none) (id : Nat) (tx : Tx)
    (hl : mLookup id c.pending = some tx) (hp : tx.phase = .prepared) :
    (commit sz c id).2 = Res.ok ∧ Entry.txComplete id .committed ∈ (commit sz c id).1.log := by
  unfold commit
  simp only [hl, hp, ne_eq, not_true_eq_false, if_false, walApp_noCap _ _ hcap, walTry_noCap _ _ hcap,
    walTryAll_noCap _ _ hcap]
  simp

theorem abort_noCap (sz : Entry → Nat) (c : Coord) (hcap : c.cfg.walCap = none) (id : Nat) (tx : Tx)
    (hl : mLookup id c.pending = some tx) :
    (abort sz c id).2 = Res.ok ∧ Entry.txComplete id .aborted ∈ (abort sz c id).1.log := by
  unfold abort
  simp only [hl, walApp_noCap _ _ hcap]
  simp

end Neumann.TxWal
