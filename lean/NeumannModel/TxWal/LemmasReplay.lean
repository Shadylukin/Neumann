import NeumannModel.TxWal.Lemmas
/-
  Helper lemmas for `PropsReplay.lean`: the frame-length-capped replay variant (`parseCapped`,
  not the code) reads a well-formed file up to — and not including — its first record whose
  payload is longer than the cap.
-/
namespace Neumann.TxWal
open Neumann.FramedLog

variable (crc : List Nat → Nat) (dec : List Nat → Bool)

/-- one iteration of the capped loop on a well-formed frame -/
theorem parseCappedAux_cons (cap fuel : Nat) (p rest : List Nat) (hp : GoodRec crc dec p) :
    parseCappedAux cap crc dec (fuel + 1) (encodeRec crc p ++ rest)
      = if cap < p.length then ([], PEnd.torn)
        else (p :: (parseCappedAux cap crc dec fuel rest).1, (parseCappedAux cap crc dec fuel rest).2) := by
  obtain ⟨h1, h2, h3⟩ := hp
  rw [parseCappedAux]
  have hl : ¬ (encodeRec crc p ++ rest).length < 8 := by simp [encodeRec, le32]
  have e1 : (encodeRec crc p ++ rest).take 4 = le32 p.length := by simp [encodeRec, le32]
  have e2 : ((encodeRec crc p ++ rest).drop 4).take 4 = le32 (crc p) := by simp [encodeRec, le32]
  have e3 : (encodeRec crc p ++ rest).drop 8 = p ++ rest := by simp [encodeRec, le32]
  simp only [hl, if_false, e1, e2, e3, le32_rt _ h1, le32_rt _ h2]
  by_cases hc : cap < p.length
  · simp [hc]
  · simp [hc, h3]

/-- the capped loop over a whole well-formed file: the records before the first long one -/
theorem parseCappedAux_encodeAll (cap : Nat) (ps : List (List Nat)) (h : ∀ p ∈ ps, GoodRec crc dec p)
    (fuel : Nat) (hf : (encodeAll crc ps).length < fuel) :
    (parseCappedAux cap crc dec fuel (encodeAll crc ps)).1 = ps.takeWhile (fun p => decide (p.length ≤ cap))
    ∧ (parseCappedAux cap crc dec fuel (encodeAll crc ps)).2 ≠ PEnd.badCrc := by
  induction ps generalizing fuel with
  | nil =>
    cases fuel with
    | zero => simp [encodeAll, parseCappedAux]
    | succ f => simp [encodeAll, parseCappedAux]
  | cons p ps ih =>
    have henc : encodeAll crc (p :: ps) = encodeRec crc p ++ encodeAll crc ps := by simp [encodeAll]
    cases fuel with
    | zero => omega
    | succ f =>
      rw [henc] at hf ⊢
      rw [parseCappedAux_cons crc dec cap f p _ (h p (by simp))]
      have hf' : (encodeAll crc ps).length < f := by
        simp only [List.length_append, encodeRec_length] at hf; omega
      obtain ⟨i1, i2⟩ := ih (fun q hq => h q (by simp [hq])) f hf'
      by_cases hc : cap < p.length
      · have : ¬ p.length ≤ cap := by omega
        simp [hc, this]
      · have : p.length ≤ cap := by omega
        simp [hc, this, i1, i2]

theorem takeWhile_all {α : Type} (q : α → Bool) (l : List α) (h : ∀ a ∈ l, q a = true) : l.takeWhile q = l := by
  induction l with
  | nil => rfl
  | cons b l ih =>
    rw [List.takeWhile_cons, h b (by simp), if_pos rfl, ih (fun a ha => h a (by simp [ha]))]

/-- **The capped replay of a well-formed file** returns the entries before the first one whose
    payload is longer than the cap — and nothing after it. -/
theorem replayCapped_fileOf (cap : Nat) (crc : List Nat → Nat) (ser : Entry → List Nat)
    (de : List Nat → Option Entry) (L : List Entry) (h : CodecOK crc ser de L) :
    replayCapped cap crc de (fileOf crc ser L)
      = some (L.takeWhile (fun e => decide ((ser e).length ≤ cap))) := by
  unfold replayCapped fileOf parseCapped
  obtain ⟨h1, h2⟩ := parseCappedAux_encodeAll crc (fun p => (de p).isSome) cap (L.map ser) (by
    intro p hp
    simp only [List.mem_map] at hp
    obtain ⟨e, he, rfl⟩ := hp
    exact (h e he).1) _ (Nat.lt_succ_self _)
  simp only [h1, h2, if_false]
  rw [List.takeWhile_map]
  rw [filterMap_de_ser ser de _ (fun e he => (h e ((List.takeWhile_sublist _).subset he)).2)]
  rfl

/-- `open` leaves a file of complete frames as it is -/
theorem openRepair_fileOf (crc : List Nat → Nat) (ser : Entry → List Nat) (de : List Nat → Option Entry)
    (L : List Entry) (h : CodecOK crc ser de L) : openRepair (fileOf crc ser L) = fileOf crc ser L := by
  have := openRepair_take crc (L.map ser) (fileOf crc ser L).length (by
    intro p hp
    simp only [List.mem_map] at hp
    obtain ⟨e, he, rfl⟩ := hp
    exact (h e he).1.1)
  unfold fileOf at this ⊢
  rw [List.take_length] at this
  rw [this]
  have hw : wholeWithin crc (L.map ser) (encodeAll crc (L.map ser)).length = (L.map ser).length := by
    have h1 := wholeWithin_ge crc (L.map ser) (L.map ser).length (encodeAll crc (L.map ser)).length
      (Nat.le_refl _) (by rw [List.take_length]; exact Nat.le_refl _)
    have h2 := wholeWithin_le crc (L.map ser) (encodeAll crc (L.map ser)).length
    omega
  rw [hw, List.take_length]

end Neumann.TxWal
