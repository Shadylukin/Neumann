import NeumannModel.TxWal.Demo
import NeumannModel.TxWal.LemmasSync
import NeumannModel.TxWal.LemmasHandles
/-
  C13 — 2PC coordinator restart preserves every logged decision.
  ONLY the property theorems and their non-vacuity examples; helpers are in the `Lemmas*` modules.

  A *run* is any list of `Step`s (lock / begin / vote / commit / abort / complete_commit /
  complete_abort / force_resolve / cleanup_timeouts / process_pending_aborts / recover_from_wal on
  the live coordinator / recover / get_pending_decisions / truncate_wal / crash) from a fresh coordinator over an
  empty file.  `crash n now cfg'` cuts the FILE (the bytes `fileOf crc ser log`) to its first `n`
  bytes — any `n` — discards all memory, reopens with the tail repair under configuration `cfg'`
  and runs `recover_from_wal`.  `Valid` only asks that `begin` uses a fresh id and that the records
  in the file at a crash are well-formed (`CodecOK`).
  Every WAL append may FAIL: the configuration carries the size limit of the file
  (`walCap`, `autoRotate = false` ⇒ `SizeLimitExceeded`), and each call reacts to the failed write as
  the code does (`?`, `Ok(None)`, or carry on).  With `autoRotate = true` the limit rotates the
  file instead; theorems that need the log to keep its records ask for `Cfg.NoRotate` at the start
  and `KeepsRecords` along the run: every restart configures a WAL that does not rotate, and
  `truncate_wal` is called only with no transaction pending.
  The lock-handle theorems are about *counter runs* (`CounterRun`): a `lock tx h` step is a
  `try_lock` of the lock manager, so `h` is the value of the process-wide counter, and a YES vote
  carries a handle the lock table holds for the voting transaction (or one above the high-water
  mark, which no lock manager hands out).  They need neither `Valid` nor `KeepsRecords`.
-/
namespace Neumann.TxWal.Props
open Neumann.TxWal Neumann.FramedLog Neumann.TxWal.Demo

variable (crc : List Nat → Nat) (ser : Entry → List Nat) (de : List Nat → Option Entry)

/-! ### a restart sees exactly the whole records before the cut -/

/-- **Crash at any byte.** Whatever byte the file is cut at, the restarted coordinator is the one
    obtained from the log of the records lying wholly before the cut: replay never fails, never
    yields a partial, altered or reordered record, and (tail repair) the file is again a
    well-formed log, so this statement applies again to the next crash. -/
theorem restart_sees_whole_records (cfg : Cfg) (L : List Entry) (n now : Nat)
    (h : CodecOK crc ser de L) :
    restartBytes crc de cfg ((fileOf crc ser L).take n) now
      = some (restartLog cfg (L.take (wholeWithin crc (L.map ser) n)) now)
    ∧ ((fileOf crc ser L).length ≤ n → wholeWithin crc (L.map ser) n = L.length) := by
  refine ⟨restartBytes_take crc ser de cfg L n now h, fun hn => ?_⟩
  have h1 := wholeWithin_ge crc (L.map ser) (L.map ser).length n (Nat.le_refl _)
    (by rw [List.take_length]; exact hn)
  have h2 := wholeWithin_le crc (L.map ser) n
  simp only [List.length_map] at h1 h2
  omega

/-- the byte-level crash step of a run is the log-prefix restart -/
theorem crash_is_prefix_restart (c : Coord) (n now : Nat) (cfg' : Cfg) (h : CodecOK crc ser de c.log) :
    (step crc ser de c (.crash n now cfg')).1
      = restartLog cfg' (c.log.take (wholeWithin crc (c.log.map ser) n)) now := by
  rw [step_crash_eq crc ser de c n now cfg' h]

example : CodecOK Crc32.crc32 toySer toyDe demoPre.log := by decide
example : (fileOf Crc32.crc32 toySer demoPre.log).length = 91 ∧ demoPre.log.length = 10 := by decide
-- checksums switched off (`enable_checksums = false`: the stored checksum is 0 and replay skips
-- the comparison) is the instance `crc := fun _ => 0` of every theorem of this file
example : CodecOK (fun _ => 0) toySer toyDe demoPre.log := by decide

/-! ### logged outcomes are final -/

/-- **A logged outcome is never reversed.**  In every state reachable by any valid run (any mix
    of operations, WAL writes failing or the file rotating at any point, any byte cuts, any number
    of restarts under any configurations): if a `TxComplete(id, o)` record is in the log then
    (1) it is the only outcome the log holds for `id`, (2) `id` is not pending, and (3) whatever
    is called next — commit, abort, complete_*, force_resolve, cleanup_timeouts, recover,
    recover_from_wal, another crash at any byte — reports nothing about `id` (no commit, no abort,
    no timeout) and leaves no other outcome for `id` in the log.  Since this holds in *every*
    reachable state, it holds after any number of further restarts and calls, for as long as the
    record itself lies inside the surviving prefix (a record cut away by a later crash was not
    durable). -/
theorem logged_outcome_never_reversed (cfg : Cfg) (steps : List Step)
    (hv : Valid crc ser de { cfg := cfg } steps) (id : Nat) (o : Outcome)
    (hlog : Entry.txComplete id o ∈ (run crc ser de { cfg := cfg } steps).log) :
    (∀ o', Entry.txComplete id o' ∈ (run crc ser de { cfg := cfg } steps).log → o' = o)
    ∧ mLookup id (run crc ser de { cfg := cfg } steps).pending = none
    ∧ ∀ s, StepOK crc ser de (run crc ser de { cfg := cfg } steps) s →
        (∀ ev ∈ events (run crc ser de { cfg := cfg } steps) s
                  (step crc ser de (run crc ser de { cfg := cfg } steps) s).2, ev.id ≠ id)
        ∧ (∀ o', Entry.txComplete id o' ∈ (step crc ser de (run crc ser de { cfg := cfg } steps) s).1.log → o' = o) := by
  have hi := Inv_run crc ser de _ steps (Inv_fresh cfg) hv
  generalize run crc ser de { cfg := cfg } steps = c at hi hlog
  refine ⟨fun o' h => hi.oneOutcome id o' o h hlog, ?_, ?_⟩
  · apply mLookup_none_of_not_mem
    intro hk; exact hi.pendingOpen id hk ⟨o, hlog⟩
  · intro s hs
    constructor
    · intro ev hev heq
      have := events_pending crc ser de c s ev hev
      rw [heq] at this
      exact hi.pendingOpen id this ⟨o, hlog⟩
    · intro o' h'
      by_cases hc : ∃ n now cfg', s = Step.crash n now cfg'
      · obtain ⟨n, now, cfg', rfl⟩ := hc
        rw [step_crash_eq crc ser de c n now cfg' hs] at h'
        have hl : (restartLog cfg' (c.log.take (wholeWithin crc (c.log.map ser) n)) now).log
            = c.log.take (wholeWithin crc (c.log.map ser) n) := rfl
        rw [hl] at h'
        exact hi.oneOutcome id o' o (List.mem_of_mem_take h') hlog
      · have hs' : ∀ n now cfg', s ≠ Step.crash n now cfg' := fun n now cfg' h => hc ⟨n, now, cfg', h⟩
        rcases step_complete_new crc ser de c s hs' id o' h' with h | h
        · exact hi.oneOutcome id o' o h hlog
        · exact absurd ⟨o, hlog⟩ (hi.pendingOpen id h)

/-- a logged record stays in the log under every call that is not a crash or `truncate_wal`,
    unless the size limit rotates the file -/
theorem logged_record_persists (c : Coord) (hn : c.cfg.NoRotate) (s : Step) (e : Entry)
    (hs : ∀ n now cfg', s ≠ Step.crash n now cfg') (ht : s ≠ Step.truncate) (he : e ∈ c.log) :
    e ∈ (step crc ser de c s).1.log := by
  obtain ⟨es, hes⟩ := step_log_grows crc ser de c hn s hs ht
  rw [hes]; exact List.mem_append_left _ he

-- non-vacuity: the demo run (with its crash inside the commit's records) is valid, the commit's
-- TxComplete record survives the cut at byte 68, and afterwards abort / commit / cleanup report
-- nothing about transaction 1
example : Entry.txComplete 1 .committed ∈ (run Crc32.crc32 toySer toyDe { cfg := demoCfg } demoSteps).log := by
  rw [demo_run]; decide
example : (step Crc32.crc32 toySer toyDe (restartLog demoCfg (demoPre.log.take 7) 200) (.abort 1)).2
    = Res.notFound := by decide
example : (step Crc32.crc32 toySer toyDe (restartLog demoCfg (demoPre.log.take 7) 200) (.forceResolve 1 false)).2
    = Res.notFound ∧ (step Crc32.crc32 toySer toyDe (restartLog demoCfg (demoPre.log.take 7) 200) (.recoverMem 99999)).2
    = Res.recStats 0 0 0 0 0 := by decide
-- the crash really tore records away: 10 records before, 7 after
example : demoPre.log.length = 10 ∧ (restartLog demoCfg (demoPre.log.take 7) 200).log.length = 7 := by decide
example : demoCfg.NoRotate := by decide

/-- **An answer and the log agree.**  As long as the size limit does not rotate the file:
    `commit` / `abort` answer ok only with the TxComplete record of that outcome in the log, and
    when they answer anything else (not found, wrong phase, a failed WAL write at either record)
    the log holds no outcome it did not hold before — the outcome is logged before it is
    acknowledged, and a write that failed acknowledges nothing. -/
theorem outcome_answer_matches_log (c : Coord) (hn : c.cfg.NoRotate) (id : Nat) :
    ((step crc ser de c (.commit id)).2 = Res.ok →
        Entry.txComplete id .committed ∈ (step crc ser de c (.commit id)).1.log)
    ∧ ((step crc ser de c (.commit id)).2 ≠ Res.ok → ∀ x o,
        Entry.txComplete x o ∈ (step crc ser de c (.commit id)).1.log → Entry.txComplete x o ∈ c.log)
    ∧ ((step crc ser de c (.abort id)).2 = Res.ok →
        Entry.txComplete id .aborted ∈ (step crc ser de c (.abort id)).1.log)
    ∧ ((step crc ser de c (.abort id)).2 ≠ Res.ok → ∀ x o,
        Entry.txComplete x o ∈ (step crc ser de c (.abort id)).1.log → Entry.txComplete x o ∈ c.log) :=
  ⟨((commit_outcome _ c id).answer_log hn).1, ((commit_outcome _ c id).answer_log hn).2,
   ((abort_outcome _ c id).answer_log hn).1, ((abort_outcome _ c id).answer_log hn).2⟩

-- non-vacuity: on the 40-byte WAL that refuses to grow, the commit of the prepared transaction of
-- the demo (its PhaseChange does not fit) answers a WAL error
example : (step Crc32.crc32 toySer toyDe
    { (run Crc32.crc32 toySer toyDe { cfg := demoCfg } (demoSteps.take 6)) with cfg := demoFullCfg } (.commit 1)).2
    = Res.walErr := by decide

/-! ### locks -/

/-- **Completion releases the locks.**  When commit / abort / complete_commit / complete_abort /
    force_resolve succeeds for a transaction, or cleanup_timeouts times it out, every lock handle
    of a YES vote it holds in memory is gone from the lock table; `recover_from_wal` releases
    every orphaned handle it reports; and a restarted coordinator starts with an empty lock
    table. -/
theorem completed_locks_released (c : Coord) :
    (∀ s id tx, (s = Step.commit id ∨ s = Step.abort id ∨ s = Step.completeCommit id ∨ s = Step.completeAbort id
                  ∨ ∃ b, s = Step.forceResolve id b) →
        mLookup id c.pending = some tx → (step crc ser de c s).2 = Res.ok →
        ∀ h ∈ voteHandles tx.votes, ∀ t, (h, t) ∉ (step crc ser de c s).1.locks)
    ∧ (∀ now id tx, (id, tx) ∈ c.pending → tx.timedOut now = true →
        ∀ h ∈ voteHandles tx.votes, ∀ t, (h, t) ∉ (cleanupTimeouts c now).1.locks)
    ∧ (∀ now p, p ∈ (fromEntries c.log).orphaned → ∀ t, (p.2, t) ∉ (recoverFromWal c now).1.locks)
    ∧ (∀ n now cfg', CodecOK crc ser de c.log → (step crc ser de c (.crash n now cfg')).1.locks = []) := by
  refine ⟨?_, ?_, ?_, ?_⟩
  · intro s id tx hs hl hok h hh t hmem
    rw [step_ok_locks crc ser de c s id tx hs hl hok] at hmem
    exact ((mem_releaseAll _ _ _).mp hmem).2 hh
  · intro now id tx hp hto h hh t hmem
    simp only [cleanupTimeouts] at hmem
    have := ((mem_releaseAll _ _ _).mp hmem).2
    apply this
    simp only [List.mem_flatMap, List.mem_filter]
    exact ⟨(id, tx), ⟨hp, hto⟩, hh⟩
  · intro now p hp t hmem
    simp only [recoverFromWal] at hmem
    have := ((mem_releaseAll _ _ _).mp hmem).2
    apply this
    simp only [List.mem_map]
    exact ⟨p, hp, rfl⟩
  · intro n now cfg' h
    rw [step_crash_eq crc ser de c n now cfg' h]
    exact releaseAll_nil _

-- non-vacuity: before the commit of the demo run the table holds both handles, after it none
example : (run Crc32.crc32 toySer toyDe { cfg := demoCfg } (demoSteps.take 6)).locks = [(8, 1), (7, 1)]
    ∧ demoPre.locks = [] := by decide

/-! ### memory never runs ahead of the log -/

/-- **Log before state change.**  In every state reachable by any valid run — WAL writes may fail
    at any record of any call, the file may be cut at any byte, any number of restarts — whose
    configurations never rotate the file: every pending transaction is in progress in the scan of
    the log with the same participants, and what memory claims is already logged:
    Preparing in memory ⇒ Preparing in the log; Prepared in memory ⇒ Prepared in the log;
    Committing in memory ⇒ Prepared or Committing in the log (`recover()` moves Prepared to
    Committing without writing); and while the transaction is Preparing in memory, or Prepared /
    Committing in the log, the log's votes are exactly the votes memory holds (as `record_vote`
    writes them: shard ↦ YES(handle) / NO).  A transaction in a final phase is never pending. -/
theorem memory_never_ahead_of_log (cfg : Cfg) (steps : List Step) (hcfg : cfg.NoRotate)
    (hv : Valid crc ser de { cfg := cfg } steps) (hnr : KeepsRecords crc ser de { cfg := cfg } steps) (x : Nat) (tx : Tx)
    (hm : (x, tx) ∈ (run crc ser de { cfg := cfg } steps).pending) :
    ∃ ip, (x, ip) ∈ (scan (run crc ser de { cfg := cfg } steps).log).inProgress
      ∧ ip.parts = tx.parts
      ∧ (tx.phase = .preparing → ip.phase = .preparing)
      ∧ (tx.phase = .prepared → ip.phase = .prepared)
      ∧ (tx.phase = .committing → ip.phase = .prepared ∨ ip.phase = .committing)
      ∧ (tx.phase = .preparing ∨ ip.phase = .prepared ∨ ip.phase = .committing →
          ∀ s, mLookup s ip.votes = (mLookup s tx.votes).map Vote.kind)
      ∧ tx.phase ≠ .committed ∧ tx.phase ≠ .aborted := by
  have hg := Good_run crc ser de _ [] steps (Good_fresh cfg hcfg) hv hnr
  obtain ⟨ip, hip, hs⟩ := hg.sync x tx hm
  exact ⟨ip, (ipOf_iff_mem _ _ _).mp hip, hs⟩

-- non-vacuity: the demo run up to the second YES vote is valid, never rotates, and holds
-- transaction 1 as Prepared in memory
example : Valid Crc32.crc32 toySer toyDe { cfg := demoCfg } (demoSteps.take 6)
    ∧ KeepsRecords Crc32.crc32 toySer toyDe { cfg := demoCfg } (demoSteps.take 6)
    ∧ (mLookup 1 (run Crc32.crc32 toySer toyDe { cfg := demoCfg } (demoSteps.take 6)).pending).map (·.phase)
        = some .prepared := by decide
-- ... and on the 40-byte WAL that refuses to grow the same calls are a valid run in which the
-- PhaseChange -> Prepared cannot be written: `record_vote` answers Ok(None), memory holds both votes
-- and stays Preparing, the log holds the four records that fitted
example : Valid Crc32.crc32 toySer toyDe { cfg := demoFullCfg } (demoSteps.take 6) ∧ demoFullCfg.NoRotate
    ∧ KeepsRecords Crc32.crc32 toySer toyDe { cfg := demoFullCfg } (demoSteps.take 6)
    ∧ (step Crc32.crc32 toySer toyDe (run Crc32.crc32 toySer toyDe { cfg := demoFullCfg } (demoSteps.take 5))
        (.vote 1 1 (.yes 8) false)).2 = Res.phase none
    ∧ (mLookup 1 (run Crc32.crc32 toySer toyDe { cfg := demoFullCfg } (demoSteps.take 6)).pending).map
        (fun t => (t.phase, t.votes.length)) = some (.preparing, 2)
    ∧ (run Crc32.crc32 toySer toyDe { cfg := demoFullCfg } (demoSteps.take 6)).log.length = 4 := by decide

/-! ### what comes back after a restart -/

/-- **Prepared transactions come back with the votes the coordinator had accepted.**  Take any
    valid run (failing WAL writes, cuts and restarts included; no rotation), cut the file at any
    byte and restart under any configuration.  Every transaction the surviving records show as
    `Prepared` (all votes collected, no outcome) is pending again in phase `Prepared`, restored
    from exactly what the scan kept — and that is one of the acknowledgements `record_vote` gave
    during the run (`acks`: the transaction as memory held it when the call answered
    `Ok(Some(Prepared))`): same participants, the same vote for every shard, every participant
    voted and every vote YES.  The scan keeps at most one vote per shard, so `restore_tx` never
    overwrites a vote (what the pre-fix scan violated, see `rejected_vote_overwrites_witness`),
    and the restored transaction is again all-YES. -/
theorem prepared_come_back_with_votes (cfg : Cfg) (steps : List Step) (hcfg : cfg.NoRotate)
    (hv : Valid crc ser de { cfg := cfg } steps) (hnr : KeepsRecords crc ser de { cfg := cfg } steps) (n now : Nat) (cfg' : Cfg)
    (h : CodecOK crc ser de (run crc ser de { cfg := cfg } steps).log) (x : Nat) (ip : InProg)
    (hm : (x, ip) ∈ (scan ((run crc ser de { cfg := cfg } steps).log.take
            (wholeWithin crc ((run crc ser de { cfg := cfg } steps).log.map ser) n))).inProgress)
    (hp : ip.phase = .prepared) :
    mLookup x (step crc ser de (run crc ser de { cfg := cfg } steps) (.crash n now cfg')).1.pending
        = some (restoreTx ⟨x, ip.parts, ip.votes⟩ .prepared now)
    ∧ (∃ tx, (x, tx) ∈ acks crc ser de { cfg := cfg } steps ∧ ip.parts = tx.parts
          ∧ (∀ s, mLookup s ip.votes = (mLookup s tx.votes).map Vote.kind)
          ∧ tx.allVoted = true ∧ tx.allYes = true)
    ∧ (mKeys ip.votes).Nodup
    ∧ (restoreTx ⟨x, ip.parts, ip.votes⟩ .prepared now).allYes = true := by
  have hg := Good_run crc ser de _ [] steps (Good_fresh cfg hcfg) hv hnr
  generalize run crc ser de { cfg := cfg } steps = c at hg h hm
  rw [step_crash_eq crc ser de c n now cfg' h]
  have hnd := scan_votes_one_per_shard _ x ip hm
  obtain ⟨tx, h1, h2, h3, h4, h5⟩ :=
    hg.ph (wholeWithin crc (c.log.map ser) n) x ip ((ipOf_iff_mem _ _ _).mpr hm) hp
  refine ⟨restart_prepared cfg' _ now x ip hm hp, ⟨tx, by simpa using h1, h2, h3, h4, h5⟩, hnd, ?_⟩
  exact restoreTx_allYes x ip .prepared now (votes_yes_of_ack ip.votes tx h3 hnd h5)

/-- **... and can be driven to completion.**  A restored Prepared transaction can be committed
    or aborted: with a WAL that accepts the records, `commit` succeeds and logs
    `TxComplete(Committed)`, and `abort` succeeds and logs `TxComplete(Aborted)`. -/
theorem recovered_prepared_can_be_completed (c : Coord) (n now : Nat) (cfg' : Cfg)
    (h : CodecOK crc ser de c.log) (hcap : cfg'.walCap = none) (x : Nat) (ip : InProg)
    (hm : (x, ip) ∈ (scan (c.log.take (wholeWithin crc (c.log.map ser) n))).inProgress)
    (hp : ip.phase = .prepared) :
    (step crc ser de (step crc ser de c (.crash n now cfg')).1 (.commit x)).2 = Res.ok
    ∧ Entry.txComplete x .committed ∈ (step crc ser de (step crc ser de c (.crash n now cfg')).1 (.commit x)).1.log
    ∧ (step crc ser de (step crc ser de c (.crash n now cfg')).1 (.abort x)).2 = Res.ok
    ∧ Entry.txComplete x .aborted ∈ (step crc ser de (step crc ser de c (.crash n now cfg')).1 (.abort x)).1.log := by
  -- stated for an arbitrary coordinator first: the restarted one is a large term
  have key : ∀ (c1 : Coord) (tx : Tx), c1.cfg.walCap = none → mLookup x c1.pending = some tx → tx.phase = .prepared →
      (step crc ser de c1 (.commit x)).2 = Res.ok
      ∧ Entry.txComplete x .committed ∈ (step crc ser de c1 (.commit x)).1.log
      ∧ (step crc ser de c1 (.abort x)).2 = Res.ok
      ∧ Entry.txComplete x .aborted ∈ (step crc ser de c1 (.abort x)).1.log :=
    fun c1 tx hc hl hp => ⟨(commit_noCap _ c1 hc x tx hl hp).1, (commit_noCap _ c1 hc x tx hl hp).2,
      (abort_noCap _ c1 hc x tx hl).1, (abort_noCap _ c1 hc x tx hl).2⟩
  rw [step_crash_eq crc ser de c n now cfg' h]
  exact key _ _ hcap (restart_prepared cfg' _ now x ip hm hp) rfl

/-- **`recover()` decides a restored Prepared transaction by its votes.**  After the restart of
    the previous theorem, `recover()` called before the restored transaction's 5000 ms timeout
    moves it to Committing (its votes are the acknowledged all-YES votes); it is then listed by
    `get_pending_decisions()` as a commit — and not as an abort — and `complete_commit` finishes
    it. -/
theorem recovered_prepared_is_driven_to_commit (cfg : Cfg) (steps : List Step) (hcfg : cfg.NoRotate)
    (hv : Valid crc ser de { cfg := cfg } steps) (hnr : KeepsRecords crc ser de { cfg := cfg } steps) (n now : Nat) (cfg' : Cfg)
    (h : CodecOK crc ser de (run crc ser de { cfg := cfg } steps).log) (x : Nat) (ip : InProg)
    (hm : (x, ip) ∈ (scan ((run crc ser de { cfg := cfg } steps).log.take
            (wholeWithin crc ((run crc ser de { cfg := cfg } steps).log.map ser) n))).inProgress)
    (hp : ip.phase = .prepared) (now' : Nat) (hto : now' - now ≤ 5000) :
    mLookup x (recoverMem (step crc ser de (run crc ser de { cfg := cfg } steps) (.crash n now cfg')).1 now').1.pending
        = some { restoreTx ⟨x, ip.parts, ip.votes⟩ .prepared now with phase := .committing }
    ∧ (x, Phase.committing) ∈ pendingDecisions
        (recoverMem (step crc ser de (run crc ser de { cfg := cfg } steps) (.crash n now cfg')).1 now').1
    ∧ (x, Phase.aborting) ∉ pendingDecisions
        (recoverMem (step crc ser de (run crc ser de { cfg := cfg } steps) (.crash n now cfg')).1 now').1
    ∧ (completeCommit
        (recoverMem (step crc ser de (run crc ser de { cfg := cfg } steps) (.crash n now cfg')).1 now').1 x).2 = Res.ok := by
  obtain ⟨hl, _, _, hy⟩ := prepared_come_back_with_votes crc ser de cfg steps hcfg hv hnr n now cfg' h x ip hm hp
  have hg := Good_run crc ser de _ [] steps (Good_fresh cfg hcfg) hv hnr
  have hpn := PN_step crc ser de _ (.crash n now cfg') hg.pn
  generalize (step crc ser de (run crc ser de { cfg := cfg } steps) (.crash n now cfg')).1 = c1 at hl hpn
  have hnto : (restoreTx ⟨x, ip.parts, ip.votes⟩ .prepared now).timedOut now' = false := by
    simp only [Tx.timedOut, restoreTx]; exact decide_eq_false (by omega)
  obtain ⟨h1, h2, h3⟩ := recoverMem_commits c1 hpn x _ now' hl rfl hy hnto
  refine ⟨h1, h2, ?_, h3⟩
  intro hmem
  simp only [pendingDecisions, List.mem_map, List.mem_filter] at hmem
  obtain ⟨q, ⟨hq, _⟩, he⟩ := hmem
  have hpn' := PN_recoverMem c1 now' hpn
  obtain ⟨qx, qt⟩ := q
  simp only [Prod.mk.injEq] at he
  obtain ⟨rfl, hph⟩ := he
  have := mem_unique_of_nodup _ hpn' qx qt _ hq (mLookup_some_mem _ _ _ h1)
  rw [this] at hph
  cases hph

/-- **What memory holds as Prepared is durable.**  In any reachable state of a valid run (failing
    writes included, no rotation), a transaction that is Prepared in memory survives the loss of
    the process: restart on the whole file brings it back Prepared with the same participants and,
    shard by shard, the votes memory held (a Conflict vote comes back as NO, as logged). -/
theorem prepared_in_memory_is_durable (cfg : Cfg) (steps : List Step) (hcfg : cfg.NoRotate)
    (hv : Valid crc ser de { cfg := cfg } steps) (hnr : KeepsRecords crc ser de { cfg := cfg } steps) (n now : Nat) (cfg' : Cfg)
    (h : CodecOK crc ser de (run crc ser de { cfg := cfg } steps).log)
    (hn : (fileOf crc ser (run crc ser de { cfg := cfg } steps).log).length ≤ n) (x : Nat) (tx : Tx)
    (hm : (x, tx) ∈ (run crc ser de { cfg := cfg } steps).pending) (hp : tx.phase = .prepared) :
    ∃ t', mLookup x (step crc ser de (run crc ser de { cfg := cfg } steps) (.crash n now cfg')).1.pending = some t'
      ∧ t'.parts = tx.parts ∧ t'.phase = .prepared
      ∧ ∀ s, mLookup s t'.votes = (mLookup s tx.votes).map (fun v => v.kind.restore) := by
  obtain ⟨ip, hip, h0, _, h2, _, h4, _, _⟩ := memory_never_ahead_of_log crc ser de cfg steps hcfg hv hnr x tx hm
  have hw := (restart_sees_whole_records crc ser de cfg' _ n now h).2 hn
  rw [step_crash_eq crc ser de _ n now cfg' h, hw, List.take_length]
  refine ⟨_, restart_prepared cfg' _ now x ip hip (h2 hp), h0, rfl, ?_⟩
  intro s
  simp only [restoreTx]
  rw [lookup_restore ip.votes (scan_votes_one_per_shard _ x ip hip) s, h4 (Or.inr (Or.inl (h2 hp))) s]
  cases mLookup s tx.votes <;> rfl

/-- **Transactions still collecting votes are forgotten, without locks.**  After a crash at any
    byte and restart: (1) everything pending was classified by the scan of the surviving log as
    Prepared / Committing / Aborting and is restored faithfully from it — nothing in phase
    Preparing comes back; (2) a transaction for which no PhaseChange record survived (it was still
    collecting votes, or had only reached an unlogged in-memory abort) is not pending, and
    commit / abort on it answer `not found`; (3) the lock table of the new process is empty. -/
theorem preparing_forgotten_without_locks (c : Coord) (n now : Nat) (cfg' : Cfg) (h : CodecOK crc ser de c.log) :
    (∀ x tx, mLookup x (step crc ser de c (.crash n now cfg')).1.pending = some tx →
        (tx.phase = .prepared ∨ tx.phase = .committing ∨ tx.phase = .aborting)
        ∧ ∃ ip, (x, ip) ∈ (scan (c.log.take (wholeWithin crc (c.log.map ser) n))).inProgress
              ∧ tx = restoreTx ⟨x, ip.parts, ip.votes⟩ ip.phase now)
    ∧ (∀ x, (∀ f t, Entry.phaseChange x f t ∉ c.log.take (wholeWithin crc (c.log.map ser) n)) →
        mLookup x (step crc ser de c (.crash n now cfg')).1.pending = none
        ∧ (step crc ser de (step crc ser de c (.crash n now cfg')).1 (.commit x)).2 = Res.notFound
        ∧ (step crc ser de (step crc ser de c (.crash n now cfg')).1 (.abort x)).2 = Res.notFound)
    ∧ (step crc ser de c (.crash n now cfg')).1.locks = [] := by
  have hlocks := (completed_locks_released crc ser de c).2.2.2 n now cfg' h
  rw [step_crash_eq crc ser de c n now cfg' h] at hlocks ⊢
  refine ⟨?_, ?_, hlocks⟩
  · intro x tx hl
    obtain ⟨ip, hm, hph, rfl⟩ := restart_pending _ _ _ _ _ hl
    exact ⟨by simpa [restoreTx] using hph, ip, hm, rfl⟩
  · intro x hno
    have hnone : mLookup x (restartLog cfg' (c.log.take (wholeWithin crc (c.log.map ser) n)) now).pending = none := by
      cases hl : mLookup x (restartLog cfg' (c.log.take (wholeWithin crc (c.log.map ser) n)) now).pending with
      | none => rfl
      | some tx =>
        obtain ⟨ip, hm, hph, _⟩ := restart_pending _ _ _ _ _ hl
        have hne : ip.phase ≠ .preparing := by
          rcases hph with h | h | h <;> (rw [h]; decide)
        obtain ⟨f, t, hft⟩ := scan_phase_logged _ x ip hm hne
        exact absurd hft (hno f t)
    exact ⟨hnone, by simp [step, commit, hnone], by simp [step, abort, hnone]⟩

/-- **Transactions cut down in the middle of a decision come back as pending decisions.**  After a
    crash at any byte and restart, a transaction whose last surviving PhaseChange says Committing
    (the crash fell between the two records of `commit`, or the TxComplete write failed) or
    Aborting is pending again in that phase with the scan's participants and votes, is listed by
    `get_pending_decisions()` with that phase, and `complete_commit` / `complete_abort` finishes
    it. -/
theorem deciding_come_back (c : Coord) (n now : Nat) (cfg' : Cfg) (h : CodecOK crc ser de c.log)
    (x : Nat) (ip : InProg)
    (hm : (x, ip) ∈ (scan (c.log.take (wholeWithin crc (c.log.map ser) n))).inProgress)
    (hp : ip.phase = .committing ∨ ip.phase = .aborting) :
    mLookup x (step crc ser de c (.crash n now cfg')).1.pending
        = some (restoreTx ⟨x, ip.parts, ip.votes⟩ ip.phase now)
    ∧ (x, ip.phase) ∈ pendingDecisions (step crc ser de c (.crash n now cfg')).1
    ∧ (ip.phase = .committing → (completeCommit (step crc ser de c (.crash n now cfg')).1 x).2 = Res.ok)
    ∧ (ip.phase = .aborting → (completeAbort (step crc ser de c (.crash n now cfg')).1 x).2 = Res.ok) := by
  rw [step_crash_eq crc ser de c n now cfg' h]
  have hl := restart_phase cfg' _ now x ip hm (Or.inr hp)
  refine ⟨hl, ?_, ?_, ?_⟩
  · simp only [pendingDecisions, List.mem_map, List.mem_filter]
    refine ⟨(x, restoreTx ⟨x, ip.parts, ip.votes⟩ ip.phase now), ⟨mLookup_some_mem _ _ _ hl, ?_⟩, rfl⟩
    simp only [restoreTx]; exact decide_eq_true hp
  · intro hph; simp [completeCommit, hl, restoreTx, hph]
  · intro hph; simp [completeAbort, hl, restoreTx, hph]

-- non-vacuity: cut the demo file between the two records of the commit (byte 54..67): the
-- PhaseChange -> Committing survived, the TxComplete did not
example : (1, (⟨[0, 1], [(0, .yes 7), (1, .yes 8)], .committing⟩ : InProg))
    ∈ (scan (demoPre.log.take (wholeWithin Crc32.crc32 (demoPre.log.map toySer) 60))).inProgress := by decide

-- non-vacuity: cut the demo file after the PhaseChange->Prepared record (byte 45..53): transaction
-- 1 is Prepared in the surviving log and comes back with both YES votes; cut it before that record
-- (byte 40): no PhaseChange survives and the transaction is forgotten
example : (1, (⟨[0, 1], [(0, .yes 7), (1, .yes 8)], .prepared⟩ : InProg))
    ∈ (scan (demoPre.log.take (wholeWithin Crc32.crc32 (demoPre.log.map toySer) 50))).inProgress := by decide
example : ∀ f t, Entry.phaseChange 1 f t ∉ demoPre.log.take (wholeWithin Crc32.crc32 (demoPre.log.map toySer) 40) := by
  intro f t; cases f <;> cases t <;> decide
-- the run that leads to `demoPre` is valid and never rotates; its one acknowledgement is
-- transaction 1 with the two accepted YES votes (the refused duplicate NO of shard 0 is not in it)
example : Valid Crc32.crc32 toySer toyDe { cfg := demoCfg } (demoSteps.take 7)
    ∧ KeepsRecords Crc32.crc32 toySer toyDe { cfg := demoCfg } (demoSteps.take 7)
    ∧ (acks Crc32.crc32 toySer toyDe { cfg := demoCfg } (demoSteps.take 7)).map (fun p => (p.1, p.2.votes))
        = [(1, [(1, Vote.yes 8), (0, Vote.yes 7)])] := by decide
example : demoCfg.walCap = none := rfl

/-! ### rotation and truncation: outside `KeepsRecords` -/

/-- **Size-limit rotation drops in-flight transactions from recovery.**  With `auto_rotate` (the
    default) the append that exceeds `max_size_bytes` renames the current file away and starts a
    fresh one; `replay` reads only the current file.  On the 40-byte demo WAL the PhaseChange ->
    Prepared of transaction 1 rotates the file: memory holds the transaction as Prepared (and
    `record_vote` answered Prepared), the file holds that single record, and a restart on the
    whole file has forgotten the transaction.  (Known finding
    `tensor_chain.tx_wal.rotate/in_flight_transactions_dropped`: the harness reproduces it on the
    real coordinator with a small `max_size_bytes` on every run.) -/
theorem rotation_forgets_prepared_witness :
    let c := run Crc32.crc32 toySer toyDe { cfg := demoRotCfg } (demoSteps.take 6)
    (mLookup 1 c.pending).map (·.phase) = some .prepared
    ∧ c.log = [Entry.phaseChange 1 .preparing .prepared]
    ∧ mLookup 1 (restartLog demoRotCfg c.log 200).pending = none
    ∧ ¬ demoRotCfg.NoRotate := by
  decide

/-- **`truncate_wal` with a transaction pending forgets it.**  `truncate_wal()` replaces the file by
    an empty one whatever is pending (`KeepsRecords` asks for `pending = []` at that point).  After
    the demo's transaction 1 became Prepared, a truncation leaves it Prepared in memory and a
    restart on the (empty) file has forgotten it.  (Known finding
    `tensor_chain.distributed_tx.truncate_wal/in_flight_transactions_dropped`, reproduced by the
    harness on the real coordinator on every run.) -/
theorem truncate_forgets_prepared_witness :
    let c := run Crc32.crc32 toySer toyDe { cfg := demoCfg } (demoSteps.take 6 ++ [.truncate])
    (mLookup 1 c.pending).map (·.phase) = some .prepared
    ∧ c.log = []
    ∧ mLookup 1 (restartLog demoCfg c.log 200).pending = none
    ∧ Valid Crc32.crc32 toySer toyDe { cfg := demoCfg } (demoSteps.take 6 ++ [.truncate])
    ∧ ¬ KeepsRecords Crc32.crc32 toySer toyDe { cfg := demoCfg } (demoSteps.take 6 ++ [.truncate]) := by
  decide

/-! ### lock handles across a restart -/

/-- **Recovery moves the handle counter past everything it restores** (0358827a).  For every
    coordinator state and every log: after `recover_from_wal` the counter of the process is not
    below where it was, and it is above every lock handle (below the high-water mark, i.e. every
    handle a lock manager can have handed out) that the recovery carries — the YES votes of every
    transaction the scan classifies as Prepared / Committing / Aborting, which are the handles of
    the transactions it restores, and every orphaned lock. -/
theorem recovery_moves_counter_past_restored_handles (c : Coord) (now : Nat) :
    c.nextHandle ≤ (recoverFromWal c now).1.nextHandle
    ∧ (∀ x ip, (x, ip) ∈ (scan c.log).inProgress →
        ip.phase = .prepared ∨ ip.phase = .committing ∨ ip.phase = .aborting →
        ∀ h ∈ yesHandles ip.votes, h < highWater → h < (recoverFromWal c now).1.nextHandle)
    ∧ (∀ p ∈ (fromEntries c.log).orphaned, p.2 < highWater → p.2 < (recoverFromWal c now).1.nextHandle)
    ∧ (∀ x tx, (x, tx) ∈ (recoverFromWal c now).1.pending → (x, tx) ∉ c.pending →
        ∀ h ∈ voteHandles tx.votes, h < highWater → h < (recoverFromWal c now).1.nextHandle) := by
  refine ⟨recover_counter_ge c now, ?_, fun p hp hw => recover_counter_past_orphans c now p hp hw, ?_⟩
  · intro x ip hm hd h hh hw
    exact recover_counter_past_decided c now x ip ((ipOf_iff_mem _ _ _).mpr hm) hd h hh hw
  · intro x tx hm hn h hh hw
    rcases recover_pending c now x tx hm with hm' | ⟨ip, hip, hd, hsub⟩
    · exact absurd hm' hn
    · exact recover_counter_past_decided c now x ip hip hd h (hsub h hh) hw

-- non-vacuity: a new process (counter at 1) on the demo log cut after the PhaseChange -> Prepared
-- restores transaction 1 with handles 7 and 8 and moves its counter to 9; a handle above the
-- high-water mark (one no lock manager hands out) does not move it
example : (restartLog demoCfg (demoPre.log.take 5) 200).nextHandle = 9
    ∧ (mLookup 1 (restartLog demoCfg (demoPre.log.take 5) 200).pending).map (fun t => voteHandles t.votes)
        = some [8, 7] := by decide
example : (restartLog demoCfg [.txBegin 1 [0], .prepareVote 1 0 (.yes (highWater + 5)),
    .phaseChange 1 .preparing .prepared] 200).nextHandle = 1 := by decide
example : highWater = 16602069666338596449 := by decide
-- an aborted transaction leaves its lock orphaned in the log (`abort` writes no LockRelease
-- records): the restarted process starts handing out handles after it
example : (fromEntries [.txBegin 1 [0], .prepareVote 1 0 (.yes 1), .phaseChange 1 .preparing .prepared,
      .phaseChange 1 .prepared .aborting, .txComplete 1 .aborted]).orphaned = [(1, 1)]
    ∧ (restartLog demoCfg [.txBegin 1 [0], .prepareVote 1 0 (.yes 1), .phaseChange 1 .preparing .prepared,
      .phaseChange 1 .prepared .aborting, .txComplete 1 .aborted] 200).nextHandle = 2 := by decide

/-- **A handle is never handed out twice across restarts, and finishing a transaction never
    releases another transaction's lock.**  Take any run — any mix of operations, WAL writes
    failing or rotating, `truncate_wal`, crashes at any byte with restarts under any
    configurations, `recover_from_wal` on the live coordinator — that starts from a fresh
    coordinator or from a restart on ANY log, takes its locks through the lock manager
    (`try_lock` returns the value of the counter) and whose YES votes carry a handle the lock
    table holds for the voting transaction (or one above the high-water mark).  In the state it
    reaches:
    (1) the handle the next `try_lock` returns is held by nobody, is not the handle of a YES vote
        of any pending transaction, and is not a handle the log holds for a decided or pending
        transaction or as an orphaned lock (so a restart cannot bring it back either);
    (2) when commit / abort / complete_commit / complete_abort / force_resolve succeeds for a
        transaction, or cleanup_timeouts runs, every lock another transaction holds (handle below
        the high-water mark) is still in the lock table afterwards; and `recover_from_wal` called
        on the live coordinator removes only locks held for a transaction whose completion the log
        records with that lock unreleased (its orphaned locks).
    Before 0358827a a restart broke (1) and (2): `stale_handle_releases_foreign_lock_witness`. -/
theorem finishing_a_transaction_releases_only_its_own_locks (c0 : Coord) (steps : List Step)
    (h0 : (∃ cfg, c0 = { cfg := cfg }) ∨ ∃ cfg es now, c0 = restartLog cfg es now)
    (hrun : CounterRun crc ser de c0 steps) :
    ((∀ t, ((run crc ser de c0 steps).nextHandle, t) ∉ (run crc ser de c0 steps).locks)
      ∧ (∀ x tx, (x, tx) ∈ (run crc ser de c0 steps).pending →
          (run crc ser de c0 steps).nextHandle < highWater →
          (run crc ser de c0 steps).nextHandle ∉ voteHandles tx.votes)
      ∧ (∀ x ip, (x, ip) ∈ (scan (run crc ser de c0 steps).log).inProgress →
          ip.phase = .prepared ∨ ip.phase = .committing ∨ ip.phase = .aborting
            ∨ x ∈ mKeys (run crc ser de c0 steps).pending →
          (run crc ser de c0 steps).nextHandle < highWater →
          (run crc ser de c0 steps).nextHandle ∉ yesHandles ip.votes)
      ∧ (∀ p ∈ (fromEntries (run crc ser de c0 steps).log).orphaned,
          (run crc ser de c0 steps).nextHandle < highWater → p.2 ≠ (run crc ser de c0 steps).nextHandle))
    ∧ (∀ s id tx, (s = Step.commit id ∨ s = Step.abort id ∨ s = Step.completeCommit id
                    ∨ s = Step.completeAbort id ∨ ∃ b, s = Step.forceResolve id b) →
        mLookup id (run crc ser de c0 steps).pending = some tx →
        (step crc ser de (run crc ser de c0 steps) s).2 = Res.ok →
        ∀ h t, (h, t) ∈ (run crc ser de c0 steps).locks → t ≠ id → h < highWater →
          (h, t) ∈ (step crc ser de (run crc ser de c0 steps) s).1.locks)
    ∧ (∀ now h t, (h, t) ∈ (run crc ser de c0 steps).locks → h < highWater →
        (∀ id tx, (id, tx) ∈ (run crc ser de c0 steps).pending → tx.timedOut now = true → t ≠ id) →
        (h, t) ∈ (cleanupTimeouts (run crc ser de c0 steps) now).1.locks)
    ∧ (∀ now h t, (h, t) ∈ (run crc ser de c0 steps).locks → h < highWater →
        (∀ p ∈ (fromEntries (run crc ser de c0 steps).log).orphaned, p.1 ≠ t) →
        (h, t) ∈ (recoverFromWal (run crc ser de c0 steps) now).1.locks) := by
  have hi0 : HInv c0 := by
    rcases h0 with ⟨cfg, rfl⟩ | ⟨cfg, es, now, rfl⟩
    · exact HInv_fresh cfg
    · exact HInv_restartLog cfg es now
  have hi := HInv_run crc ser de c0 steps hi0 hrun
  generalize run crc ser de c0 steps = c at hi
  refine ⟨⟨?_, ?_, ?_, ?_⟩, ?_, ?_, ?_⟩
  · intro t hm
    exact Nat.lt_irrefl _ (hi.below _ t hm)
  · intro x tx hm hw hh
    exact Nat.lt_irrefl _ (hi.mem x tx hm _ hh hw).1
  · intro x ip hm hp hw hh
    have hp' : Decided ip.phase ∨ x ∈ mKeys c.pending := by
      rcases hp with h | h | h | h
      · exact Or.inl (Or.inl h)
      · exact Or.inl (Or.inr (Or.inl h))
      · exact Or.inl (Or.inr (Or.inr h))
      · exact Or.inr h
    exact Nat.lt_irrefl _ (hi.log x ip ((ipOf_iff_mem _ _ _).mpr hm) hp' _ hh hw).1
  · intro p hp hw he
    have := (hi.orph p hp (by rw [he]; exact hw)).1
    rw [he] at this
    exact Nat.lt_irrefl _ this
  · intro s id tx hs hl hok h t hm hne hw
    rw [step_ok_locks crc ser de c s id tx hs hl hok, mem_releaseAll]
    refine ⟨hm, ?_⟩
    intro hh
    exact hne ((hi.mem id tx (mLookup_some_mem _ _ _ hl) h hh hw).2 t hm)
  · intro now h t hm hw hne
    simp only [cleanupTimeouts, mem_releaseAll]
    refine ⟨hm, ?_⟩
    intro hh
    simp only [List.mem_flatMap, List.mem_filter] at hh
    obtain ⟨⟨id, tx⟩, ⟨hp, hto⟩, hin⟩ := hh
    exact hne id tx hp hto ((hi.mem id tx hp h hin hw).2 t hm)
  · intro now h t hm hw hne
    simp only [recoverFromWal, mem_releaseAll]
    refine ⟨hm, ?_⟩
    intro hh
    simp only [List.mem_map] at hh
    obtain ⟨p, hp, rfl⟩ := hh
    exact hne p hp ((hi.orph p hp hw).2 t hm).symm

-- non-vacuity: the restarted process of the example above begins transaction 2, locks for it
-- (the counter hands out 9), records its YES vote and commits the recovered transaction 1: a
-- counter run, after which transaction 2 still holds its lock
example : CounterRun Crc32.crc32 toySer toyDe (restartLog demoCfg (demoPre.log.take 5) 200)
      [.begin 2 [0] 300, .lock 2 9, .vote 2 0 (.yes 9) false, .commit 1]
    ∧ (run Crc32.crc32 toySer toyDe (restartLog demoCfg (demoPre.log.take 5) 200)
        [.begin 2 [0] 300, .lock 2 9, .vote 2 0 (.yes 9) false, .commit 1]).locks = [(9, 2)]
    ∧ (step Crc32.crc32 toySer toyDe (run Crc32.crc32 toySer toyDe (restartLog demoCfg (demoPre.log.take 5) 200)
        [.begin 2 [0] 300, .lock 2 9, .vote 2 0 (.yes 9) false]) (.commit 1)).2 = Res.ok := by decide
-- ... and a counter run from a fresh coordinator: two transactions, each voting with its own lock
example : CounterRun Crc32.crc32 toySer toyDe { cfg := demoCfg }
      [.begin 1 [0] 100, .lock 1 1, .vote 1 0 (.yes 1) false, .begin 2 [0] 100, .lock 2 2, .vote 2 0 (.yes 2) false,
       .abort 1] := by decide

/-! ### the defects the fixes removed, as concrete witnesses -/

/-- **Pre-fix `open` (append at the physical end of file).**  A log holding TxBegin is cut inside
    its record (5 of 9 bytes survive).  With the old `open` the torn bytes stay, the TxComplete
    appended afterwards is swallowed by the torn frame: replay of that file does not return the
    decision (here it fails with a checksum mismatch).  With the repairing `open` the same
    append is replayed. -/
theorem append_after_torn_tail_witness :
    replay Crc32.crc32 toyDe
        (openOld ((fileOf Crc32.crc32 toySer [Entry.txBegin 1 [0, 1]]).take 5)
          ++ encodeRec Crc32.crc32 (toySer (Entry.txComplete 1 .committed))) = none
    ∧ replay Crc32.crc32 toyDe
        (openRepair ((fileOf Crc32.crc32 toySer [Entry.txBegin 1 [0, 1]]).take 5)
          ++ encodeRec Crc32.crc32 (toySer (Entry.txComplete 1 .committed)))
        = some [Entry.txComplete 1 .committed] := by
  constructor
  · unfold replay
    rw [parse]
    decide
  · have h := restartBytes_take Crc32.crc32 toySer toyDe demoCfg [Entry.txBegin 1 [0, 1]] 5 0 (by decide)
    have hr : openRepair ((fileOf Crc32.crc32 toySer [Entry.txBegin 1 [0, 1]]).take 5) = [] := by
      unfold openRepair
      rw [validPrefixLen]
      decide
    rw [hr, List.nil_append]
    have := replay_fileOf Crc32.crc32 toySer toyDe [Entry.txComplete 1 .committed] (by decide)
    simpa [fileOf, encodeAll] using this

/-- **Pre-fix scan (every logged vote pushed).**  `record_vote` logs a vote before validating it.
    With the old scan the rejected duplicate NO of shard 0 is replayed after the accepted YES and
    `restore_tx` overwrites it: the prepared transaction comes back with a NO from shard 0 — and
    no longer knows lock handle 7.  The current scan returns the accepted votes. -/
theorem rejected_vote_overwrites_witness :
    let log := (run Crc32.crc32 toySer toyDe { cfg := demoCfg } (demoSteps.take 6)).log
    ((fromEntriesOld log).prepared.map (fun r => (restoreTx r .prepared 0).votes)) = [[(1, Vote.yes 8), (0, Vote.no)]]
    ∧ ((fromEntries log).prepared.map (fun r => (restoreTx r .prepared 0).votes)) = [[(1, Vote.yes 8), (0, Vote.yes 7)]]
    ∧ (mLookup 1 (run Crc32.crc32 toySer toyDe { cfg := demoCfg } (demoSteps.take 6)).pending).map (·.votes)
        = some [(1, Vote.yes 8), (0, Vote.yes 7)] := by
  decide

/-- **Pre-fix `recover_from_wal` (the handle counter stays where the new process started it).**
    Process 1 begins transaction 1, locks for it (the counter hands out handle 1), records its
    YES vote — Prepared, logged — and dies.  The new process starts its counter at 1 again.  With
    the old recovery transaction 1 comes back holding handle 1 while the counter still stands at
    1: transaction 2 begins, its `try_lock` is handed handle 1 too, it votes YES and is Prepared;
    committing the recovered transaction 1 then releases handle 1 — the lock table is empty
    although transaction 2 is still Prepared.  With the current recovery the counter stands at 2
    after the restart, transaction 2 is handed handle 2 and keeps its lock. -/
theorem stale_handle_releases_foreign_lock_witness :
    let c1 := run Crc32.crc32 toySer toyDe { cfg := demoCfg } [.begin 1 [0] 100, .lock 1 1, .vote 1 0 (.yes 1) false]
    let old := restartLogOld demoCfg c1.log 200
    let new := restartLog demoCfg c1.log 200
    let after := fun (c : Coord) => run Crc32.crc32 toySer toyDe c
      [.begin 2 [0] 300, .lock 2 c.nextHandle, .vote 2 0 (.yes c.nextHandle) false, .commit 1]
    CounterRun Crc32.crc32 toySer toyDe { cfg := demoCfg } [.begin 1 [0] 100, .lock 1 1, .vote 1 0 (.yes 1) false]
    ∧ c1.nextHandle = 2
    ∧ (mLookup 1 old.pending).map (fun t => (t.phase, t.votes)) = some (.prepared, [(0, Vote.yes 1)])
    ∧ old.nextHandle = 1
    ∧ (after old).locks = []
    ∧ (mLookup 2 (after old).pending).map (fun t => (t.phase, t.votes)) = some (.prepared, [(0, Vote.yes 1)])
    ∧ new.nextHandle = 2
    ∧ (after new).locks = [(2, 2)]
    ∧ (mLookup 2 (after new).pending).map (fun t => (t.phase, t.votes)) = some (.prepared, [(0, Vote.yes 2)]) := by
  decide

end Neumann.TxWal.Props
