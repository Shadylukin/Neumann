import NeumannModel.TxWal.LemmasSync
/-
  C13 — the lock-handle counter.
  `HInv` : every handle below the high-water mark that the lock table, a pending transaction's
           YES votes, or a decided / pending transaction in the scan of the log carries is below
           the counter of the current process, and the lock table holds it (if at all) for that
           very transaction.  Established by a restart on ANY log (`recover_from_wal` moves the
           counter past everything it restores, 0358827a) and preserved by every step of a run
           whose locks are taken through the counter and whose YES votes carry a handle the
           voting transaction holds.
-/
namespace Neumann.TxWal
open Neumann.FramedLog

theorem listMax_none (l : List Nat) (h : listMax l = none) : l = [] := by
  cases l with
  | nil => rfl
  | cons a t =>
    simp only [listMax] at h
    cases h' : listMax t <;> rw [h'] at h <;> simp at h

theorem listMax_ge (l : List Nat) : ∀ m, listMax l = some m → ∀ h ∈ l, h ≤ m := by
  induction l with
  | nil => intro m h; cases h
  | cons a t ih =>
    intro m hm h hh
    simp only [listMax] at hm
    cases ht : listMax t with
    | none =>
      rw [ht] at hm; cases hm
      rw [listMax_none t ht] at hh
      cases List.mem_singleton.mp hh; exact Nat.le_refl _
    | some m' =>
      rw [ht] at hm; cases hm
      rcases List.mem_cons.mp hh with rfl | hh
      · exact Nat.le_max_left _ _
      · exact Nat.le_trans (ih m' ht h hh) (Nat.le_max_right _ _)

theorem bumpCounter_gt (n : Nat) (st : Recovery) (h : Nat) (hm : h ∈ st.handles) (hw : h < highWater) :
    h < bumpCounter n st := by
  unfold bumpCounter
  have hf : h ∈ st.handles.filter (fun h => decide (h < highWater)) := by
    simp only [List.mem_filter, decide_eq_true_eq]; exact ⟨hm, hw⟩
  split
  · rename_i m hmax
    have := listMax_ge _ m hmax h hf
    have := Nat.le_max_right n (m + 1)
    omega
  · rename_i hnone
    rw [listMax_none _ hnone] at hf
    simp at hf

/-- handle `h` was handed out by this process' counter and, if the lock table holds it, it holds
    it for transaction `x` -/
def Owned (c : Coord) (x h : Nat) : Prop := h < c.nextHandle ∧ ∀ t, (h, t) ∈ c.locks → t = x

theorem Owned_mono {c c' : Coord} {x h : Nat} (hn : c.nextHandle ≤ c'.nextHandle)
    (hl : ∀ p ∈ c'.locks, p ∈ c.locks) (ho : Owned c x h) : Owned c' x h :=
  ⟨Nat.lt_of_lt_of_le ho.1 hn, fun t ht => ho.2 t (hl _ ht)⟩

/-- the handles the scan of `L` holds for decided transactions and for the transactions `pk` -/
def LogOK (L : List Entry) (pk : Nat → Prop) (ow : Nat → Nat → Prop) : Prop :=
  ∀ x ip, ipOf L x = some ip → (Decided ip.phase ∨ pk x) →
    ∀ h ∈ yesHandles ip.votes, h < highWater → ow x h

theorem LogOK_mono {L : List Entry} {pk pk' : Nat → Prop} {ow ow' : Nat → Nat → Prop}
    (hpk : ∀ x, pk' x → pk x) (how : ∀ x h, ow x h → ow' x h) (h : LogOK L pk ow) : LogOK L pk' ow' := by
  intro x ip hip hp hh hm hw
  exact how _ _ (h x ip hip (hp.imp id (hpk x)) hh hm hw)

theorem LogOK_nil (pk : Nat → Prop) (ow : Nat → Nat → Prop) : LogOK [] pk ow := by
  intro x ip hip; simp [ipOf_nil] at hip

theorem yesHandles_nil : yesHandles [] = [] := rfl

theorem ipOf_single_votes (e : Entry) (x : Nat) (ip : InProg) (h : ipOf [e] x = some ip) : ip.votes = [] := by
  rcases ipOf_snoc_some [] e x ip h with ⟨p, _, rfl⟩ | ⟨ip0, h0, _⟩
  · rfl
  · cases h0

theorem LogOK_single (e : Entry) (pk : Nat → Prop) (ow : Nat → Nat → Prop) : LogOK [e] pk ow := by
  intro x ip hip _ hh hm
  rw [ipOf_single_votes e x ip hip] at hm
  simp [yesHandles] at hm

theorem LogOK_snoc_begin {L : List Entry} {pk pk' : Nat → Prop} {ow : Nat → Nat → Prop} (y : Nat) (p : List Nat)
    (h : LogOK L pk ow) (hpk : ∀ x, pk' x → pk x ∨ x = y) : LogOK (L ++ [Entry.txBegin y p]) pk' ow := by
  intro x ip hip hp hh hm hw
  rw [ipOf_snoc_begin] at hip
  split at hip
  · cases hip; simp [yesHandles] at hm
  · rename_i hne
    refine h x ip hip ?_ hh hm hw
    rcases hp with hp | hp
    · exact Or.inl hp
    · rcases hpk x hp with hp | hp
      · exact Or.inr hp
      · exact absurd hp.symm hne

theorem yesHandles_append (a b : List (Nat × VoteKind)) : yesHandles (a ++ b) = yesHandles a ++ yesHandles b := by
  simp [yesHandles, List.filterMap_append]

theorem LogOK_snoc_vote {L : List Entry} {pk : Nat → Prop} {ow : Nat → Nat → Prop} (y s : Nat) (v : VoteKind)
    (h : LogOK L pk ow) (hv : ∀ hh, v = VoteKind.yes hh → hh < highWater → ow y hh) :
    LogOK (L ++ [Entry.prepareVote y s v]) pk ow := by
  intro x ip hip hp hh hm hw
  rcases ipOf_snoc_some L _ x ip hip with ⟨p, he, _⟩ | ⟨ip0, h0, rfl | ⟨sh, v', he, rfl⟩ | ⟨f, t, he, _⟩⟩
  · cases he
  · exact h x ip h0 hp hh hm hw
  · cases he
    rw [pushVote_phase] at hp
    unfold pushVote at hm
    split at hm
    · rcases List.mem_append.mp (yesHandles_append _ _ ▸ hm) with hm | hm
      · exact h _ ip0 h0 hp hh hm hw
      · cases v with
        | yes h' => cases List.mem_singleton.mp hm; exact hv _ rfl hw
        | no => cases hm
    · exact h _ ip0 h0 hp hh hm hw
  · cases he

theorem LogOK_snoc_phase {L : List Entry} {pk : Nat → Prop} {ow : Nat → Nat → Prop} (y : Nat) (f t : Phase)
    (h : LogOK L pk ow) (hy : pk y) : LogOK (L ++ [Entry.phaseChange y f t]) pk ow := by
  intro x ip hip hp hh hm hw
  rcases ipOf_snoc_some L _ x ip hip with ⟨p, he, _⟩ | ⟨ip0, h0, rfl | ⟨sh, v', he, _⟩ | ⟨f', t', he, rfl⟩⟩
  · cases he
  · exact h x ip h0 hp hh hm hw
  · cases he
  · cases he; exact h _ ip0 h0 (Or.inr hy) hh hm hw

theorem LogOK_snoc_complete {L : List Entry} {pk : Nat → Prop} {ow : Nat → Nat → Prop} (y : Nat) (o : Outcome)
    (h : LogOK L pk ow) : LogOK (L ++ [Entry.txComplete y o]) pk ow := by
  intro x ip hip hp hh hm hw
  rw [ipOf_snoc_complete] at hip
  split at hip
  · cases hip
  · exact h x ip hip hp hh hm hw

theorem LogOK_snoc_inert {L : List Entry} {pk : Nat → Prop} {ow : Nat → Nat → Prop} (e : Entry) (he : Inert e)
    (h : LogOK L pk ow) : LogOK (L ++ [e]) pk ow := by
  intro x ip hip
  rw [ipOf_snoc_inert L e he] at hip
  exact h x ip hip

theorem LogOK_walApp {sz : Entry → Nat} {cfg : Cfg} {L L' : List Entry} {e : Entry} {pk : Nat → Prop}
    {ow : Nat → Nat → Prop} (ha : walApp sz cfg L e = some L') (h : LogOK (L ++ [e]) pk ow) : LogOK L' pk ow :=
  walApp_keeps (P := fun l => LogOK l pk ow) ha h (LogOK_single e pk ow)

theorem LogOK_walTryAll_inert (sz : Entry → Nat) (cfg : Cfg) (L es : List Entry) {pk : Nat → Prop}
    {ow : Nat → Nat → Prop} (he : ∀ e ∈ es, Inert e) (h : LogOK L pk ow) : LogOK (walTryAll sz cfg L es) pk ow :=
  walTryAll_keeps (P := fun l => LogOK l pk ow) (fun _ e he h => LogOK_snoc_inert e he h) (fun e _ => LogOK_single e pk ow) sz cfg L es he h

theorem mem_orphans (s : Scan) (q : Nat × Nat) :
    q ∈ orphans s ↔ ∃ hs, (q.1, hs) ∈ s.completedHandles ∧ q.1 ∉ s.fullyReleased ∧ q.2 ∈ hs ∧ (q.1, q.2) ∉ s.released := by
  unfold orphans
  simp only [List.mem_flatMap]
  constructor
  · rintro ⟨⟨x, hs⟩, hp, hq⟩
    split at hq
    · simp at hq
    · rename_i hf
      simp only [List.mem_map, List.mem_filter, decide_eq_true_eq] at hq
      obtain ⟨h, ⟨hh, hr⟩, rfl⟩ := hq
      exact ⟨hs, hp, hf, hh, hr⟩
  · rintro ⟨hs, hp, hf, hh, hr⟩
    refine ⟨(q.1, hs), hp, ?_⟩
    simp only [hf, if_false, List.mem_map, List.mem_filter, decide_eq_true_eq]
    exact ⟨q.2, ⟨hh, hr⟩, rfl⟩

theorem orphans_scanStep_other (s : Scan) (e : Entry) (he : NotComplete e) :
    ∀ q ∈ orphans (scanStep s e), q ∈ orphans s := by
  intro q hq
  cases e with
  | txBegin | prepareVote | phaseChange | abortIntent => exact hq
  | txComplete y o => exact absurd rfl (he y o)
  | lockRelease y h =>
    rw [mem_orphans] at hq ⊢
    obtain ⟨hs, h1, h2, h3, h4⟩ := hq
    simp only [scanStep, List.mem_cons, not_or] at h1 h2 h4
    exact ⟨hs, h1, h2, h3, h4.2⟩
  | allLocksReleased y =>
    rw [mem_orphans] at hq ⊢
    obtain ⟨hs, h1, h2, h3, h4⟩ := hq
    simp only [scanStep, List.mem_cons, not_or] at h1 h2 h4
    exact ⟨hs, h1, h2.2, h3, h4⟩

/-- a TxComplete record orphans (at most) the YES handles the scan holds for that transaction -/
theorem orphans_scanComplete (s : Scan) (y : Nat) :
    ∀ q ∈ orphans (scanComplete s y), q ∈ orphans s ∨
      (q.1 = y ∧ ∃ ip, mLookup y s.inProgress = some ip ∧ q.2 ∈ yesHandles ip.votes) := by
  intro q hq
  rw [mem_orphans] at hq
  obtain ⟨hs, h1, h2, h3, h4⟩ := hq
  have hf : (scanComplete s y).fullyReleased = s.fullyReleased := rfl
  have hr : (scanComplete s y).released = s.released := rfl
  rw [hf] at h2; rw [hr] at h4
  have hold : (q.1, hs) ∈ s.completedHandles → q ∈ orphans s :=
    fun h => (mem_orphans s q).mpr ⟨hs, h, h2, h3, h4⟩
  unfold scanComplete at h1
  simp only at h1
  split at h1
  · rename_i ip hip
    split at h1
    · exact Or.inl (hold h1)
    · rw [mem_mInsert] at h1
      rcases h1 with ⟨hy, rfl⟩ | ⟨h1, _⟩
      · exact Or.inr ⟨hy, ip, hip, h3⟩
      · exact Or.inl (hold h1)
  · exact Or.inl (hold h1)

def OrphOK (L : List Entry) (ow : Nat → Nat → Prop) : Prop :=
  ∀ p ∈ orphans (scan L), p.2 < highWater → ow p.1 p.2

theorem OrphOK_mono {L : List Entry} {ow ow' : Nat → Nat → Prop} (how : ∀ x h, ow x h → ow' x h)
    (h : OrphOK L ow) : OrphOK L ow' := fun p hp hw => how _ _ (h p hp hw)

theorem OrphOK_nil (ow : Nat → Nat → Prop) : OrphOK [] ow := by
  intro p hp; simp [scan, orphans] at hp

theorem OrphOK_single (e : Entry) (ow : Nat → Nat → Prop) : OrphOK [e] ow := by
  intro p hp
  have : orphans (scan [e]) = [] := by cases e <;> rfl
  rw [this] at hp; simp at hp

theorem OrphOK_snoc_other {L : List Entry} {ow : Nat → Nat → Prop} (e : Entry) (he : NotComplete e)
    (h : OrphOK L ow) : OrphOK (L ++ [e]) ow := by
  intro p hp hw
  rw [scan_snoc] at hp
  exact h p (orphans_scanStep_other _ e he p hp) hw

theorem OrphOK_snoc_complete {L : List Entry} {ow : Nat → Nat → Prop} (y : Nat) (o : Outcome)
    (h : OrphOK L ow) (hy : ∀ ip, ipOf L y = some ip → ∀ hh ∈ yesHandles ip.votes, hh < highWater → ow y hh) :
    OrphOK (L ++ [Entry.txComplete y o]) ow := by
  intro p hp hw
  rw [scan_snoc] at hp
  rcases orphans_scanComplete _ y p hp with hp | ⟨hpy, ip, hip, hin⟩
  · exact h p hp hw
  · rw [hpy]; exact hy ip hip p.2 hin hw

theorem OrphOK_walApp_other {sz : Entry → Nat} {cfg : Cfg} {L L' : List Entry} {e : Entry} {ow : Nat → Nat → Prop}
    (ha : walApp sz cfg L e = some L') (he : NotComplete e) (h : OrphOK L ow) : OrphOK L' ow :=
  walApp_keeps (P := fun l => OrphOK l ow) ha (OrphOK_snoc_other e he h) (OrphOK_single e ow)

theorem OrphOK_walTryAll_other (sz : Entry → Nat) (cfg : Cfg) (L es : List Entry) {ow : Nat → Nat → Prop}
    (he : ∀ e ∈ es, NotComplete e) (h : OrphOK L ow) : OrphOK (walTryAll sz cfg L es) ow :=
  walTryAll_keeps (P := fun l => OrphOK l ow) (fun _ e he h => OrphOK_snoc_other e he h) (fun e _ => OrphOK_single e ow) sz cfg L es he h

structure HInv (c : Coord) : Prop where
  /-- every handle in the lock table was handed out by the counter -/
  below : ∀ h t, (h, t) ∈ c.locks → h < c.nextHandle
  /-- a handle is held for one transaction -/
  uniq : ∀ h t t', (h, t) ∈ c.locks → (h, t') ∈ c.locks → t = t'
  /-- handles of the YES votes of pending transactions -/
  mem : ∀ x tx, (x, tx) ∈ c.pending → ∀ h ∈ voteHandles tx.votes, h < highWater → Owned c x h
  /-- handles of the decided / pending transactions in the scan of the log -/
  log : LogOK c.log (fun x => x ∈ mKeys c.pending) (Owned c)
  /-- handles of the orphaned locks in the scan of the log (completed, LockRelease not logged) -/
  orph : OrphOK c.log (Owned c)

theorem HInv_fresh (cfg : Cfg) : HInv { cfg := cfg } where
  below := by intro h t hm; simp at hm
  uniq := by intro h t t' hm; simp at hm
  mem := by intro x tx hm; simp at hm
  log := LogOK_nil _ _
  orph := OrphOK_nil _

theorem HInv_of (c c' : Coord) (hi : HInv c) (hn : c.nextHandle ≤ c'.nextHandle)
    (hl : ∀ p ∈ c'.locks, p ∈ c.locks)
    (hp : ∀ x tx, (x, tx) ∈ c'.pending → ∀ h ∈ voteHandles tx.votes, h < highWater → Owned c x h)
    (hlog : LogOK c'.log (fun x => x ∈ mKeys c'.pending) (Owned c))
    (horph : OrphOK c'.log (Owned c)) : HInv c' where
  below := fun h t hm => Nat.lt_of_lt_of_le (hi.below h t (hl _ hm)) hn
  uniq := fun h t t' h1 h2 => hi.uniq h t t' (hl _ h1) (hl _ h2)
  mem := fun x tx hm h hh hw => Owned_mono hn hl (hp x tx hm h hh hw)
  log := LogOK_mono (fun _ h => h) (fun _ _ ho => Owned_mono hn hl ho) hlog
  orph := OrphOK_mono (fun _ _ ho => Owned_mono hn hl ho) horph

theorem releaseAll_sub (hs : List Nat) (l : List (Nat × Nat)) : ∀ p ∈ releaseAll hs l, p ∈ l :=
  fun p hp => ((mem_releaseAll hs l p).mp hp).1

/-- side conditions of the counter: `try_lock` returns the value of the counter, and a YES vote
    carries a handle the lock table holds for the voting transaction (as `handle_prepare` takes it)
    or one no lock manager hands out -/
def VoteOwn (c : Coord) (id : Nat) : Vote → Prop
  | .yes h => highWater ≤ h ∨ (h, id) ∈ c.locks
  | _ => True

def CounterOK (c : Coord) : Step → Prop
  | .lock _ h => h = c.nextHandle
  | .vote id _ v _ => VoteOwn c id v
  | _ => True

def CounterRun (crc : List Nat → Nat) (ser : Entry → List Nat) (de : List Nat → Option Entry) :
    Coord → List Step → Prop
  | _, [] => True
  | c, s :: ss => CounterOK c s ∧ CounterRun crc ser de (step crc ser de c s).1 ss

theorem Owned_lock {c : Coord} (tx : Nat) {x h : Nat} (ho : Owned c x h) :
    Owned (lockAcquire c tx c.nextHandle).1 x h := by
  refine ⟨Nat.lt_succ_of_lt ho.1, fun t' ht' => ?_⟩
  rcases List.mem_cons.mp ht' with he | ht'
  · cases he; exact absurd ho.1 (Nat.lt_irrefl _)
  · exact ho.2 t' ht'

theorem HInv_lock (c : Coord) (tx : Nat) (hi : HInv c) : HInv (lockAcquire c tx c.nextHandle).1 where
  below := by
    intro h t hm
    rcases List.mem_cons.mp hm with he | hm
    · cases he; exact Nat.lt_succ_self _
    · exact Nat.lt_succ_of_lt (hi.below h t hm)
  uniq := by
    intro h t t' h1 h2
    rcases List.mem_cons.mp h1 with e1 | h1 <;> rcases List.mem_cons.mp h2 with e2 | h2
    · cases e1; cases e2; rfl
    · cases e1; exact absurd (hi.below _ _ h2) (Nat.lt_irrefl _)
    · cases e2; exact absurd (hi.below _ _ h1) (Nat.lt_irrefl _)
    · exact hi.uniq h t t' h1 h2
  mem := fun x t hm h hh hw => Owned_lock tx (hi.mem x t hm h hh hw)
  log := LogOK_mono (fun _ h => h) (fun _ _ => Owned_lock tx) hi.log
  orph := OrphOK_mono (fun _ _ => Owned_lock tx) hi.orph

theorem BeginOutcome.hinv {sz : Entry → Nat} {c : Coord} {id : Nat} {parts : List Nat} {now : Nat}
    {r : Coord × Res} (ho : BeginOutcome sz c id parts now r) (hi : HInv c) : HInv r.1 := by
  cases ho with
  | refused => exact hi
  | begun ha =>
    refine HInv_of c _ hi (Nat.le_refl _) (fun _ h => h) ?_ ?_
      (OrphOK_walApp_other ha (fun _ _ he => by cases he) hi.orph)
    · intro x tx hm h hh hw
      rcases (mem_mInsert _ _ _ _ _).mp hm with ⟨_, rfl⟩ | ⟨hm, _⟩
      · cases hh
      · exact hi.mem x tx hm h hh hw
    · refine LogOK_walApp ha (LogOK_snoc_begin id parts hi.log ?_)
      intro x hx
      rcases (mem_mKeys_mInsert _ _ _ _).mp hx with rfl | ⟨hx, _⟩
      · exact Or.inr rfl
      · exact Or.inl hx

theorem voteHandles_mInsert (shard : Nat) (v : Vote) (vs : List (Nat × Vote)) (h : Nat)
    (hh : h ∈ voteHandles (mInsert shard v vs)) : v = .yes h ∨ h ∈ voteHandles vs := by
  obtain ⟨p, hp, hq⟩ := List.mem_filterMap.mp hh
  rcases List.mem_cons.mp hp with rfl | hp
  · left
    cases v with
    | yes h' => cases hq; rfl
    | no => cases hq
    | conflict => cases hq
  · exact Or.inr (List.mem_filterMap.mpr ⟨p, (List.mem_filter.mp hp).1, hq⟩)

theorem VoteOutcome.hinv {sz : Entry → Nat} {c : Coord} {id shard : Nat} {v : Vote} {r : Coord × Res}
    (ho : VoteOutcome sz c id shard v r) (hi : HInv c) (hv : VoteOwn c id v) : HInv r.1 := by
  -- the handle of the vote is the voting transaction's
  have hown : ∀ h, v = .yes h → h < highWater → Owned c id h := by
    intro h he hw
    subst he
    rcases hv with hv | hv
    · omega
    · exact ⟨hi.below _ _ hv, fun t ht => hi.uniq _ _ _ ht hv⟩
  have vote : ∀ {l}, walApp sz c.cfg c.log (.prepareVote id shard v.kind) = some l →
      LogOK l (fun x => x ∈ mKeys c.pending) (Owned c) ∧ OrphOK l (Owned c) := by
    intro l ha
    refine ⟨LogOK_walApp ha (LogOK_snoc_vote id shard v.kind hi.log ?_),
      OrphOK_walApp_other ha (fun _ _ he => by cases he) hi.orph⟩
    intro h he hw
    apply hown h _ hw
    cases v <;> simp [Vote.kind] at he ⊢
    exact he
  -- memory afterwards: what was pending ...
  have same : ∀ (l' : List Entry), LogOK l' (fun x => x ∈ mKeys c.pending) (Owned c) ∧ OrphOK l' (Owned c) →
      HInv { c with log := l' } :=
    fun l' hl' => HInv_of c _ hi (Nat.le_refl _) (fun _ h => h) hi.mem hl'.1 hl'.2
  -- ... or with `id` holding the new vote as well
  have voted : ∀ (l' : List Entry) {tx : Tx} (t' : Tx) (pa : List (Nat × (String × List Nat))),
      mLookup id c.pending = some tx → t'.votes = mInsert shard v tx.votes →
      LogOK l' (fun x => x ∈ mKeys c.pending) (Owned c) ∧ OrphOK l' (Owned c) →
      HInv { c with log := l', pending := mInsert id t' c.pending, pendingAborts := pa } := by
    intro l' tx t' pa hl ht' hl'
    refine HInv_of c _ hi (Nat.le_refl _) (fun _ h => h) ?_ ?_ hl'.2
    · intro y t hm h hh hw
      rcases (mem_mInsert _ _ _ _ _).mp hm with ⟨rfl, rfl⟩ | ⟨hm, _⟩
      · rcases voteHandles_mInsert shard v tx.votes h (ht' ▸ hh) with he | hin
        · exact hown h he hw
        · exact hi.mem _ tx (mLookup_some_mem _ _ _ hl) h hin hw
      · exact hi.mem y t hm h hh hw
    · exact LogOK_mono (fun y hy => keys_insert_existing _ _ _ _ _ hl hy) (fun _ _ h => h) hl'.1
  cases ho with
  | unlogged => exact hi
  | unknown ha | wrongPhase ha | duplicate ha => exact same _ (vote ha)
  | collecting ha hl | aborting ha hl => exact voted _ _ _ hl rfl (vote ha)
  | prepared ha hl _ _ _ _ ha2 =>
    refine voted _ _ _ hl rfl ⟨?_, OrphOK_walApp_other ha2 (fun _ _ he => by cases he) (vote ha).2⟩
    exact LogOK_walApp ha2 (LogOK_snoc_phase id _ _ (vote ha).1 (mLookup_some_mem_keys _ _ _ hl))

theorem inert_release (id h : Nat) : Inert (Entry.lockRelease id h) := by simp [Inert]

theorem EndOutcome.hinv {sz : Entry → Nat} {c : Coord} {id : Nat} {ph : Phase} {o : Outcome}
    {trail : Tx → List Entry} {r : Coord × Res} (ho : EndOutcome sz c id ph o trail r)
    (hi : HInv c) : HInv r.1 := by
  -- after the PhaseChange: the scan holds the same handles for the same transactions
  have phase : ∀ {tx : Tx} {l1}, mLookup id c.pending = some tx →
      walApp sz c.cfg c.log (.phaseChange id tx.phase ph) = some l1 →
      LogOK l1 (fun x => x ∈ mKeys c.pending) (Owned c) ∧ OrphOK l1 (Owned c) :=
    fun hl ha1 => ⟨LogOK_walApp ha1 (LogOK_snoc_phase id _ _ hi.log (mLookup_some_mem_keys _ _ _ hl)),
      OrphOK_walApp_other ha1 (fun _ _ he => by cases he) hi.orph⟩
  cases ho with
  | refused => exact hi
  | @halfway tx l1 hl _ ha1 _ =>
    refine HInv_of c _ hi (Nat.le_refl _) (fun _ h => h) ?_ ?_ (phase hl ha1).2
    · intro y t hm h hh hw
      rcases (mem_mInsert _ _ _ _ _).mp hm with ⟨rfl, rfl⟩ | ⟨hm, _⟩
      · exact hi.mem _ tx (mLookup_some_mem _ _ _ hl) h hh hw
      · exact hi.mem y t hm h hh hw
    · exact LogOK_mono (fun y hy => keys_insert_existing _ _ _ _ _ hl hy) (fun _ _ h => h) (phase hl ha1).1
  | @done tx l1 l2 hl ha1 ha2 htr =>
    obtain ⟨hl1, ho1⟩ := phase hl ha1
    -- the TxComplete orphans the handles the scan held for `id`, which `id` owns
    have ho2 : OrphOK l2 (Owned c) := walApp_keeps (P := fun l => OrphOK l (Owned c)) ha2
      (OrphOK_snoc_complete id o ho1
        (fun ip hip hh hin hw => hl1 id ip hip (Or.inr (mLookup_some_mem_keys _ _ _ hl)) hh hin hw))
      (OrphOK_single _ _)
    refine HInv_of c _ hi (Nat.le_refl _) (releaseAll_sub _ _) ?_ ?_ ?_
    · intro y t hm h hh hw
      exact hi.mem y t ((mem_mErase _ _ _ _).mp hm).1 h hh hw
    · refine LogOK_mono (fun y hy => ((mem_mKeys_mErase _ _ _).mp hy).1) (fun _ _ h => h) ?_
      exact LogOK_walTryAll_inert sz c.cfg _ _ htr (LogOK_walApp ha2 (LogOK_snoc_complete id _ hl1))
    · exact OrphOK_walTryAll_other sz c.cfg _ _ (fun e he => notComplete_of_inert e (htr e he)) ho2

theorem HInv_drop (c c' : Coord) (hi : HInv c) (hn : c'.nextHandle = c.nextHandle) (hlog : c'.log = c.log)
    (hl : ∀ p ∈ c'.locks, p ∈ c.locks)
    (hp : ∀ x tx, (x, tx) ∈ c'.pending → ∃ tx0, (x, tx0) ∈ c.pending ∧ tx.votes = tx0.votes) : HInv c' := by
  refine HInv_of c c' hi (by rw [hn]; exact Nat.le_refl _) hl ?_ ?_ (by rw [hlog]; exact hi.orph)
  · intro x tx hm h hh hw
    obtain ⟨tx0, h0, hv⟩ := hp x tx hm
    rw [hv] at hh
    exact hi.mem x tx0 h0 h hh hw
  · rw [hlog]
    refine LogOK_mono ?_ (fun _ _ h => h) hi.log
    intro y hy
    simp only [mKeys, List.mem_map] at hy
    obtain ⟨⟨y', t⟩, hm, rfl⟩ := hy
    obtain ⟨tx0, h0, _⟩ := hp y' t hm
    exact mem_keys_of_mem _ _ _ h0

theorem DropOutcome.hinv {c : Coord} {id : Nat} {r : Coord × Res} (ho : DropOutcome c id r) (hi : HInv c) :
    HInv r.1 := by
  cases ho with
  | refused => exact hi
  | dropped =>
    exact HInv_drop c _ hi rfl rfl (releaseAll_sub _ _) (fun x tx hm => ⟨tx, ((mem_mErase _ _ _ _).mp hm).1, rfl⟩)

theorem recoverTx_votes (now : Nat) (t : Tx) : (recoverTx now t).votes = t.votes := by
  unfold recoverTx
  split
  · split <;> rfl
  · split
    · rfl
    · split <;> rfl
  · rfl

theorem voteHandles_restore (vs : List (Nat × VoteKind)) (h : Nat)
    (hh : h ∈ voteHandles (vs.foldl (fun m p => mInsert p.1 p.2.restore m) [])) : h ∈ yesHandles vs := by
  simp only [voteHandles, List.mem_filterMap] at hh
  obtain ⟨⟨s, w⟩, hm, hq⟩ := hh
  rcases mem_fold_restore vs [] s w hm with hm | ⟨k, hk, rfl⟩
  · simp at hm
  · simp only [yesHandles, List.mem_filterMap]
    refine ⟨(s, k), hk, ?_⟩
    cases k <;> simp [VoteKind.restore] at hq ⊢
    exact hq

theorem recover_pending (c : Coord) (now : Nat) (x : Nat) (tx : Tx)
    (hm : (x, tx) ∈ (recoverFromWal c now).1.pending) :
    (x, tx) ∈ c.pending ∨ ∃ ip, ipOf c.log x = some ip ∧ Decided ip.phase ∧
      ∀ h ∈ voteHandles tx.votes, h ∈ yesHandles ip.votes := by
  rcases mem_recover c now x tx hm with hm | ⟨ip, hip, hd, rfl⟩
  · exact Or.inl hm
  · exact Or.inr ⟨ip, (ipOf_iff_mem _ _ _).mpr hip, hd, fun h hh => voteHandles_restore _ h hh⟩

/-- **the fix**: after `recover_from_wal` the counter is past every handle (below the high-water
    mark) of every decided transaction in the scan of the log -/
theorem recover_counter_past_decided (c : Coord) (now : Nat) (x : Nat) (ip : InProg)
    (hip : ipOf c.log x = some ip) (hd : Decided ip.phase) (h : Nat) (hh : h ∈ yesHandles ip.votes)
    (hw : h < highWater) : h < (recoverFromWal c now).1.nextHandle := by
  simp only [recoverFromWal]
  apply bumpCounter_gt _ _ h _ hw
  have hmem := (ipOf_iff_mem _ _ _).mp hip
  have hr : (⟨x, ip.parts, ip.votes⟩ : RecTx) ∈ classify (scan c.log).inProgress ip.phase :=
    (mem_classify _ _ _).mpr ⟨ip, hmem, rfl, rfl, rfl⟩
  simp only [Recovery.handles, fromEntries, recoveryOf, List.mem_append, List.mem_flatMap]
  left
  refine ⟨⟨x, ip.parts, ip.votes⟩, ?_, hh⟩
  rcases hd with hd | hd | hd <;> rw [hd] at hr
  · exact Or.inl (Or.inl hr)
  · exact Or.inl (Or.inr hr)
  · exact Or.inr hr

theorem recover_counter_past_orphans (c : Coord) (now : Nat) (p : Nat × Nat)
    (hp : p ∈ (fromEntries c.log).orphaned) (hw : p.2 < highWater) :
    p.2 < (recoverFromWal c now).1.nextHandle := by
  simp only [recoverFromWal]
  apply bumpCounter_gt _ _ p.2 _ hw
  simp only [Recovery.handles, List.mem_append, List.mem_map]
  exact Or.inr ⟨p, hp, rfl⟩

theorem recover_counter_ge (c : Coord) (now : Nat) : c.nextHandle ≤ (recoverFromWal c now).1.nextHandle := by
  simp only [recoverFromWal, bumpCounter]
  split
  · exact Nat.le_max_left _ _
  · exact Nat.le_refl _

theorem recover_locks_sub (c : Coord) (now : Nat) : ∀ p ∈ (recoverFromWal c now).1.locks, p ∈ c.locks := by
  simp only [recoverFromWal]; exact releaseAll_sub _ _

theorem recover_owned (c : Coord) (now : Nat) {ow : Nat → Nat → Prop}
    (hdec : ∀ x ip, ipOf c.log x = some ip → Decided ip.phase → ∀ h ∈ yesHandles ip.votes, h < highWater → ow x h)
    (hmem : ∀ x tx, (x, tx) ∈ c.pending → ∀ h ∈ voteHandles tx.votes, h < highWater → ow x h)
    (hlog : ∀ x ip, ipOf c.log x = some ip → x ∈ mKeys c.pending →
      ∀ h ∈ yesHandles ip.votes, h < highWater → ow x h) :
    (∀ x tx, (x, tx) ∈ (recoverFromWal c now).1.pending → ∀ h ∈ voteHandles tx.votes, h < highWater → ow x h)
    ∧ LogOK c.log (fun x => x ∈ mKeys (recoverFromWal c now).1.pending) ow := by
  refine ⟨fun x tx hm h hh hw => ?_, fun x ip hip hp h hh hw => ?_⟩
  · rcases recover_pending c now x tx hm with hm | ⟨ip, hip, hd, hsub⟩
    · exact hmem x tx hm h hh hw
    · exact hdec x ip hip hd h (hsub h hh) hw
  · rcases hp with hd | hk
    · exact hdec x ip hip hd h hh hw
    · obtain ⟨⟨y, t⟩, hm, rfl⟩ := List.mem_map.mp hk
      rcases recover_pending c now y t hm with hm | ⟨ip', hip', hd, _⟩
      · exact hlog y ip hip (mem_keys_of_mem _ _ _ hm) h hh hw
      · cases hip.symm.trans hip'
        exact hdec y ip hip hd h hh hw

theorem HInv_recover (c : Coord) (now : Nat) (hi : HInv c) : HInv (recoverFromWal c now).1 :=
  have ho := recover_owned c now (fun x ip hip hd => hi.log x ip hip (Or.inl hd)) hi.mem
    (fun x ip hip hk => hi.log x ip hip (Or.inr hk))
  HInv_of c _ hi (recover_counter_ge c now) (recover_locks_sub c now) ho.1 ho.2 hi.orph

theorem releaseAll_nil (hs : List Nat) : releaseAll hs [] = [] := by
  unfold releaseAll
  induction hs with
  | nil => rfl
  | cons a hs ih => simpa [release] using ih

theorem HInv_restartLog (cfg : Cfg) (es : List Entry) (now : Nat) : HInv (restartLog cfg es now) := by
  have hlocks : (restartLog cfg es now).locks = [] := releaseAll_nil _
  have free : ∀ {x h : Nat}, h < (restartLog cfg es now).nextHandle → Owned (restartLog cfg es now) x h :=
    fun hlt => ⟨hlt, fun t ht => by rw [hlocks] at ht; cases ht⟩
  have ho := recover_owned { cfg := cfg, log := es } now (ow := Owned (restartLog cfg es now))
    (fun x ip hip hd h hh hw => free (recover_counter_past_decided { cfg := cfg, log := es } now x ip hip hd h hh hw))
    (fun _ _ hm => nomatch hm) (fun _ _ _ hk => nomatch hk)
  exact {
    below := by intro h t hm; rw [hlocks] at hm; cases hm
    uniq := by intro h t t' hm; rw [hlocks] at hm; cases hm
    mem := ho.1
    log := ho.2
    orph := fun p hp hw => free (recover_counter_past_orphans { cfg := cfg, log := es } now p hp hw) }

section Runs
variable (crc : List Nat → Nat) (ser : Entry → List Nat) (de : List Nat → Option Entry)

theorem HInv_step (c : Coord) (s : Step) (hi : HInv c) (hs : CounterOK c s) : HInv (step crc ser de c s).1 := by
  cases s with
  | lock tx h =>
    have : h = c.nextHandle := hs
    subst this
    exact HInv_lock c tx hi
  | «begin» id parts now => exact (begin_outcome _ c id parts now).hinv hi
  | vote id shard v x => exact (recordVote_outcome _ c id shard v x).hinv hi hs
  | commit id => exact (commit_outcome _ c id).hinv hi
  | abort id => exact (abort_outcome _ c id).hinv hi
  | completeCommit id => exact (completeCommit_outcome c id).hinv hi
  | completeAbort id => exact (completeAbort_outcome c id).hinv hi
  | cleanup now =>
    exact HInv_drop c _ hi rfl rfl (releaseAll_sub _ _) (fun x tx hm => ⟨tx, (List.mem_filter.mp hm).1, rfl⟩)
  | flushAborts =>
    have hin := inert_intents c.pendingAborts
    exact HInv_of c _ hi (Nat.le_refl _) (fun _ h => h) hi.mem (LogOK_walTryAll_inert _ c.cfg _ _ hin hi.log)
      (OrphOK_walTryAll_other _ c.cfg _ _ (fun e he => notComplete_of_inert e (hin e he)) hi.orph)
  | recover now => exact HInv_recover c now hi
  | recoverMem now =>
    refine HInv_drop c _ hi rfl rfl (releaseAll_sub _ _) fun x tx hm => ?_
    obtain ⟨⟨y, t⟩, hp, he⟩ := List.mem_map.mp hm
    cases he
    exact ⟨t, (List.mem_filter.mp hp).1, recoverTx_votes now t⟩
  | decisions => exact hi
  | forceResolve id b => exact (forceResolve_outcome c id b).hinv hi
  | truncate =>
    exact HInv_of c _ hi (Nat.le_refl _) (fun _ h => h) (fun x tx hm => hi.mem x tx hm) (LogOK_nil _ _) (OrphOK_nil _)
  | crash n now cfg =>
    simp only [step]
    cases hr : restartBytes crc de cfg ((fileOf crc ser c.log).take n) now with
    | none => exact HInv_fresh cfg
    | some c' =>
      simp only [restartBytes, Option.map_eq_some_iff] at hr
      obtain ⟨es, _, rfl⟩ := hr
      exact HInv_restartLog cfg es now

theorem HInv_run (c : Coord) (ss : List Step) (hi : HInv c) (hv : CounterRun crc ser de c ss) :
    HInv (run crc ser de c ss) := by
  induction ss generalizing c with
  | nil => exact hi
  | cons s ss ih =>
    rw [run_cons]
    exact ih _ (HInv_step crc ser de c s hi hv.1) hv.2

end Runs

instance (c : Coord) (id : Nat) (v : Vote) : Decidable (VoteOwn c id v) := by
  cases v <;> (unfold VoteOwn; infer_instance)

instance (c : Coord) (s : Step) : Decidable (CounterOK c s) := by
  cases s <;> (unfold CounterOK; infer_instance)

instance decCounterRun (crc : List Nat → Nat) (ser : Entry → List Nat) (de : List Nat → Option Entry) :
    (c : Coord) → (ss : List Step) → Decidable (CounterRun crc ser de c ss)
  | _, [] => isTrue trivial
  | c, s :: ss =>
    have := decCounterRun crc ser de (step crc ser de c s).1 ss
    by unfold CounterRun; infer_instance

end Neumann.TxWal
