import NeumannModel.TxWal.LemmasSync
import NeumannModel.TxWal.LemmasHandles
/-
  `recover_from_wal` called on a RUNNING coordinator: the pending map afterwards is the map a
  restart on the same log would build, laid over the map the coordinator held.
-/
namespace Neumann.TxWal

/-- `restoreAll` inserts into whatever map it is given: if `a` is `top` laid over `base` at key
    `x`, the same holds after the same records have been restored into `a` and into `top` -/
theorem restoreAll_overlay (rs : List RecTx) (ph : Phase) (now x : Nat) (a top base : List (Nat × Tx))
    (h : mLookup x a = (mLookup x top).or (mLookup x base)) :
    mLookup x (restoreAll rs ph now a) = (mLookup x (restoreAll rs ph now top)).or (mLookup x base) := by
  induction rs generalizing a top with
  | nil => exact h
  | cons r rs ih =>
    simp only [restoreAll, List.foldl_cons] at ih ⊢
    apply ih
    rw [mLookup_mInsert, mLookup_mInsert]
    split
    · rfl
    · exact h

/-- the pending map after a recovery call = the map of a restart on the same log, over the map
    the coordinator held before the call -/
theorem recoverFromWal_pending (c : Coord) (now x : Nat) :
    mLookup x (recoverFromWal c now).1.pending
      = (mLookup x (restartLog c.cfg c.log now).pending).or (mLookup x c.pending) := by
  simp only [recoverFromWal, restartLog]
  apply restoreAll_overlay
  apply restoreAll_overlay
  apply restoreAll_overlay
  rfl

theorem recoverFromWal_log (c : Coord) (now : Nat) : (recoverFromWal c now).1.log = c.log := rfl
theorem recoverFromWal_cfg (c : Coord) (now : Nat) : (recoverFromWal c now).1.cfg = c.cfg := rfl

/-- a restart restores `x` only if the log shows it Prepared / Committing / Aborting -/
def LogRestores (L : List Entry) (x : Nat) : Prop :=
  ∃ ip, (x, ip) ∈ (scan L).inProgress ∧ (ip.phase = .prepared ∨ ip.phase = .committing ∨ ip.phase = .aborting)

theorem restart_none_of_not_restored (cfg : Cfg) (L : List Entry) (now x : Nat) (h : ¬ LogRestores L x) :
    mLookup x (restartLog cfg L now).pending = none := by
  cases hl : mLookup x (restartLog cfg L now).pending with
  | none => rfl
  | some tx =>
    obtain ⟨ip, hm, hp, _⟩ := restart_pending cfg L now x tx hl
    exact absurd ⟨ip, hm, hp⟩ h

/-- `recover_from_wal` called any number of times in a row on the running coordinator -/
def recoverCalls (c : Coord) (nows : List Nat) : Coord := nows.foldl (fun c n => (recoverFromWal c n).1) c

theorem recoverCalls_log (c : Coord) (nows : List Nat) : (recoverCalls c nows).log = c.log := by
  induction nows generalizing c with
  | nil => rfl
  | cons n ns ih => simp only [recoverCalls, List.foldl_cons] at ih ⊢; rw [ih]; rfl

theorem recoverCalls_keeps (c : Coord) (nows : List Nat) (x : Nat) (h : ¬ LogRestores c.log x) :
    mLookup x (recoverCalls c nows).pending = mLookup x c.pending := by
  induction nows generalizing c with
  | nil => rfl
  | cons n ns ih =>
    simp only [recoverCalls, List.foldl_cons] at ih ⊢
    rw [ih (recoverFromWal c n).1 h, recoverFromWal_pending,
      restart_none_of_not_restored c.cfg c.log n x h]
    rfl

theorem recoverCalls_isSome (c : Coord) (nows : List Nat) (x : Nat) (h : (mLookup x c.pending).isSome) :
    (mLookup x (recoverCalls c nows).pending).isSome := by
  induction nows generalizing c with
  | nil => exact h
  | cons n ns ih =>
    simp only [recoverCalls, List.foldl_cons] at ih ⊢
    apply ih
    rw [recoverFromWal_pending]
    cases mLookup x (restartLog c.cfg c.log n).pending with
    | none => exact h
    | some t => rfl

/-- every lock in the lock table belongs to a transaction the coordinator knows -/
def LocksKnown (c : Coord) : Prop := ∀ p ∈ c.locks, (mLookup p.2 c.pending).isSome

theorem LocksKnown_recoverFromWal (c : Coord) (now : Nat) (h : LocksKnown c) : LocksKnown (recoverFromWal c now).1 := by
  intro p hp
  have := h p (recover_locks_sub c now p hp)
  exact recoverCalls_isSome c [now] p.2 this

theorem LocksKnown_recoverCalls (c : Coord) (nows : List Nat) (h : LocksKnown c) : LocksKnown (recoverCalls c nows) := by
  induction nows generalizing c with
  | nil => exact h
  | cons n ns ih =>
    simp only [recoverCalls, List.foldl_cons] at ih ⊢
    exact ih _ (LocksKnown_recoverFromWal c n h)

end Neumann.TxWal
