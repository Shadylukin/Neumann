import NeumannModel.Raft.LeaderCompleteness
/-
  C01 — State Machine Safety, part 1: the counting argument behind `try_advance_commit_index`
  (the `quorum`-th largest of the `match_index` values and the leader's own log length is reached
  by a quorum of distinct nodes).
-/
namespace Neumann.Raft

theorem becomeLeader_commit (c : Config) (nd : Node) : (becomeLeader c nd).commit = nd.commit := rfl

theorem nodes_setNode (s : Sys) (i : Nat) (a b : Node) (msgs : List (Nat × Nat × Msg)) :
    (setNode s i a b msgs).nodes = s.nodes.set i a := rfl


/-! ## the `quorum`-th largest value -/

def cntGe (l : List Nat) (x : Nat) : Nat := (l.filter (fun v => decide (x ≤ v))).length

theorem cntGe_nil (x : Nat) : cntGe [] x = 0 := rfl

theorem cntGe_cons (a : Nat) (l : List Nat) (x : Nat) :
    cntGe (a :: l) x = (if x ≤ a then 1 else 0) + cntGe l x := by
  unfold cntGe
  rw [List.filter_cons]
  by_cases h : x ≤ a
  · simp [h]; omega
  · simp [h]

theorem cntGe_append (a b : List Nat) (x : Nat) : cntGe (a ++ b) x = cntGe a x + cntGe b x := by
  unfold cntGe; rw [List.filter_append, List.length_append]

theorem cntGe_insertSorted (y : Nat) (l : List Nat) (x : Nat) :
    cntGe (insertSorted y l) x = cntGe (y :: l) x := by
  induction l with
  | nil => rfl
  | cons a t ih =>
    rw [insertSorted]
    split
    · rfl
    · rw [cntGe_cons, ih, cntGe_cons, cntGe_cons, cntGe_cons]; omega

theorem cntGe_sortAsc (l : List Nat) (x : Nat) : cntGe (sortAsc l) x = cntGe l x := by
  induction l with
  | nil => rfl
  | cons a t ih =>
    show cntGe (insertSorted a (sortAsc t)) x = _
    rw [cntGe_insertSorted, cntGe_cons, cntGe_cons, ih]

theorem insertSorted_length (y : Nat) (l : List Nat) : (insertSorted y l).length = l.length + 1 := by
  induction l with
  | nil => rfl
  | cons a t ih =>
    rw [insertSorted]
    split
    · rfl
    · simp only [List.length_cons, ih]

theorem sortAsc_length (l : List Nat) : (sortAsc l).length = l.length := by
  induction l with
  | nil => rfl
  | cons a t ih =>
    show (insertSorted a (sortAsc t)).length = _
    rw [insertSorted_length, ih]; rfl

theorem mem_insertSorted (y : Nat) (l : List Nat) (a : Nat) :
    a ∈ insertSorted y l → a = y ∨ a ∈ l := by
  induction l with
  | nil => intro h; simp [insertSorted] at h; exact Or.inl h
  | cons b t ih =>
    intro h
    rw [insertSorted] at h
    split at h
    · rcases List.mem_cons.mp h with h | h
      · exact Or.inl h
      · exact Or.inr h
    · rcases List.mem_cons.mp h with h | h
      · exact Or.inr (List.mem_cons.mpr (Or.inl h))
      · rcases ih h with h | h
        · exact Or.inl h
        · exact Or.inr (List.mem_cons_of_mem _ h)

theorem insertSorted_sorted (y : Nat) (l : List Nat) (h : l.Pairwise (· ≤ ·)) :
    (insertSorted y l).Pairwise (· ≤ ·) := by
  induction l with
  | nil => simp [insertSorted]
  | cons b t ih =>
    rw [insertSorted]
    have hb := List.pairwise_cons.mp h
    split
    · rename_i hyb
      refine List.pairwise_cons.mpr ⟨?_, h⟩
      intro a ha
      rcases List.mem_cons.mp ha with ha | ha
      · omega
      · have := hb.1 a ha; omega
    · rename_i hyb
      refine List.pairwise_cons.mpr ⟨?_, ih hb.2⟩
      intro a ha
      rcases mem_insertSorted y t a ha with ha | ha
      · omega
      · exact hb.1 a ha

theorem sortAsc_sorted (l : List Nat) : (sortAsc l).Pairwise (· ≤ ·) := by
  induction l with
  | nil => exact List.Pairwise.nil
  | cons a t ih => exact insertSorted_sorted a _ ih

/-- in an ascending list, the element at position `k` is reached by all the elements from `k` on -/
theorem sorted_cntGe (l : List Nat) (h : l.Pairwise (· ≤ ·)) :
    ∀ (k : Nat) (x : Nat), l[k]? = some x → l.length - k ≤ cntGe l x := by
  induction l with
  | nil => intro k x hk; simp at hk
  | cons a t ih =>
    intro k x hk
    have ha := List.pairwise_cons.mp h
    cases k with
    | zero =>
      simp only [List.getElem?_cons_zero, Option.some.injEq] at hk
      subst hk
      -- every element is ≥ a
      have hall : ∀ (u : List Nat), (∀ v ∈ u, a ≤ v) → cntGe u a = u.length := by
        intro u
        induction u with
        | nil => intro _; rfl
        | cons b u ihu =>
          intro hu
          rw [cntGe_cons, if_pos (hu b List.mem_cons_self),
            ihu (fun v hv => hu v (List.mem_cons_of_mem _ hv))]
          simp only [List.length_cons]; omega
      rw [cntGe_cons, if_pos (Nat.le_refl _), hall t ha.1]
      simp only [List.length_cons]; omega
    | succ k =>
      simp only [List.getElem?_cons_succ] at hk
      have := ih ha.2 k x hk
      rw [cntGe_cons]
      simp only [List.length_cons]; omega

/-- the value `try_advance_commit_index` picks is reached by at least `q` of the values -/
theorem quorum_count (vals : List Nat) (q : Nat) (hq : 1 ≤ q) (hle : q ≤ vals.length) :
    q ≤ cntGe vals ((sortAsc vals).getD ((sortAsc vals).length - q) 0) := by
  have hlen := sortAsc_length vals
  have hidx : (sortAsc vals).length - q < (sortAsc vals).length := by omega
  have hget : (sortAsc vals)[(sortAsc vals).length - q]? = some ((sortAsc vals)[(sortAsc vals).length - q]'hidx) :=
    List.getElem?_eq_getElem hidx
  have hd : (sortAsc vals).getD ((sortAsc vals).length - q) 0 = (sortAsc vals)[(sortAsc vals).length - q]'hidx := by
    rw [List.getD_eq_getElem?_getD, hget]; rfl
  rw [hd, ← cntGe_sortAsc vals]
  have := sorted_cntGe (sortAsc vals) (sortAsc_sorted vals) _ _ hget
  omega

/-! ## association lists -/

theorem alSet_keys (l : List (Nat × Nat)) (k v a : Nat) :
    a ∈ (alSet l k v).map (·.1) → a = k ∨ a ∈ l.map (·.1) := by
  induction l with
  | nil => intro h; simp [alSet] at h; exact Or.inl h
  | cons p t ih =>
    obtain ⟨b, w⟩ := p
    intro h
    rw [alSet] at h
    split at h
    · rename_i hbk
      simp only [List.map_cons, List.mem_cons] at h ⊢
      rcases h with h | h
      · exact Or.inr (Or.inl h)
      · exact Or.inr (Or.inr h)
    · simp only [List.map_cons, List.mem_cons] at h ⊢
      rcases h with h | h
      · exact Or.inr (Or.inl h)
      · rcases ih h with h | h
        · exact Or.inl h
        · exact Or.inr (Or.inr h)

theorem alSet_nodup (l : List (Nat × Nat)) (k v : Nat) (h : (l.map (·.1)).Nodup) :
    ((alSet l k v).map (·.1)).Nodup := by
  induction l with
  | nil => simp [alSet]
  | cons p t ih =>
    obtain ⟨b, w⟩ := p
    rw [alSet]
    simp only [List.map_cons, List.nodup_cons] at h
    split
    · simp only [List.map_cons, List.nodup_cons]; exact h
    · rename_i hbk
      simp only [List.map_cons, List.nodup_cons]
      refine ⟨fun hm => ?_, ih h.2⟩
      rcases alSet_keys t k v b hm with h1 | h1
      · exact hbk h1
      · exact h.1 h1

theorem alSet_length (l : List (Nat × Nat)) (k v : Nat) : l.length ≤ (alSet l k v).length := by
  induction l with
  | nil => simp [alSet]
  | cons p t ih =>
    obtain ⟨b, w⟩ := p
    rw [alSet]
    split
    · simp
    · simp only [List.length_cons]; omega

theorem alGet_of_mem (l : List (Nat × Nat)) (h : (l.map (·.1)).Nodup) (f m : Nat)
    (hm : (f, m) ∈ l) : alGet l f = some m := by
  induction l with
  | nil => simp at hm
  | cons p t ih =>
    obtain ⟨b, w⟩ := p
    simp only [List.map_cons, List.nodup_cons] at h
    rw [alGet]
    rcases List.mem_cons.mp hm with hm | hm
    · simp only [Prod.mk.injEq] at hm
      rw [if_pos hm.1.symm, hm.2]
    · have hne : ¬ b = f := by
        intro e
        apply h.1
        rw [e]
        exact List.mem_map.mpr ⟨(f, m), hm, rfl⟩
      rw [if_neg hne]
      exact ih h.2 hm

theorem peers_length (n i : Nat) (hi : i < n) :
    ((List.range n).filter (fun x => decide (x ≠ i))).length + 1 = n := by
  have h := List.length_eq_countP_add_countP (fun x => decide (x ≠ i)) (l := List.range n)
  have h1 : List.countP (fun a => decide ¬decide (a ≠ i) = true) (List.range n) = 1 := by
    have : (fun a => decide ¬decide (a ≠ i) = true) = (fun a => a == i) := by
      funext a; by_cases h : a = i <;> simp [h]
    rw [this, ← List.count_eq_countP]
    exact List.count_eq_one_of_mem List.nodup_range (List.mem_range.mpr hi)
  rw [List.length_range, List.countP_eq_length_filter, h1] at h
  exact h.symm

theorem peers_nodup (c : Config) (i : Nat) : (peers c i).Nodup := by
  unfold peers
  exact List.Nodup.filter _ List.nodup_range

theorem peers_not_self (c : Config) (i : Nat) : i ∉ peers c i := by
  unfold peers
  intro h
  simp at h

/-- the distinct nodes behind the values `≥ N` of a leader's `match_index` and its own log -/
theorem quorum_nodes (M : List (Nat × Nat)) (i len N q : Nat)
    (hnd : (M.map (·.1)).Nodup) (hi : i ∉ M.map (·.1))
    (hq : q ≤ cntGe (M.map (·.2) ++ [len]) N) :
    ∃ Q : List Nat, Q.Nodup ∧ q ≤ Q.length ∧
      ∀ f ∈ Q, (f = i ∧ N ≤ len) ∨ (∃ m, (f, m) ∈ M ∧ N ≤ m) := by
  -- the keys whose value reaches N
  have hkeys : ∀ (L : List (Nat × Nat)), (L.map (·.1)).Nodup →
      ∃ K : List Nat, K.Nodup ∧ K.length = cntGe (L.map (·.2)) N ∧
        (∀ f ∈ K, ∃ m, (f, m) ∈ L ∧ N ≤ m) ∧ (∀ f ∈ K, f ∈ L.map (·.1)) := by
    intro L
    induction L with
    | nil => intro _; exact ⟨[], List.nodup_nil, rfl, by simp, by simp⟩
    | cons p t ih =>
      obtain ⟨b, w⟩ := p
      intro hn
      simp only [List.map_cons, List.nodup_cons] at hn
      obtain ⟨K, hK1, hK2, hK3, hK4⟩ := ih hn.2
      by_cases hw : N ≤ w
      · refine ⟨b :: K, List.nodup_cons.mpr ⟨fun h => hn.1 (hK4 b h), hK1⟩, ?_, ?_, ?_⟩
        · simp only [List.map_cons, List.length_cons, cntGe_cons, if_pos hw, hK2]; omega
        · intro f hf
          rcases List.mem_cons.mp hf with hf | hf
          · exact ⟨w, by rw [hf]; exact List.mem_cons_self, hw⟩
          · obtain ⟨m, hm, hle⟩ := hK3 f hf
            exact ⟨m, List.mem_cons_of_mem _ hm, hle⟩
        · intro f hf
          rcases List.mem_cons.mp hf with hf | hf
          · rw [hf]; exact List.mem_cons_self
          · exact List.mem_cons_of_mem _ (hK4 f hf)
      · refine ⟨K, hK1, ?_, ?_, ?_⟩
        · simp only [List.map_cons, cntGe_cons, if_neg hw, hK2]; omega
        · intro f hf
          obtain ⟨m, hm, hle⟩ := hK3 f hf
          exact ⟨m, List.mem_cons_of_mem _ hm, hle⟩
        · intro f hf; exact List.mem_cons_of_mem _ (hK4 f hf)
  obtain ⟨K, hK1, hK2, hK3, hK4⟩ := hkeys M hnd
  rw [cntGe_append, cntGe_cons, cntGe_nil] at hq
  by_cases hlen : N ≤ len
  · refine ⟨i :: K, List.nodup_cons.mpr ⟨fun h => hi (hK4 i h), hK1⟩, ?_, ?_⟩
    · rw [if_pos hlen] at hq; simp only [List.length_cons]; omega
    · intro f hf
      rcases List.mem_cons.mp hf with hf | hf
      · exact Or.inl ⟨hf, hlen⟩
      · exact Or.inr (hK3 f hf)
  · refine ⟨K, hK1, ?_, fun f hf => Or.inr (hK3 f hf)⟩
    rw [if_neg hlen] at hq; omega

end Neumann.Raft
