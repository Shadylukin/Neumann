import NeumannModel.Raft.Safety
/-
  C01 — Log Matching for every reachable state of the system model.
  Ghost state (`Sys.canon`, `Sys.elected`): the log of the leader of each term and the record
  of every election ever won.  Invariant `LMInv`; every node log is `Canon` w.r.t. `canon`.
-/
namespace Neumann.Raft

/-- some election was won in term `t` -/
def TermElected (s : Sys) (t : Nat) : Prop := ∃ j vs, (t, j, vs) ∈ s.elected

structure LMInv (c : Config) (s : Sys) : Prop where
  electedOk : ∀ (t i : Nat) (vs : List Nat), (t, i, vs) ∈ s.elected →
    vs.Nodup ∧ c.quorum ≤ vs.length ∧ ∀ v ∈ vs, (v, t, i) ∈ s.ghost
  electedTerm : ∀ (t i : Nat) (vs : List Nat), (t, i, vs) ∈ s.elected →
    ∃ nd : Node, s.nodes[i]? = some nd ∧ t ≤ nd.term
  candNotElected : ∀ (i : Nat) (nd : Node), s.nodes[i]? = some nd → nd.role = .candidate →
    ∀ vs, (nd.term, i, vs) ∉ s.elected
  leaderElected : ∀ (i : Nat) (nd : Node), s.nodes[i]? = some nd → nd.role = .leader →
    ∃ vs, (nd.term, i, vs) ∈ s.elected
  leaderCanon : ∀ (i : Nat) (nd : Node), s.nodes[i]? = some nd → nd.role = .leader →
    nd.log = s.canon nd.term
  nodeCanon : ∀ (i : Nat) (nd : Node), s.nodes[i]? = some nd → Canon s.canon nd.log
  canonCanon : ∀ t : Nat, Canon s.canon (s.canon t)
  nodeEntries : ∀ (i : Nat) (nd : Node), s.nodes[i]? = some nd → ∀ e ∈ nd.log, TermElected s e.term
  canonEntries : ∀ (t : Nat), ∀ e ∈ s.canon t, TermElected s e.term
  aeEntries : ∀ (src dst T l pi pt : Nat) (es : List Entry) (lc : Nat),
    (src, dst, Msg.appendEntries T l pi pt es lc) ∈ s.net → ∀ e ∈ es, TermElected s e.term
  aeOk : ∀ (src dst T l pi pt : Nat) (es : List Entry) (lc : Nat),
    (src, dst, Msg.appendEntries T l pi pt es lc) ∈ s.net →
      src = l ∧ dst ≠ src ∧ (∃ vs, (T, l, vs) ∈ s.elected) ∧
      (s.canon T).take pi ++ es = (s.canon T).take (pi + es.length) ∧
      (pi = 0 ∨ termAt (s.canon T) pi = some pt)

theorem elected_unique (c : Config) (s : Sys) (hI : Inv c s) (hL : LMInv c s) (t i j : Nat)
    (vs ws : List Nat) (h1 : (t, i, vs) ∈ s.elected) (h2 : (t, j, ws) ∈ s.elected) : i = j :=
  quorum_unique c s hI t i j vs ws (hL.electedOk t i vs h1) (hL.electedOk t j ws h2)

/-- **Log Matching** on the invariant: two logs that agree on the term of a position agree on
    every position up to it. -/
theorem log_matching_of_inv (c : Config) (s : Sys) (hL : LMInv c s) (i j : Nat) (a b : Node)
    (ha : s.nodes[i]? = some a) (hb : s.nodes[j]? = some b) (k : Nat) (ea eb : Entry)
    (h1 : a.log[k]? = some ea) (h2 : b.log[k]? = some eb) (ht : ea.term = eb.term) :
    a.log.take (k + 1) = b.log.take (k + 1) :=
  canon_match s.canon a.log b.log (hL.nodeCanon i a ha) (hL.nodeCanon j b hb) k ea eb h1 h2 ht

theorem lm_init (c : Config) : LMInv c (initSys c) := by
  have hget := getElem?_initSys c
  refine ⟨nofun, nofun, ?_, ?_, ?_, ?_, fun _ => canon_nil _, ?_, nofun, nofun, nofun⟩
  · intro i nd h hr; rw [(hget i nd h).1] at hr; cases hr
  · intro i nd h hr; rw [(hget i nd h).1] at hr; cases hr
  · intro i nd h hr; rw [(hget i nd h).1] at hr; cases hr
  · intro i nd h; rw [(hget i nd h).1]; exact canon_nil _
  · intro i nd h e he; rw [(hget i nd h).1] at he; cases he

section frame
variable (s : Sys) (i : Nat) (nd nd' : Node) (msgs : List (Nat × Nat × Msg))

theorem mem_elected_setNode (t j : Nat) (vs : List Nat) :
    (t, j, vs) ∈ (setNode s i nd' nd msgs).elected ↔
      (t, j, vs) ∈ s.elected ∨
      (nd.role ≠ .leader ∧ nd'.role = .leader ∧ t = nd'.term ∧ j = i ∧ vs = nd'.votes) := by
  simp only [setNode]
  by_cases h : nd.role ≠ .leader ∧ nd'.role = .leader
  · rw [if_pos h, List.mem_append, List.mem_singleton, Prod.mk.injEq, Prod.mk.injEq]
    exact or_congr_right ⟨fun e => ⟨h.1, h.2, e⟩, fun e => e.2.2⟩
  · rw [if_neg h]
    exact ⟨Or.inl, fun e => e.elim id (fun e => absurd ⟨e.1, e.2.1⟩ h)⟩

theorem elected_mono_setNode (x : Nat × Nat × List Nat) (h : x ∈ s.elected) :
    x ∈ (setNode s i nd' nd msgs).elected :=
  (mem_elected_setNode s i nd nd' msgs x.1 x.2.1 x.2.2).mpr (Or.inl h)

theorem TermElected.setNode {s : Sys} {t : Nat} (h : TermElected s t) :
    TermElected (setNode s i nd' nd msgs) t := by
  obtain ⟨j, vs, hj⟩ := h; exact ⟨j, vs, elected_mono_setNode s i nd nd' msgs _ hj⟩

theorem canon_setNode (T : Nat) :
    (setNode s i nd' nd msgs).canon T = if nd'.role = .leader ∧ T = nd'.term then nd'.log else s.canon T := by
  simp only [setNode]
  by_cases hl : nd'.role = .leader
  · by_cases hT : T = nd'.term
    · rw [if_pos hl, if_pos hT, if_pos ⟨hl, hT⟩]
    · rw [if_pos hl, if_neg hT, if_neg (fun h => hT h.2)]
  · rw [if_neg hl, if_neg (fun h => hl h.1)]

theorem elog_setNode (U : Nat) :
    (setNode s i nd' nd msgs).elog U =
      if (nd.role ≠ .leader ∧ nd'.role = .leader) ∧ U = nd'.term then nd'.log else s.elog U := by
  simp only [setNode]
  by_cases h : nd.role ≠ .leader ∧ nd'.role = .leader
  · by_cases hU : U = nd'.term
    · rw [if_pos h, if_pos hU, if_pos ⟨h, hU⟩]
    · rw [if_pos h, if_neg hU, if_neg (fun e => hU e.2)]
  · rw [if_neg h, if_neg (fun e => h e.1)]

end frame

theorem termAt_some (l : List Entry) (k t : Nat) (h : termAt l k = some t) :
    0 < k ∧ ∃ e, l[k - 1]? = some e ∧ e.term = t := by
  unfold termAt at h
  by_cases h0 : k = 0
  · rw [if_pos h0] at h; cases h
  · rw [if_neg h0] at h
    cases hg : l[k - 1]? with
    | none => rw [hg] at h; cases h
    | some e =>
      rw [hg] at h
      exact ⟨Nat.pos_of_ne_zero h0, e, rfl, Option.some.inj h⟩

/-- what the consistency check of an accepted AppendEntries establishes -/
theorem accept_facts (c : Config) (s : Sys) (hL : LMInv c s) (i : Nat) (nd : Node)
    (hnd : s.nodes[i]? = some nd) (src T l pi pt : Nat) (es : List Entry) (lc : Nat)
    (hmsg : (src, i, Msg.appendEntries T l pi pt es lc) ∈ s.net)
    (hok : aeLogOk nd.log pi pt = true) :
    pi + es.length ≤ (s.canon T).length ∧
    nd.log.take pi ++ es = (s.canon T).take (pi + es.length) := by
  obtain ⟨_, _, _, hseg, hpt⟩ := hL.aeOk src i T l pi pt es lc hmsg
  have hpi : pi ≤ (s.canon T).length := by
    rcases hpt with h | h
    · omega
    · obtain ⟨h0, e, he, _⟩ := termAt_some _ _ _ h
      have := getElem?_lt _ _ e he; omega
  have hlen : pi + es.length ≤ (s.canon T).length := by
    have := congrArg List.length hseg
    simp only [List.length_append, List.length_take] at this
    omega
  refine ⟨hlen, ?_⟩
  rw [← hseg]
  congr 1
  by_cases hp0 : pi = 0
  · rw [hp0, List.take_zero, List.take_zero]
  · -- equal terms at `pi` make the two canonical logs agree up to `pi`
    have hle := aeLogOk_le hok
    unfold aeLogOk at hok
    rw [if_neg hp0, if_pos hle] at hok
    obtain ⟨_, e1, he1, ht1⟩ := termAt_some _ _ _ (of_decide_eq_true hok)
    obtain ⟨_, e2, he2, ht2⟩ := termAt_some _ _ _ (hpt.resolve_left hp0)
    have := canon_match s.canon _ _ (hL.nodeCanon i nd hnd) (hL.canonCanon T) (pi - 1) e1 e2 he1 he2
      (ht1.trans ht2.symm)
    rwa [show pi - 1 + 1 = pi by omega] at this

section accept
variable (c : Config) (s : Sys) (hL : LMInv c s) (i : Nat) (nd : Node)
  (hnd : s.nodes[i]? = some nd) (src T l pi pt : Nat) (es : List Entry) (lc : Nat)
  (hmsg : (src, i, Msg.appendEntries T l pi pt es lc) ∈ s.net) (hok : aeLogOk nd.log pi pt = true)
include hL hnd hmsg hok

/-- **what accepting an AppendEntries does to the log**: a log that starts with the part of the
    canonical log the request covers is left alone, any other log becomes that part -/
theorem accept_log :
    ((s.canon T).take (pi + es.length) <+: nd.log ∧
      appendLeaderEntries nd.log (pi + 1) es = nd.log) ∨
    (¬ (s.canon T).take (pi + es.length) <+: nd.log ∧
      appendLeaderEntries nd.log (pi + 1) es = (s.canon T).take (pi + es.length)) := by
  have hM := (accept_facts c s hL i nd hnd src T l pi pt es lc hmsg hok).2
  have := appendLeaderEntries_eq s.canon es nd.log pi (aeLogOk_le hok) (hL.nodeCanon i nd hnd)
    (hM ▸ canon_take _ _ _ (hL.canonCanon T))
  rwa [hM] at this

theorem accept_canon : Canon s.canon (appendLeaderEntries nd.log (pi + 1) es) := by
  rcases accept_log c s hL i nd hnd src T l pi pt es lc hmsg hok with ⟨_, h⟩ | ⟨_, h⟩ <;> rw [h]
  · exact hL.nodeCanon i nd hnd
  · exact canon_take _ _ _ (hL.canonCanon T)

theorem accept_mem (e : Entry) (he : e ∈ appendLeaderEntries nd.log (pi + 1) es) :
    e ∈ nd.log ∨ e ∈ s.canon T := by
  rcases accept_log c s hL i nd hnd src T l pi pt es lc hmsg hok with ⟨_, h⟩ | ⟨_, h⟩ <;> rw [h] at he
  · exact Or.inl he
  · exact Or.inr (List.mem_of_mem_take he)

theorem accept_prefix :
    (appendLeaderEntries nd.log (pi + 1) es).take (pi + es.length) =
      (s.canon T).take (pi + es.length) := by
  have hlen := (accept_facts c s hL i nd hnd src T l pi pt es lc hmsg hok).1
  rcases accept_log c s hL i nd hnd src T l pi pt es lc hmsg hok with ⟨hp, h⟩ | ⟨_, h⟩ <;> rw [h]
  · have := List.prefix_iff_eq_take.mp hp
    rw [List.length_take, Nat.min_eq_left hlen] at this
    exact this.symm
  · rw [List.take_take, Nat.min_self]

/-- an accepted AppendEntries of term `T` keeps every prefix on which the follower's log
    already agrees with `T`'s canonical log -/
theorem accept_keeps_prefix (k : Nat) (hold : nd.log.take k = (s.canon T).take k) :
    (appendLeaderEntries nd.log (pi + 1) es).take k = nd.log.take k := by
  rcases accept_log c s hL i nd hnd src T l pi pt es lc hmsg hok with ⟨_, h⟩ | ⟨hnp, h⟩ <;> rw [h]
  by_cases hkM : k ≤ pi + es.length
  · rw [List.take_take, Nat.min_eq_left hkM, hold]
  · -- a log that agrees with the canonical one beyond what the request covers starts with it
    refine absurd ?_ hnp
    rw [← take_of_take_eq _ _ k (pi + es.length) (by omega) hold]
    exact List.take_prefix _ _

end accept

theorem Kind.keeps_prefix {c : Config} {s : Sys} {i : Nat} {nd nd' : Node} (hk : Kind c s i nd nd')
    (hL : LMInv c s) (hnd : s.nodes[i]? = some nd) (k : Nat) (hklog : k ≤ nd.log.length)
    (hacc : ∀ src l pi pt es lc, (src, i, Msg.appendEntries nd'.term l pi pt es lc) ∈ s.net →
      nd.log.take k = (s.canon nd'.term).take k) :
    nd'.log.take k = nd.log.take k := by
  rcases hk with ⟨hlog, _⟩ | ⟨_, _, _, hlog, _⟩ | ⟨_, p, rfl⟩ | ⟨_, src, l, pi, pt, es, lc, hmsg, hok, hlog⟩
  · rw [hlog]
  · rw [hlog]
  · exact List.take_append_of_le_length hklog
  · rw [hlog]
    exact accept_keeps_prefix c s hL i nd hnd src _ l pi pt es lc hmsg hok k
      (hacc src l pi pt es lc hmsg)

/-! ## preservation -/

section step
variable (c : Config) (s : Sys) (i : Nat) (nd nd' : Node) (msgs : List (Nat × Nat × Msg))

/-- in an election step the term had no winner before -/
theorem no_prior_election (hL : LMInv c s) (hI' : Inv c (setNode s i nd' nd msgs))
    (hnd : s.nodes[i]? = some nd) (hr : nd.role = .candidate) (hl : nd'.role = .leader)
    (hterm : nd'.term = nd.term) : ¬ TermElected s nd.term := by
  rintro ⟨j, vs, hj⟩
  -- the new leader's recorded quorum and the old winner's intersect
  have hnode' : (setNode s i nd' nd msgs).nodes[i]? = some nd' := by
    rw [getElem?_setNode s i i nd nd' msgs hnd, if_pos rfl]
  obtain ⟨hv, hn, hq⟩ := hI'.votesOk i nd' hnode' (by rw [hl]; exact nofun)
  obtain ⟨a, b, d⟩ := hL.electedOk nd.term j vs hj
  obtain rfl : j = i := quorum_unique c _ hI' nd.term j i vs nd'.votes
    ⟨a, b, fun v hv => List.mem_append_left _ (d v hv)⟩ ⟨hn, hq hl, hterm ▸ hv⟩
  exact hL.candNotElected j nd hnd hr vs hj

/-- the canonical log of a term that had a winner only grows at its end -/
theorem canon_setNode_ext (hL : LMInv c s) (hI' : Inv c (setNode s i nd' nd msgs))
    (hnd : s.nodes[i]? = some nd) (hk : Kind c s i nd nd') (T : Nat) (hT : TermElected s T) :
    ∃ x, (setNode s i nd' nd msgs).canon T = s.canon T ++ x ∧ ∀ e ∈ x, e.term = T := by
  rw [canon_setNode]
  by_cases h : nd'.role = .leader ∧ T = nd'.term
  · rw [if_pos h]
    obtain ⟨hl, rfl⟩ := h
    rcases hk with ⟨hlog, hq⟩ | ⟨hr, _, hterm, _⟩ | ⟨hr, p, rfl⟩ | ⟨hr', _⟩
    · obtain ⟨hr, hterm, _⟩ := hq hl
      exact ⟨[], by rw [hlog, hterm, ← hL.leaderCanon i nd hnd hr, List.append_nil], nofun⟩
    · exact absurd (hterm ▸ hT) (no_prior_election c s i nd nd' msgs hL hI' hnd hr hl hterm)
    · exact ⟨[⟨nd.term, p⟩], congrArg (· ++ _) (hL.leaderCanon i nd hnd hr),
        fun e he => by rw [List.mem_singleton.mp he]⟩
    · exact nomatch hr'.symm.trans hl
  · rw [if_neg h]; exact ⟨[], (List.append_nil _).symm, nofun⟩

theorem elog_stable (hL : LMInv c s) (hI' : Inv c (setNode s i nd' nd msgs))
    (hnd : s.nodes[i]? = some nd) (hk : Kind c s i nd nd') (U : Nat) (hU : TermElected s U) :
    (setNode s i nd' nd msgs).elog U = s.elog U := by
  rw [elog_setNode, if_neg]
  rintro ⟨⟨hnl, hl⟩, rfl⟩
  obtain ⟨hr, hterm, _⟩ := hk.won hnl hl
  exact no_prior_election c s i nd nd' msgs hL hI' hnd hr hl hterm (hterm ▸ hU)

theorem lm_setNode (g : Option Nat) (hL : LMInv c s) (hI' : Inv c (setNode s i nd' nd msgs))
    (hnd : s.nodes[i]? = some nd) (x : NodeStep c s i nd nd' g msgs) :
    LMInv c (setNode s i nd' nd msgs) := by
  have hget := fun j => getElem?_setNode s i j nd nd' msgs hnd
  have hnode' : (setNode s i nd' nd msgs).nodes[i]? = some nd' := by rw [hget, if_pos rfl]
  have hmono := elected_mono_setNode s i nd nd' msgs
  have hTE : ∀ t, TermElected s t → TermElected (setNode s i nd' nd msgs) t :=
    fun _ h => h.setNode i nd nd' msgs
  have hext := canon_setNode_ext c s i nd nd' msgs hL hI' hnd x.kind
  have hcm : ∀ l, Canon s.canon l → (∀ e ∈ l, TermElected s e.term) →
      Canon (setNode s i nd' nd msgs).canon l :=
    fun l hl hel => canon_mono _ _ l hl (fun e he => (hext e.term (hel e he)).imp fun _ h => h.1)
  -- the new log of node `i`: its entries are of elected terms, and it is canonical
  have hnewE : ∀ e ∈ nd'.log, TermElected s e.term := by
    rcases x.kind with ⟨hlog, _⟩ | ⟨_, _, _, hlog, _⟩ | ⟨hr, p, rfl⟩ | ⟨_, src, l, pi, pt, es, lc, hmsg, hok, hlog⟩
    · rw [hlog]; exact hL.nodeEntries i nd hnd
    · rw [hlog]; exact hL.nodeEntries i nd hnd
    · intro e he
      rcases List.mem_append.mp he with h | h
      · exact hL.nodeEntries i nd hnd e h
      · obtain ⟨vs, hvs⟩ := hL.leaderElected i nd hnd hr
        rw [List.mem_singleton.mp h]; exact ⟨i, vs, hvs⟩
    · intro e he
      rw [hlog] at he
      rcases accept_mem c s hL i nd hnd src _ l pi pt es lc hmsg hok e he with h | h
      · exact hL.nodeEntries i nd hnd e h
      · exact hL.canonEntries _ e h
  have hnewC : Canon (setNode s i nd' nd msgs).canon nd'.log := by
    rcases x.kind with ⟨hlog, _⟩ | ⟨_, _, _, hlog, _⟩ | ⟨hr, p, rfl⟩ | ⟨_, src, l, pi, pt, es, lc, hmsg, hok, hlog⟩
    · rw [hlog]; exact hcm _ (hL.nodeCanon i nd hnd) (hL.nodeEntries i nd hnd)
    · rw [hlog]; exact hcm _ (hL.nodeCanon i nd hnd) (hL.nodeEntries i nd hnd)
    · -- a proposal: the leader's own term now has this very log
      refine canon_snoc _ _ _ (hcm _ (hL.nodeCanon i nd hnd) (hL.nodeEntries i nd hnd)) ?_
      rw [canon_setNode, if_pos ⟨hr, rfl⟩]
    · rw [hlog]
      exact hcm _ (accept_canon c s hL i nd hnd src _ l pi pt es lc hmsg hok) (hlog ▸ hnewE)
  refine ⟨?_, ?_, ?_, ?_, ?_, ?_, ?_, ?_, ?_, ?_, ?_⟩
  · intro t j vs h
    rcases (mem_elected_setNode s i nd nd' msgs t j vs).mp h with h | ⟨_, hl, rfl, rfl, rfl⟩
    · obtain ⟨a, b, d⟩ := hL.electedOk t j vs h
      exact ⟨a, b, fun v hv => List.mem_append_left _ (d v hv)⟩
    · obtain ⟨hv, hn, hq⟩ := hI'.votesOk j nd' hnode' (by rw [hl]; exact nofun)
      exact ⟨hn, hq hl, hv⟩
  · intro t j vs h
    rcases (mem_elected_setNode s i nd nd' msgs t j vs).mp h with h | ⟨_, _, rfl, rfl, rfl⟩
    · exact term_bound_setNode s i nd nd' msgs hnd x.trans.term_le j t (hL.electedTerm t j vs h)
    · exact ⟨nd', hnode', Nat.le_refl _⟩
  · intro j ndj hj hr vs hmem
    rcases getElem?_set_cases hnd hj with ⟨rfl, rfl⟩ | ⟨hji, hj⟩
    · rcases (mem_elected_setNode s j nd nd' msgs _ _ vs).mp hmem with hold | ⟨_, hl, _⟩
      · rcases x.trans.shape with sh | sh | sh | sh
        · exact nomatch sh.symm.trans hr
        · exact hL.candNotElected j nd hnd (sh.1 ▸ hr) vs (sh.2.1 ▸ hold)
        · obtain ⟨_, h0, hle⟩ := hL.electedTerm _ j vs hold
          rw [hnd] at h0; cases h0
          exact absurd hle (Nat.not_le_of_lt sh.2.2.2)
        · exact hL.candNotElected j nd hnd sh.1 vs (sh.2.1 ▸ hold)
      · exact nomatch hr.symm.trans hl
    · rcases (mem_elected_setNode s i nd nd' msgs _ _ vs).mp hmem with hold | ⟨_, _, _, h, _⟩
      · exact hL.candNotElected j ndj hj hr vs hold
      · exact hji h
  · intro j ndj hj hr
    rcases getElem?_set_cases hnd hj with ⟨rfl, rfl⟩ | ⟨hji, hj⟩
    · by_cases hnl : nd.role = .leader
      · have hterm : nd'.term = nd.term := by
          rcases x.trans.shape with sh | sh | sh | sh
          · exact nomatch sh.symm.trans hr
          · exact sh.2.1
          · exact nomatch sh.1.symm.trans hr
          · exact nomatch sh.1.symm.trans hnl
        obtain ⟨vs, hvs⟩ := hL.leaderElected j nd hnd hnl
        exact ⟨vs, hterm ▸ hmono _ hvs⟩
      · exact ⟨nd'.votes, (mem_elected_setNode s j nd nd' msgs _ _ _).mpr (Or.inr ⟨hnl, hr, rfl, rfl, rfl⟩)⟩
    · obtain ⟨vs, hvs⟩ := hL.leaderElected j ndj hj hr
      exact ⟨vs, hmono _ hvs⟩
  · intro j ndj hj hr
    have hj' := hj
    rw [hget] at hj
    rw [canon_setNode]
    by_cases hji : j = i
    · rw [if_pos hji] at hj; cases hj; rw [if_pos ⟨hr, rfl⟩]
    · -- two leaders of one term after the step would be one node
      rw [if_neg hji] at hj
      rw [if_neg (fun h => hji (election_safety_of_inv c _ hI' j i ndj nd' hj' hnode' hr h.1 h.2))]
      exact hL.leaderCanon j ndj hj hr
  · intro j ndj hj
    rcases getElem?_set_cases hnd hj with ⟨hji, rfl⟩ | ⟨hji, hj⟩
    · exact hnewC
    · exact hcm _ (hL.nodeCanon j ndj hj) (hL.nodeEntries j ndj hj)
  · intro t
    rw [canon_setNode]
    by_cases h : nd'.role = .leader ∧ t = nd'.term
    · rw [if_pos h]; exact hnewC
    · rw [if_neg h]; exact hcm _ (hL.canonCanon t) (hL.canonEntries t)
  · intro j ndj hj e he
    rcases getElem?_set_cases hnd hj with ⟨hji, rfl⟩ | ⟨hji, hj⟩
    · exact hTE _ (hnewE e he)
    · exact hTE _ (hL.nodeEntries j ndj hj e he)
  · intro t e he
    rw [canon_setNode] at he
    by_cases h : nd'.role = .leader ∧ t = nd'.term
    · rw [if_pos h] at he; exact hTE _ (hnewE e he)
    · rw [if_neg h] at he; exact hTE _ (hL.canonEntries t e he)
  · intro src dst T l pi pt es lc h e he
    rcases List.mem_append.mp h with h | h
    · exact hTE _ (hL.aeEntries src dst T l pi pt es lc h e he)
    · exact absurd rfl (x.msgs.noAE src dst _ h T l pi pt es lc)
  · intro src dst T l pi pt es lc h
    rcases List.mem_append.mp h with h | h
    · obtain ⟨a, b, ⟨vs, hvs⟩, f, g⟩ := hL.aeOk src dst T l pi pt es lc h
      obtain ⟨y, hy, _⟩ := hext T ⟨l, vs, hvs⟩
      rw [hy]
      exact ⟨a, b, ⟨vs, hmono _ hvs⟩, ae_seg_extend _ y es pi pt f g⟩
    · exact absurd rfl (x.msgs.noAE src dst _ h T l pi pt es lc)

end step

/-- **Every step preserves the Log Matching invariant.** -/
theorem lm_step (c : Config) (s : Sys) (st : Step) (hI : Inv c s) (hL : LMInv c s) :
    LMInv c (sysStep c s st) := by
  apply sysStep_cases c s st hI.ids (fun s' => Inv c s' → LMInv c s') _ _ _ (inv_step c s st hI)
  · exact fun _ => hL
  · intro i nd nd' g msgs hnd x _ hI'
    exact lm_setNode c s i nd nd' msgs g hL hI' hnd x
  · -- a leader's AppendEntries is a segment of its log, the canonical log of its term
    intro i j nd pi pt es hji hnd hr hseg hpt _
    have hid : nd.id = i := hI.ids i nd hnd
    have hlc := hL.leaderCanon i nd hnd hr
    obtain ⟨vs, hvs⟩ := hL.leaderElected i nd hnd hr
    refine ⟨hL.electedOk, hL.electedTerm, hL.candNotElected, hL.leaderElected, hL.leaderCanon,
      hL.nodeCanon, hL.canonCanon, hL.nodeEntries, hL.canonEntries, ?_, ?_⟩
    · intro src dst T l pi' pt' es' lc' h e he
      rcases List.mem_append.mp h with h | h
      · exact hL.aeEntries src dst T l pi' pt' es' lc' h e he
      · simp only [List.mem_singleton, Prod.mk.injEq, Msg.appendEntries.injEq] at h
        obtain ⟨_, _, _, _, _, _, rfl, _⟩ := h
        exact hL.nodeEntries i nd hnd e
          (List.mem_of_mem_take (hseg ▸ List.mem_append_right _ he))
    · intro src dst T l pi' pt' es' lc' h
      rcases List.mem_append.mp h with h | h
      · exact hL.aeOk src dst T l pi' pt' es' lc' h
      · simp only [List.mem_singleton, Prod.mk.injEq, Msg.appendEntries.injEq] at h
        obtain ⟨rfl, rfl, rfl, rfl, rfl, rfl, rfl, _⟩ := h
        exact ⟨hid.symm, hji, ⟨vs, hid.symm ▸ hvs⟩, hlc ▸ hseg, hlc ▸ hpt⟩

end Neumann.Raft
