import NeumannModel.Raft.Model
/- What each handler of `Raft/Model.lean` returns (C01): one lemma per handler that lists its
   outcomes as explicit records with the branch conditions. -/
namespace Neumann.Raft

theorem stepDown_of_gt (nd : Node) (t : Nat) (h : t > nd.term) :
    stepDown nd t = { nd with term := t, votedFor := none, role := .follower } := by
  simp [stepDown, h]

theorem stepDown_of_le (nd : Node) (t : Nat) (h : ¬ t > nd.term) : stepDown nd t = nd := by
  simp [stepDown, h]

theorem stepDown_cases (nd : Node) (t : Nat) :
    (t ≤ nd.term ∧ stepDown nd t = nd) ∨
    (nd.term < t ∧ stepDown nd t = { nd with term := t, votedFor := none, role := .follower }) := by
  by_cases h : t > nd.term
  · exact Or.inr ⟨h, stepDown_of_gt nd t h⟩
  · exact Or.inl ⟨Nat.le_of_not_lt h, stepDown_of_le nd t h⟩

@[simp] theorem stepDown_id (nd : Node) (t : Nat) : (stepDown nd t).id = nd.id := by
  unfold stepDown; split <;> rfl
@[simp] theorem stepDown_log (nd : Node) (t : Nat) : (stepDown nd t).log = nd.log := by
  unfold stepDown; split <;> rfl
@[simp] theorem stepDown_commit (nd : Node) (t : Nat) : (stepDown nd t).commit = nd.commit := by
  unfold stepDown; split <;> rfl
@[simp] theorem stepDown_votes (nd : Node) (t : Nat) : (stepDown nd t).votes = nd.votes := by
  unfold stepDown; split <;> rfl
@[simp] theorem stepDown_matchIdx (nd : Node) (t : Nat) : (stepDown nd t).matchIdx = nd.matchIdx := by
  unfold stepDown; split <;> rfl

theorem stepDown_term (nd : Node) (t : Nat) : (stepDown nd t).term = max nd.term t := by
  rcases stepDown_cases nd t with ⟨h, e⟩ | ⟨h, e⟩ <;> rw [e]
  · exact (Nat.max_eq_left h).symm
  · exact (Nat.max_eq_right (Nat.le_of_lt h)).symm

theorem stepDown_term_ge (nd : Node) (t : Nat) : nd.term ≤ (stepDown nd t).term := by
  rw [stepDown_term]; exact Nat.le_max_left _ _

theorem stepDown_role (nd : Node) (t : Nat) :
    ((stepDown nd t).role = nd.role ∧ (stepDown nd t).term = nd.term ∧
      (stepDown nd t).votedFor = nd.votedFor) ∨
    ((stepDown nd t).role = .follower ∧ (stepDown nd t).votedFor = none ∧ nd.term < (stepDown nd t).term) := by
  rcases stepDown_cases nd t with ⟨_, e⟩ | ⟨h, e⟩ <;> rw [e]
  · exact Or.inl ⟨rfl, rfl, rfl⟩
  · exact Or.inr ⟨rfl, rfl, h⟩

theorem handleRequestVote_eq (c : Config) (nd : Node) (t cand li lt : Nat) (hl geo : Bool) :
    handleRequestVote c nd t cand li lt hl geo =
      if t = (stepDown nd t).term ∧ canVote (stepDown nd t) cand = true ∧
         voteLogOk c (stepDown nd t).log li lt geo = true ∧ hl = true then
        ({ stepDown nd t with votedFor := some cand }, .requestVoteResp (stepDown nd t).term true nd.id)
      else (stepDown nd t, .requestVoteResp (stepDown nd t).term false nd.id) := rfl

theorem handleRequestVote_cases (c : Config) (nd : Node) (t cand li lt : Nat) (hl geo : Bool) :
    handleRequestVote c nd t cand li lt hl geo =
      (stepDown nd t, .requestVoteResp (stepDown nd t).term false nd.id) ∨
    (t = (stepDown nd t).term ∧ canVote (stepDown nd t) cand = true ∧
      voteLogOk c nd.log li lt geo = true ∧
      handleRequestVote c nd t cand li lt hl geo =
        ({ stepDown nd t with votedFor := some cand }, .requestVoteResp (stepDown nd t).term true nd.id)) := by
  rw [handleRequestVote_eq]
  by_cases hc : t = (stepDown nd t).term ∧ canVote (stepDown nd t) cand = true ∧
      voteLogOk c (stepDown nd t).log li lt geo = true ∧ hl = true
  · exact Or.inr ⟨hc.1, hc.2.1, stepDown_log nd t ▸ hc.2.2.1, if_pos hc⟩
  · exact Or.inl (if_neg hc)

theorem handleRequestVoteResp_cases (c : Config) (nd : Node) (src t : Nat) (gr : Bool) :
    handleRequestVoteResp c nd src t gr = nd ∨
    (nd.role = .candidate ∧ nd.term < t ∧
      handleRequestVoteResp c nd src t gr = { nd with term := t, votedFor := none, role := .follower }) ∨
    (nd.role = .candidate ∧ gr = true ∧ t = nd.term ∧ src ∉ nd.votes ∧
      ((handleRequestVoteResp c nd src t gr = { nd with votes := nd.votes ++ [src] }) ∨
       (c.quorum ≤ (nd.votes ++ [src]).length ∧
        handleRequestVoteResp c nd src t gr = becomeLeader c { nd with votes := nd.votes ++ [src] }))) := by
  unfold handleRequestVoteResp
  by_cases h1 : nd.role ≠ .candidate
  · exact Or.inl (if_pos h1)
  rw [if_neg h1]
  have hc : nd.role = .candidate := Decidable.of_not_not h1
  by_cases h2 : t > nd.term
  · exact Or.inr (Or.inl ⟨hc, h2, if_pos h2⟩)
  rw [if_neg h2]
  by_cases h3 : gr = true ∧ t = nd.term
  · rw [if_pos h3]
    by_cases h4 : src ∈ nd.votes
    · exact Or.inl (if_pos h4)
    rw [if_neg h4]
    refine Or.inr (Or.inr ⟨hc, h3.1, h3.2, h4, ?_⟩)
    by_cases h5 : (nd.votes ++ [src]).length ≥ c.quorum
    · exact Or.inr ⟨h5, if_pos h5⟩
    · exact Or.inl (if_neg h5)
  · exact Or.inl (if_neg h3)

theorem handlePreVoteResp_cases (c : Config) (nd : Node) (src t : Nat) (gr : Bool) :
    handlePreVoteResp c nd src t gr = (nd, none) ∨
    (nd.term < t ∧ handlePreVoteResp c nd src t gr =
      ({ nd with term := t, votedFor := none, role := .follower, inPreVote := false }, none)) ∨
    handlePreVoteResp c nd src t gr = ({ nd with preVotes := nd.preVotes ++ [src] }, none) ∨
    handlePreVoteResp c nd src t gr =
      ((startElection { nd with preVotes := nd.preVotes ++ [src], inPreVote := false }).1,
       some (startElection { nd with preVotes := nd.preVotes ++ [src], inPreVote := false }).2) := by
  unfold handlePreVoteResp
  by_cases h1 : nd.inPreVote = false
  · exact Or.inl (if_pos h1)
  rw [if_neg h1]
  by_cases h2 : t > nd.term
  · exact Or.inr (Or.inl ⟨h2, if_pos h2⟩)
  rw [if_neg h2]
  by_cases h3 : gr = true ∧ t = nd.term
  · rw [if_pos h3]
    by_cases h4 : src ∈ nd.preVotes
    · exact Or.inl (if_pos h4)
    rw [if_neg h4]
    by_cases h5 : (nd.preVotes ++ [src]).length ≥ c.quorum
    · exact Or.inr (Or.inr (Or.inr (if_pos h5)))
    · exact Or.inr (Or.inr (Or.inl (if_neg h5)))
  · exact Or.inl (if_neg h3)

theorem handleTimeoutNow_cases (nd : Node) (src t l : Nat) :
    handleTimeoutNow nd src t l = (nd, none) ∨
    handleTimeoutNow nd src t l = ((startElection nd).1, some (startElection nd).2) := by
  unfold handleTimeoutNow
  by_cases h1 : nd.leaderId ≠ some src ∧ nd.leaderId ≠ some l
  · exact Or.inl (if_pos h1)
  rw [if_neg h1]
  by_cases h2 : t ≠ nd.term
  · exact Or.inl (if_pos h2)
  · exact Or.inr (if_neg h2)

theorem handlePreVote_eq (nd : Node) (t cand li lt : Nat) (el hl : Bool) :
    ∃ g, handlePreVote nd t cand li lt el hl = .preVoteResp nd.term g nd.id := by
  unfold handlePreVote
  by_cases h1 : t ≥ nd.term
  · rw [if_pos h1]
    dsimp only
    split
    · exact ⟨true, rfl⟩
    · exact ⟨false, rfl⟩
  · exact ⟨false, if_neg h1⟩

theorem aeAccept_msg (nd2 : Node) (pi : Nat) (es : List Entry) (lc : Nat) :
    (aeAccept nd2 pi es lc).2 = .appendEntriesResp nd2.term true nd2.id
      (min (pi + es.length) (appendLeaderEntries nd2.log (pi + 1) es).length) := rfl

theorem aeAccept_commit (nd2 : Node) (pi : Nat) (es : List Entry) (lc : Nat) :
    (aeAccept nd2 pi es lc).1.commit =
      if lc > nd2.commit then
        max nd2.commit (min lc (min (pi + es.length) (appendLeaderEntries nd2.log (pi + 1) es).length))
      else nd2.commit := rfl

theorem aeLogOk_le {log : List Entry} {pi pt : Nat} (h : aeLogOk log pi pt = true) : pi ≤ log.length := by
  unfold aeLogOk at h
  by_cases h0 : pi = 0
  · omega
  · rw [if_neg h0] at h
    by_cases h1 : pi ≤ log.length
    · exact h1
    · rw [if_neg h1] at h; cases h

theorem handleAppendEntries_cases (nd : Node) (t l pi pt : Nat) (es : List Entry) (lc : Nat) :
    (t < nd.term ∧
      handleAppendEntries nd t l pi pt es lc = (nd, .appendEntriesResp nd.term false nd.id 0)) ∨
    (nd.term ≤ t ∧ (stepDown nd t).term = t ∧
      ((aeLogOk nd.log pi pt = false ∧ handleAppendEntries nd t l pi pt es lc =
          ({ stepDown nd t with role := .follower, leaderId := some l },
           .appendEntriesResp (stepDown nd t).term false (stepDown nd t).id 0)) ∨
       (aeLogOk nd.log pi pt = true ∧ handleAppendEntries nd t l pi pt es lc =
          aeAccept { stepDown nd t with role := .follower, leaderId := some l } pi es lc))) := by
  unfold handleAppendEntries
  have hterm := stepDown_term nd t
  by_cases h1 : t = (stepDown nd t).term
  · rw [if_pos h1]
    refine Or.inr ⟨by omega, h1.symm, ?_⟩
    by_cases h2 : aeLogOk nd.log pi pt = true
    · exact Or.inr ⟨h2, if_pos (by rw [stepDown_log]; exact h2)⟩
    · exact Or.inl ⟨Bool.eq_false_iff.mpr h2, if_neg (by rw [stepDown_log]; exact h2)⟩
  · have hlt : t < nd.term := by omega
    rw [if_neg h1, stepDown_of_le nd t (by omega)]
    exact Or.inl ⟨hlt, rfl⟩

/-- the value `try_advance_commit_index` computes from a node's `match_index` and log -/
def quorumIdx (c : Config) (nd : Node) : Nat :=
  (sortAsc (nd.matchIdx.map (·.2) ++ [nd.log.length])).getD
    ((sortAsc (nd.matchIdx.map (·.2) ++ [nd.log.length])).length - c.quorum) 0

theorem tryAdvanceCommit_cases (c : Config) (x : Node) :
    tryAdvanceCommit c x = x ∨
    (x.role = .leader ∧ x.commit < quorumIdx c x ∧ termAt x.log (quorumIdx c x) = some x.term ∧
      tryAdvanceCommit c x = { x with commit := quorumIdx c x }) := by
  unfold tryAdvanceCommit
  by_cases h1 : x.role ≠ .leader
  · exact Or.inl (if_pos h1)
  rw [if_neg h1]
  by_cases h2 : x.hasLeaderState = false
  · exact Or.inl (if_pos h2)
  rw [if_neg h2]
  by_cases h3 : quorumIdx c x > x.commit ∧ termAt x.log (quorumIdx c x) = some x.term
  · exact Or.inr ⟨Decidable.of_not_not h1, h3.1, h3.2, if_pos h3⟩
  · exact Or.inl (if_neg h3)

theorem handleAppendEntriesResp_cases (c : Config) (nd : Node) (src t : Nat) (sc : Bool) (mi : Nat) :
    handleAppendEntriesResp c nd src t sc mi = nd ∨
    (nd.role = .leader ∧ nd.term < t ∧ handleAppendEntriesResp c nd src t sc mi =
      { nd with term := t, votedFor := none, role := .follower, hasLeaderState := false,
                nextIdx := [], matchIdx := [], backoff := [] }) ∨
    (nd.role = .leader ∧ t = nd.term ∧ sc = true ∧ handleAppendEntriesResp c nd src t sc mi =
      tryAdvanceCommit c { nd with nextIdx := alSet nd.nextIdx src (mi + 1),
                                   matchIdx := alSet nd.matchIdx src mi,
                                   backoff := alRemove nd.backoff src }) ∨
    (∃ nx bo, handleAppendEntriesResp c nd src t sc mi = { nd with nextIdx := nx, backoff := bo }) := by
  unfold handleAppendEntriesResp
  by_cases h1 : nd.role ≠ .leader
  · exact Or.inl (if_pos h1)
  rw [if_neg h1]
  have hl : nd.role = .leader := Decidable.of_not_not h1
  by_cases h2 : t > nd.term
  · exact Or.inr (Or.inl ⟨hl, h2, if_pos h2⟩)
  rw [if_neg h2]
  by_cases h3 : t < nd.term
  · exact Or.inl (if_pos h3)
  rw [if_neg h3]
  by_cases h4 : nd.hasLeaderState = false
  · exact Or.inl (if_pos h4)
  rw [if_neg h4]
  cases sc with
  | true => exact Or.inr (Or.inr (Or.inl ⟨hl, by omega, rfl, rfl⟩))
  | false => exact Or.inr (Or.inr (Or.inr ⟨_, _, rfl⟩))

theorem propose_cases (nd : Node) (p : Nat) (a : Bool) :
    (propose nd p a).1 = nd ∨
    (nd.role = .leader ∧ (propose nd p a).1 = { nd with log := nd.log ++ [⟨nd.term, p⟩] }) := by
  unfold propose
  by_cases h1 : nd.role ≠ .leader
  · rw [if_pos h1]; exact Or.inl rfl
  rw [if_neg h1]
  by_cases h2 : a = false
  · rw [if_pos h2]; exact Or.inl rfl
  · rw [if_neg h2]; exact Or.inr ⟨Decidable.of_not_not h1, rfl⟩

end Neumann.Raft
