import NeumannModel.Raft.Model
/-
  List-level lemmas for Log Matching (C01): the "canonical log per term" argument.
  `cn t` is the log of the leader of term `t`.  A log is `Canon` when every entry of term `t`
  in it sits on a prefix of `cn t`.  Two `Canon` logs that agree on the term at a position are
  equal up to that position — that is Log Matching.
-/
namespace Neumann.Raft

def Canon (cn : Nat → List Entry) (l : List Entry) : Prop :=
  ∀ (k : Nat) (e : Entry), l[k]? = some e → l.take (k + 1) = (cn e.term).take (k + 1)

theorem canon_nil (cn : Nat → List Entry) : Canon cn [] := by
  intro k e h; simp at h

/-- **Log Matching from canonicity** -/
theorem canon_match (cn : Nat → List Entry) (a b : List Entry) (ha : Canon cn a) (hb : Canon cn b)
    (k : Nat) (ea eb : Entry) (h1 : a[k]? = some ea) (h2 : b[k]? = some eb) (ht : ea.term = eb.term) :
    a.take (k + 1) = b.take (k + 1) := by
  rw [ha k ea h1, hb k eb h2, ht]

theorem canon_take (cn : Nat → List Entry) (l : List Entry) (m : Nat) (h : Canon cn l) :
    Canon cn (l.take m) := by
  intro k e hk
  rw [List.getElem?_take] at hk
  split at hk
  · rename_i hkm
    rw [List.take_take, Nat.min_eq_left (by omega)]
    exact h k e hk
  · cases hk

theorem getElem?_lt {α : Type} (l : List α) (k : Nat) (e : α) (h : l[k]? = some e) : k < l.length := by
  rcases Nat.lt_or_ge k l.length with h' | h'
  · exact h'
  · rw [List.getElem?_eq_none h'] at h; cases h

theorem take_of_take_eq {α : Type} (a b : List α) (n k : Nat) (hk : k ≤ n)
    (h : a.take n = b.take n) : a.take k = b.take k := by
  have h1 : a.take k = (a.take n).take k := by rw [List.take_take, Nat.min_eq_left hk]
  have h2 : b.take k = (b.take n).take k := by rw [List.take_take, Nat.min_eq_left hk]
  rw [h1, h2, h]

theorem getElem?_of_take_eq {α : Type} (a b : List α) (n k : Nat) (hk : k < n)
    (h : a.take n = b.take n) : a[k]? = b[k]? := by
  have h1 : (a.take n)[k]? = (b.take n)[k]? := by rw [h]
  rw [List.getElem?_take, List.getElem?_take, if_pos hk, if_pos hk] at h1
  exact h1

theorem le_length_of_take_eq {α : Type} (a b : List α) (k : Nat) (hk : k ≤ b.length)
    (h : a.take k = b.take k) : k ≤ a.length := by
  have := congrArg List.length h
  simp only [List.length_take] at this; omega

/-- canonicity is stable when canonical logs only grow at their end -/
theorem canon_mono (cn cn' : Nat → List Entry) (l : List Entry) (h : Canon cn l)
    (hext : ∀ e ∈ l, ∃ x, cn' e.term = cn e.term ++ x) : Canon cn' l := by
  intro k e hk
  have hold := h k e hk
  obtain ⟨x, hx⟩ := hext e (List.mem_of_getElem? hk)
  have hlen : k + 1 ≤ (cn e.term).length := by
    have h1 := congrArg List.length hold
    rw [List.length_take, List.length_take] at h1
    have := getElem?_lt l k e hk
    omega
  rw [hx, hold, List.take_append_of_le_length hlen]

theorem canon_snoc (cn : Nat → List Entry) (l : List Entry) (e : Entry)
    (h : Canon cn l) (he : cn e.term = l ++ [e]) : Canon cn (l ++ [e]) := by
  intro k e' hk
  by_cases hkl : k < l.length
  · rw [List.getElem?_append_left hkl] at hk
    rw [List.take_append_of_le_length (by omega)]
    exact h k e' hk
  · have hk' := getElem?_lt _ k e' hk
    simp only [List.length_append, List.length_singleton] at hk'
    have hkeq : k = l.length := by omega
    subst hkeq
    rw [List.getElem?_append_right (by omega)] at hk
    simp only [Nat.sub_self, List.getElem?_cons_zero, Option.some.injEq] at hk
    subst hk
    rw [he]

/-! ### `append_leader_entries` -/

theorem appendLeaderEntries_append (es : List Entry) : ∀ (c : List Entry) (idx : Nat),
    c.length < idx → appendLeaderEntries c idx es = c ++ es := by
  induction es with
  | nil => intro c idx _; simp [appendLeaderEntries]
  | cons e es ih =>
    intro c idx h
    rw [appendLeaderEntries, if_pos h, ih _ _ (by simp; omega), List.append_assoc]; rfl

/-- **`append_leader_entries` on canonical logs**: `c.take k ++ es` is the leader's log as far as
    the request covers it; a log `c` that starts with it is left alone, any other becomes it.
    Equal terms at a position mean equal logs up to it because both logs are `Canon`. -/
theorem appendLeaderEntries_eq (cn : Nat → List Entry) (es : List Entry) :
    ∀ (c : List Entry) (k : Nat), k ≤ c.length → Canon cn c → Canon cn (c.take k ++ es) →
      (c.take k ++ es <+: c ∧ appendLeaderEntries c (k + 1) es = c) ∨
      (¬ c.take k ++ es <+: c ∧ appendLeaderEntries c (k + 1) es = c.take k ++ es) := by
  induction es with
  | nil =>
    intro c k _ _ _
    exact Or.inl ⟨by rw [List.append_nil]; exact List.take_prefix k c, rfl⟩
  | cons e es ih =>
    intro c k hk hc hM
    have hlenk : (c.take k).length = k := by rw [List.length_take]; omega
    rw [appendLeaderEntries]
    by_cases hgt : k + 1 > c.length
    · -- the request starts right after the log
      rw [if_pos hgt, appendLeaderEntries_append es _ _ (by simp; omega),
        List.take_of_length_le (by omega)]
      refine Or.inr ⟨fun h => ?_, by simp⟩
      have := h.length_le
      simp only [List.length_append, List.length_cons] at this
      omega
    · rw [if_neg hgt]
      have hlt : k < c.length := by omega
      have hMk : (c.take k ++ e :: es)[k]? = some e := by
        rw [List.getElem?_append_right (by omega), hlenk, Nat.sub_self]; rfl
      rw [Nat.add_sub_cancel, List.getElem?_eq_getElem hlt]
      dsimp only
      by_cases hterm : c[k].term ≠ e.term
      · -- conflict at `k`: cut there, then append
        rw [if_pos hterm, appendLeaderEntries_append es _ _ (by simp; omega)]
        refine Or.inr ⟨fun h => hterm ?_, by simp⟩
        obtain ⟨t, ht⟩ := h
        have hk' : c[k]? = some e := by
          rw [← ht, List.getElem?_append_left (by simp; omega)]; exact hMk
        rw [List.getElem?_eq_getElem hlt] at hk'
        rw [Option.some.inj hk']
      · -- same term at `k`, hence the same entry: go on
        rw [if_neg hterm]
        have hck : c.take (k + 1) = c.take k ++ [e] := by
          have h1 := hc k c[k] (List.getElem?_eq_getElem hlt)
          have h2 := hM k e hMk
          rw [h1, Decidable.of_not_not hterm, ← h2, List.take_add_one, hMk, List.take_left' hlenk]
          rfl
        have := ih c (k + 1) (by omega) hc (by rw [hck, List.append_assoc]; exact hM)
        rw [hck, List.append_assoc] at this
        exact this

/-- the leader-segment property of an AppendEntries survives appending to the canonical log -/
theorem ae_seg_extend (L x es : List Entry) (pi pt : Nat)
    (h1 : L.take pi ++ es = L.take (pi + es.length)) (h2 : pi = 0 ∨ termAt L pi = some pt) :
    (L ++ x).take pi ++ es = (L ++ x).take (pi + es.length) ∧
    (pi = 0 ∨ termAt (L ++ x) pi = some pt) := by
  have hpi : pi ≤ L.length := by
    rcases h2 with h | h
    · omega
    · unfold termAt at h
      split at h
      · cases h
      · cases hg : L[pi - 1]? with
        | none => rw [hg] at h; cases h
        | some e => have := getElem?_lt L _ e hg; omega
  have hlen : pi + es.length ≤ L.length := by
    have := congrArg List.length h1
    simp only [List.length_append, List.length_take] at this
    omega
  refine ⟨?_, ?_⟩
  · rw [List.take_append_of_le_length hpi, List.take_append_of_le_length hlen]; exact h1
  · rcases h2 with h | h
    · exact Or.inl h
    · right
      unfold termAt at h ⊢
      split
      · rename_i h0; rw [if_pos h0] at h; cases h
      · rename_i h0; rw [if_neg h0] at h
        rw [List.getElem?_append_left (by omega)]; exact h

end Neumann.Raft
