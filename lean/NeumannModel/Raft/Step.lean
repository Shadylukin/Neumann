import NeumannModel.Raft.System
import NeumannModel.Raft.Lemmas
import NeumannModel.Raft.LogLemmas
/-
  C01 — what one step of the system model does, independent of any invariant: the per-step facts
  (`NodeStep`) proved once per handler outcome, and the case analysis `sysStep_cases` that hands
  them to every invariant layer.
-/
namespace Neumann.Raft

theorem getElem?_set_of_some {α : Type} (l : List α) (i j : Nat) (a b : α) (h : l[i]? = some a) :
    (l.set i b)[j]? = if j = i then some b else l[j]? := by
  by_cases hji : j = i
  · subst hji; simp [getElem?_lt l j a h]
  · rw [if_neg hji, List.getElem?_set_ne (Ne.symm hji)]

theorem getElem?_set_cases {α : Type} {l : List α} {i j : Nat} {a b x : α}
    (h : l[i]? = some a) (hj : (l.set i b)[j]? = some x) :
    (j = i ∧ b = x) ∨ (j ≠ i ∧ l[j]? = some x) := by
  rw [getElem?_set_of_some l i j a b h] at hj
  by_cases hji : j = i
  · rw [if_pos hji] at hj; exact Or.inl ⟨hji, Option.some.inj hj⟩
  · rw [if_neg hji] at hj; exact Or.inr ⟨hji, hj⟩

theorem getElem?_setNode (s : Sys) (i j : Nat) (nd nd' : Node) (msgs : List (Nat × Nat × Msg))
    (h : s.nodes[i]? = some nd) :
    (setNode s i nd' nd msgs).nodes[j]? = if j = i then some nd' else s.nodes[j]? :=
  getElem?_set_of_some s.nodes i j nd nd' h

theorem term_bound_setNode (s : Sys) (i : Nat) (nd nd' : Node) (msgs : List (Nat × Nat × Msg))
    (hnd : s.nodes[i]? = some nd) (hle : nd.term ≤ nd'.term) (j t : Nat)
    (h : ∃ ndj : Node, s.nodes[j]? = some ndj ∧ t ≤ ndj.term) :
    ∃ ndj : Node, (setNode s i nd' nd msgs).nodes[j]? = some ndj ∧ t ≤ ndj.term := by
  obtain ⟨ndj, hj, ht⟩ := h
  rw [getElem?_setNode s i j nd nd' msgs hnd]
  by_cases hji : j = i
  · subst hji; rw [hnd] at hj; cases hj
    exact ⟨nd', if_pos rfl, Nat.le_trans ht hle⟩
  · exact ⟨ndj, by rw [if_neg hji]; exact hj, ht⟩

theorem getElem?_initSys (c : Config) (i : Nat) (nd : Node) (h : (initSys c).nodes[i]? = some nd) :
    nd = { id := i } ∧ i < c.n := by
  have hi : i < c.n := by simpa [initSys] using getElem?_lt _ _ _ h
  simp only [initSys, List.getElem?_map, List.getElem?_range hi, Option.map_some, Option.some.injEq] at h
  exact ⟨h.symm, hi⟩

theorem mem_ghostOf {v : Nat} {nd nd' : Node} {v' t cd : Nat} :
    (v', t, cd) ∈ ghostOf v nd nd' ↔
      v' = v ∧ t = nd'.term ∧ nd'.votedFor = some cd ∧
        ¬ (nd'.term = nd.term ∧ nd'.votedFor = nd.votedFor) := by
  constructor
  · intro hx
    unfold ghostOf at hx
    split at hx
    · cases hx
    · rename_i hne
      split at hx
      · rename_i x hv
        simp only [List.mem_singleton, Prod.mk.injEq] at hx
        exact ⟨hx.1, hx.2.1, hx.2.2 ▸ hv, hne⟩
      · cases hx
  · rintro ⟨rfl, rfl, hv, hne⟩
    unfold ghostOf; rw [if_neg hne, hv]; simp

theorem mem_voteLogOf {s : Sys} {v : Nat} {nd nd' : Node} {v' U cd : Nat} {vlog : List Entry} {fl : Bool} :
    (v', U, cd, vlog, fl) ∈ voteLogOf s v nd nd' ↔
      v' = v ∧ U = nd'.term ∧ nd'.votedFor = some cd ∧ vlog = nd.log ∧
        fl = s.elected.any (fun y => y.1 == nd'.term) ∧
        ¬ (nd'.term = nd.term ∧ nd'.votedFor = nd.votedFor) := by
  constructor
  · intro hx
    unfold voteLogOf at hx
    split at hx
    · cases hx
    · rename_i hne
      split at hx
      · rename_i x hv
        simp only [List.mem_singleton, Prod.mk.injEq] at hx
        exact ⟨hx.1, hx.2.1, hx.2.2.1 ▸ hv, hx.2.2.2.1, hx.2.2.2.2, hne⟩
      · cases hx
  · rintro ⟨rfl, rfl, hv, rfl, rfl, hne⟩
    unfold voteLogOf; rw [if_neg hne, hv]; simp

theorem mem_broadcast (c : Config) (src : Nat) (m : Msg) (a b : Nat) (m' : Msg)
    (h : (a, b, m') ∈ broadcast c src m) : a = src ∧ m' = m := by
  unfold broadcast at h
  simp only [List.mem_map] at h
  obtain ⟨d, _, hd⟩ := h
  simp only [Prod.mk.injEq] at hd
  exact ⟨hd.1.symm, hd.2.2.symm⟩

/-- What one handler call may do to `(term, votedFor, role, votes)`.
    `grant = some src` records that the call consumed a granted vote response for the
    node's current term sent by `src`. -/
structure NodeTrans (c : Config) (nd nd' : Node) (grant : Option Nat) : Prop where
  id_eq : nd'.id = nd.id
  term_le : nd.term ≤ nd'.term
  vote_stable : nd'.term = nd.term → nd'.votedFor = nd.votedFor ∨ nd.votedFor = none
  shape :
    nd'.role = .follower
    ∨ (nd'.role = nd.role ∧ nd'.term = nd.term ∧ nd'.votes = nd.votes)
    ∨ (nd'.role = .candidate ∧ nd'.votes = [nd.id] ∧ nd'.votedFor = some nd.id ∧ nd.term < nd'.term)
    ∨ (nd.role = .candidate ∧ nd'.term = nd.term ∧
        (∃ src, grant = some src ∧ src ∉ nd.votes ∧ nd'.votes = nd.votes ++ [src]) ∧
        (nd'.role = .candidate ∨ (nd'.role = .leader ∧ c.quorum ≤ nd'.votes.length)))

/-- the vote response consumed by `handleRequestVoteResp`, if it is one that counts -/
def grantOf (nd : Node) (src : Nat) : Msg → Option Nat
  | .requestVoteResp t true _ => if t = nd.term then some src else none
  | _ => none

theorem grantOf_eq_some {nd : Node} {src x : Nat} {m : Msg} (h : grantOf nd src m = some x) :
    ∃ v, m = .requestVoteResp nd.term true v ∧ x = src := by
  unfold grantOf at h
  split at h
  · rename_i t v
    by_cases ht : t = nd.term
    · rw [if_pos ht] at h; cases h; exact ⟨v, by rw [ht], rfl⟩
    · rw [if_neg ht] at h; cases h
  · cases h

/-- the four ways a single node step can touch log / role / match_index -/
def Kind (c : Config) (s : Sys) (i : Nat) (nd nd' : Node) : Prop :=
  (nd'.log = nd.log ∧ (nd'.role = .leader → nd.role = .leader ∧ nd'.term = nd.term ∧
      (nd'.matchIdx = nd.matchIdx ∨
        ∃ src f mi, (src, i, Msg.appendEntriesResp nd.term true f mi) ∈ s.net ∧
          nd'.matchIdx = alSet nd.matchIdx src mi)))
  ∨ (nd.role = .candidate ∧ nd'.role = .leader ∧ nd'.term = nd.term ∧ nd'.log = nd.log ∧
      nd'.matchIdx = (peers c nd.id).map (fun p => (p, 0)))
  ∨ (nd.role = .leader ∧ ∃ p, nd' = { nd with log := nd.log ++ [⟨nd.term, p⟩] })
  ∨ (nd'.role = .follower ∧ ∃ src l pi pt es lc,
      (src, i, Msg.appendEntries nd'.term l pi pt es lc) ∈ s.net ∧
      aeLogOk nd.log pi pt = true ∧ nd'.log = appendLeaderEntries nd.log (pi + 1) es)

theorem Kind.won {c : Config} {s : Sys} {i : Nat} {nd nd' : Node} (hk : Kind c s i nd nd')
    (hnl : nd.role ≠ .leader) (hl : nd'.role = .leader) :
    nd.role = .candidate ∧ nd'.term = nd.term ∧ nd'.log = nd.log := by
  rcases hk with ⟨_, hq⟩ | ⟨hr, _, hterm, hlog, _⟩ | ⟨hr, _⟩ | ⟨hr', _⟩
  · exact absurd (hq hl).1 hnl
  · exact ⟨hr, hterm, hlog⟩
  · exact absurd hr hnl
  · exact nomatch hr'.symm.trans hl

/-- how a node can come to record a (new) vote: it starts an election itself, or it grants a
    RequestVote whose advertised log is at least as up to date as its own -/
def VoteFact (s : Sys) (i : Nat) (nd nd' : Node) : Prop :=
  ∀ cd, nd'.votedFor = some cd → ¬ (nd'.term = nd.term ∧ nd'.votedFor = nd.votedFor) →
    nd'.log = nd.log ∧
    ((cd = i ∧ nd'.role = .candidate ∧ nd.term < nd'.term) ∨
     ((nd.term < nd'.term → nd'.role ≠ .candidate) ∧
      ∃ src li lt, (src, i, Msg.requestVote nd'.term cd li lt) ∈ s.net ∧
        (lt > lastTerm nd.log ∨ (lt = lastTerm nd.log ∧ nd.log.length ≤ li))))

theorem voteLogOk_upToDate (c : Config) (log : List Entry) (li lt : Nat) (geo : Bool)
    (h : voteLogOk c log li lt geo = true) :
    lt > lastTerm log ∨ (lt = lastTerm log ∧ log.length ≤ li) := by
  unfold voteLogOk lastIdx at h
  simp only [decide_eq_true_eq] at h
  rcases h with (h | h) | h
  · exact Or.inl h
  · exact Or.inr ⟨h.1, Nat.le_of_lt h.2⟩
  · exact Or.inr ⟨h.1.1, Nat.le_of_eq h.1.2.symm⟩

/-- a leader advanced its own commit index -/
def LeaderAdvance (c : Config) (nd nd' : Node) : Prop :=
  nd.role = .leader ∧ nd'.role = .leader ∧ nd.commit < nd'.commit ∧
  termAt nd'.log nd'.commit = some nd'.term ∧ nd'.commit = quorumIdx c nd'

/-- **what one system step does to the commit index of node `i`** -/
def CommitFact (c : Config) (s : Sys) (i : Nat) (nd nd' : Node) : Prop :=
  nd'.commit = nd.commit ∨ nd'.commit = 0 ∨ LeaderAdvance c nd nd' ∨
  (∃ src l pi pt es lc, (src, i, Msg.appendEntries nd'.term l pi pt es lc) ∈ s.net ∧
     aeLogOk nd.log pi pt = true ∧ nd'.log = appendLeaderEntries nd.log (pi + 1) es ∧
     nd'.commit = min lc (min (pi + es.length) nd'.log.length))

/-- a message node `i` sends to `b` in the step `nd → nd'`: a reply to a message from `b`, or the
    RequestVote of an election started in this very step; no handler sends an AppendEntries -/
@[reducible] def MsgOk (s : Sys) (i : Nat) (nd nd' : Node) (b : Nat) : Msg → Prop
  | .requestVote t cand li lt =>
    cand = i ∧ t = nd'.term ∧ nd'.role = .candidate ∧ nd.term < nd'.term ∧
    li = lastIdx nd.log ∧ lt = lastTerm nd.log
  | .requestVoteResp T g _ => g = true →
    ∃ cand li lt, (b, i, Msg.requestVote T cand li lt) ∈ s.net ∧
      nd'.votedFor = some cand ∧ nd'.term = T
  | .appendEntriesResp T sc f mi => f = i ∧ T = nd'.term ∧
    ∃ t l pi pt es lc, (b, i, Msg.appendEntries t l pi pt es lc) ∈ s.net ∧
      (sc = true → t = nd'.term ∧ aeLogOk nd.log pi pt = true ∧
        nd'.log = appendLeaderEntries nd.log (pi + 1) es ∧ mi = min (pi + es.length) nd'.log.length)
  | .appendEntries .. => False
  | _ => True

def MsgsFrom (s : Sys) (i : Nat) (nd nd' : Node) (msgs : List (Nat × Nat × Msg)) : Prop :=
  ∀ (a b : Nat) (m : Msg), (a, b, m) ∈ msgs → a = i ∧ MsgOk s i nd nd' b m

theorem MsgsFrom.nil {s : Sys} {i : Nat} {nd nd' : Node} : MsgsFrom s i nd nd' [] :=
  fun _ _ _ h => nomatch h

theorem MsgsFrom.reply {s : Sys} {i b : Nat} {nd nd' : Node} {m : Msg} (h : MsgOk s i nd nd' b m) :
    MsgsFrom s i nd nd' [(i, b, m)] := by
  intro a b' m' hm
  simp only [List.mem_singleton, Prod.mk.injEq] at hm
  obtain ⟨rfl, rfl, rfl⟩ := hm
  exact ⟨rfl, h⟩

theorem MsgsFrom.broadcast {s : Sys} {i : Nat} {nd nd' : Node} {m : Msg} (c : Config)
    (h : ∀ b, MsgOk s i nd nd' b m) : MsgsFrom s i nd nd' (broadcast c i m) := by
  intro a b m' hm
  obtain ⟨rfl, rfl⟩ := mem_broadcast c i m a b m' hm
  exact ⟨rfl, h b⟩


def NoAE (msgs : List (Nat × Nat × Msg)) : Prop :=
  ∀ (a b : Nat) (m : Msg), (a, b, m) ∈ msgs → ∀ t l pi pt es lc, m ≠ Msg.appendEntries t l pi pt es lc

/-- messages a step may add, as far as acknowledgements are concerned -/
def MsgsC (s : Sys) (i : Nat) (nd nd' : Node) (msgs : List (Nat × Nat × Msg)) : Prop :=
  ∀ (a b : Nat) (m : Msg), (a, b, m) ∈ msgs → a = i ∧
    ∀ T sc f mi, m = Msg.appendEntriesResp T sc f mi → f = i ∧ T = nd'.term ∧
      (sc = true → ∃ src l pi pt es lc,
        (src, i, Msg.appendEntries nd'.term l pi pt es lc) ∈ s.net ∧
        aeLogOk nd.log pi pt = true ∧ nd'.log = appendLeaderEntries nd.log (pi + 1) es ∧
        mi = min (pi + es.length) nd'.log.length)

/-- every RequestVote a step adds announces an election the node starts in this very step -/
def MsgsR (i : Nat) (nd nd' : Node) (msgs : List (Nat × Nat × Msg)) : Prop :=
  ∀ (a b : Nat) (m : Msg), (a, b, m) ∈ msgs → ∀ t cand li lt, m = Msg.requestVote t cand li lt →
    cand = i ∧ t = nd'.term ∧ nd'.role = .candidate ∧ nd.term < nd'.term ∧
    li = lastIdx nd.log ∧ lt = lastTerm nd.log

section faces
variable {s : Sys} {i : Nat} {nd nd' : Node} {msgs : List (Nat × Nat × Msg)}

theorem MsgsFrom.noAE (h : MsgsFrom s i nd nd' msgs) : NoAE msgs := by
  intro a b m hm t l pi pt es lc e
  subst e; exact (h a b _ hm).2

theorem MsgsFrom.msgsC (h : MsgsFrom s i nd nd' msgs) : MsgsC s i nd nd' msgs := by
  intro a b m hm
  refine ⟨(h a b m hm).1, fun T sc f mi e => ?_⟩
  subst e
  obtain ⟨hf, hT, t, l, pi, pt, es, lc, hin, hs⟩ := (h a b _ hm).2
  refine ⟨hf, hT, fun hsc => ?_⟩
  obtain ⟨ht, hrest⟩ := hs hsc
  exact ⟨b, l, pi, pt, es, lc, ht ▸ hin, hrest⟩

theorem MsgsFrom.msgsR (h : MsgsFrom s i nd nd' msgs) : MsgsR i nd nd' msgs := by
  intro a b m hm t cand li lt e
  subst e; exact (h a b _ hm).2

end faces

structure NodeStep (c : Config) (s : Sys) (i : Nat) (nd nd' : Node) (g : Option Nat)
    (msgs : List (Nat × Nat × Msg)) : Prop where
  trans : NodeTrans c nd nd' g
  kind : Kind c s i nd nd'
  vote : VoteFact s i nd nd'
  elect : nd.role = .candidate → nd'.role = .leader → nd'.votedFor = nd.votedFor
  commit : CommitFact c s i nd nd'
  msgs : MsgsFrom s i nd nd' msgs

section shapes
variable {c : Config} {s : Sys} {i : Nat} {nd nd' : Node} {g : Option Nat}
  {msgs : List (Nat × Nat × Msg)}

theorem NodeStep.of_keep (h1 : nd'.term = nd.term) (h2 : nd'.votedFor = nd.votedFor)
    (ht : NodeTrans c nd nd' g) (hk : Kind c s i nd nd') (hc : CommitFact c s i nd nd')
    (hm : MsgsFrom s i nd nd' msgs) : NodeStep c s i nd nd' g msgs :=
  ⟨ht, hk, fun _ _ hne => absurd ⟨h1, h2⟩ hne, fun _ _ => h2, hc, hm⟩

/-- `nd'` differs from `nd` only in fields no invariant reads (`leaderId`, pre-vote state,
    `next_index`, `backoff`, `hasLeaderState`) -/
theorem NodeStep.of_same (h0 : nd'.id = nd.id) (h1 : nd'.term = nd.term)
    (h2 : nd'.votedFor = nd.votedFor) (h3 : nd'.log = nd.log) (h4 : nd'.role = nd.role)
    (h5 : nd'.commit = nd.commit) (h6 : nd'.votes = nd.votes) (h7 : nd'.matchIdx = nd.matchIdx)
    (hm : MsgsFrom s i nd nd' msgs) : NodeStep c s i nd nd' g msgs :=
  .of_keep h1 h2 ⟨h0, Nat.le_of_eq h1.symm, fun _ => Or.inl h2, Or.inr (Or.inl ⟨h4, h1, h6⟩)⟩
    (Or.inl ⟨h3, fun hl => ⟨h4 ▸ hl, h1, Or.inl h7⟩⟩) (Or.inl h5) hm

theorem NodeStep.of_follower (h0 : nd'.id = nd.id) (h1 : nd'.role = .follower)
    (h2 : (nd'.term = nd.term ∧ nd'.votedFor = nd.votedFor) ∨ (nd.term < nd'.term ∧ nd'.votedFor = none))
    (h3 : nd'.log = nd.log) (h5 : nd'.commit = nd.commit ∨ nd'.commit = 0)
    (hm : MsgsFrom s i nd nd' msgs) : NodeStep c s i nd nd' g msgs where
  trans := by
    refine ⟨h0, ?_, fun e => ?_, Or.inl h1⟩
    · rcases h2 with h | h
      · exact Nat.le_of_eq h.1.symm
      · exact Nat.le_of_lt h.1
    · rcases h2 with h | h
      · exact Or.inl h.2
      · exact absurd e (Nat.ne_of_gt h.1)
  kind := Or.inl ⟨h3, fun hl => nomatch h1.symm.trans hl⟩
  vote := by
    intro cd hv hne
    rcases h2 with h | h
    · exact absurd h hne
    · rw [h.2] at hv; cases hv
  elect := fun _ hl => nomatch h1.symm.trans hl
  commit := h5.elim Or.inl (fun h => Or.inr (Or.inl h))
  msgs := hm

theorem NodeStep.of_start (hid : nd.id = i) (h0 : nd'.id = nd.id) (h1 : nd'.term = nd.term + 1)
    (h2 : nd'.votedFor = some nd.id) (h3 : nd'.log = nd.log) (h4 : nd'.role = .candidate)
    (h5 : nd'.commit = nd.commit) (h6 : nd'.votes = [nd.id])
    (hm : MsgsFrom s i nd nd' msgs) : NodeStep c s i nd nd' g msgs where
  trans := ⟨h0, by omega, fun e => by omega, Or.inr (Or.inr (Or.inl ⟨h4, h6, h2, by omega⟩))⟩
  kind := Or.inl ⟨h3, fun hl => nomatch h4.symm.trans hl⟩
  vote := by
    intro cd hv _
    rw [h2] at hv; cases hv
    exact ⟨h3, Or.inl ⟨hid, h4, by omega⟩⟩
  elect := fun _ hl => nomatch h4.symm.trans hl
  commit := Or.inl h5
  msgs := hm

theorem msgOk_startElection (x : Node) (hid : x.id = i) (hlog : x.log = nd.log) (hterm : x.term = nd.term)
    (h : nd' = (startElection x).1) (b : Nat) : MsgOk s i nd nd' b (startElection x).2 := by
  subst h
  exact ⟨hid, rfl, rfl, by rw [← hterm]; exact Nat.lt_succ_self _, by rw [hlog], by rw [hlog]⟩

end shapes

section handlers
variable (c : Config) (s : Sys) (i src : Nat) (nd : Node)

theorem handleRequestVote_step (t cand li lt : Nat) (hl geo : Bool)
    (hmem : (src, i, Msg.requestVote t cand li lt) ∈ s.net) :
    NodeStep c s i nd (handleRequestVote c nd t cand li lt hl geo).1 none
      (route c i src (some (handleRequestVote c nd t cand li lt hl geo).2)) := by
  rcases handleRequestVote_cases c nd t cand li lt hl geo with h | ⟨ht, hcv, hlo, h⟩ <;> rw [h]
  · have hm : ∀ nd' T, MsgsFrom s i nd nd' [(i, src, Msg.requestVoteResp T false nd.id)] :=
      fun _ _ => MsgsFrom.reply (fun e => nomatch e)
    rcases stepDown_cases nd t with ⟨_, e⟩ | ⟨hlt, e⟩ <;> rw [e]
    · exact NodeStep.of_same rfl rfl rfl rfl rfl rfl rfl rfl (hm _ _)
    · exact NodeStep.of_follower rfl rfl (Or.inr ⟨hlt, rfl⟩) rfl (Or.inl rfl) (hm _ _)
  · have hup := voteLogOk_upToDate c nd.log li lt geo hlo
    have hm : ∀ (nd' : Node) (T : Nat), nd'.votedFor = some cand → nd'.term = T → T = t →
        MsgsFrom s i nd nd' [(i, src, Msg.requestVoteResp T true nd.id)] := by
      intro _ _ h1 h2 h3
      subst h3
      exact MsgsFrom.reply (fun _ => ⟨cand, li, lt, hmem, h1, h2⟩)
    rcases stepDown_cases nd t with ⟨_, e⟩ | ⟨hlt, e⟩ <;> rw [e] at ht hcv ⊢
    · simp only [canVote, decide_eq_true_eq] at hcv
      have hnet : (src, i, Msg.requestVote nd.term cand li lt) ∈ s.net := ht ▸ hmem
      exact {
        trans := ⟨rfl, Nat.le_refl _, fun _ => hcv.elim Or.inr (fun h => Or.inl h.symm),
          Or.inr (Or.inl ⟨rfl, rfl, rfl⟩)⟩
        kind := Or.inl ⟨rfl, fun hl => ⟨hl, rfl, Or.inl rfl⟩⟩
        vote := fun cd hv _ => by
          obtain rfl : cand = cd := Option.some.inj hv
          exact ⟨rfl, Or.inr ⟨fun h => absurd h (Nat.lt_irrefl _), src, li, lt, hnet, hup⟩⟩
        elect := fun hr hl => nomatch hr.symm.trans hl
        commit := Or.inl rfl
        msgs := hm _ _ rfl rfl ht.symm }
    · exact {
        trans := ⟨rfl, Nat.le_of_lt hlt, fun e => absurd e (Nat.ne_of_gt hlt), Or.inl rfl⟩
        kind := Or.inl ⟨rfl, fun hl => nomatch hl⟩
        vote := fun cd hv _ => by
          obtain rfl : cand = cd := Option.some.inj hv
          exact ⟨rfl, Or.inr ⟨fun _ h => Role.noConfusion h, src, li, lt, hmem, hup⟩⟩
        elect := fun _ hl => nomatch hl
        commit := Or.inl rfl
        msgs := hm _ _ rfl rfl rfl }

theorem handleRequestVoteResp_step (t : Nat) (gr : Bool) (v : Nat) :
    NodeStep c s i nd (handleRequestVoteResp c nd src t gr)
      (grantOf nd src (.requestVoteResp t gr v)) [] := by
  rcases handleRequestVoteResp_cases c nd src t gr with h | ⟨_, hlt, h⟩ | ⟨hc, hg, ht, hnot, h⟩
  · rw [h]; exact NodeStep.of_same rfl rfl rfl rfl rfl rfl rfl rfl MsgsFrom.nil
  · rw [h]; exact NodeStep.of_follower rfl rfl (Or.inr ⟨hlt, rfl⟩) rfl (Or.inl rfl) MsgsFrom.nil
  · subst hg; subst ht
    have hgr : grantOf nd src (.requestVoteResp nd.term true v) = some src := if_pos rfl
    rcases h with h | ⟨hq, h⟩ <;> rw [h]
    · exact .of_keep rfl rfl
        ⟨rfl, Nat.le_refl _, fun _ => Or.inl rfl,
          Or.inr (Or.inr (Or.inr ⟨hc, rfl, ⟨src, hgr, hnot, rfl⟩, Or.inl hc⟩))⟩
        (Or.inl ⟨rfl, fun hl => nomatch hc.symm.trans hl⟩) (Or.inl rfl) MsgsFrom.nil
    · exact .of_keep rfl rfl
        ⟨rfl, Nat.le_refl _, fun _ => Or.inl rfl,
          Or.inr (Or.inr (Or.inr ⟨hc, rfl, ⟨src, hgr, hnot, rfl⟩, Or.inr ⟨rfl, hq⟩⟩))⟩
        (Or.inr (Or.inl ⟨hc, rfl, rfl, rfl, rfl⟩)) (Or.inl rfl) MsgsFrom.nil

theorem startElection_step (hid : nd.id = i) (x : Node) (h0 : x.id = nd.id) (h1 : x.term = nd.term)
    (h3 : x.log = nd.log) (h5 : x.commit = nd.commit) :
    NodeStep c s i nd (startElection x).1 none (broadcast c i (startElection x).2) :=
  NodeStep.of_start hid h0 (by rw [← h1]; rfl) (by rw [← h0]; rfl) h3 rfl h5 (by rw [← h0]; rfl)
    (MsgsFrom.broadcast c (msgOk_startElection x (h0.trans hid) h3 h1 rfl))

theorem handlePreVoteResp_step (hid : nd.id = i) (t : Nat) (gr : Bool) :
    NodeStep c s i nd (handlePreVoteResp c nd src t gr).1 none
      (route c i src (handlePreVoteResp c nd src t gr).2) := by
  rcases handlePreVoteResp_cases c nd src t gr with h | ⟨hlt, h⟩ | h | h <;> rw [h]
  · exact NodeStep.of_same rfl rfl rfl rfl rfl rfl rfl rfl MsgsFrom.nil
  · exact NodeStep.of_follower rfl rfl (Or.inr ⟨hlt, rfl⟩) rfl (Or.inl rfl) MsgsFrom.nil
  · exact NodeStep.of_same rfl rfl rfl rfl rfl rfl rfl rfl MsgsFrom.nil
  · exact startElection_step c s i nd hid _ rfl rfl rfl rfl

theorem handleTimeoutNow_step (hid : nd.id = i) (t l : Nat) :
    NodeStep c s i nd (handleTimeoutNow nd src t l).1 none
      (route c i src (handleTimeoutNow nd src t l).2) := by
  rcases handleTimeoutNow_cases nd src t l with h | h <;> rw [h]
  · exact NodeStep.of_same rfl rfl rfl rfl rfl rfl rfl rfl MsgsFrom.nil
  · exact startElection_step c s i nd hid nd rfl rfl rfl rfl

theorem aeAccept_commit_cases (nd2 : Node) (pi : Nat) (es : List Entry) (lc : Nat) :
    nd2.commit ≤ (aeAccept nd2 pi es lc).1.commit ∧
    ((aeAccept nd2 pi es lc).1.commit = nd2.commit ∨
     (aeAccept nd2 pi es lc).1.commit =
      min lc (min (pi + es.length) (aeAccept nd2 pi es lc).1.log.length)) := by
  rw [aeAccept_commit]
  by_cases h : lc > nd2.commit
  · rw [if_pos h]
    refine ⟨Nat.le_max_left _ _, ?_⟩
    rcases Nat.le_total (min lc (min (pi + es.length) (appendLeaderEntries nd2.log (pi + 1) es).length))
        nd2.commit with h4 | h4
    · exact Or.inl (Nat.max_eq_left h4)
    · exact Or.inr (Nat.max_eq_right h4)
  · rw [if_neg h]; exact ⟨Nat.le_refl _, Or.inl rfl⟩

theorem handleAppendEntries_step (hid : nd.id = i) (t l pi pt : Nat) (es : List Entry) (lc : Nat)
    (hmem : (src, i, Msg.appendEntries t l pi pt es lc) ∈ s.net) :
    NodeStep c s i nd (handleAppendEntries nd t l pi pt es lc).1 none
      (route c i src (some (handleAppendEntries nd t l pi pt es lc).2)) := by
  have hm : ∀ (nd' : Node) (T f : Nat), f = i → T = nd'.term →
      MsgsFrom s i nd nd' [(i, src, Msg.appendEntriesResp T false f 0)] :=
    fun _ _ _ hf hT => MsgsFrom.reply ⟨hf, hT, t, l, pi, pt, es, lc, hmem, fun e => nomatch e⟩
  rcases handleAppendEntries_cases nd t l pi pt es lc with ⟨_, h⟩ | ⟨_, hterm, ⟨_, h⟩ | ⟨hok, h⟩⟩ <;> rw [h]
  · exact NodeStep.of_same rfl rfl rfl rfl rfl rfl rfl rfl (hm _ _ _ hid rfl)
  · refine NodeStep.of_follower (stepDown_id nd t) rfl ?_ (stepDown_log nd t)
      (Or.inl (stepDown_commit nd t)) (hm _ _ _ ((stepDown_id nd t).trans hid) rfl)
    rcases stepDown_role nd t with h | h
    · exact Or.inl ⟨h.2.1, h.2.2⟩
    · exact Or.inr ⟨h.2.2, h.2.1⟩
  · have hv := stepDown_role nd t
    have hid' := stepDown_id nd t
    have hlog := stepDown_log nd t
    have hcm := stepDown_commit nd t
    generalize stepDown nd t = b at *
    have hnet : (src, i, Msg.appendEntries b.term l pi pt es lc) ∈ s.net := by rw [hterm]; exact hmem
    have hlog' : (aeAccept { b with role := .follower, leaderId := some l } pi es lc).1.log =
        appendLeaderEntries nd.log (pi + 1) es := by rw [← hlog]; rfl
    exact {
      trans := by
        refine ⟨hid', ?_, fun e => ?_, Or.inl rfl⟩
        · rcases hv with h | h
          · exact Nat.le_of_eq h.2.1.symm
          · exact Nat.le_of_lt h.2.2
        · rcases hv with h | h
          · exact Or.inl h.2.2
          · exact absurd e (Nat.ne_of_gt h.2.2)
      kind := Or.inr (Or.inr (Or.inr ⟨rfl, src, l, pi, pt, es, lc, hnet, hok, hlog'⟩))
      vote := by
        intro cd hvf hne
        rcases hv with h | h
        · exact absurd ⟨h.2.1, h.2.2⟩ hne
        · exact nomatch h.2.1.symm.trans hvf
      elect := fun _ hl => nomatch hl
      commit := by
        rcases (aeAccept_commit_cases { b with role := .follower, leaderId := some l } pi es lc).2 with h | h
        · exact Or.inl (h.trans hcm)
        · exact Or.inr (Or.inr (Or.inr ⟨src, l, pi, pt, es, lc, hnet, hok, hlog', h⟩))
      msgs := MsgsFrom.reply ⟨hid'.trans hid, rfl, t, l, pi, pt, es, lc, hmem,
        fun _ => ⟨hterm.symm, hok, hlog', rfl⟩⟩ }

theorem handleAppendEntriesResp_step (t : Nat) (sc : Bool) (f mi : Nat)
    (hmem : (src, i, Msg.appendEntriesResp t sc f mi) ∈ s.net) :
    NodeStep c s i nd (handleAppendEntriesResp c nd src t sc mi) none [] := by
  rcases handleAppendEntriesResp_cases c nd src t sc mi with h | ⟨_, hlt, h⟩ | ⟨hl, ht, hsc, h⟩ | ⟨nx, bo, h⟩
  · rw [h]; exact NodeStep.of_same rfl rfl rfl rfl rfl rfl rfl rfl MsgsFrom.nil
  · rw [h]; exact NodeStep.of_follower rfl rfl (Or.inr ⟨hlt, rfl⟩) rfl (Or.inl rfl) MsgsFrom.nil
  · subst ht; subst hsc
    rw [h]
    have hk : ∀ nd' : Node, nd'.log = nd.log → nd'.term = nd.term →
        nd'.matchIdx = alSet nd.matchIdx src mi → Kind c s i nd nd' :=
      fun _ h1 h2 h3 => Or.inl ⟨h1, fun _ => ⟨hl, h2, Or.inr ⟨src, f, mi, hmem, h3⟩⟩⟩
    rcases tryAdvanceCommit_cases c { nd with nextIdx := alSet nd.nextIdx src (mi + 1),
                                              matchIdx := alSet nd.matchIdx src mi,
                                              backoff := alRemove nd.backoff src }
      with e | ⟨_, hlt, hta, e⟩ <;> rw [e]
    · exact .of_keep rfl rfl ⟨rfl, Nat.le_refl _, fun _ => Or.inl rfl, Or.inr (Or.inl ⟨rfl, rfl, rfl⟩)⟩
        (hk _ rfl rfl rfl) (Or.inl rfl) MsgsFrom.nil
    · exact .of_keep rfl rfl ⟨rfl, Nat.le_refl _, fun _ => Or.inl rfl, Or.inr (Or.inl ⟨rfl, rfl, rfl⟩)⟩
        (hk _ rfl rfl rfl) (Or.inr (Or.inr (Or.inl ⟨hl, hl, hlt, hta, rfl⟩))) MsgsFrom.nil
  · rw [h]; exact NodeStep.of_same rfl rfl rfl rfl rfl rfl rfl rfl MsgsFrom.nil

theorem deliver_step (hid : nd.id = i) (m : Msg) (b1 b2 b3 : Bool) (hmem : (src, i, m) ∈ s.net) :
    NodeStep c s i nd (deliver c nd src m b1 b2 b3).1 (grantOf nd src m)
      (route c i src (deliver c nd src m b1 b2 b3).2) := by
  cases m with
  | requestVote t cand li lt => exact handleRequestVote_step c s i src nd t cand li lt b1 b2 hmem
  | requestVoteResp t gr v => exact handleRequestVoteResp_step c s i src nd t gr v
  | preVote t cand li lt =>
    obtain ⟨g, hg⟩ := handlePreVote_eq nd t cand li lt b3 b1
    show NodeStep c s i nd nd none (route c i src (some (handlePreVote nd t cand li lt b3 b1)))
    rw [hg]
    exact NodeStep.of_same rfl rfl rfl rfl rfl rfl rfl rfl (MsgsFrom.reply trivial)
  | preVoteResp t gr v => exact handlePreVoteResp_step c s i src nd hid t gr
  | appendEntries t l pi pt es lc => exact handleAppendEntries_step c s i src nd hid t l pi pt es lc hmem
  | appendEntriesResp t sc f mi => exact handleAppendEntriesResp_step c s i src nd t sc f mi hmem
  | timeoutNow t l => exact handleTimeoutNow_step c s i src nd hid t l

theorem propose_step (p : Nat) (a : Bool) : NodeStep c s i nd (propose nd p a).1 none [] := by
  rcases propose_cases nd p a with h | ⟨hr, h⟩ <;> rw [h]
  · exact NodeStep.of_same rfl rfl rfl rfl rfl rfl rfl rfl MsgsFrom.nil
  · exact .of_keep rfl rfl ⟨rfl, Nat.le_refl _, fun _ => Or.inl rfl, Or.inr (Or.inl ⟨rfl, rfl, rfl⟩)⟩
      (Or.inr (Or.inr (Or.inl ⟨hr, p, rfl⟩))) (Or.inl rfl) MsgsFrom.nil

theorem crash_step : NodeStep c s i nd (crashRestart nd) none [] :=
  NodeStep.of_follower rfl rfl (Or.inl ⟨rfl, rfl⟩) rfl (Or.inr rfl) MsgsFrom.nil

end handlers

/-- the AppendEntries a leader builds is a suffix of its log after a prefix of its log -/
theorem appendEntriesFor_spec (nd : Node) (j : Nat) (m : Msg) (h : appendEntriesFor nd j = some m) :
    nd.role = .leader ∧ ∃ pi pt es, m = .appendEntries nd.term nd.id pi pt es nd.commit ∧
      nd.log.take pi ++ es = nd.log.take (pi + es.length) ∧ (pi = 0 ∨ termAt nd.log pi = some pt) := by
  unfold appendEntriesFor at h
  by_cases hr : nd.role ≠ .leader
  · rw [if_pos hr] at h; cases h
  rw [if_neg hr] at h
  refine ⟨Decidable.of_not_not hr, ?_⟩
  simp only [Option.some.injEq] at h
  generalize (if nd.hasLeaderState = true then (alGet nd.nextIdx j).getD 1 else 1) = next at h
  by_cases hn1 : next ≤ 1
  · rw [if_pos hn1] at h
    refine ⟨0, 0, _, h.symm, ?_, Or.inl rfl⟩
    by_cases hn0 : next = 0
    · simp [hn0]
    · simp [show next = 1 by omega]
  · rw [if_neg hn1, if_neg (show ¬ next = 0 by omega)] at h
    cases hget : nd.log[next - 2]? with
    | none =>
      rw [hget] at h
      refine ⟨0, 0, _, h.symm, ?_, Or.inl rfl⟩
      have hlen : nd.log.length ≤ next - 2 := List.getElem?_eq_none_iff.mp hget
      rw [List.drop_eq_nil_of_le (by omega)]
      simp
    | some e =>
      rw [hget] at h
      refine ⟨next - 1, e.term, _, h.symm, ?_, Or.inr ?_⟩
      · rw [List.take_append_drop, List.take_of_length_le]
        simp only [List.length_drop]; omega
      · unfold termAt
        rw [if_neg (show ¬ next - 1 = 0 by omega), show next - 1 - 1 = next - 2 by omega, hget]; rfl

/-- **Case analysis of one system step**, shared by every invariant layer: a step leaves the
    state alone, or replaces one node, or adds one AppendEntries built by a leader. -/
theorem sysStep_cases (c : Config) (s : Sys) (st : Step)
    (hids : ∀ (i : Nat) (nd : Node), s.nodes[i]? = some nd → nd.id = i) (P : Sys → Prop)
    (hsame : P s)
    (hset : ∀ (i : Nat) (nd nd' : Node) (g : Option Nat) (msgs : List (Nat × Nat × Msg)),
      s.nodes[i]? = some nd → NodeStep c s i nd nd' g msgs →
      (∀ src, g = some src → ∃ v, (src, i, Msg.requestVoteResp nd.term true v) ∈ s.net) →
      P (setNode s i nd' nd msgs))
    (hrep : ∀ (i j : Nat) (nd : Node) (pi pt : Nat) (es : List Entry), j ≠ i → s.nodes[i]? = some nd →
      nd.role = .leader → nd.log.take pi ++ es = nd.log.take (pi + es.length) →
      (pi = 0 ∨ termAt nd.log pi = some pt) →
      P { s with net := s.net ++ [(i, j, Msg.appendEntries nd.term nd.id pi pt es nd.commit)] }) :
    P (sysStep c s st) := by
  have hnone : ∀ src : Nat, (none : Option Nat) = some src →
      ∀ (i : Nat) (nd : Node), ∃ v, (src, i, Msg.requestVoteResp nd.term true v) ∈ s.net :=
    fun _ h => nomatch h
  cases st with
  | timeout i =>
    cases hnd : s.nodes[i]? with
    | none => simp only [sysStep, hnd]; exact hsame
    | some nd =>
      simp only [sysStep, hnd]
      exact hset i nd _ none _ hnd (startElection_step c s i nd (hids i nd hnd) nd rfl rfl rfl rfl)
        (fun src h => hnone src h i nd)
  | preVote i =>
    cases hnd : s.nodes[i]? with
    | none => simp only [sysStep, hnd]; exact hsame
    | some nd =>
      simp only [sysStep, hnd]
      exact hset i nd _ none _ hnd
        (NodeStep.of_same rfl rfl rfl rfl rfl rfl rfl rfl (MsgsFrom.broadcast c (fun _ => trivial)))
        (fun src h => hnone src h i nd)
  | deliver k h1 h2 h3 =>
    cases hk : s.net[k]? with
    | none => simp only [sysStep, hk]; exact hsame
    | some x =>
      obtain ⟨src, dst, m⟩ := x
      have hmem : (src, dst, m) ∈ s.net := List.mem_of_getElem? hk
      cases hnd : s.nodes[dst]? with
      | none => simp only [sysStep, hk, hnd]; exact hsame
      | some nd =>
        simp only [sysStep, hk, hnd]
        refine hset dst nd _ _ _ hnd (deliver_step c s dst src nd (hids dst nd hnd) m h1 h2 h3 hmem) ?_
        intro x hx
        obtain ⟨v, rfl, rfl⟩ := grantOf_eq_some hx
        exact ⟨v, hmem⟩
  | propose i p a =>
    cases hnd : s.nodes[i]? with
    | none => simp only [sysStep, hnd]; exact hsame
    | some nd =>
      simp only [sysStep, hnd]
      exact hset i nd _ none [] hnd (propose_step c s i nd p a) (fun src h => hnone src h i nd)
  | replicate i j =>
    simp only [sysStep]
    split
    · exact hsame
    · rename_i hji
      cases hnd : s.nodes[i]? with
      | none => exact hsame
      | some nd =>
        dsimp only
        cases hae : appendEntriesFor nd j with
        | none => exact hsame
        | some m =>
          obtain ⟨hr, pi, pt, es, rfl, hseg, hpt⟩ := appendEntriesFor_spec nd j m hae
          exact hrep i j nd pi pt es hji hnd hr hseg hpt
  | crash i =>
    cases hnd : s.nodes[i]? with
    | none => simp only [sysStep, hnd]; exact hsame
    | some nd =>
      simp only [sysStep, hnd]
      exact hset i nd _ none [] hnd (crash_step c s i nd) (fun src h => hnone src h i nd)

end Neumann.Raft
