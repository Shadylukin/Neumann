import NeumannModel.Raft.LogMatch
/-
  C01 — towards Leader Completeness / State-Machine Safety: provenance and soundness of
  acknowledgements and of the leader's `match_index` bookkeeping, for every reachable state.
-/
namespace Neumann.Raft

/-! ## invariant: term bounds, acknowledgement soundness, `match_index` soundness -/

structure CInv (c : Config) (s : Sys) : Prop where
  nodeTermBound : ∀ (i : Nat) (nd : Node), s.nodes[i]? = some nd → ∀ e ∈ nd.log, e.term ≤ nd.term
  canonTermBound : ∀ (t : Nat), ∀ e ∈ s.canon t, e.term ≤ t
  aerSrc : ∀ (src dst T : Nat) (sc : Bool) (f m : Nat),
    (src, dst, Msg.appendEntriesResp T sc f m) ∈ s.net → src = f
  ackElected : ∀ (src dst T f m : Nat),
    (src, dst, Msg.appendEntriesResp T true f m) ∈ s.net → TermElected s T
  /-- a success acknowledgement `(T, f, m)`: `f` has reached term `T`, `m` lies inside the
      canonical log of `T`, and while `f` stays in term `T` its log keeps that prefix -/
  ackSound : ∀ (src dst T f m : Nat),
    (src, dst, Msg.appendEntriesResp T true f m) ∈ s.net →
      ∃ nd : Node, s.nodes[f]? = some nd ∧ T ≤ nd.term ∧ m ≤ (s.canon T).length ∧
        (nd.term = T → nd.log.take m = (s.canon T).take m)
  /-- a positive `match_index` entry of a leader is backed by a success acknowledgement of
      its own term from that follower -/
  matchSound : ∀ (i : Nat) (nd : Node), s.nodes[i]? = some nd → nd.role = .leader →
    ∀ f m, alGet nd.matchIdx f = some m → 0 < m →
      ∃ dst, (f, dst, Msg.appendEntriesResp nd.term true f m) ∈ s.net

theorem alGet_alSet (l : List (Nat × Nat)) (k v k' : Nat) :
    alGet (alSet l k v) k' = if k' = k then some v else alGet l k' := by
  induction l with
  | nil =>
    simp only [alSet, alGet]
    by_cases h : k = k'
    · simp [h]
    · have : ¬ k' = k := fun e => h e.symm
      simp [h, this]
  | cons p rest ih =>
    obtain ⟨a, w⟩ := p
    simp only [alSet]
    by_cases hak : a = k
    · simp only [hak, if_true, alGet]
      by_cases h : k = k'
      · simp [h]
      · have : ¬ k' = k := fun e => h e.symm
        simp [h, this]
    · simp only [hak, if_false, alGet]
      by_cases h : a = k'
      · have : ¬ k' = k := by rw [← h]; exact hak
        simp [h, this]
      · simp only [h, if_false]; exact ih

theorem alGet_map_zero (ps : List Nat) (k m : Nat)
    (h : alGet (ps.map (fun p => (p, 0))) k = some m) : m = 0 := by
  induction ps with
  | nil => simp [alGet] at h
  | cons p rest ih =>
    simp only [List.map, alGet] at h
    split at h
    · simp at h; exact h.symm
    · exact ih h

theorem cinv_init (c : Config) : CInv c (initSys c) := by
  have hget := getElem?_initSys c
  refine ⟨?_, nofun, nofun, nofun, nofun, ?_⟩
  · intro i nd h e he; rw [(hget i nd h).1] at he; cases he
  · intro i nd h hr; rw [(hget i nd h).1] at hr; cases hr

theorem cinv_setNode (c : Config) (s : Sys) (i : Nat) (nd nd' : Node) (g : Option Nat)
    (msgs : List (Nat × Nat × Msg)) (hL : LMInv c s) (hC : CInv c s)
    (hI' : Inv c (setNode s i nd' nd msgs)) (hnd : s.nodes[i]? = some nd)
    (x : NodeStep c s i nd nd' g msgs) : CInv c (setNode s i nd' nd msgs) := by
  have hterm := x.trans.term_le
  have hk := x.kind
  have hm := x.msgs.msgsC
  have hget := fun j => getElem?_setNode s i j nd nd' msgs hnd
  have hTE : ∀ t, TermElected s t → TermElected (setNode s i nd' nd msgs) t :=
    fun _ h => h.setNode i nd nd' msgs
  have hext := canon_setNode_ext c s i nd nd' msgs hL hI' hnd hk
  -- the new node respects the term bound
  have hbound' : ∀ e ∈ nd'.log, e.term ≤ nd'.term := by
    intro e he
    rcases hk with ⟨hlog, _⟩ | ⟨_, _, _, hlog, _⟩ | ⟨_, p, rfl⟩ | ⟨_, src, l, pi, pt, es, lc, hmsg, hok, hlog⟩
    · rw [hlog] at he; exact Nat.le_trans (hC.nodeTermBound i nd hnd e he) hterm
    · rw [hlog] at he; exact Nat.le_trans (hC.nodeTermBound i nd hnd e he) hterm
    · rcases List.mem_append.mp he with h | h
      · exact hC.nodeTermBound i nd hnd e h
      · rw [List.mem_singleton.mp h]
    · rw [hlog] at he
      rcases accept_mem c s hL i nd hnd src _ l pi pt es lc hmsg hok e he with h | h
      · exact Nat.le_trans (hC.nodeTermBound i nd hnd e h) hterm
      · exact hC.canonTermBound _ e h
  refine ⟨?_, ?_, ?_, ?_, ?_, ?_⟩
  · -- nodeTermBound
    intro j ndj hj e he
    rcases getElem?_set_cases hnd hj with ⟨hji, rfl⟩ | ⟨hji, hj⟩
    · exact hbound' e he
    · exact hC.nodeTermBound j ndj hj e he
  · -- canonTermBound
    intro t e he
    rw [canon_setNode] at he
    by_cases ht : nd'.role = .leader ∧ t = nd'.term
    · rw [if_pos ht] at he; rw [ht.2]; exact hbound' e he
    · rw [if_neg ht] at he; exact hC.canonTermBound t e he
  · -- aerSrc
    intro src dst T sc f m h
    rcases List.mem_append.mp h with h | h
    · exact hC.aerSrc src dst T sc f m h
    · obtain ⟨ha, hq⟩ := hm src dst _ h
      rw [ha, (hq T sc f m rfl).1]
  · -- ackElected
    intro src dst T f m h
    rcases List.mem_append.mp h with h | h
    · exact hTE _ (hC.ackElected src dst T f m h)
    · obtain ⟨_, hq⟩ := hm src dst _ h
      obtain ⟨_, hT, hs⟩ := hq T true f m rfl
      obtain ⟨src', l, pi, pt, es, lc, hmsg, _⟩ := hs rfl
      obtain ⟨_, _, ⟨vs, hvs⟩, _⟩ := hL.aeOk src' i _ l pi pt es lc hmsg
      rw [hT]; exact hTE _ ⟨l, vs, hvs⟩
  · -- ackSound
    intro src dst T f m h
    rcases List.mem_append.mp h with h | h
    · obtain ⟨ndf, hf, hle, hmlen, hpre⟩ := hC.ackSound src dst T f m h
      obtain ⟨x, hx, _⟩ := hext T (hC.ackElected src dst T f m h)
      have hmlen' : m ≤ ((setNode s i nd' nd msgs).canon T).length := by
        rw [hx, List.length_append]; omega
      have htake : ((setNode s i nd' nd msgs).canon T).take m = (s.canon T).take m := by
        rw [hx, List.take_append_of_le_length hmlen]
      rw [hget]
      by_cases hfi : f = i
      · subst hfi
        rw [hnd] at hf; cases hf
        refine ⟨nd', by simp, Nat.le_trans hle hterm, hmlen', ?_⟩
        intro hT
        have hndT : nd.term = T := by omega
        have hold := hpre hndT
        have hmlog : m ≤ nd.log.length := le_length_of_take_eq _ _ _ hmlen hold
        rw [htake, ← hold]
        exact hk.keeps_prefix hL hnd m hmlog (fun _ _ _ _ _ _ _ => hT ▸ hold)
      · refine ⟨ndf, by rw [if_neg hfi]; exact hf, hle, hmlen', ?_⟩
        intro hT; rw [htake]; exact hpre hT
    · -- a new acknowledgement, just produced by node i
      obtain ⟨_, hq⟩ := hm src dst _ h
      obtain ⟨hf, hT, hs⟩ := hq T true f m rfl
      obtain ⟨src', l, pi, pt, es, lc, hmsg, hok, hlog, hmi⟩ := hs rfl
      subst hf
      rw [← hT] at hmsg
      have hlen := (accept_facts c s hL f nd hnd src' T l pi pt es lc hmsg hok).1
      obtain ⟨_, _, ⟨vs, hvs⟩, _⟩ := hL.aeOk src' f T l pi pt es lc hmsg
      obtain ⟨x, hx, _⟩ := hext T ⟨l, vs, hvs⟩
      have hmle : m ≤ pi + es.length := by rw [hmi]; exact Nat.min_le_left _ _
      refine ⟨nd', by rw [hget]; simp, by omega, by rw [hx, List.length_append]; omega, fun _ => ?_⟩
      rw [hlog, take_of_take_eq _ _ _ m hmle (accept_prefix c s hL f nd hnd src' T l pi pt es lc hmsg hok),
        hx, List.take_append_of_le_length (by omega)]
  · -- matchSound
    intro j ndj hj hr f m hg hpos
    rcases getElem?_set_cases hnd hj with ⟨rfl, rfl⟩ | ⟨hji, hj⟩
    · rcases hk with ⟨_, hq⟩ | ⟨_, _, _, _, hmi⟩ | ⟨hr0, p, hp⟩ | ⟨hr', _⟩
      · obtain ⟨hr0, ht, hmatch⟩ := hq hr
        rw [ht]
        rcases hmatch with hsame | ⟨src, f', mi, hmsg, hset⟩
        · rw [hsame] at hg
          obtain ⟨dst, hd⟩ := hC.matchSound j nd hnd hr0 f m hg hpos
          exact ⟨dst, List.mem_append_left _ hd⟩
        · rw [hset, alGet_alSet] at hg
          by_cases hfs : f = src
          · rw [if_pos hfs] at hg
            simp only [Option.some.injEq] at hg
            have := hC.aerSrc src j nd.term true f' mi hmsg
            subst hfs; subst hg; subst this
            exact ⟨j, List.mem_append_left _ hmsg⟩
          · rw [if_neg hfs] at hg
            obtain ⟨dst, hd⟩ := hC.matchSound j nd hnd hr0 f m hg hpos
            exact ⟨dst, List.mem_append_left _ hd⟩
      · rw [hmi] at hg
        have := alGet_map_zero _ _ _ hg
        omega
      · subst hp
        obtain ⟨dst, hd⟩ := hC.matchSound j nd hnd hr0 f m hg hpos
        exact ⟨dst, List.mem_append_left _ hd⟩
      · rw [hr'] at hr; cases hr
    · obtain ⟨dst, hd⟩ := hC.matchSound j ndj hj hr f m hg hpos
      exact ⟨dst, List.mem_append_left _ hd⟩

/-- **Every step preserves `CInv`.** -/
theorem cinv_step (c : Config) (s : Sys) (st : Step) (hI : Inv c s) (hL : LMInv c s)
    (hC : CInv c s) : CInv c (sysStep c s st) := by
  apply sysStep_cases c s st hI.ids (fun s' => Inv c s' → CInv c s') _ _ _ (inv_step c s st hI)
  · exact fun _ => hC
  · intro i nd nd' g msgs hnd x _ hI'
    exact cinv_setNode c s i nd nd' g msgs hL hC hI' hnd x
  · intro i j nd pi pt es _ _ _ _ _ _
    have hold : ∀ {src dst T : Nat} {sc : Bool} {f m : Nat},
        (src, dst, Msg.appendEntriesResp T sc f m) ∈
          s.net ++ [(i, j, Msg.appendEntries nd.term nd.id pi pt es nd.commit)] →
        (src, dst, Msg.appendEntriesResp T sc f m) ∈ s.net := by
      intro src dst T sc f m h
      rcases List.mem_append.mp h with h | h
      · exact h
      · simp at h
    refine ⟨hC.nodeTermBound, hC.canonTermBound, ?_, ?_, ?_, ?_⟩
    · exact fun src dst T sc f m h => hC.aerSrc src dst T sc f m (hold h)
    · exact fun src dst T f m h => hC.ackElected src dst T f m (hold h)
    · exact fun src dst T f m h => hC.ackSound src dst T f m (hold h)
    · intro i' nd' hi' hr f m hg hpos
      obtain ⟨dst, hd⟩ := hC.matchSound i' nd' hi' hr f m hg hpos
      exact ⟨dst, List.mem_append_left _ hd⟩

end Neumann.Raft
