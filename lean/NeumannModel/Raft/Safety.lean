import NeumannModel.Raft.Step
import Mathlib.Data.Fintype.Card
/-
  C01 — Election Safety for every reachable state of the system model, i.e. for every
  interleaving of deliveries (any order, duplicated, lost), timeouts, pre-votes, proposals,
  replication and crash/restart events, on clusters of any size.
-/
namespace Neumann.Raft

theorem becomeLeader_fields (c : Config) (nd : Node) :
    (becomeLeader c nd).id = nd.id ∧ (becomeLeader c nd).term = nd.term ∧
    (becomeLeader c nd).votedFor = nd.votedFor ∧ (becomeLeader c nd).votes = nd.votes ∧
    (becomeLeader c nd).role = .leader := ⟨rfl, rfl, rfl, rfl, rfl⟩

/-! ## the system invariant -/

structure Inv (c : Config) (s : Sys) : Prop where
  len : s.nodes.length = c.n
  ids : ∀ (i : Nat) (nd : Node), s.nodes[i]? = some nd → nd.id = i
  netSrc : ∀ (src dst : Nat) (m : Msg), (src, dst, m) ∈ s.net → src < c.n
  rvSrc : ∀ (src dst t cand li lt : Nat), (src, dst, Msg.requestVote t cand li lt) ∈ s.net → cand = src
  ghostNode : ∀ (v t cd : Nat), (v, t, cd) ∈ s.ghost →
    ∃ nd : Node, s.nodes[v]? = some nd ∧ t ≤ nd.term ∧ (nd.term = t → nd.votedFor = some cd)
  ghostFun : ∀ (v t c1 c2 : Nat), (v, t, c1) ∈ s.ghost → (v, t, c2) ∈ s.ghost → c1 = c2
  votedInGhost : ∀ (i : Nat) (nd : Node) (cd : Nat), s.nodes[i]? = some nd → nd.votedFor = some cd → (i, nd.term, cd) ∈ s.ghost
  rvrInGhost : ∀ (src dst t v : Nat), (src, dst, Msg.requestVoteResp t true v) ∈ s.net → (src, t, dst) ∈ s.ghost
  votesOk : ∀ (i : Nat) (nd : Node), s.nodes[i]? = some nd → nd.role ≠ .follower →
    (∀ v ∈ nd.votes, (v, nd.term, i) ∈ s.ghost) ∧ nd.votes.Nodup ∧
    (nd.role = .leader → c.quorum ≤ nd.votes.length)

theorem inv_setNode (c : Config) (s : Sys) (i : Nat) (nd nd' : Node) (g : Option Nat)
    (msgs : List (Nat × Nat × Msg))
    (hI : Inv c s) (hnd : s.nodes[i]? = some nd) (x : NodeStep c s i nd nd' g msgs)
    (hgr : ∀ src, g = some src → ∃ v, (src, i, Msg.requestVoteResp nd.term true v) ∈ s.net) :
    Inv c (setNode s i nd' nd msgs) := by
  have ht := x.trans
  have hm := x.msgs
  -- a counted vote response is backed by the ghost log
  have hg : ∀ src, g = some src → (src, nd.term, i) ∈ s.ghost := fun src h => by
    obtain ⟨v, hv⟩ := hgr src h
    exact hI.rvrInGhost src i nd.term v hv
  have hi : i < c.n := hI.len ▸ getElem?_lt _ _ _ hnd
  have hget : ∀ j, (s.nodes.set i nd')[j]? = if j = i then some nd' else s.nodes[j]? :=
    fun j => getElem?_set_of_some s.nodes i j nd nd' hnd
  have hidnd : nd.id = i := hI.ids i nd hnd
  -- new `votedInGhost`, needed by several other parts
  have hvoted : ∀ j ndj cd, (s.nodes.set i nd')[j]? = some ndj → ndj.votedFor = some cd →
      (j, ndj.term, cd) ∈ s.ghost ++ ghostOf i nd nd' := by
    intro j ndj cd hj hv
    rcases getElem?_set_cases hnd hj with ⟨rfl, rfl⟩ | ⟨hji, hj⟩
    · by_cases hsame : nd'.term = nd.term ∧ nd'.votedFor = nd.votedFor
      · apply List.mem_append_left
        have := hI.votedInGhost j nd cd hnd (by rw [← hsame.2]; exact hv)
        rw [hsame.1]; exact this
      · exact List.mem_append_right _ (mem_ghostOf.mpr ⟨rfl, rfl, hv, hsame⟩)
    · exact List.mem_append_left _ (hI.votedInGhost j ndj cd hj hv)
  refine ⟨?_, ?_, ?_, ?_, ?_, ?_, hvoted, ?_, ?_⟩
  · simp [setNode, hI.len]
  · intro j ndj hj
    simp only [setNode] at hj; rw [hget] at hj
    by_cases hji : j = i
    · rw [if_pos hji] at hj; cases hj; rw [ht.id_eq, hidnd, hji]
    · rw [if_neg hji] at hj; exact hI.ids j ndj hj
  · intro src dst m h
    simp only [setNode, List.mem_append] at h
    rcases h with h | h
    · exact hI.netSrc src dst m h
    · rw [(hm src dst m h).1]; exact hi
  · intro src dst t cand li lt h
    simp only [setNode, List.mem_append] at h
    rcases h with h | h
    · exact hI.rvSrc src dst t cand li lt h
    · rw [(hm src dst _ h).1]; exact (hm src dst _ h).2.1
  · -- ghostNode
    intro v t cd h
    simp only [setNode, List.mem_append] at h ⊢
    rcases h with h | h
    · obtain ⟨ndv, hv, hle, heq⟩ := hI.ghostNode v t cd h
      by_cases hvi : v = i
      · subst hvi
        rw [hnd] at hv; cases hv
        refine ⟨nd', by rw [hget]; simp, Nat.le_trans hle ht.term_le, ?_⟩
        intro e
        have hte : nd.term = t := Nat.le_antisymm (by rw [← e]; exact ht.term_le) hle
        have hvf := heq hte
        rcases ht.vote_stable (by rw [e, hte]) with h1 | h1
        · rw [h1]; exact hvf
        · rw [h1] at hvf; cases hvf
      · exact ⟨ndv, by rw [hget, if_neg hvi]; exact hv, hle, heq⟩
    · obtain ⟨rfl, rfl, hvf, _⟩ := mem_ghostOf.mp h
      exact ⟨nd', by rw [hget]; simp, Nat.le_refl _, fun _ => hvf⟩
  · -- ghostFun
    intro v t c1 c2 h1 h2
    simp only [setNode, List.mem_append] at h1 h2
    have key : ∀ ca cb, (v, t, ca) ∈ s.ghost → (v, t, cb) ∈ ghostOf i nd nd' → False := by
      intro ca cb ha hb
      obtain ⟨rfl, rfl, hvf, hne⟩ := mem_ghostOf.mp hb
      obtain ⟨ndv, hv, hle, heq⟩ := hI.ghostNode v _ ca ha
      rw [hnd] at hv; cases hv
      have hte : nd'.term = nd.term := Nat.le_antisymm hle ht.term_le
      have hvf0 := heq hte.symm
      rcases ht.vote_stable hte with h | h
      · exact hne ⟨hte, h⟩
      · rw [h] at hvf0; cases hvf0
    rcases h1 with h1 | h1 <;> rcases h2 with h2 | h2
    · exact hI.ghostFun v t c1 c2 h1 h2
    · exact (key c1 c2 h1 h2).elim
    · exact (key c2 c1 h2 h1).elim
    · exact Option.some.inj ((mem_ghostOf.mp h1).2.2.1.symm.trans (mem_ghostOf.mp h2).2.2.1)
  · -- rvrInGhost
    intro src dst t v h
    simp only [setNode, List.mem_append] at h
    rcases h with h | h
    · simp only [setNode]; exact List.mem_append_left _ (hI.rvrInGhost src dst t v h)
    · -- a granted vote answers a RequestVote of the candidate it is sent to
      obtain ⟨ha, h3⟩ := hm src dst _ h
      obtain ⟨cand, li, lt, hrv, hv, hterm⟩ := h3 rfl
      obtain rfl : cand = dst := hI.rvSrc dst i t cand li lt hrv
      subst ha
      have := hvoted src nd' cand (by rw [hget]; simp) hv
      simp only [setNode]; rw [← hterm]; exact this
  · -- votesOk
    intro j ndj hj hrole
    simp only [setNode] at hj ⊢
    rcases getElem?_set_cases hnd hj with ⟨rfl, rfl⟩ | ⟨hji, hj⟩
    · rcases ht.shape with sh | sh | sh | sh
      · exact absurd sh hrole
      · obtain ⟨hr, hterm, hvotes⟩ := sh
        have hold := hI.votesOk j nd hnd (by rw [← hr]; exact hrole)
        rw [hterm, hvotes, hr]
        exact ⟨fun v hv => List.mem_append_left _ (hold.1 v hv), hold.2.1, hold.2.2⟩
      · obtain ⟨hr, hvotes, hvf, _⟩ := sh
        rw [hvotes, hr]
        refine ⟨?_, by simp, fun h => by cases h⟩
        intro v hv
        simp only [List.mem_singleton] at hv; subst hv
        have := hvoted j nd' nd.id (by rw [hget]; simp) hvf
        rw [hidnd] at this ⊢; exact this
      · obtain ⟨hr, hterm, ⟨src, hgs, hnot, hvotes⟩, hrole'⟩ := sh
        have hold := hI.votesOk j nd hnd (by rw [hr]; intro h; cases h)
        rw [hvotes, hterm]
        refine ⟨?_, ?_, ?_⟩
        · intro v hv
          rcases List.mem_append.mp hv with hv | hv
          · exact List.mem_append_left _ (hold.1 v hv)
          · simp only [List.mem_singleton] at hv; subst hv
            exact List.mem_append_left _ (hg v hgs)
        · rw [List.nodup_append]
          refine ⟨hold.2.1, by simp, ?_⟩
          intro a ha b hb
          simp only [List.mem_singleton] at hb; subst hb
          intro e; subst e; exact hnot ha
        · intro hl
          rcases hrole' with h | h
          · rw [h] at hl; cases hl
          · rw [← hvotes]; exact h.2
    · have hold := hI.votesOk j ndj hj hrole
      exact ⟨fun v hv => List.mem_append_left _ (hold.1 v hv), hold.2.1, hold.2.2⟩

theorem inv_init (c : Config) : Inv c (initSys c) := by
  have hget := getElem?_initSys c
  refine ⟨by simp [initSys], ?_, nofun, nofun, nofun, nofun, ?_, nofun, ?_⟩
  · intro i nd h; rw [(hget i nd h).1]
  · intro i nd cd h hv; rw [(hget i nd h).1] at hv; cases hv
  · intro i nd h hr; rw [(hget i nd h).1] at hr; exact absurd rfl hr

/-- **Every step preserves the invariant** — deliveries of any pending message (any order,
    any number of times), timeouts, pre-votes, proposals, replication, crash/restart. -/
theorem inv_step (c : Config) (s : Sys) (st : Step) (hI : Inv c s) : Inv c (sysStep c s st) := by
  apply sysStep_cases c s st hI.ids (Inv c) hI
  · intro i nd nd' g msgs hnd x hgr
    exact inv_setNode c s i nd nd' g msgs hI hnd x hgr
  · -- one more AppendEntries, sent by an existing node
    intro i j nd pi pt es _ hnd _ _ _
    have hnew : ∀ {src dst : Nat} {m : Msg},
        (src, dst, m) ∈ s.net ++ [(i, j, Msg.appendEntries nd.term nd.id pi pt es nd.commit)] →
        (src, dst, m) ∈ s.net ∨ (src = i ∧ m = Msg.appendEntries nd.term nd.id pi pt es nd.commit) := by
      intro src dst m h
      simp only [List.mem_append, List.mem_singleton, Prod.mk.injEq] at h
      exact h.imp id (fun h => ⟨h.1, h.2.2⟩)
    refine ⟨hI.len, hI.ids, ?_, ?_, hI.ghostNode, hI.ghostFun, hI.votedInGhost, ?_, hI.votesOk⟩
    · intro src dst m h
      rcases hnew h with h | h
      · exact hI.netSrc src dst m h
      · rw [h.1, ← hI.len]; exact getElem?_lt _ _ _ hnd
    · intro src dst t cand li lt h
      rcases hnew h with h | h
      · exact hI.rvSrc src dst t cand li lt h
      · cases h.2
    · intro src dst t v h
      rcases hnew h with h | h
      · exact hI.rvrInGhost src dst t v h
      · cases h.2

/-! ## quorum intersection -/

theorem nodup_lists_intersect (n : Nat) (l1 l2 : List Nat) (h1 : l1.Nodup) (h2 : l2.Nodup)
    (b1 : ∀ x ∈ l1, x < n) (b2 : ∀ x ∈ l2, x < n) (hlen : n < l1.length + l2.length) :
    ∃ x, x ∈ l1 ∧ x ∈ l2 := by
  by_contra hne
  have hd : Disjoint l1.toFinset l2.toFinset := by
    rw [Finset.disjoint_left]
    intro x hx hy
    exact hne ⟨x, List.mem_toFinset.mp hx, List.mem_toFinset.mp hy⟩
  have hsub : l1.toFinset ∪ l2.toFinset ⊆ Finset.range n := by
    intro x hx
    rw [Finset.mem_union] at hx
    rw [Finset.mem_range]
    rcases hx with hx | hx
    · exact b1 x (List.mem_toFinset.mp hx)
    · exact b2 x (List.mem_toFinset.mp hx)
  have hcard := Finset.card_le_card hsub
  rw [Finset.card_union_of_disjoint hd, List.toFinset_card_of_nodup h1, List.toFinset_card_of_nodup h2,
    Finset.card_range] at hcard
  omega

/-- two quorums of recorded votes for one term belong to one candidate -/
theorem quorum_unique (c : Config) (s : Sys) (hI : Inv c s) (t i j : Nat) (vs ws : List Nat)
    (h1 : vs.Nodup ∧ c.quorum ≤ vs.length ∧ ∀ v ∈ vs, (v, t, i) ∈ s.ghost)
    (h2 : ws.Nodup ∧ c.quorum ≤ ws.length ∧ ∀ v ∈ ws, (v, t, j) ∈ s.ghost) : i = j := by
  have bound : ∀ (k : Nat) (l : List Nat), (∀ v ∈ l, (v, t, k) ∈ s.ghost) → ∀ x ∈ l, x < c.n := by
    intro k l hl x hx
    obtain ⟨nd, hnd, _, _⟩ := hI.ghostNode x t k (hl x hx)
    rw [← hI.len]; exact getElem?_lt _ _ _ hnd
  have hq : c.n < vs.length + ws.length := by
    have := h1.2.1; have := h2.2.1; unfold Config.quorum at *; omega
  obtain ⟨x, hx1, hx2⟩ := nodup_lists_intersect c.n vs ws h1.1 h2.1
    (bound i vs h1.2.2) (bound j ws h2.2.2) hq
  exact hI.ghostFun x t i j (h1.2.2 x hx1) (h2.2.2 x hx2)

/-- Election Safety, stated on the invariant. -/
theorem election_safety_of_inv (c : Config) (s : Sys) (hI : Inv c s) (i j : Nat) (a b : Node)
    (ha : s.nodes[i]? = some a) (hb : s.nodes[j]? = some b)
    (hla : a.role = .leader) (hlb : b.role = .leader) (hterm : a.term = b.term) : i = j := by
  obtain ⟨va, na, qa⟩ := hI.votesOk i a ha (by rw [hla]; exact nofun)
  obtain ⟨vb, nb, qb⟩ := hI.votesOk j b hb (by rw [hlb]; exact nofun)
  exact quorum_unique c s hI b.term i j a.votes b.votes ⟨na, qa hla, hterm ▸ va⟩ ⟨nb, qb hlb, vb⟩

end Neumann.Raft
