import NeumannModel.Raft.Complete
/-
  C01 — Leader Completeness, part 2: the invariants that carry the argument.
  * the candidate's log at the start of its election (`startLog`) is what every RequestVote
    advertises, what every voter compared its own log with, and what the winner starts from;
  * whoever holds an acknowledgement for `(T, k)` (a follower's success response covering index
    `k`, or the leader of `T` itself) keeps the first `k` entries of `T`'s canonical log —
    unless an elected later leader that lacks them has meanwhile had the right to overwrite them
    (`Excuse`); the same holds for the log each voter held when it voted (`core`).
-/
namespace Neumann.Raft

def UpToDate (a b : List Entry) : Prop :=
  lastTerm a > lastTerm b ∨ (lastTerm a = lastTerm b ∧ b.length ≤ a.length)

/-- some elected leader of a term in `(T, hi]` started without the first `k` entries of `T` -/
def Excuse (s : Sys) (T k hi : Nat) : Prop :=
  ∃ U j vs, (U, j, vs) ∈ s.elected ∧ T < U ∧ U ≤ hi ∧ (s.elog U).take k ≠ (s.canon T).take k

/-- `f` has acknowledged the first `k` entries of term `T`'s log: by a success response
    covering `k`, or by being the leader of `T` whose log reaches `k` -/
def AckLike (s : Sys) (T f k : Nat) : Prop :=
  (∃ src dst m, (src, dst, Msg.appendEntriesResp T true f m) ∈ s.net ∧ k ≤ m) ∨
  (∃ vs, (T, f, vs) ∈ s.elected ∧ k ≤ (s.canon T).length)

structure FInv (c : Config) (s : Sys) : Prop where
  rvTermBound : ∀ (src dst U cd li lt : Nat), (src, dst, Msg.requestVote U cd li lt) ∈ s.net →
    ∃ nd : Node, s.nodes[cd]? = some nd ∧ U ≤ nd.term
  voteCandTerm : ∀ (v U cd : Nat) (vlog : List Entry) (fl : Bool),
    (v, U, cd, vlog, fl) ∈ s.voteLogs → ∃ nd : Node, s.nodes[cd]? = some nd ∧ U ≤ nd.term
  rvStart : ∀ (src dst U cd li lt : Nat), (src, dst, Msg.requestVote U cd li lt) ∈ s.net →
    li = (s.startLog U cd).length ∧ lt = lastTerm (s.startLog U cd)
  candStart : ∀ (i : Nat) (nd : Node), s.nodes[i]? = some nd → nd.role = .candidate →
    nd.log = s.startLog nd.term i
  electedStart : ∀ (U cd : Nat) (vs : List Nat), (U, cd, vs) ∈ s.elected →
    s.elog U = s.startLog U cd
  voteUpToDate : ∀ (v U cd : Nat) (vlog : List Entry) (fl : Bool),
    (v, U, cd, vlog, fl) ∈ s.voteLogs → UpToDate (s.startLog U cd) vlog
  voteToGhost : ∀ (v U cd : Nat) (vlog : List Entry) (fl : Bool),
    (v, U, cd, vlog, fl) ∈ s.voteLogs → (v, U, cd) ∈ s.ghost
  nodeAck : ∀ (T f k : Nat), AckLike s T f k → 0 < k →
    ∃ nd : Node, s.nodes[f]? = some nd ∧
      (nd.log.take k = (s.canon T).take k ∨ Excuse s T k nd.term)
  core : ∀ (f U cd : Nat) (vlog : List Entry) (T k : Nat),
    (f, U, cd, vlog, false) ∈ s.voteLogs → AckLike s T f k → T < U → 0 < k →
      vlog.take k = (s.canon T).take k ∨
      ∃ U' j vs, (U', j, vs) ∈ s.elected ∧ T < U' ∧ U' < U ∧
        (s.elog U').take k ≠ (s.canon T).take k

theorem upToDate_refl (a : List Entry) : UpToDate a a := Or.inr ⟨rfl, Nat.le_refl _⟩

theorem ackLike_elected (c : Config) (s : Sys) (hC : CInv c s) (T f k : Nat)
    (h : AckLike s T f k) : TermElected s T := by
  rcases h with ⟨src, dst, m, hm, _⟩ | ⟨vs, hv, _⟩
  · exact hC.ackElected src dst T f m hm
  · exact ⟨f, vs, hv⟩

theorem ackLike_le (c : Config) (s : Sys) (hC : CInv c s) (T f k : Nat)
    (h : AckLike s T f k) : k ≤ (s.canon T).length := by
  rcases h with ⟨src, dst, m, hm, hk⟩ | ⟨vs, _, hk⟩
  · obtain ⟨_, _, _, hml, _⟩ := hC.ackSound src dst T f m hm
    omega
  · exact hk

theorem ackLike_term (c : Config) (s : Sys) (hL : LMInv c s) (hC : CInv c s) (T f k : Nat)
    (h : AckLike s T f k) : ∃ nd : Node, s.nodes[f]? = some nd ∧ T ≤ nd.term := by
  rcases h with ⟨src, dst, m, hm, _⟩ | ⟨vs, hv, _⟩
  · obtain ⟨nd, hnd, hle, _⟩ := hC.ackSound src dst T f m hm
    exact ⟨nd, hnd, hle⟩
  · exact hL.electedTerm T f vs hv

theorem finv_init (c : Config) : FInv c (initSys c) := by
  refine ⟨nofun, nofun, nofun, ?_, nofun, nofun, nofun, ?_, nofun⟩
  · intro i nd h hr; rw [(getElem?_initSys c i nd h).1] at hr; cases hr
  · rintro T f k (⟨src, dst, m, hm, _⟩ | ⟨vs, hv, _⟩) _
    · cases hm
    · cases hv

/-! ## stability of the ghost fields across one node replacement -/

section stab
variable (c : Config) (s : Sys) (i : Nat) (nd nd' : Node) (msgs : List (Nat × Nat × Msg))

theorem startLog_setNode (U cd : Nat) (h : ¬ (U = nd'.term ∧ cd = i ∧ nd'.role = .candidate ∧ nd.term < nd'.term)) :
    (setNode s i nd' nd msgs).startLog U cd = s.startLog U cd := by
  simp only [setNode]
  split
  · rename_i hc
    have : ¬ (U = nd'.term ∧ cd = i) := fun e => h ⟨e.1, e.2, hc.1, hc.2⟩
    simp only [this, if_false]
  · rfl

theorem startLog_setNode_new (hr : nd'.role = .candidate) (ht : nd.term < nd'.term) :
    (setNode s i nd' nd msgs).startLog nd'.term i = nd.log := by
  simp only [setNode]
  rw [if_pos ⟨hr, ht⟩]
  simp

end stab

/-- everything the later lemmas need to know about one node replacement -/
structure StepCtx (c : Config) (s : Sys) (i : Nat) (nd nd' : Node) (g : Option Nat)
    (msgs : List (Nat × Nat × Msg)) : Prop where
  hI : Inv c s
  hL : LMInv c s
  hC : CInv c s
  hE : EInv c s
  hI' : Inv c (setNode s i nd' nd msgs)
  hL' : LMInv c (setNode s i nd' nd msgs)
  hC' : CInv c (setNode s i nd' nd msgs)
  hE' : EInv c (setNode s i nd' nd msgs)
  hnd : s.nodes[i]? = some nd
  ht : NodeTrans c nd nd' g
  hk : Kind c s i nd nd'
  hmC : MsgsC s i nd nd' msgs
  hmR : MsgsR i nd nd' msgs
  hno : NoAE msgs
  hv : VoteFact s i nd nd'

namespace StepCtx
variable {c : Config} {s : Sys} {i : Nat} {nd nd' : Node} {g : Option Nat}
  {msgs : List (Nat × Nat × Msg)} (x : StepCtx c s i nd nd' g msgs)
include x

theorem get (j : Nat) : (setNode s i nd' nd msgs).nodes[j]? = if j = i then some nd' else s.nodes[j]? :=
  getElem?_setNode s i j nd nd' msgs x.hnd

theorem te (t : Nat) (h : TermElected s t) : TermElected (setNode s i nd' nd msgs) t :=
  h.setNode i nd nd' msgs

theorem canonExt (T : Nat) (hT : TermElected s T) :
    ∃ y, (setNode s i nd' nd msgs).canon T = s.canon T ++ y :=
  (canon_setNode_ext c s i nd nd' msgs x.hL x.hI' x.hnd x.hk T hT).imp fun _ h => h.1

theorem canonTake (T k : Nat) (hT : TermElected s T) (hk : k ≤ (s.canon T).length) :
    ((setNode s i nd' nd msgs).canon T).take k = (s.canon T).take k := by
  obtain ⟨y, hy⟩ := x.canonExt T hT
  rw [hy, List.take_append_of_le_length hk]

theorem elogSt (U : Nat) (hU : TermElected s U) :
    (setNode s i nd' nd msgs).elog U = s.elog U :=
  elog_stable c s i nd nd' msgs x.hL x.hI' x.hnd x.hk U hU

/-- `B`, `B'`: the bound on the winner's term, `≤ hi` in `Excuse`, `< U` in `FInv.core` -/
theorem excuseMono (T k : Nat) (B B' : Nat → Prop) (hB : ∀ U, B U → B' U)
    (hT : TermElected s T) (hk : k ≤ (s.canon T).length)
    (h : ∃ U j vs, (U, j, vs) ∈ s.elected ∧ T < U ∧ B U ∧ (s.elog U).take k ≠ (s.canon T).take k) :
    ∃ U j vs, (U, j, vs) ∈ (setNode s i nd' nd msgs).elected ∧ T < U ∧ B' U ∧
      ((setNode s i nd' nd msgs).elog U).take k ≠ ((setNode s i nd' nd msgs).canon T).take k := by
  obtain ⟨U, j, vs, hU, h1, h2, h3⟩ := h
  refine ⟨U, j, vs, elected_mono_setNode s i nd nd' msgs _ hU, h1, hB U h2, ?_⟩
  rw [x.elogSt U ⟨j, vs, hU⟩, x.canonTake T k hT hk]; exact h3

/-- an acknowledgement that existed before the step is still honoured after it -/
theorem nodeAckOld (hF : FInv c s) (T f k : Nat) (ha : AckLike s T f k) (hk0 : 0 < k) :
    ∃ ndf : Node, (setNode s i nd' nd msgs).nodes[f]? = some ndf ∧
      (ndf.log.take k = ((setNode s i nd' nd msgs).canon T).take k ∨
       Excuse (setNode s i nd' nd msgs) T k ndf.term) := by
  have hT := ackLike_elected c s x.hC T f k ha
  have hkle := ackLike_le c s x.hC T f k ha
  obtain ⟨ndf, hf, hq⟩ := hF.nodeAck T f k ha hk0
  obtain ⟨ndt, hft, hTle⟩ := ackLike_term c s x.hL x.hC T f k ha
  rw [hf] at hft; cases hft
  by_cases hfi : f = i
  · subst hfi
    rw [x.hnd] at hf; cases hf
    refine ⟨nd', by rw [x.get]; simp, ?_⟩
    rcases hq with hold | hex
    · have hklog : k ≤ nd.log.length := by
        have := congrArg List.length hold
        simp only [List.length_take] at this; omega
      have hgoal : nd'.log.take k = nd.log.take k ∨ Excuse s T k nd'.term := by
        by_cases hacc : ∀ src l pi pt es lc, (src, f, Msg.appendEntries nd'.term l pi pt es lc) ∈ s.net →
            nd.log.take k = (s.canon nd'.term).take k
        · exact Or.inl (x.hk.keeps_prefix x.hL x.hnd k hklog hacc)
        · -- an AppendEntries of a later term whose winner started without the acknowledged entries
          right
          simp only [not_forall] at hacc
          obtain ⟨src, l, pi, pt, es, lc, hmsg, hne⟩ := hacc
          obtain ⟨_, _, ⟨vs2, hvs2⟩, _⟩ := x.hL.aeOk src f nd'.term l pi pt es lc hmsg
          have hT2 : T ≤ nd'.term := Nat.le_trans hTle x.ht.term_le
          refine ⟨nd'.term, l, vs2, hvs2, Nat.lt_of_le_of_ne hT2 (fun e => hne (e ▸ hold)), Nat.le_refl _,
            fun hhas => hne ?_⟩
          obtain ⟨y, hy, _⟩ := (x.hE.elogOk nd'.term l vs2 hvs2).ext
          rw [hold, hy, List.take_append_of_le_length (le_length_of_take_eq _ _ _ hkle hhas), hhas]
      rcases hgoal with h | h
      · left; rw [h, hold, x.canonTake T k hT hkle]
      · right; exact x.excuseMono T k _ _ (fun _ h => h) hT hkle h
    · right; exact x.excuseMono T k _ _ (fun _ h => Nat.le_trans h x.ht.term_le) hT hkle hex
  · refine ⟨ndf, by rw [x.get, if_neg hfi]; exact hf, ?_⟩
    rcases hq with hold | hex
    · left; rw [hold, x.canonTake T k hT hkle]
    · right; exact x.excuseMono T k _ _ (fun _ h => h) hT hkle hex

/-- an acknowledgement present after the step either existed before, or belongs to the node
    that moved, whose new term is then the acknowledged term and whose new log carries it -/
theorem ackLikeCases (T f k : Nat) (ha : AckLike (setNode s i nd' nd msgs) T f k) :
    AckLike s T f k ∨
    (f = i ∧ nd'.term = T ∧ nd'.log.take k = ((setNode s i nd' nd msgs).canon T).take k) := by
  have hnode' : (setNode s i nd' nd msgs).nodes[i]? = some nd' := by rw [x.get]; simp
  rcases ha with ⟨src, dst, m, hm, hkm⟩ | ⟨vs, hv, hkc⟩
  · have hm' : (src, dst, Msg.appendEntriesResp T true f m) ∈ s.net ++ msgs := hm
    rcases List.mem_append.mp hm' with h | h
    · exact Or.inl (Or.inl ⟨src, dst, m, h, hkm⟩)
    · right
      obtain ⟨_, hq⟩ := x.hmC src dst _ h
      obtain ⟨hf, hT, _⟩ := hq T true f m rfl
      obtain ⟨ndf, hndf, _, _, hpre⟩ := x.hC'.ackSound src dst T f m hm
      subst hf
      rw [hnode'] at hndf; cases hndf
      refine ⟨rfl, hT.symm, ?_⟩
      have := hpre hT.symm
      have h1 : nd'.log.take k = (nd'.log.take m).take k := by
        rw [List.take_take, Nat.min_eq_left hkm]
      rw [h1, this, List.take_take, Nat.min_eq_left hkm]
  · by_cases hold : (T, f, vs) ∈ s.elected ∧ k ≤ (s.canon T).length
    · exact Or.inl (Or.inr ⟨vs, hold.1, hold.2⟩)
    · right
      -- the node that moved is (now) the leader of T
      have hlead : nd'.role = .leader ∧ nd'.term = T := by
        rcases (mem_elected_setNode s i nd nd' msgs T f vs).mp hv with hin | ⟨_, hl, hT, _⟩
        · -- an old winner whose canonical log grew in this step
          rw [canon_setNode] at hkc
          by_cases h : nd'.role = .leader ∧ T = nd'.term
          · exact ⟨h.1, h.2.symm⟩
          · rw [if_neg h] at hkc; exact absurd ⟨hin, hkc⟩ hold
        · exact ⟨hl, hT.symm⟩
      obtain ⟨vs', hvs'⟩ := x.hL'.leaderElected i nd' hnode' hlead.1
      have hfi : f = i := by
        rw [hlead.2] at hvs'
        exact elected_unique c _ x.hI' x.hL' T f i vs vs' hv hvs'
      refine ⟨hfi, hlead.2, ?_⟩
      have := x.hL'.leaderCanon i nd' hnode' hlead.1
      rw [this, hlead.2]

theorem nodeAckNew (hF : FInv c s) (T f k : Nat) (ha : AckLike (setNode s i nd' nd msgs) T f k)
    (hk0 : 0 < k) :
    ∃ ndf : Node, (setNode s i nd' nd msgs).nodes[f]? = some ndf ∧
      (ndf.log.take k = ((setNode s i nd' nd msgs).canon T).take k ∨
       Excuse (setNode s i nd' nd msgs) T k ndf.term) := by
  rcases x.ackLikeCases T f k ha with hold | ⟨hfi, _, hhas⟩
  · exact x.nodeAckOld hF T f k hold hk0
  · subst hfi
    exact ⟨nd', by rw [x.get]; simp, Or.inl hhas⟩

theorem coreNew (hF : FInv c s) (f U cd : Nat) (vlog : List Entry) (T k : Nat)
    (hrec : (f, U, cd, vlog, false) ∈ (setNode s i nd' nd msgs).voteLogs)
    (ha : AckLike (setNode s i nd' nd msgs) T f k) (hTU : T < U) (hk0 : 0 < k) :
    vlog.take k = ((setNode s i nd' nd msgs).canon T).take k ∨
    ∃ U' j vs, (U', j, vs) ∈ (setNode s i nd' nd msgs).elected ∧ T < U' ∧ U' < U ∧
      ((setNode s i nd' nd msgs).elog U').take k ≠ ((setNode s i nd' nd msgs).canon T).take k := by
  have hrec' : (f, U, cd, vlog, false) ∈ s.voteLogs ++ voteLogOf s i nd nd' := hrec
  rcases List.mem_append.mp hrec' with hro | hrn
  · -- an old vote record
    rcases x.ackLikeCases T f k ha with hold | ⟨hfi, hterm, _⟩
    · have hT := ackLike_elected c s x.hC T f k hold
      have hkle := ackLike_le c s x.hC T f k hold
      rcases hF.core f U cd vlog T k hro hold hTU hk0 with h | h
      · left; rw [h, x.canonTake T k hT hkle]
      · right; exact x.excuseMono T k _ _ (fun _ h => h) hT hkle h
    · -- a fresh acknowledgement by a node that had already voted in a later term: impossible
      exfalso
      subst hfi
      have hgh := hF.voteToGhost f U cd vlog false hro
      obtain ⟨ndg, hg, hle, _⟩ := x.hI.ghostNode f U cd hgh
      rw [x.hnd] at hg; cases hg
      have := x.ht.term_le
      omega
  · -- the vote recorded in this very step
    obtain ⟨hf, hU, _, hvlog, hfl, _⟩ := mem_voteLogOf.mp hrn
    have hNoU : ¬ TermElected s U := by
      intro h
      have := (any_elected_iff s nd'.term).mpr (hU ▸ h)
      rw [this] at hfl; cases hfl
    subst hf
    rcases x.ackLikeCases T f k ha with hold | ⟨_, hterm, _⟩
    · have hT := ackLike_elected c s x.hC T f k hold
      have hkle := ackLike_le c s x.hC T f k hold
      obtain ⟨ndf, hf', hq⟩ := hF.nodeAck T f k hold hk0
      rw [x.hnd] at hf'; cases hf'
      rcases hq with h | ⟨U', j, vs, hU', h1, h2, h3⟩
      · left; rw [hvlog, h, x.canonTake T k hT hkle]
      · right
        refine x.excuseMono T k _ _ (fun _ h => h) hT hkle ⟨U', j, vs, hU', h1, ?_, h3⟩
        have hle : U' ≤ U := by have := x.ht.term_le; omega
        rcases Nat.lt_or_ge U' U with h | h
        · exact h
        · exfalso
          have : U' = U := by omega
          exact hNoU ⟨j, vs, this ▸ hU'⟩
    · omega

/-- a candidate-or-leader-to-be keeps its log in this step -/
theorem candLogSame (hr : nd'.role = .candidate) : nd'.log = nd.log := by
  rcases x.hk with ⟨hlog, _⟩ | ⟨_, hl, _⟩ | ⟨hr0, p, hp⟩ | ⟨hr', _⟩
  · exact hlog
  · rw [hl] at hr; cases hr
  · subst hp; have : nd.role = .candidate := hr; rw [hr0] at this; cases this
  · rw [hr'] at hr; cases hr

theorem finv (hF : FInv c s) : FInv c (setNode s i nd' nd msgs) := by
  have hle := x.ht.term_le
  have hbound := term_bound_setNode s i nd nd' msgs x.hnd hle
  -- startLog of a (term, candidate) pair that is bounded by the candidate's old term is stable
  have hstart : ∀ (cd U : Nat), (∃ ndc : Node, s.nodes[cd]? = some ndc ∧ U ≤ ndc.term) →
      (setNode s i nd' nd msgs).startLog U cd = s.startLog U cd := by
    intro cd U ⟨ndc, hc, hU⟩
    apply startLog_setNode
    rintro ⟨hUt, hci, _, hlt⟩
    subst hci; rw [x.hnd] at hc; cases hc; omega
  refine ⟨?_, ?_, ?_, ?_, ?_, ?_, ?_, x.nodeAckNew hF, x.coreNew hF⟩
  · -- rvTermBound
    intro src dst U cd li lt h
    rcases List.mem_append.mp h with h | h
    · exact hbound cd U (hF.rvTermBound src dst U cd li lt h)
    · obtain ⟨hc, hU, _⟩ := x.hmR src dst _ h U cd li lt rfl
      subst hc
      exact ⟨nd', by rw [x.get]; simp, by omega⟩
  · -- voteCandTerm
    intro v U cd vlog fl h
    rcases List.mem_append.mp h with h | h
    · exact hbound cd U (hF.voteCandTerm v U cd vlog fl h)
    · obtain ⟨_, hU, hvf, _, _, hne⟩ := mem_voteLogOf.mp h
      obtain ⟨_, hq⟩ := x.hv cd hvf hne
      rcases hq with ⟨hci, _, _⟩ | ⟨_, src, li, lt, hmsg, _⟩
      · subst hci; exact ⟨nd', by rw [x.get]; simp, by omega⟩
      · rw [hU]; exact hbound cd _ (hF.rvTermBound src i _ cd li lt hmsg)
  · -- rvStart
    intro src dst U cd li lt h
    rcases List.mem_append.mp h with h | h
    · rw [hstart cd U (hF.rvTermBound src dst U cd li lt h)]
      exact hF.rvStart src dst U cd li lt h
    · obtain ⟨hc, hU, hr, hlt, hli, hlt'⟩ := x.hmR src dst _ h U cd li lt rfl
      subst hc; subst hU
      rw [startLog_setNode_new s cd nd nd' msgs hr hlt]
      exact ⟨hli, hlt'⟩
  · -- candStart
    intro j ndj hj hr
    rcases getElem?_set_cases x.hnd hj with ⟨rfl, rfl⟩ | ⟨hji, hj⟩
    · have hlog := x.candLogSame hr
      rcases x.ht.shape with sh | sh | sh | sh
      · rw [sh] at hr; cases hr
      · have hr0 : nd.role = .candidate := by rw [← sh.1]; exact hr
        rw [startLog_setNode s j nd nd' msgs _ _ (by rintro ⟨_, _, _, h⟩; omega), hlog, sh.2.1]
        exact hF.candStart j nd x.hnd hr0
      · rw [startLog_setNode_new s j nd nd' msgs hr sh.2.2.2, hlog]
      · rw [startLog_setNode s j nd nd' msgs _ _ (by rintro ⟨_, _, _, h⟩; omega), hlog, sh.2.1]
        exact hF.candStart j nd x.hnd sh.1
    · rw [startLog_setNode s i nd nd' msgs _ _ (by rintro ⟨_, h, _⟩; exact hji h)]
      exact hF.candStart j ndj hj hr
  · -- electedStart
    intro U cd vs h
    rcases (mem_elected_setNode s i nd nd' msgs U cd vs).mp h with hold | ⟨hnl, hl, rfl, rfl, rfl⟩
    · rw [x.elogSt U ⟨cd, vs, hold⟩, hstart cd U (x.hL.electedTerm U cd vs hold)]
      exact hF.electedStart U cd vs hold
    · -- the election won in this step, by a candidate that keeps term and log
      obtain ⟨hrc, hterm, hlog⟩ := x.hk.won hnl hl
      rw [elog_setNode, if_pos ⟨⟨hnl, hl⟩, rfl⟩, startLog_setNode s cd nd nd' msgs _ _
        (by rintro ⟨_, _, hr, _⟩; exact nomatch hr.symm.trans hl), hlog, hterm]
      exact hF.candStart cd nd x.hnd hrc
  · -- voteUpToDate
    intro v U cd vlog fl h
    rcases List.mem_append.mp h with h | h
    · rw [hstart cd U (hF.voteCandTerm v U cd vlog fl h)]
      exact hF.voteUpToDate v U cd vlog fl h
    · obtain ⟨_, rfl, hvf, rfl, _, hne⟩ := mem_voteLogOf.mp h
      obtain ⟨_, hq⟩ := x.hv cd hvf hne
      rcases hq with ⟨hci, hr, hlt⟩ | ⟨hnc, src, li, lt, hmsg, hup⟩
      · subst hci
        rw [startLog_setNode_new s cd nd nd' msgs hr hlt]
        exact upToDate_refl _
      · rw [startLog_setNode s i nd nd' msgs _ _ (by rintro ⟨_, _, hr, hlt⟩; exact hnc hlt hr)]
        obtain ⟨hli, hlt'⟩ := hF.rvStart src i _ cd li lt hmsg
        unfold UpToDate
        rcases hup with h1 | ⟨h1, h2⟩
        · left; rw [← hlt']; exact h1
        · right; exact ⟨by rw [← hlt']; exact h1, by rw [← hli]; exact h2⟩
  · -- voteToGhost
    intro v U cd vlog fl h
    show (v, U, cd) ∈ s.ghost ++ ghostOf i nd nd'
    rcases List.mem_append.mp h with h | h
    · exact List.mem_append_left _ (hF.voteToGhost v U cd vlog fl h)
    · obtain ⟨rfl, rfl, hvf, _, _, hne⟩ := mem_voteLogOf.mp h
      exact List.mem_append_right _ (mem_ghostOf.mpr ⟨rfl, rfl, hvf, hne⟩)

end StepCtx

/-- `sysStep_cases` for the layers above `EInv`: a node replacement comes with its `StepCtx` -/
theorem sysStep_ctx (c : Config) (s : Sys) (st : Step) (hI : Inv c s) (hL : LMInv c s)
    (hC : CInv c s) (hE : EInv c s) (P : Sys → Prop) (hsame : P s)
    (hset : ∀ (i : Nat) (nd nd' : Node) (g : Option Nat) (msgs : List (Nat × Nat × Msg)),
      StepCtx c s i nd nd' g msgs → NodeStep c s i nd nd' g msgs → P (setNode s i nd' nd msgs))
    (hrep : ∀ (i j : Nat) (nd : Node) (pi pt : Nat) (es : List Entry), s.nodes[i]? = some nd →
      nd.role = .leader →
      P { s with net := s.net ++ [(i, j, Msg.appendEntries nd.term nd.id pi pt es nd.commit)] }) :
    P (sysStep c s st) := by
  apply sysStep_cases c s st hI.ids
    (fun s' => Inv c s' → LMInv c s' → CInv c s' → EInv c s' → P s') _ _ _
    (inv_step c s st hI) (lm_step c s st hI hL) (cinv_step c s st hI hL hC) (einv_step c s st hI hL hC hE)
  · exact fun _ _ _ _ => hsame
  · intro i nd nd' g msgs hnd y _ hI2 hL2 hC2 hE2
    exact hset i nd nd' g msgs (StepCtx.mk hI hL hC hE hI2 hL2 hC2 hE2 hnd y.trans y.kind y.msgs.msgsC
      y.msgs.msgsR y.msgs.noAE y.vote) y
  · exact fun i j nd pi pt es _ hnd hr _ _ _ _ _ _ => hrep i j nd pi pt es hnd hr

theorem finv_step (c : Config) (s : Sys) (st : Step) (hI : Inv c s) (hL : LMInv c s)
    (hC : CInv c s) (hE : EInv c s) (hF : FInv c s) : FInv c (sysStep c s st) := by
  apply sysStep_ctx c s st hI hL hC hE (FInv c) hF
  · exact fun i nd nd' g msgs x _ => x.finv hF
  · intro i j nd pi pt es _ _
    have hack : ∀ T f k, AckLike { s with net := s.net ++ [(i, j, Msg.appendEntries nd.term nd.id pi pt es nd.commit)] } T f k →
        AckLike s T f k := by
      rintro T f k (⟨src, dst, m, hm, hk⟩ | h)
      · rcases List.mem_append.mp hm with h | h
        · exact Or.inl ⟨src, dst, m, h, hk⟩
        · simp at h
      · exact Or.inr h
    have hrv : ∀ {src dst U cd li lt : Nat}, (src, dst, Msg.requestVote U cd li lt) ∈
        s.net ++ [(i, j, Msg.appendEntries nd.term nd.id pi pt es nd.commit)] →
        (src, dst, Msg.requestVote U cd li lt) ∈ s.net := by
      intro src dst U cd li lt h
      rcases List.mem_append.mp h with h | h
      · exact h
      · simp at h
    exact ⟨fun src dst U cd li lt h => hF.rvTermBound src dst U cd li lt (hrv h), hF.voteCandTerm,
      fun src dst U cd li lt h => hF.rvStart src dst U cd li lt (hrv h), hF.candStart, hF.electedStart,
      hF.voteUpToDate, hF.voteToGhost, fun T f k h hk0 => hF.nodeAck T f k (hack T f k h) hk0,
      fun f U cd vlog T k hrec h hTU hk0 => hF.core f U cd vlog T k hrec (hack T f k h) hTU hk0⟩

end Neumann.Raft
