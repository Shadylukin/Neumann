import NeumannModel.Raft.Snap
/-! Helper lemmas for `Raft/SnapProps.lean` (sorted-association-list facts, replay invariants,
    the records of a snapshot install). -/
namespace Neumann.Raft.Props

open Neumann.Raft

/-! ## association-list facts -/

theorem mem_wmInsert (k : Nat) (v : Entry) (m : List (Nat × Entry)) (p : Nat × Entry)
    (h : p ∈ wmInsert k v m) : p = (k, v) ∨ p ∈ m := by
  induction m with
  | nil =>
    simp only [wmInsert, List.mem_singleton] at h
    exact Or.inl h
  | cons hd t ih =>
    obtain ⟨k', v'⟩ := hd
    simp only [wmInsert] at h
    split at h
    · simp only [List.mem_cons] at h ⊢
      rcases h with h | h
      · exact Or.inr (Or.inl h)
      · rcases ih h with h | h
        · exact Or.inl h
        · exact Or.inr (Or.inr h)
    · split at h
      · simp only [List.mem_cons] at h ⊢
        rcases h with h | h
        · exact Or.inl h
        · exact Or.inr (Or.inr h)
      · simp only [List.mem_cons] at h ⊢
        rcases h with h | h | h
        · exact Or.inl h
        · exact Or.inr (Or.inl h)
        · exact Or.inr (Or.inr h)

theorem wmTrunc_sorted (f : Nat) (m : List (Nat × Entry)) (hs : KeySorted m) :
    KeySorted (wmTrunc f m) :=
  List.Pairwise.filter _ hs

theorem wmTrunc_eq_nil (f : Nat) (m : List (Nat × Entry)) (h : ∀ p ∈ m, f ≤ p.1) :
    wmTrunc f m = [] := by
  unfold wmTrunc
  rw [List.filter_eq_nil_iff]
  intro p hp
  have := h p hp
  simp only [decide_eq_true_eq]
  omega

theorem wmTrunc_eq_self (f : Nat) (m : List (Nat × Entry)) (h : ∀ p ∈ m, p.1 < f) :
    wmTrunc f m = m := by
  unfold wmTrunc
  rw [List.filter_eq_self]
  intro p hp
  simp only [decide_eq_true_eq]
  exact h p hp

/-- `BTreeMap::insert` on a sorted map: keys below `k`, the new pair, keys above `k` -/
theorem wmInsert_eq (k : Nat) (v : Entry) (m : List (Nat × Entry)) (hs : KeySorted m) :
    wmInsert k v m = wmTrunc k m ++ (k, v) :: m.filter (fun p => k < p.1) := by
  induction m with
  | nil => rfl
  | cons hd t ih =>
    obtain ⟨k', v'⟩ := hd
    have hs' := List.pairwise_cons.mp hs
    have htail : k ≤ k' → wmTrunc k t = [] ∧ t.filter (fun p => k < p.1) = t := fun hle =>
      ⟨wmTrunc_eq_nil k t (fun p hp => Nat.le_of_lt (Nat.lt_of_le_of_lt hle (hs'.1 p hp))),
        List.filter_eq_self.mpr (fun p hp => decide_eq_true (Nat.lt_of_le_of_lt hle (hs'.1 p hp)))⟩
    unfold wmTrunc at ih htail ⊢
    simp only [wmInsert]
    by_cases hlt : k' < k
    · rw [if_pos hlt, ih hs'.2, List.filter_cons_of_pos (by simpa using hlt),
        List.filter_cons_of_neg (by simpa using Nat.le_of_lt hlt), List.cons_append]
    · rw [if_neg hlt, List.filter_cons_of_neg (by simpa using hlt), (htail (Nat.le_of_not_lt hlt)).1,
        List.nil_append]
      by_cases heq : k' = k
      · rw [if_pos heq, List.filter_cons_of_neg (by simp [heq]), (htail (Nat.le_of_not_lt hlt)).2]
      · rw [if_neg heq, List.filter_cons_of_pos (by simp; omega), (htail (Nat.le_of_not_lt hlt)).2]

theorem wmInsert_sorted (k : Nat) (v : Entry) (m : List (Nat × Entry)) (hs : KeySorted m) :
    KeySorted (wmInsert k v m) := by
  rw [wmInsert_eq k v m hs]
  refine List.pairwise_append.mpr ⟨wmTrunc_sorted k m hs,
    List.pairwise_cons.mpr ⟨fun p hp => ?_, hs.filter _⟩, fun a ha b hb => ?_⟩
  · exact of_decide_eq_true (List.mem_filter.mp hp).2
  · have ha' : a.1 < k := of_decide_eq_true (List.mem_filter.mp ha).2
    rcases List.mem_cons.mp hb with rfl | hb
    · exact ha'
    · exact Nat.lt_trans ha' (of_decide_eq_true (List.mem_filter.mp hb).2)

/-- one insert at `b+1`, seen below `b+2`: everything below `b+1` survives, then the new pair -/
theorem wmTrunc_wmInsert (b : Nat) (e : Entry) (m : List (Nat × Entry)) (hs : KeySorted m) :
    wmTrunc (b + 2) (wmInsert (b + 1) e m) = wmTrunc (b + 1) m ++ [(b + 1, e)] := by
  rw [wmInsert_eq _ _ _ hs]
  unfold wmTrunc
  rw [List.filter_append, List.filter_cons_of_pos (by simp), List.filter_filter, List.filter_filter]
  congr 1
  · exact List.filter_congr (fun p _ => by simp; omega)
  · rw [List.cons.injEq]
    exact ⟨rfl, List.filter_eq_nil_iff.mpr (fun p _ => by simp; omega)⟩

/-- inserting above every key appends -/
theorem wmInsert_above (k : Nat) (v : Entry) (m : List (Nat × Entry)) (h : ∀ p ∈ m, p.1 < k) :
    wmInsert k v m = m ++ [(k, v)] := by
  induction m with
  | nil => rfl
  | cons hd t ih =>
    obtain ⟨k', v'⟩ := hd
    have hk : k' < k := h (k', v') (List.mem_cons_self ..)
    simp only [wmInsert, if_pos hk, List.cons_append]
    rw [ih (fun p hp => h p (List.mem_cons_of_mem _ hp))]

/-! ## replay invariants -/

theorem walApply_sorted (m : List (Nat × Entry)) (r : WalRec) (hs : KeySorted m) :
    KeySorted (walApply m r) := by
  cases r with
  | full i e => exact wmInsert_sorted i e m hs
  | trunc f => exact wmTrunc_sorted f m hs
  | other => exact hs

theorem foldl_walApply_sorted (rs : List WalRec) (m : List (Nat × Entry)) (hs : KeySorted m) :
    KeySorted (rs.foldl walApply m) := by
  induction rs generalizing m with
  | nil => exact hs
  | cons r rs ih => exact ih _ (walApply_sorted m r hs)

theorem foldl_walApply_keys_pos (rs : List WalRec) (m : List (Nat × Entry))
    (hidx : ∀ i e, WalRec.full i e ∈ rs → 1 ≤ i) (hm : ∀ p ∈ m, 1 ≤ p.1) :
    ∀ p ∈ rs.foldl walApply m, 1 ≤ p.1 := by
  induction rs generalizing m with
  | nil => exact hm
  | cons r rs ih =>
    apply ih
    · intro i e h; exact hidx i e (List.mem_cons_of_mem _ h)
    · intro p hp
      cases r with
      | full i e =>
        rcases mem_wmInsert i e m p hp with h | h
        · subst h; exact hidx i e (List.mem_cons_self ..)
        · exact hm p h
      | trunc f =>
        exact hm p (List.mem_filter.mp hp).1
      | other => exact hm p hp

theorem walReplay_sorted (rs : List WalRec) : KeySorted (walReplay rs) :=
  foldl_walApply_sorted rs [] List.Pairwise.nil

theorem walReplay_keys_pos (rs : List WalRec) (hidx : ∀ i e, WalRec.full i e ∈ rs → 1 ≤ i) :
    ∀ p ∈ walReplay rs, 1 ≤ p.1 :=
  foldl_walApply_keys_pos rs [] hidx (fun _ h => nomatch h)

/-! ## the records of an install / of appends -/

/-- replaying `LogEntryFull b+1 .. b+len` over a sorted map, seen below `b+len+1` -/
theorem wmTrunc_foldl_fullRecs (es : List Entry) (b : Nat) (m : List (Nat × Entry))
    (hs : KeySorted m) :
    wmTrunc (b + es.length + 1) ((fullRecs b es).foldl walApply m)
      = wmTrunc (b + 1) m ++ wmIndexed b es := by
  induction es generalizing b m with
  | nil => simp [fullRecs, wmIndexed]
  | cons e es ih =>
    simp only [fullRecs, List.foldl_cons, walApply, wmIndexed, List.length_cons]
    have := ih (b + 1) (wmInsert (b + 1) e m) (wmInsert_sorted _ _ _ hs)
    have hlen : b + (es.length + 1) + 1 = b + 1 + es.length + 1 := by omega
    rw [hlen, this, wmTrunc_wmInsert b e m hs, List.append_assoc, List.singleton_append]

theorem wmIndexed_keys_lt (es : List Entry) (b : Nat) :
    ∀ p ∈ wmIndexed b es, p.1 < b + es.length + 1 := by
  induction es generalizing b with
  | nil => intro p hp; exact nomatch hp
  | cons e es ih =>
    intro p hp
    simp only [wmIndexed, List.mem_cons] at hp
    simp only [List.length_cons]
    rcases hp with h | h
    · subst h; simp only; omega
    · have := ih (b + 1) p h; omega

theorem wmIndexed_values (es : List Entry) (b : Nat) : (wmIndexed b es).map (·.2) = es := by
  induction es generalizing b with
  | nil => rfl
  | cons e es ih => simp only [wmIndexed, List.map_cons, ih]

/-- appends above every held key extend the map -/
theorem foldl_fullRecs_above (es : List Entry) (b : Nat) (m : List (Nat × Entry))
    (h : ∀ p ∈ m, p.1 < b + 1) :
    (fullRecs b es).foldl walApply m = m ++ wmIndexed b es := by
  induction es generalizing b m with
  | nil => simp [fullRecs, wmIndexed]
  | cons e es ih =>
    simp only [fullRecs, List.foldl_cons, walApply, wmIndexed]
    rw [wmInsert_above _ _ _ h, ih (b + 1), List.append_assoc, List.singleton_append]
    intro p hp
    simp only [List.mem_append, List.mem_singleton] at hp
    rcases hp with hp | hp
    · have := h p hp; omega
    · subst hp; simp only; omega

/-- after an install the replayed map is exactly the snapshot at indices `1 ..= len` -/
theorem walReplay_after_install (wal : List WalRec) (snap : List Entry)
    (hidx : ∀ i e, WalRec.full i e ∈ wal → 1 ≤ i) (hne : snap ≠ []) :
    walReplay (wal ++ installRecs snap) = wmIndexed 0 snap := by
  have hemp : snap.isEmpty = false := by
    cases snap with
    | nil => exact absurd rfl hne
    | cons _ _ => rfl
  unfold walReplay installRecs
  simp only [hemp, Bool.false_eq_true, if_false, List.foldl_append, List.foldl_cons,
    List.foldl_nil, walApply]
  have h := wmTrunc_foldl_fullRecs snap 0 (walReplay wal) (walReplay_sorted wal)
  simp only [Nat.zero_add] at h
  unfold walReplay at h
  rw [h]
  have hnil : wmTrunc 1 (List.foldl walApply [] wal) = [] :=
    wmTrunc_eq_nil 1 _ (walReplay_keys_pos wal hidx)
  rw [hnil, List.nil_append]

end Neumann.Raft.Props
