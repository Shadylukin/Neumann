import NeumannModel.Raft.CommitSafety
/-
  C01 — property theorems.
  Part 1: handler-level facts (for every node state and message).
  Part 2: system-level theorems for EVERY reachable state of `Raft/System.lean`, i.e. every
  interleaving of message deliveries (arbitrary delay, reordering, duplication, loss), election
  timeouts, pre-votes, proposals, replication and crash/restart events, on clusters of any size
  (proof in `Raft/Safety.lean`: invariant `Inv`, `inv_step`, quorum intersection).
  Part 3: the log theorems (Log Matching, acknowledgement soundness, Leader Completeness, State
  Machine Safety), for every reachable state as well.
-/
namespace Neumann.Raft.Props
open Neumann.Raft

/-- A follower never acknowledges more than the request covers (the fact the repaired
    `match_index` defect violated): `match_index ≤ prev_log_index + entries.len()`. -/
theorem ae_match_le_covered (nd : Node) (t l pi pt : Nat) (es : List Entry) (lc : Nat)
    (t' : Nat) (s : Bool) (f mi : Nat)
    (h : (handleAppendEntries nd t l pi pt es lc).2 = .appendEntriesResp t' s f mi) :
    mi ≤ pi + es.length := by
  rcases handleAppendEntries_cases nd t l pi pt es lc with ⟨_, e⟩ | ⟨_, _, ⟨_, e⟩ | ⟨_, e⟩⟩ <;> rw [e] at h
  · cases h; exact Nat.zero_le _
  · cases h; exact Nat.zero_le _
  · rw [aeAccept_msg] at h; cases h; exact Nat.min_le_left _ _

/-- …and never advances its commit index beyond what the request covers. -/
theorem ae_commit_le_covered (nd : Node) (t l pi pt : Nat) (es : List Entry) (lc : Nat) :
    (handleAppendEntries nd t l pi pt es lc).1.commit ≤ max nd.commit (pi + es.length) := by
  rcases handleAppendEntries_cases nd t l pi pt es lc with ⟨_, e⟩ | ⟨_, _, ⟨_, e⟩ | ⟨_, e⟩⟩ <;> rw [e]
  · exact Nat.le_max_left _ _
  · exact stepDown_commit nd t ▸ Nat.le_max_left _ _
  · -- accepted: the old commit index, or the leader's cut to what the request covers
    rcases (aeAccept_commit_cases { stepDown nd t with role := .follower, leaderId := some l } pi es lc).2
      with h | h <;> rw [h]
    · exact stepDown_commit nd t ▸ Nat.le_max_left _ _
    · exact Nat.le_trans (Nat.le_trans (Nat.min_le_right _ _) (Nat.min_le_left _ _)) (Nat.le_max_right _ _)

/-- commit index never decreases in `handle_append_entries` -/
theorem ae_commit_monotone (nd : Node) (t l pi pt : Nat) (es : List Entry) (lc : Nat) :
    nd.commit ≤ (handleAppendEntries nd t l pi pt es lc).1.commit := by
  rcases handleAppendEntries_cases nd t l pi pt es lc with ⟨_, e⟩ | ⟨_, _, ⟨_, e⟩ | ⟨_, e⟩⟩ <;> rw [e]
  · exact Nat.le_of_eq (stepDown_commit nd t).symm
  · exact stepDown_commit nd t ▸
      (aeAccept_commit_cases { stepDown nd t with role := .follower, leaderId := some l } pi es lc).1

/-- A response from an earlier term never changes the leader's state (second repaired defect). -/
theorem stale_term_ack_ignored (c : Config) (nd : Node) (src t : Nat) (s : Bool) (mi : Nat)
    (h : t < nd.term) : handleAppendEntriesResp c nd src t s mi = nd := by
  unfold handleAppendEntriesResp
  have h1 : ¬ t > nd.term := by omega
  by_cases hr : nd.role ≠ .leader
  · rw [if_pos hr]
  · rw [if_neg hr, if_neg h1, if_pos h]

/-- A vote is granted only for the requested term, only if no other candidate holds this
    node's vote in that term, and the vote is recorded before the reply exists. -/
theorem vote_grant_sound (c : Config) (nd : Node) (t cand li lt : Nat) (hl geo : Bool) (t' v : Nat)
    (h : (handleRequestVote c nd t cand li lt hl geo).2 = .requestVoteResp t' true v) :
    t' = t ∧ nd.term ≤ t ∧
    (handleRequestVote c nd t cand li lt hl geo).1.votedFor = some cand ∧
    (handleRequestVote c nd t cand li lt hl geo).1.term = t ∧
    (nd.term = t → nd.votedFor = none ∨ nd.votedFor = some cand) := by
  rcases handleRequestVote_cases c nd t cand li lt hl geo with e | ⟨ht, hcv, _, e⟩ <;> rw [e] at h ⊢
  · cases h
  · cases h
    have hge := stepDown_term_ge nd t
    refine ⟨ht.symm, ht ▸ hge, rfl, ht.symm, fun heq => ?_⟩
    rw [stepDown_of_le nd t (by omega)] at hcv
    simpa [canVote] using hcv

/-- a crash keeps exactly the persistent state -/
theorem crash_keeps_persistent (nd : Node) :
    (crashRestart nd).term = nd.term ∧ (crashRestart nd).votedFor = nd.votedFor ∧
    (crashRestart nd).log = nd.log ∧ (crashRestart nd).role = .follower := by
  simp [crashRestart]

/-! ## Part 2 — all interleavings -/

/-- all six invariant layers hold in every reachable state -/
theorem reachable_invariants (c : Config) (steps : List Step) :
    Inv c (run c (initSys c) steps) ∧ LMInv c (run c (initSys c) steps) ∧
    CInv c (run c (initSys c) steps) ∧ EInv c (run c (initSys c) steps) ∧
    FInv c (run c (initSys c) steps) ∧ GInv c (run c (initSys c) steps) :=
  invs_run c _ steps (invs_init c)

/-- **Election Safety**: in every reachable state at most one node is leader in any term. -/
theorem election_safety (c : Config) (steps : List Step) (i j : Nat) (a b : Node)
    (ha : (run c (initSys c) steps).nodes[i]? = some a)
    (hb : (run c (initSys c) steps).nodes[j]? = some b)
    (hla : a.role = .leader) (hlb : b.role = .leader) (hterm : a.term = b.term) : i = j :=
  election_safety_of_inv c _ (reachable_invariants c steps).1 i j a b ha hb hla hlb hterm

/-- **One vote per term, across crashes and restarts**: the history of all votes ever recorded
    (every granted RequestVoteResponse in the network is in it, `granted_votes_are_recorded`)
    never holds two different candidates for one voter and term. -/
theorem vote_once_per_term (c : Config) (steps : List Step) (v t c1 c2 : Nat)
    (h1 : (v, t, c1) ∈ (run c (initSys c) steps).ghost)
    (h2 : (v, t, c2) ∈ (run c (initSys c) steps).ghost) : c1 = c2 :=
  (reachable_invariants c steps).1.ghostFun v t c1 c2 h1 h2

theorem granted_votes_are_recorded (c : Config) (steps : List Step) (src dst t v : Nat)
    (h : (src, dst, Msg.requestVoteResp t true v) ∈ (run c (initSys c) steps).net) :
    (src, t, dst) ∈ (run c (initSys c) steps).ghost :=
  (reachable_invariants c steps).1.rvrInGhost src dst t v h

/-- a leader holds recorded votes of a strict majority for its term -/
theorem leader_has_quorum (c : Config) (steps : List Step) (i : Nat) (a : Node)
    (ha : (run c (initSys c) steps).nodes[i]? = some a) (hl : a.role = .leader) :
    c.quorum ≤ a.votes.length ∧ a.votes.Nodup ∧
    ∀ v ∈ a.votes, (v, a.term, i) ∈ (run c (initSys c) steps).ghost := by
  obtain ⟨h1, h2, h3⟩ := (reachable_invariants c steps).1.votesOk i a ha (by rw [hl]; intro h; cases h)
  exact ⟨h3 hl, h2, h1⟩

/-! ## Part 3 — the log theorems -/

/-- **Log Matching**: in every reachable state, two logs that agree on the term of a position
    agree on every position up to it (proof: `Raft/LogMatch.lean`, invariant `LMInv` — every
    entry of term `t` in any log or AppendEntries sits on a prefix of the log of the one leader
    of term `t`; `append_leader_entries` preserves that). -/
theorem log_matching (c : Config) (steps : List Step) (i j : Nat) (a b : Node)
    (ha : (run c (initSys c) steps).nodes[i]? = some a)
    (hb : (run c (initSys c) steps).nodes[j]? = some b)
    (k : Nat) (ea eb : Entry) (h1 : a.log[k]? = some ea) (h2 : b.log[k]? = some eb)
    (ht : ea.term = eb.term) : a.log.take (k + 1) = b.log.take (k + 1) :=
  log_matching_of_inv c _ (reachable_invariants c steps).2.1 i j a b ha hb k ea eb h1 h2 ht

/-- at most one node EVER wins an election in a term (historical form of Election Safety) -/
theorem one_election_per_term (c : Config) (steps : List Step) (t i j : Nat) (vs ws : List Nat)
    (h1 : (t, i, vs) ∈ (run c (initSys c) steps).elected)
    (h2 : (t, j, ws) ∈ (run c (initSys c) steps).elected) : i = j :=
  elected_unique c _ (reachable_invariants c steps).1 (reachable_invariants c steps).2.1
    t i j vs ws h1 h2

/-- every AppendEntries in the network is a segment of the canonical log of its term (ghost
    `canon`: the log of that term's leader as of its last step as leader; that a leader's log
    equals it is `LMInv.leaderCanon`, part of `reachable_invariants`) -/
theorem ae_is_leader_log_segment (c : Config) (steps : List Step) (src dst T l pi pt : Nat)
    (es : List Entry) (lc : Nat)
    (h : (src, dst, Msg.appendEntries T l pi pt es lc) ∈ (run c (initSys c) steps).net) :
    ((run c (initSys c) steps).canon T).take pi ++ es
      = ((run c (initSys c) steps).canon T).take (pi + es.length) :=
  ((reachable_invariants c steps).2.1.aeOk src dst T l pi pt es lc h).2.2.2.1

/-- **Acknowledgements are sound**: a success AppendEntriesResponse `(T, f, m)` anywhere in the
    network means `f` reached term `T`, `m` lies inside the log of the leader of `T`, and as
    long as `f` stays in term `T` its log keeps exactly that leader's first `m` entries
    (whatever later AppendEntries of that term it processes, in whatever order). -/
theorem ack_sound (c : Config) (steps : List Step) (src dst T f m : Nat)
    (h : (src, dst, Msg.appendEntriesResp T true f m) ∈ (run c (initSys c) steps).net) :
    src = f ∧ ∃ nd : Node, (run c (initSys c) steps).nodes[f]? = some nd ∧ T ≤ nd.term ∧
      m ≤ ((run c (initSys c) steps).canon T).length ∧
      (nd.term = T → nd.log.take m = ((run c (initSys c) steps).canon T).take m) := by
  have hC := (reachable_invariants c steps).2.2.1
  exact ⟨hC.aerSrc src dst T true f m h, hC.ackSound src dst T f m h⟩

/-- **`match_index` is sound**: every positive `match_index[f] = m` a leader holds is backed by
    a success acknowledgement of its CURRENT term sent by `f` (never by a stale or foreign one). -/
theorem match_index_sound (c : Config) (steps : List Step) (i : Nat) (nd : Node)
    (hnd : (run c (initSys c) steps).nodes[i]? = some nd) (hr : nd.role = .leader)
    (f m : Nat) (hg : alGet nd.matchIdx f = some m) (hpos : 0 < m) :
    ∃ dst, (f, dst, Msg.appendEntriesResp nd.term true f m) ∈ (run c (initSys c) steps).net :=
  (reachable_invariants c steps).2.2.1.matchSound i nd hnd hr f m hg hpos

/-- no log ever holds an entry of a term its node has not reached -/
theorem log_terms_bounded (c : Config) (steps : List Step) (i : Nat) (nd : Node)
    (hnd : (run c (initSys c) steps).nodes[i]? = some nd) : ∀ e ∈ nd.log, e.term ≤ nd.term :=
  (reachable_invariants c steps).2.2.1.nodeTermBound i nd hnd

/-- **Leader Completeness**: in every reachable state, if the first `N` entries of the log of
    term `T`'s leader are acknowledged by a quorum (success responses covering `N`, the leader
    itself counting as one) and entry `N` is of term `T` — exactly the leader's commit rule —
    then EVERY election ever won in a later term was won by a node whose log, at that moment,
    started with those `N` entries. (Invariants: `Raft/Complete.lean`, `Raft/Complete2.lean`;
    the argument by strong induction on the later term: `Raft/LeaderCompleteness.lean`.) -/
theorem leader_completeness (c : Config) (steps : List Step) (T N : Nat)
    (hD : Durable c (run c (initSys c) steps) T N) (U j : Nat) (vs : List Nat)
    (hU : (U, j, vs) ∈ (run c (initSys c) steps).elected) (hTU : T < U) :
    ((run c (initSys c) steps).elog U).take N = ((run c (initSys c) steps).canon T).take N := by
  obtain ⟨hI, hL, hC, hE, hF, _⟩ := reachable_invariants c steps
  exact leader_completeness_of_inv c _ hI hL hC hE hF T N hD U j vs hU hTU

/-- **State Machine Safety**: in every reachable state (any interleaving of timeouts, pre-votes,
    deliveries in any order with duplication and loss, proposals, replication rounds and
    crash-restarts), no two nodes hold different entries at a position both have committed —
    and both do hold an entry there. -/
theorem state_machine_safety (c : Config) (steps : List Step) (i j : Nat) (a b : Node)
    (ha : (run c (initSys c) steps).nodes[i]? = some a)
    (hb : (run c (initSys c) steps).nodes[j]? = some b)
    (k : Nat) (hka : k < a.commit) (hkb : k < b.commit) :
    a.log[k]? = b.log[k]? ∧ ∃ e, a.log[k]? = some e := by
  obtain ⟨hI, hL, hC, hE, hF, hG⟩ := reachable_invariants c steps
  exact state_machine_safety_of_inv c _ hI hL hC hE hF hG i j a b ha hb k hka hkb

/-- a node's commit index never exceeds its log -/
theorem commit_within_log (c : Config) (steps : List Step) (i : Nat) (a : Node)
    (ha : (run c (initSys c) steps).nodes[i]? = some a) : a.commit ≤ a.log.length := by
  rcases Nat.eq_zero_or_pos a.commit with h | h
  · omega
  · obtain ⟨_, e, he⟩ := state_machine_safety c steps i i a a ha ha (a.commit - 1) (by omega) (by omega)
    have := getElem?_lt _ _ e he
    omega

/-- **a committed entry is in the log of every later leader**: what some node has committed
    (positions `< a.commit`) is a prefix of the log with which any election of a term above the
    committing node's term was won. -/
theorem committed_prefix_in_later_leaders (c : Config) (steps : List Step) (i : Nat) (a : Node)
    (ha : (run c (initSys c) steps).nodes[i]? = some a) (U j : Nat) (vs : List Nat)
    (hU : (U, j, vs) ∈ (run c (initSys c) steps).elected) (hTU : a.term < U) :
    ((run c (initSys c) steps).elog U).take a.commit = a.log.take a.commit := by
  obtain ⟨hI, hL, hC, hE, hF, hG⟩ := reachable_invariants c steps
  rcases Nat.eq_zero_or_pos a.commit with h | h
  · rw [h]; simp
  · obtain ⟨T, N, hD, hT, hN, htk⟩ := hG.commitOk i a ha h
    have hlc := leader_completeness_of_inv c _ hI hL hC hE hF T N hD U j vs hU (by omega)
    rw [htk]
    exact take_of_take_eq _ _ N a.commit hN hlc

/-- **State Machine Safety over time** — the property as stated: once some node has reported a
    position committed (at the state after `steps1`), no node at that moment or at any later one
    (after any further `steps2`: crashes, new elections, anything) reports a different entry
    committed at that position. -/
theorem state_machine_safety_over_time (c : Config) (steps1 steps2 : List Step) (i j : Nat)
    (a b : Node) (ha : (run c (initSys c) steps1).nodes[i]? = some a)
    (hb : (run c (initSys c) (steps1 ++ steps2)).nodes[j]? = some b)
    (k : Nat) (hka : k < a.commit) (hkb : k < b.commit) :
    a.log[k]? = b.log[k]? ∧ ∃ e, a.log[k]? = some e := by
  obtain ⟨hI1, hL1, hC1, hE1, _, hG1⟩ := reachable_invariants c steps1
  obtain ⟨hI2, hL2, hC2, hE2, hF2, hG2⟩ := reachable_invariants c (steps1 ++ steps2)
  rw [run_append] at hb hI2 hL2 hC2 hE2 hF2 hG2
  obtain ⟨Ta, Na, hDa, _, hNa, htka⟩ := hG1.commitOk i a ha (by omega)
  obtain ⟨hDa2, hcan⟩ := durable_run c _ steps2 hI1 hL1 hC1 hE1 Ta Na hDa
  obtain ⟨Tb, Nb, hDb, _, hNb, htkb⟩ := hG2.commitOk j b hb (by omega)
  have htka2 : a.log.take a.commit =
      ((run c (run c (initSys c) steps1) steps2).canon Ta).take a.commit := by
    rw [htka]; exact (take_of_take_eq _ _ Na a.commit hNa hcan).symm
  exact prefix_agree c _ hI2 hL2 hC2 hE2 hF2 a.log b.log a.commit b.commit k hka hkb
    Ta Na Tb Nb hDa2 hDb hNa hNb htka2 htkb

/-- **every later leader's log contains every committed entry**: whatever node `i` had committed
    after `steps1` is a prefix of the log of any node that is leader, at that moment or at any
    later one, in a term not below `i`'s term at the time. -/
theorem later_leader_has_committed_entries (c : Config) (steps1 steps2 : List Step) (i l : Nat)
    (a nl : Node) (ha : (run c (initSys c) steps1).nodes[i]? = some a)
    (hl : (run c (initSys c) (steps1 ++ steps2)).nodes[l]? = some nl)
    (hrole : nl.role = .leader) (hterm : a.term ≤ nl.term) :
    nl.log.take a.commit = a.log.take a.commit := by
  obtain ⟨hI1, hL1, hC1, hE1, _, hG1⟩ := reachable_invariants c steps1
  obtain ⟨hI2, hL2, hC2, hE2, hF2, _⟩ := reachable_invariants c (steps1 ++ steps2)
  rw [run_append] at hl hI2 hL2 hC2 hE2 hF2
  rcases Nat.eq_zero_or_pos a.commit with h0 | hpos
  · rw [h0]; simp
  · obtain ⟨Ta, Na, hDa, hTa, hNa, htka⟩ := hG1.commitOk i a ha hpos
    obtain ⟨hDa2, hcan⟩ := durable_run c _ steps2 hI1 hL1 hC1 hE1 Ta Na hDa
    obtain ⟨vs, hvs⟩ := hL2.leaderElected l nl hl hrole
    have hlog := hL2.leaderCanon l nl hl hrole
    have hpre := durable_prefix c _ hI2 hL2 hC2 hE2 hF2 Ta Na hDa2 nl.term l vs hvs (by omega)
    rw [hlog, htka]
    rw [take_of_take_eq _ _ Na a.commit hNa hpre]
    exact take_of_take_eq _ _ Na a.commit hNa hcan

/-- the commit rule: whenever any node's commit index is positive it lies inside a prefix
    acknowledged by a quorum whose last entry carries the acknowledging term -/
theorem commit_is_quorum_backed (c : Config) (steps : List Step) (i : Nat) (a : Node)
    (ha : (run c (initSys c) steps).nodes[i]? = some a) (hpos : 0 < a.commit) :
    ∃ T N, Durable c (run c (initSys c) steps) T N ∧ T ≤ a.term ∧ a.commit ≤ N ∧
      a.log.take a.commit = ((run c (initSys c) steps).canon T).take a.commit :=
  (reachable_invariants c steps).2.2.2.2.2.commitOk i a ha hpos

/-- the hypotheses of `state_machine_safety` are met by a reachable state: after this 9-step
    run of a 3-node cluster, nodes 0 and 1 have both committed position 0 -/
def demoSteps : List Step :=
  [.timeout 0, .deliver 0 true true true, .deliver 2 true true true, .propose 0 7 true,
   .replicate 0 1, .deliver 3 true true true, .deliver 4 true true true, .replicate 0 1,
   .deliver 5 true true true]

theorem state_machine_safety_nonvacuous :
    ((run { n := 3 } (initSys { n := 3 }) demoSteps).nodes.map (fun nd => (nd.commit, nd.log.length)))
      = [(1, 1), (1, 1), (0, 0)] := by decide +kernel

/-! ### Pre-fix handlers: concrete witnesses that the repaired facts were false. -/

/-- old follower with a stale 2-entry log acknowledges index 2 on an EMPTY heartbeat -/
theorem old_match_index_witness :
    (handleAppendEntriesOld { id := 2, term := 1, log := [⟨1, 101⟩, ⟨1, 102⟩] } 2 0 0 0 [] 0).2
      = .appendEntriesResp 2 true 2 2 := by decide

theorem new_match_index_on_same_input :
    (handleAppendEntries { id := 2, term := 1, log := [⟨1, 101⟩, ⟨1, 102⟩] } 2 0 0 0 [] 0).2
      = .appendEntriesResp 2 true 2 0 := by decide

/-! ### Non-vacuity -/
/-- a concrete 3-node run (timeout, vote request delivered, vote delivered) elects node 0:
    the hypotheses of `election_safety` / `leader_has_quorum` are satisfiable -/
example : ((run { n := 3 } (initSys { n := 3 })
    [.timeout 0, .deliver 0 true true true, .deliver 2 true true true]).nodes[0]?).map (·.role)
      = some Role.leader := by decide
example : (handleRequestVote { n := 3 } { id := 1 } 1 0 0 0 true true).2 = .requestVoteResp 1 true 1 := by decide
example : (handleAppendEntries { id := 1 } 1 0 0 0 [⟨1, 7⟩] 1).1.commit = 1 := by decide

end Neumann.Raft.Props
