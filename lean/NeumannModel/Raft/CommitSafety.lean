import NeumannModel.Raft.CommitStep
/-
  C01 — State Machine Safety: every positive commit index of every node, and every
  `leader_commit` carried by an AppendEntries, lies inside a DURABLE prefix (`Durable`: acknowledged
  by a quorum, last entry of the acknowledging term) that the node's log carries.  With Leader
  Completeness, two nodes' committed prefixes are then prefixes of one canonical log.
-/
namespace Neumann.Raft

structure GInv (c : Config) (s : Sys) : Prop where
  /-- a leader's `match_index` has one entry per peer and none for itself -/
  leaderShape : ∀ (i : Nat) (nd : Node), s.nodes[i]? = some nd → nd.role = .leader →
    (nd.matchIdx.map (·.1)).Nodup ∧ i ∉ nd.matchIdx.map (·.1) ∧ c.quorum ≤ nd.matchIdx.length + 1
  aerNotSelf : ∀ (src dst T : Nat) (sc : Bool) (f m : Nat),
    (src, dst, Msg.appendEntriesResp T sc f m) ∈ s.net → src ≠ dst
  commitOk : ∀ (i : Nat) (nd : Node), s.nodes[i]? = some nd → 0 < nd.commit →
    ∃ T N, Durable c s T N ∧ T ≤ nd.term ∧ nd.commit ≤ N ∧
      nd.log.take nd.commit = (s.canon T).take nd.commit
  aeCommitOk : ∀ (src dst T2 l pi pt : Nat) (es : List Entry) (lc : Nat),
    (src, dst, Msg.appendEntries T2 l pi pt es lc) ∈ s.net → 0 < lc →
    ∃ T N, Durable c s T N ∧ T ≤ T2 ∧ lc ≤ N ∧ (s.canon T2).take lc = (s.canon T).take lc

theorem ginv_init (c : Config) : GInv c (initSys c) := by
  have hget := getElem?_initSys c
  refine ⟨?_, nofun, ?_, nofun⟩
  · intro i nd h hr; rw [(hget i nd h).1] at hr; cases hr
  · intro i nd h hpos; rw [(hget i nd h).1] at hpos; cases hpos

theorem quorum_pos (c : Config) : 1 ≤ c.quorum := by unfold Config.quorum; omega

theorem durable_elected (c : Config) (s : Sys) (hC : CInv c s) (T N : Nat) (h : Durable c s T N) :
    TermElected s T := by
  obtain ⟨_, _, Q, _, hq, ha⟩ := h
  have hpos : 0 < Q.length := by have := quorum_pos c; omega
  cases Q with
  | nil => simp at hpos
  | cons f t => exact ackLike_elected c s hC T f N (ha f List.mem_cons_self)

theorem map_fst_pairs (ps : List Nat) : (ps.map (fun p => (p, 0))).map (·.1) = ps := by
  induction ps with
  | nil => rfl
  | cons p t ih => simp only [List.map_cons, ih]

namespace StepCtx
variable {c : Config} {s : Sys} {i : Nat} {nd nd' : Node} {g : Option Nat}
  {msgs : List (Nat × Nat × Msg)} (x : StepCtx c s i nd nd' g msgs)
include x

theorem ackLikeMono (T f k : Nat) (ha : AckLike s T f k) :
    AckLike (setNode s i nd' nd msgs) T f k := by
  have hT := ackLike_elected c s x.hC T f k ha
  rcases ha with ⟨src, dst, m, hm, hk⟩ | ⟨vs, hv, hk⟩
  · exact Or.inl ⟨src, dst, m, List.mem_append_left _ hm, hk⟩
  · right
    refine ⟨vs, elected_mono_setNode s i nd nd' msgs _ hv, ?_⟩
    obtain ⟨y, hy⟩ := x.canonExt T hT
    rw [hy, List.length_append]; omega

theorem durableMono (T N : Nat) (hD : Durable c s T N) :
    Durable c (setNode s i nd' nd msgs) T N := by
  have hT := durable_elected c s x.hC T N hD
  obtain ⟨h0, ⟨e, he, het⟩, Q, hQn, hQl, hQa⟩ := hD
  refine ⟨h0, ⟨e, ?_, het⟩, Q, hQn, hQl, fun f hf => x.ackLikeMono T f N (hQa f hf)⟩
  obtain ⟨y, hy⟩ := x.canonExt T hT
  rw [hy, List.getElem?_append_left (getElem?_lt _ _ e he)]
  exact he

theorem durableKeep (T N k : Nat) (log : List Entry) (hD : Durable c s T N) (hk : k ≤ N)
    (htk : log.take k = (s.canon T).take k) :
    Durable c (setNode s i nd' nd msgs) T N ∧
      log.take k = ((setNode s i nd' nd msgs).canon T).take k :=
  ⟨x.durableMono T N hD, by
    rw [htk, x.canonTake T k (durable_elected c s x.hC T N hD) (Nat.le_trans hk (durable_le c s T N hD))]⟩

theorem leaderShape (hG : GInv c s) (j : Nat) (ndj : Node)
    (hj : (setNode s i nd' nd msgs).nodes[j]? = some ndj) (hr : ndj.role = .leader) :
    (ndj.matchIdx.map (·.1)).Nodup ∧ j ∉ ndj.matchIdx.map (·.1) ∧
      c.quorum ≤ ndj.matchIdx.length + 1 := by
  rcases getElem?_set_cases x.hnd hj with ⟨rfl, rfl⟩ | ⟨hji, hj⟩
  · rcases x.hk with ⟨_, hq⟩ | ⟨_, _, _, _, hm⟩ | ⟨hr0, p, rfl⟩ | ⟨hr', _⟩
    · obtain ⟨hrl, _, hm⟩ := hq hr
      have hold := hG.leaderShape j nd x.hnd hrl
      rcases hm with hm | ⟨src, f, mi, hmsg, hm⟩ <;> rw [hm]
      · exact hold
      · -- an acknowledgement never comes from the leader itself
        refine ⟨alSet_nodup _ _ _ hold.1, fun h => ?_, ?_⟩
        · rcases alSet_keys _ _ _ _ h with h | h
          · exact hG.aerNotSelf src j _ _ _ _ hmsg h.symm
          · exact hold.2.1 h
        · have := alSet_length nd.matchIdx src mi; have := hold.2.2; omega
    · -- freshly elected: one entry for each of the `n - 1` peers
      rw [hm, map_fst_pairs, x.hI.ids j nd x.hnd]
      refine ⟨peers_nodup c j, peers_not_self c j, ?_⟩
      have := peers_length c.n j (x.hI.len ▸ getElem?_lt _ _ _ x.hnd)
      rw [List.length_map]
      unfold peers Config.quorum
      omega
    · exact hG.leaderShape j nd x.hnd hr0
    · exact nomatch hr'.symm.trans hr
  · exact hG.leaderShape j ndj hj hr

/-- **the commit rule**: the index a leader advances its commit index to is durable -/
theorem advance_durable (hG : GInv c s) (hl : nd'.role = .leader)
    (hta : termAt nd'.log nd'.commit = some nd'.term) (hq : nd'.commit = quorumIdx c nd') :
    Durable c (setNode s i nd' nd msgs) nd'.term nd'.commit := by
  have hnode' : (setNode s i nd' nd msgs).nodes[i]? = some nd' := by rw [x.get, if_pos rfl]
  have hlc := x.hL'.leaderCanon i nd' hnode' hl
  obtain ⟨hN0, e, he, het⟩ := termAt_some _ _ _ hta
  obtain ⟨hs1, hs2, hs3⟩ := x.leaderShape hG i nd' hnode' hl
  have hcnt : c.quorum ≤ cntGe (nd'.matchIdx.map (·.2) ++ [nd'.log.length]) nd'.commit := by
    have h1 := quorum_count (nd'.matchIdx.map (·.2) ++ [nd'.log.length]) c.quorum
      (quorum_pos c) (by simp only [List.length_append, List.length_map, List.length_singleton]; exact hs3)
    rw [hq]; exact h1
  obtain ⟨Q, hQn, hQl, hQa⟩ :=
    quorum_nodes nd'.matchIdx i nd'.log.length nd'.commit c.quorum hs1 hs2 hcnt
  obtain ⟨vs, hvs⟩ := x.hL'.leaderElected i nd' hnode' hl
  refine ⟨hN0, ⟨e, hlc ▸ he, het⟩, Q, hQn, hQl, fun f hf => ?_⟩
  rcases hQa f hf with ⟨rfl, hle⟩ | ⟨m, hm, hle⟩
  · exact Or.inr ⟨vs, hvs, hlc ▸ hle⟩
  · obtain ⟨dst, hmsg⟩ := x.hC'.matchSound i nd' hnode' hl f m
      (alGet_of_mem nd'.matchIdx hs1 f m hm) (by omega)
    exact Or.inl ⟨f, dst, m, hmsg, hle⟩

theorem ginv (hF : FInv c s) (hG : GInv c s) (hcf : CommitFact c s i nd nd')
    (hans : ∀ (src dst T : Nat) (sc : Bool) (f m : Nat),
      (src, dst, Msg.appendEntriesResp T sc f m) ∈ (setNode s i nd' nd msgs).net → src ≠ dst) :
    GInv c (setNode s i nd' nd msgs) := by
  refine ⟨x.leaderShape hG, hans, ?_, ?_⟩
  · -- commitOk
    intro j ndj hj hpos
    rcases getElem?_set_cases x.hnd hj with ⟨rfl, rfl⟩ | ⟨hji, hj⟩
    · rcases hcf with hq | h0 | ⟨_, hl', _, hta, hq⟩ | ⟨src, l, pi, pt, es, lc, hmsg, hok, hlog, hcm⟩
      · -- commit index unchanged: the durable prefix the old log carried is carried by the new log
        rw [hq] at hpos ⊢
        obtain ⟨T, N, hD, hT, hN, htk⟩ := hG.commitOk j nd x.hnd hpos
        have hklog : nd.commit ≤ nd.log.length :=
          le_length_of_take_eq _ _ _ (Nat.le_trans hN (durable_le c s T N hD)) htk
        obtain ⟨hD', htk'⟩ := x.durableKeep T N nd.commit nd'.log hD hN (by
          rw [x.hk.keeps_prefix x.hL x.hnd nd.commit hklog ?_, htk]
          -- an AppendEntries being accepted is of an elected term not below `T`: Leader Completeness
          intro src l pi pt es lc hmsg
          obtain ⟨_, _, ⟨vs2, hvs2⟩, _⟩ := x.hL.aeOk src j nd'.term l pi pt es lc hmsg
          rw [htk]
          exact (take_of_take_eq _ _ N nd.commit hN (durable_prefix c s x.hI x.hL x.hC x.hE hF T N hD
            nd'.term l vs2 hvs2 (Nat.le_trans hT x.ht.term_le))).symm)
        exact ⟨T, N, hD', Nat.le_trans hT x.ht.term_le, hN, htk'⟩
      · omega
      · have hnode' : (setNode s j nd' nd msgs).nodes[j]? = some nd' := by rw [x.get, if_pos rfl]
        exact ⟨nd'.term, nd'.commit, x.advance_durable hG hl' hta hq, Nat.le_refl _, Nat.le_refl _,
          by rw [x.hL'.leaderCanon j nd' hnode' hl']⟩
      · -- the follower took the leader's commit index, bounded by what this message covers
        have hc1 : nd'.commit ≤ lc := hcm ▸ Nat.min_le_left _ _
        have hc2 : nd'.commit ≤ pi + es.length :=
          hcm ▸ Nat.le_trans (Nat.min_le_right _ _) (Nat.min_le_left _ _)
        obtain ⟨T, N, hD, hT, hN, htk⟩ := hG.aeCommitOk src j nd'.term l pi pt es lc hmsg
          (Nat.lt_of_lt_of_le hpos hc1)
        have hp := accept_prefix c s x.hL j nd x.hnd src nd'.term l pi pt es lc hmsg hok
        rw [← hlog] at hp
        obtain ⟨hD', htk'⟩ := x.durableKeep T N nd'.commit nd'.log hD (Nat.le_trans hc1 hN)
          ((take_of_take_eq _ _ _ _ hc2 hp).trans (take_of_take_eq _ _ _ _ hc1 htk))
        exact ⟨T, N, hD', hT, Nat.le_trans hc1 hN, htk'⟩
    · obtain ⟨T, N, hD, hT, hN, htk⟩ := hG.commitOk j ndj hj hpos
      obtain ⟨hD', htk'⟩ := x.durableKeep T N ndj.commit ndj.log hD hN htk
      exact ⟨T, N, hD', hT, hN, htk'⟩
  · -- aeCommitOk
    intro src dst T2 l pi pt es lc hm hpos
    rcases List.mem_append.mp hm with h | h
    · obtain ⟨T, N, hD, hT, hN, htk⟩ := hG.aeCommitOk src dst T2 l pi pt es lc h hpos
      obtain ⟨_, _, ⟨vs2, hvs2⟩, _⟩ := x.hL.aeOk src dst T2 l pi pt es lc h
      obtain ⟨hD', htk'⟩ := x.durableKeep T N lc _ hD hN htk
      refine ⟨T, N, hD', hT, hN, ?_⟩
      rw [x.canonTake T2 lc ⟨l, vs2, hvs2⟩ (le_length_of_take_eq _ _ _
        (Nat.le_trans hN (durable_le c s T N hD)) htk)]
      exact htk'
    · exact absurd rfl (x.hno _ _ _ h T2 l pi pt es lc)

end StepCtx

theorem durable_net_mono (c : Config) (s : Sys) (extra : List (Nat × Nat × Msg)) (T N : Nat)
    (hD : Durable c s T N) : Durable c { s with net := s.net ++ extra } T N := by
  obtain ⟨h0, he, Q, hQn, hQl, hQa⟩ := hD
  refine ⟨h0, he, Q, hQn, hQl, fun f hf => ?_⟩
  rcases hQa f hf with ⟨src, dst, m, hm, hk⟩ | h
  · exact Or.inl ⟨src, dst, m, List.mem_append_left _ hm, hk⟩
  · exact Or.inr h

theorem ginv_step (c : Config) (s : Sys) (st : Step) (hI : Inv c s) (hL : LMInv c s)
    (hC : CInv c s) (hE : EInv c s) (hF : FInv c s) (hG : GInv c s) : GInv c (sysStep c s st) := by
  apply sysStep_ctx c s st hI hL hC hE (GInv c) hG
  · intro i nd nd' g msgs x y
    refine x.ginv hF hG y.commit ?_
    -- a new acknowledgement travels back along the AppendEntries it answers
    intro src dst T sc f m h
    rcases List.mem_append.mp h with h | h
    · exact hG.aerNotSelf _ _ _ _ _ _ h
    · obtain ⟨rfl, _, _, t, l, pi, pt, es, lc, hin, _⟩ := y.msgs src dst _ h
      exact (hL.aeOk dst src t l pi pt es lc hin).2.1
  · intro i j nd pi pt es hnd hrl
    refine ⟨hG.leaderShape, ?_, ?_, ?_⟩
    · intro src dst T sc f m h
      rcases List.mem_append.mp h with h | h
      · exact hG.aerNotSelf _ _ _ _ _ _ h
      · simp at h
    · intro k ndk hk hpos
      obtain ⟨T, N, hD, hT, hN, htk⟩ := hG.commitOk k ndk hk hpos
      exact ⟨T, N, durable_net_mono c s _ T N hD, hT, hN, htk⟩
    · intro src dst T2 l pi' pt' es' lc hm hpos
      rcases List.mem_append.mp hm with h | h
      · obtain ⟨T, N, hD, hT, hN, htk⟩ := hG.aeCommitOk src dst T2 l pi' pt' es' lc h hpos
        exact ⟨T, N, durable_net_mono c s _ T N hD, hT, hN, htk⟩
      · -- the leader's commit index travels with its own log, the canonical log of its term
        simp only [List.mem_singleton, Prod.mk.injEq, Msg.appendEntries.injEq] at h
        obtain ⟨_, _, rfl, _, _, _, _, rfl⟩ := h
        obtain ⟨T, N, hD, hT, hN, htk⟩ := hG.commitOk i nd hnd hpos
        exact ⟨T, N, durable_net_mono c s _ T N hD, hT, hN, hL.leaderCanon i nd hnd hrl ▸ htk⟩

def Invs (c : Config) (s : Sys) : Prop :=
  Inv c s ∧ LMInv c s ∧ CInv c s ∧ EInv c s ∧ FInv c s ∧ GInv c s

theorem invs_init (c : Config) : Invs c (initSys c) :=
  ⟨inv_init c, lm_init c, cinv_init c, einv_init c, finv_init c, ginv_init c⟩

theorem invs_step (c : Config) (s : Sys) (st : Step) : Invs c s → Invs c (sysStep c s st) :=
  fun ⟨hI, hL, hC, hE, hF, hG⟩ =>
    ⟨inv_step c s st hI, lm_step c s st hI hL, cinv_step c s st hI hL hC, einv_step c s st hI hL hC hE,
      finv_step c s st hI hL hC hE hF, ginv_step c s st hI hL hC hE hF hG⟩

theorem invs_run (c : Config) (s : Sys) (steps : List Step) (h : Invs c s) : Invs c (run c s steps) := by
  induction steps generalizing s with
  | nil => exact h
  | cons st rest ih => exact ih (sysStep c s st) (invs_step c s st h)

/-- two logs whose first `ca` / `cb` entries are prefixes of durable canonical prefixes agree
    below both bounds (and hold an entry there) -/
theorem prefix_agree (c : Config) (s : Sys) (hI : Inv c s) (hL : LMInv c s)
    (hC : CInv c s) (hE : EInv c s) (hF : FInv c s)
    (la lb : List Entry) (ca cb k : Nat) (hka : k < ca) (hkb : k < cb)
    (Ta Na Tb Nb : Nat) (hDa : Durable c s Ta Na) (hDb : Durable c s Tb Nb)
    (hNa : ca ≤ Na) (hNb : cb ≤ Nb)
    (htka : la.take ca = (s.canon Ta).take ca) (htkb : lb.take cb = (s.canon Tb).take cb) :
    la[k]? = lb[k]? ∧ ∃ e, la[k]? = some e := by
  have aux : ∀ (la lb : List Entry) (ca cb : Nat), k < ca → k < cb →
      ∀ Ta Na Tb Nb, Durable c s Ta Na → Durable c s Tb Nb → ca ≤ Na → cb ≤ Nb →
        la.take ca = (s.canon Ta).take ca → lb.take cb = (s.canon Tb).take cb → Ta ≤ Tb →
        la[k]? = lb[k]? ∧ ∃ e, la[k]? = some e := by
    intro la lb ca cb hka hkb Ta Na Tb Nb hDa hDb hNa hNb htka htkb hle
    have hNale := durable_le c s Ta Na hDa
    have h1 : la[k]? = (s.canon Ta)[k]? := getElem?_of_take_eq _ _ _ k hka htka
    have h2 : lb[k]? = (s.canon Tb)[k]? := getElem?_of_take_eq _ _ _ k hkb htkb
    have h3 : (s.canon Tb)[k]? = (s.canon Ta)[k]? := by
      obtain ⟨j, vs, hel⟩ := durable_elected c s hC Tb Nb hDb
      exact getElem?_of_take_eq _ _ Na k (by omega)
        (durable_prefix c s hI hL hC hE hF Ta Na hDa Tb j vs hel hle)
    refine ⟨by rw [h1, h2, h3], ?_⟩
    rw [h1]
    have hlt : k < (s.canon Ta).length := by omega
    exact ⟨(s.canon Ta)[k], List.getElem?_eq_getElem hlt⟩
  rcases Nat.le_total Ta Tb with hle | hle
  · exact aux la lb ca cb hka hkb Ta Na Tb Nb hDa hDb hNa hNb htka htkb hle
  · obtain ⟨h1, e, he⟩ := aux lb la cb ca hkb hka Tb Nb Ta Na hDb hDa hNb hNa htkb htka hle
    exact ⟨h1.symm, e, by rw [← h1]; exact he⟩

/-- **State Machine Safety from the invariants**: below both commit indexes, two nodes hold
    the same entry (and do hold one) -/
theorem state_machine_safety_of_inv (c : Config) (s : Sys) (hI : Inv c s) (hL : LMInv c s)
    (hC : CInv c s) (hE : EInv c s) (hF : FInv c s) (hG : GInv c s)
    (a b : Nat) (na nb : Node) (ha : s.nodes[a]? = some na) (hb : s.nodes[b]? = some nb)
    (k : Nat) (hka : k < na.commit) (hkb : k < nb.commit) :
    na.log[k]? = nb.log[k]? ∧ ∃ e, na.log[k]? = some e := by
  obtain ⟨Ta, Na, hDa, _, hNa, htka⟩ := hG.commitOk a na ha (by omega)
  obtain ⟨Tb, Nb, hDb, _, hNb, htkb⟩ := hG.commitOk b nb hb (by omega)
  exact prefix_agree c s hI hL hC hE hF na.log nb.log na.commit nb.commit k hka hkb
    Ta Na Tb Nb hDa hDb hNa hNb htka htkb

/-- a durable prefix stays durable, and stays the same entries, across one step -/
theorem durable_step (c : Config) (s : Sys) (st : Step) (hI : Inv c s) (hL : LMInv c s)
    (hC : CInv c s) (hE : EInv c s) (T N : Nat) (hD : Durable c s T N) :
    Durable c (sysStep c s st) T N ∧ ((sysStep c s st).canon T).take N = (s.canon T).take N := by
  apply sysStep_ctx c s st hI hL hC hE
    (fun s' => Durable c s' T N ∧ (s'.canon T).take N = (s.canon T).take N) ⟨hD, rfl⟩
  · exact fun i nd nd' g msgs x _ => ⟨x.durableMono T N hD,
      x.canonTake T N (durable_elected c s hC T N hD) (durable_le c s T N hD)⟩
  · exact fun i j nd pi pt es _ _ => ⟨durable_net_mono c s _ T N hD, rfl⟩

theorem run_append (c : Config) (s : Sys) (a b : List Step) :
    run c s (a ++ b) = run c (run c s a) b := by
  unfold run; rw [List.foldl_append]

theorem durable_run (c : Config) (s : Sys) (steps : List Step) (hI : Inv c s) (hL : LMInv c s)
    (hC : CInv c s) (hE : EInv c s) (T N : Nat) (hD : Durable c s T N) :
    Durable c (run c s steps) T N ∧ ((run c s steps).canon T).take N = (s.canon T).take N := by
  induction steps generalizing s with
  | nil => exact ⟨hD, rfl⟩
  | cons st rest ih =>
    obtain ⟨hD1, h1⟩ := durable_step c s st hI hL hC hE T N hD
    obtain ⟨hD2, h2⟩ := ih (sysStep c s st) (inv_step c s st hI) (lm_step c s st hI hL)
      (cinv_step c s st hI hL hC) (einv_step c s st hI hL hC hE) hD1
    exact ⟨hD2, by rw [← h1]; exact h2⟩

end Neumann.Raft
