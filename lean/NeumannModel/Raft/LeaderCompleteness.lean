import NeumannModel.Raft.Complete2
/-
  C01 — Leader Completeness, derived from the invariants of `Complete2.lean`:
  once the first `N` entries of term `T`'s log are acknowledged by a quorum and entry `N` is of
  term `T`, every election ever won in a later term started from a log with those entries.
-/
namespace Neumann.Raft

theorem lastTerm_nil : lastTerm ([] : List Entry) = 0 := rfl

theorem lastTerm_spec (l : List Entry) (h : l ≠ []) :
    ∃ e, l[l.length - 1]? = some e ∧ lastTerm l = e.term := by
  unfold lastTerm
  have hlast := List.getLast?_eq_getElem? (l := l)
  cases hg : l.getLast? with
  | none =>
    rw [List.getLast?_eq_none_iff] at hg
    exact absurd hg h
  | some e =>
    refine ⟨e, ?_, rfl⟩
    rw [← hlast, hg]

/-- a canonical log is a prefix of the canonical log of its last term -/
theorem canon_is_prefix (cn : Nat → List Entry) (l : List Entry) (hc : Canon cn l) (h : l ≠ []) :
    l = (cn (lastTerm l)).take l.length := by
  obtain ⟨e, he, ht⟩ := lastTerm_spec l h
  have := hc (l.length - 1) e he
  have hpos : 0 < l.length := List.length_pos_iff.mpr h
  rw [show l.length - 1 + 1 = l.length by omega, List.take_of_length_le (Nat.le_refl _)] at this
  rw [ht]; exact this

/-- the first `N` entries of term `T`'s log are acknowledged by a quorum, entry `N` is of term `T` -/
def Durable (c : Config) (s : Sys) (T N : Nat) : Prop :=
  0 < N ∧ (∃ e, (s.canon T)[N - 1]? = some e ∧ e.term = T) ∧
  ∃ Q : List Nat, Q.Nodup ∧ c.quorum ≤ Q.length ∧ ∀ f ∈ Q, AckLike s T f N

theorem durable_le (c : Config) (s : Sys) (T N : Nat) (h : Durable c s T N) :
    N ≤ (s.canon T).length := by
  obtain ⟨h0, ⟨e, he, _⟩, _⟩ := h
  have := getElem?_lt _ _ e he; omega

theorem canon_entry_cases (c : Config) (s : Sys) (hE : EInv c s) (l : List Entry)
    (hc : Canon s.canon l) (hne : l ≠ []) (hel : TermElected s (lastTerm l)) (p : Nat) (e : Entry)
    (hp : l[p]? = some e) :
    (e.term < lastTerm l ∧ p < (s.elog (lastTerm l)).length) ∨
    (e.term = lastTerm l ∧ (s.elog (lastTerm l)).length ≤ p) := by
  obtain ⟨j, vs, hj⟩ := hel
  have hEl := hE.elogOk _ j vs hj
  obtain ⟨y, hy, hyt⟩ := hEl.ext
  have hin : (s.canon (lastTerm l))[p]? = some e := by
    have hlt := getElem?_lt l p e hp
    rw [canon_is_prefix s.canon l hc hne, List.getElem?_take, if_pos hlt] at hp
    exact hp
  rw [hy] at hin
  rcases Nat.lt_or_ge p (s.elog (lastTerm l)).length with h | h
  · rw [List.getElem?_append_left h] at hin
    exact Or.inl ⟨hEl.old e (List.mem_of_getElem? hin), h⟩
  · rw [List.getElem?_append_right h] at hin
    exact Or.inr ⟨hyt e (List.mem_of_getElem? hin), h⟩

theorem elog_canon (c : Config) (s : Sys) (hL : LMInv c s) (hE : EInv c s) (U j : Nat) (vs : List Nat)
    (hel : (U, j, vs) ∈ s.elected) : Canon s.canon (s.elog U) := by
  obtain ⟨y, hy, _⟩ := (hE.elogOk U j vs hel).ext
  have := canon_take s.canon (s.canon U) (s.elog U).length (hL.canonCanon U)
  rwa [hy, List.take_left' rfl] at this

theorem ack_voter_intersect (c : Config) (s : Sys) (hI : Inv c s) (hL : LMInv c s) (hC : CInv c s)
    (T N : Nat) (Q : List Nat) (hQn : Q.Nodup) (hQq : c.quorum ≤ Q.length)
    (hQa : ∀ f ∈ Q, AckLike s T f N) (U j : Nat) (vs : List Nat) (hel : (U, j, vs) ∈ s.elected) :
    ∃ f, f ∈ Q ∧ f ∈ vs := by
  obtain ⟨hvn, hvq, hvg⟩ := hL.electedOk U j vs hel
  refine nodup_lists_intersect c.n Q vs hQn hvn (fun f hf => ?_) (fun v hv => ?_)
    (by unfold Config.quorum at *; omega)
  · obtain ⟨ndf, hndf, _⟩ := ackLike_term c s hL hC T f N (hQa f hf)
    exact hI.len ▸ getElem?_lt _ _ _ hndf
  · obtain ⟨ndv, hndv, _, _⟩ := hI.ghostNode v U j (hvg v hv)
    exact hI.len ▸ getElem?_lt _ _ _ hndv

/-- **Leader Completeness on the invariants.**  By strong induction on the later term `U`: a voter
    `f` of `U`'s winner also acknowledged `(T, N)`; when it voted its log carried the `N` entries
    (`FInv.core`; an `Excuse` would be an earlier winner without them, which the induction
    hypothesis rules out); the winner's log was at least as up to date as the voter's, so its last
    term is `T` (then it is a prefix of `T`'s log, and no shorter than the voter's) or a later
    elected term below `U` (then it extends what that term's winner started from, which has the
    entries by the induction hypothesis). -/
theorem leader_completeness_of_inv (c : Config) (s : Sys) (hI : Inv c s) (hL : LMInv c s)
    (hC : CInv c s) (hE : EInv c s) (hF : FInv c s) (T N : Nat) (hD : Durable c s T N) :
    ∀ (U j : Nat) (vs : List Nat), (U, j, vs) ∈ s.elected → T < U →
      (s.elog U).take N = (s.canon T).take N := by
  have hNle := durable_le c s T N hD
  obtain ⟨hN0, ⟨eN, heN, heNt⟩, Q, hQn, hQq, hQa⟩ := hD
  intro U
  induction U using Nat.strongRecOn with
  | _ U ih =>
    intro j vs hel hTU
    obtain ⟨f, hfQ, hfv⟩ := ack_voter_intersect c s hI hL hC T N Q hQn hQq hQa U j vs hel
    obtain ⟨vlog, hrec⟩ := hE.electedVoters U j vs hel f hfv
    have hup := hF.voteUpToDate f U j vlog false hrec
    rw [← hF.electedStart U j vs hel] at hup
    have hvpre : vlog.take N = (s.canon T).take N := by
      rcases hF.core f U j vlog T N hrec (hQa f hfQ) hTU hN0 with h | ⟨U', j', vs', hU', h1, h2, h3⟩
      · exact h
      · exact absurd (ih U' h2 j' vs' hU' h1) h3
    have hvlen : N ≤ vlog.length := le_length_of_take_eq _ _ _ hNle hvpre
    have hvN : vlog[N - 1]? = some eN :=
      (getElem?_of_take_eq _ _ N (N - 1) (by omega) hvpre).trans heN
    obtain ⟨hvcanon, hvel⟩ := hE.vlogCanon f U j vlog false hrec
    have hvne : vlog ≠ [] := fun h => by rw [h] at hvlen; exact absurd hvlen (by simp; omega)
    have hTlt : T ≤ lastTerm vlog := by
      obtain ⟨el, hel', hlt⟩ := lastTerm_spec vlog hvne
      rcases canon_entry_cases c s hE vlog hvcanon hvne (hlt ▸ hvel el (List.mem_of_getElem? hel'))
        (N - 1) eN hvN with h | h <;> omega
    have hEU := hE.elogOk U j vs hel
    have hEcanon := elog_canon c s hL hE U j vs hel
    have hT1 : 1 ≤ T := by
      obtain ⟨jT, vsT, hjT⟩ := ackLike_elected c s hC T f N (hQa f hfQ)
      exact (hE.elogOk T jT vsT hjT).pos
    unfold UpToDate at hup
    have hEne : s.elog U ≠ [] := by
      intro h
      rw [h, lastTerm_nil] at hup
      rcases hup with h1 | ⟨h1, _⟩ <;> omega
    obtain ⟨eE, heE, hltE⟩ := lastTerm_spec (s.elog U) hEne
    have hEpre := canon_is_prefix s.canon (s.elog U) hEcanon hEne
    have hp : 0 < (s.elog U).length := List.length_pos_iff.mpr hEne
    rcases Nat.lt_or_ge T (lastTerm (s.elog U)) with hgt | hle
    · have hT'U : lastTerm (s.elog U) < U := hltE ▸ hEU.old eE (List.mem_of_getElem? heE)
      obtain ⟨yU, hyU, _⟩ := hEU.ext
      have hT'el : TermElected s (lastTerm (s.elog U)) :=
        hltE ▸ hL.canonEntries U eE (hyU ▸ List.mem_append_left _ (List.mem_of_getElem? heE))
      obtain ⟨j', vs', hj'⟩ := hT'el
      have hih := ih _ hT'U j' vs' hj' hgt
      obtain ⟨y', hy', _⟩ := (hE.elogOk _ j' vs' hj').ext
      have hNel : N ≤ (s.elog (lastTerm (s.elog U))).length := le_length_of_take_eq _ _ _ hNle hih
      have hpos : (s.elog (lastTerm (s.elog U))).length ≤ (s.elog U).length - 1 := by
        rcases canon_entry_cases c s hE (s.elog U) hEcanon hEne ⟨j', vs', hj'⟩ _ eE heE with h | h
        · omega
        · exact h.2
      rw [hEpre, List.take_take, Nat.min_eq_left (by omega), hy',
        List.take_append_of_le_length hNel]
      exact hih
    · have hltEq : lastTerm (s.elog U) = T := by rcases hup with h1 | ⟨h1, _⟩ <;> omega
      have hlen : vlog.length ≤ (s.elog U).length := by rcases hup with h1 | ⟨_, h2⟩ <;> omega
      rw [hEpre, hltEq, List.take_take, Nat.min_eq_left (by omega)]

/-- Leader Completeness for `canon` instead of `elog` -/
theorem durable_prefix (c : Config) (s : Sys) (hI : Inv c s) (hL : LMInv c s)
    (hC : CInv c s) (hE : EInv c s) (hF : FInv c s) (T N : Nat) (hD : Durable c s T N)
    (U j : Nat) (vs : List Nat) (hel : (U, j, vs) ∈ s.elected) (hTU : T ≤ U) :
    (s.canon U).take N = (s.canon T).take N := by
  rcases Nat.eq_or_lt_of_le hTU with rfl | hlt
  · rfl
  · have hlc := leader_completeness_of_inv c s hI hL hC hE hF T N hD U j vs hel hlt
    obtain ⟨y, hy, _⟩ := (hE.elogOk U j vs hel).ext
    rw [hy, List.take_append_of_le_length (le_length_of_take_eq _ _ _ (durable_le c s T N hD) hlc)]
    exact hlc

end Neumann.Raft
