import NeumannModel.Raft.Commit
/-
  C01 — Leader Completeness, part 1: bookkeeping invariants about election logs and the
  snapshot of each voter's log at the moment it recorded its vote (ghost `elog`, `voteLogs`).
-/
namespace Neumann.Raft

/-- the winner of term `U` started from `elog U`, whose entries are older than `U`, and has
    only appended entries of term `U` since -/
structure ElogOk (s : Sys) (U : Nat) : Prop where
  pos : 1 ≤ U
  ext : ∃ x, s.canon U = s.elog U ++ x ∧ ∀ e ∈ x, e.term = U
  old : ∀ e ∈ s.elog U, e.term < U

structure EInv (c : Config) (s : Sys) : Prop where
  elogOk : ∀ (U j : Nat) (vs : List Nat), (U, j, vs) ∈ s.elected → ElogOk s U
  /-- a candidate's log holds no entry of its own term, and its term is positive -/
  candFresh : ∀ (i : Nat) (nd : Node), s.nodes[i]? = some nd → nd.role = .candidate →
    1 ≤ nd.term ∧ ∀ e ∈ nd.log, e.term < nd.term
  vlogCanon : ∀ (v U cd : Nat) (vlog : List Entry) (fl : Bool),
    (v, U, cd, vlog, fl) ∈ s.voteLogs →
      Canon s.canon vlog ∧ ∀ e ∈ vlog, TermElected s e.term
  ghostToVoteLog : ∀ (v t cd : Nat), (v, t, cd) ∈ s.ghost →
    ∃ vlog fl, (v, t, cd, vlog, fl) ∈ s.voteLogs
  flagTrue : ∀ (v U cd : Nat) (vlog : List Entry),
    (v, U, cd, vlog, true) ∈ s.voteLogs → TermElected s U
  electedVoters : ∀ (T i : Nat) (vs : List Nat), (T, i, vs) ∈ s.elected →
    ∀ v ∈ vs, ∃ vlog, (v, T, i, vlog, false) ∈ s.voteLogs

theorem any_elected_iff (s : Sys) (t : Nat) :
    s.elected.any (fun y => y.1 == t) = true ↔ TermElected s t := by
  unfold TermElected
  rw [List.any_eq_true]
  constructor
  · rintro ⟨⟨a, j, vs⟩, hmem, heq⟩
    simp only [beq_iff_eq] at heq
    exact ⟨j, vs, heq ▸ hmem⟩
  · rintro ⟨j, vs, h⟩
    exact ⟨(t, j, vs), h, by simp⟩

theorem einv_init (c : Config) : EInv c (initSys c) := by
  refine ⟨nofun, ?_, nofun, nofun, nofun, nofun⟩
  intro i nd h hr; rw [(getElem?_initSys c i nd h).1] at hr; cases hr

theorem einv_setNode (c : Config) (s : Sys) (i : Nat) (nd nd' : Node) (g : Option Nat)
    (msgs : List (Nat × Nat × Msg)) (hL : LMInv c s) (hC : CInv c s) (hE : EInv c s)
    (hI' : Inv c (setNode s i nd' nd msgs)) (hnd : s.nodes[i]? = some nd)
    (x : NodeStep c s i nd nd' g msgs) : EInv c (setNode s i nd' nd msgs) := by
  have ht := x.trans
  have hk := x.kind
  have hvf := x.elect
  have hget := fun j => getElem?_setNode s i j nd nd' msgs hnd
  have hTE : ∀ t, TermElected s t → TermElected (setNode s i nd' nd msgs) t :=
    fun _ h => h.setNode i nd nd' msgs
  have hext := canon_setNode_ext c s i nd nd' msgs hL hI' hnd hk
  have hcanonmono : ∀ l, Canon s.canon l → (∀ e ∈ l, TermElected s e.term) →
      Canon (setNode s i nd' nd msgs).canon l :=
    fun l hl hel => canon_mono _ _ l hl (fun e he => (hext e.term (hel e he)).imp fun _ h => h.1)
  have hflag : ∀ v U cd vlog, (v, U, cd, vlog, true) ∈ (setNode s i nd' nd msgs).voteLogs →
      TermElected (setNode s i nd' nd msgs) U := by
    intro v U cd vlog h
    rcases List.mem_append.mp h with h | h
    · exact hTE _ (hE.flagTrue v U cd vlog h)
    · obtain ⟨_, rfl, _, _, hfl, _⟩ := mem_voteLogOf.mp h
      exact hTE _ ((any_elected_iff s nd'.term).mp hfl.symm)
  have hg2v : ∀ v t cd, (v, t, cd) ∈ (setNode s i nd' nd msgs).ghost →
      ∃ vlog fl, (v, t, cd, vlog, fl) ∈ (setNode s i nd' nd msgs).voteLogs := by
    intro v t cd h
    simp only [setNode, List.mem_append] at h
    rcases h with h | h
    · obtain ⟨vlog, fl, hr⟩ := hE.ghostToVoteLog v t cd h
      exact ⟨vlog, fl, List.mem_append_left _ hr⟩
    · obtain ⟨rfl, rfl, hvf', hne⟩ := mem_ghostOf.mp h
      exact ⟨nd.log, _, List.mem_append_right _ (mem_voteLogOf.mpr ⟨rfl, rfl, hvf', rfl, rfl, hne⟩)⟩
  refine ⟨?_, ?_, ?_, hg2v, hflag, ?_⟩
  · -- elogOk
    intro U j vs hU
    rcases (mem_elected_setNode s i nd nd' msgs U j vs).mp hU with hU | ⟨hnl, hl, rfl, rfl, rfl⟩
    · -- an earlier winner keeps its election log; its canonical log grows by entries of its term
      have hold := hE.elogOk U j vs hU
      obtain ⟨x, hx, hxt⟩ := hold.ext
      obtain ⟨y, hy, hyt⟩ := hext U ⟨j, vs, hU⟩
      have he := elog_stable c s i nd nd' msgs hL hI' hnd hk U ⟨j, vs, hU⟩
      exact ⟨hold.pos, ⟨x ++ y, by rw [hy, hx, he, List.append_assoc],
        fun e h => (List.mem_append.mp h).elim (hxt e) (hyt e)⟩, he ▸ hold.old⟩
    · -- the election won in this step: a candidate of this term, whose log is older than the term
      obtain ⟨hrc, hterm, hlog⟩ := hk.won hnl hl
      have hcf := hE.candFresh j nd hnd hrc
      have he : (setNode s j nd' nd msgs).elog nd'.term = nd'.log := by
        rw [elog_setNode, if_pos ⟨⟨hnl, hl⟩, rfl⟩]
      have hc : (setNode s j nd' nd msgs).canon nd'.term = nd'.log := by
        rw [canon_setNode, if_pos ⟨hl, rfl⟩]
      exact ⟨hterm ▸ hcf.1, ⟨[], by rw [hc, he, List.append_nil], nofun⟩,
        by rw [he, hlog, hterm]; exact hcf.2⟩
  · -- candFresh
    intro j ndj hj hrc
    rcases getElem?_set_cases hnd hj with ⟨hji, rfl⟩ | ⟨hji, hj⟩
    · -- a candidate's step keeps the log
      have hlog : nd'.log = nd.log := by
        rcases hk with ⟨hlog, _⟩ | ⟨_, hl, _⟩ | ⟨hr, p, hp⟩ | ⟨hr', _⟩
        · exact hlog
        · rw [hl] at hrc; cases hrc
        · subst hp; have : nd.role = .candidate := hrc; rw [hr] at this; cases this
        · rw [hr'] at hrc; cases hrc
      rcases ht.shape with sh | sh | sh | sh
      · rw [sh] at hrc; cases hrc
      · have hr0 : nd.role = .candidate := by rw [← sh.1]; exact hrc
        have := hE.candFresh i nd hnd hr0
        rw [sh.2.1, hlog]; exact this
      · refine ⟨by have := sh.2.2.2; omega, ?_⟩
        intro e he
        rw [hlog] at he
        have := hC.nodeTermBound i nd hnd e he
        have := sh.2.2.2; omega
      · have := hE.candFresh i nd hnd sh.1
        rw [sh.2.1, hlog]; exact this
    · exact hE.candFresh j ndj hj hrc
  · -- vlogCanon
    intro v U cd vlog fl h
    rcases List.mem_append.mp h with h | h
    · obtain ⟨h1, h2⟩ := hE.vlogCanon v U cd vlog fl h
      exact ⟨hcanonmono vlog h1 h2, fun e he => hTE _ (h2 e he)⟩
    · obtain ⟨_, _, _, rfl, _, _⟩ := mem_voteLogOf.mp h
      exact ⟨hcanonmono _ (hL.nodeCanon i nd hnd) (hL.nodeEntries i nd hnd),
        fun e he => hTE _ (hL.nodeEntries i nd hnd e he)⟩
  · -- electedVoters
    intro T j vs hT v hv
    rcases (mem_elected_setNode s i nd nd' msgs T j vs).mp hT with hT | ⟨hnl, hl, rfl, rfl, rfl⟩
    · obtain ⟨vlog, hr⟩ := hE.electedVoters T j vs hT v hv
      exact ⟨vlog, List.mem_append_left _ hr⟩
    · -- the new leader: its voters' records all predate this step and carry `false`
      obtain ⟨hrc, hterm, _⟩ := hk.won hnl hl
      have hNoT := no_prior_election c s j nd nd' msgs hL hI' hnd hrc hl hterm
      have hnode' : (setNode s j nd' nd msgs).nodes[j]? = some nd' := by rw [hget, if_pos rfl]
      have hq := hI'.votesOk j nd' hnode' (by rw [hl]; exact nofun)
      obtain ⟨vlog, fl, hrec⟩ := hg2v v nd'.term j (hq.1 v hv)
      -- no record is created in this step
      have hnone : voteLogOf s j nd nd' = [] := if_pos ⟨hterm, hvf hrc hl⟩
      have hrec : (v, nd'.term, j, vlog, fl) ∈ s.voteLogs ++ voteLogOf s j nd nd' := hrec
      rw [hnone, List.append_nil] at hrec
      cases fl with
      | false => exact ⟨vlog, List.mem_append_left _ hrec⟩
      | true => exact absurd (hterm ▸ hE.flagTrue v nd'.term j vlog hrec) hNoT

theorem einv_step (c : Config) (s : Sys) (st : Step) (hI : Inv c s) (hL : LMInv c s)
    (hC : CInv c s) (hE : EInv c s) : EInv c (sysStep c s st) := by
  apply sysStep_cases c s st hI.ids (fun s' => Inv c s' → EInv c s') _ _ _ (inv_step c s st hI)
  · exact fun _ => hE
  · intro i nd nd' g msgs hnd x _ hI'
    exact einv_setNode c s i nd nd' g msgs hL hC hE hI' hnd x
  · intro i j nd pi pt es _ _ _ _ _ _
    exact ⟨fun U j' vs h => ⟨(hE.elogOk U j' vs h).pos, (hE.elogOk U j' vs h).ext, (hE.elogOk U j' vs h).old⟩,
      hE.candFresh, hE.vlogCanon, hE.ghostToVoteLog, hE.flagTrue, hE.electedVoters⟩

end Neumann.Raft
