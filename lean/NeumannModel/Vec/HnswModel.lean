import NeumannModel.Vec.Model
/-
  C06 — model of `tensor_store::HNSWIndex` (tensor_store/src/hnsw.rs): graph construction
  (`try_insert_embedding`, :1936) and the layered greedy search (`search_with_ef` :2069,
  `search_layer_greedy` :2170, `search_layer` :2276), including the two `std` binary heaps the
  layer search keeps (`alloc::collections::BinaryHeap::{push,pop}` with their `sift_up` /
  `sift_down_to_bottom`, because the order in which equal distances leave a heap decides which
  nodes are explored and returned).

  Import-free (core Lean + the import-free `Vec.Model` for `sortBy`), total, computable.

  Distances are abstract: every function takes the distance as a FUNCTION into `Nat`
  (`dist : node id → key` for a query, `pd : id → id → key` between stored vectors).  The keys
  stand for the `f32` distances the real code computes (`EmbeddingStorage::distance_dense`,
  `distance_embeddings`); the correspondence harness obtains them from the real code's public
  distance functions and maps them order-isomorphically to `Nat` (never NaN on its inputs), so
  the model makes exactly the comparisons the code makes, whatever the rounding.  The theorems
  hold for EVERY distance function, level sequence and configuration.

  The level of a new node (`random_level`, an xorshift PRNG seeded with 42 pushed through
  `floor(-ln(u)·ml)`) is an INPUT of `insert`: the theorems quantify over all level sequences.
-/
namespace Neumann.Vec.Hnsw
open Neumann.Vec

/-! ## 1. `BinaryHeap<T>`: `data: Vec<T>`, max-heap for `le a b` = Rust `a <= b` -/

/-- `Hole::move_to` pairs are modelled as swaps: sifting with a hole and sifting by swaps leave
    the same vector (the element in the hole is the one that would be swapped along) -/
def swap {α : Type} (l : List α) (i j : Nat) : List α :=
  if h : i < l.length ∧ j < l.length then (l.set i l[j]).set j l[i] else l

/-- `sift_up(0, pos)`: `while pos > 0 { parent = (pos-1)/2; if elt <= data[parent] {break}; move }`.
    Structural on a fuel that is never exhausted: the position strictly decreases and the
    function is started with `pos + 1` (`loop_fuels_are_adequate`). -/
def siftUpF {α : Type} (le : α → α → Bool) : Nat → List α → Nat → List α
  | 0, l, _ => l
  | fuel + 1, l, pos =>
    if pos = 0 then l
    else if h : pos < l.length then
      if le l[pos] (l[(pos - 1) / 2]'(by omega)) then l
      else siftUpF le fuel (swap l pos ((pos - 1) / 2)) ((pos - 1) / 2)
    else l

def siftUp {α : Type} (le : α → α → Bool) (l : List α) (pos : Nat) : List α :=
  siftUpF le (pos + 1) l pos

/-- the larger child (`child += (data[child] <= data[child+1]) as usize`) -/
def pickChild {α : Type} (le : α → α → Bool) (l : List α) (child : Nat) : Nat :=
  match l[child]?, l[child + 1]? with
  | some a, some b => if le a b then child + 1 else child
  | _, _ => child

theorem pickChild_ge {α : Type} (le : α → α → Bool) (l : List α) (child : Nat) :
    child ≤ pickChild le l child := by
  unfold pickChild; split
  · split <;> omega
  · omega

theorem pickChild_le {α : Type} (le : α → α → Bool) (l : List α) (child : Nat) :
    pickChild le l child ≤ child + 1 := by
  unfold pickChild; split
  · split <;> omega
  · omega

/-- the loop of `sift_down_to_bottom(0)` (`endn` = `self.len()`, read once): walk the hole down
    along the larger child to the bottom; returns the vector and the final position.
    Structural on a fuel that is never exhausted (`pos` at least doubles; started with `endn`). -/
def siftDownF {α : Type} (le : α → α → Bool) (endn : Nat) : Nat → List α → Nat → List α × Nat
  | 0, l, pos => (l, pos)
  | fuel + 1, l, pos =>
    if 2 * pos + 1 + 2 ≤ endn then
      siftDownF le endn fuel (swap l pos (pickChild le l (2 * pos + 1))) (pickChild le l (2 * pos + 1))
    else if 2 * pos + 1 + 1 = endn then (swap l pos (2 * pos + 1), 2 * pos + 1)
    else (l, pos)

def siftDown {α : Type} (le : α → α → Bool) (endn : Nat) (l : List α) (pos : Nat) : List α × Nat :=
  siftDownF le endn endn l pos

/-- `BinaryHeap::push` -/
def hpush {α : Type} (le : α → α → Bool) (l : List α) (x : α) : List α :=
  siftUp le (l ++ [x]) l.length

/-- `BinaryHeap::pop`: take the last element, put it at the root, sift it down to the bottom,
    then up again -/
def hpop {α : Type} (le : α → α → Bool) (l : List α) : Option (α × List α) :=
  match l.getLast? with
  | none => none
  | some item =>
    match l.dropLast with
    | [] => some (item, [])
    | top :: rest =>
      let d := item :: rest
      let r := siftDown le d.length d 0
      some (top, siftUp le r.1 r.2)

/-! ## 2. The graph -/

/-- a search candidate: `Neighbor { id, distance }` -/
abbrev Nb := Nat × Nat

/-- `Neighbor: Ord` is reversed (`other.distance.partial_cmp(self.distance)`): `a <= b` iff
    `b.distance <= a.distance`; `BinaryHeap<Neighbor>` pops the closest -/
def leMin (a b : Nb) : Bool := decide (b.2 ≤ a.2)

/-- `MaxNeighbor: Ord` is by distance: `BinaryHeap<MaxNeighbor>` pops / peeks the furthest -/
def leMax (a b : Nb) : Bool := decide (a.2 ≤ b.2)

structure Graph where
  /-- `nodes[id].neighbors[layer]`: sorted ids (`CompressedNeighbors` keeps them sorted);
      `nodes[id].neighbors.len() = level(id) + 1` -/
  nodes : List (List (List Nat))
  /-- `entry_point` (`usize::MAX` = `none`) -/
  entry : Option Nat
  maxLayer : Nat

def Graph.empty : Graph := ⟨[], none, 0⟩

def Graph.size (g : Graph) : Nat := g.nodes.length

/-- `nodes[id].neighbors[layer].read().get()` (out of range = the Rust code would panic;
    `insert_wf` shows it never is) -/
def Graph.nbrs (g : Graph) (id layer : Nat) : List Nat := (g.nodes.getD id []).getD layer []

/-- number of layers node `id` has (`level + 1`) -/
def Graph.layersOf (g : Graph) (id : Nat) : Nat := (g.nodes.getD id []).length

/-! ## 3. `search_layer_greedy` -/

/-- the `for neighbor_id in neighbor_ids` loop: move to every neighbour that is strictly closer
    than the best so far -/
def greedyPass (dist : Nat → Nat) (nbrs : List Nat) (cur curD : Nat) : Nat × Nat :=
  nbrs.foldl (fun (acc : Nat × Nat) nb => if dist nb < acc.2 then (nb, dist nb) else acc) (cur, curD)

/-- `loop { ...; if !changed { break } }`: `changed` iff the best distance went down.
    Structural on a fuel that is never exhausted: the best distance strictly decreases and the
    function is started with `curD + 1`. -/
def greedyF (g : Graph) (dist : Nat → Nat) (layer : Nat) : Nat → Nat → Nat → Nat
  | 0, cur, _ => cur
  | fuel + 1, cur, curD =>
    if (greedyPass dist (g.nbrs cur layer) cur curD).2 < curD then
      greedyF g dist layer fuel (greedyPass dist (g.nbrs cur layer) cur curD).1
        (greedyPass dist (g.nbrs cur layer) cur curD).2
    else cur

def greedy (g : Graph) (dist : Nat → Nat) (layer : Nat) (cur curD : Nat) : Nat :=
  greedyF g dist layer (curD + 1) cur curD

/-- `for layer in (lo..=hi).rev() { current = search_layer_greedy(current, layer) }` -/
def layersDesc (lo hi : Nat) : List Nat := (List.range' lo (hi + 1 - lo)).reverse

def descend (g : Graph) (dist : Nat → Nat) (cur lo hi : Nat) : Nat :=
  (layersDesc lo hi).foldl (fun c layer => greedy g dist layer c (dist c)) cur

/-! ## 4. `search_layer` -/

structure LState where
  /-- `visited: HashSet<usize>` (only membership is used) -/
  visited : List Nat
  /-- `candidates: BinaryHeap<Neighbor>` -/
  cands : List Nb
  /-- `results: BinaryHeap<MaxNeighbor>` -/
  results : List Nb

/-- `while results.len() > ef { results.pop(); }` (`fuel` = the length: each pop removes one) -/
def trim (ef : Nat) : Nat → List Nb → List Nb
  | 0, r => r
  | fuel + 1, r =>
    if ef < r.length then
      match hpop leMax r with
      | some (_, r') => trim ef fuel r'
      | none => r
    else r

/-- the body of `for neighbor_id in neighbor_ids` -/
def visit (dist : Nat → Nat) (ef : Nat) (s : LState) (nb : Nat) : LState :=
  if s.visited.contains nb then s
  else
    let add := decide (s.results.length < ef) ||
      (match s.results.head? with
       | none => true
       | some w => decide (dist nb < w.2))
    if add then
      let r := hpush leMax s.results (nb, dist nb)
      { visited := nb :: s.visited
        cands := hpush leMin s.cands (nb, dist nb)
        results := trim ef r.length r }
    else { s with visited := nb :: s.visited }

/-- `while let Some(current) = candidates.pop() { ... }`; `none` = out of fuel
    (`search_layer_terminates`: never with the fuel `searchLayer` gives it) -/
def layerLoop (g : Graph) (dist : Nat → Nat) (ef layer : Nat) : Nat → LState → Option LState
  | 0, _ => none
  | fuel + 1, s =>
    match hpop leMin s.cands with
    | none => some s
    | some (cur, cands') =>
      let stop := decide (ef ≤ s.results.length) &&
        (match s.results.head? with
         | some w => decide (w.2 < cur.2)
         | none => false)
      if stop then some { s with cands := cands' }
      else layerLoop g dist ef layer fuel
        ((g.nbrs cur.1 layer).foldl (visit dist ef) { s with cands := cands' })

/-- ascending distance, stable (`result_vec.sort_by(|a, b| a.distance.partial_cmp(&b.distance))`
    over `results.into_iter()`, i.e. the heap's vector order) -/
def byDist (a b : Nb) : Bool := decide (a.2 ≤ b.2)

def searchLayer (g : Graph) (dist : Nat → Nat) (entry ef layer : Nat) : List Nb :=
  match layerLoop g dist ef layer (g.size + 1)
      ⟨[entry], [(entry, dist entry)], [(entry, dist entry)]⟩ with
  | some s => sortBy byDist s.results
  | none => []

/-! ## 5. `search_with_ef` -/

/-- node ids with their distance keys, closest first (the Rust function maps the distance
    through `metric.to_similarity`, a function of the distance alone) -/
def searchEf (g : Graph) (dist : Nat → Nat) (k ef : Nat) : List Nb :=
  match g.entry with
  | none => []
  | some e => (searchLayer g dist (descend g dist e 1 g.maxLayer) (max ef k) 0).take k

/-! ## 6. `try_insert_embedding` -/

/-- `HNSWConfig { m, m0, ef_construction }` -/
structure Cfg where
  m : Nat
  m0 : Nat
  efc : Nat

/-- `sorted.sort_unstable()` on ids -/
def sortNat (l : List Nat) : List Nat := sortBy (fun a b => decide (a ≤ b)) l

/-- `nodes[id].neighbors[layer].write().set(ids)` -/
def setNbrs (g : Graph) (id layer : Nat) (ids : List Nat) : Graph :=
  { g with nodes := g.nodes.modify id (fun ls => ls.set layer (sortNat ids)) }

/-- keep the `m` neighbours closest to `nb` (stable sort of the id-sorted list by distance) -/
def prune (pd : Nat → Nat → Nat) (m nb : Nat) (ids : List Nat) : List Nat :=
  ((sortBy byDist (ids.map fun id => (id, pd nb id))).take m).map (·.1)

/-- `neighbor_neighbors.push(node_id); if len > m { prune }` -/
def linkBack (pd : Nat → Nat → Nat) (m layer newId : Nat) (g : Graph) (nb : Nat) : Graph :=
  let ids := sortNat (g.nbrs nb layer ++ [newId])
  if m < ids.length then setNbrs g nb layer (prune pd m nb ids) else setNbrs g nb layer ids

/-- one iteration of `for layer in (0..=connect_from).rev()` -/
def connectLayer (cfg : Cfg) (pd : Nat → Nat → Nat) (dist : Nat → Nat) (newId : Nat)
    (acc : Graph × Nat) (layer : Nat) : Graph × Nat :=
  let neighbors := searchLayer acc.1 dist acc.2 cfg.efc layer
  let m := if layer = 0 then cfg.m0 else cfg.m
  let selected := (neighbors.take m).map (·.1)
  let g1 := setNbrs acc.1 newId layer (acc.1.nbrs newId layer ++ selected)
  let g2 := selected.foldl (linkBack pd m layer newId) g1
  (g2, match neighbors.head? with
       | some n => n.1
       | none => acc.2)

/-- insert a node of level `level`; `pd a b` = distance between stored vectors `a` and `b`
    (the new node has id `g.size`) -/
def insert (cfg : Cfg) (pd : Nat → Nat → Nat) (g : Graph) (level : Nat) : Graph :=
  let newId := g.size
  let g0 : Graph := { g with nodes := g.nodes ++ [List.replicate (level + 1) []] }
  match g.entry with
  | none => { g0 with entry := some newId, maxLayer := level }
  | some e =>
    let dist := fun x => pd x newId
    let cur := descend g0 dist e (level + 1) g.maxLayer
    let r := (layersDesc 0 (min level g.maxLayer)).foldl (connectLayer cfg pd dist newId) (g0, cur)
    if g.maxLayer < level then { r.1 with entry := some newId, maxLayer := level } else r.1

/-- the graph after inserting nodes with the given levels, in order -/
def build (cfg : Cfg) (pd : Nat → Nat → Nat) (levels : List Nat) : Graph :=
  levels.foldl (insert cfg pd) Graph.empty

end Neumann.Vec.Hnsw
