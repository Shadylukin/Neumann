import NeumannModel.Vec.HnswLemmas
/-
  C06 — property theorems about the approximate index itself (`tensor_store::HNSWIndex`, modelled
  in `HnswModel.lean`).  ONLY property statements and their non-vacuity examples live here.

  Reading guide.  `build cfg pd levels` is the index after inserting `levels.length` vectors in
  order, for ANY configuration `cfg` (`m`, `m0`, `ef_construction`), ANY distance function `pd`
  between stored vectors (so: any metric, any rounding of the `f32` arithmetic) and ANY sequence
  of node levels (so: any outcome of the index's PRNG).  `searchEf g dist k ef` is
  `HNSWIndex::search_with_ef` for a query whose distance to node `i` is `dist i`; it returns
  `(node id, distance)` pairs (the Rust function reports `to_similarity(distance)`).
  Recall is NOT claimed: which nodes are returned depends on the graph.
-/
namespace Neumann.Vec.Hnsw.Props
open Neumann.Vec Neumann.Vec.Hnsw

/-! ### the two binary heaps lose nothing and invent nothing -/

/-- `BinaryHeap::push` / `pop` (sift-up, sift-down-to-bottom) permute the vector, for EVERY
    comparison function: nothing is dropped or duplicated, the popped element is one that was in
    the heap, the length goes up / down by exactly one. -/
theorem heap_push_pop_perm {α : Type} (le : α → α → Bool) (l : List α) (x : α) :
    (hpush le l x).Perm (x :: l) ∧
    (∀ t r, hpop le l = some (t, r) → (t :: r).Perm l) ∧
    (hpop le l = none ↔ l = []) := by
  exact ⟨hpush_perm le l x, fun t r h => hpop_perm le l t r h, hpop_none_iff le l⟩

/-- The three heap / descent loops of the model are structural recursions on a fuel; the fuel is
    never the reason they stop: any two fuels above the stated bound give the same result
    (`sift_up` from `pos`, `sift_down_to_bottom` on a vector of `endn` elements, the greedy descent
    from a node at distance `curD`), and `while results.len() > ef { pop }` really ends with at
    most `ef` results. -/
theorem loop_fuels_are_adequate {α : Type} (le : α → α → Bool) (l : List α) (pos endn f1 f2 : Nat)
    (g : Graph) (dist : Nat → Nat) (layer cur curD ef : Nat) (r : List Nb) :
    (pos < f1 → pos < f2 → siftUpF le f1 l pos = siftUpF le f2 l pos) ∧
    (endn ≤ pos + f1 → endn ≤ pos + f2 → siftDownF le endn f1 l pos = siftDownF le endn f2 l pos) ∧
    (curD < f1 → curD < f2 → greedyF g dist layer f1 cur curD = greedyF g dist layer f2 cur curD) ∧
    (trim ef r.length r).length ≤ ef := by
  refine ⟨fun h1 h2 => ?_, fun h1 h2 => ?_, fun h1 h2 => ?_, ?_⟩
  · induction f1 generalizing f2 l pos with
    | zero => omega
    | succ n ih =>
      cases f2 with
      | zero => omega
      | succ m =>
        rw [siftUpF, siftUpF]
        exact ite_congr rfl (fun _ => rfl) fun _ => dite_congr rfl
          (fun _ => ite_congr rfl (fun _ => rfl) fun _ => ih _ _ _ (by omega) (by omega)) (fun _ => rfl)
  · induction f1 generalizing f2 l pos with
    | zero =>
      cases f2 with
      | zero => rfl
      | succ m =>
        rw [siftDownF, siftDownF]
        rw [if_neg (by omega), if_neg (by omega)]
    | succ n ih =>
      cases f2 with
      | zero =>
        rw [siftDownF, siftDownF]
        rw [if_neg (by omega), if_neg (by omega)]
      | succ m =>
        rw [siftDownF, siftDownF]
        refine ite_congr rfl (fun _ => ?_) fun _ => rfl
        have := pickChild_ge le l (2 * pos + 1)
        exact ih _ _ _ (by omega) (by omega)
  · induction f1 generalizing f2 cur curD with
    | zero => omega
    | succ n ih =>
      cases f2 with
      | zero => omega
      | succ m =>
        rw [greedyF, greedyF]
        exact ite_congr rfl (fun _ => ih _ _ _ (by omega) (by omega)) fun _ => rfl
  · suffices ∀ fuel, r.length ≤ ef + fuel → (trim ef fuel r).length ≤ ef from this _ (by omega)
    intro fuel h
    induction fuel generalizing r with
    | zero => rw [trim]; omega
    | succ n ih =>
      rw [trim]
      split
      · split
        · rename_i t r' hp
          have := hpop_length leMax r t r' hp
          exact ih r' (by omega)
        · rename_i hp
          have := (hpop_none_iff leMax r).mp hp
          subst this
          simp
      · omega

/-! ### every index that can be built is well formed -/

/-- For EVERY configuration, distance function and level sequence: the built graph has one node
    per inserted vector; every neighbour id is a node that has the layer it is linked on; the
    entry point (present iff the index is non-empty) is a node that has every layer up to
    `maxLayer`.  So no `nodes[id]` / `neighbors[layer]` access of insert or search is ever out
    of bounds. -/
theorem build_wf (cfg : Cfg) (pd : Nat → Nat → Nat) (levels : List Nat) :
    WF (build cfg pd levels) ∧ (build cfg pd levels).size = levels.length := by
  have := foldl_insert_wf cfg pd levels Graph.empty wf_empty
  refine ⟨this.1, ?_⟩
  have h2 := this.2
  unfold build
  rw [h2]
  simp [Graph.empty, Graph.size]

/-- ... and inserting into ANY well-formed graph keeps it well formed (one more node). -/
theorem insert_wf (cfg : Cfg) (pd : Nat → Nat → Nat) (g : Graph) (level : Nat) (h : WF g) :
    WF (insert cfg pd g level) ∧ (insert cfg pd g level).size = g.size + 1 :=
  insert_wf_size cfg pd g level h

/-! ### the layer search terminates -/

/-- On a well-formed graph the `while let Some(current) = candidates.pop()` loop ends by itself
    (empty candidate heap or the stop test) within `size + 1` iterations, for every entry node,
    `ef`, layer and distance function: the fuel the model gives it is never exhausted, so
    `searchLayer` is the Rust function and not a truncation of it. -/
theorem search_layer_terminates (g : Graph) (h : WF g) (dist : Nat → Nat) (entry ef layer : Nat)
    (he : entry < g.size) :
    (layerLoop g dist ef layer (g.size + 1)
      ⟨[entry], [(entry, dist entry)], [(entry, dist entry)]⟩).isSome = true :=
  layerLoop_terminates_of (U := (· < g.size)) (fun _ hx => hx) dist entry ef layer
    (fun _ _ hx => (h.1 _ _ _ hx).1) he

/-! ### what `search_with_ef` returns, for every graph -/

/-- **Contract of the approximate search.**  For EVERY well-formed graph (in particular every
    graph `build` produces), every query (distance function), `k` and `ef`: at most `k` results;
    no node id twice; every id is a node of the index; the distance reported for a node is THAT
    node's distance to the query; closest first; and a non-empty index asked for `k ≥ 1` results
    returns at least one. -/
theorem search_contract (g : Graph) (h : WF g) (dist : Nat → Nat) (k ef : Nat) :
    (searchEf g dist k ef).length ≤ k ∧
    ((searchEf g dist k ef).map (·.1)).Nodup ∧
    (∀ x ∈ searchEf g dist k ef, x.1 < g.size ∧ x.2 = dist x.1) ∧
    (searchEf g dist k ef).Pairwise (fun a b => a.2 ≤ b.2) ∧
    (g.entry ≠ none → 0 < k → searchEf g dist k ef ≠ []) := by
  unfold searchEf
  cases he : g.entry with
  | none =>
    dsimp only
    refine ⟨Nat.zero_le _, List.nodup_nil, ?_, List.Pairwise.nil, ?_⟩
    · intro x hx; cases hx
    · intro hne; exact absurd rfl hne
  | some e =>
    dsimp only
    have hentry := h.2.1 e he
    have hcur := (descend_usable g h dist e 1 g.maxLayer ⟨hentry.1, hentry.2⟩).mono (Nat.zero_le _)
    have hsp := searchLayer_spec g h dist (descend g dist e 1 g.maxLayer) (max ef k) 0 hcur
    generalize searchLayer g dist (descend g dist e 1 g.maxLayer) (max ef k) 0 = r at hsp
    refine ⟨?_, ?_, ?_, ?_, ?_⟩
    · rw [List.length_take]; exact Nat.min_le_left ..
    · exact hsp.1.sublist ((List.take_sublist k r).map _)
    · intro x hx
      have := hsp.2.1 x (List.mem_of_mem_take hx)
      exact ⟨this.1.1, this.2⟩
    · exact hsp.2.2.1.sublist (List.take_sublist k r)
    · intro _ hk h0
      have hr := hsp.2.2.2 (by omega)
      cases r with
      | nil => exact hr rfl
      | cons a b =>
        cases k with
        | zero => omega
        | succ k' => simp at h0

/-- ... in particular for every index built by inserts (no hypothesis left). -/
theorem search_contract_built (cfg : Cfg) (pd : Nat → Nat → Nat) (levels : List Nat)
    (dist : Nat → Nat) (k ef : Nat) :
    let r := searchEf (build cfg pd levels) dist k ef
    r.length ≤ k ∧ (r.map (·.1)).Nodup ∧
    (∀ x ∈ r, x.1 < levels.length ∧ x.2 = dist x.1) ∧
    r.Pairwise (fun a b => a.2 ≤ b.2) ∧
    (levels ≠ [] → 0 < k → r ≠ []) := by
  have hw := build_wf cfg pd levels
  have hc := search_contract (build cfg pd levels) hw.1 dist k ef
  refine ⟨hc.1, hc.2.1, ?_, hc.2.2.2.1, ?_⟩
  · intro x hx
    have := hc.2.2.1 x hx
    rw [hw.2] at this
    exact this
  · intro hne hk
    refine hc.2.2.2.2 (fun hn => hne (List.length_eq_zero_iff.mp ?_)) hk
    rw [← hw.2]
    exact hw.1.2.2.1 hn

/-! ### the engine's answer when the cached index is consulted -/

/-- **Answer taken from a cached index, end to end.**  `snap` = the data the index was built
    from (node `i` ↦ key and vector), `g` = ANY index over it that inserts could have produced
    (any configuration, levels, rounding).  Whatever the index returns, the engine's answer
    (`postProcessAnn`: node ids mapped to keys, sorted, truncated) has at most `k` entries, is
    ordered best first, names only indexed keys, names no key twice, and reports for each key
    the true cosine score of that key's indexed vector.  With `no_stale_cache` (the index is only
    consulted while `snap` is the current data) these are current keys with the scores of their
    current vectors.  No assumption about the index is left. -/
theorem index_answer_shape (snap : Snap) (hn : (snap.map (·.1)).Nodup)
    (cfg : Cfg) (pd : Nat → Nat → Nat) (levels : List Nat) (hl : levels.length = snap.length)
    (q : List Int) (dist : Nat → Nat) (k ef : Nat) :
    let ann := (searchEf (build cfg pd levels) dist k ef).filterMap fun x =>
      (snap[x.1]?).map fun e => (x.1, score .cosine q e.2)
    (postProcessAnn snap ann k).length ≤ k ∧
    (postProcessAnn snap ann k).Pairwise (fun a b => candBetter .cosine a b = true) ∧
    ((postProcessAnn snap ann k).map (·.key)).Nodup ∧
    (∀ c ∈ postProcessAnn snap ann k, ∃ vec, (c.key, vec) ∈ snap ∧ c.score = score .cosine q vec) ∧
    ann.length = (searchEf (build cfg pd levels) dist k ef).length := by
  intro ann
  have hw := build_wf cfg pd levels
  have hc := search_contract (build cfg pd levels) hw.1 dist k ef
  obtain ⟨hsub, htrue⟩ := scored_ids snap (score .cosine q) (·.1) (searchEf (build cfg pd levels) dist k ef)
  obtain ⟨h1, h2, _, h4, h5⟩ := postProcessAnnM_shape .cosine snap q ann k
  refine ⟨h1, h2, h4 hn (hc.2.1.sublist hsub), h5 htrue, ?_⟩
  -- every id the search returns is a node, so none is dropped by the key lookup
  apply filterMap_all_some_length
  intro x hx
  have hlt := (hc.2.2.1 x hx).1
  rw [hw.2, hl] at hlt
  rw [List.getElem?_eq_getElem hlt]
  rfl

/-- **Post-filtered answer taken from a cached index** (`search_similar_filtered` with the
    post-filter strategy while an index is cached: the index is asked for `cut` = the oversample
    pool, the engine keeps the results whose CURRENT metadata satisfies the filter, at most `k`).
    For ANY index inserts could have produced over `snap`: at most `k` results, best first, no key
    twice, each an indexed key with the true cosine score of its indexed vector, and each stored
    NOW with metadata that satisfies the filter (a key deleted since is never returned).
    Completeness is not claimed (the post-filter known finding applies to this path too). -/
theorem index_filtered_answer_sound (snap : Snap) (hn : (snap.map (·.1)).Nodup) (cur : Items)
    (cfg : Cfg) (pd : Nat → Nat → Nat) (levels : List Nat) (hl : levels.length = snap.length)
    (q : List Int) (dist : Nat → Nat) (cut k ef : Nat) (f : Filter) :
    let ann := (searchEf (build cfg pd levels) dist cut ef).filterMap fun x =>
      (snap[x.1]?).map fun e => (x.1, score .cosine q e.2)
    (postFilterAnn snap cur ann cut k f).length ≤ k ∧
    (postFilterAnn snap cur ann cut k f).Pairwise (fun a b => candBetter .cosine a b = true) ∧
    ((postFilterAnn snap cur ann cut k f).map (·.key)).Nodup ∧
    (∀ c ∈ postFilterAnn snap cur ann cut k f,
      (∃ vec, (c.key, vec) ∈ snap ∧ c.score = score .cosine q vec) ∧
      ∃ it, alGet cur c.key = some it ∧ evalFilter it.md f = true) := by
  intro ann
  have base := index_answer_shape snap hn cfg pd levels hl q dist cut ef
  simp only at base
  obtain ⟨_, hsorted, hnodup, htrue, _⟩ := base
  -- the flagged list has the keys and scores of the post-processed index answer
  have hkeys : (postFilterCands snap cur ann cut f).map (·.key) = (postProcessAnn snap ann cut).map (·.key) := by
    simp only [postFilterCands, List.map_map]; rfl
  have hsub : (postFilterAnn snap cur ann cut k f).Sublist (postFilterCands snap cur ann cut f) :=
    (List.take_sublist k _).trans List.filter_sublist
  have hsorted' : (postFilterCands snap cur ann cut f).Pairwise (fun a b => candBetter .cosine a b = true) := by
    simp only [postFilterCands]
    exact (List.pairwise_map.mpr hsorted)
  refine ⟨?_, hsorted'.sublist hsub, ?_, ?_⟩
  · simp only [postFilterAnn, List.length_take]; omega
  · have : ((postFilterCands snap cur ann cut f).map (·.key)).Nodup := by rw [hkeys]; exact hnodup
    exact this.sublist (hsub.map _)
  · intro c hc
    have hc1 : c ∈ (postFilterCands snap cur ann cut f).filter (·.pass) := List.mem_of_mem_take hc
    obtain ⟨hc2, hpass⟩ := List.mem_filter.mp hc1
    simp only [postFilterCands, List.mem_map] at hc2
    obtain ⟨c0, hc0, rfl⟩ := hc2
    refine ⟨htrue c0 hc0, ?_⟩
    simp only at hpass ⊢
    cases hg : alGet cur c0.key with
    | none => rw [hg] at hpass; cases hpass
    | some it => rw [hg] at hpass; exact ⟨it, rfl, hpass⟩

/-! ### a small index is exact -/

/-- For EVERY distance function and level sequence: while no more than `m0` vectors are indexed and
    `ef_construction` is at least their number, every insert finds and links ALL earlier nodes on
    layer 0 and no list is ever pruned: layer 0 is the complete graph. -/
theorem small_index_is_complete (cfg : Cfg) (pd : Nat → Nat → Nat) (levels : List Nat)
    (hm : levels.length ≤ cfg.m0) (he : levels.length ≤ cfg.efc) :
    Complete0 (build cfg pd levels) := by
  unfold build
  apply foldl_insert_complete cfg pd levels Graph.empty wf_empty
  · intro i j hi; simp [Graph.empty, Graph.size] at hi
  · intro i; simp [Graph.empty, Graph.nbrs]
  · simpa [Graph.empty, Graph.size] using hm
  · simpa [Graph.empty, Graph.size] using he

/-- On a well-formed graph whose layer 0 is complete, a search whose beam `max ef k` is at least
    the number of nodes is EXACT: it returns `min k size` nodes and no node left out is closer
    than a returned one (with `search_contract`: distinct ids, true distances, closest first —
    the exact `k` nearest). -/
theorem search_exact_of_complete (g : Graph) (h : WF g) (hc : Complete0 g) (dist : Nat → Nat) (k ef : Nat)
    (hef : g.size ≤ max ef k) :
    (searchEf g dist k ef).length = min k g.size ∧
    ∀ x ∈ searchEf g dist k ef, ∀ j, j < g.size → j ∉ (searchEf g dist k ef).map (·.1) → x.2 ≤ dist j := by
  unfold searchEf
  cases he : g.entry with
  | none =>
    dsimp only
    have := h.2.2.1 he
    refine ⟨by rw [this]; simp, ?_⟩
    intro x hx; cases hx
  | some e =>
    dsimp only
    have hentry := h.2.1 e he
    have hcur := (descend_usable g h dist e 1 g.maxLayer ⟨hentry.1, hentry.2⟩).mono (Nat.zero_le _)
    have hstar : ∀ j, j < g.size → j ≠ descend g dist e 1 g.maxLayer →
        j ∈ g.nbrs (descend g dist e 1 g.maxLayer) 0 :=
      fun j hj hne => hc _ j hcur.1 hj (Ne.symm hne)
    have hlt : ∀ id x, x ∈ g.nbrs id 0 → x < g.size := fun id x hx => (h.1 _ _ _ hx).1
    have hsp := searchLayer_spec g h dist (descend g dist e 1 g.maxLayer) (max ef k) 0 hcur
    have hall := searchLayer_complete g h dist _ (max ef k) 0 g.size hcur hcur.1 hef hstar hlt
    have hlen := searchLayer_complete_length g h dist _ (max ef k) 0 g.size hcur hcur.1 hef hstar hlt
    generalize searchLayer g dist (descend g dist e 1 g.maxLayer) (max ef k) 0 = r at hsp hall hlen
    refine ⟨by rw [List.length_take, hlen], ?_⟩
    intro x hx j hj hnot
    obtain ⟨y, hy, hyj⟩ := List.mem_map.mp (hall j hj)
    have hsorted : (r.take k ++ r.drop k).Pairwise (fun a b => a.2 ≤ b.2) := by
      rw [List.take_append_drop]; exact hsp.2.2.1
    rw [← List.take_append_drop k r] at hy
    rcases List.mem_append.mp hy with hy | hy
    · exact absurd (List.mem_map.mpr ⟨y, hy, hyj⟩) hnot
    · have := (List.pairwise_append.mp hsorted).2.2 x hx y hy
      rw [(hsp.2.1 y (List.mem_of_mem_drop hy)).2, hyj] at this
      exact this

/-- ... so: an index over at most `m0` vectors built with `ef_construction ≥` their number,
    searched with `max ef k ≥` their number, returns the exact `k` nearest (default configuration:
    `m0 = 32`, `ef_construction = 200`, `ef_search = 50`: every index of up to 32 vectors). -/
theorem small_index_search_is_exact (cfg : Cfg) (pd : Nat → Nat → Nat) (levels : List Nat)
    (hm : levels.length ≤ cfg.m0) (he : levels.length ≤ cfg.efc) (dist : Nat → Nat) (k ef : Nat)
    (hef : levels.length ≤ max ef k) :
    let r := searchEf (build cfg pd levels) dist k ef
    r.length = min k levels.length ∧ (r.map (·.1)).Nodup ∧
    (∀ x ∈ r, x.1 < levels.length ∧ x.2 = dist x.1) ∧
    r.Pairwise (fun a b => a.2 ≤ b.2) ∧
    (∀ x ∈ r, ∀ j, j < levels.length → j ∉ r.map (·.1) → x.2 ≤ dist j) := by
  have hw := build_wf cfg pd levels
  have h1 := search_contract_built cfg pd levels dist k ef
  have h2 := search_exact_of_complete _ hw.1 (small_index_is_complete cfg pd levels hm he) dist k ef
    (by rw [hw.2]; exact hef)
  rw [hw.2] at h2
  exact ⟨h2.1, h1.2.1, h1.2.2.1, h1.2.2.2.1, h2.2⟩

/-! ### Non-vacuity -/

def exPd (a b : Nat) : Nat := if a ≤ b then (b - a) * 7 % 5 + a else (a - b) * 7 % 5 + b

-- a three-layer index over 9 nodes with m = m0 = 2 (lists are pruned): well formed, and a
-- truncated beam (ef = 2) answers with 2 distinct in-range nodes, closest first
example : (build ⟨2, 2, 2⟩ exPd [0, 2, 0, 1, 0, 0, 1, 0, 0]).maxLayer = 2 := by decide +kernel
example : searchEf (build ⟨2, 2, 2⟩ exPd [0, 2, 0, 1, 0, 0, 1, 0, 0]) (fun i => (i * 5 + 3) % 9) 2 2
    = [(3, 0), (5, 1)] := by decide +kernel
-- ... and is approximate: node 7 (distance 2) is closer than node 0 (distance 3) but is not found
example : searchEf (build ⟨2, 2, 2⟩ exPd [0, 2, 0, 1, 0, 0, 1, 0, 0]) (fun i => (i * 5 + 3) % 9) 3 1
    = [(3, 0), (5, 1), (0, 3)] := by decide +kernel
-- the filtered index answer: node 1 is the best match but its key was deleted since, node 0 fails the filter
example : (postFilterAnn [("a", [1, 0]), ("b", [1, 1]), ("c", [0, 1])]
      [("a", ⟨.dense [1, 0], [("f", 0)]⟩), ("c", ⟨.dense [0, 1], [("f", 1)]⟩)]
      (annWithTrueScores [("a", [1, 0]), ("b", [1, 1]), ("c", [0, 1])] [1, 1] [1, 0, 2]) 3 2 (.cmp .eq "f" 1)).map (·.key)
    = ["c"] := by decide +kernel
-- the heaps really reorder: pushing onto a max-heap moves the larger key to the root
example : hpush leMax [(0, 1), (1, 0)] (2, 5) = [(2, 5), (1, 0), (0, 1)] := by decide +kernel
example : hpop leMax [(2, 5), (1, 0), (0, 1)] = some ((2, 5), [(0, 1), (1, 0)]) := by decide +kernel
-- a small index (5 ≤ m0 = 32 vectors, levels 0,1,0,0,2) is complete on layer 0 and searched exactly
example : (build ⟨16, 32, 200⟩ exPd [0, 1, 0, 0, 2]).nbrs 3 0 = [0, 1, 2, 4] := by decide +kernel
example : searchEf (build ⟨16, 32, 200⟩ exPd [0, 1, 0, 0, 2]) (fun i => (i * 3 + 2) % 5) 3 50
    = [(1, 0), (3, 1), (0, 2)] := by decide +kernel

end Neumann.Vec.Hnsw.Props
