import NeumannModel.Vec.HnswModel
import NeumannModel.Vec.Lemmas
namespace Neumann.Vec.Hnsw
open Neumann.Vec

/-- Well-formed graph: every neighbour id is a node that has the layer it is linked on; the
    entry point is present iff the graph is non-empty, is a node, and has every layer up to
    `maxLayer`; every node has at least layer 0. -/
def WF (g : Graph) : Prop :=
  (∀ id layer x, x ∈ g.nbrs id layer → x < g.size ∧ layer < g.layersOf x) ∧
  (∀ e, g.entry = some e → e < g.size ∧ g.maxLayer < g.layersOf e) ∧
  (g.entry = none → g.size = 0) ∧
  (∀ id, id < g.size → 0 < g.layersOf id)

theorem swap_perm {α : Type} (l : List α) (i j : Nat) : (swap l i j).Perm l := by
  unfold swap
  split
  · rename_i h; exact List.set_set_perm h.1 h.2
  · exact List.Perm.refl _

theorem swap_length {α : Type} (l : List α) (i j : Nat) : (swap l i j).length = l.length :=
  (swap_perm l i j).length_eq

theorem siftUpF_perm {α : Type} (le : α → α → Bool) (fuel : Nat) (l : List α) (pos : Nat) :
    (siftUpF le fuel l pos).Perm l := by
  induction fuel generalizing l pos with
  | zero => exact List.Perm.refl _
  | succ n ih =>
    rw [siftUpF]
    split
    · exact List.Perm.refl _
    · split
      · split
        · exact List.Perm.refl _
        · exact (ih _ _).trans (swap_perm _ _ _)
      · exact List.Perm.refl _

theorem siftDownF_perm {α : Type} (le : α → α → Bool) (endn fuel : Nat) (l : List α) (pos : Nat) :
    (siftDownF le endn fuel l pos).1.Perm l := by
  induction fuel generalizing l pos with
  | zero => exact List.Perm.refl _
  | succ n ih =>
    rw [siftDownF]
    split
    · exact (ih _ _).trans (swap_perm _ _ _)
    · split
      · exact swap_perm _ _ _
      · exact List.Perm.refl _

theorem hpush_perm {α : Type} (le : α → α → Bool) (l : List α) (x : α) : (hpush le l x).Perm (x :: l) := by
  unfold hpush siftUp
  exact (siftUpF_perm _ _ _ _).trans (List.perm_append_comm.trans (List.Perm.refl _))

theorem hpop_perm {α : Type} (le : α → α → Bool) (l : List α) (t : α) (r : List α)
    (h : hpop le l = some (t, r)) : (t :: r).Perm l := by
  unfold hpop at h
  split at h
  · cases h
  · rename_i item hlast
    obtain ⟨ys, rfl⟩ := List.getLast?_eq_some_iff.mp hlast
    rw [List.dropLast_concat] at h
    split at h
    · simp only [Option.some.injEq, Prod.mk.injEq] at h
      obtain ⟨rfl, rfl⟩ := h
      exact List.Perm.refl _
    · rename_i top rest
      simp only [Option.some.injEq, Prod.mk.injEq] at h
      obtain ⟨rfl, rfl⟩ := h
      refine List.Perm.cons _ ?_
      unfold siftUp siftDown
      refine (siftUpF_perm _ _ _ _).trans ((siftDownF_perm _ _ _ _ _).trans ?_)
      exact (List.perm_append_comm (l₁ := [item]) (l₂ := rest))

theorem hpop_none_iff {α : Type} (le : α → α → Bool) (l : List α) : hpop le l = none ↔ l = [] := by
  constructor
  · intro h
    unfold hpop at h
    split at h
    · rename_i hl; exact List.getLast?_eq_none_iff.mp hl
    · split at h <;> cases h
  · rintro rfl; rfl

theorem hpop_length {α : Type} (le : α → α → Bool) (l : List α) (t : α) (r : List α)
    (h : hpop le l = some (t, r)) : r.length + 1 = l.length := by
  have := (hpop_perm le l t r h).length_eq
  simpa using this

theorem hpush_length {α : Type} (le : α → α → Bool) (l : List α) (x : α) :
    (hpush le l x).length = l.length + 1 := by
  have := (hpush_perm le l x).length_eq
  simpa using this

/-- `x` is a node of `g` that has layer `L` -/
def Usable (g : Graph) (x L : Nat) : Prop := x < g.size ∧ L < g.layersOf x

theorem Usable.mono {g : Graph} {x L L' : Nat} (h : Usable g x L) (hl : L' ≤ L) : Usable g x L' :=
  ⟨h.1, Nat.lt_of_le_of_lt hl h.2⟩

theorem greedyPass_fst (dist : Nat → Nat) (nbrs : List Nat) (cur curD : Nat) :
    (greedyPass dist nbrs cur curD).1 = cur ∨ (greedyPass dist nbrs cur curD).1 ∈ nbrs := by
  unfold greedyPass
  generalize hacc : (cur, curD) = acc
  have : cur = acc.1 := by rw [← hacc]
  rw [this]
  clear this hacc
  induction nbrs generalizing acc with
  | nil => exact Or.inl rfl
  | cons nb rest ih =>
    rw [List.foldl_cons]
    rcases ih (if dist nb < acc.2 then (nb, dist nb) else acc) with h | h
    · rw [h]
      split
      · exact Or.inr (List.mem_cons_self ..)
      · exact Or.inl rfl
    · exact Or.inr (List.mem_cons_of_mem _ h)

/-- the greedy walk stays inside any set of nodes the layer's neighbour lists do not leave -/
theorem greedyF_closed (S : Nat → Prop) (g : Graph) (dist : Nat → Nat) (layer fuel cur curD : Nat)
    (hS : ∀ id x, x ∈ g.nbrs id layer → S x) (h : S cur) : S (greedyF g dist layer fuel cur curD) := by
  induction fuel generalizing cur curD with
  | zero => exact h
  | succ n ih =>
    rw [greedyF]
    split
    · apply ih
      rcases greedyPass_fst dist (g.nbrs cur layer) cur curD with h1 | h1
      · rw [h1]; exact h
      · exact hS _ _ h1
    · exact h

theorem layersDesc_mem {lo hi l : Nat} (h : l ∈ layersDesc lo hi) : lo ≤ l ∧ l ≤ hi := by
  unfold layersDesc at h
  rw [List.mem_reverse, List.mem_range'_1] at h
  omega

theorem layersDesc_pairwise (lo hi : Nat) : (layersDesc lo hi).Pairwise (fun a b => b < a) := by
  unfold layersDesc
  rw [List.pairwise_reverse]
  exact List.pairwise_lt_range'

theorem descend_fold_usable (g : Graph) (hg : WF g) (dist : Nat → Nat) (ls : List Nat) (cur m : Nat)
    (hp : ls.Pairwise (fun a b => b < a)) (hm : ∀ l ∈ ls, m ≤ l)
    (hu : ∀ l ∈ ls, Usable g cur l) (hum : Usable g cur m) :
    Usable g (ls.foldl (fun c layer => greedy g dist layer c (dist c)) cur) m := by
  induction ls generalizing cur with
  | nil => exact hum
  | cons L rest ih =>
    rw [List.foldl_cons]
    have hp' := List.pairwise_cons.mp hp
    have h1 : Usable g (greedy g dist L cur (dist cur)) L :=
      greedyF_closed (Usable g · L) g dist L _ cur _ (fun _ _ hx => hg.1 _ _ _ hx) (hu L (List.mem_cons_self ..))
    apply ih _ hp'.2
    · intro l hl; exact hm l (List.mem_cons_of_mem _ hl)
    · intro l hl; exact h1.mono (Nat.le_of_lt (hp'.1 l hl))
    · exact h1.mono (hm L (List.mem_cons_self ..))

theorem descend_usable (g : Graph) (hg : WF g) (dist : Nat → Nat) (cur lo hi : Nat)
    (h : Usable g cur hi) : Usable g (descend g dist cur lo hi) (min lo hi) := by
  unfold descend
  apply descend_fold_usable g hg dist _ cur _ (layersDesc_pairwise lo hi)
  · intro l hl; have := layersDesc_mem hl; omega
  · intro l hl; exact h.mono (layersDesc_mem hl).2
  · exact h.mono (Nat.min_le_right ..)

theorem trim_sub (ef fuel : Nat) (r : List Nb) : ∃ d, (d ++ trim ef fuel r).Perm r := by
  induction fuel generalizing r with
  | zero => exact ⟨[], List.Perm.refl _⟩
  | succ n ih =>
    rw [trim]
    split
    · split
      · rename_i t r' hp
        obtain ⟨d, hd⟩ := ih r'
        refine ⟨t :: d, ?_⟩
        exact (List.Perm.cons t hd).trans (hpop_perm _ _ _ _ hp)
      · exact ⟨[], List.Perm.refl _⟩
    · exact ⟨[], List.Perm.refl _⟩

theorem trim_subset (ef fuel : Nat) (r : List Nb) : trim ef fuel r ⊆ r := by
  obtain ⟨d, hd⟩ := trim_sub ef fuel r
  intro x hx
  exact hd.subset (List.mem_append_right _ hx)

theorem trim_nodup (ef fuel : Nat) (r : List Nb) (h : (r.map (·.1)).Nodup) :
    ((trim ef fuel r).map (·.1)).Nodup := by
  obtain ⟨d, hd⟩ := trim_sub ef fuel r
  have h2 := (hd.map (·.1)).nodup_iff.mpr h
  rw [List.map_append] at h2
  exact (List.nodup_append.mp h2).2.1

theorem trim_ne_nil (ef fuel : Nat) (r : List Nb) (hef : 0 < ef) (h : r ≠ []) : trim ef fuel r ≠ [] := by
  induction fuel generalizing r with
  | zero => exact h
  | succ n ih =>
    rw [trim]
    split
    · split
      · rename_i t r' hp
        apply ih
        have := hpop_length _ _ _ _ hp
        intro h0
        rw [h0] at this
        simp only [List.length_nil] at this
        omega
      · exact h
    · exact h

/-- invariant of the layer search; `U` is what is known of every visited node -/
structure LInv (U : Nat → Prop) (dist : Nat → Nat) (ef : Nat) (s : LState) : Prop where
  vnodup : s.visited.Nodup
  vus : ∀ x ∈ s.visited, U x
  res : ∀ x ∈ s.results, x.1 ∈ s.visited ∧ x.2 = dist x.1
  cand : ∀ x ∈ s.cands, x.1 ∈ s.visited ∧ x.2 = dist x.1
  rnodup : (s.results.map (·.1)).Nodup
  rne : 0 < ef → s.results ≠ []

/-- the termination measure of `layerLoop` -/
def mu (g : Graph) (s : LState) : Nat := s.cands.length + (g.size - s.visited.length)

theorem nodup_bound (l : List Nat) (n : Nat) (hn : l.Nodup) (hb : ∀ x ∈ l, x < n) : l.length ≤ n := by
  have := List.Nodup.length_le_of_subset hn (l₂ := List.range n) (by
    intro x hx; exact List.mem_range.mpr (hb x hx))
  simpa using this

theorem ite_bool_prop {α : Type} {P : α → Prop} (c : Bool) (a b : α) (ha : P a) (hb : P b) :
    P (if c = true then a else b) := by
  cases c
  · exact hb
  · exact ha

theorem ite_bool_some {α : Type} (c : Bool) (a b : Option α) (x : α)
    (h : (if c = true then a else b) = some x) : a = some x ∨ b = some x := by
  cases c
  · exact Or.inr h
  · exact Or.inl h

section LayerSearch
variable {U : Nat → Prop} {g : Graph}

theorem visit_inv (hU : ∀ x, U x → x < g.size) (dist : Nat → Nat) (ef : Nat) (s : LState) (nb : Nat)
    (hs : LInv U dist ef s) (hnb : U nb) :
    LInv U dist ef (visit dist ef s nb) ∧ mu g (visit dist ef s nb) ≤ mu g s := by
  unfold visit
  split
  · exact ⟨hs, Nat.le_refl _⟩
  · rename_i hc
    have hnv : nb ∉ s.visited := by
      intro hm; exact hc (List.contains_iff_mem.mpr hm)
    have hnd : (nb :: s.visited).Nodup := List.nodup_cons.mpr ⟨hnv, hs.vnodup⟩
    have hvu : ∀ x ∈ nb :: s.visited, U x := by
      intro x hx
      rcases List.mem_cons.mp hx with rfl | hx
      · exact hnb
      · exact hs.vus x hx
    have hlen : s.visited.length + 1 ≤ g.size := by
      have := nodup_bound (nb :: s.visited) g.size hnd (fun x hx => hU x (hvu x hx))
      simpa using this
    dsimp only
    refine ite_bool_prop (P := fun t => LInv U dist ef t ∧ mu g t ≤ mu g s) _ _ _ ?_ ?_
    · refine ⟨⟨hnd, hvu, ?_, ?_, ?_, ?_⟩, ?_⟩
      · intro x hx
        have hx1 := trim_subset _ _ _ hx
        have hx2 := (hpush_perm leMax s.results (nb, dist nb)).subset hx1
        rcases List.mem_cons.mp hx2 with rfl | hx2
        · exact ⟨List.mem_cons_self .., rfl⟩
        · exact ⟨List.mem_cons_of_mem _ (hs.res x hx2).1, (hs.res x hx2).2⟩
      · intro x hx
        have hx2 := (hpush_perm leMin s.cands (nb, dist nb)).subset hx
        rcases List.mem_cons.mp hx2 with rfl | hx2
        · exact ⟨List.mem_cons_self .., rfl⟩
        · exact ⟨List.mem_cons_of_mem _ (hs.cand x hx2).1, (hs.cand x hx2).2⟩
      · apply trim_nodup
        refine ((hpush_perm leMax s.results (nb, dist nb)).map (·.1)).nodup_iff.mpr ?_
        rw [List.map_cons]
        refine List.nodup_cons.mpr ⟨?_, hs.rnodup⟩
        intro hm
        obtain ⟨y, hy, hy1⟩ := List.mem_map.mp hm
        have hy2 : y.1 = nb := hy1
        exact hnv (hy2 ▸ (hs.res y hy).1)
      · intro hef
        apply trim_ne_nil _ _ _ hef
        intro h0
        have := hpush_length leMax s.results (nb, dist nb)
        rw [h0] at this
        simp at this
      · unfold mu
        simp only [hpush_length, List.length_cons]
        omega
    · refine ⟨⟨hnd, hvu, ?_, ?_, hs.rnodup, hs.rne⟩, ?_⟩
      · intro x hx; exact ⟨List.mem_cons_of_mem _ (hs.res x hx).1, (hs.res x hx).2⟩
      · intro x hx; exact ⟨List.mem_cons_of_mem _ (hs.cand x hx).1, (hs.cand x hx).2⟩
      · unfold mu
        simp only [List.length_cons]
        omega

theorem fold_visit_inv (hU : ∀ x, U x → x < g.size) (dist : Nat → Nat) (ef : Nat) (nbrs : List Nat)
    (s : LState) (hs : LInv U dist ef s) (hnb : ∀ x ∈ nbrs, U x) :
    LInv U dist ef (nbrs.foldl (visit dist ef) s) ∧ mu g (nbrs.foldl (visit dist ef) s) ≤ mu g s := by
  induction nbrs generalizing s with
  | nil => exact ⟨hs, Nat.le_refl _⟩
  | cons nb rest ih =>
    rw [List.foldl_cons]
    have h1 := visit_inv hU dist ef s nb hs (hnb nb (List.mem_cons_self ..))
    have h2 := ih _ h1.1 (fun x hx => hnb x (List.mem_cons_of_mem _ hx))
    exact ⟨h2.1, Nat.le_trans h2.2 h1.2⟩

theorem pop_inv (g : Graph) (dist : Nat → Nat) (ef : Nat) (s : LState) (cur : Nb) (cands' : List Nb)
    (hs : LInv U dist ef s) (hp : hpop leMin s.cands = some (cur, cands')) :
    LInv U dist ef { s with cands := cands' } ∧ mu g { s with cands := cands' } + 1 = mu g s := by
  refine ⟨⟨hs.vnodup, hs.vus, hs.res, ?_, hs.rnodup, hs.rne⟩, ?_⟩
  · intro x hx
    exact hs.cand x ((hpop_perm _ _ _ _ hp).subset (List.mem_cons_of_mem _ hx))
  · have := hpop_length _ _ _ _ hp
    unfold mu
    simp only
    omega

theorem layerLoop_inv (hU : ∀ x, U x → x < g.size) (dist : Nat → Nat) (ef layer fuel : Nat) (s s' : LState)
    (hnb : ∀ id x, x ∈ g.nbrs id layer → U x)
    (hs : LInv U dist ef s) (h : layerLoop g dist ef layer fuel s = some s') :
    LInv U dist ef s' := by
  induction fuel generalizing s with
  | zero => simp [layerLoop] at h
  | succ n ih =>
    rw [layerLoop] at h
    split at h
    · cases h; exact hs
    · rename_i cur cands' hp
      have hpi := pop_inv g dist ef s cur cands' hs hp
      dsimp only at h
      rcases ite_bool_some _ _ _ _ h with h | h
      · cases h; exact hpi.1
      · exact ih _ (fold_visit_inv hU dist ef _ _ hpi.1 (fun x hx => hnb _ _ hx)).1 h

theorem layerLoop_some (hU : ∀ x, U x → x < g.size) (dist : Nat → Nat) (ef layer fuel : Nat) (s : LState)
    (hnb : ∀ id x, x ∈ g.nbrs id layer → U x)
    (hs : LInv U dist ef s) (hf : mu g s + 1 ≤ fuel) :
    (layerLoop g dist ef layer fuel s).isSome = true := by
  induction fuel generalizing s with
  | zero => omega
  | succ n ih =>
    rw [layerLoop]
    split
    · rfl
    · rename_i cur cands' hp
      have hpi := pop_inv g dist ef s cur cands' hs hp
      dsimp only
      refine ite_bool_prop (P := fun (t : Option LState) => t.isSome = true) _ _ _ rfl ?_
      have hf2 := fold_visit_inv hU dist ef (g.nbrs cur.1 layer) _ hpi.1 (fun x hx => hnb _ _ hx)
      exact ih _ hf2.1 (by omega)

theorem init_inv (dist : Nat → Nat) (ef entry : Nat) (he : U entry) :
    LInv U dist ef ⟨[entry], [(entry, dist entry)], [(entry, dist entry)]⟩ := by
  refine ⟨by simp, ?_, ?_, ?_, by simp, by simp⟩
  · intro x hx; simp only [List.mem_singleton] at hx; subst hx; exact he
  · intro x hx; simp only [List.mem_singleton] at hx; subst hx; exact ⟨List.mem_singleton.mpr rfl, rfl⟩
  · intro x hx; simp only [List.mem_singleton] at hx; subst hx; exact ⟨List.mem_singleton.mpr rfl, rfl⟩

/-- the fuel `searchLayer` gives the loop is enough: only `x < g.size` is needed of the visited ids -/
theorem layerLoop_terminates_of (hU : ∀ x, U x → x < g.size) (dist : Nat → Nat) (entry ef layer : Nat)
    (hnb : ∀ id x, x ∈ g.nbrs id layer → U x) (he : U entry) :
    (layerLoop g dist ef layer (g.size + 1)
      ⟨[entry], [(entry, dist entry)], [(entry, dist entry)]⟩).isSome = true := by
  apply layerLoop_some hU dist ef layer _ _ hnb (init_inv dist ef entry he)
  have := hU _ he
  unfold mu
  simp only [List.length_cons, List.length_nil]
  omega

end LayerSearch

theorem byDist_total (a b : Nb) : byDist a b = true ∨ byDist b a = true := by
  unfold byDist; simp only [decide_eq_true_eq]; omega

theorem byDist_trans (a b c : Nb) (h1 : byDist a b = true) (h2 : byDist b c = true) : byDist a c = true := by
  unfold byDist at *; simp only [decide_eq_true_eq] at *; omega

theorem searchLayer_spec (g : Graph) (hg : WF g) (dist : Nat → Nat) (entry ef layer : Nat)
    (he : Usable g entry layer) :
    ((searchLayer g dist entry ef layer).map (·.1)).Nodup ∧
    (∀ x ∈ searchLayer g dist entry ef layer, Usable g x.1 layer ∧ x.2 = dist x.1) ∧
    (searchLayer g dist entry ef layer).Pairwise (fun a b => a.2 ≤ b.2) ∧
    (0 < ef → searchLayer g dist entry ef layer ≠ []) := by
  have hU : ∀ x, Usable g x layer → x < g.size := fun _ h => h.1
  have hnb : ∀ id x, x ∈ g.nbrs id layer → Usable g x layer := fun _ _ hx => hg.1 _ _ _ hx
  have ht := layerLoop_terminates_of hU dist entry ef layer hnb he
  unfold searchLayer
  cases hl : layerLoop g dist ef layer (g.size + 1)
      ⟨[entry], [(entry, dist entry)], [(entry, dist entry)]⟩ with
  | none => rw [hl] at ht; cases ht
  | some s =>
    have hs := layerLoop_inv hU dist ef layer _ _ s hnb (init_inv dist ef entry he) hl
    have hperm := sortBy_perm byDist s.results
    dsimp only
    refine ⟨?_, ?_, ?_, ?_⟩
    · exact ((hperm.map (·.1)).nodup_iff).mpr hs.rnodup
    · intro x hx
      have hx' := hperm.subset hx
      exact ⟨hs.vus _ (hs.res x hx').1, (hs.res x hx').2⟩
    · have := sortBy_sorted byDist byDist_total byDist_trans s.results
      refine this.imp ?_
      intro a b hab
      unfold byDist at hab
      simpa using hab
    · intro hef h0
      have := hperm.length_eq
      rw [h0] at this
      have h1 := hs.rne hef
      cases hr : s.results with
      | nil => exact h1 hr
      | cons a b => rw [hr] at this; simp at this

/-- `g'` has the same nodes-with-layers skeleton, entry point and top layer as `g` -/
def Same (g g' : Graph) : Prop :=
  g'.size = g.size ∧ (∀ x, g'.layersOf x = g.layersOf x) ∧ g'.entry = g.entry ∧ g'.maxLayer = g.maxLayer

theorem Same.refl (g : Graph) : Same g g := ⟨rfl, fun _ => rfl, rfl, rfl⟩

theorem Same.trans {a b c : Graph} (h1 : Same a b) (h2 : Same b c) : Same a c :=
  ⟨h2.1.trans h1.1, fun x => (h2.2.1 x).trans (h1.2.1 x), h2.2.2.1.trans h1.2.2.1, h2.2.2.2.trans h1.2.2.2⟩

theorem Same.usable {a b : Graph} (h : Same a b) {x L : Nat} (hu : Usable a x L) : Usable b x L := by
  unfold Usable at *
  rw [h.1, h.2.1 x]
  exact hu

theorem sortNat_mem (l : List Nat) (x : Nat) : x ∈ sortNat l ↔ x ∈ l :=
  (sortBy_perm _ l).mem_iff

theorem setNbrs_same (g : Graph) (id layer : Nat) (ids : List Nat) : Same g (setNbrs g id layer ids) := by
  refine ⟨?_, ?_, rfl, rfl⟩
  · simp only [setNbrs, Graph.size, List.length_modify]
  · intro x
    simp only [setNbrs, Graph.layersOf, List.getD_eq_getElem?_getD, List.getElem?_modify]
    cases g.nodes[x]? with
    | none => rfl
    | some ls =>
      simp only [Option.map_eq_map, Option.map_some, Option.getD_some]
      split
      · exact List.length_set
      · rfl

theorem mem_setNbrs_nbrs (g : Graph) (id layer : Nat) (ids : List Nat) (id' layer' x : Nat)
    (h : x ∈ (setNbrs g id layer ids).nbrs id' layer') :
    x ∈ g.nbrs id' layer' ∨ (layer' = layer ∧ x ∈ ids) := by
  simp only [setNbrs, Graph.nbrs, List.getD_eq_getElem?_getD, List.getElem?_modify] at h ⊢
  cases hn : g.nodes[id']? with
  | none => rw [hn] at h; simp at h
  | some ls =>
    rw [hn] at h
    simp only [Option.map_eq_map, Option.map_some, Option.getD_some] at h ⊢
    split at h
    · rw [List.getElem?_set] at h
      split at h
      · rename_i hl
        split at h
        · simp only [Option.getD_some] at h
          exact Or.inr ⟨hl.symm, (sortNat_mem _ _).mp h⟩
        · simp at h
      · exact Or.inl h
    · exact Or.inl h

theorem setNbrs_wf (g : Graph) (id layer : Nat) (ids : List Nat) (hg : WF g)
    (hids : ∀ x ∈ ids, Usable g x layer) : WF (setNbrs g id layer ids) := by
  have hs := setNbrs_same g id layer ids
  refine ⟨?_, ?_, ?_, ?_⟩
  · intro id' layer' x hx
    apply hs.usable
    rcases mem_setNbrs_nbrs g id layer ids id' layer' x hx with h | ⟨rfl, h⟩
    · exact hg.1 _ _ _ h
    · exact hids x h
  · intro e he
    rw [hs.2.2.1] at he
    rw [hs.1, hs.2.2.2, hs.2.1]
    exact hg.2.1 e he
  · intro he
    rw [hs.2.2.1] at he
    rw [hs.1]
    exact hg.2.2.1 he
  · intro x hx
    rw [hs.1] at hx
    rw [hs.2.1]
    exact hg.2.2.2 x hx

theorem prune_mem (pd : Nat → Nat → Nat) (m nb : Nat) (ids : List Nat) (x : Nat)
    (h : x ∈ prune pd m nb ids) : x ∈ ids := by
  unfold prune at h
  obtain ⟨y, hy, rfl⟩ := List.mem_map.mp h
  have h1 := (sortBy_perm byDist _).subset (List.mem_of_mem_take hy)
  obtain ⟨z, hz, rfl⟩ := List.mem_map.mp h1
  exact hz

theorem linkBack_same (pd : Nat → Nat → Nat) (m layer newId : Nat) (g : Graph) (nb : Nat) :
    Same g (linkBack pd m layer newId g nb) := by
  unfold linkBack
  dsimp only
  split <;> exact setNbrs_same _ _ _ _

theorem linkBack_wf (pd : Nat → Nat → Nat) (m layer newId : Nat) (g : Graph) (nb : Nat) (hg : WF g)
    (hn : Usable g newId layer) : WF (linkBack pd m layer newId g nb) := by
  have hids : ∀ x ∈ sortNat (g.nbrs nb layer ++ [newId]), Usable g x layer := by
    intro x hx
    rcases List.mem_append.mp ((sortNat_mem _ _).mp hx) with h | h
    · exact hg.1 _ _ _ h
    · rw [List.mem_singleton.mp h]; exact hn
  unfold linkBack
  dsimp only
  split
  · exact setNbrs_wf _ _ _ _ hg (fun x hx => hids x (prune_mem _ _ _ _ _ hx))
  · exact setNbrs_wf _ _ _ _ hg hids

theorem fold_linkBack_wf (pd : Nat → Nat → Nat) (m layer newId : Nat) (sel : List Nat) (g : Graph)
    (hg : WF g) (hn : Usable g newId layer) :
    WF (sel.foldl (linkBack pd m layer newId) g) ∧ Same g (sel.foldl (linkBack pd m layer newId) g) := by
  induction sel generalizing g with
  | nil => exact ⟨hg, Same.refl g⟩
  | cons nb rest ih =>
    rw [List.foldl_cons]
    have hs := linkBack_same pd m layer newId g nb
    have h2 := ih _ (linkBack_wf pd m layer newId g nb hg hn) (hs.usable hn)
    exact ⟨h2.1, hs.trans h2.2⟩

theorem connectLayer_wf (cfg : Cfg) (pd : Nat → Nat → Nat) (dist : Nat → Nat) (newId : Nat)
    (acc : Graph × Nat) (layer : Nat) (hg : WF acc.1) (hc : Usable acc.1 acc.2 layer)
    (hn : Usable acc.1 newId layer) :
    WF (connectLayer cfg pd dist newId acc layer).1 ∧
    Same acc.1 (connectLayer cfg pd dist newId acc layer).1 ∧
    Usable (connectLayer cfg pd dist newId acc layer).1 (connectLayer cfg pd dist newId acc layer).2 layer := by
  have hsp := searchLayer_spec acc.1 hg dist acc.2 cfg.efc layer hc
  generalize hnb : searchLayer acc.1 dist acc.2 cfg.efc layer = neighbors at hsp
  generalize hm : (if layer = 0 then cfg.m0 else cfg.m) = m
  have hsel : ∀ x ∈ (neighbors.take m).map (·.1), Usable acc.1 x layer := by
    intro x hx
    obtain ⟨y, hy, rfl⟩ := List.mem_map.mp hx
    exact (hsp.2.1 y (List.mem_of_mem_take hy)).1
  have hg1 : WF (setNbrs acc.1 newId layer (acc.1.nbrs newId layer ++ (neighbors.take m).map (·.1))) := by
    apply setNbrs_wf _ _ _ _ hg
    intro x hx
    rcases List.mem_append.mp hx with h | h
    · exact hg.1 _ _ _ h
    · exact hsel x h
  have hs1 := setNbrs_same acc.1 newId layer (acc.1.nbrs newId layer ++ (neighbors.take m).map (·.1))
  have h2 := fold_linkBack_wf pd m layer newId ((neighbors.take m).map (·.1)) _ hg1 (hs1.usable hn)
  have hsame := hs1.trans h2.2
  unfold connectLayer
  dsimp only
  rw [hnb, hm]
  refine ⟨h2.1, hsame, ?_⟩
  apply hsame.usable
  split
  · rename_i n hhead
    exact (hsp.2.1 n (List.mem_of_mem_head? hhead)).1
  · exact hc

theorem fold_connect_wf (cfg : Cfg) (pd : Nat → Nat → Nat) (dist : Nat → Nat) (newId : Nat)
    (layers : List Nat) (acc : Graph × Nat) (hg : WF acc.1)
    (hu : ∀ l ∈ layers, Usable acc.1 acc.2 l ∧ Usable acc.1 newId l)
    (hp : layers.Pairwise (fun a b => b < a)) :
    WF (layers.foldl (connectLayer cfg pd dist newId) acc).1 ∧
    Same acc.1 (layers.foldl (connectLayer cfg pd dist newId) acc).1 := by
  induction layers generalizing acc with
  | nil => exact ⟨hg, Same.refl _⟩
  | cons L rest ih =>
    rw [List.foldl_cons]
    have hL := hu L (List.mem_cons_self ..)
    have hp' := List.pairwise_cons.mp hp
    have h1 := connectLayer_wf cfg pd dist newId acc L hg hL.1 hL.2
    have h2 := ih (connectLayer cfg pd dist newId acc L) h1.1 (by
      intro l hl
      refine ⟨h1.2.2.mono (Nat.le_of_lt (hp'.1 l hl)), ?_⟩
      exact h1.2.1.usable (hu l (List.mem_cons_of_mem _ hl)).2) hp'.2
    exact ⟨h2.1, h1.2.1.trans h2.2⟩

theorem wf_empty : WF Graph.empty := by
  refine ⟨?_, ?_, ?_, ?_⟩
  · intro id layer x hx
    simp [Graph.empty, Graph.nbrs] at hx
  · intro e he; cases he
  · intro _; rfl
  · intro id hid; simp [Graph.empty, Graph.size] at hid

/-- the graph with the new (unlinked) node appended -/
def pushNode (g : Graph) (level : Nat) : Graph :=
  { g with nodes := g.nodes ++ [List.replicate (level + 1) []] }

theorem pushNode_size (g : Graph) (level : Nat) : (pushNode g level).size = g.size + 1 := by
  simp [pushNode, Graph.size]

theorem pushNode_layersOf_old (g : Graph) (level x : Nat) (hx : x < g.size) :
    (pushNode g level).layersOf x = g.layersOf x := by
  unfold Graph.size at hx
  simp only [pushNode, Graph.layersOf, List.getD_eq_getElem?_getD]
  rw [List.getElem?_append_left hx]

theorem pushNode_layersOf_new (g : Graph) (level : Nat) :
    (pushNode g level).layersOf g.size = level + 1 := by
  simp [pushNode, Graph.layersOf, Graph.size, List.getD_eq_getElem?_getD]

theorem pushNode_nbrs_eq (g : Graph) (level id layer : Nat) :
    (pushNode g level).nbrs id layer = g.nbrs id layer := by
  simp only [pushNode, Graph.nbrs, List.getD_eq_getElem?_getD]
  by_cases hid : id < g.nodes.length
  · rw [List.getElem?_append_left hid]
  · rw [List.getElem?_append_right (by omega), List.getElem?_eq_none (l := g.nodes) (by omega)]
    by_cases h0 : id - g.nodes.length = 0
    · rw [h0]
      simp only [List.getElem?_cons_zero, Option.getD_some, Option.getD_none, List.getElem?_replicate,
        List.getElem?_nil]
      split <;> rfl
    · obtain ⟨k, hk⟩ := Nat.exists_eq_succ_of_ne_zero h0
      rw [hk]
      simp

theorem pushNode_core (g : Graph) (level : Nat) (hg : WF g) :
    (∀ id layer x, x ∈ (pushNode g level).nbrs id layer → Usable (pushNode g level) x layer) ∧
    (∀ id, id < (pushNode g level).size → 0 < (pushNode g level).layersOf id) := by
  constructor
  · intro id layer x hx
    have h1 := hg.1 _ _ _ (pushNode_nbrs_eq g level id layer ▸ hx)
    refine ⟨?_, ?_⟩
    · rw [pushNode_size]; omega
    · rw [pushNode_layersOf_old g level x h1.1]; exact h1.2
  · intro id hid
    rw [pushNode_size] at hid
    by_cases h : id < g.size
    · rw [pushNode_layersOf_old g level id h]; exact hg.2.2.2 id h
    · have : id = g.size := by omega
      rw [this, pushNode_layersOf_new]; omega

theorem pushNode_wf (g : Graph) (level : Nat) (hg : WF g) (hne : g.entry ≠ none) : WF (pushNode g level) := by
  have hcore := pushNode_core g level hg
  refine ⟨hcore.1, ?_, ?_, hcore.2⟩
  · intro e he
    have he' : g.entry = some e := he
    have hentry := hg.2.1 e he'
    refine ⟨by rw [pushNode_size]; omega, ?_⟩
    rw [pushNode_layersOf_old g level e hentry.1]
    exact hentry.2
  · intro he; exact absurd he hne

/-- pointing the entry at a usable node gives a well-formed graph; of `g` only the link and layer
    parts of `WF` are needed -/
theorem wf_with_entry (g : Graph) (e L : Nat)
    (h1 : ∀ id layer x, x ∈ g.nbrs id layer → Usable g x layer) (h4 : ∀ id, id < g.size → 0 < g.layersOf id)
    (hu : Usable g e L) : WF { g with entry := some e, maxLayer := L } :=
  ⟨h1, fun _ he => by cases he; exact hu, nofun, h4⟩

theorem insert_eq (cfg : Cfg) (pd : Nat → Nat → Nat) (g : Graph) (level : Nat) :
    insert cfg pd g level =
      match g.entry with
      | none => { pushNode g level with entry := some g.size, maxLayer := level }
      | some e =>
        let r := (layersDesc 0 (min level g.maxLayer)).foldl (connectLayer cfg pd (fun x => pd x g.size) g.size)
          (pushNode g level, descend (pushNode g level) (fun x => pd x g.size) e (level + 1) g.maxLayer)
        if g.maxLayer < level then { r.1 with entry := some g.size, maxLayer := level } else r.1 := rfl

theorem insert_wf_size (cfg : Cfg) (pd : Nat → Nat → Nat) (g : Graph) (level : Nat) (h : WF g) :
    WF (insert cfg pd g level) ∧ (insert cfg pd g level).size = g.size + 1 := by
  have hcore := pushNode_core g level h
  have hsz := pushNode_size g level
  have hnew := pushNode_layersOf_new g level
  rw [insert_eq]
  cases he : g.entry with
  | none => exact ⟨wf_with_entry _ _ _ hcore.1 hcore.2 ⟨by omega, by omega⟩, hsz⟩
  | some e =>
    dsimp only
    have hentry := h.2.1 e he
    have hg0 := pushNode_wf g level h (by rw [he]; nofun)
    have hue : Usable (pushNode g level) e g.maxLayer :=
      ⟨by omega, by rw [pushNode_layersOf_old g level e hentry.1]; exact hentry.2⟩
    have hcur := descend_usable (pushNode g level) hg0 (fun x => pd x g.size) e (level + 1) g.maxLayer hue
    have hfold := fold_connect_wf cfg pd (fun x => pd x g.size) g.size (layersDesc 0 (min level g.maxLayer))
      (pushNode g level, descend (pushNode g level) (fun x => pd x g.size) e (level + 1) g.maxLayer) hg0
      (by
        intro l hl
        have hl' := (layersDesc_mem hl).2
        exact ⟨hcur.mono (by omega), show g.size < (pushNode g level).size by omega,
          show l < (pushNode g level).layersOf g.size by omega⟩)
      (layersDesc_pairwise _ _)
    generalize (layersDesc 0 (min level g.maxLayer)).foldl
      (connectLayer cfg pd (fun x => pd x g.size) g.size)
      (pushNode g level, descend (pushNode g level) (fun x => pd x g.size) e (level + 1) g.maxLayer) = r at hfold
    obtain ⟨hw, hs⟩ := hfold
    have hs1 : r.1.size = g.size + 1 := hs.1.trans hsz
    split
    · exact ⟨wf_with_entry _ _ _ hw.1 hw.2.2.2 ⟨by omega, by rw [hs.2.1, hnew]; omega⟩, hs1⟩
    · exact ⟨hw, hs1⟩

theorem foldl_insert_wf (cfg : Cfg) (pd : Nat → Nat → Nat) (levels : List Nat) (g : Graph) (hg : WF g) :
    WF (levels.foldl (insert cfg pd) g) ∧ (levels.foldl (insert cfg pd) g).size = g.size + levels.length := by
  induction levels generalizing g with
  | nil => exact ⟨hg, rfl⟩
  | cons l rest ih =>
    rw [List.foldl_cons]
    have h1 := insert_wf_size cfg pd g l hg
    have h2 := ih _ h1.1
    refine ⟨h2.1, ?_⟩
    rw [h2.2, h1.2, List.length_cons]; omega

theorem filterMap_all_some_length {α β : Type} (f : α → Option β) (l : List α)
    (h : ∀ x ∈ l, (f x).isSome = true) : (l.filterMap f).length = l.length := by
  induction l with
  | nil => rfl
  | cons a rest ih =>
    have ha := h a (List.mem_cons_self ..)
    cases hfa : f a with
    | none => rw [hfa] at ha; cases ha
    | some b =>
      rw [List.filterMap_cons_some hfa, List.length_cons, List.length_cons,
        ih (fun x hx => h x (List.mem_cons_of_mem _ hx))]

/-! ### a complete layer is searched exhaustively -/

/-- layer 0 is complete: every node is linked to every other node -/
def Complete0 (g : Graph) : Prop := ∀ i j, i < g.size → j < g.size → i ≠ j → j ∈ g.nbrs i 0

theorem hpop_singleton {α : Type} (le : α → α → Bool) (x : α) : hpop le [x] = some (x, []) := rfl

theorem layerLoop_first (g : Graph) (dist : Nat → Nat) (ef layer fuel e d : Nat) :
    layerLoop g dist ef layer (fuel + 1) ⟨[e], [(e, d)], [(e, d)]⟩ =
      layerLoop g dist ef layer fuel ((g.nbrs e layer).foldl (visit dist ef) ⟨[e], [], [(e, d)]⟩) := by
  rw [layerLoop]
  simp only [hpop_singleton, List.head?_cons, Nat.lt_irrefl, decide_false, Bool.and_false,
    Bool.false_eq_true, if_false]

theorem trim_noop (ef fuel : Nat) (r : List Nb) (h : r.length ≤ ef) : trim ef fuel r = r := by
  cases fuel with
  | zero => rfl
  | succ n => rw [trim, if_neg (by omega)]

theorem visit_id (dist : Nat → Nat) (ef : Nat) (s : LState) (nb : Nat) (h : nb ∈ s.visited) :
    visit dist ef s nb = s := by
  unfold visit
  rw [if_pos (List.contains_iff_mem.mpr h)]

theorem fold_visit_id (dist : Nat → Nat) (ef : Nat) (l : List Nat) (s : LState)
    (h : ∀ x ∈ l, x ∈ s.visited) : l.foldl (visit dist ef) s = s := by
  induction l with
  | nil => rfl
  | cons nb rest ih =>
    rw [List.foldl_cons, visit_id dist ef s nb (h nb (List.mem_cons_self ..))]
    exact ih (fun x hx => h x (List.mem_cons_of_mem _ hx))

theorem visit_visited_mem (dist : Nat → Nat) (ef : Nat) (s : LState) (nb x : Nat)
    (h : x ∈ s.visited ∨ x = nb) : x ∈ (visit dist ef s nb).visited := by
  by_cases hc : nb ∈ s.visited
  · rw [visit_id dist ef s nb hc]
    rcases h with h | rfl
    · exact h
    · exact hc
  · have hv : (visit dist ef s nb).visited = nb :: s.visited := by
      unfold visit
      rw [if_neg (by intro hh; exact hc (List.contains_iff_mem.mp hh))]
      dsimp only
      exact ite_bool_prop (P := fun (t : LState) => t.visited = nb :: s.visited) _ _ _ rfl rfl
    rw [hv]
    rcases h with h | rfl
    · exact List.mem_cons_of_mem _ h
    · exact List.mem_cons_self ..

theorem fold_visit_visited_mem (dist : Nat → Nat) (ef : Nat) (l : List Nat) (s : LState) (x : Nat)
    (h : x ∈ s.visited ∨ x ∈ l) : x ∈ (l.foldl (visit dist ef) s).visited := by
  induction l generalizing s with
  | nil =>
    rcases h with h | h
    · exact h
    · cases h
  | cons nb rest ih =>
    rw [List.foldl_cons]
    apply ih
    rcases h with h | h
    · exact Or.inl (visit_visited_mem dist ef s nb x (Or.inl h))
    · rcases List.mem_cons.mp h with rfl | h
      · exact Or.inl (visit_visited_mem dist ef s x x (Or.inr rfl))
      · exact Or.inr h

theorem searchLayer_lt (g : Graph) (hg : WF g) (dist : Nat → Nat) (e ef layer n : Nat)
    (he : Usable g e layer) (hen : e < n) (hlt : ∀ id x, x ∈ g.nbrs id layer → x < n) :
    ∀ x ∈ searchLayer g dist e ef layer, x.1 < n := by
  intro x hx
  unfold searchLayer at hx
  cases hl : layerLoop g dist ef layer (g.size + 1) ⟨[e], [(e, dist e)], [(e, dist e)]⟩ with
  | none => rw [hl] at hx; cases hx
  | some s =>
    rw [hl] at hx
    have hs := layerLoop_inv (U := fun x => x < g.size ∧ x < n) (fun _ h => h.1) dist ef layer _ _ s
      (fun _ _ hx => ⟨(hg.1 _ _ _ hx).1, hlt _ _ hx⟩) (init_inv dist ef e ⟨he.1, hen⟩) hl
    exact (hs.vus _ (hs.res x ((sortBy_perm byDist s.results).subset hx)).1).2

/-- while the visited set still fits in the beam (`n ≤ ef`), every visited node stays in `results` -/
theorem visit_vres {U : Nat → Prop} {n : Nat} (hUn : ∀ x, U x → x < n) (dist : Nat → Nat) (ef : Nat)
    (s : LState) (nb : Nat) (hs : LInv U dist ef s) (hnb : U nb) (hn : n ≤ ef)
    (hc : ∀ x ∈ s.visited, x ∈ s.results.map (·.1)) :
    ∀ x ∈ (visit dist ef s nb).visited, x ∈ (visit dist ef s nb).results.map (·.1) := by
  by_cases hv : nb ∈ s.visited
  · rw [visit_id dist ef s nb hv]; exact hc
  · have hnd : (nb :: s.visited).Nodup := List.nodup_cons.mpr ⟨hv, hs.vnodup⟩
    have hlen : s.visited.length + 1 ≤ n := by
      have := nodup_bound (nb :: s.visited) n hnd (by
        intro x hx
        rcases List.mem_cons.mp hx with rfl | hx
        · exact hUn _ hnb
        · exact hUn _ (hs.vus x hx))
      simpa using this
    have hrl : s.results.length ≤ s.visited.length := by
      have := List.Nodup.length_le_of_subset hs.rnodup (l₂ := s.visited) (by
        intro x hx
        obtain ⟨y, hy, rfl⟩ := List.mem_map.mp hx
        exact (hs.res y hy).1)
      simpa using this
    have hadd : ∀ c : Bool, (decide (s.results.length < ef) || c) = true := fun c => by
      rw [decide_eq_true (by omega), Bool.true_or]
    unfold visit
    rw [if_neg (by intro hh; exact hv (List.contains_iff_mem.mp hh))]
    dsimp only
    rw [if_pos (hadd _), trim_noop _ _ _ (by rw [hpush_length]; omega)]
    intro x hx
    apply ((hpush_perm leMax s.results (nb, dist nb)).map (·.1)).symm.subset
    rw [List.map_cons]
    rcases List.mem_cons.mp hx with rfl | hx
    · exact List.mem_cons_self ..
    · exact List.mem_cons_of_mem _ (hc x hx)

theorem fold_visit_vres {U : Nat → Prop} {g : Graph} {n : Nat} (hU : ∀ x, U x → x < g.size)
    (hUn : ∀ x, U x → x < n) (dist : Nat → Nat) (ef : Nat) (l : List Nat) (s : LState)
    (hs : LInv U dist ef s) (hn : n ≤ ef) (hl : ∀ x ∈ l, U x)
    (hc : ∀ x ∈ s.visited, x ∈ s.results.map (·.1)) :
    ∀ x ∈ (l.foldl (visit dist ef) s).visited, x ∈ (l.foldl (visit dist ef) s).results.map (·.1) := by
  induction l generalizing s with
  | nil => exact hc
  | cons nb rest ih =>
    rw [List.foldl_cons]
    have hnb := hl nb (List.mem_cons_self ..)
    exact ih _ (visit_inv hU dist ef s nb hs hnb).1 (fun x hx => hl x (List.mem_cons_of_mem _ hx))
      (visit_vres hUn dist ef s nb hs hnb hn hc)

theorem layerLoop_results_const (g : Graph) (dist : Nat → Nat) (ef layer n fuel : Nat) (s s' : LState)
    (hlt : ∀ id x, x ∈ g.nbrs id layer → x < n) (hall : ∀ j, j < n → j ∈ s.visited)
    (h : layerLoop g dist ef layer fuel s = some s') : s'.results = s.results := by
  induction fuel generalizing s with
  | zero => simp [layerLoop] at h
  | succ m ih =>
    rw [layerLoop] at h
    split at h
    · cases h; rfl
    · rename_i cur cands' hp
      dsimp only at h
      rcases ite_bool_some _ _ _ _ h with h | h
      · cases h; rfl
      · rw [fold_visit_id dist ef (g.nbrs cur.1 layer) { s with cands := cands' }
          (fun x hx => hall x (hlt _ _ hx))] at h
        exact ih { s with cands := cands' } hall h

/-- **A star is searched exhaustively.**  If the entry is linked (on this layer) to every other id
    below `n`, the lists of the layer hold only ids below `n`, and the beam is at least `n`:
    the layer search returns every id below `n`. -/
theorem searchLayer_complete (g : Graph) (hg : WF g) (dist : Nat → Nat) (e ef layer n : Nat)
    (he : Usable g e layer) (hen : e < n) (hn : n ≤ ef)
    (hstar : ∀ j, j < n → j ≠ e → j ∈ g.nbrs e layer)
    (hlt : ∀ id x, x ∈ g.nbrs id layer → x < n) :
    ∀ j, j < n → j ∈ (searchLayer g dist e ef layer).map (·.1) := by
  intro j hj
  have hU : ∀ x, Usable g x layer ∧ x < n → x < g.size := fun _ h => h.1.1
  have hnbrs : ∀ id x, x ∈ g.nbrs id layer → Usable g x layer ∧ x < n :=
    fun _ _ hx => ⟨hg.1 _ _ _ hx, hlt _ _ hx⟩
  have ht := layerLoop_terminates_of hU dist e ef layer hnbrs ⟨he, hen⟩
  have hpi := (pop_inv g dist ef _ (e, dist e) [] (init_inv (U := fun x => Usable g x layer ∧ x < n) dist ef e ⟨he, hen⟩)
    (hpop_singleton leMin _)).1
  have hc1 := fold_visit_vres hU (fun _ h => h.2) dist ef (g.nbrs e layer) _ hpi hn (hnbrs e)
    (by intro x hx; rw [List.mem_singleton.mp hx]; exact List.mem_singleton.mpr rfl)
  have hall : ∀ i, i < n → i ∈ ((g.nbrs e layer).foldl (visit dist ef) ⟨[e], [], [(e, dist e)]⟩).visited := by
    intro i hi
    apply fold_visit_visited_mem
    by_cases hie : i = e
    · exact Or.inl (by rw [hie]; exact List.mem_singleton.mpr rfl)
    · exact Or.inr (hstar i hi hie)
  unfold searchLayer
  rw [layerLoop_first] at ht ⊢
  cases hl : layerLoop g dist ef layer g.size
      ((g.nbrs e layer).foldl (visit dist ef) ⟨[e], [], [(e, dist e)]⟩) with
  | none => rw [hl] at ht; cases ht
  | some s' =>
    dsimp only
    have hr := layerLoop_results_const g dist ef layer n _ _ s' hlt hall hl
    rw [hr]
    exact ((sortBy_perm byDist _).map (·.1)).symm.subset (hc1 j (hall j hj))

theorem searchLayer_complete_length (g : Graph) (hg : WF g) (dist : Nat → Nat) (e ef layer n : Nat)
    (he : Usable g e layer) (hen : e < n) (hn : n ≤ ef)
    (hstar : ∀ j, j < n → j ≠ e → j ∈ g.nbrs e layer)
    (hlt : ∀ id x, x ∈ g.nbrs id layer → x < n) :
    (searchLayer g dist e ef layer).length = n := by
  have h1 := searchLayer_complete g hg dist e ef layer n he hen hn hstar hlt
  have h2 := searchLayer_lt g hg dist e ef layer n he hen hlt
  have h3 := (searchLayer_spec g hg dist e ef layer he).1
  have ha := nodup_bound _ n h3 (by
    intro x hx
    obtain ⟨y, hy, rfl⟩ := List.mem_map.mp hx
    exact h2 y hy)
  have hb := List.Nodup.length_le_of_subset (List.nodup_range (n := n))
    (l₂ := (searchLayer g dist e ef layer).map (·.1)) (by
    intro x hx; exact h1 x (List.mem_range.mp hx))
  simp only [List.length_map, List.length_range] at ha hb
  omega

/-! ### a small index is complete on layer 0 -/

theorem setNbrs_nbrs_of_ne (g : Graph) (id layer : Nat) (ids : List Nat) (id' layer' : Nat)
    (h : id' ≠ id ∨ layer' ≠ layer) : (setNbrs g id layer ids).nbrs id' layer' = g.nbrs id' layer' := by
  simp only [setNbrs, Graph.nbrs, List.getD_eq_getElem?_getD, List.getElem?_modify]
  cases hn : g.nodes[id']? with
  | none => rfl
  | some ls =>
    simp only [Option.map_eq_map, Option.map_some, Option.getD_some]
    split
    · rename_i hid
      rcases h with h | h
      · exact absurd hid.symm h
      · rw [List.getElem?_set_ne (Ne.symm h)]
    · rfl

theorem setNbrs_nbrs_self (g : Graph) (id layer : Nat) (ids : List Nat)
    (hid : id < g.size) (hl : layer < g.layersOf id) :
    (setNbrs g id layer ids).nbrs id layer = sortNat ids := by
  unfold Graph.size at hid
  simp only [Graph.layersOf, List.getD_eq_getElem?_getD, List.getElem?_eq_getElem hid,
    Option.getD_some] at hl
  simp only [setNbrs, Graph.nbrs, List.getD_eq_getElem?_getD, List.getElem?_modify,
    List.getElem?_eq_getElem hid, Option.map_eq_map, Option.map_some, Option.getD_some, if_true]
  rw [List.getElem?_set_self hl]
  rfl

theorem linkBack_nbrs_of_ne (pd : Nat → Nat → Nat) (m layer newId : Nat) (g : Graph) (nb id' layer' : Nat)
    (h : id' ≠ nb ∨ layer' ≠ layer) :
    (linkBack pd m layer newId g nb).nbrs id' layer' = g.nbrs id' layer' := by
  unfold linkBack
  dsimp only
  split <;> exact setNbrs_nbrs_of_ne _ _ _ _ _ _ h

theorem fold_linkBack_nbrs_layer_ne (pd : Nat → Nat → Nat) (m layer newId : Nat) (sel : List Nat)
    (g : Graph) (id' layer' : Nat) (h : layer' ≠ layer) :
    (sel.foldl (linkBack pd m layer newId) g).nbrs id' layer' = g.nbrs id' layer' := by
  induction sel generalizing g with
  | nil => rfl
  | cons nb rest ih =>
    rw [List.foldl_cons, ih, linkBack_nbrs_of_ne _ _ _ _ _ _ _ _ (Or.inr h)]

theorem connectLayer_nbrs_layer_ne (cfg : Cfg) (pd : Nat → Nat → Nat) (dist : Nat → Nat) (newId : Nat)
    (acc : Graph × Nat) (layer id' layer' : Nat) (h : layer' ≠ layer) :
    (connectLayer cfg pd dist newId acc layer).1.nbrs id' layer' = acc.1.nbrs id' layer' := by
  unfold connectLayer
  dsimp only
  rw [fold_linkBack_nbrs_layer_ne _ _ _ _ _ _ _ _ h, setNbrs_nbrs_of_ne _ _ _ _ _ _ (Or.inr h)]

theorem linkBack_nbrs_self_noprune (pd : Nat → Nat → Nat) (m layer newId : Nat) (g : Graph) (nb : Nat)
    (hnb : nb < g.size) (hl : layer < g.layersOf nb) (hlen : (g.nbrs nb layer).length + 1 ≤ m) :
    ((linkBack pd m layer newId g nb).nbrs nb layer).Perm (newId :: g.nbrs nb layer) := by
  have hp : (sortNat (g.nbrs nb layer ++ [newId])).Perm (newId :: g.nbrs nb layer) :=
    (sortBy_perm _ _).trans List.perm_append_comm
  unfold linkBack
  dsimp only
  rw [if_neg (by rw [hp.length_eq, List.length_cons]; omega), setNbrs_nbrs_self g nb layer _ hnb hl]
  exact (sortBy_perm _ _).trans hp

theorem fold_linkBack_nbrs (pd : Nat → Nat → Nat) (m layer newId : Nat) (l : List Nat) (H : Graph)
    (hl : l.Nodup)
    (hc : ∀ nb ∈ l, nb < H.size ∧ layer < H.layersOf nb ∧ (H.nbrs nb layer).length + 1 ≤ m) :
    (∀ i, i ∉ l → (l.foldl (linkBack pd m layer newId) H).nbrs i layer = H.nbrs i layer) ∧
    (∀ i ∈ l, ((l.foldl (linkBack pd m layer newId) H).nbrs i layer).Perm (newId :: H.nbrs i layer)) := by
  induction l generalizing H with
  | nil =>
    refine ⟨fun _ _ => rfl, ?_⟩
    intro i hi; cases hi
  | cons nb rest ih =>
    rw [List.foldl_cons]
    have hnd := List.nodup_cons.mp hl
    have hsame := linkBack_same pd m layer newId H nb
    have hother : ∀ i, i ≠ nb → (linkBack pd m layer newId H nb).nbrs i layer = H.nbrs i layer :=
      fun i hi => linkBack_nbrs_of_ne _ _ _ _ _ _ _ _ (Or.inl hi)
    have hrest : ∀ x ∈ rest, x ≠ nb := fun x hx hxe => hnd.1 (hxe ▸ hx)
    have h2 := ih (linkBack pd m layer newId H nb) hnd.2 (by
      intro x hx
      have := hc x (List.mem_cons_of_mem _ hx)
      rw [hsame.1, hsame.2.1, hother x (hrest x hx)]
      exact this)
    have hnbc := hc nb (List.mem_cons_self ..)
    refine ⟨?_, ?_⟩
    · intro i hi
      have hi1 : i ≠ nb := fun h => hi (h ▸ List.mem_cons_self ..)
      have hi2 : i ∉ rest := fun h => hi (List.mem_cons_of_mem _ h)
      rw [h2.1 i hi2, hother i hi1]
    · intro i hi
      rcases List.mem_cons.mp hi with rfl | hi
      · rw [h2.1 i hnd.1]
        exact linkBack_nbrs_self_noprune pd m layer newId H i hnbc.1 hnbc.2.1 hnbc.2.2
      · have := h2.2 i hi
        rw [hother i (hrest i hi)] at this
        exact this

theorem descend_lt (g : Graph) (dist : Nat → Nat) (n cur lo hi : Nat)
    (hlt : ∀ layer id x, x ∈ g.nbrs id layer → x < n) (h : cur < n) :
    descend g dist cur lo hi < n := by
  unfold descend
  generalize layersDesc lo hi = ls
  induction ls generalizing cur with
  | nil => exact h
  | cons L rest ih =>
    rw [List.foldl_cons]
    exact ih _ (greedyF_closed (· < n) g dist L _ cur _ (hlt L) h)

/-- linking the new node `s` on layer 0 of a graph whose old nodes `0..s-1` form a complete layer 0 -/
theorem connectLayer0_complete (cfg : Cfg) (pd : Nat → Nat → Nat) (dist : Nat → Nat)
    (G : Graph) (cur s : Nat) (hw : WF G) (hsz : G.size = s + 1) (hcur : cur < s)
    (hold : ∀ i j, i < s → j < s → i ≠ j → j ∈ G.nbrs i 0)
    (hlt : ∀ i x, x ∈ G.nbrs i 0 → x < s)
    (hnd : ∀ i, (G.nbrs i 0).Nodup)
    (hsnil : G.nbrs s 0 = [])
    (hm : s + 1 ≤ cfg.m0) (he : s ≤ cfg.efc) :
    Complete0 (connectLayer cfg pd dist s (G, cur) 0).1 ∧
    ∀ i, ((connectLayer cfg pd dist s (G, cur) 0).1.nbrs i 0).Nodup := by
  have hucur : Usable G cur 0 := ⟨by omega, hw.2.2.2 cur (by omega)⟩
  have hus : Usable G s 0 := ⟨by omega, hw.2.2.2 s (by omega)⟩
  have hsame := (connectLayer_wf cfg pd dist s (G, cur) 0 hw hucur hus).2.1
  have hstar : ∀ j, j < s → j ≠ cur → j ∈ G.nbrs cur 0 := fun j hj hne => hold cur j hcur hj (Ne.symm hne)
  have hall := searchLayer_complete G hw dist cur cfg.efc 0 s hucur hcur he hstar hlt
  have hlts := searchLayer_lt G hw dist cur cfg.efc 0 s hucur hcur hlt
  have hlen := searchLayer_complete_length G hw dist cur cfg.efc 0 s hucur hcur he hstar hlt
  have hnodup := (searchLayer_spec G hw dist cur cfg.efc 0 hucur).1
  unfold connectLayer at hsame ⊢
  simp only [if_true] at hsame ⊢
  rw [List.take_of_length_le (by omega), hsnil, List.nil_append] at hsame ⊢
  generalize hsel : (searchLayer G dist cur cfg.efc 0).map (·.1) = sel at hsame hall hnodup ⊢
  have hselmem : ∀ j, j ∈ sel ↔ j < s := by
    intro j
    constructor
    · intro hj
      rw [← hsel] at hj
      obtain ⟨y, hy, rfl⟩ := List.mem_map.mp hj
      exact hlts y hy
    · exact hall j
  have hs1 := setNbrs_same G s 0 sel
  have hg1s : (setNbrs G s 0 sel).nbrs s 0 = sortNat sel := setNbrs_nbrs_self G s 0 sel hus.1 hus.2
  have hg1o : ∀ i, i ≠ s → (setNbrs G s 0 sel).nbrs i 0 = G.nbrs i 0 :=
    fun i hi => setNbrs_nbrs_of_ne G s 0 sel i 0 (Or.inl hi)
  have hfold := fold_linkBack_nbrs pd cfg.m0 0 s sel (setNbrs G s 0 sel) hnodup (by
    intro nb hnb
    have hnbs := (hselmem nb).mp hnb
    rw [hs1.1, hs1.2.1, hg1o nb (by omega)]
    refine ⟨by omega, hw.2.2.2 nb (by omega), ?_⟩
    have := nodup_bound (G.nbrs nb 0) s (hnd nb) (hlt nb)
    omega)
  generalize sel.foldl (linkBack pd cfg.m0 0 s) (setNbrs G s 0 sel) = G2 at hsame hfold ⊢
  have hold2 : ∀ i, i < s → (G2.nbrs i 0).Perm (s :: G.nbrs i 0) := by
    intro i hi
    have := hfold.2 i ((hselmem i).mpr hi)
    rw [hg1o i (by omega)] at this
    exact this
  have hnew2 : G2.nbrs s 0 = sortNat sel := by
    rw [hfold.1 s (fun h => by have := (hselmem s).mp h; omega), hg1s]
  refine ⟨?_, ?_⟩
  · intro i j hi hj hij
    rw [hsame.1, hsz] at hi hj
    by_cases his : i < s
    · apply (hold2 i his).symm.subset
      by_cases hjs : j < s
      · exact List.mem_cons_of_mem _ (hold i j his hjs hij)
      · have : j = s := by omega
        rw [this]; exact List.mem_cons_self ..
    · have : i = s := by omega
      subst this
      rw [hnew2]
      exact (sortNat_mem _ _).mpr ((hselmem j).mpr (by omega))
  · intro i
    by_cases his : i < s
    · refine (hold2 i his).nodup_iff.mpr (List.nodup_cons.mpr ⟨?_, hnd i⟩)
      intro hmem
      have := hlt i s hmem
      omega
    · by_cases hieq : i = s
      · rw [hieq, hnew2]
        exact (sortBy_perm _ sel).nodup_iff.mpr hnodup
      · rw [hfold.1 i (fun h => his ((hselmem i).mp h)), hg1o i hieq]
        exact hnd i

theorem fold_connect_complete (cfg : Cfg) (pd : Nat → Nat → Nat) (dist : Nat → Nat) (g : Graph) (s : Nat)
    (hgs : g.size = s) (hg : WF g) (hc : Complete0 g) (hnd : ∀ i, (g.nbrs i 0).Nodup)
    (hm : s + 1 ≤ cfg.m0) (he : s ≤ cfg.efc)
    (ls : List Nat) (acc : Graph × Nat)
    (hw : WF acc.1) (hsz : acc.1.size = s + 1) (hnew : ∀ l ∈ ls, l < acc.1.layersOf s)
    (hcur : acc.2 < s) (hu : ∀ l ∈ ls, Usable acc.1 acc.2 l)
    (heq : ∀ l ∈ ls, ∀ i, acc.1.nbrs i l = g.nbrs i l)
    (hp : ls.Pairwise (fun a b => b < a)) (h0 : 0 ∈ ls) :
    Complete0 (ls.foldl (connectLayer cfg pd dist s) acc).1 ∧
    ∀ i, ((ls.foldl (connectLayer cfg pd dist s) acc).1.nbrs i 0).Nodup := by
  induction ls generalizing acc with
  | nil => cases h0
  | cons L rest ih =>
    rw [List.foldl_cons]
    have hp' := List.pairwise_cons.mp hp
    by_cases hL : L = 0
    · subst hL
      have hrest : rest = [] := by
        cases rest with
        | nil => rfl
        | cons a b => have := hp'.1 a (List.mem_cons_self ..); omega
      subst hrest
      rw [List.foldl_nil]
      have heq0 := heq 0 (List.mem_cons_self ..)
      have := connectLayer0_complete cfg pd dist acc.1 acc.2 s hw hsz hcur
        (by intro i j hi hj hij; rw [heq0 i]; exact hc i j (by omega) (by omega) hij)
        (by intro i x hx; rw [heq0 i] at hx; have := (hg.1 _ _ _ hx).1; omega)
        (by intro i; rw [heq0 i]; exact hnd i)
        (by
          rw [heq0 s]
          unfold Graph.nbrs
          unfold Graph.size at hgs
          have hnone : g.nodes[s]? = none := List.getElem?_eq_none (by omega)
          simp only [List.getD_eq_getElem?_getD, hnone, Option.getD_none, List.getElem?_nil])
        hm he
      exact this
    · have hLmem := List.mem_cons_self (a := L) (l := rest)
      have h0' : 0 ∈ rest := by
        rcases List.mem_cons.mp h0 with h | h
        · exact absurd h.symm hL
        · exact h
      have hus : Usable acc.1 s L := ⟨by omega, hnew L hLmem⟩
      have hstep := connectLayer_wf cfg pd dist s acc L hw (hu L hLmem) hus
      apply ih (connectLayer cfg pd dist s acc L) hstep.1
      · rw [hstep.2.1.1]; exact hsz
      · intro l hl
        rw [hstep.2.1.2.1]
        exact hnew l (List.mem_cons_of_mem _ hl)
      · unfold connectLayer
        dsimp only
        split
        · rename_i n hhead
          exact searchLayer_lt acc.1 hw dist acc.2 cfg.efc L s (hu L hLmem) hcur
            (by intro id x hx; rw [heq L hLmem id] at hx; have := (hg.1 _ _ _ hx).1; omega)
            n (List.mem_of_mem_head? hhead)
        · exact hcur
      · intro l hl
        exact hstep.2.2.mono (Nat.le_of_lt (hp'.1 l hl))
      · intro l hl i
        rw [connectLayer_nbrs_layer_ne _ _ _ _ _ _ _ _ (by have := hp'.1 l hl; omega)]
        exact heq l (List.mem_cons_of_mem _ hl) i
      · exact hp'.2
      · exact h0'

theorem insert_complete (cfg : Cfg) (pd : Nat → Nat → Nat) (g : Graph) (level : Nat) (hg : WF g)
    (hc : Complete0 g) (hnd : ∀ i, (g.nbrs i 0).Nodup) (hm : g.size + 1 ≤ cfg.m0) (he : g.size ≤ cfg.efc) :
    Complete0 (insert cfg pd g level) ∧ ∀ i, ((insert cfg pd g level).nbrs i 0).Nodup := by
  rw [insert_eq]
  cases hent : g.entry with
  | none =>
    dsimp only
    have hs0 := hg.2.2.1 hent
    refine ⟨?_, ?_⟩
    · intro i j hi hj hij
      have hsz : (pushNode g level).size = g.size + 1 := pushNode_size g level
      have hi' : i < (pushNode g level).size := hi
      have hj' : j < (pushNode g level).size := hj
      omega
    · intro i
      show ((pushNode g level).nbrs i 0).Nodup
      rw [pushNode_nbrs_eq]; exact hnd i
  | some e =>
    dsimp only
    have hentry := hg.2.1 e hent
    have hg0 := pushNode_wf g level hg (by rw [hent]; intro h; cases h)
    have hsz := pushNode_size g level
    have hnew := pushNode_layersOf_new g level
    have hue : Usable (pushNode g level) e g.maxLayer :=
      ⟨by omega, by rw [pushNode_layersOf_old g level e hentry.1]; exact hentry.2⟩
    have hcur := descend_usable (pushNode g level) hg0 (fun x => pd x g.size) e (level + 1) g.maxLayer hue
    have hcurlt := descend_lt (pushNode g level) (fun x => pd x g.size) g.size e (level + 1) g.maxLayer
      (by intro layer id x hx; rw [pushNode_nbrs_eq] at hx; exact (hg.1 _ _ _ hx).1) hentry.1
    have hfold := fold_connect_complete cfg pd (fun x => pd x g.size) g g.size rfl hg hc hnd hm he
      (layersDesc 0 (min level g.maxLayer))
      (pushNode g level, descend (pushNode g level) (fun x => pd x g.size) e (level + 1) g.maxLayer)
      hg0 hsz
      (by intro l hl; have := (layersDesc_mem hl).2; rw [hnew]; omega)
      hcurlt
      (by intro l hl; have := (layersDesc_mem hl).2; exact hcur.mono (by omega))
      (by intro l _ i; exact pushNode_nbrs_eq g level i l)
      (layersDesc_pairwise _ _)
      (by unfold layersDesc; rw [List.mem_reverse, List.mem_range'_1]; omega)
    split
    · exact hfold
    · exact hfold

theorem foldl_insert_complete (cfg : Cfg) (pd : Nat → Nat → Nat) (levels : List Nat) (g : Graph)
    (hg : WF g) (hc : Complete0 g) (hnd : ∀ i, (g.nbrs i 0).Nodup)
    (hm : g.size + levels.length ≤ cfg.m0) (he : g.size + levels.length ≤ cfg.efc) :
    Complete0 (levels.foldl (insert cfg pd) g) := by
  induction levels generalizing g with
  | nil => exact hc
  | cons l rest ih =>
    rw [List.foldl_cons]
    rw [List.length_cons] at hm he
    have h1 := insert_wf_size cfg pd g l hg
    have h2 := insert_complete cfg pd g l hg hc hnd (by omega) (by omega)
    exact ih _ h1.1 h2.1 h2.2 (by rw [h1.2]; omega) (by rw [h1.2]; omega)

end Neumann.Vec.Hnsw
