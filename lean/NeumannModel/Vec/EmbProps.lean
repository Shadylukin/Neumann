import NeumannModel.Vec.EmbLemmas
import NeumannModel.Vec.HnswProps
/-
  C06 — property theorems about the node REPRESENTATIONS of the approximate index
  (`tensor_store::EmbeddingStorage::{Dense, Sparse}`, modelled in `EmbModel.lean`): the score an
  index reports for a node does not depend on the representation the node is held in, for every
  metric the index can be configured with, so "every returned key is reported with its true
  score" and "stored vectors read back exactly as written, whichever internal representation was
  chosen" hold of `insert` / `insert_auto` / `insert_sparse` nodes alike.
  ONLY property statements and their non-vacuity examples live here.

  Reading guide.  `nodeOf σ v` is the `EmbeddingStorage` that storage strategy `σ` makes of the
  vector `v`; `toDense intOps s` is `s.to_dense()` (what `get_vector` returns); `distDense m s q`
  is `s.distance_dense(q, m)` as exact ingredients (`Score`, see `Vec.Model`), `score m q v` the
  ingredients of the TRUE score of `v` for the query `q` — the ones `compute_score` of the
  exhaustive search uses.  `SpWF 0 d es` / `StoredWF s` is `SparseVector`'s invariant (positions
  strictly increasing and below the dimension).
-/
namespace Neumann.Vec.EmbProps
open Neumann.Vec Neumann.Vec.Hnsw

/-! ### nodes read back exactly as inserted -/

/-- Whatever the storage strategy, the node made of `v` is well formed, has `v`'s dimension, and
    `get_vector` reads back exactly `v` (on the exact-input domain: `-0.0` is the only `f32` the
    sparse form does not keep, see `repr_roundtrip_bits`). -/
theorem node_reads_back_as_inserted (σ : NodeStorage) (v : List Int) :
    toDense intOps (nodeOf σ v) = v ∧ StoredWF (nodeOf σ v) ∧ embDim (nodeOf σ v) = v.length := by
  refine ⟨toDense_nodeOf σ v, nodeOf_wf σ v, ?_⟩
  cases σ with
  | dense => rfl
  | auto => simp only [nodeOf, insertAuto]; split <;> rfl
  | sparse => rfl

/-! ### the `SparseVector` primitives compute on the dense image -/

/-- For EVERY pair of well-formed sparse vectors of one dimension and every dense vector `q`:
    `dot_dense`, `magnitude²`, the two-pointer `dot` and the two-pointer
    `euclidean_distance_squared` are the dot product / squared norm / squared distance of the
    vectors `to_dense` produces — no position is dropped, none is counted twice. -/
theorem sparse_primitives_compute_on_dense_image (d : Nat) (a b : List (Nat × Int)) (q : List Int)
    (ha : SpWF 0 d a) (hb : SpWF 0 d b) :
    spDotDense a q = dotI (toDense intOps (.sparse d a)) q ∧
    spNormSq a = normSq (toDense intOps (.sparse d a)) ∧
    spDot a b = dotI (toDense intOps (.sparse d a)) (toDense intOps (.sparse d b)) ∧
    spSqDist a b = sqDist (toDense intOps (.sparse d a)) (toDense intOps (.sparse d b)) :=
  ⟨spDotDense_eq d a q ha, spNormSq_eq d a ha, spDot_eq d a b ha hb, spSqDist_eq d a b ha hb⟩

/-- The two merges are structural recursions on a fuel; the fuel is never the reason they stop:
    any two fuels above the number of entries give the same result. -/
theorem merge_fuels_are_adequate (d : Nat) (a b : List (Nat × Int)) (f1 f2 : Nat)
    (ha : SpWF 0 d a) (hb : SpWF 0 d b) (h1 : a.length + b.length < f1) (h2 : a.length + b.length < f2) :
    spDotF f1 a b = spDotF f2 a b ∧ spSqDistF f1 a b = spSqDistF f2 a b := by
  have ha' : SpWF 0 (0 + d) a := by simpa using ha
  have hb' : SpWF 0 (0 + d) b := by simpa using hb
  exact ⟨by rw [spDotF_denseFrom d 0 a b f1 ha' hb' h1, spDotF_denseFrom d 0 a b f2 ha' hb' h2],
         by rw [spSqDistF_denseFrom d 0 a b f1 ha' hb' h1, spSqDistF_denseFrom d 0 a b f2 ha' hb' h2]⟩

/-! ### representation independence of every distance the index computes -/

/-- **`distance_dense` is representation independent.**  For EVERY metric, every well-formed node
    (dense, or sparse with any entry list) and every query: the ingredients `distance_dense`
    computes from the node's representation are the ingredients of the true score of the node's
    dense image.  In particular the query's components at positions where a sparse node is zero
    are accounted for (Euclidean), and nothing outside the node's support contributes to a dot
    product. -/
theorem distance_dense_is_representation_independent (m : Metric) (s : Stored Int) (q : List Int)
    (h : StoredWF s) : distDense m s q = score m q (toDense intOps s) :=
  distDense_eq m s q h

/-- ... so a vector scores the same whichever way it was inserted: the node `insert_auto` /
    `insert_sparse` / `insert` makes of `v` is scored exactly like `v` (no hypothesis left). -/
theorem sparse_node_scores_as_its_dense_image (m : Metric) (σ : NodeStorage) (v q : List Int) :
    distDense m (nodeOf σ v) q = score m q v ∧
    distDense m (nodeOf σ v) q = distDense m (.dense v) q := by
  have h1 := distDense_nodeOf m σ v q
  have h2 := distDense_nodeOf m .dense v q
  exact ⟨h1, by rw [h1]; exact h2.symm⟩

/-- **`distance_sparse`** (`search_sparse`: the QUERY is a sparse vector of the node's dimension)
    is representation independent in both arguments. -/
theorem distance_sparse_query_is_representation_independent (m : Metric) (s : Stored Int) (d : Nat)
    (qs : List (Nat × Int)) (hs : StoredWF s) (hq : SpWF 0 d qs) (hd : embDim s = d) :
    distSparse m s d qs = score m (toDense intOps (.sparse d qs)) (toDense intOps s) := by
  cases s with
  | dense v =>
    cases m <;> simp only [distSparse, score, embDotSparse, embNormSq, embSqDistSparse, toDense]
    · rw [spDotDense_eq d qs v hq]; rfl
    · rw [sqDist_comm]
    · rw [spDotDense_eq d qs v hq]; rfl
  | sparse d' es =>
    have hd' : d' = d := hd
    subst hd'
    have hw : SpWF 0 d' es := hs
    cases m <;> simp only [distSparse, score, embDotSparse, embNormSq, embSqDistSparse]
    · rw [spDot_eq d' es qs hw hq, spNormSq_eq d' es hw, dotI_comm]
    · rw [spSqDist_eq d' es qs hw hq, sqDist_comm]
    · rw [spDot_eq d' es qs hw hq, dotI_comm]

/-- **Node-to-node distances** (`try_distance_embeddings`, used when an over-full neighbour list
    is pruned): dot product, squared distance and squared magnitude of two nodes of one dimension
    are those of their dense images, for all four combinations of representations. -/
theorem node_to_node_distance_is_representation_independent (a b : Stored Int)
    (ha : StoredWF a) (hb : StoredWF b) (hd : embDim a = embDim b) :
    embDot a b = dotI (toDense intOps a) (toDense intOps b) ∧
    embSqDist a b = sqDist (toDense intOps a) (toDense intOps b) ∧
    embNormSq a = normSq (toDense intOps a) := by
  cases a with
  | dense va =>
    cases b with
    | dense vb => exact ⟨rfl, rfl, rfl⟩
    | sparse db eb =>
      have hw : SpWF 0 db eb := hb
      refine ⟨?_, ?_, rfl⟩
      · simp only [embDot]; rw [spDotDense_eq db eb va hw, dotI_comm]; rfl
      · simp only [embSqDist]; rw [sqDist_comm]; rfl
  | sparse da ea =>
    have hwa : SpWF 0 da ea := ha
    cases b with
    | dense vb =>
      refine ⟨?_, rfl, spNormSq_eq da ea hwa⟩
      simp only [embDot]; rw [spDotDense_eq da ea vb hwa]; rfl
    | sparse db eb =>
      have hdd : da = db := hd
      subst hdd
      have hwb : SpWF 0 da eb := hb
      exact ⟨spDot_eq da ea eb hwa hwb, spSqDist_eq da ea eb hwa hwb, spNormSq_eq da ea hwa⟩

/-! ### what an index over such nodes reports -/

/-- For EVERY storage strategy, metric, data set, query and EVERY list of node ids the graph
    search may select: the `(node id, score)` pairs `index.search` hands back are the node ids
    with the TRUE scores of the indexed vectors — the same pairs an index over dense nodes
    reports. -/
theorem index_reports_true_scores_for_every_storage (m : Metric) (σ : NodeStorage) (snap : Snap)
    (q : List Int) (ids : List Nat) :
    indexReport m (indexNodes σ snap) q ids
      = ids.filterMap fun i => (snap[i]?).map fun e => (i, score m q e.2) := by
  simp only [indexReport, indexNodes]
  have hf : (fun (i : Nat) => ((snap.map fun (e : String × List Int) => nodeOf σ e.2)[i]?).map
        fun (s : Stored Int) => (i, distDense m s q))
      = fun (i : Nat) => (snap[i]?).map fun (e : String × List Int) => (i, score m q e.2) := by
    funext i
    rw [List.getElem?_map]
    cases snap[i]? with
    | none => rfl
    | some e => simp only [Option.map_some, distDense_nodeOf]
  rw [hf]

/-- **Answer taken from an index of any storage strategy and any metric, end to end.**  `snap` =
    the data the index was built from, the index = ANY graph inserts could have produced over it
    (any configuration, level sequence, rounding of the distances), its nodes held the way
    strategy `σ` holds them, its metric `m`.  Whatever the graph search selects, the engine's
    answer (`search_with_hnsw`, or `search_in_collection` / `search_similar` answering from the
    cached index: node ids mapped to keys, sorted, truncated) has at most `k` entries, is ordered
    best first under `m`, names only indexed keys, names no key twice, and reports for each key
    the TRUE score under `m` of that key's indexed vector. -/
theorem index_answer_true_scores_any_storage_any_metric (snap : Snap) (hn : (snap.map (·.1)).Nodup)
    (m : Metric) (σ : NodeStorage)
    (cfg : Cfg) (pd : Nat → Nat → Nat) (levels : List Nat)
    (q : List Int) (dist : Nat → Nat) (k ef : Nat) :
    let ids := (searchEf (build cfg pd levels) dist k ef).map (·.1)
    let ans := postProcessAnnM m snap (indexReport m (indexNodes σ snap) q ids) k
    ans.length ≤ k ∧
    ans.Pairwise (fun a b => candBetter m a b = true) ∧
    (ans.map (·.key)).Nodup ∧
    (∀ c ∈ ans, ∃ vec, (c.key, vec) ∈ snap ∧ c.score = score m q vec) := by
  intro ids ans
  have hc := Hnsw.Props.search_contract (build cfg pd levels) (Hnsw.Props.build_wf cfg pd levels).1 dist k ef
  have hs := scored_ids snap (score m q) id ids
  simp only [id, List.map_id, ← index_reports_true_scores_for_every_storage m σ] at hs
  obtain ⟨h1, h2, _, h4, h5⟩ := postProcessAnnM_shape m snap q (indexReport m (indexNodes σ snap) q ids) k
  exact ⟨h1, h2, h4 hn (hc.2.1.sublist hs.1), h5 hs.2⟩

/-! ### the engine entry points -/

/-- **`build_hnsw_index_with_options` + `search_with_hnsw`.**  For every metric and storage
    strategy the outcome is the one of an index over DENSE nodes: the same argument errors, the
    same dimension guard, and when the index is consulted every indexed key of the query's
    dimension carries its true score under `m`; with the default metric it is the explicit-index
    path of `Vec.Model` (`searchWithHnsw`), whose theorems therefore hold of every storage
    strategy. -/
theorem explicit_index_search_is_storage_independent (m : Metric) (σ : NodeStorage) (snap : Snap)
    (q : List Int) (k : Nat) :
    searchWithHnswM m σ snap q k = searchWithHnswM m .dense snap q k ∧
    (∀ s rs cut k', searchWithHnswM m σ snap q k = .viaIndex s rs cut k' →
      s = snap ∧ (snap ≠ [] → rs = rank m (snapCandsM m snap q))) ∧
    searchWithHnswM .cosine σ snap q k = searchWithHnsw snap q k := by
  have hgen : ∀ (m' : Metric) (σ' : NodeStorage), searchWithHnswM m' σ' snap q k =
      (if q.isEmpty then SearchOut.err .emptyVector
       else if k = 0 then .err .invalidTopK
       else match snap with
         | e :: _ => if e.2.length != q.length then .err .dimMismatch
                     else .viaIndex snap (rank m' (snapCandsM m' snap q)) k k
         | [] => .viaIndex [] [] k k) := by
    intro m' σ'
    simp only [searchWithHnswM]
    cases snap with
    | nil => rfl
    | cons e rest => simp only [toDense_nodeOf, nodeCands_eq]
  refine ⟨by rw [hgen m σ, hgen m .dense], ?_, ?_⟩
  · intro s rs cut k' h
    rw [hgen m σ] at h
    split at h
    · cases h
    · split at h
      · cases h
      · cases snap with
        | nil =>
          simp only [SearchOut.viaIndex.injEq] at h
          exact ⟨h.1.symm, fun hne => absurd rfl hne⟩
        | cons e rest =>
          simp only at h
          split at h
          · cases h
          · simp only [SearchOut.viaIndex.injEq] at h
            exact ⟨h.1.symm, fun _ => h.2.1.symm⟩
  · rw [hgen .cosine σ]
    simp only [searchWithHnsw]
    cases snap with
    | nil => rfl
    | cons e rest => rfl

/-- **`search_in_collection` answering from a cached index of the collection's metric.**  For
    EVERY metric and EVERY sequence of store / delete / index-with-any-storage-strategy /
    invalidate operations on the collection: whenever the search is answered from the cached
    index, that index is one over exactly the vectors stored NOW, and the candidates it scores
    from its nodes' representations are the current keys with their true scores under the
    collection's metric — the very list the exhaustive scan ranks. -/
theorem cached_index_of_collection_metric_reports_true_scores (m : Metric) (ops : List EOp)
    (q : List Int) (k : Nat) (snap : Snap) (rs : List Cand) (cut k' : Nat)
    (h : ((ECol.init m).run ops).search q k = .viaIndex snap rs cut k') :
    snap = ((ECol.init m).run ops).items ∧
    rs = rank m (snapCandsM m ((ECol.init m).run ops).items q) := by
  have hf := efresh_run ops (ECol.init m) (fun _ h => nomatch h)
  have hm : ((ECol.init m).run ops).metric = m := by rw [emetric_run]; rfl
  have := ecol_search_viaIndex _ hf q k snap rs cut k' h
  rw [hm] at this
  exact this

/-! ### the shortcut that breaks it -/

/-- A sparse Euclidean arm that sums `(val - query[pos])²` over the node's stored entries only
    (`distDenseSupport`) is NOT representation independent: for the sparse-stored `a = [1,0,0,0]`
    and the query `[1,0,0,2]` it computes squared distance `0` where the truth is `4`; an index
    over `a`, `b = [0,0,0,3]` then ranks `a` before `b` although `b` is the nearer vector (true
    squared distances `4` and `2`), while the code's arm ranks `b` first. -/
theorem sparse_euclid_over_support_only_witness :
    distDenseSupport .euclid (nodeOf .auto [1, 0, 0, 0]) [1, 0, 0, 2] = ⟨0, 0⟩ ∧
    score .euclid [1, 0, 0, 2] [1, 0, 0, 0] = ⟨4, 0⟩ ∧
    (postProcessAnnM .euclid [("a", [1, 0, 0, 0]), ("b", [0, 0, 0, 3])]
      (indexReportSupport .euclid (indexNodes .auto [("a", [1, 0, 0, 0]), ("b", [0, 0, 0, 3])]) [1, 0, 0, 2] [0, 1]) 2).map
        (fun c => (c.key, c.score.p)) = [("a", 0), ("b", 1)] ∧
    (postProcessAnnM .euclid [("a", [1, 0, 0, 0]), ("b", [0, 0, 0, 3])]
      (indexReport .euclid (indexNodes .auto [("a", [1, 0, 0, 0]), ("b", [0, 0, 0, 3])]) [1, 0, 0, 2] [0, 1]) 2).map
        (fun c => (c.key, c.score.p)) = [("b", 2), ("a", 4)] := by decide +kernel

/-- ... and that shortcut differs from the code ONLY on sparse nodes under the Euclidean metric:
    dense nodes and the other two metrics are untouched (why an index over dense nodes, or a
    cosine index over sparse nodes, does not notice). -/
theorem support_only_shortcut_differs_only_on_sparse_euclid (m : Metric) (s : Stored Int) (q : List Int)
    (h : m ≠ .euclid ∨ ∃ v, s = .dense v) : distDenseSupport m s q = distDense m s q := by
  rcases h with h | ⟨v, rfl⟩
  · cases m <;> first | rfl | exact absurd rfl h
  · cases m <;> rfl

/-! ### Non-vacuity -/

-- a well-formed sparse node that `from_dense` would NOT produce (an explicit zero entry), and a
-- query with mass outside its support
example : StoredWF (.sparse 5 [(1, 2), (3, 0), (4, -1)]) := by simp [StoredWF, SpWF]
example : distDense .euclid (.sparse 5 [(1, 2), (3, 0), (4, -1)]) [7, 2, 0, 0, 0] = ⟨50, 0⟩ := by decide +kernel
example : distDense .cosine (.sparse 5 [(1, 2), (3, 0), (4, -1)]) [7, 2, 0, 0, 0] = ⟨4, 5⟩ := by decide +kernel
-- `insert_auto` really chooses both forms
example : nodeOf .auto [0, 0, 5, 0] = .sparse 4 [(2, 5)] := by decide +kernel
example : nodeOf .auto [1, 2, 0] = .dense [1, 2, 0] := by decide +kernel
-- the merges really skip and really count one-sided positions
example : spDot [(0, 2), (3, 5)] [(1, 7), (3, 4), (6, 1)] = 20 := by decide +kernel
example : spSqDist [(0, 2), (3, 5)] [(1, 7), (3, 4), (6, 1)] = 4 + 49 + 1 + 1 := by decide +kernel
example : embDim (.sparse 7 [(0, 2), (3, 5)]) = embDim (.sparse 7 [(1, 7), (3, 4), (6, 1)]) := rfl
-- an index really is consulted by the collection machine, after a rebuild with another storage
example : (match ((ECol.init .euclid).run [.store "a" [1, 0, 0, 0], .store "b" [0, 0, 0, 3], .build .dense,
      .store "c" [0, 2, 0, 0], .build .auto]).search [1, 0, 0, 2] 2 with
    | .viaIndex _ rs _ _ => rs.map (fun c => (c.key, c.score.p)) | _ => []) = [("b", 2), ("a", 4), ("c", 9)] := by decide +kernel
-- the explicit-index path under a non-default metric
example : (match searchWithHnswM .dot .sparse [("a", [1, 0, 0, 0]), ("b", [0, 0, 0, 3])] [1, 0, 0, 2] 1 with
    | .viaIndex _ rs _ _ => rs.map (fun c => (c.key, c.score.p)) | _ => []) = [("b", 6), ("a", 1)] := by decide +kernel

end Neumann.Vec.EmbProps
