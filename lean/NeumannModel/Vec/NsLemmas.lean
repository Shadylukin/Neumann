import NeumannModel.Vec.NsModel
import NeumannModel.Vec.Lemmas
namespace Neumann.Vec

theorem hasPrefix_iff (p s : String) : hasPrefix p s = true ↔ ∃ k, s = p ++ k := by
  simp only [hasPrefix, List.isPrefixOf_iff_prefix]
  constructor
  · rintro ⟨t, ht⟩
    refine ⟨String.ofList t, ?_⟩
    rw [String.ext_iff, String.toList_append, String.toList_ofList, ht]
  · rintro ⟨k, rfl⟩
    exact ⟨k.toList, by rw [String.toList_append]⟩

theorem hasPrefix_append (p k : String) : hasPrefix p (p ++ k) = true :=
  (hasPrefix_iff _ _).2 ⟨k, rfl⟩

theorem stripPrefix?_append (p k : String) : stripPrefix? p (p ++ k) = some k := by
  simp only [stripPrefix?, hasPrefix_append, if_true, String.toList_append, List.drop_left,
    String.ofList_toList]

theorem stripPrefix?_eq_some (p s k : String) : stripPrefix? p s = some k ↔ s = p ++ k := by
  constructor
  · intro h
    simp only [stripPrefix?] at h
    split at h
    · rename_i hp
      obtain ⟨k', rfl⟩ := (hasPrefix_iff _ _).1 hp
      simp only [String.toList_append, List.drop_left, String.ofList_toList, Option.some.injEq] at h
      rw [h]
    · cases h
  · rintro rfl
    exact stripPrefix?_append p k

theorem stripOr_append (p k : String) : stripOr p (p ++ k) = k := by
  simp only [stripOr, stripPrefix?_append, Option.getD_some]

theorem stripOr_embKey (key : String) : stripOr embPrefix (embKey key) = key :=
  stripOr_append _ _

theorem append_left_cancel_str (p a b : String) (h : p ++ a = p ++ b) : a = b := by
  rw [String.ext_iff, String.toList_append, String.toList_append] at h
  exact String.ext_iff.2 (List.append_cancel_left h)

theorem embKey_inj (a b : String) (h : embKey a = embKey b) : a = b :=
  append_left_cancel_str _ _ _ h

theorem collKey_inj_key (c a b : String) (h : collKey c a = collKey c b) : a = b :=
  append_left_cancel_str _ _ _ h

theorem sep_prefix_eq (a b x y : List Char) (ha : ':' ∉ a) (hb : ':' ∉ b)
    (h : (a ++ ':' :: x) <+: (b ++ ':' :: y)) : a = b := by
  induction a generalizing b with
  | nil =>
    cases b with
    | nil => rfl
    | cons d b' =>
      obtain ⟨t, ht⟩ := h
      simp only [List.nil_append, List.cons_append, List.cons.injEq] at ht
      exact absurd (ht.1 ▸ List.mem_cons_self) hb
  | cons ch a' ih =>
    cases b with
    | nil =>
      obtain ⟨t, ht⟩ := h
      simp only [List.nil_append, List.cons_append, List.cons.injEq] at ht
      exact absurd (ht.1 ▸ List.mem_cons_self) ha
    | cons d b' =>
      obtain ⟨t, ht⟩ := h
      simp only [List.cons_append, List.cons.injEq] at ht
      obtain ⟨rfl, ht⟩ := ht
      have := ih b' (fun hm => ha (List.mem_cons_of_mem _ hm)) (fun hm => hb (List.mem_cons_of_mem _ hm)) ⟨t, ht⟩
      rw [this]

def viewL (p : String) (l : List (String × Item)) : Items :=
  l.filterMap fun e => (stripPrefix? p e.1).map fun k => (k, e.2)

theorem stripPrefix?_none_of_not_hasPrefix (p s : String) (h : hasPrefix p s = false) :
    stripPrefix? p s = none := by
  simp only [stripPrefix?, h, Bool.false_eq_true, if_false]

/-- an entry lies outside the prefix, or is `(p ++ k, it)` -/
theorem strip_cases (p s : String) :
    (hasPrefix p s = false ∧ stripPrefix? p s = none) ∨ ∃ k, s = p ++ k ∧ stripPrefix? p s = some k := by
  cases hp : hasPrefix p s
  · exact .inl ⟨rfl, stripPrefix?_none_of_not_hasPrefix p s hp⟩
  · obtain ⟨k, rfl⟩ := (hasPrefix_iff _ _).1 hp
    exact .inr ⟨k, rfl, stripPrefix?_append p k⟩

theorem view_eq_viewL (fs : Flat) (p : String) : fs.view p = viewL p fs.store := by
  simp only [Flat.view, Flat.scan, viewL]
  induction fs.store with
  | nil => rfl
  | cons e es ih =>
    simp only [List.filter_cons]
    cases hp : hasPrefix p e.1
    · simp only [Bool.false_eq_true, if_false, List.filterMap_cons,
        stripPrefix?_none_of_not_hasPrefix p e.1 hp, Option.map_none]
      exact ih
    · simp only [if_true, List.filterMap_cons]
      rw [ih]

theorem viewL_cons_in (p k : String) (it : Item) (es : List (String × Item)) :
    viewL p ((p ++ k, it) :: es) = (k, it) :: viewL p es := by
  simp only [viewL, List.filterMap_cons, stripPrefix?_append, Option.map_some]

theorem viewL_cons_out (p : String) (e : String × Item) (es : List (String × Item))
    (h : hasPrefix p e.1 = false) : viewL p (e :: es) = viewL p es := by
  simp only [viewL, List.filterMap_cons, stripPrefix?_none_of_not_hasPrefix p e.1 h, Option.map_none]

theorem ne_of_not_hasPrefix (p s k : String) (h : hasPrefix p s = false) : s ≠ p ++ k := by
  rintro rfl
  rw [hasPrefix_append] at h
  cases h

theorem beq_append_iff (p a b : String) : ((p ++ a) == (p ++ b)) = (a == b) := by
  by_cases h : a = b
  · subst h; simp
  · have : p ++ a ≠ p ++ b := fun h' => h (append_left_cancel_str p a b h')
    simp [h, this]

theorem alHas_viewL (p k : String) (l : List (String × Item)) :
    alHas (viewL p l) k = alHas l (p ++ k) := by
  unfold alHas viewL
  rw [List.any_filterMap]
  refine List.any_congr rfl fun ⟨s, it⟩ => ?_
  rcases strip_cases p s with ⟨hp, hs⟩ | ⟨k', rfl, hs⟩
  · simp [hs, ne_of_not_hasPrefix p s k hp]
  · simp [stripPrefix?_append, beq_append_iff]

theorem alGet_viewL (p k : String) (l : List (String × Item)) :
    alGet (viewL p l) k = alGet l (p ++ k) := by
  induction l with
  | nil => rfl
  | cons e es ih =>
    cases hp : hasPrefix p e.1
    · rw [viewL_cons_out p e es hp, ih]
      have : (e.1 == p ++ k) = false := by simpa using ne_of_not_hasPrefix p e.1 k hp
      simp only [alGet, List.find?_cons, this]
    · obtain ⟨k', hk'⟩ := (hasPrefix_iff _ _).1 hp
      obtain ⟨e1, e2⟩ := e
      simp only at hk'
      subst hk'
      rw [viewL_cons_in]
      simp only [alGet, List.find?_cons, beq_append_iff] at ih ⊢
      cases k' == k
      · simp only; exact ih
      · rfl

theorem viewL_replace (p k : String) (v : Item) (l : List (String × Item)) :
    viewL p (l.map fun e => if e.1 == p ++ k then (p ++ k, v) else e)
      = (viewL p l).map fun e => if e.1 == k then (k, v) else e := by
  unfold viewL
  rw [List.filterMap_map, List.map_filterMap]
  refine congrArg (List.filterMap · l) (funext fun e => ?_)
  obtain ⟨s, it⟩ := e
  rcases strip_cases p s with ⟨hp, hs⟩ | ⟨k', rfl, hs⟩
  · simp [hs, ne_of_not_hasPrefix p s k hp]
  · by_cases hkk : k' = k <;> simp [stripPrefix?_append, hkk]

theorem viewL_append (p : String) (a b : List (String × Item)) :
    viewL p (a ++ b) = viewL p a ++ viewL p b := by
  simp only [viewL, List.filterMap_append]

theorem viewL_alPut_in (p k : String) (v : Item) (l : List (String × Item)) :
    viewL p (alPut l (p ++ k) v) = alPut (viewL p l) k v := by
  simp only [alPut, alHas_viewL]
  split
  · exact viewL_replace p k v l
  · rw [viewL_append, viewL_cons_in]
    rfl

theorem viewL_alDel_in (p k : String) (l : List (String × Item)) :
    viewL p (alDel l (p ++ k)) = alDel (viewL p l) k := by
  unfold viewL alDel
  rw [List.filterMap_filter, List.filter_filterMap]
  refine congrArg (List.filterMap · l) (funext fun e => ?_)
  obtain ⟨s, it⟩ := e
  rcases strip_cases p s with ⟨hp, hs⟩ | ⟨k', rfl, hs⟩
  · simp [hs]
  · by_cases hkk : k' = k <;> simp [stripPrefix?_append, beq_append_iff, hkk, Option.filter]

theorem viewL_replace_out (p sk : String) (v : Item) (l : List (String × Item))
    (h : hasPrefix p sk = false) :
    viewL p (l.map fun e => if e.1 == sk then (sk, v) else e) = viewL p l := by
  unfold viewL
  rw [List.filterMap_map]
  refine congrArg (List.filterMap · l) (funext fun e => ?_)
  simp only [Function.comp]
  split
  · next he => rw [beq_iff_eq.mp he, stripPrefix?_none_of_not_hasPrefix p sk h]; rfl
  · rfl

theorem viewL_alPut_out (p sk : String) (v : Item) (l : List (String × Item))
    (h : hasPrefix p sk = false) : viewL p (alPut l sk v) = viewL p l := by
  simp only [alPut]
  split
  · exact viewL_replace_out p sk v l h
  · rw [viewL_append, viewL_cons_out p (sk, v) [] h]
    simp [viewL]

theorem viewL_alDel_out (p sk : String) (l : List (String × Item))
    (h : hasPrefix p sk = false) : viewL p (alDel l sk) = viewL p l := by
  unfold viewL alDel
  rw [List.filterMap_filter]
  refine congrArg (List.filterMap · l) (funext fun e => ?_)
  by_cases he : e.1 = sk
  · simp [he, stripPrefix?_none_of_not_hasPrefix p sk h]
  · simp [he]

/-! ### build_hnsw_index at the flat layer indexes the view -/

theorem mem_viewL (p : String) (l : List (String × Item)) (k : String) (it : Item)
    (h : (k, it) ∈ viewL p l) : (p ++ k, it) ∈ l := by
  simp only [viewL, List.mem_filterMap, Option.map_eq_some_iff] at h
  obtain ⟨e, he, k', hk', heq⟩ := h
  simp only [Prod.mk.injEq] at heq
  obtain ⟨rfl, rfl⟩ := heq
  have := (stripPrefix?_eq_some p e.1 k').1 hk'
  rw [← this]
  exact he

theorem buildSnap_eq (fs : Flat) (hn : (fs.store.map (·.1)).Nodup) :
    fs.buildSnap = snapOf (fs.view embPrefix) := by
  simp only [Flat.buildSnap, Flat.listKeys, snapOf, List.filterMap_map]
  apply filterMap_eq_map_of
  intro e he
  rw [view_eq_viewL] at he
  have hm := mem_viewL embPrefix fs.store e.1 e.2 he
  have hg : alGet fs.store (embKey e.1) = some e.2 := alGet_of_mem_nodup _ _ _ hn hm
  simp only [Function.comp, Flat.getDefault, hg, Option.map_some]

theorem snapSameDims_snapOf (items : Items) : snapSameDims (snapOf items) = sameDims items := by
  cases items with
  | nil => rfl
  | cons e rest =>
    simp only [snapOf, List.map_cons, snapSameDims, sameDims, List.all_map]
    rfl

theorem reportSnap_embKey (s : Snap) :
    reportSnap embPrefix (s.map fun e => (embKey e.1, e.2)) = s := by
  simp only [reportSnap, List.map_map]
  conv => rhs; rw [← List.map_id s]
  apply List.map_congr_left
  intro e _
  simp only [Function.comp, stripOr_embKey, id]

theorem indexUsable_reportSnap (p : String) (s : Snap) (q : List Int) :
    indexUsable (reportSnap p s) q = indexUsable s q := by
  cases s <;> rfl

theorem snapCands_none_cur (s : Snap) (cur cur' : Items) (q : List Int) :
    snapCands s cur q none = snapCands s cur' q none := rfl

theorem toList_coll : "coll:".toList = ['c', 'o', 'l', 'l', ':'] := by decide +kernel
theorem toList_emb : "emb:".toList = ['e', 'm', 'b', ':'] := by decide +kernel

/-- `emb:` and `coll:` differ in their first character: neither kind of key falls under the other's prefix -/
theorem not_hasPrefix_emb_collKey (c key : String) : hasPrefix embPrefix (collKey c key) = false := by
  simp only [hasPrefix, collKey, collPrefix, embPrefix, String.toList_append, toList_coll, toList_emb]
  simp [List.isPrefixOf]

theorem not_hasPrefix_coll_embKey (c key : String) : hasPrefix (collPrefix c) (embKey key) = false := by
  simp only [hasPrefix, embKey, collPrefix, embPrefix, String.toList_append, toList_coll, toList_emb]
  simp [List.isPrefixOf]

/-! ### the default collection of the flat layer is the default collection of `Vec.Model` -/

/-- what ties a flat state to a `Vec.Model` state as far as the default collection goes -/
def DefaultRel (fs : Flat) (st : State) : Prop :=
  viewL embPrefix fs.store = st.dflt.items ∧
  (alGet fs.slots defaultSlot).map (reportSnap embPrefix) = st.dflt.cache ∧
  (fs.store.map (·.1)).Nodup

def stepProj (st : State) (op : FOp) : State :=
  match op.toOp? with
  | some o => (step st o).1
  | none => st

theorem defaultRel_step (fs : Flat) (st : State) (op : FOp) (h : DefaultRel fs st)
    (ha : op.avoidsDefaultSlot = true) : DefaultRel (fstep fs op) (stepProj st op) := by
  obtain ⟨hv, hc, hn⟩ := h
  cases op with
  | store key v =>
    simp only [fstep, fstepWith, stepProj, FOp.toOp?, step]
    split
    · exact ⟨hv, hc, hn⟩
    · refine ⟨?_, ?_, alPut_nodup _ _ _ hn⟩
      · simp only [embKey]
        rw [viewL_alPut_in, hv]
      · simp only [alGet_alDel_self, Option.map_none]
  | delete key =>
    simp only [fstep, fstepWith, stepProj, FOp.toOp?, step]
    have hh : alHas fs.store (embKey key) = alHas st.dflt.items key := by
      rw [← hv, alHas_viewL]; rfl
    rw [hh]
    split
    · refine ⟨?_, ?_, alDel_nodup _ _ hn⟩
      · simp only [embKey]
        rw [viewL_alDel_in, hv]
      · simp only [alGet_alDel_self, Option.map_none]
    · exact ⟨hv, hc, hn⟩
  | cstore c key v =>
    simp only [FOp.avoidsDefaultSlot, bne_iff_ne, ne_eq] at ha
    simp only [fstep, fstepWith, stepProj, FOp.toOp?]
    split
    · exact ⟨hv, hc, hn⟩
    · refine ⟨?_, ?_, alPut_nodup _ _ _ hn⟩
      · simp only
        rw [viewL_alPut_out _ _ _ _ (not_hasPrefix_emb_collKey c key), hv]
      · simp only
        rw [alGet_alDel_ne _ _ _ (Ne.symm ha)]
        exact hc
  | cdelete c key =>
    simp only [FOp.avoidsDefaultSlot, bne_iff_ne, ne_eq] at ha
    simp only [fstep, fstepWith, stepProj, FOp.toOp?]
    split
    · refine ⟨?_, ?_, alDel_nodup _ _ hn⟩
      · simp only
        rw [viewL_alDel_out _ _ _ (not_hasPrefix_emb_collKey c key), hv]
      · simp only
        rw [alGet_alDel_ne _ _ _ (Ne.symm ha)]
        exact hc
    · exact ⟨hv, hc, hn⟩
  | build =>
    have hb : fs.buildSnap = snapOf st.dflt.items := by
      rw [buildSnap_eq fs hn, view_eq_viewL, hv]
    simp only [fstep, fstepWith, stepProj, FOp.toOp?, step, Flat.build, hb, snapSameDims_snapOf]
    split
    · refine ⟨hv, ?_, hn⟩
      simp only [alGet_alPut_self, Option.map_some, reportSnap_embKey]
    · exact ⟨hv, hc, hn⟩
  | cbuild c =>
    simp only [FOp.avoidsDefaultSlot, bne_iff_ne, ne_eq] at ha
    simp only [fstep, fstepWith, stepProj, FOp.toOp?]
    split
    · refine ⟨hv, ?_, hn⟩
      simp only
      rw [alGet_alPut_ne _ _ _ _ (Ne.symm ha)]
      exact hc
    · exact ⟨hv, hc, hn⟩
  | invalidate slot =>
    simp only [fstep, fstepWith, stepProj, FOp.toOp?]
    by_cases hs : slot = defaultSlot
    · subst hs
      simp only [if_true, step]
      exact ⟨hv, by simp only [alGet_alDel_self, Option.map_none], hn⟩
    · simp only [hs, if_false]
      refine ⟨hv, ?_, hn⟩
      simp only
      rw [alGet_alDel_ne _ _ _ (Ne.symm hs)]
      exact hc

theorem defaultRel_run (ops : List FOp) (fs : Flat) (st : State) (h : DefaultRel fs st)
    (ha : ∀ op ∈ ops, op.avoidsDefaultSlot = true) :
    DefaultRel (frun fs ops) (run st (ops.filterMap FOp.toOp?)) := by
  induction ops generalizing fs st with
  | nil => exact h
  | cons op ops ih =>
    have := ih _ _ (defaultRel_step fs st op h (ha op List.mem_cons_self))
      (fun o ho => ha o (List.mem_cons_of_mem _ ho))
    unfold stepProj at this
    rw [frun, List.filterMap_cons]
    cases hop : op.toOp? with
    | none => rw [hop] at this; exact this
    | some o => rw [hop] at this; exact this

theorem searchDefault_of_rel (fs : Flat) (st : State) (h : DefaultRel fs st) (q : List Int) (k : Nat) :
    fs.searchDefault q k = searchDefault st q k := by
  obtain ⟨hv, hc, _⟩ := h
  unfold Flat.searchDefault Flat.searchSlot searchDefault searchCore
  rw [view_eq_viewL, hv, ← hc]
  refine if_congr Iff.rfl rfl (if_congr Iff.rfl rfl (if_congr Iff.rfl rfl ?_))
  cases alGet fs.slots defaultSlot with
  | none => rfl
  | some s => simp only [Option.map_some, indexUsable_reportSnap]; rfl

theorem searchSlot_viaIndex {fs : Flat} {slot p : String} {q : List Int} {k : Nat} {s : Snap}
    {rs : List Cand} {cut k' : Nat} (h : fs.searchSlot slot p q k = .viaIndex s rs cut k') :
    ∃ s0, alGet fs.slots slot = some s0 ∧ s = reportSnap p s0 ∧
      rs = rank .cosine (snapCands (reportSnap p s0) [] q none) := by
  have hc : (SearchOut.viaIndex s rs cut k').Refused ∨ _ :=
    SearchOut.cases_ite h (.err _) fun h => SearchOut.cases_ite h (.err _) fun h =>
      SearchOut.cases_ite h .zeroQuery fun h => .inr h
  rcases hc with hr | h
  · cases hr
  · cases hs : alGet fs.slots slot with
    | none => rw [hs] at h; cases h
    | some s0 =>
      rw [hs] at h
      dsimp only at h
      split at h
      · cases h; exact ⟨s0, rfl, rfl, rfl⟩
      · cases h

theorem getDefault_of_rel (fs : Flat) (st : State) (h : DefaultRel fs st) (key : String) :
    fs.getDefault key = getDefault st key := by
  obtain ⟨hv, _, _⟩ := h
  simp only [Flat.getDefault, getDefault, ← hv, alGet_viewL]
  rfl

end Neumann.Vec
