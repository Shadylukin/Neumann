import NeumannModel.Vec.Lemmas
/-
  C06 — property theorems for similarity search.  ONLY property statements and their
  non-vacuity examples live here; helpers are in `Lemmas.lean`.

  Reading guide.  `run State.init ops` is the engine state after ANY sequence of
  store / overwrite / delete / batch-delete / clear / build-index / collection operations
  (`Op`) of the code as it is (with the fixes a71cd63e, B1, B2).  The search functions
  return `SearchOut.ranked ..` exactly when the answer is computed by brute force (no index
  consulted) and `SearchOut.viaIndex snap ..` exactly when the cached index built from `snap`
  is consulted.  `runOld`, `searchDefaultOld`, `searchCollFilteredOld` are the code before those
  fixes; they appear only in the `_witness` theorems, which record on a concrete input what the
  old code did and what the current code does instead.  `searchWithHnsw` is the explicit-index
  entry point with 733b279c, `searchWithHnswOld` the code before it.  The theorems about storage
  keys and cache slots (4fa63773, the two namespace findings) are in `NsProps.lean`.
-/
namespace Neumann.Vec.Props
open Neumann.Vec

/-! ### repr_roundtrip — stored vectors read back as written -/

/-- For EVERY element type, every vector: `to_dense (from_dense v)` has the length of `v` and each
    element is the one written, or was a zero (`val != 0.0` false: `+0.0`/`-0.0`) and reads back
    as the canonical zero — i.e. equal under IEEE `==`.  NaN, ±inf, denormals are kept bit for bit. -/
theorem repr_roundtrip {α : Type} (ops : ElemOps α) (v : List α) :
    (toDense ops (fromDense ops v)).length = v.length ∧
    ∀ (i : Nat) (h : i < v.length) (h' : i < (toDense ops (fromDense ops v)).length),
      (toDense ops (fromDense ops v))[i] = v[i] ∨
      (ops.isZero v[i] = true ∧ (toDense ops (fromDense ops v))[i] = ops.zero) := by
  rw [toDense_fromDense]
  refine ⟨by simp [normalise], ?_⟩
  intro i h h'
  simp only [normalise, List.getElem_map]
  by_cases hz : ops.isZero v[i] = true
  · right; simp [hz]
  · left; simp [hz]

/-- whichever representation `store_embedding` chooses (dense, or sparse when at least half of
    the elements are below `1e-6`), an integer-valued vector reads back exactly -/
theorem repr_roundtrip_int (v : List Int) : toDense intOps (mkRepr intOps v) = v := by
  rw [toDense_mkRepr, normalise_int]; simp

/-- ... and an arbitrary f32 bit pattern vector reads back bit for bit, except that `-0.0`
    (`0x80000000`) reads back as `+0.0` when the sparse form was chosen -/
theorem repr_roundtrip_bits (v : List Nat) :
    toDense bitsOps (mkRepr bitsOps v) = v ∨
    toDense bitsOps (mkRepr bitsOps v) = v.map (fun b => if b % 2147483648 = 0 then 0 else b) := by
  rw [toDense_mkRepr]
  split
  · right
    simp only [normalise, bitsOps, beq_iff_eq]
  · left; rfl

/-- `get` after `store` returns the vector just written (overwriting included) -/
theorem store_then_get (st : State) (key : String) (vec : List Int) (h : vec ≠ []) :
    getDefault (step st (.store key vec)).1 key = some vec := by
  have : vec.isEmpty = false := List.isEmpty_eq_false_iff.mpr h
  simp [step, this, getDefault, alGet_alPut_self, vecOf_mkItem]

/-- a deleted key is gone -/
theorem delete_then_absent (st : State) (key : String)
    (h : alHas st.dflt.items key = true) :
    getDefault (step st (.delete key)).1 key = none := by
  simp [step, h, getDefault, alGet_alDel_self]

/-- **Reads see exactly the last write.**  For EVERY operation sequence, `get_embedding` reads
    the default collection as the map the operations describe (`specStep`): a key reads back the
    vector of the last successful store / batch store of that key (whatever representation was
    chosen), unless a later delete / batch delete / clear removed it; metadata updates, index
    builds, cache invalidations and everything done to named collections change nothing. -/
theorem reads_see_last_write (ops : List Op) :
    getDefault (run State.init ops) = ops.foldl specStep (fun _ => none) := by
  rw [view_run]
  rfl

/-! ### search_is_topk — brute-force search returns the true nearest stored vectors -/

/-- ranking is generic: for ANY total preorder `ge` on candidates, sort-then-truncate returns
    `min k n` of them, best first, and no candidate left out beats a returned one -/
theorem topk_any_preorder {α : Type} (ge : α → α → Bool)
    (total : ∀ a b, ge a b = true ∨ ge b a = true)
    (trans : ∀ a b c, ge a b = true → ge b c = true → ge a c = true)
    (l : List α) (k : Nat) :
    ((sortBy ge l).take k).length = min k l.length ∧
    ((sortBy ge l).take k).Pairwise (fun a b => ge a b = true) ∧
    ((sortBy ge l).take k ++ (sortBy ge l).drop k).Perm l ∧
    (∀ x ∈ (sortBy ge l).take k, ∀ y ∈ (sortBy ge l).drop k, ge x y = true) := by
  have hs := sortBy_sorted ge total trans l
  have hp := sortBy_perm ge l
  refine ⟨?_, ?_, ?_, ?_⟩
  · rw [List.length_take, hp.length_eq]
  · exact hs.sublist (List.take_sublist k _)
  · rw [List.take_append_drop]; exact hp
  · have h2 : ((sortBy ge l).take k ++ (sortBy ge l).drop k).Pairwise (fun a b => ge a b = true) := by
      rw [List.take_append_drop]; exact hs
    exact (List.pairwise_append.mp h2).2.2

/-- each metric's comparison (cosine through cross-multiplied signed squares, dot and squared
    Euclid as integers) IS a total preorder, so `topk_any_preorder` applies to all of them -/
theorem score_order_is_total_preorder (m : Metric) :
    (∀ a b, better m a b = true ∨ better m b a = true) ∧
    (∀ a b c, better m a b = true → better m b c = true → better m a c = true) :=
  ⟨better_total m, better_trans m⟩

/-- **Similarity search without an index returns the true nearest stored vectors.**
    After EVERY operation sequence, for every metric, query and `k`:
    whenever `search_similar_with_metric`, `search_similar` or `search_in_collection` answers by
    brute force, the answer is exactly the top-`k` (`IsTopK`) of what is stored now, under the
    requested / cosine / the collection's configured metric respectively. -/
theorem search_is_topk (ops : List Op) (q : List Int) (k : Nat) :
    (∀ m m' rs cut k', searchMetric (run State.init ops) m q k = .ranked m' rs cut k' →
      IsTopK (run State.init ops).dflt.items m q none k (SearchOut.answer (.ranked m' rs cut k'))) ∧
    (∀ m' rs cut k', searchDefault (run State.init ops) q k = .ranked m' rs cut k' →
      IsTopK (run State.init ops).dflt.items .cosine q none k (SearchOut.answer (.ranked m' rs cut k'))) ∧
    (∀ c m' rs cut k', searchColl (run State.init ops) c q k = .ranked m' rs cut k' →
      IsTopK (collOf (run State.init ops) c).items (cfgMetric (run State.init ops) c) q none k
        (SearchOut.answer (.ranked m' rs cut k'))) := by
  have hk := keysOK_run ops State.init keysOK_init
  refine ⟨fun m m' rs cut k' h => ?_, fun m' rs cut k' h => ?_, fun c m' rs cut k' h => ?_⟩
  · rcases searchMetric_cases h with hr | he
    · cases hr
    · cases he
      exact unfiltered_answer _ hk.1 _ q _
  · rcases searchDefault_cases h with hr | he
    · cases hr
    · obtain ⟨rfl, rfl, rfl, rfl⟩ := searchCore_ranked _ _ _ _ _ _ _ _ _ _ he.symm
      exact unfiltered_answer _ hk.1 .cosine q _
  · rcases searchColl_cases h with hr | he
    · cases hr
    · obtain ⟨rfl, rfl, rfl, rfl⟩ := searchCore_ranked _ _ _ _ _ _ _ _ _ _ he.symm
      exact unfiltered_answer _ (keysOK_collOf _ c hk) _ q _

/-- Filtered search, pre-filter strategy (default collection: cosine): exact top-`k` of the
    stored vectors that satisfy the metadata filter, after every operation sequence. -/
theorem search_filtered_pre_is_topk (ops : List Op) (q : List Int) (k : Nat) (f : Filter)
    (os : Nat) (m' : Metric) (rs : List Cand) (cut k' : Nat)
    (h : searchFiltered (run State.init ops) q k f .pre os = .ranked m' rs cut k') :
    IsTopK (run State.init ops).dflt.items .cosine q (some f) k (SearchOut.answer (.ranked m' rs cut k')) := by
  have hk := keysOK_run ops State.init keysOK_init
  rcases searchFiltered_cases h with hr | ⟨_, hne⟩ | ⟨he, _⟩
  · cases hr
  · exact absurd rfl hne
  · cases he
    exact prefilter_answer _ hk.1 .cosine q f _

/-- Filtered search in a named collection, pre-filter strategy: exact top-`k` of the collection's
    stored vectors that satisfy the metadata filter **under the collection's configured metric**
    (cosine, Euclidean or dot product), after every operation sequence. -/
theorem search_filtered_coll_pre_is_topk (ops : List Op) (c : String) (q : List Int)
    (k : Nat) (f : Filter) (os : Nat) (m' : Metric) (rs : List Cand) (cut k' : Nat)
    (h : searchCollFiltered (run State.init ops) c q k f .pre os = .ranked m' rs cut k') :
    IsTopK (collOf (run State.init ops) c).items (cfgMetric (run State.init ops) c) q (some f) k
      (SearchOut.answer (.ranked m' rs cut k')) := by
  have hk := keysOK_run ops State.init keysOK_init
  rcases searchCollFiltered_cases h with hr | ⟨_, hne⟩ | ⟨he, _⟩
  · cases hr
  · exact absurd rfl hne
  · cases he
    exact prefilter_answer _ (keysOK_collOf _ c hk) _ q f _

/-! ### no_stale_cache — an index is never consulted after its data changed -/

/-- After EVERY operation sequence, in the default and in every named collection, a cached index
    — if there is one — was built from exactly the current data, and every search that consults
    an index (`search_similar`, `search_similar_filtered`, `search_in_collection`,
    `search_filtered_in_collection`) consults one built from the current data. -/
theorem no_stale_cache (ops : List Op) : NoStaleUse (run State.init ops) :=
  noStaleUse_of_inv _ (inv_run ops State.init inv_init)

def staleOps : List Op :=
  [.store "a" [1, 0, 0], .store "b" [0, 1, 0], .build, .batchDelete ["a"]]

/-- Regression witness (code before a71cd63e): after store, store, build-index, batch-delete the
    index built from the old data was still consulted, and it still contained the deleted key.
    The current code answers the same sequence by brute force from the current data. -/
theorem stale_cache_witness :
    getDefault (runOld State.init staleOps) "a" = none ∧
    (match searchDefaultOld (runOld State.init staleOps) [1, 0, 0] 5 with
      | .viaIndex snap _ _ _ => snap.map (·.1)
      | _ => []) = ["a", "b"] ∧
    (match searchDefault (run State.init staleOps) [1, 0, 0] 5 with
      | .ranked _ rs _ _ => rs.map (·.key)
      | _ => ["?"]) = ["b"] := by
  decide +kernel

/-! ### cached_index_dimension_guard — an index only sees queries of its own dimension -/

/-- After EVERY operation sequence, for every entry point, query and `k`: if a cached index is
    consulted then every indexed vector has the query's dimension; the unspecified outcome of the
    old code (`indexDimMismatch`: index searched with a query of another dimension — a panic or
    scores against vectors of the wrong length) never occurs.  A query of another dimension is
    answered by brute force over the stored vectors of the query's dimension (`search_is_topk`). -/
theorem cached_index_dimension_guard (ops : List Op) : DimGuarded (run State.init ops) :=
  dimGuarded_of_inv _ (inv_run ops State.init inv_init)

/-- ... so every result taken from the index has the query's dimension: whatever node ids and
    scores the index returns (`ann`), each key the engine answers with is stored NOW and its
    CURRENT vector has the query's dimension (default collection and named collections). -/
theorem cached_result_has_query_dimension (ops : List Op) (q : List Int) (k : Nat)
    (ann : List (Nat × Score)) :
    (∀ snap rs cut k', searchDefault (run State.init ops) q k = .viaIndex snap rs cut k' →
      ∀ r ∈ postProcessAnn snap ann k', ∃ it,
        alGet (run State.init ops).dflt.items r.key = some it ∧ (vecOf it).length = q.length) ∧
    (∀ c snap rs cut k', searchColl (run State.init ops) c q k = .viaIndex snap rs cut k' →
      ∀ r ∈ postProcessAnn snap ann k', ∃ it,
        alGet (collOf (run State.init ops) c).items r.key = some it ∧ (vecOf it).length = q.length) := by
  have hk := keysOK_run ops State.init keysOK_init
  have hs := no_stale_cache ops
  have hd := cached_index_dimension_guard ops
  have core : ∀ (items : Items), (items.map (·.1)).Nodup → ∀ (snap : Snap) (k' : Nat),
      snap = snapOf items → (∀ e ∈ snap, e.2.length = q.length) →
      ∀ r ∈ postProcessAnn snap ann k', ∃ it, alGet items r.key = some it ∧ (vecOf it).length = q.length := by
    intro items hn snap k' hsnap hdim r hr
    obtain ⟨a, _, e, he, rfl⟩ := mem_postProcessAnnM .cosine snap ann k' r hr
    have hmem : e ∈ snap := List.mem_of_getElem? he
    have hmem' : (e.1, e.2) ∈ snapOf items := by rw [← hsnap]; exact hmem
    obtain ⟨it, hit, hv⟩ := current_of_mem_snapOf items hn e.1 e.2 hmem'
    exact ⟨it, hit, by rw [hv]; exact hdim e hmem⟩
  refine ⟨?_, ?_⟩
  · intro snap rs cut k' h
    have h1 := hs.2.1 q k snap rs cut k' h
    have h2 := hd.1 q k
    rw [h] at h2
    exact core _ hk.1 snap k' h1 h2
  · intro c snap rs cut k' h
    have h1 := hs.2.2.2.1 c q k snap rs cut k' h
    have h2 := hd.2.2.2.1 c q k
    rw [h] at h2
    exact core _ (keysOK_collOf _ c hk) snap k' h1 h2

def dimOps : List Op := [.store "a" [1, 0, 0], .store "b" [0, 1, 0], .build]

/-- Regression witness (code before B1): with an index over dimension-3 vectors cached, a
    dimension-4 (or dimension-2) query was handed to the index unchecked.  The current code
    answers it by brute force: no stored vector has that dimension, so the answer is empty;
    a dimension-3 query still goes to the index. -/
theorem index_dim_unchecked_witness :
    searchDefaultOld (runOld State.init dimOps) [1, 0, 0, 5] 5
      = .indexDimMismatch [("a", [1, 0, 0]), ("b", [0, 1, 0])] ∧
    searchDefaultOld (runOld State.init dimOps) [1, 0] 5
      = .indexDimMismatch [("a", [1, 0, 0]), ("b", [0, 1, 0])] ∧
    searchDefault (run State.init dimOps) [1, 0, 0, 5] 5 = .ranked .cosine [] 5 5 ∧
    searchDefault (run State.init dimOps) [1, 0] 5 = .ranked .cosine [] 5 5 ∧
    (match searchDefault (run State.init dimOps) [0, 0, 1] 5 with
      | .viaIndex snap _ _ _ => snap.length
      | _ => 0) = 2 := by
  decide +kernel

/-! ### explicit_index_dimension_guard — `search_with_hnsw` hands the index only queries of its dimension -/

/-- For EVERY data set that passes the build-time dimension check of `build_hnsw_index`, every
    query and `k`: `search_with_hnsw` / `search_with_hnsw_and_metric` on the index built from it
    consult the index only when every indexed vector has the query's dimension (the unspecified
    outcome of the code before 733b279c — a panic on a shorter query, scores on a prefix of a
    longer one — never occurs), and a non-empty query of any other dimension with `k > 0` is
    refused with `DimensionMismatch`. -/
theorem explicit_index_dimension_guard (items : Items) (hd : sameDims items = true)
    (q : List Int) (k : Nat) :
    (searchWithHnsw (snapOf items) q k).dimOK q ∧
    ((∃ e ∈ snapOf items, e.2.length ≠ q.length) → q ≠ [] → k ≠ 0 →
      searchWithHnsw (snapOf items) q k = .err .dimMismatch) := by
  refine ⟨?_, fun ⟨e, he, hne⟩ hq hk => ?_⟩
  · rcases searchWithHnsw_cases (snap := snapOf items) (q := q) (k := k) rfl with hr | ⟨ho, hu⟩
    · exact hr.dimOK q
    · rw [ho]
      rcases hu with h0 | hu
      · rw [h0]; nofun
      · exact snap_dims items hd q hu
  · -- the first vector cannot have the query's dimension: then all would (`snap_dims`)
    cases items with
    | nil => cases he
    | cons e0 rest =>
      have hl : (vecOf e0.2).length ≠ q.length := fun hl =>
        hne (snap_dims (e0 :: rest) hd q (by simpa only [snapOf, List.map_cons, indexUsable, beq_iff_eq] using hl) e he)
      have hq' : q.isEmpty = false := List.isEmpty_eq_false_iff.mpr hq
      simp only [searchWithHnsw, snapOf, List.map_cons, hq', hk, bne_iff_ne, ne_eq, hl, not_false_eq_true,
        if_true, if_false, Bool.false_eq_true]

/-- ... in particular after EVERY operation sequence, for the index `build_hnsw_index` returns. -/
theorem explicit_index_dimension_guard_run (ops : List Op) (snap : Snap)
    (h : buildIndex (run State.init ops) = some snap) (q : List Int) (k : Nat) :
    (searchWithHnsw snap q k).dimOK q := by
  simp only [buildIndex] at h
  split at h
  · rename_i hd
    cases h
    exact (explicit_index_dimension_guard _ hd q k).1
  · cases h

/-- Regression witness (code before 733b279c): an index over dimension-3 vectors built with
    `build_hnsw_index`; `search_with_hnsw` handed a dimension-4 and a dimension-2 query to the
    index unchecked.  The current code refuses both and still answers a dimension-3 query from
    the index. -/
theorem explicit_index_dim_unchecked_witness :
    buildIndex (run State.init dimOps) = some [("a", [1, 0, 0]), ("b", [0, 1, 0])] ∧
    searchWithHnswOld [("a", [1, 0, 0]), ("b", [0, 1, 0])] [1, 0, 0, 5] 2
      = .indexDimMismatch [("a", [1, 0, 0]), ("b", [0, 1, 0])] ∧
    searchWithHnswOld [("a", [1, 0, 0]), ("b", [0, 1, 0])] [1, 0] 2
      = .indexDimMismatch [("a", [1, 0, 0]), ("b", [0, 1, 0])] ∧
    searchWithHnsw [("a", [1, 0, 0]), ("b", [0, 1, 0])] [1, 0, 0, 5] 2 = .err .dimMismatch ∧
    searchWithHnsw [("a", [1, 0, 0]), ("b", [0, 1, 0])] [1, 0] 2 = .err .dimMismatch ∧
    (match searchWithHnsw [("a", [1, 0, 0]), ("b", [0, 1, 0])] [1, 0, 0] 2 with
      | .viaIndex _ rs _ _ => rs.map (·.key)
      | _ => []) = ["a", "b"] := by
  decide +kernel

/-! ### cached_result_shape — what holds when the index is consulted (recall is not claimed) -/

/-- **Shape of an answer taken from the index.**  Whatever node ids and scores the index
    returns (`ann`), the engine's post-processing yields at most `k` results, ordered best
    first, each a key of the indexed set.  If the index honours its contract — distinct node
    ids, and the score reported for a node is the true cosine score of that node's vector —
    there are no duplicate keys and every result carries the true score of an indexed vector. -/
theorem cached_result_shape (snap : Snap) (q : List Int) (ann : List (Nat × Score)) (k : Nat) :
    (postProcessAnn snap ann k).length ≤ k ∧
    (postProcessAnn snap ann k).Pairwise (fun a b => candBetter .cosine a b = true) ∧
    (∀ c ∈ postProcessAnn snap ann k, c.key ∈ snap.map (·.1)) ∧
    ((snap.map (·.1)).Nodup → (ann.map (·.1)).Nodup →
      ((postProcessAnn snap ann k).map (·.key)).Nodup) ∧
    ((∀ a ∈ ann, ∀ e, snap[a.1]? = some e → a.2 = score .cosine q e.2) →
      ∀ c ∈ postProcessAnn snap ann k, ∃ vec, (c.key, vec) ∈ snap ∧ c.score = score .cosine q vec) :=
  postProcessAnnM_shape .cosine snap q ann k

/-- ... and when the index is fresh (`no_stale_cache`), "a key of the indexed set with its true
    score" means: a key stored NOW, with the score of its CURRENT vector -/
theorem cached_result_is_current (items : Items) (hn : (items.map (·.1)).Nodup) (q : List Int)
    (key : String) (vec : List Int) (sc : Score)
    (h : (key, vec) ∈ snapOf items) (hs : sc = score .cosine q vec) :
    ∃ it, alGet items key = some it ∧ sc = score .cosine q (vecOf it) := by
  obtain ⟨it, hit, rfl⟩ := current_of_mem_snapOf items hn key vec h
  exact ⟨it, hit, hs⟩

/-! ### post-filter search: always sound, exact when the oversample pool covers the candidates -/

/-- **What the post-filter strategy does guarantee** (`search_similar_filtered` with
    `PostFilter`, or `Auto` choosing it, answered by brute force), after EVERY operation sequence:
    the answer is a sub-list, in order, of the exact filtered ranking — so at most `k` results,
    best first, no key twice, each a key stored NOW whose current vector has the query's
    dimension, with its true score, and whose current metadata satisfies the filter.  What it
    does not guarantee is completeness (`post_filter_not_topk_witness`) ... -/
theorem post_filter_sound (ops : List Op) (q : List Int) (k : Nat) (f : Filter) (os : Nat)
    (m' : Metric) (rs : List Cand) (cut k' : Nat)
    (h : searchFiltered (run State.init ops) q k f .post os = .ranked m' rs cut k') :
    (SearchOut.answer (.ranked m' rs cut k')).Sublist
        (filteredRanking (run State.init ops).dflt.items .cosine q f) ∧
    (SearchOut.answer (.ranked m' rs cut k')).length ≤ k ∧
    (SearchOut.answer (.ranked m' rs cut k')).Pairwise (fun a b => candBetter .cosine a b = true) ∧
    ((SearchOut.answer (.ranked m' rs cut k')).map (·.key)).Nodup ∧
    (∀ c ∈ SearchOut.answer (.ranked m' rs cut k'), ∃ it,
      alGet (run State.init ops).dflt.items c.key = some it ∧ (vecOf it).length = q.length ∧
      c.score = score .cosine q (vecOf it) ∧ evalFilter it.md f = true) := by
  have hk := keysOK_run ops State.init keysOK_init
  rcases searchFiltered_cases h with hr | ⟨he, _⟩ | ⟨_, hne⟩
  · cases hr
  · obtain ⟨rfl, rfl, rfl, rfl⟩ := searchCore_ranked _ _ _ _ _ _ _ _ _ _ he.symm
    have hsub := postfilter_answer_sublist (run State.init ops).dflt.items .cosine q f (oversampleK k' os) k'
    refine ⟨hsub, ?_, (filteredRanking_sorted _ _ _ _).sublist hsub,
      (filteredRanking_keys_nodup _ hk.1 _ _ _).sublist (hsub.map _), ?_⟩
    · simp only [SearchOut.answer, List.length_take]; omega
    · intro c hc
      exact mem_filteredRanking _ hk.1 _ _ _ c (hsub.subset hc)
  · exact absurd rfl hne

/-- ... unless the oversample pool (`max (k·oversample) k`) is at least as large as the number
    of stored vectors of the query's dimension: then nothing is cut off and the post-filter answer
    IS the exact top-`k` of the vectors satisfying the filter. -/
theorem post_filter_exact_when_pool_covers (ops : List Op) (q : List Int) (k : Nat) (f : Filter)
    (os : Nat) (m' : Metric) (rs : List Cand) (cut k' : Nat)
    (h : searchFiltered (run State.init ops) q k f .post os = .ranked m' rs cut k')
    (hpool : (candidates (run State.init ops).dflt.items .cosine q (some f)).length ≤ oversampleK k os) :
    IsTopK (run State.init ops).dflt.items .cosine q (some f) k (SearchOut.answer (.ranked m' rs cut k')) := by
  have hk := keysOK_run ops State.init keysOK_init
  rcases searchFiltered_cases h with hr | ⟨he, _⟩ | ⟨_, hne⟩
  · cases hr
  · obtain ⟨rfl, rfl, rfl, rfl⟩ := searchCore_ranked _ _ _ _ _ _ _ _ _ _ he.symm
    exact postfilter_exact _ hk.1 _ _ _ _ _ hpool
  · exact absurd rfl hne

/-- the same two facts in a named collection, under the collection's configured metric -/
theorem coll_post_filter_sound_and_exact (ops : List Op) (c : String) (q : List Int) (k : Nat)
    (f : Filter) (os : Nat) (m' : Metric) (rs : List Cand) (cut k' : Nat)
    (h : searchCollFiltered (run State.init ops) c q k f .post os = .ranked m' rs cut k') :
    (SearchOut.answer (.ranked m' rs cut k')).Sublist
        (filteredRanking (collOf (run State.init ops) c).items (cfgMetric (run State.init ops) c) q f) ∧
    ((candidates (collOf (run State.init ops) c).items (cfgMetric (run State.init ops) c) q (some f)).length
        ≤ oversampleK k os →
      IsTopK (collOf (run State.init ops) c).items (cfgMetric (run State.init ops) c) q (some f) k
        (SearchOut.answer (.ranked m' rs cut k'))) := by
  have hk := keysOK_run ops State.init keysOK_init
  rcases searchCollFiltered_cases h with hr | ⟨he, _⟩ | ⟨_, hne⟩
  · cases hr
  · obtain ⟨rfl, rfl, rfl, rfl⟩ := searchCore_ranked _ _ _ _ _ _ _ _ _ _ he.symm
    exact ⟨postfilter_answer_sublist _ _ _ _ _ _,
      fun hpool => postfilter_exact _ (keysOK_collOf _ c hk) _ _ _ _ _ hpool⟩
  · exact absurd rfl hne

/-- `Auto` is one of the two strategies, chosen by the selectivity sample (so each `Auto`
    answer is covered by the pre-filter or by the post-filter theorems) -/
theorem auto_strategy_is_pre_or_post (st : State) (q : List Int) (k : Nat) (f : Filter) (os : Nat) :
    searchFiltered st q k f .auto os = searchFiltered st q k f (chooseDefault st.dflt.items f) os ∧
    (chooseDefault st.dflt.items f = .pre ∨ chooseDefault st.dflt.items f = .post) := by
  have hch : chooseDefault st.dflt.items f = .pre ∨ chooseDefault st.dflt.items f = .post := by
    simp only [chooseDefault]
    split
    · right; rfl
    · split
      · right; rfl
      · split
        · left; rfl
        · right; rfl
  refine ⟨?_, hch⟩
  rcases hch with h | h <;> simp only [searchFiltered, h]

/-! ### metadata updates, batch stores, pagination -/

/-- `update_metadata` / `remove_metadata_field` change no key, no stored vector and not the cached
    index: the data the index was built from is still the current data (which is why these two
    operations need not, and do not, invalidate it — `no_stale_cache` covers them). -/
theorem metadata_ops_keep_vectors (st : State) (key field : String) (md : List (String × Int)) :
    snapOf (step st (.updateMeta key md)).1.dflt.items = snapOf st.dflt.items ∧
    (step st (.updateMeta key md)).1.dflt.cache = st.dflt.cache ∧
    snapOf (step st (.removeMetaField key field)).1.dflt.items = snapOf st.dflt.items ∧
    (step st (.removeMetaField key field)).1.dflt.cache = st.dflt.cache := by
  refine ⟨?_, ?_, ?_, ?_⟩
  · simp only [step]; split
    · exact snapOf_alModify st.dflt.items key (fun it => ⟨it.repr, mergeMeta it.md md⟩) (fun _ => rfl)
    · rfl
  · simp only [step]; split <;> rfl
  · simp only [step]; split
    · exact snapOf_alModify st.dflt.items key (fun it => ⟨it.repr, alDel it.md field⟩) (fun _ => rfl)
    · rfl
  · simp only [step]; split <;> rfl

/-- what filters see after `update_metadata`: a field given in the update has the new value,
    every other field keeps its old one (the update is a map: field names are distinct) -/
theorem update_metadata_merges (old new : List (String × Int)) (hn : (new.map (·.1)).Nodup) (f : String) :
    alGet (mergeMeta old new) f = (alGet new f).or (alGet old f) := by
  induction new generalizing old with
  | nil => simp [mergeMeta, alGet]
  | cons e es ih =>
    simp only [List.map_cons, List.nodup_cons] at hn
    have hstep : mergeMeta old (e :: es) = mergeMeta (alPut old e.1 e.2) es := rfl
    rw [hstep, ih _ hn.2]
    by_cases hf : e.1 = f
    · subst hf
      have hnone : alGet es e.1 = none := by
        simp only [alGet, Option.map_eq_none_iff, List.find?_eq_none]
        intro x hx hxe
        have : x.1 = e.1 := by simpa using hxe
        exact hn.1 (this ▸ List.mem_map.mpr ⟨x, hx, rfl⟩)
      rw [hnone, alGet_alPut_self]
      simp [alGet]
    · have h1 : alGet (alPut old e.1 e.2) f = alGet old f := alGet_alPut_ne old e.1 f e.2 (Ne.symm hf)
      rw [h1]
      have hef : (e.1 == f) = false := by simpa using hf
      simp [alGet, hef]

/-- `batch_store_embeddings` is all-or-nothing on validation (one empty vector: nothing is
    stored, the cached index stays) and otherwise IS the sequence of single stores, in order -/
theorem batch_store_is_sequential (st : State) (inputs : List (String × List Int)) :
    ((∃ e ∈ inputs, e.2 = []) → (step st (.batchStore inputs)).1 = st) ∧
    ((∀ e ∈ inputs, e.2 ≠ []) →
      (step st (.batchStore inputs)).1 = run st (inputs.map fun e => .store e.1 e.2)) := by
  refine ⟨?_, ?_⟩
  · rintro ⟨e, he, hemp⟩
    simp only [step]
    split
    · rfl
    · have : inputs.any (fun e => e.2.isEmpty) = true :=
        List.any_eq_true.mpr ⟨e, he, by simp [hemp]⟩
      simp [this]
  · intro hall
    cases inputs with
    | nil => simp [step, run]
    | cons e0 rest =>
      have hany : (e0 :: rest).any (fun e => e.2.isEmpty) = false :=
        List.any_eq_false.mpr fun e he => by
          rw [List.isEmpty_eq_false_iff.mpr (hall e he)]; exact Bool.false_ne_true
      simp only [step, List.isEmpty_cons, Bool.false_eq_true, ite_false, hany]
      -- sequential stores: the items are folded in order, the cache ends up empty
      have key : ∀ (l : List (String × List Int)) (s : State), (∀ e ∈ l, e.2 ≠ []) → l ≠ [] →
          run s (l.map fun e => Op.store e.1 e.2)
            = { s with dflt := ⟨l.foldl (fun items e => alPut items e.1 (mkItem e.2 [])) s.dflt.items, none⟩ } := by
        intro l
        induction l with
        | nil => intro s _ hne; exact absurd rfl hne
        | cons e es ih =>
          intro s hl _
          have he : e.2.isEmpty = false := List.isEmpty_eq_false_iff.mpr (hl e List.mem_cons_self)
          simp only [List.map_cons, run, step, he, Bool.false_eq_true, ite_false, List.foldl_cons]
          cases es with
          | nil => simp [run]
          | cons e1 es1 =>
            rw [ih _ (fun x hx => hl x (by simp [hx])) (by simp)]
      rw [key (e0 :: rest) st hall (by simp)]

/-- **Pagination hands out slices of the one top-`k` answer.**  After EVERY operation sequence:
    whenever `search_similar_paginated(q, k, skip, limit)` is answered by brute force, the page is
    `pageOf skip limit T` where `T` is the exact top-`k` (`IsTopK`) — the same `T` for every
    page, so consecutive pages neither overlap nor skip a result. -/
theorem paginated_is_slice_of_topk (ops : List Op) (q : List Int) (k skip : Nat) (limit : Option Nat)
    (m' : Metric) (rs : List Cand) (cut k' : Nat)
    (h : searchPaged (run State.init ops) q k skip limit = .ranked m' rs cut k') :
    IsTopK (run State.init ops).dflt.items .cosine q none k (rs.take k) ∧
    pageOf skip limit (SearchOut.answer (.ranked m' rs cut k')) = pageOf skip limit (rs.take k) := by
  have hk := keysOK_run ops State.init keysOK_init
  rcases searchDefault_cases (show searchDefault _ q (pagedK k skip limit) = _ from h) with hr | he
  · cases hr
  · obtain ⟨rfl, rfl, rfl, rfl⟩ := searchCore_ranked _ _ _ _ _ _ _ _ _ _ he.symm
    have hall : ∀ c ∈ rank .cosine (candidates (run State.init ops).dflt.items .cosine q none), c.pass = true :=
      fun c hc => unfiltered_pass _ _ _ c ((sortBy_perm _ _).subset hc)
    refine ⟨?_, ?_⟩
    · have := unfiltered_answer (run State.init ops).dflt.items hk.1 .cosine q k
      rw [answer_allpass _ _ _ hall] at this
      exact this
    · rw [answer_allpass _ _ _ hall]
      exact pageOf_take _ _ k skip limit

/-! ### what the current code does NOT satisfy (known findings), and regression witnesses -/

def pfItems : List Op :=
  [.storeMeta "a" [4, 0] [("f", 0)], .storeMeta "b" [4, 1] [("f", 0)], .storeMeta "c" [4, 2] [("f", 0)],
   .storeMeta "d" [4, 3] [("f", 0)], .storeMeta "e" [0, 1] [("f", 1)]]

/-- KNOWN FINDING (current code), `search_similar_filtered`.  Post-filter strategy (chosen by
    `Auto` when ≥ 10 % of the sample matches): oversample `3k` by similarity, THEN filter — the
    only vector satisfying `f = 1` is not among the 3 nearest, so the answer is empty although a
    qualifying vector is stored.  The pre-filter answer finds it. -/
theorem post_filter_not_topk_witness :
    (searchFiltered (run State.init pfItems) [1, 0] 1 (.cmp .eq "f" 1) .auto 3).answer.map (·.key) = [] ∧
    (searchFiltered (run State.init pfItems) [1, 0] 1 (.cmp .eq "f" 1) .pre 3).answer.map (·.key) = ["e"] := by
  decide +kernel

def cpfItems : List Op :=
  [.cstore "c" "a" [4, 0] [("f", 0)], .cstore "c" "b" [4, 1] [("f", 0)], .cstore "c" "c" [4, 2] [("f", 0)],
   .cstore "c" "d" [4, 3] [("f", 0)], .cstore "c" "e" [0, 1] [("f", 1)]]

/-- KNOWN FINDING (current code), `search_filtered_in_collection`: the same through a named
    collection, post-filter strategy requested or chosen by `Auto`. -/
theorem coll_post_filter_not_topk_witness :
    (searchCollFiltered (run State.init cpfItems) "c" [1, 0] 1 (.cmp .eq "f" 1) .post 3).answer.map (·.key) = [] ∧
    (searchCollFiltered (run State.init cpfItems) "c" [1, 0] 1 (.cmp .eq "f" 1) .auto 3).answer.map (·.key) = [] ∧
    (searchCollFiltered (run State.init cpfItems) "c" [1, 0] 1 (.cmp .eq "f" 1) .pre 3).answer.map (·.key) = ["e"] := by
  decide +kernel

def cpOps : List Op :=
  [.createColl "c" ⟨some 2, .euclid⟩, .cstore "c" "near" [1, 1] [("f", 1)], .cstore "c" "far" [60, 0] [("f", 1)]]

/-- Regression witness (code before B2).  A collection configured with the Euclidean metric:
    unfiltered search ranks `near` first (Euclid); the pre-filter branch of the filtered search
    ranked `far` first (cosine) and answered nothing for the zero query.  The current code ranks
    `near` first and answers the zero query (Euclidean distance to the origin is meaningful). -/
theorem coll_prefilter_ignores_metric_witness :
    (searchColl (run State.init cpOps) "c" [2, 0] 1).answer.map (·.key) = ["near"] ∧
    (searchCollFilteredOld (runOld State.init cpOps) "c" [2, 0] 1 (.ex "f") .pre 3).answer.map (·.key) = ["far"] ∧
    searchCollFilteredOld (runOld State.init cpOps) "c" [0, 0] 1 (.ex "f") .pre 3 = .zeroQuery ∧
    (searchCollFiltered (run State.init cpOps) "c" [2, 0] 1 (.ex "f") .pre 3).answer.map (·.key) = ["near"] ∧
    (searchCollFiltered (run State.init cpOps) "c" [0, 0] 1 (.ex "f") .pre 3).answer.map (·.key) = ["near"] := by
  decide +kernel

/-! ### Non-vacuity: concrete non-trivial states / inputs meet the hypotheses -/

-- an index really is consulted in reachable states (the `viaIndex` hypotheses are satisfiable) ...
example : (match searchDefault (run State.init [.store "a" [1, 2], .store "b" [2, 1], .build]) [1, 2] 1 with
    | .viaIndex snap _ _ _ => snap.length | _ => 0) = 2 := by decide +kernel
-- ... also through a named collection, and after a batch delete that deleted nothing
example : (match searchColl (run State.init [.cstore "c" "x" [1, 2] [], .cstore "c" "y" [2, 1] [], .cbuild "c"]) "c" [1, 2] 1 with
    | .viaIndex snap _ _ _ => snap.length | _ => 0) = 2 := by decide +kernel
example : (match searchDefault (run State.init [.store "a" [1, 2], .build, .batchDelete ["zz"]]) [1, 2] 1 with
    | .viaIndex snap _ _ _ => snap.length | _ => 0) = 1 := by decide +kernel
-- `invalidate_hnsw_cache` is one of the operations: afterwards the search is brute force again
example : (match searchDefault (run State.init [.store "a" [1, 2], .build, .invalidate none]) [1, 2] 1 with
    | .ranked _ rs _ _ => rs.map (·.key) | _ => []) = ["a"] := by decide +kernel
-- brute force really answers (the `ranked` hypotheses are satisfiable), with ties and mixed dimensions
example : (searchMetric (run State.init
      [.store "a" [1, 2], .store "b" [2, 4], .store "c" [1, 2, 3], .store "z" [0, 0]]) .cosine [3, 6] 2).answer.map (·.key)
    = ["a", "b"] := by decide +kernel
-- the pre-filter hypothesis of `search_filtered_coll_pre_is_topk` is satisfiable under a non-cosine metric
example : (match searchCollFiltered (run State.init cpOps) "c" [2, 0] 2 (.ex "f") .pre 3 with
    | .ranked m rs _ _ => (m, rs.map (·.key)) | _ => (.cosine, [])) = (.euclid, ["near", "far"]) := by decide +kernel
-- the index contract hypotheses of `cached_result_shape` are satisfiable with a non-trivial answer
example : (postProcessAnn [("a", [1, 0]), ("b", [0, 1])] (annWithTrueScores [("a", [1, 0]), ("b", [0, 1])] [1, 1] [1, 0, 7]) 5).map (·.key)
    = ["b", "a"] := by decide +kernel
-- sparse representation really is chosen and normalises -0.0 only
example : toDense bitsOps (mkRepr bitsOps [2147483648, 0, 0, 1065353216]) = [0, 0, 0, 1065353216] := by decide +kernel
example : toDense intOps (mkRepr intOps [0, 0, 5, 0]) = [0, 0, 5, 0] := repr_roundtrip_int _
example : alHas (run State.init [.store "a" [1]]).dflt.items "a" = true := by decide +kernel
-- overwrite, delete and a batch in one sequence: the reader sees the last write of each key
example : (getDefault (run State.init [.store "a" [1], .store "b" [2], .store "a" [0, 0, 3], .delete "b",
      .batchStore [("c", [4]), ("c", [5])], .updateMeta "a" [("f", 1)]]) "a",
    getDefault (run State.init [.store "a" [1], .store "b" [2], .store "a" [0, 0, 3], .delete "b",
      .batchStore [("c", [4]), ("c", [5])], .updateMeta "a" [("f", 1)]]) "b",
    getDefault (run State.init [.store "a" [1], .store "b" [2], .store "a" [0, 0, 3], .delete "b",
      .batchStore [("c", [4]), ("c", [5])], .updateMeta "a" [("f", 1)]]) "c")
    = (some [0, 0, 3], none, some [5]) := by decide +kernel
-- metadata updates are seen by filters and leave a cached index in use (the vectors did not change)
example : (searchFiltered (run State.init [.storeMeta "a" [1, 0] [("f", 0)], .storeMeta "b" [0, 1] [("f", 0)],
      .updateMeta "b" [("f", 1)]]) [1, 1] 5 (.cmp .eq "f" 1) .pre 3).answer.map (·.key) = ["b"] := by decide +kernel
example : (match searchDefault (run State.init [.store "a" [1, 2], .build, .updateMeta "a" [("f", 1)],
      .removeMetaField "a" "f"]) [1, 2] 1 with
    | .viaIndex snap _ _ _ => snap.length | _ => 0) = 1 := by decide +kernel
-- a batch with an empty vector stores nothing; a valid one stores everything, last write of a key wins
example : getDefault (step State.init (.batchStore [("a", [1]), ("b", [])])).1 "a" = none := by decide +kernel
example : getDefault (step State.init (.batchStore [("a", [1]), ("b", [2]), ("a", [3])])).1 "a" = some [3] := by decide +kernel
-- pages 1 and 2 (limit 2) of a top-5 search over three vectors
example : (pageOf 0 (some 2) (searchPaged (run State.init [.store "a" [3, 0], .store "b" [2, 1], .store "c" [0, 1]])
      [1, 0] 5 0 (some 2)).answer).map (·.key) = ["a", "b"] := by decide +kernel
example : (pageOf 2 (some 2) (searchPaged (run State.init [.store "a" [3, 0], .store "b" [2, 1], .store "c" [0, 1]])
      [1, 0] 5 2 (some 2)).answer).map (·.key) = ["c"] := by decide +kernel
-- the post-filter hypotheses are satisfiable; with a pool that covers the data the answer is exact
example : (searchFiltered (run State.init pfItems) [1, 0] 1 (.cmp .eq "f" 1) .post 5).answer.map (·.key) = ["e"] := by decide +kernel
-- explicit_index_dimension_guard: data that passes the build check, a query the index is consulted for
example : sameDims (run State.init dimOps).dflt.items = true ∧
    (match searchWithHnsw (snapOf (run State.init dimOps).dflt.items) [0, 0, 1] 2 with
      | .viaIndex snap _ _ _ => snap.length
      | _ => 0) = 2 := by decide +kernel

end Neumann.Vec.Props
