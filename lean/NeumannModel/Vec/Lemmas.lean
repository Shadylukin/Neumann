import NeumannModel.Vec.EmbModel
import Mathlib.Tactic.Linarith
namespace Neumann.Vec

theorem insBy_perm {α : Type} (ge : α → α → Bool) (x : α) (l : List α) :
    (insBy ge x l).Perm (x :: l) := by
  induction l with
  | nil => exact List.Perm.refl _
  | cons y ys ih =>
    simp only [insBy]
    split
    · exact List.Perm.refl _
    · exact (List.Perm.cons y ih).trans (List.Perm.swap x y ys)

theorem sortBy_perm {α : Type} (ge : α → α → Bool) (l : List α) : (sortBy ge l).Perm l := by
  induction l with
  | nil => exact List.Perm.refl _
  | cons x xs ih => exact (insBy_perm ge x (sortBy ge xs)).trans (List.Perm.cons x ih)

theorem insBy_sorted {α : Type} (ge : α → α → Bool)
    (total : ∀ a b, ge a b = true ∨ ge b a = true)
    (trans : ∀ a b c, ge a b = true → ge b c = true → ge a c = true)
    (x : α) (l : List α) (h : l.Pairwise (fun a b => ge a b = true)) :
    (insBy ge x l).Pairwise (fun a b => ge a b = true) := by
  induction l with
  | nil => simp [insBy]
  | cons y ys ih =>
    have hy := List.pairwise_cons.mp h
    simp only [insBy]
    split
    · rename_i hxy
      refine List.pairwise_cons.mpr ⟨?_, h⟩
      intro z hz
      rcases List.mem_cons.mp hz with rfl | hz
      · exact hxy
      · exact trans _ _ _ hxy (hy.1 z hz)
    · rename_i hxy
      have hyx : ge y x = true := by
        rcases total x y with h1 | h1
        · exact absurd h1 hxy
        · exact h1
      refine List.pairwise_cons.mpr ⟨?_, ih hy.2⟩
      intro z hz
      have hz' : z ∈ x :: ys := (insBy_perm ge x ys).subset hz
      rcases List.mem_cons.mp hz' with rfl | hz'
      · exact hyx
      · exact hy.1 z hz'

theorem sortBy_sorted {α : Type} (ge : α → α → Bool)
    (total : ∀ a b, ge a b = true ∨ ge b a = true)
    (trans : ∀ a b c, ge a b = true → ge b c = true → ge a c = true)
    (l : List α) : (sortBy ge l).Pairwise (fun a b => ge a b = true) := by
  induction l with
  | nil => simp [sortBy]
  | cons x xs ih => exact insBy_sorted ge total trans x _ ih

theorem keyDen_pos (m : Metric) (s : Score) : 0 < keyDen m s := by
  cases m <;> simp only [keyDen]
  · split <;> omega
  · omega
  · omega

theorem better_total (m : Metric) (a b : Score) : better m a b = true ∨ better m b a = true := by
  simp only [better, decide_eq_true_eq]
  exact Int.le_total _ _

theorem better_trans (m : Metric) (a b c : Score) (h1 : better m a b = true) (h2 : better m b c = true) :
    better m a c = true := by
  simp only [better, decide_eq_true_eq] at *
  -- cross-multiplied fractions: compare `c` with `a` over the common positive factor `keyDen m b`
  refine le_of_mul_le_mul_right ?_ (keyDen_pos m b)
  calc keyNum m c * keyDen m a * keyDen m b
      = keyNum m c * keyDen m b * keyDen m a := Int.mul_right_comm ..
    _ ≤ keyNum m b * keyDen m c * keyDen m a := mul_le_mul_of_nonneg_right h2 (keyDen_pos m a).le
    _ = keyNum m b * keyDen m a * keyDen m c := Int.mul_right_comm ..
    _ ≤ keyNum m a * keyDen m b * keyDen m c := mul_le_mul_of_nonneg_right h1 (keyDen_pos m c).le
    _ = keyNum m a * keyDen m c * keyDen m b := Int.mul_right_comm ..

theorem candBetter_total (m : Metric) (a b : Cand) : candBetter m a b = true ∨ candBetter m b a = true :=
  better_total m _ _

theorem candBetter_trans (m : Metric) (a b c : Cand) (h1 : candBetter m a b = true)
    (h2 : candBetter m b c = true) : candBetter m a c = true :=
  better_trans m _ _ _ h1 h2

theorem filterMap_eq_map_of {α β : Type} (l : List α) (g : α → Option β) (f : α → β)
    (h : ∀ x ∈ l, g x = some (f x)) : l.filterMap g = l.map f := by
  induction l with
  | nil => rfl
  | cons x xs ih =>
    simp only [List.filterMap_cons, h x List.mem_cons_self, List.map_cons]
    rw [ih (fun y hy => h y (List.mem_cons_of_mem _ hy))]

def foldSet {α : Type} (d : List α) (es : List (Nat × α)) : List α :=
  es.foldl (fun d e => d.set e.1 e.2) d

/-- what `to_dense ∘ from_dense` computes, element by element -/
def normalise {α : Type} (ops : ElemOps α) (v : List α) : List α :=
  v.map fun x => if ops.isZero x then ops.zero else x

theorem foldSet_sparseEntries {α : Type} (ops : ElemOps α) (xs : List α) :
    ∀ (pre d : List α), d.length = xs.length →
      foldSet (pre ++ d) (sparseEntries ops pre.length xs)
        = pre ++ List.zipWith (fun dj x => if ops.isZero x then dj else x) d xs := by
  induction xs with
  | nil =>
    intro pre d hd
    cases d with
    | nil => rfl
    | cons _ _ => cases hd
  | cons x xs ih =>
    intro pre d hd
    obtain ⟨dj, d', rfl⟩ := List.exists_cons_of_length_eq_add_one hd
    -- the element at this position is settled; continue behind it
    have ih' := ih (pre ++ [if ops.isZero x then dj else x]) d' (by simpa using hd)
    simp only [List.length_append, List.length_singleton, List.append_assoc, List.singleton_append] at ih'
    simp only [sparseEntries, List.zipWith_cons_cons]
    split
    · rename_i hz
      simpa only [hz, if_true] using ih'
    · rename_i hz
      simp only [hz, Bool.false_eq_true, if_false] at ih'
      show foldSet ((pre ++ dj :: d').set pre.length x) _ = _
      rw [List.set_append_right _ _ (Nat.le_refl _), Nat.sub_self, List.set_cons_zero]
      exact ih'

theorem toDense_fromDense {α : Type} (ops : ElemOps α) (v : List α) :
    toDense ops (fromDense ops v) = normalise ops v := by
  have h := foldSet_sparseEntries ops v [] (List.replicate v.length ops.zero) (by simp)
  simp only [List.nil_append, List.length_nil] at h
  simp only [toDense, fromDense]
  change foldSet _ _ = _
  rw [h, normalise]
  clear h
  induction v with
  | nil => rfl
  | cons x xs ih => simp [List.replicate_succ, ih]

theorem normalise_int (v : List Int) : normalise intOps v = v := by
  induction v with
  | nil => rfl
  | cons x xs ih =>
    simp only [normalise, List.map_cons] at ih ⊢
    rw [ih]
    by_cases hx : x = 0
    · subst hx; simp [intOps]
    · simp [intOps, hx]

theorem toDense_mkRepr {α : Type} (ops : ElemOps α) (v : List α) :
    toDense ops (mkRepr ops v) = if shouldUseSparse ops v then normalise ops v else v := by
  simp only [mkRepr]
  split
  · exact toDense_fromDense ops v
  · rfl

theorem vecOf_mkItem (v : List Int) (md : List (String × Int)) : vecOf (mkItem v md) = v := by
  simp only [vecOf, mkItem, toDense_mkRepr, normalise_int, ite_self]

theorem alGet_of_mem_nodup {β : Type} (m : List (String × β)) (k : String) (v : β)
    (hn : (m.map (·.1)).Nodup) (h : (k, v) ∈ m) : alGet m k = some v := by
  induction m with
  | nil => cases h
  | cons e es ih =>
    simp only [List.map_cons, List.nodup_cons] at hn
    simp only [alGet, List.find?_cons]
    rcases List.mem_cons.mp h with rfl | h'
    · simp
    · have hne : e.1 ≠ k := by
        intro heq
        apply hn.1
        rw [heq]
        exact List.mem_map.mpr ⟨(k, v), h', rfl⟩
      have : (e.1 == k) = false := by simpa using hne
      rw [this]
      exact ih hn.2 h'

theorem mem_of_alGet {β : Type} (m : List (String × β)) (k : String) (v : β)
    (h : alGet m k = some v) : (k, v) ∈ m := by
  simp only [alGet, Option.map_eq_some_iff] at h
  obtain ⟨e, he, rfl⟩ := h
  have hm := List.mem_of_find?_eq_some he
  have hk := List.find?_some he
  have : e.1 = k := by simpa using hk
  subst this
  exact hm

theorem alHas_iff {β : Type} (m : List (String × β)) (k : String) :
    alHas m k = true ↔ k ∈ m.map (·.1) := by
  simp only [alHas, List.any_eq_true, List.mem_map, beq_iff_eq]

theorem map_keys {β : Type} (m : List (String × β)) (g : String × β → String × β) (h : ∀ e, (g e).1 = e.1) :
    (m.map g).map (·.1) = m.map (·.1) := by
  rw [List.map_map]; exact List.map_congr_left fun e _ => h e

theorem replace_key {β : Type} (k : String) (v : β) (e : String × β) :
    (if e.1 == k then (k, v) else e).1 = e.1 := by
  split
  · next h => exact (beq_iff_eq.mp h).symm
  · rfl

theorem alGet_map {β : Type} (m : List (String × β)) (g : String × β → String × β) (h : ∀ e, (g e).1 = e.1)
    (k : String) : alGet (m.map g) k = (m.find? (fun e => e.1 == k)).map (fun e => (g e).2) := by
  simp only [alGet, List.find?_map, Option.map_map, Function.comp_def, h]

theorem alDel_nodup {β : Type} (m : List (String × β)) (k : String)
    (hn : (m.map (·.1)).Nodup) : ((alDel m k).map (·.1)).Nodup :=
  hn.sublist (List.filter_sublist.map _)

theorem alGet_alDel_self {β : Type} (m : List (String × β)) (k : String) : alGet (alDel m k) k = none := by
  simp only [alGet, alDel, Option.map_eq_none_iff, List.find?_eq_none]
  intro e he
  have := (List.mem_filter.mp he).2
  simpa using this

theorem foldl_alDel_nodup {β : Type} (ks : List String) (m : List (String × β))
    (hn : (m.map (·.1)).Nodup) : ((ks.foldl alDel m).map (·.1)).Nodup := by
  induction ks generalizing m with
  | nil => exact hn
  | cons k ks ih => exact ih _ (alDel_nodup m k hn)

theorem alPut_nodup {β : Type} (m : List (String × β)) (k : String) (v : β)
    (hn : (m.map (·.1)).Nodup) : ((alPut m k v).map (·.1)).Nodup := by
  simp only [alPut]
  split
  · rw [map_keys _ _ (replace_key k v)]; exact hn
  · rename_i hh
    have hk : k ∉ m.map (·.1) := by
      intro hm; exact hh ((alHas_iff m k).mpr hm)
    simp only [List.map_append, List.map_cons, List.map_nil]
    exact List.nodup_append.mpr ⟨hn, by simp, by
      intro a ha b hb
      have : b = k := by simpa using hb
      subst this
      intro hab; subst hab; exact hk ha⟩

theorem alGet_alPut_self {β : Type} (m : List (String × β)) (k : String) (v : β) :
    alGet (alPut m k v) k = some v := by
  simp only [alPut]
  split
  · rename_i hh
    rw [alGet_map _ _ (replace_key k v)]
    obtain ⟨e, he, hk⟩ := List.any_eq_true.mp hh
    cases hf : m.find? (fun e => e.1 == k) with
    | none => exact absurd hk (by simpa using List.find?_eq_none.mp hf e he)
    | some e' =>
      have : e'.1 = k := by simpa using List.find?_some hf
      simp [this]
  · rename_i hh
    have hnone : m.find? (fun e => e.1 == k) = none := by
      rw [List.find?_eq_none]
      intro e he hk
      exact hh (List.any_eq_true.mpr ⟨e, he, hk⟩)
    simp [alGet, List.find?_append, hnone]

theorem mem_alPut {β : Type} (m : List (String × β)) (k : String) (v : β) (e : String × β)
    (h : e ∈ alPut m k v) : e ∈ m ∨ e = (k, v) := by
  simp only [alPut] at h
  split at h
  · obtain ⟨e0, he0, rfl⟩ := List.mem_map.mp h
    by_cases hk : (e0.1 == k) = true
    · right; simp [hk]
    · left; simp [hk]; exact he0
  · rcases List.mem_append.mp h with h | h
    · exact Or.inl h
    · right; simpa using h

/-! ### invariants of reachable states -/

/-- a cached index, if any, was built from exactly the current data, and that data passed the
    build-time check "every vector has the first one's dimension" -/
def Fresh (x : Coll) : Prop := ∀ s, x.cache = some s → s = snapOf x.items ∧ sameDims x.items = true

def Inv (st : State) : Prop := Fresh st.dflt ∧ ∀ e ∈ st.named, Fresh e.2

def KeysOK (st : State) : Prop :=
  (st.dflt.items.map (·.1)).Nodup ∧ ∀ e ∈ st.named, (e.2.items.map (·.1)).Nodup

theorem fresh_none (items : Items) : Fresh ⟨items, none⟩ := by
  intro s h; cases h

theorem alDel_absent {β : Type} (m : List (String × β)) (k : String) (h : alHas m k = false) :
    alDel m k = m := by
  simp only [alDel]
  apply List.filter_eq_self.mpr
  intro e he
  cases hk : (e.1 == k) with
  | false => rfl
  | true =>
    have : alHas m k = true := by
      simp only [alHas, List.any_eq_true]
      exact ⟨e, he, hk⟩
    rw [h] at this; cases this

theorem foldl_alDel_absent {β : Type} (ks : List String) (m : List (String × β))
    (h : ∀ k ∈ ks, alHas m k = false) : ks.foldl alDel m = m := by
  induction ks with
  | nil => rfl
  | cons k ks ih =>
    simp only [List.foldl_cons]
    rw [alDel_absent m k (h k (by simp))]
    exact ih (fun k' hk' => h k' (by simp [hk']))

/-- `batch_delete_embeddings` deleted nothing (`deleted == 0`): the data is unchanged -/
theorem batchDelete_nothing {β : Type} (ks : List String) (m : List (String × β))
    (h : (ks.eraseDups.filter (fun k => alHas m k)).length = 0) : ks.foldl alDel m = m := by
  apply foldl_alDel_absent
  intro k hk
  have hnil : ks.eraseDups.filter (fun k => alHas m k) = [] := List.eq_nil_of_length_eq_zero h
  have hk' : k ∈ ks.eraseDups := List.mem_eraseDups.mpr hk
  cases hh : alHas m k with
  | false => rfl
  | true =>
    have : k ∈ ks.eraseDups.filter (fun k => alHas m k) := List.mem_filter.mpr ⟨hk', hh⟩
    rw [hnil] at this; cases this

/-! ### in-place modification of metadata: keys and vectors are untouched -/

theorem alModify_keys {β : Type} (m : List (String × β)) (k : String) (f : β → β) :
    (alModify m k f).map (·.1) = m.map (·.1) :=
  map_keys m _ fun e => by split <;> rfl

theorem snapOf_alModify (items : Items) (k : String) (f : Item → Item)
    (hf : ∀ it, (f it).repr = it.repr) : snapOf (alModify items k f) = snapOf items := by
  induction items with
  | nil => rfl
  | cons e es ih =>
    simp only [snapOf, alModify, List.map_cons] at ih ⊢
    rw [ih]
    by_cases h : (e.1 == k) = true
    · simp [h, vecOf, hf]
    · simp [h]

theorem sameDimsV_snapOf (items : Items) : sameDimsV (snapOf items) = sameDims items := by
  cases items with
  | nil => rfl
  | cons e rest =>
    simp only [snapOf, List.map_cons, sameDimsV, sameDims, List.all_map]
    rfl

theorem fresh_alModify (x : Coll) (k : String) (f : Item → Item) (hf : ∀ it, (f it).repr = it.repr)
    (h : Fresh x) : Fresh ⟨alModify x.items k f, x.cache⟩ := by
  intro s hs
  obtain ⟨h1, h2⟩ := h s hs
  refine ⟨?_, ?_⟩
  · simp only [snapOf_alModify x.items k f hf]; exact h1
  · rw [← sameDimsV_snapOf, snapOf_alModify x.items k f hf, sameDimsV_snapOf]; exact h2

theorem foldl_alPut_nodup {β : Type} (inputs : List (String × List Int)) (g : List Int → β)
    (m : List (String × β)) (hn : (m.map (·.1)).Nodup) :
    ((inputs.foldl (fun items e => alPut items e.1 (g e.2)) m).map (·.1)).Nodup := by
  induction inputs generalizing m with
  | nil => exact hn
  | cons e es ih => exact ih _ (alPut_nodup m e.1 _ hn)

def AllColl (P : Coll → Prop) (st : State) : Prop := P st.dflt ∧ ∀ e ∈ st.named, P e.2

/-- what `P` has to survive for `AllColl P` to hold in every reachable state: one field per way
    an operation rewrites a collection -/
structure StepClosed (P : Coll → Prop) : Prop where
  empty : P ⟨[], none⟩
  put : ∀ (x : Coll) k it, P x → P ⟨alPut x.items k it, none⟩
  del : ∀ (x : Coll) k, P x → P ⟨alDel x.items k, none⟩
  dels : ∀ (x : Coll) (ks : List String), P x → P ⟨ks.foldl alDel x.items,
    if (ks.eraseDups.filter fun k => alHas x.items k).length = 0 then x.cache else none⟩
  clear : ∀ x : Coll, P x → P ⟨[], if x.items.length = 0 then x.cache else none⟩
  build : ∀ x : Coll, P x → sameDims x.items = true → P ⟨x.items, some (snapOf x.items)⟩
  drop : ∀ x : Coll, P x → P ⟨x.items, none⟩
  modify : ∀ (x : Coll) k (f : Item → Item), (∀ it, (f it).repr = it.repr) → P x → P ⟨alModify x.items k f, x.cache⟩
  puts : ∀ (x : Coll) (inputs : List (String × List Int)), P x →
    P ⟨inputs.foldl (fun items e => alPut items e.1 (mkItem e.2 [])) x.items, none⟩

section
variable {P : Coll → Prop}

theorem allColl_collOf (hP : StepClosed P) (st : State) (c : String) (h : AllColl P st) : P (collOf st c) := by
  simp only [collOf]
  cases hg : alGet st.named c with
  | none => exact hP.empty
  | some x => exact h.2 (c, x) (mem_of_alGet _ _ _ hg)

theorem allColl_setColl (st : State) (c : String) (x : Coll) (h : AllColl P st) (hx : P x) :
    AllColl P (setColl st c x) := by
  refine ⟨h.1, fun e he => ?_⟩
  rcases mem_alPut _ _ _ _ he with he | rfl
  · exact h.2 e he
  · exact hx

theorem allColl_ite {p : Prop} [Decidable p] (A B : State × Resp) (hA : AllColl P A.1) (hB : AllColl P B.1) :
    AllColl P (if p then A else B).1 := by
  split <;> assumption

theorem allColl_step (hP : StepClosed P) (st : State) (op : Op) (h : AllColl P st) :
    AllColl P (step st op).1 := by
  have hc := allColl_collOf hP st
  cases op with
  | store key vec | storeMeta key vec md =>
    simp only [step]; split
    · exact h
    · exact ⟨hP.put _ _ _ h.1, h.2⟩
  | delete key =>
    simp only [step]; split
    · exact ⟨hP.del _ _ h.1, h.2⟩
    · exact h
  | batchDelete keys => exact ⟨hP.dels _ _ h.1, h.2⟩
  | clear => exact ⟨hP.clear _ h.1, h.2⟩
  | build =>
    simp only [step]; split
    · exact ⟨hP.build _ h.1 ‹_›, h.2⟩
    · exact h
  | createColl c cfg =>
    simp only [step]; split
    · exact h
    · exact ⟨h.1, h.2⟩
  | dropColl c =>
    simp only [step]; split
    · exact allColl_setColl st c _ h hP.empty
    · exact h
  | cstore c key vec md =>
    simp only [step]
    exact allColl_ite _ _ h (allColl_ite _ _ (allColl_setColl st c _ h (hP.put _ _ _ (hc c h))) h)
  | cdelete c key =>
    simp only [step]; split
    · exact allColl_setColl st c _ h (hP.del _ _ (hc c h))
    · exact h
  | cbuild c =>
    simp only [step]; split
    · exact h
    · split
      · exact allColl_setColl st c _ h (hP.build _ (hc c h) ‹_›)
      · exact h
  | invalidate c =>
    cases c with
    | none => exact ⟨hP.drop _ h.1, h.2⟩
    | some c => exact allColl_setColl st c _ h (hP.drop _ (hc c h))
  | updateMeta key md | removeMetaField key field =>
    simp only [step]; split
    · exact ⟨hP.modify _ _ _ (fun _ => rfl) h.1, h.2⟩
    · exact h
  | batchStore inputs =>
    simp only [step]; split
    · exact h
    · split
      · exact h
      · exact ⟨hP.puts _ _ h.1, h.2⟩

theorem allColl_run (hP : StepClosed P) (ops : List Op) (st : State) (h : AllColl P st) :
    AllColl P (run st ops) := by
  induction ops generalizing st with
  | nil => exact h
  | cons op ops ih => exact ih _ (allColl_step hP st op h)

end

theorem fresh_closed : StepClosed Fresh where
  empty := fresh_none _
  put _ _ _ _ := fresh_none _
  del _ _ _ := fresh_none _
  dels x ks h := by
    split
    · rename_i h0
      rw [batchDelete_nothing ks x.items h0]
      exact h
    · exact fresh_none _
  clear x h := by
    split
    · rename_i h0
      rw [← List.eq_nil_of_length_eq_zero h0]
      exact h
    · exact fresh_none _
  build _ _ hd := fun _ h => by cases h; exact ⟨rfl, hd⟩
  drop _ _ := fresh_none _
  modify x k f hf h := fresh_alModify x k f hf h
  puts _ _ _ := fresh_none _

theorem fresh_collOf (st : State) (c : String) (h : Inv st) : Fresh (collOf st c) :=
  allColl_collOf fresh_closed st c h

theorem inv_run (ops : List Op) (st : State) (h : Inv st) : Inv (run st ops) :=
  allColl_run fresh_closed ops st h

theorem inv_init : Inv State.init := ⟨fresh_none _, by intro e he; cases he⟩

theorem keys_closed : StepClosed fun x => (x.items.map (·.1)).Nodup where
  empty := List.nodup_nil
  put _ _ _ h := alPut_nodup _ _ _ h
  del _ _ h := alDel_nodup _ _ h
  dels _ _ h := foldl_alDel_nodup _ _ h
  clear _ _ := List.nodup_nil
  build _ h _ := h
  drop _ h := h
  modify _ _ _ _ h := by simp only [alModify_keys]; exact h
  puts _ inputs h := foldl_alPut_nodup inputs (fun v => mkItem v []) _ h

theorem keysOK_collOf (st : State) (c : String) (h : KeysOK st) :
    ((collOf st c).items.map (·.1)).Nodup :=
  allColl_collOf keys_closed st c h

theorem keysOK_run (ops : List Op) (st : State) (h : KeysOK st) : KeysOK (run st ops) :=
  allColl_run keys_closed ops st h

theorem keysOK_init : KeysOK State.init := ⟨List.nodup_nil, by intro e he; cases he⟩

theorem mem_candidates (items : Items) (m : Metric) (q : List Int) (f : Option Filter) (c : Cand)
    (h : c ∈ candidates items m q f) :
    ∃ it, (c.key, it) ∈ items ∧ (vecOf it).length = q.length ∧ c.score = score m q (vecOf it)
      ∧ c.pass = passes it.md f := by
  simp only [candidates, List.mem_filterMap] at h
  obtain ⟨e, he, hc⟩ := h
  split at hc
  · rename_i hl
    simp only [Option.some.injEq] at hc
    subst hc
    exact ⟨e.2, he, hl, rfl, rfl⟩
  · cases hc

theorem candidates_keys_sublist (items : Items) (m : Metric) (q : List Int) (f : Option Filter) :
    ((candidates items m q f).map (·.key)).Sublist (items.map (·.1)) := by
  induction items with
  | nil => simp [candidates]
  | cons e es ih =>
    simp only [candidates] at ih ⊢
    by_cases hl : (vecOf e.2).length = q.length
    · rw [List.filterMap_cons_some (b := ⟨e.1, score m q (vecOf e.2), passes e.2.md f⟩) (by simp [hl])]
      simp only [List.map_cons]
      exact List.Sublist.cons_cons _ ih
    · rw [List.filterMap_cons_none (by simp [hl])]
      simp only [List.map_cons]
      exact List.Sublist.cons _ ih

/-- `r` is the exact answer: the `k` best (all, if fewer) of the currently stored vectors of the
    query's dimension that pass the filter, best first, each a live key with the score of its
    CURRENT vector, no key twice. -/
def IsTopK (items : Items) (m : Metric) (q : List Int) (f : Option Filter) (k : Nat) (r : List Cand) : Prop :=
  r.length = min k ((candidates items m q f).filter (·.pass)).length ∧
  r.Pairwise (fun a b => candBetter m a b = true) ∧
  (∃ rest, (r ++ rest).Perm ((candidates items m q f).filter (·.pass)) ∧
    ∀ x ∈ r, ∀ y ∈ rest, candBetter m x y = true) ∧
  (∀ c ∈ r, ∃ it, alGet items c.key = some it ∧ (vecOf it).length = q.length ∧
    c.score = score m q (vecOf it) ∧ passes it.md f = true) ∧
  (r.map (·.key)).Nodup

theorem isTopK_take (items : Items) (hn : (items.map (·.1)).Nodup) (m : Metric) (q : List Int)
    (f : Option Filter) (k : Nat) (L : List Cand)
    (hp : L.Perm ((candidates items m q f).filter (·.pass)))
    (hs : L.Pairwise (fun a b => candBetter m a b = true)) : IsTopK items m q f k (L.take k) := by
  refine ⟨?_, hs.sublist (List.take_sublist k _), ⟨L.drop k, ?_, ?_⟩, ?_, ?_⟩
  · rw [List.length_take, hp.length_eq]
  · rw [List.take_append_drop]; exact hp
  · have h2 : (L.take k ++ L.drop k).Pairwise (fun a b => candBetter m a b = true) := by
      rw [List.take_append_drop]; exact hs
    exact (List.pairwise_append.mp h2).2.2
  · intro c hc
    obtain ⟨h2, h3⟩ := List.mem_filter.mp (hp.subset (List.mem_of_mem_take hc))
    obtain ⟨it, hmem, hl, hsc, hpass⟩ := mem_candidates items m q f c h2
    exact ⟨it, alGet_of_mem_nodup items c.key it hn hmem, hl, hsc, by rw [← hpass]; exact h3⟩
  · have s3 : (((candidates items m q f).filter (·.pass)).map (·.key)).Sublist (items.map (·.1)) :=
      (List.filter_sublist.map _).trans (candidates_keys_sublist items m q f)
    exact ((hp.map _).nodup_iff.mpr (hn.sublist s3)).sublist ((List.take_sublist k _).map _)

theorem brute_is_topk (items : Items) (hn : (items.map (·.1)).Nodup) (m : Metric) (q : List Int)
    (f : Option Filter) (k : Nat) :
    IsTopK items m q f k ((rank m ((candidates items m q f).filter (·.pass))).take k) :=
  isTopK_take items hn m q f k _ (sortBy_perm _ _) (sortBy_sorted _ (candBetter_total m) (candBetter_trans m) _)

theorem answer_allpass (m : Metric) (rs : List Cand) (k : Nat) (h : ∀ c ∈ rs, c.pass = true) :
    SearchOut.answer (.ranked m rs k k) = rs.take k := by
  simp only [SearchOut.answer]
  have : (rs.take k).filter (·.pass) = rs.take k :=
    List.filter_eq_self.mpr (fun c hc => h c (List.mem_of_mem_take hc))
  rw [this, List.take_take, Nat.min_self]

theorem unfiltered_pass (items : Items) (m : Metric) (q : List Int) :
    ∀ c ∈ candidates items m q none, c.pass = true := by
  intro c hc
  obtain ⟨it, _, _, _, hp⟩ := mem_candidates items m q none c hc
  rw [hp]; rfl

theorem unfiltered_answer (items : Items) (hn : (items.map (·.1)).Nodup) (m : Metric) (q : List Int) (k : Nat) :
    IsTopK items m q none k (SearchOut.answer (.ranked m (rank m (candidates items m q none)) k k)) := by
  have hall : (candidates items m q none).filter (·.pass) = candidates items m q none :=
    List.filter_eq_self.mpr (unfiltered_pass items m q)
  rw [answer_allpass]
  · have := brute_is_topk items hn m q none k
    rw [hall] at this
    exact this
  · intro c hc
    exact unfiltered_pass items m q c ((sortBy_perm _ _).subset hc)

theorem prefilter_answer (items : Items) (hn : (items.map (·.1)).Nodup) (m : Metric) (q : List Int)
    (f : Filter) (k : Nat) :
    IsTopK items m q (some f) k
      (SearchOut.answer (.ranked m (rank m ((candidates items m q (some f)).filter (·.pass))) k k)) := by
  rw [answer_allpass]
  · exact brute_is_topk items hn m q (some f) k
  · intro c hc
    exact (List.mem_filter.mp ((sortBy_perm _ _).subset hc)).2

theorem searchCore_cases (x : Coll) (m : Metric) (q : List Int) (f : Option Filter) (cut k : Nat) :
    searchCore x m q f cut k = .ranked m (rank m (candidates x.items m q f)) cut k ∨
    ∃ s, x.cache = some s ∧ indexUsable s q = true ∧
      searchCore x m q f cut k = .viaIndex s (rank .cosine (snapCands s x.items q f)) cut k := by
  unfold searchCore
  cases x.cache with
  | none => exact .inl rfl
  | some s =>
    dsimp only
    split
    · exact .inr ⟨s, rfl, ‹_›, rfl⟩
    · exact .inl rfl

theorem searchCore_ranked (x : Coll) (m : Metric) (q : List Int) (f : Option Filter) (cut k : Nat)
    (m' : Metric) (rs : List Cand) (cut' k' : Nat)
    (h : searchCore x m q f cut k = .ranked m' rs cut' k') :
    m' = m ∧ rs = rank m (candidates x.items m q f) ∧ cut' = cut ∧ k' = k := by
  rcases searchCore_cases x m q f cut k with he | ⟨s, _, _, he⟩
  · cases he.symm.trans h
    exact ⟨rfl, rfl, rfl, rfl⟩
  · cases he.symm.trans h

theorem snap_dims (items : Items) (hd : sameDims items = true) (q : List Int)
    (hu : indexUsable (snapOf items) q = true) : ∀ e ∈ snapOf items, e.2.length = q.length := by
  cases items with
  | nil => simp [snapOf, indexUsable] at hu
  | cons e0 rest =>
    simp only [snapOf, List.map_cons, indexUsable, beq_iff_eq] at hu
    simp only [sameDims, List.all_eq_true, beq_iff_eq] at hd
    intro e he
    simp only [snapOf, List.map_cons, List.mem_cons, List.mem_map] at he
    rcases he with rfl | ⟨x, hx, rfl⟩
    · exact hu
    · simp only
      rw [hd x hx]; exact hu

/-- what "never consulted after the data changed" means for a state -/
def NoStaleUse (st : State) : Prop :=
  Inv st ∧
  (∀ q k snap rs cut k', searchDefault st q k = .viaIndex snap rs cut k' → snap = snapOf st.dflt.items) ∧
  (∀ q k f s os snap rs cut k', searchFiltered st q k f s os = .viaIndex snap rs cut k' →
    snap = snapOf st.dflt.items) ∧
  (∀ c q k snap rs cut k', searchColl st c q k = .viaIndex snap rs cut k' →
    snap = snapOf (collOf st c).items) ∧
  (∀ c q k f s os snap rs cut k', searchCollFiltered st c q k f s os = .viaIndex snap rs cut k' →
    snap = snapOf (collOf st c).items)

/-- what an entry point may answer for a query `q` as far as dimensions go: an index is consulted
    only if every indexed vector has the query's dimension; the unspecified outcome of the
    pre-B1 code never occurs -/
def SearchOut.dimOK (q : List Int) : SearchOut → Prop
  | .viaIndex snap _ _ _ => ∀ e ∈ snap, e.2.length = q.length
  | .indexDimMismatch _ => False
  | _ => True

def DimGuarded (st : State) : Prop :=
  (∀ q k, (searchDefault st q k).dimOK q) ∧
  (∀ m q k, (searchMetric st m q k).dimOK q) ∧
  (∀ q k f s os, (searchFiltered st q k f s os).dimOK q) ∧
  (∀ c q k, (searchColl st c q k).dimOK q) ∧
  (∀ c q k f s os, (searchCollFiltered st c q k f s os).dimOK q)

/-! ### the shape every entry point shares: argument checks, then the cached index or a ranking -/

/-- what an entry point answers before it looks at the data: an argument error, or nothing for a
    zero query -/
inductive SearchOut.Refused : SearchOut → Prop
  | err (e : Err) : Refused (.err e)
  | zeroQuery : Refused .zeroQuery

theorem SearchOut.Refused.dimOK {o : SearchOut} (q : List Int) : o.Refused → o.dimOK q
  | .err _ => trivial
  | .zeroQuery => trivial

theorem SearchOut.cases_ite {p : Prop} [Decidable p] {a b o : SearchOut} {Q : Prop}
    (h : (if p then a else b) = o) (ha : a.Refused) (hb : b = o → o.Refused ∨ Q) : o.Refused ∨ Q := by
  split at h
  · exact .inl (h ▸ ha)
  · exact hb h

theorem searchDefault_cases {st : State} {q : List Int} {k : Nat} {o : SearchOut}
    (h : searchDefault st q k = o) : o.Refused ∨ o = searchCore st.dflt .cosine q none k k :=
  SearchOut.cases_ite h (.err _) fun h => SearchOut.cases_ite h (.err _) fun h =>
    SearchOut.cases_ite h .zeroQuery fun h => .inr h.symm

theorem searchMetric_cases {st : State} {m : Metric} {q : List Int} {k : Nat} {o : SearchOut}
    (h : searchMetric st m q k = o) :
    o.Refused ∨ o = .ranked m (rank m (candidates st.dflt.items m q none)) k k :=
  SearchOut.cases_ite h (.err _) fun h => SearchOut.cases_ite h (.err _) fun h =>
    SearchOut.cases_ite h .zeroQuery fun h => .inr h.symm

theorem searchColl_cases {st : State} {c : String} {q : List Int} {k : Nat} {o : SearchOut}
    (h : searchColl st c q k = o) :
    o.Refused ∨ o = searchCore (collOf st c) (cfgMetric st c) q none k k :=
  SearchOut.cases_ite h (.err _) fun h => SearchOut.cases_ite h (.err _) fun h =>
    SearchOut.cases_ite h (.err _) fun h => SearchOut.cases_ite h .zeroQuery fun h => .inr h.symm

/-- the filtered entry points run one of two arms; an explicit strategy fixes which -/
theorem searchFiltered_cases {st : State} {q : List Int} {k : Nat} {f : Filter} {strat : Strategy}
    {os : Nat} {o : SearchOut} (h : searchFiltered st q k f strat os = o) :
    o.Refused ∨
    (o = searchCore st.dflt .cosine q (some f) (oversampleK k os) k ∧ strat ≠ .pre) ∨
    (o = .ranked .cosine (rank .cosine ((candidates st.dflt.items .cosine q (some f)).filter (·.pass))) k k ∧
      strat ≠ .post) :=
  SearchOut.cases_ite h (.err _) fun h => SearchOut.cases_ite h (.err _) fun h => by
    cases strat with
    | pre => exact SearchOut.cases_ite h .zeroQuery fun h => .inr (.inr ⟨h.symm, nofun⟩)
    | post => exact SearchOut.cases_ite h .zeroQuery fun h => .inr (.inl ⟨h.symm, nofun⟩)
    | auto =>
      revert h
      dsimp only
      cases chooseDefault st.dflt.items f <;> intro h
      · exact SearchOut.cases_ite h .zeroQuery fun h => .inr (.inr ⟨h.symm, nofun⟩)
      · exact SearchOut.cases_ite h .zeroQuery fun h => .inr (.inr ⟨h.symm, nofun⟩)
      · exact SearchOut.cases_ite h .zeroQuery fun h => .inr (.inl ⟨h.symm, nofun⟩)

theorem searchCollFiltered_cases {st : State} {c : String} {q : List Int} {k : Nat} {f : Filter}
    {strat : Strategy} {os : Nat} {o : SearchOut} (h : searchCollFiltered st c q k f strat os = o) :
    o.Refused ∨
    (o = searchCore (collOf st c) (cfgMetric st c) q (some f) (oversampleK k os) k ∧ strat ≠ .pre) ∨
    (o = .ranked (cfgMetric st c) (rank (cfgMetric st c)
          ((candidates (collOf st c).items (cfgMetric st c) q (some f)).filter (·.pass))) k k ∧
      strat ≠ .post) :=
  SearchOut.cases_ite h (.err _) fun h => SearchOut.cases_ite h (.err _) fun h =>
    SearchOut.cases_ite h (.err _) fun h => SearchOut.cases_ite h .zeroQuery fun h => by
    subst h
    right
    cases strat with
    | pre => exact .inr ⟨rfl, nofun⟩
    | post => exact .inl ⟨rfl, nofun⟩
    | auto =>
      dsimp only
      split
      · exact .inl ⟨rfl, nofun⟩
      · exact .inr ⟨rfl, nofun⟩

theorem searchWithHnsw_cases {snap : Snap} {q : List Int} {k : Nat} {o : SearchOut}
    (h : searchWithHnsw snap q k = o) :
    o.Refused ∨ (o = .viaIndex snap (rank .cosine (snapCands snap [] q none)) k k ∧
      (snap = [] ∨ indexUsable snap q = true)) :=
  SearchOut.cases_ite h (.err _) fun h => SearchOut.cases_ite h (.err _) fun h => by
    cases snap with
    | nil => exact .inr ⟨h.symm, .inl rfl⟩
    | cons e rest =>
      by_cases hl : e.2.length = q.length
      · exact .inr ⟨by rw [← h]; simp only [hl, bne_self_eq_false, Bool.false_eq_true, if_false],
          .inr (by simpa only [indexUsable, beq_iff_eq] using hl)⟩
      · exact .inl (by rw [← h]; simp only [bne_iff_ne, ne_eq, hl, not_false_eq_true, if_true]; exact .err _)

theorem searchCore_dimOK (x : Coll) (hf : Fresh x) (m : Metric) (q : List Int) (f : Option Filter)
    (cut k : Nat) : (searchCore x m q f cut k).dimOK q := by
  rcases searchCore_cases x m q f cut k with he | ⟨s, hc, hu, he⟩
  · rw [he]; trivial
  · rw [he]
    obtain ⟨rfl, hd⟩ := hf s hc
    exact snap_dims x.items hd q hu

theorem dimGuarded_of_inv (st : State) (h : Inv st) : DimGuarded st := by
  refine ⟨fun q k => ?_, fun m q k => ?_, fun q k f s os => ?_, fun c q k => ?_, fun c q k f s os => ?_⟩
  · rcases searchDefault_cases (st := st) (q := q) (k := k) rfl with hr | he
    · exact hr.dimOK q
    · rw [he]; exact searchCore_dimOK _ h.1 ..
  · rcases searchMetric_cases (st := st) (m := m) (q := q) (k := k) rfl with hr | he
    · exact hr.dimOK q
    · rw [he]; trivial
  · rcases searchFiltered_cases (st := st) (q := q) (k := k) (f := f) (strat := s) (os := os) rfl
      with hr | ⟨he, _⟩ | ⟨he, _⟩
    · exact hr.dimOK q
    · rw [he]; exact searchCore_dimOK _ h.1 ..
    · rw [he]; trivial
  · rcases searchColl_cases (st := st) (c := c) (q := q) (k := k) rfl with hr | he
    · exact hr.dimOK q
    · rw [he]; exact searchCore_dimOK _ (fresh_collOf st c h) ..
  · rcases searchCollFiltered_cases (st := st) (c := c) (q := q) (k := k) (f := f) (strat := s) (os := os) rfl
      with hr | ⟨he, _⟩ | ⟨he, _⟩
    · exact hr.dimOK q
    · rw [he]; exact searchCore_dimOK _ (fresh_collOf st c h) ..
    · rw [he]; trivial

theorem searchCore_fresh (x : Coll) (hf : Fresh x) {m : Metric} {q : List Int} {f : Option Filter}
    {cut k : Nat} {snap : Snap} {rs : List Cand} {cut' k' : Nat}
    (hs : .viaIndex snap rs cut' k' = searchCore x m q f cut k) : snap = snapOf x.items := by
  rcases searchCore_cases x m q f cut k with he | ⟨s, hc, _, he⟩
  · cases hs.trans he
  · cases hs.trans he
    exact (hf _ hc).1

theorem noStaleUse_of_inv (st : State) (h : Inv st) : NoStaleUse st := by
  refine ⟨h, fun q k snap rs cut k' hs => ?_, fun q k f s os snap rs cut k' hs => ?_,
    fun c q k snap rs cut k' hs => ?_, fun c q k f s os snap rs cut k' hs => ?_⟩
  · rcases searchDefault_cases hs with hr | he
    · cases hr
    · exact searchCore_fresh _ h.1 he
  · rcases searchFiltered_cases hs with hr | ⟨he, _⟩ | ⟨he, _⟩
    · cases hr
    · exact searchCore_fresh _ h.1 he
    · cases he
  · rcases searchColl_cases hs with hr | he
    · cases hr
    · exact searchCore_fresh _ (fresh_collOf st c h) he
  · rcases searchCollFiltered_cases hs with hr | ⟨he, _⟩ | ⟨he, _⟩
    · cases hr
    · exact searchCore_fresh _ (fresh_collOf st c h) he
    · cases he

theorem getElem?_key_inj (snap : Snap) (hn : (snap.map (·.1)).Nodup) (i j : Nat) (x y : String × List Int)
    (hi : snap[i]? = some x) (hj : snap[j]? = some y) (hxy : x.1 = y.1) : i = j := by
  obtain ⟨hi', rfl⟩ := List.getElem?_eq_some_iff.mp hi
  obtain ⟨hj', rfl⟩ := List.getElem?_eq_some_iff.mp hj
  have hi2 : i < (snap.map (·.1)).length := by simpa using hi'
  have hj2 : j < (snap.map (·.1)).length := by simpa using hj'
  have : (snap.map (·.1))[i] = (snap.map (·.1))[j] := by simpa using hxy
  exact (List.getElem_inj (h₀ := hi2) (h₁ := hj2) hn).mp this

theorem mapped_keys_nodup (snap : Snap) (hn : (snap.map (·.1)).Nodup) (ann : List (Nat × Score))
    (hids : (ann.map (·.1)).Nodup) :
    ((ann.filterMap fun a => (snap[a.1]?).map fun e => (⟨e.1, a.2, true⟩ : Cand)).map (·.key)).Nodup := by
  induction ann with
  | nil => simp
  | cons a rest ih =>
    simp only [List.map_cons, List.nodup_cons] at hids
    cases ha : snap[a.1]? with
    | none =>
      rw [List.filterMap_cons_none (by simp [ha])]
      exact ih hids.2
    | some e =>
      rw [List.filterMap_cons_some (b := ⟨e.1, a.2, true⟩) (by simp [ha])]
      simp only [List.map_cons, List.nodup_cons]
      refine ⟨?_, ih hids.2⟩
      intro hmem
      obtain ⟨c, hc, hkey⟩ := List.mem_map.mp hmem
      obtain ⟨b, hb, hbc⟩ := List.mem_filterMap.mp hc
      cases hb' : snap[b.1]? with
      | none => simp [hb'] at hbc
      | some e' =>
        simp only [hb', Option.map_some, Option.some.injEq] at hbc
        subst hbc
        simp only at hkey
        have : b.1 = a.1 := getElem?_key_inj snap hn _ _ _ _ hb' ha hkey
        exact hids.1 (List.mem_map.mpr ⟨b, hb, this⟩)

theorem mem_postProcessAnnM (m : Metric) (snap : Snap) (ann : List (Nat × Score)) (k : Nat) (c : Cand)
    (hc : c ∈ postProcessAnnM m snap ann k) :
    ∃ a ∈ ann, ∃ e, snap[a.1]? = some e ∧ c = ⟨e.1, a.2, true⟩ := by
  obtain ⟨a, ha, hac⟩ := List.mem_filterMap.mp ((sortBy_perm _ _).subset (List.mem_of_mem_take hc))
  cases he : snap[a.1]? with
  | none => simp [he] at hac
  | some e =>
    simp only [he, Option.map_some, Option.some.injEq] at hac
    exact ⟨a, ha, e, he, hac.symm⟩

theorem postProcessAnnM_shape (m : Metric) (snap : Snap) (q : List Int) (ann : List (Nat × Score)) (k : Nat) :
    (postProcessAnnM m snap ann k).length ≤ k ∧
    (postProcessAnnM m snap ann k).Pairwise (fun a b => candBetter m a b = true) ∧
    (∀ c ∈ postProcessAnnM m snap ann k, c.key ∈ snap.map (·.1)) ∧
    ((snap.map (·.1)).Nodup → (ann.map (·.1)).Nodup →
      ((postProcessAnnM m snap ann k).map (·.key)).Nodup) ∧
    ((∀ a ∈ ann, ∀ e, snap[a.1]? = some e → a.2 = score m q e.2) →
      ∀ c ∈ postProcessAnnM m snap ann k, ∃ vec, (c.key, vec) ∈ snap ∧ c.score = score m q vec) := by
  have hmem := mem_postProcessAnnM m snap ann k
  refine ⟨?_, ?_, ?_, ?_, ?_⟩
  · simp only [postProcessAnnM, List.length_take]; omega
  · exact (sortBy_sorted _ (candBetter_total _) (candBetter_trans _) _).sublist (List.take_sublist k _)
  · intro c hc
    obtain ⟨a, _, e, he, rfl⟩ := hmem c hc
    exact List.mem_map.mpr ⟨e, List.mem_of_getElem? he, rfl⟩
  · intro hn hids
    exact (((sortBy_perm _ _).map _).nodup_iff.mpr (mapped_keys_nodup snap hn ann hids)).sublist
      ((List.take_sublist k _).map _)
  · intro htrue c hc
    obtain ⟨a, ha, e, he, rfl⟩ := hmem c hc
    exact ⟨e.2, List.mem_of_getElem? he, htrue a ha e he⟩

theorem scored_ids {α : Type} (snap : Snap) (sc : List Int → Score) (g : α → Nat) (l : List α) :
    ((l.filterMap fun x => (snap[g x]?).map fun e => (g x, sc e.2)).map (·.1)).Sublist (l.map g) ∧
    ∀ a ∈ l.filterMap fun x => (snap[g x]?).map fun e => (g x, sc e.2),
      ∀ e, snap[a.1]? = some e → a.2 = sc e.2 := by
  constructor
  · induction l with
    | nil => exact List.Sublist.refl _
    | cons x rest ih =>
      cases hx : snap[g x]? with
      | none => rw [List.filterMap_cons_none (by simp [hx])]; exact ih.cons _
      | some e => rw [List.filterMap_cons_some (b := (g x, sc e.2)) (by simp [hx])]; exact ih.cons_cons _
  · intro a ha e he
    obtain ⟨x, _, hx⟩ := List.mem_filterMap.mp ha
    cases hx' : snap[g x]? with
    | none => rw [hx'] at hx; cases hx
    | some e' =>
      rw [hx'] at hx
      cases hx
      rw [hx'] at he
      cases he
      rfl

theorem current_of_mem_snapOf (items : Items) (hn : (items.map (·.1)).Nodup) (key : String)
    (vec : List Int) (h : (key, vec) ∈ snapOf items) :
    ∃ it, alGet items key = some it ∧ vecOf it = vec := by
  simp only [snapOf, List.mem_map] at h
  obtain ⟨e, he, heq⟩ := h
  simp only [Prod.mk.injEq] at heq
  obtain ⟨rfl, rfl⟩ := heq
  exact ⟨e.2, alGet_of_mem_nodup items e.1 e.2 hn he, rfl⟩

theorem pageOf_take (α : Type) (L : List α) (k skip : Nat) (limit : Option Nat) :
    pageOf skip limit (L.take (pagedK k skip limit)) = pageOf skip limit (L.take k) := by
  cases limit with
  | none =>
    simp only [pagedK, Option.getD_none, pageOf]
    rw [Nat.min_eq_right (Nat.le_add_left k skip)]
  | some n =>
    simp only [pagedK, Option.getD_some, pageOf, List.drop_take, List.take_take]
    rw [← Nat.sub_min_sub_right, Nat.add_sub_cancel_left, ← Nat.min_assoc, Nat.min_self]

/-! ### post-filter answers: sound, and exact when the oversample pool covers every candidate -/

/-- the exact filtered ranking, of which every filtered answer is a part -/
def filteredRanking (items : Items) (m : Metric) (q : List Int) (f : Filter) : List Cand :=
  (rank m (candidates items m q (some f))).filter (·.pass)

theorem filteredRanking_perm (items : Items) (m : Metric) (q : List Int) (f : Filter) :
    (filteredRanking items m q f).Perm ((candidates items m q (some f)).filter (·.pass)) :=
  (sortBy_perm _ _).filter _

theorem filteredRanking_sorted (items : Items) (m : Metric) (q : List Int) (f : Filter) :
    (filteredRanking items m q f).Pairwise (fun a b => candBetter m a b = true) :=
  (sortBy_sorted _ (candBetter_total m) (candBetter_trans m) _).sublist List.filter_sublist

theorem filteredRanking_keys_nodup (items : Items) (hn : (items.map (·.1)).Nodup) (m : Metric)
    (q : List Int) (f : Filter) : ((filteredRanking items m q f).map (·.key)).Nodup := by
  have p2 := (filteredRanking_perm items m q f).map (·.key)
  have s3 : (((candidates items m q (some f)).filter (·.pass)).map (·.key)).Sublist (items.map (·.1)) :=
    (List.filter_sublist.map _).trans (candidates_keys_sublist items m q (some f))
  exact p2.nodup_iff.mpr (hn.sublist s3)

theorem mem_filteredRanking (items : Items) (hn : (items.map (·.1)).Nodup) (m : Metric)
    (q : List Int) (f : Filter) (c : Cand) (hc : c ∈ filteredRanking items m q f) :
    ∃ it, alGet items c.key = some it ∧ (vecOf it).length = q.length ∧
      c.score = score m q (vecOf it) ∧ evalFilter it.md f = true := by
  have h1 := (filteredRanking_perm items m q f).subset hc
  obtain ⟨h2, h3⟩ := List.mem_filter.mp h1
  obtain ⟨it, hmem, hl, hs, hp⟩ := mem_candidates items m q (some f) c h2
  refine ⟨it, alGet_of_mem_nodup items c.key it hn hmem, hl, hs, ?_⟩
  have : c.pass = true := by simpa using h3
  rw [hp] at this
  exact this

theorem postfilter_answer_sublist (items : Items) (m : Metric) (q : List Int) (f : Filter) (cut k : Nat) :
    (SearchOut.answer (.ranked m (rank m (candidates items m q (some f))) cut k)).Sublist
      (filteredRanking items m q f) := by
  simp only [SearchOut.answer, filteredRanking]
  exact (List.take_sublist k _).trans ((List.take_sublist cut _).filter _)

theorem postfilter_exact (items : Items) (hn : (items.map (·.1)).Nodup) (m : Metric) (q : List Int)
    (f : Filter) (cut k : Nat) (hcut : (candidates items m q (some f)).length ≤ cut) :
    IsTopK items m q (some f) k
      (SearchOut.answer (.ranked m (rank m (candidates items m q (some f))) cut k)) := by
  have hlen : (rank m (candidates items m q (some f))).length ≤ cut := by
    rw [rank, (sortBy_perm _ _).length_eq]; exact hcut
  have hans : SearchOut.answer (.ranked m (rank m (candidates items m q (some f))) cut k)
      = (filteredRanking items m q f).take k := by
    simp only [SearchOut.answer, filteredRanking, List.take_of_length_le hlen]
  rw [hans]
  exact isTopK_take items hn m q (some f) k _ (filteredRanking_perm items m q f)
    (filteredRanking_sorted items m q f)

theorem alGet_alPut_ne {β : Type} (m : List (String × β)) (k k' : String) (v : β) (h : k' ≠ k) :
    alGet (alPut m k v) k' = alGet m k' := by
  simp only [alPut]
  split
  · rw [alGet_map _ _ (replace_key k v)]
    cases hf : m.find? (fun e => e.1 == k') with
    | none => simp [alGet, hf]
    | some e =>
      have : e.1 = k' := by simpa using List.find?_some hf
      simp [alGet, hf, this, h]
  · have hk' : (k == k') = false := by simpa using (Ne.symm h)
    simp only [alGet, List.find?_append, List.find?_cons, hk', List.find?_nil]
    cases m.find? (fun e => e.1 == k') <;> rfl

/-! ### reads see the last write: the default collection is a map from keys to vectors -/

/-- the map semantics of every operation, as seen by `get_embedding` -/
def specStep (m : String → Option (List Int)) : Op → (String → Option (List Int))
  | .store key v => if v.isEmpty then m else fun k => if k = key then some v else m k
  | .storeMeta key v _ => if v.isEmpty then m else fun k => if k = key then some v else m k
  | .delete key => fun k => if k = key then none else m k
  | .batchDelete keys => fun k => if k ∈ keys then none else m k
  | .clear => fun _ => none
  | .batchStore inputs =>
    if inputs.any (fun e => e.2.isEmpty) then m
    else fun k => match inputs.reverse.find? (fun e => e.1 == k) with
      | some e => some e.2
      | none => m k
  | _ => m

theorem alGet_alDel_ne {β : Type} (m : List (String × β)) (k k' : String) (h : k' ≠ k) :
    alGet (alDel m k) k' = alGet m k' := by
  simp only [alGet, alDel, List.find?_filter]
  refine congrArg (fun p => (m.find? p).map (·.2)) (funext fun e => ?_)
  by_cases he : e.1 = k'
  · simp [he, h]
  · simp [he]

theorem alGet_none_of_not_has {β : Type} (m : List (String × β)) (k : String) (h : alHas m k = false) :
    alGet m k = none := by
  simp only [alGet, Option.map_eq_none_iff, List.find?_eq_none]
  intro e he hk
  have : alHas m k = true := by
    simp only [alHas, List.any_eq_true]; exact ⟨e, he, hk⟩
  rw [h] at this; cases this

theorem alGet_foldl_alDel {β : Type} (ks : List String) (m : List (String × β)) (k : String) :
    alGet (ks.foldl alDel m) k = if k ∈ ks then none else alGet m k := by
  induction ks generalizing m with
  | nil => simp
  | cons k0 ks ih =>
    simp only [List.foldl_cons, ih, List.mem_cons]
    by_cases hk : k ∈ ks
    · simp [hk]
    · by_cases h0 : k = k0
      · subst h0; simp [hk, alGet_alDel_self]
      · simp [hk, h0, alGet_alDel_ne m k0 k h0]

theorem view_alModify (items : Items) (k k' : String) (f : Item → Item)
    (hf : ∀ it, (f it).repr = it.repr) :
    (alGet (alModify items k f) k').map vecOf = (alGet items k').map vecOf := by
  rw [alModify, alGet_map _ _ (fun e => by split <;> rfl), alGet, Option.map_map, Option.map_map]
  refine congrArg (Option.map · _) (funext fun e => ?_)
  simp only [Function.comp]
  split <;> simp [vecOf, hf]

theorem alGet_foldl_alPut (inputs : List (String × List Int)) (m : Items) (k : String) :
    (alGet (inputs.foldl (fun items e => alPut items e.1 (mkItem e.2 [])) m) k).map vecOf
      = match inputs.reverse.find? (fun e => e.1 == k) with
        | some e => some e.2
        | none => (alGet m k).map vecOf := by
  induction inputs generalizing m with
  | nil => simp
  | cons e es ih =>
    simp only [List.foldl_cons, ih, List.reverse_cons, List.find?_append]
    cases hf : es.reverse.find? (fun e => e.1 == k) with
    | some x => simp
    | none =>
      simp only [Option.none_or, List.find?_cons, List.find?_nil]
      by_cases hk : (e.1 == k) = true
      · have : e.1 = k := by simpa using hk
        subst this
        simp [alGet_alPut_self, vecOf_mkItem]
      · have hne : k ≠ e.1 := by
          intro h; apply hk; rw [h]; simp
        simp [hk, alGet_alPut_ne m e.1 k _ hne]

theorem view_step (st : State) (op : Op) :
    getDefault (step st op).1 = specStep (getDefault st) op := by
  funext k
  cases op with
  | store key v | storeMeta key v md =>
    simp only [step, specStep]
    split
    · rfl
    · simp only [getDefault]
      by_cases hk : k = key
      · subst hk; simp [alGet_alPut_self, vecOf_mkItem]
      · simp [hk, alGet_alPut_ne _ key k _ hk]
  | delete key =>
    simp only [step, specStep]
    split
    · simp only [getDefault]
      by_cases hk : k = key
      · subst hk; simp [alGet_alDel_self]
      · simp [hk, alGet_alDel_ne _ key k hk]
    · rename_i hh
      simp only [getDefault]
      by_cases hk : k = key
      · subst hk
        have : alHas st.dflt.items k = false := by simpa using hh
        simp [alGet_none_of_not_has _ _ this]
      · simp [hk]
  | batchDelete keys =>
    simp only [step, specStep, getDefault, alGet_foldl_alDel]
    split <;> simp
  | clear => simp [step, specStep, getDefault, alGet]
  | batchStore inputs =>
    simp only [step, specStep]
    split
    · rename_i he
      have : inputs = [] := by simpa using he
      subst this
      simp
    · split
      · rfl
      · simp only [getDefault]
        exact alGet_foldl_alPut inputs st.dflt.items k
  | updateMeta key md =>
    simp only [step, specStep]
    split
    · exact view_alModify st.dflt.items key k (fun it => ⟨it.repr, mergeMeta it.md md⟩) (fun _ => rfl)
    · rfl
  | removeMetaField key field =>
    simp only [step, specStep]
    split
    · exact view_alModify st.dflt.items key k (fun it => ⟨it.repr, alDel it.md field⟩) (fun _ => rfl)
    · rfl
  | build | createColl c cfg | dropColl c | cdelete c key => simp only [step, specStep]; split <;> rfl
  | cstore c key vec md =>
    simp only [step, specStep]
    split
    · rfl
    · split
      · split <;> rfl
      · rfl
  | cbuild c =>
    simp only [step, specStep]
    split
    · rfl
    · split <;> rfl
  | invalidate c => cases c <;> rfl

theorem view_run (ops : List Op) (st : State) :
    getDefault (run st ops) = ops.foldl specStep (getDefault st) := by
  induction ops generalizing st with
  | nil => rfl
  | cons op ops ih => simp only [run, List.foldl_cons, ih, view_step]

/-! ### the sample of the Auto strategy: what a pre-filter pass over the sampled keys only would lose -/

theorem run_append (st : State) (a b : List Op) : run st (a ++ b) = run (run st a) b := by
  induction a generalizing st with
  | nil => rfl
  | cons op a ih => exact ih _

theorem collOf_setColl (st : State) (c : String) (x : Coll) : collOf (setColl st c x) c = x := by
  simp only [collOf, setColl, alGet_alPut_self, Option.getD_some]

theorem alPut_fresh {β : Type} (m : List (String × β)) (k : String) (v : β) (h : k ∉ m.map (·.1)) :
    alPut m k v = m ++ [(k, v)] := by
  have : alHas m k = false := by
    cases hh : alHas m k with
    | false => rfl
    | true => exact absurd ((alHas_iff m k).mp hh) h
  simp only [alPut, this, Bool.false_eq_true, if_false]

theorem run_cstore_fresh (c : String) (v : List Int) (md : List (String × Int)) (hv : v ≠ [])
    (keys : List String) (st : State) (hcfg : alGet st.configs c = none)
    (hn : ((collOf st c).items.map (·.1) ++ keys).Nodup) :
    (collOf (run st (keys.map fun key => .cstore c key v md)) c).items
        = (collOf st c).items ++ keys.map (fun key => (key, mkItem v md)) ∧
      (run st (keys.map fun key => .cstore c key v md)).configs = st.configs := by
  induction keys generalizing st with
  | nil => simp [run]
  | cons key rest ih =>
    have hv' : v.isEmpty = false := List.isEmpty_eq_false_iff.mpr hv
    have hfresh : key ∉ (collOf st c).items.map (·.1) := fun hm =>
      (List.nodup_append.mp hn).2.2 key hm key List.mem_cons_self rfl
    have hstep : (step st (.cstore c key v md)).1
        = setColl st c ⟨(collOf st c).items ++ [(key, mkItem v md)], none⟩ := by
      simp only [step, hv', hcfg, Bool.false_eq_true, if_false, if_true, alPut_fresh _ _ _ hfresh]
    obtain ⟨h1, h2⟩ := ih (setColl st c ⟨(collOf st c).items ++ [(key, mkItem v md)], none⟩) hcfg (by
      rw [collOf_setColl]; simpa using hn)
    rw [collOf_setColl, List.append_assoc] at h1
    simp only [List.map_cons, run, hstep]
    exact ⟨h1, h2⟩

theorem candidates_filter_eq_nil (items : Items) (m : Metric) (q : List Int) (f : Filter)
    (h : ∀ e ∈ items, evalFilter e.2.md f = false) :
    (candidates items m q (some f)).filter (·.pass) = [] := by
  rw [List.filter_eq_nil_iff]
  intro c hc
  obtain ⟨it, hmem, _, _, hp⟩ := mem_candidates items m q (some f) c hc
  rw [hp]
  simpa only [passes, Bool.not_eq_true] using h _ hmem

theorem itemsOfKeys_prefix (pre rest : Items) (hn : ((pre ++ rest).map (·.1)).Nodup) :
    itemsOfKeys (pre ++ rest) (pre.map (·.1)) = pre := by
  unfold itemsOfKeys
  rw [List.filterMap_map, filterMap_eq_map_of _ _ id, List.map_id]
  intro e he
  simp only [Function.comp, alGet_of_mem_nodup _ e.1 e.2 hn (List.mem_append_left _ he), Option.map_some, id]

/-- A collection whose items are `pre`, none matching the filter, then one matching item `z`; the
    estimate samples exactly the keys of `pre` and says pre-filter.  The variant then ranks the sampled
    items only and answers nothing; the code walks every item and answers `z`. -/
theorem prefilter_on_sample_misses_tail (st : State) (c : String) (q : List Int) (k : Nat) (f : Filter)
    (os : Nat) (pre : Items) (z : String) (itz : Item)
    (hitems : (collOf st c).items = pre ++ [(z, itz)])
    (hn : ((pre ++ [(z, itz)]).map (·.1)).Nodup) (hne : pre ≠ [])
    (hpre : ∀ e ∈ pre, evalFilter e.2.md f = false) (hz : evalFilter itz.md f = true)
    (hdim : (vecOf itz).length = q.length)
    (hq : q ≠ []) (hk : k ≠ 0) (hcfg : alGet st.configs c = none) (hnz : normSq q ≠ 0) :
    (searchCollFilteredPreFilterOnSampleOnly pre.length (pre.map (·.1) ++ [z]) st c q k f .auto os).answer.map
      (·.key) = [] ∧
    (searchCollFilteredOn pre.length (pre.map (·.1) ++ [z]) st c q k f .auto os).answer.map (·.key) = [z] := by
  have hq' : q.isEmpty = false := List.isEmpty_eq_false_iff.mpr hq
  have hlen : 0 < pre.length := List.length_pos_iff.mpr hne
  have hmin : min pre.length (pre.map (·.1) ++ [z]).length = pre.length := by
    rw [List.length_append, List.length_map]; omega
  have htake : (pre.map (·.1) ++ [z]).take pre.length = pre.map (·.1) := by
    rw [List.take_left' (List.length_map ..)]
  -- the estimate sees no match among the sampled keys
  have hauto : autoStrategyOn pre.length (pre ++ [(z, itz)]) (pre.map (·.1) ++ [z]) f = .pre := by
    unfold autoStrategyOn
    simp only [hmin, htake]
    rw [if_neg (Nat.pos_iff_ne_zero.mp hlen), List.filter_eq_nil_iff.mpr, List.length_nil, Nat.mul_zero,
      if_pos hlen]
    intro key hkey
    obtain ⟨e, he, rfl⟩ := List.mem_map.mp hkey
    rw [alGet_of_mem_nodup _ e.1 e.2 hn (List.mem_append_left _ he)]
    simpa only [Bool.not_eq_true] using hpre e he
  have hnone := candidates_filter_eq_nil pre (cfgMetric st c) q f hpre
  constructor
  · simp only [searchCollFilteredPreFilterOnSampleOnly, hq', hk, cfgDimOk, hcfg, hnz, hauto, hmin, htake,
      hitems, itemsOfKeys_prefix pre _ hn, hnone, Bool.false_eq_true, if_false, Bool.not_true,
      decide_false, Bool.false_and, SearchOut.answer, rank, sortBy, List.take_nil, List.filter_nil,
      List.map_nil]
  · simp only [searchCollFilteredOn, hq', hk, cfgDimOk, hcfg, hnz, hauto, hitems, Bool.false_eq_true,
      if_false, Bool.not_true, decide_false, Bool.false_and]
    have hcand : (candidates (pre ++ [(z, itz)]) (cfgMetric st c) q (some f)).filter (·.pass)
        = [⟨z, score (cfgMetric st c) q (vecOf itz), true⟩] := by
      unfold candidates at hnone ⊢
      rw [List.filterMap_append, List.filter_append, hnone]
      simp only [List.filterMap_cons, List.filterMap_nil, hdim, if_true, passes, hz, List.nil_append,
        List.filter_cons, List.filter_nil]
    rw [hcand]
    cases k with
    | zero => exact absurd rfl hk
    | succ k =>
      simp only [SearchOut.answer, rank, sortBy, insBy, List.take_succ_cons, List.take_nil, List.filter_cons,
        List.filter_nil, if_true, List.map_cons, List.map_nil]

end Neumann.Vec
