import NeumannModel.Vec.NsLemmas
/-
  C06 — property theorems about the storage-key layer of the vector engine (`NsModel.lean`):
  which key a search through a cached index reports, and where the picture "every collection is
  its own map with its own cached index" (`Vec.Model`) is, and is not, what the code does.

  `frun Flat.init ops` is the flat store + the cache slots after ANY sequence of `FOp`s of the
  code as it is (with 4fa63773); `frunOld` / `Flat.buildOld` are the code before 4fa63773 and
  occur only in the `_witness` theorem of that fix.  Theorems quantified over `fs : Flat` hold
  for EVERY store content and EVERY slot content, reachable or not, and for every key and
  collection-name string.
-/
namespace Neumann.Vec.NsProps
open Neumann.Vec

/-! ### 4fa63773 — a cached default-collection index reports the keys it indexed -/

/-- Stripping the storage prefix from a storage key gives back the key, for EVERY key string —
    also one that itself starts with `emb:` or `coll:` (both collections). -/
theorem storage_key_roundtrip (c key : String) :
    stripOr embPrefix (embKey key) = key ∧ stripPrefix? embPrefix (embKey key) = some key ∧
    stripOr (collPrefix c) (collKey c key) = key ∧
    stripPrefix? (collPrefix c) (collKey c key) = some key :=
  ⟨stripOr_embKey key, stripPrefix?_append _ _, stripOr_append _ _, stripPrefix?_append _ _⟩

/-- For EVERY store content: what `build_and_cache_index` leaves in slot `_default`, read the way
    `search_similar` reads it (`strip_prefix("emb:").unwrap_or(key)` on every cached key), is
    exactly the list `build_hnsw_index` indexed — node for node the key `list_keys()` returned
    with the vector `get_embedding(key)` returned. -/
theorem cached_default_index_reports_indexed_keys (fs : Flat)
    (hd : snapSameDims fs.buildSnap = true) :
    (alGet fs.build.slots defaultSlot).map (reportSnap embPrefix) = some fs.buildSnap := by
  simp only [Flat.build, hd, if_true, alGet_alPut_self, Option.map_some, reportSnap_embKey]

/-- every indexed entry is a key `list_keys()` lists, with the vector stored under it NOW -/
theorem buildSnap_entries_are_stored (fs : Flat) :
    ∀ e ∈ fs.buildSnap, e.1 ∈ fs.listKeys ∧ fs.getDefault e.1 = some e.2 := by
  intro e he
  simp only [Flat.buildSnap, List.mem_filterMap, Option.map_eq_some_iff] at he
  obtain ⟨k, hk, v, hv, rfl⟩ := he
  exact ⟨hk, hv⟩

/-- ... hence, for EVERY store content (on which the build succeeds: one dimension), query and
    `k`: when `search_similar` right after `build_and_cache_index` answers from the index, the
    candidates it reports are the indexed entries themselves — each key is a stored key (whatever
    characters it is made of) and is scored with the vector stored under THAT key.  This is what
    lets `Vec.Model` say `viaIndex (snapOf items)` with the items' own keys. -/
theorem search_after_build_reports_stored_keys (fs : Flat) (hd : snapSameDims fs.buildSnap = true)
    (q : List Int) (k : Nat) (s : Snap) (rs : List Cand) (cut k' : Nat)
    (h : fs.build.searchDefault q k = .viaIndex s rs cut k') :
    s = fs.buildSnap ∧ rs = rank .cosine (snapCands fs.buildSnap [] q none) ∧
    ∀ e ∈ s, e.1 ∈ fs.listKeys ∧ fs.getDefault e.1 = some e.2 := by
  obtain ⟨s0, hs, rfl, rfl⟩ := searchSlot_viaIndex h
  have hc := cached_default_index_reports_indexed_keys fs hd
  rw [hs, Option.map_some, Option.some.injEq] at hc
  rw [hc]
  exact ⟨rfl, rfl, buildSnap_entries_are_stored fs⟩

def prefixOps : List FOp := [.store "emb:x" [1, 0], .store "x" [0, 1], .build]

/-- Regression witness (code before 4fa63773): keys `emb:x` = [1,0] and `x` = [0,1], index built
    and cached.  The old code cached the bare keys and `search_similar` stripped `emb:` from them
    once more: the best match of [1,0] — the vector stored under `emb:x`, `q·v = 1` — was reported
    under the name `x`, the key of the OTHER vector.  The current code reports `emb:x`. -/
theorem cached_index_strips_key_prefix_witness :
    (frunOld Flat.init prefixOps).listKeys = ["emb:x", "x"] ∧
    (match (frunOld Flat.init prefixOps).searchDefault [1, 0] 1 with
      | .viaIndex _ rs _ _ => rs.map fun c => (c.key, c.score.p)
      | _ => []) = [("x", 1), ("x", 0)] ∧
    (match (frun Flat.init prefixOps).searchDefault [1, 0] 1 with
      | .viaIndex _ rs _ _ => rs.map fun c => (c.key, c.score.p)
      | _ => []) = [("emb:x", 1), ("x", 0)] := by
  decide +kernel

/-! ### the default collection of the flat store IS the default collection of `Vec.Model` -/

/-- For EVERY sequence of operations of the flat layer — default collection and named collections
    interleaved, keys and names arbitrary strings (`emb:x`, `coll:a:emb:k`, `a:emb:b`, ...) — in
    which no collection is literally named `_default`: what the code keeps under the `emb:` prefix
    and in slot `_default` is exactly the default collection of `Vec.Model` after the default
    collection's operations of that sequence — same keys in the same order, same reads, and for
    every query and `k` the same search outcome (same path, same candidates, same keys).  So the
    theorems of `Props.lean` about the default collection (search_is_topk, no_stale_cache,
    cached_index_dimension_guard, ...) speak about the code's storage keys for every key string,
    and no operation on a named collection can disturb them. -/
theorem default_collection_refines (ops : List FOp)
    (ha : ∀ op ∈ ops, op.avoidsDefaultSlot = true) (q : List Int) (k : Nat) :
    (frun Flat.init ops).view embPrefix = (run State.init (ops.filterMap FOp.toOp?)).dflt.items ∧
    (∀ key, (frun Flat.init ops).getDefault key
      = getDefault (run State.init (ops.filterMap FOp.toOp?)) key) ∧
    (frun Flat.init ops).searchDefault q k
      = searchDefault (run State.init (ops.filterMap FOp.toOp?)) q k := by
  have h := defaultRel_run ops Flat.init State.init ⟨rfl, rfl, List.nodup_nil⟩ ha
  exact ⟨(view_eq_viewL _ _).trans h.1, getDefault_of_rel _ _ h, searchDefault_of_rel _ _ h q k⟩

/-! ### known finding — the default collection's cache slot is a legal collection name -/

def slotOps : List FOp := [.cstore "_default" "incoll" [0, 1], .store "indefault" [1, 0], .build]

/-- Known finding `vector_engine.search_in_collection/default_cache_slot_shared` (current code):
    a collection literally named `_default` holds `incoll`; the default collection holds
    `indefault`.  Before `build_and_cache_index` a search in collection `_default` finds `incoll`;
    after it the search reads slot `_default` — the DEFAULT collection's index — and reports the
    other collection's entry (under its storage key, which the collection prefix does not
    match), never `incoll`. -/
theorem default_cache_slot_shared_witness :
    (frun Flat.init slotOps).listCollKeys "_default" = ["incoll"] ∧
    ((frun Flat.init (slotOps.take 2)).searchColl "_default" [0, 1] 5).keys = ["incoll"] ∧
    ((frun Flat.init slotOps).searchColl "_default" [0, 1] 5).keys = ["emb:indefault"] := by
  decide +kernel

/-- Every other collection name has a slot of its own: the clash needs exactly that name. -/
theorem collection_slot_is_not_default_slot (fs : Flat) (c : String) (hc : c ≠ defaultSlot) (s : Snap) :
    alGet (alPut fs.slots defaultSlot s) c = alGet fs.slots c :=
  alGet_alPut_ne _ _ _ _ hc

/-! ### known finding — collection names are key prefixes -/

def overlapOps : List FOp := [.cstore "a:emb:b" "k" [1, 0]]

/-- Known finding `vector_engine.search_in_collection/collection_prefix_overlap` (current code):
    `(a:emb:b, k)` and `(a, b:emb:k)` are the same storage key.  One store into collection
    `a:emb:b` makes a key appear in collection `a`: it is listed, found by search and readable
    there although nothing was ever stored in `a`. -/
theorem collection_prefix_overlap_witness :
    collKey "a:emb:b" "k" = collKey "a" "b:emb:k" ∧
    (frun Flat.init overlapOps).listCollKeys "a" = ["b:emb:k"] ∧
    ((frun Flat.init overlapOps).searchColl "a" [1, 0] 5).keys = ["b:emb:k"] ∧
    (frun Flat.init overlapOps).getColl "a" "b:emb:k" = some [1, 0] := by
  decide +kernel

/-- Where the overlap cannot happen, for EVERY key string: a storage key of collection `c` falls
    under the scan prefix of collection `c'` only if `c' = c`, provided neither name contains the
    separator `:` (the harness's collection names are `[a-z0-9]+`); and the default collection's
    keys and the named collections' keys never fall under each other's prefix, whatever the
    names and keys are. -/
theorem collections_disjoint_without_separator (c c' key : String)
    (hc : ':' ∉ c.toList) (hc' : ':' ∉ c'.toList) :
    (hasPrefix (collPrefix c') (collKey c key) = true → c' = c) ∧
    hasPrefix embPrefix (collKey c key) = false ∧
    hasPrefix (collPrefix c) (embKey key) = false := by
  refine ⟨fun h => ?_, not_hasPrefix_emb_collKey c key, not_hasPrefix_coll_embKey c key⟩
  simp only [hasPrefix, List.isPrefixOf_iff_prefix, collKey, collPrefix, String.toList_append, toList_coll] at h
  have e2 : ":emb:".toList = ':' :: ['e', 'm', 'b', ':'] := by decide +kernel
  rw [e2] at h
  simp only [List.append_assoc, List.cons_append, List.nil_append, List.prefix_cons_inj] at h
  exact String.ext_iff.2 (sep_prefix_eq _ _ _ _ hc' hc h)

/-! ### Non-vacuity -/

/-- a store on which the build succeeds, with a key that itself starts with the storage prefix,
    and a search that does go through the index -/
example : snapSameDims (frun Flat.init (prefixOps.take 2)).buildSnap = true := by decide +kernel
example : (match (frun Flat.init (prefixOps.take 2)).build.searchDefault [1, 0] 1 with
    | .viaIndex s _ _ _ => s.map (·.1)
    | _ => []) = ["emb:x", "x"] := by decide +kernel
example : stripOr embPrefix "emb:x" = "x" ∧ stripOr embPrefix (embKey "emb:x") = "emb:x" := by decide +kernel
-- default_collection_refines: a sequence that meets the hypothesis, with colliding key strings, a
-- named collection in between, and a search that goes through the index on both sides
def refineOps : List FOp :=
  [.store "emb:x" [1, 0], .cstore "a:emb:b" "k" [1, 1], .store "x" [0, 1], .build, .cbuild "a"]
example : (∀ op ∈ refineOps, op.avoidsDefaultSlot = true) ∧
    ((frun Flat.init refineOps).searchDefault [1, 0] 1).keys = ["emb:x", "x"] ∧
    (match searchDefault (run State.init (refineOps.filterMap FOp.toOp?)) [1, 0] 1 with
      | .viaIndex s _ _ _ => s.map (·.1)
      | _ => []) = ["emb:x", "x"] := by decide +kernel
example : ':' ∉ "c0".toList ∧ hasPrefix (collPrefix "c0") (collKey "c0" "emb:k") = true := by decide +kernel

end Neumann.Vec.NsProps
