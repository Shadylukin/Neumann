import NeumannModel.Vec.Props

/-!
  C06 — filter strategies of `search_filtered_in_collection` (named collections with metadata
  filters), with the store scan the Auto arm samples made explicit (`searchCollFilteredOn`).

  The strategy (Auto / PreFilter / PostFilter), the scan order and the sample only ever SELECT
  between the two arms `Props.lean` proves things about; they never change what an arm walks.
  In particular, whenever the pre-filter arm runs — requested, or chosen by Auto from ANY sample
  of ANY key list — the answer is the exact top-`k` of ALL stored vectors of the collection that
  satisfy the filter, however many there are and wherever they come in scan order.  The variant
  in which the pre-filter arm reuses the truncated sample list is refuted by a witness.
-/

namespace Neumann.Vec.StratProps
open Neumann.Vec Neumann.Vec.Props

/-- For EVERY strategy setting, sample size and key list the estimate saw: the answer is the
    answer of the explicit pre-filter arm or of the explicit post-filter arm on the same state —
    the scan only selects the arm. -/
theorem coll_filtered_is_pre_or_post_for_every_scan (cap : Nat) (scan : List String) (st : State)
    (c : String) (q : List Int) (k : Nat) (f : Filter) (strat : Strategy) (os : Nat) :
    searchCollFilteredOn cap scan st c q k f strat os = searchCollFiltered st c q k f .pre os ∨
    searchCollFilteredOn cap scan st c q k f strat os = searchCollFiltered st c q k f .post os := by
  simp only [searchCollFilteredOn, searchCollFiltered]
  cases strat with
  | pre => left; rfl
  | post => right; rfl
  | auto =>
    cases hs : autoStrategyOn cap (collOf st c).items scan f with
    | pre => left; simp only []
    | post => right; simp only []
    | auto => left; simp only []

/-- Explicit strategies do not read the scan at all. -/
theorem coll_filtered_explicit_strategy_ignores_scan (cap : Nat) (scan : List String) (st : State)
    (c : String) (q : List Int) (k : Nat) (f : Filter) (os : Nat) :
    searchCollFilteredOn cap scan st c q k f .pre os = searchCollFiltered st c q k f .pre os ∧
    searchCollFilteredOn cap scan st c q k f .post os = searchCollFiltered st c q k f .post os :=
  ⟨rfl, rfl⟩

/-- The Auto decision never answers `auto`. -/
theorem autoStrategyOn_pre_or_post (cap : Nat) (items : Items) (scan : List String) (f : Filter) :
    autoStrategyOn cap items scan f = .pre ∨ autoStrategyOn cap items scan f = .post := by
  simp only [autoStrategyOn]
  split
  · right; rfl
  · split
    · left; rfl
    · right; rfl

/-- **Auto choosing the pre-filter arm is exact, for every sample.**  After EVERY operation
    sequence, for every sample size `cap`, every key list `scan` the estimate may have seen (any
    order, any length — in particular a collection with more keys than the sample), every query,
    `k`, filter and oversample factor: if the estimate says pre-filter, the answer is the exact
    top-`k` of ALL stored vectors of the collection that satisfy the filter, under the
    collection's metric, each with its true score. -/
theorem coll_filtered_auto_prefilter_is_topk_for_every_scan (ops : List Op) (cap : Nat)
    (scan : List String) (c : String) (q : List Int) (k : Nat) (f : Filter) (os : Nat)
    (m' : Metric) (rs : List Cand) (cut k' : Nat)
    (hpre : autoStrategyOn cap (collOf (run State.init ops) c).items scan f = .pre)
    (h : searchCollFilteredOn cap scan (run State.init ops) c q k f .auto os = .ranked m' rs cut k') :
    IsTopK (collOf (run State.init ops) c).items (cfgMetric (run State.init ops) c) q (some f) k
      (SearchOut.answer (.ranked m' rs cut k')) := by
  have e : searchCollFilteredOn cap scan (run State.init ops) c q k f .auto os
      = searchCollFiltered (run State.init ops) c q k f .pre os := by
    simp only [searchCollFilteredOn, searchCollFiltered, hpre]
  rw [e] at h
  exact search_filtered_coll_pre_is_topk ops c q k f os m' rs cut k' h

/-- The same for every strategy setting: whenever the arm that runs is not post-filter, the
    answer is the exact filtered top-`k`. -/
theorem coll_filtered_prefilter_arm_is_topk_for_every_strategy (ops : List Op) (cap : Nat)
    (scan : List String) (c : String) (q : List Int) (k : Nat) (f : Filter) (strat : Strategy) (os : Nat)
    (m' : Metric) (rs : List Cand) (cut k' : Nat)
    (harm : strat = .pre ∨
      (strat = .auto ∧ autoStrategyOn cap (collOf (run State.init ops) c).items scan f = .pre))
    (h : searchCollFilteredOn cap scan (run State.init ops) c q k f strat os = .ranked m' rs cut k') :
    IsTopK (collOf (run State.init ops) c).items (cfgMetric (run State.init ops) c) q (some f) k
      (SearchOut.answer (.ranked m' rs cut k')) := by
  rcases harm with rfl | ⟨rfl, hpre⟩
  · exact search_filtered_coll_pre_is_topk ops c q k f os m' rs cut k' h
  · exact coll_filtered_auto_prefilter_is_topk_for_every_scan ops cap scan c q k f os m' rs cut k' hpre h

/-! ### the variant that reuses the truncated sample -/

/-- three vectors in collection `c`; only `z` carries `f = 1` -/
def sOps : List Op :=
  [.cstore "c" "x" [4, 1] [("f", 0)], .cstore "c" "y" [4, 2] [("f", 0)], .cstore "c" "z" [4, 0] [("f", 1)]]

/-- non-vacuity of the hypotheses above: a sample of 2 of the 3 keys, none matching, says
    pre-filter, and the code's answer names the vector OUTSIDE the sample -/
example :
    autoStrategyOn 2 (collOf (run State.init sOps) "c").items ["x", "y", "z"] (.cmp .eq "f" 1) = .pre ∧
    (searchCollFilteredOn 2 ["x", "y", "z"] (run State.init sOps) "c" [1, 0] 1 (.cmp .eq "f" 1) .auto 3).answer.map
      (·.key) = ["z"] := by decide +kernel

/-- VARIANT WITNESS.  With the pre-filter pass walking the sampled keys only, a matching vector
    whose key comes after the sample in scan order is silently dropped: sample of 2 out of 3 keys,
    `z` (the only vector with `f = 1`, and the nearest one) is third — the variant answers nothing,
    the code answers `z`; with `z` inside the sample (second in scan order) the variant finds it too, and
    the explicit pre-filter strategy is unaffected. -/
theorem coll_prefilter_on_sample_only_witness :
    (searchCollFilteredPreFilterOnSampleOnly 2 ["x", "y", "z"] (run State.init sOps) "c" [1, 0] 1
      (.cmp .eq "f" 1) .auto 3).answer.map (·.key) = [] ∧
    (searchCollFilteredOn 2 ["x", "y", "z"] (run State.init sOps) "c" [1, 0] 1
      (.cmp .eq "f" 1) .auto 3).answer.map (·.key) = ["z"] ∧
    (searchCollFilteredPreFilterOnSampleOnly 2 ["x", "z", "y"] (run State.init sOps) "c" [1, 0] 1
      (.cmp .eq "f" 1) .auto 20).answer.map (·.key) = ["z"] ∧
    (searchCollFilteredPreFilterOnSampleOnly 2 ["z", "x", "y"] (run State.init sOps) "c" [1, 0] 1
      (.cmp .eq "f" 1) .pre 3).answer.map (·.key) = ["z"] := by
  decide +kernel

/-- 100 vectors without the tag followed by the one tagged vector `z` (the nearest to the query) -/
def bigOps : List Op :=
  (List.range 100).map (fun i => Op.cstore "c" (toString i) [4, 1] [("f", 0)]) ++
    [.cstore "c" "z" [4, 0] [("f", 1)]]

def bigScan : List String := (List.range 100).map toString ++ ["z"]

/-- VARIANT WITNESS at the code's sample size (`sampleCap` = 100): a collection of 101 vectors,
    the only matching one 101st in scan order — the variant answers nothing, the code answers `z` (`prefilter_on_sample_misses_tail`). -/
theorem coll_prefilter_on_sample_only_witness_at_100 :
    (searchCollFilteredPreFilterOnSampleOnly sampleCap bigScan (run State.init bigOps) "c" [1, 0] 1
      (.cmp .eq "f" 1) .auto 3).answer.map (·.key) = [] ∧
    (searchCollFilteredOn sampleCap bigScan (run State.init bigOps) "c" [1, 0] 1
      (.cmp .eq "f" 1) .auto 3).answer.map (·.key) = ["z"] := by
  -- the 100 keys are distinct decimal numerals, and `z` is not a numeral
  have hinj : ∀ a b : Nat, toString a = toString b → a = b := fun a b h => by
    -- reading the digits back gives the number
    have := congrArg (fun s : String => Nat.ofDigitChars 10 s.toList 0) h
    simpa only [toString, Nat.toList_repr, Nat.ofDigitChars_ten_toDigits] using this
  have hkeys : ((List.range 100).map toString ++ ["z"]).Nodup := by
    refine List.nodup_append.mpr
      ⟨List.Pairwise.map _ (fun a b hab h => hab (hinj a b h)) List.nodup_range, by simp, ?_⟩
    rintro _ ha _ hb rfl
    obtain ⟨i, _, hi⟩ := List.mem_map.mp ha
    have hz : 'z' ∈ (Nat.repr i).toList := by
      rw [show Nat.repr i = "z" from hi.trans (List.mem_singleton.mp hb)]; decide
    rw [Nat.toList_repr] at hz
    exact absurd (Nat.isDigit_of_mem_toDigits (by decide) (by decide) hz) (by decide)
  -- the 101 stores append their items in that order
  have hops : bigOps = ((List.range 100).map toString).map (fun key => Op.cstore "c" key [4, 1] [("f", 0)])
      ++ ["z"].map (fun key => Op.cstore "c" key [4, 0] [("f", 1)]) := by
    rw [List.map_map]; rfl
  obtain ⟨h1, c1⟩ := run_cstore_fresh "c" [4, 1] [("f", 0)] (by simp) ((List.range 100).map toString)
    State.init rfl (List.nodup_append.mp hkeys).1
  have hfst : ∀ it : Item, (((List.range 100).map toString).map fun key => (key, it)).map (·.1)
      = (List.range 100).map toString := fun it => by
    rw [List.map_map]; exact List.map_id _
  obtain ⟨h2, c2⟩ := run_cstore_fresh "c" [4, 0] [("f", 1)] (by simp) ["z"] _ (by rw [c1]; rfl) (by
    rw [h1, List.map_append, hfst]; exact hkeys)
  rw [← run_append, ← hops] at h2 c2
  rw [h1] at h2
  have := prefilter_on_sample_misses_tail (run State.init bigOps) "c" [1, 0] 1 (.cmp .eq "f" 1) 3
    (((List.range 100).map toString).map fun key => (key, mkItem [4, 1] [("f", 0)])) "z" (mkItem [4, 0] [("f", 1)])
    h2 (by rw [List.map_append, hfst]; exact hkeys) (by simp)
    (by intro e he; obtain ⟨_, _, rfl⟩ := List.mem_map.mp he; rfl) rfl (by rw [vecOf_mkItem]; rfl)
    (by simp) (by simp) (by rw [c2, c1]; rfl) (by decide)
  rw [hfst, List.length_map, List.length_map, List.length_range] at this
  exact this

end Neumann.Vec.StratProps
