import NeumannModel.Vec.EmbModel
import NeumannModel.Vec.Lemmas
import Mathlib.Tactic.Ring
namespace Neumann.Vec

theorem dotI_nil_left (b : List Int) : dotI [] b = 0 := by cases b <;> rfl
theorem dotI_nil_right (a : List Int) : dotI a [] = 0 := by cases a <;> rfl
theorem dotI_comm (a b : List Int) : dotI a b = dotI b a := by
  induction a generalizing b with
  | nil => rw [dotI_nil_left, dotI_nil_right]
  | cons x xs ih =>
    cases b with
    | nil => rfl
    | cons y ys => simp only [dotI]; rw [ih ys, Int.mul_comm]

theorem sqDist_comm (a b : List Int) : sqDist a b = sqDist b a := by
  induction a generalizing b with
  | nil => cases b <;> rfl
  | cons x xs ih =>
    cases b with
    | nil => rfl
    | cons y ys => simp only [sqDist]; rw [ih ys]; ring

theorem dotI_cons_drop (x : Int) (xs q : List Int) (i : Nat) :
    dotI (x :: xs) (q.drop i) = x * q.getD i 0 + dotI xs (q.drop (i + 1)) := by
  by_cases h : i < q.length
  · rw [List.drop_eq_getElem_cons h]
    simp only [dotI, List.getD_eq_getElem?_getD, List.getElem?_eq_getElem h, Option.getD_some]
  · have h1 : q.drop i = [] := List.drop_eq_nil_of_le (by omega)
    have h2 : q.drop (i + 1) = [] := List.drop_eq_nil_of_le (by omega)
    have h3 : q.getD i 0 = 0 := by
      simp only [List.getD_eq_getElem?_getD]
      rw [List.getElem?_eq_none (by omega)]; rfl
    rw [h1, h2, h3, dotI_nil_right, dotI_nil_right]; simp

/-! ### the dense image of a well-formed sparse vector, position by position -/

/-- the value a sparse entry list (positions ≥ `i`, increasing) has AT position `i` ... -/
def hdAt (i : Nat) : List (Nat × Int) → Int
  | [] => 0
  | e :: _ => if e.1 = i then e.2 else 0

/-- ... and the entries for the positions after `i` -/
def tlAt (i : Nat) : List (Nat × Int) → List (Nat × Int)
  | [] => []
  | e :: es => if e.1 = i then es else e :: es

/-- positions `i .. i+n-1` of the dense image -/
def denseFrom : Nat → Nat → List (Nat × Int) → List Int
  | _, 0, _ => []
  | i, n + 1, es => hdAt i es :: denseFrom (i + 1) n (tlAt i es)

theorem denseFrom_length (i n : Nat) (es : List (Nat × Int)) : (denseFrom i n es).length = n := by
  induction n generalizing i es with
  | zero => rfl
  | succ n ih => simp [denseFrom, ih]

theorem SpWF_tlAt {i hi : Nat} {es : List (Nat × Int)} (h : SpWF i hi es) : SpWF (i + 1) hi (tlAt i es) := by
  cases es with
  | nil => trivial
  | cons e es =>
    obtain ⟨h1, h2, h3⟩ := h
    simp only [tlAt]
    split
    · rename_i he; rw [he] at h3; exact h3
    · rename_i he; exact ⟨by omega, h2, h3⟩

theorem SpWF_tlAt_succ {i n : Nat} {es : List (Nat × Int)} (h : SpWF i (i + (n + 1)) es) :
    SpWF (i + 1) (i + 1 + n) (tlAt i es) := by
  rw [Nat.add_assoc, Nat.add_comm 1 n]; exact SpWF_tlAt h

theorem length_tlAt_le (i : Nat) (es : List (Nat × Int)) : (tlAt i es).length ≤ es.length := by
  cases es with
  | nil => simp [tlAt]
  | cons e es => simp only [tlAt]; split <;> simp

theorem SpWF_empty_window {lo : Nat} {es : List (Nat × Int)} (h : SpWF lo lo es) : es = [] := by
  cases es with
  | nil => rfl
  | cons e es => obtain ⟨h1, h2, _⟩ := h; omega

theorem foldSet_step (pre rest : List Int) (es : List (Nat × Int)) :
    foldSet (pre ++ 0 :: rest) es = foldSet (pre ++ hdAt pre.length es :: rest) (tlAt pre.length es) := by
  cases es with
  | nil => rfl
  | cons e es' =>
    simp only [hdAt, tlAt]
    split
    · rename_i he
      show foldSet ((pre ++ 0 :: rest).set e.1 e.2) es' = _
      rw [he, List.set_append_right _ _ (Nat.le_refl _), Nat.sub_self, List.set_cons_zero]
    · rfl

/-- `to_dense` (`vec![0.0; dimension]`, then `dense[pos] = val` for each entry) of a well-formed
    entry list, generalised to a prefix already written -/
theorem foldSet_denseFrom (n : Nat) : ∀ (pre : List Int) (es : List (Nat × Int)),
    SpWF pre.length (pre.length + n) es →
    foldSet (pre ++ List.replicate n 0) es = pre ++ denseFrom pre.length n es := by
  induction n with
  | zero =>
    intro pre es h
    have : es = [] := SpWF_empty_window (by simpa using h)
    subst this
    exact (List.append_nil _).trans (List.append_nil _).symm
  | succ n ih =>
    intro pre es h
    have ih' := ih (pre ++ [hdAt pre.length es]) (tlAt pre.length es) (by
      rw [List.length_append, List.length_singleton]
      exact SpWF_tlAt_succ h)
    simp only [List.length_append, List.length_singleton, List.append_assoc, List.singleton_append] at ih'
    rw [List.replicate_succ, foldSet_step pre _ es, ih', denseFrom]

theorem toDense_sparse (d : Nat) (es : List (Nat × Int)) (h : SpWF 0 d es) :
    toDense intOps (.sparse d es) = denseFrom 0 d es := by
  have := foldSet_denseFrom d [] es (by simpa using h)
  simpa [toDense, foldSet, intOps] using this

theorem toDense_sparse_length (d : Nat) (es : List (Nat × Int)) (h : SpWF 0 d es) :
    (toDense intOps (.sparse d es)).length = d := by
  rw [toDense_sparse d es h, denseFrom_length]

/-! ### the sparse primitives compute on the dense image -/

theorem spDotDense_step (i : Nat) (es : List (Nat × Int)) (q : List Int) :
    spDotDense es q = hdAt i es * q.getD i 0 + spDotDense (tlAt i es) q := by
  cases es with
  | nil => simp [spDotDense, hdAt, tlAt]
  | cons e es =>
    simp only [hdAt, tlAt]
    split
    · rename_i he; simp [spDotDense, he]
    · simp

theorem spDotDense_denseFrom (n : Nat) : ∀ (i : Nat) (es : List (Nat × Int)) (q : List Int),
    SpWF i (i + n) es → spDotDense es q = dotI (denseFrom i n es) (q.drop i) := by
  induction n with
  | zero =>
    intro i es q h
    have : es = [] := SpWF_empty_window (by simpa using h)
    subst this
    simp [spDotDense, denseFrom, dotI_nil_left]
  | succ n ih =>
    intro i es q h
    have h' := SpWF_tlAt_succ h
    rw [denseFrom, dotI_cons_drop, ← ih (i + 1) (tlAt i es) q h']
    exact spDotDense_step i es q

theorem spNormSq_step (i : Nat) (es : List (Nat × Int)) :
    spNormSq es = hdAt i es * hdAt i es + spNormSq (tlAt i es) := by
  cases es with
  | nil => simp [spNormSq, hdAt, tlAt]
  | cons e es =>
    simp only [hdAt, tlAt]
    split
    · simp [spNormSq]
    · simp

theorem spNormSq_denseFrom (n : Nat) : ∀ (i : Nat) (es : List (Nat × Int)),
    SpWF i (i + n) es → spNormSq es = normSq (denseFrom i n es) := by
  induction n with
  | zero =>
    intro i es h
    have : es = [] := SpWF_empty_window (by simpa using h)
    subst this
    simp [spNormSq, denseFrom, normSq, dotI]
  | succ n ih =>
    intro i es h
    have h' := SpWF_tlAt_succ h
    have := ih (i + 1) (tlAt i es) h'
    simp only [normSq] at this ⊢
    rw [denseFrom]
    simp only [dotI]
    rw [← this]
    exact spNormSq_step i es

theorem spDotF_nil_left (fuel : Nat) (bs : List (Nat × Int)) : spDotF fuel [] bs = 0 := by
  cases fuel <;> simp [spDotF]

theorem spDotF_nil_right (fuel : Nat) (as : List (Nat × Int)) : spDotF fuel as [] = 0 := by
  cases fuel <;> cases as <;> simp [spDotF]

/-- one position of the merge: whatever the heads are, the merge started with adequate fuel is
    the product of the two values AT position `i` plus the merge of the entries after `i`, again
    with adequate fuel -/
theorem spDotF_step (i hi : Nat) (as bs : List (Nat × Int)) (fuel : Nat)
    (ha : SpWF i hi as) (hb : SpWF i hi bs) (hf : as.length + bs.length < fuel) :
    ∃ f', (tlAt i as).length + (tlAt i bs).length < f' ∧
      spDotF fuel as bs = hdAt i as * hdAt i bs + spDotF f' (tlAt i as) (tlAt i bs) := by
  cases fuel with
  | zero => omega
  | succ f =>
    cases as with
    | nil =>
      exact ⟨(tlAt i bs).length + 1, by simp [tlAt], by simp [spDotF_nil_left, hdAt, tlAt]⟩
    | cons a as' =>
      cases bs with
      | nil =>
        exact ⟨(tlAt i (a :: as')).length + 1, by simp [tlAt], by simp [spDotF_nil_right, hdAt, tlAt]⟩
      | cons b bs' =>
        obtain ⟨ha1, ha2, ha3⟩ := ha
        obtain ⟨hb1, hb2, hb3⟩ := hb
        simp only [List.length_cons] at hf
        by_cases hai : a.1 = i
        · by_cases hbi : b.1 = i
          · refine ⟨f, ?_, ?_⟩
            · simp only [tlAt, hai, hbi, if_true]; omega
            · have hab : a.1 = b.1 := by omega
              rw [spDotF, if_pos hab]
              simp only [hdAt, tlAt, if_pos hai, if_pos hbi]
          · refine ⟨f, ?_, ?_⟩
            · simp only [tlAt, hai, hbi, if_true, if_false, List.length_cons]; omega
            · have hne : ¬ a.1 = b.1 := by omega
              have hlt : a.1 < b.1 := by omega
              rw [spDotF, if_neg hne, if_pos hlt]
              simp only [hdAt, tlAt, if_pos hai, if_neg hbi]
              simp
        · by_cases hbi : b.1 = i
          · refine ⟨f, ?_, ?_⟩
            · simp only [tlAt, hai, hbi, if_true, if_false, List.length_cons]; omega
            · have hne : ¬ a.1 = b.1 := by omega
              have hlt : ¬ a.1 < b.1 := by omega
              rw [spDotF, if_neg hne, if_neg hlt]
              simp only [hdAt, tlAt, if_neg hai, if_pos hbi]
              simp
          · refine ⟨f + 1, ?_, ?_⟩
            · simp only [tlAt, hai, hbi, if_false, List.length_cons]; omega
            · simp only [hdAt, tlAt, if_neg hai, if_neg hbi]
              simp

theorem spDotF_denseFrom (n : Nat) : ∀ (i : Nat) (as bs : List (Nat × Int)) (fuel : Nat),
    SpWF i (i + n) as → SpWF i (i + n) bs → as.length + bs.length < fuel →
    spDotF fuel as bs = dotI (denseFrom i n as) (denseFrom i n bs) := by
  induction n with
  | zero =>
    intro i as bs fuel ha _ _
    have : as = [] := SpWF_empty_window (by simpa using ha)
    subst this
    simp [spDotF_nil_left, denseFrom, dotI]
  | succ n ih =>
    intro i as bs fuel ha hb hf
    have ha' := SpWF_tlAt_succ ha
    have hb' := SpWF_tlAt_succ hb
    obtain ⟨f', hf', hstep⟩ := spDotF_step i _ as bs fuel ha hb hf
    rw [hstep, ih (i + 1) _ _ f' ha' hb' hf']
    simp only [denseFrom, dotI]

theorem spSqDistF_step (i hi : Nat) (as bs : List (Nat × Int)) (fuel : Nat)
    (ha : SpWF i hi as) (hb : SpWF i hi bs) (hf : as.length + bs.length < fuel) :
    (as = [] ∧ bs = [] ∧ spSqDistF fuel as bs = 0) ∨
    ∃ f', (tlAt i as).length + (tlAt i bs).length < f' ∧
      spSqDistF fuel as bs = (hdAt i as - hdAt i bs) * (hdAt i as - hdAt i bs)
        + spSqDistF f' (tlAt i as) (tlAt i bs) := by
  cases fuel with
  | zero => omega
  | succ f =>
    cases as with
    | nil =>
      cases bs with
      | nil => left; exact ⟨rfl, rfl, by simp [spSqDistF]⟩
      | cons b bs' =>
        right
        obtain ⟨hb1, hb2, hb3⟩ := hb
        simp only [List.length_cons, List.length_nil] at hf
        by_cases hbi : b.1 = i
        · refine ⟨f, ?_, ?_⟩
          · simp only [tlAt, hbi, if_true, List.length_nil]; omega
          · rw [spSqDistF]; simp only [hdAt, tlAt, if_pos hbi]; ring
        · refine ⟨f + 1, ?_, ?_⟩
          · simp only [tlAt, hbi, if_false, List.length_cons, List.length_nil]; omega
          · simp only [hdAt, tlAt, if_neg hbi]; simp
    | cons a as' =>
      right
      cases bs with
      | nil =>
        obtain ⟨ha1, ha2, ha3⟩ := ha
        simp only [List.length_cons, List.length_nil] at hf
        by_cases hai : a.1 = i
        · refine ⟨f, ?_, ?_⟩
          · simp only [tlAt, hai, if_true, List.length_nil]; omega
          · rw [spSqDistF]; simp only [hdAt, tlAt, if_pos hai]; ring
        · refine ⟨f + 1, ?_, ?_⟩
          · simp only [tlAt, hai, if_false, List.length_cons, List.length_nil]; omega
          · simp only [hdAt, tlAt, if_neg hai]; simp
      | cons b bs' =>
        obtain ⟨ha1, ha2, ha3⟩ := ha
        obtain ⟨hb1, hb2, hb3⟩ := hb
        simp only [List.length_cons] at hf
        by_cases hai : a.1 = i
        · by_cases hbi : b.1 = i
          · refine ⟨f, ?_, ?_⟩
            · simp only [tlAt, hai, hbi, if_true]; omega
            · have hab : a.1 = b.1 := by omega
              rw [spSqDistF, if_pos hab]
              simp only [hdAt, tlAt, if_pos hai, if_pos hbi]
          · refine ⟨f, ?_, ?_⟩
            · simp only [tlAt, hai, hbi, if_true, if_false, List.length_cons]; omega
            · have hne : ¬ a.1 = b.1 := by omega
              have hlt : a.1 < b.1 := by omega
              rw [spSqDistF, if_neg hne, if_pos hlt]
              simp only [hdAt, tlAt, if_pos hai, if_neg hbi]
              ring
        · by_cases hbi : b.1 = i
          · refine ⟨f, ?_, ?_⟩
            · simp only [tlAt, hai, hbi, if_true, if_false, List.length_cons]; omega
            · have hne : ¬ a.1 = b.1 := by omega
              have hlt : ¬ a.1 < b.1 := by omega
              rw [spSqDistF, if_neg hne, if_neg hlt]
              simp only [hdAt, tlAt, if_neg hai, if_pos hbi]
              ring
          · refine ⟨f + 1, ?_, ?_⟩
            · simp only [tlAt, hai, hbi, if_false, List.length_cons]; omega
            · simp only [hdAt, tlAt, if_neg hai, if_neg hbi]
              simp

theorem sqDist_denseFrom_nil (n i : Nat) : sqDist (denseFrom i n []) (denseFrom i n []) = 0 := by
  induction n generalizing i with
  | zero => rfl
  | succ n ih => simp [denseFrom, sqDist, hdAt, tlAt, ih]

theorem spSqDistF_denseFrom (n : Nat) : ∀ (i : Nat) (as bs : List (Nat × Int)) (fuel : Nat),
    SpWF i (i + n) as → SpWF i (i + n) bs → as.length + bs.length < fuel →
    spSqDistF fuel as bs = sqDist (denseFrom i n as) (denseFrom i n bs) := by
  induction n with
  | zero =>
    intro i as bs fuel ha hb hf
    have h1 : as = [] := SpWF_empty_window (by simpa using ha)
    have h2 : bs = [] := SpWF_empty_window (by simpa using hb)
    subst h1; subst h2
    cases fuel with
    | zero => omega
    | succ f => simp [spSqDistF, denseFrom, sqDist]
  | succ n ih =>
    intro i as bs fuel ha hb hf
    have ha' := SpWF_tlAt_succ ha
    have hb' := SpWF_tlAt_succ hb
    rcases spSqDistF_step i _ as bs fuel ha hb hf with ⟨h1, h2, h0⟩ | ⟨f', hf', hstep⟩
    · subst h1; subst h2
      rw [h0, sqDist_denseFrom_nil]
    · rw [hstep, ih (i + 1) _ _ f' ha' hb' hf']
      simp only [denseFrom, sqDist]

theorem spDotDense_eq (d : Nat) (es : List (Nat × Int)) (q : List Int) (h : SpWF 0 d es) :
    spDotDense es q = dotI (toDense intOps (.sparse d es)) q := by
  rw [toDense_sparse d es h]
  have := spDotDense_denseFrom d 0 es q (by simpa using h)
  simpa using this

theorem spNormSq_eq (d : Nat) (es : List (Nat × Int)) (h : SpWF 0 d es) :
    spNormSq es = normSq (toDense intOps (.sparse d es)) := by
  rw [toDense_sparse d es h]
  exact spNormSq_denseFrom d 0 es (by simpa using h)

theorem spDot_eq (d : Nat) (a b : List (Nat × Int)) (ha : SpWF 0 d a) (hb : SpWF 0 d b) :
    spDot a b = dotI (toDense intOps (.sparse d a)) (toDense intOps (.sparse d b)) := by
  rw [toDense_sparse d a ha, toDense_sparse d b hb]
  exact spDotF_denseFrom d 0 a b _ (by simpa using ha) (by simpa using hb) (by omega)

theorem spSqDist_eq (d : Nat) (a b : List (Nat × Int)) (ha : SpWF 0 d a) (hb : SpWF 0 d b) :
    spSqDist a b = sqDist (toDense intOps (.sparse d a)) (toDense intOps (.sparse d b)) := by
  rw [toDense_sparse d a ha, toDense_sparse d b hb]
  exact spSqDistF_denseFrom d 0 a b _ (by simpa using ha) (by simpa using hb) (by omega)

theorem sparseEntries_wf (v : List Int) : ∀ i, SpWF i (i + v.length) (sparseEntries intOps i v) := by
  induction v with
  | nil => intro i; trivial
  | cons x xs ih =>
    intro i
    have hmono : ∀ (lo lo' hi : Nat) (es : List (Nat × Int)), lo' ≤ lo → SpWF lo hi es → SpWF lo' hi es := by
      intro lo lo' hi es hle h
      cases es with
      | nil => trivial
      | cons e es => exact ⟨by have := h.1; omega, h.2.1, h.2.2⟩
    have e : i + 1 + xs.length = i + (x :: xs).length := by rw [List.length_cons]; omega
    simp only [sparseEntries]
    split
    · have := ih (i + 1)
      rw [e] at this
      exact hmono _ _ _ _ (by omega) this
    · refine ⟨Nat.le_refl _, by simp, ?_⟩
      have := ih (i + 1)
      rw [e] at this
      exact this

theorem fromDense_wf (v : List Int) : StoredWF (fromDense intOps v) := by
  have := sparseEntries_wf v 0
  simpa [StoredWF, fromDense] using this

theorem nodeOf_wf (σ : NodeStorage) (v : List Int) : StoredWF (nodeOf σ v) := by
  cases σ with
  | dense => trivial
  | auto => simp only [nodeOf, insertAuto]; split
            · exact fromDense_wf v
            · trivial
  | sparse => exact fromDense_wf v

theorem toDense_nodeOf (σ : NodeStorage) (v : List Int) : toDense intOps (nodeOf σ v) = v := by
  cases σ with
  | dense => rfl
  | auto => simp only [nodeOf, insertAuto]; split
            · rw [toDense_fromDense, normalise_int]
            · rfl
  | sparse => simp only [nodeOf]; rw [toDense_fromDense, normalise_int]

theorem distDense_eq (m : Metric) (s : Stored Int) (q : List Int) (h : StoredWF s) :
    distDense m s q = score m q (toDense intOps s) := by
  cases s with
  | dense v =>
    cases m <;> simp only [distDense, score, embDotDense, embNormSq, embSqDistDense, toDense]
    · rw [dotI_comm]
    · rw [sqDist_comm]
    · rw [dotI_comm]
  | sparse d es =>
    have hw : SpWF 0 d es := h
    cases m <;> simp only [distDense, score, embDotDense, embNormSq, embSqDistDense]
    · rw [spDotDense_eq d es q hw, spNormSq_eq d es hw, dotI_comm]
    · rw [sqDist_comm]
    · rw [spDotDense_eq d es q hw, dotI_comm]

theorem distDense_nodeOf (m : Metric) (σ : NodeStorage) (v q : List Int) :
    distDense m (nodeOf σ v) q = score m q v := by
  rw [distDense_eq m _ q (nodeOf_wf σ v), toDense_nodeOf]

theorem nodeCands_eq (m : Metric) (σ : NodeStorage) (snap : Snap) (q : List Int) :
    nodeCands m (snap.map fun x => (x.1, nodeOf σ x.2)) q = snapCandsM m snap q := by
  induction snap with
  | nil => rfl
  | cons e rest ih =>
    simp only [nodeCands, snapCandsM, List.map_cons, List.filterMap_cons] at ih ⊢
    rw [toDense_nodeOf, distDense_nodeOf]
    split <;> simp_all

/-! ### the collection machine: the cached index is always an index of the current vectors -/

def EFresh (x : ECol) : Prop :=
  ∀ nodes, x.cache = some nodes → ∃ σ, nodes = x.items.map fun e => (e.1, nodeOf σ e.2)

theorem efresh_step (x : ECol) (op : EOp) (h : EFresh x) : EFresh (x.step op) := by
  cases op with
  | store key v =>
    simp only [ECol.step]
    split
    · exact h
    · intro nodes hn; cases hn
  | delete key =>
    simp only [ECol.step]
    split
    · intro nodes hn; cases hn
    · exact h
  | build σ =>
    simp only [ECol.step]
    split
    · intro nodes hn
      simp only [Option.some.injEq] at hn
      exact ⟨σ, hn.symm⟩
    · exact h
  | invalidate =>
    intro nodes hn; cases hn

theorem efresh_run (ops : List EOp) (x : ECol) (h : EFresh x) : EFresh (x.run ops) := by
  induction ops generalizing x with
  | nil => exact h
  | cons op ops ih => exact ih _ (efresh_step x op h)

theorem emetric_step (x : ECol) (op : EOp) : (x.step op).metric = x.metric := by
  cases op <;> simp only [ECol.step] <;> (try split) <;> rfl

theorem emetric_run (ops : List EOp) (x : ECol) : (x.run ops).metric = x.metric := by
  induction ops generalizing x with
  | nil => rfl
  | cons op ops ih => rw [ECol.run, ih, emetric_step]

theorem map_toDense_nodes (σ : NodeStorage) (snap : Snap) :
    ((snap.map fun e => (e.1, nodeOf σ e.2)).map fun e => (e.1, toDense intOps e.2)) = snap := by
  induction snap with
  | nil => rfl
  | cons e rest ih =>
    simp only [List.map_cons] at ih ⊢
    rw [ih, toDense_nodeOf]

theorem ecol_search_viaIndex (x : ECol) (h : EFresh x) (q : List Int) (k : Nat)
    (snap : Snap) (rs : List Cand) (cut k' : Nat) (hs : x.search q k = .viaIndex snap rs cut k') :
    snap = x.items ∧ rs = rank x.metric (snapCandsM x.metric x.items q) := by
  have hc : (SearchOut.viaIndex snap rs cut k').Refused ∨ _ :=
    SearchOut.cases_ite hs (.err _) fun h => SearchOut.cases_ite h (.err _) fun h =>
      SearchOut.cases_ite h .zeroQuery fun h => .inr h
  rcases hc with hr | hs
  · cases hr
  · split at hs
    · rename_i n0 ns hc
      split at hs
      · obtain ⟨σ, hσ⟩ := h _ hc
        simp only [SearchOut.viaIndex.injEq] at hs
        obtain ⟨h1, h2, _, _⟩ := hs
        rw [hσ] at h1 h2
        rw [map_toDense_nodes] at h1
        rw [nodeCands_eq] at h2
        exact ⟨h1.symm, h2.symm⟩
      · cases hs
    · cases hs

end Neumann.Vec
