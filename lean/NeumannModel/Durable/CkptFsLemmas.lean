import NeumannModel.Durable.CkptFs
import NeumannModel.Durable.Rotate
/-
  C02 — the snapshot step of `checkpoint` on real files (`CkptFs.lean`): helper lemmas, the crash
  model `FReach` (disk states WITH the temporary files interrupted checkpoints leave behind), and a
  concrete snapshot codec (only to show the hypotheses are satisfiable and to run witnesses).
-/
namespace Neumann.Durable
open Neumann.FramedLog

/-! ### what the file-system calls of `save_v3` do to the temporary file -/

theorem create_write (d : SnapFs) (a : Bytes) :
    d.create.write a = ⟨d.snap, some a, a.length⟩ := by
  simp [SnapFs.create, SnapFs.write, writeAt]

theorem create_write_write (d : SnapFs) (a b : Bytes) :
    (d.create.write a).write b = ⟨d.snap, some (a ++ b), a.length + b.length⟩ := by
  rw [create_write]
  simp [SnapFs.write, writeAt]

theorem openKeep_write (d : SnapFs) (a : Bytes) :
    d.openKeep.write a = ⟨d.snap, some (a ++ (d.tmp.getD []).drop a.length), a.length⟩ := by
  simp [SnapFs.openKeep, SnapFs.write, writeAt]

theorem openKeep_write_write (d : SnapFs) (a b : Bytes) :
    (d.openKeep.write a).write b
      = ⟨d.snap, some (a ++ b ++ (d.tmp.getD []).drop (a.length + b.length)), a.length + b.length⟩ := by
  rw [openKeep_write]
  simp [SnapFs.write, writeAt]

/-- **the code**: whatever the directory held, the snapshot file is exactly the image, no temporary
    file is left -/
theorem save_create (d : SnapFs) (hdr body : Bytes) :
    SnapFs.save false d hdr body = ⟨some (hdr ++ body), none, 0⟩ := by
  simp only [SnapFs.save, SnapFs.openTmp, Bool.false_eq_true, if_false]
  rw [create_write_write]
  rfl

/-- NOT the code: the bytes of a stale temporary file beyond the image stay behind it -/
theorem save_keep (d : SnapFs) (hdr body : Bytes) :
    SnapFs.save true d hdr body
      = ⟨some (hdr ++ body ++ (d.tmp.getD []).drop (hdr.length + body.length)), none, 0⟩ := by
  simp only [SnapFs.save, SnapFs.openTmp, if_true]
  rw [openKeep_write_write]
  rfl

theorem saveCrashTmp_shape {d : SnapFs} {hdr body : Bytes} {st : SnapFs}
    (h : st ∈ SnapFs.saveCrashTmp false d hdr body) :
    st.snap = d.snap ∧ ∃ j, j ≤ (hdr ++ body).length ∧ st.tmp = some ((hdr ++ body).take j) := by
  simp only [SnapFs.saveCrashTmp, SnapFs.openTmp, Bool.false_eq_true, if_false, List.mem_append,
    List.mem_map, List.mem_range] at h
  rcases h with ⟨j, hj, rfl⟩ | ⟨j, hj, rfl⟩
  · rw [create_write]
    refine ⟨rfl, j, by simp; omega, ?_⟩
    show some (hdr.take j) = _
    rw [List.take_append_of_le_length (by omega)]
  · rw [create_write_write]
    refine ⟨rfl, hdr.length + j, by simp; omega, ?_⟩
    show some (hdr ++ body.take j) = _
    rw [List.take_length_add_append]

theorem recoverFs_of_load {crc : Bytes → Nat} {dec : Bytes → Option Entry} {de : Bytes → Option Store}
    {d : SnapFs} {snap : Option Store} (h : loadSnap de d = some snap) (file : Bytes) {r : Store} :
    recoverFs crc dec de d file = .ok r ↔ recover crc dec snap file = .ok r := by
  unfold recoverFs
  rw [h]
  cases hr : recover crc dec snap file with
  | ok r' => simp [hr]
  | error e => simp [hr]

theorem loadSnap_of_snap_eq {de : Bytes → Option Store} {d d' : SnapFs} (h : d'.snap = d.snap) :
    loadSnap de d' = loadSnap de d := by
  unfold loadSnap; rw [h]

theorem loadSnap_save {ser : Store → Bytes} {de : Bytes → Option Store} (hs : ∀ s, de (ser s) = some s)
    (d : SnapFs) (s : Store) :
    loadSnap de (SnapFs.save false d ((ser s).take snapHeaderLen) ((ser s).drop snapHeaderLen))
      = some (some s) := by
  rw [save_create, List.take_append_drop]
  simp [loadSnap, hs]

/-! ### the crash model with the files of the snapshot step -/

/-- **The crash model, temporary files included.**  Disk states (files of the snapshot step, log
    file) reachable by any number of rounds `recover → issue operations → crash`, where the crash
    may fall at EVERY step boundary of a checkpoint: inside the snapshot step (temporary file
    created / any byte prefix of the image written / complete, not renamed — the old snapshot and
    the whole log still in place, the temporary file LEFT BEHIND for whatever comes next), snapshot
    renamed into place with the marker absent, partly written or complete, log truncated.  Every
    later round and every later checkpoint runs on the directory as the earlier crashes left it. -/
inductive FReach (crc : Bytes → Nat) (enc : Entry → Bytes) (dec : Bytes → Option Entry)
    (ser : Store → Bytes) (de : Bytes → Option Store) : SnapFs → Bytes → Trace → Prop where
  | init : FReach crc enc dec ser de SnapFs.empty [] []
  | round {d f tr} (mem0 : Store) (ops : List Op) (acked n : Nat) :
      FReach crc enc dec ser de d f tr →
      recoverFs crc dec de d f = .ok mem0 →
      Fits enc (runOps mem0 ops).1 →
      (openRepair f).length ≤ n →
      acked ≤ ops.length →
      (openRepair f ++ logBytes crc enc (runOps mem0 (ops.take acked)).1).length ≤ n →
      FReach crc enc dec ser de d
        ((openRepair f ++ logBytes crc enc (runOps mem0 ops).1).take n) (tr ++ [(ops, acked)])
  | ckptTmp {d f tr} (mem0 : Store) (ops : List Op) (st : SnapFs) :
      FReach crc enc dec ser de d f tr →
      recoverFs crc dec de d f = .ok mem0 →
      Fits enc (runOps mem0 ops).1 →
      st ∈ SnapFs.saveCrashTmp false d ((ser (runOps mem0 ops).2).take snapHeaderLen)
              ((ser (runOps mem0 ops).2).drop snapHeaderLen) →
      FReach crc enc dec ser de st
        (openRepair f ++ logBytes crc enc (runOps mem0 ops).1) (tr ++ [(ops, ops.length)])
  | ckptMarker {d f tr} (mem0 : Store) (ops : List Op) (id m : Nat) :
      FReach crc enc dec ser de d f tr →
      recoverFs crc dec de d f = .ok mem0 →
      Fits enc (runOps mem0 ops).1 →
      (enc (.checkpoint id)).length < U32 →
      FReach crc enc dec ser de
        (SnapFs.save false d ((ser (runOps mem0 ops).2).take snapHeaderLen)
          ((ser (runOps mem0 ops).2).drop snapHeaderLen))
        (openRepair f ++ logBytes crc enc (runOps mem0 ops).1
          ++ (encodeRec crc (enc (.checkpoint id))).take m)
        (tr ++ [(ops, ops.length)])
  | ckptDone {d f tr} (mem0 : Store) (ops : List Op) :
      FReach crc enc dec ser de d f tr →
      recoverFs crc dec de d f = .ok mem0 →
      Fits enc (runOps mem0 ops).1 →
      FReach crc enc dec ser de
        (SnapFs.save false d ((ser (runOps mem0 ops).2).take snapHeaderLen)
          ((ser (runOps mem0 ops).2).drop snapHeaderLen))
        [] (tr ++ [(ops, ops.length)])

/-- every state of `FReach` is, seen through what its snapshot file holds, a state of `Reach` —
    whatever its temporary file holds -/
theorem freach_sound {crc : Bytes → Nat} {enc : Entry → Bytes} {dec : Bytes → Option Entry}
    {ser : Store → Bytes} {de : Bytes → Option Store} (hs : ∀ s, de (ser s) = some s)
    {d : SnapFs} {f : Bytes} {tr : Trace} (h : FReach crc enc dec ser de d f tr) :
    ∃ snap, loadSnap de d = some snap ∧ Reach crc enc dec snap f tr := by
  induction h with
  | init => exact ⟨none, rfl, Reach.init⟩
  | round mem0 ops acked n _ hr hfit h1 h2 h3 ih =>
    obtain ⟨snap, hl, hre⟩ := ih
    exact ⟨snap, hl, Reach.round mem0 ops acked n hre ((recoverFs_of_load hl _).1 hr) hfit h1 h2 h3⟩
  | @ckptTmp d f tr mem0 ops st _ hr hfit hst ih =>
    obtain ⟨snap, hl, hre⟩ := ih
    refine ⟨snap, ?_, ?_⟩
    · rw [loadSnap_of_snap_eq (saveCrashTmp_shape hst).1]; exact hl
    · have := Reach.round mem0 ops ops.length
        (openRepair f ++ logBytes crc enc (runOps mem0 ops).1).length hre
        ((recoverFs_of_load hl _).1 hr) hfit (by simp) (Nat.le_refl _)
        (by rw [List.take_length]; exact Nat.le_refl _)
      rwa [List.take_length] at this
  | ckptMarker mem0 ops id m _ hr hfit hid ih =>
    obtain ⟨snap, hl, hre⟩ := ih
    exact ⟨_, loadSnap_save hs _ _, Reach.ckptCrash mem0 ops id m hre ((recoverFs_of_load hl _).1 hr) hfit hid⟩
  | ckptDone mem0 ops _ hr hfit ih =>
    obtain ⟨snap, hl, hre⟩ := ih
    exact ⟨_, loadSnap_save hs _ _, Reach.ckptDone mem0 ops hre ((recoverFs_of_load hl _).1 hr) hfit⟩

/-! ### a concrete snapshot codec -/

def encL {α : Type} (f : α → Bytes) (l : List α) : Bytes := l.length :: l.flatMap f

def decL {α : Type} (g : Bytes → Option (α × Bytes)) : Nat → Bytes → Option (List α × Bytes)
  | 0, r => some ([], r)
  | n + 1, r =>
      match g r with
      | none => none
      | some (a, r1) =>
          match decL g n r1 with
          | none => none
          | some (l, r2) => some (a :: l, r2)

def decLs {α : Type} (g : Bytes → Option (α × Bytes)) : Bytes → Option (List α × Bytes)
  | [] => none
  | n :: t => decL g n t

theorem decL_flatMap {α : Type} (f : α → Bytes) (g : Bytes → Option (α × Bytes))
    (h : ∀ a r, g (f a ++ r) = some (a, r)) (l : List α) (r : Bytes) :
    decL g l.length (l.flatMap f ++ r) = some (l, r) := by
  induction l with
  | nil => simp [decL]
  | cons a l ih => simp [decL, List.flatMap_cons, List.append_assoc, h, ih]

theorem decLs_encL {α : Type} (f : α → Bytes) (g : Bytes → Option (α × Bytes))
    (h : ∀ a r, g (f a ++ r) = some (a, r)) (l : List α) (r : Bytes) :
    decLs g (encL f l ++ r) = some (l, r) := by
  simp only [encL, List.cons_append, decLs]
  exact decL_flatMap f g h l r

def encVal (v : Val) : Bytes := encB v.body ++ (match v.emb with | none => [0] | some e => 1 :: encB e)

def decVal (r : Bytes) : Option (Val × Bytes) :=
  match decB r with
  | some (b, 0 :: r1) => some (⟨b, none⟩, r1)
  | some (b, 1 :: r1) =>
      (match decB r1 with
       | some (e, r2) => some (⟨b, some e⟩, r2)
       | none => none)
  | _ => none

theorem decVal_encVal (v : Val) (r : Bytes) : decVal (encVal v ++ r) = some (v, r) := by
  obtain ⟨b, e⟩ := v
  cases e with
  | none => simp [encVal, decVal, List.append_assoc, decB_encB]
  | some e =>
    simp only [encVal, decVal, List.append_assoc, decB_encB, List.cons_append]

def encKV (p : Bytes × Val) : Bytes := encB p.1 ++ encVal p.2

def decKV (r : Bytes) : Option ((Bytes × Val) × Bytes) :=
  match decB r with
  | some (k, r1) =>
      (match decVal r1 with
       | some (v, r2) => some ((k, v), r2)
       | none => none)
  | none => none

theorem decKV_encKV (p : Bytes × Val) (r : Bytes) : decKV (encKV p ++ r) = some (p, r) := by
  simp [encKV, decKV, List.append_assoc, decB_encB, decVal_encVal]

def encKB (p : Bytes × Bool) : Bytes := encB p.1 ++ [if p.2 then 1 else 0]

def decKB (r : Bytes) : Option ((Bytes × Bool) × Bytes) :=
  match decB r with
  | some (k, 0 :: r1) => some ((k, false), r1)
  | some (k, 1 :: r1) => some ((k, true), r1)
  | _ => none

theorem decKB_encKB (p : Bytes × Bool) (r : Bytes) : decKB (encKB p ++ r) = some (p, r) := by
  obtain ⟨k, b⟩ := p
  cases b <;> simp [encKB, decKB, List.append_assoc, decB_encB]

def encNB (p : Nat × Bytes) : Bytes := p.1 :: encB p.2

def decNB : Bytes → Option ((Nat × Bytes) × Bytes)
  | [] => none
  | n :: r =>
      match decB r with
      | some (b, r1) => some ((n, b), r1)
      | none => none

theorem decNB_encNB (p : Nat × Bytes) (r : Bytes) : decNB (encNB p ++ r) = some (p, r) := by
  simp [encNB, decNB, decB_encB]

/-- toy `save_v3` image of a store: the four slabs, each length-prefixed -/
def toySnapSer (s : Store) : Bytes :=
  encL encKV s.md ++ (encL encKV s.cache ++ (encL encKB s.vocab ++ encL encNB s.slab))

/-- toy `load`: the four slabs and NOTHING after them (as zstd / bitcode reject trailing bytes) -/
def toySnapDe (r : Bytes) : Option Store :=
  match decLs decKV r with
  | some (md, r1) =>
      (match decLs decKV r1 with
       | some (cache, r2) =>
           (match decLs decKB r2 with
            | some (vocab, r3) =>
                (match decLs decNB r3 with
                 | some (slab, []) => some ⟨md, cache, vocab, slab⟩
                 | _ => none)
            | none => none)
       | none => none)
  | none => none

theorem toySnapDe_toySnapSer (s : Store) : toySnapDe (toySnapSer s) = some s := by
  obtain ⟨md, cache, vocab, slab⟩ := s
  unfold toySnapDe toySnapSer
  have h4 := decLs_encL encNB decNB decNB_encNB slab []
  rw [List.append_nil] at h4
  simp only [decLs_encL encKV decKV decKV_encKV, decLs_encL encKB decKB decKB_encKB, h4]

/-- boolean forms for concrete witnesses -/
def okAndF (x : Except FRecErr Store) (p : Store → Bool) : Bool :=
  match x with
  | .ok r => p r
  | .error _ => false

def isSnapErr (x : Except FRecErr Store) : Bool :=
  match x with
  | .error .snapshot => true
  | _ => false

theorem exists_ok_of_okAndF {x : Except FRecErr Store} {p : Store → Bool} (h : okAndF x p = true) :
    ∃ r, x = .ok r ∧ p r = true := by
  cases x with
  | error e => simp [okAndF] at h
  | ok r => exact ⟨r, rfl, h⟩

/-- the shortest history on which the way the temporary file is opened matters: two puts; a
    checkpoint interrupted when the image is completely in the temporary file, not yet renamed
    (the log is untouched); recovery; one delete (the next image is SHORTER); a checkpoint that
    completes; recovery.  `keep = false` is the code. -/
def staleTmpScenario (keep : Bool) : Except FRecErr Store :=
  let crc : Bytes → Nat := fun _ => 0
  let fy0 : FSys := ⟨.immediate, Wal.openOn [], Store.empty, SnapFs.empty⟩
  let fy1 := [Op.put [97] ⟨[1, 1, 1, 1], none⟩, Op.put [98] ⟨[2], none⟩].foldl (FSys.op crc toyEnc) fy0
  let img := toySnapSer fy1.mem
  let left := (SnapFs.saveCrashTmp keep fy1.fs (img.take snapHeaderLen) (img.drop snapHeaderLen)).getLast?.getD fy1.fs
  match recoverFs crc toyDec toySnapDe left fy1.wal.file with
  | .error e => .error e
  | .ok mem1 =>
      let fy2 : FSys := ⟨.immediate, Wal.openOn fy1.wal.file, mem1, left⟩
      let fy3 := FSys.op crc toyEnc fy2 (Op.delete [97])
      let fy4 := FSys.checkpoint crc toyEnc toySnapSer keep fy3 0
      recoverFs crc toyDec toySnapDe fy4.fs (fy4.crashFile 0)

end Neumann.Durable
