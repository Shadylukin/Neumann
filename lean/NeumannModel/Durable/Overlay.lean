import NeumannModel.Durable.Lemmas
/-
  C02 — the full observable image at EVERY crash point of the crash model `Reach`, including the
  two crash points inside `checkpoint` where the whole old log is replayed over the NEWER
  snapshot ("snapshot in place, marker absent or incomplete").

  There the replayed store and the store of the session that wrote the records differ on the
  metadata map (the snapshot already holds the final values), so the simulation `Sim` of
  `Lemmas.lean` does not apply, and the overlay invariant `Good` does NOT hold after every record
  (a `MetadataDelete` of a key that the writer did not have in the entity index at that time, but
  the snapshot does, leaves an index entry without metadata until a later record repairs it).
  The argument instead:
    * `WGood` (`Lemmas.lean`) — the part of `Good` that every record preserves unconditionally
      (`wgood_applyEntry`, `wgood_replay`);
    * the liveness of an `emb:` key after a replay is decided by the last `MetadataSet` /
      `EntityRemove` record of that key, whatever the store replay started from (`live_replay`
      in `Lemmas.lean`);
    * the writer's final store has the liveness of the replay of the same records over the OLD
      snapshot (`sim_runOps`), and the metadata map after the replay over the new snapshot is the
      snapshot's own (`replayMeta_idem`): so every key that is live at the end has its metadata
      record, which together with `WGood` is `Good` again (`good_replay_over`).
-/
namespace Neumann.Durable
open Neumann.FramedLog

theorem wgood_replay {s : Store} (hw : WGood s) (es : List Entry) (he : ∀ e ∈ es, EntryOk e) :
    WGood (replay s es) := by
  induction es generalizing s with
  | nil => exact hw
  | cons e es ih =>
    rw [replay_cons]
    exact ih (wgood_applyEntry hw e (he e (by simp))) (fun x hx => he x (by simp [hx]))

/-- **Replaying a log `E` over a store `L` that already holds its outcome.**  `L` satisfies the
    overlay invariant; its set of indexed `emb:` keys is the one a replay of `E` over some store `A`
    produces (`A` = the old snapshot: `L` is the writer's store at the end of the session that
    logged `E`); and replaying `E` over `L` does not change the metadata map.  Then the replay of
    `E` over `L` satisfies the overlay invariant again — although not after every record. -/
theorem good_replay_over {L A : Store} (E : List Entry) (hok : ∀ e ∈ E, EntryOk e) (hL : Good L)
    (hA : LiveNodup A.vocab)
    (hlive : ∀ k, classify k = .embedding →
      (idxGet (replay A E).vocab k).isSome = (idxGet L.vocab k).isSome)
    (hmd : MetaEq (replay L E).md L.md) : Good (replay L E) := by
  apply good_of_wgood (wgood_replay hL.wgood E hok)
  intro k id hk hi
  have h1 := live_replay hL.nodup E hok k
  have h2 := live_replay hA E hok k
  rw [hi] at h1
  have hLlive : (idxGet L.vocab k).isSome = true := by
    cases hl : lastLive E k with
    | some b =>
      rw [hl] at h1 h2
      simp only [] at h1 h2
      rw [← hlive k hk, h2, ← h1]; rfl
    | none =>
      rw [hl] at h1
      simp only [] at h1
      rw [← h1]; rfl
  obtain ⟨id', hid'⟩ := Option.isSome_iff_exists.mp hLlive
  rw [hmd k]
  exact hL.idxmd k id' hk hid'

theorem mem_foldl_ckStep {acc X : List Entry} {e : Entry} (h : e ∈ X.foldl ckStep acc) : e ∈ acc ∨ e ∈ X := by
  induction X generalizing acc with
  | nil => exact .inl h
  | cons x X ih =>
    rcases ih h with h' | h'
    · have : e ∈ acc ∨ e = x := by cases x <;> simp_all [ckStep]
      rcases this with a | rfl
      · exact .inl a
      · exact .inr List.mem_cons_self
    · exact .inr (List.mem_cons_of_mem _ h')

theorem mem_afterLastCkpt {S : List Entry} {e : Entry} (h : e ∈ afterLastCkpt S) : e ∈ S := by
  rcases mem_foldl_ckStep h with h' | h'
  · simp at h'
  · exact h'

section logok
variable {crc : Bytes → Nat} {enc : Entry → Bytes} {dec : Bytes → Option Entry}

/-- every complete record of the (tail-repaired) log file is one the writer can log -/
def LogOk (crc : Bytes → Nat) (dec : Bytes → Option Entry) (f : Bytes) : Prop :=
  ∀ e ∈ (entriesOf crc dec (openRepair f)).1, EntryOk e

theorem entriesOf_logBytes (hc : CodecOK crc enc dec) (S : List Entry) (hfit : Fits enc S) :
    (entriesOf crc dec (logBytes crc enc S)).1 = S := by
  have h := (entriesOf_take hc S (logBytes crc enc S).length hfit).1
  rwa [List.take_length, take_wholeWithin_logBytes] at h

theorem logOk_take (hc : CodecOK crc enc dec) (R : List Entry) (n : Nat) (hfit : Fits enc R)
    (hok : ∀ e ∈ R, EntryOk e) : LogOk crc dec ((logBytes crc enc R).take n) := by
  intro e he
  rw [openRepair_logBytes_take R n hfit, entriesOf_logBytes hc _ (hfit.take _)] at he
  exact hok e (List.mem_of_mem_take he)

theorem logOk_open (hc : CodecOK crc enc dec) {f : Bytes} (h : LogOk crc dec f) {S : List Entry}
    (hopen : openRepair f = logBytes crc enc S) (hfit : Fits enc S) : ∀ e ∈ S, EntryOk e := by
  intro e he
  apply h e
  rw [hopen, entriesOf_logBytes hc S hfit]
  exact he

/-- what the induction over the crash model carries -/
structure ReachFacts (crc : Bytes → Nat) (dec : Bytes → Option Entry) (snap : Option Store) (f : Bytes) :
    Prop where
  snapGood : Good (snap.getD Store.empty)
  snapClassed : Classed (snap.getD Store.empty)
  logOk : LogOk crc dec f
  recovered : ∀ r, recover crc dec snap f = .ok r → Good r ∧ Classed r

theorem recover_ckptCrash (hc : CodecOK crc enc dec) (L : Store) (S recs : List Entry)
    (hS : Fits enc S) (hR : Fits enc recs) (nS : NoTx S)
    (nR : ∀ e ∈ recs, isTx e = false ∧ isCkpt e = false) (id m : Nat)
    (hid : (enc (.checkpoint id)).length < U32) :
    recover crc dec (some L)
        (logBytes crc enc S ++ logBytes crc enc recs ++ (encodeRec crc (enc (.checkpoint id))).take m) = .ok L ∨
    recover crc dec (some L)
        (logBytes crc enc S ++ logBytes crc enc recs ++ (encodeRec crc (enc (.checkpoint id))).take m)
      = .ok (replay L (afterLastCkpt S ++ recs)) := by
  rw [marker_cut_bytes, recover_take_plain hc (some L) _ _ ((hS.append hR).append_ckpt hid)
    ((nS.append (fun e he => (nR e he).1)).append_ckpt id)]
  exact marker_cut_records S recs id m (fun e he => (nR e he).2)
    (P := fun X => Except.ok (replay L X) = .ok L ∨ Except.ok (replay L X) = .ok (replay L (afterLastCkpt S ++ recs)))
    (.inr rfl) (.inl rfl)

theorem logOk_nil : LogOk crc dec [] := by
  intro e he
  simp [openRepair_nil, entriesOf, parse_nil] at he

theorem reach_facts (hc : CodecOK crc enc dec) {snap : Option Store} {f : Bytes} {tr : Trace}
    (h : Reach crc enc dec snap f tr) : ReachFacts crc dec snap f := by
  induction h with
  | init =>
    refine ⟨good_empty, classed_empty, logOk_nil, fun r hr => ?_⟩
    rw [recover_nil] at hr
    cases hr
    exact ⟨good_empty, classed_empty⟩
  | @round snap' f' tr' mem0 ops acked n hprev hr hfit hn _ _ ih =>
    obtain ⟨H, -, hinv⟩ := reach_inv hc hprev
    obtain ⟨S, hopen, hSfit, hSno, -, -⟩ := inv_open hc hinv hr
    have hSok := logOk_open hc ih.logOk hopen hSfit
    refine ⟨ih.snapGood, ih.snapClassed, ?_, fun r hr' => ?_⟩
    · rw [hopen, ← logBytes_append]
      exact logOk_take hc _ n (hSfit.append hfit) (List.forall_mem_append.mpr ⟨hSok, runOps_entryOk mem0 ops⟩)
    · obtain ⟨i, hi⟩ := recover_round hc hinv mem0 hr ops n hfit hn
      rw [hi] at hr'
      cases hr'
      obtain ⟨hg, hcl⟩ := ih.recovered mem0 hr
      exact ⟨good_replay_take hg hg (sim_refl mem0) ops i,
        classed_replay hcl _ (fun e he => runOps_entryOk mem0 ops e (List.mem_of_mem_take he))⟩
  | @ckptCrash snap' f' tr' mem0 ops id m hprev hr hfit hid ih =>
    obtain ⟨H, -, hinv⟩ := reach_inv hc hprev
    obtain ⟨S, hopen, hSfit, hSno, hmem, -⟩ := inv_open hc hinv hr
    have hSok := logOk_open hc ih.logOk hopen hSfit
    obtain ⟨hg0, hc0⟩ := ih.recovered mem0 hr
    have hgL : Good (runOps mem0 ops).2 := good_runOps hg0 ops
    have hcL : Classed (runOps mem0 ops).2 := classed_runOps hc0 ops
    have hEok : ∀ e ∈ afterLastCkpt S ++ (runOps mem0 ops).1, EntryOk e :=
      List.forall_mem_append.mpr ⟨fun e he => hSok e (mem_afterLastCkpt he), runOps_entryOk mem0 ops⟩
    have hrec := recover_ckptCrash hc (runOps mem0 ops).2 S (runOps mem0 ops).1 hSfit hfit hSno
      (runOps_plain mem0 ops) id m hid
    rw [← hopen] at hrec
    refine ⟨hgL, hcL, ?_, fun r hr' => ?_⟩
    · rw [hopen, marker_cut_bytes]
      exact logOk_take hc _ _ ((hSfit.append hfit).append_ckpt hid) (List.forall_mem_append.mpr
        ⟨List.forall_mem_append.mpr ⟨hSok, runOps_entryOk mem0 ops⟩,
          fun e he => by rw [List.mem_singleton.mp he]; trivial⟩)
    · rcases hrec with h | h <;> rw [h] at hr' <;> cases hr'
      · exact ⟨hgL, hcL⟩
      · -- the whole old log replayed over the newer snapshot
        refine ⟨good_replay_over (A := snap'.getD Store.empty) _ hEok hgL ih.snapGood.nodup ?_ ?_,
          classed_replay hcL _ hEok⟩
        · intro k hk
          rw [replay_append, ← hmem]
          exact (sim_runOps hg0 hg0 (sim_refl mem0) ops).2.live k hk
        · rw [replay_md, runOps_md_over hmem ops]
          exact replayMeta_idem _ _
  | @ckptDone snap' f' tr' mem0 ops hprev hr hfit ih =>
    obtain ⟨hg0, hc0⟩ := ih.recovered mem0 hr
    refine ⟨good_runOps hg0 ops, classed_runOps hc0 ops, logOk_nil, fun r hr' => ?_⟩
    rw [recover_nil] at hr'
    cases hr'
    exact ⟨good_runOps hg0 ops, classed_runOps hc0 ops⟩

theorem reach_good (hc : CodecOK crc enc dec) {snap : Option Store} {f : Bytes} {tr : Trace}
    (h : Reach crc enc dec snap f tr) : ∀ r, recover crc dec snap f = .ok r → Good r :=
  fun r hr => ((reach_facts hc h).recovered r hr).1

theorem reach_classed (hc : CodecOK crc enc dec) {snap : Option Store} {f : Bytes} {tr : Trace}
    (h : Reach crc enc dec snap f tr) : ∀ r, recover crc dec snap f = .ok r → Classed r :=
  fun r hr => ((reach_facts hc h).recovered r hr).2

end logok

end Neumann.Durable
