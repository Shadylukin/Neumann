import NeumannModel.Durable.Rotate
/-
  C02 — "Durable store: acknowledged writes survive any crash, in order".
  ONLY the property theorems and their non-vacuity examples; the definitions used by the
  statements (`Reach`, `PrefixOf`, `MetaEq`, `FullEq`, `RecoverIsPrefixFull`,
  `RotationKeepsAcked`, `CodecOK`, `Fits`, `logBytes`) are in `Lemmas.lean`, the argument for the
  crash points "old log replayed over the newer snapshot" in `Overlay.lean`.

  Two levels of observation:
   * the metadata map (`Store.md`): what every non-cache `put`/`delete` writes; `MetaEq`;
   * the FULL observable image (`FullEq`): what `get` answers for every key outside the
     `_cache:` class, i.e. the metadata map seen through the entity-index / embedding-slab
     overlay of `emb:` keys.
  Full image: one crash at any byte (`recover_is_prefix_full`), ANY chain of crashes and
  checkpoints of the crash model `Reach` — every crash point inside `checkpoint` included
  (`recover_then_write_full`), every step and cut of a checkpoint under every sync mode
  (`checkpoint_crash_safe`), the live store (`live_image_follows_spec`).
  `scan` lists readable keys only, live and recovered (`scan_lists_only_readable_keys`).
  The model follows /repo after 197dc525, e374d74b, 6b9ec7ce, the fix "only `emb:` keys get an
  entity-index entry / `EmbeddingSet` record / slab entry in `put_durable` and
  `apply_wal_entry`", a74fb575 (checkpoint holds the log mutex from its fsync to the truncation:
  `checkpoint_serialised_with_writes_keeps_every_ack`) and f5ce42e5 (a failed `put_durable`
  releases the entity-index entry it allocated: `failed_write_leaves_store_unchanged`,
  `failing_session_live_store_is_coherent`); the behaviours before those commits are refuted by
  the `_witness` theorems on `Sys.ckptStepsOld`, `applyEntryOld1`/`putOld`, `applyEntryOld2`,
  `putDurableOld`/`runOpsOld`/`applyEntryOld3`, `Sys.withCheckpointAtOld` and
  `failMemOld`/`runOpsFOld`.
-/
namespace Neumann.Durable.Props
open Neumann.FramedLog Neumann.Durable

variable {crc : Bytes → Nat} {enc : Entry → Bytes} {dec : Bytes → Option Entry}

/-- **One crash, any byte (metadata map).** A fresh durable store runs ANY operation list; the log
    is cut at ANY byte `n`.  Recovery succeeds and yields exactly the map produced by the first `k`
    operations, and every operation whose records lie wholly before the cut (in particular every
    acknowledged one: acknowledged ⇒ synced ⇒ `≤ syncedLen ≤ n`) is among them. -/
theorem recover_is_prefix (hc : CodecOK crc enc dec) (ops : List Op) (n : Nat)
    (hfit : Fits enc (runOps Store.empty ops).1) :
    ∃ k r, k ≤ ops.length ∧
      recover crc dec none ((logBytes crc enc (runOps Store.empty ops).1).take n) = .ok r ∧
      MetaEq r.md (specRun [] (ops.take k)) ∧ r.cache = [] ∧
      ∀ a, a ≤ ops.length →
        (logBytes crc enc (runOps Store.empty (ops.take a)).1).length ≤ n → a ≤ k := by
  obtain ⟨k, hk, hrep, hgrp⟩ := group_prefix Store.empty ops
    (wholeWithin crc ((runOps Store.empty ops).1.map enc) n)
  refine ⟨k, _, hk, recover_take_records hc none _ n hfit (runOps_plain _ _), ?_, ?_, ?_⟩
  · rw [replay_md]
    show MetaEq (replayMeta Store.empty.md _) _
    rw [hrep]
    exact MetaEq.refl _
  · rw [replay_cache]; rfl
  · intro a ha hlen
    apply hgrp a ha
    obtain ⟨rest, hrest⟩ := runOps_take_prefix Store.empty ops a
    exact wholeWithin_of_prefix hrest n hlen

/-- **One crash, any byte, FULL observable image** (`RecoverIsPrefixFull` for the repaired
    `recover`, every operation list over every key class and value, every cut byte — also a cut
    between the `EmbeddingSet` and the `MetadataSet` record of one put, and also operation lists
    that make the writer's entity ids differ from the ids replay assigns): `get` on the recovered
    store answers, for every key outside the `_cache:` class, what the first `k` operations
    wrote, and every acknowledged operation is among them. -/
theorem recover_is_prefix_full (hc : CodecOK crc enc dec) (ops : List Op) (n : Nat)
    (hfit : Fits enc (runOps Store.empty ops).1) :
    RecoverIsPrefixFull (recover crc dec) crc enc ops n := by
  obtain ⟨k, r, hk, hrec, hmd, -, hack⟩ := recover_is_prefix hc ops n hfit
  refine ⟨k, r, hk, hrec, ?_, hack⟩
  rw [recover_take_records hc none _ n hfit (runOps_plain _ _)] at hrec
  injection hrec with hrec
  have hg : Good r := by
    rw [← hrec]
    exact good_replay_take good_empty good_empty (sim_refl _) ops _
  exact good_fullEq hg hmd

/-- **Any number of crashes, with writes in between, checkpoints included (metadata map)**
    (induction on the crash chain): every reachable disk state recovers, and to the map produced
    by a history that takes, epoch by epoch, a prefix of the operations containing all
    acknowledged ones. -/
theorem recover_then_write (hc : CodecOK crc enc dec) {snap : Option Store} {f : Bytes} {tr : Trace}
    (h : Reach crc enc dec snap f tr) :
    ∃ H r, PrefixOf tr H ∧ recover crc dec snap f = .ok r ∧ MetaEq r.md (specRun [] H) := by
  obtain ⟨H, hpre, R, n, rfl, hfit, hno, hme⟩ := reach_inv hc h
  refine ⟨H, _, hpre, recover_take_plain hc snap R n hfit hno, ?_⟩
  rw [replay_md]; exact hme

/-- **Any number of crashes, FULL observable image**, for EVERY reachable state of the crash model
    `Reach` (induction on the crash chain): any number of recover / write / crash rounds, every
    cut byte, and every crash point inside `checkpoint` — log fsynced, snapshot in place with the
    marker absent, partly written or complete, log truncated.  Recovery succeeds and `get` on the
    recovered store answers, for every key outside the `_cache:` class, exactly what a history
    wrote that takes, epoch by epoch, a prefix of the operations containing all acknowledged ones.
    (At the crash points "snapshot in place, marker absent or incomplete" the whole old log is
    replayed over the NEWER snapshot; the overlay invariant does not hold after every record
    there, but does at the end: `good_replay_over`.) -/
theorem recover_then_write_full (hc : CodecOK crc enc dec) {snap : Option Store} {f : Bytes}
    {tr : Trace} (h : Reach crc enc dec snap f tr) :
    ∃ H r, PrefixOf tr H ∧ recover crc dec snap f = .ok r ∧ FullEq r (specRun [] H) := by
  obtain ⟨H, r, hpre, hr, hmd⟩ := recover_then_write hc h
  exact ⟨H, r, hpre, hr, good_fullEq (reach_good hc h r hr) hmd⟩

/-- non-vacuity of `recover_then_write_full` at the crash point "snapshot in place, no marker
    byte", on a case where the overlay invariant is BROKEN in the middle of the replay:
    `delete emb:a` (absent key: one `MetadataDelete` record), `put emb:a` with a 384-dim vector,
    checkpoint crashing right after the snapshot is in place.  The disk state is in `Reach`;
    replaying only the FIRST record of the old log over the new snapshot gives a store whose
    `get emb:a` answers the vector with an empty body (a value nobody wrote); the whole log — which
    is what such a crash leaves — gives back the value written. -/
example :
    let crc : Bytes → Nat := fun _ => 0
    let ka := [101, 109, 98, 58, 97]
    let v : Val := ⟨[7], some (List.replicate 1536 1)⟩
    let ops := [Op.delete ka, Op.put ka v]
    let L := (runOps Store.empty ops).2
    Reach crc toyEnc toyDec (some L)
      (openRepair [] ++ logBytes crc toyEnc (runOps Store.empty ops).1
        ++ (encodeRec crc (toyEnc (.checkpoint 0))).take 0) ([] ++ [(ops, ops.length)]) ∧
    get (replay L ((runOps Store.empty ops).1.take 1)) ka = some ⟨[], some (List.replicate 1536 1)⟩ ∧
    get (replay L (runOps Store.empty ops).1) ka = some v := by
  intro crc ka v ops L
  have hsmall : ∀ op ∈ ops, op.small := by
    simp only [ops, v, List.forall_mem_cons, List.mem_nil_iff, false_imp_iff, implies_true, Op.small, Option.getD,
      List.length_replicate, List.length_cons, List.length_nil]
    decide
  exact ⟨Reach.ckptCrash Store.empty ops 0 0 .init (recover_nil _) (runOps_fits_toy _ _ hsmall)
    (by decide +kernel), by decide +kernel⟩

/-- **Checkpoint is crash safe under every sync mode** (`Immediate`, `Batched n`, `Manual`, with
    any unsynced tail).  From every reachable disk state, a running store `sy` (any mode, any
    synced length) that has logged the records of ANY operation list takes a checkpoint.  After
    each of the four steps (log fsynced / snapshot in place / marker appended / log truncated)
    and for EVERY crash cut `n` the step's sync state allows (inside the marker included):
    the disk state is again a reachable one with all operations acknowledged (so
    `recover_then_write_full` applies to everything that follows), recovery yields the
    pre-checkpoint map, and `get` on the recovered store answers every key outside the `_cache:`
    class exactly as the live store did before the checkpoint (FULL observable image) — nothing
    lost, nothing resurrected.  After the last step recovery returns the live store itself
    (cache included). -/
theorem checkpoint_crash_safe (hc : CodecOK crc enc dec) {snap : Option Store} {f : Bytes} {tr : Trace}
    (h : Reach crc enc dec snap f tr) (mem0 : Store) (hr : recover crc dec snap f = .ok mem0)
    (ops : List Op) (hfit : Fits enc (runOps mem0 ops).1) (id : Nat)
    (hid : (enc (.checkpoint id)).length < U32)
    (sy : Sys) (hsnap : sy.snap = snap) (hmem : sy.mem = (runOps mem0 ops).2)
    (hfile : sy.wal.file = openRepair f ++ logBytes crc enc (runOps mem0 ops).1) :
    (∀ st ∈ Sys.ckptSteps crc enc sy id, ∀ n,
        Reach crc enc dec st.snap (st.crashFile n) (tr ++ [(ops, ops.length)]) ∧
        ∃ r, recover crc dec st.snap (st.crashFile n) = .ok r ∧ MetaEq r.md sy.mem.md ∧
          (∀ k, isCacheKey k = false → get r k = get sy.mem k) ∧
          (st.snap = some sy.mem → r.cache = sy.mem.cache)) ∧
    (∀ n, recover crc dec (Sys.checkpoint crc enc sy id).snap ((Sys.checkpoint crc enc sy id).crashFile n)
        = .ok sy.mem) := by
  obtain ⟨H, -, hinv⟩ := reach_inv hc h
  obtain ⟨S, hopen, hSfit, hSno, hmem0, -⟩ := inv_open hc hinv hr
  have hplain := runOps_plain mem0 ops
  have hlive := runOps_md_over hmem0 ops
  -- the three kinds of crash state
  have A : Reach crc enc dec snap sy.wal.file (tr ++ [(ops, ops.length)]) ∧
      ∃ r, recover crc dec snap sy.wal.file = .ok r ∧ MetaEq r.md sy.mem.md := by
    constructor
    · have := Reach.round mem0 ops ops.length sy.wal.file.length h hr hfit
        (by rw [hfile]; simp) (Nat.le_refl _) (by rw [List.take_length, hfile]; exact Nat.le_refl _)
      rwa [← hfile, List.take_length] at this
    · have hfull := recover_full hc snap (S ++ (runOps mem0 ops).1) (hSfit.append hfit)
        (hSno.append (fun e he => (hplain e he).1))
      rw [logBytes_append, ← hopen, ← hfile] at hfull
      refine ⟨_, hfull, ?_⟩
      rw [replay_md, afterLastCkpt_append_plain _ _ (fun e he => (hplain e he).2), hmem, hlive]
      exact MetaEq.refl _
  have B : ∀ m, Reach crc enc dec (some sy.mem)
        (sy.wal.file ++ (encodeRec crc (enc (.checkpoint id))).take m) (tr ++ [(ops, ops.length)]) ∧
      ∃ r, recover crc dec (some sy.mem) (sy.wal.file ++ (encodeRec crc (enc (.checkpoint id))).take m)
          = .ok r ∧ MetaEq r.md sy.mem.md ∧ r.cache = sy.mem.cache := by
    intro m
    rw [hfile, hmem]
    refine ⟨Reach.ckptCrash mem0 ops id m h hr hfit hid, ?_⟩
    obtain ⟨R, n, hf, hRfit, hRno, hRme⟩ := inv_ckpt (crc := crc) S (runOps mem0 ops).1 hSfit hfit hSno
      hplain (runOps mem0 ops).2 _ hlive id m hid
    rw [hopen, hf]
    refine ⟨_, recover_take_plain hc _ R n hRfit hRno, ?_, ?_⟩
    · rw [replay_md]; exact hRme
    · rw [replay_cache]; rfl
  have C : Reach crc enc dec (some sy.mem) [] (tr ++ [(ops, ops.length)]) ∧
      recover crc dec (some sy.mem) [] = .ok sy.mem := by
    rw [hmem]
    exact ⟨Reach.ckptDone mem0 ops h hr hfit, recover_nil _⟩
  have hsynced : (sy.ckptSync.ckptSnapshot).wal.syncedLen = (sy.ckptSync.ckptSnapshot).wal.file.length := rfl
  -- the full image: both stores satisfy the overlay invariant, so `get` is the metadata map
  have hgm : Good sy.mem := by rw [hmem]; exact good_runOps (reach_good hc h mem0 hr) ops
  have full : ∀ {sn : Option Store} {fl : Bytes} (_ : Reach crc enc dec sn fl (tr ++ [(ops, ops.length)]))
      (r : Store), recover crc dec sn fl = .ok r → MetaEq r.md sy.mem.md →
      ∀ k, isCacheKey k = false → get r k = get sy.mem k := by
    intro sn fl hre r hr' hme k hk
    rw [good_get (reach_good hc hre r hr') k hk, good_get hgm k hk]
    exact hme k
  have htrunc : ∀ n, (Sys.checkpoint crc enc sy id).crashFile n = [] := fun _ => List.take_nil
  constructor
  · intro st hst n
    simp only [Sys.ckptSteps, List.mem_cons, List.not_mem_nil, or_false] at hst
    rcases hst with rfl | rfl | rfl | rfl
    · -- the log is fsynced: every cut keeps the whole log; old snapshot
      rw [show sy.ckptSync.crashFile n = sy.wal.file from Sys.crashFile_sync sy n]
      show Reach crc enc dec sy.snap _ _ ∧ ∃ r, recover crc dec sy.snap _ = _ ∧ _ ∧ _ ∧ (sy.snap = _ → _)
      rw [hsnap]
      obtain ⟨a1, r, a2, a3⟩ := A
      refine ⟨a1, r, a2, a3, full a1 r a2 a3, ?_⟩
      intro hs
      have hc' := recovered_cache r a2
      rw [hs] at hc'; exact hc'
    · -- snapshot in place, log whole, no marker byte
      rw [show sy.ckptSync.ckptSnapshot.crashFile n = sy.wal.file from Sys.crashFile_sync sy n]
      obtain ⟨b1, r, b2, b3, b4⟩ := B 0
      rw [List.take_zero, List.append_nil] at b1 b2
      exact ⟨b1, r, b2, b3, full b1 r b2 b3, fun _ => b4⟩
    · -- marker appended: synced or not, a crash keeps the log and some byte prefix of the marker
      obtain ⟨m, hm⟩ := Sys.crashFile_marker crc enc sy.ckptSync.ckptSnapshot id n hsynced
      rw [hm]
      obtain ⟨b1, r, b2, b3, b4⟩ := B m
      exact ⟨b1, r, b2, b3, full b1 r b2 b3, fun _ => b4⟩
    · -- log truncated
      have := htrunc n
      simp only [Sys.checkpoint] at this
      rw [this]
      exact ⟨C.1, sy.mem, C.2, MetaEq.refl _, fun _ _ => rfl, fun _ => rfl⟩
  · intro n
    rw [htrunc n]
    exact C.2
where
  recovered_cache {snap : Option Store} {f : Bytes} (r : Store)
      (h : recover crc dec snap f = .ok r) : r.cache = (snap.getD Store.empty).cache := by
    unfold recover at h
    simp only [] at h
    split at h
    · cases h
    · injection h with h
      rw [← h, replay_cache]

/-- the live store's metadata map follows the specification map (so "pre-checkpoint map" above is
    the map of all operations issued so far) -/
theorem live_follows_spec (s : Store) (ops : List Op) :
    (runOps s ops).2.md = specRun s.md ops := by
  exact runOps_md s ops

/-- **the live store's full image follows the specification map**: after any operation list on a
    fresh store, `get` answers for every key outside the `_cache:` class exactly what the
    operations wrote (the embedding-slab overlay never shows a vector the value does not carry) -/
theorem live_image_follows_spec (ops : List Op) :
    FullEq (runOps Store.empty ops).2 (specRun [] ops) := by
  apply good_fullEq (good_runOps good_empty ops)
  rw [runOps_md]
  exact MetaEq.refl _

/-- **`scan` lists readable keys only, live and after any crash chain** (the repaired class
    `tensor_store.slab_router.put_durable/non_emb_key_with_vector_stays_in_scan_after_delete`,
    for ALL inputs): on the store recovered from any disk state of the crash model `Reach`
    (`ops = []`; every checkpoint crash point included), and on the live store after ANY further operation list over every key class and
    value, every key that `scan` lists — metadata slab, live entity-index entries, cache ring —
    is answered by `get`.  (Entity-index entries exist for `emb:` keys only and each has its
    metadata record; before the fix this failed: `non_emb_vector_key_witness`.) -/
theorem scan_lists_only_readable_keys (hc : CodecOK crc enc dec) {snap : Option Store} {f : Bytes}
    {tr : Trace} (h : Reach crc enc dec snap f tr) (r : Store) (hr : recover crc dec snap f = .ok r)
    (ops : List Op) :
    ∀ k ∈ scanKeys (runOps r ops).2, (get (runOps r ops).2 k).isSome = true :=
  scan_readable (good_runOps (reach_good hc h r hr) ops) (classed_runOps (reach_classed hc h r hr) ops)

/-- **`exists`, `scan` and `get` tell the same story, live and after any crash chain**: on the
    store recovered from any disk state of the crash model and after ANY further operation list,
    `exists k` is true exactly when `get k` answers, and every key `get` answers is listed by
    `scan` (with `scan_lists_only_readable_keys`: `scan` = the readable keys = the existing
    keys). -/
theorem exists_scan_get_agree (hc : CodecOK crc enc dec) {snap : Option Store} {f : Bytes}
    {tr : Trace} (h : Reach crc enc dec snap f tr) (r : Store) (hr : recover crc dec snap f = .ok r)
    (ops : List Op) (k : Bytes) :
    exists_ (runOps r ops).2 k = (get (runOps r ops).2 k).isSome ∧
    ((get (runOps r ops).2 k).isSome = true → k ∈ scanKeys (runOps r ops).2) :=
  ⟨exists_eq_get_isSome (good_runOps (reach_good hc h r hr) ops) k,
   readable_scanned (good_runOps (reach_good hc h r hr) ops) k⟩

/-- the fresh store: the hypotheses of `scan_lists_only_readable_keys` hold of the empty disk, and
    the statement is not vacuous (a put then lists its key) -/
example : Reach (fun _ => 0) toyEnc toyDec none [] [] ∧
    recover (fun _ => 0) toyDec none [] = .ok Store.empty ∧
    scanKeys (runOps Store.empty [Op.put [97] ⟨[1], some [1, 2, 3, 4]⟩, Op.put [101, 109, 98, 58, 97] ⟨[2], none⟩]).2
      = [[101, 109, 98, 58, 97], [97], [101, 109, 98, 58, 97]] :=
  ⟨.init, recover_nil _, by decide +kernel⟩

/-- **Exactly the cache class is not durable**: a `_cache:` key logs nothing; every other key's
    operation ends with the record that carries it. -/
theorem cache_keys_not_durable (s : Store) (k : Bytes) (v : Val) :
    (isCacheKey k = true → (putDurable s k v).1 = [] ∧ (deleteDurable s k).1 = []) ∧
    (isCacheKey k = false → (putDurable s k v).1.getLast? = some (.metaSet k v) ∧
                            (deleteDurable s k).1.getLast? = some (.metaDel k)) := by
  rw [putDurable_fst, deleteDurable_fst]
  constructor
  · intro h; simp [h]
  · intro h
    constructor
    · by_cases hk : classify k = .embedding
      · cases hv : v.emb <;> simp [h, hk]
      · simp [h, hk]
    · simp [h]

/-- recovery never invents cache entries: the cache after recovery is the snapshot's cache -/
theorem recovered_cache_is_snapshot_cache (snap : Option Store) (f : Bytes) (r : Store)
    (h : recover crc dec snap f = .ok r) : r.cache = (snap.getD Store.empty).cache :=
  checkpoint_crash_safe.recovered_cache r h

/-- outside the `_cache:` and `emb:` classes `get` reads the metadata map only -/
theorem get_reads_md (s : Store) (k : Bytes) (h1 : classify k ≠ .cache) (h2 : classify k ≠ .embedding) :
    get s k = aget s.md k := by
  unfold get
  split <;> simp_all

/-- the writer's bookkeeping: running operations through `Sys.op` appends exactly `logBytes` of
    their records, and under `Immediate` every returned operation is synced -/
theorem sys_log_is_logBytes (sy : Sys) (ops : List Op) :
    (ops.foldl (Sys.op crc enc) sy).wal.file = sy.wal.file ++ logBytes crc enc (runOps sy.mem ops).1 ∧
    (ops.foldl (Sys.op crc enc) sy).mem = (runOps sy.mem ops).2 := by
  induction ops generalizing sy with
  | nil => simp [runOps_nil, logBytes_nil]
  | cons o ops ih =>
    obtain ⟨h1, h2⟩ := ih (Sys.op crc enc sy o)
    rw [List.foldl_cons, h1, h2, runOps_cons, Sys.op_file, Sys.op_mem, logBytes_append, List.append_assoc]
    exact ⟨rfl, rfl⟩

theorem immediate_acks_everything (sy : Sys) (ops : List Op) (hm : sy.mode = .immediate)
    (h0 : sy.wal.syncedLen = sy.wal.file.length) :
    (ops.foldl (Sys.op crc enc) sy).wal.syncedLen = (ops.foldl (Sys.op crc enc) sy).wal.file.length := by
  induction ops generalizing sy with
  | nil => exact h0
  | cons o ops ih =>
    rw [List.foldl_cons]
    exact ih _ (by rw [Sys.op_mode]; exact hm) (Sys.op_immediate crc enc sy o hm h0)

/-- **A checkpoint taken while another thread keeps writing loses no acknowledged write** (the
    class `tensor_store.slab_router.checkpoint/concurrent_durable_write_lost_by_truncate`, repaired
    by repo a74fb575, for ALL states, operation lists and schedules).  `checkpoint` holds the log
    mutex from its fsync to the truncation and durable writers take it before they log, so every
    schedule of a writer's operations and a checkpoint is `Sys.withCheckpointAt … i`: `i`
    operations, the whole checkpoint, the rest.  From ANY reachable disk state, recovered and
    reopened in `Immediate` mode, for EVERY operation list and EVERY `i`: the running store ends
    as if no checkpoint had been taken, and after the last operation returned, recovery from the
    disk (new snapshot + log, any cut the sync state allows) answers every key outside the
    `_cache:` class exactly as the running store — every write acknowledged before, "during" and
    after the checkpoint is there.  (Released between the steps, the mutex allowed
    `Sys.withCheckpointAtOld`, for which this fails: `checkpoint_concurrent_write_lost_witness`.) -/
theorem checkpoint_serialised_with_writes_keeps_every_ack (hc : CodecOK crc enc dec) {snap : Option Store}
    {f : Bytes} {tr : Trace} (h : Reach crc enc dec snap f tr) (mem0 : Store)
    (hr : recover crc dec snap f = .ok mem0) (ops : List Op) (i id : Nat)
    (hfit : Fits enc (runOps mem0 ops).1) (hid : (enc (.checkpoint id)).length < U32) :
    (Sys.withCheckpointAt crc enc ⟨.immediate, Wal.openOn f, mem0, snap⟩ ops i id).mem = (runOps mem0 ops).2 ∧
    ∀ n, ∃ r,
      recover crc dec (Sys.withCheckpointAt crc enc ⟨.immediate, Wal.openOn f, mem0, snap⟩ ops i id).snap
        ((Sys.withCheckpointAt crc enc ⟨.immediate, Wal.openOn f, mem0, snap⟩ ops i id).crashFile n) = .ok r ∧
      ∀ k, isCacheKey k = false → get r k = get (runOps mem0 ops).2 k := by
  have hsplit : ops.take i ++ ops.drop i = ops := List.take_append_drop i ops
  have hfit' := hfit
  rw [← hsplit, runOps_append_fst] at hfit'
  have hfitB : Fits enc (runOps (runOps mem0 (ops.take i)).2 (ops.drop i)).1 :=
    fun e he => hfit' e (List.mem_append_right _ he)
  -- the writer's first `i` operations
  obtain ⟨hf1, hm1⟩ := sys_log_is_logBytes (crc := crc) (enc := enc) ⟨.immediate, Wal.openOn f, mem0, snap⟩ (ops.take i)
  obtain ⟨hs1, hmo1⟩ := foldl_op_snap_mode crc enc ⟨.immediate, Wal.openOn f, mem0, snap⟩ (ops.take i)
  generalize hsy1 : (ops.take i).foldl (Sys.op crc enc) ⟨.immediate, Wal.openOn f, mem0, snap⟩ = sy1 at hf1 hm1 hs1 hmo1
  have hM1 : Good sy1.mem := by rw [hm1]; exact good_runOps (reach_good hc h mem0 hr) _
  -- the checkpoint, as one block
  have hsy2 : (Sys.checkpoint crc enc sy1 id).mem = sy1.mem ∧ (Sys.checkpoint crc enc sy1 id).snap = some sy1.mem ∧
      (Sys.checkpoint crc enc sy1 id).wal.file = [] ∧ (Sys.checkpoint crc enc sy1 id).wal.syncedLen = 0 ∧
      (Sys.checkpoint crc enc sy1 id).mode = .immediate := by
    exact ⟨rfl, rfl, rfl, rfl, hmo1⟩
  obtain ⟨h2m, h2s, h2f, h2l, h2mo⟩ := hsy2
  -- the rest of the writer's operations
  obtain ⟨hf3, hm3⟩ := sys_log_is_logBytes (crc := crc) (enc := enc) (Sys.checkpoint crc enc sy1 id) (ops.drop i)
  obtain ⟨hs3, -⟩ := foldl_op_snap_mode crc enc (Sys.checkpoint crc enc sy1 id) (ops.drop i)
  have hsync := immediate_acks_everything (crc := crc) (enc := enc) (Sys.checkpoint crc enc sy1 id) (ops.drop i) h2mo
    (by rw [h2l, h2f]; rfl)
  have hmem : (Sys.withCheckpointAt crc enc ⟨.immediate, Wal.openOn f, mem0, snap⟩ ops i id).mem
      = (runOps mem0 ops).2 := by
    unfold Sys.withCheckpointAt
    rw [hsy1, hm3, h2m, hm1, ← runOps_append_snd, hsplit]
  refine ⟨hmem, fun n => ?_⟩
  unfold Sys.withCheckpointAt
  rw [hsy1]
  have hcf : ((ops.drop i).foldl (Sys.op crc enc) (Sys.checkpoint crc enc sy1 id)).crashFile n
      = logBytes crc enc (runOps sy1.mem (ops.drop i)).1 := by
    unfold Sys.crashFile
    rw [List.take_of_length_le (by rw [hsync]; exact Nat.le_max_right _ _), hf3, h2f, h2m, List.nil_append]
  rw [hcf, hs3, h2s]
  have hfitB' : Fits enc (runOps sy1.mem (ops.drop i)).1 := by rw [hm1]; exact hfitB
  have hrec := recover_records hc (some sy1.mem) _ hfitB' (runOps_plain _ _)
  refine ⟨_, hrec, fun k hk => ?_⟩
  have hgr : Good (replay sy1.mem (runOps sy1.mem (ops.drop i)).1) := by
    have := good_replay_take hM1 hM1 (sim_refl _) (ops.drop i) (runOps sy1.mem (ops.drop i)).1.length
    rwa [List.take_length] at this
  have hgl : Good (runOps mem0 ops).2 := good_runOps (reach_good hc h mem0 hr) ops
  show get (replay ((some sy1.mem).getD Store.empty) _) k = _
  rw [show (some sy1.mem).getD Store.empty = sy1.mem from rfl, good_get hgr k hk, good_get hgl k hk,
    replay_md, runOps_replay, ← runOps_md, hm1, ← runOps_append_snd, hsplit]

/-- non-vacuity: a writer's three operations with the checkpoint scheduled after the first — the
    first write is in the snapshot, the log was truncated by the checkpoint and holds the records
    of the two later operations (24 bytes, all synced) -/
example :
    let ops := [Op.put [97] ⟨[1], none⟩, Op.put [107] ⟨[2], none⟩, Op.delete [97]]
    let sy := Sys.withCheckpointAt (fun _ => 0) toyEnc ⟨.immediate, Wal.openOn [], Store.empty, none⟩ ops 1 0
    Reach (fun _ => 0) toyEnc toyDec none [] [] ∧ recover (fun _ => 0) toyDec none [] = .ok Store.empty ∧
    sy.snap = some (runOps Store.empty (ops.take 1)).2 ∧ sy.wal.file.length = 24 ∧
    sy.wal.syncedLen = 24 := by
  exact ⟨.init, recover_nil _, by decide +kernel⟩

/-! ### the acknowledgement rule of the three sync modes -/

/-- **Every sync mode, any script of operations and explicit syncs, any crash cut** (`Immediate`,
    `Batched m` for every `m`, `Manual`): a fresh durable store runs ANY list of durable
    operations and `wal_sync` calls; the crash keeps any byte prefix of the log at or beyond the
    synced length.  Recovery succeeds, `get` answers for every key outside the `_cache:` class what
    the first `k` operations wrote (FULL observable image), and every operation whose records end
    at or before the synced length — the acknowledged ones — is among them. -/
theorem acked_writes_survive_every_mode (hc : CodecOK crc enc dec) (mode : SyncMode) (acts : List Act)
    (n : Nat) (hfit : Fits enc (runOps Store.empty (opsOf acts)).1) :
    ∃ k r, k ≤ (opsOf acts).length ∧
      recover crc dec none ((acts.foldl (Sys.act crc enc) (Sys.fresh mode)).crashFile n) = .ok r ∧
      FullEq r (specRun [] ((opsOf acts).take k)) ∧
      ∀ a, a ≤ (opsOf acts).length →
        (logBytes crc enc (runOps Store.empty ((opsOf acts).take a)).1).length
          ≤ (acts.foldl (Sys.act crc enc) (Sys.fresh mode)).wal.syncedLen → a ≤ k := by
  obtain ⟨k, r, hk, hrec, hfull, hack⟩ := recover_is_prefix_full hc (opsOf acts)
    (max n (acts.foldl (Sys.act crc enc) (Sys.fresh mode)).wal.syncedLen) hfit
  have hfile := (acts_file_mem crc enc (Sys.fresh mode) acts).1
  rw [fresh_file, List.nil_append] at hfile
  refine ⟨k, r, hk, ?_, hfull, fun a ha hlen => hack a ha (Nat.le_trans hlen (Nat.le_max_right _ _))⟩
  unfold Sys.crashFile
  rw [hfile]
  exact hrec

/-- **What an explicit `sync` acknowledges** (the `Batched` / `Manual` rule of the property's
    quantifier): in ANY mode, every operation issued before a successful `sync` survives every
    crash that follows, whatever is issued after the sync and wherever the log is cut. -/
theorem writes_before_a_sync_survive (hc : CodecOK crc enc dec) (mode : SyncMode) (pre post : List Act)
    (n : Nat) (hfit : Fits enc (runOps Store.empty (opsOf (pre ++ [Act.sync] ++ post))).1) :
    ∃ k r, (opsOf pre).length ≤ k ∧ k ≤ (opsOf (pre ++ [Act.sync] ++ post)).length ∧
      recover crc dec none
        (((pre ++ [Act.sync] ++ post).foldl (Sys.act crc enc) (Sys.fresh mode)).crashFile n) = .ok r ∧
      FullEq r (specRun [] ((opsOf (pre ++ [Act.sync] ++ post)).take k)) := by
  obtain ⟨k, r, hk, hrec, hfull, hack⟩ :=
    acked_writes_survive_every_mode hc mode (pre ++ [Act.sync] ++ post) n hfit
  refine ⟨k, r, ?_, hk, hrec, hfull⟩
  have hops : opsOf (pre ++ [Act.sync] ++ post) = opsOf pre ++ opsOf post := by
    rw [opsOf_append, opsOf_append]; simp [opsOf]
  apply hack
  · rw [hops]; simp
  · rw [hops, List.take_left']
    · exact sync_covers crc enc mode pre post
    · rfl

/-- **A session in any sync mode on a recovered store is a round of the crash model.**  From ANY
    reachable disk state, recover, then run ANY script of operations and explicit syncs in ANY
    mode (`Immediate`, `Batched m`, `Manual`) on the recovered store with the log reopened
    (tail repaired).  Every crash the sync state allows (any cut at or beyond the synced length)
    leaves a disk state of the crash model again, in which the first `a` operations count as
    acknowledged for EVERY `a` whose records end at or before the synced length — so
    `recover_then_write_full`, `checkpoint_crash_safe`, `scan_lists_only_readable_keys`,
    `bloom_recovery_is_transparent` apply to it and to everything that follows: the guarantee is
    kept for everything written after a recovery, in every mode. -/
theorem session_in_any_mode_is_a_round (hc : CodecOK crc enc dec) {snap : Option Store} {f : Bytes}
    {tr : Trace} (h : Reach crc enc dec snap f tr) (mem0 : Store) (hr : recover crc dec snap f = .ok mem0)
    (mode : SyncMode) (acts : List Act) (hfit : Fits enc (runOps mem0 (opsOf acts)).1) (n a : Nat)
    (ha : a ≤ (opsOf acts).length)
    (hsync : (openRepair f ++ logBytes crc enc (runOps mem0 ((opsOf acts).take a)).1).length
      ≤ (acts.foldl (Sys.act crc enc) ⟨mode, Wal.openOn f, mem0, snap⟩).wal.syncedLen) :
    Reach crc enc dec snap ((acts.foldl (Sys.act crc enc) ⟨mode, Wal.openOn f, mem0, snap⟩).crashFile n)
      (tr ++ [(opsOf acts, a)]) ∧
    ∃ H r, PrefixOf (tr ++ [(opsOf acts, a)]) H ∧
      recover crc dec snap ((acts.foldl (Sys.act crc enc) ⟨mode, Wal.openOn f, mem0, snap⟩).crashFile n) = .ok r ∧
      FullEq r (specRun [] H) := by
  have hfile := (acts_file_mem crc enc ⟨mode, Wal.openOn f, mem0, snap⟩ acts).1
  have h0 : (⟨mode, Wal.openOn f, mem0, snap⟩ : Sys).wal.syncedLen
      ≤ (⟨mode, Wal.openOn f, mem0, snap⟩ : Sys).wal.file.length := Nat.le_refl _
  have hmono := (acts_synced_le crc enc ⟨mode, Wal.openOn f, mem0, snap⟩ acts h0).1
  have hreach : Reach crc enc dec snap
      ((acts.foldl (Sys.act crc enc) ⟨mode, Wal.openOn f, mem0, snap⟩).crashFile n) (tr ++ [(opsOf acts, a)]) := by
    unfold Sys.crashFile
    rw [hfile]
    exact Reach.round mem0 (opsOf acts) a _ h hr hfit
      (Nat.le_trans hmono (Nat.le_max_right _ _)) ha (Nat.le_trans hsync (Nat.le_max_right _ _))
  exact ⟨hreach, recover_then_write_full hc hreach⟩

/-- the hypotheses of `session_in_any_mode_is_a_round` on the empty disk, `Manual` mode,
    `put; sync; put`: the first operation is acknowledged (its 14 bytes are synced), the second is not -/
example :
    let acts := [Act.op (.put [107] ⟨[1], none⟩), .sync, .op (.put [106] ⟨[2], none⟩)]
    let sy := acts.foldl (Sys.act (fun _ => 0) toyEnc) ⟨.manual, Wal.openOn [], Store.empty, none⟩
    Reach (fun _ => 0) toyEnc toyDec none [] [] ∧ recover (fun _ => 0) toyDec none [] = .ok Store.empty ∧
    (openRepair [] ++ logBytes (fun _ => 0) toyEnc (runOps Store.empty ((opsOf acts).take 1)).1).length
      ≤ sy.wal.syncedLen ∧ sy.wal.syncedLen = 14 ∧ sy.wal.file.length = 28 :=
  ⟨.init, recover_nil _, by decide +kernel⟩

/-- **`Batched m` leaves fewer than `m` records unacknowledged**: after any script on a fresh store
    the unsynced part of the log is exactly its last `pending` records, and `pending < max m 1`
    (`maybe_sync` fires when `pending_sync_count >= max_entries`; `m = 0` or `1` sync every
    record). -/
theorem batched_bounds_unacknowledged (m : Nat) (acts : List Act) :
    let w := (acts.foldl (Sys.act crc enc) (Sys.fresh (.batched m))).wal
    let R := (runOps Store.empty (opsOf acts)).1
    w.file = logBytes crc enc R ∧ w.pending < max m 1 ∧ w.pending ≤ R.length ∧
      w.syncedLen = (logBytes crc enc (R.take (R.length - w.pending))).length := by
  have h := binv_acts crc enc m (Sys.fresh (.batched m)) [] rfl (binv_fresh crc enc m) acts
  rw [List.nil_append] at h
  exact ⟨h.file, h.bound, h.le, h.synced⟩

/-- a `Batched 3` script with an explicit sync in the middle: 5 records, the first 4 synced (3 by
    the automatic sync, the 4th by the explicit one), one pending -/
example :
    let acts := [Act.op (.put [1] ⟨[1], none⟩), .op (.put [2] ⟨[2], none⟩), .op (.put [3] ⟨[3], none⟩),
                 .op (.put [4] ⟨[4], none⟩), .sync, .op (.put [5] ⟨[5], none⟩)]
    let w := (acts.foldl (Sys.act (fun _ => 0) toyEnc) (Sys.fresh (.batched 3))).wal
    w.pending = 1 ∧ w.syncedLen = 56 ∧ w.file.length = 70 := by
  decide +kernel

/-! ### appends that fail -/

/-- **A write that returned an error is never visible after a crash, whatever fails.**
    `put_durable` / `delete_durable` append their records one by one and return the first append
    error (`SizeLimitExceeded` under `auto_rotate = false`, an I/O error) before touching memory.
    For EVERY failure pattern (`plan`: for each operation, `none` = all its records are appended,
    `some t` = the append of record `t` fails), every operation list over every key class and
    value, and every crash cut `n`: recovery succeeds and `get` on the recovered store answers, for
    every key outside the `_cache:` class, exactly what the first `k` operations THAT RETURNED `Ok`
    wrote — although the log holds orphan strict prefixes of the records of the failed ones
    (an `EmbeddingSet` without its `MetadataSet`; `EmbeddingDelete` + `EntityRemove` without their
    `MetadataDelete`) in the middle — and every `Ok` operation whose records lie wholly before
    the cut is among them. -/
theorem failed_writes_are_invisible (hc : CodecOK crc enc dec) (plan : List (Op × Option Nat)) (n : Nat)
    (hfit : Fits enc (runOpsF Store.empty plan).1) :
    ∃ k r, k ≤ (runOpsF Store.empty plan).2.2.length ∧
      recover crc dec none ((logBytes crc enc (runOpsF Store.empty plan).1).take n) = .ok r ∧
      FullEq r (specRun [] ((runOpsF Store.empty plan).2.2.take k)) ∧
      ∀ a, a ≤ plan.length →
        (logBytes crc enc (runOpsF Store.empty (plan.take a)).1).length ≤ n →
        (runOpsF Store.empty (plan.take a)).2.2.length ≤ k := by
  obtain ⟨k, hk, hrep, hgrp⟩ := group_prefixF Store.empty plan
    (wholeWithin crc ((runOpsF Store.empty plan).1.map enc) n)
  refine ⟨k, _, hk, recover_take_records hc none _ n hfit (runOpsF_plain _ _), ?_, ?_⟩
  · apply good_fullEq
    · exact good_replayF_take good_empty good_empty.nodup (simle_refl _) plan _
    · rw [replay_md]
      show MetaEq (replayMeta Store.empty.md _) _
      rw [hrep]
      exact MetaEq.refl _
  · intro a ha hlen
    apply hgrp a ha
    obtain ⟨rest, hrest⟩ := runOpsF_take_prefix Store.empty plan a
    exact wholeWithin_of_prefix hrest n hlen

/-- **The `auto_rotate = false` writer is such a session**: running any operation list through
    `Sys.opLim` (every record that would take the file beyond `max_size_bytes` is refused) leaves
    the log and the memory of `runOpsF` for some failure pattern — so
    `failed_writes_are_invisible` applies to every size limit. -/
theorem size_limited_session_is_a_plan (maxSize : Nat) (sy : Sys) (ops : List Op) :
    ∃ plan : List (Op × Option Nat), plan.map (·.1) = ops ∧
      (ops.foldl (Sys.opLim crc enc maxSize) sy).wal.file
        = sy.wal.file ++ logBytes crc enc (runOpsF sy.mem plan).1 ∧
      (ops.foldl (Sys.opLim crc enc maxSize) sy).mem = (runOpsF sy.mem plan).2.1 := by
  induction ops generalizing sy with
  | nil => exact ⟨[], rfl, by simp [runOpsF_nil, logBytes_nil], rfl⟩
  | cons o ops ih =>
    obtain ⟨plan, hp, hf, hm⟩ := ih (Sys.opLim crc enc maxSize sy o)
    obtain ⟨hle, hfile⟩ := logLim_spec crc enc sy.mode maxSize sy.wal (step sy.mem o).1
    refine ⟨(o, some (logLim crc enc sy.mode maxSize sy.wal (step sy.mem o).1).2) :: plan, by simp [hp], ?_, ?_⟩
    · rw [List.foldl_cons, hf, runOpsF_cons]
      simp only []
      rw [logBytes_append, stepF_fst_take _ _ _ hle, ← List.append_assoc, ← hfile]
      rfl
    · rw [List.foldl_cons, hm, runOpsF_cons]
      rfl

/-- **A write that returned an error leaves no trace in the running store either** (the class
    `tensor_store.slab_router.put_durable/failed_put_leaves_entity_index_entry`, repaired by repo
    f5ce42e5, for ALL states and operations; `failMem` = the memory after an operation one of
    whose appends was refused).  For EVERY store `s` — whatever is in its slabs and its entity
    index — and every operation of every key class and value: `get`, `exists` and `scan` answer
    after the failed operation exactly as before it, for every key; and the overlay invariant
    `Good` (hence "`exists` = `get` answers", "`scan` lists readable keys only") is kept.
    (`put_durable` allocates the entity id before it logs; it is released again on both error
    paths: what stays is a tombstoned vocabulary slot.  Before the fix the entry stayed live:
    `failed_put_leaves_index_entry_witness`.) -/
theorem failed_write_leaves_store_unchanged (s : Store) (op : Op) :
    (∀ k, get (failMem s op) k = get s k) ∧ (∀ k, exists_ (failMem s op) k = exists_ s k) ∧
    scanKeys (failMem s op) = scanKeys s ∧ (Good s → Good (failMem s op)) :=
  ⟨failMem_get s op, failMem_exists s op, failMem_scan s op, fun hg => good_failMem hg op⟩

/-- non-vacuity: the failed put of a NEW `emb:` key with a vector does change the representation
    (the id it was given is consumed: one dead slot), and an existing entry is left alone -/
example :
    let ka := [101, 109, 98, 58, 97]
    let s1 := (step Store.empty (Op.put ka ⟨[1], some [1, 2, 3, 4]⟩)).2
    (failMem Store.empty (Op.put ka ⟨[1], some [1, 2, 3, 4]⟩)).vocab = [(ka, false)] ∧
    failMem s1 (Op.put ka ⟨[2], some [5, 6, 7, 8]⟩) = s1 ∧ s1.vocab = [(ka, true)] := by
  decide +kernel

/-- **The running store of a session with failing appends answers exactly the operations that
    returned `Ok`** — on the store recovered from ANY disk state of the crash model, for EVERY
    failure pattern, operation list, key class and value: `get` answers every key outside the
    `_cache:` class with what the history of the recovered store followed by the `Ok` operations
    wrote; `exists k` is true exactly when `get k` answers; `scan` lists exactly the readable keys.
    (Before repo f5ce42e5 all three failed on the live store after one refused put.) -/
theorem failing_session_live_store_is_coherent (hc : CodecOK crc enc dec) {snap : Option Store} {f : Bytes}
    {tr : Trace} (h : Reach crc enc dec snap f tr) (r : Store) (hr : recover crc dec snap f = .ok r)
    (plan : List (Op × Option Nat)) :
    FullEq (runOpsF r plan).2.1 (specRun r.md (runOpsF r plan).2.2) ∧
    ∀ k, exists_ (runOpsF r plan).2.1 k = (get (runOpsF r plan).2.1 k).isSome ∧
      (k ∈ scanKeys (runOpsF r plan).2.1 ↔ (get (runOpsF r plan).2.1 k).isSome = true) := by
  have hg := good_runOpsF (reach_good hc h r hr) plan
  have hcl := classed_runOpsF (reach_classed hc h r hr) plan
  refine ⟨good_fullEq hg (by rw [runOpsF_md]; exact MetaEq.refl _), fun k => ⟨exists_eq_get_isSome hg k, ?_⟩⟩
  exact ⟨scan_readable hg hcl k, readable_scanned hg k⟩

/-- the same on a fresh store: a refused put of a new `emb:` key with a vector between two
    successful puts — two operations returned `Ok`, `scan` lists their keys and nothing else -/
example :
    let ka := [101, 109, 98, 58, 97]
    let plan : List (Op × Option Nat) :=
      [(Op.put [107] ⟨[1], none⟩, none), (Op.put ka ⟨[1], some [1, 2, 3, 4]⟩, some 0), (Op.put [106] ⟨[2], none⟩, none)]
    Reach (fun _ => 0) toyEnc toyDec none [] [] ∧ recover (fun _ => 0) toyDec none [] = .ok Store.empty ∧
    (runOpsF Store.empty plan).2.2.length = 2 ∧ scanKeys (runOpsF Store.empty plan).2.1 = [[106], [107]] ∧
    exists_ (runOpsF Store.empty plan).2.1 ka = false :=
  ⟨.init, recover_nil _, by decide +kernel⟩

/-- **Before repo f5ce42e5 a failed `put_durable` left its key in the entity index** (class
    `tensor_store.slab_router.put_durable/failed_put_leaves_entity_index_entry`; `failMemOld` /
    `runOpsFOld` = the code before the fix): `put_durable emb:a` with a vector whose very first
    append is refused.  The operation returns an error and no record is logged, but
    `index.get_or_create(key)` ran before the append and was not undone: on the LIVE store
    `exists` said true and `scan` listed a key that no successful write created and that `get`
    rejects, and a later checkpoint persisted the entry (recovery from that snapshot returns the
    same store).  With the repaired code the same session leaves a store on which `exists` is
    false, `scan` lists nothing and `get` rejects the key
    (`failed_write_leaves_store_unchanged` for every state and operation). -/
theorem failed_put_leaves_index_entry_witness :
    let ka := [101, 109, 98, 58, 97]
    let plan : List (Op × Option Nat) := [(Op.put ka ⟨[1], some [1, 2, 3, 4]⟩, some 0)]
    let L := (runOpsFOld Store.empty plan).2.1
    let L' := (runOpsF Store.empty plan).2.1
    ((runOpsFOld Store.empty plan).1 = [] ∧ (runOpsFOld Store.empty plan).2.2 = [] ∧
      exists_ L ka = true ∧ ka ∈ scanKeys L ∧ get L ka = none ∧ ¬ Good L ∧
      recover (fun _ => 0) toyDec (some L) [] = .ok L) ∧
    ((runOpsF Store.empty plan).1 = [] ∧ (runOpsF Store.empty plan).2.2 = [] ∧
      exists_ L' ka = false ∧ scanKeys L' = [] ∧ get L' ka = none) := by
  intro ka plan L L'
  refine ⟨⟨by decide +kernel, by decide +kernel, by decide +kernel, by decide +kernel, by decide +kernel, ?_,
    recover_nil _⟩, by decide +kernel⟩
  intro hg
  have := hg.idxmd ka 0 (by decide +kernel) (by decide +kernel)
  exact absurd this (by decide +kernel)

/-- non-vacuity of `failed_writes_are_invisible`: a failed delete in the middle (its
    `EmbeddingDelete` and `EntityRemove` records logged, the `MetadataDelete` refused) followed
    by a successful put: 2 of the 3 operations returned `Ok`, 5 records in the log -/
example :
    let ka := [101, 109, 98, 58, 97]
    let plan : List (Op × Option Nat) :=
      [(Op.put ka ⟨[1], some [1, 2, 3, 4]⟩, none), (Op.delete ka, some 2), (Op.put [98] ⟨[2], none⟩, none)]
    (runOpsF Store.empty plan).1.length = 5 ∧ (runOpsF Store.empty plan).2.2.length = 2 := by
  decide +kernel

/-! ### the Bloom-filtered store -/

/-- **A Bloom filter never hides a durable key** (`open_durable_with_bloom`,
    `recover_with_bloom`: `get` / `exists` answer "absent" for a key the filter has not been given;
    after a recovery the filter is rebuilt from `scan("")` and every `put_durable` adds its key).
    On the store recovered from ANY disk state of the crash model, and after ANY further
    operation list, the filtered store answers every `get` exactly as the unfiltered router —
    whatever the false positives `fp` of the filter — so all the statements above hold of it
    unchanged. -/
theorem bloom_recovery_is_transparent (hc : CodecOK crc enc dec) {snap : Option Store} {f : Bytes}
    {tr : Trace} (h : Reach crc enc dec snap f tr) (b : BStore)
    (hb : recoverBloom crc dec snap f = .ok b) (fp : Bytes → Bool) (ops : List Op) :
    recover crc dec snap f = .ok b.store ∧
      ∀ k, (b.runOps ops).get fp k = get (runOps b.store ops).2 k := by
  unfold recoverBloom at hb
  cases hr : recover crc dec snap f with
  | error e => rw [hr] at hb; cases hb
  | ok r =>
    rw [hr] at hb
    injection hb with hb
    subst hb
    refine ⟨rfl, fun k => ?_⟩
    have hg := reach_good hc h r hr
    rw [cover_get (cover_runOps (b := ⟨r, scanKeys r⟩) hg (cover_recovered hg) ops) fp k,
      bstore_runOps_store]

/-- the same for a store opened fresh with a filter -/
theorem bloom_fresh_is_transparent (fp : Bytes → Bool) (ops : List Op) (k : Bytes) :
    (BStore.empty.runOps ops).get fp k = get (runOps Store.empty ops).2 k := by
  rw [cover_get (cover_runOps (b := BStore.empty) good_empty cover_empty ops) fp k, bstore_runOps_store]
  rfl

/-- the filter matters: with a filter that was NOT given the recovered keys (`added = []`) a
    recovered key is hidden — what `recover_with_bloom` avoids by rebuilding from `scan` -/
example :
    let r := (runOps Store.empty [Op.put [107] ⟨[1], none⟩]).2
    (BStore.get (fun _ => false) ⟨r, []⟩ [107] = none) ∧ get r [107] = some ⟨[1], none⟩ ∧
    BStore.get (fun _ => false) ⟨r, scanKeys r⟩ [107] = some ⟨[1], none⟩ := by
  decide +kernel

/-- **Rotation, logs that never rotate** (`_partial`: what is MISSING is every log that does
    rotate — there the property is false, see `rotation_keeps_acked_witness`): when all records
    fit `max_size_bytes`, the rotating writer's live file is the whole log and recovery yields
    the map of all operations. -/
theorem rotation_keeps_acked_partial (hc : CodecOK crc enc dec) (maxSize : Nat) (ops : List Op)
    (hfit : Fits enc (runOps Store.empty ops).1)
    (hsmall : (logBytes crc enc (runOps Store.empty ops).1).length ≤ maxSize) :
    RotationKeepsAcked crc enc dec maxSize ops := by
  have hfile : (rotLog crc enc maxSize (runOps Store.empty ops).1).file
      = logBytes crc enc (runOps Store.empty ops).1 := by
    have := foldl_appendRot_no_rotation crc enc maxSize (runOps Store.empty ops).1 (Wal.openOn [])
      (by simpa [Wal.openOn, openRepair_nil] using hsmall)
    simpa [rotLog, Wal.openOn, openRepair_nil] using this
  refine ⟨_, by rw [hfile]; exact recover_records hc none _ hfit (runOps_plain _ _), ?_⟩
  rw [replay_md]
  show MetaEq (replayMeta Store.empty.md _) _
  rw [runOps_replay]
  exact MetaEq.refl _

/-- **The step boundaries of `TensorWal::rotate`** (`max_rotated_files = m ≥ 1`; the directory after
    each file-system call: oldest segment removed / each rename of the shifting loop / live file
    renamed to `.1` / fresh live file created).  At EVERY boundary the file recovery reads is
    either the live file as it was before the rotation or empty, and every record of the live
    file and of every segment except the oldest is still in some file (no rename overwrites a
    file that holds records) — so the acknowledged records a crash inside `rotate` keeps from
    recovery are never destroyed by the rotation itself, only not read
    (`rotation_step_loses_live_file_witness`; finding
    `tensor_store.wal.rotate/acked_entries_not_replayed`). -/
theorem rotation_steps_keep_all_but_oldest (m : Nat) (hm : 1 ≤ m) (d : LogDir) :
    ∀ st ∈ d.rotateSteps m,
      (st.recoverFile = d.recoverFile ∨ st.recoverFile = []) ∧
      (∀ c, d.live = some c → st.holds c) ∧
      (∀ n c, n ≠ m → aget d.segs n = some c → st.holds c) := by
  intro st hst
  have hfree : aget (aerase d.segs m) (m - 1 + 1) = none := by
    rw [Nat.sub_add_cancel hm]; exact aget_aerase_eq _ _
  obtain ⟨k1, k2, k3, k4⟩ := shift_keeps { d with segs := aerase d.segs m } (m - 1) hfree
  have hd0 : ∀ n c, n ≠ m → aget d.segs n = some c → aget (aerase d.segs m) n = some c := by
    intro n c hn h
    rw [aget_aerase_ne _ _ _ (Ne.symm hn)]; exact h
  -- the directory after "live file renamed to `.1`", whatever directory the shifting loop ends in
  have last : ∀ d1 : LogDir, d1.live = d.live →
      (∀ n c, aget (aerase d.segs m) n = some c → ∃ n', aget d1.segs n' = some c) →
      aget d1.segs 1 = none →
      d1.retire.live = none ∧
      (∀ c, d.live = some c → ∃ n, aget d1.retire.segs n = some c) ∧
      (∀ n c, n ≠ m → aget d.segs n = some c → ∃ n', aget d1.retire.segs n' = some c) := by
    intro d1 h1 h3 h4
    unfold LogDir.retire
    cases hl : d1.live with
    | none =>
      refine ⟨hl, fun c hc => ?_, fun n c hn h => h3 n c (hd0 n c hn h)⟩
      rw [← h1, hl] at hc; cases hc
    | some c0 =>
      refine ⟨rfl, fun c hc => ?_, fun n c hn h => ?_⟩
      · rw [← h1, hl] at hc
        injection hc with hc
        subst hc
        exact ⟨1, aget_aset_eq _ _ _⟩
      · obtain ⟨n', hn'⟩ := h3 n c (hd0 n c hn h)
        have : n' ≠ 1 := by intro e; subst e; rw [h4] at hn'; cases hn'
        exact ⟨n', by rw [aget_aset_ne _ _ _ _ (Ne.symm this)]; exact hn'⟩
  obtain ⟨l1, l2, l3⟩ := last _ k2 k3 k4
  rcases mem_rotateSteps hst with rfl | h | rfl | rfl
  · exact ⟨.inl rfl, fun c hc => .inl hc, fun n c hn h => .inr ⟨n, hd0 n c hn h⟩⟩
  · obtain ⟨a, b⟩ := k1 st h
    exact ⟨.inl (by unfold LogDir.recoverFile; rw [a]), fun c hc => .inl (a.trans hc),
      fun n c hn h' => .inr (b n c (hd0 n c hn h'))⟩
  · exact ⟨.inr (by unfold LogDir.recoverFile; rw [l1]; rfl), fun c hc => .inr (l2 c hc),
      fun n c hn h => .inr (l3 n c hn h)⟩
  · exact ⟨.inr rfl, fun c hc => .inr (l2 c hc), fun n c hn h => .inr (l3 n c hn h)⟩

/-- the hypotheses of `rotation_steps_keep_all_but_oldest` on a directory with a live file and two
    segments (`max_rotated_files = 2`): four step boundaries; after the third the log path does
    not exist, after the fourth it is empty, and `.1` holds the former live file -/
example :
    let d : LogDir := ⟨some [1, 2, 3], [(1, [4]), (2, [5])]⟩
    (d.rotateSteps 2).length = 4 ∧
    (d.rotateSteps 2).map (·.recoverFile) = [[1, 2, 3], [1, 2, 3], [], []] ∧
    (d.rotateSteps 2).getLast? = some ⟨some [], [(1, [1, 2, 3]), (2, [4])]⟩ := by
  decide +kernel

/-! ### refuted statements (concrete witnesses) -/

/-- **Pre-fix `open` (append at physical EOF) loses an acknowledged record** — the defect class
    `tensor_store.wal.open/append_after_torn_tail`; with the repaired `open` it is recovered. -/
theorem append_after_torn_tail_witness :
    let crc := Neumann.Crc32.crc32
    let torn := (encodeRec crc [1, 2, 3]).take 9
    (parse crc (fun _ => true) (openOld torn ++ encodeRec crc [9])) = ([], .badCrc) ∧
    (parse crc (fun _ => true) (openRepair torn ++ encodeRec crc [9])) = ([[9]], .clean) := by
  decide +kernel

/-- **Rotation loses acknowledged entries, frame level** (finding
    `tensor_store.wal.rotate/acked_entries_not_replayed`): with `max_size_bytes = 30`, three
    acknowledged 3-byte records under `Immediate`; the file recovery reads holds only the last one. -/
theorem rotation_loses_acked_witness :
    let crc := Neumann.Crc32.crc32
    let w := [[1, 1, 1], [2, 2, 2], [3, 3, 3]].foldl
      (fun w p => Wal.appendRot .immediate 30 w (encodeRec crc p)) (Wal.openOn [])
    w.syncedLen = w.file.length ∧ (parse crc (fun _ => true) w.file) = ([[3, 3, 3]], .clean) := by
  decide +kernel

/-- **`RotationKeepsAcked` is false of the code** (same finding, at the level of the property):
    `max_size_bytes = 30`, three acknowledged puts of 14-byte records; recovery from the live
    file knows only the last key. -/
theorem rotation_keeps_acked_witness :
    ¬ RotationKeepsAcked (fun _ => 0) toyEnc toyDec 30
        [Op.put [1] ⟨[1], none⟩, Op.put [2] ⟨[2], none⟩, Op.put [3] ⟨[3], none⟩] := by
  intro ⟨r, hr, hme⟩
  obtain ⟨r0, hr0, hp⟩ := exists_ok_of_okAnd
    (x := recover (fun _ => 0) toyDec none (rotLog (fun _ => 0) toyEnc 30
      (runOps Store.empty [Op.put [1] ⟨[1], none⟩, Op.put [2] ⟨[2], none⟩, Op.put [3] ⟨[3], none⟩]).1).file)
    (p := fun r => decide (aget r.md [1] = none)) (by decide +kernel)
  rw [hr0] at hr
  injection hr with hr
  subst hr
  have h1 := hme [1]
  rw [of_decide_eq_true hp] at h1
  exact absurd h1 (by decide +kernel)

/-- **A crash inside `rotate` after the live file has been renamed** (same finding, at a step
    boundary): two acknowledged puts, then a rotation; at the boundary "live file renamed to `.1`,
    fresh file not yet created" (and at the next one) recovery reads nothing and returns the empty
    store, although `.1` holds both records. -/
theorem rotation_step_loses_live_file_witness :
    let crc : Bytes → Nat := fun _ => 0
    let ops := [Op.put [1] ⟨[1], none⟩, Op.put [2] ⟨[2], none⟩]
    let file := logBytes crc toyEnc (runOps Store.empty ops).1
    let d : LogDir := ⟨some file, []⟩
    ∃ st ∈ d.rotateSteps 2, st.live = none ∧ aget st.segs 1 = some file ∧
      ∃ r, recover crc toyDec none st.recoverFile = .ok r ∧ aget r.md [1] = none ∧
        ¬ MetaEq r.md (specRun [] ops) := by
  intro crc ops file d
  refine ⟨⟨none, [(1, file)]⟩, by decide +kernel, rfl, by decide +kernel, Store.empty, by decide +kernel,
    rfl, ?_⟩
  intro h
  exact absurd (h [1]) (by decide +kernel)

/-- **Checkpoint without the fsync step** (class
    `tensor_store.slab_router.checkpoint/unsynced_tail_replayed_over_snapshot`, fixed by repo
    197dc525; `Sys.ckptStepsOld` = the steps before that commit): `Manual` mode,
    `put k v1; sync; put k v2; put j w; checkpoint` crashing right after the snapshot is in place.
    Recovery = new snapshot + the synced log prefix replayed over it = `{k ↦ v1, j ↦ w}`,
    which is the map of NO prefix of the operations.  (`checkpoint_crash_safe` shows the repaired
    steps exclude this for every mode.) -/
theorem checkpoint_unsynced_tail_witness :
    let crc := Neumann.Crc32.crc32
    let k := [107]; let j := [106]
    let v1 : Val := ⟨[1], none⟩; let v2 : Val := ⟨[2], none⟩; let w : Val := ⟨[3], none⟩
    let ops := [Op.put k v1, Op.put k v2, Op.put j w]
    let s0 : Sys := ⟨.manual, Wal.openOn [], Store.empty, none⟩
    let s1 := (Sys.op crc toyEnc s0 (ops.getD 0 (.delete []))).sync
    let s2 := (ops.drop 1).foldl (Sys.op crc toyEnc) s1
    ∃ st ∈ Sys.ckptStepsOld crc toyEnc s2 0, ∃ r,
      recover crc toyDec st.snap (st.crashFile 0) = .ok r ∧
      aget r.md k = some v1 ∧ aget r.md j = some w ∧
      ∀ n, ¬ MetaEq r.md (specRun [] (ops.take n)) := by
  intro crc k j v1 v2 w ops s0 s1 s2
  refine ⟨s2.ckptSnapshot, List.mem_cons_self, ?_⟩
  obtain ⟨r, hr, hmd⟩ := exists_ok_of_md
    (x := recover crc toyDec s2.ckptSnapshot.snap (s2.ckptSnapshot.crashFile 0))
    (m := [(k, v1), (j, w)]) (by decide +kernel)
  refine ⟨r, hr, ?_, ?_, ?_⟩
  · rw [hmd]; decide +kernel
  · rw [hmd]; decide +kernel
  · rw [hmd]
    intro n hme
    match n with
    | 0 => exact absurd (hme k) (by decide +kernel)
    | 1 => exact absurd (hme j) (by decide +kernel)
    | 2 => exact absurd (hme k) (by decide +kernel)
    | n + 3 =>
      have ht : ops.take (n + 3) = ops := List.take_of_length_le (by simp [ops])
      rw [ht] at hme
      exact absurd (hme k) (by decide +kernel)

/-- **Before repo a74fb575 a durable write that overlapped a checkpoint was lost** (class
    `tensor_store.slab_router.checkpoint/concurrent_durable_write_lost_by_truncate`;
    `Sys.withCheckpointAtOld` = the schedules possible while `checkpoint` released the log mutex
    between its fsync, the snapshot and the marker + truncate steps).  A `put_durable` of another
    thread that ran after the snapshot was taken and before the log was truncated was logged,
    fsynced and acknowledged (`Immediate`), was not in the snapshot, and its record was wiped by
    the truncation: once the checkpoint had returned, the live store answered the key but
    recovery from the disk, at every cut, did not.  With the mutex held across the four steps
    the same two operations and the checkpoint can only be scheduled as
    `Sys.withCheckpointAt … i` for `i = 0, 1, 2`, and recovery answers the key in each
    (`checkpoint_serialised_with_writes_keeps_every_ack` for every state, operation list and
    schedule). -/
theorem checkpoint_concurrent_write_lost_witness :
    let crc : Bytes → Nat := fun _ => 0
    let ops := [Op.put [97] ⟨[1], none⟩, Op.put [107] ⟨[2], none⟩]
    let s4 := Sys.withCheckpointAtOld crc toyEnc (Sys.fresh .immediate) ops 1 1 0
    (get s4.mem [107] = some ⟨[2], none⟩ ∧
      ∀ n, ∃ r, recover crc toyDec s4.snap (s4.crashFile n) = .ok r ∧ get r [107] = none ∧
        get r [97] = some ⟨[1], none⟩) ∧
    ∀ i ∈ [0, 1, 2], ∀ n, ∃ r,
      recover crc toyDec (Sys.withCheckpointAt crc toyEnc (Sys.fresh .immediate) ops i 0).snap
        ((Sys.withCheckpointAt crc toyEnc (Sys.fresh .immediate) ops i 0).crashFile n) = .ok r ∧
      get r [107] = some ⟨[2], none⟩ ∧ get r [97] = some ⟨[1], none⟩ := by
  intro crc ops s4
  -- everything is synced (`Immediate`): a crash keeps the whole log, whatever the cut
  have go : ∀ (sy : Sys) (p : Store → Bool) (n : Nat),
      (sy.wal.syncedLen = sy.wal.file.length ∧ okAnd (recover crc toyDec sy.snap sy.wal.file) p = true) →
      ∃ r, recover crc toyDec sy.snap (sy.crashFile n) = .ok r ∧ p r = true := by
    intro sy p n ⟨hs, hp⟩
    have : sy.crashFile n = sy.wal.file := by
      unfold Sys.crashFile
      exact List.take_of_length_le (by rw [hs]; exact Nat.le_max_right _ _)
    rw [this]
    exact exists_ok_of_okAnd hp
  refine ⟨⟨by decide +kernel, fun n => ?_⟩, fun i hi n => ?_⟩
  · obtain ⟨r, hr, hp⟩ := go s4 (fun r => decide (get r [107] = none ∧ get r [97] = some ⟨[1], none⟩)) n
      (by decide +kernel)
    exact ⟨r, hr, of_decide_eq_true hp⟩
  · obtain ⟨r, hr, hp⟩ := go (Sys.withCheckpointAt crc toyEnc (Sys.fresh .immediate) ops i 0)
      (fun r => decide (get r [107] = some ⟨[2], none⟩ ∧ get r [97] = some ⟨[1], none⟩)) n
      (by revert i; decide +kernel)
    exact ⟨r, hr, of_decide_eq_true hp⟩

/-- **An `emb:` key stored without a vector read another key's embedding** (class
    `tensor_store.slab_router.recover/stale_entity_id_embedding`, fixed by repo e374d74b;
    `applyEntryOld1` / `putOld` = the code before it): `put emb:a` (no vector), `put emb:b`
    (384-dim vector), crash, recover, `put emb:c` (no vector): `get emb:c` returned `emb:b`'s
    vector.  With the repaired `recover` / `put` it returns what was written. -/
theorem stale_entity_id_embedding_witness :
    let crc : Bytes → Nat := fun _ => 0
    let ka := [101, 109, 98, 58, 97]; let kb := [101, 109, 98, 58, 98]; let kc := [101, 109, 98, 58, 99]
    let vb : Val := ⟨[2], some (List.replicate 1536 7)⟩
    let vc : Val := ⟨[3], none⟩
    let file := logBytes crc toyEnc (runOps Store.empty [Op.put ka ⟨[1], none⟩, Op.put kb vb]).1
    (∃ r, recoverWith applyEntryOld1 crc toyDec none file = .ok r ∧
      get (putOld r kc vc) kc = some ⟨[3], some (List.replicate 1536 7)⟩) ∧
    (∃ r, recover crc toyDec none file = .ok r ∧ get (put r kc vc) kc = some vc) := by
  intro crc ka kb kc vb vc file
  let E := (runOps Store.empty [Op.put ka ⟨[1], none⟩, Op.put kb vb]).1
  have hfit : Fits toyEnc E :=
    runOps_fits_toy _ _ (by
      simp only [vb, List.forall_mem_cons, List.mem_nil_iff, false_imp_iff, implies_true, Op.small, Option.getD,
        List.length_replicate, List.length_cons, List.length_nil]
      decide)
  have hno : NoTx E := by unfold NoTx; decide +kernel
  -- the two replays of the same records, evaluated together
  have h : get (putOld ((afterLastCkpt E).foldl applyEntryOld1 Store.empty) kc vc) kc
        = some ⟨[3], some (List.replicate 1536 7)⟩ ∧
      get (put (replay Store.empty (afterLastCkpt E)) kc vc) kc = some vc := by decide +kernel
  exact ⟨⟨_, recoverWith_full applyEntryOld1 codecOK_toy none E hfit hno, h.1⟩,
    ⟨_, recover_full codecOK_toy none E hfit hno, h.2⟩⟩

/-- **A put on an existing `emb:` key was not atomic** (class
    `tensor_store.slab_router.put_durable/embedding_record_replayed_without_its_metadata_record`,
    fixed by repo 6b9ec7ce; `applyEntryOld2` = replay before it): `put_durable` logs
    `EmbeddingSet` then `MetadataSet`; with the log cut between the two, the old replay returned
    the OLD body with the NEW embedding — `RecoverIsPrefixFull` is false of it.
    (`recover_is_prefix_full` proves it of the repaired replay for every cut.) -/
theorem torn_put_embedding_witness :
    let crc : Bytes → Nat := fun _ => 0
    let k := [101, 109, 98, 58, 97]
    let v1 : Val := ⟨[1], some (List.replicate 1536 1)⟩
    let v2 : Val := ⟨[2], some (List.replicate 1536 2)⟩
    let ops := [Op.put k v1, Op.put k v2]
    let n := (logBytes crc toyEnc ((runOps Store.empty ops).1.take 3)).length
    (runOps Store.empty ops).1.length = 4 ∧
    ¬ RecoverIsPrefixFull (recoverWith applyEntryOld2 crc toyDec) crc toyEnc ops n := by
  intro crc k v1 v2 ops n
  refine ⟨by decide +kernel, ?_⟩
  rintro ⟨j, r, hj, hrec, hfull, -⟩
  have hsmall : ∀ op ∈ ops, op.small := by
    simp only [ops, v1, v2, List.forall_mem_cons, List.mem_nil_iff, false_imp_iff, implies_true, Op.small, Option.getD,
      List.length_replicate, List.length_cons, List.length_nil]
    decide
  -- the cut falls right behind the third record: the second put's `EmbeddingSet` is replayed, its
  -- `MetadataSet` is not
  rw [show (logBytes crc toyEnc (runOps Store.empty ops).1).take n = _ from logBytes_take_boundary _ 3,
    recoverWith_full applyEntryOld2 codecOK_toy none _ ((runOps_fits_toy _ _ hsmall).take 3)
      (by unfold NoTx; decide +kernel)] at hrec
  cases hrec
  -- `get emb:a` answers the first put's body with the second put's vector: the value of no prefix
  have h := hfull k (by decide)
  clear hfull
  revert j
  decide +kernel

/-- **A logged entity id named another key on replay** (class
    `tensor_store.slab_router.recover/logged_entity_id_belongs_to_another_key`, fixed by repo
    6b9ec7ce; writer and replay as they were then: `runOpsOld`, `applyEntryOld2`):
    `put a (vector); delete a; put a (vector); put emb:y (Y); put emb:z (Z)` — the
    live `delete` of the non-`emb:` key kept its index entry, replay of its `EntityRemove` did
    not, so replay's ids ran one ahead and the `EmbeddingSet` of `emb:z` landed on `emb:y`.
    With the WHOLE log (no byte lost) the old replay made `get emb:y` return Z.
    (Since the fix "only `emb:` keys get an entity-index entry" the key `a` no longer has an id
    at all: `non_emb_vector_key_witness`.) -/
theorem logged_entity_id_witness :
    let crc : Bytes → Nat := fun _ => 0
    let a := [97]; let ky := [101, 109, 98, 58, 121]; let kz := [101, 109, 98, 58, 122]
    let vec := fun x => List.replicate 1536 x
    let ops := [Op.put a ⟨[1], some (vec 1)⟩, Op.delete a, Op.put a ⟨[2], some (vec 2)⟩,
                Op.put ky ⟨[3], some (vec 3)⟩, Op.put kz ⟨[4], some (vec 4)⟩]
    let n := (logBytes crc toyEnc (runOpsOld Store.empty ops).1).length
    ¬ RecoverIsPrefixFullOld (recoverWith applyEntryOld2 crc toyDec) crc toyEnc ops n := by
  intro crc a ky kz vec ops n
  intro ⟨j, r, hj, hrec, hfull, hack⟩
  have hsmall : ∀ op ∈ ops, op.small := by
    simp only [ops, vec, List.forall_mem_cons, List.mem_nil_iff, false_imp_iff, implies_true, Op.small,
      Option.getD, List.length_replicate, List.length_cons, List.length_nil]
    decide
  -- no byte is lost: the old replay is applied to every record of the log
  rw [show (logBytes crc toyEnc (runOpsOld Store.empty ops).1).take n = _ from List.take_length,
    recoverWith_full applyEntryOld2 codecOK_toy none _ (runOpsOld_fits_toy _ _ hsmall)
      (by unfold NoTx; decide +kernel)] at hrec
  injection hrec with hrec
  subst hrec
  have hj' : j = 5 := Nat.le_antisymm hj (hack 5 (Nat.le_refl 5) (Nat.le_refl _))
  subst hj'
  -- on the replayed store `get emb:y` answers `⟨[3], Z⟩`; the five operations wrote `⟨[3], Y⟩`
  exact absurd (hfull ky (by decide)) (by decide +kernel)

/-- **A vector stored durably under a non-`emb:` key left the key in `scan` after its deletion**
    (class `tensor_store.slab_router.put_durable/non_emb_key_with_vector_stays_in_scan_after_delete`;
    `putDurableOld` / `runOpsOld` / `applyEntryOld3` = the code before the fix "only `emb:` keys
    get an entity-index entry"): `put_durable a (vector); delete_durable a`.  Before the fix the
    put allocated an entity id for `a` and logged an `EmbeddingSet` record (5 records for the two
    operations); `delete` of a metadata-class key erases the metadata slab only, so the LIVE
    store went on listing `a` in `scan` while `get`/`exists` said absent — and the store
    RECOVERED from the whole log did not list it (replay of the `EntityRemove` record releases
    the id): live and recovered stores disagreed.  With the repaired `put_durable` /
    `apply_wal_entry` the key has no id, the two operations log 2 records, and neither store
    lists the key (for every operation list and crash chain: `scan_lists_only_readable_keys`). -/
theorem non_emb_vector_key_witness :
    let crc : Bytes → Nat := fun _ => 0
    let a := [97]
    let ops := [Op.put a ⟨[1], some (List.replicate 1536 1)⟩, Op.delete a]
    ((runOpsOld Store.empty ops).1.length = 5 ∧
      a ∈ scanKeys (runOpsOld Store.empty ops).2 ∧
      get (runOpsOld Store.empty ops).2 a = none ∧ exists_ (runOpsOld Store.empty ops).2 a = false ∧
      ∃ r, recoverWith applyEntryOld3 crc toyDec none (logBytes crc toyEnc (runOpsOld Store.empty ops).1) = .ok r ∧
        a ∉ scanKeys r) ∧
    ((runOps Store.empty ops).1.length = 2 ∧
      a ∉ scanKeys (runOps Store.empty ops).2 ∧
      ∃ r, recover crc toyDec none (logBytes crc toyEnc (runOps Store.empty ops).1) = .ok r ∧
        a ∉ scanKeys r ∧ get r a = none) := by
  intro crc a ops
  have hsmall : ∀ op ∈ ops, op.small := by
    simp only [ops, List.forall_mem_cons, List.mem_nil_iff, false_imp_iff, implies_true, Op.small, Option.getD,
      List.length_replicate, List.length_cons, List.length_nil]
    decide
  refine ⟨⟨by decide +kernel, by decide +kernel, by decide +kernel, by decide +kernel,
      _, recoverWith_full applyEntryOld3 codecOK_toy none _ (runOpsOld_fits_toy _ _ hsmall)
        (by unfold NoTx; decide +kernel), by decide +kernel⟩,
    by decide +kernel, by decide +kernel,
    _, recover_full codecOK_toy none _ (runOps_fits_toy _ _ hsmall) (by unfold NoTx; decide +kernel),
    by decide +kernel⟩

/-! ### non-vacuity -/

/-- the codec assumptions are satisfiable -/
example : CodecOK (fun _ => 0) toyEnc toyDec := codecOK_toy

/-- a reachable state with two crashes (the first one mid-record) and a non-empty recovered map -/
example : ∃ f tr, Reach (fun _ => 0) toyEnc toyDec none f tr ∧ tr.length = 2 ∧ f ≠ [] := by
  have r0 := Reach.init (crc := fun _ => 0) (enc := toyEnc) (dec := toyDec)
  have r1 := Reach.round Store.empty [Op.put [107] ⟨[1], none⟩] 0 10 r0
    (by decide +kernel) (by unfold Fits; decide +kernel) (by decide +kernel) (by decide) (by decide +kernel)
  have r2 := Reach.round Store.empty [Op.put [107] ⟨[1], none⟩] 1 100 r1
    (by decide +kernel) (by unfold Fits; decide +kernel) (by decide +kernel) (by decide) (by decide +kernel)
  exact ⟨_, _, r2, by decide, by decide +kernel⟩

/-- the hypotheses of `checkpoint_crash_safe` hold of a `Manual`-mode store with an UNSYNCED tail
    (two records written, none synced) -/
example :
    let ops := [Op.put [107] ⟨[1], none⟩, Op.put [106] ⟨[2], none⟩]
    let sy := ops.foldl (Sys.op (fun _ => 0) toyEnc) ⟨.manual, Wal.openOn [], Store.empty, none⟩
    sy.mode = .manual ∧ sy.wal.syncedLen = 0 ∧ sy.wal.file.length = 28 ∧ sy.snap = none ∧
    sy.mem = (runOps Store.empty ops).2 ∧
    sy.wal.file = openRepair [] ++ logBytes (fun _ => 0) toyEnc (runOps Store.empty ops).1 := by
  decide +kernel

/-- the hypotheses of `rotation_keeps_acked_partial` are satisfiable with a non-empty log -/
example : (logBytes (fun _ => 0) toyEnc (runOps Store.empty [Op.put [1] ⟨[1], none⟩]).1).length ≤ 30 := by
  decide +kernel

end Neumann.Durable.Props
