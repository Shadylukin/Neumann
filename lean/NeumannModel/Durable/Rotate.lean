import NeumannModel.Durable.Failing
/-
  C02 — the step boundaries of `TensorWal::rotate` (`LogDir.rotateSteps`): helper lemmas.
  `rotate` removes the oldest segment, shifts the others up by one name, renames the live file to
  `.1` and creates a fresh live file.  No rename overwrites a file that still holds records (its
  target was vacated by the step before), so at every step boundary every record of the live
  file and of every segment but the oldest is still in SOME file; but from the moment the live
  file is renamed, the file recovery reads is missing or empty.
-/
namespace Neumann.Durable

/-- some file of the directory has exactly the content `c` -/
def LogDir.holds (d : LogDir) (c : Bytes) : Prop := d.live = some c ∨ ∃ n, aget d.segs n = some c

theorem renameSeg_live (d : LogDir) (a b : Nat) : (d.renameSeg a b).live = d.live := by
  unfold LogDir.renameSeg; split <;> rfl

theorem renameSeg_src_empty (d : LogDir) (a b : Nat) (hab : a ≠ b) : aget (d.renameSeg a b).segs a = none := by
  unfold LogDir.renameSeg
  cases h : aget d.segs a with
  | none => simpa using h
  | some c =>
    simp only []
    rw [aget_aset_ne _ _ _ _ (Ne.symm hab), aget_aerase_eq]

theorem renameSeg_keeps (d : LogDir) (a b : Nat) (hab : a ≠ b) (hb : aget d.segs b = none) (n : Nat) (c : Bytes)
    (h : aget d.segs n = some c) : ∃ n', aget (d.renameSeg a b).segs n' = some c := by
  unfold LogDir.renameSeg
  cases ha : aget d.segs a with
  | none => exact ⟨n, by simpa using h⟩
  | some ca =>
    simp only []
    by_cases e : n = a
    · subst e
      rw [ha] at h
      injection h with h
      subst h
      exact ⟨b, aget_aset_eq _ _ _⟩
    · have hnb : n ≠ b := by intro e'; subst e'; rw [hb] at h; cases h
      exact ⟨n, by rw [aget_aset_ne _ _ _ _ (Ne.symm hnb), aget_aerase_ne _ _ _ (Ne.symm e)]; exact h⟩

/-- the shifting loop: every state keeps the live file and every segment content, and leaves the
    name `.1` free at the end -/
theorem shift_keeps (d : LogDir) (i : Nat) (hfree : aget d.segs (i + 1) = none) :
    (∀ st ∈ d.shift i, st.live = d.live ∧ ∀ n c, aget d.segs n = some c → ∃ n', aget st.segs n' = some c) ∧
    ((d.shift i).getLast?.getD d).live = d.live ∧
    (∀ n c, aget d.segs n = some c → ∃ n', aget ((d.shift i).getLast?.getD d).segs n' = some c) ∧
    aget ((d.shift i).getLast?.getD d).segs 1 = none := by
  induction i generalizing d with
  | zero =>
    refine ⟨by intro st hst; simp [LogDir.shift] at hst, rfl, fun n c h => ⟨n, h⟩, hfree⟩
  | succ i ih =>
    have hab : i + 1 ≠ i + 2 := by omega
    have hk := renameSeg_keeps d (i + 1) (i + 2) hab hfree
    have hl := renameSeg_live d (i + 1) (i + 2)
    obtain ⟨h1, h2, h3, h4⟩ := ih (d.renameSeg (i + 1) (i + 2)) (renameSeg_src_empty d (i + 1) (i + 2) hab)
    have hlast : ((d.shift (i + 1)).getLast?.getD d)
        = (((d.renameSeg (i + 1) (i + 2)).shift i).getLast?.getD (d.renameSeg (i + 1) (i + 2))) := by
      rw [LogDir.shift, List.getLast?_cons]; rfl
    refine ⟨?_, ?_, ?_, ?_⟩
    · intro st hst
      simp only [LogDir.shift, List.mem_cons] at hst
      rcases hst with rfl | hst
      · exact ⟨hl, hk⟩
      · obtain ⟨a, b⟩ := h1 st hst
        refine ⟨a.trans hl, ?_⟩
        intro n c h
        obtain ⟨n1, hn1⟩ := hk n c h
        exact b n1 c hn1
    · rw [hlast, h2, hl]
    · intro n c h
      rw [hlast]
      obtain ⟨n1, hn1⟩ := hk n c h
      exact h3 n1 c hn1
    · rw [hlast]; exact h4

theorem mem_rotateSteps {m : Nat} {d st : LogDir} (h : st ∈ d.rotateSteps m) :
    let d0 : LogDir := { d with segs := aerase d.segs m }
    let d2 := ((LogDir.shift d0 (m - 1)).getLast?.getD d0).retire
    st = d0 ∨ st ∈ LogDir.shift d0 (m - 1) ∨ st = d2 ∨ st = { d2 with live := some [] } := by
  simp only [LogDir.rotateSteps, List.mem_append, List.mem_cons, List.not_mem_nil, or_false] at h
  rcases h with (h | h) | h | h
  · exact .inl h
  · exact .inr (.inl h)
  · exact .inr (.inr (.inl h))
  · exact .inr (.inr (.inr h))

end Neumann.Durable
