import NeumannModel.Durable.ShardLemmas
import NeumannModel.Durable.Props
/-
  C02 — "reopening a durable store from its log and latest checkpoint yields … every write whose
  call had returned success", on the SHARDED metadata slab (`Shard.lean`): what `get` answers for
  a key after `MetadataSlab::restore` of the snapshot and the replay of the log is what the
  one-list model of the rest of this area (`recover … .md`, about which `Props` speaks) answers —
  for every number of shards and EVERY assignment of keys to shards, provided restore routes a key
  where get looks for it.  ONLY the property theorems and their non-vacuity example; the simulation lemmas are in
  `ShardLemmas.lean`.  The `_witness` theorem refutes the variant whose restore routes by the
  key's first character while get routes by its first byte.
-/
namespace Neumann.Durable.Props
open Neumann.FramedLog Neumann.Durable

/-- **`MetadataSlab::restore` loses and moves nothing, whatever the sharding.**  For every shard
    count, every assignment of keys to shards and every snapshot map (unique keys): after
    `restore`, `get` of every key answers what the snapshot holds for it. -/
theorem restore_get_is_snapshot_get (n : Nat) (sh : Bytes → Nat) (data : List (Bytes × Val))
    (hnd : (data.map (·.1)).Nodup) (k : Bytes) :
    Shard.get n sh (Shard.restore n sh data) k = aget data k := by
  have h0 : ShAgree n sh Shard.empty [] := fun _ => rfl
  have := shagree_restore_aux data h0 k
  unfold Shard.restore
  rw [this, aget_foldl_aset data hnd k []]
  cases aget data k <;> rfl

/-- **Recovery on the sharded slab is recovery on one map, whatever the sharding.**  For every
    shard count `n`, every assignment `sh` of keys to shards, every snapshot (unique keys) and
    every log file: recovery of the sharded slab is refused exactly when `recover` is, and
    otherwise `get` of EVERY key on the shards answers `aget (recover …).md` — the value every
    theorem of `Props` about the recovered store (`recover_is_prefix_full`, `checkpoint_crash_safe`,
    `recover_then_write_full`, …) is stated for.  So every acknowledged write is readable through
    `get` after recovery from snapshot + log, whichever shard its key belongs to. -/
theorem recovered_get_whatever_the_sharding (n : Nat) (sh : Bytes → Nat) (crc : Bytes → Nat)
    (dec : Bytes → Option Entry) (snap : Option Store) (file : Bytes)
    (hnd : ((snap.getD Store.empty).md.map (·.1)).Nodup) :
    match recover crc dec snap file, Shard.recoverMd n sh sh crc dec snap file with
    | .ok s, .ok shs => ∀ k, Shard.get n sh shs k = aget s.md k
    | .error _, .error _ => True
    | _, _ => False := by
  unfold recover Shard.recoverMd
  by_cases hb : (entriesOf crc dec file).2 = .badCrc
  · simp [hb]
  · simp only [hb, if_false]
    intro k
    rw [replay_md]
    exact shagree_replay _ (fun key => restore_get_is_snapshot_get n sh _ hnd key) k

/-- non-vacuity: a snapshot holding "к" (first byte 0xD0) and "a", a log that overwrites "a":
    sixteen shards by first byte, `get` finds both values -/
example :
    let shs := Shard.replay 16 Shard.firstByte
      (Shard.restore 16 Shard.firstByte [([0xD0, 0xBA], ⟨[1], none⟩), ([97], ⟨[2], none⟩)]) [.metaSet [97] ⟨[3], none⟩]
    (Shard.get 16 Shard.firstByte shs [0xD0, 0xBA], Shard.get 16 Shard.firstByte shs [97]) =
      (some ⟨[1], none⟩, some ⟨[3], none⟩) := by decide

/-- **Witness (seeded change C02_8): restore that routes by the first CHARACTER.**  `restore`
    sends "к" (U+043A, 1082 % 16 = 10) to shard 10, `get` looks in shard 0xD0 % 16 = 0: the key,
    held by the snapshot, is not found after restore + replay; the ASCII key is; a later set of
    the lost key puts a SECOND copy into shard 0 while the orphan stays in shard 10. -/
theorem restore_by_first_char_loses_key_witness :
    let data : List (Bytes × Val) := [([0xD0, 0xBA], ⟨[1], none⟩), ([97], ⟨[2], none⟩)]
    let shs := Shard.replay 16 Shard.firstByte (Shard.restore 16 Shard.firstChar data) [.metaSet [97] ⟨[3], none⟩]
    aget data [0xD0, 0xBA] = some ⟨[1], none⟩ ∧
    Shard.get 16 Shard.firstByte shs [0xD0, 0xBA] = none ∧
    Shard.get 16 Shard.firstByte shs [97] = some ⟨[3], none⟩ ∧
    (Shard.set 16 Shard.firstByte shs [0xD0, 0xBA] ⟨[4], none⟩) 10 = [([0xD0, 0xBA], ⟨[1], none⟩)] := by decide

end Neumann.Durable.Props
