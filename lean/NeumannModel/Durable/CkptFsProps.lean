import NeumannModel.Durable.CkptFsLemmas
import NeumannModel.Durable.Props
/-
  C02 — "Taking a checkpoint never loses or resurrects data, wherever a crash falls inside it",
  with the FILES of the snapshot step as state (`CkptFs.lean`): the snapshot file and the
  temporary file `<snapshot>.tmp` as bytes, and with them what an interrupted checkpoint leaves
  behind for every later checkpoint on the same path.
  ONLY the property theorems and their non-vacuity examples; the crash model `FReach`, the lemmas
  on the file-system calls and the concrete snapshot codec are in `CkptFsLemmas.lean`.

  The snapshot serializer is opaque: `ser` is the image `save_v3` writes for a store, `de` is
  `load`; assumed: `de (ser s) = some s` (C07's subject; the harness runs the real ones).  Nothing
  is assumed about `de` on any other byte string — in particular `de` may reject (as zstd and
  bitcode do) or accept an image with bytes behind it.

  The code opens the temporary file with `File::create` (created or TRUNCATED): `SnapFs.create`.
  The `_witness` theorems refute the variant that opens it without truncation (`SnapFs.openKeep`).
-/
namespace Neumann.Durable.Props
open Neumann.FramedLog Neumann.Durable

variable {crc : Bytes → Nat} {enc : Entry → Bytes} {dec : Bytes → Option Entry}
  {ser : Store → Bytes} {de : Bytes → Option Store}

/-- **The snapshot a save installs depends only on the image.**  Whatever the snapshot file and
    the temporary file held before — nothing, an older snapshot, the empty / partly written /
    complete temporary file of an interrupted checkpoint, any bytes at all — after
    `save_v3(path)` the snapshot file is exactly `header ++ body` and no temporary file is left. -/
theorem save_installs_exactly_the_image (d : SnapFs) (hdr body : Bytes) :
    SnapFs.save false d hdr body = ⟨some (hdr ++ body), none, 0⟩ :=
  save_create d hdr body

/-- **A crash inside the snapshot step leaves the old snapshot alone**: at every file-system call
    boundary before the rename and for every byte prefix of the image written so far, the
    snapshot file is what it was and the temporary file holds exactly that prefix (nothing of an
    older temporary file); after the rename the snapshot file is the image. -/
theorem save_crash_states_old_or_new (d : SnapFs) (hdr body : Bytes) :
    ∀ st ∈ SnapFs.saveStates false d hdr body,
      (st.snap = d.snap ∧ ∃ j, j ≤ (hdr ++ body).length ∧ st.tmp = some ((hdr ++ body).take j)) ∨
      st = ⟨some (hdr ++ body), none, 0⟩ := by
  intro st hst
  simp only [SnapFs.saveStates, List.mem_append, List.mem_singleton] at hst
  rcases hst with h | rfl
  · exact Or.inl (saveCrashTmp_shape h)
  · exact Or.inr (save_create d hdr body)

/-- non-vacuity: a directory with an old snapshot and a LONGER stale temporary file; the crash
    states of a save of a 3-byte image (header 2 bytes) are: temporary file empty, 1, 2, 2, 3 bytes
    — never a byte of the stale file — and the renamed state. -/
example :
    SnapFs.saveStates false ⟨some [9], some [7, 7, 7, 7, 7, 7], 4⟩ [1, 2] [3]
      = [⟨some [9], some [], 0⟩, ⟨some [9], some [1], 1⟩, ⟨some [9], some [1, 2], 2⟩,
         ⟨some [9], some [1, 2], 2⟩, ⟨some [9], some [1, 2, 3], 3⟩, ⟨some [1, 2, 3], none, 0⟩] := by
  decide

/-- **A completed checkpoint installs the image of the store, whatever an earlier interrupted
    checkpoint left behind**: the files after `checkpoint(path)` are the same for EVERY content of
    the directory before it, the snapshot file is exactly `ser mem`, it loads as the store, no
    temporary file is left, the log is empty — and recovery from these files returns the live
    store itself. -/
theorem checkpoint_installs_image_of_store (hs : ∀ s, de (ser s) = some s) (fy : FSys) (id : Nat) :
    (FSys.checkpoint crc enc ser false fy id).fs = ⟨some (ser fy.mem), none, 0⟩ ∧
    (∀ d' : SnapFs, (FSys.checkpoint crc enc ser false { fy with fs := d' } id).fs
        = (FSys.checkpoint crc enc ser false fy id).fs) ∧
    loadSnap de (FSys.checkpoint crc enc ser false fy id).fs = some (some fy.mem) ∧
    ∀ n, recoverFs crc dec de (FSys.checkpoint crc enc ser false fy id).fs
        ((FSys.checkpoint crc enc ser false fy id).crashFile n) = .ok fy.mem := by
  have hfs : ∀ fy' : FSys, (FSys.checkpoint crc enc ser false fy' id).fs = ⟨some (ser fy'.mem), none, 0⟩ := by
    intro fy'
    show SnapFs.save false fy'.fs _ _ = _
    rw [save_create, List.take_append_drop]
  have hload : loadSnap de (FSys.checkpoint crc enc ser false fy id).fs = some (some fy.mem) := by
    rw [hfs]; simp [loadSnap, hs]
  refine ⟨hfs fy, fun d' => by rw [hfs, hfs], hload, fun n => ?_⟩
  have hfile : (FSys.checkpoint crc enc ser false fy id).crashFile n = [] := List.take_nil
  rw [hfile, recoverFs_of_load hload, recover_nil]
  rfl

/-- non-vacuity of `checkpoint_installs_image_of_store` (the concrete codec satisfies the
    hypothesis) and of the quantifier over the directory: a stale temporary file longer than the
    image, an old snapshot. -/
example :
    let fy : FSys := ⟨.immediate, Wal.openOn [], (runOps Store.empty [Op.put [97] ⟨[1], none⟩]).2,
      ⟨some [5, 5], some (List.replicate 40 7), 3⟩⟩
    (∀ s, toySnapDe (toySnapSer s) = some s) ∧
    (FSys.checkpoint (fun _ => 0) toyEnc toySnapSer false fy 0).fs = ⟨some (toySnapSer fy.mem), none, 0⟩ ∧
    (toySnapSer fy.mem).length < 40 :=
  ⟨toySnapDe_toySnapSer, by decide +kernel⟩

/-- **Checkpoint is crash safe at EVERY file-system call boundary, on a directory with ANY
    leftovers.**  From every reachable disk state whose snapshot file holds `snap` — the temporary
    file is ARBITRARY: absent, or whatever an earlier interrupted checkpoint left — a running
    store that has logged the records of any operation list takes a checkpoint.  At every crash
    state — log fsynced; temporary file created (truncated); any byte prefix of the image written;
    image complete and not renamed; renamed; marker partly or wholly appended; log truncated — and
    for every crash cut of the log the sync state allows: the snapshot file is readable, the disk
    state is again a reachable one with everything acknowledged, recovery succeeds and `get`
    answers every key outside the `_cache:` class exactly as the live store did before the
    checkpoint. -/
theorem checkpoint_fs_crash_safe (hc : CodecOK crc enc dec) (hs : ∀ s, de (ser s) = some s)
    {snap : Option Store} {f : Bytes} {tr : Trace}
    (h : Reach crc enc dec snap f tr) (mem0 : Store) (hr : recover crc dec snap f = .ok mem0)
    (ops : List Op) (hfit : Fits enc (runOps mem0 ops).1) (id : Nat)
    (hid : (enc (.checkpoint id)).length < U32)
    (fy : FSys) (hload : loadSnap de fy.fs = some snap) (hmem : fy.mem = (runOps mem0 ops).2)
    (hfile : fy.wal.file = openRepair f ++ logBytes crc enc (runOps mem0 ops).1) :
    ∀ st ∈ FSys.ckptStates crc enc ser false fy id, ∀ n,
      ∃ snap' r, loadSnap de st.fs = some snap' ∧
        Reach crc enc dec snap' (st.crashFile n) (tr ++ [(ops, ops.length)]) ∧
        recoverFs crc dec de st.fs (st.crashFile n) = .ok r ∧
        ∀ k, isCacheKey k = false → get r k = get fy.mem k := by
  have base := (checkpoint_crash_safe hc h mem0 hr ops hfit id hid (fy.view snap) rfl hmem hfile).1
  -- every file-level crash state is, seen through its snapshot file, one of the four abstract ones
  have lift : ∀ (st : FSys) (st' : Sys), st' ∈ Sys.ckptSteps crc enc (fy.view snap) id →
      loadSnap de st.fs = some st'.snap → st.view st'.snap = st' →
      ∀ n, ∃ snap' r, loadSnap de st.fs = some snap' ∧
        Reach crc enc dec snap' (st.crashFile n) (tr ++ [(ops, ops.length)]) ∧
        recoverFs crc dec de st.fs (st.crashFile n) = .ok r ∧
        ∀ k, isCacheKey k = false → get r k = get fy.mem k := by
    intro st st' hmem' hl hv n
    obtain ⟨hre, r, hrec, -, hget, -⟩ := base st' hmem' n
    have hcf : st.crashFile n = st'.crashFile n := by rw [← hv]; rfl
    refine ⟨st'.snap, r, hl, ?_, ?_, hget⟩
    · rw [hcf]; exact hre
    · rw [hcf, recoverFs_of_load hl]; exact hrec
  intro st hst
  simp only [FSys.ckptStates, SnapFs.saveStates, List.mem_append, List.mem_cons, List.mem_map,
    List.not_mem_nil, or_false] at hst
  rcases hst with (rfl | ⟨d, (hd | rfl), rfl⟩) | rfl | rfl
  · -- log fsynced
    exact lift _ (fy.view snap).ckptSync (.head _) hload rfl
  · -- inside the snapshot step, before the rename: old snapshot, whole log, a temporary file
    exact lift _ (fy.view snap).ckptSync (.head _)
      (by rw [loadSnap_of_snap_eq (saveCrashTmp_shape hd).1]; exact hload) rfl
  · -- renamed
    exact lift _ (fy.view snap).ckptSync.ckptSnapshot (.tail _ (.head _)) (loadSnap_save hs _ _) rfl
  · -- marker appended
    exact lift _ ((fy.view snap).ckptSync.ckptSnapshot.ckptMarker crc enc id) (.tail _ (.tail _ (.head _)))
      (loadSnap_save hs _ _) rfl
  · -- log truncated
    exact lift _ ((fy.view snap).ckptSync.ckptSnapshot.ckptMarker crc enc id).ckptTruncate
      (.tail _ (.tail _ (.tail _ (.head _)))) (loadSnap_save hs _ _) rfl

/-- non-vacuity of `checkpoint_fs_crash_safe`: the hypotheses hold of a fresh store that has run
    one put, on a directory that holds a stale temporary file LONGER than the image; the list of
    crash states is not trivial (fsynced + 1 + image length + 1 temp states + renamed + marker +
    truncated). -/
example :
    let crc : Bytes → Nat := fun _ => 0
    let ops := [Op.put [97] ⟨[1], none⟩]
    let fy : FSys := ⟨.immediate,
      ⟨openRepair [] ++ logBytes crc toyEnc (runOps Store.empty ops).1, 0, 0⟩,
      (runOps Store.empty ops).2, ⟨none, some (List.replicate 40 7), 0⟩⟩
    Reach crc toyEnc toyDec none [] [] ∧ recover crc toyDec none [] = .ok Store.empty ∧
    loadSnap toySnapDe fy.fs = some none ∧
    (FSys.ckptStates crc toyEnc toySnapSer false fy 0).length = 1 + ((toySnapSer fy.mem).length + 2) + 1 + 2 :=
  ⟨Reach.init, recover_nil _, rfl, by decide +kernel⟩

/-- **Any number of crashes, at every step boundary of every checkpoint, temporary files left
    behind included — FULL observable image** (induction on the crash chain `FReach`): any number
    of recover / write / crash rounds in which a crash may fall inside the snapshot step of a
    checkpoint (leaving the temporary file empty, partly written or complete next to the old
    snapshot), after the rename, inside or after the marker, after the truncation, and in which
    every later round, every later checkpoint and every later recovery runs on the SAME paths
    with whatever was left there.  Recovery from the files succeeds and `get` on the recovered
    store answers, for every key outside the `_cache:` class, exactly what a history wrote that
    takes, epoch by epoch, a prefix of the operations containing all acknowledged ones. -/
theorem crash_chain_with_leftover_temp_files_recovers (hc : CodecOK crc enc dec)
    (hs : ∀ s, de (ser s) = some s) {d : SnapFs} {f : Bytes} {tr : Trace}
    (h : FReach crc enc dec ser de d f tr) :
    ∃ H r, PrefixOf tr H ∧ recoverFs crc dec de d f = .ok r ∧ FullEq r (specRun [] H) := by
  obtain ⟨snap, hl, hre⟩ := freach_sound hs h
  obtain ⟨H, r, hpre, hr, hfull⟩ := recover_then_write_full hc hre
  exact ⟨H, r, hpre, (recoverFs_of_load hl f).2 hr, hfull⟩

/-- non-vacuity of `crash_chain_with_leftover_temp_files_recovers`, on the shape of history that
    needs the truncation: one put; a checkpoint interrupted with the whole image in the temporary
    file, not renamed; recovery; a delete (the next image is shorter than the stale temporary
    file); a checkpoint that completes, run on the directory as the crash left it.  The final
    state is in `FReach`; its snapshot file is the 4-byte image of the empty store although the
    temporary file it was written through had held 9 bytes. -/
example :
    let crc : Bytes → Nat := fun _ => 0
    let ops1 := [Op.put [97] ⟨[1], none⟩]
    let mem1 := (runOps Store.empty ops1).2
    let left : SnapFs := ⟨none, some (toySnapSer mem1), (toySnapSer mem1).length⟩
    let log1 := openRepair [] ++ logBytes crc toyEnc (runOps Store.empty ops1).1
    let ops2 := [Op.delete [97]]
    FReach crc toyEnc toyDec toySnapSer toySnapDe left log1 ([] ++ [(ops1, ops1.length)]) ∧
    FReach crc toyEnc toyDec toySnapSer toySnapDe ⟨some [0, 0, 0, 0], none, 0⟩ []
      ([] ++ [(ops1, ops1.length)] ++ [(ops2, ops2.length)]) ∧
    (toySnapSer mem1).length = 9 := by
  intro crc ops1 mem1 left log1 ops2
  have h1 : FReach crc toyEnc toyDec toySnapSer toySnapDe left log1 ([] ++ [(ops1, ops1.length)]) :=
    FReach.ckptTmp Store.empty ops1 left FReach.init (by decide +kernel) (by unfold Fits; decide +kernel)
      (by decide +kernel)
  refine ⟨h1, ?_, by decide +kernel⟩
  have h2 := FReach.ckptDone (ser := toySnapSer) (de := toySnapDe) mem1 ops2 h1
    (by decide +kernel) (by unfold Fits; decide +kernel)
  have e : SnapFs.save false left ((toySnapSer (runOps mem1 ops2).2).take snapHeaderLen)
      ((toySnapSer (runOps mem1 ops2).2).drop snapHeaderLen) = ⟨some [0, 0, 0, 0], none, 0⟩ := by
    decide +kernel
  rw [e] at h2
  exact h2

/-- what a save through a temporary file opened WITHOUT truncation installs (NOT the code): the
    image followed by the bytes of the stale temporary file beyond the image's length — exact if
    and only if the stale file is not longer than the image. -/
theorem save_no_truncate_final_content (d : SnapFs) (hdr body : Bytes) :
    SnapFs.save true d hdr body
      = ⟨some (hdr ++ body ++ (d.tmp.getD []).drop (hdr.length + body.length)), none, 0⟩ ∧
    (SnapFs.save true d hdr body = SnapFs.save false d hdr body ↔
      (d.tmp.getD []).length ≤ (hdr ++ body).length) := by
  refine ⟨save_keep d hdr body, ?_⟩
  rw [save_keep, save_create]
  constructor
  · intro h
    injection h with h1 _ _
    injection h1 with h1
    have := congrArg List.length h1
    simp only [List.length_append, List.length_drop] at this ⊢
    omega
  · intro h
    rw [List.drop_eq_nil_of_le (by simpa using h), List.append_nil]

/-- **A temporary file opened without truncation breaks a COMPLETED checkpoint** (the regression
    class `tensor_store.snapshot.save/stale_temp_file_corrupts_checkpoint_snapshot`;
    `SnapFs.openKeep` = `OpenOptions::new().write(true).create(true)`): two puts; a checkpoint
    interrupted when its image is wholly in the temporary file and not yet renamed (old snapshot
    absent, log intact); recovery — fine; a delete, so that the next image is shorter; a checkpoint
    that COMPLETES (snapshot renamed into place, marker logged, log truncated); recovery: the
    snapshot file is the new image followed by the tail of the stale one, `load` rejects it and
    with the log truncated every acknowledged write is gone.  With the code as it is
    (`SnapFs.create`) the same history recovers exactly the surviving key. -/
theorem checkpoint_no_truncate_stale_tmp_witness :
    isSnapErr (staleTmpScenario true) = true ∧
    ∃ r, staleTmpScenario false = .ok r ∧ get r [98] = some ⟨[2], none⟩ ∧ get r [97] = none := by
  refine ⟨by decide +kernel, ?_⟩
  obtain ⟨r, hr, hp⟩ := exists_ok_of_okAndF
    (x := staleTmpScenario false)
    (p := fun r => decide (get r [98] = some ⟨[2], none⟩ ∧ get r [97] = none)) (by decide +kernel)
  exact ⟨r, hr, of_decide_eq_true hp⟩

end Neumann.Durable.Props
