import NeumannModel.Durable.Shard
import NeumannModel.Durable.Lemmas
/-
  C02 — lemmas on the sharded metadata slab (`Shard.lean`): the simulation `ShAgree` between the
  shard array and the one association list of the durable model, kept by set / delete / replay /
  the insert loop of restore, for any shard count and any assignment of keys to shards.
  The property theorems are in `ShardProps.lean`.
-/
namespace Neumann.Durable.Props
open Neumann.FramedLog Neumann.Durable

/-- shards and one list answer every `get` alike -/
def ShAgree (n : Nat) (sh : Bytes → Nat) (shs : Shard.Shards) (m : List (Bytes × Val)) : Prop :=
  ∀ k, Shard.get n sh shs k = aget m k

variable {n : Nat} {sh : Bytes → Nat} {shs : Shard.Shards} {m : List (Bytes × Val)}

theorem shagree_update (h : ShAgree n sh shs m) (k : Bytes) (f : List (Bytes × Val) → List (Bytes × Val))
    (x : Option Val)
    (hself : ∀ l, aget (f l) k = x) (hne : ∀ l key, k ≠ key → aget (f l) key = aget l key) :
    ShAgree n sh (fun i => if i = sh k % n then f (shs i) else shs i) (f m) := by
  intro key
  show aget (if sh key % n = sh k % n then f (shs (sh key % n)) else shs (sh key % n)) key = _
  by_cases hk : k = key
  · subst hk; rw [if_pos rfl, hself, hself]
  · rw [hne _ _ hk, ← h key]
    split
    · rw [hne _ _ hk]; rfl
    · rfl

theorem shagree_set (h : ShAgree n sh shs m) (k : Bytes) (v : Val) : ShAgree n sh (Shard.set n sh shs k v) (aset m k v) :=
  shagree_update h k (aset · k v) (some v) (aget_aset_eq · k v) (fun l key => aget_aset_ne l k key v)

theorem shagree_delete (h : ShAgree n sh shs m) (k : Bytes) : ShAgree n sh (Shard.delete n sh shs k) (aerase m k) :=
  shagree_update h k (aerase · k) none (aget_aerase_eq · k) (fun l key => aget_aerase_ne l k key)

theorem shagree_replay (es : List Entry) (h : ShAgree n sh shs m) :
    ShAgree n sh (Shard.replay n sh shs es) (replayMeta m es) := by
  induction es generalizing shs m with
  | nil => exact h
  | cons e es ih =>
    refine ih (shs := Shard.apply n sh shs e) (m := metaApply m e) ?_
    cases e with
    | metaSet k v => exact shagree_set h k v
    | metaDel k => exact shagree_delete h k
    | _ => exact h

theorem aget_none_of_not_mem {m : List (Bytes × Val)} {k : Bytes} (h : k ∉ m.map (·.1)) : aget m k = none := by
  induction m with
  | nil => rfl
  | cons p m ih =>
    obtain ⟨k', v⟩ := p
    simp only [List.map_cons, List.mem_cons, not_or] at h
    simp only [aget]
    rw [if_neg (fun e => h.1 e.symm)]
    exact ih h.2

/-- the insert loop of `restore` on one list: the last entry of a key decides; on a map (unique
    keys, which a snapshot is) that is the map itself -/
theorem aget_foldl_aset (data : List (Bytes × Val)) (hnd : (data.map (·.1)).Nodup) (k : Bytes) :
    ∀ m : List (Bytes × Val), aget (data.foldl (fun m p => aset m p.1 p.2) m) k =
      match aget data k with | some v => some v | none => aget m k := by
  induction data with
  | nil => intro m; rfl
  | cons p rest ih =>
    intro m
    obtain ⟨k', v⟩ := p
    simp only [List.map_cons, List.nodup_cons] at hnd
    simp only [List.foldl_cons]
    rw [ih hnd.2]
    by_cases hk : k' = k
    · subst hk
      rw [aget_none_of_not_mem hnd.1]
      simp [aget, aget_aset_eq]
    · simp only [aget, hk, if_false]
      rw [aget_aset_ne _ _ _ _ hk]

theorem shagree_restore_aux (data : List (Bytes × Val)) (h : ShAgree n sh shs m) :
    ShAgree n sh (data.foldl (fun shs p => Shard.set n sh shs p.1 p.2) shs)
      (data.foldl (fun m p => aset m p.1 p.2) m) := by
  induction data generalizing shs m with
  | nil => exact h
  | cons p rest ih => exact ih (shagree_set h _ _)

end Neumann.Durable.Props
