import NeumannModel.Durable.Model
import NeumannModel.Common.FramedLogLemmas
import NeumannModel.Common.Crc32
/-
  C02 — definitions used by the property statements (crash model `Reach`, what "a prefix of
  the writes that contains every acknowledged one" means, assumptions on the opaque codec)
  and the helper lemmas for `Props.lean`.
-/
namespace Neumann.Durable
open Neumann.FramedLog

/-! ### vocabulary of the statements -/

/-- what is assumed of bitcode (`dec ∘ enc = id`) and of the checksum (fits a u32) -/
structure CodecOK (crc : Bytes → Nat) (enc : Entry → Bytes) (dec : Bytes → Option Entry) : Prop where
  dec_enc : ∀ e, dec (enc e) = some e
  crc_lt : ∀ p, crc p < U32

/-- two metadata maps answer every `get` alike (hence also list the same keys) -/
def MetaEq (m m' : List (Bytes × Val)) : Prop := ∀ k, aget m k = aget m' k

/-- every record fits the u32 length field (otherwise the real `append` fails with `EntryTooLarge`) -/
def Fits (enc : Entry → Bytes) (es : List Entry) : Prop := ∀ e ∈ es, (enc e).length < U32

/-- bytes the writer produces for a list of entries -/
def logBytes (crc : Bytes → Nat) (enc : Entry → Bytes) (es : List Entry) : Bytes :=
  encodeAll crc (es.map enc)

/-- per epoch (= one open … crash stretch): the operations issued, and how many of them had been
    acknowledged (returned under `Immediate`, or covered by a later `sync`) when the crash hit -/
abbrev Trace := List (List Op × Nat)

/-- **The crash model.**  Disk states (snapshot file, log file) reachable by any number of rounds
    `recover → issue operations → crash`, where a crash keeps any byte prefix of the log that
    contains (a) everything that was on disk when the log was reopened and (b) the records of
    every acknowledged operation; plus the crash points inside `checkpoint`
    (snapshot renamed into place / marker partly or fully written / log truncated) taken when
    the log is fully synced. -/
inductive Reach (crc : Bytes → Nat) (enc : Entry → Bytes) (dec : Bytes → Option Entry) :
    Option Store → Bytes → Trace → Prop where
  | init : Reach crc enc dec none [] []
  | round {snap f tr} (mem0 : Store) (ops : List Op) (acked n : Nat) :
      Reach crc enc dec snap f tr →
      recover crc dec snap f = .ok mem0 →
      Fits enc (runOps mem0 ops).1 →
      (openRepair f).length ≤ n →
      acked ≤ ops.length →
      (openRepair f ++ logBytes crc enc (runOps mem0 (ops.take acked)).1).length ≤ n →
      Reach crc enc dec snap
        ((openRepair f ++ logBytes crc enc (runOps mem0 ops).1).take n) (tr ++ [(ops, acked)])
  | ckptCrash {snap f tr} (mem0 : Store) (ops : List Op) (id m : Nat) :
      Reach crc enc dec snap f tr →
      recover crc dec snap f = .ok mem0 →
      Fits enc (runOps mem0 ops).1 →
      (enc (.checkpoint id)).length < U32 →
      Reach crc enc dec (some (runOps mem0 ops).2)
        (openRepair f ++ logBytes crc enc (runOps mem0 ops).1
          ++ (encodeRec crc (enc (.checkpoint id))).take m)
        (tr ++ [(ops, ops.length)])
  | ckptDone {snap f tr} (mem0 : Store) (ops : List Op) :
      Reach crc enc dec snap f tr →
      recover crc dec snap f = .ok mem0 →
      Fits enc (runOps mem0 ops).1 →
      Reach crc enc dec (some (runOps mem0 ops).2) [] (tr ++ [(ops, ops.length)])

/-- `H` consists, epoch by epoch and in order, of a prefix of that epoch's operations which
    contains at least the acknowledged ones -/
inductive PrefixOf : Trace → List Op → Prop where
  | nil : PrefixOf [] []
  | snoc {tr H} (ops : List Op) (acked k : Nat) :
      PrefixOf tr H → acked ≤ k → k ≤ ops.length →
      PrefixOf (tr ++ [(ops, acked)]) (H ++ ops.take k)

/-! ### a concrete codec (only to show the hypotheses are satisfiable and to run witnesses) -/

def encB (b : Bytes) : Bytes := b.length :: b

def decB : Bytes → Option (Bytes × Bytes)
  | [] => none
  | n :: r => if n ≤ r.length then some (r.take n, r.drop n) else none

def toyEnc : Entry → Bytes
  | .metaSet k v => 0 :: encB k ++ encB v.body ++ (match v.emb with | none => [0] | some e => 1 :: e)
  | .metaDel k => 1 :: k
  | .embSet id vec => 2 :: id :: vec
  | .embDel id => [3, id]
  | .entCreate k id => 4 :: id :: k
  | .entRemove k => 5 :: k
  | .txBegin t => [6, t]
  | .txCommit t => [7, t]
  | .txAbort t => [8, t]
  | .checkpoint id => [9, id]

def toyDec : Bytes → Option Entry
  | 0 :: r =>
      match decB r with
      | some (k, r1) =>
          match decB r1 with
          | some (b, [0]) => some (.metaSet k ⟨b, none⟩)
          | some (b, 1 :: e) => some (.metaSet k ⟨b, some e⟩)
          | _ => none
      | none => none
  | 1 :: k => some (.metaDel k)
  | 2 :: id :: vec => some (.embSet id vec)
  | [3, id] => some (.embDel id)
  | 4 :: id :: k => some (.entCreate k id)
  | 5 :: k => some (.entRemove k)
  | [6, t] => some (.txBegin t)
  | [7, t] => some (.txCommit t)
  | [8, t] => some (.txAbort t)
  | [9, id] => some (.checkpoint id)
  | _ => none

section assoc
variable {α : Type _} {β : Type _} [DecidableEq α]

theorem aget_aerase_eq (m : List (α × β)) (k : α) : aget (aerase m k) k = none := by
  induction m with
  | nil => simp [aerase, aget]
  | cons p m ih =>
    obtain ⟨k', v⟩ := p
    unfold aerase at *
    by_cases h : k' = k
    · simp [h, ih]
    · simp [h, aget, ih]

theorem aget_aerase_ne (m : List (α × β)) (k key : α) (hne : k ≠ key) :
    aget (aerase m k) key = aget m key := by
  induction m with
  | nil => simp [aerase, aget]
  | cons p m ih =>
    obtain ⟨k', v⟩ := p
    unfold aerase at *
    by_cases h : k' = k
    · subst h; simp [aget, hne, ih]
    · simp [h, aget, ih]

theorem aget_aset_eq (m : List (α × β)) (k : α) (v : β) : aget (aset m k v) k = some v := by
  simp [aset, aget]

theorem aget_aset_ne (m : List (α × β)) (k key : α) (v : β) (hne : k ≠ key) :
    aget (aset m k v) key = aget m key := by
  simp [aset, aget, hne, aget_aerase_ne m k key hne]

theorem aerase_of_aget_none (m : List (α × β)) (k : α) (h : aget m k = none) : aerase m k = m := by
  induction m with
  | nil => simp [aerase]
  | cons p m ih =>
    obtain ⟨k', v⟩ := p
    unfold aerase at *
    by_cases hk : k' = k
    · simp [aget, hk] at h
    · simp [aget, hk] at h
      simp [hk, ih h]
end assoc

def metaApply (m : List (Bytes × Val)) : Entry → List (Bytes × Val)
  | .metaSet k v => aset m k v
  | .metaDel k => aerase m k
  | _ => m

def replayMeta (m : List (Bytes × Val)) (es : List Entry) : List (Bytes × Val) := es.foldl metaApply m

def isNeutral : Entry → Bool
  | .metaSet _ _ => false
  | .metaDel _ => false
  | _ => true

def isTx : Entry → Bool
  | .txBegin _ => true
  | .txCommit _ => true
  | .txAbort _ => true
  | _ => false

def isCkpt : Entry → Bool
  | .checkpoint _ => true
  | _ => false

/-- records the writer can log: no `MetadataSet` of a `_cache:` key, no `EntityCreate` -/
def EntryOk : Entry → Prop
  | .metaSet k _ => classify k ≠ .cache
  | .entCreate _ _ => False
  | _ => True

theorem isCacheKey_eq_true {k : Bytes} : isCacheKey k = true ↔ classify k = .cache := by
  simp [isCacheKey]

theorem isCacheKey_eq_false {k : Bytes} : isCacheKey k = false ↔ classify k ≠ .cache := by
  simp [isCacheKey]

theorem applyEntry_md (s : Store) (e : Entry) : (applyEntry s e).md = metaApply s.md e := by
  cases e <;> simp only [applyEntry, metaApply]
  split <;> rfl

theorem applyEntry_cache (s : Store) (e : Entry) : (applyEntry s e).cache = s.cache := by
  cases e <;> simp only [applyEntry]
  split <;> rfl

theorem replay_md (s : Store) (es : List Entry) : (replay s es).md = replayMeta s.md es := by
  induction es generalizing s with
  | nil => rfl
  | cons e es ih =>
    simp only [replay, replayMeta, List.foldl_cons] at *
    rw [ih, applyEntry_md]

theorem replay_cache (s : Store) (es : List Entry) : (replay s es).cache = s.cache := by
  induction es generalizing s with
  | nil => rfl
  | cons e es ih =>
    simp only [replay, List.foldl_cons] at *
    rw [ih, applyEntry_cache]

theorem replayMeta_nil (m : List (Bytes × Val)) : replayMeta m [] = m := rfl

theorem replayMeta_cons (m : List (Bytes × Val)) (e : Entry) (es : List Entry) :
    replayMeta m (e :: es) = replayMeta (metaApply m e) es := rfl

theorem replayMeta_append (m : List (Bytes × Val)) (xs ys : List Entry) :
    replayMeta m (xs ++ ys) = replayMeta (replayMeta m xs) ys := by
  simp [replayMeta, List.foldl_append]

theorem metaApply_neutral (m : List (Bytes × Val)) (e : Entry) (h : isNeutral e = true) :
    metaApply m e = m := by
  cases e <;> simp_all [isNeutral, metaApply]

theorem replayMeta_neutral (m : List (Bytes × Val)) (es : List Entry)
    (h : ∀ e ∈ es, isNeutral e = true) : replayMeta m es = m := by
  induction es generalizing m with
  | nil => rfl
  | cons e es ih =>
    rw [replayMeta_cons, metaApply_neutral m e (h e (by simp)), ih m (fun x hx => h x (by simp [hx]))]

theorem idxGetAux_some {v : List (Bytes × Bool)} {k : Bytes} {n i : Nat}
    (h : idxGetAux v k n = some i) : n ≤ i ∧ v[i - n]? = some (k, true) := by
  induction v generalizing n with
  | nil => simp [idxGetAux] at h
  | cons p r ih =>
    obtain ⟨k', live⟩ := p
    rw [idxGetAux] at h
    split at h
    · rename_i hc
      injection h with h
      subst h
      obtain ⟨h1, h2⟩ := hc
      subst h2
      simp [h1]
    · obtain ⟨h1, h2⟩ := ih h
      refine ⟨by omega, ?_⟩
      have : i - n = (i - (n + 1)) + 1 := by omega
      rw [this, List.getElem?_cons_succ]
      exact h2

theorem idxGet_some {v : List (Bytes × Bool)} {k : Bytes} {i : Nat} (h : idxGet v k = some i) :
    v[i]? = some (k, true) := by
  have := (idxGetAux_some h).2
  simpa using this

theorem idxGet_inj {v : List (Bytes × Bool)} {k1 k2 : Bytes} {i : Nat}
    (h1 : idxGet v k1 = some i) (h2 : idxGet v k2 = some i) : k1 = k2 := by
  have a := idxGet_some h1
  have b := idxGet_some h2
  rw [a] at b
  injection b with b
  injection b

theorem idxGetAux_none {v : List (Bytes × Bool)} {k : Bytes} {n : Nat} :
    idxGetAux v k n = none ↔ (k, true) ∉ v := by
  induction v generalizing n with
  | nil => simp [idxGetAux]
  | cons p r ih =>
    obtain ⟨k', live⟩ := p
    rw [idxGetAux]
    split
    · rename_i hc
      simp [hc.1, hc.2]
    · rename_i hc
      rw [ih, List.mem_cons, not_or, Prod.mk.injEq]
      exact ⟨fun h => ⟨fun e => hc ⟨e.2.symm, e.1.symm⟩, h⟩, fun h => h.2⟩

theorem idxGet_none_iff {v : List (Bytes × Bool)} {k : Bytes} : idxGet v k = none ↔ (k, true) ∉ v :=
  idxGetAux_none

theorem idxGetAux_append (v w : List (Bytes × Bool)) (k : Bytes) (n : Nat) :
    idxGetAux (v ++ w) k n =
      match idxGetAux v k n with
      | some i => some i
      | none => idxGetAux w k (n + v.length) := by
  induction v generalizing n with
  | nil => simp [idxGetAux]
  | cons p r ih =>
    obtain ⟨k', live⟩ := p
    rw [List.cons_append, idxGetAux, idxGetAux]
    split
    · rfl
    · rw [ih]
      have : n + 1 + r.length = n + (r.length + 1) := by omega
      simp only [List.length_cons, this]

theorem idxGet_append_ne (v : List (Bytes × Bool)) (k k' : Bytes) (hne : k ≠ k') :
    idxGet (v ++ [(k, true)]) k' = idxGet v k' := by
  unfold idxGet
  rw [idxGetAux_append]
  cases h : idxGetAux v k' 0 with
  | some i => rfl
  | none => simp [idxGetAux, hne]

theorem idxGet_append_self (v : List (Bytes × Bool)) (k : Bytes) (h : idxGet v k = none) :
    idxGet (v ++ [(k, true)]) k = some v.length := by
  unfold idxGet at *
  rw [idxGetAux_append, h]
  simp [idxGetAux]

theorem idxGetOrCreate_get (v : List (Bytes × Bool)) (k : Bytes) :
    idxGet (idxGetOrCreate v k).2 k = some (idxGetOrCreate v k).1 := by
  unfold idxGetOrCreate
  cases h : idxGet v k with
  | some i => simpa using h
  | none => simpa using idxGet_append_self v k h

theorem idxGetOrCreate_get_ne (v : List (Bytes × Bool)) (k k' : Bytes) (hne : k ≠ k') :
    idxGet (idxGetOrCreate v k).2 k' = idxGet v k' := by
  unfold idxGetOrCreate
  cases h : idxGet v k with
  | some i => rfl
  | none => simpa using idxGet_append_ne v k k' hne

theorem idxGetOrCreate_idem (v : List (Bytes × Bool)) (k : Bytes) :
    idxGetOrCreate (idxGetOrCreate v k).2 k = idxGetOrCreate v k := by
  have h := idxGetOrCreate_get v k
  generalize idxGetOrCreate v k = p at h ⊢
  unfold idxGetOrCreate
  rw [h]

theorem idxGetAux_set_ne (v : List (Bytes × Bool)) (k k' : Bytes) (j n : Nat) (hne : k ≠ k')
    (hj : v[j]? = some (k, true)) : idxGetAux (v.set j (k, false)) k' n = idxGetAux v k' n := by
  induction v generalizing j n with
  | nil => simp at hj
  | cons p r ih =>
    cases j with
    | zero =>
      simp only [List.getElem?_cons_zero, Option.some.injEq] at hj
      subst hj
      simp [List.set, idxGetAux, hne]
    | succ j =>
      obtain ⟨k0, live⟩ := p
      simp only [List.getElem?_cons_succ] at hj
      simp only [List.set, idxGetAux]
      rw [ih j (n + 1) hj]

/-- live entries of the vocabulary carry pairwise different keys -/
def LiveNodup (v : List (Bytes × Bool)) : Prop :=
  ∀ (i j : Nat) (k : Bytes), v[i]? = some (k, true) → v[j]? = some (k, true) → i = j

theorem idxRemove_get_ne (v : List (Bytes × Bool)) (k k' : Bytes) (hne : k ≠ k') :
    idxGet (idxRemove v k) k' = idxGet v k' := by
  unfold idxRemove
  cases h : idxGet v k with
  | none => rfl
  | some i => exact idxGetAux_set_ne v k k' i 0 hne (idxGet_some h)

theorem getElem?_lt {α} {l : List α} {i : Nat} {a : α} (h : l[i]? = some a) : i < l.length :=
  (List.getElem?_eq_some_iff.mp h).1

theorem idxRemove_get_self (v : List (Bytes × Bool)) (k : Bytes) (hn : LiveNodup v) :
    idxGet (idxRemove v k) k = none := by
  unfold idxRemove
  cases h : idxGet v k with
  | none => exact h
  | some i =>
    rw [idxGet_none_iff]
    intro hm
    obtain ⟨j, hj⟩ := List.getElem?_of_mem hm
    have hi := idxGet_some h
    by_cases e : i = j
    · subst e
      rw [List.getElem?_set_self (getElem?_lt hi)] at hj
      injection hj with hj
      injection hj with _ hj
      cases hj
    · rw [List.getElem?_set_ne e] at hj
      exact e (hn i j k hi hj)

theorem liveNodup_snoc {v : List (Bytes × Bool)} (hn : LiveNodup v) (k : Bytes) (b : Bool)
    (h : b = true → (k, true) ∉ v) : LiveNodup (v ++ [(k, b)]) := by
  have key : ∀ (i : Nat) (k' : Bytes), (v ++ [(k, b)])[i]? = some (k', true) →
      v[i]? = some (k', true) ∨ (i = v.length ∧ k' = k ∧ b = true) := by
    intro i k' hi
    rcases Nat.lt_or_ge i v.length with hl | hl
    · rw [List.getElem?_append_left hl] at hi
      exact .inl hi
    · rw [List.getElem?_append_right hl] at hi
      have hlt := getElem?_lt hi
      simp only [List.length_singleton] at hlt
      have : i - v.length = 0 := by omega
      rw [this] at hi
      simp only [List.getElem?_cons_zero, Option.some.injEq, Prod.mk.injEq] at hi
      exact .inr ⟨by omega, hi.1.symm, hi.2⟩
  intro i j k' hi hj
  rcases key i k' hi with a | ⟨a, a', a''⟩ <;> rcases key j k' hj with c | ⟨c, c', c''⟩
  · exact hn i j k' a c
  · subst c'; exact absurd (List.mem_of_getElem? a) (h c'')
  · subst a'; exact absurd (List.mem_of_getElem? c) (h a'')
  · omega

theorem liveNodup_append {v : List (Bytes × Bool)} {k : Bytes} (hn : LiveNodup v) (h : idxGet v k = none) :
    LiveNodup (v ++ [(k, true)]) :=
  liveNodup_snoc hn k true (fun _ => idxGet_none_iff.mp h)

theorem liveNodup_getOrCreate {v : List (Bytes × Bool)} (hn : LiveNodup v) (k : Bytes) :
    LiveNodup (idxGetOrCreate v k).2 := by
  unfold idxGetOrCreate
  cases h : idxGet v k with
  | some i => exact hn
  | none => exact liveNodup_append hn h

theorem liveNodup_set {v : List (Bytes × Bool)} (hn : LiveNodup v) (i : Nat) (k : Bytes) :
    LiveNodup (v.set i (k, false)) := by
  intro a b k' ha hb
  have f : ∀ c : Nat, (v.set i (k, false))[c]? = some (k', true) → v[c]? = some (k', true) := by
    intro c hc
    by_cases e : i = c
    · subst e
      have hl : i < v.length := by simpa using getElem?_lt hc
      rw [List.getElem?_set_self hl] at hc
      injection hc with hc; injection hc with _ hc; cases hc
    · rwa [List.getElem?_set_ne e] at hc
  exact hn a b k' (f a ha) (f b hb)

theorem liveNodup_remove {v : List (Bytes × Bool)} (hn : LiveNodup v) (k : Bytes) :
    LiveNodup (idxRemove v k) := by
  unfold idxRemove
  cases h : idxGet v k with
  | none => exact hn
  | some i => exact liveNodup_set hn i k

theorem put_md (s : Store) (k : Bytes) (v : Val) :
    (put s k v).md = if isCacheKey k then s.md else aset s.md k v := by
  unfold put isCacheKey
  split <;> simp_all

theorem put_vocab_md (s : Store) (voc : List (Bytes × Bool)) (k : Bytes) (v : Val) :
    (put { s with vocab := voc } k v).md = (put s k v).md := by
  rw [put_md, put_md]

theorem exists_false_md (s : Store) (k : Bytes) (hc : isCacheKey k = false)
    (h : exists_ s k = false) : aget s.md k = none := by
  unfold exists_ at h
  unfold isCacheKey at hc
  split at h <;> simp_all

theorem putDurable_fst (s : Store) (k : Bytes) (v : Val) :
    (putDurable s k v).1 = if isCacheKey k then [] else
      if classify k = .embedding then
        match v.emb with
        | some vec => [.embSet (idxGetOrCreate s.vocab k).1 vec, .metaSet k v]
        | none => [.metaSet k v]
      else [.metaSet k v] := by
  unfold putDurable
  by_cases hc : isCacheKey k = true
  · simp [hc]
  · have hc0 : isCacheKey k = false := by simpa using hc
    by_cases hk : classify k = .embedding
    · cases hv : v.emb <;> simp [hc0, hk]
    · simp [hc0, hk]

theorem deleteDurable_fst (s : Store) (k : Bytes) :
    (deleteDurable s k).1 = if isCacheKey k then [] else
      (match idxGet s.vocab k with
        | some id => [Entry.embDel id, Entry.entRemove k]
        | none => []) ++ [.metaDel k] := by
  unfold deleteDurable
  split <;> rfl

/-- the slab after a put: the entry of the key's id is the usable vector of the value, or absent -/
def putSlab (sl : List (Nat × Bytes)) (id : Nat) (e : Option Bytes) : List (Nat × Bytes) :=
  match e with
  | some vec => slabPut sl id vec
  | none => aerase sl id

/-- a put that goes through the entity index, normal form -/
def putEmb (s : Store) (k : Bytes) (v : Val) : Store :=
  { s with md := aset s.md k v, vocab := (idxGetOrCreate s.vocab k).2,
           slab := putSlab s.slab (idxGetOrCreate s.vocab k).1 v.emb }

theorem put_emb (s : Store) (k : Bytes) (v : Val) (hk : classify k = .embedding) :
    put s k v = putEmb s k v := by
  unfold put putEmb putSlab
  simp only [hk]
  cases v.emb <;> rfl

theorem putDurable_snd_emb (s : Store) (k : Bytes) (v : Val) (hk : classify k = .embedding) :
    (putDurable s k v).2 = putEmb s k v := by
  have hc : isCacheKey k = false := by simp [isCacheKey, hk]
  unfold putDurable
  simp only [hc, hk]
  cases hv : v.emb with
  | none => exact put_emb s k v hk
  | some vec =>
    show put _ k v = _
    rw [put_emb _ k v hk]
    unfold putEmb
    simp only [idxGetOrCreate_idem]

theorem putDurable_snd_plain (s : Store) (k : Bytes) (v : Val) (hk : classify k ≠ .embedding)
    (hc : isCacheKey k = false) :
    (putDurable s k v).2 = { s with md := aset s.md k v } := by
  have hc' : classify k ≠ .cache := isCacheKey_eq_false.mp hc
  unfold putDurable
  simp only [hc, hk]
  show put s k v = _
  unfold put
  cases hk' : classify k <;> simp_all

/-- what the three records of a delete do, normal form -/
def delApplied (s : Store) (k : Bytes) : Store :=
  { s with md := aerase s.md k, vocab := idxRemove s.vocab k,
           slab := match idxGet s.vocab k with
             | some id => aerase s.slab id
             | none => s.slab }

theorem delete_emb (s : Store) (k : Bytes) (hk : classify k = .embedding) :
    (delete s k).1 = delApplied s k := by
  unfold delete
  by_cases he : exists_ s k = true
  · simp only [he, hk]
    unfold delApplied
    rfl
  · have he0 : exists_ s k = false := by simpa using he
    simp only [he0]
    unfold exists_ at he0
    simp only [hk, Bool.or_eq_false_iff] at he0
    have h1 : idxGet s.vocab k = none := by simpa using he0.1
    have h2 : aget s.md k = none := by simpa using he0.2
    unfold delApplied idxRemove
    simp only [h1, aerase_of_aget_none _ _ h2]
    rfl

theorem delete_plain (s : Store) (k : Bytes) (hk : classify k ≠ .embedding) (hc : isCacheKey k = false) :
    (delete s k).1 = { s with md := aerase s.md k } := by
  have hc' : classify k ≠ .cache := isCacheKey_eq_false.mp hc
  unfold delete
  by_cases he : exists_ s k = true
  · simp only [he]
    cases hk' : classify k <;> simp_all
  · have he0 : exists_ s k = false := by simpa using he
    simp only [he0]
    rw [aerase_of_aget_none _ _ (exists_false_md s k hc he0)]
    rfl

theorem step_delete_snd (s : Store) (k : Bytes) : (step s (.delete k)).2 = (delete s k).1 := by
  simp only [step, deleteDurable]; split <;> rfl

theorem step_snd (s : Store) (op : Op) :
    (step s op).2 = match op with
      | .put k v =>
          if isCacheKey k then { s with cache := aset s.cache k v }
          else if classify k = .embedding then putEmb s k v else { s with md := aset s.md k v }
      | .delete k =>
          if isCacheKey k then { s with cache := aerase s.cache k }
          else if classify k = .embedding then delApplied s k else { s with md := aerase s.md k } := by
  cases op with
  | put k v =>
    simp only [step]
    by_cases hc : isCacheKey k = true
    · have hk : classify k = .cache := isCacheKey_eq_true.mp hc
      simp [putDurable, hc, put, hk]
    · have hc0 : isCacheKey k = false := by simpa using hc
      rw [if_neg hc]
      split
      · rename_i hk; exact putDurable_snd_emb s k v hk
      · rename_i hk; exact putDurable_snd_plain s k v hk hc0
  | delete k =>
    rw [step_delete_snd]
    simp only []
    by_cases hc : isCacheKey k = true
    · have hk : classify k = .cache := isCacheKey_eq_true.mp hc
      rw [if_pos hc]
      unfold delete
      by_cases he : exists_ s k = true
      · simp [he, hk]
      · have he0 : exists_ s k = false := by simpa using he
        have : aget s.cache k = none := by
          unfold exists_ at he0
          simpa [hk] using he0
        simp only [he0, Bool.not_false, if_true]
        rw [aerase_of_aget_none _ _ this]
    · have hc0 : isCacheKey k = false := by simpa using hc
      rw [if_neg hc]
      split
      · rename_i hk; exact delete_emb s k hk
      · rename_i hk; exact delete_plain s k hk hc0

theorem step_vocab (s : Store) (op : Op) :
    (step s op).2.vocab = match op with
      | .put k _ => if classify k = .embedding then (idxGetOrCreate s.vocab k).2 else s.vocab
      | .delete k => if classify k = .embedding then idxRemove s.vocab k else s.vocab := by
  rw [step_snd]
  cases op with
  | put k v =>
    simp only []
    by_cases hk : classify k = .embedding
    · rw [if_neg (by simp [isCacheKey, hk]), if_pos hk, if_pos hk]; rfl
    · rw [if_neg hk, if_neg hk]; split <;> rfl
  | delete k =>
    simp only []
    by_cases hk : classify k = .embedding
    · rw [if_neg (by simp [isCacheKey, hk]), if_pos hk, if_pos hk]; rfl
    · rw [if_neg hk, if_neg hk]; split <;> rfl

theorem step_cache (s : Store) (op : Op) :
    (step s op).2.cache = match op with
      | .put k v => if isCacheKey k then aset s.cache k v else s.cache
      | .delete k => if isCacheKey k then aerase s.cache k else s.cache := by
  rw [step_snd]
  cases op <;> simp only [] <;> split
  · rfl
  · split <;> rfl
  · rfl
  · split <;> rfl

theorem step_md (s : Store) (op : Op) : (step s op).2.md = specApply s.md op := by
  rw [step_snd]
  cases op <;> simp only [specApply] <;> split
  · rfl
  · split <;> rfl
  · rfl
  · split <;> rfl

theorem putDurable_snd_md (s : Store) (k : Bytes) (v : Val) :
    (putDurable s k v).2.md = if isCacheKey k then s.md else aset s.md k v :=
  step_md s (.put k v)

theorem delete_md (s : Store) (k : Bytes) :
    (delete s k).1.md = if isCacheKey k then s.md else aerase s.md k := by
  rw [← step_delete_snd]
  exact step_md s (.delete k)

theorem deleteDurable_snd_md (s : Store) (k : Bytes) :
    (deleteDurable s k).2.1.md = if isCacheKey k then s.md else aerase s.md k :=
  step_md s (.delete k)

theorem step_replay (s : Store) (op : Op) : replayMeta s.md (step s op).1 = specApply s.md op := by
  cases op with
  | put k v =>
    simp only [step, specApply, putDurable_fst]
    by_cases hc : isCacheKey k = true
    · simp [hc, replayMeta]
    · have hc0 : isCacheKey k = false := by simpa using hc
      by_cases hk : classify k = .embedding
      · cases hv : v.emb <;> simp [hc0, hk, replayMeta, metaApply]
      · simp [hc0, hk, replayMeta, metaApply]
  | delete k =>
    simp only [step, specApply, deleteDurable_fst]
    by_cases hc : isCacheKey k = true
    · simp [hc, replayMeta]
    · have hc0 : isCacheKey k = false := by simpa using hc
      cases hi : idxGet s.vocab k <;> simp [hc0, replayMeta, metaApply]

theorem step_cases (s : Store) (op : Op) :
    (step s op).1 = [] ∨
    (∃ k v, op = .put k v ∧ isCacheKey k = false ∧
      ((step s op).1 = [.metaSet k v] ∨
        ∃ id vec, v.emb = some vec ∧ (step s op).1 = [.embSet id vec, .metaSet k v])) ∨
    (∃ k, op = .delete k ∧ isCacheKey k = false ∧
      ((idxGet s.vocab k = none ∧ (step s op).1 = [.metaDel k]) ∨
        ∃ id, idxGet s.vocab k = some id ∧ (step s op).1 = [.embDel id, .entRemove k, .metaDel k])) := by
  cases op with
  | put k v =>
    simp only [step, putDurable_fst]
    cases hc : isCacheKey k with
    | true => exact .inl rfl
    | false =>
      refine .inr (.inl ⟨k, v, rfl, hc, ?_⟩)
      simp only [Bool.false_eq_true, if_false]
      split
      · cases hv : v.emb with
        | none => exact .inl rfl
        | some vec => exact .inr ⟨_, vec, rfl, rfl⟩
      · exact .inl rfl
  | delete k =>
    simp only [step, deleteDurable_fst]
    cases hc : isCacheKey k with
    | true => exact .inl rfl
    | false =>
      refine .inr (.inr ⟨k, rfl, hc, ?_⟩)
      simp only [Bool.false_eq_true, if_false]
      cases hi : idxGet s.vocab k with
      | none => exact .inl ⟨rfl, rfl⟩
      | some id => exact .inr ⟨id, rfl, rfl⟩

theorem step_shape (s : Store) (op : Op) :
    (step s op).1 = [] ∨ ∃ pre last, (step s op).1 = pre ++ [last] ∧ ∀ e ∈ pre, isNeutral e = true := by
  rcases step_cases s op with h | ⟨k, v, -, -, h | ⟨id, vec, -, h⟩⟩ | ⟨k, -, -, ⟨-, h⟩ | ⟨id, -, h⟩⟩
  · exact .inl h
  · exact .inr ⟨[], _, h, nofun⟩
  · exact .inr ⟨[_], _, h, fun e he => by rw [List.mem_singleton.mp he]; rfl⟩
  · exact .inr ⟨[], _, h, nofun⟩
  · refine .inr ⟨[_, _], _, h, fun e he => ?_⟩
    simp only [List.mem_cons, List.not_mem_nil, or_false] at he
    rcases he with rfl | rfl <;> rfl

theorem step_mem (s : Store) (op : Op) {e : Entry} (he : e ∈ (step s op).1) :
    isTx e = false ∧ isCkpt e = false ∧ EntryOk e := by
  rcases step_cases s op with h | ⟨k, v, -, hc, h | ⟨id, vec, -, h⟩⟩ | ⟨k, -, -, ⟨-, h⟩ | ⟨id, -, h⟩⟩ <;>
    rw [h] at he <;> simp only [List.mem_cons, List.not_mem_nil, or_false] at he
  · subst he; exact ⟨rfl, rfl, isCacheKey_eq_false.mp hc⟩
  · rcases he with rfl | rfl
    · exact ⟨rfl, rfl, trivial⟩
    · exact ⟨rfl, rfl, isCacheKey_eq_false.mp hc⟩
  · subst he; exact ⟨rfl, rfl, trivial⟩
  · rcases he with rfl | rfl | rfl <;> exact ⟨rfl, rfl, trivial⟩

theorem step_plain (s : Store) (op : Op) :
    ∀ e ∈ (step s op).1, isTx e = false ∧ isCkpt e = false :=
  fun _ he => ⟨(step_mem s op he).1, (step_mem s op he).2.1⟩

theorem step_take_neutral (s : Store) (op : Op) (i : Nat) (hi : i < (step s op).1.length) :
    replayMeta s.md ((step s op).1.take i) = s.md := by
  rcases step_shape s op with h | ⟨pre, last, h, hn⟩
  · rw [h] at hi; simp at hi
  · rw [h] at hi ⊢
    simp at hi
    rw [List.take_append_of_le_length (by omega)]
    exact replayMeta_neutral _ _ (fun e he => hn e (List.mem_of_mem_take he))

theorem runOps_nil (s : Store) : runOps s [] = ([], s) := rfl

theorem runOps_cons (s : Store) (op : Op) (ops : List Op) :
    runOps s (op :: ops) = ((step s op).1 ++ (runOps (step s op).2 ops).1, (runOps (step s op).2 ops).2) := rfl

theorem specRun_nil (m : List (Bytes × Val)) : specRun m [] = m := rfl

theorem specRun_cons (m : List (Bytes × Val)) (op : Op) (ops : List Op) :
    specRun m (op :: ops) = specRun (specApply m op) ops := rfl

theorem specRun_append (m : List (Bytes × Val)) (xs ys : List Op) :
    specRun m (xs ++ ys) = specRun (specRun m xs) ys := by
  simp [specRun, List.foldl_append]

theorem runOps_md (s : Store) (ops : List Op) : (runOps s ops).2.md = specRun s.md ops := by
  induction ops generalizing s with
  | nil => rfl
  | cons op ops ih => rw [runOps_cons, specRun_cons, ← step_md]; exact ih _

theorem runOps_replay (s : Store) (ops : List Op) :
    replayMeta s.md (runOps s ops).1 = specRun s.md ops := by
  induction ops generalizing s with
  | nil => rfl
  | cons op ops ih =>
    rw [runOps_cons, specRun_cons, replayMeta_append, step_replay, ← step_md]; exact ih _

theorem runOps_md_over {s0 mem0 : Store} {X : List Entry} (hmem : mem0 = replay s0 X) (ops : List Op) :
    (runOps mem0 ops).2.md = replayMeta s0.md (X ++ (runOps mem0 ops).1) := by
  rw [replayMeta_append, ← replay_md, ← hmem, runOps_replay, runOps_md]

theorem runOps_mem (s : Store) (ops : List Op) {e : Entry} (he : e ∈ (runOps s ops).1) :
    isTx e = false ∧ isCkpt e = false ∧ EntryOk e := by
  induction ops generalizing s with
  | nil => cases he
  | cons op ops ih =>
    rw [runOps_cons] at he
    rcases List.mem_append.mp he with h | h
    · exact step_mem s op h
    · exact ih _ h

theorem runOps_plain (s : Store) (ops : List Op) :
    ∀ e ∈ (runOps s ops).1, isTx e = false ∧ isCkpt e = false :=
  fun _ he => ⟨(runOps_mem s ops he).1, (runOps_mem s ops he).2.1⟩

theorem runOps_entryOk (s : Store) (ops : List Op) : ∀ e ∈ (runOps s ops).1, EntryOk e :=
  fun _ he => (runOps_mem s ops he).2.2

theorem runOps_append_fst (s : Store) (xs ys : List Op) :
    (runOps s (xs ++ ys)).1 = (runOps s xs).1 ++ (runOps (runOps s xs).2 ys).1 := by
  induction xs generalizing s with
  | nil => simp [runOps_nil]
  | cons x xs ih => simp [runOps_cons, ih, List.append_assoc]

theorem runOps_append_snd (s : Store) (xs ys : List Op) :
    (runOps s (xs ++ ys)).2 = (runOps (runOps s xs).2 ys).2 := by
  induction xs generalizing s with
  | nil => simp [runOps_nil]
  | cons x xs ih => simp [runOps_cons, ih]

theorem runOps_take_prefix (s : Store) (ops : List Op) (a : Nat) :
    ∃ rest, (runOps s ops).1 = (runOps s (ops.take a)).1 ++ rest :=
  ⟨_, by rw [← runOps_append_fst, List.take_append_drop]⟩

theorem group_prefix (s : Store) (ops : List Op) (i : Nat) :
    ∃ k, k ≤ ops.length ∧
      replayMeta s.md ((runOps s ops).1.take i) = specRun s.md (ops.take k) ∧
      ∀ a, a ≤ ops.length → (runOps s (ops.take a)).1.length ≤ i → a ≤ k := by
  induction ops generalizing s i with
  | nil => exact ⟨0, by simp, by simp [runOps_nil, replayMeta_nil, specRun_nil], by simp⟩
  | cons op ops ih =>
    by_cases hle : (step s op).1.length ≤ i
    · obtain ⟨k, hk, hrep, hall⟩ := ih (step s op).2 (i - (step s op).1.length)
      refine ⟨k + 1, by simp; omega, ?_, ?_⟩
      · rw [runOps_cons, List.take_append, List.take_of_length_le hle, replayMeta_append,
          step_replay, List.take_succ_cons, specRun_cons, ← step_md]
        exact hrep
      · intro a ha hlen
        cases a with
        | zero => omega
        | succ a =>
          rw [List.take_succ_cons, runOps_cons] at hlen
          simp only [List.length_append] at hlen
          have := hall a (by simp at ha; omega) (by omega)
          omega
    · have hlt : i < (step s op).1.length := by omega
      refine ⟨0, by simp, ?_, ?_⟩
      · rw [runOps_cons, List.take_append_of_le_length (by omega), step_take_neutral s op i hlt]
        rfl
      · intro a ha hlen
        cases a with
        | zero => omega
        | succ a =>
          rw [List.take_succ_cons, runOps_cons] at hlen
          simp only [List.length_append] at hlen
          omega

/-! #### `fromEntries` on logs without transaction markers -/

def ckStep (acc : List Entry) : Entry → List Entry
  | .checkpoint _ => []
  | e => acc ++ [e]

/-- entries after the last checkpoint marker -/
def afterLastCkpt (es : List Entry) : List Entry := es.foldl ckStep []

theorem recStep_plain (r : Rec) (e : Entry) (ha : r.active = none) (hb : r.bufs = [])
    (hcm : r.committed = []) (he : isTx e = false) :
    (recStep r e).active = none ∧ (recStep r e).bufs = [] ∧ (recStep r e).committed = [] ∧
      (recStep r e).operations = ckStep r.operations e := by
  cases e with
  | txBegin t => cases he
  | txCommit t => cases he
  | txAbort t => cases he
  | checkpoint id => exact ⟨rfl, rfl, rfl, rfl⟩
  | _ => simp only [recStep, ckStep, ha, hb, hcm, and_self]

theorem foldl_recStep_plain (es : List Entry) (r : Rec) (ha : r.active = none) (hb : r.bufs = [])
    (hcm : r.committed = []) (he : ∀ e ∈ es, isTx e = false) :
    (es.foldl recStep r).committed = [] ∧
      (es.foldl recStep r).operations = es.foldl ckStep r.operations := by
  induction es generalizing r with
  | nil => exact ⟨hcm, rfl⟩
  | cons e es ih =>
    obtain ⟨h1, h2, h3, h4⟩ := recStep_plain r e ha hb hcm (he e (by simp))
    have := ih (recStep r e) h1 h2 h3 (fun x hx => he x (by simp [hx]))
    simp only [List.foldl_cons]
    rw [this.1, this.2, h4]
    exact ⟨rfl, rfl⟩

theorem allOperations_fromEntries (es : List Entry) (he : ∀ e ∈ es, isTx e = false) :
    allOperations (fromEntries es) = afterLastCkpt es := by
  have := foldl_recStep_plain es {} rfl rfl rfl he
  unfold allOperations fromEntries afterLastCkpt
  rw [this.1, this.2]; simp

theorem ckStep_plain (acc : List Entry) {e : Entry} (h : isCkpt e = false) : ckStep acc e = acc ++ [e] := by
  cases e <;> first | rfl | cases h

theorem foldl_ckStep_plain (acc X : List Entry) (h : ∀ e ∈ X, isCkpt e = false) :
    X.foldl ckStep acc = acc ++ X := by
  induction X generalizing acc with
  | nil => exact (List.append_nil _).symm
  | cons e X ih =>
    rw [List.foldl_cons, ckStep_plain acc (h e List.mem_cons_self),
      ih _ (fun x hx => h x (List.mem_cons_of_mem _ hx)), List.append_assoc]
    rfl

theorem afterLastCkpt_append_plain (S X : List Entry) (h : ∀ e ∈ X, isCkpt e = false) :
    afterLastCkpt (S ++ X) = afterLastCkpt S ++ X := by
  unfold afterLastCkpt
  rw [List.foldl_append, foldl_ckStep_plain _ _ h]

theorem afterLastCkpt_plain (X : List Entry) (h : ∀ e ∈ X, isCkpt e = false) : afterLastCkpt X = X :=
  (foldl_ckStep_plain [] X h).trans (List.nil_append X)

theorem afterLastCkpt_append_ckpt (S : List Entry) (id : Nat) :
    afterLastCkpt (S ++ [.checkpoint id]) = [] := by
  unfold afterLastCkpt
  rw [List.foldl_append]; rfl

theorem afterLastCkpt_nil : afterLastCkpt [] = [] := rfl

/-! #### last write per key: replay is idempotent -/

def writeOf : Entry → Bytes → Option (Option Val)
  | .metaSet k v, key => if k = key then some (some v) else none
  | .metaDel k, key => if k = key then some none else none
  | _, _ => none

def lastWrite : List Entry → Bytes → Option (Option Val)
  | [], _ => none
  | e :: es, key =>
    match lastWrite es key with
    | some r => some r
    | none => writeOf e key

theorem aget_metaApply (m : List (Bytes × Val)) (e : Entry) (key : Bytes) :
    aget (metaApply m e) key = match writeOf e key with | some r => r | none => aget m key := by
  cases e with
  | metaSet k v =>
    by_cases h : k = key
    · subst h; simp [metaApply, writeOf, aget_aset_eq]
    · simp [metaApply, writeOf, h, aget_aset_ne _ _ _ _ h]
  | metaDel k =>
    by_cases h : k = key
    · subst h; simp [metaApply, writeOf, aget_aerase_eq]
    · simp [metaApply, writeOf, h, aget_aerase_ne _ _ _ h]
  | _ => simp [metaApply, writeOf]

theorem aget_replayMeta (m : List (Bytes × Val)) (es : List Entry) (key : Bytes) :
    aget (replayMeta m es) key = match lastWrite es key with | some r => r | none => aget m key := by
  induction es generalizing m with
  | nil => rfl
  | cons e es ih =>
    rw [replayMeta_cons, ih, lastWrite]
    cases h : lastWrite es key with
    | some r => rfl
    | none => simp only [aget_metaApply]

theorem MetaEq.refl (m : List (Bytes × Val)) : MetaEq m m := fun _ => rfl

theorem MetaEq.symm {m m' : List (Bytes × Val)} (h : MetaEq m m') : MetaEq m' m := fun k => (h k).symm

theorem MetaEq.trans {a b c : List (Bytes × Val)} (h1 : MetaEq a b) (h2 : MetaEq b c) : MetaEq a c :=
  fun k => (h1 k).trans (h2 k)

theorem replayMeta_congr {m m' : List (Bytes × Val)} (h : MetaEq m m') (es : List Entry) :
    MetaEq (replayMeta m es) (replayMeta m' es) := by
  intro key
  rw [aget_replayMeta, aget_replayMeta, h key]

theorem replayMeta_idem (m : List (Bytes × Val)) (X : List Entry) :
    MetaEq (replayMeta (replayMeta m X) X) (replayMeta m X) := by
  intro key
  rw [aget_replayMeta (replayMeta m X)]
  cases h : lastWrite X key with
  | some r => simp only; rw [aget_replayMeta, h]
  | none => rfl

theorem specApply_congr {m m' : List (Bytes × Val)} (h : MetaEq m m') (op : Op) :
    MetaEq (specApply m op) (specApply m' op) := by
  cases op with
  | put k v =>
    simp only [specApply]
    split
    · exact h
    · exact replayMeta_congr h [.metaSet k v]
  | delete k =>
    simp only [specApply]
    split
    · exact h
    · exact replayMeta_congr h [.metaDel k]

theorem specRun_congr {m m' : List (Bytes × Val)} (h : MetaEq m m') (ops : List Op) :
    MetaEq (specRun m ops) (specRun m' ops) := by
  induction ops generalizing m m' with
  | nil => exact h
  | cons op ops ih => rw [specRun_cons, specRun_cons]; exact ih (specApply_congr h op)

theorem parse_torn_end (crc : List Nat → Nat) (dec : List Nat → Bool) (p : List Nat) (m : Nat)
    (hp : p.length < U32) (hm : m < (encodeRec crc p).length) :
    (parse crc dec ((encodeRec crc p).take m)).2 = if m = 0 then .clean else .torn := by
  rw [encodeRec_length] at hm
  have hlen : ((encodeRec crc p).take m).length = m := by
    rw [List.length_take, encodeRec_length]; omega
  rw [parse, hlen]
  by_cases h8 : m < 8
  · rw [dif_pos h8]
    by_cases h0 : m = 0
    · subst h0; rfl
    · have : ((encodeRec crc p).take m).isEmpty = false := by
        cases hl : (encodeRec crc p).take m with
        | nil => rw [hl] at hlen; exact absurd hlen.symm h0
        | cons _ _ => rfl
      rw [if_neg h0]; simp only [this]; rfl
  · rw [dif_neg h8]
    have e1 : ((encodeRec crc p).take m).take 4 = le32 p.length := by
      rw [List.take_take, Nat.min_eq_left (by omega)]; rfl
    have e3 : (((encodeRec crc p).take m).drop 8).length = m - 8 := by
      rw [List.length_drop, hlen]
    simp only [e1, le32_rt _ hp, e3]
    rw [if_pos (by omega), if_neg (by omega)]

theorem parse_take_end (crc : List Nat → Nat) (dec : List Nat → Bool) (ps : List (List Nat)) (n : Nat)
    (h : ∀ p ∈ ps, GoodRec crc dec p) :
    (parse crc dec ((encodeAll crc ps).take n)).2 ≠ .badCrc := by
  induction ps generalizing n with
  | nil => simp [encodeAll, parse_nil]
  | cons p ps ih =>
    have hp := h p (by simp)
    have henc : encodeAll crc (p :: ps) = encodeRec crc p ++ encodeAll crc ps := by simp [encodeAll]
    rw [henc, List.take_append]
    by_cases hle : (encodeRec crc p).length ≤ n
    · rw [List.take_of_length_le hle, parse_cons crc dec p _ hp]
      exact ih _ (fun q hq => h q (by simp [hq]))
    · have hz : n - (encodeRec crc p).length = 0 := by omega
      rw [hz, List.take_zero, List.append_nil, parse_torn_end crc dec p n hp.1 (by omega)]
      split <;> simp

theorem goodRec_enc {crc : Bytes → Nat} {enc : Entry → Bytes} {dec : Bytes → Option Entry}
    (hc : CodecOK crc enc dec) (e : Entry) (h : (enc e).length < U32) :
    GoodRec crc (fun p => (dec p).isSome) (enc e) :=
  ⟨h, hc.crc_lt _, by simp [hc.dec_enc]⟩

theorem filterMap_dec_enc {enc : Entry → Bytes} {dec : Bytes → Option Entry}
    (h : ∀ e, dec (enc e) = some e) (l : List Entry) : (l.map enc).filterMap dec = l := by
  induction l with
  | nil => rfl
  | cons e l ih => simp [h, ih]

theorem logBytes_append (crc : Bytes → Nat) (enc : Entry → Bytes) (xs ys : List Entry) :
    logBytes crc enc (xs ++ ys) = logBytes crc enc xs ++ logBytes crc enc ys := by
  simp [logBytes, encodeAll_append]

theorem logBytes_nil (crc : Bytes → Nat) (enc : Entry → Bytes) : logBytes crc enc [] = [] := rfl

theorem logBytes_singleton (crc : Bytes → Nat) (enc : Entry → Bytes) (e : Entry) :
    logBytes crc enc [e] = encodeRec crc (enc e) := by
  simp [logBytes, encodeAll]

theorem logBytes_cons (crc : Bytes → Nat) (enc : Entry → Bytes) (e : Entry) (es : List Entry) :
    logBytes crc enc (e :: es) = encodeRec crc (enc e) ++ logBytes crc enc es :=
  (logBytes_append crc enc [e] es).trans (by rw [logBytes_singleton])

theorem Fits.take {enc : Entry → Bytes} {R : List Entry} (h : Fits enc R) (j : Nat) : Fits enc (R.take j) :=
  fun e he => h e (List.mem_of_mem_take he)

theorem Fits.append {enc : Entry → Bytes} {xs ys : List Entry} (h1 : Fits enc xs) (h2 : Fits enc ys) :
    Fits enc (xs ++ ys) :=
  List.forall_mem_append.mpr ⟨h1, h2⟩

def NoTx (R : List Entry) : Prop := ∀ e ∈ R, isTx e = false

theorem NoTx.take {R : List Entry} (h : NoTx R) (j : Nat) : NoTx (R.take j) :=
  fun e he => h e (List.mem_of_mem_take he)

theorem NoTx.append {xs ys : List Entry} (h1 : NoTx xs) (h2 : NoTx ys) : NoTx (xs ++ ys) :=
  List.forall_mem_append.mpr ⟨h1, h2⟩

theorem Fits.append_ckpt {enc : Entry → Bytes} {R : List Entry} (h : Fits enc R) {id : Nat}
    (hid : (enc (.checkpoint id)).length < U32) : Fits enc (R ++ [.checkpoint id]) :=
  h.append (fun _ he => List.mem_singleton.mp he ▸ hid)

theorem NoTx.append_ckpt {R : List Entry} (h : NoTx R) (id : Nat) : NoTx (R ++ [.checkpoint id]) :=
  h.append (fun _ he => List.mem_singleton.mp he ▸ rfl)

section bridge
variable {crc : Bytes → Nat} {enc : Entry → Bytes} {dec : Bytes → Option Entry}

theorem entriesOf_take (hc : CodecOK crc enc dec) (R : List Entry) (n : Nat) (hfit : Fits enc R) :
    (entriesOf crc dec ((logBytes crc enc R).take n)).1 = R.take (wholeWithin crc (R.map enc) n) ∧
    (entriesOf crc dec ((logBytes crc enc R).take n)).2 ≠ .badCrc := by
  have hg : ∀ p ∈ R.map enc, GoodRec crc (fun p => (dec p).isSome) p := by
    intro p hp
    obtain ⟨e, he, rfl⟩ := List.mem_map.mp hp
    exact goodRec_enc hc e (hfit e he)
  unfold entriesOf logBytes
  refine ⟨?_, parse_take_end crc _ _ n hg⟩
  simp only []
  rw [parse_take crc _ _ n hg, ← List.map_take, filterMap_dec_enc hc.dec_enc]

/-- whatever `apply_wal_entry` does with the records (`recover = recoverWith applyEntry`) -/
theorem recoverWith_take_plain (app : Store → Entry → Store) (hc : CodecOK crc enc dec)
    (snap : Option Store) (R : List Entry) (n : Nat) (hfit : Fits enc R) (hno : NoTx R) :
    recoverWith app crc dec snap ((logBytes crc enc R).take n) =
      .ok ((afterLastCkpt (R.take (wholeWithin crc (R.map enc) n))).foldl app (snap.getD Store.empty)) := by
  obtain ⟨h1, h2⟩ := entriesOf_take hc R n hfit
  unfold recoverWith
  simp only []
  rw [if_neg h2, h1, allOperations_fromEntries _ (hno.take _)]

theorem recover_take_plain (hc : CodecOK crc enc dec) (snap : Option Store) (R : List Entry) (n : Nat)
    (hfit : Fits enc R) (hno : NoTx R) :
    recover crc dec snap ((logBytes crc enc R).take n) =
      .ok (replay (snap.getD Store.empty) (afterLastCkpt (R.take (wholeWithin crc (R.map enc) n)))) :=
  recoverWith_take_plain applyEntry hc snap R n hfit hno

theorem openRepair_logBytes_take (R : List Entry) (n : Nat) (hfit : Fits enc R) :
    openRepair ((logBytes crc enc R).take n) = logBytes crc enc (R.take (wholeWithin crc (R.map enc) n)) := by
  unfold logBytes
  rw [openRepair_take crc _ n, List.map_take]
  intro p hp
  obtain ⟨e, he, rfl⟩ := List.mem_map.mp hp
  exact hfit e he

theorem wholeWithin_full (ps : List (List Nat)) (n : Nat) (h : (encodeAll crc ps).length ≤ n) :
    wholeWithin crc ps n = ps.length := by
  have h1 := wholeWithin_le crc ps n
  have h2 := wholeWithin_ge crc ps ps.length n (Nat.le_refl _) (by simpa using h)
  omega

theorem wholeWithin_of_prefix {R pre rest : List Entry} (h : R = pre ++ rest) (n : Nat)
    (hlen : (logBytes crc enc pre).length ≤ n) : pre.length ≤ wholeWithin crc (R.map enc) n := by
  subst h
  apply wholeWithin_ge crc _ _ n (by simp)
  rwa [← List.map_take, List.take_left' rfl]

theorem take_wholeWithin_logBytes (R : List Entry) :
    R.take (wholeWithin crc (R.map enc) (logBytes crc enc R).length) = R := by
  rw [show (logBytes crc enc R).length = (encodeAll crc (R.map enc)).length from rfl,
    wholeWithin_full _ _ (Nat.le_refl _), List.length_map, List.take_length]

theorem recoverWith_full (app : Store → Entry → Store) (hc : CodecOK crc enc dec) (snap : Option Store)
    (R : List Entry) (hfit : Fits enc R) (hno : NoTx R) :
    recoverWith app crc dec snap (logBytes crc enc R) =
      .ok ((afterLastCkpt R).foldl app (snap.getD Store.empty)) := by
  have h := recoverWith_take_plain app hc snap R (logBytes crc enc R).length hfit hno
  rwa [List.take_length, take_wholeWithin_logBytes] at h

theorem recover_full (hc : CodecOK crc enc dec) (snap : Option Store) (R : List Entry)
    (hfit : Fits enc R) (hno : NoTx R) :
    recover crc dec snap (logBytes crc enc R) =
      .ok (replay (snap.getD Store.empty) (afterLastCkpt R)) :=
  recoverWith_full applyEntry hc snap R hfit hno

/-- for the records of one session, which hold no marker -/
theorem recover_take_records (hc : CodecOK crc enc dec) (snap : Option Store) (R : List Entry) (n : Nat)
    (hfit : Fits enc R) (hpl : ∀ e ∈ R, isTx e = false ∧ isCkpt e = false) :
    recover crc dec snap ((logBytes crc enc R).take n) =
      .ok (replay (snap.getD Store.empty) (R.take (wholeWithin crc (R.map enc) n))) := by
  rw [recover_take_plain hc snap R n hfit (fun e he => (hpl e he).1),
    afterLastCkpt_plain _ (fun e he => (hpl e (List.mem_of_mem_take he)).2)]

theorem recover_records (hc : CodecOK crc enc dec) (snap : Option Store) (R : List Entry)
    (hfit : Fits enc R) (hpl : ∀ e ∈ R, isTx e = false ∧ isCkpt e = false) :
    recover crc dec snap (logBytes crc enc R) = .ok (replay (snap.getD Store.empty) R) := by
  rw [recover_full hc snap R hfit (fun e he => (hpl e he).1), afterLastCkpt_plain _ (fun e he => (hpl e he).2)]

theorem recover_nil (snap : Option Store) :
    recover crc dec snap [] = .ok (snap.getD Store.empty) := by
  simp [recover, entriesOf, parse_nil, fromEntries, allOperations, replay]

theorem logBytes_take_boundary (R : List Entry) (i : Nat) :
    (logBytes crc enc R).take (logBytes crc enc (R.take i)).length = logBytes crc enc (R.take i) := by
  conv => lhs; arg 2; rw [← List.take_append_drop i R, logBytes_append]
  exact List.take_left' rfl

end bridge

/-- the log file is a byte prefix of a well-formed, transaction-free log whose surviving records,
    replayed over the snapshot, give the map of the history `H` -/
def Inv (crc : Bytes → Nat) (enc : Entry → Bytes) (snap : Option Store) (f : Bytes) (H : List Op) : Prop :=
  ∃ (R : List Entry) (n : Nat), f = (logBytes crc enc R).take n ∧ Fits enc R ∧ NoTx R ∧
    MetaEq (replayMeta (snap.getD Store.empty).md
      (afterLastCkpt (R.take (wholeWithin crc (R.map enc) n)))) (specRun [] H)

section inv
variable {crc : Bytes → Nat} {enc : Entry → Bytes} {dec : Bytes → Option Entry}

theorem inv_open (hc : CodecOK crc enc dec) {snap : Option Store} {f : Bytes} {H : List Op}
    (hinv : Inv crc enc snap f H) {mem0 : Store} (hr : recover crc dec snap f = .ok mem0) :
    ∃ S, openRepair f = logBytes crc enc S ∧ Fits enc S ∧ NoTx S ∧
      mem0 = replay (snap.getD Store.empty) (afterLastCkpt S) ∧ MetaEq mem0.md (specRun [] H) := by
  obtain ⟨R, n, rfl, hfit, hno, hme⟩ := hinv
  rw [recover_take_plain hc snap R n hfit hno] at hr
  injection hr with hr
  subst hr
  refine ⟨_, openRepair_logBytes_take R n hfit, hfit.take _, hno.take _, rfl, ?_⟩
  rw [replay_md]; exact hme

theorem take_split (S X : List Entry) (n : Nat) (hn : (logBytes crc enc S).length ≤ n) :
    ∃ i, i ≤ X.length ∧
      (S ++ X).take (wholeWithin crc ((S ++ X).map enc) n) = S ++ X.take i ∧
      ∀ c, c ≤ X.length → (logBytes crc enc S ++ logBytes crc enc (X.take c)).length ≤ n → c ≤ i := by
  have hle := wholeWithin_le crc ((S ++ X).map enc) n
  rw [List.length_map, List.length_append] at hle
  have hge : S.length ≤ wholeWithin crc ((S ++ X).map enc) n := wholeWithin_of_prefix rfl n hn
  refine ⟨wholeWithin crc ((S ++ X).map enc) n - S.length, by omega,
    by rw [List.take_append, List.take_of_length_le hge], fun c hc hlen => ?_⟩
  have := wholeWithin_of_prefix (R := S ++ X) (pre := S ++ X.take c) (rest := X.drop c)
    (by rw [List.append_assoc, List.take_append_drop]) n (by rwa [logBytes_append])
  rw [List.length_append, List.length_take, Nat.min_eq_left hc] at this
  omega

theorem inv_round (hc : CodecOK crc enc dec) {snap : Option Store} {f : Bytes} {H : List Op}
    (hinv : Inv crc enc snap f H) (mem0 : Store) (hr : recover crc dec snap f = .ok mem0)
    (ops : List Op) (acked n : Nat) (hfit : Fits enc (runOps mem0 ops).1)
    (hn : (openRepair f).length ≤ n) (hacked : acked ≤ ops.length)
    (hack : (openRepair f ++ logBytes crc enc (runOps mem0 (ops.take acked)).1).length ≤ n) :
    ∃ k, acked ≤ k ∧ k ≤ ops.length ∧
      Inv crc enc snap ((openRepair f ++ logBytes crc enc (runOps mem0 ops).1).take n) (H ++ ops.take k) := by
  obtain ⟨S, hopen, hSfit, hSno, hmem, hme⟩ := inv_open hc hinv hr
  rw [hopen] at hn hack ⊢
  have hplain := runOps_plain mem0 ops
  obtain ⟨i, hi, htake, hall⟩ := take_split (crc := crc) (enc := enc) S (runOps mem0 ops).1 n hn
  obtain ⟨k, hk, hrep, hgrp⟩ := group_prefix mem0 ops i
  have hak : acked ≤ k := by
    apply hgrp acked hacked
    obtain ⟨rest, hrest⟩ := runOps_take_prefix mem0 ops acked
    apply hall _ (by rw [hrest]; simp)
    have : (runOps mem0 ops).1.take (runOps mem0 (ops.take acked)).1.length
        = (runOps mem0 (ops.take acked)).1 := by rw [hrest]; simp
    rw [this]; exact hack
  refine ⟨k, hak, hk, S ++ (runOps mem0 ops).1, n, by rw [logBytes_append], hSfit.append hfit,
    hSno.append (fun e he => (hplain e he).1), ?_⟩
  rw [htake, afterLastCkpt_append_plain _ _ (fun e he => (hplain e (List.mem_of_mem_take he)).2),
    replayMeta_append, ← replay_md, ← hmem, hrep, specRun_append]
  exact specRun_congr hme _

/-! a crash inside the checkpoint marker: the log `S ++ recs`, then `m` bytes of the marker -/

theorem marker_cut_bytes (S recs : List Entry) (id m : Nat) :
    logBytes crc enc S ++ logBytes crc enc recs ++ (encodeRec crc (enc (.checkpoint id))).take m
      = (logBytes crc enc (S ++ recs ++ [.checkpoint id])).take ((logBytes crc enc (S ++ recs)).length + m) := by
  rw [logBytes_append _ _ (S ++ recs), List.take_length_add_append, logBytes_singleton, logBytes_append]

/-- recovery then replays the whole old log (marker incomplete) or nothing: what holds of both holds of it -/
theorem marker_cut_records (S recs : List Entry) (id m : Nat) (nR : ∀ e ∈ recs, isCkpt e = false)
    {P : List Entry → Prop} (hold : P (afterLastCkpt S ++ recs)) (hnone : P []) :
    P (afterLastCkpt ((S ++ recs ++ [Entry.checkpoint id]).take
      (wholeWithin crc ((S ++ recs ++ [Entry.checkpoint id]).map enc) ((logBytes crc enc (S ++ recs)).length + m)))) := by
  obtain ⟨i, hi, htake, -⟩ := take_split (crc := crc) (enc := enc) (S ++ recs) [.checkpoint id]
    ((logBytes crc enc (S ++ recs)).length + m) (by omega)
  rw [htake]
  simp only [List.length_singleton] at hi
  have hi' : i = 0 ∨ i = 1 := by omega
  rcases hi' with rfl | rfl
  · rwa [List.take_zero, List.append_nil, afterLastCkpt_append_plain _ _ nR]
  · rwa [List.take_of_length_le (by simp), afterLastCkpt_append_ckpt]

theorem inv_ckpt (S recs : List Entry) (hS : Fits enc S) (hR : Fits enc recs) (nS : NoTx S)
    (nR : ∀ e ∈ recs, isTx e = false ∧ isCkpt e = false) (live : Store) (m0 : List (Bytes × Val))
    (hlive : live.md = replayMeta m0 (afterLastCkpt S ++ recs)) (id m : Nat)
    (hid : (enc (.checkpoint id)).length < U32) :
    ∃ (R : List Entry) (n : Nat),
      logBytes crc enc S ++ logBytes crc enc recs ++ (encodeRec crc (enc (.checkpoint id))).take m
        = (logBytes crc enc R).take n ∧ Fits enc R ∧ NoTx R ∧
      MetaEq (replayMeta live.md (afterLastCkpt (R.take (wholeWithin crc (R.map enc) n)))) live.md := by
  refine ⟨_, _, marker_cut_bytes S recs id m, (hS.append hR).append_ckpt hid,
    (nS.append (fun e he => (nR e he).1)).append_ckpt id, ?_⟩
  refine marker_cut_records S recs id m (fun e he => (nR e he).2)
    (P := fun X => MetaEq (replayMeta live.md X) live.md) ?_ (MetaEq.refl _)
  rw [hlive]; exact replayMeta_idem _ _

theorem reach_inv (hc : CodecOK crc enc dec) {snap : Option Store} {f : Bytes} {tr : Trace}
    (h : Reach crc enc dec snap f tr) : ∃ H, PrefixOf tr H ∧ Inv crc enc snap f H := by
  induction h with
  | init =>
    exact ⟨[], .nil, [], 0, rfl, by intro e he; simp at he, by intro e he; simp at he, MetaEq.refl _⟩
  | round mem0 ops acked n _ hr hfit hn hacked hack ih =>
    obtain ⟨H, hpre, hinv⟩ := ih
    obtain ⟨k, hak, hk, hinv'⟩ := inv_round hc hinv mem0 hr ops acked n hfit hn hacked hack
    exact ⟨H ++ ops.take k, .snoc ops acked k hpre hak hk, hinv'⟩
  | @ckptCrash snap' f' tr' mem0 ops id m _ hr hfit hid ih =>
    obtain ⟨H, hpre, hinv⟩ := ih
    obtain ⟨S, hopen, hSfit, hSno, hmem, hme⟩ := inv_open hc hinv hr
    obtain ⟨R, n, hf, hRfit, hRno, hRme⟩ := inv_ckpt (crc := crc) S (runOps mem0 ops).1 hSfit hfit hSno
      (runOps_plain mem0 ops) (runOps mem0 ops).2 _ (runOps_md_over hmem ops) id m hid
    refine ⟨H ++ ops.take ops.length, .snoc ops ops.length ops.length hpre (Nat.le_refl _) (Nat.le_refl _),
      R, n, by rw [hopen]; exact hf, hRfit, hRno, ?_⟩
    refine hRme.trans ?_
    rw [List.take_length, specRun_append, runOps_md]
    exact specRun_congr hme _
  | ckptDone mem0 ops _ hr hfit ih =>
    obtain ⟨H, hpre, hinv⟩ := ih
    obtain ⟨S, hopen, hSfit, hSno, hmem, hme⟩ := inv_open hc hinv hr
    refine ⟨H ++ ops.take ops.length, .snoc ops ops.length ops.length hpre (Nat.le_refl _) (Nat.le_refl _),
      [], 0, rfl, by intro e he; simp at he, by intro e he; simp at he, ?_⟩
    show MetaEq (runOps mem0 ops).2.md _
    rw [List.take_length, specRun_append, runOps_md]
    exact specRun_congr hme _

end inv

theorem Wal.append_file (mode : SyncMode) (w : Wal) (b : Bytes) :
    (Wal.append mode w b).file = w.file ++ b := by
  unfold Wal.append
  simp only []
  split <;> try rfl
  split <;> rfl

theorem Wal.append_immediate (w : Wal) (b : Bytes) :
    (Wal.append .immediate w b).syncedLen = (Wal.append .immediate w b).file.length := by
  simp [Wal.append]

section writer
variable (crc : Bytes → Nat) (enc : Entry → Bytes)

theorem foldl_append_file (mode : SyncMode) (es : List Entry) (w : Wal) :
    (es.foldl (fun w e => Wal.append mode w (encodeRec crc (enc e))) w).file
      = w.file ++ logBytes crc enc es := by
  induction es generalizing w with
  | nil => simp [logBytes_nil]
  | cons e es ih =>
    rw [List.foldl_cons, ih, Wal.append_file, logBytes_cons, List.append_assoc]

theorem foldl_append_immediate (es : List Entry) (w : Wal) (h : w.syncedLen = w.file.length) :
    (es.foldl (fun w e => Wal.append .immediate w (encodeRec crc (enc e))) w).syncedLen
      = (es.foldl (fun w e => Wal.append .immediate w (encodeRec crc (enc e))) w).file.length := by
  induction es generalizing w with
  | nil => exact h
  | cons e es ih =>
    rw [List.foldl_cons]
    exact ih _ (Wal.append_immediate w _)

theorem Sys.op_file (sy : Sys) (o : Op) :
    (Sys.op crc enc sy o).wal.file = sy.wal.file ++ logBytes crc enc (step sy.mem o).1 := by
  simp only [Sys.op, Sys.log]
  exact foldl_append_file crc enc sy.mode _ sy.wal

theorem Sys.op_mem (sy : Sys) (o : Op) :
    (Sys.op crc enc sy o).mem = (step sy.mem o).2 := rfl

theorem Sys.op_mode (sy : Sys) (o : Op) :
    (Sys.op crc enc sy o).mode = sy.mode := rfl

theorem Sys.op_immediate (sy : Sys) (o : Op)
    (hm : sy.mode = .immediate) (h0 : sy.wal.syncedLen = sy.wal.file.length) :
    (Sys.op crc enc sy o).wal.syncedLen = (Sys.op crc enc sy o).wal.file.length := by
  simp only [Sys.op, Sys.log, hm]
  exact foldl_append_immediate crc enc _ sy.wal h0

end writer

/-! #### the overlay invariant: what the embedding slab holds for a live `emb:` key is the
    `_embedding` of the key's metadata value -/

def SlabInv (s : Store) : Prop :=
  ∀ (k : Bytes) (id : Nat) (vec : Bytes), classify k = .embedding → idxGet s.vocab k = some id →
    aget s.slab id = some vec → ∃ v, aget s.md k = some v ∧ v.emb = some vec

/-- a live index entry of an `emb:` key has its metadata record -/
def IdxMd (s : Store) : Prop :=
  ∀ (k : Bytes) (id : Nat), classify k = .embedding → idxGet s.vocab k = some id → (aget s.md k).isSome = true

structure Good (s : Store) : Prop where
  nodup : LiveNodup s.vocab
  slab : SlabInv s
  idxmd : IdxMd s

/-- the full observable image of the durable key classes agrees with a key → value map -/
def FullEq (r : Store) (m : List (Bytes × Val)) : Prop :=
  ∀ k, isCacheKey k = false → get r k = aget m k

theorem good_empty : Good Store.empty := by
  refine ⟨?_, ?_, ?_⟩
  · intro i j k h; simp [Store.empty] at h
  · intro k id vec _ h; simp [Store.empty, idxGet, idxGetAux] at h
  · intro k id _ h; simp [Store.empty, idxGet, idxGetAux] at h

theorem good_get {s : Store} (hg : Good s) (k : Bytes) (hc : isCacheKey k = false) :
    get s k = aget s.md k := by
  unfold isCacheKey at hc
  have hc' : classify k ≠ .cache := by simpa using hc
  unfold get
  cases hk : classify k <;> simp only [] <;> try (first | rfl | exact absurd hk hc')
  cases hi : idxGet s.vocab k with
  | none => rfl
  | some id =>
    simp only []
    cases hs : aget s.slab id with
    | none => rfl
    | some vec =>
      obtain ⟨v, hv, he⟩ := hg.slab k id vec hk hi hs
      obtain ⟨b, e⟩ := v
      simp only [] at he
      subst he
      simp [hv]

theorem good_fullEq {s : Store} (hg : Good s) {m : List (Bytes × Val)} (h : MetaEq s.md m) : FullEq s m :=
  fun k hc => (good_get hg k hc).trans (h k)

/-- `Good` without "a live index entry has its metadata record": a slab vector of a live `emb:` key
    is the `_embedding` of the key's metadata value, OR the key has no metadata value -/
structure WGood (s : Store) : Prop where
  nodup : LiveNodup s.vocab
  slab : ∀ (k : Bytes) (id : Nat) (vec : Bytes), classify k = .embedding → idxGet s.vocab k = some id →
    aget s.slab id = some vec → aget s.md k = none ∨ ∃ v, aget s.md k = some v ∧ v.emb = some vec

theorem Good.wgood {s : Store} (hg : Good s) : WGood s :=
  ⟨hg.nodup, fun k id vec hk hi hs => .inr (hg.slab k id vec hk hi hs)⟩

theorem good_of_wgood {s : Store} (hw : WGood s) (hi : IdxMd s) : Good s := by
  refine ⟨hw.nodup, ?_, hi⟩
  intro k id vec hk hix hs
  rcases hw.slab k id vec hk hix hs with h | h
  · have := hi k id hk hix
    rw [h] at this
    cases this
  · exact h

theorem slabPut_get_self (sl : List (Nat × Bytes)) (id : Nat) (vec : Bytes) :
    aget (slabPut sl id vec) id = if dimOk vec then some vec else none := by
  unfold slabPut
  split
  · exact aget_aset_eq _ _ _
  · exact aget_aerase_eq _ _

theorem slabPut_get_ne (sl : List (Nat × Bytes)) (id id' : Nat) (vec : Bytes) (hne : id ≠ id') :
    aget (slabPut sl id vec) id' = aget sl id' := by
  unfold slabPut
  split
  · exact aget_aset_ne _ _ _ _ hne
  · exact aget_aerase_ne _ _ _ hne

theorem putSlab_get_self (sl : List (Nat × Bytes)) (id : Nat) (e : Option Bytes) (vec : Bytes)
    (h : aget (putSlab sl id e) id = some vec) : e = some vec := by
  cases e with
  | none => simp [putSlab, aget_aerase_eq] at h
  | some w =>
    simp only [putSlab, slabPut_get_self] at h
    split at h
    · injection h with h; rw [h]
    · cases h

theorem putSlab_get_ne (sl : List (Nat × Bytes)) (id id' : Nat) (e : Option Bytes) (hne : id ≠ id') :
    aget (putSlab sl id e) id' = aget sl id' := by
  cases e with
  | none => exact aget_aerase_ne _ _ _ hne
  | some w => exact slabPut_get_ne _ _ _ _ hne

theorem applyEntry_metaSet (s : Store) (k : Bytes) (v : Val) :
    applyEntry s (.metaSet k v) =
      if classify k = .embedding then putEmb s k v else { s with md := aset s.md k v } := by
  simp only [applyEntry, putEmb, putSlab]
  split
  · cases v.emb <;> rfl
  · rfl

theorem wgood_putEmb {s : Store} (hw : WGood s) (k : Bytes) (v : Val) : WGood (putEmb s k v) := by
  refine ⟨liveNodup_getOrCreate hw.nodup k, ?_⟩
  intro k1 id1 vec1 hk1 hi hs
  simp only [putEmb] at hi hs ⊢
  by_cases e : k = k1
  · subst e
    rw [idxGetOrCreate_get] at hi
    injection hi with hi
    subst hi
    exact .inr ⟨v, aget_aset_eq _ _ _, putSlab_get_self _ _ _ _ hs⟩
  · have hne : (idxGetOrCreate s.vocab k).1 ≠ id1 := by
      intro h
      rw [← h] at hi
      exact e (idxGet_inj (idxGetOrCreate_get s.vocab k) hi)
    rw [idxGetOrCreate_get_ne _ _ _ e] at hi
    rw [putSlab_get_ne _ _ _ _ hne] at hs
    rw [aget_aset_ne _ _ _ _ e]
    exact hw.slab k1 id1 vec1 hk1 hi hs

theorem wgood_applyEntry {s : Store} (hw : WGood s) (e : Entry) (he : EntryOk e) :
    WGood (applyEntry s e) := by
  cases e with
  | metaSet k v =>
    rw [applyEntry_metaSet]
    split
    · exact wgood_putEmb hw k v
    · rename_i hk
      refine ⟨hw.nodup, ?_⟩
      intro k1 id1 vec1 hk1 hi hs
      have e : k ≠ k1 := by intro h; subst h; exact hk hk1
      simp only [] at hi hs ⊢
      rw [aget_aset_ne _ _ _ _ e]
      exact hw.slab k1 id1 vec1 hk1 hi hs
  | metaDel k =>
    refine ⟨hw.nodup, ?_⟩
    intro k1 id1 vec1 hk1 hi hs
    simp only [applyEntry] at hi hs ⊢
    by_cases e : k = k1
    · subst e; exact .inl (aget_aerase_eq _ _)
    · rw [aget_aerase_ne _ _ _ e]
      exact hw.slab k1 id1 vec1 hk1 hi hs
  | embDel id =>
    refine ⟨hw.nodup, ?_⟩
    intro k1 id1 vec1 hk1 hi hs
    simp only [applyEntry] at hi hs ⊢
    by_cases e : id = id1
    · subst e; rw [aget_aerase_eq] at hs; cases hs
    · rw [aget_aerase_ne _ _ _ e] at hs
      exact hw.slab k1 id1 vec1 hk1 hi hs
  | entCreate k id => exact absurd he (by simp [EntryOk])
  | entRemove k =>
    refine ⟨liveNodup_remove hw.nodup k, ?_⟩
    intro k1 id1 vec1 hk1 hi hs
    simp only [applyEntry] at hi hs ⊢
    by_cases e : k = k1
    · subst e; rw [idxRemove_get_self _ _ hw.nodup] at hi; cases hi
    · rw [idxRemove_get_ne _ _ _ e] at hi
      exact hw.slab k1 id1 vec1 hk1 hi hs
  | _ => exact hw

theorem good_putEmb {s : Store} (hg : Good s) (k : Bytes) (v : Val) : Good (putEmb s k v) := by
  refine good_of_wgood (wgood_putEmb hg.wgood k v) (fun k1 id1 hk1 hi => ?_)
  simp only [putEmb] at hi ⊢
  by_cases e : k = k1
  · subst e; rw [aget_aset_eq]; rfl
  · rw [idxGetOrCreate_get_ne _ _ _ e] at hi
    rw [aget_aset_ne _ _ _ _ e]
    exact hg.idxmd k1 id1 hk1 hi

theorem good_md_update {s : Store} (hg : Good s) {k : Bytes} (hk : classify k ≠ .embedding)
    {md : List (Bytes × Val)} (h : ∀ k1, k ≠ k1 → aget md k1 = aget s.md k1) : Good { s with md := md } := by
  refine ⟨hg.nodup, ?_, ?_⟩
  · intro k1 id1 vec1 hk1 hi hs
    show ∃ v, aget md k1 = some v ∧ _
    rw [h k1 (fun e => hk (e ▸ hk1))]
    exact hg.slab k1 id1 vec1 hk1 hi hs
  · intro k1 id1 hk1 hi
    show (aget md k1).isSome = true
    rw [h k1 (fun e => hk (e ▸ hk1))]
    exact hg.idxmd k1 id1 hk1 hi

theorem good_metaSet {s : Store} (hg : Good s) (k : Bytes) (v : Val) : Good (applyEntry s (.metaSet k v)) := by
  rw [applyEntry_metaSet]
  split
  · exact good_putEmb hg k v
  · rename_i hk
    exact good_md_update hg hk (fun k1 e => aget_aset_ne _ _ _ _ e)

theorem good_embDel {s : Store} (hg : Good s) (id : Nat) : Good (applyEntry s (.embDel id)) :=
  good_of_wgood (wgood_applyEntry hg.wgood (.embDel id) trivial) hg.idxmd

theorem good_entRemove {s : Store} (hg : Good s) (k : Bytes) : Good (applyEntry s (.entRemove k)) := by
  refine good_of_wgood (wgood_applyEntry hg.wgood (.entRemove k) trivial) (fun k1 id1 hk1 hi => ?_)
  simp only [applyEntry] at hi ⊢
  by_cases e : k = k1
  · subst e; rw [idxRemove_get_self _ _ hg.nodup] at hi; cases hi
  · rw [idxRemove_get_ne _ _ _ e] at hi
    exact hg.idxmd k1 id1 hk1 hi

theorem good_metaDel {s : Store} (hg : Good s) (k : Bytes)
    (h : classify k = .embedding → idxGet s.vocab k = none) : Good (applyEntry s (.metaDel k)) := by
  refine good_of_wgood (wgood_applyEntry hg.wgood (.metaDel k) trivial) (fun k1 id1 hk1 hi => ?_)
  simp only [applyEntry] at hi ⊢
  by_cases e : k = k1
  · subst e; rw [h hk1] at hi; cases hi
  · rw [aget_aerase_ne _ _ _ e]
    exact hg.idxmd k1 id1 hk1 hi

theorem good_delApplied {s : Store} (hg : Good s) (k : Bytes) : Good (delApplied s k) := by
  cases hi : idxGet s.vocab k with
  | none =>
    have : delApplied s k = applyEntry s (.metaDel k) := by simp only [delApplied, idxRemove, hi, applyEntry]
    rw [this]
    exact good_metaDel hg k (fun _ => hi)
  | some id =>
    have : delApplied s k = applyEntry (applyEntry (applyEntry s (.embDel id)) (.entRemove k)) (.metaDel k) := by
      simp only [delApplied, hi, applyEntry]
    rw [this]
    exact good_metaDel (good_entRemove (good_embDel hg id) k) k (fun _ => idxRemove_get_self _ _ hg.nodup)

theorem good_step {s : Store} (hg : Good s) (op : Op) : Good (step s op).2 := by
  rw [step_snd]
  cases op with
  | put k v =>
    simp only []
    split
    · exact ⟨hg.nodup, hg.slab, hg.idxmd⟩  -- `Good` does not look at the cache
    · split
      · exact good_putEmb hg k v
      · rename_i hk; exact good_md_update hg hk (fun k1 e => aget_aset_ne _ _ _ _ e)
  | delete k =>
    simp only []
    split
    · exact ⟨hg.nodup, hg.slab, hg.idxmd⟩
    · split
      · exact good_delApplied hg k
      · rename_i hk; exact good_md_update hg hk (fun k1 e => aget_aerase_ne _ _ _ e)

theorem good_runOps {s : Store} (hg : Good s) (ops : List Op) : Good (runOps s ops).2 := by
  induction ops generalizing s with
  | nil => exact hg
  | cons op ops ih => rw [runOps_cons]; exact ih (good_step hg op)

theorem applyEntry_vocab_embDel (s : Store) (id : Nat) : (applyEntry s (.embDel id)).vocab = s.vocab := rfl
theorem applyEntry_vocab_metaDel (s : Store) (k : Bytes) : (applyEntry s (.metaDel k)).vocab = s.vocab := rfl
theorem applyEntry_vocab_entRemove (s : Store) (k : Bytes) :
    (applyEntry s (.entRemove k)).vocab = idxRemove s.vocab k := rfl

theorem replay_cons (s : Store) (e : Entry) (es : List Entry) :
    replay s (e :: es) = replay (applyEntry s e) es := rfl

theorem replay_nil (s : Store) : replay s [] = s := rfl

theorem replay_append (s : Store) (xs ys : List Entry) :
    replay s (xs ++ ys) = replay (replay s xs) ys := by
  simp [replay, List.foldl_append]

theorem putEmb_live (s : Store) (k k1 : Bytes) (v : Val) :
    (idxGet (putEmb s k v).vocab k1).isSome = (decide (k = k1) || (idxGet s.vocab k1).isSome) := by
  simp only [putEmb]
  by_cases e : k = k1
  · subst e; rw [idxGetOrCreate_get]; simp
  · rw [idxGetOrCreate_get_ne _ _ _ e]; simp [e]

/-! #### which `emb:` keys are in the entity index after a replay: the last record decides -/

/-- what a record says about "is `key` in the entity index" -/
def liveOf (key : Bytes) : Entry → Option Bool
  | .metaSet k _ => if k = key ∧ classify k = .embedding then some true else none
  | .entRemove k => if k = key then some false else none
  | _ => none

def lastLive : List Entry → Bytes → Option Bool
  | [], _ => none
  | e :: es, key =>
    match lastLive es key with
    | some r => some r
    | none => liveOf key e

theorem nodup_applyEntry {s : Store} (hn : LiveNodup s.vocab) (e : Entry) (he : EntryOk e) :
    LiveNodup (applyEntry s e).vocab := by
  cases e with
  | metaSet k v =>
    rw [applyEntry_metaSet]
    split
    · exact liveNodup_getOrCreate hn k
    · exact hn
  | entRemove k => exact liveNodup_remove hn k
  | entCreate k id => exact absurd he (by simp [EntryOk])
  | _ => exact hn

theorem live_applyEntry {s : Store} (hn : LiveNodup s.vocab) (e : Entry) (he : EntryOk e) (key : Bytes) :
    (idxGet (applyEntry s e).vocab key).isSome
      = match liveOf key e with | some b => b | none => (idxGet s.vocab key).isSome := by
  cases e with
  | metaSet k v =>
    rw [applyEntry_metaSet]
    by_cases hk : classify k = .embedding
    · rw [if_pos hk, putEmb_live]
      by_cases e : k = key
      · subst e; simp [liveOf, hk]
      · simp [liveOf, e]
    · rw [if_neg hk]
      simp [liveOf, hk]
  | entRemove k =>
    simp only [applyEntry, liveOf]
    by_cases e : k = key
    · subst e; rw [idxRemove_get_self _ _ hn]; simp
    · rw [idxRemove_get_ne _ _ _ e]; simp [e]
  | entCreate k id => exact absurd he (by simp [EntryOk])
  | _ => rfl

/-- the store replay started from matters only when the log has no such record of the key -/
theorem live_replay {s : Store} (hn : LiveNodup s.vocab) (es : List Entry) (he : ∀ e ∈ es, EntryOk e)
    (key : Bytes) :
    (idxGet (replay s es).vocab key).isSome
      = match lastLive es key with | some b => b | none => (idxGet s.vocab key).isSome := by
  induction es generalizing s with
  | nil => rfl
  | cons e es ih =>
    have he0 := he e (by simp)
    rw [replay_cons, ih (nodup_applyEntry hn e he0) (fun x hx => he x (by simp [hx])), lastLive]
    cases h : lastLive es key with
    | some r => rfl
    | none => simp only []; exact live_applyEntry hn e he0 key

/-- the writer's own index follows the rule of a replay (`live_replay`) of the records it logged -/
theorem step_live {s : Store} (hn : LiveNodup s.vocab) (op : Op) {k1 : Bytes} (hk1 : classify k1 = .embedding) :
    (idxGet (step s op).2.vocab k1).isSome
      = match lastLive (step s op).1 k1 with | some b => b | none => (idxGet s.vocab k1).isSome := by
  rw [step_vocab]
  cases op with
  | put k v =>
    by_cases e : k = k1
    · subst e
      simp only [step, putDurable_fst]
      rw [if_pos hk1, idxGetOrCreate_get, if_neg (by simp [isCacheKey, hk1]), if_pos hk1]
      cases v.emb <;> simp [lastLive, liveOf, hk1]
    · -- no record of this operation speaks of `k1`
      have hrec : lastLive (step s (.put k v)).1 k1 = none := by
        rcases step_cases s (.put k v) with h | ⟨_, _, ho, -, h | ⟨id, vec, -, h⟩⟩ | ⟨_, ho, -⟩
        · rw [h]; rfl
        · cases ho; rw [h]; simp [lastLive, liveOf, e]
        · cases ho; rw [h]; simp [lastLive, liveOf, e]
        · cases ho
      rw [hrec]
      simp only []
      split
      · rw [idxGetOrCreate_get_ne _ _ _ e]
      · rfl
  | delete k =>
    by_cases e : k = k1
    · subst e
      simp only [step, deleteDurable_fst]
      rw [if_pos hk1, idxRemove_get_self _ _ hn, if_neg (by simp [isCacheKey, hk1])]
      cases hi : idxGet s.vocab k <;> simp [lastLive, liveOf]
    · have hrec : lastLive (step s (.delete k)).1 k1 = none := by
        rcases step_cases s (.delete k) with h | ⟨_, _, ho, -⟩ | ⟨_, ho, -, ⟨-, h⟩ | ⟨id, -, h⟩⟩
        · rw [h]; rfl
        · cases ho
        · cases ho; rw [h]; rfl
        · cases ho; rw [h]; simp [lastLive, liveOf, e]
      rw [hrec]
      simp only []
      split
      · rw [idxRemove_get_ne _ _ _ e]
      · rfl

theorem lastLive_neutral (es : List Entry) (h : ∀ e ∈ es, isNeutral e = true) (k : Bytes) :
    lastLive es k ≠ some true := by
  induction es with
  | nil => exact nofun
  | cons e es ih =>
    rw [lastLive]
    cases hl : lastLive es k with
    | some r => exact fun e => ih (fun x hx => h x (List.mem_cons_of_mem _ hx)) (hl.trans e)
    | none =>
      have he := h e List.mem_cons_self
      cases e with
      | metaSet k' v => cases he
      | entRemove k' => simp only [liveOf]; split <;> nofun
      | _ => nofun

/-- a strict prefix of the records of one operation is neutral (`step_shape`) -/
theorem lastLive_strict (s : Store) (op : Op) (t : Nat) (ht : t < (step s op).1.length) (k1 : Bytes) :
    lastLive ((step s op).1.take t) k1 ≠ some true := by
  rcases step_shape s op with h | ⟨pre, last, h, hn⟩ <;> rw [h] at ht ⊢
  · cases ht
  · rw [List.length_append, List.length_singleton] at ht
    rw [List.take_append_of_le_length (by omega)]
    exact lastLive_neutral _ (fun e he => hn e (List.mem_of_mem_take he)) k1

/-- `Good` after EVERY record: a `MetadataDelete` logged alone is of a key the writer, hence `P`, does not index -/
theorem good_replay_step_take {P L : Store} (hP : Good P)
    (hsub : ∀ k, classify k = .embedding → (idxGet P.vocab k).isSome = true → (idxGet L.vocab k).isSome = true)
    (op : Op) (j : Nat) : Good (replay P ((step L op).1.take j)) := by
  rcases step_cases L op with h | ⟨k, v, -, -, h | ⟨id, vec, -, h⟩⟩ | ⟨k, -, -, ⟨hix, h⟩ | ⟨id, -, h⟩⟩ <;> rw [h]
  · rw [List.take_nil]; exact hP
  · match j with
    | 0 => exact hP
    | j + 1 => rw [List.take_succ_cons, List.take_nil]; exact good_metaSet hP k v
  · match j with
    | 0 => exact hP
    | 1 => exact hP
    | j + 2 => rw [List.take_succ_cons, List.take_succ_cons, List.take_nil]; exact good_metaSet hP k v
  · match j with
    | 0 => exact hP
    | j + 1 =>
      rw [List.take_succ_cons, List.take_nil]
      refine good_metaDel hP k (fun hk => ?_)
      cases hp : idxGet P.vocab k with
      | none => rfl
      | some i =>
        have := hsub k hk (by rw [hp]; rfl)
        rw [hix] at this
        cases this
  · have g1 := good_embDel hP id
    have g2 := good_entRemove g1 k
    match j with
    | 0 => exact hP
    | 1 => exact g1
    | 2 => exact g2
    | j + 3 =>
      rw [List.take_succ_cons, List.take_succ_cons, List.take_succ_cons, List.take_nil]
      exact good_metaDel g2 k (fun _ => idxRemove_get_self _ _ hP.nodup)

/-- what the replayed store `P` and the store `L` of the writing session share: the metadata
    map and WHICH `emb:` keys are in the entity index (not their ids — replay assigns its own) -/
structure Sim (P L : Store) : Prop where
  md : P.md = L.md
  live : ∀ k, classify k = .embedding → (idxGet P.vocab k).isSome = (idxGet L.vocab k).isSome

theorem sim_refl (s : Store) : Sim s s := ⟨rfl, fun _ _ => rfl⟩

theorem sim_step {P L : Store} (hP : Good P) (hL : Good L) (hs : Sim P L) (op : Op) :
    (∀ j, Good (replay P ((step L op).1.take j))) ∧ Sim (replay P (step L op).1) (step L op).2 := by
  refine ⟨good_replay_step_take hP (fun k hk h => by rw [← hs.live k hk]; exact h) op, ?_, fun k hk => ?_⟩
  · rw [replay_md, hs.md, step_replay, step_md]
  · rw [live_replay hP.nodup _ (fun e he => (step_mem L op he).2.2) k, hs.live k hk]
    exact (step_live hL.nodup op hk).symm

/-- whole operation lists: every record-prefix of the log (in particular one that ends inside the
    records of one operation) replays to a store that satisfies the overlay invariant -/
theorem sim_runOps {P L : Store} (hP : Good P) (hL : Good L) (hs : Sim P L) (ops : List Op) :
    (∀ i, Good (replay P ((runOps L ops).1.take i))) ∧ Sim (replay P (runOps L ops).1) (runOps L ops).2 := by
  induction ops generalizing P L with
  | nil => exact ⟨fun i => by simpa [runOps_nil, replay_nil] using hP, hs⟩
  | cons op ops ih =>
    obtain ⟨hpre, hsim⟩ := sim_step hP hL hs op
    have hfull := hpre (step L op).1.length
    rw [List.take_length] at hfull
    obtain ⟨h1, h2⟩ := ih hfull (good_step hL op) hsim
    rw [runOps_cons]
    refine ⟨fun i => ?_, by rw [replay_append]; exact h2⟩
    by_cases hle : (step L op).1.length ≤ i
    · rw [List.take_append, List.take_of_length_le hle, replay_append]
      exact h1 _
    · rw [List.take_append_of_le_length (by omega)]
      exact hpre i

theorem good_replay_take {P L : Store} (hP : Good P) (hL : Good L) (hs : Sim P L) (ops : List Op) (i : Nat) :
    Good (replay P ((runOps L ops).1.take i)) :=
  (sim_runOps hP hL hs ops).1 i

/-! #### every slab holds keys of its own class only; `scan` lists readable keys only -/

/-- the metadata slab holds no `_cache:` key, the cache ring only `_cache:` keys, the entity index
    only `emb:` keys (since the fix "only `emb:` keys get an entity-index entry") -/
structure Classed (s : Store) : Prop where
  md : ∀ p ∈ s.md, classify p.1 ≠ .cache
  cache : ∀ p ∈ s.cache, classify p.1 = .cache
  vocab : ∀ p ∈ s.vocab, classify p.1 = .embedding

theorem classed_empty : Classed Store.empty :=
  ⟨by simp [Store.empty], by simp [Store.empty], by simp [Store.empty]⟩

section assoc2
variable {α : Type _} {β : Type _} [DecidableEq α]

theorem mem_aerase {m : List (α × β)} {k : α} {p : α × β} (h : p ∈ aerase m k) : p ∈ m :=
  (List.mem_filter.mp h).1

theorem mem_aset {m : List (α × β)} {k : α} {v : β} {p : α × β} (h : p ∈ aset m k v) :
    p = (k, v) ∨ p ∈ m := by
  simp only [aset, List.mem_cons] at h
  rcases h with h | h
  · exact .inl h
  · exact .inr (mem_aerase h)

theorem aget_isSome_of_mem {m : List (α × β)} {k : α} (h : k ∈ m.map (·.1)) :
    (aget m k).isSome = true := by
  induction m with
  | nil => simp at h
  | cons p m ih =>
    obtain ⟨k', v⟩ := p
    simp only [aget]
    by_cases e : k' = k
    · simp [e]
    · simp only [e, if_false]
      apply ih
      simp only [List.map_cons, List.mem_cons] at h
      rcases h with h | h
      · exact absurd h.symm e
      · exact h
end assoc2

theorem mem_idxGetOrCreate {v : List (Bytes × Bool)} {k : Bytes} {p : Bytes × Bool}
    (h : p ∈ (idxGetOrCreate v k).2) : p ∈ v ∨ p = (k, true) := by
  unfold idxGetOrCreate at h
  cases hi : idxGet v k with
  | some i => simp only [hi] at h; exact .inl h
  | none => simpa [hi] using h

theorem mem_idxRemove {v : List (Bytes × Bool)} {k : Bytes} {p : Bytes × Bool}
    (h : p ∈ idxRemove v k) : p ∈ v ∨ p = (k, false) := by
  unfold idxRemove at h
  cases hi : idxGet v k with
  | none => simp only [hi] at h; exact .inl h
  | some i => simp only [hi] at h; exact List.mem_or_eq_of_mem_set h

theorem classed_putEmb {s : Store} (hc : Classed s) (k : Bytes) (v : Val) (hk : classify k = .embedding) :
    Classed (putEmb s k v) := by
  refine ⟨?_, hc.cache, ?_⟩
  · intro p hp
    rcases mem_aset hp with h | h
    · subst h; simp [hk]
    · exact hc.md p h
  · intro p hp
    rcases mem_idxGetOrCreate hp with h | h
    · exact hc.vocab p h
    · subst h; exact hk

theorem classed_md_set {s : Store} (hc : Classed s) (k : Bytes) (v : Val) (hk : classify k ≠ .cache) :
    Classed { s with md := aset s.md k v } := by
  refine ⟨?_, hc.cache, hc.vocab⟩
  intro p hp
  rcases mem_aset hp with h | h
  · subst h; exact hk
  · exact hc.md p h

theorem classed_md_erase {s : Store} (hc : Classed s) (k : Bytes) :
    Classed { s with md := aerase s.md k } :=
  ⟨fun p hp => hc.md p (mem_aerase hp), hc.cache, hc.vocab⟩

/-- `idxRemove` rewrites a slot only when the key is in the index -/
theorem idxRemove_classed {v : List (Bytes × Bool)} (h : ∀ p ∈ v, classify p.1 = .embedding) (k : Bytes) :
    ∀ p ∈ idxRemove v k, classify p.1 = .embedding := by
  intro p hp
  rcases mem_idxRemove hp with h' | h'
  · exact h p h'
  · subst h'
    cases hi : idxGet v k with
    | none => simp only [idxRemove, hi] at hp; exact h _ hp
    | some i => exact h (k, true) (List.mem_of_getElem? (idxGet_some hi))

theorem classed_delApplied {s : Store} (hc : Classed s) (k : Bytes) : Classed (delApplied s k) :=
  ⟨fun p hp => hc.md p (mem_aerase hp), hc.cache, idxRemove_classed hc.vocab k⟩

theorem classed_step {s : Store} (hc : Classed s) (op : Op) : Classed (step s op).2 := by
  rw [step_snd]
  cases op with
  | put k v =>
    simp only []
    split
    · rename_i hk
      refine ⟨hc.md, fun p hp => ?_, hc.vocab⟩
      rcases mem_aset hp with h | h
      · subst h; exact isCacheKey_eq_true.mp hk
      · exact hc.cache p h
    · rename_i hk
      split
      · rename_i he; exact classed_putEmb hc k v he
      · exact classed_md_set hc k v (by simpa [isCacheKey] using hk)
  | delete k =>
    simp only []
    split
    · exact ⟨hc.md, fun p hp => hc.cache p (mem_aerase hp), hc.vocab⟩
    · split
      · exact classed_delApplied hc k
      · exact classed_md_erase hc k

theorem classed_runOps {s : Store} (hc : Classed s) (ops : List Op) : Classed (runOps s ops).2 := by
  induction ops generalizing s with
  | nil => exact hc
  | cons op ops ih => rw [runOps_cons]; exact ih (classed_step hc op)

theorem classed_applyEntry {s : Store} (hc : Classed s) (e : Entry) (he : EntryOk e) :
    Classed (applyEntry s e) := by
  cases e with
  | metaSet k v =>
    rw [applyEntry_metaSet]
    split
    · rename_i hk; exact classed_putEmb hc k v hk
    · exact classed_md_set hc k v he
  | metaDel k => exact classed_md_erase hc k
  | embDel id => exact ⟨hc.md, hc.cache, hc.vocab⟩
  | entCreate k id => exact absurd he (by simp [EntryOk])
  | entRemove k => exact ⟨hc.md, hc.cache, idxRemove_classed hc.vocab k⟩
  | _ => exact hc

theorem classed_replay {s : Store} (hc : Classed s) (es : List Entry) (he : ∀ e ∈ es, EntryOk e) :
    Classed (replay s es) := by
  induction es generalizing s with
  | nil => exact hc
  | cons e es ih =>
    rw [replay_cons]
    exact ih (classed_applyEntry hc e (he e (by simp))) (fun x hx => he x (by simp [hx]))

theorem scan_readable {s : Store} (hg : Good s) (hc : Classed s) :
    ∀ k ∈ scanKeys s, (get s k).isSome = true := by
  intro k hk
  simp only [scanKeys, List.mem_append] at hk
  rcases hk with (hk | hk) | hk
  · -- a key of the metadata slab
    obtain ⟨p, hp, rfl⟩ := List.mem_map.mp hk
    rw [good_get hg _ (isCacheKey_eq_false.mpr (hc.md p hp))]
    exact aget_isSome_of_mem hk
  · -- a live entry of the entity index: an `emb:` key, which has its metadata record
    obtain ⟨⟨k, b⟩, hp, rfl⟩ := List.mem_map.mp hk
    obtain ⟨hpv, hlive⟩ := List.mem_filter.mp hp
    simp only [] at hlive
    subst hlive
    have hcl : classify k = .embedding := hc.vocab _ hpv
    rw [good_get hg k (by simp [isCacheKey, hcl])]
    cases hi : idxGet s.vocab k with
    | some id => exact hg.idxmd k id hcl hi
    | none => exact absurd hpv (idxGet_none_iff.mp hi)
  · -- a key of the cache ring
    obtain ⟨p, hp, rfl⟩ := List.mem_map.mp hk
    unfold get
    simp only [hc.cache p hp]
    exact aget_isSome_of_mem hk

/-- **The property for one crash of a fresh store, full observable image**: the recovery function
    `rec` (snapshot, log bytes) applied to the first `n` bytes of the log of `ops` succeeds with a
    store whose `get` answers, for every key outside the `_cache:` class, exactly what the map
    produced by the first `k` operations holds, and every operation whose records lie wholly
    before the cut is among them. -/
def RecoverIsPrefixFull (rec : Option Store → Bytes → Except RecErr Store) (crc : Bytes → Nat)
    (enc : Entry → Bytes) (ops : List Op) (n : Nat) : Prop :=
  ∃ k r, k ≤ ops.length ∧
    rec none ((logBytes crc enc (runOps Store.empty ops).1).take n) = .ok r ∧
    FullEq r (specRun [] (ops.take k)) ∧
    ∀ a, a ≤ ops.length → (logBytes crc enc (runOps Store.empty (ops.take a)).1).length ≤ n → a ≤ k

/-- the same property of the writer BEFORE the fix "only `emb:` keys get an entity-index entry"
    (`runOpsOld`: `put_durable` allocated an entity id and logged an `EmbeddingSet` record for any
    non-cache key whose value carries a vector).  Only used by `…_witness` theorems. -/
def RecoverIsPrefixFullOld (rec : Option Store → Bytes → Except RecErr Store) (crc : Bytes → Nat)
    (enc : Entry → Bytes) (ops : List Op) (n : Nat) : Prop :=
  ∃ k r, k ≤ ops.length ∧
    rec none ((logBytes crc enc (runOpsOld Store.empty ops).1).take n) = .ok r ∧
    FullEq r (specRun [] (ops.take k)) ∧
    ∀ a, a ≤ ops.length → (logBytes crc enc (runOpsOld Store.empty (ops.take a)).1).length ≤ n → a ≤ k

section rounds
variable {crc : Bytes → Nat} {enc : Entry → Bytes} {dec : Bytes → Option Entry}

theorem recover_round (hc : CodecOK crc enc dec) {snap : Option Store} {f : Bytes} {H : List Op}
    (hinv : Inv crc enc snap f H) (mem0 : Store) (hr : recover crc dec snap f = .ok mem0)
    (ops : List Op) (n : Nat) (hfit : Fits enc (runOps mem0 ops).1) (hn : (openRepair f).length ≤ n) :
    ∃ i, recover crc dec snap ((openRepair f ++ logBytes crc enc (runOps mem0 ops).1).take n)
      = .ok (replay mem0 ((runOps mem0 ops).1.take i)) := by
  obtain ⟨S, hopen, hSfit, hSno, hmem, -⟩ := inv_open hc hinv hr
  rw [hopen] at hn ⊢
  have hplain := runOps_plain mem0 ops
  obtain ⟨i, -, htake, -⟩ := take_split (crc := crc) (enc := enc) S (runOps mem0 ops).1 n hn
  refine ⟨i, ?_⟩
  rw [← logBytes_append, recover_take_plain hc snap _ n (hSfit.append hfit)
    (hSno.append (fun e he => (hplain e he).1)), htake,
    afterLastCkpt_append_plain _ _ (fun e he => (hplain e (List.mem_of_mem_take he)).2),
    replay_append, ← hmem]

theorem recover_marked (hc : CodecOK crc enc dec) (L : Store) (R : List Entry) (id : Nat)
    (hfit : Fits enc R) (hno : NoTx R) (hid : (enc (.checkpoint id)).length < U32) :
    recover crc dec (some L) (logBytes crc enc R ++ encodeRec crc (enc (.checkpoint id))) = .ok L := by
  have h := recover_full hc (some L) (R ++ [.checkpoint id]) (hfit.append_ckpt hid) (hno.append_ckpt id)
  rw [logBytes_append, logBytes_singleton, afterLastCkpt_append_ckpt] at h
  exact h

end rounds

theorem openRepair_nil : openRepair [] = [] := by simp [openRepair]

/-- the writer state after logging `es` under `Immediate` sync with `max_size_bytes = maxSize`
    (`write_entry_no_sync` rotates before a record that would exceed the limit) -/
def rotLog (crc : Bytes → Nat) (enc : Entry → Bytes) (maxSize : Nat) (es : List Entry) : Wal :=
  es.foldl (fun w e => Wal.appendRot .immediate maxSize w (encodeRec crc (enc e))) (Wal.openOn [])

/-- **The property across log rotation**: every operation returned under `Immediate` sync (so all
    are acknowledged) and the crash keeps the whole live log file; recovery, which reads only
    that file, must yield the map of ALL the operations. -/
def RotationKeepsAcked (crc : Bytes → Nat) (enc : Entry → Bytes) (dec : Bytes → Option Entry)
    (maxSize : Nat) (ops : List Op) : Prop :=
  ∃ r, recover crc dec none (rotLog crc enc maxSize (runOps Store.empty ops).1).file = .ok r ∧
    MetaEq r.md (specRun [] ops)

theorem foldl_appendRot_no_rotation (crc : Bytes → Nat) (enc : Entry → Bytes) (maxSize : Nat)
    (es : List Entry) (w : Wal) (h : (w.file ++ logBytes crc enc es).length ≤ maxSize) :
    (es.foldl (fun w e => Wal.appendRot .immediate maxSize w (encodeRec crc (enc e))) w).file
      = w.file ++ logBytes crc enc es := by
  induction es generalizing w with
  | nil => simp [logBytes_nil]
  | cons e es ih =>
    rw [logBytes_cons, ← List.append_assoc] at h ⊢
    have hno : ¬ (w.file.length + (encodeRec crc (enc e)).length > maxSize) := by
      rw [List.length_append, List.length_append] at h; omega
    rw [List.foldl_cons, Wal.appendRot, if_neg hno, ih _ (by rwa [Wal.append_file]), Wal.append_file]

theorem Sys.crashFile_sync (sy : Sys) (n : Nat) : sy.sync.crashFile n = sy.wal.file := by
  simp only [Sys.crashFile, Sys.sync, Wal.sync]
  exact List.take_of_length_le (Nat.le_max_right _ _)

theorem Wal.append_synced (mode : SyncMode) (w : Wal) (b : Bytes) :
    (Wal.append mode w b).syncedLen = (w.file ++ b).length ∨
    (Wal.append mode w b).syncedLen = w.syncedLen := by
  unfold Wal.append
  cases mode with
  | immediate => left; rfl
  | manual => right; rfl
  | batched m =>
    simp only []
    by_cases h : decide (w.pending + 1 ≥ m) = true
    · left; rw [if_pos h]
    · right; rw [if_neg h]

theorem Sys.crashFile_marker (crc : Bytes → Nat) (enc : Entry → Bytes) (sy : Sys) (id n : Nat)
    (h : sy.wal.syncedLen = sy.wal.file.length) :
    ∃ m, (sy.ckptMarker crc enc id).crashFile n
      = sy.wal.file ++ (encodeRec crc (enc (.checkpoint id))).take m := by
  have hw : (sy.ckptMarker crc enc id).wal
      = Wal.append sy.mode sy.wal (encodeRec crc (enc (.checkpoint id))) := rfl
  unfold Sys.crashFile
  rw [hw, Wal.append_file]
  rcases Wal.append_synced sy.mode sy.wal (encodeRec crc (enc (.checkpoint id))) with e | e <;> rw [e]
  · exact ⟨_, by rw [List.take_length, List.take_of_length_le (Nat.le_max_right _ _)]⟩
  · refine ⟨max n sy.wal.file.length - sy.wal.file.length, ?_⟩
    rw [h, ← List.take_length_add_append, Nat.add_sub_cancel' (Nat.le_max_right _ _)]

theorem exists_ok_of_md {x : Except RecErr Store} {m : List (Bytes × Val)}
    (h : (match x with | .ok r => some r.md | .error _ => none) = some m) :
    ∃ r, x = .ok r ∧ r.md = m := by
  cases x with
  | error e => simp at h
  | ok r => exact ⟨r, rfl, by simpa using h⟩


deriving instance DecidableEq for Store
deriving instance DecidableEq for Except

theorem decB_encB (b r : Bytes) : decB (encB b ++ r) = some (b, r) := by
  simp [encB, decB]

theorem toyDec_toyEnc (e : Entry) : toyDec (toyEnc e) = some e := by
  cases e with
  | metaSet k v =>
    obtain ⟨body, emb⟩ := v
    cases emb with
    | none =>
      simp only [toyEnc, List.cons_append, List.append_assoc, toyDec, decB_encB]
    | some x =>
      simp only [toyEnc, List.cons_append, List.append_assoc, toyDec, decB_encB]
  | _ => rfl

theorem codecOK_toy : CodecOK (fun _ => 0) toyEnc toyDec :=
  ⟨toyDec_toyEnc, fun _ => by decide⟩

/-- an operation whose key and value are far shorter than the 4 GiB a record may take (three separate
    bounds: a sum next to the length of a long literal vector would make the kernel evaluate that length) -/
def Op.small : Op → Prop
  | .put k v => k.length < 65536 ∧ v.body.length < 65536 ∧ (v.emb.getD []).length < 65536
  | .delete k => k.length < 65536

theorem toyEnc_metaSet_fits {k : Bytes} {v : Val} (h : (Op.put k v).small) :
    (toyEnc (.metaSet k v)).length < U32 := by
  obtain ⟨b, e⟩ := v
  cases e <;>
    simp only [Op.small, Option.getD, toyEnc, encB, List.length_cons, List.length_append, List.length_nil, U32]
      at h ⊢ <;> omega

theorem toyEnc_embSet_fits {k : Bytes} {v : Val} (h : (Op.put k v).small) {vec : Bytes} (hv : v.emb = some vec)
    (id : Nat) : (toyEnc (.embSet id vec)).length < U32 := by
  simp only [Op.small, hv, Option.getD] at h
  simp only [toyEnc, List.length_cons, U32]; omega

theorem step_fits_toy (s : Store) {op : Op} (h : op.small) : Fits toyEnc (step s op).1 := by
  intro e he
  rcases step_cases s op with hr | ⟨k, v, rfl, -, hr | ⟨id, vec, hv, hr⟩⟩ | ⟨k, rfl, -, ⟨-, hr⟩ | ⟨id, -, hr⟩⟩ <;>
    rw [hr] at he <;> simp only [List.mem_cons, List.not_mem_nil, or_false] at he
  · subst he; exact toyEnc_metaSet_fits h
  · rcases he with rfl | rfl
    · exact toyEnc_embSet_fits h hv id
    · exact toyEnc_metaSet_fits h
  all_goals
    simp only [Op.small] at h
    rcases he with rfl | rfl | rfl <;> simp only [toyEnc, List.length_cons, List.length_nil, U32] <;> omega

theorem stepOld_fits_toy (s : Store) {op : Op} (h : op.small) : Fits toyEnc (stepOld s op).1 := by
  cases op with
  | delete k => exact step_fits_toy s h
  | put k v =>
    intro e he
    simp only [stepOld, putDurableOld] at he
    split at he
    · cases he
    · cases hv : v.emb <;> rw [hv] at he <;> simp only [List.mem_cons, List.not_mem_nil, or_false] at he
      · subst he; exact toyEnc_metaSet_fits h
      · rcases he with rfl | rfl
        · exact toyEnc_embSet_fits h hv _
        · exact toyEnc_metaSet_fits h

theorem runOps_fits_toy (s : Store) (ops : List Op) (h : ∀ op ∈ ops, op.small) : Fits toyEnc (runOps s ops).1 := by
  induction ops generalizing s with
  | nil => exact nofun
  | cons op ops ih =>
    exact (step_fits_toy s (h op List.mem_cons_self)).append (ih _ (fun o ho => h o (List.mem_cons_of_mem _ ho)))

theorem runOpsOld_fits_toy (s : Store) (ops : List Op) (h : ∀ op ∈ ops, op.small) :
    Fits toyEnc (runOpsOld s ops).1 := by
  induction ops generalizing s with
  | nil => exact nofun
  | cons op ops ih =>
    exact (stepOld_fits_toy s (h op List.mem_cons_self)).append (ih _ (fun o ho => h o (List.mem_cons_of_mem _ ho)))

/-- boolean form of "recovery succeeds and `get k` answers `v`" (for concrete witnesses) -/
def recoverGetIs (x : Except RecErr Store) (k : Bytes) (v : Option Val) : Bool :=
  match x with
  | .ok r => decide (get r k = v)
  | .error _ => false

theorem exists_ok_of_get (x : Except RecErr Store) (k : Bytes) (v : Option Val)
    (h : recoverGetIs x k v = true) : ∃ r, x = .ok r ∧ get r k = v := by
  cases x with
  | error e => simp [recoverGetIs] at h
  | ok r => exact ⟨r, rfl, by simpa [recoverGetIs] using h⟩

/-- boolean form of "the recovery succeeds with a store satisfying `p`" (for concrete witnesses) -/
def okAnd (x : Except RecErr Store) (p : Store → Bool) : Bool :=
  match x with
  | .ok r => p r
  | .error _ => false

theorem exists_ok_of_okAnd {x : Except RecErr Store} {p : Store → Bool} (h : okAnd x p = true) :
    ∃ r, x = .ok r ∧ p r = true := by
  cases x with
  | error e => simp [okAnd] at h
  | ok r => exact ⟨r, rfl, h⟩

end Neumann.Durable
