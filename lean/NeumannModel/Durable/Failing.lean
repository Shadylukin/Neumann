import NeumannModel.Durable.Session
/-
  C02 — sessions in which appends can FAIL (`SizeLimitExceeded` under `auto_rotate = false`, I/O
  errors): `put_durable` / `delete_durable` append their records one by one and return the first
  error before the in-memory apply, so the log can hold an orphan strict prefix of an
  operation's records in the middle, followed by the records of later operations, while the
  writer's memory has NOT applied it.  Helper lemmas for
    * `failed_writes_are_invisible` (Props): whatever the failure pattern and the crash cut,
      recovery yields the full image of a prefix of the operations that returned `Ok`;
    * `size_limited_session_is_a_plan`: the `auto_rotate = false` writer is an instance.
  Since repo f5ce42e5 a failed `put_durable` releases the entity-index entry it allocated
  (`failMem`: at most a tombstoned slot stays), so the writer's store stays `Good` and
  `get` / `exists` / `scan` cannot tell that the operation was issued (`failMem_get`,
  `failMem_exists`, `failMem_scan`, `good_runOpsF`).  The simulation between the replayed store
  and the writer's is still stated one-sided (`SimLe`: the replayed store indexes a SUBSET of
  the `emb:` keys the writer indexes), which is all recovery needs.
-/
namespace Neumann.Durable
open Neumann.FramedLog

/-- replayed store `P`, writer's store `L`: same metadata map; every `emb:` key indexed in `P` is
    indexed in `L` -/
structure SimLe (P L : Store) : Prop where
  md : P.md = L.md
  live : ∀ k, classify k = .embedding → (idxGet P.vocab k).isSome = true → (idxGet L.vocab k).isSome = true

theorem simle_refl (s : Store) : SimLe s s := ⟨rfl, fun _ _ h => h⟩

theorem getOrCreate_live (v : List (Bytes × Bool)) (k k1 : Bytes) :
    (idxGet (idxGetOrCreate v k).2 k1).isSome = (decide (k = k1) || (idxGet v k1).isSome) := by
  by_cases e : k = k1
  · subst e; rw [idxGetOrCreate_get]; simp
  · rw [idxGetOrCreate_get_ne _ _ _ e]; simp [e]

theorem nodup_step {s : Store} (hn : LiveNodup s.vocab) (op : Op) : LiveNodup (step s op).2.vocab := by
  rw [step_vocab]
  cases op <;> simp only [] <;> split
  · exact liveNodup_getOrCreate hn _
  · exact hn
  · exact liveNodup_remove hn _
  · exact hn

/-! #### memory after a failed operation (`failMem`, the code since repo f5ce42e5) -/

theorem idxGet_append_dead (v : List (Bytes × Bool)) (k k1 : Bytes) :
    idxGet (v ++ [(k, false)]) k1 = idxGet v k1 := by
  unfold idxGet
  rw [idxGetAux_append]
  cases h : idxGetAux v k1 0 with
  | some i => rfl
  | none => simp [idxGetAux]

/-- `get_or_create` of a key that is not indexed, then `remove`: one tombstoned slot -/
theorem release_created (v : List (Bytes × Bool)) (k : Bytes) (h : idxGet v k = none) :
    idxRemove (idxGetOrCreate v k).2 k = v ++ [(k, false)] := by
  have h1 : (idxGetOrCreate v k).2 = v ++ [(k, true)] := by unfold idxGetOrCreate; rw [h]
  rw [h1]
  unfold idxRemove
  rw [idxGet_append_self v k h]
  simp

theorem failMem_shape (s : Store) (op : Op) :
    (failMem s op).md = s.md ∧ (failMem s op).slab = s.slab ∧ (failMem s op).cache = s.cache ∧
    ((failMem s op).vocab = s.vocab ∨
      ∃ k, classify k = .embedding ∧ (failMem s op).vocab = s.vocab ++ [(k, false)]) := by
  cases op with
  | put k v =>
    simp only [failMem]
    split
    · exact ⟨rfl, rfl, rfl, .inl rfl⟩
    · split
      · rename_i hk
        cases h : idxGet s.vocab k with
        | none => exact ⟨rfl, rfl, rfl, .inr ⟨k, hk.1, release_created s.vocab k h⟩⟩
        | some i => exact ⟨rfl, rfl, rfl, .inl rfl⟩
      · exact ⟨rfl, rfl, rfl, .inl rfl⟩
  | delete k => exact ⟨rfl, rfl, rfl, .inl rfl⟩

theorem failMem_md (s : Store) (op : Op) : (failMem s op).md = s.md := (failMem_shape s op).1

theorem failMem_idxGet (s : Store) (op : Op) (k1 : Bytes) :
    idxGet (failMem s op).vocab k1 = idxGet s.vocab k1 := by
  rcases (failMem_shape s op).2.2.2 with h | ⟨k, -, h⟩
  · rw [h]
  · rw [h, idxGet_append_dead]

theorem failMem_live_filter (s : Store) (op : Op) :
    (failMem s op).vocab.filter (·.2) = s.vocab.filter (·.2) := by
  rcases (failMem_shape s op).2.2.2 with h | ⟨k, -, h⟩
  · rw [h]
  · rw [h]; simp

theorem nodup_failMem {s : Store} (hn : LiveNodup s.vocab) (op : Op) : LiveNodup (failMem s op).vocab := by
  rcases (failMem_shape s op).2.2.2 with h | ⟨k, -, h⟩ <;> rw [h]
  · exact hn
  · exact liveNodup_snoc hn k false nofun

/-- **the overlay invariant survives a failed operation** (false of `failMemOld`: the leaked
    index entry has no metadata record) -/
theorem good_failMem {s : Store} (hg : Good s) (op : Op) : Good (failMem s op) := by
  obtain ⟨h1, h2, _, _⟩ := failMem_shape s op
  refine ⟨nodup_failMem hg.nodup op, ?_, ?_⟩
  · intro k id vec hk hi hs
    rw [failMem_idxGet] at hi; rw [h2] at hs; rw [h1]
    exact hg.slab k id vec hk hi hs
  · intro k id hk hi
    rw [failMem_idxGet] at hi; rw [h1]
    exact hg.idxmd k id hk hi

theorem failMem_get (s : Store) (op : Op) (k : Bytes) : get (failMem s op) k = get s k := by
  obtain ⟨h1, h2, h3, _⟩ := failMem_shape s op
  unfold get
  rw [failMem_idxGet, h1, h2, h3]

theorem failMem_exists (s : Store) (op : Op) (k : Bytes) : exists_ (failMem s op) k = exists_ s k := by
  obtain ⟨h1, _, h3, _⟩ := failMem_shape s op
  unfold exists_
  rw [failMem_idxGet, h1, h3]

theorem failMem_scan (s : Store) (op : Op) : scanKeys (failMem s op) = scanKeys s := by
  obtain ⟨h1, _, h3, _⟩ := failMem_shape s op
  unfold scanKeys
  rw [failMem_live_filter, h1, h3]

theorem classed_failMem {s : Store} (hc : Classed s) (op : Op) : Classed (failMem s op) := by
  obtain ⟨h1, _, h3, hv⟩ := failMem_shape s op
  refine ⟨by rw [h1]; exact hc.md, by rw [h3]; exact hc.cache, ?_⟩
  rcases hv with h | ⟨k, hk, h⟩ <;> rw [h]
  · exact hc.vocab
  · intro p hp
    rcases List.mem_append.mp hp with hp | hp
    · exact hc.vocab p hp
    · rw [List.mem_singleton.mp hp]; exact hk

theorem simle_step {P L : Store} (hP : Good P) (hL : LiveNodup L.vocab) (hs : SimLe P L) (op : Op) :
    (∀ j, Good (replay P ((step L op).1.take j))) ∧ SimLe (replay P (step L op).1) (step L op).2 := by
  refine ⟨good_replay_step_take hP hs.live op, ?_, fun k hk => ?_⟩
  · rw [replay_md, hs.md, step_replay, step_md]
  · rw [live_replay hP.nodup _ (fun e he => (step_mem L op he).2.2) k, step_live hL op hk]
    cases lastLive (step L op).1 k with
    | some b => exact id
    | none => exact hs.live k hk

theorem strict_prefix_live (P L : Store) (op : Op) (t : Nat) (ht : t < (step L op).1.length) (k1 : Bytes)
    (hn : LiveNodup P.vocab)
    (h : (idxGet (replay P ((step L op).1.take t)).vocab k1).isSome = true) :
    (idxGet P.vocab k1).isSome = true := by
  rw [live_replay hn _ (fun e he => (step_mem L op (List.mem_of_mem_take he)).2.2) k1] at h
  cases hl : lastLive ((step L op).1.take t) k1 with
  | none => rwa [hl] at h
  | some b =>
    rw [hl] at h
    exact absurd (h ▸ hl) (lastLive_strict L op t ht k1)

theorem stepF_cases (s : Store) (o : Op) (t : Option Nat) :
    stepF s o t = ((step s o).1, (step s o).2, true) ∨
    ∃ t', t' < (step s o).1.length ∧ stepF s o t = ((step s o).1.take t', failMem s o, false) := by
  cases t with
  | none => exact .inl rfl
  | some t =>
    simp only [stepF]
    split
    · rename_i ht; exact .inr ⟨t, ht, rfl⟩
    · exact .inl rfl

/-- **one operation, all records or only the first `t`**: the overlay invariant holds after every
    record that made it into the log, and the one-sided simulation is re-established with the
    writer's memory (which a failed operation leaves unchanged up to one tombstoned vocabulary slot) -/
theorem simle_stepF {P L : Store} (hP : Good P) (hL : LiveNodup L.vocab) (hs : SimLe P L) (op : Op)
    (t : Option Nat) :
    (∀ j, Good (replay P ((stepF L op t).1.take j))) ∧
    SimLe (replay P (stepF L op t).1) (stepF L op t).2.1 ∧ LiveNodup (stepF L op t).2.1.vocab := by
  obtain ⟨hpre, hsim⟩ := simle_step hP hL hs op
  rcases stepF_cases L op t with h | ⟨t', ht, h⟩ <;> rw [h]
  · exact ⟨hpre, hsim, nodup_step hL op⟩
  · refine ⟨fun j => ?_, ⟨?_, fun k1 hk1 hl => ?_⟩, nodup_failMem hL op⟩
    · rw [List.take_take]
      exact hpre _
    · rw [replay_md, hs.md, step_take_neutral L op t' ht, failMem_md]
    · rw [failMem_idxGet]
      exact hs.live k1 hk1 (strict_prefix_live P L op t' ht k1 hP.nodup hl)

theorem runOpsF_nil (s : Store) : runOpsF s [] = ([], s, []) := rfl

theorem runOpsF_cons (s : Store) (o : Op) (t : Option Nat) (r : List (Op × Option Nat)) :
    runOpsF s ((o, t) :: r) =
      ((stepF s o t).1 ++ (runOpsF (stepF s o t).2.1 r).1, (runOpsF (stepF s o t).2.1 r).2.1,
        if (stepF s o t).2.2 then o :: (runOpsF (stepF s o t).2.1 r).2.2 else (runOpsF (stepF s o t).2.1 r).2.2) := rfl

theorem good_replayF_take {P L : Store} (hP : Good P) (hL : LiveNodup L.vocab) (hs : SimLe P L)
    (plan : List (Op × Option Nat)) (i : Nat) : Good (replay P ((runOpsF L plan).1.take i)) := by
  induction plan generalizing P L i with
  | nil => simpa [runOpsF_nil, replay_nil] using hP
  | cons ot plan ih =>
    obtain ⟨o, t⟩ := ot
    obtain ⟨hpre, hsim, hnd⟩ := simle_stepF hP hL hs o t
    rw [runOpsF_cons]
    by_cases hle : (stepF L o t).1.length ≤ i
    · rw [List.take_append, List.take_of_length_le hle, replay_append]
      have hfull := hpre (stepF L o t).1.length
      rw [List.take_length] at hfull
      exact ih hfull hnd hsim _
    · rw [List.take_append_of_le_length (by omega)]
      exact hpre i

theorem stepF_md (s : Store) (o : Op) (t : Option Nat) :
    replayMeta s.md (stepF s o t).1 = (stepF s o t).2.1.md ∧
    (stepF s o t).2.1.md = (if (stepF s o t).2.2 then specApply s.md o else s.md) := by
  rcases stepF_cases s o t with h | ⟨t', ht, h⟩ <;> rw [h]
  · exact ⟨by rw [step_replay, step_md], step_md s o⟩
  · exact ⟨by rw [step_take_neutral s o t' ht, failMem_md], failMem_md s o⟩

theorem stepF_sub (s : Store) (o : Op) (t : Option Nat) : ∀ e ∈ (stepF s o t).1, e ∈ (step s o).1 := by
  rcases stepF_cases s o t with h | ⟨t', -, h⟩ <;> rw [h]
  · exact fun e he => he
  · exact fun e he => List.mem_of_mem_take he

theorem stepF_take_neutral (s : Store) (o : Op) (t : Option Nat) (i : Nat) (hi : i < (stepF s o t).1.length) :
    replayMeta s.md ((stepF s o t).1.take i) = s.md := by
  rcases stepF_cases s o t with h | ⟨t', ht, h⟩ <;> rw [h] at hi ⊢
  · exact step_take_neutral s o i hi
  · rw [List.take_take]
    apply step_take_neutral
    simp only [List.length_take] at hi
    omega

theorem runOpsF_plain (s : Store) (plan : List (Op × Option Nat)) :
    ∀ e ∈ (runOpsF s plan).1, isTx e = false ∧ isCkpt e = false := by
  induction plan generalizing s with
  | nil => simp [runOpsF_nil]
  | cons ot plan ih =>
    obtain ⟨o, t⟩ := ot
    intro e he
    rw [runOpsF_cons] at he
    rcases List.mem_append.mp he with h | h
    · exact step_plain s o e (stepF_sub s o t e h)
    · exact ih _ e h

theorem runOpsF_append_fst (s : Store) (xs ys : List (Op × Option Nat)) :
    (runOpsF s (xs ++ ys)).1 = (runOpsF s xs).1 ++ (runOpsF (runOpsF s xs).2.1 ys).1 := by
  induction xs generalizing s with
  | nil => simp [runOpsF_nil]
  | cons ot xs ih => obtain ⟨o, t⟩ := ot; simp [runOpsF_cons, ih, List.append_assoc]

theorem runOpsF_take_prefix (s : Store) (plan : List (Op × Option Nat)) (a : Nat) :
    ∃ rest, (runOpsF s plan).1 = (runOpsF s (plan.take a)).1 ++ rest :=
  ⟨_, by rw [← runOpsF_append_fst, List.take_append_drop]⟩

theorem group_prefixF (s : Store) (plan : List (Op × Option Nat)) (i : Nat) :
    ∃ k, k ≤ (runOpsF s plan).2.2.length ∧
      replayMeta s.md ((runOpsF s plan).1.take i) = specRun s.md ((runOpsF s plan).2.2.take k) ∧
      ∀ a, a ≤ plan.length → (runOpsF s (plan.take a)).1.length ≤ i →
        (runOpsF s (plan.take a)).2.2.length ≤ k := by
  induction plan generalizing s i with
  | nil => exact ⟨0, by simp, by simp [runOpsF_nil, replayMeta_nil, specRun_nil], by simp [runOpsF_nil]⟩
  | cons ot plan ih =>
    obtain ⟨o, t⟩ := ot
    obtain ⟨hm1, hm2⟩ := stepF_md s o t
    by_cases hle : (stepF s o t).1.length ≤ i
    · obtain ⟨k, hk, hrep, hall⟩ := ih (stepF s o t).2.1 (i - (stepF s o t).1.length)
      by_cases hb : (stepF s o t).2.2 = true
      · refine ⟨k + 1, ?_, ?_, ?_⟩
        · rw [runOpsF_cons]; simp only [hb, if_true, List.length_cons]; omega
        · rw [runOpsF_cons]
          simp only [hb, if_true]
          rw [List.take_append, List.take_of_length_le hle, replayMeta_append, hm1, List.take_succ_cons,
            specRun_cons, hrep]
          rw [hm2, hb]; rfl
        · intro a ha hlen
          cases a with
          | zero => simp [runOpsF_nil]
          | succ a =>
            rw [List.take_succ_cons, runOpsF_cons] at hlen ⊢
            simp only [List.length_append, hb, if_true, List.length_cons] at hlen ⊢
            have := hall a (by simp at ha; omega) (by omega)
            omega
      · have hb0 : (stepF s o t).2.2 = false := by simpa using hb
        refine ⟨k, ?_, ?_, ?_⟩
        · rw [runOpsF_cons]; simp only [hb0, Bool.false_eq_true, if_false]; exact hk
        · rw [runOpsF_cons]
          simp only [hb0, Bool.false_eq_true, if_false]
          rw [List.take_append, List.take_of_length_le hle, replayMeta_append, hm1, hrep]
          rw [hm2, hb0]; rfl
        · intro a ha hlen
          cases a with
          | zero => simp [runOpsF_nil]
          | succ a =>
            rw [List.take_succ_cons, runOpsF_cons] at hlen ⊢
            simp only [List.length_append, hb0, Bool.false_eq_true, if_false] at hlen ⊢
            exact hall a (by simp at ha; omega) (by omega)
    · have hlt : i < (stepF s o t).1.length := by omega
      refine ⟨0, by simp, ?_, ?_⟩
      · rw [runOpsF_cons, List.take_append_of_le_length (by omega), stepF_take_neutral s o t i hlt]
        rfl
      · intro a ha hlen
        cases a with
        | zero => simp [runOpsF_nil]
        | succ a =>
          rw [List.take_succ_cons, runOpsF_cons] at hlen
          simp only [List.length_append] at hlen
          omega

theorem good_stepF {s : Store} (hg : Good s) (o : Op) (t : Option Nat) : Good (stepF s o t).2.1 := by
  rcases stepF_cases s o t with h | ⟨t', -, h⟩ <;> rw [h]
  · exact good_step hg o
  · exact good_failMem hg o

theorem classed_stepF {s : Store} (hc : Classed s) (o : Op) (t : Option Nat) : Classed (stepF s o t).2.1 := by
  rcases stepF_cases s o t with h | ⟨t', -, h⟩ <;> rw [h]
  · exact classed_step hc o
  · exact classed_failMem hc o

theorem good_runOpsF {s : Store} (hg : Good s) (plan : List (Op × Option Nat)) : Good (runOpsF s plan).2.1 := by
  induction plan generalizing s with
  | nil => exact hg
  | cons ot plan ih => obtain ⟨o, t⟩ := ot; rw [runOpsF_cons]; exact ih (good_stepF hg o t)

theorem classed_runOpsF {s : Store} (hc : Classed s) (plan : List (Op × Option Nat)) :
    Classed (runOpsF s plan).2.1 := by
  induction plan generalizing s with
  | nil => exact hc
  | cons ot plan ih => obtain ⟨o, t⟩ := ot; rw [runOpsF_cons]; exact ih (classed_stepF hc o t)

theorem runOpsF_md (s : Store) (plan : List (Op × Option Nat)) :
    (runOpsF s plan).2.1.md = specRun s.md (runOpsF s plan).2.2 := by
  induction plan generalizing s with
  | nil => simp [runOpsF_nil, specRun_nil]
  | cons ot plan ih =>
    obtain ⟨o, t⟩ := ot
    rw [runOpsF_cons]
    simp only []
    rw [ih, (stepF_md s o t).2]
    by_cases hb : (stepF s o t).2.2 = true
    · simp only [hb, if_true, specRun_cons]
    · have hb0 : (stepF s o t).2.2 = false := by simpa using hb
      simp only [hb0, Bool.false_eq_true, if_false]

/-! #### the `auto_rotate = false` writer is an instance -/

section lim
variable (crc : Bytes → Nat) (enc : Entry → Bytes)

theorem logLim_spec (mode : SyncMode) (maxSize : Nat) (w : Wal) (es : List Entry) :
    (logLim crc enc mode maxSize w es).2 ≤ es.length ∧
    (logLim crc enc mode maxSize w es).1.file
      = w.file ++ logBytes crc enc (es.take (logLim crc enc mode maxSize w es).2) := by
  induction es generalizing w with
  | nil => simp [logLim, logBytes_nil]
  | cons e es ih =>
    simp only [logLim]
    cases h : Wal.appendLim mode maxSize w (encodeRec crc (enc e)) with
    | none => simp [logBytes_nil]
    | some w' =>
      simp only []
      obtain ⟨h1, h2⟩ := ih w'
      have hw' : w'.file = w.file ++ encodeRec crc (enc e) := by
        unfold Wal.appendLim at h
        split at h
        · cases h
        · injection h with h; rw [← h, Wal.append_file]
      refine ⟨by simp only [List.length_cons]; omega, ?_⟩
      rw [h2, hw', List.take_succ_cons, logBytes_cons, List.append_assoc]

theorem stepF_fst_take (s : Store) (o : Op) (t : Nat) (ht : t ≤ (step s o).1.length) :
    (stepF s o (some t)).1 = (step s o).1.take t := by
  simp only [stepF]
  by_cases h : t < (step s o).1.length
  · simp [h]
  · have : t = (step s o).1.length := by omega
    simp [this]

end lim

end Neumann.Durable
