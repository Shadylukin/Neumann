import NeumannModel.Durable.Overlay
/-
  C02 — helper lemmas for
    * the acknowledgement rule of the three sync modes on scripts of operations and explicit
      syncs (`Act`, `Sys.act`): the log file of a session, monotone synced length, what an
      explicit `sync` covers, how many records `Batched n` can leave unsynced;
    * the Bloom-filtered store (`open_durable_with_bloom`, `recover_with_bloom`): every key the
      router answers is listed by `scan`, so a filter rebuilt from `scan("")` and fed by every
      later `put_durable` never hides a readable key.
-/
namespace Neumann.Durable
open Neumann.FramedLog

section session
variable (crc : Bytes → Nat) (enc : Entry → Bytes)

theorem opsOf_append (xs ys : List Act) : opsOf (xs ++ ys) = opsOf xs ++ opsOf ys := by
  induction xs with
  | nil => rfl
  | cons a xs ih => cases a <;> simp [opsOf, ih]

theorem foldl_op_snap_mode (sy : Sys) (ops : List Op) :
    (ops.foldl (Sys.op crc enc) sy).snap = sy.snap ∧ (ops.foldl (Sys.op crc enc) sy).mode = sy.mode := by
  induction ops generalizing sy with
  | nil => exact ⟨rfl, rfl⟩
  | cons o ops ih => rw [List.foldl_cons]; exact ih (Sys.op crc enc sy o)

theorem acts_file_mem (sy : Sys) (acts : List Act) :
    (acts.foldl (Sys.act crc enc) sy).wal.file
        = sy.wal.file ++ logBytes crc enc (runOps sy.mem (opsOf acts)).1 ∧
    (acts.foldl (Sys.act crc enc) sy).mem = (runOps sy.mem (opsOf acts)).2 ∧
    (acts.foldl (Sys.act crc enc) sy).mode = sy.mode := by
  induction acts generalizing sy with
  | nil => simp [opsOf, runOps_nil, logBytes_nil]
  | cons a acts ih =>
    cases a with
    | op o =>
      obtain ⟨h1, h2, h3⟩ := ih (Sys.op crc enc sy o)
      rw [List.foldl_cons]
      simp only [Sys.act, opsOf]
      rw [h1, h2, h3, runOps_cons, Sys.op_file, Sys.op_mem, logBytes_append, List.append_assoc]
      exact ⟨rfl, rfl, rfl⟩
    | sync =>
      obtain ⟨h1, h2, h3⟩ := ih sy.sync
      rw [List.foldl_cons]
      simp only [Sys.act, opsOf]
      rw [h1, h2, h3]
      exact ⟨rfl, rfl, rfl⟩

theorem Wal.append_synced_le (mode : SyncMode) (w : Wal) (b : Bytes) (h : w.syncedLen ≤ w.file.length) :
    w.syncedLen ≤ (Wal.append mode w b).syncedLen ∧
    (Wal.append mode w b).syncedLen ≤ (Wal.append mode w b).file.length := by
  rw [Wal.append_file]
  rcases Wal.append_synced mode w b with e | e <;> rw [e] <;> simp only [List.length_append] <;> omega

theorem foldl_append_synced_le (mode : SyncMode) (es : List Entry) (w : Wal)
    (h : w.syncedLen ≤ w.file.length) :
    w.syncedLen ≤ (es.foldl (fun w e => Wal.append mode w (encodeRec crc (enc e))) w).syncedLen ∧
    (es.foldl (fun w e => Wal.append mode w (encodeRec crc (enc e))) w).syncedLen
      ≤ (es.foldl (fun w e => Wal.append mode w (encodeRec crc (enc e))) w).file.length := by
  induction es generalizing w with
  | nil => exact ⟨Nat.le_refl _, h⟩
  | cons e es ih =>
    rw [List.foldl_cons]
    obtain ⟨a1, a2⟩ := Wal.append_synced_le mode w (encodeRec crc (enc e)) h
    obtain ⟨b1, b2⟩ := ih _ a2
    exact ⟨Nat.le_trans a1 b1, b2⟩

theorem act_synced_le (sy : Sys) (a : Act) (h : sy.wal.syncedLen ≤ sy.wal.file.length) :
    sy.wal.syncedLen ≤ (Sys.act crc enc sy a).wal.syncedLen ∧
    (Sys.act crc enc sy a).wal.syncedLen ≤ (Sys.act crc enc sy a).wal.file.length := by
  cases a with
  | op o =>
    simp only [Sys.act, Sys.op, Sys.log]
    exact foldl_append_synced_le crc enc sy.mode _ sy.wal h
  | sync =>
    simp only [Sys.act, Sys.sync, Wal.sync]
    exact ⟨h, Nat.le_refl _⟩

theorem acts_synced_le (sy : Sys) (acts : List Act) (h : sy.wal.syncedLen ≤ sy.wal.file.length) :
    sy.wal.syncedLen ≤ (acts.foldl (Sys.act crc enc) sy).wal.syncedLen ∧
    (acts.foldl (Sys.act crc enc) sy).wal.syncedLen ≤ (acts.foldl (Sys.act crc enc) sy).wal.file.length := by
  induction acts generalizing sy with
  | nil => exact ⟨Nat.le_refl _, h⟩
  | cons a acts ih =>
    rw [List.foldl_cons]
    obtain ⟨a1, a2⟩ := act_synced_le crc enc sy a h
    obtain ⟨b1, b2⟩ := ih _ a2
    exact ⟨Nat.le_trans a1 b1, b2⟩

theorem fresh_file (mode : SyncMode) : (Sys.fresh mode).wal.file = [] := by
  simp [Sys.fresh, Wal.openOn, openRepair_nil]

theorem fresh_synced (mode : SyncMode) : (Sys.fresh mode).wal.syncedLen = 0 := by
  simp [Sys.fresh, Wal.openOn, openRepair_nil]

theorem sync_covers (mode : SyncMode) (pre post : List Act) :
    (logBytes crc enc (runOps Store.empty (opsOf pre)).1).length
      ≤ ((pre ++ [Act.sync] ++ post).foldl (Sys.act crc enc) (Sys.fresh mode)).wal.syncedLen := by
  rw [List.foldl_append, List.foldl_append]
  have hpre := (acts_file_mem crc enc (Sys.fresh mode) pre).1
  rw [fresh_file, List.nil_append] at hpre
  -- right after the `sync` the synced length is the length of the file; nothing later lowers it
  refine Nat.le_trans (Nat.le_of_eq ?_)
    (acts_synced_le crc enc (pre.foldl (Sys.act crc enc) (Sys.fresh mode)).sync post (Nat.le_refl _)).1
  show _ = (pre.foldl (Sys.act crc enc) (Sys.fresh mode)).wal.file.length
  rw [hpre]
  rfl

/-! #### `Batched n`: the unsynced tail is the last `pending` records, fewer than `n` -/

/-- the writer under `Batched m` after logging the records `R` -/
structure BInv (m : Nat) (w : Wal) (R : List Entry) : Prop where
  file : w.file = logBytes crc enc R
  le : w.pending ≤ R.length
  synced : w.syncedLen = (logBytes crc enc (R.take (R.length - w.pending))).length
  bound : w.pending < max m 1

theorem binv_append (m : Nat) (w : Wal) (R : List Entry) (h : BInv crc enc m w R) (e : Entry) :
    BInv crc enc m (Wal.append (.batched m) w (encodeRec crc (enc e))) (R ++ [e]) := by
  have hfile : w.file ++ encodeRec crc (enc e) = logBytes crc enc (R ++ [e]) := by
    rw [h.file, logBytes_append, logBytes_singleton]
  have hle := h.le
  have hb := h.bound
  unfold Wal.append
  by_cases hp : w.pending + 1 ≥ m
  · -- the automatic sync fires: everything is synced, nothing pending
    simp only [decide_eq_true hp, if_true]
    refine ⟨hfile, Nat.zero_le _, ?_, ?_⟩
    · rw [Nat.sub_zero, List.take_length, hfile]
    · show 0 < max m 1; omega
  · simp only [decide_eq_false hp, Bool.false_eq_true, if_false]
    refine ⟨hfile, ?_, ?_, ?_⟩
    · show w.pending + 1 ≤ (R ++ [e]).length
      rw [List.length_append, List.length_singleton]; omega
    · show w.syncedLen = (logBytes crc enc ((R ++ [e]).take ((R ++ [e]).length - (w.pending + 1)))).length
      rw [List.length_append, List.length_singleton,
        show R.length + 1 - (w.pending + 1) = R.length - w.pending by omega,
        List.take_append_of_le_length (by omega)]
      exact h.synced
    · show w.pending + 1 < max m 1; omega

theorem binv_log (m : Nat) (w : Wal) (R es : List Entry) (h : BInv crc enc m w R) :
    BInv crc enc m (es.foldl (fun w e => Wal.append (.batched m) w (encodeRec crc (enc e))) w) (R ++ es) := by
  induction es generalizing w R with
  | nil => simpa using h
  | cons e es ih =>
    rw [List.foldl_cons]
    have := ih _ (R ++ [e]) (binv_append crc enc m w R h e)
    simpa [List.append_assoc] using this

theorem binv_sync (m : Nat) (w : Wal) (R : List Entry) (h : BInv crc enc m w R) :
    BInv crc enc m w.sync R := by
  refine ⟨h.file, Nat.zero_le _, ?_, by simp only [Wal.sync]; omega⟩
  simp only [Wal.sync, Nat.sub_zero, List.take_length]
  rw [h.file]

theorem binv_acts (m : Nat) (sy : Sys) (R : List Entry) (hm : sy.mode = .batched m)
    (h : BInv crc enc m sy.wal R) (acts : List Act) :
    BInv crc enc m (acts.foldl (Sys.act crc enc) sy).wal (R ++ (runOps sy.mem (opsOf acts)).1) := by
  induction acts generalizing sy R with
  | nil => simpa [opsOf, runOps_nil] using h
  | cons a acts ih =>
    rw [List.foldl_cons]
    cases a with
    | op o =>
      simp only [Sys.act, opsOf]
      have h1 : BInv crc enc m (Sys.op crc enc sy o).wal (R ++ (step sy.mem o).1) := by
        simp only [Sys.op, Sys.log, hm]
        exact binv_log crc enc m sy.wal R _ h
      have := ih (Sys.op crc enc sy o) (R ++ (step sy.mem o).1) (by rw [Sys.op_mode]; exact hm) h1
      rw [runOps_cons, Sys.op_mem] at *
      simpa [List.append_assoc] using this
    | sync =>
      simp only [Sys.act, opsOf]
      exact ih sy.sync R hm (binv_sync crc enc m sy.wal R h)

theorem binv_fresh (m : Nat) : BInv crc enc m (Sys.fresh (.batched m)).wal [] := by
  refine ⟨by rw [fresh_file]; rfl, by simp [Sys.fresh, Wal.openOn], ?_, by simp [Sys.fresh, Wal.openOn]; omega⟩
  rw [fresh_synced]; rfl

end session

section assoc3
variable {α : Type _} {β : Type _} [DecidableEq α]

theorem mem_map_of_aget {m : List (α × β)} {k : α} (h : (aget m k).isSome = true) : k ∈ m.map (·.1) := by
  induction m with
  | nil => simp [aget] at h
  | cons p m ih =>
    obtain ⟨k', v⟩ := p
    simp only [aget] at h
    by_cases e : k' = k
    · simp [e]
    · simp only [e, if_false] at h
      simp only [List.map_cons, List.mem_cons]
      exact .inr (ih h)
end assoc3

theorem get_cache (s : Store) (k : Bytes) (hk : classify k = .cache) : get s k = aget s.cache k := by
  unfold get; simp [hk]

/-- **every key the router answers is listed by `scan`** (the converse of
    `scan_lists_only_readable_keys`): what makes a filter rebuilt from `scan("")` complete -/
theorem readable_scanned {s : Store} (hg : Good s) (k : Bytes) (h : (get s k).isSome = true) :
    k ∈ scanKeys s := by
  simp only [scanKeys, List.mem_append]
  by_cases hc : isCacheKey k = true
  · have hk : classify k = .cache := isCacheKey_eq_true.mp hc
    rw [get_cache s k hk] at h
    exact .inr (mem_map_of_aget h)
  · have hc0 : isCacheKey k = false := by simpa using hc
    rw [good_get hg k hc0] at h
    exact .inl (.inl (mem_map_of_aget h))

theorem readable_after (m : List (Bytes × Val)) (op : Op) (k' : Bytes)
    (h : (aget (match op with | .put k v => aset m k v | .delete k => aerase m k) k').isSome = true) :
    (∃ v, op = .put k' v) ∨ (aget m k').isSome = true := by
  cases op with
  | put k v =>
    by_cases e : k = k'
    · subst e; exact .inl ⟨v, rfl⟩
    · exact .inr (by rwa [aget_aset_ne _ _ _ _ e] at h)
  | delete k =>
    refine .inr ?_
    by_cases e : k = k'
    · subst e; rw [aget_aerase_eq] at h; cases h
    · rwa [aget_aerase_ne _ _ _ e] at h

theorem get_step_sub {s : Store} (hg : Good s) (op : Op) (k' : Bytes)
    (h : (get (step s op).2 k').isSome = true) : (∃ v, op = .put k' v) ∨ (get s k').isSome = true := by
  by_cases hc : isCacheKey k' = true
  · have hk : classify k' = .cache := isCacheKey_eq_true.mp hc
    rw [get_cache _ k' hk, step_cache] at h
    rw [get_cache s k' hk]
    cases op <;> simp only [] at h <;> split at h
    · exact readable_after _ (.put _ _) k' h
    · exact .inr h
    · exact readable_after _ (.delete _) k' h
    · exact .inr h
  · have hc0 : isCacheKey k' = false := by simpa using hc
    rw [good_get (good_step hg op) k' hc0, step_md] at h
    rw [good_get hg k' hc0]
    cases op <;> simp only [specApply] at h <;> split at h
    · exact .inr h
    · exact readable_after _ (.put _ _) k' h
    · exact .inr h
    · exact readable_after _ (.delete _) k' h

/-- **`exists` and `get` agree** on every store that satisfies the overlay invariant (an index entry
    of an `emb:` key has its metadata record) -/
theorem exists_eq_get_isSome {s : Store} (hg : Good s) (k : Bytes) : exists_ s k = (get s k).isSome := by
  by_cases hc : isCacheKey k = true
  · have hk : classify k = .cache := isCacheKey_eq_true.mp hc
    rw [get_cache s k hk]
    unfold exists_; simp [hk]
  · have hc0 : isCacheKey k = false := by simpa using hc
    have hk' : classify k ≠ .cache := isCacheKey_eq_false.mp hc0
    rw [good_get hg k hc0]
    unfold exists_
    cases hcl : classify k <;> simp only [] <;> try (first | rfl | exact absurd hcl hk')
    cases hi : idxGet s.vocab k with
    | none => simp
    | some id =>
      have := hg.idxmd k id hcl hi
      simp [this]

/-- the filter has been given every key the router answers -/
def Cover (b : BStore) : Prop := ∀ k, (get b.store k).isSome = true → k ∈ b.added

theorem bstore_step_store (b : BStore) (op : Op) : (b.step op).2.store = (step b.store op).2 := by
  cases op <;> rfl

theorem cover_step {b : BStore} (hg : Good b.store) (hcov : Cover b) (op : Op) : Cover (b.step op).2 := by
  intro k hk
  rw [bstore_step_store] at hk
  rcases get_step_sub hg op k hk with ⟨v, rfl⟩ | h
  · simp [BStore.step, BStore.putDurable]
  · have := hcov k h
    cases op with
    | put k0 v0 => simp [BStore.step, BStore.putDurable, this]
    | delete k0 => simpa [BStore.step, BStore.deleteDurable] using this

theorem bstore_runOps_store (b : BStore) (ops : List Op) : (b.runOps ops).store = (runOps b.store ops).2 := by
  induction ops generalizing b with
  | nil => rfl
  | cons op ops ih =>
    rw [BStore.runOps, ih, bstore_step_store, runOps_cons]

theorem cover_runOps {b : BStore} (hg : Good b.store) (hcov : Cover b) (ops : List Op) :
    Cover (b.runOps ops) := by
  induction ops generalizing b with
  | nil => exact hcov
  | cons op ops ih =>
    rw [BStore.runOps]
    exact ih (by rw [bstore_step_store]; exact good_step hg op) (cover_step hg hcov op)

theorem cover_get {b : BStore} (hcov : Cover b) (fp : Bytes → Bool) (k : Bytes) :
    b.get fp k = get b.store k := by
  unfold BStore.get BStore.mightContain
  by_cases hm : (b.added.contains k || fp k) = true
  · rw [if_pos hm]
  · rw [if_neg hm]
    cases hgk : get b.store k with
    | none => rfl
    | some v =>
      have := hcov k (by rw [hgk]; rfl)
      simp [this] at hm

theorem cover_recovered {r : Store} (hg : Good r) : Cover ⟨r, scanKeys r⟩ :=
  fun k hk => readable_scanned hg k hk

theorem cover_empty : Cover BStore.empty := by
  intro k hk
  have : get Store.empty k = none := by
    unfold get; cases classify k <;> simp [Store.empty, idxGet, idxGetAux, aget]
  simp [BStore.empty, this] at hk

end Neumann.Durable
