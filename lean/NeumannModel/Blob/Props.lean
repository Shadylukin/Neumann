import NeumannModel.Blob.ConcSafe
import NeumannModel.Blob.ReaderLemmas
import NeumannModel.Blob.WritersLemmas
/-
  C19 — property theorems for the blob store.  ONLY property statements and their
  non-vacuity examples live here; helpers are in `Lemmas.lean` / `Invariant.lean`.

  `h` is the (opaque) content hash, `HashInj h` its collision freedom.  `run h cfg State.init ops`
  is the state after an arbitrary operation sequence (`put / stream / abandoned stream / delete /
  gc (any batch, any age) / fullGc / verify / get / repair`) from the empty store.
-/
namespace Neumann.Blob.Props
open Neumann.Blob

section
variable {K : Type} [DecidableEq K] (h : List Nat → K)

/-! ### reading returns what was written -/

/-- the chunker is a partition of the data, for every data size and every chunk size > 0
    (0, 1, c-1, c, c+1, many chunks are instances) -/
theorem chunks_concat (c : Nat) (hc : 0 < c) (d : List Nat) : (chunks c d).flatten = d :=
  chunks_flatten c hc d

/-- whatever sizes the pieces handed to a streaming writer have (empty pieces included), the chunks it
    stores concatenate to the concatenation of the pieces; holds for every chunk size -/
theorem stream_chunks_concat (c : Nat) (ps : List (List Nat)) : (streamChunks c ps).flatten = ps.flatten :=
  streamChunks_flatten c ps

/-- `put` then ANY operation sequence that does not delete that artifact, after ANY history:
    `get` returns exactly the bytes written -/
theorem read_returns_written (hi : HashInj h) (cfg : Cfg) (ops₁ ops₂ : List Op) (t : Nat) (d : List Nat) (id : Nat)
    (hput : (put h cfg t (run h cfg State.init ops₁) d).2 = .ok id)
    (hnd : ∀ op ∈ ops₂, op ≠ .delete id) :
    get (run h cfg (put h cfg t (run h cfg State.init ops₁) d).1 ops₂) id = .ok d := by
  obtain ⟨hw1, hsome, hget⟩ := put_ok_step h hi (WF_reach h hi cfg ops₁) cfg t d hput
  rw [(run_step h hi cfg ops₂ hw1).2 id hsome hnd, hget]

/-- the same for an artifact streamed in arbitrary pieces -/
theorem read_returns_streamed (hi : HashInj h) (cfg : Cfg) (ops₁ ops₂ : List Op) (t : Nat) (ps : List (List Nat))
    (hnd : ∀ op ∈ ops₂, op ≠ .delete (stream h cfg t (run h cfg State.init ops₁) ps).2) :
    get (run h cfg (stream h cfg t (run h cfg State.init ops₁) ps).1 ops₂)
        (stream h cfg t (run h cfg State.init ops₁) ps).2 = .ok ps.flatten := by
  obtain ⟨hw1, hsome, hget⟩ := stream_step h hi (WF_reach h hi cfg ops₁) cfg t ps
  rw [(run_step h hi cfg ops₂ hw1).2 _ hsome hnd, hget]

/-! ### reference counts -/

/-- in every reachable state every chunk's refcount is at least the number of times live artifacts list it
    (abandoned writers only add slack) -/
theorem refs_invariant (hi : HashInj h) (cfg : Cfg) (ops : List Op) (k : K) :
    occ k (run h cfg State.init ops).arts ≤ refsOf k (run h cfg State.init ops).chunks :=
  (WF_reach h hi cfg ops).refs k

/-- with equality for every history in which no writer is abandoned (dropped before `finish`) -/
theorem refs_eq_occurrences (hi : HashInj h) (cfg : Cfg) (ops : List Op)
    (hna : ∀ op ∈ ops, op.isAbandon = false) (k : K) :
    refsOf k (run h cfg State.init ops).chunks = occ k (run h cfg State.init ops).arts :=
  refsEq_run h hi cfg ops (WF_init h) (by intro k; simp [State.init, refsOf, occ]) hna k

/-- hence every chunk a live artifact lists is present -/
theorem live_chunks_present (hi : HashInj h) (cfg : Cfg) (ops : List Op) (p : Nat × Art K)
    (hp : p ∈ (run h cfg State.init ops).arts) (k : K) (hk : k ∈ p.2.chunks) :
    (find k (run h cfg State.init ops).chunks).isSome :=
  refsOf_pos_isSome (Nat.lt_of_lt_of_le (occ_pos_of_mem hp hk) (refs_invariant h hi cfg ops k))

/-! ### identical content is stored once -/

/-- no two chunk records hold the same content -/
theorem dedup_once (hi : HashInj h) (cfg : Cfg) (ops : List Op) :
    ((run h cfg State.init ops).chunks.map (·.2.data)).Nodup := by
  have hw := WF_reach h hi cfg ops
  have hk : keys (run h cfg State.init ops).chunks = ((run h cfg State.init ops).chunks.map (·.2.data)).map h := by
    rw [List.map_map]
    apply List.map_congr_left
    intro p hp
    exact (hw.addr p hp).symm
  have := hw.nodup
  rw [hk] at this
  exact List.Pairwise.of_map h (fun a b hne e => hne (congrArg h e)) this

/-- writing content whose chunks are all stored already adds no chunk record -/
theorem dedup_rewrite_adds_nothing (cfg : Cfg) (t : Nat) (s : State K) (ps : List (List Nat))
    (hp : ∀ d ∈ streamChunks cfg.chunkSize ps, (find (h d) s.chunks).isSome) :
    keys (stream h cfg t s ps).1.chunks = keys s.chunks := by
  rw [stream_eq]
  exact storeAll_keys_of_present h t _ _ hp

/-! ### delete and the collectors never damage another artifact -/

/-- for ANY state: deleting one artifact leaves every other artifact's bytes (or error) unchanged -/
theorem delete_preserves_others (s : State K) (id id' : Nat) (hne : id' ≠ id) :
    get (delete s id).1 id' = get s id' := by
  unfold delete
  cases hf : find id s.arts with
  | none => rfl
  | some a =>
    unfold get
    simp only [find_erase, hne, if_false]
    cases find id' s.arts with
    | none => rfl
    | some b => exact readChunks_congr (fun k _ => dataOf_decAll a.chunks s.chunks k)

/-- `gc_cycle`, for every age threshold and every batch the scan hands it, removes only records that no
    existing artifact lists -/
theorem gc_only_unreferenced (hi : HashInj h) (cfg : Cfg) (ops : List Op) (mc : Nat) (sel : K → Bool) (k : K)
    (hpre : (find k (run h cfg State.init ops).chunks).isSome)
    (hgone : find k (gcSel mc sel (run h cfg State.init ops)).1.chunks = none) :
    occ k (run h cfg State.init ops).arts = 0 := by
  have hw := WF_reach h hi cfg ops
  generalize run h cfg State.init ops = s at *
  by_cases h0 : 0 < occ k s.arts
  · rw [find_gcSel_of_refs hw.nodup mc sel (Nat.lt_of_lt_of_le h0 (hw.refs k))] at hgone
    rw [hgone] at hpre; cases hpre
  · exact Nat.eq_zero_of_not_pos h0

/-- `full_gc` (any state with unique keys) removes only records that no existing artifact lists -/
theorem full_gc_only_unreferenced (s : State K) (hn : (keys s.chunks).Nodup) (k : K)
    (hpre : (find k s.chunks).isSome) (hgone : find k (fullGc s).1.chunks = none) : occ k s.arts = 0 := by
  rw [find_fullGc hn] at hgone
  by_cases h0 : 0 < occ k s.arts
  · rw [if_pos h0] at hgone
    rw [hgone] at hpre; cases hpre
  · exact Nat.eq_zero_of_not_pos h0

/-- every collector (gc with any threshold/batch, full gc, repair) leaves every artifact's bytes unchanged -/
theorem collectors_keep_every_artifact (hi : HashInj h) (cfg : Cfg) (ops : List Op) (mc : Nat) (sel : K → Bool) (id : Nat) :
    get (gcSel mc sel (run h cfg State.init ops)).1 id = get (run h cfg State.init ops) id ∧
    get (fullGc (run h cfg State.init ops)).1 id = get (run h cfg State.init ops) id ∧
    get (repair (run h cfg State.init ops)).1 id = get (run h cfg State.init ops) id := by
  have hw := WF_reach h hi cfg ops
  exact ⟨(gcSel_step h hw mc sel).2 id, (fullGc_step h hw).2 id, (repair_step h hw).2 id⟩

/-- for ANY state: delete every artifact, then one full collection: no artifact and no chunk is left -/
theorem full_gc_after_delete_all_empty (s : State K) :
    (fullGc (deleteAll s)).1.chunks = [] ∧ (fullGc (deleteAll s)).1.arts = [] := by
  have ha : (deleteAll s).arts = [] :=
    deleteList_arts_nil (keys s.arts) s (fun p hp => List.mem_map.mpr ⟨p, hp, rfl⟩)
  constructor
  · simp only [fullGc, ha, referenced, List.flatMap_nil]
    apply List.filter_eq_nil_iff.mpr
    intro p _; simp
  · simp only [fullGc]; exact ha

/-! ### integrity verification -/

/-- undamaged artifacts verify, in every reachable state -/
theorem verify_ok_on_undamaged (hi : HashInj h) (cfg : Cfg) (ops : List Op) (id : Nat) (a : Art K)
    (hf : find id (run h cfg State.init ops).arts = some a) :
    verify h (run h cfg State.init ops) id = .ok true := by
  have hw := WF_reach h hi cfg ops
  obtain ⟨d, h1, h2, _⟩ := hw.intact (id, a) (find_some_mem hf)
  have h1' : readChunks (run h cfg State.init ops).chunks a.chunks = .ok d := h1
  have h2' : a.checksum = h d := h2
  unfold verify
  simp only [hf, h1', h2', decide_true]

/-- take any reachable state and replace its chunk table by ANYTHING (chunks altered, missing, added):
    `verify` answers `Ok(true)` exactly when the artifact still reads back as the original bytes -/
theorem verify_detects_alteration (hi : HashInj h) (cfg : Cfg) (ops : List Op) (id : Nat) (a : Art K)
    (tbl' : List (K × CRec))
    (hf : find id (run h cfg State.init ops).arts = some a) :
    verify h { run h cfg State.init ops with chunks := tbl' } id = .ok true ↔
      get { run h cfg State.init ops with chunks := tbl' } id = get (run h cfg State.init ops) id := by
  have hw := WF_reach h hi cfg ops
  generalize run h cfg State.init ops = s at *
  obtain ⟨d, h1, h2, _⟩ := hw.intact (id, a) (find_some_mem hf)
  have h1' : readChunks s.chunks a.chunks = .ok d := h1
  have h2' : a.checksum = h d := h2
  unfold verify get
  simp only [hf, h1']
  cases hr : readChunks tbl' a.chunks with
  | error e => simp
  | ok d' =>
    simp only [Except.ok.injEq, decide_eq_true_eq, h2']
    exact ⟨fun e => hi _ _ e, fun e => by rw [e]⟩

/-- in particular a missing chunk is reported as an error, never as `Ok(true)` -/
theorem verify_reports_missing_chunk (s : State K) (id : Nat) (a : Art K) (k : K)
    (hf : find id s.arts = some a) (hk : k ∈ a.chunks) (hm : find k s.chunks = none) :
    verify h s id = .error .chunkMissing := by
  unfold verify
  simp only [hf]
  have : readChunks s.chunks a.chunks = .error .chunkMissing := by
    generalize a.chunks = ks at hk
    induction ks with
    | nil => simp at hk
    | cons k0 ks ih =>
      rw [readChunks]
      cases hf0 : find k0 s.chunks with
      | none => rfl
      | some r =>
        simp only
        have hk' : k ∈ ks := by
          rcases List.mem_cons.mp hk with e | e
          · subst e; rw [hm] at hf0; cases hf0
          · exact e
        rw [ih hk']
  rw [this]

/-! ### per-chunk verification, existence checks, orphans, statistics -/

/-- `verify_chunk` accepts every record of every reachable state -/
theorem verify_chunk_ok_on_undamaged (hi : HashInj h) (cfg : Cfg) (ops : List Op) (k : K)
    (hp : (find k (run h cfg State.init ops).chunks).isSome) :
    verifyChunk h (run h cfg State.init ops) k = .ok true := by
  have hw := WF_reach h hi cfg ops
  unfold verifyChunk
  cases hf : find k (run h cfg State.init ops).chunks with
  | none => simp [hf] at hp
  | some r =>
    have := hw.addr (k, r) (find_some_mem hf)
    simp only at this
    simp [this]

/-- take any reachable state and replace its chunk table by ANYTHING: `verify_chunk` answers `Ok(true)` for a
    key of the original table exactly when the record still holds the original data — every altered chunk is
    reported (`Ok(false)`), every missing one too (`ChunkMissing`), also the boundary shift that the
    whole-artifact checksum cannot see (`verify_boundary_shift_undetected_witness`) -/
theorem verify_chunk_detects_alteration (hi : HashInj h) (cfg : Cfg) (ops : List Op) (k : K) (r0 : CRec)
    (tbl' : List (K × CRec)) (hf : find k (run h cfg State.init ops).chunks = some r0) :
    verifyChunk h { run h cfg State.init ops with chunks := tbl' } k = .ok true ↔ dataOf k tbl' = some r0.data := by
  have hw := WF_reach h hi cfg ops
  have ha : h r0.data = k := hw.addr (k, r0) (find_some_mem hf)
  unfold verifyChunk dataOf
  cases hf' : find k tbl' with
  | none => simp
  | some r' =>
    simp only [Except.ok.injEq, decide_eq_true_eq, Option.map_some, Option.some.injEq]
    constructor
    · intro e; exact hi _ _ (e.trans ha.symm)
    · intro e; rw [e]; exact ha

/-- hence an artifact all of whose listed chunks pass `verify_chunk` reads back exactly as before, whatever
    happened to the chunk table -/
theorem chunk_checks_imply_bytes_intact (hi : HashInj h) (cfg : Cfg) (ops : List Op) (id : Nat) (a : Art K)
    (tbl' : List (K × CRec)) (hf : find id (run h cfg State.init ops).arts = some a)
    (hv : ∀ k ∈ a.chunks, verifyChunk h { run h cfg State.init ops with chunks := tbl' } k = .ok true) :
    get { run h cfg State.init ops with chunks := tbl' } id = get (run h cfg State.init ops) id := by
  have hpres := live_chunks_present h hi cfg ops (id, a) (find_some_mem hf)
  unfold get
  simp only [hf]
  apply readChunks_congr
  intro k hk
  have hs := hpres k hk
  cases hfk : find k (run h cfg State.init ops).chunks with
  | none => simp [hfk] at hs
  | some r0 =>
    rw [(verify_chunk_detects_alteration h hi cfg ops k r0 tbl' hfk).mp (hv k hk)]
    simp [dataOf, hfk]

/-- `check_chunks_exist` reports nothing on any artifact of any reachable state -/
theorem check_chunks_exist_clean (hi : HashInj h) (cfg : Cfg) (ops : List Op) (id : Nat) (a : Art K)
    (hf : find id (run h cfg State.init ops).arts = some a) :
    checkChunksExist (run h cfg State.init ops) id = .ok [] := by
  have hpres := live_chunks_present h hi cfg ops (id, a) (find_some_mem hf)
  unfold checkChunksExist
  simp only [hf, Except.ok.injEq]
  apply List.filter_eq_nil_iff.mpr
  intro k hk
  simp [hpres k hk]

/-- and, in ANY state, it reports every listed key that is absent -/
theorem check_chunks_exist_reports_missing (s : State K) (id : Nat) (a : Art K) (k : K)
    (hf : find id s.arts = some a) (hk : k ∈ a.chunks) (hm : find k s.chunks = none) :
    ∃ l, checkChunksExist s id = .ok l ∧ k ∈ l := by
  unfold checkChunksExist
  simp only [hf]
  exact ⟨_, rfl, List.mem_filter.mpr ⟨hk, by simp [hm]⟩⟩

/-- `find_orphaned_chunks` (ANY state): exactly the stored keys no existing artifact lists -/
theorem find_orphaned_iff (s : State K) (k : K) :
    k ∈ findOrphaned s ↔ k ∈ keys s.chunks ∧ occ k s.arts = 0 := by
  unfold findOrphaned keys
  simp only [List.mem_map, List.mem_filter, contains_referenced]
  constructor
  · rintro ⟨p, ⟨hp, hd⟩, rfl⟩
    refine ⟨⟨p, hp, rfl⟩, ?_⟩
    simp only [Bool.not_eq_eq_eq_not, Bool.not_true, decide_eq_false_iff_not] at hd
    omega
  · rintro ⟨⟨p, hp, rfl⟩, h0⟩
    exact ⟨p, ⟨hp, by simp [h0]⟩, rfl⟩

/-- `full_gc` (ANY state) deletes exactly the orphans: its `deleted` count is their number, and none is left -/
theorem full_gc_removes_exactly_orphans (s : State K) :
    (fullGc s).2.1 = (findOrphaned s).length ∧ findOrphaned (fullGc s).1 = [] := by
  constructor
  · simp [fullGc, findOrphaned]
  · simp only [fullGc, findOrphaned, List.filter_filter, List.map_eq_nil_iff]
    apply List.filter_eq_nil_iff.mpr
    intro p _
    cases (referenced s.arts).contains p.1 <;> simp

/-- `stats().orphaned_chunks` / `count_orphans` count the records with `_refs == 0`; in every history without an
    abandoned writer these are exactly the orphans `find_orphaned_chunks` lists -/
theorem stats_orphaned_eq_unreferenced (hi : HashInj h) (cfg : Cfg) (ops : List Op)
    (hna : ∀ op ∈ ops, op.isAbandon = false) :
    (stats (run h cfg State.init ops)).orphaned = (findOrphaned (run h cfg State.init ops)).length := by
  have hw := WF_reach h hi cfg ops
  have he := refs_eq_occurrences h hi cfg ops hna
  generalize run h cfg State.init ops = s at *
  simp only [stats, findOrphaned, List.length_map]
  congr 1
  apply List.filter_congr
  intro p hp
  have hf := mem_find hw.nodup (show (p.1, p.2) ∈ s.chunks from hp)
  have := he p.1
  unfold refsOf at this; rw [hf] at this
  simp only at this
  rw [contains_referenced, this]
  by_cases h0 : occ p.1 s.arts = 0
  · simp [h0]
  · have : 0 < occ p.1 s.arts := Nat.pos_of_ne_zero h0
    simp [h0, this]

/-- for ANY state: delete every artifact, run one full collection: every statistic is zero -/
theorem stats_zero_after_delete_all_full_gc (s : State K) :
    stats (fullGc (deleteAll s)).1 = ⟨0, 0, 0, 0, 0⟩ := by
  obtain ⟨h1, h2⟩ := full_gc_after_delete_all_empty s
  simp [stats, h1, h2]

/-- `exists` is true exactly for the artifacts that can be read, in every reachable state -/
theorem exists_iff_readable (hi : HashInj h) (cfg : Cfg) (ops : List Op) (id : Nat) :
    existsArt (run h cfg State.init ops) id = true ↔ ∃ d, get (run h cfg State.init ops) id = .ok d := by
  have hw := WF_reach h hi cfg ops
  unfold existsArt get
  cases hf : find id (run h cfg State.init ops).arts with
  | none => simp
  | some a =>
    obtain ⟨d, h1, _⟩ := hw.intact (id, a) (find_some_mem hf)
    simp only [Option.isSome_some, true_iff]
    exact ⟨d, h1⟩

/-! ### the streaming reader -/

/-- `reader()` + `read_all()` is `get()`, in ANY state -/
theorem reader_read_all_is_get (s : State K) (id : Nat) :
    (match rOpen s id with | .error e => .error e | .ok r => (rAll s.chunks r).1) = get s id := by
  unfold rOpen get
  cases find id s.arts with
  | none => rfl
  | some a =>
    simp only
    unfold rAll
    rw [rAllGo_eq _ _ _ (by simp)]
    simp

/-- `BlobReader::verify`, at whatever position the reader stands (it rewinds), is `verify()` of its artifact as
    long as the metadata record is the one it was opened on — in ANY state, damaged ones included -/
theorem reader_verify_is_verify (s : State K) (id : Nat) (a : Art K) (r : Reader K)
    (hf : find id s.arts = some a) (hc : r.chunks = a.chunks) (hk : r.checksum = a.checksum) :
    (rVerify h s.chunks r).1 = verify h s id := by
  rw [rVerify_eq, hc, hk]
  unfold verify
  simp only [hf]
  cases readChunks s.chunks a.chunks <;> rfl

/-- A reader opened on an artifact written as `d` (after any history), then used through `read(buf)` with ANY
    buffer sizes (0 included) while ANY operations that do not delete that artifact run between the reads
    (other artifacts sharing its content deleted, every collector, repair, new writes): no read fails, and the
    bytes delivered so far followed by what the reader has left are exactly `d`. -/
theorem reader_session_delivers_written (hi : HashInj h) (cfg : Cfg) (ops₀ : List Op) (id : Nat) (d : List Nat)
    (r : Reader K) (evs : List (List Op × Nat))
    (hg : get (run h cfg State.init ops₀) id = .ok d) (ho : rOpen (run h cfg State.init ops₀) id = .ok r)
    (hnd : ∀ ev ∈ evs, ∀ op ∈ ev.1, op ≠ .delete id) :
    ∃ s' r' out, session h cfg (run h cfg State.init ops₀) r evs = .ok (s', r', out) ∧
      out ++ remaining s'.chunks r' = d := by
  obtain ⟨s', r', bs, e1, e5, _⟩ := session_of_open h hi cfg evs (WF_reach h hi cfg ops₀) hg ho hnd
  exact ⟨s', r', bs, e1, ReaderOk_remaining e5⟩

/-- ... and a `read` with a non-empty buffer returns 0 bytes only at the true end: once that happens, the bytes
    delivered are exactly the bytes written (the loop `while read(buf) > 0` reads the whole artifact, for every
    buffer size, chunk size and data size) -/
theorem reader_eof_means_all_delivered (hi : HashInj h) (cfg : Cfg) (ops₀ : List Op) (id : Nat) (d : List Nat)
    (r : Reader K) (evs : List (List Op × Nat)) (s' : State K) (r' : Reader K) (out : List Nat) (n : Nat)
    (hg : get (run h cfg State.init ops₀) id = .ok d) (ho : rOpen (run h cfg State.init ops₀) id = .ok r)
    (hnd : ∀ ev ∈ evs, ∀ op ∈ ev.1, op ≠ .delete id)
    (hs : session h cfg (run h cfg State.init ops₀) r evs = .ok (s', r', out))
    (hpos : 0 < n) (heof : (rRead s'.chunks r' n).1 = .ok []) : out = d := by
  obtain ⟨s2, r2, bs, e1, e5, hne⟩ := session_of_open h hi cfg evs (WF_reach h hi cfg ops₀) hg ho hnd
  cases e1.symm.trans hs
  obtain ⟨bs', hb, _, _, hend⟩ := rRead_ok e5 n
  cases hb.symm.trans heof
  simpa using hend (hne (NE_reach h cfg ops₀)) hpos rfl

/-! ### open streaming writers: sequential histories with writers that stay open across deletes and gc cycles -/

/-- In every state reachable by a sequential history with open writers (any operations, writers opened / written /
    finished / dropped in any order and left open across anything; `full_gc` / `repair` only while no writer is
    open — the known findings), a chunk's refcount covers its listings by finished artifacts PLUS one reference per
    occurrence in every open writer's chunk list: the reference is taken when the chunk is written. -/
theorem refs_cover_open_writers (hi : HashInj h) (cfg : Cfg) (ops : List WOp)
    (hq : collectorsQuiet h cfg WState.init ops = true) (k : K) :
    occ k (runW h cfg WState.init ops).st.arts + holds k (runW h cfg WState.init ops).writers
      ≤ refsOf k (runW h cfg WState.init ops).st.chunks :=
  (WFW_reach h hi cfg ops hq).refsW k

/-- A chunk an open writer has written is never removed by `gc_cycle` (any age threshold, any batch), whatever
    was deleted meanwhile: after ANY such history, for every open writer, every key of its list survives the
    cycle and the list still reads back as the bytes the writer has stored so far. -/
theorem open_writer_chunks_survive_gc (hi : HashInj h) (cfg : Cfg) (ops : List WOp)
    (hq : collectorsQuiet h cfg WState.init ops = true) (w : Nat) (wr : Writer K)
    (hw : find w (runW h cfg WState.init ops).writers = some wr) (mc : Nat) (sel : K → Bool) :
    (∀ k ∈ wr.chunks, (find k (gcSel mc sel (runW h cfg WState.init ops).st).1.chunks).isSome) ∧
    ∃ d, readChunks (gcSel mc sel (runW h cfg WState.init ops).st).1.chunks wr.chunks = .ok d ∧
      d ++ wr.buffer = writtenTo w ops := by
  have hx := WFW_reach h hi cfg ops hq
  have hh := hashed_reach h cfg w ops wr hw
  have hm := find_some_mem hw
  generalize runW h cfg WState.init ops = x at *
  obtain ⟨d, h1, h2, _⟩ := hx.wr (w, wr) hm
  have hfind : ∀ k ∈ wr.chunks, find k (gcSel mc sel x.st).1.chunks = find k x.st.chunks :=
    fun k hk => find_gcSel_of_refs hx.base.nodup mc sel (hx.writer_refs_pos h hm hk)
  refine ⟨fun k hk => ?_, d, ?_, ?_⟩
  · rw [hfind k hk]
    exact refsOf_pos_isSome (hx.writer_refs_pos h hm hk)
  · have hc : readChunks (gcSel mc sel x.st).1.chunks wr.chunks = readChunks x.st.chunks wr.chunks :=
      readChunks_congr (fun k hk => by unfold dataOf; rw [hfind k hk])
    rw [hc]; exact h1
  · rw [← hh]; exact h2

/-- A writer left open across ANY sequential history (deletes of the artifacts it shares chunks with, gc cycles,
    other writers, ...), then finished, then ANY further history that does not delete the new artifact:
    `get` returns exactly the bytes handed to the writer. -/
theorem finished_artifact_readable_after_any_sequential_history (hi : HashInj h) (cfg : Cfg)
    (ops₁ ops₂ : List WOp) (w t : Nat) (wr : Writer K)
    (hq : collectorsQuiet h cfg WState.init (ops₁ ++ .wfinish w t :: ops₂) = true)
    (hw : find w (runW h cfg WState.init ops₁).writers = some wr)
    (hnd : ∀ op ∈ ops₂, op ≠ .base (.delete (runW h cfg WState.init ops₁).st.next)) :
    get (runW h cfg WState.init (ops₁ ++ .wfinish w t :: ops₂)).st (runW h cfg WState.init ops₁).st.next
      = .ok (writtenTo w ops₁) := by
  obtain ⟨hq1, hq2⟩ := (collectorsQuiet_append h cfg WState.init ops₁ _).mp hq
  obtain ⟨_, hq3⟩ := (collectorsQuiet_cons h cfg _ _ ops₂).mp hq2
  have hx := WFW_reach h hi cfg ops₁ hq1
  have hh := hashed_reach h cfg w ops₁ wr hw
  rw [runW_append, runW_cons]
  generalize runW h cfg WState.init ops₁ = x at *
  have hstep : applyW h cfg x (.wfinish w t) = ⟨(wFinish h t x.st wr).1, erase w x.writers⟩ := by
    simp only [applyW, hw]
  rw [hstep] at hq3 ⊢
  obtain ⟨h1, _, h3, h4⟩ := wfinish_step h hi hx hw t
  rw [(runW_step h hi cfg ops₂ h1 hq3).2 x.st.next h3 hnd, h4, hh]

end

/-! ### witnesses and non-vacuity (keys = chunk bytes, `h = id`, as in the driver) -/

abbrev cfg2 : Cfg := ⟨2, none⟩
def hid : List Nat → List Nat := id
theorem hid_inj : HashInj hid := fun _ _ e => e

/-- `verify` hashes the concatenation only: moving a chunk boundary inside the store (two records altered
    at once, bytes of the artifact unchanged) is not reported.  The artifact still reads back correctly. -/
theorem verify_boundary_shift_undetected_witness :
    let s := (put hid cfg2 0 State.init [1, 2, 3, 4]).1
    let s' := corrupt (corrupt s [1, 2] [1]) [3, 4] [2, 3, 4]
    verify hid s' 0 = .ok true ∧ get s' 0 = .ok [1, 2, 3, 4] ∧ s'.chunks ≠ s.chunks := by decide +kernel

/-- API-level interleaving on one thread: a streaming writer has stored chunks but not yet its metadata;
    `full_gc` runs; the writer finishes successfully; the artifact cannot be read. -/
theorem open_writer_full_gc_witness :
    let s1 := wWrite hid 2 0 State.init Writer.new [1, 2, 3]
    let s2 := (fullGc s1.1).1
    let s3 := wFinish hid 0 s2 s1.2
    get s3.1 s3.2 = .error .chunkMissing := by decide +kernel

/-- the same with `repair` -/
theorem open_writer_repair_witness :
    let s1 := wWrite hid 2 0 State.init Writer.new [1, 2, 3]
    let s2 := (repair s1.1).1
    let s3 := wFinish hid 0 s2 s1.2
    get s3.1 s3.2 = .error .chunkMissing := by decide +kernel

/-- The full concurrent statement: for every interleaving of the store steps of any set of writers,
    deleters, `gc_cycle`s and `full_gc`s started on a reachable store, every existing artifact keeps all
    its chunks. -/
def ConcurrentNoLiveCollect : Prop :=
  ∀ (cfg : Cfg) (ops : List Op) (ths : List (Th (List Nat))) (sched : List Nat),
    (∀ th ∈ ths, th.isStart = true) →
    liveIntact (runSched hid (run hid cfg State.init ops) ths sched).1 = true

/-- it is FALSE of the current code: writer ∥ full_gc from the empty store -/
theorem concurrent_full_gc_vs_writer_witness : ¬ ConcurrentNoLiveCollect := by
  intro hc
  have := hc cfg2 [] [Th.writer 0 0 [[1]], Th.fullGc] [0, 0, 1, 1, 1, 1, 1, 1, 0] (by decide +kernel)
  revert this
  decide +kernel

/-- and no collector needs to overlap anything: two writers of the same content interleave their
    `exists`/`put` steps (refcount 1 for two references), one artifact is deleted, and a `gc_cycle` that
    starts after everybody else has finished removes the chunk of the surviving artifact -/
theorem concurrent_lost_update_witness :
    let ths : List (Th (List Nat)) := [Th.writer 0 0 [[1]], Th.writer 1 0 [[1]], Th.deleter 0, Th.gc 5]
    let before := runSched hid State.init ths [0, 1, 0, 1, 0, 1, 2, 2, 2, 2]
    let after := runSched hid before.1 before.2 [3, 3, 3, 3]
    (before.2.take 3).all Th.isDone = true ∧ liveIntact before.1 = true ∧
    refsOf [1] before.1.chunks = 0 ∧ occ [1] before.1.arts = 1 ∧
    after.2.all Th.isDone = true ∧ liveIntact after.1 = false := by decide +kernel

/-- Collectors against deleters are safe.  Any number of deleters of pairwise DIFFERENT artifacts, `gc_cycle`s
    (any age threshold) and `full_gc`s, freshly started on any reachable store, under EVERY interleaving of their
    individual `TensorStore` calls and EVERY order the scans may return: an artifact that no deleter is after
    reads back exactly the same bytes afterwards (so none of its chunks was collected or altered, whatever
    stale refcounts the deleters wrote back over each other).  With two deleters of the SAME artifact it is
    false (`concurrent_double_delete_witness`); with a writer next to a collector it is false
    (`calls_full_gc_vs_writer_witness`, `calls_gc_vs_writer_on_orphan_witness`, `calls_lost_update_witness`). -/
theorem concurrent_deleters_collectors_safe {K : Type} [DecidableEq K] (h : List Nat → K) (hi : HashInj h)
    (cfg : Cfg) (ops : List Op) (ths : List (Th K)) (sched : List Nat)
    (hst : ∀ th ∈ ths, th.isFreshNonWriter = true) (hd : (ths.filterMap target).Nodup)
    (id : Nat) (hid : ∀ th ∈ ths, target th ≠ some id) :
    get (runSched h (run h cfg State.init ops) ths sched).1 id = get (run h cfg State.init ops) id :=
  deleters_collectors_safe h (WF_reach h hi cfg ops).idsNodup (WF_reach h hi cfg ops).refs ths sched hst hd id hid

/-- ... and the same for the call-level runs the scheduled real threads are compared with -/
theorem calls_deleters_collectors_safe {K : Type} [DecidableEq K] (h : List Nat → K) (hi : HashInj h)
    (cfg : Cfg) (ops : List Op) (ths : List (Th K)) (sched : List Nat)
    (hst : ∀ th ∈ ths, th.isFreshNonWriter = true) (hd : (ths.filterMap target).Nodup)
    (id : Nat) (hid : ∀ th ∈ ths, target th ≠ some id) :
    get (runCalls h (run h cfg State.init ops) ths sched).1 id = get (run h cfg State.init ops) id := by
  obtain ⟨sched', e⟩ := runCalls_refines_aux h sched (run h cfg State.init ops) ths
  rw [← e]
  exact concurrent_deleters_collectors_safe h hi cfg ops ths sched' hst hd id hid

/-- PARTIAL (what is missing: collector threads next to WRITERS — that part is false of the current code, see
    the witnesses above; collectors next to deleters only are covered by `concurrent_deleters_collectors_safe`).
    For EVERY interleaving of the store steps of any number
    of writers, deleters and metadata updaters (`set_meta`, `update_metadata`, `tag`, `link`: get the record, put
    it back) — overlapping content, in any phase (`ThOk`: no `gc`/`full_gc` thread, keys a
    writer already pushed are present; freshly started threads qualify) — every existing artifact keeps all
    its chunks: without a collector no step ever removes a chunk record.  (Refcounts may still be lost,
    see `concurrent_lost_update_witness`; the damage needs a later collector.) -/
theorem concurrent_no_collector_partial {K : Type} [DecidableEq K] (h : List Nat → K)
    (s : State K) (ths : List (Th K)) (sched : List Nat)
    (hl : liveIntact s = true) (hth : ∀ th ∈ ths, ThOk h s th) :
    liveIntact (runSched h s ths sched).1 = true :=
  (liveIntact_iff _).mpr (runSched_safe h sched ((liveIntact_iff s).mp hl) hth).1

/-! ### call level: the runs compared with the real threads -/

/-- every call-level run (one schedule entry = one `TensorStore` call, the granularity of the yield-point hook;
    its call trace and final image are what the scheduled real threads are compared with) is a step-level run:
    what holds for all `runSched` schedules holds for it -/
theorem runCalls_refines {K : Type} [DecidableEq K] (h : List Nat → K) (s : State K) (ths : List (Th K))
    (sched : List Nat) : ∃ sched', runSched h s ths sched' = runCalls h s ths sched :=
  runCalls_refines_aux h sched s ths

abbrev cfg1 : Cfg := ⟨1, none⟩

/-- replayed on the real store (`conc.directed` lost-update-then-gc): two writers of the same content interleave
    `exists` / `put`; refcount 1 for two references; delete one artifact, `gc_cycle`: the other is unreadable -/
theorem calls_lost_update_witness :
    let ths : List (Th (List Nat)) := [Th.writer 0 900 [[1]], Th.writer 1 900 [[1]]]
    let r := runCalls hid State.init ths [0, 1, 0, 1, 0, 1]
    let s2 := (gcSel 1000 (fun _ => true) (delete r.1 0).1).1
    callTrace hid State.init ths [0, 1, 0, 1, 0, 1] =
      [some (.existsC [1]), some (.existsC [1]), some (.putC [1]), some (.putC [1]), some (.putM 0), some (.putM 1)] ∧
    r.2.all Th.isDone = true ∧ refsOf [1] r.1.chunks = 1 ∧ occ [1] r.1.arts = 2 ∧
    get s2 1 = .error .chunkMissing := by decide +kernel

/-- replayed on the real store (`conc.directed` full-gc-vs-writer) -/
theorem calls_full_gc_vs_writer_witness :
    let ths : List (Th (List Nat)) := [Th.writer 0 900 [[1]], Th.fullGc]
    let r := runCalls hid State.init ths [0, 0, 1, 1, 1, 1, 0]
    callTrace hid State.init ths [0, 0, 1, 1, 1, 1, 0] =
      [some (.existsC [1]), some (.putC [1]), some .scanM, some .scanC, some (.getC [1]), some (.delC [1]), some (.putM 0)] ∧
    r.2.all Th.isDone = true ∧ get r.1 0 = .error .chunkMissing := by decide +kernel

/-- replayed on the real store (`conc.directed` gc-vs-writer-on-orphan): `gc_cycle` has read `_refs == 0` on an
    old orphan, the writer re-references it, `gc_cycle` deletes it, the writer's artifact is unreadable -/
theorem calls_gc_vs_writer_on_orphan_witness :
    let s0 := run hid cfg1 State.init [.put 1 [1], .delete 0]
    let ths : List (Th (List Nat)) := [Th.writer 1 900 [[1]], Th.gc 500]
    let r := runCalls hid s0 ths [1, 1, 0, 0, 0, 1, 0]
    callTrace hid s0 ths [1, 1, 0, 0, 0, 1, 0] =
      [some .scanC, some (.getC [1]), some (.existsC [1]), some (.getC [1]), some (.putC [1]), some (.delC [1]), some (.putM 1)] ∧
    r.2.all Th.isDone = true ∧ get r.1 1 = .error .chunkMissing := by decide +kernel

/-- two deleters of the SAME artifact (no writer, no lost update): both read the metadata, both decrement every
    chunk; the chunk shared with another artifact drops to 0 references while that artifact exists, and a later
    `gc_cycle` removes it.  Replayed on the real store first on every run (`conc.directed` double-delete-then-gc) and
    reported as the known finding `tensor_blob.delete/double_decrement`; the harness files a failure under that
    class only for chunks whose `putC` appears for two deleter threads of the same artifact in the observed call
    trace (here: `putC [1]` by thread 0 and by thread 1).  Run one after the other the same two deleters are
    harmless (the `example` below; `conc.directed` double-delete-serial). -/
theorem concurrent_double_delete_witness :
    let s0 := run hid cfg1 State.init [.put 1 [1], .put 2 [1]]
    let ths : List (Th (List Nat)) := [Th.deleter 0, Th.deleter 0]
    let r := runCalls hid s0 ths [0, 1, 0, 0, 1, 1, 0, 1]
    let s2 := (gcSel 1000 (fun _ => true) r.1).1
    callTrace hid s0 ths [0, 1, 0, 0, 1, 1, 0, 1] =
      [some (.getM 0), some (.getM 0), some (.getC [1]), some (.putC [1]), some (.getC [1]), some (.putC [1]),
       some (.delM 0), some (.delM 0)] ∧
    refsOf [1] s0.chunks = 2 ∧ r.2.all Th.isDone = true ∧ refsOf [1] r.1.chunks = 0 ∧ occ [1] r.1.arts = 1 ∧
    get r.1 1 = .ok [1] ∧ get s2 1 = .error .chunkMissing := by decide +kernel

/-- control for `concurrent_double_delete_witness`: the second deleter starts after the first has removed the
    metadata record, reads nothing and decrements nothing; a1 survives the collection -/
example :
    let s0 := run hid cfg1 State.init [.put 1 [1], .put 2 [1]]
    let ths : List (Th (List Nat)) := [Th.deleter 0, Th.deleter 0]
    let r := runCalls hid s0 ths [0, 0, 0, 0, 1]
    let s2 := (gcSel 1000 (fun _ => true) r.1).1
    r.2.all Th.isDone = true ∧ refsOf [1] r.1.chunks = 1 ∧ get s2 1 = .ok [1] := by decide +kernel

/-- OUTSIDE the property's quantifier (it names writers and deleters), recorded because the consequence is a
    collected live chunk: a metadata update (`set_meta`: get the record, put it back) that overlaps a `delete` of
    the same artifact re-creates the metadata record after the deleter has decremented its chunks; the artifact
    exists again, its chunks have 0 references, the next `gc_cycle` removes them.  Replayed on the real store
    (`conc.directed` update-resurrects-deleted). -/
theorem concurrent_update_resurrects_deleted_witness :
    let s0 := run hid cfg1 State.init [.put 1 [1]]
    let ths : List (Th (List Nat)) := [Th.toucher 0, Th.deleter 0]
    let r := runCalls hid s0 ths [0, 1, 1, 1, 1, 0]
    let s2 := (gcSel 1000 (fun _ => true) r.1).1
    callTrace hid s0 ths [0, 1, 1, 1, 1, 0] =
      [some (.getM 0), some (.getM 0), some (.getC [1]), some (.putC [1]), some (.delM 0), some (.putM 0)] ∧
    r.2.all Th.isDone = true ∧ existsArt r.1 0 = true ∧ refsOf [1] r.1.chunks = 0 ∧ get r.1 0 = .ok [1] ∧
    existsArt s2 0 = true ∧ get s2 0 = .error .chunkMissing := by decide +kernel

/-! non-vacuity -/
-- two deleters of different artifacts, a gc_cycle and a full_gc on a store with shared chunks and an orphan
example : let ths : List (Th (List Nat)) := [Th.deleter 0, Th.deleter 1, Th.gc 5, Th.fullGc]
    (∀ th ∈ ths, th.isFreshNonWriter = true) ∧ (ths.filterMap target).Nodup ∧ (∀ th ∈ ths, target th ≠ some 2) := by decide +kernel
example : let s := run hid cfg1 State.init [.put 1 [1, 2], .put 1 [2, 3], .put 1 [3, 1], .abandon 1 [[9]]]
    let r := runSched hid s [Th.deleter 0, Th.deleter 1, Th.gc 5, Th.fullGc]
      [0, 1, 2, 3, 0, 1, 2, 3, 0, 1, 2, 3, 0, 1, 2, 3, 0, 1, 2, 3, 0, 1, 2, 3, 2, 3, 2, 3, 3, 3, 2, 2, 2, 3, 3, 3,
       2, 3, 2, 3, 2, 3, 2, 3]
    r.2.all Th.isDone = true ∧ get r.1 2 = .ok [3, 1] ∧ find [9] r.1.chunks = none ∧ r.1.arts.length = 1 := by decide +kernel
-- per-chunk verification: a stored record, and the boundary shift the whole-artifact checksum misses
example : find [1, 2] (run hid cfg2 State.init [.put 0 [1, 2, 3]]).chunks = some ⟨[1, 2], 2, 1, 0⟩ := by decide +kernel
example : let s := (put hid cfg2 0 State.init [1, 2, 3, 4]).1
    let s' := corrupt (corrupt s [1, 2] [1]) [3, 4] [2, 3, 4]
    verify hid s' 0 = .ok true ∧ verifyChunk hid s' [1, 2] = .ok false ∧ verifyChunk hid s' [3, 4] = .ok false ∧
    verifyChunk hid (dropChunk s [1, 2]) [1, 2] = .error .chunkMissing := by decide +kernel
example : let s := run hid cfg2 State.init [.put 0 [1, 2, 3]]
    ∀ k ∈ [[1, 2], [3]], verifyChunk hid { s with chunks := s.chunks } k = .ok true := by decide +kernel
example : let s := run hid cfg2 State.init [.put 0 [1, 2, 3], .put 0 [1, 2], .delete 0, .abandon 0 [[7, 7]]]
    findOrphaned s = [[3], [7, 7]] ∧ (stats s).orphaned = 1 ∧ stats s = ⟨1, 3, 2, 5, 1⟩ ∧
    (fullGc s).2.1 = 2 ∧ existsArt s 1 = true ∧ existsArt s 0 = false ∧
    checkChunksExist (dropChunk s [1, 2]) 1 = .ok [[1, 2]] := by decide +kernel
-- a read session: buffers 1, 3, 5, 2, 1 with deletes of a sharing artifact and every collector in between
example : let s := run hid cfg2 State.init [.put 0 [1, 2, 3, 4, 5], .put 0 [1, 2, 9]]
    let r : Reader (List Nat) := ⟨[[1, 2], [3, 4], [5]], 0, none, 0, 5, 0, [1, 2, 3, 4, 5]⟩
    rOpen s 0 = .ok r ∧ get s 0 = .ok [1, 2, 3, 4, 5] ∧
    (session hid cfg2 s r [([.delete 1, .gcAll 9 0], 1), ([.fullGc], 3), ([], 5), ([.repair], 2)]).map (·.2.2)
      = .ok [1, 2, 3, 4, 5] := by decide +kernel
example : let s := run hid cfg2 State.init [.put 0 [1, 2, 3]]
    let r : Reader (List Nat) := ⟨[[1, 2], [3]], 2, some [3], 1, 3, 3, [1, 2, 3]⟩
    (rRead s.chunks r 4).1 = .ok [] ∧ (rVerify hid s.chunks r).1 = .ok true ∧
    (rVerify hid (corrupt s [3] [4]).chunks r).1 = .ok false := by decide +kernel
example : ∀ th ∈ [Th.writer 0 0 [[1], [1]], Th.writer 1 0 [[1]], Th.deleter 0, Th.toucher 0],
    ThOk hid (State.init : State (List Nat)) th := by
  intro th hth
  simp only [List.mem_cons, List.not_mem_nil, or_false] at hth
  rcases hth with e | e | e | e <;> subst e <;> simp [Th.writer, Th.deleter, Th.toucher, ThOk]
example : HashInj hid := hid_inj
-- an abandoned writer leaves slack (refs 1, no artifact): `gc_cycle` never takes the record, `full_gc` does
example : let s := run hid cfg2 State.init [.abandon 0 [[1, 2, 3]]]
    refsOf [1, 2] s.chunks = 1 ∧ occ [1, 2] s.arts = 0 ∧
    (gcSel 100 (fun _ => true) s).1.chunks = s.chunks ∧ (fullGc s).1.chunks = [] := by decide +kernel
example : ∀ op ∈ [Op.put 0 [1, 2, 3], .stream 1 [[1], [2, 3, 4]], .delete 0, .gcAll 9 0, .repair], op.isAbandon = false := by decide +kernel
example : get (run hid cfg2 (put hid cfg2 0 (run hid cfg2 State.init [.put 0 [9, 9, 9]]) [1, 2, 3]).1
    [.delete 0, .gcAll 10 1, .fullGc, .repair]) 1 = .ok [1, 2, 3] :=
  read_returns_written hid hid_inj cfg2 [.put 0 [9, 9, 9]] [.delete 0, .gcAll 10 1, .fullGc, .repair] 0 [1, 2, 3] 1
    (by decide +kernel) (by decide +kernel)
example : (put hid cfg2 0 (run hid cfg2 State.init [.put 0 [9, 9, 9]]) [1, 2, 3]).2 = .ok 1 := by decide +kernel
example : (find [1, 2] (run hid cfg2 State.init [.put 0 [1, 2, 3], .delete 0]).chunks).isSome = true ∧
    find [1, 2] (gcSel 5 (fun _ => true) (run hid cfg2 State.init [.put 0 [1, 2, 3], .delete 0])).1.chunks = none := by decide +kernel
example : find 0 (run hid cfg2 State.init [.put 0 [1, 2, 3]]).arts = some ⟨[[1, 2], [3]], 3, [1, 2, 3]⟩ := by decide +kernel
example : (fullGc (deleteAll (run hid cfg2 State.init [.put 0 [1, 2, 3], .abandon 0 [[7, 7, 7]], .put 0 [1, 2]]))).1.chunks = [] := by decide +kernel

/-! ### open streaming writers: the deferred-increment variant, and non-vacuity of the open-writer theorems -/

/-- The deferred-increment variant (`storeChunkDeferredRefs`: an already existing chunk is only remembered and its
    reference taken in `finish()`) is NOT safe on the history of seeded change C19_2: artifact a0 = [1,2,3,4,5]
    (chunks [1,2] [3,4] [5]); a writer stores [1,2] [3,4] (both deduplicated) and stays open; a0 is deleted; a
    `gc_cycle` runs; the writer writes [5] and finishes successfully; the new artifact lists chunks that are
    gone. The current code (`wWrite`/`wFinish`, reference taken at write time) reads the same history back. -/
theorem deferred_refs_writer_loses_chunk_witness :
    let s0 := (put hid cfg2 1 State.init [1, 2, 3, 4, 5]).1
    -- the variant
    let v1 := wWriteDeferredRefs hid 2 2 s0 DWriter.new [1, 2, 3, 4]
    let v2 := (gcSel 100 (fun _ => true) (delete v1.1 0).1).1
    let v3 := wWriteDeferredRefs hid 2 5 v2 v1.2 [5]
    let v4 := wFinishDeferredRefs hid 6 v3.1 v3.2
    -- the current code
    let c1 := wWrite hid 2 2 s0 Writer.new [1, 2, 3, 4]
    let c2 := (gcSel 100 (fun _ => true) (delete c1.1 0).1).1
    let c3 := wWrite hid 2 5 c2 c1.2 [5]
    let c4 := wFinish hid 6 c3.1 c3.2
    refsOf [1, 2] v1.1.chunks = 1 ∧ refsOf [1, 2] c1.1.chunks = 2 ∧
    find [1, 2] v2.chunks = none ∧ (find [1, 2] c2.chunks).isSome = true ∧
    get v4.1 v4.2 = .error .chunkMissing ∧ verify hid v4.1 v4.2 = .error .chunkMissing ∧
    checkChunksExist v4.1 v4.2 = .ok [[1, 2], [3, 4]] ∧
    get c4.1 c4.2 = .ok [1, 2, 3, 4, 5] ∧ verify hid c4.1 c4.2 = .ok true := by decide +kernel

/-- control for `deferred_refs_writer_loses_chunk_witness`: the same history WITHOUT the `gc_cycle` — the variant
    reads back fine and ends in exactly the state of the current code (same records, same refcounts): only a
    collection that falls between the deduplicated write and `finish()` tells the two apart -/
example :
    let s0 := (put hid cfg2 1 State.init [1, 2, 3, 4, 5]).1
    let v1 := wWriteDeferredRefs hid 2 2 s0 DWriter.new [1, 2, 3, 4]
    let v3 := wWriteDeferredRefs hid 2 5 (delete v1.1 0).1 v1.2 [5]
    let v4 := wFinishDeferredRefs hid 6 v3.1 v3.2
    let c1 := wWrite hid 2 2 s0 Writer.new [1, 2, 3, 4]
    let c3 := wWrite hid 2 5 (delete c1.1 0).1 c1.2 [5]
    let c4 := wFinish hid 6 c3.1 c3.2
    get v4.1 v4.2 = .ok [1, 2, 3, 4, 5] ∧ verify hid v4.1 v4.2 = .ok true ∧ v4 = c4 ∧
    refsOf [1, 2] v4.1.chunks = 1 ∧ refsOf [3, 4] v4.1.chunks = 1 ∧ refsOf [5] v4.1.chunks = 1 := by decide +kernel

/-- the history of the witness as a `WOp` list: a writer open across the delete of the artifact it shares its
    chunks with and a `gc_cycle` -/
abbrev opsOpenWriter : List WOp :=
  [.base (.put 1 [1, 2, 3, 4, 5]), .wopen 0, .wwrite 0 2 [1, 2, 3, 4], .base (.delete 0), .base (.gcAll 100 0),
   .wwrite 0 5 [5]]

-- the hypotheses of the open-writer theorems hold on it; the writer's references are the only ones left
example : collectorsQuiet hid cfg2 WState.init opsOpenWriter = true := by decide +kernel
example : find 0 (runW hid cfg2 WState.init opsOpenWriter).writers = some ⟨[[1, 2], [3, 4]], 5, [1, 2, 3, 4, 5], [5]⟩ := by
  decide +kernel
example : writtenTo 0 opsOpenWriter = [1, 2, 3, 4, 5] := by decide +kernel
example : holds [1, 2] (runW hid cfg2 WState.init opsOpenWriter).writers = 1 ∧
    refsOf [1, 2] (runW hid cfg2 WState.init opsOpenWriter).st.chunks = 1 ∧
    occ [1, 2] (runW hid cfg2 WState.init opsOpenWriter).st.arts = 0 := by decide +kernel
-- `refs_cover_open_writers` / `open_writer_chunks_survive_gc` on it (one more gc_cycle over everything)
example : occ [1, 2] (runW hid cfg2 WState.init opsOpenWriter).st.arts + holds [1, 2] (runW hid cfg2 WState.init opsOpenWriter).writers
    ≤ refsOf [1, 2] (runW hid cfg2 WState.init opsOpenWriter).st.chunks :=
  refs_cover_open_writers hid hid_inj cfg2 opsOpenWriter (by decide +kernel) [1, 2]
example : ∃ d, readChunks (gcSel 1000 (fun _ => true) (runW hid cfg2 WState.init opsOpenWriter).st).1.chunks [[1, 2], [3, 4]] = .ok d ∧
    d ++ [5] = writtenTo 0 opsOpenWriter :=
  (open_writer_chunks_survive_gc hid hid_inj cfg2 opsOpenWriter (by decide +kernel) 0 ⟨[[1, 2], [3, 4]], 5, [1, 2, 3, 4, 5], [5]⟩
    (by decide +kernel) 1000 (fun _ => true)).2
-- finish, then another gc_cycle, a full_gc and a repair (no writer is open any more): the artifact reads back
example : get (runW hid cfg2 WState.init
      (opsOpenWriter ++ .wfinish 0 6 :: [.base (.gcAll 200 0), .base .fullGc, .base .repair])).st
    (runW hid cfg2 WState.init opsOpenWriter).st.next = .ok (writtenTo 0 opsOpenWriter) :=
  finished_artifact_readable_after_any_sequential_history hid hid_inj cfg2 opsOpenWriter
    [.base (.gcAll 200 0), .base .fullGc, .base .repair] 0 6 ⟨[[1, 2], [3, 4]], 5, [1, 2, 3, 4, 5], [5]⟩
    (by decide +kernel) (by decide +kernel) (by decide +kernel)
example : (runW hid cfg2 WState.init opsOpenWriter).st.next = 1 ∧
    get (runW hid cfg2 WState.init
      (opsOpenWriter ++ .wfinish 0 6 :: [.base (.gcAll 200 0), .base .fullGc, .base .repair])).st 1
      = .ok [1, 2, 3, 4, 5] := by decide +kernel
-- the hypothesis really excludes the known `full_gc` finding (`open_writer_full_gc_witness`): a `full_gc` /
-- `repair` while a writer is open is not a quiet history; after the writer has finished or been dropped it is
example : collectorsQuiet hid cfg2 WState.init [.wopen 0, .wwrite 0 0 [1, 2, 3], .base .fullGc] = false := by decide +kernel
example : collectorsQuiet hid cfg2 WState.init [.wopen 0, .wwrite 0 0 [1, 2, 3], .base .repair] = false := by decide +kernel
example : collectorsQuiet hid cfg2 WState.init
    [.wopen 0, .wwrite 0 0 [1, 2, 3], .wfinish 0 0, .base .fullGc, .wopen 1, .wdrop 1, .base .repair] = true := by decide +kernel

end Neumann.Blob.Props
