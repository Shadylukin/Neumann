import NeumannModel.Blob.Props
import NeumannModel.Blob.AgingLemmas
/-
  C19 — property theorems for a LONG-LIVED blob store under the wall clock (`Aging.lean`): one `BlobStore`, one
  `GarbageCollector` with a fixed `min_age`, every call of the history goes through them, seconds pass between
  the calls (`COp.tick`).  `runC h cfg minAge (CState.init now₀) ops` is the state after an arbitrary clocked
  history; `stampAll minAge now₀ ops` is the same history with the clock filled in.  As in `Props.lean`,
  `full_gc` / `repair` run only while no writer is open (`collectorsQuiet`, the known findings).
-/
namespace Neumann.Blob.Props
open Neumann.Blob

section
variable {K : Type} [DecidableEq K] (h : List Nat → K)

/-! ### incremental collection on a long-lived store -/

/-- After ANY clocked history on a long-lived store (any `min_age`, any number of seconds between any two calls,
    any number of earlier gc cycles — whatever they saw), a chunk's refcount covers its listings by finished
    artifacts plus one reference per occurrence in every open writer's list. -/
theorem long_lived_store_refs_cover_references (hi : HashInj h) (cfg : Cfg) (minAge now₀ : Nat) (ops : List COp)
    (hq : collectorsQuiet h cfg WState.init (stampAll minAge now₀ ops) = true) (k : K) :
    occ k (runC h cfg minAge (CState.init now₀) ops).x.st.arts + holds k (runC h cfg minAge (CState.init now₀) ops).x.writers
      ≤ refsOf k (runC h cfg minAge (CState.init now₀) ops).x.st.chunks := by
  exact (WFW_reachC h hi cfg minAge now₀ ops hq).refsW k

/-- A gc cycle decides on the records AS THEY ARE WHEN IT RUNS: after any clocked history (earlier cycles that
    found a record unreferenced and too young included), whenever a cycle (any threshold — any clock, any
    `min_age` — and any batch) removes a record, that record has `_refs = 0` at that moment, no finished
    artifact lists it and no open writer has written it.  In particular a chunk that was unreferenced during an
    earlier cycle and has been referenced again since is not removed, however old it has become. -/
theorem gc_cycle_removes_only_records_unreferenced_when_it_runs (hi : HashInj h) (cfg : Cfg) (minAge now₀ : Nat)
    (ops : List COp) (hq : collectorsQuiet h cfg WState.init (stampAll minAge now₀ ops) = true)
    (mc : Nat) (sel : K → Bool) (k : K)
    (hgone : find k (gcSel mc sel (runC h cfg minAge (CState.init now₀) ops).x.st).1.chunks = none)
    (hwas : (find k (runC h cfg minAge (CState.init now₀) ops).x.st.chunks).isSome) :
    refsOf k (runC h cfg minAge (CState.init now₀) ops).x.st.chunks = 0 ∧
    occ k (runC h cfg minAge (CState.init now₀) ops).x.st.arts = 0 ∧
    holds k (runC h cfg minAge (CState.init now₀) ops).x.writers = 0 := by
  have hx := WFW_reachC h hi cfg minAge now₀ ops hq
  generalize (runC h cfg minAge (CState.init now₀) ops).x = x at *
  have h0 : refsOf k x.st.chunks = 0 := by
    by_cases hp : 0 < refsOf k x.st.chunks
    · rw [find_gcSel_of_refs hx.base.nodup mc sel hp] at hgone
      rw [hgone] at hwas; simp at hwas
    · exact Nat.eq_zero_of_not_pos hp
  have := hx.refsW k
  omega

/-- On a long-lived store every artifact that a further clocked history (any ticks, any gc cycles, full
    collections, repairs, other writers) does not delete reads back exactly as before it. -/
theorem long_lived_store_keeps_every_artifact (hi : HashInj h) (cfg : Cfg) (minAge now₀ : Nat) (ops₁ ops₂ : List COp)
    (hq : collectorsQuiet h cfg WState.init (stampAll minAge now₀ (ops₁ ++ ops₂)) = true) (id : Nat)
    (hex : (find id (runC h cfg minAge (CState.init now₀) ops₁).x.st.arts).isSome)
    (hnd : ∀ op ∈ ops₂, op ≠ COp.delete id) :
    get (runC h cfg minAge (CState.init now₀) (ops₁ ++ ops₂)).x.st id
      = get (runC h cfg minAge (CState.init now₀) ops₁).x.st id := by
  rw [stampAll_append, collectorsQuiet_append] at hq
  obtain ⟨hq1, hq2⟩ := hq
  have hx := WFW_reachC h hi cfg minAge now₀ ops₁ hq1
  have e1 := runC_init (K := K) h cfg minAge now₀ ops₁
  rw [runC_append, (runC_eq_runW h cfg minAge ops₂ _).1, e1.2]
  rw [← e1.1] at hq2
  exact (runW_step h hi cfg _ hx hq2).2 id hex (stampAll_no_delete hnd)

/-- `put` on a long-lived store at any moment of any clocked history — in particular content whose chunks lost
    their last reference earlier and were seen, too young, by a gc cycle — then any further clocked history that
    does not delete the new artifact (seconds passing, gc cycles at every later age): `get` returns exactly the
    bytes written. -/
theorem put_reads_back_on_long_lived_store (hi : HashInj h) (cfg : Cfg) (minAge now₀ : Nat) (ops₁ ops₂ : List COp)
    (d : List Nat) (id : Nat)
    (hq : collectorsQuiet h cfg WState.init (stampAll minAge now₀ ((ops₁ ++ [.put d]) ++ ops₂)) = true)
    (hput : (put h cfg (clockAfter now₀ ops₁) (runC h cfg minAge (CState.init now₀) ops₁).x.st d).2 = .ok id)
    (hnd : ∀ op ∈ ops₂, op ≠ COp.delete id) :
    get (runC h cfg minAge (CState.init now₀) ((ops₁ ++ [.put d]) ++ ops₂)).x.st id = .ok d := by
  have hq' := hq
  rw [stampAll_append, collectorsQuiet_append] at hq'
  have hq1 := hq'.1
  rw [stampAll_append, collectorsQuiet_append] at hq1
  have hx := WFW_reachC h hi cfg minAge now₀ ops₁ hq1.1
  have e1 := runC_init (K := K) h cfg minAge now₀ ops₁
  -- the state right after the put
  have hstate : (runC h cfg minAge (CState.init now₀) (ops₁ ++ [.put d])).x.st
      = (put h cfg (clockAfter now₀ ops₁) (runC h cfg minAge (CState.init now₀) ops₁).x.st d).1 := by
    rw [runC_append]
    have hnow := e1.2
    simp only [runC] at hnow ⊢
    simp only [List.foldl_cons, List.foldl_nil, applyC, COp.stamp, applyW, applyOp]
    rw [hnow]
  generalize (runC h cfg minAge (CState.init now₀) ops₁).x = x₁ at *
  obtain ⟨_, hsome, hget⟩ := put_ok_step h hi hx.base cfg (clockAfter now₀ ops₁) d hput
  rw [long_lived_store_keeps_every_artifact h hi cfg minAge now₀ (ops₁ ++ [COp.put d]) ops₂ hq id
    (by rw [hstate]; exact hsome) hnd, hstate]
  exact hget

/-! ### any collector, whatever it remembers between cycles -/

omit [DecidableEq K] in
/-- `gc_cycle` as it is (any threshold, any batch, any store) meets `CycleSpec`: it only removes records, and
    only records whose `_refs` is 0 in the store it runs on. -/
theorem gc_cycle_meets_cycle_spec (mc : Nat) (sel : K → Bool) (s : State K) : CycleSpec s (gcSel mc sel s).1 :=
  ⟨rfl, rfl, fun q => !gcDead mc sel q, rfl, fun _ _ hq => gcDead_refs hq⟩

/-- `CycleSpec` is all that safety needs, for ANY incremental collector — stateless like the current one, or one
    that carries candidates, cursors or statistics from cycle to cycle: in every state reachable by a sequential
    history with open writers, a cycle that only removes records whose `_refs` is 0 when it runs leaves every
    artifact reading the same, every open writer's list reading the same, and the refcounts covering all
    references.  (The harness evaluates `CycleSpec` on the real store's images around every `gc()`.) -/
theorem cycle_removing_only_currently_unreferenced_records_is_safe (hi : HashInj h) (cfg : Cfg) (ops : List WOp)
    (hq : collectorsQuiet h cfg WState.init ops = true) (s' : State K)
    (hs : CycleSpec (runW h cfg WState.init ops).st s') :
    (∀ id, get s' id = get (runW h cfg WState.init ops).st id) ∧
    (∀ k, occ k s'.arts + holds k (runW h cfg WState.init ops).writers ≤ refsOf k s'.chunks) ∧
    (∀ p ∈ (runW h cfg WState.init ops).writers,
      readChunks s'.chunks p.2.chunks = readChunks (runW h cfg WState.init ops).st.chunks p.2.chunks) := by
  have hx := WFW_reach h hi cfg ops hq
  obtain ⟨h1, h2, h3⟩ := cycleSpec_step h hx hs
  refine ⟨h2, h1.refsW, fun p hp => ?_⟩
  exact readChunks_congr (fun k hk => by unfold dataOf; rw [h3 k (hx.writer_refs_pos h hp hk)])

/-- The remembering variant with nothing remembered IS the current cycle (same store, same statistics): the two
    differ only on a collector that has lived through an earlier cycle — a collector built afresh for every
    `gc()` call cannot tell them apart. -/
theorem remembering_collector_with_empty_memory_is_gc_cycle (now minAge : Nat) (s : State K) :
    (gcRemembering now minAge [] s).2 = gc now minAge s := by
  simp only [gcRemembering, reclaimRemembered, gc, Nat.zero_add]

end

/-! ### witnesses and non-vacuity (keys = chunk bytes, `h = id`, as in the driver) -/

/-- The remembering variant (`gcRemembering`: zero-reference records that are too young are remembered as
    `(key, created, size)` and deleted by a later cycle of the same collector once the remembered age has passed
    `min_age`, without reading the record again) is NOT safe on the history of seeded change C19_3, `min_age` 0,
    chunk size 2: second 5: put [1,2,3] (a0), delete a0, gc (records [1,2] and [3] have no reference and are too
    young: kept, remembered), put [1,2,3] again (a1, deduplicated onto both records: `_refs` 1 again); a second
    passes; gc.  The variant's second cycle removes both records although their `_refs` is 1 when it runs — it
    does not meet `CycleSpec` — and a1 no longer reads back; `gc_cycle` as it is removes nothing and a1 reads
    back and verifies. -/
theorem remembered_young_orphans_collect_rereferenced_chunk_witness :
    let s1 := (delete (put hid cfg2 5 State.init [1, 2, 3]).1 0).1
    -- the variant: the same collector (its memory) lives through both cycles
    let v1 := gcRemembering 5 0 [] s1
    let v2 := (put hid cfg2 5 v1.2.1 [1, 2, 3]).1
    let v3 := gcRemembering 6 0 v1.1 v2
    -- the current code
    let c1 := gc 5 0 s1
    let c2 := (put hid cfg2 5 c1.1 [1, 2, 3]).1
    let c3 := gc 6 0 c2
    v1.2.2 = (0, 0) ∧ v1.1 = [([1, 2], 5, 2), ([3], 5, 1)] ∧ v1.2 = c1 ∧ v2 = c2 ∧
    refsOf [1, 2] v2.chunks = 1 ∧ occ [1, 2] v2.arts = 1 ∧
    v3.2.2 = (2, 3) ∧ find [1, 2] v3.2.1.chunks = none ∧ find [3] v3.2.1.chunks = none ∧
    get v3.2.1 1 = .error .chunkMissing ∧ verify hid v3.2.1 1 = .error .chunkMissing ∧
    ¬ CycleSpec v2 v3.2.1 ∧
    c3.2 = (0, 0) ∧ get c3.1 1 = .ok [1, 2, 3] ∧ verify hid c3.1 1 = .ok true := by
  refine ⟨by decide, by decide, by decide, by decide, by decide, by decide, by decide, by decide, by decide,
    by decide, by decide, fun hs => ?_, by decide, by decide, by decide⟩
  have := hs.find_of_refs (k := [1, 2]) (by decide) (by decide)
  revert this
  decide

/-- controls for `remembered_young_orphans_collect_rereferenced_chunk_witness`: (1) the same history WITHOUT the
    second put — the remembered records are still unreferenced when their age has passed: the variant and the
    current code remove the same two records and report the same statistics; (2) the same history with both
    cycles in the same second — nothing has aged: neither removes anything; (3) the history with the early cycle
    left out — the variant has nothing remembered and keeps the re-referenced records.  Only a cycle that saw the
    records unreferenced and too young, a new reference, and a later cycle of the SAME collector after the
    records have aged tell the two apart. -/
example :
    let s1 := (delete (put hid cfg2 5 State.init [1, 2, 3]).1 0).1
    let v1 := gcRemembering 5 0 [] s1
    (gcRemembering 6 0 v1.1 v1.2.1).2 = gc 6 0 (gc 5 0 s1).1 ∧ (gc 6 0 (gc 5 0 s1).1).2 = (2, 3) ∧
    (let v2 := (put hid cfg2 5 v1.2.1 [1, 2, 3]).1
     (gcRemembering 5 0 v1.1 v2).2 = gc 5 0 v2 ∧ (gc 5 0 v2).2 = (0, 0) ∧ get (gc 5 0 v2).1 1 = .ok [1, 2, 3]) ∧
    (let w2 := (put hid cfg2 5 s1 [1, 2, 3]).1
     (gcRemembering 6 0 [] w2).2 = gc 6 0 w2 ∧ get (gcRemembering 6 0 [] w2).2.1 1 = .ok [1, 2, 3]) := by decide +kernel

/-- the history of the witness as a clocked history: the clock starts at second 5, `min_age` 0 -/
abbrev opsAging : List COp := [.put [1, 2, 3], .delete 0, .gc, .put [1, 2, 3], .tick 1, .gc]

-- it is the `WOp` history with the clock filled in; the second cycle runs one second later
example : stampAll 0 5 opsAging =
    [.base (.put 5 [1, 2, 3]), .base (.delete 0), .base (.gcAll 5 0), .base (.put 5 [1, 2, 3]), .base (.gcAll 6 0)] := by
  decide +kernel
example : (runC hid cfg2 0 (CState.init 5) opsAging).now = 6 := by decide +kernel
example : collectorsQuiet hid cfg2 WState.init (stampAll 0 5 opsAging) = true := by decide +kernel
-- the first cycle really saw the two records unreferenced and too young, the second one sees them aged
example : let c := runC hid cfg2 0 (CState.init 5) [.put [1, 2, 3], .delete 0, .gc]
    refsOf [1, 2] c.x.st.chunks = 0 ∧ (find [1, 2] c.x.st.chunks).isSome = true ∧
    (find [3] c.x.st.chunks).isSome = true := by decide +kernel
example : let c := runC hid cfg2 0 (CState.init 5) [.put [1, 2, 3], .delete 0, .gc, .put [1, 2, 3], .tick 1]
    (find [1, 2] c.x.st.chunks).map (·.created) = some 5 ∧ c.now - 0 = 6 ∧ refsOf [1, 2] c.x.st.chunks = 1 := by decide +kernel
-- the theorems on it
example : get (runC hid cfg2 0 (CState.init 5) opsAging).x.st 1 = .ok [1, 2, 3] :=
  put_reads_back_on_long_lived_store hid hid_inj cfg2 0 5 [.put [1, 2, 3], .delete 0, .gc] [.tick 1, .gc] [1, 2, 3] 1
    (by decide +kernel) (by decide +kernel) (by decide +kernel)
example : occ [1, 2] (runC hid cfg2 0 (CState.init 5) opsAging).x.st.arts + holds [1, 2] (runC hid cfg2 0 (CState.init 5) opsAging).x.writers
    ≤ refsOf [1, 2] (runC hid cfg2 0 (CState.init 5) opsAging).x.st.chunks :=
  long_lived_store_refs_cover_references hid hid_inj cfg2 0 5 opsAging (by decide +kernel) [1, 2]
-- `gc_cycle_removes_only_records_unreferenced_when_it_runs` is not vacuous: without the second put the later
-- cycle does remove the aged records, and they are unreferenced then
example : let c := runC hid cfg2 0 (CState.init 5) [.put [1, 2, 3], .delete 0, .gc, .tick 1]
    find [1, 2] (gcSel (c.now - 0) (fun _ => true) c.x.st).1.chunks = none ∧ (find [1, 2] c.x.st.chunks).isSome = true := by
  decide +kernel
example : CycleSpec (runW hid cfg2 WState.init (stampAll 0 5 opsAging)).st
    (gcSel 100 (fun _ => true) (runW hid cfg2 WState.init (stampAll 0 5 opsAging)).st).1 :=
  gc_cycle_meets_cycle_spec _ _ _

end Neumann.Blob.Props
