import NeumannModel.Blob.Lemmas
/- C19 — the sequential invariant and its preservation by every operation. -/
namespace Neumann.Blob
section
variable {K : Type} [DecidableEq K] (h : List Nat → K)

/-- what every state reachable by store operations satisfies -/
structure WF (s : State K) : Prop where
  nodup : (keys s.chunks).Nodup
  addr : Addressed h s.chunks
  refs : ∀ k, occ k s.arts ≤ refsOf k s.chunks
  idsLt : ∀ p ∈ s.arts, p.1 < s.next
  idsNodup : (keys s.arts).Nodup
  intact : ∀ p ∈ s.arts, ∃ d, readChunks s.chunks p.2.chunks = .ok d ∧ p.2.checksum = h d ∧ p.2.size = d.length

theorem WF_init : WF h (State.init : State K) :=
  ⟨by simp [State.init], by intro p hp; simp [State.init] at hp, by intro k; simp [State.init, occ],
   by intro p hp; simp [State.init] at hp, by simp [State.init], by intro p hp; simp [State.init] at hp⟩

theorem WF.unlisted_of_refs_zero {s : State K} (hw : WF h s) {q : K × CRec} (hq : q ∈ s.chunks)
    (h0 : q.2.refs = 0) : occ q.1 s.arts = 0 := by
  have := hw.refs q.1
  rw [refsOf_of_find (mem_find hw.nodup (show (q.1, q.2) ∈ s.chunks from hq)), h0] at this
  exact Nat.le_zero.mp this

theorem WF.listed_present {s : State K} (hw : WF h s) {k : K} (hk : 0 < occ k s.arts) : (find k s.chunks).isSome :=
  refsOf_pos_isSome (Nat.lt_of_lt_of_le hk (hw.refs k))

/-- a change of the chunk table that keeps keys unique, content-addressed, refcounts above the
    occurrences and the data of every listed key: invariant kept, every artifact reads the same -/
theorem table_change {s : State K} (hw : WF h s) {tbl' : List (K × CRec)}
    (hn : (keys tbl').Nodup) (ha : Addressed h tbl') (hr : ∀ k, occ k s.arts ≤ refsOf k tbl')
    (hd : ∀ k, 0 < occ k s.arts → dataOf k tbl' = dataOf k s.chunks) :
    WF h { s with chunks := tbl' } ∧
    (∀ p ∈ s.arts, readChunks tbl' p.2.chunks = readChunks s.chunks p.2.chunks) := by
  have hk : ∀ p ∈ s.arts, readChunks tbl' p.2.chunks = readChunks s.chunks p.2.chunks := by
    intro p hp
    exact readChunks_congr (fun k hk => hd k (occ_pos_of_mem hp hk))
  refine ⟨⟨hn, ha, hr, hw.idsLt, hw.idsNodup, ?_⟩, hk⟩
  intro p hp
  obtain ⟨d, h1, h2, h3⟩ := hw.intact p hp
  exact ⟨d, by rw [hk p hp]; exact h1, h2, h3⟩

theorem get_table_change {s : State K} {tbl' : List (K × CRec)}
    (hk : ∀ p ∈ s.arts, readChunks tbl' p.2.chunks = readChunks s.chunks p.2.chunks) (id : Nat) :
    get { s with chunks := tbl' } id = get s id := by
  unfold get
  cases hf : find id s.arts with
  | none => rfl
  | some a => exact hk (id, a) (find_some_mem hf)

theorem storeAll_change {s : State K} (hw : WF h s) (t : Nat) (cds : List (List Nat)) :
    WF h { s with chunks := cds.foldl (storeChunk h t) s.chunks } ∧
    (∀ p ∈ s.arts, readChunks (cds.foldl (storeChunk h t) s.chunks) p.2.chunks = readChunks s.chunks p.2.chunks) := by
  apply table_change h hw (storeAll_keys_nodup h t cds hw.nodup) (storeAll_addressed h t cds hw.addr)
  · intro k; rw [refsOf_storeAll]; exact Nat.le_trans (hw.refs k) (Nat.le_add_right _ _)
  · intro k hk
    exact dataOf_storeAll_present h t cds (hw.listed_present h hk)

/-- `finish` of a writer, whether the chunks `a` lists were stored just now or by earlier `write` calls -/
theorem finish_step {s : State K} (hw : WF h s) (t : Nat) (cds : List (List Nat)) {a : Art K} {d : List Nat}
    (hr : ∀ k, occ k s.arts + a.chunks.count k ≤ refsOf k (cds.foldl (storeChunk h t) s.chunks))
    (hd : readChunks (cds.foldl (storeChunk h t) s.chunks) a.chunks = .ok d) (hc : a.checksum = h d)
    (hs : a.size = d.length) :
    let s' : State K := ⟨cds.foldl (storeChunk h t) s.chunks, s.arts ++ [(s.next, a)], s.next + 1⟩
    WF h s' ∧ (∀ id, (find id s.arts).isSome → (find id s'.arts).isSome ∧ get s' id = get s id) ∧
    (find s.next s'.arts).isSome ∧ get s' s.next = .ok d := by
  obtain ⟨hw1, hk1⟩ := storeAll_change h hw t cds
  have hfresh : find s.next s.arts = none := (find_none_iff _ _).mpr fun hm => by
    obtain ⟨p, hp, he⟩ := List.mem_map.mp hm
    exact Nat.lt_irrefl _ (he ▸ hw.idsLt p hp)
  have hnew : find s.next (s.arts ++ [(s.next, a)]) = some a := by
    rw [find_append, hfresh, find_cons, if_pos rfl]
  refine ⟨⟨hw1.nodup, hw1.addr, fun k => ?_, ?_, ?_, ?_⟩, fun id hid => ?_, by rw [hnew]; rfl, ?_⟩
  · simp only [occ_append, occ_cons, occ_nil, Nat.add_zero]
    exact hr k
  · intro p hp
    rcases List.mem_append.mp hp with hp | hp
    · exact Nat.lt_succ_of_lt (hw.idsLt p hp)
    · rw [List.mem_singleton.mp hp]; exact Nat.lt_succ_self _
  · exact keys_append_fresh hw.idsNodup a hfresh
  · intro p hp
    rcases List.mem_append.mp hp with hp | hp
    · obtain ⟨d', h1, h2, h3⟩ := hw.intact p hp
      exact ⟨d', (hk1 p hp).trans h1, h2, h3⟩
    · rw [List.mem_singleton.mp hp]
      exact ⟨d, hd, hc, hs⟩
  · cases hf : find id s.arts with
    | none => rw [hf] at hid; cases hid
    | some b =>
      have hf' : find id (s.arts ++ [(s.next, a)]) = some b := by rw [find_append, hf]
      refine ⟨by rw [hf']; rfl, ?_⟩
      unfold get
      rw [hf', hf]
      exact hk1 (id, b) (find_some_mem hf)
  · unfold get
    rw [hnew]
    exact hd

theorem finish_stored_step (hi : HashInj h) {s : State K} (hw : WF h s) (t : Nat) (cds : List (List Nat)) :
    let s' : State K := ⟨cds.foldl (storeChunk h t) s.chunks,
      s.arts ++ [(s.next, ⟨cds.map h, cds.flatten.length, h cds.flatten⟩)], s.next + 1⟩
    WF h s' ∧ (∀ id, (find id s.arts).isSome → (find id s'.arts).isSome ∧ get s' id = get s id) ∧
    (find s.next s'.arts).isSome ∧ get s' s.next = .ok cds.flatten :=
  finish_step h hw t cds (fun k => by rw [refsOf_storeAll]; exact Nat.add_le_add_right (hw.refs k) _)
    (readChunks_storeAll h hi t cds hw.addr) rfl rfl

theorem put_cases (cfg : Cfg) (t : Nat) (s : State K) (d : List Nat) :
    ((put h cfg t s d).1 = s ∧ ∃ e, (put h cfg t s d).2 = .error e) ∨
    (put h cfg t s d = ((stream h cfg t s [d]).1, .ok (stream h cfg t s [d]).2)) := by
  unfold put
  by_cases hd : d = []
  · left; simp [hd]
  · by_cases hm : tooLarge cfg d.length = true
    · left; rw [if_neg hd, if_pos hm]; exact ⟨rfl, _, rfl⟩
    · right; rw [if_neg hd, if_neg hm]

theorem stream_step (hi : HashInj h) {s : State K} (hw : WF h s) (cfg : Cfg) (t : Nat) (ps : List (List Nat)) :
    WF h (stream h cfg t s ps).1 ∧
    (find (stream h cfg t s ps).2 (stream h cfg t s ps).1.arts).isSome ∧
    get (stream h cfg t s ps).1 (stream h cfg t s ps).2 = .ok ps.flatten := by
  rw [stream_eq, ← streamChunks_flatten cfg.chunkSize ps]
  have := finish_stored_step h hi hw t (streamChunks cfg.chunkSize ps)
  exact ⟨this.1, this.2.2⟩

theorem put_ok_step (hi : HashInj h) {s : State K} (hw : WF h s) (cfg : Cfg) (t : Nat) (d : List Nat) {id : Nat}
    (hput : (put h cfg t s d).2 = .ok id) :
    WF h (put h cfg t s d).1 ∧ (find id (put h cfg t s d).1.arts).isSome ∧ get (put h cfg t s d).1 id = .ok d := by
  rcases put_cases h cfg t s d with ⟨_, e, he⟩ | e
  · rw [he] at hput; cases hput
  · rw [e] at hput ⊢
    cases hput
    have := stream_step h hi hw cfg t [d]
    rwa [List.flatten_cons, List.flatten_nil, List.append_nil] at this

theorem delete_step {s : State K} (hw : WF h s) {id : Nat} {a : Art K} (hf : find id s.arts = some a) :
    WF h { s with chunks := a.chunks.foldl decRef s.chunks, arts := erase id s.arts } := by
  refine ⟨by simp only [keys_decAll]; exact hw.nodup, addressed_decAll h a.chunks hw.addr, fun k => ?_,
    fun p hp => hw.idsLt p (mem_of_mem_erase hp), keys_filter_nodup _ hw.idsNodup, fun p hp => ?_⟩
  · show occ k (erase id s.arts) ≤ refsOf k (a.chunks.foldl decRef s.chunks)
    rw [refsOf_decAll]
    exact Nat.le_sub_of_add_le (Nat.le_trans (occ_erase_le hf) (hw.refs k))
  · obtain ⟨d, h1, h2, h3⟩ := hw.intact p (mem_of_mem_erase hp)
    exact ⟨d, (readChunks_congr (fun k _ => dataOf_decAll a.chunks s.chunks k)).trans h1, h2, h3⟩

theorem filter_change {s : State K} (hw : WF h s) (p : K × CRec → Bool)
    (hp : ∀ q ∈ s.chunks, p q = false → occ q.1 s.arts = 0) :
    WF h { s with chunks := s.chunks.filter p } ∧
    (∀ a ∈ s.arts, readChunks (s.chunks.filter p) a.2.chunks = readChunks s.chunks a.2.chunks) := by
  have hfind : ∀ k, 0 < occ k s.arts → find k (s.chunks.filter p) = find k s.chunks := fun k hk =>
    find_filter_of_kept p hw.nodup fun r hf => by
      cases hpr : p (k, r) with
      | true => rfl
      | false =>
        have : occ k s.arts = 0 := hp (k, r) (find_some_mem hf) hpr
        exact absurd hk (this ▸ Nat.lt_irrefl 0)
  apply table_change h hw (keys_filter_nodup p hw.nodup) (fun q hq => hw.addr q (List.mem_filter.mp hq).1)
  · intro k
    by_cases hk : 0 < occ k s.arts
    · unfold refsOf; rw [hfind k hk]; exact hw.refs k
    · exact Nat.eq_zero_of_not_pos hk ▸ Nat.zero_le _
  · intro k hk; unfold dataOf; rw [hfind k hk]

theorem gcSel_step {s : State K} (hw : WF h s) (mc : Nat) (sel : K → Bool) :
    WF h (gcSel mc sel s).1 ∧ (∀ id, get (gcSel mc sel s).1 id = get s id) := by
  have := filter_change h hw (fun q => !gcDead mc sel q)
    (fun q hq hdead => hw.unlisted_of_refs_zero h hq (gcDead_refs hdead))
  exact ⟨this.1, get_table_change this.2⟩

theorem fullGc_step {s : State K} (hw : WF h s) :
    WF h (fullGc s).1 ∧ (∀ id, get (fullGc s).1 id = get s id) := by
  have := filter_change h hw (fun q => (referenced s.arts).contains q.1) (by
    intro q _ hq
    rw [contains_referenced] at hq
    simpa using hq)
  exact ⟨this.1, get_table_change this.2⟩

theorem repair_step {s : State K} (hw : WF h s) :
    WF h (repair s).1 ∧ (∀ id, get (repair s).1 id = get s id) := by
  have := table_change h hw (tbl' := (repair s).1.chunks)
    (by
      have : keys (repair s).1.chunks = keys (s.chunks.filter (fun p => decide (occ p.1 s.arts ≠ 0))) := by
        simp only [repair, List.map_congr_left (fun p _ => fixRefs_eq s.arts p)]
        exact keys_map_val (fun p => (⟨p.2.data, p.2.size, occ p.1 s.arts, p.2.created⟩ : CRec)) _
      rw [this]; exact keys_filter_nodup _ hw.nodup)
    (by
      intro p hp
      obtain ⟨q, hq, rfl⟩ := List.mem_map.mp hp
      rw [fixRefs_eq]
      exact hw.addr q (List.mem_filter.mp hq).1)
    (by
      intro k
      unfold refsOf
      rw [find_repair hw.nodup]
      by_cases h0 : occ k s.arts = 0
      · rw [h0]; exact Nat.zero_le _
      · rw [if_neg h0]
        cases hf : find k s.chunks with
        | none => have := hw.listed_present h (Nat.pos_of_ne_zero h0); rw [hf] at this; cases this
        | some r => exact Nat.le_refl _)
    (by
      intro k hk
      unfold dataOf
      rw [find_repair hw.nodup, if_neg (Nat.ne_of_gt hk)]
      cases find k s.chunks <;> rfl)
  exact ⟨this.1, get_table_change this.2⟩

def Op.isAbandon : Op → Bool
  | .abandon _ _ => true
  | _ => false

/-- What an operation does to the store, in seven forms: nothing (`get`, `verify`, a rejected `put`, `delete`
    of an absent id); chunks stored by a writer that is dropped; chunks stored and listed by a new artifact
    (`put`, a finished writer); `delete`; a `gc_cycle`; `full_gc`; `repair`. -/
inductive Effect (s : State K) (op : Op) : State K → Prop
  | none : Effect s op s
  | store (t : Nat) (cds : List (List Nat)) : (∀ d ∈ cds, d ≠ []) → op.isAbandon = true →
      Effect s op { s with chunks := cds.foldl (storeChunk h t) s.chunks }
  | finish (t : Nat) (cds : List (List Nat)) : (∀ d ∈ cds, d ≠ []) →
      Effect s op ⟨cds.foldl (storeChunk h t) s.chunks,
        s.arts ++ [(s.next, ⟨cds.map h, cds.flatten.length, h cds.flatten⟩)], s.next + 1⟩
  | delete (id : Nat) (a : Art K) : op = .delete id → find id s.arts = some a →
      Effect s op { s with chunks := a.chunks.foldl decRef s.chunks, arts := erase id s.arts }
  | gc (mc : Nat) (sel : K → Bool) : Effect s op (gcSel mc sel s).1
  | fullGc : op = .fullGc → Effect s op (fullGc s).1
  | repair : op = .repair → Effect s op (repair s).1

theorem applyOp_effect (cfg : Cfg) (s : State K) (op : Op) : Effect h s op (applyOp h cfg s op) := by
  have hstream : ∀ t ps, Effect h s op (stream h cfg t s ps).1 := fun t ps => by
    rw [stream_eq, ← streamChunks_flatten cfg.chunkSize ps]
    exact .finish t _ (streamChunks_nonempty _ _)
  cases op with
  | put t d =>
    rw [applyOp]
    rcases put_cases h cfg t s d with ⟨e, _⟩ | e
    · rw [e]; exact .none
    · rw [e]; exact hstream t [d]
  | stream t ps => exact hstream t ps
  | abandon t ps => rw [applyOp, abandon_eq]; exact .store t _ (emit_nonempty _ _ _) rfl
  | delete id =>
    rw [applyOp, delete]
    cases hf : find id s.arts with
    | none => exact .none
    | some a => exact .delete id a rfl hf
  | gc mc batch => exact .gc mc _
  | gcAll now age => exact .gc _ _
  | fullGc => exact .fullGc rfl
  | verify _ => exact .none
  | get _ => exact .none
  | repair => exact .repair rfl

theorem Effect.wf (hi : HashInj h) {s s' : State K} {op : Op} (he : Effect h s op s') (hw : WF h s) : WF h s' := by
  cases he with
  | none => exact hw
  | store t cds => exact (storeAll_change h hw t cds).1
  | finish t cds => exact (finish_stored_step h hi hw t cds).1
  | delete id a _ hf => exact delete_step h hw hf
  | gc mc sel => exact (gcSel_step h hw mc sel).1
  | fullGc => exact (fullGc_step h hw).1
  | repair => exact (repair_step h hw).1

theorem Effect.find_art {s s' : State K} {op : Op} (he : Effect h s op s') {id : Nat} {a : Art K}
    (hf : find id s.arts = some a) (hne : op ≠ .delete id) : find id s'.arts = some a := by
  cases he with
  | finish t cds => simp only [find_append, hf]
  | delete id' a' hop =>
    have : ¬ id = id' := fun e => hne (e ▸ hop)
    simp only [find_erase, this, if_false, hf]
  | _ => exact hf

/-- not even the delete of an artifact changes the data of a chunk it lists: chunk records are only removed by
    the collectors, and only unlisted ones -/
theorem Effect.data_eq {s s' : State K} {op : Op} (he : Effect h s op s') (hw : WF h s) {k : K}
    (hk : 0 < occ k s.arts) : dataOf k s'.chunks = dataOf k s.chunks := by
  have hpres := hw.listed_present h hk
  cases he with
  | none => rfl
  | store t cds => exact dataOf_storeAll_present h t cds hpres
  | finish t cds => exact dataOf_storeAll_present h t cds hpres
  | delete id a => exact dataOf_decAll _ _ _
  | gc mc sel =>
    unfold dataOf
    rw [find_gcSel_of_refs hw.nodup mc sel (Nat.lt_of_lt_of_le hk (hw.refs k))]
  | fullGc => unfold dataOf; rw [find_fullGc hw.nodup, if_pos hk]
  | repair =>
    unfold dataOf
    rw [find_repair hw.nodup, if_neg (Nat.ne_of_gt hk)]
    cases find k s.chunks <;> rfl

theorem applyOp_step (hi : HashInj h) (cfg : Cfg) {s : State K} (hw : WF h s) (op : Op) :
    WF h (applyOp h cfg s op) ∧
    ∀ id, (find id s.arts).isSome → op ≠ .delete id →
      (find id (applyOp h cfg s op).arts).isSome ∧ get (applyOp h cfg s op) id = get s id := by
  have he := applyOp_effect h cfg s op
  refine ⟨he.wf h hi hw, fun id hid hne => ?_⟩
  cases hf : find id s.arts with
  | none => rw [hf] at hid; cases hid
  | some a =>
    have hf' := he.find_art h hf hne
    refine ⟨by rw [hf']; rfl, ?_⟩
    unfold get
    rw [hf, hf']
    exact readChunks_congr fun k hk => he.data_eq h hw (occ_pos_of_mem (find_some_mem hf) hk)

theorem run_step (hi : HashInj h) (cfg : Cfg) (ops : List Op) {s : State K} (hw : WF h s) :
    WF h (run h cfg s ops) ∧
    ∀ id, (find id s.arts).isSome → (∀ op ∈ ops, op ≠ .delete id) → get (run h cfg s ops) id = get s id := by
  induction ops generalizing s with
  | nil => exact ⟨hw, fun _ _ _ => rfl⟩
  | cons op ops ih =>
    obtain ⟨h1, h2⟩ := applyOp_step h hi cfg hw op
    obtain ⟨h3, h4⟩ := ih h1
    refine ⟨h3, fun id hid hnd => ?_⟩
    obtain ⟨h5, h6⟩ := h2 id hid (hnd op (by simp))
    have := h4 id h5 (fun o ho => hnd o (by simp [ho]))
    simp only [run, List.foldl_cons] at this ⊢
    rw [this, h6]

theorem WF_reach (hi : HashInj h) (cfg : Cfg) (ops : List Op) : WF h (run h cfg (State.init : State K) ops) :=
  (run_step h hi cfg ops (WF_init h)).1

/-- delete every artifact currently listed -/
def deleteAll (s : State K) : State K := (keys s.arts).foldl (fun s id => (delete s id).1) s

theorem deleteList_arts_nil (ids : List Nat) (s : State K) (hc : ∀ p ∈ s.arts, p.1 ∈ ids) :
    (ids.foldl (fun s id => (delete s id).1) s).arts = [] := by
  induction ids generalizing s with
  | nil =>
    cases hs : s.arts with
    | nil => simpa using hs
    | cons p l => have := hc p (by simp [hs]); simp at this
  | cons id ids ih =>
    rw [List.foldl_cons]
    apply ih
    intro p hp
    unfold delete at hp
    cases hf : find id s.arts with
    | none =>
      simp only [hf] at hp
      have hne : p.1 ≠ id := by
        intro e
        have := (find_none_iff id s.arts).mp hf
        exact this (e ▸ List.mem_map.mpr ⟨p, hp, rfl⟩)
      have := hc p hp
      simp only [List.mem_cons] at this
      rcases this with e | e
      · exact absurd e hne
      · exact e
    | some a =>
      simp only [hf, erase, List.mem_filter, decide_eq_true_eq] at hp
      have := hc p hp.1
      simp only [List.mem_cons] at this
      rcases this with e | e
      · exact absurd e hp.2
      · exact e

theorem storeAll_keys_of_present (t : Nat) (cds : List (List Nat)) (tbl : List (K × CRec))
    (hp : ∀ d ∈ cds, (find (h d) tbl).isSome) : keys (cds.foldl (storeChunk h t) tbl) = keys tbl := by
  induction cds generalizing tbl with
  | nil => rfl
  | cons d cds ih =>
    rw [List.foldl_cons, ih]
    · unfold storeChunk
      have := hp d (by simp)
      cases hf : find (h d) tbl with
      | none => simp [hf] at this
      | some r => simp only [keys_modify]
    · intro d' hd'
      rw [isSome_storeChunk]
      simp [hp d' (by simp [hd'])]

def RefsEq (s : State K) : Prop := ∀ k, refsOf k s.chunks = occ k s.arts

theorem Effect.refsEq {s s' : State K} {op : Op} (he : Effect h s op s') (hw : WF h s) (heq : RefsEq s)
    (hna : op.isAbandon = false) : RefsEq s' := by
  intro k
  cases he with
  | none => exact heq k
  | store t cds _ hop => rw [hop] at hna; cases hna
  | finish t cds => simp only [occ_append, occ_cons, occ_nil, Nat.add_zero, refsOf_storeAll, heq k]
  | delete id a _ hf =>
    show refsOf k (a.chunks.foldl decRef s.chunks) = occ k (erase id s.arts)
    rw [refsOf_decAll, heq k, ← occ_erase_eq (k := k) hw.idsNodup hf, Nat.add_sub_cancel]
  | gc mc sel => rw [refsOf_gcSel hw.nodup]; exact heq k
  | fullGc =>
    have := heq k
    unfold refsOf at this ⊢
    rw [find_fullGc hw.nodup]
    by_cases h0 : 0 < occ k s.arts
    · rw [if_pos h0]; exact this
    · rw [if_neg h0]; exact (Nat.eq_zero_of_not_pos h0).symm
  | repair =>
    have := heq k
    unfold refsOf at this ⊢
    rw [find_repair hw.nodup]
    by_cases h0 : occ k s.arts = 0
    · rw [if_pos h0]; exact h0.symm
    · rw [if_neg h0]
      cases hf : find k s.chunks with
      | none => rw [hf] at this; exact absurd this.symm h0
      | some r => rfl

theorem refsEq_run (hi : HashInj h) (cfg : Cfg) (ops : List Op) {s : State K} (hw : WF h s) (he : RefsEq s)
    (hna : ∀ op ∈ ops, op.isAbandon = false) : RefsEq (run h cfg s ops) := by
  induction ops generalizing s with
  | nil => exact he
  | cons op ops ih =>
    simp only [run, List.foldl_cons]
    exact ih (applyOp_step h hi cfg hw op).1 ((applyOp_effect h cfg s op).refsEq h hw he (hna op (by simp)))
      (fun o ho => hna o (by simp [ho]))

end
end Neumann.Blob
