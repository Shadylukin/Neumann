import NeumannModel.Blob.Invariant
/- C19 — streaming reader, per-chunk verification, orphan / statistics queries (helper lemmas). -/
namespace Neumann.Blob
section
variable {K : Type} [DecidableEq K] (h : List Nat → K)

def NE (tbl : List (K × CRec)) : Prop := ∀ p ∈ tbl, p.2.data ≠ []

theorem NE_filter {tbl : List (K × CRec)} (p : K × CRec → Bool) (hn : NE tbl) : NE (tbl.filter p) :=
  fun q hq => hn q (List.mem_filter.mp hq).1

theorem NE_storeChunk (t : Nat) {tbl : List (K × CRec)} {d : List Nat} (hd : d ≠ []) (hn : NE tbl) :
    NE (storeChunk h t tbl d) := by
  unfold storeChunk
  cases find (h d) tbl with
  | some r => exact forall_mem_modify (fun _ hp => hp) hn
  | none =>
    intro p hp
    simp only [List.mem_append, List.mem_singleton] at hp
    rcases hp with hp | hp
    · exact hn p hp
    · subst hp; exact hd

theorem NE_storeAll (t : Nat) (cds : List (List Nat)) {tbl : List (K × CRec)} (hd : ∀ d ∈ cds, d ≠ [])
    (hn : NE tbl) : NE (cds.foldl (storeChunk h t) tbl) := by
  induction cds generalizing tbl with
  | nil => exact hn
  | cons d cds ih =>
    exact ih (fun d' hd' => hd d' (by simp [hd'])) (NE_storeChunk h t (hd d (by simp)) hn)

theorem NE_decAll (ks : List K) {tbl : List (K × CRec)} (hn : NE tbl) : NE (ks.foldl decRef tbl) := by
  induction ks generalizing tbl with
  | nil => exact hn
  | cons k ks ih => exact ih (forall_mem_modify (fun _ hp => hp) hn)

theorem Effect.ne {s s' : State K} {op : Op} (he : Effect h s op s') (hn : NE s.chunks) : NE s'.chunks := by
  cases he with
  | none => exact hn
  | store t cds hne => exact NE_storeAll h t cds hne hn
  | finish t cds hne => exact NE_storeAll h t cds hne hn
  | delete id a => exact NE_decAll _ hn
  | gc mc sel => exact NE_filter _ hn
  | fullGc => exact NE_filter _ hn
  | repair =>
    intro p hp
    obtain ⟨q, hq, rfl⟩ := List.mem_map.mp hp
    rw [fixRefs_eq]
    exact hn q (List.mem_filter.mp hq).1

theorem NE_run (cfg : Cfg) (ops : List Op) {s : State K} (hn : NE s.chunks) : NE (run h cfg s ops).chunks := by
  induction ops generalizing s with
  | nil => exact hn
  | cons op ops ih => simp only [run, List.foldl_cons]; exact ih ((applyOp_effect h cfg s op).ne h hn)

theorem NE_reach (cfg : Cfg) (ops : List Op) : NE (run h cfg (State.init : State K) ops).chunks :=
  NE_run h cfg ops (by intro p hp; simp [State.init] at hp)

theorem run_keeps_artifact (hi : HashInj h) (cfg : Cfg) (ops : List Op) {s : State K} (hw : WF h s)
    {id : Nat} {a : Art K} (hf : find id s.arts = some a) (hnd : ∀ op ∈ ops, op ≠ .delete id) :
    find id (run h cfg s ops).arts = some a ∧ ∀ k ∈ a.chunks, dataOf k (run h cfg s ops).chunks = dataOf k s.chunks := by
  induction ops generalizing s with
  | nil => exact ⟨hf, fun _ _ => rfl⟩
  | cons op ops ih =>
    have hne := hnd op (by simp)
    have hw1 := (applyOp_step h hi cfg hw op).1
    have hf1 := (applyOp_effect h cfg s op).find_art h hf hne
    obtain ⟨h1, h2⟩ := ih hw1 hf1 (fun o ho => hnd o (by simp [ho]))
    simp only [run, List.foldl_cons] at h1 h2 ⊢
    refine ⟨h1, fun k hk => ?_⟩
    rw [h2 k hk]
    exact (applyOp_effect h cfg s op).data_eq h hw (occ_pos_of_mem (find_some_mem hf) hk)

/-- bytes of the loaded chunk not handed out yet -/
def pendingChunk (r : Reader K) : List Nat :=
  match r.data with
  | none => []
  | some d => d.drop r.off

/-- what a reader has still to deliver from table `tbl`: the rest of the loaded chunk, then the chunks not fetched yet -/
def remaining (tbl : List (K × CRec)) (r : Reader K) : List Nat :=
  pendingChunk r ++ (match readChunks tbl (r.chunks.drop r.cur) with | .ok D => D | .error _ => [])

/-- `out` has been delivered, and what is left to deliver completes it to `d` -/
def ReaderOk (tbl : List (K × CRec)) (r : Reader K) (d out : List Nat) : Prop :=
  ∃ D, readChunks tbl (r.chunks.drop r.cur) = .ok D ∧ out ++ pendingChunk r ++ D = d

theorem ReaderOk_remaining {tbl : List (K × CRec)} {r : Reader K} {d out : List Nat} (hr : ReaderOk tbl r d out) :
    out ++ remaining tbl r = d := by
  obtain ⟨D, h1, h2⟩ := hr
  unfold remaining
  rw [h1]; simp only; rw [← List.append_assoc]; exact h2

theorem take_append_drop_length (n : Nat) (l : List Nat) : l.take n ++ l.drop (l.take n).length = l := by
  rw [List.length_take]
  by_cases hn : n ≤ l.length
  · rw [Nat.min_eq_left hn]; exact List.take_append_drop n l
  · have : l.length ≤ n := Nat.le_of_not_le hn
    rw [Nat.min_eq_right this, List.take_of_length_le this, List.drop_length, List.append_nil]

theorem drop_cur_cons {r : Reader K} {k : K} (hk : r.chunks[r.cur]? = some k) :
    r.chunks.drop r.cur = k :: r.chunks.drop (r.cur + 1) := by
  obtain ⟨hlt, rfl⟩ := List.getElem?_eq_some_iff.mp hk
  exact List.drop_eq_getElem_cons hlt

theorem drop_cur_nil {r : Reader K} (hk : r.chunks[r.cur]? = none) : r.chunks.drop r.cur = [] :=
  List.drop_of_length_le (List.getElem?_eq_none_iff.mp hk)

theorem rNext_none {tbl : List (K × CRec)} {r : Reader K} (hk : r.chunks[r.cur]? = none) :
    rNext tbl r = (.ok none, r) := by
  unfold rNext; rw [hk]

theorem rNext_some {tbl : List (K × CRec)} {r : Reader K} {k : K} {c : CRec} (hk : r.chunks[r.cur]? = some k)
    (hf : find k tbl = some c) :
    rNext tbl r = (.ok (some c.data), { r with cur := r.cur + 1, bytesRead := r.bytesRead + c.data.length }) := by
  unfold rNext; rw [hk]; simp only [hf]

theorem rNext_missing {tbl : List (K × CRec)} {r : Reader K} {k : K} (hk : r.chunks[r.cur]? = some k)
    (hf : find k tbl = none) : rNext tbl r = (.error .chunkMissing, r) := by
  unfold rNext; rw [hk]; simp only [hf]

theorem loaded_some {r : Reader K} {d0 : List Nat} (hl : r.loaded = some d0) :
    r.data = some d0 ∧ r.off < d0.length := by
  unfold Reader.loaded at hl
  cases hd : r.data with
  | none => simp [hd] at hl
  | some d =>
    simp only [hd] at hl
    by_cases hoff : r.off ≥ d.length
    · simp [hoff] at hl
    · simp only [hoff, if_false, Option.some.injEq] at hl
      subst hl; exact ⟨rfl, Nat.lt_of_not_le hoff⟩

theorem loaded_none {r : Reader K} (hl : r.loaded = none) : pendingChunk r = [] := by
  unfold Reader.loaded at hl
  unfold pendingChunk
  cases hd : r.data with
  | none => rfl
  | some d =>
    simp only [hd] at hl ⊢
    by_cases hoff : r.off ≥ d.length
    · exact List.drop_of_length_le hoff
    · simp [hoff] at hl

theorem readChunks_drop_cur {tbl : List (K × CRec)} {r : Reader K} {D : List Nat}
    (h1 : readChunks tbl (r.chunks.drop r.cur) = .ok D) :
    (r.chunks[r.cur]? = none ∧ D = []) ∨
    ∃ k c rest, r.chunks[r.cur]? = some k ∧ find k tbl = some c ∧
      readChunks tbl (r.chunks.drop (r.cur + 1)) = .ok rest ∧ D = c.data ++ rest := by
  cases hk : r.chunks[r.cur]? with
  | none => left; rw [drop_cur_nil hk, readChunks] at h1; cases h1; exact ⟨rfl, rfl⟩
  | some k =>
    right
    rw [drop_cur_cons hk, readChunks] at h1
    cases hfk : find k tbl with
    | none => simp [hfk] at h1
    | some c =>
      simp only [hfk] at h1
      cases hrest : readChunks tbl (r.chunks.drop (r.cur + 1)) with
      | error e => simp [hrest] at h1
      | ok rest =>
        simp only [hrest, Except.ok.injEq] at h1
        exact ⟨k, c, rest, rfl, hfk, rfl, h1.symm⟩

/-- one `read(buf)`: never an error, the invariant moves the returned bytes from "left" to "delivered", and with
    a non-empty buffer no bytes are returned only when nothing is left -/
theorem rRead_ok {tbl : List (K × CRec)} {r : Reader K} {d out : List Nat} (hr : ReaderOk tbl r d out) (n : Nat) :
    ∃ bs, (rRead tbl r n).1 = .ok bs ∧ (rRead tbl r n).2.chunks = r.chunks ∧
      ReaderOk tbl (rRead tbl r n).2 d (out ++ bs) ∧ (NE tbl → 0 < n → bs = [] → out = d) := by
  obtain ⟨D, h1, h2⟩ := hr
  cases hl : r.loaded with
  | some d0 =>
    obtain ⟨hd, hoff⟩ := loaded_some hl
    have e : rRead tbl r n = (.ok ((d0.drop r.off).take n), { r with off := r.off + ((d0.drop r.off).take n).length }) := by
      unfold rRead; rw [hl]
    rw [e]
    refine ⟨(d0.drop r.off).take n, rfl, rfl, ⟨D, h1, ?_⟩, fun _ hpos he => ?_⟩
    · simp only [pendingChunk, hd] at h2 ⊢
      rw [← h2, List.append_assoc out, ← List.drop_drop, take_append_drop_length]
    · have hlen := congrArg List.length he
      rw [List.length_take, List.length_drop] at hlen
      simp only [List.length_nil] at hlen
      omega
  | none =>
    have hp := loaded_none hl
    rcases readChunks_drop_cur h1 with ⟨hk, hD⟩ | ⟨k, c, rest, hk, hfk, hrest, hD⟩
    · have e : rRead tbl r n = (.ok [], r) := by
        unfold rRead; rw [hl, rNext_none hk]
      rw [e]
      exact ⟨[], rfl, rfl, ⟨D, h1, by simpa using h2⟩, fun _ _ _ => by rw [hp, hD] at h2; simpa using h2⟩
    · have e : rRead tbl r n = (.ok (c.data.take n),
          { r with cur := r.cur + 1, bytesRead := r.bytesRead + c.data.length, data := some c.data,
                   off := (c.data.take n).length }) := by
        unfold rRead; rw [hl, rNext_some hk hfk]
      rw [e]
      refine ⟨c.data.take n, rfl, rfl, ⟨rest, hrest, ?_⟩, fun hn hpos he => ?_⟩
      · simp only [pendingChunk]
        rw [List.append_assoc out, take_append_drop_length, ← h2, hp, hD]
        simp
      · have hlen := congrArg List.length he
        have : 0 < c.data.length := List.length_pos_iff.mpr (hn (k, c) (find_some_mem hfk))
        rw [List.length_take] at hlen
        simp only [List.length_nil] at hlen
        omega

/-- a read session: before each `read(buf)` call (buffer size `n`) an arbitrary batch of store operations
    runs; the result is the final store, the reader and all bytes delivered, or the first error -/
def session (cfg : Cfg) : State K → Reader K → List (List Op × Nat) → Except Err (State K × Reader K × List Nat)
  | s, r, [] => .ok (s, r, [])
  | s, r, ev :: evs =>
    match rRead (run h cfg s ev.1).chunks r ev.2 with
    | (.error e, _) => .error e
    | (.ok bs, r') =>
      match session cfg (run h cfg s ev.1) r' evs with
      | .error e => .error e
      | .ok x => .ok (x.1, x.2.1, bs ++ x.2.2)

theorem session_ok (hi : HashInj h) (cfg : Cfg) (evs : List (List Op × Nat)) {s : State K} (hw : WF h s)
    {id : Nat} {a : Art K} (hf : find id s.arts = some a) {r : Reader K} (hc : r.chunks = a.chunks)
    {d out : List Nat} (hr : ReaderOk s.chunks r d out)
    (hnd : ∀ ev ∈ evs, ∀ op ∈ ev.1, op ≠ .delete id) :
    ∃ s' r' bs, session h cfg s r evs = .ok (s', r', bs) ∧ ReaderOk s'.chunks r' d (out ++ bs) ∧
      (NE s.chunks → NE s'.chunks) := by
  induction evs generalizing s r out with
  | nil => exact ⟨s, r, [], rfl, by simpa using hr, fun hn => hn⟩
  | cons ev evs ih =>
    have hnd1 := hnd ev (by simp)
    have hw1 := (run_step h hi cfg ev.1 hw).1
    obtain ⟨hf1, hdata⟩ := run_keeps_artifact h hi cfg ev.1 hw hf hnd1
    have hr1 : ReaderOk (run h cfg s ev.1).chunks r d out := by
      obtain ⟨D, h1, h2⟩ := hr
      exact ⟨D, (readChunks_congr fun k hk => hdata k (hc ▸ List.mem_of_mem_drop hk)).trans h1, h2⟩
    obtain ⟨bs, hb1, hb2, hb3, _⟩ := rRead_ok hr1 ev.2
    obtain ⟨s', r', bs', h1, h2, h3⟩ :=
      ih hw1 hf1 (hb2.trans hc) hb3 (fun e he => hnd e (by simp [he]))
    refine ⟨s', r', bs ++ bs', ?_, by rw [← List.append_assoc]; exact h2, fun hn => h3 (NE_run h cfg ev.1 hn)⟩
    rw [session]
    cases hrr : rRead (run h cfg s ev.1).chunks r ev.2 with
    | mk res rd =>
      rw [hrr] at hb1 h1
      simp only at hb1 h1
      subst hb1
      simp only [h1]

theorem rOpen_ok {s : State K} {id : Nat} {a : Art K} (hf : find id s.arts = some a) {d : List Nat}
    (hg : readChunks s.chunks a.chunks = .ok d) :
    ∃ r, rOpen s id = .ok r ∧ r.chunks = a.chunks ∧ ReaderOk s.chunks r d [] := by
  refine ⟨⟨a.chunks, 0, none, 0, a.size, 0, a.checksum⟩, by simp [rOpen, hf], rfl, d, by simpa using hg, ?_⟩
  simp [pendingChunk]

theorem session_of_open (hi : HashInj h) (cfg : Cfg) (evs : List (List Op × Nat)) {s : State K} (hw : WF h s)
    {id : Nat} {d : List Nat} {r : Reader K} (hg : get s id = .ok d) (ho : rOpen s id = .ok r)
    (hnd : ∀ ev ∈ evs, ∀ op ∈ ev.1, op ≠ .delete id) :
    ∃ s' r' bs, session h cfg s r evs = .ok (s', r', bs) ∧ ReaderOk s'.chunks r' d bs ∧
      (NE s.chunks → NE s'.chunks) := by
  unfold get at hg
  cases hf : find id s.arts with
  | none => rw [hf] at hg; cases hg
  | some a =>
    rw [hf] at hg
    obtain ⟨r0, h1, h2, h3⟩ := rOpen_ok hf hg
    cases h1.symm.trans ho
    obtain ⟨s', r', bs, e1, e5, e6⟩ := session_ok h hi cfg evs hw hf h2 h3 hnd
    exact ⟨s', r', bs, e1, by simpa using e5, e6⟩

theorem rAllGo_eq (tbl : List (K × CRec)) (fuel : Nat) (r : Reader K) (hfuel : r.chunks.length - r.cur < fuel) :
    (rAllGo tbl fuel r).1 = readChunks tbl (r.chunks.drop r.cur) := by
  induction fuel generalizing r with
  | zero => exact absurd hfuel (Nat.not_lt_zero _)
  | succ fuel ih =>
    rw [rAllGo]
    cases hk : r.chunks[r.cur]? with
    | none => rw [rNext_none hk, drop_cur_nil hk]; rfl
    | some k =>
      rw [drop_cur_cons hk, readChunks]
      have hlt : r.cur < r.chunks.length := (List.getElem?_eq_some_iff.mp hk).1
      cases hfk : find k tbl with
      | none => rw [rNext_missing hk hfk]
      | some c =>
        rw [rNext_some hk hfk]
        simp only
        have := ih { r with cur := r.cur + 1, bytesRead := r.bytesRead + c.data.length } (by simp only; omega)
        simp only at this
        rw [← this]
        cases rAllGo tbl fuel { r with cur := r.cur + 1, bytesRead := r.bytesRead + c.data.length } with
        | mk res rd => cases res <;> rfl

/-- `BlobReader::verify` rewinds: wherever the reader stands, it re-reads the whole key list -/
theorem rVerify_eq (tbl : List (K × CRec)) (r : Reader K) :
    (rVerify h tbl r).1 =
      match readChunks tbl r.chunks with
      | .error e => .error e
      | .ok d => .ok (decide (h d = r.checksum)) := by
  have key : (rAll tbl { r with cur := 0, bytesRead := 0 }).1 = readChunks tbl r.chunks := by
    unfold rAll
    rw [rAllGo_eq tbl _ { r with cur := 0, bytesRead := 0 } (by simp)]
    simp
  unfold rVerify
  cases hgo : rAll tbl { r with cur := 0, bytesRead := 0 } with
  | mk res rd =>
    rw [hgo] at key
    simp only at key
    rw [← key]
    cases res <;> rfl

end
end Neumann.Blob
