import NeumannModel.Blob.Conc
/- Helper lemmas for the blob-store properties (C19). Core Lean only. -/
namespace Neumann.Blob

section assoc
variable {α β : Type} [DecidableEq α]

def keys (l : List (α × β)) : List α := l.map (·.1)

@[simp] theorem keys_nil : keys ([] : List (α × β)) = [] := rfl
@[simp] theorem keys_cons (p : α × β) (l : List (α × β)) : keys (p :: l) = p.1 :: keys l := rfl
@[simp] theorem find_nil (k : α) : find k ([] : List (α × β)) = none := rfl
theorem find_cons (k : α) (p : α × β) (l : List (α × β)) :
    find k (p :: l) = if p.1 = k then some p.2 else find k l := rfl

theorem find_none_iff (k : α) (l : List (α × β)) : find k l = none ↔ k ∉ keys l := by
  induction l with
  | nil => simp
  | cons p l ih =>
    rw [find_cons]
    by_cases hp : p.1 = k
    · simp [hp]
    · simp only [hp, if_false, ih, keys_cons, List.mem_cons, not_or]
      exact ⟨fun h => ⟨fun e => hp e.symm, h⟩, fun h => h.2⟩

theorem find_some_mem {k : α} {v : β} {l : List (α × β)} (h : find k l = some v) : (k, v) ∈ l := by
  induction l with
  | nil => simp at h
  | cons p l ih =>
    rw [find_cons] at h
    by_cases hp : p.1 = k
    · simp only [hp, if_true, Option.some.injEq] at h
      have : p = (k, v) := by cases p; simp_all
      simp [this]
    · simp only [hp, if_false] at h
      exact List.mem_cons_of_mem _ (ih h)

theorem find_isSome_iff (k : α) (l : List (α × β)) : (find k l).isSome ↔ k ∈ keys l := by
  have := find_none_iff k l
  cases hf : find k l with
  | none => simp [hf] at this; simp [this]
  | some v =>
    simp only [Option.isSome_some, true_iff]
    have := find_some_mem hf
    exact List.mem_map.mpr ⟨(k, v), this, rfl⟩

theorem mem_find {k : α} {v : β} {l : List (α × β)} (hn : (keys l).Nodup) (h : (k, v) ∈ l) :
    find k l = some v := by
  induction l with
  | nil => simp at h
  | cons p l ih =>
    rw [find_cons]
    simp only [keys_cons, List.nodup_cons] at hn
    rcases List.mem_cons.mp h with h | h
    · subst h; simp
    · have hk : k ∈ keys l := List.mem_map.mpr ⟨(k, v), h, rfl⟩
      have hp : ¬ p.1 = k := fun e => hn.1 (e ▸ hk)
      simp only [hp, if_false]
      exact ih hn.2 h

theorem find_append (k : α) (l l' : List (α × β)) :
    find k (l ++ l') = match find k l with | some v => some v | none => find k l' := by
  induction l with
  | nil => simp
  | cons p l ih =>
    rw [List.cons_append, find_cons, find_cons]
    by_cases hp : p.1 = k <;> simp [hp, ih]

theorem keys_append_fresh {l : List (α × β)} (hn : (keys l).Nodup) {k : α} (v : β) (hf : find k l = none) :
    (keys (l ++ [(k, v)])).Nodup := by
  have hk := (find_none_iff _ _).mp hf
  simp only [keys, List.map_append, List.map_cons, List.map_nil] at *
  refine List.nodup_append.mpr ⟨hn, by simp, fun a ha b hb => ?_⟩
  rw [List.mem_singleton.mp hb]
  exact fun e => hk (e ▸ ha)

theorem keys_modify (k : α) (f : β → β) (l : List (α × β)) : keys (modify k f l) = keys l := by
  induction l with
  | nil => rfl
  | cons p l ih =>
    simp only [modify, List.map_cons, keys_cons] at *
    rw [ih]; by_cases hp : p.1 = k <;> simp [hp]

theorem forall_mem_modify {P : α × β → Prop} {k : α} {f : β → β} {l : List (α × β)}
    (hf : ∀ p, P p → P (p.1, f p.2)) (hl : ∀ p ∈ l, P p) : ∀ p ∈ modify k f l, P p := by
  intro p hp
  obtain ⟨q, hq, rfl⟩ := List.mem_map.mp hp
  split
  · exact hf q (hl q hq)
  · exact hl q hq

theorem find_modify (k k' : α) (f : β → β) (l : List (α × β)) :
    find k' (modify k f l) = if k' = k then (find k' l).map f else find k' l := by
  induction l with
  | nil => simp [modify]
  | cons p l ih =>
    simp only [modify, List.map_cons] at *
    rw [find_cons, find_cons, ih]
    by_cases hp : p.1 = k
    · by_cases hk : k' = k
      · subst hk; simp [hp]
      · have : ¬ p.1 = k' := fun e => hk (e ▸ hp)
        have hk' : ¬ k = k' := fun e => hk e.symm
        simp [hp, hk, hk']
    · by_cases hk : k' = k
      · subst hk; simp [hp]
      · by_cases h2 : p.1 = k' <;> simp [hp, hk, h2]

theorem find_erase (k k' : α) (l : List (α × β)) :
    find k' (erase k l) = if k' = k then none else find k' l := by
  induction l with
  | nil => simp [erase]
  | cons p l ih =>
    simp only [erase] at *
    by_cases hp : p.1 = k
    · have : decide (p.1 ≠ k) = false := by simp [hp]
      rw [List.filter_cons_of_neg (by simp [hp]), ih, find_cons]
      by_cases hk : k' = k
      · simp [hk]
      · have : ¬ p.1 = k' := fun e => hk (e ▸ hp)
        simp [hk, this]
    · rw [List.filter_cons_of_pos (by simp [hp]), find_cons, find_cons, ih]
      by_cases hk : k' = k
      · subst hk; simp [hp]
      · simp [hk]

theorem erase_cons (k : α) (p : α × β) (l : List (α × β)) :
    erase k (p :: l) = if p.1 = k then erase k l else p :: erase k l := by
  by_cases hp : p.1 = k <;> simp [erase, hp]

theorem mem_of_mem_erase {k : α} {l : List (α × β)} {p : α × β} (hp : p ∈ erase k l) : p ∈ l :=
  (List.mem_filter.mp hp).1

theorem erase_of_not_mem {k : α} {l : List (α × β)} (hk : k ∉ keys l) : erase k l = l :=
  List.filter_eq_self.mpr fun p hp => by
    have : p.1 ≠ k := fun e => hk (e ▸ List.mem_map.mpr ⟨p, hp, rfl⟩)
    simpa using this

theorem keys_filter_sublist (p : α × β → Bool) (l : List (α × β)) :
    (keys (l.filter p)).Sublist (keys l) := (List.filter_sublist).map _

theorem keys_filter_nodup (p : α × β → Bool) {l : List (α × β)} (hn : (keys l).Nodup) :
    (keys (l.filter p)).Nodup := hn.sublist (keys_filter_sublist p l)

theorem find_filter (p : α × β → Bool) {l : List (α × β)} (hn : (keys l).Nodup) (k : α) :
    find k (l.filter p) = (find k l).bind (fun v => if p (k, v) then some v else none) := by
  induction l with
  | nil => simp
  | cons q l ih =>
    simp only [keys_cons, List.nodup_cons] at hn
    rw [find_cons]
    by_cases hq : q.1 = k
    · have hqq : q = (k, q.2) := by cases q; simp_all
      simp only [hq, if_true, Option.bind_some]
      by_cases hp : p q = true
      · rw [List.filter_cons_of_pos hp, find_cons]
        rw [hqq] at hp
        simp [hq, hp]
      · rw [List.filter_cons_of_neg hp]
        have hk : k ∉ keys (l.filter p) := fun hm => hn.1 (hq ▸ (keys_filter_sublist p l).subset hm)
        rw [(find_none_iff _ _).mpr hk]
        rw [hqq] at hp
        simp [hp]
    · simp only [hq, if_false]
      by_cases hp : p q = true
      · rw [List.filter_cons_of_pos hp, find_cons]; simp [hq, ih hn.2]
      · rw [List.filter_cons_of_neg hp]; exact ih hn.2

theorem find_filter_of_kept (p : α × β → Bool) {l : List (α × β)} (hn : (keys l).Nodup) {k : α}
    (hk : ∀ v, find k l = some v → p (k, v) = true) : find k (l.filter p) = find k l := by
  rw [find_filter p hn]
  cases hf : find k l with
  | none => rfl
  | some v => rw [Option.bind_some, if_pos (hk v hf)]

theorem keys_map_val (g : α × β → β) (l : List (α × β)) :
    keys (l.map (fun p => (p.1, g p))) = keys l := by
  induction l with
  | nil => rfl
  | cons p l ih => simp only [List.map_cons, keys_cons, ih]

theorem find_map_val (g : α × β → β) (k : α) (l : List (α × β)) :
    find k (l.map (fun p => (p.1, g p))) = (find k l).map (fun v => g (k, v)) := by
  induction l with
  | nil => rfl
  | cons p l ih =>
    rw [List.map_cons, find_cons, find_cons, ih]
    by_cases hp : p.1 = k
    · have : p = (k, p.2) := by cases p; simp_all
      simp only [hp, if_true, Option.map_some]; rw [← this]
    · simp [hp]

theorem sum_erase_le (f : α × β → Nat) (k : α) (l : List (α × β)) :
    ((erase k l).map f).sum ≤ (l.map f).sum := by
  induction l with
  | nil => exact Nat.le_refl _
  | cons p l ih =>
    rw [erase_cons]
    split
    · exact Nat.le_trans ih (Nat.le_add_left _ _)
    · exact Nat.add_le_add_left ih _

/-- the entry found under `k` is one of those `erase k` removes (keys need not be unique) -/
theorem sum_erase_add_le (f : α × β → Nat) {k : α} {v : β} {l : List (α × β)} (hf : find k l = some v) :
    ((erase k l).map f).sum + f (k, v) ≤ (l.map f).sum := by
  induction l with
  | nil => cases hf
  | cons p l ih =>
    rw [find_cons] at hf
    rw [erase_cons]
    by_cases hp : p.1 = k
    · rw [if_pos hp] at hf ⊢
      have : p = (k, v) := Prod.ext hp (Option.some.inj hf)
      rw [this, List.map_cons, List.sum_cons, Nat.add_comm]
      exact Nat.add_le_add_left (sum_erase_le f k l) _
    · rw [if_neg hp] at hf ⊢
      rw [List.map_cons, List.sum_cons, List.map_cons, List.sum_cons, Nat.add_assoc]
      exact Nat.add_le_add_left (ih hf) _

theorem sum_erase_add_eq (f : α × β → Nat) {k : α} {v : β} {l : List (α × β)} (hn : (keys l).Nodup)
    (hf : find k l = some v) : ((erase k l).map f).sum + f (k, v) = (l.map f).sum := by
  induction l with
  | nil => cases hf
  | cons p l ih =>
    simp only [keys_cons, List.nodup_cons] at hn
    rw [find_cons] at hf
    rw [erase_cons]
    by_cases hp : p.1 = k
    · rw [if_pos hp] at hf ⊢
      have : p = (k, v) := Prod.ext hp (Option.some.inj hf)
      rw [erase_of_not_mem (hp ▸ hn.1), this, List.map_cons, List.sum_cons, Nat.add_comm]
    · rw [if_neg hp] at hf ⊢
      rw [List.map_cons, List.sum_cons, List.map_cons, List.sum_cons, Nat.add_assoc, ih hn.2 hf]

end assoc

section sums
variable {γ : Type} (f : γ → Nat)

theorem sum_map_zero {l : List γ} (hz : ∀ p ∈ l, f p = 0) : (l.map f).sum = 0 := by
  induction l with
  | nil => rfl
  | cons p l ih =>
    rw [List.map_cons, List.sum_cons, hz p (by simp), ih (fun q hq => hz q (by simp [hq]))]

theorem le_sum_map {l : List γ} {p : γ} (hp : p ∈ l) : f p ≤ (l.map f).sum := by
  induction l with
  | nil => simp at hp
  | cons q l ih =>
    rcases List.mem_cons.mp hp with e | e
    · exact e ▸ Nat.le_add_right _ _
    · exact Nat.le_trans (ih e) (Nat.le_add_left _ _)

theorem sum_map_set {l : List γ} {i : Nat} {x : γ} (hx : l[i]? = some x) (y : γ) :
    ((l.set i y).map f).sum + f x = (l.map f).sum + f y := by
  induction l generalizing i with
  | nil => simp at hx
  | cons q l ih =>
    cases i with
    | zero =>
      simp only [List.getElem?_cons_zero, Option.some.injEq] at hx
      subst hx
      simp only [List.set_cons_zero, List.map_cons, List.sum_cons]; omega
    | succ i =>
      simp only [List.getElem?_cons_succ] at hx
      rw [List.set_cons_succ, List.map_cons, List.sum_cons, List.map_cons, List.sum_cons, Nat.add_assoc, ih hx,
        Nat.add_assoc]

end sums

theorem chunksGo_flatten (c : Nat) (hc : 0 < c) (fuel : Nat) (d : List Nat) (hf : d.length ≤ fuel) :
    (chunksGo c fuel d).flatten = d := by
  induction fuel generalizing d with
  | zero =>
    have : d = [] := List.length_eq_zero_iff.mp (Nat.le_zero.mp hf)
    simp [chunksGo, this]
  | succ fuel ih =>
    rw [chunksGo]
    by_cases hd : d = []
    · simp [hd]
    · have hpos : 0 < d.length := List.length_pos_iff.mpr hd
      have hc0 : ¬ c = 0 := Nat.ne_of_gt hc
      simp only [hc0, hd, or_self, if_false, List.flatten_cons]
      rw [ih _ (by simp only [List.length_drop]; omega), List.take_append_drop]

theorem chunks_flatten (c : Nat) (hc : 0 < c) (d : List Nat) : (chunks c d).flatten = d :=
  chunksGo_flatten c hc _ d (Nat.le_refl _)

section tbl
variable {K : Type} [DecidableEq K] (h : List Nat → K)

/-- the content hash is collision-free (on the values that occur) -/
def HashInj : Prop := ∀ a b, h a = h b → a = b

def refsOf (k : K) (tbl : List (K × CRec)) : Nat :=
  match find k tbl with | some r => r.refs | none => 0

def dataOf (k : K) (tbl : List (K × CRec)) : Option (List Nat) := (find k tbl).map (·.data)

/-- every record is stored under the hash of its data -/
def Addressed (tbl : List (K × CRec)) : Prop := ∀ p ∈ tbl, h p.2.data = p.1

theorem dataOf_isSome (k : K) (tbl : List (K × CRec)) : (dataOf k tbl).isSome = (find k tbl).isSome := by
  simp [dataOf]

theorem refsOf_pos_isSome {k : K} {tbl : List (K × CRec)} (hp : 0 < refsOf k tbl) : (find k tbl).isSome := by
  unfold refsOf at hp
  cases hf : find k tbl with
  | none => simp [hf] at hp
  | some r => rfl

theorem refsOf_of_find {k : K} {tbl : List (K × CRec)} {r : CRec} (hf : find k tbl = some r) :
    refsOf k tbl = r.refs := by
  unfold refsOf; rw [hf]

theorem dataOf_of_find {k : K} {tbl : List (K × CRec)} {r : CRec} (hf : find k tbl = some r) :
    dataOf k tbl = some r.data := by
  unfold dataOf; rw [hf]; rfl

theorem find_filter_of_refs {tbl : List (K × CRec)} (hn : (keys tbl).Nodup) (keep : K × CRec → Bool)
    (hk : ∀ q ∈ tbl, keep q = false → q.2.refs = 0) {k : K} (hp : 0 < refsOf k tbl) :
    find k (tbl.filter keep) = find k tbl :=
  find_filter_of_kept keep hn fun r hf => by
    cases hkr : keep (k, r) with
    | true => rfl
    | false =>
      have : r.refs = 0 := hk (k, r) (find_some_mem hf) hkr
      rw [refsOf_of_find hf, this] at hp
      exact absurd hp (Nat.lt_irrefl 0)

theorem refsOf_filter_of_refs {tbl : List (K × CRec)} (hn : (keys tbl).Nodup) (keep : K × CRec → Bool)
    (hk : ∀ q ∈ tbl, keep q = false → q.2.refs = 0) (k : K) :
    refsOf k (tbl.filter keep) = refsOf k tbl := by
  by_cases hp : 0 < refsOf k tbl
  · unfold refsOf; rw [find_filter_of_refs hn keep hk hp]
  · -- a record without a reference counts 0 whether it is kept or dropped
    have h0 : refsOf k tbl = 0 := Nat.eq_zero_of_not_pos hp
    unfold refsOf at h0 ⊢
    rw [find_filter keep hn]
    cases hf : find k tbl with
    | none => rfl
    | some r =>
      rw [hf] at h0
      rw [Option.bind_some]
      by_cases hd : keep (k, r) = true
      · rw [if_pos hd]
      · rw [if_neg hd]; exact h0.symm

omit [DecidableEq K] in
theorem gcDead_refs {mc : Nat} {sel : K → Bool} {q : K × CRec} (hd : (!gcDead mc sel q) = false) : q.2.refs = 0 := by
  simp only [gcDead, Bool.not_eq_false', Bool.and_eq_true, decide_eq_true_eq] at hd
  exact hd.1.2

theorem readChunks_cons (tbl : List (K × CRec)) (k : K) (ks : List K) :
    readChunks tbl (k :: ks) =
      match dataOf k tbl with
      | none => .error .chunkMissing
      | some d => match readChunks tbl ks with
        | .error e => .error e
        | .ok rest => .ok (d ++ rest) := by
  rw [readChunks, dataOf]
  cases find k tbl <;> rfl

theorem readChunks_congr {tbl tbl' : List (K × CRec)} {ks : List K}
    (hd : ∀ k ∈ ks, dataOf k tbl' = dataOf k tbl) : readChunks tbl' ks = readChunks tbl ks := by
  induction ks with
  | nil => rfl
  | cons k ks ih =>
    rw [readChunks_cons, readChunks_cons, hd k (by simp), ih (fun k hk => hd k (by simp [hk]))]

theorem readChunks_ok_present {tbl : List (K × CRec)} {ks : List K} {d : List Nat}
    (hr : readChunks tbl ks = .ok d) : ∀ k ∈ ks, (find k tbl).isSome := by
  induction ks generalizing d with
  | nil => simp
  | cons k ks ih =>
    rw [readChunks] at hr
    cases hf : find k tbl with
    | none => simp [hf] at hr
    | some r =>
      simp only [hf] at hr
      cases hr2 : readChunks tbl ks with
      | error e => simp [hr2] at hr
      | ok rest =>
        intro k' hk'
        rcases List.mem_cons.mp hk' with e | e
        · subst e; simp [hf]
        · exact ih hr2 k' e

theorem storeChunk_keys_nodup (t : Nat) {tbl : List (K × CRec)} (d : List Nat) (hn : (keys tbl).Nodup) :
    (keys (storeChunk h t tbl d)).Nodup := by
  unfold storeChunk
  cases hf : find (h d) tbl with
  | some r => simp only [keys_modify]; exact hn
  | none => exact keys_append_fresh hn _ hf

theorem storeChunk_addressed (t : Nat) {tbl : List (K × CRec)} (d : List Nat) (ha : Addressed h tbl) :
    Addressed h (storeChunk h t tbl d) := by
  unfold storeChunk
  cases hf : find (h d) tbl with
  | some r => exact forall_mem_modify (fun _ hp => hp) ha
  | none =>
    intro p hp
    rcases List.mem_append.mp hp with hp | hp
    · exact ha p hp
    · rw [List.mem_singleton.mp hp]

theorem find_storeChunk (t : Nat) (tbl : List (K × CRec)) (d : List Nat) (k : K) :
    find k (storeChunk h t tbl d) =
      match find k tbl with
      | some r => some (if k = h d then { r with refs := r.refs + 1 } else r)
      | none => if k = h d then some { data := d, size := d.length, refs := 1, created := t } else none := by
  unfold storeChunk
  cases hf : find (h d) tbl with
  | some r0 =>
    simp only [find_modify]
    by_cases hk : k = h d
    · subst hk; simp [hf]
    · simp only [hk, if_false]; cases find k tbl <;> rfl
  | none =>
    simp only [find_append]
    by_cases hk : k = h d
    · subst hk; simp [hf, find_cons]
    · cases hk2 : find k tbl with
      | some r => simp [hk]
      | none =>
        have : ¬ h d = k := fun e => hk e.symm
        simp [find_cons, this, hk]

theorem refsOf_storeChunk (t : Nat) (tbl : List (K × CRec)) (d : List Nat) (k : K) :
    refsOf k (storeChunk h t tbl d) = refsOf k tbl + (if h d = k then 1 else 0) := by
  unfold refsOf
  rw [find_storeChunk]
  by_cases hk : k = h d
  · subst hk; cases find (h d) tbl <;> simp
  · have : ¬ h d = k := fun e => hk e.symm
    cases find k tbl <;> simp [hk, this]

theorem isSome_storeChunk (t : Nat) (tbl : List (K × CRec)) (d : List Nat) (k : K) :
    (find k (storeChunk h t tbl d)).isSome = ((find k tbl).isSome || decide (k = h d)) := by
  rw [find_storeChunk]
  by_cases hk : k = h d
  · subst hk; cases find (h d) tbl <;> simp
  · cases find k tbl <;> simp [hk]

theorem dataOf_storeChunk_present (t : Nat) {tbl : List (K × CRec)} (d : List Nat) {k : K}
    (hp : (find k tbl).isSome) : dataOf k (storeChunk h t tbl d) = dataOf k tbl := by
  unfold dataOf
  rw [find_storeChunk]
  cases hf : find k tbl with
  | none => simp [hf] at hp
  | some r => by_cases hk : k = h d <;> simp [hk]

theorem dataOf_storeChunk_self (hi : HashInj h) (t : Nat) {tbl : List (K × CRec)} (d : List Nat)
    (ha : Addressed h tbl) : dataOf (h d) (storeChunk h t tbl d) = some d := by
  unfold dataOf
  rw [find_storeChunk]
  cases hf : find (h d) tbl with
  | none => simp
  | some r =>
    have := ha _ (find_some_mem hf)
    simp only [if_true, Option.map_some]
    exact congrArg some (hi _ _ this)

theorem storeAll_keys_nodup (t : Nat) (cds : List (List Nat)) {tbl : List (K × CRec)} (hn : (keys tbl).Nodup) :
    (keys (cds.foldl (storeChunk h t) tbl)).Nodup := by
  induction cds generalizing tbl with
  | nil => exact hn
  | cons d cds ih => exact ih (storeChunk_keys_nodup h t d hn)

theorem storeAll_addressed (t : Nat) (cds : List (List Nat)) {tbl : List (K × CRec)} (ha : Addressed h tbl) :
    Addressed h (cds.foldl (storeChunk h t) tbl) := by
  induction cds generalizing tbl with
  | nil => exact ha
  | cons d cds ih => exact ih (storeChunk_addressed h t d ha)

theorem refsOf_storeAll (t : Nat) (cds : List (List Nat)) (tbl : List (K × CRec)) (k : K) :
    refsOf k (cds.foldl (storeChunk h t) tbl) = refsOf k tbl + (cds.map h).count k := by
  induction cds generalizing tbl with
  | nil => simp
  | cons d cds ih =>
    rw [List.foldl_cons, ih, refsOf_storeChunk, List.map_cons, List.count_cons]
    by_cases e : h d = k
    · rw [if_pos e, if_pos (by simpa using e), Nat.add_assoc, Nat.add_comm 1]
    · rw [if_neg e, if_neg (by simpa using e), Nat.add_zero, Nat.add_zero]

theorem isSome_storeAll_mono (t : Nat) (cds : List (List Nat)) {tbl : List (K × CRec)} {k : K}
    (hp : (find k tbl).isSome) : (find k (cds.foldl (storeChunk h t) tbl)).isSome := by
  induction cds generalizing tbl with
  | nil => exact hp
  | cons d cds ih => exact ih (by rw [isSome_storeChunk]; simp [hp])

theorem dataOf_storeAll_present (t : Nat) (cds : List (List Nat)) {tbl : List (K × CRec)} {k : K}
    (hp : (find k tbl).isSome) : dataOf k (cds.foldl (storeChunk h t) tbl) = dataOf k tbl := by
  induction cds generalizing tbl with
  | nil => rfl
  | cons d cds ih =>
    rw [List.foldl_cons, ih (by rw [isSome_storeChunk]; simp [hp]), dataOf_storeChunk_present h t d hp]

theorem isSome_storeAll_new (t : Nat) (cds : List (List Nat)) (tbl : List (K × CRec)) :
    ∀ d ∈ cds, (find (h d) (cds.foldl (storeChunk h t) tbl)).isSome := by
  induction cds generalizing tbl with
  | nil => simp
  | cons d0 cds ih =>
    intro d hd
    rcases List.mem_cons.mp hd with e | e
    · subst e; exact isSome_storeAll_mono h t cds (by rw [isSome_storeChunk]; simp)
    · exact ih _ d e

theorem readChunks_storeAll (hi : HashInj h) (t : Nat) (cds : List (List Nat)) {tbl : List (K × CRec)}
    (ha : Addressed h tbl) : readChunks (cds.foldl (storeChunk h t) tbl) (cds.map h) = .ok cds.flatten := by
  induction cds generalizing tbl with
  | nil => rfl
  | cons d cds ih =>
    rw [List.map_cons, readChunks_cons, List.foldl_cons]
    have h1 : dataOf (h d) (cds.foldl (storeChunk h t) (storeChunk h t tbl d)) = some d := by
      rw [dataOf_storeAll_present h t cds (by rw [isSome_storeChunk]; simp)]
      exact dataOf_storeChunk_self h hi t d ha
    rw [h1, ih (storeChunk_addressed h t d ha)]
    rfl

theorem keys_decRef (tbl : List (K × CRec)) (k : K) : keys (decRef tbl k) = keys tbl := keys_modify _ _ _

theorem find_decRef (tbl : List (K × CRec)) (k k' : K) :
    find k' (decRef tbl k) = if k' = k then (find k' tbl).map (fun r => { r with refs := r.refs - 1 }) else find k' tbl :=
  find_modify _ _ _ _

theorem refsOf_decRef (tbl : List (K × CRec)) (k k' : K) :
    refsOf k' (decRef tbl k) = if k' = k then refsOf k' tbl - 1 else refsOf k' tbl := by
  unfold refsOf; rw [find_decRef]
  by_cases e : k' = k
  · rw [if_pos e, if_pos e]; cases find k' tbl <;> rfl
  · rw [if_neg e, if_neg e]

theorem dataOf_decRef (tbl : List (K × CRec)) (k k' : K) : dataOf k' (decRef tbl k) = dataOf k' tbl := by
  unfold dataOf; rw [find_decRef]
  by_cases e : k' = k
  · rw [if_pos e]; cases find k' tbl <;> rfl
  · rw [if_neg e]

theorem addressed_decRef {tbl : List (K × CRec)} (k : K) (ha : Addressed h tbl) : Addressed h (decRef tbl k) :=
  forall_mem_modify (fun _ hp => hp) ha

theorem keys_decAll (ks : List K) (tbl : List (K × CRec)) : keys (ks.foldl decRef tbl) = keys tbl := by
  induction ks generalizing tbl with
  | nil => rfl
  | cons k ks ih => rw [List.foldl_cons, ih, keys_decRef]

theorem addressed_decAll (ks : List K) {tbl : List (K × CRec)} (ha : Addressed h tbl) :
    Addressed h (ks.foldl decRef tbl) := by
  induction ks generalizing tbl with
  | nil => exact ha
  | cons k ks ih => exact ih (addressed_decRef h k ha)

theorem dataOf_decAll (ks : List K) (tbl : List (K × CRec)) (k' : K) :
    dataOf k' (ks.foldl decRef tbl) = dataOf k' tbl := by
  induction ks generalizing tbl with
  | nil => rfl
  | cons k ks ih => rw [List.foldl_cons, ih, dataOf_decRef]

theorem refsOf_decAll (ks : List K) (tbl : List (K × CRec)) (k' : K) :
    refsOf k' (ks.foldl decRef tbl) = refsOf k' tbl - ks.count k' := by
  induction ks generalizing tbl with
  | nil => simp
  | cons k ks ih =>
    rw [List.foldl_cons, ih, refsOf_decRef, List.count_cons]
    by_cases e : k' = k
    · subst e; rw [if_pos rfl, if_pos (beq_self_eq_true _), Nat.sub_sub, Nat.add_comm]
    · rw [if_neg e, if_neg (by simpa using fun x : k = k' => e x.symm), Nat.add_zero]

end tbl

theorem splitGo_flatten (c fuel : Nat) (buf : List Nat) :
    (splitGo c fuel buf).1.flatten ++ (splitGo c fuel buf).2 = buf := by
  induction fuel generalizing buf with
  | zero => simp [splitGo]
  | succ fuel ih =>
    rw [splitGo]
    by_cases hc : c = 0 ∨ buf.length < c
    · simp [hc]
    · simp only [hc, if_false, List.flatten_cons, List.append_assoc]
      rw [ih, List.take_append_drop]

theorem splitFull_flatten (c : Nat) (buf : List Nat) :
    (splitFull c buf).1.flatten ++ (splitFull c buf).2 = buf := splitGo_flatten c _ buf

/-- chunk datas a writer with buffer `buf` stores while being fed `ps`, and what stays buffered -/
def emit (c : Nat) : List Nat → List (List Nat) → List (List Nat) × List Nat
  | buf, [] => ([], buf)
  | buf, p :: ps =>
    if p = [] then emit c buf ps
    else ((splitFull c (buf ++ p)).1 ++ (emit c (splitFull c (buf ++ p)).2 ps).1,
          (emit c (splitFull c (buf ++ p)).2 ps).2)

/-- all chunk datas of a finished writer fed `ps` (the last one is the flushed buffer) -/
def streamChunks (c : Nat) (ps : List (List Nat)) : List (List Nat) :=
  (emit c [] ps).1 ++ (if (emit c [] ps).2 = [] then [] else [(emit c [] ps).2])

theorem emit_flatten (c : Nat) (buf : List Nat) (ps : List (List Nat)) :
    (emit c buf ps).1.flatten ++ (emit c buf ps).2 = buf ++ ps.flatten := by
  induction ps generalizing buf with
  | nil => simp [emit]
  | cons p ps ih =>
    rw [emit]
    by_cases hp : p = []
    · simp [hp, ih]
    · simp only [hp, if_false, List.flatten_append, List.append_assoc, ih, List.flatten_cons]
      rw [← List.append_assoc, splitFull_flatten, List.append_assoc]

theorem streamChunks_flatten (c : Nat) (ps : List (List Nat)) : (streamChunks c ps).flatten = ps.flatten := by
  have := emit_flatten c [] ps
  unfold streamChunks
  by_cases he : (emit c [] ps).2 = []
  · simp only [he, if_true, List.append_nil] at *; simpa using this
  · simp only [he, if_false, List.flatten_append, List.flatten_cons, List.flatten_nil, List.append_nil]
    simpa using this

theorem splitGo_nonempty (c fuel : Nat) (buf : List Nat) : ∀ d ∈ (splitGo c fuel buf).1, d ≠ [] := by
  induction fuel generalizing buf with
  | zero => simp [splitGo]
  | succ fuel ih =>
    rw [splitGo]
    by_cases hc : c = 0 ∨ buf.length < c
    · simp [hc]
    · simp only [hc, if_false, List.mem_cons]
      intro d hd
      rcases hd with e | e
      · subst e
        intro he
        have h1 : (buf.take c).length = 0 := by rw [he]; rfl
        rw [List.length_take] at h1
        omega
      · exact ih _ d e

theorem emit_nonempty (c : Nat) (buf : List Nat) (ps : List (List Nat)) : ∀ d ∈ (emit c buf ps).1, d ≠ [] := by
  induction ps generalizing buf with
  | nil => simp [emit]
  | cons p ps ih =>
    rw [emit]
    by_cases hp : p = []
    · simp only [hp, if_true]; exact ih buf
    · simp only [hp, if_false, List.mem_append]
      intro d hd
      rcases hd with e | e
      · exact splitGo_nonempty c _ _ d e
      · exact ih _ d e

theorem streamChunks_nonempty (c : Nat) (ps : List (List Nat)) : ∀ d ∈ streamChunks c ps, d ≠ [] := by
  unfold streamChunks
  intro d hd
  simp only [List.mem_append] at hd
  rcases hd with e | e
  · exact emit_nonempty c [] ps d e
  · by_cases he : (emit c [] ps).2 = []
    · simp [he] at e
    · simp only [he, if_false, List.mem_singleton] at e
      subst e; exact he

section writer
variable {K : Type} [DecidableEq K] (h : List Nat → K)

theorem writeAll_eq (c t : Nat) (s : State K) (w : Writer K) (ps : List (List Nat)) :
    writeAll h c t s w ps =
      ({ s with chunks := (emit c w.buffer ps).1.foldl (storeChunk h t) s.chunks },
       { chunks := w.chunks ++ (emit c w.buffer ps).1.map h, total := w.total + ps.flatten.length,
         hashed := w.hashed ++ ps.flatten, buffer := (emit c w.buffer ps).2 }) := by
  induction ps generalizing s w with
  | nil => simp [writeAll, emit]
  | cons p ps ih =>
    have hstep : writeAll h c t s w (p :: ps) = writeAll h c t (wWrite h c t s w p).1 (wWrite h c t s w p).2 ps := by
      simp [writeAll]
    rw [hstep, ih, emit]
    by_cases hp : p = []
    · simp [wWrite, hp]
    · simp only [wWrite, hp, if_false, List.foldl_append, List.map_append, List.append_assoc,
        List.flatten_cons, List.length_append, Nat.add_assoc]

theorem stream_eq (cfg : Cfg) (t : Nat) (s : State K) (ps : List (List Nat)) :
    stream h cfg t s ps =
      ({ chunks := (streamChunks cfg.chunkSize ps).foldl (storeChunk h t) s.chunks,
         arts := s.arts ++ [(s.next, { chunks := (streamChunks cfg.chunkSize ps).map h,
                                       size := ps.flatten.length, checksum := h ps.flatten })],
         next := s.next + 1 }, s.next) := by
  unfold stream
  rw [writeAll_eq]
  simp only [wFinish, Writer.new, streamChunks, List.nil_append, Nat.zero_add, List.foldl_append, List.map_append]
  by_cases he : (emit cfg.chunkSize [] ps).2 = [] <;> simp [he]

theorem abandon_eq (cfg : Cfg) (t : Nat) (s : State K) (ps : List (List Nat)) :
    streamAbandon h cfg t s ps =
      { s with chunks := (emit cfg.chunkSize [] ps).1.foldl (storeChunk h t) s.chunks } := by
  unfold streamAbandon
  rw [writeAll_eq]
  rfl

end writer

section occs
variable {K : Type} [DecidableEq K]

theorem occ_nil (k : K) : occ k ([] : List (Nat × Art K)) = 0 := rfl

theorem occ_cons (k : K) (p : Nat × Art K) (arts : List (Nat × Art K)) :
    occ k (p :: arts) = p.2.chunks.count k + occ k arts := by simp [occ]

theorem occ_append (k : K) (arts arts' : List (Nat × Art K)) : occ k (arts ++ arts') = occ k arts + occ k arts' := by
  simp [occ]

theorem occ_pos_of_mem {k : K} {arts : List (Nat × Art K)} {p : Nat × Art K} (hp : p ∈ arts) (hk : k ∈ p.2.chunks) :
    0 < occ k arts :=
  Nat.lt_of_lt_of_le (List.count_pos_iff.mpr hk) (le_sum_map (fun a : Nat × Art K => a.2.chunks.count k) hp)

theorem occ_erase_le {k : K} {arts : List (Nat × Art K)} {id : Nat} {a : Art K} (hf : find id arts = some a) :
    occ k (erase id arts) + a.chunks.count k ≤ occ k arts :=
  sum_erase_add_le (fun a : Nat × Art K => a.2.chunks.count k) hf

theorem occ_erase_eq {k : K} {arts : List (Nat × Art K)} {id : Nat} {a : Art K} (hn : (keys arts).Nodup)
    (hf : find id arts = some a) : occ k (erase id arts) + a.chunks.count k = occ k arts :=
  sum_erase_add_eq (fun a : Nat × Art K => a.2.chunks.count k) hn hf

theorem contains_referenced (k : K) (arts : List (Nat × Art K)) :
    (referenced arts).contains k = decide (0 < occ k arts) := by
  by_cases hm : k ∈ referenced arts
  · obtain ⟨p, hp, hk⟩ := List.mem_flatMap.mp hm
    simp [hm, occ_pos_of_mem hp hk]
  · have : occ k arts = 0 := sum_map_zero _ fun p hp =>
      List.count_eq_zero.mpr fun hk => hm (List.mem_flatMap.mpr ⟨p, hp, hk⟩)
    simp [hm, this]

end occs

section collectors
variable {K : Type} [DecidableEq K]


theorem find_gcSel_of_refs {s : State K} (hn : (keys s.chunks).Nodup) (mc : Nat) (sel : K → Bool) {k : K}
    (hp : 0 < refsOf k s.chunks) : find k (gcSel mc sel s).1.chunks = find k s.chunks :=
  find_filter_of_refs hn _ (fun _ _ hq => gcDead_refs hq) hp

theorem refsOf_gcSel {s : State K} (hn : (keys s.chunks).Nodup) (mc : Nat) (sel : K → Bool) (k : K) :
    refsOf k (gcSel mc sel s).1.chunks = refsOf k s.chunks :=
  refsOf_filter_of_refs hn _ (fun _ _ hq => gcDead_refs hq) k

theorem find_fullGc {s : State K} (hn : (keys s.chunks).Nodup) (k : K) :
    find k (fullGc s).1.chunks = if 0 < occ k s.arts then find k s.chunks else none := by
  simp only [fullGc]
  rw [find_filter _ hn]
  cases find k s.chunks with
  | none => simp
  | some r => simp only [Option.bind_some, contains_referenced, decide_eq_true_eq]

theorem fixRefs_eq (arts : List (Nat × Art K)) (p : K × CRec) :
    fixRefs arts p = (p.1, ⟨p.2.data, p.2.size, occ p.1 arts, p.2.created⟩) := by
  unfold fixRefs
  split
  · rfl
  · next e => rw [Decidable.not_not] at e; rw [← e]

theorem find_repair {s : State K} (hn : (keys s.chunks).Nodup) (k : K) :
    find k (repair s).1.chunks =
      if occ k s.arts = 0 then none
      else (find k s.chunks).map (fun r => ⟨r.data, r.size, occ k s.arts, r.created⟩) := by
  simp only [repair]
  rw [List.map_congr_left (fun p _ => fixRefs_eq s.arts p),
    find_map_val (fun p => (⟨p.2.data, p.2.size, occ p.1 s.arts, p.2.created⟩ : CRec)), find_filter _ hn]
  cases find k s.chunks with
  | none => simp
  | some r => by_cases h0 : occ k s.arts = 0 <;> simp [h0]

end collectors

end Neumann.Blob
