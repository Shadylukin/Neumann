import NeumannModel.Blob.Invariant
import NeumannModel.Blob.Writers
/- C19 — the invariant of sequential histories with OPEN streaming writers (`Writers.lean`) and its
   preservation by every `applyW` step. -/
namespace Neumann.Blob

section wtable
variable {K : Type} [DecidableEq K]

theorem holds_nil (k : K) : holds k ([] : List (Nat × Writer K)) = 0 := rfl

theorem holds_cons (k : K) (p : Nat × Writer K) (ws : List (Nat × Writer K)) :
    holds k (p :: ws) = p.2.chunks.count k + holds k ws := by simp [holds]

theorem holds_erase_le (k : K) (w : Nat) (ws : List (Nat × Writer K)) : holds k (erase w ws) ≤ holds k ws :=
  sum_erase_le (fun p : Nat × Writer K => p.2.chunks.count k) w ws

/-- the writer found under `w` accounts for its own occurrences (no uniqueness of handles needed) -/
theorem holds_erase_find {k : K} {w : Nat} {ws : List (Nat × Writer K)} {wr : Writer K}
    (hf : find w ws = some wr) : holds k (erase w ws) + wr.chunks.count k ≤ holds k ws :=
  sum_erase_add_le (fun p : Nat × Writer K => p.2.chunks.count k) hf

theorem holds_pos_of_mem {k : K} {ws : List (Nat × Writer K)} {p : Nat × Writer K} (hp : p ∈ ws)
    (hk : k ∈ p.2.chunks) : 0 < holds k ws :=
  Nat.lt_of_lt_of_le (List.count_pos_iff.mpr hk) (le_sum_map (fun p : Nat × Writer K => p.2.chunks.count k) hp)

theorem readChunks_append (tbl : List (K × CRec)) (ks ks' : List K) :
    readChunks tbl (ks ++ ks') =
      match readChunks tbl ks with
      | .error e => .error e
      | .ok d => match readChunks tbl ks' with
        | .error e => .error e
        | .ok d' => .ok (d ++ d') := by
  induction ks with
  | nil =>
    simp only [List.nil_append, readChunks]
    cases readChunks tbl ks' <;> simp
  | cons k ks ih =>
    rw [List.cons_append, readChunks_cons, readChunks_cons, ih]
    cases dataOf k tbl with
    | none => rfl
    | some d0 =>
      cases readChunks tbl ks with
      | error e => rfl
      | ok d =>
        cases readChunks tbl ks' with
        | error e => rfl
        | ok d' => simp

end wtable

section
variable {K : Type} [DecidableEq K] (h : List Nat → K)

/-- every operation except `full_gc` / `repair`: the slack `refs - occurrences` of no key shrinks, and a record
    with a reference keeps its data -/
theorem Effect.table {s s' : State K} {op : Op} (he : Effect h s op s') (hw : WF h s)
    (hq : (WOp.base op).isFullCollector = false) :
    (∀ k, refsOf k s.chunks + occ k s'.arts ≤ refsOf k s'.chunks + occ k s.arts) ∧
    (∀ k, 0 < refsOf k s.chunks → dataOf k s'.chunks = dataOf k s.chunks) := by
  cases he with
  | none => exact ⟨fun _ => Nat.le_refl _, fun _ _ => rfl⟩
  | store t cds =>
    refine ⟨fun k => ?_, fun k hk => dataOf_storeAll_present h t _ (refsOf_pos_isSome hk)⟩
    rw [refsOf_storeAll]
    exact Nat.add_le_add_right (Nat.le_add_right _ _) _
  | finish t cds =>
    refine ⟨fun k => ?_, fun k hk => dataOf_storeAll_present h t _ (refsOf_pos_isSome hk)⟩
    simp only [occ_append, occ_cons, occ_nil, Nat.add_zero, refsOf_storeAll]; omega
  | delete id a _ hf =>
    refine ⟨fun k => ?_, fun k _ => dataOf_decAll a.chunks s.chunks k⟩
    have h1 := occ_erase_le (k := k) hf
    have h2 := hw.refs k
    simp only [refsOf_decAll]
    omega
  | gc mc sel =>
    refine ⟨fun k => ?_, fun k hk => ?_⟩
    · rw [refsOf_gcSel hw.nodup]; exact Nat.le_refl _
    · unfold dataOf; rw [find_gcSel_of_refs hw.nodup mc sel hk]
  | fullGc hop => rw [hop] at hq; cases hq
  | repair hop => rw [hop] at hq; cases hq

/-- what every state reachable by a sequential history with open writers satisfies (`full_gc` / `repair` only
    while no writer is open): the store invariant, refcounts cover artifact listings PLUS open writers' lists,
    and every open writer's list reads back as the bytes it has stored so far -/
structure WFW (x : WState K) : Prop where
  base : WF h x.st
  refsW : ∀ k, occ k x.st.arts + holds k x.writers ≤ refsOf k x.st.chunks
  wr : ∀ p ∈ x.writers, ∃ d, readChunks x.st.chunks p.2.chunks = .ok d ∧ d ++ p.2.buffer = p.2.hashed ∧
    p.2.total = p.2.hashed.length

theorem WFW_init : WFW h (WState.init : WState K) :=
  ⟨WF_init h, by intro k; simp [WState.init, State.init, occ, holds], by intro p hp; simp [WState.init] at hp⟩

theorem WFW.writer_refs_pos {x : WState K} (hw : WFW h x) {p : Nat × Writer K} (hp : p ∈ x.writers) {k : K}
    (hk : k ∈ p.2.chunks) : 0 < refsOf k x.st.chunks :=
  Nat.lt_of_lt_of_le (holds_pos_of_mem hp hk) (Nat.le_trans (Nat.le_add_left _ _) (hw.refsW k))

theorem WFW.storeAll_keeps {x : WState K} (hw : WFW h x) (t : Nat) (cds : List (List Nat)) {p : Nat × Writer K}
    (hp : p ∈ x.writers) :
    readChunks (cds.foldl (storeChunk h t) x.st.chunks) p.2.chunks = readChunks x.st.chunks p.2.chunks :=
  readChunks_congr fun _ hk =>
    dataOf_storeAll_present h t cds (refsOf_pos_isSome (hw.writer_refs_pos h hp hk))

theorem base_step (hi : HashInj h) (cfg : Cfg) {x : WState K} (hw : WFW h x) (op : Op)
    (hq : (WOp.base op).isFullCollector = false) : WFW h { x with st := applyOp h cfg x.st op } := by
  obtain ⟨hr, hd⟩ := (applyOp_effect h cfg x.st op).table h hw.base hq
  refine ⟨(applyOp_step h hi cfg hw.base op).1, fun k => ?_, fun p hp => ?_⟩
  · have h1 := hr k
    have h2 := hw.refsW k
    simp only at h1 ⊢
    omega
  · obtain ⟨d, h1, h2, h3⟩ := hw.wr p hp
    refine ⟨d, ?_, h2, h3⟩
    simp only
    rw [readChunks_congr (fun k hk => hd k (hw.writer_refs_pos h hp hk))]
    exact h1

/-- `full_gc` / `repair` (any operation, in fact) while no writer is open -/
theorem base_step_quiet (hi : HashInj h) (cfg : Cfg) {x : WState K} (hw : WFW h x) (op : Op)
    (hq : x.writers = []) : WFW h { x with st := applyOp h cfg x.st op } := by
  have hb := (applyOp_step h hi cfg hw.base op).1
  refine ⟨hb, fun k => ?_, fun p hp => ?_⟩
  · simp only [hq, holds_nil, Nat.add_zero]; exact hb.refs k
  · simp only [hq] at hp; simp at hp

theorem wopen_step {x : WState K} (hw : WFW h x) (w : Nat) :
    WFW h { x with writers := (w, Writer.new) :: erase w x.writers } := by
  refine ⟨hw.base, fun k => ?_, fun p hp => ?_⟩
  · have h1 := hw.refsW k
    have h2 := holds_erase_le k w x.writers
    simp only [holds_cons, Writer.new, List.count_nil] at h1 ⊢
    omega
  · rcases List.mem_cons.mp hp with e | e
    · subst e; exact ⟨[], rfl, rfl, rfl⟩
    · exact hw.wr p (mem_of_mem_erase e)

theorem wdrop_step {x : WState K} (hw : WFW h x) (w : Nat) :
    WFW h { x with writers := erase w x.writers } :=
  ⟨hw.base, fun k => Nat.le_trans (Nat.add_le_add_left (holds_erase_le k w x.writers) _) (hw.refsW k),
    fun p hp => hw.wr p (mem_of_mem_erase hp)⟩

theorem wWrite_eq (c t : Nat) (s : State K) (w : Writer K) (piece : List Nat) :
    ∃ (cds : List (List Nat)) (buf : List Nat), cds.flatten ++ buf = w.buffer ++ piece ∧
      wWrite h c t s w piece =
        ({ s with chunks := cds.foldl (storeChunk h t) s.chunks },
         { chunks := w.chunks ++ cds.map h, total := w.total + piece.length,
           hashed := w.hashed ++ piece, buffer := buf }) := by
  by_cases hp : piece = []
  · refine ⟨[], w.buffer, by simp [hp], ?_⟩
    simp [wWrite, hp]
  · refine ⟨(splitFull c (w.buffer ++ piece)).1, (splitFull c (w.buffer ++ piece)).2, splitFull_flatten _ _, ?_⟩
    simp [wWrite, hp]

theorem wwrite_core (hi : HashInj h) {x : WState K} (hw : WFW h x) {w : Nat} {wr : Writer K}
    (hf : find w x.writers = some wr) (t : Nat) (cds : List (List Nat)) (buf piece : List Nat)
    (hfl : cds.flatten ++ buf = wr.buffer ++ piece) :
    WFW h ⟨{ x.st with chunks := cds.foldl (storeChunk h t) x.st.chunks },
           (w, { chunks := wr.chunks ++ cds.map h, total := wr.total + piece.length,
                 hashed := wr.hashed ++ piece, buffer := buf }) :: erase w x.writers⟩ ∧
    ∀ id, get { x.st with chunks := cds.foldl (storeChunk h t) x.st.chunks } id = get x.st id := by
  obtain ⟨hw1, hk1⟩ := storeAll_change h hw.base t cds
  refine ⟨⟨hw1, fun k => ?_, fun p hp => ?_⟩, get_table_change hk1⟩
  · have h1 := hw.refsW k
    have h2 := holds_erase_find (k := k) hf
    simp only [holds_cons, List.count_append, refsOf_storeAll]
    omega
  · rcases List.mem_cons.mp hp with e | e
    · subst e
      have hm := find_some_mem hf
      obtain ⟨d, h1, h2, h3⟩ := hw.wr (w, wr) hm
      refine ⟨d ++ cds.flatten, ?_, ?_, ?_⟩
      · simp only
        rw [readChunks_append, hw.storeAll_keeps h t cds hm, h1, readChunks_storeAll h hi t cds hw.base.addr]
      · simp only at h2 ⊢
        rw [List.append_assoc, hfl, ← List.append_assoc, h2]
      · simp only at h3 ⊢
        rw [h3, List.length_append]
    · have hm := mem_of_mem_erase e
      obtain ⟨d, h1, h2, h3⟩ := hw.wr p hm
      exact ⟨d, (hw.storeAll_keeps h t cds hm).trans h1, h2, h3⟩

/-- `finish` of an open writer: the invariant is kept, every artifact reads the same, and the new artifact
    (under the fresh id) reads back as everything the writer was handed -/
theorem wfinish_step (hi : HashInj h) {x : WState K} (hw : WFW h x) {w : Nat} {wr : Writer K}
    (hf : find w x.writers = some wr) (t : Nat) :
    WFW h ⟨(wFinish h t x.st wr).1, erase w x.writers⟩ ∧
    (∀ id, (find id x.st.arts).isSome →
      (find id (wFinish h t x.st wr).1.arts).isSome ∧ get (wFinish h t x.st wr).1 id = get x.st id) ∧
    (find x.st.next (wFinish h t x.st wr).1.arts).isSome ∧
    get (wFinish h t x.st wr).1 x.st.next = .ok wr.hashed := by
  obtain ⟨d, hr, hb, htot⟩ := hw.wr (w, wr) (find_some_mem hf)
  simp only at hr hb htot
  simp only [wFinish]
  generalize hlast : (if wr.buffer = [] then [] else [wr.buffer] : List (List Nat)) = last
  have hlfl : last.flatten = wr.buffer := by
    rw [← hlast]; by_cases hbf : wr.buffer = [] <;> simp [hbf]
  have hnew : readChunks (last.foldl (storeChunk h t) x.st.chunks) (wr.chunks ++ last.map h) = .ok wr.hashed := by
    rw [readChunks_append, hw.storeAll_keeps h t last (find_some_mem hf), hr,
      readChunks_storeAll h hi t last hw.base.addr]
    simp only [hlfl, hb]
  -- the writer's references become the artifact's
  have hrefs : ∀ k, occ k x.st.arts + (wr.chunks ++ last.map h).count k + holds k (erase w x.writers)
      ≤ refsOf k (last.foldl (storeChunk h t) x.st.chunks) := fun k => by
    have h1 := hw.refsW k
    have h2 := holds_erase_find (k := k) hf
    simp only [List.count_append, refsOf_storeAll]
    omega
  obtain ⟨h1, h2, h3, h4⟩ := finish_step h hw.base t last
    (a := ⟨wr.chunks ++ last.map h, wr.total, h wr.hashed⟩) (fun k => by have := hrefs k; simp only; omega)
    hnew rfl htot
  refine ⟨⟨h1, fun k => ?_, fun p hp => ?_⟩, h2, h3, h4⟩
  · have := hrefs k
    simp only [occ_append, occ_cons, occ_nil, Nat.add_zero]
    omega
  · have hm := mem_of_mem_erase hp
    obtain ⟨d', e1, e2, e3⟩ := hw.wr p hm
    exact ⟨d', (hw.storeAll_keeps h t last hm).trans e1, e2, e3⟩

theorem applyW_step (hi : HashInj h) (cfg : Cfg) {x : WState K} (hw : WFW h x) (op : WOp)
    (hq : op.isFullCollector = false ∨ x.writers = []) :
    WFW h (applyW h cfg x op) ∧
    ∀ id, (find id x.st.arts).isSome → op ≠ .base (.delete id) →
      (find id (applyW h cfg x op).st.arts).isSome ∧ get (applyW h cfg x op).st id = get x.st id := by
  cases op with
  | base op =>
    simp only [applyW]
    refine ⟨?_, fun id hid hne => (applyOp_step h hi cfg hw.base op).2 id hid (fun e => hne (by rw [e]))⟩
    rcases hq with hq | hq
    · exact base_step h hi cfg hw op hq
    · exact base_step_quiet h hi cfg hw op hq
  | wopen w => exact ⟨wopen_step h hw w, fun id hid _ => ⟨hid, rfl⟩⟩
  | wwrite w t piece =>
    simp only [applyW]
    cases hf : find w x.writers with
    | none => exact ⟨hw, fun id hid _ => ⟨hid, rfl⟩⟩
    | some wr =>
      obtain ⟨cds, buf, hfl, he⟩ := wWrite_eq h cfg.chunkSize t x.st wr piece
      obtain ⟨h1, h2⟩ := wwrite_core h hi hw hf t cds buf piece hfl
      simp only [he]
      exact ⟨h1, fun id hid _ => ⟨hid, h2 id⟩⟩
  | wfinish w t =>
    simp only [applyW]
    cases hf : find w x.writers with
    | none => exact ⟨hw, fun id hid _ => ⟨hid, rfl⟩⟩
    | some wr =>
      obtain ⟨h1, h2, _, _⟩ := wfinish_step h hi hw hf t
      exact ⟨h1, fun id hid _ => h2 id hid⟩
  | wdrop w => exact ⟨wdrop_step h hw w, fun id hid _ => ⟨hid, rfl⟩⟩

theorem runW_cons (cfg : Cfg) (x : WState K) (op : WOp) (ops : List WOp) :
    runW h cfg x (op :: ops) = runW h cfg (applyW h cfg x op) ops := rfl

theorem runW_append (cfg : Cfg) (x : WState K) (ops₁ ops₂ : List WOp) :
    runW h cfg x (ops₁ ++ ops₂) = runW h cfg (runW h cfg x ops₁) ops₂ := by
  simp [runW, List.foldl_append]

theorem collectorsQuiet_cons (cfg : Cfg) (x : WState K) (op : WOp) (ops : List WOp) :
    collectorsQuiet h cfg x (op :: ops) = true ↔
      (op.isFullCollector = false ∨ x.writers = []) ∧ collectorsQuiet h cfg (applyW h cfg x op) ops = true := by
  rw [collectorsQuiet]
  simp only [Bool.and_eq_true, Bool.or_eq_true, Bool.not_eq_true', List.isEmpty_iff]

theorem collectorsQuiet_append (cfg : Cfg) (x : WState K) (ops₁ ops₂ : List WOp) :
    collectorsQuiet h cfg x (ops₁ ++ ops₂) = true ↔
      collectorsQuiet h cfg x ops₁ = true ∧ collectorsQuiet h cfg (runW h cfg x ops₁) ops₂ = true := by
  induction ops₁ generalizing x with
  | nil => simp [collectorsQuiet, runW]
  | cons op ops ih =>
    rw [List.cons_append, collectorsQuiet_cons, collectorsQuiet_cons, ih, runW_cons, and_assoc]

theorem runW_step (hi : HashInj h) (cfg : Cfg) (ops : List WOp) {x : WState K} (hw : WFW h x)
    (hq : collectorsQuiet h cfg x ops = true) :
    WFW h (runW h cfg x ops) ∧
    ∀ id, (find id x.st.arts).isSome → (∀ op ∈ ops, op ≠ .base (.delete id)) →
      get (runW h cfg x ops).st id = get x.st id := by
  induction ops generalizing x with
  | nil => exact ⟨hw, fun _ _ _ => rfl⟩
  | cons op ops ih =>
    obtain ⟨hq1, hq2⟩ := (collectorsQuiet_cons h cfg x op ops).mp hq
    obtain ⟨h1, h2⟩ := applyW_step h hi cfg hw op hq1
    obtain ⟨h3, h4⟩ := ih h1 hq2
    refine ⟨h3, fun id hid hnd => ?_⟩
    obtain ⟨h5, h6⟩ := h2 id hid (hnd op (by simp))
    rw [runW_cons, h4 id h5 (fun o ho => hnd o (by simp [ho])), h6]

theorem WFW_reach (hi : HashInj h) (cfg : Cfg) (ops : List WOp)
    (hq : collectorsQuiet h cfg (WState.init : WState K) ops = true) : WFW h (runW h cfg WState.init ops) :=
  (runW_step h hi cfg ops (WFW_init h) hq).1

theorem wWrite_hashed (c t : Nat) (s : State K) (w : Writer K) (piece : List Nat) :
    (wWrite h c t s w piece).2.hashed = w.hashed ++ piece := by
  by_cases hp : piece = []
  · simp [wWrite, hp]
  · simp [wWrite, hp]

/-- the running hash input of an open writer is exactly the bytes handed to it since it was opened -/
theorem hashed_runW (cfg : Cfg) (w : Nat) (ops : List WOp) (x : WState K) (acc : List Nat)
    (hx : ∀ wr, find w x.writers = some wr → wr.hashed = acc) :
    ∀ wr', find w (runW h cfg x ops).writers = some wr' → wr'.hashed = writtenGo w acc ops := by
  induction ops generalizing x acc with
  | nil => exact hx
  | cons op ops ih =>
    rw [runW_cons]
    cases op with
    | base op => exact ih _ _ hx
    | wopen w' =>
      apply ih
      intro wr hwr
      simp only [applyW, find_cons] at hwr
      by_cases e : w' = w
      · simp only [e, if_true, Option.some.injEq] at hwr
        simp [e, ← hwr, Writer.new]
      · have e' : ¬ w = w' := fun q => e q.symm
        simp only [e, if_false, find_erase, e'] at hwr
        simp only [e, if_false]; exact hx wr hwr
    | wwrite w' t piece =>
      apply ih
      intro wr hwr
      simp only [applyW] at hwr
      cases hf : find w' x.writers with
      | none =>
        simp only [hf] at hwr
        by_cases e : w' = w
        · rw [e] at hf; rw [hf] at hwr; cases hwr
        · simp only [e, if_false]; exact hx wr hwr
      | some wr0 =>
        simp only [hf, find_cons] at hwr
        by_cases e : w' = w
        · simp only [e, if_true, Option.some.injEq] at hwr
          rw [e] at hf
          simp only [e, if_true, ← hwr, wWrite_hashed, hx wr0 hf]
        · have e' : ¬ w = w' := fun q => e q.symm
          simp only [e, if_false, find_erase, e'] at hwr
          simp only [e, if_false]; exact hx wr hwr
    | wfinish w' t =>
      apply ih
      intro wr hwr
      simp only [applyW] at hwr
      cases hf : find w' x.writers with
      | none =>
        simp only [hf] at hwr
        by_cases e : w' = w
        · rw [e] at hf; rw [hf] at hwr; cases hwr
        · simp only [e, if_false]; exact hx wr hwr
      | some wr0 =>
        simp only [hf, find_erase] at hwr
        by_cases e : w' = w
        · simp [e] at hwr
        · have e' : ¬ w = w' := fun q => e q.symm
          simp only [e', if_false] at hwr
          simp only [e, if_false]; exact hx wr hwr
    | wdrop w' =>
      apply ih
      intro wr hwr
      simp only [applyW, find_erase] at hwr
      by_cases e : w' = w
      · simp [e] at hwr
      · have e' : ¬ w = w' := fun q => e q.symm
        simp only [e', if_false] at hwr
        simp only [e, if_false]; exact hx wr hwr

theorem hashed_reach (cfg : Cfg) (w : Nat) (ops : List WOp) (wr : Writer K)
    (hf : find w (runW h cfg (WState.init : WState K) ops).writers = some wr) : wr.hashed = writtenTo w ops :=
  hashed_runW h cfg w ops WState.init [] (by intro wr hwr; simp [WState.init] at hwr) wr hf

end
end Neumann.Blob
