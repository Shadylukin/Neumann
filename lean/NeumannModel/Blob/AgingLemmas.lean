import NeumannModel.Blob.WritersLemmas
import NeumannModel.Blob.Aging
/- C19 — a long-lived store under the wall clock (`Aging.lean`): a clocked history is a `WOp` history, and any
   collection cycle that meets `CycleSpec` keeps the invariant of histories with open writers. -/
namespace Neumann.Blob

section
variable {K : Type} [DecidableEq K] (h : List Nat → K)

/-- only `tick` lets time pass, and `tick` is no store operation -/
theorem COp.secs_of_stamp {minAge now : Nat} {op : COp} {w : WOp} (hs : op.stamp minAge now = some w) :
    op.secs = 0 := by
  cases op with
  | tick n => cases hs
  | _ => rfl

theorem runC_cons (cfg : Cfg) (minAge : Nat) (c : CState K) (op : COp) (ops : List COp) :
    runC h cfg minAge c (op :: ops) = runC h cfg minAge (applyC h cfg minAge c op) ops := rfl

theorem runC_append (cfg : Cfg) (minAge : Nat) (c : CState K) (ops₁ ops₂ : List COp) :
    runC h cfg minAge c (ops₁ ++ ops₂) = runC h cfg minAge (runC h cfg minAge c ops₁) ops₂ := by
  simp [runC, List.foldl_append]

/-- the store after a clocked history is the store after the `WOp` history with the clock filled in, and the
    clock has advanced by the seconds of its ticks -/
theorem runC_eq_runW (cfg : Cfg) (minAge : Nat) (ops : List COp) (c : CState K) :
    (runC h cfg minAge c ops).x = runW h cfg c.x (stampAll minAge c.now ops) ∧
    (runC h cfg minAge c ops).now = clockAfter c.now ops := by
  induction ops generalizing c with
  | nil => exact ⟨rfl, rfl⟩
  | cons op ops ih =>
    rw [runC_cons]
    unfold applyC
    cases hs : op.stamp minAge c.now with
    | some w =>
      have hsec := COp.secs_of_stamp hs
      obtain ⟨h1, h2⟩ := ih { c with x := applyW h cfg c.x w }
      refine ⟨?_, ?_⟩
      · rw [h1]; simp only [stampAll, hs]; rfl
      · rw [h2]; simp [clockAfter, List.foldl_cons, hsec]
    | none =>
      obtain ⟨h1, h2⟩ := ih { c with now := c.now + op.secs }
      refine ⟨?_, ?_⟩
      · rw [h1]; simp only [stampAll, hs]
      · rw [h2]; simp [clockAfter, List.foldl_cons]

theorem runC_init (cfg : Cfg) (minAge now₀ : Nat) (ops : List COp) :
    (runC h cfg minAge (CState.init now₀ : CState K) ops).x = runW h cfg WState.init (stampAll minAge now₀ ops) ∧
    (runC h cfg minAge (CState.init now₀ : CState K) ops).now = clockAfter now₀ ops :=
  runC_eq_runW h cfg minAge ops (CState.init now₀)

theorem WFW_reachC (hi : HashInj h) (cfg : Cfg) (minAge now₀ : Nat) (ops : List COp)
    (hq : collectorsQuiet h cfg WState.init (stampAll minAge now₀ ops) = true) :
    WFW h (runC h cfg minAge (CState.init now₀ : CState K) ops).x :=
  (runC_init h cfg minAge now₀ ops).1 ▸ WFW_reach h hi cfg _ hq

theorem stampAll_append (minAge now : Nat) (ops₁ ops₂ : List COp) :
    stampAll minAge now (ops₁ ++ ops₂) = stampAll minAge now ops₁ ++ stampAll minAge (clockAfter now ops₁) ops₂ := by
  induction ops₁ generalizing now with
  | nil => rfl
  | cons op ops ih =>
    simp only [List.cons_append, stampAll]
    cases hs : op.stamp minAge now with
    | some w =>
      have hsec := COp.secs_of_stamp hs
      simp only [List.cons_append, ih, clockAfter, List.foldl_cons, hsec, Nat.add_zero]
    | none => simp only [ih, clockAfter, List.foldl_cons]

/-- ANY cycle that meets `CycleSpec` (whatever state the collector keeps between cycles) preserves the invariant
    of histories with open writers, every artifact reads the same and every open writer's list reads the same -/
theorem cycleSpec_step {x : WState K} (hw : WFW h x) {s' : State K} (hs : CycleSpec x.st s') :
    WFW h ⟨s', x.writers⟩ ∧ (∀ id, get s' id = get x.st id) ∧
    (∀ k, 0 < refsOf k x.st.chunks → find k s'.chunks = find k x.st.chunks) := by
  obtain ⟨ha, hnx, keep, hc, hk⟩ := hs
  obtain ⟨c, a, n⟩ := s'
  simp only at ha hnx hc
  subst ha hnx hc
  have hfind : ∀ k, 0 < refsOf k x.st.chunks → find k (x.st.chunks.filter keep) = find k x.st.chunks :=
    fun k hp => find_filter_of_refs hw.base.nodup keep hk hp
  have hbase := filter_change h hw.base keep
    (fun q hq hf => hw.base.unlisted_of_refs_zero h hq (hk q hq hf))
  refine ⟨⟨hbase.1, fun k => ?_, fun p hp => ?_⟩, get_table_change hbase.2, hfind⟩
  · exact refsOf_filter_of_refs hw.base.nodup keep hk k ▸ hw.refsW k
  · obtain ⟨d, h1, h2, h3⟩ := hw.wr p hp
    refine ⟨d, Eq.trans ?_ h1, h2, h3⟩
    exact readChunks_congr fun k hk' => by
      unfold dataOf; rw [hfind k (hw.writer_refs_pos h hp hk')]

theorem CycleSpec.find_of_refs {s s' : State K} (hs : CycleSpec s s') (hn : (keys s.chunks).Nodup) {k : K}
    (hp : 0 < refsOf k s.chunks) : find k s'.chunks = find k s.chunks := by
  obtain ⟨_, _, keep, hc, hk⟩ := hs
  rw [hc]
  exact find_filter_of_refs hn keep hk hp

theorem stamp_delete {minAge now : Nat} {op : COp} {id : Nat}
    (hs : op.stamp minAge now = some (.base (.delete id))) : op = .delete id := by
  cases op with
  | delete id' => cases hs; rfl
  | _ => cases hs

theorem stampAll_no_delete {minAge now : Nat} {ops : List COp} {id : Nat} (hnd : ∀ op ∈ ops, op ≠ COp.delete id) :
    ∀ w ∈ stampAll minAge now ops, w ≠ WOp.base (.delete id) := by
  induction ops generalizing now with
  | nil => intro w hw; cases hw
  | cons op ops ih =>
    have ih' := fun now => @ih now (fun o ho => hnd o (List.mem_cons_of_mem _ ho))
    simp only [stampAll]
    cases hs : op.stamp minAge now with
    | none => exact ih' _
    | some w' =>
      intro w hw e
      rcases List.mem_cons.mp hw with rfl | hw
      · exact hnd op List.mem_cons_self (stamp_delete (e ▸ hs))
      · exact ih' _ w hw e

omit [DecidableEq K] in
theorem gcSel_self_chunks (mc : Nat) (sel : K → Bool) (s : State K) :
    gcSel mc sel { s with chunks := s.chunks } = gcSel mc sel s := rfl

end

end Neumann.Blob
