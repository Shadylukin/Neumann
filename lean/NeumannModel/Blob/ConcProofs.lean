import NeumannModel.Blob.Invariant
/- C19 — interleavings without a collector thread never lose a live chunk (helper lemmas). -/
namespace Neumann.Blob

section assoc
variable {α β : Type} [DecidableEq α]

theorem find_setRec (k k' : α) (v : β) (l : List (α × β)) :
    find k' (setRec k v l) = if k' = k then some v else find k' l := by
  unfold setRec
  cases hf : find k l with
  | some r =>
    simp only [find_modify]
    by_cases e : k' = k
    · subst e; simp [hf]
    · simp [e]
  | none =>
    simp only [find_append, find_cons]
    by_cases e : k' = k
    · subst e; simp [hf]
    · have : ¬ k = k' := fun x => e x.symm
      cases find k' l <;> simp [e, this]

theorem isSome_find_setRec (k k' : α) (v : β) (l : List (α × β)) :
    (find k' (setRec k v l)).isSome = ((find k' l).isSome || decide (k' = k)) := by
  rw [find_setRec]
  by_cases e : k' = k <;> simp [e]

theorem mem_setRec {k : α} {v : β} {l : List (α × β)} {p : α × β} (hp : p ∈ setRec k v l) :
    p ∈ l ∨ p = (k, v) := by
  unfold setRec at hp
  cases hf : find k l with
  | some r =>
    simp only [hf, modify, List.mem_map] at hp
    obtain ⟨q, hq, rfl⟩ := hp
    by_cases e : q.1 = k
    · right; simp [e]
    · left; simp [e, hq]
  | none =>
    simp only [hf, List.mem_append, List.mem_singleton] at hp
    exact hp

end assoc

section
variable {K : Type} [DecidableEq K] (h : List Nat → K)

def LiveP (s : State K) : Prop := ∀ p ∈ s.arts, ∀ k ∈ p.2.chunks, (find k s.chunks).isSome

theorem liveIntact_iff (s : State K) : liveIntact s = true ↔ LiveP s := by
  simp only [liveIntact, LiveP, List.all_eq_true]

/-- writer / deleter in any phase whose already pushed keys are present; collectors excluded -/
def ThOk (s : State K) : Th K → Prop
  | .done => True
  | .wExists _ _ _ _ acc => ∀ k ∈ acc, (find k s.chunks).isSome
  | .wPutNew _ _ _ _ _ acc => ∀ k ∈ acc, (find k s.chunks).isSome
  | .wIncGet _ _ _ d _ acc => (∀ k ∈ acc, (find k s.chunks).isSome) ∧ (find (h d) s.chunks).isSome
  | .wIncPut _ _ _ _ _ acc _ => ∀ k ∈ acc, (find k s.chunks).isSome
  | .dGetMeta _ => True
  | .dDecGet _ _ => True
  | .dDecPut _ _ _ _ => True
  | .tGetMeta _ => True
  | .tPutMeta _ a => ∀ k ∈ a.chunks, (find k s.chunks).isSome
  | _ => False

def Mono (s s' : State K) : Prop := ∀ k, (find k s.chunks).isSome → (find k s'.chunks).isSome

theorem ThOk_mono {s s' : State K} (hm : Mono s s') {th : Th K} (ht : ThOk h s th) : ThOk h s' th := by
  cases th with
  | wExists _ _ _ _ acc | wPutNew _ _ _ _ _ acc | wIncPut _ _ _ _ _ acc _ => exact fun k hk => hm k (ht k hk)
  | wIncGet _ _ _ d _ acc => exact ⟨fun k hk => hm k (ht.1 k hk), hm _ ht.2⟩
  | tPutMeta _ a => exact fun k hk => hm k (ht k hk)
  | _ => exact ht

theorem Mono.refl (s : State K) : Mono s s := fun _ x => x

theorem put_chunk_safe {s : State K} (hl : LiveP s) (k : K) (r : CRec) {acc : List K}
    (ha : ∀ k' ∈ acc, (find k' s.chunks).isSome) :
    LiveP { s with chunks := setRec k r s.chunks } ∧
    (∀ k' ∈ acc ++ [k], (find k' (setRec k r s.chunks)).isSome) ∧
    Mono s { s with chunks := setRec k r s.chunks } := by
  have hm : Mono s { s with chunks := setRec k r s.chunks } := fun k' hk' => by
    rw [isSome_find_setRec, hk']; rfl
  refine ⟨fun p hp k' hk' => hm k' (hl p hp k' hk'), fun k' hk' => ?_, hm⟩
  rcases List.mem_append.mp hk' with hk' | hk'
  · exact hm k' (ha k' hk')
  · rw [List.mem_singleton.mp hk', isSome_find_setRec, decide_eq_true rfl, Bool.or_true]

theorem put_meta_safe {s s' : State K} (hl : LiveP s) {id : Nat} {a : Art K}
    (ha : ∀ k ∈ a.chunks, (find k s.chunks).isSome) (hc : s'.chunks = s.chunks)
    (hs : s'.arts = setRec id a s.arts) : LiveP s' := by
  intro p hp k hk
  rw [hc]
  rcases mem_setRec (hs ▸ hp) with hp | hp
  · exact hl p hp k hk
  · subst hp; exact ha k hk

theorem stepTh_safe {s : State K} (hl : LiveP s) {th : Th K} (ht : ThOk h s th) :
    LiveP (stepTh h s th).1 ∧ ThOk h (stepTh h s th).1 (stepTh h s th).2 ∧ Mono s (stepTh h s th).1 := by
  cases th with
  | done => exact ⟨hl, trivial, Mono.refl s⟩
  | wExists id t all todo acc =>
    cases todo with
    | nil => exact ⟨put_meta_safe hl (a := ⟨acc, all.length, h all⟩) ht rfl rfl, trivial, Mono.refl s⟩
    | cons d todo =>
      simp only [stepTh]
      split
      · next hx => exact ⟨hl, ⟨ht, hx⟩, Mono.refl s⟩
      · exact ⟨hl, ht, Mono.refl s⟩
  | wPutNew id t all d todo acc => exact put_chunk_safe hl _ _ ht
  | wIncGet id t all d todo acc =>
    simp only [stepTh]
    cases hf : find (h d) s.chunks with
    | none =>
      -- dead branch without a collector: the record seen by `exists` is still there
      have := ht.2
      rw [hf] at this; cases this
    | some r => exact ⟨hl, ht.1, Mono.refl s⟩
  | wIncPut id t all d todo acc r => exact put_chunk_safe hl _ _ ht
  | dGetMeta id =>
    simp only [stepTh]
    split <;> exact ⟨hl, trivial, Mono.refl s⟩
  | dDecGet id todo =>
    cases todo with
    | nil => exact ⟨fun p hp k hk => hl p (mem_of_mem_erase hp) k hk, trivial, Mono.refl s⟩
    | cons k todo =>
      simp only [stepTh]
      split <;> exact ⟨hl, trivial, Mono.refl s⟩
  | dDecPut id k todo r => exact ⟨(put_chunk_safe hl k _ (acc := []) nofun).1, trivial, (put_chunk_safe hl k _ (acc := []) nofun).2.2⟩
  | tGetMeta id =>
    simp only [stepTh]
    cases hf : find id s.arts with
    | none => exact ⟨hl, trivial, Mono.refl s⟩
    | some a => exact ⟨hl, fun k hk => hl (id, a) (find_some_mem hf) k hk, Mono.refl s⟩
  | tPutMeta id a => exact ⟨put_meta_safe hl ht rfl rfl, trivial, Mono.refl s⟩
  | gScan _ _ | gGet _ _ | gDel _ _ _ | fScanMeta _ _ | fGetMeta _ _ _ | fScanChunks _ _ | fGet _ _ | fDel _ _ _ =>
    exact ht.elim

theorem runSched_safe (sched : List Nat) {s : State K} {ths : List (Th K)} (hl : LiveP s)
    (ht : ∀ th ∈ ths, ThOk h s th) :
    LiveP (runSched h s ths sched).1 ∧
    ∀ th ∈ (runSched h s ths sched).2, ThOk h (runSched h s ths sched).1 th := by
  induction sched generalizing s ths with
  | nil => exact ⟨hl, ht⟩
  | cons i sc ih =>
    rw [runSched]
    apply ih
    · unfold stepAt
      cases hg : ths[i]? with
      | none => exact hl
      | some th => exact (stepTh_safe h hl (ht th (List.mem_of_getElem? hg))).1
    · unfold stepAt
      cases hg : ths[i]? with
      | none => exact ht
      | some th =>
        obtain ⟨_, h2, h3⟩ := stepTh_safe h hl (ht th (List.mem_of_getElem? hg))
        intro th' hth'
        rcases List.mem_or_eq_of_mem_set hth' with e | e
        · exact ThOk_mono h h3 (ht th' e)
        · rw [e]; exact h2

end
end Neumann.Blob
