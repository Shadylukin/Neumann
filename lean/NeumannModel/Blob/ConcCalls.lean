import NeumannModel.Blob.ConcProofs
/- C19 — the call-level scheduler (`runCalls`, what the yield-point trace of the real threads is compared
   with) is a refinement of the step-level one (`runSched`, what the theorems quantify over). -/
namespace Neumann.Blob
section
variable {K : Type} [DecidableEq K] (h : List Nat → K)

theorem runSched_append (s : State K) (ths : List (Th K)) (a b : List Nat) :
    runSched h s ths (a ++ b) = runSched h (runSched h s ths a).1 (runSched h s ths a).2 b := by
  induction a generalizing s ths with
  | nil => rfl
  | cons i a ih => simp only [List.cons_append, runSched]; exact ih _ _

def iterTh : Nat → State K × Th K → State K × Th K
  | 0, p => p
  | n + 1, p => iterTh n (stepTh h p.1 p.2)

theorem runSched_replicate (n : Nat) (s : State K) (ths : List (Th K)) (i : Nat) (hi : i < ths.length) (th : Th K) :
    runSched h s (ths.set i th) (List.replicate n i) =
      ((iterTh h n (s, th)).1, ths.set i (iterTh h n (s, th)).2) := by
  induction n generalizing s th with
  | zero => rfl
  | succ n ih =>
    simp only [List.replicate_succ, runSched, iterTh]
    have hget : (ths.set i th)[i]? = some th := by
      rw [List.getElem?_set_self (by simpa using hi)]
    have hstep : stepAt h s (ths.set i th) i = ((stepTh h s th).1, ths.set i (stepTh h s th).2) := by
      unfold stepAt; rw [hget]; simp only [List.set_set]
    rw [hstep]
    exact ih _ _

theorem settle_fGet_reach (s : State K) (refd todo : List K) :
    ∃ n, iterTh h n (s, Th.fGet refd todo) = (s, settle (Th.fGet refd todo)) := by
  induction todo with
  | nil => exact ⟨1, rfl⟩
  | cons k todo ih =>
    by_cases hc : refd.contains k = true
    · obtain ⟨n, hn⟩ := ih
      refine ⟨n + 1, ?_⟩
      have h1 : stepTh h s (Th.fGet refd (k :: todo)) = (s, Th.fGet refd todo) := by
        simp only [stepTh, hc, if_true]
      have h2 : settle (Th.fGet refd (k :: todo)) = settle (Th.fGet refd todo) := by
        simp only [settle, List.dropWhile_cons, hc, if_true]
      rw [iterTh, h1, h2]; exact hn
    · refine ⟨0, ?_⟩
      simp only [iterTh, settle, List.dropWhile_cons, hc]
      rfl

/-- the silent transitions `settle` runs are steps of the thread that leave the store alone -/
theorem settle_reach (s : State K) (th : Th K) : ∃ n, iterTh h n (s, th) = (s, settle th) := by
  cases th with
  | gGet mc todo =>
    cases todo with
    | nil => exact ⟨1, rfl⟩
    | cons k todo => exact ⟨0, rfl⟩
  | fGetMeta ids refd ordK =>
    cases ids with
    | nil => exact ⟨1, rfl⟩
    | cons id ids => exact ⟨0, rfl⟩
  | fGet refd todo => exact settle_fGet_reach h s refd todo
  | _ => exact ⟨0, rfl⟩

/-- every call-level run is a step-level run (of a longer schedule): whatever holds for all `runSched`
    schedules holds for the runs compared with the real threads -/
theorem runCalls_refines_aux (sched : List Nat) (s : State K) (ths : List (Th K)) :
    ∃ sched', runSched h s ths sched' = runCalls h s ths sched := by
  induction sched generalizing s ths with
  | nil => exact ⟨[], rfl⟩
  | cons i sc ih =>
    rw [runCalls]
    cases hg : ths[i]? with
    | none =>
      have : callAt h s ths i = (s, ths) := by unfold callAt; rw [hg]
      rw [this]; exact ih s ths
    | some th =>
      have hi : i < ths.length := (List.getElem?_eq_some_iff.mp hg).1
      have hc : callAt h s ths i = ((stepTh h s th).1, ths.set i (settle (stepTh h s th).2)) := by
        unfold callAt; rw [hg]
      have hs : stepAt h s ths i = ((stepTh h s th).1, ths.set i (stepTh h s th).2) := by
        unfold stepAt; rw [hg]
      obtain ⟨n, hn⟩ := settle_reach h (stepTh h s th).1 (stepTh h s th).2
      obtain ⟨sc', hsc'⟩ := ih (stepTh h s th).1 (ths.set i (settle (stepTh h s th).2))
      refine ⟨i :: (List.replicate n i ++ sc'), ?_⟩
      rw [runSched, hs, runSched_append, runSched_replicate h n _ ths i hi, hn, hc]
      exact hsc'

end
end Neumann.Blob
