import NeumannModel.KV.BloomLemmas
import NeumannModel.KV.Props
/-
  C11 — the shared store built WITH a Bloom filter behaves as the store without one.

  `get` / `exists` of a `TensorStore` with a filter answer "absent" from the filter alone, while
  `scan` (and `scan_count`, `scan_filter_map`, `len`) read the slabs.  That is sound exactly as long
  as THE FILTER KNOWS A KEY NO LATER THAN THE KEY BECOMES VISIBLE IN THE SLABS: `put` /
  `put_durable` call `filter.add` before the router call.  Model: `Bloom.lean` - (A) `runSchedB`
  at the granularity of the yield hooks (what the driver runs and `corr_kv` compares with the real
  store), (B) `frun` at the granularity of single filter / router calls.  Every statement holds for
  every false-positive behaviour `fp` of the filter.
-/
namespace Neumann.KV.BloomProps
open Neumann.KV Neumann.KV.Props

/-! ### (A) hook granularity: the invariant, and transparency -/

/-- FULL STRENGTH, every number of threads, every program (all seven operations, keys of every
    class, any byte strings), with or without the log, every interleaving, every false-positive
    behaviour of the filter, stopped after ANY number of atomic steps: every key that is visible
    in the slabs (metadata slab, cache ring, live in the entity index) has been added to the
    filter; so whatever `exists` of the router reports present and whatever a scan lists passes
    `might_contain`. -/
theorem filter_knows_every_visible_key (fp : Key → Bool) (walOn : Bool) (progs : List ThreadProgram)
    (sched : List Nat) :
    let b := runSchedB fp walOn progs sched
    (∀ k, visible b.sys.store k = true → k ∈ b.added) ∧
    (∀ k, existsNow b.sys.store k = true → mightContain fp b.added k = true) ∧
    (∀ p k, k ∈ scanNow b.sys.store p → mightContain fp b.added k = true) := by
  intro b
  have inv : BInv b := (BInv.init walOn progs).run fp sched
  refine ⟨inv.cov, fun k h => ?_, fun p k h => ?_⟩
  · simp [mightContain, inv.cov k (existsNow_visible h)]
  · simp [mightContain, inv.cov k (scanNow_visible h)]

/-- the same for a store LOADED with a filter (`load_snapshot_with_bloom_filter`,
    `recover_with_bloom`): ANY slabs `s`, the filter rebuilt from `router.scan("")` -/
theorem filter_knows_every_visible_key_of_a_loaded_store (fp : Key → Bool) (s : Store)
    (progs : List ThreadProgram) (sched : List Nat) :
    let b := runFromG (stepOpB fp) (loadB s progs) sched
    ∀ k, visible b.sys.store k = true → k ∈ b.added :=
  ((BInv.load s progs).run fp sched).cov

/-- non-vacuity: after the index step of `put emb:1` the key is visible (a scan lists it) and in
    the filter; a deleted key stays in the filter -/
example :
    visible (runSchedB (fun _ => false) false [[.put kE1 ⟨1, .good 1⟩], [.scan pfxEmb]] [0, 1]).sys.store kE1 = true ∧
    (runSchedB (fun _ => false) false [[.put kE1 ⟨1, .good 1⟩], [.scan pfxEmb]] [0, 1]).added = [kE1] ∧
    (runSchedB (fun _ => false) false [[.put kE1 ⟨1, .good 1⟩], [.scan pfxEmb]] [0, 1]).sys.hist.map (·.res) = [.keys [kE1]] ∧
    visible (runSchedB (fun _ => false) false [[.put kP1 ⟨1, .none⟩, .delete kP1]] [0, 0]).sys.store kP1 = false ∧
    (runSchedB (fun _ => false) false [[.put kP1 ⟨1, .none⟩, .delete kP1]] [0, 0]).added = [kP1] := by decide +kernel

/-- FULL STRENGTH: the store with a Bloom filter IS the store without one.  For every
    false-positive behaviour of the filter, with or without the log, every number of threads,
    every program, every interleaving: the run on the filtered store has the same slabs, the same
    log, the same threads, THE SAME HISTORY (every result, every invocation and return step) and
    the same yield trace as the run of `Model.runSched` - the negative fast path of `get` /
    `exists` never gives an answer the slabs would not have given in that very step. -/
theorem bloom_store_transparent (fp : Key → Bool) (walOn : Bool) (progs : List ThreadProgram)
    (sched : List Nat) : (runSchedB fp walOn progs sched).sys = runSched walOn progs sched :=
  run_sys (BInv.init walOn progs) fp sched

/-- the same for a store loaded with a filter: any slabs, the filter rebuilt from `scan("")` -/
theorem loaded_bloom_store_transparent (fp : Key → Bool) (s : Store) (progs : List ThreadProgram)
    (sched : List Nat) :
    (runFromG (stepOpB fp) (loadB s progs) sched).sys
      = runFrom { store := s, threads := progs.map (fun p => { ops := p }) } sched :=
  run_sys (BInv.load s progs) fp sched

/-- non-vacuity: four threads on a filtered store whose filter has false positives on the cache
    keys; the reads see the other threads' writes, the get of the never-written `table:7` and the
    exists of `user:2` are answered by the filter alone -/
example :
    (runSchedB (fun k => k.cls = .cache) false
        [[.put kP1 ⟨1, .none⟩, .get (mkKey .cache 1)], [.get kP1, .delete kP1, .get (mkKey .table 7)],
         [.put (mkKey .cache 1) ⟨2, .good 2⟩, .scan []], [.exists_ kP1, .exists_ (mkKey .plain 2)]]
        [0, 1, 2, 3, 2, 0, 3, 1, 1]).sys.hist.map (·.res)
      = [.ok, .found ⟨1, .none⟩, .ok, .bool true, .keys [kP1, (mkKey .cache 1)],
         .found ⟨2, .good 2⟩, .bool false, .ok, .notFound] := by decide +kernel

/-! #### every theorem of `Props` therefore speaks of the filtered store as well -/

/-- `Props.durable_ops_linearizable` on a store with a Bloom filter: every operation (durable
    forms included) on keys of every class but `emb:`, with or without the log, every interleaving:
    the history in the order of the last steps is a legal sequential execution that respects real
    time, and the live slabs are the specification applied to the completed operations. -/
theorem bloom_store_linearizable (fp : Key → Bool) (walOn : Bool) (progs : List ThreadProgram)
    (sched : List Nat) (h : ∀ p ∈ progs, ∀ op ∈ p, op.noEmb = true ∧ op.scanStr = true) :
    let r := (runSchedB fp walOn progs sched).sys
    SeqStrict [] r.hist ∧ RespectsRealTime r.hist ∧
    Abs r.store (specRun [] (r.hist.map (·.op))) ∧ Linearizable r.hist := by
  intro r
  have e : r = runSched walOn progs sched := bloom_store_transparent fp walOn progs sched
  obtain ⟨h1, _, _, _, h5, h6, h7⟩ := durable_ops_linearizable walOn progs sched h
  rw [e]
  exact ⟨h1, h5, h6, h7⟩

/-- non-vacuity: the durable example of `Props` on the filtered store -/
example :
    (∀ p ∈ ([[.putD kP1 ⟨1, .none⟩], [.get kP1, .get kP1, .putD kP1 ⟨3, .none⟩], [.put kP1 ⟨2, .none⟩, .scan pfxUser]]
        : List ThreadProgram), ∀ op ∈ p, op.noEmb = true ∧ op.scanStr = true) ∧
    (runSchedB (fun _ => false) true [[.putD kP1 ⟨1, .none⟩], [.get kP1, .get kP1, .putD kP1 ⟨3, .none⟩], [.put kP1 ⟨2, .none⟩, .scan pfxUser]]
        [0, 1, 2, 2, 1, 1, 0, 1, 1]).sys.hist.map (fun r => (r.t, r.i, r.res, r.inv, r.ret))
      = [(1, 0, .notFound, 1, 1), (2, 0, .ok, 2, 2), (2, 1, .keys [kP1], 3, 3), (1, 1, .found ⟨2, .none⟩, 4, 4),
         (0, 0, .ok, 0, 5), (1, 2, .ok, 6, 7)] := by decide +kernel

/-- `Props.emb_linearizable_partial` on a store with a Bloom filter (PARTIAL exactly as that
    theorem is: operations on one `emb:` key must not overlap, no durable forms, the run finished) -/
theorem bloom_store_emb_linearizable_partial (fp : Key → Bool) (progs : List ThreadProgram) (sched : List Nat)
    (h : ∀ p ∈ progs, ∀ op ∈ p, op.nonDurableStr = true)
    (hx : NoEmbOverlap false progs sched = true)
    (hq : quiescent (runSched false progs sched) = true) :
    Linearizable (runSchedB fp false progs sched).sys.hist := by
  rw [bloom_store_transparent]
  exact (emb_linearizable_partial progs sched h hx hq).1

/-- non-vacuity: the hypotheses of `emb_linearizable_partial` hold of a run that interleaves the
    three steps of `put emb:1` with a scan and an `exists` -/
example :
    (∀ p ∈ ([[.put kE1 ⟨1, .good 1⟩], [.scan pfxEmb, .exists_ kE1]] : List ThreadProgram), ∀ op ∈ p, op.nonDurableStr = true) ∧
    NoEmbOverlap false [[.put kE1 ⟨1, .good 1⟩], [.scan pfxEmb, .exists_ kE1]] [0, 1, 0, 0, 1] = true ∧
    quiescent (runSched false [[.put kE1 ⟨1, .good 1⟩], [.scan pfxEmb, .exists_ kE1]] [0, 1, 0, 0, 1]) = true := by decide +kernel

/-- `Props.recovered_eq_live` on a store with a Bloom filter: durable writers of any keys and
    readers, every interleaving, all calls returned - the store recovered from the log alone
    answers `get` / `exists` / `scan` about every key as the live store does. -/
theorem bloom_store_recovered_eq_live (fp : Key → Bool) (progs : List ThreadProgram) (sched : List Nat)
    (h : ∀ p ∈ progs, ∀ op ∈ p, op.durableOrRead = true)
    (hq : quiescent (runSched true progs sched) = true) (k : Key) :
    view (recover (runSchedB fp true progs sched).sys.store.wal) k
      = view (runSchedB fp true progs sched).sys.store k := by
  rw [bloom_store_transparent]
  exact durable_order_eq_memory_order progs sched h hq k

/-- non-vacuity -/
example :
    (∀ p ∈ durableOrderProgs, ∀ op ∈ p, op.durableOrRead = true) ∧
    quiescent (runSched true durableOrderProgs [0, 1, 1, 0, 1, 1]) = true := by decide +kernel

/-! ### what linearizability says about the reader of `lateAddProgs` -/

/-- in ANY linearizable history: a key that a scan has listed is found by every `exists` and
    every `get` invoked after that scan returned, as long as the history holds no delete of the key
    (keys of the cache class excepted: the ring may evict).  This is the reader's side of "a read
    never returns a state older than one it is known to follow". -/
theorem linearizable_listed_key_is_found (recs : List OpRec) (hl : Linearizable recs)
    (k : Key) (hc : k.cls ≠ .cache) (hnd : ∀ r ∈ recs, r.op ≠ .delete k ∧ r.op ≠ .delD k)
    (a : OpRec) (ha : a ∈ recs) (p : List Nat) (ks : List Key) (hop : a.op = .scan p)
    (hres : a.res = .keys ks) (hk : k ∈ ks)
    (b : OpRec) (hb : b ∈ recs) (hab : a.ret < b.inv) :
    (b.op = .exists_ k → b.res ≠ .bool false) ∧ (b.op = .get k → b.res ≠ .notFound) := by
  by_cases hne : a = b
  · subst hne
    refine ⟨fun h => ?_, fun h => ?_⟩ <;> (rw [hop] at h; cases h)
  obtain ⟨order, hperm, hvalid, hrt⟩ := hl
  have ha' : a ∈ order := hperm.mem_iff.mpr ha
  have hb' : b ∈ order := hperm.mem_iff.mpr hb
  have hnd' : ∀ r ∈ order, r.op ≠ .delete k ∧ r.op ≠ .delD k := fun r hr => hnd r (hperm.mem_iff.mp hr)
  clear hperm ha hb hnd
  generalize ([] : Spec) = σ at hvalid
  induction order generalizing σ with
  | nil => simp at ha'
  | cons x xs ih =>
    obtain ⟨hx, hxs⟩ := hvalid
    have hrt' := List.pairwise_cons.mp hrt
    rcases List.mem_cons.mp ha' with rfl | ha''
    · -- the scan comes first: it saw the key, so the specification holds it from here on
      have hb'' : b ∈ xs := by
        rcases List.mem_cons.mp hb' with e | e
        · exact absurd e.symm hne
        · exact e
      have hs : (aget σ k).isSome = true := by
        rw [hop, hres] at hx
        rcases hx with hx | hx
        · simp only [resEquiv, specRes, specStep] at hx
          have := (List.mem_filter.mp (hx.1 hk)).1
          exact (mem_keys_iff σ k).mp this
        · simp [absentOk] at hx
      have hσ : specApply σ a.op = σ := by rw [hop]; rfl
      rw [hσ] at hxs
      exact seen_stays hc xs σ hxs hs (fun r hr => hnd' r (List.mem_cons_of_mem _ hr)) b hb''
    · rcases List.mem_cons.mp hb' with rfl | hb''
      · exact absurd hab (hrt'.1 a ha'')
      · exact ih hrt'.2 ha'' hb'' (fun r hr => hnd' r (List.mem_cons_of_mem _ hr)) _ hxs

/-- non-vacuity: the reader of `lateAddProgs` on the code as it is - scan lists `emb:1`, then
    exists says true and get finds the value; the history is the filter-free store's -/
example :
    (runSchedB (fun _ => false) false lateAddProgs lateAddSched).sys.hist.map (fun r => (r.t, r.i, r.res, r.inv, r.ret))
      = [(1, 0, .keys [kE1], 1, 1), (1, 1, .bool true, 2, 2), (0, 0, .ok, 0, 5), (1, 2, .found ⟨1, .good 1⟩, 3, 7)] := by
  decide +kernel

/-! ### NOT the code: `filter.add` after the router call -/

/-- THE STATEMENTS, over a step function of the filtered store -/
def FilterTransparent (f : (Key → Bool) → StepFn) : Prop :=
  ∀ (fp : Key → Bool) (walOn : Bool) (progs : List ThreadProgram) (sched : List Nat),
    (runFromG (f fp) (initB walOn progs) sched).sys = runSched walOn progs sched

def FilterCoversVisible (f : (Key → Bool) → StepFn) : Prop :=
  ∀ (fp : Key → Bool) (walOn : Bool) (progs : List ThreadProgram) (sched : List Nat) (k : Key),
    visible (runFromG (f fp) (initB walOn progs) sched).sys.store k = true →
      k ∈ (runFromG (f fp) (initB walOn progs) sched).added

/-- the code has both -/
theorem code_filter_transparent_and_covering : FilterTransparent stepOpB ∧ FilterCoversVisible stepOpB :=
  ⟨bloom_store_transparent, fun fp walOn progs sched => (filter_knows_every_visible_key fp walOn progs sched).1⟩

/-- `put` / `put_durable` that register the key with the filter once the router call has returned
    (`stepOpBLate`) lose both, at the granularity of the yield hooks on an `emb:` key: a writer
    creates `emb:1` and has taken its entity-index step; a reader's scan lists `emb:1`; the
    reader's `exists emb:1` is answered `false` and its `get emb:1` `NotFound` by the filter, which
    has not heard of the key yet; the writer finishes.  After the first step the key is visible and
    not in the filter; the history differs from the filter-free store's; and it is NOT
    LINEARIZABLE (a key seen by a scan, never deleted, then reported absent) - whereas the run of
    the code is (`bloom_store_transparent`).  The quiescent state is the same as the code's. -/
theorem late_add_witness :
    (runSchedBLate (fun _ => false) false lateAddProgs lateAddSched).sys.hist
      = [⟨1, 0, .scan pfxEmb, .keys [kE1], 1, 1⟩, ⟨1, 1, .exists_ kE1, .bool false, 2, 2⟩,
         ⟨1, 2, .get kE1, .notFound, 3, 3⟩, ⟨0, 0, .put kE1 ⟨1, .good 1⟩, .ok, 0, 5⟩] ∧
    visible (runSchedBLate (fun _ => false) false lateAddProgs [0]).sys.store kE1 = true ∧
    (runSchedBLate (fun _ => false) false lateAddProgs [0]).added = [] ∧
    ¬ Linearizable (runSchedBLate (fun _ => false) false lateAddProgs lateAddSched).sys.hist ∧
    ¬ FilterTransparent stepOpBLate ∧ ¬ FilterCoversVisible stepOpBLate ∧
    view (runSchedBLate (fun _ => false) false lateAddProgs lateAddSched).sys.store kE1
      = view (runSched false lateAddProgs lateAddSched).store kE1 ∧
    (runSchedBLate (fun _ => false) false lateAddProgs lateAddSched).added = [kE1] := by
  have hh : (runSchedBLate (fun _ => false) false lateAddProgs lateAddSched).sys.hist
      = [⟨1, 0, .scan pfxEmb, .keys [kE1], 1, 1⟩, ⟨1, 1, .exists_ kE1, .bool false, 2, 2⟩,
         ⟨1, 2, .get kE1, .notFound, 3, 3⟩, ⟨0, 0, .put kE1 ⟨1, .good 1⟩, .ok, 0, 5⟩] := by decide +kernel
  refine ⟨hh, by decide +kernel, by decide +kernel, ?_, ?_, ?_, by decide +kernel, by decide +kernel⟩
  · intro hl
    rw [hh] at hl
    have := (linearizable_listed_key_is_found _ hl kE1 (by decide +kernel) (by decide +kernel)
      ⟨1, 0, .scan pfxEmb, .keys [kE1], 1, 1⟩ (by simp) pfxEmb [kE1] rfl rfl (by simp)
      ⟨1, 1, .exists_ kE1, .bool false, 2, 2⟩ (by simp) (by decide +kernel)).1 rfl
    exact this rfl
  · intro h
    have := congrArg (fun s => s.hist.map (·.res)) (h (fun _ => false) false lateAddProgs lateAddSched)
    revert this
    decide
  · intro h
    have := h (fun _ => false) false lateAddProgs [0] kE1 (by decide +kernel)
    revert this
    decide

/-- the variant differs from the code ONLY in that window: run sequentially (one thread: put,
    exists, get, scan, delete, exists, put again) it gives the same history and the same filter -/
example :
    (runSchedBLate (fun _ => false) false
        [[.put kE1 ⟨1, .good 1⟩, .exists_ kE1, .get kE1, .scan pfxEmb, .delete kE1, .exists_ kE1, .put kP1 ⟨2, .none⟩, .get kP1]]
        [0, 0, 0, 0, 0, 0, 0, 0, 0, 0, 0, 0, 0, 0, 0]).sys.hist
      = (runSchedB (fun _ => false) false
        [[.put kE1 ⟨1, .good 1⟩, .exists_ kE1, .get kE1, .scan pfxEmb, .delete kE1, .exists_ kE1, .put kP1 ⟨2, .none⟩, .get kP1]]
        [0, 0, 0, 0, 0, 0, 0, 0, 0, 0, 0, 0, 0, 0, 0]).sys.hist ∧
    (runSchedBLate (fun _ => false) false
        [[.put kE1 ⟨1, .good 1⟩, .exists_ kE1, .get kE1, .scan pfxEmb, .delete kE1, .exists_ kE1, .put kP1 ⟨2, .none⟩, .get kP1]]
        [0, 0, 0, 0, 0, 0, 0, 0, 0, 0, 0, 0, 0, 0, 0]).sys.hist.map (·.res)
      = [.ok, .bool true, .found ⟨1, .good 1⟩, .keys [kE1, kE1], .ok, .bool false, .ok, .found ⟨2, .none⟩] := by
  decide +kernel

/-! ### (B) between any two single calls -/

/-- FULL STRENGTH at the granularity of single filter / router calls (other threads run between
    `filter.add` and `router.put`, between `might_contain` and `router.get`, between the steps of
    the router and between the return of the router call and the return of the method): for ANY
    initial slabs (a store created empty, or loaded with the filter rebuilt from `scan("")`), every
    number of threads, every program, with or without the log, every interleaving, every
    false-positive behaviour, stopped anywhere - every visible key is in the filter. -/
theorem filter_knows_every_visible_key_between_any_two_calls (bloomOn : Bool) (fp : Key → Bool)
    (s : Store) (progs : List ThreadProgram) (sched : List Nat) :
    let sys := frun bloomOn false fp s progs sched
    (∀ k, visible sys.store k = true → k ∈ sys.added) ∧
    (∀ p k, k ∈ scanNow sys.store p → mightContain fp sys.added k = true) := by
  intro sys
  have inv : FInv sys := (FInv.init s progs).run bloomOn fp sched
  exact ⟨inv.cov, fun p k h => by simp [mightContain, inv.cov k (scanNow_visible h)]⟩

/-- hence, in every state reachable at that granularity: whenever a thread is about to take the
    negative fast path of `get` / `exists` (it is at the prologue and the filter says "no"), the
    router call it skips would, made at that very moment, have answered the same and changed
    nothing.  The fast path never changes an answer. -/
theorem fast_path_answers_what_the_router_would (fp : Key → Bool) (s : Store)
    (progs : List ThreadProgram) (sched : List Nat) (k : Key)
    (hm : mightContain fp (frun true false fp s progs sched).added k = false) :
    let sys := frun true false fp s progs sched
    stepOp sys.store (.get k) .start = (sys.store, .done .notFound) ∧
    stepOp sys.store (.exists_ k) .start = (sys.store, .done (.bool false)) := by
  intro sys
  have inv : FInv sys := (FInv.init s progs).run true fp sched
  have hv : visible sys.store k = false := by
    cases hv : visible sys.store k with
    | false => rfl
    | true =>
      have := inv.cov k hv
      simp only [mightContain, Bool.or_eq_false_iff, decide_eq_false_iff_not] at hm
      exact absurd this hm.2
  exact ⟨routerGet_invisible hv, by simp only [stepOp]; rw [existsNow_invisible hv]⟩

/-- non-vacuity: the plain-key reader of `lateAddFineProgs` with the writer parked between the
    return of `router.put` and the return of `put` (and a reader of a key nobody wrote, answered by
    the filter) -/
example :
    (frun true false (fun _ => false) {} lateAddFineProgs lateAddFineSched).hist
      = [⟨1, .scan pfxUser, .keys [kP1]⟩, ⟨1, .exists_ kP1, .bool true⟩, ⟨1, .get kP1, .found ⟨1, .none⟩⟩,
         ⟨0, .put kP1 ⟨1, .none⟩, .ok⟩] ∧
    mightContain (fun _ => false) (frun true false (fun _ => false) {} lateAddFineProgs [0, 0]).added (mkKey .plain 2) = false ∧
    (frun true false (fun _ => false) {} [[.put kP1 ⟨1, .none⟩], [.get (mkKey .plain 2)]] [0, 0, 1]).hist
      = [⟨1, .get (mkKey .plain 2), .notFound⟩] := by decide +kernel

/-- NOT the code, on a PLAIN key: with `filter.add` after the router call (`late`), the writer of
    `user:1` parked between the return of `router.put` (the value is visible) and `filter.add`, a
    reader's scan lists `user:1`, then its `exists` says false and its `get` NotFound.  The window
    lies inside ONE step of the hook-granularity machine (no yield hook between the router call
    and the return of `put`): on keys that are not `emb:` keys only this finer machine shows it. -/
theorem late_add_fine_witness :
    (frun true true (fun _ => false) {} lateAddFineProgs lateAddFineSched).hist
      = [⟨1, .scan pfxUser, .keys [kP1]⟩, ⟨1, .exists_ kP1, .bool false⟩, ⟨1, .get kP1, .notFound⟩,
         ⟨0, .put kP1 ⟨1, .none⟩, .ok⟩] ∧
    visible (frun true true (fun _ => false) {} lateAddFineProgs [0, 0]).store kP1 = true ∧
    (frun true true (fun _ => false) {} lateAddFineProgs [0, 0]).added = [] ∧
    -- the same variant on a store WITHOUT a filter, and the quiescent state, are the code's
    (frun false true (fun _ => false) {} lateAddFineProgs lateAddFineSched).hist
      = (frun true false (fun _ => false) {} lateAddFineProgs lateAddFineSched).hist ∧
    (frun true true (fun _ => false) {} lateAddFineProgs lateAddFineSched).store.md
      = (frun true false (fun _ => false) {} lateAddFineProgs lateAddFineSched).store.md ∧
    (frun true true (fun _ => false) {} lateAddFineProgs lateAddFineSched).added = [kP1] := by
  decide +kernel

end Neumann.KV.BloomProps
