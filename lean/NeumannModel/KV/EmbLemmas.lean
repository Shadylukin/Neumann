import NeumannModel.KV.Lemmas
/-
  C11 — `emb:` keys: the index / slab / metadata coherence invariant and the linearization of runs
  in which no two operations on one `emb:` key overlap (core Lean only).

  Linearization points: a `put` of an `emb:` key at its FIRST step (from the index step on, scans and
  `exists` see the key), every other operation at its LAST step.
-/
namespace Neumann.KV

theorem idxGetAux_some {v : List (Key × Bool)} {k : Key} {n i : Nat} (h : idxGetAux v k n = some i) :
    n ≤ i ∧ v[i - n]? = some (k, true) := by
  induction v generalizing n with
  | nil => simp [idxGetAux] at h
  | cons p r ih =>
    obtain ⟨k', live⟩ := p
    simp only [idxGetAux] at h
    split at h
    · rename_i hc
      obtain ⟨hl, hk⟩ := hc
      cases h
      simp [hl, hk]
    · obtain ⟨h1, h2⟩ := ih h
      refine ⟨by omega, ?_⟩
      have e : i - n = (i - (n + 1)) + 1 := by omega
      rw [e]
      simpa using h2

theorem idxGetAux_none {v : List (Key × Bool)} {k : Key} {n : Nat} :
    idxGetAux v k n = none ↔ (k, true) ∉ v := by
  induction v generalizing n with
  | nil => simp [idxGetAux]
  | cons p r ih =>
    obtain ⟨k', live⟩ := p
    simp only [idxGetAux]
    split
    · rename_i hc
      obtain ⟨hl, hk⟩ := hc
      simp [hl, hk]
    · rename_i hc
      rw [ih]
      simp only [List.mem_cons, not_or]
      constructor
      · intro h
        refine ⟨?_, h⟩
        intro e
        cases e
        exact hc ⟨rfl, rfl⟩
      · exact fun h => h.2

theorem idxGet_getElem {v : List (Key × Bool)} {k : Key} {i : Nat} (h : idxGet v k = some i) :
    v[i]? = some (k, true) := by
  have := (idxGetAux_some h).2
  simpa using this

theorem idxGet_none {v : List (Key × Bool)} {k : Key} : idxGet v k = none ↔ (k, true) ∉ v :=
  idxGetAux_none

theorem idxGet_inj {v : List (Key × Bool)} {k k' : Key} {i : Nat} (h : idxGet v k = some i)
    (h' : idxGet v k' = some i) : k = k' := by
  have a := idxGet_getElem h
  have b := idxGet_getElem h'
  rw [a] at b
  simpa using b

/-- a key has at most one live entry -/
def LiveUnique (v : List (Key × Bool)) : Prop :=
  ∀ (i j : Nat) (k : Key), v[i]? = some (k, true) → v[j]? = some (k, true) → i = j

theorem idxGetAux_append_some {v w : List (Key × Bool)} {k : Key} {n i : Nat}
    (h : idxGetAux v k n = some i) : idxGetAux (v ++ w) k n = some i := by
  induction v generalizing n with
  | nil => simp [idxGetAux] at h
  | cons p r ih =>
    obtain ⟨k', live⟩ := p
    simp only [List.cons_append, idxGetAux] at h ⊢
    split
    · rename_i hc; simpa [hc] using h
    · rename_i hc; simp only [hc, if_false] at h; exact ih h

theorem idxGetAux_append_none {v w : List (Key × Bool)} {k : Key} {n : Nat}
    (h : idxGetAux v k n = none) : idxGetAux (v ++ w) k n = idxGetAux w k (n + v.length) := by
  induction v generalizing n with
  | nil => simp
  | cons p r ih =>
    obtain ⟨k', live⟩ := p
    simp only [List.cons_append, idxGetAux] at h ⊢
    split
    · rename_i hc; simp [hc] at h
    · rename_i hc
      simp only [hc, if_false] at h
      rw [ih h]
      simp only [List.length_cons]
      congr 1
      omega

theorem idxGetOrCreate_self (v : List (Key × Bool)) (k : Key) :
    idxGet (idxGetOrCreate v k).2 k = some (idxGetOrCreate v k).1 := by
  unfold idxGetOrCreate
  cases h : idxGet v k with
  | some i => simpa using h
  | none =>
    simp only
    unfold idxGet at h ⊢
    rw [idxGetAux_append_none h]
    simp [idxGetAux]

theorem idxGetOrCreate_other (v : List (Key × Bool)) {k k' : Key} (hne : k' ≠ k) :
    idxGet (idxGetOrCreate v k).2 k' = idxGet v k' := by
  unfold idxGetOrCreate
  cases h : idxGet v k with
  | some i => rfl
  | none =>
    simp only
    cases h' : idxGet v k' with
    | some j => exact idxGetAux_append_some h'
    | none =>
      unfold idxGet at h' ⊢
      rw [idxGetAux_append_none h']
      simp [idxGetAux, Ne.symm hne]

theorem getElem?_snoc_cases {α} {l : List α} {x y : α} {i : Nat} (h : (l ++ [x])[i]? = some y) :
    l[i]? = some y ∨ (i = l.length ∧ y = x) := by
  rw [List.getElem?_append] at h
  split at h
  · exact Or.inl h
  · cases hlen : i - l.length with
    | zero => rw [hlen] at h; exact Or.inr ⟨by omega, by simpa using h.symm⟩
    | succ m => rw [hlen] at h; simp at h

theorem LiveUnique.getOrCreate {v : List (Key × Bool)} (h : LiveUnique v) (k : Key) :
    LiveUnique (idxGetOrCreate v k).2 := by
  unfold idxGetOrCreate
  cases hk : idxGet v k with
  | some i => exact h
  | none =>
    -- the appended entry is the only live one of `k`
    have hnot : (k, true) ∉ v := idxGet_none.mp hk
    intro i j k' hi hj
    rcases getElem?_snoc_cases hi with hi | ⟨rfl, e⟩ <;> rcases getElem?_snoc_cases hj with hj | ⟨rfl, e'⟩
    · exact h i j k' hi hj
    · cases e'; exact absurd (List.mem_of_getElem? hi) hnot
    · cases e; exact absurd (List.mem_of_getElem? hj) hnot
    · rfl

theorem idxGetAux_set_other {v : List (Key × Bool)} {k k' : Key} {b b0 : Bool} {i n : Nat}
    (hi : v[i]? = some (k, b0)) (hne : k' ≠ k) :
    idxGetAux (v.set i (k, b)) k' n = idxGetAux v k' n := by
  induction v generalizing i n with
  | nil => simp at hi
  | cons p r ih =>
    cases i with
    | zero =>
      simp only [List.getElem?_cons_zero, Option.some.injEq] at hi
      subst hi
      simp [List.set, idxGetAux, Ne.symm hne]
    | succ m =>
      obtain ⟨k'', live⟩ := p
      simp only [List.getElem?_cons_succ] at hi
      simp only [List.set, idxGetAux]
      split
      · rfl
      · exact ih hi

theorem idxRemove_other (v : List (Key × Bool)) {k k' : Key} (hne : k' ≠ k) :
    idxGet (idxRemove v k) k' = idxGet v k' := by
  unfold idxRemove
  cases h : idxGet v k with
  | none => rfl
  | some i => exact idxGetAux_set_other (idxGet_getElem h) hne

theorem idxRemove_self {v : List (Key × Bool)} (hu : LiveUnique v) (k : Key) :
    idxGet (idxRemove v k) k = none := by
  unfold idxRemove
  cases h : idxGet v k with
  | none => simpa using h
  | some i =>
    simp only
    rw [idxGet_none]
    intro hmem
    obtain ⟨j, hj⟩ := List.getElem?_of_mem hmem
    have hi := idxGet_getElem h
    rcases getElem?_set_cases hi hj with ⟨_, e⟩ | ⟨hne, hj'⟩
    · simp at e
    · exact hne (hu j i k hj' hi)

theorem LiveUnique.remove {v : List (Key × Bool)} (hu : LiveUnique v) (k : Key) :
    LiveUnique (idxRemove v k) := by
  unfold idxRemove
  cases h : idxGet v k with
  | none => exact hu
  | some i =>
    simp only
    have hi := idxGet_getElem h
    intro a b k' ha hb
    rcases getElem?_set_cases hi ha with ⟨_, e⟩ | ⟨_, ha'⟩
    · simp at e
    · rcases getElem?_set_cases hi hb with ⟨_, e⟩ | ⟨_, hb'⟩
      · simp at e
      · exact hu a b k' ha' hb'

theorem mem_liveKeys {v : List (Key × Bool)} {k : Key} :
    k ∈ liveKeys v ↔ (idxGet v k).isSome = true := by
  have : k ∈ liveKeys v ↔ (k, true) ∈ v := by
    simp only [liveKeys, List.mem_map, List.mem_filter]
    constructor
    · rintro ⟨⟨a, b⟩, ⟨hm, hb⟩, rfl⟩
      simp only at hb
      subst hb
      exact hm
    · intro h
      exact ⟨(k, true), ⟨h, rfl⟩, rfl⟩
  rw [this]
  cases h : idxGet v k with
  | none => simpa using idxGet_none.mp h
  | some i => simpa using List.mem_of_getElem? (idxGet_getElem h)

def vecTag : VecF → Option Nat
  | .good t => some t
  | _ => none

structure KView where
  sp : Option Val   -- the specification map
  ix : Option Nat   -- entity index
  md : Option Val   -- metadata slab
  sl : Option Nat   -- embedding slab at the key's entity id
  ca : Option Val   -- cache ring

def kview (s : Store) (σ : Spec) (k : Key) : KView :=
  { sp := aget σ k, ix := idxGet s.vocab k, md := aget s.md k,
    sl := (idxGet s.vocab k).bind (aget s.slab), ca := aget s.cache k }

/-- a key of the plain / graph / table / cache class: one slab holds it, the index does not -/
def KView.plainOK (w : KView) (k : Key) : Prop :=
  w.ix = none ∧ (if k.cls = .cache then w.md = none ∧ w.sp = w.ca else w.ca = none ∧ w.sp = w.md)

/-- COHERENCE of an `emb:` key no operation is inside of: absent from index and metadata, or
    present in both with the slab holding exactly the vector of the metadata value -/
def KView.quiet (w : KView) : Prop :=
  match w.sp with
  | none => w.ix = none ∧ w.md = none
  | some v => w.ix.isSome = true ∧ w.md = some v ∧ w.sl = vecTag v.vec

/-- an `emb:` key while operation `op` is parked inside at `pc`.  A put is already linearized
    (the specification holds its value), a delete not yet. -/
def KView.pend (w : KView) : Op → PC → Prop
  | .put _ v, .putEmbAfterIndex id => w.sp = some v ∧ w.ix = some id
  | .put _ v, .putEmbAfterVector => w.sp = some v ∧ w.ix.isSome = true ∧ w.sl = vecTag v.vec
  | .get _, .getEmbAfterIndex id => w.quiet ∧ w.ix = some id
  | .get _, .getEmbAfterVector t => w.quiet ∧ w.sl = some t
  | .delete _, .delEmbAfterVector => w.sp.isSome = true ∧ w.md = w.sp
  | .delete _, .delEmbAfterIndex => w.sp.isSome = true ∧ w.md = w.sp ∧ w.ix = none
  | _, _ => False

/-- scans and `exists` see the key iff the specification has it -/
def KView.vis (w : KView) : Prop := w.sp.isSome = (w.ix.isSome || w.md.isSome || w.ca.isSome)

theorem KView.quiet_vis {w : KView} (h : w.quiet) (hc : w.ca = none) : w.vis := by
  unfold KView.quiet at h
  unfold KView.vis
  split at h
  · rename_i e; simp [e, h.1, h.2, hc]
  · rename_i v e; simp [e, h.1]

theorem KView.pend_vis {w : KView} {op : Op} {pc : PC} (h : w.pend op pc) (hc : w.ca = none) : w.vis := by
  unfold KView.pend at h
  split at h
  · unfold KView.vis; simp [h.1, h.2]
  · unfold KView.vis; simp [h.1, h.2.1]
  · exact KView.quiet_vis h.1 hc
  · exact KView.quiet_vis h.1 hc
  · unfold KView.vis
    have := h.1
    rw [← h.2] at this
    simp [h.1, this]
  · unfold KView.vis
    have := h.1
    rw [← h.2.1] at this
    simp [h.1, this]
  · exact absurd h id

theorem KView.plain_vis {w : KView} {k : Key} (h : w.plainOK k) : w.vis := by
  unfold KView.vis
  obtain ⟨h1, h2⟩ := h
  split at h2
  · simp [h1, h2.1, h2.2]
  · simp [h1, h2.1, h2.2]

theorem KView.plainOK.sp_eq {s : Store} {σ : Spec} {k : Key} (h : (kview s σ k).plainOK k) :
    aget σ k = if k.cls = .cache then aget s.cache k else aget s.md k := by
  obtain ⟨_, h2⟩ := h
  split at h2 <;> rename_i hc
  · rw [if_pos hc]; exact h2.2
  · rw [if_neg hc]; exact h2.2

/-- a step that leaves alone what the index, the slab at the key's id, metadata, cache and the
    specification say about `k'` leaves its view alone -/
theorem kview_frame {s s' : Store} {σ σ' : Spec} {k' : Key} (hσ : aget σ' k' = aget σ k')
    (hix : idxGet s'.vocab k' = idxGet s.vocab k') (hmd : aget s'.md k' = aget s.md k')
    (hca : aget s'.cache k' = aget s.cache k')
    (hsl : ∀ id, idxGet s.vocab k' = some id → aget s'.slab id = aget s.slab id) :
    kview s' σ' k' = kview s σ k' := by
  unfold kview
  rw [hσ, hix, hmd, hca]
  cases h : idxGet s.vocab k' with
  | none => rfl
  | some id => simp [hsl id h]

/-- the metadata answer of a `get` of a coherent key is the specification's -/
theorem KView.quiet.mdGet_eq {s : Store} {σ : Spec} {k : Key} (h : (kview s σ k).quiet) :
    mdGet s k = specRes σ (.get k) := by
  unfold KView.quiet at h
  simp only [kview] at h
  simp only [mdGet, specRes, specStep]
  cases hsp : aget σ k with
  | none => rw [hsp] at h; rw [h.2]
  | some v => rw [hsp] at h; rw [h.2.1]

/-- so is the answer assembled from the slab's vector and the metadata's tag -/
theorem KView.quiet.vec_eq {s : Store} {σ : Spec} {k : Key} {tt : Nat} (h : (kview s σ k).quiet)
    (hsl : (kview s σ k).sl = some tt) :
    Res.found { tag := ((aget s.md k).map (·.tag)).getD 0, vec := .good tt } = specRes σ (.get k) := by
  unfold KView.quiet at h
  simp only [kview] at h hsl
  simp only [specRes, specStep]
  cases hsp : aget σ k with
  | none =>
    rw [hsp] at h
    rw [h.1] at hsl
    cases hsl
  | some v0 =>
    rw [hsp] at h
    obtain ⟨tg, vc⟩ := v0
    have hv : vecTag vc = some tt := h.2.2 ▸ hsl
    cases vc <;> simp [vecTag] at hv
    subst hv
    simp [h.2.1]

theorem aget_slabPut_self (s : List (Nat × Nat)) (id : Nat) (vec : VecF) :
    aget (slabPut s id vec) id = vecTag vec := by
  cases vec <;> simp [slabPut, vecTag, aget_aset, aget_aerase]

theorem aget_slabPut_ne (s : List (Nat × Nat)) {id id' : Nat} (vec : VecF) (h : id ≠ id') :
    aget (slabPut s id vec) id' = aget s id' := by
  cases vec <;> simp [slabPut, aget_aset, aget_aerase, h]

/-- the specification state after the linearized operations -/
def specOf (lin : List OpRec) : Spec := specRun [] (lin.map (·.op))

structure SInv (sys : Sys) (σ : Spec) : Prop where
  walOff : sys.store.walOn = false
  nd : ∀ (t : Nat) (th : Thread), sys.threads[t]? = some th → ∀ op ∈ th.ops, op.nonDurableStr = true
  uniq : LiveUnique sys.store.vocab
  plain : ∀ k, k.cls ≠ .emb → (kview sys.store σ k).plainOK k
  embCache : ∀ k, k.cls = .emb → (kview sys.store σ k).ca = none
  quiet : ∀ k, k.cls = .emb →
    (∀ (t : Nat) (th : Thread), sys.threads[t]? = some th → th.midKey ≠ some k) →
    (kview sys.store σ k).quiet
  pend : ∀ (t : Nat) (th : Thread) (op : Op) (rest : List Op),
    sys.threads[t]? = some th → th.ops = op :: rest → th.pc ≠ .start →
    ∃ k, op.key? = some k ∧ k.cls = .emb ∧ (kview sys.store σ k).pend op th.pc
  excl : ∀ (i j : Nat) (thi thj : Thread) (k : Key),
    sys.threads[i]? = some thi → sys.threads[j]? = some thj →
    thi.midKey = some k → thj.midKey = some k → i = j

theorem midKey_start {th : Thread} (h : th.pc = .start) : th.midKey = none := by
  simp [Thread.midKey, h]

theorem midKey_of_ne_start {th : Thread} {op : Op} {rest : List Op} (h : th.pc ≠ .start)
    (ho : th.ops = op :: rest) : th.midKey = op.key? := by
  simp [Thread.midKey, h, ho]

theorem midKey_some {th : Thread} {k : Key} (h : th.midKey = some k) :
    th.pc ≠ .start ∧ ∃ op rest, th.ops = op :: rest ∧ op.key? = some k := by
  unfold Thread.midKey at h
  split at h
  · cases h
  · rename_i hpc
    refine ⟨hpc, ?_⟩
    split at h
    · rename_i op rest ho; exact ⟨op, rest, ho, h⟩
    · cases h

theorem SInv.mid_emb {sys : Sys} {σ : Spec} (h : SInv sys σ) {t : Nat} {th : Thread} {k : Key}
    (hth : sys.threads[t]? = some th) (hm : th.midKey = some k) : k.cls = .emb := by
  obtain ⟨hpc, op, rest, ho, hk⟩ := midKey_some hm
  obtain ⟨k', hk', he, _⟩ := h.pend t th op rest hth ho hpc
  rw [hk] at hk'
  cases hk'
  exact he

theorem SInv.vis {sys : Sys} {σ : Spec} (h : SInv sys σ) (k : Key) : (kview sys.store σ k).vis := by
  by_cases he : k.cls = .emb
  · by_cases hm : ∃ (t : Nat) (th : Thread), sys.threads[t]? = some th ∧ th.midKey = some k
    · obtain ⟨t, th, hth, hmk⟩ := hm
      obtain ⟨hpc, op, rest, ho, hk⟩ := midKey_some hmk
      obtain ⟨k', hk', _, hp⟩ := h.pend t th op rest hth ho hpc
      rw [hk] at hk'
      cases hk'
      exact KView.pend_vis hp (h.embCache k he)
    · refine KView.quiet_vis (h.quiet k he ?_) (h.embCache k he)
      intro t th hth hmk
      exact hm ⟨t, th, hth, hmk⟩
  · exact KView.plain_vis (h.plain k he)

theorem SInv.scan {sys : Sys} {σ : Spec} (h : SInv sys σ) (p : List Nat)
    (hb : validUtf8 p = true) (k : Key) :
    k ∈ scanNow sys.store p ↔ k ∈ (σ.map (·.1)).filter (pmatch p) := by
  have hv := h.vis k
  simp only [KView.vis, kview] at hv
  simp only [scanNow, List.mem_append, List.mem_filter, mem_keys_iff, mem_liveKeys, hv,
    mdMatch_eq_pmatch hb]
  cases pmatch p k <;> simp [or_comm, or_left_comm]

/-- thread `t` takes a step of an operation on key `k`: the step changes the view of `k` only -/
theorem SInv.stepKey {sys sys' : Sys} {σ σ' : Spec} (h : SInv sys σ) {t : Nat} {th th' : Thread}
    {k : Key} (hth : sys.threads[t]? = some th) (hthreads : sys'.threads = sys.threads.set t th')
    (hwal : sys'.store.walOn = false) (hnd : ∀ op ∈ th'.ops, op.nonDurableStr = true)
    (hmid : th.midKey = none ∨ th.midKey = some k) (hmid' : th'.midKey = none ∨ th'.midKey = some k)
    (hothers : ∀ (j : Nat) (thj : Thread), sys.threads[j]? = some thj → j ≠ t → thj.midKey ≠ some k)
    (hframe : ∀ k', k' ≠ k → kview sys'.store σ' k' = kview sys.store σ k')
    (huniq : LiveUnique sys'.store.vocab)
    (hplain : k.cls ≠ .emb → (kview sys'.store σ' k).plainOK k)
    (hcache : k.cls = .emb → (kview sys'.store σ' k).ca = none)
    (hquiet : k.cls = .emb → th'.midKey = none → (kview sys'.store σ' k).quiet)
    (hpend : ∀ op rest, th'.ops = op :: rest → th'.pc ≠ .start →
      op.key? = some k ∧ k.cls = .emb ∧ (kview sys'.store σ' k).pend op th'.pc) :
    SInv sys' σ' := by
  obtain ⟨hself, hother⟩ := set_thread hth hthreads
  rw [hthreads] at hself
  refine ⟨hwal, fun j thj hj => ?_, huniq, fun k' hk' => ?_, fun k' hk' => ?_, fun k' hk' hall => ?_,
    fun j thj op rest hj ho hpc => ?_, fun i j thi thj k' hi hj hmi hmj => ?_⟩
  · rw [hthreads] at hj
    rcases getElem?_set_cases hth hj with ⟨_, rfl⟩ | ⟨_, hj'⟩
    · exact hnd
    · exact h.nd j thj hj'
  · by_cases e : k' = k
    · subst e; exact hplain hk'
    · rw [hframe k' e]; exact h.plain k' hk'
  · by_cases e : k' = k
    · subst e; exact hcache hk'
    · rw [hframe k' e]; exact h.embCache k' hk'
  · by_cases e : k' = k
    · subst e
      exact hquiet hk' (hmid'.resolve_right (hall t th' (hthreads ▸ hself)))
    · rw [hframe k' e]
      refine h.quiet k' hk' fun j thj hj => ?_
      by_cases ej : j = t
      · subst ej
        rw [hth] at hj
        cases hj
        rcases hmid with h1 | h1 <;> rw [h1]
        · simp
        · exact fun c => e (Option.some.inj c).symm
      · exact hall j thj ((hother j ej).trans hj)
  · rw [hthreads] at hj
    rcases getElem?_set_cases hth hj with ⟨_, rfl⟩ | ⟨ej, hj'⟩
    · obtain ⟨a, b, c⟩ := hpend op rest ho hpc
      exact ⟨k, a, b, c⟩
    · obtain ⟨kj, hkj, he, hp⟩ := h.pend j thj op rest hj' ho hpc
      have hne : kj ≠ k := fun c =>
        hothers j thj hj' ej (by rw [midKey_of_ne_start hpc ho, hkj, c])
      exact ⟨kj, hkj, he, by rw [hframe kj hne]; exact hp⟩
  · -- `th'` is inside `k` at most, and no other thread is inside `k`
    have hnew : ∀ {j : Nat} {thj : Thread}, sys.threads[j]? = some thj → j ≠ t →
        th'.midKey = some k' → thj.midKey ≠ some k' := by
      intro j thj hj ej hm
      rcases hmid' with h1 | h1 <;> rw [h1] at hm <;> cases hm
      exact hothers j thj hj ej
    rw [hthreads] at hi hj
    rcases getElem?_set_cases hth hi with ⟨ei, rfl⟩ | ⟨ei, hi'⟩ <;>
      rcases getElem?_set_cases hth hj with ⟨ej, rfl⟩ | ⟨ej, hj'⟩
    · rw [ei, ej]
    · exact absurd hmj (hnew hj' ej hmi)
    · exact absurd hmi (hnew hi' ei hmj)
    · exact h.excl i j thi thj k' hi' hj' hmi hmj

/-- thread `t` completes a one-step operation that changes neither the store nor the specification -/
theorem SInv.stepStay {sys sys' : Sys} {σ : Spec} (h : SInv sys σ) {t : Nat} {th th' : Thread}
    (hth : sys.threads[t]? = some th) (hthreads : sys'.threads = sys.threads.set t th')
    (hstore : sys'.store = sys.store) (hnd : ∀ op ∈ th'.ops, op.nonDurableStr = true)
    (hpc : th.pc = .start) (hpc' : th'.pc = .start) : SInv sys' σ := by
  obtain ⟨hself, hother⟩ := set_thread hth hthreads
  -- a thread of `sys'` that is inside an operation is that thread of `sys`
  have old : ∀ {j : Nat} {thj : Thread}, sys'.threads[j]? = some thj → thj.pc ≠ .start →
      sys.threads[j]? = some thj := by
    intro j thj hj hp
    rw [hthreads] at hj
    rcases getElem?_set_cases hth hj with ⟨_, rfl⟩ | ⟨_, hj'⟩
    · exact absurd hpc' hp
    · exact hj'
  refine ⟨hstore ▸ h.walOff, fun j thj hj => ?_, hstore ▸ h.uniq, hstore ▸ h.plain,
    hstore ▸ h.embCache, fun k hk hall => ?_,
    fun j thj op rest hj ho hp => hstore ▸ h.pend j thj op rest (old hj hp) ho hp,
    fun i j thi thj k hi hj hmi hmj =>
      h.excl i j thi thj k (old hi (midKey_some hmi).1) (old hj (midKey_some hmj).1) hmi hmj⟩
  · rw [hthreads] at hj
    rcases getElem?_set_cases hth hj with ⟨_, rfl⟩ | ⟨_, hj'⟩
    · exact hnd
    · exact h.nd j thj hj'
  · rw [hstore]
    refine h.quiet k hk fun j thj hj hm => ?_
    by_cases ej : j = t
    · subst ej
      rw [hth] at hj
      cases hj
      rw [midKey_start hpc] at hm
      cases hm
    · exact hall j thj ((hother j ej).trans hj) hm

def PC.isPutMid : PC → Bool
  | .putEmbAfterIndex _ | .putEmbAfterVector => true
  | _ => false

/-- the record under which a `put` that has taken its first step (and is linearized there) stands
    in the linearization until it returns; the return time is filled in then -/
def phRec (t : Nat) (th : Thread) (op : Op) : OpRec := ⟨t, th.idx, op, .ok, th.inv, th.inv⟩

structure HInv (sys : Sys) (lin : List OpRec) : Prop where
  strict : SeqStrict [] lin
  rt : lin.Pairwise (fun a b => a.inv ≤ b.ret)
  times : ∀ r ∈ lin, r.inv ≤ r.ret ∧ r.ret < sys.clock
  nodup : lin.Nodup
  hsorted : sys.hist.Pairwise (fun a b => a.ret < b.ret)
  hlin : ∀ r ∈ sys.hist, r ∈ lin
  hidx : ∀ r ∈ sys.hist, ∀ (th : Thread), sys.threads[r.t]? = some th → r.i < th.idx
  src : ∀ r ∈ lin, r ∈ sys.hist ∨ ∃ (th : Thread) (op : Op) (rest : List Op),
    sys.threads[r.t]? = some th ∧ th.ops = op :: rest ∧ th.pc.isPutMid = true ∧ r = phRec r.t th op
  pend : ∀ (t : Nat) (th : Thread) (op : Op) (rest : List Op), sys.threads[t]? = some th →
    th.ops = op :: rest → th.pc.isPutMid = true → phRec t th op ∈ lin
  invLt : ∀ (t : Nat) (th : Thread), sys.threads[t]? = some th → th.pc ≠ .start → th.inv < sys.clock

theorem isPutMid_ne_start {pc : PC} (h : pc.isPutMid = true) : pc ≠ .start := by
  intro e; subst e; simp [PC.isPutMid] at h

theorem HInv.threads_step {sys sys' : Sys} {lin : List OpRec} (h : HInv sys lin) {t : Nat}
    {th th' : Thread} (hth : sys.threads[t]? = some th) (hthreads : sys'.threads = sys.threads.set t th')
    (hidx : th.idx ≤ th'.idx) (hinv : th'.pc ≠ .start → th'.inv ≤ sys.clock) :
    (∀ r ∈ sys.hist, ∀ (th0 : Thread), sys'.threads[r.t]? = some th0 → r.i < th0.idx) ∧
    (∀ (j : Nat) (thj : Thread), sys'.threads[j]? = some thj → thj.pc ≠ .start →
      thj.inv < sys.clock + 1) := by
  rw [hthreads]
  refine ⟨fun r hr th0 h0 => ?_, fun j thj hj hpc => ?_⟩
  · rcases getElem?_set_cases hth h0 with ⟨e, rfl⟩ | ⟨_, h0'⟩
    · exact Nat.lt_of_lt_of_le (h.hidx r hr th (e ▸ hth)) hidx
    · exact h.hidx r hr th0 h0'
  · rcases getElem?_set_cases hth hj with ⟨_, rfl⟩ | ⟨_, hj'⟩
    · exact Nat.lt_succ_of_le (hinv hpc)
    · exact Nat.lt_succ_of_lt (h.invLt j thj hj' hpc)

theorem HInv.times_succ {sys : Sys} {lin : List OpRec} (h : HInv sys lin) :
    ∀ r ∈ lin, r.inv ≤ r.ret ∧ r.ret < sys.clock + 1 :=
  fun r hr => ⟨(h.times r hr).1, Nat.lt_succ_of_lt (h.times r hr).2⟩

/-- a record appended now is later than everything linearized so far -/
theorem HInv.late {sys : Sys} {lin : List OpRec} (h : HInv sys lin) :
    ∀ a ∈ lin, a.inv ≤ sys.clock ∧ a.ret < sys.clock :=
  fun a ha => ⟨Nat.le_of_lt (Nat.lt_of_le_of_lt (h.times a ha).1 (h.times a ha).2), (h.times a ha).2⟩

/-- a step inside an operation that neither linearizes nor returns -/
theorem HInv.silent {sys sys' : Sys} {lin : List OpRec} (h : HInv sys lin) {t : Nat} {th th' : Thread}
    (hth : sys.threads[t]? = some th) (hthreads : sys'.threads = sys.threads.set t th')
    (hhist : sys'.hist = sys.hist) (hclock : sys'.clock = sys.clock + 1)
    (hops : th'.ops = th.ops) (hidx : th'.idx = th.idx) (hmid : th'.pc.isPutMid = th.pc.isPutMid)
    (hinv : th.pc.isPutMid = true → th'.inv = th.inv) (hinv' : th'.inv ≤ sys.clock) :
    HInv sys' lin := by
  obtain ⟨hself, hother⟩ := set_thread hth hthreads
  obtain ⟨hix, hlt⟩ := h.threads_step hth hthreads (Nat.le_of_eq hidx.symm) (fun _ => hinv')
  have hph : ∀ op, th.pc.isPutMid = true → phRec t th' op = phRec t th op := by
    intro op hm; simp [phRec, hidx, hinv hm]
  rw [← hclock] at hlt
  refine ⟨h.strict, h.rt, hclock ▸ h.times_succ, h.nodup, hhist ▸ h.hsorted, hhist ▸ h.hlin,
    hhist ▸ hix, fun r hr => ?_, fun j thj op rest hj ho hm => ?_, hlt⟩
  · rw [hhist]
    rcases h.src r hr with h1 | ⟨th0, op, rest, h0, ho, hm, hr'⟩
    · exact Or.inl h1
    · right
      by_cases e : r.t = t
      · rw [e, hth] at h0
        cases h0
        exact ⟨th', op, rest, e ▸ hself, hops ▸ ho, hmid ▸ hm, by rw [e, hph op hm, ← e]; exact hr'⟩
      · exact ⟨th0, op, rest, (hother _ e).trans h0, ho, hm, hr'⟩
  · rw [hthreads] at hj
    rcases getElem?_set_cases hth hj with ⟨rfl, rfl⟩ | ⟨_, hj'⟩
    · rw [hmid] at hm
      rw [hph op hm]
      exact h.pend _ th op rest hth (hops ▸ ho) hm
    · exact h.pend j thj op rest hj' ho hm

/-- the first step of a `put` of an `emb:` key: the put is linearized here -/
theorem HInv.putStart {sys sys' : Sys} {lin : List OpRec} (h : HInv sys lin) {t : Nat}
    {th th' : Thread} {op : Op} {rest : List Op}
    (hth : sys.threads[t]? = some th) (hthreads : sys'.threads = sys.threads.set t th')
    (hhist : sys'.hist = sys.hist) (hclock : sys'.clock = sys.clock + 1)
    (hops' : th'.ops = op :: rest) (hidx : th'.idx = th.idx)
    (hold : th.pc.isPutMid = false) (hnew : th'.pc.isPutMid = true) (hinv' : th'.inv = sys.clock)
    (hres : resEquiv .ok (specRes (specOf lin) op)) : HInv sys' (lin ++ [phRec t th' op]) := by
  obtain ⟨hself, hother⟩ := set_thread hth hthreads
  obtain ⟨hix, hlt⟩ := h.threads_step hth hthreads (Nat.le_of_eq hidx.symm)
    (fun _ => Nat.le_of_eq hinv')
  rw [← hclock] at hlt
  have hlate := h.late
  refine ⟨(seqStrict_append _ _ _).mpr ⟨h.strict, hres⟩,
    pairwise_snoc.mpr ⟨h.rt, fun a ha => by simpa [phRec, hinv'] using (hlate a ha).1⟩,
    fun r hr => ?_, pairwise_snoc.mpr ⟨h.nodup, fun a ha e => ?_⟩, hhist ▸ h.hsorted,
    fun r hr => List.mem_append_left _ (h.hlin r (hhist ▸ hr)), hhist ▸ hix,
    fun r hr => ?_, fun j thj op0 rest0 hj ho hm => ?_, hlt⟩
  · rw [hclock]
    rcases List.mem_append.mp hr with hr | hr
    · exact h.times_succ r hr
    · rw [List.mem_singleton.mp hr]; simp [phRec, hinv']
  · have := (hlate a ha).2
    rw [e] at this
    simp [phRec, hinv'] at this
  · rw [hhist]
    rcases List.mem_append.mp hr with hr | hr
    · rcases h.src r hr with h1 | ⟨th0, op0, rest0, h0, ho, hm, hr'⟩
      · exact Or.inl h1
      · right
        by_cases e : r.t = t
        · rw [e, hth] at h0
          cases h0
          rw [hold] at hm
          cases hm
        · exact ⟨th0, op0, rest0, (hother _ e).trans h0, ho, hm, hr'⟩
    · rw [List.mem_singleton.mp hr]
      exact Or.inr ⟨th', op, rest, hself, hops', hnew, rfl⟩
  · rw [hthreads] at hj
    rcases getElem?_set_cases hth hj with ⟨rfl, rfl⟩ | ⟨_, hj'⟩
    · rw [hops'] at ho
      cases ho
      exact List.mem_append_right _ (List.mem_singleton.mpr rfl)
    · exact List.mem_append_left _ (h.pend j thj op0 rest0 hj' ho hm)

/-- the last step of an operation that is linearized at its last step -/
theorem HInv.done {sys sys' : Sys} {lin : List OpRec} (h : HInv sys lin) {t : Nat}
    {th th' : Thread} {op : Op} {r : Res} {inv : Nat}
    (hth : sys.threads[t]? = some th) (hthreads : sys'.threads = sys.threads.set t th')
    (hclock : sys'.clock = sys.clock + 1)
    (hhist : sys'.hist = sys.hist ++ [⟨t, th.idx, op, r, inv, sys.clock⟩])
    (hpc' : th'.pc = .start) (hidx : th'.idx = th.idx + 1)
    (hold : th.pc.isPutMid = false) (hinv : inv ≤ sys.clock)
    (hres : resEquiv r (specRes (specOf lin) op)) :
    HInv sys' (lin ++ [⟨t, th.idx, op, r, inv, sys.clock⟩]) := by
  obtain ⟨hself, hother⟩ := set_thread hth hthreads
  obtain ⟨hix, hlt⟩ := h.threads_step hth hthreads (hidx ▸ Nat.le_succ _) (fun hn => absurd hpc' hn)
  rw [← hclock] at hlt
  have hlate := h.late
  refine ⟨(seqStrict_append _ _ _).mpr ⟨h.strict, hres⟩,
    pairwise_snoc.mpr ⟨h.rt, fun a ha => (hlate a ha).1⟩, fun x hx => ?_,
    pairwise_snoc.mpr ⟨h.nodup, fun a ha e => ?_⟩,
    hhist ▸ pairwise_snoc.mpr ⟨h.hsorted, fun a ha => (hlate a (h.hlin a ha)).2⟩,
    fun x hx => ?_, fun x hx th0 h0 => ?_, fun x hx => ?_,
    fun j thj op0 rest0 hj ho hm => ?_, hlt⟩
  · rw [hclock]
    rcases List.mem_append.mp hx with hx | hx
    · exact h.times_succ x hx
    · rw [List.mem_singleton.mp hx]; exact ⟨hinv, Nat.lt_succ_self _⟩
  · have := (hlate a ha).2
    rw [e] at this
    exact Nat.lt_irrefl _ this
  · rw [hhist] at hx
    exact (List.mem_append.mp hx).elim (fun hx => List.mem_append_left _ (h.hlin x hx))
      (List.mem_append_right _)
  · rw [hhist] at hx
    rcases List.mem_append.mp hx with hx | hx
    · exact hix x hx th0 h0
    · rw [List.mem_singleton.mp hx] at h0 ⊢
      rw [hself] at h0
      cases h0
      exact hidx ▸ Nat.lt_succ_self _
  · rw [hhist]
    rcases List.mem_append.mp hx with hx | hx
    · rcases h.src x hx with h1 | ⟨th0, op0, rest0, h0, ho, hm, hr'⟩
      · exact Or.inl (List.mem_append_left _ h1)
      · right
        by_cases e : x.t = t
        · rw [e, hth] at h0
          cases h0
          rw [hold] at hm
          cases hm
        · exact ⟨th0, op0, rest0, (hother _ e).trans h0, ho, hm, hr'⟩
    · exact Or.inl (List.mem_append_right _ hx)
  · rw [hthreads] at hj
    rcases getElem?_set_cases hth hj with ⟨_, rfl⟩ | ⟨_, hj'⟩
    · exact absurd hpc' (isPutMid_ne_start hm)
    · exact List.mem_append_left _ (h.pend j thj op0 rest0 hj' ho hm)

theorem seqStrict_map {f : OpRec → OpRec} (hf : ∀ r, (f r).op = r.op ∧ (f r).res = r.res) :
    ∀ (σ : Spec) (l : List OpRec), SeqStrict σ (l.map f) ↔ SeqStrict σ l
  | _, [] => by simp [SeqStrict]
  | σ, a :: l => by
    simp only [List.map_cons, SeqStrict, (hf a).1, (hf a).2]
    rw [seqStrict_map hf]

/-- the last step of a `put` of an `emb:` key: its record gets its return time -/
theorem HInv.putDone {sys sys' : Sys} {lin : List OpRec} (h : HInv sys lin) {t : Nat}
    {th th' : Thread} {op : Op} {rest : List Op}
    (hth : sys.threads[t]? = some th) (hthreads : sys'.threads = sys.threads.set t th')
    (hclock : sys'.clock = sys.clock + 1) (hops : th.ops = op :: rest)
    (hhist : sys'.hist = sys.hist ++ [⟨t, th.idx, op, .ok, th.inv, sys.clock⟩])
    (hpc' : th'.pc = .start) (hidx : th'.idx = th.idx + 1) (hold : th.pc.isPutMid = true) :
    HInv sys' (lin.map fun r => if r = phRec t th op then ⟨t, th.idx, op, .ok, th.inv, sys.clock⟩ else r) ∧
    specOf (lin.map fun r => if r = phRec t th op then ⟨t, th.idx, op, .ok, th.inv, sys.clock⟩ else r)
      = specOf lin := by
  obtain ⟨hself, hother⟩ := set_thread hth hthreads
  obtain ⟨hix, hlt⟩ := h.threads_step hth hthreads (hidx ▸ Nat.le_succ _) (fun hn => absurd hpc' hn)
  rw [← hclock] at hlt
  have hf : ∀ r : OpRec, (if r = phRec t th op then (⟨t, th.idx, op, .ok, th.inv, sys.clock⟩ : OpRec) else r).op = r.op ∧
      (if r = phRec t th op then (⟨t, th.idx, op, .ok, th.inv, sys.clock⟩ : OpRec) else r).res = r.res := by
    intro r
    by_cases e : r = phRec t th op
    · simp [e, phRec]
    · simp [e]
  have hinvlt : th.inv < sys.clock := h.invLt t th hth (isPutMid_ne_start hold)
  have hphmem : phRec t th op ∈ lin := h.pend t th op rest hth hops hold
  have hphhist : phRec t th op ∉ sys.hist := by
    intro hm
    have := h.hidx _ hm th (by simpa [phRec] using hth)
    simp [phRec] at this
  refine ⟨⟨(seqStrict_map hf _ _).mpr h.strict, ?_, fun x hx => ?_, ?_,
    hhist ▸ pairwise_snoc.mpr ⟨h.hsorted, fun a ha => (h.times a (h.hlin a ha)).2⟩,
    fun x hx => ?_, fun x hx th0 h0 => ?_, fun x hx => ?_,
    fun j thj op0 rest0 hj ho hm => ?_, hlt⟩, ?_⟩
  · rw [List.pairwise_map]
    refine List.Pairwise.imp_of_mem ?_ h.rt
    intro a b ha hb hab
    have ta := h.times a ha
    have tb := h.times b hb
    by_cases ea : a = phRec t th op <;> by_cases eb : b = phRec t th op
    · simp only [ea, eb, if_true]; omega
    · simp only [ea, eb, if_true, if_false]
      rw [ea] at hab; simpa [phRec] using hab
    · simp only [ea, eb, if_true, if_false]; omega
    · simp only [ea, eb, if_false]; exact hab
  · rw [hclock]
    obtain ⟨r, hr, rfl⟩ := List.mem_map.mp hx
    by_cases e : r = phRec t th op
    · simp only [e, if_true]; omega
    · simp only [e, if_false]; exact h.times_succ r hr
  · rw [List.nodup_iff_pairwise_ne, List.pairwise_map]
    refine List.Pairwise.imp_of_mem ?_ (List.nodup_iff_pairwise_ne.mp h.nodup)
    intro a b ha hb hab
    have ta := (h.times a ha).2
    have tb := (h.times b hb).2
    by_cases ea : a = phRec t th op <;> by_cases eb : b = phRec t th op
    · exact absurd (ea.trans eb.symm) hab
    · simp only [ea, eb, if_true, if_false]
      intro c; rw [← c] at tb; simp at tb
    · simp only [ea, eb, if_true, if_false]
      intro c; rw [c] at ta; simp at ta
    · simpa only [ea, eb, if_false] using hab
  · rw [hhist] at hx
    rcases List.mem_append.mp hx with hx | hx
    · refine List.mem_map.mpr ⟨x, h.hlin x hx, ?_⟩
      have : x ≠ phRec t th op := fun c => hphhist (c ▸ hx)
      simp [this]
    · rw [List.mem_singleton.mp hx]
      exact List.mem_map.mpr ⟨phRec t th op, hphmem, by simp⟩
  · rw [hhist] at hx
    rcases List.mem_append.mp hx with hx | hx
    · exact hix x hx th0 h0
    · rw [List.mem_singleton.mp hx] at h0 ⊢
      rw [hself] at h0
      cases h0
      exact hidx ▸ Nat.lt_succ_self _
  · rw [hhist]
    obtain ⟨r, hr, rfl⟩ := List.mem_map.mp hx
    by_cases e : r = phRec t th op
    · left
      simp [e]
    · simp only [e, if_false]
      rcases h.src r hr with h1 | ⟨th0, op0, rest0, h0, ho, hm, hr'⟩
      · exact Or.inl (List.mem_append_left _ h1)
      · right
        by_cases et : r.t = t
        · rw [et, hth] at h0
          cases h0
          rw [hops] at ho
          cases ho
          rw [et] at hr'
          exact absurd hr' e
        · exact ⟨th0, op0, rest0, (hother _ et).trans h0, ho, hm, hr'⟩
  · rw [hthreads] at hj
    rcases getElem?_set_cases hth hj with ⟨_, rfl⟩ | ⟨hne, hj'⟩
    · exact absurd hpc' (isPutMid_ne_start hm)
    · refine List.mem_map.mpr ⟨phRec j thj op0, h.pend j thj op0 rest0 hj' ho hm, ?_⟩
      have : phRec j thj op0 ≠ phRec t th op := fun c => hne (by simpa [phRec] using congrArg OpRec.t c)
      simp [this]
  · unfold specOf
    rw [List.map_map]
    congr 1
    exact List.map_congr_left fun r _ => (hf r).1

/-- the invariant of runs without the log in which no two operations on one `emb:` key overlap:
    some linearization `lin` of the completed operations and the `put`s in progress explains the
    store (`SInv`) and respects real time (`HInv`) -/
def EInv (sys : Sys) : Prop := ∃ lin, SInv sys (specOf lin) ∧ HInv sys lin

theorem specOf_append (lin : List OpRec) (x : OpRec) :
    specOf (lin ++ [x]) = specApply (specOf lin) x.op := by
  simp [specOf, specRun_append]

theorem step_eq_stepOld {sys : Sys} (h : sys.store.walOn = false) (t : Nat) :
    step sys t = stepOld sys t := by
  unfold step
  split
  · rename_i h1; unfold stepOld; simp [h1]
  · rename_i th h1
    split
    · rename_i h2; unfold stepOld; simp [h1, h2]
    · simp [h]

theorem midKey_cases {th : Thread} {op : Op} {rest : List Op} {k : Key} (hops : th.ops = op :: rest)
    (hk : op.key? = some k) : th.midKey = none ∨ th.midKey = some k := by
  by_cases h : th.pc = .start
  · exact Or.inl (midKey_start h)
  · exact Or.inr (by rw [midKey_of_ne_start h hops, hk])

theorem inv_le_clock {sys : Sys} {lin : List OpRec} (hh : HInv sys lin) {t : Nat} {th : Thread}
    (hth : sys.threads[t]? = some th) : (if th.pc = .start then sys.clock else th.inv) ≤ sys.clock := by
  split
  · exact Nat.le_refl _
  · rename_i h; exact Nat.le_of_lt (hh.invLt t th hth h)

theorem EInv.cont_silent {sys : Sys} {lin : List OpRec} {t : Nat} {th : Thread} {op : Op}
    {rest : List Op} {s' : Store} {pc' : PC} {k : Key}
    (hs : SInv sys (specOf lin)) (hh : HInv sys lin) (hth : sys.threads[t]? = some th)
    (hops : th.ops = op :: rest) (hk : op.key? = some k) (he : k.cls = .emb)
    (hothers : ∀ (j : Nat) (thj : Thread), sys.threads[j]? = some thj → j ≠ t → thj.midKey ≠ some k)
    (hpc' : pc' ≠ .start) (hmid : pc'.isPutMid = th.pc.isPutMid) (hwal : s'.walOn = false)
    (hframe : ∀ k', k' ≠ k → kview s' (specOf lin) k' = kview sys.store (specOf lin) k')
    (huniq : LiveUnique s'.vocab) (hcache : (kview s' (specOf lin) k).ca = none)
    (hpend : (kview s' (specOf lin) k).pend op pc') :
    EInv (afterCont sys t th op s' pc') := by
  have hmk' : Thread.midKey { th with pc := pc', inv := if th.pc = .start then sys.clock else th.inv } = some k := by
    simp [Thread.midKey, hpc', hops, hk]
  refine ⟨lin, ?_, ?_⟩
  · refine hs.stepKey hth rfl hwal (hs.nd t th hth)
      (midKey_cases hops hk) (Or.inr hmk') hothers hframe huniq (fun h => absurd he h) (fun _ => hcache) ?_ ?_
    · intro _ hn; rw [hmk'] at hn; cases hn
    · intro op0 rest0 ho _
      have : op0 = op := by
        have : op0 :: rest0 = op :: rest := ho.symm.trans hops
        exact (List.cons.inj this).1
      subst this
      exact ⟨hk, he, hpend⟩
  · refine hh.silent hth rfl rfl rfl rfl rfl hmid ?_ (inv_le_clock hh hth)
    intro hm
    simp [isPutMid_ne_start hm]

theorem EInv.done_key {sys : Sys} {lin : List OpRec} {t : Nat} {th : Thread} {op : Op}
    {rest : List Op} {s' : Store} {r : Res} {k : Key}
    (hs : SInv sys (specOf lin)) (hh : HInv sys lin) (hth : sys.threads[t]? = some th)
    (hops : th.ops = op :: rest) (hk : op.key? = some k)
    (hothers : ∀ (j : Nat) (thj : Thread), sys.threads[j]? = some thj → j ≠ t → thj.midKey ≠ some k)
    (hold : th.pc.isPutMid = false) (hwal : s'.walOn = false)
    (hres : resEquiv r (specRes (specOf lin) op))
    (hframe : ∀ k', k' ≠ k → kview s' (specApply (specOf lin) op) k' = kview sys.store (specOf lin) k')
    (huniq : LiveUnique s'.vocab)
    (hplain : k.cls ≠ .emb → (kview s' (specApply (specOf lin) op) k).plainOK k)
    (hcache : k.cls = .emb → (kview s' (specApply (specOf lin) op) k).ca = none)
    (hquiet : k.cls = .emb → (kview s' (specApply (specOf lin) op) k).quiet) :
    EInv (afterDone sys t th op rest s' r) := by
  refine ⟨lin ++ [⟨t, th.idx, op, r, if th.pc = .start then sys.clock else th.inv, sys.clock⟩], ?_, ?_⟩
  · rw [specOf_append]
    refine hs.stepKey hth rfl hwal ?_
      (midKey_cases hops hk) (Or.inl (midKey_start rfl)) hothers hframe huniq hplain hcache
      (fun h _ => hquiet h) ?_
    · intro o ho
      exact hs.nd t th hth o (by rw [hops]; exact List.mem_cons_of_mem _ ho)
    · intro op0 rest0 _ hn; exact absurd rfl hn
  · exact hh.done hth rfl rfl rfl rfl rfl hold
      (inv_le_clock hh hth) hres

theorem EInv.done_stay {sys : Sys} {lin : List OpRec} {t : Nat} {th : Thread} {op : Op}
    {rest : List Op} {r : Res}
    (hs : SInv sys (specOf lin)) (hh : HInv sys lin) (hth : sys.threads[t]? = some th)
    (hops : th.ops = op :: rest) (hpc : th.pc = .start)
    (hres : resEquiv r (specRes (specOf lin) op))
    (hσ : specApply (specOf lin) op = specOf lin) :
    EInv (afterDone sys t th op rest sys.store r) := by
  refine ⟨lin ++ [⟨t, th.idx, op, r, if th.pc = .start then sys.clock else th.inv, sys.clock⟩], ?_, ?_⟩
  · rw [specOf_append]
    simp only [hσ]
    refine hs.stepStay hth rfl rfl ?_ hpc rfl
    intro o ho
    exact hs.nd t th hth o (by rw [hops]; exact List.mem_cons_of_mem _ ho)
  · exact hh.done hth rfl rfl rfl rfl rfl
      (by simp [hpc, PC.isPutMid]) (inv_le_clock hh hth) hres

theorem startsExclusive_spec {sys : Sys} {t : Nat} {th : Thread} {op : Op} {rest : List Op} {k : Key}
    (hx : startsExclusive sys t = true) (hth : sys.threads[t]? = some th) (hpc : th.pc = .start)
    (hops : th.ops = op :: rest) (hk : op.key? = some k) (he : k.cls = .emb) :
    ∀ (j : Nat) (thj : Thread), sys.threads[j]? = some thj → thj.midKey ≠ some k := by
  simp [startsExclusive, hth, hpc, hops, hk, he] at hx
  intro j thj hj
  exact hx thj (List.mem_of_getElem? hj)

theorem pend_cases {w : KView} {op : Op} {pc : PC} (h : w.pend op pc) :
    (∃ k v id, op = .put k v ∧ pc = .putEmbAfterIndex id ∧ w.sp = some v ∧ w.ix = some id) ∨
    (∃ k v, op = .put k v ∧ pc = .putEmbAfterVector ∧ w.sp = some v ∧ w.ix.isSome = true ∧ w.sl = vecTag v.vec) ∨
    (∃ k id, op = .get k ∧ pc = .getEmbAfterIndex id ∧ w.quiet ∧ w.ix = some id) ∨
    (∃ k tt, op = .get k ∧ pc = .getEmbAfterVector tt ∧ w.quiet ∧ w.sl = some tt) ∨
    (∃ k, op = .delete k ∧ pc = .delEmbAfterVector ∧ w.sp.isSome = true ∧ w.md = w.sp) ∨
    (∃ k, op = .delete k ∧ pc = .delEmbAfterIndex ∧ w.sp.isSome = true ∧ w.md = w.sp ∧ w.ix = none) := by
  unfold KView.pend at h
  split at h
  · rename_i k v id; exact Or.inl ⟨k, v, id, rfl, rfl, h⟩
  · rename_i k v; exact Or.inr (Or.inl ⟨k, v, rfl, rfl, h⟩)
  · rename_i k id; exact Or.inr (Or.inr (Or.inl ⟨k, id, rfl, rfl, h⟩))
  · rename_i k tt; exact Or.inr (Or.inr (Or.inr (Or.inl ⟨k, tt, rfl, rfl, h⟩)))
  · rename_i k; exact Or.inr (Or.inr (Or.inr (Or.inr (Or.inl ⟨k, rfl, rfl, h⟩))))
  · rename_i k; exact Or.inr (Or.inr (Or.inr (Or.inr (Or.inr ⟨k, rfl, rfl, h⟩))))
  · exact absurd h id

theorem EInv.step_inside {sys : Sys} {lin : List OpRec} {t : Nat} {th : Thread} {op : Op}
    {rest : List Op} (hs : SInv sys (specOf lin)) (hh : HInv sys lin)
    (hth : sys.threads[t]? = some th) (hops : th.ops = op :: rest) (hpc : th.pc ≠ .start) :
    EInv (stepOld sys t) := by
  obtain ⟨k, hk, he, hp⟩ := hs.pend t th op rest hth hops hpc
  have hoth : ∀ (j : Nat) (thj : Thread), sys.threads[j]? = some thj → j ≠ t → thj.midKey ≠ some k := by
    intro j thj hj hne hm
    exact hne (hs.excl j t thj th k hj hth hm (by rw [midKey_of_ne_start hpc hops, hk]))
  have hca : aget sys.store.cache k = none := hs.embCache k he
  rcases pend_cases hp with ⟨k0, v, id, rfl, hpcv, h1, h2⟩ | ⟨k0, v, rfl, hpcv, h1, h2, h3⟩ |
    ⟨k0, id, rfl, hpcv, h1, h2⟩ | ⟨k0, tt, rfl, hpcv, h1, h2⟩ | ⟨k0, rfl, hpcv, h1, h2⟩ |
    ⟨k0, rfl, hpcv, h1, h2, h3⟩ <;>
    (simp only [Op.key?, Option.some.injEq] at hk; subst hk)
  · -- put: embeddings.set / delete
    have hstep : stepOp sys.store (.put k0 v) th.pc =
        ({ sys.store with slab := slabPut sys.store.slab id v.vec }, .cont .putEmbAfterVector) := by
      rw [hpcv]; rfl
    rw [stepOld_cont hth hops hstep]
    have h2' : idxGet sys.store.vocab k0 = some id := h2
    refine EInv.cont_silent hs hh hth hops rfl he hoth (by simp) (by rw [hpcv]; rfl) hs.walOff ?_ hs.uniq hca ?_
    · intro k' hne
      refine kview_frame rfl rfl rfl rfl ?_
      intro id' hid'
      refine aget_slabPut_ne _ _ ?_
      intro e
      subst e
      exact hne (idxGet_inj hid' h2')
    · refine ⟨h1, by simp [kview, h2'], ?_⟩
      simp [kview, h2', aget_slabPut_self]
  · -- put: metadata.set, return
    have hstep : stepOp sys.store (.put k0 v) th.pc =
        ({ sys.store with md := aset sys.store.md k0 v }, .done .ok) := by
      rw [hpcv]; rfl
    rw [stepOld_done hth hops hstep]
    -- the record linearized at the first step gets its return time
    obtain ⟨hh', hσ⟩ := hh.putDone (sys' := afterDone sys t th (.put k0 v) rest _ .ok) hth rfl rfl hops
      (by simp [afterDone, hpc]) rfl rfl (by rw [hpcv]; rfl)
    refine ⟨_, ?_, hh'⟩
    rw [hσ]
    refine hs.stepKey hth rfl hs.walOff
      (fun o ho => hs.nd t th hth o (by rw [hops]; exact List.mem_cons_of_mem _ ho))
      (midKey_cases hops rfl) (Or.inl (midKey_start rfl)) hoth ?_ hs.uniq (fun h => absurd he h)
      (fun _ => hca) (fun _ _ => ?_) (fun _ _ _ hn => absurd rfl hn)
    · intro k' hne
      refine kview_frame rfl rfl ?_ rfl (fun _ _ => rfl)
      simp [afterDone, aget_aset, Ne.symm hne]
    · have h1' : aget (specOf lin) k0 = some v := h1
      unfold KView.quiet
      simp only [kview, h1']
      exact ⟨h2, by simp [afterDone, aget_aset], h3⟩
  · -- get: embeddings.get
    have h2' : idxGet sys.store.vocab k0 = some id := h2
    cases hsl : aget sys.store.slab id with
    | some tt =>
      have hstep : stepOp sys.store (.get k0) th.pc = (sys.store, .cont (.getEmbAfterVector tt)) := by
        rw [hpcv]; simp [stepOp, hsl]
      rw [stepOld_cont hth hops hstep]
      refine EInv.cont_silent hs hh hth hops rfl he hoth (by simp) (by rw [hpcv]; rfl) hs.walOff
        (fun _ _ => rfl) hs.uniq hca ⟨h1, ?_⟩
      simp [kview, h2', hsl]
    | none =>
      have hstep : stepOp sys.store (.get k0) th.pc = (sys.store, .done (mdGet sys.store k0)) := by
        rw [hpcv]; simp [stepOp, hsl]
      rw [stepOld_done hth hops hstep]
      refine EInv.done_key hs hh hth hops rfl hoth (by rw [hpcv]; rfl) hs.walOff ?_
        (fun _ _ => rfl) hs.uniq (fun hn => absurd he hn) (fun _ => hca) (fun _ => h1)
      exact h1.mdGet_eq ▸ resEquiv_refl _
  · -- get: metadata.get, return
    have hstep : stepOp sys.store (.get k0) th.pc = (sys.store,
        .done (.found { tag := ((aget sys.store.md k0).map (·.tag)).getD 0, vec := .good tt })) := by
      rw [hpcv]; rfl
    rw [stepOld_done hth hops hstep]
    refine EInv.done_key hs hh hth hops rfl hoth (by rw [hpcv]; rfl) hs.walOff ?_
      (fun _ _ => rfl) hs.uniq (fun hn => absurd he hn) (fun _ => hca) (fun _ => h1)
    exact h1.vec_eq h2 ▸ resEquiv_refl _
  · -- delete: index.remove
    have hstep : stepOp sys.store (.delete k0) th.pc =
        ({ sys.store with vocab := idxRemove sys.store.vocab k0 }, .cont .delEmbAfterIndex) := by
      rw [hpcv]; rfl
    rw [stepOld_cont hth hops hstep]
    refine EInv.cont_silent hs hh hth hops rfl he hoth (by simp) (by rw [hpcv]; rfl) hs.walOff ?_
      (hs.uniq.remove k0) hca ⟨h1, h2, idxRemove_self hs.uniq k0⟩
    intro k' hne
    have hix : idxGet (idxRemove sys.store.vocab k0) k' = idxGet sys.store.vocab k' := idxRemove_other _ hne
    unfold kview
    simp only [hix]
  · -- delete: metadata.delete, return
    have hstep : stepOp sys.store (.delete k0) th.pc =
        ({ sys.store with md := aerase sys.store.md k0 }, .done .ok) := by
      rw [hpcv]; rfl
    rw [stepOld_done hth hops hstep]
    have h1' : (aget (specOf lin) k0).isSome = true := h1
    obtain ⟨w, hw⟩ := Option.isSome_iff_exists.mp h1'
    have hσ : specApply (specOf lin) (.delete k0) = aerase (specOf lin) k0 := by
      simp [specApply, specStep, hw]
    refine EInv.done_key hs hh hth hops rfl hoth (by rw [hpcv]; rfl) hs.walOff ?_ ?_ hs.uniq
      (fun hn => absurd he hn) (fun _ => hca) ?_
    · simp [specRes, specStep, hw, resEquiv]
    · intro k' hne
      rw [hσ]
      refine kview_frame ?_ rfl ?_ rfl (fun _ _ => rfl)
      · simp [aget_aerase, Ne.symm hne]
      · simp [aget_aerase, Ne.symm hne]
    · intro _
      rw [hσ]
      have h3' : idxGet sys.store.vocab k0 = none := h3
      unfold KView.quiet
      simp [kview, aget_aerase, h3']

theorem EInv.step_start {sys : Sys} {lin : List OpRec} {t : Nat} {th : Thread} {op : Op}
    {rest : List Op} (hs : SInv sys (specOf lin)) (hh : HInv sys lin)
    (hth : sys.threads[t]? = some th) (hops : th.ops = op :: rest) (hpc : th.pc = .start)
    (hx : startsExclusive sys t = true) : EInv (stepOld sys t) := by
  obtain ⟨hnd, hstr⟩ : op.nonDurable = true ∧ op.scanStr = true := by
    simpa [Op.nonDurableStr] using hs.nd t th hth op (by simp [hops])
  have hold : th.pc.isPutMid = false := by rw [hpc]; rfl
  cases hk : op.key? with
  | none =>
    obtain ⟨p, rfl⟩ : ∃ p, op = .scan p := by cases op <;> first | exact ⟨_, rfl⟩ | cases hk
    have hstep : stepOp sys.store (.scan p) th.pc = (sys.store, .done (.keys (scanNow sys.store p))) := by
      rw [hpc]; rfl
    rw [stepOld_done hth hops hstep]
    exact EInv.done_stay hs hh hth hops hpc
      ⟨fun k hk => (hs.scan p hstr k).mp hk, fun k hk => (hs.scan p hstr k).mpr hk⟩ rfl
  | some k =>
    have hoth : ∀ (j : Nat) (thj : Thread), sys.threads[j]? = some thj → j ≠ t → thj.midKey ≠ some k :=
      fun j thj hj _ hm => startsExclusive_spec hx hth hpc hops hk (hs.mid_emb hj hm) j thj hj hm
    by_cases he : k.cls ≠ .emb
    · -- a key of another class: one step, on the one slab that holds it
      obtain ⟨h1, h2⟩ := hs.plain k he
      obtain ⟨s', r, hstep, hres, hvoc, hslab, hwal, hframe, hself⟩ :=
        plainKey_step hk hnd he (hs.plain k he).sp_eq
      rw [stepOld_done hth hops (hpc ▸ hstep)]
      refine EInv.done_key hs hh hth hops hk hoth hold (hwal.trans hs.walOff) hres ?_ (hvoc ▸ hs.uniq) ?_
        (absurd · he) (absurd · he)
      · intro k' hne
        exact kview_frame (hframe k' hne).1 (by rw [hvoc]) (hframe k' hne).2.1 (hframe k' hne).2.2
          (fun _ _ => by rw [hslab])
      · intro _
        refine ⟨by rw [← h1]; simp only [kview, hvoc], ?_⟩
        simp only [kview] at h2 ⊢
        split <;> rename_i hc
        · rw [if_pos hc] at hself h2; exact ⟨by rw [hself.1]; exact h2.1, hself.2⟩
        · rw [if_neg hc] at hself h2; exact ⟨by rw [hself.1]; exact h2.1, hself.2⟩
    have he : k.cls = .emb := Decidable.not_not.mp he
    have hca : aget sys.store.cache k = none := hs.embCache k he
    have hqk := hs.quiet k he (startsExclusive_spec hx hth hpc hops hk he)
    unfold KView.quiet at hqk
    simp only [kview] at hqk
    cases op with
    | putD => cases hnd
    | delD => cases hnd
    | scan => cases hk
    | exists_ k' =>
      cases hk
      have hstep : stepOp sys.store (.exists_ k) th.pc = (sys.store, .done (.bool (existsNow sys.store k))) := by
        rw [hpc]; rfl
      rw [stepOld_done hth hops hstep]
      refine EInv.done_stay hs hh hth hops hpc ?_ rfl
      have hv := hs.vis k
      simp only [KView.vis, kview, hca] at hv
      simp [specRes, specStep, resEquiv, hv, existsNow_emb he]
    | get k' =>
      cases hk
      cases hi : idxGet sys.store.vocab k with
      | none =>
        have hstep : stepOp sys.store (.get k) th.pc = (sys.store, .done (mdGet sys.store k)) := by
          rw [hpc]; show routerGet sys.store k = _; rw [routerGet_emb he, hi]
        rw [stepOld_done hth hops hstep]
        refine EInv.done_stay hs hh hth hops hpc ?_ rfl
        exact (hs.quiet k he (startsExclusive_spec hx hth hpc hops rfl he)).mdGet_eq ▸ resEquiv_refl _
      | some id =>
        have hstep : stepOp sys.store (.get k) th.pc = (sys.store, .cont (.getEmbAfterIndex id)) := by
          rw [hpc]; show routerGet sys.store k = _; rw [routerGet_emb he, hi]
        rw [stepOld_cont hth hops hstep]
        exact EInv.cont_silent hs hh hth hops rfl he hoth (by simp) (by rw [hpc]; rfl) hs.walOff
          (fun _ _ => rfl) hs.uniq hca ⟨hs.quiet k he (startsExclusive_spec hx hth hpc hops rfl he), hi⟩
    | put k' v =>
      cases hk
      have hstep : stepOp sys.store (.put k v) th.pc =
          ({ sys.store with vocab := (idxGetOrCreate sys.store.vocab k).2 },
           .cont (.putEmbAfterIndex (idxGetOrCreate sys.store.vocab k).1)) := by
        rw [hpc]; exact routerPut_emb he sys.store v
      rw [stepOld_cont hth hops hstep]
      -- the put is linearized here: its record stands in the linearization from now on
      have hmk' : Thread.midKey { th with pc := .putEmbAfterIndex (idxGetOrCreate sys.store.vocab k).1,
                                          inv := if th.pc = .start then sys.clock else th.inv } = some k := by
        simp [Thread.midKey, hops, Op.key?]
      refine ⟨lin ++ [phRec t _ (.put k v)], ?_, hh.putStart hth rfl rfl rfl hops rfl hold rfl
        (by simp [hpc]) (by simp [specRes, specStep, resEquiv])⟩
      rw [specOf_append]
      change SInv _ (aset (specOf lin) k v)
      refine hs.stepKey hth rfl hs.walOff (hs.nd t th hth) (midKey_cases hops rfl) (Or.inr hmk') hoth ?_
        (hs.uniq.getOrCreate k) (fun h => absurd he h) (fun _ => hca)
        (fun _ hn => by rw [hmk'] at hn; cases hn) ?_
      · intro k' hne
        have hix : idxGet (idxGetOrCreate sys.store.vocab k).2 k' = idxGet sys.store.vocab k' :=
          idxGetOrCreate_other _ hne
        unfold kview
        simp only [afterCont, hix, aget_aset, Ne.symm hne, if_false]
      · intro op0 rest0 ho _
        obtain rfl : op0 = .put k v := (List.cons.inj (ho.symm.trans hops)).1
        exact ⟨rfl, he, by simp [kview, aget_aset], idxGetOrCreate_self _ _⟩
    | delete k' =>
      cases hk
      cases hsp : aget (specOf lin) k with
      | none =>
        rw [hsp] at hqk
        have hex : existsNow sys.store k = false := by simp [existsNow_emb he, hqk.1, hqk.2]
        have hstep : stepOp sys.store (.delete k) th.pc = (sys.store, .done .notFound) := by
          rw [hpc]; exact routerDelete_absent hex
        rw [stepOld_done hth hops hstep]
        refine EInv.done_stay hs hh hth hops hpc ?_ ?_
        · simp [specRes, specStep, hsp, resEquiv]
        · simp [specApply, specStep, hsp]
      | some v0 =>
        rw [hsp] at hqk
        obtain ⟨id, hid⟩ := Option.isSome_iff_exists.mp hqk.1
        have hex : existsNow sys.store k = true := by simp [existsNow_emb he, hid]
        have hstep : stepOp sys.store (.delete k) th.pc =
            ({ sys.store with slab := aerase sys.store.slab id }, .cont .delEmbAfterVector) := by
          rw [hpc]; show routerDelete sys.store k = _; rw [routerDelete_emb he hex, hid]
        rw [stepOld_cont hth hops hstep]
        refine EInv.cont_silent hs hh hth hops rfl he hoth (by simp) (by rw [hpc]; rfl) hs.walOff
          ?_ hs.uniq hca ⟨by simp [kview, hsp], by simp [kview, hsp, hqk.2.1]⟩
        intro k' hne
        refine kview_frame rfl rfl rfl rfl ?_
        intro id' hid'
        have : id ≠ id' := fun e => hne (idxGet_inj hid' (e ▸ hid))
        simp [aget_aerase, this]

theorem EInv.step {sys : Sys} (h : EInv sys) (t : Nat) (hx : startsExclusive sys t = true) :
    EInv (step sys t) := by
  obtain ⟨lin, hs, hh⟩ := h
  rw [step_eq_stepOld hs.walOff]
  rcases stepOld_cases sys t with e | ⟨th, op, rest, hth, hops⟩
  · rw [e]; exact ⟨lin, hs, hh⟩
  · by_cases hpc : th.pc = .start
    · exact EInv.step_start hs hh hth hops hpc hx
    · exact EInv.step_inside hs hh hth hops hpc

theorem EInv.init (progs : List ThreadProgram) (h : ∀ p ∈ progs, ∀ op ∈ p, op.nonDurableStr = true) :
    EInv (initSys false progs) := by
  have hthreads : ∀ (t : Nat) (th : Thread), (initSys false progs).threads[t]? = some th →
      th.pc = .start ∧ ∀ op ∈ th.ops, op.nonDurableStr = true := by
    intro t th hth
    simp only [initSys, List.getElem?_map, Option.map_eq_some_iff] at hth
    obtain ⟨p, hp, rfl⟩ := hth
    exact ⟨rfl, h p (List.mem_of_getElem? hp)⟩
  refine ⟨[], ?_, ?_⟩
  · constructor
    · rfl
    · intro t th hth; exact (hthreads t th hth).2
    · intro i j k hi; simp [initSys] at hi
    · intro k _
      simp [KView.plainOK, kview, initSys, specOf, specRun, idxGet, idxGetAux, aget]
    · intro k _; rfl
    · intro k _ _
      simp [KView.quiet, kview, initSys, specOf, specRun, idxGet, idxGetAux, aget]
    · intro t th op rest hth _ hpc
      exact absurd (hthreads t th hth).1 hpc
    · intro i j thi thj k hi _ hmi _
      rw [midKey_start (hthreads i thi hi).1] at hmi
      cases hmi
  · constructor
    · trivial
    · simp
    · intro r hr; cases hr
    · simp
    · simp [initSys]
    · intro r hr; simp [initSys] at hr
    · intro r hr; simp [initSys] at hr
    · intro r hr; cases hr
    · intro t th op rest hth _ hm
      rw [(hthreads t th hth).1] at hm
      simp [PC.isPutMid] at hm
    · intro t th hth hpc
      exact absurd (hthreads t th hth).1 hpc

theorem EInv.run {sys : Sys} (h : EInv sys) (sched : List Nat) (hx : NoEmbOverlapFrom sys sched = true) :
    EInv (runFrom sys sched) := by
  induction sched generalizing sys with
  | nil => exact h
  | cons t rest ih =>
    simp only [NoEmbOverlapFrom, Bool.and_eq_true] at hx
    exact ih (h.step t hx.1) hx.2

theorem EInv.linearizable {sys : Sys} (h : EInv sys) (hq : quiescent sys = true) :
    ∃ order : List OpRec, order.Perm sys.hist ∧ SeqStrict [] order ∧ RespectsRealTime order ∧
      SInv sys (specRun [] (order.map (·.op))) := by
  obtain ⟨lin, hs, hh⟩ := h
  refine ⟨lin, ?_, hh.strict, ?_, hs⟩
  · have hn : sys.hist.Nodup := by
      rw [List.nodup_iff_pairwise_ne]
      refine List.Pairwise.imp ?_ hh.hsorted
      intro a b hab e
      rw [e] at hab
      exact Nat.lt_irrefl _ hab
    rw [List.perm_ext_iff_of_nodup hh.nodup hn]
    intro r
    constructor
    · intro hr
      rcases hh.src r hr with h1 | ⟨th, op, rest, hth, ho, _, _⟩
      · exact h1
      · simp only [quiescent, List.all_eq_true, List.isEmpty_iff] at hq
        rw [hq th (List.mem_of_getElem? hth)] at ho
        cases ho
    · exact hh.hlin r
  · refine List.Pairwise.imp ?_ hh.rt
    intro a b hab
    exact Nat.not_lt.mpr hab

/-- the coherence invariant read off a quiescent store: `get`, `exists` and `scan` show every key
    exactly as the specification state does -/
theorem SInv.view_quiescent {sys : Sys} {σ : Spec} (h : SInv sys σ) (hq : quiescent sys = true)
    (k : Key) : view sys.store k = (specRes σ (.get k), (aget σ k).isSome, (aget σ k).isSome) := by
  have hscan : decide (k ∈ scanNow sys.store []) = (aget σ k).isSome := by
    have := h.scan [] rfl k
    simp only [List.mem_filter, pmatch, isPfx_nil_left, and_true, mem_keys_iff] at this
    rw [Bool.eq_iff_iff, decide_eq_true_iff]; exact this
  unfold view
  rw [hscan]
  by_cases he : k.cls = .emb
  · have hnomid : ∀ (t : Nat) (th : Thread), sys.threads[t]? = some th → th.midKey ≠ some k := by
      intro t th hth
      simp only [quiescent, List.all_eq_true, List.isEmpty_iff] at hq
      simp [Thread.midKey, hq th (List.mem_of_getElem? hth)]
    have hqk := h.quiet k he hnomid
    have hca : aget sys.store.cache k = none := h.embCache k he
    have hv := h.vis k
    simp only [KView.vis, kview, hca, Option.isSome_none, Bool.or_false] at hv
    rw [existsNow_emb he, ← hv]
    rw [← hqk.mdGet_eq, seqOp]
    -- the `get`: index, then slab, then metadata
    have h1 := routerGet_emb he sys.store
    cases hi : idxGet sys.store.vocab k with
    | none =>
      rw [hi] at h1
      rw [seqOpAux_done (show stepOp sys.store (.get k) .start = _ from h1)]
    | some id =>
      rw [hi] at h1
      rw [seqOpAux_cont (show stepOp sys.store (.get k) .start = _ from h1)]
      have h2 : stepOp sys.store (.get k) (.getEmbAfterIndex id) =
          match aget sys.store.slab id with
          | some t => (sys.store, .cont (.getEmbAfterVector t))
          | none => (sys.store, .done (mdGet sys.store k)) := rfl
      cases hsl : aget sys.store.slab id with
      | none =>
        rw [hsl] at h2
        rw [seqOpAux_done h2]
      | some t =>
        rw [hsl] at h2
        rw [seqOpAux_cont h2, seqOpAux_done (show stepOp sys.store (.get k) (.getEmbAfterVector t) = _ from rfl),
          hqk.vec_eq (by simp [kview, hi, hsl]), hqk.mdGet_eq]
  · have hσ := (h.plain k he).sp_eq
    obtain ⟨_, r, hget, hr, -⟩ := plainKey_step (op := .get k) rfl rfl he hσ
    rw [seqOp, seqOpAux_done hget, resEquiv_get hr, existsNow_plainKey he hσ]

structure OInv (sys : Sys) : Prop where
  pendAfter : ∀ a ∈ sys.hist, ∀ (t : Nat) (th : Thread) (k : Key), sys.threads[t]? = some th →
    th.midKey = some k → a.op.key? = some k → a.ret < th.inv
  disjoint : sys.hist.Pairwise (fun a b => ∀ k, a.op.key? = some k → b.op.key? = some k →
    k.cls = .emb → a.ret < b.inv)

theorem OInv.step {sys : Sys} {lin : List OpRec} (ho : OInv sys) (hs : SInv sys (specOf lin))
    (hh : HInv sys lin) (t : Nat) (hx : startsExclusive sys t = true) : OInv (step sys t) := by
  rw [step_eq_stepOld hs.walOff]
  rcases stepOld_cases sys t with e | ⟨th, op, rest, hth, hops⟩
  · rw [e]; exact ho
  have hret : ∀ a ∈ sys.hist, a.ret < sys.clock := fun a ha => (hh.times a (hh.hlin a ha)).2
  -- no other thread is inside an operation on the key of `op`
  have hoth : ∀ k, op.key? = some k → ∀ (j : Nat) (thj : Thread), sys.threads[j]? = some thj →
      j ≠ t → thj.midKey ≠ some k := by
    intro k hk j thj hj hne hm
    by_cases hpc : th.pc = .start
    · exact startsExclusive_spec hx hth hpc hops hk (hs.mid_emb hj hm) j thj hj hm
    · exact hne (hs.excl j t thj th k hj hth hm (by rw [midKey_of_ne_start hpc hops, hk]))
  -- a record of the key of `op` returned before `op` was invoked
  have hinv : ∀ a ∈ sys.hist, ∀ k, a.op.key? = some k → op.key? = some k →
      a.ret < (if th.pc = .start then sys.clock else th.inv) := by
    intro a ha k hak hk
    by_cases hpc : th.pc = .start
    · simpa [hpc] using hret a ha
    · rw [if_neg hpc]
      exact ho.pendAfter a ha t th k hth (by rw [midKey_of_ne_start hpc hops]; exact hk) hak
  cases hstep : stepOp sys.store op th.pc with
  | mk s' out =>
    cases out with
    | cont pc' =>
      rw [stepOld_cont hth hops hstep]
      refine ⟨fun a ha j thj k hj hm hak => ?_, ho.disjoint⟩
      rcases getElem?_set_cases hth hj with ⟨_, rfl⟩ | ⟨_, hj'⟩
      · obtain ⟨_, op0, rest0, ho0, hk0⟩ := midKey_some hm
        have ho0' : th.ops = op0 :: rest0 := ho0
        rw [hops] at ho0'
        cases ho0'
        exact hinv a ha k hak hk0
      · exact ho.pendAfter a ha j thj k hj' hm hak
    | done r =>
      rw [stepOld_done hth hops hstep]
      refine ⟨fun a ha j thj k hj hm hak => ?_,
        pairwise_snoc.mpr ⟨ho.disjoint, fun a ha k hak hbk _ => hinv a ha k hak hbk⟩⟩
      rcases getElem?_set_cases hth hj with ⟨_, rfl⟩ | ⟨hne, hj'⟩
      · simp [Thread.midKey] at hm
      · rcases List.mem_append.mp ha with ha' | ha'
        · exact ho.pendAfter a ha' j thj k hj' hm hak
        · rw [List.mem_singleton.mp ha'] at hak
          exact absurd hm (hoth k hak j thj hj' hne)

theorem EInv.run_overlap {sys : Sys} (h : EInv sys) (ho : OInv sys) (sched : List Nat)
    (hx : NoEmbOverlapFrom sys sched = true) : OInv (runFrom sys sched) := by
  induction sched generalizing sys with
  | nil => exact ho
  | cons t rest ih =>
    simp only [NoEmbOverlapFrom, Bool.and_eq_true] at hx
    obtain ⟨lin, hs, hh⟩ := h
    exact ih (EInv.step ⟨lin, hs, hh⟩ t hx.1) (ho.step hs hh t hx.1) hx.2

theorem pairwise_or {α} {R : α → α → Prop} {l : List α} (h : l.Pairwise R) {a b : α} (ha : a ∈ l)
    (hb : b ∈ l) (hne : a ≠ b) : R a b ∨ R b a := by
  induction l with
  | nil => cases ha
  | cons x r ih =>
    rw [List.pairwise_cons] at h
    rcases List.mem_cons.mp ha with ea | ha' <;> rcases List.mem_cons.mp hb with eb | hb'
    · exact absurd (ea.trans eb.symm) hne
    · subst ea; exact Or.inl (h.1 b hb')
    · subst eb; exact Or.inr (h.1 a ha')
    · exact ih h.2 ha' hb'

end Neumann.KV
