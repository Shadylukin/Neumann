import NeumannModel.KV.SlabStoreLemmas
/-
  C11 — the embedding slab as it is (index id ↦ slot, free list, bump pointer) and
  `TensorStore::clear`: "a read never returns a value that was never written" TO THE KEY IT READS.

  A get of an `emb:` key reads the vector from the slot the slab's index has for the key's entity id.
  The value it returns is the key's own as long as no two live ids share a slot; that is what the
  allocator (free list first, bump pointer otherwise) has to guarantee across deletes AND clears -
  `clear` resets the bump pointer to 0, so it must also empty the free list.

  `eRun false ops` / `sRun false ops` = the code; `… true …` = `clear` without `free_slots.clear()`.
  `clear` is a quiescent whole-store operation: sequential histories.
-/
namespace Neumann.KV.SlabProps
open Neumann.KV

/-- FULL STRENGTH (slab calls): after EVERY history of set / delete / clear on the slab, in any
    order and number, no two live entity ids share a slot. -/
theorem slab_no_two_live_ids_share_a_slot (ops : List EOp) (a b sl : Nat)
    (ha : aget (eRun false ops).index a = some sl) (hb : aget (eRun false ops).index b = some sl) :
    a = b :=
  (slab_run_from ops {} [] SlabInv.init Refines.init).1.inj a b sl ha hb

/-- … and no live slot is on the free list or at / above the bump pointer (the two places the
    allocator takes slots from), and the free list has no slot twice. -/
theorem slab_allocator_never_hands_out_a_live_slot (ops : List EOp) :
    let e := eRun false ops
    (∀ a sl, aget e.index a = some sl → sl ∉ e.free ∧ sl < e.wpos) ∧ e.free.Nodup ∧
      ∀ sl, sl ∈ e.free → sl < e.wpos :=
  let h := (slab_run_from ops {} [] SlabInv.init Refines.init).1
  ⟨fun a sl ha => ⟨h.disj a sl ha, h.live_lt a sl ha⟩, h.nodup, h.free_lt⟩

/-- FULL STRENGTH (slab calls): after every history with deletes and clears, `get` reads the slab
    exactly as the map id ↦ vector the concurrent model (`Store.slab`: `aset` / `aerase`, empty
    after clear) sees it - the slots, the free list and the bump pointer are not observable. -/
theorem slab_get_is_the_map_of_the_concurrent_model (ops : List EOp) (id : Nat) :
    eGet (eRun false ops) id = aget (mRun ops) id :=
  (slab_run_from ops {} [] SlabInv.init Refines.init).2 id

/-- the value oracle: a get returns exactly the LAST vector set for that id, whatever happened
    before that set and whatever other ids did afterwards (sets, deletes - not a clear) -/
theorem slab_get_returns_the_last_vector_set_for_that_id (before later : List EOp) (id t : Nat)
    (h : ∀ op ∈ later, op.touches id = false) :
    eGet (eRun false (before ++ .set id t :: later)) id = some t := by
  rw [slab_get_is_the_map_of_the_concurrent_model]
  unfold mRun
  rw [List.foldl_append, List.foldl_cons, aget_mRun_untouched id later _ h]
  simp [mStep, aget_aset]

/-- non-vacuity: a history with a delete before a clear and two other ids written afterwards -/
example : eGet (eRun false ([.set 0 1, .del 0, .clear] ++ .set 1 2 :: [.set 2 3])) 1 = some 2 :=
  slab_get_returns_the_last_vector_set_for_that_id _ _ 1 2 (by decide +kernel)

/-- a cleared or deleted id reads as absent -/
theorem slab_get_after_clear_is_absent (before : List EOp) (id : Nat) :
    eGet (eRun false (before ++ [.clear])) id = none := by
  rw [slab_get_is_the_map_of_the_concurrent_model]
  simp [mRun, List.foldl_append, mStep, aget]

/-- FULL STRENGTH (store operations): after EVERY sequential history of put / get / delete /
    exists / clear on keys of every class and values with / without / with a wrong-dimension
    vector, no two live `emb:` keys share a slot of the slab. -/
theorem store_no_two_live_keys_share_a_slot (ops : List SOp) (k k' : Key) (sl : Nat)
    (h : sSlot (sRun false ops).1 k = some sl) (h' : sSlot (sRun false ops).1 k' = some sl) :
    k = k' := by
  have inv := sRunFrom_inv ops {} SlabInv.init
  unfold sSlot at h h'
  change SlabInv (sRun false ops).1.es at inv
  cases hi : idxGet (sRun false ops).1.vocab k with
  | none => rw [hi] at h; simp at h
  | some i =>
    cases hi' : idxGet (sRun false ops).1.vocab k' with
    | none => rw [hi'] at h'; simp at h'
    | some i' =>
      rw [hi] at h; rw [hi'] at h'
      have : i = i' := inv.inj i i' sl h h'
      subst this
      exact idxGet_inj hi hi'

/-- FULL STRENGTH (store operations), THE VALUE ORACLE: every sequential history of put / get /
    delete / exists / clear - any length, any number of clears, keys of every class, values with /
    without / with a wrong-dimension vector - answers exactly as the map key ↦ last value put
    (`sSpecRunFrom`: clear empties the map): a get returns the last value put to THAT key, never
    another key's vector, never a value from before a delete or a clear. -/
theorem store_sequential_history_is_the_map_of_last_values_put (ops : List SOp) :
    (sRun false ops).2 = sSpecRunFrom [] ops :=
  sRunFrom_is_the_map ops {} [] Coh.init

/-- `clear` without `free_slots.clear()` (not the code) is not that map -/
theorem clearKeepsFreeList_history_is_not_the_map_witness :
    (sRun true clearKeepsFreeListOps).2 ≠ sSpecRunFrom [] clearKeepsFreeListOps := by decide +kernel

/-- non-vacuity: two keys live after a delete and a clear, in different slots -/
example : sSlot (sRun false (clearKeepsFreeListOps)).1 kE2 = some 0 ∧
    sSlot (sRun false (clearKeepsFreeListOps)).1 kE3 = some 1 := by decide +kernel

/-- the code on the shortest history: get(emb:2) returns the vector put to emb:2 -/
theorem clear_then_puts_read_their_own_vectors :
    (sRun false clearKeepsFreeListOps).2.getLast? = some (.found ⟨2, .good 2⟩) := by decide +kernel

/-- `clear` WITHOUT `free_slots.clear()` (not the code): put a, delete a, clear, put b, put c -
    b pops the stale free slot 0, the bump pointer (back at 0) hands slot 0 to c as well; the two
    live keys share the slot and get(b) returns the vector that was only ever written to c. -/
theorem clearKeepsFreeList_two_keys_share_a_slot_witness :
    sSlot (sRun true clearKeepsFreeListOps).1 kE2 = some 0 ∧
    sSlot (sRun true clearKeepsFreeListOps).1 kE3 = some 0 ∧
    (sRun true clearKeepsFreeListOps).2.getLast? = some (.found ⟨2, .good 3⟩) := by decide +kernel

/-- the same at the slab: the statement of `slab_get_is_the_map_of_the_concurrent_model` fails -/
theorem clearKeepsFreeList_get_is_not_the_map_witness :
    ¬ ∀ (ops : List EOp) (id : Nat), eGet (eRun true ops) id = aget (mRun ops) id := by
  intro h
  exact absurd (h [.set 0 1, .del 0, .clear, .set 1 2, .set 2 3] 1) (by decide +kernel)

end Neumann.KV.SlabProps
