import NeumannModel.KV.Ring
import NeumannModel.KV.RingLemmas
import NeumannModel.KV.Lemmas
/-
  C11 — the cache ring at the granularity of `CacheRing::get`'s two lock sections is linearizable
  against the key ↦ value specification, when the hash function is injective and the ring never
  has to evict (the schedule is no longer than the capacity).  Linearization order = order of
  completion (core Lean only).
-/
namespace Neumann.KV

/-! ### association lists, options -/

theorem rl_aget_mem {α β} [DecidableEq α] {l : List (α × β)} {k : α} {v : β}
    (h : aget l k = some v) : (k, v) ∈ l := by
  induction l with
  | nil => simp [aget] at h
  | cons p r ih =>
    obtain ⟨a, b⟩ := p
    by_cases e : a = k
    · subst e
      simp only [aget, if_true, Option.some.injEq] at h
      subst h
      exact List.mem_cons_self
    · simp only [aget, e, if_false] at h
      exact List.mem_cons_of_mem _ (ih h)

/-- the abstraction relation reads the cache slab through `aget` only -/
theorem rl_abs_congr {s s' : Store} {σ : Spec} (h : Abs s σ) (hmd : s'.md = s.md)
    (hv : s'.vocab = s.vocab) (hc : ∀ k, aget s'.cache k = aget s.cache k) : Abs s' σ := by
  constructor
  · intro k; rw [h.get k, hc, hmd]
  · intro k hk; rw [hmd]; exact h.mdNoCache k hk
  · intro k hk; rw [hc]; exact h.cacheOnly k hk
  · rw [hv]; exact h.vocab

/-! ### slots -/

theorem rl_mem_entries (r : Ring) (e : Key × Val) :
    e ∈ ringEntries r ↔ ∃ i, r.slot i = some e := by
  unfold ringEntries
  simp only [List.mem_filterMap, id, Ring.slot_eq_some]
  constructor
  · rintro ⟨a, ha, rfl⟩
    exact List.mem_iff_getElem?.mp ha
  · rintro ⟨i, hi⟩
    exact ⟨some e, List.mem_of_getElem? hi, rfl⟩

/-- no key sits in two slots -/
def rl_Uniq (r : Ring) : Prop :=
  ∀ i j k v v', r.slot i = some (k, v) → r.slot j = some (k, v') → i = j

/-- the slab as a map: key `k` has value `v` iff some slot holds `(k, v)` -/
theorem rl_aget_entries {r : Ring} (hu : rl_Uniq r) (k : Key) (v : Val) :
    aget (ringEntries r) k = some v ↔ ∃ i, r.slot i = some (k, v) := by
  constructor
  · intro h
    exact (rl_mem_entries r (k, v)).mp (rl_aget_mem h)
  · rintro ⟨i, hi⟩
    have hs := (mem_keys_iff _ _).mp
      (List.mem_map.mpr ⟨(k, v), (rl_mem_entries r _).mpr ⟨i, hi⟩, rfl⟩)
    cases hg : aget (ringEntries r) k with
    | none => rw [hg] at hs; cases hs
    | some v' =>
      obtain ⟨j, hj⟩ := (rl_mem_entries r (k, v')).mp (rl_aget_mem hg)
      cases hu i j k v v' hi hj
      rw [hi] at hj
      cases hj
      rfl

/-! ### room: the number of empty slots -/

def rl_free : List (Option (Key × Val)) → Nat
  | [] => 0
  | none :: r => rl_free r + 1
  | some _ :: r => rl_free r

theorem rl_free_set (l : List (Option (Key × Val))) (i : Nat) (x : Option (Key × Val)) :
    rl_free l ≤ rl_free (l.set i x) + 1 := by
  induction l generalizing i with
  | nil => exact Nat.le_succ _
  | cons a l ih =>
    cases i with
    | zero =>
      cases a with
      | none =>
        cases x with
        | none => exact Nat.le_succ _
        | some _ => exact Nat.le_refl _
      | some _ =>
        cases x with
        | none => exact Nat.le_succ_of_le (Nat.le_succ _)
        | some _ => exact Nat.le_succ _
    | succ i =>
      cases a with
      | none => exact Nat.succ_le_succ (ih i)
      | some _ => exact ih i

theorem rl_free_replicate (n : Nat) : rl_free (List.replicate n none) = n := by
  induction n with
  | zero => rfl
  | succ n ih => simp only [List.replicate, rl_free, ih]

/-- a slab with an empty slot: `find_slot_for_insert` returns an EMPTY slot -/
theorem rl_firstEmpty (l : List (Option (Key × Val))) (n : Nat) (h : 0 < rl_free l) :
    ∃ j, firstEmpty l n = some (n + j) ∧ l[j]? = some none := by
  induction l generalizing n with
  | nil => exact absurd h (Nat.lt_irrefl 0)
  | cons a l ih =>
    cases a with
    | none => exact ⟨0, rfl, rfl⟩
    | some e =>
      obtain ⟨j, h1, h2⟩ := ih (n + 1) h
      refine ⟨j + 1, ?_, List.getElem?_cons_succ.trans h2⟩
      show firstEmpty l (n + 1) = _
      rw [h1, Nat.add_right_comm]
      rfl

/-! ### well-formedness of the ring -/

/-- no key in two slots; every occupied slot is indexed under the hash of its key; every index
    entry points at an occupied slot of that hash -/
structure RWF (hash : Key → Nat) (r : Ring) : Prop where
  uniq : rl_Uniq r
  indexed : ∀ i k v, r.slot i = some (k, v) → aget r.index (hash k) = some i
  points : ∀ h i, aget r.index h = some i → ∃ k v, r.slot i = some (k, v) ∧ hash k = h

theorem RWF.new (hash : Key → Nat) (cap : Nat) : RWF hash (Ring.new cap) := by
  have hs : ∀ i e, (Ring.new cap).slot i ≠ some e := fun i e h => by
    cases List.eq_of_mem_replicate (Ring.slot_mem h)
  exact ⟨fun i j k v v' hi => absurd hi (hs i _), fun i k v hi => absurd hi (hs i _),
    fun h i hi => by cases hi⟩

theorem rl_nodup_of_uniq (l : List (Option (Key × Val)))
    (hu : ∀ (i j : Nat) (k : Key) (v v' : Val),
      l[i]? = some (some (k, v)) → l[j]? = some (some (k, v')) → i = j) :
    ((l.filterMap id).map (·.1)).Nodup := by
  induction l with
  | nil => exact List.nodup_nil
  | cons a l ih =>
    have hu' : ∀ (i j : Nat) (k : Key) (v v' : Val),
        l[i]? = some (some (k, v)) → l[j]? = some (some (k, v')) → i = j :=
      fun i j k v v' hi hj =>
        Nat.succ.inj (hu (i + 1) (j + 1) k v v' (List.getElem?_cons_succ.trans hi)
          (List.getElem?_cons_succ.trans hj))
    cases a with
    | none => exact ih hu'
    | some e =>
      obtain ⟨k, v⟩ := e
      refine List.nodup_cons.mpr ⟨fun hm => ?_, ih hu'⟩
      obtain ⟨⟨k', v'⟩, hm', rfl⟩ := List.mem_map.mp hm
      obtain ⟨a, ha, ha'⟩ := List.mem_filterMap.mp hm'
      cases ha'
      obtain ⟨j, hj⟩ := List.mem_iff_getElem?.mp ha
      cases hu 0 (j + 1) k' v v' rfl (List.getElem?_cons_succ.trans hj)

/-- no key in two slots, as a statement about the slab seen as a map -/
theorem RWF.nodup {hash : Key → Nat} {r : Ring} (h : RWF hash r) :
    ((ringEntries r).map (·.1)).Nodup :=
  rl_nodup_of_uniq r.slots fun i j k v v' hi hj =>
    h.uniq i j k v v' ((r.slot_eq_some i _).mpr hi) ((r.slot_eq_some j _).mpr hj)

/-- with an injective hash the slot the index resolves holds the key itself -/
theorem RWF.lookup_holds {c : RingCfg} (hinj : ∀ a b : Key, c.hash a = c.hash b → a = b) {r : Ring}
    (h : RWF c.hash r) {k : Key} {i : Nat} (hl : ringLookup c r k = some i) :
    ∃ v, r.slot i = some (k, v) := by
  obtain ⟨k', v, hs, hh⟩ := h.points _ _ hl
  have := hinj _ _ hh
  subst this
  exact ⟨v, hs⟩

theorem rl_holds_of_slot {r : Ring} {k : Key} {i : Nat} {v : Val} (h : r.slot i = some (k, v)) :
    ringHolds r k i = true := by
  simp [ringHolds, h]

/-- `CacheRing::contains` is membership in the slab as a map -/
theorem RWF.contains_eq {c : RingCfg} (hinj : ∀ a b : Key, c.hash a = c.hash b → a = b) {r : Ring}
    (h : RWF c.hash r) (k : Key) : ringContains c r k = (aget (ringEntries r) k).isSome := by
  cases hg : aget (ringEntries r) k with
  | none =>
    unfold ringContains
    cases hl : ringLookup c r k with
    | none => rfl
    | some i =>
      obtain ⟨v, hv⟩ := h.lookup_holds hinj hl
      have := (rl_aget_entries h.uniq k v).mpr ⟨i, hv⟩
      rw [hg] at this
      cases this
  | some v =>
    obtain ⟨i, hi⟩ := (rl_aget_entries h.uniq k v).mp hg
    have hl : ringLookup c r k = some i := h.indexed i k v hi
    simp [ringContains, hl, rl_holds_of_slot hi]

/-- slot `i` - empty or holding `k`, while no other slot holds `k` - gets `k`'s new entry
    (`x = some v`) or is emptied (`x = none`), and the index entry of `hash k` follows suit: the
    ring stays well-formed and the slab as a map changes at `k` only -/
theorem RWF.set {hash : Key → Nat} (hinj : ∀ a b : Key, hash a = hash b → a = b) {r r' : Ring}
    (h : RWF hash r) {i : Nat} (hi : i < r.slots.length) (k : Key) (x : Option Val)
    (hs : r'.slots = r.slots.set i (x.map (k, ·)))
    (honly : ∀ j v', r.slot j = some (k, v') → j = i)
    (hold : ∀ k'' v'', r.slot i = some (k'', v'') → k'' = k)
    (hidx : ∀ y, aget r'.index y = if hash k = y then x.map (fun _ => i) else aget r.index y) :
    RWF hash r' ∧ (∀ k', aget (ringEntries r') k' = if k = k' then x else aget (ringEntries r) k') ∧
    rl_free r.slots ≤ rl_free r'.slots + 1 := by
  have hslot : ∀ j k' w, r'.slot j = some (k', w) ↔
      (j = i ∧ k' = k ∧ x = some w) ∨ (j ≠ i ∧ r.slot j = some (k', w)) := by
    intro j k' w
    rw [Ring.slot_set hs]
    by_cases ej : j = i
    · simp only [ej, hi, and_self, if_true, ne_eq, not_true, false_and, or_false, true_and]
      cases x with
      | none => exact ⟨fun e => (by cases e), fun e => (by cases e.2)⟩
      | some v =>
        simp only [Option.map_some, Option.some.injEq, Prod.mk.injEq]
        exact ⟨fun e => ⟨e.1.symm, e.2⟩, fun e => ⟨e.1.symm, e.2⟩⟩
    · simp only [ej, false_and, if_false, ne_eq, not_false_eq_true, true_and, false_or]
  have hu' : rl_Uniq r' := by
    intro a b k' w w' ha hb
    rcases (hslot a k' w).mp ha with ⟨ea, ek, _⟩ | ⟨ea, ha⟩
    · rcases (hslot b k' w').mp hb with ⟨eb, _, _⟩ | ⟨eb, hb⟩
      · rw [ea, eb]
      · rw [ek] at hb; exact absurd (honly b w' hb) eb
    · rcases (hslot b k' w').mp hb with ⟨_, ek, _⟩ | ⟨_, hb⟩
      · rw [ek] at ha; exact absurd (honly a w ha) ea
      · exact h.uniq a b k' w w' ha hb
  refine ⟨⟨hu', fun j k' v' hj => ?_, fun y j hy' => ?_⟩, fun k' => Option.ext fun w => ?_,
    hs ▸ rl_free_set _ _ _⟩
  · rw [hidx]
    rcases (hslot j k' v').mp hj with ⟨ej, ek, ex⟩ | ⟨ej, hj⟩
    · rw [ek, ej, ex, if_pos rfl]; rfl
    · by_cases eh : hash k = hash k'
      · rw [← hinj _ _ eh] at hj; exact absurd (honly j v' hj) ej
      · rw [if_neg eh]; exact h.indexed j k' v' hj
  · rw [hidx] at hy'
    by_cases eh : hash k = y
    · rw [if_pos eh] at hy'
      cases x with
      | none => cases hy'
      | some v =>
        cases hy'
        exact ⟨k, v, (hslot i k v).mpr (Or.inl ⟨rfl, rfl, rfl⟩), eh⟩
    · rw [if_neg eh] at hy'
      obtain ⟨k', v', hs, hh⟩ := h.points y j hy'
      have ej : j ≠ i := by
        intro ej
        rw [ej] at hs
        rw [hold k' v' hs] at hh
        exact eh hh
      exact ⟨k', v', (hslot j k' v').mpr (Or.inr ⟨ej, hs⟩), hh⟩
  · rw [rl_aget_entries hu']
    by_cases e : k = k'
    · subst e
      rw [if_pos rfl]
      constructor
      · rintro ⟨j, hj⟩
        rcases (hslot j k w).mp hj with ⟨_, _, ex⟩ | ⟨ej, hj⟩
        · exact ex
        · exact absurd (honly j w hj) ej
      · intro hw
        exact ⟨i, (hslot i k w).mpr (Or.inl ⟨rfl, rfl, hw⟩)⟩
    · rw [if_neg e, rl_aget_entries h.uniq]
      constructor
      · rintro ⟨j, hj⟩
        rcases (hslot j k' w).mp hj with ⟨_, ek, _⟩ | ⟨_, hj⟩
        · exact absurd ek.symm e
        · exact ⟨j, hj⟩
      · rintro ⟨j, hj⟩
        have ej : j ≠ i := by
          intro ej
          rw [ej] at hj
          exact e (hold k' w hj).symm
        exact ⟨j, (hslot j k' w).mpr (Or.inr ⟨ej, hj⟩)⟩

/-- `CacheRing::put` with room: the slab as a map gets `k ↦ v`, at most one empty slot is used -/
theorem RWF.put {c : RingCfg} (hinj : ∀ a b : Key, c.hash a = c.hash b → a = b) {r : Ring}
    (h : RWF c.hash r) (hf : 0 < rl_free r.slots) (k : Key) (v : Val) :
    RWF c.hash (ringPut c r k v) ∧
    (∀ k', aget (ringEntries (ringPut c r k v)) k' = aget (aset (ringEntries r) k v) k') ∧
    rl_free r.slots ≤ rl_free (ringPut c r k v).slots + 1 := by
  simp only [aget_aset]
  unfold ringPut
  cases hl : ringLookup c r k with
  | some i =>
    obtain ⟨v0, hv0⟩ := h.lookup_holds hinj hl
    simp only [rl_holds_of_slot hv0, if_true]
    exact h.set hinj (Ring.slot_lt hv0) k (some v) rfl
      (fun j v' hj => h.uniq j i k v' v0 hj hv0)
      (fun k'' v'' hs => by rw [hv0] at hs; cases hs; rfl)
      (fun y => by
        split
        · rename_i e; rw [← e]; exact hl
        · rfl)
  | none =>
    dsimp only
    obtain ⟨j, hj1, hj2⟩ := rl_firstEmpty r.slots 0 hf
    have hfs : findSlot c r = j := by
      simp only [findSlot, hj1, Nat.zero_add]
    have hsj : r.slot j = none := by unfold Ring.slot; rw [hj2]
    exact h.set hinj (List.getElem?_eq_some_iff.mp hj2).1 k (some v) (by rw [← hfs]; rfl)
      (fun j' v' hs => by
        have := h.indexed j' k v' hs
        rw [show aget r.index (c.hash k) = none from hl] at this
        cases this)
      (fun k'' v'' hs => by rw [hsj] at hs; cases hs)
      (fun y => by simp only [ringInsert, hfs, hsj]; exact aget_aset _ _ _ _)

/-- `CacheRing::delete` of a present key: the slab as a map loses `k` -/
theorem RWF.delete {c : RingCfg} (hinj : ∀ a b : Key, c.hash a = c.hash b → a = b) {r : Ring}
    (h : RWF c.hash r) {k : Key} {v0 : Val} (hp : aget (ringEntries r) k = some v0) :
    RWF c.hash (ringDelete c r k).1 ∧
    (∀ k', aget (ringEntries (ringDelete c r k).1) k' = aget (aerase (ringEntries r) k) k') ∧
    rl_free r.slots ≤ rl_free (ringDelete c r k).1.slots + 1 := by
  obtain ⟨i, hi⟩ := (rl_aget_entries h.uniq k v0).mp hp
  have hl : ringLookup c r k = some i := h.indexed i k v0 hi
  have heq : (ringDelete c r k).1 = { slots := r.slots.set i none, index := aerase r.index (c.hash k) } := by
    simp only [ringDelete, hl, rl_holds_of_slot hi, if_true]
  rw [heq]
  simp only [aget_aerase]
  exact h.set hinj (Ring.slot_lt hi) k none rfl
    (fun j v' hj => h.uniq j i k v' v0 hj hi)
    (fun k'' v'' hs => by rw [hi] at hs; cases hs; rfl)
    (fun y => aget_aerase _ _ _)

/-! ### one atomic step of the fine machine against the specification -/

theorem rl_seqValid_append (σ : Spec) (l : List OpRec) (r : OpRec) :
    SeqValid σ (l ++ [r]) ↔
      SeqValid σ l ∧ specOk (specRun σ (l.map (·.op))) r.op r.res := by
  induction l generalizing σ with
  | nil => simp [SeqValid, specRun]
  | cons a l ih =>
    simp only [List.cons_append, SeqValid, List.map_cons, specRun, List.foldl_cons]
    rw [ih]
    simp only [specRun, and_assoc]

/-- an operation on a key that is no cache key never touches the cache slab -/
theorem rl_stepOp_cache_irrel (b : Store) (cc : List (Key × Val)) (op : Op) (hs : op.singleStep)
    (hk : op.cacheKey? = none) (hns : ∀ p, op ≠ .scan p) :
    stepOp { b with cache := cc } op .start =
      ({ (stepOp b op .start).1 with cache := cc }, (stepOp b op .start).2) := by
  have hc : ∀ k, op.key? = some k → k.cls ≠ .cache := fun k hk' e => by
    rw [cacheKey_some hk' e] at hk; cases hk
  cases op with
  | scan p => exact absurd rfl (hns p)
  | put k v =>
    show routerPut _ k v = ({ (routerPut b k v).1 with cache := cc }, (routerPut b k v).2)
    rw [routerPut_md hs (hc k rfl), routerPut_md hs (hc k rfl)]
  | get k =>
    show routerGet _ k = ({ (routerGet b k).1 with cache := cc }, (routerGet b k).2)
    rw [routerGet_md hs (hc k rfl), routerGet_md hs (hc k rfl)]
    rfl
  | exists_ k =>
    show (_, Outcome.done (.bool (existsNow _ k))) = (_, Outcome.done (.bool (existsNow b k)))
    rw [existsNow_md hs (hc k rfl), existsNow_md hs (hc k rfl)]
    rfl
  | delete k =>
    have he : existsNow { b with cache := cc } k = existsNow b k := by
      rw [existsNow_md hs (hc k rfl), existsNow_md hs (hc k rfl)]
    show routerDelete _ k = ({ (routerDelete b k).1 with cache := cc }, (routerDelete b k).2)
    cases h : existsNow b k with
    | false => rw [routerDelete_absent h, routerDelete_absent (he.trans h)]
    | true => rw [routerDelete_md hs (hc k rfl) h, routerDelete_md hs (hc k rfl) (he.trans h)]
  | putD k _ | delD k => exact absurd hs (hc k rfl)

/-- steps on keys that are no cache keys: `Model.stepOp` on the other slabs, seen through the view -/
theorem rl_step_base {c : RingCfg} {rs : RStore} {σ : Spec} (habs : Abs rs.view σ) (op : Op)
    (hs : op.singleStep) (hsb : op.scanStr = true) (hk : op.cacheKey? = none) :
    ∃ rs' r, stepOpR c rs op (.hook .start) = (rs', .done r) ∧ resEquiv r (specRes σ op) ∧
      Abs rs'.view (specApply σ op) ∧ rs'.ring = rs.ring := by
  obtain ⟨s', r, hstep, hres, habs'⟩ := single_step_refines habs op hs hsb
  by_cases hns : ∃ p, op = .scan p
  · obtain ⟨p, rfl⟩ := hns
    cases hstep
    exact ⟨rs, _, rfl, hres, habs', rfl⟩
  have hns : ∀ p, op ≠ .scan p := fun p e => hns ⟨p, e⟩
  have hv : rs.view = { rs.base with cache := ringEntries rs.ring } := rfl
  rw [hv, rl_stepOp_cache_irrel rs.base (ringEntries rs.ring) op hs hk hns] at hstep
  obtain ⟨h1, h2⟩ := Prod.mk.inj hstep
  subst h1
  exact ⟨{ rs with base := (stepOp rs.base op .start).1 }, r,
    by rw [stepOpR_hook_base c rs .start hk hns, h2]; rfl, hres, habs', rfl⟩

theorem rl_abs_get {rs : RStore} {σ : Spec} (habs : Abs rs.view σ) {k : Key} (hc : k.cls = .cache) :
    aget σ k = aget (ringEntries rs.ring) k :=
  (habs.get k).trans (if_pos hc)

theorem rl_step_delete {c : RingCfg} (hinj : ∀ a b : Key, c.hash a = c.hash b → a = b)
    {rs : RStore} {σ : Spec} (habs : Abs rs.view σ) (hwf : RWF c.hash rs.ring)
    (k : Key) (hc : k.cls = .cache) :
    ∃ rs' r, (if ringContains c rs.ring k then
        (({ rs with ring := (ringDelete c rs.ring k).1 } : RStore), ROutcome.done .ok)
        else (rs, .done .notFound)) = (rs', .done r) ∧
      resEquiv r (specRes σ (.delete k)) ∧ Abs rs'.view (specApply σ (.delete k)) ∧
      RWF c.hash rs'.ring ∧ rl_free rs.ring.slots ≤ rl_free rs'.ring.slots + 1 := by
  have hg := rl_abs_get habs hc
  rw [hwf.contains_eq hinj k]
  cases hp : aget (ringEntries rs.ring) k with
  | none =>
    simp only [specRes, specApply, specStep, hg, hp]
    exact ⟨rs, .notFound, rfl, rfl, habs, hwf, Nat.le_succ _⟩
  | some v0 =>
    obtain ⟨h1, h2, h3⟩ := hwf.delete hinj hp
    simp only [specRes, specApply, specStep, hg, hp]
    exact ⟨_, .ok, rfl, rfl, rl_abs_congr (habs.delCache k hc) rfl rfl h2, h1, h3⟩

/-- the FIRST step of an operation: it completes with a result the specification allows and the
    abstraction, the ring's well-formedness and (up to one slot) the room are kept - or it is the
    index lookup of a `get` of a cache key that found a slot number -/
theorem rl_step_start {c : RingCfg} (hinj : ∀ a b : Key, c.hash a = c.hash b → a = b)
    {rs : RStore} {σ : Spec} (habs : Abs rs.view σ) (hwf : RWF c.hash rs.ring)
    (hf : 0 < rl_free rs.ring.slots) (op : Op) (hs : op.singleStep) (hsb : op.scanStr = true) :
    (∃ i k, op = .get k ∧ k.cls = .cache ∧
      stepOpR c rs op (.hook .start) = (rs, .cont (.ringGetAfterIndex i))) ∨
    (∃ rs' r, stepOpR c rs op (.hook .start) = (rs', .done r) ∧ specOk σ op r ∧
      Abs rs'.view (specApply σ op) ∧ RWF c.hash rs'.ring ∧
      rl_free rs.ring.slots ≤ rl_free rs'.ring.slots + 1) := by
  cases hck : op.cacheKey? with
  | none =>
    obtain ⟨rs', r, h1, h2, h3, h4⟩ := rl_step_base (c := c) habs op hs hsb hck
    exact Or.inr ⟨rs', r, h1, Or.inl h2, h3, h4 ▸ hwf, by rw [h4]; exact Nat.le_succ _⟩
  | some k0 =>
    have hcls : ∀ k, op.key? = some k → k.cls = .cache := fun k hk =>
      Decidable.byContradiction fun hne => by rw [cacheKey_none hk hne] at hck; cases hck
    rw [stepOpR_hook_cache c rs .start hck]
    cases op with
    | scan p => cases hck
    | put k v | putD k v =>
      obtain ⟨h1, h2, h3⟩ := hwf.put hinj hf k v
      exact Or.inr ⟨_, .ok, rfl, Or.inl rfl,
        rl_abs_congr (habs.setCache k v (hcls k rfl)) rfl rfl h2, h1, h3⟩
    | get k =>
      simp only [ringStep]
      cases hl : ringLookup c rs.ring k with
      | some i => exact Or.inl ⟨i, k, rfl, hcls k rfl, rfl⟩
      | none => exact Or.inr ⟨rs, .notFound, rfl, Or.inr (hcls k rfl), habs, hwf, Nat.le_succ _⟩
    | exists_ k =>
      refine Or.inr ⟨rs, _, rfl, Or.inl ?_, habs, hwf, Nat.le_succ _⟩
      rw [hwf.contains_eq hinj k, ← rl_abs_get habs (hcls k rfl)]
      rfl
    | delete k | delD k =>
      obtain ⟨rs', r, h1, h2, h3, h4, h5⟩ := rl_step_delete hinj habs hwf k (hcls k rfl)
      exact Or.inr ⟨rs', r, h1, Or.inl h2, h3, h4, h5⟩

/-- the SECOND step of a `get` of a cache key (the slot read with the key comparison): the key's
    CURRENT value, or NotFound -/
theorem rl_step_after {c : RingCfg} (hc : c.keyCheck = true) {rs : RStore} {σ : Spec}
    (habs : Abs rs.view σ) (hwf : RWF c.hash rs.ring) (k : Key) (hk : k.cls = .cache) (i : Nat) :
    ∃ r, stepOpR c rs (.get k) (.ringGetAfterIndex i) = (rs, .done r) ∧ specOk σ (.get k) r := by
  simp only [stepOpR]
  cases hr : ringRead c rs.ring k i with
  | none => exact ⟨.notFound, rfl, Or.inr hk⟩
  | some v =>
    refine ⟨.found v, rfl, Or.inl ?_⟩
    have hg := rl_abs_get habs hk
    rw [(rl_aget_entries hwf.uniq k v).mpr ⟨i, ringRead_some hc hr⟩] at hg
    simp only [specRes, specStep, hg]
    rfl

/-! ### the invariant of a run -/

/-- where a thread may be parked: at the entry of its next operation, or between the two lock
    sections of a `get` of a cache key it invoked at an earlier step -/
def rl_ThreadOk (clock : Nat) (th : RThread) : Prop :=
  (∀ op ∈ th.ops, op.singleStep ∧ op.scanStr = true) ∧
  (th.pc = .hook .start ∨
    ∃ i k rest, th.pc = .ringGetAfterIndex i ∧ th.ops = .get k :: rest ∧ k.cls = .cache ∧ th.inv < clock)

theorem rl_ThreadOk.mono {clock : Nat} {th : RThread} (h : rl_ThreadOk clock th) :
    rl_ThreadOk (clock + 1) th := by
  refine ⟨h.1, ?_⟩
  rcases h.2 with h2 | ⟨i, k, rest, h1, h2, h3, h4⟩
  · exact Or.inl h2
  · exact Or.inr ⟨i, k, rest, h1, h2, h3, Nat.lt_succ_of_lt h4⟩

structure RLInv (hash : Key → Nat) (cap : Nat) (sys : RSys) : Prop where
  abs : Abs sys.store.view (specRun [] (sys.hist.map (·.op)))
  wf : RWF hash sys.store.ring
  room : cap ≤ rl_free sys.store.ring.slots + sys.clock
  valid : SeqValid [] sys.hist
  threads : ∀ th ∈ sys.threads, rl_ThreadOk sys.clock th
  times : ∀ r ∈ sys.hist, r.inv ≤ r.ret ∧ r.ret < sys.clock
  sorted : sys.hist.Pairwise (fun a b => a.ret < b.ret)

theorem RLInv.init (hash : Key → Nat) (cap : Nat) (walOn : Bool) (progs : List ThreadProgram)
    (h : ∀ p ∈ progs, ∀ op ∈ p, op.singleStep ∧ op.scanStr = true) :
    RLInv hash cap (initRSys cap walOn progs) := by
  have he : ringEntries (Ring.new cap) = [] :=
    List.filterMap_eq_nil_iff.mpr fun a ha => by rw [List.eq_of_mem_replicate ha]; rfl
  refine ⟨rl_abs_congr (Abs.init walOn) rfl rfl fun k => congrArg (aget · k) he, RWF.new hash cap,
    Nat.le_of_eq (rl_free_replicate cap).symm, trivial, fun th hth => ?_, fun r hr => (by cases hr),
    List.Pairwise.nil⟩
  obtain ⟨p, hp, rfl⟩ := List.mem_map.mp hth
  exact ⟨h p hp, Or.inl rfl⟩

/-- the part of the invariant that a completed operation extends -/
theorem RLInv.done {hash : Key → Nat} {cap : Nat} {sys : RSys} (h : RLInv hash cap sys)
    {t : Nat} {th : RThread} {op : Op} {rest : List Op} (hops : th.ops = op :: rest)
    (hmem : th ∈ sys.threads) {s' : RStore} {r : Res} {inv : Nat} {tr : List (Nat × Op × RPC)}
    (hinv : inv ≤ sys.clock)
    (hok : specOk (specRun [] (sys.hist.map (·.op))) op r)
    (habs : Abs s'.view (specApply (specRun [] (sys.hist.map (·.op))) op))
    (hwf : RWF hash s'.ring) (hroom : rl_free sys.store.ring.slots ≤ rl_free s'.ring.slots + 1) :
    RLInv hash cap
      { store := s',
        threads := sys.threads.set t { ops := rest, pc := .hook .start, idx := th.idx + 1, inv := 0 },
        hist := sys.hist ++ [{ t := t, i := th.idx, op := op, res := r, inv := inv, ret := sys.clock }],
        clock := sys.clock + 1, trace := tr } := by
  have hro := h.room
  constructor
  · simp only [List.map_append, List.map_cons, List.map_nil, specRun_append]
    exact habs
  · exact hwf
  · dsimp only; omega
  · exact (rl_seqValid_append _ _ _).mpr ⟨h.valid, hok⟩
  · intro th' hm
    rcases List.mem_or_eq_of_mem_set hm with h1 | h1
    · exact (h.threads th' h1).mono
    · subst h1
      exact ⟨fun o ho => (h.threads th hmem).1 o (by rw [hops]; exact List.mem_cons_of_mem _ ho), Or.inl rfl⟩
  · intro x hx
    rcases List.mem_append.mp hx with hx | hx
    · exact ⟨(h.times x hx).1, Nat.lt_succ_of_lt (h.times x hx).2⟩
    · cases List.mem_singleton.mp hx; exact ⟨hinv, Nat.lt_succ_self _⟩
  · exact pairwise_snoc.mpr ⟨h.sorted, fun a ha => (h.times a ha).2⟩

theorem RLInv.step {c : RingCfg} (hc : c.keyCheck = true)
    (hinj : ∀ a b : Key, c.hash a = c.hash b → a = b) {cap : Nat} {sys : RSys}
    (h : RLInv c.hash cap sys) (hlt : sys.clock < cap) (t : Nat) :
    RLInv c.hash cap (stepR c sys t) ∧ (stepR c sys t).clock ≤ sys.clock + 1 := by
  rw [stepR_eq]
  rcases stepRWith_cases (stepOpR c) sys t with e | ⟨th, op, rest, hth, hops, hstep⟩
  · rw [e]; exact ⟨h, Nat.le_succ _⟩
  have hmem : th ∈ sys.threads := List.mem_of_getElem? hth
  obtain ⟨hss, hpc⟩ := h.threads th hmem
  have hop := hss op (by rw [hops]; exact List.mem_cons_self)
  have hro := h.room
  have hf : 0 < rl_free sys.store.ring.slots := by omega
  rcases hpc with hpc | ⟨i, k, rest', hpc, hops', hk, hinv⟩
  · rw [hpc] at hstep
    rcases rl_step_start hinj h.abs h.wf hf op hop.1 hop.2 with
      ⟨i, k, hopk, hk, hs⟩ | ⟨rs', r, hs, hok, habs, hwf, hroom⟩
    · -- the index lookup of a `get` of a cache key: the thread is parked, nothing else changes
      rw [hstep _ _ hs]
      refine ⟨⟨h.abs, h.wf, by dsimp only; omega, h.valid, fun th' hm => ?_,
        fun x hx => ⟨(h.times x hx).1, Nat.lt_succ_of_lt (h.times x hx).2⟩, h.sorted⟩, Nat.le_refl _⟩
      rcases List.mem_or_eq_of_mem_set hm with h1 | h1
      · exact (h.threads th' h1).mono
      · subst h1
        exact ⟨hss, Or.inr ⟨i, k, rest, rfl, by rw [hops, hopk], hk, Nat.lt_succ_self _⟩⟩
    · rw [hstep _ _ hs]
      exact ⟨h.done hops hmem (Nat.le_refl _) hok habs hwf hroom, Nat.le_refl _⟩
  · rw [hops] at hops'
    cases hops'
    obtain ⟨r, hs, hok⟩ := rl_step_after hc h.abs h.wf k hk i
    rw [hpc] at hstep
    rw [hstep _ _ hs]
    exact ⟨h.done hops hmem (Nat.le_of_lt hinv) hok h.abs h.wf (Nat.le_succ _), Nat.le_refl _⟩

theorem RLInv.run {c : RingCfg} (hc : c.keyCheck = true)
    (hinj : ∀ a b : Key, c.hash a = c.hash b → a = b) {cap : Nat} {sys : RSys}
    (h : RLInv c.hash cap sys) (sched : List Nat) (hlen : sys.clock + sched.length ≤ cap) :
    RLInv c.hash cap (runFromR c sys sched) := by
  induction sched generalizing sys with
  | nil => exact h
  | cons t rest ih =>
    simp only [List.length_cons] at hlen
    obtain ⟨h1, h2⟩ := h.step hc hinj (by omega) t
    exact ih h1 (by omega)

theorem RLInv.respectsRealTime {hash : Key → Nat} {cap : Nat} {sys : RSys} (h : RLInv hash cap sys) :
    RespectsRealTime sys.hist := by
  refine List.Pairwise.imp_of_mem ?_ h.sorted
  intro a b ha _ hab hba
  have := (h.times a ha).1
  omega

theorem RLInv.linearizable {hash : Key → Nat} {cap : Nat} {sys : RSys} (h : RLInv hash cap sys) :
    Linearizable sys.hist :=
  ⟨sys.hist, List.Perm.refl _, h.valid, h.respectsRealTime⟩

/-- THE CODE (`keyCheck`), an injective hash, a schedule no longer than the ring capacity (no
    eviction): every interleaving of single-step operations and two-step `get`s of cache keys is
    linearizable against the key ↦ value specification, in the order of completion -/
theorem ring_run_linearizable (hash : Key → Nat) (hinj : ∀ a b : Key, hash a = hash b → a = b)
    (pick : List (Option (Key × Val)) → Nat) (cap : Nat) (walOn : Bool)
    (progs : List ThreadProgram) (sched : List Nat)
    (hops : ∀ p ∈ progs, ∀ op ∈ p, op.singleStep ∧ op.scanStr = true)
    (hcap : sched.length ≤ cap) :
    let sys := runSchedR { hash := hash, pick := pick, keyCheck := true } cap walOn progs sched
    SeqValid [] sys.hist ∧ RespectsRealTime sys.hist ∧ Linearizable sys.hist ∧
    Abs sys.store.view (specRun [] (sys.hist.map (·.op))) := by
  intro sys
  have h : RLInv hash cap sys :=
    RLInv.run (c := { hash := hash, pick := pick, keyCheck := true }) rfl hinj
      (RLInv.init hash cap walOn progs hops) sched (by simpa [initRSys] using hcap)
  exact ⟨h.valid, h.respectsRealTime, h.linearizable, h.abs⟩


/-! ### non-vacuity -/

/-- an injective hash: the bytes of the key as one number (`2^a * odd`, nested) -/
def rl_enc : List Nat → Nat
  | [] => 0
  | a :: l => 2 ^ a * (2 * rl_enc l + 1)

theorem rl_even_ne_odd (n m : Nat) : 2 * n ≠ 2 * m + 1 := by omega

theorem rl_pow_odd_inj (a b x y : Nat) (h : 2 ^ a * (2 * x + 1) = 2 ^ b * (2 * y + 1)) :
    a = b ∧ x = y := by
  have e : ∀ n z, 2 ^ (n + 1) * z = 2 * (2 ^ n * z) := fun n z => by
    rw [Nat.pow_succ', Nat.mul_assoc]
  induction a generalizing b with
  | zero =>
    cases b with
    | zero =>
      rw [Nat.pow_zero, Nat.one_mul, Nat.one_mul] at h
      exact ⟨rfl, Nat.eq_of_mul_eq_mul_left (by decide) (Nat.add_right_cancel h)⟩
    | succ b =>
      rw [Nat.pow_zero, Nat.one_mul, e] at h
      exact absurd h.symm (rl_even_ne_odd _ _)
  | succ a ih =>
    cases b with
    | zero =>
      rw [Nat.pow_zero, Nat.one_mul, e] at h
      exact absurd h (rl_even_ne_odd _ _)
    | succ b =>
      rw [e, e] at h
      obtain ⟨h1, h2⟩ := ih b (Nat.eq_of_mul_eq_mul_left (by decide) h)
      exact ⟨congrArg _ h1, h2⟩

theorem rl_enc_inj : ∀ l m : List Nat, rl_enc l = rl_enc m → l = m
  | [], [], _ => rfl
  | [], b :: m, h =>
      absurd h (Nat.ne_of_lt (Nat.mul_pos (Nat.two_pow_pos b) (Nat.succ_pos _)))
  | a :: l, [], h =>
      absurd h.symm (Nat.ne_of_lt (Nat.mul_pos (Nat.two_pow_pos a) (Nat.succ_pos _)))
  | a :: l, b :: m, h => by
      obtain ⟨h1, h2⟩ := rl_pow_odd_inj _ _ _ _ h
      rw [h1, rl_enc_inj l m h2]

/-- a hash function without collisions -/
def rl_hashInj (k : Key) : Nat := rl_enc k.bytes

theorem rl_hashInj_inj (a b : Key) (h : rl_hashInj a = rl_hashInj b) : a = b := by
  cases a; cases b
  simp only [Key.mk.injEq]
  exact rl_enc_inj _ _ h

/-- a two-step `get` that OVERLAPS a put of its key: put 1; the reader's index lookup; the other
    thread's put 2 (ret 2, inside the get's interval 1..3); the reader's slot read finds 2 -/
def rl_overlapProgs : List ThreadProgram :=
  [[.put kC1 ⟨1, .none⟩, .get kC1], [.put kC1 ⟨2, .none⟩]]

def rl_overlapSched : List Nat := [0, 0, 1, 0]

def rl_overlapHist : List OpRec :=
  [{ t := 0, i := 0, op := .put kC1 ⟨1, .none⟩, res := .ok, inv := 0, ret := 0 },
   { t := 1, i := 0, op := .put kC1 ⟨2, .none⟩, res := .ok, inv := 2, ret := 2 },
   { t := 0, i := 1, op := .get kC1, res := .found ⟨2, .none⟩, inv := 1, ret := 3 }]

/-- the run under the hash of the witness programs of `Ring.lean` (injective on the keys used,
    not on all keys): the concrete history, and it is a legal sequential execution -/
example :
    let sys := runSchedR (cfgOf hashLastByte true) 4 false rl_overlapProgs rl_overlapSched
    sys.hist = rl_overlapHist ∧ SeqValid [] sys.hist ∧ rl_overlapSched.length ≤ 4 ∧
    (∀ p ∈ rl_overlapProgs, ∀ op ∈ p, op.singleStep ∧ op.scanStr = true) := by
  decide +kernel

/-- the theorem instantiated: its hypotheses are satisfiable (an injective hash exists) and the
    run it speaks about contains the overlapping two-step `get` -/
example :
    let sys := runSchedR { hash := rl_hashInj, pick := fun _ => 0, keyCheck := true } 4 false
      rl_overlapProgs rl_overlapSched
    sys.hist = rl_overlapHist ∧
    (SeqValid [] sys.hist ∧ RespectsRealTime sys.hist ∧ Linearizable sys.hist ∧
      Abs sys.store.view (specRun [] (sys.hist.map (·.op)))) :=
  ⟨by decide +kernel,
   ring_run_linearizable rl_hashInj rl_hashInj_inj (fun _ => 0) 4 false rl_overlapProgs
     rl_overlapSched (by decide +kernel) (by decide +kernel)⟩


end Neumann.KV
