import NeumannModel.KV.Lemmas
/-
  C11 — the prefix scan, byte for byte.

  Specification: `scan(prefix)` returns exactly the keys that are present and start with `prefix`
  (byte-wise, `str::starts_with`).  The code (`SlabRouter::scan`, Model.`scanNow`): the entity index
  and the cache ring filter by `starts_with`; `MetadataSlab::scan` reads the shard of the prefix's
  first byte and there the `BTreeMap` range `prefix .. next_prefix(prefix)` - or, when `next_prefix`
  is `None`, `range(prefix ..)` while the key starts with the prefix (repo 27855097; before that
  commit: the rest of the shard, Model.`scanNowOld`).
-/
namespace Neumann.KV.ScanProps
open Neumann.KV

/-- THE STATEMENT, over a scan function: for every store and every prefix that is a string, the
    scan lists exactly the listed-at-all keys that start with the prefix -/
def ScanExact (scan : Store → List Nat → List Key) : Prop :=
  ∀ (s : Store) (p : List Nat), validUtf8 p = true →
    ∀ k, k ∈ scan s p ↔ (isPfx p k.bytes = true ∧ k ∈ scan s [])

/-- FULL STRENGTH for the current code: EVERY store (any slabs, any keys - any byte strings, of
    every class, in the metadata slab, the entity index or the cache ring), EVERY prefix that is a
    string (with or without an end key, cutting across key classes or not, empty or not), every
    key: `SlabRouter::scan(p)` lists the key iff the key starts with `p` and is listed at all; the
    metadata range selects `k` iff `k` starts with `p`. -/
theorem scan_exact : ScanExact scanNow ∧
    ∀ (p : List Nat), validUtf8 p = true → ∀ k, mdMatch p k = isPfx p k.bytes := by
  refine ⟨?_, fun p hv k => mdMatch_eq_pmatch hv k⟩
  intro s p hv k
  have hm : ∀ k, mdMatch p k = pmatch p k := fun k => mdMatch_eq_pmatch hv k
  have h0 : ∀ k, mdMatch [] k = true := fun k => by simp [mdMatch]
  simp only [scanNow, List.mem_append, List.mem_filter, hm, h0, pmatch, isPfx_nil_left, and_true]
  grind

/-- non-vacuity: prefix `e` over a store with a metadata key, an entity-index key without
    metadata, a cache key and keys of other shards / other first letters; the prefix `a` DEL (no
    end key) over a store with `q1` in the same shard; `ÿ` over `ӿx` and `ÿ1` -/
example :
    validUtf8 [101] = true ∧ validUtf8 [97, 127] = true ∧ validUtf8 [195, 191] = true ∧
    scanNow { md := [(⟨[101, 118, 101]⟩, ⟨1, .none⟩), (mkKey .plain 1, ⟨2, .none⟩), (mkKey .emb 1, ⟨3, .good 3⟩)],
              vocab := [(mkKey .emb 1, true), (mkKey .emb 2, true), (mkKey .emb 3, false)],
              cache := [(mkKey .cache 1, ⟨4, .none⟩)] } [101]
      = [⟨[101, 118, 101]⟩, mkKey .emb 1, mkKey .emb 1, mkKey .emb 2] ∧
    scanNow { md := [(⟨[97, 127, 120]⟩, ⟨2, .none⟩), (⟨[113, 49]⟩, ⟨1, .none⟩)] } [97, 127]
      = [⟨[97, 127, 120]⟩] ∧
    scanNow { md := [(⟨[211, 191, 120]⟩, ⟨1, .none⟩), (⟨[195, 191, 49]⟩, ⟨1, .none⟩)] } [195, 191]
      = [⟨[195, 191, 49]⟩] ∧
    (runSched false [[.put ⟨[113, 49]⟩ ⟨1, .none⟩, .put ⟨[97, 127, 120]⟩ ⟨2, .none⟩, .scan [97, 127]]]
        [0, 0, 0]).hist.map (·.res) = [.ok, .ok, .keys [⟨[97, 127, 120]⟩]] := by decide +kernel

/-- FULL STRENGTH for the mechanism `next_prefix` relies on: for EVERY byte string `q`, byte `b` and
    key `k` (any bytes, any length), `k` lies in the range `q ++ [b] .. q ++ [b + 1]` of the byte-wise
    order iff `k` starts with `q ++ [b]` -/
theorem range_up_to_successor_is_the_prefix_set (q : List Nat) (b : Nat) (k : List Nat) :
    (bleq (q ++ [b]) k = true ∧ blt k (q ++ [b + 1]) = true) ↔ isPfx (q ++ [b]) k = true := by
  rw [← range_succ_last q b k, Bool.and_eq_true]

/-- FULL STRENGTH: which prefixes have an end key.  For every non-empty string `p`, `next_prefix p`
    is `p` with its last byte plus one when that is UTF-8, and it is `None` EXACTLY when the last
    byte of `p` is `0x7F` (DEL) or `0xBF` (the last byte of every character whose code point is
    63 mod 64: U+00BF `¿`, U+00FF `ÿ`, U+043F `п`, U+04FF, U+FFFF, ...) -/
theorem bounded_prefix_iff (p : List Nat) (hv : validUtf8 p = true) (hp : p ≠ []) :
    ∃ q b, p = q ++ [b] ∧ b < 0xC0 ∧
      (boundedPrefix p = true ↔ (b ≠ 0x7F ∧ b ≠ 0xBF)) ∧
      (boundedPrefix p = true → nextPrefix p = some (q ++ [b + 1])) := by
  obtain ⟨q, b, rfl⟩ := exists_snoc hp
  obtain ⟨hlt, hn⟩ := nextPrefix_snoc hv
  have hbd : boundedPrefix (q ++ [b]) = true ↔ (nextPrefix (q ++ [b])).isSome = true := by
    simp [boundedPrefix_iff, hp, hv]
  refine ⟨q, b, rfl, hlt, ?_, ?_⟩ <;> rw [hbd, hn] <;> split
  · simp only [Option.isSome_none, Bool.false_eq_true, false_iff]; omega
  · simp only [Option.isSome_some, true_iff]; omega
  · simp
  · exact fun _ => rfl

/-- the prefixes of the key classes, and ASCII prefixes in general: every non-empty prefix of
    bytes below `0x7F` has an end key -/
theorem ascii_prefix_bounded (p : List Nat) (h : ∀ b ∈ p, b < 0x7F) : boundedPrefix p = true := by
  by_cases hp : p = []
  · subst hp; rfl
  · have hrun : ∀ l : List Nat, (∀ b ∈ l, b < 0x7F) → u8run .s0 l = some .s0 := by
      intro l hl
      induction l with
      | nil => rfl
      | cons x l ih =>
        have hx : x < 0x80 := Nat.lt_succ_of_lt (hl x List.mem_cons_self)
        simp only [u8run, u8step, hx, if_true]
        exact ih (fun b hb => hl b (List.mem_cons_of_mem _ hb))
    have hv : validUtf8 p = true := by simp [validUtf8, hrun p h]
    obtain ⟨q, b, hqb, _, hiff, _⟩ := bounded_prefix_iff p hv hp
    apply hiff.mpr
    have hb : b < 0x7F := h b (by rw [hqb]; simp)
    omega

/-- non-vacuity / the prefixes the engines use: `user:` `node:` `edge:` `table:` `_cache:` `emb:` -/
example : (∀ p ∈ [pfxUser, pfxNode, pfxEdge, pfxTable, pfxCache, pfxEmb], boundedPrefix p = true) ∧
    nextPrefix pfxEmb = some [101, 109, 98, 59] ∧
    -- `é` (C3 A9) has the end key `ê` (C3 AA); `п` (D0 BF), `ÿ` (C3 BF), `a` DEL have none
    nextPrefix [0xC3, 0xA9] = some [0xC3, 0xAA] ∧ nextPrefix [0xD0, 0xBF] = none ∧
    nextPrefix [0xC3, 0xBF] = none ∧ nextPrefix [97, 0x7F] = none := by decide +kernel

/-- THE CODE BEFORE 27855097 (`scanNowOld`) did not have the property (sequentially, no threads
    needed).  With `q1` and `a\x7fx` in the store, `scan("a\x7f")` returned BOTH keys:
    `next_prefix("a\x7f")` builds the bytes `61 80`, which are not UTF-8, answers `None`, and
    `MetadataSlab::scan` fell back to "the rest of the shard" (`q` and `a` are both 1 mod 16).  The
    same with `ӿx` (D3 BF 78) and `scan("ÿ")` (C3 BF).  On the current code the same stores give
    the exact answers. -/
theorem scan_prefix_without_successor_old_witness :
    scanNowOld { md := [(⟨[97, 127, 120]⟩, ⟨2, .none⟩), (⟨[113, 49]⟩, ⟨1, .none⟩)] } [97, 127]
      = [⟨[97, 127, 120]⟩, ⟨[113, 49]⟩] ∧
    isPfx [97, 127] [113, 49] = false ∧
    scanNowOld { md := [(⟨[211, 191, 120]⟩, ⟨1, .none⟩)] } [195, 191] = [⟨[211, 191, 120]⟩] ∧
    isPfx [195, 191] [211, 191, 120] = false ∧
    validUtf8 [97, 127] = true ∧ validUtf8 [195, 191] = true ∧
    boundedPrefix [97, 127] = false ∧ boundedPrefix [195, 191] = false ∧
    ¬ ScanExact scanNowOld ∧
    scanNow { md := [(⟨[97, 127, 120]⟩, ⟨2, .none⟩), (⟨[113, 49]⟩, ⟨1, .none⟩)] } [97, 127]
      = [⟨[97, 127, 120]⟩] ∧
    scanNow { md := [(⟨[211, 191, 120]⟩, ⟨1, .none⟩)] } [195, 191] = [] := by
  refine ⟨by decide +kernel, by decide +kernel, by decide +kernel, by decide +kernel, by decide +kernel, by decide +kernel, by decide +kernel, by decide +kernel, ?_,
    by decide +kernel, by decide +kernel⟩
  intro h
  have := (h { md := [(⟨[113, 49]⟩, ⟨1, .none⟩)] } [97, 127] (by decide +kernel) ⟨[113, 49]⟩).mp (by decide +kernel)
  revert this
  decide +kernel

/-- the defect of the old code was confined to the prefixes without an end key, and there the
    over-return was EXACTLY the rest of the shard: for every store, on a prefix with an end key the
    old scan was exact; on a string without one it listed a key iff the key starts with the prefix
    and is listed at all, or is a metadata key of the prefix's shard that is greater than the prefix -/
theorem scan_old_exact_iff_prefix_bounded (s : Store) (p : List Nat) (hv : validUtf8 p = true) (k : Key) :
    (boundedPrefix p = true → (k ∈ scanNowOld s p ↔ (isPfx p k.bytes = true ∧ k ∈ scanNowOld s []))) ∧
    (boundedPrefix p = false → (k ∈ scanNowOld s p ↔ ((isPfx p k.bytes = true ∧ k ∈ scanNowOld s []) ∨
      ((aget s.md k).isSome = true ∧ shardOf k.bytes = shardOf p ∧ bleq p k.bytes = true)))) := by
  have hmem : ∀ q, k ∈ scanNowOld s q ↔ ((mdMatchOld q k = true ∧ (aget s.md k).isSome = true) ∨
      (pmatch q k = true ∧ (k ∈ liveKeys s.vocab ∨ (aget s.cache k).isSome = true))) := by
    intro q
    simp only [scanNowOld, List.mem_append, List.mem_filter, mem_keys_iff]
    grind
  constructor
  · intro hb
    rw [hmem p, hmem [], mdMatchOld_eq_pmatch hb]
    simp only [pmatch, mdMatchOld, if_true, isPfx_nil_left, true_and]
    grind
  · intro hb
    have hp : p ≠ [] := by rintro rfl; simp [boundedPrefix] at hb
    have hn : nextPrefix p = none := by
      have := mt (boundedPrefix_iff p).mpr (by simp [hb])
      simpa [hp, hv] using this
    rw [hmem p, hmem []]
    simp only [mdMatchOld, hp, if_false, hn, if_true, pmatch, isPfx_nil_left, true_and,
      Bool.and_eq_true, decide_eq_true_eq]
    constructor
    · rintro (⟨⟨h1, h2⟩, h3⟩ | ⟨h1, h2⟩)
      · exact Or.inr ⟨h3, h1, h2⟩
      · exact Or.inl ⟨h1, Or.inr h2⟩
    · rintro (⟨h1, h2 | h2⟩ | ⟨h1, h2, h3⟩)
      · exact Or.inl ⟨⟨shardOf_of_isPfx hp h1, bleq_of_isPfx h1⟩, h2⟩
      · exact Or.inr ⟨h1, h2⟩
      · exact Or.inl ⟨⟨h2, h3⟩, h1⟩

/-- non-vacuity of both branches -/
example : boundedPrefix pfxUser = true ∧ boundedPrefix (pfxUser ++ [0xD0, 0xBF]) = false ∧
    validUtf8 (pfxUser ++ [0xD0, 0xBF]) = true := by decide +kernel

/-- why `take_while` is enough in the code: on a SORTED list of strings that are all ≥ `p` (what
    `BTreeMap::range(p..)` yields) the keys that start with `p` come first, so taking while a key
    starts with `p` yields the same list as filtering by it - for every `p` and every such list -/
theorem take_while_on_sorted_range_is_the_prefix_filter (p : List Nat) (l : List (List Nat))
    (hs : l.Pairwise (fun a b => bleq a b = true)) (hlo : ∀ a ∈ l, bleq p a = true) :
    l.takeWhile (isPfx p) = l.filter (isPfx p) := by
  induction l with
  | nil => rfl
  | cons a l ih =>
    have hs' := List.pairwise_cons.mp hs
    have ih' := ih hs'.2 (fun x hx => hlo x (List.mem_cons_of_mem _ hx))
    by_cases ha : isPfx p a = true
    · simp [List.takeWhile, List.filter, ha, ih']
    · have ha' : isPfx p a = false := by simpa using ha
      simp only [List.takeWhile, List.filter, ha']
      symm
      rw [List.filter_eq_nil_iff]
      intro c hc hpc
      exact ha (isPfx_of_between (hlo a List.mem_cons_self) (hs'.1 c hc) hpc)

/-- non-vacuity: a sorted range above `a` DEL with two keys that start with it and two that do not -/
example :
    ([[97, 127], [97, 127, 120], [98], [113, 49]] : List (List Nat)).Pairwise (fun a b => bleq a b = true) ∧
    (∀ a ∈ ([[97, 127], [97, 127, 120], [98], [113, 49]] : List (List Nat)), bleq [97, 127] a = true) ∧
    ([[97, 127], [97, 127, 120], [98], [113, 49]] : List (List Nat)).takeWhile (isPfx [97, 127])
      = [[97, 127], [97, 127, 120]] := by decide +kernel

/-- `classify_key` on bytes: the class of a key is decided by its first bytes, in the order of
    the code; a key that merely resembles a class prefix is a plain (metadata) key -/
example :
    classify pfxEmb = .emb ∧ (mkKey .emb 7).cls = .emb ∧ (mkKey .graph 1).cls = .graph ∧
    classify (pfxEdge ++ [49]) = .graph ∧ (mkKey .table 2).cls = .table ∧ (mkKey .cache 3).cls = .cache ∧
    (mkKey .plain 1).cls = .plain ∧ classify [] = .plain ∧ classify [101, 109, 98] = .plain ∧
    classify [99, 97, 99, 104, 101, 58, 49] = .plain := by decide +kernel

end Neumann.KV.ScanProps
