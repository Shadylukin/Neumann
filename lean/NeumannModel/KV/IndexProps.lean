import NeumannModel.KV.IndexLemmas
/-
  C11 — the entity index under concurrent first writes of one `emb:` key.

  `runSchedI recheck walOn progs sched` (Index.lean) is the store at the granularity of the
  index's own locks: `EntityIndex::try_get_or_create` is a lookup under the read locks and, when
  that missed, a second atomic step under the write locks; any step of any other thread runs in
  between.  `recheck = true` is the code (the write section looks the key up AGAIN before it
  appends), `recheck = false` is the write section that appends straight away.

  What the double-check is there for: a key never has two live entity ids.  Everything a reader
  sees of an `emb:` key hangs on it - `get` / `exists` / `delete` take the id that `index.get`
  returns, a scan lists every live entry; with two live ids a successful delete tombstones one and
  the key stays visible through the other.
-/
namespace Neumann.KV.IndexProps
open Neumann.KV

/-- FULL STRENGTH: every number of threads, every program of all seven operations on keys of every
    class (any byte strings), with or without the log, EVERY interleaving at the granularity of
    the index's locks (other threads run between the missed fast path of `try_get_or_create` and
    its write section), stopped after ANY step: no key has two live entity ids - as a statement
    about positions, and as a count. -/
theorem get_or_create_never_gives_a_key_two_live_ids (walOn : Bool) (progs : List ThreadProgram)
    (sched : List Nat) :
    let v := (runSchedI true walOn progs sched).store.vocab
    (∀ (i j : Nat) (k : Key), v[i]? = some (k, true) → v[j]? = some (k, true) → i = j) ∧
    (∀ k : Key, (liveIds v k).length ≤ 1) := by
  have hw : StoreWF (runSchedI true walOn progs sched).store := (StoreWF.init walOn).runI sched
  exact ⟨hw.uniq, fun k => liveIds_length_le_one hw.uniq k⟩

/-- non-vacuity: the two first puts of `emb:1` with both lookups before either write section; the
    second write section finds the entry of the first and takes its id -/
example :
    (runSchedI true false twoFirstPutsProgs twoFirstPutsSched).store.vocab = [(kE1, true)] ∧
    (runSchedI true false twoFirstPutsProgs twoFirstPutsSched).trace.map (·.2.2) =
      [.hook .start, .hook .start, .idxMiss .start, .idxMiss .start,
       .hook (.putEmbAfterIndex 0), .hook .putEmbAfterVector,
       .hook (.putEmbAfterIndex 0), .hook .putEmbAfterVector] ∧
    liveIds (runSchedI true false twoFirstPutsProgs twoFirstPutsSched).store.vocab kE1 = [0] ∧
    quiescentI (runSchedI true false twoFirstPutsProgs twoFirstPutsSched) = true := by decide +kernel

/-- FULL STRENGTH (same quantifier; the key any `emb:` key): whenever the run is stopped, a `delete`
    of the key executed then (all its steps back to back - the sequential check after the threads
    have been joined, or any moment at which nobody else moves) leaves NOTHING of the key: `get`
    says NotFound, `exists` false, no prefix scan lists it, a second `delete` says NotFound. -/
theorem deleted_key_is_gone (walOn : Bool) (progs : List ThreadProgram) (sched : List Nat)
    (k : Key) (hk : k.cls = .emb) :
    let s' := (seqOp (runSchedI true walOn progs sched).store (.delete k)).1
    (seqOp s' (.get k)).2 = .notFound ∧ existsNow s' k = false ∧ (∀ p, k ∉ scanNow s' p) ∧
      (seqOp s' (.delete k)).2 = .notFound :=
  delete_then_absent ((StoreWF.init walOn).runI sched) hk

/-- non-vacuity: after the two first puts `emb:1` is there (value of the second writer), the delete
    says Ok and then nothing is left -/
example :
    view (runSchedI true false twoFirstPutsProgs twoFirstPutsSched).store kE1
      = (.found ⟨2, .good 2⟩, true, true) ∧
    (seqOp (runSchedI true false twoFirstPutsProgs twoFirstPutsSched).store (.delete kE1)).2 = .ok ∧
    gone (seqOp (runSchedI true false twoFirstPutsProgs twoFirstPutsSched).store (.delete kE1)).1 kE1
      = true := by decide +kernel

/-- the same two statements on the machine the driver runs and the harness compares the real store
    with (`Model.runSched`: one step = the code between two yield hooks, `get_or_create` inside
    one step): every interleaving, stopped anywhere -/
theorem deleted_key_is_gone_at_hook_granularity (walOn : Bool) (progs : List ThreadProgram)
    (sched : List Nat) (k : Key) (hk : k.cls = .emb) :
    let s := (runSched walOn progs sched).store
    let s' := (seqOp s (.delete k)).1
    (liveIds s.vocab k).length ≤ 1 ∧
    (seqOp s' (.get k)).2 = .notFound ∧ existsNow s' k = false ∧ (∀ p, k ∉ scanNow s' p) ∧
      (seqOp s' (.delete k)).2 = .notFound := by
  have hw : StoreWF (runSched walOn progs sched).store := (StoreWF.init walOn).run sched
  exact ⟨liveIds_length_le_one hw.uniq k, delete_then_absent hw hk⟩

example :
    (seqOp (runSched false embMixtureProgs embMixtureSched).store (.delete kE1)).2 = .ok ∧
    gone (seqOp (runSched false embMixtureProgs embMixtureSched).store (.delete kE1)).1 kE1 = true := by
  decide +kernel

/-- WHY the hook-granularity machine may keep `get_or_create` in one step: at the granularity of
    the index's locks every step of the code is either the missed lookup - which changes nothing
    and parks the thread inside `try_get_or_create` - or EXACTLY the step of `Model.stepOp` (the
    fast path that finds the id; the write section, which with its double-check IS
    `idxGetOrCreate` on the store of that moment; every step that does not call the index).  For
    every store, operation and program counter. -/
theorem index_step_is_stutter_or_hook_step (s : Store) (op : Op) (pc : PC) :
    (stepOpI true s op (.hook pc) = (s, .cont (.idxMiss pc)) ∨
     stepOpI true s op (.hook pc) = ((stepOp s op pc).1, (stepOp s op pc).2.lift)) ∧
    (∀ k, getOrCreateKey s op pc = some k →
      stepOpI true s op (.idxMiss pc) = ((stepOp s op pc).1, (stepOp s op pc).2.lift)) := by
  constructor
  · cases hg : getOrCreateKey s op pc with
    | none => right; simp [stepOpI, hg]
    | some k =>
      cases hi : idxGet s.vocab k with
      | none => left; simp [stepOpI, hg, hi]
      | some i => right; simp [stepOpI, hg, hi]
  · intro k hk
    unfold getOrCreateKey at hk
    split at hk
    · rename_i k' v
      split at hk
      · rename_i hc
        simp [stepOpI, lockedStep, idxCreateLocked, stepOp, routerPut, hc, Outcome.lift]
      · simp at hk
    · rename_i k' v
      split at hk
      · rename_i hc
        simp [stepOpI, lockedStep, idxCreateLocked, stepOp, routerPut, hc, Outcome.lift]
      · simp at hk
    · rename_i k' v
      split at hk
      · rename_i hc
        simp only [Bool.and_eq_true, decide_eq_true_eq] at hc
        obtain ⟨⟨hw, he⟩, hv⟩ := hc
        have hne : k'.cls ≠ .cache := by rw [he]; decide
        cases hvv : v.vec with
        | none => exact absurd hvv hv
        | good t => simp [stepOpI, lockedStep, idxCreateLocked, stepOp, logPut, hw, he, hvv, Outcome.lift]
        | bad t => simp [stepOpI, lockedStep, idxCreateLocked, stepOp, logPut, hw, he, hvv, Outcome.lift]
      · simp at hk
    · simp at hk

/-- the missed lookup really occurs, and really is a stutter -/
example :
    getOrCreateKey {} (.put kE1 ⟨1, .good 1⟩) .start = some kE1 ∧
    (stepOpI true {} (.put kE1 ⟨1, .good 1⟩) (.hook .start)).2 = .cont (.idxMiss .start) ∧
    (stepOpI true {} (.put kE1 ⟨1, .good 1⟩) (.hook .start)).1.vocab = [] := by
  decide +kernel

/-! ### what does not hold without the double-check -/

/-- NOT the code: the write section appends without looking again.  Two first puts of `emb:1`, both
    lookups before either write section (`twoFirstPutsSched`): the key gets the live ids 0 and 1;
    every thread has finished, the store shows `emb:1` with the second writer's value; then,
    sequentially, `delete emb:1` returns Ok - and `exists` is still true, `get` returns a value NO
    put wrote (no field but the vector of the other id), the scan still lists the key, and a
    second delete returns Ok once more.  The same interleaving on the code leaves one id and
    nothing after the delete. -/
theorem get_or_create_without_recheck_witness :
    let s := (runSchedI false false twoFirstPutsProgs twoFirstPutsSched).store
    let d := seqOp s (.delete kE1)
    quiescentI (runSchedI false false twoFirstPutsProgs twoFirstPutsSched) = true ∧
    liveIds s.vocab kE1 = [0, 1] ∧
    view s kE1 = (.found ⟨2, .good 1⟩, true, true) ∧
    d.2 = .ok ∧
    view d.1 kE1 = (.found ⟨0, .good 2⟩, true, true) ∧
    (seqOp d.1 (.delete kE1)).2 = .ok ∧
    -- the code, same programs, same interleaving
    liveIds (runSchedI true false twoFirstPutsProgs twoFirstPutsSched).store.vocab kE1 = [0] ∧
    gone (seqOp (runSchedI true false twoFirstPutsProgs twoFirstPutsSched).store (.delete kE1)).1 kE1 = true := by
  decide +kernel

/-- the same on a key that was put and deleted before (the first write AFTER a delete): the
    tombstoned entry 0 and two live ones -/
theorem recreate_without_recheck_witness :
    let s := (runSchedI false false recreateProgs recreateSched).store
    let d := seqOp s (.delete kE1)
    quiescentI (runSchedI false false recreateProgs recreateSched) = true ∧
    s.vocab = [(kE1, false), (kE1, true), (kE1, true)] ∧
    d.2 = .ok ∧ existsNow d.1 kE1 = true ∧ gone d.1 kE1 = false ∧
    (runSchedI true false recreateProgs recreateSched).store.vocab = [(kE1, false), (kE1, true)] ∧
    gone (seqOp (runSchedI true false recreateProgs recreateSched).store (.delete kE1)).1 kE1 = true := by
  decide +kernel

/-- sequentially the two are indistinguishable: one thread alone never misses in the fast path and
    then finds the key in the write section (no test that puts from one thread at a time tells) -/
example :
    (runSchedI false false [[.put kE1 ⟨1, .good 1⟩, .put kE1 ⟨2, .none⟩, .delete kE1, .put kE1 ⟨3, .good 3⟩]]
        (List.replicate 16 0)).store.vocab =
    (runSchedI true false [[.put kE1 ⟨1, .good 1⟩, .put kE1 ⟨2, .none⟩, .delete kE1, .put kE1 ⟨3, .good 3⟩]]
        (List.replicate 16 0)).store.vocab := by decide +kernel

end Neumann.KV.IndexProps
