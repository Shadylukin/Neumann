import NeumannModel.KV.EmbLemmas
import NeumannModel.KV.Bloom
/-
  Helper lemmas for the store with a Bloom filter (C11, `BloomProps.lean`).
-/
namespace Neumann.KV

theorem idxGet_idxRemove_isSome {v : List (Key × Bool)} {k k' : Key}
    (h : (idxGet (idxRemove v k) k').isSome = true) : (idxGet v k').isSome = true := by
  cases hv : idxGet v k' with
  | some i => rfl
  | none =>
    exfalso
    have hnot : (k', true) ∉ v := idxGet_none.mp hv
    have : idxGet (idxRemove v k) k' = none := by
      rw [idxGet_none]
      unfold idxRemove
      cases hk : idxGet v k with
      | none => exact hnot
      | some i =>
        intro hm
        rcases mem_set_cases hm with h' | h'
        · exact hnot h'
        · simp at h'
    rw [this] at h
    simp at h

theorem idxGet_create_isSome {v : List (Key × Bool)} {k k' : Key}
    (h : (idxGet (idxGetOrCreate v k).2 k').isSome = true) : (idxGet v k').isSome = true ∨ k = k' := by
  by_cases e : k' = k
  · exact Or.inr e.symm
  · rw [idxGetOrCreate_other v e] at h
    exact Or.inl h

/-- every key a step makes visible is the key of the `put` / `put_durable` that takes the step -/
def Grows (s s' : Store) (op : Op) : Prop :=
  ∀ k', visible s' k' = true → visible s k' = true ∨ op.putKey? = some k'

theorem Grows.refl (s : Store) (op : Op) : Grows s s op := fun _ h => Or.inl h

theorem Grows.of_congr {s s' : Store} {op : Op} (h1 : s'.md = s.md) (h2 : s'.cache = s.cache)
    (h3 : s'.vocab = s.vocab) : Grows s s' op := fun k h => Or.inl (by simpa [visible, h1, h2, h3] using h)

theorem grows_setMd (s : Store) (k : Key) (v : Val) (op : Op) (hk : op.putKey? = some k) :
    Grows s { s with md := aset s.md k v } op := by
  intro k' h
  by_cases e : k = k'
  · exact Or.inr (e ▸ hk)
  · left
    simpa [visible, aget_aset, e] using h

theorem grows_setCache (s : Store) (k : Key) (v : Val) (op : Op) (hk : op.putKey? = some k) :
    Grows s { s with cache := aset s.cache k v } op := by
  intro k' h
  by_cases e : k = k'
  · exact Or.inr (e ▸ hk)
  · left
    simpa [visible, aget_aset, e] using h

theorem grows_createIdx (s : Store) (k : Key) (op : Op) (hk : op.putKey? = some k) :
    Grows s { s with vocab := (idxGetOrCreate s.vocab k).2 } op := by
  intro k' h
  simp only [visible, Bool.or_eq_true] at h ⊢
  rcases h with (h | h) | h
  · exact Or.inl (Or.inl (Or.inl h))
  · exact Or.inl (Or.inl (Or.inr h))
  · rcases idxGet_create_isSome h with h' | h'
    · exact Or.inl (Or.inr h')
    · exact Or.inr (h' ▸ hk)

theorem grows_eraseMd (s : Store) (k : Key) (op : Op) : Grows s { s with md := aerase s.md k } op := by
  intro k' h
  left
  simp only [visible, Bool.or_eq_true, aget_aerase] at h ⊢
  by_cases e : k = k'
  · simp only [e, if_true] at h
    rcases h with (h | h) | h
    · simp at h
    · exact Or.inl (Or.inr h)
    · exact Or.inr h
  · simpa [e] using h

theorem grows_eraseCache (s : Store) (k : Key) (op : Op) : Grows s { s with cache := aerase s.cache k } op := by
  intro k' h
  left
  simp only [visible, Bool.or_eq_true, aget_aerase] at h ⊢
  by_cases e : k = k'
  · simp only [e, if_true] at h
    rcases h with (h | h) | h
    · exact Or.inl (Or.inl h)
    · simp at h
    · exact Or.inr h
  · simpa [e] using h

theorem grows_removeIdx (s : Store) (k : Key) (op : Op) : Grows s { s with vocab := idxRemove s.vocab k } op := by
  intro k' h
  left
  simp only [visible, Bool.or_eq_true] at h ⊢
  rcases h with h | h
  · exact Or.inl h
  · exact Or.inr (idxGet_idxRemove_isSome h)

theorem putKey_of {op : Op} {k : Key} {v : Val} (h : op = .put k v ∨ op = .putD k v) :
    op.putKey? = some k := by
  rcases h with rfl | rfl <;> rfl

/-- THE FRAME LEMMA: a router step makes no key visible except the key of the `put` /
    `put_durable` it belongs to -/
theorem grows_stepOp (s : Store) (op : Op) (pc : PC) : Grows s (stepOp s op pc).1 op :=
  stepOp_store_cases (P := fun s' => Grows s s' op) s op pc (Grows.refl s op)
    (fun k _ h _ => grows_createIdx s k op (putKey_of h))
    (fun k v h _ => grows_setCache s k v op (putKey_of h))
    (fun k v h => grows_setMd s k v op (putKey_of h)) (fun _ => Grows.of_congr rfl rfl rfl)
    (fun k _ => grows_removeIdx s k op) (fun k _ _ => grows_eraseCache s k op)
    (fun k _ => grows_eraseMd s k op) (fun _ _ => Grows.of_congr rfl rfl rfl)
    (fun k v _ _ h _ k' hv => grows_createIdx s k op (putKey_of (Or.inr h)) k' (by simpa [visible] using hv))

theorem routerGet_invisible {s : Store} {k : Key} (h : visible s k = false) :
    routerGet s k = (s, .done .notFound) := by
  simp only [visible, Bool.or_eq_false_iff, Option.isSome_eq_false_iff, Option.isNone_iff_eq_none] at h
  obtain ⟨⟨h1, h2⟩, h3⟩ := h
  unfold routerGet mdGet
  split <;> simp [h1, h2, h3]

theorem existsNow_invisible {s : Store} {k : Key} (h : visible s k = false) : existsNow s k = false := by
  simp only [visible, Bool.or_eq_false_iff, Option.isSome_eq_false_iff, Option.isNone_iff_eq_none] at h
  obtain ⟨⟨h1, h2⟩, h3⟩ := h
  unfold existsNow
  split <;> simp [h1, h2, h3]

theorem existsNow_visible {s : Store} {k : Key} (h : existsNow s k = true) : visible s k = true := by
  unfold existsNow at h
  simp only [visible, Bool.or_eq_true]
  split at h
  · simp only [Bool.or_eq_true] at h
    rcases h with h | h
    · exact Or.inr h
    · exact Or.inl (Or.inl h)
  · exact Or.inl (Or.inr h)
  · exact Or.inl (Or.inl h)

theorem scanNow_visible {s : Store} {p : List Nat} {k : Key} (h : k ∈ scanNow s p) : visible s k = true := by
  rw [mem_scanNow_iff] at h
  simp only [visible, Bool.or_eq_true]
  rcases h with ⟨_, h⟩ | ⟨_, h | h⟩
  · exact Or.inl (Or.inl h)
  · exact Or.inr (mem_liveKeys.mp h)
  · exact Or.inl (Or.inr h)

/-- `router.scan("")` lists every visible key: the filter rebuilt by `load_snapshot_with_bloom_filter` /
    `recover_with_bloom` knows them all -/
theorem visible_mem_scanAll {s : Store} {k : Key} (h : visible s k = true) : k ∈ scanNow s [] := by
  rw [mem_scanNow_iff]
  simp only [visible, Bool.or_eq_true] at h
  rcases h with (h | h) | h
  · exact Or.inl ⟨by simp [mdMatch], h⟩
  · exact Or.inr ⟨by simp [pmatch, isPfx], Or.inr h⟩
  · exact Or.inr ⟨by simp [pmatch, isPfx], Or.inl (mem_liveKeys.mpr h)⟩

/-- the filter knows every visible key, and the key of every `put` / `put_durable` that has taken
    its first step -/
structure BInv (b : BSys) : Prop where
  cov : ∀ k, visible b.sys.store k = true → k ∈ b.added
  mid : ∀ th ∈ b.sys.threads, th.pc ≠ .start → ∀ op rest, th.ops = op :: rest →
          ∀ k, op.putKey? = some k → k ∈ b.added

theorem mem_filterAdd_of_mem {added : List Key} {op : Op} {k : Key} (h : k ∈ added) : k ∈ filterAdd added op := by
  unfold filterAdd
  split
  · exact List.mem_cons_of_mem _ h
  · exact h

theorem mem_filterAdd_key {added : List Key} {op : Op} {k : Key} (h : op.putKey? = some k) :
    k ∈ filterAdd added op := by
  unfold filterAdd
  rw [h]
  exact List.mem_cons_self

/-- under the invariant the filtered step IS the router's step: the fast path answers what the
    router would -/
theorem stepOpB_fst (fp : Key → Bool) {s : Store} {added : List Key}
    (hc : ∀ k, visible s k = true → k ∈ added) (op : Op) (pc : PC) :
    (stepOpB fp s added op pc).1 = stepOp s op pc := by
  have key : ∀ k, mightContain fp added k = false → visible s k = false := by
    intro k hm
    cases hv : visible s k with
    | false => rfl
    | true =>
      have := hc k hv
      simp [mightContain, this] at hm
  unfold stepOpB
  split
  · split
    · rfl
    · rename_i k hm
      exact (routerGet_invisible (key _ (by simpa using hm))).symm
  · split
    · rfl
    · rename_i k hm
      simp only [stepOp]
      rw [existsNow_invisible (key _ (by simpa using hm))]
  · rfl
  · rfl

theorem stepOpB_mono (fp : Key → Bool) (s : Store) (added : List Key) (op : Op) (pc : PC) {k : Key}
    (h : k ∈ added) : k ∈ (stepOpB fp s added op pc).2 := by
  unfold stepOpB
  split
  · split <;> exact h
  · split <;> exact h
  · exact mem_filterAdd_of_mem h
  · exact h

theorem stepOpB_start_key (fp : Key → Bool) (s : Store) (added : List Key) (op : Op) {k : Key}
    (h : op.putKey? = some k) : k ∈ (stepOpB fp s added op .start).2 := by
  cases op with
  | put k' v => simp only [stepOpB]; exact mem_filterAdd_key h
  | putD k' v => simp only [stepOpB]; exact mem_filterAdd_key h
  | _ => simp [Op.putKey?] at h

theorem stepOldG_cont {f : StepFn} {b : BSys} {t : Nat} {th : Thread} {op : Op} {rest : List Op}
    {s' : Store} {pc' : PC} (hth : b.sys.threads[t]? = some th) (hops : th.ops = op :: rest)
    (hstep : (f b.sys.store b.added op th.pc).1 = (s', .cont pc')) :
    stepOldG f b t = ⟨afterCont b.sys t th op s' pc', (f b.sys.store b.added op th.pc).2⟩ := by
  unfold stepOldG afterCont
  simp only [hth, hops, hstep]

theorem stepOldG_done {f : StepFn} {b : BSys} {t : Nat} {th : Thread} {op : Op} {rest : List Op}
    {s' : Store} {r : Res} (hth : b.sys.threads[t]? = some th) (hops : th.ops = op :: rest)
    (hstep : (f b.sys.store b.added op th.pc).1 = (s', .done r)) :
    stepOldG f b t = ⟨afterDone b.sys t th op rest s' r, (f b.sys.store b.added op th.pc).2⟩ := by
  unfold stepOldG afterDone
  simp only [hth, hops, hstep]

theorem stepOldG_sys {f : StepFn} {b : BSys} (t : Nat)
    (hf : ∀ op pc, (f b.sys.store b.added op pc).1 = stepOp b.sys.store op pc) :
    (stepOldG f b t).sys = stepOld b.sys t := by
  cases hth : b.sys.threads[t]? with
  | none => unfold stepOldG stepOld; simp only [hth]
  | some th =>
    cases hops : th.ops with
    | nil => unfold stepOldG stepOld; simp only [hth, hops]
    | cons op rest =>
      cases hstep : stepOp b.sys.store op th.pc with
      | mk s' out =>
        cases out with
        | cont pc' =>
          rw [stepOldG_cont hth hops ((hf op th.pc).trans hstep), stepOld_cont hth hops hstep]
        | done r =>
          rw [stepOldG_done hth hops ((hf op th.pc).trans hstep), stepOld_done hth hops hstep]

theorem stepG_sys {f : StepFn} {b : BSys} (t : Nat)
    (hf : ∀ op pc, (f b.sys.store b.added op pc).1 = stepOp b.sys.store op pc) :
    (stepG f b t).sys = step b.sys t := by
  unfold stepG step
  cases hth : b.sys.threads[t]? with
  | none => rfl
  | some th =>
    simp only
    cases hops : th.ops with
    | nil => rfl
    | cons op rest =>
      simp only
      by_cases hb : (b.sys.store.walOn && op.takesLock && decide (th.pc = .start) && b.sys.threads.any Thread.inCS) = true
      · simp only [hb, if_true]
      · simp only [hb]
        exact stepOldG_sys t hf

theorem BInv.stepOld {b : BSys} (h : BInv b) (fp : Key → Bool) (t : Nat) :
    BInv (stepOldG (stepOpB fp) b t) := by
  cases hth : b.sys.threads[t]? with
  | none => unfold stepOldG; simp only [hth]; exact h
  | some th =>
    cases hops : th.ops with
    | nil => unfold stepOldG; simp only [hth, hops]; exact h
    | cons op rest =>
      have hmem : th ∈ b.sys.threads := List.mem_of_getElem? hth
      -- the key of a put that takes this step is in the filter afterwards
      have hkey : ∀ k, op.putKey? = some k → k ∈ (stepOpB fp b.sys.store b.added op th.pc).2 := by
        intro k hk
        by_cases hp : th.pc = .start
        · rw [hp]; exact stepOpB_start_key fp _ _ op hk
        · exact stepOpB_mono fp _ _ _ _ (h.mid th hmem hp op rest hops k hk)
      have hcov : ∀ k, visible (stepOp b.sys.store op th.pc).1 k = true →
          k ∈ (stepOpB fp b.sys.store b.added op th.pc).2 := by
        intro k hv
        rcases grows_stepOp _ _ _ k hv with h1 | h1
        · exact stepOpB_mono fp _ _ _ _ (h.cov k h1)
        · exact hkey k h1
      have hold : ∀ th' ∈ b.sys.threads, th'.pc ≠ .start → ∀ op' rest', th'.ops = op' :: rest' →
          ∀ k, op'.putKey? = some k → k ∈ (stepOpB fp b.sys.store b.added op th.pc).2 :=
        fun th' hm hp op' rest' ho k hk => stepOpB_mono fp _ _ _ _ (h.mid th' hm hp op' rest' ho k hk)
      cases hstep : stepOp b.sys.store op th.pc with
      | mk s' out =>
        have hs' : s' = (stepOp b.sys.store op th.pc).1 := by rw [hstep]
        cases out with
        | cont pc' =>
          rw [stepOldG_cont hth hops ((stepOpB_fst fp h.cov op th.pc).trans hstep)]
          refine ⟨fun k hv => hcov k (by rw [← hs']; exact hv), ?_⟩
          intro th' hm hp op' rest' ho k hk
          rcases mem_set_cases hm with hm' | hm'
          · exact hold th' hm' hp op' rest' ho k hk
          · subst hm'
            simp only [hops, List.cons.injEq] at ho
            obtain ⟨rfl, rfl⟩ := ho
            exact hkey k hk
        | done r =>
          rw [stepOldG_done hth hops ((stepOpB_fst fp h.cov op th.pc).trans hstep)]
          refine ⟨fun k hv => hcov k (by rw [← hs']; exact hv), ?_⟩
          intro th' hm hp op' rest' ho k hk
          rcases mem_set_cases hm with hm' | hm'
          · exact hold th' hm' hp op' rest' ho k hk
          · subst hm'
            exact absurd rfl hp

theorem BInv.step {b : BSys} (h : BInv b) (fp : Key → Bool) (t : Nat) : BInv (stepG (stepOpB fp) b t) := by
  unfold stepG
  split
  · exact h
  · split
    · exact h
    · split
      · exact h
      · exact h.stepOld fp t

theorem BInv.run {b : BSys} (h : BInv b) (fp : Key → Bool) (sched : List Nat) :
    BInv (runFromG (stepOpB fp) b sched) := by
  induction sched generalizing b with
  | nil => exact h
  | cons t rest ih => exact ih (h.step fp t)

theorem run_sys {b : BSys} (h : BInv b) (fp : Key → Bool) (sched : List Nat) :
    (runFromG (stepOpB fp) b sched).sys = runFrom b.sys sched := by
  induction sched generalizing b with
  | nil => rfl
  | cons t rest ih =>
    have := ih (h.step fp t)
    simp only [runFromG, runFrom, List.foldl_cons] at this ⊢
    rw [this, stepG_sys t (fun op pc => stepOpB_fst fp h.cov op pc)]

theorem BInv.init (walOn : Bool) (progs : List ThreadProgram) : BInv (initB walOn progs) := by
  refine ⟨fun k hv => ?_, fun th hm hp => ?_⟩
  · simp [initB, initSys, visible, aget, idxGet, idxGetAux] at hv
  · simp only [initB, initSys, List.mem_map] at hm
    obtain ⟨p, _, rfl⟩ := hm
    exact absurd rfl hp

theorem BInv.load (s : Store) (progs : List ThreadProgram) : BInv (loadB s progs) := by
  refine ⟨fun k hv => visible_mem_scanAll hv, fun th hm hp => ?_⟩
  simp only [loadB, List.mem_map] at hm
  obtain ⟨p, _, rfl⟩ := hm
  exact absurd rfl hp

/-- the filter knows every visible key, and the key of every `put` / `put_durable` whose prologue
    has run -/
structure FInv (sys : FSys) : Prop where
  cov : ∀ k, visible sys.store k = true → k ∈ sys.added
  mid : ∀ th ∈ sys.threads, th.pc ≠ .pre → ∀ op rest, th.ops = op :: rest →
          ∀ k, op.putKey? = some k → k ∈ sys.added

theorem FInv.init (s : Store) (progs : List ThreadProgram) : FInv (finit s progs) := by
  refine ⟨fun k hv => visible_mem_scanAll hv, fun th hm hp => ?_⟩
  simp only [finit, List.mem_map] at hm
  obtain ⟨p, _, rfl⟩ := hm
  exact absurd rfl hp

/-- the shape of every step: the slabs grow only by the key of the stepping thread's put, the
    filter only grows, the other threads are untouched -/
theorem FInv.of_step {sys sys' : FSys} (h : FInv sys) {t : Nat} {th thNew : FThread} {op : Op} {rest : List Op}
    (hth : sys.threads[t]? = some th) (hops : th.ops = op :: rest)
    (hthreads : sys'.threads = sys.threads.set t thNew)
    (hmono : ∀ k, k ∈ sys.added → k ∈ sys'.added)
    (hstore : ∀ k, visible sys'.store k = true → visible sys.store k = true ∨ (th.pc ≠ .pre ∧ op.putKey? = some k))
    (hnew : thNew.pc ≠ .pre → thNew.ops = op :: rest ∧ (th.pc = .pre → ∀ k, op.putKey? = some k → k ∈ sys'.added)) :
    FInv sys' := by
  have hmem : th ∈ sys.threads := List.mem_of_getElem? hth
  refine ⟨fun k hv => ?_, fun th' hm hp op' rest' ho k hk => ?_⟩
  · rcases hstore k hv with h1 | ⟨h1, h2⟩
    · exact hmono k (h.cov k h1)
    · exact hmono k (h.mid th hmem h1 op rest hops k h2)
  · rw [hthreads] at hm
    rcases mem_set_cases hm with hm' | hm'
    · exact hmono k (h.mid th' hm' hp op' rest' ho k hk)
    · subst hm'
      obtain ⟨e, hk'⟩ := hnew hp
      rw [e] at ho
      simp only [List.cons.injEq] at ho
      obtain ⟨rfl, rfl⟩ := ho
      by_cases hpre : th.pc = .pre
      · exact hk' hpre k hk
      · exact hmono k (h.mid th hmem hpre op rest hops k hk)

theorem FInv.step {sys : FSys} (h : FInv sys) (bloomOn : Bool) (fp : Key → Bool) (t : Nat) :
    FInv (fstep bloomOn false fp sys t) := by
  unfold fstep
  cases hth : sys.threads[t]? with
  | none => exact h
  | some th =>
    simp only
    cases hops : th.ops with
    | nil => exact h
    | cons op rest =>
      simp only
      cases hpc : th.pc with
      | pre =>
        simp only
        have stay : ∀ (thNew : FThread) (hist : List FRec), (thNew.pc ≠ .pre → thNew.ops = op :: rest ∧ op.putKey? = none) →
            FInv { sys with threads := sys.threads.set t thNew, hist := hist } := by
          intro thNew hist hn
          refine h.of_step hth hops rfl (fun _ hk => hk) (fun k hv => Or.inl hv) (fun hp => ⟨(hn hp).1, fun _ k hk => ?_⟩)
          rw [(hn hp).2] at hk
          simp at hk
        have addk : FInv { sys with added := filterAdd sys.added op,
                                    threads := sys.threads.set t { ops := op :: rest, pc := .call .start } } :=
          h.of_step hth hops rfl (fun _ hk => mem_filterAdd_of_mem hk) (fun k hv => Or.inl hv)
            (fun _ => ⟨rfl, fun _ k hk => mem_filterAdd_key hk⟩)
        cases op with
        | get k =>
          simp only
          split
          · exact stay _ _ (fun hp => absurd rfl hp)
          · exact stay _ _ (fun _ => ⟨rfl, rfl⟩)
        | exists_ k =>
          simp only
          split
          · exact stay _ _ (fun hp => absurd rfl hp)
          · exact stay _ _ (fun _ => ⟨rfl, rfl⟩)
        | put k v => simpa using addk
        | putD k v => simpa using addk
        | delete k => simpa using addk
        | delD k => simpa using addk
        | scan p => simpa using addk
      | call pc =>
        simp only
        split
        · exact h
        · have hne : th.pc ≠ .pre := by rw [hpc]; simp
          have hg := grows_stepOp sys.store op pc
          cases hstep : stepOp sys.store op pc with
          | mk s' out =>
            rw [hstep] at hg
            cases out with
            | cont pc' =>
              exact h.of_step hth hops rfl (fun _ hk => hk)
                (fun k hv => (hg k hv).imp id (fun e => ⟨hne, e⟩))
                (fun _ => ⟨rfl, fun hp => absurd hp hne⟩)
            | done r =>
              exact h.of_step hth hops rfl (fun _ hk => hk)
                (fun k hv => (hg k hv).imp id (fun e => ⟨hne, e⟩))
                (fun _ => ⟨rfl, fun hp => absurd hp hne⟩)
      | post r =>
        simp only [Bool.false_and, Bool.false_eq_true, if_false]
        exact h.of_step hth hops rfl (fun _ hk => hk) (fun k hv => Or.inl hv) (fun hp => absurd rfl hp)

theorem FInv.run {sys : FSys} (h : FInv sys) (bloomOn : Bool) (fp : Key → Bool) (sched : List Nat) :
    FInv (sched.foldl (fstep bloomOn false fp) sys) := by
  induction sched generalizing sys with
  | nil => exact h
  | cons t rest ih => exact ih (h.step bloomOn fp t)

theorem seen_stays {k : Key} (hc : k.cls ≠ .cache) :
    ∀ (l : List OpRec) (σ : Spec), SeqValid σ l → (aget σ k).isSome = true →
      (∀ r ∈ l, r.op ≠ .delete k ∧ r.op ≠ .delD k) →
      ∀ r ∈ l, (r.op = .exists_ k → r.res ≠ .bool false) ∧ (r.op = .get k → r.res ≠ .notFound) := by
  intro l
  induction l with
  | nil => intro σ _ _ _ r hr; simp at hr
  | cons x xs ih =>
    intro σ hv hs hnd r hr
    obtain ⟨hx, hxs⟩ := hv
    rcases List.mem_cons.mp hr with rfl | hr'
    · constructor
      · intro hop hres
        rw [hop, hres] at hx
        rcases hx with hx | hx
        · simp [resEquiv, specRes, specStep, hs] at hx
        · exact hc hx
      · intro hop hres
        rw [hop, hres] at hx
        rcases hx with hx | hx
        · cases hg : aget σ k with
          | none => simp [hg] at hs
          | some v => simp [resEquiv, specRes, specStep, hg] at hx
        · exact hc hx
    · refine ih (specApply σ x.op) hxs ?_ (fun r hr => hnd r (List.mem_cons_of_mem _ hr)) r hr'
      have hx' := hnd x List.mem_cons_self
      cases hop : x.op with
      | put k' v => simp only [specApply, specStep, aget_aset]; split <;> simp [hs]
      | putD k' v => simp only [specApply, specStep, aget_aset]; split <;> simp [hs]
      | get k' => simpa [specApply, specStep] using hs
      | exists_ k' => simpa [specApply, specStep] using hs
      | scan p => simpa [specApply, specStep] using hs
      | delete k' =>
        have hne : k' ≠ k := fun e => hx'.1 (by rw [hop, e])
        simp only [specApply, specStep]
        split
        · simp only [aget_aerase, hne, if_false]; exact hs
        · exact hs
      | delD k' =>
        have hne : k' ≠ k := fun e => hx'.2 (by rw [hop, e])
        simp only [specApply, specStep]
        split
        · simp only [aget_aerase, hne, if_false]; exact hs
        · exact hs

end Neumann.KV
