import NeumannModel.KV.Ring
import NeumannModel.KV.RingLemmas
import NeumannModel.KV.Lemmas
/-
  C11 — the cache ring: splitting `CacheRing::get` over two lock sections is invisible.

  `get` of a `_cache:` key is two atomic steps of `stepR` (the index lookup; then, the index lock
  released and any steps of other threads later, the slot read with the key comparison).  For EVERY
  hash function (collisions at will), every victim choice, capacity, programs and schedule: a
  two-step get that finds a value returns exactly what a ONE-step get (`ringGetAtomic`: lookup and
  slot read back to back) would have returned in some state the run passes through between the two
  steps of the get (ends included): `AtomInv.run` with the witnesses `ra_Wit`; stated for `runSchedR`
  in `RingProps`.  Core Lean only.
-/
namespace Neumann.KV

/-- `CacheRing::get` as ONE atomic step: index lookup and slot read back to back -/
def ringGetAtomic (c : RingCfg) (r : Ring) (k : Key) : Option Val :=
  match ringLookup c r k with
  | some i => ringRead c r k i
  | none => none

/-! ### the ring operations, slot by slot -/

/-- the index resolves `k`'s hash to a slot that holds `k`: the atomic get returns the slot's value -/
theorem ra_atomic_of_lookup {c : RingCfg} {r : Ring} {k : Key} {i : Nat} {v : Val}
    (hl : ringLookup c r k = some i) (hs : r.slot i = some (k, v)) :
    ringGetAtomic c r k = some v := by
  simp only [ringGetAtomic, hl, ringRead, hs]
  cases c.keyCheck <;> simp

theorem ra_ringInsert_slot (c : RingCfg) (r : Ring) (k' : Key) (v' : Val) (i : Nat) (k : Key) (v : Val)
    (hs : (ringInsert c r k' v').slot i = some (k, v)) :
    r.slot i = some (k, v) ∨ ringGetAtomic c (ringInsert c r k' v') k = some v := by
  rcases Ring.slot_set_eq_some (r := r) (i := findSlot c r) (x := some (k', v')) rfl hs with ⟨hij, hx⟩ | h
  · right
    cases hx
    subst hij
    apply ra_atomic_of_lookup _ hs
    simp only [ringLookup, ringInsert, aget_aset, if_true]
  · exact Or.inl h

/-- a slot that holds `(k, v)` after a put held it before, or the put wrote it - and then the index
    entry of `k`'s hash points at that slot: an atomic get of `k` in the new ring returns `v` -/
theorem ra_ringPut_slot (c : RingCfg) (r : Ring) (k' : Key) (v' : Val) (i : Nat) (k : Key) (v : Val)
    (hs : (ringPut c r k' v').slot i = some (k, v)) :
    r.slot i = some (k, v) ∨ ringGetAtomic c (ringPut c r k' v') k = some v := by
  unfold ringPut at hs ⊢
  split
  · rename_i j hj
    simp only [hj] at hs
    split
    · rename_i hh
      simp only [hh, if_true] at hs
      rcases Ring.slot_set_eq_some (r := r) (i := j) (x := some (k', v')) rfl hs with ⟨hij, hx⟩ | h
      · right
        cases hx
        subst hij
        exact ra_atomic_of_lookup (by simpa only [ringLookup] using hj) hs
      · exact Or.inl h
    · rename_i hh
      simp only [hh] at hs
      exact ra_ringInsert_slot c r k' v' i k v hs
  · rename_i hj
    simp only [hj] at hs
    exact ra_ringInsert_slot c r k' v' i k v hs

theorem ra_ringDelete_slot (c : RingCfg) (r : Ring) (k' : Key) (i : Nat) (e : Key × Val)
    (hs : (ringDelete c r k').1.slot i = some e) : r.slot i = some e := by
  unfold ringDelete at hs
  split at hs
  · exact hs
  · rename_i j hj
    dsimp only at hs
    split at hs
    · rcases Ring.slot_set_eq_some (r := r) (i := j) (x := none) rfl hs with ⟨_, hx⟩ | h
      · cases hx
      · exact h
    · exact hs

/-- THE LOCAL LEMMA: a slot that holds `(k, v)` after one atomic step (of any operation, from any
    program counter) held it before the step, or an atomic get of `k` AFTER the step returns `v` -/
theorem ra_stepOpR_slot (c : RingCfg) (rs : RStore) (op : Op) (pc : RPC) (i : Nat) (k : Key) (v : Val)
    (hs : (stepOpR c rs op pc).1.ring.slot i = some (k, v)) :
    rs.ring.slot i = some (k, v) ∨ ringGetAtomic c (stepOpR c rs op pc).1.ring k = some v := by
  rcases stepOpR_cases c rs op pc with ⟨e, _⟩ | e
  · rw [e] at hs; exact Or.inl hs
  rw [e] at hs ⊢
  rcases ringStep_ring c rs op with e | ⟨k', v', _, e⟩ | ⟨k', e⟩
  · rw [e] at hs; exact Or.inl hs
  · rw [e] at hs ⊢; exact ra_ringPut_slot c rs.ring k' v' i k v hs
  · rw [e] at hs; exact Or.inl (ra_ringDelete_slot c rs.ring k' i _ hs)

/-- a thread gets parked at `ringGetAfterIndex i` only by the first step of a `get` whose index
    lookup returned `i`; that step leaves the store alone -/
theorem ra_stepOpR_park (c : RingCfg) (rs : RStore) (op : Op) (pc : RPC) (i : Nat)
    (h : (stepOpR c rs op pc).2 = .cont (.ringGetAfterIndex i)) :
    ∃ k, op = .get k ∧ ringLookup c rs.ring k = some i ∧ (stepOpR c rs op pc).1 = rs := by
  rcases stepOpR_cases c rs op pc with ⟨_, h'⟩ | h'
  · exact absurd h (h' i)
  · rw [h'] at h ⊢
    cases op with
    | get k =>
      simp only [ringStep] at h ⊢
      cases hj : ringLookup c rs.ring k with
      | some j => rw [hj] at h; cases h; exact ⟨k, rfl, hj, rfl⟩
      | none => rw [hj] at h; cases h
    | delete k | delD k => simp only [ringStep] at h; split at h <;> cases h
    | _ => cases h

/-! ### the invariant -/

/-- `W lo hi k v` stands for: "some state the run has passed through, with its clock in `[lo, hi]`,
    has `ringGetAtomic k = some v`" (`ra_Wit` below).
    * every thread's `inv` is at most the clock;
    * J: a get of `k` parked with slot number `i` in hand: if slot `i` holds `(k, v)` NOW, an atomic
      get of `k` returned `v` at some moment since the get's first step;
    * every completed get of a cache key that found `v`: an atomic get returned `v` at some moment
      between its two steps. -/
structure AtomInv (c : RingCfg) (W : Nat → Nat → Key → Val → Prop) (sys : RSys) : Prop where
  invs : ∀ th ∈ sys.threads, th.inv ≤ sys.clock
  parked : ∀ (t : Nat) (th : RThread), sys.threads[t]? = some th → ∀ (i : Nat) (k : Key) (rest : List Op) (v : Val),
    th.pc = .ringGetAfterIndex i → th.ops = .get k :: rest →
    sys.store.ring.slot i = some (k, v) → W th.inv sys.clock k v
  gets : ∀ r ∈ sys.hist, ∀ k v, r.op = .get k → k.cls = .cache → r.res = .found v →
    W r.inv r.ret k v

theorem AtomInv.init (c : RingCfg) (W : Nat → Nat → Key → Val → Prop) (cap : Nat) (walOn : Bool)
    (progs : List ThreadProgram) : AtomInv c W (initRSys cap walOn progs) := by
  have hth : ∀ th ∈ (initRSys cap walOn progs).threads, ∃ p, th = { ops := p } := fun th h => by
    obtain ⟨p, _, rfl⟩ := List.mem_map.mp h
    exact ⟨p, rfl⟩
  refine ⟨fun th h => ?_, fun t th h i k rest v hpc => ?_, fun r hr => (by cases hr)⟩
  · obtain ⟨p, rfl⟩ := hth th h
    exact Nat.le_refl _
  · obtain ⟨p, rfl⟩ := hth th (List.mem_of_getElem? h)
    cases hpc

theorem AtomInv.step {c : RingCfg} (hc : c.keyCheck = true) {W W' : Nat → Nat → Key → Val → Prop}
    {sys : RSys} (h : AtomInv c W sys) (t : Nat)
    (hmono : ∀ lo hi hi' k v, W lo hi k v → hi ≤ hi' → W' lo hi' k v)
    (hlast : ∀ lo k v, lo ≤ (stepR c sys t).clock →
      ringGetAtomic c (stepR c sys t).store.ring k = some v → W' lo (stepR c sys t).clock k v) :
    AtomInv c W' (stepR c sys t) := by
  have hsame : AtomInv c W' sys :=
    ⟨h.invs,
     fun t' th' hth' i k rest v h1 h2 h3 => hmono _ _ _ _ _ (h.parked t' th' hth' i k rest v h1 h2 h3) (Nat.le_refl _),
     fun r hr k v h1 h2 h3 => hmono _ _ _ _ _ (h.gets r hr k v h1 h2 h3) (Nat.le_refl _)⟩
  have hinvs := h.invs
  rw [stepR_eq] at hlast ⊢
  rcases stepRWith_cases (stepOpR c) sys t with e | ⟨th, op, rest, hth, hops, hstep⟩
  · rw [e]; exact hsame
  have hinv' : (if th.pc = .hook .start then sys.clock else th.inv) ≤ sys.clock := by
    split
    · exact Nat.le_refl _
    · exact hinvs th (List.mem_of_getElem? hth)
  cases hs : stepOpR c sys.store op th.pc with | mk s' o => ?_
  rw [hstep s' o hs] at hlast ⊢
  have hl : ∀ lo k v, lo ≤ sys.clock + 1 → ringGetAtomic c s'.ring k = some v →
      W' lo (sys.clock + 1) k v := by
    cases o <;> exact hlast
  -- whatever thread `t` becomes: the other threads keep their witnesses or get the new state
  have hrest : ∀ (th0 : RThread) (hist' : List OpRec) (tr' : List (Nat × Op × RPC)),
      th0.inv ≤ sys.clock + 1 →
      (∀ i k rest' v, th0.pc = .ringGetAfterIndex i → th0.ops = .get k :: rest' →
        s'.ring.slot i = some (k, v) → W' th0.inv (sys.clock + 1) k v) →
      (∀ r ∈ hist', ∀ k v, r.op = .get k → k.cls = .cache → r.res = .found v → W' r.inv r.ret k v) →
      AtomInv c W' { store := s', threads := sys.threads.set t th0, hist := hist',
                     clock := sys.clock + 1, trace := tr' } := by
    intro th0 hist' tr' hle hself hgets
    refine ⟨fun th' hm' => ?_, fun t' th' hth' i k rest' v h1 h2 h3 => ?_, hgets⟩
    · rcases List.mem_or_eq_of_mem_set hm' with hm' | hm'
      · exact Nat.le_succ_of_le (hinvs th' hm')
      · rw [hm']; exact hle
    · rcases getElem?_set_cases hth hth' with ⟨_, e⟩ | ⟨_, hth'⟩
      · rw [e] at h1 h2 ⊢; exact hself i k rest' v h1 h2 h3
      · have hSlot := ra_stepOpR_slot c sys.store op th.pc i k v
        rw [hs] at hSlot
        rcases hSlot h3 with h4 | h4
        · exact hmono _ _ _ _ _ (h.parked t' th' hth' i k rest' v h1 h2 h4) (Nat.le_succ _)
        · exact hl _ k v (Nat.le_succ_of_le (hinvs th' (List.mem_of_getElem? hth'))) h4
  cases o with
  | cont pc' =>
    refine hrest _ _ _ (Nat.le_succ_of_le hinv') (fun i k rest' v h1 h2 h3 => ?_)
      (fun r hr k v h1 h2 h3 => hmono _ _ _ _ _ (h.gets r hr k v h1 h2 h3) (Nat.le_refl _))
    -- thread `t` itself has just been parked: the state after this step is the witness
    have hPark := ra_stepOpR_park c sys.store op th.pc i
    rw [hs] at hPark
    obtain ⟨k0, hop, hlk, hst⟩ := hPark (congrArg _ h1)
    cases hst
    rw [hops, hop] at h2
    cases h2
    exact hl _ k v (Nat.le_succ_of_le hinv') (ra_atomic_of_lookup hlk h3)
  | done r =>
    refine hrest _ _ _ (Nat.zero_le _) (fun i k rest' v h1 => by cases h1) (fun x hx k v h1 h2 h3 => ?_)
    rcases List.mem_append.mp hx with hx | hx
    · exact hmono _ _ _ _ _ (h.gets x hx k v h1 h2 h3) (Nat.le_refl _)
    · -- the get that completes now was parked: its slot held `(k, v)` before this step
      cases List.mem_singleton.mp hx
      dsimp only at h1 h3 ⊢
      subst h1
      obtain ⟨i, hpc, hsl⟩ := stepOpR_found c hc sys.store th.pc k v h2 (by rw [hs, h3])
      have hne : ¬ th.pc = .hook .start := by rw [hpc]; intro hh; cases hh
      rw [if_neg hne]
      exact hmono _ _ _ _ _ (h.parked t th hth i k rest v hpc hops hsl) (Nat.le_refl _)

/-! ### the witnesses: the states the run passes through -/

/-- some prefix of the schedule reaches a state whose clock lies in `[lo, hi]` and in which a
    one-step get of `k` returns `v` -/
def ra_Wit (c : RingCfg) (init : RSys) (sched : List Nat) (lo hi : Nat) (k : Key) (v : Val) : Prop :=
  ∃ n, n ≤ sched.length ∧
    lo ≤ (runFromR c init (sched.take n)).clock ∧
    (runFromR c init (sched.take n)).clock ≤ hi ∧
    ringGetAtomic c (runFromR c init (sched.take n)).store.ring k = some v

theorem ra_Wit_snoc {c : RingCfg} {init : RSys} {sched : List Nat} {lo hi : Nat} {k : Key} {v : Val}
    (h : ra_Wit c init sched lo hi k v) (t : Nat) {hi' : Nat} (hh : hi ≤ hi') :
    ra_Wit c init (sched ++ [t]) lo hi' k v := by
  obtain ⟨n, hn, h1, h2, h3⟩ := h
  refine ⟨n, ?_, ?_, ?_, ?_⟩
  · rw [List.length_append]; exact Nat.le_trans hn (Nat.le_add_right _ _)
  · rw [List.take_append_of_le_length hn]; exact h1
  · rw [List.take_append_of_le_length hn]; exact Nat.le_trans h2 hh
  · rw [List.take_append_of_le_length hn]; exact h3

theorem ra_Wit_last {c : RingCfg} {init : RSys} {sched : List Nat} {lo : Nat} {k : Key} {v : Val}
    (h1 : lo ≤ (runFromR c init sched).clock)
    (h3 : ringGetAtomic c (runFromR c init sched).store.ring k = some v) :
    ra_Wit c init sched lo (runFromR c init sched).clock k v := by
  refine ⟨sched.length, Nat.le_refl _, ?_, ?_, ?_⟩
  · rw [List.take_length]; exact h1
  · rw [List.take_length]; exact Nat.le_refl _
  · rw [List.take_length]; exact h3

theorem ra_runFromR_snoc (c : RingCfg) (init : RSys) (sched : List Nat) (t : Nat) :
    runFromR c init (sched ++ [t]) = stepR c (runFromR c init sched) t := by
  simp only [runFromR, List.foldl_append, List.foldl_cons, List.foldl_nil]

theorem AtomInv.snoc {c : RingCfg} (hc : c.keyCheck = true) {init : RSys} {sched : List Nat}
    (h : AtomInv c (ra_Wit c init sched) (runFromR c init sched)) (t : Nat) :
    AtomInv c (ra_Wit c init (sched ++ [t])) (runFromR c init (sched ++ [t])) := by
  have hstep := AtomInv.step hc (W' := ra_Wit c init (sched ++ [t])) h t
    (fun lo hi hi' k v hw hh => ra_Wit_snoc hw t hh)
    (by
      intro lo k v h1 h3
      rw [← ra_runFromR_snoc] at h1 h3 ⊢
      exact ra_Wit_last h1 h3)
  rw [ra_runFromR_snoc]
  exact hstep

theorem AtomInv.run {c : RingCfg} (hc : c.keyCheck = true) (init : RSys) (todo : List Nat) :
    ∀ done : List Nat, AtomInv c (ra_Wit c init done) (runFromR c init done) →
      AtomInv c (ra_Wit c init (done ++ todo)) (runFromR c init (done ++ todo)) := by
  induction todo with
  | nil => intro done h; rw [List.append_nil]; exact h
  | cons t rest ih =>
    intro done h
    have := ih (done ++ [t]) (h.snoc hc t)
    rw [List.append_assoc] at this
    exact this

/-! ### not vacuous: every two keys collide; a get races with two puts of the other thread -/

/-- thread 0 puts `_cache:1` and reads it back; thread 1 puts `_cache:2` (same hash) and `_cache:1` again -/
def ra_progs : List ThreadProgram :=
  [[.put kC1 ⟨1, .none⟩, .get kC1], [.put kC2 ⟨2, .none⟩, .put kC1 ⟨3, .none⟩]]

/-- put; the get's index lookup; both puts of thread 1; the get's slot read -/
def ra_sched : List Nat := [0, 0, 1, 1, 0]

/-- four slots: the colliding puts go to fresh slots, slot 0 keeps `(_cache:1, 1)`.  The get (first
    step at clock 1, last at clock 4) returns 1 = what an atomic get returns in the state with clock
    2 (the prefix of length 2: right after the get's first step), although at clocks 3 and 4 an
    atomic get returns nothing / 3 -/
example :
    (runSchedR (cfgOf hashConst true) 4 false ra_progs ra_sched).hist[3]? =
        some { t := 0, i := 1, op := .get kC1, res := .found ⟨1, .none⟩, inv := 1, ret := 4 } ∧
      (runSchedR (cfgOf hashConst true) 4 false ra_progs (ra_sched.take 2)).clock = 2 ∧
      ringGetAtomic (cfgOf hashConst true)
        (runSchedR (cfgOf hashConst true) 4 false ra_progs (ra_sched.take 2)).store.ring kC1 = some ⟨1, .none⟩ ∧
      ringGetAtomic (cfgOf hashConst true)
        (runSchedR (cfgOf hashConst true) 4 false ra_progs (ra_sched.take 3)).store.ring kC1 = none ∧
      ringGetAtomic (cfgOf hashConst true)
        (runSchedR (cfgOf hashConst true) 4 false ra_progs (ra_sched.take 4)).store.ring kC1 = some ⟨3, .none⟩ := by
  decide +kernel

/-- one slot: both puts of thread 1 evict what slot 0 holds, the second one stores `(_cache:1, 3)`
    there.  The get had slot number 0 in hand since clock 1; it returns 3 = what an atomic get returns
    in the state with clock 4 (the prefix of length 4: right before the get's last step), not the 1
    an atomic get returned when the get took its first step -/
example :
    (runSchedR (cfgOf hashConst true) 1 false ra_progs ra_sched).hist[3]? =
        some { t := 0, i := 1, op := .get kC1, res := .found ⟨3, .none⟩, inv := 1, ret := 4 } ∧
      (runSchedR (cfgOf hashConst true) 1 false ra_progs (ra_sched.take 4)).clock = 4 ∧
      ringGetAtomic (cfgOf hashConst true)
        (runSchedR (cfgOf hashConst true) 1 false ra_progs (ra_sched.take 4)).store.ring kC1 = some ⟨3, .none⟩ ∧
      ringGetAtomic (cfgOf hashConst true)
        (runSchedR (cfgOf hashConst true) 1 false ra_progs (ra_sched.take 1)).store.ring kC1 = some ⟨1, .none⟩ := by
  decide +kernel

end Neumann.KV
