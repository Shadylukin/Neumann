import NeumannModel.KV.RingLemmas
import NeumannModel.KV.RingAtomic
import NeumannModel.KV.RingLin
/-
  C11 — the cache ring as it is: an index from the HASH of a key to a slot, slots holding
  (key, value), `get` = index lookup, then (the index lock released, other threads running) the
  slot read with the comparison `entry.key == key`.

  `runSchedR c cap walOn progs sched` (Ring.lean) is the store at that granularity; `c.hash` is ANY
  hash function (two live keys with one hash share one index entry), `c.pick` any eviction choice,
  `cap` any capacity; `c.keyCheck = true` is the code, `false` is `get` returning whatever sits in
  the slot the index resolved.

  What the comparison is there for: a read of a cache key returns only a value that was written to
  THAT key.  It is the only thing that re-validates the slot number after the gap between the two
  lock sections of `get`, and the only thing that tells two keys with one hash apart.
-/
namespace Neumann.KV.RingProps
open Neumann.KV

/-- FULL STRENGTH: every hash function (any collisions), every eviction choice, every capacity,
    every number of threads, every program of all seven operations on keys of every class (any
    byte strings), with or without the log, EVERY interleaving at the granularity of `get`'s two
    lock sections, stopped after ANY step: a completed `get` of a cache key that found a value
    found a value that a `put` / `put_durable` OF THAT VERY KEY had stored, and that put had taken
    its step before the get returned (`r.ret` = the number of atomic steps before the get's last
    one).  "A read never returns a value that was never written" - to the key it reads. -/
theorem cache_get_returns_only_a_value_written_to_that_key (hash : Key → Nat)
    (pick : List (Option (Key × Val)) → Nat) (cap : Nat) (walOn : Bool)
    (progs : List ThreadProgram) (sched : List Nat) :
    let sys := runSchedR { hash := hash, pick := pick, keyCheck := true } cap walOn progs sched
    ∀ r ∈ sys.hist, ∀ k v, r.op = .get k → k.cls = .cache → r.res = .found v →
      ∃ e ∈ sys.trace.take r.ret, e.2.1 = .put k v ∨ e.2.1 = .putD k v :=
  ((SafeInv.init cap walOn progs).foldWith (localSafe_stepOpR rfl) sched).gets

/-- the same about the slots themselves, at every moment: whatever an occupied slot holds is the
    (key, value) of a put that has taken its step -/
theorem cache_slot_holds_only_what_was_put_under_its_key (hash : Key → Nat)
    (pick : List (Option (Key × Val)) → Nat) (cap : Nat) (walOn : Bool)
    (progs : List ThreadProgram) (sched : List Nat) :
    let sys := runSchedR { hash := hash, pick := pick, keyCheck := true } cap walOn progs sched
    ∀ k v, some (k, v) ∈ sys.store.ring.slots →
      ∃ e ∈ sys.trace, e.2.1 = .put k v ∨ e.2.1 = .putD k v :=
  ((SafeInv.init cap walOn progs).foldWith (localSafe_stepOpR rfl) sched).slots

/-- the same on the machine `drv_kv` runs for a tree WITHOUT the yield point inside `CacheRing::get`
    (`runSchedRFused`, command `runrf`: both lock sections of `get` in one scheduler step - what
    `corr_kv` compares the real store with today): every hash function, every interleaving of the
    yield hooks, stopped anywhere -/
theorem cache_get_returns_only_a_value_written_to_that_key_at_hook_granularity (hash : Key → Nat)
    (pick : List (Option (Key × Val)) → Nat) (cap : Nat) (walOn : Bool)
    (progs : List ThreadProgram) (sched : List Nat) :
    let sys := runSchedRFused { hash := hash, pick := pick, keyCheck := true } cap walOn progs sched
    ∀ r ∈ sys.hist, ∀ k v, r.op = .get k → k.cls = .cache → r.res = .found v →
      ∃ e ∈ sys.trace.take r.ret, e.2.1 = .put k v ∨ e.2.1 = .putD k v :=
  ((SafeInv.init cap walOn progs).foldWith (localSafe_stepOpRFused rfl) sched).gets

example :
    (runSchedRFused (cfgOf hashConst true) 4 false ringCollisionProgs [0, 0, 0, 0]).hist.map (·.res) =
      [.ok, .ok, .notFound, .found ⟨2, .none⟩] := by decide +kernel

/-- non-vacuity, (a) the interleaving: the reader's index lookup finds slot 0; `_cache:1` is deleted
    and `_cache:2` put into the slot that has just become empty; the reader's slot read compares
    the keys and reports NotFound.  The trace shows the get parked between its two lock sections. -/
example :
    (runSchedR (cfgOf hashLastByte true) 4 false ringRaceProgs ringRaceSched).hist.map
        (fun r => (r.t, r.i, r.inv, r.ret, r.res)) =
      [(0, 0, 0, 0, .ok), (0, 1, 2, 2, .ok), (0, 2, 3, 3, .ok), (1, 0, 1, 4, .notFound)] ∧
    (runSchedR (cfgOf hashLastByte true) 4 false ringRaceProgs ringRaceSched).trace.map (·.2.2) =
      [.hook .start, .hook .start, .hook .start, .hook .start, .ringGetAfterIndex 0] ∧
    (runSchedR (cfgOf hashLastByte true) 4 false ringRaceProgs ringRaceSched).store.ring.slots =
      [some (kC2, ⟨2, .none⟩), none, none, none] := by decide +kernel

/-- non-vacuity, a get that does find a value (written to its key, two steps before) -/
example :
    (runSchedR (cfgOf hashLastByte true) 4 false [[.put kC1 ⟨1, .none⟩], [.get kC1]] [0, 1, 1]).hist.map
        (fun r => (r.t, r.inv, r.ret, r.res)) = [(0, 0, 0, .ok), (1, 1, 2, .found ⟨1, .none⟩)] := by decide +kernel

/-! ### what does not hold without the key comparison -/

/-- NOT the code: `get` returns whatever sits in the slot the index resolved
    (`runSchedRGetWithoutKeyCheck`).  (a) BY INTERLEAVING, no two keys with one hash
    (`ringRaceSched`): put `_cache:1`; the reader of `_cache:1` reads slot 0 from the index and
    pauses before the slots lock; delete `_cache:1`; put `_cache:2` - it re-uses slot 0; the reader
    resumes and returns the value of `_cache:2`, a value NO put ever wrote to `_cache:1`, although
    `_cache:1` is absent by then and no order of the four operations allows it.  The code, same
    programs, same interleaving: NotFound. -/
theorem get_without_key_check_interleaving_witness :
    let bad := runSchedRGetWithoutKeyCheck hashLastByte (fun _ => 0) 4 false ringRaceProgs ringRaceSched
    let good := runSchedR (cfgOf hashLastByte true) 4 false ringRaceProgs ringRaceSched
    quiescentR bad = true ∧
    bad.hist.map (fun r => (r.t, r.i, r.op, r.res)) =
      [(0, 0, .put kC1 ⟨1, .none⟩, .ok), (0, 1, .delete kC1, .ok), (0, 2, .put kC2 ⟨2, .none⟩, .ok),
       (1, 0, .get kC1, .found ⟨2, .none⟩)] ∧
    (∀ e ∈ bad.trace, e.2.1 ≠ .put kC1 ⟨2, .none⟩ ∧ e.2.1 ≠ .putD kC1 ⟨2, .none⟩) ∧
    hashLastByte kC1 ≠ hashLastByte kC2 ∧
    good.hist.map (·.res) = [.ok, .ok, .ok, .notFound] ∧
    bad.trace.map (·.2.2) = good.trace.map (·.2.2) := by
  decide +kernel

/-- (b) SEQUENTIALLY, two keys with one hash (`hashConst`): put `_cache:1`, put `_cache:2`, get
    `_cache:1` returns the value of `_cache:2`.  The code: the second put takes the index entry of
    the shared hash over, the get of `_cache:1` finds `_cache:2` in the slot and reports NotFound;
    the get of `_cache:2` finds its own value. -/
theorem get_without_key_check_collision_witness :
    let bad := runSchedRGetWithoutKeyCheck hashConst (fun _ => 0) 4 false ringCollisionProgs ringCollisionSched
    let good := runSchedR (cfgOf hashConst true) 4 false ringCollisionProgs ringCollisionSched
    bad.hist.map (fun r => (r.op, r.res)) =
      [(.put kC1 ⟨1, .none⟩, .ok), (.put kC2 ⟨2, .none⟩, .ok), (.get kC1, .found ⟨2, .none⟩),
       (.get kC2, .found ⟨2, .none⟩)] ∧
    good.hist.map (·.res) = [.ok, .ok, .notFound, .found ⟨2, .none⟩] := by
  decide +kernel

/-- without a second key of the same hash and without a second thread the variant is
    indistinguishable from the code (no test that uses one thread and ordinary keys tells) -/
example :
    (runSchedRGetWithoutKeyCheck hashLastByte (fun _ => 0) 4 false
        [[.put kC1 ⟨1, .none⟩, .get kC1, .put kC2 ⟨2, .none⟩, .get kC2, .delete kC1, .get kC1]]
        (List.replicate 9 0)).hist.map (·.res) =
      [.ok, .found ⟨1, .none⟩, .ok, .found ⟨2, .none⟩, .ok, .notFound] ∧
    (runSchedR (cfgOf hashLastByte true) 4 false
        [[.put kC1 ⟨1, .none⟩, .get kC1, .put kC2 ⟨2, .none⟩, .get kC2, .delete kC1, .get kC1]]
        (List.replicate 9 0)).hist.map (·.res) =
      [.ok, .found ⟨1, .none⟩, .ok, .found ⟨2, .none⟩, .ok, .notFound] := by decide +kernel

/-! ### splitting `get` over two lock sections is invisible; the linearizability theorems carry over -/

/-- FULL STRENGTH (every hash function - no injectivity -, every eviction choice, capacity, programs
    of all seven operations on keys of every class, every interleaving, stopped anywhere): a `get` of
    a cache key that finds a value returns EXACTLY what a one-step get (`ringGetAtomic`: index lookup
    and slot read back to back) returns in some state the run passes through between the get's first
    and last step, ends included (`sched.take n` = a prefix of the interleaving; its clock lies in
    `[r.inv, r.ret]`).  So a get in two lock sections has the results of an atomic get at some moment
    of its interval - or NotFound (a cache may always say so: `absentOk`). -/
theorem two_step_get_returns_what_a_one_step_get_would_at_some_moment_of_its_interval
    (hash : Key → Nat) (pick : List (Option (Key × Val)) → Nat) (cap : Nat) (walOn : Bool)
    (progs : List ThreadProgram) (sched : List Nat) :
    let c : RingCfg := { hash := hash, pick := pick, keyCheck := true }
    ∀ r ∈ (runSchedR c cap walOn progs sched).hist, ∀ k v,
      r.op = .get k → k.cls = .cache → r.res = .found v →
      ∃ n, n ≤ sched.length ∧
        r.inv ≤ (runSchedR c cap walOn progs (sched.take n)).clock ∧
        (runSchedR c cap walOn progs (sched.take n)).clock ≤ r.ret ∧
        ringGetAtomic c (runSchedR c cap walOn progs (sched.take n)).store.ring k = some v := by
  intro c
  have h := AtomInv.run (c := c) rfl (initRSys cap walOn progs) sched []
    (AtomInv.init c _ cap walOn progs)
  rw [List.nil_append] at h
  exact h.gets

/-- non-vacuity: every two keys collide, the get of `_cache:1` (first step at clock 1, last at clock 4)
    overlaps a put of `_cache:2` and a put of `_cache:1`; it returns the value an atomic get returns
    right after its first step (clock 2), although atomic gets at clocks 3 and 4 return nothing / 3 -/
example :
    (runSchedR (cfgOf hashConst true) 4 false ra_progs ra_sched).hist[3]? =
        some { t := 0, i := 1, op := .get kC1, res := .found ⟨1, .none⟩, inv := 1, ret := 4 } ∧
      (runSchedR (cfgOf hashConst true) 4 false ra_progs (ra_sched.take 2)).clock = 2 ∧
      ringGetAtomic (cfgOf hashConst true)
        (runSchedR (cfgOf hashConst true) 4 false ra_progs (ra_sched.take 2)).store.ring kC1 = some ⟨1, .none⟩ := by
  decide +kernel

/-- THE LINEARIZABILITY THEOREMS CARRY OVER to the ring as it is.  For every INJECTIVE hash function
    (no two keys of one hash - the situation `Model.Store.cache` as a map stands for), every eviction
    choice, every schedule no longer than the capacity (`find_slot_for_insert` then always finds an
    empty slot: no eviction; the real ring has 10 000 slots), every number of threads and every
    program of single-step operations (put / get / delete / exists on plain, graph, table and cache
    keys, put_durable / delete_durable on cache keys, scans over any string) - with `get` of a cache
    key in TWO steps and everything of every other thread in between: the history in order of
    completion is a legal sequential execution of the key ↦ value map that respects real time (a
    two-step get returns the value current at its second step, or NotFound), and the store, seen
    through `RStore.view` (the occupied slots as the cache slab), IS the specification map applied to
    the completed operations - the statement of `Props.single_step_ops_linearizable`, on the finer
    machine. -/
theorem cache_ring_with_injective_hash_is_linearizable (hash : Key → Nat)
    (hinj : ∀ a b : Key, hash a = hash b → a = b)
    (pick : List (Option (Key × Val)) → Nat) (cap : Nat) (walOn : Bool)
    (progs : List ThreadProgram) (sched : List Nat)
    (hops : ∀ p ∈ progs, ∀ op ∈ p, op.singleStep ∧ op.scanStr = true)
    (hcap : sched.length ≤ cap) :
    let sys := runSchedR { hash := hash, pick := pick, keyCheck := true } cap walOn progs sched
    SeqValid [] sys.hist ∧ RespectsRealTime sys.hist ∧ Linearizable sys.hist ∧
    Abs sys.store.view (specRun [] (sys.hist.map (·.op))) :=
  ring_run_linearizable hash hinj pick cap walOn progs sched hops hcap

/-- non-vacuity: an injective hash (`rl_hashInj`), a put inside the interval of a two-step get
    (put 2 takes its step between the get's index lookup and its slot read); the hypotheses hold -/
example :
    (∀ a b : Key, rl_hashInj a = rl_hashInj b → a = b) ∧
    (runSchedR { hash := rl_hashInj, pick := fun _ => 0, keyCheck := true } 4 false rl_overlapProgs rl_overlapSched).hist.map
        (fun r => (r.t, r.inv, r.ret, r.res)) =
      [(0, 0, 0, .ok), (1, 2, 2, .ok), (0, 1, 3, .found ⟨2, .none⟩)] ∧
    rl_overlapSched.length ≤ 4 :=
  ⟨rl_hashInj_inj, by decide +kernel, by decide +kernel⟩

/-! ### the ring is NOT a key ↦ value map on two keys with one hash (the code as it is) -/

/-- THE CODE, sequentially, two keys with one hash: after put `_cache:1`, put `_cache:2` the entry of
    `_cache:1` still occupies its slot but the index entry of the shared hash points at the slot of
    `_cache:2`: get `_cache:1` says NotFound and exists says false although no delete ran (as after an
    eviction), the scan STILL LISTS `_cache:1` (a key that "does not exist"), delete `_cache:1` says
    NotFound - the slot is never freed.  After delete `_cache:2` (Ok) and put `_cache:1` again the
    ring holds two entries of `_cache:1`.  So "the cache ring is a key ↦ value map" is false of the
    code for a hash function with collisions; what is true for EVERY hash function is
    `cache_get_returns_only_a_value_written_to_that_key`. -/
theorem ring_is_not_a_map_on_colliding_keys_witness :
    let c := cfgOf hashConst true
    let s := (runSchedR c 4 false [[.put kC1 ⟨1, .none⟩, .put kC2 ⟨2, .none⟩]] [0, 0]).store
    viewR c s kC1 = (.notFound, false, true) ∧
    viewR c s kC2 = (.found ⟨2, .none⟩, true, true) ∧
    (seqOpR c s (.delete kC1)).2 = .notFound ∧
    s.ring.slots = [some (kC1, ⟨1, .none⟩), some (kC2, ⟨2, .none⟩), none, none] ∧
    s.ring.index = [(7, 1)] ∧
    (let s2 := (seqOpR c (seqOpR c s (.delete kC2)).1 (.put kC1 ⟨3, .none⟩)).1
     s2.ring.slots = [some (kC1, ⟨1, .none⟩), some (kC1, ⟨3, .none⟩), none, none] ∧
     viewR c s2 kC1 = (.found ⟨3, .none⟩, true, true)) := by
  decide +kernel

end Neumann.KV.RingProps
