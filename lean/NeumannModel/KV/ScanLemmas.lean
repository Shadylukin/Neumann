import NeumannModel.KV.Model
/-
  C11 — the prefix scan of `MetadataSlab` at the level of bytes (core Lean only): byte-wise order,
  `next_prefix`, the UTF-8 decoder, and when the `BTreeMap` range is the set of keys that start with
  the prefix.
-/
namespace Neumann.KV

theorem isPfx_nil_left (k : List Nat) : isPfx [] k = true := by
  cases k <;> rfl

theorem isPfx_iff (p k : List Nat) : isPfx p k = true ↔ ∃ r, k = p ++ r := by
  induction p generalizing k with
  | nil => exact ⟨fun _ => ⟨k, rfl⟩, fun _ => isPfx_nil_left k⟩
  | cons a p ih =>
    cases k with
    | nil => simp [isPfx]
    | cons b k =>
      simp only [isPfx, Bool.and_eq_true, beq_iff_eq, ih, List.cons_append, List.cons.injEq]
      constructor
      · rintro ⟨rfl, r, rfl⟩; exact ⟨r, rfl, rfl⟩
      · rintro ⟨r, rfl, rfl⟩; exact ⟨rfl, r, rfl⟩

theorem isPfx_refl (p : List Nat) : isPfx p p = true := (isPfx_iff p p).mpr ⟨[], by simp⟩

theorem shardOf_of_isPfx {p k : List Nat} (hp : p ≠ []) (h : isPfx p k = true) :
    shardOf k = shardOf p := by
  cases p with
  | nil => exact absurd rfl hp
  | cons a p =>
    cases k with
    | nil => simp [isPfx] at h
    | cons b k =>
      simp only [isPfx, Bool.and_eq_true, beq_iff_eq] at h
      simp [shardOf, h.1]

theorem bleq_nil_left (k : List Nat) : bleq [] k = true := by
  cases k <;> rfl

theorem bleq_refl (a : List Nat) : bleq a a = true := by
  induction a with
  | nil => rfl
  | cons x a ih => simp [bleq, ih]

theorem bleq_trans {a b c : List Nat} (h1 : bleq a b = true) (h2 : bleq b c = true) :
    bleq a c = true := by
  induction a generalizing b c with
  | nil => cases c <;> rfl
  | cons x a ih =>
    cases b with
    | nil => simp [bleq] at h1
    | cons y b =>
      cases c with
      | nil => simp [bleq] at h2
      | cons z c =>
        simp only [bleq, Bool.or_eq_true, decide_eq_true_eq, Bool.and_eq_true, beq_iff_eq] at h1 h2 ⊢
        rcases h1 with h1 | ⟨rfl, h1⟩
        · rcases h2 with h2 | ⟨rfl, _⟩
          · exact Or.inl (Nat.lt_trans h1 h2)
          · exact Or.inl h1
        · rcases h2 with h2 | ⟨rfl, h2⟩
          · exact Or.inl h2
          · exact Or.inr ⟨rfl, ih h1 h2⟩

theorem bleq_total (a b : List Nat) : bleq a b = true ∨ bleq b a = true := by
  induction a generalizing b with
  | nil => left; cases b <;> rfl
  | cons x a ih =>
    cases b with
    | nil => right; rfl
    | cons y b =>
      simp only [bleq, Bool.or_eq_true, decide_eq_true_eq, Bool.and_eq_true, beq_iff_eq]
      rcases Nat.lt_trichotomy x y with h | h | h
      · exact Or.inl (Or.inl h)
      · subst h
        rcases ih b with h' | h'
        · exact Or.inl (Or.inr ⟨rfl, h'⟩)
        · exact Or.inr (Or.inr ⟨rfl, h'⟩)
      · exact Or.inr (Or.inl h)

theorem bleq_of_isPfx {p k : List Nat} (h : isPfx p k = true) : bleq p k = true := by
  induction p generalizing k with
  | nil => cases k <;> rfl
  | cons a p ih =>
    cases k with
    | nil => simp [isPfx] at h
    | cons b k =>
      simp only [isPfx, Bool.and_eq_true, beq_iff_eq] at h
      simp [bleq, h.1, ih h.2]

/-- THE RANGE LEMMA: between `q ++ [b]` (inclusive) and `q ++ [b + 1]` (exclusive) lie exactly the
    strings that start with `q ++ [b]` - any bytes, any length -/
theorem range_succ_last (q : List Nat) (b : Nat) (k : List Nat) :
    (bleq (q ++ [b]) k && blt k (q ++ [b + 1])) = isPfx (q ++ [b]) k := by
  induction q generalizing k with
  | nil =>
    cases k with
    | nil => simp [bleq, blt, isPfx]
    | cons y k =>
      simp only [List.nil_append, bleq, blt, isPfx, Bool.and_true]
      rw [Bool.eq_iff_iff]
      simp only [Bool.and_eq_true, Bool.or_eq_true, decide_eq_true_eq, beq_iff_eq,
        Bool.not_eq_true', Bool.or_eq_false_iff, decide_eq_false_iff_not, beq_eq_false_iff_ne]
      omega
  | cons x q ih =>
    cases k with
    | nil => simp [bleq, blt, isPfx]
    | cons y k =>
      have ih' := ih k
      simp only [blt] at ih'
      simp only [List.cons_append, bleq, blt, isPfx]
      rcases Nat.lt_trichotomy x y with h | h | h
      · have h1 : decide (x < y) = true := by simp [h]
        have h2 : (x == y) = false := by simp; omega
        simp [h1, h2]
      · subst h
        simp only [Nat.lt_irrefl, decide_false, beq_self_eq_true, Bool.true_and, Bool.false_or]
        exact ih'
      · have h1 : decide (x < y) = false := by simp; omega
        have h2 : (x == y) = false := by simp; omega
        simp [h1, h2]

/-- the strings that start with `p` are convex and start at `p`: anything between `p` and a string
    that starts with `p` starts with `p` (why `range(p..).take_while(starts_with p)` is the filter) -/
theorem isPfx_of_between {p a c : List Nat} (h1 : bleq p a = true) (h2 : bleq a c = true)
    (hc : isPfx p c = true) : isPfx p a = true := by
  induction p generalizing a c with
  | nil => exact isPfx_nil_left a
  | cons x p ih =>
    cases c with
    | nil => simp [isPfx] at hc
    | cons z c =>
      simp only [isPfx, Bool.and_eq_true, beq_iff_eq] at hc
      obtain ⟨rfl, hc⟩ := hc
      cases a with
      | nil => simp [bleq] at h1
      | cons y a =>
        simp only [bleq, Bool.or_eq_true, decide_eq_true_eq, Bool.and_eq_true, beq_iff_eq] at h1 h2
        simp only [isPfx, Bool.and_eq_true, beq_iff_eq]
        rcases h1 with h1 | ⟨rfl, h1⟩
        · rcases h2 with h2 | ⟨rfl, _⟩ <;> omega
        · rcases h2 with h2 | ⟨_, h2⟩
          · omega
          · exact ⟨rfl, ih h1 h2 hc⟩

theorem u8run_append (st : U8) (a b : List Nat) :
    u8run st (a ++ b) = (u8run st a).bind (fun st' => u8run st' b) := by
  induction a generalizing st with
  | nil => rfl
  | cons x a ih =>
    simp only [List.cons_append, u8run]
    cases u8step st x with
    | none => rfl
    | some st' => exact ih st'

theorem validUtf8_snoc (q : List Nat) (b : Nat) :
    validUtf8 (q ++ [b]) = true ↔ ∃ st, u8run .s0 q = some st ∧ u8step st b = some .s0 := by
  simp only [validUtf8, u8run_append, beq_iff_eq]
  cases u8run .s0 q with
  | none => simp
  | some st =>
    simp only [Option.bind_some, u8run, Option.some.injEq, exists_eq_left']
    cases u8step st b <;> simp

theorem ite_ne_some {α} {c : Prop} [Decidable c] {x y : Option α} {z : α} (hx : x ≠ some z)
    (hy : y ≠ some z) : (if c then x else y) ≠ some z := by
  split <;> assumption

/-- a character ends with an ASCII byte or with the last continuation byte of a longer one -/
theorem u8step_eq_s0_iff {st : U8} {b : Nat} :
    u8step st b = some .s0 ↔ (st = .s0 ∧ b < 0x80) ∨ (st = .c1 ∧ 0x80 ≤ b ∧ b ≤ 0xBF) := by
  cases st <;> simp only [u8step, reduceCtorEq, false_and, true_and, or_false, false_or]
  · by_cases h : b < 0x80
    · simp only [h, if_true]
    · rw [if_neg h]
      refine iff_of_false ?_ h
      -- every other lead byte opens a longer character
      repeat' apply ite_ne_some
      all_goals (intro e; cases e)
  · split <;> simp [*]
  all_goals
    simp only [iff_false]
    apply ite_ne_some <;> (intro e; cases e)

/-- the decoder accepts `b + 1` at the end exactly as it accepted `b`, unless `b` is the last
    byte of its range: `0x7F` or `0xBF` -/
theorem u8step_succ_iff {st : U8} {b : Nat} (h : u8step st b = some .s0) :
    u8step st (b + 1) = some .s0 ↔ b ≠ 0x7F ∧ b ≠ 0xBF := by
  rw [u8step_eq_s0_iff] at h ⊢
  rcases h with ⟨rfl, h⟩ | ⟨rfl, h⟩ <;>
    simp only [reduceCtorEq, false_and, true_and, or_false, false_or] <;> omega

theorem incLast_snoc (q : List Nat) (b : Nat) (hb : b < 0xff) : incLast (q ++ [b]) = some (q ++ [b + 1]) := by
  simp [incLast, incLastRev, hb]

/-- the last byte of a string is below `0xC0`, and `next_prefix` is the string with that byte plus
    one - unless that is not UTF-8, which is exactly when the byte is `0x7F` or `0xBF` -/
theorem nextPrefix_snoc {q : List Nat} {b : Nat} (hv : validUtf8 (q ++ [b]) = true) :
    b < 0xC0 ∧
      nextPrefix (q ++ [b]) = if b = 0x7F ∨ b = 0xBF then none else some (q ++ [b + 1]) := by
  obtain ⟨st, hq, hst⟩ := (validUtf8_snoc q b).mp hv
  have hlt : b < 0xC0 := by have := u8step_eq_s0_iff.mp hst; omega
  have hvv : validUtf8 (q ++ [b + 1]) = true ↔ b ≠ 0x7F ∧ b ≠ 0xBF := by
    simp only [validUtf8_snoc, hq, Option.some.injEq, exists_eq_left', u8step_succ_iff hst]
  refine ⟨hlt, ?_⟩
  simp only [nextPrefix, incLast_snoc q b (by omega)]
  by_cases hb : b = 0x7F ∨ b = 0xBF
  · rw [if_pos hb, if_neg]
    rw [hvv]; omega
  · rw [if_neg hb, if_pos]
    rw [hvv]; omega

theorem exists_snoc {p : List Nat} (hp : p ≠ []) : ∃ q b, p = q ++ [b] :=
  ⟨p.dropLast, p.getLast hp, (List.dropLast_concat_getLast hp).symm⟩

theorem shard_and_isPfx {p : List Nat} (hp : p ≠ []) (k : List Nat) :
    (decide (shardOf k = shardOf p) && isPfx p k) = isPfx p k := by
  cases h : isPfx p k with
  | false => exact Bool.and_false _
  | true => simp [shardOf_of_isPfx hp h]

theorem bleq_and_isPfx (p k : List Nat) : (bleq p k && isPfx p k) = isPfx p k := by
  cases h : isPfx p k with
  | false => exact Bool.and_false _
  | true => simp [bleq_of_isPfx h]

theorem mdMatch_eq_pmatch {p : List Nat} (hv : validUtf8 p = true) (k : Key) :
    mdMatch p k = pmatch p k := by
  by_cases hp : p = []
  · subst hp; simp [mdMatch, pmatch, isPfx_nil_left]
  · obtain ⟨q, b, rfl⟩ := exists_snoc hp
    simp only [mdMatch, if_neg hp, pmatch, (nextPrefix_snoc hv).2]
    by_cases hb : b = 0x7F ∨ b = 0xBF
    · simp only [if_pos hb]
      rw [bleq_and_isPfx, shard_and_isPfx hp]
    · simp only [if_neg hb]
      rw [range_succ_last, shard_and_isPfx hp]

/-- the code before 27855097 took the same branch whenever the prefix has an end key -/
theorem mdMatchOld_eq_mdMatch {p : List Nat} (h : p = [] ∨ (nextPrefix p).isSome = true) (k : Key) :
    mdMatchOld p k = mdMatch p k := by
  rcases h with rfl | h
  · rfl
  · obtain ⟨e, he⟩ := Option.isSome_iff_exists.mp h
    simp only [mdMatchOld, mdMatch, he]

theorem boundedPrefix_iff (p : List Nat) :
    boundedPrefix p = true ↔ p = [] ∨ (validUtf8 p = true ∧ (nextPrefix p).isSome = true) := by
  cases p <;> simp [boundedPrefix]

theorem mdMatchOld_eq_pmatch {p : List Nat} (hb : boundedPrefix p = true) (k : Key) :
    mdMatchOld p k = pmatch p k := by
  rcases (boundedPrefix_iff p).mp hb with rfl | ⟨hv, hs⟩
  · rw [mdMatchOld_eq_mdMatch (Or.inl rfl), mdMatch_eq_pmatch rfl]
  · rw [mdMatchOld_eq_mdMatch (Or.inr hs), mdMatch_eq_pmatch hv]

end Neumann.KV
