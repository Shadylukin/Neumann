import NeumannModel.KV.SlabLemmas
import NeumannModel.KV.EmbLemmas
/-
  Helper lemmas for SlabProps: sequential histories of the store with the slab as it is are the
  map key ↦ last value put (core Lean only).
-/
namespace Neumann.KV

/-- the map a slab is, read off its index and cells -/
def eAbs (e : ESlab) : List (Nat × Nat) := e.index.map fun p => (p.1, (aget e.cells p.2).getD 0)

theorem aget_map_val {β γ} (l : List (Nat × β)) (f : β → γ) (id : Nat) :
    aget (l.map fun p => (p.1, f p.2)) id = (aget l id).map f := by
  induction l with
  | nil => rfl
  | cons p r ih =>
    obtain ⟨a, b⟩ := p
    simp only [List.map, aget]
    by_cases h : a = id
    · simp [h]
    · simp [h, ih]

theorem refines_eAbs (e : ESlab) : Refines e (eAbs e) := by
  intro id
  unfold eGet eAbs
  rw [aget_map_val e.index (fun sl => (aget e.cells sl).getD 0) id]
  cases aget e.index id <;> rfl

theorem eGet_eSet {e : ESlab} (h : SlabInv e) (id t a : Nat) :
    eGet (eSet e id t) a = if id = a then some t else eGet e a := by
  have := Refines.step h (refines_eAbs e) (.set id t) a
  simp only [eStep, mStep, aget_aset] at this
  rw [this, refines_eAbs e a]

theorem eGet_eDelete {e : ESlab} (h : SlabInv e) (id a : Nat) :
    eGet (eDelete e id) a = if id = a then none else eGet e a := by
  have := Refines.step h (refines_eAbs e) (.del id) a
  simp only [eStep, mStep, aget_aerase] at this
  rw [this, refines_eAbs e a]

theorem eGet_eSlabPut {e : ESlab} (h : SlabInv e) (id a : Nat) (vec : VecF) :
    eGet (eSlabPut e id vec) a = if id = a then vecTag vec else eGet e a := by
  cases vec with
  | good t => exact eGet_eSet h id t a
  | bad t => exact eGet_eDelete h id a
  | none => exact eGet_eDelete h id a

/-- the store IS the map σ -/
structure Coh (s : SStore) (σ : Spec) : Prop where
  inv : SlabInv s.es
  uniq : LiveUnique s.vocab
  md : ∀ k, k.cls ≠ .cache → aget s.md k = aget σ k
  cache : ∀ k, k.cls = .cache → aget s.cache k = aget σ k
  embOnly : ∀ k id, idxGet s.vocab k = some id → k.cls = .emb
  live : ∀ k id, idxGet s.vocab k = some id → (aget σ k).isSome = true
  vec : ∀ k id, idxGet s.vocab k = some id → eGet s.es id = (aget σ k).bind fun v => vecTag v.vec

theorem Coh.init : Coh {} [] :=
  ⟨SlabInv.init, fun i j k h => by simp at h, fun _ _ => rfl, fun _ _ => rfl,
   fun _ _ h => by simp [idxGet, idxGetAux] at h, fun _ _ h => by simp [idxGet, idxGetAux] at h,
   fun _ _ h => by simp [idxGet, idxGetAux] at h⟩

theorem Coh.exists_eq {s : SStore} {σ : Spec} (c : Coh s σ) (k : Key) : sExists s k = (aget σ k).isSome := by
  unfold sExists
  cases hc : k.cls with
  | cache => simp only; rw [c.cache k hc]
  | emb =>
    simp only
    rw [c.md k (by rw [hc]; decide)]
    cases hi : idxGet s.vocab k with
    | none => simp
    | some id => simp [c.live k id hi]
  | plain => simp only; rw [c.md k (by rw [hc]; decide)]
  | graph => simp only; rw [c.md k (by rw [hc]; decide)]
  | table => simp only; rw [c.md k (by rw [hc]; decide)]

theorem Coh.get_eq {s : SStore} {σ : Spec} (c : Coh s σ) (k : Key) :
    sGet s k = resOf (aget σ k) := by
  have hmd : k.cls ≠ .cache → sMdGet s k = resOf (aget σ k) := by
    intro h; unfold sMdGet; rw [c.md k h]; cases aget σ k <;> rfl
  unfold sGet
  cases hc : k.cls with
  | cache => simp only; rw [c.cache k hc]; cases aget σ k <;> rfl
  | plain => simp only; exact hmd (by rw [hc]; decide)
  | graph => simp only; exact hmd (by rw [hc]; decide)
  | table => simp only; exact hmd (by rw [hc]; decide)
  | emb =>
    have hne : k.cls ≠ .cache := by rw [hc]; decide
    simp only
    cases hi : idxGet s.vocab k with
    | none => simp only; exact hmd hne
    | some id =>
      simp only
      have hv := c.vec k id hi
      have hm := c.md k hne
      cases hσ : aget σ k with
      | none => have := c.live k id hi; rw [hσ] at this; simp at this
      | some v =>
        rw [hσ] at hv hm
        obtain ⟨tag, vec⟩ := v
        cases vec with
        | good t =>
          simp only [Option.bind, vecTag] at hv
          rw [hv]; simp only; rw [hm]; rfl
        | bad t =>
          simp only [Option.bind, vecTag] at hv
          rw [hv]; simp only; rw [hmd hne, hσ]
        | none =>
          simp only [Option.bind, vecTag] at hv
          rw [hv]; simp only; rw [hmd hne, hσ]

theorem aget_aset_ne {β} (m : List (Key × β)) {k k' : Key} (v : β) (h : k ≠ k') : aget (aset m k v) k' = aget m k' := by
  rw [aget_aset, if_neg h]

theorem aget_aerase_ne {β} (m : List (Key × β)) {k k' : Key} (h : k ≠ k') : aget (aerase m k) k' = aget m k' := by
  rw [aget_aerase, if_neg h]

theorem cls_ne {k k' : Key} (h : k.cls ≠ k'.cls) : k ≠ k' := fun e => h (e ▸ rfl)

theorem Coh.clear {s : SStore} : Coh (sClear false s) [] :=
  ⟨SlabInv.clear s.es, fun i j k h => by simp [sClear] at h, fun _ _ => rfl, fun _ _ => rfl,
   fun _ _ h => by simp [sClear, idxGet, idxGetAux] at h, fun _ _ h => by simp [sClear, idxGet, idxGetAux] at h,
   fun _ _ h => by simp [sClear, idxGet, idxGetAux] at h⟩

theorem Coh.update_plain {s : SStore} {σ : Spec} (c : Coh s σ) {k : Key} (hc : k.cls ≠ .emb)
    (upd : List (Key × Val) → List (Key × Val)) (x : Option Val)
    (hupd : ∀ m k', aget (upd m) k' = if k = k' then x else aget m k') :
    Coh (if k.cls = .cache then { s with cache := upd s.cache } else { s with md := upd s.md })
      (upd σ) := by
  -- a key of another class is another key
  have other : ∀ {k'}, k.cls ≠ k'.cls → aget (upd σ) k' = aget σ k' :=
    fun h => by rw [hupd, if_neg (cls_ne h)]
  have same : ∀ {m k'}, aget m k' = aget σ k' → aget (upd m) k' = aget (upd σ) k' :=
    fun h => by rw [hupd, hupd, h]
  by_cases hca : k.cls = .cache
  · rw [if_pos hca]
    exact ⟨c.inv, c.uniq, fun k' h' => (c.md k' h').trans (other (by rw [hca]; exact Ne.symm h')).symm,
      fun k' h' => same (c.cache k' h'), c.embOnly,
      fun k' id hi => by rw [other (by rw [hca, c.embOnly k' id hi]; decide)]; exact c.live k' id hi,
      fun k' id hi => by rw [other (by rw [hca, c.embOnly k' id hi]; decide)]; exact c.vec k' id hi⟩
  · rw [if_neg hca]
    exact ⟨c.inv, c.uniq, fun k' h' => same (c.md k' h'),
      fun k' h' => (c.cache k' h').trans (other (by rw [h']; exact hca)).symm, c.embOnly,
      fun k' id hi => by rw [other (by rw [c.embOnly k' id hi]; exact hc)]; exact c.live k' id hi,
      fun k' id hi => by rw [other (by rw [c.embOnly k' id hi]; exact hc)]; exact c.vec k' id hi⟩

theorem Coh.put_plain {s : SStore} {σ : Spec} (c : Coh s σ) (k : Key) (v : Val) (hc : k.cls ≠ .emb) :
    Coh (sPut s k v) (aset σ k v) := by
  have hs : sPut s k v = if k.cls = .cache then { s with cache := aset s.cache k v } else { s with md := aset s.md k v } := by
    unfold sPut; cases h : k.cls <;> simp_all
  rw [hs]
  exact c.update_plain hc (aset · k v) (some v) fun m k' => aget_aset m k k' v

theorem Coh.delete_plain {s : SStore} {σ : Spec} (c : Coh s σ) (k : Key) (hc : k.cls ≠ .emb) :
    Coh (sDelete s k) (aerase σ k) := by
  have hs : sDelete s k = if k.cls = .cache then { s with cache := aerase s.cache k } else { s with md := aerase s.md k } := by
    unfold sDelete; cases h : k.cls <;> simp_all
  rw [hs]
  exact c.update_plain hc (aerase · k) none fun m k' => aget_aerase m k k'

theorem Coh.put_emb {s : SStore} {σ : Spec} (c : Coh s σ) (k : Key) (v : Val) (hc : k.cls = .emb) :
    Coh (sPut s k v) (aset σ k v) := by
  have hs : sPut s k v = ⟨aset s.md k v, s.cache, (idxGetOrCreate s.vocab k).2, eSlabPut s.es (idxGetOrCreate s.vocab k).1 v.vec⟩ := by
    unfold sPut; rw [hc]
  have hself := idxGetOrCreate_self s.vocab k
  have hinv : SlabInv (sPut s k v).es := sPut_inv c.inv k v
  rw [hs] at hinv ⊢
  refine ⟨hinv, c.uniq.getOrCreate k, ?_, ?_, ?_, ?_, ?_⟩
  · intro k' h'; show aget (aset s.md k v) k' = _; rw [aget_aset, aget_aset]; split; rfl; exact c.md k' h'
  · intro k' h'; rw [aget_aset_ne _ _ (cls_ne (by rw [hc, h']; decide))]; exact c.cache k' h'
  · intro k' id hi
    by_cases e : k' = k
    · rw [e]; exact hc
    · exact c.embOnly k' id (by rw [← idxGetOrCreate_other s.vocab e]; exact hi)
  · intro k' id hi
    by_cases e : k' = k
    · rw [e, aget_aset, if_pos rfl]; rfl
    · rw [aget_aset_ne _ _ (Ne.symm e)]
      exact c.live k' id (by rw [← idxGetOrCreate_other s.vocab e]; exact hi)
  · intro k' id hi
    show eGet (eSlabPut s.es (idxGetOrCreate s.vocab k).1 v.vec) id = _
    rw [eGet_eSlabPut c.inv]
    by_cases e : k' = k
    · subst e
      have : (idxGetOrCreate s.vocab k').1 = id := by
        have hi' : idxGet (idxGetOrCreate s.vocab k').2 k' = some id := hi
        rw [hself] at hi'; exact Option.some.inj hi'
      rw [if_pos this, aget_aset, if_pos rfl]; rfl
    · have hne : (idxGetOrCreate s.vocab k).1 ≠ id := by
        intro e'
        have hi' : idxGet (idxGetOrCreate s.vocab k).2 k' = some id := hi
        exact e (idxGet_inj hi' (e' ▸ hself))
      rw [if_neg hne, aget_aset_ne _ _ (Ne.symm e)]
      exact c.vec k' id (by rw [← idxGetOrCreate_other s.vocab e]; exact hi)

theorem Coh.delete_emb {s : SStore} {σ : Spec} (c : Coh s σ) (k : Key) (hc : k.cls = .emb) :
    Coh (sDelete s k) (aerase σ k) := by
  have hs : sDelete s k = ⟨aerase s.md k, s.cache, idxRemove s.vocab k, (match idxGet s.vocab k with | some id => eDelete s.es id | none => s.es)⟩ := by
    unfold sDelete; rw [hc]; rfl
  have hinv : SlabInv (sDelete s k).es := sDelete_inv c.inv k
  rw [hs] at hinv ⊢
  have old : ∀ k' id, idxGet (idxRemove s.vocab k) k' = some id → k' ≠ k ∧ idxGet s.vocab k' = some id := by
    intro k' id hi
    by_cases e : k' = k
    · rw [e, idxRemove_self c.uniq k] at hi; simp at hi
    · exact ⟨e, by rw [← idxRemove_other s.vocab e]; exact hi⟩
  refine ⟨hinv, c.uniq.remove k, ?_, ?_, ?_, ?_, ?_⟩
  · intro k' h'; show aget (aerase s.md k) k' = _; rw [aget_aerase, aget_aerase]; split; rfl; exact c.md k' h'
  · intro k' h'; rw [aget_aerase_ne _ (cls_ne (by rw [hc, h']; decide))]; exact c.cache k' h'
  · intro k' id hi; exact c.embOnly k' id (old k' id hi).2
  · intro k' id hi
    rw [aget_aerase_ne _ (Ne.symm (old k' id hi).1)]; exact c.live k' id (old k' id hi).2
  · intro k' id hi
    obtain ⟨e, hi0⟩ := old k' id hi
    rw [aget_aerase_ne _ (Ne.symm e)]
    show eGet (match idxGet s.vocab k with | some id => eDelete s.es id | none => s.es) id = _
    cases hk : idxGet s.vocab k with
    | none => exact c.vec k' id hi0
    | some idk =>
      simp only
      have hne : idk ≠ id := fun e' => e (idxGet_inj hi0 (e' ▸ hk))
      rw [eGet_eDelete c.inv, if_neg hne]
      exact c.vec k' id hi0

theorem Coh.step {s : SStore} {σ : Spec} (c : Coh s σ) (op : SOp) :
    Coh (sOp false s op).1 (sSpecStep σ op).1 ∧ (sOp false s op).2 = (sSpecStep σ op).2 := by
  cases op with
  | get k => exact ⟨c, c.get_eq k⟩
  | exists_ k => exact ⟨c, by show Res.bool _ = Res.bool _; rw [c.exists_eq k]⟩
  | clear => exact ⟨Coh.clear, rfl⟩
  | put k v =>
    refine ⟨?_, rfl⟩
    show Coh (sPut s k v) (aset σ k v)
    by_cases hc : k.cls = .emb
    · exact c.put_emb k v hc
    · exact c.put_plain k v hc
  | delete k =>
    show Coh (if sExists s k then (sDelete s k, Res.ok) else (s, Res.notFound)).1
           (if (aget σ k).isSome then (aerase σ k, Res.ok) else (σ, Res.notFound)).1 ∧
         (if sExists s k then (sDelete s k, Res.ok) else (s, Res.notFound)).2 =
           (if (aget σ k).isSome then (aerase σ k, Res.ok) else (σ, Res.notFound)).2
    rw [c.exists_eq k]
    by_cases h : (aget σ k).isSome = true
    · rw [if_pos h, if_pos h]
      refine ⟨?_, rfl⟩
      by_cases hc : k.cls = .emb
      · exact c.delete_emb k hc
      · exact c.delete_plain k hc
    · rw [if_neg h, if_neg h]; exact ⟨c, rfl⟩

theorem sRunFrom_is_the_map (ops : List SOp) : ∀ (s : SStore) (σ : Spec), Coh s σ →
    (sRunFrom false s ops).2 = sSpecRunFrom σ ops := by
  induction ops with
  | nil => intro s σ _; rfl
  | cons op rest ih =>
    intro s σ c
    have st := c.step op
    show (sOp false s op).2 :: (sRunFrom false (sOp false s op).1 rest).2 = (sSpecStep σ op).2 :: sSpecRunFrom (sSpecStep σ op).1 rest
    rw [st.2, ih _ _ st.1]

end Neumann.KV
