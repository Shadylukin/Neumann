import NeumannModel.KV.Lemmas
import NeumannModel.KV.Slab
/-
  Helper lemmas for SlabProps (core Lean only): the allocator invariant of the embedding slab and
  the refinement slab-with-slots ⊑ map id ↦ vector.
-/
namespace Neumann.KV

/-- the allocator invariant: the live slots are pairwise distinct, distinct from the free ones, the
    free list has no duplicates, and every slot in use or free lies below the bump pointer -/
structure SlabInv (e : ESlab) : Prop where
  inj : ∀ a b sl, aget e.index a = some sl → aget e.index b = some sl → a = b
  disj : ∀ a sl, aget e.index a = some sl → sl ∉ e.free
  nodup : e.free.Nodup
  live_lt : ∀ a sl, aget e.index a = some sl → sl < e.wpos
  free_lt : ∀ sl, sl ∈ e.free → sl < e.wpos

theorem SlabInv.init : SlabInv {} :=
  ⟨fun _ _ _ h => by simp [aget] at h, fun _ _ h => by simp [aget] at h, List.nodup_nil,
   fun _ _ h => by simp [aget] at h, fun _ h => by simp at h⟩

theorem eAlloc_spec {e : ESlab} (h : SlabInv e) :
    (eAlloc e).2.index = e.index ∧ (eAlloc e).2.cells = e.cells ∧
    (∀ a s, aget e.index a = some s → s ≠ (eAlloc e).1) ∧
    (eAlloc e).1 ∉ (eAlloc e).2.free ∧ (eAlloc e).1 < (eAlloc e).2.wpos ∧
    (eAlloc e).2.free.Nodup ∧ (∀ s ∈ (eAlloc e).2.free, s ∈ e.free) ∧ e.wpos ≤ (eAlloc e).2.wpos := by
  unfold eAlloc
  cases hf : e.free with
  | nil =>
    exact ⟨rfl, rfl, fun a s ha => Nat.ne_of_lt (h.live_lt a s ha), by simp, Nat.lt_succ_self _,
      List.nodup_nil, by simp, Nat.le_succ _⟩
  | cons sl r =>
    have nd : (sl :: r).Nodup := hf ▸ h.nodup
    have hsl : sl ∈ e.free := by rw [hf]; exact List.mem_cons_self
    exact ⟨rfl, rfl, fun a s ha e' => h.disj a s ha (e' ▸ hsl), (List.nodup_cons.mp nd).1,
      h.free_lt sl hsl, (List.nodup_cons.mp nd).2, fun s hs => List.mem_cons_of_mem _ hs, Nat.le_refl _⟩

theorem SlabInv.set {e : ESlab} (h : SlabInv e) (id t : Nat) : SlabInv (eSet e id t) := by
  unfold eSet
  cases hi : aget e.index id with
  | some sl => exact ⟨h.inj, h.disj, h.nodup, h.live_lt, h.free_lt⟩
  | none =>
    obtain ⟨hix, _, hfresh, hnf, hlt, hnd, hsub, hw⟩ := eAlloc_spec h
    -- a live slot is the fresh one or was live before
    have live : ∀ a s, aget (aset (eAlloc e).2.index id (eAlloc e).1) a = some s →
        (a = id ∧ s = (eAlloc e).1) ∨ aget e.index a = some s := by
      intro a s ha
      rw [aget_aset, hix] at ha
      split at ha
      · exact Or.inl ⟨(‹id = a›).symm, (Option.some.inj ha).symm⟩
      · exact Or.inr ha
    refine ⟨fun a b s ha hb => ?_, fun a s ha => ?_, hnd, fun a s ha => ?_,
      fun s hs => Nat.lt_of_lt_of_le (h.free_lt s (hsub s hs)) hw⟩
    · rcases live a s ha with ⟨rfl, rfl⟩ | ha' <;> rcases live b _ hb with ⟨rfl, e⟩ | hb'
      · rfl
      · exact absurd rfl (hfresh b _ hb')
      · exact absurd e (hfresh a s ha')
      · exact h.inj a b s ha' hb'
    · rcases live a s ha with ⟨_, rfl⟩ | ha'
      · exact hnf
      · exact fun hm => h.disj a s ha' (hsub s hm)
    · rcases live a s ha with ⟨_, rfl⟩ | ha'
      · exact hlt
      · exact Nat.lt_of_lt_of_le (h.live_lt a s ha') hw

theorem SlabInv.delete {e : ESlab} (h : SlabInv e) (id : Nat) : SlabInv (eDelete e id) := by
  unfold eDelete
  cases hi : aget e.index id with
  | none => exact h
  | some sl =>
    have live : ∀ a s, aget (aerase e.index id) a = some s → id ≠ a ∧ aget e.index a = some s := by
      intro a s ha
      rw [aget_aerase] at ha
      split at ha
      · cases ha
      · exact ⟨‹_›, ha⟩
    refine ⟨fun a b s ha hb => h.inj a b s (live a s ha).2 (live b s hb).2, fun a s ha hm => ?_,
      List.nodup_cons.mpr ⟨h.disj id sl hi, h.nodup⟩, fun a s ha => h.live_lt a s (live a s ha).2,
      fun s hs => ?_⟩
    · rcases List.mem_cons.mp hm with e1 | e2
      · exact (live a s ha).1 (h.inj id a sl hi (e1 ▸ (live a s ha).2))
      · exact h.disj a s (live a s ha).2 e2
    · rcases List.mem_cons.mp hs with e1 | e2
      · exact e1 ▸ h.live_lt id sl hi
      · exact h.free_lt s e2

theorem SlabInv.clear (e : ESlab) : SlabInv (eClear false e) :=
  ⟨fun _ _ _ h => by simp [eClear, aget] at h, fun _ _ h => by simp [eClear, aget] at h,
   by simp [eClear], fun _ _ h => by simp [eClear, aget] at h, fun _ h => by simp [eClear] at h⟩

theorem SlabInv.step {e : ESlab} (h : SlabInv e) (op : EOp) : SlabInv (eStep false e op) := by
  cases op with
  | set id t => exact h.set id t
  | del id => exact h.delete id
  | clear => exact SlabInv.clear e

/-- the slab read through `get` IS the map `m` -/
def Refines (e : ESlab) (m : List (Nat × Nat)) : Prop := ∀ id, eGet e id = aget m id

theorem Refines.init : Refines {} [] := fun _ => by simp [eGet, aget]

theorem Refines.step {e : ESlab} {m : List (Nat × Nat)} (h : SlabInv e) (r : Refines e m) (op : EOp) :
    Refines (eStep false e op) (mStep m op) := by
  cases op with
  | clear => intro a; simp [eStep, mStep, eClear, eGet, aget]
  | del id =>
    intro a
    have ra := r a
    simp only [eStep, mStep, eDelete, aget_aerase]
    cases hi : aget e.index id with
    | none =>
      by_cases ea : id = a
      · subst ea; simp only [if_true]; unfold eGet; rw [hi]
      · simp only [ea, if_false]; exact ra
    | some sl =>
      by_cases ea : id = a
      · subst ea; simp [eGet, aget_aerase]
      · simp only [ea, if_false]
        rw [← ra]; simp [eGet, aget_aerase, ea]
  | set id t =>
    intro a
    have ra := r a
    simp only [eStep, mStep, eSet, aget_aset]
    cases hi : aget e.index id with
    | some sl =>
      by_cases ea : id = a
      · subst ea; simp [eGet, hi, aget_aset]
      · simp only [ea, if_false]
        rw [← ra]
        unfold eGet
        cases ha : aget e.index a with
        | none => simp
        | some s =>
          have : sl ≠ s := fun e' => ea (h.inj id a sl hi (e' ▸ ha))
          simp [aget_aset, this]
    | none =>
      by_cases ea : id = a
      · subst ea; simp [eGet, aget_aset]
      · simp only [ea, if_false]
        rw [← ra]
        obtain ⟨hx, hc, hfresh, -⟩ := eAlloc_spec h
        unfold eGet
        simp only [aget_aset, if_neg ea, hx]
        cases ha : aget e.index a with
        | none => simp
        | some s => simp [Ne.symm (hfresh a s ha), hc]

theorem slab_run_from (ops : List EOp) : ∀ (e : ESlab) (m : List (Nat × Nat)), SlabInv e → Refines e m →
    SlabInv (ops.foldl (eStep false) e) ∧ Refines (ops.foldl (eStep false) e) (ops.foldl mStep m) := by
  induction ops with
  | nil => intro e m h r; exact ⟨h, r⟩
  | cons op rest ih => intro e m h r; exact ih _ _ (h.step op) (r.step h op)

/-- operations of the map that leave `id` alone -/
def EOp.touches (id : Nat) : EOp → Bool
  | .set i _ => i == id
  | .del i => i == id
  | .clear => true

theorem aget_mRun_untouched (id : Nat) (later : List EOp) : ∀ (m : List (Nat × Nat)),
    (∀ op ∈ later, op.touches id = false) → aget (later.foldl mStep m) id = aget m id := by
  induction later with
  | nil => intro m _; rfl
  | cons op rest ih =>
    intro m h
    have h1 := h op List.mem_cons_self
    rw [List.foldl_cons, ih _ (fun o ho => h o (List.mem_cons_of_mem _ ho))]
    cases op with
    | clear => simp [EOp.touches] at h1
    | set i t =>
      have : i ≠ id := by simpa [EOp.touches] using h1
      simp [mStep, aget_aset, this]
    | del i =>
      have : i ≠ id := by simpa [EOp.touches] using h1
      simp [mStep, aget_aerase, this]

theorem sPut_inv {s : SStore} (h : SlabInv s.es) (k : Key) (v : Val) : SlabInv (sPut s k v).es := by
  unfold sPut
  split
  · show SlabInv (eSlabPut s.es _ v.vec)
    unfold eSlabPut
    split
    · exact h.set _ _
    · exact h.delete _
    · exact h.delete _
  · exact h
  · exact h

theorem sDelete_inv {s : SStore} (h : SlabInv s.es) (k : Key) : SlabInv (sDelete s k).es := by
  unfold sDelete
  split
  · show SlabInv (match idxGet s.vocab k with | some id => eDelete s.es id | none => s.es)
    split
    · exact h.delete _
    · exact h
  · exact h
  · exact h

theorem sOp_inv {s : SStore} (h : SlabInv s.es) (op : SOp) : SlabInv (sOp false s op).1.es := by
  cases op with
  | get k => exact h
  | exists_ k => exact h
  | clear => exact SlabInv.clear s.es
  | put k v => exact sPut_inv h k v
  | delete k =>
    show SlabInv (if sExists s k then (sDelete s k, Res.ok) else (s, Res.notFound)).1.es
    split
    · exact sDelete_inv h k
    · exact h

theorem sRunFrom_inv (ops : List SOp) : ∀ (s : SStore), SlabInv s.es → SlabInv (sRunFrom false s ops).1.es := by
  induction ops with
  | nil => intro s h; exact h
  | cons op rest ih => intro s h; exact ih _ (sOp_inv h op)

end Neumann.KV
