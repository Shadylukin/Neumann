import NeumannModel.KV.Ring
/-
  C11 — the cache ring: equations of the slots and of the atomic step; one scheduler step for any
  atomic step function (`stepRWith`); what every slot holds was written, under the key it is stored
  with (`SafeInv`).  Core Lean only.
-/
namespace Neumann.KV

/-! ### slots -/

theorem Ring.slot_eq_some (r : Ring) (i : Nat) (e : Key × Val) :
    r.slot i = some e ↔ r.slots[i]? = some (some e) := by
  unfold Ring.slot
  split
  · rename_i e' he
    rw [he, Option.some.injEq, Option.some.injEq, Option.some.injEq]
  · rename_i hne
    exact ⟨fun h => (by cases h), fun h => absurd h (hne e)⟩

theorem Ring.slot_mem {r : Ring} {i : Nat} {e : Key × Val} (h : r.slot i = some e) :
    some e ∈ r.slots :=
  List.mem_of_getElem? ((r.slot_eq_some i e).mp h)

theorem Ring.slot_lt {r : Ring} {i : Nat} {e : Key × Val} (h : r.slot i = some e) :
    i < r.slots.length :=
  (List.getElem?_eq_some_iff.mp ((r.slot_eq_some i e).mp h)).1

theorem Ring.slot_set {r r' : Ring} {i : Nat} {x : Option (Key × Val)}
    (hs : r'.slots = r.slots.set i x) (j : Nat) :
    r'.slot j = if j = i ∧ i < r.slots.length then x else r.slot j := by
  unfold Ring.slot
  rw [hs, List.getElem?_set]
  by_cases hij : i = j
  · subst hij
    by_cases hl : i < r.slots.length
    · simp only [hl, and_self, if_true]
      cases x <;> rfl
    · simp [hl]
  · have hji : ¬ j = i := fun e => hij e.symm
    simp only [hij, hji, false_and, if_false]

theorem Ring.slot_set_eq_some {r r' : Ring} {i : Nat} {x : Option (Key × Val)}
    (hs : r'.slots = r.slots.set i x) {j : Nat} {e : Key × Val} (h : r'.slot j = some e) :
    (j = i ∧ x = some e) ∨ r.slot j = some e := by
  rw [Ring.slot_set hs] at h
  split at h
  · rename_i hji
    exact Or.inl ⟨hji.1, h⟩
  · exact Or.inr h

/-! ### the ring operations -/

theorem ringInsert_slots (c : RingCfg) (r : Ring) (k : Key) (v : Val) :
    ∀ e ∈ (ringInsert c r k v).slots, e ∈ r.slots ∨ e = some (k, v) :=
  fun _ he => List.mem_or_eq_of_mem_set he

theorem ringPut_slots (c : RingCfg) (r : Ring) (k : Key) (v : Val) :
    ∀ e ∈ (ringPut c r k v).slots, e ∈ r.slots ∨ e = some (k, v) := by
  intro e he
  unfold ringPut at he
  split at he
  · split at he
    · exact List.mem_or_eq_of_mem_set he
    · exact ringInsert_slots c r k v e he
  · exact ringInsert_slots c r k v e he

theorem ringDelete_slots (c : RingCfg) (r : Ring) (k : Key) :
    ∀ e ∈ (ringDelete c r k).1.slots, e ∈ r.slots ∨ e = none := by
  intro e he
  unfold ringDelete at he
  split at he
  · exact Or.inl he
  · dsimp only at he
    split at he
    · exact List.mem_or_eq_of_mem_set he
    · exact Or.inl he

theorem ringStep_ring (c : RingCfg) (rs : RStore) (op : Op) :
    (ringStep c rs op).1.ring = rs.ring ∨
    (∃ k v, (op = .put k v ∨ op = .putD k v) ∧ (ringStep c rs op).1.ring = ringPut c rs.ring k v) ∨
    ∃ k, (ringStep c rs op).1.ring = (ringDelete c rs.ring k).1 := by
  cases op with
  | put k v => exact Or.inr (Or.inl ⟨k, v, Or.inl rfl, rfl⟩)
  | putD k v => exact Or.inr (Or.inl ⟨k, v, Or.inr rfl, rfl⟩)
  | get k =>
    refine Or.inl ?_
    simp only [ringStep]
    split <;> rfl
  | delete k | delD k =>
    by_cases hcn : ringContains c rs.ring k = true
    · exact Or.inr (Or.inr ⟨k, by simp only [ringStep, hcn, if_true]⟩)
    · exact Or.inl (by simp only [ringStep, hcn]; rfl)
  | exists_ k => exact Or.inl rfl
  | scan p => exact Or.inl rfl

/-! ### one atomic step, case by case -/

theorem cacheKey_some {op : Op} {k : Key} (hk : op.key? = some k) (hc : k.cls = .cache) :
    op.cacheKey? = some k := by
  simp only [Op.cacheKey?, hk, hc, if_true]

theorem cacheKey_none {op : Op} {k : Key} (hk : op.key? = some k) (hc : k.cls ≠ .cache) :
    op.cacheKey? = none := by
  simp only [Op.cacheKey?, hk, hc, if_false]

theorem stepOpR_hook_cache (c : RingCfg) (rs : RStore) {op : Op} {k : Key} (pc : PC)
    (hk : op.cacheKey? = some k) : stepOpR c rs op (.hook pc) = ringStep c rs op := by
  simp only [stepOpR]
  split
  · cases hk
  · rw [hk]

theorem stepOpR_hook_base (c : RingCfg) (rs : RStore) {op : Op} (pc : PC) (hk : op.cacheKey? = none)
    (hns : ∀ p, op ≠ .scan p) :
    stepOpR c rs op (.hook pc) =
      ({ rs with base := (stepOp rs.base op pc).1 }, (stepOp rs.base op pc).2.liftR) := by
  simp only [stepOpR]
  split
  · exact absurd rfl (hns _)
  · rw [hk]

theorem stepOpR_cases (c : RingCfg) (rs : RStore) (op : Op) (pc : RPC) :
    ((stepOpR c rs op pc).1.ring = rs.ring ∧
      ∀ i, (stepOpR c rs op pc).2 ≠ .cont (.ringGetAfterIndex i)) ∨
    stepOpR c rs op pc = ringStep c rs op := by
  unfold stepOpR
  split
  · left
    split <;> exact ⟨rfl, fun i h => by cases h⟩
  · split
    · left
      exact ⟨rfl, fun i h => by cases h⟩
    · split
      · right; rfl
      · left
        refine ⟨rfl, fun i h => ?_⟩
        dsimp only at h
        generalize (stepOp rs.base op _).2 = o at h
        cases o <;> cases h

theorem ringRead_some {c : RingCfg} (hc : c.keyCheck = true) {r : Ring} {k : Key} {i : Nat} {v : Val}
    (h : ringRead c r k i = some v) : r.slot i = some (k, v) := by
  unfold ringRead at h
  cases hs : r.slot i with
  | none => rw [hs] at h; cases h
  | some e =>
    obtain ⟨k', v'⟩ := e
    rw [hs] at h
    simp only [hc, if_true] at h
    split at h
    · rename_i hkk
      cases h
      rw [hkk]
    · cases h

/-- THE CODE (`keyCheck`): a step that completes a `get` of a cache key with a value is the SECOND
    step of the get, and the slot it had in hand holds that value under that key -/
theorem stepOpR_found (c : RingCfg) (hc : c.keyCheck = true) (rs : RStore) (pc : RPC) (k : Key) (v : Val)
    (hk : k.cls = .cache) (h : (stepOpR c rs (.get k) pc).2 = .done (.found v)) :
    ∃ i, pc = .ringGetAfterIndex i ∧ rs.ring.slot i = some (k, v) := by
  cases pc with
  | ringGetAfterIndex i =>
    simp only [stepOpR] at h
    cases hr : ringRead c rs.ring k i with
    | none => rw [hr] at h; cases h
    | some w =>
      rw [hr] at h
      cases h
      exact ⟨i, rfl, ringRead_some hc hr⟩
  | hook pc' =>
    rw [stepOpR_hook_cache c rs pc' (cacheKey_some rfl hk)] at h
    simp only [ringStep] at h
    split at h <;> cases h

/-! ### one scheduler step, for any atomic step function -/

/-- `stepR` and `stepRFused` with the atomic step function a parameter -/
def stepRWith (f : RStore → Op → RPC → RStore × ROutcome) (sys : RSys) (t : Nat) : RSys :=
  match sys.threads[t]? with
  | none => sys
  | some th =>
    match th.ops with
    | [] => sys
    | op :: rest =>
      if sys.store.base.walOn && op.takesLock && decide (th.pc = .hook .start) && sys.threads.any RThread.inCS
      then sys else
      let inv := if th.pc = .hook .start then sys.clock else th.inv
      let tr := sys.trace ++ [(t, op, th.pc)]
      match f sys.store op th.pc with
      | (s', .cont pc') =>
          { store := s', threads := sys.threads.set t { th with pc := pc', inv := inv },
            hist := sys.hist, clock := sys.clock + 1, trace := tr }
      | (s', .done r) =>
          { store := s', threads := sys.threads.set t { ops := rest, pc := .hook .start, idx := th.idx + 1, inv := 0 },
            hist := sys.hist ++ [{ t := t, i := th.idx, op := op, res := r, inv := inv, ret := sys.clock }],
            clock := sys.clock + 1, trace := tr }

theorem stepR_eq (c : RingCfg) : stepR c = stepRWith (stepOpR c) := rfl

theorem stepRWith_cases (f : RStore → Op → RPC → RStore × ROutcome) (sys : RSys) (t : Nat) :
    stepRWith f sys t = sys ∨
    ∃ th op rest, sys.threads[t]? = some th ∧ th.ops = op :: rest ∧
      ∀ s' o, f sys.store op th.pc = (s', o) → stepRWith f sys t =
        match o with
        | .cont pc' =>
          { store := s',
            threads := sys.threads.set t
              { th with pc := pc', inv := if th.pc = .hook .start then sys.clock else th.inv },
            hist := sys.hist, clock := sys.clock + 1, trace := sys.trace ++ [(t, op, th.pc)] }
        | .done r =>
          { store := s',
            threads := sys.threads.set t { ops := rest, pc := .hook .start, idx := th.idx + 1, inv := 0 },
            hist := sys.hist ++ [{ t := t, i := th.idx, op := op, res := r,
                                   inv := if th.pc = .hook .start then sys.clock else th.inv,
                                   ret := sys.clock }],
            clock := sys.clock + 1, trace := sys.trace ++ [(t, op, th.pc)] } := by
  generalize hX : stepRWith f sys t = X
  unfold stepRWith at hX
  split at hX
  · exact Or.inl hX.symm
  · rename_i th hth
    split at hX
    · exact Or.inl hX.symm
    · rename_i op rest hops
      split at hX
      · exact Or.inl hX.symm
      · refine Or.inr ⟨th, op, rest, hth, hops, fun s' o hs => ?_⟩
        rw [hs] at hX
        subst hX
        cases o <;> rfl

/-! ### the safety invariant -/

theorem Written.mono {tr : List (Nat × Op × RPC)} {k : Key} {v : Val} (h : Written tr k v)
    (x : List (Nat × Op × RPC)) : Written (tr ++ x) k v := by
  obtain ⟨e, he, hp⟩ := h
  exact ⟨e, List.mem_append_left _ he, hp⟩

/-- the invariant: every occupied slot holds a (key, value) some put has written; every completed
    `get` of a cache key that found a value found one written to ITS key BEFORE the get returned -/
structure SafeInv (sys : RSys) : Prop where
  len : sys.trace.length = sys.clock
  slots : ∀ k v, some (k, v) ∈ sys.store.ring.slots → Written sys.trace k v
  rets : ∀ r ∈ sys.hist, r.ret < sys.clock
  gets : ∀ r ∈ sys.hist, ∀ k v, r.op = .get k → k.cls = .cache → r.res = .found v →
    Written (sys.trace.take r.ret) k v

theorem SafeInv.init (cap : Nat) (walOn : Bool) (progs : List ThreadProgram) :
    SafeInv (initRSys cap walOn progs) := by
  refine ⟨rfl, fun k v h => ?_, fun r hr => (by cases hr), fun r hr => (by cases hr)⟩
  cases List.eq_of_mem_replicate h

/-- what `SafeInv` needs of an atomic step function -/
structure LocalSafe (f : RStore → Op → RPC → RStore × ROutcome) : Prop where
  slots : ∀ rs op pc k v, some (k, v) ∈ (f rs op pc).1.ring.slots →
    some (k, v) ∈ rs.ring.slots ∨ op = .put k v ∨ op = .putD k v
  found : ∀ rs pc k v, k.cls = .cache → (f rs (.get k) pc).2 = .done (.found v) →
    some (k, v) ∈ rs.ring.slots

theorem localSafe_stepOpR {c : RingCfg} (hc : c.keyCheck = true) : LocalSafe (stepOpR c) where
  slots := by
    intro rs op pc k v h
    rcases stepOpR_cases c rs op pc with ⟨e, _⟩ | e
    · rw [e] at h; exact Or.inl h
    rw [e] at h
    rcases ringStep_ring c rs op with e | ⟨k', v', hop, e⟩ | ⟨k', e⟩
    · rw [e] at h; exact Or.inl h
    · rw [e] at h
      rcases ringPut_slots c rs.ring k' v' _ h with h | h
      · exact Or.inl h
      · cases h; exact Or.inr hop
    · rw [e] at h
      exact Or.inl ((ringDelete_slots c rs.ring k' _ h).resolve_right (fun e => by cases e))
  found := fun rs pc k v hk h =>
    let ⟨_, _, hs⟩ := stepOpR_found c hc rs pc k v hk h
    Ring.slot_mem hs

/-- a fused step is one or two steps of `stepOpR`, and a first step that parks a `get` is no put -/
theorem localSafe_stepOpRFused {c : RingCfg} (hc : c.keyCheck = true) : LocalSafe (stepOpRFused c) := by
  have h1 := localSafe_stepOpR hc
  have hcomp : ∀ rs op pc, stepOpRFused c rs op pc = stepOpR c rs op pc ∨
      ∃ s i, stepOpR c rs op pc = (s, .cont (.ringGetAfterIndex i)) ∧
        stepOpRFused c rs op pc = stepOpR c s op (.ringGetAfterIndex i) := by
    intro rs op pc
    unfold stepOpRFused
    split
    · rename_i s i h
      exact Or.inr ⟨s, i, h, rfl⟩
    · exact Or.inl rfl
  constructor
  · intro rs op pc k v h
    rcases hcomp rs op pc with e | ⟨s, i, e1, e2⟩
    · rw [e] at h; exact h1.slots rs op pc k v h
    · rw [e2] at h
      rcases h1.slots s op _ k v h with h | h
      · exact h1.slots rs op pc k v (by rw [e1]; exact h)
      · exact Or.inr h
  · intro rs pc k v hk h
    rcases hcomp rs (.get k) pc with e | ⟨s, i, e1, e2⟩
    · rw [e] at h; exact h1.found rs pc k v hk h
    · rw [e2] at h
      have hm := h1.found s _ k v hk h
      rcases h1.slots rs (.get k) pc k v (by rw [e1]; exact hm) with h3 | h3 | h3
      · exact h3
      · cases h3
      · cases h3

theorem SafeInv.extend {sys sys' : RSys} (h : SafeInv sys) {e : Nat × Op × RPC}
    (htr : sys'.trace = sys.trace ++ [e]) (hcl : sys'.clock = sys.clock + 1)
    (hsl : ∀ k v, some (k, v) ∈ sys'.store.ring.slots →
      some (k, v) ∈ sys.store.ring.slots ∨ e.2.1 = .put k v ∨ e.2.1 = .putD k v)
    (hh : ∀ r ∈ sys'.hist, r ∈ sys.hist ∨ r.ret = sys.clock ∧
      ∀ k v, r.op = .get k → k.cls = .cache → r.res = .found v → some (k, v) ∈ sys.store.ring.slots) :
    SafeInv sys' := by
  have htake : ∀ n, n ≤ sys.clock → sys'.trace.take n = sys.trace.take n := fun n hn => by
    rw [htr, List.take_append_of_le_length (h.len ▸ hn)]
  refine ⟨by rw [htr, hcl, List.length_append, h.len]; rfl, fun k v hm => ?_, fun r hr => ?_,
    fun r hr k v h1 h2 h3 => ?_⟩
  · rw [htr]
    rcases hsl k v hm with h1 | h1
    · exact (h.slots k v h1).mono _
    · exact ⟨e, List.mem_append_right _ (List.mem_singleton_self e), h1⟩
  · rw [hcl]
    rcases hh r hr with h1 | ⟨h1, _⟩
    · exact Nat.lt_succ_of_lt (h.rets r h1)
    · rw [h1]; exact Nat.lt_succ_self _
  · rcases hh r hr with hr | ⟨hr, hf⟩
    · rw [htake _ (Nat.le_of_lt (h.rets r hr))]
      exact h.gets r hr k v h1 h2 h3
    · rw [hr, htake _ (Nat.le_refl _), ← h.len, List.take_length]
      exact h.slots k v (hf k v h1 h2 h3)

theorem SafeInv.stepWith {f : RStore → Op → RPC → RStore × ROutcome} (hf : LocalSafe f) {sys : RSys}
    (h : SafeInv sys) (t : Nat) : SafeInv (stepRWith f sys t) := by
  rcases stepRWith_cases f sys t with e | ⟨th, op, rest, -, -, hstep⟩
  · rw [e]; exact h
  cases hs : f sys.store op th.pc with
  | mk s' o =>
    have hsl : ∀ k v, some (k, v) ∈ s'.ring.slots →
        some (k, v) ∈ sys.store.ring.slots ∨ op = .put k v ∨ op = .putD k v :=
      fun k v hm => hf.slots sys.store op th.pc k v (by rw [hs]; exact hm)
    rw [hstep s' o hs]
    cases o with
    | cont pc' => exact h.extend rfl rfl hsl (fun r hr => Or.inl hr)
    | done r =>
      refine h.extend rfl rfl hsl (fun x hx => ?_)
      rcases List.mem_append.mp hx with hx | hx
      · exact Or.inl hx
      · cases List.mem_singleton.mp hx
        refine Or.inr ⟨rfl, fun k v h1 h2 h3 => ?_⟩
        dsimp only at h1 h3
        subst h1
        exact hf.found sys.store th.pc k v h2 (by rw [hs, h3])

theorem SafeInv.foldWith {f : RStore → Op → RPC → RStore × ROutcome} (hf : LocalSafe f) {sys : RSys}
    (h : SafeInv sys) (sched : List Nat) : SafeInv (sched.foldl (stepRWith f) sys) := by
  induction sched generalizing sys with
  | nil => exact h
  | cons t rest ih => exact ih (h.stepWith hf t)

end Neumann.KV
