import NeumannModel.KV.ScanLemmas
/-
  C11 — lemmas the proofs about the store share (core Lean only).
-/
namespace Neumann.KV

theorem aget_aerase {α β} [DecidableEq α] (m : List (α × β)) (k k' : α) :
    aget (aerase m k) k' = if k = k' then none else aget m k' := by
  induction m with
  | nil => simp [aerase, aget]
  | cons p r ih =>
    obtain ⟨a, b⟩ := p
    unfold aerase at ih ⊢
    by_cases h : a = k <;> by_cases h' : a = k' <;> by_cases h'' : k = k' <;>
      simp_all [List.filter, aget]

theorem aget_aset {α β} [DecidableEq α] (m : List (α × β)) (k k' : α) (v : β) :
    aget (aset m k v) k' = if k = k' then some v else aget m k' := by
  unfold aset
  by_cases h : k = k'
  · simp [aget, h]
  · simp [aget, h, aget_aerase]

theorem mem_keys_iff {α β} [DecidableEq α] (m : List (α × β)) (k : α) :
    k ∈ m.map (·.1) ↔ (aget m k).isSome = true := by
  induction m with
  | nil => simp [aget]
  | cons p r ih =>
    obtain ⟨a, b⟩ := p
    by_cases h : a = k
    · simp [aget, h]
    · simp only [List.map_cons, List.mem_cons, aget, h, if_false]
      constructor
      · rintro (h' | h')
        · exact absurd h'.symm h
        · exact ih.mp h'
      · intro h'; exact Or.inr (ih.mpr h')

theorem pairwise_snoc {α} {R : α → α → Prop} {l : List α} {x : α} :
    (l ++ [x]).Pairwise R ↔ l.Pairwise R ∧ ∀ a ∈ l, R a x := by
  simp [List.pairwise_append]

theorem mem_set_cases {α} {l : List α} {t : Nat} {a x : α} (h : x ∈ l.set t a) : x ∈ l ∨ x = a :=
  List.mem_or_eq_of_mem_set h

theorem getElem?_set_cases {α} {l : List α} {t i : Nat} {a x old : α} (hold : l[t]? = some old)
    (h : (l.set t a)[i]? = some x) : (i = t ∧ x = a) ∨ (i ≠ t ∧ l[i]? = some x) := by
  by_cases e : i = t
  · subst e
    obtain ⟨hlt, _⟩ := List.getElem?_eq_some_iff.mp hold
    rw [List.getElem?_set_self hlt] at h
    exact Or.inl ⟨rfl, (Option.some.inj h).symm⟩
  · rw [List.getElem?_set_ne (Ne.symm e)] at h
    exact Or.inr ⟨e, h⟩

theorem getElem?_set_self' {α} {l : List α} {t : Nat} {a old : α} (hold : l[t]? = some old) :
    (l.set t a)[t]? = some a := by
  obtain ⟨hlt, _⟩ := List.getElem?_eq_some_iff.mp hold
  exact List.getElem?_set_self hlt

theorem set_thread {α} {l l' : List α} {t : Nat} {th th' : α} (hth : l[t]? = some th)
    (hl : l' = l.set t th') : l'[t]? = some th' ∧ ∀ j, j ≠ t → l'[j]? = l[j]? := by
  subst hl
  exact ⟨getElem?_set_self' hth, fun j hj => List.getElem?_set_ne (Ne.symm hj)⟩

/-- as `SeqValid`, with every result exactly the specification's (no "cache may be absent") -/
def SeqStrict : Spec → List OpRec → Prop
  | _, [] => True
  | σ, r :: rs => resEquiv r.res (specRes σ r.op) ∧ SeqStrict (specApply σ r.op) rs

theorem SeqStrict.valid : ∀ {σ : Spec} {l : List OpRec}, SeqStrict σ l → SeqValid σ l
  | _, [], _ => trivial
  | _, _ :: _, h => ⟨Or.inl h.1, SeqStrict.valid h.2⟩

theorem seqStrict_append (σ : Spec) (l : List OpRec) (r : OpRec) :
    SeqStrict σ (l ++ [r]) ↔
      SeqStrict σ l ∧ resEquiv r.res (specRes (specRun σ (l.map (·.op))) r.op) := by
  induction l generalizing σ with
  | nil => simp [SeqStrict, specRun]
  | cons a l ih =>
    simp only [List.cons_append, SeqStrict, List.map_cons, specRun, List.foldl_cons]
    rw [ih]
    simp only [specRun, and_assoc]

theorem seqStrict_mid : ∀ (σ : Spec) (pre : List OpRec) {x : OpRec} {post : List OpRec},
    SeqStrict σ (pre ++ x :: post) → resEquiv x.res (specRes (specRun σ (pre.map (·.op))) x.op)
  | _, [], _, _, h => h.1
  | σ, a :: pre, _, _, h => seqStrict_mid (specApply σ a.op) pre h.2

theorem specRun_append (σ : Spec) (l : List Op) (o : Op) :
    specRun σ (l ++ [o]) = specApply (specRun σ l) o := by
  simp [specRun, List.foldl_append]

theorem resEquiv_refl (r : Res) : resEquiv r r := by
  cases r <;> simp [resEquiv]

theorem resEquiv_get {r : Res} {σ : Spec} {k : Key} (h : resEquiv r (specRes σ (.get k))) :
    r = specRes σ (.get k) := by
  simp only [specRes, specStep] at h ⊢
  generalize aget σ k = o at h ⊢
  cases o <;> cases r <;> exact h

theorem seqOpAux_done {n : Nat} {s s' : Store} {op : Op} {pc : PC} {r : Res}
    (h : stepOp s op pc = (s', .done r)) : seqOpAux (n + 1) s op pc = (s', r) := by
  simp only [seqOpAux, h]

theorem seqOpAux_cont {n : Nat} {s s' : Store} {op : Op} {pc pc' : PC}
    (h : stepOp s op pc = (s', .cont pc')) : seqOpAux (n + 1) s op pc = seqOpAux n s' op pc' := by
  simp only [seqOpAux, h]

/-- the store, seen by single-step operations, is the specification map: metadata slab for every
    non-cache key, cache ring for cache keys, nothing in the entity index -/
structure Abs (s : Store) (σ : Spec) : Prop where
  get : ∀ k, aget σ k = if k.cls = .cache then aget s.cache k else aget s.md k
  mdNoCache : ∀ k, k.cls = .cache → aget s.md k = none
  cacheOnly : ∀ k, k.cls ≠ .cache → aget s.cache k = none
  vocab : s.vocab = []

theorem Abs.init (w : Bool) : Abs { walOn := w } [] := by
  constructor <;> simp [aget]

theorem Abs.setCache {s : Store} {σ : Spec} (h : Abs s σ) (k : Key) (v : Val) (hk : k.cls = .cache) :
    Abs { s with cache := aset s.cache k v } (aset σ k v) := by
  constructor
  · intro k'
    simp only [aget_aset, h.get k']
    by_cases e : k = k'
    · subst e; simp [hk]
    · simp [e]
  · exact h.mdNoCache
  · intro k' hk'
    simp only [aget_aset]
    by_cases e : k = k'
    · subst e; exact absurd hk hk'
    · simp [e, h.cacheOnly k' hk']
  · exact h.vocab

theorem Abs.delCache {s : Store} {σ : Spec} (h : Abs s σ) (k : Key) (hk : k.cls = .cache) :
    Abs { s with cache := aerase s.cache k } (aerase σ k) := by
  constructor
  · intro k'
    simp only [aget_aerase, h.get k']
    by_cases e : k = k'
    · subst e; simp [hk]
    · simp [e]
  · exact h.mdNoCache
  · intro k' hk'
    simp only [aget_aerase]
    by_cases e : k = k'
    · simp [e]
    · simp [e, h.cacheOnly k' hk']
  · exact h.vocab

theorem Abs.scan {s : Store} {σ : Spec} (h : Abs s σ) (p : List Nat) (hb : validUtf8 p = true)
    (k : Key) : k ∈ scanNow s p ↔ k ∈ (σ.map (·.1)).filter (pmatch p) := by
  simp only [scanNow, h.vocab, liveKeys, List.filter_nil, List.map_nil, List.append_nil,
    List.mem_append, List.mem_filter, mem_keys_iff, h.get k, mdMatch_eq_pmatch hb]
  by_cases hk : k.cls = .cache
  · simp [hk, h.mdNoCache k hk]
  · simp [hk, h.cacheOnly k hk]

theorem routerPut_emb {k : Key} (h : k.cls = .emb) (s : Store) (v : Val) :
    routerPut s k v = ({ s with vocab := (idxGetOrCreate s.vocab k).2 },
      .cont (.putEmbAfterIndex (idxGetOrCreate s.vocab k).1)) := by
  simp [routerPut, h]

theorem routerPut_cache {k : Key} (h : k.cls = .cache) (s : Store) (v : Val) :
    routerPut s k v = ({ s with cache := aset s.cache k v }, .done .ok) := by
  simp [routerPut, h]

theorem routerPut_md {k : Key} (he : k.cls ≠ .emb) (hc : k.cls ≠ .cache) (s : Store) (v : Val) :
    routerPut s k v = ({ s with md := aset s.md k v }, .done .ok) := by
  cases h : k.cls <;> simp_all [routerPut]

theorem existsNow_emb {k : Key} (h : k.cls = .emb) (s : Store) :
    existsNow s k = ((idxGet s.vocab k).isSome || (aget s.md k).isSome) := by
  simp [existsNow, h]

theorem existsNow_cache {k : Key} (h : k.cls = .cache) (s : Store) :
    existsNow s k = (aget s.cache k).isSome := by
  simp [existsNow, h]

theorem existsNow_md {k : Key} (he : k.cls ≠ .emb) (hc : k.cls ≠ .cache) (s : Store) :
    existsNow s k = (aget s.md k).isSome := by
  cases h : k.cls <;> simp_all [existsNow]

theorem routerGet_emb {k : Key} (h : k.cls = .emb) (s : Store) :
    routerGet s k = match idxGet s.vocab k with
      | some id => (s, .cont (.getEmbAfterIndex id))
      | none => (s, .done (mdGet s k)) := by
  simp only [routerGet, h]
  cases idxGet s.vocab k <;> rfl

theorem routerGet_cache {k : Key} (h : k.cls = .cache) (s : Store) :
    routerGet s k = (s, .done (match aget s.cache k with | some v => .found v | none => .notFound)) := by
  simp only [routerGet, h]
  cases aget s.cache k <;> rfl

theorem routerGet_md {k : Key} (he : k.cls ≠ .emb) (hc : k.cls ≠ .cache) (s : Store) :
    routerGet s k = (s, .done (mdGet s k)) := by
  cases h : k.cls <;> simp_all [routerGet]

theorem routerDelete_absent {s : Store} {k : Key} (h : existsNow s k = false) :
    routerDelete s k = (s, .done .notFound) := by
  simp [routerDelete, h]

theorem routerDelete_emb {s : Store} {k : Key} (hk : k.cls = .emb) (h : existsNow s k = true) :
    routerDelete s k =
      ({ s with slab := match idxGet s.vocab k with | some id => aerase s.slab id | none => s.slab },
       .cont .delEmbAfterVector) := by
  simp only [routerDelete, h, hk]
  cases idxGet s.vocab k <;> rfl

theorem routerDelete_cache {s : Store} {k : Key} (hk : k.cls = .cache) (h : existsNow s k = true) :
    routerDelete s k = ({ s with cache := aerase s.cache k }, .done .ok) := by
  simp [routerDelete, h, hk]

theorem routerDelete_md {s : Store} {k : Key} (he : k.cls ≠ .emb) (hc : k.cls ≠ .cache)
    (h : existsNow s k = true) : routerDelete s k = ({ s with md := aerase s.md k }, .done .ok) := by
  cases hcl : k.cls <;> simp_all [routerDelete]

theorem routerGet_fst (s : Store) (k : Key) : (routerGet s k).1 = s := by
  unfold routerGet
  split
  · split <;> rfl
  · rfl
  · rfl

theorem logDelete_eq (s : Store) (k : Key) : ∃ w, logDelete s k = { s with wal := w } := by
  unfold logDelete
  split
  · exact ⟨s.wal, rfl⟩
  · split <;> exact ⟨_, rfl⟩

theorem logPut_eq (s : Store) (k : Key) (v : Val) : (∃ w, logPut s k v = { s with wal := w }) ∨
    (k.cls = .emb ∧ ∃ w, logPut s k v = { s with vocab := (idxGetOrCreate s.vocab k).2, wal := w }) := by
  unfold logPut
  split
  · exact Or.inl ⟨s.wal, rfl⟩
  · split
    · exact Or.inl ⟨_, rfl⟩
    · split
      · exact Or.inl ⟨_, rfl⟩
      · exact Or.inr ⟨Decidable.not_not.mp ‹_›, _, rfl⟩

/-- one atomic step leaves the store alone or updates ONE field of it -/
theorem stepOp_store_cases {P : Store → Prop} (s : Store) (op : Op) (pc : PC) (same : P s)
    (idxNew : ∀ k v, (op = .put k v ∨ op = .putD k v) → k.cls = .emb →
      P { s with vocab := (idxGetOrCreate s.vocab k).2 })
    (cacheSet : ∀ k v, (op = .put k v ∨ op = .putD k v) → k.cls = .cache →
      P { s with cache := aset s.cache k v })
    (mdSet : ∀ k v, (op = .put k v ∨ op = .putD k v) → P { s with md := aset s.md k v })
    (slab : ∀ sl, P { s with slab := sl })
    (idxRm : ∀ k, (op = .delete k ∨ op = .delD k) → P { s with vocab := idxRemove s.vocab k })
    (cacheDel : ∀ k, (op = .delete k ∨ op = .delD k) → k.cls = .cache →
      P { s with cache := aerase s.cache k })
    (mdDel : ∀ k, (op = .delete k ∨ op = .delD k) → P { s with md := aerase s.md k })
    (log : ∀ w, pc = .start → P { s with wal := w })
    (logIdx : ∀ k v w, pc = .start → op = .putD k v → k.cls = .emb →
      P { s with vocab := (idxGetOrCreate s.vocab k).2, wal := w }) :
    P (stepOp s op pc).1 := by
  have put : ∀ k v, (op = .put k v ∨ op = .putD k v) → P (routerPut s k v).1 := by
    intro k v h
    by_cases he : k.cls = .emb
    · rw [routerPut_emb he]; exact idxNew k v h he
    · by_cases hc : k.cls = .cache
      · rw [routerPut_cache hc]; exact cacheSet k v h hc
      · rw [routerPut_md he hc]; exact mdSet k v h
  have del : ∀ k, (op = .delete k ∨ op = .delD k) → P (routerDelete s k).1 := by
    intro k h
    cases hex : existsNow s k with
    | false => rw [routerDelete_absent hex]; exact same
    | true =>
      by_cases he : k.cls = .emb
      · rw [routerDelete_emb he hex]; exact slab _
      · by_cases hc : k.cls = .cache
        · rw [routerDelete_cache hc hex]; exact cacheDel k h hc
        · rw [routerDelete_md he hc hex]; exact mdDel k h
  unfold stepOp
  split
  · exact put _ _ (by simp)
  · rw [routerGet_fst]; exact same
  · exact del _ (by simp)
  · exact same
  · exact same
  · split
    · exact put _ _ (by simp)
    · rename_i k v _
      rcases logPut_eq s k v with ⟨w, e⟩ | ⟨he, w, e⟩ <;> simp only [e]
      · exact log w rfl
      · exact logIdx k v w rfl rfl he
  · split
    · exact del _ (by simp)
    · rename_i k _
      obtain ⟨w, e⟩ := logDelete_eq s k
      simp only [e]
      exact log w rfl
  · exact put _ _ (by simp)
  · exact del _ (by simp)
  · exact slab _
  · exact slab _
  · exact mdSet _ _ (by simp)
  · exact mdSet _ _ (by simp)
  · split <;> exact same
  · exact same
  · exact idxRm _ (by simp)
  · exact idxRm _ (by simp)
  · exact mdDel _ (by simp)
  · exact mdDel _ (by simp)
  · exact same

theorem existsNow_plainKey {s : Store} {σ : Spec} {k : Key} (he : k.cls ≠ .emb)
    (hσ : aget σ k = if k.cls = .cache then aget s.cache k else aget s.md k) :
    existsNow s k = (aget σ k).isSome := by
  by_cases hc : k.cls = .cache
  · rw [existsNow_cache hc, hσ, if_pos hc]
  · rw [existsNow_md he hc, hσ, if_neg hc]

/-- on a key outside the `emb:` class an operation is one step of the specification, given only
    that the key's own slab (by class: cache ring or metadata) agrees with it on THAT key -/
theorem plainKey_step {s : Store} {σ : Spec} {op : Op} {k : Key} (hk : op.key? = some k)
    (hnd : op.nonDurable = true) (he : k.cls ≠ .emb)
    (hσ : aget σ k = if k.cls = .cache then aget s.cache k else aget s.md k) :
    ∃ s' r, stepOp s op .start = (s', .done r) ∧ resEquiv r (specRes σ op) ∧
      s'.vocab = s.vocab ∧ s'.slab = s.slab ∧ s'.walOn = s.walOn ∧
      (∀ k', k' ≠ k → aget (specApply σ op) k' = aget σ k' ∧ aget s'.md k' = aget s.md k' ∧
        aget s'.cache k' = aget s.cache k') ∧
      (if k.cls = .cache then s'.md = s.md ∧ aget (specApply σ op) k = aget s'.cache k
       else s'.cache = s.cache ∧ aget (specApply σ op) k = aget s'.md k) := by
  have hex := existsNow_plainKey he hσ
  cases op with
  | putD => cases hnd
  | delD => cases hnd
  | scan => cases hk
  | put k' v =>
    cases hk
    by_cases hc : k.cls = .cache
    · refine ⟨_, _, routerPut_cache hc s v, rfl, rfl, rfl, rfl, fun k' hne => ?_, ?_⟩
      · simp [specApply, specStep, aget_aset, Ne.symm hne]
      · simp [hc, specApply, specStep, aget_aset]
    · refine ⟨_, _, routerPut_md he hc s v, rfl, rfl, rfl, rfl, fun k' hne => ?_, ?_⟩
      · simp [specApply, specStep, aget_aset, Ne.symm hne]
      · simp [hc, specApply, specStep, aget_aset]
  | get k' =>
    cases hk
    by_cases hc : k.cls = .cache
    · refine ⟨s, _, routerGet_cache hc s, ?_, rfl, rfl, rfl, fun _ _ => ⟨rfl, rfl, rfl⟩, ?_⟩
      · simp only [specRes, specStep, hσ, if_pos hc]; exact resEquiv_refl _
      · simpa [hc, specApply, specStep] using hσ
    · refine ⟨s, _, routerGet_md he hc s, ?_, rfl, rfl, rfl, fun _ _ => ⟨rfl, rfl, rfl⟩, ?_⟩
      · simp only [specRes, specStep, hσ, if_neg hc, mdGet]; exact resEquiv_refl _
      · simpa [hc, specApply, specStep] using hσ
  | exists_ k' =>
    cases hk
    refine ⟨s, _, rfl, ?_, rfl, rfl, rfl, fun _ _ => ⟨rfl, rfl, rfl⟩, ?_⟩
    · simp [specRes, specStep, resEquiv, hex]
    · by_cases hc : k.cls = .cache <;> simpa [hc, specApply, specStep] using hσ
  | delete k' =>
    cases hk
    cases hv : aget σ k with
    | none =>
      rw [hv] at hex
      refine ⟨s, _, routerDelete_absent hex, ?_, rfl, rfl, rfl, fun _ _ => ?_, ?_⟩
      · simp [specRes, specStep, hv, resEquiv]
      · simp [specApply, specStep, hv]
      · by_cases hc : k.cls = .cache <;> simpa [hc, specApply, specStep, hv] using hσ
    | some w =>
      rw [hv] at hex
      by_cases hc : k.cls = .cache
      · refine ⟨_, _, routerDelete_cache hc hex, ?_, rfl, rfl, rfl, fun k' hne => ?_, ?_⟩
        · simp [specRes, specStep, hv, resEquiv]
        · simp [specApply, specStep, hv, aget_aerase, Ne.symm hne]
        · simp [hc, specApply, specStep, hv, aget_aerase]
      · refine ⟨_, _, routerDelete_md he hc hex, ?_, rfl, rfl, rfl, fun k' hne => ?_, ?_⟩
        · simp [specRes, specStep, hv, resEquiv]
        · simp [specApply, specStep, hv, aget_aerase, Ne.symm hne]
        · simp [hc, specApply, specStep, hv, aget_aerase]

/-- the non-durable twin of a durable write: what its apply step executes -/
def twin : Op → Op
  | .putD k v => .put k v
  | .delD k => .delete k
  | op => op

/-- the yield point between log and apply of a durable write -/
def afterLog : Op → PC
  | .putD .. => .putDAfterLog
  | .delD .. => .delDAfterLog
  | _ => .start

theorem specStep_twin (σ : Spec) (op : Op) : specStep σ (twin op) = specStep σ op := by
  cases op <;> rfl

theorem twin_singleStep {op : Op} (h : op.noEmb = true) :
    (twin op).singleStep ∧ (twin op).nonDurable = true := by
  cases op <;> first | exact ⟨trivial, rfl⟩ | exact ⟨of_decide_eq_true h, rfl⟩

theorem singleStep_noEmb {op : Op} (h : op.singleStep) : op.noEmb = true ∧ op.takesLock = false := by
  cases op with
  | putD k v => have hc : k.cls = .cache := h; simp [Op.noEmb, Op.takesLock, hc]
  | delD k => have hc : k.cls = .cache := h; simp [Op.noEmb, Op.takesLock, hc]
  | scan => exact ⟨rfl, rfl⟩
  | _ => exact ⟨decide_eq_true h, rfl⟩

theorem stepOp_start_twin {op : Op} (h : op.takesLock = false) (s : Store) :
    stepOp s op .start = stepOp s (twin op) .start := by
  cases op with
  | putD k v =>
    have hc : k.cls = .cache := by simpa [Op.takesLock] using h
    simp only [stepOp, twin, if_pos hc]
  | delD k =>
    have hc : k.cls = .cache := by simpa [Op.takesLock] using h
    simp only [stepOp, twin, if_pos hc]
  | _ => rfl

theorem stepOp_afterLog {op : Op} (h : op.takesLock = true) (s : Store) :
    stepOp s op (afterLog op) = stepOp s (twin op) .start := by
  cases op <;> first | rfl | cases h

theorem singleStep_key {op : Op} {k : Key} (hs : op.singleStep) (hnd : op.nonDurable = true)
    (hk : op.key? = some k) : k.cls ≠ .emb := by
  cases op with
  | putD => cases hnd
  | delD => cases hnd
  | scan => cases hk
  | _ => cases hk; exact hs

theorem single_step_refines {s : Store} {σ : Spec} (h : Abs s σ) (op : Op) (hs : op.singleStep)
    (hsb : op.scanStr = true) :
    ∃ s' r, stepOp s op .start = (s', .done r) ∧ resEquiv r (specRes σ op) ∧
      Abs s' (specApply σ op) := by
  obtain ⟨hss, hnd⟩ := twin_singleStep (singleStep_noEmb hs).1
  rw [stepOp_start_twin (singleStep_noEmb hs).2, specRes, specApply, ← specStep_twin]
  change ∃ s' r, _ ∧ resEquiv r (specRes σ (twin op)) ∧ Abs s' (specApply σ (twin op))
  cases hk : (twin op).key? with
  | none =>
    obtain ⟨p, hp⟩ : ∃ p, op = .scan p := by cases op <;> first | exact ⟨_, rfl⟩ | cases hk
    subst hp
    refine ⟨s, .keys (scanNow s p), rfl, ?_, h⟩
    exact ⟨fun k hk => (h.scan p hsb k).mp hk, fun k hk => (h.scan p hsb k).mpr hk⟩
  | some k =>
    have he : k.cls ≠ .emb := singleStep_key hss hnd hk
    obtain ⟨s', r, hstep, hres, hvoc, _, _, hoth, hself⟩ := plainKey_step hk hnd he (h.get k)
    refine ⟨s', r, hstep, hres, ?_, ?_, ?_, hvoc.trans h.vocab⟩
    · intro k'
      by_cases e : k' = k
      · subst e
        split <;> rename_i hc
        · rw [if_pos hc] at hself; exact hself.2
        · rw [if_neg hc] at hself; exact hself.2
      · rw [(hoth k' e).1, (hoth k' e).2.1, (hoth k' e).2.2]; exact h.get k'
    · intro k' hk'
      by_cases e : k' = k
      · subst e; rw [if_pos hk'] at hself; rw [hself.1]; exact h.mdNoCache k' hk'
      · rw [(hoth k' e).2.1]; exact h.mdNoCache k' hk'
    · intro k' hk'
      by_cases e : k' = k
      · subst e; rw [if_neg hk'] at hself; rw [hself.1]; exact h.cacheOnly k' hk'
      · rw [(hoth k' e).2.2]; exact h.cacheOnly k' hk'

def afterCont (sys : Sys) (t : Nat) (th : Thread) (op : Op) (s' : Store) (pc' : PC) : Sys :=
  { store := s',
    threads := sys.threads.set t { th with pc := pc', inv := if th.pc = .start then sys.clock else th.inv },
    hist := sys.hist, clock := sys.clock + 1, trace := sys.trace ++ [(t, op, th.pc)] }

def afterDone (sys : Sys) (t : Nat) (th : Thread) (op : Op) (rest : List Op) (s' : Store) (r : Res) : Sys :=
  { store := s',
    threads := sys.threads.set t { ops := rest, pc := .start, idx := th.idx + 1, inv := 0 },
    hist := sys.hist ++ [{ t := t, i := th.idx, op := op, res := r,
                           inv := if th.pc = .start then sys.clock else th.inv, ret := sys.clock }],
    clock := sys.clock + 1, trace := sys.trace ++ [(t, op, th.pc)] }

theorem stepOld_cont {sys : Sys} {t : Nat} {th : Thread} {op : Op} {rest : List Op} {s' : Store} {pc' : PC}
    (hth : sys.threads[t]? = some th) (hops : th.ops = op :: rest)
    (hstep : stepOp sys.store op th.pc = (s', .cont pc')) :
    stepOld sys t = afterCont sys t th op s' pc' := by
  unfold stepOld afterCont
  simp only [hth, hops, hstep]

theorem stepOld_done {sys : Sys} {t : Nat} {th : Thread} {op : Op} {rest : List Op} {s' : Store} {r : Res}
    (hth : sys.threads[t]? = some th) (hops : th.ops = op :: rest)
    (hstep : stepOp sys.store op th.pc = (s', .done r)) :
    stepOld sys t = afterDone sys t th op rest s' r := by
  unfold stepOld afterDone
  simp only [hth, hops, hstep]

theorem stepOld_cases (sys : Sys) (t : Nat) :
    stepOld sys t = sys ∨ ∃ th op rest, sys.threads[t]? = some th ∧ th.ops = op :: rest := by
  cases hth : sys.threads[t]? with
  | none => left; unfold stepOld; simp only [hth]
  | some th =>
    cases hops : th.ops with
    | nil => left; unfold stepOld; simp only [hth, hops]
    | cons op rest => exact Or.inr ⟨th, op, rest, rfl, hops⟩

/-- the log mutex: a thread waits, or takes its log step with nobody in the critical section -/
theorem step_eq (sys : Sys) (t : Nat) : step sys t = sys ∨ (step sys t = stepOld sys t ∧
    ∀ th op rest, sys.threads[t]? = some th → th.ops = op :: rest → sys.store.walOn = true →
      op.takesLock = true → th.pc = .start → ∀ x ∈ sys.threads, x.inCS = false) := by
  unfold step
  split
  · exact Or.inl rfl
  · rename_i th hth
    split
    · exact Or.inl rfl
    · rename_i op rest hops
      split
      · exact Or.inl rfl
      · rename_i hguard
        refine Or.inr ⟨rfl, fun th' op' rest' h1 h2 hw hlk hpc x hx => ?_⟩
        rw [hth] at h1
        cases h1
        rw [hops] at h2
        cases h2
        cases hxc : x.inCS with
        | false => rfl
        | true =>
          refine absurd ?_ hguard
          simp only [hw, hlk, hpc, decide_true, Bool.and_self, Bool.true_and, List.any_eq_true]
          exact ⟨x, hx, hxc⟩

theorem runFrom_induction {P : Sys → Prop} (hstep : ∀ sys t, P sys → P (step sys t)) {sys : Sys}
    (h : P sys) (sched : List Nat) : P (runFrom sys sched) := by
  induction sched generalizing sys with
  | nil => exact h
  | cons t rest ih => exact ih (hstep sys t h)

structure Inv (sys : Sys) : Prop where
  abs : Abs sys.store (specRun [] (sys.hist.map (·.op)))
  strict : SeqStrict [] sys.hist
  threads : ∀ th ∈ sys.threads, th.pc = .start ∧ ∀ op ∈ th.ops, op.singleStep ∧ op.scanStr = true
  times : ∀ r ∈ sys.hist, r.inv = r.ret ∧ r.ret < sys.clock
  sorted : sys.hist.Pairwise (fun a b => a.ret < b.inv)

theorem Inv.init (w : Bool) (progs : List ThreadProgram)
    (h : ∀ p ∈ progs, ∀ op ∈ p, op.singleStep ∧ op.scanStr = true) : Inv (initSys w progs) := by
  constructor
  · exact Abs.init w
  · trivial
  · intro th hth
    simp only [initSys, List.mem_map] at hth
    obtain ⟨p, hp, rfl⟩ := hth
    exact ⟨rfl, h p hp⟩
  · intro r hr; simp [initSys] at hr
  · simp [initSys]

theorem Inv.stepOld {sys : Sys} (h : Inv sys) (t : Nat) : Inv (stepOld sys t) := by
  rcases stepOld_cases sys t with e | ⟨th, op, rest, hth, hops⟩
  · rw [e]; exact h
  obtain ⟨hpc, hss⟩ := h.threads th (List.mem_of_getElem? hth)
  have hop := hss op (by simp [hops])
  obtain ⟨s', r, hstep, hres, habs⟩ := single_step_refines h.abs op hop.1 hop.2
  rw [stepOld_done hth hops (hpc ▸ hstep)]
  constructor
  · simp only [afterDone, List.map_append, List.map_cons, List.map_nil, specRun_append]
    exact habs
  · exact (seqStrict_append _ _ _).mpr ⟨h.strict, hres⟩
  · intro th' hm
    rcases mem_set_cases hm with h1 | rfl
    · exact h.threads th' h1
    · exact ⟨rfl, fun o ho => hss o (by simp [hops, ho])⟩
  · intro x hx
    rcases List.mem_append.mp hx with hx | hx
    · exact ⟨(h.times x hx).1, Nat.lt_succ_of_lt (h.times x hx).2⟩
    · rw [List.mem_singleton.mp hx]; exact ⟨by simp [hpc], Nat.lt_succ_self _⟩
  · refine pairwise_snoc.mpr ⟨h.sorted, fun a ha => ?_⟩
    simpa [hpc] using (h.times a ha).2

theorem Inv.step {sys : Sys} (h : Inv sys) (t : Nat) : Inv (step sys t) := by
  rcases step_eq sys t with e | ⟨e, _⟩ <;> rw [e]
  · exact h
  · exact h.stepOld t

theorem Inv.run {sys : Sys} (h : Inv sys) (sched : List Nat) : Inv (runFrom sys sched) :=
  runFrom_induction (fun _ t h => h.step t) h sched

theorem Inv.linearizable {sys : Sys} (h : Inv sys) : Linearizable sys.hist := by
  refine ⟨sys.hist, List.Perm.refl _, h.strict.valid, ?_⟩
  refine List.Pairwise.imp_of_mem ?_ h.sorted
  intro a b ha hb hab hba
  have := (h.times a ha).1
  have := (h.times b hb).1
  omega

theorem aget_specApply {σ : Spec} {op : Op} {k : Key} {v : Val}
    (h : aget (specApply σ op) k = some v) :
    aget σ k = some v ∨ op = .put k v ∨ op = .putD k v := by
  have set : ∀ {k' v'}, aget (aset σ k' v') k = some v → aget σ k = some v ∨ (k' = k ∧ v' = v) := by
    intro k' v' h
    rw [aget_aset] at h
    split at h
    · exact Or.inr ⟨‹_›, Option.some.inj h⟩
    · exact Or.inl h
  have del : ∀ {k'}, aget (specApply σ (.delete k')) k = some v → aget σ k = some v := by
    intro k' h
    simp only [specApply, specStep] at h
    split at h
    · rw [aget_aerase] at h
      split at h
      · cases h
      · exact h
    · exact h
  cases op with
  | put k' v' => exact (set h).imp id fun ⟨e1, e2⟩ => Or.inl (by rw [e1, e2])
  | putD k' v' => exact (set h).imp id fun ⟨e1, e2⟩ => Or.inr (by rw [e1, e2])
  | delete k' => exact Or.inl (del h)
  | delD k' => exact Or.inl (del h)
  | _ => exact Or.inl h

theorem seqValid_get_written {σ : Spec} {l : List OpRec} (hv : SeqValid σ l)
    {r : OpRec} (hr : r ∈ l) {k : Key} {v : Val} (hop : r.op = .get k) (hres : r.res = .found v) :
    aget σ k = some v ∨ ∃ w ∈ l, w.op = .put k v ∨ w.op = .putD k v := by
  induction l generalizing σ with
  | nil => cases hr
  | cons a rest ih =>
    obtain ⟨hok, hrest⟩ := hv
    rcases List.mem_cons.mp hr with e | hr'
    · subst e
      left
      rw [hop, hres] at hok
      rcases hok with hq | hq
      · simp only [specRes, specStep] at hq
        cases hg : aget σ k with
        | none => rw [hg] at hq; simp [resEquiv] at hq
        | some w => rw [hg] at hq; simp only [resEquiv, Res.found.injEq] at hq; rw [hq]
      · exact absurd hq (by simp [absentOk])
    · rcases ih hrest hr' with h1 | ⟨w, hw, hw'⟩
      · rcases aget_specApply h1 with h2 | h2
        · exact Or.inl h2
        · exact Or.inr ⟨a, List.mem_cons_self, h2⟩
      · exact Or.inr ⟨w, List.mem_cons_of_mem _ hw, hw'⟩

theorem replay_snoc (w : List Entry) (e : Entry) : replay (w ++ [e]) = applyEntry (replay w) e := by
  simp [replay, List.foldl_append]

theorem mem_scanNow_iff (s : Store) (p : List Nat) (k : Key) :
    k ∈ scanNow s p ↔ ((mdMatch p k = true ∧ (aget s.md k).isSome = true) ∨
      (pmatch p k = true ∧ (k ∈ liveKeys s.vocab ∨ (aget s.cache k).isSome = true))) := by
  simp only [scanNow, List.mem_append, List.mem_filter, mem_keys_iff]
  grind

end Neumann.KV
