import NeumannModel.KV.Index
import NeumannModel.KV.EmbLemmas
/-
  C11 — `try_get_or_create` at the granularity of the index's own locks: the invariant
  "a key has at most one live entity id" of every step of every interleaving (core Lean only).
-/
namespace Neumann.KV

theorem idxCreateLocked_recheck (v : List (Key × Bool)) (k : Key) :
    idxCreateLocked true v k = idxGetOrCreate v k := by
  simp [idxCreateLocked]

theorem StoreWF.init (w : Bool) : StoreWF { walOn := w } := by
  constructor
  · intro i j k hi; simp at hi
  · intro k _; rfl

theorem StoreWF.frame {s s' : Store} (h : StoreWF s) (hv : s'.vocab = s.vocab) (hc : s'.cache = s.cache) :
    StoreWF s' := by
  constructor
  · rw [hv]; exact h.uniq
  · rw [hc]; exact h.cacheOnly

theorem StoreWF.logPut {s : Store} (h : StoreWF s) (k : Key) (v : Val) : StoreWF (logPut s k v) := by
  rcases logPut_eq s k v with ⟨w, e⟩ | ⟨_, w, e⟩ <;> rw [e]
  · exact h.frame rfl rfl
  · exact ⟨LiveUnique.getOrCreate h.uniq k, h.cacheOnly⟩

/-- EVERY step of `Model.stepOp` - whatever the operation and the program counter - keeps "at most
    one live id per key": the index changes through `idxGetOrCreate` and `idxRemove` alone -/
theorem StoreWF.stepOp {s : Store} (h : StoreWF s) (op : Op) (pc : PC) : StoreWF (stepOp s op pc).1 := by
  have hcache : ∀ {m}, (∀ k', k'.cls ≠ .cache → aget m k' = none) →
      StoreWF { s with cache := m } := fun hm => ⟨h.uniq, hm⟩
  refine stepOp_store_cases s op pc h (fun k _ _ _ => ⟨LiveUnique.getOrCreate h.uniq k, h.cacheOnly⟩)
    (fun k v _ hc => hcache fun k' hk' => ?_) (fun _ _ _ => h.frame rfl rfl) (fun _ => h.frame rfl rfl)
    (fun k _ => ⟨LiveUnique.remove h.uniq k, h.cacheOnly⟩) (fun k _ _ => hcache fun k' hk' => ?_)
    (fun _ _ => h.frame rfl rfl) (fun _ _ => h.frame rfl rfl)
    (fun k _ _ _ _ _ => ⟨LiveUnique.getOrCreate h.uniq k, h.cacheOnly⟩)
  · rw [aget_aset, if_neg (fun (e : k = k') => hk' (e ▸ hc))]; exact h.cacheOnly k' hk'
  · rw [aget_aerase]; split
    · rfl
    · exact h.cacheOnly k' hk'

theorem StoreWF.routerPut {s : Store} (h : StoreWF s) (k : Key) (v : Val) : StoreWF (routerPut s k v).1 :=
  h.stepOp (.put k v) .start

theorem StoreWF.lockedStep {s : Store} (h : StoreWF s) (op : Op) (pc : PC) :
    StoreWF (lockedStep true s op pc).1 := by
  unfold Neumann.KV.lockedStep
  split
  · rw [idxCreateLocked_recheck]; exact ⟨LiveUnique.getOrCreate h.uniq _, h.cacheOnly⟩
  · rw [idxCreateLocked_recheck]; exact ⟨LiveUnique.getOrCreate h.uniq _, h.cacheOnly⟩
  · rw [idxCreateLocked_recheck]; exact ⟨LiveUnique.getOrCreate h.uniq _, h.cacheOnly⟩
  · exact h

theorem StoreWF.stepOpI {s : Store} (h : StoreWF s) (op : Op) (pc : IPC) :
    StoreWF (stepOpI true s op pc).1 := by
  unfold Neumann.KV.stepOpI
  split
  · split
    · split
      · exact h.stepOp op _
      · exact h
    · exact h.stepOp op _
  · exact h.lockedStep op _

theorem StoreWF.stepI {sys : ISys} (h : StoreWF sys.store) (t : Nat) : StoreWF (stepI true sys t).store := by
  unfold Neumann.KV.stepI
  split
  · exact h
  · rename_i th _
    split
    · exact h
    · rename_i op rest _
      split
      · exact h
      · have hs := h.stepOpI op th.pc
        generalize Neumann.KV.stepOpI true sys.store op th.pc = r at hs ⊢
        obtain ⟨s', o⟩ := r
        cases o <;> exact hs

theorem StoreWF.runI {sys : ISys} (h : StoreWF sys.store) (sched : List Nat) :
    StoreWF (runFromI true sys sched).store := by
  induction sched generalizing sys with
  | nil => exact h
  | cons t rest ih => exact ih (h.stepI t)

theorem StoreWF.stepOld {sys : Sys} (h : StoreWF sys.store) (t : Nat) : StoreWF (stepOld sys t).store := by
  unfold Neumann.KV.stepOld
  split
  · exact h
  · rename_i th _
    split
    · exact h
    · rename_i op rest _
      have hs := h.stepOp op th.pc
      generalize Neumann.KV.stepOp sys.store op th.pc = r at hs ⊢
      obtain ⟨s', o⟩ := r
      cases o <;> exact hs

theorem StoreWF.step {sys : Sys} (h : StoreWF sys.store) (t : Nat) : StoreWF (step sys t).store := by
  rcases step_eq sys t with e | ⟨e, _⟩ <;> rw [e]
  · exact h
  · exact h.stepOld t

theorem StoreWF.run {sys : Sys} (h : StoreWF sys.store) (sched : List Nat) :
    StoreWF (runFrom sys sched).store :=
  runFrom_induction (P := fun sys => StoreWF sys.store) (fun _ t h => h.step t) h sched

theorem liveIds_length_le_one {v : List (Key × Bool)} (h : LiveUnique v) (k : Key) :
    (liveIds v k).length ≤ 1 := by
  have hnd : (liveIds v k).Nodup := List.Nodup.sublist List.filter_sublist List.nodup_range
  have hall : ∀ i ∈ liveIds v k, v[i]? = some (k, true) := by
    intro i hi
    simp only [liveIds, List.mem_filter, beq_iff_eq] at hi
    exact hi.2
  match hl : liveIds v k with
  | [] => simp
  | [_] => simp
  | a :: b :: r =>
    rw [hl] at hnd hall
    have e : a = b := h a b k (hall a (by simp)) (hall b (by simp))
    subst e
    simp at hnd

theorem seqOp_delete_absent {s : Store} {k : Key} (h : existsNow s k = false) :
    seqOp s (.delete k) = (s, .notFound) := by
  simp [seqOp, seqOpAux, stepOp, routerDelete, h]

theorem seqOp_delete_emb {s : Store} {k : Key} (hk : k.cls = .emb) (h : existsNow s k = true) :
    seqOp s (.delete k) =
      ({ s with slab := (match idxGet s.vocab k with | some id => aerase s.slab id | none => s.slab),
                vocab := idxRemove s.vocab k, md := aerase s.md k }, .ok) := by
  cases hi : idxGet s.vocab k <;> simp [seqOp, seqOpAux, stepOp, routerDelete, h, hk, hi]

theorem seqOp_get_absent {s : Store} {k : Key} (hk : k.cls = .emb) (hi : idxGet s.vocab k = none)
    (hm : aget s.md k = none) : (seqOp s (.get k)).2 = .notFound := by
  simp [seqOp, seqOpAux, stepOp, routerGet, hk, hi, mdGet, hm]

theorem absent_of_parts {s : Store} (hw : StoreWF s) {k : Key} (hk : k.cls = .emb)
    (hi : idxGet s.vocab k = none) (hm : aget s.md k = none) :
    (seqOp s (.get k)).2 = .notFound ∧ existsNow s k = false ∧ (∀ p, k ∉ scanNow s p) ∧
      (seqOp s (.delete k)).2 = .notFound := by
  have hex : existsNow s k = false := by simp [existsNow, hk, hi, hm]
  have hc : aget s.cache k = none := hw.cacheOnly k (by rw [hk]; decide)
  refine ⟨seqOp_get_absent hk hi hm, hex, ?_, by rw [seqOp_delete_absent hex]⟩
  intro p hmem
  rw [mem_scanNow_iff, mem_liveKeys] at hmem
  simp [hi, hm, hc] at hmem

theorem delete_then_absent {s : Store} (hw : StoreWF s) {k : Key} (hk : k.cls = .emb) :
    let s' := (seqOp s (.delete k)).1
    (seqOp s' (.get k)).2 = .notFound ∧ existsNow s' k = false ∧ (∀ p, k ∉ scanNow s' p) ∧
      (seqOp s' (.delete k)).2 = .notFound := by
  intro s'
  cases hex : existsNow s k with
  | false =>
    have e : s' = s := by simp [s', seqOp_delete_absent hex]
    rw [e]
    have hi : idxGet s.vocab k = none := by
      simp only [existsNow, hk, Bool.or_eq_false_iff] at hex
      simpa using hex.1
    have hm : aget s.md k = none := by
      simp only [existsNow, hk, Bool.or_eq_false_iff] at hex
      simpa using hex.2
    exact absent_of_parts hw hk hi hm
  | true =>
    have e : s' = { s with slab := (match idxGet s.vocab k with | some id => aerase s.slab id | none => s.slab),
                           vocab := idxRemove s.vocab k, md := aerase s.md k } := by
      simp [s', seqOp_delete_emb hk hex]
    rw [e]
    have hw' : StoreWF { s with slab := (match idxGet s.vocab k with | some id => aerase s.slab id | none => s.slab),
                                vocab := idxRemove s.vocab k, md := aerase s.md k } :=
      ⟨LiveUnique.remove hw.uniq k, hw.cacheOnly⟩
    refine absent_of_parts hw' hk ?_ ?_
    · exact idxRemove_self hw.uniq k
    · simp [aget_aerase]

end Neumann.KV
