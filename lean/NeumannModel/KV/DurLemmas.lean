import NeumannModel.KV.EmbLemmas
/-
  C11 — durable writes (core Lean only):
  (1) `DInv`: runs of operations on keys of every class but `emb:`, durable forms included, with or
      without the log - the history is linearizable in the order of the LAST steps;
  (2) `RInv`: runs of durable writers of every class (`emb:` keys and vectors included) and readers -
      the slabs rebuilt from the log equal the live slabs once every thread has finished.
-/
namespace Neumann.KV

theorem Abs.wal {s : Store} {σ : Spec} (h : Abs s σ) (w : List Entry) : Abs { s with wal := w } σ :=
  ⟨h.get, h.mdNoCache, h.cacheOnly, h.vocab⟩

theorem logStep_nonEmb {s : Store} {op : Op} (hlk : op.takesLock = true) (he : op.noEmb = true) :
    ∃ w, stepOp s op .start = ({ s with wal := w }, .cont (afterLog op)) := by
  cases op with
  | putD k v =>
    have hc : k.cls ≠ .cache := of_decide_eq_true hlk
    rcases logPut_eq s k v with ⟨w, e⟩ | ⟨hemb, _⟩
    · exact ⟨w, by simp only [stepOp, if_neg hc, e, afterLog]⟩
    · exact absurd hemb (of_decide_eq_true he)
  | delD k =>
    have hc : k.cls ≠ .cache := of_decide_eq_true hlk
    obtain ⟨w, e⟩ := logDelete_eq s k
    exact ⟨w, by simp only [stepOp, if_neg hc, e, afterLog]⟩
  | _ => cases hlk

structure DInv (sys : Sys) : Prop where
  abs : Abs sys.store (specRun [] (sys.hist.map (·.op)))
  strict : SeqStrict [] sys.hist
  ops : ∀ th ∈ sys.threads, ∀ op ∈ th.ops, op.noEmb = true ∧ op.scanStr = true
  pcs : ∀ th ∈ sys.threads, th.pc = .start ∨
    ∃ op rest, th.ops = op :: rest ∧ op.takesLock = true ∧ th.pc = afterLog op ∧ th.inv < sys.clock
  times : ∀ r ∈ sys.hist, r.inv ≤ r.ret ∧ r.ret < sys.clock
  sorted : sys.hist.Pairwise (fun a b => a.ret < b.ret)

theorem DInv.init (w : Bool) (progs : List ThreadProgram)
    (h : ∀ p ∈ progs, ∀ op ∈ p, op.noEmb = true ∧ op.scanStr = true) : DInv (initSys w progs) := by
  constructor
  · exact Abs.init w
  · trivial
  · intro th hth
    simp only [initSys, List.mem_map] at hth
    obtain ⟨p, hp, rfl⟩ := hth
    exact h p hp
  · intro th hth
    simp only [initSys, List.mem_map] at hth
    obtain ⟨p, _, rfl⟩ := hth
    exact Or.inl rfl
  · intro r hr; simp [initSys] at hr
  · simp [initSys]

theorem DInv.stepOld {sys : Sys} (h : DInv sys) (t : Nat) : DInv (stepOld sys t) := by
  rcases stepOld_cases sys t with e | ⟨th, op, rest, hth, hops⟩
  · rw [e]; exact h
  have hmem : th ∈ sys.threads := List.mem_of_getElem? hth
  have hall := h.ops th hmem
  have hop := hall op (by simp [hops])
  have hpcs : ∀ th' ∈ sys.threads, th'.pc = .start ∨ ∃ op rest, th'.ops = op :: rest ∧
      op.takesLock = true ∧ th'.pc = afterLog op ∧ th'.inv < sys.clock + 1 := by
    intro th' hm
    rcases h.pcs th' hm with h2 | ⟨o, rs, a, b, c, d⟩
    · exact Or.inl h2
    · exact Or.inr ⟨o, rs, a, b, c, Nat.lt_succ_of_lt d⟩
  have htimes : ∀ r ∈ sys.hist, r.inv ≤ r.ret ∧ r.ret < sys.clock + 1 :=
    fun r hr => ⟨(h.times r hr).1, Nat.lt_succ_of_lt (h.times r hr).2⟩
  by_cases hlog : th.pc = .start ∧ op.takesLock = true
  · -- the log step of a durable write: the log alone changes
    obtain ⟨w, hstep⟩ := logStep_nonEmb hlog.2 hop.1
    rw [stepOld_cont hth hops (hlog.1 ▸ hstep)]
    refine ⟨h.abs.wal w, h.strict, fun th' hm => ?_, fun th' hm => ?_, htimes, h.sorted⟩
    · rcases mem_set_cases hm with h1 | rfl
      · exact h.ops th' h1
      · simpa [hops] using hall
    · rcases mem_set_cases hm with h1 | rfl
      · exact hpcs th' h1
      · exact Or.inr ⟨op, rest, hops, hlog.2, rfl, by simp [afterCont, hlog.1]⟩
  · -- the step that takes effect and returns: the router call of the operation's twin
    have hsame : stepOp sys.store op th.pc = stepOp sys.store (twin op) .start ∧
        (if th.pc = .start then sys.clock else th.inv) ≤ sys.clock := by
      rcases h.pcs th hmem with hpc | ⟨o, rs, hops', hlock, hpc, hinv⟩
      · have hnl : op.takesLock = false := by
          cases hl : op.takesLock with
          | false => rfl
          | true => exact absurd ⟨hpc, hl⟩ hlog
        exact ⟨by rw [hpc]; exact stepOp_start_twin hnl _, by simp [hpc]⟩
      · rw [hops] at hops'
        cases hops'
        refine ⟨by rw [hpc]; exact stepOp_afterLog hlock _, ?_⟩
        split
        · exact Nat.le_refl _
        · exact Nat.le_of_lt hinv
    obtain ⟨s', r, hstep, hres, habs⟩ := single_step_refines h.abs (twin op) (twin_singleStep hop.1).1
      ((show (twin op).scanStr = op.scanStr by cases op <;> rfl).trans hop.2)
    have hres : resEquiv r (specRes (specRun [] (sys.hist.map (·.op))) op) := by
      rw [specRes, ← specStep_twin]; exact hres
    have habs : Abs s' (specApply (specRun [] (sys.hist.map (·.op))) op) := by
      rw [specApply, ← specStep_twin]; exact habs
    rw [stepOld_done hth hops (hsame.1.trans hstep)]
    refine ⟨?_, (seqStrict_append _ _ _).mpr ⟨h.strict, hres⟩, fun th' hm => ?_, fun th' hm => ?_,
      fun x hx => ?_, pairwise_snoc.mpr ⟨h.sorted, fun a ha => (h.times a ha).2⟩⟩
    · simp only [afterDone, List.map_append, List.map_cons, List.map_nil, specRun_append]
      exact habs
    · rcases mem_set_cases hm with h1 | rfl
      · exact h.ops th' h1
      · exact fun o ho => hall o (by simp [hops, ho])
    · rcases mem_set_cases hm with h1 | rfl
      · exact hpcs th' h1
      · exact Or.inl rfl
    · rcases List.mem_append.mp hx with hx | hx
      · exact htimes x hx
      · rw [List.mem_singleton.mp hx]; exact ⟨hsame.2, Nat.lt_succ_self _⟩

theorem DInv.step {sys : Sys} (h : DInv sys) (t : Nat) : DInv (step sys t) := by
  rcases step_eq sys t with e | ⟨e, _⟩ <;> rw [e]
  · exact h
  · exact h.stepOld t

theorem DInv.run {sys : Sys} (h : DInv sys) (sched : List Nat) : DInv (runFrom sys sched) :=
  runFrom_induction (fun _ t h => h.step t) h sched

theorem DInv.realTime {sys : Sys} (h : DInv sys) : RespectsRealTime sys.hist := by
  refine List.Pairwise.imp_of_mem ?_ h.sorted
  intro a b ha _ hab hba
  have := (h.times a ha).1
  omega

theorem DInv.linearizable {sys : Sys} (h : DInv sys) : Linearizable sys.hist :=
  ⟨sys.hist, List.Perm.refl _, h.strict.valid, h.realTime⟩

/-- the metadata slab, the entity index and the embedding slab agree -/
def SlabsEq (a b : Store) : Prop := a.md = b.md ∧ a.vocab = b.vocab ∧ a.slab = b.slab

theorem SlabsEq.refl (a : Store) : SlabsEq a a := ⟨rfl, rfl, rfl⟩

theorem SlabsEq.trans {a b c : Store} (h1 : SlabsEq a b) (h2 : SlabsEq b c) : SlabsEq a c :=
  ⟨h1.1.trans h2.1, h1.2.1.trans h2.2.1, h1.2.2.trans h2.2.2⟩

theorem applyEntry_congr {a b : Store} (h : SlabsEq a b) (e : Entry) :
    SlabsEq (applyEntry a e) (applyEntry b e) := by
  obtain ⟨h1, h2, h3⟩ := h
  cases e <;> simp only [applyEntry, SlabsEq, h1, h2, h3] <;> (try split) <;> simp

theorem foldl_applyEntry_congr {a b : Store} (h : SlabsEq a b) (es : List Entry) :
    SlabsEq (es.foldl applyEntry a) (es.foldl applyEntry b) := by
  induction es generalizing a b with
  | nil => exact h
  | cons e es ih => exact ih (applyEntry_congr h e)

theorem replay_append (w es : List Entry) : replay (w ++ es) = es.foldl applyEntry (replay w) := by
  simp [replay, List.foldl_append]

/-- how many atomic steps an operation parked at this yield point has left, at most -/
def pcMeasure : PC → Nat
  | .start => 4
  | .putDAfterLog | .delDAfterLog => 3
  | .putEmbAfterIndex _ | .delEmbAfterVector | .getEmbAfterIndex _ => 2
  | .putEmbAfterVector | .delEmbAfterIndex | .getEmbAfterVector _ => 1

def Outcome.measure : Outcome → Nat
  | .cont pc => pcMeasure pc
  | .done _ => 0

theorem pcMeasure_pos (pc : PC) : 0 < pcMeasure pc := by cases pc <;> simp [pcMeasure]

theorem routerPut_measure (s : Store) (k : Key) (v : Val) : (routerPut s k v).2.measure ≤ 2 := by
  unfold routerPut; split <;> simp [Outcome.measure, pcMeasure]

theorem routerGet_measure (s : Store) (k : Key) : (routerGet s k).2.measure ≤ 2 := by
  unfold routerGet; split <;> (try split) <;> simp [Outcome.measure, pcMeasure]

theorem routerDelete_measure (s : Store) (k : Key) : (routerDelete s k).2.measure ≤ 2 := by
  unfold routerDelete; split <;> (try split) <;> simp [Outcome.measure, pcMeasure]

/-- the router calls leave at most two steps, a log step three -/
theorem stepOp_measure (s : Store) (op : Op) (pc : PC) : (stepOp s op pc).2.measure < pcMeasure pc := by
  have router : ∀ {o : Outcome} {pc : PC}, o.measure ≤ 2 → 3 ≤ pcMeasure pc → o.measure < pcMeasure pc :=
    fun h h' => Nat.lt_of_le_of_lt h h'
  unfold stepOp
  split
  · exact router (routerPut_measure _ _ _) (by decide)
  · exact router (routerGet_measure _ _) (by decide)
  · exact router (routerDelete_measure _ _) (by decide)
  · simp [Outcome.measure, pcMeasure]
  · simp [Outcome.measure, pcMeasure]
  · split
    · exact router (routerPut_measure _ _ _) (by decide)
    · simp [Outcome.measure, pcMeasure]
  · split
    · exact router (routerDelete_measure _ _) (by decide)
    · simp [Outcome.measure, pcMeasure]
  · exact router (routerPut_measure _ _ _) (by decide)
  · exact router (routerDelete_measure _ _) (by decide)
  · simp [Outcome.measure, pcMeasure]
  · simp [Outcome.measure, pcMeasure]
  · simp [Outcome.measure, pcMeasure]
  · simp [Outcome.measure, pcMeasure]
  · split <;> simp [Outcome.measure, pcMeasure]
  · simp [Outcome.measure, pcMeasure]
  · simp [Outcome.measure, pcMeasure]
  · simp [Outcome.measure, pcMeasure]
  · simp [Outcome.measure, pcMeasure]
  · simp [Outcome.measure, pcMeasure]
  · exact pcMeasure_pos _

theorem seqOpAux_fuel (op : Op) : ∀ (n m : Nat) (s : Store) (pc : PC), pcMeasure pc ≤ n →
    pcMeasure pc ≤ m → seqOpAux n s op pc = seqOpAux m s op pc := by
  intro n
  induction n with
  | zero => intro m s pc h; have := pcMeasure_pos pc; omega
  | succ n ih =>
    intro m s pc hn hm
    cases m with
    | zero => have := pcMeasure_pos pc; omega
    | succ m =>
      simp only [seqOpAux]
      cases hst : stepOp s op pc with
      | mk s' out =>
        cases out with
        | done r => rfl
        | cont pc' =>
          have : pcMeasure pc' < pcMeasure pc := by have := stepOp_measure s op pc; rwa [hst] at this
          exact ih m s' pc' (by omega) (by omega)

/-- the store when the operation parked at `pc` has run to its end with nobody in between -/
def finishOp (s : Store) (op : Op) (pc : PC) : Store := (seqOpAux 5 s op pc).1

theorem finishOp_cont {s s' : Store} {op : Op} {pc pc' : PC} (h : stepOp s op pc = (s', .cont pc')) :
    finishOp s op pc = finishOp s' op pc' ∧ pc' ≠ .start := by
  have hm : pcMeasure pc' < pcMeasure pc := by have := stepOp_measure s op pc; rwa [h] at this
  have hle : pcMeasure pc ≤ 4 := by cases pc <;> simp [pcMeasure]
  refine ⟨?_, ?_⟩
  · unfold finishOp
    rw [show seqOpAux 5 s op pc = seqOpAux 4 s' op pc' by simp only [seqOpAux, h]]
    rw [seqOpAux_fuel op 4 5 s' pc' (by omega) (by omega)]
  · intro e; subst e
    have : pcMeasure PC.start = 4 := rfl
    omega

theorem finishOp_done {s s' : Store} {op : Op} {pc : PC} {r : Res} (h : stepOp s op pc = (s', .done r)) :
    finishOp s op pc = s' := by
  simp [finishOp, seqOpAux, h]

/-- entity-index entries exist for `emb:` keys only -/
def EmbOnly (v : List (Key × Bool)) : Prop := ∀ k, k.cls ≠ .emb → idxGet v k = none

theorem EmbOnly.getOrCreate {v : List (Key × Bool)} (h : EmbOnly v) {k : Key} (hk : k.cls = .emb) :
    EmbOnly (idxGetOrCreate v k).2 := by
  intro k' hk'
  have hne : k' ≠ k := fun e => hk' (e ▸ hk)
  rw [idxGetOrCreate_other v hne]
  exact h k' hk'

theorem EmbOnly.remove {v : List (Key × Bool)} (h : EmbOnly v) (k : Key) : EmbOnly (idxRemove v k) := by
  intro k' hk'
  by_cases e : k' = k
  · subst e
    have := h k' hk'
    simp [idxRemove, this]
  · rw [idxRemove_other v e]
    exact h k' hk'

theorem stepOp_frame {s : Store} {op : Op} {pc : PC} (hop : op.durableOrRead = true)
    (he : EmbOnly s.vocab) :
    (stepOp s op pc).1.walOn = s.walOn ∧ (stepOp s op pc).1.cache = s.cache ∧
    EmbOnly (stepOp s op pc).1.vocab ∧ (pc ≠ .start → (stepOp s op pc).1.wal = s.wal) := by
  -- the writes among these operations are the durable ones, of keys outside the cache class
  have hput : ∀ {k v}, op = .put k v ∨ op = .putD k v → k.cls ≠ .cache := by
    rintro k v (rfl | rfl)
    · cases hop
    · simpa [Op.durableOrRead] using hop
  have hdel : ∀ {k}, op = .delete k ∨ op = .delD k → k.cls ≠ .cache := by
    rintro k (rfl | rfl)
    · cases hop
    · simpa [Op.durableOrRead] using hop
  exact stepOp_store_cases (P := fun s' => s'.walOn = s.walOn ∧ s'.cache = s.cache ∧
      EmbOnly s'.vocab ∧ (pc ≠ .start → s'.wal = s.wal)) s op pc ⟨rfl, rfl, he, fun _ => rfl⟩
    (fun k _ _ hemb => ⟨rfl, rfl, he.getOrCreate hemb, fun _ => rfl⟩)
    (fun k _ h hc => absurd hc (hput h)) (fun _ _ _ => ⟨rfl, rfl, he, fun _ => rfl⟩)
    (fun _ => ⟨rfl, rfl, he, fun _ => rfl⟩) (fun k _ => ⟨rfl, rfl, he.remove k, fun _ => rfl⟩)
    (fun k h hc => absurd hc (hdel h)) (fun _ _ => ⟨rfl, rfl, he, fun _ => rfl⟩)
    (fun _ hpc => ⟨rfl, rfl, he, fun h => absurd hpc h⟩)
    (fun k _ _ hpc _ hemb => ⟨rfl, rfl, he.getOrCreate hemb, fun h => absurd hpc h⟩)

theorem stepOp_read {s : Store} {op : Op} (pc : PC) (hop : op.durableOrRead = true)
    (hnl : op.takesLock = false) : (stepOp s op pc).1 = s := by
  cases op with
  | put => cases hop
  | delete => cases hop
  | putD k v => rw [Op.durableOrRead] at hop; rw [Op.takesLock, hop] at hnl; cases hnl
  | delD k => rw [Op.durableOrRead] at hop; rw [Op.takesLock, hop] at hnl; cases hnl
  | get k => cases pc <;> simp only [stepOp, routerGet_fst] <;> (try split) <;> rfl
  | exists_ k => cases pc <;> rfl
  | scan p => cases pc <;> rfl

theorem aerase_absent {α β} [DecidableEq α] (m : List (α × β)) (k : α) (h : aget m k = none) :
    aerase m k = m := by
  induction m with
  | nil => rfl
  | cons p r ih =>
    obtain ⟨a, b⟩ := p
    by_cases e : a = k
    · simp [aget, e] at h
    · simp only [aget, e, if_false] at h
      simp only [aerase, List.filter, e, decide_false, Bool.not_false] at ih ⊢
      rw [ih h]

theorem idxGetOrCreate_idem (v : List (Key × Bool)) (k : Key) :
    idxGetOrCreate (idxGetOrCreate v k).2 k = idxGetOrCreate v k := by
  have h := idxGetOrCreate_self v k
  generalize idxGetOrCreate v k = w at h ⊢
  simp [idxGetOrCreate, h]

/-- THE LOG STEP.  On a store whose log replays to its slabs, `put_durable` / `delete_durable` of a
    key of any class but the cache (any value) appends exactly the records whose replay yields the
    slabs the operation will have produced when it has run to its end -/
theorem logStep_replay {s : Store} {op : Op} (hw : s.walOn = true) (hr : SlabsEq (replay s.wal) s)
    (he : EmbOnly s.vocab) (hlk : op.takesLock = true) :
    ∃ s1, stepOp s op .start = (s1, .cont (afterLog op)) ∧ s1.walOn = true ∧
      SlabsEq (replay s1.wal) (finishOp s1 op (afterLog op)) := by
  obtain ⟨k, hc, hop⟩ : ∃ k, k.cls ≠ .cache ∧ ((∃ v, op = .putD k v) ∨ op = .delD k) := by
    cases op with
    | putD k v => exact ⟨k, of_decide_eq_true hlk, Or.inl ⟨v, rfl⟩⟩
    | delD k => exact ⟨k, of_decide_eq_true hlk, Or.inr rfl⟩
    | _ => cases hlk
  -- it suffices to name the appended records and to replay THEM over the live slabs
  suffices h : ∃ es s1, stepOp s op .start = (s1, .cont (afterLog op)) ∧ s1.walOn = true ∧
      s1.wal = s.wal ++ es ∧ SlabsEq (es.foldl applyEntry s) (finishOp s1 op (afterLog op)) by
    obtain ⟨es, s1, h1, h2, h3, h4⟩ := h
    exact ⟨s1, h1, h2, by rw [h3, replay_append]; exact (foldl_applyEntry_congr hr es).trans h4⟩
  rcases hop with ⟨v, rfl⟩ | rfl
  · by_cases hemb : k.cls = .emb
    · cases hv : v.vec with
      | none =>
        refine ⟨_, { s with wal := s.wal ++ [.metaSet k v] },
          by simp [stepOp, logPut, hw, hemb, hv, afterLog], hw, rfl, ?_⟩
        simp [SlabsEq, finishOp, seqOpAux, stepOp, routerPut, afterLog, applyEntry, hemb, hv]
      | good t | bad t =>
        refine ⟨_, { s with vocab := (idxGetOrCreate s.vocab k).2,
                            wal := s.wal ++ [.embSet (idxGetOrCreate s.vocab k).1 v.vec, .metaSet k v] },
          by simp [stepOp, logPut, hw, hemb, hv, afterLog], hw, rfl, ?_⟩
        simp [SlabsEq, finishOp, seqOpAux, stepOp, routerPut, afterLog, applyEntry, hemb, hv,
          idxGetOrCreate_idem]
    · refine ⟨_, { s with wal := s.wal ++ [.metaSet k v] },
        by simp [stepOp, hc, logPut, hw, hemb, afterLog], hw, rfl, ?_⟩
      rw [finishOp_done (show stepOp _ (.putD k v) (afterLog (.putD k v)) = _ from routerPut_md hemb hc _ v)]
      simp [SlabsEq, applyEntry, hemb]
  · cases hi : idxGet s.vocab k with
    | some id =>
      have hemb : k.cls = .emb := Decidable.byContradiction fun hne => by
        rw [he k hne] at hi
        cases hi
      refine ⟨_, { s with wal := s.wal ++ [.embDel id, .entRemove k, .metaDel k] },
        by simp [stepOp, hc, logDelete, hw, hi, afterLog], hw, rfl, ?_⟩
      simp [SlabsEq, finishOp, seqOpAux, stepOp, routerDelete, existsNow, afterLog, applyEntry, hemb, hi]
    | none =>
      refine ⟨_, { s with wal := s.wal ++ [.metaDel k] }, by simp [stepOp, hc, logDelete, hw, hi, afterLog], hw, rfl, ?_⟩
      cases hm : aget s.md k <;> by_cases hemb : k.cls = .emb <;>
        simp [SlabsEq, finishOp, seqOpAux, stepOp, afterLog, applyEntry, aerase_absent, idxRemove,
          existsNow_emb, existsNow_md, routerDelete_absent, routerDelete_emb, routerDelete_md, hemb, hc, hm, hi]

theorem inCS_of_start {th : Thread} (h : th.pc = .start) : th.inCS = false := by
  unfold Thread.inCS
  cases th.ops <;> simp [h]

theorem inCS_of_read {th : Thread} {op : Op} {rest : List Op} (hops : th.ops = op :: rest)
    (h : op.takesLock = false) : th.inCS = false := by
  simp [Thread.inCS, hops, h]

theorem inCS_of_writer {th : Thread} {op : Op} {rest : List Op} (hops : th.ops = op :: rest)
    (h : op.takesLock = true) (hpc : th.pc ≠ .start) : th.inCS = true := by
  simp [Thread.inCS, hops, h, hpc]

/-- invariant of runs of durable writers of keys of every class but the cache and of readers:
    nobody is between the log step and the end of a durable write and the log replays to the live
    slabs; or exactly one thread is (it holds the log mutex) and the log replays to the slabs that
    thread will have produced when its operation has run to its end -/
structure RInv (sys : Sys) : Prop where
  walOn : sys.store.walOn = true
  cache : sys.store.cache = []
  embOnly : EmbOnly sys.store.vocab
  ops : ∀ th ∈ sys.threads, ∀ op ∈ th.ops, op.durableOrRead = true
  cs : ((∀ th ∈ sys.threads, th.inCS = false) ∧ SlabsEq (replay sys.store.wal) sys.store) ∨
       ∃ (i : Nat) (th : Thread) (op : Op) (rest : List Op),
         sys.threads[i]? = some th ∧ th.ops = op :: rest ∧ op.takesLock = true ∧ th.pc ≠ .start ∧
         (∀ (j : Nat) (thj : Thread), sys.threads[j]? = some thj → j ≠ i → thj.inCS = false) ∧
         SlabsEq (replay sys.store.wal) (finishOp sys.store op th.pc)

theorem RInv.init (progs : List ThreadProgram)
    (h : ∀ p ∈ progs, ∀ op ∈ p, op.durableOrRead = true) : RInv (initSys true progs) := by
  refine ⟨rfl, rfl, ?_, ?_, Or.inl ⟨?_, SlabsEq.refl _⟩⟩
  · intro k _; rfl
  · intro th hth
    simp only [initSys, List.mem_map] at hth
    obtain ⟨p, hp, rfl⟩ := hth
    exact h p hp
  · intro th hth
    simp only [initSys, List.mem_map] at hth
    obtain ⟨p, _, rfl⟩ := hth
    exact inCS_of_start rfl

theorem RInv.step {sys : Sys} (h : RInv sys) (t : Nat) : RInv (step sys t) := by
  rcases step_eq sys t with e | ⟨e, hfree⟩ <;> rw [e]
  · exact h
  rcases stepOld_cases sys t with e | ⟨th, op, rest, hth, hops⟩
  · rw [e]; exact h
  have hmem : th ∈ sys.threads := List.mem_of_getElem? hth
  have hall := h.ops th hmem
  have hop := hall op (by simp [hops])
  obtain ⟨hwal, hcache, hemb, hlogs⟩ := stepOp_frame (pc := th.pc) hop h.embOnly
  have base : ∀ {sys' : Sys} {th' : Thread}, sys'.store = (stepOp sys.store op th.pc).1 →
      sys'.threads = sys.threads.set t th' → (∀ o ∈ th'.ops, o.durableOrRead = true) →
      sys'.store.walOn = true ∧ sys'.store.cache = [] ∧ EmbOnly sys'.store.vocab ∧
        ∀ x ∈ sys'.threads, ∀ o ∈ x.ops, o.durableOrRead = true := by
    intro sys' th' hs ht ho
    rw [hs, ht]
    refine ⟨hwal.trans h.walOn, hcache.trans h.cache, hemb, fun x hx => ?_⟩
    rcases mem_set_cases hx with h1 | rfl
    · exact h.ops x h1
    · exact ho
  have hrest : ∀ o ∈ rest, o.durableOrRead = true := fun o ho => hall o (by simp [hops, ho])
  -- the other threads keep out of the critical section if they were out of it
  have others : ∀ {th' : Thread} {i : Nat}, (∀ (j : Nat) (thj : Thread), sys.threads[j]? = some thj →
        j ≠ i → thj.inCS = false) → (i ≠ t → th'.inCS = false) →
      ∀ (j : Nat) (thj : Thread), (sys.threads.set t th')[j]? = some thj → j ≠ i → thj.inCS = false := by
    intro th' i hoth hnew j thj hj hji
    rcases getElem?_set_cases hth hj with ⟨rfl, rfl⟩ | ⟨_, hj'⟩
    · exact hnew (Ne.symm hji)
    · exact hoth j thj hj' hji
  cases hst : stepOp sys.store op th.pc with
  | mk s' out =>
  rw [hst] at base hlogs
  cases hlk : op.takesLock with
  | false =>
    -- a step of a read: the store stays, the thread is never inside a durable write
    have hs' : s' = sys.store := by rw [← stepOp_read (s := sys.store) th.pc hop hlk, hst]
    have key : ∀ {sys' : Sys} {th' : Thread}, sys'.store = s' → sys'.threads = sys.threads.set t th' →
        th'.inCS = false → (∀ o ∈ th'.ops, o.durableOrRead = true) → RInv sys' := by
      intro sys' th' hs ht hin hops'
      obtain ⟨b1, b2, b3, b4⟩ := base hs ht hops'
      refine ⟨b1, b2, b3, b4, ?_⟩
      rw [hs, hs', ht]
      rcases h.cs with ⟨hall0, heq⟩ | ⟨i, thi, opi, resti, hi, hopsi, hlki, hpci, hoth, heq⟩
      · refine Or.inl ⟨fun x hx => ?_, heq⟩
        rcases mem_set_cases hx with h1 | rfl
        · exact hall0 x h1
        · exact hin
      · have hne : i ≠ t := by
          rintro rfl
          rw [hth] at hi
          cases hi
          rw [hops] at hopsi
          cases hopsi
          rw [hlk] at hlki
          cases hlki
        exact Or.inr ⟨i, thi, opi, resti, (List.getElem?_set_ne (Ne.symm hne)).trans hi, hopsi, hlki, hpci,
          others hoth (fun _ => hin), heq⟩
    cases out with
    | cont pc' =>
      rw [stepOld_cont hth hops hst]
      exact key rfl rfl (inCS_of_read hops hlk) (by simpa [hops] using hall)
    | done r =>
      rw [stepOld_done hth hops hst]
      exact key rfl rfl (inCS_of_start rfl) hrest
  | true =>
    by_cases hpc : th.pc = .start
    · -- the log step: nobody holds the mutex
      have hnone := hfree th op rest hth hops h.walOn hlk hpc
      have heq : SlabsEq (replay sys.store.wal) sys.store := by
        rcases h.cs with ⟨_, heq⟩ | ⟨i, thi, opi, resti, hi, hopsi, hlki, hpci, _, _⟩
        · exact heq
        · have := hnone thi (List.mem_of_getElem? hi)
          rw [inCS_of_writer hopsi hlki hpci] at this
          cases this
      obtain ⟨s1, hst1, _, hfin⟩ := logStep_replay h.walOn heq h.embOnly hlk
      rw [hpc, hst1] at hst
      cases hst
      rw [stepOld_cont hth hops (hpc ▸ hst1)]
      obtain ⟨b1, b2, b3, b4⟩ := base (sys' := afterCont sys t th op s' (afterLog op)) rfl rfl
        (by simpa [hops] using hall)
      have hne : afterLog op ≠ .start := by cases op <;> first | cases hlk | simp [afterLog]
      exact ⟨b1, b2, b3, b4, Or.inr ⟨t, _, op, rest, getElem?_set_self' hth, hops, hlk, hne,
        others (fun j thj hj _ => hnone thj (List.mem_of_getElem? hj)) (fun hn => absurd rfl hn), hfin⟩⟩
    · -- inside the durable write: this thread holds the mutex
      have hin : th.inCS = true := inCS_of_writer hops hlk hpc
      rcases h.cs with ⟨hall0, _⟩ | ⟨i, thi, opi, resti, hi, hopsi, hlki, hpci, hoth, heq⟩
      · rw [hall0 th hmem] at hin; cases hin
      · have hit : i = t := Decidable.byContradiction fun hne => by
          rw [hoth t th hth (fun e => hne e.symm)] at hin
          cases hin
        subst hit
        rw [hth] at hi
        cases hi
        rw [hops] at hopsi
        cases hopsi
        have hwal' : s'.wal = sys.store.wal := hlogs hpc
        cases out with
        | cont pc' =>
          obtain ⟨hfin, hne⟩ := finishOp_cont hst
          rw [stepOld_cont hth hops hst]
          obtain ⟨b1, b2, b3, b4⟩ := base (sys' := afterCont sys i th op s' pc') rfl rfl
            (by simpa [hops] using hall)
          refine ⟨b1, b2, b3, b4, Or.inr ⟨i, _, op, rest, getElem?_set_self' hth, hops, hlk, hne,
            others hoth (fun hn => absurd rfl hn), ?_⟩⟩
          show SlabsEq (replay s'.wal) (finishOp s' op pc')
          rw [hwal', ← hfin]
          exact heq
        | done r =>
          rw [stepOld_done hth hops hst]
          obtain ⟨b1, b2, b3, b4⟩ := base (sys' := afterDone sys i th op rest s' r) rfl rfl hrest
          refine ⟨b1, b2, b3, b4, Or.inl ⟨fun x hx => ?_, ?_⟩⟩
          · obtain ⟨j, hj⟩ := List.getElem?_of_mem hx
            rcases getElem?_set_cases hth hj with ⟨_, rfl⟩ | ⟨hne, hj'⟩
            · exact inCS_of_start rfl
            · exact hoth j x hj' hne
          · show SlabsEq (replay s'.wal) s'
            rw [hwal', ← finishOp_done hst]
            exact heq

theorem RInv.run {sys : Sys} (h : RInv sys) (sched : List Nat) : RInv (runFrom sys sched) :=
  runFrom_induction (fun _ t h => h.step t) h sched

theorem RInv.quiescent_eq {sys : Sys} (h : RInv sys) (hq : quiescent sys = true) :
    SlabsEq (replay sys.store.wal) sys.store := by
  rcases h.cs with ⟨_, heq⟩ | ⟨i, thi, opi, resti, hi, hopsi, _⟩
  · exact heq
  · simp only [quiescent, List.all_eq_true, List.isEmpty_iff] at hq
    rw [hq thi (List.mem_of_getElem? hi)] at hopsi
    cases hopsi

theorem replay_frame (w : List Entry) : (replay w).cache = [] ∧ (replay w).walOn = true := by
  have : ∀ (es : List Entry) (s : Store),
      (es.foldl applyEntry s).cache = s.cache ∧ (es.foldl applyEntry s).walOn = s.walOn := by
    intro es
    induction es with
    | nil => exact fun s => ⟨rfl, rfl⟩
    | cons e es ih =>
      intro s
      rw [List.foldl_cons, (ih _).1, (ih _).2]
      cases e <;> dsimp only [applyEntry] <;> (try split) <;> exact ⟨rfl, rfl⟩
  exact this w _

theorem Store.eq_of_fields {a b : Store} (h : SlabsEq a b) (hc : a.cache = b.cache)
    (hw : a.wal = b.wal) (ho : a.walOn = b.walOn) : a = b := by
  obtain ⟨h1, h2, h3⟩ := h
  cases a; cases b
  simp only [Store.mk.injEq]
  exact ⟨h1, hc, h2, h3, hw, ho⟩

/-- at quiescence the recovered store IS the live store, all six fields -/
theorem RInv.recover_eq {sys : Sys} (h : RInv sys) (hq : quiescent sys = true) :
    recover sys.store.wal = sys.store :=
  Store.eq_of_fields (h.quiescent_eq hq) ((replay_frame _).1.trans h.cache.symm) rfl
    ((replay_frame _).2.trans h.walOn.symm)

end Neumann.KV
