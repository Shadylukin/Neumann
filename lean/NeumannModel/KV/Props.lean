import NeumannModel.KV.DurLemmas
/-
  C11 — concurrent store operations behave as if executed one at a time.

  `runSched walOn progs sched` (Model.lean) interprets the interleaving `sched` (the thread that
  takes each successive ATOMIC STEP) of the thread programs `progs`; its `hist` lists the completed
  operations with result and the step numbers of their first (`inv`) and last (`ret`) step.
  `Linearizable` = some permutation of the history is a legal execution of the key→value
  specification and never orders `a` before `b` when `b` returned before `a` was invoked.
-/
namespace Neumann.KV.Props
open Neumann.KV

/-! ### single-step operations: every key class except `emb:`, without the durable log -/

/-- FULL STRENGTH, every number of threads, every program, every schedule, keys any byte strings
    (their class is what `classify_key` computes): when every operation is a single atomic step
    (put/get/delete/exists on plain, graph, table and cache keys, scans with ANY prefix that is a
    string - `Op.scanStr`, well-formedness of the input -, durable forms of cache keys), then the
    history IN STEP ORDER is a legal sequential execution
    with every result exactly the specification's (`SeqStrict`, hence `SeqValid`); the step order
    respects real time (each operation is invoked and returns at its one step; the history is
    strictly increasing in it); the final store is the specification applied in step order
    (`Abs`); so the history is linearizable. -/
theorem single_step_ops_linearizable (walOn : Bool) (progs : List ThreadProgram) (sched : List Nat)
    (h : ∀ p ∈ progs, ∀ op ∈ p, op.singleStep ∧ op.scanStr = true) :
    let r := runSched walOn progs sched
    SeqStrict [] r.hist ∧ SeqValid [] r.hist ∧
    (∀ x ∈ r.hist, x.inv = x.ret) ∧ r.hist.Pairwise (fun a b => a.ret < b.inv) ∧
    RespectsRealTime r.hist ∧
    Abs r.store (specRun [] (r.hist.map (·.op))) ∧
    Linearizable r.hist := by
  have inv : Inv (runSched walOn progs sched) := (Inv.init walOn progs h).run sched
  obtain ⟨order, hperm, hvalid, hrt⟩ := inv.linearizable
  refine ⟨inv.strict, inv.strict.valid, fun x hx => (inv.times x hx).1, inv.sorted, ?_, inv.abs,
    inv.linearizable⟩
  refine List.Pairwise.imp_of_mem ?_ inv.sorted
  intro a b ha hb hab hba
  have := (inv.times a ha).1
  have := (inv.times b hb).1
  omega

/-- non-vacuity: four threads on contended plain / graph / table / cache keys, an interleaved
    schedule, 8 completed operations; the reads see the other threads' writes -/
example :
    (∀ p ∈ ([[.put (mkKey .plain 1) ⟨1, .none⟩, .get (mkKey .cache 1)], [.get (mkKey .plain 1), .delete (mkKey .plain 1)],
        [.put (mkKey .cache 1) ⟨2, .good 2⟩, .scan []], [.exists_ (mkKey .plain 1), .put (mkKey .graph 2) ⟨3, .none⟩]]
        : List ThreadProgram), ∀ op ∈ p, op.singleStep ∧ op.scanStr = true) ∧
    (runSched false [[.put (mkKey .plain 1) ⟨1, .none⟩, .get (mkKey .cache 1)], [.get (mkKey .plain 1), .delete (mkKey .plain 1)],
        [.put (mkKey .cache 1) ⟨2, .good 2⟩, .scan []], [.exists_ (mkKey .plain 1), .put (mkKey .graph 2) ⟨3, .none⟩]]
        [0, 1, 2, 3, 2, 0, 3, 1]).hist.map (·.res)
      = [.ok, .found ⟨1, .none⟩, .ok, .bool true, .keys [(mkKey .plain 1), (mkKey .cache 1)],
         .found ⟨2, .good 2⟩, .ok, .ok] := by decide +kernel

/-- a scan with ANY prefix (the class prefixes `user:` `node:` `edge:` `table:` `_cache:`, prefixes
    that cut across classes such as `e` or `_`, prefixes without an end key such as `user:п`, "",
    while no `emb:` key is in use) is one atomic step: in any run of single-step operations it returns exactly the keys that
    start with the prefix (byte-wise) and are present in the specification state at its step.
    (`MetadataSlab::scan` with a non-empty prefix reads one shard under one read lock; the
    entity-index and cache-ring reads that follow in `SlabRouter::scan` have no yield hook between
    them — at the granularity of the hooks the whole scan is one step.) -/
theorem scan_atomic_and_exact (walOn : Bool) (progs : List ThreadProgram)
    (sched : List Nat) (h : ∀ p ∈ progs, ∀ op ∈ p, op.singleStep ∧ op.scanStr = true)
    (pre : List OpRec) (x : OpRec) (post : List OpRec) (c : List Nat) (ks : List Key)
    (hx : (runSched walOn progs sched).hist = pre ++ x :: post)
    (hop : x.op = .scan c) (hres : x.res = .keys ks) :
    x.inv = x.ret ∧
    ∀ k, k ∈ ks ↔ (isPfx c k.bytes = true ∧ (aget (specRun [] (pre.map (·.op))) k).isSome = true) := by
  have inv : Inv (runSched walOn progs sched) := (Inv.init walOn progs h).run sched
  have hmem : x ∈ (runSched walOn progs sched).hist := by rw [hx]; simp
  refine ⟨(inv.times x hmem).1, ?_⟩
  have h2 := seqStrict_mid [] pre (hx ▸ inv.strict)
  rw [hop, hres] at h2
  simp only [specRes, specStep, resEquiv] at h2
  intro k
  constructor
  · intro hk
    have := h2.1 hk
    simpa [List.mem_filter, mem_keys_iff, and_comm, pmatch] using this
  · intro hk
    apply h2.2
    simpa [List.mem_filter, mem_keys_iff, and_comm, pmatch] using hk

/-- non-vacuity: a scan with the prefix `e` (it cuts across the plain key `eve`, the graph key
    `edge:1` and — were one in use — `emb:` keys) racing a put and a delete; `user:1` (same shard
    as `e`: 0x75 and 0x65 are both 5 mod 16) is not listed -/
example :
    (∀ p ∈ ([[.put ⟨[101, 118, 101]⟩ ⟨1, .none⟩, .delete ⟨[101, 118, 101]⟩],
        [.put ⟨pfxEdge ++ [49]⟩ ⟨2, .none⟩, .put (mkKey .plain 1) ⟨3, .none⟩],
        [.scan [101], .scan [101]]] : List ThreadProgram), ∀ op ∈ p, op.singleStep ∧ op.scanStr = true) ∧
    (runSched false [[.put ⟨[101, 118, 101]⟩ ⟨1, .none⟩, .delete ⟨[101, 118, 101]⟩],
        [.put ⟨pfxEdge ++ [49]⟩ ⟨2, .none⟩, .put (mkKey .plain 1) ⟨3, .none⟩],
        [.scan [101], .scan [101]]] [0, 1, 1, 2, 0, 2]).hist.map (·.res)
      = [.ok, .ok, .ok, .keys [⟨pfxEdge ++ [49]⟩, ⟨[101, 118, 101]⟩], .ok, .keys [⟨pfxEdge ++ [49]⟩]] := by
  decide +kernel

/-- in ANY legal sequential execution (hence in any linearization of any history) a `get` that
    finds a value finds one that some put of that key wrote: "a read never returns a value that
    was never written, or a mixture of two writes" is a consequence of linearizability -/
theorem linearizable_read_returns_written_value (recs : List OpRec) (hl : Linearizable recs)
    (r : OpRec) (hr : r ∈ recs) (k : Key) (v : Val) (hop : r.op = .get k) (hres : r.res = .found v) :
    ∃ w ∈ recs, w.op = .put k v ∨ w.op = .putD k v := by
  obtain ⟨order, hperm, hvalid, _⟩ := hl
  rcases seqValid_get_written hvalid (hperm.mem_iff.mpr hr) hop hres with h | ⟨w, hw, hw'⟩
  · simp [aget] at h
  · exact ⟨w, hperm.mem_iff.mp hw, hw'⟩

/-! ### `emb:` keys: three atomic steps per operation -/

/-- FULL STATEMENT (false of the code as it is, see `emb_mixture_witness`): every history of
    every interleaving of operations of every key class is linearizable. -/
def EmbLinearizable : Prop :=
  ∀ (progs : List ThreadProgram) (sched : List Nat),
    (∀ p ∈ progs, ∀ op ∈ p, op.nonDurableStr = true) →
    Linearizable (runSched false progs sched).hist

/-- the interleaving `embMixtureSched` of two `put emb:1` and one `get emb:1`
    (A index, B index, A vector, C index.get, C embeddings.get, B vector, A metadata, B metadata,
    C metadata.get): the get returns the metadata of put B with the vector of put A. -/
theorem emb_mixture_witness :
    (runSched false embMixtureProgs embMixtureSched).hist =
      [⟨0, 0, .put kE1 ⟨1, .good 1⟩, .ok, 0, 6⟩, ⟨1, 0, .put kE1 ⟨2, .good 2⟩, .ok, 1, 7⟩,
       ⟨2, 0, .get kE1, .found ⟨2, .good 1⟩, 3, 8⟩] ∧
    ¬ Linearizable (runSched false embMixtureProgs embMixtureSched).hist ∧
    ¬ EmbLinearizable := by
  have hh : (runSched false embMixtureProgs embMixtureSched).hist =
      [⟨0, 0, .put kE1 ⟨1, .good 1⟩, .ok, 0, 6⟩, ⟨1, 0, .put kE1 ⟨2, .good 2⟩, .ok, 1, 7⟩,
       ⟨2, 0, .get kE1, .found ⟨2, .good 1⟩, 3, 8⟩] := by decide +kernel
  have hn : ¬ Linearizable (runSched false embMixtureProgs embMixtureSched).hist := by
    intro hl
    rw [hh] at hl
    obtain ⟨w, hw, hw'⟩ := linearizable_read_returns_written_value _ hl
      ⟨2, 0, .get kE1, .found ⟨2, .good 1⟩, 3, 8⟩ (by simp) kE1 ⟨2, .good 1⟩ rfl rfl
    revert w
    decide
  exact ⟨hh, hn, fun h => hn (h embMixtureProgs embMixtureSched (by decide +kernel))⟩

/-- PARTIAL.  What is missing: histories in which two operations on ONE `emb:` key overlap (they
    are not linearizable, see `emb_mixture_witness` and the known findings), runs with the durable
    log (`put_durable` / `delete_durable`), and the operations still in progress when the schedule
    ends (`Linearizable` speaks of completed operations, so the run must have finished: a scan
    may have seen the key of a `put` that has taken only its index step).
    What is proved, for EVERY number of threads, ALL programs of put / get / delete / exists / scan
    (scan prefixes any strings, `Op.nonDurableStr`) on keys of every class - any byte
    strings - and EVERY schedule in which no operation on an `emb:` key is invoked
    while another operation on the same key is in progress (`NoEmbOverlap`, computed along the
    schedule; operations on different keys, scans and everything on the other classes overlap
    freely): once every thread has finished the history is linearizable — with every result
    exactly the specification's (`SeqStrict`), and the quiescent store shows every key (get,
    exists, scan membership) exactly as the specification state after that order does.
    Linearization points: a put of an `emb:` key at its first (index) step, everything else at its
    last step.  The invariant (`SInv`) is the index / slab / metadata coherence: a key no operation
    is inside of is absent from index and metadata, or present in both with the slab holding the
    vector of the metadata value; a key with an operation inside is in the partial state that
    operation's yield point implies; entity ids are never shared. -/
theorem emb_linearizable_partial (progs : List ThreadProgram) (sched : List Nat)
    (h : ∀ p ∈ progs, ∀ op ∈ p, op.nonDurableStr = true)
    (hx : NoEmbOverlap false progs sched = true)
    (hq : quiescent (runSched false progs sched) = true) :
    Linearizable (runSched false progs sched).hist ∧
    ∃ order : List OpRec, order.Perm (runSched false progs sched).hist ∧ SeqStrict [] order ∧
      RespectsRealTime order ∧
      ∀ k, view (runSched false progs sched).store k =
        (specRes (specRun [] (order.map (·.op))) (.get k),
         (aget (specRun [] (order.map (·.op))) k).isSome, (aget (specRun [] (order.map (·.op))) k).isSome) := by
  have inv : EInv (runSched false progs sched) := (EInv.init progs h).run sched hx
  obtain ⟨order, hperm, hstrict, hrt, hs⟩ := inv.linearizable hq
  exact ⟨⟨order, hperm, hstrict.valid, hrt⟩, order, hperm, hstrict, hrt, fun k => hs.view_quiescent hq k⟩

/-- non-vacuity: three threads; the put of `emb:1` (three steps) overlaps a scan, a get of `emb:2`,
    the put of `emb:2` and operations on `user:1`, never another operation on `emb:1`; the scan at
    step 1 already lists `emb:1` (index step done, no metadata yet) -/
example :
    (∀ p ∈ ([[.put (mkKey .emb 1) ⟨1, .good 1⟩, .get (mkKey .emb 2), .delete (mkKey .emb 1)],
        [.scan pfxEmb, .put (mkKey .emb 2) ⟨2, .bad 2⟩, .get (mkKey .emb 1)],
        [.put (mkKey .plain 1) ⟨3, .none⟩, .exists_ (mkKey .emb 2), .get (mkKey .plain 1)]] : List ThreadProgram),
        ∀ op ∈ p, op.nonDurableStr = true) ∧
    NoEmbOverlap false [[.put (mkKey .emb 1) ⟨1, .good 1⟩, .get (mkKey .emb 2), .delete (mkKey .emb 1)],
        [.scan pfxEmb, .put (mkKey .emb 2) ⟨2, .bad 2⟩, .get (mkKey .emb 1)],
        [.put (mkKey .plain 1) ⟨3, .none⟩, .exists_ (mkKey .emb 2), .get (mkKey .plain 1)]]
        [0, 1, 2, 1, 0, 1, 0, 1, 2, 0, 1, 1, 1, 0, 0, 0, 0, 2] = true ∧
    quiescent (runSched false [[.put (mkKey .emb 1) ⟨1, .good 1⟩, .get (mkKey .emb 2), .delete (mkKey .emb 1)],
        [.scan pfxEmb, .put (mkKey .emb 2) ⟨2, .bad 2⟩, .get (mkKey .emb 1)],
        [.put (mkKey .plain 1) ⟨3, .none⟩, .exists_ (mkKey .emb 2), .get (mkKey .plain 1)]]
        [0, 1, 2, 1, 0, 1, 0, 1, 2, 0, 1, 1, 1, 0, 0, 0, 0, 2]) = true ∧
    (runSched false [[.put (mkKey .emb 1) ⟨1, .good 1⟩, .get (mkKey .emb 2), .delete (mkKey .emb 1)],
        [.scan pfxEmb, .put (mkKey .emb 2) ⟨2, .bad 2⟩, .get (mkKey .emb 1)],
        [.put (mkKey .plain 1) ⟨3, .none⟩, .exists_ (mkKey .emb 2), .get (mkKey .plain 1)]]
        [0, 1, 2, 1, 0, 1, 0, 1, 2, 0, 1, 1, 1, 0, 0, 0, 0, 2]).hist.map (fun r => (r.t, r.i, r.res, r.inv, r.ret))
      = [(1, 0, .keys [(mkKey .emb 1)], 1, 1), (2, 0, .ok, 2, 2), (0, 0, .ok, 0, 6), (1, 1, .ok, 3, 7),
         (2, 1, .bool true, 8, 8), (1, 2, .found ⟨1, .good 1⟩, 10, 12), (0, 1, .found ⟨2, .bad 2⟩, 9, 13),
         (0, 2, .ok, 14, 16), (2, 2, .found ⟨3, .none⟩, 17, 17)] := by decide +kernel

/-- `NoEmbOverlap` (stated along the schedule) means what its name says on the history: in such a
    run any two completed operations on one `emb:` key are disjoint in time — one returned (its
    last step) before the other was invoked (its first step).  (The schedule form also covers the
    operations still in progress when the schedule ends, which the history does not show.) -/
theorem no_emb_overlap_disjoint_in_history (progs : List ThreadProgram) (sched : List Nat)
    (h : ∀ p ∈ progs, ∀ op ∈ p, op.nonDurableStr = true)
    (hx : NoEmbOverlap false progs sched = true) :
    ∀ a ∈ (runSched false progs sched).hist, ∀ b ∈ (runSched false progs sched).hist, a ≠ b →
      ∀ k, a.op.key? = some k → b.op.key? = some k → k.cls = .emb → a.ret < b.inv ∨ b.ret < a.inv := by
  have ho : OInv (runSched false progs sched) :=
    (EInv.init progs h).run_overlap ⟨by intro a ha; simp [initSys] at ha, by simp [initSys]⟩ sched hx
  intro a ha b hb hne k hak hbk he
  rcases pairwise_or ho.disjoint ha hb hne with h1 | h1
  · exact Or.inl (h1 k hak hbk he)
  · exact Or.inr (h1 k hbk hak he)

/-- the hypothesis is what separates the two: the schedule of `emb_mixture_witness` violates it -/
example : NoEmbOverlap false embMixtureProgs embMixtureSched = false := by decide +kernel

/-! ### durable writes: logged and applied under the log mutex -/

/-- FULL STRENGTH, with or without the log, every number of threads, every program, every schedule:
    operations of every kind - put / get / delete / exists / scan AND `put_durable` /
    `delete_durable` - on keys of every class but `emb:` (any byte strings, any values), scan
    prefixes any strings.  A durable write of a plain / graph / table key is two atomic steps
    (append to the log, apply in memory; the mutex is held in between) and other threads' reads
    and non-durable writes of the same key run between them.  The history, IN THE ORDER OF THE
    LAST STEPS, is a legal sequential execution with every result exactly the specification's; that
    order respects real time; the live store is at every moment the specification applied to the
    completed operations (a write that is logged and not yet applied is invisible to every reader);
    so the history is linearizable - the linearization point of a durable write is its in-memory
    apply. -/
theorem durable_ops_linearizable (walOn : Bool) (progs : List ThreadProgram) (sched : List Nat)
    (h : ∀ p ∈ progs, ∀ op ∈ p, op.noEmb = true ∧ op.scanStr = true) :
    let r := runSched walOn progs sched
    SeqStrict [] r.hist ∧ SeqValid [] r.hist ∧
    (∀ x ∈ r.hist, x.inv ≤ x.ret) ∧ r.hist.Pairwise (fun a b => a.ret < b.ret) ∧
    RespectsRealTime r.hist ∧
    Abs r.store (specRun [] (r.hist.map (·.op))) ∧
    Linearizable r.hist := by
  have inv : DInv (runSched walOn progs sched) := (DInv.init walOn progs h).run sched
  exact ⟨inv.strict, inv.strict.valid, fun x hx => (inv.times x hx).1, inv.sorted, inv.realTime,
    inv.abs, inv.linearizable⟩

/-- non-vacuity: with the log on, thread 0 puts `user:1` durably; between its log step and its
    apply thread 1 reads the key (absent: the logged write is not visible yet) and thread 2 puts it
    non-durably; thread 0 applies (overwrites), thread 1 reads again; thread 1's `put_durable` is
    granted while thread 0 holds the mutex and does not move -/
example :
    (∀ p ∈ ([[.putD kP1 ⟨1, .none⟩], [.get kP1, .get kP1, .putD kP1 ⟨3, .none⟩], [.put kP1 ⟨2, .none⟩, .scan pfxUser]]
        : List ThreadProgram), ∀ op ∈ p, op.noEmb = true ∧ op.scanStr = true) ∧
    (runSched true [[.putD kP1 ⟨1, .none⟩], [.get kP1, .get kP1, .putD kP1 ⟨3, .none⟩], [.put kP1 ⟨2, .none⟩, .scan pfxUser]]
        [0, 1, 2, 2, 1, 1, 0, 1, 1]).hist.map (fun r => (r.t, r.i, r.res, r.inv, r.ret))
      = [(1, 0, .notFound, 1, 1), (2, 0, .ok, 2, 2), (2, 1, .keys [kP1], 3, 3), (1, 1, .found ⟨2, .none⟩, 4, 4),
         (0, 0, .ok, 0, 5), (1, 2, .ok, 6, 7)] := by decide +kernel

/-- THE STATEMENT, over a step machine `run`: for durable writers of keys of every class but the
    cache (`put_durable` of any value, `delete_durable`) and readers (`Op.durableOrRead`), once every
    thread has finished, the store recovered from the log shows every key (get, exists,
    membership in scan) exactly as the in-memory store does. -/
def DurableOrderEqMemoryOrder (run : Bool → List ThreadProgram → List Nat → Sys) : Prop :=
  ∀ (progs : List ThreadProgram) (sched : List Nat),
    (∀ p ∈ progs, ∀ op ∈ p, op.durableOrRead = true) →
    quiescent (run true progs sched) = true →
    ∀ k, view (recover (run true progs sched).store.wal) k = view (run true progs sched).store k

/-- FULL STRENGTH for the current code (repo dfea2ecb: the log mutex is held from the log step to
    the end of the in-memory apply; `runSched` = the interleaving in which a thread about to log
    while another holds the mutex does not move).  For every number of durable writers -
    `put_durable` of ANY value (with or without a vector, of the right or a wrong dimension) and
    `delete_durable` - of ANY, also the same, keys of the plain / graph / table / `emb:` classes
    (any byte strings; an `emb:` write is four atomic steps: log, entity index, embedding slab,
    metadata), with any number of concurrent readers (get / exists / scan of any key and prefix,
    which interleave with the sub-steps), and every interleaving: once every thread has finished,
    the store recovered from the log shows every key exactly as memory does.  In every reachable
    state at most one thread is between its log step and the end of its write, and the log replays
    to the slabs that thread will have produced when it has run to its end (`RInv`; the records of a
    write are exactly those whose replay is its in-memory effect, `logStep_replay`). -/
theorem durable_order_eq_memory_order : DurableOrderEqMemoryOrder runSched := by
  intro progs sched h hq k
  have inv : RInv (runSched true progs sched) := (RInv.init progs h).run sched
  rw [inv.recover_eq hq]

/-- non-vacuity: the two contended writers of the witness; under the mutex the schedule
    A-log, B-log(blocked), B(blocked), A-apply, B-log, B-apply finishes with log order = apply order -/
example :
    (∀ p ∈ durableOrderProgs, ∀ op ∈ p, op.durableOrRead = true) ∧
    quiescent (runSched true durableOrderProgs [0, 1, 1, 0, 1, 1]) = true ∧
    (runSched true durableOrderProgs [0, 1, 1, 0, 1, 1]).store.wal
      = [.metaSet kP1 ⟨1, .none⟩, .metaSet kP1 ⟨2, .none⟩] ∧
    (runSched true durableOrderProgs [0, 1, 1, 0, 1, 1]).store.md = [(kP1, ⟨2, .none⟩)] := by decide +kernel

/-- non-vacuity with a `delete_durable`: A puts and deletes `user:1`, B puts it; B is granted while A
    is between the log step and the apply of its delete and does not move -/
example :
    (∀ p ∈ ([[.putD kP1 ⟨1, .none⟩, .delD kP1], [.putD kP1 ⟨2, .none⟩]] : List ThreadProgram),
      ∀ op ∈ p, op.durableOrRead = true) ∧
    quiescent (runSched true [[.putD kP1 ⟨1, .none⟩, .delD kP1], [.putD kP1 ⟨2, .none⟩]]
      [0, 0, 0, 1, 1, 0, 1, 1]) = true ∧
    (runSched true [[.putD kP1 ⟨1, .none⟩, .delD kP1], [.putD kP1 ⟨2, .none⟩]]
      [0, 0, 0, 1, 1, 0, 1, 1]).store.wal = [.metaSet kP1 ⟨1, .none⟩, .metaDel kP1, .metaSet kP1 ⟨2, .none⟩] ∧
    (runSched true [[.putD kP1 ⟨1, .none⟩, .delD kP1], [.putD kP1 ⟨2, .none⟩]]
      [0, 0, 0, 1, 1, 0, 1, 1]).store.md = [(kP1, ⟨2, .none⟩)] := by decide +kernel

/-- non-vacuity with `emb:` keys, vectors and readers: two threads write `emb:1` (a 384-vector, a
    vector of another dimension, a delete, a value without vector), a third `user:1` with a vector,
    a `get` of `emb:1` and a scan interleave with the sub-steps; the second and third pick (threads 1
    and 2 at the entry of `put_durable` while thread 0 holds the mutex) are no-ops -/
example :
    (∀ p ∈ ([[.putD kE1 ⟨1, .good 1⟩, .delD kE1, .putD kE1 ⟨3, .none⟩], [.putD kE1 ⟨2, .bad 2⟩, .get kE1],
        [.putD kP1 ⟨4, .good 4⟩, .scan []]] : List ThreadProgram), ∀ op ∈ p, op.durableOrRead = true) ∧
    quiescent (runSched true [[.putD kE1 ⟨1, .good 1⟩, .delD kE1, .putD kE1 ⟨3, .none⟩], [.putD kE1 ⟨2, .bad 2⟩, .get kE1],
        [.putD kP1 ⟨4, .good 4⟩, .scan []]] [0, 1, 2, 0, 0, 0, 1, 1, 1, 1, 2, 1, 2, 0, 1, 2, 0, 0, 0, 0, 0, 0, 0]) = true ∧
    (runSched true [[.putD kE1 ⟨1, .good 1⟩, .delD kE1, .putD kE1 ⟨3, .none⟩], [.putD kE1 ⟨2, .bad 2⟩, .get kE1],
        [.putD kP1 ⟨4, .good 4⟩, .scan []]] [0, 1, 2, 0, 0, 0, 1, 1, 1, 1, 2, 1, 2, 0, 1, 2, 0, 0, 0, 0, 0, 0, 0]).store.wal
      = [.embSet 0 (.good 1), .metaSet kE1 ⟨1, .good 1⟩, .embSet 0 (.bad 2), .metaSet kE1 ⟨2, .bad 2⟩,
         .metaSet kP1 ⟨4, .good 4⟩, .embDel 0, .entRemove kE1, .metaDel kE1, .metaSet kE1 ⟨3, .none⟩] ∧
    (runSched true [[.putD kE1 ⟨1, .good 1⟩, .delD kE1, .putD kE1 ⟨3, .none⟩], [.putD kE1 ⟨2, .bad 2⟩, .get kE1],
        [.putD kP1 ⟨4, .good 4⟩, .scan []]] [0, 1, 2, 0, 0, 0, 1, 1, 1, 1, 2, 1, 2, 0, 1, 2, 0, 0, 0, 0, 0, 0, 0]).hist.map (fun r => (r.t, r.i, r.res))
      = [(0, 0, .ok), (1, 0, .ok), (2, 0, .ok), (1, 1, .found ⟨2, .bad 2⟩), (2, 1, .keys [kP1, kE1, kE1]),
         (0, 1, .ok), (0, 2, .ok)] := by decide +kernel

/-- THE CODE BEFORE dfea2ecb (`runSchedOld`: the mutex covered the log step only) did not have the
    property: A logs, B logs, B applies, A applies — the log ends with B's record, memory with A's
    value.  Under the mutex the same schedule is not executable: thread B does not move until A
    has applied, and the run is not finished after these four picks. -/
theorem durable_order_witness :
    (runSchedOld true durableOrderProgs durableOrderSched).store.wal
      = [.metaSet kP1 ⟨1, .none⟩, .metaSet kP1 ⟨2, .none⟩] ∧
    view (runSchedOld true durableOrderProgs durableOrderSched).store kP1 = (.found ⟨1, .none⟩, true, true) ∧
    view (recover (runSchedOld true durableOrderProgs durableOrderSched).store.wal) kP1
      = (.found ⟨2, .none⟩, true, true) ∧
    ¬ DurableOrderEqMemoryOrder runSchedOld ∧
    (runSched true durableOrderProgs durableOrderSched).trace
      = [(0, .putD kP1 ⟨1, .none⟩, .start), (0, .putD kP1 ⟨1, .none⟩, .putDAfterLog)] ∧
    quiescent (runSched true durableOrderProgs durableOrderSched) = false := by
  refine ⟨by decide +kernel, by decide +kernel, by decide +kernel, ?_, by decide +kernel, by decide +kernel⟩
  intro h
  have := h durableOrderProgs durableOrderSched (by decide +kernel) (by decide +kernel) kP1
  revert this
  decide +kernel

/-! ### the recovered store is the live store (the durable clause in observable terms) -/

/-- FULL STRENGTH, `durable_order_eq_memory_order` stated on what a client can observe and on the
    slabs themselves.  For every number of threads, ALL programs of `put_durable` (any value) and
    `delete_durable` on plain / graph / table / `emb:` keys - of a present key, of a key that was never
    put, of a key another thread is putting or deleting at that moment - and of readers, and EVERY
    interleaving: once all calls have returned, a store recovered from the log file alone
    (`SlabRouter::recover`, replay over an empty store) holds the same metadata slab, the same entity
    index (every key under the same id, the same tombstones) and the same embedding slab as the live
    store, and answers `get`, `exists` and `scan` (EVERY prefix, bounded or not: the same list) about
    EVERY key exactly as the live store does.  In particular every write that took effect in memory
    has its record in the log, in the order in which the writes took effect: `delete_durable`
    appends its `MetadataDelete` under the mutex whether or not the key is there (`logDelete`);
    deciding that from an observation made before the mutex loses the property
    (`delete_skip_if_absent_witness`). -/
theorem recovered_eq_live (progs : List ThreadProgram) (sched : List Nat)
    (h : ∀ p ∈ progs, ∀ op ∈ p, op.durableOrRead = true)
    (hq : quiescent (runSched true progs sched) = true) :
    let live := (runSched true progs sched).store
    let recovered := recover live.wal
    recovered.md = live.md ∧ recovered.vocab = live.vocab ∧ recovered.slab = live.slab ∧
    recovered.cache = live.cache ∧
    (∀ p, scanNow recovered p = scanNow live p) ∧
    ∀ k, (seqOp recovered (.get k)).2 = (seqOp live (.get k)).2 ∧
      (seqOp recovered (.exists_ k)).2 = (seqOp live (.exists_ k)).2 := by
  intro live recovered
  have inv : RInv (runSched true progs sched) := (RInv.init progs h).run sched
  have e : recovered = live := inv.recover_eq hq
  rw [e]
  exact ⟨rfl, rfl, rfl, rfl, fun _ => rfl, fun _ => ⟨rfl, rfl⟩⟩

/-- FULL STRENGTH, a crash at ANY moment, not only after quiescence: in every state reachable by
    durable writers of plain / graph / table / `emb:` keys (any values) and readers - any number of
    threads, any programs, any schedule, stopped anywhere - the slabs rebuilt from the log are the
    live slabs, or exactly one thread is inside a durable write (it holds the log mutex) and they
    are the live slabs with THAT write run to its end (`finishOp`: its remaining atomic steps with
    nobody in between).  So recovery never yields a state no reader could have seen or been about
    to see: a logged write is applied whole, never half (index without metadata, metadata of one
    put with the vector of another). -/
theorem crash_at_any_step_recovers_live_or_inflight_write_completed (progs : List ThreadProgram)
    (sched : List Nat) (h : ∀ p ∈ progs, ∀ op ∈ p, op.durableOrRead = true) :
    let sys := runSched true progs sched
    SlabsEq (recover sys.store.wal) sys.store ∨
    ∃ (i : Nat) (th : Thread) (op : Op) (rest : List Op),
      sys.threads[i]? = some th ∧ th.ops = op :: rest ∧ op.takesLock = true ∧ th.pc ≠ .start ∧
      (∀ (j : Nat) (thj : Thread), sys.threads[j]? = some thj → j ≠ i → thj.inCS = false) ∧
      SlabsEq (recover sys.store.wal) (finishOp sys.store op th.pc) := by
  intro sys
  have inv : RInv sys := (RInv.init progs h).run sched
  rcases inv.cs with ⟨_, heq⟩ | hcs
  · exact Or.inl heq
  · exact Or.inr hcs

/-- non-vacuity: the run of the `emb:` example stopped after 11 picks - thread 1 is inside its
    `put_durable emb:1` (logged, index and slab written, metadata not yet): the live store still shows
    the old metadata, the recovered store the new value, which is the live store once thread 1 has
    taken its last step -/
example :
    let sys := runSched true [[.putD kE1 ⟨1, .good 1⟩, .delD kE1, .putD kE1 ⟨3, .none⟩], [.putD kE1 ⟨2, .bad 2⟩, .get kE1],
        [.putD kP1 ⟨4, .good 4⟩, .scan []]] [0, 1, 2, 0, 0, 0, 1, 1, 1]
    (sys.threads.map (·.pc)) = [.start, .putEmbAfterVector, .start] ∧
    aget sys.store.md kE1 = some ⟨1, .good 1⟩ ∧
    aget (recover sys.store.wal).md kE1 = some ⟨2, .bad 2⟩ ∧
    aget (finishOp sys.store (.putD kE1 ⟨2, .bad 2⟩) .putEmbAfterVector).md kE1 = some ⟨2, .bad 2⟩ ∧
    (recover sys.store.wal).slab = (finishOp sys.store (.putD kE1 ⟨2, .bad 2⟩) .putEmbAfterVector).slab := by
  decide +kernel

/-- non-vacuity: the hypotheses hold of the race the statement is about — `delete_durable user:1`
    of a key that is absent at the start is granted while `put_durable user:1` is between its log
    step and its apply (it does not move), then logs its `MetadataDelete` AFTER the set and removes
    the value: the run is complete, memory and the recovered store both say "absent"; and of a
    three-thread put / put / delete run on one key that ends with the key present in both -/
example :
    (∀ p ∈ putDeleteAbsentProgs, ∀ op ∈ p, op.durableOrRead = true) ∧
    quiescent (runSched true putDeleteAbsentProgs putDeleteAbsentSched) = true ∧
    (runSched true putDeleteAbsentProgs putDeleteAbsentSched).hist.map (fun r => (r.t, r.res, r.inv, r.ret))
      = [(0, .ok, 0, 1), (1, .ok, 2, 3)] ∧
    (runSched true putDeleteAbsentProgs putDeleteAbsentSched).store.wal
      = [.metaSet kP1 ⟨1, .none⟩, .metaDel kP1] ∧
    view (runSched true putDeleteAbsentProgs putDeleteAbsentSched).store kP1 = (.notFound, false, false) ∧
    view (recover (runSched true putDeleteAbsentProgs putDeleteAbsentSched).store.wal) kP1
      = (.notFound, false, false) ∧
    quiescent (runSched true [[.putD kP1 ⟨1, .none⟩], [.putD kP1 ⟨2, .none⟩], [.delD kP1]]
      [0, 2, 0, 2, 1, 2, 1, 1]) = true ∧
    (runSched true [[.putD kP1 ⟨1, .none⟩], [.putD kP1 ⟨2, .none⟩], [.delD kP1]]
      [0, 2, 0, 2, 1, 2, 1, 1]).store.wal
      = [.metaSet kP1 ⟨1, .none⟩, .metaDel kP1, .metaSet kP1 ⟨2, .none⟩] ∧
    view (recover (runSched true [[.putD kP1 ⟨1, .none⟩], [.putD kP1 ⟨2, .none⟩], [.delD kP1]]
      [0, 2, 0, 2, 1, 2, 1, 1]).store.wal) kP1 = (.found ⟨2, .none⟩, true, true) := by decide +kernel

/-- NOT THE CODE (`runSchedDelSkipIfAbsent`: `delete_durable` evaluates `exists(key)` before it takes
    the log mutex and appends its records only if the key was there; the in-memory delete under the
    mutex is unconditional).  Two threads, `user:1` absent at the start: A logs its set and holds the
    mutex; B enters `delete_durable`, sees the key absent and waits for the mutex; A applies and
    returns Ok; B gets the mutex, appends nothing, finds the key present, removes it and returns Ok.
    Every reader of the live store sees `user:1` absent; the log holds the set alone, so the
    recovered store has `user:1` = A's value.  On the step machine of the code (`runSched`) the same
    picks end with the delete record logged after the set and the two stores equal. -/
theorem delete_skip_if_absent_witness :
    quiescent (runSchedDelSkipIfAbsent true putDeleteAbsentProgs putDeleteAbsentSched) = true ∧
    (runSchedDelSkipIfAbsent true putDeleteAbsentProgs putDeleteAbsentSched).hist.map (fun r => (r.t, r.res))
      = [(0, .ok), (1, .ok)] ∧
    (runSchedDelSkipIfAbsent true putDeleteAbsentProgs putDeleteAbsentSched).store.wal
      = [.metaSet kP1 ⟨1, .none⟩] ∧
    view (runSchedDelSkipIfAbsent true putDeleteAbsentProgs putDeleteAbsentSched).store kP1
      = (.notFound, false, false) ∧
    view (recover (runSchedDelSkipIfAbsent true putDeleteAbsentProgs putDeleteAbsentSched).store.wal) kP1
      = (.found ⟨1, .none⟩, true, true) ∧
    ¬ DurableOrderEqMemoryOrder runSchedDelSkipIfAbsent ∧
    (runSched true putDeleteAbsentProgs putDeleteAbsentSched).store.wal
      = [.metaSet kP1 ⟨1, .none⟩, .metaDel kP1] := by
  refine ⟨by decide +kernel, by decide +kernel, by decide +kernel, by decide +kernel, by decide +kernel, ?_, by decide +kernel⟩
  intro h
  have := h putDeleteAbsentProgs putDeleteAbsentSched (by decide +kernel) (by decide +kernel) kP1
  revert this
  decide +kernel

/-- the variant differs from the code ONLY in that race: sequentially (here: delete of a missing
    key, put, delete, delete again) it reaches the same memory and the same recovered store, with a
    shorter log -/
example :
    (runSchedDelSkipIfAbsent true [[.delD kP1, .putD kP1 ⟨1, .none⟩, .delD kP1, .delD kP1]]
      [0, 0, 0, 0, 0, 0, 0, 0]).store.wal = [.metaSet kP1 ⟨1, .none⟩, .metaDel kP1] ∧
    (runSched true [[.delD kP1, .putD kP1 ⟨1, .none⟩, .delD kP1, .delD kP1]]
      [0, 0, 0, 0, 0, 0, 0, 0]).store.wal = [.metaDel kP1, .metaSet kP1 ⟨1, .none⟩, .metaDel kP1, .metaDel kP1] ∧
    (runSchedDelSkipIfAbsent true [[.delD kP1, .putD kP1 ⟨1, .none⟩, .delD kP1, .delD kP1]]
      [0, 0, 0, 0, 0, 0, 0, 0]).hist.map (·.res) = [.notFound, .ok, .ok, .notFound] ∧
    view (recover (runSchedDelSkipIfAbsent true [[.delD kP1, .putD kP1 ⟨1, .none⟩, .delD kP1, .delD kP1]]
      [0, 0, 0, 0, 0, 0, 0, 0]).store.wal) kP1 = (.notFound, false, false) := by decide +kernel

end Neumann.KV.Props
