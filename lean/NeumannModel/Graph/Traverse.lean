import NeumannModel.Graph.Query
/-
  C05 — `traverse` against the edge set: the breadth-first levels return exactly the nodes within
  the hop bound.  Helper lemmas.
-/
set_option linter.unusedSimpArgs false
set_option linter.unusedVariables false
namespace Neumann.Graph

/-- reachable from `a` in at most `k` hops of `get_neighbor_ids_filtered` -/
inductive RIn (m : KV) (dir : Dir) (ty : Option Nat) (a : Nat) : Nat → Nat → Prop
  | refl (k : Nat) : RIn m dir ty a k a
  | step {k b c : Nat} : RIn m dir ty a k b → c ∈ travNbr m b dir ty → RIn m dir ty a (k + 1) c

theorem RIn.mono {m : KV} {dir : Dir} {ty : Option Nat} {a k x : Nat} (h : RIn m dir ty a k x) :
    ∀ k', k ≤ k' → RIn m dir ty a k' x := by
  induction h with
  | refl k => intro k' _; exact .refl k'
  | step hb hc ih =>
    intro k' hk
    cases k' with
    | zero => omega
    | succ k'' => exact .step (ih k'' (by omega)) hc

theorem RIn.cons {m : KV} {dir : Dir} {ty : Option Nat} {f c k x : Nat} (hc : c ∈ travNbr m f dir ty)
    (h : RIn m dir ty c k x) : RIn m dir ty f (k + 1) x := by
  induction h with
  | refl k => exact .step (.refl k) hc
  | step hb hx ih => exact .step ih hx

theorem RIn.head {m : KV} {dir : Dir} {ty : Option Nat} {f k x : Nat} (h : RIn m dir ty f k x) :
    x = f ∨ ∃ c, c ∈ travNbr m f dir ty ∧ ∃ k', k = k' + 1 ∧ RIn m dir ty c k' x := by
  induction h with
  | refl k => exact Or.inl rfl
  | step hb hx ih =>
    rename_i k b c
    rcases ih with rfl | ⟨c', hc', k', hk, hr⟩
    · exact Or.inr ⟨c, hx, k, rfl, .refl k⟩
    · exact Or.inr ⟨c', hc', k' + 1, by omega, .step hr hx⟩

/-- the frontier is part of the visited set, and every node visited earlier has all its neighbours
    visited -/
structure BInv (m : KV) (dir : Dir) (ty : Option Nat) (frontier visited : List Nat) : Prop where
  sub : ∀ f ∈ frontier, f ∈ visited
  closed : ∀ b ∈ visited, b ∉ frontier → ∀ c ∈ travNbr m b dir ty, c ∈ visited

def nextOf (m : KV) (dir : Dir) (ty : Option Nat) (frontier visited : List Nat) : List Nat :=
  sortDedup ((frontier.flatMap fun n => travNbr m n dir ty).filter (fun x => !visited.contains x))

theorem mem_nextOf {m : KV} {dir : Dir} {ty : Option Nat} {frontier visited : List Nat} {x : Nat} :
    x ∈ nextOf m dir ty frontier visited ↔ (∃ f ∈ frontier, x ∈ travNbr m f dir ty) ∧ x ∉ visited := by
  simp [nextOf, mem_sortDedup, List.mem_filter, List.mem_flatMap]

theorem travLevels_succ (m : KV) (dir : Dir) (ty : Option Nat) (d : Nat) (frontier visited : List Nat) :
    travLevels m dir ty (d + 1) frontier visited =
      if (nextOf m dir ty frontier visited).isEmpty then visited
      else travLevels m dir ty d (nextOf m dir ty frontier visited) (visited ++ nextOf m dir ty frontier visited) := rfl

theorem RIn.escape {m : KV} {dir : Dir} {ty : Option Nat} {frontier visited : List Nat}
    (hI : BInv m dir ty frontier visited) {c k x : Nat} (h : RIn m dir ty c k x) (hc : c ∈ visited) :
    x ∈ visited ∨ ∃ g ∈ nextOf m dir ty frontier visited, RIn m dir ty g k x := by
  induction h with
  | refl k => exact Or.inl hc
  | step hb hx ih =>
    rename_i k b x'
    rcases ih with hbv | ⟨g, hg, hr⟩
    · by_cases hxv : x' ∈ visited
      · exact Or.inl hxv
      · by_cases hbf : b ∈ frontier
        · exact Or.inr ⟨x', mem_nextOf.mpr ⟨⟨b, hbf, hx⟩, hxv⟩, .refl _⟩
        · exact absurd (hI.closed b hbv hbf x' hx) hxv
    · exact Or.inr ⟨g, hg, .step hr hx⟩

theorem mem_travLevels {m : KV} {dir : Dir} {ty : Option Nat} : ∀ (d : Nat) (frontier visited : List Nat),
    BInv m dir ty frontier visited →
    ∀ x, x ∈ travLevels m dir ty d frontier visited ↔ x ∈ visited ∨ ∃ f ∈ frontier, RIn m dir ty f d x := by
  intro d
  induction d with
  | zero =>
    intro frontier visited hI x
    simp only [travLevels]
    constructor
    · exact Or.inl
    · rintro (h | ⟨f, hf, hr⟩)
      · exact h
      · cases hr; exact hI.sub _ hf
  | succ d ih =>
    intro frontier visited hI x
    rw [travLevels_succ]
    by_cases hne : (nextOf m dir ty frontier visited).isEmpty = true
    · rw [if_pos hne]
      have hnil : nextOf m dir ty frontier visited = [] := List.isEmpty_iff.mp hne
      constructor
      · exact Or.inl
      · rintro (h | ⟨f, hf, hr⟩)
        · exact h
        · rcases hr.escape hI (hI.sub f hf) with h | ⟨g, hg, _⟩
          · exact h
          · rw [hnil] at hg; cases hg
    · rw [if_neg hne]
      have hI' : BInv m dir ty (nextOf m dir ty frontier visited) (visited ++ nextOf m dir ty frontier visited) := by
        refine ⟨fun g hg => List.mem_append_right _ hg, ?_⟩
        intro b hb hbn c hc
        have hbv : b ∈ visited := by
          rcases List.mem_append.mp hb with h | h
          · exact h
          · exact absurd h hbn
        by_cases hcv : c ∈ visited
        · exact List.mem_append_left _ hcv
        · by_cases hbf : b ∈ frontier
          · exact List.mem_append_right _ (mem_nextOf.mpr ⟨⟨b, hbf, hc⟩, hcv⟩)
          · exact absurd (hI.closed b hbv hbf c hc) hcv
      rw [ih _ _ hI' x]
      constructor
      · rintro (h | ⟨g, hg, hr⟩)
        · rcases List.mem_append.mp h with h | h
          · exact Or.inl h
          · obtain ⟨⟨f, hf, hx⟩, _⟩ := mem_nextOf.mp h
            exact Or.inr ⟨f, hf, (RIn.step (.refl 0) hx).mono _ (by omega)⟩
        · obtain ⟨⟨f, hf, hgf⟩, _⟩ := mem_nextOf.mp hg
          exact Or.inr ⟨f, hf, hr.cons hgf⟩
      · rintro (h | ⟨f, hf, hr⟩)
        · exact Or.inl (List.mem_append_left _ h)
        · rcases hr.head with rfl | ⟨c, hc, k', hk, hr'⟩
          · exact Or.inl (List.mem_append_left _ (hI.sub _ hf))
          · have hk' : k' = d := by omega
            subst hk'
            by_cases hcv : c ∈ visited
            · rcases hr'.escape hI hcv with h | ⟨g, hg, hr''⟩
              · exact Or.inl (List.mem_append_left _ h)
              · exact Or.inr ⟨g, hg, hr''⟩
            · exact Or.inr ⟨c, mem_nextOf.mpr ⟨⟨f, hf, hc⟩, hcv⟩, hr'⟩

theorem mem_travLevels_start {m : KV} {dir : Dir} {ty : Option Nat} (d start x : Nat) :
    x ∈ travLevels m dir ty d [start] [start] ↔ RIn m dir ty start d x := by
  have hI : BInv m dir ty [start] [start] := ⟨fun f hf => hf, fun b hb hbn => absurd hb hbn⟩
  rw [mem_travLevels d _ _ hI]
  constructor
  · rintro (h | ⟨f, hf, hr⟩)
    · simp at h; subst h; exact .refl d
    · simp at hf; subst hf; exact hr
  · intro h; exact Or.inr ⟨start, by simp, h⟩

theorem mem_trav_half {m : KV} {l : List Nat} {n c : Nat} {ty : Option Nat} (a b : EdgeRec → Nat)
    (hlisted : ∀ e r, edgeAt m e = some r → (a r = n ∨ (r.directed = false ∧ b r = n)) → e ∈ l) :
    c ∈ (l.flatMap fun e =>
      match edgeAt m e with
      | none => []
      | some r => if tyOk ty r then
          (if a r = n then [b r] else []) ++ (if (!r.directed) && b r = n then [a r] else [])
        else []) ↔
    ∃ e r, edgeAt m e = some r ∧ tyOk ty r = true ∧
      ((a r = n ∧ b r = c) ∨ (r.directed = false ∧ b r = n ∧ a r = c)) := by
  rw [List.mem_flatMap]
  constructor
  · rintro ⟨e, he, hc⟩
    cases hr : edgeAt m e with
    | none => simp [hr] at hc
    | some r =>
      simp only [hr] at hc
      by_cases hty : tyOk ty r = true
      · simp only [hty, if_true, List.mem_append] at hc
        refine ⟨e, r, hr, hty, ?_⟩
        rcases hc with hc | hc
        · split at hc
          · simp at hc; rename_i h1; exact Or.inl ⟨h1, hc.symm⟩
          · cases hc
        · split at hc
          · simp at hc; rename_i h1; simp at h1; exact Or.inr ⟨h1.1, h1.2, hc.symm⟩
          · cases hc
      · simp [hty] at hc
  · rintro ⟨e, r, hr, hty, hc⟩
    refine ⟨e, hlisted e r hr (hc.imp And.left (fun h => ⟨h.1, h.2.1⟩)), ?_⟩
    simp only [hr, hty, if_true, List.mem_append]
    rcases hc with ⟨h1, h2⟩ | ⟨hd, h1, h2⟩
    · left; simp [h1, h2]
    · right; simp [hd, h1, h2]

theorem mem_travNbr {m : KV} (h : WF m) {n c : Nat} {dir : Dir} {ty : Option Nat} :
    c ∈ travNbr m n dir ty ↔ c ≠ n ∧ Adjacent m n dir ty c := by
  have hout := mem_trav_half (m := m) (n := n) (c := c) (ty := ty) (·.src) (·.dst)
    (fun e r hr hc => (mem_outL_iff h n e).mpr ⟨r, hr, hc⟩)
  have hin := mem_trav_half (m := m) (n := n) (c := c) (ty := ty) (·.dst) (·.src)
    (fun e r hr hc => (mem_inL_iff h n e).mpr ⟨r, hr, hc⟩)
  unfold travNbr
  simp only [List.mem_filter, List.mem_append, bne_iff_ne, ne_eq, decide_eq_true_eq]
  unfold Adjacent
  constructor
  · rintro ⟨hc, hne⟩
    refine ⟨hne, ?_⟩
    rcases hc with hc | hc
    · split at hc
      · rename_i hd
        obtain ⟨e, r, hr, hty, hcc⟩ := hout.mp hc
        exact ⟨e, r, hr, hty, Or.inl ⟨hd, hcc⟩⟩
      · cases hc
    · split at hc
      · rename_i hd
        obtain ⟨e, r, hr, hty, hcc⟩ := hin.mp hc
        exact ⟨e, r, hr, hty, Or.inr ⟨hd, hcc⟩⟩
      · cases hc
  · rintro ⟨hne, e, r, hr, hty, hc⟩
    refine ⟨?_, hne⟩
    rcases hc with ⟨hd, hcc⟩ | ⟨hd, hcc⟩
    · left; rw [if_pos hd]; exact hout.mpr ⟨e, r, hr, hty, hcc⟩
    · right; rw [if_pos hd]; exact hin.mpr ⟨e, r, hr, hty, hcc⟩

/-- reachable from `a` in at most `k` hops along existing edges of the type in the direction
    (an undirected edge can be walked both ways whatever the direction) -/
inductive Within (m : KV) (dir : Dir) (ty : Option Nat) (a : Nat) : Nat → Nat → Prop
  | refl (k : Nat) : Within m dir ty a k a
  | step {k b c : Nat} : Within m dir ty a k b → Adjacent m b dir ty c → Within m dir ty a (k + 1) c

theorem Within.mono {m : KV} {dir : Dir} {ty : Option Nat} {a k x : Nat} (h : Within m dir ty a k x) :
    ∀ k', k ≤ k' → Within m dir ty a k' x := by
  induction h with
  | refl k => intro k' _; exact .refl k'
  | step hb hc ih =>
    intro k' hk
    cases k' with
    | zero => omega
    | succ k'' => exact .step (ih k'' (by omega)) hc

theorem rin_iff_within {m : KV} (h : WF m) {dir : Dir} {ty : Option Nat} {a k x : Nat} :
    RIn m dir ty a k x ↔ Within m dir ty a k x := by
  constructor
  · intro hr
    induction hr with
    | refl k => exact .refl k
    | step hb hc ih => exact .step ih ((mem_travNbr h).mp hc).2
  · intro hw
    induction hw with
    | refl k => exact .refl k
    | step hb hc ih =>
      rename_i k b c
      by_cases hcb : c = b
      · subst hcb; exact ih.mono _ (by omega)
      · exact .step ih ((mem_travNbr h).mpr ⟨hcb, hc⟩)

theorem Within.exists {m : KV} (h : WF m) {dir : Dir} {ty : Option Nat} {a k x : Nat}
    (ha : nodeEx m a = true) (hw : Within m dir ty a k x) : nodeEx m x = true := by
  induction hw with
  | refl k => exact ha
  | step hb hc ih =>
    obtain ⟨e, r, hr, _, hcc⟩ := hc
    obtain ⟨h1, h2, _⟩ := h.edge_listed e r hr
    rcases hcc with ⟨_, ⟨_, hh⟩ | ⟨_, _, hh⟩⟩ | ⟨_, ⟨_, hh⟩ | ⟨_, _, hh⟩⟩ <;> rw [← hh] <;> assumption

end Neumann.Graph
