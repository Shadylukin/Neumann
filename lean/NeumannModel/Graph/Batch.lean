import NeumannModel.Graph.DeleteNode
/-
  C05 — label updates and batch operations: every batch call is the sequence of the single
  operations (or, when its validation phase fails, nothing at all); the sequential invariant for
  every operation.
-/
set_option linter.unusedSimpArgs false
set_option linter.unusedVariables false
namespace Neumann.Graph

theorem run1_bind (p : Prog) (k : Res → Prog) :
    ∀ s, run1 (p.bind k) s = run1 (k (run1 p s).1) (run1 p s).2 := by
  induction p with
  | done r => intro s; rfl
  | get key c ih => intro s; simp only [Prog.bind, run1]; exact ih _ s
  | put key v c ih => intro s; simp only [Prog.bind, run1]; exact ih _
  | del key c ih => intro s; simp only [Prog.bind, run1]; exact ih _ _
  | ex key c ih => intro s; simp only [Prog.bind, run1]; exact ih _ s
  | allocN c ih => intro s; simp only [Prog.bind, run1]; exact ih _ _
  | allocE c ih => intro s; simp only [Prog.bind, run1]; exact ih _ _
  | allocNs cnt c ih => intro s; simp only [Prog.bind, run1]; exact ih _ _
  | allocEs cnt c ih => intro s; simp only [Prog.bind, run1]; exact ih _ _
  | acq key c ih => intro s; simp only [Prog.bind, run1]; exact ih _
  | rel key c ih => intro s; simp only [Prog.bind, run1]; exact ih _

theorem inv_labelPut (s : St) (n : Nat) (labs : List Nat) (h : Inv s) :
    Inv (run1 (labelPut n labs (s.kv (.node n))) s).2 := by
  unfold labelPut
  cases hv : s.kv (.node n) with
  | none => simp only [run1]; exact h
  | some val => simp only [run1]; exact inv_put_node s n _ h (by simp [nodeEx, hv])

theorem inv_addLabel (s : St) (n l : Nat) (h : Inv s) : Inv (apply s (.addLabel n l)).2 := by
  simp only [apply, Op.prog, addLabelProg, run1]
  cases hv : s.kv (.node n) with
  | none => simp only [run1]; exact h
  | some val =>
    simp only
    split
    · simp only [run1]; exact h
    · simp only [run1]; exact inv_labelPut s n _ h

theorem inv_removeLabel (s : St) (n l : Nat) (h : Inv s) : Inv (apply s (.removeLabel n l)).2 := by
  simp only [apply, Op.prog, removeLabelProg, run1]
  cases hv : s.kv (.node n) with
  | none => simp only [run1]; exact h
  | some val =>
    simp only
    split
    · simp only [run1]; exact inv_labelPut s n _ h
    · simp only [run1]; exact h

def Op.isBasic : Op → Bool
  | .batchCreateNodes _ | .batchCreateEdges _ | .batchDeleteEdges _ | .batchDeleteNodes _
  | .batchUpdateNodes _ => false
  | _ => true

theorem inv_apply_basic (s : St) (op : Op) (hb : op.isBasic = true) (h : Inv s) : Inv (apply s op).2 := by
  cases op with
  | createNode l v => exact inv_createNode s l v h
  | createEdge a b d ty v => exact inv_createEdge s a b d ty v h
  | deleteEdge e => exact inv_deleteEdge s e h
  | deleteNode n hint => exact inv_deleteNode s n hint h
  | updateNode n l v => exact inv_updateNode s n l v h
  | updateEdge e v => exact inv_updateEdge s e v h
  | addLabel n l => exact inv_addLabel s n l h
  | removeLabel n l => exact inv_removeLabel s n l h
  | _ => simp [Op.isBasic] at hb

theorem inv_applyAll_basic (ops : List Op) (hb : ∀ op ∈ ops, op.isBasic = true) :
    ∀ s, Inv s → Inv (applyAll s ops) := by
  induction ops with
  | nil => intro s h; exact h
  | cons op ops ih =>
    intro s h
    exact ih (fun o ho => hb o (List.mem_cons_of_mem _ ho)) _ (inv_apply_basic s op (hb op (List.mem_cons_self ..)) h)

/-- the single operations a batch call stands for -/
def Op.expand : Op → List Op
  | .batchCreateNodes items => items.map fun x => .createNode x.1 x.2
  | .batchCreateEdges items => items.map fun e => .createEdge e.a e.b e.d e.ty e.v
  | .batchDeleteEdges ids => ids.map .deleteEdge
  | .batchDeleteNodes ids => ids.map fun x => .deleteNode x.1 x.2
  | .batchUpdateNodes us => us.map fun x => .updateNode x.1 x.2.1 x.2.2
  | op => [op]

/-- the validation phase of a batch call (`batch_create_edges`: every endpoint exists;
    `batch_update_nodes`: every node exists), evaluated on the store before the call -/
def Op.batchValid (m : KV) : Op → Bool
  | .batchCreateEdges items => items.all fun e => nodeEx m e.a && nodeEx m e.b
  | .batchUpdateNodes us => us.all fun x => nodeEx m x.1
  | _ => true

theorem expand_basic (op : Op) : ∀ o ∈ op.expand, o.isBasic = true := by
  cases op <;> intro o ho <;> first
    | (cases List.mem_singleton.mp ho; rfl)
    | (obtain ⟨_, _, rfl⟩ := List.mem_map.mp ho; rfl)

/-- `create_node_internal` as a store transformer -/
def cnKV (id l v : Nat) (m : KV) : KV :=
  upd (upd (upd m (.out id) (some (.list []))) (.inn id) (some (.list []))) (.node id) (some (.node [l] v))

theorem run1_createNodeFrom (id l v : Nat) (s : St) :
    run1 (createNodeFrom id l v) s = (.id id, { s with kv := cnKV id l v s.kv }) := rfl

theorem apply_createNode (s : St) (l v : Nat) :
    apply s (.createNode l v) = (.id (s.nn + 1), { s with nn := s.nn + 1, kv := cnKV (s.nn + 1) l v s.kv }) := rfl

def cnAll : Nat → List (Nat × Nat) → KV → KV
  | _, [], m => m
  | id, x :: rest, m => cnAll (id + 1) rest (cnKV id x.1 x.2 m)

theorem run1_bcnLoop (start : Nat) (c : Prog) : ∀ (items : List (Nat × Nat)) (i : Nat) (s : St),
    run1 (bcnLoop start items i c) s = run1 c { s with kv := cnAll (start + i) items s.kv } := by
  intro items
  induction items with
  | nil => intro i s; rfl
  | cons x rest ih =>
    intro i s
    obtain ⟨l, v⟩ := x
    simp only [bcnLoop, run1_bind, run1_createNodeFrom, cnAll]
    rw [ih]; rfl

theorem applyAll_createNodes : ∀ (items : List (Nat × Nat)) (s : St),
    applyAll s (items.map fun x => Op.createNode x.1 x.2) =
      { kv := cnAll (s.nn + 1) items s.kv, nn := s.nn + items.length, ne := s.ne } := by
  intro items
  induction items with
  | nil => intro s; rfl
  | cons x rest ih =>
    intro s
    simp only [List.map_cons, applyAll, apply_createNode, ih, cnAll, List.length_cons]
    congr 1; omega

theorem batchCreateNodes_seq (s : St) (items : List (Nat × Nat)) :
    (apply s (.batchCreateNodes items)).2 = applyAll s (Op.expand (.batchCreateNodes items)) ∧
    (apply s (.batchCreateNodes items)).1 = .ids (if items.isEmpty then 0 else s.nn + 1) items.length := by
  simp only [apply, Op.prog, batchCreateNodesProg, Op.expand]
  cases items with
  | nil => exact ⟨rfl, rfl⟩
  | cons x rest =>
    simp only [List.isEmpty_cons, Bool.false_eq_true, ↓reduceIte, run1, run1_bcnLoop, applyAll_createNodes]
    refine ⟨?_, ?_⟩ <;> first | rfl | trivial

/-- `create_edge_internal` as a store transformer -/
def ceKV (eid a b : Nat) (d : Bool) (ty v : Nat) (m : KV) : KV :=
  (run1 (createEdgeFrom eid a b d ty v) ⟨m, 0, 0⟩).2.kv

theorem run1_createEdgeFrom (eid a b : Nat) (d : Bool) (ty v : Nat) (s : St) :
    run1 (createEdgeFrom eid a b d ty v) s = (.id eid, { s with kv := ceKV eid a b d ty v s.kv }) := by
  cases d <;> rfl

theorem nodeEx_ceKV (eid a b : Nat) (d : Bool) (ty v : Nat) (m : KV) (n : Nat) :
    nodeEx (ceKV eid a b d ty v m) n = nodeEx m n :=
  (createEdgeFrom_spec ⟨m, 0, 0⟩ eid a b d ty v).2.2.2.1 n

theorem apply_createEdge_ok (s : St) (a b : Nat) (d : Bool) (ty v : Nat)
    (ha : nodeEx s.kv a = true) (hb : nodeEx s.kv b = true) :
    apply s (.createEdge a b d ty v) =
      (.id (s.ne + 1), { s with ne := s.ne + 1, kv := ceKV (s.ne + 1) a b d ty v s.kv }) := by
  unfold nodeEx at ha hb
  simp only [apply, Op.prog, createEdgeProg, createEdgeCheckB, createEdgeAlloc, run1, ha, hb,
    Bool.not_true, Bool.false_eq_true, ↓reduceIte, run1_createEdgeFrom]

def ceAll : Nat → List EdgeIn → KV → KV
  | _, [], m => m
  | id, e :: rest, m => ceAll (id + 1) rest (ceKV id e.a e.b e.d e.ty e.v m)

def endpointsExist (m : KV) (items : List EdgeIn) : Bool :=
  items.all fun e => nodeEx m e.a && nodeEx m e.b

theorem run1_bceLoop (start : Nat) (c : Prog) : ∀ (items : List EdgeIn) (i : Nat) (s : St),
    run1 (bceLoop start items i c) s = run1 c { s with kv := ceAll (start + i) items s.kv } := by
  intro items
  induction items with
  | nil => intro i s; rfl
  | cons x rest ih =>
    intro i s
    simp only [bceLoop, run1_bind, run1_createEdgeFrom, ceAll]
    rw [ih]; rfl

theorem applyAll_createEdges : ∀ (items : List EdgeIn) (s : St), endpointsExist s.kv items = true →
    applyAll s (items.map fun e => Op.createEdge e.a e.b e.d e.ty e.v) =
      { kv := ceAll (s.ne + 1) items s.kv, nn := s.nn, ne := s.ne + items.length } := by
  intro items
  induction items with
  | nil => intro s _; rfl
  | cons x rest ih =>
    intro s hex
    simp only [endpointsExist, List.all_cons, Bool.and_eq_true] at hex
    obtain ⟨⟨ha, hb⟩, hrest⟩ := hex
    simp only [List.map_cons, applyAll, apply_createEdge_ok s _ _ _ _ _ ha hb]
    rw [ih]
    · simp only [ceAll, List.length_cons]; congr 1; omega
    · simp only [endpointsExist, List.all_eq_true, Bool.and_eq_true] at hrest ⊢
      intro e he; simp only [nodeEx_ceKV]; exact hrest e he

theorem run1_bceValidate (c : Prog) : ∀ (items : List EdgeIn) (idx : Nat) (s : St),
    (endpointsExist s.kv items = true ∧ run1 (bceValidate items idx c) s = run1 c s) ∨
    (endpointsExist s.kv items = false ∧ ∃ i n, run1 (bceValidate items idx c) s = (.batchInvalid i n, s) ∧
      nodeEx s.kv n = false) := by
  intro items
  induction items with
  | nil => intro idx s; exact Or.inl ⟨rfl, rfl⟩
  | cons x rest ih =>
    intro idx s
    have hcons : endpointsExist s.kv (x :: rest) =
        (nodeEx s.kv x.a && nodeEx s.kv x.b && endpointsExist s.kv rest) := by simp [endpointsExist]
    rw [hcons]
    simp only [bceValidate, run1]
    cases ha : (s.kv (.node x.a)).isSome with
    | false =>
      have hna : nodeEx s.kv x.a = false := ha
      exact Or.inr ⟨by simp [hna], idx, x.a, by simp [run1], hna⟩
    | true =>
      have hna : nodeEx s.kv x.a = true := ha
      simp only [Bool.not_true, Bool.false_eq_true, ↓reduceIte, run1]
      cases hb : (s.kv (.node x.b)).isSome with
      | false =>
        have hnb : nodeEx s.kv x.b = false := hb
        exact Or.inr ⟨by simp [hnb], idx, x.b, by simp [run1], hnb⟩
      | true =>
        have hnb : nodeEx s.kv x.b = true := hb
        simp only [Bool.not_true, Bool.false_eq_true, ↓reduceIte, hna, hnb, Bool.and_self, Bool.true_and]
        exact ih (idx + 1) s

theorem batchCreateEdges_seq (s : St) (items : List EdgeIn) :
    (apply s (.batchCreateEdges items)).2 =
      if endpointsExist s.kv items then applyAll s (Op.expand (.batchCreateEdges items)) else s := by
  simp only [apply, Op.prog, batchCreateEdgesProg, Op.expand]
  cases items with
  | nil => rfl
  | cons x rest =>
    simp only [List.isEmpty_cons, Bool.false_eq_true, ↓reduceIte]
    rcases run1_bceValidate (.allocEs (x :: rest).length fun start =>
        bceLoop start (x :: rest) 0 (.done (.ids start (x :: rest).length))) (x :: rest) 0 s with ⟨h1, h2⟩ | ⟨h1, i, n, h2, _⟩
    · rw [h2, h1, if_pos rfl, applyAll_createEdges _ _ h1]
      simp only [run1, run1_bceLoop] <;> try rfl
    · rw [h2, h1]; rfl

theorem bdeLoop_seq : ∀ (es : List Nat) (idx : Nat) (del : List Nat) (fl : List (Nat × Nat × Cause)) (s : St),
    (run1 (bdeLoop es idx del fl) s).2 = applyAll s (es.map .deleteEdge) := by
  intro es
  induction es with
  | nil => intro idx del fl s; rfl
  | cons e es ih =>
    intro idx del fl s
    simp only [bdeLoop, run1_bind, List.map_cons, applyAll]
    have : run1 (deleteEdgeProg e) s = apply s (.deleteEdge e) := rfl
    rw [this]
    cases (apply s (.deleteEdge e)).1 <;> exact ih _ _ _ _

theorem bdnLoop_seq : ∀ (ns : List (Nat × List Nat)) (idx : Nat) (del : List Nat) (fl : List (Nat × Nat × Cause)) (s : St),
    (run1 (bdnLoop ns idx del fl) s).2 = applyAll s (ns.map fun x => .deleteNode x.1 x.2) := by
  intro ns
  induction ns with
  | nil => intro idx del fl s; rfl
  | cons x ns ih =>
    intro idx del fl s
    obtain ⟨n, hint⟩ := x
    simp only [bdnLoop, run1_bind, List.map_cons, applyAll]
    have : run1 (deleteNodeProg n hint) s = apply s (.deleteNode n hint) := rfl
    rw [this]
    cases (apply s (.deleteNode n hint)).1 <;> exact ih _ _ _ _

theorem bunLoop_seq : ∀ (us : List (Nat × Option Nat × Nat)) (cnt : Nat) (s : St),
    (run1 (bunLoop us cnt) s).2 = applyAll s (us.map fun x => .updateNode x.1 x.2.1 x.2.2) := by
  intro us
  induction us with
  | nil => intro cnt s; rfl
  | cons x us ih =>
    intro cnt s
    obtain ⟨n, lab, v⟩ := x
    simp only [bunLoop, run1_bind, List.map_cons, applyAll]
    have : run1 (updateNodeProg n lab v) s = apply s (.updateNode n lab v) := rfl
    rw [this]
    cases (apply s (.updateNode n lab v)).1 <;> exact ih _ _

def nodesExist (m : KV) (us : List (Nat × Option Nat × Nat)) : Bool := us.all fun x => nodeEx m x.1

theorem run1_bunValidate (c : Prog) : ∀ (us : List (Nat × Option Nat × Nat)) (idx : Nat) (s : St),
    (nodesExist s.kv us = true ∧ run1 (bunValidate us idx c) s = run1 c s) ∨
    (nodesExist s.kv us = false ∧ ∃ i n, run1 (bunValidate us idx c) s = (.batchInvalid i n, s) ∧
      nodeEx s.kv n = false) := by
  intro us
  induction us with
  | nil => intro idx s; exact Or.inl ⟨rfl, rfl⟩
  | cons x rest ih =>
    intro idx s
    obtain ⟨n, lab, v⟩ := x
    simp only [bunValidate, run1, nodesExist, List.all_cons]
    cases hv : s.kv (.node n) with
    | none => exact Or.inr ⟨by simp [nodeEx, hv], idx, n, by simp [run1], by simp [nodeEx, hv]⟩
    | some val =>
      simp only [nodeEx, hv, Option.isSome_some, Bool.true_and]
      exact ih (idx + 1) s

theorem batchUpdateNodes_seq (s : St) (us : List (Nat × Option Nat × Nat)) :
    (apply s (.batchUpdateNodes us)).2 =
      if nodesExist s.kv us then applyAll s (Op.expand (.batchUpdateNodes us)) else s := by
  simp only [apply, Op.prog, batchUpdateNodesProg, Op.expand]
  rcases run1_bunValidate (bunLoop us 0) us 0 s with ⟨h1, h2⟩ | ⟨h1, i, n, h2, _⟩
  · rw [h2, h1, if_pos rfl, bunLoop_seq]
  · rw [h2, h1]; rfl

/-- the answers of the single operations run one after the other -/
def seqRes (s : St) : List Op → List Res
  | [] => []
  | op :: ops => (apply s op).1 :: seqRes (apply s op).2 ops

/-- `BatchDeleteResult` from the answers of the single deletes: the ids that answered `ok`, and
    (input index, id, cause) of the others, both in input order -/
def delOutcome : Nat → List Nat → List Res → List Nat × List (Nat × Nat × Cause)
  | _, [], _ => ([], [])
  | _, _, [] => ([], [])
  | idx, x :: xs, r :: rs =>
    match r with
    | .ok => (x :: (delOutcome (idx + 1) xs rs).1, (delOutcome (idx + 1) xs rs).2)
    | r => ((delOutcome (idx + 1) xs rs).1, (idx, x, causeOf r) :: (delOutcome (idx + 1) xs rs).2)

theorem bdeLoop_res : ∀ (es : List Nat) (idx : Nat) (del : List Nat) (fl : List (Nat × Nat × Cause)) (s : St),
    (run1 (bdeLoop es idx del fl) s).1 =
      .batchDel (del.reverse ++ (delOutcome idx es (seqRes s (es.map .deleteEdge))).1)
        (fl.reverse ++ (delOutcome idx es (seqRes s (es.map .deleteEdge))).2) := by
  intro es
  induction es with
  | nil => intro idx del fl s; simp [bdeLoop, run1, delOutcome]
  | cons e es ih =>
    intro idx del fl s
    simp only [bdeLoop, run1_bind, List.map_cons, seqRes]
    have : run1 (deleteEdgeProg e) s = apply s (.deleteEdge e) := rfl
    rw [this]
    cases hres : (apply s (.deleteEdge e)).1 <;> simp only [delOutcome] <;> rw [ih] <;> simp

theorem bdnLoop_res : ∀ (ns : List (Nat × List Nat)) (idx : Nat) (del : List Nat) (fl : List (Nat × Nat × Cause)) (s : St),
    (run1 (bdnLoop ns idx del fl) s).1 =
      .batchDel (del.reverse ++ (delOutcome idx (ns.map Prod.fst) (seqRes s (ns.map fun x => .deleteNode x.1 x.2))).1)
        (fl.reverse ++ (delOutcome idx (ns.map Prod.fst) (seqRes s (ns.map fun x => .deleteNode x.1 x.2))).2) := by
  intro ns
  induction ns with
  | nil => intro idx del fl s; simp [bdnLoop, run1, delOutcome]
  | cons x ns ih =>
    intro idx del fl s
    obtain ⟨n, hint⟩ := x
    simp only [bdnLoop, run1_bind, List.map_cons, seqRes]
    have : run1 (deleteNodeProg n hint) s = apply s (.deleteNode n hint) := rfl
    rw [this]
    cases hres : (apply s (.deleteNode n hint)).1 <;> simp only [delOutcome] <;> rw [ih] <;> simp

def countOk : List Res → Nat
  | [] => 0
  | .ok :: rs => countOk rs + 1
  | _ :: rs => countOk rs

theorem bunLoop_res : ∀ (us : List (Nat × Option Nat × Nat)) (cnt : Nat) (s : St),
    (run1 (bunLoop us cnt) s).1 =
      .count (cnt + countOk (seqRes s (us.map fun x => .updateNode x.1 x.2.1 x.2.2))) := by
  intro us
  induction us with
  | nil => intro cnt s; simp [bunLoop, run1, seqRes, countOk]
  | cons x us ih =>
    intro cnt s
    obtain ⟨n, lab, v⟩ := x
    simp only [bunLoop, run1_bind, List.map_cons, seqRes]
    have : run1 (updateNodeProg n lab v) s = apply s (.updateNode n lab v) := rfl
    rw [this]
    cases hres : (apply s (.updateNode n lab v)).1 <;> simp only [countOk] <;> rw [ih] <;> try (congr 1; omega)

/-- every batch call either does nothing (its validation phase failed) or leaves exactly the store
    and counters of the sequence of single operations it stands for -/
theorem batch_seq (s : St) (op : Op) :
    (apply s op).2 = if op.batchValid s.kv then applyAll s op.expand else s := by
  cases op with
  | batchCreateNodes items => simpa [Op.batchValid] using (batchCreateNodes_seq s items).1
  | batchCreateEdges items => exact batchCreateEdges_seq s items
  | batchDeleteEdges ids => simp only [Op.batchValid, if_true, Op.expand]; exact bdeLoop_seq ids 0 [] [] s
  | batchDeleteNodes ids => simp only [Op.batchValid, if_true, Op.expand]; exact bdnLoop_seq ids 0 [] [] s
  | batchUpdateNodes us => exact batchUpdateNodes_seq s us
  | _ => simp [Op.batchValid, Op.expand, applyAll]

theorem inv_apply (s : St) (op : Op) (h : Inv s) : Inv (apply s op).2 := by
  rw [batch_seq]
  split
  · exact inv_applyAll_basic _ (expand_basic op) s h
  · exact h

theorem inv_applyAll (ops : List Op) : ∀ s, Inv s → Inv (applyAll s ops) := by
  induction ops with
  | nil => intro s h; exact h
  | cons op ops ih => intro s h; exact ih _ (inv_apply s op h)

end Neumann.Graph
