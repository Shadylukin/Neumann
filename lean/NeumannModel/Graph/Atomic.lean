import NeumannModel.Graph.Lemmas
import NeumannModel.Graph.Sched
/-
  C05 — the adjacency-list read-modify-write is atomic under the list lock: the invariant `J`
  of the locked interleaving semantics (`runThreads Op.prog`) for threads that run `create_node`,
  `create_edge`, `delete_edge`, `update_node`, `add_label`, `remove_label` and `update_edge`
  operations (delete / update only of edges that existed before the concurrent phase).

  Every thread is in a phase `Ph` (where it is inside its current operation); `Ph.prog` is its
  program at that point.  `J` says: the store is well-formed EXCEPT for what the operations in
  flight still owe (`Exc`): an edge being created may miss from the lists its creator has not
  written yet, an edge being deleted may miss from any list; a list never mentions an edge without
  record; a thread between the `get` and the `put` of a list holds its lock and the list it read is
  still the stored one.

  `create_node` (since /repo e23bf6c3) writes the two empty adjacency lists of its fresh id BEFORE
  the node record.  While it does so the node is invisible (`nodeEx = false`, clause `Local` of the
  phases `cnP1/cnP2/cnP3`; kept by the other threads because node ids are handed out once, `J.uniqN`,
  and every other node write re-writes a node it has seen, `Local` of `unP`); every edge record has
  both endpoints visible (`J.e1`) and nobody deletes nodes, so the lists of an invisible node are
  empty (`J.lists_of_invisible_node`) and writing the empty lists changes no view.  Hence the arguments
  of `create_edge` are arbitrary also when other threads create nodes.
-/
set_option linter.unusedSimpArgs false
set_option linter.unusedVariables false
namespace Neumann.Graph

inductive Stage where
  | acq | get | put (l : List Nat) | rel

/-- inside `add_edge_to_list(k, x)`; `c` is what follows the release -/
def addAt (x : Nat) (k : Key) (c : Prog) : Stage → Prog
  | .acq => addTo k x c
  | .get => .get k fun v => .put k (.list (if x ∈ listOf v then listOf v else listOf v ++ [x])) (.rel k c)
  | .put l => .put k (.list (ins l x)) (.rel k c)
  | .rel => .rel k c

/-- inside `remove_edge_from_list(k, e)` -/
def rmAt (e : Nat) (k : Key) (c : Prog) : Stage → Prog
  | .acq => rmFrom k e c
  | .get => .get k fun v =>
      match v with
      | none => .rel k c
      | some val => .put k (.list ((listOfVal val).filter (fun x => x != e))) (.rel k c)
  | .put l => .put k (.list (rmv l e)) (.rel k c)
  | .rel => .rel k c

inductive Ph where
  | fin (res : Res)
  | ceA (a b : Nat) (d : Bool) (ty v : Nat)
  | ceB (a b : Nat) (d : Bool) (ty v : Nat)
  | ceAl (a b : Nat) (d : Bool) (ty v : Nat)
  | pre (x a b : Nat) (d : Bool) (ty v : Nat)
  | add (x : Nat) (r : EdgeRec) (k : Key) (ks : List Key) (st : Stage)
  | deA (e : Nat)
  | rm (e : Nat) (r : EdgeRec) (k : Key) (ks : List Key) (st : Stage)
  | drec (e : Nat) (r : EdgeRec)
  | cnA (l v : Nat)
  | cnP1 (id l v : Nat)
  | cnP2 (id l v : Nat)
  | cnP3 (id l v : Nat)
  | alA (n l : Nat)
  | rlA (n l : Nat)
  | lbB (n : Nat) (labs : List Nat)
  | unA (n : Nat) (lab : Option Nat) (v : Nat)
  | unB (n : Nat) (lab : Option Nat) (v : Nat)
  | unP (n : Nat) (val : Val)
  | ueA (e v : Nat)
  | ueB (e v : Nat)
  | ueP (e : Nat) (r : EdgeRec) (v : Nat)
  | ueO (e : Nat) (other : Val)

def Ph.prog : Ph → Prog
  | .fin res => .done res
  | .ceA a b d ty v => createEdgeProg a b d ty v
  | .ceB a b d ty v => createEdgeCheckB a b d ty v
  | .ceAl a b d ty v => createEdgeAlloc a b d ty v
  | .pre x a b d ty v => createEdgeFrom x a b d ty v
  | .add x _ k ks st => addAt x k (addSeq x ks (.done (.id x))) st
  | .deA e => deleteEdgeProg e
  | .rm e _ k ks st => rmAt e k (rmSeq e ks (delTail e)) st
  | .drec e _ => delTail e
  | .cnA l v => createNodeProg l v
  | .cnP1 id l v => createNodeFrom id l v
  | .cnP2 id l v => .put (.inn id) (.list []) (.put (.node id) (.node [l] v) (.done (.id id)))
  | .cnP3 id l v => .put (.node id) (.node [l] v) (.done (.id id))
  | .alA n l => addLabelProg n l
  | .rlA n l => removeLabelProg n l
  | .lbB n labs => .get (.node n) (labelPut n labs)
  | .unA n lab v => updateNodeProg n lab v
  | .unB n lab v => updateNodeSecond n lab v
  | .unP n val => .put (.node n) val (.done .ok)
  | .ueA e v => updateEdgeProg e v
  | .ueB e v => updateEdgeSecond e v
  | .ueP e r v => .put (.edge e) (.edge { r with ver := v }) (.done .ok)
  | .ueO e other => .put (.edge e) other (.done .ok)

def Stage.holding : Stage → Bool
  | .acq => false
  | _ => true

/-- keys of the current sequence not yet written -/
def pend (k : Key) (ks : List Key) : Stage → List Key
  | .rel => ks
  | _ => k :: ks

def Ph.holds : Ph → Option Key
  | .add _ _ k _ st | .rm _ _ k _ st => if st.holding then some k else none
  | _ => none

def Ph.creates : Ph → Option Nat
  | .pre x .. | .add x .. => some x
  | _ => none

/-- the node id a `create_node` in flight has been handed and has not made visible yet -/
def Ph.makes : Ph → Option Nat
  | .cnP1 id .. | .cnP2 id .. | .cnP3 id .. => some id
  | _ => none

/-- what the operation in flight still owes about edge `x` and list `K` -/
def Exc (ph : Ph) (x : Nat) (K : Key) : Prop :=
  match ph with
  | .add x' _ k ks st => x' = x ∧ K ∈ pend k ks st
  | .rm e .. => e = x
  | .drec e _ => e = x
  | _ => False

/-- a phase that owes nothing: no operation in flight that may leave an edge unlisted -/
def Ph.quiet (ph : Ph) : Prop := ∀ x K, ¬ Exc ph x K

def sameShape (a b : EdgeRec) : Prop := a.src = b.src ∧ a.dst = b.dst ∧ a.directed = b.directed

theorem req_shape {a b : EdgeRec} (h : sameShape a b) : req a = req b := by
  unfold req; rw [h.1, h.2.1, h.2.2]

def stageOK (m : KV) (held : List Key) (k : Key) : Stage → Prop
  | .acq => True
  | .put l => k ∈ held ∧ l = L m k
  | _ => k ∈ held

def Local (ne0 : Nat) (D : Nat → Prop) (m : KV) (ne : Nat) (held : List Key) : Ph → Prop
  | .fin _ => True
  | .ceA .. => True
  | .ceB a .. => nodeEx m a = true
  | .ceAl a b .. => nodeEx m a = true ∧ nodeEx m b = true
  | .pre x a b .. => edgeAt m x = none ∧ ne0 < x ∧ x ≤ ne ∧ nodeEx m a = true ∧ nodeEx m b = true
  | .cnA .. => True
  | .cnP1 id .. => nodeEx m id = false
  | .cnP2 id .. => nodeEx m id = false
  | .cnP3 id .. => nodeEx m id = false
  | .add x r k ks st => edgeAt m x = some r ∧ ne0 < x ∧ x ≤ ne ∧ (∀ K ∈ k :: ks, K ∈ req r) ∧ stageOK m held k st
  | .deA e => e ≤ ne0 ∧ D e
  | .rm e r k ks st => e ≤ ne0 ∧ D e ∧ (∀ r', edgeAt m e = some r' → r' = r) ∧ (∀ K ∈ k :: ks, K ∈ req r) ∧
      (∀ K ∈ req r, K ∉ pend k ks st → e ∉ L m K) ∧ stageOK m held k st
  | .drec e r => e ≤ ne0 ∧ D e ∧ (∀ r', edgeAt m e = some r' → r' = r) ∧ (∀ K ∈ req r, e ∉ L m K)
  | .alA .. => True
  | .rlA .. => True
  | .lbB .. => True
  | .unA .. => True
  | .unB .. => True
  | .unP n _ => nodeEx m n = true
  | .ueA e _ => e ≤ ne0 ∧ ¬ D e
  | .ueB e _ => e ≤ ne0 ∧ ¬ D e
  | .ueP e r _ => e ≤ ne0 ∧ ¬ D e ∧ ∃ r', edgeAt m e = some r' ∧ sameShape r' r
  | .ueO e other => e ≤ ne0 ∧ edgeOf (some other) = none ∧ edgeAt m e = none

structure J (ne0 : Nat) (D : Nat → Prop) (phs : List Ph) (s : St) (held : List Key) : Prop where
  ne_ge : ne0 ≤ s.ne
  fresh : ∀ x, s.ne < x → edgeAt s.kv x = none
  freshN : ∀ n, s.nn < n → nodeEx s.kv n = false
  e1 : ∀ x r, edgeAt s.kv x = some r → nodeEx s.kv r.src = true ∧ nodeEx s.kv r.dst = true ∧
        ∀ K ∈ req r, x ∈ L s.kv K ∨ ∃ (j : Nat) (ph : Ph), phs[j]? = some ph ∧ Exc ph x K
  e2 : ∀ K x, x ∈ L s.kv K → ∃ r, edgeAt s.kv x = some r ∧ K ∈ req r
  e3 : ∀ K, (L s.kv K).Nodup
  loc : ∀ (j : Nat) (ph : Ph), phs[j]? = some ph → Local ne0 D s.kv s.ne held ph
  excl : ∀ (i j : Nat) (ph ph' : Ph), i ≠ j → phs[i]? = some ph → phs[j]? = some ph' →
        ∀ k, ph.holds = some k → ph'.holds ≠ some k
  uniq : ∀ (i j : Nat) (ph ph' : Ph), i ≠ j → phs[i]? = some ph → phs[j]? = some ph' →
        ∀ x, ph.creates = some x → ph'.creates ≠ some x
  mkle : ∀ (j : Nat) (ph : Ph) (id : Nat), phs[j]? = some ph → ph.makes = some id → id ≤ s.nn
  uniqN : ∀ (i j : Nat) (ph ph' : Ph), i ≠ j → phs[i]? = some ph → phs[j]? = some ph' →
        ∀ x, ph.makes = some x → ph'.makes ≠ some x

section
variable {ne0 : Nat} {D : Nat → Prop} {phs : List Ph} {s : St} {held : List Key} {i : Nat}

/-- edge ids whose record, once gone, must stay gone for this thread -/
def Ph.deletes : Ph → Option Nat
  | .rm e .. | .drec e _ | .ueO e _ => some e
  | _ => none

/-- edge id whose record this thread is about to overwrite -/
def Ph.updates : Ph → Option Nat
  | .ueP e .. => some e
  | _ => none

structure Frame (ph : Ph) (m : KV) (ne : Nat) (held : List Key) (m' : KV) (ne' : Nat) (held' : List Key) : Prop where
  ne_le : ne ≤ ne'
  node : ∀ n, nodeEx m n = true → nodeEx m' n = true
  held : ∀ k, ph.holds = some k → k ∈ held → k ∈ held'
  lst : ∀ k, ph.holds = some k → L m' k = L m k
  cre : ∀ x, ph.creates = some x → edgeAt m' x = edgeAt m x
  del : ∀ e, ph.deletes = some e →
    (∀ r, edgeAt m' e = some r → edgeAt m e = some r) ∧ (∀ K, e ∉ L m K → e ∉ L m' K)
  upd : ∀ e, ph.updates = some e → ∀ r, edgeAt m e = some r → ∃ r', edgeAt m' e = some r' ∧ sameShape r' r
  hid : ∀ id, ph.makes = some id → nodeEx m id = false → nodeEx m' id = false

theorem stageOK_frame {m m' : KV} {held held' : List Key} {k : Key} {st : Stage}
    (h : stageOK m held k st) (hh : st.holding = true → k ∈ held → k ∈ held')
    (hl : st.holding = true → L m' k = L m k) : stageOK m' held' k st := by
  cases st with
  | acq => trivial
  | get => exact hh rfl h
  | rel => exact hh rfl h
  | put l => exact ⟨hh rfl h.1, by rw [hl rfl]; exact h.2⟩

theorem Local.frame {m m' : KV} {ne ne' : Nat} {held held' : List Key} {ph : Ph}
    (h : Local ne0 D m ne held ph) (f : Frame ph m ne held m' ne' held') : Local ne0 D m' ne' held' ph := by
  cases ph with
  | ceB a b d ty v => exact f.node _ h
  | ceAl a b d ty v => exact ⟨f.node _ h.1, f.node _ h.2⟩
  | pre x a b d ty v =>
    exact ⟨(f.cre x rfl).trans h.1, h.2.1, Nat.le_trans h.2.2.1 f.ne_le, f.node _ h.2.2.2.1, f.node _ h.2.2.2.2⟩
  | cnP1 id l v => exact f.hid id rfl h
  | cnP2 id l v => exact f.hid id rfl h
  | cnP3 id l v => exact f.hid id rfl h
  | add x r k ks st =>
    obtain ⟨h1, h2, h3, h4, h5⟩ := h
    exact ⟨(f.cre x rfl).trans h1, h2, Nat.le_trans h3 f.ne_le, h4,
      stageOK_frame h5 (fun hs => f.held k (by rw [Ph.holds, hs]; rfl)) (fun hs => f.lst k (by rw [Ph.holds, hs]; rfl))⟩
  | rm e r k ks st =>
    obtain ⟨h1, hD, h2, h3, h4, h5⟩ := h
    obtain ⟨d1, d2⟩ := f.del e rfl
    exact ⟨h1, hD, fun r' hr' => h2 r' (d1 r' hr'), h3, fun K hK hp => d2 K (h4 K hK hp),
      stageOK_frame h5 (fun hs => f.held k (by rw [Ph.holds, hs]; rfl)) (fun hs => f.lst k (by rw [Ph.holds, hs]; rfl))⟩
  | drec e r =>
    obtain ⟨h1, hD, h2, h3⟩ := h
    obtain ⟨d1, d2⟩ := f.del e rfl
    exact ⟨h1, hD, fun r' hr' => h2 r' (d1 r' hr'), fun K hK => d2 K (h3 K hK)⟩
  | unP n val => exact f.node _ h
  | ueP e r v =>
    obtain ⟨h1, hD, r', hr', hs⟩ := h
    obtain ⟨r'', hr'', hs'⟩ := f.upd e rfl r' hr'
    exact ⟨h1, hD, r'', hr'', ⟨hs'.1.trans hs.1, hs'.2.1.trans hs.2.1, hs'.2.2.trans hs.2.2⟩⟩
  | ueO e other =>
    obtain ⟨h1, h2, h3⟩ := h
    refine ⟨h1, h2, ?_⟩
    cases hx : edgeAt m' e with
    | none => rfl
    | some r => rw [(f.del e rfl).1 r hx] at h3; cases h3
  | _ => exact h

theorem Local.holds_held {m : KV} {ne : Nat} {held : List Key} {ph : Ph} {k : Key}
    (h : Local ne0 D m ne held ph) (hk : ph.holds = some k) : k ∈ held := by
  cases ph with
  | add x r k' ks st =>
    obtain ⟨_, _, _, _, h5⟩ := h
    cases st <;> cases hk
    · exact h5
    · exact h5.1
    · exact h5
  | rm e r k' ks st =>
    obtain ⟨_, _, _, _, _, h6⟩ := h
    cases st <;> cases hk
    · exact h6
    · exact h6.1
    · exact h6
  | _ => cases hk

theorem Local.creates_le {m : KV} {ne : Nat} {held : List Key} {ph : Ph} {x : Nat}
    (h : Local ne0 D m ne held ph) (hx : ph.creates = some x) : ne0 < x ∧ x ≤ ne := by
  cases ph with
  | pre x' a b d ty v => cases hx; exact ⟨h.2.1, h.2.2.1⟩
  | add x' r k ks st => cases hx; exact ⟨h.2.1, h.2.2.1⟩
  | _ => cases hx

theorem Local.deletes_le {m : KV} {ne : Nat} {held : List Key} {ph : Ph} {e : Nat}
    (h : Local ne0 D m ne held ph) (he : ph.deletes = some e) : e ≤ ne0 := by
  cases ph with
  | rm e' r k ks st => cases he; exact h.1
  | drec e' r => cases he; exact h.1
  | ueO e' o => cases he; exact h.1
  | _ => cases he

theorem Local.updates_le {m : KV} {ne : Nat} {held : List Key} {ph : Ph} {e : Nat}
    (h : Local ne0 D m ne held ph) (he : ph.updates = some e) : e ≤ ne0 ∧ ¬ D e ∧ (edgeAt m e).isSome = true := by
  cases ph with
  | ueP e' r v =>
    cases he
    obtain ⟨h1, h2, r', hr', _⟩ := h
    exact ⟨h1, h2, by rw [hr']; rfl⟩
  | _ => cases he

/-- a thread that still removes entries of `e`, or is about to delete its record, only exists for
    ids that may be deleted; a thread that waits for the record of `e` to stay absent sees it absent -/
theorem Local.deletes_D {m : KV} {ne : Nat} {held : List Key} {ph : Ph} {e : Nat}
    (h : Local ne0 D m ne held ph) (he : ph.deletes = some e) : D e ∨ edgeAt m e = none := by
  cases ph with
  | rm e' r k ks st => cases he; exact Or.inl h.2.1
  | drec e' r => cases he; exact Or.inl h.2.1
  | ueO e' o => cases he; exact Or.inr h.2.2
  | _ => cases he

/-- who excuses an unlisted edge: thread `i` itself or another thread -/
theorem J.e1_split {ph : Ph} (hJ : J ne0 D phs s held) (hi : phs[i]? = some ph) {x : Nat} {r : EdgeRec}
    (hr : edgeAt s.kv x = some r) {K : Key} (hK : K ∈ req r) :
    x ∈ L s.kv K ∨ Exc ph x K ∨ ∃ (j : Nat) (ph2 : Ph), j ≠ i ∧ phs[j]? = some ph2 ∧ Exc ph2 x K := by
  rcases (hJ.e1 x r hr).2.2 K hK with h | ⟨j, ph2, hj, he⟩
  · exact Or.inl h
  · by_cases hji : j = i
    · rw [hji, hi] at hj; cases hj; exact Or.inr (Or.inl he)
    · exact Or.inr (Or.inr ⟨j, ph2, hji, hj, he⟩)

/-- `f` = the lock held, the edge id or the node id handed out -/
theorem claims_set {α : Type} {f : Ph → Option α} {phs : List Ph} {i : Nat} {ph : Ph}
    (h : ∀ (a b : Nat) (pa pb : Ph), a ≠ b → phs[a]? = some pa → phs[b]? = some pb → ∀ x, f pa = some x → f pb ≠ some x)
    (hi : phs[i]? = some ph) (ph' : Ph)
    (hnew : ∀ x, f ph' = some x → f ph = some x ∨ ∀ (b : Nat) (pb : Ph), b ≠ i → phs[b]? = some pb → f pb ≠ some x) :
    ∀ (a b : Nat) (pa pb : Ph), a ≠ b → (phs.set i ph')[a]? = some pa → (phs.set i ph')[b]? = some pb →
      ∀ x, f pa = some x → f pb ≠ some x := by
  intro a b pa pb hab ha hb x hx1 hx2
  rw [get_set hi] at ha hb
  by_cases hai : a = i
  · have hbi : b ≠ i := fun h => hab (hai.trans h.symm)
    rw [if_pos hai] at ha; rw [if_neg hbi] at hb; cases ha
    rcases hnew x hx1 with h' | h'
    · exact h i b ph pb (Ne.symm hbi) hi hb x h' hx2
    · exact h' b pb hbi hb hx2
  · rw [if_neg hai] at ha
    by_cases hbi : b = i
    · rw [if_pos hbi] at hb; cases hb
      rcases hnew x hx2 with h' | h'
      · exact h a i pa ph hai ha hi x hx1 h'
      · exact h' a pa hai ha hx1
    · rw [if_neg hbi] at hb
      exact h a b pa pb hab ha hb x hx1 hx2

theorem J.step {ph : Ph}
    (hJ : J ne0 D phs s held) (hi : phs[i]? = some ph) (ph' : Ph) (s' : St) (held' : List Key)
    (hne : s.ne ≤ s'.ne)
    (hnn : s.nn ≤ s'.nn)
    (hfresh : ∀ x, s'.ne < x → edgeAt s'.kv x = none)
    (hfreshN : ∀ n, s'.nn < n → nodeEx s'.kv n = false)
    (he1 : ∀ x r, edgeAt s'.kv x = some r → nodeEx s'.kv r.src = true ∧ nodeEx s'.kv r.dst = true ∧
        ∀ K ∈ req r, x ∈ L s'.kv K ∨ Exc ph' x K ∨
          ∃ (j : Nat) (ph2 : Ph), j ≠ i ∧ phs[j]? = some ph2 ∧ Exc ph2 x K)
    (he2 : ∀ K x, x ∈ L s'.kv K → ∃ r, edgeAt s'.kv x = some r ∧ K ∈ req r)
    (he3 : ∀ K, (L s'.kv K).Nodup)
    (hloc : Local ne0 D s'.kv s'.ne held' ph')
    (hframe : ∀ (j : Nat) (ph2 : Ph), j ≠ i → phs[j]? = some ph2 → Frame ph2 s.kv s.ne held s'.kv s'.ne held')
    (hexcl : ∀ k, ph'.holds = some k → ph.holds = some k ∨ k ∉ held)
    (huniq : ∀ x, ph'.creates = some x → ph.creates = some x ∨ s.ne < x)
    (hmk : ∀ x, ph'.makes = some x → ph.makes = some x ∨ (s.nn < x ∧ x ≤ s'.nn)) :
    J ne0 D (phs.set i ph') s' held' := by
  refine ⟨Nat.le_trans hJ.ne_ge hne, hfresh, hfreshN, ?_, he2, he3, ?_, ?_, ?_, ?_, ?_⟩
  · intro x r hr
    obtain ⟨h1, h2, h3⟩ := he1 x r hr
    refine ⟨h1, h2, fun K hK => ?_⟩
    rcases h3 K hK with h | h | ⟨j, ph2, hj, hp, hx⟩
    · exact Or.inl h
    · exact Or.inr ⟨i, ph', by rw [get_set hi, if_pos rfl], h⟩
    · exact Or.inr ⟨j, ph2, by rw [get_set hi, if_neg hj]; exact hp, hx⟩
  · intro j ph2 hj
    rw [get_set hi] at hj
    by_cases hji : j = i
    · rw [if_pos hji] at hj; cases hj; exact hloc
    · rw [if_neg hji] at hj; exact (hJ.loc j ph2 hj).frame (hframe j ph2 hji hj)
  · refine claims_set hJ.excl hi ph' (fun k hk => (hexcl k hk).imp_right fun hn b pb _ hb hk2 => ?_)
    exact hn ((hJ.loc b pb hb).holds_held hk2)
  · refine claims_set hJ.uniq hi ph' (fun x hx => (huniq x hx).imp_right fun hlt b pb _ hb hx2 => ?_)
    exact Nat.lt_irrefl _ (Nat.lt_of_lt_of_le hlt ((hJ.loc b pb hb).creates_le hx2).2)
  · intro j ph2 id hj hm
    rw [get_set hi] at hj
    by_cases hji : j = i
    · rw [if_pos hji] at hj; cases hj
      rcases hmk id hm with h | h
      · exact Nat.le_trans (hJ.mkle i ph id hi h) hnn
      · exact h.2
    · rw [if_neg hji] at hj
      exact Nat.le_trans (hJ.mkle j ph2 id hj hm) hnn
  · refine claims_set hJ.uniqN hi ph' (fun x hx => (hmk x hx).imp_right fun hlt b pb _ hb hx2 => ?_)
    exact Nat.lt_irrefl _ (Nat.lt_of_lt_of_le hlt.1 (hJ.mkle b pb x hb hx2))

theorem J.step_cnt {ph : Ph}
    (hJ : J ne0 D phs s held) (hi : phs[i]? = some ph) (ph' : Ph) (ne' nn' : Nat) (held' : List Key)
    (hne : s.ne ≤ ne') (hnn : s.nn ≤ nn')
    (hexc : ∀ x K, Exc ph x K → Exc ph' x K)
    (hloc : Local ne0 D s.kv ne' held' ph')
    (hheld : ∀ (j : Nat) (ph2 : Ph), j ≠ i → phs[j]? = some ph2 → ∀ k, ph2.holds = some k → k ∈ held → k ∈ held')
    (hexcl : ∀ k, ph'.holds = some k → ph.holds = some k ∨ k ∉ held)
    (huniq : ∀ x, ph'.creates = some x → ph.creates = some x ∨ s.ne < x)
    (hmk : ∀ x, ph'.makes = some x → ph.makes = some x ∨ (s.nn < x ∧ x ≤ nn')) :
    J ne0 D (phs.set i ph') { s with ne := ne', nn := nn' } held' := by
  apply hJ.step hi ph' { s with ne := ne', nn := nn' } held' hne hnn
  · intro x hx; exact hJ.fresh x (by simp at hx; omega)
  · intro n hn; exact hJ.freshN n (by simp at hn; omega)
  · intro x r hr
    exact ⟨(hJ.e1 x r hr).1, (hJ.e1 x r hr).2.1, fun K hK => (hJ.e1_split hi hr hK).imp_right (.imp_left (hexc x K))⟩
  · exact hJ.e2
  · exact hJ.e3
  · exact hloc
  · intro j ph2 hji hj
    exact ⟨hne, fun _ h => h, hheld j ph2 hji hj, fun _ _ => rfl, fun _ _ => rfl,
      fun _ _ => ⟨fun _ h => h, fun _ h => h⟩, fun _ _ r hr => ⟨r, hr, rfl, rfl, rfl⟩, fun _ _ h => h⟩
  · exact hexcl
  · exact huniq
  · exact hmk

/-- `hmk` is discharged automatically when the new phase is not inside a `create_node` -/
theorem J.step_same {ph : Ph}
    (hJ : J ne0 D phs s held) (hi : phs[i]? = some ph) (ph' : Ph) (ne' : Nat) (held' : List Key)
    (hne : s.ne ≤ ne')
    (hexc : ∀ x K, Exc ph x K → Exc ph' x K)
    (hloc : Local ne0 D s.kv ne' held' ph')
    (hheld : ∀ (j : Nat) (ph2 : Ph), j ≠ i → phs[j]? = some ph2 → ∀ k, ph2.holds = some k → k ∈ held → k ∈ held')
    (hexcl : ∀ k, ph'.holds = some k → ph.holds = some k ∨ k ∉ held)
    (huniq : ∀ x, ph'.creates = some x → ph.creates = some x ∨ s.ne < x)
    (hmk : ∀ x, ph'.makes = some x → ph.makes = some x := by intro x hx; simp [Ph.makes] at hx) :
    J ne0 D (phs.set i ph') { s with ne := ne' } held' :=
  hJ.step_cnt hi ph' ne' s.nn held' hne (Nat.le_refl _) hexc hloc hheld hexcl huniq (fun x hx => Or.inl (hmk x hx))

theorem J.step_idle {ph : Ph}
    (hJ : J ne0 D phs s held) (hi : phs[i]? = some ph) (ph' : Ph)
    (hexc : ∀ x K, Exc ph x K → Exc ph' x K) (hloc : Local ne0 D s.kv s.ne held ph')
    (hh : ph'.holds = none) (hc : ph'.creates = none) (hm : ph'.makes = none) :
    J ne0 D (phs.set i ph') s held :=
  hJ.step_same hi ph' s.ne held (Nat.le_refl _) hexc hloc (fun _ _ _ _ _ _ h => h)
    (fun k hk => by rw [hh] at hk; cases hk) (fun x hx => by rw [hc] at hx; cases hx)
    (fun x hx => by rw [hm] at hx; cases hx)

/-- a write under the key of edge `e`: no node and no list changes, only what `J` says about the record of
    `e` is left to show -/
theorem J.step_edge {ph : Ph} (hJ : J ne0 D phs s held) (hi : phs[i]? = some ph) (ph' : Ph) (e : Nat) (v : Option Val)
    (hle : e ≤ s.ne)
    (hrec : ∀ r, edgeOf v = some r → nodeEx s.kv r.src = true ∧ nodeEx s.kv r.dst = true ∧
      ∀ K ∈ req r, e ∈ L s.kv K ∨ Exc ph' e K ∨ ∃ (j : Nat) (ph2 : Ph), j ≠ i ∧ phs[j]? = some ph2 ∧ Exc ph2 e K)
    (hexc : ∀ x K, x ≠ e → Exc ph x K → Exc ph' x K)
    (hlst : ∀ K, e ∈ L s.kv K → ∃ r, edgeOf v = some r ∧ K ∈ req r)
    (hloc : Local ne0 D (upd s.kv (.edge e) v) s.ne held ph')
    (hcre : ∀ (j : Nat) (ph2 : Ph), j ≠ i → phs[j]? = some ph2 → ph2.creates ≠ some e)
    (hdel : ∀ (j : Nat) (ph2 : Ph), j ≠ i → phs[j]? = some ph2 → ph2.deletes = some e →
      ∀ r, edgeOf v = some r → edgeAt s.kv e = some r)
    (hupd : ∀ (j : Nat) (ph2 : Ph), j ≠ i → phs[j]? = some ph2 → ph2.updates = some e →
      ∀ r, edgeAt s.kv e = some r → ∃ r', edgeOf v = some r' ∧ sameShape r' r)
    (hh : ph'.holds = none) (hc : ∀ x, ph'.creates = some x → ph.creates = some x) (hm : ph'.makes = none) :
    J ne0 D (phs.set i ph') { s with kv := upd s.kv (.edge e) v } held := by
  have hE : ∀ y, y ≠ e → edgeAt (upd s.kv (.edge e) v) y = edgeAt s.kv y := fun y hy => by
    rw [edgeAt_upd, if_neg (fun h => hy (Key.edge.inj h))]
  have hEe : edgeAt (upd s.kv (.edge e) v) e = edgeOf v := by rw [edgeAt_upd, if_pos rfl]
  have hN : ∀ n, nodeEx (upd s.kv (.edge e) v) n = nodeEx s.kv n := fun n => by
    rw [nodeEx_upd, if_neg (fun h => Key.noConfusion h)]
  apply hJ.step hi ph' { s with kv := upd s.kv (.edge e) v } held (Nat.le_refl _) (Nat.le_refl _)
  · intro y hy
    rw [hE y (Nat.ne_of_gt (Nat.lt_of_le_of_lt hle hy))]; exact hJ.fresh y hy
  · intro n hn; rw [hN]; exact hJ.freshN n hn
  · intro y ry hy
    simp only [hN, L_upd_edge]
    by_cases hye : y = e
    · subst hye; rw [hEe] at hy; exact hrec ry hy
    · rw [hE y hye] at hy
      exact ⟨(hJ.e1 y ry hy).1, (hJ.e1 y ry hy).2.1, fun K hK =>
        (hJ.e1_split hi hy hK).imp_right (.imp_left (hexc y K hye))⟩
  · intro K z hz
    rw [L_upd_edge] at hz
    by_cases hze : z = e
    · subst hze; rw [hEe]; exact hlst K hz
    · rw [hE z hze]; exact hJ.e2 K z hz
  · intro K; rw [L_upd_edge]; exact hJ.e3 K
  · exact hloc
  · intro j ph2 hji hj
    refine ⟨Nat.le_refl _, fun n h => by rw [hN]; exact h, fun _ _ h => h, fun _ _ => L_upd_edge .., ?_, ?_, ?_,
      fun n _ h => by rw [hN]; exact h⟩
    · intro y hy
      exact hE y (fun h => hcre j ph2 hji hj (h ▸ hy))
    · intro y hy
      refine ⟨fun r hr => ?_, fun K h => by rw [L_upd_edge]; exact h⟩
      by_cases hye : y = e
      · subst hye; rw [hEe] at hr; exact hdel j ph2 hji hj hy r hr
      · rw [hE y hye] at hr; exact hr
    · intro y hy r hr
      by_cases hye : y = e
      · subst hye; rw [hEe]; exact hupd j ph2 hji hj hy r hr
      · exact ⟨r, by rw [hE y hye]; exact hr, rfl, rfl, rfl⟩
  · intro k hk; rw [hh] at hk; cases hk
  · exact fun x hx => Or.inl (hc x hx)
  · intro x hx; rw [hm] at hx; cases hx

/-- a write of `l'` to the held list `k`: what is dropped is owed afterwards (`hkeep`); what is added is no id
    handed out before the phase (`hold`: a thread deleting such an id keeps seeing it unlisted) -/
theorem J.step_list {ph : Ph} (hJ : J ne0 D phs s held) (hi : phs[i]? = some ph) (ph' : Ph) (k : Key) (l' : List Nat)
    (hkl : k.isList = true) (hk : ph.holds = some k) (hk' : ph'.holds = some k) (hnd : l'.Nodup)
    (hkeep : ∀ x, x ∈ L s.kv k → x ∈ l' ∨ Exc ph' x k)
    (hexc : ∀ x K, Exc ph x K → (K = k ∧ x ∈ l') ∨ Exc ph' x K)
    (hnew : ∀ x ∈ l', x ∈ L s.kv k ∨ ∃ r, edgeAt s.kv x = some r ∧ k ∈ req r)
    (hold : ∀ x ∈ l', x ∈ L s.kv k ∨ ne0 < x)
    (hloc : Local ne0 D (upd s.kv k (some (.list l'))) s.ne held ph')
    (hc : ∀ x, ph'.creates = some x → ph.creates = some x) (hm : ph'.makes = none) :
    J ne0 D (phs.set i ph') { s with kv := upd s.kv k (some (.list l')) } held := by
  have hL : ∀ K, L (upd s.kv k (some (.list l'))) K = if K = k then l' else L s.kv K := fun K => L_upd_list _ _ _ _ hkl
  have hE : ∀ y, edgeAt (upd s.kv k (some (.list l'))) y = edgeAt s.kv y := fun y => edgeAt_upd_list _ _ _ _ hkl
  have hN : ∀ n, nodeEx (upd s.kv k (some (.list l'))) n = nodeEx s.kv n := fun n => nodeEx_upd_list _ _ _ _ hkl
  apply hJ.step hi ph' { s with kv := upd s.kv k (some (.list l')) } held (Nat.le_refl _) (Nat.le_refl _)
  · intro y hy; rw [hE]; exact hJ.fresh y hy
  · intro n hn; rw [hN]; exact hJ.freshN n hn
  · intro y ry hy
    rw [hE] at hy
    obtain ⟨a1, a2, a3⟩ := hJ.e1 y ry hy
    refine ⟨hN _ ▸ a1, hN _ ▸ a2, fun K hK => ?_⟩
    rw [hL]
    rcases hJ.e1_split hi hy hK with h | he | h
    · split
      · rename_i hKk; subst hKk
        exact (hkeep y h).imp id Or.inl
      · exact Or.inl h
    · rcases hexc y K he with ⟨rfl, h⟩ | h
      · exact Or.inl (by rw [if_pos rfl]; exact h)
      · exact Or.inr (Or.inl h)
    · exact Or.inr (Or.inr h)
  · intro K z hz
    rw [hL] at hz; rw [hE]
    split at hz
    · rename_i hKk; subst hKk
      rcases hnew z hz with h | h
      · exact hJ.e2 K z h
      · exact h
    · exact hJ.e2 K z hz
  · intro K; rw [hL]; split
    · exact hnd
    · exact hJ.e3 K
  · exact hloc
  · intro j ph2 hji hj
    refine ⟨Nat.le_refl _, fun n h => by rw [hN]; exact h, fun _ _ h => h, ?_, fun y _ => hE y, ?_,
      fun e _ r hr => ⟨r, by rw [hE]; exact hr, rfl, rfl, rfl⟩, fun n _ h => by rw [hN]; exact h⟩
    · intro k2 hk2
      rw [hL, if_neg]
      rintro rfl
      exact hJ.excl j i ph2 _ hji hj hi k2 hk2 hk
    · intro e he
      refine ⟨fun r' hr' => by rw [hE] at hr'; exact hr', fun K hK => ?_⟩
      rw [hL]; split
      · rename_i hKk; subst hKk
        intro h
        rcases hold e h with h | h
        · exact hK h
        · have := (hJ.loc j ph2 hj).deletes_le he; omega
      · exact hK
  · intro k2 hk2; rw [hk'] at hk2; cases hk2; exact Or.inl hk
  · exact fun x hx => Or.inl (hc x hx)
  · intro x hx; rw [hm] at hx; cases hx

/-- a write that changes no edge record and no adjacency list, and makes no node invisible -/
theorem J.step_nodes {ph : Ph}
    (hJ : J ne0 D phs s held) (hi : phs[i]? = some ph) (ph' : Ph) (kv' : KV)
    (hN : ∀ n, nodeEx s.kv n = true → nodeEx kv' n = true)
    (hNf : ∀ n, s.nn < n → nodeEx kv' n = false)
    (hhid : ∀ (j : Nat) (ph2 : Ph), j ≠ i → phs[j]? = some ph2 → ∀ id, ph2.makes = some id →
      nodeEx s.kv id = false → nodeEx kv' id = false)
    (hE : ∀ x, edgeAt kv' x = edgeAt s.kv x) (hL : ∀ K, L kv' K = L s.kv K)
    (hexc : ∀ x K, Exc ph x K → Exc ph' x K)
    (hloc : Local ne0 D kv' s.ne held ph')
    (hexcl : ∀ k, ph'.holds = some k → ph.holds = some k ∨ k ∉ held)
    (huniq : ∀ x, ph'.creates = some x → ph.creates = some x ∨ s.ne < x)
    (hmk : ∀ x, ph'.makes = some x → ph.makes = some x) :
    J ne0 D (phs.set i ph') { s with kv := kv' } held := by
  apply hJ.step hi ph' { s with kv := kv' } held (Nat.le_refl _) (Nat.le_refl _)
  · intro x hx; rw [hE]; exact hJ.fresh x hx
  · exact hNf
  · intro x r hr
    simp only [hE, hL] at hr ⊢
    exact ⟨hN _ (hJ.e1 x r hr).1, hN _ (hJ.e1 x r hr).2.1, fun K hK =>
      (hJ.e1_split hi hr hK).imp_right (.imp_left (hexc x K))⟩
  · intro K x hx; simp only [hE, hL] at hx ⊢; exact hJ.e2 K x hx
  · intro K; rw [hL]; exact hJ.e3 K
  · exact hloc
  · intro j ph2 hji hj
    exact ⟨Nat.le_refl _, hN, fun _ _ h => h, fun k _ => hL k, fun x _ => hE x,
      fun e _ => ⟨fun r hr => by rw [hE] at hr; exact hr, fun K h => by rw [hL]; exact h⟩,
      fun e _ r hr => ⟨r, by rw [hE]; exact hr, rfl, rfl, rfl⟩, hhid j ph2 hji hj⟩
  · exact hexcl
  · exact huniq
  · exact fun x hx => Or.inl (hmk x hx)

/-- a write that changes no view of the store (node existence, edge records, adjacency lists) -/
theorem J.step_views {ph : Ph}
    (hJ : J ne0 D phs s held) (hi : phs[i]? = some ph) (ph' : Ph) (kv' : KV)
    (hN : ∀ n, nodeEx kv' n = nodeEx s.kv n)
    (hE : ∀ x, edgeAt kv' x = edgeAt s.kv x) (hL : ∀ K, L kv' K = L s.kv K)
    (hexc : ∀ x K, Exc ph x K → Exc ph' x K)
    (hloc : Local ne0 D kv' s.ne held ph')
    (hexcl : ∀ k, ph'.holds = some k → ph.holds = some k ∨ k ∉ held)
    (huniq : ∀ x, ph'.creates = some x → ph.creates = some x ∨ s.ne < x)
    (hmk : ∀ x, ph'.makes = some x → ph.makes = some x) :
    J ne0 D (phs.set i ph') { s with kv := kv' } held :=
  hJ.step_nodes hi ph' kv' (fun n h => (hN n).trans h) (fun n hn => (hN n).trans (hJ.freshN n hn))
    (fun _ _ _ _ id _ h => (hN id).trans h) hE hL hexc hloc hexcl huniq hmk

theorem J.lists_of_invisible_node (hJ : J ne0 D phs s held) {id : Nat} (hid : nodeEx s.kv id = false) :
    L s.kv (.out id) = [] ∧ L s.kv (.inn id) = [] :=
  lists_nil_of_missing (fun x r hr => ⟨(hJ.e1 x r hr).1, (hJ.e1 x r hr).2.1⟩) hJ.e2 hid

/-- a thread writes the record of node `n` (a node no OTHER thread is about to make visible) and
    finishes its operation: only `nodeEx n` may change, to `true` -/
theorem J.step_putNode {ph : Ph}
    (hJ : J ne0 D phs s held) (hi : phs[i]? = some ph) (n : Nat) (val : Val) (res : Res)
    (hle : n ≤ s.nn)
    (hother : ∀ (j : Nat) (ph2 : Ph), j ≠ i → phs[j]? = some ph2 → ph2.makes ≠ some n)
    (hexc : ∀ x K, ¬ Exc ph x K) :
    J ne0 D (phs.set i (.fin res)) { s with kv := upd s.kv (.node n) (some val) } held := by
  have hne : ∀ m, m ≠ n → nodeEx (upd s.kv (.node n) (some val)) m = nodeEx s.kv m := fun m hm => by
    rw [nodeEx_upd, if_neg (fun h => hm (Key.node.inj h))]
  refine hJ.step_nodes hi _ _ (fun m hm => ?_) (fun m hm => ?_) (fun j ph2 hji hj id hid h => ?_)
    (fun x => by rw [edgeAt_upd, if_neg (fun h => Key.noConfusion h)]) (fun K => L_upd_node ..)
    (fun x K h => absurd h (hexc x K)) trivial (fun _ h => nomatch h) (fun _ h => nomatch h) (fun _ h => nomatch h)
  · rw [nodeEx_upd]; split
    · rfl
    · exact hm
  · rw [hne m (Nat.ne_of_gt (Nat.lt_of_le_of_lt hle hm))]; exact hJ.freshN m hm
  · rw [hne id (fun h => hother j ph2 hji hj (h ▸ hid))]; exact h

theorem req_cons (r : EdgeRec) : ∃ ks, req r = .out r.src :: ks := ⟨_, rfl⟩

theorem step_ceA {a b : Nat} {d : Bool} {ty v : Nat}
    (hJ : J ne0 D phs s held) (hi : phs[i]? = some (.ceA a b d ty v)) :
    ∃ ph', ((Ph.ceA a b d ty v).prog.step s).1 = ph'.prog ∧
      J ne0 D (phs.set i ph') ((Ph.ceA a b d ty v).prog.step s).2 held := by
  show ∃ ph', (if !(s.kv (.node a)).isSome then Prog.done (.nodeNotFound a) else createEdgeCheckB a b d ty v) = ph'.prog ∧
    J ne0 D (phs.set i ph') s held
  cases hn : (s.kv (.node a)).isSome with
  | false => exact ⟨.fin (.nodeNotFound a), rfl, hJ.step_idle hi _ (fun _ _ h => h) trivial rfl rfl rfl⟩
  | true => exact ⟨.ceB a b d ty v, rfl, hJ.step_idle hi _ (fun _ _ h => h) hn rfl rfl rfl⟩

theorem step_ceB {a b : Nat} {d : Bool} {ty v : Nat}
    (hJ : J ne0 D phs s held) (hi : phs[i]? = some (.ceB a b d ty v)) :
    ∃ ph', ((Ph.ceB a b d ty v).prog.step s).1 = ph'.prog ∧
      J ne0 D (phs.set i ph') ((Ph.ceB a b d ty v).prog.step s).2 held := by
  have ha : nodeEx s.kv a = true := hJ.loc i _ hi
  show ∃ ph', (if !(s.kv (.node b)).isSome then Prog.done (.nodeNotFound b) else createEdgeAlloc a b d ty v) = ph'.prog ∧
    J ne0 D (phs.set i ph') s held
  cases hn : (s.kv (.node b)).isSome with
  | false => exact ⟨.fin (.nodeNotFound b), rfl, hJ.step_idle hi _ (fun _ _ h => h) trivial rfl rfl rfl⟩
  | true => exact ⟨.ceAl a b d ty v, rfl, hJ.step_idle hi _ (fun _ _ h => h) ⟨ha, hn⟩ rfl rfl rfl⟩

theorem step_pre {x a b : Nat} {d : Bool} {ty v : Nat}
    (hJ : J ne0 D phs s held) (hi : phs[i]? = some (.pre x a b d ty v)) :
    ∃ ph', ((Ph.pre x a b d ty v).prog.step s).1 = ph'.prog ∧
      J ne0 D (phs.set i ph') ((Ph.pre x a b d ty v).prog.step s).2 held := by
  obtain ⟨hx0, hlt, hle, ha, hb⟩ := hJ.loc i _ hi
  refine ⟨.add x ⟨a, b, d, ty, v⟩ (.out a) (req ⟨a, b, d, ty, v⟩).tail .acq, by rw [Ph.prog, createEdgeFrom_eq]; rfl, ?_⟩
  rw [Ph.prog, createEdgeFrom_eq]
  refine hJ.step_edge hi _ x _ hle ?_ (fun _ _ _ h => h.elim) ?_ ⟨by rw [edgeAt_upd, if_pos rfl]; rfl, hlt, hle, fun _ h => h, trivial⟩
    (fun j ph2 hji hj hc => hJ.uniq j i ph2 _ hji hj hi x hc rfl) ?_ ?_ rfl (fun _ h => h) rfl
  · rintro r ⟨⟩
    exact ⟨ha, hb, fun K hK => Or.inr (Or.inl ⟨rfl, hK⟩)⟩
  · intro K hK
    obtain ⟨r, hr, _⟩ := hJ.e2 K x hK
    rw [hx0] at hr; cases hr
  · intro j ph2 _ hj hd
    have := (hJ.loc j ph2 hj).deletes_le hd; omega
  · intro j ph2 _ hj hu
    have := ((hJ.loc j ph2 hj).updates_le hu).1; omega

theorem step_add_get {x : Nat} {r : EdgeRec} {k : Key} {ks : List Key}
    (hJ : J ne0 D phs s held) (hi : phs[i]? = some (.add x r k ks .get)) :
    ∃ ph', ((Ph.add x r k ks .get).prog.step s).1 = ph'.prog ∧
      J ne0 D (phs.set i ph') ((Ph.add x r k ks .get).prog.step s).2 held := by
  obtain ⟨h1, h2, h3, h4, h5⟩ := hJ.loc i _ hi
  have hkl : k.isList = true := req_isList (h4 k (List.mem_cons_self ..))
  refine ⟨.add x r k ks (.put (L s.kv k)), by rw [L_of_isList hkl]; rfl, ?_⟩
  exact hJ.step_same hi _ s.ne held (Nat.le_refl _) (fun _ _ h => h) ⟨h1, h2, h3, h4, h5, rfl⟩
    (fun _ _ _ _ _ _ h => h) (fun _ hk => Or.inl hk) (fun _ hy => Or.inl hy) (fun _ h => nomatch h)

theorem step_add_put {x : Nat} {r : EdgeRec} {k : Key} {ks : List Key} {l : List Nat}
    (hJ : J ne0 D phs s held) (hi : phs[i]? = some (.add x r k ks (.put l))) :
    ∃ ph', ((Ph.add x r k ks (.put l)).prog.step s).1 = ph'.prog ∧
      J ne0 D (phs.set i ph') ((Ph.add x r k ks (.put l)).prog.step s).2 held := by
  obtain ⟨h1, h2, h3, h4, h5, rfl⟩ := hJ.loc i _ hi
  have hkl : k.isList = true := req_isList (h4 k (List.mem_cons_self ..))
  refine ⟨.add x r k ks .rel, rfl, ?_⟩
  refine hJ.step_list hi _ k (ins (L s.kv k) x) hkl rfl rfl (nodup_ins (hJ.e3 k)) (fun y h => Or.inl (mem_ins.mpr (Or.inl h)))
    ?_ ?_ ?_ ⟨by rw [edgeAt_upd_list _ _ _ _ hkl]; exact h1, h2, h3, h4, h5⟩ (fun _ h => h) rfl
  · rintro y K ⟨rfl, hm⟩
    rcases List.mem_cons.mp hm with rfl | hm
    · exact Or.inl ⟨rfl, mem_ins.mpr (Or.inr rfl)⟩
    · exact Or.inr ⟨rfl, hm⟩
  · intro y hy
    rcases mem_ins.mp hy with h | rfl
    · exact Or.inl h
    · exact Or.inr ⟨r, h1, h4 k (List.mem_cons_self ..)⟩
  · intro y hy
    rcases mem_ins.mp hy with h | rfl
    · exact Or.inl h
    · exact Or.inr h2

theorem step_deA {e : Nat} (hJ : J ne0 D phs s held) (hi : phs[i]? = some (.deA e)) :
    ∃ ph', ((Ph.deA e).prog.step s).1 = ph'.prog ∧
      J ne0 D (phs.set i ph') ((Ph.deA e).prog.step s).2 held := by
  obtain ⟨hle, hD⟩ := hJ.loc i _ hi
  dsimp only [Ph.prog, deleteEdgeProg, Prog.step]
  cases hr : edgeOf (s.kv (.edge e)) with
  | none => exact ⟨.fin (.edgeNotFound e), rfl, hJ.step_idle hi _ (fun _ _ h => h) trivial rfl rfl rfl⟩
  | some r =>
    refine ⟨.rm e r (.out r.src) (req r).tail .acq, deleteEdgeBody_eq e r, hJ.step_idle hi _ (fun _ _ h => h.elim) ?_ rfl rfl rfl⟩
    exact ⟨hle, hD, fun r' hr' => Option.some.inj (hr'.symm.trans hr), fun _ h => h, fun K hK hn => absurd hK hn, trivial⟩

theorem step_rm_get {e : Nat} {r : EdgeRec} {k : Key} {ks : List Key}
    (hJ : J ne0 D phs s held) (hi : phs[i]? = some (.rm e r k ks .get)) :
    ∃ ph', ((Ph.rm e r k ks .get).prog.step s).1 = ph'.prog ∧
      J ne0 D (phs.set i ph') ((Ph.rm e r k ks .get).prog.step s).2 held := by
  obtain ⟨h1, hD, h2, h3, h4, h5⟩ := hJ.loc i _ hi
  have hkl : k.isList = true := req_isList (h3 k (List.mem_cons_self ..))
  have go : ∀ st : Stage, st.holding = true → Local ne0 D s.kv s.ne held (.rm e r k ks st) →
      J ne0 D (phs.set i (.rm e r k ks st)) s held := fun st hst hloc =>
    hJ.step_same hi _ s.ne held (Nat.le_refl _) (fun _ _ h => h) hloc (fun _ _ _ _ _ _ h => h)
      (fun k' hk => Or.inl (by rw [Ph.holds, hst] at hk; exact hk)) (fun _ h => nomatch h) (fun _ h => nomatch h)
  dsimp only [Ph.prog, rmAt, Prog.step]
  cases hv : s.kv k with
  | none =>
    refine ⟨.rm e r k ks .rel, rfl, go _ rfl ⟨h1, hD, h2, h3, fun K hK hn => ?_, h5⟩⟩
    by_cases hKk : K = k
    · rw [hKk, L_of_isList hkl, hv]; exact List.not_mem_nil
    · exact h4 K hK (fun h => (List.mem_cons.mp h).elim hKk hn)
  | some val =>
    refine ⟨.rm e r k ks (.put (L s.kv k)), by rw [L_of_isList hkl, hv]; rfl, go _ rfl ⟨h1, hD, h2, h3, h4, h5, rfl⟩⟩

theorem step_rm_put {e : Nat} {r : EdgeRec} {k : Key} {ks : List Key} {l : List Nat}
    (hJ : J ne0 D phs s held) (hi : phs[i]? = some (.rm e r k ks (.put l))) :
    ∃ ph', ((Ph.rm e r k ks (.put l)).prog.step s).1 = ph'.prog ∧
      J ne0 D (phs.set i ph') ((Ph.rm e r k ks (.put l)).prog.step s).2 held := by
  obtain ⟨h1, hD, h2, h3, h4, h5, rfl⟩ := hJ.loc i _ hi
  have hkl : k.isList = true := req_isList (h3 k (List.mem_cons_self ..))
  refine ⟨.rm e r k ks .rel, rfl, ?_⟩
  refine hJ.step_list hi _ k (rmv (L s.kv k) e) hkl rfl rfl (nodup_rmv (hJ.e3 k)) ?_ (fun _ _ h => Or.inr h)
    (fun y hy => Or.inl (mem_rmv.mp hy).1) (fun y hy => Or.inl (mem_rmv.mp hy).1) ?_ (fun _ h => h) rfl
  · intro y hy
    by_cases hye : y = e
    · exact Or.inr hye.symm
    · exact Or.inl (mem_rmv.mpr ⟨hy, hye⟩)
  · refine ⟨h1, hD, by rw [edgeAt_upd_list _ _ _ _ hkl]; exact h2, h3, fun K hK hn => ?_, h5⟩
    rw [L_upd_list _ _ _ _ hkl]; split
    · exact fun h => (mem_rmv.mp h).2 rfl
    · rename_i hKk
      exact h4 K hK (fun h => (List.mem_cons.mp h).elim hKk hn)

theorem step_drec {e : Nat} {r : EdgeRec} (hJ : J ne0 D phs s held) (hi : phs[i]? = some (.drec e r)) :
    ∃ ph', ((Ph.drec e r).prog.step s).1 = ph'.prog ∧
      J ne0 D (phs.set i ph') ((Ph.drec e r).prog.step s).2 held := by
  obtain ⟨h1, hD, h2, h3⟩ := hJ.loc i _ hi
  refine ⟨.fin (if (s.kv (.edge e)).isSome then .ok else .storage), rfl, ?_⟩
  refine hJ.step_edge hi _ e none (Nat.le_trans h1 hJ.ne_ge) (fun _ h => nomatch h) (fun x K hx h => absurd h.symm hx) ?_
    trivial ?_ (fun _ _ _ _ _ _ h => nomatch h) ?_ rfl (fun _ h => nomatch h) rfl
  · intro K hK
    obtain ⟨rz, hrz, hKr⟩ := hJ.e2 K e hK
    cases h2 rz hrz
    exact absurd hK (h3 K hKr)
  · intro j ph2 _ hj hc
    have := ((hJ.loc j ph2 hj).creates_le hc).1; omega
  · intro j ph2 _ hj hu
    exact absurd hD ((hJ.loc j ph2 hj).updates_le hu).2.1

theorem step_cnP1 {id l v : Nat} (hJ : J ne0 D phs s held) (hi : phs[i]? = some (.cnP1 id l v)) :
    ∃ ph', ((Ph.cnP1 id l v).prog.step s).1 = ph'.prog ∧
      J ne0 D (phs.set i ph') ((Ph.cnP1 id l v).prog.step s).2 held := by
  have hid : nodeEx s.kv id = false := hJ.loc i _ hi
  refine ⟨.cnP2 id l v, rfl, hJ.step_views hi _ _ (fun n => nodeEx_upd_list _ _ _ _ rfl) (fun x => edgeAt_upd_list _ _ _ _ rfl)
    (fun K => ?_) (fun _ _ h => h.elim) ((nodeEx_upd_list _ _ _ _ rfl).trans hid)
    (fun _ h => nomatch h) (fun _ h => nomatch h) (fun _ h => h)⟩
  rw [L_upd_list _ _ _ _ rfl]; split
  · rename_i h; rw [h]; exact (hJ.lists_of_invisible_node hid).1.symm
  · rfl

theorem step_cnP2 {id l v : Nat} (hJ : J ne0 D phs s held) (hi : phs[i]? = some (.cnP2 id l v)) :
    ∃ ph', ((Ph.cnP2 id l v).prog.step s).1 = ph'.prog ∧
      J ne0 D (phs.set i ph') ((Ph.cnP2 id l v).prog.step s).2 held := by
  have hid : nodeEx s.kv id = false := hJ.loc i _ hi
  refine ⟨.cnP3 id l v, rfl, hJ.step_views hi _ _ (fun n => nodeEx_upd_list _ _ _ _ rfl) (fun x => edgeAt_upd_list _ _ _ _ rfl)
    (fun K => ?_) (fun _ _ h => h.elim) ((nodeEx_upd_list _ _ _ _ rfl).trans hid)
    (fun _ h => nomatch h) (fun _ h => nomatch h) (fun _ h => h)⟩
  rw [L_upd_list _ _ _ _ rfl]; split
  · rename_i h; rw [h]; exact (hJ.lists_of_invisible_node hid).2.symm
  · rfl

theorem step_cnP3 {id l v : Nat} (hJ : J ne0 D phs s held) (hi : phs[i]? = some (.cnP3 id l v)) :
    ∃ ph', ((Ph.cnP3 id l v).prog.step s).1 = ph'.prog ∧
      J ne0 D (phs.set i ph') ((Ph.cnP3 id l v).prog.step s).2 held :=
  ⟨.fin (.id id), rfl, hJ.step_putNode hi id _ _ (hJ.mkle i _ id hi rfl)
    (fun j ph2 hji hj hm => hJ.uniqN j i ph2 _ hji hj hi id hm rfl) (fun _ _ h => h.elim)⟩

theorem step_alA {n l : Nat} (hJ : J ne0 D phs s held) (hi : phs[i]? = some (.alA n l)) :
    ∃ ph', ((Ph.alA n l).prog.step s).1 = ph'.prog ∧
      J ne0 D (phs.set i ph') ((Ph.alA n l).prog.step s).2 held := by
  dsimp only [Ph.prog, addLabelProg, Prog.step]
  cases hv : s.kv (.node n) with
  | none => exact ⟨.fin (.nodeNotFound n), rfl, hJ.step_idle hi _ (fun _ _ h => h) trivial rfl rfl rfl⟩
  | some val =>
    dsimp only
    split
    · exact ⟨.fin .ok, rfl, hJ.step_idle hi _ (fun _ _ h => h) trivial rfl rfl rfl⟩
    · exact ⟨.lbB n (labelsOf val ++ [l]), rfl, hJ.step_idle hi _ (fun _ _ h => h) trivial rfl rfl rfl⟩

theorem step_rlA {n l : Nat} (hJ : J ne0 D phs s held) (hi : phs[i]? = some (.rlA n l)) :
    ∃ ph', ((Ph.rlA n l).prog.step s).1 = ph'.prog ∧
      J ne0 D (phs.set i ph') ((Ph.rlA n l).prog.step s).2 held := by
  dsimp only [Ph.prog, removeLabelProg, Prog.step]
  cases hv : s.kv (.node n) with
  | none => exact ⟨.fin (.nodeNotFound n), rfl, hJ.step_idle hi _ (fun _ _ h => h) trivial rfl rfl rfl⟩
  | some val =>
    dsimp only
    split
    · exact ⟨.lbB n ((labelsOf val).filter (fun x => x != l)), rfl, hJ.step_idle hi _ (fun _ _ h => h) trivial rfl rfl rfl⟩
    · exact ⟨.fin .ok, rfl, hJ.step_idle hi _ (fun _ _ h => h) trivial rfl rfl rfl⟩

theorem step_lbB {n : Nat} {labs : List Nat} (hJ : J ne0 D phs s held) (hi : phs[i]? = some (.lbB n labs)) :
    ∃ ph', ((Ph.lbB n labs).prog.step s).1 = ph'.prog ∧
      J ne0 D (phs.set i ph') ((Ph.lbB n labs).prog.step s).2 held := by
  dsimp only [Ph.prog, Prog.step]
  cases hv : s.kv (.node n) with
  | none => exact ⟨.fin (.nodeNotFound n), rfl, hJ.step_idle hi _ (fun _ _ h => h) trivial rfl rfl rfl⟩
  | some val =>
    exact ⟨.unP n (.node labs (propOf val)), rfl,
      hJ.step_idle hi _ (fun _ _ h => h) (show nodeEx s.kv n = true by rw [nodeEx, hv]; rfl) rfl rfl rfl⟩

theorem step_unA {n : Nat} {lab : Option Nat} {v : Nat} (hJ : J ne0 D phs s held) (hi : phs[i]? = some (.unA n lab v)) :
    ∃ ph', ((Ph.unA n lab v).prog.step s).1 = ph'.prog ∧
      J ne0 D (phs.set i ph') ((Ph.unA n lab v).prog.step s).2 held := by
  dsimp only [Ph.prog, updateNodeProg, Prog.step]
  cases hv : s.kv (.node n) with
  | none => exact ⟨.fin (.nodeNotFound n), rfl, hJ.step_idle hi _ (fun _ _ h => h) trivial rfl rfl rfl⟩
  | some val => exact ⟨.unB n lab v, rfl, hJ.step_idle hi _ (fun _ _ h => h) trivial rfl rfl rfl⟩

theorem step_unB {n : Nat} {lab : Option Nat} {v : Nat} (hJ : J ne0 D phs s held) (hi : phs[i]? = some (.unB n lab v)) :
    ∃ ph', ((Ph.unB n lab v).prog.step s).1 = ph'.prog ∧
      J ne0 D (phs.set i ph') ((Ph.unB n lab v).prog.step s).2 held := by
  dsimp only [Ph.prog, updateNodeSecond, Prog.step]
  cases hv : s.kv (.node n) with
  | none => exact ⟨.fin (.nodeNotFound n), rfl, hJ.step_idle hi _ (fun _ _ h => h) trivial rfl rfl rfl⟩
  | some val =>
    have hn : nodeEx s.kv n = true := by rw [nodeEx, hv]; rfl
    cases val with
    | node l v0 => exact ⟨.unP n (.node ((lab.map fun x => [x]).getD l) v), rfl, hJ.step_idle hi _ (fun _ _ h => h) hn rfl rfl rfl⟩
    | edge r => exact ⟨.unP n (.node ((lab.map fun x => [x]).getD []) v), rfl, hJ.step_idle hi _ (fun _ _ h => h) hn rfl rfl rfl⟩
    | list l => exact ⟨.unP n (.node ((lab.map fun x => [x]).getD []) v), rfl, hJ.step_idle hi _ (fun _ _ h => h) hn rfl rfl rfl⟩

theorem step_unP {n : Nat} {val : Val} (hJ : J ne0 D phs s held) (hi : phs[i]? = some (.unP n val)) :
    ∃ ph', ((Ph.unP n val).prog.step s).1 = ph'.prog ∧
      J ne0 D (phs.set i ph') ((Ph.unP n val).prog.step s).2 held := by
  have hn : nodeEx s.kv n = true := hJ.loc i _ hi
  refine ⟨.fin .ok, rfl, hJ.step_putNode hi n val .ok ?_ ?_ (fun _ _ h => h.elim)⟩
  · rcases Nat.lt_or_ge s.nn n with h | h
    · rw [hJ.freshN n h] at hn; cases hn
    · exact h
  · intro j ph2 _ hj hm
    have hl := hJ.loc j ph2 hj
    have : nodeEx s.kv n = false := by
      cases ph2 <;> first | (cases hm; exact hl) | cases hm
    rw [hn] at this; cases this

theorem step_ueA {e v : Nat} (hJ : J ne0 D phs s held) (hi : phs[i]? = some (.ueA e v)) :
    ∃ ph', ((Ph.ueA e v).prog.step s).1 = ph'.prog ∧
      J ne0 D (phs.set i ph') ((Ph.ueA e v).prog.step s).2 held := by
  have hl : e ≤ ne0 ∧ ¬ D e := hJ.loc i _ hi
  dsimp only [Ph.prog, updateEdgeProg, Prog.step]
  cases hv : edgeOf (s.kv (.edge e)) with
  | none => exact ⟨.fin (.edgeNotFound e), rfl, hJ.step_idle hi _ (fun _ _ h => h) trivial rfl rfl rfl⟩
  | some r => exact ⟨.ueB e v, rfl, hJ.step_idle hi _ (fun _ _ h => h) hl rfl rfl rfl⟩

theorem step_ueB {e v : Nat} (hJ : J ne0 D phs s held) (hi : phs[i]? = some (.ueB e v)) :
    ∃ ph', ((Ph.ueB e v).prog.step s).1 = ph'.prog ∧
      J ne0 D (phs.set i ph') ((Ph.ueB e v).prog.step s).2 held := by
  obtain ⟨hl, hD⟩ : e ≤ ne0 ∧ ¬ D e := hJ.loc i _ hi
  dsimp only [Ph.prog, updateEdgeSecond, Prog.step]
  cases hv : s.kv (.edge e) with
  | none => exact ⟨.fin (.edgeNotFound e), rfl, hJ.step_idle hi _ (fun _ _ h => h) trivial rfl rfl rfl⟩
  | some val =>
    have hat : edgeAt s.kv e = edgeOf (some val) := by rw [edgeAt, hv]
    cases val with
    | edge r => exact ⟨.ueP e r v, rfl, hJ.step_idle hi _ (fun _ _ h => h) ⟨hl, hD, r, hat, rfl, rfl, rfl⟩ rfl rfl rfl⟩
    | node l v0 => exact ⟨.ueO e (.node l v0), rfl, hJ.step_idle hi _ (fun _ _ h => h) ⟨hl, rfl, hat⟩ rfl rfl rfl⟩
    | list l => exact ⟨.ueO e (.list l), rfl, hJ.step_idle hi _ (fun _ _ h => h) ⟨hl, rfl, hat⟩ rfl rfl rfl⟩

theorem step_ueP {e : Nat} {r : EdgeRec} {v : Nat} (hJ : J ne0 D phs s held) (hi : phs[i]? = some (.ueP e r v)) :
    ∃ ph', ((Ph.ueP e r v).prog.step s).1 = ph'.prog ∧
      J ne0 D (phs.set i ph') ((Ph.ueP e r v).prog.step s).2 held := by
  obtain ⟨hl, hD, r', hr', hs⟩ := hJ.loc i _ hi
  have hs' : sameShape { r with ver := v } r' := ⟨hs.1.symm, hs.2.1.symm, hs.2.2.symm⟩
  refine ⟨.fin .ok, rfl, ?_⟩
  refine hJ.step_edge hi _ e _ (Nat.le_trans hl hJ.ne_ge) ?_ (fun _ _ _ h => h.elim) ?_
    trivial ?_ ?_ ?_ rfl (fun _ h => nomatch h) rfl
  · rintro _ ⟨⟩
    obtain ⟨a1, a2, a3⟩ := hJ.e1 e r' hr'
    refine ⟨hs.1 ▸ a1, hs.2.1 ▸ a2, fun K hK => ?_⟩
    rcases a3 K (req_shape hs' ▸ hK) with h | ⟨j, ph2, hj, he⟩
    · exact Or.inl h
    · by_cases hji : j = i
      · subst hji; rw [hi] at hj; cases hj; exact he.elim
      · exact Or.inr (Or.inr ⟨j, ph2, hji, hj, he⟩)
  · intro K hK
    obtain ⟨rz, hrz, hKr⟩ := hJ.e2 K e hK
    rw [hr'] at hrz; cases hrz
    exact ⟨_, rfl, req_shape hs' ▸ hKr⟩
  · intro j ph2 _ hj hc
    have := ((hJ.loc j ph2 hj).creates_le hc).1; omega
  · intro j ph2 _ hj hd
    rcases (hJ.loc j ph2 hj).deletes_D hd with h | h
    · exact absurd h hD
    · rw [hr'] at h; cases h
  · intro j ph2 _ _ _ r2 hr2
    rw [hr'] at hr2; cases hr2
    exact ⟨_, rfl, hs'⟩

theorem step_ueO {e : Nat} {other : Val} (hJ : J ne0 D phs s held) (hi : phs[i]? = some (.ueO e other)) :
    ∃ ph', ((Ph.ueO e other).prog.step s).1 = ph'.prog ∧
      J ne0 D (phs.set i ph') ((Ph.ueO e other).prog.step s).2 held := by
  obtain ⟨hl, ho, hn⟩ := hJ.loc i _ hi
  refine ⟨.fin .ok, rfl, hJ.step_views hi _ _ (fun n => ?_) (fun y => ?_) (fun K => L_upd_edge ..) (fun _ _ h => h.elim)
    trivial (fun _ h => nomatch h) (fun _ h => nomatch h) (fun _ h => nomatch h)⟩
  · rw [nodeEx_upd, if_neg (fun h => Key.noConfusion h)]
  · rw [edgeAt_upd]; split
    · rename_i h; cases h; rw [ho, hn]
    · rfl

theorem store_pres {ph : Ph} (hJ : J ne0 D phs s held) (hi : phs[i]? = some ph) (hlab : ph.prog.label.isSome = true) :
    ∃ ph', (ph.prog.step s).1 = ph'.prog ∧ J ne0 D (phs.set i ph') (ph.prog.step s).2 held := by
  cases ph with
  | fin res => cases hlab
  | ceA a b d ty v => exact step_ceA hJ hi
  | ceB a b d ty v => exact step_ceB hJ hi
  | ceAl a b d ty v => cases hlab
  | pre x a b d ty v => exact step_pre hJ hi
  | add x r k ks st =>
    cases st with
    | acq => cases hlab
    | get => exact step_add_get hJ hi
    | put l => exact step_add_put hJ hi
    | rel => cases hlab
  | deA e => exact step_deA hJ hi
  | rm e r k ks st =>
    cases st with
    | acq => cases hlab
    | get => exact step_rm_get hJ hi
    | put l => exact step_rm_put hJ hi
    | rel => cases hlab
  | drec e r => exact step_drec hJ hi
  | cnA l v => cases hlab
  | cnP1 id l v => exact step_cnP1 hJ hi
  | cnP2 id l v => exact step_cnP2 hJ hi
  | cnP3 id l v => exact step_cnP3 hJ hi
  | alA n l => exact step_alA hJ hi
  | rlA n l => exact step_rlA hJ hi
  | lbB n labs => exact step_lbB hJ hi
  | unA n lab v => exact step_unA hJ hi
  | unB n lab v => exact step_unB hJ hi
  | unP n val => exact step_unP hJ hi
  | ueA e v => exact step_ueA hJ hi
  | ueB e v => exact step_ueB hJ hi
  | ueP e r v => exact step_ueP hJ hi
  | ueO e other => exact step_ueO hJ hi

/-- the operations of `adjacency_rmw_atomic`: `create_edge` (any arguments) and `delete_edge` of an
    edge id handed out before the concurrent phase -/
def Op.adm (ne0 : Nat) : Op → Prop
  | .createEdge .. => True
  | .deleteEdge e => e ≤ ne0
  | _ => False

/-- the operations of `quiescent_wf_partial`: also `update_node`, and `update_edge` of an id handed
    out before the concurrent phase that no thread deletes (`D` = the ids that may be deleted) -/
def Op.adm2 (ne0 : Nat) (D : Nat → Prop) : Op → Prop
  | .createEdge .. => True
  | .createNode .. => True
  | .deleteEdge e => e ≤ ne0 ∧ D e
  | .updateNode .. => True
  | .addLabel .. => True
  | .removeLabel .. => True
  | .updateEdge e _ => e ≤ ne0 ∧ ¬ D e
  | _ => False

theorem Op.adm.adm2 {op : Op} (h : op.adm ne0) : op.adm2 ne0 (fun _ => True) := by
  cases op <;> first | exact h.elim | trivial | exact ⟨h, trivial⟩

def phOf : Op → Ph
  | .createEdge a b d ty v => .ceA a b d ty v
  | .createNode l v => .cnA l v
  | .deleteEdge e => .deA e
  | .updateNode n lab v => .unA n lab v
  | .addLabel n l => .alA n l
  | .removeLabel n l => .rlA n l
  | .updateEdge e v => .ueA e v
  | _ => .fin .ok

theorem phOf_prog {op : Op} (h : op.adm2 ne0 D) : op.prog = (phOf op).prog := by
  cases op <;> first | rfl | exact h.elim

theorem phOf_local {op : Op} (h : op.adm2 ne0 D) (m : KV) (ne : Nat) (held : List Key) :
    Local ne0 D m ne held (phOf op) := by
  cases op <;> first | exact h | trivial

theorem phOf_plain (op : Op) : (phOf op).holds = none ∧ (phOf op).creates = none ∧ (phOf op).makes = none ∧
    ∀ x K, ¬ Exc (phOf op) x K := by
  cases op <;> exact ⟨rfl, rfl, rfl, fun _ _ h => h⟩

theorem J.others_keep (hJ : J ne0 D phs s held) {i : Nat} {ph : Ph} (hi : phs[i]? = some ph) {k : Key}
    (hk : ph.holds = some k) (j : Nat) (ph2 : Ph) (hji : j ≠ i) (hj : phs[j]? = some ph2) (k2 : Key)
    (hk2 : ph2.holds = some k2) (hm : k2 ∈ held) : k2 ∈ held.filter (fun x => x != k) := by
  refine List.mem_filter.mpr ⟨hm, bne_iff_ne.mpr ?_⟩
  rintro rfl
  exact hJ.excl j i ph2 _ hji hj hi k2 hk2 hk

theorem silent_pres {ph : Ph}
    (hJ : J ne0 D phs s held) (hi : phs[i]? = some ph) (rest : List Op) (hadm : ∀ op ∈ rest, op.adm2 ne0 D)
    (take : Bool) (rs : List Res) (c' : Cfg)
    (h : Cfg.silent Op.prog take ⟨ph.prog, rest, rs, s, held⟩ = some c') :
    ∃ ph', c'.p = ph'.prog ∧ (∀ op ∈ c'.rest, op.adm2 ne0 D) ∧ J ne0 D (phs.set i ph') c'.s c'.held := by
  cases ph with
  | fin res =>
    cases rest with
    | nil => cases h
    | cons op rest' =>
      cases h
      have ha := hadm op (List.mem_cons_self ..)
      obtain ⟨p1, p2, pm, _⟩ := phOf_plain op
      exact ⟨phOf op, phOf_prog ha, fun o ho => hadm o (List.mem_cons_of_mem _ ho),
        hJ.step_idle hi _ (fun _ _ h => h.elim) (phOf_local ha _ _ _) p1 p2 pm⟩
  | ceAl a b d ty v =>
    obtain ⟨ha, hb⟩ := hJ.loc i _ hi
    cases h
    refine ⟨.pre (s.ne + 1) a b d ty v, rfl, hadm, ?_⟩
    exact hJ.step_same hi _ (s.ne + 1) held (Nat.le_succ _) (fun _ _ h => h)
      ⟨hJ.fresh _ (Nat.lt_succ_self _), Nat.lt_succ_of_le hJ.ne_ge, Nat.le_refl _, ha, hb⟩
      (fun _ _ _ _ _ _ h => h) (fun _ h => nomatch h)
      (fun x hx => Or.inr (Option.some.inj hx ▸ Nat.lt_succ_self _)) (fun _ h => nomatch h)
  | add x r k ks st =>
    obtain ⟨h1, h2, h3, h4, h5⟩ := hJ.loc i _ hi
    cases st with
    | acq =>
      dsimp only [Ph.prog, addAt, addTo, Cfg.silent] at h
      split at h
      · cases h
      · rename_i hc
        cases h
        refine ⟨.add x r k ks .get, rfl, hadm, ?_⟩
        exact hJ.step_same hi _ s.ne (k :: held) (Nat.le_refl _) (fun _ _ h => h)
          ⟨h1, h2, h3, h4, List.mem_cons_self ..⟩ (fun _ _ _ _ _ _ h => List.mem_cons_of_mem _ h)
          (fun k' hk => Or.inr (by cases hk; simp at hc; exact hc.2)) (fun _ hy => Or.inl hy) (fun _ h => nomatch h)
    | get => cases h
    | put l => cases h
    | rel =>
      cases h
      cases ks with
      | nil =>
        exact ⟨.fin (.id x), rfl, hadm, hJ.step_same hi _ s.ne _ (Nat.le_refl _) (fun _ _ h => nomatch h.2) trivial
          (hJ.others_keep hi rfl) (fun _ h => nomatch h) (fun _ h => nomatch h) (fun _ h => nomatch h)⟩
      | cons k' ks' =>
        exact ⟨.add x r k' ks' .acq, rfl, hadm, hJ.step_same hi _ s.ne _ (Nat.le_refl _) (fun _ _ h => h)
          ⟨h1, h2, h3, fun K hK => h4 K (List.mem_cons_of_mem _ hK), trivial⟩
          (hJ.others_keep hi rfl) (fun _ h => nomatch h) (fun _ hy => Or.inl hy) (fun _ h => nomatch h)⟩
  | rm e r k ks st =>
    obtain ⟨h1, hD, h2, h3, h4, h5⟩ := hJ.loc i _ hi
    cases st with
    | acq =>
      dsimp only [Ph.prog, rmAt, rmFrom, Cfg.silent] at h
      split at h
      · cases h
      · rename_i hc
        cases h
        refine ⟨.rm e r k ks .get, rfl, hadm, ?_⟩
        exact hJ.step_same hi _ s.ne (k :: held) (Nat.le_refl _) (fun _ _ h => h)
          ⟨h1, hD, h2, h3, h4, List.mem_cons_self ..⟩ (fun _ _ _ _ _ _ h => List.mem_cons_of_mem _ h)
          (fun k' hk => Or.inr (by cases hk; simp at hc; exact hc.2)) (fun _ h => nomatch h) (fun _ h => nomatch h)
    | get => cases h
    | put l => cases h
    | rel =>
      cases h
      cases ks with
      | nil =>
        exact ⟨.drec e r, rfl, hadm, hJ.step_same hi _ s.ne _ (Nat.le_refl _) (fun _ _ h => h)
          ⟨h1, hD, h2, fun K hK => h4 K hK List.not_mem_nil⟩
          (hJ.others_keep hi rfl) (fun _ h => nomatch h) (fun _ h => nomatch h) (fun _ h => nomatch h)⟩
      | cons k' ks' =>
        exact ⟨.rm e r k' ks' .acq, rfl, hadm, hJ.step_same hi _ s.ne _ (Nat.le_refl _) (fun _ _ h => h)
          ⟨h1, hD, h2, fun K hK => h3 K (List.mem_cons_of_mem _ hK), h4, trivial⟩
          (hJ.others_keep hi rfl) (fun _ h => nomatch h) (fun _ h => nomatch h) (fun _ h => nomatch h)⟩
  | cnA l v =>
    cases h
    exact ⟨.cnP1 (s.nn + 1) l v, rfl, hadm,
      hJ.step_cnt hi _ s.ne (s.nn + 1) held (Nat.le_refl _) (Nat.le_succ _) (fun _ _ h => h)
        (hJ.freshN _ (Nat.lt_succ_self _)) (fun _ _ _ _ _ _ h => h) (fun _ h => nomatch h) (fun _ h => nomatch h)
        (fun x hx => Or.inr (Option.some.inj hx ▸ ⟨Nat.lt_succ_self _, Nat.le_refl _⟩))⟩
  | _ => cases h

theorem J_init {s0 : St} (h : Inv s0) (D : Nat → Prop) (n : Nat) :
    J s0.ne D (List.replicate n (.fin .ok)) s0 [] := by
  have hfin : ∀ (j : Nat) (ph : Ph), (List.replicate n (Ph.fin .ok))[j]? = some ph → ph = .fin .ok :=
    fun _ _ => eq_of_getElem?_replicate
  obtain ⟨w1, w2, w3⟩ := wf_iff_L.mp h.wf
  refine ⟨Nat.le_refl _, h.freshE, h.freshN,
    fun x r hr => ⟨(w1 x r hr).1, (w1 x r hr).2.1, fun K hK => Or.inl ((w1 x r hr).2.2 K hK)⟩, w2, w3, ?_, ?_, ?_, ?_, ?_⟩
  · intro j ph hj; rw [hfin j ph hj]; trivial
  · intro a b pa pb _ ha _ k hk; rw [hfin a pa ha] at hk; cases hk
  · intro a b pa pb _ ha _ x hx; rw [hfin a pa ha] at hx; cases hx
  · intro j ph id hj hm; rw [hfin j ph hj] at hm; cases hm
  · intro a b pa pb _ ha _ x hx; rw [hfin a pa ha] at hx; cases hx

theorem prog_done {ph : Ph} {r : Res} (h : ph.prog = .done r) : ph = .fin r := by
  cases ph with
  | fin res => cases h; rfl
  | add x r' k ks st => cases st <;> cases h
  | rm e r' k ks st => cases st <;> cases h
  | _ => cases h

theorem WF_of_J_quiet (hJ : J ne0 D phs s held)
    (hfin : ∀ (j : Nat) (ph : Ph), phs[j]? = some ph → ph.quiet) : WF s.kv := by
  refine wf_iff_L.mpr ⟨fun x r hr => ⟨(hJ.e1 x r hr).1, (hJ.e1 x r hr).2.1, fun K hK => ?_⟩, hJ.e2, hJ.e3⟩
  rcases (hJ.e1 x r hr).2.2 K hK with h | ⟨j, ph, hj, he⟩
  · exact h
  · exact absurd he (hfin j ph hj x K)

/-- the operations `quiescent_wf_partial` admits, as a condition on the programs themselves:
    `create_node` and `create_edge` with ANY arguments (also node ids that a concurrent `create_node`
    is about to hand out), node updates and label changes of any node, `delete_edge` / `update_edge`
    of ids handed out before the phase, no edge both updated and deleted -/
def Admissible (s0 : St) (programs : List (List Op)) : Op → Prop
  | .createEdge .. => True
  | .createNode .. => True
  | .updateNode .. => True
  | .addLabel .. => True
  | .removeLabel .. => True
  | .deleteEdge e => e ≤ s0.ne
  | .updateEdge e _ => e ≤ s0.ne ∧ ∀ ops ∈ programs, Op.deleteEdge e ∉ ops
  | _ => False

end

end Neumann.Graph
