import NeumannModel.Graph.Lemmas
/-
  C05 — `delete_node`: the per-edge clean-up loop (sequential and >=100-edge path) keeps the
  invariant "the store with node id's own lists masked by the processed edges is well-formed".
-/
set_option linter.unusedSimpArgs false
set_option linter.unusedVariables false
namespace Neumann.Graph

def delEdgeKV (id e : Nat) (m : KV) : KV :=
  match edgeAt m e with
  | some r => upd (delNodeEdgeKV id e r m) (.edge e) none
  | none => upd m (.edge e) none

theorem run1_delNodeLoop (id : Nat) (es : List Nat) (c : Prog) (s : St) :
    run1 (delNodeLoop id es c) s =
      run1 c { s with kv := es.foldl (fun m e => delEdgeKV id e m) s.kv } := by
  induction es generalizing s with
  | nil => rfl
  | cons e es ih =>
    simp only [delNodeLoop, run1, List.foldl_cons]
    have : edgeOf (s.kv (.edge e)) = edgeAt s.kv e := rfl
    cases h : edgeAt s.kv e with
    | none => simp only [this, h, run1, ih, delEdgeKV]
    | some r => simp only [this, h, run1, run1_delNodeEdge, ih, delEdgeKV]

def notIn (D : List Nat) (l : List Nat) : List Nat := l.filter (fun x => !D.contains x)
theorem mem_notIn {D l : List Nat} {x : Nat} : x ∈ notIn D l ↔ x ∈ l ∧ x ∉ D := by simp [notIn]
theorem nodup_notIn {D l : List Nat} (h : l.Nodup) : (notIn D l).Nodup := List.Nodup.sublist List.filter_sublist h

/-- the store in which node `id`'s own lists have already dropped the edges `D` -/
def mask (id : Nat) (D : List Nat) (m : KV) : KV :=
  upd (upd m (.out id) (some (.list (notIn D (outL m id))))) (.inn id) (some (.list (notIn D (inL m id))))

theorem mask_views (id : Nat) (D : List Nat) (m : KV) :
    (∀ x, edgeAt (mask id D m) x = edgeAt m x) ∧ (∀ n, nodeEx (mask id D m) n = nodeEx m n) ∧
    (∀ n, outL (mask id D m) n = if n = id then notIn D (outL m id) else outL m n) ∧
    (∀ n, inL (mask id D m) n = if n = id then notIn D (inL m id) else inL m n) := by
  unfold mask
  refine ⟨?_, ?_, ?_, ?_⟩ <;> intro n <;> simp

theorem delEdgeKV_views (id e : Nat) (m : KV) (r : EdgeRec) (hr : edgeAt m e = some r) :
    (∀ x, edgeAt (delEdgeKV id e m) x = if x = e then none else edgeAt m x) ∧
    (∀ n, nodeEx (delEdgeKV id e m) n = nodeEx m n) ∧
    (∀ n, outL (delEdgeKV id e m) n =
      if n = otherOf id r ∧ (r.dst = id ∨ (r.directed = false ∧ otherOf id r ≠ id)) then rmv (outL m n) e else outL m n) ∧
    (∀ n, inL (delEdgeKV id e m) n =
      if n = otherOf id r ∧ (r.src = id ∨ (r.directed = false ∧ otherOf id r ≠ id)) then rmv (inL m n) e else inL m n) ∧
    (∀ k, k ≠ .edge e → (delEdgeKV id e m k).isSome = (m k).isSome) := by
  obtain ⟨vE, vN, vO, vI, vK⟩ := delNodeEdgeKV_views id e r m
  unfold delEdgeKV; simp only [hr]
  refine ⟨?_, ?_, ?_, ?_, ?_⟩
  · intro x; simp [vE, eq_comm]
  · intro n; simp [vN]
  · intro n; simp [vO]
  · intro n; simp [vI]
  · intro k hk; simp only [upd]; rw [if_neg hk]; exact vK k

structure P (id : Nat) (D : List Nat) (m : KV) : Prop where
  wf : WF (mask id D m)
  gone : ∀ e ∈ D, edgeAt m e = none
  nd : (outL m id).Nodup ∧ (inL m id).Nodup

theorem P_record {id : Nat} {D : List Nat} {m : KV} {e : Nat} (hP : P id D m) (heD : e ∉ D)
    (hin : e ∈ outL m id ∨ e ∈ inL m id) :
    ∃ r, edgeAt m e = some r ∧ (r.src = id ∨ r.dst = id) := by
  obtain ⟨mE, mN, mO, mI⟩ := mask_views id D m
  rcases hin with h | h
  · obtain ⟨r, hr, ht⟩ := hP.wf.out_sound id e (by rw [mO]; simp [mem_notIn, h, heD])
    rw [mE] at hr; exact ⟨r, hr, by grind⟩
  · obtain ⟨r, hr, ht⟩ := hP.wf.in_sound id e (by rw [mI]; simp [mem_notIn, h, heD])
    rw [mE] at hr; exact ⟨r, hr, by grind⟩

theorem mem_notIn_cons {D l : List Nat} {e x : Nat} : x ∈ notIn (e :: D) l ↔ x ∈ notIn D l ∧ x ≠ e := by
  simp only [mem_notIn, List.mem_cons, not_or]
  exact ⟨fun ⟨a, b, c⟩ => ⟨⟨a, c⟩, b⟩, fun ⟨⟨a, c⟩, b⟩ => ⟨a, b, c⟩⟩

theorem mem_notIn_rmv {D l : List Nat} {e x : Nat} : x ∈ notIn D (rmv l e) ↔ x ∈ notIn D l ∧ x ≠ e := by
  simp only [mem_notIn, mem_rmv]
  exact ⟨fun ⟨⟨a, b⟩, c⟩ => ⟨⟨a, c⟩, b⟩, fun ⟨⟨a, c⟩, b⟩ => ⟨⟨a, b⟩, c⟩⟩

theorem visits_out {id n : Nat} {r : EdgeRec} (hn : n ≠ id) (hT : r.src = id ∨ r.dst = id)
    (h : r.src = n ∨ (r.directed = false ∧ r.dst = n)) :
    n = otherOf id r ∧ (r.dst = id ∨ (r.directed = false ∧ otherOf id r ≠ id)) := by
  rcases h with rfl | ⟨hd, rfl⟩
  · have : otherOf id r = r.src := if_neg hn
    exact ⟨this.symm, Or.inl (hT.resolve_left hn)⟩
  · have : otherOf id r = r.dst := if_pos (hT.resolve_right hn)
    exact ⟨this.symm, Or.inr ⟨hd, this ▸ hn⟩⟩

theorem visits_in {id n : Nat} {r : EdgeRec} (hn : n ≠ id) (hT : r.src = id ∨ r.dst = id)
    (h : r.dst = n ∨ (r.directed = false ∧ r.src = n)) :
    n = otherOf id r ∧ (r.src = id ∨ (r.directed = false ∧ otherOf id r ≠ id)) := by
  rcases h with rfl | ⟨hd, rfl⟩
  · have hs := hT.resolve_right hn
    have : otherOf id r = r.dst := if_pos hs
    exact ⟨this.symm, Or.inl hs⟩
  · have : otherOf id r = r.src := if_neg hn
    exact ⟨this.symm, Or.inr ⟨hd, this ▸ hn⟩⟩

theorem P_step {id : Nat} {D : List Nat} {m : KV} {e : Nat} (hP : P id D m) (heD : e ∉ D)
    (hin : e ∈ outL m id ∨ e ∈ inL m id) : P id (e :: D) (delEdgeKV id e m) := by
  obtain ⟨r, hr, hT⟩ := P_record hP heD hin
  obtain ⟨mE, mN, mO, mI⟩ := mask_views id D m
  obtain ⟨mE', mN', mO', mI'⟩ := mask_views id (e :: D) (delEdgeKV id e m)
  obtain ⟨dE, dN, dO, dI, dK⟩ := delEdgeKV_views id e m r hr
  have Fo : ∀ n, n ≠ id → e ∈ outL m n → (r.src = n ∨ (r.directed = false ∧ r.dst = n)) := by
    intro n hn hm
    obtain ⟨r', hr', ht⟩ := hP.wf.out_sound n e (by rw [mO, if_neg hn]; exact hm)
    rw [mE, hr] at hr'; cases hr'; exact ht
  have Fi : ∀ n, n ≠ id → e ∈ inL m n → (r.dst = n ∨ (r.directed = false ∧ r.src = n)) := by
    intro n hn hm
    obtain ⟨r', hr', ht⟩ := hP.wf.in_sound n e (by rw [mI, if_neg hn]; exact hm)
    rw [mE, hr] at hr'; cases hr'; exact ht
  have ndO : ∀ n, (outL m n).Nodup := by
    intro n; by_cases hn : n = id
    · rw [hn]; exact hP.nd.1
    · have := hP.wf.out_nodup n; rwa [mO, if_neg hn] at this
  have ndI : ∀ n, (inL m n).Nodup := by
    intro n; by_cases hn : n = id
    · rw [hn]; exact hP.nd.2
    · have := hP.wf.in_nodup n; rwa [mI, if_neg hn] at this
  have ndO' : ∀ n, (outL (delEdgeKV id e m) n).Nodup := by
    intro n; rw [dO]; split
    · exact nodup_rmv (ndO n)
    · exact ndO n
  have ndI' : ∀ n, (inL (delEdgeKV id e m) n).Nodup := by
    intro n; rw [dI]; split
    · exact nodup_rmv (ndI n)
    · exact ndI n
  refine ⟨?_, ?_, ⟨ndO' id, ndI' id⟩⟩
  · apply wf_remove_edge (e := e) hP.wf
    · intro x; rw [mE', dE, mE]
    · intro n; rw [mN', dN, mN]
    · intro n x; rw [mO', mO, dO, dO]
      by_cases hn : n = id
      · rw [if_pos hn, if_pos hn]
        split
        · rw [mem_notIn_cons, mem_notIn_rmv]; exact ⟨fun h => h.1, fun h => ⟨h, h.2⟩⟩
        · exact mem_notIn_cons
      · rw [if_neg hn, if_neg hn]
        split
        · exact mem_rmv
        · rename_i hc
          exact ⟨fun hx => ⟨hx, fun hxe => hc (visits_out hn hT (Fo n hn (hxe ▸ hx)))⟩, fun h => h.1⟩
    · intro n x; rw [mI', mI, dI, dI]
      by_cases hn : n = id
      · rw [if_pos hn, if_pos hn]
        split
        · rw [mem_notIn_cons, mem_notIn_rmv]; exact ⟨fun h => h.1, fun h => ⟨h, h.2⟩⟩
        · exact mem_notIn_cons
      · rw [if_neg hn, if_neg hn]
        split
        · exact mem_rmv
        · rename_i hc
          exact ⟨fun hx => ⟨hx, fun hxe => hc (visits_in hn hT (Fi n hn (hxe ▸ hx)))⟩, fun h => h.1⟩
    · intro n; rw [mO']; split
      · exact nodup_notIn (ndO' id)
      · exact ndO' n
    · intro n; rw [mI']; split
      · exact nodup_notIn (ndI' id)
      · exact ndI' n
  · intro x hx; rw [dE]; split
    · rfl
    · rcases List.mem_cons.mp hx with rfl | hx
      · contradiction
      · exact hP.gone x hx

theorem P_init {id : Nat} {m : KV} (h : WF m) : P id [] m := by
  obtain ⟨mE, mN, mO, mI⟩ := mask_views id [] m
  have e1 : ∀ l, notIn [] l = l := by intro l; simp [notIn]
  refine ⟨?_, by simp, ⟨h.out_nodup id, h.in_nodup id⟩⟩
  apply wf_same_shape h
  · intro x r' hx; rw [mE] at hx; exact ⟨r', hx, rfl, rfl, rfl⟩
  · intro x r hx; exact ⟨r, by rw [mE]; exact hx, rfl, rfl, rfl⟩
  · intro n hn; rw [mN]; exact hn
  · intro n; rw [mO]; split
    · rename_i hh; subst hh; exact e1 _
    · rfl
  · intro n; rw [mI]; split
    · rename_i hh; subst hh; exact e1 _
    · rfl

theorem P_loop {id : Nat} (es : List Nat) : ∀ (D : List Nat) (m : KV), P id D m → es.Nodup →
    (∀ x ∈ es, x ∉ D ∧ (x ∈ outL m id ∨ x ∈ inL m id)) →
    (∀ x, (x ∈ outL m id ∨ x ∈ inL m id) → x ∈ D ∨ x ∈ es) →
    let m' := es.foldl (fun m e => delEdgeKV id e m) m
    ∃ D', P id D' m' ∧ (∀ x, (x ∈ outL m' id ∨ x ∈ inL m' id) → x ∈ D') ∧
      (∀ n, nodeEx m' n = nodeEx m n) ∧
      (∀ x, edgeAt m' x = if x ∈ es then none else edgeAt m x) ∧
      (∀ n, (m' (.out n)).isSome = (m (.out n)).isSome ∧ (m' (.inn n)).isSome = (m (.inn n)).isSome) ∧
      (∀ (c : Bool → Prog) (nn ne : Nat),
        run1 (delNodeParLoop id es false c) ⟨m, nn, ne⟩ = run1 (c false) ⟨m', nn, ne⟩) := by
  induction es with
  | nil =>
    intro D m hP _ _ hcov
    exact ⟨D, hP, fun x hx => by simpa using hcov x hx, fun _ => rfl, fun _ => by simp, fun _ => ⟨rfl, rfl⟩,
      fun _ _ _ => rfl⟩
  | cons e es ih =>
    intro D m hP hnd hmem hcov
    have he := hmem e (by simp)
    obtain ⟨r, hr, hT⟩ := P_record hP he.1 he.2
    obtain ⟨dE, dN, dO, dI, dK⟩ := delEdgeKV_views id e m r hr
    have hstep := P_step hP he.1 he.2
    have hnd' := List.nodup_cons.mp hnd
    have keepO : ∀ x, x ≠ e → (x ∈ outL (delEdgeKV id e m) id ↔ x ∈ outL m id) := by
      intro x hx; rw [dO]; split <;> simp [mem_rmv, hx]
    have keepI : ∀ x, x ≠ e → (x ∈ inL (delEdgeKV id e m) id ↔ x ∈ inL m id) := by
      intro x hx; rw [dI]; split <;> simp [mem_rmv, hx]
    have subO : ∀ x, x ∈ outL (delEdgeKV id e m) id → x ∈ outL m id ∧ (x = e → False) ∨ x ∈ outL m id := by
      intro x hx; rw [dO] at hx; split at hx
      · exact Or.inr (mem_rmv.mp hx).1
      · exact Or.inr hx
    obtain ⟨D', hP', hcov', hN', hE', hK', hPar'⟩ := ih (e :: D) (delEdgeKV id e m) hstep hnd'.2
      (by
        intro x hx
        have hxe : x ≠ e := by rintro rfl; exact hnd'.1 hx
        have := hmem x (by simp [hx])
        refine ⟨by simp [hxe, this.1], ?_⟩
        rw [keepO x hxe, keepI x hxe]; exact this.2)
      (by
        intro x hx
        by_cases hxe : x = e
        · simp [hxe]
        · rw [keepO x hxe, keepI x hxe] at hx
          rcases hcov x hx with h | h
          · exact Or.inl (by simp [h])
          · simp at h; rcases h with h | h
            · exact absurd h hxe
            · exact Or.inr h)
    refine ⟨D', hP', hcov', ?_, ?_, ?_, ?_⟩
    · intro n; simp only [List.foldl_cons]; rw [hN', dN]
    · intro x; simp only [List.foldl_cons]
      rw [hE' x, dE]; by_cases h1 : x = e <;> by_cases h2 : x ∈ es <;> simp [h1, h2]
    · intro n; simp only [List.foldl_cons]
      rw [(hK' n).1, (hK' n).2, dK _ (by simp), dK _ (by simp)]; exact ⟨rfl, rfl⟩
    · -- the record of `e` is there when the >=100-edge path reaches it: no edge is marked as failed
      intro c nn ne
      have hr' : edgeOf (m (.edge e)) = some r := hr
      have hex : (delNodeEdgeKV id e r m (.edge e)).isSome = true := by
        rw [(delNodeEdgeKV_views id e r m).2.2.2.2]
        cases hv : m (.edge e) with
        | none => rw [hv] at hr'; cases hr'
        | some _ => rfl
      have hk : delEdgeKV id e m = upd (delNodeEdgeKV id e r m) (.edge e) none := by
        unfold delEdgeKV; rw [hr]
      simp only [delNodeParLoop, run1, hr', run1_delNodeEdge, hex, Bool.not_true, Bool.or_false, List.foldl_cons]
      rw [← hk]; exact hPar' c nn ne

theorem mem_dedupNat {l : List Nat} {x : Nat} : x ∈ dedupNat l ↔ x ∈ l := by
  induction l with
  | nil => simp [dedupNat]
  | cons y ys ih =>
    simp only [dedupNat, List.mem_cons, List.mem_filter, ih]
    by_cases h : x = y <;> simp [h]

theorem nodup_dedupNat (l : List Nat) : (dedupNat l).Nodup := by
  induction l with
  | nil => simp [dedupNat]
  | cons y ys ih =>
    simp only [dedupNat, List.nodup_cons, List.mem_filter]
    exact ⟨by simp, List.Nodup.sublist List.filter_sublist ih⟩

theorem mem_orderWith {hint all : List Nat} {x : Nat} : x ∈ orderWith hint all ↔ x ∈ all := by
  simp only [orderWith, List.mem_append, mem_dedupNat, List.mem_filter, List.contains_iff_mem]
  by_cases h : x ∈ hint <;> simp [h]

theorem nodup_orderWith {hint all : List Nat} (h : all.Nodup) : (orderWith hint all).Nodup := by
  simp only [orderWith]
  rw [List.nodup_append]
  refine ⟨nodup_dedupNat _, List.Nodup.sublist List.filter_sublist h, ?_⟩
  intro a ha b hb hab
  subst hab
  simp only [mem_dedupNat, List.mem_filter, List.contains_iff_mem] at ha hb
  simp [ha.1] at hb

theorem notIn_eq_nil {D l : List Nat} (h : ∀ x ∈ l, x ∈ D) : notIn D l = [] := by
  simp only [notIn, List.filter_eq_nil_iff]
  intro x hx; simp [h x hx]

theorem deleteNode_main (thr : Nat) (s : St) (id : Nat) (hint : List Nat) (h : Inv s)
    (hex : nodeEx s.kv id = true) :
    (run1 (deleteNodeProgT thr id hint) s).1 = .ok ∧
    Inv (run1 (deleteNodeProgT thr id hint) s).2 ∧
    (∀ n, nodeEx (run1 (deleteNodeProgT thr id hint) s).2.kv n = (nodeEx s.kv n && decide (n ≠ id))) ∧
    (∀ x, edgeAt (run1 (deleteNodeProgT thr id hint) s).2.kv x =
      if x ∈ outL s.kv id ∨ x ∈ inL s.kv id then none else edgeAt s.kv x) := by
  have hall : (dedupNat (outL s.kv id ++ inL s.kv id)).Nodup := nodup_dedupNat _
  have hord := nodup_orderWith (hint := hint) hall
  have hmemO : ∀ x, x ∈ orderWith hint (dedupNat (outL s.kv id ++ inL s.kv id)) ↔
      (x ∈ outL s.kv id ∨ x ∈ inL s.kv id) := by
    intro x; rw [mem_orderWith, mem_dedupNat, List.mem_append]
  obtain ⟨D', hP', hcov', hN', hE', hK', hPar'⟩ := P_loop (id := id) _ [] s.kv (P_init h.wf) hord
    (fun x hx => ⟨by simp, (hmemO x).mp hx⟩) (fun x hx => Or.inr ((hmemO x).mpr hx))
  -- reduce the program to the tail run on the folded store
  have hrun : run1 (deleteNodeProgT thr id hint) s =
      run1 (delNodeTail id) { s with kv :=
        (orderWith hint (dedupNat (outL s.kv id ++ inL s.kv id))).foldl (fun m e => delEdgeKV id e m) s.kv } := by
    have hv : ∃ val, s.kv (.node id) = some val := by
      unfold nodeEx at hex; cases hh : s.kv (.node id) <;> simp_all
    obtain ⟨val, hv⟩ := hv
    have e1 : listOf (s.kv (.out id)) = outL s.kv id := rfl
    have e2 : listOf (s.kv (.inn id)) = inL s.kv id := rfl
    simp only [deleteNodeProgT, run1, hv, e1, e2]
    split
    · rw [show s = ⟨s.kv, s.nn, s.ne⟩ from rfl, hPar']; rfl
    · rw [run1_delNodeLoop]
  rw [hrun]
  generalize hm' : (orderWith hint (dedupNat (outL s.kv id ++ inL s.kv id))).foldl
    (fun m e => delEdgeKV id e m) s.kv = m' at *
  have k1 : (m' (.node id)).isSome = true := by have := hN' id; unfold nodeEx at this hex; rw [this, hex]
  have k2 : (m' (.out id)).isSome = true := by rw [(hK' id).1]; exact (h.keys id hex).1
  have k3 : (m' (.inn id)).isSome = true := by rw [(hK' id).2]; exact (h.keys id hex).2
  have k2' : (upd m' (.node id) none (.out id)).isSome = true := by simpa [upd] using k2
  have k3' : (upd (upd m' (.node id) none) (.out id) none (.inn id)).isSome = true := by simpa [upd] using k3
  simp only [delNodeTail, run1, k1, k2', k3', Bool.not_true, Bool.false_eq_true, ↓reduceIte, if_true]
  obtain ⟨mE, mN, mO, mI⟩ := mask_views id D' m'
  have hwf : WF (upd (upd (upd m' (.node id) none) (.out id) none) (.inn id) none) := by
    apply wf_remove_isolated_node (id := id) hP'.wf
    · rw [mO]; simp; exact notIn_eq_nil (fun x hx => hcov' x (Or.inl hx))
    · rw [mI]; simp; exact notIn_eq_nil (fun x hx => hcov' x (Or.inr hx))
    · intro x; simp [mE]
    · intro n; simp [mN]; by_cases hn : n = id <;> simp [hn]
    · intro n; simp [mO]; by_cases hn : n = id
      · subst hn; simp; exact notIn_eq_nil (fun x hx => hcov' x (Or.inl hx))
      · simp [hn]
    · intro n; simp [mI]; by_cases hn : n = id
      · subst hn; simp; exact notIn_eq_nil (fun x hx => hcov' x (Or.inr hx))
      · simp [hn]
  have hNf : ∀ n, nodeEx (upd (upd (upd m' (.node id) none) (.out id) none) (.inn id) none) n =
      (nodeEx s.kv n && decide (n ≠ id)) := by
    intro n; simp [hN']; by_cases hn : n = id <;> simp [hn]
  have hEf : ∀ x, edgeAt (upd (upd (upd m' (.node id) none) (.out id) none) (.inn id) none) x =
      if x ∈ outL s.kv id ∨ x ∈ inL s.kv id then none else edgeAt s.kv x := by
    intro x; simp [hE', hmemO]
  refine ⟨trivial, ⟨hwf, ?_, ?_, ?_⟩, hNf, hEf⟩
  · intro n hn; rw [hNf]; simp [h.freshN n hn]
  · intro x hx; rw [hEf]; split
    · rfl
    · exact h.freshE x hx
  · intro n hn; rw [hNf] at hn; simp at hn
    have hk := h.keys n hn.1
    have := hK' n
    simp [upd, hn.2, this, hk]

theorem deleteNode_missing (thr : Nat) (s : St) (id : Nat) (hint : List Nat) (hex : nodeEx s.kv id = false) :
    run1 (deleteNodeProgT thr id hint) s = (.nodeNotFound id, s) := by
  have hv : s.kv (.node id) = none := by
    unfold nodeEx at hex; cases hh : s.kv (.node id) <;> simp_all
  simp only [deleteNodeProgT, run1, hv]

theorem inv_deleteNode (s : St) (id : Nat) (hint : List Nat) (h : Inv s) :
    Inv (apply s (.deleteNode id hint)).2 := by
  simp only [apply, Op.prog, deleteNodeProg]
  cases hex : nodeEx s.kv id with
  | false => rw [deleteNode_missing _ _ _ _ hex]; exact h
  | true => exact (deleteNode_main _ s id hint h hex).2.1

end Neumann.Graph
