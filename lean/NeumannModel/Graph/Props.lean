import NeumannModel.Graph.Spec
import NeumannModel.Graph.Traverse
import NeumannModel.Graph.ConcOps
import NeumannModel.Graph.Atomic
import NeumannModel.Graph.AtomicBatch
import NeumannModel.Graph.Exclusive
/-
  C05 — the property theorems for the graph store model, with their non-vacuity examples and
  regression witnesses; the lemmas they rest on are in the other modules of this directory.
-/
namespace Neumann.Graph.Props
open Neumann.Graph

def twoNodesEdgeS : St := applyAll St.empty [.createNode 0 0, .createNode 0 0, .createEdge 1 2 true 0 0]

/-! ### sequential: every operation sequence -/

/-- `Inv s` = `WF s.kv` + ids above the counters are unused + an existing node has both list keys.
    The empty store satisfies it; every operation preserves it, so it holds after EVERY sequence of
    create/delete/update operations (self-loops, parallel and undirected edges, unknown ids,
    any iteration order of `delete_node`'s edge set, both of its code paths; `add_label`,
    `remove_label`; the batch calls `batch_create_nodes`, `batch_create_edges`, `batch_delete_edges`,
    `batch_delete_nodes`, `batch_update_nodes` with any inputs, empty, repeated and unknown ids
    included). -/
theorem wf_preserved (ops : List Op) (s : St) (h : Inv s) :
    Inv (applyAll s ops) ∧ WF (applyAll s ops).kv :=
  ⟨inv_applyAll ops s h, (inv_applyAll ops s h).wf⟩

theorem wf_of_any_history (ops : List Op) : WF (applyAll St.empty ops).kv :=
  (wf_preserved ops St.empty inv_empty).2

example : Inv (applyAll St.empty [.createNode 0 0, .createNode 0 0, .createEdge 1 2 false 0 0,
    .createEdge 1 1 true 0 0, .createEdge 1 2 true 1 0, .deleteEdge 2]) :=
  (wf_preserved _ _ inv_empty).1

/-- `delete_node(id)` on an existing node of a reachable store succeeds (whatever order the edge set
    is iterated in, whichever code path), removes the node, removes EXACTLY the edges listed by the
    node (= its incident edges, by `WF`), and afterwards no remaining edge touches `id`. -/
theorem delete_node_removes_incident_edges (s : St) (h : Inv s) (id : Nat) (hint : List Nat)
    (hex : nodeEx s.kv id = true) :
    (apply s (.deleteNode id hint)).1 = .ok ∧
    nodeEx (apply s (.deleteNode id hint)).2.kv id = false ∧
    (∀ e r, edgeAt s.kv e = some r → (r.src = id ∨ r.dst = id) →
        edgeAt (apply s (.deleteNode id hint)).2.kv e = none) ∧
    (∀ e r, edgeAt s.kv e = some r → r.src ≠ id → r.dst ≠ id →
        edgeAt (apply s (.deleteNode id hint)).2.kv e = some r) ∧
    (∀ e r, edgeAt (apply s (.deleteNode id hint)).2.kv e = some r → r.src ≠ id ∧ r.dst ≠ id) ∧
    (∀ n, n ≠ id → nodeEx (apply s (.deleteNode id hint)).2.kv n = nodeEx s.kv n) := by
  obtain ⟨hok, hinv, hN, hE⟩ := deleteNode_main PARALLEL_THRESHOLD s id hint h hex
  simp only [apply, Op.prog, deleteNodeProg]
  refine ⟨hok, by rw [hN]; simp, ?_, ?_, ?_, ?_⟩
  · intro e r hr ht
    rw [hE]
    obtain ⟨_, _, h3, h4, _⟩ := h.wf.edge_listed e r hr
    rcases ht with rfl | rfl
    · simp [h3]
    · simp [h4]
  · intro e r hr h1 h2
    rw [hE]
    have ho : e ∉ outL s.kv id := by
      intro hm; obtain ⟨r', hr', ht⟩ := h.wf.out_sound id e hm
      rw [hr] at hr'; cases hr'; rcases ht with ht | ⟨_, ht⟩ <;> contradiction
    have hi : e ∉ inL s.kv id := by
      intro hm; obtain ⟨r', hr', ht⟩ := h.wf.in_sound id e hm
      rw [hr] at hr'; cases hr'; rcases ht with ht | ⟨_, ht⟩ <;> contradiction
    simp [ho, hi, hr]
  · intro e r hr
    obtain ⟨h1, h2, _⟩ := hinv.wf.edge_listed e r hr
    rw [hN] at h1 h2; simp at h1 h2; exact ⟨h1.2, h2.2⟩
  · intro n hn; rw [hN]; simp [hn]

example : nodeEx twoNodesEdgeS.kv 2 = true := by decide

/-- `neighbors(n, edge_type, direction)` returns exactly the nodes adjacent to `n` through an existing
    edge of that type in that direction (an undirected edge counts in both directions, a self-loop
    never makes a node its own neighbour), ascending and without repetition. -/
theorem neighbors_spec (m : KV) (h : WF m) (n : Nat) (dir : Dir) (ty : Option Nat)
    (hn : nodeEx m n = true) :
    ∃ l, neighbors m n dir ty = some l ∧ l.Pairwise (· < ·) ∧
      ∀ x, x ∈ l ↔ (x ≠ n ∧ Adjacent m n dir ty x) := by
  refine ⟨sortDedup ((nbrRaw m n dir ty).filter (nodeEx m)), by simp only [neighbors, hn, if_true], sorted_sortDedup _, ?_⟩
  intro x
  rw [mem_sortDedup, List.mem_filter]
  simp only [nbrRaw, List.mem_append]
  constructor
  · rintro ⟨hx, _⟩
    rcases hx with hx | hx
    · split at hx
      · rename_i hd
        obtain ⟨hne, e, r, hr, hty, hc⟩ := (mem_nbrOut h).mp hx
        exact ⟨hne, e, r, hr, hty, Or.inl ⟨hd, hc⟩⟩
      · cases hx
    · split at hx
      · rename_i hd
        obtain ⟨hne, e, r, hr, hty, hc⟩ := (mem_nbrIn h).mp hx
        exact ⟨hne, e, r, hr, hty, Or.inr ⟨hd, hc⟩⟩
      · cases hx
  · rintro ⟨hne, e, r, hr, hty, hc⟩
    obtain ⟨h1, h2, _⟩ := h.edge_listed e r hr
    have hxe : nodeEx m x = true := by
      rcases hc with ⟨_, ⟨_, hh⟩ | ⟨_, _, hh⟩⟩ | ⟨_, ⟨_, hh⟩ | ⟨_, _, hh⟩⟩ <;> rw [← hh] <;> assumption
    refine ⟨?_, hxe⟩
    rcases hc with ⟨hd, hc⟩ | ⟨hd, hc⟩
    · left; rw [if_pos hd]; exact (mem_nbrOut h).mpr ⟨hne, e, r, hr, hty, hc⟩
    · right; rw [if_pos hd]; exact (mem_nbrIn h).mpr ⟨hne, e, r, hr, hty, hc⟩

theorem neighbors_missing_node (m : KV) (n : Nat) (dir : Dir) (ty : Option Nat)
    (hn : nodeEx m n = false) : neighbors m n dir ty = none := by
  simp [neighbors, hn]

/-- `out_degree / in_degree / degree` count exactly the existing edges incident to `n`
    (for ANY duplicate-free enumeration `lo` / `li` of them; an undirected edge and a self-loop
    count once outgoing and once incoming). -/
theorem degree_spec (m : KV) (h : WF m) (n : Nat) (hn : nodeEx m n = true) (lo li : List Nat)
    (hlo : lo.Nodup) (hli : li.Nodup)
    (ho : ∀ e, e ∈ lo ↔ OutIncident m n e) (hi : ∀ e, e ∈ li ↔ InIncident m n e) :
    outDegree m n = some lo.length ∧ inDegree m n = some li.length ∧
    degree m n = some (lo.length + li.length) := by
  have e1 : (outL m n).length = lo.length :=
    length_eq_of_nodup_mem (h.out_nodup n) hlo (fun a => by rw [mem_outL_iff h, ho])
  have e2 : (inL m n).length = li.length :=
    length_eq_of_nodup_mem (h.in_nodup n) hli (fun a => by rw [mem_inL_iff h, hi])
  simp [outDegree, inDegree, degree, hn, e1, e2]


/-- `traverse(start, direction, max_depth, edge_type)` returns exactly the nodes that can be reached
    from `start` in at most `max_depth` hops along existing edges of that type in that direction
    (`Within`; an undirected edge can be walked from either end, `start` itself is included),
    ascending and without repetition. -/
theorem traverse_spec (m : KV) (h : WF m) (start : Nat) (dir : Dir) (depth : Nat) (ty : Option Nat)
    (hs : nodeEx m start = true) :
    ∃ l, traverse m start dir depth ty = some l ∧ l.Pairwise (· < ·) ∧
      ∀ x, x ∈ l ↔ Within m dir ty start depth x := by
  refine ⟨sortDedup ((travLevels m dir ty depth [start] [start]).filter (nodeEx m)),
    by simp only [traverse, hs, if_true], sorted_sortDedup _, ?_⟩
  intro x
  rw [mem_sortDedup, List.mem_filter, mem_travLevels_start, rin_iff_within h]
  exact ⟨fun hh => hh.1, fun hw => ⟨hw, hw.exists h hs⟩⟩

theorem traverse_missing_node (m : KV) (start : Nat) (dir : Dir) (depth : Nat) (ty : Option Nat)
    (hs : nodeEx m start = false) : traverse m start dir depth ty = none := by
  simp [traverse, hs]

/-- a chain 1 → 2 → 3 with an undirected edge 3 — 4: two hops from 1 reach {1,2,3}, three hops reach 4;
    against the direction only the undirected edge can be walked -/
def chainS : St := applyAll St.empty [.createNode 0 0, .createNode 0 0, .createNode 0 0, .createNode 0 0,
  .createEdge 1 2 true 0 0, .createEdge 2 3 true 0 0, .createEdge 4 3 false 0 0]

example : WF chainS.kv ∧ traverse chainS.kv 1 .outgoing 2 none = some [1, 2, 3] ∧
    traverse chainS.kv 1 .outgoing 3 none = some [1, 2, 3, 4] ∧
    traverse chainS.kv 3 .outgoing 5 none = some [3, 4] :=
  ⟨wf_of_any_history _, by decide, by decide, by decide⟩

example : WF twoNodesEdgeS.kv ∧ neighbors twoNodesEdgeS.kv 1 .outgoing none = some [2] ∧
    degree twoNodesEdgeS.kv 1 = some 1 :=
  ⟨wf_of_any_history _, by decide, by decide⟩


/-! ### sequential: batch calls, re-opening -/

/-- Every batch call either does NOTHING (its validation phase failed: an endpoint of some input of
    `batch_create_edges` / a node of `batch_update_nodes` does not exist — checked for all inputs
    before the first write) or leaves exactly the store AND the id counters that the sequence of
    single operations `op.expand` leaves: ids come out of one block of the counter, the same ids the
    single calls would have been given; `batch_delete_*` go on after a failed item. -/
theorem batch_is_sequence_or_nothing (s : St) (op : Op) :
    (apply s op).2 = if op.batchValid s.kv then applyAll s op.expand else s :=
  batch_seq s op

example : (apply twoNodesEdgeS (.batchCreateEdges [⟨1, 2, false, 0, 0⟩, ⟨2, 2, true, 1, 1⟩])).2 =
    applyAll twoNodesEdgeS [.createEdge 1 2 false 0 0, .createEdge 2 2 true 1 1] :=
  batch_is_sequence_or_nothing _ _

/-- a missing endpoint anywhere in the input fails `batch_create_edges` as a whole -/
example : (apply twoNodesEdgeS (.batchCreateEdges [⟨1, 2, false, 0, 0⟩, ⟨2, 7, true, 1, 1⟩])) =
    (.batchInvalid 1 7, twoNodesEdgeS) := by
  have h := batch_is_sequence_or_nothing twoNodesEdgeS (.batchCreateEdges [⟨1, 2, false, 0, 0⟩, ⟨2, 7, true, 1, 1⟩])
  have hv : (Op.batchCreateEdges [⟨1, 2, false, 0, 0⟩, ⟨2, 7, true, 1, 1⟩]).batchValid twoNodesEdgeS.kv = false := by decide
  rw [hv] at h
  refine Prod.ext ?_ h
  decide

/-- what `batch_create_edges` answers: the block of fresh ids, or the first missing endpoint -/
theorem batch_create_edges_result (s : St) (items : List EdgeIn) :
    (endpointsExist s.kv items = true ∧
      (apply s (.batchCreateEdges items)).1 = .ids (if items.isEmpty then 0 else s.ne + 1) items.length) ∨
    (endpointsExist s.kv items = false ∧ ∃ i n, (apply s (.batchCreateEdges items)).1 = .batchInvalid i n ∧
      nodeEx s.kv n = false) := by
  simp only [apply, Op.prog, batchCreateEdgesProg]
  cases items with
  | nil => exact Or.inl ⟨rfl, rfl⟩
  | cons x rest =>
    simp only [List.isEmpty_cons, Bool.false_eq_true, ↓reduceIte]
    rcases run1_bceValidate (.allocEs (x :: rest).length fun start =>
        bceLoop start (x :: rest) 0 (.done (.ids start (x :: rest).length))) (x :: rest) 0 s with ⟨h1, h2⟩ | ⟨h1, i, n, h2, h3⟩
    · refine Or.inl ⟨h1, ?_⟩
      rw [h2]; simp only [run1, run1_bceLoop]
    · exact Or.inr ⟨h1, i, n, by rw [h2], h3⟩


/-- what `batch_delete_edges`, `batch_delete_nodes` and `batch_update_nodes` ANSWER: exactly what the
    single calls answer one after the other (`seqRes`) — the ids whose delete answered `ok` as
    `deleted_ids`, (input index, id, cause) of the others as `failed`, both in input order; the number
    of updates that answered `ok` (when the validation phase passed). -/
theorem batch_delete_update_results (s : St) :
    (∀ ids, (apply s (.batchDeleteEdges ids)).1 =
      .batchDel (delOutcome 0 ids (seqRes s (ids.map .deleteEdge))).1
        (delOutcome 0 ids (seqRes s (ids.map .deleteEdge))).2) ∧
    (∀ ns, (apply s (.batchDeleteNodes ns)).1 =
      .batchDel (delOutcome 0 (ns.map Prod.fst) (seqRes s (ns.map fun x => .deleteNode x.1 x.2))).1
        (delOutcome 0 (ns.map Prod.fst) (seqRes s (ns.map fun x => .deleteNode x.1 x.2))).2) ∧
    (∀ us, nodesExist s.kv us = true → (apply s (.batchUpdateNodes us)).1 =
      .count (countOk (seqRes s (us.map fun x => .updateNode x.1 x.2.1 x.2.2)))) := by
  refine ⟨fun ids => ?_, fun ns => ?_, fun us hv => ?_⟩
  · have := bdeLoop_res ids 0 [] [] s
    simp only [List.reverse_nil, List.nil_append] at this
    exact this
  · have := bdnLoop_res ns 0 [] [] s
    simp only [List.reverse_nil, List.nil_append] at this
    exact this
  · simp only [apply, Op.prog, batchUpdateNodesProg]
    rcases run1_bunValidate (bunLoop us 0) us 0 s with ⟨_, h2⟩ | ⟨h1, _⟩
    · rw [h2, bunLoop_res]; simp
    · rw [hv] at h1; cases h1

/-- deleting edge 1 twice and an unknown id: one success, two `not found`, store as after one delete -/
example : (apply twoNodesEdgeS (.batchDeleteEdges [1, 1, 9])).1 =
    .batchDel [1] [(1, 1, .notFound), (2, 9, .notFound)] := by decide

/-- Re-opening (`GraphEngine::with_store` over the same store: the counters are re-derived as the
    largest stored node / edge id) keeps the invariant, so structural well-formedness holds after
    every session of operations and re-openings: a fresh id never collides with stored data, although
    ids of deleted nodes / edges above the largest live one ARE handed out again. -/
theorem wf_preserved_across_reopen (cs : List Cmd) (s : St) (h : Inv s) :
    Inv (applyCmds s cs) ∧ WF (applyCmds s cs).kv :=
  ⟨inv_applyCmds cs s h, (inv_applyCmds cs s h).wf⟩

/-- non-vacuity: node 3 is deleted, the engine re-opened, the id 3 handed out again and used -/
example : (applyCmds St.empty [.op (.createNode 0 0), .op (.createNode 0 0), .op (.createNode 0 0),
      .op (.createEdge 1 3 false 0 0), .op (.deleteNode 3 []), .reopen, .op (.createNode 1 1),
      .op (.createEdge 3 1 true 0 0)]).nn = 3 ∧
    WF (applyCmds St.empty [.op (.createNode 0 0), .op (.createNode 0 0), .op (.createNode 0 0),
      .op (.createEdge 1 3 false 0 0), .op (.deleteNode 3 []), .reopen, .op (.createNode 1 1),
      .op (.createEdge 3 1 true 0 0)]).kv :=
  ⟨by decide, (wf_preserved_across_reopen _ _ inv_empty).2⟩

/-- nodes 1, 2, edge 1 : 1→2, but a node counter that is one too small -/
def staleCounter : St := { twoNodesEdgeS with nn := 1 }

/-- why the counters must cover every stored id (`Inv.freshN`): with a counter one below the largest
    stored node id, `create_node` re-initialises the adjacency lists of the existing node 2 and
    edge 1 is no longer listed by its target -/
theorem reopen_counter_below_stored_id_witness :
    WF staleCounter.kv ∧ ¬ WF (apply staleCounter (.createNode 0 0)).2.kv := by
  refine ⟨wf_of_any_history _, ?_⟩
  intro hw
  have h1 := (hw.edge_listed 1 ⟨1, 2, true, 0, 0⟩ (by decide)).2.2.2.1
  exact absurd h1 (by decide)

/-! ### sequential: what each single operation does to the graph -/

/-- `create_edge(a, b)` with both endpoints present answers the next edge id and adds exactly that
    edge record; no other edge, no node changes (with `wf_preserved`: the new edge is listed by both
    endpoints in the right lists and nothing else moved). -/
theorem create_edge_spec (s : St) (a b : Nat) (d : Bool) (ty v : Nat) (h : Inv s)
    (ha : nodeEx s.kv a = true) (hb : nodeEx s.kv b = true) :
    (apply s (.createEdge a b d ty v)).1 = .id (s.ne + 1) ∧
    edgeAt s.kv (s.ne + 1) = none ∧
    (∀ x, edgeAt (apply s (.createEdge a b d ty v)).2.kv x =
        if x = s.ne + 1 then some ⟨a, b, d, ty, v⟩ else edgeAt s.kv x) ∧
    (∀ n, nodeEx (apply s (.createEdge a b d ty v)).2.kv n = nodeEx s.kv n) := by
  rw [apply_createEdge_ok s a b d ty v ha hb]
  obtain ⟨_, _, hE, hN, _⟩ := createEdgeFrom_spec ⟨s.kv, 0, 0⟩ (s.ne + 1) a b d ty v
  exact ⟨rfl, h.freshE _ (Nat.lt_succ_self _), hE, hN⟩

/-- `create_edge` with a missing endpoint changes nothing (not even the id counter) -/
theorem create_edge_missing_node (s : St) (a b : Nat) (d : Bool) (ty v : Nat)
    (h : nodeEx s.kv a = false ∨ nodeEx s.kv b = false) :
    apply s (.createEdge a b d ty v) = (.nodeNotFound (if nodeEx s.kv a = false then a else b), s) := by
  simp only [apply, Op.prog, createEdgeProg, createEdgeCheckB, run1]
  cases ha : nodeEx s.kv a with
  | false => unfold nodeEx at ha; simp [ha, run1]
  | true =>
    rcases h with h | h
    · rw [ha] at h; cases h
    · unfold nodeEx at ha h; simp [ha, h, run1]

/-- `delete_edge(e)` of an existing edge succeeds and removes exactly that record -/
theorem delete_edge_spec (s : St) (e : Nat) (r : EdgeRec) (hr : edgeAt s.kv e = some r) :
    (apply s (.deleteEdge e)).1 = .ok ∧
    (∀ x, edgeAt (apply s (.deleteEdge e)).2.kv x = if x = e then none else edgeAt s.kv x) ∧
    (∀ n, nodeEx (apply s (.deleteEdge e)).2.kv n = nodeEx s.kv n) := by
  have hx : (s.kv (.edge e)).isSome = true := by rw [edgeOf_eq_some hr]; rfl
  have hr' : edgeOf (s.kv (.edge e)) = some r := hr
  simp only [apply, Op.prog, deleteEdgeProg, run1, hr']
  obtain ⟨_, _, hE, hN, _⟩ := deleteEdgeBody_spec s e r
  exact ⟨deleteEdgeBody_res s e r hx, hE, hN⟩

theorem delete_edge_missing (s : St) (e : Nat) (hr : edgeAt s.kv e = none) :
    apply s (.deleteEdge e) = (.edgeNotFound e, s) := by
  have hr' : edgeOf (s.kv (.edge e)) = none := hr
  simp only [apply, Op.prog, deleteEdgeProg, run1, hr']

/-- `create_node` answers the next node id, adds exactly that node, with empty adjacency lists;
    no edge changes -/
theorem create_node_spec (s : St) (l v : Nat) (h : Inv s) :
    (apply s (.createNode l v)).1 = .id (s.nn + 1) ∧
    (∀ x, edgeAt (apply s (.createNode l v)).2.kv x = edgeAt s.kv x) ∧
    (∀ n, nodeEx (apply s (.createNode l v)).2.kv n = (nodeEx s.kv n || n == s.nn + 1)) ∧
    nodeEx s.kv (s.nn + 1) = false ∧
    outL (apply s (.createNode l v)).2.kv (s.nn + 1) = [] ∧
    inL (apply s (.createNode l v)).2.kv (s.nn + 1) = [] := by
  rw [apply_createNode]
  refine ⟨rfl, ?_, ?_, h.freshN _ (by omega), ?_, ?_⟩
  · intro x; simp [cnKV]
  · intro n; simp [cnKV]; by_cases hn : n = s.nn + 1 <;> simp [hn]
  · simp [cnKV]
  · simp [cnKV]

/-- `update_node`, `add_label`, `remove_label` touch one node record only: every edge record, the
    set of nodes, every adjacency list and both counters are unchanged -/
theorem node_update_frame (s : St) (op : Op) (n : Nat) (hop : op.nodeWrite = some n) :
    (∀ x, edgeAt (apply s op).2.kv x = edgeAt s.kv x) ∧
    (∀ k, nodeEx (apply s op).2.kv k = nodeEx s.kv k) ∧
    (∀ k, outL (apply s op).2.kv k = outL s.kv k) ∧ (∀ k, inL (apply s op).2.kv k = inL s.kv k) ∧
    (apply s op).2.nn = s.nn ∧ (apply s op).2.ne = s.ne := by
  rcases nodeWrite_shape s op n hop with h | ⟨hex, val, h⟩
  · rw [h]; exact ⟨fun _ => rfl, fun _ => rfl, fun _ => rfl, fun _ => rfl, rfl, rfl⟩
  · rw [h]
    refine ⟨fun x => by simp, ?_, fun k => by simp, fun k => by simp, rfl, rfl⟩
    intro k; simp; intro hk; subst hk; exact hex

example : (Op.addLabel 1 7).nodeWrite = some 1 := rfl

/-- `update_edge(e)` changes the property of that record only: endpoints, direction and type of
    every edge, the nodes and the adjacency lists are unchanged -/
theorem update_edge_spec (s : St) (e v : Nat) :
    (∀ x, edgeAt (apply s (.updateEdge e v)).2.kv x =
        if x = e then (edgeAt s.kv e).map (fun r => { r with ver := v }) else edgeAt s.kv x) ∧
    (∀ k, nodeEx (apply s (.updateEdge e v)).2.kv k = nodeEx s.kv k) ∧
    (∀ k, outL (apply s (.updateEdge e v)).2.kv k = outL s.kv k) ∧
    (∀ k, inL (apply s (.updateEdge e v)).2.kv k = inL s.kv k) := by
  simp only [apply, Op.prog, updateEdgeProg, updateEdgeSecond, run1]
  cases hr : edgeAt s.kv e with
  | none =>
    have hr' : edgeOf (s.kv (.edge e)) = none := hr
    simp only [hr', run1]
    refine ⟨fun x => ?_, fun _ => trivial, fun _ => trivial, fun _ => trivial⟩
    split
    · rename_i hx; rw [hx, hr]; rfl
    · rfl
  | some r =>
    have hv := edgeOf_eq_some hr
    simp only [hv, edgeOf, updateEdgePut, run1]
    refine ⟨fun x => ?_, fun k => by simp, fun k => by simp, fun k => by simp⟩
    rw [edgeAt_upd]
    by_cases hx : x = e
    · rw [if_pos hx, if_pos (congrArg Key.edge hx)]; rfl
    · rw [if_neg hx, if_neg (fun h => hx (Key.edge.inj h))]

/-! ### sequential: more observation points -/

/-- `e` is incident to `n` in direction `dir` (an undirected edge and a self-loop both ways) -/
def EdgeIncident (m : KV) (n : Nat) (dir : Dir) (e : Nat) : Prop :=
  ((dir = .outgoing ∨ dir = .both) ∧ OutIncident m n e) ∨ ((dir = .incoming ∨ dir = .both) ∧ InIncident m n e)

/-- `edges_of(n, direction)` returns exactly the existing edges incident to `n` in that direction,
    each once, with its stored record, ascending by id. -/
theorem edges_of_spec (m : KV) (h : WF m) (n : Nat) (dir : Dir) (hn : nodeEx m n = true) :
    ∃ l, edgesOf m n dir = some l ∧ (l.map Prod.fst).Pairwise (· < ·) ∧
      ∀ e r, (e, r) ∈ l ↔ (edgeAt m e = some r ∧ EdgeIncident m n dir e) := by
  refine ⟨withRec m (edgesOfIds m n dir), by simp [edgesOf, hn], ?_, ?_⟩
  · exact List.Pairwise.sublist (withRec_fst_sublist m _) (sorted_sortDedup _)
  · intro e r
    rw [mem_withRec, mem_edgesOfIds, mem_outL_iff h, mem_inL_iff h]
    exact ⟨fun hh => ⟨hh.2, hh.1⟩, fun hh => ⟨hh.2, hh.1⟩⟩


/-- The property as a client sees it through `edges_of`: in a well-formed store every existing edge
    is returned (with its record) by `edges_of(from, Outgoing)` and by `edges_of(to, Incoming)`, an
    undirected one also the other way round; conversely (`edges_of_spec`) whatever `edges_of` returns
    exists and touches the node.  With `wf_preserved` this holds after every sequence of operations. -/
theorem edge_visible_from_both_endpoints (m : KV) (h : WF m) (e : Nat) (r : EdgeRec)
    (hr : edgeAt m e = some r) :
    (∃ l, edgesOf m r.src .outgoing = some l ∧ (e, r) ∈ l) ∧
    (∃ l, edgesOf m r.dst .incoming = some l ∧ (e, r) ∈ l) ∧
    (r.directed = false →
      (∃ l, edgesOf m r.dst .outgoing = some l ∧ (e, r) ∈ l) ∧
      (∃ l, edgesOf m r.src .incoming = some l ∧ (e, r) ∈ l)) := by
  obtain ⟨h1, h2, _⟩ := h.edge_listed e r hr
  obtain ⟨l1, e1, _, m1⟩ := edges_of_spec m h r.src .outgoing h1
  obtain ⟨l2, e2, _, m2⟩ := edges_of_spec m h r.dst .incoming h2
  obtain ⟨l3, e3, _, m3⟩ := edges_of_spec m h r.dst .outgoing h2
  obtain ⟨l4, e4, _, m4⟩ := edges_of_spec m h r.src .incoming h1
  refine ⟨⟨l1, e1, (m1 e r).mpr ⟨hr, Or.inl ⟨Or.inl rfl, r, hr, Or.inl rfl⟩⟩⟩,
    ⟨l2, e2, (m2 e r).mpr ⟨hr, Or.inr ⟨Or.inl rfl, r, hr, Or.inl rfl⟩⟩⟩, fun hd => ?_⟩
  exact ⟨⟨l3, e3, (m3 e r).mpr ⟨hr, Or.inl ⟨Or.inl rfl, r, hr, Or.inr ⟨hd, rfl⟩⟩⟩⟩,
    ⟨l4, e4, (m4 e r).mpr ⟨hr, Or.inr ⟨Or.inl rfl, r, hr, Or.inr ⟨hd, rfl⟩⟩⟩⟩⟩

example : edgeAt twoNodesEdgeS.kv 1 = some ⟨1, 2, true, 0, 0⟩ := by decide

theorem edges_of_missing_node (m : KV) (n : Nat) (dir : Dir) (hn : nodeEx m n = false) :
    edgesOf m n dir = none := by
  simp [edgesOf, hn]

example : edgesOf twoNodesEdgeS.kv 2 .incoming = some [(1, ⟨1, 2, true, 0, 0⟩)] ∧
    edgesOf twoNodesEdgeS.kv 2 .outgoing = some [] := by decide

/-- `edges_of_paginated` is a page of `edges_of`: the items are `edges_of` after dropping `skip` and
    keeping at most `limit`, the total is its length, `has_more` says whether anything is left. -/
theorem edges_of_page_spec (m : KV) (h : WF m) (n : Nat) (dir : Dir) (skip : Nat) (limit : Option Nat)
    (l : List (Nat × EdgeRec)) (hl : edgesOf m n dir = some l) :
    edgesOfPage m n dir skip limit = some (pageOf l skip limit, l.length, hasMore l.length skip limit) := by
  unfold edgesOf at hl
  split at hl
  · rename_i hn
    cases hl
    have hall := edgesOfIds_have_records h (n := n) (dir := dir)
    have e1 := withRec_eq_map m (edgesOfIds m n dir) hall
    have e2 := withRec_eq_map m (pageOf (edgesOfIds m n dir) skip limit) (fun e he => hall e (mem_pageOf he))
    simp only [edgesOfPage, hn, if_true]
    rw [e2, e1, map_pageOf, List.length_map]
  · cases hl

example : edgesOfPage twoNodesEdgeS.kv 1 .both 0 (some 0) = some ([], 1, true) := by decide

/-- `out_degree_by_type / in_degree_by_type / degree_by_type` count exactly the existing edges of
    that type incident to `n` (for ANY duplicate-free enumeration `lo` / `li` of them). -/
theorem degree_by_type_spec (m : KV) (h : WF m) (n ty : Nat) (hn : nodeEx m n = true) (lo li : List Nat)
    (hlo : lo.Nodup) (hli : li.Nodup)
    (ho : ∀ e, e ∈ lo ↔ OutIncidentTy m n ty e) (hi : ∀ e, e ∈ li ↔ InIncidentTy m n ty e) :
    outDegreeByType m n ty = some lo.length ∧ inDegreeByType m n ty = some li.length ∧
    degreeByType m n ty = some (lo.length + li.length) := by
  have e1 : countTy m (outL m n) ty = lo.length := by
    apply countTy_eq (h.out_nodup n) hlo
    intro e; rw [ho, mem_outL_iff h]
    constructor
    · rintro ⟨r, hr, ht, hc⟩; exact ⟨⟨r, hr, hc⟩, r, hr, ht⟩
    · rintro ⟨⟨r, hr, hc⟩, r', hr', ht⟩; rw [hr] at hr'; cases hr'; exact ⟨r, hr, ht, hc⟩
  have e2 : countTy m (inL m n) ty = li.length := by
    apply countTy_eq (h.in_nodup n) hli
    intro e; rw [hi, mem_inL_iff h]
    constructor
    · rintro ⟨r, hr, ht, hc⟩; exact ⟨⟨r, hr, hc⟩, r, hr, ht⟩
    · rintro ⟨⟨r, hr, hc⟩, r', hr', ht⟩; rw [hr] at hr'; cases hr'; exact ⟨r, hr, ht, hc⟩
  simp [outDegreeByType, inDegreeByType, degreeByType, hn, e1, e2]

example : degreeByType twoNodesEdgeS.kv 1 0 = some 1 ∧ degreeByType twoNodesEdgeS.kv 1 1 = some 0 := by decide

/-- `all_edges()` lists exactly the existing edge records, ascending by id; `get_all_node_ids()` /
    `all_nodes()` exactly the existing nodes, ascending; `node_count()` is their number. -/
theorem scans_spec (s : St) (h : Inv s) :
    ((allEdges s).map Prod.fst).Pairwise (· < ·) ∧
    (∀ e r, (e, r) ∈ allEdges s ↔ edgeAt s.kv e = some r) ∧
    (allNodeIds s).Pairwise (· < ·) ∧ (∀ n, n ∈ allNodeIds s ↔ nodeEx s.kv n = true) ∧
    nodeCount s = (allNodeIds s).length :=
  ⟨List.Pairwise.sublist (withRec_fst_sublist _ _) (range_pairwise_lt _),
   fun _ _ => mem_allEdges h,
   List.Pairwise.sublist List.filter_sublist (range_pairwise_lt _),
   fun _ => mem_allNodeIds h, rfl⟩

example : allEdges twoNodesEdgeS = [(1, ⟨1, 2, true, 0, 0⟩)] ∧ allNodeIds twoNodesEdgeS = [1, 2] := by decide

/-! ### concurrent: the adjacency-list read-modify-write is atomic (list lock, /repo 81b9c5b4) -/

/-- two nodes 1, 2 created sequentially -/
def twoNodes : St := applyAll St.empty [.createNode 0 0, .createNode 0 0]
def e12 : Op := .createEdge 1 2 true 0 0
/-- nodes 1, 2 and the directed edge 1: 1→2 -/
def twoNodesEdge : St := applyAll St.empty [.createNode 0 0, .createNode 0 0, e12]
/-- nodes 1, 2 and two parallel directed edges 1, 2: 1→2 -/
def twoNodesTwoEdges : St := applyAll St.empty [.createNode 0 0, .createNode 0 0, e12, e12]

/-- The true part of `QuiescentWF`.  Any number of threads, each running any list of `create_edge`
    (any arguments: missing nodes, self-loops, parallel, undirected) and `delete_edge` operations,
    from any reachable store: for EVERY interleaving of their store calls that the list locks
    allow (a thread at the acquire of a held lock is not runnable; acquire / release are taken at
    the latest / earliest point, which gives the model every interleaving of the real code, see
    `Cfg.silent`), once all threads have finished the store is well-formed.  Several threads may
    delete the same edge, create edges on the same hub, create and delete around the same lists.

    Hypothesis on the operations (`Op.adm`): only `create_edge` and `delete_edge`, and a
    `delete_edge(e)` names an id handed out BEFORE the concurrent phase (`e ≤ s0.ne`; the edge need
    not exist).  Outside: node deletion and the update of an edge being deleted (the two remaining
    witnesses below), and deleting an edge whose `create_edge` has not returned yet (the id can only
    be guessed).  `quiescent_wf_partial` adds `create_node`, `update_node`, `add_label`, `remove_label`
    and `update_edge`. -/
theorem adjacency_rmw_atomic (s0 : St) (h : Inv s0) (programs : List (List Op))
    (hadm : ∀ ops ∈ programs, ∀ op ∈ ops, op.adm s0.ne) : QuiescentWF s0 programs :=
  quiescentWF_of_adm2 s0 h (fun _ => True) programs
    (fun ops ho op hop => (hadm ops ho op hop).adm2)

/-- non-vacuity, and the regression form of the three fixed races: the thread sets of
    `rmw_lost_update_witness` and `rmw_lost_removal_witness` satisfy the hypotheses -/
example : QuiescentWF twoNodes [[e12], [e12]] :=
  adjacency_rmw_atomic _ (wf_preserved _ _ inv_empty).1 _ (by
    intro ops hops op hop
    simp at hops; subst hops
    simp at hop; subst hop
    exact True.intro)

example : QuiescentWF twoNodesTwoEdges [[.deleteEdge 1], [.deleteEdge 2]] :=
  adjacency_rmw_atomic _ (wf_preserved _ _ inv_empty).1 _ (by
    intro ops hops op hop
    simp at hops; rcases hops with rfl | rfl <;> simp at hop <;> subst hop <;> simp only [Op.adm] <;> decide)

/-- … and a complete interleaving of them exists: the OLD lost-update schedule is still a schedule
    of the locked code up to the point where thread 1 meets the held lock (its grants there do
    nothing), everything finishes and both edges are listed -/
example : allFinished (runSched [[e12], [e12]]
    [0, 1, 0, 1, 0, 1, 0, 1, 0, 1, 0, 0, 0, 1, 1, 1, 1] twoNodes).1 = true ∧
    outL (runSched [[e12], [e12]] [0, 1, 0, 1, 0, 1, 0, 1, 0, 1, 0, 0, 0, 1, 1, 1, 1] twoNodes).2.kv 1 = [1, 2] := by
  decide

/-! ### concurrent: the full statement `QuiescentWF` is still FALSE -/

/-- `create_edge(1,2)` checks that node 2 exists, `delete_node(2)` then runs to completion, then
    the edge is written: edge 1 points to the deleted node 2 (and `node:2:in` is re-created).
    Schedule entries are scheduler grants (thread index), the first grant of a thread is
    `thread.start`. -/
theorem create_edge_delete_node_race_witness :
    ¬ QuiescentWF twoNodes [[e12], [.deleteNode 2 []]] := by
  intro h
  have hw := h [0, 0, 0, 1, 1, 1, 1, 1, 1, 1, 0, 0, 0, 0, 0] (by decide)
  have h1 := (hw.edge_listed 1 ⟨1, 2, true, 0, 0⟩ (by decide)).2.1
  exact absurd h1 (by decide)

/-- `update_edge(1)` reads the record, `delete_edge(1)` runs to completion, then the update writes
    the record back: edge 1 exists again but no node lists it. -/
theorem update_edge_delete_edge_race_witness :
    ¬ QuiescentWF twoNodesEdge [[.updateEdge 1 9], [.deleteEdge 1]] := by
  intro h
  have hw := h [0, 0, 0, 1, 1, 1, 1, 1, 1, 1, 0] (by decide)
  have h1 := (hw.edge_listed 1 ⟨1, 2, true, 0, 9⟩ (by decide)).2.2.1
  exact absurd h1 (by decide)


/-- `create_edge` writes the edge record FIRST and the list entries afterwards.  A `delete_edge(1)`
    that finds the record in between (guessed id, or discovered by `all_edges`) cleans lists that do
    not mention the edge yet and deletes the record; `create_edge` then adds the entries: both lists
    mention an edge that does not exist.  In the code the creator takes the lock of its first list
    right after the `store.put` of the record, with no yield point in between: the schedule needs a
    preemption there, which the model (locks taken lazily) has and the deterministic scheduler of the
    harness cannot produce — this witness is about the model and is not replayed on the real engine. -/
theorem delete_edge_of_edge_in_creation_race_witness :
    ¬ QuiescentWF twoNodes [[e12], [.deleteEdge 1]] := by
  intro h
  have hw := h [0, 0, 0, 0, 1, 1, 1, 1, 1, 1, 1, 0, 0, 0, 0] (by decide)
  obtain ⟨r, hr, _⟩ := hw.out_sound 1 1 (by decide)
  have hn : edgeAt (runSched [[e12], [.deleteEdge 1]] [0, 0, 0, 0, 1, 1, 1, 1, 1, 1, 1, 0, 0, 0, 0] twoNodes).2.kv 1 = none := by
    decide
  rw [hn] at hr; exact absurd hr (by simp)

/-! ### regression witnesses: the code before the list lock (`Op.progOld`, `…Old` programs) and
    before `create_node` wrote its lists first (`Op.progNodeFirst`, `createNodeFromOld`) -/

/-- Code before e23bf6c3: `create_node` wrote the node record FIRST and initialised the two adjacency
    lists afterwards.  A `create_edge(1, 3)` that sees node 3 between the two (the id can be guessed,
    or discovered by a scan: `node:3` is already stored) appends edge 1 to `node:3:in`; `create_node`
    then overwrites that list with the empty one: edge 1 exists, its target does not list it.
    (Class graph_engine.create_node/lists_initialised_after_node_visible; with the code as it is now
    the same thread set is covered by `quiescent_wf_partial`, see the examples there.) -/
theorem create_node_create_edge_race_old_witness :
    ¬ QuiescentWFNodeFirst twoNodes [[.createNode 0 0], [.createEdge 1 3 true 0 0]] := by
  intro h
  have hw := h [0, 0, 1, 1, 1, 1, 1, 1, 1, 1, 0, 0] (by decide)
  have h1 := (hw.edge_listed 1 ⟨1, 3, true, 0, 0⟩ (by decide)).2.2.2.1
  exact absurd h1 (by decide)

/-- Lost update on the adjacency list of a hub, code before 81b9c5b4: two `create_edge(1,2)` both
    read `node:1:out` (empty), both write it; edge 1 exists but node 1 does not list it. -/
theorem rmw_lost_update_witness :
    ¬ QuiescentWFOld twoNodes [[e12], [e12]] := by
  intro h
  have hw := h [0, 1, 0, 1, 0, 1, 0, 1, 0, 1, 0, 1, 0, 0, 1, 1] (by decide)
  have h1 := (hw.edge_listed 1 ⟨1, 2, true, 0, 0⟩ (by decide)).2.2.1
  exact absurd h1 (by decide)

/-- Lost removal, code before 81b9c5b4: `delete_edge(1)` and `delete_edge(2)` both read
    `node:1:out = [1,2]`, write `[2]` resp. `[1]`: node 1 still lists the deleted edge 1. -/
theorem rmw_lost_removal_witness :
    ¬ QuiescentWFOld twoNodesTwoEdges [[.deleteEdge 1], [.deleteEdge 2]] := by
  intro h
  have hw := h [0, 1, 0, 1, 0, 1, 0, 1, 0, 0, 0, 1, 1, 1] (by decide)
  obtain ⟨r, hr, _⟩ := hw.out_sound 1 1 (by decide)
  have hn : edgeAt (runSchedWith Op.progOld [[Op.deleteEdge 1], [Op.deleteEdge 2]]
      [0, 1, 0, 1, 0, 1, 0, 1, 0, 0, 0, 1, 1, 1] twoNodesTwoEdges).2.kv 1 = none := by decide
  rw [hn] at hr; exact absurd hr (by simp)

/-- the two per-edge tasks that `delete_node(1)`'s >=100-edge path handed to the rayon pool for the
    parallel edges 1, 2 : 1→2 before 81b9c5b4 (one iteration of `delNodeParLoopOld` each) -/
def parTask (e : Nat) : Th := ⟨delNodeParLoopOld 1 [e] false (fun _ => .done .ok), fun _ => True, fun _ => True⟩

/-- INSIDE one `delete_node` call (no second client thread), code before 81b9c5b4: the pool tasks
    of two parallel edges both read `node:2:in = [1,2]`, write `[2]` resp. `[1]`: node 2 still
    lists the deleted edge 1. -/
theorem delete_node_parallel_path_lost_removal_witness :
    ¬ WF (runP [parTask 1, parTask 2] [0, 1, 0, 1, 0, 1, 0, 1] twoNodesTwoEdges).2.kv := by
  intro hw
  obtain ⟨r, hr, _⟩ := hw.in_sound 2 1 (by decide)
  have hn : edgeAt (runP [parTask 1, parTask 2] [0, 1, 0, 1, 0, 1, 0, 1] twoNodesTwoEdges).2.kv 1 = none := by
    decide
  rw [hn] at hr; exact absurd hr (by simp)

/-! ### concurrent: everything but node deletion -/

/-- PARTIAL form of `QuiescentWF`: the largest set of operations for which it holds without a
    condition on footprints.  Any number of threads, each running any list of `create_node`,
    `create_edge`, `delete_edge`, `update_node`, `add_label`, `remove_label` and `update_edge`
    operations from any reachable store: for EVERY interleaving the list locks allow, once all threads
    have finished the store is well-formed.
    `create_node` and `create_edge` take ANY arguments — in particular `create_edge(a, b)` may name a
    node whose `create_node` is still running in another thread (guessed id, or one discovered by a
    scan): since /repo e23bf6c3 `create_node` writes the node's two empty lists before the record that
    makes the node visible, so whoever sees the node appends to lists that are not written again
    (before that commit: `create_node_create_edge_race_old_witness`).
    Conditions (`Admissible`): a `delete_edge(e)` / `update_edge(e)` names an id handed out before the
    concurrent phase; no `update_edge(e)` runs in a phase in which some thread has a `delete_edge(e)`
    (anywhere in its list).
    What is missing w.r.t. the full statement, which is false:
    * `delete_node` next to anything that touches the node or its edges
      (`create_edge_delete_node_race_witness`),
    * `update_edge(e)` next to `delete_edge(e)` (`update_edge_delete_edge_race_witness`),
    * `delete_edge` of an edge whose `create_edge` is still running
      (`delete_edge_of_edge_in_creation_race_witness`): an id handed out DURING the phase, which a
      client can only guess or discover by a scan,
    * the batch calls: `quiescent_wf_with_batch_calls_partial` below.
    For operation sets with disjoint footprints see `quiescent_wf_disjoint_partial`. -/
theorem quiescent_wf_partial (s0 : St) (h : Inv s0) (programs : List (List Op))
    (hadm : ∀ ops ∈ programs, ∀ op ∈ ops, Admissible s0 programs op) : QuiescentWF s0 programs := by
  apply quiescentWF_of_adm2 s0 h (fun e => ∃ ops ∈ programs, Op.deleteEdge e ∈ ops) programs
  intro ops ho op hop
  have ha := hadm ops ho op hop
  cases op with
  | createEdge a b d ty v => trivial
  | createNode l v => trivial
  | updateNode n lab v => trivial
  | addLabel n l => trivial
  | removeLabel n l => trivial
  | deleteEdge e => exact ⟨ha, ops, ho, hop⟩
  | updateEdge e v =>
    refine ⟨ha.1, ?_⟩
    rintro ⟨ops', ho', hm⟩
    exact ha.2 ops' ho' hm
  | _ => exact ha.elim

/-- non-vacuity: updates of edge 1 and node 1 next to the deletion of edge 2, new edges on the same
    hub and new nodes -/
example : QuiescentWF twoNodesTwoEdges
    [[.updateEdge 1 9, .createEdge 1 2 false 0 0], [.deleteEdge 2, .updateNode 1 none 3, .createNode 4 4],
     [.createEdge 2 1 true 1 1, .addLabel 1 5, .removeLabel 2 0]] :=
  quiescent_wf_partial _ (wf_preserved _ _ inv_empty).1 _ (by
    intro ops hops op hop
    simp at hops
    rcases hops with rfl | rfl | rfl <;> simp at hop
    · rcases hop with rfl | rfl
      · refine ⟨by decide, ?_⟩; simp
      · trivial
    · rcases hop with rfl | rfl | rfl
      · show 2 ≤ twoNodesTwoEdges.ne; decide
      · trivial
      · trivial
    · rcases hop with rfl | rfl | rfl
      · trivial
      · trivial
      · trivial)

/-- … `create_edge` may name any node, e.g. one that does not exist -/
example : QuiescentWF twoNodes [[.createEdge 1 7 true 0 0], [e12]] :=
  quiescent_wf_partial _ (wf_preserved _ _ inv_empty).1 _ (by
    intro ops hops op hop
    simp at hops
    rcases hops with rfl | rfl <;> simp at hop <;> subst hop <;> trivial)

/-- What e23bf6c3 makes true, stated on its own: any number of threads running any lists of
    `create_node` and `create_edge` operations with ANY arguments (edges to nodes that do not exist
    yet, that are being created right now by another thread, self-loops, undirected), from any
    reachable store, under EVERY interleaving: the store is well-formed once all have finished. -/
theorem create_node_create_edge_any_interleaving (s0 : St) (h : Inv s0) (programs : List (List Op))
    (hops : ∀ ops ∈ programs, ∀ op ∈ ops, (∃ l v, op = .createNode l v) ∨ (∃ a b d ty v, op = .createEdge a b d ty v)) :
    QuiescentWF s0 programs :=
  quiescent_wf_partial s0 h programs (by
    intro ops ho op hop
    rcases hops ops ho op hop with ⟨l, v, rfl⟩ | ⟨a, b, d, ty, v, rfl⟩ <;> trivial)

/-- non-vacuity: the thread set of `create_node_create_edge_race_old_witness` satisfies the hypotheses … -/
example : QuiescentWF twoNodes [[.createNode 0 0], [.createEdge 1 3 true 0 0]] :=
  create_node_create_edge_any_interleaving _ (wf_preserved _ _ inv_empty).1 _ (by
    intro ops hops op hop
    simp at hops
    rcases hops with rfl | rfl <;> simp at hop <;> subst hop
    · exact Or.inl ⟨_, _, rfl⟩
    · exact Or.inr ⟨_, _, _, _, _, rfl⟩)

/-- … the old witness schedule is a complete schedule of the code as it is now: `create_edge(1, 3)`
    runs while `create_node` has written `node:3:out` only, does not see node 3 and answers
    NodeNotFound; the store is well-formed -/
example : allFinished (runSched [[.createNode 0 0], [.createEdge 1 3 true 0 0]]
      [0, 0, 1, 1, 1, 1, 1, 1, 1, 1, 0, 0] twoNodes).1 = true ∧
    ((runSched [[.createNode 0 0], [.createEdge 1 3 true 0 0]]
      [0, 0, 1, 1, 1, 1, 1, 1, 1, 1, 0, 0] twoNodes).1.map fun t =>
        match t.cur with | some (.done r) => some r | _ => none) =
      [some (.id 3), some (.nodeNotFound 3)] ∧
    wfCheck (runSched [[.createNode 0 0], [.createEdge 1 3 true 0 0]]
      [0, 0, 1, 1, 1, 1, 1, 1, 1, 1, 0, 0] twoNodes).2 = none := by
  refine ⟨by decide, ?_, by decide⟩
  decide

/-- … and when `create_edge(1, 3)` runs after the LAST store call of `create_node` (the record) it
    finds node 3 and both lists: edge 1 is listed by node 3 -/
example : allFinished (runSched [[.createNode 0 0], [.createEdge 1 3 true 0 0]]
      [0, 0, 0, 0, 1, 1, 1, 1, 1, 1, 1, 1] twoNodes).1 = true ∧
    inL (runSched [[.createNode 0 0], [.createEdge 1 3 true 0 0]]
      [0, 0, 0, 0, 1, 1, 1, 1, 1, 1, 1, 1] twoNodes).2.kv 3 = [1] := by
  decide

/-- The order of `create_node`'s three store calls (e23bf6c3), for every id, payload and store: after
    the first two calls the two list keys hold the empty list and the visibility of the node is what
    it was; only the third call makes the node visible, and it ends the operation. -/
theorem create_node_record_written_last (id l v : Nat) (s : St) :
    let c1 := (createNodeFrom id l v).step s
    let c2 := c1.1.step c1.2
    let c3 := c2.1.step c2.2
    nodeEx c1.2.kv id = nodeEx s.kv id ∧ nodeEx c2.2.kv id = nodeEx s.kv id ∧
    c2.2.kv (.out id) = some (.list []) ∧ c2.2.kv (.inn id) = some (.list []) ∧
    c3.2.kv (.out id) = some (.list []) ∧ c3.2.kv (.inn id) = some (.list []) ∧
    nodeEx c3.2.kv id = true ∧ c3.1 = .done (.id id) := by
  simp [createNodeFrom, Prog.step, upd, nodeEx]

example : nodeEx ((createNodeFrom 3 0 0).step twoNodes).2.kv 3 = false := by decide

/-! ### concurrent: the batch calls -/

/-- `quiescent_wf_partial` with the batch calls: any number of threads, each running any list of
    `create_node`, `create_edge`, `delete_edge`, `update_node`, `add_label`, `remove_label`,
    `update_edge`, `batch_create_nodes`, `batch_create_edges`, `batch_delete_edges` and
    `batch_update_nodes` operations from any reachable store: for EVERY interleaving of their store calls that the list locks allow, once all
    threads have finished the store is well-formed.  A batch call is its sequence of store calls (the
    validation calls of all items first, one block of ids, then `create_edge_internal` /
    `create_node_internal` / `delete_edge` item by item), every adjacency-list append and removal in it
    under the lock of that list exactly as in the single operations — so the read-modify-write of a list
    inside a batch call is atomic w.r.t. every other writer of that list, single or batch, whichever
    thread runs it.  `batch_create_edges`, `batch_create_nodes` and `batch_update_nodes` take ANY items
    (endpoints that do not exist, that another thread is creating right now, self-loops, undirected,
    nodes that do not exist, empty input).
    Conditions (`AdmissibleB`): ids named by `delete_edge` / `update_edge` / `batch_delete_edges` were
    handed out before the phase; no edge both updated and deleted.
    What is missing w.r.t. the full statement (false: the witnesses above): `delete_node` and
    `batch_delete_nodes` (node deletion next to anything that touches the node), `update_edge` next to a
    delete of the same edge. -/
theorem quiescent_wf_with_batch_calls_partial (s0 : St) (h : Inv s0) (programs : List (List Op))
    (hadm : ∀ ops ∈ programs, ∀ op ∈ ops, AdmissibleB s0 programs op) : QuiescentWF s0 programs := by
  apply quiescentWF_of_admB s0 h (DelSet programs) programs
  intro ops ho op hop
  have ha := hadm ops ho op hop
  cases op with
  | createEdge a b d ty v => trivial
  | createNode l v => trivial
  | updateNode n lab v => trivial
  | addLabel n l => trivial
  | removeLabel n l => trivial
  | batchCreateEdges items => trivial
  | batchCreateNodes items => trivial
  | deleteEdge e => exact ⟨ha, Or.inl ⟨ops, ho, hop⟩⟩
  | batchDeleteEdges ids => exact fun e he => ⟨ha e he, Or.inr ⟨ops, ho, ids, hop, he⟩⟩
  | updateEdge e v => exact ⟨ha.1, ha.2⟩
  | deleteNode n hint => exact ha.elim
  | batchDeleteNodes ids => exact ha.elim
  | batchUpdateNodes us => trivial

/-- the batch that runs in the regression witness below: one directed edge 1→2 -/
def bce12 : Op := .batchCreateEdges [⟨1, 2, true, 0, 0⟩]

/-- non-vacuity: `batch_create_edges [1→2]` next to `create_edge(1,2)` (the thread set of
    `batch_create_edges_without_stripe_lock_witness`), and a larger mix on one hub -/
example : QuiescentWF twoNodes [[bce12], [e12]] :=
  quiescent_wf_with_batch_calls_partial _ (wf_preserved _ _ inv_empty).1 _ (by
    intro ops hops op hop
    simp at hops
    rcases hops with rfl | rfl <;> simp at hop <;> subst hop <;> trivial)

example : QuiescentWF twoNodesTwoEdges
    [[.batchCreateEdges [⟨1, 2, false, 0, 0⟩, ⟨2, 2, true, 1, 1⟩, ⟨1, 9, true, 0, 0⟩], .batchDeleteEdges [2, 2, 1]],
     [.deleteEdge 1, .batchCreateNodes [(0, 0), (1, 1)], .createEdge 3 1 true 0 0],
     [.batchCreateEdges [⟨2, 1, true, 0, 1⟩], .batchUpdateNodes [(1, none, 3), (9, some 1, 1)]]] :=
  quiescent_wf_with_batch_calls_partial _ (wf_preserved _ _ inv_empty).1 _ (by
    intro ops hops op hop
    simp at hops
    rcases hops with rfl | rfl | rfl <;> simp at hop
    · rcases hop with rfl | rfl
      · trivial
      · intro e he; simp at he; rcases he with rfl | rfl <;> decide
    · rcases hop with rfl | rfl | rfl
      · show 1 ≤ twoNodesTwoEdges.ne; decide
      · trivial
      · trivial
    · rcases hop with rfl | rfl <;> trivial)

/-- … the schedule that breaks the variant without the lock (below) is, for the code as it is, a
    schedule in which `create_edge` meets the lock of `node:1:out` held by the batch call (its grants
    there do nothing); everything finishes, both edges are listed by both endpoints -/
example : allFinished (runSched [[bce12], [e12]]
      [0, 0, 0, 0, 0, 1, 1, 1, 1, 1, 1, 1, 1, 0, 0, 0, 1, 1, 1, 1, 1] twoNodes).1 = true ∧
    outL (runSched [[bce12], [e12]] [0, 0, 0, 0, 0, 1, 1, 1, 1, 1, 1, 1, 1, 0, 0, 0, 1, 1, 1, 1, 1] twoNodes).2.kv 1 = [1, 2] ∧
    inL (runSched [[bce12], [e12]] [0, 0, 0, 0, 0, 1, 1, 1, 1, 1, 1, 1, 1, 0, 0, 0, 1, 1, 1, 1, 1] twoNodes).2.kv 2 = [1, 2] := by
  decide

/-- A `batch_create_edges` whose per-edge body appends to the adjacency lists WITHOUT the list lock
    (`Op.progBatchWithoutStripeLock`: "the batch is one writer for phase 3", the get + put of
    `add_edge_to_list` called directly): the batch reads `node:1:out` (empty), `create_edge(1,2)` runs its
    whole read-modify-write of that list (it takes the lock, which nobody holds) and of `node:2:in`, the
    batch then writes its stale copy back: edge 2 exists, node 1 does not list it.  Same thread set as in
    the example above, where the code as it is (`Op.prog`) is covered by
    `quiescent_wf_with_batch_calls_partial`. -/
theorem batch_create_edges_without_stripe_lock_witness :
    ¬ QuiescentWFBatchWithoutStripeLock twoNodes [[bce12], [e12]] := by
  intro h
  have hw := h [0, 0, 0, 0, 0, 1, 1, 1, 1, 1, 1, 1, 1, 0, 0, 0] (by decide)
  have h1 := (hw.edge_listed 2 ⟨1, 2, true, 0, 0⟩ (by decide)).2.2.1
  exact absurd h1 (by decide)

/-! ### concurrent: EVERY operation — the read-modify-write sections of a list are mutually exclusive -/

/-- For EVERY list of operations per thread — all thirteen operations of the model with any arguments:
    `delete_node` with both of its paths, `batch_delete_nodes` and every other batch call included —
    from ANY store and under EVERY schedule: two threads are never inside a read-modify-write of the
    same adjacency list at the same time (`Thread.inRmw`: the thread's last store call was
    `store.get K`, its next one is `store.put K`; what the harness reads off a real thread's yield trace).
    So the write-back of `add_edge_to_list` / `remove_edge_from_list` never overwrites an update that
    another `add_edge_to_list` / `remove_edge_from_list` made after the read, whichever operation either
    of them is part of.  (`all_ops_WB`: in every operation every `get` of a list key followed by a `put` of
    that key is bracketed by the acquire and the release of that key's lock.)
    The statement is about list updates against list updates only: `delete_node` DELETES the lists of
    its node and `create_node` initialises them outside any section — the node-deletion race
    (`create_edge_delete_node_race_witness`) is not excluded by it. -/
theorem list_rmw_sections_exclusive (s0 : St) (programs : List (List Op)) (sched : List Nat)
    (i j : Nat) (ti tj : Thread) (K : Key) (hij : i ≠ j)
    (hi : (runSched programs sched s0).1[i]? = some ti) (hj : (runSched programs sched s0).1[j]? = some tj)
    (h : ti.inRmw K) : ¬ tj.inRmw K := by
  intro h2
  have hX0 : XI (List.replicate programs.length none) (programs.map Thread.ofOps) [] := by
    have hrep : ∀ (a : Nat) (o : Option Key), (List.replicate programs.length (none : Option Key))[a]? = some o → o = none :=
      fun _ _ => eq_of_getElem?_replicate
    have hof : ∀ (a : Nat) (t : Thread), (programs.map Thread.ofOps)[a]? = some t → t.cur = none ∧ t.trace = [] := by
      intro a t ha
      rw [List.getElem?_map] at ha
      cases hp : programs[a]? with
      | none => simp [hp] at ha
      | some ops => simp [hp] at ha; subst ha; exact ⟨rfl, rfl⟩
    refine ⟨by simp, ?_, ?_, ?_, ?_, ?_⟩
    · intro a t o p ht _ hc; rw [(hof a t ht).1] at hc; cases hc
    · intro a t o ht ho _; exact ⟨hrep a o ho, (hof a t ht).2⟩
    · intro a k ha; cases hrep a _ ha
    · intro a b k _ ha; cases hrep a _ ha
    · intro a t K p ht _ _ hc; rw [(hof a t ht).1] at hc; cases hc
  obtain ⟨owns, hX⟩ := runX sched s0 _ _ _ hX0
  have key : ∀ (a : Nat) (t : Thread), (runThreads Op.prog (programs.map Thread.ofOps) sched s0 []).1[a]? = some t →
      t.inRmw K → owns[a]? = some (some K) := by
    intro a t ha ⟨hK, htr, hl⟩
    cases hc : t.cur with
    | none => simp [hc] at hl
    | some p =>
      simp [hc] at hl
      have hlt : a < owns.length := by
        rw [hX.len]
        rcases Nat.lt_or_ge a (runThreads Op.prog (programs.map Thread.ofOps) sched s0 []).1.length with h | h
        · exact h
        · rw [List.getElem?_eq_none h] at ha; cases ha
      have ho : owns[a]? = some owns[a] := List.getElem?_eq_getElem hlt
      rcases hX.m3 a t K p ha hK htr hc with hm | hn
      · rw [ho, InSect_mid (hX.good a t _ p ha ho hc) hm]
      · exact absurd hl (NoPut_label hn)
  exact hX.excl i j K hij (key i ti hi h) (key j tj hj h2)

/-- non-vacuity: after five grants the batch call has read `node:1:out` and is about to write it … -/
example : ∃ t, (runSched [[bce12], [e12], [.deleteNode 2 []]] [0, 0, 0, 0, 0] twoNodes).1[0]? = some t ∧
    t.inRmw (.out 1) := ⟨_, rfl, by decide⟩

/-- … and whatever is granted to `create_edge(1,2)` from there, it does not get between that read and
    the write-back (here: it stops at the lock) -/
example : ∀ t, (runSched [[bce12], [e12]] [0, 0, 0, 0, 0, 1, 1, 1, 1, 1, 1, 1] twoNodes).1[1]? = some t →
    ¬ t.inRmw (.out 1) :=
  fun t ht => list_rmw_sections_exclusive twoNodes [[bce12], [e12]] [0, 0, 0, 0, 0, 1, 1, 1, 1, 1, 1, 1] 0 1 _ t (.out 1)
    (by decide) rfl ht (by decide)

/-- With `batch_create_edges` appending outside the lock (`Op.progBatchWithoutStripeLock`) the statement
    fails: after these ten grants BOTH threads have read `node:1:out` and are about to write it back. -/
theorem batch_without_stripe_lock_sections_overlap_witness :
    ∃ t0 t1, (runSchedWith Op.progBatchWithoutStripeLock [[bce12], [e12]] [0, 0, 0, 0, 0, 1, 1, 1, 1, 1] twoNodes).1[0]? = some t0 ∧
      (runSchedWith Op.progBatchWithoutStripeLock [[bce12], [e12]] [0, 0, 0, 0, 0, 1, 1, 1, 1, 1] twoNodes).1[1]? = some t1 ∧
      t0.inRmw (.out 1) ∧ t1.inRmw (.out 1) :=
  ⟨_, _, rfl, rfl, by decide, by decide⟩

/-! ### concurrent: operation sets with pairwise disjoint footprints (any operations) -/

/-- PARTIAL form of `QuiescentWF` for operations OUTSIDE `quiescent_wf_partial` (node creation and
    deletion, updates of edges being deleted).  Threads are programs (lists of atomic steps) with a
    footprint `F` (keys read or written) and a write footprint `W ⊆ F`; if the write footprint of every
    thread is disjoint from the footprint of every other thread (`Disjoint`), each thread alone stays
    inside its footprint from the initial store (`Stays`) and alone preserves `WF` on every store
    agreeing with the initial one on its footprint, then EVERY interleaving of the atomic steps that
    lets all threads finish ends in a well-formed store — in fact in the store of the serial run
    (`disjoint_interleaving_serial`).  `runP` ignores the list locks, so it has every interleaving
    of the locked code and more.
    What is missing w.r.t. the full statement (which is false, see the two witnesses above):
    operations whose footprints overlap and that are not covered by `quiescent_wf_partial`; the id
    allocation is outside the programs (ids are pre-assigned, the engine's atomic counters hand out
    distinct fresh ids); one operation per thread. Footprint facts are proved for `create_edge` and
    `delete_edge` (`createEdgeTh_ok`, `deleteEdgeTh_ok`). -/
theorem quiescent_wf_disjoint_partial (ts : List Th) (m0 : KV) (a b : Nat) (hwf : WF m0)
    (hst : ∀ (i : Nat) (t : Th), ts[i]? = some t → Stays t.F t.W t.p m0)
    (hsub : SubFW ts) (hdisj : Disjoint ts)
    (hpres : ∀ (i : Nat) (t : Th), ts[i]? = some t →
      ∀ m', WF m' → (∀ k, t.F k → m' k = m0 k) → WF (finalOf t.p m'))
    (sched : List Nat) (hdone : ∀ t ∈ (runP ts sched ⟨m0, a, b⟩).1, t.isDone = true) :
    WF (runP ts sched ⟨m0, a, b⟩).2.kv := by
  rw [disjoint_interleaving_serial ts m0 a b hst hsub hdisj sched hdone]
  exact serial_wf ts m0 hwf hst hsub hdisj hpres

/-- four nodes; `create_edge(1,2)` (id 1, undirected) and `create_edge(3,4)` (id 2) touch disjoint
    keys: every complete interleaving of their 17 + 9 steps is well-formed -/
def fourNodes : St := applyAll St.empty [.createNode 0 0, .createNode 0 0, .createNode 0 0, .createNode 0 0]

theorem disjoint_create_edges_wf (sched : List Nat)
    (hdone : ∀ t ∈ (runP [createEdgeTh 1 1 2 false 0 0, createEdgeTh 2 3 4 true 0 0] sched fourNodes).1,
      t.isDone = true) :
    WF (runP [createEdgeTh 1 1 2 false 0 0, createEdgeTh 2 3 4 true 0 0] sched fourNodes).2.kv := by
  have h1 := createEdgeTh_ok 1 1 2 false 0 0 fourNodes.kv (by decide) (by decide) (by decide)
  have h2 := createEdgeTh_ok 2 3 4 true 0 0 fourNodes.kv (by decide) (by decide) (by decide)
  have hcases : ∀ (i : Nat) (t : Th),
      [createEdgeTh 1 1 2 false 0 0, createEdgeTh 2 3 4 true 0 0][i]? = some t →
      (i = 0 ∧ t = createEdgeTh 1 1 2 false 0 0) ∨ (i = 1 ∧ t = createEdgeTh 2 3 4 true 0 0) := by
    intro i t h
    match i, h with
    | 0, h => simp at h; exact Or.inl ⟨rfl, h.symm⟩
    | 1, h => simp at h; exact Or.inr ⟨rfl, h.symm⟩
    | n + 2, h => simp at h
  apply quiescent_wf_disjoint_partial _ fourNodes.kv fourNodes.nn fourNodes.ne (wf_of_any_history _)
  · intro i t h; rcases hcases i t h with ⟨_, rfl⟩ | ⟨_, rfl⟩
    · exact h1.1 _
    · exact h2.1 _
  · intro i t h; rcases hcases i t h with ⟨_, rfl⟩ | ⟨_, rfl⟩
    · exact h1.2.1
    · exact h2.2.1
  · intro i j t u hij hi hj k hw hf
    rcases hcases i t hi with ⟨rfl, rfl⟩ | ⟨rfl, rfl⟩ <;> rcases hcases j u hj with ⟨rfl, rfl⟩ | ⟨rfl, rfl⟩
    · exact hij rfl
    · simp only [createEdgeTh] at hw hf
      rcases hw with rfl | rfl | rfl | ⟨_, rfl | rfl⟩ <;> exact absurd hf (by decide)
    · simp only [createEdgeTh] at hw hf
      rcases hw with rfl | rfl | rfl | ⟨h, _⟩ <;> first | exact absurd hf (by decide) | cases h
    · exact hij rfl
  · intro i t h; rcases hcases i t h with ⟨_, rfl⟩ | ⟨_, rfl⟩
    · exact h1.2.2
    · exact h2.2.2
  · exact hdone

/-- non-vacuity: a complete interleaving exists (alternating, then the rest of thread 0), and it is
    well-formed with both edges present -/
example : (runP [createEdgeTh 1 1 2 false 0 0, createEdgeTh 2 3 4 true 0 0]
    [0, 1, 0, 1, 0, 1, 0, 1, 0, 1, 0, 1, 0, 1, 0, 1, 0, 1, 0, 0, 0, 0, 0, 0, 0, 0] fourNodes).1.all Th.isDone = true := by decide

example : WF (runP [createEdgeTh 1 1 2 false 0 0, createEdgeTh 2 3 4 true 0 0]
    [0, 1, 0, 1, 0, 1, 0, 1, 0, 1, 0, 1, 0, 1, 0, 1, 0, 1, 0, 0, 0, 0, 0, 0, 0, 0] fourNodes).2.kv :=
  disjoint_create_edges_wf _ (by
    intro t ht
    have h : (runP [createEdgeTh 1 1 2 false 0 0, createEdgeTh 2 3 4 true 0 0]
      [0, 1, 0, 1, 0, 1, 0, 1, 0, 1, 0, 1, 0, 1, 0, 1, 0, 1, 0, 0, 0, 0, 0, 0, 0, 0] fourNodes).1.all Th.isDone = true := by decide
    exact List.all_eq_true.mp h t ht)

end Neumann.Graph.Props
