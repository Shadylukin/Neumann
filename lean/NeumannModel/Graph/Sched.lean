import NeumannModel.Graph.Model
/-
  C05 — induction principles of the scheduler semantics: what every silent step and every store call keep is
  kept by a grant, what every grant keeps is kept by a schedule.
-/
namespace Neumann.Graph

theorem lt_of_getElem? {α : Type} {l : List α} {i : Nat} {a : α} (h : l[i]? = some a) : i < l.length :=
  (List.getElem?_eq_some_iff.mp h).1

theorem eq_of_getElem?_replicate {α : Type} {n i : Nat} {a b : α} (h : (List.replicate n a)[i]? = some b) : b = a :=
  (List.mem_replicate.mp (List.mem_of_getElem? h)).2

theorem getElem?_set_of_lt {α : Type} {l : List α} {i : Nat} (hi : i < l.length) (a : α) (j : Nat) :
    (l.set i a)[j]? = if j = i then some a else l[j]? := by
  by_cases h : j = i
  · rw [if_pos h, h, List.getElem?_set_self hi]
  · rw [if_neg h, List.getElem?_set_ne (Ne.symm h)]

theorem get_set {α : Type} {l : List α} {i : Nat} {a : α} (hi : l[i]? = some a) (b : α) (j : Nat) :
    (l.set i b)[j]? = if j = i then some b else l[j]? :=
  getElem?_set_of_lt (lt_of_getElem? hi) b j

theorem set_getElem?_self {α : Type} {l : List α} {i : Nat} {a : α} (h : l[i]? = some a) : l.set i a = l := by
  obtain ⟨hi, rfl⟩ := List.getElem?_eq_some_iff.mp h
  exact List.set_getElem_self hi

theorem setAt_eq_set {α : Type} (l : List α) (i : Nat) (a : α) : setAt l i a = l.set i a := by
  induction l generalizing i with
  | nil => rfl
  | cons x xs ih => cases i <;> simp [setAt, ih]

theorem settle_induct (pf : Op → Prog) (take : Bool) {Q : Cfg → Prop}
    (hsil : ∀ c c', Q c → c.silent pf take = some c' → Q c') :
    ∀ (fuel : Nat) (c : Cfg), Q c → Q (settle pf take fuel c) := by
  intro fuel
  induction fuel with
  | zero => exact fun _ h => h
  | succ fuel ih =>
    intro c h
    simp only [settle]
    cases hs : c.silent pf take with
    | none => exact h
    | some c' => exact ih c' (hsil c c' h hs)

/-- `Q tr c`: the thread's store calls so far are `tr` (newest first) and it is in configuration `c` -/
theorem Thread.turn_induct (pf : Op → Prog) {Q : List (Site × Key) → Cfg → Prop}
    (hsil : ∀ tr take c c', Q tr c → c.silent pf take = some c' → Q tr c')
    (hstore : ∀ tr c lab, Q tr c → c.p.label = some lab →
      Q (lab :: tr) ⟨(c.p.step c.s).1, c.rest, c.rs, (c.p.step c.s).2, c.held⟩)
    {t : Thread} {p : Prog} (hc : t.cur = some p) (s : St) (held : List Key)
    (h : Q t.trace ⟨p, t.rest, t.results, s, held⟩) :
    ∃ p', (t.turn pf s held).1.cur = some p' ∧
      Q (t.turn pf s held).1.trace
        ⟨p', (t.turn pf s held).1.rest, (t.turn pf s held).1.results, (t.turn pf s held).2.1, (t.turn pf s held).2.2⟩ := by
  simp only [Thread.turn, hc]
  have h0 := settle_induct pf true (hsil t.trace true) SETTLE_FUEL _ h
  generalize settle pf true SETTLE_FUEL ⟨p, t.rest, t.results, s, held⟩ = c0 at h0
  cases hl : c0.p.label with
  | none => exact ⟨_, rfl, h0⟩
  | some lab => exact ⟨_, rfl, settle_induct pf false (hsil _ false) SETTLE_FUEL _ (hstore _ c0 lab h0 hl)⟩

theorem runThreads_induct (pf : Op → Prog) {P : List Thread → St → List Key → Prop}
    (hturn : ∀ ts s held i t, P ts s held → ts[i]? = some t →
      P (ts.set i (t.turn pf s held).1) (t.turn pf s held).2.1 (t.turn pf s held).2.2)
    (sched : List Nat) : ∀ ts s held, P ts s held →
      P (runThreads pf ts sched s held).1 (runThreads pf ts sched s held).2.1 (runThreads pf ts sched s held).2.2 := by
  induction sched with
  | nil => exact fun _ _ _ h => h
  | cons i sched ih =>
    intro ts s held h
    simp only [runThreads]
    cases hti : ts[i]? with
    | none => exact ih ts s held h
    | some t =>
      simp only
      rw [setAt_eq_set]
      exact ih _ _ _ (hturn ts s held i t h hti)

end Neumann.Graph
