import NeumannModel.Graph.Model
/-
  C05 — the property (WF, QuiescentWF); the views of a store (`edgeAt`, `nodeEx`, `outL`, `inL`, `L` by list key)
  after the list operations run at one key or over a sequence of keys; the sequential invariant `Inv`.
-/
set_option linter.unusedSimpArgs false
set_option linter.unusedVariables false
namespace Neumann.Graph

/-- Structural consistency of a quiescent store image:
    * every existing edge has both endpoints existing and is listed by both, in the right
      direction lists (an undirected edge in out+in of both endpoints);
    * every listed edge id exists and touches the listing node in that direction;
    * no list has duplicates. -/
structure WF (m : KV) : Prop where
  edge_listed : ∀ e r, edgeAt m e = some r →
    nodeEx m r.src = true ∧ nodeEx m r.dst = true ∧ e ∈ outL m r.src ∧ e ∈ inL m r.dst ∧
    (r.directed = false → e ∈ outL m r.dst ∧ e ∈ inL m r.src)
  out_sound : ∀ n e, e ∈ outL m n →
    ∃ r, edgeAt m e = some r ∧ (r.src = n ∨ (r.directed = false ∧ r.dst = n))
  in_sound : ∀ n e, e ∈ inL m n →
    ∃ r, edgeAt m e = some r ∧ (r.dst = n ∨ (r.directed = false ∧ r.src = n))
  out_nodup : ∀ n, (outL m n).Nodup
  in_nodup : ∀ n, (inL m n).Nodup

/-- The full concurrent statement: whatever the interleaving of the store steps of the threads'
    operations, once every thread has finished the store is well-formed. -/
def QuiescentWF (s0 : St) (programs : List (List Op)) : Prop :=
  ∀ sched, allFinished (runSched programs sched s0).1 = true →
    WF (runSched programs sched s0).2.kv

/-- the same statement about the operations as they were before the list lock (`Op.progOld`) -/
def QuiescentWFOld (s0 : St) (programs : List (List Op)) : Prop :=
  ∀ sched, allFinished (runSchedWith Op.progOld programs sched s0).1 = true →
    WF (runSchedWith Op.progOld programs sched s0).2.kv

/-- the same statement about the operations as they were between 81b9c5b4 and e23bf6c3
    (`Op.progNodeFirst`: `create_node` stores the node record before its two empty lists) -/
def QuiescentWFNodeFirst (s0 : St) (programs : List (List Op)) : Prop :=
  ∀ sched, allFinished (runSchedWith Op.progNodeFirst programs sched s0).1 = true →
    WF (runSchedWith Op.progNodeFirst programs sched s0).2.kv

/-- the same statement about a `batch_create_edges` whose list appends are not under the list lock
    (`Op.progBatchWithoutStripeLock`) -/
def QuiescentWFBatchWithoutStripeLock (s0 : St) (programs : List (List Op)) : Prop :=
  ∀ sched, allFinished (runSchedWith Op.progBatchWithoutStripeLock programs sched s0).1 = true →
    WF (runSchedWith Op.progBatchWithoutStripeLock programs sched s0).2.kv

theorem wf_remove_edge {m m' : KV} {e : Nat}
    (h : WF m)
    (hE : ∀ x, edgeAt m' x = if x = e then none else edgeAt m x)
    (hN : ∀ n, nodeEx m' n = nodeEx m n)
    (hO : ∀ n x, x ∈ outL m' n ↔ x ∈ outL m n ∧ x ≠ e)
    (hI : ∀ n x, x ∈ inL m' n ↔ x ∈ inL m n ∧ x ≠ e)
    (hOd : ∀ n, (outL m' n).Nodup) (hId : ∀ n, (inL m' n).Nodup) : WF m' := by
  refine ⟨?_, ?_, ?_, hOd, hId⟩
  · intro x rx hx
    rw [hE] at hx
    by_cases hxe : x = e
    · simp [hxe] at hx
    · simp [hxe] at hx
      obtain ⟨h1, h2, h3, h4, h5⟩ := h.edge_listed x rx hx
      simp only [hN, hO, hI]
      exact ⟨h1, h2, ⟨h3, hxe⟩, ⟨h4, hxe⟩, fun hd => ⟨⟨(h5 hd).1, hxe⟩, ⟨(h5 hd).2, hxe⟩⟩⟩
  · intro n x hx
    rw [hO] at hx
    obtain ⟨rx, hrx, ht⟩ := h.out_sound n x hx.1
    exact ⟨rx, by rw [hE]; simp [hx.2, hrx], ht⟩
  · intro n x hx
    rw [hI] at hx
    obtain ⟨rx, hrx, ht⟩ := h.in_sound n x hx.1
    exact ⟨rx, by rw [hE]; simp [hx.2, hrx], ht⟩

theorem wf_remove_isolated_node {m m' : KV} {id : Nat}
    (h : WF m) (ho : outL m id = []) (hi : inL m id = [])
    (hE : ∀ x, edgeAt m' x = edgeAt m x)
    (hN : ∀ n, nodeEx m' n = (nodeEx m n && decide (n ≠ id)))
    (hO : ∀ n, outL m' n = outL m n)
    (hI : ∀ n, inL m' n = inL m n) : WF m' := by
  refine ⟨?_, ?_, ?_, ?_, ?_⟩
  · intro x rx hx
    rw [hE] at hx
    obtain ⟨h1, h2, h3, h4, h5⟩ := h.edge_listed x rx hx
    have hs : rx.src ≠ id := by intro hh; rw [hh, ho] at h3; cases h3
    have hd : rx.dst ≠ id := by intro hh; rw [hh, hi] at h4; cases h4
    simp only [hN, hO, hI]
    exact ⟨by simp [h1, hs], by simp [h2, hd], h3, h4, h5⟩
  · intro n x hx
    rw [hO] at hx
    obtain ⟨rx, hrx, ht⟩ := h.out_sound n x hx
    exact ⟨rx, by rw [hE]; exact hrx, ht⟩
  · intro n x hx
    rw [hI] at hx
    obtain ⟨rx, hrx, ht⟩ := h.in_sound n x hx
    exact ⟨rx, by rw [hE]; exact hrx, ht⟩
  · intro n; rw [hO]; exact h.out_nodup n
  · intro n; rw [hI]; exact h.in_nodup n

/-- same shape: node existence and lists unchanged, edge records keep endpoints and direction -/
theorem wf_same_shape {m m' : KV} (h : WF m)
    (hE : ∀ x r', edgeAt m' x = some r' →
      ∃ r, edgeAt m x = some r ∧ r'.src = r.src ∧ r'.dst = r.dst ∧ r'.directed = r.directed)
    (hE2 : ∀ x r, edgeAt m x = some r →
      ∃ r', edgeAt m' x = some r' ∧ r'.src = r.src ∧ r'.dst = r.dst ∧ r'.directed = r.directed)
    (hN : ∀ n, nodeEx m n = true → nodeEx m' n = true)
    (hO : ∀ n, outL m' n = outL m n)
    (hI : ∀ n, inL m' n = inL m n) : WF m' := by
  refine ⟨?_, ?_, ?_, ?_, ?_⟩
  · intro x r' hx
    obtain ⟨r, hr, e1, e2, e3⟩ := hE x r' hx
    obtain ⟨h1, h2, h3, h4, h5⟩ := h.edge_listed x r hr
    simp only [hO, hI, e1, e2, e3]
    exact ⟨hN _ h1, hN _ h2, h3, h4, h5⟩
  · intro n x hx
    rw [hO] at hx
    obtain ⟨r, hr, ht⟩ := h.out_sound n x hx
    obtain ⟨r', hr', e1, e2, e3⟩ := hE2 x r hr
    exact ⟨r', hr', by rw [e1, e2, e3]; exact ht⟩
  · intro n x hx
    rw [hI] at hx
    obtain ⟨r, hr, ht⟩ := h.in_sound n x hx
    obtain ⟨r', hr', e1, e2, e3⟩ := hE2 x r hr
    exact ⟨r', hr', by rw [e1, e2, e3]; exact ht⟩
  · intro n; rw [hO]; exact h.out_nodup n
  · intro n; rw [hI]; exact h.in_nodup n

@[simp] theorem listOf_some_list (l : List Nat) : listOf (some (Val.list l)) = l := rfl
@[simp] theorem edgeOf_some_edge (r : EdgeRec) : edgeOf (some (Val.edge r)) = some r := rfl
@[simp] theorem edgeOf_none : edgeOf none = none := rfl
@[simp] theorem listOf_none : listOf none = [] := rfl

@[simp] theorem outL_upd (m : KV) (k : Key) (v : Option Val) (n : Nat) :
    outL (upd m k v) n = if Key.out n = k then listOf v else outL m n := by
  unfold outL upd; split <;> rfl
@[simp] theorem inL_upd (m : KV) (k : Key) (v : Option Val) (n : Nat) :
    inL (upd m k v) n = if Key.inn n = k then listOf v else inL m n := by
  unfold inL upd; split <;> rfl
@[simp] theorem edgeAt_upd (m : KV) (k : Key) (v : Option Val) (e : Nat) :
    edgeAt (upd m k v) e = if Key.edge e = k then edgeOf v else edgeAt m e := by
  unfold edgeAt upd; split <;> rfl
@[simp] theorem nodeEx_upd (m : KV) (k : Key) (v : Option Val) (n : Nat) :
    nodeEx (upd m k v) n = if Key.node n = k then v.isSome else nodeEx m n := by
  unfold nodeEx upd; split <;> rfl

def Key.isList : Key → Bool
  | .out _ | .inn _ => true
  | _ => false

def L (m : KV) : Key → List Nat
  | .out n => outL m n
  | .inn n => inL m n
  | _ => []

/-- the list keys that must mention an edge with record `r`, in the order `create_edge` writes
    them and `delete_edge` cleans them -/
def req (r : EdgeRec) : List Key :=
  [.out r.src, .inn r.dst] ++ (if r.directed then [] else [.out r.dst, .inn r.src])

theorem mem_req {r : EdgeRec} {K : Key} : K ∈ req r ↔
    K = .out r.src ∨ K = .inn r.dst ∨ (r.directed = false ∧ (K = .out r.dst ∨ K = .inn r.src)) := by
  unfold req; cases r.directed <;> simp

theorem mem_req_out {r : EdgeRec} {n : Nat} : .out n ∈ req r ↔ r.src = n ∨ (r.directed = false ∧ r.dst = n) := by
  simp [mem_req, @eq_comm Nat n]

theorem mem_req_inn {r : EdgeRec} {n : Nat} : .inn n ∈ req r ↔ r.dst = n ∨ (r.directed = false ∧ r.src = n) := by
  simp [mem_req, @eq_comm Nat n]

theorem req_isList {r : EdgeRec} {K : Key} (h : K ∈ req r) : K.isList = true := by
  rcases mem_req.mp h with rfl | rfl | ⟨_, rfl | rfl⟩ <;> rfl

theorem L_of_isList {m : KV} {K : Key} (h : K.isList = true) : L m K = listOf (m K) := by
  cases K <;> simp [Key.isList] at h <;> rfl

@[simp] theorem L_upd_edge (m : KV) (x : Nat) (v : Option Val) (K : Key) : L (upd m (.edge x) v) K = L m K := by
  cases K <;> simp [L]

@[simp] theorem L_upd_node (m : KV) (n : Nat) (v : Option Val) (K : Key) : L (upd m (.node n) v) K = L m K := by
  cases K <;> simp [L]

theorem L_upd_list (m : KV) (k : Key) (l : List Nat) (K : Key) (hk : k.isList = true) :
    L (upd m k (some (.list l))) K = if K = k then l else L m K := by
  cases K <;> cases k <;> simp [L, Key.isList, listOf, listOfVal] at hk ⊢ <;> (split <;> simp_all)

theorem nodeEx_upd_list (m : KV) (k : Key) (v : Option Val) (n : Nat) (hk : k.isList = true) :
    nodeEx (upd m k v) n = nodeEx m n := by
  cases k <;> simp [Key.isList] at hk <;> simp

theorem edgeAt_upd_list (m : KV) (k : Key) (v : Option Val) (x : Nat) (hk : k.isList = true) :
    edgeAt (upd m k v) x = edgeAt m x := by
  cases k <;> simp [Key.isList] at hk <;> simp

/-- `WF` by list key: every edge is in the lists `req` asks for, every list entry has a record that asks
    for that list, no list has duplicates -/
theorem wf_iff_L {m : KV} : WF m ↔
    (∀ e r, edgeAt m e = some r → nodeEx m r.src = true ∧ nodeEx m r.dst = true ∧ ∀ K ∈ req r, e ∈ L m K) ∧
    (∀ K e, e ∈ L m K → ∃ r, edgeAt m e = some r ∧ K ∈ req r) ∧ ∀ K, (L m K).Nodup := by
  constructor
  · intro h
    refine ⟨fun e r hr => ?_, fun K e he => ?_, fun K => ?_⟩
    · obtain ⟨a1, a2, a3, a4, a5⟩ := h.edge_listed e r hr
      refine ⟨a1, a2, fun K hK => ?_⟩
      rcases mem_req.mp hK with rfl | rfl | ⟨hd, rfl | rfl⟩
      · exact a3
      · exact a4
      · exact (a5 hd).1
      · exact (a5 hd).2
    · cases K with
      | out n => obtain ⟨r, hr, ht⟩ := h.out_sound n e he; exact ⟨r, hr, mem_req_out.mpr ht⟩
      | inn n => obtain ⟨r, hr, ht⟩ := h.in_sound n e he; exact ⟨r, hr, mem_req_inn.mpr ht⟩
      | node n => cases he
      | edge x => cases he
    · cases K with
      | out n => exact h.out_nodup n
      | inn n => exact h.in_nodup n
      | node n => exact List.nodup_nil
      | edge x => exact List.nodup_nil
  · rintro ⟨w1, w2, w3⟩
    refine ⟨fun e r hr => ?_, fun n e he => ?_, fun n e he => ?_, fun n => w3 (.out n), fun n => w3 (.inn n)⟩
    · obtain ⟨a1, a2, a3⟩ := w1 e r hr
      exact ⟨a1, a2, a3 _ (mem_req_out.mpr (Or.inl rfl)), a3 _ (mem_req_inn.mpr (Or.inl rfl)),
        fun hd => ⟨a3 _ (mem_req_out.mpr (Or.inr ⟨hd, rfl⟩)), a3 _ (mem_req_inn.mpr (Or.inr ⟨hd, rfl⟩))⟩⟩
    · obtain ⟨r, hr, hK⟩ := w2 (.out n) e he; exact ⟨r, hr, mem_req_out.mp hK⟩
    · obtain ⟨r, hr, hK⟩ := w2 (.inn n) e he; exact ⟨r, hr, mem_req_inn.mp hK⟩

/-- every listed edge has a record that asks for the list, and both endpoints of every record exist: a
    node that does not exist has empty lists -/
theorem lists_nil_of_missing {m : KV}
    (w1 : ∀ e r, edgeAt m e = some r → nodeEx m r.src = true ∧ nodeEx m r.dst = true)
    (w2 : ∀ K e, e ∈ L m K → ∃ r, edgeAt m e = some r ∧ K ∈ req r) {n : Nat} (hn : nodeEx m n = false) :
    L m (.out n) = [] ∧ L m (.inn n) = [] := by
  have key : ∀ K, (K = .out n ∨ K = .inn n) → L m K = [] := by
    intro K hK
    cases hl : L m K with
    | nil => rfl
    | cons x xs =>
      exfalso
      obtain ⟨r, hr, hreq⟩ := w2 K x (by rw [hl]; exact List.mem_cons_self ..)
      obtain ⟨c1, c2⟩ := w1 x r hr
      have hend : r.src = n ∨ r.dst = n := by
        rcases hK with rfl | rfl
        · exact (mem_req_out.mp hreq).imp_right And.right
        · exact (mem_req_inn.mp hreq).symm.imp_left And.right
      rcases hend with h | h
      · rw [← h, c1] at hn; cases hn
      · rw [← h, c2] at hn; cases hn
  exact ⟨key _ (Or.inl rfl), key _ (Or.inr rfl)⟩

theorem WF.lists_of_missing_node {m : KV} (h : WF m) {n : Nat} (hn : nodeEx m n = false) :
    outL m n = [] ∧ inL m n = [] :=
  lists_nil_of_missing (fun e r hr => ⟨((wf_iff_L.mp h).1 e r hr).1, ((wf_iff_L.mp h).1 e r hr).2.1⟩) (wf_iff_L.mp h).2.1 hn

def ins (l : List Nat) (e : Nat) : List Nat := if e ∈ l then l else l ++ [e]

theorem mem_ins {l : List Nat} {e x : Nat} : x ∈ ins l e ↔ x ∈ l ∨ x = e := by
  unfold ins; split
  · constructor
    · exact Or.inl
    · rintro (h | rfl) <;> assumption
  · simp

theorem nodup_ins {l : List Nat} {e : Nat} (h : l.Nodup) : (ins l e).Nodup := by
  unfold ins; split
  · exact h
  · rename_i hne
    rw [List.nodup_append]
    refine ⟨h, by simp, ?_⟩
    intro a ha b hb
    simp at hb; subst hb
    intro hab; subst hab; exact hne ha

theorem ins_ins (l : List Nat) (e : Nat) : ins (ins l e) e = ins l e := by
  have : e ∈ ins l e := mem_ins.mpr (Or.inr rfl)
  rw [ins.eq_1 (ins l e)]
  simp [this]

def rmv (l : List Nat) (e : Nat) : List Nat := l.filter (fun x => x != e)
theorem mem_rmv {l : List Nat} {e x : Nat} : x ∈ rmv l e ↔ x ∈ l ∧ x ≠ e := by simp [rmv]
theorem rmv_rmv (l : List Nat) (e : Nat) : rmv (rmv l e) e = rmv l e := by simp [rmv, List.filter_filter]
theorem nodup_rmv {l : List Nat} {e : Nat} (h : l.Nodup) : (rmv l e).Nodup := List.Nodup.sublist List.filter_sublist h

/-- `remove_edge_from_list` as a store transformer -/
def rmKV (m : KV) (k : Key) (e : Nat) : KV :=
  match m k with
  | none => m
  | some val => upd m k (some (.list ((listOfVal val).filter (fun x => x != e))))

theorem run1_addTo (k : Key) (e : Nat) (c : Prog) (s : St) :
    run1 (addTo k e c) s = run1 c { s with kv := upd s.kv k (some (.list (ins (listOf (s.kv k)) e))) } := rfl

theorem run1_rmFrom (k : Key) (e : Nat) (c : Prog) (s : St) :
    run1 (rmFrom k e c) s = run1 c { s with kv := rmKV s.kv k e } := by
  unfold rmFrom rmKV
  rw [run1, run1]
  cases h : s.kv k with
  | none => simp [run1]
  | some val => simp [run1]

theorem edgeAt_rmKV (m : KV) (k : Key) (e x : Nat) (hk : k.isList = true) : edgeAt (rmKV m k e) x = edgeAt m x := by
  unfold rmKV; split
  · rfl
  · exact edgeAt_upd_list _ _ _ _ hk
theorem nodeEx_rmKV (m : KV) (k : Key) (e x : Nat) (hk : k.isList = true) : nodeEx (rmKV m k e) x = nodeEx m x := by
  unfold rmKV; split
  · rfl
  · exact nodeEx_upd_list _ _ _ _ hk

theorem run1_addTo_out (n e : Nat) (c : Prog) (s : St) :
    run1 (addTo (.out n) e c) s = run1 c { s with kv := upd s.kv (.out n) (some (.list (ins (outL s.kv n) e))) } := rfl
theorem run1_addTo_inn (n e : Nat) (c : Prog) (s : St) :
    run1 (addTo (.inn n) e c) s = run1 c { s with kv := upd s.kv (.inn n) (some (.list (ins (inL s.kv n) e))) } := rfl

theorem isSome_upd_some {m : KV} {k k' : Key} {v : Val} (h : (m k).isSome = true) :
    (upd m k' (some v) k).isSome = true := by
  unfold upd; split
  · rfl
  · exact h

theorem isSome_rmKV (m : KV) (k : Key) (e : Nat) (k' : Key) : (rmKV m k e k').isSome = (m k').isSome := by
  unfold rmKV
  cases h : m k with
  | none => rfl
  | some val => simp only [upd]; split
                · rename_i hk; subst hk; simp [h]
                · rfl

def addSeq (x : Nat) : List Key → Prog → Prog
  | [], c => c
  | k :: ks, c => addTo k x (addSeq x ks c)

def rmSeq (e : Nat) : List Key → Prog → Prog
  | [], c => c
  | k :: ks, c => rmFrom k e (rmSeq e ks c)

def delTail (e : Nat) : Prog := .del (.edge e) fun ok => .done (if ok then .ok else .storage)

theorem createEdgeFrom_eq (x a b : Nat) (d : Bool) (ty v : Nat) :
    createEdgeFrom x a b d ty v =
      .put (.edge x) (.edge ⟨a, b, d, ty, v⟩) (addSeq x (req ⟨a, b, d, ty, v⟩) (.done (.id x))) := by
  cases d <;> rfl

theorem deleteEdgeBody_eq (e : Nat) (r : EdgeRec) :
    deleteEdgeBody e r = rmSeq e (req r) (delTail e) := by
  unfold deleteEdgeBody req
  cases hd : r.directed <;> simp [hd, rmSeq, delTail]

def addKV (m : KV) (k : Key) (e : Nat) : KV := upd m k (some (.list (ins (listOf (m k)) e)))

theorem run1_addSeq (x : Nat) (c : Prog) : ∀ (ks : List Key) (s : St),
    run1 (addSeq x ks c) s = run1 c { s with kv := ks.foldl (fun m k => addKV m k x) s.kv }
  | [], _ => rfl
  | k :: ks, s => by rw [addSeq, run1_addTo]; exact run1_addSeq x c ks _

theorem run1_rmSeq (e : Nat) (c : Prog) : ∀ (ks : List Key) (s : St),
    run1 (rmSeq e ks c) s = run1 c { s with kv := ks.foldl (fun m k => rmKV m k e) s.kv }
  | [], _ => rfl
  | k :: ks, s => by rw [rmSeq, run1_rmFrom]; exact run1_rmSeq e c ks _

theorem L_addKV (m : KV) (k : Key) (e : Nat) (K : Key) (hk : k.isList = true) :
    L (addKV m k e) K = if K = k then ins (L m K) e else L m K := by
  rw [addKV, L_upd_list _ _ _ _ hk]; split
  · rename_i h; rw [h, L_of_isList hk]
  · rfl

theorem L_rmKV (m : KV) (k : Key) (e : Nat) (K : Key) (hk : k.isList = true) :
    L (rmKV m k e) K = if K = k then rmv (L m K) e else L m K := by
  have hLk : L m k = listOf (m k) := L_of_isList hk
  unfold rmKV
  split
  · rename_i h
    split
    · rename_i hK; rw [hK, hLk, h]; rfl
    · rfl
  · rename_i val h
    rw [L_upd_list _ _ _ _ hk]; split
    · rename_i hK; rw [hK, hLk, h]; rfl
    · rfl

/-- a store transformer `op` run over the list keys `ks`: what it does to the one list it is run at
    (`f`, idempotent) it does to exactly the lists `ks` -/
theorem L_foldl {op : KV → Key → KV} {f : List Nat → List Nat} (hf : ∀ l, f (f l) = f l)
    (hop : ∀ m k K, k.isList = true → L (op m k) K = if K = k then f (L m K) else L m K) :
    ∀ (ks : List Key), (∀ k ∈ ks, k.isList = true) → ∀ (m : KV) (K : Key),
      L (ks.foldl op m) K = if K ∈ ks then f (L m K) else L m K
  | [], _, _, _ => by simp
  | k :: ks, hks, m, K => by
    rw [List.foldl_cons, L_foldl hf hop ks (fun k' h => hks k' (List.mem_cons_of_mem _ h)),
      hop m k K (hks k (List.mem_cons_self ..))]
    by_cases hK : K = k
    · subst hK
      rw [if_pos rfl, if_pos (List.mem_cons_self ..)]
      split
      · exact hf _
      · rfl
    · rw [if_neg hK]
      simp only [List.mem_cons, hK, false_or]

theorem foldl_keys {op : KV → Key → KV} {P : KV → Prop} (h : ∀ m k, k.isList = true → P m → P (op m k)) :
    ∀ (ks : List Key), (∀ k ∈ ks, k.isList = true) → ∀ m, P m → P (ks.foldl op m)
  | [], _, _, hm => hm
  | k :: ks, hks, m, hm =>
    foldl_keys h ks (fun k' h' => hks k' (List.mem_cons_of_mem _ h')) _ (h m k (hks k (List.mem_cons_self ..)) hm)

theorem foldl_view {β : Type} {op : KV → Key → KV} (view : KV → β)
    (h : ∀ m k, k.isList = true → view (op m k) = view m) (ks : List Key) (hks : ∀ k ∈ ks, k.isList = true) (m : KV) :
    view (ks.foldl op m) = view m :=
  foldl_keys (P := fun m' => view m' = view m) (fun m' k hk h' => (h m' k hk).trans h') ks hks m rfl

theorem endpoint_eq_comm {a b n : Nat} {d : Bool} : (a = n ∨ (d = false ∧ b = n)) ↔ (n = a ∨ (d = false ∧ n = b)) :=
  or_congr eq_comm (and_congr_right fun _ => eq_comm)

structure Inv (s : St) : Prop where
  wf : WF s.kv
  freshN : ∀ n, s.nn < n → nodeEx s.kv n = false
  freshE : ∀ e, s.ne < e → edgeAt s.kv e = none
  keys : ∀ n, nodeEx s.kv n = true → (s.kv (.out n)).isSome = true ∧ (s.kv (.inn n)).isSome = true

theorem inv_empty : Inv St.empty := by
  refine ⟨⟨?_, ?_, ?_, ?_, ?_⟩, ?_, ?_, ?_⟩ <;> intros <;> simp_all [St.empty, edgeAt, edgeOf, outL, inL, listOf, nodeEx]

theorem inv_createNode (s : St) (l v : Nat) (h : Inv s) : Inv (apply s (.createNode l v)).2 := by
  have hn := h.freshN (s.nn + 1) (by omega)
  obtain ⟨ho, hi⟩ := h.wf.lists_of_missing_node hn
  simp only [apply, Op.prog, createNodeProg, createNodeFrom, run1]
  refine ⟨?_, ?_, ?_, ?_⟩
  · apply wf_same_shape h.wf
    · intro x r' hx; simp at hx; exact ⟨r', hx, rfl, rfl, rfl⟩
    · intro x r hx; exact ⟨r, by simp [hx], rfl, rfl, rfl⟩
    · intro n hn'; simp; exact Or.inr hn'
    · intro n; simp; intro hh; subst hh; simp [listOf, listOfVal, ho]
    · intro n; simp; intro hh; subst hh; simp [listOf, listOfVal, hi]
  · intro n hlt; simp at hlt ⊢
    have : n ≠ s.nn + 1 := by omega
    simp [this]; exact h.freshN n (by omega)
  · intro e hlt; simp at hlt ⊢; exact h.freshE e hlt
  · intro n hn'; simp at hn'
    by_cases hx : n = s.nn + 1
    · subst hx; simp [upd]
    · simp [hx] at hn'; have := h.keys n hn'; simp [upd, hx, this]

theorem createEdgeFrom_L (s : St) (eid a b : Nat) (d : Bool) (ty v : Nat) (K : Key) :
    L (run1 (createEdgeFrom eid a b d ty v) s).2.kv K =
      if K ∈ req ⟨a, b, d, ty, v⟩ then ins (L s.kv K) eid else L s.kv K := by
  rw [createEdgeFrom_eq]
  simp only [run1, run1_addSeq]
  exact (L_foldl (f := (ins · eid)) (fun l => ins_ins l eid) (fun m k K => L_addKV m k eid K) _ (fun k => req_isList) _ K).trans
    (by rw [L_upd_edge])

theorem createEdgeFrom_spec (s : St) (eid a b : Nat) (d : Bool) (ty v : Nat) :
    (run1 (createEdgeFrom eid a b d ty v) s).2.nn = s.nn ∧
    (run1 (createEdgeFrom eid a b d ty v) s).2.ne = s.ne ∧
    (∀ x, edgeAt (run1 (createEdgeFrom eid a b d ty v) s).2.kv x =
        if x = eid then some ⟨a, b, d, ty, v⟩ else edgeAt s.kv x) ∧
    (∀ n, nodeEx (run1 (createEdgeFrom eid a b d ty v) s).2.kv n = nodeEx s.kv n) ∧
    (∀ n, outL (run1 (createEdgeFrom eid a b d ty v) s).2.kv n =
        if n = a ∨ (d = false ∧ n = b) then ins (outL s.kv n) eid else outL s.kv n) ∧
    (∀ n, inL (run1 (createEdgeFrom eid a b d ty v) s).2.kv n =
        if n = b ∨ (d = false ∧ n = a) then ins (inL s.kv n) eid else inL s.kv n) ∧
    (∀ k, (s.kv k).isSome = true → ((run1 (createEdgeFrom eid a b d ty v) s).2.kv k).isSome = true) := by
  have hlist : ∀ k ∈ req ⟨a, b, d, ty, v⟩, k.isList = true := fun k => req_isList
  refine ⟨?_, ?_, fun x => ?_, fun n => ?_,
    fun n => (createEdgeFrom_L s eid a b d ty v (.out n)).trans
      (ite_congr (propext (mem_req_out.trans endpoint_eq_comm)) (fun _ => rfl) (fun _ => rfl)),
    fun n => (createEdgeFrom_L s eid a b d ty v (.inn n)).trans
      (ite_congr (propext (mem_req_inn.trans endpoint_eq_comm)) (fun _ => rfl) (fun _ => rfl)), fun k hk => ?_⟩
  all_goals rw [createEdgeFrom_eq]; simp only [run1, run1_addSeq]
  · refine (foldl_view (fun m => edgeAt m x) (fun m k hk => edgeAt_upd_list _ _ _ _ hk) _ hlist _).trans ?_
    rw [edgeAt_upd]
    by_cases hx : x = eid
    · rw [if_pos hx, if_pos (congrArg Key.edge hx)]; rfl
    · rw [if_neg hx, if_neg (fun h => hx (Key.edge.inj h))]
  · refine (foldl_view (fun m => nodeEx m n) (fun m k hk => nodeEx_upd_list _ _ _ _ hk) _ hlist _).trans ?_
    rw [nodeEx_upd, if_neg (fun h => Key.noConfusion h)]
  · exact foldl_keys (P := fun m => (m k).isSome = true) (fun m k' _ h => isSome_upd_some h) _ hlist _ (isSome_upd_some hk)

theorem wf_createEdgeFrom (s : St) (eid a b : Nat) (d : Bool) (ty v : Nat)
    (h : WF s.kv) (hf : edgeAt s.kv eid = none) (ha : nodeEx s.kv a = true) (hb : nodeEx s.kv b = true) :
    WF (run1 (createEdgeFrom eid a b d ty v) s).2.kv := by
  obtain ⟨w1, w2, w3⟩ := wf_iff_L.mp h
  obtain ⟨_, _, hE, hN, _⟩ := createEdgeFrom_spec s eid a b d ty v
  have hL := createEdgeFrom_L s eid a b d ty v
  have hold : ∀ K x, x ∈ L s.kv K → ∃ r, edgeAt (run1 (createEdgeFrom eid a b d ty v) s).2.kv x = some r ∧ K ∈ req r := by
    intro K x hx
    obtain ⟨r, hr, hK⟩ := w2 K x hx
    have hne : x ≠ eid := fun h' => by rw [h', hf] at hr; cases hr
    exact ⟨r, by rw [hE, if_neg hne]; exact hr, hK⟩
  refine wf_iff_L.mpr ⟨fun x r hx => ?_, fun K x hx => ?_, fun K => ?_⟩
  · rw [hE] at hx
    simp only [hN, hL]
    split at hx
    · rename_i hxe; cases hx
      exact ⟨ha, hb, fun K hK => by rw [if_pos hK]; exact mem_ins.mpr (Or.inr hxe)⟩
    · obtain ⟨a1, a2, a3⟩ := w1 x r hx
      refine ⟨a1, a2, fun K hK => ?_⟩
      split
      · exact mem_ins.mpr (Or.inl (a3 K hK))
      · exact a3 K hK
  · rw [hL] at hx
    split at hx
    · rename_i hK
      rcases mem_ins.mp hx with hx | rfl
      · exact hold K x hx
      · exact ⟨_, by rw [hE, if_pos rfl], hK⟩
    · exact hold K x hx
  · rw [hL]; split
    · exact nodup_ins (w3 K)
    · exact w3 K

theorem inv_createEdge (s : St) (a b : Nat) (d : Bool) (ty v : Nat) (h : Inv s) :
    Inv (apply s (.createEdge a b d ty v)).2 := by
  simp only [apply, Op.prog, createEdgeProg, createEdgeCheckB, createEdgeAlloc, run1]
  by_cases ha : (s.kv (.node a)).isSome = true
  · by_cases hb : (s.kv (.node b)).isSome = true
    · simp only [ha, hb, Bool.not_true, Bool.false_eq_true, ↓reduceIte, run1]
      have hf := h.freshE (s.ne + 1) (by omega)
      obtain ⟨e1, e2, hE, hN, hO, hI, hK⟩ := createEdgeFrom_spec { s with ne := s.ne + 1 } (s.ne + 1) a b d ty v
      refine ⟨wf_createEdgeFrom _ _ a b d ty v h.wf hf ha hb, ?_, ?_, ?_⟩
      · intro n hn; rw [hN]; rw [e1] at hn; exact h.freshN n hn
      · intro e he; rw [hE]; rw [e2] at he; simp at he
        have : e ≠ s.ne + 1 := by omega
        simp [this]; exact h.freshE e (by omega)
      · intro n hn; rw [hN] at hn; exact ⟨hK _ (h.keys n hn).1, hK _ (h.keys n hn).2⟩
    · simp only [ha, hb, Bool.not_true, Bool.not_false, Bool.false_eq_true, ↓reduceIte, run1]; exact h
  · simp only [ha, Bool.not_false, ↓reduceIte, run1]; exact h

theorem deleteEdgeBody_L (s : St) (e : Nat) (r : EdgeRec) (K : Key) :
    L (run1 (deleteEdgeBody e r) s).2.kv K = if K ∈ req r then rmv (L s.kv K) e else L s.kv K := by
  rw [deleteEdgeBody_eq]
  simp only [run1_rmSeq, delTail, run1]
  exact (L_upd_edge ..).trans
    (L_foldl (f := (rmv · e)) (fun l => rmv_rmv l e) (fun m k K => L_rmKV m k e K) _ (fun k => req_isList) _ K)

theorem deleteEdgeBody_spec (s : St) (e : Nat) (r : EdgeRec) :
    (run1 (deleteEdgeBody e r) s).2.nn = s.nn ∧
    (run1 (deleteEdgeBody e r) s).2.ne = s.ne ∧
    (∀ x, edgeAt (run1 (deleteEdgeBody e r) s).2.kv x = if x = e then none else edgeAt s.kv x) ∧
    (∀ n, nodeEx (run1 (deleteEdgeBody e r) s).2.kv n = nodeEx s.kv n) ∧
    (∀ n, outL (run1 (deleteEdgeBody e r) s).2.kv n =
        if n = r.src ∨ (r.directed = false ∧ n = r.dst) then rmv (outL s.kv n) e else outL s.kv n) ∧
    (∀ n, inL (run1 (deleteEdgeBody e r) s).2.kv n =
        if n = r.dst ∨ (r.directed = false ∧ n = r.src) then rmv (inL s.kv n) e else inL s.kv n) ∧
    (∀ n, ((run1 (deleteEdgeBody e r) s).2.kv (.out n)).isSome = (s.kv (.out n)).isSome ∧
          ((run1 (deleteEdgeBody e r) s).2.kv (.inn n)).isSome = (s.kv (.inn n)).isSome) := by
  have hlist : ∀ k ∈ req r, k.isList = true := fun k => req_isList
  refine ⟨?_, ?_, fun x => ?_, fun n => ?_,
    fun n => (deleteEdgeBody_L s e r (.out n)).trans
      (ite_congr (propext (mem_req_out.trans endpoint_eq_comm)) (fun _ => rfl) (fun _ => rfl)),
    fun n => (deleteEdgeBody_L s e r (.inn n)).trans
      (ite_congr (propext (mem_req_inn.trans endpoint_eq_comm)) (fun _ => rfl) (fun _ => rfl)), fun n => ?_⟩
  all_goals rw [deleteEdgeBody_eq]; simp only [run1_rmSeq, delTail, run1]
  · rw [edgeAt_upd]
    by_cases hx : x = e
    · rw [if_pos hx, if_pos (congrArg Key.edge hx)]; rfl
    · rw [if_neg hx, if_neg (fun h => hx (Key.edge.inj h))]
      exact foldl_view (fun m => edgeAt m x) (fun m k hk => edgeAt_rmKV m k e x hk) _ hlist _
  · rw [nodeEx_upd, if_neg (fun h => Key.noConfusion h)]
    exact foldl_view (fun m => nodeEx m n) (fun m k hk => nodeEx_rmKV m k e n hk) _ hlist _
  · have hS : ∀ k', ((req r).foldl (fun m k => rmKV m k e) s.kv k').isSome = (s.kv k').isSome := fun k' =>
      foldl_view (fun m => (m k').isSome) (fun m k _ => isSome_rmKV m k e k') _ hlist _
    exact ⟨by rw [upd, if_neg (fun h => Key.noConfusion h)]; exact hS _, by rw [upd, if_neg (fun h => Key.noConfusion h)]; exact hS _⟩

theorem wf_deleteEdgeBody (s : St) (e : Nat) (r : EdgeRec) (h : WF s.kv) (hr : edgeAt s.kv e = some r) :
    WF (run1 (deleteEdgeBody e r) s).2.kv := by
  obtain ⟨w1, w2, w3⟩ := wf_iff_L.mp h
  obtain ⟨_, _, hE, hN, _⟩ := deleteEdgeBody_spec s e r
  have hL := deleteEdgeBody_L s e r
  have hmem : ∀ K x, x ∈ L (run1 (deleteEdgeBody e r) s).2.kv K ↔ x ∈ L s.kv K ∧ x ≠ e := by
    intro K x; rw [hL]; split
    · exact mem_rmv
    · rename_i hK
      refine ⟨fun hx => ⟨hx, ?_⟩, And.left⟩
      rintro rfl
      obtain ⟨r', hr', hK'⟩ := w2 K x hx
      rw [hr] at hr'; cases hr'; exact hK hK'
  refine wf_iff_L.mpr ⟨fun x rx hx => ?_, fun K x hx => ?_, fun K => ?_⟩
  · rw [hE] at hx
    split at hx
    · cases hx
    · rename_i hxe
      obtain ⟨a1, a2, a3⟩ := w1 x rx hx
      exact ⟨(hN _).trans a1, (hN _).trans a2, fun K hK => (hmem K x).mpr ⟨a3 K hK, hxe⟩⟩
  · obtain ⟨hx1, hxe⟩ := (hmem K x).mp hx
    obtain ⟨rx, hrx, hK⟩ := w2 K x hx1
    exact ⟨rx, by rw [hE, if_neg hxe]; exact hrx, hK⟩
  · rw [hL]; split
    · exact nodup_rmv (w3 K)
    · exact w3 K

theorem inv_deleteEdge (s : St) (e : Nat) (h : Inv s) : Inv (apply s (.deleteEdge e)).2 := by
  simp only [apply, Op.prog, deleteEdgeProg, run1]
  cases hr : edgeOf (s.kv (.edge e)) with
  | none => simp only [run1]; exact h
  | some r =>
    simp only
    obtain ⟨e1, e2, hE, hN, hO, hI, hK⟩ := deleteEdgeBody_spec s e r
    refine ⟨wf_deleteEdgeBody s e r h.wf hr, ?_, ?_, ?_⟩
    · intro n hn; rw [hN]; rw [e1] at hn; exact h.freshN n hn
    · intro x hx; rw [hE]; rw [e2] at hx; split
      · rfl
      · exact h.freshE x hx
    · intro n hn; rw [hN] at hn; rw [(hK n).1, (hK n).2]; exact h.keys n hn

theorem inv_put_node (s : St) (n : Nat) (val' : Val) (h : Inv s) (hex : nodeEx s.kv n = true) :
    Inv { s with kv := upd s.kv (.node n) (some val') } := by
  refine ⟨?_, ?_, ?_, ?_⟩
  · apply wf_same_shape h.wf
    · intro x r' hx; simp at hx; exact ⟨r', hx, rfl, rfl, rfl⟩
    · intro x r hx; exact ⟨r, by simp [hx], rfl, rfl, rfl⟩
    · intro m hm; simp; exact Or.inr hm
    · intro m; simp
    · intro m; simp
  · intro m hm; simp
    refine ⟨?_, h.freshN m hm⟩
    rintro rfl; have := h.freshN m hm; simp_all
  · intro e he; simp; exact h.freshE e he
  · intro m hm; simp at hm
    have : nodeEx s.kv m = true := by rcases hm with rfl | hm; exact hex; exact hm
    simpa [upd] using h.keys m this

theorem inv_updateNode (s : St) (n : Nat) (lab : Option Nat) (v : Nat) (h : Inv s) :
    Inv (apply s (.updateNode n lab v)).2 := by
  simp only [apply, Op.prog, updateNodeProg, updateNodeSecond, updateNodePut, run1]
  cases hv : s.kv (.node n) with
  | none => simp only [run1]; exact h
  | some val =>
    have hex : nodeEx s.kv n = true := by simp [nodeEx, hv]
    cases val <;> simp only [hv, run1] <;> exact inv_put_node s n _ h hex

theorem edgeOf_eq_some {v : Option Val} {r : EdgeRec} (h : edgeOf v = some r) : v = some (.edge r) := by
  rcases v with _ | (_ | r' | _) <;> first | (cases h; rfl) | cases h

theorem inv_updateEdge (s : St) (e v : Nat) (h : Inv s) : Inv (apply s (.updateEdge e v)).2 := by
  simp only [apply, Op.prog, updateEdgeProg, updateEdgeSecond, run1]
  cases hr : edgeOf (s.kv (.edge e)) with
  | none => exact h
  | some r =>
      have hv := edgeOf_eq_some hr
      have hr : edgeAt s.kv e = some r := hr
      simp only [edgeOf, hv, updateEdgePut, run1]
      refine ⟨?_, ?_, ?_, ?_⟩
      · apply wf_same_shape h.wf
        · intro x r' hx; simp at hx; split at hx
          · rename_i hh; cases hh; cases hx; exact ⟨r, hr, rfl, rfl, rfl⟩
          · exact ⟨r', hx, rfl, rfl, rfl⟩
        · intro x rx hx; simp; split
          · rename_i hh; cases hh; rw [hr] at hx; cases hx; exact ⟨_, rfl, rfl, rfl, rfl⟩
          · exact ⟨rx, hx, rfl, rfl, rfl⟩
        · intro m hm; simp; exact hm
        · intro m; simp
        · intro m; simp
      · intro m hm; simp; exact h.freshN m hm
      · intro x hx; simp; split
        · rename_i hh; have := h.freshE x hx; rw [hh, hr] at this; cases this
        · exact h.freshE x hx
      · intro m hm; simp at hm; simpa [upd] using h.keys m hm

def otherOf (id : Nat) (r : EdgeRec) : Nat := if r.src = id then r.dst else r.src

/-- the list keys the per-edge clean-up of `delete_node` goes through, in its order -/
def visited (id : Nat) (r : EdgeRec) : List Key :=
  (if r.src = id then [.inn (otherOf id r)] else []) ++ ((if r.dst = id then [.out (otherOf id r)] else []) ++
    (if (!r.directed && otherOf id r != id) then [.out (otherOf id r), .inn (otherOf id r)] else []))

theorem rmSeq_append (e : Nat) (c : Prog) : ∀ ks ks', rmSeq e (ks ++ ks') c = rmSeq e ks (rmSeq e ks' c)
  | [], _ => rfl
  | k :: ks, ks' => congrArg (rmFrom k e) (rmSeq_append e c ks ks')

theorem rmSeq_ite (e : Nat) (c : Prog) (p : Prop) [Decidable p] (ks : List Key) :
    rmSeq e (if p then ks else []) c = if p then rmSeq e ks c else c := by
  split <;> rfl

theorem delNodeEdge_eq (id e : Nat) (r : EdgeRec) (c : Prog) : delNodeEdge id e r c = rmSeq e (visited id r) c := by
  rw [visited, rmSeq_append, rmSeq_append, rmSeq_ite, rmSeq_ite, rmSeq_ite]; rfl

def delNodeEdgeKV (id e : Nat) (r : EdgeRec) (m : KV) : KV := (visited id r).foldl (fun m k => rmKV m k e) m

theorem run1_delNodeEdge (id e : Nat) (r : EdgeRec) (c : Prog) (s : St) :
    run1 (delNodeEdge id e r c) s = run1 c { s with kv := delNodeEdgeKV id e r s.kv } := by
  rw [delNodeEdge_eq, run1_rmSeq]; rfl

theorem mem_ite_nil {α : Type} {p : Prop} [Decidable p] {l : List α} {x : α} :
    x ∈ (if p then l else []) ↔ p ∧ x ∈ l := by
  split <;> simp [*]

theorem visited_isList {id : Nat} {r : EdgeRec} : ∀ k ∈ visited id r, k.isList = true := by
  intro k hk
  simp only [visited, List.mem_append, mem_ite_nil, List.mem_cons, List.not_mem_nil, or_false] at hk
  rcases hk with ⟨_, rfl⟩ | ⟨_, rfl⟩ | ⟨_, rfl | rfl⟩ <;> rfl

theorem out_mem_visited {id n : Nat} {r : EdgeRec} : .out n ∈ visited id r ↔
    n = otherOf id r ∧ (r.dst = id ∨ (r.directed = false ∧ otherOf id r ≠ id)) := by
  simp only [visited, List.mem_append, mem_ite_nil, List.mem_cons, List.not_mem_nil, or_false, Key.out.injEq, reduceCtorEq,
    and_false, false_or, Bool.and_eq_true, Bool.not_eq_true', bne_iff_ne, ne_eq]
  exact ⟨fun h => h.elim (fun h => ⟨h.2, Or.inl h.1⟩) (fun h => ⟨h.2, Or.inr h.1⟩),
    fun h => h.2.elim (fun h' => Or.inl ⟨h', h.1⟩) (fun h' => Or.inr ⟨h', h.1⟩)⟩

theorem inn_mem_visited {id n : Nat} {r : EdgeRec} : .inn n ∈ visited id r ↔
    n = otherOf id r ∧ (r.src = id ∨ (r.directed = false ∧ otherOf id r ≠ id)) := by
  simp only [visited, List.mem_append, mem_ite_nil, List.mem_cons, List.not_mem_nil, or_false, Key.inn.injEq, reduceCtorEq,
    and_false, false_or, or_false, Bool.and_eq_true, Bool.not_eq_true', bne_iff_ne, ne_eq]
  exact ⟨fun h => h.elim (fun h => ⟨h.2, Or.inl h.1⟩) (fun h => ⟨h.2, Or.inr h.1⟩),
    fun h => h.2.elim (fun h' => Or.inl ⟨h', h.1⟩) (fun h' => Or.inr ⟨h', h.1⟩)⟩

theorem delNodeEdgeKV_views (id e : Nat) (r : EdgeRec) (m : KV) :
    (∀ x, edgeAt (delNodeEdgeKV id e r m) x = edgeAt m x) ∧
    (∀ n, nodeEx (delNodeEdgeKV id e r m) n = nodeEx m n) ∧
    (∀ n, outL (delNodeEdgeKV id e r m) n =
      if n = otherOf id r ∧ (r.dst = id ∨ (r.directed = false ∧ otherOf id r ≠ id)) then rmv (outL m n) e else outL m n) ∧
    (∀ n, inL (delNodeEdgeKV id e r m) n =
      if n = otherOf id r ∧ (r.src = id ∨ (r.directed = false ∧ otherOf id r ≠ id)) then rmv (inL m n) e else inL m n) ∧
    (∀ k, (delNodeEdgeKV id e r m k).isSome = (m k).isSome) := by
  have hL := L_foldl (f := (rmv · e)) (fun l => rmv_rmv l e) (fun m k K => L_rmKV m k e K) _ (visited_isList (id := id) (r := r)) m
  exact ⟨fun x => foldl_view (fun m => edgeAt m x) (fun m k hk => edgeAt_rmKV m k e x hk) _ visited_isList _,
    fun n => foldl_view (fun m => nodeEx m n) (fun m k hk => nodeEx_rmKV m k e n hk) _ visited_isList _,
    fun n => (hL (.out n)).trans (ite_congr (propext out_mem_visited) (fun _ => rfl) (fun _ => rfl)),
    fun n => (hL (.inn n)).trans (ite_congr (propext inn_mem_visited) (fun _ => rfl) (fun _ => rfl)),
    fun k => foldl_view (fun m => (m k).isSome) (fun m k' _ => isSome_rmKV m k' e k) _ visited_isList _⟩

end Neumann.Graph
