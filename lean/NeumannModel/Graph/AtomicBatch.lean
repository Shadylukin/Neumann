import NeumannModel.Graph.Atomic
/-
  C05 — the batch calls in the locked interleaving semantics.

  A batch call is a loop over items; the body of the loop is the program of a single operation after
  its checks (`create_edge_internal` = `createEdgeFrom`, `create_node_internal` = `createNodeFrom`) or a
  whole single operation (`delete_edge`), run through `Prog.bind` with the rest of the loop as
  continuation.  The invariant `J` of `Atomic.lean` talks about a list of phases, one per thread.  Here
  every ITEM of a batch call in flight gets a phase of its own at the end of that list (a "slot"): the
  thread that runs the batch call drives the slot of the current item through the phases of the single
  operation (the step lemmas of `Atomic.lean`, lifted through `bind`), the slots of the items still to
  come hold what the call has reserved for them: the endpoints that were validated (`ceAl`), the edge
  id of the block handed out by `allocEs` (`pre`), the node id handed out by `allocNs` (`cnP1`).  `J` is
  indifferent to which phases belong to real threads, so it is kept by every step of every thread.
-/
set_option linter.unusedSimpArgs false
set_option linter.unusedVariables false
namespace Neumann.Graph

def Prog.isDone : Prog → Bool
  | .done _ => true
  | _ => false

theorem bind_step (p : Prog) (f : Res → Prog) (s : St) (h : p.isDone = false) :
    (p.bind f).step s = ((p.step s).1.bind f, (p.step s).2) := by
  cases p <;> simp_all [Prog.bind, Prog.step, Prog.isDone]

theorem bind_label (p : Prog) (f : Res → Prog) (h : p.isDone = false) : (p.bind f).label = p.label := by
  cases p <;> simp_all [Prog.bind, Prog.label, Prog.isDone]

theorem bind_isDone (p : Prog) (f : Res → Prog) (h : p.isDone = false) : (p.bind f).isDone = false := by
  cases p <;> simp_all [Prog.bind, Prog.isDone]

theorem silent_bind (pf : Op → Prog) (take : Bool) (p : Prog) (f : Res → Prog) (rest : List Op) (rs : List Res)
    (s : St) (held : List Key) (h : p.isDone = false) :
    Cfg.silent pf take ⟨p.bind f, rest, rs, s, held⟩ =
      (Cfg.silent pf take ⟨p, [], rs, s, held⟩).map fun c => { c with p := c.p.bind f, rest := rest } := by
  cases p with
  | done r => simp [Prog.isDone] at h
  | acq k p' =>
    simp only [Prog.bind, Cfg.silent]
    split <;> simp
  | _ => simp [Prog.bind, Cfg.silent]

theorem silent_rest (pf : Op → Prog) (take : Bool) (p : Prog) (rest : List Op) (rs : List Res)
    (s : St) (held : List Key) (h : p.isDone = false) :
    Cfg.silent pf take ⟨p, rest, rs, s, held⟩ =
      (Cfg.silent pf take ⟨p, [], rs, s, held⟩).map fun c => { c with rest := rest } := by
  cases p with
  | done r => simp [Prog.isDone] at h
  | acq k p' =>
    simp only [Cfg.silent]
    split <;> simp
  | _ => simp [Cfg.silent]

theorem isDone_of_prog_done {ph : Ph} (h : ph.prog.isDone = true) : ∃ r, ph = .fin r := by
  cases hp : ph.prog with
  | done r => exact ⟨r, prog_done hp⟩
  | _ => simp [hp, Prog.isDone] at h

section
variable {ne0 : Nat} {D : Nat → Prop} {phs : List Ph} {s : St} {held : List Key}

theorem get_append_fin {phs : List Ph} {n j : Nat} {ph : Ph}
    (h : (phs ++ List.replicate n (Ph.fin .ok))[j]? = some ph) : phs[j]? = some ph ∨ ph = .fin .ok := by
  by_cases hj : j < phs.length
  · rw [List.getElem?_append_left hj] at h; exact Or.inl h
  · rw [List.getElem?_append_right (Nat.le_of_not_lt hj)] at h
    exact Or.inr (eq_of_getElem?_replicate h)

theorem get_append_left {phs : List Ph} {n j : Nat} {ph : Ph} (h : phs[j]? = some ph) :
    (phs ++ List.replicate n (Ph.fin .ok))[j]? = some ph := by
  have hj : j < phs.length := by
    rcases Nat.lt_or_ge j phs.length with h' | h'
    · exact h'
    · rw [List.getElem?_eq_none h'] at h; cases h
  rw [List.getElem?_append_left hj]; exact h

theorem J.append_fin {s : St} {held : List Key}
    (hJ : J ne0 D phs s held) (n : Nat) : J ne0 D (phs ++ List.replicate n (.fin .ok)) s held := by
  refine ⟨hJ.ne_ge, hJ.fresh, hJ.freshN, ?_, hJ.e2, hJ.e3, ?_, ?_, ?_, ?_, ?_⟩
  · intro x r hr
    obtain ⟨h1, h2, h3⟩ := hJ.e1 x r hr
    refine ⟨h1, h2, fun K hK => ?_⟩
    rcases h3 K hK with h | ⟨j, ph, hj, he⟩
    · exact Or.inl h
    · exact Or.inr ⟨j, ph, get_append_left hj, he⟩
  · intro j ph hj
    rcases get_append_fin hj with h | rfl
    · exact hJ.loc j ph h
    · trivial
  · intro a b pa pb hab ha hb k hk1 hk2
    rcases get_append_fin ha with ha' | rfl
    · rcases get_append_fin hb with hb' | rfl
      · exact hJ.excl a b pa pb hab ha' hb' k hk1 hk2
      · simp [Ph.holds] at hk2
    · simp [Ph.holds] at hk1
  · intro a b pa pb hab ha hb x hx1 hx2
    rcases get_append_fin ha with ha' | rfl
    · rcases get_append_fin hb with hb' | rfl
      · exact hJ.uniq a b pa pb hab ha' hb' x hx1 hx2
      · simp [Ph.creates] at hx2
    · simp [Ph.creates] at hx1
  · intro j ph id hj hm
    rcases get_append_fin hj with h | rfl
    · exact hJ.mkle j ph id h hm
    · simp [Ph.makes] at hm
  · intro a b pa pb hab ha hb x hx1 hx2
    rcases get_append_fin ha with ha' | rfl
    · rcases get_append_fin hb with hb' | rfl
      · exact hJ.uniqN a b pa pb hab ha' hb' x hx1 hx2
      · simp [Ph.makes] at hx2
    · simp [Ph.makes] at hx1

end

def EdgeIn.pre (e : EdgeIn) (x : Nat) : Ph := .pre x e.a e.b e.d e.ty e.v

/-- `batch_create_edges` after its validation phase -/
def bceC (items : List EdgeIn) : Prog :=
  .allocEs items.length fun start => bceLoop start items 0 (.done (.ids start items.length))

/-- what `batch_create_edges` does after item `j` -/
def bceK (start : Nat) (items : List EdgeIn) (j : Nat) : Res → Prog :=
  fun _ => bceLoop start (items.drop (j + 1)) (j + 1) (.done (.ids start items.length))

def bcnC (items : List (Nat × Nat)) : Prog :=
  .allocNs items.length fun start => bcnLoop start items 0 (.done (.ids start items.length))

def bcnK (start : Nat) (items : List (Nat × Nat)) (j : Nat) : Res → Prog :=
  fun _ => bcnLoop start (items.drop (j + 1)) (j + 1) (.done (.ids start items.length))

/-- what `batch_delete_edges` does after `delete_edge(e)`, its item `j`, answered `r` -/
def bdeK (ids : List Nat) (j e : Nat) (del : List Nat) (fl : List (Nat × Nat × Cause)) : Res → Prog :=
  fun r => match r with
    | .ok => bdeLoop (ids.drop (j + 1)) (j + 1) (e :: del) fl
    | r => bdeLoop (ids.drop (j + 1)) (j + 1) del ((j, e, causeOf r) :: fl)

/-- what `batch_update_nodes` does after `update_node`, its item `j`, answered `r` -/
def bunK (us : List (Nat × Option Nat × Nat)) (j cnt : Nat) : Res → Prog :=
  fun r => match r with
    | .ok => bunLoop (us.drop (j + 1)) (cnt + 1)
    | _ => bunLoop (us.drop (j + 1)) cnt

inductive BK where
  /-- `batch_create_edges`, validation: before the check of the source (`sec = false`) or of the
      target (`sec = true`) of item `j` -/
  | ceV (base : Nat) (items : List EdgeIn) (j : Nat) (sec : Bool)
  /-- `batch_create_edges`, phase 3, inside item `j`; `start` = first id of the block -/
  | ceL (base : Nat) (items : List EdgeIn) (start j : Nat)
  /-- `batch_create_nodes` before the id block is taken -/
  | cnA (base : Nat) (items : List (Nat × Nat))
  | cnL (base : Nat) (items : List (Nat × Nat)) (start j : Nat)
  /-- `batch_delete_edges` inside item `j` -/
  | deL (base : Nat) (ids : List Nat) (j : Nat) (del : List Nat) (fl : List (Nat × Nat × Cause))
  /-- `batch_update_nodes`, validation: before the `get_node` of item `j` -/
  | unV (base : Nat) (us : List (Nat × Option Nat × Nat)) (j : Nat)
  /-- `batch_update_nodes` inside `update_node` of item `j`; `cnt` updates applied so far -/
  | unL (base : Nat) (us : List (Nat × Option Nat × Nat)) (j cnt : Nat)

section steps
variable {ne0 : Nat} {D : Nat → Prop} {bs : List (Option BK)} {phs : List Ph} {s : St} {held : List Key} {i : Nat}

def BK.base : BK → Nat
  | .ceV b .. | .ceL b .. | .cnA b .. | .cnL b .. | .deL b .. | .unV b .. | .unL b .. => b

def BK.n : BK → Nat
  | .ceV _ items .. | .ceL _ items .. => items.length
  | .cnA _ items | .cnL _ items .. => items.length
  | .deL _ ids .. => ids.length
  | .unV _ us .. | .unL _ us .. => us.length

def BK.slot : BK → Option Nat
  | .ceL b _ _ j | .cnL b _ _ j | .deL b _ j _ _ | .unL b _ j _ => some (b + j)
  | _ => none

def slotProg (phs : List Ph) (u : Nat) (f : Res → Prog) : Prog :=
  match phs[u]? with
  | some ph => ph.prog.bind f
  | none => .done .ok

def BK.prog (phs : List Ph) : BK → Prog
  | .ceV _ items j false => bceValidate (items.drop j) j (bceC items)
  | .ceV _ items j true =>
    match items[j]? with
    | some e => .ex (.node e.b) fun okb =>
        if !okb then .done (.batchInvalid j e.b) else bceValidate (items.drop (j + 1)) (j + 1) (bceC items)
    | none => .done .ok
  | .ceL base items start j => slotProg phs (base + j) (bceK start items j)
  | .cnA _ items => bcnC items
  | .cnL base items start j => slotProg phs (base + j) (bcnK start items j)
  | .deL base ids j del fl => slotProg phs (base + j) (bdeK ids j (ids.getD j 0) del fl)
  | .unV _ us j => bunValidate (us.drop j) j (bunLoop us 0)
  | .unL base us j cnt => slotProg phs (base + j) (bunK us j cnt)

def BK.kont : BK → Res → Prog
  | .ceL _ items start j => bceK start items j
  | .cnL _ items start j => bcnK start items j
  | .deL _ ids j del fl => bdeK ids j (ids.getD j 0) del fl
  | .unL _ us j cnt => bunK us j cnt
  | _ => fun _ => .done .ok

theorem BK.prog_slot {k : BK} {u : Nat} (hs : k.slot = some u) (phs2 : List Ph) :
    k.prog phs2 = slotProg phs2 u k.kont := by
  cases k <;> simp [BK.slot] at hs <;> subst hs <;> rfl

def BK.ok (ne0 : Nat) (D : Nat → Prop) (phs : List Ph) : BK → Prop
  | .ceV base items j sec => j ≤ items.length ∧ (sec = true → j < items.length) ∧ items ≠ [] ∧
      (∀ i e, i < j → items[i]? = some e → phs[base + i]? = some (.ceAl e.a e.b e.d e.ty e.v)) ∧
      (∀ e, sec = true → items[j]? = some e → phs[base + j]? = some (.ceB e.a e.b e.d e.ty e.v)) ∧
      (∀ i, j ≤ i → (sec = true → j < i) → i < items.length → phs[base + i]? = some (.fin .ok))
  | .ceL base items start j => j < items.length ∧
      (∃ ph, phs[base + j]? = some ph ∧ ph.prog.isDone = false) ∧
      (∀ i e, j < i → items[i]? = some e → phs[base + i]? = some (e.pre (start + i)))
  | .cnA base items => items ≠ [] ∧ ∀ i, i < items.length → phs[base + i]? = some (.fin .ok)
  | .cnL base items start j => j < items.length ∧
      (∃ ph, phs[base + j]? = some ph ∧ ph.prog.isDone = false) ∧
      (∀ i lv, j < i → items[i]? = some lv → phs[base + i]? = some (.cnP1 (start + i) lv.1 lv.2))
  | .deL base ids j del fl => j < ids.length ∧
      (∃ ph, phs[base + j]? = some ph ∧ ph.prog.isDone = false) ∧
      (∀ e ∈ ids, e ≤ ne0 ∧ D e) ∧
      (∀ i, j < i → i < ids.length → phs[base + i]? = some (.fin .ok))
  | .unV base us j => j < us.length ∧ ∀ i, i < us.length → phs[base + i]? = some (.fin .ok)
  | .unL base us j cnt => j < us.length ∧
      (∃ ph, phs[base + j]? = some ph ∧ ph.prog.isDone = false) ∧
      (∀ i, j < i → i < us.length → phs[base + i]? = some (.fin .ok))

def inBlk (b : Option BK) (x : Nat) : Prop := ∃ k, b = some k ∧ k.base ≤ x ∧ x < k.base + k.n

theorem BK.prog_congr {phs phs' : List Ph} (k : BK) (h : ∀ u, k.slot = some u → phs'[u]? = phs[u]?) :
    k.prog phs' = k.prog phs := by
  cases k with
  | ceV base items j sec => cases sec <;> rfl
  | cnA base items => rfl
  | unV base us j => rfl
  | _ => simp only [BK.prog, slotProg, h _ rfl]

theorem BK.ok_congr {phs' : List Ph} (k : BK)
    (h : ∀ x, x < k.n → phs'[k.base + x]? = phs[k.base + x]?) (hok : k.ok ne0 D phs) : k.ok ne0 D phs' := by
  cases k with
  | ceV base items j sec =>
    obtain ⟨h1, h2, h3, h4, h5, h6⟩ := hok
    exact ⟨h1, h2, h3, fun x e hx he => (h x (Nat.lt_of_lt_of_le hx h1)).trans (h4 x e hx he),
      fun e hs he => (h j (h2 hs)).trans (h5 e hs he), fun x hx1 hx2 hx3 => (h x hx3).trans (h6 x hx1 hx2 hx3)⟩
  | ceL base items start j =>
    obtain ⟨h1, ⟨ph, h2, h3⟩, h4⟩ := hok
    exact ⟨h1, ⟨ph, (h j h1).trans h2, h3⟩, fun x e hx he => (h x (lt_of_getElem? he)).trans (h4 x e hx he)⟩
  | cnA base items => exact ⟨hok.1, fun x hx => (h x hx).trans (hok.2 x hx)⟩
  | cnL base items start j =>
    obtain ⟨h1, ⟨ph, h2, h3⟩, h4⟩ := hok
    exact ⟨h1, ⟨ph, (h j h1).trans h2, h3⟩, fun x e hx he => (h x (lt_of_getElem? he)).trans (h4 x e hx he)⟩
  | deL base ids j del fl =>
    obtain ⟨h1, ⟨ph, h2, h3⟩, h4, h5⟩ := hok
    exact ⟨h1, ⟨ph, (h j h1).trans h2, h3⟩, h4, fun x hx1 hx2 => (h x hx2).trans (h5 x hx1 hx2)⟩
  | unV base us j => exact ⟨hok.1, fun x hx => (h x hx).trans (hok.2 x hx)⟩
  | unL base us j cnt =>
    obtain ⟨h1, ⟨ph, h2, h3⟩, h5⟩ := hok
    exact ⟨h1, ⟨ph, (h j h1).trans h2, h3⟩, fun x hx1 hx2 => (h x hx2).trans (h5 x hx1 hx2)⟩

theorem get_set_slot {phs : List Ph} {b x j : Nat} (ph : Ph) (h : x ≠ j) :
    (phs.set (b + j) ph)[b + x]? = phs[b + x]? :=
  List.getElem?_set_ne (fun e => h (Nat.add_left_cancel e).symm)

theorem BK.slot_in {k : BK} {x : Nat}
    (hok : k.ok ne0 D phs) (hs : k.slot = some x) : k.base ≤ x ∧ x < k.base + k.n := by
  cases k <;> first
    | (cases hs; exact ⟨Nat.le_add_right .., Nat.add_lt_add_left hok.1 _⟩)
    | cases hs

theorem BK.ok_drive {k : BK} {u : Nat} (hs : k.slot = some u)
    (hok : k.ok ne0 D phs) {ph : Ph} (hu : phs[u]? = some ph) (ph' : Ph) (hnd : ph'.prog.isDone = false) :
    k.ok ne0 D (phs.set u ph') := by
  have hu' : (phs.set u ph')[u]? = some ph' := List.getElem?_set_self (lt_of_getElem? hu)
  cases k with
  | ceV base items j sec => cases hs
  | cnA base items => cases hs
  | unV base us j => cases hs
  | ceL base items start j =>
    cases hs
    exact ⟨hok.1, ⟨ph', hu', hnd⟩, fun x e hx he => (get_set_slot _ (Nat.ne_of_gt hx)).trans (hok.2.2 x e hx he)⟩
  | cnL base items start j =>
    cases hs
    exact ⟨hok.1, ⟨ph', hu', hnd⟩, fun x e hx he => (get_set_slot _ (Nat.ne_of_gt hx)).trans (hok.2.2 x e hx he)⟩
  | deL base ids j del fl =>
    cases hs
    exact ⟨hok.1, ⟨ph', hu', hnd⟩, hok.2.2.1, fun x hx1 hx2 => (get_set_slot _ (Nat.ne_of_gt hx1)).trans (hok.2.2.2 x hx1 hx2)⟩
  | unL base us j cnt =>
    cases hs
    exact ⟨hok.1, ⟨ph', hu', hnd⟩, fun x hx1 hx2 => (get_set_slot _ (Nat.ne_of_gt hx1)).trans (hok.2.2 x hx1 hx2)⟩

/-- the invariant of the whole system: `J` over the phases of the threads and of the items of the
    batch calls in flight; `bs[i]` says where thread `i` is inside a batch call (`none`: not in one, its
    phase is `phs[i]`) -/
structure G (ne0 : Nat) (D : Nat → Prop) (bs : List (Option BK)) (phs : List Ph) (s : St) (held : List Key) : Prop where
  j : J ne0 D phs s held
  le : bs.length ≤ phs.length
  ok : ∀ (i : Nat) (k : BK), bs[i]? = some (some k) →
    k.ok ne0 D phs ∧ (∃ r, phs[i]? = some (.fin r)) ∧ bs.length ≤ k.base ∧ k.base + k.n ≤ phs.length
  disj : ∀ (i i' : Nat) (k k' : BK), i ≠ i' → bs[i]? = some (some k) → bs[i']? = some (some k') →
    k.base + k.n ≤ k'.base ∨ k'.base + k'.n ≤ k.base
  quiet : ∀ (x : Nat) (ph : Ph), bs.length ≤ x → phs[x]? = some ph →
    ph.quiet ∨ ∃ (i : Nat) (k : BK), bs[i]? = some (some k) ∧ k.slot = some x

theorem G.block_quiet (hG : G ne0 D bs phs s held) {i : Nat} {k : BK} (hb : bs[i]? = some (some k)) {x : Nat} {ph : Ph}
    (hx1 : k.base ≤ x) (hx2 : x < k.base + k.n) (hns : k.slot ≠ some x) (hp : phs[x]? = some ph) : ph.quiet := by
  obtain ⟨hok, _, hT, _⟩ := hG.ok i k hb
  rcases hG.quiet x ph (by omega) hp with h | ⟨i', k', hb', hs'⟩
  · exact h
  · by_cases hii : i' = i
    · subst hii; rw [hb] at hb'; cases hb'; exact absurd hs' hns
    · obtain ⟨hok', _, _, _⟩ := hG.ok i' k' hb'
      have := BK.slot_in hok' hs'
      rcases hG.disj i i' k k' (fun h => hii h.symm) hb hb' with h | h <;> omega

theorem G.update {ne0 : Nat} {D : Nat → Prop} {bs : List (Option BK)} {phs : List Ph} {s : St} {held : List Key}
    (hG : G ne0 D bs phs s held) {i : Nat} (hi : i < bs.length) {b : Option BK} (hb : bs[i]? = some b)
    (b' : Option BK) (phs' : List Ph) (s' : St) (held' : List Key)
    (hJ : J ne0 D phs' s' held')
    (hlen : phs.length ≤ phs'.length)
    (hst : ∀ x, x < phs.length → x ≠ i → ¬ inBlk b x → phs'[x]? = phs[x]?)
    (hown : ∀ k', b' = some k' → k'.ok ne0 D phs' ∧ (∃ r, phs'[i]? = some (.fin r)) ∧ k'.base + k'.n ≤ phs'.length ∧
      ((∃ k, b = some k ∧ k'.base = k.base ∧ k'.n = k.n) ∨ (b = none ∧ k'.base = phs.length)))
    (hq : ∀ x ph, bs.length ≤ x → phs'[x]? = some ph → (inBlk b x ∨ phs.length ≤ x) →
      ph.quiet ∨ ∃ k', b' = some k' ∧ k'.slot = some x) :
    G ne0 D (bs.set i b') phs' s' held' := by
  have hbi : ∀ k, b = some k → bs[i]? = some (some k) := fun k hk => by rw [hb, hk]
  -- another thread's block and own phase are untouched
  have hother : ∀ i'' k'', i'' ≠ i → bs[i'']? = some (some k'') →
      (∀ x, k''.base ≤ x → x < k''.base + k''.n → phs'[x]? = phs[x]?) ∧ phs'[i'']? = phs[i'']? := by
    intro i'' k'' hne hb''
    obtain ⟨_, _, hT, hE⟩ := hG.ok i'' k'' hb''
    have hlt : i'' < bs.length := by
      rcases Nat.lt_or_ge i'' bs.length with h | h
      · exact h
      · rw [List.getElem?_eq_none h] at hb''; cases hb''
    refine ⟨fun x hx1 hx2 => hst x (Nat.lt_of_lt_of_le hx2 hE) (Nat.ne_of_gt (Nat.lt_of_lt_of_le hi (Nat.le_trans hT hx1))) ?_,
      hst i'' (Nat.lt_of_lt_of_le hlt hG.le) hne ?_⟩
    · rintro ⟨k, hk, h1, h2⟩
      rcases hG.disj i i'' k k'' (fun h => hne h.symm) (hbi k hk) hb'' with h | h <;> omega
    · rintro ⟨k, hk, h1, h2⟩
      exact Nat.lt_irrefl _ (Nat.lt_of_lt_of_le hlt (Nat.le_trans (hG.ok i k (hbi k hk)).2.2.1 h1))
  refine ⟨hJ, by rw [List.length_set]; exact Nat.le_trans hG.le hlen, ?_, ?_, ?_⟩
  · intro i'' k'' hb''
    rw [getElem?_set_of_lt hi] at hb''
    rw [List.length_set]
    by_cases hii : i'' = i
    · subst hii; simp at hb''
      obtain ⟨h1, h2, h3, h4⟩ := hown k'' hb''
      refine ⟨h1, h2, ?_, h3⟩
      rcases h4 with ⟨k, hk, e1, _⟩ | ⟨_, e1⟩
      · rw [e1]; exact (hG.ok i'' k (hbi k hk)).2.2.1
      · rw [e1]; exact hG.le
    · simp [hii] at hb''
      obtain ⟨h1, ⟨r, h2⟩, h3, h4⟩ := hG.ok i'' k'' hb''
      obtain ⟨c1, c2⟩ := hother i'' k'' hii hb''
      exact ⟨BK.ok_congr k'' (fun x hx => c1 _ (Nat.le_add_right ..) (Nat.add_lt_add_left hx _)) h1, ⟨r, by rw [c2]; exact h2⟩, h3,
        Nat.le_trans h4 hlen⟩
  · intro a c ka kc hac ha hc
    rw [getElem?_set_of_lt hi] at ha hc
    -- the block of the moved thread is its old block or lies beyond the old list
    have key : ∀ k' k'', b' = some k' → ∀ i'', i'' ≠ i → bs[i'']? = some (some k'') →
        k'.base + k'.n ≤ k''.base ∨ k''.base + k''.n ≤ k'.base := by
      intro k' k'' hk' i'' hne hb''
      obtain ⟨_, _, _, h4⟩ := hown k' hk'
      rcases h4 with ⟨k, hk, e1, e2⟩ | ⟨_, e1⟩
      · rw [e1, e2]; exact hG.disj i i'' k k'' (fun h => hne h.symm) (hbi k hk) hb''
      · right; rw [e1]; exact (hG.ok i'' k'' hb'').2.2.2
    by_cases hai : a = i
    · subst hai
      have hci : c ≠ a := fun h => hac h.symm
      simp at ha; simp [hci] at hc
      exact key ka kc ha c hci hc
    · simp [hai] at ha
      by_cases hci : c = i
      · subst hci; simp at hc
        rcases key kc ka hc a hai ha with h | h
        · exact Or.inr h
        · exact Or.inl h
      · simp [hci] at hc
        exact hG.disj a c ka kc hac ha hc
  · intro x ph hx hp
    rw [List.length_set] at hx
    by_cases hold : x < phs.length ∧ ¬ inBlk b x
    · have hxi : x ≠ i := Nat.ne_of_gt (Nat.lt_of_lt_of_le hi hx)
      rw [hst x hold.1 hxi hold.2] at hp
      rcases hG.quiet x ph hx hp with h | ⟨i'', k'', hb'', hs''⟩
      · exact Or.inl h
      · have hne : i'' ≠ i := by
          rintro rfl
          rw [hb] at hb''; cases hb''
          exact hold.2 ⟨k'', rfl, BK.slot_in (hG.ok i'' k'' (hbi k'' rfl)).1 hs''⟩
        exact Or.inr ⟨i'', k'', by rw [getElem?_set_of_lt hi]; simp [hne, hb''], hs''⟩
    · have : inBlk b x ∨ phs.length ≤ x := by
        by_cases h1 : x < phs.length
        · left; exact Classical.byContradiction fun h2 => hold ⟨h1, h2⟩
        · exact Or.inr (Nat.le_of_not_lt h1)
      rcases hq x ph hx hp this with h | ⟨k', hk', hs'⟩
      · exact Or.inl h
      · exact Or.inr ⟨i, k', by rw [getElem?_set_of_lt hi]; simp [hk'], hs'⟩

theorem drop_cons_of_get {α : Type} {l : List α} {j : Nat} {a : α} (h : l[j]? = some a) :
    l.drop j = a :: l.drop (j + 1) := by
  have hlt := lt_of_getElem? h
  rw [List.drop_eq_getElem_cons hlt]
  rw [List.getElem?_eq_getElem hlt] at h
  cases h; rfl

theorem bceLoop_drop (start : Nat) (items : List EdgeIn) (j : Nat) (e : EdgeIn) (c : Prog) (he : items[j]? = some e) :
    bceLoop start (items.drop j) j c =
      (e.pre (start + j)).prog.bind (fun _ => bceLoop start (items.drop (j + 1)) (j + 1) c) := by
  rw [drop_cons_of_get he]; rfl

theorem bcnLoop_drop (start : Nat) (items : List (Nat × Nat)) (j : Nat) (lv : Nat × Nat) (c : Prog)
    (he : items[j]? = some lv) :
    bcnLoop start (items.drop j) j c =
      (Ph.cnP1 (start + j) lv.1 lv.2).prog.bind (fun _ => bcnLoop start (items.drop (j + 1)) (j + 1) c) := by
  rw [drop_cons_of_get he]; cases lv; rfl

theorem bdeLoop_drop (ids : List Nat) (j e : Nat) (del : List Nat) (fl : List (Nat × Nat × Cause)) (he : ids[j]? = some e) :
    bdeLoop (ids.drop j) j del fl = (Ph.deA e).prog.bind (bdeK ids j e del fl) := by
  rw [drop_cons_of_get he]; rfl

theorem bunLoop_drop (us : List (Nat × Option Nat × Nat)) (j cnt : Nat) (u : Nat × Option Nat × Nat) (he : us[j]? = some u) :
    bunLoop (us.drop j) cnt = (Ph.unA u.1 u.2.1 u.2.2).prog.bind (bunK us j cnt) := by
  rw [drop_cons_of_get he]; obtain ⟨id, lab, v⟩ := u; rfl

theorem bunValidate_drop (us : List (Nat × Option Nat × Nat)) (j : Nat) (u : Nat × Option Nat × Nat) (c : Prog)
    (he : us[j]? = some u) :
    bunValidate (us.drop j) j c =
      .get (.node u.1) fun v =>
        match v with
        | none => .done (.batchInvalid j u.1)
        | some _ => bunValidate (us.drop (j + 1)) (j + 1) c := by
  rw [drop_cons_of_get he]; obtain ⟨id, lab, v⟩ := u; rfl

theorem bceValidate_drop (items : List EdgeIn) (j : Nat) (e : EdgeIn) (c : Prog) (he : items[j]? = some e) :
    bceValidate (items.drop j) j c =
      .ex (.node e.a) fun oka =>
        if !oka then .done (.batchInvalid j e.a)
        else .ex (.node e.b) fun okb =>
          if !okb then .done (.batchInvalid j e.b) else bceValidate (items.drop (j + 1)) (j + 1) c := by
  rw [drop_cons_of_get he]; rfl

def CurOK (phs : List Ph) (i : Nat) (b : Option BK) (p : Prog) : Prop :=
  match b with
  | none => ∃ ph, phs[i]? = some ph ∧ p = ph.prog
  | some k => p = k.prog phs

/-- thread `i` moved to program `p'`: the invariant holds again, and nothing outside the thread's own
    phase and block changed -/
def StepOK (ne0 : Nat) (D : Nat → Prop) (bs : List (Option BK)) (phs : List Ph) (i : Nat) (b : Option BK)
    (p' : Prog) (s' : St) (held' : List Key) : Prop :=
  ∃ (b' : Option BK) (phs' : List Ph), CurOK phs' i b' p' ∧ G ne0 D (bs.set i b') phs' s' held' ∧
    phs.length ≤ phs'.length ∧ (∀ x, x < phs.length → x ≠ i → ¬ inBlk b x → phs'[x]? = phs[x]?) ∧
    (∀ x, x < phs.length → inBlk b' x → inBlk b x)

theorem plain_ok (hG : G ne0 D bs phs s held) (hi : i < bs.length) (hb : bs[i]? = some none) {ph : Ph}
    (hp : phs[i]? = some ph) (ph' : Ph) (s' : St) (held' : List Key) (hJ : J ne0 D (phs.set i ph') s' held') :
    StepOK ne0 D bs phs i none ph'.prog s' held' := by
  have hst : ∀ x, x < phs.length → x ≠ i → ¬ inBlk none x → (phs.set i ph')[x]? = phs[x]? :=
    fun x _ hx _ => List.getElem?_set_ne (Ne.symm hx)
  refine ⟨none, phs.set i ph', ⟨ph', List.getElem?_set_self (lt_of_getElem? hp), rfl⟩, ?_, by simp, hst, fun x _ h => by obtain ⟨k, hk, _⟩ := h; cases hk⟩
  refine hG.update hi hb none _ s' held' hJ (by simp) hst (by intro k' h; cases h) ?_
  intro x ph2 hx hp2 hor
  rcases hor with ⟨k, hk, _⟩ | h
  · cases hk
  · rw [List.getElem?_eq_none (by simp; omega)] at hp2; cases hp2

/-- the batch call of thread `i` has ended with result `res`: every slot of its block is quiet -/
theorem finish_ok (hG : G ne0 D bs phs s held) (hi : i < bs.length) {k : BK} (hb : bs[i]? = some (some k))
    (phs1 : List Ph) (hlen : phs1.length = phs.length)
    (hsame : ∀ x, ¬ (k.base ≤ x ∧ x < k.base + k.n) → phs1[x]? = phs[x]?)
    (hquiet : ∀ x ph, k.base ≤ x → x < k.base + k.n → phs1[x]? = some ph → ph.quiet)
    (s' : St) (held' : List Key) (hJ : J ne0 D phs1 s' held') (res : Res) :
    StepOK ne0 D bs phs i (some k) (.done res) s' held' := by
  obtain ⟨hok, ⟨r, hr⟩, hT, hE⟩ := hG.ok i k hb
  have hr1 : phs1[i]? = some (.fin r) := by
    rw [hsame i (fun h => Nat.lt_irrefl _ (Nat.lt_of_lt_of_le hi (Nat.le_trans hT h.1)))]; exact hr
  have hJ2 : J ne0 D (phs1.set i (.fin res)) s' held' :=
    hJ.step_idle hr1 (.fin res) (fun _ _ h => h.elim) trivial rfl rfl rfl
  have hst : ∀ x, x < phs.length → x ≠ i → ¬ inBlk (some k) x → (phs1.set i (.fin res))[x]? = phs[x]? := by
    intro x _ hx hnb
    rw [List.getElem?_set_ne (Ne.symm hx)]
    exact hsame x (fun h => hnb ⟨k, rfl, h.1, h.2⟩)
  refine ⟨none, phs1.set i (.fin res), ⟨.fin res, List.getElem?_set_self (lt_of_getElem? hr1), rfl⟩, ?_, by simp [hlen], hst, fun x _ h => by obtain ⟨k, hk, _⟩ := h; cases hk⟩
  refine hG.update hi hb none _ s' held' hJ2 (by simp [hlen]) hst (by intro k' h; cases h) ?_
  intro x ph2 hx hp2 hor
  rw [List.getElem?_set_ne (by omega)] at hp2
  rcases hor with ⟨k2, hk2, h1, h2⟩ | h
  · cases hk2; exact Or.inl (hquiet x ph2 h1 h2 hp2)
  · rw [List.getElem?_eq_none (by omega)] at hp2; cases hp2

/-- `st m`: the state after `m` slots of the block have been handed their new phase -/
theorem alloc_block (base : Nat) (new : Nat → Ph) (st : Nat → St) (held0 : List Key) (phs0 : List Ph) (n : Nat)
    (hsome : ∀ x, x < n → ∃ ph, phs0[base + x]? = some ph)
    (hstep : ∀ (m : Nat) (phs1 : List Ph), m < n → J ne0 D phs1 (st m) held0 → phs1[base + m]? = phs0[base + m]? →
      J ne0 D (phs1.set (base + m) (new m)) (st (m + 1)) held0) :
    ∀ m, m ≤ n → J ne0 D phs0 (st 0) held0 →
      ∃ phs', J ne0 D phs' (st m) held0 ∧ phs'.length = phs0.length ∧
        (∀ x, ¬ (base ≤ x ∧ x < base + m) → phs'[x]? = phs0[x]?) ∧
        (∀ x, x < m → phs'[base + x]? = some (new x)) := by
  intro m
  induction m with
  | zero => exact fun _ hJ => ⟨phs0, hJ, rfl, fun _ _ => rfl, fun x hx => absurd hx (Nat.not_lt_zero _)⟩
  | succ m ih =>
    intro hm hJ
    obtain ⟨phs1, hJ1, hl1, hs1, hr1⟩ := ih (Nat.le_of_succ_le hm) hJ
    have hslot := hs1 (base + m) (fun h => Nat.lt_irrefl _ (Nat.lt_of_add_lt_add_left h.2))
    obtain ⟨ph, hph⟩ := hsome m hm
    refine ⟨phs1.set (base + m) (new m), hstep m phs1 hm hJ1 hslot, by rw [List.length_set, hl1], ?_, ?_⟩
    · intro x hx
      rw [List.getElem?_set_ne (by omega)]; exact hs1 x (by omega)
    · intro x hx
      by_cases hxm : x = m
      · rw [hxm]; exact List.getElem?_set_self (lt_of_getElem? (hslot.trans hph))
      · rw [get_set_slot _ hxm]; exact hr1 x (by omega)

theorem block_ok (hG : G ne0 D bs phs s held) (hi : i < bs.length) {k : BK} (hb : bs[i]? = some (some k))
    (k' : BK) (hkb : k'.base = k.base) (hkn : k'.n = k.n) (phs1 : List Ph) (hlen : phs1.length = phs.length)
    (hsame : ∀ x, ¬ (k.base ≤ x ∧ x < k.base + k.n) → phs1[x]? = phs[x]?)
    (s' : St) (held' : List Key) (hJ : J ne0 D phs1 s' held')
    (hok' : k'.ok ne0 D phs1)
    (hq : ∀ x ph, k.base ≤ x → x < k.base + k.n → phs1[x]? = some ph → ph.quiet ∨ k'.slot = some x) :
    StepOK ne0 D bs phs i (some k) (k'.prog phs1) s' held' := by
  obtain ⟨hok, ⟨r, hr⟩, hT, hE⟩ := hG.ok i k hb
  have hst : ∀ x, x < phs.length → x ≠ i → ¬ inBlk (some k) x → phs1[x]? = phs[x]? :=
    fun x _ _ hnb => hsame x (fun h => hnb ⟨k, rfl, h.1, h.2⟩)
  refine ⟨some k', phs1, rfl, ?_, Nat.le_of_eq hlen.symm, hst, fun x _ h => by
    obtain ⟨k2, hk2, h1, h2⟩ := h; cases hk2; exact ⟨k, rfl, hkb ▸ h1, hkb ▸ hkn ▸ h2⟩⟩
  refine hG.update hi hb (some k') _ s' held' hJ (Nat.le_of_eq hlen.symm) hst ?_ ?_
  · intro k2 hk2
    cases hk2
    exact ⟨hok', ⟨r, by rw [hsame i (fun h => Nat.lt_irrefl _ (Nat.lt_of_lt_of_le hi (Nat.le_trans hT h.1)))]; exact hr⟩,
      by rw [hkb, hkn, hlen]; exact hE, Or.inl ⟨k, rfl, hkb, hkn⟩⟩
  · intro x ph2 hx hp2 hor
    rcases hor with ⟨k2, hk2, h1, h2⟩ | h
    · cases hk2
      rcases hq x ph2 h1 h2 hp2 with h | h
      · exact Or.inl h
      · exact Or.inr ⟨k', rfl, h⟩
    · rw [List.getElem?_eq_none (hlen ▸ h)] at hp2; cases hp2

/-- thread `i` enters a batch call: a new block of `n` slots at the end of the list -/
theorem enter_ok (hG : G ne0 D bs phs s held) (hi : i < bs.length) (hb : bs[i]? = some none) {r : Res}
    (hp : phs[i]? = some (.fin r)) (k' : BK) (hkb : k'.base = phs.length) (phs1 : List Ph)
    (hlen : phs1.length = phs.length + k'.n) (hsame : ∀ x, x < phs.length → phs1[x]? = phs[x]?)
    (s' : St) (held' : List Key) (hJ : J ne0 D phs1 s' held')
    (hok' : k'.ok ne0 D phs1)
    (hq : ∀ x ph, phs.length ≤ x → phs1[x]? = some ph → ph.quiet ∨ k'.slot = some x) :
    StepOK ne0 D bs phs i none (k'.prog phs1) s' held' := by
  have hst : ∀ x, x < phs.length → x ≠ i → ¬ inBlk none x → phs1[x]? = phs[x]? := fun x hx _ _ => hsame x hx
  have hil : i < phs.length := Nat.lt_of_lt_of_le hi hG.le
  have hle : phs.length ≤ phs1.length := by rw [hlen]; exact Nat.le_add_right ..
  refine ⟨some k', phs1, rfl, ?_, hle, hst, fun x hx h => by
    obtain ⟨k2, hk2, h1, h2⟩ := h; cases hk2; exact absurd (hkb ▸ h1) (Nat.not_le_of_lt hx)⟩
  refine hG.update hi hb (some k') _ s' held' hJ hle hst ?_ ?_
  · intro k2 hk2
    cases hk2
    exact ⟨hok', ⟨r, by rw [hsame i hil]; exact hp⟩, by rw [hkb, hlen]; exact Nat.le_refl _, Or.inr ⟨rfl, hkb⟩⟩
  · intro x ph2 hx hp2 hor
    rcases hor with ⟨k2, hk2, _⟩ | h
    · cases hk2
    · rcases hq x ph2 h hp2 with h | h
      · exact Or.inl h
      · exact Or.inr ⟨k', rfl, h⟩

/-- the operations of the extended theorem: the single operations of `quiescent_wf_partial`,
    `batch_create_nodes`, `batch_create_edges` and `batch_update_nodes` with any arguments,
    `batch_delete_edges` of ids that may be deleted -/
def Op.admB (ne0 : Nat) (D : Nat → Prop) : Op → Prop
  | .batchCreateEdges _ => True
  | .batchCreateNodes _ => True
  | .batchDeleteEdges ids => ∀ e ∈ ids, e ≤ ne0 ∧ D e
  | .batchUpdateNodes _ => True
  | op => op.adm2 ne0 D

theorem Op.adm2.admB {ne0 : Nat} {D : Nat → Prop} {op : Op} (h : op.adm2 ne0 D) : op.admB ne0 D := by
  cases op <;> first | exact h | exact h.elim

theorem quiet_fin (r : Res) : (Ph.fin r).quiet := fun _ _ h => h
theorem quiet_ceAl (a b : Nat) (d : Bool) (ty v : Nat) : (Ph.ceAl a b d ty v).quiet := fun _ _ h => h
theorem quiet_ceB (a b : Nat) (d : Bool) (ty v : Nat) : (Ph.ceB a b d ty v).quiet := fun _ _ h => h
theorem quiet_cnP1 (id l v : Nat) : (Ph.cnP1 id l v).quiet := fun _ _ h => h
theorem quiet_pre (e : EdgeIn) (x : Nat) : (e.pre x).quiet := fun _ _ h => h

theorem get_replicate_fin {phs : List Ph} {n x : Nat} (h1 : phs.length ≤ x) (h2 : x < phs.length + n) :
    (phs ++ List.replicate n (Ph.fin .ok))[x]? = some (.fin .ok) := by
  rw [List.getElem?_append_right h1, List.getElem?_replicate]
  simp; omega

theorem append_old {phs : List Ph} {n x : Nat} (h : x < phs.length) :
    (phs ++ List.replicate n (Ph.fin .ok))[x]? = phs[x]? := List.getElem?_append_left h

theorem quiet_of_block {phs : List Ph} {base n x : Nat} {ph : Ph}
    (h : ∀ y, y < n → ∃ ph', phs[base + y]? = some ph' ∧ ph'.quiet) (hx1 : base ≤ x) (hx2 : x < base + n)
    (hp : phs[x]? = some ph) : ph.quiet := by
  obtain ⟨ph', h1, h2⟩ := h (x - base) (by omega)
  rw [Nat.add_sub_cancel' hx1, hp] at h1
  cases h1; exact h2

theorem enter_fresh (hG : G ne0 D bs phs s held) (hi : i < bs.length) (hb : bs[i]? = some none) {r : Res}
    (hp : phs[i]? = some (.fin r)) (k' : BK) (hkb : k'.base = phs.length)
    (hok' : k'.ok ne0 D (phs ++ List.replicate k'.n (.fin .ok))) :
    StepOK ne0 D bs phs i none (k'.prog (phs ++ List.replicate k'.n (.fin .ok))) s held := by
  refine enter_ok hG hi hb hp k' hkb _ (by rw [List.length_append, List.length_replicate])
    (fun x hx => append_old hx) s held (hG.j.append_fin _) hok' ?_
  intro x ph2 hx hp2
  rcases get_append_fin hp2 with h | rfl
  · rw [List.getElem?_eq_none hx] at h; cases h
  · exact Or.inl (quiet_fin _)

/-- thread `i` has finished an operation (`phs[i] = fin r`) and starts the next one -/
theorem enter_op (hG : G ne0 D bs phs s held) (hi : i < bs.length) (hb : bs[i]? = some none) {r : Res}
    (hp : phs[i]? = some (.fin r)) (op : Op) (hadm : op.admB ne0 D) :
    StepOK ne0 D bs phs i none op.prog s held := by
  have single : op.adm2 ne0 D → StepOK ne0 D bs phs i none op.prog s held := by
    intro ha
    obtain ⟨ph', p1, _, p3⟩ := silent_pres hG.j hp [op] (fun _ h => List.mem_singleton.mp h ▸ ha) false []
      ⟨op.prog, [], [r], s, held⟩ rfl
    exact (show op.prog = ph'.prog from p1) ▸ plain_ok hG hi hb hp ph' s held p3
  have finish : ∀ res, StepOK ne0 D bs phs i none (.done res) s held := fun res =>
    plain_ok hG hi hb hp (.fin res) s held (hG.j.step_idle hp _ (fun _ _ h => h) trivial rfl rfl rfl)
  have hfin : ∀ n x, phs.length ≤ x → x < phs.length + n →
      (phs ++ List.replicate n (Ph.fin .ok))[x]? = some (.fin .ok) := fun n x => get_replicate_fin
  cases op with
  | createNode l v => exact single hadm
  | createEdge a b d ty v => exact single hadm
  | deleteEdge e => exact single hadm
  | deleteNode n h => exact hadm.elim
  | updateNode n lab v => exact single hadm
  | updateEdge e v => exact single hadm
  | addLabel n l => exact single hadm
  | removeLabel n l => exact single hadm
  | batchDeleteNodes ids => exact hadm.elim
  | batchUpdateNodes us =>
    cases us with
    | nil => exact finish _
    | cons u0 us' =>
      exact enter_fresh hG hi hb hp (.unV phs.length (u0 :: us') 0) rfl
        ⟨Nat.succ_pos _, fun x hx => hfin _ _ (Nat.le_add_right ..) (Nat.add_lt_add_left hx _)⟩
  | batchCreateEdges items =>
    cases items with
    | nil => exact finish _
    | cons e0 es =>
      exact enter_fresh hG hi hb hp (.ceV phs.length (e0 :: es) 0 false) rfl
        ⟨Nat.zero_le _, (fun h => nomatch h), List.cons_ne_nil _ _, fun x e hx _ => absurd hx (Nat.not_lt_zero _), (fun _ h => nomatch h),
          fun x _ _ hx => hfin _ _ (Nat.le_add_right ..) (Nat.add_lt_add_left hx _)⟩
  | batchCreateNodes items =>
    cases items with
    | nil => exact finish _
    | cons x0 xs =>
      exact enter_fresh hG hi hb hp (.cnA phs.length (x0 :: xs)) rfl
        ⟨List.cons_ne_nil _ _, fun x hx => hfin _ _ (Nat.le_add_right ..) (Nat.add_lt_add_left hx _)⟩
  | batchDeleteEdges ids =>
    cases ids with
    | nil => exact finish _
    | cons e0 es =>
      have hall : ∀ e ∈ e0 :: es, e ≤ ne0 ∧ D e := hadm
      have hslot : (phs ++ List.replicate (e0 :: es).length (Ph.fin .ok))[phs.length + 0]? = some (.fin .ok) :=
        hfin _ _ (Nat.le_refl _) (Nat.lt_add_of_pos_right (Nat.succ_pos _))
      have hget := List.getElem?_set_self (a := Ph.deA e0) (lt_of_getElem? hslot)
      have := enter_ok hG hi hb hp (.deL phs.length (e0 :: es) 0 [] []) rfl
        ((phs ++ List.replicate (e0 :: es).length (Ph.fin .ok)).set (phs.length + 0) (.deA e0))
        (by rw [List.length_set, List.length_append, List.length_replicate]; rfl)
        (fun x hx => (List.getElem?_set_ne (Nat.ne_of_gt hx)).trans (append_old hx)) s held
        ((hG.j.append_fin _).step_idle hslot _ (fun _ _ h => h.elim) (hall e0 (List.mem_cons_self ..)) rfl rfl rfl)
        ⟨Nat.succ_pos _, ⟨_, hget, rfl⟩, hall, fun x hx1 hx2 =>
          (get_set_slot _ (Nat.ne_of_gt hx1)).trans (hfin _ _ (Nat.le_add_right ..) (Nat.add_lt_add_left hx2 _))⟩
        (fun x ph2 hx hp2 => by
          by_cases hx0 : x = phs.length + 0
          · exact Or.inr (hx0 ▸ rfl)
          · rw [List.getElem?_set_ne (Ne.symm hx0)] at hp2
            rcases get_append_fin hp2 with h | rfl
            · rw [List.getElem?_eq_none hx] at h; cases h
            · exact Or.inl (quiet_fin _))
      rw [BK.prog, slotProg, hget] at this
      exact this

theorem BK.slot_ph {k : BK} {u : Nat} (hs : k.slot = some u) (hok : k.ok ne0 D phs) :
    ∃ ph, phs[u]? = some ph ∧ ph.prog.isDone = false ∧ k.prog phs = ph.prog.bind k.kont := by
  obtain ⟨ph, hu, hnd⟩ : ∃ ph, phs[u]? = some ph ∧ ph.prog.isDone = false := by
    cases k <;> first | (cases hs; exact hok.2.1) | cases hs
  exact ⟨ph, hu, hnd, by rw [BK.prog_slot hs, slotProg, hu]⟩

/-- the driven slot `u` has ended; the call goes on as `k'`, driving slot `u + 1`, which is set to `ph1` -/
theorem next_ok (hG : G ne0 D bs phs s held) (hi : i < bs.length) {k : BK} (hb : bs[i]? = some (some k))
    {u : Nat} (hs : k.slot = some u) {ph : Ph} (hu : phs[u]? = some ph) {r : Res}
    (k' : BK) (ph1 : Ph) {ph0 : Ph} (hkb : k'.base = k.base) (hkn : k'.n = k.n) (hs' : k'.slot = some (u + 1))
    (hsl : (phs.set u (.fin r))[u + 1]? = some ph0) (s' : St) (held' : List Key)
    (hJ : J ne0 D ((phs.set u (.fin r)).set (u + 1) ph1) s' held')
    (hok' : ∀ phs2 : List Ph, phs2[u + 1]? = some ph1 →
      (∀ x, x ≠ u → x ≠ u + 1 → phs2[x]? = phs[x]?) → k'.ok ne0 D phs2) :
    StepOK ne0 D bs phs i (some k) (ph1.prog.bind k'.kont) s' held' := by
  have hget : ((phs.set u (.fin r)).set (u + 1) ph1)[u + 1]? = some ph1 := List.getElem?_set_self (lt_of_getElem? hsl)
  have hsame : ∀ x, x ≠ u → x ≠ u + 1 → ((phs.set u (.fin r)).set (u + 1) ph1)[x]? = phs[x]? := fun x hxu hxn => by
    rw [List.getElem?_set_ne (Ne.symm hxn), List.getElem?_set_ne (Ne.symm hxu)]
  have hok := hok' _ hget hsame
  have hu0 := BK.slot_in (hG.ok i k hb).1 hs
  have hu' := BK.slot_in hok hs'
  rw [← show k'.prog _ = ph1.prog.bind k'.kont from by rw [BK.prog_slot hs', slotProg, hget]]
  refine block_ok hG hi hb k' hkb hkn _ (by rw [List.length_set, List.length_set])
    (fun x hx => hsame x (fun h => hx (h ▸ hu0)) (fun h => hx (h ▸ ⟨hkb ▸ hu'.1, hkb ▸ hkn ▸ hu'.2⟩))) s' held' hJ hok ?_
  intro x ph2 hx1 hx2 hp2
  by_cases hxn : x = u + 1
  · exact Or.inr (hxn ▸ hs')
  · left
    by_cases hxu : x = u
    · rw [hxu, List.getElem?_set_ne (Nat.succ_ne_self u), List.getElem?_set_self (lt_of_getElem? hu)] at hp2
      cases hp2; exact quiet_fin _
    · rw [hsame x hxu hxn] at hp2
      exact hG.block_quiet hb hx1 hx2 (by rw [hs]; exact fun h => hxu (Option.some.inj h).symm) hp2

/-- the driven slot has made a step (to `ph'`, `J` holds again): stay in the item, go to the next
    item, or end the batch call -/
theorem advance (hG : G ne0 D bs phs s held) (hi : i < bs.length) {k : BK} (hb : bs[i]? = some (some k))
    {u : Nat} (hs : k.slot = some u) {ph : Ph} (hu : phs[u]? = some ph) (ph' : Ph)
    (s' : St) (held' : List Key) (hJ : J ne0 D (phs.set u ph') s' held') :
    StepOK ne0 D bs phs i (some k) (ph'.prog.bind k.kont) s' held' := by
  by_cases hnd : ph'.prog.isDone = false
  · obtain ⟨hok, _⟩ := hG.ok i k hb
    have hu0 := BK.slot_in hok hs
    have hget := List.getElem?_set_self (a := ph') (lt_of_getElem? hu)
    rw [← show k.prog (phs.set u ph') = ph'.prog.bind k.kont from by rw [BK.prog_slot hs, slotProg, hget]]
    refine block_ok hG hi hb k rfl rfl _ (List.length_set ..) (fun x hx => List.getElem?_set_ne (fun (h : u = x) => hx (h ▸ hu0)))
      s' held' hJ (BK.ok_drive hs hok hu ph' hnd) ?_
    intro x ph2 hx1 hx2 hp2
    by_cases hxu : x = u
    · exact Or.inr (hxu ▸ hs)
    · rw [List.getElem?_set_ne (Ne.symm hxu)] at hp2
      exact Or.inl (hG.block_quiet hb hx1 hx2 (by rw [hs]; exact fun h => hxu (Option.some.inj h).symm) hp2)
  · obtain ⟨r, rfl⟩ := isDone_of_prog_done (by simpa using hnd)
    obtain ⟨hok, _⟩ := hG.ok i k hb
    have hul : u < phs.length := lt_of_getElem? hu
    -- the call ends: every slot of the block but the driven one is quiet, the driven one has ended
    have hfin : ∀ res, StepOK ne0 D bs phs i (some k) (.done res) s' held' := by
      intro res
      obtain ⟨hu1, hu2⟩ := BK.slot_in hok hs
      refine finish_ok hG hi hb _ (List.length_set ..) (fun x hx => List.getElem?_set_ne (by omega)) ?_ s' held' hJ res
      intro x ph2 h1 h2 hp2
      by_cases hxu : x = u
      · rw [hxu, List.getElem?_set_self hul] at hp2; cases hp2; exact quiet_fin _
      · rw [List.getElem?_set_ne (Ne.symm hxu)] at hp2
        exact hG.block_quiet hb h1 h2 (by rw [hs]; exact fun h => hxu (Option.some.inj h).symm) hp2
    have hlast : ∀ {α : Type} {l : List α} {j : Nat}, ¬ j + 1 < l.length → l.drop (j + 1) = [] :=
      fun h => List.drop_eq_nil_of_le (Nat.le_of_not_lt h)
    cases k with
    | ceV base items j sec => cases hs
    | cnA base items => cases hs
    | unV base us j => cases hs
    | ceL base items start j =>
      cases hs
      obtain ⟨h1, _, h3⟩ := hok
      show StepOK ne0 D bs phs i _ (bceLoop start (items.drop (j + 1)) (j + 1) (.done (.ids start items.length))) s' held'
      by_cases hj : j + 1 < items.length
      · have he : items[j + 1]? = some items[j + 1] := List.getElem?_eq_getElem hj
        have hsl : (phs.set (base + j) (.fin r))[base + j + 1]? = some _ :=
          (get_set_slot _ (Nat.succ_ne_self j)).trans (h3 (j + 1) _ (Nat.lt_succ_self j) he)
        rw [bceLoop_drop start items (j + 1) _ _ he]
        exact next_ok hG hi hb rfl hu (.ceL base items start (j + 1)) _ rfl rfl rfl hsl s' held' (by rw [set_getElem?_self hsl]; exact hJ)
          fun phs2 e1 e2 => ⟨hj, ⟨_, e1, rfl⟩, fun x e hx he2 =>
            (e2 _ (Nat.ne_of_gt (Nat.add_lt_add_left (Nat.lt_of_succ_lt hx) base)) (Nat.ne_of_gt (Nat.add_lt_add_left hx base))).trans
              (h3 x e (Nat.lt_of_succ_lt hx) he2)⟩
      · rw [hlast hj]; exact hfin _
    | cnL base items start j =>
      cases hs
      obtain ⟨h1, _, h3⟩ := hok
      show StepOK ne0 D bs phs i _ (bcnLoop start (items.drop (j + 1)) (j + 1) (.done (.ids start items.length))) s' held'
      by_cases hj : j + 1 < items.length
      · have he : items[j + 1]? = some items[j + 1] := List.getElem?_eq_getElem hj
        have hsl : (phs.set (base + j) (.fin r))[base + j + 1]? = some _ :=
          (get_set_slot _ (Nat.succ_ne_self j)).trans (h3 (j + 1) _ (Nat.lt_succ_self j) he)
        rw [bcnLoop_drop start items (j + 1) _ _ he]
        exact next_ok hG hi hb rfl hu (.cnL base items start (j + 1)) _ rfl rfl rfl hsl s' held' (by rw [set_getElem?_self hsl]; exact hJ)
          fun phs2 e1 e2 => ⟨hj, ⟨_, e1, rfl⟩, fun x e hx he2 =>
            (e2 _ (Nat.ne_of_gt (Nat.add_lt_add_left (Nat.lt_of_succ_lt hx) base)) (Nat.ne_of_gt (Nat.add_lt_add_left hx base))).trans
              (h3 x e (Nat.lt_of_succ_lt hx) he2)⟩
      · rw [hlast hj]; exact hfin _
    | deL base ids j del fl =>
      cases hs
      obtain ⟨h1, _, h3, h4⟩ := hok
      obtain ⟨del', fl', hk⟩ : ∃ del' fl', bdeK ids j (ids.getD j 0) del fl r = bdeLoop (ids.drop (j + 1)) (j + 1) del' fl' := by
        cases r <;> exact ⟨_, _, rfl⟩
      show StepOK ne0 D bs phs i _ (bdeK ids j (ids.getD j 0) del fl r) s' held'
      rw [hk]
      by_cases hj : j + 1 < ids.length
      · have he : ids[j + 1]? = some ids[j + 1] := List.getElem?_eq_getElem hj
        have hsl : (phs.set (base + j) (.fin r))[base + j + 1]? = some _ :=
          (get_set_slot _ (Nat.succ_ne_self j)).trans (h4 (j + 1) (Nat.lt_succ_self j) hj)
        have hk' : (BK.deL base ids (j + 1) del' fl').kont = bdeK ids (j + 1) ids[j + 1] del' fl' := by
          rw [BK.kont, List.getD, he]; rfl
        rw [bdeLoop_drop ids (j + 1) _ _ _ he, ← hk']
        exact next_ok hG hi hb rfl hu (.deL base ids (j + 1) del' fl') _ rfl rfl rfl hsl s' held'
          (hJ.step_idle hsl (.deA ids[j + 1]) (fun _ _ h => h.elim) (h3 _ (List.getElem_mem hj)) rfl rfl rfl)
          fun phs2 e1 e2 => ⟨hj, ⟨_, e1, rfl⟩, h3, fun x hx1 hx2 =>
            (e2 _ (Nat.ne_of_gt (Nat.add_lt_add_left (Nat.lt_of_succ_lt hx1) base)) (Nat.ne_of_gt (Nat.add_lt_add_left hx1 base))).trans
              (h4 x (Nat.lt_of_succ_lt hx1) hx2)⟩
      · rw [hlast hj]; exact hfin _
    | unL base us j cnt =>
      cases hs
      obtain ⟨h1, _, h4⟩ := hok
      obtain ⟨cnt', hk⟩ : ∃ cnt', bunK us j cnt r = bunLoop (us.drop (j + 1)) cnt' := by
        cases r <;> exact ⟨_, rfl⟩
      show StepOK ne0 D bs phs i _ (bunK us j cnt r) s' held'
      rw [hk]
      by_cases hj : j + 1 < us.length
      · have he : us[j + 1]? = some us[j + 1] := List.getElem?_eq_getElem hj
        have hsl : (phs.set (base + j) (.fin r))[base + j + 1]? = some _ :=
          (get_set_slot _ (Nat.succ_ne_self j)).trans (h4 (j + 1) (Nat.lt_succ_self j) hj)
        rw [bunLoop_drop us (j + 1) _ _ he]
        exact next_ok hG hi hb rfl hu (.unL base us (j + 1) cnt') _ rfl rfl rfl hsl s' held'
          (hJ.step_idle hsl (.unA us[j + 1].1 us[j + 1].2.1 us[j + 1].2.2) (fun _ _ h => h.elim) trivial rfl rfl rfl)
          fun phs2 e1 e2 => ⟨hj, ⟨_, e1, rfl⟩, fun x hx1 hx2 =>
            (e2 _ (Nat.ne_of_gt (Nat.add_lt_add_left (Nat.lt_of_succ_lt hx1) base)) (Nat.ne_of_gt (Nat.add_lt_add_left hx1 base))).trans
              (h4 x (Nat.lt_of_succ_lt hx1) hx2)⟩
      · rw [hlast hj]; exact hfin _

theorem ceV_quiet {base : Nat} {items : List EdgeIn} {j : Nat} {sec : Bool}
    (hok : (BK.ceV base items j sec).ok ne0 D phs) (x : Nat) (ph2 : Ph) (h1 : base ≤ x) (h2 : x < base + items.length)
    (hp2 : phs[x]? = some ph2) : ph2.quiet := by
  obtain ⟨o1, o2, o3, o4, o5, o6⟩ := hok
  refine quiet_of_block (fun y hy => ?_) h1 h2 hp2
  have he : items[y]? = some items[y] := List.getElem?_eq_getElem hy
  by_cases c1 : y < j
  · exact ⟨_, o4 _ _ c1 he, quiet_ceAl _ _ _ _ _⟩
  · by_cases c2 : sec = true ∧ y = j
    · obtain ⟨c2a, rfl⟩ := c2
      exact ⟨_, o5 _ c2a he, quiet_ceB _ _ _ _ _⟩
    · refine ⟨_, o6 y (Nat.le_of_not_lt c1) (fun hs => ?_) hy, quiet_fin _⟩
      rcases Nat.lt_or_ge j y with h | h
      · exact h
      · exact absurd ⟨hs, Nat.le_antisymm h (Nat.le_of_not_lt c1)⟩ c2

theorem ceV_store (hG : G ne0 D bs phs s held) (hi : i < bs.length) {base : Nat} {items : List EdgeIn} {j : Nat} {sec : Bool}
    (hb : bs[i]? = some (some (.ceV base items j sec)))
    (hlab : ((BK.ceV base items j sec).prog phs).label.isSome = true) :
    StepOK ne0 D bs phs i (some (.ceV base items j sec)) (((BK.ceV base items j sec).prog phs).step s).1
      (((BK.ceV base items j sec).prog phs).step s).2 held := by
  obtain ⟨hok, _⟩ := hG.ok i _ hb
  obtain ⟨o1, o2, o3, o4, o5, o6⟩ := id hok
  have hfin : ∀ res, StepOK ne0 D bs phs i (some (.ceV base items j sec)) (.done res) s held :=
    fun res => finish_ok hG hi hb phs rfl (fun _ _ => rfl) (ceV_quiet hok) s held hG.j res
  have hjlt : j < items.length := by
    cases sec with
    | true => exact o2 rfl
    | false =>
      rcases Nat.lt_or_ge j items.length with h | h
      · exact h
      · rw [BK.prog, List.drop_eq_nil_of_le h] at hlab; cases hlab
  have he : items[j]? = some items[j] := List.getElem?_eq_getElem hjlt
  -- the slot of item `j` moves to `ph1` (`J` holds again), every other slot stays
  have hgo : ∀ (k' : BK) (ph1 : Ph), k'.base = base → k'.n = items.length → k'.slot = none → ph1.quiet →
      J ne0 D (phs.set (base + j) ph1) s held → k'.ok ne0 D (phs.set (base + j) ph1) →
      StepOK ne0 D bs phs i (some (.ceV base items j sec)) (k'.prog (phs.set (base + j) ph1)) s held := by
    intro k' ph1 hkb hkn hs' hq hJ1 hok'
    refine block_ok hG hi hb k' hkb hkn _ (List.length_set ..)
      (fun x hx => List.getElem?_set_ne (by rintro rfl; exact hx ⟨Nat.le_add_right .., Nat.add_lt_add_left hjlt _⟩)) s held hJ1 hok' ?_
    intro x ph2 hx1 hx2 hp2
    left
    by_cases hxj : x = base + j
    · subst hxj
      have hlt := lt_of_getElem? hp2
      rw [List.length_set] at hlt
      rw [List.getElem?_set_self hlt] at hp2; cases hp2; exact hq
    · rw [List.getElem?_set_ne (Ne.symm hxj)] at hp2
      exact ceV_quiet hok x ph2 hx1 hx2 hp2
  cases sec with
  | false =>
    have hslot : phs[base + j]? = some (.fin .ok) := o6 j (Nat.le_refl _) (fun h => nomatch h) hjlt
    have hset := List.getElem?_set_self (a := Ph.ceB items[j].a items[j].b items[j].d items[j].ty items[j].v) (lt_of_getElem? hslot)
    simp only [BK.prog, bceValidate_drop items j _ _ he, Prog.step]
    cases hn : (s.kv (.node items[j].a)).isSome with
    | false => exact hfin _
    | true =>
      have := hgo (.ceV base items j true) _ rfl rfl rfl (quiet_ceB _ _ _ _ _)
        (hG.j.step_idle hslot (.ceB items[j].a items[j].b items[j].d items[j].ty items[j].v) (fun _ _ h => h.elim) hn rfl rfl rfl)
        ⟨o1, fun _ => hjlt, o3, fun x e hx hex => (get_set_slot _ (Nat.ne_of_lt hx)).trans (o4 x e hx hex),
          fun e _ hex => by cases he.symm.trans hex; exact hset,
          fun x hx1 hx2 hx3 => (get_set_slot _ (Nat.ne_of_gt (hx2 rfl))).trans (o6 x hx1 (fun h => nomatch h) hx3)⟩
      rw [BK.prog, he] at this
      exact this
  | true =>
    have hslot : phs[base + j]? = some (.ceB items[j].a items[j].b items[j].d items[j].ty items[j].v) := o5 _ rfl he
    have ha : nodeEx s.kv items[j].a = true := hG.j.loc _ _ hslot
    have hset := List.getElem?_set_self (a := Ph.ceAl items[j].a items[j].b items[j].d items[j].ty items[j].v) (lt_of_getElem? hslot)
    simp only [BK.prog, he, Prog.step]
    cases hn : (s.kv (.node items[j].b)).isSome with
    | false => exact hfin _
    | true =>
      exact hgo (.ceV base items (j + 1) false) _ rfl rfl rfl (quiet_ceAl _ _ _ _ _)
        (hG.j.step_idle hslot (.ceAl items[j].a items[j].b items[j].d items[j].ty items[j].v) (fun _ _ h => h.elim) ⟨ha, hn⟩ rfl rfl rfl)
        ⟨hjlt, (fun h => nomatch h), o3, fun x e hx hex => by
            by_cases hxj : x = j
            · rw [hxj] at hex ⊢; cases he.symm.trans hex; exact hset
            · exact (get_set_slot _ hxj).trans (o4 x e (Nat.lt_of_le_of_ne (Nat.le_of_lt_succ hx) hxj) hex),
          (fun _ h => nomatch h),
          fun x hx1 _ hx3 => (get_set_slot _ (Nat.ne_of_gt hx1)).trans (o6 x (Nat.le_of_succ_le hx1) (fun _ => hx1) hx3)⟩

/-- `batch_create_edges` takes its block of ids: every validated item gets its id at once -/
theorem ceV_alloc (hG : G ne0 D bs phs s held) (hi : i < bs.length) {base : Nat} {items : List EdgeIn} {j : Nat}
    (hb : bs[i]? = some (some (.ceV base items j false))) (hj : items.length ≤ j) :
    StepOK ne0 D bs phs i (some (.ceV base items j false))
      (bceLoop (s.ne + 1) items 0 (.done (.ids (s.ne + 1) items.length))) { s with ne := s.ne + items.length } held := by
  obtain ⟨⟨o1, o2, o3, o4, o5, o6⟩, _⟩ := hG.ok i _ hb
  cases Nat.le_antisymm o1 hj
  -- every validated item `x` is handed the id `s.ne + 1 + x`
  obtain ⟨phs1, hJ1, hl1, hs1, h4⟩ := alloc_block (ne0 := ne0) (D := D) base
    (fun x => match items[x]? with | some e => e.pre (s.ne + 1 + x) | none => .fin .ok)
    (fun m => { s with ne := s.ne + m }) held phs items.length
    (fun x hx => ⟨_, o4 x _ hx (List.getElem?_eq_getElem hx)⟩)
    (fun m phs1 hm hJ1 hslot => by
      have hem : items[m]? = some items[m] := List.getElem?_eq_getElem hm
      have hslot := hslot.trans (o4 m _ hm hem)
      obtain ⟨ha, hb⟩ := hJ1.loc _ _ hslot
      have hge := hG.j.ne_ge
      simp only [hem]
      exact hJ1.step_same hslot _ (s.ne + (m + 1)) held (Nat.le_succ _) (fun _ _ h => h.elim)
        ⟨hJ1.fresh _ (by show s.ne + m < _; omega), by omega, by omega, ha, hb⟩
        (fun _ _ _ _ _ _ h => h) (fun _ h => nomatch h) (fun x hx => Or.inr (by cases hx; show s.ne + m < _; omega))
        (fun _ h => nomatch h))
    items.length (Nat.le_refl _) hG.j
  have hr1 : ∀ x e, items[x]? = some e → phs1[base + x]? = some (e.pre (s.ne + 1 + x)) := fun x e he => by
    have := h4 x (lt_of_getElem? he); rwa [he] at this
  have hpos : 0 < items.length := List.length_pos_iff.mpr o3
  have he0 : items[0]? = some items[0] := List.getElem?_eq_getElem hpos
  have hslot0 : phs1[base + 0]? = some (items[0].pre (s.ne + 1 + 0)) := hr1 0 _ he0
  have := block_ok hG hi hb (BK.ceL base items (s.ne + 1) 0) rfl rfl phs1 hl1 hs1 _ held hJ1
    ⟨hpos, ⟨_, hslot0, rfl⟩, fun x e _ he => hr1 x e he⟩
    (fun x ph2 hx1 hx2 hp2 => Or.inl (quiet_of_block
      (fun y hy => ⟨_, hr1 y _ (List.getElem?_eq_getElem hy), quiet_pre _ _⟩) hx1 hx2 hp2))
  rw [BK.prog, slotProg, hslot0] at this
  rw [← List.drop_zero (l := items), bceLoop_drop (s.ne + 1) items 0 _ _ he0]
  exact this

/-- `batch_create_nodes` takes its block of node ids -/
theorem cnA_alloc (hG : G ne0 D bs phs s held) (hi : i < bs.length) {base : Nat} {items : List (Nat × Nat)}
    (hb : bs[i]? = some (some (.cnA base items))) :
    StepOK ne0 D bs phs i (some (.cnA base items))
      (bcnLoop (s.nn + 1) items 0 (.done (.ids (s.nn + 1) items.length))) { s with nn := s.nn + items.length } held := by
  obtain ⟨⟨o1, o2⟩, _⟩ := hG.ok i _ hb
  -- every item `x` is handed the node id `s.nn + 1 + x`
  obtain ⟨phs1, hJ1, hl1, hs1, h4⟩ := alloc_block (ne0 := ne0) (D := D) base
    (fun x => match items[x]? with | some lv => .cnP1 (s.nn + 1 + x) lv.1 lv.2 | none => .fin .ok)
    (fun m => { s with nn := s.nn + m }) held phs items.length (fun x hx => ⟨_, o2 x hx⟩)
    (fun m phs1 hm hJ1 hslot => by
      have hem : items[m]? = some items[m] := List.getElem?_eq_getElem hm
      simp only [hem]
      exact hJ1.step_cnt (hslot.trans (o2 m hm)) _ s.ne (s.nn + (m + 1)) held (Nat.le_refl _) (Nat.le_succ _)
        (fun _ _ h => h.elim) (hJ1.freshN _ (by show s.nn + m < _; omega))
        (fun _ _ _ _ _ _ h => h) (fun _ h => nomatch h) (fun _ h => nomatch h)
        (fun x hx => Or.inr (by cases hx; show s.nn + m < _ ∧ _ ≤ s.nn + (m + 1); omega)))
    items.length (Nat.le_refl _) hG.j
  have hr1 : ∀ x lv, items[x]? = some lv → phs1[base + x]? = some (.cnP1 (s.nn + 1 + x) lv.1 lv.2) := fun x lv he => by
    have := h4 x (lt_of_getElem? he); rwa [he] at this
  have hpos : 0 < items.length := List.length_pos_iff.mpr o1
  have he0 : items[0]? = some items[0] := List.getElem?_eq_getElem hpos
  have hslot0 : phs1[base + 0]? = some (.cnP1 (s.nn + 1 + 0) items[0].1 items[0].2) := hr1 0 _ he0
  have := block_ok hG hi hb (BK.cnL base items (s.nn + 1) 0) rfl rfl phs1 hl1 hs1 _ held hJ1
    ⟨hpos, ⟨_, hslot0, rfl⟩, fun x e _ he => hr1 x e he⟩
    (fun x ph2 hx1 hx2 hp2 => Or.inl (quiet_of_block
      (fun y hy => ⟨_, hr1 y _ (List.getElem?_eq_getElem hy), quiet_cnP1 _ _ _⟩) hx1 hx2 hp2))
  rw [BK.prog, slotProg, hslot0] at this
  rw [← List.drop_zero (l := items), bcnLoop_drop (s.nn + 1) items 0 _ _ he0]
  exact this

theorem unV_store (hG : G ne0 D bs phs s held) (hi : i < bs.length) {base : Nat} {us : List (Nat × Option Nat × Nat)} {j : Nat}
    (hb : bs[i]? = some (some (.unV base us j))) :
    StepOK ne0 D bs phs i (some (.unV base us j)) (((BK.unV base us j).prog phs).step s).1
      (((BK.unV base us j).prog phs).step s).2 held := by
  obtain ⟨⟨o1, o2⟩, _⟩ := hG.ok i _ hb
  have he : us[j]? = some us[j] := List.getElem?_eq_getElem o1
  have hqall : ∀ x ph2, base ≤ x → x < base + us.length → phs[x]? = some ph2 → ph2.quiet :=
    fun x ph2 => quiet_of_block (fun y hy => ⟨_, o2 y hy, quiet_fin _⟩)
  simp only [BK.prog, bunValidate_drop us j _ _ he, Prog.step]
  cases hv : s.kv (.node us[j].1) with
  | none => exact finish_ok hG hi hb phs rfl (fun _ _ => rfl) hqall s held hG.j _
  | some val =>
    dsimp only
    by_cases hj : j + 1 < us.length
    · exact block_ok hG hi hb (BK.unV base us (j + 1)) rfl rfl phs rfl (fun _ _ => rfl) s held hG.j ⟨hj, o2⟩
        (fun x ph2 h1 h2 hp2 => Or.inl (hqall x ph2 h1 h2 hp2))
    · have hpos : 0 < us.length := Nat.lt_of_le_of_lt (Nat.zero_le _) o1
      have he0 : us[0]? = some us[0] := List.getElem?_eq_getElem hpos
      have hslot : phs[base + 0]? = some (.fin .ok) := o2 0 hpos
      have hset := List.getElem?_set_self (a := Ph.unA us[0].1 us[0].2.1 us[0].2.2) (lt_of_getElem? hslot)
      have := block_ok hG hi hb (BK.unL base us 0 0) rfl rfl _ (List.length_set ..)
        (fun x hx => List.getElem?_set_ne (by rintro rfl; exact hx ⟨Nat.le_refl _, Nat.lt_add_of_pos_right hpos⟩)) s held
        (hG.j.step_idle hslot (.unA us[0].1 us[0].2.1 us[0].2.2) (fun _ _ h => h.elim) trivial rfl rfl rfl)
        ⟨hpos, ⟨_, hset, rfl⟩, fun x hx1 hx2 => (get_set_slot _ (Nat.ne_of_gt hx1)).trans (o2 x hx2)⟩
        (fun x ph2 hx1 hx2 hp2 => by
          by_cases hx0 : x = base + 0
          · exact Or.inr (hx0 ▸ rfl)
          · rw [List.getElem?_set_ne (Ne.symm hx0)] at hp2
            exact Or.inl (hqall x ph2 hx1 hx2 hp2))
      rw [BK.prog, slotProg, hset] at this
      rw [List.drop_eq_nil_of_le (Nat.le_of_not_lt hj), bunValidate, ← List.drop_zero (l := us), bunLoop_drop us 0 0 _ he0]
      exact this

theorem store_presB (hG : G ne0 D bs phs s held) (hi : i < bs.length) {b : Option BK} (hb : bs[i]? = some b)
    {p : Prog} (hcur : CurOK phs i b p) (hlab : p.label.isSome = true) :
    StepOK ne0 D bs phs i b (p.step s).1 (p.step s).2 held := by
  cases b with
  | none =>
    obtain ⟨ph, hp, rfl⟩ := hcur
    obtain ⟨ph', h1, h2⟩ := store_pres hG.j hp hlab
    rw [h1]; exact plain_ok hG hi hb hp ph' _ held h2
  | some k =>
    have hp : p = k.prog phs := hcur
    subst hp
    obtain ⟨hok, _⟩ := hG.ok i k hb
    cases hs : k.slot with
    | some u =>
      obtain ⟨ph, hu, hnd, hpk⟩ := BK.slot_ph hs hok
      rw [hpk, bind_label _ _ hnd] at hlab
      obtain ⟨ph', h1, h2⟩ := store_pres hG.j hu hlab
      rw [hpk, bind_step _ _ _ hnd, h1]
      exact advance hG hi hb hs hu ph' _ held h2
    | none =>
      cases k with
      | ceV base items j sec => exact ceV_store hG hi hb hlab
      | cnA base items => cases hlab
      | unV base us j => exact unV_store hG hi hb
      | _ => cases hs

theorem silent_presB (hG : G ne0 D bs phs s held) (hi : i < bs.length) {b : Option BK} (hb : bs[i]? = some b)
    {p : Prog} (hcur : CurOK phs i b p) (rest : List Op) (hadm : ∀ op ∈ rest, op.admB ne0 D)
    (take : Bool) (rs : List Res) (c' : Cfg)
    (h : Cfg.silent Op.prog take ⟨p, rest, rs, s, held⟩ = some c') :
    StepOK ne0 D bs phs i b c'.p c'.s c'.held ∧ ∀ op ∈ c'.rest, op.admB ne0 D := by
  cases b with
  | none =>
    obtain ⟨ph, hp, rfl⟩ := hcur
    by_cases hnd : ph.prog.isDone = false
    · rw [silent_rest _ _ _ _ _ _ _ hnd] at h
      cases h0 : Cfg.silent Op.prog take ⟨ph.prog, [], rs, s, held⟩ with
      | none => rw [h0] at h; cases h
      | some c0 =>
        rw [h0] at h; cases h
        obtain ⟨ph', p1, _, p3⟩ := silent_pres hG.j hp [] (fun _ h => nomatch h) take rs c0 h0
        exact ⟨(show c0.p = ph'.prog from p1) ▸ plain_ok hG hi hb hp ph' _ _ p3, hadm⟩
    · obtain ⟨r, rfl⟩ := isDone_of_prog_done (by simpa using hnd)
      cases rest with
      | nil => cases h
      | cons op rest' =>
        cases h
        exact ⟨enter_op hG hi hb hp op (hadm op (List.mem_cons_self ..)), fun o ho => hadm o (List.mem_cons_of_mem _ ho)⟩
  | some k =>
    have hp : p = k.prog phs := hcur
    subst hp
    obtain ⟨hok, _⟩ := hG.ok i k hb
    cases hs : k.slot with
    | some u =>
      obtain ⟨ph, hu, hnd, hpk⟩ := BK.slot_ph hs hok
      rw [hpk, silent_bind _ _ _ _ _ _ _ _ hnd] at h
      cases h0 : Cfg.silent Op.prog take ⟨ph.prog, [], rs, s, held⟩ with
      | none => rw [h0] at h; cases h
      | some c0 =>
        rw [h0] at h; cases h
        obtain ⟨ph', p1, _, p3⟩ := silent_pres hG.j hu [] (fun _ h => nomatch h) take rs c0 h0
        refine ⟨?_, hadm⟩
        show StepOK ne0 D bs phs i (some k) (c0.p.bind k.kont) c0.s c0.held
        rw [show c0.p = ph'.prog from p1]
        exact advance hG hi hb hs hu ph' _ _ p3
    | none =>
      cases k with
      | ceV base items j sec =>
        cases sec with
        | true =>
          rw [BK.prog, List.getElem?_eq_getElem (hok.2.1 rfl)] at h; cases h
        | false =>
          rcases Nat.lt_or_ge j items.length with hj | hj
          · have he : items[j]? = some items[j] := List.getElem?_eq_getElem hj
            rw [BK.prog, bceValidate_drop items j _ _ he] at h; cases h
          · rw [BK.prog, List.drop_eq_nil_of_le hj] at h; cases h
            exact ⟨ceV_alloc hG hi hb hj, hadm⟩
      | cnA base items =>
        cases h
        exact ⟨cnA_alloc hG hi hb, hadm⟩
      | unV base us j =>
        rw [BK.prog, bunValidate_drop us j _ _ (List.getElem?_eq_getElem hok.1)] at h; cases h
      | _ => cases hs

theorem StepOK.refl (hG : G ne0 D bs phs s held) {b : Option BK} (hb : bs[i]? = some b) {p : Prog} (hcur : CurOK phs i b p) :
    StepOK ne0 D bs phs i b p s held :=
  ⟨b, phs, hcur, by rw [set_getElem?_self hb]; exact hG, Nat.le_refl _, fun _ _ _ _ => rfl, fun _ _ h => h⟩

theorem StepOK.trans {b b1 : Option BK} {phs1 : List Ph} (l1 : phs.length ≤ phs1.length)
    (st1 : ∀ x, x < phs.length → x ≠ i → ¬ inBlk b x → phs1[x]? = phs[x]?)
    (bl1 : ∀ x, x < phs.length → inBlk b1 x → inBlk b x) {p2 : Prog} {s2 : St} {held2 : List Key}
    (h2 : StepOK ne0 D (bs.set i b1) phs1 i b1 p2 s2 held2) : StepOK ne0 D bs phs i b p2 s2 held2 := by
  obtain ⟨b2, phs2, c2, g2, l2, st2, bl2⟩ := h2
  refine ⟨b2, phs2, c2, by rw [List.set_set] at g2; exact g2, Nat.le_trans l1 l2, ?_, ?_⟩
  · intro x hx hxi hnb
    rw [st2 x (by omega) hxi (fun h => hnb (bl1 x hx h)), st1 x hx hxi hnb]
  · intro x hx h
    exact bl1 x hx (bl2 x (by omega) h)

/-- thread `i` has moved to configuration `c`, and the operations it has left are admissible -/
def StepC (ne0 : Nat) (D : Nat → Prop) (bs : List (Option BK)) (phs : List Ph) (i : Nat) (b : Option BK) (c : Cfg) : Prop :=
  StepOK ne0 D bs phs i b c.p c.s c.held ∧ ∀ op ∈ c.rest, op.admB ne0 D

theorem StepC.silent {b : Option BK} {c c' : Cfg} {take : Bool} (hi : i < bs.length)
    (h : StepC ne0 D bs phs i b c) (hs : c.silent Op.prog take = some c') : StepC ne0 D bs phs i b c' := by
  obtain ⟨⟨b1, phs1, c1, g1, l1, st1, bl1⟩, ha⟩ := h
  obtain ⟨q, ha'⟩ := silent_presB g1 (by simpa using hi) (by rw [getElem?_set_of_lt hi, if_pos rfl]) c1 c.rest ha take c.rs c' hs
  exact ⟨StepOK.trans l1 st1 bl1 q, ha'⟩

theorem StepC.store {b : Option BK} {c : Cfg} {lab : Site × Key} (hi : i < bs.length)
    (h : StepC ne0 D bs phs i b c) (hl : c.p.label = some lab) :
    StepC ne0 D bs phs i b ⟨(c.p.step c.s).1, c.rest, c.rs, (c.p.step c.s).2, c.held⟩ := by
  obtain ⟨⟨b1, phs1, c1, g1, l1, st1, bl1⟩, ha⟩ := h
  exact ⟨StepOK.trans l1 st1 bl1
    (store_presB g1 (by simpa using hi) (by rw [getElem?_set_of_lt hi, if_pos rfl]) c1 (by rw [hl]; rfl)), ha⟩

/-- thread `t` is where `b` and `phs` say and has only admissible operations left -/
def TMatchB (ne0 : Nat) (D : Nat → Prop) (phs : List Ph) (i : Nat) (b : Option BK) (t : Thread) : Prop :=
  ((∃ p, t.cur = some p ∧ CurOK phs i b p) ∨ (t.cur = none ∧ b = none ∧ ∃ r, phs[i]? = some (.fin r))) ∧
  ∀ op ∈ t.rest, op.admB ne0 D

theorem turn_presB (hG : G ne0 D bs phs s held) (hi : i < bs.length) {b : Option BK} (hb : bs[i]? = some b)
    (t : Thread) (hm : TMatchB ne0 D phs i b t) :
    ∃ (b' : Option BK) (phs' : List Ph), TMatchB ne0 D phs' i b' (t.turn Op.prog s held).1 ∧
      G ne0 D (bs.set i b') phs' (t.turn Op.prog s held).2.1 (t.turn Op.prog s held).2.2 ∧
      phs.length ≤ phs'.length ∧ (∀ x, x < phs.length → x ≠ i → ¬ inBlk b x → phs'[x]? = phs[x]?) := by
  obtain ⟨hcur, hadm⟩ := hm
  rcases hcur with ⟨p, hc, hcur⟩ | ⟨hc, rfl, r, hr⟩
  · obtain ⟨p', hc', ⟨b2, phs2, c2, g2, l2, st2, _⟩, a2⟩ :=
      Thread.turn_induct Op.prog (Q := fun _ c => StepC ne0 D bs phs i b c)
        (fun _ _ _ _ h hs => h.silent hi hs) (fun _ _ _ h hl => h.store hi hl) hc s held
        ⟨StepOK.refl hG hb hcur, hadm⟩
    exact ⟨b2, phs2, ⟨Or.inl ⟨p', hc', c2⟩, a2⟩, g2, l2, st2⟩
  · simp only [Thread.turn, hc]
    cases hrest : t.rest with
    | nil =>
      obtain ⟨b1, phs1, c1, g1, l1, st1, _⟩ := plain_ok hG hi hb hr (.fin .ok) s held
        (hG.j.step_idle hr _ (fun _ _ h => h) trivial rfl rfl rfl)
      exact ⟨b1, phs1, ⟨Or.inl ⟨_, rfl, c1⟩, by simp [hrest]⟩, g1, l1, st1⟩
    | cons op rest =>
      simp only
      obtain ⟨⟨b2, phs2, c2, g2, l2, st2, _⟩, a2⟩ :=
        settle_induct Op.prog false (Q := StepC ne0 D bs phs i none) (fun _ _ h hs => h.silent hi hs)
          SETTLE_FUEL ⟨op.prog, rest, t.results, s, held⟩
          ⟨enter_op hG hi hb hr op (hadm op (by simp [hrest])), fun o ho => hadm o (by simp [hrest, ho])⟩
      exact ⟨b2, phs2, ⟨Or.inl ⟨_, rfl, c2⟩, a2⟩, g2, l2, st2⟩

/-- the other threads are where they were -/
theorem TMatchB.stable (hG : G ne0 D bs phs s held) (hi : i < bs.length) {b : Option BK} (hb : bs[i]? = some b)
    {j : Nat} (hji : j ≠ i) {bj : Option BK} (hbj : bs[j]? = some bj) {t : Thread} (hm : TMatchB ne0 D phs j bj t)
    (phs' : List Ph) (hst : ∀ x, x < phs.length → x ≠ i → ¬ inBlk b x → phs'[x]? = phs[x]?) :
    TMatchB ne0 D phs' j bj t := by
  have hjl : j < bs.length := lt_of_getElem? hbj
  have hnb : ∀ x, x < bs.length → ¬ inBlk b x := by
    rintro x hx ⟨k, hk, h1, h2⟩
    exact Nat.lt_irrefl _ (Nat.lt_of_lt_of_le hx (Nat.le_trans (hG.ok i k (by rw [hb, hk])).2.2.1 h1))
  have hj' : phs'[j]? = phs[j]? := hst j (Nat.lt_of_lt_of_le hjl hG.le) hji (hnb j hjl)
  obtain ⟨hcur, hadm⟩ := hm
  refine ⟨?_, hadm⟩
  rcases hcur with ⟨p, hc, hcur⟩ | ⟨hc, rfl, r, hr⟩
  · left
    refine ⟨p, hc, ?_⟩
    cases bj with
    | none =>
      obtain ⟨ph, h1, h2⟩ := hcur
      exact ⟨ph, by rw [hj']; exact h1, h2⟩
    | some kj =>
      have hp : p = kj.prog phs := hcur
      obtain ⟨hokj, _, hTj, hEj⟩ := hG.ok j kj hbj
      show p = kj.prog phs'
      rw [hp]
      symm
      apply BK.prog_congr kj
      intro u hu
      obtain ⟨hx1, hx2⟩ := BK.slot_in hokj hu
      refine hst u (Nat.lt_of_lt_of_le hx2 hEj) (Nat.ne_of_gt (Nat.lt_of_lt_of_le hi (Nat.le_trans hTj hx1))) ?_
      rintro ⟨k, hk, h1, h2⟩
      rcases hG.disj i j k kj (fun h => hji h.symm) (by rw [hb, hk]) hbj with h | h <;> omega
  · right
    exact ⟨hc, rfl, r, by rw [hj']; exact hr⟩

end steps

def MatchesB (ne0 : Nat) (D : Nat → Prop) (ts : List Thread) (bs : List (Option BK)) (phs : List Ph) : Prop :=
  ts.length = bs.length ∧
  ∀ (i : Nat) (t : Thread) (b : Option BK), ts[i]? = some t → bs[i]? = some b → TMatchB ne0 D phs i b t

theorem runThreads_presB {ne0 : Nat} {D : Nat → Prop} (sched : List Nat)
    (ts : List Thread) (bs : List (Option BK)) (phs : List Ph) (s : St) (held : List Key)
    (hm : MatchesB ne0 D ts bs phs) (hG : G ne0 D bs phs s held) :
    ∃ bs' phs', MatchesB ne0 D (runThreads Op.prog ts sched s held).1 bs' phs' ∧
      G ne0 D bs' phs' (runThreads Op.prog ts sched s held).2.1 (runThreads Op.prog ts sched s held).2.2 := by
  refine runThreads_induct Op.prog (P := fun ts s held => ∃ bs phs, MatchesB ne0 D ts bs phs ∧ G ne0 D bs phs s held)
    ?_ sched ts s held ⟨bs, phs, hm, hG⟩
  rintro ts s held i t ⟨bs, phs, hm, hG⟩ hti
  have hlt : i < ts.length := lt_of_getElem? hti
  have hlt' : i < bs.length := hm.1 ▸ hlt
  have hbi : bs[i]? = some bs[i] := List.getElem?_eq_getElem hlt'
  obtain ⟨b', phs', hm', hG', hl', hst'⟩ := turn_presB hG hlt' hbi t (hm.2 i t _ hti hbi)
  refine ⟨bs.set i b', phs', ⟨by simp [hm.1], ?_⟩, hG'⟩
  intro j u bj hu hbj
  rw [getElem?_set_of_lt hlt'] at hbj
  rw [getElem?_set_of_lt hlt] at hu
  by_cases hji : j = i
  · rw [if_pos hji] at hu hbj; cases hu; cases hbj; rw [hji]; exact hm'
  · rw [if_neg hji] at hu hbj
    exact TMatchB.stable hG hlt' hbi hji hbj (hm.2 j u bj hu hbj) phs' hst'

theorem BK.prog_not_done {ne0 : Nat} {D : Nat → Prop} {phs : List Ph} {k : BK} (hok : k.ok ne0 D phs) :
    (k.prog phs).isDone = false := by
  cases k with
  | ceV base items j sec =>
    obtain ⟨o1, o2, o3, o4, o5, o6⟩ := hok
    cases sec with
    | true =>
      have hj := o2 rfl
      simp [BK.prog, List.getElem?_eq_getElem hj, Prog.isDone]
    | false =>
      rcases Nat.lt_or_ge j items.length with hj | hj
      · have he : items[j]? = some items[j] := List.getElem?_eq_getElem hj
        simp [BK.prog, bceValidate_drop items j _ _ he, Prog.isDone]
      · have : items.drop j = [] := List.drop_eq_nil_of_le hj
        simp [BK.prog, this, bceValidate, bceC, Prog.isDone]
  | cnA base items => simp [BK.prog, bcnC, Prog.isDone]
  | ceL base items start j =>
    obtain ⟨_, ⟨ph, h2, h3⟩, _⟩ := hok
    simp only [BK.prog, slotProg, h2]; exact bind_isDone _ _ h3
  | cnL base items start j =>
    obtain ⟨_, ⟨ph, h2, h3⟩, _⟩ := hok
    simp only [BK.prog, slotProg, h2]; exact bind_isDone _ _ h3
  | deL base ids j del fl =>
    obtain ⟨_, ⟨ph, h2, h3⟩, _⟩ := hok
    simp only [BK.prog, slotProg, h2]; exact bind_isDone _ _ h3
  | unV base us j =>
    have hj := hok.1
    have he : us[j]? = some us[j] := List.getElem?_eq_getElem hj
    simp only [BK.prog]
    rw [bunValidate_drop us j _ _ he]
    rfl
  | unL base us j cnt =>
    obtain ⟨_, ⟨ph, h2, h3⟩, _⟩ := hok
    simp only [BK.prog, slotProg, h2]; exact bind_isDone _ _ h3

/-- every interleaving of admissible operations, batch calls included, ends in a well-formed store
    once all threads have finished -/
theorem quiescentWF_of_admB (s0 : St) (h : Inv s0) (D : Nat → Prop) (programs : List (List Op))
    (hadm : ∀ ops ∈ programs, ∀ op ∈ ops, op.admB s0.ne D) : QuiescentWF s0 programs := by
  intro sched hfin
  have hrepB : ∀ (j : Nat) (b : Option BK), (List.replicate programs.length (none : Option BK))[j]? = some b → b = none :=
    fun _ _ => eq_of_getElem?_replicate
  have hG0 : G s0.ne D (List.replicate programs.length none) (List.replicate programs.length (.fin .ok)) s0 [] := by
    refine ⟨J_init h D programs.length, by simp, ?_, ?_, ?_⟩
    · intro i k hb; cases hrepB i _ hb
    · intro i i' k k' _ hb; cases hrepB i _ hb
    · intro x ph hx hp
      rw [List.getElem?_eq_none (by simpa using hx)] at hp; cases hp
  have hm : MatchesB s0.ne D (programs.map Thread.ofOps) (List.replicate programs.length none)
      (List.replicate programs.length (.fin .ok)) := by
    refine ⟨by simp, ?_⟩
    intro i t b ht hb
    cases hrepB i _ hb
    have hil : i < programs.length := by simpa using lt_of_getElem? hb
    rw [List.getElem?_map] at ht
    cases hpi : programs[i]? with
    | none => simp [hpi] at ht
    | some ops =>
      simp [hpi] at ht; subst ht
      refine ⟨Or.inr ⟨rfl, rfl, .ok, ?_⟩, hadm ops (List.mem_of_getElem? hpi)⟩
      rw [List.getElem?_replicate]; simp [hil]
  obtain ⟨bs', phs', hm', hG'⟩ := runThreads_presB sched _ _ _ s0 [] hm hG0
  -- at quiescence no thread is inside a batch call and every phase is quiet
  have hnone : ∀ (i : Nat) (b : Option BK), bs'[i]? = some b → b = none ∧ ∃ r, phs'[i]? = some (.fin r) := by
    intro i b hb
    have hlt : i < (runThreads Op.prog (programs.map Thread.ofOps) sched s0 []).1.length := by
      rw [hm'.1]; exact lt_of_getElem? hb
    have ht := List.getElem?_eq_getElem hlt
    obtain ⟨hcur, _⟩ := hm'.2 i _ b ht hb
    have hf : ((runThreads Op.prog (programs.map Thread.ofOps) sched s0 []).1[i]).finished = true :=
      List.all_eq_true.mp hfin _ (List.getElem_mem hlt)
    rcases hcur with ⟨p, hc, hcur⟩ | ⟨_, rfl, r, hr⟩
    · unfold Thread.finished at hf
      rw [hc] at hf
      have hpd : p.isDone = true := by cases p <;> simp [Prog.isDone] at hf ⊢
      cases b with
      | none =>
        obtain ⟨ph, h1, h2⟩ := hcur
        obtain ⟨r, rfl⟩ := isDone_of_prog_done (h2 ▸ hpd)
        exact ⟨rfl, r, h1⟩
      | some k =>
        have hp : p = k.prog phs' := hcur
        have := BK.prog_not_done (hG'.ok i k hb).1
        rw [← hp, hpd] at this; cases this
    · exact ⟨rfl, r, hr⟩
  apply WF_of_J_quiet hG'.j
  intro x ph hp
  by_cases hx : x < bs'.length
  · obtain ⟨_, r, hr⟩ := hnone x _ (List.getElem?_eq_getElem hx)
    rw [hr] at hp; cases hp; exact quiet_fin _
  · rcases hG'.quiet x ph (by omega) hp with hq | ⟨i, k, hb, _⟩
    · exact hq
    · cases (hnone i _ hb).1

theorem quiescentWF_of_adm2 (s0 : St) (h : Inv s0) (D : Nat → Prop) (programs : List (List Op))
    (hadm : ∀ ops ∈ programs, ∀ op ∈ ops, op.adm2 s0.ne D) : QuiescentWF s0 programs :=
  quiescentWF_of_admB s0 h D programs (fun ops ho op hop => (hadm ops ho op hop).admB)

/-- edge ids that some thread deletes, by `delete_edge` or as an item of `batch_delete_edges` -/
def DelSet (programs : List (List Op)) (e : Nat) : Prop :=
  (∃ ops ∈ programs, Op.deleteEdge e ∈ ops) ∨
  (∃ ops ∈ programs, ∃ ids, Op.batchDeleteEdges ids ∈ ops ∧ e ∈ ids)

/-- the operations `quiescent_wf_with_batch_calls_partial` admits, as a condition on the programs:
    what `Admissible` admits, `batch_create_nodes`, `batch_create_edges` and `batch_update_nodes` with ANY items,
    `batch_delete_edges` of ids handed out before the phase; no edge both updated and deleted (by
    `delete_edge` or by a `batch_delete_edges`) -/
def AdmissibleB (s0 : St) (programs : List (List Op)) : Op → Prop
  | .createEdge .. => True
  | .createNode .. => True
  | .updateNode .. => True
  | .addLabel .. => True
  | .removeLabel .. => True
  | .batchCreateEdges _ => True
  | .batchCreateNodes _ => True
  | .batchUpdateNodes _ => True
  | .deleteEdge e => e ≤ s0.ne
  | .batchDeleteEdges ids => ∀ e ∈ ids, e ≤ s0.ne
  | .updateEdge e _ => e ≤ s0.ne ∧ ¬ DelSet programs e
  | _ => False

end Neumann.Graph
