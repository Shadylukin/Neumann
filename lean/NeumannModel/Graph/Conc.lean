import NeumannModel.Graph.Lemmas
/-
  C05 — interleavings of programs with pairwise disjoint footprints.

  A thread is a program together with a read/write footprint `F` and a write footprint `W ⊆ F`
  (sets of store keys).  `Stays F W p m`: run alone from store `m`, `p` reads only keys of `F`,
  writes only keys of `W`, and allocates no id.  If the write footprint of every thread is
  disjoint from the footprint of every other thread, every complete interleaving ends in the
  store obtained by running the programs one after the other.
-/
set_option linter.unusedSimpArgs false
set_option linter.unusedVariables false
namespace Neumann.Graph

inductive Stays (F W : Key → Prop) : Prog → KV → Prop where
  | done (r : Res) (m : KV) : Stays F W (.done r) m
  | get (k : Key) (c : Option Val → Prog) (m : KV) :
      F k → Stays F W (c (m k)) m → Stays F W (.get k c) m
  | ex (k : Key) (c : Bool → Prog) (m : KV) :
      F k → Stays F W (c (m k).isSome) m → Stays F W (.ex k c) m
  | put (k : Key) (v : Val) (c : Prog) (m : KV) :
      W k → Stays F W c (upd m k (some v)) → Stays F W (.put k v c) m
  | del (k : Key) (c : Bool → Prog) (m : KV) :
      W k → Stays F W (c (m k).isSome) (upd m k none) → Stays F W (.del k c) m
  | acq (k : Key) (c : Prog) (m : KV) : Stays F W c m → Stays F W (.acq k c) m
  | rel (k : Key) (c : Prog) (m : KV) : Stays F W c m → Stays F W (.rel k c) m

/-- final store of a program run alone (the counters play no role for `Stays` programs) -/
def finalOf (p : Prog) (m : KV) : KV := (run1 p ⟨m, 0, 0⟩).2.kv

theorem run1_kv_counters (p : Prog) {F W : Key → Prop} {m : KV} (h : Stays F W p m) (a b : Nat) :
    (run1 p ⟨m, a, b⟩).2.kv = finalOf p m ∧ (run1 p ⟨m, a, b⟩).2.nn = a ∧ (run1 p ⟨m, a, b⟩).2.ne = b := by
  induction h generalizing a b with
  | done r m => exact ⟨rfl, rfl, rfl⟩
  | get k c m _ _ ih => simpa [run1, finalOf] using ih a b
  | ex k c m _ _ ih => simpa [run1, finalOf] using ih a b
  | put k v c m _ _ ih => simpa [run1, finalOf] using ih a b
  | del k c m _ _ ih => simpa [run1, finalOf] using ih a b
  | acq k c m _ ih => simpa [run1, finalOf] using ih a b
  | rel k c m _ ih => simpa [run1, finalOf] using ih a b

/-- frame: a `Stays` program behaves the same on any store that agrees on its footprint, and leaves
    every key outside its write footprint alone -/
theorem Stays.frame {F W : Key → Prop} (hWF : ∀ k, W k → F k) {p : Prog} {m : KV} (h : Stays F W p m) :
    ∀ m', (∀ k, F k → m k = m' k) →
      Stays F W p m' ∧ (∀ k, F k → finalOf p m k = finalOf p m' k) ∧
      (∀ k, ¬ W k → finalOf p m' k = m' k) := by
  induction h with
  | done r m => intro m' _; exact ⟨.done r m', fun _ _ => by simp [finalOf, run1, *], fun _ _ => rfl⟩
  | get k c m hk _ ih =>
    intro m' hag
    have e := hag k hk
    obtain ⟨h1, h2, h3⟩ := ih m' hag
    rw [e] at h1 h2 h3
    exact ⟨.get k c m' hk h1, fun x hx => by simpa [finalOf, run1, e] using h2 x hx,
      fun x hx => by simpa [finalOf, run1] using h3 x hx⟩
  | ex k c m hk _ ih =>
    intro m' hag
    have e := hag k hk
    obtain ⟨h1, h2, h3⟩ := ih m' hag
    rw [e] at h1 h2 h3
    exact ⟨.ex k c m' hk h1, fun x hx => by simpa [finalOf, run1, e] using h2 x hx,
      fun x hx => by simpa [finalOf, run1] using h3 x hx⟩
  | put k v c m hk _ ih =>
    intro m' hag
    have hag' : ∀ x, F x → upd m k (some v) x = upd m' k (some v) x := by
      intro x hx; simp only [upd]; split
      · rfl
      · exact hag x hx
    obtain ⟨h1, h2, h3⟩ := ih _ hag'
    refine ⟨.put k v c m' hk h1, fun x hx => by simpa [finalOf, run1] using h2 x hx, ?_⟩
    intro x hx
    have := h3 x hx
    have hne : x ≠ k := by rintro rfl; exact hx hk
    simpa [finalOf, run1, upd, hne] using this
  | del k c m hk _ ih =>
    intro m' hag
    have e := hag k (hWF k hk)
    have hag' : ∀ x, F x → upd m k none x = upd m' k none x := by
      intro x hx; simp only [upd]; split
      · rfl
      · exact hag x hx
    obtain ⟨h1, h2, h3⟩ := ih _ hag'
    rw [e] at h1 h2 h3
    refine ⟨.del k c m' hk h1, fun x hx => by simpa [finalOf, run1, e] using h2 x hx, ?_⟩
    intro x hx
    have := h3 x hx
    have hne : x ≠ k := by rintro rfl; exact hx hk
    simpa [finalOf, run1, upd, hne] using this
  | acq k c m _ ih =>
    intro m' hag
    obtain ⟨h1, h2, h3⟩ := ih m' hag
    exact ⟨.acq k c m' h1, fun x hx => by simpa [finalOf, run1] using h2 x hx,
      fun x hx => by simpa [finalOf, run1] using h3 x hx⟩
  | rel k c m _ ih =>
    intro m' hag
    obtain ⟨h1, h2, h3⟩ := ih m' hag
    exact ⟨.rel k c m' h1, fun x hx => by simpa [finalOf, run1] using h2 x hx,
      fun x hx => by simpa [finalOf, run1] using h3 x hx⟩

/-- one atomic step of a `Stays` program: the rest still stays, reaches the same final store, and
    only a key of `W` may have changed -/
theorem Stays.step {F W : Key → Prop} {p : Prog} {m : KV} (h : Stays F W p m) (a b : Nat) :
    ∃ p' m', p.step ⟨m, a, b⟩ = (p', ⟨m', a, b⟩) ∧ Stays F W p' m' ∧ finalOf p' m' = finalOf p m ∧
      (∀ k, ¬ W k → m' k = m k) := by
  cases h with
  | done r m => exact ⟨_, _, rfl, .done r m, rfl, fun _ _ => rfl⟩
  | get k c m hk h' => exact ⟨_, _, rfl, h', by simp [finalOf, run1], fun _ _ => rfl⟩
  | ex k c m hk h' => exact ⟨_, _, rfl, h', by simp [finalOf, run1], fun _ _ => rfl⟩
  | put k v c m hk h' =>
    refine ⟨_, _, rfl, h', by simp [finalOf, run1], ?_⟩
    intro x hx; have : x ≠ k := by rintro rfl; exact hx hk
    simp [upd, this]
  | del k c m hk h' =>
    refine ⟨_, _, rfl, h', by simp [finalOf, run1], ?_⟩
    intro x hx; have : x ≠ k := by rintro rfl; exact hx hk
    simp [upd, this]
  | acq k c m h' => exact ⟨_, _, rfl, h', by simp [finalOf, run1], fun _ _ => rfl⟩
  | rel k c m h' => exact ⟨_, _, rfl, h', by simp [finalOf, run1], fun _ _ => rfl⟩


structure Th where
  p : Prog
  F : Key → Prop
  W : Key → Prop

/-- one atomic step of thread `i` per schedule entry: a store call, or a lock acquire / release,
    which this semantics treats as a step WITHOUT effect — `runP` ignores the list locks, so it has
    all the interleavings of the locked semantics and more (programs of `Stays` threads allocate no
    ids) -/
def runP : List Th → List Nat → St → List Th × St
  | ts, [], s => (ts, s)
  | ts, i :: sched, s =>
    match ts[i]? with
    | none => runP ts sched s
    | some t => runP (ts.set i { t with p := (t.p.step s).1 }) sched (t.p.step s).2

def Th.isDone (t : Th) : Bool := match t.p with | .done _ => true | _ => false

def serial : List Th → KV → KV
  | [], m => m
  | t :: ts, m => serial ts (finalOf t.p m)

def Disjoint (ts : List Th) : Prop :=
  ∀ (i j : Nat) (t u : Th), i ≠ j → ts[i]? = some t → ts[j]? = some u → ∀ k, t.W k → ¬ u.F k

def SubFW (ts : List Th) : Prop := ∀ (i : Nat) (t : Th), ts[i]? = some t → ∀ k, t.W k → t.F k

theorem serial_tail {t : Th} {ts : List Th} {m : KV}
    (hst : ∀ (i : Nat) (u : Th), (t :: ts)[i]? = some u → Stays u.F u.W u.p m) (hsub : SubFW (t :: ts))
    (hdisj : Disjoint (t :: ts)) :
    (∀ k, ¬ t.W k → finalOf t.p m k = m k) ∧
    (∀ (j : Nat) (u : Th), ts[j]? = some u → ∀ k, u.F k → m k = finalOf t.p m k) ∧
    (∀ (j : Nat) (u : Th), ts[j]? = some u → Stays u.F u.W u.p (finalOf t.p m)) ∧ SubFW ts ∧ Disjoint ts := by
  obtain ⟨_, _, hout⟩ := (hst 0 t rfl).frame (hsub 0 t rfl) m (fun _ _ => rfl)
  have hag : ∀ (j : Nat) (u : Th), ts[j]? = some u → ∀ k, u.F k → m k = finalOf t.p m k :=
    fun j u hu k hk => (hout k (fun hw => hdisj 0 (j + 1) t u (Nat.succ_ne_zero j).symm rfl hu k hw hk)).symm
  exact ⟨hout, hag, fun j u hu => ((hst (j + 1) u hu).frame (hsub (j + 1) u hu) _ (hag j u hu)).1,
    fun j u hu => hsub (j + 1) u hu,
    fun i j a b hij ha hb => hdisj (i + 1) (j + 1) a b (fun h => hij (Nat.succ.inj h)) ha hb⟩

theorem serial_char (ts : List Th) : ∀ (m : KV),
    (∀ (i : Nat) (t : Th), ts[i]? = some t → Stays t.F t.W t.p m) → SubFW ts → Disjoint ts →
    (∀ (i : Nat) (t : Th), ts[i]? = some t → ∀ k, t.F k → serial ts m k = finalOf t.p m k) ∧
    (∀ k, (∀ (i : Nat) (t : Th), ts[i]? = some t → ¬ t.W k) → serial ts m k = m k) := by
  induction ts with
  | nil => intro m _ _ _; exact ⟨(fun i t h => nomatch h), fun _ _ => rfl⟩
  | cons t ts ih =>
    intro m hst hsub hdisj
    obtain ⟨hout, hag, hst', hsub', hdisj'⟩ := serial_tail hst hsub hdisj
    obtain ⟨ih1, ih2⟩ := ih (finalOf t.p m) hst' hsub' hdisj'
    refine ⟨?_, ?_⟩
    · intro i u hu k hk
      show serial ts (finalOf t.p m) k = _
      cases i with
      | zero =>
        cases hu
        exact ih2 k (fun j u hu hw => hdisj (j + 1) 0 u t (Nat.succ_ne_zero j) hu rfl k hw hk)
      | succ j =>
        rw [ih1 j u hu k hk]
        exact (((hst (j + 1) u hu).frame (hsub (j + 1) u hu) _ (hag j u hu)).2.1 k hk).symm
    · intro k hk
      show serial ts (finalOf t.p m) k = _
      rw [ih2 k (fun j u hu => hk (j + 1) u hu)]
      exact hout k (hk 0 t rfl)

theorem serial_wf (ts : List Th) : ∀ (m : KV), WF m →
    (∀ (i : Nat) (t : Th), ts[i]? = some t → Stays t.F t.W t.p m) → SubFW ts → Disjoint ts →
    (∀ (i : Nat) (t : Th), ts[i]? = some t → ∀ m', WF m' → (∀ k, t.F k → m' k = m k) → WF (finalOf t.p m')) →
    WF (serial ts m) := by
  induction ts with
  | nil => intro m h _ _ _ _; exact h
  | cons t ts ih =>
    intro m hwf hst hsub hdisj hpres
    obtain ⟨_, hag, hst', hsub', hdisj'⟩ := serial_tail hst hsub hdisj
    refine ih (finalOf t.p m) (hpres 0 t rfl m hwf (fun _ _ => rfl)) hst' hsub' hdisj' ?_
    intro j u hu m' hwf' hag'
    exact hpres (j + 1) u hu m' hwf' (fun k hk => (hag' k hk).trans (hag j u hu k hk).symm)


structure Good (ts0 : List Th) (m0 : KV) (ts : List Th) (m : KV) : Prop where
  len : ts.length = ts0.length
  rel : ∀ (i : Nat) (t : Th), ts[i]? = some t → ∃ t0, ts0[i]? = some t0 ∧ t.F = t0.F ∧ t.W = t0.W ∧
    Stays t.F t.W t.p m ∧ ∀ k, t.F k → finalOf t.p m k = finalOf t0.p m0 k
  out : ∀ k, (∀ (i : Nat) (t0 : Th), ts0[i]? = some t0 → ¬ t0.W k) → m k = m0 k

theorem good_init (ts0 : List Th) (m0 : KV)
    (hst : ∀ (i : Nat) (t : Th), ts0[i]? = some t → Stays t.F t.W t.p m0) : Good ts0 m0 ts0 m0 :=
  ⟨rfl, fun i t h => ⟨t, h, rfl, rfl, hst i t h, fun _ _ => rfl⟩, fun _ _ => rfl⟩

theorem runP_good (ts0 : List Th) (m0 : KV) (hsub : SubFW ts0) (hdisj : Disjoint ts0) (sched : List Nat) :
    ∀ (ts : List Th) (s : St), Good ts0 m0 ts s.kv →
      Good ts0 m0 (runP ts sched s).1 (runP ts sched s).2.kv := by
  induction sched with
  | nil => intro ts s h; exact h
  | cons i sched ih =>
    intro ts s hg
    simp only [runP]
    cases hti : ts[i]? with
    | none => exact ih ts s hg
    | some t =>
      simp only
      apply ih
      obtain ⟨t0, ht0, eF, eW, hstay, hfin⟩ := hg.rel i t hti
      obtain ⟨p', m', hstep, hstay', hfin', hout'⟩ := hstay.step s.nn s.ne
      have hs : (⟨s.kv, s.nn, s.ne⟩ : St) = s := rfl
      rw [hs] at hstep
      rw [hstep]
      have hi : i < ts.length := by
        rcases Nat.lt_or_ge i ts.length with h | h
        · exact h
        · rw [List.getElem?_eq_none h] at hti; cases hti
      refine ⟨by simp [hg.len], ?_, ?_⟩
      · intro j u hu
        rw [List.getElem?_set] at hu
        by_cases hij : i = j
        · subst hij
          simp [hi] at hu; subst hu
          exact ⟨t0, ht0, eF, eW, hstay', fun k hk => by rw [hfin']; exact hfin k hk⟩
        · simp [hij] at hu
          obtain ⟨u0, hu0, eF', eW', hstayu, hfinu⟩ := hg.rel j u hu
          have hag : ∀ k, u.F k → s.kv k = m' k := by
            intro k hk
            have : ¬ t.W k := by
              intro hw; rw [eW] at hw; rw [eF'] at hk
              exact hdisj i j t0 u0 hij ht0 hu0 k hw hk
            exact (hout' k this).symm
          have hsubu : ∀ k, u.W k → u.F k := by
            intro k hk; rw [eW'] at hk; rw [eF']; exact hsub j u0 hu0 k hk
          obtain ⟨f1, f2, _⟩ := hstayu.frame hsubu m' hag
          exact ⟨u0, hu0, eF', eW', f1, fun k hk => by rw [← f2 k hk]; exact hfinu k hk⟩
      · intro k hk
        have : ¬ t.W k := by rw [eW]; exact hk i t0 ht0
        show m' k = m0 k
        rw [hout' k this]; exact hg.out k hk

theorem finalOf_done (t : Th) (h : t.isDone = true) (m : KV) : finalOf t.p m = m := by
  unfold Th.isDone at h
  cases hp : t.p <;> simp [hp] at h
  simp [finalOf, run1]

/-- If the write footprint of every thread is disjoint from the footprint of every other thread,
    every interleaving that lets all threads finish ends in the store of the serial run. -/
theorem disjoint_interleaving_serial (ts0 : List Th) (m0 : KV) (a b : Nat)
    (hst : ∀ (i : Nat) (t : Th), ts0[i]? = some t → Stays t.F t.W t.p m0)
    (hsub : SubFW ts0) (hdisj : Disjoint ts0) (sched : List Nat)
    (hdone : ∀ t ∈ (runP ts0 sched ⟨m0, a, b⟩).1, t.isDone = true) :
    (runP ts0 sched ⟨m0, a, b⟩).2.kv = serial ts0 m0 := by
  have hg := runP_good ts0 m0 hsub hdisj sched ts0 ⟨m0, a, b⟩ (good_init ts0 m0 hst)
  obtain ⟨c1, c2⟩ := serial_char ts0 m0 hst hsub hdisj
  funext k
  by_cases h : ∃ (i : Nat) (t0 : Th), ts0[i]? = some t0 ∧ t0.W k
  · obtain ⟨i, t0, ht0, hw⟩ := h
    have hi : i < (runP ts0 sched ⟨m0, a, b⟩).1.length := by
      rw [hg.len]
      rcases Nat.lt_or_ge i ts0.length with h | h
      · exact h
      · rw [List.getElem?_eq_none h] at ht0; cases ht0
    have hget : (runP ts0 sched ⟨m0, a, b⟩).1[i]? = some ((runP ts0 sched ⟨m0, a, b⟩).1[i]) :=
      List.getElem?_eq_getElem hi
    obtain ⟨t0', ht0', eF, eW, _, hfin⟩ := hg.rel i _ hget
    rw [ht0] at ht0'; cases ht0'
    have hk : ((runP ts0 sched ⟨m0, a, b⟩).1[i]).F k := by rw [eF]; exact hsub i t0 ht0 k hw
    have := hfin k hk
    rw [finalOf_done _ (hdone _ (List.getElem_mem hi))] at this
    rw [this, c1 i t0 ht0 k (hsub i t0 ht0 k hw)]
  · have hk : ∀ (i : Nat) (t0 : Th), ts0[i]? = some t0 → ¬ t0.W k := fun i t0 h1 h2 => h ⟨i, t0, h1, h2⟩
    rw [hg.out k hk, c2 k hk]

end Neumann.Graph
