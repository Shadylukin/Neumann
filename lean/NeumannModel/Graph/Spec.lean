import NeumannModel.Graph.Batch
import NeumannModel.Graph.Query
/-
  C05 — re-opening; the shape of the node-record writes; the read side: edges_of, pages, degree by type, scans.
-/
set_option linter.unusedSimpArgs false
set_option linter.unusedVariables false
namespace Neumann.Graph

theorem maxWhere_le (p : Nat → Bool) : ∀ n, maxWhere p n ≤ n := by
  intro n
  induction n with
  | zero => simp [maxWhere]
  | succ n ih => simp only [maxWhere]; split <;> omega

theorem le_maxWhere (p : Nat → Bool) {i : Nat} (hp : p i = true) : ∀ n, i ≤ n → i ≤ maxWhere p n := by
  intro n
  induction n with
  | zero => intro h; simp [maxWhere]; omega
  | succ n ih =>
    intro h
    simp only [maxWhere]
    split
    · exact h
    · rename_i hn
      have : i ≠ n + 1 := by rintro rfl; exact hn hp
      exact ih (by omega)

theorem inv_reopen (s : St) (h : Inv s) : Inv (reopen s) := by
  refine ⟨h.wf, ?_, ?_, h.keys⟩
  · intro n hn
    simp only [reopen] at hn ⊢
    cases hx : nodeEx s.kv n with
    | false => rfl
    | true =>
      exfalso
      by_cases hle : n ≤ s.nn
      · have := le_maxWhere (fun n => (s.kv (.node n)).isSome) (i := n) hx s.nn hle
        omega
      · have := h.freshN n (by omega); rw [hx] at this; cases this
  · intro e he
    simp only [reopen] at he ⊢
    by_cases hle : e ≤ s.ne
    · cases hx : (s.kv (.edge e)).isSome with
      | false =>
        have : s.kv (.edge e) = none := by cases hh : s.kv (.edge e) <;> simp_all
        simp [edgeAt, this]
      | true =>
        exfalso
        have := le_maxWhere (fun e => (s.kv (.edge e)).isSome) (i := e) hx s.ne hle
        omega
    · exact h.freshE e (by omega)

theorem inv_applyCmds (cs : List Cmd) : ∀ s, Inv s → Inv (applyCmds s cs) := by
  induction cs with
  | nil => intro s h; exact h
  | cons c cs ih =>
    intro s h
    apply ih
    cases c with
    | op o => exact inv_apply s o h
    | reopen => exact inv_reopen s h

theorem deleteEdgeBody_res (s : St) (e : Nat) (r : EdgeRec) (hx : (s.kv (.edge e)).isSome = true) :
    (run1 (deleteEdgeBody e r) s).1 = .ok := by
  cases hd : r.directed with
  | true =>
    simp only [deleteEdgeBody, hd, run1, run1_rmFrom, if_true, isSome_rmKV, hx]
  | false =>
    simp only [deleteEdgeBody, hd, Bool.false_eq_true, ↓reduceIte, run1, run1_rmFrom, isSome_rmKV, hx]

/-- operations that only rewrite one node record -/
def Op.nodeWrite : Op → Option Nat
  | .updateNode n _ _ | .addLabel n _ | .removeLabel n _ => some n
  | _ => none

theorem nodeWrite_shape (s : St) (op : Op) (n : Nat) (hop : op.nodeWrite = some n) :
    (apply s op).2 = s ∨
    (nodeEx s.kv n = true ∧ ∃ val, (apply s op).2 = { s with kv := upd s.kv (.node n) (some val) }) := by
  cases op with
  | updateNode n' lab v =>
    simp [Op.nodeWrite] at hop; subst hop
    simp only [apply, Op.prog, updateNodeProg, updateNodeSecond, updateNodePut, run1]
    cases hv : s.kv (.node n') with
    | none => left; simp [run1]
    | some val =>
      right
      refine ⟨by simp [nodeEx, hv], ?_⟩
      cases val <;> simp only [hv, run1] <;> exact ⟨_, rfl⟩
  | addLabel n' l =>
    simp [Op.nodeWrite] at hop; subst hop
    simp only [apply, Op.prog, addLabelProg, run1]
    cases hv : s.kv (.node n') with
    | none => left; simp [run1]
    | some val =>
      simp only
      split
      · left; simp [run1]
      · right
        refine ⟨by simp [nodeEx, hv], ?_⟩
        simp only [run1, labelPut, hv]; exact ⟨_, rfl⟩
  | removeLabel n' l =>
    simp [Op.nodeWrite] at hop; subst hop
    simp only [apply, Op.prog, removeLabelProg, run1]
    cases hv : s.kv (.node n') with
    | none => left; simp [run1]
    | some val =>
      simp only
      split
      · right
        refine ⟨by simp [nodeEx, hv], ?_⟩
        simp only [run1, labelPut, hv]; exact ⟨_, rfl⟩
      · left; simp [run1]
  | _ => simp [Op.nodeWrite] at hop

theorem mem_withRec {m : KV} {ids : List Nat} {e : Nat} {r : EdgeRec} :
    (e, r) ∈ withRec m ids ↔ e ∈ ids ∧ edgeAt m e = some r := by
  simp only [withRec, List.mem_filterMap]
  constructor
  · rintro ⟨x, hx, hm⟩
    cases hr : edgeAt m x with
    | none => simp [hr] at hm
    | some r' => simp [hr] at hm; obtain ⟨rfl, rfl⟩ := hm; exact ⟨hx, hr⟩
  · rintro ⟨he, hr⟩; exact ⟨e, he, by simp [hr]⟩

theorem withRec_fst_sublist (m : KV) (ids : List Nat) : ((withRec m ids).map Prod.fst).Sublist ids := by
  induction ids with
  | nil => simp [withRec]
  | cons x xs ih =>
    simp only [withRec, List.filterMap_cons]
    cases hr : edgeAt m x with
    | none => simp only [Option.map_none]; exact List.Sublist.cons _ ih
    | some r => simp only [Option.map_some, List.map_cons]; exact List.Sublist.cons_cons _ ih

/-- the stored record of `e`, a dummy when there is none -/
def recD (m : KV) (e : Nat) : EdgeRec := (edgeAt m e).getD ⟨0, 0, true, 0, 0⟩

theorem withRec_eq_map (m : KV) (ids : List Nat) (h : ∀ e ∈ ids, (edgeAt m e).isSome = true) :
    withRec m ids = ids.map fun e => (e, recD m e) := by
  induction ids with
  | nil => rfl
  | cons x xs ih =>
    have hx := h x (List.mem_cons_self ..)
    cases hr : edgeAt m x with
    | none => rw [hr] at hx; cases hx
    | some r =>
      simp only [withRec, List.filterMap_cons, hr, Option.map_some, List.map_cons, recD, Option.getD_some]
      congr 1
      exact ih (fun e he => h e (List.mem_cons_of_mem _ he))

theorem mem_pageOf {α : Type} {l : List α} {skip : Nat} {limit : Option Nat} {a : α}
    (h : a ∈ pageOf l skip limit) : a ∈ l := by
  unfold pageOf at h
  cases limit with
  | none => exact List.mem_of_mem_drop h
  | some k => exact List.mem_of_mem_drop (List.mem_of_mem_take h)

theorem map_pageOf {α β : Type} (f : α → β) (l : List α) (skip : Nat) (limit : Option Nat) :
    (pageOf l skip limit).map f = pageOf (l.map f) skip limit := by
  unfold pageOf
  cases limit with
  | none => simp [List.map_drop]
  | some k => simp [List.map_drop, List.map_take]

theorem mem_edgesOfIds {m : KV} {n : Nat} {dir : Dir} {e : Nat} :
    e ∈ edgesOfIds m n dir ↔
      ((dir = .outgoing ∨ dir = .both) ∧ e ∈ outL m n) ∨ ((dir = .incoming ∨ dir = .both) ∧ e ∈ inL m n) := by
  simp only [edgesOfIds, mem_sortDedup, List.mem_append]
  constructor
  · rintro (h | h)
    · split at h
      · rename_i hd; exact Or.inl ⟨hd, h⟩
      · cases h
    · split at h
      · rename_i hd; exact Or.inr ⟨hd, h⟩
      · cases h
  · rintro (⟨hd, h⟩ | ⟨hd, h⟩)
    · left; rw [if_pos hd]; exact h
    · right; rw [if_pos hd]; exact h

theorem edgesOfIds_have_records {m : KV} (h : WF m) {n : Nat} {dir : Dir} :
    ∀ e ∈ edgesOfIds m n dir, (edgeAt m e).isSome = true := by
  intro e he
  rcases mem_edgesOfIds.mp he with ⟨_, h1⟩ | ⟨_, h1⟩
  · obtain ⟨r, hr, _⟩ := h.out_sound n e h1; simp [hr]
  · obtain ⟨r, hr, _⟩ := h.in_sound n e h1; simp [hr]

def OutIncidentTy (m : KV) (n ty e : Nat) : Prop :=
  ∃ r, edgeAt m e = some r ∧ r.ty = ty ∧ (r.src = n ∨ (r.directed = false ∧ r.dst = n))
def InIncidentTy (m : KV) (n ty e : Nat) : Prop :=
  ∃ r, edgeAt m e = some r ∧ r.ty = ty ∧ (r.dst = n ∨ (r.directed = false ∧ r.src = n))

theorem countTy_eq {m : KV} {l lo : List Nat} {ty : Nat} (hl : l.Nodup) (hlo : lo.Nodup)
    (hm : ∀ e, e ∈ lo ↔ (e ∈ l ∧ ∃ r, edgeAt m e = some r ∧ r.ty = ty)) :
    countTy m l ty = lo.length := by
  unfold countTy
  apply length_eq_of_nodup_mem (List.Nodup.sublist List.filter_sublist hl) hlo
  intro e
  rw [hm, List.mem_filter]
  constructor
  · rintro ⟨h1, h2⟩
    refine ⟨h1, ?_⟩
    cases hr : edgeAt m e with
    | none => simp [hr] at h2
    | some r => simp [hr] at h2; exact ⟨r, rfl, h2⟩
  · rintro ⟨h1, r, hr, ht⟩
    exact ⟨h1, by simp [hr, ht]⟩

theorem mem_allEdges {s : St} (h : Inv s) {e : Nat} {r : EdgeRec} :
    (e, r) ∈ allEdges s ↔ edgeAt s.kv e = some r := by
  unfold allEdges
  rw [mem_withRec, List.mem_range]
  constructor
  · exact fun hh => hh.2
  · intro hr
    refine ⟨?_, hr⟩
    rcases Nat.lt_or_ge e (s.ne + 1) with hlt | hge
    · exact hlt
    · have := h.freshE e (by omega); rw [hr] at this; cases this

theorem mem_allNodeIds {s : St} (h : Inv s) {n : Nat} : n ∈ allNodeIds s ↔ nodeEx s.kv n = true := by
  unfold allNodeIds
  rw [List.mem_filter, List.mem_range]
  constructor
  · exact fun hh => hh.2
  · intro hn
    refine ⟨?_, hn⟩
    rcases Nat.lt_or_ge n (s.nn + 1) with hlt | hge
    · exact hlt
    · have := h.freshN n (by omega); rw [hn] at this; cases this

theorem range_pairwise_lt (n : Nat) : (List.range n).Pairwise (· < ·) := by
  induction n with
  | zero => simp
  | succ n ih =>
    rw [List.range_succ, List.pairwise_append]
    refine ⟨ih, by simp, ?_⟩
    intro a ha b hb
    simp at hb; subst hb; exact List.mem_range.mp ha

end Neumann.Graph
