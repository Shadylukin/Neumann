import NeumannModel.Ckpt.Lemmas
import NeumannModel.Ckpt.Shard
/-
  C08 — helper lemmas for the sharded metadata slab (core Lean only).
-/
namespace Neumann.Ckpt.Shard

variable {α β : Type} [DecidableEq α]

/-- the value of the LAST entry of `data` under `k` (a later insert replaces an earlier one) -/
def lastVal (data : List (α × β)) (k : α) : Option β :=
  match data with
  | [] => none
  | p :: r =>
    match lastVal r k with
    | some v => some v
    | none => if p.1 = k then some p.2 else none

theorem foldl_alPut_get (data : List (α × β)) (m : List (α × β)) (k : α) :
    alGet (data.foldl (fun m p => alPut m p.1 p.2) m) k =
      match lastVal data k with
      | some v => some v
      | none => alGet m k := by
  induction data generalizing m with
  | nil => simp [lastVal]
  | cons p r ih =>
    simp only [List.foldl_cons, ih, lastVal, alGet_alPut]
    cases lastVal r k with
    | some v => rfl
    | none => by_cases e : p.1 = k <;> simp [e]

theorem single_get (data : List (α × β)) (k : α) : alGet (single data) k = lastVal data k := by
  unfold single
  rw [foldl_alPut_get]
  cases lastVal data k <;> simp [alGet]

theorem foldl_alPut_nodup (data : List (α × β)) (m : List (α × β)) (h : (m.map (·.1)).Nodup) :
    ((data.foldl (fun m p => alPut m p.1 p.2) m).map (·.1)).Nodup := by
  induction data generalizing m with
  | nil => exact h
  | cons p r ih => exact ih _ (alPut_nodup m p.1 p.2 h)

theorem single_nodup (data : List (α × β)) : ((single data).map (·.1)).Nodup :=
  foldl_alPut_nodup data [] (by simp)

theorem foldl_alPut_keys (data : List (α × β)) (m : List (α × β)) (k : α) :
    k ∈ (data.foldl (fun m p => alPut m p.1 p.2) m).map (·.1) ↔ k ∈ m.map (·.1) ∨ k ∈ data.map (·.1) := by
  induction data generalizing m with
  | nil => simp
  | cons p r ih =>
    simp only [List.foldl_cons, ih, alPut_keys, List.map_cons, List.mem_cons]
    by_cases hp : p.1 ∈ m.map (·.1)
    · simp only [hp, if_true]
      constructor
      · rintro (h | h)
        · exact Or.inl h
        · exact Or.inr (Or.inr h)
      · rintro (h | h | h)
        · exact Or.inl h
        · subst h; exact Or.inl hp
        · exact Or.inr h
    · simp only [hp, if_false, List.mem_append, List.mem_singleton]
      constructor
      · rintro ((h | h) | h)
        · exact Or.inl h
        · exact Or.inr (Or.inl h)
        · exact Or.inr (Or.inr h)
      · rintro (h | h | h)
        · exact Or.inl (Or.inl h)
        · exact Or.inl (Or.inr h)
        · exact Or.inr h

theorem single_keys (data : List (α × β)) (k : α) :
    k ∈ (single data).map (·.1) ↔ k ∈ data.map (·.1) := by
  unfold single
  rw [foldl_alPut_keys]
  simp

theorem single_of_nodup (data : List (α × β)) (h : (data.map (·.1)).Nodup) : single data = data := by
  unfold single
  rw [foldl_alPut_of_nodup data [] (by simpa using h)]
  simp

structure Placed (n : Nat) (sh : α → Nat) (shs : Shards α β) : Prop where
  nodup : ∀ i, ((shs i).map (·.1)).Nodup
  home : ∀ i, ∀ p ∈ shs i, sh p.1 % n = i

omit [DecidableEq α] in
theorem Placed.empty (n : Nat) (sh : α → Nat) : Placed n sh (empty : Shards α β) :=
  ⟨by simp [Shard.empty], by simp [Shard.empty]⟩

theorem Placed.insert {n : Nat} {sh : α → Nat} {shs : Shards α β} (h : Placed n sh shs) (p : α × β) :
    Placed n sh (insert n sh shs p) := by
  constructor
  · intro i
    unfold Shard.insert
    split
    · exact alPut_nodup _ _ _ (h.nodup i)
    · exact h.nodup i
  · intro i q hq
    unfold Shard.insert at hq
    split at hq
    · rename_i hi
      rcases alPut_mem _ _ _ _ hq with hq | hq
      · exact h.home i q hq
      · rw [hq]; exact hi.symm
    · exact h.home i q hq

theorem Placed.foldl {n : Nat} {sh : α → Nat} (data : List (α × β)) {shs : Shards α β}
    (h : Placed n sh shs) : Placed n sh (data.foldl (Shard.insert n sh) shs) := by
  induction data generalizing shs with
  | nil => exact h
  | cons p r ih => exact ih (h.insert p)

theorem Placed.restore (n : Nat) (sh : α → Nat) (data : List (α × β)) :
    Placed n sh (restore n sh data) :=
  Placed.foldl data (Placed.empty n sh)

theorem get_insert (n : Nat) (sh : α → Nat) (shs : Shards α β) (p : α × β) (k : α) :
    get n sh (insert n sh shs p) k = if p.1 = k then some p.2 else get n sh shs k := by
  unfold get Shard.insert
  by_cases e : p.1 = k
  · subst e; simp [alGet_alPut]
  · by_cases hi : sh k % n = sh p.1 % n
    · simp [hi, alGet_alPut, e]
    · simp [hi, e]

theorem get_foldl (n : Nat) (sh : α → Nat) (data : List (α × β)) (shs : Shards α β) (k : α) :
    get n sh (data.foldl (Shard.insert n sh) shs) k =
      match lastVal data k with
      | some v => some v
      | none => get n sh shs k := by
  induction data generalizing shs with
  | nil => simp [lastVal]
  | cons p r ih =>
    simp only [List.foldl_cons, ih, lastVal, get_insert]
    cases lastVal r k with
    | some v => rfl
    | none => by_cases e : p.1 = k <;> simp [e]

omit [DecidableEq α] in
theorem mem_entries (n : Nat) (shs : Shards α β) (p : α × β) :
    p ∈ entries n shs ↔ ∃ i, i < n ∧ p ∈ shs i := by
  simp [entries, List.mem_flatMap, List.mem_range]

omit [DecidableEq α] in
theorem nodup_flatMap_keys (sh : α → Nat) (n : Nat) (l : List Nat) (hl : l.Nodup) (f : Shards α β)
    (h : Placed n sh f) : ((l.flatMap f).map (·.1)).Nodup := by
  induction l with
  | nil => simp
  | cons i r ih =>
    simp only [List.nodup_cons] at hl
    simp only [List.flatMap_cons, List.map_append]
    refine List.nodup_append.mpr ⟨h.nodup i, ih hl.2, ?_⟩
    intro a ha b hb e
    subst e
    obtain ⟨p, hp, rfl⟩ := List.mem_map.mp ha
    obtain ⟨q, hq, hqa⟩ := List.mem_map.mp hb
    obtain ⟨j, hj, hqj⟩ := List.mem_flatMap.mp hq
    have h1 := h.home i p hp
    have h2 := h.home j q hqj
    rw [hqa, h1] at h2
    subst h2
    exact hl.1 hj

omit [DecidableEq α] in
theorem entries_nodup {n : Nat} {sh : α → Nat} {shs : Shards α β} (h : Placed n sh shs) :
    ((entries n shs).map (·.1)).Nodup :=
  nodup_flatMap_keys sh n (List.range n) List.nodup_range shs h

theorem alGet_entries {n : Nat} {sh : α → Nat} {shs : Shards α β} (h : Placed n sh shs) (hn : 0 < n)
    (k : α) : alGet (entries n shs) k = get n sh shs k := by
  cases hg : get n sh shs k with
  | some v =>
    have hm : (k, v) ∈ shs (sh k % n) := alGet_mem _ _ _ hg
    have : (k, v) ∈ entries n shs := (mem_entries n shs _).mpr ⟨_, Nat.mod_lt _ hn, hm⟩
    exact alGet_some_of_mem _ (entries_nodup h) (k, v) this
  | none =>
    cases he : alGet (entries n shs) k with
    | none => rfl
    | some v =>
      exfalso
      obtain ⟨i, _, hi⟩ := (mem_entries n shs _).mp (alGet_mem _ _ _ he)
      have hi' := h.home i _ hi
      dsimp only at hi'
      subst hi'
      have := alGet_some_of_mem _ (h.nodup _) (k, v) hi
      unfold get at hg
      rw [hg] at this
      cases this

end Neumann.Ckpt.Shard
