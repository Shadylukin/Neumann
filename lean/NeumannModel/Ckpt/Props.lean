import NeumannModel.Ckpt.Lemmas
import NeumannModel.Ckpt.Sim
/-
  C08 — "rolling back to a checkpoint restores exactly the checkpointed database".
-/
namespace Neumann.Ckpt.Props
open Neumann.Ckpt

/-- create table, insert, checkpoint, rollback ⇒ the table cannot be read any more -/
theorem rollback_loses_tables_witness : ¬ RollbackExact := by
  intro h
  have h' := (h probes0 [.rcreate 0, .rins 0 1 2] [] 100 [] 1000 0 []
    (step (run (step (run {} [.rcreate 0, .rins 0 1 2]) (.ckpt 100 [] 1000)).1 []) (.rollback 0 [])).1
    (by decide +kernel) (by decide +kernel)).1
  revert h'
  decide +kernel

/-- the table witness on the concrete run: scan answered rows at the checkpoint, a storage error after -/
example :
    let d0 := run {} [.rcreate 0, .rins 0 1 2]
    let d3 := run d0 [.ckpt 100 [] 1000, .rollback 0 []]
    qScan d0 0 = .ok [(1, 1, 2)] ∧ qScan d3 0 = .error .storage ∧ tables d3 = [0] := by decide +kernel

/-- graph: create a node, checkpoint, delete it, roll back ⇒ `all_nodes` shows it again but the
    engine's in-memory label index (not reset by the rollback) no longer finds it -/
theorem rollback_stale_label_index_witness :
    let d0 := run {} [.gnode 1]
    let d3 := run d0 [.ckpt 100 [] 1000, .gdeln 1, .rollback 0 []]
    qNodes d3 = qNodes d0 ∧ qByLabel d0 1 = [1] ∧ qByLabel d3 1 = [] := by decide +kernel

/-- vector: the HNSW cache built after the checkpoint survives the rollback and answers with a key
    that no longer exists -/
theorem rollback_stale_hnsw_witness :
    let d0 := run {} [.vput 0 [1, 0, 0]]
    let d3 := run d0 [.ckpt 100 [] 1000, .vput 1 [0, 1, 0], .vbuild, .rollback 0 []]
    qEmbs d3 = qEmbs d0 ∧ qSearch d0 [1, 1, 1] = [0] ∧ qSearch d3 [1, 1, 1] = [0, 1] := by decide +kernel

/-- the checkpoint records live in the store that is wiped: rolling back to c0 removes c0 itself and
    the newer c1, so neither can be rolled back to afterwards (no repeated cycles) -/
theorem rollback_wipes_checkpoint_records_witness :
    let d := run {} [.kput 0 0 1 none, .ckpt 100 [] 1000, .kput 0 0 2 none, .ckpt 101 [] 1001]
    let d' := (step d (.rollback 0 [])).1
    qCkpts d = [0, 1] ∧ (step d (.rollback 0 [])).2 = .ok ∧ qCkpts d' = [] ∧
      (step d' (.rollback 0 [])).2 = .err .notFound ∧ (step d' (.rollback 1 [])).2 = .err .notFound := by
  decide +kernel

/-- after the rollback a listed table rejects inserts (schema key restored, slab table gone) -/
theorem writes_fail_after_rollback_witness :
    let d3 := run {} [.rcreate 0, .rins 0 1 2, .ckpt 100 [] 1000, .rollback 0 []]
    tables d3 = [0] ∧ (step d3 (.rins 0 5 5)).2 = .err .storage := by decide +kernel

/-- What holds, for EVERY statement sequence before the checkpoint (unrestricted: it may contain
    checkpoints, rollbacks, retention, and raw `emb:` keys with `_embedding` fields, i.e. the
    embedding slab / entity index path) and EVERY sequence after it: if the rollback is accepted,
    the key-addressed slabs are exactly the checkpointed ones, so everything read through
    `scan`/`get` — graph nodes / edges / neighbours, embeddings, plain / cache / emb keys (with their
    `_embedding` vectors), table names — is exactly as at the checkpoint.
    The proof carries the store invariant `WF` (Lemmas.lean) through every statement; its clause
    `slabOk` is the embedding-slab invariant (a slab vector of an `emb:` key's entity is the vector
    its metadata value carries).
    Still missing w.r.t. `RollbackExact` (each is FALSE of the code, see the witnesses above): the
    relational slab (`rel = []`: all rows gone, so table scans / index-path queries differ), the
    engine-side label index and HNSW cache, and the checkpoint records themselves (`cps` is the
    checkpointed list, so the checkpoint rolled back to and every later one are unlisted). -/
theorem rollback_exact_partial (pre post : List Op) (ts : Nat) (ord : List Nat) (nm x : Nat)
    (o : List Nat) (d3 : Db) :
    let d0 := run {} pre
    let d2 := run (step d0 (.ckpt ts ord nm)).1 post
    resolve d2 o x = some d0.nextCk → step d2 (.rollback x o) = (d3, .ok) →
      d3.st.md = d0.st.md ∧ d3.st.cache = d0.st.cache ∧ d3.st.rel = [] ∧ kvObs d3 = kvObs d0 ∧
        d3.st.cps = d0.st.cps ∧ WF d3.st := by
  intro d0 d2 hr hstep
  have hinv : DbInv d0 := DbInv.init.run pre
  have h := rollback_core d0 d2 hinv.wf x o d3
    (fun c hl => load_after d0 hinv ts ord nm post o x c hr hl) hstep
  exact ⟨h.1, h.2.1, h.2.2.1, h.2.2.2.1, h.2.2.2.2.1, h.2.2.2.2.2.1⟩

/-- non-vacuity: for a mixed sequence (tables, graph, vectors, raw keys with and without
    `_embedding`, an `_embedding` overwritten without one, an earlier checkpoint/rollback cycle)
    the rollback is accepted and the image is non-trivial, slab vectors included -/
example :
    let pre : List Op := [.rcreate 0, .rins 0 1 2, .gnode 1, .gnode 2, .gedge 1 2, .vput 0 [1, 2, 3],
      .kput 0 1 5 none, .kput 1 1 6 none, .kput 2 5 7 (some 3), .kput 2 6 8 (some 4), .ckpt 50 [] 1000,
      .gdeln 2, .kput 2 6 9 none, .kput 2 7 1 (some 2), .rollback 0 [], .gnode 0, .kput 2 8 2 (some (-1))]
    let post : List Op := [.gdeln 1, .vdel 0, .kput 2 5 1 (some 9), .kdel 2 6, .ckpt 70 [] 1002, .rdrop 0]
    let d0 := run {} pre
    let d2 := run (step d0 (.ckpt 60 [] 1005)).1 post
    resolve d2 [] d0.nextCk = some d0.nextCk ∧ resolve d2 [] 1005 = some d0.nextCk ∧
    (step d2 (.rollback d0.nextCk [])).2 = .ok ∧ (step d2 (.rollback 1005 [])).2 = .ok ∧
    (kvObs d0).nodes = [(1, 1), (2, 2), (3, 0)] ∧ (kvObs d0).embs = [(0, [1, 2, 3])] ∧
    (kvObs d0).raw = [(.emb 0, .vec [1, 2, 3]), (.plain 1, .raw (some 5) none), (.emb 5, .raw (some 7) (some 3)),
      (.emb 6, .raw (some 8) (some 4)), (.emb 8, .raw (some 2) (some (-1))),
      (.cache 1, .raw (some 6) none)] ∧
    d0.st.eslab = [(1, 3), (2, 4), (3, -1)] := by decide +kernel

/-- `usable_after_rollback`, the part that holds — "the database remains fully usable for further
    writes, and further checkpoint / rollback cycles behave": when the checkpointed database held no
    table rows, then for EVERY further statement sequence `more` (data statements of all three
    engines, raw keys, further checkpoints, rollbacks, deletes, retention) the database after the
    rollback ANSWERS every statement exactly like `dref`, the database whose store is literally the
    checkpointed store `d0.st` (with the engine-side state and the blob archive as they are at
    rollback time), and after `more` every observation (table scans and index-path queries, graph,
    embeddings, searches, raw keys, the checkpoint listing) is the same.  The restored store differs
    from the checkpointed one only in entity ids / slab slots; the proof is a simulation
    (`Sim.lean`: `StoreSim` — equal metadata slab, cache, relational slab, checkpoint records, both
    satisfying the store invariant — is preserved by every statement with equal answers), i.e.
    entity ids are unobservable, now a theorem instead of an assumption.
    Still missing w.r.t. the full statement (each is FALSE of the code, see the witnesses above):
    databases with tables (`writes_fail_after_rollback_witness`), and the engine-side state being
    the checkpoint-time one (`dref` keeps the rollback-time label index / HNSW cache / id counters). -/
theorem usable_after_rollback_partial (pre post more : List Op) (ts : Nat) (ord : List Nat) (nm x : Nat)
    (o : List Nat) (d3 : Db) (p : Probes) :
    let d0 := run {} pre
    let d2 := run (step d0 (.ckpt ts ord nm)).1 post
    let dref : Db := { d2 with st := d0.st }
    resolve d2 o x = some d0.nextCk → step d2 (.rollback x o) = (d3, .ok) → d0.st.rel = [] →
      runRes d3 more = runRes dref more ∧ obs p (run d3 more) = obs p (run dref more) ∧
      qCkpts (run d3 more) = qCkpts (run dref more) ∧ WF d3.st := by
  intro d0 d2 dref hr hstep hrel
  have hinv0 : DbInv d0 := DbInv.init.run pre
  have hinv2 : DbInv d2 := (hinv0.step _).run post
  have h := rollback_core d0 d2 hinv0.wf x o d3
    (fun c hl => load_after d0 hinv0 ts ord nm post o x c hr hl) hstep
  have hsim : DbSim d3 dref := by
    rw [h.2.2.2.2.2.2]
    exact ⟨restore_sim hinv0.wf hrel d2.st, rfl, ArchSim.refl _ hinv2.arch, rfl, rfl⟩
  have h1 := sim_run d3 dref hsim more
  have h2 := sim_obs _ _ h1.2 p
  exact ⟨h1.1, h2.1, h2.2, h.2.2.2.2.2.1⟩

example :
    let pre : List Op := [.kput 2 9 1 (some 1), .gnode 1, .vput 0 [1, 2, 3], .kput 1 1 6 none, .kdel 2 9,
      .kput 2 4 1 (some 2)]
    let d0 := run {} pre
    let d2 := run (step d0 (.ckpt 60 [] 1005)).1 [.gdeln 1]
    let d3 := (step d2 (.rollback d0.nextCk [])).1
    let more : List Op := [.gnode 2, .kput 2 4 9 (some 1), .kput 2 5 1 (some 5), .ckpt 70 [] 1006, .vdel 0,
      .rollback 1006 [], .gedge 1 2]
    d0.st.rel = [] ∧ resolve d2 [] d0.nextCk = some d0.nextCk ∧
    (step d2 (.rollback d0.nextCk [])).2 = .ok ∧
    -- the restored store is NOT the checkpointed one (entity ids differ), yet answers alike
    d3.st ≠ d0.st ∧ d3.st.enext ≠ d0.st.enext ∧
    runRes d3 more = [.id 2, .ok, .ok, .id 1, .ok, .ok, .id 1] := by decide +kernel

/-- retention, for EVERY listing `L` (any order among equal timestamps) and EVERY count: what
    `enforce` keeps (`take max` of the stable newest-first sort) has `min max |L|` elements, together
    with what it deletes it is exactly `L`, and nothing deleted is newer than anything kept -/
theorem retention_keeps_newest (max : Nat) (L : List (Nat × Nat)) :
    ((sortDesc L).take max).length = min max L.length ∧
    ((sortDesc L).take max ++ (sortDesc L).drop max).Perm L ∧
    ∀ k ∈ (sortDesc L).take max, ∀ x ∈ (sortDesc L).drop max, x.2 ≤ k.2 := by
  refine ⟨?_, ?_, ?_⟩
  · rw [List.length_take, (sortDesc_perm L).length_eq]
  · rw [List.take_append_drop]; exact sortDesc_perm L
  · exact (sortDesc_sorted L).take_drop max

/-- retention as the CHECKPOINT statement applies it: after ANY statement sequence, for every
    timestamp, listing order, name and configured count, the checkpoints listed after a `CHECKPOINT`
    are `min max (listed before + 1)` of the ones listed before plus the new one, and none of those
    dropped has a later timestamp than any of those kept (with equal timestamps the listing order
    decides — `retention_tie_drops_newest_witness`) -/
theorem checkpoint_retention_keeps_newest (ops : List Op) (ts : Nat) (ord : List Nat) (nm : Nat) :
    let d := run {} ops
    let L := d.st.cps ++ [(d.nextCk, ts)]
    let d' := (step d (.ckpt ts ord nm)).1
    d'.st.cps.length = min d.maxCk L.length ∧ (∀ p ∈ d'.st.cps, p ∈ L) ∧
      ∀ q ∈ L, q ∉ d'.st.cps → ∀ k ∈ d'.st.cps, q.2 ≤ k.2 :=
  (DbInv.init.run ops).doCkpt_cps ts ord nm

example :
    let ops : List Op := [.setmax 2, .ckpt 5 [] 1000, .ckpt 7 [] 1001, .kput 0 0 1 none]
    let d' := (step (run {} ops) (.ckpt 6 [] 1002)).1
    (run {} ops).st.cps = [(0, 5), (1, 7)] ∧ d'.st.cps = [(1, 7), (2, 6)] := by decide +kernel

/-- with tied timestamps the listing order decides: a by_tag order listing the older c0 first makes
    retention delete the checkpoint that was just created -/
theorem retention_tie_drops_newest_witness :
    enforce 1 [0, 1] [(0, 5), (1, 5)] = [(0, 5)] ∧ enforce 1 [1, 0] [(0, 5), (1, 5)] = [(1, 5)] := by
  decide +kernel

example : retainIds 2 [] [(0, 5), (1, 7), (2, 6), (3, 7)] = [1, 3] := by decide +kernel

/-- every checkpoint id that is listed after ANY statement sequence (unrestricted: retention at any
    count and any tie order, rollbacks, manual deletes, duplicate names, names that are the id
    string of another checkpoint, `_embedding` writes, …) has its blob in the archive, and
    `ROLLBACK TO <that id>` is accepted whatever the listing order and loads THAT VERY checkpoint.
    (Before /repo fff752bd this needed the proviso "no listed checkpoint is named with the id
    string": `rollback_id_shadowed_by_name_witness`.) -/
theorem retained_are_restorable (ops : List Op) (i : Nat) (o : List Nat) :
    alHas (run {} ops).st.cps i = true →
    ∃ c, blobOf (run {} ops) i = some c ∧ c.id = i ∧ loadCk (run {} ops) o i = some c ∧
      (step (run {} ops) (.rollback i o)).2 = .ok := by
  intro hl
  have hinv : DbInv (run {} ops) := DbInv.init.run ops
  obtain ⟨c, hc, hci⟩ := hinv.blobOf_some i (hinv.cpsLt i hl)
  have hload : loadCk (run {} ops) o i = some c := by
    simp only [loadCk, hinv.resolve_id o i hl, hc]
  exact ⟨c, hc, hci, hload, by simp only [step, doRollback, hload]⟩

/-- non-vacuity: retention at max 2 over four checkpoints (with a tie), an `_embedding` write and a
    rollback in between, the newest checkpoint NAMED with the id string of the other listed one:
    the two listed ids satisfy the hypothesis and each loads itself -/
example :
    let ops : List Op := [.setmax 2, .kput 2 1 1 (some 4), .ckpt 5 [] 1000, .ckpt 7 [] 1001, .gnode 0, .ckpt 7 [1] 1002,
      .rollback 2 [], .ckpt 9 [] 1]
    qCkpts (run {} ops) = [1, 3] ∧ alHas (run {} ops).st.cps 3 = true ∧
      nameOf (run {} ops) 1 = some 1001 ∧ nameOf (run {} ops) 3 = some 1 ∧
      (loadCk (run {} ops) [] 1).map (·.id) = some 1 ∧ (loadCk (run {} ops) [] 3).map (·.id) = some 3 := by
  decide +kernel

/-- the statement the repair fff752bd makes true, for EVERY reachable database, EVERY listed id and
    EVERY listing order: a listed checkpoint's id resolves to that checkpoint — no choice of names
    can make a retained checkpoint unreachable -/
theorem listed_id_resolves_to_itself (ops : List Op) (i : Nat) (o : List Nat) :
    alHas (run {} ops).st.cps i = true → resolve (run {} ops) o i = some i :=
  fun hl => (DbInv.init.run ops).resolve_id o i hl

example :
    let d := run {} [.kput 0 0 1 none, .ckpt 5 [] 1000, .kput 0 0 2 none, .ckpt 6 [] 0, .ckpt 6 [] 0]
    alHas d.st.cps 0 = true ∧ nameOf d 1 = some 0 ∧ nameOf d 2 = some 0 ∧
      resolve d [] 0 = some 0 ∧ resolve d [2, 1] 0 = some 0 := by decide +kernel

/-- `ROLLBACK TO x` (and, since 14af22de, `CheckpointManager::delete(x)`:
    `ckdel_removes_exactly_the_target`) — which checkpoint is acted on, after ANY
    statement sequence, for EVERY target string and EVERY listing order: the checkpoint loaded is
    listed; if `x` is the id of a listed checkpoint it is THAT checkpoint; otherwise its name is `x`
    and no listed checkpoint named `x` has a later timestamp -/
theorem rollback_target_is_newest_match (ops : List Op) (x : Nat) (o : List Nat) (c : Ckpt) :
    loadCk (run {} ops) o x = some c →
      alHas (run {} ops).st.cps c.id = true ∧
      (alHas (run {} ops).st.cps x = true → c.id = x) ∧
      (alHas (run {} ops).st.cps x = false → c.name = x ∧
        ∀ j c', alHas (run {} ops).st.cps j = true → blobOf (run {} ops) j = some c' →
          c'.name = x → c'.ts ≤ c.ts) := by
  intro hl
  have hr := (loadCk_mem _ o x c hl).2
  have hb : blobOf (run {} ops) c.id = some c := by
    unfold loadCk at hl; rw [hr] at hl; exact hl
  obtain ⟨hlive, hid, hnm⟩ := (DbInv.init.run ops).resolve_spec o x c.id hr
  refine ⟨hlive, hid, fun hx => ⟨?_, fun j c' hj hb' hn => (hnm hx).2 j c c' hb hj hb' hn⟩⟩
  exact Option.some.inj ((nameOf_eq hb).symm.trans (hnm hx).1)

/-- non-vacuity and the consequence for duplicate names: two listed checkpoints named alike —
    the name reaches the newer one only; the older one is still reachable through its id -/
theorem rollback_name_picks_newest_witness :
    let d := run {} [.kput 0 0 1 none, .ckpt 5 [] 1007, .kput 0 0 2 none, .ckpt 6 [] 1007, .kput 0 0 3 none]
    (loadCk d [] 1007).map (·.id) = some 1 ∧ (loadCk d [0, 1] 1007).map (·.id) = some 1 ∧
    (loadCk d [] 0).map (·.id) = some 0 ∧
    qRaw (step d (.rollback 1007 [])).1 = [(.plain 0, .raw (some 2) none)] ∧
    qRaw (step d (.rollback 0 [])).1 = [(.plain 0, .raw (some 1) none)] := by decide +kernel

/-- what was wrong before /repo fff752bd (`resolveOld` / `loadCkOld` / `doRollbackOld`: ONE pass,
    the first listing entry whose id OR name is the target): a checkpoint whose NAME is the id
    string of an older listed checkpoint shadowed it — `ROLLBACK TO <id of c0>` was accepted and
    restored the OTHER checkpoint, so c0, although retained and listed, could not be rolled back
    to.  With the present two-pass resolution the same statements load and restore c0. -/
theorem rollback_id_shadowed_by_name_witness :
    let d := run {} [.kput 0 0 1 none, .ckpt 5 [] 1000, .kput 0 0 2 none, .ckpt 6 [] 0, .kput 0 0 3 none]
    qCkpts d = [0, 1] ∧
    -- before the repair
    resolveOld d [] 0 = some 1 ∧ (loadCkOld d [] 0).map (·.id) = some 1 ∧ (doRollbackOld d 0 []).2 = .ok ∧
    qRaw (doRollbackOld d 0 []).1 = [(.plain 0, .raw (some 2) none)] ∧
    -- the code as it is
    resolve d [] 0 = some 0 ∧ (loadCk d [] 0).map (·.id) = some 0 ∧ (step d (.rollback 0 [])).2 = .ok ∧
    qRaw (step d (.rollback 0 [])).1 = [(.plain 0, .raw (some 1) none)] := by decide +kernel

/-- the repair is narrow: for EVERY database, order and target the old and the present resolution
    agree unless the target string is both the id of a listed checkpoint and the name of a listed
    checkpoint -/
theorem resolution_changed_only_when_shadowed (ops : List Op) (x : Nat) (o : List Nat) :
    (alHas (run {} ops).st.cps x = false ∨
      ∀ j, alHas (run {} ops).st.cps j = true → nameOf (run {} ops) j ≠ some x) →
    resolveOld (run {} ops) o x = resolve (run {} ops) o x := by
  intro h
  apply resolveOld_eq
  rcases h with h | h
  · left
    intro b hb e
    have hm := ckList_mem o _ b hb
    have : alHas (run {} ops).st.cps x = true := by
      rw [← e]; exact alHas_of_mem hm
    rw [h] at this; cases this
  · right
    intro b hb
    exact h b.1 (alHas_of_mem (ckList_mem o _ b hb))

example :
    let d := run {} [.ckpt 5 [] 1007, .ckpt 6 [] 1007, .ckpt 7 [] 1001]
    alHas d.st.cps 1007 = false ∧ resolveOld d [] 1007 = some 1 ∧ resolve d [] 1007 = some 1 ∧
      resolveOld d [] 2 = some 2 := by decide +kernel

/-- rollback by id, exact part: `ROLLBACK TO <id>` of the checkpoint taken at `d0` restores it
    whenever it is still listed — for every `pre`, `post`, order, and whatever the names of the
    other checkpoints (the proviso "no listed checkpoint is named with that id string" is gone with
    fff752bd).  `_partial` only for what `rollback_exact_partial` lacks. -/
theorem rollback_by_id_exact_partial (pre post : List Op) (ts : Nat) (ord : List Nat) (nm : Nat)
    (o : List Nat) (d3 : Db) :
    let d0 := run {} pre
    let d2 := run (step d0 (.ckpt ts ord nm)).1 post
    alHas d2.st.cps d0.nextCk = true →
    step d2 (.rollback d0.nextCk o) = (d3, .ok) →
      d3.st.md = d0.st.md ∧ d3.st.cache = d0.st.cache ∧ d3.st.rel = [] ∧ kvObs d3 = kvObs d0 ∧
        d3.st.cps = d0.st.cps ∧ WF d3.st := by
  intro d0 d2 hl hstep
  have hinv0 : DbInv d0 := DbInv.init.run pre
  have hinv2 : DbInv d2 := (hinv0.step _).run post
  exact rollback_exact_partial pre post ts ord nm d0.nextCk o d3 (hinv2.resolve_id o _ hl) hstep

/-- non-vacuity: the checkpoint is shadowed by TWO newer ones named with its id string and still
    restored by its id; once it is unlisted the same target reaches a checkpoint of that NAME -/
example :
    let pre : List Op := [.kput 0 0 1 none]
    let post : List Op := [.kput 0 0 2 none, .ckpt 6 [] 0, .kput 0 0 3 none, .ckpt 7 [] 0]
    let d0 := run {} pre
    let d2 := run (step d0 (.ckpt 5 [] 1000)).1 post
    d0.nextCk = 0 ∧ alHas d2.st.cps 0 = true ∧ (step d2 (.rollback 0 [])).2 = .ok ∧
    qRaw (step d2 (.rollback 0 [])).1 = [(.plain 0, .raw (some 1) none)] ∧
    (loadCk (step d2 (.ckdel 1000 [])).1 [] 0).map (·.id) = some 2 := by decide +kernel

/-- rollback by name, exact part: `ROLLBACK TO <name>` restores the checkpoint taken at `d0` under
    that name whenever it is still listed, no OTHER listed checkpoint has that string as its id
    (an id match wins over every name match), and every other listed checkpoint of that name is
    strictly older — whatever the listing order -/
theorem rollback_by_name_exact_partial (pre post : List Op) (ts : Nat) (ord : List Nat) (nm : Nat)
    (o : List Nat) (d3 : Db) :
    let d0 := run {} pre
    let d2 := run (step d0 (.ckpt ts ord nm)).1 post
    alHas d2.st.cps d0.nextCk = true →
    (∀ j c', alHas d2.st.cps j = true → blobOf d2 j = some c' → j ≠ d0.nextCk →
      j ≠ nm ∧ (c'.name = nm → c'.ts < ts)) →
    step d2 (.rollback nm o) = (d3, .ok) →
      d3.st.md = d0.st.md ∧ d3.st.cache = d0.st.cache ∧ d3.st.rel = [] ∧ kvObs d3 = kvObs d0 ∧
        d3.st.cps = d0.st.cps ∧ WF d3.st := by
  intro d0 d2 hlive hnew hstep
  have hinv0 : DbInv d0 := DbInv.init.run pre
  have hinv2 : DbInv d2 := (hinv0.step _).run post
  have hb := blob_after d0 hinv0 ts ord nm post
  have hmem := hinv2.live_mem d0.nextCk hlive _ hb
  have hr : resolve d2 o nm = some d0.nextCk := by
    apply resolve_eq_of_newest d2 o nm d0.nextCk ts hinv2.cpsNodup hmem
    · exact Or.inr (nameOf_eq hb)
    · intro b hbm hbx
      have hbl : alHas d2.st.cps b.1 = true := alHas_of_mem hbm
      obtain ⟨c', hc', _⟩ := hinv2.blobOf_some b.1 (hinv2.cpsLt b.1 hbl)
      exact Decidable.byContradiction fun hne => absurd hbx (hnew b.1 c' hbl hc' hne).1
    · intro b hbm hname hne
      have hbl : alHas d2.st.cps b.1 = true := alHas_of_mem hbm
      obtain ⟨c', hc', hci⟩ := hinv2.blobOf_some b.1 (hinv2.cpsLt b.1 hbl)
      have hts := hinv2.cpsTs b hbm c' (blobOf_mem d2 b.1 c' hc').1 hci
      have hcn : c'.name = nm := Option.some.inj ((nameOf_eq hc').symm.trans hname)
      have := (hnew b.1 c' hbl hc' hne).2 hcn
      omega
  exact rollback_exact_partial pre post ts ord nm nm o d3 hr hstep

example :
    let pre : List Op := [.kput 0 0 1 none, .ckpt 5 [] 1007, .gnode 1]
    let post : List Op := [.gdeln 1, .ckpt 9 [] 1001]
    let d0 := run {} pre
    let d2 := run (step d0 (.ckpt 8 [] 1007)).1 post
    d0.nextCk = 1 ∧ alHas d2.st.cps 1 = true ∧ (step d2 (.rollback 1007 [])).2 = .ok ∧
    (step d2 (.rollback 1 [])).2 = .ok ∧ qCkpts d2 = [0, 1, 2] := by decide +kernel

/-- known finding tensor_store.restore_from_bytes/dense_embedding_perturbed, its mechanism: the
    snapshot carries the embedding-slab copy of a vector through the per-vector codec
    (`Store.snapshotWith cz`) while the metadata slab of the very same image keeps the `_embedding`
    field exactly; `restore` re-puts what `get` answers on the image, and `get` prefers the slab
    copy.  With a codec that does not return the vector exactly (here: rounding down to a multiple
    of 4, standing for tensor-train compression of a dense non-constant 384-dim vector) the value
    written before the checkpoint (`_embedding` 7) comes back as the codec's (4), although the image
    holds the exact one. -/
theorem dense_embedding_perturbed_witness :
    let s := Store.empty.put (.emb 5) (.raw (some 1) (some 7))
    let img := s.snapshotWith fun e => e - e % 4
    s.get (.emb 5) = some (.raw (some 1) (some 7)) ∧
    alGet img.md (.emb 5) = some (.raw (some 1) (some 7)) ∧
    (Store.restoreFrom img (s.del (.emb 5))).get (.emb 5) = some (.raw (some 1) (some 4)) ∧
    (Store.restoreFrom s.snapshot (s.del (.emb 5))).get (.emb 5) = some (.raw (some 1) (some 7)) := by
  decide +kernel

/-- … and the exact scope of the model's `snapshot` (= the identity codec): for EVERY store and
    EVERY codec that returns each vector stored in the embedding slab exactly, the image is the one
    the model uses, so every theorem above speaks about it.  The model's vectors (integers,
    constant `_embedding`s) are such vectors for the real codec (checked by the correspondence
    run); dense non-constant ones of dimension ≥ 256 are not (the directed harness case). -/
theorem snapshot_codec_exact_on_stored_vectors (cz : Int → Int) (s : Store) :
    (∀ p ∈ s.eslab, cz p.2 = p.2) → s.snapshotWith cz = s.snapshot := by
  intro h
  unfold Store.snapshotWith Store.snapshot
  have : s.eslab.map (fun p => (p.1, cz p.2)) = s.eslab := by
    have hm : ∀ l : List (Nat × Int), (∀ p ∈ l, cz p.2 = p.2) → l.map (fun p => (p.1, cz p.2)) = l := by
      intro l
      induction l with
      | nil => intro _; rfl
      | cons y ys ih =>
        intro hl
        rw [List.map_cons, hl y List.mem_cons_self, ih fun p hp => hl p (List.mem_cons_of_mem _ hp)]
    exact hm _ h
  rw [this]

example :
    let s := (Store.empty.put (.emb 5) (.raw (some 1) (some 8))).put (.emb 6) (.raw none (some (-4)))
    s.eslab = [(0, 8), (1, -4)] ∧ ∀ p ∈ s.eslab, (fun e : Int => e - e % 4) p.2 = p.2 := by decide +kernel

/-- a `ROLLBACK TO x` that is not accepted (nothing listed under that id or name) changes nothing:
    for every database and target the whole state — store, engines, archive — is as before -/
theorem rollback_rejected_changes_nothing (ops : List Op) (x : Nat) (o : List Nat) :
    (step (run {} ops) (.rollback x o)).2 ≠ .ok → (step (run {} ops) (.rollback x o)).1 = run {} ops := by
  intro h
  simp only [step, doRollback] at h ⊢
  cases hl : loadCk (run {} ops) o x with
  | none => rfl
  | some c => rw [hl] at h; exact absurd rfl h

example :
    let ops : List Op := [.kput 0 0 1 none, .ckpt 5 [] 1000, .ckdel 0 []]
    (step (run {} ops) (.rollback 0 [])).2 = .err .notFound ∧
    (step (run {} ops) (.rollback 1000 [])).2 = .err .notFound := by decide +kernel

/-- `CheckpointManager::delete(x)` (target resolved like `rollback`, /repo 14af22de): when accepted
    it unlists exactly ONE checkpoint — if `x` is the id of a listed checkpoint, THAT checkpoint;
    otherwise a listed one named `x`, at least as new as every listed one named `x`; the database
    content, every other listed checkpoint and the archive are untouched — so by
    `retained_are_restorable` (whose statement sequences include deletes) every checkpoint still
    listed can still be rolled back to.  For EVERY statement sequence, target and listing order. -/
theorem ckdel_removes_exactly_the_target (ops : List Op) (x : Nat) (o : List Nat) (d' : Db) :
    step (run {} ops) (.ckdel x o) = (d', .ok) →
      ∃ i, resolve (run {} ops) o x = some i ∧ alHas (run {} ops).st.cps i = true ∧
        (alHas (run {} ops).st.cps x = true → i = x) ∧
        (alHas (run {} ops).st.cps x = false → nameOf (run {} ops) i = some x ∧
          ∀ j c c', blobOf (run {} ops) i = some c → alHas (run {} ops).st.cps j = true →
            blobOf (run {} ops) j = some c' → c'.name = x → c'.ts ≤ c.ts) ∧
        alHas d'.st.cps i = false ∧
        (∀ j, j ≠ i → alHas d'.st.cps j = alHas (run {} ops).st.cps j) ∧
        d'.st.md = (run {} ops).st.md ∧ d'.st.cache = (run {} ops).st.cache ∧
        d'.st.rel = (run {} ops).st.rel ∧ d'.eng = (run {} ops).eng ∧ d'.arch = (run {} ops).arch := by
  intro hstep
  simp only [step, doCkDel] at hstep
  cases hr : resolve (run {} ops) o x with
  | none => rw [hr] at hstep; exact absurd (congrArg Prod.snd hstep) (by simp)
  | some i =>
    rw [hr] at hstep
    cases hstep
    obtain ⟨hlive, hid, hnm⟩ := (DbInv.init.run ops).resolve_spec o x i hr
    exact ⟨i, rfl, hlive, hid, hnm, alHas_alDel_self _ i, fun j hj => alHas_alDel_ne _ (Ne.symm hj),
      rfl, rfl, rfl, rfl, rfl⟩

example :
    let ops : List Op := [.ckpt 5 [] 1007, .gnode 1, .ckpt 6 [] 1007, .ckpt 7 [] 1001]
    (step (run {} ops) (.ckdel 1007 [])).2 = .ok ∧ qCkpts (step (run {} ops) (.ckdel 1007 [])).1 = [0, 2] ∧
    (step (run {} ops) (.ckdel 1 [])).2 = .ok ∧ (step (run {} ops) (.ckdel 9 [])).2 = .err .notFound := by
  decide +kernel

/-- the statement the repair 14af22de makes true, for EVERY reachable database, EVERY listed id and
    EVERY listing order: `CheckpointManager::delete(<id of a listed checkpoint>)` is accepted and
    unlists THAT checkpoint and no other — whatever the other checkpoints are named (names equal
    to that id string included); the data, the engines and the archive are untouched -/
theorem ckdel_by_listed_id_removes_that_checkpoint (ops : List Op) (i : Nat) (o : List Nat) :
    alHas (run {} ops).st.cps i = true →
      (step (run {} ops) (.ckdel i o)).2 = .ok ∧
      alHas (step (run {} ops) (.ckdel i o)).1.st.cps i = false ∧
      (∀ j, j ≠ i →
        alHas (step (run {} ops) (.ckdel i o)).1.st.cps j = alHas (run {} ops).st.cps j) ∧
      (step (run {} ops) (.ckdel i o)).1.st.md = (run {} ops).st.md ∧
      (step (run {} ops) (.ckdel i o)).1.st.cache = (run {} ops).st.cache ∧
      (step (run {} ops) (.ckdel i o)).1.st.rel = (run {} ops).st.rel ∧
      (step (run {} ops) (.ckdel i o)).1.eng = (run {} ops).eng ∧
      (step (run {} ops) (.ckdel i o)).1.arch = (run {} ops).arch := by
  intro hl
  have hr := (DbInv.init.run ops).resolve_id o i hl
  have hs : step (run {} ops) (.ckdel i o) =
      ({ run {} ops with st := { (run {} ops).st with cps := alDel (run {} ops).st.cps i } }, .ok) := by
    simp only [step, doCkDel, hr]
  rw [hs]
  exact ⟨rfl, alHas_alDel_self _ i, fun j hj => alHas_alDel_ne _ (Ne.symm hj), rfl, rfl, rfl, rfl, rfl⟩

/-- non-vacuity: c0 is listed and TWO newer listed checkpoints are named with its id string;
    `delete(<id of c0>)` unlists c0 for each listing order and leaves the two others -/
example :
    let ops : List Op := [.kput 0 0 1 none, .ckpt 5 [] 1000, .kput 0 0 2 none, .ckpt 6 [] 0, .ckpt 6 [] 0]
    alHas (run {} ops).st.cps 0 = true ∧ nameOf (run {} ops) 1 = some 0 ∧ nameOf (run {} ops) 2 = some 0 ∧
      qCkpts (step (run {} ops) (.ckdel 0 [])).1 = [1, 2] ∧
      qCkpts (step (run {} ops) (.ckdel 0 [2, 1])).1 = [1, 2] ∧
      qRaw (step (run {} ops) (.ckdel 0 [])).1 = [(.plain 0, .raw (some 2) none)] := by decide +kernel

/-- what was wrong before /repo 14af22de (`doCkDelOld`: `CheckpointManager::delete` had its own
    one-pass id-or-name lookup, which fff752bd had not touched): `delete(<id of c0>)` was accepted
    and unlisted the newer checkpoint c1 that is merely NAMED with c0's id string, c0 stayed
    listed — while `ROLLBACK TO <id of c0>` reached c0.  With the present resolution the same
    statement unlists c0 and leaves c1. -/
theorem ckdel_id_shadowed_by_name_witness :
    let d := run {} [.kput 0 0 1 none, .ckpt 5 [] 1000, .kput 0 0 2 none, .ckpt 6 [] 0, .kput 0 0 3 none]
    qCkpts d = [0, 1] ∧ resolve d [] 0 = some 0 ∧
    -- before the repair
    (doCkDelOld d 0 []).2 = .ok ∧ qCkpts (doCkDelOld d 0 []).1 = [0] ∧
    -- the code as it is
    (step d (.ckdel 0 [])).2 = .ok ∧ qCkpts (step d (.ckdel 0 [])).1 = [1] := by decide +kernel

/-- the repair of the delete path is narrow: for EVERY database, order and target the old and the
    present `delete` do the same unless the target string is both the id of a listed checkpoint
    and the name of a listed checkpoint -/
theorem ckdel_changed_only_when_shadowed (ops : List Op) (x : Nat) (o : List Nat) :
    (alHas (run {} ops).st.cps x = false ∨
      ∀ j, alHas (run {} ops).st.cps j = true → nameOf (run {} ops) j ≠ some x) →
    doCkDelOld (run {} ops) x o = step (run {} ops) (.ckdel x o) := by
  intro h
  simp only [step, doCkDelOld, doCkDel, resolution_changed_only_when_shadowed ops x o h]

example :
    let d := run {} [.ckpt 5 [] 1007, .ckpt 6 [] 1007, .ckpt 7 [] 1001]
    alHas d.st.cps 1007 = false ∧ qCkpts (doCkDelOld d 1007 []).1 = [0, 2] ∧
      qCkpts (step d (.ckdel 1007 [])).1 = [0, 2] ∧
      (∀ j, alHas d.st.cps j = true → nameOf d j ≠ some 2) ∧ qCkpts (doCkDelOld d 2 []).1 = [0, 1] := by
  refine ⟨by decide +kernel, by decide +kernel, by decide +kernel, ?_, by decide +kernel⟩
  intro j hj
  have : j < 3 := (DbInv.init.run [.ckpt 5 [] 1007, .ckpt 6 [] 1007, .ckpt 7 [] 1001]).cpsLt j hj
  have h3 : j = 0 ∨ j = 1 ∨ j = 2 := by omega
  rcases h3 with e | e | e <;> subst e <;> decide +kernel

/-- `CheckpointManager::list(Some n)` / `CHECKPOINTS LIMIT n`: for every database, order and limit
    the answer has `min n (listed)` entries, all listed, newest first, and nothing left out is
    newer than anything shown -/
theorem list_limit_newest (ops : List Op) (o : List Nat) (n : Nat) :
    let d := run {} ops
    (qCkptsTop d o n).length = min n d.st.cps.length ∧
    (∀ p ∈ qCkptsTop d o n, p ∈ d.st.cps) ∧ DescSorted (qCkptsTop d o n) ∧
    ∀ p ∈ d.st.cps, p ∉ qCkptsTop d o n → ∀ k ∈ qCkptsTop d o n, p.2 ≤ k.2 := by
  intro d
  have hinv : DbInv d := DbInv.init.run ops
  refine ⟨?_, fun p hp => ckList_mem o _ p (List.mem_of_mem_take hp), ?_,
    ckList_take_newest o _ hinv.cpsNodup n⟩
  · unfold qCkptsTop; rw [List.length_take, (ckList_perm o d.st.cps hinv.cpsNodup).length_eq]
  · exact List.Pairwise.sublist (List.take_sublist _ _) (sortDesc_sorted (arrange o d.st.cps))

example :
    let d := run {} [.ckpt 5 [] 1000, .ckpt 7 [] 1001, .ckpt 6 [] 1002, .ckpt 7 [] 1003]
    qCkptsTop d [] 2 = [(1, 7), (3, 7)] ∧ qCkptsTop d [3] 3 = [(3, 7), (1, 7), (2, 6)] := by decide +kernel

end Neumann.Ckpt.Props
