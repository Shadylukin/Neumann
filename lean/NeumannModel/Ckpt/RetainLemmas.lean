import NeumannModel.Ckpt.Lemmas
/-
  C08 — helpers for `RetainProps.lean`: the retention bound as an invariant of statement sequences
  (both creation paths, `create` and `create_auto`, rollbacks, deletes).
-/
namespace Neumann.Ckpt

/-- `max_checkpoints` is a constructor argument of the manager: no statement changes it.  In the
    model only `setmax` (harness set-up) does. -/
def Op.isSetmax : Op → Bool
  | .setmax _ => true
  | _ => false

theorem step_maxCk (d : Db) (op : Op) (hs : op.isSetmax = false) : (step d op).1.maxCk = d.maxCk := by
  by_cases hd : op.isData = true
  · exact (step_kept d op hd).maxCk
  · cases op with
    | ckpt ts ord nm => rfl
    | ackpt ts ord nm => rfl
    | rollback x o =>
      simp only [step, doRollback]
      cases loadCk d o x <;> rfl
    | ckdel x o =>
      simp only [step, doCkDel]
      cases resolve d o x <;> rfl
    | setmax n => cases hs
    | _ => exact absurd rfl hd

/-- the retention bound: never more live checkpoint records than the configured count — in the
    live store and in every archived image (a rollback re-installs an image's records) -/
structure RInv (d : Db) : Prop where
  live : d.st.cps.length ≤ d.maxCk
  arch : ∀ c ∈ d.arch, c.img.cps.length ≤ d.maxCk

theorem DbInv.newest_kept {d : Db} (h : DbInv d) (ts : Nat) (ord : List Nat) (nm : Nat)
    (hpos : 0 < d.maxCk) (hold : ∀ p ∈ d.st.cps, p.2 < ts) :
    (d.nextCk, ts) ∈ (Neumann.Ckpt.doCkpt d ts ord nm).1.st.cps := by
  obtain ⟨hlen, hsub, hnew⟩ := h.doCkpt_cps ts ord nm
  refine Classical.byContradiction fun hnot => ?_
  cases hc : (Neumann.Ckpt.doCkpt d ts ord nm).1.st.cps with
  | nil =>
    rw [hc, List.length_append] at hlen
    simp only [List.length_nil, List.length_singleton] at hlen
    omega
  | cons k _ =>
    have hk : k ∈ (Neumann.Ckpt.doCkpt d ts ord nm).1.st.cps := by rw [hc]; exact List.mem_cons_self
    have hle : ts ≤ k.2 := hnew (d.nextCk, ts) (List.mem_append_right _ List.mem_cons_self) hnot k hk
    rcases List.mem_append.mp (hsub k hk) with hk' | hk'
    · exact absurd (hold k hk') (Nat.not_lt.mpr hle)
    · exact hnot (List.mem_singleton.mp hk' ▸ hk)

theorem RInv.doCkpt {d : Db} (h : RInv d) (hi : DbInv d) (ts : Nat) (ord : List Nat) (nm : Nat) :
    RInv (Neumann.Ckpt.doCkpt d ts ord nm).1 :=
  ⟨(hi.doCkpt_cps ts ord nm).1 ▸ Nat.min_le_left _ _, forall_mem_snoc h.arch h.live⟩

theorem RInv.step {d : Db} (hi : DbInv d) (h : RInv d) (op : Op) (hs : op.isSetmax = false) :
    RInv (step d op).1 := by
  have hm := step_maxCk d op hs
  by_cases hd : op.isData = true
  · have hk := (cps_closed d.st.cps).step d op hd rfl
    exact ⟨by rw [hk.st, hm]; exact h.live, by rw [hk.arch, hm]; exact h.arch⟩
  · cases op with
    | ckpt ts ord nm => exact h.doCkpt hi ts ord nm
    | ackpt ts ord nm => exact h.doCkpt hi ts ord nm
    | rollback x o =>
      simp only [Neumann.Ckpt.step, doRollback]
      cases hl : loadCk d o x with
      | none => exact h
      | some c => exact ⟨h.arch c (loadCk_mem d o x c hl).1, h.arch⟩
    | ckdel x o =>
      simp only [Neumann.Ckpt.step, doCkDel]
      cases hr : resolve d o x with
      | none => exact h
      | some i => exact ⟨Nat.le_trans (alDel_sublist _ _).length_le h.live, h.arch⟩
    | setmax n => cases hs
    | _ => exact absurd rfl hd

theorem RInv.run {d : Db} (hi : DbInv d) (h : RInv d) (ops : List Op)
    (hs : ∀ op ∈ ops, op.isSetmax = false) : RInv (run d ops) := by
  induction ops generalizing d with
  | nil => exact h
  | cons op ops ih =>
    rw [run_cons]
    exact ih (hi.step op) (h.step hi op (hs op List.mem_cons_self))
      (fun o ho => hs o (List.mem_cons_of_mem _ ho))

theorem run_maxCk (d : Db) (ops : List Op) (hs : ∀ op ∈ ops, op.isSetmax = false) :
    (run d ops).maxCk = d.maxCk := by
  induction ops generalizing d with
  | nil => rfl
  | cons op ops ih =>
    rw [run_cons, ih _ (fun o ho => hs o (List.mem_cons_of_mem _ ho)),
      step_maxCk d op (hs op List.mem_cons_self)]

/-- a manager configured with `n` over an empty store -/
theorem RInv.configured (n : Nat) : RInv (Neumann.Ckpt.step {} (.setmax n)).1 :=
  ⟨Nat.zero_le _, by intro c hc; cases hc⟩

end Neumann.Ckpt
