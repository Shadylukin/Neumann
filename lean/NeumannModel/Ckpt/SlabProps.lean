import NeumannModel.Ckpt.SlabLemmas
/-
  C08 — the embedding slab's slot allocator (`EmbeddingSlab::{set,get,delete,clear,compact}`,
  `snapshot`+`restore`) is what rollback = `clear()` + re-`put` of every restored `emb:` vector runs
  on.
-/
namespace Neumann.Ckpt.Slab.Props
open Neumann.Ckpt Neumann.Ckpt.Slab

/-- For EVERY sequence of slab operations (set / delete / clear / compact / snapshot+restore, any
    entities, any interleaving — in particular the `clear` + re-`set` of a rollback after any
    history of deletes) the slot-level slab answers `get` exactly like the abstract entity ↦ vector
    map that `Model.lean` uses for `Store.eslab` (`alPut` / `alDel` / `[]`): a vector written for
    one entity is never read back through another one, whatever slots were freed and reused. -/
theorem slab_refines_map (ops : List SOp) (e : Nat) :
    get (srun {} ops) e = alGet (arun [] ops) e :=
  ((Rep.run (s := {}) (a := []) ⟨SlabOk.empty, fun _ => rfl⟩ ops).2 e)

/-- non-vacuity: a history with a freed slot that is reused, a clear, a compaction and a reload;
    the slab is non-trivial (slot 0 reused by entity 9, memory of slot 1 stale) -/
example :
    let ops : List SOp := [.set 1 10, .set 2 20, .set 3 30, .del 1, .set 9 90, .del 2, .compact, .set 4 40,
      .clear, .set 5 50, .set 6 60, .del 5, .reload, .set 7 70]
    (srun {} ops).idx = [(6, 0), (7, 1)] ∧ get (srun {} ops) 6 = some 60 ∧ get (srun {} ops) 7 = some 70 ∧
    get (srun {} ops) 5 = none ∧ arun [] ops = [(6, 60), (7, 70)] := by decide +kernel

/-- The allocator invariant holds in every reachable state: entities are indexed once, no two
    entities share a slot, no indexed slot is on the free stack, the free stack has no duplicate,
    and every slot handed out is below `write_pos` (so the bump allocator never re-issues one). -/
theorem slab_slots_never_alias (ops : List SOp) :
    let s := srun {} ops
    (s.idx.map (·.1)).Nodup ∧ (s.idx.map (·.2) ++ s.free).Nodup ∧
      ∀ sl ∈ s.idx.map (·.2) ++ s.free, sl < s.pos := by
  have h := (Rep.run (s := {}) (a := []) ⟨SlabOk.empty, fun _ => rfl⟩ ops).1
  exact ⟨h.keys, h.slots, h.lt⟩

example :
    let s := srun {} [.set 1 10, .set 2 20, .set 3 30, .del 2, .del 1]
    s.idx = [(3, 2)] ∧ s.free = [0, 1] ∧ s.pos = 3 := by decide +kernel

/-- What rollback relies on, stated on its own: after `clear()`, `set`ting any list of (entity,
    vector) pairs with distinct entities — the restored image — makes every one of them readable
    with its own vector, whatever the slab went through before (any reachable state). -/
theorem clear_then_restore_exact (ops : List SOp) (img : List (Nat × Int))
    (hn : (img.map (·.1)).Nodup) (e : Nat) :
    get (setAll (clear (srun {} ops)) img) e = alGet img e := by
  have h := (Rep.clear (srun {} ops)).setAll img
  rw [h.2 e, foldl_alPut_of_nodup img [] hn, List.nil_append]

example :
    let ops : List SOp := [.set 1 10, .set 2 20, .set 3 30, .del 1]
    let img : List (Nat × Int) := [(4, 44), (5, 55), (1, 11)]
    (setAll (clear (srun {} ops)) img).idx = [(1, 2), (4, 0), (5, 1)] ∧
    get (setAll (clear (srun {} ops)) img) 5 = some 55 := by decide +kernel

/-- NOT the code: if `clear()` restarted `write_pos` at 0 but left the freed slots on the stack
    (seeded change C08_1), the restore after a delete hands slot 0 out twice: entity 4 (popped from
    the stale free stack) and entity 5 (bump allocator restarted) share it, and entity 4 reads
    entity 5's vector.  This is the behaviour the `slab` and `store_raw` streams look for. -/
theorem clear_keeping_free_stack_aliases_witness :
    let s0 := srun {} [.set 1 10, .set 2 20, .del 1]
    let bad := setAll (clearKeepFree s0) [(4, 44), (5, 55)]
    let good := setAll (clear s0) [(4, 44), (5, 55)]
    bad.idx = [(4, 0), (5, 0)] ∧ get bad 4 = some 55 ∧ get good 4 = some 44 ∧ get good 5 = some 55 := by
  decide +kernel

end Neumann.Ckpt.Slab.Props
