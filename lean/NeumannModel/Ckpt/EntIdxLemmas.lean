import NeumannModel.Ckpt.EntIdx
import NeumannModel.Ckpt.SlabLemmas
/-
  C08 — the vocabulary + tombstone index implements the abstract live-key ↦ id map of `Model.lean`.
-/
namespace Neumann.Ckpt.EntIdx
open Neumann.Ckpt Neumann.Ckpt.Slab

theorem find_eq_alGet (k : Nat) (ents : List (Nat × Bool)) (i : Nat) :
    find k ents i = alGet (live ents i) k := by
  induction ents generalizing i with
  | nil => rfl
  | cons p r ih =>
    obtain ⟨x, l⟩ := p
    cases l <;> by_cases h : x = k <;> simp [find, live, alGet, h, ih]

theorem live_snoc (ents : List (Nat × Bool)) (k i : Nat) :
    live (ents ++ [(k, true)]) i = live ents i ++ [(k, i + ents.length)] := by
  induction ents generalizing i with
  | nil => simp [live]
  | cons p r ih =>
    obtain ⟨x, l⟩ := p
    cases l <;> simp [live, ih, Nat.add_assoc, Nat.add_comm 1]

theorem kill_length (k : Nat) (ents : List (Nat × Bool)) : (kill k ents).length = ents.length := by
  induction ents with
  | nil => rfl
  | cons p r ih =>
    obtain ⟨x, l⟩ := p
    by_cases h : x = k ∧ l = true <;> simp [kill, h, ih]

theorem live_kill (k : Nat) (ents : List (Nat × Bool)) (i : Nat)
    (hn : ((live ents i).map (·.1)).Nodup) : live (kill k ents) i = alDel (live ents i) k := by
  induction ents generalizing i with
  | nil => rfl
  | cons p r ih =>
    obtain ⟨x, l⟩ := p
    cases l
    · simp only [live] at hn ⊢
      simp [kill, live, ih (i + 1) hn]
    · simp only [live, if_true, List.map_cons, List.nodup_cons] at hn
      by_cases h : x = k
      · subst h
        simp [kill, live, alDel, alDel_of_not_mem _ _ hn.1]
      · simp [kill, live, alDel, h, ih (i + 1) hn.2]

structure Rep (s : EIdx) (a : AIdx) : Prop where
  eidx : a.eidx = live s.ents 0
  enext : a.enext = s.ents.length
  keys : (a.eidx.map (·.1)).Nodup

theorem Rep.empty : Rep {} {} := ⟨rfl, rfl, by simp⟩

theorem Rep.get {s : EIdx} {a : AIdx} (h : Rep s a) (k : Nat) : get s k = alGet a.eidx k := by
  rw [h.eidx]; exact find_eq_alGet k s.ents 0

theorem Rep.create {s : EIdx} {a : AIdx} (h : Rep s a) (k : Nat) : Rep (create s k) (acreate a k) := by
  have hg := h.get k
  unfold EntIdx.create acreate
  cases hc : alGet a.eidx k with
  | some id => rw [hg, hc]; exact h
  | none =>
    rw [hg, hc]
    refine ⟨?_, ?_, ?_⟩
    · simp [live_snoc, h.eidx, h.enext]
    · simp [h.enext]
    · have hk := not_mem_keys_of_alGet_none _ _ hc
      simp only [List.map_append, List.map_cons, List.map_nil]
      rw [List.nodup_append]
      refine ⟨h.keys, by simp, ?_⟩
      intro x hx y hy
      simp only [List.mem_singleton] at hy
      subst hy
      exact fun e => hk (e ▸ hx)

theorem Rep.remove {s : EIdx} {a : AIdx} (h : Rep s a) (k : Nat) : Rep (remove s k) (aremove a k) := by
  refine ⟨?_, ?_, ?_⟩
  · simp only [EntIdx.remove, aremove]
    rw [live_kill k s.ents 0 (h.eidx ▸ h.keys), h.eidx]
  · simp [EntIdx.remove, aremove, kill_length, h.enext]
  · exact alDel_nodup _ _ h.keys

theorem Rep.run {s : EIdx} {a : AIdx} (h : Rep s a) (ops : List IOp) : Rep (irun s ops) (arun a ops) := by
  induction ops generalizing s a with
  | nil => exact h
  | cons op r ih =>
    cases op with
    | create k => exact ih (h.create k)
    | remove k => exact ih (h.remove k)


theorem find_ge (k : Nat) (ents : List (Nat × Bool)) (i j : Nat) (h : find k ents i = some j) : i ≤ j := by
  induction ents generalizing i with
  | nil => simp [find] at h
  | cons p r ih =>
    obtain ⟨x, l⟩ := p
    by_cases c : x = k ∧ l = true
    · simp [find, c] at h; omega
    · simp only [find, c, if_false] at h
      have := ih (i + 1) h
      omega

theorem find_inj (k k' : Nat) (ents : List (Nat × Bool)) (i j : Nat)
    (h : find k ents i = some j) (h' : find k' ents i = some j) : k = k' := by
  induction ents generalizing i with
  | nil => simp [find] at h
  | cons p r ih =>
    obtain ⟨x, l⟩ := p
    by_cases c : x = k ∧ l = true
    · by_cases c' : x = k' ∧ l = true
      · exact c.1.symm.trans c'.1
      · simp only [find, c, and_self, if_true, Option.some.injEq] at h
        simp only [find, c', if_false] at h'
        have := find_ge k' r (i + 1) j h'
        omega
    · by_cases c' : x = k' ∧ l = true
      · simp only [find, c', and_self, if_true, Option.some.injEq] at h'
        simp only [find, c, if_false] at h
        have := find_ge k r (i + 1) j h
        omega
      · simp only [find, c, if_false] at h
        simp only [find, c', if_false] at h'
        exact ih (i + 1) h h'

theorem Rep.get_create {s : EIdx} {a : AIdx} (h : Rep s a) (k x : Nat) :
    EntIdx.get (EntIdx.create s k) x =
      if k = x then (match EntIdx.get s k with | some id => some id | none => some s.ents.length)
      else EntIdx.get s x := by
  rw [(h.create k).get x, h.get x, h.get k]
  unfold acreate
  cases hc : alGet a.eidx k with
  | some id =>
    by_cases e : k = x
    · subst e; simp [hc]
    · simp [e]
  | none =>
    simp only [alGet_snoc]
    by_cases e : k = x
    · subst e; simp [hc, h.enext]
    · simp [e]; cases alGet a.eidx x <;> rfl

theorem Rep.get_remove {s : EIdx} {a : AIdx} (h : Rep s a) (k x : Nat) :
    EntIdx.get (EntIdx.remove s k) x = if k = x then none else EntIdx.get s x := by
  rw [(h.remove k).get x, h.get x]
  simp [aremove, alGet_alDel]

structure ERep (s : ER) (m : List (Nat × Int)) : Prop where
  rep : ∃ a, Rep s.idx a
  look : ∀ x, look s x = alGet m x

theorem ERep.empty : ERep {} [] := ⟨⟨{}, Rep.empty⟩, fun _ => rfl⟩

theorem bind_alGet_other {idx : EIdx} {k x id : Nat} (hk : get idx k = some id) (e : ¬ k = x)
    {sl sl' : List (Nat × Int)} (hs : ∀ j, ¬ id = j → alGet sl' j = alGet sl j) :
    (get idx x).bind (alGet sl') = (get idx x).bind (alGet sl) := by
  cases hx : get idx x with
  | none => rfl
  | some j => exact hs j fun e2 => e (find_inj k x _ 0 id hk (e2 ▸ hx))

theorem ERep.step {s : ER} {m : List (Nat × Int)} (h : ERep s m) (op : EOp) : ERep (estep s op) (mstep m op) := by
  obtain ⟨⟨a, ha⟩, hl⟩ := h
  cases op with
  | put k v =>
    refine ⟨⟨_, ha.create k⟩, fun x => ?_⟩
    obtain ⟨id, hid⟩ : ∃ id, get (create s.idx k) k = some id := by
      rw [ha.get_create k k, if_pos rfl]; cases get s.idx k <;> exact ⟨_, rfl⟩
    simp only [estep, mstep, EntIdx.look, hid, Option.getD_some, alGet_alPut]
    by_cases e : k = x
    · subst e
      rw [hid, if_pos rfl]
      exact (alGet_alPut _ _ _ _).trans (if_pos rfl)
    · rw [if_neg e, bind_alGet_other (sl := s.slab) hid e (fun j hj => by rw [alGet_alPut, if_neg hj]),
        ha.get_create k x, if_neg e]
      exact hl x
  | del k =>
    simp only [estep, mstep]
    cases hg : get s.idx k with
    | none =>
      refine ⟨⟨a, ha⟩, fun x => ?_⟩
      rw [alGet_alDel, ← hl x]
      by_cases e : k = x
      · subst e
        rw [if_pos rfl]
        show (get s.idx k).bind _ = none
        rw [hg]; rfl
      · rw [if_neg e]
    | some id =>
      refine ⟨⟨_, ha.remove k⟩, fun x => ?_⟩
      simp only [EntIdx.look, ha.get_remove k x, alGet_alDel]
      by_cases e : k = x
      · rw [if_pos e, if_pos e]; rfl
      · rw [if_neg e, if_neg e, bind_alGet_other (sl := s.slab) hg e (fun j hj => by rw [alGet_alDel, if_neg hj])]
        exact hl x

theorem ERep.run {s : ER} {m : List (Nat × Int)} (h : ERep s m) (ops : List EOp) :
    ERep (erun s ops) (mrun m ops) := by
  induction ops generalizing s m with
  | nil => exact h
  | cons op r ih => exact ih (h.step op)

end Neumann.Ckpt.EntIdx
