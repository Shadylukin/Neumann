import NeumannModel.Ckpt.Model
/-
  C08 — helper lemmas for the checkpoint / rollback model (core Lean only).
-/
namespace Neumann.Ckpt

section AL
variable {α β : Type} [DecidableEq α]

theorem alPut_keys (l : List (α × β)) (k : α) (v : β) :
    (alPut l k v).map (·.1) = if k ∈ l.map (·.1) then l.map (·.1) else l.map (·.1) ++ [k] := by
  induction l with
  | nil => simp [alPut]
  | cons p r ih =>
    obtain ⟨a, b⟩ := p
    by_cases h : a = k
    · subst h; simp [alPut]
    · have h' : ¬ k = a := fun e => h e.symm
      simp only [alPut, h, if_false, List.map_cons, ih, List.mem_cons, h', false_or]
      split <;> simp

theorem alPut_append (l : List (α × β)) (k : α) (v : β) (h : k ∉ l.map (·.1)) :
    alPut l k v = l ++ [(k, v)] := by
  induction l with
  | nil => rfl
  | cons p r ih =>
    obtain ⟨a, b⟩ := p
    simp only [List.map_cons, List.mem_cons, not_or] at h
    have h1 : ¬ a = k := fun e => h.1 e.symm
    simp [alPut, h1, ih h.2]

theorem foldl_alPut_of_nodup (data : List (α × β)) (m : List (α × β))
    (h : (m.map (·.1) ++ data.map (·.1)).Nodup) :
    data.foldl (fun m p => alPut m p.1 p.2) m = m ++ data := by
  induction data generalizing m with
  | nil => simp
  | cons p r ih =>
    have hnot : p.1 ∉ m.map (·.1) := by
      intro hmem
      exact (List.nodup_append.mp h).2.2 _ hmem _ (by simp) rfl
    simp only [List.foldl_cons]
    rw [alPut_append _ _ _ hnot, ih]
    · simp
    · simpa [List.append_assoc] using h

theorem alPut_nodup (l : List (α × β)) (k : α) (v : β) (h : (l.map (·.1)).Nodup) :
    ((alPut l k v).map (·.1)).Nodup := by
  rw [alPut_keys]
  split
  · exact h
  · rename_i hk
    exact List.nodup_append.mpr ⟨h, by simp, by
      intro a ha b hb
      simp only [List.mem_singleton] at hb
      subst hb
      intro e; subst e; exact hk ha⟩

theorem alPut_mem (l : List (α × β)) (k : α) (v : β) (p : α × β) (h : p ∈ alPut l k v) :
    p ∈ l ∨ p = (k, v) := by
  induction l with
  | nil => simp [alPut] at h; exact Or.inr h
  | cons q r ih =>
    obtain ⟨a, b⟩ := q
    simp only [alPut] at h
    split at h
    · rename_i hak
      simp only [List.mem_cons] at h
      rcases h with h | h
      · subst hak; exact Or.inr h
      · exact Or.inl (List.mem_cons_of_mem _ h)
    · simp only [List.mem_cons] at h
      rcases h with h | h
      · exact Or.inl (by simp [h])
      · rcases ih h with h | h
        · exact Or.inl (List.mem_cons_of_mem _ h)
        · exact Or.inr h

theorem alDel_sublist (l : List (α × β)) (k : α) : (alDel l k).Sublist l := by
  induction l with
  | nil => exact List.Sublist.refl _
  | cons p r ih =>
    obtain ⟨a, b⟩ := p
    simp only [alDel]
    split
    · exact List.Sublist.cons _ ih
    · exact List.Sublist.cons_cons _ ih

theorem alDel_nodup (l : List (α × β)) (k : α) (h : (l.map (·.1)).Nodup) :
    ((alDel l k).map (·.1)).Nodup :=
  List.Nodup.sublist ((alDel_sublist l k).map _) h

theorem alGet_alPut (l : List (α × β)) (k : α) (v : β) (x : α) :
    alGet (alPut l k v) x = if k = x then some v else alGet l x := by
  induction l with
  | nil => simp [alPut, alGet]
  | cons p r ih =>
    obtain ⟨a, b⟩ := p
    by_cases h : a = k
    · subst h
      by_cases hx : a = x <;> simp [alPut, alGet, hx]
    · by_cases hx : a = x
      · subst hx
        have hk : ¬ k = a := fun e => h e.symm
        simp [alPut, alGet, h, hk]
      · simp [alPut, alGet, h, hx, ih]

theorem alGet_alDel (l : List (α × β)) (k : α) (x : α) :
    alGet (alDel l k) x = if k = x then none else alGet l x := by
  induction l with
  | nil => simp [alDel, alGet]
  | cons p r ih =>
    obtain ⟨a, b⟩ := p
    by_cases h : a = k
    · subst h
      by_cases hx : a = x
      · subst hx; simpa [alDel] using ih
      · simp [alDel, alGet, hx, ih]
    · by_cases hx : a = x
      · subst hx
        have hk : ¬ k = a := fun e => h e.symm
        simp [alDel, alGet, h, hk]
      · simp [alDel, alGet, h, hx, ih]

theorem alGet_alDel_some {l : List (α × β)} {k x : α} {v : β} (h : alGet (alDel l k) x = some v) :
    k ≠ x ∧ alGet l x = some v := by
  rw [alGet_alDel] at h
  split at h
  · cases h
  · exact ⟨‹_›, h⟩

theorem alGet_some_of_mem (l : List (α × β)) (h : (l.map (·.1)).Nodup) (p : α × β) (hp : p ∈ l) :
    alGet l p.1 = some p.2 := by
  induction l with
  | nil => cases hp
  | cons q r ih =>
    obtain ⟨a, b⟩ := q
    simp only [List.map_cons, List.nodup_cons] at h
    simp only [List.mem_cons] at hp
    rcases hp with hp | hp
    · subst hp; simp [alGet]
    · have : a ≠ p.1 := fun e => h.1 (by rw [e]; exact List.mem_map_of_mem hp)
      simp [alGet, this, ih h.2 hp]

theorem alGet_isSome_iff (l : List (α × β)) (x : α) : (alGet l x).isSome = true ↔ x ∈ l.map (·.1) := by
  induction l with
  | nil => simp [alGet]
  | cons p r ih =>
    obtain ⟨a, b⟩ := p
    by_cases h : a = x
    · simp [alGet, h]
    · have hk : ¬ x = a := fun e => h e.symm
      simp [alGet, h, ih, hk]

theorem alHas_iff (l : List (α × β)) (x : α) : alHas l x = true ↔ x ∈ l.map (·.1) := by
  unfold alHas; exact alGet_isSome_iff l x

theorem alHas_of_mem {l : List (α × β)} {p : α × β} (h : p ∈ l) : alHas l p.1 = true :=
  (alHas_iff l p.1).mpr (List.mem_map_of_mem h)

end AL

theorem insertDesc_perm (x : Nat × Nat) (l : List (Nat × Nat)) : (insertDesc x l).Perm (x :: l) := by
  induction l with
  | nil => exact List.Perm.refl _
  | cons y ys ih =>
    simp only [insertDesc]
    split
    · exact ((List.Perm.cons y ih).trans (List.Perm.swap x y ys))
    · exact List.Perm.refl _

theorem sortDesc_perm (l : List (Nat × Nat)) : (sortDesc l).Perm l := by
  induction l with
  | nil => exact List.Perm.refl _
  | cons x xs ih =>
    show (insertDesc x (sortDesc xs)).Perm (x :: xs)
    exact (insertDesc_perm x _).trans (List.Perm.cons x ih)

def DescSorted (l : List (Nat × Nat)) : Prop := l.Pairwise fun a b => b.2 ≤ a.2

theorem insertDesc_sorted (x : Nat × Nat) (l : List (Nat × Nat)) (h : DescSorted l) :
    DescSorted (insertDesc x l) := by
  induction l with
  | nil => simp [insertDesc, DescSorted]
  | cons y ys ih =>
    unfold DescSorted at h ih ⊢
    rw [List.pairwise_cons] at h
    simp only [insertDesc]
    split
    · rename_i hyx
      rw [List.pairwise_cons]
      refine ⟨?_, ih h.2⟩
      intro b hb
      have hb' : b ∈ x :: ys := (insertDesc_perm x ys).mem_iff.mp hb
      rcases List.mem_cons.mp hb' with hb' | hb'
      · subst hb'; omega
      · exact h.1 b hb'
    · rename_i hyx
      rw [List.pairwise_cons]
      refine ⟨?_, List.pairwise_cons.mpr h⟩
      intro b hb
      rcases List.mem_cons.mp hb with hb | hb
      · subst hb; omega
      · have := h.1 b hb; omega

theorem sortDesc_sorted (l : List (Nat × Nat)) : DescSorted (sortDesc l) := by
  induction l with
  | nil => simp [sortDesc, DescSorted]
  | cons x xs ih => exact insertDesc_sorted x _ ih

theorem DescSorted.take_drop {l : List (Nat × Nat)} (h : DescSorted l) (n : Nat) :
    ∀ k ∈ l.take n, ∀ x ∈ l.drop n, x.2 ≤ k.2 := by
  unfold DescSorted at h
  rw [← List.take_append_drop n l, List.pairwise_append] at h
  exact h.2.2

def Key.notCache : Key → Bool
  | .cache _ => false
  | _ => true

def Key.isEmb : Key → Bool
  | .emb _ => true
  | _ => false

/-- the `_embedding` field of a value, if any -/
def embOf : Val → Option Int
  | .raw _ (some e) => some e
  | _ => none

/-- what `put` on an `emb:` key does to the embedding slab entry of the key's entity -/
def slabSet (sl : List (Nat × Int)) (id : Nat) (v : Val) : List (Nat × Int) :=
  match v with
  | .raw _ (some e) => alPut sl id e
  | _ => alDel sl id

/-- The store invariant.  `slabOk` is the embedding-slab invariant: whenever the entity of an `emb:`
    key has a slab vector, the metadata value of that key is a raw value carrying exactly that
    vector — so `get` (which merges the slab vector into the metadata value) answers the metadata
    value itself, and a `clear` + re-`put` of everything `scan`/`get` reach rebuilds the same
    key-addressed content.  It needs the entity index to be injective with ids below `enext`
    (a fresh id never aliases the slab entry of another key). -/
structure WF (s : Store) : Prop where
  mdNodup : (s.md.map (·.1)).Nodup
  cacheNodup : (s.cache.map (·.1)).Nodup
  eidxSub : ∀ n, alHas s.eidx n = true → alHas s.md (.emb n) = true
  eidxInj : ∀ n m id, alGet s.eidx n = some id → alGet s.eidx m = some id → n = m
  eidxLt : ∀ n id, alGet s.eidx n = some id → id < s.enext
  slabOk : ∀ n id e, alGet s.eidx n = some id → alGet s.eslab id = some e →
    ∃ x, alGet s.md (.emb n) = some (.raw x (some e))
  keys : ∀ p ∈ s.md, p.1.notCache = true

theorem WF.empty : WF {} :=
  ⟨by simp, by simp, by simp [alHas, alGet], by simp [alGet], by simp [alGet], by simp [alGet], by simp⟩

theorem alHas_alPut_of {α β : Type} [DecidableEq α] (l : List (α × β)) (k : α) (v : β) (x : α)
    (h : alHas l x = true ∨ k = x) : alHas (alPut l k v) x = true := by
  unfold alHas at *
  rw [alGet_alPut]
  split
  · rfl
  · rcases h with h | h
    · exact h
    · contradiction

theorem alHas_alDel {α β : Type} [DecidableEq α] (l : List (α × β)) (k x : α) :
    alHas (alDel l k) x = true ↔ (k ≠ x ∧ alHas l x = true) := by
  unfold alHas
  rw [alGet_alDel]
  by_cases h : k = x <;> simp [h]

theorem alHas_alDel_self {α β : Type} [DecidableEq α] (l : List (α × β)) (k : α) :
    alHas (alDel l k) k = false := by
  unfold alHas; rw [alGet_alDel, if_pos rfl]; rfl

theorem alHas_alDel_ne {α β : Type} [DecidableEq α] (l : List (α × β)) {k x : α} (h : k ≠ x) :
    alHas (alDel l k) x = alHas l x := by
  unfold alHas; rw [alGet_alDel, if_neg h]

theorem alGet_snoc {α β : Type} [DecidableEq α] (l : List (α × β)) (k : α) (v : β) (x : α) :
    alGet (l ++ [(k, v)]) x =
      match alGet l x with
      | some y => some y
      | none => if k = x then some v else none := by
  induction l with
  | nil => simp [alGet]
  | cons p r ih =>
    obtain ⟨a, b⟩ := p
    by_cases h : a = x
    · simp [alGet, h]
    · simp [alGet, h, ih]

theorem alGet_snoc_cases {α β : Type} [DecidableEq α] (l : List (α × β)) (k : α) (v : β) (x : α) (y : β)
    (h : alGet (l ++ [(k, v)]) x = some y) :
    alGet l x = some y ∨ (alGet l x = none ∧ k = x ∧ v = y) := by
  rw [alGet_snoc] at h
  cases hl : alGet l x with
  | some z => rw [hl] at h; exact Or.inl h
  | none =>
    rw [hl] at h
    by_cases e : k = x
    · simp [e] at h; exact Or.inr ⟨rfl, e, h⟩
    · simp [e] at h

theorem embOf_eq_some (v : Val) (e : Int) (h : embOf v = some e) : ∃ x, v = .raw x (some e) := by
  cases v with
  | raw x o =>
    cases o with
    | none => simp [embOf] at h
    | some e' => simp [embOf] at h; subst h; exact ⟨x, rfl⟩
  | _ => simp [embOf] at h

theorem alGet_slabSet (sl : List (Nat × Int)) (id : Nat) (v : Val) (j : Nat) :
    alGet (slabSet sl id v) j = if id = j then embOf v else alGet sl j := by
  cases v with
  | raw x o =>
    cases o with
    | none => simp only [slabSet, embOf, alGet_alDel]
    | some e => simp only [slabSet, embOf, alGet_alPut]
  | _ => simp only [slabSet, embOf, alGet_alDel]

theorem put_emb_some (s : Store) (n id : Nat) (v : Val) (h : alGet s.eidx n = some id) :
    s.put (.emb n) v = { s with eslab := slabSet s.eslab id v, md := alPut s.md (.emb n) v } := by
  unfold Store.put
  simp only [h]
  cases v with
  | raw x o => cases o <;> rfl
  | _ => rfl

theorem put_emb_none (s : Store) (n : Nat) (v : Val) (h : alGet s.eidx n = none) :
    s.put (.emb n) v = { s with eidx := s.eidx ++ [(n, s.enext)], enext := s.enext + 1,
                                eslab := slabSet s.eslab s.enext v, md := alPut s.md (.emb n) v } := by
  unfold Store.put
  simp only [h]
  cases v with
  | raw x o => cases o <;> rfl
  | _ => rfl

theorem put_other (s : Store) (k : Key) (v : Val) (hc : k.notCache = true) (he : k.isEmb = false) :
    s.put k v = { s with md := alPut s.md k v } := by
  cases k <;> first | rfl | (cases hc; done) | (cases he; done)

theorem isEmb_false_ne (k : Key) (he : k.isEmb = false) (m : Nat) : ¬ k = .emb m := by
  intro e; subst e; cases he

theorem WF.put_keys {s : Store} (h : WF s) (k : Key) (v : Val) (hk : k.notCache = true) :
    ∀ p ∈ alPut s.md k v, p.1.notCache = true := by
  intro p hp
  rcases alPut_mem _ _ _ _ hp with hp | hp
  · exact h.keys p hp
  · subst hp; exact hk

theorem WF.put {s : Store} (h : WF s) (k : Key) (v : Val) : WF (s.put k v) := by
  by_cases hc : k.notCache = true
  · by_cases he : k.isEmb = true
    · cases k with
      | emb n =>
        have hne : ∀ m, n ≠ m → ¬ Key.emb n = Key.emb m := fun m hm e => hm (by cases e; rfl)
        cases hn : alGet s.eidx n with
        | some id =>
          rw [put_emb_some s n id v hn]
          refine ⟨alPut_nodup _ _ _ h.mdNodup, h.cacheNodup, ?_, h.eidxInj, h.eidxLt, ?_,
            h.put_keys _ v rfl⟩
          · intro m hm
            exact alHas_alPut_of _ _ _ _ (Or.inl (h.eidxSub m hm))
          · intro m id' e' h1 h2
            dsimp only at h1 h2 ⊢
            rw [alGet_slabSet] at h2
            rw [alGet_alPut]
            by_cases hid : id = id'
            · subst hid
              have hmn := h.eidxInj m n id h1 hn
              subst hmn
              rw [if_pos rfl] at h2 ⊢
              obtain ⟨x, hx⟩ := embOf_eq_some v e' h2
              exact ⟨x, by rw [hx]⟩
            · rw [if_neg hid] at h2
              have hmn : n ≠ m := by
                intro e; subst e; rw [hn] at h1; exact hid (Option.some.inj h1)
              rw [if_neg (hne m hmn)]
              exact h.slabOk m id' e' h1 h2
        | none =>
          rw [put_emb_none s n v hn]
          refine ⟨alPut_nodup _ _ _ h.mdNodup, h.cacheNodup, ?_, ?_, ?_, ?_, h.put_keys _ v rfl⟩
          · intro m hm
            dsimp only at hm ⊢
            apply alHas_alPut_of
            rw [alHas_iff] at hm
            simp only [List.map_append, List.map_cons, List.map_nil, List.mem_append,
              List.mem_singleton] at hm
            rcases hm with hm | hm
            · exact Or.inl (h.eidxSub m ((alHas_iff _ _).mpr hm))
            · exact Or.inr (by rw [hm])
          · intro a b id' ha hb
            dsimp only at ha hb
            rcases alGet_snoc_cases _ _ _ _ _ ha with ha | ⟨_, ha, ha'⟩ <;>
              rcases alGet_snoc_cases _ _ _ _ _ hb with hb | ⟨_, hb, hb'⟩
            · exact h.eidxInj a b id' ha hb
            · have := h.eidxLt a id' ha; omega
            · have := h.eidxLt b id' hb; omega
            · rw [← ha, ← hb]
          · intro a id' ha
            dsimp only at ha ⊢
            rcases alGet_snoc_cases _ _ _ _ _ ha with ha | ⟨_, _, ha'⟩
            · have := h.eidxLt a id' ha; omega
            · omega
          · intro m id' e' h1 h2
            dsimp only at h1 h2 ⊢
            rw [alGet_slabSet] at h2
            rw [alGet_alPut]
            rcases alGet_snoc_cases _ _ _ _ _ h1 with h1 | ⟨_, h1, h1'⟩
            · have hlt := h.eidxLt m id' h1
              have hid : ¬ s.enext = id' := by omega
              rw [if_neg hid] at h2
              have hmn : n ≠ m := by
                intro e; subst e; rw [hn] at h1; cases h1
              rw [if_neg (hne m hmn)]
              exact h.slabOk m id' e' h1 h2
            · subst h1; subst h1'
              rw [if_pos rfl] at h2 ⊢
              obtain ⟨x, hx⟩ := embOf_eq_some v e' h2
              exact ⟨x, by rw [hx]⟩
      | _ => cases he
    · have he' : k.isEmb = false := by simpa using he
      rw [put_other s k v hc he']
      refine ⟨alPut_nodup _ _ _ h.mdNodup, h.cacheNodup, ?_, h.eidxInj, h.eidxLt, ?_, h.put_keys k v hc⟩
      · intro m hm
        exact alHas_alPut_of _ _ _ _ (Or.inl (h.eidxSub m hm))
      · intro m id' e' h1 h2
        dsimp only at h1 h2 ⊢
        rw [alGet_alPut, if_neg (isEmb_false_ne k he' m)]
        exact h.slabOk m id' e' h1 h2
  · cases k with
    | cache n =>
      exact ⟨h.mdNodup, alPut_nodup _ _ _ h.cacheNodup, h.eidxSub, h.eidxInj, h.eidxLt, h.slabOk, h.keys⟩
    | _ => exact absurd rfl hc

theorem delete_other (s : Store) (k : Key) (hc : k.notCache = true) (he : k.isEmb = false) :
    s.delete k = if !s.has k then none else some { s with md := alDel s.md k } := by
  cases k <;> first | rfl | (cases hc; done) | (cases he; done)

theorem WF.delete {s s' : Store} (h : WF s) (k : Key) (hd : s.delete k = some s') : WF s' := by
  have hkeys : ∀ p ∈ alDel s.md k, p.1.notCache = true :=
    fun p hp => h.keys p ((alDel_sublist _ _).subset hp)
  by_cases hc : k.notCache = true
  · by_cases he : k.isEmb = true
    · cases k with
      | emb n =>
        unfold Store.delete at hd
        split at hd
        · cases hd
        · cases hd
          refine ⟨alDel_nodup _ _ h.mdNodup, h.cacheNodup, ?_,
            fun a b i ha hb => h.eidxInj a b i (alGet_alDel_some ha).2 (alGet_alDel_some hb).2,
            fun a i ha => h.eidxLt a i (alGet_alDel_some ha).2, ?_, hkeys⟩
          · intro m hm
            have hm := (alHas_alDel _ _ _).mp hm
            exact (alHas_alDel _ _ _).mpr ⟨fun e => hm.1 (Key.emb.inj e), h.eidxSub m hm.2⟩
          · intro m i e h1 h2
            obtain ⟨hnm, h1⟩ := alGet_alDel_some h1
            have h2 : alGet s.eslab i = some e := by
              cases hq : alGet s.eidx n with
              | none => rw [hq] at h2; exact h2
              | some q => rw [hq] at h2; exact (alGet_alDel_some h2).2
            show ∃ x, alGet (alDel s.md (.emb n)) (.emb m) = _
            rw [alGet_alDel, if_neg fun e => hnm (Key.emb.inj e)]
            exact h.slabOk m i e h1 h2
      | _ => cases he
    · have he' : k.isEmb = false := by simpa using he
      rw [delete_other s k hc he'] at hd
      split at hd
      · cases hd
      · cases hd
        refine ⟨alDel_nodup _ _ h.mdNodup, h.cacheNodup,
          fun m hm => (alHas_alDel _ _ _).mpr ⟨isEmb_false_ne k he' m, h.eidxSub m hm⟩,
          h.eidxInj, h.eidxLt, ?_, hkeys⟩
        intro m i e h1 h2
        show ∃ x, alGet (alDel s.md k) (.emb m) = _
        rw [alGet_alDel, if_neg (isEmb_false_ne k he' m)]
        exact h.slabOk m i e h1 h2
  · cases k with
    | cache n =>
      unfold Store.delete at hd
      split at hd
      · cases hd
      · cases hd
        exact ⟨h.mdNodup, alDel_nodup _ _ h.cacheNodup, h.eidxSub, h.eidxInj, h.eidxLt, h.slabOk, h.keys⟩
    | _ => exact absurd rfl hc

theorem WF.del {s : Store} (h : WF s) (k : Key) : WF (s.del k) := by
  unfold Store.del
  cases hd : s.delete k with
  | none => exact h
  | some s' => exact h.delete k hd

theorem WF.setRel {s : Store} (h : WF s) (r : List (Nat × List Row)) : WF { s with rel := r } :=
  ⟨h.mdNodup, h.cacheNodup, h.eidxSub, h.eidxInj, h.eidxLt, h.slabOk, h.keys⟩

theorem WF.setCps {s : Store} (h : WF s) (c : List (Nat × Nat)) : WF { s with cps := c } :=
  ⟨h.mdNodup, h.cacheNodup, h.eidxSub, h.eidxInj, h.eidxLt, h.slabOk, h.keys⟩

/-- under the invariant `get` on a metadata-slab key (any family but `_cache:`) answers the
    metadata value: the slab vector merged in by `get` is the one the value already carries -/
theorem WF.get_eq {s : Store} (h : WF s) (k : Key) (hc : k.notCache = true) :
    s.get k = alGet s.md k := by
  cases k with
  | emb n =>
    unfold Store.get
    dsimp only
    cases h1 : alGet s.eidx n with
    | none => rfl
    | some id =>
      dsimp only
      cases h2 : alGet s.eslab id with
      | none => rfl
      | some e =>
        obtain ⟨x, hx⟩ := h.slabOk n id e h1 h2
        rw [hx]; rfl
  | cache n => cases hc
  | _ => rfl

structure Closed (P : Store → Prop) : Prop where
  put : ∀ s k v, P s → P (s.put k v)
  delete : ∀ s s' k, s.delete k = some s' → P s → P s'
  rel : ∀ s r, P s → P { s with rel := r }

/-- relational / graph / vector / raw statements (everything but checkpoint control) -/
def Op.isData : Op → Bool
  | .ckpt _ _ _ => false
  | .ackpt _ _ _ => false
  | .rollback _ _ => false
  | .ckdel _ _ => false
  | .setmax _ => false
  | _ => true

/-- what a data statement does to `d`: a store satisfying `P`, possibly another engine state -/
structure Kept (P : Store → Prop) (d d' : Db) : Prop where
  st : P d'.st
  arch : d'.arch = d.arch
  nextCk : d'.nextCk = d.nextCk
  maxCk : d'.maxCk = d.maxCk

theorem Kept.same {P : Store → Prop} {d : Db} (h : P d.st) : Kept P d d := ⟨h, rfl, rfl, rfl⟩

/- The record literal lets unification read `s` off a statement's result as written; a `put` on a
   constructor key under `.1.st` is otherwise unfolded by `whnf` on one side only. -/
theorem Kept.upd {P : Store → Prop} {d : Db} {s : Store} (e : Eng) (h : P s) :
    Kept P d { d with st := s, eng := e } := ⟨h, rfl, rfl, rfl⟩

theorem Kept.trans {P Q : Store → Prop} {d d1 d2 : Db} (h1 : Kept Q d d1) (h2 : Kept P d1 d2) :
    Kept P d d2 :=
  ⟨h2.st, h2.arch.trans h1.arch, h2.nextCk.trans h1.nextCk, h2.maxCk.trans h1.maxCk⟩

theorem p_ite {P : Store → Prop} {c : Prop} [Decidable c] {a b : Store} (ha : P a) (hb : P b) :
    P (if c then a else b) := by
  split <;> assumption

theorem forall_mem_snoc {α : Type} {p : α → Prop} {l : List α} {x : α} (hl : ∀ a ∈ l, p a) (hx : p x) :
    ∀ a ∈ l ++ [x], p a :=
  List.forall_mem_append.mpr ⟨hl, List.forall_mem_singleton.mpr hx⟩

theorem foldl_inv {σ γ : Type} (Q : σ → Prop) (f : σ → γ → σ) (hf : ∀ a x, Q a → Q (f a x))
    (l : List γ) (a : σ) (h : Q a) : Q (l.foldl f a) :=
  List.foldlRecOn l f h fun b hb x _ => hf b x hb

section ClosedLemmas
variable {P : Store → Prop} (hP : Closed P)
include hP

theorem Closed.p_del (s : Store) (k : Key) (h : P s) : P (s.del k) := by
  unfold Store.del
  cases hd : s.delete k with
  | none => exact h
  | some s' => exact hP.delete s s' k hd h

theorem Closed.p_idxAdd (s : Store) (k : Key) (r : Nat) (h : P s) : P (idxAdd s k r) :=
  p_ite h (hP.put _ _ _ h)

theorem Closed.p_idxRemove (s : Store) (k : Key) (r : Nat) (h : P s) : P (idxRemove s k r) := by
  unfold idxRemove
  split
  · exact p_ite (hP.p_del _ _ h) (hP.put _ _ _ h)
  · exact h

theorem Closed.p_listAdd (s : Store) (k : Key) (e : Nat) (h : P s) : P (listAdd s k e) :=
  hP.put _ _ _ h

theorem Closed.p_listRemove (s : Store) (k : Key) (e : Nat) (h : P s) : P (listRemove s k e) := by
  unfold listRemove
  split
  · exact hP.put _ _ _ h
  · exact h

theorem Closed.rCreate (d : Db) (t : Nat) (h : P d.st) : Kept P d (rCreate d t).1 := by
  unfold Neumann.Ckpt.rCreate
  split
  · exact Kept.same h
  · split
    · exact Kept.same h
    · exact Kept.upd _ (hP.put _ _ _ (hP.rel _ _ h))

theorem Closed.rInsert (d : Db) (t : Nat) (k v : Int) (h : P d.st) : Kept P d (rInsert d t k v).1 := by
  unfold Neumann.Ckpt.rInsert
  split
  · exact Kept.same h
  · split
    · exact Kept.same h
    · have h1 := hP.rel d.st (alPut d.st.rel t (‹List Row› ++ [⟨true, k, v⟩])) h
      refine Kept.upd _ (p_ite (hP.p_idxAdd _ _ _ ?_) ?_) <;> exact p_ite (hP.p_idxAdd _ _ _ h1) h1

theorem Closed.rDeleteRow (t : Nat) (a b : Bool) (acc : Store × List (Nat × List (Int × List Nat)))
    (r : Nat × Int × Int) (h : P acc.1) : P (rDeleteRow t a b acc r).1 := by
  refine hP.rel _ _ (p_ite (hP.p_idxRemove _ _ _ ?_) ?_) <;> exact p_ite (hP.p_idxRemove _ _ _ h) h

theorem Closed.rDelete (d : Db) (t : Nat) (k : Int) (h : P d.st) : Kept P d (rDelete d t k).1 := by
  unfold Neumann.Ckpt.rDelete
  split
  · exact Kept.same h
  · split
    · exact Kept.same h
    · exact Kept.upd _ (foldl_inv (fun a => P a.1) _ (fun a x ha => hP.rDeleteRow t _ _ a x ha) _ _ h)

theorem Closed.rDrop (d : Db) (t : Nat) (h : P d.st) : Kept P d (rDrop d t).1 := by
  unfold Neumann.Ckpt.rDrop
  split
  · exact Kept.same h
  · exact Kept.upd _ (hP.p_del _ _ (foldl_inv P _ hP.p_del _ _ (hP.rel _ _ h)))

theorem Closed.rHidx (d : Db) (t : Nat) (h : P d.st) : Kept P d (rHidx d t).1 := by
  unfold Neumann.Ckpt.rHidx
  split
  · exact Kept.same h
  · split
    · exact Kept.same h
    · have h1 := hP.put d.st (.hmeta t) .unit h
      dsimp only
      split
      · exact Kept.upd _ h1
      · exact Kept.upd _ (foldl_inv P _ (fun s x hs => hP.p_idxAdd s _ _ hs) _ _ h1)

theorem Closed.rBidx (d : Db) (t : Nat) (h : P d.st) : Kept P d (rBidx d t).1 := by
  unfold Neumann.Ckpt.rBidx
  split
  · exact Kept.same h
  · split
    · exact Kept.same h
    · have h1 := hP.put d.st (.bmeta t) .unit h
      dsimp only
      split
      · exact Kept.upd _ h1
      · exact Kept.upd _ (foldl_inv (fun a : Store × _ => P a.1) _ (fun a x ha => hP.p_idxAdd a.1 _ _ ha) _ _ h1)

theorem Closed.ensureLabelIdx (d : Db) (h : P d.st) : Kept P d (ensureLabelIdx d) := by
  unfold Neumann.Ckpt.ensureLabelIdx
  split
  · exact Kept.same h
  · split
    · exact Kept.upd _ h
    · exact Kept.upd _ (hP.put _ _ _ h)

theorem Closed.ensureEtypeIdx (d : Db) (h : P d.st) : Kept P d (ensureEtypeIdx d) := by
  unfold Neumann.Ckpt.ensureEtypeIdx
  split
  · exact Kept.same h
  · split
    · exact Kept.upd _ h
    · exact Kept.upd _ (hP.put _ _ _ h)

theorem Closed.gNode (d : Db) (l : Nat) (h : P d.st) : Kept P d (gNode d l).1 := by
  have h0 := hP.ensureLabelIdx d h
  exact h0.trans (Kept.upd _ (hP.put _ _ _ (hP.put _ _ _ (hP.put _ _ _ h0.st))))

theorem Closed.gEdge (d : Db) (a b : Nat) (h : P d.st) : Kept P d (gEdge d a b).1 := by
  have h0 := hP.ensureEtypeIdx d h
  unfold Neumann.Ckpt.gEdge
  dsimp only
  split
  · exact h0
  · split
    · exact h0
    · exact h0.trans (Kept.upd _ (hP.p_listAdd _ _ _ (hP.p_listAdd _ _ _ (hP.put _ _ _ h0.st))))

theorem Closed.gDelEdge (d : Db) (i : Nat) (h : P d.st) : Kept P d (gDelEdge d i).1 := by
  unfold Neumann.Ckpt.gDelEdge
  split
  · exact Kept.same h
  · exact Kept.upd _ (hP.p_del _ _ (hP.p_listRemove _ _ _ (hP.p_listRemove _ _ _ h)))

theorem Closed.gDelNode (d : Db) (i : Nat) (h : P d.st) : Kept P d (gDelNode d i).1 := by
  unfold Neumann.Ckpt.gDelNode
  split
  · exact Kept.same h
  · refine Kept.upd _ (hP.p_del _ _ (hP.p_del _ _ (hP.p_del _ _ (foldl_inv P _ ?_ _ _ h))))
    intro s e hs
    split
    · refine hP.p_del _ _ (p_ite (hP.p_listRemove _ _ _ ?_) ?_) <;> exact p_ite (hP.p_listRemove _ _ _ hs) hs
    · exact hP.p_del _ _ hs

theorem Closed.vPut (d : Db) (k : Nat) (v : Vec) (h : P d.st) : Kept P d (vPut d k v).1 := by
  unfold Neumann.Ckpt.vPut
  split
  · exact Kept.same h
  · exact Kept.upd _ (hP.put _ _ _ h)

theorem Closed.vDel (d : Db) (k : Nat) (h : P d.st) : Kept P d (vDel d k).1 := by
  unfold Neumann.Ckpt.vDel
  split
  · exact Kept.same h
  · exact Kept.upd _ (hP.delete _ _ _ ‹_› h)

omit hP in
theorem Closed.vBuild (d : Db) (h : P d.st) : Kept P d (vBuild d).1 := by
  unfold Neumann.Ckpt.vBuild
  dsimp only
  split
  · exact Kept.same h
  · split
    · exact Kept.upd _ h
    · split
      · exact Kept.upd _ h
      · exact Kept.same h

theorem Closed.kPut (d : Db) (c k : Nat) (x : Int) (e : Option Int) (h : P d.st) :
    Kept P d (kPut d c k x e).1 :=
  Kept.upd _ (hP.put _ _ _ h)

theorem Closed.kDel (d : Db) (c k : Nat) (h : P d.st) : Kept P d (kDel d c k).1 := by
  unfold Neumann.Ckpt.kDel
  split
  · exact Kept.same h
  · exact Kept.upd _ (hP.delete _ _ _ ‹_› h)

theorem Closed.step (d : Db) (op : Op) (hd : op.isData = true) (h : P d.st) :
    Kept P d (step d op).1 := by
  cases op with
  | rcreate t => exact hP.rCreate d t h
  | rdrop t => exact hP.rDrop d t h
  | rins t k v => exact hP.rInsert d t k v h
  | rdel t k => exact hP.rDelete d t k h
  | rhidx t => exact hP.rHidx d t h
  | rbidx t => exact hP.rBidx d t h
  | gnode l => exact hP.gNode d l h
  | gedge a b => exact hP.gEdge d a b h
  | gdeln i => exact hP.gDelNode d i h
  | gdele i => exact hP.gDelEdge d i h
  | vput k v => exact hP.vPut d k v h
  | vdel k => exact hP.vDel d k h
  | vbuild => exact Closed.vBuild d h
  | kput c k x e => exact hP.kPut d c k x e h
  | kdel c k => exact hP.kDel d c k h
  | ckpt ts ord nm => cases hd
  | ackpt ts ord nm => cases hd
  | rollback i o => cases hd
  | ckdel i o => cases hd
  | setmax n => cases hd

end ClosedLemmas

theorem step_kept (d : Db) (op : Op) (hd : op.isData = true) : Kept (fun _ => True) d (step d op).1 :=
  Closed.step ⟨fun _ _ _ _ => trivial, fun _ _ _ _ _ => trivial, fun _ _ _ => trivial⟩ d op hd trivial

theorem step_frame (d : Db) (op : Op) (hd : op.isData = true) :
    (step d op).1.arch = d.arch ∧ (step d op).1.nextCk = d.nextCk :=
  ⟨(step_kept d op hd).arch, (step_kept d op hd).nextCk⟩

theorem WF.closed : Closed WF :=
  ⟨fun _ k v h => h.put k v, fun _ _ k hd h => h.delete k hd, fun _ r h => h.setRel r⟩

theorem WF.get_md {img : Store} (h : WF img) (p : Key × Val) (hp : p ∈ img.md) :
    img.get p.1 = some p.2 := by
  rw [h.get_eq p.1 (h.keys p hp)]
  exact alGet_some_of_mem img.md h.mdNodup p hp

theorem WF.get_cache {img : Store} (h : WF img) (p : Nat × Val) (hp : p ∈ img.cache) :
    img.get (.cache p.1) = some p.2 :=
  alGet_some_of_mem img.cache h.cacheNodup p hp

theorem WF.scanAll {img : Store} (h : WF img) :
    img.scanAll = img.md.map (·.1) ++ img.cache.map fun p => Key.cache p.1 := by
  unfold Store.scanAll
  simp only
  have : ((img.eidx.map fun p => Key.emb p.1).filter fun k => !(img.md.map (·.1)).contains k) = [] := by
    rw [List.filter_eq_nil_iff]
    intro k hk
    simp only [List.mem_map] at hk
    obtain ⟨q, hq, rfl⟩ := hk
    have h1 : alHas img.eidx q.1 = true := alHas_of_mem hq
    have h2 := (alHas_iff _ _).mp (h.eidxSub _ h1)
    simp [h2]
  rw [this, List.append_nil]

theorem put_fields_md (s : Store) (k : Key) (v : Val) (hk : k.notCache = true) :
    (s.put k v).md = alPut s.md k v ∧ (s.put k v).cache = s.cache ∧ (s.put k v).rel = s.rel ∧
      (s.put k v).cps = s.cps := by
  cases k <;> first | exact ⟨rfl, rfl, rfl, rfl⟩ | cases hk

theorem put_fields_cache (s : Store) (n : Nat) (v : Val) :
    (s.put (.cache n) v).md = s.md ∧ (s.put (.cache n) v).cache = alPut s.cache n v ∧
      (s.put (.cache n) v).rel = s.rel ∧ (s.put (.cache n) v).cps = s.cps :=
  ⟨rfl, rfl, rfl, rfl⟩

theorem reput_md_fold (img : Store) (l : List (Key × Val)) (acc : Store)
    (hl : ∀ p ∈ l, img.get p.1 = some p.2 ∧ p.1.notCache = true)
    (hn : (acc.md.map (·.1) ++ l.map (·.1)).Nodup) :
    ((l.map (·.1)).foldl (Store.reput img) acc).md = acc.md ++ l ∧
    ((l.map (·.1)).foldl (Store.reput img) acc).cache = acc.cache ∧
    ((l.map (·.1)).foldl (Store.reput img) acc).rel = acc.rel := by
  induction l generalizing acc with
  | nil => simp
  | cons p r ih =>
    have hp := hl p (by simp)
    have hstep : Store.reput img acc p.1 = acc.put p.1 p.2 := by simp [Store.reput, hp.1]
    have hf := put_fields_md acc p.1 p.2 hp.2
    have hnot : p.1 ∉ acc.md.map (·.1) := by
      intro hmem
      have := List.nodup_append.mp hn
      exact this.2.2 _ hmem _ (by simp) rfl
    have hmd : (acc.put p.1 p.2).md = acc.md ++ [p] := by
      rw [hf.1, alPut_append _ _ _ hnot]
    simp only [List.map_cons, List.foldl_cons, hstep]
    have := ih (acc.put p.1 p.2) (fun q hq => hl q (by simp [hq])) (by
      rw [hmd]; simpa [List.append_assoc] using hn)
    rw [hmd, hf.2.1, hf.2.2.1] at this
    simpa [List.append_assoc] using this

theorem reput_cache_fold (img : Store) (l : List (Nat × Val)) (acc : Store)
    (hl : ∀ p ∈ l, img.get (.cache p.1) = some p.2)
    (hn : (acc.cache.map (·.1) ++ l.map (·.1)).Nodup) :
    ((l.map fun p => Key.cache p.1).foldl (Store.reput img) acc).md = acc.md ∧
    ((l.map fun p => Key.cache p.1).foldl (Store.reput img) acc).cache = acc.cache ++ l ∧
    ((l.map fun p => Key.cache p.1).foldl (Store.reput img) acc).rel = acc.rel := by
  induction l generalizing acc with
  | nil => simp
  | cons p r ih =>
    have hp := hl p (by simp)
    have hstep : Store.reput img acc (.cache p.1) = acc.put (.cache p.1) p.2 := by
      simp [Store.reput, hp]
    have hnot : p.1 ∉ acc.cache.map (·.1) := by
      intro hmem
      have := List.nodup_append.mp hn
      exact this.2.2 _ hmem _ (by simp) rfl
    have hc : (acc.put (.cache p.1) p.2).cache = acc.cache ++ [p] := by
      show alPut acc.cache p.1 p.2 = _
      rw [alPut_append _ _ _ hnot]
    simp only [List.map_cons, List.foldl_cons, hstep]
    have := ih (acc.put (.cache p.1) p.2) (fun q hq => hl q (by simp [hq])) (by
      rw [hc]; simpa [List.append_assoc] using hn)
    rw [hc] at this
    refine ⟨this.1, ?_, this.2.2⟩
    simpa [List.append_assoc] using this.2.1

/-- restoring a well-formed image gives back its key-addressed content exactly, and NO relational slab -/
theorem restoreFrom_fields {img : Store} (h : WF img) (s : Store) :
    (Store.restoreFrom img s).md = img.md ∧ (Store.restoreFrom img s).cache = img.cache ∧
    (Store.restoreFrom img s).rel = [] ∧ (Store.restoreFrom img s).cps = img.cps := by
  unfold Store.restoreFrom
  rw [h.scanAll, List.foldl_append]
  have h1 := reput_md_fold img img.md (Store.clear s)
    (fun p hp => ⟨h.get_md p hp, h.keys p hp⟩) (by simpa [Store.clear] using h.mdNodup)
  have h2 := reput_cache_fold img img.cache ((img.md.map (·.1)).foldl (Store.reput img) (Store.clear s))
    (fun p hp => h.get_cache p hp) (by rw [h1.2.1]; simpa [Store.clear] using h.cacheNodup)
  refine ⟨?_, ?_, ?_, rfl⟩
  · show Store.md (List.foldl _ _ _) = _
    rw [h2.1, h1.1]; simp [Store.clear]
  · show Store.cache (List.foldl _ _ _) = _
    rw [h2.2.1, h1.2.1]; simp [Store.clear]
  · show Store.rel (List.foldl _ _ _) = _
    rw [h2.2.2, h1.2.2]; simp [Store.clear]

theorem alGet_mem {α β : Type} [DecidableEq α] (l : List (α × β)) (k : α) (v : β)
    (h : alGet l k = some v) : (k, v) ∈ l := by
  induction l with
  | nil => simp [alGet] at h
  | cons p r ih =>
    obtain ⟨a, b⟩ := p
    by_cases e : a = k
    · simp [alGet, e] at h; subst e; subst h; simp
    · simp [alGet, e] at h; exact List.mem_cons_of_mem _ (ih h)

theorem restoreFrom_wf (img : Store) (s : Store) : WF (Store.restoreFrom img s) := by
  unfold Store.restoreFrom
  apply WF.setCps
  refine foldl_inv WF _ (fun a k ha => ?_) _ _ WF.empty
  unfold Store.reput
  cases img.get k with
  | none => exact ha
  | some v => exact ha.put k v

theorem dedupNat'_mem (l : List Nat) (x : Nat) : x ∈ dedupNat' l ↔ x ∈ l := by
  induction l with
  | nil => simp [dedupNat']
  | cons y ys ih =>
    simp only [dedupNat', List.mem_cons, List.mem_filter, ih, decide_eq_true_eq]
    by_cases h : x = y <;> simp [h]

theorem dedupNat'_nodup (l : List Nat) : (dedupNat' l).Nodup := by
  induction l with
  | nil => simp [dedupNat']
  | cons y ys ih =>
    simp only [dedupNat', List.nodup_cons, List.mem_filter, decide_eq_true_eq]
    exact ⟨fun h => h.2 rfl, List.Nodup.sublist List.filter_sublist ih⟩

theorem arrange_mem (ord : List Nat) (cps : List (Nat × Nat)) (p : Nat × Nat)
    (h : p ∈ arrange ord cps) : p ∈ cps := by
  unfold arrange at h
  rcases List.mem_append.mp h with h | h
  · obtain ⟨i, _, hi⟩ := List.mem_filterMap.mp h
    cases hg : alGet cps i with
    | none => rw [hg] at hi; cases hi
    | some ts =>
      rw [hg] at hi
      cases hi
      exact alGet_mem cps i ts hg
  · exact (List.mem_filter.mp h).1

theorem mem_arrange (ord : List Nat) (cps : List (Nat × Nat)) (hn : (cps.map (·.1)).Nodup)
    (p : Nat × Nat) (h : p ∈ cps) : p ∈ arrange ord cps := by
  unfold arrange
  by_cases ho : p.1 ∈ ord
  · apply List.mem_append_left
    refine List.mem_filterMap.mpr ⟨p.1, (dedupNat'_mem ord p.1).mpr ho, ?_⟩
    rw [alGet_some_of_mem cps hn p h]
    rfl
  · apply List.mem_append_right
    exact List.mem_filter.mpr ⟨h, by simpa using ho⟩

theorem filterMap_lookup_keys (cps : List (Nat × Nat)) (l : List Nat) :
    (l.filterMap fun i => (alGet cps i).map fun ts => (i, ts)).map (·.1) =
      l.filter fun i => (alGet cps i).isSome := by
  induction l with
  | nil => rfl
  | cons x xs ih =>
    cases hg : alGet cps x <;> simp [hg, ih]

theorem nodup_of_map {α β : Type} (f : α → β) (l : List α) (h : (l.map f).Nodup) : l.Nodup := by
  induction l with
  | nil => exact List.nodup_nil
  | cons x xs ih =>
    simp only [List.map_cons, List.nodup_cons] at h ⊢
    exact ⟨fun hm => h.1 (List.mem_map_of_mem hm), ih h.2⟩

theorem arrange_nodup (ord : List Nat) (cps : List (Nat × Nat)) (hn : (cps.map (·.1)).Nodup) :
    (arrange ord cps).Nodup := by
  unfold arrange
  refine List.nodup_append.mpr ⟨?_, ?_, ?_⟩
  · apply nodup_of_map (·.1)
    rw [filterMap_lookup_keys]
    exact List.Nodup.sublist List.filter_sublist (dedupNat'_nodup ord)
  · exact List.Nodup.sublist List.filter_sublist (nodup_of_map _ _ hn)
  · intro a ha b hb e
    subst e
    obtain ⟨i, hi, hia⟩ := List.mem_filterMap.mp ha
    have hmem := (dedupNat'_mem ord i).mp hi
    cases hg : alGet cps i with
    | none => rw [hg] at hia; cases hia
    | some ts =>
      rw [hg] at hia
      cases hia
      have := (List.mem_filter.mp hb).2
      simp only [Bool.not_eq_eq_eq_not, Bool.not_true, List.contains_eq_mem, decide_eq_false_iff_not] at this
      exact this hmem

theorem ckList_perm (ord : List Nat) (cps : List (Nat × Nat)) (hn : (cps.map (·.1)).Nodup) :
    (ckList ord cps).Perm cps :=
  (sortDesc_perm _).trans
    ((List.perm_ext_iff_of_nodup (arrange_nodup ord cps hn) (nodup_of_map _ _ hn)).mpr
      fun p => ⟨arrange_mem ord cps p, mem_arrange ord cps hn p⟩)

theorem ckList_mem (ord : List Nat) (cps : List (Nat × Nat)) (p : Nat × Nat)
    (h : p ∈ ckList ord cps) : p ∈ cps :=
  arrange_mem ord cps p ((sortDesc_perm _).mem_iff.mp h)

theorem mem_ckList (ord : List Nat) (cps : List (Nat × Nat)) (hn : (cps.map (·.1)).Nodup)
    (p : Nat × Nat) (h : p ∈ cps) : p ∈ ckList ord cps :=
  (sortDesc_perm _).mem_iff.mpr (mem_arrange ord cps hn p h)

theorem ckList_take_newest (ord : List Nat) (cps : List (Nat × Nat)) (hn : (cps.map (·.1)).Nodup)
    (n : Nat) : ∀ p ∈ cps, p ∉ (ckList ord cps).take n → ∀ k ∈ (ckList ord cps).take n, p.2 ≤ k.2 := by
  intro p hp hnot k hk
  have hin := mem_ckList ord cps hn p hp
  rw [← List.take_append_drop n (ckList ord cps)] at hin
  rcases List.mem_append.mp hin with hin | hin
  · exact absurd hin hnot
  · exact (sortDesc_sorted (arrange ord cps)).take_drop n k hk p hin

theorem find?_newest (q : Nat × Nat → Bool) (l : List (Nat × Nat)) (h : DescSorted l) (a : Nat × Nat)
    (hf : l.find? q = some a) : ∀ b ∈ l, q b = true → b.2 ≤ a.2 := by
  induction l with
  | nil => cases hf
  | cons y ys ih =>
    unfold DescSorted at h ih
    rw [List.pairwise_cons] at h
    intro b hb hq
    by_cases hy : q y = true
    · rw [List.find?_cons_of_pos (by exact hy)] at hf
      cases hf
      rcases List.mem_cons.mp hb with hb | hb
      · subst hb; exact Nat.le_refl _
      · exact h.1 b hb
    · rw [List.find?_cons_of_neg (by exact hy)] at hf
      rcases List.mem_cons.mp hb with hb | hb
      · subst hb; exact absurd hq hy
      · exact ih h.2 hf b hb hq

theorem resolve_some (d : Db) (ord : List Nat) (x i : Nat) (h : resolve d ord x = some i) :
    ∃ ts, (i, ts) ∈ d.st.cps ∧
      (i = x ∨ ((∀ b ∈ ckList ord d.st.cps, b.1 ≠ x) ∧ nameOf d i = some x ∧
        ∀ b ∈ ckList ord d.st.cps, nameOf d b.1 = some x → b.2 ≤ ts)) := by
  unfold resolve at h
  cases hi : (ckList ord d.st.cps).find? (ckIdIs x) with
  | some a =>
    rw [hi] at h
    cases h
    exact ⟨a.2, ckList_mem ord _ a (List.mem_of_find?_eq_some hi),
      Or.inl (of_decide_eq_true (List.find?_some hi :))⟩
  | none =>
    rw [hi] at h
    cases hf : (ckList ord d.st.cps).find? (ckNameIs d x) with
    | none => rw [hf] at h; cases h
    | some a =>
      rw [hf] at h
      cases h
      exact ⟨a.2, ckList_mem ord _ a (List.mem_of_find?_eq_some hf), Or.inr
        ⟨fun b hb e => List.find?_eq_none.mp hi b hb (decide_eq_true e),
          of_decide_eq_true (List.find?_some hf :),
          fun b hb hbn => find?_newest _ _ (sortDesc_sorted _) a hf b hb (decide_eq_true hbn)⟩⟩

theorem resolve_live (d : Db) (ord : List Nat) (x i : Nat) (h : resolve d ord x = some i) :
    alHas d.st.cps i = true := by
  obtain ⟨ts, hm, _⟩ := resolve_some d ord x i h
  exact alHas_of_mem hm

theorem resolveOld_some (d : Db) (ord : List Nat) (x i : Nat) (h : resolveOld d ord x = some i) :
    ∃ ts, (i, ts) ∈ d.st.cps ∧ ckMatches d x (i, ts) = true ∧
      ∀ b ∈ ckList ord d.st.cps, ckMatches d x b = true → b.2 ≤ ts := by
  unfold resolveOld at h
  cases hf : (ckList ord d.st.cps).find? (ckMatches d x) with
  | none => rw [hf] at h; cases h
  | some a =>
    rw [hf] at h
    cases h
    exact ⟨a.2, ckList_mem ord _ a (List.mem_of_find?_eq_some hf), List.find?_some hf,
      find?_newest _ _ (sortDesc_sorted _) a hf⟩

theorem resolveOld_live (d : Db) (ord : List Nat) (x i : Nat) (h : resolveOld d ord x = some i) :
    alHas d.st.cps i = true := by
  obtain ⟨ts, hm, _⟩ := resolveOld_some d ord x i h
  exact alHas_of_mem hm

theorem resolve_eq_of_newest (d : Db) (ord : List Nat) (x i ts : Nat)
    (hn : (d.st.cps.map (·.1)).Nodup) (hm : (i, ts) ∈ d.st.cps)
    (hx : i = x ∨ nameOf d i = some x)
    (hid : ∀ b ∈ d.st.cps, b.1 = x → b.1 = i)
    (hnew : ∀ b ∈ d.st.cps, nameOf d b.1 = some x → b.1 ≠ i → b.2 < ts) :
    resolve d ord x = some i := by
  unfold resolve
  cases hi : (ckList ord d.st.cps).find? (ckIdIs x) with
  | some a =>
    exact congrArg some (hid a (ckList_mem ord _ a (List.mem_of_find?_eq_some hi))
      (of_decide_eq_true (List.find?_some hi :)))
  | none =>
    dsimp only
    rw [List.find?_eq_none] at hi
    have hix : nameOf d i = some x := by
      rcases hx with hx | hx
      · exact absurd (decide_eq_true hx) (hi _ (mem_ckList ord _ hn _ hm))
      · exact hx
    cases hf : (ckList ord d.st.cps).find? (ckNameIs d x) with
    | none =>
      rw [List.find?_eq_none] at hf
      exact absurd (decide_eq_true hix) (hf _ (mem_ckList ord _ hn _ hm))
    | some a =>
      have hle := find?_newest _ _ (sortDesc_sorted _) a hf _ (mem_ckList ord _ hn _ hm)
        (decide_eq_true hix)
      exact congrArg some (Decidable.byContradiction fun e => absurd
        (hnew a (ckList_mem ord _ a (List.mem_of_find?_eq_some hf))
          (of_decide_eq_true (List.find?_some hf :)) e) (Nat.not_lt.mpr hle))

structure DbInv (d : Db) : Prop where
  wf : WF d.st
  arch : ∀ c ∈ d.arch, WF c.img
  ids : d.arch.map (·.id) = List.range d.nextCk
  /-- every listed checkpoint id has been issued -/
  cpsLt : ∀ i, alHas d.st.cps i = true → i < d.nextCk
  /-- … also in every archived image (a rollback re-installs the image's list) -/
  archCps : ∀ c ∈ d.arch, ∀ i, alHas c.img.cps i = true → i < d.nextCk
  /-- a checkpoint id is listed once -/
  cpsNodup : (d.st.cps.map (·.1)).Nodup
  archNodup : ∀ c ∈ d.arch, (c.img.cps.map (·.1)).Nodup
  /-- the listed timestamp of a checkpoint is the one in its blob -/
  cpsTs : ∀ p ∈ d.st.cps, ∀ c ∈ d.arch, c.id = p.1 → c.ts = p.2
  archTs : ∀ c' ∈ d.arch, ∀ p ∈ c'.img.cps, ∀ c ∈ d.arch, c.id = p.1 → c.ts = p.2

theorem DbInv.init : DbInv {} :=
  ⟨WF.empty, by simp, by simp, by simp [alHas, alGet], by simp, by simp, by simp, by simp, by simp⟩

theorem blobOf_mem (d : Db) (i : Nat) (c : Ckpt) (h : blobOf d i = some c) : c ∈ d.arch ∧ c.id = i := by
  unfold blobOf at h
  exact ⟨List.mem_of_find?_eq_some h, by simpa using List.find?_some h⟩

theorem nameOf_eq {d : Db} {i : Nat} {c : Ckpt} (h : blobOf d i = some c) : nameOf d i = some c.name := by
  unfold nameOf; rw [h]; rfl

theorem DbInv.blobOf_some {d : Db} (h : DbInv d) (i : Nat) (hi : i < d.nextCk) :
    ∃ c, blobOf d i = some c ∧ c.id = i := by
  unfold blobOf
  have hm : i ∈ d.arch.map (·.id) := by rw [h.ids]; exact List.mem_range.mpr hi
  obtain ⟨c, hc, hci⟩ := List.mem_map.mp hm
  cases hf : d.arch.find? (fun x => decide (x.id = i)) with
  | none =>
    rw [List.find?_eq_none] at hf
    exact absurd (by simpa using hci) (hf c hc)
  | some c' => exact ⟨c', rfl, by simpa using List.find?_some hf⟩

theorem loadCk_mem (d : Db) (ord : List Nat) (x : Nat) (c : Ckpt) (h : loadCk d ord x = some c) :
    c ∈ d.arch ∧ resolve d ord x = some c.id := by
  unfold loadCk at h
  cases hr : resolve d ord x with
  | none => rw [hr] at h; cases h
  | some i =>
    rw [hr] at h
    have := blobOf_mem d i c h
    exact ⟨this.1, by rw [this.2]⟩

theorem put_cps (s : Store) (k : Key) (v : Val) : (s.put k v).cps = s.cps := by
  cases k <;> rfl

theorem delete_cps (s s' : Store) (k : Key) (hd : s.delete k = some s') : s'.cps = s.cps := by
  unfold Store.delete at hd
  split at hd
  · cases hd
  · cases k <;> (cases hd; rfl)

theorem cps_closed (c : List (Nat × Nat)) : Closed (fun s => s.cps = c) :=
  ⟨fun s k v h => by rw [put_cps]; exact h, fun s s' k hd h => by rw [delete_cps s s' k hd]; exact h,
   fun _ _ h => h⟩

theorem enforce_subset (max : Nat) (ord : List Nat) (L : List (Nat × Nat)) :
    ∀ p ∈ enforce max ord L, p ∈ L := by
  intro p hp
  unfold enforce at hp
  split at hp
  · exact hp
  · exact (List.mem_filter.mp hp).1

theorem enforce_sublist (max : Nat) (ord : List Nat) (L : List (Nat × Nat)) :
    (enforce max ord L).Sublist L := by
  unfold enforce
  split
  · exact List.Sublist.refl _
  · exact List.filter_sublist

theorem DbInv.fresh_nodup {d : Db} (h : DbInv d) (ts : Nat) :
    ((d.st.cps ++ [(d.nextCk, ts)]).map (·.1)).Nodup := by
  rw [List.map_append]
  refine List.nodup_append.mpr ⟨h.cpsNodup, by simp, ?_⟩
  intro a ha b hb
  simp only [List.map_cons, List.map_nil, List.mem_singleton] at hb
  subst hb
  intro e; subst e
  have := h.cpsLt _ ((alHas_iff _ _).mpr ha); omega

theorem DbInv.doCkpt {d : Db} (h : DbInv d) (ts : Nat) (ord : List Nat) (nm : Nat) :
    DbInv (doCkpt d ts ord nm).1 := by
  simp only [Neumann.Ckpt.doCkpt]
  have hlt : ∀ p ∈ d.st.cps, p.1 < d.nextCk :=
    fun p hp => h.cpsLt p.1 (alHas_of_mem hp)
  have hnoid : ∀ c ∈ d.arch, c.id ≠ d.nextCk := by
    intro c hc e
    have : c.id ∈ d.arch.map (·.id) := List.mem_map_of_mem hc
    rw [h.ids, List.mem_range] at this; omega
  -- the new blob has a fresh id: it says nothing about records whose ids were issued before
  have hext : ∀ cps : List (Nat × Nat), (∀ p ∈ cps, p.1 < d.nextCk) →
      (∀ p ∈ cps, ∀ c ∈ d.arch, c.id = p.1 → c.ts = p.2) →
      ∀ p ∈ cps, ∀ c ∈ d.arch ++ [⟨d.nextCk, ts, nm, d.st⟩], c.id = p.1 → c.ts = p.2 := by
    intro cps hl hts p hp
    refine forall_mem_snoc (hts p hp) fun e => ?_
    have := hl p hp
    rw [← e] at this
    exact absurd this (Nat.lt_irrefl _)
  refine ⟨h.wf.setCps _, forall_mem_snoc h.arch h.wf, ?_, ?_, ?_, ?_,
    forall_mem_snoc h.archNodup h.cpsNodup, ?_, ?_⟩
  · simp only [List.map_append, List.map_cons, List.map_nil, h.ids, List.range_succ]
  · intro i hi
    obtain ⟨p, hp, rfl⟩ := List.mem_map.mp ((alHas_iff _ _).mp hi)
    rcases List.mem_append.mp (enforce_subset _ _ _ p hp) with hp' | hp'
    · exact Nat.lt_succ_of_lt (hlt p hp')
    · rw [List.mem_singleton.mp hp']; exact Nat.lt_succ_self _
  · exact forall_mem_snoc (fun c hc i hi => Nat.lt_succ_of_lt (h.archCps c hc i hi))
      (fun i hi => Nat.lt_succ_of_lt (h.cpsLt i hi))
  · exact List.Nodup.sublist ((enforce_sublist _ _ _).map _) (h.fresh_nodup ts)
  · intro p hp
    rcases List.mem_append.mp (enforce_subset _ _ _ p hp) with hp' | hp'
    · exact hext d.st.cps hlt h.cpsTs p hp'
    · rw [List.mem_singleton.mp hp']
      exact forall_mem_snoc (fun c hc e => absurd e (hnoid c hc)) (fun _ => rfl)
  · exact forall_mem_snoc
      (fun c' hc' => hext c'.img.cps
        (fun p hp => h.archCps c' hc' p.1 (alHas_of_mem hp)) (h.archTs c' hc'))
      (hext d.st.cps hlt h.cpsTs)

theorem DbInv.step {d : Db} (h : DbInv d) (op : Op) : DbInv (step d op).1 := by
  by_cases hd : op.isData = true
  · have hk := WF.closed.step d op hd h.wf
    have hc : (Neumann.Ckpt.step d op).1.st.cps = d.st.cps := ((cps_closed d.st.cps).step d op hd rfl).st
    exact ⟨hk.st, by rw [hk.arch]; exact h.arch, by rw [hk.arch, hk.nextCk]; exact h.ids,
      by rw [hc, hk.nextCk]; exact h.cpsLt, by rw [hk.arch, hk.nextCk]; exact h.archCps,
      by rw [hc]; exact h.cpsNodup, by rw [hk.arch]; exact h.archNodup,
      by rw [hc, hk.arch]; exact h.cpsTs, by rw [hk.arch]; exact h.archTs⟩
  · cases op with
    | ckpt ts ord nm => exact h.doCkpt ts ord nm
    | ackpt ts ord nm => exact h.doCkpt ts ord nm
    | rollback x o =>
      simp only [Neumann.Ckpt.step, doRollback]
      cases hl : loadCk d o x with
      | none => exact h
      | some c =>
        have hc := (loadCk_mem d o x c hl).1
        exact ⟨restoreFrom_wf _ _, h.arch, h.ids, h.archCps c hc, h.archCps, h.archNodup c hc,
          h.archNodup, h.archTs c hc, h.archTs⟩
    | ckdel x o =>
      simp only [Neumann.Ckpt.step, doCkDel]
      cases hr : resolve d o x with
      | none => exact h
      | some i =>
        refine ⟨h.wf.setCps _, h.arch, h.ids, ?_, h.archCps, alDel_nodup _ _ h.cpsNodup, h.archNodup,
          ?_, h.archTs⟩
        · intro j hj
          dsimp only at hj
          exact h.cpsLt j ((alHas_alDel _ _ _).mp hj).2
        · intro p hp
          exact h.cpsTs p ((alDel_sublist _ _).subset hp)
    | setmax n =>
      exact ⟨h.wf, h.arch, h.ids, h.cpsLt, h.archCps, h.cpsNodup, h.archNodup, h.cpsTs, h.archTs⟩
    | _ => exact absurd rfl hd

theorem run_cons (d : Db) (op : Op) (ops : List Op) : run d (op :: ops) = run (step d op).1 ops := rfl

theorem DbInv.run {d : Db} (h : DbInv d) (ops : List Op) : DbInv (run d ops) := by
  induction ops generalizing d with
  | nil => exact h
  | cons op ops ih =>
    rw [run_cons]
    exact ih (h.step op)

theorem step_arch_prefix (d : Db) (op : Op) : ∃ ext, (step d op).1.arch = d.arch ++ ext := by
  by_cases hd : op.isData = true
  · exact ⟨[], by rw [(step_frame d op hd).1]; simp⟩
  · cases op with
    | ckpt ts ord nm => exact ⟨_, rfl⟩
    | ackpt ts ord nm => exact ⟨_, rfl⟩
    | rollback i o =>
      refine ⟨[], ?_⟩
      simp only [Neumann.Ckpt.step, doRollback]
      cases loadCk d o i <;> simp
    | ckdel i o =>
      refine ⟨[], ?_⟩
      simp only [Neumann.Ckpt.step, doCkDel]
      cases resolve d o i <;> simp
    | setmax n => exact ⟨[], by simp [Neumann.Ckpt.step]⟩
    | _ => exact absurd rfl hd

theorem run_arch_prefix (d : Db) (ops : List Op) : ∃ ext, (run d ops).arch = d.arch ++ ext := by
  induction ops generalizing d with
  | nil => exact ⟨[], by simp [run]⟩
  | cons op ops ih =>
    rw [run_cons]
    obtain ⟨e1, h1⟩ := step_arch_prefix d op
    obtain ⟨e2, h2⟩ := ih (step d op).1
    exact ⟨e1 ++ e2, by rw [h2, h1, List.append_assoc]⟩

theorem blob_after (d0 : Db) (h : DbInv d0) (ts : Nat) (ord : List Nat) (nm : Nat) (post : List Op) :
    blobOf (run (step d0 (.ckpt ts ord nm)).1 post) d0.nextCk = some ⟨d0.nextCk, ts, nm, d0.st⟩ := by
  obtain ⟨ext, he⟩ := run_arch_prefix (step d0 (.ckpt ts ord nm)).1 post
  unfold blobOf
  rw [he]
  have h1 : (step d0 (.ckpt ts ord nm)).1.arch = d0.arch ++ [⟨d0.nextCk, ts, nm, d0.st⟩] := rfl
  rw [h1, List.append_assoc, List.find?_append]
  have hnone : d0.arch.find? (fun x => decide (x.id = d0.nextCk)) = none := by
    rw [List.find?_eq_none]
    intro x hx
    have : x.id ∈ d0.arch.map (·.id) := List.mem_map_of_mem hx
    rw [h.ids, List.mem_range] at this
    simp; omega
  rw [hnone]
  simp

theorem load_after (d0 : Db) (h : DbInv d0) (ts : Nat) (ord : List Nat) (nm : Nat) (post : List Op)
    (o : List Nat) (x : Nat) (c : Ckpt)
    (hr : resolve (run (step d0 (.ckpt ts ord nm)).1 post) o x = some d0.nextCk)
    (hl : loadCk (run (step d0 (.ckpt ts ord nm)).1 post) o x = some c) : c.img = d0.st := by
  unfold loadCk at hl
  rw [hr] at hl
  dsimp only at hl
  rw [blob_after d0 h ts ord nm post] at hl
  cases hl
  rfl

theorem WF.has_emb {s : Store} (h : WF s) (n : Nat) : s.has (.emb n) = alHas s.md (.emb n) := by
  simp only [Store.has]
  have h1 := h.eidxSub n
  cases e1 : alHas s.eidx n <;> simp_all

theorem WF.get_has_congr {a b : Store} (ha : WF a) (hb : WF b)
    (hmd : ∀ k, alGet a.md k = alGet b.md k) (hc : a.cache = b.cache) :
    a.get = b.get ∧ a.has = b.has := by
  constructor
  · funext k
    by_cases hk : k.notCache = true
    · rw [ha.get_eq k hk, hb.get_eq k hk, hmd]
    · cases k with
      | cache n => simp only [Store.get, hc]
      | _ => exact absurd rfl hk
  · funext k
    cases k with
    | emb n => rw [ha.has_emb, hb.has_emb]; unfold alHas; rw [hmd]
    | cache n => simp only [Store.has, hc]
    | _ => simp only [Store.has, alHas, hmd]

theorem WF.view_eq {a b : Store} (ha : WF a) (hb : WF b) (hmd : a.md = b.md) (hc : a.cache = b.cache) :
    a.get = b.get ∧ a.has = b.has ∧ a.scanAll = b.scanAll :=
  have h := ha.get_has_congr hb (fun _ => by rw [hmd]) hc
  ⟨h.1, h.2, by rw [ha.scanAll, hb.scanAll, hmd, hc]⟩

theorem kvObs_congr (d d' : Db) (hmd : d.st.md = d'.st.md) (hg : d.st.get = d'.st.get)
    (hh : d.st.has = d'.st.has) (hs : d.st.scanAll = d'.st.scanAll) : kvObs d = kvObs d' := by
  unfold kvObs qNodes qEdges qNeighbors qEmbs qRaw tables nodeIds edgeIds nodeLabel edgeEnds embKeys
    getEmbedding
  simp only [hmd, hg, hh, hs]

theorem DbInv.live_mem {d : Db} (h : DbInv d) (i : Nat) (hl : alHas d.st.cps i = true) (c : Ckpt)
    (hb : blobOf d i = some c) : (i, c.ts) ∈ d.st.cps := by
  obtain ⟨p, hp, hpi⟩ := List.mem_map.mp ((alHas_iff _ _).mp hl)
  have hc := blobOf_mem d i c hb
  have := h.cpsTs p hp c hc.1 (by rw [hc.2, hpi])
  obtain ⟨a, b⟩ := p
  simp only at hpi this
  subst hpi; subst this
  exact hp

theorem ckMatches_iff (d : Db) (x i ts : Nat) (c : Ckpt) (hb : blobOf d i = some c) :
    ckMatches d x (i, ts) = true ↔ (i = x ∨ c.name = x) := by
  unfold ckMatches nameOf
  rw [hb]
  simp

theorem rollback_core (d0 d2 : Db) (hwf : WF d0.st) (x : Nat) (o : List Nat) (d3 : Db)
    (himg : ∀ c, loadCk d2 o x = some c → c.img = d0.st)
    (hstep : step d2 (.rollback x o) = (d3, .ok)) :
    d3.st.md = d0.st.md ∧ d3.st.cache = d0.st.cache ∧ d3.st.rel = [] ∧ kvObs d3 = kvObs d0 ∧
      d3.st.cps = d0.st.cps ∧ WF d3.st ∧ d3 = { d2 with st := Store.restoreFrom d0.st d2.st } := by
  simp only [step, doRollback] at hstep
  cases hl : loadCk d2 o x with
  | none =>
    rw [hl] at hstep
    exact absurd (congrArg Prod.snd hstep) (by simp)
  | some c =>
    rw [hl] at hstep
    cases hstep
    rw [himg c hl]
    have hf := restoreFrom_fields hwf d2.st
    have hw := restoreFrom_wf d0.st d2.st
    have hv := WF.view_eq hw hwf hf.1 hf.2.1
    exact ⟨hf.1, hf.2.1, hf.2.2.1, kvObs_congr _ d0 hf.1 hv.1 hv.2.1 hv.2.2, hf.2.2.2, hw, rfl⟩

theorem rollback_ok_resolved (d : Db) (x : Nat) (o : List Nat) (h : (step d (.rollback x o)).2 = .ok) :
    ∃ i, resolve d o x = some i := by
  simp only [step, doRollback] at h
  cases hl : loadCk d o x with
  | none => rw [hl] at h; cases h
  | some c => exact ⟨c.id, (loadCk_mem d o x c hl).2⟩

theorem DbInv.resolve_id {d : Db} (h : DbInv d) (o : List Nat) (i : Nat) (hl : alHas d.st.cps i = true) :
    resolve d o i = some i := by
  obtain ⟨p, hp, hpi⟩ := List.mem_map.mp ((alHas_iff _ _).mp hl)
  have hin := mem_ckList o _ h.cpsNodup p hp
  unfold resolve
  cases hf : (ckList o d.st.cps).find? (ckIdIs i) with
  | none =>
    exact absurd (decide_eq_true hpi) (List.find?_eq_none.mp hf p hin)
  | some a => exact congrArg some (of_decide_eq_true (List.find?_some hf :))

theorem DbInv.resolve_spec {d : Db} (h : DbInv d) (o : List Nat) (x i : Nat)
    (hr : resolve d o x = some i) :
    alHas d.st.cps i = true ∧ (alHas d.st.cps x = true → i = x) ∧
      (alHas d.st.cps x = false → nameOf d i = some x ∧
        ∀ j c c', blobOf d i = some c → alHas d.st.cps j = true → blobOf d j = some c' →
          c'.name = x → c'.ts ≤ c.ts) := by
  have hlive := resolve_live d o x i hr
  refine ⟨hlive, fun hx => Option.some.inj (hr.symm.trans (h.resolve_id o x hx)), fun hx => ?_⟩
  obtain ⟨ts, hm, hid | ⟨_, hname, hnew⟩⟩ := resolve_some d o x i hr
  · rw [hid, hx] at hlive; cases hlive
  · refine ⟨hname, fun j c c' hb hj hb' hn => ?_⟩
    have hc := blobOf_mem d i c hb
    have hts : c.ts = ts := h.cpsTs _ hm c hc.1 hc.2
    have := hnew (j, c'.ts) (mem_ckList o _ h.cpsNodup _ (h.live_mem j hj c' hb'))
      (by rw [nameOf_eq hb', hn])
    rw [hts]; exact this

theorem find?_congr' {α} (p q : α → Bool) (l : List α) (h : ∀ a ∈ l, p a = q a) :
    l.find? p = l.find? q := by
  induction l with
  | nil => rfl
  | cons y ys ih =>
    simp only [List.find?_cons, h y List.mem_cons_self]
    rw [ih fun a ha => h a (List.mem_cons_of_mem _ ha)]

theorem resolveOld_eq (d : Db) (o : List Nat) (x : Nat)
    (h : (∀ b ∈ ckList o d.st.cps, b.1 ≠ x) ∨ (∀ b ∈ ckList o d.st.cps, nameOf d b.1 ≠ some x)) :
    resolveOld d o x = resolve d o x := by
  unfold resolveOld resolve
  rcases h with h | h
  · have h1 : (ckList o d.st.cps).find? (ckIdIs x) = none := by
      rw [List.find?_eq_none]
      exact fun b hb hq => h b hb (of_decide_eq_true hq)
    have h2 : (ckList o d.st.cps).find? (ckMatches d x) = (ckList o d.st.cps).find? (ckNameIs d x) := by
      apply find?_congr'
      intro b hb
      have := h b hb
      simp [ckMatches, ckNameIs, this]
    rw [h1, h2]
  · have h2 : (ckList o d.st.cps).find? (ckMatches d x) = (ckList o d.st.cps).find? (ckIdIs x) := by
      apply find?_congr'
      intro b hb
      have := h b hb
      simp [ckMatches, ckIdIs, this]
    have h3 : (ckList o d.st.cps).find? (ckNameIs d x) = none := by
      rw [List.find?_eq_none]
      exact fun b hb hq => h b hb (of_decide_eq_true hq)
    rw [h2, h3]
    cases (ckList o d.st.cps).find? (ckIdIs x) <;> rfl

theorem eq_of_nodup_map {α β : Type} (f : α → β) (l : List α) (h : (l.map f).Nodup) (p q : α)
    (hp : p ∈ l) (hq : q ∈ l) (e : f p = f q) : p = q := by
  induction l with
  | nil => cases hp
  | cons x xs ih =>
    simp only [List.map_cons, List.nodup_cons] at h
    rcases List.mem_cons.mp hp with hp | hp <;> rcases List.mem_cons.mp hq with hq | hq
    · rw [hp, hq]
    · have hm : f q ∈ xs.map f := List.mem_map_of_mem hq
      rw [← e, hp] at hm
      exact absurd hm h.1
    · have hm : f p ∈ xs.map f := List.mem_map_of_mem hp
      rw [e, hq] at hm
      exact absurd hm h.1
    · exact ih h.2 hp hq

theorem enforce_spec (max : Nat) (ord : List Nat) (L : List (Nat × Nat)) (hn : (L.map (·.1)).Nodup) :
    (enforce max ord L).length = min max L.length ∧
    (∀ p, p ∈ enforce max ord L ↔ p ∈ (ckList ord L).take max) ∧
    ∀ q ∈ L, q ∉ enforce max ord L → ∀ k ∈ enforce max ord L, q.2 ≤ k.2 := by
  have hperm := ckList_perm ord L hn
  have hLn : L.Nodup := nodup_of_map _ _ hn
  have hcn : (ckList ord L).Nodup := hperm.nodup_iff.mpr hLn
  have hmem : ∀ p, p ∈ enforce max ord L ↔ p ∈ (ckList ord L).take max := by
    intro p
    unfold enforce
    split
    · rename_i hle
      rw [List.take_of_length_le (by rw [hperm.length_eq]; exact hle)]
      exact (hperm.mem_iff).symm
    · constructor
      · intro hp
        obtain ⟨hpL, hk⟩ := List.mem_filter.mp hp
        simp only [retainIds, List.contains_eq_mem, decide_eq_true_eq] at hk
        obtain ⟨q, hq, hqp⟩ := List.mem_map.mp hk
        have hqL : q ∈ L := ckList_mem ord L q (List.mem_of_mem_take hq)
        rw [← eq_of_nodup_map (·.1) L hn q p hqL hpL hqp]
        exact hq
      · intro hp
        refine List.mem_filter.mpr ⟨ckList_mem ord L p (List.mem_of_mem_take hp), ?_⟩
        simp only [retainIds, List.contains_eq_mem, decide_eq_true_eq]
        exact List.mem_map_of_mem hp
  have hen : (enforce max ord L).Nodup := List.Nodup.sublist (enforce_sublist max ord L) hLn
  have htn : ((ckList ord L).take max).Nodup := List.Nodup.sublist (List.take_sublist _ _) hcn
  have hp2 : (enforce max ord L).Perm ((ckList ord L).take max) :=
    (List.perm_ext_iff_of_nodup hen htn).mpr hmem
  refine ⟨?_, hmem, ?_⟩
  · rw [hp2.length_eq, List.length_take, hperm.length_eq]
  · intro q hq hnot k hk
    exact ckList_take_newest ord L hn max q hq (fun hq' => hnot ((hmem q).mpr hq')) k ((hmem k).mp hk)

theorem DbInv.doCkpt_cps {d : Db} (h : DbInv d) (ts : Nat) (ord : List Nat) (nm : Nat) :
    (Neumann.Ckpt.doCkpt d ts ord nm).1.st.cps.length = min d.maxCk (d.st.cps ++ [(d.nextCk, ts)]).length ∧
      (∀ p ∈ (Neumann.Ckpt.doCkpt d ts ord nm).1.st.cps, p ∈ d.st.cps ++ [(d.nextCk, ts)]) ∧
      ∀ q ∈ d.st.cps ++ [(d.nextCk, ts)], q ∉ (Neumann.Ckpt.doCkpt d ts ord nm).1.st.cps →
        ∀ k ∈ (Neumann.Ckpt.doCkpt d ts ord nm).1.st.cps, q.2 ≤ k.2 :=
  have hs := enforce_spec d.maxCk ord _ (h.fresh_nodup ts)
  ⟨hs.1, enforce_subset _ _ _, hs.2.2⟩

/-- The full statement: for every statement sequence `pre` before the checkpoint (which may itself
    contain checkpoints and rollbacks: repeated cycles, several checkpoints), every sequence `post`
    after it, every probe set, every target string `x` (an id or a name) that resolves to that
    checkpoint: if `ROLLBACK TO x` is accepted, the whole observable
    image (table scans, index-path queries, graph, embeddings, searches, raw keys) is the one at
    checkpoint time, and no checkpoint that was listed before the rollback is lost by it. -/
def RollbackExact : Prop :=
  ∀ (p : Probes) (pre post : List Op) (ts : Nat) (ord : List Nat) (nm : Nat) (x : Nat) (o : List Nat)
    (d3 : Db),
    let d0 := run {} pre
    let d2 := run (step d0 (.ckpt ts ord nm)).1 post
    resolve d2 o x = some d0.nextCk → step d2 (.rollback x o) = (d3, .ok) →
      obs p d3 = obs p d0 ∧ ∀ i, alHas d2.st.cps i = true → alHas d3.st.cps i = true

def probes0 : Probes := ⟨[1, 2], [1], [[1, 1, 1]]⟩

end Neumann.Ckpt
