import NeumannModel.Ckpt.Slab
import NeumannModel.Ckpt.Lemmas
/-
  C08 — the slot allocator of `EmbeddingSlab` implements the abstract entity ↦ vector map.
-/
namespace Neumann.Ckpt.Slab
open Neumann.Ckpt

theorem insertSorted_perm (k v : Nat) (l : List (Nat × Nat)) : (insertSorted k v l).Perm ((k, v) :: l) := by
  induction l with
  | nil => exact List.Perm.refl _
  | cons p r ih =>
    simp only [insertSorted]
    split
    · exact List.Perm.refl _
    · exact (List.Perm.cons p ih).trans (List.Perm.swap _ _ _)

theorem alGet_insertSorted (k v : Nat) (l : List (Nat × Nat)) (x : Nat) (h : k ∉ l.map (·.1)) :
    alGet (insertSorted k v l) x = if k = x then some v else alGet l x := by
  induction l with
  | nil => simp [insertSorted, alGet]
  | cons p r ih =>
    obtain ⟨a, b⟩ := p
    simp only [List.map_cons, List.mem_cons, not_or] at h
    simp only [insertSorted]
    split
    · simp only [alGet]
    · simp only [alGet, ih h.2]
      by_cases hax : a = x
      · have : ¬ k = x := fun e => h.1 (e.trans hax.symm)
        simp [hax, this]
      · simp [hax]

theorem not_mem_keys_of_alGet_none {β : Type} (l : List (Nat × β)) (k : Nat) (h : alGet l k = none) :
    k ∉ l.map (·.1) := by
  intro hm
  have := (alGet_isSome_iff l k).mpr hm
  rw [h] at this
  cases this

theorem alDel_of_not_mem {β : Type} (l : List (Nat × β)) (k : Nat) (h : k ∉ l.map (·.1)) : alDel l k = l := by
  induction l with
  | nil => rfl
  | cons p r ih =>
    obtain ⟨a, b⟩ := p
    simp only [List.map_cons, List.mem_cons, not_or] at h
    have : ¬ a = k := fun e => h.1 e.symm
    simp [alDel, this, ih h.2]

theorem perm_alDel {β : Type} (l : List (Nat × β)) (k : Nat) (v : β) (hn : (l.map (·.1)).Nodup)
    (h : alGet l k = some v) : l.Perm ((k, v) :: alDel l k) := by
  induction l with
  | nil => simp [alGet] at h
  | cons p r ih =>
    obtain ⟨a, b⟩ := p
    simp only [List.map_cons, List.nodup_cons] at hn
    by_cases e : a = k
    · subst e
      simp only [alGet, if_true, Option.some.injEq] at h
      subst h
      simp only [alDel, if_true]
      rw [alDel_of_not_mem r a hn.1]
    · simp only [alGet, e, if_false] at h
      simp only [alDel, e, if_false]
      exact (List.Perm.cons (a, b) (ih hn.2 h)).trans (List.Perm.swap _ _ _)

theorem alGet_map_val {β γ : Type} (l : List (Nat × β)) (f : β → γ) (x : Nat) :
    alGet (l.map fun p => (p.1, f p.2)) x = (alGet l x).map f := by
  induction l with
  | nil => rfl
  | cons p r ih =>
    obtain ⟨a, b⟩ := p
    by_cases h : a = x <;> simp [alGet, h, ih]

theorem memGet_alPut (m : List (Nat × Int)) (sl : Nat) (v : Int) (x : Nat) :
    memGet (alPut m sl v) x = if sl = x then v else memGet m x := by
  unfold memGet
  rw [alGet_alPut]
  split <;> rfl

/-- the allocator invariant: entities have distinct slots, no used slot is on the free stack, the
    free stack has no duplicates, and every slot handed out so far is below `write_pos` -/
structure SlabOk (s : Slab) : Prop where
  keys : (s.idx.map (·.1)).Nodup
  slots : (s.idx.map (·.2) ++ s.free).Nodup
  lt : ∀ sl ∈ s.idx.map (·.2) ++ s.free, sl < s.pos

theorem SlabOk.empty : SlabOk {} := ⟨by simp, by simp, by simp⟩

theorem SlabOk.slot_inj {s : Slab} (h : SlabOk s) (a b sl : Nat) (ha : alGet s.idx a = some sl)
    (hb : alGet s.idx b = some sl) : a = b := by
  have hn : (s.idx.map (·.2)).Nodup := (List.nodup_append.mp h.slots).1
  have := eq_of_nodup_map (·.2) s.idx hn (a, sl) (b, sl) (alGet_mem _ _ _ ha) (alGet_mem _ _ _ hb) rfl
  exact congrArg Prod.fst this

theorem set_some (s : Slab) (e sl : Nat) (v : Int) (h : alGet s.idx e = some sl) :
    set s e v = { s with mem := alPut s.mem sl v } := by
  unfold set; rw [h]

theorem set_free (s : Slab) (e : Nat) (v : Int) (sl : Nat) (r : List Nat) (h : alGet s.idx e = none)
    (hf : s.free = sl :: r) :
    set s e v = { idx := insertSorted e sl s.idx, free := r, pos := s.pos, mem := alPut s.mem sl v } := by
  simp only [set, alloc, h, hf]

theorem set_bump (s : Slab) (e : Nat) (v : Int) (h : alGet s.idx e = none) (hf : s.free = []) :
    set s e v = { idx := insertSorted e s.pos s.idx, free := [], pos := s.pos + 1,
                  mem := alPut s.mem s.pos v } := by
  simp only [set, alloc, h, hf]

theorem SlabOk.insert {s : Slab} (h : SlabOk s) (e sl : Nat) (r : List Nat) (pos : Nat) (m : List (Nat × Int))
    (hk : e ∉ s.idx.map (·.1)) (hs : (s.idx.map (·.2) ++ sl :: r).Nodup)
    (hlt : ∀ x ∈ s.idx.map (·.2) ++ sl :: r, x < pos) :
    SlabOk { idx := insertSorted e sl s.idx, free := r, pos := pos, mem := m } := by
  have hp := insertSorted_perm e sl s.idx
  have hperm : ((insertSorted e sl s.idx).map (·.2) ++ r).Perm (s.idx.map (·.2) ++ sl :: r) :=
    ((hp.map (fun q : Nat × Nat => q.2)).append_right r).trans List.perm_middle.symm
  exact ⟨(hp.map (fun q : Nat × Nat => q.1)).nodup_iff.mpr (List.nodup_cons.mpr ⟨hk, h.keys⟩),
    hperm.nodup_iff.mpr hs, fun x hm => hlt x (hperm.mem_iff.mp hm)⟩

theorem SlabOk.set {s : Slab} (h : SlabOk s) (e : Nat) (v : Int) : SlabOk (set s e v) := by
  cases hg : alGet s.idx e with
  | some sl => rw [set_some s e sl v hg]; exact ⟨h.keys, h.slots, h.lt⟩
  | none =>
    have hk := not_mem_keys_of_alGet_none _ _ hg
    have hs := h.slots
    have hl := h.lt
    cases hf : s.free with
    | nil =>
      rw [set_bump s e v hg hf]
      rw [hf, List.append_nil] at hs hl
      refine h.insert e s.pos [] (s.pos + 1) _ hk ?_ ?_
      · refine List.nodup_append.mpr ⟨hs, by simp, fun a ha b hb e => ?_⟩
        rw [List.mem_singleton.mp hb] at e
        exact absurd (hl a ha) (e ▸ Nat.lt_irrefl _)
      · intro x hx
        rcases List.mem_append.mp hx with hx | hx
        · exact Nat.lt_succ_of_lt (hl x hx)
        · rw [List.mem_singleton.mp hx]; exact Nat.lt_succ_self _
    | cons sl r =>
      rw [set_free s e v sl r hg hf]
      rw [hf] at hs hl
      exact h.insert e sl r s.pos _ hk hs hl

theorem get_set {s : Slab} (h : SlabOk s) (e : Nat) (v : Int) (x : Nat) :
    get (set s e v) x = if e = x then some v else get s x := by
  cases hg : alGet s.idx e with
  | some sl =>
    rw [set_some s e sl v hg]
    unfold get
    dsimp only
    by_cases hex : e = x
    · subst hex
      simp [hg, memGet_alPut]
    · rw [if_neg hex]
      cases hx : alGet s.idx x with
      | none => rfl
      | some sl' =>
        have : ¬ sl = sl' := fun e' => hex (h.slot_inj e x sl hg (e' ▸ hx))
        simp [memGet_alPut, this]
  | none =>
    have hk := not_mem_keys_of_alGet_none _ _ hg
    -- the slot handed out is not the slot of any indexed entity
    have key : ∀ (sl : Nat), sl ∉ s.idx.map (·.2) →
        get { idx := insertSorted e sl s.idx, free := (set s e v).free, pos := (set s e v).pos,
              mem := alPut s.mem sl v } x = if e = x then some v else get s x := by
      intro sl hfresh
      unfold get
      dsimp only
      rw [alGet_insertSorted e sl s.idx x hk]
      by_cases hex : e = x
      · simp [hex, memGet_alPut]
      · rw [if_neg hex, if_neg hex]
        cases hx : alGet s.idx x with
        | none => rfl
        | some sl' =>
          have : ¬ sl = sl' := by
            intro e'
            apply hfresh
            rw [e']
            exact List.mem_map_of_mem (f := (·.2)) (alGet_mem _ _ _ hx)
          simp [memGet_alPut, this]
    cases hf : s.free with
    | nil =>
      have hfresh : s.pos ∉ s.idx.map (·.2) := by
        intro hm
        have := h.lt s.pos (List.mem_append_left _ hm)
        omega
      have := key s.pos hfresh
      rw [set_bump s e v hg hf] at this ⊢
      exact this
    | cons sl r =>
      have hfresh : sl ∉ s.idx.map (·.2) := by
        intro hm
        have hs := h.slots
        rw [hf] at hs
        exact (List.nodup_append.mp hs).2.2 sl hm sl (by simp) rfl
      have := key sl hfresh
      rw [set_free s e v sl r hg hf] at this ⊢
      exact this

theorem SlabOk.delete {s : Slab} (h : SlabOk s) (e : Nat) : SlabOk (delete s e) := by
  unfold Slab.delete
  cases hg : alGet s.idx e with
  | none => exact h
  | some sl =>
    have hp := perm_alDel s.idx e sl h.keys hg
    have hperm : ((alDel s.idx e).map (·.2) ++ sl :: s.free).Perm (s.idx.map (·.2) ++ s.free) :=
      List.perm_middle.trans ((hp.map (fun q : Nat × Nat => q.2)).append_right s.free).symm
    exact ⟨alDel_nodup _ _ h.keys, hperm.nodup_iff.mpr h.slots,
      fun x hm => h.lt x (hperm.mem_iff.mp hm)⟩

theorem get_delete (s : Slab) (e x : Nat) :
    get (delete s e) x = if e = x then none else get s x := by
  unfold Slab.delete
  cases hg : alGet s.idx e with
  | none =>
    by_cases hex : e = x
    · subst hex; simp [get, hg]
    · simp [hex]
  | some sl =>
    unfold get
    dsimp only
    rw [alGet_alDel]
    by_cases hex : e = x <;> simp [hex]

theorem SlabOk.clear (s : Slab) : SlabOk (clear s) := ⟨by simp [Slab.clear], by simp [Slab.clear], by simp [Slab.clear]⟩

theorem get_clear (s : Slab) (x : Nat) : get (clear s) x = none := by simp [get, Slab.clear, alGet]

/-- the refinement relation: the slot-level slab `s` represents the abstract map `a` -/
def Rep (s : Slab) (a : List (Nat × Int)) : Prop := SlabOk s ∧ ∀ x, get s x = alGet a x

theorem Rep.set {s : Slab} {a : List (Nat × Int)} (h : Rep s a) (e : Nat) (v : Int) :
    Rep (Neumann.Ckpt.Slab.set s e v) (alPut a e v) :=
  ⟨h.1.set e v, fun x => by rw [get_set h.1, alGet_alPut, h.2 x]⟩

theorem Rep.delete {s : Slab} {a : List (Nat × Int)} (h : Rep s a) (e : Nat) :
    Rep (Neumann.Ckpt.Slab.delete s e) (alDel a e) :=
  ⟨h.1.delete e, fun x => by rw [get_delete, alGet_alDel, h.2 x]⟩

theorem Rep.clear (s : Slab) : Rep (Neumann.Ckpt.Slab.clear s) [] := ⟨SlabOk.clear s, fun x => by rw [get_clear]; rfl⟩

theorem Rep.setAll {s : Slab} {a : List (Nat × Int)} (h : Rep s a) (l : List (Nat × Int)) :
    Rep (Neumann.Ckpt.Slab.setAll s l) (l.foldl (fun a p => alPut a p.1 p.2) a) := by
  induction l generalizing s a with
  | nil => exact h
  | cons p r ih => exact ih (h.set p.1 p.2)

theorem entries_keys (s : Slab) : (entries s).map (·.1) = s.idx.map (·.1) := by
  unfold entries
  rw [List.map_map]
  rfl

theorem alGet_entries (s : Slab) (x : Nat) : alGet (entries s) x = get s x := by
  unfold entries get
  exact alGet_map_val s.idx (memGet s.mem) x

theorem Rep.rebuild {s t : Slab} {a : List (Nat × Int)} (h : Rep s a) (ht : Rep t []) :
    Rep (Neumann.Ckpt.Slab.setAll t (entries s)) a := by
  have h1 := ht.setAll (entries s)
  refine ⟨h1.1, fun x => ?_⟩
  rw [h1.2 x, foldl_alPut_of_nodup _ [] (by rw [entries_keys]; exact h.1.keys), List.nil_append,
    alGet_entries, ← h.2 x]

theorem Rep.compact {s : Slab} {a : List (Nat × Int)} (h : Rep s a) : Rep (Neumann.Ckpt.Slab.compact s) a := by
  unfold Slab.compact
  dsimp only
  split
  · exact h
  · exact h.rebuild (Rep.clear s)

theorem Rep.reload {s : Slab} {a : List (Nat × Int)} (h : Rep s a) : Rep (Neumann.Ckpt.Slab.reload s) a :=
  h.rebuild ⟨SlabOk.empty, fun _ => rfl⟩

theorem Rep.step {s : Slab} {a : List (Nat × Int)} (h : Rep s a) (op : SOp) : Rep (sstep s op) (astep a op) := by
  cases op with
  | set e v => exact h.set e v
  | del e => exact h.delete e
  | clear => exact Rep.clear s
  | compact => exact h.compact
  | reload => exact h.reload

theorem Rep.run {s : Slab} {a : List (Nat × Int)} (h : Rep s a) (ops : List SOp) :
    Rep (srun s ops) (arun a ops) := by
  induction ops generalizing s a with
  | nil => exact h
  | cons op ops ih => exact ih (h.step op)

end Neumann.Ckpt.Slab
