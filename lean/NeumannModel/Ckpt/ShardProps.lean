import NeumannModel.Ckpt.ShardLemmas
/-
  C08 — the rollback path through the SHARDED metadata slab (`MetadataSlab::restore`): what comes
  back does not depend on how keys are assigned to shards.

  Why it matters for C08: `restore_from_bytes` re-puts exactly what `scan("")` + `get` of the router
  rebuilt from the checkpoint bytes show.  The checkpoint model reads the image's metadata map as ONE
  association list (`Store.md`); the code reads it through 16 shards chosen by the key's first byte.
  The theorems below close that gap for every assignment of keys to shards and every shard count —
  "nothing that existed at the checkpoint is missing" cannot depend on which key families happen to
  share a shard — and `restore_assigns_runs_loses_keys_witness` shows a restore that builds each shard
  from runs of the sorted snapshot losing exactly the keys of a shard's earlier run.
-/
namespace Neumann.Ckpt.Shard.Props

open Neumann.Ckpt Neumann.Ckpt.Shard

variable {α β : Type} [DecidableEq α]

/-- `MetadataSlab::restore` is layout-independent, lookups: for EVERY snapshot entry list `data`
    (sorted or not, duplicate keys or not), every shard count and every assignment of keys to shards
    — two of them side by side — `get` on the restored slab answers what the ONE-map build of the
    same entries answers: the value of the last entry under that key, nothing if there is none. -/
theorem restore_get_layout_independent (n n' : Nat) (sh sh' : α → Nat) (data : List (α × β)) (k : α) :
    get n sh (restore n sh data) k = alGet (single data) k ∧
    get n sh (restore n sh data) k = get n' sh' (restore n' sh' data) k := by
  have h : ∀ (m : Nat) (f : α → Nat), get m f (restore m f data) k = alGet (single data) k := by
    intro m f
    unfold restore
    rw [get_foldl, single_get]
    cases lastVal data k <;> simp [get, Shard.empty, alGet]
  exact ⟨h n sh, by rw [h n sh, h n' sh']⟩

-- non-vacuity: `edge:` / `user:` (first bytes 0x65, 0x75: one shard of 16) and `node:` (0x6E), a
-- replaced value; 16 shards by first byte against 3 shards by length
example :
    let data : List (List Nat × Nat) := [([0x65, 1], 10), ([0x6E, 1], 20), ([0x75, 1], 30), ([0x65, 1], 11)]
    get 16 firstByte (restore 16 firstByte data) [0x65, 1] = some 11 ∧
    get 3 List.length (restore 3 List.length data) [0x65, 1] = some 11 ∧
    get 16 firstByte (restore 16 firstByte data) [0x75, 1] = some 30 := by decide +kernel

/-- `MetadataSlab::restore` is layout-independent, key set: for every snapshot entry list, every
    positive shard count and EVERY assignment of keys to shards, the restored slab lists (`scan("")` /
    `keys()`, all shards merged) exactly the keys of the snapshot — each once —, `len` is the number
    of distinct snapshot keys, every listed entry is found by `get` in its own shard with that value
    (what `restore_from_bytes` relies on when it copies `scan` + `get`), and when the snapshot has
    unique keys (it is a map) the restored entries are the snapshot entries up to order. -/
theorem restore_key_set_is_image_key_set (n : Nat) (hn : 0 < n) (sh : α → Nat) (data : List (α × β)) :
    (∀ k, k ∈ (entries n (restore n sh data)).map (·.1) ↔ k ∈ data.map (·.1)) ∧
    ((entries n (restore n sh data)).map (·.1)).Nodup ∧
    (entries n (restore n sh data)).length = (single data).length ∧
    (∀ p ∈ entries n (restore n sh data), get n sh (restore n sh data) p.1 = some p.2) ∧
    ((data.map (·.1)).Nodup → (entries n (restore n sh data)).Perm data) := by
  have hp := Placed.restore n sh data
  have hkeys : ∀ k, k ∈ (entries n (restore n sh data)).map (·.1) ↔ k ∈ data.map (·.1) := by
    intro k
    rw [← alGet_isSome_iff, alGet_entries hp hn, (restore_get_layout_independent n n sh sh data k).1,
      alGet_isSome_iff, single_keys]
  have hnd := entries_nodup hp
  have hget : ∀ p ∈ entries n (restore n sh data), get n sh (restore n sh data) p.1 = some p.2 := by
    intro p hpm
    rw [← alGet_entries hp hn]
    exact alGet_some_of_mem _ hnd p hpm
  refine ⟨hkeys, hnd, ?_, hget, ?_⟩
  · have hperm : ((entries n (restore n sh data)).map (·.1)).Perm ((single data).map (·.1)) :=
      (List.perm_ext_iff_of_nodup hnd (single_nodup data)).mpr fun k => by rw [hkeys, single_keys]
    simpa using hperm.length_eq
  · intro hd
    refine (List.perm_ext_iff_of_nodup (nodup_of_map _ _ hnd) (nodup_of_map _ _ hd)).mpr ?_
    intro p
    constructor
    · intro hpm
      have h1 := hget p hpm
      rw [(restore_get_layout_independent n n sh sh data p.1).1, single_of_nodup data hd] at h1
      exact alGet_mem _ _ _ h1
    · intro hpm
      have h1 : alGet data p.1 = some p.2 := alGet_some_of_mem _ hd p hpm
      rw [← single_of_nodup data hd, ← (restore_get_layout_independent n n sh sh data p.1).1,
        ← alGet_entries hp hn] at h1
      exact alGet_mem _ _ _ h1

-- non-vacuity: three key families, two of them in one shard, several keys each
example :
    let data : List (List Nat × Nat) :=
      [([0x65, 1], 10), ([0x65, 2], 11), ([0x6E, 1], 20), ([0x75, 1], 30), ([0x75, 2], 31)]
    (data.map (·.1)).Nodup ∧ (entries 16 (restore 16 firstByte data)).length = 5 ∧
      firstByte [0x65, 1] % 16 = firstByte [0x75, 1] % 16 := by decide +kernel

/-- NOT the code (the seeded change C08_5): `restoreAssignsRuns` builds each shard from a run of
    consecutive snapshot entries of that shard and ASSIGNS the finished run to the shard.  On a sorted
    snapshot holding keys with first bytes 0x65 (`edge:` / `emb:`), 0x6E (`node:`) and 0x75 (`user:`)
    — 0x65 and 0x75 are congruent modulo 16 — the code restores all three, the variant has lost the
    key of the earlier run of shard 5; with 0x5F (`_blob:` / `_meta:` …, the checkpoint blobs
    themselves) and 0x6F (`order:`) it has lost the `_` key.  With one run per shard (0x5F, 0x65,
    0x6E, 0x70: the families of a database without such a pair) the two agree. -/
theorem restore_assigns_runs_loses_keys_witness :
    (let data : List (List Nat × Nat) := [([0x65, 1], 10), ([0x6E, 1], 20), ([0x75, 1], 30)]
     get 16 firstByte (restore 16 firstByte data) [0x65, 1] = some 10 ∧
     (entries 16 (restore 16 firstByte data)).length = 3 ∧
     get 16 firstByte (restoreAssignsRuns 16 firstByte data) [0x65, 1] = none ∧
     (entries 16 (restoreAssignsRuns 16 firstByte data)).map (·.1) = [[0x75, 1], [0x6E, 1]]) ∧
    (let data : List (List Nat × Nat) := [([0x5F, 1], 10), ([0x5F, 2], 11), ([0x6E, 1], 20), ([0x6F, 1], 30)]
     (entries 16 (restore 16 firstByte data)).map (·.1) = [[0x6E, 1], [0x5F, 1], [0x5F, 2], [0x6F, 1]] ∧
     (entries 16 (restoreAssignsRuns 16 firstByte data)).map (·.1) = [[0x6E, 1], [0x6F, 1]]) ∧
    (let data : List (List Nat × Nat) := [([0x5F, 1], 10), ([0x65, 1], 20), ([0x65, 2], 21), ([0x6E, 1], 30), ([0x70, 1], 40)]
     entries 16 (restoreAssignsRuns 16 firstByte data) = entries 16 (restore 16 firstByte data) ∧
     (entries 16 (restore 16 firstByte data)).length = 5) := by decide +kernel

/-- The checkpoint model's rollback does not depend on the sharded layout either: for every
    well-formed image (every store a statement sequence can produce, `WF.closed`), every positive
    shard count and EVERY assignment `sh` of storage keys to shards, restoring the image as rebuilt
    through the shards (`Store.fromBytesSh`: `SlabRouter::from_bytes` re-distributes the metadata map,
    `restore_from_bytes` reads it back through `scan` + `get`) leaves a store in which every `get`,
    every `exists` and the `scan("")` key set are those of restoring the image directly — which is
    what `rollback_exact_partial` and the other rollback theorems speak about —, with the same cache
    ring, (empty) relational slab and checkpoint records. -/
theorem rollback_reads_layout_independent {img : Store} (h : WF img) (s : Store) (n : Nat) (hn : 0 < n)
    (sh : Key → Nat) :
    (∀ k, (Store.restoreFrom (Store.fromBytesSh n sh img) s).get k = (Store.restoreFrom img s).get k) ∧
    (∀ k, (Store.restoreFrom (Store.fromBytesSh n sh img) s).has k = (Store.restoreFrom img s).has k) ∧
    (∀ k, k ∈ (Store.restoreFrom (Store.fromBytesSh n sh img) s).scanAll ↔
      k ∈ (Store.restoreFrom img s).scanAll) ∧
    (Store.restoreFrom (Store.fromBytesSh n sh img) s).cache = (Store.restoreFrom img s).cache ∧
    (Store.restoreFrom (Store.fromBytesSh n sh img) s).rel = (Store.restoreFrom img s).rel ∧
    (Store.restoreFrom (Store.fromBytesSh n sh img) s).cps = (Store.restoreFrom img s).cps := by
  have hks := restore_key_set_is_image_key_set n hn sh img.md
  have hmdget : ∀ k, alGet (Store.fromBytesSh n sh img).md k = alGet img.md k := by
    intro k
    show alGet (entries n (restore n sh img.md)) k = _
    rw [alGet_entries (Placed.restore n sh img.md) hn,
      (restore_get_layout_independent n n sh sh img.md k).1, single_of_nodup _ h.mdNodup]
  have hmdhas : ∀ k, alHas (Store.fromBytesSh n sh img).md k = alHas img.md k := by
    intro k; unfold alHas; rw [hmdget]
  have hwf' : WF (Store.fromBytesSh n sh img) := by
    refine ⟨hks.2.1, h.cacheNodup, ?_, h.eidxInj, h.eidxLt, ?_, ?_⟩
    · intro m hm
      rw [hmdhas]; exact h.eidxSub m hm
    · intro m id e h1 h2
      rw [hmdget]; exact h.slabOk m id e h1 h2
    · intro p hp
      have : p.1 ∈ img.md.map (·.1) := (hks.1 p.1).mp (List.mem_map_of_mem hp)
      obtain ⟨q, hq, hqp⟩ := List.mem_map.mp this
      rw [← hqp]; exact h.keys q hq
  have fa := restoreFrom_fields hwf' s
  have fb := restoreFrom_fields h s
  have wa := restoreFrom_wf (Store.fromBytesSh n sh img) s
  have wb := restoreFrom_wf img s
  have hc : (Store.restoreFrom (Store.fromBytesSh n sh img) s).cache = (Store.restoreFrom img s).cache := by
    rw [fa.2.1, fb.2.1]; rfl
  have hg : ∀ k, alGet (Store.restoreFrom (Store.fromBytesSh n sh img) s).md k =
      alGet (Store.restoreFrom img s).md k := by
    intro k; rw [fa.1, fb.1]; exact hmdget k
  have hv := wa.get_has_congr wb hg hc
  refine ⟨congrFun hv.1, congrFun hv.2, ?_, hc, ?_, ?_⟩
  · intro k
    rw [wa.scanAll, wb.scanAll, hc, fa.1, fb.1, List.mem_append, List.mem_append]
    exact or_congr_left (hks.1 k)
  · rw [fa.2.2.1, fb.2.2.1]
  · rw [fa.2.2.2, fb.2.2.2]; rfl

-- non-vacuity: a database with a graph edge, an embedding, `user:` keys (family 1: the shard of
-- `edge:` / `emb:`), an `order:` key (family 2: the shard of every `_` key) and a table; its store is
-- well-formed, the code's assignment puts two families into shard 5 and two into shard 15
example :
    let d := run {} [.gnode 0, .gnode 1, .gedge 1 2, .vput 0 [1, 2, 3], .kput 0 100 7 none,
      .kput 0 101 8 none, .kput 0 200 9 none, .rcreate 0]
    WF d.st ∧ keyFirstByte (.edge 1) % 16 = keyFirstByte (.plain 100) % 16 ∧
      keyFirstByte (.edge 1) ≠ keyFirstByte (.plain 100) ∧
      keyFirstByte (.tmeta 0) % 16 = keyFirstByte (.plain 200) % 16 ∧
      (Store.restoreFrom (Store.fromBytesSh 16 keyFirstByte d.st) {}).has (.edge 1) = true := by
  refine ⟨?_, by decide +kernel, by decide +kernel, by decide +kernel, by decide +kernel⟩
  exact (DbInv.run DbInv.init _).wf

end Neumann.Ckpt.Shard.Props
