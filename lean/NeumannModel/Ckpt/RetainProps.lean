import NeumannModel.Ckpt.RetainLemmas
/-
  C08 — "retention keeps the newest checkpoints up to the configured count, and every retained
  checkpoint can be rolled back to" — for BOTH creation paths: `CheckpointManager::create`
  (`CHECKPOINT`) and `CheckpointManager::create_auto` (the auto-checkpoint the router takes in front
  of a destructive statement), counted over the FULL listing (`list(None)`).
-/
namespace Neumann.Ckpt.Props
open Neumann.Ckpt

/-- The retention bound is an invariant of the whole system.  A manager configured with `n`
    (`max_checkpoints` is a constructor argument: no statement changes it), then ANY statement
    sequence — data statements of every engine, manual checkpoints, AUTO-checkpoints, rollbacks (which
    re-install the record list of the image), manual deletes, in any interleaving, any timestamps
    (ties included), any listing orders: the full listing `list(None)` never shows more than `n`
    checkpoints, whatever its order, and it shows every live record. -/
theorem listing_never_exceeds_max (n : Nat) (ops : List Op) (o : List Nat)
    (hcfg : ∀ op ∈ ops, op.isSetmax = false) :
    let d := run {} (.setmax n :: ops)
    (qCkptsAll d o).length ≤ n ∧ (qCkptsAll d o).length = d.st.cps.length ∧ d.maxCk = n := by
  intro d
  have hi0 : DbInv (step {} (.setmax n)).1 := DbInv.init.step _
  have hi : DbInv d := hi0.run ops
  have hr : RInv d := (RInv.configured n).run hi0 ops hcfg
  have hm : d.maxCk = n := run_maxCk _ ops hcfg
  have hl : (qCkptsAll d o).length = d.st.cps.length := (ckList_perm o _ hi.cpsNodup).length_eq
  exact ⟨by rw [hl, ← hm]; exact hr.live, hl, hm⟩

/-- non-vacuity: max 2, two manual checkpoints (the limit), then auto-checkpoints before a node
    delete and an embed delete, a rollback to a retained one, another auto-checkpoint: always 2 -/
example :
    let ops : List Op := [.kput 0 0 1 none, .ckpt 5 [] 1000, .gnode 1, .ckpt 6 [] 1001, .ackpt 9 [] 1061,
      .gdeln 1, .vput 0 [1, 2, 3], .ackpt 9 [] 1062, .vdel 0, .rollback 1062 [], .ackpt 11 [] 1061]
    let d := run {} (.setmax 2 :: ops)
    (∀ op ∈ ops, op.isSetmax = false) ∧ qCkptsAll d [] = [(4, 11), (2, 9)] ∧
      (run {} (.setmax 2 :: ops.take 5)).st.cps = [(1, 6), (2, 9)] := by decide +kernel

/-- retention as `create_auto` applies it: in ANY reachable database, for every timestamp, listing
    order, name and configured count, the checkpoints listed after an auto-checkpoint are
    `min max (listed before + 1)` of the ones listed before plus the new one — so AT the limit
    exactly one is evicted — and none of those dropped has a later timestamp than any of those kept -/
theorem auto_checkpoint_retention_keeps_newest (ops : List Op) (ts : Nat) (ord : List Nat) (nm : Nat) :
    let d := run {} ops
    let L := d.st.cps ++ [(d.nextCk, ts)]
    let d' := (step d (.ackpt ts ord nm)).1
    d'.st.cps.length = min d.maxCk L.length ∧ (∀ p ∈ d'.st.cps, p ∈ L) ∧
      ∀ q ∈ L, q ∉ d'.st.cps → ∀ k ∈ d'.st.cps, q.2 ≤ k.2 :=
  (DbInv.init.run ops).doCkpt_cps ts ord nm

example :
    let ops : List Op := [.setmax 2, .ckpt 5 [] 1000, .ckpt 7 [] 1001, .gnode 1]
    let d' := (step (run {} ops) (.ackpt 8 [] 1061)).1
    (run {} ops).st.cps = [(0, 5), (1, 7)] ∧ d'.st.cps = [(1, 7), (2, 8)] := by decide +kernel

/-- the auto-checkpoint AT the retention limit (the state before the destructive statement is what
    the user will want back): in any reachable database that already lists `max ≥ 1` checkpoints,
    all older than the clock, the auto-checkpoint is listed afterwards, the count is still `max`,
    and it can be rolled back to by its id for every listing order -/
theorem auto_checkpoint_at_limit_is_retained (ops : List Op) (ts : Nat) (ord : List Nat) (nm : Nat) (o : List Nat) :
    let d := run {} ops
    let d' := (step d (.ackpt ts ord nm)).1
    d.st.cps.length = d.maxCk → 0 < d.maxCk → (∀ p ∈ d.st.cps, p.2 < ts) →
      (d.nextCk, ts) ∈ d'.st.cps ∧ d'.st.cps.length = d.maxCk ∧
        (∃ c, loadCk d' o d.nextCk = some c ∧ c.id = d.nextCk ∧ c.img = d.st) ∧
        (step d' (.rollback d.nextCk o)).2 = .ok := by
  intro d d' hfull hpos hold
  have hinv : DbInv d := DbInv.init.run ops
  have hmem : (d.nextCk, ts) ∈ d'.st.cps := hinv.newest_kept ts ord nm hpos hold
  have hlen : d'.st.cps.length = d.maxCk := by
    have := (hinv.doCkpt_cps ts ord nm).1
    rw [List.length_append, hfull] at this
    exact this.trans (Nat.min_eq_left (Nat.le_succ _))
  have hlive : alHas d'.st.cps d.nextCk = true :=
    alHas_of_mem hmem
  have hb : blobOf d' d.nextCk = some ⟨d.nextCk, ts, nm, d.st⟩ := blob_after d hinv ts ord nm []
  have hinv' : DbInv d' := hinv.step _
  have hload : loadCk d' o d.nextCk = some ⟨d.nextCk, ts, nm, d.st⟩ := by
    simp only [loadCk, hinv'.resolve_id o _ hlive, hb]
  exact ⟨hmem, hlen, ⟨_, hload, rfl, rfl⟩, by simp only [step, doRollback, hload]⟩

/-- non-vacuity: max 2, both slots taken by older checkpoints, then the auto-checkpoint -/
example :
    let ops : List Op := [.setmax 2, .kput 0 0 1 none, .ckpt 5 [] 1000, .kput 0 0 2 none, .ckpt 7 [] 1001, .gnode 1]
    let d := run {} ops
    d.st.cps.length = d.maxCk ∧ 0 < d.maxCk ∧ (∀ p ∈ d.st.cps, p.2 < 8) ∧
      (step d (.ackpt 8 [] 1061)).1.st.cps = [(1, 7), (2, 8)] := by decide +kernel

/-- "make room first" (enforce BEFORE store, `doCkAutoRoomFirst`) is wrong in EVERY database at the
    limit, not just in one: `enforce` trims to `max`, so it removes nothing from a listing of `max`
    entries, and the store that follows leaves `max + 1` — nothing is evicted, the oldest checkpoint
    stays listed.  (With store-then-enforce the count is `max`:
    `auto_checkpoint_retention_keeps_newest`.) -/
theorem auto_room_first_overshoots_at_limit (d : Db) (ts : Nat) (ord : List Nat) (nm : Nat) :
    d.st.cps.length = d.maxCk →
      (doCkAutoRoomFirst d ts ord nm).1.st.cps = d.st.cps ++ [(d.nextCk, ts)] ∧
      (doCkAutoRoomFirst d ts ord nm).1.st.cps.length = d.maxCk + 1 := by
  intro hfull
  have he : enforce d.maxCk ord d.st.cps = d.st.cps := by
    unfold enforce; rw [if_pos (Nat.le_of_eq hfull)]
  have hc : (doCkAutoRoomFirst d ts ord nm).1.st.cps = d.st.cps ++ [(d.nextCk, ts)] := by
    show enforce d.maxCk ord d.st.cps ++ [(d.nextCk, ts)] = _
    rw [he]
  exact ⟨hc, by rw [hc, List.length_append, hfull]; rfl⟩

/-- the seeded reordering, concretely: max 2, two manual checkpoints, one auto-checkpoint.  The code
    (`doCkAuto`: store, then enforce) lists 2 and has evicted c0; enforce-then-store lists 3 — more
    than the configured count — and c0, which should be gone, can still be rolled back to; a second
    auto-checkpoint keeps it at 3, and the next MANUAL checkpoint evicts two at once and hides it -/
theorem auto_room_first_overshoots_witness :
    let d := run {} [.setmax 2, .kput 0 0 1 none, .ckpt 5 [] 1000, .kput 0 0 2 none, .ckpt 7 [] 1001, .gnode 1]
    let good := (doCkAuto d 8 [] 1061).1
    let bad := (doCkAutoRoomFirst d 8 [] 1061).1
    qCkptsAll good [] = [(2, 8), (1, 7)] ∧ qCkptsAll bad [] = [(2, 8), (1, 7), (0, 5)] ∧
      (qCkptsAll bad []).length > bad.maxCk ∧ (step bad (.rollback 0 [])).2 = .ok ∧
      (step good (.rollback 0 [])).2 = .err .notFound ∧
      (qCkptsAll (doCkAutoRoomFirst bad 9 [] 1061).1 []).length = 3 ∧
      (qCkptsAll (step bad (.ckpt 9 [] 1002)).1 []).length = 2 := by decide +kernel

end Neumann.Ckpt.Props
