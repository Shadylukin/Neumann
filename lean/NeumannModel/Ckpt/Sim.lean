import NeumannModel.Ckpt.Lemmas
/-
  C08 — entity ids are unobservable.

  Two databases whose stores agree on the metadata slab, the cache ring, the relational slab and the
  live checkpoint records (both satisfying the store invariant `WF`), and whose engine-side state,
  checkpoint counter and retention bound agree, and whose archived images are related the same way,
  answer every statement identically and stay related — forever (`sim_step`, `sim_run`), and show
  the same observable image (`sim_obs`).  The entity index `eidx`, the id counter `enext` and the
  keys of the embedding slab `eslab` are therefore not observable.
-/
namespace Neumann.Ckpt

structure StoreSim (a b : Store) : Prop where
  wfa : WF a
  wfb : WF b
  md : a.md = b.md
  cache : a.cache = b.cache
  rel : a.rel = b.rel
  cps : a.cps = b.cps

def ArchSim : List Ckpt → List Ckpt → Prop
  | [], [] => True
  | c :: cs, c' :: cs' => c.id = c'.id ∧ c.ts = c'.ts ∧ c.name = c'.name ∧ StoreSim c.img c'.img ∧ ArchSim cs cs'
  | _, _ => False

structure DbSim (d d' : Db) : Prop where
  st : StoreSim d.st d'.st
  eng : d.eng = d'.eng
  arch : ArchSim d.arch d'.arch
  nextCk : d.nextCk = d'.nextCk
  maxCk : d.maxCk = d'.maxCk

def runRes : Db → List Op → List Res
  | _, [] => []
  | d, op :: ops => (step d op).2 :: runRes (step d op).1 ops

def putMd (md : List (Key × Val)) (k : Key) (v : Val) : List (Key × Val) :=
  match k with
  | .cache _ => md
  | _ => alPut md k v

def putCache (c : List (Nat × Val)) (k : Key) (v : Val) : List (Nat × Val) :=
  match k with
  | .cache n => alPut c n v
  | _ => c

def delMd (md : List (Key × Val)) (k : Key) : List (Key × Val) :=
  match k with
  | .cache _ => md
  | _ => alDel md k

def delCache (c : List (Nat × Val)) (k : Key) : List (Nat × Val) :=
  match k with
  | .cache n => alDel c n
  | _ => c

theorem put_fields (s : Store) (k : Key) (v : Val) :
    (s.put k v).md = putMd s.md k v ∧ (s.put k v).cache = putCache s.cache k v ∧
      (s.put k v).rel = s.rel ∧ (s.put k v).cps = s.cps := by
  cases k <;> exact ⟨rfl, rfl, rfl, rfl⟩

theorem delete_fields (s s' : Store) (k : Key) (hd : s.delete k = some s') :
    s'.md = delMd s.md k ∧ s'.cache = delCache s.cache k ∧ s'.rel = s.rel ∧ s'.cps = s.cps := by
  unfold Store.delete at hd
  split at hd
  · cases hd
  · cases k <;> (cases hd; exact ⟨rfl, rfl, rfl, rfl⟩)

theorem delete_eq_none_iff (s : Store) (k : Key) : s.delete k = none ↔ s.has k = false := by
  unfold Store.delete
  cases hh : s.has k
  · simp
  · cases k <;> simp

theorem StoreSim.refl {s : Store} (h : WF s) : StoreSim s s := ⟨h, h, rfl, rfl, rfl, rfl⟩

theorem StoreSim.symm {a b : Store} (h : StoreSim a b) : StoreSim b a :=
  ⟨h.wfb, h.wfa, h.md.symm, h.cache.symm, h.rel.symm, h.cps.symm⟩

theorem StoreSim.trans {a b c : Store} (h : StoreSim a b) (h' : StoreSim b c) : StoreSim a c :=
  ⟨h.wfa, h'.wfb, h.md.trans h'.md, h.cache.trans h'.cache, h.rel.trans h'.rel, h.cps.trans h'.cps⟩

theorem StoreSim.get_eq {a b : Store} (h : StoreSim a b) : a.get = b.get :=
  (WF.view_eq h.wfa h.wfb h.md h.cache).1

theorem StoreSim.has_eq {a b : Store} (h : StoreSim a b) : a.has = b.has :=
  (WF.view_eq h.wfa h.wfb h.md h.cache).2.1

theorem StoreSim.scan_eq {a b : Store} (h : StoreSim a b) : a.scanAll = b.scanAll :=
  (WF.view_eq h.wfa h.wfb h.md h.cache).2.2

theorem StoreSim.put {a b : Store} (h : StoreSim a b) (k : Key) (v : Val) :
    StoreSim (a.put k v) (b.put k v) := by
  have fa := put_fields a k v
  have fb := put_fields b k v
  exact ⟨h.wfa.put k v, h.wfb.put k v, by rw [fa.1, fb.1, h.md], by rw [fa.2.1, fb.2.1, h.cache],
    by rw [fa.2.2.1, fb.2.2.1, h.rel], by rw [fa.2.2.2, fb.2.2.2, h.cps]⟩

theorem StoreSim.delete {a b : Store} (h : StoreSim a b) (k : Key) :
    (a.delete k = none ∧ b.delete k = none) ∨
      ∃ a' b', a.delete k = some a' ∧ b.delete k = some b' ∧ StoreSim a' b' := by
  cases ha : a.delete k with
  | none =>
    have h1 := (delete_eq_none_iff a k).mp ha
    rw [h.has_eq] at h1
    exact Or.inl ⟨rfl, (delete_eq_none_iff b k).mpr h1⟩
  | some a' =>
    cases hb : b.delete k with
    | none =>
      have h1 := (delete_eq_none_iff b k).mp hb
      rw [← h.has_eq] at h1
      rw [(delete_eq_none_iff a k).mpr h1] at ha
      cases ha
    | some b' =>
      have fa := delete_fields a a' k ha
      have fb := delete_fields b b' k hb
      exact Or.inr ⟨a', b', rfl, rfl, h.wfa.delete k ha, h.wfb.delete k hb,
        by rw [fa.1, fb.1, h.md], by rw [fa.2.1, fb.2.1, h.cache],
        by rw [fa.2.2.1, fb.2.2.1, h.rel], by rw [fa.2.2.2, fb.2.2.2, h.cps]⟩

theorem StoreSim.del {a b : Store} (h : StoreSim a b) (k : Key) : StoreSim (a.del k) (b.del k) := by
  unfold Store.del
  rcases h.delete k with ⟨ha, hb⟩ | ⟨a', b', ha, hb, hs⟩
  · rw [ha, hb]; exact h
  · rw [ha, hb]; exact hs

theorem StoreSim.withRel {a b : Store} (h : StoreSim a b) (r : List (Nat × List Row)) :
    StoreSim { a with rel := r } { b with rel := r } :=
  ⟨h.wfa.setRel r, h.wfb.setRel r, h.md, h.cache, rfl, h.cps⟩

theorem StoreSim.withCps {a b : Store} (h : StoreSim a b) (c : List (Nat × Nat)) :
    StoreSim { a with cps := c } { b with cps := c } :=
  ⟨h.wfa.setCps c, h.wfb.setCps c, h.md, h.cache, h.rel, rfl⟩

theorem StoreSim.ite {a b a' b' : Store} (c : Prop) [Decidable c] (h' : StoreSim a' b')
    (h : StoreSim a b) : StoreSim (if c then a' else a) (if c then b' else b) := by
  split
  · exact h'
  · exact h

theorem StoreSim.setRel {a b : Store} (h : StoreSim a b) (t : Nat) (rows : List Row) :
    StoreSim (setRel a t rows) (setRel b t rows) := by
  unfold Neumann.Ckpt.setRel
  rw [h.rel]
  exact h.withRel _

theorem StoreSim.hasTable_eq {a b : Store} (h : StoreSim a b) : hasTable a = hasTable b := by
  funext t; unfold hasTable; rw [h.has_eq]

theorem StoreSim.nodeLabel_eq {a b : Store} (h : StoreSim a b) : nodeLabel a = nodeLabel b := by
  funext i; unfold nodeLabel; rw [h.get_eq]

theorem StoreSim.edgeEnds_eq {a b : Store} (h : StoreSim a b) : edgeEnds a = edgeEnds b := by
  funext i; unfold edgeEnds; rw [h.get_eq]

theorem StoreSim.nodeIds_eq {a b : Store} (h : StoreSim a b) : nodeIds a = nodeIds b := by
  unfold nodeIds; rw [h.md]

theorem StoreSim.edgeIds_eq {a b : Store} (h : StoreSim a b) : edgeIds a = edgeIds b := by
  unfold edgeIds; rw [h.md]

theorem StoreSim.embKeys_eq {a b : Store} (h : StoreSim a b) : embKeys a = embKeys b := by
  unfold embKeys; rw [h.scan_eq]

theorem StoreSim.getEmbedding_eq {a b : Store} (h : StoreSim a b) : getEmbedding a = getEmbedding b := by
  funext k; unfold getEmbedding; rw [h.get_eq]

theorem StoreSim.buildLabelIdx_eq {a b : Store} (h : StoreSim a b) :
    buildLabelIdx a = buildLabelIdx b := by
  unfold buildLabelIdx; rw [h.nodeIds_eq, h.nodeLabel_eq]

theorem StoreSim.idxAdd {a b : Store} (h : StoreSim a b) (k : Key) (r : Nat) :
    StoreSim (idxAdd a k r) (idxAdd b k r) := by
  unfold Neumann.Ckpt.idxAdd
  rw [h.get_eq]
  dsimp only
  split
  · exact h
  · exact h.put _ _

theorem StoreSim.idxRemove {a b : Store} (h : StoreSim a b) (k : Key) (r : Nat) :
    StoreSim (idxRemove a k r) (idxRemove b k r) := by
  unfold Neumann.Ckpt.idxRemove
  rw [h.get_eq]
  cases b.get k with
  | none => exact h
  | some v =>
    dsimp only
    split
    · exact h.del _
    · exact h.put _ _

theorem StoreSim.listAdd {a b : Store} (h : StoreSim a b) (k : Key) (e : Nat) :
    StoreSim (listAdd a k e) (listAdd b k e) := by
  unfold Neumann.Ckpt.listAdd
  rw [h.get_eq]
  exact h.put _ _

theorem StoreSim.listRemove {a b : Store} (h : StoreSim a b) (k : Key) (e : Nat) :
    StoreSim (listRemove a k e) (listRemove b k e) := by
  unfold Neumann.Ckpt.listRemove
  rw [h.get_eq]
  cases b.get k with
  | none => exact h
  | some v => exact h.put _ _

theorem StoreSim.foldl {γ : Type} (f : Store → γ → Store)
    (hf : ∀ a b x, StoreSim a b → StoreSim (f a x) (f b x))
    (l : List γ) (a b : Store) (h : StoreSim a b) :
    StoreSim (l.foldl f a) (l.foldl f b) := by
  induction l generalizing a b with
  | nil => exact h
  | cons x xs ih => exact ih _ _ (hf a b x h)

theorem StoreSim.foldlPair {β γ : Type} (f : Store × β → γ → Store × β)
    (hf : ∀ a b x, StoreSim a.1 b.1 → a.2 = b.2 → StoreSim (f a x).1 (f b x).1 ∧ (f a x).2 = (f b x).2)
    (l : List γ) (a b : Store × β) (h : StoreSim a.1 b.1) (h2 : a.2 = b.2) :
    StoreSim (l.foldl f a).1 (l.foldl f b).1 ∧ (l.foldl f a).2 = (l.foldl f b).2 := by
  induction l generalizing a b with
  | nil => exact ⟨h, h2⟩
  | cons x xs ih => exact ih _ _ (hf a b x h h2).1 (hf a b x h h2).2

theorem DbSim.upd {d d' : Db} (h : DbSim d d') {s s' : Store} (hs : StoreSim s s') {e e' : Eng}
    (he : e = e') :
    DbSim ⟨s, e, d.arch, d.nextCk, d.maxCk⟩ ⟨s', e', d'.arch, d'.nextCk, d'.maxCk⟩ :=
  ⟨hs, he, h.arch, h.nextCk, h.maxCk⟩

theorem sim_rCreate (d d' : Db) (h : DbSim d d') (t : Nat) :
    (rCreate d t).2 = (rCreate d' t).2 ∧ DbSim (rCreate d t).1 (rCreate d' t).1 := by
  unfold rCreate
  rw [h.st.hasTable_eq, h.st.rel]
  split
  · exact ⟨rfl, h⟩
  · split
    · exact ⟨rfl, h⟩
    · exact ⟨rfl, h.upd ((h.st.setRel t []).put _ _) h.eng⟩

theorem sim_rInsert (d d' : Db) (h : DbSim d d') (t : Nat) (k v : Int) :
    (rInsert d t k v).2 = (rInsert d' t k v).2 ∧ DbSim (rInsert d t k v).1 (rInsert d' t k v).1 := by
  unfold rInsert
  rw [h.st.hasTable_eq, h.st.rel, h.eng]
  split
  · exact ⟨rfl, h⟩
  · split
    · exact ⟨rfl, h⟩
    · rename_i rows _
      dsimp only
      have h1 := h.st.setRel t (rows ++ [⟨true, k, v⟩])
      rw [h1.has_eq]
      have h2 := StoreSim.ite ((setRel d'.st t (rows ++ [⟨true, k, v⟩])).has (.hmeta t) = true)
        (h1.idxAdd (.hent t k) (rows.length + 1)) h1
      rw [h2.has_eq]
      exact ⟨rfl, h.upd (.ite _ (h2.idxAdd _ _) h2) rfl⟩

theorem StoreSim.killRow {a b : Store} (h : StoreSim a b) (t rid : Nat) :
    StoreSim
      (Neumann.Ckpt.setRel a t (((alGet a.rel t).getD []).zipIdx.map fun p =>
        if p.2 + 1 = rid then { p.1 with alive := false } else p.1))
      (Neumann.Ckpt.setRel b t (((alGet b.rel t).getD []).zipIdx.map fun p =>
        if p.2 + 1 = rid then { p.1 with alive := false } else p.1)) := by
  rw [h.rel]
  exact h.setRel _ _

theorem sim_rDeleteRow (t : Nat) (hH hB : Bool) (a b : Store × List (Nat × List (Int × List Nat)))
    (r : Nat × Int × Int) (h : StoreSim a.1 b.1) (h2 : a.2 = b.2) :
    StoreSim (rDeleteRow t hH hB a r).1 (rDeleteRow t hH hB b r).1 ∧
      (rDeleteRow t hH hB a r).2 = (rDeleteRow t hH hB b r).2 := by
  unfold rDeleteRow
  dsimp only
  rw [h2]
  have h1 := StoreSim.ite (hH = true) (h.idxRemove (.hent t r.2.1) r.1) h
  exact ⟨(StoreSim.ite _ (h1.idxRemove _ _) h1).killRow _ _, rfl⟩

theorem sim_rDelete (d d' : Db) (h : DbSim d d') (t : Nat) (k : Int) :
    (rDelete d t k).2 = (rDelete d' t k).2 ∧ DbSim (rDelete d t k).1 (rDelete d' t k).1 := by
  unfold rDelete
  rw [h.st.hasTable_eq, h.st.rel, h.eng, h.st.has_eq]
  split
  · exact ⟨rfl, h⟩
  · split
    · exact ⟨rfl, h⟩
    · rename_i rows _
      dsimp only
      have hf := StoreSim.foldlPair
        (rDeleteRow t (d'.st.has (.hmeta t)) (d'.st.has (.bmeta t)))
        (fun a b x hs h2 => sim_rDeleteRow t _ _ a b x hs h2)
        ((aliveRows rows).filter fun r => r.2.1 = k)
        (d.st, d'.eng.btree) (d'.st, d'.eng.btree) h.st rfl
      exact ⟨rfl, h.upd hf.1 (by rw [hf.2])⟩

theorem sim_rDrop (d d' : Db) (h : DbSim d d') (t : Nat) :
    (rDrop d t).2 = (rDrop d' t).2 ∧ DbSim (rDrop d t).1 (rDrop d' t).1 := by
  unfold rDrop
  rw [h.st.hasTable_eq, h.st.rel]
  split
  · exact ⟨rfl, h⟩
  · have h1 := h.st.withRel (alDel d'.st.rel t)
    have hL : (d.st.md.map (·.1)).filter (isIdxKeyOf t) = (d'.st.md.map (·.1)).filter (isIdxKeyOf t) := by
      rw [h.st.md]
    dsimp only
    rw [hL]
    exact ⟨rfl, h.upd ((StoreSim.foldl Store.del (fun a b x hs => hs.del x) _ _ _ h1).del _) h.eng⟩

theorem sim_rHidx (d d' : Db) (h : DbSim d d') (t : Nat) :
    (rHidx d t).2 = (rHidx d' t).2 ∧ DbSim (rHidx d t).1 (rHidx d' t).1 := by
  unfold rHidx
  rw [h.st.hasTable_eq, h.st.has_eq]
  split
  · exact ⟨rfl, h⟩
  · split
    · exact ⟨rfl, h⟩
    · dsimp only
      have h1 := h.st.put (.hmeta t) .unit
      rw [h1.rel]
      split
      · exact ⟨rfl, h.upd h1 h.eng⟩
      · exact ⟨rfl, h.upd (StoreSim.foldl (fun s (r : Nat × Int × Int) => idxAdd s (.hent t r.2.1) r.1)
          (fun a b x hs => hs.idxAdd _ _) _ _ _ h1) h.eng⟩

theorem sim_rBidx (d d' : Db) (h : DbSim d d') (t : Nat) :
    (rBidx d t).2 = (rBidx d' t).2 ∧ DbSim (rBidx d t).1 (rBidx d' t).1 := by
  unfold rBidx
  rw [h.st.hasTable_eq, h.st.has_eq, h.eng]
  split
  · exact ⟨rfl, h⟩
  · split
    · exact ⟨rfl, h⟩
    · dsimp only
      have h1 := h.st.put (.bmeta t) .unit
      rw [h1.rel]
      split
      · exact ⟨rfl, h.upd h1 rfl⟩
      · rename_i rows _
        have hf := StoreSim.foldlPair
          (fun (acc : Store × List (Nat × List (Int × List Nat))) (r : Nat × Int × Int) =>
            (idxAdd acc.1 (.bent t r.2.2) r.1, btAdd acc.2 t r.2.2 r.1))
          (fun a b x hs h2 => ⟨hs.idxAdd _ _, congrArg (fun z => btAdd z t x.2.2 x.1) h2⟩)
          (aliveRows rows)
          (d.st.put (.bmeta t) .unit, alPut d'.eng.btree t ((alGet d'.eng.btree t).getD []))
          (d'.st.put (.bmeta t) .unit, alPut d'.eng.btree t ((alGet d'.eng.btree t).getD []))
          h1 rfl
        exact ⟨rfl, h.upd hf.1 (by rw [hf.2])⟩

theorem sim_ensureLabelIdx (d d' : Db) (h : DbSim d d') :
    DbSim (ensureLabelIdx d) (ensureLabelIdx d') := by
  unfold ensureLabelIdx
  rw [h.eng, h.st.buildLabelIdx_eq]
  split
  · exact h
  · split
    · exact h.upd h.st rfl
    · exact h.upd (h.st.put _ _) rfl

theorem sim_ensureEtypeIdx (d d' : Db) (h : DbSim d d') :
    DbSim (ensureEtypeIdx d) (ensureEtypeIdx d') := by
  unfold ensureEtypeIdx
  rw [h.eng]
  split
  · exact h
  · split
    · exact h.upd h.st rfl
    · exact h.upd (h.st.put _ _) rfl

theorem sim_gNode (d d' : Db) (h : DbSim d d') (l : Nat) :
    (gNode d l).2 = (gNode d' l).2 ∧ DbSim (gNode d l).1 (gNode d' l).1 := by
  unfold gNode
  have h0 := sim_ensureLabelIdx d d' h
  dsimp only
  rw [h0.eng]
  exact ⟨rfl, h0.upd (((h0.st.put _ _).put _ _).put _ _) rfl⟩

theorem sim_gEdge (d d' : Db) (h : DbSim d d') (a b : Nat) :
    (gEdge d a b).2 = (gEdge d' a b).2 ∧ DbSim (gEdge d a b).1 (gEdge d' a b).1 := by
  unfold gEdge
  have h0 := sim_ensureEtypeIdx d d' h
  dsimp only
  rw [h0.st.has_eq, h0.eng]
  split
  · exact ⟨rfl, h0⟩
  · split
    · exact ⟨rfl, h0⟩
    · exact ⟨rfl, h0.upd (((h0.st.put _ _).listAdd _ _).listAdd _ _) rfl⟩

theorem sim_gDelEdge (d d' : Db) (h : DbSim d d') (i : Nat) :
    (gDelEdge d i).2 = (gDelEdge d' i).2 ∧ DbSim (gDelEdge d i).1 (gDelEdge d' i).1 := by
  unfold gDelEdge
  rw [h.st.edgeEnds_eq]
  split
  · exact ⟨rfl, h⟩
  · exact ⟨rfl, h.upd (((h.st.listRemove _ _).listRemove _ _).del _) h.eng⟩

theorem sim_gDelNode (d d' : Db) (h : DbSim d d') (i : Nat) :
    (gDelNode d i).2 = (gDelNode d' i).2 ∧ DbSim (gDelNode d i).1 (gDelNode d' i).1 := by
  unfold gDelNode
  rw [h.st.nodeLabel_eq, h.st.get_eq, h.eng]
  split
  · exact ⟨rfl, h⟩
  · dsimp only
    refine ⟨rfl, h.upd ?_ rfl⟩
    apply StoreSim.del; apply StoreSim.del; apply StoreSim.del
    apply StoreSim.foldl _ _ _ _ _ h.st
    intro a b e hs
    rw [hs.edgeEnds_eq]
    split
    · refine (StoreSim.ite _ (StoreSim.listRemove ?_ _ _) ?_).del _ <;>
        exact .ite _ (hs.listRemove _ _) hs
    · exact hs.del _

theorem sim_vPut (d d' : Db) (h : DbSim d d') (k : Nat) (v : Vec) :
    (vPut d k v).2 = (vPut d' k v).2 ∧ DbSim (vPut d k v).1 (vPut d' k v).1 := by
  unfold vPut
  rw [h.eng]
  split
  · exact ⟨rfl, h⟩
  · exact ⟨rfl, h.upd (h.st.put _ _) rfl⟩

theorem sim_vDel (d d' : Db) (h : DbSim d d') (k : Nat) :
    (vDel d k).2 = (vDel d' k).2 ∧ DbSim (vDel d k).1 (vDel d' k).1 := by
  unfold vDel
  rcases h.st.delete (.emb k) with ⟨ha, hb⟩ | ⟨a', b', ha, hb, hs⟩
  · rw [ha, hb]; exact ⟨rfl, h⟩
  · rw [ha, hb, h.eng]; exact ⟨rfl, h.upd hs rfl⟩

theorem sim_vBuild (d d' : Db) (h : DbSim d d') :
    (vBuild d).2 = (vBuild d').2 ∧ DbSim (vBuild d).1 (vBuild d').1 := by
  unfold vBuild
  rw [h.st.embKeys_eq, h.st.getEmbedding_eq, h.eng]
  dsimp only
  split
  · exact ⟨rfl, h⟩
  · split
    · exact ⟨rfl, h.upd h.st rfl⟩
    · split
      · exact ⟨rfl, h.upd h.st rfl⟩
      · exact ⟨rfl, h⟩

theorem sim_kPut (d d' : Db) (h : DbSim d d') (c k : Nat) (x : Int) (e : Option Int) :
    (kPut d c k x e).2 = (kPut d' c k x e).2 ∧ DbSim (kPut d c k x e).1 (kPut d' c k x e).1 := by
  unfold kPut
  exact ⟨rfl, h.upd (h.st.put _ _) h.eng⟩

theorem sim_kDel (d d' : Db) (h : DbSim d d') (c k : Nat) :
    (kDel d c k).2 = (kDel d' c k).2 ∧ DbSim (kDel d c k).1 (kDel d' c k).1 := by
  unfold kDel
  rcases h.st.delete (rawKey c k) with ⟨ha, hb⟩ | ⟨a', b', ha, hb, hs⟩
  · rw [ha, hb]; exact ⟨rfl, h⟩
  · rw [ha, hb]; exact ⟨rfl, h.upd hs h.eng⟩

theorem ArchSim.refl (l : List Ckpt) (h : ∀ c ∈ l, WF c.img) : ArchSim l l := by
  induction l with
  | nil => trivial
  | cons c cs ih =>
    exact ⟨rfl, rfl, rfl, StoreSim.refl (h c (by simp)), ih (fun x hx => h x (List.mem_cons_of_mem _ hx))⟩

theorem ArchSim.snoc {l l' : List Ckpt} (h : ArchSim l l') {c c' : Ckpt}
    (hc : c.id = c'.id ∧ c.ts = c'.ts ∧ c.name = c'.name ∧ StoreSim c.img c'.img) :
    ArchSim (l ++ [c]) (l' ++ [c']) := by
  induction l generalizing l' with
  | nil =>
    cases l' with
    | nil => exact ⟨hc.1, hc.2.1, hc.2.2.1, hc.2.2.2, trivial⟩
    | cons y ys => exact h.elim
  | cons x xs ih =>
    cases l' with
    | nil => exact h.elim
    | cons y ys => exact ⟨h.1, h.2.1, h.2.2.1, h.2.2.2.1, ih h.2.2.2.2⟩

theorem ArchSim.find {l l' : List Ckpt} (h : ArchSim l l') (i : Nat) :
    (l.find? (fun c => decide (c.id = i)) = none ∧ l'.find? (fun c => decide (c.id = i)) = none) ∨
    ∃ c c', l.find? (fun c => decide (c.id = i)) = some c ∧
      l'.find? (fun c => decide (c.id = i)) = some c' ∧
      c.id = c'.id ∧ c.ts = c'.ts ∧ c.name = c'.name ∧ StoreSim c.img c'.img := by
  induction l generalizing l' with
  | nil =>
    cases l' with
    | nil => exact Or.inl ⟨rfl, rfl⟩
    | cons y ys => exact h.elim
  | cons x xs ih =>
    cases l' with
    | nil => exact h.elim
    | cons y ys =>
      have hxy : x.id = y.id := h.1
      by_cases hx : x.id = i
      · have hy : y.id = i := hxy ▸ hx
        exact Or.inr ⟨x, y, by simp only [List.find?_cons, hx, decide_true],
          by simp only [List.find?_cons, hy, decide_true], h.1, h.2.1, h.2.2.1, h.2.2.2.1⟩
      · have hy : ¬ y.id = i := fun e => hx (hxy.trans e)
        rw [List.find?_cons_of_neg (by simpa using hx), List.find?_cons_of_neg (by simpa using hy)]
        exact ih h.2.2.2.2

theorem DbSim.nameOf_eq {d d' : Db} (h : DbSim d d') (i : Nat) : nameOf d i = nameOf d' i := by
  unfold nameOf blobOf
  rcases h.arch.find i with ⟨ha, hb⟩ | ⟨c, c', ha, hb, hr⟩
  · rw [ha, hb]
  · rw [ha, hb]; simp only [Option.map_some, hr.2.2.1]

theorem DbSim.resolve_eq {d d' : Db} (h : DbSim d d') (ord : List Nat) (x : Nat) :
    resolve d ord x = resolve d' ord x := by
  unfold resolve
  have hm : ckNameIs d x = ckNameIs d' x := by
    funext p; unfold ckNameIs; rw [h.nameOf_eq]
  rw [hm, h.st.cps]

theorem DbSim.resolveOld_eq {d d' : Db} (h : DbSim d d') (ord : List Nat) (x : Nat) :
    resolveOld d ord x = resolveOld d' ord x := by
  unfold resolveOld
  have hm : ckMatches d x = ckMatches d' x := by
    funext p; unfold ckMatches; rw [h.nameOf_eq]
  rw [hm, h.st.cps]

theorem restoreFrom_sim {i i' : Store} (h : StoreSim i i') (s s' : Store) :
    StoreSim (Store.restoreFrom i s) (Store.restoreFrom i' s') := by
  have fa := restoreFrom_fields h.wfa s
  have fb := restoreFrom_fields h.wfb s'
  exact ⟨restoreFrom_wf _ _, restoreFrom_wf _ _, by rw [fa.1, fb.1, h.md], by rw [fa.2.1, fb.2.1, h.cache],
    by rw [fa.2.2.1, fb.2.2.1], by rw [fa.2.2.2, fb.2.2.2, h.cps]⟩

theorem restore_sim {img : Store} (h : WF img) (hrel : img.rel = []) (s : Store) :
    StoreSim (Store.restoreFrom img s) img := by
  have f := restoreFrom_fields h s
  exact ⟨restoreFrom_wf _ _, h, f.1, f.2.1, by rw [f.2.2.1, hrel], f.2.2.2⟩

theorem sim_doCkpt (d d' : Db) (h : DbSim d d') (ts : Nat) (ord : List Nat) (name : Nat) :
    (doCkpt d ts ord name).2 = (doCkpt d' ts ord name).2 ∧
      DbSim (doCkpt d ts ord name).1 (doCkpt d' ts ord name).1 := by
  unfold doCkpt
  dsimp only
  rw [h.st.cps, h.nextCk, h.maxCk]
  exact ⟨rfl, ⟨h.st.withCps _, h.eng, h.arch.snoc ⟨rfl, rfl, rfl, h.st⟩, rfl, rfl⟩⟩

theorem sim_doRollback (d d' : Db) (h : DbSim d d') (x : Nat) (ord : List Nat) :
    (doRollback d x ord).2 = (doRollback d' x ord).2 ∧
      DbSim (doRollback d x ord).1 (doRollback d' x ord).1 := by
  unfold doRollback loadCk
  rw [h.resolve_eq]
  cases resolve d' ord x with
  | none => exact ⟨rfl, h⟩
  | some i =>
    dsimp only
    unfold blobOf
    rcases h.arch.find i with ⟨ha, hb⟩ | ⟨c, c', ha, hb, hr⟩
    · rw [ha, hb]; exact ⟨rfl, h⟩
    · rw [ha, hb]; exact ⟨rfl, h.upd (restoreFrom_sim hr.2.2.2 _ _) h.eng⟩

theorem sim_doCkDel (d d' : Db) (h : DbSim d d') (x : Nat) (ord : List Nat) :
    (doCkDel d x ord).2 = (doCkDel d' x ord).2 ∧
      DbSim (doCkDel d x ord).1 (doCkDel d' x ord).1 := by
  unfold doCkDel
  rw [h.resolve_eq, h.st.cps]
  cases resolve d' ord x with
  | none => exact ⟨rfl, h⟩
  | some i => exact ⟨rfl, h.upd (h.st.withCps _) h.eng⟩

theorem sim_step (d d' : Db) (h : DbSim d d') (op : Op) :
    (step d op).2 = (step d' op).2 ∧ DbSim (step d op).1 (step d' op).1 := by
  cases op with
  | rcreate t => exact sim_rCreate d d' h t
  | rdrop t => exact sim_rDrop d d' h t
  | rins t k v => exact sim_rInsert d d' h t k v
  | rdel t k => exact sim_rDelete d d' h t k
  | rhidx t => exact sim_rHidx d d' h t
  | rbidx t => exact sim_rBidx d d' h t
  | gnode l => exact sim_gNode d d' h l
  | gedge a b => exact sim_gEdge d d' h a b
  | gdeln i => exact sim_gDelNode d d' h i
  | gdele i => exact sim_gDelEdge d d' h i
  | vput k v => exact sim_vPut d d' h k v
  | vdel k => exact sim_vDel d d' h k
  | vbuild => exact sim_vBuild d d' h
  | kput c k x e => exact sim_kPut d d' h c k x e
  | kdel c k => exact sim_kDel d d' h c k
  | ckpt ts ord nm => exact sim_doCkpt d d' h ts ord nm
  | ackpt ts ord nm => exact sim_doCkpt d d' h ts ord nm
  | rollback x o => exact sim_doRollback d d' h x o
  | ckdel x o => exact sim_doCkDel d d' h x o
  | setmax n => exact ⟨rfl, ⟨h.st, h.eng, h.arch, h.nextCk, rfl⟩⟩

theorem sim_obs (d d' : Db) (h : DbSim d d') (p : Probes) :
    obs p d = obs p d' ∧ qCkpts d = qCkpts d' := by
  have hg := h.st.get_eq
  have hh := h.st.has_eq
  have hs := h.st.scan_eq
  have hm := h.st.md
  have hr := h.st.rel
  have he := h.eng
  constructor
  · unfold obs qScan qEq qLt qNodes qEdges qNeighbors qByLabel qEmbs qSearch qRaw tables hasTable
      nodeIds edgeIds nodeLabel edgeEnds embKeys getEmbedding
    simp only [hg, hh, hs, hm, hr, he]
  · unfold qCkpts
    rw [h.st.cps]

theorem sim_top (d d' : Db) (h : DbSim d d') (ord : List Nat) (n : Nat) :
    qCkptsTop d ord n = qCkptsTop d' ord n := by
  unfold qCkptsTop
  rw [h.st.cps]

theorem sim_run (d d' : Db) (h : DbSim d d') (ops : List Op) :
    runRes d ops = runRes d' ops ∧ DbSim (run d ops) (run d' ops) := by
  induction ops generalizing d d' with
  | nil => exact ⟨rfl, h⟩
  | cons op ops ih =>
    have h1 := sim_step d d' h op
    have h2 := ih _ _ h1.2
    rw [run_cons, run_cons]
    refine ⟨?_, h2.2⟩
    show (step d op).2 :: runRes (step d op).1 ops = (step d' op).2 :: runRes (step d' op).1 ops
    rw [h1.1, h2.1]

theorem sim_run_obs (d d' : Db) (h : DbSim d d') (ops : List Op) (p : Probes) :
    obs p (run d ops) = obs p (run d' ops) ∧ qCkpts (run d ops) = qCkpts (run d' ops) :=
  sim_obs _ _ (sim_run d d' h ops).2 p

theorem DbSim.refl {d : Db} (h : DbInv d) : DbSim d d :=
  ⟨StoreSim.refl h.wf, rfl, ArchSim.refl _ h.arch, rfl, rfl⟩

/-- `emb:1` written and deleted first: `emb:2` gets entity id 1 -/
def simA : Db := run {} [.kput 2 1 5 (some 3), .kdel 2 1, .kput 2 2 7 (some 4)]
/-- `emb:2` written into the empty store: entity id 0 -/
def simB : Db := run {} [.kput 2 2 7 (some 4)]

example : simA.st.md = simB.st.md ∧ simA.st.cache = simB.st.cache ∧ simA.st.rel = simB.st.rel ∧
    simA.st.cps = simB.st.cps ∧ simA.st.eidx ≠ simB.st.eidx ∧ simA.st.enext ≠ simB.st.enext ∧
    simA.st.eslab ≠ simB.st.eslab ∧ simA.st ≠ simB.st := by decide +kernel

theorem simAB : DbSim simA simB := by
  have ha : simA.arch = [] := by decide
  have hb : simB.arch = [] := by decide
  refine ⟨⟨(DbInv.init.run _).wf, (DbInv.init.run _).wf, by decide, by decide, by decide, by decide⟩,
    by decide, ?_, by decide, by decide⟩
  rw [ha, hb]
  trivial

/-- … hence indistinguishable by any statement sequence and any probe set -/
example (ops : List Op) (p : Probes) :
    runRes simA ops = runRes simB ops ∧ obs p (run simA ops) = obs p (run simB ops) :=
  ⟨(sim_run _ _ simAB ops).1, (sim_run_obs _ _ simAB ops p).1⟩

/-- related archives with different images: checkpoint both, the blobs differ but are related -/
example : ArchSim (step simA (.ckpt 1 [] 7)).1.arch (step simB (.ckpt 1 [] 7)).1.arch ∧
    (step simA (.ckpt 1 [] 7)).1.arch ≠ (step simB (.ckpt 1 [] 7)).1.arch :=
  ⟨(sim_step _ _ simAB (.ckpt 1 [] 7)).2.arch, by decide⟩

/-- `restore_sim`: its hypotheses hold of a non-empty image -/
example (s : Store) : StoreSim (Store.restoreFrom simB.st s) simB.st :=
  restore_sim (DbInv.init.run _).wf (by decide) s

end Neumann.Ckpt
