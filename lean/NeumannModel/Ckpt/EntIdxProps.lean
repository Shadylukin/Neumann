import NeumannModel.Ckpt.EntIdxLemmas
/-
  C08 — entity ids across a checkpoint: the entity index (`EntityIndex::{get, get_or_create, remove,
  scan_prefix, snapshot, restore}`) beside the embedding slab, whose snapshot is keyed by entity id.
-/
namespace Neumann.Ckpt.EntIdx.Props
open Neumann.Ckpt Neumann.Ckpt.EntIdx

/-- For EVERY sequence of `get_or_create` / `remove` calls (any keys, any number of deletes and
    re-creations) the vocabulary + tombstone index answers `get` exactly like the abstract live-key
    ↦ id map that `Model.lean` uses for `Store.eidx` (append on a miss, `alDel` on a delete), its
    vocabulary length is `Store.enext`, and `scan_prefix("")` is that very map: a deleted key's
    position stays taken, a re-created key gets a fresh id at the end, every other key keeps its id.
    `Store.snapshot` being the identity on `eidx` / `enext` (rollback_exact_partial rests on it) is
    therefore the statement that a snapshot carries the vocabulary WITH its dead entries. -/
theorem entity_index_refines_map (ops : List IOp) (k : Nat) :
    get (irun {} ops) k = alGet (arun {} ops).eidx k ∧
    (irun {} ops).ents.length = (arun {} ops).enext ∧
    live (irun {} ops).ents 0 = (arun {} ops).eidx := by
  have h := Rep.run Rep.empty ops
  exact ⟨h.get k, h.enext.symm, h.eidx.symm⟩

/-- non-vacuity: deletes of the first and of a middle key, a re-creation; ids 0 and 2 are dead,
    key 1 lives on under the fresh id 4 -/
example :
    let ops : List IOp := [.create 1, .create 2, .create 3, .create 4, .remove 1, .remove 3, .create 1, .remove 9]
    (irun {} ops).ents = [(1, false), (2, true), (3, false), (4, true), (1, true)] ∧
    (arun {} ops).eidx = [(2, 1), (4, 3), (1, 4)] ∧ (arun {} ops).enext = 5 ∧
    get (irun {} ops) 1 = some 4 ∧ get (irun {} ops) 3 = none := by decide +kernel

/-- Entity ids are stable across `snapshot()` + `restore()`, for every history: each key resolves
    in the restored index to the id it had (`none` for a deleted one), so the router rebuilt from a
    snapshot reads, for every `emb:` key, the vector the snapshotted router read — whatever was
    deleted or re-created before the checkpoint. -/
theorem snapshot_keeps_entity_ids (ops : List EOp) (k : Nat) :
    get (image snapshot (erun {} ops)).idx k = get (erun {} ops).idx k ∧
    look (image snapshot (erun {} ops)) k = look (erun {} ops) k := ⟨rfl, rfl⟩

/-- non-vacuity: four embeddings, the first deleted before the checkpoint; each survivor is read
    with its own vector from the image (and the deleted key with none) -/
example :
    let s := erun {} [.put 1 10, .put 2 20, .put 3 30, .put 4 40, .del 1]
    s.slab = [(1, 20), (2, 30), (3, 40)] ∧
    (image snapshot s).idx.ents = [(1, false), (2, true), (3, true), (4, true)] ∧
    look (image snapshot s) 1 = none ∧ look (image snapshot s) 2 = some 20 ∧
    look (image snapshot s) 3 = some 30 ∧ look (image snapshot s) 4 = some 40 := by decide +kernel

/-- The restored key ↦ vector map equals the checkpointed one, for EVERY history of puts,
    overwrites, deletes and re-creations before the checkpoint: the router rebuilt from a snapshot
    (index part = `snapshot`, slab part keyed by the old entity ids) reads under every `emb:` key
    exactly the vector last put under THAT key — never another key's — and nothing under a deleted
    one.  This is what `restore_from_bytes` copies back into the live store on a rollback. -/
theorem restored_embeddings_are_the_checkpointed_ones (ops : List EOp) (k : Nat) :
    look (image snapshot (erun {} ops)) k = alGet (mrun [] ops) k :=
  (ERep.run ERep.empty ops).look k

example :
    let ops : List EOp := [.put 1 10, .put 2 20, .put 3 30, .del 1, .put 1 11, .del 2, .put 4 40, .put 3 31]
    mrun [] ops = [(3, 31), (1, 11), (4, 40)] ∧ (erun {} ops).slab = [(2, 31), (3, 11), (4, 40)] ∧
    look (image snapshot (erun {} ops)) 1 = some 11 ∧ look (image snapshot (erun {} ops)) 2 = none := by decide +kernel

/-- Without a delete before it, a snapshot that writes only the live keys is the same snapshot:
    the two differ only when some vocabulary entry is dead. -/
theorem snapshot_live_same_without_tombstones (s : EIdx) (h : ∀ p ∈ s.ents, p.2 = true) :
    snapshotLive s = snapshot s := by
  obtain ⟨ents⟩ := s
  suffices ∀ (l : List (Nat × Bool)) (i : Nat), (∀ p ∈ l, p.2 = true) →
      (live l i).map (fun p => (p.1, true)) = l by
    simp [snapshotLive, snapshot, this ents 0 h]
  intro l
  induction l with
  | nil => intro _ _; rfl
  | cons p r ih =>
    intro i hp
    obtain ⟨x, b⟩ := p
    have hb : b = true := hp (x, b) (by simp)
    subst hb
    simp [live, ih (i + 1) (fun q hq => hp q (by simp [hq]))]

/-- NOT the code (seeded change C08_7): a snapshot that drops the dead vocabulary entries renumbers
    every key created after a deleted one, while the slab part is still keyed by the old ids.  After
    `put 1..4; del 1` the image resolves key 3 to id 1 — the slab entry of key 2 — and key 4 to key
    3's: the rollback copies a NEIGHBOUR's vector under keys 3 and 4 (key 2 lands on the freed id 0
    and is saved by its metadata copy).  This is what the `emb_ids_*` directed cases and the
    `gen:emb_ids_prelude` / `raw:emb_ids_prelude` shapes look for on the real code. -/
theorem snapshot_dropping_tombstones_shifts_ids_witness :
    let s := erun {} [.put 1 10, .put 2 20, .put 3 30, .put 4 40, .del 1]
    (image snapshotLive s).idx.ents = [(2, true), (3, true), (4, true)] ∧
    get s.idx 3 = some 2 ∧ get (image snapshotLive s).idx 3 = some 1 ∧
    look s 3 = some 30 ∧ look (image snapshotLive s) 3 = some 20 ∧
    look s 4 = some 40 ∧ look (image snapshotLive s) 4 = some 30 ∧
    look (image snapshot s) 3 = some 30 ∧ look (image snapshot s) 4 = some 40 := by decide +kernel

end Neumann.Ckpt.EntIdx.Props
