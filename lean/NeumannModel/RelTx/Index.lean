import NeumannModel.RelTx.Lemmas
/-
  C09 — the index invariant of the relational model.

  `IdxExact T`: the hash entries (resp. b-tree entries) of table `T` are duplicate free and are
  EXACTLY one entry `(c, value of column c, i)` for every indexed column `c` and every live row `i`
  — nothing for dead rows, nothing for columns whose index does not exist.  Every table-level
  effect of a statement (insert / update / delete of one row, the undo of one entry whose
  precondition holds, index creation and drop) preserves it, and under it every index-served
  `select` equals the full-scan answer.

  Proof device: an index is viewed slot-wise.  The slot `(c, i)` of an entry list is the set of keys
  `v` with `(c, v, i)` in the list; `idxAdd` / `idxRemove` of `(c, v, i)` touch the slot `(c, i)` only.
-/
namespace Neumann.RelTx

/-- the slot `(c, i)` of `es` holds exactly the key `o` (or nothing) -/
def slotIs (es : List Entry) (c i : Nat) (o : Option Val) : Prop := ∀ v, (c, v, i) ∈ es ↔ o = some v

/-- what the slot `(c, i)` of an index over the columns `on` must hold -/
def want (rows : List Row) (on : List Nat) (c i : Nat) : Option Val :=
  if c ∈ on then
    match rows[i]? with
    | some r => if r.alive then some (val r.vals c) else none
    | none => none
  else none

def ExactOn (rows : List Row) (on : List Nat) (es : List Entry) : Prop :=
  es.Nodup ∧ ∀ c i, slotIs es c i (want rows on c i)

def IdxExact (T : Table) : Prop :=
  ExactOn T.rows T.hashOn T.hashE ∧ ExactOn T.rows T.btreeOn T.btreeE

/-- the `index_changes` list `tx_update` records for a row with values `old` -/
def mkChg (on : List Nat) (upd : List (Nat × Val)) (old : List Val) : List (Nat × Val × Val) :=
  on.filterMap fun c => match updGet upd c with | some n => some (c, val old c, n) | none => none

/-- what the undo of entry `u` expects of the row `r` it names (`on` = the indexed columns, hash
    then b-tree, as recorded by the statement) -/
def undoPre (ncols : Nat) (on : List Nat) (u : Undo) (r : Row) : Prop :=
  match u with
  | .inserted _ _ idx => idx = on.map (fun c => (c, val r.vals c))
  | .updated _ _ old chg => r.alive = true ∧ old.length = ncols ∧
      ∃ upd, (∀ p ∈ upd, p.1 < ncols) ∧ chg = mkChg on upd old ∧ r.vals = applyUpd upd old
  | .deleted _ _ old idx => r.alive = false ∧ old.length = ncols ∧ idx = on.map (fun c => (c, val old c))

/-- the table the per-row body of `tx_update` leaves -/
def updateT (T : Table) (i : Nat) (r : Row) (upd : List (Nat × Val)) : Table :=
  let step := fun (es : List Entry) (c : Nat) =>
    match updGet upd c with
    | some n => idxAdd (c, n, i) (idxRemove (c, val r.vals c, i) es)
    | none => es
  { T with
    hashE := T.hashOn.foldl step T.hashE
    btreeE := T.btreeOn.foldl step T.btreeE
    rows := T.rows.set i { r with vals := applyUpd upd r.vals } }

/-- the table the per-row body of `tx_delete` leaves -/
def deleteT (T : Table) (i : Nat) (r : Row) : Table :=
  { T with
    hashE := T.hashOn.foldl (fun es c => idxRemove (c, val r.vals c, i) es) T.hashE
    btreeE := T.btreeOn.foldl (fun es c => idxRemove (c, val r.vals c, i) es) T.btreeE
    rows := T.rows.set i { r with alive := false } }

theorem mem_idxAdd {x e : Entry} {es : List Entry} : x ∈ idxAdd e es ↔ x = e ∨ x ∈ es := by
  unfold idxAdd
  split
  · constructor
    · intro h; exact Or.inr h
    · rintro (h | h)
      · subst h; assumption
      · exact h
  · simp only [List.mem_append, List.mem_singleton]
    constructor
    · rintro (h | h)
      · exact Or.inr h
      · exact Or.inl h
    · rintro (h | h)
      · exact Or.inr h
      · exact Or.inl h

theorem nodup_idxAdd {e : Entry} {es : List Entry} (h : es.Nodup) : (idxAdd e es).Nodup := by
  unfold idxAdd
  split
  · exact h
  · rename_i hne
    rw [List.nodup_append]
    refine ⟨h, List.nodup_cons.mpr ⟨List.not_mem_nil, List.nodup_nil⟩, ?_⟩
    intro a ha b hb
    rw [List.mem_singleton] at hb
    subst hb
    intro hab
    subst hab
    exact hne ha

theorem mem_idxRemove {x e : Entry} {es : List Entry} : x ∈ idxRemove e es ↔ x ∈ es ∧ x ≠ e := by
  unfold idxRemove
  simp only [List.mem_filter, decide_eq_true_eq]

theorem nodup_idxRemove {e : Entry} {es : List Entry} (h : es.Nodup) : (idxRemove e es).Nodup :=
  List.Nodup.sublist List.filter_sublist h

theorem mem_idxDropCol {x : Entry} {c : Nat} {es : List Entry} : x ∈ idxDropCol c es ↔ x ∈ es ∧ x.1 ≠ c := by
  unfold idxDropCol
  simp only [List.mem_filter, decide_eq_true_eq]

theorem slot_add {es : List Entry} {c i : Nat} {o : Option Val} {v : Val}
    (h : slotIs es c i o) (ho : o = none ∨ o = some v) : slotIs (idxAdd (c, v, i) es) c i (some v) := by
  intro w
  rw [mem_idxAdd, h w]
  constructor
  · rintro (h1 | h1)
    · simp only [Prod.mk.injEq, true_and, and_true] at h1
      rw [h1]
    · rcases ho with ho | ho
      · rw [ho] at h1; cases h1
      · rw [← ho]; exact h1
  · intro h1
    left
    simp only [Option.some.injEq] at h1
    rw [h1]

theorem slot_remove_self {es : List Entry} {c i : Nat} {o : Option Val} {v : Val}
    (h : slotIs es c i o) (ho : o = none ∨ o = some v) : slotIs (idxRemove (c, v, i) es) c i none := by
  intro w
  rw [mem_idxRemove, h w]
  constructor
  · rintro ⟨h1, h2⟩
    rcases ho with ho | ho
    · rw [ho] at h1; cases h1
    · rw [ho] at h1
      simp only [Option.some.injEq] at h1
      subst h1
      exact absurd rfl h2
  · intro h1; cases h1

theorem slot_remove_ne {es : List Entry} {c i : Nat} {v w : Val}
    (h : slotIs es c i (some w)) (hne : w ≠ v) : slotIs (idxRemove (c, v, i) es) c i (some w) := by
  intro u
  rw [mem_idxRemove, h u]
  constructor
  · rintro ⟨h1, _⟩; exact h1
  · intro h1
    refine ⟨h1, ?_⟩
    simp only [Option.some.injEq] at h1
    subst h1
    intro h2
    simp only [Prod.mk.injEq, true_and, and_true] at h2
    exact hne h2

/-- `index_remove old; index_add new` on a slot that holds `old` or `new` -/
theorem slot_swap {es : List Entry} {c i : Nat} {o : Option Val} {a b : Val}
    (h : slotIs es c i o) (ho : o = some a ∨ o = some b) :
    slotIs (idxAdd (c, b, i) (idxRemove (c, a, i) es)) c i (some b) := by
  rcases ho with ho | ho
  · subst ho
    exact slot_add (slot_remove_self h (Or.inr rfl)) (Or.inl rfl)
  · subst ho
    by_cases hab : b = a
    · subst hab
      exact slot_add (slot_remove_self h (Or.inr rfl)) (Or.inl rfl)
    · exact slot_add (slot_remove_ne h hab) (Or.inr rfl)

theorem add_other {es : List Entry} {c c' i i' : Nat} {v v' : Val} (hne : ¬(c' = c ∧ i' = i)) :
    (c', v', i') ∈ idxAdd (c, v, i) es ↔ (c', v', i') ∈ es := by
  rw [mem_idxAdd]
  constructor
  · rintro (h | h)
    · simp only [Prod.mk.injEq] at h
      exact absurd ⟨h.1, h.2.2⟩ hne
    · exact h
  · intro h; exact Or.inr h

theorem remove_other {es : List Entry} {c c' i i' : Nat} {v v' : Val} (hne : ¬(c' = c ∧ i' = i)) :
    (c', v', i') ∈ idxRemove (c, v, i) es ↔ (c', v', i') ∈ es := by
  rw [mem_idxRemove]
  constructor
  · rintro ⟨h, _⟩; exact h
  · intro h
    refine ⟨h, ?_⟩
    intro h2
    simp only [Prod.mk.injEq] at h2
    exact hne ⟨h2.1, h2.2.2⟩

theorem fold_nodup {α : Type} (g : List Entry → α → List Entry) (items : List α) (es : List Entry)
    (hN : ∀ a ∈ items, ∀ es, es.Nodup → (g es a).Nodup) (h : es.Nodup) : (items.foldl g es).Nodup := by
  induction items generalizing es with
  | nil => exact h
  | cons a rest ih =>
    rw [List.foldl_cons]
    apply ih
    · intro b hb; exact hN b (List.mem_cons_of_mem _ hb)
    · exact hN a List.mem_cons_self es h

theorem fold_untouched {α : Type} (g : List Entry → α → List Entry) (items : List α) (es : List Entry)
    (x : Entry) (hO : ∀ a ∈ items, ∀ es, x ∈ g es a ↔ x ∈ es) : x ∈ items.foldl g es ↔ x ∈ es := by
  induction items generalizing es with
  | nil => exact Iff.rfl
  | cons a rest ih =>
    rw [List.foldl_cons, ih _ (fun b hb => hO b (List.mem_cons_of_mem _ hb))]
    exact hO a List.mem_cons_self es

theorem fold_slot {α : Type} (g : List Entry → α → List Entry) (c i : Nat) (hits : α → Prop)
    (s d : Option Val) (items : List α) (es : List Entry) (o : Option Val)
    (hO : ∀ a ∈ items, ¬ hits a → ∀ es v, (c, v, i) ∈ g es a ↔ (c, v, i) ∈ es)
    (hS : ∀ a ∈ items, hits a → ∀ es o, slotIs es c i o → (o = s ∨ o = d) → slotIs (g es a) c i d)
    (h : slotIs es c i o) (ho : o = d ∨ (o = s ∧ ∃ a ∈ items, hits a)) :
    slotIs (items.foldl g es) c i d := by
  induction items generalizing es o with
  | nil =>
    rcases ho with ho | ⟨_, a, ha, _⟩
    · subst ho; exact h
    · cases ha
  | cons a rest ih =>
    rw [List.foldl_cons]
    have hO' : ∀ b ∈ rest, ¬ hits b → ∀ es v, (c, v, i) ∈ g es b ↔ (c, v, i) ∈ es :=
      fun b hb => hO b (List.mem_cons_of_mem _ hb)
    have hS' : ∀ b ∈ rest, hits b → ∀ es o, slotIs es c i o → (o = s ∨ o = d) → slotIs (g es b) c i d :=
      fun b hb => hS b (List.mem_cons_of_mem _ hb)
    by_cases hh : hits a
    · have h1 : slotIs (g es a) c i d := by
        apply hS a List.mem_cons_self hh es o h
        rcases ho with ho | ⟨ho, _⟩
        · exact Or.inr ho
        · exact Or.inl ho
      exact ih (g es a) d hO' hS' h1 (Or.inl rfl)
    · have h1 : slotIs (g es a) c i o := by
        intro v
        rw [hO a List.mem_cons_self hh es v]
        exact h v
      apply ih (g es a) o hO' hS' h1
      rcases ho with ho | ⟨ho, b, hb, hhb⟩
      · exact Or.inl ho
      · right
        refine ⟨ho, ?_⟩
        rcases List.mem_cons.mp hb with hb | hb
        · subst hb; exact absurd hhb hh
        · exact ⟨b, hb, hhb⟩

/-- the general preservation scheme: a fold of slot-local steps takes an exact index to an exact index -/
theorem exactOn_fold {α : Type} (g : List Entry → α → List Entry) (hits : α → Nat → Nat → Prop)
    (src dst : Nat → Nat → Option Val) (items : List α)
    (rows rows' : List Row) (on on' : List Nat) (es : List Entry)
    (hN : ∀ a ∈ items, ∀ es, es.Nodup → (g es a).Nodup)
    (hO : ∀ a ∈ items, ∀ c i, ¬ hits a c i → ∀ es v, (c, v, i) ∈ g es a ↔ (c, v, i) ∈ es)
    (hS : ∀ a ∈ items, ∀ c i, hits a c i → ∀ es o, slotIs es c i o → (o = src c i ∨ o = dst c i) →
      slotIs (g es a) c i (dst c i))
    (hW1 : ∀ c i, (∃ a ∈ items, hits a c i) →
      (want rows on c i = src c i ∨ want rows on c i = dst c i) ∧ want rows' on' c i = dst c i)
    (hW2 : ∀ c i, (¬ ∃ a ∈ items, hits a c i) → want rows' on' c i = want rows on c i)
    (h : ExactOn rows on es) : ExactOn rows' on' (items.foldl g es) := by
  refine ⟨fold_nodup g items es hN h.1, ?_⟩
  intro c i
  by_cases hh : ∃ a ∈ items, hits a c i
  · obtain ⟨hw, hw'⟩ := hW1 c i hh
    rw [hw']
    apply fold_slot g c i (fun a => hits a c i) (src c i) (dst c i) items es (want rows on c i)
      (fun a ha => hO a ha c i) (fun a ha => hS a ha c i) (h.2 c i)
    rcases hw with hw | hw
    · exact Or.inr ⟨hw, hh⟩
    · exact Or.inl hw
  · rw [hW2 c i hh]
    intro v
    rw [fold_untouched g items es (c, v, i)]
    · exact h.2 c i v
    · intro a ha es
      apply hO a ha c i
      intro hc
      exact hh ⟨a, ha, hc⟩

/-! ### `want` under row changes -/

theorem want_notin {rows : List Row} {on : List Nat} {c i : Nat} (hc : c ∉ on) : want rows on c i = none := by
  unfold want; rw [if_neg hc]

theorem want_of_row {rows : List Row} {on : List Nat} {c i : Nat} {r : Row} (hr : rows[i]? = some r) :
    want rows on c i = if c ∈ on then (if r.alive then some (val r.vals c) else none) else none := by
  unfold want; rw [hr]

theorem want_of_none {rows : List Row} {on : List Nat} {c i : Nat} (hr : rows[i]? = none) :
    want rows on c i = none := by
  unfold want
  rw [hr]
  by_cases hc : c ∈ on
  · rw [if_pos hc]
  · rw [if_neg hc]

theorem want_congr {rows rows' : List Row} {on : List Nat} {c i : Nat} (hr : rows'[i]? = rows[i]?) :
    want rows' on c i = want rows on c i := by
  unfold want; rw [hr]

theorem set_self {rows : List Row} {i : Nat} {r x : Row} (hr : rows[i]? = some r) : (rows.set i x)[i]? = some x := by
  have hlt : i < rows.length := by
    rcases Nat.lt_or_ge i rows.length with h | h
    · exact h
    · rw [List.getElem?_eq_none h] at hr; cases hr
  rw [List.getElem?_set, if_pos rfl, if_pos hlt]

theorem set_ne {rows : List Row} {i j : Nat} {x : Row} (hne : j ≠ i) : (rows.set i x)[j]? = rows[j]? := by
  rw [List.getElem?_set, if_neg (fun e => hne e.symm)]

theorem getElem?_applyUpdFrom (upd : List (Nat × Val)) (k : Nat) (vals : List Val) (j : Nat) :
    (applyUpdFrom upd k vals)[j]? =
      vals[j]?.map (fun v => match updGet upd (k + j) with | some n => n | none => v) := by
  induction vals generalizing k j with
  | nil => rw [applyUpdFrom]; rfl
  | cons v vs ih =>
    rw [applyUpdFrom]
    cases j with
    | zero => rfl
    | succ j =>
      rw [List.getElem?_cons_succ, List.getElem?_cons_succ, ih (k + 1) j]
      have : k + 1 + j = k + (j + 1) := by omega
      rw [this]

theorem val_applyUpd_some {upd : List (Nat × Val)} {vals : List Val} {c : Nat} {n : Val}
    (h : updGet upd c = some n) (hc : c < vals.length) : val (applyUpd upd vals) c = n := by
  unfold val applyUpd
  rw [List.getD_eq_getElem?_getD, getElem?_applyUpdFrom, Nat.zero_add, h, List.getElem?_eq_getElem hc]
  rfl

theorem val_applyUpd_none {upd : List (Nat × Val)} {vals : List Val} {c : Nat}
    (h : updGet upd c = none) : val (applyUpd upd vals) c = val vals c := by
  unfold val applyUpd
  rw [List.getD_eq_getElem?_getD, List.getD_eq_getElem?_getD, getElem?_applyUpdFrom, Nat.zero_add, h]
  cases vals[c]? <;> rfl

theorem updGet_some_mem {upd : List (Nat × Val)} {c : Nat} {n : Val} (h : updGet upd c = some n) :
    (c, n) ∈ upd := by
  induction upd with
  | nil => rw [updGet] at h; cases h
  | cons p rest ih =>
    obtain ⟨c', v⟩ := p
    rw [updGet] at h
    split at h
    · rename_i hc
      cases h
      subst hc
      exact List.mem_cons_self
    · exact List.mem_cons_of_mem _ (ih h)

/-! ### the statements, one index at a time -/

theorem exactOn_insert {rows : List Row} {on : List Nat} {es : List Entry} (vals : List Val)
    (h : ExactOn rows on es) :
    ExactOn (rows ++ [{ alive := true, vals := vals }]) on
      (on.foldl (fun es c => idxAdd (c, val vals c, rows.length) es) es) := by
  apply exactOn_fold (fun es c => idxAdd (c, val vals c, rows.length) es)
    (fun a c i => a = c ∧ i = rows.length) (fun _ _ => none) (fun c _ => some (val vals c)) on rows _ on on es
    _ _ _ _ _ h
  · intro a _ es hes; exact nodup_idxAdd hes
  · intro a _ c i hh es v; exact add_other (fun ⟨h1, h2⟩ => hh ⟨h1.symm, h2⟩)
  · rintro a _ c i ⟨rfl, rfl⟩ es o ho hoo
    exact slot_add ho hoo
  · rintro c i ⟨a, ha, rfl, rfl⟩
    constructor
    · left; exact want_of_none (List.getElem?_eq_none (Nat.le_refl _))
    · rw [want_of_row (r := { alive := true, vals := vals }), if_pos ha]
      · rfl
      · rw [List.getElem?_append, if_neg (Nat.lt_irrefl _), Nat.sub_self]; rfl
  · intro c i hh
    by_cases hc : c ∈ on
    · have hi : i ≠ rows.length := fun e => hh ⟨c, hc, rfl, e⟩
      apply want_congr
      rw [List.getElem?_append]
      split
      · rfl
      · rename_i hlt
        have h1 : rows.length ≤ i := Nat.le_of_not_lt hlt
        rw [List.getElem?_eq_none h1]
        apply List.getElem?_eq_none
        simp only [List.length_cons, List.length_nil]
        omega
    · rw [want_notin hc, want_notin hc]

theorem exactOn_remove {rows rows' : List Row} {on all : List Nat} {es : List Entry} {i0 : Nat} {r : Row}
    (hr : rows[i0]? = some r) (hself : rows'[i0]? = some { r with alive := false })
    (hother : ∀ i, i ≠ i0 → rows'[i]? = rows[i]?) (hsub : ∀ c ∈ on, c ∈ all) (h : ExactOn rows on es) :
    ExactOn rows' on (all.foldl (fun es c => idxRemove (c, val r.vals c, i0) es) es) := by
  apply exactOn_fold (fun es c => idxRemove (c, val r.vals c, i0) es)
    (fun a c i => a = c ∧ i = i0) (fun c _ => some (val r.vals c)) (fun _ _ => none) all rows rows' on on es
    _ _ _ _ _ h
  · intro a _ es hes; exact nodup_idxRemove hes
  · intro a _ c i hh es v; exact remove_other (fun ⟨h1, h2⟩ => hh ⟨h1.symm, h2⟩)
  · rintro a _ c i ⟨rfl, rfl⟩ es o ho hoo
    exact slot_remove_self ho hoo.symm
  · rintro c i ⟨a, _, rfl, rfl⟩
    rw [want_of_row hr, want_of_row hself]
    by_cases hc : a ∈ on
    · rw [if_pos hc, if_pos hc]
      cases r.alive
      · exact ⟨Or.inr rfl, rfl⟩
      · exact ⟨Or.inl rfl, rfl⟩
    · rw [if_neg hc, if_neg hc]
      exact ⟨Or.inr rfl, rfl⟩
  · intro c i hh
    by_cases hc : c ∈ on
    · have hi : i ≠ i0 := fun e => hh ⟨c, hsub c hc, rfl, e⟩
      exact want_congr (hother i hi)
    · rw [want_notin hc, want_notin hc]

theorem exactOn_delete {rows : List Row} {on : List Nat} {es : List Entry} {i0 : Nat} {r : Row}
    (hr : rows[i0]? = some r) (h : ExactOn rows on es) :
    ExactOn (rows.set i0 { r with alive := false }) on
      (on.foldl (fun es c => idxRemove (c, val r.vals c, i0) es) es) :=
  exactOn_remove hr (set_self hr) (fun _ hi => set_ne hi) (fun _ hc => hc) h

theorem exactOn_update {rows : List Row} {on : List Nat} {es : List Entry} {i0 : Nat} {r : Row}
    (upd : List (Nat × Val)) (hr : rows[i0]? = some r) (ha : r.alive = true)
    (hupd : ∀ p ∈ upd, p.1 < r.vals.length) (h : ExactOn rows on es) :
    ExactOn (rows.set i0 { r with vals := applyUpd upd r.vals }) on
      (on.foldl (fun (es : List Entry) (c : Nat) =>
        match updGet upd c with
        | some n => idxAdd (c, n, i0) (idxRemove (c, val r.vals c, i0) es)
        | none => es) es) := by
  apply exactOn_fold _
    (fun a c i => a = c ∧ i = i0 ∧ (updGet upd c).isSome) (fun c _ => some (val r.vals c))
    (fun c _ => updGet upd c) on rows _ on on es
    _ _ _ _ _ h
  · intro a _ es hes
    split
    · exact nodup_idxAdd (nodup_idxRemove hes)
    · exact hes
  · intro a _ c i hh es v
    split
    · rename_i n hn
      have hne : ¬(c = a ∧ i = i0) := by
        rintro ⟨h1, h2⟩
        subst h1
        exact hh ⟨rfl, h2, by rw [hn]; rfl⟩
      rw [add_other hne, remove_other hne]
    · exact Iff.rfl
  · rintro a _ c i ⟨rfl, rfl, hs⟩ es o ho hoo
    split
    · rename_i n hn
      rw [hn] at hoo ⊢
      exact slot_swap ho hoo
    · rename_i hn
      rw [hn] at hs; cases hs
  · rintro c i ⟨a, hmem, rfl, rfl, hs⟩
    constructor
    · left
      rw [want_of_row hr, if_pos hmem, if_pos ha]
    · rw [want_of_row (set_self hr), if_pos hmem, if_pos ha]
      cases hn : updGet upd a with
      | none => rw [hn] at hs; cases hs
      | some n =>
        dsimp only
        rw [val_applyUpd_some hn (hupd _ (updGet_some_mem hn))]
  · intro c i hh
    by_cases hc : c ∈ on
    · by_cases hi : i = i0
      · subst hi
        have hn : updGet upd c = none := by
          cases hn : updGet upd c with
          | none => rfl
          | some n => exact absurd ⟨c, hc, rfl, rfl, by rw [hn]; rfl⟩ hh
        rw [want_of_row hr, want_of_row (set_self hr)]
        dsimp only
        rw [val_applyUpd_none hn]
      · exact want_congr (set_ne hi)
    · rw [want_notin hc, want_notin hc]

theorem mem_mkChg {on : List Nat} {upd : List (Nat × Val)} {old : List Val} {p : Nat × Val × Val} :
    p ∈ mkChg on upd old ↔ ∃ c ∈ on, ∃ n, updGet upd c = some n ∧ p = (c, val old c, n) := by
  unfold mkChg
  rw [List.mem_filterMap]
  constructor
  · rintro ⟨c, hc, h⟩
    split at h
    · rename_i n hn
      cases h
      exact ⟨c, hc, n, hn, rfl⟩
    · cases h
  · rintro ⟨c, hc, n, hn, rfl⟩
    refine ⟨c, hc, ?_⟩
    rw [hn]

theorem exactOn_undoInserted {rows rows' : List Row} {on all : List Nat} {es : List Entry} {i0 : Nat} {r : Row}
    (hr : rows[i0]? = some r) (hself : rows'[i0]? = some { r with alive := false })
    (hother : ∀ i, i ≠ i0 → rows'[i]? = rows[i]?) (hsub : ∀ c ∈ on, c ∈ all) (h : ExactOn rows on es) :
    ExactOn rows' on
      ((all.map fun c => (c, val r.vals c)).foldl (fun es (p : Nat × Val) => idxRemove (p.1, p.2, i0) es) es) := by
  rw [List.foldl_map]
  exact exactOn_remove hr hself hother hsub h

theorem exactOn_undoUpdated {rows rows' : List Row} {on all : List Nat} {es : List Entry} {i0 : Nat} {r : Row}
    {old : List Val} (upd : List (Nat × Val))
    (hr : rows[i0]? = some r) (ha : r.alive = true) (hself : rows'[i0]? = some { r with vals := old })
    (hother : ∀ i, i ≠ i0 → rows'[i]? = rows[i]?) (hsub : ∀ c ∈ on, c ∈ all)
    (hupd : ∀ p ∈ upd, p.1 < old.length) (hvals : r.vals = applyUpd upd old) (h : ExactOn rows on es) :
    ExactOn rows' on ((mkChg all upd old).foldl (undoChange on i0) es) := by
  apply exactOn_fold _
    (fun (p : Nat × Val × Val) c i => p.1 = c ∧ i = i0 ∧ c ∈ on) (fun c _ => some (val r.vals c))
    (fun c _ => some (val old c))
    _ rows rows' on on es _ _ _ _ _ h
  · intro p _ es hes
    unfold undoChange
    split
    · exact nodup_idxAdd (nodup_idxRemove hes)
    · exact hes
  · intro p _ c i hh es v
    unfold undoChange
    split
    · rename_i hon
      have hne : ¬(c = p.1 ∧ i = i0) := by
        rintro ⟨h1, h2⟩
        exact hh ⟨h1.symm, h2, h1 ▸ hon⟩
      rw [add_other hne, remove_other hne]
    · exact Iff.rfl
  · rintro p hp c i ⟨rfl, rfl, hon⟩ es o ho hoo
    obtain ⟨a, _, n, hn, rfl⟩ := mem_mkChg.mp hp
    unfold undoChange
    rw [if_pos hon]
    have hv : val r.vals a = n := by
      rw [hvals]; exact val_applyUpd_some hn (hupd _ (updGet_some_mem hn))
    dsimp only at hoo ⊢
    rw [hv] at hoo
    exact slot_swap ho hoo
  · rintro c i ⟨p, _, rfl, rfl, hon⟩
    constructor
    · left
      rw [want_of_row hr, if_pos hon, if_pos ha]
    · rw [want_of_row hself, if_pos hon, if_pos ha]
  · intro c i hh
    by_cases hc : c ∈ on
    · by_cases hi : i = i0
      · subst hi
        have hn : updGet upd c = none := by
          cases hn : updGet upd c with
          | none => rfl
          | some n =>
            exact absurd ⟨(c, val old c, n), mem_mkChg.mpr ⟨c, hsub c hc, n, hn, rfl⟩, rfl, rfl, hc⟩ hh
        rw [want_of_row hr, want_of_row hself]
        dsimp only
        rw [hvals, val_applyUpd_none hn]
      · exact want_congr (hother i hi)
    · rw [want_notin hc, want_notin hc]

theorem exactOn_undoDeleted {rows rows' : List Row} {on all : List Nat} {es : List Entry} {i0 : Nat} {r : Row}
    {old : List Val}
    (hr : rows[i0]? = some r) (ha : r.alive = false) (hself : rows'[i0]? = some { alive := true, vals := old })
    (hother : ∀ i, i ≠ i0 → rows'[i]? = rows[i]?) (hsub : ∀ c ∈ on, c ∈ all) (h : ExactOn rows on es) :
    ExactOn rows' on ((all.map fun c => (c, val old c)).foldl (undoReadd on i0) es) := by
  apply exactOn_fold _
    (fun (p : Nat × Val) c i => p.1 = c ∧ i = i0 ∧ c ∈ on) (fun _ _ => none)
    (fun c _ => some (val old c))
    _ rows rows' on on es _ _ _ _ _ h
  · intro p _ es hes
    unfold undoReadd
    split
    · exact nodup_idxAdd hes
    · exact hes
  · intro p _ c i hh es v
    unfold undoReadd
    split
    · rename_i hon
      have hne : ¬(c = p.1 ∧ i = i0) := by
        rintro ⟨h1, h2⟩
        exact hh ⟨h1.symm, h2, h1 ▸ hon⟩
      rw [add_other hne]
    · exact Iff.rfl
  · rintro p hp c i ⟨rfl, rfl, hon⟩ es o ho hoo
    obtain ⟨a, _, rfl⟩ := List.mem_map.mp hp
    unfold undoReadd
    rw [if_pos hon]
    exact slot_add ho hoo
  · rintro c i ⟨p, _, rfl, rfl, hon⟩
    constructor
    · left
      rw [want_of_row hr, if_pos hon, ha]; rfl
    · rw [want_of_row hself, if_pos hon]; rfl
  · intro c i hh
    by_cases hc : c ∈ on
    · have hi : i ≠ i0 := fun e =>
        hh ⟨(c, val old c), List.mem_map.mpr ⟨c, hsub c hc, rfl⟩, rfl, e, hc⟩
      exact want_congr (hother i hi)
    · rw [want_notin hc, want_notin hc]

theorem exactOn_buildCol {T : Table} {on : List Nat} {es : List Entry} {c0 : Nat} (hc0 : c0 ∉ on)
    (h : ExactOn T.rows on es) : ExactOn T.rows (on ++ [c0]) (buildCol T c0 es) := by
  unfold buildCol
  apply exactOn_fold _
    (fun (a : Nat) c i => a = i ∧ c = c0) (fun _ _ => none) (fun c i => want T.rows (on ++ [c0]) c i)
    _ T.rows T.rows on (on ++ [c0]) es _ _ _ _ _ h
  · intro a _ es hes
    split
    · exact nodup_idxAdd hes
    · exact hes
  · intro a _ c i hh es v
    split
    · exact add_other (fun ⟨h1, h2⟩ => hh ⟨h2.symm, h1⟩)
    · exact Iff.rfl
  · rintro a hmem c i ⟨rfl, rfl⟩ es o ho hoo
    obtain ⟨r, hr, ha, _⟩ := mem_matching.mp hmem
    have hw : want T.rows (on ++ [c]) c a = some (val r.vals c) := by
      rw [want_of_row hr, if_pos (List.mem_append_right _ List.mem_cons_self), if_pos ha]
    rw [hw] at hoo ⊢
    rw [hr]
    exact slot_add ho hoo
  · rintro c i ⟨a, _, rfl, rfl⟩
    exact ⟨Or.inl (want_notin hc0), rfl⟩
  · intro c i hh
    by_cases hc : c = c0
    · subst hc
      rw [want_notin hc0]
      cases hr : T.rows[i]? with
      | none => exact want_of_none hr
      | some r =>
        rw [want_of_row hr]
        have ha : r.alive = false := by
          cases ha : r.alive with
          | false => rfl
          | true => exact absurd ⟨i, mem_matching.mpr ⟨r, hr, ha, rfl⟩, rfl, rfl⟩ hh
        rw [ha]
        split <;> rfl
    · unfold want
      simp only [List.mem_append, List.mem_singleton, hc, or_false]

theorem exactOn_dropCol {rows : List Row} {on : List Nat} {es : List Entry} (c0 : Nat)
    (h : ExactOn rows on es) : ExactOn rows (on.filter (· ≠ c0)) (idxDropCol c0 es) := by
  refine ⟨List.Nodup.sublist List.filter_sublist h.1, ?_⟩
  intro c i v
  rw [mem_idxDropCol]
  by_cases hc : c = c0
  · subst hc
    have : c ∉ on.filter (· ≠ c) := by
      intro hm
      rw [List.mem_filter, decide_eq_true_eq] at hm
      exact hm.2 rfl
    rw [want_notin this]
    constructor
    · rintro ⟨_, h2⟩; exact absurd rfl h2
    · intro h1; cases h1
  · have hw : want rows (on.filter (· ≠ c0)) c i = want rows on c i := by
      unfold want
      simp only [List.mem_filter, decide_eq_true_eq, ne_eq, hc, not_false_eq_true, and_true]
    rw [hw, ← h.2 c i v]
    constructor
    · rintro ⟨h1, _⟩; exact h1
    · intro h1; exact ⟨h1, hc⟩

theorem flatMap_eq_filterMap (T : Table) (cands : List Nat) (l : List Nat)
    (h : ∀ i ∈ l, cands.count i = 1) :
    (l.flatMap fun i =>
      match T.rows[i]? with
      | some r => List.replicate (cands.count i) (i, r.vals)
      | none => []) = l.filterMap fun i => (T.rows[i]?).map fun r => (i, r.vals) := by
  induction l with
  | nil => rfl
  | cons a rest ih =>
    rw [List.flatMap_cons, List.filterMap_cons, ih (fun i hi => h i (List.mem_cons_of_mem _ hi)),
      h a List.mem_cons_self]
    cases T.rows[a]? with
    | none => rfl
    | some r => rfl

theorem indexAnswer_eq_scan (T : Table) (cond : Cond) (cands : List Nat)
    (h : ∀ i ∈ matching T cond, cands.count i = 1) : indexAnswer T cond cands = scanAnswer T cond := by
  unfold indexAnswer scanAnswer
  exact flatMap_eq_filterMap T cands _ h

theorem count_cands {rows : List Row} {on : List Nat} {es : List Entry} (h : ExactOn rows on es)
    {c i : Nat} {r : Row} {x : Val} (p : Val → Bool) (hc : c ∈ on) (hr : rows[i]? = some r)
    (ha : r.alive = true) (hx : r.vals[c]? = some x) (hp : p x = true) :
    ((es.filter fun e => e.1 == c && p e.2.1).map (·.2.2)).count i = 1 := by
  have hval : val r.vals c = x := by
    unfold val; rw [List.getD_eq_getElem?_getD, hx]; rfl
  have hw : want rows on c i = some x := by
    rw [want_of_row hr, if_pos hc, if_pos ha, hval]
  have hmem : (c, x, i) ∈ es := (h.2 c i x).mpr hw
  rw [List.count_eq_countP, List.countP_map, List.countP_filter]
  have : List.countP (fun a => ((fun x => x == i) ∘ fun (x : Entry) => x.2.2) a && (a.1 == c && p a.2.1)) es
      = List.countP (fun e => e == (c, x, i)) es := by
    apply List.countP_congr
    rintro ⟨c', v', i'⟩ he
    simp only [Function.comp, Bool.and_eq_true, beq_iff_eq, Prod.mk.injEq]
    constructor
    · rintro ⟨h1, h2, _⟩
      subst h1 h2
      have := (h.2 c' i' v').mp he
      rw [hw] at this
      cases this
      exact ⟨rfl, rfl, rfl⟩
    · rintro ⟨h1, h2, h3⟩
      subst h1 h2 h3
      exact ⟨rfl, rfl, hp⟩
  rw [this, ← List.count_eq_countP, List.Nodup.count h.1, if_pos hmem]

theorem evalCond_pred {c : Nat} {vals : List Val} {p : Val → Bool}
    (h : (match vals[c]? with | some x => p x | none => false) = true) :
    ∃ x, vals[c]? = some x ∧ p x = true := by
  cases hx : vals[c]? with
  | none => rw [hx] at h; cases h
  | some x => rw [hx] at h; exact ⟨x, rfl, h⟩

theorem idxExact_empty (n : Nat) (nl : List Nat) :
    IdxExact { ncols := n, nullable := nl, rows := [], hashOn := [], btreeOn := [], hashE := [], btreeE := [] } := by
  have h : ExactOn [] [] [] := by
    refine ⟨List.nodup_nil, ?_⟩
    intro c i v
    rw [want_notin List.not_mem_nil]
    constructor
    · intro h; cases h
    · intro h; cases h
  exact ⟨h, h⟩

theorem idxExact_insertT (T : Table) (vals : List Val) (h : IdxExact T) : IdxExact (insertT T vals) :=
  ⟨exactOn_insert vals h.1, exactOn_insert vals h.2⟩

theorem idxExact_foldl_insertRow (rows : List (List Val)) (T : Table) (h : IdxExact T) :
    IdxExact (rows.foldl insertRow T) := by
  induction rows generalizing T with
  | nil => exact h
  | cons v rest ih => exact ih (insertRow T v) (idxExact_insertT T v h)

theorem idxExact_updateT (T : Table) (i : Nat) (r : Row) (upd : List (Nat × Val)) (h : IdxExact T)
    (hr : T.rows[i]? = some r) (ha : r.alive = true) (hlen : r.vals.length = T.ncols)
    (hupd : ∀ p ∈ upd, p.1 < T.ncols) : IdxExact (updateT T i r upd) := by
  have hupd' : ∀ p ∈ upd, p.1 < r.vals.length := by rw [hlen]; exact hupd
  exact ⟨exactOn_update upd hr ha hupd' h.1, exactOn_update upd hr ha hupd' h.2⟩

theorem idxExact_deleteT (T : Table) (i : Nat) (r : Row) (h : IdxExact T) (hr : T.rows[i]? = some r) :
    IdxExact (deleteT T i r) :=
  ⟨exactOn_delete hr h.1, exactOn_delete hr h.2⟩

/-- undoing one entry whose precondition holds keeps the indexes exact and reports no error -/
theorem idxExact_applyUndoT (T : Table) (u : Undo) (r : Row) (h : IdxExact T)
    (hr : T.rows[u.row]? = some r) (hp : undoPre T.ncols (T.hashOn ++ T.btreeOn) u r) :
    IdxExact (applyUndoT T u).1 ∧ (applyUndoT T u).2 = 0 := by
  have hsubH : ∀ c ∈ T.hashOn, c ∈ T.hashOn ++ T.btreeOn := fun c hc => List.mem_append_left _ hc
  have hsubB : ∀ c ∈ T.btreeOn, c ∈ T.hashOn ++ T.btreeOn := fun c hc => List.mem_append_right _ hc
  have hself := applyUndoT_row_self T u r hr
  have hother := fun j hj => applyUndoT_rows_other T u j hj
  cases u with
  | inserted t i idx =>
    change idx = _ at hp
    subst hp
    exact ⟨⟨exactOn_undoInserted hr hself hother hsubH h.1, exactOn_undoInserted hr hself hother hsubB h.2⟩, rfl⟩
  | updated t i old chg =>
    obtain ⟨ha, hl, upd, hupd, hchg, hvals⟩ := hp
    subst hchg
    change T.rows[i]? = some r at hr
    have hrr : (restoreRow T i old).isSome = true := by
      simp only [restoreRow, hr, ha, hl, and_self, ↓reduceIte, Option.isSome_some]
    have hself' := hself.trans (congrArg some (show undoRow T.ncols (.updated t i old _) r = { r with vals := old } by
      simp only [undoRow, ha, hl, and_self, ↓reduceIte]))
    have hupd' : ∀ p ∈ upd, p.1 < old.length := by rw [hl]; exact hupd
    exact ⟨⟨exactOn_undoUpdated upd hr ha hself' hother hsubH hupd' hvals h.1,
      exactOn_undoUpdated upd hr ha hself' hother hsubB hupd' hvals h.2⟩, if_pos hrr⟩
  | deleted t i old idx =>
    obtain ⟨ha, hl, hidx⟩ := hp
    subst hidx
    change T.rows[i]? = some r at hr
    have hrr : (restoreDeletedRow T i old).isSome = true := by
      simp only [restoreDeletedRow, hr, ha, hl, Bool.not_false, and_self, ↓reduceIte, Option.isSome_some]
    have hself' := hself.trans (congrArg some (show undoRow T.ncols (.deleted t i old _) r = { alive := true, vals := old } by
      simp only [undoRow, ha, hl, Bool.not_false, and_self, ↓reduceIte]))
    exact ⟨⟨exactOn_undoDeleted hr ha hself' hother hsubH h.1, exactOn_undoDeleted hr ha hself' hother hsubB h.2⟩,
      if_pos hrr⟩

theorem idxExact_createIndex (T : Table) (c : Nat) (h : IdxExact T) (hc : c ∉ T.hashOn) :
    IdxExact { T with hashOn := T.hashOn ++ [c], hashE := buildCol T c T.hashE } :=
  ⟨exactOn_buildCol hc h.1, h.2⟩

theorem idxExact_createBtree (T : Table) (c : Nat) (h : IdxExact T) (hc : c ∉ T.btreeOn) :
    IdxExact { T with btreeOn := T.btreeOn ++ [c], btreeE := buildCol T c T.btreeE } :=
  ⟨h.1, exactOn_buildCol hc h.2⟩

theorem idxExact_dropIndex (T : Table) (c : Nat) (h : IdxExact T) :
    IdxExact { T with hashOn := T.hashOn.filter (· ≠ c), hashE := idxDropCol c T.hashE } :=
  ⟨exactOn_dropCol c h.1, h.2⟩

theorem idxExact_dropBtree (T : Table) (c : Nat) (h : IdxExact T) :
    IdxExact { T with btreeOn := T.btreeOn.filter (· ≠ c), btreeE := idxDropCol c T.btreeE } :=
  ⟨h.1, exactOn_dropCol c h.2⟩

/-- a comparison that holds (both sides non-null) holds in the order of the b-tree keys, so the row's
    key lies in the range the lookup scans -/
theorem Val.keyLt_of_lt {a b : Val} (h : Val.lt a b = true) : Val.keyLt a b = true := by
  cases a <;> cases b <;> simp_all [Val.lt, Val.keyLt]

theorem Val.keyLe_of_le {a b : Val} (h : Val.le a b = true) : Val.keyLe a b = true := by
  cases a <;> cases b <;> simp_all [Val.le, Val.keyLe, Val.keyLt]

/-- with exact indexes, every live row satisfying a condition that an index serves occurs exactly
    once among the candidates `try_index_lookup` returns — also for `And(a, b)`, whose candidates are
    those of whichever side is served first -/
theorem candidates_count (T : Table) (h : IdxExact T) (cond : Cond) :
    ∀ cands, candidates T cond = some cands → ∀ i r, T.rows[i]? = some r → r.alive = true →
      evalCond cond i r.vals = true → cands.count i = 1 := by
  have bt : ∀ (c : Nat) (q p : Val → Bool) (cands : List Nat), (∀ x, q x = true → p x = true) →
      btCands T c p = some cands → ∀ i r, T.rows[i]? = some r → r.alive = true →
      (match r.vals[c]? with | some x => q x | none => false) = true → cands.count i = 1 := by
    intro c q p cands hqp hc i r hr ha he
    unfold btCands at hc
    split at hc
    · rename_i hon
      cases hc
      obtain ⟨x, hx, hq⟩ := evalCond_pred he
      exact count_cands h.2 p hon hr ha hx (hqp x hq)
    · cases hc
  induction cond with
  | all => intro cands hc; cases hc
  | idEq j => intro cands hc; cases hc
  | ne c v => intro cands hc; cases hc
  | or a b _ _ => intro cands hc; cases hc
  | eq c v =>
    intro cands hc i r hr ha he
    unfold candidates hashCands at hc
    split at hc
    · rename_i hon
      cases hc
      obtain ⟨x, hx, hp⟩ := evalCond_pred (p := fun k => k == v) he
      exact count_cands h.1 (fun k => k == v) hon hr ha hx hp
    · cases hc
  | lt c v => intro cands hc i r hr ha he; exact bt c (fun x => Val.lt x v) _ cands (fun x => Val.keyLt_of_lt) hc i r hr ha he
  | le c v => intro cands hc i r hr ha he; exact bt c (fun x => Val.le x v) _ cands (fun x => Val.keyLe_of_le) hc i r hr ha he
  | gt c v => intro cands hc i r hr ha he; exact bt c (fun x => Val.lt v x) _ cands (fun x => Val.keyLt_of_lt) hc i r hr ha he
  | ge c v => intro cands hc i r hr ha he; exact bt c (fun x => Val.le v x) _ cands (fun x => Val.keyLe_of_le) hc i r hr ha he
  | and a b iha ihb =>
    intro cands hc i r hr ha he
    have he' : evalCond a i r.vals = true ∧ evalCond b i r.vals = true := by
      have : (evalCond a i r.vals && evalCond b i r.vals) = true := he
      rwa [Bool.and_eq_true] at this
    have hc' : (match candidates T a with | some cands => some cands | none => candidates T b) = some cands := hc
    cases hca : candidates T a with
    | some ca =>
      rw [hca] at hc'
      have hcc : ca = cands := Option.some.inj hc'
      subst hcc
      exact iha ca hca i r hr ha he'.1
    | none =>
      rw [hca] at hc'
      exact ihb cands hc' i r hr ha he'.2

/-- with exact indexes every index-served answer is the full-scan answer — every condition,
    including `Ne`, `And` (served by the index of either side) and `Or` -/
theorem select_eq_scan (T : Table) (h : IdxExact T) (cond : Cond) : select T cond = scanAnswer T cond := by
  unfold select
  cases hc : candidates T cond with
  | none => rfl
  | some cands =>
    apply indexAnswer_eq_scan
    intro i hi
    obtain ⟨r, hr, ha, he⟩ := mem_matching.mp hi
    exact candidates_count T h cond cands hc i r hr ha he

end Neumann.RelTx
