import NeumannModel.RelTx.DdlModel
import NeumannModel.RelTx.LockOwner
/-
  C09 — lemmas about `drop_table` / `create_table <name>` next to open transactions (`DdlModel.lean`).

  * the guard: what `openTxOnTable` finds, the shapes of `dropTable` / `createTableAt`;
  * `ddl_Evo P s s'`: what one statement does to the table map (no table vanishes), the id counter
    (only grows) and the records of the transaction manager (a predicate `P` on records that survives
    appending an entry naming the written table survives the statement) — for EVERY state, no calmness
    hypothesis;
  * `ddl_DI`: every record's id has been handed out and every undo entry names an existing table —
    kept by every `OpD` statement;
  * `ddl_noName_*`: a transaction that does not write table `t` never gets an entry naming `t`, and its
    rollback does not touch table `t`;
  * the indexes of a table created under a name used before are exact.
-/
namespace Neumann.RelTx

theorem ddl_openTx_isSome {s : State} {t A : Nat} {x : Tx} (hlt : A < s.nextTx) (hx : s.txs A = some x)
    (hu : ∃ u ∈ x.undo, u.table = t) : (openTxOnTable s t).isSome = true := by
  unfold openTxOnTable
  rw [List.find?_isSome]
  refine ⟨A, List.mem_range.2 hlt, ?_⟩
  simp only [hx]
  rw [List.any_eq_true]
  obtain ⟨u, hu, ht⟩ := hu
  exact ⟨u, hu, by simp [ht]⟩

theorem ddl_openTx_none {s : State} {t : Nat} (h : openTxOnTable s t = none) {A : Nat} {x : Tx}
    (hlt : A < s.nextTx) (hx : s.txs A = some x) : ∀ u ∈ x.undo, u.table ≠ t := by
  unfold openTxOnTable at h
  rw [List.find?_eq_none] at h
  have h1 := h A (List.mem_range.2 hlt)
  simp only [hx] at h1
  intro u hu ht
  apply h1
  rw [List.any_eq_true]
  exact ⟨u, hu, by simp [ht]⟩

/-- `drop_table` either leaves the state alone or — nobody has uncommitted changes in the table — removes it -/
theorem dropTable_cases (s : State) (t : Nat) :
    ((dropTable s t).1 = s ∧ (dropTable s t).2 ≠ .ok) ∨
    ((∃ T, s.tables t = some T) ∧ openTxOnTable s t = none ∧ dropTable s t = (removeTable s t, .ok)) := by
  unfold dropTable
  cases hT : s.tables t with
  | none => left; exact ⟨rfl, by simp⟩
  | some T =>
    cases ho : openTxOnTable s t with
    | some B => left; exact ⟨rfl, by simp⟩
    | none => right; exact ⟨⟨T, rfl⟩, rfl, rfl⟩

theorem dropTable_ok_form {s : State} {t : Nat} (h : (dropTable s t).2 = .ok) :
    (∃ T, s.tables t = some T) ∧ openTxOnTable s t = none ∧ dropTable s t = (removeTable s t, .ok) := by
  rcases dropTable_cases s t with h1 | h1
  · exact absurd h h1.2
  · exact h1

theorem dropTable_refused {s : State} {t : Nat} {T : Table} {B : Nat} (hT : s.tables t = some T)
    (ho : openTxOnTable s t = some B) : dropTable s t = (s, .err .lockConflict) := by
  unfold dropTable
  rw [hT, ho]

theorem dropTable_txs (s : State) (t : Nat) : (dropTable s t).1.txs = s.txs := by
  rcases dropTable_cases s t with h1 | h1
  · rw [h1.1]
  · rw [h1.2.2]; rfl

/-- `create_table <name>` either leaves the state alone or — the name is unused — adds the empty table -/
theorem createTableAt_cases (s : State) (t n : Nat) (nl : List Nat) :
    ((createTableAt s t n nl).1 = s ∧ (createTableAt s t n nl).2 ≠ .ok) ∨
    (s.tables t = none ∧
      createTableAt s t n nl = ({ setTable s t (emptyTable n nl) with ntables := max s.ntables (t + 1) }, .ok)) := by
  unfold createTableAt
  cases hT : s.tables t with
  | none => right; exact ⟨rfl, rfl⟩
  | some T => left; exact ⟨rfl, by simp⟩

theorem createTableAt_ok_form {s : State} {t n : Nat} {nl : List Nat} (h : (createTableAt s t n nl).2 = .ok) :
    s.tables t = none ∧
      createTableAt s t n nl = ({ setTable s t (emptyTable n nl) with ntables := max s.ntables (t + 1) }, .ok) := by
  rcases createTableAt_cases s t n nl with h1 | h1
  · exact absurd h h1.2
  · exact h1

theorem createTableAt_txs (s : State) (t n : Nat) (nl : List Nat) : (createTableAt s t n nl).1.txs = s.txs := by
  rcases createTableAt_cases s t n nl with h1 | h1
  · rw [h1.1]
  · rw [h1.2]; rfl

theorem createTableAt_nextTx (s : State) (t n : Nat) (nl : List Nat) : (createTableAt s t n nl).1.nextTx = s.nextTx := by
  rcases createTableAt_cases s t n nl with h1 | h1
  · rw [h1.1]
  · rw [h1.2]; rfl

theorem createTableAt_keeps (s : State) (t n : Nat) (nl : List Nat) (k : Nat) (h : (s.tables k).isSome = true) :
    ((createTableAt s t n nl).1.tables k).isSome = true := by
  rcases createTableAt_cases s t n nl with h1 | h1
  · rw [h1.1]; exact h
  · rw [h1.2]
    show (if k = t then some (emptyTable n nl) else s.tables k).isSome = true
    split
    · rfl
    · exact h

theorem runD_append (s : State) (p q : List OpD) : runD s (p ++ q) = runD (runD s p) q := by
  unfold runD; rw [List.foldl_append]

theorem runD_cons (s : State) (op : OpD) (ops : List OpD) : runD s (op :: ops) = runD (stepD s op).1 ops := rfl

/-! ## what one statement does to the table map, the id counter and the manager's records -/

/-- `P` holds for every record in the manager's map -/
def ddl_Rec (s : State) (P : Nat → Tx → Prop) : Prop := ∀ A x, s.txs A = some x → P A x

/-- `P` survives appending an entry naming table `t` to the log of transaction `tx` -/
def ddl_Stable (P : Nat → Tx → Prop) (tx t : Nat) : Prop :=
  ∀ x u, u.table = t → P tx x → P tx { x with undo := x.undo ++ [u] }

/-- the records of `s'` are records of `s` -/
def ddl_Sub (s s' : State) : Prop := ∀ A x, s'.txs A = some x → s.txs A = some x

theorem ddl_Sub.refl (s : State) : ddl_Sub s s := fun _ _ h => h

theorem ddl_Sub.trans {s s1 s2 : State} (h1 : ddl_Sub s s1) (h2 : ddl_Sub s1 s2) : ddl_Sub s s2 :=
  fun A x h => h1 A x (h2 A x h)

theorem ddl_Sub.of_eq {s s' : State} (h : s'.txs = s.txs) : ddl_Sub s s' := by
  intro A x hx; rw [h] at hx; exact hx

theorem ddl_Rec.sub {s s' : State} {P : Nat → Tx → Prop} (h : ddl_Rec s P) (hs : ddl_Sub s s') : ddl_Rec s' P :=
  fun A x hx => h A x (hs A x hx)

theorem ddl_Rec.mono {s : State} {P Q : Nat → Tx → Prop} (h : ddl_Rec s P) (hpq : ∀ A x, P A x → Q A x) : ddl_Rec s Q :=
  fun A x hx => hpq A x (h A x hx)

/-- no table vanishes, ids only grow, `P` stays true of every record -/
structure ddl_Evo (P : Nat → Tx → Prop) (s s' : State) : Prop where
  tab : ∀ t, (s.tables t).isSome = true → (s'.tables t).isSome = true
  next : s.nextTx ≤ s'.nextTx
  recs : ddl_Rec s P → ddl_Rec s' P

theorem ddl_Evo.refl (P : Nat → Tx → Prop) (s : State) : ddl_Evo P s s := ⟨fun _ h => h, Nat.le_refl _, fun h => h⟩

theorem ddl_Evo.trans {P : Nat → Tx → Prop} {s s1 s2 : State} (h1 : ddl_Evo P s s1) (h2 : ddl_Evo P s1 s2) :
    ddl_Evo P s s2 :=
  ⟨fun t h => h2.tab t (h1.tab t h), Nat.le_trans h1.next h2.next, fun h => h2.recs (h1.recs h)⟩

theorem ddl_Evo.of_sub {P : Nat → Tx → Prop} {s s' : State} (ht : s'.tables = s.tables) (hn : s'.nextTx = s.nextTx)
    (hs : ddl_Sub s s') : ddl_Evo P s s' :=
  ⟨fun t h => by rw [ht]; exact h, Nat.le_of_eq hn.symm, fun h => h.sub hs⟩

theorem ddl_Evo.of_eq {P : Nat → Tx → Prop} {s s' : State} (ht : s'.tables = s.tables) (hn : s'.nextTx = s.nextTx)
    (hx : s'.txs = s.txs) : ddl_Evo P s s' := ddl_Evo.of_sub ht hn (ddl_Sub.of_eq hx)

/-- a statement that adds or changes no record keeps every predicate on records -/
theorem ddl_Evo.any {P : Nat → Tx → Prop} {s s' : State} (h : ddl_Evo (fun _ _ => True) s s') (hs : ddl_Sub s s') :
    ddl_Evo P s s' := ⟨h.tab, h.next, fun hr => hr.sub hs⟩

theorem ddl_evo_setTable (P : Nat → Tx → Prop) (s : State) (t : Nat) (T : Table) : ddl_Evo P s (setTable s t T) where
  tab := by
    intro k h
    rw [setTable_tables]
    split
    · rfl
    · exact h
  next := Nat.le_refl _
  recs := fun h => h

theorem ddl_evo_recordUndo {P : Nat → Tx → Prop} (s : State) (tx : Nat) (u : Undo) (hs : ddl_Stable P tx u.table) :
    ddl_Evo P s (recordUndo s tx u) where
  tab := by intro k h; rw [recordUndo_tables]; exact h
  next := by rw [recordUndo_nextTx]; exact Nat.le_refl _
  recs := by
    intro h
    unfold recordUndo
    split
    · rename_i x hx
      intro A y hy
      rw [setTx_txs] at hy
      split at hy
      · rename_i he
        cases hy
        rw [he]
        exact hs x u rfl (h tx x hx)
      · exact h A y hy
    · exact h

theorem ddl_evo_begin {P : Nat → Tx → Prop} (s : State)
    (hp : P s.nextTx { phase := .active, startedAt := s.now, undo := [] }) : ddl_Evo P s (begin s).1 where
  tab := fun _ h => h
  next := Nat.le_succ _
  recs := by
    intro h A x hx
    rw [begin_txs] at hx
    split at hx
    · rename_i he
      cases hx
      rw [he]; exact hp
    · exact h A x hx

theorem ddl_evo_endTx (P : Nat → Tx → Prop) (s : State) (a : Nat) : ddl_Evo P s (setTx (release s a) a none) := by
  refine ddl_Evo.of_sub rfl rfl ?_
  intro A x hx
  rw [setTx_txs] at hx
  split at hx
  · cases hx
  · exact hx

theorem ddl_evo_commit (P : Nat → Tx → Prop) (s : State) (a : Nat) : ddl_Evo P s (commit s a).1 := by
  rcases commit_cases s a with ⟨e, h⟩ | ⟨_, h⟩ <;> rw [h]
  · exact ddl_Evo.refl P s
  · exact ddl_evo_endTx P s a

theorem ddl_evo_foldl_applyUndo (P : Nat → Tx → Prop) (M : List Undo) (acc : State × Nat) :
    ddl_Evo P acc.1 (M.foldl applyUndo acc).1 := by
  induction M generalizing acc with
  | nil => exact ddl_Evo.refl P _
  | cons u rest ih =>
    refine ddl_Evo.trans ?_ (ih (applyUndo acc u))
    unfold applyUndo
    split
    · exact ddl_Evo.refl P _
    · exact ddl_evo_setTable P _ _ _

theorem ddl_evo_rollback (P : Nat → Tx → Prop) (s : State) (a : Nat) : ddl_Evo P s (rollback s a).1 := by
  rcases rollback_cases s a with ⟨e, h⟩ | ⟨x, _, _, h⟩ <;> rw [h]
  · exact ddl_Evo.refl P s
  · exact (ddl_evo_foldl_applyUndo P x.undo.reverse (s, 0)).trans (ddl_evo_endTx P _ a)

theorem ddl_evo_finishAuto (P : Nat → Tx → Prop) (p : State × Res) (a : Nat) : ddl_Evo P p.1 (finishAuto p a).1 := by
  rcases finishAuto_cases p a with h | h <;> rw [h]
  · exact ddl_evo_rollback P _ a
  · exact ddl_evo_commit P _ a

theorem ddl_evo_updateRow {P : Nat → Tx → Prop} (tx t : Nat) (upd : List (Nat × Val)) (hs : ddl_Stable P tx t)
    (s : State) (i : Nat) : ddl_Evo P s (updateRow tx t upd s i) := by
  unfold updateRow
  split
  · exact ddl_Evo.refl P s
  · split
    · exact ddl_Evo.refl P s
    · exact (ddl_evo_recordUndo s tx _ hs).trans (ddl_evo_setTable P _ _ _)

theorem ddl_evo_deleteRow {P : Nat → Tx → Prop} (tx t : Nat) (hs : ddl_Stable P tx t)
    (s : State) (i : Nat) : ddl_Evo P s (deleteRow tx t s i) := by
  unfold deleteRow
  split
  · exact ddl_Evo.refl P s
  · split
    · exact ddl_Evo.refl P s
    · exact (ddl_evo_recordUndo s tx _ hs).trans (ddl_evo_setTable P _ _ _)

theorem ddl_evo_foldl {P : Nat → Tx → Prop} {f : State → Nat → State} (hf : ∀ s i, ddl_Evo P s (f s i))
    (rows : List Nat) (s : State) : ddl_Evo P s (rows.foldl f s) := by
  induction rows generalizing s with
  | nil => exact ddl_Evo.refl P s
  | cons i rest ih => exact (hf s i).trans (ih (f s i))

theorem ddl_evo_lockAll (P : Nat → Tx → Prop) (s : State) (a t : Nat) (rows : List Nat) :
    ddl_Evo P s (lockAll s a t rows) := ddl_Evo.of_eq rfl rfl rfl

theorem ddl_evo_write {P : Nat → Tx → Prop} {f : State → Nat → State} (hf : ∀ s i, ddl_Evo P s (f s i))
    (s : State) (tx t : Nat) (rows sub : List Nat) :
    ddl_Evo P s (sub.foldl f (if rows.isEmpty then s else lockAll s tx t rows)) := by
  split
  · exact ddl_evo_foldl hf _ s
  · exact (ddl_evo_lockAll P s tx t _).trans (ddl_evo_foldl hf _ _)

theorem ddl_evo_txInsert {P : Nat → Tx → Prop} (s : State) (tx t : Nat) (vals : List Val)
    (hs : (s.tables t).isSome = true → ddl_Stable P tx t) : ddl_Evo P s (txInsert s tx t vals).1 := by
  rcases txInsert_cases s tx t vals with ⟨e, h⟩ | ⟨T, _, hT, _, h⟩ <;> rw [h]
  · exact ddl_Evo.refl P s
  · refine ddl_Evo.trans ?_ (ddl_evo_recordUndo _ tx _ (hs (by rw [hT]; rfl)))
    split
    · exact ddl_evo_setTable P s t _
    · exact (ddl_evo_lockAll P s tx t _).trans (ddl_evo_setTable P _ t _)

theorem ddl_evo_txUpdate {P : Nat → Tx → Prop} (s : State) (tx t : Nat) (c : Cond) (upd : List (Nat × Val))
    (hs : (s.tables t).isSome = true → ddl_Stable P tx t) : ddl_Evo P s (txUpdate s tx t c upd).1 := by
  rcases txUpdate_cases s tx t c upd with ⟨e, h⟩ | ⟨T, _, hT, _, _, h⟩ <;> rw [h]
  · exact ddl_Evo.refl P s
  · exact ddl_evo_write (ddl_evo_updateRow tx t upd (hs (by rw [hT]; rfl))) s tx t _ _

theorem ddl_evo_txDelete {P : Nat → Tx → Prop} (s : State) (tx t : Nat) (c : Cond)
    (hs : (s.tables t).isSome = true → ddl_Stable P tx t) : ddl_Evo P s (txDelete s tx t c).1 := by
  rcases txDelete_cases s tx t c with ⟨e, h⟩ | ⟨T, _, hT, _, h⟩ <;> rw [h]
  · exact ddl_Evo.refl P s
  · exact ddl_evo_write (ddl_evo_deleteRow tx t (hs (by rw [hT]; rfl))) s tx t _ _

theorem ddl_evo_cleanupTxs (P : Nat → Tx → Prop) (s : State) : ddl_Evo P s (cleanupTxs s).1 := by
  refine ddl_Evo.of_sub (foldlRelease_tables _ s) (foldlRelease_nextTx _ s) ?_
  intro A x hx
  rw [cleanupTxs_txs] at hx
  split at hx
  · cases hx
  · exact hx

theorem ddl_evo_tableWrite (P : Nat → Tx → Prop) {s s' : State} {t : Nat} (h : TableWrite s t s') : ddl_Evo P s s' := by
  rcases h with rfl | ⟨T, T', _, _, rfl⟩
  · exact ddl_Evo.refl P _
  · exact ddl_evo_setTable P s t T'

/-! ## non-transactional statements add no record and change none

  `begin; tx_op; commit | rollback` under the internal id `k = nextTx`: `tx_op` leaves every other record
  alone and `k` active, so `finishAuto` removes `k` again. -/

theorem Moves.gate_eq {E : Nat → Prop} {s s' : State} (h : Moves E s s') {k : Nat} (hE : ¬E k) :
    k < s.nextTx → gate s' k = gate s k := by
  induction h with
  | frame hf => exact fun _ => hf.gate_eq k
  | lock => exact fun _ => rfl
  | start s =>
    intro hk
    unfold gate
    rw [begin_txs, if_neg (Nat.ne_of_lt hk)]
  | @finish s A hA =>
    intro _
    unfold gate
    rw [setTx_txs, if_neg (fun (e : k = A) => hE (e ▸ hA))]
    rfl
  | sweepLocks => exact fun _ => rfl
  | @sweepTxs s hexp =>
    intro _
    unfold gate
    rw [cleanupTxs_txs, if_neg (fun e => hE (hexp k e))]
  | newTable => exact fun _ => rfl
  | trans h1 _ ih1 ih2 => exact fun hk => (ih2 (Nat.lt_of_lt_of_le hk h1.nextTx_le)).trans (ih1 hk)

theorem ddl_gate_begin (s : State) : gate (begin s).1 (begin s).2 = none := by
  unfold gate
  rw [begin_txs]
  simp [begin]

theorem ddl_finishAuto_txs_self {p : State × Res} {k : Nat} (hg : gate p.1 k = none) :
    (finishAuto p k).1.txs k = none := by
  unfold finishAuto
  split
  · unfold rollback; rw [hg]; simp
  · unfold commit; rw [hg]; simp

/-- the shape shared by `insert` / `update` / `delete_rows`: if the transactional statement `f` leaves the
    other records and the phase of its own alone, the whole leaves every record of the manager as it was -/
theorem ddl_sub_auto (s : State) (f : State → Nat → State × Res)
    (hg : ∀ s1 k, Moves (fun _ => False) s1 (f s1 k).1)
    (he : ∀ (P : Nat → Tx → Prop) s1 k, (∀ t, ddl_Stable P k t) → ddl_Evo P s1 (f s1 k).1) :
    ddl_Sub s (finishAuto (f (begin s).1 (begin s).2) (begin s).2).1 := by
  let P : Nat → Tx → Prop := fun B x => B ≠ s.nextTx → s.txs B = some x
  have h0 : ddl_Rec (begin s).1 P := by
    intro B x hx hne
    rw [begin_txs, if_neg hne] at hx
    exact hx
  have h1 : ddl_Rec (f (begin s).1 (begin s).2).1 P :=
    (he P (begin s).1 (begin s).2 (fun t x u _ _ hne => absurd rfl hne)).recs h0
  have h2 : ddl_Rec (finishAuto (f (begin s).1 (begin s).2) (begin s).2).1 P :=
    (ddl_evo_finishAuto P _ _).recs h1
  have hk : (finishAuto (f (begin s).1 (begin s).2) (begin s).2).1.txs s.nextTx = none :=
    ddl_finishAuto_txs_self
      (((hg (begin s).1 (begin s).2).gate_eq id (Nat.lt_succ_self s.nextTx)).trans (ddl_gate_begin s))
  intro A x hx
  refine h2 A x hx ?_
  intro hA
  rw [hA, hk] at hx
  cases hx

theorem ddl_evo_auto (P : Nat → Tx → Prop) (s : State) (f : State → Nat → State × Res)
    (hg : ∀ s1 k, Moves (fun _ => False) s1 (f s1 k).1)
    (he : ∀ (P : Nat → Tx → Prop) s1 k, (∀ t, ddl_Stable P k t) → ddl_Evo P s1 (f s1 k).1) :
    ddl_Evo P s (finishAuto (f (begin s).1 (begin s).2) (begin s).2).1 := by
  refine ddl_Evo.any ?_ (ddl_sub_auto s f hg he)
  exact (ddl_evo_begin s trivial).trans ((he _ _ _ (fun _ _ _ _ _ => trivial)).trans (ddl_evo_finishAuto _ _ _))

theorem ddl_evo_insert (P : Nat → Tx → Prop) (s : State) (t : Nat) (vals : List Val) : ddl_Evo P s (insert s t vals).1 := by
  rcases insert_cases s t vals with ⟨e, h⟩ | h <;> rw [h]
  · exact ddl_Evo.refl P s
  · exact ddl_evo_auto P s (fun s1 k => txInsert s1 k t vals) (fun s1 k => moves_txInsert _ s1 k t vals)
      (fun P s1 k hs => ddl_evo_txInsert s1 k t vals (fun _ => hs t))

theorem ddl_evo_update (P : Nat → Tx → Prop) (s : State) (t : Nat) (c : Cond) (upd : List (Nat × Val)) :
    ddl_Evo P s (update s t c upd).1 := by
  rcases update_cases s t c upd with ⟨e, h⟩ | h <;> rw [h]
  · exact ddl_Evo.refl P s
  · exact ddl_evo_auto P s (fun s1 k => txUpdate s1 k t c upd) (fun s1 k => moves_txUpdate _ s1 k t c upd)
      (fun P s1 k hs => ddl_evo_txUpdate s1 k t c upd (fun _ => hs t))

theorem ddl_evo_delete (P : Nat → Tx → Prop) (s : State) (t : Nat) (c : Cond) : ddl_Evo P s (delete s t c).1 := by
  rcases delete_cases s t c with ⟨e, h⟩ | h <;> rw [h]
  · exact ddl_Evo.refl P s
  · exact ddl_evo_auto P s (fun s1 k => txDelete s1 k t c) (fun s1 k => moves_txDelete _ s1 k t c)
      (fun P s1 k hs => ddl_evo_txDelete s1 k t c (fun _ => hs t))

/-- what `P` must survive for the statement to keep it: the new record of `begin`, an entry naming the
    written (existing) table in the log of the writing transaction -/
def ddl_StepHyp (P : Nat → Tx → Prop) (s : State) : Op → Prop
  | .begin => P s.nextTx { phase := .active, startedAt := s.now, undo := [] }
  | .txInsert B t _ => (s.tables t).isSome = true → ddl_Stable P B t
  | .txUpdate B t _ _ => (s.tables t).isSome = true → ddl_Stable P B t
  | .txDelete B t _ => (s.tables t).isSome = true → ddl_Stable P B t
  | _ => True

theorem ddl_evo_step {P : Nat → Tx → Prop} (s : State) (op : Op) (hp : ddl_StepHyp P s op) :
    ddl_Evo P s (step s op).1 := by
  cases op with
  | begin => exact ddl_evo_begin s hp
  | commit a => exact ddl_evo_commit P s a
  | rollback a => exact ddl_evo_rollback P s a
  | txInsert a t v => exact ddl_evo_txInsert s a t v hp
  | txUpdate a t c u => exact ddl_evo_txUpdate s a t c u hp
  | txDelete a t c => exact ddl_evo_txDelete s a t c hp
  | insert t v => exact ddl_evo_insert P s t v
  | update t c u => exact ddl_evo_update P s t c u
  | delete t c => exact ddl_evo_delete P s t c
  | batchInsert t rows => exact ddl_evo_tableWrite P (batchInsert_write s t rows)
  | createTable n nl =>
    exact (ddl_evo_setTable P s s.ntables _).trans (ddl_Evo.of_eq rfl rfl rfl)
  | createIndex t c => exact ddl_evo_tableWrite P (createIndex_write s t c)
  | createBtree t c => exact ddl_evo_tableWrite P (createBtree_write s t c)
  | dropIndex t c => exact ddl_evo_tableWrite P (dropIndex_write s t c)
  | dropBtree t c => exact ddl_evo_tableWrite P (dropBtree_write s t c)
  | tick d => exact ddl_Evo.of_eq rfl rfl rfl
  | cleanupLocks => exact ddl_Evo.of_eq rfl rfl rfl
  | cleanupTxs => exact ddl_evo_cleanupTxs P s

theorem ddl_evo_step_true (s : State) (op : Op) : ddl_Evo (fun _ _ => True) s (step s op).1 := by
  apply ddl_evo_step
  cases op <;> first | trivial | exact fun _ _ _ _ _ => trivial


/-! ## every script: ids handed out, undo entries name existing tables -/

/-- every record's id has been handed out, every undo entry names a table that exists -/
def ddl_DI (s : State) : Prop :=
  ddl_Rec s fun A x => A < s.nextTx ∧ ∀ u ∈ x.undo, (s.tables u.table).isSome = true

theorem ddl_di_init (a b : Nat) : ddl_DI (init a b) := by
  intro A x hx
  simp [init] at hx

theorem ddl_di_step {s : State} (h : ddl_DI s) (op : Op) : ddl_DI (step s op).1 := by
  have h0 := ddl_evo_step_true s op
  let P : Nat → Tx → Prop := fun A x => A < (step s op).1.nextTx ∧ ∀ u ∈ x.undo, (s.tables u.table).isSome = true
  have hst : ∀ B t, (s.tables t).isSome = true → ddl_Stable P B t := by
    intro B t ht x u hu hp
    refine ⟨hp.1, ?_⟩
    intro u' hu'
    rcases List.mem_append.1 hu' with h1 | h1
    · exact hp.2 u' h1
    · rw [List.mem_singleton] at h1
      rw [h1, hu]; exact ht
  have hp : ddl_StepHyp P s op := by
    cases op with
    | begin => exact ⟨Nat.lt_succ_self _, fun u hu => by cases hu⟩
    | txInsert B t v => exact hst B t
    | txUpdate B t c u => exact hst B t
    | txDelete B t c => exact hst B t
    | _ => trivial
  have h1 : ddl_Rec (step s op).1 P :=
    (ddl_evo_step s op hp).recs (h.mono fun A x hx => ⟨Nat.lt_of_lt_of_le hx.1 h0.next, hx.2⟩)
  exact h1.mono fun A x hx => ⟨hx.1, fun u hu => h0.tab _ (hx.2 u hu)⟩

theorem ddl_di_stepD {s : State} (h : ddl_DI s) (op : OpD) : ddl_DI (stepD s op).1 := by
  cases op with
  | base op => exact ddl_di_step h op
  | dropTable t =>
    show ddl_DI (dropTable s t).1
    rcases dropTable_cases s t with h1 | ⟨_, ho, hf⟩
    · rw [h1.1]; exact h
    · rw [hf]
      intro A x hx
      have hx' : s.txs A = some x := hx
      refine ⟨(h A x hx').1, ?_⟩
      intro u hu
      have hne : u.table ≠ t := ddl_openTx_none ho (h A x hx').1 hx' u hu
      show (if u.table = t then none else s.tables u.table).isSome = true
      rw [if_neg hne]
      exact (h A x hx').2 u hu
  | createTableAt t n nl =>
    show ddl_DI (createTableAt s t n nl).1
    intro A x hx
    rw [createTableAt_txs] at hx
    rw [createTableAt_nextTx]
    exact ⟨(h A x hx).1, fun u hu => createTableAt_keeps s t n nl _ ((h A x hx).2 u hu)⟩

theorem ddl_di_runD {s : State} (h : ddl_DI s) (ops : List OpD) : ddl_DI (runD s ops) := by
  induction ops generalizing s with
  | nil => exact h
  | cons op rest ih => exact ih (ddl_di_stepD h op)

/-! ## a transaction that does not write table `t` gets no entry naming `t`; its rollback leaves `t` alone -/

/-- no entry of `A`'s log names table `t` -/
def ddl_NoName (s : State) (A t : Nat) : Prop := ∀ x, s.txs A = some x → ∀ u ∈ x.undo, u.table ≠ t

theorem ddl_noName_iff {s : State} {A t : Nat} :
    ddl_NoName s A t ↔ ddl_Rec s (fun B x => B = A → ∀ u ∈ x.undo, u.table ≠ t) := by
  constructor
  · intro h B x hx hB; subst hB; exact h x hx
  · intro h x hx; exact h A x hx rfl

theorem ddl_noName_stepD {s : State} {A t : Nat} (h : ddl_NoName s A t) (op : OpD) (hw : op.writesAs A t = false) :
    ddl_NoName (stepD s op).1 A t := by
  cases op with
  | dropTable t' =>
    intro x hx
    have hx' : (dropTable s t').1.txs A = some x := hx
    rw [dropTable_txs] at hx'
    exact h x hx'
  | createTableAt t' n nl =>
    intro x hx
    have hx' : (createTableAt s t' n nl).1.txs A = some x := hx
    rw [createTableAt_txs] at hx'
    exact h x hx'
  | base op =>
    rw [ddl_noName_iff] at h ⊢
    have hst : ∀ B t', (B == A && t' == t) = false → ddl_Stable (fun B x => B = A → ∀ u ∈ x.undo, u.table ≠ t) B t' := by
      intro B t' hb x u hu hp hB u' hu'
      rcases List.mem_append.1 hu' with h1 | h1
      · exact hp hB u' h1
      · rw [List.mem_singleton] at h1
        rw [h1, hu]
        intro ht
        simp [hB, ht] at hb
    refine (ddl_evo_step s op ?_).recs h
    cases op with
    | begin => exact fun _ u hu => by cases hu
    | txInsert B t' v => exact fun _ => hst B t' hw
    | txUpdate B t' c u => exact fun _ => hst B t' hw
    | txDelete B t' c => exact fun _ => hst B t' hw
    | _ => trivial

theorem ddl_noName_runD {s : State} {A t : Nat} (h : ddl_NoName s A t) (ops : List OpD)
    (hw : ∀ op ∈ ops, op.writesAs A t = false) : ddl_NoName (runD s ops) A t := by
  induction ops generalizing s with
  | nil => exact h
  | cons op rest ih =>
    exact ih (ddl_noName_stepD h op (hw op List.mem_cons_self)) (fun o ho => hw o (List.mem_cons_of_mem _ ho))

theorem ddl_foldl_applyUndo_tables_other (M : List Undo) (acc : State × Nat) (t : Nat) (h : ∀ u ∈ M, u.table ≠ t) :
    (M.foldl applyUndo acc).1.tables t = acc.1.tables t := by
  induction M generalizing acc with
  | nil => rfl
  | cons u rest ih =>
    rw [List.foldl_cons, ih (applyUndo acc u) (fun v hv => h v (List.mem_cons_of_mem _ hv))]
    have hne : t ≠ u.table := fun e => h u List.mem_cons_self e.symm
    unfold applyUndo
    split
    · rfl
    · rw [setTable_tables, if_neg hne]

/-- the rollback of a transaction whose log has no entry naming `t` leaves table `t` exactly as it is -/
theorem ddl_rollback_tables_of_noName {s : State} {A t : Nat} (h : ddl_NoName s A t) :
    (rollback s A).1.tables t = s.tables t := by
  unfold rollback
  split
  · rfl
  · simp only [setTx_tables, release_tables]
    apply ddl_foldl_applyUndo_tables_other
    intro u hu
    cases hx : s.txs A with
    | none => rw [hx] at hu; simp at hu
    | some x =>
      rw [hx] at hu
      exact h x hx u (List.mem_reverse.1 hu)

/-- an accepted `create_table t`: at that moment no record has an entry naming `t` -/
theorem ddl_noName_of_created {s : State} (h : ddl_DI s) {t n : Nat} {nl : List Nat}
    (hc : (createTableAt s t n nl).2 = .ok) (B : Nat) : ddl_NoName (createTableAt s t n nl).1 B t := by
  intro x hx u hu ht
  rw [createTableAt_txs] at hx
  have h1 := (h B x hx).2 u hu
  rw [ht, (createTableAt_ok_form hc).1] at h1
  cases h1

/-! ## a table created under a name used before: its indexes are exact -/

theorem ddl_recreate_tables {s : State} {t : Nat} (hd : (dropTable s t).2 = .ok) (n : Nat) (nl : List Nat) :
    (createTableAt (dropTable s t).1 t n nl).1.tables t = some (emptyTable n nl) := by
  rw [(dropTable_ok_form hd).2.2]
  have hn : (removeTable s t).tables t = none := by simp [removeTable]
  unfold createTableAt
  rw [hn]
  simp [setTable]

theorem ddl_idxExact_batchInsert {s : State} {t : Nat} {T0 : Table} (h0 : s.tables t = some T0) (hI : IdxExact T0)
    (rows : List (List Val)) : ∃ T1, (batchInsert s t rows).1.tables t = some T1 ∧ IdxExact T1 := by
  rcases batchInsert_form s t rows with hf | ⟨T, hT, _, hf⟩
  · rw [hf]; exact ⟨T0, h0, hI⟩
  · rw [hf]
    rw [h0] at hT; cases hT
    exact ⟨_, by simp, idxExact_foldl_insertRow rows T0 hI⟩

theorem ddl_idxExact_createBtree {s : State} {t : Nat} {T1 : Table} (h1 : s.tables t = some T1) (hI : IdxExact T1)
    (c : Nat) (T : Table) (h : (createBtree s t c).1.tables t = some T) : IdxExact T := by
  unfold createBtree at h
  rw [h1] at h
  dsimp only at h
  by_cases hc : c ≥ T1.ncols
  · rw [if_pos hc, h1] at h; cases h; exact hI
  · rw [if_neg hc] at h
    by_cases hm : c ∈ T1.btreeOn
    · rw [if_pos hm, h1] at h; cases h; exact hI
    · rw [if_neg hm, setTable_tables, if_pos rfl] at h
      cases h
      exact idxExact_createBtree T1 c hI hm

theorem ddl_idxExact_createIndex {s : State} {t : Nat} {T1 : Table} (h1 : s.tables t = some T1) (hI : IdxExact T1)
    (c : Nat) (T : Table) (h : (createIndex s t c).1.tables t = some T) : IdxExact T := by
  unfold createIndex at h
  rw [h1] at h
  dsimp only at h
  by_cases hc : c ≥ T1.ncols
  · rw [if_pos hc, h1] at h; cases h; exact hI
  · rw [if_neg hc] at h
    by_cases hm : c ∈ T1.hashOn
    · rw [if_pos hm, h1] at h; cases h; exact hI
    · rw [if_neg hm, setTable_tables, if_pos rfl] at h
      cases h
      exact idxExact_createIndex T1 c hI hm


end Neumann.RelTx
