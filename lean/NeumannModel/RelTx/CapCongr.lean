import NeumannModel.RelTx.CapLemmas
/-
  C09 — the undo machinery under the b-tree entry cap (`CapModel.lean`) and `select` cannot tell two tables
  apart that differ only in the ORDER of their index entry lists: the refusal condition of `btAddC` depends on
  the entries up to order, `idxAdd` / `idxRemove` map permutations to permutations, the index path of `select`
  only uses the multiplicity of an id among the candidates and the scan path only the rows.
-/
namespace Neumann.RelTx

/-- the same table up to the order of the index entries -/
structure TabEq (T T' : Table) : Prop where
  ncols : T'.ncols = T.ncols
  nullable : T'.nullable = T.nullable
  rows : T'.rows = T.rows
  hashOn : T'.hashOn = T.hashOn
  btreeOn : T'.btreeOn = T.btreeOn
  hashE : T'.hashE.Perm T.hashE
  btreeE : T'.btreeE.Perm T.btreeE

/-- two states with the same table names whose tables agree up to entry order -/
structure TablesEq (s s' : State) : Prop where
  ntables : s'.ntables = s.ntables
  tabs : ∀ k, (s.tables k = none ∧ s'.tables k = none) ∨
    ∃ T T', s.tables k = some T ∧ s'.tables k = some T' ∧ TabEq T T'

theorem tabEq_refl (T : Table) : TabEq T T :=
  ⟨rfl, rfl, rfl, rfl, rfl, List.Perm.refl _, List.Perm.refl _⟩

theorem tabEq_of_idxExact {T T' : Table} (h : IdxExact T) (h' : IdxExact T') (hn : T'.ncols = T.ncols)
    (hl : T'.nullable = T.nullable) (hr : T'.rows = T.rows) (hh : T'.hashOn = T.hashOn) (hb : T'.btreeOn = T.btreeOn) :
    TabEq T T' :=
  have hu := idxExact_unique h h' hr hh hb
  ⟨hn, hl, hr, hh, hb, (List.perm_ext_iff_of_nodup h'.1.1 h.1.1).mpr hu.1, (List.perm_ext_iff_of_nodup h'.2.1 h.2.1).mpr hu.2.1⟩

theorem keyCount_perm {es es' : List Entry} (h : es'.Perm es) : keyCount es' = keyCount es := by
  apply Nat.le_antisymm
  · apply keyCount_mono
    intro e he
    exact ⟨e, h.mem_iff.mp he, rfl⟩
  · apply keyCount_mono
    intro e he
    exact ⟨e, h.mem_iff.mpr he, rfl⟩

theorem hasKey_perm {es es' : List Entry} (h : es'.Perm es) (k : Nat × Val) : hasKey es' k = hasKey es k := by
  cases hk : hasKey es k with
  | true =>
    obtain ⟨e, he, hke⟩ := hasKey_true.mp hk
    exact hasKey_true.mpr ⟨e, h.mem_iff.mpr he, hke⟩
  | false =>
    rw [hasKey_false] at hk ⊢
    intro e he
    exact hk e (h.mem_iff.mp he)

theorem idxAdd_perm {es es' : List Entry} (e : Entry) (h : es'.Perm es) : (idxAdd e es').Perm (idxAdd e es) := by
  unfold idxAdd
  by_cases he : e ∈ es
  · rw [if_pos he, if_pos (h.mem_iff.mpr he)]
    exact h
  · have he' : e ∉ es' := fun x => he (h.mem_iff.mp x)
    rw [if_neg he, if_neg he']
    exact h.append_right [e]

theorem idxRemove_perm {es es' : List Entry} (e : Entry) (h : es'.Perm es) :
    (idxRemove e es').Perm (idxRemove e es) := by
  unfold idxRemove
  exact h.filter _

theorem btAddC_perm {cap other : Nat} {es es' : List Entry} (e : Entry) (h : es'.Perm es) :
    btAddC cap other e es' = (btAddC cap other e es).map fun _ => idxAdd e es' := by
  unfold btAddC
  rw [hasKey_perm h, keyCount_perm h]
  split <;> rfl

theorem foldl_rel {σ β : Type} {R : σ → σ → Prop} (f : σ → β → σ)
    (hf : ∀ (a a' : σ) (b : β), R a a' → R (f a b) (f a' b)) (l : List β) :
    ∀ (a a' : σ), R a a' → R (l.foldl f a) (l.foldl f a') := by
  induction l with
  | nil => intro a a' h; exact h
  | cons b l ih => intro a a' h; exact ih _ _ (hf a a' b h)

theorem undoChange_perm (on : List Nat) (i : Nat) (es es' : List Entry) (p : Nat × Val × Val)
    (h : es'.Perm es) : (undoChange on i es' p).Perm (undoChange on i es p) := by
  unfold undoChange
  split
  · exact idxAdd_perm _ (idxRemove_perm _ h)
  · exact h

theorem undoReadd_perm (on : List Nat) (i : Nat) (es es' : List Entry) (p : Nat × Val)
    (h : es'.Perm es) : (undoReadd on i es' p).Perm (undoReadd on i es p) := by
  unfold undoReadd
  split
  · exact idxAdd_perm _ h
  · exact h

theorem undoChangeC_perm (cap other : Nat) (on : List Nat) (i : Nat) (a a' : List Entry × Nat)
    (p : Nat × Val × Val) (h : a'.2 = a.2 ∧ a'.1.Perm a.1) :
    (undoChangeC cap other on i a' p).2 = (undoChangeC cap other on i a p).2 ∧
    (undoChangeC cap other on i a' p).1.Perm (undoChangeC cap other on i a p).1 := by
  obtain ⟨h2, h1⟩ := h
  unfold undoChangeC
  split
  · have hr := idxRemove_perm (p.1, p.2.2, i) h1
    rw [btAddC_perm _ hr]
    cases hb : btAddC cap other (p.1, p.2.1, i) (idxRemove (p.1, p.2.2, i) a.1) with
    | none => exact ⟨by rw [h2]; rfl, hr⟩
    | some es => rw [btAddC_some hb]; exact ⟨h2, idxAdd_perm _ hr⟩
  · exact ⟨h2, h1⟩

theorem undoReaddC_perm (cap other : Nat) (on : List Nat) (i : Nat) (a a' : List Entry × Nat)
    (p : Nat × Val) (h : a'.2 = a.2 ∧ a'.1.Perm a.1) :
    (undoReaddC cap other on i a' p).2 = (undoReaddC cap other on i a p).2 ∧
    (undoReaddC cap other on i a' p).1.Perm (undoReaddC cap other on i a p).1 := by
  obtain ⟨h2, h1⟩ := h
  unfold undoReaddC
  split
  · rw [btAddC_perm _ h1]
    cases hb : btAddC cap other (p.1, p.2, i) a.1 with
    | none => exact ⟨by rw [h2]; rfl, h1⟩
    | some es => rw [btAddC_some hb]; exact ⟨h2, idxAdd_perm _ h1⟩
  · exact ⟨h2, h1⟩

theorem slabDelete_tabEq {T T' : Table} (h : TabEq T T') (i : Nat) : slabDelete T' i = slabDelete T i := by
  unfold slabDelete
  rw [h.rows]

theorem restoreRow_tabEq {T T' : Table} (h : TabEq T T') (i : Nat) (old : List Val) :
    restoreRow T' i old = restoreRow T i old := by
  unfold restoreRow
  rw [h.rows, h.ncols]

theorem restoreDeletedRow_tabEq {T T' : Table} (h : TabEq T T') (i : Nat) (old : List Val) :
    restoreDeletedRow T' i old = restoreDeletedRow T i old := by
  unfold restoreDeletedRow
  rw [h.rows, h.ncols]

theorem applyUndoTC_congr {cap other : Nat} {T T' : Table} (h : TabEq T T') (u : Undo) :
    (applyUndoTC cap other T' u).2 = (applyUndoTC cap other T u).2 ∧
    TabEq (applyUndoTC cap other T u).1 (applyUndoTC cap other T' u).1 := by
  cases u with
  | inserted t i idx =>
    simp only [applyUndoTC, applyUndoT]
    refine ⟨trivial, ⟨h.ncols, h.nullable, slabDelete_tabEq h i, h.hashOn, h.btreeOn, ?_, ?_⟩⟩
    · exact foldl_rel (R := fun es es' : List Entry => es'.Perm es) (fun es (p : Nat × Val) => idxRemove (p.1, p.2, i) es)
        (fun _ _ _ hp => idxRemove_perm _ hp) idx _ _ h.hashE
    · exact foldl_rel (R := fun es es' : List Entry => es'.Perm es) (fun es (p : Nat × Val) => idxRemove (p.1, p.2, i) es)
        (fun _ _ _ hp => idxRemove_perm _ hp) idx _ _ h.btreeE
  | updated t i old chg =>
    simp only [applyUndoTC]
    rw [restoreRow_tabEq h i old, h.rows, h.hashOn, h.btreeOn]
    obtain ⟨g2, g1⟩ := foldl_rel (R := fun a a' => a'.2 = a.2 ∧ a'.1.Perm a.1) _
      (undoChangeC_perm cap other T.btreeOn i) chg (T.btreeE, 0) (T'.btreeE, 0) ⟨rfl, h.btreeE⟩
    refine ⟨by rw [g2], ⟨h.ncols, h.nullable, rfl, rfl, rfl, ?_, g1⟩⟩
    exact foldl_rel (R := fun es es' : List Entry => es'.Perm es) _ (fun es es' b hp => undoChange_perm T.hashOn i es es' b hp) chg _ _ h.hashE
  | deleted t i old idx =>
    simp only [applyUndoTC]
    rw [restoreDeletedRow_tabEq h i old, h.rows, h.hashOn, h.btreeOn]
    obtain ⟨g2, g1⟩ := foldl_rel (R := fun a a' => a'.2 = a.2 ∧ a'.1.Perm a.1) _
      (undoReaddC_perm cap other T.btreeOn i) idx (T.btreeE, 0) (T'.btreeE, 0) ⟨rfl, h.btreeE⟩
    refine ⟨by rw [g2], ⟨h.ncols, h.nullable, rfl, rfl, rfl, ?_, g1⟩⟩
    exact foldl_rel (R := fun es es' : List Entry => es'.Perm es) _ (fun es es' b hp => undoReadd_perm T.hashOn i es es' b hp) idx _ _ h.hashE

theorem tableKeys_tablesEq {s s' : State} (h : TablesEq s s') (k : Nat) : tableKeys s' k = tableKeys s k := by
  unfold tableKeys
  rcases h.tabs k with ⟨h1, h2⟩ | ⟨T, T', h1, h2, hT⟩
  · rw [h1, h2]
  · rw [h1, h2]
    exact keyCount_perm hT.btreeE

theorem otherKeys_tablesEq {s s' : State} (h : TablesEq s s') (t : Nat) : otherKeys s' t = otherKeys s t := by
  unfold otherKeys
  rw [h.ntables]
  congr 1
  apply List.map_congr_left
  intro k _
  exact tableKeys_tablesEq h k

theorem setTable_tablesEq {s s' : State} (h : TablesEq s s') (t : Nat) {X X' : Table} (hX : TabEq X X') :
    TablesEq (setTable s t X) (setTable s' t X') := by
  refine ⟨h.ntables, ?_⟩
  intro k
  rw [setTable_tables, setTable_tables]
  by_cases hk : k = t
  · rw [if_pos hk, if_pos hk]
    exact Or.inr ⟨X, X', rfl, rfl, hX⟩
  · rw [if_neg hk, if_neg hk]
    exact h.tabs k

theorem tablesEq_replace {s s1 : State} {t : Nat} {T T' : Table} (hn : s1.ntables = s.ntables)
    (ho : ∀ k, k ≠ t → s1.tables k = s.tables k) (hT : s.tables t = some T) (h : TabEq T T') :
    TablesEq s (setTable s1 t T') := by
  refine ⟨hn, fun k => ?_⟩
  rw [setTable_tables]
  by_cases hk : k = t
  · rw [if_pos hk, hk]
    exact Or.inr ⟨T, T', hT, rfl, h⟩
  · rw [if_neg hk, ho k hk]
    cases s.tables k with
    | none => exact Or.inl ⟨rfl, rfl⟩
    | some T0 => exact Or.inr ⟨T0, T0, rfl, rfl, tabEq_refl T0⟩

theorem applyUndoC_congr {cap : Nat} (a a' : State × Nat) (u : Undo) (h : a'.2 = a.2 ∧ TablesEq a.1 a'.1) :
    (applyUndoC cap a' u).2 = (applyUndoC cap a u).2 ∧ TablesEq (applyUndoC cap a u).1 (applyUndoC cap a' u).1 := by
  obtain ⟨hn, h⟩ := h
  unfold applyUndoC
  rcases h.tabs u.table with ⟨h1, h2⟩ | ⟨T, T', h1, h2, hT⟩
  · rw [h1, h2, hn]
    exact ⟨rfl, h⟩
  · rw [h1, h2, hn]
    dsimp only
    rw [otherKeys_tablesEq h u.table]
    obtain ⟨g2, g1⟩ := applyUndoTC_congr (cap := cap) (other := otherKeys a.1 u.table) hT u
    exact ⟨by rw [g2], setTable_tablesEq h u.table g1⟩

theorem foldl_applyUndoC_congr {cap : Nat} (log : List Undo) {s s' : State} {n : Nat} (h : TablesEq s s') :
    (log.foldl (applyUndoC cap) (s', n)).2 = (log.foldl (applyUndoC cap) (s, n)).2 ∧
    TablesEq (log.foldl (applyUndoC cap) (s, n)).1 (log.foldl (applyUndoC cap) (s', n)).1 :=
  foldl_rel (R := fun a a' => a'.2 = a.2 ∧ TablesEq a.1 a'.1) _ applyUndoC_congr log (s, n) (s', n) ⟨rfl, h⟩

/-- two candidate lists: both absent, or present and equal up to order -/
def CandEq (o o' : Option (List Nat)) : Prop :=
  (o = none ∧ o' = none) ∨ ∃ l l', o = some l ∧ o' = some l' ∧ l'.Perm l

theorem candEq_ite {on : List Nat} (c : Nat) {l l' : List Nat} (h : l'.Perm l) :
    CandEq (if c ∈ on then some l else none) (if c ∈ on then some l' else none) := by
  split
  · exact Or.inr ⟨l, l', rfl, rfl, h⟩
  · exact Or.inl ⟨rfl, rfl⟩

theorem hashCands_tabEq {T T' : Table} (h : TabEq T T') (c : Nat) (v : Val) :
    CandEq (hashCands T c v) (hashCands T' c v) := by
  unfold hashCands
  rw [h.hashOn]
  exact candEq_ite c ((h.hashE.filter _).map _)

theorem btCands_tabEq {T T' : Table} (h : TabEq T T') (c : Nat) (p : Val → Bool) :
    CandEq (btCands T c p) (btCands T' c p) := by
  unfold btCands
  rw [h.btreeOn]
  exact candEq_ite c ((h.btreeE.filter _).map _)

theorem candidates_tabEq {T T' : Table} (h : TabEq T T') (c : Cond) :
    CandEq (candidates T c) (candidates T' c) := by
  induction c with
  | all => exact Or.inl ⟨rfl, rfl⟩
  | idEq j => exact Or.inl ⟨rfl, rfl⟩
  | eq c v => exact hashCands_tabEq h c v
  | ne c v => exact Or.inl ⟨rfl, rfl⟩
  | lt c v => exact btCands_tabEq h c _
  | le c v => exact btCands_tabEq h c _
  | gt c v => exact btCands_tabEq h c _
  | ge c v => exact btCands_tabEq h c _
  | and a b iha ihb =>
    rcases iha with ⟨h1, h2⟩ | ⟨l, l', h1, h2, hp⟩
    · simp only [candidates, h1, h2]
      exact ihb
    · simp only [candidates, h1, h2]
      exact Or.inr ⟨l, l', rfl, rfl, hp⟩
  | or a b _ _ => exact Or.inl ⟨rfl, rfl⟩

theorem matching_tabEq {T T' : Table} (h : TabEq T T') (c : Cond) : matching T' c = matching T c := by
  unfold matching
  rw [h.rows]

theorem indexAnswer_tabEq {T T' : Table} (h : TabEq T T') (c : Cond) {l l' : List Nat} (hp : l'.Perm l) :
    indexAnswer T' c l' = indexAnswer T c l := by
  unfold indexAnswer
  rw [matching_tabEq h c, h.rows]
  congr 1
  funext i
  rw [hp.count_eq i]

theorem select_tabEq {T T' : Table} (h : TabEq T T') (c : Cond) : select T' c = select T c := by
  unfold select
  rcases candidates_tabEq h c with ⟨h1, h2⟩ | ⟨l, l', h1, h2, hp⟩
  · rw [h1, h2]
    exact scanAnswer_congr h.rows c
  · rw [h1, h2]
    exact indexAnswer_tabEq h c hp

theorem TablesEq.select_eq {s s' : State} (h : TablesEq s s') {k : Nat} {T0 T1 : Table}
    (h0 : s.tables k = some T0) (h1 : s'.tables k = some T1) : T1.rows = T0.rows ∧ ∀ c, select T1 c = select T0 c := by
  rcases h.tabs k with ⟨hn, _⟩ | ⟨Ta, Tb, ha, hb, hab⟩
  · rw [hn] at h0; cases h0
  · rw [ha] at h0
    rw [hb] at h1
    cases h0
    cases h1
    exact ⟨hab.rows, select_tabEq hab⟩

end Neumann.RelTx
