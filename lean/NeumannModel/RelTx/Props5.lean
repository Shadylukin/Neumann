import NeumannModel.RelTx.LockTable
import NeumannModel.RelTx.Restore
/-
  C09 — fifth module of property theorems (ONLY theorems and their non-vacuity examples):
  the bookkeeping of the row-lock table — lock table `(table,row) ↦ {owner, acquired at}` and the
  per-transaction key lists `tx_locks` — over ALL statement sequences, with lock sweeps
  (`cleanup_expired_locks`) and transaction sweeps (`cleanup_expired`) anywhere in them, and with locks
  of ONE transaction of different ages (a transaction takes its locks statement by statement, so a
  sweep may find its older locks expired and its younger ones alive).  "The locks disappear when the
  transaction ends or times out" rests on it: `release` walks the owner's key list, so a lock that is in
  the table but not in its owner's list survives the owner's end.
-/
namespace Neumann.RelTx.Props5
open Neumann.RelTx Neumann.RelTx.Props

/-! ## every lock is listed by its owner, whatever ran before -/

/-- EVERY script from the empty engine — any number of transactions, non-transactional statements,
    index DDL, ticks of any length, lock sweeps and transaction sweeps at any point: every lock in the
    lock table is listed in the key list of its owner (so the owner's `release` finds it). -/
theorem every_lock_is_listed_under_its_owner (a b : Nat) (ops : List Op) :
    let s := run (init a b) ops
    ∀ t i l, s.locks t i = some l → (t, i) ∈ s.txLocks l.tx := by
  intro s
  exact (lockInv_run (lockInv_init a b) ops).idx

/-- EVERY script from the empty engine (sweeps anywhere in it): the owner of every lock in the table
    is a transaction the manager still has; and a transaction that is not in the map — ended by
    commit, by rollback, by `cleanup_expired`, as the internal transaction of a non-transactional
    statement, or never begun — owns no lock, is the `row_lock_holder` of no row, has an empty key
    list (`locks_held_by` = 0) and blocks no statement of anybody.  Not only right after its end: in
    every later state of the run. -/
theorem no_lock_outlives_its_transaction (a b : Nat) (ops : List Op) :
    let s := run (init a b) ops
    (∀ t i l, s.locks t i = some l → s.txs l.tx ≠ none) ∧
    (∀ A, s.txs A = none →
      (∀ t i l, s.locks t i = some l → l.tx ≠ A) ∧ (∀ t i, holder s t i ≠ some A) ∧ s.txLocks A = []) := by
  intro s
  have hinv : LockInv s := lockInv_run (lockInv_init a b) ops
  refine ⟨hinv.live, ?_⟩
  intro A hA
  have h1 : ∀ t i l, s.locks t i = some l → l.tx ≠ A := by
    intro t i l hl he
    exact hinv.live t i l hl (he ▸ hA)
  refine ⟨h1, ?_, hinv.listed A hA⟩
  intro t i hh
  obtain ⟨l, hl, he, _⟩ := holder_some hh
  exact h1 t i l hl he

/-- EVERY script from the empty engine: a lock conflict always comes from a LIVE transaction — when
    `try_lock` refuses the rows of a statement of `B`, one of those rows is held, unexpired, by another
    transaction that is still in the manager's map (never by one that has ended). -/
theorem lock_conflict_names_a_live_transaction (a b : Nat) (ops : List Op) (B t : Nat) (rows : List Nat) :
    let s := run (init a b) ops
    lockBlocked s B t rows = true → ∃ i ∈ rows, ∃ A, A ≠ B ∧ holder s t i = some A ∧ s.txs A ≠ none := by
  intro s hb
  have hinv : LockInv s := lockInv_run (lockInv_init a b) ops
  unfold lockBlocked at hb
  rw [List.any_eq_true] at hb
  obtain ⟨i, hi, hc⟩ := hb
  cases hl : s.locks t i with
  | none => simp [hl] at hc
  | some l =>
    simp only [hl, Bool.and_eq_true, Bool.not_eq_true', bne_iff_ne, ne_eq] at hc
    refine ⟨i, hi, l.tx, hc.2, ?_, hinv.live t i l hl⟩
    simp [holder, hl, hc.1]

/-- non-vacuity: an open transaction (id 2) holds row 0 and blocks transaction 3; after its commit
    nothing is left of it -/
example : let s := run s0 (setupIdx ++ [.insert 0 [2, 2], .begin, .begin, .txUpdate 2 0 (.idEq 0) [(0, 4)]])
    (s.locks 0 0).isSome ∧ holder s 0 0 = some 2 ∧ (s.txs 2).isSome ∧ s.txLocks 2 = [(0, 0)] ∧
    lockBlocked s 3 0 [0, 1] = true ∧
    (s.txs 1).isNone ∧ s.txLocks 1 = [] ∧
    ((step s (.commit 2)).1.txs 2).isNone ∧ ((step s (.commit 2)).1.locks 0 0).isNone ∧
    lockBlocked (step s (.commit 2)).1 3 0 [0, 1] = false := by decide +kernel

/-! ## the lock sweep takes out of the key lists exactly the locks it removes -/

/-- EVERY state (reachable or not).  `cleanup_expired_locks` removes exactly the expired locks from the
    lock table; a key leaves the key list of transaction `tx` exactly when the lock on it was expired
    AND owned by `tx` (a key of a lock taken over by somebody else stays listed under the old holder,
    as `try_lock` left it); so every lock that is not expired stays in the table unchanged and, if it
    was listed under its owner, stays listed under its owner — whatever happened to OTHER locks of the
    same owner in the same sweep. -/
theorem lock_sweep_unlists_exactly_the_locks_it_removes (s : State) :
    (∀ t i, (cleanupLocks s).1.locks t i = if lockExpiredAt s t i then none else s.locks t i) ∧
    (∀ tx k, k ∈ (cleanupLocks s).1.txLocks tx ↔
      (k ∈ s.txLocks tx ∧ ¬ ∃ l, s.locks k.1 k.2 = some l ∧ l.expired s.now s.lockTimeout = true ∧ l.tx = tx)) ∧
    (∀ t i l, s.locks t i = some l → l.expired s.now s.lockTimeout = false → (t, i) ∈ s.txLocks l.tx →
      (cleanupLocks s).1.locks t i = some l ∧ (t, i) ∈ (cleanupLocks s).1.txLocks l.tx) := by
  have hk : ∀ tx k, k ∈ (cleanupLocks s).1.txLocks tx ↔
      (k ∈ s.txLocks tx ∧ ¬ ∃ l, s.locks k.1 k.2 = some l ∧ l.expired s.now s.lockTimeout = true ∧ l.tx = tx) := by
    intro tx k
    simp only [cleanupLocks, List.mem_filter]
    constructor
    · rintro ⟨hm, hf⟩
      refine ⟨hm, ?_⟩
      rintro ⟨l, hl, he, ht⟩
      simp [hl, he, ht] at hf
    · rintro ⟨hm, hn⟩
      refine ⟨hm, ?_⟩
      cases hl : s.locks k.1 k.2 with
      | none => simp
      | some l =>
        simp only [Bool.not_eq_true', Bool.and_eq_false_iff, beq_eq_false_iff_ne, ne_eq]
        by_cases he : l.expired s.now s.lockTimeout = true
        · right
          intro ht
          exact hn ⟨l, hl, he, ht⟩
        · left
          simpa using he
  refine ⟨fun _ _ => rfl, hk, ?_⟩
  intro t i l hl he hm
  refine ⟨?_, ?_⟩
  · show (if lockExpiredAt s t i then none else s.locks t i) = some l
    simp [lockExpiredAt, hl, he]
  · rw [hk]
    refine ⟨hm, ?_⟩
    rintro ⟨l', hl', he', _⟩
    have hl'' : s.locks t i = some l' := hl'
    rw [hl] at hl''
    cases hl''
    rw [he] at he'
    cases he'

/-- the partly expired transaction: 2 locks row 0 at time 0 and row 1 at time 20000 (timeout 30000);
    at 30001 the older lock has expired, the younger has not -/
def partlyExpired : List Op :=
  setupIdx ++ [.insert 0 [2, 2], .begin, .txUpdate 2 0 (.idEq 0) [(0, 4)], .tick 20000, .txUpdate 2 0 (.idEq 1) [(0, 5)], .tick 10001]

/-- non-vacuity: the sweep removes one lock (row 0), and exactly that key leaves the list of
    transaction 2; the younger lock on row 1 stays in the table and in the list -/
example : let s := run s0 partlyExpired
    s.txLocks 2 = [(0, 0), (0, 1)] ∧ lockExpiredAt s 0 0 = true ∧ lockExpiredAt s 0 1 = false ∧
    (cleanupLocks s).2 = .okN 1 ∧ ((cleanupLocks s).1.locks 0 0).isNone ∧
    (cleanupLocks s).1.locks 0 1 = some { tx := 2, acquiredAt := 20000 } ∧
    (cleanupLocks s).1.txLocks 2 = [(0, 1)] ∧ holder (cleanupLocks s).1 0 1 = some 2 := by decide +kernel

/-! ## sweep in the middle of a transaction's life, then its end -/

/-- EVERY script from the empty engine, then a lock sweep (which may find SOME of A's locks expired
    and others alive), then the end of the open transaction A by commit or by rollback: no lock names
    A, A holds no row, A's key list is empty — and every set of rows each of which was held by A or by
    nobody before the sweep is free for every transaction: `try_lock` refuses none of them. -/
theorem sweep_then_end_frees_every_row_of_the_transaction (a b : Nat) (ops : List Op) (A : Nat) :
    let s := run (init a b) ops
    let s1 := (cleanupLocks s).1
    gate s1 A = none → ∀ s', (s' = (commit s1 A).1 ∨ s' = (rollback s1 A).1) →
      (∀ t i l, s'.locks t i = some l → l.tx ≠ A) ∧ (∀ t i, holder s' t i ≠ some A) ∧ s'.txLocks A = [] ∧
      (∀ B t rows, (∀ i ∈ rows, holder s t i = some A ∨ holder s t i = none) → lockBlocked s' B t rows = false) := by
  intro s s1 hopen s' hs'
  have hinv1 : LockInv s1 := lockInv_cleanupLocks (lockInv_run (lockInv_init a b) ops)
  have key := end_locks hopen hs'
  obtain ⟨h1, h2, h3⟩ := ended_tx_holds_nothing hinv1.idx hopen hs'
  refine ⟨h1, h2, h3, ?_⟩
  intro B t rows hrows
  unfold lockBlocked
  rw [List.any_eq_false]
  intro i hi
  cases hl : s'.locks t i with
  | none => simp
  | some l =>
    -- the lock was there, unchanged, before the end of A and before the sweep
    have hl1 : s1.locks t i = some l := by
      have := hl; rw [key.1] at this; exact (release_locks_some this).1
    have hl0 : s.locks t i = some l ∧ l.expired s.now s.lockTimeout = false := by
      have h : (if lockExpiredAt s t i then none else s.locks t i) = some l := hl1
      by_cases he : lockExpiredAt s t i = true
      · rw [if_pos he] at h; cases h
      · rw [if_neg he] at h
        refine ⟨h, ?_⟩
        simpa [lockExpiredAt, h] using he
    have hh : holder s t i = some l.tx := by simp [holder, hl0.1, hl0.2]
    have hne : l.tx ≠ A := h1 t i l hl
    rcases hrows i hi with hA | hN
    · rw [hh] at hA; injection hA with hA; exact absurd hA hne
    · rw [hh] at hN; cases hN

/-- non-vacuity: after sweep + commit of the partly expired transaction 2, both of its rows are free
    and transaction 3 updates the row whose lock had NOT expired at once -/
example : let s := run s0 (partlyExpired ++ [.begin])
    gate (cleanupLocks s).1 2 = none ∧ holder s 0 0 = none ∧ holder s 0 1 = some 2 ∧
    lockBlocked s 3 0 [0, 1] = true ∧
    lockBlocked (commit (cleanupLocks s).1 2).1 3 0 [0, 1] = false ∧
    (step (commit (cleanupLocks s).1 2).1 (.txUpdate 3 0 (.idEq 1) [(0, 3)])).2 = .okN 1 ∧
    (step (rollback (cleanupLocks s).1 2).1 (.txUpdate 3 0 (.idEq 1) [(0, 3)])).2 = .okN 1 := by decide +kernel

/-! ## witness: a sweep that forgets the owner's whole key list -/

/-- the partly expired transaction 2, a lock sweep, a second transaction 3 -/
def sweepOps : List Op := partlyExpired ++ [.cleanupLocks, .begin]

/-- `cleanupLocksDropList` (NOT the code: the sweep drops the owner's WHOLE key list as soon as one of
    its locks has expired) on the partly expired transaction: the sweep answers alike and every
    `row_lock_holder` answer is the same, but the younger lock on row 1 is now in the table and in no
    list — `every_lock_is_listed_under_its_owner` fails — and it survives the owner's end, whichever
    way the owner ends (commit, rollback): transaction 2 is gone from the manager's map and still is
    the holder of row 1, transaction 3's update and delete of that row and a non-transactional update
    are refused with a lock conflict by a transaction that no longer exists, until the lock times out.
    The model of the code frees the row at the owner's end and accepts all three. -/
theorem sweep_forgetting_owner_list_leaks_lock_witness :
    let sBad := runDropList s0 sweepOps
    let sGood := run s0 sweepOps
    runResDropList s0 sweepOps = runRes s0 sweepOps ∧
    (∀ i ∈ [0, 1], holder sBad 0 i = holder sGood 0 i) ∧ holder sBad 0 1 = some 2 ∧
    sGood.txLocks 2 = [(0, 1)] ∧ sBad.txLocks 2 = [] ∧
    sBad.locks 0 1 = some { tx := 2, acquiredAt := 20000 } ∧
    (∀ e ∈ [Op.commit 2, Op.rollback 2],
      (stepDropList sBad e).2 = .ok ∧ (step sGood e).2 = .ok ∧
      ((stepDropList sBad e).1.txs 2).isNone ∧ ((step sGood e).1.txs 2).isNone ∧
      holder (stepDropList sBad e).1 0 1 = some 2 ∧ holder (step sGood e).1 0 1 = none ∧
      (stepDropList (stepDropList sBad e).1 (.txUpdate 3 0 (.idEq 1) [(0, 3)])).2 = .err .lockConflict ∧
      (stepDropList (stepDropList sBad e).1 (.txDelete 3 0 (.idEq 1))).2 = .err .lockConflict ∧
      (stepDropList (stepDropList sBad e).1 (.update 0 (.idEq 1) [(0, 3)])).2 = .err .lockConflict ∧
      (step (step sGood e).1 (.txUpdate 3 0 (.idEq 1) [(0, 3)])).2 = .okN 1 ∧
      (step (step sGood e).1 (.txDelete 3 0 (.idEq 1))).2 = .okN 1 ∧
      (step (step sGood e).1 (.update 0 (.idEq 1) [(0, 3)])).2 = .okN 1 ∧
      -- the leaked lock dies only with its timeout
      (stepDropList (stepDropList (stepDropList sBad e).1 (.tick 20000)).1 (.txUpdate 3 0 (.idEq 1) [(0, 3)])).2 = .okN 1) := by
  decide +kernel

end Neumann.RelTx.Props5
