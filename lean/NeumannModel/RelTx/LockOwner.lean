import NeumannModel.RelTx.Restore
/-
  C09 — who may remove a row lock.  The lock table of the model is the code's: `locks` (row ↦
  holder + acquisition time) and `txLocks` (per transaction: the keys it ever pushed; `try_lock`
  leaves a key there when ANOTHER transaction takes the expired lock over).  `release tx` walks
  `txLocks tx` and removes a key only if the lock stored under it still belongs to `tx`.

  Here: an unexpired lock of transaction `B` survives EVERY move a statement is made of except `B`'s own
  end (commit / rollback of `B`, `cleanup_expired` when `B` has timed out) (`Moves.keeps_holder`), and only the
  passing of time besides, hence every script that contains neither (`holder_run_of_spares`).  No
  reachability hypothesis: this holds in every state.
-/
namespace Neumann.RelTx

/-- the lock table has an entry of `B` on row `(t,i)` that is unexpired on the clock `(now, to)` -/
def HeldAt (locks : Nat → Nat → Option Lock) (now to : Nat) (t i B : Nat) : Prop :=
  ∃ l, locks t i = some l ∧ l.tx = B ∧ l.expired now to = false

/-- per statement: it does not end `B`, and if it is a `tick`, the lock on `(t,i)` is still within
    its timeout afterwards -/
def stepSpares (s : State) (B t i : Nat) (op : Op) : Bool :=
  !endsTx s op B &&
    match op with
    | .tick d => !lockExpiredAt (tick s d) t i
    | _ => true

/-- a script during which transaction `B` is not ended and its lock on `(t,i)` does not time out -/
def spares (s : State) (B t i : Nat) : List Op → Bool
  | [] => true
  | op :: ops => stepSpares s B t i op && spares (step s op).1 B t i ops

theorem release_heldAt {s : State} {now to t i B : Nat} (h : HeldAt s.locks now to t i B) {A : Nat} (hne : B ≠ A) :
    HeldAt (release s A).locks now to t i B := by
  obtain ⟨l, hl, hB, he⟩ := h
  exact ⟨l, release_keeps hl (by rw [hB]; exact hne), hB, he⟩

theorem foldl_release_txLocks_other (ids : List Nat) (s : State) {B : Nat} (hn : B ∉ ids) :
    (ids.foldl release s).txLocks B = s.txLocks B := by
  induction ids generalizing s with
  | nil => rfl
  | cons k rest ih =>
    simp only [List.mem_cons, not_or] at hn
    rw [List.foldl_cons, ih (release s k) hn.2]
    simp [release, hn.1]

theorem foldl_release_foreign (ids : List Nat) (s : State) {t i : Nat} {l : Lock} (hl : s.locks t i = some l)
    (hn : l.tx ∉ ids) :
    (ids.foldl release s).locks t i = some l ∧ holder (ids.foldl release s) t i = holder s t i ∧
    (ids.foldl release s).txLocks l.tx = s.txLocks l.tx := by
  have h := foldl_release_keeps ids s hl hn
  refine ⟨h, ?_, foldl_release_txLocks_other ids s hn⟩
  simp only [holder, hl, h, foldlRelease_now, foldlRelease_lockTimeout]

/-- an unexpired lock of `B` is still `B`'s, and the `row_lock_holder` answer is still `B`, after every move
    that does not end `B` — in every state -/
theorem Moves.keeps_holder {E : Nat → Prop} {s s' : State} (h : Moves E s s') {t i B : Nat} (hE : ¬E B) :
    holder s t i = some B → holder s' t i = some B := by
  induction h with
  | frame hf => rw [hf.holder_eq]; exact id
  | @lock s A t' rows _ _ _ _ hb =>
    intro hh
    by_cases hc : t = t' ∧ i ∈ rows
    · rw [hc.1] at hh ⊢
      -- a holder other than `A` on one of the rows would have blocked `A`
      rcases not_lockBlocked hb i hc.2 with h | h
      · rw [hh] at h; cases h
      · rw [hh] at h
        cases h
        exact holder_lockAll s _ t' i rows hc.2
    · rw [← hh]
      simp only [holder, lockAll, hc, ↓reduceIte]
      rfl
  | start => exact id
  | @finish s A hA =>
    intro hh
    obtain ⟨l, hl, hB, he⟩ := holder_some hh
    have hne : l.tx ≠ A := by rw [hB]; exact fun e => hE (e ▸ hA)
    have := release_keeps hl hne
    simp only [holder, setTx_locks, this, setTx_now, release_now, setTx_lockTimeout, release_lockTimeout, he,
      Bool.false_eq_true, ↓reduceIte, hB]
  | sweepLocks s =>
    intro hh
    obtain ⟨l, hl, hB, he⟩ := holder_some hh
    rw [← hh]
    simp only [holder, cleanupLocks, lockExpiredAt, hl, he, Bool.false_eq_true, ↓reduceIte]
  | @sweepTxs s hexp =>
    intro hh
    obtain ⟨l, hl, hB, _⟩ := holder_some hh
    have hn : l.tx ∉ (List.range s.nextTx).filter (txExpired s) := by
      rw [hB, List.mem_filter]
      exact fun hc => hE (hexp B hc.2)
    exact ((foldl_release_foreign _ s hl hn).2.1).trans hh
  | newTable => exact id
  | trans _ _ ih1 ih2 => exact fun hh => ih2 (ih1 hh)

theorem holder_step_of_spares {s : State} {t i B : Nat} (hh : holder s t i = some B) (hB : B < s.nextTx) (op : Op)
    (hsp : stepSpares s B t i op = true) :
    holder (step s op).1 t i = some B ∧ B < (step s op).1.nextTx := by
  simp only [stepSpares, Bool.and_eq_true, Bool.not_eq_eq_eq_not, Bool.not_true] at hsp
  rcases step_cases s op with ⟨d, rfl⟩ | hm
  · obtain ⟨l, hl, hlB, _⟩ := holder_some hh
    have hx : lockExpiredAt (tick s d) t i = false := by simpa using hsp.2
    refine ⟨?_, hB⟩
    have hl' : (tick s d).locks t i = some l := hl
    simp only [lockExpiredAt, hl'] at hx
    show holder (tick s d) t i = some B
    simp [holder, hl', hx, hlB]
  · refine ⟨hm.keeps_holder ?_ hh, Nat.lt_of_lt_of_le hB hm.nextTx_le⟩
    rintro (e | e)
    · rw [hsp.1] at e; cases e
    · exact Nat.lt_irrefl _ (e ▸ hB)

/-- `B` holds an unexpired lock on `(t,i)`; then after ANY script that does not end `B` and during which
    that lock does not time out — statements of any other transactions including their commits,
    rollbacks and expired-transaction cleanup, non-transactional statements, DDL, sweeps, ticks —
    `B` still holds it -/
theorem holder_run_of_spares {s : State} {t i B : Nat} (hh : holder s t i = some B) (hB : B < s.nextTx) (ops : List Op)
    (hsp : spares s B t i ops = true) : holder (run s ops) t i = some B := by
  induction ops generalizing s with
  | nil => exact hh
  | cons op rest ih =>
    simp only [spares, Bool.and_eq_true] at hsp
    obtain ⟨h1, h2⟩ := holder_step_of_spares hh hB op hsp.1
    exact ih h1 h2 hsp.2

end Neumann.RelTx

/-! ## scripts of the lock-takeover witnesses / examples of `Props.lean` -/
namespace Neumann.RelTx.Props
open Neumann.RelTx

/-- lock timeout 30 s, transaction timeout 40 s (so that a transaction can time out while a lock
    taken 30 s after its start is still fresh) -/
def s1 : State := init 30000 40000

/-- A (= 1) updates row 0 and idles past the lock timeout; B (= 2) begins and takes the row over -/
def takeover : List Op := setupIdx ++ [.begin, .txUpdate 1 0 (.idEq 0) [(0, 4)], .tick 30001, .begin,
  .txUpdate 2 0 (.idEq 0) [(0, 5)]]

/-- what happens after the old holder has ended: C (= 3) tries to update and to delete the row, then B
    rolls back -/
def afterEnd : List Op := [.begin, .txUpdate 3 0 (.idEq 0) [(0, 6)], .txDelete 3 0 (.idEq 0), .rollback 2]

end Neumann.RelTx.Props
