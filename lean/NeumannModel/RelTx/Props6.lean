import NeumannModel.RelTx.CapLemmas
import NeumannModel.RelTx.CapCount
import NeumannModel.RelTx.CapCongr
/-
  C09 — sixth module of property theorems (ONLY theorems and their non-vacuity examples): statements that
  fail PART-WAY through a row, and the rollback after them (`CapModel.lean`).

  A row of `tx_update` is a sequence of fallible steps: record the undo entry, move the row's hash entries,
  remove its old b-tree entry, add the new one, overwrite the slab row.  In an in-memory engine the step that
  can fail is `btree_index_add` of a key the tree does not have yet when `btree_entry_count` has reached
  `RelationalConfig::max_btree_entries`: it strikes after the hash moves and after the removal of the old
  b-tree entry.  All-or-nothing then rests on one ordering fact: the undo entry of the row exists BEFORE the
  first modification of the row.
-/
namespace Neumann.RelTx.Props6
open Neumann.RelTx Neumann.RelTx.Cap

/-- EVERY state, every cap, every open transaction A with any undo log, every `tx_update` of A that is refused
    at the b-tree entry cap (table with exact indexes, trees within the cap, SET list naming at most one
    b-tree-indexed column — the configuration in which the code's column order is determined):

      * the statement was refused at its FIRST matched row and has recorded exactly one undo entry — before
        it touched anything; it has changed the content of no row of any table and no other table at all;
      * A's rollback begins with that entry, which is applied without an error and puts the table back
        EXACTLY: the same rows, the same index configuration, hash and b-tree indexes exact again, the same
        members in both entry lists, hence every `select` — through an index or by scan — answers what it
        answered before the statement; it then goes on with the entries A had recorded before the statement,
        from tables that are as they were when those were recorded.

    So a rollback after the refused statement restores whatever a rollback before it would have restored.
    With the undo entry recorded last this is false (`undo_recorded_last_loses_index_entries_witness`). -/
theorem failed_update_is_undone_by_rollback (cap : Nat) (s : State) (A t : Nat) (cond : Cond)
    (upd : List (Nat × Val)) (T : Table) (x : Tx)
    (hT : s.tables t = some T) (hx : s.txs A = some x) (hex : IdxExact T)
    (hwf : ∀ (i : Nat) (r : Row), T.rows[i]? = some r → r.vals.length = T.ncols)
    (hcap : otherKeys s t + keyCount T.btreeE ≤ cap) (hone : OneBt T upd)
    (hfail : (txUpdateC cap s A t cond upd).2 = .tooLarge) :
    let s' := (txUpdateC cap s A t cond upd).1
    ∃ (T'' X : Table) (u : Undo),
      s'.txs A = some { x with undo := x.undo ++ [u] } ∧
      s'.tables t = some X ∧ X.rows = T.rows ∧ (∀ k, k ≠ t → s'.tables k = s.tables k) ∧ s'.ntables = s.ntables ∧
      rollbackC cap s' A =
        (setTx (release (x.undo.reverse.foldl (applyUndoC cap) (setTable s' t T'', 0)).1 A) A none,
         if (x.undo.reverse.foldl (applyUndoC cap) (setTable s' t T'', 0)).2 = 0 then .ok else .err .rollbackFailed) ∧
      T''.rows = T.rows ∧ T''.ncols = T.ncols ∧ T''.nullable = T.nullable ∧
      T''.hashOn = T.hashOn ∧ T''.btreeOn = T.btreeOn ∧ IdxExact T'' ∧
      (∀ e, e ∈ T''.hashE ↔ e ∈ T.hashE) ∧ (∀ e, e ∈ T''.btreeE ↔ e ∈ T.btreeE) ∧
      (∀ c, select T'' c = select T c) := by
  intro s'
  obtain ⟨i0, rest, r, hg, hb, _, hr, ha, hstate, hflag⟩ := txUpdateC_refused hT hfail
  obtain ⟨T'', hundo, h1, h2, h3, h4, h5, h6⟩ :=
    refused_row_undone cap (otherKeys s t) T t i0 r upd hex hr ha (hwf i0 r hr) (updBad_false_cols hb) hcap hone hflag
  have hs' : s' = _ := hstate
  have htx : s'.txs A = some { x with undo := x.undo ++ [.updated t i0 r.vals (mkChg (T.hashOn ++ T.btreeOn) upd r.vals)] } := by
    rw [hs', setTable_txs]
    exact recordUndo_txs_self (s := lockAll s A t (i0 :: rest)) hx _
  have htab : s'.tables t = some (updateRowT cap (otherKeys s t) upd T i0 r).1 := by
    rw [hs', setTable_tables, if_pos rfl]
  have hothers : ∀ k, k ≠ t → s'.tables k = s.tables k := by
    intro k hk
    rw [hs', setTable_tables, if_neg hk, recordUndo_tables, lockAll_tables]
  have hnt : s'.ntables = s.ntables := by rw [hs']; exact recordUndo_ntables _ _ _
  have hfirst : applyUndoC cap (s', 0) (.updated t i0 r.vals (mkChg (T.hashOn ++ T.btreeOn) upd r.vals))
      = (setTable s' t T'', 0) := by
    rw [applyUndoC_of_table (u := .updated t i0 r.vals _) htab]
    show (setTable s' t (applyUndoTC cap (otherKeys s' t) _ _).1, 0 + (applyUndoTC cap (otherKeys s' t) _ _).2) = _
    rw [otherKeys_congr hnt hothers, hundo]
    rfl
  obtain ⟨x', hx', hact⟩ := gate_none hg
  rw [hx] at hx'
  cases hx'
  have hroll := rollbackC_of_gate (cap := cap) (gate_of_active htx hact) htx
  dsimp only at hroll
  rw [List.reverse_append, List.reverse_singleton, List.singleton_append, List.foldl_cons, hfirst] at hroll
  obtain ⟨h7, h8, h9⟩ := idxExact_unique hex h6 h1 h4 h5
  exact ⟨T'', _, _, htx, htab, by rw [updateRowT_refused hflag], hothers, hnt, hroll, h1, h2, h3, h4, h5, h6, h7, h8, h9⟩

set_option maxRecDepth 8000 in
/-- non-vacuity: the script `setup ++ [begin]` (engine with `max_btree_entries = 2`, rows 0 and 1 sharing the key 1,
    row 2 holding the key 2) ends in a state that satisfies every hypothesis — the table is `tab3`, exact by
    construction — and transaction 3 moving row 0 to the new key 3 is refused there. -/
example : (runC 2 c0 (setup ++ [.begin])).tables 0 = some tab3 ∧
    (runC 2 c0 (setup ++ [.begin])).txs 3 = some { phase := .active, startedAt := 0, undo := [] } ∧ IdxExact tab3 ∧
    (∀ (i : Nat) (r : Row), tab3.rows[i]? = some r → r.vals.length = tab3.ncols) ∧
    otherKeys (runC 2 c0 (setup ++ [.begin])) 0 + keyCount tab3.btreeE ≤ 2 ∧ OneBt tab3 [(0, 3)] ∧
    (txUpdateC 2 (runC 2 c0 (setup ++ [.begin])) 3 0 (.idEq 0) [(0, 3)]).2 = .tooLarge := by
  refine and_assoc.mp ⟨by decide +kernel, idxExact_tab3, ?_, by decide +kernel, ⟨by decide, by decide⟩, by decide +kernel⟩
  intro i r h
  have hi : i < 3 := by
    rcases Nat.lt_or_ge i 3 with h1 | h1
    · exact h1
    · have : tab3.rows[i]? = none := List.getElem?_eq_none h1
      rw [this] at h; cases h
  match i, hi, h with
  | 0, _, h => cases h; rfl
  | 1, _, h => cases h; rfl
  | 2, _, h => cases h; rfl

/-- THE SAME, AS ONE EQUATION OF OUTCOMES.  Every state, every cap, every open transaction A with ANY undo log, every
    `tx_update` of A refused at the cap (hypotheses as above): A's rollback AFTER the refused statement answers what A's
    rollback INSTEAD of the statement would have answered (`Ok`, or `RollbackFailed` for the same entries of the earlier
    log), and leaves every table as that rollback would have left it — the same table names, and for every table the same
    rows, the same index configuration, the same hash and b-tree entries up to their order in the lists (`TabEq`), hence the
    same answer to every `select`, through an index or by scan.  All-or-nothing does not see the refused statement. -/
theorem rollback_after_refused_update_is_rollback_without_it (cap : Nat) (s : State) (A t : Nat) (cond : Cond)
    (upd : List (Nat × Val)) (T : Table) (x : Tx)
    (hT : s.tables t = some T) (hx : s.txs A = some x) (hex : IdxExact T)
    (hwf : ∀ (i : Nat) (r : Row), T.rows[i]? = some r → r.vals.length = T.ncols)
    (hcap : otherKeys s t + keyCount T.btreeE ≤ cap) (hone : OneBt T upd)
    (hfail : (txUpdateC cap s A t cond upd).2 = .tooLarge) :
    let s' := (txUpdateC cap s A t cond upd).1
    (rollbackC cap s' A).2 = (rollbackC cap s A).2 ∧
    TablesEq (rollbackC cap s A).1 (rollbackC cap s' A).1 ∧
    (∀ k T0 T1, (rollbackC cap s A).1.tables k = some T0 → (rollbackC cap s' A).1.tables k = some T1 →
      T1.rows = T0.rows ∧ ∀ c, select T1 c = select T0 c) := by
  intro s'
  obtain ⟨T'', X, u, _, _, _, hothers, hnt, hroll, h1, h2, h3, h4, h5, h6, h7, h8, _⟩ :=
    failed_update_is_undone_by_rollback cap s A t cond upd T x hT hx hex hwf hcap hone hfail
  obtain ⟨_, _, _, hg, _, _, _, _, _, _⟩ := txUpdateC_refused hT hfail
  have hplain := rollbackC_of_gate (cap := cap) hg hx
  have hstart : TablesEq s (setTable s' t T'') :=
    tablesEq_replace hnt hothers hT (tabEq_of_idxExact hex h6 h2 h3 h1 h4 h5)
  obtain ⟨herr, hfin⟩ := foldl_applyUndoC_congr (cap := cap) x.undo.reverse (n := 0) hstart
  have hfinal : TablesEq (rollbackC cap s A).1 (rollbackC cap s' A).1 := by
    rw [hplain, hroll]
    exact ⟨hfin.ntables, hfin.tabs⟩
  refine ⟨?_, hfinal, fun k T0 T1 h0 h1' => hfinal.select_eq h0 h1'⟩
  rw [hplain, hroll]
  dsimp only
  rw [herr]

set_option maxRecDepth 8000 in
/-- non-vacuity with a NON-EMPTY earlier log: transaction 3 has first set column 1 of row 2 (one undo entry, table `tab3b`,
    exact by construction), then its move of row 0 to the new key 3 is refused. -/
example : let pre := runC 2 c0 (setup ++ [.begin, .txUpdate 3 0 (.idEq 2) [(1, 4)]])
    pre.tables 0 = some tab3b ∧ (pre.txs 3).map (·.undo.length) = some 1 ∧ IdxExact tab3b ∧
    otherKeys pre 0 + keyCount tab3b.btreeE ≤ 2 ∧ OneBt tab3b [(0, 3)] ∧
    (txUpdateC 2 pre 3 0 (.idEq 0) [(0, 3)]).2 = .tooLarge := by
  intro pre
  exact and_assoc.mp ⟨by decide +kernel, idxExact_tab3b, by decide +kernel, ⟨by decide, by decide⟩, by decide +kernel⟩

/-- EVERY state, every cap: a NON-transactional `update` that is refused at the b-tree entry cap (its internal
    transaction rolls back inside the call) leaves every table as it found it — the same rows, exact hash and
    b-tree indexes with the same members, every `select` answering what it answered before; tables other than
    its own are not touched at all. -/
theorem failed_plain_update_changes_nothing (cap : Nat) (s : State) (t : Nat) (cond : Cond)
    (upd : List (Nat × Val)) (T : Table)
    (hT : s.tables t = some T) (hex : IdxExact T)
    (hwf : ∀ (i : Nat) (r : Row), T.rows[i]? = some r → r.vals.length = T.ncols)
    (hcap : otherKeys s t + keyCount T.btreeE ≤ cap) (hone : OneBt T upd)
    (hfail : (updateC cap s t cond upd).2 = .tooLarge) :
    ∃ T'', (updateC cap s t cond upd).1.tables t = some T'' ∧
      T''.rows = T.rows ∧ T''.ncols = T.ncols ∧ T''.nullable = T.nullable ∧
      T''.hashOn = T.hashOn ∧ T''.btreeOn = T.btreeOn ∧ IdxExact T'' ∧
      (∀ e, e ∈ T''.hashE ↔ e ∈ T.hashE) ∧ (∀ e, e ∈ T''.btreeE ↔ e ∈ T.btreeE) ∧
      (∀ c, select T'' c = select T c) ∧
      (∀ k, k ≠ t → (updateC cap s t cond upd).1.tables k = s.tables k) := by
  have hbx := (begin_txs s s.nextTx).trans (if_pos rfl)
  have hbo : otherKeys (begin s).1 t = otherKeys s t := otherKeys_congr rfl (fun _ _ => rfl)
  rw [updateC_of_table hT] at hfail ⊢
  cases hb : updBad T upd with
  | true => rw [hb, if_pos rfl] at hfail; cases hfail
  | false =>
    rw [hb, if_neg Bool.false_ne_true, finishAutoC_snd] at hfail
    rw [if_neg Bool.false_ne_true]
    obtain ⟨T'', X, u, _, _, _, hothers, _, hroll, h1, h2, h3, h4, h5, h6, h7, h8, h9⟩ :=
      failed_update_is_undone_by_rollback cap (begin s).1 (begin s).2 t cond upd T _ hT hbx hex hwf
        (by rw [hbo]; exact hcap) hone hfail
    rw [finishAutoC_tooLarge hfail, hroll]
    simp only [List.reverse_nil, List.foldl_nil]
    refine ⟨T'', ?_, h1, h2, h3, h4, h5, h6, h7, h8, h9, ?_⟩
    · rw [setTx_tables, release_tables, setTable_tables, if_pos rfl]
    · intro k hk
      rw [setTx_tables, release_tables, setTable_tables, if_neg hk]
      exact hothers k hk

set_option maxRecDepth 8000 in
/-- non-vacuity: on the same table a plain `update` moving row 0 to the new key 3 is refused -/
example : (updateC 2 (runC 2 c0 setup) 0 (.idEq 0) [(0, 3)]).2 = .tooLarge := by decide +kernel

/-- EVERY state, every cap, every `tx_update` that is refused at the cap — no hypothesis on the indexes: it was
    refused at its FIRST matched row (once a row has moved, the new keys exist and `btree_index_add` of an existing
    key is unconditional), so it has changed the content of no row; the index entries of every row other than that
    first one, the index configuration and every other table are as before.  (This is what the harness oracle
    `failed_statement_changed_rows` demands of a refused statement.) -/
theorem refused_update_changes_no_row (cap : Nat) (s : State) (A t : Nat) (cond : Cond) (upd : List (Nat × Val))
    (T : Table) (hT : s.tables t = some T) (hfail : (txUpdateC cap s A t cond upd).2 = .tooLarge) :
    let s' := (txUpdateC cap s A t cond upd).1
    ∃ (i0 : Nat) (rest : List Nat) (X : Table), matching T cond = i0 :: rest ∧ s'.tables t = some X ∧
      X.rows = T.rows ∧ X.ncols = T.ncols ∧ X.hashOn = T.hashOn ∧ X.btreeOn = T.btreeOn ∧
      (∀ e : Entry, e.2.2 ≠ i0 → ((e ∈ X.hashE ↔ e ∈ T.hashE) ∧ (e ∈ X.btreeE ↔ e ∈ T.btreeE))) ∧
      (∀ k, k ≠ t → s'.tables k = s.tables k) := by
  intro s'
  obtain ⟨i0, rest, r, _, _, hm, hr, _, hstate, hflag⟩ := txUpdateC_refused hT hfail
  have hs' : s' = _ := hstate
  refine ⟨i0, rest, _, hm, by rw [hs', setTable_tables, if_pos rfl], ?_⟩
  rw [updateRowT_refused hflag]
  refine ⟨rfl, rfl, rfl, rfl, fun e he => ⟨hashMoves_other_ids e he _ _, btMoves_other_ids e he _ _⟩, fun k hk => ?_⟩
  rw [hs', setTable_tables, if_neg hk, recordUndo_tables, lockAll_tables]

set_option maxRecDepth 8000 in
/-- non-vacuity: on `tab3` under `max_btree_entries = 2` the update `c0 = 1 -> c0 := 3` matches rows 0 and 1 and is
    refused (at row 0) -/
example : (runC 2 c0 (setup ++ [.begin])).tables 0 = some tab3 ∧ matching tab3 (.eq 0 1) = [0, 1] ∧
    (txUpdateC 2 (runC 2 c0 (setup ++ [.begin])) 3 0 (.eq 0 1) [(0, 3)]).2 = .tooLarge := by decide +kernel

/-- `tx_delete` has no step that the cap can refuse (it only removes index entries): under any cap it is the
    atomic statement of `Model.lean`, for which `failed_statement_changes_nothing` and `rollback_restores` hold. -/
theorem tx_delete_is_never_refused (s : State) (tx t : Nat) (cond : Cond) :
    (txDeleteC s tx t cond).2 ≠ .tooLarge ∧ (txDeleteC s tx t cond).1 = (txDelete s tx t cond).1 ∧
    (txDeleteC s tx t cond).2 = .res (txDelete s tx t cond).2 := by
  unfold txDeleteC
  exact ⟨fun h => (by cases h), rfl, rfl⟩

/-- REGRESSION WITNESS on the variant that records the undo entry of a `tx_update` row AFTER the row's
    modifications (`txUpdateCUndoLast` / `runCUndoLast`, not the code).  Engine with `max_btree_entries = 2`,
    table with a hash and a b-tree index on column 0, rows 0 and 1 with the key 1, row 2 with the key 2 (two
    keys: the trees are full).  Transaction 3 sets column 0 of row 0 to 3: the hash entry moves to 3, the b-tree
    entry under 1 goes (the key stays, row 1 has it), and `btree_index_add` of the new key 3 is refused.  Both
    variants answer alike — every statement, the refusal, `Ok` for the rollback — and the scan is right in both.
    The variant has no undo entry for row 0: after the rollback `c0 = 1` through the hash index, `c0 >= 0` and
    `c0 <= 1` through the b-tree index have lost row 0, and the same with the non-transactional `update`, whose
    internal rollback has nothing to undo.  The model of the code puts every entry back.  Controls — an update that
    moves row 2 (sole holder of its key: the removal frees the capacity the new key needs) then rollback, and a
    refused update that is followed by nothing — do not tell the two variants apart. -/
theorem undo_recorded_last_loses_index_entries_witness :
    let ops : List Op := refused ++ [.rollback 3]
    let plain : List Op := setup ++ [.update 0 (.idEq 0) [(0, 3)]]
    let fits : List Op := setup ++ [.begin, .txUpdate 3 0 (.idEq 2) [(0, 3)], .rollback 3]
    let all := [(0, [(1 : Val), 0]), (1, [1, 0]), (2, [2, 0])]
    runResCUndoLast 2 c0 ops = runResC 2 c0 ops ∧
    (runResC 2 c0 ops).drop 6 = [.res (.okN 3), .tooLarge, .res .ok] ∧
    answers (runCUndoLast 2 c0 ops) = some [all, [(1, [1, 0])], [(1, [1, 0]), (2, [2, 0])], [(1, [1, 0])]] ∧
    answers (runC 2 c0 ops) = some [all, [(0, [1, 0]), (1, [1, 0])], all, [(0, [1, 0]), (1, [1, 0])]] ∧
    runResCUndoLast 2 c0 plain = runResC 2 c0 plain ∧ (runResC 2 c0 plain).getLast? = some .tooLarge ∧
    answers (runCUndoLast 2 c0 plain) = some [all, [(1, [1, 0])], [(1, [1, 0]), (2, [2, 0])], [(1, [1, 0])]] ∧
    answers (runC 2 c0 plain) = some [all, [(0, [1, 0]), (1, [1, 0])], all, [(0, [1, 0]), (1, [1, 0])]] ∧
    -- controls
    runResCUndoLast 2 c0 fits = runResC 2 c0 fits ∧ (runResC 2 c0 fits).drop 7 = [.res (.okN 1), .res .ok] ∧
    answers (runCUndoLast 2 c0 fits) = answers (runC 2 c0 fits) ∧
    answers (runCUndoLast 2 c0 refused) = answers (runC 2 c0 refused) ∧
    -- the half-moved state the refused statement leaves in BOTH variants: row 0 unchanged in the slab, gone from
    -- `c0 = 1` (hash) and from the b-tree
    answers (runC 2 c0 refused) = some [all, [(1, [1, 0])], [(1, [1, 0]), (2, [2, 0])], [(1, [1, 0])]] := by
  intro ops plain fits all
  -- grouped by script: the kernel then runs each script once per group
  exact and_assoc4 ⟨by decide +kernel, and_assoc4 ⟨by decide +kernel, by decide +kernel⟩⟩

/-- CANDIDATE FINDING, witness on the model of the code AS IT IS (`txInsertC`): `tx_insert` records its undo entry
    LAST, after the index steps.  Engine with `max_btree_entries = 1`, table with a hash and a b-tree index on
    column 0 and the row `[1,0]`; transaction 1 inserts `[3,0]`: the slab row is written, the hash entry is added,
    `btree_index_add` of the new key is refused — and no undo entry exists.  The statement answers an error, the
    rollback answers `Ok`, and the table has a row it did not have before: alive, found by the scan and through the
    hash index, missing from every b-tree range.  The same with the non-transactional `insert`.  With the undo entry
    recorded right after `slab.insert` (`txInsertCUndoFirst`, the proposed repair) the rollback removes the row and
    its hash entry. -/
theorem failed_insert_leaves_row_witness :
    let pre : List Op := [.createTable 2 [], .createIndex 0 0, .createBtree 0 0, .insert 0 [1, 0]]
    let ops : List Op := pre ++ [.begin, .txInsert 1 0 [3, 0], .rollback 1]
    let plain : List Op := pre ++ [.insert 0 [3, 0]]
    let q := fun (s : State) => (s.tables 0).map fun T => [scanAnswer T .all, select T (.eq 0 3), select T (.ge 0 0)]
    (runResC 1 c0 ops).drop 4 = [.res (.okN 1), .tooLarge, .res .ok] ∧
    q (runC 1 c0 pre) = some [[(0, [1, 0])], [], [(0, [1, 0])]] ∧
    q (runC 1 c0 ops) = some [[(0, [1, 0]), (1, [3, 0])], [(1, [3, 0])], [(0, [1, 0])]] ∧
    (runResC 1 c0 plain).getLast? = some .tooLarge ∧
    q (runC 1 c0 plain) = some [[(0, [1, 0]), (1, [3, 0])], [(1, [3, 0])], [(0, [1, 0])]] ∧
    q (runCInsertUndoFirst 1 c0 ops) = q (runC 1 c0 pre) ∧ q (runCInsertUndoFirst 1 c0 plain) = q (runC 1 c0 pre) := by
  intro pre ops plain q
  and_intros <;> decide +kernel

/-- CANDIDATE FINDINGS, witnesses on the model of the code as it is: `apply_undo_entry` re-adds b-tree keys through
    the capped `btree_index_add`, so a rollback can be REFUSED capacity it had itself freed.
    (1) Another writer used it: cap 2, b-tree on column 0, rows with the keys 1 and 2; transaction 2 deletes row 0
        (key 1 goes), a non-transactional insert takes the free slot with the key 3, the rollback of 2 cannot re-add
        the key 1: `RollbackFailed`, row 0 is back in the table and missing from the b-tree.
    (2) Nobody else wrote, two b-tree columns (`twoCols`, cap 4): the change list of an `UpdatedRow` entry is replayed
        in recording order, not reversed — row 0 moves column 0 from its own key 1 to the existing key 2 (frees a slot)
        and column 1 from the shared key 7 to the new key 9 (takes it); the undo first removes (0,2) — frees nothing —
        and re-adds (0,1) with the trees still full: `RollbackFailed`.  This is why the theorems above ask for at most
        one b-tree column in the SET list.
    (3) The transaction goes on after a refusal: cap 1, b-tree on column 1, rows 0 and 1 sharing the key 5;
        transaction 2's update of row 1 to the new key 1 is refused (row 1's entry under 5 is gone, its slab value is
        still 5); its next update of both rows to 3 records for row 1 the change 5 -> 3 although the index no longer
        had the 5 — the rollback's re-add of (1,5) for row 1 is refused and it answers `RollbackFailed` (in this script
        the entry of the refused statement, undone last, then restores row 1's b-tree entry). -/
theorem rollback_refused_by_cap_witness :
    let other : List Op := [.createTable 2 [], .createBtree 0 0, .insert 0 [1, 0], .insert 0 [2, 0],
                            .begin, .txDelete 2 0 (.idEq 0), .insert 0 [3, 0], .rollback 2]
    let goesOn : List Op := [.createTable 2 [], .createBtree 0 1, .insert 0 [3, 5], .insert 0 [2, 5],
                             .begin, .txUpdate 2 0 (.idEq 1) [(1, 1)], .txUpdate 2 0 (.eq 1 5) [(1, 3)], .rollback 2]
    let q := fun (s : State) (c : Nat) => (s.tables 0).map fun T => [scanAnswer T .all, select T (.ge c 0)]
    (runResC 2 c0 other).drop 4 = [.res (.okN 2), .res (.okN 1), .res (.okN 2), .res (.err .rollbackFailed)] ∧
    q (runC 2 c0 other) 0 = some [[(0, [1, 0]), (1, [2, 0]), (2, [3, 0])], [(1, [2, 0]), (2, [3, 0])]] ∧
    (runResC 4 c0 twoCols).drop 6 = [.res (.okN 3), .res (.okN 1), .res (.err .rollbackFailed)] ∧
    q (runC 4 c0 twoCols) 0 = some [[(0, [1, 7]), (1, [2, 7]), (2, [2, 8])], [(1, [2, 7]), (2, [2, 8])]] ∧
    (runResC 1 c0 goesOn).drop 4 = [.res (.okN 2), .tooLarge, .res (.okN 2), .res (.err .rollbackFailed)] ∧
    q (runC 1 c0 goesOn) 1 = some [[(0, [3, 5]), (1, [2, 5])], [(0, [3, 5]), (1, [2, 5])]] := by
  intro other goesOn q
  exact and_assoc.mp ⟨by decide +kernel, and_assoc.mp ⟨by decide +kernel, by decide +kernel⟩⟩

/-- EVERY capped script from the empty engine — any statements of any number of transactions, refusals, rollbacks that
    are themselves refused, index DDL, `batch_insert`: the keys of all in-memory b-trees never number more than the cap,
    and for every table that exists the hypothesis `otherKeys + keyCount ≤ cap` of the theorems above holds.  (The cap is
    a constant of the engine; `btree_index_add` is the only step that adds a key and it checks first.) -/
theorem capped_runs_stay_within_the_cap (cap a b : Nat) (ops : List Op) :
    let s := runC cap (init a b) ops
    btCount s ≤ cap ∧ ∀ t T, s.tables t = some T → otherKeys s t + keyCount T.btreeE ≤ cap := by
  intro s
  have h : CapInv cap s := capInv_runC (capInv_init cap a b) ops
  exact ⟨h.count, fun t T hT => capInv_split h hT⟩

/-- EVERY state within the cap: `btree_index_add` of an entry whose key the tree holds, or while the engine holds
    fewer keys than `max_btree_entries`, is the unconditional `idxAdd` of `Model.lean` — the statements of the
    capped model differ from the atomic ones only where the cap strikes. -/
theorem add_below_cap_is_unconditional (cap other : Nat) (e : Entry) (es : List Entry)
    (h : hasKey es (ekey e) = true ∨ other + keyCount es < cap) : btAddC cap other e es = some (idxAdd e es) := by
  rcases h with h | h
  · exact btAddC_of_hasKey h
  · exact btAddC_of_lt h

example : hasKey [((0 : Nat), (1 : Val), (0 : Nat))] (ekey (0, 1, 5)) = true ∧ (0 + keyCount [((0 : Nat), (1 : Val), (0 : Nat))] < 2) := by decide

end Neumann.RelTx.Props6
