import NeumannModel.RelTx.Ddl
/-
  C09 — fourth module of property theorems (ONLY theorems and their non-vacuity examples):
  `drop_table` / `create_table` under a name used before, next to open transactions (`DdlModel.lean`).
  What the repairs 6f865e8a (drop_table is refused while an open transaction has uncommitted changes
  in the table) and 6992261a (drop_table takes the in-memory b-tree maps with it) make true for every
  state / every script, and — as witnesses on the code before them — what was wrong.
-/
namespace Neumann.RelTx.Props4
open Neumann.RelTx Neumann.RelTx.Props

/-! ## the guard -/

/-- EVERY state: while a transaction in the manager's map has an undo entry naming table `t`
    (uncommitted changes in it), `drop_table t` answers `LockConflict` and changes nothing. -/
theorem drop_table_refused_while_open_transaction_wrote_table (s : State) (t A : Nat) (x : Tx) (T : Table)
    (hlt : A < s.nextTx) (hx : s.txs A = some x) (hu : ∃ u ∈ x.undo, u.table = t) (hT : s.tables t = some T) :
    dropTable s t = (s, .err .lockConflict) := by
  cases ho : openTxOnTable s t with
  | none =>
    have := ddl_openTx_isSome hlt hx hu
    rw [ho] at this
    cases this
  | some B => exact dropTable_refused hT ho

/-- EVERY state: a `drop_table t` that is accepted removes exactly table `t` (every other table, every
    transaction record, every lock, the clock are what they were) and no transaction known to the
    manager has an undo entry naming `t` — there is nothing a later rollback could apply to a table
    created under the name afterwards. -/
theorem accepted_drop_table_leaves_no_undo_entry_behind (s : State) (t : Nat) (h : (dropTable s t).2 = .ok) :
    (dropTable s t).1.tables t = none ∧ (∀ k, k ≠ t → (dropTable s t).1.tables k = s.tables k) ∧
    (dropTable s t).1.txs = s.txs ∧ (dropTable s t).1.locks = s.locks ∧ (dropTable s t).1.txLocks = s.txLocks ∧
    (dropTable s t).1.nextTx = s.nextTx ∧ (dropTable s t).1.now = s.now ∧
    ∀ A x, A < s.nextTx → s.txs A = some x → ∀ u ∈ x.undo, u.table ≠ t := by
  obtain ⟨_, ho, hf⟩ := dropTable_ok_form h
  rw [hf]
  refine ⟨?_, ?_, rfl, rfl, rfl, rfl, rfl, ?_⟩
  · show (if t = t then none else s.tables t) = none
    rw [if_pos rfl]
  · intro k hk
    show (if k = t then none else s.tables k) = s.tables k
    rw [if_neg hk]
  · intro A x hlt hx
    exact ddl_openTx_none ho hlt hx

/-- non-vacuity of the two: the directed script of the harness.  Transaction 3 has updated, deleted and
    inserted rows of table 0; `drop_table 0` is refused, the state is unchanged; after the rollback the drop
    is accepted. -/
example :
    let ops : List OpD := [.base (.createTable 2 []), .base (.insert 0 [1, 1]), .base (.insert 0 [2, 2]), .base (.insert 0 [3, 3]),
      .base .begin, .base (.txUpdate 3 0 (.idEq 0) [(0, 4)]), .base (.txDelete 3 0 (.idEq 1)), .base (.txInsert 3 0 [4, 4])]
    (dropTable (runD s0 ops) 0).2 = .err .lockConflict ∧
    ((runD s0 ops).txs 3).map (·.undo.length) = some 3 ∧
    (dropTable (runD s0 (ops ++ [.base (.rollback 3)])) 0).2 = .ok := by
  decide +kernel

/-! ## every script -/

/-- EVERY script of statements, `drop_table` and `create_table <name>` from the empty engine — any number of
    transactions, lock expiries, index DDL, sweeps —, every reachable state: every undo entry of every
    transaction known to the manager names a table that EXISTS.  (Before 6f865e8a a table could be dropped
    under a transaction that had written it: its rollback then found no table — `RollbackFailed` — or the
    rows of another table created under the name.) -/
theorem undo_entries_name_existing_tables (a b : Nat) (ops : List OpD) (A : Nat) (x : Tx)
    (hx : (runD (init a b) ops).txs A = some x) :
    ∀ u ∈ x.undo, ((runD (init a b) ops).tables u.table).isSome = true := by
  exact (ddl_di_runD (ddl_di_init a b) ops A x hx).2

/-- A ROLLBACK NEVER TOUCHES A TABLE CREATED AFTER THE TRANSACTION'S OWN WRITES UNDER THAT NAME.
    Every script `pre`, an accepted `create_table t`, every script `post` (statements of any transaction,
    further drops / creates included) in which transaction `A` itself issues no `tx_insert` / `tx_update` /
    `tx_delete` on `t`:
      (1) at the moment the table is created no transaction has an undo entry naming `t` — whatever any
          transaction did to an earlier table of that name is out of reach;
      (2) at the end `A`'s log still has none, and `A`'s rollback leaves table `t` — every row, every hash
          and b-tree index entry — exactly as it is.
    `A` may have begun before the table was created and may have written the EARLIER table of that name
    (then that table was dropped after `A`'s writes had been committed or rolled back — the guard).
    `drop_table_ignores_open_transaction_witness` shows both fail for the code before 6f865e8a. -/
theorem rollback_never_touches_table_created_after_own_writes (a b : Nat) (pre post : List OpD)
    (t n : Nat) (nl : List Nat) (A : Nat)
    (hc : (stepD (runD (init a b) pre) (.createTableAt t n nl)).2 = .ok)
    (hpost : ∀ op ∈ post, op.writesAs A t = false) :
    (∀ B x, (stepD (runD (init a b) pre) (.createTableAt t n nl)).1.txs B = some x → ∀ u ∈ x.undo, u.table ≠ t) ∧
    (∀ x, (runD (init a b) (pre ++ [.createTableAt t n nl] ++ post)).txs A = some x → ∀ u ∈ x.undo, u.table ≠ t) ∧
    (rollback (runD (init a b) (pre ++ [.createTableAt t n nl] ++ post)) A).1.tables t =
      (runD (init a b) (pre ++ [.createTableAt t n nl] ++ post)).tables t := by
  have hdi : ddl_DI (runD (init a b) pre) := ddl_di_runD (ddl_di_init a b) pre
  have hc' : (createTableAt (runD (init a b) pre) t n nl).2 = .ok := hc
  have h1 : ∀ B, ddl_NoName (stepD (runD (init a b) pre) (.createTableAt t n nl)).1 B t :=
    fun B => ddl_noName_of_created hdi hc' B
  have he : runD (init a b) (pre ++ [.createTableAt t n nl] ++ post) =
      runD (stepD (runD (init a b) pre) (.createTableAt t n nl)).1 post := by
    rw [runD_append, runD_append]; rfl
  have h2 : ddl_NoName (runD (init a b) (pre ++ [.createTableAt t n nl] ++ post)) A t := by
    rw [he]; exact ddl_noName_runD (h1 A) post hpost
  exact ⟨fun B x hx => h1 B x hx, h2, ddl_rollback_tables_of_noName h2⟩

/-- the control script of the harness: transaction 2 is open and has written table 1 only; table 0 — committed
    rows, nobody's uncommitted changes — is dropped -/
def recreateOps : List OpD := [.base (.createTable 2 []), .base (.insert 0 [1, 1]), .base (.createTable 2 []), .base (.insert 1 [1, 1]),
  .base .begin, .base (.txUpdate 2 1 .all [(0, 2)]), .dropTable 0]

/-- non-vacuity of `rollback_never_touches_table_created_after_own_writes`: transaction 2 is open and has
    written table 1; table 0 is dropped (accepted: nobody has uncommitted changes in it), created again and
    filled; transaction 2's rollback is `Ok`, restores table 1 and leaves the new table 0 alone -/
example :
    let post : List OpD := [.base (.insert 0 [5, 5]), .base (.txInsert 2 1 [7, 7])]
    (stepD (runD s0 recreateOps) (.createTableAt 0 2 [])).2 = .ok ∧
    (∀ op ∈ post, op.writesAs 2 0 = false) ∧
    gate (runD s0 (recreateOps ++ [.createTableAt 0 2 []] ++ post)) 2 = none ∧
    (rollback (runD s0 (recreateOps ++ [.createTableAt 0 2 []] ++ post)) 2).2 = .ok ∧
    ((rollback (runD s0 (recreateOps ++ [.createTableAt 0 2 []] ++ post)) 2).1.tables 0).map (scanAnswer · .all) = some [(0, [5, 5])] ∧
    ((rollback (runD s0 (recreateOps ++ [.createTableAt 0 2 []] ++ post)) 2).1.tables 1).map (scanAnswer · .all) = some [(0, [1, 1])] := by
  decide +kernel

/-! ## the code before 6f865e8a -/

/-- the directed script: transaction 3 updates row 0, deletes row 1 and inserts row 3 of table 0; the table
    is dropped and created again under its name; four rows are inserted and committed; transaction 3 rolls
    back -/
def dropUnderTx : List OpD := [.base (.createTable 2 []), .base (.insert 0 [1, 1]), .base (.insert 0 [2, 2]), .base (.insert 0 [3, 3]),
  .base .begin, .base (.txUpdate 3 0 (.idEq 0) [(0, 4)]), .base (.txDelete 3 0 (.idEq 1)), .base (.txInsert 3 0 [4, 4]),
  .dropTable 0, .createTableAt 0 2 [], .base (.insert 0 [5, 5]), .base (.insert 0 [5, 0]), .base (.insert 0 [0, 5]), .base (.insert 0 [3, 2])]

/-- WITNESS, the code before 6f865e8a (`dropTableOld` / `runDOld`: `drop_table` does not look at open
    transactions).  The drop and the re-creation are accepted; the new table holds the committed rows
    `[5,5] [5,0] [0,5] [3,2]`.  Transaction 3's rollback applies its undo entries — which name the table, not
    an incarnation — to the NEW table: committed row 0 is overwritten with the old table's `[1,1]`, committed
    row 3 is deleted (the undo of 3's insert), the undo of the delete fails on live row 1: `RollbackFailed`.
    Variant without re-creation: the rollback finds no table and fails.
    The code as it is now answers `LockConflict` to the drop, `TableAlreadyExists` to the create, and the
    rollback is `Ok` and restores the table the transaction wrote. -/
theorem drop_table_ignores_open_transaction_witness :
    runResDOld s0 (dropUnderTx ++ [.base (.rollback 3)]) =
      [.okN 0, .okN 0, .okN 1, .okN 2, .okN 3, .okN 1, .okN 1, .okN 3, .ok, .ok, .okN 0, .okN 1, .okN 2, .okN 3, .err .rollbackFailed] ∧
    ((runDOld s0 dropUnderTx).tables 0).map (scanAnswer · .all) = some [(0, [5, 5]), (1, [5, 0]), (2, [0, 5]), (3, [3, 2])] ∧
    ((runDOld s0 (dropUnderTx ++ [.base (.rollback 3)])).tables 0).map (scanAnswer · .all) = some [(0, [1, 1]), (1, [5, 0]), (2, [0, 5])] ∧
    -- the transaction's log names the re-created table when it is created: (1) of the theorem fails
    (((runDOld s0 (dropUnderTx.take 10)).txs 3).map fun x => x.undo.map (·.table)) = some [0, 0, 0] ∧
    -- variant: no re-creation, the rollback finds no table
    runResDOld s0 (dropUnderTx.take 9 ++ [.base (.rollback 3)]) =
      [.okN 0, .okN 0, .okN 1, .okN 2, .okN 3, .okN 1, .okN 1, .okN 3, .ok, .err .rollbackFailed] ∧
    -- the code as it is now
    runResD s0 (dropUnderTx ++ [.base (.rollback 3)]) =
      [.okN 0, .okN 0, .okN 1, .okN 2, .okN 3, .okN 1, .okN 1, .okN 3, .err .lockConflict, .err .tableExists,
       .okN 4, .okN 5, .okN 6, .okN 7, .ok] ∧
    ((runD s0 (dropUnderTx ++ [.base (.rollback 3)])).tables 0).map (scanAnswer · .all) =
      some [(0, [1, 1]), (1, [2, 2]), (2, [3, 3]), (4, [5, 5]), (5, [5, 0]), (6, [0, 5]), (7, [3, 2])] := by
  decide +kernel

/-! ## 6992261a: the in-memory b-tree maps go with the table -/

/-- EVERY state, every schema, every batch of rows, every column and condition: after an accepted `drop_table t`
    and `create_table t`, rows appended to the new table and a b-tree (or hash) index created on it answer every
    index-served query exactly as the full scan does — nothing of the dropped table is left under the name. -/
theorem recreated_table_index_answers_exact (s : State) (t n : Nat) (nl : List Nat) (rows : List (List Val)) (c : Nat)
    (hd : (dropTable s t).2 = .ok) (T : Table) (cond : Cond) :
    ((createTableAt (dropTable s t).1 t n nl).1.tables t = some (emptyTable n nl)) ∧
    ((createBtree (batchInsert (createTableAt (dropTable s t).1 t n nl).1 t rows).1 t c).1.tables t = some T →
      select T cond = scanAnswer T cond) ∧
    ((createIndex (batchInsert (createTableAt (dropTable s t).1 t n nl).1 t rows).1 t c).1.tables t = some T →
      select T cond = scanAnswer T cond) := by
  have h0 := ddl_recreate_tables hd n nl
  refine ⟨h0, ?_, ?_⟩
  · intro hT
    obtain ⟨T1, h1, hI⟩ := ddl_idxExact_batchInsert h0 (idxExact_empty n nl) rows
    exact select_eq_scan T (ddl_idxExact_createBtree h1 hI c T hT) cond
  · intro hT
    obtain ⟨T1, h1, hI⟩ := ddl_idxExact_batchInsert h0 (idxExact_empty n nl) rows
    exact select_eq_scan T (ddl_idxExact_createIndex h1 hI c T hT) cond

/-- table 0 with a b-tree index on column 0 and the rows `[1,1]`, `[2,2]` -/
def sBtree : State := run s0 [.createTable 2 [], .createBtree 0 0, .insert 0 [1, 1], .insert 0 [2, 2]]

/-- non-vacuity: the drop is accepted, the new table gets `[5,5]` and a b-tree index on column 0;
    `c0 >= 0` through the index is the one row -/
example :
    (dropTable sBtree 0).2 = .ok ∧
    ((createBtree (batchInsert (createTableAt (dropTable sBtree 0).1 0 2 []).1 0 [[5, 5]]).1 0 0).1.tables 0).map (select · (.ge 0 0)) =
      some [(0, [5, 5])] := by
  decide +kernel

/-- WITNESS, the code before 6992261a (`dropTableKeepsBtreeOld` / `createTableOver`): the tree of the dropped
    table — keys 1 and 2 for row ids 0 and 1 — is still filed under the table name.  The new table's row 0 =
    `[5,5]` is not indexed when it is inserted (the b-tree META key went with the old table), then
    `create_btree_index` adds its key 5 on top of the stale tree: `c0 >= 0` answered through the index returns
    row 0 TWICE (once for the stale key 1, once for key 5), the full scan once. -/
theorem drop_table_keeps_btree_map_witness :
    (dropTableKeepsBtreeOld sBtree 0).2 = (.ok, [(0, 1, 0), (0, 2, 1)]) ∧
    (let s1 := (createTableOver (dropTableKeepsBtreeOld sBtree 0).1 0 2 [] (dropTableKeepsBtreeOld sBtree 0).2.2).1
     let s2 := (createBtree (insert s1 0 [5, 5]).1 0 0).1
     (s2.tables 0).map (select · (.ge 0 0)) = some [(0, [5, 5]), (0, [5, 5])] ∧
     (s2.tables 0).map (scanAnswer · (.ge 0 0)) = some [(0, [5, 5])]) := by
  decide +kernel

end Neumann.RelTx.Props4
