import NeumannModel.RelTx.Lemmas
/-
  C09 — the bookkeeping invariant of the row-lock table over ALL statement sequences (no calm
  hypothesis: lock expiries, takeovers, lock sweeps and transaction sweeps anywhere):

    * `idx`   every lock in the table is listed in the key list of its owner (`LockIdx`),
    * `live`  the owner of every lock in the table is a transaction the manager still has
              (commit / rollback / cleanup_expired take a transaction out of the map only after
              `release` has walked its key list — which finds every lock of it because of `idx`),
    * `bound` every transaction in the map was handed out by `begin` (id below the counter), so the
              transaction sweep, which walks the ids below the counter, sees every timed-out one,
    * `listed` a transaction that is not in the map has an empty key list (`locks_held_by` = 0).

  `Moves.lockInv`: preserved by every statement, in particular by `cleanup_expired_locks`, which must
  take out of an owner's key list exactly the keys of the locks it removes.
-/
namespace Neumann.RelTx

structure LockInv (s : State) : Prop where
  idx : LockIdx s
  live : ∀ t i l, s.locks t i = some l → s.txs l.tx ≠ none
  bound : ∀ k, s.txs k ≠ none → k < s.nextTx
  listed : ∀ k, s.txs k = none → s.txLocks k = []

theorem lockInv_init (a b : Nat) : LockInv (init a b) :=
  ⟨lockIdx_init a b, by intro t i l h; simp [init] at h, by intro k h; simp [init] at h, fun _ _ => rfl⟩

/-- a statement part that leaves lock table, key lists, the SET of known transactions and the id
    counter alone -/
theorem lockInv_frame {s s' : State} (hl : s'.locks = s.locks) (ht : s'.txLocks = s.txLocks)
    (hx : ∀ k, s'.txs k = none ↔ s.txs k = none) (hn : s'.nextTx = s.nextTx) (h : LockInv s) : LockInv s' := by
  refine ⟨lockIdx_congr hl ht h.idx, ?_, ?_, ?_⟩
  · intro t i l hl' hnone
    rw [hl] at hl'
    exact h.live t i l hl' ((hx _).1 hnone)
  · intro k hk
    rw [hn]
    exact h.bound k (fun hnone => hk ((hx k).2 hnone))
  · intro k hk
    rw [ht]
    exact h.listed k ((hx k).1 hk)

theorem lockInv_lockAll {s : State} (h : LockInv s) {tx : Nat} (htx : s.txs tx ≠ none) (t : Nat) (rows : List Nat) :
    LockInv (lockAll s tx t rows) := by
  refine ⟨lockIdx_lockAll h.idx tx t rows, ?_, fun k hk => h.bound k hk, ?_⟩
  · intro t' i l hl
    simp only [lockAll] at hl
    split at hl
    · injection hl with hl
      subst hl
      exact htx
    · exact h.live t' i l hl
  · intro k hk
    have hk' : s.txs k = none := hk
    have hne : k ≠ tx := fun e => htx (e ▸ hk')
    show (if k = tx then s.txLocks tx ++ rows.map (fun i => (t, i)) else s.txLocks k) = []
    rw [if_neg hne]
    exact h.listed k hk'

theorem lockInv_endTx {s : State} (h : LockInv s) (A : Nat) : LockInv (setTx (release s A) A none) := by
  have hc := release_clears h.idx A
  refine ⟨lockIdx_congr rfl rfl (lockIdx_release h.idx A), ?_, ?_, ?_⟩
  · intro t i l hl
    have hl' : (release s A).locks t i = some l := hl
    have hne : l.tx ≠ A := hc.1 t i l hl'
    have h0 := (release_locks_some hl').1
    simp only [setTx_txs, release_txs, if_neg hne]
    exact h.live t i l h0
  · intro k hk
    show k < s.nextTx
    apply h.bound k
    intro hnone
    apply hk
    simp only [setTx_txs, release_txs]
    split
    · rfl
    · exact hnone
  · intro k hk
    show (if k = A then [] else s.txLocks k) = []
    split
    · rfl
    · rename_i hne
      simp only [setTx_txs, release_txs, if_neg hne] at hk
      exact h.listed k hk

theorem lockInv_begin {s : State} (h : LockInv s) : LockInv (begin s).1 := by
  refine ⟨lockIdx_congr rfl rfl h.idx, ?_, ?_, ?_⟩
  · intro t i l hl
    have hlive : s.txs l.tx ≠ none := h.live t i l hl
    rw [begin_txs]
    split
    · simp
    · exact hlive
  · intro k hk
    show k < s.nextTx + 1
    rw [begin_txs] at hk
    by_cases e : k = s.nextTx
    · omega
    · rw [if_neg e] at hk
      exact Nat.lt_succ_of_lt (h.bound k hk)
  · intro k hk
    rw [begin_txs] at hk
    show s.txLocks k = []
    by_cases e : k = s.nextTx
    · rw [if_pos e] at hk; cases hk
    · rw [if_neg e] at hk; exact h.listed k hk

/-- the lock sweep: a lock that stays was there before, and `lockIdx_cleanupLocks` — the sweep takes
    out of an owner's list only the keys of the locks it removes — keeps it listed -/
theorem lockInv_cleanupLocks {s : State} (h : LockInv s) : LockInv (cleanupLocks s).1 := by
  refine ⟨lockIdx_cleanupLocks h.idx, ?_, fun k hk => h.bound k hk, ?_⟩
  · intro t i l hl
    simp only [cleanupLocks] at hl
    split at hl
    · cases hl
    · exact h.live t i l hl
  · intro k hk
    have hk' : s.txs k = none := hk
    simp only [cleanupLocks, h.listed k hk', List.filter_nil]

theorem foldl_release_clears {s : State} (h : LockIdx s) {k : Nat} {ids : List Nat} (hk : k ∈ ids) :
    ∀ t i l, (ids.foldl release s).locks t i = some l → l.tx ≠ k := by
  induction ids generalizing s with
  | nil => cases hk
  | cons j rest ih =>
    intro t i l hl
    rcases List.mem_cons.1 hk with e | hin
    · subst e
      exact (release_clears h k).1 t i l (foldl_release_sub rest (release s k) hl)
    · exact ih (lockIdx_release h j) hin t i l hl

theorem foldl_release_txLocks_nil (ids : List Nat) (s : State) {k : Nat} (h : s.txLocks k = []) :
    (ids.foldl release s).txLocks k = [] := by
  induction ids generalizing s with
  | nil => exact h
  | cons j rest ih =>
    apply ih (release s j)
    show (if k = j then [] else s.txLocks k) = []
    split
    · rfl
    · exact h

theorem foldl_release_txLocks_mem {ids : List Nat} (s : State) {k : Nat} (hk : k ∈ ids) :
    (ids.foldl release s).txLocks k = [] := by
  induction ids generalizing s with
  | nil => cases hk
  | cons j rest ih =>
    rcases List.mem_cons.1 hk with e | hin
    · subst e
      exact foldl_release_txLocks_nil rest (release s k) (by simp [release])
    · exact ih (release s j) hin

/-- the transaction sweep: every timed-out transaction is below the counter (`bound`), so it is
    released before it leaves the map -/
theorem lockInv_cleanupTxs {s : State} (h : LockInv s) : LockInv (cleanupTxs s).1 := by
  have hmem : ∀ k, s.txs k ≠ none → txExpired s k = true → k ∈ (List.range s.nextTx).filter (txExpired s) :=
    fun k hk he => List.mem_filter.2 ⟨List.mem_range.2 (h.bound k hk), he⟩
  refine ⟨lockIdx_congr rfl rfl (lockIdx_foldl_release h.idx _), ?_, ?_, ?_⟩
  · intro t i l hl
    have hl' : (((List.range s.nextTx).filter (txExpired s)).foldl release s).locks t i = some l := hl
    have hlive := h.live t i l (foldl_release_sub _ s hl')
    rw [cleanupTxs_txs]
    by_cases he : txExpired s l.tx = true
    · exact absurd rfl (foldl_release_clears h.idx (hmem _ hlive he) t i l hl')
    · rw [if_neg he]
      exact hlive
  · intro k hk
    show k < (List.foldl release s _).nextTx
    rw [foldlRelease_nextTx]
    apply h.bound k
    intro hnone
    apply hk
    rw [cleanupTxs_txs, hnone]
    split <;> rfl
  · intro k hk
    rw [cleanupTxs_txs] at hk
    show (((List.range s.nextTx).filter (txExpired s)).foldl release s).txLocks k = []
    by_cases he : txExpired s k = true
    · have hsome : s.txs k ≠ none := by
        intro hn
        simp [txExpired, hn] at he
      exact foldl_release_txLocks_mem s (hmem k hsome he)
    · rw [if_neg he] at hk
      exact foldl_release_txLocks_nil _ s (h.listed k hk)

theorem Moves.lockInv {E : Nat → Prop} {s s' : State} (h : Moves E s s') : LockInv s → LockInv s' := by
  induction h with
  | frame hf => exact lockInv_frame hf.locks hf.txLocks hf.txs_none hf.nextTx
  | lock htx => exact fun h => lockInv_lockAll h htx _ _
  | start => exact lockInv_begin
  | finish => exact fun h => lockInv_endTx h _
  | sweepLocks => exact lockInv_cleanupLocks
  | sweepTxs => exact lockInv_cleanupTxs
  | newTable => exact lockInv_frame rfl rfl (fun _ => Iff.rfl) rfl
  | trans _ _ ih1 ih2 => exact fun h => ih2 (ih1 h)

theorem lockInv_run {s : State} (h : LockInv s) (ops : List Op) : LockInv (run s ops) :=
  run_of_moves Moves.lockInv (fun s _ h => lockInv_frame (s := s) rfl rfl (fun _ => Iff.rfl) rfl h) h ops

end Neumann.RelTx
