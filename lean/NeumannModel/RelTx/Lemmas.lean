import NeumannModel.RelTx.Model
/-
  C09 — the shape of every statement (an error and the unchanged state, or a spelt-out composition), `Frame`
  (the parts that write tables and undo logs only) and `Moves` (what a statement does besides): an invariant of
  the lock table, the key lists, the clock or the manager's map is proved by showing that every move keeps it.
-/
namespace Neumann.RelTx

@[simp] theorem setTable_txs (s : State) (t : Nat) (T : Table) : (setTable s t T).txs = s.txs := rfl
@[simp] theorem setTable_nextTx (s : State) (t : Nat) (T : Table) : (setTable s t T).nextTx = s.nextTx := rfl
@[simp] theorem setTable_locks (s : State) (t : Nat) (T : Table) : (setTable s t T).locks = s.locks := rfl
@[simp] theorem setTable_txLocks (s : State) (t : Nat) (T : Table) : (setTable s t T).txLocks = s.txLocks := rfl
@[simp] theorem setTable_now (s : State) (t : Nat) (T : Table) : (setTable s t T).now = s.now := rfl
@[simp] theorem setTable_lockTimeout (s : State) (t : Nat) (T : Table) : (setTable s t T).lockTimeout = s.lockTimeout := rfl
@[simp] theorem setTable_tables (s : State) (t : Nat) (T : Table) (k : Nat) :
    (setTable s t T).tables k = if k = t then some T else s.tables k := rfl

@[simp] theorem setTx_tables (s : State) (i : Nat) (x : Option Tx) : (setTx s i x).tables = s.tables := rfl
@[simp] theorem setTx_nextTx (s : State) (i : Nat) (x : Option Tx) : (setTx s i x).nextTx = s.nextTx := rfl
@[simp] theorem setTx_locks (s : State) (i : Nat) (x : Option Tx) : (setTx s i x).locks = s.locks := rfl
@[simp] theorem setTx_txLocks (s : State) (i : Nat) (x : Option Tx) : (setTx s i x).txLocks = s.txLocks := rfl
@[simp] theorem setTx_now (s : State) (i : Nat) (x : Option Tx) : (setTx s i x).now = s.now := rfl
@[simp] theorem setTx_lockTimeout (s : State) (i : Nat) (x : Option Tx) : (setTx s i x).lockTimeout = s.lockTimeout := rfl
@[simp] theorem setTx_txs (s : State) (i : Nat) (x : Option Tx) (k : Nat) :
    (setTx s i x).txs k = if k = i then x else s.txs k := rfl

@[simp] theorem recordUndo_tables (s : State) (tx : Nat) (u : Undo) : (recordUndo s tx u).tables = s.tables := by
  unfold recordUndo; split <;> rfl
@[simp] theorem recordUndo_nextTx (s : State) (tx : Nat) (u : Undo) : (recordUndo s tx u).nextTx = s.nextTx := by
  unfold recordUndo; split <;> rfl
@[simp] theorem recordUndo_locks (s : State) (tx : Nat) (u : Undo) : (recordUndo s tx u).locks = s.locks := by
  unfold recordUndo; split <;> rfl
@[simp] theorem recordUndo_txLocks (s : State) (tx : Nat) (u : Undo) : (recordUndo s tx u).txLocks = s.txLocks := by
  unfold recordUndo; split <;> rfl
@[simp] theorem recordUndo_now (s : State) (tx : Nat) (u : Undo) : (recordUndo s tx u).now = s.now := by
  unfold recordUndo; split <;> rfl
@[simp] theorem recordUndo_lockTimeout (s : State) (tx : Nat) (u : Undo) :
    (recordUndo s tx u).lockTimeout = s.lockTimeout := by
  unfold recordUndo; split <;> rfl
theorem recordUndo_txs_none (s : State) (tx : Nat) (u : Undo) (k : Nat) :
    (recordUndo s tx u).txs k = none ↔ s.txs k = none := by
  unfold recordUndo
  split
  · rename_i x hx
    simp only [setTx_txs]
    split
    · subst_vars; simp [hx]
    · rfl
  · rfl

@[simp] theorem lockAll_tables (s : State) (tx t : Nat) (rows : List Nat) : (lockAll s tx t rows).tables = s.tables := rfl
@[simp] theorem lockAll_txs (s : State) (tx t : Nat) (rows : List Nat) : (lockAll s tx t rows).txs = s.txs := rfl
@[simp] theorem lockAll_nextTx (s : State) (tx t : Nat) (rows : List Nat) : (lockAll s tx t rows).nextTx = s.nextTx := rfl
@[simp] theorem lockAll_now (s : State) (tx t : Nat) (rows : List Nat) : (lockAll s tx t rows).now = s.now := rfl
@[simp] theorem lockAll_lockTimeout (s : State) (tx t : Nat) (rows : List Nat) :
    (lockAll s tx t rows).lockTimeout = s.lockTimeout := rfl

@[simp] theorem release_tables (s : State) (tx : Nat) : (release s tx).tables = s.tables := rfl
@[simp] theorem release_txs (s : State) (tx : Nat) : (release s tx).txs = s.txs := rfl
@[simp] theorem release_nextTx (s : State) (tx : Nat) : (release s tx).nextTx = s.nextTx := rfl
@[simp] theorem release_now (s : State) (tx : Nat) : (release s tx).now = s.now := rfl
@[simp] theorem release_lockTimeout (s : State) (tx : Nat) : (release s tx).lockTimeout = s.lockTimeout := rfl

theorem begin_txs (s : State) (k : Nat) :
    (begin s).1.txs k = if k = s.nextTx then some { phase := .active, startedAt := s.now, undo := [] } else s.txs k := rfl

theorem foldl_release_eq (ids : List Nat) (s : State) :
    ids.foldl release s = { s with locks := (ids.foldl release s).locks, txLocks := (ids.foldl release s).txLocks } := by
  induction ids generalizing s with
  | nil => rfl
  | cons i rest ih => exact ih (release s i)

theorem foldlRelease_txs (ids : List Nat) (s : State) : (ids.foldl release s).txs = s.txs := by
  rw [foldl_release_eq]
theorem foldlRelease_nextTx (ids : List Nat) (s : State) : (ids.foldl release s).nextTx = s.nextTx := by
  rw [foldl_release_eq]
theorem foldlRelease_tables (ids : List Nat) (s : State) : (ids.foldl release s).tables = s.tables := by
  rw [foldl_release_eq]
theorem foldlRelease_ntables (ids : List Nat) (s : State) : (ids.foldl release s).ntables = s.ntables := by
  rw [foldl_release_eq]
theorem foldlRelease_now (ids : List Nat) (s : State) : (ids.foldl release s).now = s.now := by
  rw [foldl_release_eq]
theorem foldlRelease_lockTimeout (ids : List Nat) (s : State) : (ids.foldl release s).lockTimeout = s.lockTimeout := by
  rw [foldl_release_eq]

theorem cleanupTxs_txs (s : State) (k : Nat) : (cleanupTxs s).1.txs k = if txExpired s k then none else s.txs k := by
  show (if txExpired s k then none else (List.foldl release s _).txs k) = _
  rw [foldlRelease_txs]

theorem gate_none {s : State} {A : Nat} (hg : gate s A = none) : ∃ x, s.txs A = some x ∧ x.phase = .active := by
  unfold gate at hg
  split at hg
  · cases hg
  · rename_i x hx
    split at hg
    · rename_i ha; exact ⟨x, hx, ha⟩
    · cases hg

theorem gate_of_active {s : State} {A : Nat} {x : Tx} (hx : s.txs A = some x) (ha : x.phase = .active) :
    gate s A = none := by
  simp only [gate, hx, ha, ↓reduceIte]

theorem refused_of_gate {s : State} {tx : Nat} {e : Err} (hg : gate s tx = some e) :
    commit s tx = (s, .err e) ∧ rollback s tx = (s, .err e) ∧
    (∀ t vals, txInsert s tx t vals = (s, .err e)) ∧
    (∀ t c upd, txUpdate s tx t c upd = (s, .err e)) ∧
    (∀ t c, txDelete s tx t c = (s, .err e)) ∧
    (∀ t c, txSelect s tx t c = .err e) := by
  refine ⟨?_, ?_, ?_, ?_, ?_, ?_⟩
  · unfold commit; rw [hg]
  · unfold rollback; rw [hg]
  · intro t vals; unfold txInsert; rw [hg]
  · intro t c upd; unfold txUpdate; rw [hg]
  · intro t c; unfold txDelete; rw [hg]
  · intro t c; unfold txSelect; rw [hg]

theorem commit_form {s : State} {A : Nat} (hg : gate s A = none) : commit s A = (setTx (release s A) A none, .ok) := by
  unfold commit
  rw [hg]

theorem commit_cases (s : State) (A : Nat) :
    (∃ e, commit s A = (s, .err e)) ∨ (gate s A = none ∧ commit s A = (setTx (release s A) A none, .ok)) := by
  cases hg : gate s A with
  | some e => exact Or.inl ⟨e, (refused_of_gate hg).1⟩
  | none => exact Or.inr ⟨rfl, commit_form hg⟩

theorem rollback_form {s : State} {A : Nat} {x : Tx} (hg : gate s A = none) (hx : s.txs A = some x) :
    rollback s A = (setTx (release (x.undo.reverse.foldl applyUndo (s, 0)).1 A) A none,
      if (x.undo.reverse.foldl applyUndo (s, 0)).2 = 0 then .ok else .err .rollbackFailed) := by
  unfold rollback
  rw [hg]
  simp only [hx]

theorem rollback_cases (s : State) (A : Nat) :
    (∃ e, rollback s A = (s, .err e)) ∨
    ∃ x, gate s A = none ∧ s.txs A = some x ∧
      rollback s A = (setTx (release (x.undo.reverse.foldl applyUndo (s, 0)).1 A) A none,
        if (x.undo.reverse.foldl applyUndo (s, 0)).2 = 0 then .ok else .err .rollbackFailed) := by
  cases hg : gate s A with
  | some e => exact Or.inl ⟨e, (refused_of_gate hg).2.1⟩
  | none =>
    obtain ⟨x, hx, _⟩ := gate_none hg
    exact Or.inr ⟨x, rfl, hx, rollback_form hg hx⟩

theorem finishAuto_cases (p : State × Res) (I : Nat) :
    (finishAuto p I).1 = (rollback p.1 I).1 ∨ (finishAuto p I).1 = (commit p.1 I).1 := by
  unfold finishAuto
  split
  · exact Or.inl rfl
  · exact Or.inr rfl

/-- the table `tx_insert` leaves -/
def insertT (T : Table) (vals : List Val) : Table :=
  { T with rows := T.rows ++ [{ alive := true, vals := vals }]
           hashE := T.hashOn.foldl (fun es c => idxAdd (c, val vals c, T.rows.length) es) T.hashE
           btreeE := T.btreeOn.foldl (fun es c => idxAdd (c, val vals c, T.rows.length) es) T.btreeE }

theorem txInsert_cases (s : State) (A t : Nat) (vals : List Val) :
    (∃ e, txInsert s A t vals = (s, .err e)) ∨
    ∃ T, gate s A = none ∧ s.tables t = some T ∧ rowBad T vals = false ∧
      txInsert s A t vals =
        (recordUndo (setTable (if lockBlocked s A t [T.rows.length] then s else lockAll s A t [T.rows.length]) t
            (insertT T vals)) A (.inserted t T.rows.length ((T.hashOn ++ T.btreeOn).map fun c => (c, val vals c))),
          .okN T.rows.length) := by
  cases hg : gate s A with
  | some e => exact Or.inl ⟨e, (refused_of_gate hg).2.2.1 t vals⟩
  | none =>
    cases hT : s.tables t with
    | none => exact Or.inl ⟨.tableNotFound, by unfold txInsert; rw [hg]; simp only [hT]⟩
    | some T =>
      cases hb : rowBad T vals with
      | true => exact Or.inl ⟨.badInput, by unfold txInsert; rw [hg]; simp only [hT, hb, ↓reduceIte]⟩
      | false =>
        refine Or.inr ⟨T, rfl, rfl, hb, ?_⟩
        unfold txInsert
        rw [hg]
        simp only [hT, hb, Bool.false_eq_true, ↓reduceIte]
        rfl

theorem txUpdate_cases (s : State) (A t : Nat) (cond : Cond) (upd : List (Nat × Val)) :
    (∃ e, txUpdate s A t cond upd = (s, .err e)) ∨
    ∃ T, gate s A = none ∧ s.tables t = some T ∧ updBad T upd = false ∧
      lockBlocked s A t (matching T cond) = false ∧
      txUpdate s A t cond upd = ((matching T cond).foldl (updateRow A t upd)
        (if (matching T cond).isEmpty then s else lockAll s A t (matching T cond)), .okN (matching T cond).length) := by
  cases hg : gate s A with
  | some e => exact Or.inl ⟨e, (refused_of_gate hg).2.2.2.1 t cond upd⟩
  | none =>
    cases hT : s.tables t with
    | none => exact Or.inl ⟨.tableNotFound, by unfold txUpdate; rw [hg]; simp only [hT]⟩
    | some T =>
      cases hu : updBad T upd with
      | true => exact Or.inl ⟨updErr T upd, by unfold txUpdate; rw [hg]; simp only [hT, hu, ↓reduceIte]⟩
      | false =>
        cases hb : lockBlocked s A t (matching T cond) with
        | true =>
          exact Or.inl ⟨.lockConflict, by unfold txUpdate; rw [hg]; simp only [hT, hu, hb, Bool.false_eq_true, ↓reduceIte]⟩
        | false =>
          refine Or.inr ⟨T, rfl, rfl, hu, hb, ?_⟩
          unfold txUpdate
          rw [hg]
          simp only [hT, hu, hb, Bool.false_eq_true, ↓reduceIte]

theorem txDelete_cases (s : State) (A t : Nat) (cond : Cond) :
    (∃ e, txDelete s A t cond = (s, .err e)) ∨
    ∃ T, gate s A = none ∧ s.tables t = some T ∧ lockBlocked s A t (matching T cond) = false ∧
      txDelete s A t cond = ((matching T cond).foldl (deleteRow A t)
        (if (matching T cond).isEmpty then s else lockAll s A t (matching T cond)), .okN (matching T cond).length) := by
  cases hg : gate s A with
  | some e => exact Or.inl ⟨e, (refused_of_gate hg).2.2.2.2.1 t cond⟩
  | none =>
    cases hT : s.tables t with
    | none => exact Or.inl ⟨.tableNotFound, by unfold txDelete; rw [hg]; simp only [hT]⟩
    | some T =>
      cases hb : lockBlocked s A t (matching T cond) with
      | true => exact Or.inl ⟨.lockConflict, by unfold txDelete; rw [hg]; simp only [hT, hb, ↓reduceIte]⟩
      | false =>
        refine Or.inr ⟨T, rfl, rfl, hb, ?_⟩
        unfold txDelete
        rw [hg]
        simp only [hT, hb, Bool.false_eq_true, ↓reduceIte]

theorem txUpdate_ok_form {s : State} {A t n : Nat} {cond : Cond} {upd : List (Nat × Val)} {T : Table}
    (hT : s.tables t = some T) (hok : (txUpdate s A t cond upd).2 = .okN n) :
    lockBlocked s A t (matching T cond) = false ∧
    (txUpdate s A t cond upd).1 = (matching T cond).foldl (updateRow A t upd)
      (if (matching T cond).isEmpty then s else lockAll s A t (matching T cond)) := by
  rcases txUpdate_cases s A t cond upd with ⟨e, h⟩ | ⟨T', _, hT', _, hb, h⟩
  · rw [h] at hok; cases hok
  · rw [hT] at hT'; cases hT'
    exact ⟨hb, by rw [h]⟩

theorem txDelete_ok_form {s : State} {A t n : Nat} {cond : Cond} {T : Table}
    (hT : s.tables t = some T) (hok : (txDelete s A t cond).2 = .okN n) :
    lockBlocked s A t (matching T cond) = false ∧
    (txDelete s A t cond).1 = (matching T cond).foldl (deleteRow A t)
      (if (matching T cond).isEmpty then s else lockAll s A t (matching T cond)) := by
  rcases txDelete_cases s A t cond with ⟨e, h⟩ | ⟨T', _, hT', hb, h⟩
  · rw [h] at hok; cases hok
  · rw [hT] at hT'; cases hT'
    exact ⟨hb, by rw [h]⟩

theorem insert_cases (s : State) (t : Nat) (vals : List Val) :
    (∃ e, insert s t vals = (s, .err e)) ∨
    insert s t vals = finishAuto (txInsert (begin s).1 (begin s).2 t vals) (begin s).2 := by
  unfold insert
  split
  · exact Or.inl ⟨_, rfl⟩
  · split
    · exact Or.inl ⟨_, rfl⟩
    · exact Or.inr rfl

theorem update_cases (s : State) (t : Nat) (cond : Cond) (upd : List (Nat × Val)) :
    (∃ e, update s t cond upd = (s, .err e)) ∨
    update s t cond upd = finishAuto (txUpdate (begin s).1 (begin s).2 t cond upd) (begin s).2 := by
  unfold update
  split
  · exact Or.inl ⟨_, rfl⟩
  · split
    · exact Or.inl ⟨_, rfl⟩
    · exact Or.inr rfl

theorem delete_cases (s : State) (t : Nat) (cond : Cond) :
    (∃ e, delete s t cond = (s, .err e)) ∨
    delete s t cond = finishAuto (txDelete (begin s).1 (begin s).2 t cond) (begin s).2 := by
  unfold delete
  split
  · exact Or.inl ⟨_, rfl⟩
  · exact Or.inr rfl

theorem batchInsert_cases (s : State) (t : Nat) (rows : List (List Val)) :
    (∃ e, batchInsert s t rows = (s, .err e)) ∨ (rows = [] ∧ batchInsert s t rows = (s, .okN 0)) ∨
    ∃ T, s.tables t = some T ∧ rows.any (rowBad T) = false ∧
      batchInsert s t rows = (setTable s t (rows.foldl insertRow T), .okN rows.length) := by
  unfold batchInsert
  cases rows with
  | nil => exact Or.inr (Or.inl ⟨rfl, rfl⟩)
  | cons v rest =>
    cases hT : s.tables t with
    | none => exact Or.inl ⟨_, rfl⟩
    | some T =>
      cases hb : (v :: rest).any (rowBad T) with
      | true => exact Or.inl ⟨.badInput, by simp only [List.isEmpty_cons, Bool.false_eq_true, ↓reduceIte, hb]⟩
      | false =>
        exact Or.inr (Or.inr ⟨T, rfl, hb, by simp only [List.isEmpty_cons, Bool.false_eq_true, ↓reduceIte, hb]⟩)

theorem batchInsert_form (s : State) (t : Nat) (rows : List (List Val)) :
    (batchInsert s t rows).1 = s ∨
    ∃ T, s.tables t = some T ∧ rows.any (rowBad T) = false ∧
      (batchInsert s t rows).1 = setTable s t (rows.foldl insertRow T) := by
  rcases batchInsert_cases s t rows with ⟨e, h⟩ | ⟨_, h⟩ | ⟨T, hT, hb, h⟩ <;> rw [h]
  · exact Or.inl rfl
  · exact Or.inl rfl
  · exact Or.inr ⟨T, hT, hb, rfl⟩

theorem foldl_insertRow (rows : List (List Val)) (T : Table) :
    (rows.foldl insertRow T).rows = T.rows ++ rows.map (fun v => { alive := true, vals := v }) ∧
    (rows.foldl insertRow T).ncols = T.ncols ∧ (rows.foldl insertRow T).hashOn = T.hashOn ∧
    (rows.foldl insertRow T).btreeOn = T.btreeOn ∧ (rows.foldl insertRow T).nullable = T.nullable := by
  induction rows generalizing T with
  | nil => simp
  | cons v rest ih =>
    have h := ih (insertRow T v)
    simp only [List.foldl_cons, List.map_cons]
    refine ⟨?_, h.2.1, h.2.2.1, h.2.2.2.1, h.2.2.2.2⟩
    rw [h.1]
    simp [insertRow]

/-- index DDL and `batch_insert`: nothing, or one table replaced by one with at least as many rows -/
def TableWrite (s : State) (t : Nat) (s' : State) : Prop :=
  s' = s ∨ ∃ T T', s.tables t = some T ∧ T.rows.length ≤ T'.rows.length ∧ s' = setTable s t T'

theorem createIndex_write (s : State) (t c : Nat) : TableWrite s t (createIndex s t c).1 := by
  unfold createIndex
  cases hT : s.tables t with
  | none => exact Or.inl rfl
  | some T =>
    dsimp only
    by_cases h1 : c ≥ T.ncols
    · rw [if_pos h1]; exact Or.inl rfl
    · rw [if_neg h1]
      by_cases h2 : c ∈ T.hashOn
      · rw [if_pos h2]; exact Or.inl rfl
      · rw [if_neg h2]
        exact Or.inr ⟨T, _, hT, by exact Nat.le_refl _, rfl⟩

theorem createBtree_write (s : State) (t c : Nat) : TableWrite s t (createBtree s t c).1 := by
  unfold createBtree
  cases hT : s.tables t with
  | none => exact Or.inl rfl
  | some T =>
    dsimp only
    by_cases h1 : c ≥ T.ncols
    · rw [if_pos h1]; exact Or.inl rfl
    · rw [if_neg h1]
      by_cases h2 : c ∈ T.btreeOn
      · rw [if_pos h2]; exact Or.inl rfl
      · rw [if_neg h2]
        exact Or.inr ⟨T, _, hT, by exact Nat.le_refl _, rfl⟩

theorem dropIndex_write (s : State) (t c : Nat) : TableWrite s t (dropIndex s t c).1 := by
  unfold dropIndex
  split
  · exact Or.inl rfl
  · rename_i T hT
    split
    · refine Or.inr ⟨T, _, hT, ?_, rfl⟩
      exact Nat.le_refl _
    · exact Or.inl rfl

theorem dropBtree_write (s : State) (t c : Nat) : TableWrite s t (dropBtree s t c).1 := by
  unfold dropBtree
  split
  · exact Or.inl rfl
  · rename_i T hT
    split
    · refine Or.inr ⟨T, _, hT, ?_, rfl⟩
      exact Nat.le_refl _
    · exact Or.inl rfl

theorem batchInsert_write (s : State) (t : Nat) (rows : List (List Val)) : TableWrite s t (batchInsert s t rows).1 := by
  rcases batchInsert_form s t rows with h | ⟨T, hT, _, h⟩
  · exact Or.inl h
  · refine Or.inr ⟨T, _, hT, ?_, h⟩
    rw [(foldl_insertRow rows T).1, List.length_append]
    exact Nat.le_add_right _ _

theorem mem_matching {T : Table} {cond : Cond} {i : Nat} :
    i ∈ matching T cond ↔ ∃ r, T.rows[i]? = some r ∧ r.alive = true ∧ evalCond cond i r.vals = true := by
  unfold matching
  rw [List.mem_filter, List.mem_range]
  constructor
  · rintro ⟨_, h⟩
    split at h
    · rename_i r hr
      rw [Bool.and_eq_true] at h
      exact ⟨r, hr, h.1, h.2⟩
    · cases h
  · rintro ⟨r, hr, ha, he⟩
    refine ⟨(List.getElem?_eq_some_iff.1 hr).1, ?_⟩
    rw [hr]
    dsimp only
    rw [ha, he]; rfl

theorem matching_lt {T : Table} {cond : Cond} {i : Nat} (h : i ∈ matching T cond) : i < T.rows.length :=
  List.mem_range.1 (List.mem_filter.1 h).1

theorem holder_some {s : State} {t i A : Nat} (h : holder s t i = some A) :
    ∃ l, s.locks t i = some l ∧ l.tx = A ∧ l.expired s.now s.lockTimeout = false := by
  unfold holder at h
  split at h
  · rename_i l hl
    split at h
    · cases h
    · rename_i he
      refine ⟨l, hl, ?_, by simpa using he⟩
      injection h
  · cases h

theorem lockBlocked_of_holder {s : State} {t i A B : Nat} {rows : List Nat}
    (hh : holder s t i = some A) (hAB : A ≠ B) (hi : i ∈ rows) : lockBlocked s B t rows = true := by
  obtain ⟨l, hl, hA, he⟩ := holder_some hh
  unfold lockBlocked
  rw [List.any_eq_true]
  refine ⟨i, hi, ?_⟩
  simp only [hl, he, hA]
  simp [hAB]

theorem not_lockBlocked {s : State} {tx t : Nat} {rows : List Nat} (h : lockBlocked s tx t rows = false) :
    ∀ i ∈ rows, holder s t i = none ∨ holder s t i = some tx := by
  intro i hi
  unfold lockBlocked at h
  rw [List.any_eq_false] at h
  have := h i hi
  unfold holder
  cases hl : s.locks t i with
  | none => simp
  | some l =>
    simp only [hl] at this ⊢
    cases he : l.expired s.now s.lockTimeout with
    | true => simp
    | false =>
      simp only [he] at this
      right
      simp only [Bool.false_eq_true, ↓reduceIte]
      simpa using this

theorem holder_lockAll (s : State) (A t i : Nat) (rows : List Nat) (hi : i ∈ rows) :
    holder (lockAll s A t rows) t i = some A := by
  simp [holder, lockAll, hi, Lock.expired]

theorem holder_congr {s s' : State} (hl : s'.locks = s.locks) (hn : s'.now = s.now)
    (ht : s'.lockTimeout = s.lockTimeout) (t i : Nat) : holder s' t i = holder s t i := by
  simp only [holder, hl, hn, ht]

/-- effect of `apply_undo_entry` on the row it names (`slab.delete` / `restore_row` /
    `restore_deleted_row`) -/
def undoRow (ncols : Nat) (u : Undo) (r : Row) : Row :=
  match u with
  | .inserted _ _ _ => { r with alive := false }
  | .updated _ _ old _ => if r.alive ∧ old.length = ncols then { r with vals := old } else r
  | .deleted _ _ old _ => if (!r.alive) ∧ old.length = ncols then { alive := true, vals := old } else r

theorem set_getElem?_self {l : List Row} {i : Nat} {r : Row} (h : l[i]? = some r) : l.set i r = l := by
  obtain ⟨hlt, he⟩ := List.getElem?_eq_some_iff.1 h
  rw [← he]
  exact List.set_getElem_self hlt

theorem applyUndoT_rows (T : Table) (u : Undo) :
    (applyUndoT T u).1.rows = match T.rows[u.row]? with
      | some r => T.rows.set u.row (undoRow T.ncols u r)
      | none => T.rows := by
  cases u with
  | inserted t i idx =>
    show slabDelete T i = _
    simp only [slabDelete, Undo.row]
    cases hr : T.rows[i]? with
    | none => rfl
    | some r =>
      simp only [undoRow]
      split
      · rfl
      · rename_i ha
        have : ({ r with alive := false } : Row) = r := by cases r; simp_all
        rw [this, set_getElem?_self hr]
  | updated t i old chg =>
    show (restoreRow T i old).getD T.rows = _
    simp only [restoreRow, Undo.row]
    cases hr : T.rows[i]? with
    | none => rfl
    | some r =>
      simp only [undoRow]
      split
      · rfl
      · rw [set_getElem?_self hr]; rfl
  | deleted t i old idx =>
    show (restoreDeletedRow T i old).getD T.rows = _
    simp only [restoreDeletedRow, Undo.row]
    cases hr : T.rows[i]? with
    | none => rfl
    | some r =>
      simp only [undoRow]
      split
      · rfl
      · rw [set_getElem?_self hr]; rfl

theorem applyUndoT_length (T : Table) (u : Undo) : (applyUndoT T u).1.rows.length = T.rows.length := by
  rw [applyUndoT_rows]
  split
  · exact List.length_set ..
  · rfl

theorem applyUndoT_rows_other (T : Table) (u : Undo) (i : Nat) (h : i ≠ u.row) :
    (applyUndoT T u).1.rows[i]? = T.rows[i]? := by
  rw [applyUndoT_rows]
  split
  · exact List.getElem?_set_ne (fun e => h e.symm)
  · rfl

theorem applyUndoT_row_self (T : Table) (u : Undo) (r : Row) (hr : T.rows[u.row]? = some r) :
    (applyUndoT T u).1.rows[u.row]? = some (undoRow T.ncols u r) := by
  rw [applyUndoT_rows, hr]
  exact List.getElem?_set_self (List.getElem?_eq_some_iff.1 hr).1

theorem applyUndoT_ncols (T : Table) (u : Undo) : (applyUndoT T u).1.ncols = T.ncols := by
  cases u <;> rfl

/-- `s'` differs from `s` in tables — none appears or vanishes, none loses a row position — and in
    the undo log of transaction `A`, which may have grown -/
structure Frame (A : Nat) (s s' : State) : Prop where
  locks : s'.locks = s.locks
  txLocks : s'.txLocks = s.txLocks
  now : s'.now = s.now
  lockTimeout : s'.lockTimeout = s.lockTimeout
  nextTx : s'.nextTx = s.nextTx
  ntables : s'.ntables = s.ntables
  txs : ∀ k, s'.txs k = s.txs k ∨
    k = A ∧ ∃ x more, s.txs k = some x ∧ s'.txs k = some { x with undo := x.undo ++ more }
  rows : ∀ t T, s.tables t = some T → ∃ T', s'.tables t = some T' ∧ T.rows.length ≤ T'.rows.length
  dom : ∀ t, s.tables t = none → s'.tables t = none

theorem Frame.refl (A : Nat) (s : State) : Frame A s s :=
  ⟨rfl, rfl, rfl, rfl, rfl, rfl, fun _ => Or.inl rfl, fun _ T h => ⟨T, h, Nat.le_refl _⟩, fun _ h => h⟩

theorem Frame.trans {A : Nat} {s s1 s2 : State} (h1 : Frame A s s1) (h2 : Frame A s1 s2) : Frame A s s2 where
  locks := h2.locks.trans h1.locks
  txLocks := h2.txLocks.trans h1.txLocks
  now := h2.now.trans h1.now
  lockTimeout := h2.lockTimeout.trans h1.lockTimeout
  nextTx := h2.nextTx.trans h1.nextTx
  ntables := h2.ntables.trans h1.ntables
  txs := by
    intro k
    rcases h1.txs k with e1 | ⟨hk, x, m1, hx, hx1⟩
    · have := h2.txs k
      rw [e1] at this
      exact this
    · rcases h2.txs k with e2 | ⟨_, y, m2, hy, hy2⟩
      · exact Or.inr ⟨hk, x, m1, hx, e2.trans hx1⟩
      · rw [hx1] at hy
        cases hy
        exact Or.inr ⟨hk, x, m1 ++ m2, hx, by rw [hy2]; simp only [List.append_assoc]⟩
  rows := by
    intro t T hT
    obtain ⟨T1, hT1, l1⟩ := h1.rows t T hT
    obtain ⟨T2, hT2, l2⟩ := h2.rows t T1 hT1
    exact ⟨T2, hT2, Nat.le_trans l1 l2⟩
  dom := fun t h => h2.dom t (h1.dom t h)

theorem Frame.txs_none {A : Nat} {s s' : State} (h : Frame A s s') (k : Nat) : s'.txs k = none ↔ s.txs k = none := by
  rcases h.txs k with e | ⟨_, x, m, hx, hx'⟩
  · rw [e]
  · rw [hx, hx']
    exact ⟨nofun, nofun⟩

theorem Frame.gate_eq {A : Nat} {s s' : State} (h : Frame A s s') (k : Nat) : gate s' k = gate s k := by
  unfold gate
  rcases h.txs k with e | ⟨_, x, m, hx, hx'⟩
  · rw [e]
  · rw [hx, hx']

theorem Frame.txs_other {A : Nat} {s s' : State} (h : Frame A s s') {k : Nat} (hk : k ≠ A) : s'.txs k = s.txs k := by
  rcases h.txs k with e | ⟨hk', _⟩
  · exact e
  · exact absurd hk' hk

theorem Frame.txs_self {A : Nat} {s s' : State} (h : Frame A s s') {x : Tx} (hx : s.txs A = some x) :
    ∃ more, s'.txs A = some { x with undo := x.undo ++ more } := by
  rcases h.txs A with e | ⟨_, y, m, hy, hy'⟩
  · exact ⟨[], by rw [e, hx, List.append_nil]⟩
  · rw [hx] at hy
    cases hy
    exact ⟨m, hy'⟩

theorem Frame.holder_eq {A : Nat} {s s' : State} (h : Frame A s s') (t i : Nat) : holder s' t i = holder s t i :=
  holder_congr h.locks h.now h.lockTimeout t i

theorem frame_setTable (A : Nat) {s : State} {t : Nat} {T T' : Table} (hT : s.tables t = some T)
    (hle : T.rows.length ≤ T'.rows.length) : Frame A s (setTable s t T') where
  locks := rfl
  txLocks := rfl
  now := rfl
  lockTimeout := rfl
  nextTx := rfl
  ntables := rfl
  txs := fun _ => Or.inl rfl
  rows := by
    intro k T0 h0
    rw [setTable_tables]
    split
    · rename_i e
      rw [e, hT] at h0
      cases h0
      exact ⟨T', rfl, hle⟩
    · exact ⟨T0, h0, Nat.le_refl _⟩
  dom := by
    intro k hk
    rw [setTable_tables, if_neg]
    · exact hk
    · intro e
      rw [e, hT] at hk
      cases hk

theorem TableWrite.frame {s s' : State} {t : Nat} (h : TableWrite s t s') (A : Nat) : Frame A s s' := by
  rcases h with rfl | ⟨T, T', hT, hle, rfl⟩
  · exact Frame.refl A _
  · exact frame_setTable A hT hle

theorem frame_recordUndo (s : State) (A : Nat) (u : Undo) : Frame A s (recordUndo s A u) := by
  unfold recordUndo
  split
  · rename_i x hx
    refine ⟨rfl, rfl, rfl, rfl, rfl, rfl, ?_, fun _ T h => ⟨T, h, Nat.le_refl _⟩, fun _ h => h⟩
    intro k
    rw [setTx_txs]
    split
    · rename_i e
      rw [e]
      exact Or.inr ⟨rfl, x, [u], hx, rfl⟩
    · exact Or.inl rfl
  · exact Frame.refl A s

theorem frame_updateRow (A t : Nat) (upd : List (Nat × Val)) (s : State) (i : Nat) :
    Frame A s (updateRow A t upd s i) := by
  unfold updateRow
  split
  · exact Frame.refl A s
  · rename_i T hT
    split
    · exact Frame.refl A s
    · exact (frame_recordUndo s A _).trans
        (frame_setTable A (by rw [recordUndo_tables]; exact hT) (Nat.le_of_eq (List.length_set ..).symm))

theorem frame_deleteRow (A t : Nat) (s : State) (i : Nat) : Frame A s (deleteRow A t s i) := by
  unfold deleteRow
  split
  · exact Frame.refl A s
  · rename_i T hT
    split
    · exact Frame.refl A s
    · exact (frame_recordUndo s A _).trans
        (frame_setTable A (by rw [recordUndo_tables]; exact hT) (Nat.le_of_eq (List.length_set ..).symm))

theorem Frame.foldl {A : Nat} {f : State → Nat → State} (hf : ∀ s i, Frame A s (f s i)) (rows : List Nat) (s : State) :
    Frame A s (rows.foldl f s) := by
  induction rows generalizing s with
  | nil => exact Frame.refl A s
  | cons i rest ih => exact (hf s i).trans (ih (f s i))

theorem frame_applyUndo (A : Nat) (acc : State × Nat) (u : Undo) : Frame A acc.1 (applyUndo acc u).1 := by
  unfold applyUndo
  split
  · exact Frame.refl A _
  · rename_i T hT
    exact frame_setTable A hT (Nat.le_of_eq (applyUndoT_length T u).symm)

theorem frame_foldl_applyUndo (A : Nat) (M : List Undo) (acc : State × Nat) : Frame A acc.1 (M.foldl applyUndo acc).1 := by
  induction M generalizing acc with
  | nil => exact Frame.refl A _
  | cons u rest ih => exact (frame_applyUndo A acc u).trans (ih (applyUndo acc u))

theorem foldl_applyUndo_txs (M : List Undo) (acc : State × Nat) : (M.foldl applyUndo acc).1.txs = acc.1.txs := by
  induction M generalizing acc with
  | nil => rfl
  | cons u rest ih =>
    rw [List.foldl_cons, ih]
    unfold applyUndo
    split <;> rfl

/-- `op` ends transaction `B` when executed in state `s` -/
def endsTx (s : State) (op : Op) (B : Nat) : Bool :=
  match op with
  | .commit A => A == B
  | .rollback A => A == B
  | .cleanupTxs => txExpired s B
  | _ => false

/-- what a statement is composed of besides `Frame`s: `try_lock` granted to a known transaction on existing
    rows, `begin`, the end of a transaction in `E` (`release`, then removal from the map), the sweeps, a new table -/
inductive Moves (E : Nat → Prop) : State → State → Prop
  | frame {A : Nat} {s s' : State} : Frame A s s' → Moves E s s'
  | lock {s : State} {A t : Nat} {rows : List Nat} {T : Table} : s.txs A ≠ none → s.tables t = some T →
      (∀ i ∈ rows, i < T.rows.length) → lockBlocked s A t rows = false → Moves E s (lockAll s A t rows)
  | start (s : State) : Moves E s (begin s).1
  | finish {s : State} {A : Nat} : E A → Moves E s (setTx (release s A) A none)
  | sweepLocks (s : State) : Moves E s (cleanupLocks s).1
  | sweepTxs {s : State} : (∀ A, txExpired s A = true → E A) → Moves E s (cleanupTxs s).1
  | newTable (s : State) (n : Nat) (nl : List Nat) : Moves E s (createTable s n nl).1
  | trans {s s1 s2 : State} : Moves E s s1 → Moves E s1 s2 → Moves E s s2

theorem Moves.refl (E : Nat → Prop) (s : State) : Moves E s s := .frame (Frame.refl 0 s)

theorem Moves.nextTx_le {E : Nat → Prop} {s s' : State} (h : Moves E s s') : s.nextTx ≤ s'.nextTx := by
  induction h with
  | frame hf => exact Nat.le_of_eq hf.nextTx.symm
  | lock => exact Nat.le_refl _
  | start => exact Nat.le_succ _
  | finish => exact Nat.le_refl _
  | sweepLocks => exact Nat.le_refl _
  | sweepTxs => exact Nat.le_of_eq (foldlRelease_nextTx _ _).symm
  | newTable => exact Nat.le_refl _
  | trans _ _ ih1 ih2 => exact Nat.le_trans ih1 ih2

theorem txs_of_gate {s : State} {A : Nat} (h : gate s A = none) : s.txs A ≠ none := by
  obtain ⟨x, hx, _⟩ := gate_none h
  rw [hx]
  exact fun h => nomatch h

theorem moves_write {E : Nat → Prop} {s : State} {A t : Nat} {rows : List Nat} {T : Table} {f : State → Nat → State}
    (hg : gate s A = none) (hT : s.tables t = some T) (hex : ∀ i ∈ rows, i < T.rows.length)
    (hb : lockBlocked s A t rows = false) (hf : ∀ s i, Frame A s (f s i)) (sub : List Nat) :
    Moves E s (sub.foldl f (if rows.isEmpty then s else lockAll s A t rows)) := by
  split
  · exact .frame (Frame.foldl hf sub s)
  · exact .trans (.lock (txs_of_gate hg) hT hex hb) (.frame (Frame.foldl hf sub _))

theorem moves_txInsert (E : Nat → Prop) (s : State) (A t : Nat) (vals : List Val) :
    Moves E s (txInsert s A t vals).1 := by
  rcases txInsert_cases s A t vals with ⟨e, h⟩ | ⟨T, hg, hT, _, h⟩
  · rw [h]; exact Moves.refl E s
  · rw [h]
    have hle : T.rows.length ≤ (insertT T vals).rows.length := by simp [insertT]
    have h1 : Moves E s (setTable s t (insertT T vals)) := .frame (frame_setTable A hT hle)
    dsimp only
    split
    · exact h1.trans (.frame (frame_recordUndo _ A _))
    · rename_i hb
      have hb' : lockBlocked s A t [T.rows.length] = false := by simpa using hb
      -- the lock on the new row and the write of the table commute
      have h2 : Moves E (setTable s t (insertT T vals)) (setTable (lockAll s A t [T.rows.length]) t (insertT T vals)) :=
        .lock (s := setTable s t (insertT T vals)) (T := insertT T vals) (txs_of_gate hg) (by simp)
          (by simp [insertT]) hb'
      exact h1.trans (h2.trans (.frame (frame_recordUndo _ A _)))

theorem moves_txUpdate (E : Nat → Prop) (s : State) (A t : Nat) (cond : Cond) (upd : List (Nat × Val)) :
    Moves E s (txUpdate s A t cond upd).1 := by
  rcases txUpdate_cases s A t cond upd with ⟨e, h⟩ | ⟨T, hg, hT, _, hb, h⟩
  · rw [h]; exact Moves.refl E s
  · rw [h]; exact moves_write hg hT (fun _ => matching_lt) hb (frame_updateRow A t upd) _

theorem moves_txDelete (E : Nat → Prop) (s : State) (A t : Nat) (cond : Cond) :
    Moves E s (txDelete s A t cond).1 := by
  rcases txDelete_cases s A t cond with ⟨e, h⟩ | ⟨T, hg, hT, hb, h⟩
  · rw [h]; exact Moves.refl E s
  · rw [h]; exact moves_write hg hT (fun _ => matching_lt) hb (frame_deleteRow A t) _

theorem moves_commit {E : Nat → Prop} (s : State) {A : Nat} (hE : E A) : Moves E s (commit s A).1 := by
  rcases commit_cases s A with ⟨e, h⟩ | ⟨_, h⟩ <;> rw [h]
  · exact Moves.refl E s
  · exact .finish hE

theorem moves_rollback {E : Nat → Prop} (s : State) {A : Nat} (hE : E A) : Moves E s (rollback s A).1 := by
  rcases rollback_cases s A with ⟨e, h⟩ | ⟨x, _, _, h⟩ <;> rw [h]
  · exact Moves.refl E s
  · exact .trans (.frame (frame_foldl_applyUndo A _ (s, 0))) (.finish hE)

theorem moves_finishAuto {E : Nat → Prop} (p : State × Res) {I : Nat} (hE : E I) : Moves E p.1 (finishAuto p I).1 := by
  rcases finishAuto_cases p I with h | h <;> rw [h]
  · exact moves_rollback _ hE
  · exact moves_commit _ hE

theorem moves_auto {E : Nat → Prop} (s : State) {f : State → Nat → State × Res}
    (hf : ∀ s1 I, Moves E s1 (f s1 I).1) (hE : E s.nextTx) :
    Moves E s (finishAuto (f (begin s).1 (begin s).2) (begin s).2).1 :=
  .trans (.start s) (.trans (hf _ _) (moves_finishAuto _ hE))

theorem step_cases (s : State) (op : Op) :
    (∃ d, op = .tick d) ∨ Moves (fun B => endsTx s op B = true ∨ B = s.nextTx) s (step s op).1 := by
  cases op with
  | tick d => exact Or.inl ⟨d, rfl⟩
  | begin => exact Or.inr (.start s)
  | commit A => exact Or.inr (moves_commit s (Or.inl (by simp [endsTx])))
  | rollback A => exact Or.inr (moves_rollback s (Or.inl (by simp [endsTx])))
  | txInsert A t v => exact Or.inr (moves_txInsert _ s A t v)
  | txUpdate A t c u => exact Or.inr (moves_txUpdate _ s A t c u)
  | txDelete A t c => exact Or.inr (moves_txDelete _ s A t c)
  | insert t v =>
    right
    show Moves _ s (insert s t v).1
    rcases insert_cases s t v with ⟨e, h⟩ | h <;> rw [h]
    · exact Moves.refl _ s
    · exact moves_auto s (fun s1 I => moves_txInsert _ s1 I t v) (Or.inr rfl)
  | update t c u =>
    right
    show Moves _ s (update s t c u).1
    rcases update_cases s t c u with ⟨e, h⟩ | h <;> rw [h]
    · exact Moves.refl _ s
    · exact moves_auto s (fun s1 I => moves_txUpdate _ s1 I t c u) (Or.inr rfl)
  | delete t c =>
    right
    show Moves _ s (delete s t c).1
    rcases delete_cases s t c with ⟨e, h⟩ | h <;> rw [h]
    · exact Moves.refl _ s
    · exact moves_auto s (fun s1 I => moves_txDelete _ s1 I t c) (Or.inr rfl)
  | batchInsert t rows => exact Or.inr (.frame ((batchInsert_write s t rows).frame 0))
  | createTable n nl => exact Or.inr (.newTable s n nl)
  | createIndex t c => exact Or.inr (.frame ((createIndex_write s t c).frame 0))
  | createBtree t c => exact Or.inr (.frame ((createBtree_write s t c).frame 0))
  | dropIndex t c => exact Or.inr (.frame ((dropIndex_write s t c).frame 0))
  | dropBtree t c => exact Or.inr (.frame ((dropBtree_write s t c).frame 0))
  | cleanupLocks => exact Or.inr (.sweepLocks s)
  | cleanupTxs => exact Or.inr (.sweepTxs fun _ h => Or.inl h)

/-- what every move and every `tick` keep holds after every script -/
theorem run_of_moves {P : State → Prop} (hm : ∀ {E s s'}, Moves E s s' → P s → P s') (ht : ∀ s d, P s → P (tick s d))
    {s : State} (h : P s) (ops : List Op) : P (run s ops) := by
  induction ops generalizing s with
  | nil => exact h
  | cons op rest ih =>
    refine ih ?_
    rcases step_cases s op with ⟨d, rfl⟩ | hs
    · exact ht s d h
    · exact hm hs h

/-! ## `Gone`: a transaction that left the manager never comes back -/

/-- the transaction id has been handed out and is no longer in the manager's map -/
def Gone (s : State) (tx : Nat) : Prop := s.txs tx = none ∧ tx < s.nextTx

theorem gate_of_gone {s : State} {tx : Nat} (h : Gone s tx) : gate s tx = some .txNotFound := by
  unfold gate; rw [h.1]

theorem Moves.gone {E : Nat → Prop} {s s' : State} (h : Moves E s s') {tx : Nat} : Gone s tx → Gone s' tx := by
  induction h with
  | frame hf => exact fun hg => ⟨(hf.txs_none tx).2 hg.1, by rw [hf.nextTx]; exact hg.2⟩
  | lock => exact id
  | start s =>
    intro hg
    exact ⟨by rw [begin_txs, if_neg (Nat.ne_of_lt hg.2)]; exact hg.1, Nat.lt_succ_of_lt hg.2⟩
  | finish =>
    intro hg
    refine ⟨?_, hg.2⟩
    rw [setTx_txs]
    split
    · rfl
    · exact hg.1
  | sweepLocks => exact id
  | sweepTxs =>
    intro hg
    refine ⟨?_, by show (List.foldl release _ _).nextTx > tx; rw [foldlRelease_nextTx]; exact hg.2⟩
    rw [cleanupTxs_txs]
    split
    · rfl
    · exact hg.1
  | newTable => exact id
  | trans _ _ ih1 ih2 => exact fun hg => ih2 (ih1 hg)

theorem gone_run {s : State} {tx : Nat} (h : Gone s tx) (ops : List Op) : Gone (run s ops) tx :=
  run_of_moves (P := fun s => Gone s tx) (fun hm => hm.gone) (fun _ _ h => h) h ops

/-! ## `LockIdx`: every lock is listed under its holder in `tx_locks` (so `release` finds it) -/

def LockIdx (s : State) : Prop := ∀ t i l, s.locks t i = some l → (t, i) ∈ s.txLocks l.tx

theorem lockIdx_congr {s s' : State} (hl : s'.locks = s.locks) (ht : s'.txLocks = s.txLocks) (h : LockIdx s) :
    LockIdx s' := by
  intro t i l hx
  rw [hl] at hx; rw [ht]; exact h t i l hx

theorem lockIdx_init (a b : Nat) : LockIdx (init a b) := by
  intro t i l h; simp [init] at h

theorem lockIdx_lockAll {s : State} (h : LockIdx s) (tx t : Nat) (rows : List Nat) : LockIdx (lockAll s tx t rows) := by
  intro t' i l hl
  simp only [lockAll] at hl ⊢
  split at hl
  · rename_i hc
    injection hl with hl; subst hl
    simp only [↓reduceIte, List.mem_append, List.mem_map]
    right; exact ⟨i, hc.2, by rw [hc.1]⟩
  · have := h t' i l hl
    split
    · rename_i he; rw [he] at this
      exact List.mem_append_left _ this
    · exact this

theorem release_locks_some {s : State} {tx t i : Nat} {l : Lock} (h : (release s tx).locks t i = some l) :
    s.locks t i = some l ∧ ¬(l.tx = tx ∧ (t, i) ∈ s.txLocks tx) := by
  simp only [release] at h
  split at h
  · rename_i l' hl'
    split at h
    · cases h
    · rename_i hn
      injection h with h; subst h
      exact ⟨hl', hn⟩
  · cases h

theorem release_keeps {s : State} {t i A : Nat} {l : Lock} (hl : s.locks t i = some l) (hne : l.tx ≠ A) :
    (release s A).locks t i = some l := by
  simp only [release, hl]
  split
  · rename_i hc; exact absurd hc.1 hne
  · rfl

theorem lockIdx_release {s : State} (h : LockIdx s) (tx : Nat) : LockIdx (release s tx) := by
  intro t i l hl
  obtain ⟨h1, h2⟩ := release_locks_some hl
  have hm := h t i l h1
  simp only [release]
  split
  · rename_i he; rw [he] at hm; exact absurd ⟨he, hm⟩ h2
  · exact hm

theorem lockIdx_foldl_release {s : State} (h : LockIdx s) (ids : List Nat) : LockIdx (ids.foldl release s) := by
  induction ids generalizing s with
  | nil => exact h
  | cons i rest ih => exact ih (lockIdx_release h i)

theorem foldl_release_sub (ids : List Nat) (s : State) {t i : Nat} {l : Lock}
    (h : (ids.foldl release s).locks t i = some l) : s.locks t i = some l := by
  induction ids generalizing s with
  | nil => exact h
  | cons k rest ih => exact (release_locks_some (ih (release s k) h)).1

theorem foldl_release_keeps (ids : List Nat) (s : State) {t i : Nat} {l : Lock}
    (h : s.locks t i = some l) (hn : l.tx ∉ ids) : (ids.foldl release s).locks t i = some l := by
  induction ids generalizing s with
  | nil => exact h
  | cons k rest ih =>
    simp only [List.mem_cons, not_or] at hn
    exact ih (release s k) (release_keeps h hn.1) hn.2

theorem lockIdx_cleanupLocks {s : State} (h : LockIdx s) : LockIdx (cleanupLocks s).1 := by
  intro t i l hl
  simp only [cleanupLocks] at hl ⊢
  split at hl
  · cases hl
  · rename_i hne
    have hm := h t i l hl
    rw [List.mem_filter]
    refine ⟨hm, ?_⟩
    simp only [lockExpiredAt, hl] at hne
    simp only [hl]
    simp [hne]

theorem Moves.lockIdx {E : Nat → Prop} {s s' : State} (h : Moves E s s') : LockIdx s → LockIdx s' := by
  induction h with
  | frame hf => exact lockIdx_congr hf.locks hf.txLocks
  | lock => exact fun h => lockIdx_lockAll h _ _ _
  | start => exact lockIdx_congr rfl rfl
  | finish => exact fun h => lockIdx_congr rfl rfl (lockIdx_release h _)
  | sweepLocks => exact lockIdx_cleanupLocks
  | sweepTxs => exact fun h => lockIdx_congr rfl rfl (lockIdx_foldl_release h _)
  | newTable => exact lockIdx_congr rfl rfl
  | trans _ _ ih1 ih2 => exact fun h => ih2 (ih1 h)

theorem lockIdx_run {s : State} (h : LockIdx s) (ops : List Op) : LockIdx (run s ops) :=
  run_of_moves Moves.lockIdx (fun _ _ h => lockIdx_congr rfl rfl h) h ops

theorem release_clears {s : State} (h : LockIdx s) (tx : Nat) :
    (∀ t i l, (release s tx).locks t i = some l → l.tx ≠ tx) ∧ (release s tx).txLocks tx = [] := by
  refine ⟨?_, by simp [release]⟩
  intro t i l hl he
  obtain ⟨h1, h2⟩ := release_locks_some hl
  exact h2 ⟨he, he ▸ h t i l h1⟩

theorem release_congr {s s' : State} (hl : s'.locks = s.locks) (ht : s'.txLocks = s.txLocks) (tx : Nat) :
    (release s' tx).locks = (release s tx).locks ∧ (release s' tx).txLocks = (release s tx).txLocks := by
  simp only [release, hl, ht, and_self]

theorem end_locks {s s' : State} {A : Nat} (hopen : gate s A = none)
    (hs' : s' = (commit s A).1 ∨ s' = (rollback s A).1) :
    s'.locks = (release s A).locks ∧ s'.txLocks = (release s A).txLocks := by
  rcases hs' with h | h
  · rw [h, commit_form hopen]
    exact ⟨rfl, rfl⟩
  · obtain ⟨x, hx, _⟩ := gate_none hopen
    have f := frame_foldl_applyUndo A x.undo.reverse (s, 0)
    rw [h, rollback_form hopen hx]
    exact release_congr f.locks f.txLocks A

theorem ended_tx_holds_nothing {s s' : State} {A : Nat} (hidx : LockIdx s) (hopen : gate s A = none)
    (hs' : s' = (commit s A).1 ∨ s' = (rollback s A).1) :
    (∀ t i l, s'.locks t i = some l → l.tx ≠ A) ∧ (∀ t i, holder s' t i ≠ some A) ∧ s'.txLocks A = [] := by
  obtain ⟨hl, ht⟩ := end_locks hopen hs'
  have hrel := release_clears hidx A
  have h1 : ∀ t i l, s'.locks t i = some l → l.tx ≠ A := by
    intro t i l h
    rw [hl] at h
    exact hrel.1 t i l h
  refine ⟨h1, ?_, by rw [ht]; exact hrel.2⟩
  intro t i hh
  obtain ⟨l, h, hA, _⟩ := holder_some hh
  exact h1 t i l h hA

theorem rowBad_false_len {T : Table} {vals : List Val} (h : rowBad T vals = false) : vals.length = T.ncols := by
  unfold rowBad at h
  rw [Bool.or_eq_false_iff] at h
  simpa using h.1

theorem updBad_false_cols {T : Table} {upd : List (Nat × Val)} (h : updBad T upd = false) : ∀ p ∈ upd, p.1 < T.ncols := by
  unfold updBad at h
  rw [Bool.or_eq_false_iff] at h
  intro p hp
  have := List.any_eq_false.1 h.1 p hp
  simpa using this

def rowAt (s : State) (t i : Nat) : Option Row := (s.tables t).bind (·.rows[i]?)

theorem applyUndo_rowAt_other (acc : State × Nat) (u : Undo) (t i : Nat) (h : ¬(u.table = t ∧ u.row = i)) :
    rowAt (applyUndo acc u).1 t i = rowAt acc.1 t i := by
  unfold applyUndo
  cases hT : acc.1.tables u.table with
  | none => rfl
  | some T =>
    simp only [rowAt, setTable_tables]
    by_cases ht : t = u.table
    · subst ht
      simp only [↓reduceIte, hT, Option.bind_some]
      apply applyUndoT_rows_other
      intro e; exact h ⟨rfl, e.symm⟩
    · simp [ht]

theorem foldl_applyUndo_rowAt_other (log : List Undo) (acc : State × Nat) (t i : Nat)
    (h : ∀ u ∈ log, ¬(u.table = t ∧ u.row = i)) :
    rowAt (log.foldl applyUndo acc).1 t i = rowAt acc.1 t i := by
  induction log generalizing acc with
  | nil => rfl
  | cons u rest ih =>
    simp only [List.foldl_cons]
    rw [ih (applyUndo acc u) (fun v hv => h v (List.mem_cons_of_mem _ hv))]
    exact applyUndo_rowAt_other acc u t i (h u List.mem_cons_self)

def ncolsAt (s : State) (t : Nat) : Option Nat := (s.tables t).map (·.ncols)

theorem applyUndo_ncolsAt (acc : State × Nat) (u : Undo) (t : Nat) :
    ncolsAt (applyUndo acc u).1 t = ncolsAt acc.1 t := by
  unfold applyUndo
  cases hT : acc.1.tables u.table with
  | none => rfl
  | some T =>
    simp only [ncolsAt, setTable_tables]
    by_cases ht : t = u.table
    · subst ht; simp [hT, applyUndoT_ncols]
    · simp [ht]

theorem foldl_applyUndo_ncolsAt (log : List Undo) (acc : State × Nat) (t : Nat) :
    ncolsAt (log.foldl applyUndo acc).1 t = ncolsAt acc.1 t := by
  induction log generalizing acc with
  | nil => rfl
  | cons u rest ih => simp only [List.foldl_cons]; rw [ih, applyUndo_ncolsAt]

theorem applyUndo_rowAt_self (acc : State × Nat) (u : Undo) (n : Nat) (r : Row)
    (hn : ncolsAt acc.1 u.table = some n) (hr : rowAt acc.1 u.table u.row = some r) :
    rowAt (applyUndo acc u).1 u.table u.row = some (undoRow n u r) := by
  unfold applyUndo
  cases hT : acc.1.tables u.table with
  | none => simp [ncolsAt, hT] at hn
  | some T =>
    simp only [ncolsAt, hT, Option.map_some, Option.some.injEq] at hn
    simp only [rowAt, hT, Option.bind_some] at hr
    simp only [rowAt, setTable_tables, ↓reduceIte, Option.bind_some]
    rw [applyUndoT_row_self T u r hr, hn]

end Neumann.RelTx
