import NeumannModel.RelTx.LockOwner
/-
  C09 — second module of property theorems (ONLY theorems and their non-vacuity examples):
  statement-level atomicity (a statement that answers an error has changed nothing), the read
  side (`tx_select`, every index-served answer in every calm run, compound conditions), the
  lock sweep and the active-transaction counter.
-/
namespace Neumann.RelTx.Props2
open Neumann.RelTx Neumann.RelTx.Props

/-! ## a statement that fails changes nothing -/

/-- Statement-level all-or-nothing, EVERY state: a transactional statement (`tx_insert`, `tx_update`,
    `tx_delete`), a `commit` or a `rollback` that answers an error — unknown / finished transaction,
    unknown table or column, wrong arity, lock conflict on ANY of the matched rows — returns the state
    it was given: no row, no index entry, no undo entry, no lock, no transaction record has changed
    (a `tx_update` that finds one of ten matched rows locked has not touched the other nine).  The
    one error that is reported AFTER work was done is `RollbackFailed` (the transaction is ended and
    its locks are released whatever the undo reported), hence the exclusion. -/
theorem failed_statement_changes_nothing (s : State) (tx t : Nat) (e : Err) :
    (∀ vals, (txInsert s tx t vals).2 = .err e → (txInsert s tx t vals).1 = s) ∧
    (∀ cond upd, (txUpdate s tx t cond upd).2 = .err e → (txUpdate s tx t cond upd).1 = s) ∧
    (∀ cond, (txDelete s tx t cond).2 = .err e → (txDelete s tx t cond).1 = s) ∧
    ((commit s tx).2 = .err e → (commit s tx).1 = s) ∧
    ((rollback s tx).2 = .err e → e ≠ .rollbackFailed → (rollback s tx).1 = s) := by
  refine ⟨?_, ?_, ?_, ?_, ?_⟩
  · intro vals he
    rcases txInsert_cases s tx t vals with ⟨e', h⟩ | ⟨T, _, _, _, h⟩ <;> rw [h] at he ⊢
    cases he
  · intro cond upd he
    rcases txUpdate_cases s tx t cond upd with ⟨e', h⟩ | ⟨T, _, _, _, _, h⟩ <;> rw [h] at he ⊢
    cases he
  · intro cond he
    rcases txDelete_cases s tx t cond with ⟨e', h⟩ | ⟨T, _, _, _, h⟩ <;> rw [h] at he ⊢
    cases he
  · intro he
    rcases commit_cases s tx with ⟨e', h⟩ | ⟨_, h⟩ <;> rw [h] at he ⊢
    cases he
  · intro he hne
    rcases rollback_cases s tx with ⟨e', h⟩ | ⟨x, _, _, h⟩ <;> rw [h] at he ⊢
    split at he
    · cases he
    · cases he; exact absurd rfl hne

/-- non-vacuity: every error class of the three statements occurs, on a state with an open transaction
    that holds a lock -/
example : let s := run s0 (setupIdx ++ [.begin, .begin, .txUpdate 1 0 (.idEq 0) [(0, 4)]])
    (txInsert s 9 0 [1, 1]).2 = .err .txNotFound ∧ (txInsert s 1 7 [1, 1]).2 = .err .tableNotFound ∧
    (txInsert s 1 0 [1]).2 = .err .badInput ∧ (txUpdate s 2 0 .all [(5, 1)]).2 = .err .columnNotFound ∧
    (txUpdate s 2 0 .all [(1, 1)]).2 = .err .lockConflict ∧ (txDelete s 2 0 (.and (.eq 0 4) (.ge 1 0))).2 = .err .lockConflict ∧
    (txDelete s 2 3 .all).2 = .err .tableNotFound ∧ (commit s 0).2 = .err .txNotFound := by decide +kernel

/-- the same for the NON-transactional `insert` / `update` / `delete_rows` (each is
    `begin; tx_op; commit | rollback` on an internal transaction): when the statement answers an
    error, no table has changed, no other transaction's record has changed and every lock that does
    not belong to the internal transaction is exactly where it was (the only trace is the consumed
    transaction id). -/
theorem failed_nontx_statement_changes_nothing (s : State) (t : Nat) (e : Err) (s' : State)
    (h : (∃ vals, s' = (insert s t vals).1 ∧ (insert s t vals).2 = .err e) ∨
         (∃ cond upd, s' = (update s t cond upd).1 ∧ (update s t cond upd).2 = .err e) ∨
         (∃ cond, s' = (delete s t cond).1 ∧ (delete s t cond).2 = .err e)) :
    s'.tables = s.tables ∧ (∀ B, B ≠ s.nextTx → s'.txs B = s.txs B) ∧
    (∀ t' i l, s.locks t' i = some l → l.tx ≠ s.nextTx → s'.locks t' i = some l) := by
  -- the internal transaction of a failed statement: fresh, and the inner statement returned its input
  have key : ∀ (p : State × Res) e', p.2 = .err e' → p.1 = (begin s).1 →
      (finishAuto p (begin s).2).1.tables = s.tables ∧
      (∀ B, B ≠ s.nextTx → (finishAuto p (begin s).2).1.txs B = s.txs B) ∧
      (∀ t' i l, s.locks t' i = some l → l.tx ≠ s.nextTx → (finishAuto p (begin s).2).1.locks t' i = some l) := by
    rintro ⟨p1, p2⟩ e' he' hp
    simp only at hp he'
    subst hp he'
    have hlog : (begin s).1.txs (begin s).2 = some { phase := .active, startedAt := s.now, undo := [] } := by
      simp [begin]
    have hf : (finishAuto ((begin s).1, Res.err e') (begin s).2).1 = (rollback (begin s).1 (begin s).2).1 := rfl
    rw [hf, rollback_form (gate_of_active hlog rfl) hlog]
    refine ⟨rfl, ?_, ?_⟩
    · intro B hB
      simp [begin, hB]
    · intro t' i l hl hne
      exact release_keeps (s := (begin s).1) (A := (begin s).2) hl hne
  have same : s.tables = s.tables ∧ (∀ B, B ≠ s.nextTx → s.txs B = s.txs B) ∧
      (∀ t' i l, s.locks t' i = some l → l.tx ≠ s.nextTx → s.locks t' i = some l) :=
    ⟨rfl, fun _ _ => rfl, fun _ _ _ hl _ => hl⟩
  have hres : ∀ (p : State × Res) I, (finishAuto p I).2 = p.2 := by
    intro p I
    unfold finishAuto
    split
    · rename_i e' he'; rw [he']
    · rfl
  rcases h with ⟨vals, rfl, he⟩ | ⟨cond, upd, rfl, he⟩ | ⟨cond, rfl, he⟩
  · rcases insert_cases s t vals with ⟨e', hc⟩ | hc <;> rw [hc] at he ⊢
    · exact same
    · rw [hres] at he
      exact key _ e he ((failed_statement_changes_nothing _ _ t e).1 vals he)
  · rcases update_cases s t cond upd with ⟨e', hc⟩ | hc <;> rw [hc] at he ⊢
    · exact same
    · rw [hres] at he
      exact key _ e he ((failed_statement_changes_nothing _ _ t e).2.1 cond upd he)
  · rcases delete_cases s t cond with ⟨e', hc⟩ | hc <;> rw [hc] at he ⊢
    · exact same
    · rw [hres] at he
      exact key _ e he ((failed_statement_changes_nothing _ _ t e).2.2.1 cond he)

/-- non-vacuity: a non-transactional update / delete that runs into an open transaction's lock -/
example : let s := run s0 (setupIdx ++ [.insert 0 [2, 2], .begin, .txUpdate 2 0 (.idEq 0) [(0, 4)]])
    (update s 0 (.or (.eq 0 4) (.eq 0 2)) [(1, 9)]).2 = .err .lockConflict ∧ (delete s 0 (.ne 1 7)).2 = .err .lockConflict ∧
    (update s 0 (.idEq 1) [(1, 9)]).2 = .okN 1 ∧ (insert s 0 [1]).2 = .err .badInput ∧ holder s 0 0 = some 2 := by decide +kernel

/-! ## batch_insert -/

/-- `batch_insert` is the one writing statement that does not go through a transaction.  EVERY state:
    it is all-or-nothing (an error — unknown table, one row with a NULL the column refuses — leaves the
    state as it was; success appends exactly the given rows, alive, in order, after the existing ones),
    it takes no row lock, consumes no transaction id and touches no transaction record, and it changes
    no existing row of any table.  (So it never conflicts with an open transaction, and the run-level
    theorems — `rollback_restores`, `held_lock_survives_others`, `index_answers_exact_in_calm_runs` —
    hold for scripts that contain it: it is one more case of every per-statement invariant.) -/
theorem batch_insert_all_or_nothing_no_lock (s : State) (t : Nat) (rows : List (List Val)) :
    (∀ e, (batchInsert s t rows).2 = .err e → (batchInsert s t rows).1 = s) ∧
    ((batchInsert s t rows).1.locks = s.locks ∧ (batchInsert s t rows).1.txLocks = s.txLocks ∧
      (batchInsert s t rows).1.txs = s.txs ∧ (batchInsert s t rows).1.nextTx = s.nextTx) ∧
    (∀ T n, s.tables t = some T → (batchInsert s t rows).2 = .okN n →
      n = rows.length ∧ ∃ T', (batchInsert s t rows).1.tables t = some T' ∧
        T'.rows = T.rows ++ rows.map (fun v => { alive := true, vals := v })) ∧
    (∀ t', t' ≠ t → (batchInsert s t rows).1.tables t' = s.tables t') := by
  rcases batchInsert_cases s t rows with ⟨e', h⟩ | ⟨hnil, h⟩ | ⟨T, hT, _, h⟩ <;> rw [h]
  · exact ⟨fun _ _ => rfl, ⟨rfl, rfl, rfl, rfl⟩, (fun _ _ _ hok => nomatch hok), fun _ _ => rfl⟩
  · refine ⟨fun _ _ => rfl, ⟨rfl, rfl, rfl, rfl⟩, ?_, fun _ _ => rfl⟩
    intro T n hT hok
    cases hok
    exact ⟨by rw [hnil]; rfl, T, hT, by rw [hnil]; simp⟩
  · refine ⟨(fun _ hok => nomatch hok), ⟨rfl, rfl, rfl, rfl⟩, ?_, fun t' hne => by simp [hne]⟩
    intro T0 n hT0 hok
    rw [hT] at hT0
    cases hT0
    cases hok
    exact ⟨rfl, _, by simp, (foldl_insertRow rows T).1⟩

/-- non-vacuity: a batch next to an open transaction's lock; a batch with one bad row; an empty batch on
    an unknown table -/
example : let s := run s0 (setupIdx ++ [.begin, .txUpdate 1 0 (.idEq 0) [(0, 4)]])
    (batchInsert s 0 [[2, 2], [3, 3]]).2 = .okN 2 ∧ holder (batchInsert s 0 [[2, 2], [3, 3]]).1 0 0 = some 1 ∧
    holder (batchInsert s 0 [[2, 2], [3, 3]]).1 0 1 = none ∧
    ((batchInsert s 0 [[2, 2], [3, 3]]).1.tables 0).map (select · (.ge 0 2)) = some [(0, [4, 1]), (1, [2, 2]), (2, [3, 3])] ∧
    (batchInsert s 0 [[2, 2], [3, .null]]).2 = .err .badInput ∧ (batchInsert s 7 [[2, 2]]).2 = .err .tableNotFound ∧
    (batchInsert s 7 []).2 = .okN 0 := by decide +kernel

/-! ## reads -/

/-- Every query answered through an index, in EVERY calm run (not only right after a rollback): after
    any calm script — interleaved transactions with uncommitted work in place, commits, rollbacks,
    non-transactional statements, index DDL — the `select` answer for ANY condition (equality served
    by a hash index, ranges served by a b-tree index, `And` served by the index of whichever side has
    one, `Ne` / `Or` / `_id` scanned) is exactly the filter of the full scan; and `tx_select` by any open
    transaction is that same answer (no snapshot, no read lock). -/
theorem index_answers_exact_in_calm_runs (a b : Nat) (ops : List Op) (hcalm : calm (init a b) ops = true)
    (t : Nat) (T : Table) (hT : (run (init a b) ops).tables t = some T) (cond : Cond) :
    select T cond = scanAnswer T cond ∧
    (∀ A, gate (run (init a b) ops) A = none → txSelect (run (init a b) ops) A t cond = .rows (scanAnswer T cond)) := by
  have hinv : Inv (run (init a b) ops) := inv_run (inv_init a b) ops hcalm
  have h1 := select_eq_scan T (hinv.idx t T hT) cond
  refine ⟨h1, ?_⟩
  intro A hA
  unfold txSelect
  rw [hA]
  simp only [hT, h1]

set_option maxRecDepth 8000 in
/-- non-vacuity: in the calm script `calmOps` (three interleaved transactions, two open) an `And` whose
    left side is served by the hash index, one whose right side is served by the b-tree index and an
    `Or` (scan) — candidates exist, and the answers are the scan's -/
example : calm s0 calmOps = true ∧
    ((run s0 calmOps).tables 0).map (fun T => (candidates T (.and (.eq 0 8) (.ne 1 0))).isSome) = some true ∧
    ((run s0 calmOps).tables 0).map (fun T => (candidates T (.and (.ne 1 0) (.ge 0 3))).isSome) = some true ∧
    ((run s0 calmOps).tables 0).map (fun T => (candidates T (.or (.eq 0 8) (.ge 0 3))).isSome) = some false ∧
    ((run s0 calmOps).tables 0).map (fun T => select T (.and (.ne 1 0) (.ge 0 3))) = some [(2, [8, 1]), (3, [7, 7])] ∧
    txSelect (run s0 calmOps) 3 0 (.and (.eq 0 8) (.ne 1 0)) = .rows [(2, [8, 1])] ∧
    txSelect (run s0 calmOps) 6 0 .all = .err .txNotFound := by decide +kernel

/-- a calm script over a table whose column 0 is nullable and carries a hash and a b-tree index: committed
    rows `[NULL,1]`, `[3,3]`; the open transaction 2 turns NULL into 4, 3 into NULL and inserts `[NULL,5]` -/
def nullOps : List Op := [.createTable 2 [0], .createIndex 0 0, .createBtree 0 0,
  .insert 0 [.null, 1], .insert 0 [3, 3], .begin, .txUpdate 2 0 (.idEq 0) [(0, 4)], .txUpdate 2 0 (.idEq 1) [(0, .null)],
  .txInsert 2 0 [.null, 5]]

/-- non-vacuity with NULLs: `= NULL` is answered through the hash index (bucket of NULL), the b-tree range
    `..= 9` scans the NULL keys too (candidates 0, 1, 2) but the re-check drops them, a comparison with NULL
    matches nothing; after the rollback the NULL entry of row 0 is back and the others are gone; NULL for the
    column that refuses it fails as a whole -/
example : calm s0 nullOps = true ∧ gate (run s0 nullOps) 2 = none ∧
    ((run s0 nullOps).tables 0).map (select · (.eq 0 .null)) = some [(1, [.null, 3]), (2, [.null, 5])] ∧
    ((run s0 nullOps).tables 0).map (candidates · (.le 0 9)) = some (some [0, 1, 2]) ∧
    ((run s0 nullOps).tables 0).map (select · (.le 0 9)) = some [(0, [4, 1])] ∧
    ((run s0 nullOps).tables 0).map (select · (.ge 0 .null)) = some [] ∧
    ((rollback (run s0 nullOps) 2).1.tables 0).map (select · (.eq 0 .null)) = some [(0, [.null, 1])] ∧
    ((rollback (run s0 nullOps) 2).1.tables 0).map (select · (.le 0 9)) = some [(1, [3, 3])] ∧
    (txInsert (run s0 nullOps) 2 0 [1, .null]).2 = .err .badInput ∧
    (txUpdate (run s0 nullOps) 2 0 .all [(1, .null)]).2 = .err .badInput ∧
    (update (run s0 nullOps) 0 (.idEq 4) [(1, .null)]).2 = .err .badInput := by decide +kernel

/-! ## the lock sweep -/

/-- `cleanup_expired_locks` removes only locks that no longer count: in EVERY state the
    `row_lock_holder` answer of every row is the same before and after the sweep, no table and no
    transaction record changes — so the sweep can run at any point of any interleaving without
    letting a writer past a live lock. -/
theorem lock_sweep_keeps_every_holder (s : State) :
    (cleanupLocks s).1.tables = s.tables ∧ (cleanupLocks s).1.txs = s.txs ∧
    (∀ t i, holder (cleanupLocks s).1 t i = holder s t i) ∧
    (∀ tx t rows, lockBlocked (cleanupLocks s).1 tx t rows = lockBlocked s tx t rows) := by
  have hl : ∀ t i, (cleanupLocks s).1.locks t i = if lockExpiredAt s t i then none else s.locks t i := fun _ _ => rfl
  have hn : (cleanupLocks s).1.now = s.now := rfl
  have hto : (cleanupLocks s).1.lockTimeout = s.lockTimeout := rfl
  refine ⟨rfl, rfl, ?_, ?_⟩
  · intro t i
    unfold holder
    rw [hl, hn, hto]
    unfold lockExpiredAt
    cases h : s.locks t i with
    | none => simp
    | some l =>
      by_cases he : l.expired s.now s.lockTimeout = true <;> simp [he]
  · intro tx t rows
    unfold lockBlocked
    congr 1
    funext i
    rw [hl, hn, hto]
    unfold lockExpiredAt
    cases h : s.locks t i with
    | none => simp
    | some l =>
      by_cases he : l.expired s.now s.lockTimeout = true <;> simp [he]

/-- non-vacuity: one expired and one live lock; the sweep removes one entry, the holders stay -/
example : let s := run s0 (setupIdx ++ [.insert 0 [2, 2], .begin, .begin, .txUpdate 2 0 (.idEq 0) [(0, 4)], .tick 20000,
      .txUpdate 3 0 (.idEq 1) [(0, 5)], .tick 10001])
    holder s 0 0 = none ∧ (s.locks 0 0).isSome ∧ holder s 0 1 = some 3 ∧ (cleanupLocks s).2 = .okN 1 ∧
    ((cleanupLocks s).1.locks 0 0).isNone ∧ holder (cleanupLocks s).1 0 1 = some 3 := by decide +kernel

/-! ## the active-transaction counter -/

theorem filter_flip_length {l : List Nat} (hl : l.Nodup) {A : Nat} (hA : A ∈ l) {p q : Nat → Bool}
    (hp : p A = true) (hq : q A = false) (hsame : ∀ k, k ≠ A → q k = p k) :
    (l.filter q).length + 1 = (l.filter p).length := by
  induction l with
  | nil => cases hA
  | cons x rest ih =>
    have hnd := List.nodup_cons.1 hl
    by_cases hx : x = A
    · subst hx
      have hrest : rest.filter q = rest.filter p := by
        apply List.filter_congr
        intro k hk
        exact hsame k (fun e => hnd.1 (e ▸ hk))
      simp only [List.filter_cons, hp, hq, hrest]
      simp
    · have hA' : A ∈ rest := by
        rcases List.mem_cons.1 hA with h | h
        · exact absurd h.symm hx
        · exact h
      have := ih hnd.2 hA'
      simp only [List.filter_cons, hsame x hx]
      split
      · simp only [List.length_cons]; omega
      · exact this

/-- `active_transaction_count`: `begin` adds one; `commit` and `rollback` of an open transaction (an id
    that was handed out) take exactly one away — whatever the undo reports; every other transaction
    keeps being counted. -/
theorem active_count_tracks_open_transactions (s : State) :
    activeCount (begin s).1 = activeCount s + 1 ∧
    (∀ A, A < s.nextTx → gate s A = none →
      activeCount (commit s A).1 + 1 = activeCount s ∧ activeCount (rollback s A).1 + 1 = activeCount s) := by
  refine ⟨?_, ?_⟩
  · have hf : ∀ k, isActive (begin s).1 k = if k = s.nextTx then true else isActive s k := by
      intro k
      by_cases hk : k = s.nextTx <;> simp [isActive, begin, hk]
    unfold activeCount
    rw [show (begin s).1.nextTx = s.nextTx + 1 from rfl, List.filter_congr (fun k _ => hf k),
      List.range_succ, List.filter_append, List.length_append]
    have h1 : ((List.range s.nextTx).filter fun k => if k = s.nextTx then true else isActive s k) =
        (List.range s.nextTx).filter (isActive s) := by
      apply List.filter_congr
      intro k hk
      have : k ≠ s.nextTx := Nat.ne_of_lt (List.mem_range.1 hk)
      simp [this]
    rw [h1]
    simp
  · intro A hA hg
    obtain ⟨x, hx, hact⟩ := gate_none hg
    have flip : ∀ (s' : State), s'.nextTx = s.nextTx → (∀ k, s'.txs k = if k = A then none else s.txs k) →
        activeCount s' + 1 = activeCount s := by
      intro s' hn htx
      unfold activeCount
      rw [hn]
      apply filter_flip_length List.nodup_range (List.mem_range.2 hA)
      · simp [isActive, hx, hact]
      · simp [isActive, htx]
      · intro k hk; simp [isActive, htx, hk]
    refine ⟨?_, ?_⟩
    · rw [commit_form hg]
      exact flip _ rfl (fun k => rfl)
    · rw [rollback_form hg hx]
      refine flip (setTx (release _ A) A none) (frame_foldl_applyUndo A _ (s, 0)).nextTx ?_
      intro k
      rw [setTx_txs, release_txs, foldl_applyUndo_txs]

/-- non-vacuity -/
example : let s := run s0 (setupIdx ++ [.begin, .begin, .txUpdate 1 0 (.idEq 0) [(0, 4)]])
    activeCount s = 2 ∧ activeCount (commit s 1).1 = 1 ∧ activeCount (rollback s 2).1 = 1 ∧
    activeCount (begin s).1 = 3 ∧ activeCount (run s [.commit 1, .rollback 2, .commit 1]) = 0 := by decide +kernel

end Neumann.RelTx.Props2
