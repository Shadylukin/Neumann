import NeumannModel.RelTx.LockOwner
/-
  C09 — relational transactions are all-or-nothing and writers exclude each other.
  ONLY property theorems and their non-vacuity examples.  Statements are at statement
  granularity (one `Op` = one atomic step) and quantify over every state / every
  sequence of statements of any number of transactions.
-/
namespace Neumann.RelTx.Props
open Neumann.RelTx

/-! The scripts used by the witnesses and the non-vacuity examples (`s0`, `setupIdx`, `setupPlain`,
    `sThree`, `calmOps`) are defined at the end of `Restore.lean`, those of the lock-takeover
    theorems (`s1`, `takeover`, `afterEnd`) at the end of `LockOwner.lean`
    (`insert` is `begin; tx_insert; commit`, so it consumes a transaction id). -/


/-! ## finished transactions cannot be used again -/

/-- After `commit` or `rollback` of an open transaction, and after ANY further sequence of
    statements (including later `begin`s), every call that names the transaction — the three
    writing statements, `tx_select`, `commit`, `rollback` — answers `TransactionNotFound` and
    leaves the state untouched. -/
theorem finished_tx_unusable (s : State) (tx : Nat) (hlt : tx < s.nextTx) (hopen : gate s tx = none)
    (s' : State) (hfin : s' = (commit s tx).1 ∨ s' = (rollback s tx).1) (ops : List Op) :
    let sf := run s' ops
    commit sf tx = (sf, .err .txNotFound) ∧ rollback sf tx = (sf, .err .txNotFound) ∧
    (∀ t vals, txInsert sf tx t vals = (sf, .err .txNotFound)) ∧
    (∀ t c upd, txUpdate sf tx t c upd = (sf, .err .txNotFound)) ∧
    (∀ t c, txDelete sf tx t c = (sf, .err .txNotFound)) ∧
    (∀ t c, txSelect sf tx t c = .err .txNotFound) := by
  have hg : Gone s' tx := by
    rcases hfin with h | h
    · rw [h, commit_form hopen]
      exact ⟨by simp, hlt⟩
    · obtain ⟨x, hx, _⟩ := gate_none hopen
      rw [h, rollback_form hopen hx]
      exact ⟨by simp, by
        show tx < (x.undo.reverse.foldl applyUndo (s, 0)).1.nextTx
        rw [(frame_foldl_applyUndo tx _ (s, 0)).nextTx]; exact hlt⟩
  exact refused_of_gate (gate_of_gone (gone_run hg ops))

/-- non-vacuity: an open transaction exists (and can read), and after its commit its id is refused -/
example : let s := run s0 (setupIdx ++ [.begin])
    1 < s.nextTx ∧ gate s 1 = none ∧ txSelect s 1 0 (.ge 0 0) = .rows [(0, [1, 1])] ∧
    (step (step s (.commit 1)).1 (.txInsert 1 0 [2, 2])).2 = .err .txNotFound ∧
    txSelect (step s (.commit 1)).1 1 0 .all = .err .txNotFound ∧
    txSelect (step s (.rollback 1)).1 1 0 .all = .err .txNotFound := by decide +kernel

/-- a transaction id that was never handed out is refused as well -/
theorem unknown_tx_refused (s : State) (tx : Nat) (h : s.txs tx = none) :
    commit s tx = (s, .err .txNotFound) ∧ rollback s tx = (s, .err .txNotFound) ∧
    (∀ t vals, txInsert s tx t vals = (s, .err .txNotFound)) ∧
    (∀ t c upd, txUpdate s tx t c upd = (s, .err .txNotFound)) ∧
    (∀ t c, txDelete s tx t c = (s, .err .txNotFound)) ∧
    (∀ t c, txSelect s tx t c = .err .txNotFound) := by
  exact refused_of_gate (by unfold gate; rw [h])

/-! ## commit -/

/-- Committing an open transaction succeeds, changes no table, no row and no index entry
    (the statements' effects are already in place and simply stay), drops the transaction
    together with its undo log — so by `finished_tx_unusable` no later `rollback` of it can
    take anything back. -/
theorem commit_permanent (s : State) (tx : Nat) (hopen : gate s tx = none) :
    (commit s tx).2 = .ok ∧ (commit s tx).1.tables = s.tables ∧ (commit s tx).1.txs tx = none ∧
    rollback (commit s tx).1 tx = ((commit s tx).1, .err .txNotFound) := by
  have h1 : (commit s tx).1.txs tx = none := by unfold commit; rw [hopen]; simp
  refine ⟨by unfold commit; rw [hopen], by unfold commit; rw [hopen]; rfl, h1, ?_⟩
  unfold rollback gate; rw [h1]

/-- The stronger reading — "once committed, no other transaction's rollback can undo the
    committed values" — is FALSE of the code: A updates row 1 (lock taken), A's lock times out
    while A stays open, B updates the same row and COMMITS, then A rolls back: the row is back
    at its pre-A value and B's committed update is gone. -/
theorem commit_permanent_vs_later_rollback_witness :
    let ops : List Op := setupIdx ++ [.begin, .begin,
      .txUpdate 1 0 (.idEq 0) [(0, 4)], .tick 30001, .txUpdate 2 0 (.idEq 0) [(0, 5)], .commit 2]
    let sB := run s0 ops
    (runRes s0 ops).getLast? = some .ok ∧
    (sB.tables 0).map (·.rows) = some [⟨true, [5, 1]⟩] ∧
    (step sB (.rollback 1)).2 = .ok ∧
    ((step sB (.rollback 1)).1.tables 0).map (·.rows) = some [⟨true, [1, 1]⟩] ∧
    calm s0 ops = false := by decide +kernel

/-- the index side of the same situation (known finding `duplicate_row_in_index_answer`): after A's
    rollback the hash and b-tree entries of B's committed value AND of A's restored value are
    both present — a range query returns the row twice, the equality query on the committed
    value finds nothing although B committed it. -/
theorem lock_expiry_rollback_index_witness :
    let ops : List Op := setupIdx ++ [.begin, .begin,
      .txUpdate 1 0 (.idEq 0) [(0, 4)], .tick 30001, .txUpdate 2 0 (.idEq 0) [(0, 5)], .commit 2, .rollback 1]
    let fin := run s0 ops
    (fin.tables 0).map (scanAnswer · (.ge 0 0)) = some [(0, [1, 1])] ∧
    (fin.tables 0).map (select · (.ge 0 0)) = some [(0, [1, 1]), (0, [1, 1])] ∧
    (fin.tables 0).map (·.hashE) = some [(0, 5, 0), (0, 1, 0)] ∧
    calm s0 ops = false := by decide +kernel

/-! ## writers exclude each other -/

/-- While transaction A holds an unexpired lock on a row, an update or delete by any other
    transaction B whose condition matches that row changes NOTHING and returns an error;
    when B is open (and the SET list is valid: existing columns, NULL only for nullable columns —
    `updBad = false`) the error is `LockConflict`. -/
theorem row_lock_exclusive (s : State) (A B t i : Nat) (T : Table) (cond : Cond)
    (hAB : A ≠ B) (hh : holder s t i = some A) (hT : s.tables t = some T) (hi : i ∈ matching T cond) :
    (∀ upd, ∃ e, txUpdate s B t cond upd = (s, .err e)) ∧ (∃ e, txDelete s B t cond = (s, .err e)) ∧
    (gate s B = none →
      (∀ upd, updBad T upd = false → txUpdate s B t cond upd = (s, .err .lockConflict)) ∧
      txDelete s B t cond = (s, .err .lockConflict)) := by
  have hb : lockBlocked s B t (matching T cond) = true := lockBlocked_of_holder hh hAB hi
  refine ⟨?_, ?_, ?_⟩
  · intro upd
    unfold txUpdate
    cases hg : gate s B with
    | some e => exact ⟨e, rfl⟩
    | none =>
      simp only [hT]
      by_cases hc : updBad T upd = true
      · exact ⟨updErr T upd, by simp [hc]⟩
      · exact ⟨.lockConflict, by simp [hc, hb]⟩
  · unfold txDelete
    cases hg : gate s B with
    | some e => exact ⟨e, rfl⟩
    | none => exact ⟨.lockConflict, by simp [hT, hb]⟩
  · intro hg
    refine ⟨?_, ?_⟩
    · intro upd hc
      unfold txUpdate
      simp [hg, hT, hc, hb]
    · unfold txDelete
      simp [hg, hT, hb]

/-- the same for NON-transactional `update` / `delete_rows` (they run inside an internal
    transaction): lock conflict, and no table is touched -/
theorem row_lock_exclusive_nontx (s : State) (A t i : Nat) (T : Table) (cond : Cond)
    (hA : A < s.nextTx) (hh : holder s t i = some A) (hT : s.tables t = some T) (hi : i ∈ matching T cond) :
    (∀ upd, updBad T upd = false →
      (update s t cond upd).2 = .err .lockConflict ∧ (update s t cond upd).1.tables = s.tables) ∧
    (delete s t cond).2 = .err .lockConflict ∧ (delete s t cond).1.tables = s.tables := by
  -- the internal transaction is `s.nextTx ≠ A`, begun in a state with the same locks
  have hne : A ≠ (begin s).2 := by simp only [begin]; omega
  have hh' : holder (begin s).1 t i = some A := hh
  have hT' : (begin s).1.tables t = some T := by simpa [begin] using hT
  have hgate : gate (begin s).1 (begin s).2 = none := by simp [gate, begin]
  have key := row_lock_exclusive (begin s).1 A (begin s).2 t i T cond hne hh' hT' hi
  have hlog : (begin s).1.txs (begin s).2 = some { phase := .active, startedAt := s.now, undo := [] } := by
    simp [begin]
  -- rollback of the fresh internal transaction: empty undo log
  have hrb : (rollback (begin s).1 (begin s).2).1.tables = s.tables := by
    unfold rollback
    rw [hgate]
    simp only [hlog, List.reverse_nil, List.foldl_nil, setTx_tables, release_tables]
    simp [begin]
  refine ⟨?_, ?_⟩
  · intro upd hc
    have h1 := (key.2.2 hgate).1 upd hc
    unfold update
    simp only [hT, hc]
    unfold finishAuto
    rw [h1]
    exact ⟨rfl, hrb⟩
  · have h1 := (key.2.2 hgate).2
    unfold delete
    simp only [hT]
    unfold finishAuto
    rw [h1]
    exact ⟨rfl, hrb⟩

/-- "has modified a row" ⇒ holds its lock, update / delete part, for ANY state: after a successful
    `tx_update` / `tx_delete` by A every row its condition matched is locked by A (from that
    statement's time on). -/
theorem updated_deleted_row_locked (s : State) (A t n : Nat) (T : Table) (cond : Cond) (hT : s.tables t = some T) :
    (∀ upd, (txUpdate s A t cond upd).2 = .okN n →
      ∀ i ∈ matching T cond, holder (txUpdate s A t cond upd).1 t i = some A) ∧
    ((txDelete s A t cond).2 = .okN n → ∀ i ∈ matching T cond, holder (txDelete s A t cond).1 t i = some A) := by
  refine ⟨?_, ?_⟩
  · intro upd hok i hi
    obtain ⟨_, hform⟩ := txUpdate_ok_form hT hok
    rw [hform]
    have hne : (matching T cond).isEmpty = false := by
      cases h : matching T cond with
      | nil => rw [h] at hi; cases hi
      | cons _ _ => rfl
    simp only [hne, Bool.false_eq_true, ↓reduceIte]
    rw [(Frame.foldl (frame_updateRow A t upd) _ _).holder_eq]
    exact holder_lockAll s A t i _ hi
  · intro hok i hi
    obtain ⟨_, hform⟩ := txDelete_ok_form hT hok
    rw [hform]
    have hne : (matching T cond).isEmpty = false := by
      cases h : matching T cond with
      | nil => rw [h] at hi; cases hi
      | cons _ _ => rfl
    simp only [hne, Bool.false_eq_true, ↓reduceIte]
    rw [(Frame.foldl (frame_deleteRow A t) _ _).holder_eq]
    exact holder_lockAll s A t i _ hi

/-- "has modified a row" ⇒ holds its lock, in every state reachable from the empty engine by ANY
    sequence of statements: after a successful `tx_update` / `tx_delete` by A every row the
    condition matched is locked by A, and after a successful `tx_insert` by A the row it created
    (slab id = old table length) is locked by A — the `try_lock` whose result the code discards can
    never fail, because locks only ever sit on rows that exist (`lr_run`) and the new id is fresh. -/
theorem modified_row_locked (a b : Nat) (ops : List Op) (A t n : Nat) (T : Table) (cond : Cond)
    (hT : (run (init a b) ops).tables t = some T) :
    let s := run (init a b) ops
    (∀ upd, (txUpdate s A t cond upd).2 = .okN n →
      ∀ i ∈ matching T cond, holder (txUpdate s A t cond upd).1 t i = some A) ∧
    ((txDelete s A t cond).2 = .okN n → ∀ i ∈ matching T cond, holder (txDelete s A t cond).1 t i = some A) ∧
    (∀ vals, (txInsert s A t vals).2 = .okN n → n = T.rows.length ∧ holder (txInsert s A t vals).1 t n = some A) := by
  intro s
  have h := updated_deleted_row_locked s A t n T cond hT
  exact ⟨h.1, h.2, fun vals hok => txInsert_locks_row (lr_run (lr_init a b) ops) hT hok⟩

/-- non-vacuity of `row_lock_exclusive` / `modified_row_locked`: A updates row 0 and inserts row 1;
    B's update and delete of either, and non-transactional statements, all get `LockConflict` -/
example : let s := run s0 (setupIdx ++ [.begin, .begin, .txUpdate 1 0 (.idEq 0) [(0, 4)], .txInsert 1 0 [6, 6]])
    holder s 0 0 = some 1 ∧ holder s 0 1 = some 1 ∧ (step s (.txUpdate 2 0 .all [(1, 0)])).2 = .err .lockConflict ∧
    (step s (.txDelete 2 0 (.idEq 0))).2 = .err .lockConflict ∧ (step s (.txDelete 2 0 (.idEq 1))).2 = .err .lockConflict ∧
    (step s (.txUpdate 2 0 (.eq 0 6) [(1, 0)])).2 = .err .lockConflict ∧
    (step s (.update 0 (.eq 0 4) [(1, 0)])).2 = .err .lockConflict ∧ (step s (.delete 0 .all)).2 = .err .lockConflict := by
  decide +kernel

/-- REGRESSION WITNESS on the code before dcf916e8 (`stepOld`): `tx_insert` took NO row lock, so
    another transaction could delete (or update) the uncommitted row.  On the current code the
    same statements answer `LockConflict` (second half). -/
theorem inserted_row_not_locked_witness :
    let sOld := runOld s0 (setupIdx ++ [.begin, .begin, .txInsert 1 0 [4, 4]])
    let s := run s0 (setupIdx ++ [.begin, .begin, .txInsert 1 0 [4, 4]])
    (holder sOld 0 1 = none ∧ (stepOld sOld (.txDelete 2 0 (.idEq 1))).2 = .okN 1 ∧
      (stepOld sOld (.txUpdate 2 0 (.idEq 1) [(0, 5)])).2 = .okN 1) ∧
    (holder s 0 1 = some 1 ∧ (step s (.txDelete 2 0 (.idEq 1))).2 = .err .lockConflict ∧
      (step s (.txUpdate 2 0 (.idEq 1) [(0, 5)])).2 = .err .lockConflict) := by decide +kernel

/-! ## locks disappear when the transaction ends or the lock times out -/

/-- In every state reachable from the empty engine by ANY sequence of statements: when an open
    transaction A commits or rolls back, no lock names A afterwards (`row_lock_holder` never
    answers A, `locks_held_by(A) = 0`); and a lock older than the timeout has no holder and
    blocks nobody. -/
theorem locks_released_on_end_or_expiry (a b : Nat) (ops : List Op) (A : Nat) :
    let s := run (init a b) ops
    (gate s A = none → ∀ s', (s' = (commit s A).1 ∨ s' = (rollback s A).1) →
      (∀ t i l, s'.locks t i = some l → l.tx ≠ A) ∧ (∀ t i, holder s' t i ≠ some A) ∧ s'.txLocks A = []) ∧
    (∀ t i l d, s.locks t i = some l → s.now + d - l.acquiredAt > s.lockTimeout →
      holder (tick s d) t i = none ∧ ∀ B, lockBlocked (tick s d) B t [i] = false) := by
  intro s
  have hinv : LockIdx s := lockIdx_run (lockIdx_init a b) ops
  refine ⟨?_, ?_⟩
  · exact fun hopen s' hs' => ended_tx_holds_nothing hinv hopen hs'
  · intro t i l d hl hd
    have he : l.expired (s.now + d) s.lockTimeout = true := by simp [Lock.expired, hd]
    refine ⟨by simp [holder, tick, hl, he], ?_⟩
    intro B
    simp [lockBlocked, tick, hl, he]

/-- non-vacuity: A's lock is there, is gone after commit, and is gone after the timeout -/
example : let s := run s0 (setupIdx ++ [.begin, .begin, .txUpdate 1 0 (.idEq 0) [(0, 4)]])
    gate s 1 = none ∧ holder s 0 0 = some 1 ∧ holder (step s (.commit 1)).1 0 0 = none ∧
    holder (step s (.rollback 1)).1 0 0 = none ∧ holder (step s (.tick 30001)).1 0 0 = none ∧
    holder (step s (.tick 30000)).1 0 0 = some 1 ∧
    (step (step s (.tick 30001)).1 (.txUpdate 2 0 (.idEq 0) [(0, 5)])).2 = .okN 1 := by decide +kernel

/-! ## the end of a transaction removes only its OWN locks -/

/-- `release` looks at the owner.  In EVERY state — reachable or not, so in particular in every state
    reached by any statement sequence with lock expiries and takeovers, where the key of a taken-over
    lock is still listed under its OLD holder (`try_lock` does not clean `tx_locks`) — the end of
    transaction A by `commit`, by `rollback`, or by `cleanup_expired` (which ends every timed-out
    transaction) leaves every row lock whose current holder is somebody else exactly as it is: same
    holder, same acquisition time, hence the same `row_lock_holder` answer; and the other
    transaction's key list is untouched. -/
theorem release_keeps_foreign_locks (s : State) (A t i : Nat) (l : Lock)
    (hl : s.locks t i = some l) (hne : l.tx ≠ A) :
    ((commit s A).1.locks t i = some l ∧ holder (commit s A).1 t i = holder s t i ∧
      (commit s A).1.txLocks l.tx = s.txLocks l.tx) ∧
    ((rollback s A).1.locks t i = some l ∧ holder (rollback s A).1 t i = holder s t i ∧
      (rollback s A).1.txLocks l.tx = s.txLocks l.tx) ∧
    (txExpired s l.tx = false →
      (cleanupTxs s).1.locks t i = some l ∧ holder (cleanupTxs s).1 t i = holder s t i ∧
      (cleanupTxs s).1.txLocks l.tx = s.txLocks l.tx) := by
  have one := foldl_release_foreign [A] s hl (by simpa using hne)
  refine ⟨?_, ?_, fun hx => foldl_release_foreign _ s hl ?_⟩
  · rcases commit_cases s A with ⟨e, h⟩ | ⟨_, h⟩ <;> rw [h]
    · exact ⟨hl, rfl, rfl⟩
    · exact one
  · rcases rollback_cases s A with ⟨e, h⟩ | ⟨x, _, _, h⟩ <;> rw [h]
    · exact ⟨hl, rfl, rfl⟩
    · have f := frame_foldl_applyUndo A x.undo.reverse (s, 0)
      have r := foldl_release_foreign [A] _ (f.locks ▸ hl) (by simpa using hne)
      exact ⟨r.1, r.2.1.trans (f.holder_eq t i), r.2.2.trans (congrFun f.txLocks _)⟩
  · rw [List.mem_filter, hx]
    exact fun hc => nomatch hc.2

/-- non-vacuity: after the takeover B = 2 holds row 0, the key is STILL in the list of the old holder
    A = 1 (and in B's), A is open; A's commit and rollback leave B's lock; 10 s later A has timed
    out, B has not, and `cleanup_expired` leaves B's lock -/
example : let s := run s1 takeover
    s.locks 0 0 = some ⟨2, 30001⟩ ∧ (0, 0) ∈ s.txLocks 1 ∧ (0, 0) ∈ s.txLocks 2 ∧ gate s 1 = none ∧ gate s 2 = none ∧
    holder s 0 0 = some 2 ∧ holder (commit s 1).1 0 0 = some 2 ∧ holder (rollback s 1).1 0 0 = some 2 ∧
    txExpired (tick s 10000) 1 = true ∧ txExpired (tick s 10000) 2 = false ∧
    (cleanupTxs (tick s 10000)).2 = .okN 1 ∧ holder (cleanupTxs (tick s 10000)).1 0 0 = some 2 := by decide +kernel

/-- Run level, every statement: B holds an unexpired lock on a row (B an id that has been handed out).
    Then after ANY script that does not end B (no `commit B` / `rollback B`, no `cleanup_expired` while B
    is timed out) and during which B's lock does not time out (computable predicate `spares`) —
    statements, commits, rollbacks and timeout cleanup of any other transactions, non-transactional
    statements (whose internal transaction ends inside them), DDL, lock sweeps, ticks — B still holds
    the row, and every update / delete by anybody else whose condition matches the row fails and
    changes nothing.  No reachability hypothesis. -/
theorem held_lock_survives_others (s : State) (B t i : Nat) (hh : holder s t i = some B) (hB : B < s.nextTx)
    (ops : List Op) (hsp : spares s B t i ops = true) :
    holder (run s ops) t i = some B ∧
    (∀ C cond T, C ≠ B → (run s ops).tables t = some T → i ∈ matching T cond →
      (∀ upd, ∃ e, txUpdate (run s ops) C t cond upd = (run s ops, .err e)) ∧
      (∃ e, txDelete (run s ops) C t cond = (run s ops, .err e))) := by
  have h := holder_run_of_spares hh hB ops hsp
  refine ⟨h, ?_⟩
  intro C cond T hC hT hi
  have k := row_lock_exclusive (run s ops) B C t i T cond (fun e => hC e.symm) h hT hi
  exact ⟨k.1, k.2.1⟩

/-- THE TAKEOVER CASE.  Row `(t,i)` carries a lock of A that is listed under A; another transaction B
    writes the row successfully (update or delete whose condition matches it).  Then
      * A's lock had timed out (the only way B can get past it),
      * B now holds the row — and the key is STILL in A's key list,
      * A's end — commit, rollback, or `cleanup_expired` while B has not timed out — leaves B the holder,
      * more generally after ANY script that spares B (see `held_lock_survives_others`; e.g.
        `[commit A, begin, tx_update C …]`) B holds the row and every third transaction's update /
        delete matching the row fails with the state unchanged.
    Any state, any statement sequence afterwards. -/
theorem taken_over_lock_survives_old_holder_end (s : State) (A B t i n : Nat) (T : Table) (cond : Cond) (lA : Lock)
    (hT : s.tables t = some T) (hi : i ∈ matching T cond)
    (hlA : s.locks t i = some lA) (hA : lA.tx = A) (hlist : (t, i) ∈ s.txLocks A) (hAB : A ≠ B) (hB : B < s.nextTx)
    (sB : State)
    (hw : (∃ upd, sB = (txUpdate s B t cond upd).1 ∧ (txUpdate s B t cond upd).2 = .okN n) ∨
          (sB = (txDelete s B t cond).1 ∧ (txDelete s B t cond).2 = .okN n)) :
    lA.expired s.now s.lockTimeout = true ∧
    holder sB t i = some B ∧ (t, i) ∈ sB.txLocks A ∧
    holder (commit sB A).1 t i = some B ∧ holder (rollback sB A).1 t i = some B ∧
    (txExpired sB B = false → holder (cleanupTxs sB).1 t i = some B) ∧
    (∀ ops, spares sB B t i ops = true →
      holder (run sB ops) t i = some B ∧
      (∀ C cond' T', C ≠ B → (run sB ops).tables t = some T' → i ∈ matching T' cond' →
        (∀ upd, ∃ e, txUpdate (run sB ops) C t cond' upd = (run sB ops, .err e)) ∧
        (∃ e, txDelete (run sB ops) C t cond' = (run sB ops, .err e)))) := by
  have hexp : lockBlocked s B t (matching T cond) = false → lA.expired s.now s.lockTimeout = true := by
    intro hb
    unfold lockBlocked at hb
    rw [List.any_eq_false] at hb
    have := hb i hi
    simp only [hlA, hA] at this
    have hne : (A != B) = true := by simpa using hAB
    simpa [hne] using this
  have hlistA : ∀ rows : List Nat, (t, i) ∈ (if rows.isEmpty then s else lockAll s B t rows).txLocks A := by
    intro rows
    split
    · exact hlist
    · simp only [lockAll, hAB, ↓reduceIte]; exact hlist
  -- the three facts about `sB` that the rest needs
  have key : lA.expired s.now s.lockTimeout = true ∧ holder sB t i = some B ∧ (t, i) ∈ sB.txLocks A ∧ B < sB.nextTx := by
    rcases hw with ⟨upd, rfl, hok⟩ | ⟨rfl, hok⟩
    · obtain ⟨hb, hform⟩ := txUpdate_ok_form hT hok
      refine ⟨hexp hb, (updated_deleted_row_locked s B t n T cond hT).1 upd hok i hi, ?_,
        Nat.lt_of_lt_of_le hB (moves_txUpdate (fun _ => False) s B t cond upd).nextTx_le⟩
      rw [hform, (Frame.foldl (frame_updateRow B t upd) _ _).txLocks]
      exact hlistA _
    · obtain ⟨hb, hform⟩ := txDelete_ok_form hT hok
      refine ⟨hexp hb, (updated_deleted_row_locked s B t n T cond hT).2 hok i hi, ?_,
        Nat.lt_of_lt_of_le hB (moves_txDelete (fun _ => False) s B t cond).nextTx_le⟩
      rw [hform, (Frame.foldl (frame_deleteRow B t) _ _).txLocks]
      exact hlistA _
  obtain ⟨h1, h2, h3, h4⟩ := key
  obtain ⟨l, hl, hlB, _⟩ := holder_some h2
  have hne : l.tx ≠ A := by rw [hlB]; exact fun e => hAB e.symm
  have r := release_keeps_foreign_locks sB A t i l hl hne
  refine ⟨h1, h2, h3, by rw [r.1.2.1]; exact h2, by rw [r.2.1.2.1]; exact h2, ?_, ?_⟩
  · intro hx
    rw [(r.2.2 (by rw [hlB]; exact hx)).2.1]; exact h2
  · intro ops hsp
    exact held_lock_survives_others sB B t i h2 h4 ops hsp

/-- non-vacuity of `taken_over_lock_survives_old_holder_end` / `held_lock_survives_others`: the state
    before B's write has A's expired lock on row 0, listed under A; B's update answers `Ok(1)`; the
    three ends of A followed by C's attempts spare B; C gets `LockConflict` twice; B's rollback then
    restores exactly the pre-image B recorded, `[4,1]` (A's value — when A rolled back in between, A's
    undo had overwritten B's write: that is the known lock-expiry finding
    `commit_permanent_vs_later_rollback_witness`, not a lock-table matter) -/
example : let s := run s1 (takeover.take 8)
    s.locks 0 0 = some ⟨1, 0⟩ ∧ (0, 0) ∈ s.txLocks 1 ∧ 2 < s.nextTx ∧ 0 ∈ matching ((s.tables 0).getD default) (.idEq 0) ∧
    (s.locks 0 0).map (·.expired s.now s.lockTimeout) = some true ∧
    (txUpdate s 2 0 (.idEq 0) [(0, 5)]).2 = .okN 1 ∧ holder (txUpdate s 2 0 (.idEq 0) [(0, 5)]).1 0 0 = some 2 ∧
    (takeover.drop 8 = [.txUpdate 2 0 (.idEq 0) [(0, 5)]]) := by decide +kernel

example : let sB := run s1 takeover
    spares sB 2 0 0 ([.commit 1] ++ afterEnd.take 3) = true ∧ spares sB 2 0 0 ([.rollback 1] ++ afterEnd.take 3) = true ∧
    spares sB 2 0 0 ([.tick 10000, .cleanupTxs] ++ afterEnd.take 3) = true ∧
    spares sB 2 0 0 [.tick 30001] = false ∧ spares sB 2 0 0 [.commit 2] = false ∧
    (runRes sB ([.commit 1] ++ afterEnd)).drop 2 = [.err .lockConflict, .err .lockConflict, .ok] ∧
    (runRes sB ([.rollback 1] ++ afterEnd)).drop 2 = [.err .lockConflict, .err .lockConflict, .ok] ∧
    (runRes sB ([.tick 10000, .cleanupTxs] ++ afterEnd)).drop 3 = [.err .lockConflict, .err .lockConflict, .ok] ∧
    ((run sB ([.commit 1] ++ afterEnd)).tables 0).map (scanAnswer · .all) = some [(0, [4, 1])] ∧
    ((run sB ([.rollback 1] ++ afterEnd)).tables 0).map (scanAnswer · .all) = some [(0, [4, 1])] ∧
    ((run sB ([.tick 10000, .cleanupTxs] ++ afterEnd)).tables 0).map (scanAnswer · .all) = some [(0, [4, 1])] := by decide +kernel

/-- WITNESS that the theorems above tell the code from its "simplified" variant: with a `release` that
    drops every key recorded for the ending transaction WITHOUT looking at the current owner
    (`releaseNoOwnerCheck`, `stepNoOwnerCheck`), on the 3-transaction script — A updates row 0, A's
    lock times out, B updates the row, A ends (commit | rollback | timeout cleanup), C updates the row —
    B's live lock is deleted by A's end (`row_lock_holder` = none although B is open and wrote the
    row), C's update is accepted (`Ok(1)`, no `LockConflict`), and B's rollback then overwrites C's
    value.  The current code (`run` / `runRes`, second half) keeps B the holder and refuses C. -/
theorem release_no_owner_check_witness :
    let sB := run s1 takeover
    let cU : Op := .txUpdate 3 0 (.idEq 0) [(0, 6)]
    -- the variant
    (holder sB 0 0 = some 2 ∧ gate sB 2 = none ∧ (sB.locks 0 0).map (·.tx) ≠ some 1 ∧
      holder (commitNoOwnerCheck sB 1).1 0 0 = none ∧ holder (rollbackNoOwnerCheck sB 1).1 0 0 = none ∧
      holder (cleanupTxsNoOwnerCheck (tick sB 10000)).1 0 0 = none ∧
      runResNoOwnerCheck sB [.commit 1, .begin, cU, .rollback 2] = [.ok, .okN 3, .okN 1, .ok] ∧
      runResNoOwnerCheck sB [.rollback 1, .begin, cU, .rollback 2] = [.ok, .okN 3, .okN 1, .ok] ∧
      runResNoOwnerCheck sB [.tick 10000, .cleanupTxs, .begin, cU, .rollback 2] = [.ok, .okN 1, .okN 3, .okN 1, .ok] ∧
      ((runNoOwnerCheck sB [.commit 1, .begin, cU]).tables 0).map (scanAnswer · .all) = some [(0, [6, 1])] ∧
      gate (runNoOwnerCheck sB [.commit 1, .begin, cU]) 3 = none ∧
      ((runNoOwnerCheck sB [.commit 1, .begin, cU, .rollback 2]).tables 0).map (scanAnswer · .all) = some [(0, [4, 1])]) ∧
    -- the code
    (holder (commit sB 1).1 0 0 = some 2 ∧ holder (rollback sB 1).1 0 0 = some 2 ∧
      holder (cleanupTxs (tick sB 10000)).1 0 0 = some 2 ∧
      runRes sB [.commit 1, .begin, cU, .rollback 2] = [.ok, .okN 3, .err .lockConflict, .ok] ∧
      runRes sB [.rollback 1, .begin, cU, .rollback 2] = [.ok, .okN 3, .err .lockConflict, .ok] ∧
      runRes sB [.tick 10000, .cleanupTxs, .begin, cU, .rollback 2] = [.ok, .okN 1, .okN 3, .err .lockConflict, .ok]) := by
  decide +kernel

/-! ## rollback -/

/-- FRAME (every state, every undo log): rolling back touches only rows named in the
    transaction's undo log — every other row of every table, alive or dead, keeps its exact
    content, and the result is `Ok` or `RollbackFailed`, after which the transaction is gone. -/
theorem rollback_changes_only_own_rows (s : State) (A : Nat) (x : Tx) (hx : s.txs A = some x)
    (hact : x.phase = .active) (t i : Nat) (hfree : ∀ u ∈ x.undo, ¬(u.table = t ∧ u.row = i)) :
    rowAt (rollback s A).1 t i = rowAt s t i ∧ (rollback s A).1.txs A = none := by
  have hg : gate s A = none := by simp [gate, hx, hact]
  unfold rollback
  rw [hg]
  simp only [hx]
  refine ⟨?_, by simp⟩
  have := foldl_applyUndo_rowAt_other x.undo.reverse (s, 0) t i
    (fun u hu => hfree u (List.mem_reverse.1 hu))
  simpa [rowAt] using this


/-- what `tx_update` / `tx_delete` / `tx_insert` record: the undo entry of a row holds exactly the
    row's values just before the statement (checked here on the per-row bodies) -/
theorem undo_records_preimage (s : State) (A t i : Nat) (T : Table) (r : Row) (x : Tx)
    (hT : s.tables t = some T) (hr : T.rows[i]? = some r) (hx : s.txs A = some x) :
    (∀ upd, ∃ chg, ((updateRow A t upd s i).txs A).map (·.undo) = some (x.undo ++ [.updated t i r.vals chg]) ∧
        rowAt (updateRow A t upd s i) t i = some { r with vals := applyUpd upd r.vals }) ∧
    (∃ idx, ((deleteRow A t s i).txs A).map (·.undo) = some (x.undo ++ [.deleted t i r.vals idx]) ∧
        rowAt (deleteRow A t s i) t i = some { r with alive := false }) := by
  refine ⟨fun upd => ?_, ?_⟩
  · rw [updateRow_form hx hT hr]
    exact ⟨_, by simp only [setTable_txs, setTx_txs, ↓reduceIte, Option.map_some]; rfl,
      by simp only [rowAt, setTable_tables, ↓reduceIte, Option.bind_some, updateT]; exact set_self hr⟩
  · rw [deleteRow_form hx hT hr]
    exact ⟨_, by simp only [setTable_txs, setTx_txs, ↓reduceIte, Option.map_some]; rfl,
      by simp only [rowAt, setTable_tables, ↓reduceIte, Option.bind_some, deleteT]; exact set_self hr⟩

/-- `rollback_restores` for ANY state, reachable or not, calm or not (PARTIAL: one undo entry).
    For any open transaction A whose undo log names row `(t,i)` exactly once (entry `u`; the other
    entries, before and after, are about other rows): after `rollback A` the row is exactly
    `undoRow u` of its current content — i.e.
      * `UpdatedRow old`  and the row is alive   ⇒ alive with values `old`,
      * `DeletedRow old`  and the row is dead    ⇒ alive again with values `old`,
      * `InsertedRow`                            ⇒ dead.
    MISSING here (and supplied, for the states reachable under the two side conditions, by
    `rollback_restores` below): rows written several times by the same transaction, the fact that
    nobody else changed the row since, and the index entries. -/
theorem rollback_restores_partial (s : State) (A t i : Nat) (x : Tx) (T : Table) (r : Row)
    (hx : s.txs A = some x) (hact : x.phase = .active)
    (pre post : List Undo) (u : Undo) (hlog : x.undo = pre ++ [u] ++ post)
    (hu : u.table = t ∧ u.row = i) (hothers : ∀ v ∈ pre ++ post, ¬(v.table = t ∧ v.row = i))
    (hT : s.tables t = some T) (hr : T.rows[i]? = some r) :
    rowAt (rollback s A).1 t i = some (undoRow T.ncols u r) := by
  have hg : gate s A = none := by simp [gate, hx, hact]
  obtain ⟨ht, hi⟩ := hu
  subst ht; subst hi
  unfold rollback
  rw [hg]
  simp only [hx, hlog, List.reverse_append, List.reverse_cons, List.reverse_nil, List.nil_append,
    List.foldl_append, List.foldl_cons, List.foldl_nil]
  have hrow0 : rowAt s u.table u.row = some r := by simp [rowAt, hT, hr]
  have hn0 : ncolsAt s u.table = some T.ncols := by simp [ncolsAt, hT]
  -- entries recorded after `u` are undone first and do not touch the row
  have h1 := foldl_applyUndo_rowAt_other post.reverse (s, 0) u.table u.row
    (fun v hv => hothers v (List.mem_append_right _ (List.mem_reverse.1 hv)))
  have h1n := foldl_applyUndo_ncolsAt post.reverse (s, 0) u.table
  have h2 := applyUndo_rowAt_self (post.reverse.foldl applyUndo (s, 0)) u T.ncols r
    (by rw [h1n]; exact hn0) (by rw [h1]; exact hrow0)
  -- entries recorded before `u` are undone last and do not touch it either
  have h3 := foldl_applyUndo_rowAt_other pre.reverse (applyUndo (post.reverse.foldl applyUndo (s, 0)) u) u.table u.row
    (fun v hv => hothers v (List.mem_append_left _ (List.mem_reverse.1 hv)))
  simp only [rowAt, setTx_tables, release_tables] at h2 h3 ⊢
  rw [h3, h2]

/-- non-vacuity of `rollback_restores_partial`: the three cases of `undoRow`, and the index-served
    queries after the rollback -/
example :
    (sThree.txs 2).map (·.undo) = some [.updated 0 0 [1, 1] [(0, 1, 4), (0, 1, 4)], .deleted 0 1 [2, 2] [(0, 2), (0, 2)],
                                        .inserted 0 2 [(0, 3), (0, 3)]] ∧
    (sThree.tables 0).map (·.rows) = some [⟨true, [4, 1]⟩, ⟨false, [2, 2]⟩, ⟨true, [3, 3]⟩] ∧
    ((rollback sThree 2).1.tables 0).map (·.rows) = some [⟨true, [1, 1]⟩, ⟨true, [2, 2]⟩, ⟨false, [3, 3]⟩] := by decide +kernel

example :
    ((rollback sThree 2).1.tables 0).map (fun T => (select T (.ge 0 0), select T (.eq 0 1), select T (.eq 0 4))) =
      some ([(0, [1, 1]), (1, [2, 2])], [(0, [1, 1])], []) := by decide +kernel

/-- `rollback_restores`, run level.  Take ANY sequence `ops` of statements of any number of
    interleaved transactions, non-transactional statements, index DDL, clock ticks and sweeps,
    starting from the empty engine, that is `calm`: (a) no lock expires (after every `tick` every
    lock in the table is still within its timeout) and (b) no index is created or dropped on a
    table while a transaction that has written that table is open.  Let A be open at the end.
    Then `rollback A`
      (0) answers `Ok` (no undo entry fails);
      (1) leaves every row A ever wrote with exactly the live content it had just BEFORE A's first
          write to it (`p` = the statements before that write; a row A inserted is dead again) —
          whatever chain of inserts / updates / deletes A applied to it since;
      (2) leaves every other row of every table — committed or uncommitted work of anybody else —
          exactly as it is;
      (3) leaves every index exact: every index-answered `select` equals the full-scan answer of
          the restored tables;
      (4) touches no other transaction's undo log and no other transaction's locks.
    Together with `written_row_untouched_by_others` (between A's first write and the rollback no
    statement of anybody else changes the row) this is: "as if none of A's statements had run".
    The two excluded situations are exactly the known findings: `commit_permanent_vs_later_rollback_witness`
    / `lock_expiry_rollback_index_witness` (a lock expired) and `rollback_index_restore_witness`
    (index created while the writer was open). -/
theorem rollback_restores (a b : Nat) (ops : List Op) (A : Nat)
    (hcalm : calm (init a b) ops = true) (hopen : gate (run (init a b) ops) A = none) :
    let sf := run (init a b) ops
    let s' := (rollback sf A).1
    (rollback sf A).2 = .ok ∧
    (∀ p op q t i, ops = p ++ op :: q → gate (run (init a b) p) A = none →
        ¬Names (run (init a b) p) A t i → Names (run (init a b) (p ++ [op])) A t i →
        liveAt s' t i = liveAt (run (init a b) p) t i) ∧
    (∀ t i, ¬Names sf A t i → rowAt s' t i = rowAt sf t i) ∧
    (∀ t T, s'.tables t = some T → ∀ cond, select T cond = scanAnswer T cond) ∧
    (∀ B, B ≠ A → s'.txs B = sf.txs B) ∧
    (∀ t i l, sf.locks t i = some l → l.tx ≠ A → s'.locks t i = some l) := by
  intro sf s'
  have hinv : Inv sf := inv_run (inv_init a b) ops hcalm
  obtain ⟨xf, hxf, _⟩ := gate_none hopen
  have hunnamed : ∀ (s : State) (x : Tx) t i, s.txs A = some x → ¬Names s A t i →
      restoredRow s x.undo t i = rowAt s t i := by
    intro s x t i hx hn
    unfold restoredRow
    rw [not_names_filter hx hn]
    cases hT : s.tables t with
    | none => simp [ncolsAt, rowAt, hT]
    | some T =>
      simp only [ncolsAt, hT, Option.map_some, rowAt, Option.bind_some]
      cases T.rows[i]? <;> rfl
  refine ⟨rollback_ok hinv hopen, ?_, ?_, ?_, ?_, ?_⟩
  · intro p op q t i hops hgp hnp hn1
    have hsplit : p ++ op :: q = (p ++ [op]) ++ q := by simp
    have hsf : sf = run (run (init a b) (p ++ [op])) q := by
      show run (init a b) ops = _
      rw [hops, hsplit, run_append]
    have hc := hcalm
    rw [hops] at hc
    obtain ⟨hcp, hcq⟩ := calm_append hc
    simp only [calm, Bool.and_eq_true] at hcq
    have hs1 : run (init a b) (p ++ [op]) = (step (run (init a b) p) op).1 := by
      rw [run_append]; rfl
    have hip : Inv (run (init a b) p) := inv_run (inv_init a b) p hcp
    have hi1 : Inv (run (init a b) (p ++ [op])) := by rw [hs1]; exact (step_ok hip op hcq.1).inv
    obtain ⟨xp, hxp, _⟩ := gate_none hgp
    obtain ⟨x1, hx1, _⟩ := id hn1
    have k1 := (step_keeps hip hcq.1 hxp (by rw [← hs1]; exact hx1)).2 t i (by rw [← hs1]; exact hn1)
    rw [← hs1, hunnamed _ _ t i hxp hnp] at k1
    have hxf' : (run (run (init a b) (p ++ [op])) q).txs A = some xf := by rw [← hsf]; exact hxf
    have k2 := run_keeps hi1 (by rw [hs1]; exact hcq.2) hx1 hn1 hxf'
    rw [← hsf] at k2
    show liveOf (rowAt (rollback sf A).1 t i) = _
    rw [rowAt_rollback hopen hxf, k2, k1]
    rfl
  · intro t i hn
    show rowAt (rollback sf A).1 t i = _
    rw [rowAt_rollback hopen hxf, hunnamed _ _ t i hxf hn]
  · intro t T hT cond
    exact select_eq_scan T ((stepOK_rollback hinv A).inv.idx t T hT) cond
  · intro B hB
    show (rollback sf A).1.txs B = _
    rw [rollback_form hopen hxf]
    simp only [setTx_txs, hB, ↓reduceIte, release_txs]
    rw [foldl_applyUndo_txs]
  · intro t i l hl hne
    show (rollback sf A).1.locks t i = _
    rw [rollback_form hopen hxf]
    simp only [setTx_locks]
    exact release_keeps (by rw [(frame_foldl_applyUndo A _ (sf, 0)).locks]; exact hl) hne

/-- Between A's first write of a row and the end of A, nobody else changes that row: in a calm
    run, a statement that is not A's own (another transaction's statement, commit or rollback, a
    non-transactional statement, DDL, a sweep) leaves every row named in open A's undo log
    exactly as it is — as long as A is still open afterwards. -/
theorem written_row_untouched_by_others (a b : Nat) (ops : List Op) (op : Op) (A t i : Nat)
    (hcalm : calm (init a b) (ops ++ [op]) = true) (hn : Names (run (init a b) ops) A t i)
    (ha : actor op ≠ some A) (hopen : gate (step (run (init a b) ops) op).1 A = none) :
    rowAt (step (run (init a b) ops) op).1 t i = rowAt (run (init a b) ops) t i := by
  obtain ⟨hc1, hc2⟩ := calm_append hcalm
  simp only [calm, Bool.and_eq_true] at hc2
  obtain ⟨x, hx, _⟩ := gate_none hopen
  exact step_named_row_untouched (inv_run (inv_init a b) ops hc1) hc2.1 hn ha (by rw [hx]; simp)

set_option maxRecDepth 8000 in
/-- non-vacuity of `rollback_restores` / `written_row_untouched_by_others`: `calmOps` is a calm
    script with DDL, a tick, three interleaved transactions (A = 3 open with a chain
    update-update-delete on row 0 and insert-update on row 4; B = 4 open with an uncommitted insert
    and update; C = 6 committed), non-transactional statements and a lock conflict.  `p` = its
    first 9 statements, `op` = A's first update of row 0. -/
example : calm s0 calmOps = true ∧ gate (run s0 calmOps) 3 = none ∧ gate (run s0 (calmOps.take 9)) 3 = none ∧
    calmOps = calmOps.take 9 ++ .txUpdate 3 0 (.idEq 0) [(0, 4)] :: calmOps.drop 10 := by decide +kernel

set_option maxRecDepth 8000 in
example : ¬Names (run s0 (calmOps.take 9)) 3 0 0 ∧
    Names (run s0 (calmOps.take 9 ++ [.txUpdate 3 0 (.idEq 0) [(0, 4)]])) 3 0 0 ∧
    ((run s0 calmOps).txs 3).map (·.undo.length) = some 5 ∧
    (runRes s0 calmOps)[18]? = some (.err .lockConflict) := by decide +kernel

set_option maxRecDepth 8000 in
example : liveAt (run s0 (calmOps.take 9)) 0 0 = some [1, 1] ∧ liveAt (run s0 calmOps) 0 0 = none ∧
    liveAt (rollback (run s0 calmOps) 3).1 0 0 = some [1, 1] := by decide +kernel

set_option maxRecDepth 8000 in
example :
    ((run s0 calmOps).tables 0).map (scanAnswer · .all) = some [(1, [2, 9]), (2, [8, 1]), (3, [7, 7]), (4, [5, 0])] ∧
    ((rollback (run s0 calmOps) 3).1.tables 0).map (scanAnswer · .all) = some [(0, [1, 1]), (1, [2, 9]), (2, [8, 1]), (3, [7, 7])] ∧
    ((rollback (run s0 calmOps) 3).1.tables 0).map (select · (.ge 0 0)) = some [(0, [1, 1]), (1, [2, 9]), (2, [8, 1]), (3, [7, 7])] := by
  decide +kernel

/-! ## the undo of an update: remove the new index entry, THEN add the old one -/

/-- `undo_update_keeps_index_exact`.  Take ANY table whose indexes are exact, any live row `i` and the
    undo entry `tx_update` recorded for it: `old` = the row's values before the statement, the
    change list `mkChg` = one `(column, old value, new value)` for EVERY indexed column named in the
    SET list `upd` — no assumption that the new value differs from the old one, so an UPDATE that
    writes an indexed column back with the value the row already holds (`old value = new value`) is
    included, as is a SET list mixing changed and unchanged columns.  Then `apply_undo_entry`
    (remove new, then add old — `undoChange`)
      * reports no error and puts the row back to `old`,
      * leaves both indexes exact, so every index-served `select` equals the full scan,
      * and the row's slot in every hash / b-tree index holds exactly its old value (in particular
        the row is still there when old = new).
    `rollback_restores` uses this for every entry of a log; the swapped order fails it
    (`undo_add_before_remove_loses_entry_witness`). -/
theorem undo_update_keeps_index_exact (T : Table) (t i : Nat) (r : Row) (old : List Val) (upd : List (Nat × Val))
    (h : IdxExact T) (hr : T.rows[i]? = some r) (ha : r.alive = true) (hl : old.length = T.ncols)
    (hupd : ∀ p ∈ upd, p.1 < T.ncols) (hvals : r.vals = applyUpd upd old) :
    let u := Undo.updated t i old (mkChg (T.hashOn ++ T.btreeOn) upd old)
    let T' := (applyUndoT T u).1
    (applyUndoT T u).2 = 0 ∧ T'.rows[i]? = some { r with vals := old } ∧ IdxExact T' ∧
    (∀ cond, select T' cond = scanAnswer T' cond) ∧
    (∀ c ∈ T.hashOn, ∀ v, (c, v, i) ∈ T'.hashE ↔ v = val old c) ∧
    (∀ c ∈ T.btreeOn, ∀ v, (c, v, i) ∈ T'.btreeE ↔ v = val old c) := by
  intro u T'
  have hp : undoPre T.ncols (T.hashOn ++ T.btreeOn) u r := ⟨ha, hl, upd, hupd, rfl, hvals⟩
  obtain ⟨hex, herr⟩ := idxExact_applyUndoT T u r h hr hp
  have hrr : restoreRow T i old = some (T.rows.set i { r with vals := old }) := by
    unfold restoreRow
    rw [hr]
    exact if_pos ⟨ha, hl⟩
  have hrow : T'.rows[i]? = some { r with vals := old } := by
    show ((restoreRow T i old).getD T.rows)[i]? = _
    rw [hrr]
    exact set_self hr
  have hslot : ∀ (on : List Nat) (es : List Entry), ExactOn T'.rows on es → ∀ c ∈ on, ∀ v,
      (c, v, i) ∈ es ↔ v = val old c := by
    intro on es hE c hc v
    rw [hE.2 c i v, want_of_row hrow, if_pos hc, if_pos (show ({ r with vals := old } : Row).alive = true from ha)]
    constructor
    · intro e; cases e; rfl
    · intro e; rw [e]
  exact ⟨herr, hrow, hex, fun cond => select_eq_scan T' hex cond,
    hslot T.hashOn T'.hashE hex.1, hslot T.btreeOn T'.btreeE hex.2⟩

set_option maxRecDepth 8000 in
/-- non-vacuity: `sameValueOps` ends in the state the seeded regression needs — a reachable (calm)
    state, hence exact indexes; row 1 is alive and holds `applyUpd upd old` where the SET list
    writes the hash-indexed column 0 and the b-tree-indexed column 1 back with their OLD values
    (recorded changes `(0, 1, 1)` and `(1, 5, 5)`: old value = new value) and changes column 2. -/
example : ∃ T r, (run s0 sameValueOps).tables 0 = some T ∧ IdxExact T ∧ T.rows[1]? = some r ∧ r.alive = true ∧
    [1, 5, 200].length = T.ncols ∧ (∀ p ∈ sameValueUpd, p.1 < T.ncols) ∧ r.vals = applyUpd sameValueUpd [1, 5, 200] ∧
    mkChg (T.hashOn ++ T.btreeOn) sameValueUpd [1, 5, 200] = [(0, 1, 1), (1, 5, 5)] ∧
    ((run s0 sameValueOps).txs 3).map (·.undo) = some [.updated 0 1 [1, 5, 200] [(0, 1, 1), (1, 5, 5)]] := by
  have hinv : Inv (run s0 sameValueOps) := inv_run (inv_init 30000 60000) sameValueOps (by decide +kernel)
  have hfacts : ((run s0 sameValueOps).tables 0).map (fun T =>
      decide (T.rows[1]? = some ⟨true, [1, 5, 150]⟩ ∧ T.ncols = 3 ∧ T.hashOn = [0] ∧ T.btreeOn = [1])) = some true := by decide +kernel
  have hundo : ((run s0 sameValueOps).txs 3).map (·.undo) = some [.updated 0 1 [1, 5, 200] [(0, 1, 1), (1, 5, 5)]] := by decide +kernel
  cases hT : (run s0 sameValueOps).tables 0 with
  | none => rw [hT] at hfacts; cases hfacts
  | some T =>
    rw [hT] at hfacts
    simp only [Option.map_some, Option.some.injEq, decide_eq_true_eq] at hfacts
    obtain ⟨h1, h2, h3, h4⟩ := hfacts
    refine ⟨T, ⟨true, [1, 5, 150]⟩, rfl, hinv.idx 0 T hT, h1, rfl, by rw [h2]; rfl, ?_, by decide, ?_, hundo⟩
    · rw [h2]; decide
    · rw [h3, h4]; decide

set_option maxRecDepth 8000 in
/-- the conclusion on that state, computed: after the rollback row 1 is `[1, 5, 200]` again and is
    found through the hash index on column 0 and the b-tree index on column 1 exactly as by the scan -/
example :
    ((rollback (run s0 sameValueOps) 3).1.tables 0).map (fun T =>
      [select T (.eq 0 1), select T (.ge 1 4), select T (.le 1 5), scanAnswer T (.eq 0 1)]) =
      some [[(0, [1, 3, 100]), (1, [1, 5, 200])], [(1, [1, 5, 200]), (2, [2, 7, 300])],
            [(0, [1, 3, 100]), (1, [1, 5, 200])], [(0, [1, 3, 100]), (1, [1, 5, 200])]] := by decide +kernel

/-- WITNESS that the order matters (`runAddBeforeRemove` = the model with the two index steps of the
    update undo swapped to add-old-then-remove-new; NOT the code): on the same-value script every
    statement still answers `Ok` and the full scan shows all three rows restored, but row 1 has lost
    its only entry in the hash index (Eq lookup) and in the b-tree index (range lookups) — the
    rolled-back transaction left a visible difference.  The model of the code answers every one of
    these queries like the scan.  Controls: with the swapped order a value-CHANGING update, a→b
    followed by b→a in one transaction, and a same-value update that is COMMITTED are all still
    answered correctly — only same-value update + rollback tells the two orders apart. -/
theorem undo_add_before_remove_loses_entry_witness :
    let ops : List Op := sameValueOps ++ [.rollback 3]
    let bad := runAddBeforeRemove s0 ops
    let good := run s0 ops
    let q := fun (s : State) => (s.tables 0).map fun T =>
        ([scanAnswer T .all, select T (.eq 0 1), select T (.eq 0 2), select T (.ge 1 4), select T (.le 1 5)], T.hashE.length, T.btreeE.length)
    let c1 : List Op := sameValueSetup ++ [.txUpdate 3 0 (.idEq 1) [(0, 2), (1, 6)], .rollback 3]
    let c2 : List Op := sameValueSetup ++ [.txUpdate 3 0 (.idEq 1) [(0, 2)], .txUpdate 3 0 (.idEq 1) [(0, 1)], .rollback 3]
    let c3 : List Op := sameValueOps ++ [.commit 3]
    runResAddBeforeRemove s0 ops = runRes s0 ops ∧ (runRes s0 ops).getLast? = some .ok ∧
    (bad.tables 0).map (scanAnswer · .all) = some [(0, [1, 3, 100]), (1, [1, 5, 200]), (2, [2, 7, 300])] ∧
    (bad.tables 0).map (scanAnswer · (.eq 0 1)) = some [(0, [1, 3, 100]), (1, [1, 5, 200])] ∧
    (bad.tables 0).map (select · (.eq 0 1)) = some [(0, [1, 3, 100])] ∧
    (bad.tables 0).map (scanAnswer · (.ge 1 4)) = some [(1, [1, 5, 200]), (2, [2, 7, 300])] ∧
    (bad.tables 0).map (select · (.ge 1 4)) = some [(2, [2, 7, 300])] ∧
    (bad.tables 0).map (select · (.le 1 5)) = some [(0, [1, 3, 100])] ∧
    (good.tables 0).map (select · (.eq 0 1)) = some [(0, [1, 3, 100]), (1, [1, 5, 200])] ∧
    (good.tables 0).map (select · (.ge 1 4)) = some [(1, [1, 5, 200]), (2, [2, 7, 300])] ∧
    (good.tables 0).map (select · (.le 1 5)) = some [(0, [1, 3, 100]), (1, [1, 5, 200])] ∧
    -- controls, swapped order: value-changing update; a→b then b→a; same-value update then commit
    q (runAddBeforeRemove s0 c1) = q (run s0 c1) ∧ q (runAddBeforeRemove s0 c2) = q (run s0 c2) ∧
    q (runAddBeforeRemove s0 c3) = q (run s0 c3) ∧
    q (run s0 c1) = some ([[(0, [1, 3, 100]), (1, [1, 5, 200]), (2, [2, 7, 300])], [(0, [1, 3, 100]), (1, [1, 5, 200])],
                            [(2, [2, 7, 300])], [(1, [1, 5, 200]), (2, [2, 7, 300])], [(0, [1, 3, 100]), (1, [1, 5, 200])]], 3, 3) := by
  intro ops bad good q c1 c2 c3
  and_intros <;> decide

/-- REGRESSION WITNESS on the code before dcf916e8 (`runOld`): `rollback_restores` was false even
    without timeouts and DDL.  A inserts a row (no lock was taken), B deletes that uncommitted
    row, A rolls back (`slab.delete` on the already dead row reports nothing), B rolls back
    (`restore_deleted_row` revives it).  Both transactions rolled back — and the table has a row
    it did not have before either of them started; every statement answered `Ok`.  On the
    current code B's delete answers `LockConflict` and the table ends as it began. -/
theorem rollback_restores_witness :
    let ops : List Op := setupIdx ++ [.begin, .begin, .txInsert 1 0 [4, 4], .txDelete 2 0 (.idEq 1), .rollback 1, .rollback 2]
    let pre := runOld s0 setupIdx
    let fin := runOld s0 ops
    runResOld s0 ops = [.okN 0, .ok, .ok, .okN 0, .okN 1, .okN 2, .okN 1, .okN 1, .ok, .ok] ∧
    (pre.tables 0).map (scanAnswer · .all) = some [(0, [1, 1])] ∧
    (fin.tables 0).map (scanAnswer · .all) = some [(0, [1, 1]), (1, [4, 4])] ∧
    (fin.tables 0).map (select · (.eq 0 4)) = some [(1, [4, 4])] ∧
    fin.txs 1 = none ∧ fin.txs 2 = none ∧
    runRes s0 ops = [.okN 0, .ok, .ok, .okN 0, .okN 1, .okN 2, .okN 1, .err .lockConflict, .ok, .ok] ∧
    ((run s0 ops).tables 0).map (scanAnswer · .all) = some [(0, [1, 1])] := by decide +kernel

/-- Second hole, index side: an index created between a transaction's statement and its
    rollback is not maintained by the undo (the undo entry lists only the indexes that existed
    when the statement ran).  After the rollback the row is back, but the queries answered
    through the new hash / b-tree index do not find it. -/
theorem rollback_index_restore_witness :
    let ops : List Op := setupPlain ++ [.begin, .txUpdate 1 0 (.idEq 0) [(0, 4)], .createBtree 0 0, .createIndex 0 0, .rollback 1]
    let fin := run s0 ops
    (fin.tables 0).map (scanAnswer · (.le 0 1)) = some [(0, [1, 1])] ∧
    (fin.tables 0).map (select · (.le 0 1)) = some [] ∧
    (fin.tables 0).map (scanAnswer · (.eq 0 1)) = some [(0, [1, 1])] ∧
    (fin.tables 0).map (select · (.eq 0 1)) = some [] ∧
    calm s0 ops = false := by decide +kernel

/-- REGRESSION WITNESS on the code before c322e794 (`runOld`): the undo of an update / delete
    re-applied hash AND b-tree entry changes for every listed column whether or not that index
    existed; `btree_index_add` creates the in-memory map for a b-tree that was never created, and
    a later `create_btree_index` kept the ghost entry: a purely sequential script after which a
    range query returned the same row twice.  On the current code the answer is exact. -/
theorem undo_ghost_btree_entry_witness :
    let ops : List Op := [.createTable 2 [], .createIndex 0 0, .insert 0 [1, 1], .begin,
        .txUpdate 1 0 (.idEq 0) [(0, 2)], .rollback 1, .update 0 (.idEq 0) [(0, 3)], .createBtree 0 0]
    let fin := runOld s0 ops
    (fin.tables 0).map (scanAnswer · (.ge 0 0)) = some [(0, [3, 1])] ∧
    (fin.tables 0).map (select · (.ge 0 0)) = some [(0, [3, 1]), (0, [3, 1])] ∧
    ((run s0 ops).tables 0).map (select · (.ge 0 0)) = some [(0, [3, 1])] := by decide +kernel

/-- `TransactionManager::cleanup_expired` drops a timed-out transaction WITHOUT applying its undo
    log: its statements stay in the tables although it never committed (and `commit` then
    answers `TransactionNotFound`). -/
theorem tx_timeout_keeps_changes_witness :
    let ops : List Op := setupIdx ++ [.begin, .txUpdate 1 0 (.idEq 0) [(0, 4)], .tick 60001, .cleanupTxs]
    let fin := run s0 ops
    (runRes s0 ops).getLast? = some (.okN 1) ∧ fin.txs 1 = none ∧
    (fin.tables 0).map (scanAnswer · .all) = some [(0, [4, 1])] ∧ (commit fin 1).2 = .err .txNotFound := by decide +kernel


end Neumann.RelTx.Props
