import NeumannModel.RelTx.Index
/-
  C09 — rollback restores: the invariant `Inv` of every state reachable under the two side
  conditions (no lock expires, no index DDL on a table an open transaction has written), its
  preservation by every statement, and what a statement does to the image a transaction's
  rollback would restore.
-/
namespace Neumann.RelTx

/-! ## the row a rollback leaves, as a function of the row's own undo chain -/

def onKey (t i : Nat) (u : Undo) : Bool := u.table == t && u.row == i

theorem onKey_iff {t i : Nat} {u : Undo} : onKey t i u = true ↔ u.table = t ∧ u.row = i := by
  simp [onKey]

/-- undo entries of one row, applied in the given order -/
def undoRows (n : Nat) (us : List Undo) (r : Row) : Row := us.foldl (fun r u => undoRow n u r) r

@[simp] theorem undoRows_nil (n : Nat) (r : Row) : undoRows n [] r = r := rfl
@[simp] theorem undoRows_cons (n : Nat) (u : Undo) (us : List Undo) (r : Row) :
    undoRows n (u :: us) r = undoRows n us (undoRow n u r) := rfl

theorem applyUndoT_static (T : Table) (u : Undo) :
    (applyUndoT T u).1.ncols = T.ncols ∧ (applyUndoT T u).1.hashOn = T.hashOn ∧
    (applyUndoT T u).1.btreeOn = T.btreeOn ∧ (applyUndoT T u).1.rows.length = T.rows.length := by
  cases u <;> exact ⟨rfl, rfl, rfl, applyUndoT_length T _⟩

theorem foldl_applyUndo_rowAt (M : List Undo) (acc : State × Nat) (t i n : Nat)
    (hn : ncolsAt acc.1 t = some n) :
    rowAt (M.foldl applyUndo acc).1 t i = (rowAt acc.1 t i).map (undoRows n (M.filter (onKey t i))) := by
  induction M generalizing acc with
  | nil =>
    cases h : rowAt acc.1 t i <;> simp [undoRows, h]
  | cons u M ih =>
    simp only [List.foldl_cons]
    rw [ih (applyUndo acc u) (by rw [applyUndo_ncolsAt]; exact hn)]
    by_cases hk : onKey t i u = true
    · obtain ⟨ht, hi⟩ := onKey_iff.1 hk
      subst ht; subst hi
      simp only [List.filter_cons, hk, ↓reduceIte]
      cases hr : rowAt acc.1 u.table u.row with
      | none =>
        have : rowAt (applyUndo acc u).1 u.table u.row = none := by
          unfold applyUndo
          cases hT : acc.1.tables u.table with
          | none => simpa [hT] using hr
          | some T =>
            simp only [rowAt, hT, Option.bind_some] at hr
            simp only [rowAt, setTable_tables, ↓reduceIte, Option.bind_some]
            rw [List.getElem?_eq_none_iff] at hr ⊢
            rw [(applyUndoT_static T u).2.2.2]; exact hr
        rw [this]; rfl
      | some r =>
        rw [applyUndo_rowAt_self acc u n r hn hr]
        rfl
    · have hk' : onKey t i u = false := by simpa using hk
      simp only [List.filter_cons, hk', Bool.false_eq_true, ↓reduceIte]
      rw [applyUndo_rowAt_other acc u t i (fun h => hk (onKey_iff.2 h))]

/-- every undo entry of the chain finds the row as its statement left it -/
def GoodSeq (n : Nat) (on : List Nat) : List Undo → Row → Prop
  | [], _ => True
  | u :: rest, r => undoPre n on u r ∧ GoodSeq n on rest (undoRow n u r)

def liveOf (r : Option Row) : Option (List Val) :=
  match r with
  | some r => if r.alive then some r.vals else none
  | none => none

/-- the live content of row `(t,i)`: `some vals` when the row exists and is alive -/
def liveAt (s : State) (t i : Nat) : Option (List Val) := liveOf (rowAt s t i)

/-- the row `(t,i)` after undoing the log `L` (chronological) on the tables of `s` -/
def restoredRow (s : State) (L : List Undo) (t i : Nat) : Option Row :=
  match ncolsAt s t with
  | some n => (rowAt s t i).map (undoRows n (L.reverse.filter (onKey t i)))
  | none => none

theorem rowAt_rollback {s : State} {A : Nat} {x : Tx} (hg : gate s A = none) (hx : s.txs A = some x) (t i : Nat) :
    rowAt (rollback s A).1 t i = restoredRow s x.undo t i := by
  have e : ∀ U : State, rowAt (setTx (release U A) A none) t i = rowAt U t i := fun _ => rfl
  rw [rollback_form hg hx]
  dsimp only
  rw [e]
  unfold restoredRow
  cases hT : s.tables t with
  | none =>
    have h1 := (frame_foldl_applyUndo A x.undo.reverse (s, 0)).dom t hT
    simp only [rowAt, h1, Option.bind_none, ncolsAt, hT, Option.map_none]
  | some T =>
    rw [foldl_applyUndo_rowAt _ (s, 0) t i T.ncols (by simp [ncolsAt, hT])]
    simp [ncolsAt, hT]

/-! ## locks sit on existing rows — in EVERY reachable state (no side condition)

  Needed for `tx_insert`: the row id it creates is fresh, so its `try_lock` cannot conflict. -/

structure LR (s : State) : Prop where
  tabLt : ∀ t T, s.tables t = some T → t < s.ntables
  lockRow : ∀ t i l, s.locks t i = some l → ∃ T, s.tables t = some T ∧ i < T.rows.length

theorem lr_init (a b : Nat) : LR (init a b) where
  tabLt := by intro t T h; simp [init] at h
  lockRow := by intro t i l h; simp [init] at h

theorem Moves.lr {E : Nat → Prop} {s s' : State} (h : Moves E s s') : LR s → LR s' := by
  induction h with
  | @frame A s s' hf =>
    intro h
    refine ⟨?_, ?_⟩
    · intro t T' hT'
      cases hT : s.tables t with
      | none => rw [hf.dom t hT] at hT'; cases hT'
      | some T => rw [hf.ntables]; exact h.tabLt t T hT
    · intro t i l hl
      rw [hf.locks] at hl
      obtain ⟨T, hT, hlt⟩ := h.lockRow t i l hl
      obtain ⟨T', hT', hle⟩ := hf.rows t T hT
      exact ⟨T', hT', Nat.lt_of_lt_of_le hlt hle⟩
  | lock _ hT hex =>
    intro h
    refine ⟨h.tabLt, ?_⟩
    intro t' i l hl
    simp only [lockAll] at hl
    split at hl
    · rename_i hc
      rw [hc.1]
      exact ⟨_, hT, hex i hc.2⟩
    · exact h.lockRow t' i l hl
  | start => exact fun h => ⟨h.tabLt, h.lockRow⟩
  | finish => exact fun h => ⟨h.tabLt, fun t i l hl => h.lockRow t i l (release_locks_some hl).1⟩
  | sweepLocks =>
    intro h
    refine ⟨h.tabLt, ?_⟩
    intro t i l hl
    simp only [cleanupLocks] at hl
    split at hl
    · cases hl
    · exact h.lockRow t i l hl
  | @sweepTxs s _ =>
    intro h
    refine ⟨?_, ?_⟩
    · intro t T hT
      show t < (List.foldl release s _).ntables
      rw [foldlRelease_ntables]
      exact h.tabLt t T (by rw [← foldlRelease_tables]; exact hT)
    · intro t i l hl
      obtain ⟨T, hT, hlt⟩ := h.lockRow t i l (foldl_release_sub _ s hl)
      exact ⟨T, by show (List.foldl release s _).tables t = some T; rw [foldlRelease_tables]; exact hT, hlt⟩
  | newTable s n nl =>
    intro h
    have hnone : s.tables s.ntables = none := by
      cases hT : s.tables s.ntables with
      | none => rfl
      | some T => exact absurd (h.tabLt _ T hT) (Nat.lt_irrefl _)
    have htab : ∀ k, (createTable s n nl).1.tables k =
        if k = s.ntables then some { ncols := n, nullable := nl, rows := [], hashOn := [], btreeOn := [], hashE := [], btreeE := [] }
        else s.tables k := fun k => rfl
    refine ⟨?_, ?_⟩
    · intro k T hT
      show k < s.ntables + 1
      rw [htab] at hT
      split at hT
      · omega
      · exact Nat.lt_succ_of_lt (h.tabLt k T hT)
    · intro t i l hl
      obtain ⟨T, hT, hlt⟩ := h.lockRow t i l hl
      refine ⟨T, ?_, hlt⟩
      rw [htab, if_neg]
      · exact hT
      · intro he
        rw [he, hnone] at hT
        cases hT
  | trans _ _ ih1 ih2 => exact fun h => ih2 (ih1 h)

/-- the next row id of a table is not a row yet, so no lock sits on it and `try_lock` on it is granted -/
theorem LR.not_blocked_new {s : State} (h : LR s) {t : Nat} {T : Table} (hT : s.tables t = some T) (A : Nat) :
    lockBlocked s A t [T.rows.length] = false := by
  cases hl : s.locks t T.rows.length with
  | none => simp [lockBlocked, hl]
  | some l =>
    obtain ⟨T0, hT0, hlt⟩ := h.lockRow _ _ l hl
    rw [hT] at hT0; cases hT0
    exact absurd hlt (Nat.lt_irrefl _)

theorem lr_run {s : State} (h : LR s) (ops : List Op) : LR (run s ops) :=
  run_of_moves Moves.lr (fun _ _ h => ⟨h.tabLt, h.lockRow⟩) h ops

/-- transaction `A` is open and its undo log names row `(t,i)` -/
def Names (s : State) (A t i : Nat) : Prop := ∃ x, s.txs A = some x ∧ ∃ u ∈ x.undo, u.table = t ∧ u.row = i

structure Inv (s : State) : Prop where
  txLt : ∀ A x, s.txs A = some x → A < s.nextTx
  tabLt : ∀ t T, s.tables t = some T → t < s.ntables
  fresh : ∀ t i l, s.locks t i = some l → l.expired s.now s.lockTimeout = false
  lockRow : ∀ t i l, s.locks t i = some l → ∃ T, s.tables t = some T ∧ i < T.rows.length
  named : ∀ A x, s.txs A = some x → ∀ u ∈ x.undo, ∃ l, s.locks u.table u.row = some l ∧ l.tx = A
  rowLen : ∀ t T, s.tables t = some T → ∀ r ∈ T.rows, r.vals.length = T.ncols
  idx : ∀ t T, s.tables t = some T → IdxExact T
  chain : ∀ A x, s.txs A = some x → ∀ t T i r, s.tables t = some T → T.rows[i]? = some r →
    GoodSeq T.ncols (T.hashOn ++ T.btreeOn) (x.undo.reverse.filter (onKey t i)) r

theorem inv_init (a b : Nat) : Inv (init a b) where
  txLt := by intro A x h; simp [init] at h
  tabLt := by intro t T h; simp [init] at h
  fresh := by intro t i l h; simp [init] at h
  lockRow := by intro t i l h; simp [init] at h
  named := by intro A x h; simp [init] at h
  rowLen := by intro t T h; simp [init] at h
  idx := by intro t T h; simp [init] at h
  chain := by intro A x h; simp [init] at h

theorem Inv.lr {s : State} (h : Inv s) : LR s := ⟨h.tabLt, h.lockRow⟩

theorem Inv.named_row {s : State} (h : Inv s) {A t i : Nat} (hn : Names s A t i) :
    ∃ l T, s.locks t i = some l ∧ l.tx = A ∧ s.tables t = some T ∧ i < T.rows.length := by
  obtain ⟨x, hx, u, hu, ht, hi⟩ := hn
  obtain ⟨l, hl, hA⟩ := h.named A x hx u hu
  rw [ht, hi] at hl
  obtain ⟨T, hT, hlt⟩ := h.lockRow t i l hl
  exact ⟨l, T, hl, hA, hT, hlt⟩

theorem filter_onKey_eq_nil {L : List Undo} {t i : Nat} (h : ∀ u ∈ L, ¬(u.table = t ∧ u.row = i)) :
    L.filter (onKey t i) = [] := by
  rw [List.filter_eq_nil_iff]
  intro u hu hk
  exact h u hu (onKey_iff.1 hk)

theorem not_names_filter {s : State} {A t i : Nat} {x : Tx} (hx : s.txs A = some x) (hn : ¬Names s A t i) :
    x.undo.reverse.filter (onKey t i) = [] := by
  apply filter_onKey_eq_nil
  intro u hu hk
  exact hn ⟨x, hx, u, List.mem_reverse.1 hu, hk⟩

theorem tables_update {tb tb' : Nat → Option Table} {t : Nat} {T' : Table}
    (htab : ∀ k, tb' k = if k = t then some T' else tb k) {P : Nat → Table → Prop}
    (hP : ∀ k T, tb k = some T → P k T) (hPt : P t T') : ∀ k T, tb' k = some T → P k T := by
  intro k T hT
  rw [htab] at hT
  split at hT
  · rename_i he
    cases hT
    rw [he]
    exact hPt
  · exact hP k T hT

theorem undoRow_length {n : Nat} (u : Undo) {r : Row} (h : r.vals.length = n) : (undoRow n u r).vals.length = n := by
  cases u with
  | inserted => exact h
  | updated t i old chg =>
    simp only [undoRow]
    split
    · rename_i hc; exact hc.2
    · exact h
  | deleted t i old idx =>
    simp only [undoRow]
    split
    · rename_i hc; exact hc.2
    · exact h

theorem applyUndoT_rowLen (T : Table) (u : Undo) (h : ∀ r ∈ T.rows, r.vals.length = T.ncols) :
    ∀ r ∈ (applyUndoT T u).1.rows, r.vals.length = (applyUndoT T u).1.ncols := by
  rw [applyUndoT_ncols, applyUndoT_rows]
  split
  · rename_i r hr
    intro r' hr'
    rcases List.mem_or_eq_of_mem_set hr' with h1 | h1
    · exact h r' h1
    · rw [h1]
      exact undoRow_length u (h r (List.mem_of_getElem? hr))
  · exact h

/-- shape of a table that no undo changes -/
def shape (T : Table) : Nat × List Nat × List Nat × Nat := (T.ncols, T.hashOn, T.btreeOn, T.rows.length)

/-- the table-level facts an undo fold needs and keeps -/
structure TabOK (tb : Nat → Option Table) (M : List Undo) : Prop where
  rowLen : ∀ t T, tb t = some T → ∀ r ∈ T.rows, r.vals.length = T.ncols
  idx : ∀ t T, tb t = some T → IdxExact T
  seq : ∀ t T i r, tb t = some T → T.rows[i]? = some r →
    GoodSeq T.ncols (T.hashOn ++ T.btreeOn) (M.filter (onKey t i)) r
  ex : ∀ u ∈ M, ∃ T r, tb u.table = some T ∧ T.rows[u.row]? = some r

theorem applyUndo_tabOK (acc : State × Nat) (u : Undo) (M : List Undo) (h : TabOK acc.1.tables (u :: M)) :
    TabOK (applyUndo acc u).1.tables M ∧ (applyUndo acc u).2 = acc.2 := by
  obtain ⟨T, r, hT, hr⟩ := h.ex u List.mem_cons_self
  have hseq := h.seq u.table T u.row r hT hr
  have hk : onKey u.table u.row u = true := onKey_iff.2 ⟨rfl, rfl⟩
  simp only [List.filter_cons, hk, ↓reduceIte, GoodSeq] at hseq
  have hX := idxExact_applyUndoT T u r (h.idx _ _ hT) hr hseq.1
  have hst := applyUndoT_static T u
  have htab : ∀ t, (applyUndo acc u).1.tables t = if t = u.table then some (applyUndoT T u).1 else acc.1.tables t := by
    intro t; unfold applyUndo; simp only [hT, setTable_tables]
  refine ⟨⟨?_, tables_update htab (P := fun _ T => IdxExact T) h.idx hX.1, ?_, ?_⟩, ?_⟩
  · exact tables_update htab (P := fun _ T => ∀ r ∈ T.rows, r.vals.length = T.ncols) h.rowLen
      (applyUndoT_rowLen T u (h.rowLen _ _ hT))
  · intro t T' i r' hT' hr'
    rw [htab] at hT'
    split at hT'
    · rename_i he
      cases hT'
      subst he
      rw [hst.1, hst.2.1, hst.2.2.1]
      by_cases hi : i = u.row
      · subst hi
        rw [applyUndoT_row_self T u r hr] at hr'
        cases hr'
        exact hseq.2
      · rw [applyUndoT_rows_other T u i hi] at hr'
        have := h.seq u.table T i r' hT hr'
        have hk' : onKey u.table i u = false := by
          simp only [onKey, beq_self_eq_true, Bool.true_and, beq_eq_false_iff_ne, ne_eq]
          exact fun e => hi e.symm
        simpa only [List.filter_cons, hk', Bool.false_eq_true, ↓reduceIte] using this
    · rename_i hne
      have := h.seq t T' i r' hT' hr'
      have hk' : onKey t i u = false := by
        simp only [onKey, Bool.and_eq_false_imp, beq_iff_eq]
        intro e; exact absurd e.symm hne
      simpa only [List.filter_cons, hk', Bool.false_eq_true, ↓reduceIte] using this
  · intro v hv
    obtain ⟨T', r', hT', hr'⟩ := h.ex v (List.mem_cons_of_mem _ hv)
    rw [htab]
    split
    · rename_i he
      rw [he, hT] at hT'
      cases hT'
      have hlt : v.row < (applyUndoT T u).1.rows.length := by
        rw [hst.2.2.2]; exact (List.getElem?_eq_some_iff.1 hr').1
      exact ⟨_, _, rfl, List.getElem?_eq_getElem hlt⟩
    · exact ⟨T', r', hT', hr'⟩
  · unfold applyUndo
    simp only [hT, hX.2, Nat.add_zero]

theorem foldl_applyUndo_tabOK (M : List Undo) (acc : State × Nat) (h : TabOK acc.1.tables M) :
    TabOK (M.foldl applyUndo acc).1.tables [] ∧ (M.foldl applyUndo acc).2 = acc.2 := by
  induction M generalizing acc with
  | nil => exact ⟨h, rfl⟩
  | cons u M ih =>
    simp only [List.foldl_cons]
    have h1 := applyUndo_tabOK acc u M h
    have h2 := ih (applyUndo acc u) h1.1
    exact ⟨h2.1, by rw [h2.2, h1.2]⟩

/-! ## what one transition does to the image another transaction's rollback would restore -/

/-- a transition in which `B` is a bystander: its log and the rows it names are untouched -/
def Other (s s' : State) (B : Nat) : Prop :=
  s'.txs B = s.txs B ∧ ∀ t i, Names s B t i → rowAt s' t i = rowAt s t i ∧ ncolsAt s' t = ncolsAt s t

/-- a transition made by `A` itself: its log grows, and undoing the longer log on the new tables
    gives the same live image — of EVERY row — as undoing the old log on the old tables -/
def Own (s s' : State) (A : Nat) : Prop :=
  ∃ x x' more, s.txs A = some x ∧ s'.txs A = some x' ∧ x'.undo = x.undo ++ more ∧
    ∀ t i, liveOf (restoredRow s' x'.undo t i) = liveOf (restoredRow s x.undo t i)

structure StepOK (s s' : State) (a : Option Nat) : Prop where
  inv : Inv s'
  next : s.nextTx ≤ s'.nextTx
  gone : ∀ B, s.txs B = none → B < s.nextTx → s'.txs B = none
  other : ∀ B x, some B ≠ a → s.txs B = some x → s'.txs B = none ∨ Other s s' B
  own : ∀ A x, a = some A → s.txs A = some x → s'.txs A = none ∨ Own s s' A

theorem Other.refl (s : State) (B : Nat) : Other s s B := ⟨rfl, fun _ _ _ => ⟨rfl, rfl⟩⟩

theorem Other.trans {s s1 s2 : State} {B : Nat} (h1 : Other s s1 B) (h2 : Other s1 s2 B) : Other s s2 B := by
  refine ⟨h2.1.trans h1.1, ?_⟩
  intro t i hn
  have hn1 : Names s1 B t i := by
    obtain ⟨x, hx, rest⟩ := hn
    exact ⟨x, by rw [h1.1]; exact hx, rest⟩
  have a := h1.2 t i hn
  have b := h2.2 t i hn1
  exact ⟨b.1.trans a.1, b.2.trans a.2⟩

theorem Other.of_tables {s s' : State} {B : Nat} (ht : s'.tables = s.tables) (hx : s'.txs B = s.txs B) : Other s s' B :=
  ⟨hx, fun t i _ => ⟨by simp [rowAt, ht], by simp [ncolsAt, ht]⟩⟩

theorem Own.refl {s : State} {A : Nat} {x : Tx} (hx : s.txs A = some x) : Own s s A :=
  ⟨x, x, [], hx, hx, by simp, fun _ _ => rfl⟩

theorem Own.trans {s s1 s2 : State} {A : Nat} (h1 : Own s s1 A) (h2 : Own s1 s2 A) : Own s s2 A := by
  obtain ⟨x, x1, m1, hx, hx1, hm1, hl1⟩ := h1
  obtain ⟨x1', x2, m2, hx1', hx2, hm2, hl2⟩ := h2
  rw [hx1] at hx1'; cases hx1'
  exact ⟨x, x2, m1 ++ m2, hx, hx2, by rw [hm2, hm1, List.append_assoc], fun t i => (hl2 t i).trans (hl1 t i)⟩

theorem Own.of_same {s s' : State} {A : Nat} {x : Tx} (hx : s.txs A = some x) (ht : s'.tables = s.tables)
    (hx' : s'.txs A = s.txs A) : Own s s' A := by
  refine ⟨x, x, [], hx, hx'.trans hx, by simp, ?_⟩
  intro t i
  simp only [restoredRow, ncolsAt, rowAt, ht]

theorem StepOK.refl {s : State} (h : Inv s) (a : Option Nat) : StepOK s s a where
  inv := h
  next := Nat.le_refl _
  gone := fun _ h _ => h
  other := fun B _ _ _ => Or.inr (Other.refl s B)
  own := fun _ _ _ hx => Or.inr (Own.refl hx)

/-- sequential composition when the actors of the parts are not open at the start (the internal
    transaction of a non-transactional statement) -/
theorem StepOK.comp {s s1 s2 : State} {a a' : Option Nat} (hs : Inv s) (h1 : StepOK s s1 a) (h2 : StepOK s1 s2 a')
    (hI : ∀ I, (a = some I ∨ a' = some I) → s.txs I = none) : StepOK s s2 none where
  inv := h2.inv
  next := Nat.le_trans h1.next h2.next
  gone := fun B hB hlt => h2.gone B (h1.gone B hB hlt) (Nat.lt_of_lt_of_le hlt h1.next)
  other := by
    intro B x _ hx
    have hBa : some B ≠ a := fun e => by rw [hI B (Or.inl e.symm)] at hx; cases hx
    have hBa' : some B ≠ a' := fun e => by rw [hI B (Or.inr e.symm)] at hx; cases hx
    rcases h1.other B x hBa hx with h | h
    · exact Or.inl (h2.gone B h (Nat.lt_of_lt_of_le (hs.txLt B x hx) h1.next))
    · have hx1 : s1.txs B = some x := by rw [h.1]; exact hx
      rcases h2.other B x hBa' hx1 with h' | h'
      · exact Or.inl h'
      · exact Or.inr (h.trans h')
  own := by intro A x h; cases h

theorem Inv.shrink {s s' : State} (h : Inv s)
    (hnt : s'.ntables = s.ntables) (hnext : s'.nextTx = s.nextTx) (hnow : s'.now = s.now)
    (hto : s'.lockTimeout = s.lockTimeout)
    (htx : ∀ B x, s'.txs B = some x → s.txs B = some x)
    (hsub : ∀ t i l, s'.locks t i = some l → s.locks t i = some l)
    (hkeep : ∀ B x, s'.txs B = some x → ∀ t i l, s.locks t i = some l → l.tx = B → s'.locks t i = some l)
    (hdom : ∀ t T', s'.tables t = some T' → ∃ T, s.tables t = some T ∧ shape T' = shape T)
    (hcod : ∀ t T, s.tables t = some T → ∃ T', s'.tables t = some T')
    (hrowLen : ∀ t T', s'.tables t = some T' → ∀ r ∈ T'.rows, r.vals.length = T'.ncols)
    (hidx : ∀ t T', s'.tables t = some T' → IdxExact T')
    (hrows : ∀ B x, s'.txs B = some x → ∀ t i, Names s B t i → rowAt s' t i = rowAt s t i) : Inv s' where
  txLt := fun B x hx => hnext ▸ h.txLt B x (htx B x hx)
  tabLt := by
    intro t T' hT'
    obtain ⟨T, hT, _⟩ := hdom t T' hT'
    rw [hnt]
    exact h.tabLt t T hT
  fresh := by
    intro t i l hl
    rw [hnow, hto]
    exact h.fresh t i l (hsub t i l hl)
  lockRow := by
    intro t i l hl
    obtain ⟨T, hT, hlt⟩ := h.lockRow t i l (hsub t i l hl)
    obtain ⟨T', hT'⟩ := hcod t T hT
    obtain ⟨T0, hT0, hsh⟩ := hdom t T' hT'
    rw [hT] at hT0
    cases hT0
    have hlen : T'.rows.length = T.rows.length := congrArg (·.2.2.2) hsh
    exact ⟨T', hT', by rw [hlen]; exact hlt⟩
  named := by
    intro B x hx u hu
    obtain ⟨l, hl, hB⟩ := h.named B x (htx B x hx) u hu
    exact ⟨l, hkeep B x hx _ _ l hl hB, hB⟩
  rowLen := hrowLen
  idx := hidx
  chain := by
    intro B x hx t T' i r' hT' hr'
    by_cases hn : Names s B t i
    · obtain ⟨T, hT, hsh⟩ := hdom t T' hT'
      have hk := hrows B x hx t i hn
      simp only [rowAt, hT', hT, Option.bind_some] at hk
      have h1 : T'.ncols = T.ncols := congrArg (·.1) hsh
      have h2 : T'.hashOn = T.hashOn := congrArg (·.2.1) hsh
      have h3 : T'.btreeOn = T.btreeOn := congrArg (·.2.2.1) hsh
      rw [h1, h2, h3]
      exact h.chain B x (htx B x hx) t T i r' hT (by rw [← hk]; exact hr')
    · rw [not_names_filter (htx B x hx) hn]
      trivial

theorem stepOK_drop {s s' : State} (a : Option Nat) (h : Inv s) (htab : s'.tables = s.tables)
    (hnt : s'.ntables = s.ntables) (hnext : s'.nextTx = s.nextTx) (hnow : s'.now = s.now)
    (hto : s'.lockTimeout = s.lockTimeout)
    (htx : ∀ B, s'.txs B = s.txs B ∨ s'.txs B = none)
    (hsub : ∀ t i l, s'.locks t i = some l → s.locks t i = some l)
    (hkeep : ∀ B x, s'.txs B = some x → ∀ t i l, s.locks t i = some l → l.tx = B → s'.locks t i = some l) :
    StepOK s s' a where
  inv := by
    refine h.shrink hnt hnext hnow hto ?_ hsub hkeep ?_ ?_ ?_ ?_ ?_
    · intro B x hx
      rcases htx B with e | e
      · rw [← e]; exact hx
      · rw [e] at hx; cases hx
    · rw [htab]; exact fun t T' hT' => ⟨T', hT', rfl⟩
    · rw [htab]; exact fun t T hT => ⟨T, hT⟩
    · rw [htab]; exact h.rowLen
    · rw [htab]; exact h.idx
    · intro _ _ _ t i _
      simp only [rowAt, htab]
  next := Nat.le_of_eq hnext.symm
  gone := by
    intro B hB _
    rcases htx B with e | e
    · rw [e]; exact hB
    · exact e
  other := by
    intro B _ _ _
    rcases htx B with e | e
    · exact Or.inr (Other.of_tables htab e)
    · exact Or.inl e
  own := by
    intro A x _ hx
    rcases htx A with e | e
    · exact Or.inr (Own.of_same hx htab e)
    · exact Or.inl e

theorem stepOK_commit {s : State} (h : Inv s) (A : Nat) : StepOK s (commit s A).1 (some A) := by
  rcases commit_cases s A with ⟨e, hc⟩ | ⟨_, hc⟩ <;> rw [hc]
  · exact StepOK.refl h _
  · refine stepOK_drop _ h rfl rfl rfl rfl rfl ?_ (fun t i l hl => (release_locks_some hl).1) ?_
    · intro B
      simp only [setTx_txs, release_txs]
      split
      · exact Or.inr rfl
      · exact Or.inl rfl
    · intro B x hx t i l hl hB
      apply release_keeps hl
      rw [hB]
      intro e
      rw [e] at hx
      simp at hx

theorem stepOK_cleanupLocks {s : State} (h : Inv s) : StepOK s (cleanupLocks s).1 none := by
  -- no lock is expired, so the sweep finds nothing
  have hl : ∀ t i, (cleanupLocks s).1.locks t i = s.locks t i := by
    intro t i
    simp only [cleanupLocks]
    split
    · rename_i he
      unfold lockExpiredAt at he
      split at he
      · rename_i l hl; rw [h.fresh t i l hl] at he; cases he
      · cases he
    · rfl
  exact stepOK_drop _ h rfl rfl rfl rfl rfl (fun _ => Or.inl rfl) (fun t i l hl' => by rw [← hl]; exact hl')
    (fun _ _ _ t i l hl' _ => by rw [hl]; exact hl')

theorem stepOK_cleanupTxs {s : State} (h : Inv s) : StepOK s (cleanupTxs s).1 none := by
  refine stepOK_drop _ h (foldlRelease_tables _ s) (foldlRelease_ntables _ s) (foldlRelease_nextTx _ s)
    (foldlRelease_now _ s) (foldlRelease_lockTimeout _ s) ?_ (fun t i l hl => foldl_release_sub _ s hl) ?_
  · intro B
    rw [cleanupTxs_txs]
    split
    · exact Or.inr rfl
    · exact Or.inl rfl
  · intro B x hx t i l hl hB
    apply foldl_release_keeps _ s hl
    rw [hB, List.mem_filter]
    rintro ⟨_, he⟩
    rw [cleanupTxs_txs, if_pos he] at hx
    cases hx

theorem stepOK_tick {s : State} (h : Inv s) (d : Nat)
    (hf : ∀ t i l, s.locks t i = some l → l.expired (s.now + d) s.lockTimeout = false) : StepOK s (tick s d) none where
  inv := { h with fresh := hf }
  next := Nat.le_refl _
  gone := fun _ hB _ => hB
  other := fun B _ _ _ => Or.inr (Other.of_tables rfl rfl)
  own := by intro A x he; cases he

theorem Inv.nextTx_none {s : State} (h : Inv s) : s.txs s.nextTx = none := by
  cases hx : s.txs s.nextTx with
  | none => rfl
  | some x => exact absurd (h.txLt _ x hx) (Nat.lt_irrefl _)

theorem stepOK_begin {s : State} (h : Inv s) : StepOK s (begin s).1 none where
  inv := { h with
    txLt := by
      intro A x hx
      rw [begin_txs] at hx
      show A < s.nextTx + 1
      split at hx
      · omega
      · exact Nat.lt_succ_of_lt (h.txLt A x hx)
    named := by
      intro A x hx u hu
      rw [begin_txs] at hx
      split at hx
      · cases hx; cases hu
      · exact h.named A x hx u hu
    chain := by
      intro A x hx t T i r hT hr
      rw [begin_txs] at hx
      split at hx
      · cases hx; trivial
      · exact h.chain A x hx t T i r hT hr }
  next := Nat.le_succ _
  gone := by
    intro B hB hlt
    rw [begin_txs, if_neg (Nat.ne_of_lt hlt)]
    exact hB
  other := by
    intro B x _ hx
    refine Or.inr (Other.of_tables rfl ?_)
    rw [begin_txs, if_neg]
    intro he
    rw [he, h.nextTx_none] at hx
    cases hx
  own := by intro A x h; cases h

theorem tabOK_of_inv {s : State} (h : Inv s) {A : Nat} {x : Tx} (hx : s.txs A = some x) :
    TabOK s.tables x.undo.reverse where
  rowLen := h.rowLen
  idx := h.idx
  seq := h.chain A x hx
  ex := by
    intro u hu
    obtain ⟨l, T, _, _, hT, hlt⟩ := h.named_row ⟨x, hx, u, List.mem_reverse.1 hu, rfl, rfl⟩
    exact ⟨T, _, hT, List.getElem?_eq_getElem hlt⟩

theorem shape_of_fold {M : List Undo} {acc : State × Nat} {t : Nat} {T' : Table}
    (h : (M.foldl applyUndo acc).1.tables t = some T') : ∃ T, acc.1.tables t = some T ∧ shape T' = shape T := by
  induction M generalizing acc with
  | nil => exact ⟨T', h, rfl⟩
  | cons u M ih =>
    obtain ⟨T1, h1, e1⟩ := ih h
    unfold applyUndo at h1
    split at h1
    · exact ⟨T1, h1, e1⟩
    · rename_i T hT
      rw [setTable_tables] at h1
      split at h1
      · rename_i he
        cases h1
        have hst := applyUndoT_static T u
        exact ⟨T, he ▸ hT, e1.trans (by simp only [shape, hst.1, hst.2.1, hst.2.2.1, hst.2.2.2])⟩
      · exact ⟨T1, h1, e1⟩

theorem rollback_ok {s : State} (h : Inv s) {A : Nat} (hg : gate s A = none) : (rollback s A).2 = .ok := by
  obtain ⟨x, hx, _⟩ := gate_none hg
  rw [rollback_form hg hx, (foldl_applyUndo_tabOK x.undo.reverse (s, 0) (tabOK_of_inv h hx)).2]
  rfl

theorem stepOK_rollback {s : State} (h : Inv s) (A : Nat) : StepOK s (rollback s A).1 (some A) := by
  rcases rollback_cases s A with ⟨e, hr⟩ | ⟨x, _, hx, hr⟩ <;> rw [hr]
  · exact StepOK.refl h _
  · have hU := (foldl_applyUndo_tabOK x.undo.reverse (s, 0) (tabOK_of_inv h hx)).1
    have f := frame_foldl_applyUndo A x.undo.reverse (s, 0)
    have ftx := foldl_applyUndo_txs x.undo.reverse (s, 0)
    -- rows named by another transaction are not touched by the fold
    have hkeep : ∀ B t i, B ≠ A → Names s B t i →
        rowAt (x.undo.reverse.foldl applyUndo (s, 0)).1 t i = rowAt s t i := by
      intro B t i hne hn
      apply foldl_applyUndo_rowAt_other
      intro u hu hk
      -- the row would be locked by both
      obtain ⟨l, _, hl, hB, _⟩ := h.named_row hn
      obtain ⟨l', _, hl', hA, _⟩ := h.named_row ⟨x, hx, u, List.mem_reverse.1 hu, hk⟩
      rw [hl] at hl'
      cases hl'
      exact hne (hB.symm.trans hA)
    have hdom : ∀ t T', (x.undo.reverse.foldl applyUndo (s, 0)).1.tables t = some T' →
        ∃ T, s.tables t = some T ∧ shape T' = shape T := fun t T' hT' => shape_of_fold hT'
    have hnc : ∀ t, ncolsAt (x.undo.reverse.foldl applyUndo (s, 0)).1 t = ncolsAt s t :=
      fun t => foldl_applyUndo_ncolsAt _ _ t
    generalize x.undo.reverse.foldl applyUndo (s, 0) = U at hU f ftx hkeep hdom hnc
    have htxs : ∀ B, (setTx (release U.1 A) A none).txs B = if B = A then none else s.txs B := by
      intro B
      rw [setTx_txs, release_txs, ftx]
    have hstay : ∀ B x', (setTx (release U.1 A) A none).txs B = some x' → B ≠ A ∧ s.txs B = some x' := by
      intro B x' hx'
      rw [htxs] at hx'
      split at hx'
      · cases hx'
      · rename_i hne; exact ⟨hne, hx'⟩
    exact {
      inv := by
        refine h.shrink f.ntables f.nextTx f.now f.lockTimeout (fun B x' hx' => (hstay B x' hx').2) ?_ ?_ hdom ?_
          hU.rowLen hU.idx (fun B x' hx' t i hn => hkeep B t i (hstay B x' hx').1 hn)
        · intro t i l hl
          rw [← f.locks]
          exact (release_locks_some hl).1
        · intro B x' hx' t i l hl hB
          apply release_keeps (by rw [f.locks]; exact hl)
          rw [hB]
          exact (hstay B x' hx').1
        · intro t T hT
          obtain ⟨T', hT', _⟩ := f.rows t T hT
          exact ⟨T', hT'⟩
      next := Nat.le_of_eq f.nextTx.symm
      gone := by
        intro B hB _
        rw [htxs]
        split
        · rfl
        · exact hB
      other := by
        intro B x' hne _
        have hBA : B ≠ A := fun e => hne (by rw [e])
        refine Or.inr ⟨by rw [htxs, if_neg hBA], ?_⟩
        intro t i hn
        exact ⟨hkeep B t i hBA hn, hnc t⟩
      own := by
        intro A' _ he _
        cases he
        exact Or.inl (by rw [htxs, if_pos rfl]) }

/-! ## one transactional write of one row (shared by insert / update / delete) -/

theorem restoredRow_eq {s : State} {L : List Undo} {t i : Nat} {T : Table} (hT : s.tables t = some T) :
    restoredRow s L t i = (T.rows[i]?).map (undoRows T.ncols (L.reverse.filter (onKey t i))) := by
  simp [restoredRow, ncolsAt, rowAt, hT]

theorem restoredRow_none {s : State} {L : List Undo} {t i : Nat} (hT : s.tables t = none) :
    restoredRow s L t i = none := by
  simp [restoredRow, ncolsAt, hT]

/-- The shape every transactional write has: `A` replaces table `t` by `T'`, which differs in row `j` only (an
    existing row, or the next row id), records `u` for that row and holds an unexpired lock on it afterwards;
    undoing `u` gives the old row back (`hback`); nobody else has written the row. -/
theorem write_row {s s' : State} (h : Inv s) {A t j : Nat} {x : Tx} {T T' : Table} {u : Undo} {r' : Row}
    (hx : s.txs A = some x) (hT : s.tables t = some T)
    (htab : ∀ k, s'.tables k = if k = t then some T' else s.tables k)
    (htx : ∀ k, s'.txs k = if k = A then some { x with undo := x.undo ++ [u] } else s.txs k)
    (hnt : s'.ntables = s.ntables) (hnext : s'.nextTx = s.nextTx) (hnow : s'.now = s.now)
    (hto : s'.lockTimeout = s.lockTimeout)
    (hlk : ∀ t' i, ¬(t' = t ∧ i = j) → s'.locks t' i = s.locks t' i)
    (hlj : ∃ l, s'.locks t j = some l ∧ l.tx = A ∧ l.expired s.now s.lockTimeout = false)
    (hut : u.table = t) (hur : u.row = j)
    (hnc : T'.ncols = T.ncols) (hho : T'.hashOn = T.hashOn) (hbo : T'.btreeOn = T.btreeOn)
    (hrows : ∀ i, i ≠ j → T'.rows[i]? = T.rows[i]?) (hrj : T'.rows[j]? = some r')
    (hlenr : r'.vals.length = T.ncols) (hidx : IdxExact T')
    (hpre : undoPre T.ncols (T.hashOn ++ T.btreeOn) u r')
    (hback : match T.rows[j]? with
      | some r => undoRow T.ncols u r' = r
      | none => (undoRow T.ncols u r').alive = false ∧ ¬Names s A t j)
    (hexcl : ∀ B, B ≠ A → ¬Names s B t j) :
    Inv s' ∧ Own s s' A ∧ (∀ B xB, B ≠ A → s.txs B = some xB → Other s s' B) := by
  have hrev : (x.undo ++ [u]).reverse = u :: x.undo.reverse := by simp
  have hjlt : j < T'.rows.length := (List.getElem?_eq_some_iff.1 hrj).1
  have hlen : ∀ i, i < T.rows.length → i < T'.rows.length := by
    intro i hi
    by_cases hij : i = j
    · rw [hij]; exact hjlt
    · have := hrows i hij
      rw [List.getElem?_eq_getElem hi] at this
      exact (List.getElem?_eq_some_iff.1 this).1
  obtain ⟨lj, hlj1, hlj2, hlj3⟩ := hlj
  have hlock : ∀ t' i l, s'.locks t' i = some l → (t' = t ∧ i = j ∧ l = lj) ∨ (¬(t' = t ∧ i = j) ∧ s.locks t' i = some l) := by
    intro t' i l hl
    by_cases hc : t' = t ∧ i = j
    · rw [hc.1, hc.2, hlj1] at hl
      exact Or.inl ⟨hc.1, hc.2, (Option.some.inj hl).symm⟩
    · exact Or.inr ⟨hc, by rw [← hlk t' i hc]; exact hl⟩
  -- `(t,j)` is the one row and `A`'s the one log that change
  have hfil : ∀ k i, (x.undo ++ [u]).reverse.filter (onKey k i) =
      if k = t ∧ i = j then u :: x.undo.reverse.filter (onKey k i) else x.undo.reverse.filter (onKey k i) := by
    intro k i
    rw [hrev, List.filter_cons]
    by_cases hc : k = t ∧ i = j
    · rw [if_pos hc, if_pos (onKey_iff.2 ⟨hut.trans hc.1.symm, hur.trans hc.2.symm⟩)]
    · rw [if_neg hc, if_neg]
      intro hk
      exact hc ⟨(onKey_iff.1 hk).1.symm.trans hut, (onKey_iff.1 hk).2.symm.trans hur⟩
  have hold : ∀ k T'', s'.tables k = some T'' → ∃ Tk, s.tables k = some Tk ∧ T''.ncols = Tk.ncols ∧
      T''.hashOn = Tk.hashOn ∧ T''.btreeOn = Tk.btreeOn ∧ ∀ i, ¬(k = t ∧ i = j) → T''.rows[i]? = Tk.rows[i]? := by
    intro k T'' hT''
    rw [htab] at hT''
    split at hT''
    · rename_i he
      cases hT''
      rw [he]
      exact ⟨T, hT, hnc, hho, hbo, fun i hc => hrows i (fun e => hc ⟨rfl, e⟩)⟩
    · exact ⟨T'', hT'', rfl, rfl, rfl, fun _ _ => rfl⟩
  have hnone : ∀ k, s'.tables k = none → s.tables k = none := by
    intro k hk
    rw [htab] at hk
    split at hk
    · cases hk
    · exact hk
  -- undoing `u` on the new row leads back into the old chain of the row
  have hbackSeq : GoodSeq T.ncols (T.hashOn ++ T.btreeOn) (x.undo.reverse.filter (onKey t j)) (undoRow T.ncols u r') := by
    cases hTj : T.rows[j]? with
    | none =>
      rw [hTj] at hback
      rw [not_names_filter hx hback.2]
      trivial
    | some r0 =>
      rw [hTj] at hback
      rw [show undoRow T.ncols u r' = r0 from hback]
      exact h.chain A x hx t T j r0 hT hTj
  refine ⟨?_, ?_, ?_⟩
  · exact {
      txLt := by
        intro B xB hxB
        rw [htx] at hxB
        rw [hnext]
        split at hxB
        · rename_i he; rw [he]; exact h.txLt A x hx
        · exact h.txLt B xB hxB
      tabLt := hnt ▸ tables_update htab (P := fun k _ => k < s.ntables) h.tabLt (h.tabLt t T hT)
      fresh := by
        intro t' i l hl
        rw [hnow, hto]
        rcases hlock t' i l hl with ⟨_, _, e⟩ | ⟨_, hl0⟩
        · rw [e]; exact hlj3
        · exact h.fresh t' i l hl0
      lockRow := by
        intro t' i l hl
        rcases hlock t' i l hl with ⟨e1, e2, _⟩ | ⟨hc, hl0⟩
        · rw [e1, e2]
          exact ⟨T', by rw [htab, if_pos rfl], hjlt⟩
        · obtain ⟨T0, hT0, hlt⟩ := h.lockRow t' i l hl0
          rw [htab]
          split
          · rename_i he
            rw [he, hT] at hT0
            cases hT0
            exact ⟨T', rfl, hlen i hlt⟩
          · exact ⟨T0, hT0, hlt⟩
      named := by
        intro B xB hxB v hv
        have key : ∀ l, s.locks v.table v.row = some l → l.tx = B → (v.table = t ∧ v.row = j → B = A) →
            ∃ l, s'.locks v.table v.row = some l ∧ l.tx = B := by
          intro l hl hB hA
          by_cases hc : v.table = t ∧ v.row = j
          · rw [hc.1, hc.2, hA hc]; exact ⟨lj, hlj1, hlj2⟩
          · exact ⟨l, by rw [hlk _ _ hc]; exact hl, hB⟩
        rw [htx] at hxB
        split at hxB
        · rename_i he
          subst he
          cases hxB
          rcases List.mem_append.1 hv with hv | hv
          · obtain ⟨l, hl, hB⟩ := h.named B x hx v hv
            exact key l hl hB (fun _ => rfl)
          · rw [List.mem_singleton.1 hv, hut, hur]
            exact ⟨lj, hlj1, hlj2⟩
        · rename_i hne
          obtain ⟨l, hl, hB⟩ := h.named B xB hxB v hv
          exact key l hl hB (fun hc => absurd ⟨xB, hxB, v, hv, hc⟩ (hexcl B hne))
      rowLen := by
        refine tables_update htab (P := fun _ T0 => ∀ r ∈ T0.rows, r.vals.length = T0.ncols) h.rowLen ?_
        intro r hr
        rw [hnc]
        obtain ⟨i, hi⟩ := List.getElem?_of_mem hr
        by_cases hij : i = j
        · subst hij; rw [hrj] at hi; cases hi; exact hlenr
        · rw [hrows i hij] at hi
          exact h.rowLen t T hT r (List.mem_of_getElem? hi)
      idx := tables_update htab (P := fun _ T0 => IdxExact T0) h.idx hidx
      chain := by
        intro B xB hxB k T'' i r hT'' hr
        rw [htx] at hxB
        by_cases hc : k = t ∧ i = j
        · obtain ⟨hk, hi⟩ := hc
          subst hk hi
          rw [htab, if_pos rfl] at hT''
          cases hT''
          rw [hrj] at hr
          cases hr
          rw [hnc, hho, hbo]
          split at hxB
          · cases hxB
            rw [hfil, if_pos ⟨rfl, rfl⟩]
            exact ⟨hpre, hbackSeq⟩
          · rename_i hB
            rw [not_names_filter hxB (hexcl B hB)]
            trivial
        · obtain ⟨Tk, hTk, e1, e2, e3, hrw⟩ := hold k T'' hT''
          rw [e1, e2, e3]
          rw [hrw i hc] at hr
          split at hxB
          · cases hxB
            rw [hfil, if_neg hc]
            exact h.chain A x hx k Tk i r hTk hr
          · exact h.chain B xB hxB k Tk i r hTk hr }
  · refine ⟨x, { x with undo := x.undo ++ [u] }, [u], hx, by rw [htx, if_pos rfl], rfl, ?_⟩
    intro k i
    by_cases hc : k = t ∧ i = j
    · obtain ⟨hk, hi⟩ := hc
      subst hk hi
      rw [restoredRow_eq (show s'.tables k = some T' by rw [htab, if_pos rfl]), restoredRow_eq hT, hnc, hfil,
        if_pos ⟨rfl, rfl⟩, hrj]
      simp only [Option.map_some, undoRows_cons]
      cases hTj : T.rows[i]? with
      | none =>
        rw [hTj] at hback
        rw [not_names_filter hx hback.2]
        simp [liveOf, hback.1]
      | some r0 =>
        rw [hTj] at hback
        rw [show undoRow T.ncols u r' = r0 from hback]
        rfl
    · cases hT'' : s'.tables k with
      | none => rw [restoredRow_none hT'', restoredRow_none (hnone k hT'')]
      | some T'' =>
        obtain ⟨Tk, hTk, e1, _, _, hrw⟩ := hold k T'' hT''
        rw [restoredRow_eq hT'', restoredRow_eq hTk, hfil, if_neg hc, e1, hrw i hc]
  · intro B xB hB hxB
    refine ⟨by rw [htx, if_neg hB], ?_⟩
    intro k i hn
    have hc : ¬(k = t ∧ i = j) := fun e => hexcl B hB (e.1 ▸ e.2 ▸ hn)
    cases hT'' : s'.tables k with
    | none => simp only [rowAt, ncolsAt, hT'', hnone k hT'', Option.bind_none, Option.map_none, and_self]
    | some T'' =>
      obtain ⟨Tk, hTk, e1, _, _, hrw⟩ := hold k T'' hT''
      simp only [rowAt, ncolsAt, hT'', hTk, Option.bind_some, Option.map_some, e1, and_true]
      exact hrw i hc

theorem stepOK_of_write {s s1 s' : State} {A : Nat} {x : Tx} (hx : s.txs A = some x)
    (ht1 : s1.tables = s.tables) (hx1 : s1.txs = s.txs) (hn : s'.nextTx = s.nextTx)
    (hgone : ∀ B, s.txs B = none → s'.txs B = none)
    (hf : Inv s' ∧ Own s1 s' A ∧ (∀ B xB, B ≠ A → s1.txs B = some xB → Other s1 s' B)) : StepOK s s' (some A) where
  inv := hf.1
  next := Nat.le_of_eq hn.symm
  gone := fun B hB _ => hgone B hB
  other := by
    intro B xB hne hxB
    have hBA : B ≠ A := fun e => hne (by rw [e])
    exact Or.inr ((Other.of_tables ht1 (by rw [hx1])).trans (hf.2.2 B xB hBA (by rw [hx1]; exact hxB)))
  own := by
    intro A' _ he _
    cases he
    exact Or.inr ((Own.of_same hx ht1 (by rw [hx1])).trans hf.2.1)

theorem Inv.not_names_new {s : State} (h : Inv s) {t : Nat} {T : Table} (hT : s.tables t = some T) (B : Nat) :
    ¬Names s B t T.rows.length := by
  intro hn
  obtain ⟨_, T0, _, _, hT0, hlt⟩ := h.named_row hn
  rw [hT] at hT0; cases hT0
  exact Nat.lt_irrefl _ hlt

theorem getElem?_append_single_ne {α : Type} (l : List α) (a : α) (i : Nat) (hi : i ≠ l.length) :
    (l ++ [a])[i]? = l[i]? := by
  by_cases hlt : i < l.length
  · exact List.getElem?_append_left hlt
  · have h1 : l.length < i := by omega
    rw [List.getElem?_eq_none_iff.2 (by simp; omega), List.getElem?_eq_none_iff.2 (by omega)]

theorem stepOK_txInsert {s : State} (h : Inv s) (A t : Nat) (vals : List Val) :
    StepOK s (txInsert s A t vals).1 (some A) := by
  rcases txInsert_cases s A t vals with ⟨e, hc⟩ | ⟨T, hg, hT, hbad, hc⟩
  · rw [hc]; exact StepOK.refl h _
  · obtain ⟨x, hx, _⟩ := gate_none hg
    have hb := h.lr.not_blocked_new hT A
    rw [hc]
    simp only [hb, Bool.false_eq_true, ↓reduceIte, recordUndo, setTable_txs, lockAll_txs, hx]
    generalize hu : Undo.inserted t T.rows.length ((T.hashOn ++ T.btreeOn).map fun c => (c, val vals c)) = u
    have hut : u.table = t := by rw [← hu]; rfl
    have hur : u.row = T.rows.length := by rw [← hu]; rfl
    have hnone : T.rows[T.rows.length]? = none := List.getElem?_eq_none_iff.2 (Nat.le_refl _)
    refine stepOK_of_write hx rfl rfl rfl ?_
      (write_row (T' := insertT T vals) (r' := { alive := true, vals := vals }) h hx hT (fun k => rfl) (fun k => rfl)
        rfl rfl rfl rfl ?_ ⟨{ tx := A, acquiredAt := s.now }, by simp [lockAll], rfl, by simp [Lock.expired]⟩ hut hur rfl rfl rfl
        (fun i hi => getElem?_append_single_ne _ _ i hi) (by simp [insertT]) (rowBad_false_len hbad)
        (idxExact_insertT T vals (h.idx t T hT)) (by rw [← hu]; rfl)
        (by rw [hnone]; exact ⟨by rw [← hu]; rfl, h.not_names_new hT A⟩) (fun B _ => h.not_names_new hT B))
    · intro B hB
      rw [setTx_txs]
      split
      · rename_i he; rw [he, hx] at hB; cases hB
      · exact hB
    · intro t' i hne
      simp only [setTx_locks, setTable_locks, lockAll, List.mem_singleton]
      rw [if_neg hne]

theorem write_existing {s : State} (h : Inv s) {A t i : Nat} {x : Tx} {T T' : Table} {u : Undo} {r r' : Row}
    (hx : s.txs A = some x) (hT : s.tables t = some T) (hr : T.rows[i]? = some r)
    (hlock : ∃ l, s.locks t i = some l ∧ l.tx = A)
    (hut : u.table = t) (hur : u.row = i)
    (hnc : T'.ncols = T.ncols) (hho : T'.hashOn = T.hashOn) (hbo : T'.btreeOn = T.btreeOn)
    (hrows : T'.rows = T.rows.set i r')
    (hlenr : r'.vals.length = T.ncols) (hidx : IdxExact T')
    (hpre : undoPre T.ncols (T.hashOn ++ T.btreeOn) u r')
    (hback : undoRow T.ncols u r' = r) :
    let s' := setTable (setTx s A (some { x with undo := x.undo ++ [u] })) t T'
    Inv s' ∧ Own s s' A ∧ (∀ B xB, B ≠ A → s.txs B = some xB → Other s s' B) := by
  intro s'
  have hlt : i < T.rows.length := (List.getElem?_eq_some_iff.1 hr).1
  obtain ⟨l, hl, hA⟩ := hlock
  have hexcl : ∀ B, B ≠ A → ¬Names s B t i := by
    intro B hne hn
    obtain ⟨l', _, hl', hB, _⟩ := h.named_row hn
    rw [hl] at hl'; cases hl'
    exact hne (hB.symm.trans hA)
  exact write_row (s' := s') h (T' := T') (r' := r') (j := i) hx hT (fun k => rfl) (fun k => rfl) rfl rfl rfl rfl
    (fun _ _ _ => rfl) ⟨l, hl, hA, h.fresh t i l hl⟩ hut hur hnc hho hbo
    (fun k hk => by rw [hrows, List.getElem?_set_ne (fun e => hk e.symm)])
    (by rw [hrows, List.getElem?_set_self hlt]) hlenr hidx hpre (by rw [hr]; exact hback) hexcl

theorem applyUpdFrom_length (upd : List (Nat × Val)) (c : Nat) (vals : List Val) :
    (applyUpdFrom upd c vals).length = vals.length := by
  induction vals generalizing c with
  | nil => simp [applyUpdFrom]
  | cons v vs ih => simp [applyUpdFrom, ih]

theorem applyUpd_length (upd : List (Nat × Val)) (vals : List Val) : (applyUpd upd vals).length = vals.length :=
  applyUpdFrom_length upd 0 vals

theorem updateRow_form {s : State} {A t i : Nat} {upd : List (Nat × Val)} {x : Tx} {T : Table} {r : Row}
    (hx : s.txs A = some x) (hT : s.tables t = some T) (hr : T.rows[i]? = some r) :
    updateRow A t upd s i =
      setTable (setTx s A (some { x with undo := x.undo ++ [.updated t i r.vals (mkChg (T.hashOn ++ T.btreeOn) upd r.vals)] }))
        t (updateT T i r upd) := by
  simp only [updateRow, hT, hr, recordUndo, hx]
  rfl

theorem deleteRow_form {s : State} {A t i : Nat} {x : Tx} {T : Table} {r : Row}
    (hx : s.txs A = some x) (hT : s.tables t = some T) (hr : T.rows[i]? = some r) :
    deleteRow A t s i =
      setTable (setTx s A (some { x with undo := x.undo ++ [.deleted t i r.vals ((T.hashOn ++ T.btreeOn).map fun c => (c, val r.vals c))] }))
        t (deleteT T i r) := by
  simp only [deleteRow, hT, hr, recordUndo, hx]
  rfl

/-- a per-row body `f` of transaction `A` on table `t` (`n` columns): on a live row locked by `A` it is a write
    in the sense of `write_row` and changes that row of the table only -/
def RowBody (A t n : Nat) (f : State → Nat → State) : Prop :=
  ∀ s i x T r, Inv s → s.txs A = some x → s.tables t = some T → T.ncols = n → T.rows[i]? = some r → r.alive = true →
    (∃ l, s.locks t i = some l ∧ l.tx = A) →
    (Inv (f s i) ∧ Own s (f s i) A ∧ (∀ B xB, B ≠ A → s.txs B = some xB → Other s (f s i) B)) ∧
    ∃ T' r', (f s i).tables t = some T' ∧ T'.ncols = n ∧ T'.rows = T.rows.set i r'

theorem rowBody_updateRow (A t : Nat) (upd : List (Nat × Val)) {n : Nat} (hupd : ∀ p ∈ upd, p.1 < n) :
    RowBody A t n (updateRow A t upd) := by
  intro s i x T r h hx hT hn hr ha hlock
  have hlen : r.vals.length = T.ncols := h.rowLen t T hT r (List.mem_of_getElem? hr)
  rw [updateRow_form hx hT hr]
  refine ⟨?_, updateT T i r upd, _, by simp, hn, rfl⟩
  exact write_existing h (T' := updateT T i r upd) (r' := { r with vals := applyUpd upd r.vals }) hx hT hr hlock
    rfl rfl rfl rfl rfl rfl (by simp [applyUpd_length, hlen])
    (idxExact_updateT T i r upd (h.idx t T hT) hr ha hlen (hn ▸ hupd)) ⟨ha, hlen, upd, hn ▸ hupd, rfl, rfl⟩
    (by
      cases r with
      | mk a v =>
        simp only at ha; subst ha
        simp only at hlen
        simp [undoRow, hlen])

theorem rowBody_deleteRow (A t n : Nat) : RowBody A t n (deleteRow A t) := by
  intro s i x T r h hx hT hn hr ha hlock
  have hlen : r.vals.length = T.ncols := h.rowLen t T hT r (List.mem_of_getElem? hr)
  rw [deleteRow_form hx hT hr]
  refine ⟨?_, deleteT T i r, _, by simp, hn, rfl⟩
  exact write_existing h (T' := deleteT T i r) (r' := { r with alive := false }) hx hT hr hlock rfl rfl rfl rfl rfl rfl
    hlen (idxExact_deleteT T i r (h.idx t T hT) hr) ⟨rfl, hlen, rfl⟩
    (by
      cases r with
      | mk a v =>
        simp only at ha; subst ha
        simp only at hlen
        simp [undoRow, hlen])

theorem inv_lockAll {s : State} (h : Inv s) {A t : Nat} {rows : List Nat} {T : Table} (htx : s.txs A ≠ none)
    (hT : s.tables t = some T) (hex : ∀ i ∈ rows, i < T.rows.length) (hnb : lockBlocked s A t rows = false) :
    Inv (lockAll s A t rows) := { h with
  fresh := by
    intro t' i l hl
    simp only [lockAll] at hl
    show l.expired s.now s.lockTimeout = false
    split at hl
    · cases hl; simp [Lock.expired]
    · exact h.fresh t' i l hl
  lockRow := (Moves.lock (E := fun _ => False) htx hT hex hnb).lr h.lr |>.lockRow
  named := by
    intro B xB hxB u hu
    obtain ⟨l, hl, hB⟩ := h.named B xB hxB u hu
    simp only [lockAll]
    split
    · rename_i hc
      refine ⟨_, rfl, ?_⟩
      -- the row was not blocked, so its (unexpired) lock was already ours
      unfold lockBlocked at hnb
      rw [List.any_eq_false] at hnb
      have := hnb u.row hc.2
      rw [hc.1] at hl
      simp only [hl, h.fresh _ _ l hl, Bool.not_false, Bool.true_and, bne_iff_ne, ne_eq, Decidable.not_not] at this
      exact this.symm.trans hB
    · exact ⟨l, hl, hB⟩ }

theorem foldl_rows_ok {A t n : Nat} {f : State → Nat → State} (hf : RowBody A t n f) (hfr : ∀ s i, Frame A s (f s i))
    (rows : List Nat) (s : State) (h : Inv s) {x : Tx} (hx : s.txs A = some x) (hnd : rows.Nodup)
    (hrows : ∀ i ∈ rows, ∃ T r, s.tables t = some T ∧ T.ncols = n ∧ T.rows[i]? = some r ∧ r.alive = true)
    (hlock : ∀ i ∈ rows, ∃ l, s.locks t i = some l ∧ l.tx = A) :
    Inv (rows.foldl f s) ∧ Own s (rows.foldl f s) A ∧
    (∀ B xB, B ≠ A → s.txs B = some xB → Other s (rows.foldl f s) B) := by
  induction rows generalizing s x with
  | nil => exact ⟨h, Own.refl hx, fun B _ _ _ => Other.refl s B⟩
  | cons i rest ih =>
    rw [List.foldl_cons]
    obtain ⟨T, r, hT, hn, hr, ha⟩ := hrows i List.mem_cons_self
    obtain ⟨h1, T', r', hT', hn', hrows'⟩ := hf s i x T r h hx hT hn hr ha (hlock i List.mem_cons_self)
    obtain ⟨_, x1, _, _, hx1, _, _⟩ := id h1.2.1
    rw [List.nodup_cons] at hnd
    have h2 := ih (f s i) h1.1 hx1 hnd.2
      (by
        intro k hk
        obtain ⟨T0, r0, hT0, _, hr0, ha0⟩ := hrows k (List.mem_cons_of_mem _ hk)
        rw [hT] at hT0; cases hT0
        have hki : k ≠ i := fun e => hnd.1 (e ▸ hk)
        exact ⟨T', r0, hT', hn', by rw [hrows', set_ne hki]; exact hr0, ha0⟩)
      (by intro k hk; rw [(hfr s i).locks]; exact hlock k (List.mem_cons_of_mem _ hk))
    refine ⟨h2.1, h1.2.1.trans h2.2.1, ?_⟩
    intro B xB hne hxB
    have o1 := h1.2.2 B xB hne hxB
    exact o1.trans (h2.2.2 B xB hne (by rw [o1.1]; exact hxB))

theorem matching_nodup (T : Table) (cond : Cond) : (matching T cond).Nodup := by
  unfold matching
  exact List.Nodup.sublist List.filter_sublist List.nodup_range

theorem stepOK_write_rows {s : State} (h : Inv s) {A t : Nat} {x : Tx} {T : Table} {f : State → Nat → State}
    (hf : RowBody A t T.ncols f) (hfr : ∀ s i, Frame A s (f s i))
    (hx : s.txs A = some x) (hT : s.tables t = some T) (rows sub : List Nat)
    (hex : ∀ i ∈ rows, i < T.rows.length) (hnb : lockBlocked s A t rows = false)
    (hsub : ∀ i ∈ sub, i ∈ rows ∧ ∃ r, T.rows[i]? = some r ∧ r.alive = true) (hnd : sub.Nodup) :
    StepOK s (sub.foldl f (if rows.isEmpty then s else lockAll s A t rows)) (some A) := by
  cases hm : rows with
  | nil =>
    have : sub = [] := List.eq_nil_iff_forall_not_mem.2 fun i hi => by have := (hsub i hi).1; rw [hm] at this; cases this
    rw [this]
    exact StepOK.refl h _
  | cons i0 rest =>
    simp only [List.isEmpty_cons, Bool.false_eq_true, ↓reduceIte]
    rw [← hm]
    have hfold := foldl_rows_ok hf hfr sub (lockAll s A t rows) (inv_lockAll h (hx ▸ nofun) hT hex hnb) (x := x) hx hnd
      (by
        intro i hi
        obtain ⟨r, hr, ha⟩ := (hsub i hi).2
        exact ⟨T, r, hT, rfl, hr, ha⟩)
      (fun i hi => ⟨{ tx := A, acquiredAt := s.now }, by simp [lockAll, (hsub i hi).1], rfl⟩)
    have hfrm := Frame.foldl hfr sub (lockAll s A t rows)
    exact stepOK_of_write hx rfl rfl hfrm.nextTx (fun B hB => (hfrm.txs_none B).2 hB) hfold

theorem stepOK_txUpdate {s : State} (h : Inv s) (A t : Nat) (cond : Cond) (upd : List (Nat × Val)) :
    StepOK s (txUpdate s A t cond upd).1 (some A) := by
  rcases txUpdate_cases s A t cond upd with ⟨e, hc⟩ | ⟨T, hg, hT, hu, hb, hc⟩ <;> rw [hc]
  · exact StepOK.refl h _
  · obtain ⟨x, hx, _⟩ := gate_none hg
    exact stepOK_write_rows h (rowBody_updateRow A t upd (updBad_false_cols hu)) (frame_updateRow A t upd) hx hT _ _
      (fun _ => matching_lt) hb (fun i hi => ⟨hi, (mem_matching.1 hi).imp fun r hr => ⟨hr.1, hr.2.1⟩⟩) (matching_nodup T cond)

theorem stepOK_txDelete {s : State} (h : Inv s) (A t : Nat) (cond : Cond) :
    StepOK s (txDelete s A t cond).1 (some A) := by
  rcases txDelete_cases s A t cond with ⟨e, hc⟩ | ⟨T, hg, hT, hb, hc⟩ <;> rw [hc]
  · exact StepOK.refl h _
  · obtain ⟨x, hx, _⟩ := gate_none hg
    exact stepOK_write_rows h (rowBody_deleteRow A t T.ncols) (frame_deleteRow A t) hx hT _ _
      (fun _ => matching_lt) hb (fun i hi => ⟨hi, (mem_matching.1 hi).imp fun r hr => ⟨hr.1, hr.2.1⟩⟩) (matching_nodup T cond)

theorem stepOK_createTable {s : State} (h : Inv s) (n : Nat) (nl : List Nat) : StepOK s (createTable s n nl).1 none := by
  have hlr : LR (createTable s n nl).1 := (Moves.newTable (E := fun _ => False) s n nl).lr h.lr
  have htab : ∀ k, (createTable s n nl).1.tables k =
      if k = s.ntables then some { ncols := n, nullable := nl, rows := [], hashOn := [], btreeOn := [], hashE := [], btreeE := [] }
      else s.tables k := fun k => rfl
  have hold : ∀ k T, s.tables k = some T → (createTable s n nl).1.tables k = some T := by
    intro k T hT
    rw [htab, if_neg]
    · exact hT
    · intro he
      exact absurd (he ▸ h.tabLt k T hT) (Nat.lt_irrefl _)
  exact {
    inv := { h with
      tabLt := hlr.tabLt
      lockRow := hlr.lockRow
      rowLen := tables_update htab (P := fun _ T => ∀ r ∈ T.rows, r.vals.length = T.ncols) h.rowLen (fun _ hr => nomatch hr)
      idx := tables_update htab (P := fun _ T => IdxExact T) h.idx (idxExact_empty n nl)
      chain := by
        intro B xB hxB k T i r hT
        revert i r
        exact tables_update htab (P := fun k T => ∀ i r, T.rows[i]? = some r →
          GoodSeq T.ncols (T.hashOn ++ T.btreeOn) (xB.undo.reverse.filter (onKey k i)) r)
          (fun k T hT i r => h.chain B xB hxB k T i r hT) (fun i r hr => by simp at hr) k T hT }
    next := Nat.le_refl _
    gone := fun _ hB _ => hB
    other := by
      intro B xB _ hxB
      refine Or.inr ⟨rfl, ?_⟩
      intro t i hn
      obtain ⟨_, T, _, _, hT, _⟩ := h.named_row hn
      have := hold t T hT
      exact ⟨by simp only [rowAt, this, hT], by simp only [ncolsAt, this, hT]⟩
    own := by intro A x he; cases he }

/-- no open transaction has written table `t` -/
def Untouched (s : State) (t : Nat) : Prop := ∀ B xB, s.txs B = some xB → ∀ u ∈ xB.undo, u.table ≠ t

/-- table `t` replaced, outside any transaction, by one whose row list extends the old one (index DDL: no new
    rows; `batch_insert`: same indexes); the indexes may differ only if no open transaction has written the table -/
theorem stepOK_replaceTable {s : State} (h : Inv s) {t : Nat} {T T' : Table} (hT : s.tables t = some T)
    (more : List Row) (hrows : T'.rows = T.rows ++ more) (hnc : T'.ncols = T.ncols)
    (hon : Untouched s t ∨ (T'.hashOn = T.hashOn ∧ T'.btreeOn = T.btreeOn))
    (hlen : ∀ r ∈ more, r.vals.length = T.ncols) (hidx : IdxExact T') :
    StepOK s (setTable s t T') none := by
  have hpre : ∀ i, i < T.rows.length → T'.rows[i]? = T.rows[i]? := by
    intro i hi
    rw [hrows, List.getElem?_append_left hi]
  -- a row of table `t` named by an open transaction lies in the old row list
  have hnamed : ∀ B xB, s.txs B = some xB → ∀ u ∈ xB.undo, u.table = t → u.row < T.rows.length := by
    intro B xB hxB u hu hut
    obtain ⟨l, hl, _⟩ := h.named B xB hxB u hu
    obtain ⟨T0, hT0, hlt⟩ := h.lockRow _ _ l hl
    rw [hut, hT] at hT0; cases hT0
    exact hlt
  have htab : ∀ k, (setTable s t T').tables k = if k = t then some T' else s.tables k := fun k => rfl
  have hlr : LR (setTable s t T') :=
    (Moves.frame (E := fun _ => False) (frame_setTable 0 hT (by rw [hrows, List.length_append]; exact Nat.le_add_right _ _))).lr h.lr
  exact {
    inv := { h with
      tabLt := hlr.tabLt
      lockRow := hlr.lockRow
      rowLen := by
        refine tables_update htab (P := fun _ T0 => ∀ r ∈ T0.rows, r.vals.length = T0.ncols) h.rowLen ?_
        intro r hr
        rw [hrows, List.mem_append] at hr
        rw [hnc]
        rcases hr with hr | hr
        · exact h.rowLen t T hT r hr
        · exact hlen r hr
      idx := tables_update htab (P := fun _ T0 => IdxExact T0) h.idx hidx
      chain := by
        intro B xB hxB k T0 i r hT0
        revert i r
        refine tables_update htab (P := fun k T0 => ∀ i r, T0.rows[i]? = some r →
          GoodSeq T0.ncols (T0.hashOn ++ T0.btreeOn) (xB.undo.reverse.filter (onKey k i)) r)
          (fun k T0 hT0 i r => h.chain B xB hxB k T0 i r hT0) ?_ k T0 hT0
        intro i r hr
        by_cases hi : (∃ u ∈ xB.undo, u.table = t ∧ u.row = i)
        · obtain ⟨u, hu, hut, hur⟩ := hi
          rcases hon with hno | ⟨hh, hb⟩
          · exact absurd hut (hno B xB hxB u hu)
          · rw [hpre i (hur ▸ hnamed B xB hxB u hu hut)] at hr
            rw [hnc, hh, hb]
            exact h.chain B xB hxB t T i r hT hr
        · rw [filter_onKey_eq_nil]; · trivial
          intro u hu hk
          exact hi ⟨u, List.mem_reverse.1 hu, hk⟩ }
    next := Nat.le_refl _
    gone := fun _ hB _ => hB
    other := by
      intro B xB _ hxB
      refine Or.inr ⟨rfl, ?_⟩
      intro k i hn
      simp only [rowAt, ncolsAt, setTable_tables]
      by_cases hk : k = t
      · subst hk
        obtain ⟨y, hy, u, hu, hut, hur⟩ := hn
        have hi : i < T.rows.length := hur ▸ hnamed B y hy u hu hut
        simp [hT, hpre i hi, hnc]
      · simp [hk]
    own := by intro A x he; cases he }

theorem stepOK_ddl {s : State} (h : Inv s) {t : Nat} {T T' : Table} (hT : s.tables t = some T)
    (hrows : T'.rows = T.rows) (hnc : T'.ncols = T.ncols) (hidx : IdxExact T') (hno : Untouched s t) :
    StepOK s (setTable s t T') none :=
  stepOK_replaceTable h hT [] (by rw [hrows, List.append_nil]) hnc (Or.inl hno) (fun _ hr => nomatch hr) hidx

theorem stepOK_createIndex {s : State} (h : Inv s) (t c : Nat) (hno : Untouched s t) :
    StepOK s (createIndex s t c).1 none := by
  unfold createIndex
  cases hT : s.tables t with
  | none => exact StepOK.refl h _
  | some T =>
    dsimp only
    by_cases h1 : c ≥ T.ncols
    · rw [if_pos h1]; exact StepOK.refl h _
    · rw [if_neg h1]
      by_cases h2 : c ∈ T.hashOn
      · rw [if_pos h2]; exact StepOK.refl h _
      · rw [if_neg h2]
        exact stepOK_ddl h hT rfl rfl (idxExact_createIndex T c (h.idx t T hT) h2) hno

theorem stepOK_createBtree {s : State} (h : Inv s) (t c : Nat) (hno : Untouched s t) :
    StepOK s (createBtree s t c).1 none := by
  unfold createBtree
  cases hT : s.tables t with
  | none => exact StepOK.refl h _
  | some T =>
    dsimp only
    by_cases h1 : c ≥ T.ncols
    · rw [if_pos h1]; exact StepOK.refl h _
    · rw [if_neg h1]
      by_cases h2 : c ∈ T.btreeOn
      · rw [if_pos h2]; exact StepOK.refl h _
      · rw [if_neg h2]
        exact stepOK_ddl h hT rfl rfl (idxExact_createBtree T c (h.idx t T hT) h2) hno

theorem stepOK_dropIndex {s : State} (h : Inv s) (t c : Nat) (hno : Untouched s t) :
    StepOK s (dropIndex s t c).1 none := by
  unfold dropIndex
  split
  · exact StepOK.refl h _
  · rename_i T hT
    split
    · exact stepOK_ddl h hT rfl rfl (idxExact_dropIndex T c (h.idx t T hT)) hno
    · exact StepOK.refl h _

theorem stepOK_dropBtree {s : State} (h : Inv s) (t c : Nat) (hno : Untouched s t) :
    StepOK s (dropBtree s t c).1 none := by
  unfold dropBtree
  split
  · exact StepOK.refl h _
  · rename_i T hT
    split
    · exact stepOK_ddl h hT rfl rfl (idxExact_dropBtree T c (h.idx t T hT)) hno
    · exact StepOK.refl h _

theorem stepOK_batchInsert {s : State} (h : Inv s) (t : Nat) (rows : List (List Val)) :
    StepOK s (batchInsert s t rows).1 none := by
  rcases batchInsert_form s t rows with hf | ⟨T, hT, hok, hf⟩
  · rw [hf]; exact StepOK.refl h _
  · rw [hf]
    have f := foldl_insertRow rows T
    refine stepOK_replaceTable h hT (rows.map fun v => { alive := true, vals := v }) f.1 f.2.1 (Or.inr ⟨f.2.2.1, f.2.2.2.1⟩) ?_
      (idxExact_foldl_insertRow rows T (h.idx t T hT))
    intro r hr
    obtain ⟨v, hv, rfl⟩ := List.mem_map.1 hr
    have := List.any_eq_false.1 hok v hv
    exact rowBad_false_len (by simpa using this)

theorem stepOK_auto {s : State} (h : Inv s) {f : State → Nat → State × Res}
    (hf : ∀ s1, Inv s1 → StepOK s1 (f s1 s.nextTx).1 (some s.nextTx)) :
    StepOK s (finishAuto (f (begin s).1 (begin s).2) (begin s).2).1 none := by
  have h0 := stepOK_begin h
  have h1 := hf (begin s).1 h0.inv
  -- the internal transaction is not open at the start
  have hI : ∀ I, ((none : Option Nat) = some I ∨ some s.nextTx = some I) → s.txs I = none := by
    rintro I (e | e)
    · cases e
    · cases e; exact h.nextTx_none
  refine StepOK.comp h (StepOK.comp h h0 h1 hI) ?_ hI
  rcases finishAuto_cases (f (begin s).1 (begin s).2) (begin s).2 with e | e <;> rw [e]
  · exact stepOK_rollback h1.inv _
  · exact stepOK_commit h1.inv _

theorem stepOK_insert {s : State} (h : Inv s) (t : Nat) (vals : List Val) : StepOK s (insert s t vals).1 none := by
  rcases insert_cases s t vals with ⟨e, hc⟩ | hc <;> rw [hc]
  · exact StepOK.refl h _
  · exact stepOK_auto h (f := fun s1 I => txInsert s1 I t vals) (fun s1 h1 => stepOK_txInsert h1 _ t vals)

theorem stepOK_update {s : State} (h : Inv s) (t : Nat) (cond : Cond) (upd : List (Nat × Val)) :
    StepOK s (update s t cond upd).1 none := by
  rcases update_cases s t cond upd with ⟨e, hc⟩ | hc <;> rw [hc]
  · exact StepOK.refl h _
  · exact stepOK_auto h (f := fun s1 I => txUpdate s1 I t cond upd) (fun s1 h1 => stepOK_txUpdate h1 _ t cond upd)

theorem stepOK_delete {s : State} (h : Inv s) (t : Nat) (cond : Cond) : StepOK s (delete s t cond).1 none := by
  rcases delete_cases s t cond with ⟨e, hc⟩ | hc <;> rw [hc]
  · exact StepOK.refl h _
  · exact stepOK_auto h (f := fun s1 I => txDelete s1 I t cond) (fun s1 h1 => stepOK_txDelete h1 _ t cond)

/-! ## the side conditions, as a computable predicate on scripts -/

/-- some open transaction has an undo entry on table `t` -/
def namesTable (s : State) (t : Nat) : Bool :=
  (List.range s.nextTx).any fun A =>
    match s.txs A with
    | some x => x.undo.any (fun u => u.table == t)
    | none => false

/-- per statement: index DDL only on a table no open transaction has written; a `tick` after which
    every lock in the table is still unexpired -/
def stepCalm (s : State) (op : Op) : Bool :=
  match op with
  | .createIndex t _ => !namesTable s t
  | .createBtree t _ => !namesTable s t
  | .dropIndex t _ => !namesTable s t
  | .dropBtree t _ => !namesTable s t
  | .tick d => (allKeys s).all fun k => !(lockExpiredAt (tick s d) k.1 k.2)
  | _ => true

/-- a script during which no lock expires and no index is created / dropped on a table while a
    transaction that has written that table is open -/
def calm (s : State) : List Op → Bool
  | [] => true
  | op :: ops => stepCalm s op && calm (step s op).1 ops

/-- the transaction whose statement `op` is -/
def actor : Op → Option Nat
  | .commit A => some A
  | .rollback A => some A
  | .txInsert A _ _ => some A
  | .txUpdate A _ _ _ => some A
  | .txDelete A _ _ => some A
  | _ => none

theorem untouched_of {s : State} (h : Inv s) {t : Nat} (hn : (!namesTable s t) = true) : Untouched s t := by
  intro B xB hxB u hu he
  have hB := h.txLt B xB hxB
  simp only [Bool.not_eq_eq_eq_not, Bool.not_true] at hn
  unfold namesTable at hn
  rw [List.any_eq_false] at hn
  have := hn B (List.mem_range.2 hB)
  simp only [hxB] at this
  rw [Bool.not_eq_true, List.any_eq_false] at this
  have := this u hu
  simp [he] at this

theorem fresh_of {s : State} (h : Inv s) {d : Nat}
    (hc : ((allKeys s).all fun k => !(lockExpiredAt (tick s d) k.1 k.2)) = true) :
    ∀ t i l, s.locks t i = some l → l.expired (s.now + d) s.lockTimeout = false := by
  intro t i l hl
  obtain ⟨T, hT, hlt⟩ := h.lockRow t i l hl
  have hmem : (t, i) ∈ allKeys s := by
    unfold allKeys
    rw [List.mem_flatMap]
    refine ⟨t, List.mem_range.2 (h.tabLt t T hT), ?_⟩
    simp only [hT, List.mem_map, List.mem_range]
    exact ⟨i, hlt, rfl⟩
  simpa [lockExpiredAt, tick, hl] using List.all_eq_true.1 hc (t, i) hmem

theorem step_ok {s : State} (h : Inv s) (op : Op) (hc : stepCalm s op = true) : StepOK s (step s op).1 (actor op) := by
  cases op with
  | begin => exact stepOK_begin h
  | commit A => exact stepOK_commit h A
  | rollback A => exact stepOK_rollback h A
  | txInsert A t v => exact stepOK_txInsert h A t v
  | txUpdate A t c u => exact stepOK_txUpdate h A t c u
  | txDelete A t c => exact stepOK_txDelete h A t c
  | insert t v => exact stepOK_insert h t v
  | update t c u => exact stepOK_update h t c u
  | delete t c => exact stepOK_delete h t c
  | batchInsert t rows => exact stepOK_batchInsert h t rows
  | createTable n nl => exact stepOK_createTable h n nl
  | createIndex t c => exact stepOK_createIndex h t c (untouched_of h hc)
  | createBtree t c => exact stepOK_createBtree h t c (untouched_of h hc)
  | dropIndex t c => exact stepOK_dropIndex h t c (untouched_of h hc)
  | dropBtree t c => exact stepOK_dropBtree h t c (untouched_of h hc)
  | tick d => exact stepOK_tick h d (fresh_of h hc)
  | cleanupLocks => exact stepOK_cleanupLocks h
  | cleanupTxs => exact stepOK_cleanupTxs h

theorem run_cons (s : State) (op : Op) (ops : List Op) : run s (op :: ops) = run (step s op).1 ops := rfl

theorem run_append (s : State) (p q : List Op) : run s (p ++ q) = run (run s p) q := by
  unfold run; rw [List.foldl_append]

theorem calm_append {s : State} {p q : List Op} (h : calm s (p ++ q) = true) :
    calm s p = true ∧ calm (run s p) q = true := by
  induction p generalizing s with
  | nil => exact ⟨rfl, h⟩
  | cons op p ih =>
    simp only [List.cons_append, calm, Bool.and_eq_true] at h ⊢
    have := ih h.2
    exact ⟨⟨h.1, this.1⟩, by rw [run_cons]; exact this.2⟩

theorem inv_run {s : State} (h : Inv s) (ops : List Op) (hc : calm s ops = true) : Inv (run s ops) := by
  induction ops generalizing s with
  | nil => exact h
  | cons op ops ih =>
    simp only [calm, Bool.and_eq_true] at hc
    rw [run_cons]
    exact ih (step_ok h op hc.1).inv hc.2

theorem step_keeps {s : State} {op : Op} {A : Nat} {x x' : Tx} (h : Inv s) (hc : stepCalm s op = true)
    (hx : s.txs A = some x) (hx' : (step s op).1.txs A = some x') :
    (∃ more, x'.undo = x.undo ++ more) ∧
    ∀ t i, Names (step s op).1 A t i →
      liveOf (restoredRow (step s op).1 x'.undo t i) = liveOf (restoredRow s x.undo t i) := by
  have hs := step_ok h op hc
  by_cases ha : actor op = some A
  · rcases hs.own A x ha hx with hnone | hown
    · rw [hnone] at hx'; cases hx'
    · obtain ⟨y, y', more, hy, hy', hm, hl⟩ := hown
      rw [hx] at hy; cases hy
      rw [hx'] at hy'; cases hy'
      exact ⟨⟨more, hm⟩, fun t i _ => hl t i⟩
  · rcases hs.other A x (fun e => ha e.symm) hx with hnone | hoth
    · rw [hnone] at hx'; cases hx'
    · have hxx : x' = x := by
        have := hoth.1; rw [hx, hx'] at this; cases this; rfl
      subst hxx
      refine ⟨⟨[], by simp⟩, ?_⟩
      intro t i hn
      have hn0 : Names s A t i := by
        obtain ⟨y, hy, rest⟩ := hn
        rw [hx'] at hy; cases hy
        exact ⟨_, hx, rest⟩
      have := hoth.2 t i hn0
      simp only [restoredRow, this.1, this.2]

theorem step_named_row_untouched {s : State} {op : Op} {A t i : Nat} (h : Inv s) (hc : stepCalm s op = true)
    (hn : Names s A t i) (ha : actor op ≠ some A) (hopen : (step s op).1.txs A ≠ none) :
    rowAt (step s op).1 t i = rowAt s t i := by
  obtain ⟨x, hx, _⟩ := id hn
  rcases (step_ok h op hc).other A x (fun e => ha e.symm) hx with hnone | hoth
  · exact absurd hnone hopen
  · exact (hoth.2 t i hn).1

theorem run_keeps {s : State} {ops : List Op} {A t i : Nat} {x xf : Tx} (h : Inv s) (hc : calm s ops = true)
    (hx : s.txs A = some x) (hn : Names s A t i) (hxf : (run s ops).txs A = some xf) :
    liveOf (restoredRow (run s ops) xf.undo t i) = liveOf (restoredRow s x.undo t i) := by
  induction ops generalizing s x with
  | nil =>
    have : xf = x := by
      have h1 : (run s []).txs A = s.txs A := rfl
      rw [h1, hx] at hxf; cases hxf; rfl
    subst this; rfl
  | cons op ops ih =>
    simp only [calm, Bool.and_eq_true] at hc
    rw [run_cons] at hxf ⊢
    -- had `A` left the map in this step it would not be back at the end
    obtain ⟨x1, hx1⟩ : ∃ x1, (step s op).1.txs A = some x1 := by
      cases h1 : (step s op).1.txs A with
      | some x1 => exact ⟨x1, rfl⟩
      | none =>
        have hg : Gone (step s op).1 A := ⟨h1, Nat.lt_of_lt_of_le (h.txLt A x hx) (step_ok h op hc.1).next⟩
        rw [(gone_run hg ops).1] at hxf
        cases hxf
    have hk := step_keeps h hc.1 hx hx1
    have hn1 : Names (step s op).1 A t i := by
      obtain ⟨y, hy, u, hu, hk'⟩ := hn
      rw [hx] at hy; cases hy
      obtain ⟨more, hm⟩ := hk.1
      exact ⟨x1, hx1, u, by rw [hm]; exact List.mem_append_left _ hu, hk'⟩
    rw [ih (step_ok h op hc.1).inv hc.2 hx1 hn1 hxf]
    exact hk.2 t i hn1

/-! ## decidability of `Names` (for the non-vacuity examples) -/

def namesB (s : State) (A t i : Nat) : Bool :=
  match s.txs A with
  | some x => x.undo.any (onKey t i)
  | none => false

theorem names_iff {s : State} {A t i : Nat} : Names s A t i ↔ namesB s A t i = true := by
  unfold Names namesB
  cases hx : s.txs A with
  | none => simp
  | some x =>
    simp only [Option.some.injEq, exists_eq_left', List.any_eq_true]
    constructor
    · rintro ⟨u, hu, hk⟩; exact ⟨u, hu, onKey_iff.2 hk⟩
    · rintro ⟨u, hu, hk⟩; exact ⟨u, hu, onKey_iff.1 hk⟩

instance (s : State) (A t i : Nat) : Decidable (Names s A t i) := decidable_of_iff _ names_iff.symm

theorem txInsert_locks_row {s : State} (h : LR s) {A t n : Nat} {vals : List Val} {T : Table} (hT : s.tables t = some T)
    (hok : (txInsert s A t vals).2 = .okN n) : n = T.rows.length ∧ holder (txInsert s A t vals).1 t n = some A := by
  have hb := h.not_blocked_new hT A
  rcases txInsert_cases s A t vals with ⟨e, h'⟩ | ⟨T', _, hT', _, h'⟩
  · rw [h'] at hok; cases hok
  · rw [hT] at hT'; cases hT'
    rw [h'] at hok ⊢
    cases hok
    refine ⟨rfl, ?_⟩
    simp only [hb, Bool.false_eq_true, ↓reduceIte]
    rw [(frame_recordUndo _ A _).holder_eq]
    exact holder_lockAll s A t _ [_] List.mem_cons_self

end Neumann.RelTx

/-! ## scripts used by the witnesses and non-vacuity examples of `Props.lean` -/
namespace Neumann.RelTx.Props
open Neumann.RelTx

def s0 : State := init 30000 60000
/-- table 0 with a hash and a b-tree index on column 0, one committed row `[1,1]` (slab id 0) -/
def setupIdx : List Op := [.createTable 2 [], .createIndex 0 0, .createBtree 0 0, .insert 0 [1, 1]]
def setupPlain : List Op := [.createTable 2 [], .insert 0 [1, 1]]

/-- a transaction (id 2) that updated row 0, deleted row 1 and inserted row 2 — each row named once -/
def sThree : State :=
  run s0 (setupIdx ++ [.insert 0 [2, 2], .begin, .txUpdate 2 0 (.idEq 0) [(0, 4)], .txDelete 2 0 (.idEq 1), .txInsert 2 0 [3, 3]])

/-- a calm script: DDL before the transactions and on an untouched table, a tick inside the lock
    timeout, transactions 3 (A), 4 (B) open, 6 (C) committed, non-transactional statements -/
def calmOps : List Op := [
  .createTable 2 [], .createIndex 0 0, .createBtree 0 0, .createBtree 0 1,
  .insert 0 [1, 1], .insert 0 [2, 2], .insert 0 [3, 3],
  .begin, .begin,
  .txUpdate 3 0 (.idEq 0) [(0, 4)],
  .txInsert 4 0 [7, 7],
  .tick 1000,
  .txInsert 3 0 [5, 5],
  .txUpdate 3 0 (.idEq 4) [(1, 0)],
  .txUpdate 3 0 (.idEq 0) [(0, 5), (1, 5)],
  .txDelete 3 0 (.idEq 0),
  .txUpdate 4 0 (.idEq 1) [(1, 9)],
  .update 0 (.idEq 2) [(0, 8)],
  .txUpdate 4 0 .all [(0, 0)],
  .begin, .txUpdate 6 0 (.idEq 2) [(1, 1)], .commit 6,
  .createTable 1 [], .createIndex 1 0]

/-- the shape of the seeded regression C09_2: three columns (0 = hash-indexed, 1 = b-tree-indexed,
    2 = not indexed), three committed rows, transaction 3 open -/
def sameValueSetup : List Op := [.createTable 3 [], .createIndex 0 0, .createBtree 0 1,
  .insert 0 [1, 3, 100], .insert 0 [1, 5, 200], .insert 0 [2, 7, 300], .begin]

/-- an ORM-style "write all columns" UPDATE of row 1: column 2 changes, the indexed columns 0 and 1
    are written back with the values the row already holds -/
def sameValueUpd : List (Nat × Val) := [(0, 1), (1, 5), (2, 150)]

def sameValueOps : List Op := sameValueSetup ++ [.txUpdate 3 0 (.idEq 1) sameValueUpd]

end Neumann.RelTx.Props
