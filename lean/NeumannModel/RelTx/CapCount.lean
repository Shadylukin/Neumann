import NeumannModel.RelTx.CapLemmas
/-
  C09 — the engine-wide b-tree key count never exceeds the cap in a capped run (`CapModel.lean`).

  `btree_index_add` is the only step that creates a key, and it consults the count (the keys of the
  table at hand plus `otherKeys`) before it does; every other step of every statement removes entries or
  leaves the trees alone, and a statement only changes the trees of one table at a time.  Hence
  `btCount s ≤ cap` is an invariant of `stepC cap` (`capInv_stepC`, `capInv_runC`), and in an invariant
  state the split `otherKeys s t + keyCount T.btreeE ≤ cap` the statement-level theorems start from holds
  for every table that exists (`capInv_split`).
-/
namespace Neumann.RelTx

/-- invariant of capped runs: the keys of all in-memory b-trees number at most `cap`, and table names beyond
    `ntables` are unused -/
structure CapInv (cap : Nat) (s : State) : Prop where
  count : btCount s ≤ cap
  names : ∀ k, s.ntables ≤ k → s.tables k = none

theorem foldl_inv {α β : Type} (P : β → Prop) (f : β → α → β) (hf : ∀ b a, P b → P (f b a)) :
    ∀ (l : List α) (b : β), P b → P (l.foldl f b) := by
  intro l
  induction l with
  | nil => intro b h; exact h
  | cons a l ih => intro b h; rw [List.foldl_cons]; exact ih _ (hf b a h)

theorem sum_map_split (f : Nat → Nat) (t : Nat) (l : List Nat) :
    (l.map f).sum = ((l.filter (· ≠ t)).map f).sum + l.count t * f t := by
  induction l with
  | nil => rw [List.count_nil, Nat.zero_mul]; rfl
  | cons a l ih =>
    by_cases h : a = t
    · subst h
      rw [List.filter_cons_of_neg (by simp), List.count_cons_self, List.map_cons, List.sum_cons, ih, Nat.succ_mul,
        Nat.add_left_comm, Nat.add_comm (f a)]
    · rw [List.filter_cons_of_pos (by simpa using h), List.count_cons_of_ne h, List.map_cons, List.map_cons,
        List.sum_cons, List.sum_cons, ih, Nat.add_assoc]

theorem sum_range_split (f : Nat → Nat) {n t : Nat} (h : t < n) :
    ((List.range n).map f).sum = (((List.range n).filter (· ≠ t)).map f).sum + f t := by
  rw [sum_map_split f t, List.count_range, if_pos h, Nat.one_mul]

theorem tableKeys_eq {s s' : State} {k : Nat} (h : s'.tables k = s.tables k) : tableKeys s' k = tableKeys s k := by
  unfold tableKeys
  rw [h]

theorem tableKeys_some {s : State} {t : Nat} {T : Table} (h : s.tables t = some T) : tableKeys s t = keyCount T.btreeE := by
  unfold tableKeys
  rw [h]

theorem btCount_congr {s s' : State} (hn : s'.ntables = s.ntables) (ht : s'.tables = s.tables) : btCount s' = btCount s := by
  unfold btCount
  rw [hn, List.map_congr_left fun k _ => tableKeys_eq (congrFun ht k)]

theorem capInv_congr {cap : Nat} {s s' : State} (hn : s'.ntables = s.ntables) (ht : s'.tables = s.tables)
    (h : CapInv cap s) : CapInv cap s' := by
  refine ⟨?_, ?_⟩
  · rw [btCount_congr hn ht]; exact h.count
  · intro k hk
    rw [ht]
    exact h.names k (hn ▸ hk)

theorem lt_ntables {s : State} (hnames : ∀ k, s.ntables ≤ k → s.tables k = none) {t : Nat} {T : Table}
    (hT : s.tables t = some T) : t < s.ntables := by
  apply Nat.lt_of_not_le
  intro hle
  rw [hnames t hle] at hT
  cases hT

theorem btCount_split {s : State} (hnames : ∀ k, s.ntables ≤ k → s.tables k = none) {t : Nat} {T : Table}
    (hT : s.tables t = some T) : btCount s = otherKeys s t + keyCount T.btreeE := by
  unfold btCount otherKeys
  rw [sum_range_split (tableKeys s) (lt_ntables hnames hT), tableKeys_some hT]

theorem capInv_split {cap : Nat} {s : State} (h : CapInv cap s) {t : Nat} {T : Table} (hT : s.tables t = some T) :
    otherKeys s t + keyCount T.btreeE ≤ cap := by
  rw [← btCount_split h.names hT]
  exact h.count

theorem capInv_setTable {cap : Nat} {s s1 : State} {t : Nat} {T T' : Table} (h : CapInv cap s)
    (hn : s1.ntables = s.ntables) (ht : s1.tables = s.tables) (hT : s.tables t = some T)
    (hc : otherKeys s t + keyCount T'.btreeE ≤ cap) : CapInv cap (setTable s1 t T') := by
  have hlt : t < s.ntables := lt_ntables h.names hT
  have hn' : (setTable s1 t T').ntables = s.ntables := hn
  have hT' : (setTable s1 t T').tables t = some T' := by rw [setTable_tables, if_pos rfl]
  have hnames : ∀ k, (setTable s1 t T').ntables ≤ k → (setTable s1 t T').tables k = none := by
    intro k hk
    rw [hn'] at hk
    rw [setTable_tables, if_neg (Nat.ne_of_gt (Nat.lt_of_lt_of_le hlt hk)), ht]
    exact h.names k hk
  refine ⟨?_, hnames⟩
  rw [btCount_split hnames hT']
  have : otherKeys (setTable s1 t T') t = otherKeys s t :=
    otherKeys_congr hn' (fun k hk => by rw [setTable_tables, if_neg hk, ht])
  rw [this]
  exact hc

theorem capInv_init (cap a b : Nat) : CapInv cap (init a b) := by
  refine ⟨?_, fun _ _ => rfl⟩
  show ((List.range 0).map (tableKeys (init a b))).sum ≤ cap
  rw [List.range_zero]
  exact Nat.zero_le _

theorem keyCount_idxRemove_le (e : Entry) (es : List Entry) : keyCount (idxRemove e es) ≤ keyCount es :=
  keyCount_mono fun x hx => ⟨x, (mem_idxRemove.mp hx).1, rfl⟩

theorem keyCount_idxDropCol_le (c : Nat) (es : List Entry) : keyCount (idxDropCol c es) ≤ keyCount es :=
  keyCount_mono fun x hx => ⟨x, (mem_idxDropCol.mp hx).1, rfl⟩

theorem fits_idxRemove {cap other : Nat} (e : Entry) {es : List Entry} (h : other + keyCount es ≤ cap) :
    other + keyCount (idxRemove e es) ≤ cap :=
  Nat.le_trans (Nat.add_le_add_left (keyCount_idxRemove_le e es) _) h

theorem keyCount_idxAdd_of_hasKey {e : Entry} {es : List Entry} (h : hasKey es (ekey e) = true) :
    keyCount (idxAdd e es) ≤ keyCount es := by
  obtain ⟨x, hx, hxe⟩ := hasKey_true.mp h
  apply keyCount_mono
  intro y hy
  rcases mem_idxAdd.mp hy with rfl | hy
  · exact ⟨x, hx, hxe⟩
  · exact ⟨y, hy, rfl⟩

theorem btAddC_fits {cap other : Nat} {e : Entry} {es es' : List Entry} (hb : btAddC cap other e es = some es')
    (h : other + keyCount es ≤ cap) : other + keyCount es' ≤ cap := by
  rw [btAddC_some hb]
  cases hk : hasKey es (ekey e) with
  | true =>
    exact Nat.le_trans (Nat.add_le_add_left (keyCount_idxAdd_of_hasKey hk) _) h
  | false =>
    have hlt : ¬ cap ≤ other + keyCount es := fun hc => by rw [btAddC_eq_none.mpr ⟨hk, hc⟩] at hb; cases hb
    rw [idxAdd_of_not_mem (not_mem_of_hasKey_false hk), keyCount_append_new hk]
    exact Nat.lt_of_not_le hlt

theorem btMoves_fits {cap other : Nat} {upd : List (Nat × Val)} {vals : List Val} {i : Nat}
    (cs : List Nat) (es : List Entry) (h : other + keyCount es ≤ cap) :
    other + keyCount (btMoves cap other upd vals i cs es).1 ≤ cap := by
  fun_induction btMoves cap other upd vals i cs es with
  | case1 es => exact h
  | case2 c cs es hu ih => exact ih h
  | case3 c cs es n hu hb => exact fits_idxRemove _ h
  | case4 c cs es n hu es' hb ih => exact ih (btAddC_fits hb (fits_idxRemove _ h))

theorem btAdds_fits {cap other : Nat} {vals : List Val} {id : Nat}
    (cs : List Nat) (es : List Entry) (h : other + keyCount es ≤ cap) :
    other + keyCount (btAdds cap other vals id cs es).1 ≤ cap := by
  fun_induction btAdds cap other vals id cs es with
  | case1 es => exact h
  | case2 c cs es hb => exact h
  | case3 c cs es es' hb ih => exact ih (btAddC_fits hb h)

theorem buildColC_fits {cap other : Nat} {T : Table} {c : Nat}
    (is : List Nat) (es : List Entry) (h : other + keyCount es ≤ cap) :
    other + keyCount (buildColC cap other T c is es).1 ≤ cap := by
  fun_induction buildColC cap other T c is es with
  | case1 es => exact h
  | case2 i is es hr ih => exact ih h
  | case3 i is es r hr hb => exact h
  | case4 i is es r hr es' hb ih => exact ih (btAddC_fits hb h)

theorem insertRowC_fits {cap other : Nat} {T : Table} (v : List Val) (h : other + keyCount T.btreeE ≤ cap) :
    other + keyCount (insertRowC cap other T v).1.btreeE ≤ cap :=
  btAdds_fits _ _ h

theorem batchRowsC_fits {cap other : Nat} (vs : List (List Val)) (T : Table) (h : other + keyCount T.btreeE ≤ cap) :
    other + keyCount (batchRowsC cap other vs T).1.btreeE ≤ cap := by
  fun_induction batchRowsC cap other vs T with
  | case1 T => exact h
  | case2 v vs T T' hp ih => exact ih (by have := insertRowC_fits (cap := cap) v h; rw [hp] at this; exact this)
  | case3 v vs T T' hp => have := insertRowC_fits (cap := cap) v h; rw [hp] at this; exact this

theorem undoChangeC_fits {cap other : Nat} {on : List Nat} {i : Nat} (acc : List Entry × Nat) (p : Nat × Val × Val)
    (h : other + keyCount acc.1 ≤ cap) : other + keyCount (undoChangeC cap other on i acc p).1 ≤ cap := by
  have hrem := fits_idxRemove (p.1, p.2.2, i) h
  unfold undoChangeC
  split
  · split
    · rename_i es hb
      exact btAddC_fits hb hrem
    · exact hrem
  · exact h

theorem undoReaddC_fits {cap other : Nat} {on : List Nat} {i : Nat} (acc : List Entry × Nat) (p : Nat × Val)
    (h : other + keyCount acc.1 ≤ cap) : other + keyCount (undoReaddC cap other on i acc p).1 ≤ cap := by
  unfold undoReaddC
  split
  · split
    · rename_i es hb
      exact btAddC_fits hb h
    · exact h
  · exact h

theorem applyUndoTC_fits {cap other : Nat} {T : Table} (u : Undo) (h : other + keyCount T.btreeE ≤ cap) :
    other + keyCount (applyUndoTC cap other T u).1.btreeE ≤ cap := by
  cases u with
  | inserted t i idx =>
    exact foldl_inv (fun es => other + keyCount es ≤ cap) (fun es (p : Nat × Val) => idxRemove (p.1, p.2, i) es)
      (fun _ _ hes => fits_idxRemove _ hes) idx _ h
  | updated t i old chg =>
    exact foldl_inv (fun acc : List Entry × Nat => other + keyCount acc.1 ≤ cap) _ undoChangeC_fits chg (T.btreeE, 0) h
  | deleted t i old idx =>
    exact foldl_inv (fun acc : List Entry × Nat => other + keyCount acc.1 ≤ cap) _ undoReaddC_fits idx (T.btreeE, 0) h

theorem updateRowT_fits {cap other : Nat} {upd : List (Nat × Val)} {T : Table} {i : Nat} {r : Row}
    (h : other + keyCount T.btreeE ≤ cap) : other + keyCount (updateRowT cap other upd T i r).1.btreeE ≤ cap := by
  unfold updateRowT
  dsimp only
  split <;> exact btMoves_fits _ _ h

theorem ite_lock_fields (b : Bool) (s : State) (tx t : Nat) (rows : List Nat) :
    (if b then s else lockAll s tx t rows).ntables = s.ntables ∧
      (if b then s else lockAll s tx t rows).tables = s.tables := by
  cases b <;> exact ⟨rfl, rfl⟩

theorem capInv_begin {cap : Nat} {s : State} (h : CapInv cap s) : CapInv cap (begin s).1 :=
  capInv_congr (s := s) rfl rfl h

theorem capInv_commit {cap : Nat} {s : State} (h : CapInv cap s) (tx : Nat) : CapInv cap (commit s tx).1 := by
  unfold commit
  split
  · exact h
  · exact capInv_congr (s := s) rfl rfl h

theorem capInv_updateRowC {cap : Nat} (tx t : Nat) (upd : List (Nat × Val)) {s : State} (i : Nat)
    (h : CapInv cap s) : CapInv cap (updateRowC cap tx t upd s i).1 := by
  unfold updateRowC
  cases hT : s.tables t with
  | none => exact h
  | some T =>
    dsimp only
    cases hr : T.rows[i]? with
    | none => exact h
    | some r =>
      dsimp only
      exact capInv_setTable h (recordUndo_ntables _ _ _) (recordUndo_tables _ _ _) hT
        (updateRowT_fits (capInv_split h hT))

theorem capInv_foldRowsC {cap : Nat} (f : State → Nat → State × Bool)
    (hf : ∀ s i, CapInv cap s → CapInv cap (f s i).1) (is : List Nat) (s : State) (h : CapInv cap s) :
    CapInv cap (foldRowsC f is s).1 := by
  fun_induction foldRowsC f is s with
  | case1 s => exact h
  | case2 i is s s' hp ih => exact ih (by have := hf s i h; rw [hp] at this; exact this)
  | case3 i is s s' hp => have := hf s i h; rw [hp] at this; exact this

theorem capInv_txUpdateC {cap : Nat} {s : State} (h : CapInv cap s) (tx t : Nat) (cond : Cond) (upd : List (Nat × Val)) :
    CapInv cap (txUpdateC cap s tx t cond upd).1 := by
  rcases txUpdateC_cases cap s tx t cond upd with ⟨e, he⟩ | ⟨T, _, _, _, _, hstate, _⟩
  · rw [he]; exact h
  · rw [hstate]
    apply capInv_foldRowsC _ (fun s i hs => capInv_updateRowC tx t upd i hs)
    split
    · exact h
    · exact capInv_congr (s := s) rfl rfl h

theorem capInv_deleteRow {cap : Nat} (tx t : Nat) {s : State} (i : Nat) (h : CapInv cap s) :
    CapInv cap (deleteRow tx t s i) := by
  unfold deleteRow
  cases hT : s.tables t with
  | none => exact h
  | some T =>
    dsimp only
    cases hr : T.rows[i]? with
    | none => exact h
    | some r =>
      dsimp only
      apply capInv_setTable h (recordUndo_ntables _ _ _) (recordUndo_tables _ _ _) hT
      exact foldl_inv (fun es => otherKeys s t + keyCount es ≤ cap) _ (fun es c hes => fits_idxRemove _ hes)
        T.btreeOn _ (capInv_split h hT)

theorem capInv_txDelete {cap : Nat} {s : State} (h : CapInv cap s) (tx t : Nat) (cond : Cond) :
    CapInv cap (txDelete s tx t cond).1 := by
  rcases txDelete_cases s tx t cond with ⟨e, he⟩ | ⟨T, _, _, _, he⟩
  · rw [he]; exact h
  · rw [he]
    apply foldl_inv (CapInv cap) _ (fun s i hs => capInv_deleteRow tx t i hs)
    split
    · exact h
    · exact capInv_congr (s := s) rfl rfl h

theorem capInv_txInsertC {cap : Nat} {s : State} (h : CapInv cap s) (tx t : Nat) (vals : List Val) :
    CapInv cap (txInsertC cap s tx t vals).1 := by
  unfold txInsertC
  cases gate s tx with
  | some e => exact h
  | none =>
    cases hT : s.tables t with
    | none => exact h
    | some T =>
      dsimp only
      cases rowBad T vals with
      | true => exact h
      | false =>
        obtain ⟨hn, ht⟩ := ite_lock_fields (lockBlocked s tx t [T.rows.length]) s tx t [T.rows.length]
        have hfit := btAdds_fits (cap := cap) (other := otherKeys s t) (vals := vals) (id := T.rows.length)
          T.btreeOn T.btreeE (capInv_split h hT)
        -- the undo entry of a completed insert does not touch the tables
        cases (btAdds cap (otherKeys s t) vals T.rows.length T.btreeOn T.btreeE).2 with
        | true => exact capInv_congr (recordUndo_ntables _ _ _) (recordUndo_tables _ _ _) (capInv_setTable h hn ht hT hfit)
        | false => exact capInv_setTable h hn ht hT hfit

theorem capInv_applyUndoC {cap : Nat} (acc : State × Nat) (u : Undo) (h : CapInv cap acc.1) :
    CapInv cap (applyUndoC cap acc u).1 := by
  unfold applyUndoC
  cases hT : acc.1.tables u.table with
  | none => exact h
  | some T =>
    dsimp only
    exact capInv_setTable h rfl rfl hT (applyUndoTC_fits u (capInv_split h hT))

theorem capInv_rollbackC {cap : Nat} {s : State} (h : CapInv cap s) (tx : Nat) : CapInv cap (rollbackC cap s tx).1 := by
  cases hg : gate s tx with
  | some e =>
    unfold rollbackC
    rw [hg]
    exact h
  | none =>
    obtain ⟨x, hx, _⟩ := gate_none hg
    rw [rollbackC_of_gate hg hx]
    refine capInv_congr ?_ ?_ (foldl_inv (fun acc : State × Nat => CapInv cap acc.1) _ capInv_applyUndoC x.undo.reverse (s, 0) h) <;> rfl

theorem capInv_finishAutoC {cap : Nat} {p : State × ResC} (h : CapInv cap p.1) (tx : Nat) :
    CapInv cap (finishAutoC cap p tx).1 := by
  unfold finishAutoC
  split
  · exact capInv_rollbackC h tx
  · exact capInv_rollbackC h tx
  · exact capInv_commit h tx

theorem capInv_insertC {cap : Nat} {s : State} (h : CapInv cap s) (t : Nat) (vals : List Val) :
    CapInv cap (insertC cap s t vals).1 := by
  unfold insertC
  split
  · exact h
  · split
    · exact h
    · exact capInv_finishAutoC (capInv_txInsertC (capInv_begin h) _ _ _) _

theorem capInv_updateC {cap : Nat} {s : State} (h : CapInv cap s) (t : Nat) (cond : Cond) (upd : List (Nat × Val)) :
    CapInv cap (updateC cap s t cond upd).1 := by
  unfold updateC
  split
  · exact h
  · split
    · exact h
    · exact capInv_finishAutoC (capInv_txUpdateC (capInv_begin h) _ _ _ _) _

theorem capInv_deleteC {cap : Nat} {s : State} (h : CapInv cap s) (t : Nat) (cond : Cond) :
    CapInv cap (deleteC cap s t cond).1 := by
  unfold deleteC
  split
  · exact h
  · exact capInv_finishAutoC (p := txDeleteC _ _ _ _) (capInv_txDelete (capInv_begin h) _ _ _) _

theorem capInv_createBtreeC {cap : Nat} {s : State} (h : CapInv cap s) (t c : Nat) :
    CapInv cap (createBtreeC cap s t c).1 := by
  unfold createBtreeC
  cases hT : s.tables t with
  | none => exact h
  | some T =>
    dsimp only
    by_cases h1 : c ≥ T.ncols
    · rw [if_pos h1]; exact h
    · by_cases h2 : c ∈ T.btreeOn
      · rw [if_neg h1, if_pos h2]; exact h
      · rw [if_neg h1, if_neg h2]
        exact capInv_setTable h rfl rfl hT (buildColC_fits _ _ (capInv_split h hT))

theorem capInv_batchInsertC {cap : Nat} {s : State} (h : CapInv cap s) (t : Nat) (rows : List (List Val)) :
    CapInv cap (batchInsertC cap s t rows).1 := by
  unfold batchInsertC
  cases rows.isEmpty with
  | true => exact h
  | false =>
    cases hT : s.tables t with
    | none => exact h
    | some T =>
      dsimp only
      cases rows.any (rowBad T) with
      | true => exact h
      | false => exact capInv_setTable h rfl rfl hT (batchRowsC_fits _ _ (capInv_split h hT))

theorem capInv_createTable {cap : Nat} {s : State} (h : CapInv cap s) (n : Nat) (nl : List Nat) :
    CapInv cap (createTable s n nl).1 := by
  have hnt : (createTable s n nl).1.ntables = s.ntables + 1 := rfl
  have htab : ∀ k, (createTable s n nl).1.tables k =
      if k = s.ntables then some _ else s.tables k := fun _ => rfl
  refine ⟨?_, ?_⟩
  · have hnew : tableKeys (createTable s n nl).1 s.ntables = 0 := by
      unfold tableKeys
      rw [htab, if_pos rfl]
      rfl
    have hold : (List.range s.ntables).map (tableKeys (createTable s n nl).1) = (List.range s.ntables).map (tableKeys s) := by
      apply List.map_congr_left
      intro k hk
      apply tableKeys_eq
      rw [htab, if_neg (Nat.ne_of_lt (List.mem_range.mp hk))]
    have : btCount (createTable s n nl).1 = btCount s := by
      unfold btCount
      rw [hnt, List.range_succ, List.map_append, List.sum_append, hold, List.map_singleton, hnew]
      rfl
    rw [this]
    exact h.count
  · intro k hk
    rw [hnt] at hk
    rw [htab, if_neg (Nat.ne_of_gt hk)]
    exact h.names k (Nat.le_of_succ_le hk)

theorem capInv_createIndex {cap : Nat} {s : State} (h : CapInv cap s) (t c : Nat) : CapInv cap (createIndex s t c).1 := by
  unfold createIndex
  cases hT : s.tables t with
  | none => exact h
  | some T =>
    dsimp only
    by_cases h1 : c ≥ T.ncols
    · rw [if_pos h1]; exact h
    · by_cases h2 : c ∈ T.hashOn
      · rw [if_neg h1, if_pos h2]; exact h
      · rw [if_neg h1, if_neg h2]
        exact capInv_setTable h rfl rfl hT (capInv_split (T := T) h hT)

theorem capInv_dropIndex {cap : Nat} {s : State} (h : CapInv cap s) (t c : Nat) : CapInv cap (dropIndex s t c).1 := by
  unfold dropIndex
  cases hT : s.tables t with
  | none => exact h
  | some T =>
    dsimp only
    by_cases h1 : c ∈ T.hashOn
    · rw [if_pos h1]; exact capInv_setTable h rfl rfl hT (capInv_split (T := T) h hT)
    · rw [if_neg h1]; exact h

theorem capInv_dropBtree {cap : Nat} {s : State} (h : CapInv cap s) (t c : Nat) : CapInv cap (dropBtree s t c).1 := by
  unfold dropBtree
  cases hT : s.tables t with
  | none => exact h
  | some T =>
    dsimp only
    by_cases h1 : c ∈ T.btreeOn
    · rw [if_pos h1]
      exact capInv_setTable h rfl rfl hT
        (Nat.le_trans (Nat.add_le_add_left (keyCount_idxDropCol_le c T.btreeE) _) (capInv_split h hT))
    · rw [if_neg h1]; exact h

theorem capInv_cleanupTxs {cap : Nat} {s : State} (h : CapInv cap s) : CapInv cap (cleanupTxs s).1 :=
  capInv_congr (foldlRelease_ntables _ s) (foldlRelease_tables _ s) h

theorem capInv_stepC {cap : Nat} {s : State} (h : CapInv cap s) (op : Op) : CapInv cap (stepC cap s op).1 := by
  cases op with
  | begin => exact capInv_begin h
  | commit tx => exact capInv_commit h tx
  | rollback tx => exact capInv_rollbackC h tx
  | txInsert tx t vals => exact capInv_txInsertC h tx t vals
  | txUpdate tx t cond upd => exact capInv_txUpdateC h tx t cond upd
  | txDelete tx t cond => exact capInv_txDelete h tx t cond
  | insert t vals => exact capInv_insertC h t vals
  | update t cond upd => exact capInv_updateC h t cond upd
  | delete t cond => exact capInv_deleteC h t cond
  | batchInsert t rows => exact capInv_batchInsertC h t rows
  | createTable n nl => exact capInv_createTable h n nl
  | createIndex t c => exact capInv_createIndex h t c
  | createBtree t c => exact capInv_createBtreeC h t c
  | dropIndex t c => exact capInv_dropIndex h t c
  | dropBtree t c => exact capInv_dropBtree h t c
  | tick d => exact capInv_congr (s := s) rfl rfl h
  | cleanupLocks => exact capInv_congr (s := s) rfl rfl h
  | cleanupTxs => exact capInv_cleanupTxs h

theorem capInv_runC {cap : Nat} {s : State} (h : CapInv cap s) (ops : List Op) : CapInv cap (runC cap s ops) :=
  foldl_inv (CapInv cap) _ (fun _ op hs => capInv_stepC hs op) ops s h

theorem btCount_runC_le (cap a b : Nat) (ops : List Op) : btCount (runC cap (init a b) ops) ≤ cap :=
  (capInv_runC (capInv_init cap a b) ops).count

end Neumann.RelTx
