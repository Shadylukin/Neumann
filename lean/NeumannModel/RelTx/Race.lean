import NeumannModel.RelTx.RaceModel
import NeumannModel.RelTx.LockOwner
/-
  C09 — lemmas about the two halves of `tx_update` / `tx_delete` (`RaceModel.lean`): the
  second half as the code is since fcb86137 (rows read again under the locks) is, for ANY list of
  scanned ids, a step that preserves the rollback invariant `Inv`.
-/
namespace Neumann.RelTx

theorem stillMatches_iff {T : Table} {cond : Cond} {i : Nat} :
    stillMatches T cond i = true ↔ i ∈ matching T cond := by
  rw [mem_matching]
  unfold stillMatches
  constructor
  · intro h
    split at h
    · rename_i r hr
      rw [Bool.and_eq_true] at h
      exact ⟨r, hr, h.1, h.2⟩
    · cases h
  · rintro ⟨r, hr, ha, he⟩
    rw [hr]
    simp [ha, he]

theorem filter_stillMatches_matching (T : Table) (cond : Cond) :
    (matching T cond).filter (stillMatches T cond) = matching T cond := by
  rw [List.filter_eq_self]
  intro i hi
  exact stillMatches_iff.2 hi

theorem txScan_ids (T : Table) (cond : Cond) : (txScan T cond).map (·.1) = matching T cond := by
  unfold txScan scanAnswer
  have key : ∀ l : List Nat, (∀ i ∈ l, ∃ r, T.rows[i]? = some r) →
      (l.filterMap fun i => (T.rows[i]?).map fun r => (i, r.vals)).map (·.1) = l := by
    intro l
    induction l with
    | nil => intro _; rfl
    | cons i rest ih =>
      intro h
      obtain ⟨r, hr⟩ := h i List.mem_cons_self
      rw [List.filterMap_cons, hr]
      simp only [Option.map_some, List.map_cons]
      rw [ih (fun j hj => h j (List.mem_cons_of_mem _ hj))]
  apply key
  intro i hi
  obtain ⟨r, hr, _⟩ := mem_matching.1 hi
  exact ⟨r, hr⟩

theorem txUpdateApply_cases (s : State) (A t : Nat) (cond : Cond) (ids : List Nat) (upd : List (Nat × Val)) :
    (∃ e, txUpdateApply s A t cond ids upd = (s, .err e)) ∨
    ∃ T, s.tables t = some T ∧ lockBlocked s A t ids = false ∧
      txUpdateApply s A t cond ids upd = ((ids.filter (stillMatches T cond)).foldl (updateRow A t upd)
        (if ids.isEmpty then s else lockAll s A t ids), .okN (ids.filter (stillMatches T cond)).length) := by
  unfold txUpdateApply
  cases hT : s.tables t with
  | none => exact Or.inl ⟨_, rfl⟩
  | some T =>
    cases lockBlocked s A t ids with
    | true => exact Or.inl ⟨.lockConflict, rfl⟩
    | false => exact Or.inr ⟨T, rfl, rfl, rfl⟩

theorem txDeleteApply_cases (s : State) (A t : Nat) (cond : Cond) (ids : List Nat) :
    (∃ e, txDeleteApply s A t cond ids = (s, .err e)) ∨
    ∃ T, s.tables t = some T ∧ lockBlocked s A t ids = false ∧
      txDeleteApply s A t cond ids = ((ids.filter (stillMatches T cond)).foldl (deleteRow A t)
        (if ids.isEmpty then s else lockAll s A t ids), .okN (ids.filter (stillMatches T cond)).length) := by
  unfold txDeleteApply
  cases hT : s.tables t with
  | none => exact Or.inl ⟨_, rfl⟩
  | some T =>
    cases lockBlocked s A t ids with
    | true => exact Or.inl ⟨.lockConflict, rfl⟩
    | false => exact Or.inr ⟨T, rfl, rfl, rfl⟩

theorem filter_stillMatches_sub {T : Table} {cond : Cond} {ids : List Nat} {i : Nat}
    (hi : i ∈ ids.filter (stillMatches T cond)) : i ∈ ids ∧ ∃ r, T.rows[i]? = some r ∧ r.alive = true :=
  ⟨(List.mem_filter.1 hi).1,
    (mem_matching.1 (stillMatches_iff.1 (List.mem_filter.1 hi).2)).imp fun _ hr => ⟨hr.1, hr.2.1⟩⟩

/-- the second half of `tx_update`, for ANY list of distinct ids of existing rows (a stale scan, a scan of
    another condition, anything): a step under which the rollback invariant is preserved, the acting
    transaction's rollback image is unchanged and every other transaction is a bystander -/
theorem stepOK_txUpdateApply {s : State} (h : Inv s) {A t : Nat} {x : Tx} {T : Table} (hx : s.txs A = some x)
    (hT : s.tables t = some T) (cond : Cond) (ids : List Nat) (hex : ∀ i ∈ ids, i < T.rows.length) (hnd : ids.Nodup)
    (upd : List (Nat × Val)) (hu : updBad T upd = false) :
    StepOK s (txUpdateApply s A t cond ids upd).1 (some A) := by
  rcases txUpdateApply_cases s A t cond ids upd with ⟨e, hc⟩ | ⟨T', hT', hb, hc⟩ <;> rw [hc]
  · exact StepOK.refl h _
  · rw [hT] at hT'; cases hT'
    exact stepOK_write_rows h (rowBody_updateRow A t upd (updBad_false_cols hu)) (frame_updateRow A t upd) hx hT ids _
      hex hb (fun _ => filter_stillMatches_sub) (hnd.sublist List.filter_sublist)

theorem stepOK_txDeleteApply {s : State} (h : Inv s) {A t : Nat} {x : Tx} {T : Table} (hx : s.txs A = some x)
    (hT : s.tables t = some T) (cond : Cond) (ids : List Nat) (hex : ∀ i ∈ ids, i < T.rows.length) (hnd : ids.Nodup) :
    StepOK s (txDeleteApply s A t cond ids).1 (some A) := by
  rcases txDeleteApply_cases s A t cond ids with ⟨e, hc⟩ | ⟨T', hT', hb, hc⟩ <;> rw [hc]
  · exact StepOK.refl h _
  · rw [hT] at hT'; cases hT'
    exact stepOK_write_rows h (rowBody_deleteRow A t T.ncols) (frame_deleteRow A t) hx hT ids _
      hex hb (fun _ => filter_stillMatches_sub) (hnd.sublist List.filter_sublist)

/-- the second halves never touch another transaction's record, and the actor's record keeps its
    phase (so it stays usable) while its log grows -/
theorem apply_txs (s : State) (A t : Nat) (cond : Cond) (ids : List Nat) :
    (∀ upd, (∀ B, B ≠ A → (txUpdateApply s A t cond ids upd).1.txs B = s.txs B) ∧
      (∀ x, s.txs A = some x → ∃ more, (txUpdateApply s A t cond ids upd).1.txs A = some { x with undo := x.undo ++ more })) ∧
    ((∀ B, B ≠ A → (txDeleteApply s A t cond ids).1.txs B = s.txs B) ∧
      (∀ x, s.txs A = some x → ∃ more, (txDeleteApply s A t cond ids).1.txs A = some { x with undo := x.undo ++ more })) := by
  have base : ∀ {f : State → Nat → State}, (∀ s i, Frame A s (f s i)) → ∀ sub : List Nat,
      (∀ B, B ≠ A → (sub.foldl f (if ids.isEmpty then s else lockAll s A t ids)).txs B = s.txs B) ∧
      (∀ x, s.txs A = some x →
        ∃ more, (sub.foldl f (if ids.isEmpty then s else lockAll s A t ids)).txs A = some { x with undo := x.undo ++ more }) := by
    intro f hf sub
    have h1 := Frame.foldl hf sub (if ids.isEmpty then s else lockAll s A t ids)
    have h0 : (if ids.isEmpty then s else lockAll s A t ids).txs = s.txs := by split <;> rfl
    exact ⟨fun B hB => (h1.txs_other hB).trans (by rw [h0]), fun x hx => h1.txs_self (by rw [h0]; exact hx)⟩
  have same : (∀ B, B ≠ A → s.txs B = s.txs B) ∧
      (∀ x, s.txs A = some x → ∃ more, s.txs A = some { x with undo := x.undo ++ more }) :=
    ⟨fun _ _ => rfl, fun x hx => ⟨[], by simpa using hx⟩⟩
  refine ⟨fun upd => ?_, ?_⟩
  · rcases txUpdateApply_cases s A t cond ids upd with ⟨e, hc⟩ | ⟨T, _, _, hc⟩ <;> rw [hc]
    · exact same
    · exact base (frame_updateRow A t upd) _
  · rcases txDeleteApply_cases s A t cond ids with ⟨e, hc⟩ | ⟨T, _, _, hc⟩ <;> rw [hc]
    · exact same
    · exact base (frame_deleteRow A t) _

/-- what `StepOK` by `A` means for rollbacks: `A`'s rollback after the step restores, row by row, the
    live image `A`'s rollback before the step would have restored -/
theorem rollback_image_of_own {s s' : State} {A : Nat} (hg : gate s A = none) (hg' : gate s' A = none)
    (ho : Own s s' A) (t i : Nat) :
    liveOf (rowAt (rollback s' A).1 t i) = liveOf (rowAt (rollback s A).1 t i) := by
  obtain ⟨x, x', more, hx, hx', _, hl⟩ := ho
  rw [rowAt_rollback hg' hx', rowAt_rollback hg hx]
  exact hl t i

end Neumann.RelTx
