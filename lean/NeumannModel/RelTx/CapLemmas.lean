import NeumannModel.RelTx.Index
import NeumannModel.RelTx.CapModel
/-
  C09 — statements that fail part-way at the b-tree entry cap (`CapModel.lean`).  Two ideas carry the file:
  `keyCount` is monotone in the set of keys, so re-adding an entry of a state that was within the cap to a
  sub-state of it is never refused (`btAddC_readd`) — which is why the undo of a refused row cannot itself be
  refused (`refused_row_undone`); and once one row has been moved to the new keys those keys exist, so a
  `tx_update` can only be refused at its FIRST matched row (`foldRowsC_refused_first`).
-/
namespace Neumann.RelTx

theorem mem_dedupKeys {k : Nat × Val} {ks : List (Nat × Val)} : k ∈ dedupKeys ks ↔ k ∈ ks := by
  induction ks with
  | nil => rw [dedupKeys]
  | cons a rest ih =>
    rw [dedupKeys]
    split
    · rename_i h
      rw [ih, List.mem_cons]
      exact ⟨Or.inr, fun h1 => h1.elim (· ▸ h) id⟩
    · rw [List.mem_cons, List.mem_cons, ih]

theorem nodup_dedupKeys (ks : List (Nat × Val)) : (dedupKeys ks).Nodup := by
  induction ks with
  | nil => rw [dedupKeys]; exact List.nodup_nil
  | cons a rest ih =>
    rw [dedupKeys]
    split
    · exact ih
    · rename_i h
      exact List.nodup_cons.mpr ⟨fun h1 => h (mem_dedupKeys.mp h1), ih⟩

theorem keyCount_mono {A B : List Entry} (h : ∀ e ∈ A, ∃ e' ∈ B, ekey e' = ekey e) : keyCount A ≤ keyCount B := by
  unfold keyCount
  apply List.Nodup.length_le_of_subset (nodup_dedupKeys _)
  intro k hk
  rw [mem_dedupKeys, List.mem_map] at hk
  obtain ⟨e, he, rfl⟩ := hk
  obtain ⟨e', he', hk'⟩ := h e he
  rw [mem_dedupKeys, List.mem_map]
  exact ⟨e', he', hk'⟩

theorem hasKey_true {es : List Entry} {k : Nat × Val} : hasKey es k = true ↔ ∃ e ∈ es, ekey e = k := by
  unfold hasKey
  simp only [List.any_eq_true, beq_iff_eq]

theorem hasKey_false {es : List Entry} {k : Nat × Val} : hasKey es k = false ↔ ∀ e ∈ es, ekey e ≠ k := by
  rw [← Bool.not_eq_true, hasKey_true]
  simp only [not_exists, not_and, ne_eq]

theorem dedupKeys_append_new {ks : List (Nat × Val)} {k : Nat × Val} (h : k ∉ ks) :
    dedupKeys (ks ++ [k]) = dedupKeys ks ++ [k] := by
  induction ks with
  | nil => rfl
  | cons a rest ih =>
    have hne : a ≠ k := fun e => h (e ▸ List.mem_cons_self)
    rw [List.cons_append, dedupKeys, dedupKeys, ih fun e => h (List.mem_cons_of_mem _ e)]
    simp only [List.mem_append, List.mem_singleton, hne, or_false]
    split <;> rfl

theorem keyCount_append_new {es : List Entry} {e : Entry} (h : hasKey es (ekey e) = false) :
    keyCount (es ++ [e]) = keyCount es + 1 := by
  unfold keyCount
  rw [List.map_append, List.map_singleton, dedupKeys_append_new, List.length_append]
  · rfl
  · intro hk
    obtain ⟨x, hx, hxe⟩ := List.mem_map.mp hk
    exact hasKey_false.mp h x hx hxe

theorem not_mem_of_hasKey_false {es : List Entry} {e : Entry} (h : hasKey es (ekey e) = false) : e ∉ es :=
  fun he => hasKey_false.mp h e he rfl

theorem idxAdd_of_not_mem {es : List Entry} {e : Entry} (h : e ∉ es) : idxAdd e es = es ++ [e] := by
  unfold idxAdd; rw [if_neg h]

theorem idxAdd_of_mem {es : List Entry} {e : Entry} (h : e ∈ es) : idxAdd e es = es := by
  unfold idxAdd; rw [if_pos h]

theorem idxRemove_of_not_mem {es : List Entry} {e : Entry} (h : e ∉ es) : idxRemove e es = es := by
  unfold idxRemove
  exact List.filter_eq_self.mpr fun x hx => decide_eq_true fun hxe => h (hxe ▸ hx)

theorem btAddC_eq_none {cap other : Nat} {e : Entry} {es : List Entry} :
    btAddC cap other e es = none ↔ hasKey es (ekey e) = false ∧ cap ≤ other + keyCount es := by
  unfold btAddC
  cases hasKey es (ekey e) <;> by_cases hc : cap ≤ other + keyCount es <;> simp [hc]

theorem btAddC_some {cap other : Nat} {e : Entry} {es es' : List Entry} (h : btAddC cap other e es = some es') :
    es' = idxAdd e es := by
  unfold btAddC at h
  split at h
  · cases h
  · cases h; rfl

theorem btAddC_of_not_refused {cap other : Nat} {e : Entry} {es : List Entry}
    (h : ¬(hasKey es (ekey e) = false ∧ cap ≤ other + keyCount es)) : btAddC cap other e es = some (idxAdd e es) := by
  cases hb : btAddC cap other e es with
  | none => exact absurd (btAddC_eq_none.mp hb) h
  | some es' => rw [btAddC_some hb]

theorem btAddC_of_hasKey {cap other : Nat} {e : Entry} {es : List Entry} (h : hasKey es (ekey e) = true) :
    btAddC cap other e es = some (idxAdd e es) :=
  btAddC_of_not_refused fun hn => by rw [h] at hn; cases hn.1

theorem btAddC_of_lt {cap other : Nat} {e : Entry} {es : List Entry} (h : other + keyCount es < cap) :
    btAddC cap other e es = some (idxAdd e es) :=
  btAddC_of_not_refused fun hn => Nat.not_le.mpr h hn.2

/-- Re-adding an entry of a state `E` that was within the cap to any sub-state of `E` is never refused:
    either its key is still there, or the sub-state has at least one key less than `E`. -/
theorem btAddC_readd {cap other : Nat} {E X : List Entry} {e : Entry} (he : e ∈ E)
    (hcap : other + keyCount E ≤ cap) (hX : ∀ x ∈ X, x ∈ E) : btAddC cap other e X = some (idxAdd e X) := by
  apply btAddC_of_not_refused
  rintro ⟨hk, hfull⟩
  have h2 : keyCount (X ++ [e]) ≤ keyCount E := by
    apply keyCount_mono
    intro x hx
    rcases List.mem_append.mp hx with hx | hx
    · exact ⟨x, hX x hx, rfl⟩
    · exact ⟨x, List.mem_singleton.mp hx ▸ he, rfl⟩
  rw [keyCount_append_new hk] at h2
  exact Nat.not_succ_le_self _ (Nat.le_trans (Nat.le_trans (Nat.add_le_add_left h2 other) hcap) hfull)

/-- the SET list names at most one b-tree-indexed column of the table (the b-tree column list is duplicate
    free: `create_btree_index` refuses a second index on a column) -/
def OneBt (T : Table) (upd : List (Nat × Val)) : Prop :=
  T.btreeOn.Nodup ∧ ∀ a ∈ T.btreeOn, ∀ b ∈ T.btreeOn, (updGet upd a).isSome → (updGet upd b).isSome → a = b

theorem updateRowT_snd {cap other : Nat} {upd : List (Nat × Val)} {T : Table} {i : Nat} {r : Row} :
    (updateRowT cap other upd T i r).2 = (btMoves cap other upd r.vals i T.btreeOn T.btreeE).2 := by
  unfold updateRowT
  dsimp only
  cases (btMoves cap other upd r.vals i T.btreeOn T.btreeE).2 <;> rfl

theorem updateRowT_refused {cap other : Nat} {upd : List (Nat × Val)} {T : Table} {i : Nat} {r : Row}
    (h : (updateRowT cap other upd T i r).2 = false) :
    (updateRowT cap other upd T i r).1 =
      { T with hashE := hashMoves upd r.vals i T.hashOn T.hashE
               btreeE := (btMoves cap other upd r.vals i T.btreeOn T.btreeE).1 } := by
  rw [updateRowT_snd] at h
  unfold updateRowT
  dsimp only
  rw [h]
  rfl

theorem updateRowT_ok {cap other : Nat} {upd : List (Nat × Val)} {T : Table} {i : Nat} {r : Row}
    (h : (updateRowT cap other upd T i r).2 = true) :
    (updateRowT cap other upd T i r).1 =
      { T with hashE := hashMoves upd r.vals i T.hashOn T.hashE
               btreeE := (btMoves cap other upd r.vals i T.btreeOn T.btreeE).1
               rows := T.rows.set i { r with vals := applyUpd upd r.vals } } := by
  rw [updateRowT_snd] at h
  unfold updateRowT
  dsimp only
  rw [h]
  rfl

theorem updateRowC_eq {cap A t i : Nat} {upd : List (Nat × Val)} {s : State} {T : Table} {r : Row}
    (hT : s.tables t = some T) (hr : T.rows[i]? = some r) :
    updateRowC cap A t upd s i =
      (setTable (recordUndo s A (.updated t i r.vals (mkChg (T.hashOn ++ T.btreeOn) upd r.vals))) t
          (updateRowT cap (otherKeys s t) upd T i r).1,
       (updateRowT cap (otherKeys s t) upd T i r).2) := by
  unfold updateRowC
  rw [hT]
  dsimp only
  rw [hr]
  rfl

/-- with at most one b-tree column in the SET list the refused move is the FIRST b-tree move of the row -/
theorem btMoves_refused {cap other : Nat} {upd : List (Nat × Val)} {vals : List Val} {i : Nat}
    (cs : List Nat) (es : List Entry) (hnd : cs.Nodup)
    (hone : ∀ a ∈ cs, ∀ b ∈ cs, (updGet upd a).isSome → (updGet upd b).isSome → a = b)
    (h : (btMoves cap other upd vals i cs es).2 = false) :
    ∃ c n, c ∈ cs ∧ updGet upd c = some n ∧
      btAddC cap other (c, n, i) (idxRemove (c, val vals c, i) es) = none ∧
      (btMoves cap other upd vals i cs es).1 = idxRemove (c, val vals c, i) es := by
  fun_induction btMoves cap other upd vals i cs es with
  | case1 es => cases h
  | case2 c cs es hu ih =>
    obtain ⟨c', n, hc', hn, hr, he⟩ := ih (List.nodup_cons.mp hnd).2
      (fun a ha b hb => hone a (List.mem_cons_of_mem _ ha) b (List.mem_cons_of_mem _ hb)) h
    exact ⟨c', n, List.mem_cons_of_mem _ hc', hn, hr, he⟩
  | case3 c cs es n hu hb => exact ⟨c, n, List.mem_cons_self, hu, hb, rfl⟩
  | case4 c cs es n hu es' hb ih =>
    -- a second SET column with a b-tree index would have to be `c` again
    obtain ⟨c', n', hc', hn', _, _⟩ := ih (List.nodup_cons.mp hnd).2
      (fun a ha b hb => hone a (List.mem_cons_of_mem _ ha) b (List.mem_cons_of_mem _ hb)) h
    have : c = c' := hone c List.mem_cons_self c' (List.mem_cons_of_mem _ hc') (by rw [hu]; rfl) (by rw [hn']; rfl)
    exact absurd (this ▸ hc') (List.nodup_cons.mp hnd).1

/-- The recorded change list replayed on a sub-state `Z` of the entries `E` before the row: the first change of the
    refused column re-adds the old entry (`btAddC_readd`), a later one (the column may also have a hash index and be
    listed twice) finds it in place. -/
theorem undo_bt_fold {cap other : Nat} {on : List Nat} {E : List Entry} {c i : Nat} {old n : Val}
    (he : (c, old, i) ∈ E) (hcap : other + keyCount E ≤ cap)
    (hrej : btAddC cap other (c, n, i) (idxRemove (c, old, i) E) = none)
    (chg : List (Nat × Val × Val)) (hall : ∀ p ∈ chg, p.1 ∈ on → p = (c, old, n))
    (Z : List Entry) (hZ : ∀ x ∈ Z, x ∈ E) (hnZ : (c, n, i) ∉ Z)
    (hit : (c, old, i) ∈ Z ∨ ∃ p ∈ chg, p.1 ∈ on) :
    chg.foldl (undoChangeC cap other on i) (Z, 0) = (idxAdd (c, old, i) Z, 0) := by
  -- the new key differs from the old one: re-adding the old key cannot be refused
  have hne : (c, n, i) ≠ (c, old, i) := by
    intro e
    rw [e, btAddC_readd he hcap fun x hx => (mem_idxRemove.mp hx).1] at hrej
    cases hrej
  induction chg generalizing Z with
  | nil =>
    rcases hit with h | ⟨p, hp, _⟩
    · rw [idxAdd_of_mem h]; rfl
    · cases hp
  | cons p rest ih =>
    have hrest : ∀ q ∈ rest, q.1 ∈ on → q = (c, old, n) := fun q hq => hall q (List.mem_cons_of_mem _ hq)
    rw [List.foldl_cons]
    by_cases hp : p.1 ∈ on
    · have hstep : undoChangeC cap other on i (Z, 0) p = (idxAdd (c, old, i) Z, 0) := by
        have hpe := hall p List.mem_cons_self hp
        subst hpe
        unfold undoChangeC
        rw [if_pos hp]
        dsimp only
        rw [idxRemove_of_not_mem hnZ, btAddC_readd he hcap hZ]
      have hin : (c, old, i) ∈ idxAdd (c, old, i) Z := mem_idxAdd.mpr (Or.inl rfl)
      rw [hstep, ih hrest _ (fun x hx => (mem_idxAdd.mp hx).elim (· ▸ he) (hZ x))
        (fun h => (mem_idxAdd.mp h).elim hne hnZ) (Or.inl hin), idxAdd_of_mem hin]
    · have hskip : undoChangeC cap other on i (Z, 0) p = (Z, 0) := by
        unfold undoChangeC
        rw [if_neg hp]
      rw [hskip]
      refine ih hrest Z hZ hnZ (hit.imp_right ?_)
      rintro ⟨q, hq, hqon⟩
      rcases List.mem_cons.mp hq with rfl | hq
      · exact absurd hqon hp
      · exact ⟨q, hq, hqon⟩

theorem exactOn_mem_iff {rows : List Row} {on : List Nat} {es es' : List Entry}
    (h : ExactOn rows on es) (h' : ExactOn rows on es') (x : Entry) : x ∈ es ↔ x ∈ es' := by
  obtain ⟨c, v, i⟩ := x
  rw [h.2 c i v, h'.2 c i v]

theorem exactOn_of_mem_iff {rows : List Row} {on : List Nat} {es es' : List Entry}
    (h : ExactOn rows on es) (hnd : es'.Nodup) (hm : ∀ x, x ∈ es' ↔ x ∈ es) : ExactOn rows on es' := by
  refine ⟨hnd, ?_⟩
  intro c i v
  rw [hm, h.2 c i v]

/-- exact indexes are determined by the rows -/
theorem idxExact_unique {T T' : Table} (h : IdxExact T) (h' : IdxExact T') (hr : T'.rows = T.rows)
    (hh : T'.hashOn = T.hashOn) (hb : T'.btreeOn = T.btreeOn) :
    (∀ e, e ∈ T'.hashE ↔ e ∈ T.hashE) ∧ (∀ e, e ∈ T'.btreeE ↔ e ∈ T.btreeE) ∧ ∀ c, select T' c = select T c := by
  refine ⟨exactOn_mem_iff (hh ▸ hr ▸ h'.1) h.1, exactOn_mem_iff (hb ▸ hr ▸ h'.2) h.2, fun c => ?_⟩
  rw [select_eq_scan T' h' c, select_eq_scan T h c]
  unfold scanAnswer matching
  rw [hr]

/-- THE ROW LEMMA.  A row of `tx_update` that is refused at the cap leaves the table with the row's hash
    entries moved and its old b-tree entry gone; applying the `UpdatedRow` entry that was recorded before
    those steps puts the table back — same rows, exact hash and b-tree indexes — and collects no error. -/
theorem refused_row_undone (cap other : Nat) (T : Table) (t i : Nat) (r : Row) (upd : List (Nat × Val))
    (hex : IdxExact T) (hr : T.rows[i]? = some r) (ha : r.alive = true) (hlen : r.vals.length = T.ncols)
    (hupd : ∀ p ∈ upd, p.1 < T.ncols) (hcap : other + keyCount T.btreeE ≤ cap) (hone : OneBt T upd)
    (hfail : (updateRowT cap other upd T i r).2 = false) :
    ∃ T'', applyUndoTC cap other (updateRowT cap other upd T i r).1
        (.updated t i r.vals (mkChg (T.hashOn ++ T.btreeOn) upd r.vals)) = (T'', 0) ∧
      T''.rows = T.rows ∧ T''.ncols = T.ncols ∧ T''.nullable = T.nullable ∧
      T''.hashOn = T.hashOn ∧ T''.btreeOn = T.btreeOn ∧ IdxExact T'' := by
  obtain ⟨c, n, hc, hn, hrej, hE⟩ :=
    btMoves_refused T.btreeOn T.btreeE hone.1 hone.2 (updateRowT_snd.symm.trans hfail)
  rw [updateRowT_refused hfail, hE]
  have hold : (c, val r.vals c, i) ∈ T.btreeE := by
    rw [hex.2.2 c i (val r.vals c), want_of_row hr, if_pos hc, if_pos ha]
  have hrr : restoreRow { T with hashE := hashMoves upd r.vals i T.hashOn T.hashE,
                                 btreeE := idxRemove (c, val r.vals c, i) T.btreeE } i r.vals = some T.rows := by
    unfold restoreRow
    dsimp only
    rw [hr]
    dsimp only
    rw [if_pos ⟨ha, hlen⟩]
    congr 1
    exact set_getElem?_self hr
  have hchgB : ∀ p ∈ mkChg (T.hashOn ++ T.btreeOn) upd r.vals, p.1 ∈ T.btreeOn → p = (c, val r.vals c, n) := by
    intro p hp hon
    obtain ⟨a, _, m, hm, rfl⟩ := mem_mkChg.mp hp
    have : a = c := hone.2 a hon c hc (by rw [hm]; rfl) (by rw [hn]; rfl)
    subst this
    rw [hn] at hm
    cases hm
    rfl
  have hhit : ∃ p ∈ mkChg (T.hashOn ++ T.btreeOn) upd r.vals, p.1 ∈ T.btreeOn :=
    ⟨(c, val r.vals c, n), mem_mkChg.mpr ⟨c, List.mem_append_right _ hc, n, hn, rfl⟩, hc⟩
  have hfold := undo_bt_fold (on := T.btreeOn) hold hcap hrej _ hchgB _ (fun x hx => (mem_idxRemove.mp hx).1)
    (not_mem_of_hasKey_false (btAddC_eq_none.mp hrej).1) (Or.inr hhit)
  refine ⟨{ T with hashE := (mkChg (T.hashOn ++ T.btreeOn) upd r.vals).foldl (undoChange T.hashOn i)
                              (hashMoves upd r.vals i T.hashOn T.hashE),
                   btreeE := idxAdd (c, val r.vals c, i) (idxRemove (c, val r.vals c, i) T.btreeE) }, ?_, rfl, rfl, rfl, rfl, rfl, ?_, ?_⟩
  · unfold applyUndoTC
    dsimp only
    rw [hrr, hfold]
    rfl
  · -- hash index: the complete forward move followed by the recorded undo
    have hupd' : ∀ p ∈ upd, p.1 < r.vals.length := by rw [hlen]; exact hupd
    exact exactOn_undoUpdated (r := { r with vals := applyUpd upd r.vals }) upd (set_self hr) ha (by rw [hr])
      (fun j hj => (set_ne hj).symm) (fun c hc => List.mem_append_left _ hc) hupd' rfl
      (exactOn_update upd hr ha hupd' hex.1)
  · -- b-tree index: the old entry is back
    apply exactOn_of_mem_iff hex.2 (nodup_idxAdd (nodup_idxRemove hex.2.1))
    intro x
    rw [mem_idxAdd, mem_idxRemove]
    exact ⟨fun h => h.elim (· ▸ hold) (·.1), fun h => (Classical.em (x = (c, val r.vals c, i))).imp_right (⟨h, ·⟩)⟩

theorem mem_idxRemove_other {x : Entry} {c i : Nat} {v : Val} {es : List Entry} (hx : x.2.2 ≠ i) :
    x ∈ idxRemove (c, v, i) es ↔ x ∈ es := by
  rw [mem_idxRemove]
  exact ⟨fun h => h.1, fun h => ⟨h, fun e => hx (by rw [e])⟩⟩

theorem mem_idxAdd_other {x : Entry} {c i : Nat} {v : Val} {es : List Entry} (hx : x.2.2 ≠ i) :
    x ∈ idxAdd (c, v, i) es ↔ x ∈ es := by
  rw [mem_idxAdd]
  exact ⟨fun h => h.resolve_left fun e => hx (by rw [e]), Or.inr⟩

theorem btMoves_other_ids {cap other : Nat} {upd : List (Nat × Val)} {vals : List Val} {i : Nat} (x : Entry)
    (hx : x.2.2 ≠ i) (cs : List Nat) (es : List Entry) : x ∈ (btMoves cap other upd vals i cs es).1 ↔ x ∈ es := by
  fun_induction btMoves cap other upd vals i cs es with
  | case1 es => exact Iff.rfl
  | case2 c cs es hu ih => exact ih
  | case3 c cs es n hu hb => exact mem_idxRemove_other hx
  | case4 c cs es n hu es' hb ih => rw [ih, btAddC_some hb, mem_idxAdd_other hx, mem_idxRemove_other hx]

theorem hashMoves_other_ids {upd : List (Nat × Val)} {vals : List Val} {i : Nat} (x : Entry) (hx : x.2.2 ≠ i)
    (on : List Nat) (es : List Entry) : x ∈ hashMoves upd vals i on es ↔ x ∈ es := by
  unfold hashMoves
  apply fold_untouched
  intro c _ es'
  split
  · rw [mem_idxAdd_other hx, mem_idxRemove_other hx]
  · exact Iff.rfl

theorem btMoves_ok_new_present {cap other : Nat} {upd : List (Nat × Val)} {vals : List Val} {i c : Nat} {n : Val}
    (hn : updGet upd c = some n) (cs : List Nat) (es : List Entry)
    (hok : (btMoves cap other upd vals i cs es).2 = true) (h : c ∈ cs ∨ (c, n, i) ∈ es) :
    (c, n, i) ∈ (btMoves cap other upd vals i cs es).1 := by
  fun_induction btMoves cap other upd vals i cs es with
  | case1 es => exact h.resolve_left List.not_mem_nil
  | case2 c' cs es hu ih =>
    refine ih hok (h.imp_left fun hc => ?_)
    rcases List.mem_cons.mp hc with rfl | hc
    · rw [hn] at hu; cases hu
    · exact hc
  | case3 c' cs es n' hu hb => cases hok
  | case4 c' cs es n' hu es' hb ih =>
    apply ih hok
    rw [btAddC_some hb, mem_idxAdd, mem_idxRemove]
    by_cases hcc : c = c'
    · subst hcc
      rw [hn] at hu
      cases hu
      exact Or.inr (Or.inl rfl)
    · exact h.imp (fun hc => (List.mem_cons.mp hc).resolve_left hcc)
        fun hm => Or.inr ⟨hm, fun e => hcc (Prod.mk.inj e).1⟩

/-- a later row finds every new key in place: none of its `btree_index_add`s consults the cap -/
theorem btMoves_other_row_ok {cap other : Nat} {upd : List (Nat × Val)} {vals : List Val} {i0 j : Nat} (hj : j ≠ i0)
    (cs : List Nat) (es : List Entry) (hin : ∀ c ∈ cs, ∀ n, updGet upd c = some n → (c, n, i0) ∈ es) :
    (btMoves cap other upd vals j cs es).2 = true := by
  fun_induction btMoves cap other upd vals j cs es with
  | case1 es => rfl
  | case2 c cs es hu ih => exact ih fun c' hc' => hin c' (List.mem_cons_of_mem _ hc')
  | case3 c cs es n hu hb =>
    have hpres : (c, n, i0) ∈ idxRemove (c, val vals c, j) es :=
      (mem_idxRemove_other (x := (c, n, i0)) hj.symm).mpr (hin c List.mem_cons_self n hu)
    rw [btAddC_of_hasKey (e := (c, n, j)) (hasKey_true.mpr ⟨_, hpres, rfl⟩)] at hb
    cases hb
  | case4 c cs es n hu es' hb ih =>
    apply ih
    intro c' hc' n' hn'
    rw [btAddC_some hb, mem_idxAdd_other (x := (c', n', i0)) hj.symm, mem_idxRemove_other (x := (c', n', i0)) hj.symm]
    exact hin c' (List.mem_cons_of_mem _ hc') n' hn'

theorem foldRowsC_cons (f : State → Nat → State × Bool) (i : Nat) (is : List Nat) (s : State) :
    foldRowsC f (i :: is) s = if (f s i).2 then foldRowsC f is (f s i).1 else ((f s i).1, false) := by
  rw [foldRowsC]
  cases f s i with
  | mk s' b => cases b <;> rfl

/-- the state after the first row: every b-tree column of the SET list has the entry of row `i0` under its new key -/
def NewKeysAt (s : State) (t i0 : Nat) (upd : List (Nat × Val)) : Prop :=
  ∃ T, s.tables t = some T ∧ ∀ c ∈ T.btreeOn, ∀ n, updGet upd c = some n → (c, n, i0) ∈ T.btreeE

theorem updateRowC_other_ok {cap tx t i0 j : Nat} {upd : List (Nat × Val)} {s : State}
    (h : NewKeysAt s t i0 upd) (hj : j ≠ i0) :
    (updateRowC cap tx t upd s j).2 = true ∧ NewKeysAt (updateRowC cap tx t upd s j).1 t i0 upd := by
  obtain ⟨T, hT, hkeys⟩ := h
  cases hr : T.rows[j]? with
  | none =>
    have : updateRowC cap tx t upd s j = (s, true) := by unfold updateRowC; rw [hT]; dsimp only; rw [hr]
    rw [this]
    exact ⟨rfl, T, hT, hkeys⟩
  | some r =>
    have hok : (updateRowT cap (otherKeys s t) upd T j r).2 = true :=
      updateRowT_snd.trans (btMoves_other_row_ok hj T.btreeOn T.btreeE hkeys)
    rw [updateRowC_eq hT hr, updateRowT_ok hok]
    refine ⟨hok, _, by rw [setTable_tables, if_pos rfl], ?_⟩
    intro c hc n hn
    exact (btMoves_other_ids (c, n, i0) hj.symm _ _).mpr (hkeys c hc n hn)

theorem foldRowsC_all_ok {cap tx t i0 : Nat} {upd : List (Nat × Val)} :
    ∀ (rest : List Nat) (s : State), NewKeysAt s t i0 upd → (∀ j ∈ rest, j ≠ i0) →
      (foldRowsC (updateRowC cap tx t upd) rest s).2 = true := by
  intro rest
  induction rest with
  | nil => intro s _ _; rw [foldRowsC]
  | cons j rest ih =>
    intro s h hne
    obtain ⟨hok, hnext⟩ := updateRowC_other_ok (cap := cap) (tx := tx) h (hne j List.mem_cons_self)
    rw [foldRowsC_cons, hok, if_pos rfl]
    exact ih _ hnext (fun k hk => hne k (List.mem_cons_of_mem _ hk))

theorem updateRowC_first_ok {cap tx t i0 : Nat} {upd : List (Nat × Val)} {s : State} {T : Table}
    (hT : s.tables t = some T) (hok : (updateRowC cap tx t upd s i0).2 = true) (hrow : T.rows[i0]?.isSome) :
    NewKeysAt (updateRowC cap tx t upd s i0).1 t i0 upd := by
  cases hr : T.rows[i0]? with
  | none => rw [hr] at hrow; cases hrow
  | some r =>
    rw [updateRowC_eq hT hr] at hok ⊢
    rw [updateRowT_ok hok]
    refine ⟨_, by rw [setTable_tables, if_pos rfl], ?_⟩
    exact fun c hc n hn => btMoves_ok_new_present hn _ _ (updateRowT_snd.symm.trans hok) (Or.inl hc)

/-- THE FIRST-ROW LEMMA: a refused `tx_update` was refused at its first matched row -/
theorem foldRowsC_refused_first {cap tx t i0 : Nat} {upd : List (Nat × Val)} {rest : List Nat} {s : State} {T : Table}
    (hT : s.tables t = some T) (hrow : T.rows[i0]?.isSome) (hne : ∀ j ∈ rest, j ≠ i0)
    (h : (foldRowsC (updateRowC cap tx t upd) (i0 :: rest) s).2 = false) :
    (updateRowC cap tx t upd s i0).2 = false ∧
      (foldRowsC (updateRowC cap tx t upd) (i0 :: rest) s).1 = (updateRowC cap tx t upd s i0).1 := by
  cases hb : (updateRowC cap tx t upd s i0).2 with
  | false => rw [foldRowsC_cons, hb]; exact ⟨rfl, rfl⟩
  | true =>
    rw [foldRowsC_cons, hb, if_pos rfl, foldRowsC_all_ok rest _ (updateRowC_first_ok hT hb hrow) hne] at h
    cases h

theorem otherKeys_congr {s s' : State} {t : Nat} (hn : s'.ntables = s.ntables)
    (ht : ∀ k, k ≠ t → s'.tables k = s.tables k) : otherKeys s' t = otherKeys s t := by
  unfold otherKeys
  rw [hn, List.map_congr_left fun k hk => ?_]
  unfold tableKeys
  rw [ht k (by simpa using (List.mem_filter.mp hk).2)]

theorem recordUndo_ntables (s : State) (tx : Nat) (u : Undo) : (recordUndo s tx u).ntables = s.ntables := by
  unfold recordUndo
  split <;> rfl

theorem recordUndo_txs_self {s : State} {A : Nat} {x : Tx} (hx : s.txs A = some x) (u : Undo) :
    (recordUndo s A u).txs A = some { x with undo := x.undo ++ [u] } := by
  unfold recordUndo
  rw [hx]
  dsimp only
  rw [setTx_txs, if_pos rfl]

theorem applyUndoC_of_table {cap : Nat} {s : State} {n : Nat} {u : Undo} {T : Table} (hT : s.tables u.table = some T) :
    applyUndoC cap (s, n) u =
      (setTable s u.table (applyUndoTC cap (otherKeys s u.table) T u).1, n + (applyUndoTC cap (otherKeys s u.table) T u).2) := by
  unfold applyUndoC
  dsimp only
  rw [hT]

theorem rollbackC_of_gate {cap : Nat} {s : State} {A : Nat} {x : Tx} (hg : gate s A = none) (hx : s.txs A = some x) :
    rollbackC cap s A =
      (setTx (release (x.undo.reverse.foldl (applyUndoC cap) (s, 0)).1 A) A none,
       if (x.undo.reverse.foldl (applyUndoC cap) (s, 0)).2 = 0 then .ok else .err .rollbackFailed) := by
  unfold rollbackC
  rw [hg, hx]

theorem finishAutoC_snd (cap : Nat) (p : State × ResC) (tx : Nat) : (finishAutoC cap p tx).2 = p.2 := by
  obtain ⟨s, r⟩ := p
  cases r with
  | tooLarge => rfl
  | res r => cases r <;> rfl

theorem finishAutoC_tooLarge {cap : Nat} {p : State × ResC} (h : p.2 = .tooLarge) (tx : Nat) :
    (finishAutoC cap p tx).1 = (rollbackC cap p.1 tx).1 := by
  unfold finishAutoC
  rw [h]

theorem updateC_of_table {cap : Nat} {s : State} {t : Nat} {T : Table} (hT : s.tables t = some T) (cond : Cond)
    (upd : List (Nat × Val)) :
    updateC cap s t cond upd =
      if updBad T upd then (s, .res (.err (updErr T upd)))
      else finishAutoC cap (txUpdateC cap (begin s).1 (begin s).2 t cond upd) (begin s).2 := by
  unfold updateC
  rw [hT]

theorem scanAnswer_congr {T T' : Table} (h : T'.rows = T.rows) (cond : Cond) : scanAnswer T' cond = scanAnswer T cond := by
  unfold scanAnswer matching
  rw [h]

theorem txUpdateC_cases (cap : Nat) (s : State) (A t : Nat) (cond : Cond) (upd : List (Nat × Val)) :
    (∃ e, txUpdateC cap s A t cond upd = (s, .res (.err e))) ∨
    ∃ T, s.tables t = some T ∧ gate s A = none ∧ updBad T upd = false ∧
      lockBlocked s A t (matching T cond) = false ∧
      (txUpdateC cap s A t cond upd).1 =
        (foldRowsC (updateRowC cap A t upd) (matching T cond)
          (if (matching T cond).isEmpty then s else lockAll s A t (matching T cond))).1 ∧
      (txUpdateC cap s A t cond upd).2 =
        if (foldRowsC (updateRowC cap A t upd) (matching T cond)
          (if (matching T cond).isEmpty then s else lockAll s A t (matching T cond))).2
        then .res (.okN (matching T cond).length) else .tooLarge := by
  unfold txUpdateC
  cases gate s A with
  | some e => exact Or.inl ⟨e, rfl⟩
  | none =>
    cases hT : s.tables t with
    | none => exact Or.inl ⟨_, rfl⟩
    | some T =>
      dsimp only
      cases hb : updBad T upd with
      | true => exact Or.inl ⟨_, rfl⟩
      | false =>
        cases hl : lockBlocked s A t (matching T cond) with
        | true => exact Or.inl ⟨_, rfl⟩
        | false => exact Or.inr ⟨T, rfl, rfl, hb, hl, rfl, rfl⟩

theorem txUpdateC_refused {cap : Nat} {s : State} {A t : Nat} {cond : Cond} {upd : List (Nat × Val)} {T : Table}
    (hT : s.tables t = some T) (hfail : (txUpdateC cap s A t cond upd).2 = .tooLarge) :
    ∃ i0 rest r, gate s A = none ∧ updBad T upd = false ∧ matching T cond = i0 :: rest ∧
      T.rows[i0]? = some r ∧ r.alive = true ∧
      (txUpdateC cap s A t cond upd).1 =
        setTable (recordUndo (lockAll s A t (i0 :: rest)) A
          (.updated t i0 r.vals (mkChg (T.hashOn ++ T.btreeOn) upd r.vals))) t
          (updateRowT cap (otherKeys s t) upd T i0 r).1 ∧
      (updateRowT cap (otherKeys s t) upd T i0 r).2 = false := by
  rcases txUpdateC_cases cap s A t cond upd with ⟨e, he⟩ | ⟨T', hT', hg, hb, _, hstate, hres⟩
  · rw [he] at hfail; cases hfail
  · rw [hT] at hT'
    cases hT'
    rw [hres] at hfail
    cases hm : matching T cond with
    | nil => rw [hm, foldRowsC] at hfail; cases hfail
    | cons i0 rest =>
      rw [hm] at hfail hstate
      simp only [List.isEmpty_cons, Bool.false_eq_true, if_false] at hfail hstate
      obtain ⟨r, hr, ha, _⟩ := mem_matching.mp (hm ▸ List.mem_cons_self : i0 ∈ matching T cond)
      have hnd : (i0 :: rest).Nodup := by
        rw [← hm]
        unfold matching
        exact List.Nodup.sublist List.filter_sublist List.nodup_range
      have hflag : (foldRowsC (updateRowC cap A t upd) (i0 :: rest) (lockAll s A t (i0 :: rest))).2 = false :=
        Bool.eq_false_iff.mpr fun hff => by rw [hff] at hfail; cases hfail
      obtain ⟨h1, h2⟩ := foldRowsC_refused_first (s := lockAll s A t (i0 :: rest)) hT (by rw [hr]; rfl)
        (fun j hj e => (List.nodup_cons.mp hnd).1 (by subst e; exact hj)) hflag
      have hother : otherKeys (lockAll s A t (i0 :: rest)) t = otherKeys s t := otherKeys_congr rfl (fun _ _ => rfl)
      rw [updateRowC_eq (s := lockAll s A t (i0 :: rest)) hT hr, hother] at h1 h2
      exact ⟨i0, rest, r, hg, hb, rfl, hr, ha, hstate.trans h2, h1⟩

namespace Cap

theorem and_assoc4 {a b c d r : Prop} (h : (a ∧ b ∧ c ∧ d) ∧ r) : a ∧ b ∧ c ∧ d ∧ r :=
  ⟨h.1.1, h.1.2.1, h.1.2.2.1, h.1.2.2.2, h.2⟩

def c0 : State := init 30000 60000

/-- table 0, hash and b-tree index on column 0; rows 0 and 1 share the key 1, row 2 holds the key 2: two keys.
    The three non-transactional inserts use the transaction ids 0, 1, 2. -/
def setup : List Op :=
  [.createTable 2 [], .createIndex 0 0, .createBtree 0 0, .insert 0 [1, 0], .insert 0 [1, 0], .insert 0 [2, 0]]

/-- under `max_btree_entries = 2`: transaction 3 moves row 0 from the shared key 1 to the new key 3 — the hash entry
    moves, the old b-tree entry goes, `btree_index_add` is refused -/
def refused : List Op := setup ++ [.begin, .txUpdate 3 0 (.idEq 0) [(0, 3)]]

/-- the table `setup` builds, composed from the table-level steps (so that its indexes are exact by construction) -/
def tab3 : Table :=
  insertT (insertT (insertT { ncols := 2, nullable := [], rows := [], hashOn := [0], btreeOn := [0], hashE := [], btreeE := [] }
    [1, 0]) [1, 0]) [2, 0]

theorem idxExact_tab3 : IdxExact tab3 := by
  have h0 : IdxExact { ncols := 2, nullable := [], rows := [], hashOn := [0], btreeOn := [0], hashE := [], btreeE := [] } := by
    have h := idxExact_createBtree _ 0 (idxExact_createIndex _ 0 (idxExact_empty 2 []) (by decide)) (by decide)
    exact h
  exact idxExact_insertT _ _ (idxExact_insertT _ _ (idxExact_insertT _ _ h0))

/-- `tab3` after an earlier statement of the transaction has set column 1 of row 2 to 4 -/
def tab3b : Table := updateT tab3 2 { alive := true, vals := [2, 0] } [(1, 4)]

theorem idxExact_tab3b : IdxExact tab3b :=
  idxExact_updateT tab3 2 _ _ idxExact_tab3 (by decide) rfl (by decide) (by decide)

/-- what a table answers: the scan, `c0 = 1` through the hash index, `c0 >= 0` and `c0 <= 1` through the b-tree -/
def answers (s : State) : Option (List (List (Nat × List Val))) :=
  (s.tables 0).map fun T => [scanAnswer T .all, select T (.eq 0 1), select T (.ge 0 0), select T (.le 0 1)]

/-- two b-tree columns (table with b-tree indexes on columns 0 and 1, cap 4 = the keys (0,1) (0,2) (1,7) (1,8)) -/
def twoCols : List Op :=
  [.createTable 2 [], .createBtree 0 0, .createBtree 0 1, .insert 0 [1, 7], .insert 0 [2, 7], .insert 0 [2, 8],
   .begin, .txUpdate 3 0 (.idEq 0) [(0, 2), (1, 9)], .rollback 3]

end Cap

end Neumann.RelTx
